/-
  C13 — the property theorems and their non-vacuity examples; the lemmas are in the other files of this directory.

  Property text: "For every script that starts children (pipelines, asynchronous lists, subshells,
  command substitutions) and under every interleaving of those processes, the shell terminates without
  deadlock; `wait`, `$?` and `$!` report each child's true exit status and identity (the last command
  for a pipeline, the rightmost failure under `pipefail`, 127 for an unknown pid); and every child is
  reaped exactly once, leaving no zombie.  No result depends on which process happens to run first
  unless the script itself contains a race."

  This file is the THEOREM HALF of a partial claim: it speaks about small-step models — `Model.lean`: one parent
  executing any list of `wait` requests, any number of children with any behaviour (`spec`: number of internal
  steps and final status of each), any scheduler (`Steps`: any finite sequence of enabled steps); then, in this
  order, the stages of a pipeline blocking on I/O (`Pipeline.lean`, joined with the parent in `Joint.lean`), the
  descriptor set-up (`FdSetup.lean`, `ForkLoop.lean`), the interpreter the driver runs (`Prog.lean`) and `wait`
  interrupted by traps (`WaitTrap.lean`).  Every step of a model is atomic; that the real code's
  check-then-register sequences behave atomically is shown only by the schedule-exploring run.
-/
import YashModel.Proc.Invariant
import YashModel.Proc.Awaited
import YashModel.Proc.Ops
import YashModel.Proc.PipelineRuns
import YashModel.Proc.Joint
import YashModel.Proc.FdLemmas
import YashModel.Proc.ForkLemmas
import YashModel.Proc.FlowChain
import YashModel.Proc.StageEnds
import YashModel.Proc.Order
import YashModel.Proc.ProgGlue
import YashModel.Proc.TrapRace
import YashModel.Proc.TrapOps
import YashModel.Proc.TrapGlue
import YashModel.Proc.BangLemmas
import YashModel.Generated.WaitCore
import YashModel.Proc.Spec
namespace YashModel.Proc

theorem inv_inductive :
    (∀ spec reqs, Inv (init spec reqs)) ∧
    (∀ s l s', Inv s → step s l = some s' → Inv s') :=
  ⟨inv_init, fun _ l _ h hs => inv_step l h hs⟩

/-- ★ No lost SIGCHLD.  In every reachable state in which the parent is blocked waiting for SIGCHLD:
    the internal handler is installed (it was installed before the poll), and if any child the
    parent is waiting for has a state change that `wait` has not yet reported, SIGCHLD is pending —
    so the parent is not blocked for good. -/
theorem no_lost_sigchld {spec : List (Nat × Result)} {reqs : List Req} {s : Sys}
    (h : Reachable spec reqs s) (hpc : s.pc = .await) :
    s.disp = .catch ∧
    ∀ (i : Nat) (c : Child), s.children[i]? = some c → s.target.matches i → c.changed = true →
      s.pending = true :=
  ⟨(reachable_inv h).handler (Or.inr hpc), (reachable_inv h).no_lost hpc⟩

/-- non-vacuity: a reachable state where the parent is blocked, the awaited child has an unreported
    change, and (as the theorem says) SIGCHLD is pending -/
example :
    let s := run 4 [0, 0, 0, 1] (init [(0, .exited 3)] [.wait (.pid 0)])
    Reachable [(0, .exited 3)] [.wait (.pid 0)] s ∧ s.pc = .await ∧
      (s.children[0]?.map (·.changed)) = some true ∧ s.pending = true :=
  ⟨run_steps _ _ _, by decide, by decide, by decide⟩

/-- The handler must be installed before the poll: a parent that blocks with the default disposition
    (what polling first and enabling afterwards would allow) loses the SIGCHLD of a child that exits
    in between and is stuck for good although the child has an unreported change. -/
theorem handler_first_necessary :
    let s : Sys := { children := [{ state := .running 0 (.exited 3) }], pc := .await, target := .pid 0 }
    let s' : Sys := { children := [{ state := .halted (.exited 3), changed := true }], pc := .await,
                      target := .pid 0 }
    step s (.child 0) = some s' ∧ s'.final = false ∧ ∀ l, step s' l = none := by
  refine ⟨rfl, by decide, ?_⟩
  intro l
  cases l with
  | parent => rfl
  | child i =>
    cases i with
    | zero => rfl
    | succ j => simp [step, childStep]

theorem run_bounded {n : Nat} {s t : Sys} (h : StepsN n s t) : n + measure t ≤ measure s := by
  induction h with
  | refl => simp
  | tail l _ hs ih => have := step_decreases l hs; omega

/-- ★ No deadlock: in every reachable state that is not final, some process can move. -/
theorem no_deadlock {spec : List (Nat × Result)} {reqs : List Req} {s : Sys}
    (h : Reachable spec reqs s) (hf : s.final = false) : ∃ l s', step s l = some s' :=
  not_stuck (reachable_inv h) hf

theorem progress {σ : Type} {S R : σ → σ → Prop} {I F : σ → Prop} (μ : σ → Nat) (refl : ∀ s, R s s)
    (head : ∀ {s t u}, S s t → R t u → R s u) (next : ∀ s, I s → ¬ F s → ∃ t, S s t)
    (keep : ∀ {s t}, I s → S s t → I t) (drop : ∀ {s t}, I s → S s t → μ t < μ s)
    (along : ∀ {s t}, R s t → I s → I t) (s : σ) (hi : I s) :
    (∃ t, R s t ∧ F t) ∧ (∀ t, R s t → (∀ u, ¬ S t u) → F t) :=
  ⟨(Run.reaches_final μ refl head next keep drop s hi).imp fun _ h => ⟨h.1, h.2.2⟩,
    fun _ ht hstuck => Run.final_of_stuck next (along ht hi) hstuck⟩

/-- `wait_progress` from any state that satisfies the invariant, not only from reachable ones -/
theorem wait_progress_inv {s : Sys} (hi : Inv s) :
    (∃ t, Steps s t ∧ t.final = true) ∧
    (∀ t, Steps s t → (∀ l, step t l = none) → t.final = true) := by
  have := progress (S := fun u u' => ∃ l, step u l = some u') (F := fun u => u.final = true) measure Steps.refl
    (fun ⟨l, hs⟩ h => Steps.head l hs h)
    (fun u hu hf => let ⟨l, u', hs⟩ := not_stuck hu (by simpa using hf); ⟨u', l, hs⟩)
    (fun hu ⟨l, hs⟩ => inv_step l hu hs) (fun _ ⟨l, hs⟩ => step_decreases l hs) inv_steps s hi
  exact ⟨this.1, fun t ht hstuck => this.2 t ht fun u ⟨l, hs⟩ => by rw [hstuck l] at hs; cases hs⟩

/-- ★ from every reachable state the parent reaches `Done` with nothing left to do —
    along EVERY maximal schedule: a schedule cannot be extended forever (`step_decreases`), and a
    state from which it cannot be extended is final (`no_deadlock`).  Stated as: (a) a path to a final
    state exists, and (b) every state reachable from `s` in which no process can move is final. -/
theorem wait_progress {spec : List (Nat × Result)} {reqs : List Req} {s : Sys}
    (h : Reachable spec reqs s) :
    (∃ t, Steps s t ∧ t.final = true) ∧
    (∀ t, Steps s t → (∀ l, step t l = none) → t.final = true) :=
  wait_progress_inv (reachable_inv h)

example : (run 20 [] (init [(1, .exited 3), (0, .exited 0)] [.wait (.pid 1), .wait (.pid 0), .reapAll])).final = true := by
  decide

/-- ★ in every reachable state the final state of every child has been handed out by
    `wait` exactly once if the child is reaped (terminated, flag cleared) and never otherwise; and
    what was handed out is the status the child was going to end with from the start (its true
    status, `spec[i].2`), whatever the schedule. -/
theorem reaped_once {spec : List (Nat × Result)} {reqs : List Req} {s : Sys}
    (h : Reachable spec reqs s) :
    (∀ i : Nat, logCount s.log i = if reaped s.children i then 1 else 0) ∧
    (∀ (i : Nat) (r : Result), (i, r) ∈ s.log → (spec[i]?).map (·.2) = some r) := by
  refine ⟨(reachable_inv h).once, ?_⟩
  intro i r hmem
  have h1 := (reachable_inv h).logged_fin hmem
  rwa [reachable_fins h, List.getElem?_map] at h1

example :
    let s := run 20 [1, 0, 1] (init [(1, .exited 3), (0, .signaled 9)] [.wait (.pid 1), .wait (.pid 0), .wait (.pid 0)])
    s.log = [(0, .exited 3), (1, .signaled 9)] ∧ s.results.map waitStatus = [127, 3, 393] := by
  decide

/-- ★ awaited and reaped (no zombie): when the parent is done, every existing child it was asked to wait
    for by pid has terminated and has been reaped, under every schedule and whatever the other
    requests were. -/
theorem awaited_reaped {spec : List (Nat × Result)} {reqs : List Req} {s : Sys}
    (h : Reachable spec reqs s) (hf : s.final = true) (i : Nat)
    (hreq : Req.wait (.pid i) ∈ reqs) (hi : i < spec.length) : reaped s.children i = true :=
  (awaited_steps h (awaited_init spec reqs)).reaped_of_final hf hreq (by rw [reachable_length h]; exact hi)

example :
    let s := run 30 [2, 1, 0, 2] (init [(2, .exited 1), (0, .exited 2), (1, .exited 0)] [.wait (.pid 2), .wait (.pid 0)])
    s.final = true ∧ reaped s.children 2 = true ∧ reaped s.children 0 = true ∧ reaped s.children 1 = false := by
  decide

/-- ★ afterwards ECHILD: `wait` for a child that has been reaped, or for a pid that is not a child,
    answers ECHILD, which the `wait` built-in reports as 127 -/
theorem wait_again_echild (cs : List Child) (k : Nat) (h : reaped cs k = true ∨ cs.length ≤ k) :
    sysWait cs (.pid k) = .echild ∧ waitStatus .echild = 127 := by
  refine ⟨?_, rfl⟩
  rcases h with h | h
  · exact sysWait_pid_reaped h
  · exact sysWait_pid_unknown h

/-- non-vacuity: both disjuncts — child 0 has exited 3 and was reaped (flag cleared), pid 5 is no child; child 1
    is still running and is NOT reaped (the hypothesis is not always true) -/
example :
    let cs : List Child := [{ state := .halted (.exited 3), changed := false }, { state := .running 2 (.exited 0) }]
    reaped cs 0 = true ∧ cs.length ≤ 5 ∧ reaped cs 1 = false ∧ sysWait cs (.pid 1) = .none := by
  decide

/-- ★ the operand loop of the `wait` built-in (`Command::await_jobs`), started
    by an idle parent in any reachable state with any job table `jobs` (pids of existing children) and
    any operand list, every `wait_for_any_job_or_trap` inside it being a complete run under an
    arbitrary scheduler.  However it runs: the built-in does not fail; operand by operand it yields
    what the Spec says — the true status of the child for a pid that is a job not yet waited for
    (earlier in the same list included), 127 for a pid that is no such job and for a job ID naming no
    job — so the exit status of `wait` is that of the LAST operand; every operand that names a job has
    been awaited and reaped at the end, whatever stands before or after it; and the parent is idle again. -/
theorem wait_operands_all_awaited {spec : List (Nat × Result)} {reqs : List Req} {s : Sys}
    (h : Reachable spec reqs s) (hidle : s.final = true)
    (jobs : List Nat) (hjobs : ∀ x ∈ jobs, x < spec.length) (operands : List Operand)
    {jobs' : List Nat} {s' : Sys} {rs : List WaitRes} {ok : Bool}
    (hrun : WaitOps jobs s (operands.map (resolve jobs)) jobs' s' rs ok) :
    ok = true ∧
    rs.map waitStatus =
      Spec.waitEach (fun i => ((spec[i]?).map (·.2.status)).getD 127) jobs (operands.map Operand.toSpec) ∧
    (∀ i : Nat, Operand.pid i ∈ operands → i ∈ jobs → reaped s'.children i = true) ∧
    s'.final = true := by
  have hinv := reachable_inv h
  have hfins := reachable_fins h
  have hlen := reachable_length h
  obtain ⟨hc, hok, hrs, hall⟩ := waitOps_sound hrun hinv hidle (by intro x hx; rw [hlen]; exact hjobs x hx)
  refine ⟨hok, ?_, ?_, hc.fin⟩
  · rw [hrs, waitEach_resolve _ jobs operands jobs (fun _ hx => hx)]
    congr 1
    funext i
    simp only [truthOf, hfins, List.getElem?_map, Option.map_map]
    rfl
  · intro i hi hj
    exact hall i (List.mem_map.mpr ⟨.pid i, hi, by simp [resolve, hj]⟩) hj

/-- the exit status of `wait o1 … on` as the Spec (and the driver) computes it is the last of the
    per-operand statuses -/
theorem wait_status_is_last (truth : Nat → Nat) (ops : List (Option Nat)) :
    ∀ (active : List Nat) (last : Nat),
      (Spec.waitOps truth active ops last).1 = ((Spec.waitEach truth active ops).getLast?).getD last := by
  induction ops with
  | nil => intro active last; rfl
  | cons o t ih =>
    intro active last
    cases o with
    | none =>
      simp only [Spec.waitOps, Spec.waitEach, List.getLast?_cons]
      rw [ih]; simp
    | some i =>
      simp only [Spec.waitOps, Spec.waitEach]
      split
      · simp only [List.getLast?_cons]; rw [ih]; simp
      · simp only [List.getLast?_cons]; rw [ih]; simp

/-- non-vacuity: `wait 7 $j` with the job's child still running — a derivation of the loop exists, the
    unknown operand in front yields 127 and the job behind it is awaited (status 3) and reaped -/
example :
    let s := init [(1, .exited 3)] []
    let t := run 20 [1, 0] { s with todo := [.wait .any] }
    WaitOps [0] s ([Operand.pid 7, Operand.pid 0].map (resolve [0])) [] t [.echild, .got 0 (.exited 3)] true ∧
      reaped t.children 0 = true := by
  refine ⟨?_, by decide⟩
  refine .notFound (.job (.again (by decide) ⟨run_steps _ _ _, by decide⟩ (by decide) (.brk (by decide))) .nil)

/-- first child running, second child reaped → `Ok(None)` (the case in the docstring of `wait_any_echild_iff`) -/
example : sysWait [{ state := .running 0 (.exited 3) }, { state := .halted (.exited 4) }] .any = .none := by
  decide

/-- ★ the status fold of `execute_multi_command_pipeline` is the last command's status,
    or with `pipefail` the rightmost non-zero status (zero if there is none) — for every list of statuses. -/
theorem pipefail_rule (pf : Bool) (sts : List Nat) : pipeStatus pf sts = Spec.pipe pf sts := by
  have key : ∀ (acc : Nat),
      sts.foldl (fun acc st => if st != 0 || !pf then st else acc) acc =
        if pf then (sts.reverse.find? (· != 0)).getD acc else sts.getLast?.getD acc := by
    induction sts with
    | nil => intro acc; cases pf <;> simp
    | cons a t ih =>
      intro acc
      rw [List.foldl_cons, ih]
      cases pf with
      | false => simp [List.getLast?_cons]
      | true =>
        simp only [List.reverse_cons, List.find?_append]
        by_cases ha : a = 0
        · subst ha; simp
        · cases hf : List.find? (fun x => x != 0) t.reverse with
          | none => simp [ha]
          | some v => simp
  unfold pipeStatus Spec.pipe
  exact key 0

example : pipeStatus true [3, 0, 7, 0] = 7 ∧ pipeStatus false [3, 0, 7, 0] = 0 ∧ pipeStatus true [0, 0] = 0 := by
  decide

/-- ★ A child that has not ended is sent a fatal
    signal `sig` which it still has blocked (it inherited the mask of a parent that traps `sig`): the signal
    is pending, and the child's next step — its entry step, which resets the trap and unblocks the signal
    (`sigmask` → `block_signals` → `deliver_pending_signals`) — is its death.  In the model: the child's
    fate becomes `signaled sig` (`s1`).  Then, in any state `s` satisfying the invariant and whatever the
    parent is doing: the invariant still holds; the child's next step exists, leaves it terminated by
    `sig` with an unreported state change, and SIGCHLD is raised on the PARENT (pending, if the parent has
    its handler installed — which it has whenever it polls or blocks); the invariant holds afterwards, so
    (`wait_progress_inv`) every schedule from there ends with the parent done — no lost wake-up, no
    deadlock; and whatever `wait` hands out for this child is `signaled sig`, reported as 384 + `sig`. -/
theorem pending_signal_at_entry_terminates_and_notifies_parent {s : Sys} (hi : Inv s) {i f : Nat}
    {fin : Result} (sig : Nat) (hc : s.children[i]? = some { state := .running f fin, changed := false }) :
    let s1 : Sys := { s with children := s.children.set i { state := .running 0 (.signaled sig) } }
    Inv s1 ∧
    ∃ s2, childStep s1 i = some s2 ∧
      s2.children[i]? = some { state := .halted (.signaled sig), changed := true } ∧
      (s.disp = .catch → s2.pending = true) ∧
      Inv s2 ∧
      ((∃ t, Steps s2 t ∧ t.final = true) ∧ (∀ t, Steps s2 t → (∀ l, step t l = none) → t.final = true)) ∧
      (∀ t, Steps s2 t → ∀ r, (i, r) ∈ t.log → r = .signaled sig ∧ waitStatus (.got i r) = sig + 384) := by
  intro s1
  have hs1 : Inv s1 := inv_refate hi (.signaled sig) hc
  have hget1 : s1.children[i]? = some { state := .running 0 (.signaled sig) } := by
    simp [s1, get_set hc]
  have hstep := childStep_exit hget1 rfl
  have hs2 := inv_child i hs1 hstep
  refine ⟨hs1, _, hstep, by simp [get_set hget1], fun hd => by simp [s1, hd], hs2, wait_progress_inv hs2, ?_⟩
  intro t ht r hm
  have e1 := (inv_steps ht hs2).logged_fin hm
  rw [fin_steps ht, fins, List.getElem?_map, get_set hget1, if_pos rfl] at e1
  cases e1
  exact ⟨rfl, rfl⟩

/-- non-vacuity: the parent blocked in `wait` for child 0, which has a blocked fatal signal pending -/
example :
    let s := run 3 [0, 0, 0] (init [(2, .exited 3)] [.wait (.pid 0)])
    Inv s ∧ s.pc = .await ∧ s.children[0]? = some { state := .running 2 (.exited 3), changed := false } :=
  ⟨reachable_inv (run_steps _ _ _), by decide, by decide⟩

/-! ### stages of a pipeline that block on I/O with each other (`Pipeline.lean`)

  The theorems above take "every child ends after finitely many steps" as given.  For the stages of a
  pipeline that is a theorem of its own, and it holds only under descriptor hygiene. -/

/-- ★ Descriptor hygiene — "after `move_to_stdin_stdout` a stage holds exactly its stdin reader and its
    stdout writer": pipe `j` is held for reading by stage `j+1` only and for writing by stage `j` only —
    holds for the pipeline as `execute_multi_command_pipeline` sets it up and is preserved by every step
    of every stage (nobody opens or passes on a descriptor; a stage that ends drops what it holds). -/
theorem hygiene_invariant (c : PCfg) :
    (∀ progs : List SProg, progs ≠ [] → Hyg c (mkPipeline progs)) ∧
    (∀ (s s' : PSys) (i : Nat), Hyg c s → stageStep c s i = some s' → Hyg c s') :=
  ⟨hyg_init c, fun _ _ _ h hs => hyg_step h hs⟩

/-- ★ No deadlock among the stages: in every state reachable from a hygienic one in which some stage is
    still alive, some stage can move — for every number of stages, every mix of stage programs
    (`spew`, `take`, `drain`, `cat`, `st`), every payload, every capacity with `1 ≤ PIPE_BUF ≤ PIPE_SIZE`.
    (The last live stage writes into a pipe nobody holds for reading any more — EPIPE, not a block — and a
    stage blocked in a read has a live writer upstream whose pipe is empty.) -/
theorem pipeline_no_deadlock {c : PCfg} {s t : PSys} (hv : c.Valid) (h : Hyg c s)
    (hrun : PSteps c s t) (hlive : t.done = false) : ∃ i t', stageStep c t i = some t' := by
  obtain ⟨k, hk⟩ := not_done_alive hlive
  exact pipeline_not_stuck hv (hyg_steps hrun h) hk

theorem pipeline_run_bounded {c : PCfg} {n : Nat} {s t : PSys} (hv : c.Valid)
    (h : PStepsN c n s t) : n + pmeas t ≤ pmeas s := by
  induction h with
  | refl => simp
  | tail i _ hs ih => have := pipeline_step_decreases hv hs; omega

/-- ★ from a hygienic state every maximal schedule of the stages ends with every
    stage ended (so every stage is a child that "takes finitely many steps and ends", which is what
    `wait_progress`, `reaped_once` and `awaited_reaped` assume of the children): a state with all stages
    ended is reachable, every run is at most `pmeas s` steps long (`pipeline_run_bounded`), and a
    reachable state in which no stage can move has all stages ended. -/
theorem pipeline_terminates {c : PCfg} {s : PSys} (hv : c.Valid) (h : Hyg c s) :
    (∃ t, PSteps c s t ∧ t.done = true) ∧
    (∀ t, PSteps c s t → (∀ i, stageStep c t i = none) → t.done = true) := by
  have := progress (S := fun u u' => ∃ i, stageStep c u i = some u') (F := fun u => u.done = true) pmeas PSteps.refl
    (fun ⟨i, hs⟩ h => PSteps.head i hs h)
    (fun u hu hd =>
      let ⟨k, hk⟩ := not_done_alive (by simpa using hd)
      let ⟨i, u', hs⟩ := pipeline_not_stuck hv hu hk
      ⟨u', i, hs⟩)
    (fun hu ⟨_, hs⟩ => hyg_step hu hs) (fun _ ⟨_, hs⟩ => pipeline_step_decreases hv hs) hyg_steps s h
  exact ⟨this.1, fun t ht hstuck => this.2 t ht fun u ⟨i, hs⟩ => by rw [hstuck i] at hs; cases hs⟩

/-- ★ the executable scheduler of the pipeline model (what the driver runs for the stages of a
    flow pipeline), started on the pipeline `progs` with fuel ≥ `pmeas`, ends with EVERY stage ended,
    whatever the choices — the driver's statuses are those of a complete run, never of a stuck one. -/
theorem prun_done {c : PCfg} (hv : c.Valid) (progs : List SProg) (hne : progs ≠ []) (fuel : Nat)
    (choices : List Nat) (hf : pmeas (mkPipeline progs) ≤ fuel) :
    (prun c fuel choices (mkPipeline progs)).done = true :=
  prun_done_of_hyg hv fuel choices _ (hyg_init c progs hne) hf

/-- the hypothesis `c.Valid` of every pipeline theorem (`1 ≤ PIPE_BUF ≤ PIPE_SIZE`, read
    buffers ≥ 1) holds for the configuration the driver runs, whose `PIPE_BUF` / `PIPE_SIZE` are re-extracted
    from yash-env/src/system/virtual/file_body.rs on every run (`Generated/PipeConsts.lean`): an edit of either
    constant that breaks the order breaks this proof, not silently the premise of the others. -/
theorem real_config_valid : PCfg.real.Valid := by
  simp only [PCfg.Valid, PCfg.real]
  decide

/-- the constants of /repo that the model uses as literals or through
    `Generated/ProcConsts.lean` have the values the Spec (POSIX) needs: descriptors 0 / 1 are what
    `Fd::STDIN` / `Fd::STDOUT` denote (`moveToStdinStdout` moves the pipe ends to the literals 0 and 1),
    `wait` reports `ExitStatus::NOT_FOUND` = 127 for an operand naming no job (`waitStatus .echild`, compared
    with `Spec.wait none`), `!` maps `SUCCESS` = 0 to `FAILURE` = 1 and everything else to 0, a child killed by
    signal `n` is reported as a status above 128 (POSIX; 384 + n here), the default action of SIGCHLD is "none"
    (`raiseSigchld` with the default disposition discards it: `handler_first_necessary`), HUP / INT / QUIT /
    KILL / TERM / USR1 / USR2 terminate, STOP suspends, CONT resumes (what `Prog.lean` lets `kill` do to a
    job).  All read from /repo by tools/tables/proc.py on every run. -/
theorem consts_as_modelled :
    Generated.ProcConsts.STDIN = 0 ∧ Generated.ProcConsts.STDOUT = 1 ∧
    waitStatus .echild = Spec.wait none ∧ Spec.wait none = 127 ∧
    (∀ st, negate st = Spec.negate st) ∧
    (∀ sig, 128 < (Result.signaled sig).status ∨ sig = 0) ∧
    Generated.ProcConsts.signalEffects.lookup "CHLD" = some "none" ∧
    (["HUP", "INT", "QUIT", "KILL", "TERM", "USR1", "USR2"].all fun n =>
      Generated.ProcConsts.signalEffects.lookup n == some "terminate") = true ∧
    Generated.ProcConsts.signalEffects.lookup "STOP" = some "suspend" ∧
    Generated.ProcConsts.signalEffects.lookup "CONT" = some "resume" := by
  refine ⟨by decide, by decide, by decide, by decide, ?_, ?_, by decide, by decide, by decide, by decide⟩
  · intro st
    simp only [negate, Spec.negate]
  · intro sig
    left
    simp only [Result.status]
    have : Generated.ProcConsts.SIGNAL_EXIT_OFFSET = 384 := by decide
    omega

/-- non-vacuity with the constants of the virtual system: `spew 4096 | st 7` ends with statuses 1 (EPIPE)
    and 7, `spew 3000 | cat | drain` with 0, 0, 0, under these schedules -/
example :
    (prun PCfg.real 100 [1, 0, 1] (mkPipeline [.spew 4096, .idle 7])).statuses = [1, 7] ∧
    (prun PCfg.real 100 [0, 1, 2, 1] (mkPipeline [.spew 3000, .cat 0, .drain])).statuses = [0, 0, 0] := by
  refine ⟨by decide, by decide⟩

/-- Hygiene is necessary: if a stage keeps the read end of the pipe it writes to (what the child does
    when `move_to_stdin_stdout` does not close it), `spew 10 | st 7` over a 4-byte pipe deadlocks — the
    reader has ended, the pipe is full, the writer still counts as a reader of its own pipe and never
    gets EPIPE. -/
theorem hygiene_necessary :
    let c : PCfg := { cap := 4, pbuf := 2, chunk := 4 }
    let t : PSys :=
      { stages := [{ prog := .spew 6 }, { prog := .idle 7, exit := some 7 }],
        pipes := [{ content := 4, readers := [1, 0], writers := [0] }] }
    PSteps c (mkPipeline [.spew 10, .idle 7] true) t ∧ t.done = false ∧ ∀ i, stageStep c t i = none := by
  intro c t
  refine ⟨?_, by decide, ?_⟩
  · have h := prun_steps c 10 [] (mkPipeline [.spew 10, .idle 7] true)
    have e : prun c 10 [] (mkPipeline [.spew 10, .idle 7] true) = t := by rfl
    rw [e] at h; exact h
  · intro i
    match i with
    | 0 => rfl
    | 1 => rfl
    | i + 2 => simp [stageStep, t]

theorem joint_run_bounded {c : PCfg} (hv : c.Valid) {reqs : List Req} {n : Nat} {j k : JSys}
    (hj : JInv c reqs j) (h : JStepsN c n j k) : JInv c reqs k ∧ n + jmeasure k ≤ jmeasure j := by
  induction h with
  | refl => exact ⟨hj, by simp⟩
  | tail lab _ hs ih =>
    obtain ⟨h1, h2⟩ := ih hj
    obtain ⟨h3, h4⟩ := jinv_step hv lab h1 hs
    exact ⟨h3, by omega⟩

/-- ★ ONE system: the shell as the parent of `Model.lean` (its requests:
    `wait(pid)` for the members as `execute_multi_command_pipeline` issues them, and any `wait(-1)` /
    `update_all_subshell_statuses` besides) and the pipeline `progs` (any number of stages `spew`/`take`/
    `drain`/`cat`/`st`, descriptors as the set-up leaves them) whose steps are pipe reads, writes and
    exits, under an arbitrary scheduler that picks the parent or any stage.  For every state `j` the
    scheduler can reach:
    (1) every step of every process strictly decreases `jmeasure` — every schedule is finite, no fairness
        assumption is needed (`joint_run_bounded`: at most `jmeasure` steps);
    (2) as long as the parent is not done or a stage is alive, some process can move (no deadlock: neither
        the parent in `wait` nor the stages among themselves);
    (3) a state with the parent done and every stage ended can be reached;
    (4) once the parent is done, every member it was asked to wait for has ended, is reaped (no zombie), was
        handed out by `wait` exactly once, with the status it really ended with;
    (5) at any time, whatever `wait` has handed out for child `i` is the status stage `i` ended with. -/
theorem joint_terminates_and_reaps {c : PCfg} (hv : c.Valid) {progs : List SProg} (hne : progs ≠ [])
    {reqs : List Req} {j : JSys} (hrun : JSteps c (jinit progs reqs) j) :
    (∀ lab k, jstep c j lab = some k → jmeasure k < jmeasure j) ∧
    ((j.view.final = false ∨ j.pl.done = false) → ∃ lab k, jstep c j lab = some k) ∧
    (∃ k, JSteps c j k ∧ k.view.final = true ∧ k.pl.done = true) ∧
    (j.view.final = true → ∀ i, i < progs.length → Req.wait (.pid i) ∈ reqs →
      ∃ st stg, j.pl.stages[i]? = some stg ∧ stg.exit = some st ∧ reaped j.view.children i = true ∧
        logCount j.view.log i = 1 ∧ ∀ r, (i, r) ∈ j.view.log → r = .exited st) ∧
    (∀ i r, (i, r) ∈ j.view.log →
      ∃ st stg, j.pl.stages[i]? = some stg ∧ stg.exit = some st ∧ r = .exited st) := by
  have hinv : JInv c reqs j := jinv_steps hv hrun (jinv_init c progs hne reqs)
  have hlogged : ∀ i r, (i, r) ∈ j.view.log →
      ∃ st stg, j.pl.stages[i]? = some stg ∧ stg.exit = some st ∧ r = .exited st := by
    intro i r hm
    obtain ⟨cc, h1, h2⟩ := hinv.inv.logged i r hm
    exact hinv.coupled.status i cc r h1 h2
  refine ⟨fun lab k hs => (jinv_step hv lab hinv hs).2, jnot_stuck hv hinv, ?_, ?_, hlogged⟩
  · refine (Run.reaches_final (S := fun u u' => ∃ lab, jstep c u lab = some u') (I := JInv c reqs)
      (F := fun k => k.view.final = true ∧ k.pl.done = true) jmeasure JSteps.refl
      (fun ⟨lab, hs⟩ h => JSteps.head lab hs h) (fun u hu hfin => ?_)
      (fun hu ⟨lab, hs⟩ => (jinv_step hv lab hu hs).1) (fun hu ⟨lab, hs⟩ => (jinv_step hv lab hu hs).2) j hinv).imp
      fun _ h => ⟨h.1, h.2.2⟩
    -- not both final: the parent has something left to do or a stage is alive
    have hlive : u.view.final = false ∨ u.pl.done = false := by
      cases h1 : u.view.final
      · exact .inl rfl
      · cases h2 : u.pl.done
        · exact .inr rfl
        · exact absurd ⟨h1, h2⟩ hfin
    obtain ⟨lab, k, hs⟩ := jnot_stuck hv hu hlive
    exact ⟨k, lab, hs⟩
  · intro hfin i hi hreq
    have hlen : j.view.children.length = progs.length := by
      rw [hinv.coupled.len, jsteps_len hrun]; simp [jinit, mkPipeline_stages_length]
    have hreap := hinv.awaited.reaped_of_final hfin hreq (by omega)
    obtain ⟨ch, r0, hget, hr0⟩ := reaped_halted hreap
    obtain ⟨st, stg, h1, h2, h3⟩ := hinv.coupled.status i _ r0 hget hr0
    refine ⟨st, stg, h1, h2, hreap, by rw [hinv.inv.once i, hreap]; rfl, ?_⟩
    intro r hm
    obtain ⟨st', stg', h1', h2', h3'⟩ := hlogged i r hm
    rw [h1] at h1'; simp at h1'; subst h1'
    rw [h2] at h2'; simp at h2'; subst h2'
    exact h3'

/-- ★ `PipeSet::move_to_stdin_stdout`, run in the child on the descriptor
    table it inherits (`ChildStart`: the descriptors named by the `PipeSet` are open, refer to the read end
    of the incoming pipe / both ends of the outgoing pipe, are pairwise different, and no other descriptor
    refers to a pipe of this pipeline), succeeds and leaves the stage holding exactly its stdin reader at
    descriptor 0 and its stdout writer at descriptor 1 (`ChildHygienic`) — for EVERY numbering of the
    descriptors: pipe ends at 3 and above, or at 0, 1, 2 because the shell's own standard descriptors were
    closed (the `writer == STDOUT`, `read_previous == STDOUT` → `dup`, `reader == STDIN` branches), first
    / middle / last stage, and every descriptor `d` the kernel may pick for the `dup` (free once the
    outgoing read end is closed, not 1). -/
theorem child_setup_establishes_hygiene {T : FdTab} {ps : PipeSet} {jin jout d : Nat}
    (h : ChildStart T ps jin jout)
    (hd : ∀ r w, ps.next = some (r, w) → ps.readPrevious = some 1 → w ≠ 1 → (T d = none ∨ d = r) ∧ d ≠ 1) :
    ∃ T', moveToStdinStdout T ps d = some T' ∧ ChildHygienic T' ps jin jout :=
  (child_setup_spec h hd).imp fun _ h => ⟨h.1, hygienic_of_exact h.2⟩

/-- From the children's tables to the holder lists of `Hyg`: if every stage `k` of an `n`-stage pipeline
    is `ChildHygienic` for incoming pipe `k-1` (present iff `k > 0`) and outgoing pipe `k` (present iff
    `k + 1 < n`), then the read end of pipe `j` is held by stage `j+1` and by no other stage, the write end
    by stage `j` and by no other — the `readers = [j+1]`, `writers = [j]` of `mkPipeline`.  (That the PARENT
    holds no end after the last `PipeSet::shift`, and that the hypotheses `hh` hold for what the fork loop hands
    to the children, is `fork_loop_gives_child_start` / `pipeline_setup_holders` below.) -/
theorem setup_gives_holders {n : Nat} {tabs : Nat → FdTab} {pss : Nat → PipeSet}
    (hprev : ∀ k, (pss k).readPrevious.isSome = decide (0 < k))
    (hnext : ∀ k, k < n → (pss k).next.isSome = decide (k + 1 < n))
    (hh : ∀ k, k < n → ChildHygienic (tabs k) (pss k) (k - 1) k) :
    (∀ j k fd, k < n → tabs k fd = some (.rd j) → k = j + 1) ∧
    (∀ j k fd, k < n → tabs k fd = some (.wr j) → k = j) ∧
    (∀ j, j + 1 < n → tabs (j + 1) 0 = some (.rd j) ∧ tabs j 1 = some (.wr j)) := by
  refine ⟨?_, ?_, ?_⟩
  · intro j k fd hk hfd
    rcases (hh k hk).only fd _ hfd rfl with ⟨_, h2, h3⟩ | ⟨_, h2, _⟩
    · rw [hprev k] at h3
      simp at h3
      simp only [Res.rd.injEq] at h2
      omega
    · simp at h2
  · intro j k fd hk hfd
    rcases (hh k hk).only fd _ hfd rfl with ⟨_, h2, _⟩ | ⟨_, h2, _⟩
    · simp at h2
    · simp only [Res.wr.injEq] at h2; exact h2.symm
  · intro j hj
    constructor
    · have := (hh (j + 1) hj).stdin (by rw [hprev]; simp)
      simpa using this
    · exact (hh j (by omega)).stdout (by rw [hnext j (by omega)]; simp [hj])

/-- non-vacuity: a middle stage whose pipe ends sit at descriptors 3, 4, 5 -/
example :
    let T : FdTab := fun k =>
      if k = 3 then some (.rd 0) else if k = 4 then some (.rd 1) else if k = 5 then some (.wr 1)
      else if k < 3 then some .other else none
    ChildStart T { readPrevious := some 3, next := some (4, 5) } 0 1 := by
  intro T
  refine ⟨?_, ?_, ?_, ?_, ?_, ?_⟩
  · rintro _ ⟨⟩; rfl
  · rintro _ _ ⟨⟩; rfl
  · rintro _ _ ⟨⟩; rfl
  · rintro _ _ ⟨⟩; decide
  · rintro _ _ _ ⟨⟩ ⟨⟩; decide
  · intro fd res hfd hpe
    by_cases h3 : fd = 3
    · exact .inl (h3 ▸ rfl)
    · by_cases h4 : fd = 4
      · exact .inr (.inl ⟨5, h4 ▸ rfl⟩)
      · by_cases h5 : fd = 5
        · exact .inr (.inr ⟨4, h5 ▸ rfl⟩)
        · simp only [T, h3, h4, h5, if_false] at hfd
          split at hfd
          · cases hfd; cases hpe
          · cases hfd

/-- ★ The `while` loop of `execute_multi_command_pipeline` (`shift`, fork,
    `shift`, fork, …, final `shift(false)`), started with a table `T0` that holds no end of a pipe of this
    pipeline, for EVERY number of stages and EVERY allocation of descriptors by `pipe()` (`A`; a choice
    that is not free makes the loop fail): stage `k` inherits a table and a `PipeSet` that satisfy
    `ChildStart` for pipes `k-1` (in) and `k` (out) — the hypothesis of `child_setup_establishes_hygiene` —, with a
    `read_previous` iff `k > 0` and a `next` iff `k` is not the last stage; what the child inherits besides is `T0`; and when the loop is over the parent's table IS
    `T0` again (it holds no pipe end and has lost nothing) and its `PipeSet` is empty. -/
theorem fork_loop_gives_child_start {A : Alloc} {n : Nat} {T0 Tf : FdTab} {psf : PipeSet}
    {cs : List (FdTab × PipeSet)} (h0 : NoPipe T0)
    (h : forkLoop A 0 n T0 { readPrevious := none, next := none } = some (cs, Tf, psf)) :
    cs.length = n ∧ (∀ fd, Tf fd = T0 fd) ∧ psf = { readPrevious := none, next := none } ∧
    ∀ (k : Nat) Tk psk, cs[k]? = some (Tk, psk) →
      ChildStart Tk psk (k - 1) k ∧ psk.readPrevious.isSome = decide (0 < k) ∧
      psk.next.isSome = decide (k + 1 < n) ∧ (∀ fd, Tk fd = some .other ↔ (T0 fd).isSome = true) := by
  obtain ⟨hlen, hTf, hpsf, hk⟩ := forkLoop_spec h0 n 0 T0 _ cs Tf psf (loopInv_init h0 _ _) (by simp) h
  refine ⟨hlen, hTf, hpsf, ?_⟩
  intro k Tk psk hget
  obtain ⟨hinv, h1, h2⟩ := hk k Tk psk hget
  simp only [Nat.zero_add] at hinv h1
  exact ⟨hinv.start, h1, h2, fun fd => loopInv_other h0 hinv fd⟩

/-- non-vacuity (the `read_previous == STDOUT` → `dup` branch): the shell's standard output was closed, so the
    incoming read end sits at descriptor 1; the pipe to the right neighbour is (3, 4); `dup` returns 3, which
    is free once the reader 3 has been closed: the function returns, and the result is the exact table -/
example :
    let T : FdTab := fun k =>
      if k = 1 then some (.rd 0) else if k = 3 then some (.rd 1) else if k = 4 then some (.wr 1)
      else if k = 0 ∨ k = 2 then some .other else none
    (moveToStdinStdout T { readPrevious := some 1, next := some (3, 4) } 3).map
        (fun T' => (List.range 6).map T') =
      some [some (.rd 0), some (.wr 1), some .other, none, none, none] := by
  decide

/-- ★ model = Spec for the whole set-up.  For every number of stages `n`, every
    allocation policy `A` (the driver runs `Alloc.lowest`, the `min_unused_fd` of the virtual system) and
    every starting table `T0` without pipe ends: if the set-up goes through (`pipelineSetup`: fork loop of
    the parent + `move_to_stdin_stdout` in every child), then there are `n` stage tables, every descriptor
    of every stage is what `Spec.stageFd` says (0 = read end of pipe `k-1` iff `k > 0`, 1 = write end of
    pipe `k` iff `k` is not last, no other descriptor refers to a pipe, everything else as in `T0`), and the
    parent's table is `T0` again. -/
theorem pipeline_setup_exact {A : Alloc} {n : Nat} {T0 Tf : FdTab} {ts : List FdTab}
    (h0 : NoPipe T0) (h : pipelineSetup A n T0 = some (ts, Tf)) :
    ts.length = n ∧ (∀ fd, Tf fd = T0 fd) ∧
    ∀ (k : Nat) T, ts[k]? = some T →
      ∀ fd, (T fd).map Res.kind = Spec.stageFd (fun fd => (T0 fd).isSome) n k fd := by
  simp only [pipelineSetup] at h
  split at h
  · simp at h
  · rename_i cs Tf' psf hrun
    split at h
    · simp at h
    · rename_i ts' hts
      simp at h
      obtain ⟨rfl, rfl⟩ := h
      obtain ⟨hlen, hTf, _, hk⟩ := fork_loop_gives_child_start h0 hrun
      obtain ⟨hl2, hc⟩ := childTables_spec cs 0 _ hts
      refine ⟨by omega, hTf, ?_⟩
      intro k T hget fd
      have hklt : k < cs.length := by
        have := (List.getElem?_eq_some_iff.mp hget).1
        omega
      rcases hck : cs[k] with ⟨Tk, psk⟩
      have hcs : cs[k]? = some (Tk, psk) := by rw [List.getElem?_eq_getElem hklt, hck]
      obtain ⟨hstart, hrp, hnx, hoth⟩ := hk k Tk psk hcs
      have hoth := hoth fd
      obtain ⟨T', d, hT', hmove⟩ := hc k Tk psk hcs
      rw [hget] at hT'
      simp at hT'; subst hT'
      rw [child_setup_exact hstart hmove fd]
      simp only [setupResult, Spec.stageFd, hrp, hnx]
      by_cases c1 : fd = 0 ∧ 0 < k
      · simp [c1, Res.kind]
      · by_cases c2 : fd = 1 ∧ k + 1 < n
        · have : ¬ (fd = 0 ∧ 0 < k) := c1
          simp [c2, Res.kind]
        · by_cases c3 : (T0 fd).isSome = true
          · have := hoth.mpr c3
            simp [c1, c2, c3, this, Res.kind]
          · have : ¬ Tk fd = some .other := fun e => c3 (hoth.mp e)
            simp [c1, c2, c3, this]

/-- ★ the holder lists that `mkPipeline` ASSERTS (`readers = [j+1]`,
    `writers = [j]`, the starting point of `hygiene_invariant`, `pipeline_no_deadlock`,
    `joint_terminates_and_reaps`) are the ones the descriptor set-up PRODUCES: stage `k` holds a descriptor
    for the read end of pipe `j` iff `k` is in `mkPipeline`'s reader list of pipe `j`, likewise for the
    write end, and the parent holds neither end.  (What stays an abstraction: in the pipeline model all
    stages exist from the start, while the real parent forks them one after the other and holds the read
    end of pipe `j` until stage `j+1` is forked — a stage that is not forked yet is a stage that has not
    taken a step yet, and until it is forked the parent's copy keeps the pipe readable.) -/
theorem pipeline_setup_holders {A : Alloc} {n : Nat} {T0 Tf : FdTab} {ts : List FdTab}
    (h0 : NoPipe T0) (h : pipelineSetup A n T0 = some (ts, Tf))
    (progs : List SProg) (hl : progs.length = n) (j : Nat) (p : Pipe)
    (hp : (mkPipeline progs).pipes[j]? = some p) :
    (∀ k, k ∈ p.readers ↔ ∃ T fd, ts[k]? = some T ∧ T fd = some (.rd j)) ∧
    (∀ k, k ∈ p.writers ↔ ∃ T fd, ts[k]? = some T ∧ T fd = some (.wr j)) ∧
    (∀ fd, Tf fd ≠ some (.rd j) ∧ Tf fd ≠ some (.wr j)) ∧ p.content = 0 := by
  obtain ⟨hlen, hTf, hk⟩ := pipeline_setup_exact h0 h
  obtain ⟨hj, rfl⟩ := mkPipeline_pipe.mp hp
  refine ⟨?_, ?_, ?_, rfl⟩
  · intro k
    simp only [List.mem_singleton]
    constructor
    · rintro rfl
      have hlt : j + 1 < ts.length := by omega
      exact ⟨ts[j + 1], 0, List.getElem?_eq_getElem hlt,
        (kind_eq (r := .rd j)).mp ((hk _ _ (List.getElem?_eq_getElem hlt) 0).trans (stageFd_rd.mpr ⟨rfl, rfl⟩))⟩
    · rintro ⟨T, fd, hT, hfd⟩
      exact (stageFd_rd.mp ((hk k T hT fd).symm.trans (by rw [hfd]; rfl))).2
  · intro k
    simp only [List.mem_singleton]
    constructor
    · rintro rfl
      have hlt : k < ts.length := by omega
      exact ⟨ts[k], 1, List.getElem?_eq_getElem hlt,
        (kind_eq (r := .wr k)).mp ((hk _ _ (List.getElem?_eq_getElem hlt) 1).trans (stageFd_wr.mpr ⟨rfl, rfl, by omega⟩))⟩
    · rintro ⟨T, fd, hT, hfd⟩
      exact (stageFd_wr.mp ((hk k T hT fd).symm.trans (by rw [hfd]; rfl))).2.1
  · intro fd
    rw [hTf]
    constructor <;> intro e <;> have := h0 fd _ e <;> simp at this

/-- non-vacuity: three stages, descriptors 0, 1, 2 open, lowest-free allocation — the loop goes through;
    the tables of the stages (descriptors 0..5) and of the parent afterwards -/
example :
    let T0 : FdTab := fun k => if k < 3 then some .other else none
    (pipelineSetup (Alloc.lowest 16) 3 T0).map (fun r =>
        (r.1.map fun T => (List.range 6).map T, (List.range 6).map r.2)) =
      some ([[some .other, some (.wr 0), some .other, none, none, none],
             [some (.rd 0), some (.wr 1), some .other, none, none, none],
             [some (.rd 1), some .other, some .other, none, none, none]],
            [some .other, some .other, some .other, none, none, none]) := by
  decide

/-- non-vacuity: the same with standard input and output closed in the shell (the pipe ends land on 0 and
    1: the `reader == STDIN`, `writer == STDOUT` and `read_previous == STDOUT` → `dup` branches) -/
example :
    let T0 : FdTab := fun k => if k = 2 then some .other else none
    (pipelineSetup (Alloc.lowest 16) 3 T0).map (fun r =>
        (r.1.map fun T => (List.range 5).map T, (List.range 5).map r.2)) =
      some ([[none, some (.wr 0), some .other, none, none],
             [some (.rd 0), some (.wr 1), some .other, none, none],
             [some (.rd 1), none, some .other, none, none]],
            [none, none, some .other, none, none]) := by
  decide

/-- ★ the executable scheduler of the driver (`run`), started in any reachable state with fuel
    ≥ `measure`, ends in a final state whatever the list of choices is (so the driver's "model run" is a
    complete run of the model, not a truncated one). -/
theorem run_final {spec : List (Nat × Result)} {reqs : List Req} {s : Sys} (h : Reachable spec reqs s)
    (fuel : Nat) (choices : List Nat) (hf : measure s ≤ fuel) :
    Reachable spec reqs (run fuel choices s) ∧ (run fuel choices s).final = true :=
  ⟨Steps.trans h (run_steps fuel choices s), run_final_of_inv fuel choices s (reachable_inv h) hf⟩

/-- ★ a parent that waits for distinct existing children one after the other
    (`wait_for_subshell_to_finish(pid)` for each member of a pipeline, a subshell, a command substitution)
    gets, when it is done and under every schedule, exactly one result per request, in the order of the
    requests, each the awaited child's OWN final state (identity and true status) — never ECHILD, never
    another child's state. -/
theorem waits_report_in_order {spec : List (Nat × Result)} {ts : List Nat} {s : Sys}
    (h : Reachable spec (waitReqs ts) s) (hnd : ts.Nodup) (hlt : ∀ t ∈ ts, t < spec.length)
    (hfin : s.final = true) :
    s.results.reverse = ts.map (expected (spec.map (·.2))) := by
  have ho := ord_steps h (fins_init _ _) hnd (by intro x hx; simpa [init] using hlt x hx)
    (ord_init spec ts)
  obtain ⟨done, cur, rest, hts, htodo, hpc, hres, _⟩ := ho.ex
  have hfin := Sys.final_iff.mp hfin
  have hrest : rest = [] := by
    rw [hfin.2] at htodo
    cases rest with
    | nil => rfl
    | cons a b => simp [waitReqs] at htodo
  have hcur : cur = [] := by
    rcases hpc with ⟨hc, _⟩ | ⟨t, _, hp, _⟩
    · exact hc
    · rw [hfin.1] at hp; simp at hp
  subst hrest; subst hcur
  simp at hts; subst hts
  exact hres

example :
    (run 40 [2, 0, 1, 1, 2] (init [(1, .exited 3), (0, .signaled 9), (2, .exited 0)] (waitReqs [0, 1, 2]))).results.reverse
      = [.got 0 (.exited 3), .got 1 (.signaled 9), .got 2 (.exited 0)] := by
  decide

/-- The core of `pipeline_status_end_to_end`, for children whose recorded statuses are `sts`:
    what the DRIVER computes for the members of a pipeline (`nestedWaitRaw true`:
    build the children, let the parent wait for each, run the model under the scheduler derived from the
    case's schedule digits, read the statuses off the results) is the list of the members' true statuses —
    for every list of statuses (up to 4000 members: at most 24 units of `measure` each, under the driver's fuel of 100000), every
    schedule digits, every salt;
    so the status the driver reports for the pipeline is what the property says: the last member's, or with
    `pipefail` the rightmost non-zero one. -/
theorem pipeline_status_raw (digits : List Nat) (salt : Nat) (sts : List Nat)
    (hn : sts.length ≤ 4000) (pf : Bool) :
    nestedWaitRaw true digits salt sts = sts ∧
    pipeFold true pf (nestedWaitRaw true digits salt sts) = Spec.pipe pf sts := by
  have key : nestedWaitRaw true digits salt sts = sts := by
    unfold nestedWaitRaw
    simp only [Bool.not_true, Bool.false_eq_true, if_false]
    have hs0 : ({ children := mkChildren digits salt sts, todo := waitAll 0 sts.length } : Sys) =
        init (specOf digits salt sts) (waitReqs (List.range sts.length)) := by
      simp [init, mkChildren_eq, waitAll_eq]
    rw [hs0]
    have hreach0 : Reachable (specOf digits salt sts) (waitReqs (List.range sts.length))
        (init (specOf digits salt sts) (waitReqs (List.range sts.length))) := .refl _
    have hm : measure (init (specOf digits salt sts) (waitReqs (List.range sts.length))) ≤ 100000 := by
      have h1 := childrenW_mkChildren digits salt sts
      simp only [measure, init, ← mkChildren_eq, pcW, waitReqs, List.length_map, List.length_range]
      simp
      omega
    obtain ⟨hr, hfin⟩ := run_final hreach0 100000 (mkChoices digits salt) hm
    have hres := waits_report_in_order hr List.nodup_range
      (by intro t ht; rw [specOf_length]; simpa using ht) hfin
    rw [hres, hfin]
    simp only [List.map_map, List.length_map, List.length_range, and_self, if_true]
    have : (waitStatus ∘ expected ((specOf digits salt sts).map (·.2))) = fun t => sts.getD t 0 := by
      funext t
      simp only [Function.comp, expected, waitStatus, specOf_snd]
      rcases Nat.lt_or_ge t sts.length with h | h
      · simp [List.getD_eq_getElem?_getD, List.getElem?_map, List.getElem?_eq_getElem h, Result.status]
      · simp [List.getD_eq_getElem?_getD, List.getElem?_eq_none (by simpa using h : (sts.map Result.exited).length ≤ t),
          List.getElem?_eq_none h, Result.status]
    rw [this]
    exact range_map_getD sts 0
  refine ⟨key, ?_⟩
  rw [key]
  simp only [pipeFold, if_true]
  exact pipefail_rule pf sts

/-- ★ for members that EXIT WITH `sts` (any naturals — `exit 300`, `( exit 256 )`), what
    the driver computes (`nestedWait true`: the kernel records the low 8 bits, `VirtualSystem::exit`; then as in
    `pipeline_status_raw`) is the list of the statuses POSIX lets the parent see (`sts.map (· % 256)`), under every
    schedule digits and salt; so the pipeline's status is the last / with `pipefail` the rightmost non-zero of THOSE
    (`st 300 | st 0` under `pipefail`: 44; `st 256 | st 0`: 0). -/
theorem pipeline_status_end_to_end (digits : List Nat) (salt : Nat) (sts : List Nat)
    (hn : sts.length ≤ 4000) (pf : Bool) :
    nestedWait true digits salt sts = sts.map (· % 256) ∧
    pipeFold true pf (nestedWait true digits salt sts) = Spec.pipe pf (sts.map (· % 256)) := by
  have h := pipeline_status_raw digits salt (sts.map exitStatusSeen) (by simpa using hn) pf
  exact h

example : nestedWait true [2, 1, 0, 2] 5 [3, 0, 7, 0] = [3, 0, 7, 0] ∧
    pipeFold true true (nestedWait true [2, 1, 0, 2] 5 [3, 0, 7, 0]) = 7 ∧
    nestedWait true [1, 0] 3 [300, 256] = [44, 0] ∧ pipeFold true true (nestedWait true [1, 0] 3 [300, 256]) = 44 := by
  decide

/-- ★ what the DRIVER computes for `wait o1 … on` (`awaitJobsRun`, the executable
    operand loop `St.awaitJobs` calls, every `wait_for_any_job_or_trap` being a `run` of the model under a
    scheduler derived from the case's schedule digits), whenever it yields a value — in any reachable state
    with the parent idle, for any job table of existing children, any operand list, any fuel and any choice
    lists — is what the Spec says: one status per operand (the job's true status; 127 for a pid that is no
    job any more, for an unknown pid and for an unknown job ID, in ANY position), the exit status is the last
    of them (`Spec.waitOps`), every operand that names a job has been awaited and reaped, and the parent is
    idle again.  (An executable loop that stopped at the first operand naming no job could not be shown to be
    a derivation of `WaitOps`, nor to meet this statement.) -/
theorem wait_builtin_end_to_end {spec : List (Nat × Result)} {reqs : List Req} {s : Sys}
    (h : Reachable spec reqs s) (hidle : s.final = true)
    (jobs : List Nat) (hjobs : ∀ x ∈ jobs, x < spec.length) (operands : List Operand)
    (runFuel outer : Nat) (choices : Nat → List Nat) (last : Nat)
    {jobs' : List Nat} {s' : Sys} {rs : List WaitRes}
    (hrun : awaitJobsRun runFuel outer choices jobs s (operands.map (resolve jobs)) = some (jobs', s', rs)) :
    let truth := fun i => ((spec[i]?).map (·.2.status)).getD 127
    rs.map waitStatus = Spec.waitEach truth jobs (operands.map Operand.toSpec) ∧
    ((rs.map waitStatus).getLast?).getD last = (Spec.waitOps truth jobs (operands.map Operand.toSpec) last).1 ∧
    (∀ i : Nat, Operand.pid i ∈ operands → i ∈ jobs → reaped s'.children i = true) ∧
    s'.final = true := by
  intro truth
  obtain ⟨_, hrs, hall, hfin⟩ :=
    wait_operands_all_awaited h hidle jobs hjobs operands (awaitJobsRun_sound _ _ _ _ _ _ _ _ _ hrun)
  refine ⟨hrs, ?_, hall, hfin⟩
  rw [hrs, wait_status_is_last]

/-- non-vacuity: `wait 7 $j $j` with job 0 (status 3) still running: 127, 3, 127; the exit status is the last -/
example :
    (awaitJobsRun 100 8 (fun _ => [1, 0, 1]) [0] (init [(1, .exited 3)] [])
        ([Operand.pid 7, Operand.pid 0, Operand.pid 0].map (resolve [0]))).map
      (fun r => r.2.2.map waitStatus) = some [127, 3, 127] := by
  decide

/-- ★ what the driver prints in the model column for an `fd` statement
    (`fdTables true …`: `pipelineSetup` with the lowest-free allocation of the virtual system, shown as text) is
    what it prints in the spec column (`fdTables false …`: `Spec.stageFd`), for every set of closed / opened
    descriptors and every number of stages — whenever the set-up goes through, which the driver checks per case
    (` F[setup-failed]` otherwise, which differs from the spec column). -/
theorem fd_tables_end_to_end (closed opened : List Nat) (n : Nat)
    (hok : (pipelineSetup (Alloc.lowest fdBound) n
      (fun fd => if startOpen closed opened fd then some .other else none)).isSome = true) :
    fdTables true closed opened n = fdTables false closed opened n := by
  simp only [fdTables, if_true, Bool.false_eq_true, if_false]
  cases hps : pipelineSetup (Alloc.lowest fdBound) n
      (fun fd => if startOpen closed opened fd then some Res.other else none) with
  | none => rw [hps] at hok; simp at hok
  | some r =>
    obtain ⟨ts, Tf⟩ := r
    have h0 := noPipe_ite (startOpen closed opened)
    obtain ⟨hlen, hTf, hk⟩ := pipeline_setup_exact h0 hps
    simp only []
    have hrows : ts.map (fun T => showTable fun fd => (T fd).map showRes) =
        (List.range n).map fun k => showTable fun fd =>
          (Spec.stageFd (startOpen closed opened) n k fd).map showKind := by
      apply List.ext_getElem
      · simp [hlen]
      · intro k h1 h2
        have hlt : k < ts.length := by simpa using h1
        simp only [List.getElem_map, List.getElem_range]
        have hkk := hk k ts[k] (List.getElem?_eq_getElem hlt)
        congr 1
        funext fd
        have := hkk fd
        have e : (fun fd => ((if startOpen closed opened fd then some Res.other else none : Option Res)).isSome) =
            startOpen closed opened := by
          funext x; cases startOpen closed opened x <;> simp
        rw [e] at this
        rw [← this]
        cases ts[k] fd with
        | none => rfl
        | some r => simp [showRes_kind]
    have hpar : (showTable fun fd => (Tf fd).map showRes) =
        showTable fun fd => if startOpen closed opened fd then some "o" else none := by
      congr 1
      funext fd
      rw [hTf]
      cases startOpen closed opened fd <;> simp [showRes]
    rw [hrows, hpar]

/-- ★ under the allocation policy of the virtual system (`Alloc.lowest b` = the lowest
    free descriptor below `b`), started with a table without pipe ends whose descriptors from `m` on are free, the
    whole set-up of an `n`-stage pipeline goes through when `m + 2(n+1) ≤ b`: no `pipe()` of the parent and no
    `close` / `dup` / `dup2` of any child fails (every `?` of `PipeSet::shift` and `move_to_stdin_stdout` is dead
    code there).  Removes the hypothesis "if the set-up goes through" of `pipeline_setup_exact` for this policy. -/
theorem pipeline_setup_succeeds {b m n : Nat} {T0 : FdTab} (h0 : NoPipe T0) (hb : Below m T0)
    (hm : m + 2 * (n + 1) ≤ b) : (pipelineSetup (Alloc.lowest b) n T0).isSome = true := by
  obtain ⟨cs, Tf, psf, hrun, hbel⟩ := forkLoop_ok (b := b) n 0 m T0 { readPrevious := none, next := none } hb hm
  obtain ⟨_, _, _, hk⟩ := fork_loop_gives_child_start h0 hrun
  have hall : ∀ c ∈ cs, Below (m + 2 * n) c.1 ∧ ∃ jin jout, ChildStart c.1 c.2 jin jout := by
    intro c hc
    refine ⟨hbel c hc, ?_⟩
    obtain ⟨k, hk1, hk2⟩ := List.mem_iff_getElem.mp hc
    obtain ⟨T, ps⟩ := c
    exact ⟨_, _, (hk k T ps (by rw [List.getElem?_eq_getElem hk1, hk2])).1⟩
  obtain ⟨ts, hts⟩ := childTables_ok (b := b) (M := m + 2 * n) (by omega) cs 0 hall
  simp [pipelineSetup, hrun, hts]

/-- ★ for every `fd X Y N` statement of the case language (Y ⊆ 3..9, N ≤ 26; the parser
    admits N ≤ 8) the driver's model column equals its spec column — unconditionally.  26: descriptors below 10 are
    taken and each of the `N + 1` stages needs two, and `10 + 2·27 = 64 = fdBound`. -/
theorem fd_tables_agree (closed opened : List Nat) (n : Nat) (hop : ∀ d ∈ opened, d < 10) (hn : n ≤ 26) :
    fdTables true closed opened n = fdTables false closed opened n := by
  apply fd_tables_end_to_end
  apply pipeline_setup_succeeds (m := 10)
  · exact noPipe_ite _
  · intro fd hfd
    have : startOpen closed opened fd = false := by
      simp only [startOpen, Bool.or_eq_false_iff, Bool.and_eq_false_imp, decide_eq_true_eq]
      refine ⟨fun h => by omega, ?_⟩
      cases hc : opened.contains fd with
      | false => rfl
      | true =>
        have := hop fd (by simpa using hc)
        omega
    simp [this]
  · simp only [fdBound]; omega

/-- non-vacuity: the set-up goes through for 8 stages with descriptor 1 closed and 3, 5 open -/
example : (pipelineSetup (Alloc.lowest fdBound) 8
    (fun fd => if startOpen [1] [3, 5] fd then some .other else none)).isSome = true := by
  decide

/-- ★ (the identity half of "`$!` … report each child's true … identity"): in the
    program interpreter of the driver, starting an asynchronous list (`St.newJob`: `$!` is saved as `$jK`,
    K = `nasync + 1`) registers exactly the child that was just forked: operand `$jK` resolves to the new
    process-table index, that child's fate is the list's true status `v`, the older children are untouched, the
    pid is in the job table, `St.truth` of it is `v` (what the spec column reports for `wait $jK`), and the
    numbering invariant (job numbers ≤ `nasync`, pids below the table length) is kept, so the statement holds
    again for the next `&`.  With `wait_builtin_end_to_end` (status of `wait` on that pid = the child's
    `fin`) this is "`wait $!` reports the status of the list just started". -/
theorem last_async_is_new_child (st : St) (v kind : Nat) (hu : st.useSys = true)
    (hnum : ∀ j ∈ st.jobs, j.1 ≤ st.nasync ∧ j.2.1 < st.sys.children.length) :
    (st.newJob v kind).nasync = st.nasync + 1 ∧
    (st.newJob v kind).pidOf (.job (st.nasync + 1)) = some (some st.sys.children.length) ∧
    (st.newJob v kind).sys.children[st.sys.children.length]? =
      some { state := .running (fuelOf st.digits st.sys.children.length) (.exited v) } ∧
    (∀ i, i < st.sys.children.length → (st.newJob v kind).sys.children[i]? = st.sys.children[i]?) ∧
    st.sys.children.length ∈ (st.newJob v kind).active ∧
    (st.newJob v kind).truth st.sys.children.length = v ∧
    (∀ j ∈ (st.newJob v kind).jobs,
      j.1 ≤ (st.newJob v kind).nasync ∧ j.2.1 < (st.newJob v kind).sys.children.length) := by
  have hfind1 : st.jobs.find? (fun j => j.1 == st.nasync + 1) = none := by
    rw [List.find?_eq_none]
    intro j hj
    have := (hnum j hj).1
    simp; omega
  have hfind2 : st.jobs.find? (fun j => j.2.1 == st.sys.children.length) = none := by
    rw [List.find?_eq_none]
    intro j hj
    have := (hnum j hj).2
    simp; omega
  simp only [St.newJob, hu, if_true, St.fork, mkChildren_one]
  refine ⟨trivial, ?_, ?_, ?_, ?_, ?_, ?_⟩
  · simp [St.pidOf, List.find?_append, hfind1]
  · simp
  · intro i hi
    simp [List.getElem?_append_left hi]
  · simp
  · simp [St.truth, List.find?_append, hfind2]
  · intro j hj
    simp at hj
    rcases hj with hj | hj
    · have := hnum j hj
      simp; omega
    · subst hj; simp

/-- non-vacuity: the second `&` of a program -/
example :
    let st0 : St := { useSys := true, digits := [1, 0] }
    let st1 := st0.newJob 3 1
    (∀ j ∈ st1.jobs, j.1 ≤ st1.nasync ∧ j.2.1 < st1.sys.children.length) ∧
    (st1.newJob 4 1).pidOf (.job 2) = some (some 1) := by
  decide

/-- ★ for `spew n | consumer` (consumer = `take k st`, `drain`, `st s`) over a pipe of any
    capacity, in the race-free regime `Spec.raceFree2` (the consumer takes everything, or what it leaves exceeds
    what the pipe can buffer), EVERY complete run of the pipeline model — any schedule, any interleaving of
    partial writes and reads — ends with the statuses `Spec.flowStatuses` predicts: the writer succeeds iff the
    reader takes everything, otherwise it gets EPIPE (1); the reader ends with its own status.  The case of no `cat`
    of `chain_statuses_exact` (FlowChain.lean: byte accounting by position, for any number of `cat`s in the middle);
    `flow3_statuses_exact` is the case of one. -/
theorem flow2_statuses_exact (c : PCfg) (n : Nat) (cons : Spec.Flow) (hrf : Spec.raceFree2 c.cap n cons = true)
    {t : PSys} (ht : PSteps c (mkPipeline [.spew n, flowProg cons]) t) (hd : t.done = true) :
    t.statuses = Spec.flowStatuses 0 [.spew n, cons] := by
  exact chain_statuses_exact c 0 n cons (by simpa using hrf) ht hd

/-- what the driver computes for a flow pipeline in the model column is the spec column wherever every complete run
    of the model ends with the Spec's statuses — or the marker 998 for every stage when its fuel did not suffice -/
theorem flow_driver_agrees (digits : List Nat) (salt : Nat) (fs : List Spec.Flow)
    (h : ∀ t, PSteps PCfg.real (mkPipeline (fs.map flowProg)) t → t.done = true → t.statuses = Spec.flowStatuses 0 fs) :
    flowStatuses true digits salt fs = flowStatuses false digits salt fs ∨
    flowStatuses true digits salt fs = fs.map fun _ => 998 := by
  simp only [flowStatuses, if_true, Bool.false_eq_true, if_false]
  by_cases hd : (prun PCfg.real 4000 (mkChoices digits salt ++ mkChoices digits (salt + 7))
      (mkPipeline (fs.map flowProg))).done = true
  · exact .inl (by rw [if_pos hd]; exact h _ (prun_steps _ _ _ _) hd)
  · exact .inr (by rw [if_neg hd])

/-- ★ what the driver computes for such a pipeline in the model column (a `prun` under the
    case's schedule digits with the extracted PIPE_SIZE / PIPE_BUF) is the spec column — or the marker 998 when
    its fuel did not suffice, which the comparison with the real run then shows. -/
theorem flow2_driver_agrees (digits : List Nat) (salt n : Nat) (cons : Spec.Flow)
    (hrf : Spec.raceFree2 PCfg.real.cap n cons = true) :
    flowStatuses true digits salt [.spew n, cons] = flowStatuses false digits salt [.spew n, cons] ∨
    flowStatuses true digits salt [.spew n, cons] = [998, 998] :=
  flow_driver_agrees digits salt [.spew n, cons] fun _ ht hd => flow2_statuses_exact PCfg.real n cons hrf ht hd

/-- non-vacuity: the regime predicate on the fixed programs `fp w4096 s7`, `fp w1024 t1024.3`, `fp w2050 t1.5`,
    `fp w2049 d`; a racy one (1500 bytes, the reader takes 1000, the pipe holds 1024) is outside -/
example :
    Spec.raceFree2 PCfg.real.cap 4096 (.st 7) = true ∧ Spec.raceFree2 PCfg.real.cap 1024 (.take 1024 3) = true ∧
    Spec.raceFree2 PCfg.real.cap 2050 (.take 1 5) = true ∧ Spec.raceFree2 PCfg.real.cap 2049 .drain = true ∧
    Spec.raceFree2 PCfg.real.cap 1500 (.take 1000 0) = false := by
  decide

/-- ★ the same for `spew n | cat | consumer` — two pipes and the read buffer of `cat`
    (`chunk` bytes) in between.  In the regime `Spec.raceFree3` (the consumer takes everything, or what it leaves
    exceeds `2·cap + chunk`), every complete run under every schedule ends with `Spec.flowStatuses`: all three
    succeed, or the consumer ends with its status and BOTH upstream stages end with 1 — `cat` cannot end with 0
    before the producer is gone, and the producer is only ever stopped by EPIPE, which needs `cat` gone first. -/
theorem flow3_statuses_exact (c : PCfg) (n : Nat) (cons : Spec.Flow)
    (hrf : Spec.raceFree3 c.cap c.chunk n cons = true)
    {t : PSys} (ht : PSteps c (mkPipeline [.spew n, .cat 0, flowProg cons]) t) (hd : t.done = true) :
    t.statuses = Spec.flowStatuses 0 [.spew n, .cat, cons] := by
  rw [raceFree3_eq] at hrf
  exact chain_statuses_exact c 1 n cons
    (by rw [show (1 + 1) * c.cap + 1 * c.chunk = c.cap + c.chunk + c.cap by omega]; exact hrf) ht hd

/-- ★ the driver's model column for such a statement is the spec column, or the marker 998
    when its fuel did not suffice. -/
theorem flow3_driver_agrees (digits : List Nat) (salt n : Nat) (cons : Spec.Flow)
    (hrf : Spec.raceFree3 PCfg.real.cap PCfg.real.chunk n cons = true) :
    flowStatuses true digits salt [.spew n, .cat, cons] = flowStatuses false digits salt [.spew n, .cat, cons] ∨
    flowStatuses true digits salt [.spew n, .cat, cons] = [998, 998, 998] :=
  flow_driver_agrees digits salt [.spew n, .cat, cons] fun _ ht hd => flow3_statuses_exact PCfg.real n cons hrf ht hd

/-- non-vacuity: the fixed programs `fp w9000 c t100.2`, `fp w3000 c d`, `fp w6000 c s9`, `fp w512 c t512.0`; and a
    racy one outside the regime -/
example :
    Spec.raceFree3 PCfg.real.cap PCfg.real.chunk 9000 (.take 100 2) = true ∧
    Spec.raceFree3 PCfg.real.cap PCfg.real.chunk 3000 .drain = true ∧
    Spec.raceFree3 PCfg.real.cap PCfg.real.chunk 6000 (.st 9) = true ∧
    Spec.raceFree3 PCfg.real.cap PCfg.real.chunk 512 (.take 512 0) = true ∧
    Spec.raceFree3 PCfg.real.cap PCfg.real.chunk 3000 (.take 10 0) = false := by
  decide

/-- ★ Pipelines of ANY number of stages (any list of `spew`/`take`/`drain`/`cat`/`st` programs, any capacity, any
    payload), under EVERY schedule: in every reachable state a stage that has ended has ended with its OWN status (the
    one its program fixes: `take k st` and `st n` their argument, the others 0) — or it is a writer that is not the
    last stage and ended with 1 because a `write` failed with EPIPE, and then its reader, the next stage, had ended
    before it.  (There is no third way: a stage is never killed by SIGPIPE in the shell — the virtual system and the
    built-ins report EPIPE —, never blocks for good: `pipeline_no_deadlock`.) -/
theorem flow_stages_end_own_or_epipe (c : PCfg) (progs : List SProg) (hne : progs ≠ []) {s : PSys}
    (h : PSteps c (mkPipeline progs) s) :
    ∀ (i : Nat) (st : Stage) (p : SProg) (e : Nat), s.stages[i]? = some st → progs[i]? = some p → st.exit = some e →
      e = ownStatus p ∨ (e = 1 ∧ isWriter p = true ∧ i + 1 < progs.length ∧ s.alive (i + 1) = false) :=
  (flowInv_steps h (flowInv_init c progs hne)).ended

/-- ★ Hence the exit status of a pipeline of any length WITHOUT `pipefail` is the same under every schedule: once all
    stages have ended it is the own status of the last stage (whose standard output is not a pipe: it cannot get
    EPIPE) — `pipeStatus false` = `Spec.pipe false` of the statuses the run produced.  With `pipefail` the status is
    the rightmost non-zero of statuses each of which is the stage's own or 1 (a writer whose reader left first): exact
    in the race-free regimes (`flow2_statuses_exact`, `flow3_statuses_exact`), schedule-dependent outside them — which
    is the script's race, not the shell's. -/
theorem flow_pipeline_status_any_stages (c : PCfg) (progs : List SProg) (hne : progs ≠ []) {s : PSys}
    (h : PSteps c (mkPipeline progs) s) (hd : s.done = true) :
    pipeStatus false s.statuses = ownStatus (progs.getLast hne) ∧
    Spec.pipe false s.statuses = ownStatus (progs.getLast hne) ∧
    (∀ (i : Nat) (p : SProg), progs[i]? = some p →
      s.statuses[i]? = some (ownStatus p) ∨
      (s.statuses[i]? = some 1 ∧ isWriter p = true ∧ i + 1 < progs.length)) := by
  have hI := flowInv_steps h (flowInv_init c progs hne)
  have hlen := hI.len
  have hpos : 0 < progs.length := List.length_pos_iff.mpr hne
  have hstat : ∀ (i : Nat) (st : Stage), s.stages[i]? = some st → s.statuses[i]? = some (st.exit.getD 999) := by
    intro i st hst; simp [PSys.statuses, hst]
  have hlast : s.statuses.getLast? = some (ownStatus (progs.getLast hne)) := by
    have hi : progs.length - 1 < s.stages.length := by omega
    have hst : s.stages[progs.length - 1]? = some s.stages[progs.length - 1] := List.getElem?_eq_getElem hi
    have hp : progs[progs.length - 1]? = some (progs.getLast hne) := by
      rw [List.getLast_eq_getElem]; exact List.getElem?_eq_getElem (by omega)
    obtain ⟨e, he⟩ := done_exit hd hst
    have := hI.ended _ _ _ e hst hp he
    rcases this with h1 | ⟨_, _, h3, _⟩
    · rw [List.getLast?_eq_getElem?]
      have hl : s.statuses.length = progs.length := by simp [PSys.statuses, hlen]
      rw [hl, hstat _ _ hst, he, h1]; rfl
    · omega
  have hspec : Spec.pipe false s.statuses = ownStatus (progs.getLast hne) := by
    simp [Spec.pipe, hlast]
  refine ⟨by rw [pipefail_rule]; exact hspec, hspec, ?_⟩
  intro i p hp
  have hi : i < s.stages.length := by
    have := lt_of_get hp; omega
  have hst : s.stages[i]? = some s.stages[i] := List.getElem?_eq_getElem hi
  obtain ⟨e, he⟩ := done_exit hd hst
  rcases hI.ended _ _ _ e hst hp he with h1 | ⟨h1, h2, h3, _⟩
  · left; rw [hstat _ _ hst, he, h1]; rfl
  · right; exact ⟨by rw [hstat _ _ hst, he, h1]; rfl, h2, h3⟩

/-- what the driver runs for `fp F F …`: whatever `prun` returns for the real constants, if all stages have ended the
    status without `pipefail` is the last stage's own (a four-stage pipeline that is no `spew | cat … | consumer`: outside
    `chain_statuses_exact`) -/
example :
    let progs : List SProg := [.idle 5, .spew 3000, .cat 0, .take 10 7]
    (prun PCfg.real 4000 [1, 0, 2, 1, 3, 0] (mkPipeline progs)).done = true ∧
    pipeStatus false (prun PCfg.real 4000 [1, 0, 2, 1, 3, 0] (mkPipeline progs)).statuses = 7 := by
  decide

/-- ★ `$!` is unchanged by every statement that starts no asynchronous list — foreground pipelines (plain, negated,
    flow, `fd`), subshells and command substitutions of every shape (their own `&` included: per subshell), `wait`
    with operands, without, with an invalid option, in a subshell, `kill`, `set -o/+o`, `trap` — in both columns:
    the list of pids of the asynchronous lists is the same afterwards, hence its last element, the value of `$!`. -/
theorem bang_unchanged_by_foreground (st : St) (s : Stmt) (hf : s.foreground = true) :
    (st.stmt s).pids = st.pids ∧ (st.stmt s).bangPid = st.bangPid := by
  have key : (st.stmt s).pids = st.pids := by
    cases s with
    | bg | bn | tw | tk | ts | sc | scp => cases hf
    | pf | monitor | ti | gj | wx | ku | tcx => unfold St.stmt; rfl
    | flow => unfold St.stmt; exact pids_forkWait st _
    | fd | gl | g | gg | gb | gw | q | qe | qq | qb => unfold St.stmt; exact pids_subshell st _
    | wj | wu => unfold St.stmt; exact pids_waitOps st _
    | w => unfold St.stmt; exact pids_waitAllJobs st
    | pipe neg ms =>
      unfold St.stmt
      exact (pids_withOut _ (pipeOutput ms)).trans (pids_forkWait st (st.members ms))
    | gp ms =>
      unfold St.stmt
      exact (pids_withOut _ (pipeOutput ms)).trans (pids_subshell st _)
    | kill sig k =>
      unfold St.stmt
      -- reduce to the `kill` branch: a job look-up, then a chain of `if`s, every arm keeping the pid list
      conv => lhs; arg 1; whnf
      split
      · rfl
      · exact pids_ite rfl (pids_ite rfl (pids_ite rfl (pids_ite rfl (pids_ite rfl
          (pids_ite rfl (pids_killJob _ _ _))))))
  exact ⟨key, by unfold St.bangPid; rw [key]⟩

/-- ★ … and an asynchronous list sets it to the process `wait $!` must wait for: after `St.newJob` (what `bg M…`,
    `bn`, `ts`, … call) the value of `$!` is the pid recorded for the new job — in the model column the index of the
    child just forked (for `a | b &`, `{ …; } &`, `( … ) &` alike: ONE child of the shell, which runs the list) —,
    that pid is in the job table, and all earlier pids are still there in order. -/
theorem bang_after_async (st : St) (v kind : Nat) :
    let st' := st.newJob v kind
    st'.pids = st.pids ++ [if st.useSys then st.sys.children.length else st.nasync + 1] ∧
    st'.bangPid = some (if st.useSys then st.sys.children.length else st.nasync + 1) ∧
    (if st.useSys then st.sys.children.length else st.nasync + 1) ∈ st'.active := by
  intro st'
  have h1 : st'.pids = st.pids ++ [if st.useSys then st.sys.children.length else st.nasync + 1] := by
    show (st.newJob v kind).pids = _
    unfold St.newJob St.pids
    cases hu : st.useSys <;> simp [St.fork]
  refine ⟨h1, by unfold St.bangPid; rw [h1]; simp, ?_⟩
  show _ ∈ (st.newJob v kind).active
  unfold St.newJob
  cases hu : st.useSys <;> simp [St.fork]

example : (Stmt.pipe false [.st 1, .st 2]).foreground = true ∧ (Stmt.gb 3).foreground = true ∧
    (Stmt.bg [.st 1]).foreground = false := by decide

section WaitTrap
open YashModel.Generated.ProcConsts (SIGNAL_EXIT_OFFSET EXIT_SUCCESS)

/-- The invariant of the `wait`-for-one-job system (`TInv`) holds when the built-in starts between
    two commands of any shell state satisfying `Inv`, and is preserved by every step of the shell, of a child and
    of a sender. -/
theorem wait_trap_inv_inductive :
    (∀ s j traps senders, Inv s → s.pc = .done → TInv (TSys.start s j traps senders)) ∧
    (∀ t l t', TInv t → tstep t l = some t' → TInv t') :=
  ⟨fun _ j traps senders h _ => tinv_start h j traps senders, fun _ l _ h hs => tinv_step l h hs⟩

/-- ★ The trap wins (XCU 2.12: "the reception of a signal for which a trap has been set shall cause the wait
    utility to return immediately with an exit status >128").  Whenever the shell is blocked in
    `wait_for_signals` and a signal with a trap action is pending (`σ` = the first such in delivery order):
    (1) the shell can move at once and that step ends the built-in with `Trapped(σ)`;
    (2) WHATEVER happens before the shell is scheduled — children running on, the awaited job exiting (SIGCHLD
    becoming pending too), further signals arriving, in any number and order — every run that ends the built-in
    ends it with `Trapped(σ)`, without any child's state having been handed out (the job is still waitable), and
    `σ` has a trap action.  (A `wait_for_any_job_or_trap` that looks at SIGCHLD first breaks (1) and (2).) -/
theorem trap_interrupts_wait {t : TSys} {σ : Nat} (hout : t.out = none) (hpc : t.sys.pc = .await)
    (hσ : firstTrapped t.traps t.sigPending = some σ) :
    (∃ t', tstep t .parent = some t' ∧ t'.out = some (.trapped σ)) ∧
    (∀ u o, TSteps t u → u.out = some o → o = .trapped σ ∧ u.sys.log = t.sys.log ∧ σ ∈ t.traps) := by
  have harm : Armed t σ t.sys.log ∨ Fired t σ t.sys.log := Or.inl ⟨hout, hpc, hσ, rfl⟩
  constructor
  · have hne : (t.sys.pending || !t.sigPending.isEmpty) = true := by
      cases hsp : t.sigPending with
      | nil => have := (firstTrapped_mem hσ).2; simp [hsp] at this
      | cons a b => simp
    exact ⟨_, tparentStep_iff.mpr (.trapped hout hpc hne hσ), rfl⟩
  · intro u o hsteps ho
    obtain ⟨h1, h2⟩ := armed_out (armed_steps hsteps harm) ho
    exact ⟨h1, h2, (firstTrapped_mem hσ).1⟩

example :
    let t : TSys := { sys := { children := [{ state := .halted (.exited 3), changed := true }], disp := .catch,
                               pending := true, pc := .await },
                      job := 0, traps := [6], sigPending := [6] }
    t.out = none ∧ t.sys.pc = .await ∧ firstTrapped t.traps t.sigPending = some 6 ∧
      ((tstep t .parent).map (·.out)) = some (some (.trapped 6)) := by
  decide

/-- ★ Progress of the built-in under every schedule: every step of the shell, of a child, of a sender strictly
    decreases `tmeasure` (no infinite run, no fairness assumption), and in every invariant state in which the
    built-in has not ended some process can move (no deadlock: a blocked shell has a live child that can step or
    send, or something pending that wakes it).  Hence every maximal run ends the built-in. -/
theorem wait_trap_progress :
    (∀ t l t', tstep t l = some t' → tmeasure t' < tmeasure t) ∧
    (∀ t, TInv t → t.out = none → ∃ l t', tstep t l = some t') :=
  ⟨fun _ l _ hs => tmeasure_step l hs, fun _ h ho => tnot_stuck h ho⟩

/-- ★ What the built-in reports is true, under every schedule: started between two commands of a shell state
    satisfying `Inv`, in every reachable state — `finished i r`: `i` is the awaited job, `r` is the final state the
    child really ended with, handed out by `wait` exactly once (the child is reaped); `trapped σ`: `σ` has a trap
    action; and as long as the built-in runs the awaited job has no recorded final state. -/
theorem wait_trap_result_sound {s : Sys} {j : Nat} {traps : List Nat} {senders : List (Nat × Nat)} {u : TSys}
    (h : Inv s) (hpc : s.pc = .done) (hu : TSteps (TSys.start s j traps senders) u) :
    (∀ i r, u.out = some (.finished i r) →
        i = j ∧ (∃ c, u.sys.children[i]? = some c ∧ c.state = .halted r) ∧ logCount u.sys.log i = 1 ∧
        reaped u.sys.children i = true) ∧
    (∀ σ, u.out = some (.trapped σ) → σ ∈ traps) ∧
    (u.out = none → jobDone u.sys.log j = none) := by
  have hT := tinv_steps hu (tinv_start h j traps senders)
  have h0 : (TSys.start s j traps senders).job = j ∧ (TSys.start s j traps senders).traps = traps := by
    unfold TSys.start; split <;> exact ⟨rfl, rfl⟩
  have h1 : (TSys.start s j traps senders).single = false := by
    unfold TSys.start; split <;> rfl
  obtain ⟨hj, htr, hsg⟩ := tsteps_frame hu
  rw [h0.1] at hj; rw [h0.2] at htr; rw [h1] at hsg
  refine ⟨?_, ?_, ?_⟩
  · intro i r ho
    obtain ⟨h1, h2⟩ := hT.fin_ok i r ho
    obtain ⟨c, hc, hst⟩ := hT.inv.logged i r h2
    have hre := (hT.inv.reaped_iff_logged i).mpr ⟨r, h2⟩
    refine ⟨h1.trans hj, ⟨c, hc, hst⟩, by rw [hT.inv.once i, hre]; rfl, hre⟩
  · intro σ ho; rw [← htr]; exact hT.trap_ok σ ho
  · intro ho; rw [← hj]; exact hT.job_open ho hsg

/-- ★ No result depends on which process runs first: the awaited job sends the trapped signal `σ` to the shell
    and then exits (`trap … SIG; ( kill -s SIG $$; …; exit N ) & wait $!`).  From the state in which the shell is
    blocked in `wait` for that job, the job being the only live child and still having to send, EVERY run — the
    job's exit and its SIGCHLD may come before or after the shell is scheduled again — that ends the built-in ends
    it with `Trapped(σ)` and hands out no child's state: the exit status of `wait` is `Spec.waitInterrupted σ` under
    every schedule, and the job is still there for the next `wait`.  (With "SIGCHLD first" the same runs give the
    job's status or `Trapped(σ)` depending on the schedule.) -/
theorem sole_job_signal_then_exit_is_trapped {t u : TSys} {σ : Nat} {o : TrapOut} (h : Sole t σ)
    (hu : TSteps t u) (ho : u.out = some o) :
    o = .trapped σ ∧ u.sys.log = t.sys.log ∧ σ + SIGNAL_EXIT_OFFSET = Spec.waitInterrupted σ ∧
      128 < Spec.waitInterrupted σ := by
  obtain ⟨h1, h2⟩ := phase_out (fun _ h => Sole.out h) (sole_steps hu h) ho
  exact ⟨h1, h2, trapped_status σ []⟩

/-- the driver's start state for `ts USR1 3` after the shell's first burst: blocked with nothing pending, the one child
    still to send (five of the nine fields of `Sole`; the others — `others`, `jobAlive`, `sigs`, `trapped` — are read off
    the one-child table), and its run ends `Trapped` for the choices tried -/
example :
    let t := parentTurn (TSys.start { children := [{ state := .running 2 (.exited 3) }] } 0 [6] [(0, 6)])
    t.out = none ∧ t.sys.pc = .await ∧ t.sys.pending = false ∧ t.sigPending = [] ∧ t.senders = [(0, 6)] ∧
      (trun 100 [0, 1, 0, 2, 1] t).out = some (.trapped 6) ∧ (trun 100 [1, 1, 1, 1, 1, 1] t).out = some (.trapped 6) := by
  decide

/-- ★ What the driver computes for a `ts` statement: the executable block scheduler `trun` (a turn of the shell =
    `parentTurn`, as `run_virtual` lets a process run until its `select` would block) only takes steps of the
    system — so `wait_trap_result_sound` and `trap_interrupts_wait` hold of its result — and from a `Sole` state
    its result, if the built-in has ended, is `Trapped(σ)` for every fuel and every choice list. -/
theorem ts_driver_trapped (fuel : Nat) (choices : List Nat) {t : TSys} {σ : Nat} (h : Sole t σ) :
    TSteps t (trun fuel choices t) ∧
    (∀ o, (trun fuel choices t).out = some o → o = .trapped σ ∧ (trun fuel choices t).sys.log = t.sys.log) := by
  refine ⟨trun_tsteps fuel choices t, fun o ho => ?_⟩
  have := sole_job_signal_then_exit_is_trapped h (trun_tsteps fuel choices t) ho
  exact ⟨this.1, this.2.1⟩

/-- ★ The same with ANY other children around (jobs still running, exiting, unreported), under the scheduling
    the executor really does — a turn of the shell runs until the shell blocks (`Concurrent::run_virtual`;
    `BSteps`).  From a state in which the shell is blocked in `wait` for job `j`, `j` alive, unreported, not
    recorded as finished and still to send the trapped signal `σ` (every sender sends `σ`): every run that ends the
    built-in ends it with `Trapped(σ)`, and the job is not recorded as finished — the next `wait` for it yields its
    status, not 127.  SIGCHLDs of other children wake the shell any number of times in between (it records them
    and blocks again: `waiting_burst`); the job's own SIGCHLD can only come after its signal.  At the granularity
    of single steps (`TSteps`) this is false with other children — a signal arriving between a wake-up and the next
    `wait()` loses to the job's exit —, which is why the script is race-free only where the shell cannot be
    pre-empted between the two. -/
theorem signal_then_exit_is_trapped_under_executor {t u : TSys} {σ : Nat} {o : TrapOut}
    (h : Waiting t σ) (hpc : t.sys.pc = .await) (hu : BSteps t u) (ho : u.out = some o) :
    o = .trapped σ ∧ jobDone u.sys.log t.job = none := by
  obtain ⟨_, hr⟩ := race_bsteps hu (⟨rfl, Or.inl ⟨h, hpc⟩⟩ : Race t.job σ t)
  rcases hr with ⟨hw, _⟩ | ⟨log0, hopen, ha⟩
  · rw [hw.out] at ho; cases ho
  · obtain ⟨h1, h2⟩ := armed_out ha ho
    exact ⟨h1, by rw [h2]; exact hopen⟩

/-- … and under single steps (`TSteps`) it fails: from a state with `Waiting`, the shell blocked,
    another child exits and wakes the shell; before the shell calls `wait()` again the job sends its signal and exits;
    the shell then records both children and ends the built-in with the job's status, the caught signal unanswered -/
example :
    let t : TSys := { sys := { children := [{ state := .running 0 (.exited 5) }, { state := .running 0 (.exited 3) }],
                               disp := .catch, pc := .await, target := .any },
                      job := 1, traps := [6], senders := [(1, 6)] }
    Waiting t 6 ∧ t.sys.pc = .await ∧
      ([.child 0, .parent, .send 0, .child 1, .parent, .parent, .parent].foldlM tstep t).map (·.out) =
        some (some (.finished 1 (.exited 3))) := by
  intro t
  exact ⟨⟨rfl, .inr (.inr rfl), rfl, ⟨_, rfl, rfl, rfl⟩, rfl, ⟨(1, 6), by simp [t], rfl⟩, by simp [t], by simp [t],
    by decide, rfl⟩, rfl, by decide⟩

/-- ★ End to end for the driver's `ts` / `tw` statements: from ANY shell state satisfying `Inv` (any children in any
    state), fork a child (any number of internal steps `f`, any exit status `n`) that sends the trapped signal `σ`
    before it exits, start `wait` for it and let the shell run until it blocks (`St.newJob`, `TSys.start`,
    `parentTurn`): the shell IS then blocked waiting (`Waiting`), and whatever the driver's scheduler `trun` returns
    for any fuel and any choice list, if the built-in has ended it has ended `Trapped(σ)` with the job still
    waitable. -/
theorem ts_driver_trapped_any_children {s : Sys} (hI : Inv s) (f n σ fuel : Nat) (choices : List Nat)
    (hσ : σ ≠ SIGCHLD_NO) :
    let s' : Sys := { s with children := s.children ++ [{ state := .running f (.exited n) }] }
    let t := parentTurn (TSys.start s' s.children.length [σ] [(s.children.length, σ)])
    (Waiting t σ ∧ t.sys.pc = .await) ∧
    ∀ o, (trun fuel choices t).out = some o →
      o = .trapped σ ∧ jobDone (trun fuel choices t).sys.log s.children.length = none := by
  intro s' t
  obtain ⟨hw, hpc, hj⟩ := waiting_start_newJob hI f n σ hσ
  refine ⟨⟨hw, hpc⟩, fun o ho => ?_⟩
  have := signal_then_exit_is_trapped_under_executor hw hpc (trun_bsteps fuel choices _) ho
  rw [hj] at this
  exact this

/-- other children alive and unreported, the job's exit overtaking the shell: still `Trapped`, job not logged -/
example :
    let s : Sys := { children := [{ state := .running 1 (.exited 5) }, { state := .halted (.exited 2), changed := true }],
                     disp := .catch, pending := true }
    let t := parentTurn (TSys.start { s with children := s.children ++ [{ state := .running 1 (.exited 3) }] } 2 [6] [(2, 6)])
    t.sys.pc = .await ∧ t.out = none ∧
      (trun 100 [1, 1, 1, 1, 1, 1, 1] t).out = some (.trapped 6) ∧
      (trun 100 [3, 2, 1, 0, 2, 1] t).out = some (.trapped 6) ∧
      jobDone (trun 100 [1, 1, 1, 1, 1, 1, 1] t).sys.log 2 = none := by
  decide

/-- No caught signal is lost at a wake-up: every signal delivered by the `select` of `wait_for_signals` either is the
    one whose trap action the built-in runs (`Trapped`), or is remembered in the `TrapSet` (`catch_signal`: its trap
    action runs after the built-in) — together with everything remembered before; and nothing stays pending. -/
theorem caught_signals_not_lost {t t' : TSys} (hpc : t.sys.pc = .await) (hs : tparentStep t = some t') :
    t'.sigPending = [] ∧ t'.sys.pending = false ∧
    (∀ σ, σ ∈ t.flags ++ t.sigPending → σ ∈ t'.flags ∨ t'.out = some (.trapped σ)) := by
  obtain ⟨_, ⟨σ0, _, rfl⟩ | ⟨_, rfl⟩⟩ := (tparentStep_iff.mp hs).of_await hpc
  · refine ⟨rfl, rfl, fun σ hσ => ?_⟩
    by_cases e : σ = σ0
    · right; simp [e]
    · left; exact (List.mem_erase_of_ne e).mpr hσ
  · exact ⟨rfl, rfl, fun σ hσ => .inl hσ⟩

example :
    let t : TSys := { sys := { children := [{ state := .running 1 (.exited 0) }], disp := .catch, pc := .await },
                      job := 0, traps := [6, 5], sigPending := [5, 6], flags := [2] }
    (tparentStep t).map (fun u => (u.out, u.flags)) = some (some (.trapped 5), [2, 6]) := by
  decide

/-- ★ Connection of the two models: while no trapped signal is pending, every step of the shell inside the `wait`
    built-in of `WaitTrap.lean` IS a step of the request `wait(-1)` of `Model.lean` (`parentStep` with target
    `any`, the system every theorem above and the `WaitOps` layer are about): same children, flags, log,
    disposition, pending SIGCHLD; same program counter, except that after handing out the state of a child that
    is not the awaited job the built-in goes straight into the next `wait_for_any_job_or_trap` (`enable`) where
    the request ends (`done`) — `awaitJobRun` issues the next request there.  (The single call of a bare `wait` ends
    exactly where the request ends.) -/
theorem wait_trap_refines_wait_any {t t' : TSys} (h : TInv t) (hq : t.sigPending = [])
    (hs : tparentStep t = some t') :
    ∃ s', parentStep t.sys = some s' ∧ s'.children = t'.sys.children ∧ s'.log = t'.sys.log ∧
      s'.disp = t'.sys.disp ∧ s'.pending = t'.sys.pending ∧
      (s'.pc = t'.sys.pc ∨ (s'.pc = .done ∧ t'.sys.pc = .enable ∧ t'.out = none)) := by
  have htg := h.target
  cases tparentStep_iff.mp hs with
  | enable ho hpc => exact ⟨_, parentStep_iff.mpr (.enable hpc), rfl, rfl, rfl, rfl, .inl rfl⟩
  | block ho hpc hw => exact ⟨_, parentStep_iff.mpr (.block hpc (htg ▸ hw)), rfl, rfl, rfl, rfl, .inl rfl⟩
  | nothing ho hpc hw => exact ⟨_, parentStep_iff.mpr (.echild hpc (htg ▸ hw)), rfl, rfl, rfl, rfl, .inl rfl⟩
  | changed ho hpc hw hsg =>
    obtain ⟨r, rfl⟩ := h.inv.state_halted hw
    exact ⟨_, parentStep_iff.mpr (.got hpc (htg ▸ hw)), rfl, rfl, rfl, rfl, .inl rfl⟩
  | finished ho hpc hw hsg hj =>
    obtain ⟨r, rfl⟩ := h.inv.state_halted hw
    exact ⟨_, parentStep_iff.mpr (.got hpc (htg ▸ hw)), rfl, rfl, rfl, rfl, .inl rfl⟩
  | other ho hpc hw hsg hj =>
    obtain ⟨r, rfl⟩ := h.inv.state_halted hw
    exact ⟨_, parentStep_iff.mpr (.got hpc (htg ▸ hw)), rfl, rfl, rfl, rfl, .inr ⟨rfl, rfl, ho⟩⟩
  | trapped ho hpc hc hf => simp [hq, firstTrapped] at hf
  | wake ho hpc hc hf =>
    have hp : t.sys.pending = true := by simpa [hq] using hc
    exact ⟨_, parentStep_iff.mpr (.wake hpc hp), rfl, rfl, rfl, rfl, .inl rfl⟩

/-- The trap action's body (`Command::execute` of `wait`: `with_exit_status_and_divert(ExitStatus::from(signal), divert)`):
    whatever the action does — ends normally with any status, looks at `$?`, `return`s — the exit status of the
    interrupted `wait` is that of the SIGNAL (384 + σ = `Spec.waitInterrupted`); the action sees in `$?` the value from
    before the trap; a `return r` in the action makes the function around `wait` return `r`.  (`tsr`, `tsq`, `tsf` run
    this against the real shell.) -/
theorem trap_action_result (σ q r : Nat) (act : TrapAct) :
    (trappedResult SIGNAL_EXIT_OFFSET σ act).1 = Spec.waitInterrupted σ ∧
    statusAfter (trappedResult SIGNAL_EXIT_OFFSET σ .plain) = Spec.waitInterrupted σ ∧
    statusAfter (trappedResult SIGNAL_EXIT_OFFSET σ (.probe q)) = Spec.waitInterrupted σ ∧
    statusAfter (trappedResult SIGNAL_EXIT_OFFSET σ (.ret r)) = r ∧
    act.entryStatus q = q := by
  refine ⟨?_, ?_, ?_, rfl, rfl⟩ <;>
    simp only [trappedResult, statusAfter, TrapAct.divert, Spec.waitInterrupted, SIGNAL_EXIT_OFFSET, Option.getD] <;> omega

/-- The shape of `wait_for_any_job_or_trap` that `tparentStep` transcribes, re-extracted from
    yash-builtin/src/wait/core.rs on every run (`tools/tables/proc.py` → `Generated/WaitCore.lean`; a statement the
    extractor cannot classify — a `continue`, a test of another signal — is a loud failure there): the SIGCHLD
    handler is installed before the loop (`Pc.enable` precedes `Pc.poll`), the loop polls `wait(Pid::ALL)`
    (`sysWait … .any`), the `Ok(None)` arm waits for signals, then (interactive shells only, not modelled) the
    defaulted-SIGINT test, then runs the trap of the first caught signal that has one and returns `Trapped`
    (`Pc.await`: `firstTrapped`), else polls again; `Ok(Some)` records the state and returns; ECHILD is
    `NothingToWait`.  A reordering of these statements changes the table and breaks this theorem. -/
theorem wait_core_as_modelled :
    YashModel.Generated.WaitCore.enableBeforeLoop = true ∧
    YashModel.Generated.WaitCore.waitTarget = "ALL" ∧
    YashModel.Generated.WaitCore.okNoneArm =
      ["wait_for_signals", "sigint_default_interrupt", "run_first_trap_return"] ∧
    YashModel.Generated.WaitCore.okSomeArm = ["update_status", "return_ok"] ∧
    YashModel.Generated.WaitCore.echildArm = ["nothing_to_wait"] ∧
    YashModel.Generated.WaitCore.otherErrArm = ["system_error"] := by
  decide

/-- ★ `wait o1 … on` while trapped signals arrive — what `Command::await_jobs` guarantees for EVERY operand list,
    every job table and every scheduler (`run`: any function that takes a started operand some number of steps of
    the system).  If it ends `Trapped(σ)`: σ has a trap action; the exit status is 384 + σ (`ExitStatus::from`, > 128
    as XCU 2.12 demands, = `Spec.waitInterrupted`); the operands before the interrupted one — and only those — have
    been dealt with (`sts` has one status per such operand, the job table is the one those operands leave:
    `eraseOps jobs pre`); the interrupted operand's job is STILL IN THE TABLE and no later operand has been looked at
    (`rest`), so every job not named before stays waitable; the state satisfies the invariant (whatever is recorded
    is a true final status, `Inv.logged`).  If it ends `Ok`: one status per operand, table = `eraseOps jobs ops`. -/
theorem wait_operands_trapped_sound (run : TSys → TSys) (hrun : ∀ x, TSteps x (run x)) (jobs : List Nat)
    (t : TSys) (ops : List (Option Nat)) (h : TInv t) :
    let res := tawaitJobs run jobs t ops
    TInv res.2.1 ∧ res.2.1.traps = t.traps ∧
    (∀ sts, res.2.2 = .done sts → sts.length = ops.length ∧ res.1 = eraseOps jobs ops) ∧
    (∀ σ sts, res.2.2 = .trapped σ sts →
      σ ∈ t.traps ∧ res.2.2.status = Spec.waitInterrupted σ ∧ 128 < res.2.2.status ∧
      ∃ pre i rest, ops = pre ++ some i :: rest ∧ sts.length = pre.length ∧ res.1 = eraseOps jobs pre ∧ i ∈ res.1 ∧
        (∀ j, j ∈ res.1 → j ∈ jobs)) := by
  intro res
  have hs := tawaitJobs_sound run hrun jobs t ops h
  refine ⟨hs.inv, hs.traps_eq, hs.ofDone, ?_⟩
  intro σ sts hres
  obtain ⟨h1, pre, i, rest, h2, h3, h4, h5⟩ := hs.ofTrapped σ sts hres
  have hst : res.2.2.status = Spec.waitInterrupted σ := by rw [hres]; exact (trapped_status σ sts).1
  refine ⟨h1, hst, hst ▸ (trapped_status σ sts).2, pre, i, rest, h2, h3, h4, h5, ?_⟩
  · intro j hj
    have : j ∈ eraseOps jobs pre := by rw [← h4]; exact hj
    exact eraseOps_sub this

/-- ★ A trapped signal caught while the shell is blocked ends the WHOLE built-in, whatever operand it is waiting for
    and whatever follows: if on the way of the operand's run (`v`) the shell is blocked with a signal that has a trap
    action pending, then — provided the run ends at all — the outcome is `Trapped(σ)` with nothing awaited from this
    operand on: the job table is untouched, later operands are not waited for. -/
theorem armed_operand_ends_builtin (run : TSys → TSys) (jobs : List Nat) (t : TSys) (i : Nat)
    (ops : List (Option Nat)) (hi : i ∈ jobs) {v : TSys} {σ : Nat} {log0 : List (Nat × Result)}
    (hv : TSteps v (run (t.next i))) (ha : Armed v σ log0) (hend : (run (t.next i)).out ≠ none) :
    tawaitJobs run jobs t (some i :: ops) = (jobs, run (t.next i), .trapped σ []) ∧
      (run (t.next i)).sys.log = log0 := by
  cases ho : (run (t.next i)).out with
  | none => exact absurd ho hend
  | some o =>
    obtain ⟨rfl, h2⟩ := armed_out (armed_steps hv (.inl ha)) ho
    exact ⟨by simp [tawaitJobs, hi, ho], h2⟩

/-- ★ `wait $! o2 … on` where `$!` is a job that sends the trapped signal before it exits (the `tso` statements),
    under the executor's scheduling, with any other children and any further operands: `Trapped(σ)`, job table
    untouched, the job not recorded as finished. -/
theorem signalling_first_operand_ends_builtin (run : TSys → TSys) (hrun : ∀ x, BSteps (parentTurn x) (run x))
    (jobs : List Nat) (t : TSys) (pid : Nat) (rest : List (Option Nat)) (hi : pid ∈ jobs) {σ : Nat}
    (hw : Waiting (parentTurn (t.next pid)) σ) (hpc : (parentTurn (t.next pid)).sys.pc = .await)
    (hend : (run (t.next pid)).out ≠ none) :
    tawaitJobs run jobs t (some pid :: rest) = (jobs, run (t.next pid), .trapped σ []) ∧
      jobDone (run (t.next pid)).sys.log (parentTurn (t.next pid)).job = none := by
  cases ho : (run (t.next pid)).out with
  | none => exact absurd ho hend
  | some o =>
    obtain ⟨h1, h2⟩ := signal_then_exit_is_trapped_under_executor hw hpc (hrun _) ho
    subst h1
    refine ⟨?_, h2⟩
    simp [tawaitJobs, hi, ho]

/-- ★ `wait` without operands while trapped signals arrive (`wait_while_running(any_job_is_running)`), for every job
    table, every bound on the iterations and every scheduler: `Ok` ⇒ exit status 0 and an empty table; `Trapped(σ)`
    ⇒ σ has a trap action, exit status 384 + σ, the table is not empty, and NO JOB IS FORGOTTEN: every job of the
    original table is still in the table, or its final state has been recorded (this `wait` has consumed it, as a
    `wait` without operands does); nothing is in the table that was not there; recorded states are true ones
    (`TInv`). -/
theorem wait_all_trapped_sound (run : TSys → TSys) (hrun : ∀ x, TSteps x (run x)) (k : Nat) (jobs : List Nat)
    (t : TSys) (h : TInv t) :
    let res := tawaitAll run k jobs t
    TInv res.2.1 ∧ (∀ j, j ∈ res.1 → j ∈ jobs) ∧
    (∀ j, j ∈ jobs → j ∈ res.1 ∨ (jobDone res.2.1.sys.log j).isSome = true) ∧
    (∀ sts, res.2.2 = .done sts → res.2.2.status = EXIT_SUCCESS ∧ res.1 = []) ∧
    (∀ σ sts, res.2.2 = .trapped σ sts →
      σ ∈ t.traps ∧ res.2.2.status = Spec.waitInterrupted σ ∧ sts = [] ∧ res.1 ≠ []) := by
  intro res
  have hs := tawaitAll_sound run hrun k jobs t h
  refine ⟨hs.inv, hs.sub, hs.kept, ?_, ?_⟩
  · intro sts hres
    obtain ⟨h1, h2⟩ := hs.ofDone sts hres
    refine ⟨?_, h2⟩
    show res.2.2.status = _
    rw [hres, h1]; rfl
  · intro σ sts hres
    obtain ⟨h1, h2, h3⟩ := hs.ofTrapped σ sts hres
    refine ⟨h1, ?_, h2, h3⟩
    show res.2.2.status = _
    rw [hres]; exact (trapped_status σ sts).1

/-- ★ A trap on SIGCHLD itself (`trap … CHLD; cmd & wait $!`): the shell blocked in `wait` for its only live child,
    SIGCHLD having a trap action.  Under every schedule the child's exit interrupts the built-in: `Trapped(SIGCHLD)`
    (exit status 384 + SIGCHLD), and the child's state has NOT been handed out — the job is still there for the next
    `wait`, which yields its status.  (XCU 2.12 makes no exception for SIGCHLD.) -/
theorem chld_trap_interrupts_wait {t u : TSys} {o : TrapOut} (h : SoleChld t) (hu : TSteps t u)
    (ho : u.out = some o) : o = .trapped SIGCHLD_NO ∧ u.sys.log = t.sys.log :=
  phase_out (fun _ h => SoleChld.out h) (sole_chld_steps hu h) ho

/-- the start state for `trap … CHLD; cmd & wait $!` after the shell's first burst (`pc`, `out`, `disp` of `SoleChld`),
    and its run for the choices tried -/
example :
    let t := parentTurn (TSys.start { children := [{ state := .running 1 (.exited 3) }] } 0 [SIGCHLD_NO] [])
    t.sys.pc = .await ∧ t.out = none ∧ t.sys.disp = .catch ∧
      (trun 100 [0, 0, 0, 0] t).out = some (.trapped SIGCHLD_NO) ∧ (trun 100 [0, 0, 0, 0] t).sys.log = [] := by
  decide

/-- two operands, the first job finishes, the second sends a trapped signal: `Trapped` after one status; and a bare
    `wait` interrupted with one job recorded and one still in the table -/
example :
    let s : Sys := { children := [{ state := .running 0 (.exited 5) }, { state := .running 1 (.exited 3) }] }
    let t0 : TSys := { sys := s, job := 0, traps := [6], senders := [(1, 6)], out := some .nothing }
    let run := fun x => trun 200 [0, 1, 2, 0, 1] (parentTurn x)
    (tawaitJobs run [0, 1] t0 [some 0, none, some 1, some 0]).2.2 = .trapped 6 [5, 127] ∧
    (tawaitJobs run [0, 1] t0 [some 0, none, some 1, some 0]).1 = [1] ∧
    (tawaitAll run 10 [0, 1] t0).2.2 = .trapped 6 [] ∧ (tawaitAll run 10 [0, 1] t0).1 = [1] := by
  decide

/-- ★ Sys-level glue: what the driver runs for `ts SIG N` once the job is forked — `Command::await_jobs` over the one
    operand `$!` (`trapWaitRun` = `tawaitJobs` with the driver's scheduler) from ANY `Inv` state, the new child at the end
    of the process table being in the job table: the outcome is `Trapped(σ)` with no operand finished, the job table
    untouched, the shell between two commands, the job not recorded as finished — or the driver's fuel ran out; the
    resulting state satisfies `TInv` either way. -/
theorem trapWaitRun_trapped {s0 : Sys} (hI : Inv s0) (digits : List Nat) (runs f n σ : Nat) (active : List Nat)
    (hσ : σ ≠ SIGCHLD_NO) (hmem : s0.children.length ∈ active) :
    let res := trapWaitRun digits runs { s0 with children := s0.children ++ [{ state := .running f (.exited n) }] }
      active s0.children.length σ
    TInv res.2.1 ∧
    ((res.2.2 = .trapped σ [] ∧ res.1 = active ∧ res.2.1.sys.pc = .done ∧
        jobDone res.2.1.sys.log s0.children.length = none) ∨ res.2.2 = .failed []) := by
  intro res
  obtain ⟨_, hout⟩ := ts_driver_trapped_any_children hI f n σ 100000 (mkChoices digits runs) hσ
  -- `u`: where the driver's scheduler leaves the built-in, started on the forked job after the shell's first turn
  obtain ⟨u, hu⟩ : ∃ u, u = trun 100000 (mkChoices digits runs) (parentTurn (TSys.start
      { s0 with children := s0.children ++ [{ state := .running f (.exited n) }] }
      s0.children.length [σ] [(s0.children.length, σ)])) := ⟨_, rfl⟩
  have hrunI : TInv u := by
    rw [hu]
    exact tinv_steps (TSteps.trans (parentTurn_tsteps _) (trun_tsteps _ _ _)) (tinv_start (inv_fork hI f (.exited n)) _ _ _)
  have hres : res = (match u.out with
      | some (.finished _ r) => (active.erase s0.children.length, u, OpsOut.done [r.status])
      | some (.trapped σ') => (active, u, .trapped σ' [])
      | _ => (active, u, .failed [])) := by
    have hn := next_eq_start
      { sys := { s0 with children := s0.children ++ [{ state := .running f (.exited n) }] },
        job := s0.children.length, traps := [σ], senders := [(s0.children.length, σ)], out := some .nothing }
      s0.children.length rfl rfl
    rw [hu, ← hn]
    exact tawaitJobs_one _ _ hmem
  rw [← hu] at hout
  cases ho : u.out with
  | none => rw [hres, ho]; exact ⟨hrunI, .inr rfl⟩
  | some o =>
    obtain ⟨rfl, h2⟩ := hout o ho
    rw [hres, ho]
    -- the built-in has ended: the shell is between two commands
    have hpc : u.sys.pc = .done := Classical.byContradiction fun hne => by
      rw [hrunI.out_done.mpr hne] at ho; cases ho
    exact ⟨hrunI, .inl ⟨rfl, rfl, hpc, h2⟩⟩

/-- ★ The `St`-level glue around `ts_driver_trapped_any_children`: for EVERY interpreter state of the model column whose
    process table satisfies `Inv` — whatever jobs, whatever earlier statements — the statement `ts SIG N` (also `tsn`,
    `tsr`, and, after `St.wake`, `tw`: `St.trapWait [sig] n [] false`) computes the exit status `Spec.waitInterrupted`
    (what the spec column prints: 384 + SIG), keeps the new job in the job table (the next `wait` for it yields its
    status, not 127), and leaves a process table that again satisfies `Inv` with the shell between two commands —
    so the statement may be followed by anything, itself included; or the driver's fuel ran out (status 998, which
    the run would show as a disagreement).  Nothing is assumed about `St.newJob`: the new child, its pid and the start
    state of the built-in are computed from the definitions (`trapWait_uses_run`). -/
theorem trapWait_status_end_to_end (st : St) (sig : String) (n : Nat) (hu : st.useSys = true)
    (hI : Inv st.sys) (hσ : sigNo sig ≠ SIGCHLD_NO) (hchld : (sig != "CHLD") = true) :
    let st' := st.trapWait [sig] n [] false
    Inv st'.sys ∧
    ((st'.status = Spec.waitInterrupted (sigNo sig) ∧ st.sys.children.length ∈ st'.active ∧ st'.sys.pc = .done) ∨
      st'.status = 998) := by
  intro st'
  obtain ⟨h1, h2, h3⟩ := trapWait_uses_run st sig n hu hchld
  have key := trapWaitRun_trapped hI st.digits st.runs (fuelOf st.digits st.sys.children.length) (exitStatusSeen n)
    (sigNo sig) (st.active ++ [st.sys.children.length]) hσ (by simp)
  simp only at key
  obtain ⟨hT, hor⟩ := key
  refine ⟨by show Inv (st.trapWait [sig] n [] false).sys; rw [h1]; exact hT.inv, ?_⟩
  rcases hor with ⟨ho, hact, hpc, _⟩ | ho
  · left
    refine ⟨?_, ?_, ?_⟩
    · show (st.trapWait [sig] n [] false).status = _
      rw [h3, ho]; exact (trapped_status _ []).1
    · show _ ∈ (st.trapWait [sig] n [] false).active
      rw [h2, hact]; simp
    · show (st.trapWait [sig] n [] false).sys.pc = _
      rw [h1]; exact hpc
  · right
    show (st.trapWait [sig] n [] false).status = _
    rw [h3, ho]; rfl

example : sigNo "USR1" ≠ SIGCHLD_NO ∧ sigNo "CHLD" = SIGCHLD_NO := by decide

end WaitTrap

/-- ★ Zombie / job accounting at a command boundary (`Env::update_all_subshell_statuses` has just finished: the reap
    loop of the shell ends, `reap → done`), for every number of children, every behaviour, every schedule leading
    there (`Inv` is all that is used): NO child holds an unreported state — a terminated child has been reaped, no
    zombie outlives the command during which it ended —, and for every child the state recorded for its job (the
    `log` entry every `system.wait` result is passed to `JobList::update_status` as) IS the state of the process:
    alive ⇔ nothing recorded, terminated with `r` ⇔ exactly one record, and that record is `r`.  The run evaluates the
    same statement on the real process table and the real job list after every command (`jcheck`: `FAIL:jobs(…)`). -/
theorem command_boundary_accounting {s s' : Sys} (h : Inv s) (hpc : s.pc = .reap)
    (hs : parentStep s = some s') (hd : s'.pc = .done) :
    ∀ (i : Nat) (c : Child), s'.children[i]? = some c →
      c.changed = false ∧
      ((c.state.isAlive = true ∧ logCount s'.log i = 0) ∨
       (∃ r, c.state = .halted r ∧ (i, r) ∈ s'.log ∧ logCount s'.log i = 1)) := by
  have hI' : Inv s' := inv_parent h hs
  -- the reap loop ends when `wait(-1)` has nothing to hand out: nobody is flagged
  have hch : ∀ (i : Nat) (c : Child), s'.children[i]? = some c → c.changed = false := by
    rcases (parentStep_iff.mp hs).of_reap hpc with ⟨_, _, _, rfl⟩ | ⟨hw, rfl⟩
    · rw [hpc] at hd; cases hd
    · intro i c hc
      rcases hw with hw | hw
      · exact (sysWait_none hw).2 i c hc trivial
      · exact ((wait_any_echild_iff _).mp hw i c hc).1
  intro i c hc
  refine ⟨hch i c hc, ?_⟩
  have honce := hI'.once i
  have hre : reaped s'.children i = !c.state.isAlive := by rw [reaped_self hc, hch i c hc]; simp
  rw [hre] at honce
  cases hal : c.state.isAlive with
  | true => exact .inl ⟨rfl, by rw [honce, hal]; rfl⟩
  | false =>
    -- reaped, hence logged: with its final state
    obtain ⟨r, hr⟩ := PState.not_alive_iff.mp hal
    obtain ⟨r', hm⟩ := (hI'.reaped_iff_logged i).mp (by rw [hre, hal]; rfl)
    obtain ⟨c', hc', hst'⟩ := hI'.logged i r' hm
    cases hc.symm.trans hc'
    cases hr.symm.trans hst'
    exact .inr ⟨r, hr, hm, by rw [honce, hal]; rfl⟩

end YashModel.Proc
