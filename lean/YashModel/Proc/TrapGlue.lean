/-
  C13 — lemmas connecting the interpreter of the run (`Prog.lean`, `St.trapWait`) to the `wait`/trap model
  (`WaitTrap.lean`): `fork` keeps the invariant, `St.trapWait` is `trapWaitRun` on the state `St.newJob` produces.
-/
import YashModel.Proc.TrapRace
import YashModel.Proc.TrapOps
import YashModel.Proc.Prog
namespace YashModel.Proc
open YashModel.Generated.ProcConsts (SIGNAL_EXIT_OFFSET EXIT_SUCCESS)

/-- what `St.trapWait [sig] n [] false` runs in the model column once `St.newJob` has forked the job: the operand
    loop over the one operand `$!`, started between two commands -/
def trapWaitRun (digits : List Nat) (runs : Nat) (s : Sys) (active : List Nat) (pid σ : Nat) :
    List Nat × TSys × OpsOut :=
  tawaitJobs (fun x => trun 100000 (mkChoices digits runs) (parentTurn x)) active
    { sys := s, job := pid, traps := [σ], senders := [(pid, σ)], out := some .nothing } [some pid]

/-- the status the driver prints for an outcome of the built-in (the function `OpsOut.status`: `EXIT_SUCCESS` is 0) -/
def opsStatus : OpsOut → Nat
  | .trapped σ _ => σ + SIGNAL_EXIT_OFFSET
  | .done sts => sts.getLast?.getD 0
  | .failed _ => 998

/-- exit status of the whole built-in: the last operand's status; `ExitStatus::from(signal)` = signal + 0x180
    (384 + n, not 128 + n) when a trap interrupted it -/
def OpsOut.status : OpsOut → Nat
  | .done sts => sts.getLast?.getD EXIT_SUCCESS
  | .trapped σ _ => σ + SIGNAL_EXIT_OFFSET
  | .failed _ => 998

theorem trapped_status (σ : Nat) (sts : List Nat) :
    (OpsOut.trapped σ sts).status = Spec.waitInterrupted σ ∧ 128 < Spec.waitInterrupted σ := by
  simp only [OpsOut.status, Spec.waitInterrupted, SIGNAL_EXIT_OFFSET]; omega

theorem inv_fork {s : Sys} (h : Inv s) (f : Nat) (r : Result) :
    Inv { s with children := s.children ++ [{ state := .running f r }] } := by
  refine h.of_children _ fun i => ?_
  rcases Nat.lt_or_ge i s.children.length with hi | hi
  · exact .inl (List.getElem?_append_left hi)
  · by_cases he : i = s.children.length
    · subst he
      exact .inr ⟨fun c hc => by simp at hc, { state := .running f r }, by simp, rfl, rfl⟩
    · left
      rw [List.getElem?_eq_none hi, List.getElem?_eq_none (by simp; omega)]

/-- `St.trapWait` in the model column IS `trapWaitRun` on the state `St.newJob` produces (new child at the end of the
    process table with pid = its index, appended to the job table) — by unfolding the interpreter -/
theorem trapWait_uses_run (st : St) (sig : String) (n : Nat) (hu : st.useSys = true)
    (hchld : (sig != "CHLD") = true) :
    let res := trapWaitRun st.digits st.runs
      { st.sys with children := st.sys.children ++
          [{ state := .running (fuelOf st.digits st.sys.children.length) (.exited (exitStatusSeen n)) }] }
      (st.active ++ [st.sys.children.length]) st.sys.children.length (sigNo sig)
    (st.trapWait [sig] n [] false).sys = res.2.1.sys ∧ (st.trapWait [sig] n [] false).active = res.1 ∧
    (st.trapWait [sig] n [] false).status = opsStatus res.2.2 := by
  intro res
  have hgl : ((st.jobs ++ [(st.nasync + 1, st.sys.children.length, exitStatusSeen n)]).getLast?.map (·.2.1)).getD 0 =
      st.sys.children.length := by simp
  have hres : res = trapWaitRun st.digits st.runs
      { st.sys with children := st.sys.children ++
          [{ state := .running (fuelOf st.digits st.sys.children.length) (.exited (exitStatusSeen n)) }] }
      (st.active ++ [st.sys.children.length]) st.sys.children.length (sigNo sig) := rfl
  simp only [St.trapWait, hu, if_true, St.newJob, St.fork, mkChildren, hgl, List.filter, hchld, List.map,
    Bool.false_eq_true, if_false, List.mapM_nil, Option.pure_def, Option.getD_some]
  simp only [trapWaitRun] at hres
  rw [← hres]
  cases res.2.2 <;> exact ⟨rfl, rfl, rfl⟩

end YashModel.Proc
