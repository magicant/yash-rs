/-
  C13 — the simulated `wait` (`sysWait`, `take`): what each answer means; the weight of the children under `set` and
  `take`.
-/
import YashModel.Proc.Measure
import YashModel.Proc.Lists
namespace YashModel.Proc

theorem Sys.final_iff {s : Sys} : s.final = true ↔ s.pc = .done ∧ s.todo = [] := by
  simp [Sys.final]

theorem PState.alive_iff {st : PState} : st.isAlive = true ↔ ∃ f r, st = .running f r := by
  cases st <;> simp [PState.isAlive]

theorem PState.not_alive_iff {st : PState} : st.isAlive = false ↔ ∃ r, st = .halted r := by
  cases st <;> simp [PState.isAlive]

/-- the first index at which `p` holds, for a search `f` given by its two equations (`firstChanged`, `firstAlive`) -/
theorem first_spec (p : Child → Bool) (f : List Child → Option Nat) (hnil : f [] = none)
    (hcons : ∀ c t, f (c :: t) = if p c then some 0 else (f t).map (· + 1)) (cs : List Child) :
    (∀ i, f cs = some i → ∃ c, cs[i]? = some c ∧ p c = true) ∧
    (f cs = none → ∀ (i : Nat) (c : Child), cs[i]? = some c → p c = false) := by
  induction cs with
  | nil =>
    refine ⟨fun i h => ?_, fun _ i c hc => ?_⟩
    · rw [hnil] at h; cases h
    · simp at hc
  | cons c t ih =>
    rw [hcons]
    by_cases hc : p c = true
    · rw [if_pos hc]
      refine ⟨fun i h => ?_, nofun⟩
      cases h; exact ⟨c, rfl, hc⟩
    · rw [if_neg hc]
      refine ⟨fun i h => ?_, fun h i c' hi => ?_⟩
      · obtain ⟨j, hj, rfl⟩ := Option.map_eq_some_iff.mp h
        obtain ⟨c', h1, h2⟩ := ih.1 j hj
        exact ⟨c', by simpa using h1, h2⟩
      · have hn : f t = none := by simpa using h
        cases i with
        | zero => simp at hi; subst hi; simpa using hc
        | succ j => exact ih.2 hn j c' (by simpa using hi)

theorem firstChanged_some {cs : List Child} {i : Nat} (h : firstChanged cs = some i) :
    ∃ c, cs[i]? = some c ∧ c.changed = true :=
  (first_spec (·.changed) firstChanged rfl (fun _ _ => rfl) cs).1 i h

theorem firstChanged_none {cs : List Child} (h : firstChanged cs = none) :
    ∀ (i : Nat) (c : Child), cs[i]? = some c → c.changed = false :=
  (first_spec (·.changed) firstChanged rfl (fun _ _ => rfl) cs).2 h

theorem firstAlive_some {cs : List Child} {i : Nat} (h : firstAlive cs = some i) :
    ∃ c, cs[i]? = some c ∧ c.state.isAlive = true :=
  (first_spec (·.state.isAlive) firstAlive rfl (fun _ _ => rfl) cs).1 i h

theorem firstAlive_none {cs : List Child} (h : firstAlive cs = none) :
    ∀ (i : Nat) (c : Child), cs[i]? = some c → c.state.isAlive = false :=
  (first_spec (·.state.isAlive) firstAlive rfl (fun _ _ => rfl) cs).2 h

/-- `wait` looks at one child, the one `child_to_wait_for` selects -/
theorem sysWait_of_child {cs : List Child} {t : Target} {i : Nat} {c : Child} (h : childToWaitFor cs t = some i)
    (hc : cs[i]? = some c) :
    sysWait cs t = if c.changed then .state i c.state else if c.state.isAlive then .none else .echild := by
  simp only [sysWait, h, hc]

theorem sysWait_cases (cs : List Child) (t : Target) :
    (∃ (i : Nat) (c : Child), cs[i]? = some c ∧ t.matches i ∧ c.changed = true ∧ sysWait cs t = .state i c.state) ∨
    ((∀ (j : Nat) (c : Child), cs[j]? = some c → t.matches j → c.changed = false) ∧
      (∃ (i : Nat) (c : Child), cs[i]? = some c ∧ t.matches i ∧ c.state.isAlive = true) ∧ sysWait cs t = .none) ∨
    ((∀ (j : Nat) (c : Child), cs[j]? = some c → t.matches j → c.changed = false ∧ c.state.isAlive = false) ∧
      sysWait cs t = .echild) := by
  cases t with
  | any =>
    cases hfc : firstChanged cs with
    | some k =>
      obtain ⟨c, h1, h2⟩ := firstChanged_some hfc
      exact .inl ⟨k, c, h1, trivial, h2, by rw [sysWait_of_child (by simp only [childToWaitFor, hfc]) h1, if_pos h2]⟩
    | none =>
      have hno := firstChanged_none hfc
      cases hfa : firstAlive cs with
      | some k =>
        obtain ⟨c, h1, h2⟩ := firstAlive_some hfa
        refine .inr (.inl ⟨fun j c hc _ => hno j c hc, ⟨k, c, h1, trivial, h2⟩, ?_⟩)
        rw [sysWait_of_child (by simp only [childToWaitFor, hfc, hfa]) h1, if_neg (by simp [hno k c h1]), if_pos h2]
      | none =>
        have hdead := firstAlive_none hfa
        refine .inr (.inr ⟨fun j c hc _ => ⟨hno j c hc, hdead j c hc⟩, ?_⟩)
        -- nobody left, or only children that have been waited for: the first of them is looked at
        cases cs with
        | nil => simp [sysWait, childToWaitFor, firstChanged, firstAlive]
        | cons c t =>
          rw [sysWait_of_child (c := c) (i := 0) (by simp [childToWaitFor, hfc, hfa]) rfl,
            if_neg (by simp [hno 0 c rfl]), if_neg (by simp [hdead 0 c rfl])]
  | pid k =>
    rcases Nat.lt_or_ge k cs.length with hk | hk
    · have hc := List.getElem?_eq_getElem hk
      have e := sysWait_of_child (t := .pid k) (by simp only [childToWaitFor, hk, if_true]) hc
      have only : ∀ (j : Nat) (c : Child), cs[j]? = some c → (Target.pid k).matches j → c = cs[k] := fun j c hj hm => by
        cases (hm : j = k); exact Option.some.inj (hj.symm.trans hc)
      by_cases hch : cs[k].changed = true
      · exact .inl ⟨k, _, hc, rfl, hch, by rw [e, if_pos hch]⟩
      · by_cases hal : cs[k].state.isAlive = true
        · exact .inr (.inl ⟨fun j c hj hm => by rw [only j c hj hm]; simpa using hch, ⟨k, _, hc, rfl, hal⟩,
            by rw [e, if_neg hch, if_pos hal]⟩)
        · exact .inr (.inr ⟨fun j c hj hm => by rw [only j c hj hm]; exact ⟨by simpa using hch, by simpa using hal⟩,
            by rw [e, if_neg hch, if_neg hal]⟩)
    · exact .inr (.inr ⟨fun j c hj hm => by cases (hm : j = k); have := lt_of_get hj; omega,
        by simp only [sysWait, childToWaitFor, Nat.not_lt.mpr hk, if_false]⟩)

theorem sysWait_state {cs : List Child} {t : Target} {i : Nat} {st : PState}
    (h : sysWait cs t = .state i st) :
    ∃ c, cs[i]? = some c ∧ c.changed = true ∧ c.state = st ∧ t.matches i := by
  rcases sysWait_cases cs t with ⟨j, c, hc, hm, hch, e⟩ | ⟨_, _, e⟩ | ⟨_, e⟩ <;> rw [e] at h <;> cases h
  exact ⟨c, hc, hch, rfl, hm⟩

theorem sysWait_none {cs : List Child} {t : Target} (h : sysWait cs t = .none) :
    (∃ i c, cs[i]? = some c ∧ t.matches i ∧ c.state.isAlive = true) ∧
    (∀ (i : Nat) (c : Child), cs[i]? = some c → t.matches i → c.changed = false) := by
  rcases sysWait_cases cs t with ⟨_, _, _, _, _, e⟩ | ⟨hno, hal, _⟩ | ⟨_, e⟩
  · rw [e] at h; cases h
  · exact ⟨hal, hno⟩
  · rw [e] at h; cases h

theorem sysWait_echild_iff (cs : List Child) (t : Target) :
    sysWait cs t = .echild ↔
      ∀ (i : Nat) (c : Child), cs[i]? = some c → t.matches i → c.changed = false ∧ c.state.isAlive = false := by
  rcases sysWait_cases cs t with ⟨i, c, hc, hm, hch, e⟩ | ⟨_, ⟨i, c, hc, hm, hal⟩, e⟩ | ⟨hall, e⟩
  · refine ⟨fun h => ?_, fun h => ?_⟩
    · rw [e] at h; cases h
    · rw [(h i c hc hm).1] at hch; cases hch
  · refine ⟨fun h => ?_, fun h => ?_⟩
    · rw [e] at h; cases h
    · rw [(h i c hc hm).2] at hal; cases hal
  · exact ⟨fun _ => hall, fun _ => e⟩

/-- `wait(-1)` answers ECHILD exactly when no child is alive and none holds an unreported state (yash-rs
    before d05a7cb looked at the last child only: `st 3 & ( exit 4 ); wait $!` under the schedule "subshell first,
    then the parent" got ECHILD) -/
theorem wait_any_echild_iff (cs : List Child) :
    sysWait cs .any = .echild ↔
      ∀ (i : Nat) (c : Child), cs[i]? = some c → c.changed = false ∧ c.state.isAlive = false :=
  (sysWait_echild_iff cs .any).trans ⟨fun h i c hc => h i c hc trivial, fun h i c hc _ => h i c hc⟩

theorem sysWait_pid_unknown {cs : List Child} {k : Nat} (h : cs.length ≤ k) :
    sysWait cs (.pid k) = .echild :=
  (sysWait_echild_iff cs (.pid k)).mpr fun i c hc hm => by cases (hm : i = k); have := lt_of_get hc; omega

theorem take_eq_set {cs : List Child} {i : Nat} {c : Child} (h : cs[i]? = some c) :
    take cs i = cs.set i { c with changed := false } := by
  unfold take; rw [h]

theorem take_get {cs : List Child} {i : Nat} {c : Child} (h : cs[i]? = some c) (j : Nat) :
    (take cs i)[j]? = if j = i then some { c with changed := false } else cs[j]? := by
  rw [take_eq_set h]; exact get_set h _ j

theorem reaped_set_other {cs : List Child} {i j : Nat} {c c' : Child} (h : cs[i]? = some c)
    (hj : j ≠ i) : reaped (cs.set i c') j = reaped cs j := by
  unfold reaped; rw [get_set h c' j]; simp [hj]

theorem reaped_set_self {cs : List Child} {i : Nat} {c c' : Child} (h : cs[i]? = some c) :
    reaped (cs.set i c') i = (!c'.state.isAlive && !c'.changed) := by
  unfold reaped; rw [get_set h c' i]; simp

theorem reaped_self {cs : List Child} {i : Nat} {c : Child} (h : cs[i]? = some c) :
    reaped cs i = (!c.state.isAlive && !c.changed) := by
  unfold reaped; rw [h]

theorem reaped_halted {cs : List Child} {i : Nat} (h : reaped cs i = true) :
    ∃ c r, cs[i]? = some c ∧ c.state = .halted r := by
  unfold reaped at h
  cases hc : cs[i]? with
  | none => rw [hc] at h; cases h
  | some c =>
    rw [hc] at h
    have hd : c.state.isAlive = false := by simp at h; exact h.1
    obtain ⟨r, hs⟩ := PState.not_alive_iff.mp hd
    exact ⟨c, r, rfl, hs⟩

theorem reaped_take_eq {cs : List Child} {j : Nat} {c : Child} (hc : cs[j]? = some c) (i : Nat) :
    reaped (take cs j) i = if i = j then !c.state.isAlive else reaped cs i := by
  rw [take_eq_set hc]
  by_cases hij : i = j
  · subst hij; rw [reaped_set_self hc, if_pos rfl]; simp
  · rw [reaped_set_other hc hij, if_neg hij]

theorem reaped_take {cs : List Child} {i : Nat} (j : Nat) (h : reaped cs i = true) :
    reaped (take cs j) i = true := by
  cases hc : cs[j]? with
  | none => unfold take; rw [hc]; exact h
  | some c =>
    rw [reaped_take_eq hc]
    split
    · next e => subst e; rw [reaped_self hc] at h; simp at h ⊢; exact h.1
    · exact h

theorem reaped_take_rev {cs : List Child} {i j : Nat} (h : reaped (take cs j) i = true) (hij : i ≠ j) :
    reaped cs i = true := by
  cases hc : cs[j]? with
  | none => unfold take at h; rw [hc] at h; exact h
  | some c => rwa [reaped_take_eq hc, if_neg hij] at h

theorem length_take (cs : List Child) (i : Nat) : (take cs i).length = cs.length := by
  unfold take; split <;> simp

theorem sysWait_pid_echild_iff {cs : List Child} {k : Nat} (hk : k < cs.length) :
    sysWait cs (.pid k) = .echild ↔ reaped cs k = true := by
  have hc := List.getElem?_eq_getElem hk
  rw [sysWait_echild_iff, reaped_self hc]
  refine ⟨fun h => by simp [h k _ hc rfl], fun h i c hi hm => ?_⟩
  cases (hm : i = k); cases hc.symm.trans hi; simpa [and_comm] using h

theorem sysWait_pid_reaped {cs : List Child} {k : Nat} (h : reaped cs k = true) :
    sysWait cs (.pid k) = .echild := by
  obtain ⟨c, _, hc, _⟩ := reaped_halted h
  exact (sysWait_pid_echild_iff (lt_of_get hc)).mpr h

theorem childrenW_set {cs : List Child} {i : Nat} {c : Child} (h : cs[i]? = some c) (c' : Child) :
    childrenW (cs.set i c') + childW c = childrenW cs + childW c' := by
  induction cs generalizing i with
  | nil => simp at h
  | cons a t ih =>
    cases i with
    | zero =>
      simp at h; subst h
      simp only [List.set_cons_zero, childrenW]; omega
    | succ j =>
      have h' : t[j]? = some c := by simpa using h
      have := ih h'
      simp only [List.set_cons_succ, childrenW]; omega

theorem childrenW_take {cs : List Child} {t : Target} {i : Nat} {st : PState}
    (hw : sysWait cs t = .state i st) : childrenW (take cs i) + 2 = childrenW cs := by
  obtain ⟨c, h, hc, _⟩ := sysWait_state hw
  have := childrenW_set h { c with changed := false }
  rw [take_eq_set h]
  simp only [childW, hc] at this
  simp at this
  omega

end YashModel.Proc
