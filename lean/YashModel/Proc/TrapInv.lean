/-
  C13 — the `wait` built-in waiting for one job while trapped signals arrive (`WaitTrap.lean`): what a step of the
  shell, of a child and of a sender is; the invariant `TInv`; every step lowers `tmeasure`; no deadlock.
-/
import YashModel.Proc.Invariant
import YashModel.Proc.WaitTrap
namespace YashModel.Proc

/-- `TSteps t u`: some scheduler leads from `t` to `u` (any finite sequence of enabled steps of the shell, of a
    child, or of a sender) -/
inductive TSteps : TSys → TSys → Prop where
  | refl (t : TSys) : TSteps t t
  | tail {t u v : TSys} (l : TLabel) : TSteps t u → tstep u l = some v → TSteps t v

theorem TSteps.trans {s t u : TSys} (h1 : TSteps s t) (h2 : TSteps t u) : TSteps s u := by
  induction h2 with
  | refl => exact h1
  | tail l _ hs ih => exact .tail l ih hs

/-- the invariant of the `wait`-with-traps system: `Inv` of the process table; the built-in waits for any child and is
    never in the reap loop; only trapped signals are pending; `out` is set exactly when the built-in has ended, and what
    it says is true (a `finished` result is the job's logged state, a `trapped` signal has a trap action); while it
    runs the awaited job is not recorded as finished -/
structure TInv (t : TSys) : Prop where
  inv : Inv t.sys
  target : t.sys.target = .any
  notReap : t.sys.pc ≠ .reap
  pend : ∀ σ, σ ∈ t.sigPending → σ ∈ t.traps
  out_done : t.out = none ↔ t.sys.pc ≠ .done
  job_open : t.out = none → t.single = false → jobDone t.sys.log t.job = none
  fin_ok : ∀ i r, t.out = some (.finished i r) → i = t.job ∧ (i, r) ∈ t.sys.log
  trap_ok : ∀ σ, t.out = some (.trapped σ) → σ ∈ t.traps

theorem jobDone_mem {log : List (Nat × Result)} {j : Nat} {r : Result} (h : jobDone log j = some r) :
    (j, r) ∈ log := by
  unfold jobDone at h
  cases hf : log.find? (fun e => e.1 == j) with
  | none => simp [hf] at h
  | some e =>
    simp [hf] at h
    have h1 := List.find?_some hf
    have h2 := List.mem_of_find?_eq_some hf
    simp at h1
    obtain ⟨a, b⟩ := e
    simp at h1 h; subst h1; subst h; exact h2

theorem firstTrapped_mem {traps sigs : List Nat} {σ : Nat} (h : firstTrapped traps sigs = some σ) :
    σ ∈ traps ∧ σ ∈ sigs := by
  unfold firstTrapped at h
  have h1 := List.find?_some h
  have h2 := List.mem_of_find?_eq_some h
  simp at h1
  exact ⟨h1, h2⟩

theorem noteChld_mem {t : TSys} {s : Sys} {x : Nat} (h : x ∈ noteChld t s) :
    x ∈ t.sigPending ∨ (x = SIGCHLD_NO ∧ SIGCHLD_NO ∈ t.traps) := by
  unfold noteChld at h
  split at h
  · rename_i hc
    simp at hc
    simp at h
    rcases h with h | h
    · exact Or.inl h
    · exact Or.inr ⟨h, hc.1.2⟩
  · exact Or.inl h

theorem noteChld_same {t : TSys} {s : Sys} (h : s.pending = t.sys.pending) : noteChld t s = t.sigPending := by
  unfold noteChld
  cases hp : t.sys.pending <;> simp [h, hp]

theorem noteChld_length (t : TSys) (s : Sys) : (noteChld t s).length ≤ t.sigPending.length + 1 := by
  unfold noteChld; split <;> simp

theorem noteChld_prefix (t : TSys) (s : Sys) : ∃ l, noteChld t s = t.sigPending ++ l := by
  unfold noteChld; split
  · exact ⟨_, rfl⟩
  · exact ⟨[], by simp⟩

inductive TParentStep (t : TSys) : TSys → Prop where
  | enable : t.out = none → t.sys.pc = .enable →
      TParentStep t { t with sys := { t.sys with disp := .catch, pc := .poll } }
  | changed {i : Nat} {st : PState} : t.out = none → t.sys.pc = .poll → sysWait t.sys.children .any = .state i st →
      t.single = true →
      TParentStep t { t with sys := { t.sys with children := take t.sys.children i, log := logOf i st ++ t.sys.log,
                                                 pc := .done }, out := some (.changed i) }
  | finished {i : Nat} {st : PState} {r : Result} : t.out = none → t.sys.pc = .poll →
      sysWait t.sys.children .any = .state i st → t.single = false →
      jobDone (logOf i st ++ t.sys.log) t.job = some r →
      TParentStep t { t with sys := { t.sys with children := take t.sys.children i, log := logOf i st ++ t.sys.log,
                                                 pc := .done }, out := some (.finished t.job r) }
  | other {i : Nat} {st : PState} : t.out = none → t.sys.pc = .poll →
      sysWait t.sys.children .any = .state i st → t.single = false →
      jobDone (logOf i st ++ t.sys.log) t.job = none →
      TParentStep t { t with sys := { t.sys with children := take t.sys.children i, log := logOf i st ++ t.sys.log,
                                                 pc := .enable } }
  | block : t.out = none → t.sys.pc = .poll → sysWait t.sys.children .any = .none →
      TParentStep t { t with sys := { t.sys with pc := .await } }
  | nothing : t.out = none → t.sys.pc = .poll → sysWait t.sys.children .any = .echild →
      TParentStep t { t with sys := { t.sys with pc := .done }, out := some .nothing }
  | trapped {σ : Nat} : t.out = none → t.sys.pc = .await → (t.sys.pending || !t.sigPending.isEmpty) = true →
      firstTrapped t.traps t.sigPending = some σ →
      TParentStep t { t with sys := { t.sys with pending := false, pc := .done }, sigPending := [],
                             flags := (t.flags ++ t.sigPending).erase σ, out := some (.trapped σ) }
  | wake : t.out = none → t.sys.pc = .await → (t.sys.pending || !t.sigPending.isEmpty) = true →
      firstTrapped t.traps t.sigPending = none →
      TParentStep t { t with sys := { t.sys with pending := false, pc := .poll }, sigPending := [],
                             flags := t.flags ++ t.sigPending }

theorem tparentStep_iff {t t' : TSys} : tparentStep t = some t' ↔ TParentStep t t' := by
  constructor
  · intro hs
    unfold tparentStep at hs
    cases hout : t.out with
    | some o => simp only [hout] at hs; cases hs
    | none =>
      simp only [hout] at hs
      cases hpc : t.sys.pc <;> simp only [hpc] at hs
      · cases hs; (have key := TParentStep.enable hout hpc; rwa [hout] at key)
      · cases hw : sysWait t.sys.children .any with
        | state i st =>
          simp only [hw] at hs
          by_cases hsg : t.single = true
          · rw [if_pos hsg] at hs; cases hs; exact .changed hout hpc hw hsg
          · rw [if_neg hsg] at hs
            have hsg : t.single = false := by simpa using hsg
            cases hj : jobDone (logOf i st ++ t.sys.log) t.job with
            | some r => simp only [hj] at hs; cases hs; exact .finished hout hpc hw hsg hj
            | none => simp only [hj] at hs; cases hs; (have key := TParentStep.other hout hpc hw hsg hj; rwa [hout] at key)
        | none => simp only [hw] at hs; cases hs; (have key := TParentStep.block hout hpc hw; rwa [hout] at key)
        | echild => simp only [hw] at hs; cases hs; exact .nothing hout hpc hw
      · by_cases hc : (t.sys.pending || !t.sigPending.isEmpty) = true
        · rw [if_pos hc] at hs
          cases hf : firstTrapped t.traps t.sigPending with
          | some σ => simp only [hf] at hs; cases hs; exact .trapped hout hpc hc hf
          | none => simp only [hf] at hs; cases hs; (have key := TParentStep.wake hout hpc hc hf; rwa [hout] at key)
        · rw [if_neg hc] at hs; cases hs
      · cases hs
      · cases hs
  · intro h
    cases h with
    | enable ho hpc => simp only [tparentStep, ho, hpc]
    | changed ho hpc hw hsg => simp only [tparentStep, ho, hpc, hw, hsg, if_true]
    | finished ho hpc hw hsg hj => simp only [tparentStep, ho, hpc, hw, hsg, hj, Bool.false_eq_true, if_false]
    | other ho hpc hw hsg hj => simp only [tparentStep, ho, hpc, hw, hsg, hj, Bool.false_eq_true, if_false]
    | block ho hpc hw => simp only [tparentStep, ho, hpc, hw]
    | nothing ho hpc hw => simp only [tparentStep, ho, hpc, hw]
    | trapped ho hpc hc hf => simp only [tparentStep, ho, hpc, hc, hf, if_true]
    | wake ho hpc hc hf => simp only [tparentStep, ho, hpc, hc, hf, if_true]

theorem tparentStep_out {t t' : TSys} (hs : tparentStep t = some t') : t.out = none := by
  cases tparentStep_iff.mp hs <;> assumption

/-- blocked in `wait_for_signals` the shell moves only when something is pending, and then it runs the trap of the
    first trapped signal and ends `Trapped`, or notes the signals and polls again -/
theorem TParentStep.of_await {t t' : TSys} (h : TParentStep t t') (hpc : t.sys.pc = .await) :
    (t.sys.pending || !t.sigPending.isEmpty) = true ∧
    ((∃ σ, firstTrapped t.traps t.sigPending = some σ ∧
        t' = { t with sys := { t.sys with pending := false, pc := .done }, sigPending := [],
                      flags := (t.flags ++ t.sigPending).erase σ, out := some (.trapped σ) }) ∨
     (firstTrapped t.traps t.sigPending = none ∧
        t' = { t with sys := { t.sys with pending := false, pc := .poll }, sigPending := [],
                      flags := t.flags ++ t.sigPending })) := by
  cases h with
  | trapped _ _ hc hf => exact ⟨hc, .inl ⟨_, hf, rfl⟩⟩
  | wake _ _ hc hf => exact ⟨hc, .inr ⟨hf, rfl⟩⟩
  | enable _ h | changed _ h | finished _ h | other _ h | block _ h | nothing _ h => rw [hpc] at h; cases h

/-- a step of child `i` in the built-in's system is a step of the child in `Model.lean`, unless the child still has to send -/
theorem tchildStep_iff {t t' : TSys} {i : Nat} : tchildStep t i = some t' ↔
    ∃ c s, t.sys.children[i]? = some c ∧
      ¬ (c.state = .running 0 c.state.fin ∧ t.senders.any (fun e => e.1 == i) = true) ∧
      childStep t.sys i = some s ∧ t' = { t with sys := s, sigPending := noteChld t s } := by
  unfold tchildStep
  cases hc : t.sys.children[i]? with
  | none => exact ⟨nofun, fun ⟨_, _, h, _⟩ => nomatch h⟩
  | some c =>
    by_cases hb : c.state = .running 0 c.state.fin ∧ t.senders.any (fun e => e.1 == i) = true
    · simp only [if_pos hb]
      exact ⟨nofun, fun ⟨_, _, h, hn, _⟩ => (hn (Option.some.inj h ▸ hb)).elim⟩
    · simp only [if_neg hb]
      cases hcs : childStep t.sys i with
      | none => exact ⟨nofun, fun ⟨_, _, _, _, h, _⟩ => nomatch h⟩
      | some s =>
        constructor
        · intro h; cases h; exact ⟨c, s, rfl, hb, rfl, rfl⟩
        · rintro ⟨_, _, _, _, h, rfl⟩; cases h; rfl

theorem tsendStep_iff {t t' : TSys} {k : Nat} : tsendStep t k = some t' ↔
    ∃ i σ c, t.senders[k]? = some (i, σ) ∧ t.sys.children[i]? = some c ∧ c.state.isAlive = true ∧
      (t.senders.take k).any (fun e => e.1 == i) = false ∧
      t' = { t with senders := t.senders.eraseIdx k,
                    sigPending := if t.traps.contains σ && !t.sigPending.contains σ
                                  then t.sigPending ++ [σ] else t.sigPending } := by
  unfold tsendStep
  cases hk : t.senders[k]? with
  | none => exact ⟨nofun, fun ⟨_, _, _, h, _⟩ => nomatch h⟩
  | some e =>
    obtain ⟨i, σ⟩ := e
    simp only
    cases hc : t.sys.children[i]? with
    | none => exact ⟨nofun, fun ⟨_, _, _, h, h2, _⟩ => by cases h; rw [hc] at h2; cases h2⟩
    | some c =>
      simp only
      by_cases hg : (c.state.isAlive && !(t.senders.take k).any (fun e => e.1 == i)) = true
      · have hg' := hg
        simp only [Bool.and_eq_true, Bool.not_eq_true'] at hg'
        rw [if_pos hg]
        constructor
        · intro h; cases h; exact ⟨i, σ, c, rfl, hc, hg'.1, hg'.2, rfl⟩
        · rintro ⟨_, _, _, h, _, _, _, rfl⟩; cases h; rfl
      · rw [if_neg hg]
        refine ⟨nofun, ?_⟩
        rintro ⟨_, _, c', h, h2, h3, h4, _⟩
        cases h
        rw [hc] at h2; cases h2
        exact (hg (by simp [h3, h4])).elim

theorem tstep_frame {v w : TSys} (l : TLabel) (hs : tstep v l = some w) :
    w.job = v.job ∧ w.traps = v.traps ∧ w.single = v.single := by
  cases l with
  | parent => cases tparentStep_iff.mp hs <;> exact ⟨rfl, rfl, rfl⟩
  | child i => obtain ⟨_, _, _, _, _, rfl⟩ := tchildStep_iff.mp hs; exact ⟨rfl, rfl, rfl⟩
  | send k => obtain ⟨_, _, _, _, _, _, _, rfl⟩ := tsendStep_iff.mp hs; exact ⟨rfl, rfl, rfl⟩

theorem tstep_log_suffix {t t' : TSys} (l : TLabel) (hs : tstep t l = some t') :
    ∃ l0, t'.sys.log = l0 ++ t.sys.log := by
  cases l with
  | parent => cases tparentStep_iff.mp hs <;> first | exact ⟨[], rfl⟩ | exact ⟨_, rfl⟩
  | child i =>
    obtain ⟨_, s, _, _, hcs, rfl⟩ := tchildStep_iff.mp hs
    exact ⟨[], (child_frame _ hcs).1⟩
  | send k => obtain ⟨_, _, _, _, _, _, _, rfl⟩ := tsendStep_iff.mp hs; exact ⟨[], rfl⟩

theorem tstep_others {t t' : TSys} {l : TLabel} (hl : l ≠ .parent) (hs : tstep t l = some t') :
    t'.out = t.out ∧ t'.sys.pc = t.sys.pc ∧ t'.sys.log = t.sys.log ∧ ∃ l0, t'.sigPending = t.sigPending ++ l0 := by
  cases l with
  | parent => exact absurd rfl hl
  | child i =>
    obtain ⟨_, s, _, _, hcs, rfl⟩ := tchildStep_iff.mp hs
    obtain ⟨f1, _, f3, _⟩ := child_frame _ hcs
    exact ⟨rfl, f3, f1, noteChld_prefix t s⟩
  | send k =>
    obtain ⟨_, σ, _, _, _, _, _, rfl⟩ := tsendStep_iff.mp hs
    refine ⟨rfl, rfl, rfl, ?_⟩
    simp only
    split
    · exact ⟨_, rfl⟩
    · exact ⟨[], by simp⟩

theorem tparent_moves {t : TSys} (ho : t.out = none) (hpc : t.sys.pc = .enable ∨ t.sys.pc = .poll) :
    ∃ t', tparentStep t = some t' := by
  have mk : ∀ {t'}, TParentStep t t' → ∃ t', tparentStep t = some t' := fun h => ⟨_, tparentStep_iff.mpr h⟩
  rcases hpc with hpc | hpc
  · exact mk (.enable ho hpc)
  · cases hw : sysWait t.sys.children .any with
    | none => exact mk (.block ho hpc hw)
    | echild => exact mk (.nothing ho hpc hw)
    | state i st =>
      cases hsg : t.single with
      | true => exact mk (.changed ho hpc hw hsg)
      | false =>
        cases hj : jobDone (logOf i st ++ t.sys.log) t.job with
        | some r => exact mk (.finished ho hpc hw hsg hj)
        | none => exact mk (.other ho hpc hw hsg hj)

/-- starting the built-in is taking up an operand with nothing pending and nothing remembered -/
theorem next_eq_start (t : TSys) (j : Nat) (h1 : t.sigPending = []) (h2 : t.flags = []) :
    t.next j = TSys.start t.sys j t.traps t.senders := by
  obtain ⟨s, _, _, _, _, _, _, _⟩ := t
  cases h1; cases h2
  unfold TSys.next TSys.start
  cases jobDone s.log j <;> rfl

/-- taking up the next operand: the shell is between two commands; a recorded final state ends the operand at once -/
theorem tinv_next {t : TSys} (hI : Inv t.sys) (hp : ∀ σ, σ ∈ t.sigPending → σ ∈ t.traps) (j : Nat) :
    TInv (t.next j) := by
  unfold TSys.next
  split
  · rename_i r hr
    refine ⟨hI.idle rfl rfl (by simp) (by simp), rfl, by simp, hp, by simp, by simp, ?_, by simp⟩
    intro i r' h'
    simp at h'
    obtain ⟨rfl, rfl⟩ := h'
    exact ⟨rfl, jobDone_mem hr⟩
  · rename_i hr
    exact ⟨hI.idle rfl rfl (by simp) (by simp), rfl, by simp, hp, by simp, fun _ _ => hr, by simp, by simp⟩

theorem tinv_start {s : Sys} (h : Inv s) (j : Nat) (traps : List Nat)
    (senders : List (Nat × Nat)) : TInv (TSys.start s j traps senders) := by
  rw [← next_eq_start { sys := s, job := j, traps := traps, senders := senders } j rfl rfl]
  exact tinv_next h (fun _ h' => by cases h') j

theorem tinv_parent {t t' : TSys} (h : TInv t) (hs : tparentStep t = some t') : TInv t' := by
  have hI := h.inv
  cases tparentStep_iff.mp hs with
  | enable ho hpc =>
    exact ⟨hI.to_poll rfl rfl rfl rfl, h.target, by simp, h.pend, by simp [ho], h.job_open, h.fin_ok, h.trap_ok⟩
  | changed ho hpc hw hsg =>
    exact ⟨hI.taken hw rfl rfl (by simp) (by simp), h.target, by simp, h.pend, by simp, by simp, by simp, by simp⟩
  | @finished i st r ho hpc hw hsg hj =>
    refine ⟨hI.taken hw rfl rfl (by simp) (by simp), h.target, by simp, h.pend, by simp, by simp, ?_, by simp⟩
    intro i' r' h'
    simp at h'
    obtain ⟨rfl, rfl⟩ := h'
    exact ⟨rfl, jobDone_mem hj⟩
  | other ho hpc hw hsg hj =>
    exact ⟨hI.taken hw rfl rfl (by simp) (by simp), h.target, by simp, h.pend, by simp [ho], fun _ _ => hj,
      by simp [ho], by simp [ho]⟩
  | block ho hpc hw =>
    exact ⟨inv_parent hI (parentStep_iff.mpr (.block hpc (h.target ▸ hw))), h.target, by simp, h.pend, by simp [ho],
      h.job_open, h.fin_ok, h.trap_ok⟩
  | nothing ho hpc hw =>
    exact ⟨hI.idle rfl rfl (by simp) (by simp), h.target, by simp, h.pend, by simp, by simp, by simp, by simp⟩
  | trapped ho hpc hc hf =>
    refine ⟨hI.idle rfl rfl (by simp) (by simp), h.target, by simp, by simp, by simp, by simp, by simp, ?_⟩
    intro σ' h'
    simp at h'; subst h'
    exact (firstTrapped_mem hf).1
  | wake ho hpc hc hf =>
    exact ⟨hI.to_poll rfl rfl rfl (hI.handler (.inr hpc)), h.target, by simp, by simp, by simp [ho], h.job_open,
      h.fin_ok, h.trap_ok⟩

theorem tinv_child {t t' : TSys} {i : Nat} (h : TInv t) (hs : tchildStep t i = some t') : TInv t' := by
  obtain ⟨_, s, _, _, hcs, rfl⟩ := tchildStep_iff.mp hs
  obtain ⟨f2, _, f1, f4, f3, f5⟩ := child_frame _ hcs
  refine ⟨inv_child i h.inv hcs, by simp [f3, h.target], by simp [f1, h.notReap], ?_,
    by simp [f1, h.out_done], by simp [f2]; exact h.job_open, by simp [f2]; exact h.fin_ok, h.trap_ok⟩
  intro σ hσ
  rcases noteChld_mem hσ with h1 | ⟨h1, h2⟩
  · exact h.pend σ h1
  · rw [h1]; exact h2

theorem tinv_send {t t' : TSys} {k : Nat} (h : TInv t) (hs : tsendStep t k = some t') : TInv t' := by
  obtain ⟨_, σ, _, _, _, _, _, rfl⟩ := tsendStep_iff.mp hs
  refine ⟨h.inv, h.target, h.notReap, ?_, h.out_done, h.job_open, h.fin_ok, h.trap_ok⟩
  intro σ' hm
  simp only at hm
  split at hm
  · rename_i hc
    simp at hc hm
    rcases hm with hm | hm
    · exact h.pend σ' hm
    · subst hm; exact hc.1
  · exact h.pend σ' hm

theorem tinv_step {t t' : TSys} (l : TLabel) (h : TInv t) (hs : tstep t l = some t') : TInv t' := by
  cases l with
  | parent => exact tinv_parent h hs
  | child i => exact tinv_child h hs
  | send k => exact tinv_send h hs

theorem tinv_steps {t u : TSys} (h : TSteps t u) (hi : TInv t) : TInv u := by
  induction h with
  | refl => exact hi
  | tail l _ hs ih => exact tinv_step l ih hs

theorem tmeasure_parent {t t' : TSys} (hs : tparentStep t = some t') :
    tmeasure t' < tmeasure t := by
  cases tparentStep_iff.mp hs with
  | enable _ hpc | block _ hpc | nothing _ hpc => simp only [tmeasure, measure, hpc, pcW]; omega
  | changed _ hpc hw | finished _ hpc hw | other _ hpc hw =>
    have := childrenW_take hw; simp only [tmeasure, measure, hpc, pcW]; omega
  | trapped _ hpc hc | wake _ hpc hc =>
    -- something was pending: SIGCHLD (2) or a trapped signal (3 each)
    have hlen : t.sys.pending = true ∨ 0 < t.sigPending.length := by
      simp at hc
      exact hc.imp id fun h1 => List.length_pos_iff.mpr h1
    simp only [tmeasure, measure, hpc, pcW, List.length_nil]
    by_cases hp : t.sys.pending = true
    · simp [hp]; omega
    · simp [hp]; have := hlen.resolve_left hp; omega

theorem tmeasure_child {t t' : TSys} {i : Nat} (hs : tchildStep t i = some t') :
    tmeasure t' < tmeasure t := by
  obtain ⟨_, s, _, _, hcs, rfl⟩ := tchildStep_iff.mp hs
  obtain ⟨h1, h2⟩ := measure_child_pending i hcs
  have h3 := noteChld_length t s
  rcases h2 with h2 | h2
  · simp only [tmeasure]; omega
  · have h4 := noteChld_same (t := t) h2
    simp only [tmeasure, h4]; omega

theorem tmeasure_send {t t' : TSys} {k : Nat} (hs : tsendStep t k = some t') :
    tmeasure t' < tmeasure t := by
  obtain ⟨_, σ, _, hk, _, _, _, rfl⟩ := tsendStep_iff.mp hs
  have hlt : k < t.senders.length := lt_of_get hk
  simp only [tmeasure, List.length_eraseIdx, hlt, if_true]
  split <;> simp <;> omega

theorem tmeasure_step {t t' : TSys} (l : TLabel) (hs : tstep t l = some t') :
    tmeasure t' < tmeasure t := by
  cases l with
  | parent => exact tmeasure_parent hs
  | child i => exact tmeasure_child hs
  | send k => exact tmeasure_send hs

theorem first_sender {l : List (Nat × Nat)} {i : Nat} (h : l.any (fun e => e.1 == i) = true) :
    ∃ k σ, l[k]? = some (i, σ) ∧ (l.take k).any (fun e => e.1 == i) = false := by
  induction l with
  | nil => simp at h
  | cons a t ih =>
    by_cases ha : a.1 = i
    · exact ⟨0, a.2, by simp [← ha], by simp⟩
    · have ht : t.any (fun e => e.1 == i) = true := by
        simp only [List.any_cons, Bool.or_eq_true] at h
        rcases h with h | h
        · simp at h; exact absurd h ha
        · exact h
      obtain ⟨k, σ, h1, h2⟩ := ih ht
      refine ⟨k + 1, σ, by simpa using h1, ?_⟩
      simp only [List.take_succ_cons, List.any_cons, h2, Bool.or_false]
      simpa using ha

theorem tnot_stuck {t : TSys} (h : TInv t) (hout : t.out = none) : ∃ l t', tstep t l = some t' := by
  have hI := h.inv
  cases hpc : t.sys.pc with
  | enable => exact ⟨.parent, tparent_moves hout (.inl hpc)⟩
  | poll => exact ⟨.parent, tparent_moves hout (.inr hpc)⟩
  | reap => exact absurd hpc h.notReap
  | done => exact absurd hpc (h.out_done.mp hout)
  | await =>
    obtain ⟨i, c, hc, _, hor⟩ := hI.awaited hpc
    by_cases hch : c.changed = true
    · have hp := hI.no_lost hpc i c hc (by simp [h.target, Target.matches]) hch
      have hcond : (t.sys.pending || !t.sigPending.isEmpty) = true := by simp [hp]
      cases hf : firstTrapped t.traps t.sigPending with
      | some σ => exact ⟨.parent, _, tparentStep_iff.mpr (.trapped hout hpc hcond hf)⟩
      | none => exact ⟨.parent, _, tparentStep_iff.mpr (.wake hout hpc hcond hf)⟩
    · have hal := hor.resolve_right hch
      by_cases hb : c.state = .running 0 c.state.fin ∧ t.senders.any (fun e => e.1 == i) = true
      · -- at its last step with something to send: the first such entry can fire
        obtain ⟨k, σ, hk, hfirst⟩ := first_sender hb.2
        exact ⟨.send k, _, tsendStep_iff.mpr ⟨i, σ, c, hk, hc, hal, hfirst, rfl⟩⟩
      · obtain ⟨s', hs'⟩ := child_alive_enabled hc hal
        exact ⟨.child i, _, tchildStep_iff.mpr ⟨c, s', hc, hb, hs', rfl⟩⟩

theorem tsteps_frame {a b : TSys} (hab : TSteps a b) : b.job = a.job ∧ b.traps = a.traps ∧ b.single = a.single := by
  induction hab with
  | refl => exact ⟨rfl, rfl, rfl⟩
  | tail l _ hs ih =>
    have := tstep_frame l hs
    exact ⟨this.1.trans ih.1, this.2.1.trans ih.2.1, this.2.2.trans ih.2.2⟩

end YashModel.Proc
