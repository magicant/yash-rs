/-
  C13 — `moveToStdinStdout` in two halves (`moveStdout`, then `moveStdin`), each with the exact table it leaves: on a table
  with `ChildStart` the function succeeds and leaves `setupResult` (`child_setup_spec`), and such a table is hygienic
  (`hygienic_of_exact`).
-/
import YashModel.Proc.FdSetup
namespace YashModel.Proc

/-- the descriptor `d` that `dup` picks is usable: when the function does call `dup` (the incoming read end sits at
    descriptor 1 and the outgoing write end does not), `d` is free once the outgoing read end is closed, and is not 1 -/
def DupOk (T : FdTab) (ps : PipeSet) (d : Nat) : Prop :=
  ∀ r w, ps.next = some (r, w) → ps.readPrevious = some 1 → w ≠ 1 → (T d = none ∨ d = r) ∧ d ≠ 1

/-- what the child's table must be when its command starts -/
def setupResult (T : FdTab) (ps : PipeSet) (jin jout : Nat) : FdTab := fun fd =>
  if fd = 0 ∧ ps.readPrevious.isSome then some (.rd jin)
  else if fd = 1 ∧ ps.next.isSome then some (.wr jout)
  else if T fd = some .other then some .other else none

theorem close_some {T : FdTab} {fd : Nat} {r : Res} (h : T fd = some r) :
    T.close fd = some (fun k => if k = fd then none else T k) := by
  simp [FdTab.close, h]

theorem dup2_some {T : FdTab} {frm : Nat} {r : Res} (h : T frm = some r) (to : Nat) :
    T.dup2 frm to = some (fun k => if k = to then some r else T k) := by
  simp [FdTab.dup2, h]

theorem dupTo_some {T : FdTab} {frm d : Nat} {r : Res} (h : T frm = some r) (hd : T d = none) :
    T.dupTo frm d = some (fun k => if k = d then some r else T k) := by
  simp [FdTab.dupTo, h, hd]

theorem ChildStart.unnamed {T : FdTab} {ps : PipeSet} {jin jout fd : Nat} (h : ChildStart T ps jin jout)
    (hp : ps.readPrevious ≠ some fd) (hn : ∀ r w, ps.next = some (r, w) → fd ≠ r ∧ fd ≠ w) :
    T fd = none ∨ T fd = some .other := by
  cases hT : T fd with
  | none => exact .inl rfl
  | some res =>
    by_cases hpe : res.isPipeEnd = true
    · rcases h.only fd res hT hpe with h1 | ⟨w, h1⟩ | ⟨r, h1⟩
      · exact absurd h1 hp
      · exact absurd rfl (hn _ _ h1).1
      · exact absurd rfl (hn _ _ h1).2
    · cases res <;> first | exact .inr rfl | exact absurd rfl hpe

/-- the table after the first half, `rp` being where the incoming read end now is -/
def afterStdout (T : FdTab) (ps : PipeSet) (rp : Option Nat) (jin jout : Nat) : FdTab := fun fd =>
  if fd = 1 ∧ ps.next.isSome then some (.wr jout)
  else if rp = some fd then some (.rd jin)
  else if T fd = some .other then some .other else none

/-- the tail of the function: move `rp` (if any, referring to `rd jin`) to descriptor 0 -/
def moveStdin (T : FdTab) (rp : Option Nat) : Option FdTab :=
  match rp with
  | none => some T
  | some reader =>
    if reader = 0 then some T
    else
      match T.dup2 reader 0 with
      | none => none
      | some T6 => T6.close reader

theorem moveStdin_spec {T : FdTab} {rp : Option Nat} {jin : Nat}
    (hp : ∀ p, rp = some p → T p = some (.rd jin)) :
    ∃ T', moveStdin T rp = some T' ∧
      ∀ fd, T' fd = if fd = 0 ∧ rp.isSome then some (.rd jin) else if rp = some fd then none else T fd := by
  cases rp with
  | none => exact ⟨T, rfl, fun fd => by simp⟩
  | some p =>
    have hTp := hp p rfl
    by_cases h0 : p = 0
    · subst h0
      refine ⟨T, by simp [moveStdin], fun fd => ?_⟩
      by_cases hf : fd = 0
      · simp [hf, hTp]
      · simp [hf, Ne.symm hf]
    · refine ⟨fun k => if k = p then none else if k = 0 then some (.rd jin) else T k, ?_, fun fd => ?_⟩
      · simp only [moveStdin, h0, if_false, dup2_some hTp]
        rw [close_some (r := .rd jin) (by simp [h0, hTp])]
      · by_cases hf : fd = 0
        · simp [hf, Ne.symm h0]
        · by_cases hfp : fd = p
          · simp [hfp, h0]
          · simp [hf, hfp, Ne.symm hfp]

/-- the first half of the function: the table and the (possibly moved) `read_previous` after the `next`
    pipe has been dealt with -/
def moveStdout (T : FdTab) (ps : PipeSet) (d : Nat) : Option (FdTab × Option Nat) :=
  match ps.next with
  | none => some (T, ps.readPrevious)
  | some (reader, writer) =>
    match T.close reader with
    | none => none
    | some T1 =>
      if writer = 1 then some (T1, ps.readPrevious)
      else
        let moved : Option (FdTab × Option Nat) :=
          if ps.readPrevious = some 1 then
            match T1.dupTo 1 d with
            | none => none
            | some T2 => some (T2, some d)
          else some (T1, ps.readPrevious)
        match moved with
        | none => none
        | some (T2, rp) =>
          match T2.dup2 writer 1 with
          | none => none
          | some T3 =>
            match T3.close writer with
            | none => none
            | some T4 => some (T4, rp)

theorem move_split (T : FdTab) (ps : PipeSet) (d : Nat) :
    moveToStdinStdout T ps d =
      match moveStdout T ps d with
      | none => none
      | some (T5, rp) => moveStdin T5 rp := by
  unfold moveToStdinStdout moveStdout moveStdin
  rfl

/-- After the first half the table is `afterStdout`, with `rp` not descriptor 1 if that now holds the write end.
    `d` = the descriptor `dup` picks.  In each branch the resulting table is written out, the run of the function
    checked against it, and the two tables compared descriptor by descriptor: `r`, `w`, 1, `d`, the incoming read end,
    and the rest (`unnamed`). -/
theorem moveStdout_spec {T : FdTab} {ps : PipeSet} {jin jout d : Nat} (h : ChildStart T ps jin jout)
    (hd : DupOk T ps d) :
    ∃ T5 rp, moveStdout T ps d = some (T5, rp) ∧ rp.isSome = ps.readPrevious.isSome ∧
      (ps.next.isSome = true → rp ≠ some 1) ∧ (∀ p, rp = some p → T p ≠ some .other) ∧
      ∀ fd, T5 fd = afterStdout T ps rp jin jout fd := by
  have hprev : ∀ p, ps.readPrevious = some p → T p ≠ some .other := fun p hp e => by
    rw [h.prev p hp] at e; cases e
  cases hn : ps.next with
  | none =>
    refine ⟨T, ps.readPrevious, by simp [moveStdout, hn], rfl, by simp, hprev, fun fd => ?_⟩
    by_cases hp : ps.readPrevious = some fd
    · simp [afterStdout, hn, hp, h.prev fd hp]
    · rcases h.unnamed hp (fun r w e => by rw [hn] at e; cases e) with h1 | h1 <;> simp [afterStdout, hn, hp, h1]
  | some rw =>
    obtain ⟨r, w⟩ := rw
    have hTr := h.nextR r w hn
    have hTw := h.nextW r w hn
    have hrw := h.distinctRW r w hn
    have hP : ∀ p, ps.readPrevious = some p → T p = some (.rd jin) ∧ p ≠ r ∧ p ≠ w :=
      fun p hp => ⟨h.prev p hp, h.distinctP p r w hp hn⟩
    have rest : ∀ fd, fd ≠ r → fd ≠ w → ps.readPrevious ≠ some fd → T fd = none ∨ T fd = some .other :=
      fun fd h1 h2 h3 => h.unnamed h3 fun r' w' e => by rw [hn] at e; cases e; exact ⟨h1, h2⟩
    by_cases hw1 : w = 1
    · subst hw1
      refine ⟨fun k => if k = r then none else T k, ps.readPrevious, ?_, rfl, ?_, hprev, fun fd => ?_⟩
      · simp [moveStdout, hn, close_some hTr]
      · intro _ e; exact (hP 1 e).2.2 rfl
      · by_cases h1 : fd = r
        · have : ps.readPrevious ≠ some r := fun e => (hP r e).2.1 rfl
          simp [afterStdout, hn, h1, hrw, this, hTr]
        · by_cases h2 : fd = 1
          · simp [afterStdout, hn, h2, Ne.symm hrw, hTw]
          · by_cases h3 : ps.readPrevious = some fd
            · simp [afterStdout, hn, h1, h2, h3, (hP fd h3).1]
            · rcases rest fd h1 h2 h3 with e | e <;> simp [afterStdout, hn, h1, h2, h3, e]
    · by_cases hp1 : ps.readPrevious = some 1
      · -- the incoming read end sits at descriptor 1: `dup` it out of the way first
        obtain ⟨hdfree, hd1⟩ := hd r w hn hp1 hw1
        obtain ⟨hT1, h1r, h1w⟩ := hP 1 hp1
        have hdw : d ≠ w := by
          rcases hdfree with h0 | h0
          · intro e; subst e; rw [hTw] at h0; cases h0
          · rw [h0]; exact hrw
        have hdo : T d ≠ some .other := by
          rcases hdfree with h0 | h0
          · rw [h0]; nofun
          · rw [h0, hTr]; nofun
        refine ⟨fun k => if k = w then none else if k = 1 then some (.wr jout) else
          if k = d then some (.rd jin) else if k = r then none else T k, some d, ?_, by simp [hp1], ?_, ?_, fun fd => ?_⟩
        · have e1 : FdTab.dupTo (fun k => if k = r then none else T k) 1 d =
              some (fun k => if k = d then some (.rd jin) else if k = r then none else T k) :=
            dupTo_some (by simp [h1r, hT1]) (by rcases hdfree with h0 | h0 <;> simp [h0])
          simp only [moveStdout, hn, close_some hTr, hw1, if_false, hp1, if_true, e1]
          rw [dup2_some (r := .wr jout) (by simp [Ne.symm hdw, Ne.symm hrw, hTw])]
          simp only
          rw [close_some (r := .wr jout) (by simp [hw1, Ne.symm hdw, Ne.symm hrw, hTw])]
        · intro _ e; exact hd1 (Option.some.inj e)
        · intro p e; cases e; exact hdo
        · by_cases h1 : fd = w
          · simp [afterStdout, hn, h1, hw1, hdw, hTw]
          · by_cases h2 : fd = 1
            · simp [afterStdout, hn, h2, Ne.symm hw1]
            · by_cases h3 : fd = d
              · simp [afterStdout, hn, h3, hdw, hd1]
              · by_cases h4 : fd = r
                · subst h4; simp [afterStdout, hn, h1, h2, h3, Ne.symm h3, hTr]
                · have h5 : ps.readPrevious ≠ some fd := by rw [hp1]; exact fun e => h2 (Option.some.inj e).symm
                  rcases rest fd h4 h1 h5 with e | e <;> simp [afterStdout, hn, h1, h2, h3, h4, Ne.symm h3, e]
      · refine ⟨fun k => if k = w then none else if k = 1 then some (.wr jout) else
          if k = r then none else T k, ps.readPrevious, ?_, rfl, fun _ => hp1, hprev, fun fd => ?_⟩
        · simp only [moveStdout, hn, close_some hTr, hw1, if_false, hp1]
          rw [dup2_some (r := .wr jout) (by simp [Ne.symm hrw, hTw])]
          simp only
          rw [close_some (r := .wr jout) (by simp [hw1, Ne.symm hrw, hTw])]
        · by_cases h1 : fd = w
          · have : ps.readPrevious ≠ some w := fun e => (hP w e).2.2 rfl
            simp [afterStdout, hn, h1, hw1, this, hTw]
          · by_cases h2 : fd = 1
            · simp [afterStdout, hn, h2, Ne.symm hw1]
            · by_cases h3 : fd = r
              · have : ps.readPrevious ≠ some r := fun e => (hP r e).2.1 rfl
                simp [afterStdout, hn, h3, hrw, h3 ▸ h2, this, hTr]
              · by_cases h4 : ps.readPrevious = some fd
                · simp [afterStdout, hn, h1, h2, h3, h4, (hP fd h4).1]
                · rcases rest fd h3 h1 h4 with e | e <;> simp [afterStdout, hn, h1, h2, h3, h4, e]

theorem child_setup_spec {T : FdTab} {ps : PipeSet} {jin jout d : Nat} (h : ChildStart T ps jin jout)
    (hd : DupOk T ps d) :
    ∃ T', moveToStdinStdout T ps d = some T' ∧ ∀ fd, T' fd = setupResult T ps jin jout fd := by
  obtain ⟨T5, rp, hmove, hrp, hne1, hno, hT5⟩ := moveStdout_spec h hd
  have hin : ∀ p, rp = some p → T5 p = some (.rd jin) := fun p hp => by
    have : ¬ (p = 1 ∧ ps.next.isSome = true) := fun c => hne1 c.2 (c.1 ▸ hp)
    rw [hT5, afterStdout, if_neg this, if_pos hp]
  obtain ⟨T', hT', hfd⟩ := moveStdin_spec hin
  refine ⟨T', by rw [move_split, hmove]; exact hT', fun fd => ?_⟩
  rw [hfd fd, hT5 fd]
  simp only [afterStdout, setupResult, hrp]
  by_cases c0 : fd = 0 ∧ ps.readPrevious.isSome = true
  · rw [if_pos c0, if_pos c0]
  · rw [if_neg c0, if_neg c0]
    by_cases c1 : rp = some fd
    · have : ¬ (fd = 1 ∧ ps.next.isSome = true) := fun c => hne1 c.2 (c.1 ▸ c1)
      rw [if_pos c1, if_neg this, if_neg (hno fd c1)]
    · rw [if_neg c1, if_neg c1]

theorem hygienic_of_exact {T T' : FdTab} {ps : PipeSet} {jin jout : Nat}
    (h : ∀ fd, T' fd = setupResult T ps jin jout fd) : ChildHygienic T' ps jin jout := by
  refine ⟨fun hs => by simp [h, setupResult, hs], fun hs => by simp [h, setupResult, hs], fun fd res hfd hpe => ?_⟩
  rw [h] at hfd; unfold setupResult at hfd
  split at hfd
  · rename_i c; cases hfd; exact .inl ⟨c.1, rfl, c.2⟩
  · split at hfd
    · rename_i c; cases hfd; exact .inr ⟨c.1, rfl, c.2⟩
    · split at hfd <;> cases hfd; cases hpe

end YashModel.Proc
