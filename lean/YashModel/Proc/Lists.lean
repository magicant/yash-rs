/-
  C13 — look-up in a list after `set`: the process table of `Model.lean` and the stage and pipe lists of
  `Pipeline.lean` are both updated by index.
-/
namespace YashModel.Proc

theorem lt_of_get {α : Type} {l : List α} {i : Nat} {a : α} (h : l[i]? = some a) : i < l.length :=
  (List.getElem?_eq_some_iff.1 h).1

theorem get_set {α : Type} {l : List α} {i : Nat} {a : α} (h : l[i]? = some a) (b : α) (k : Nat) :
    (l.set i b)[k]? = if k = i then some b else l[k]? := by
  have hi := lt_of_get h
  simp only [List.getElem?_set]
  by_cases hk : k = i
  · subst hk; simp [hi]
  · have : ¬ i = k := fun e => hk e.symm
    simp [hk, this]

theorem of_get_set {α : Type} {l : List α} {i k : Nat} {a b x : α} (h : l[i]? = some a) (hk : (l.set i b)[k]? = some x) :
    (k = i ∧ x = b) ∨ (k ≠ i ∧ l[k]? = some x) := by
  rw [get_set h] at hk
  by_cases hki : k = i
  · rw [if_pos hki] at hk; exact .inl ⟨hki, (Option.some.inj hk).symm⟩
  · rw [if_neg hki] at hk; exact .inr ⟨hki, hk⟩

theorem set_self {α : Type} {l : List α} {i : Nat} {a : α} (h : l[i]? = some a) : l.set i a = l := by
  obtain ⟨hi, rfl⟩ := List.getElem?_eq_some_iff.1 h
  exact List.set_getElem_self hi

theorem getD_mod_mem {α : Type} (a : α) (l : List α) (k : Nat) : (a :: l).getD (k % (l.length + 1)) a ∈ a :: l := by
  have hlt : k % (l.length + 1) < (a :: l).length := by
    simp only [List.length_cons]; exact Nat.mod_lt _ (by omega)
  rw [List.getD_eq_getElem?_getD, List.getElem?_eq_getElem hlt]
  exact List.getElem_mem hlt

theorem range_map_getD (l : List Nat) (d : Nat) : (List.range l.length).map (fun t => l.getD t d) = l := by
  apply List.ext_getElem?
  intro i
  simp only [List.getElem?_map]
  rcases Nat.lt_or_ge i l.length with h | h
  · simp [List.getElem?_range h, List.getD_eq_getElem?_getD, List.getElem?_eq_getElem h]
  · simp [List.getElem?_eq_none h, List.getElem?_eq_none (by simpa using h : (List.range l.length).length ≤ i)]

end YashModel.Proc
