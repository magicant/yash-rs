/-
  C13 — the flow pipelines `spew n | cat | … | cat | consumer` with any number of `cat`s: byte accounting by
  position.  `upto s i` counts the bytes at or before the buffer of stage `i`; a write moves bytes past one
  position, a read past none, and both regimes of `Spec.flowStatuses` are statements about `upto` that are uniform
  in the position.
-/
import YashModel.Proc.PipelineRuns
import YashModel.Proc.Spec
import YashModel.Proc.Prog
namespace YashModel.Proc

/-- how many more bytes a consumer stage will take (`none` = any number), and the status it ends with -/
def consRoom : SProg → Option Nat
  | .take k _ => some k
  | .idle _ => some 0
  | .drain => none
  | _ => some 0

def consFin : SProg → Option Nat
  | .take _ st => some st
  | .idle st => some st
  | .drain => some 0
  | _ => none

/-- what a live stage can still take off the stream without passing it on (`none`: any amount) -/
def absorb (c : PCfg) : SProg → Option Nat
  | .spew _ => some 0
  | .cat _ => some c.chunk
  | p => consRoom p

/-- bytes at or before the buffer of stage `i`: the buffers of stages `0 … i` and the pipes `0 … i-1` -/
def upto (s : PSys) : Nat → Nat
  | 0 => ((s.stages[0]?).map (internal ·.prog)).getD 0
  | i + 1 => upto s i + ((s.pipes[i]?).map (·.content)).getD 0 + ((s.stages[i + 1]?).map (internal ·.prog)).getD 0

theorem upto_mono (s : PSys) {i j : Nat} (h : i ≤ j) : upto s i ≤ upto s j := by
  induction j with
  | zero => cases Nat.le_zero.mp h; exact Nat.le_refl _
  | succ j ih =>
    rcases Nat.lt_or_ge i (j + 1) with h1 | h1
    · have := ih (Nat.le_of_lt_succ h1); simp only [upto]; omega
    · cases Nat.le_antisymm h h1; exact Nat.le_refl _

theorem internal_le_upto {s : PSys} {i : Nat} {st : Stage} (hst : s.stages[i]? = some st) :
    internal st.prog ≤ upto s i := by
  cases i with
  | zero => simp [upto, hst]
  | succ i => simp only [upto, hst, Option.map_some, Option.getD_some]; omega

theorem upto_setStage {s : PSys} {i : Nat} {st st' : Stage} (hst : s.stages[i]? = some st) (k : Nat) :
    upto { s with stages := s.stages.set i st' } k + (if i ≤ k then internal st.prog else 0) =
      upto s k + (if i ≤ k then internal st'.prog else 0) := by
  induction k with
  | zero =>
    simp only [upto, get_set hst]
    by_cases h0 : 0 = i
    · subst h0; simp [hst]; omega
    · have : ¬ i ≤ 0 := by omega
      simp [h0, this]
  | succ k ih =>
    simp only [upto, get_set hst]
    by_cases h1 : k + 1 = i
    · subst h1
      rw [if_neg (by omega)] at ih
      rw [if_neg (by omega)] at ih
      simp [hst] at ih ⊢; omega
    · rw [if_neg h1]
      by_cases h2 : i ≤ k
      · rw [if_pos h2, if_pos h2] at ih; rw [if_pos (by omega), if_pos (by omega)]; omega
      · rw [if_neg h2, if_neg h2] at ih; rw [if_neg (by omega), if_neg (by omega)]; omega

theorem upto_setPipe {s : PSys} {j : Nat} {p p' : Pipe} (hp : s.pipes[j]? = some p) (k : Nat) :
    upto { s with pipes := s.pipes.set j p' } k + (if j < k then p.content else 0) =
      upto s k + (if j < k then p'.content else 0) := by
  induction k with
  | zero => simp [upto]
  | succ k ih =>
    simp only [upto, get_set hp]
    by_cases h1 : k = j
    · subst h1
      rw [if_neg (Nat.lt_irrefl _), if_neg (Nat.lt_irrefl _)] at ih
      simp [hp] at ih ⊢; omega
    · rw [if_neg h1]
      by_cases h2 : j < k
      · rw [if_pos h2, if_pos h2] at ih; rw [if_pos (by omega), if_pos (by omega)]; omega
      · rw [if_neg h2, if_neg h2] at ih; rw [if_neg (by omega), if_neg (by omega)]; omega

theorem upto_stage {s : PSys} {i d : Nat} {st st' : Stage} (hst : s.stages[i]? = some st)
    (hint : internal st'.prog + d = internal st.prog) (k : Nat) :
    upto { s with stages := s.stages.set i st' } k + (if i ≤ k then d else 0) = upto s k := by
  have := upto_setStage (st' := st') hst k
  split at this <;> split <;> omega

theorem upto_stage_same {s : PSys} {i : Nat} {st st' : Stage} (hst : s.stages[i]? = some st)
    (hint : internal st'.prog = internal st.prog) (k : Nat) :
    upto { s with stages := s.stages.set i st' } k = upto s k := by
  have := upto_stage (d := 0) hst (by simpa using hint) k; simpa using this

theorem upto_write {s : PSys} {i m : Nat} {st st' : Stage} {p p' : Pipe}
    (hst : s.stages[i]? = some st) (hp : s.pipes[i]? = some p)
    (hint : internal st'.prog + m = internal st.prog) (hc : p'.content = p.content + m) (j : Nat) :
    upto { stages := s.stages.set i st', pipes := s.pipes.set i p' } j + (if j = i then m else 0) = upto s j := by
  have h1 := upto_setStage (st' := st') hst j
  have h2 := upto_setPipe (s := { s with stages := s.stages.set i st' }) (p' := p') hp j
  dsimp only at h2
  split at h1 <;> split at h2 <;> split <;> omega

/-- `d` of the bytes read leave the pipeline (`d = 0`: they stay in the buffer of stage `j+1`) -/
theorem upto_read {s : PSys} {j d : Nat} {st st' : Stage} {p p' : Pipe}
    (hst : s.stages[j + 1]? = some st) (hp : s.pipes[j]? = some p)
    (hint : p'.content + internal st'.prog + d = p.content + internal st.prog) (k : Nat) :
    upto { stages := s.stages.set (j + 1) st', pipes := s.pipes.set j p' } k + (if j < k then d else 0) = upto s k := by
  have h1 := upto_setStage (st' := st') hst k
  have h2 := upto_setPipe (s := { s with stages := s.stages.set (j + 1) st' }) (p' := p') hp k
  dsimp only at h2
  split at h1 <;> split at h2 <;> split <;> omega

theorem consFin_internal {p : SProg} {fin : Nat} (h : consFin p = some fin) : internal p = 0 := by
  cases p <;> first | rfl | cases h

/-- what stands at position `i` of a chain with `L` pipes: the first stage writes, the last consumes and ends with
    `fin`, those in between copy and hold at most a chunk -/
def Fits (c : PCfg) (fin L i : Nat) (st : Stage) : Prop :=
  (i = 0 → ∃ m, st.prog = .spew m) ∧ (0 < i → i < L → ∃ b, st.prog = .cat b ∧ b ≤ c.chunk) ∧
  (i = L → consFin st.prog = some fin ∧ (st.exit = none ∨ st.exit = some fin))

structure Shape (c : PCfg) (fin : Nat) (s : PSys) : Prop where
  hyg : Hyg c s
  pos : 0 < s.pipes.length
  fits : ∀ i st, s.stages[i]? = some st → Fits c fin s.pipes.length i st

theorem Shape.set {c : PCfg} {fin : Nat} {s s' : PSys} {i : Nat} {st st' : Stage} (h : Shape c fin s) (hh : Hyg c s')
    (hst : s.stages[i]? = some st) (hs : s'.stages = s.stages.set i st') (hl : s'.pipes.length = s.pipes.length)
    (hf : Fits c fin s.pipes.length i st') : Shape c fin s' := by
  refine ⟨hh, hl ▸ h.pos, fun k stk hk => ?_⟩
  rw [hl]
  rcases of_get_set hst (hs ▸ hk) with ⟨rfl, rfl⟩ | ⟨_, hk⟩
  · exact hf
  · exact h.fits k stk hk

/-- the events of a chain with last stage `s.pipes.length` -/
inductive ChainEv (c : PCfg) (fin : Nat) (s : PSys) : PSys → Prop where
  | prodDone : s.stages[0]? = some ⟨.spew 0, none⟩ →
      ChainEv c fin s { s with stages := s.stages.set 0 ⟨.spew 0, some 0⟩ }
  | epipe {i n : Nat} {f : Nat → SProg} : (f = .spew ∨ f = .cat) → s.stages[i]? = some ⟨f (n + 1), none⟩ →
      i < s.pipes.length → s.alive (i + 1) = false →
      ChainEv c fin s { s with stages := s.stages.set i ⟨f 0, some 1⟩ }
  | write {i n m : Nat} {f : Nat → SProg} {q : Pipe} : (f = .spew ∨ f = .cat) →
      s.stages[i]? = some ⟨f (n + 1), none⟩ → s.pipes[i]? = some q → s.alive (i + 1) = true → m ≤ n + 1 →
      q.content + m ≤ c.cap →
      ChainEv c fin s { stages := s.stages.set i ⟨f (n + 1 - m), none⟩,
                        pipes := s.pipes.set i { q with content := q.content + m } }
  | catEof {j : Nat} {q : Pipe} : s.stages[j + 1]? = some ⟨.cat 0, none⟩ → j + 1 < s.pipes.length →
      s.pipes[j]? = some q → q.content = 0 → s.alive j = false →
      ChainEv c fin s { s with stages := s.stages.set (j + 1) ⟨.cat 0, some 0⟩ }
  | catRead {j m : Nat} {q : Pipe} : s.stages[j + 1]? = some ⟨.cat 0, none⟩ → j + 1 < s.pipes.length →
      s.pipes[j]? = some q → m ≤ q.content → m ≤ c.chunk →
      ChainEv c fin s { stages := s.stages.set (j + 1) ⟨.cat m, none⟩,
                        pipes := s.pipes.set j { q with content := q.content - m } }
  | consDone {j : Nat} {p : SProg} : j + 1 = s.pipes.length → s.stages[j + 1]? = some ⟨p, none⟩ →
      consRoom p = some 0 → consFin p = some fin →
      ChainEv c fin s { s with stages := s.stages.set (j + 1) ⟨p, some fin⟩ }
  | consEof {j : Nat} {p p' : SProg} {q : Pipe} : j + 1 = s.pipes.length → s.stages[j + 1]? = some ⟨p, none⟩ →
      consFin p = some fin → consFin p' = some fin → s.pipes[j]? = some q → q.content = 0 → s.alive j = false →
      ChainEv c fin s { s with stages := s.stages.set (j + 1) ⟨p', some fin⟩ }
  | consRead {j m : Nat} {p p' : SProg} {q : Pipe} : j + 1 = s.pipes.length → s.stages[j + 1]? = some ⟨p, none⟩ →
      consFin p = some fin → consFin p' = some fin → s.pipes[j]? = some q → m ≤ q.content →
      (∀ r, consRoom p = some r → m ≤ r ∧ consRoom p' = some (r - m)) → (consRoom p = none → consRoom p' = none) →
      ChainEv c fin s { stages := s.stages.set (j + 1) ⟨p', none⟩,
                        pipes := s.pipes.set j { q with content := q.content - m } }

theorem Fits.writer {c : PCfg} {fin L i n k : Nat} {f : Nat → SProg} {e : Option Nat} (hf : f = .spew ∨ f = .cat)
    (h : Fits c fin L i ⟨f (n + 1), none⟩) (hiL : i < L) (hk : k ≤ n + 1) : Fits c fin L i ⟨f k, e⟩ := by
  have notLast : i = L → False := fun hL => absurd hiL (hL ▸ Nat.lt_irrefl _)
  rcases hf with rfl | rfl
  · refine ⟨fun _ => ⟨k, rfl⟩, fun h1 h2 => ?_, fun hL => (notLast hL).elim⟩
    obtain ⟨b, hb, _⟩ := h.2.1 h1 h2; cases hb
  · refine ⟨fun h0 => ?_, fun h1 h2 => ?_, fun hL => (notLast hL).elim⟩
    · obtain ⟨m, hm⟩ := h.1 h0; cases hm
    · obtain ⟨b, hb, hbc⟩ := h.2.1 h1 h2; cases hb; exact ⟨k, rfl, by omega⟩

theorem writer_step {c : PCfg} {fin : Nat} {s s' : PSys} {i n : Nat} {f : Nat → SProg} (h : Shape c fin s)
    (hf : f = .spew ∨ f = .cat) (hst : s.stages[i]? = some ⟨f (n + 1), none⟩) (hiL : i < s.pipes.length)
    (hs : stageStep c s i = some s') : ChainEv c fin s s' ∧ Shape c fin s' := by
  have hh := hyg_step h.hyg hs
  have hq : s.pipes[i]? = some s.pipes[i] := List.getElem?_eq_getElem hiL
  have hwn := write_next (c := c) (n := n + 1) hq (h.hyg.holders i _ hq).1 (Nat.succ_le_succ (Nat.zero_le n))
  have hfit := h.fits i _ hst
  rcases step_write hf hst hs with ⟨hw, rfl⟩ | ⟨k, hw, rfl⟩
  · exact ⟨.epipe hf hst hiL (hwn.1 hw), h.set hh hst rfl rfl (hfit.writer hf hiL (Nat.zero_le _))⟩
  · obtain ⟨hal, _, hkn, hkc⟩ := hwn.2 k hw
    have hb := h.hyg.bound i _ hq
    rw [addContent_eq hq] at hh ⊢
    exact ⟨.write hf hst hq hal hkn (by omega), h.set hh hst rfl (by simp) (hfit.writer hf hiL (by omega))⟩

theorem reader_facts {c : PCfg} {s : PSys} {j : Nat} (hh : Hyg c s) (hj : j < s.pipes.length) (want : Nat) :
    ∃ q, s.pipes[j]? = some q ∧ (sysRead s (j + 1) want = .eof → q.content = 0 ∧ s.alive j = false) ∧
      (∀ k, sysRead s (j + 1) want = .got k → k ≤ want ∧ k ≤ q.content) := by
  have hq : s.pipes[j]? = some s.pipes[j] := List.getElem?_eq_getElem hj
  have := read_prev (want := want) hq (hh.holders j _ hq).2
  exact ⟨_, hq, this.1, fun k hk => ⟨(this.2 k hk).1, (this.2 k hk).2.1⟩⟩

theorem shape_step {c : PCfg} {fin : Nat} {s s' : PSys} {i : Nat} (h : Shape c fin s)
    (hs : stageStep c s i = some s') : ChainEv c fin s s' ∧ Shape c fin s' := by
  have hh := hyg_step h.hyg hs
  obtain ⟨⟨prog, ex⟩, hst, he⟩ := step_live hs
  cases he
  obtain ⟨f0, fm, fl⟩ := h.fits i _ hst
  have hi : i < s.pipes.length + 1 := by have := lt_of_get hst; have := h.hyg.len; omega
  rcases Nat.eq_zero_or_pos i with rfl | hpos
  · -- the producer
    obtain ⟨m, hm⟩ := f0 rfl
    cases (hm : prog = .spew m)
    cases m with
    | zero =>
      cases step_exit (.inr (.inr ⟨rfl, rfl⟩)) hst hs
      exact ⟨.prodDone hst, h.set hh hst rfl rfl ⟨fun _ => ⟨0, rfl⟩, fun h0 => absurd h0 (Nat.lt_irrefl 0),
        fun e => absurd h.pos (e ▸ Nat.lt_irrefl 0)⟩⟩
    | succ n => exact writer_step h (.inl rfl) hst h.pos hs
  · obtain ⟨j, rfl⟩ : ∃ j, i = j + 1 := ⟨i - 1, by omega⟩
    have hj : j < s.pipes.length := by omega
    rcases Nat.lt_or_ge (j + 1) s.pipes.length with hiL | hiL
    · -- a `cat`
      obtain ⟨b, hb, _⟩ := fm hpos hiL
      cases (hb : prog = .cat b)
      cases b with
      | succ n => exact writer_step h (.inr rfl) hst hiL hs
      | zero =>
        obtain ⟨q, hq, heof, hgot⟩ := reader_facts h.hyg hj c.chunk
        rcases step_cat_read hst hs with ⟨hr, rfl⟩ | ⟨k, hr, rfl⟩
        · obtain ⟨h0, hdead⟩ := heof hr
          exact ⟨.catEof hst hiL hq h0 hdead, h.set hh hst rfl rfl ⟨nofun, fun _ _ => ⟨0, rfl, Nat.zero_le _⟩,
            fun e => absurd hiL (e ▸ Nat.lt_irrefl _)⟩⟩
        · obtain ⟨hk1, hk2⟩ := hgot k hr
          simp only [Nat.add_sub_cancel] at hh ⊢
          rw [subContent_eq hq] at hh ⊢
          exact ⟨.catRead hst hiL hq hk2 hk1, h.set hh hst rfl (by simp) ⟨nofun, fun _ _ => ⟨k, rfl, hk1⟩,
            fun e => absurd hiL (e ▸ Nat.lt_irrefl _)⟩⟩
    · -- the consumer
      have hL : j + 1 = s.pipes.length := by omega
      obtain ⟨hfin, _⟩ := fl hL
      have hfin : consFin prog = some fin := hfin
      have fitL : ∀ (p : SProg) (e : Option Nat), consFin p = some fin → (e = none ∨ e = some fin) →
          Fits c fin s.pipes.length (j + 1) ⟨p, e⟩ :=
        fun p e h1 h2 => ⟨nofun, fun _ h3 => absurd h3 (hL ▸ Nat.lt_irrefl _), fun _ => ⟨h1, h2⟩⟩
      have hrf := fun want => reader_facts h.hyg hj want
      have ended : ∀ {p' : SProg}, consFin p' = some fin → ∀ {want : Nat}, sysRead s (j + 1) want = .eof →
          ChainEv c fin s (exitStage s (j + 1) fin p') := by
        intro p' hp' want hr
        obtain ⟨q, hq, heof, _⟩ := hrf want
        obtain ⟨h0, hdead⟩ := heof hr
        exact .consEof hL hst hfin hp' hq h0 hdead
      cases prog with
      | spew n => cases hfin
      | cat n => cases hfin
      | idle st =>
        cases hfin
        cases step_exit (.inl rfl) hst hs
        exact ⟨.consDone hL hst rfl rfl, h.set hh hst rfl rfl (fitL _ _ rfl (.inr rfl))⟩
      | drain =>
        cases hfin
        rcases step_drain hst hs with ⟨hr, rfl⟩ | ⟨k, hr, rfl⟩
        · exact ⟨ended rfl hr, h.set hh hst rfl rfl (fitL _ _ rfl (.inr rfl))⟩
        · obtain ⟨q, hq, _, hgot⟩ := hrf c.chunk
          obtain ⟨_, hk2⟩ := hgot k hr
          simp only [Nat.add_sub_cancel] at hh ⊢
          rw [subContent_self hst hq] at hh ⊢
          exact ⟨.consRead hL hst rfl rfl hq hk2 nofun (fun _ => rfl),
            h.set hh hst rfl (by simp) (fitL _ _ rfl (.inl rfl))⟩
      | take k st =>
        cases hfin
        cases k with
        | zero =>
          cases step_exit (.inr (.inl rfl)) hst hs
          exact ⟨.consDone hL hst rfl rfl, h.set hh hst rfl rfl (fitL _ _ rfl (.inr rfl))⟩
        | succ k =>
          rcases step_take hst hs with ⟨hr, rfl⟩ | ⟨m, hr, rfl⟩
          · exact ⟨ended rfl hr, h.set hh hst rfl rfl (fitL _ _ rfl (.inr rfl))⟩
          · obtain ⟨q, hq, _, hgot⟩ := hrf (k + 1)
            obtain ⟨hm1, hm2⟩ := hgot m hr
            simp only [Nat.add_sub_cancel] at hh ⊢
            rw [subContent_eq hq] at hh ⊢
            exact ⟨.consRead hL hst rfl rfl hq hm2 (fun r hr' => by cases hr'; exact ⟨hm1, rfl⟩) nofun,
              h.set hh hst rfl (by simp) (fitL _ _ rfl (.inl rfl))⟩

/-- Success regime: everything in the pipeline fits into what the last stage still wants, and once that stage is gone
    nothing is left; a stage before the last is gone only with status 0, having left nothing at or before its place,
    and after all stages before it. -/
structure ChainOk (c : PCfg) (s : PSys) : Prop where
  fits : ∀ st, s.stages[s.pipes.length]? = some st → st.exit = none →
    ∀ a, consRoom st.prog = some a → upto s s.pipes.length ≤ a
  drained : s.alive s.pipes.length = false → upto s s.pipes.length = 0
  gone : ∀ i, i < s.pipes.length → s.alive i = false → upto s i = 0 ∧ ∀ j, j < i → s.alive j = false
  wexit : ∀ i st, i < s.pipes.length → s.stages[i]? = some st → st.exit = none ∨ st.exit = some 0

/-- Failure regime: for every live stage, what is at or before it exceeds what the pipes and buffers before it and the
    stage itself can hold, so it cannot run dry and end with its own status; a stage before the last is gone only
    with status 1, after its reader. -/
structure ChainFail (c : PCfg) (s : PSys) : Prop where
  -- before stage `i` lie `i` pipes and `i - 1` buffers of `cat`s (none before stage 0: the subtraction truncates)
  over : ∀ i st, s.stages[i]? = some st → st.exit = none →
    ∃ a, absorb c st.prog = some a ∧ i * c.cap + (i - 1) * c.chunk + a < upto s i
  order : ∀ i, i < s.pipes.length → s.alive i = false → s.alive (i + 1) = false
  wexit : ∀ i st, i < s.pipes.length → s.stages[i]? = some st → st.exit = none ∨ st.exit = some 1

theorem wexit_set {s : PSys} {L w i : Nat} {st : Stage}
    (h : ∀ k stk, k < L → s.stages[k]? = some stk → stk.exit = none ∨ stk.exit = some w)
    (hst : s.stages[i]? = some st) {st' : Stage} (h' : i < L → st'.exit = none ∨ st'.exit = some w) :
    ∀ k stk, k < L → (s.stages.set i st')[k]? = some stk → stk.exit = none ∨ stk.exit = some w := by
  intro k stk hk hget
  rcases of_get_set hst hget with ⟨rfl, rfl⟩ | ⟨_, hget⟩
  · exact h' hk
  · exact h k stk hk hget

/-- a stage ends without losing a byte (success regime) -/
theorem ChainOk.die {c : PCfg} {s : PSys} {i e : Nat} {st : Stage} {p : SProg} (h : ChainOk c s)
    (hst : s.stages[i]? = some st) (hint : internal p = internal st.prog)
    (hgone : i < s.pipes.length → e = 0 ∧ upto s i = 0 ∧ ∀ j, j < i → s.alive j = false)
    (hdr : i = s.pipes.length → upto s s.pipes.length = 0) :
    ChainOk c { s with stages := s.stages.set i ⟨p, some e⟩ } := by
  have hup := upto_stage_same (st' := ⟨p, some e⟩) hst hint
  have hal : ∀ k, PSys.alive { s with stages := s.stages.set i ⟨p, some e⟩ } k = if k = i then false else s.alive k :=
    fun k => alive_set hst _ _ k
  have hdead : ∀ k, s.alive k = false → PSys.alive { s with stages := s.stages.set i ⟨p, some e⟩ } k = false := by
    intro k hk; rw [hal]; split <;> simp [hk]
  refine ⟨?_, ?_, ?_, ?_⟩
  · intro stL hL hex a ha
    rcases of_get_set hst hL with ⟨_, rfl⟩ | ⟨_, hL⟩
    · cases hex
    · rw [hup]; exact h.fits stL hL hex a ha
  · intro hd
    rw [hup]
    rw [hal] at hd
    by_cases hLi : s.pipes.length = i
    · exact hdr hLi.symm
    · rw [if_neg hLi] at hd; exact h.drained hd
  · intro k hk hd
    rw [hup]
    rw [hal] at hd
    by_cases hki : k = i
    · obtain ⟨_, h1, h2⟩ := hgone (hki ▸ hk)
      exact ⟨hki ▸ h1, fun j hj => hdead j (h2 j (hki ▸ hj))⟩
    · rw [if_neg hki] at hd
      obtain ⟨h1, h2⟩ := h.gone k hk hd
      exact ⟨h1, fun j hj => hdead j (h2 j hj)⟩
  · exact wexit_set h.wexit hst fun hlt => .inr (by rw [(hgone hlt).1])

/-- bytes move but nobody ends (success regime) -/
theorem ChainOk.move {c : PCfg} {s s' : PSys} (h : ChainOk c s) (hl : s'.pipes.length = s.pipes.length)
    (hal : ∀ k, s'.alive k = s.alive k) (hle : ∀ k, upto s' k ≤ upto s k)
    (hfits : s.alive s.pipes.length = true → ∀ st', s'.stages[s.pipes.length]? = some st' →
      ∀ a, consRoom st'.prog = some a → upto s' s.pipes.length ≤ a)
    (hw : ∀ i st', i < s.pipes.length → s'.stages[i]? = some st' → st'.exit = none ∨ st'.exit = some 0) :
    ChainOk c s' := by
  refine ⟨?_, ?_, ?_, ?_⟩
  · intro stL hL hex a ha
    rw [hl] at hL ⊢
    have : s'.alive s.pipes.length = true := by rw [alive_get hL, hex]; rfl
    exact hfits (hal _ ▸ this) stL hL a ha
  · intro hd
    rw [hl] at hd ⊢
    have := h.drained (hal _ ▸ hd)
    have := hle s.pipes.length; omega
  · intro k hk hd
    rw [hl] at hk
    obtain ⟨h1, h2⟩ := h.gone k hk (hal k ▸ hd)
    exact ⟨by have := hle k; omega, fun j hj => by rw [hal]; exact h2 j hj⟩
  · intro k stk hk hget; rw [hl] at hk; exact hw k stk hk hget

theorem internal_writer {f : Nat → SProg} (hf : f = .spew ∨ f = .cat) (n : Nat) : internal (f n) = n := by
  rcases hf with rfl | rfl <;> rfl

theorem chainOk_ev {c : PCfg} {fin : Nat} {s s' : PSys} (hs : Shape c fin s) (h : ChainOk c s)
    (ev : ChainEv c fin s s') : ChainOk c s' := by
  have exitNone : ∀ {k : Nat} {st : Stage}, s.stages[k]? = some st → s.alive k = true → st.exit = none :=
    fun hst hal => Option.isNone_iff_eq_none.mp (alive_get hst ▸ hal)
  cases ev with
  | prodDone hst =>
    exact h.die hst rfl (fun _ => ⟨rfl, by simp [upto, hst, internal], nofun⟩)
      (fun e => absurd hs.pos (e ▸ Nat.lt_irrefl 0))
  | @epipe i n f hf hst hiL hdead =>
    -- impossible: the reader of a stage that still holds bytes is not gone
    exfalso
    have hali : s.alive i = true := alive_get hst
    rcases Nat.lt_or_ge (i + 1) s.pipes.length with h1 | h1
    · rw [(h.gone (i + 1) h1 hdead).2 i (Nat.lt_succ_self i)] at hali; cases hali
    · have hL : i + 1 = s.pipes.length := by omega
      have h0 := h.drained (hL ▸ hdead)
      have h2 := internal_le_upto hst
      have h3 := upto_mono s (Nat.le_of_lt hiL)
      rw [show internal (f (n + 1)) = n + 1 from internal_writer hf _] at h2
      omega
  | @write i n m f q hf hst hq hal hmn hcap =>
    have hup := upto_write (st' := ⟨f (n + 1 - m), none⟩) (p' := { q with content := q.content + m }) hst hq
      (by rw [internal_writer hf, internal_writer hf]; omega) rfl
    have hiL : i < s.pipes.length := lt_of_get hq
    refine h.move (by simp) (fun k => ?_) (fun k => by have := hup k; omega) (fun halL stL hL a ha => ?_)
      (fun k stk hk hget => ?_)
    · exact alive_set_live hst rfl _ _ k
    · rw [get_set hst, if_neg (Nat.ne_of_gt hiL)] at hL
      have := hup s.pipes.length
      rw [if_neg (Nat.ne_of_gt hiL)] at this
      have := h.fits stL hL (exitNone hL halL) a ha
      omega
    · exact wexit_set h.wexit hst (fun _ => .inl rfl) k stk (by simpa using hk) hget
  | @catEof j q hst hiL hq h0 hdead =>
    obtain ⟨g1, g2⟩ := h.gone j (by omega) hdead
    refine h.die hst rfl (fun _ => ⟨rfl, by simp [upto, hq, hst, g1, h0, internal], fun j' hj' => ?_⟩)
      (fun e => absurd hiL (e ▸ Nat.lt_irrefl _))
    rcases Nat.lt_or_ge j' j with h1 | h1
    · exact g2 j' h1
    · cases (by omega : j' = j); exact hdead
  | @catRead j m q hst hiL hq hm hc =>
    have hup := upto_read (d := 0) (st' := ⟨.cat m, none⟩) (p' := { q with content := q.content - m }) hst hq
      (by simp only [internal]; omega)
    simp only [ite_self, Nat.add_zero] at hup
    refine h.move (by simp) (fun k => ?_) (fun k => Nat.le_of_eq (hup k)) (fun halL stL hL a ha => ?_)
      (fun k stk hk hget => ?_)
    · exact alive_set_live hst rfl _ _ k
    · rw [get_set hst, if_neg (Nat.ne_of_gt hiL)] at hL
      rw [hup]; exact h.fits stL hL (exitNone hL halL) a ha
    · exact wexit_set h.wexit hst (fun _ => .inl rfl) k stk (by simpa using hk) hget
  | @consDone j p hL hst hroom hfin =>
    refine h.die hst rfl (fun hlt => absurd hlt (hL ▸ Nat.lt_irrefl _)) (fun _ => ?_)
    have := h.fits _ (hL ▸ hst) rfl 0 hroom
    omega
  | @consEof j p p' q hL hst hfin hfin' hq h0 hdead =>
    obtain ⟨g1, _⟩ := h.gone j (by omega) hdead
    refine h.die hst (by rw [consFin_internal hfin, consFin_internal hfin'])
      (fun hlt => absurd hlt (hL ▸ Nat.lt_irrefl _)) (fun _ => ?_)
    rw [← hL]
    simp [upto, hq, hst, g1, h0, consFin_internal hfin]
  | @consRead j m p p' q hL hst hfin hfin' hq hm hroom hnone =>
    have hup := upto_read (d := m) (st' := ⟨p', none⟩) (p' := { q with content := q.content - m }) hst hq
      (by simp only [consFin_internal hfin, consFin_internal hfin']; omega)
    refine h.move (by simp) (fun k => ?_) (fun k => by have := hup k; omega) (fun halL stL hget a ha => ?_)
      (fun k stk hk hget => ?_)
    · exact alive_set_live hst rfl _ _ k
    · rw [← hL, get_set hst, if_pos rfl] at hget
      cases hget
      have hu := hup (j + 1)
      rw [if_pos (Nat.lt_succ_self j)] at hu
      cases hr : consRoom p with
      | none => rw [hnone hr] at ha; cases ha
      | some r =>
        obtain ⟨hmr, hr'⟩ := hroom r hr
        rw [hr'] at ha; cases ha
        have := h.fits _ (hL ▸ hst) rfl r hr
        rw [← hL] at this ⊢
        omega
    · rw [get_set hst, if_neg (by omega)] at hget; exact h.wexit k stk hk hget

theorem absorb_cons {c : PCfg} {p : SProg} {fin : Nat} (h : consFin p = some fin) : absorb c p = consRoom p := by
  cases p <;> first | rfl | cases h

theorem absorb_writer {c : PCfg} {f : Nat → SProg} (hf : f = .spew ∨ f = .cat) (n k : Nat) :
    absorb c (f n) = absorb c (f k) := by
  rcases hf with rfl | rfl <;> rfl

/-- the arithmetic of the failure regime at a `write` of `m` bytes by stage `i`: `U` is `upto s i`, `ci` the content of
    pipe `i`, `b'` the buffer of stage `i+1`, `a` and `a'` what stages `i` and `i+1` can absorb -/
theorem over_write {i cap chunk a a' U ci b' m : Nat}
    (h1 : (i + 1) * cap + i * chunk + a' < U + ci + b') (hc : ci + m ≤ cap) (hb : b' ≤ a')
    (ha : (i = 0 → a = 0) ∧ (0 < i → a = chunk)) : i * cap + (i - 1) * chunk + a + m < U := by
  rw [Nat.succ_mul] at h1
  cases i with
  | zero => have := ha.1 rfl; simp at h1 ⊢; omega
  | succ j =>
    have := ha.2 (Nat.succ_pos j)
    rw [Nat.succ_mul j chunk] at h1
    simp only [Nat.add_sub_cancel]
    omega

theorem ChainFail.dead_above {c : PCfg} {s : PSys} (h : ChainFail c s) {i : Nat} (hd : s.alive i = false) :
    ∀ k, i ≤ k → k ≤ s.pipes.length → s.alive k = false := by
  intro k
  induction k with
  | zero => intro h0 _; cases Nat.le_zero.mp h0; exact hd
  | succ k ih =>
    intro h1 h2
    rcases Nat.lt_or_ge i (k + 1) with h3 | h3
    · exact h.order k (by omega) (ih (by omega) (by omega))
    · cases Nat.le_antisymm h1 h3; exact hd

/-- the last stage ends (failure regime): nothing upstream is touched -/
theorem ChainFail.consEnd {c : PCfg} {s : PSys} {j e : Nat} {st : Stage} {p' : SProg} (h : ChainFail c s)
    (hL : j + 1 = s.pipes.length) (hst : s.stages[j + 1]? = some st) (hint : internal p' = internal st.prog) :
    ChainFail c { s with stages := s.stages.set (j + 1) ⟨p', some e⟩ } := by
  have hup := upto_stage_same (st' := ⟨p', some e⟩) hst hint
  have hal : ∀ k, PSys.alive { s with stages := s.stages.set (j + 1) ⟨p', some e⟩ } k =
      if k = j + 1 then false else s.alive k := fun k => alive_set hst _ _ k
  refine ⟨fun k stk hget hex => ?_, fun k hk hd => ?_, fun k stk hk hget => ?_⟩
  · rcases of_get_set hst hget with ⟨_, rfl⟩ | ⟨_, hget⟩
    · cases hex
    · rw [hup]; exact h.over k stk hget hex
  · have hk' : k < s.pipes.length := hk
    rw [hal, if_neg (by omega)] at hd
    rw [hal]
    have := h.order k hk' hd
    split <;> simp [this]
  · have hk' : k < s.pipes.length := hk
    rw [get_set hst, if_neg (by omega)] at hget; exact h.wexit k stk hk' hget

/-- bytes move but nobody ends (failure regime): only `over` is left to show -/
theorem ChainFail.move {c : PCfg} {s : PSys} {i : Nat} {st : Stage} {p' : SProg} {ps : List Pipe} (h : ChainFail c s)
    (hst : s.stages[i]? = some st) (hex : st.exit = none) (hl : ps.length = s.pipes.length)
    (hover : ∀ k stk, (s.stages.set i ⟨p', none⟩)[k]? = some stk → stk.exit = none →
      ∃ a, absorb c stk.prog = some a ∧
        k * c.cap + (k - 1) * c.chunk + a < upto { stages := s.stages.set i ⟨p', none⟩, pipes := ps } k) :
    ChainFail c { stages := s.stages.set i ⟨p', none⟩, pipes := ps } := by
  have hal := fun k => alive_set_live hst hex p' ps k
  refine ⟨hover, fun k hk hd => ?_, fun k stk hk hget => ?_⟩
  · rw [hal] at hd ⊢; exact h.order k (hl ▸ hk) hd
  · exact wexit_set h.wexit hst (fun _ => .inl rfl) k stk (hl ▸ hk) hget

theorem chainFail_ev {c : PCfg} {fin : Nat} {s s' : PSys} (hs : Shape c fin s) (h : ChainFail c s)
    (ev : ChainEv c fin s s') : ChainFail c s' := by
  have hlen := hs.hyg.len
  cases ev with
  | prodDone hst =>
    -- impossible: the producer cannot run dry
    obtain ⟨a, ha, hov⟩ := h.over 0 _ hst rfl
    simp [upto, hst, internal] at hov
  | @catEof j q hst hiL hq h0 hdead =>
    -- impossible: a `cat` is gone before its writer is
    have := h.order j (by omega) hdead
    rw [alive_get hst] at this; cases this
  | @epipe i n f hf hst hiL hdead =>
    have hup := upto_stage (d := n + 1) (st' := ⟨f 0, some 1⟩) hst
      (by rw [internal_writer hf, internal_writer hf]; omega)
    have hal : ∀ k, PSys.alive { s with stages := s.stages.set i ⟨f 0, some 1⟩ } k = if k = i then false else s.alive k :=
      fun k => alive_set hst _ _ k
    refine ⟨fun k stk hget hex => ?_, fun k hk hd => ?_, fun k stk hk hget => ?_⟩
    · rcases of_get_set hst hget with ⟨_, rfl⟩ | ⟨hki, hget⟩
      · cases hex
      · rcases Nat.lt_or_ge k i with h1 | h1
        · have := hup k
          rw [if_neg (by omega)] at this
          obtain ⟨a, ha, hov⟩ := h.over k stk hget hex
          exact ⟨a, ha, by omega⟩
        · -- everything after the dead reader is gone
          have := h.dead_above hdead k (by omega) (by have := lt_of_get hget; omega)
          rw [alive_get hget, hex] at this; cases this
    · rw [hal] at hd ⊢
      by_cases hki : k = i
      · rw [if_neg (by omega), hki]; exact hdead
      · rw [if_neg hki] at hd
        have := h.order k hk hd
        split <;> simp [this]
    · exact wexit_set h.wexit hst (fun _ => .inr rfl) k stk hk hget
  | @write i n m f q hf hst hq hal hmn hcap =>
    have hup := upto_write (st' := ⟨f (n + 1 - m), none⟩) (p' := { q with content := q.content + m }) hst hq
      (by rw [internal_writer hf, internal_writer hf]; omega) rfl
    have hiL : i < s.pipes.length := lt_of_get hq
    refine h.move hst rfl (by simp) fun k stk hget hex => ?_
    · have hu := hup k
      rcases of_get_set hst hget with ⟨rfl, rfl⟩ | ⟨hki, hget⟩
      · rw [if_pos rfl] at hu
        -- the reader is alive, so the clause holds one place further down
        obtain ⟨st1, hst1⟩ : ∃ st1, s.stages[k + 1]? = some st1 :=
          ⟨_, List.getElem?_eq_getElem (by omega : k + 1 < s.stages.length)⟩
        have hex1 : st1.exit = none := Option.isNone_iff_eq_none.mp (alive_get hst1 ▸ hal)
        obtain ⟨a', ha', hov⟩ := h.over (k + 1) st1 hst1 hex1
        obtain ⟨a, ha, _⟩ := h.over k _ hst rfl
        obtain ⟨f0, fm, _⟩ := hs.fits k _ hst
        obtain ⟨_, fm1, fl1⟩ := hs.fits (k + 1) _ hst1
        have hshape : (k = 0 → a = 0) ∧ (0 < k → a = c.chunk) := by
          constructor
          · intro h0; obtain ⟨m', hm'⟩ := f0 h0
            rw [show (⟨f (n + 1), none⟩ : Stage).prog = f (n + 1) from rfl] at ha hm'
            rw [hm'] at ha; cases ha; rfl
          · intro h0; obtain ⟨b, hb, _⟩ := fm h0 hiL
            rw [show (⟨f (n + 1), none⟩ : Stage).prog = f (n + 1) from rfl] at ha hb
            rw [hb] at ha; cases ha; rfl
        have hhold : internal st1.prog ≤ a' := by
          rcases Nat.lt_or_ge (k + 1) s.pipes.length with h1 | h1
          · obtain ⟨b, hb, hbc⟩ := fm1 (Nat.succ_pos k) h1
            rw [hb] at ha' ⊢; cases ha'; exact hbc
          · rw [consFin_internal (fl1 (by omega)).1]; exact Nat.zero_le _
        have hU : upto s (k + 1) = upto s k + q.content + internal st1.prog := by simp [upto, hq, hst1]
        rw [hU, Nat.add_sub_cancel] at hov
        have := over_write (m := m) hov hcap hhold hshape
        exact ⟨a, (absorb_writer hf _ _).trans ha, by omega⟩
      · rw [if_neg hki] at hu
        obtain ⟨a, ha, hov⟩ := h.over k stk hget hex
        exact ⟨a, ha, by omega⟩
  | @catRead j m q hst hiL hq hm hc =>
    have hup := upto_read (d := 0) (st' := ⟨.cat m, none⟩) (p' := { q with content := q.content - m }) hst hq
      (by simp only [internal]; omega)
    simp only [ite_self, Nat.add_zero] at hup
    refine h.move hst rfl (by simp) fun k stk hget hex => ?_
    · rw [hup]
      rcases of_get_set hst hget with ⟨rfl, rfl⟩ | ⟨_, hget⟩
      · exact h.over (j + 1) ⟨.cat 0, none⟩ hst rfl
      · exact h.over k stk hget hex
  | @consDone j p hL hst hroom hfin => exact h.consEnd hL hst rfl
  | @consEof j p p' q hL hst hfin hfin' hq h0 hdead =>
    exact h.consEnd hL hst (by rw [consFin_internal hfin, consFin_internal hfin'])
  | @consRead j m p p' q hL hst hfin hfin' hq hm hroom hnone =>
    have hup := upto_read (d := m) (st' := ⟨p', none⟩) (p' := { q with content := q.content - m }) hst hq
      (by simp only [consFin_internal hfin, consFin_internal hfin']; omega)
    refine h.move hst rfl (by simp) fun k stk hget hex => ?_
    · have hu := hup k
      rcases of_get_set hst hget with ⟨rfl, rfl⟩ | ⟨hki, hget⟩
      · rw [if_pos (Nat.lt_succ_self j)] at hu
        obtain ⟨a, ha, hov⟩ := h.over (j + 1) _ hst rfl
        rw [show (⟨p, none⟩ : Stage).prog = p from rfl, absorb_cons hfin] at ha
        obtain ⟨hmr, hr'⟩ := hroom a ha
        exact ⟨a - m, by rw [show (⟨p', none⟩ : Stage).prog = p' from rfl, absorb_cons hfin']; exact hr', by omega⟩
      · have hk := lt_of_get hget
        rw [if_neg (by omega)] at hu
        obtain ⟨a, ha, hov⟩ := h.over k stk hget hex
        exact ⟨a, ha, by omega⟩

theorem chainEv_len {c : PCfg} {fin : Nat} {s s' : PSys} (ev : ChainEv c fin s s') :
    s'.pipes.length = s.pipes.length := by
  cases ev <;> simp

/-- what is kept along every run of a chain with `L` pipes, in the regime `fail` -/
structure Chain (c : PCfg) (fin : Nat) (fail : Bool) (L : Nat) (s : PSys) : Prop where
  shape : Shape c fin s
  len : s.pipes.length = L
  reg : if fail then ChainFail c s else ChainOk c s

theorem chain_steps {c : PCfg} {fin L : Nat} {fail : Bool} {s t : PSys} (h : Chain c fin fail L s)
    (hs : PSteps c s t) : Chain c fin fail L t := by
  induction hs with
  | refl => exact h
  | tail i _ hstep ih =>
    obtain ⟨ev, hsh⟩ := shape_step ih.shape hstep
    refine ⟨hsh, (chainEv_len ev).trans ih.len, ?_⟩
    have := ih.reg
    cases fail with
    | true => exact chainFail_ev ih.shape this ev
    | false => exact chainOk_ev ih.shape this ev

/-- `spew n | cat | … | cat | consumer` with `k` `cat`s -/
def chainProgs (n k : Nat) (p : SProg) : List SProg := .spew n :: (List.replicate k (.cat 0) ++ [p])

theorem chainProgs_get (n k : Nat) (p : SProg) (i : Nat) :
    (chainProgs n k p)[i]? =
      if i = 0 then some (.spew n) else if i ≤ k then some (.cat 0) else if i = k + 1 then some p else none := by
  cases i with
  | zero => rfl
  | succ i =>
    simp only [chainProgs, List.getElem?_cons_succ, Nat.succ_ne_zero, if_false]
    rcases Nat.lt_or_ge i k with h | h
    · rw [List.getElem?_append_left (by simpa using h), List.getElem?_replicate, if_pos h, if_pos (by omega)]
    · rw [List.getElem?_append_right (by simpa using h), if_neg (by omega)]
      simp only [List.length_replicate]
      by_cases hik : i = k
      · subst hik; simp
      · have : i - k = (i - k - 1) + 1 := by omega
        rw [this]; simp; omega

theorem chain_init {c : PCfg} {fin : Nat} {fail : Bool} (n k : Nat) {p : SProg} (hfin : consFin p = some fin)
    (hreg : if fail then ∃ r, consRoom p = some r ∧ (k + 1) * c.cap + k * c.chunk + r < n
      else ∀ r, consRoom p = some r → n ≤ r) :
    Chain c fin fail (k + 1) (mkPipeline (chainProgs n k p)) := by
  have hlen : (mkPipeline (chainProgs n k p)).pipes.length = k + 1 := by rw [mkPipeline_pipes_length]; simp [chainProgs]
  have hget : ∀ (i : Nat) (st : Stage), (mkPipeline (chainProgs n k p)).stages[i]? = some st →
      st.exit = none ∧ (chainProgs n k p)[i]? = some st.prog := by
    intro i st h
    rw [mkPipeline_stage] at h
    obtain ⟨q, hq, rfl⟩ := Option.map_eq_some_iff.mp h
    exact ⟨rfl, hq⟩
  have hup : ∀ i, upto (mkPipeline (chainProgs n k p)) i = n := by
    intro i
    induction i with
    | zero => simp [upto, mkPipeline_stage, chainProgs, internal]
    | succ i ih =>
      have h1 : (((mkPipeline (chainProgs n k p)).pipes[i]?).map (·.content)).getD 0 = 0 := by
        cases hp : (mkPipeline (chainProgs n k p)).pipes[i]? with
        | none => rfl
        | some q => rw [(mkPipeline_pipe.mp hp).2]; rfl
      have h2 : (((mkPipeline (chainProgs n k p)).stages[i + 1]?).map (internal ·.prog)).getD 0 = 0 := by
        simp only [mkPipeline_stage, chainProgs_get, Nat.succ_ne_zero, if_false]
        split
        · rfl
        · split
          · simp [consFin_internal hfin]
          · rfl
      simp only [upto, ih, h1, h2, Nat.add_zero]
  have halive : ∀ i, i ≤ k + 1 → (mkPipeline (chainProgs n k p)).alive i = false → False := by
    intro i hi hd
    have hlt : i < (mkPipeline (chainProgs n k p)).stages.length := by
      rw [mkPipeline_stages_length]; simp [chainProgs]; omega
    have hst := List.getElem?_eq_getElem hlt
    rw [alive_get hst, (hget i _ hst).1] at hd; cases hd
  refine ⟨⟨hyg_init c _ (by simp [chainProgs]), by omega, fun i st hst => ?_⟩, hlen, ?_⟩
  · obtain ⟨hex, hp⟩ := hget i st hst
    rw [chainProgs_get] at hp
    rw [hlen]
    refine ⟨fun h0 => ?_, fun h0 h1 => ?_, fun h0 => ?_⟩
    · rw [if_pos h0] at hp; exact ⟨n, (Option.some.inj hp).symm⟩
    · rw [if_neg (by omega), if_pos (by omega)] at hp; exact ⟨0, (Option.some.inj hp).symm, Nat.zero_le _⟩
    · rw [if_neg (by omega), if_neg (by omega), if_pos h0] at hp
      exact ⟨(Option.some.inj hp) ▸ hfin, .inl hex⟩
  · cases fail with
    | false =>
      simp only [Bool.false_eq_true, if_false] at hreg ⊢
      refine ⟨fun st hst _ a ha => ?_, fun hd => (halive _ (by omega) hd).elim,
        fun i hi hd => (halive i (by omega) hd).elim, fun i st _ hst => .inl (hget i st hst).1⟩
      rw [hup]
      obtain ⟨_, hp⟩ := hget _ st hst
      rw [hlen, chainProgs_get, if_neg (by omega), if_neg (by omega), if_pos rfl] at hp
      exact hreg a ((Option.some.inj hp) ▸ ha)
    | true =>
      simp only [if_true] at hreg ⊢
      obtain ⟨r, hr, hlt⟩ := hreg
      refine ⟨fun i st hst _ => ?_, fun i hi hd => (halive i (by omega) hd).elim,
        fun i st _ hst => .inl (hget i st hst).1⟩
      obtain ⟨_, hp⟩ := hget i st hst
      have hi : i ≤ k + 1 := by
        have := lt_of_get hst; rw [mkPipeline_stages_length] at this; simp [chainProgs] at this; omega
      rw [hup]
      rw [chainProgs_get] at hp
      by_cases h0 : i = 0
      · rw [if_pos h0] at hp
        exact ⟨0, by rw [← Option.some.inj hp]; rfl, by subst h0; simp; omega⟩
      · rw [if_neg h0] at hp
        have h1 : i * c.cap ≤ (k + 1) * c.cap := Nat.mul_le_mul_right _ hi
        by_cases h2 : i ≤ k
        · rw [if_pos h2] at hp
          have h3 : (i - 1) * c.chunk + c.chunk ≤ k * c.chunk := by
            have : (i - 1 + 1) * c.chunk ≤ k * c.chunk := Nat.mul_le_mul_right _ (by omega)
            rw [Nat.succ_mul] at this; exact this
          exact ⟨c.chunk, by rw [← Option.some.inj hp]; rfl, by omega⟩
        · rw [if_neg h2, if_pos (by omega)] at hp
          have h3 : i = k + 1 := by omega
          subst h3
          exact ⟨r, by rw [← Option.some.inj hp, absorb_cons hfin]; exact hr, by simpa using hlt⟩

theorem chain_final {c : PCfg} {fin L : Nat} {fail : Bool} {t : PSys} (h : Chain c fin fail L t)
    (hd : t.done = true) : t.statuses = List.replicate L (if fail then 1 else 0) ++ [fin] := by
  have hlen : t.stages.length = L + 1 := by rw [← h.shape.hyg.len, h.len]
  have hall : ∀ (i : Nat) (st : Stage), t.stages[i]? = some st → st.exit ≠ none := fun i st hst hn => by
    obtain ⟨e, he⟩ := done_exit hd hst; rw [hn] at he; cases he
  have hw : ∀ (i : Nat) (st : Stage), i < L → t.stages[i]? = some st →
      st.exit = none ∨ st.exit = some (if fail then 1 else 0) := by
    intro i st hi hst
    have := h.reg
    cases fail with
    | true => exact this.wexit i st (h.len ▸ hi) hst
    | false => exact this.wexit i st (h.len ▸ hi) hst
  apply List.ext_getElem?
  intro i
  simp only [PSys.statuses, List.getElem?_map]
  rcases Nat.lt_or_ge i L with h1 | h1
  · have hst := List.getElem?_eq_getElem (by omega : i < t.stages.length)
    rw [hst, List.getElem?_append_left (by simpa using h1), List.getElem?_replicate, if_pos h1]
    rcases hw i _ h1 hst with e | e
    · exact absurd e (hall i _ hst)
    · simp [e]
  · rw [List.getElem?_append_right (by simpa using h1)]
    simp only [List.length_replicate]
    by_cases h2 : i = L
    · subst h2
      have hst := List.getElem?_eq_getElem (by omega : i < t.stages.length)
      obtain ⟨_, _, fl⟩ := h.shape.fits i _ hst
      rcases (fl h.len.symm).2 with e | e
      · exact absurd e (hall i _ hst)
      · simp [hst, e]
    · rw [List.getElem?_eq_none (by omega : t.stages.length ≤ i)]
      have : i - L = (i - L - 1) + 1 := by omega
      rw [this]; rfl

theorem raceFree3_eq (cap chunk n : Nat) (cons : Spec.Flow) :
    Spec.raceFree3 cap chunk n cons = Spec.raceFree2 (cap + chunk + cap) n cons := by
  cases cons <;> rfl

theorem raceFree2_regime {B n : Nat} {cons : Spec.Flow} (h : Spec.raceFree2 B n cons = true) :
    ∃ (fin : Nat) (fail : Bool), consFin (flowProg cons) = some fin ∧
      (if fail then ∃ k, consRoom (flowProg cons) = some k ∧ B + k < n
        else ∀ k, consRoom (flowProg cons) = some k → n ≤ k) ∧
      Spec.flowStatuses 0 [.spew n, cons] = [if fail then 1 else 0, fin] := by
  cases cons with
  | spew m => cases h
  | cat => cases h
  | drain =>
    have h : n ≤ Spec.unbounded := by simpa [Spec.raceFree2] using h
    exact ⟨0, false, rfl, nofun, by simp [Spec.flowStatuses, Spec.accept, h]⟩
  | take k st =>
    simp only [Spec.raceFree2, Bool.or_eq_true, decide_eq_true_eq] at h
    rcases h with h | h
    · exact ⟨st, false, rfl, by rintro _ ⟨⟩; exact h, by simp [Spec.flowStatuses, Spec.accept, h]⟩
    · have : ¬ n ≤ k := by omega
      exact ⟨st, true, rfl, ⟨k, rfl, h⟩, by simp [Spec.flowStatuses, Spec.accept, this]⟩
  | st s =>
    simp only [Spec.raceFree2, Bool.or_eq_true, decide_eq_true_eq] at h
    rcases h with h | h
    · exact ⟨s, false, rfl, by rintro _ ⟨⟩; omega, by simp [Spec.flowStatuses, Spec.accept, h]⟩
    · have : ¬ n = 0 := by omega
      exact ⟨s, true, rfl, ⟨0, rfl, h⟩, by simp [Spec.flowStatuses, Spec.accept, this]⟩

theorem accept_cats (k : Nat) (rest : List Spec.Flow) :
    Spec.accept (List.replicate k .cat ++ rest) = Spec.accept rest := by
  induction k with
  | zero => rfl
  | succ k ih => simpa [List.replicate_succ, Spec.accept] using ih

theorem flowStatuses_cats (supply k : Nat) (rest : List Spec.Flow) :
    Spec.flowStatuses supply (List.replicate k .cat ++ rest) =
      List.replicate k (if supply ≤ Spec.accept rest then 0 else 1) ++ Spec.flowStatuses supply rest := by
  induction k with
  | zero => rfl
  | succ k ih => simp only [List.replicate_succ, List.cons_append, Spec.flowStatuses, accept_cats, ih]

/-- `spew n | cat | … | cat | consumer` with ANY number `k` of `cat`s, in the regime where the consumer takes everything
    or what it leaves exceeds what the `k+1` pipes and the `k` buffers in between can hold: every complete run ends
    with the statuses `Spec.flowStatuses` predicts. -/
theorem chain_statuses_exact (c : PCfg) (k n : Nat) (cons : Spec.Flow)
    (hrf : Spec.raceFree2 ((k + 1) * c.cap + k * c.chunk) n cons = true) {t : PSys}
    (ht : PSteps c (mkPipeline (chainProgs n k (flowProg cons))) t) (hd : t.done = true) :
    t.statuses = Spec.flowStatuses 0 (.spew n :: (List.replicate k .cat ++ [cons])) := by
  obtain ⟨fin, fail, hfin, hreg, hspec⟩ := raceFree2_regime hrf
  have h0 : Chain c fin fail (k + 1) (mkPipeline (chainProgs n k (flowProg cons))) := chain_init n k hfin hreg
  rw [chain_final (chain_steps h0 ht) hd]
  simp only [Spec.flowStatuses, List.cons.injEq] at hspec
  simp only [Spec.flowStatuses, flowStatuses_cats, accept_cats, hspec.1, hspec.2, List.replicate_succ,
    List.cons_append]

end YashModel.Proc
