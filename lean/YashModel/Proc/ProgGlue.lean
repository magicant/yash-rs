/-
  C13 — what the driver builds (`Prog.lean`) is what the models speak of: `mkChildren` makes an initial state of the
  parent/children system (`specOf`), `waitAll` its requests; the text the driver prints for a descriptor is the Spec's.
-/
import YashModel.Proc.Order
import YashModel.Proc.ForkLemmas
import YashModel.Proc.Prog
namespace YashModel.Proc

/-- the children `mkChildren` makes, as a `spec` -/
def specOf (digits : List Nat) : Nat → List Nat → List (Nat × Result)
  | _, [] => []
  | base, s :: t => (fuelOf digits base, .exited s) :: specOf digits (base + 1) t

theorem mkChildren_eq (digits : List Nat) : ∀ (base : Nat) (sts : List Nat),
    mkChildren digits base sts = (specOf digits base sts).map fun (f, r) => { state := .running f r } := by
  intro base sts
  induction sts generalizing base with
  | nil => rfl
  | cons s t ih => simp [mkChildren, specOf, ih]

theorem specOf_snd (digits : List Nat) : ∀ (base : Nat) (sts : List Nat),
    (specOf digits base sts).map (·.2) = sts.map Result.exited := by
  intro base sts
  induction sts generalizing base with
  | nil => rfl
  | cons s t ih => simp [specOf, ih]

theorem specOf_length (digits : List Nat) (base : Nat) (sts : List Nat) :
    (specOf digits base sts).length = sts.length := by
  simpa using congrArg List.length (specOf_snd digits base sts)

/-- 18: `fuelOf < 3` internal steps, `childW` is 6 per step -/
theorem childrenW_mkChildren (digits : List Nat) : ∀ (base : Nat) (sts : List Nat),
    childrenW (mkChildren digits base sts) ≤ 18 * sts.length := by
  intro base sts
  induction sts generalizing base with
  | nil => simp [mkChildren, childrenW]
  | cons s t ih =>
    have := ih (base + 1)
    have hf : fuelOf digits base < 3 := by unfold fuelOf; exact Nat.mod_lt _ (by omega)
    simp only [mkChildren, childrenW, childW, List.length_cons]
    simp
    omega

theorem waitAll_eq (n : Nat) : waitAll 0 n = waitReqs (List.range n) := by
  simp [waitAll, waitReqs]

theorem showRes_kind (r : Res) : showKind r.kind = showRes r := by
  cases r <;> rfl

theorem mkChildren_one (digits : List Nat) (base v : Nat) :
    mkChildren digits base [v] = [{ state := .running (fuelOf digits base) (.exited v) }] := rfl

end YashModel.Proc
