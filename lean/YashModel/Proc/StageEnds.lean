/-
  C13 — pipelines of any number of stages and any mix of programs: how each stage can end (own status, or 1 after EPIPE
  once its reader has ended), as an invariant of the pipeline model (`FlowInv`); `stageStep_char`, what a step does to the
  stage that moves with the byte accounting of `stageStep_kinds` forgotten, also serves the joint system.
-/
import YashModel.Proc.PipelineRuns
namespace YashModel.Proc

/-- what one step does to the stage that moves: the other stages are untouched, the stage keeps its kind, and if it
    ends it ends with its own status, or with 1 because its write failed with EPIPE -/
theorem stageStep_char {c : PCfg} {s s' : PSys} {i : Nat} (hs : stageStep c s i = some s') :
    ∃ st st', s.stages[i]? = some st ∧ st.exit = none ∧ s'.stages = s.stages.set i st' ∧
      s'.pipes.length = s.pipes.length ∧
      ownStatus st'.prog = ownStatus st.prog ∧ isWriter st'.prog = isWriter st.prog ∧
      (∀ e, st'.exit = some e →
        e = ownStatus st.prog ∨
        (e = 1 ∧ isWriter st.prog = true ∧ ∃ n, sysWrite c s i n = .epipe)) := by
  obtain ⟨st, hst, hnone, h1 | h2 | h3⟩ := stageStep_kinds hs
  · obtain ⟨e, p, rfl, _, ho, hw, he⟩ := h1
    exact ⟨st, ⟨p, some e⟩, hst, hnone, rfl, rfl, ho, hw, fun _ he' => Option.some.inj he' ▸ he⟩
  · obtain ⟨n, m, p, rfl, _, _, ho, hw⟩ := h2
    exact ⟨st, ⟨p, none⟩, hst, hnone, by rw [addContent_stages]; rfl, by rw [addContent_len]; rfl, ho, hw, nofun⟩
  · obtain ⟨want, m, p, rfl, _, _, _, ho, hw⟩ := h3
    exact ⟨st, ⟨p, none⟩, hst, hnone, by rw [subContent_stages]; rfl, by rw [subContent_len]; rfl, ho, hw, nofun⟩

/-- how the stages of a pipeline of ANY length stand, in every reachable state: each stage keeps its kind; a stage that
    has ended has ended with its own status, or — a writer that is not the last stage — with 1 after a write that failed
    with EPIPE, and then its reader (the next stage) has ended before it -/
structure FlowInv (c : PCfg) (progs : List SProg) (s : PSys) : Prop where
  hyg : Hyg c s
  len : s.stages.length = progs.length
  kind : ∀ (i : Nat) (st : Stage) (p : SProg), s.stages[i]? = some st → progs[i]? = some p →
    ownStatus st.prog = ownStatus p ∧ isWriter st.prog = isWriter p
  ended : ∀ (i : Nat) (st : Stage) (p : SProg) (e : Nat), s.stages[i]? = some st → progs[i]? = some p →
    st.exit = some e →
    e = ownStatus p ∨ (e = 1 ∧ isWriter p = true ∧ i + 1 < progs.length ∧ s.alive (i + 1) = false)

theorem flowInv_init (c : PCfg) (progs : List SProg) (hne : progs ≠ []) : FlowInv c progs (mkPipeline progs) := by
  refine ⟨hyg_init c progs hne, mkPipeline_stages_length progs, ?_, ?_⟩
  · intro i st p hst hp
    rw [mkPipeline_stage, hp] at hst; cases hst; exact ⟨rfl, rfl⟩
  · intro i st p e hst hp he
    rw [mkPipeline_stage, hp] at hst; cases hst; cases he

theorem flowInv_step {c : PCfg} {progs : List SProg} {s s' : PSys} {i : Nat} (h : FlowInv c progs s)
    (hs : stageStep c s i = some s') : FlowInv c progs s' := by
  obtain ⟨st, st', hst, hnone, hstages, hplen, hown, hwr, hend⟩ := stageStep_char hs
  have halive : ∀ k, s.alive k = false → s'.alive k = false := by
    intro k hk
    rw [alive_of_stages hst hstages]
    by_cases hki : k = i
    · subst hki; rw [alive_get hst, hnone] at hk; cases hk
    · rw [if_neg hki]; exact hk
  refine ⟨hyg_step h.hyg hs, by rw [hstages, List.length_set]; exact h.len, ?_, ?_⟩
  · intro k stk p hk hp
    rcases of_get_set hst (hstages ▸ hk) with ⟨rfl, rfl⟩ | ⟨_, hk⟩
    · obtain ⟨h1, h2⟩ := h.kind k st p hst hp
      exact ⟨hown.trans h1, hwr.trans h2⟩
    · exact h.kind k stk p hk hp
  · intro k stk p e hk hp he
    rcases of_get_set hst (hstages ▸ hk) with ⟨rfl, rfl⟩ | ⟨_, hk⟩
    · obtain ⟨h1, h2⟩ := h.kind k st p hst hp
      rcases hend e he with h3 | ⟨h3, h4, n, h5⟩
      · exact Or.inl (h3.trans h1)
      · -- EPIPE: there is a pipe after stage `k`, and its reader, stage `k + 1`, has ended
        obtain ⟨q, hq, _⟩ := (sysWrite_spec c s k n).1.mp h5
        have h6 := (epipe_iff_reader_dead hq (h.hyg.holders k q hq).1).mp h5
        refine Or.inr ⟨h3, h2 ▸ h4, ?_, halive _ h6⟩
        have := h.hyg.len
        have := h.len
        have := lt_of_get hq
        omega
    · rcases h.ended k stk p e hk hp he with h1 | ⟨h1, h2, h3, h4⟩
      · exact Or.inl h1
      · exact Or.inr ⟨h1, h2, h3, halive _ h4⟩

theorem flowInv_steps {c : PCfg} {progs : List SProg} {s t : PSys} (h : PSteps c s t) (hi : FlowInv c progs s) :
    FlowInv c progs t := by
  induction h with
  | refl => exact hi
  | tail i _ hs ih => exact flowInv_step ih hs

end YashModel.Proc
