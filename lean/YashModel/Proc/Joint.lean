/-
  C13 — the JOINT system: the parent of `Model.lean` (program counter of `wait`, SIGCHLD, the
  `state_has_changed` flags, its list of requests) together with the children of `Pipeline.lean` (the
  stages of a pipeline, whose steps are pipe reads, writes and exits).  What the parent can see of child
  `i` is derived from stage `i`: alive while the stage has not ended, `exited st` afterwards; the exit of a
  stage is the one event that touches the parent's side (`set_state`: flag, SIGCHLD to the parent).

  `JInv` is built from the invariants of the two halves (`Inv`, `Awaited`, `Hyg`), `jmeasure` from their measures:
  the parent's view moves by `parentStep` or by "child `i` ends with this status", which is `childStep`
  of a child whose fate has just been fixed (`inv_refate`).
-/
import YashModel.Proc.Ops
import YashModel.Proc.StageEnds
namespace YashModel.Proc

structure JSys where
  /-- the parent, and what it can see of its children -/
  view : Sys
  /-- the children: the stages and the pipes between them -/
  pl : PSys

/-- `Process::set_state(Exited st)` of child `i` as the parent's side sees it: final state, flag, SIGCHLD -/
def exitView (v : Sys) (i st : Nat) : Sys :=
  raiseSigchld { v with children := v.children.set i { state := .halted (.exited st), changed := true } }

inductive JLabel where
  | parent
  | stage (i : Nat)
  deriving DecidableEq, Repr

/-- one step of the joint system: the parent moves, or stage `i` makes one system call / ends -/
def jstep (c : PCfg) (j : JSys) : JLabel → Option JSys
  | .parent => (parentStep j.view).map fun v => { j with view := v }
  | .stage i =>
    match stageStep c j.pl i with
    | none => none
    | some pl' =>
      match (pl'.stages[i]?).bind (·.exit) with
      | some st => some { view := exitView j.view i st, pl := pl' }
      | none => some { j with pl := pl' }

/-- the pipeline `progs`, its descriptors set up as `execute_multi_command_pipeline` leaves them, and a
    parent that has forked the stages and still has `reqs` to do -/
def jinit (progs : List SProg) (reqs : List Req) : JSys :=
  { view := init (progs.map fun _ => (0, Result.exited 0)) reqs, pl := mkPipeline progs }

inductive JSteps (c : PCfg) : JSys → JSys → Prop where
  | refl (j : JSys) : JSteps c j j
  | tail {j k l : JSys} (lab : JLabel) : JSteps c j k → jstep c k lab = some l → JSteps c j l

inductive JStepsN (c : PCfg) : Nat → JSys → JSys → Prop where
  | refl (j : JSys) : JStepsN c 0 j j
  | tail {n : Nat} {j k l : JSys} (lab : JLabel) : JStepsN c n j k → jstep c k lab = some l →
      JStepsN c (n + 1) j l

theorem JSteps.head {c : PCfg} {j k l : JSys} (lab : JLabel) (hs : jstep c j lab = some k)
    (h : JSteps c k l) : JSteps c j l := by
  induction h with
  | refl => exact .tail lab (.refl j) hs
  | tail lab' _ hl ih => exact .tail lab' ih hl

def jmeasure (j : JSys) : Nat := measure j.view + pmeas j.pl

/-- the parent's view agrees with the pipeline: child `i` is alive iff stage `i` is, and a final state seen by the
    parent is the status stage `i` ended with -/
structure Coupled (j : JSys) : Prop where
  len : j.view.children.length = j.pl.stages.length
  alive : ∀ (i : Nat) (c : Child), j.view.children[i]? = some c → c.state.isAlive = j.pl.alive i
  status : ∀ (i : Nat) (c : Child) (r : Result), j.view.children[i]? = some c → c.state = .halted r →
    ∃ st stg, j.pl.stages[i]? = some stg ∧ stg.exit = some st ∧ r = .exited st

theorem coupled_init (progs : List SProg) (reqs : List Req) : Coupled (jinit progs reqs) := by
  refine ⟨by simp [jinit, init, mkPipeline_stages_length], ?_, ?_⟩
  · intro i c hc
    have hi : i < progs.length := by simpa [jinit, init] using lt_of_get hc
    rw [(init_child hc).2]
    exact (alive_get (st := ⟨progs[i], none⟩) (by simp [jinit, mkPipeline_stage, hi])).symm
  · intro i c r hc hst
    have := (init_child hc).2; rw [hst] at this; cases this

theorem coupled_parent {j : JSys} {v : Sys} (h : Coupled j) (hs : parentStep j.view = some v) :
    Coupled { j with view := v } := by
  have hlen : v.children.length = j.view.children.length := fins_length (fin_parent hs)
  have hst : ∀ (i : Nat) (c : Child), v.children[i]? = some c →
      ∃ c0, j.view.children[i]? = some c0 ∧ c0.state = c.state := by
    intro i c hc
    rcases parent_children hs with e | ⟨k, e⟩ <;> rw [e] at hc
    · exact ⟨c, hc, rfl⟩
    · cases hk : j.view.children[k]? with
      | none => unfold take at hc; rw [hk] at hc; exact ⟨c, hc, rfl⟩
      | some ck =>
        rw [take_get hk] at hc
        by_cases hik : i = k
        · subst hik; rw [if_pos rfl] at hc; cases hc; exact ⟨ck, hk, rfl⟩
        · rw [if_neg hik] at hc; exact ⟨c, hc, rfl⟩
  refine ⟨by simp only [hlen]; exact h.len, ?_, ?_⟩
  · intro i c hc
    obtain ⟨c0, h0, e⟩ := hst i c hc
    rw [← e]; exact h.alive i c0 h0
  · intro i c r hc hr
    obtain ⟨c0, h0, e⟩ := hst i c hc
    exact h.status i c0 r h0 (by rw [e]; exact hr)

theorem alive_set_other {s : PSys} {i k : Nat} {st st' : Stage} (h : s.stages[i]? = some st)
    (hk : k ≠ i) (pipes : List Pipe) :
    PSys.alive { stages := s.stages.set i st', pipes := pipes } k = s.alive k := by
  rw [alive_set h, if_neg hk]

theorem jstep_parent_iff {c : PCfg} {j k : JSys} :
    jstep c j .parent = some k ↔ ∃ v, parentStep j.view = some v ∧ k = { j with view := v } := by
  simp only [jstep, Option.map_eq_some_iff]
  exact ⟨fun ⟨v, h, e⟩ => ⟨v, h, e.symm⟩, fun ⟨v, h, e⟩ => ⟨v, h, e.symm⟩⟩

/-- A step of stage `i` in the joint system is its step in the pipeline; if it leaves the stage ended, the parent's view
    records the exit (final state, flag, SIGCHLD). -/
theorem jstep_stage_iff {c : PCfg} {j k : JSys} {i : Nat} :
    jstep c j (.stage i) = some k ↔ ∃ pl' st st', stageStep c j.pl i = some pl' ∧ j.pl.stages[i]? = some st ∧
      st.exit = none ∧ pl'.stages = j.pl.stages.set i st' ∧
      ((∃ e, st'.exit = some e ∧ k = ⟨exitView j.view i e, pl'⟩) ∨ (st'.exit = none ∧ k = { j with pl := pl' })) := by
  simp only [jstep]
  cases hpl : stageStep c j.pl i with
  | none => exact ⟨nofun, fun ⟨_, _, _, h, _⟩ => nomatch h⟩
  | some pl' =>
    obtain ⟨st, st', hst, hnone, hstages, _⟩ := stageStep_char hpl
    have hget : pl'.stages[i]? = some st' := by rw [hstages, get_set hst, if_pos rfl]
    simp only [hget, Option.bind_some]
    constructor
    · intro h
      refine ⟨pl', st, st', rfl, hst, hnone, hstages, ?_⟩
      cases hex : st'.exit with
      | none => rw [hex] at h; exact .inr ⟨rfl, (Option.some.inj h).symm⟩
      | some e => rw [hex] at h; exact .inl ⟨e, rfl, (Option.some.inj h).symm⟩
    · rintro ⟨pl'', _, st'', h1, _, _, h2, h3⟩
      cases h1
      cases (by rw [h2, get_set hst, if_pos rfl] at hget; exact Option.some.inj hget : st'' = st')
      rcases h3 with ⟨e, he, rfl⟩ | ⟨he, rfl⟩ <;> rw [he]

theorem exitView_children (v : Sys) (i st : Nat) :
    (exitView v i st).children = v.children.set i { state := .halted (.exited st), changed := true } := by
  unfold exitView; rw [raiseSigchld_eq]

theorem coupled_stage {c : PCfg} {j k : JSys} {i : Nat} (h : Coupled j)
    (hs : jstep c j (.stage i) = some k) : Coupled k := by
  obtain ⟨pl', st, st', hpl, hst, hnone, hstages, hk⟩ := jstep_stage_iff.mp hs
  have hlen' : pl'.stages.length = j.pl.stages.length := by rw [hstages]; simp
  have halive := alive_of_stages hst hstages
  have hstage : ∀ k', k' ≠ i → pl'.stages[k']? = j.pl.stages[k']? := fun k' hk => by rw [hstages, get_set hst, if_neg hk]
  obtain ⟨c0, hc0⟩ : ∃ c0, j.view.children[i]? = some c0 :=
    ⟨_, List.getElem?_eq_getElem (by rw [h.len]; exact lt_of_get hst)⟩
  rcases hk with ⟨e, hex', rfl⟩ | ⟨hex', rfl⟩
  · -- the stage has ended: the view records it
    refine ⟨by simp only [exitView_children, List.length_set, hlen']; exact h.len, fun k' cc hk => ?_,
      fun k' cc r hk hr => ?_⟩ <;> simp only [exitView_children, get_set hc0] at hk <;> by_cases hki : k' = i
    · rw [if_pos hki] at hk; cases hk; rw [halive, if_pos hki, hex']; rfl
    · rw [if_neg hki] at hk; rw [halive, if_neg hki]; exact h.alive k' cc hk
    · rw [if_pos hki] at hk; cases hk; cases hr; exact ⟨e, st', by rw [hki, hstages, get_set hst, if_pos rfl], hex', rfl⟩
    · rw [if_neg hki] at hk
      obtain ⟨s0, stg, h1, h2, h3⟩ := h.status k' cc r hk hr
      exact ⟨s0, stg, (hstage k' hki).trans h1, h2, h3⟩
  · -- the stage goes on: it was alive and is alive, the view is untouched
    refine ⟨by simp only [hlen']; exact h.len, fun k' cc hk => ?_, fun k' cc r hk hr => ?_⟩
    · rw [halive, h.alive k' cc hk]
      by_cases hki : k' = i
      · rw [if_pos hki, hki, alive_get hst, hnone, hex']
      · rw [if_neg hki]
    · obtain ⟨s0, stg, h1, h2, h3⟩ := h.status k' cc r hk hr
      by_cases hki : k' = i
      · subst hki; cases hst.symm.trans h1; rw [hnone] at h2; cases h2
      · exact ⟨s0, stg, (hstage k' hki).trans h1, h2, h3⟩

/-- fixing the fate of a child that has not ended (how many steps, which final status) keeps `Inv` -/
theorem inv_refate {s : Sys} (hi : Inv s) {i f : Nat} {fin : Result} {ch : Bool} (r' : Result)
    (hc : s.children[i]? = some { state := .running f fin, changed := ch }) :
    Inv { s with children := s.children.set i { state := .running 0 r' } } := by
  refine hi.of_children _ fun j => ?_
  rw [get_set hc]
  by_cases hji : j = i
  · subst hji
    exact .inr ⟨fun c h => by cases hc.symm.trans h; rfl, { state := .running 0 r' }, by simp, rfl, rfl⟩
  · exact .inl (by simp [hji])

theorem exitView_eq_childStep {s : Sys} {i st : Nat} {c : Child}
    (hc : s.children[i]? = some c) :
    childStep { s with children := s.children.set i { state := .running 0 (.exited st) } } i =
      some (exitView s i st) := by
  rw [childStep_exit (c := { state := .running 0 (.exited st) }) (by simp [get_set hc]) rfl]
  unfold exitView
  rw [raiseSigchld_eq]
  simp [List.set_set]

theorem view_exit {reqs : List Req} {s : Sys} {i st : Nat} {c : Child} (hi : Inv s)
    (ha : Awaited reqs s) (hc : s.children[i]? = some c) (hal : c.state.isAlive = true) :
    Inv (exitView s i st) ∧ Awaited reqs (exitView s i st) ∧ measure (exitView s i st) < measure s := by
  obtain ⟨f, fin, hst⟩ := PState.alive_iff.mp hal
  have hc' : s.children[i]? = some { state := .running f fin, changed := c.changed } := by
    rw [hc]; cases c; simp_all
  have hstep := exitView_eq_childStep (st := st) hc
  have hinv1 := inv_refate hi (.exited st) hc'
  refine ⟨inv_child i hinv1 hstep, ?_, ?_⟩
  · apply awaited_child i _ hstep
    intro k hk hlen
    simp only [List.length_set] at hlen
    rcases ha k hk hlen with h1 | h1 | h1
    · exact Or.inl h1
    · exact Or.inr (Or.inl h1)
    · refine Or.inr (Or.inr ?_)
      by_cases hki : k = i
      · subst hki
        rw [reaped_self hc] at h1; simp [hal] at h1
      · simp only; rw [reaped_set_other hc hki]; exact h1
  · have h1 := (measure_child_pending i hstep).1
    have h2 := childrenW_set hc { state := PState.running 0 (Result.exited st) }
    have hcw : 6 ≤ childW c := by
      unfold childW; rw [hst]; simp only; omega
    have hnew : childW ({ state := PState.running 0 (Result.exited st) } : Child) = 6 := by
      simp [childW]
    have hle : measure { s with children := s.children.set i { state := .running 0 (.exited st) } } ≤
        measure s := by
      simp only [measure]
      rw [hnew] at h2
      omega
    omega

/-- the invariant of the joint system: those of the two halves, and their agreement -/
structure JInv (c : PCfg) (reqs : List Req) (j : JSys) : Prop where
  inv : Inv j.view
  awaited : Awaited reqs j.view
  hyg : Hyg c j.pl
  coupled : Coupled j

theorem jinv_init (c : PCfg) (progs : List SProg) (hne : progs ≠ []) (reqs : List Req) :
    JInv c reqs (jinit progs reqs) :=
  ⟨inv_init _ _, awaited_init _ _, hyg_init c progs hne, coupled_init progs reqs⟩

theorem view_child_of_alive {j : JSys} (h : Coupled j) {i : Nat} (hal : j.pl.alive i = true) :
    ∃ c, j.view.children[i]? = some c ∧ c.state.isAlive = true := by
  have hi : i < j.view.children.length := by rw [h.len]; exact alive_lt hal
  refine ⟨_, List.getElem?_eq_getElem hi, ?_⟩
  rw [h.alive i _ (List.getElem?_eq_getElem hi)]; exact hal

theorem stage_alive_of_step {c : PCfg} {s s' : PSys} {i : Nat} (hs : stageStep c s i = some s') :
    s.alive i = true := by
  obtain ⟨st, hst, hnone⟩ := step_live hs
  rw [alive_get hst, hnone]; rfl

theorem jinv_step {c : PCfg} {reqs : List Req} {j k : JSys} (hv : c.Valid) (lab : JLabel)
    (h : JInv c reqs j) (hs : jstep c j lab = some k) : JInv c reqs k ∧ jmeasure k < jmeasure j := by
  cases lab with
  | parent =>
    obtain ⟨v, hv', rfl⟩ := jstep_parent_iff.mp hs
    exact ⟨⟨inv_parent h.inv hv', awaited_parent h.awaited hv', h.hyg, coupled_parent h.coupled hv'⟩,
      by have := measure_parent hv'; simp only [jmeasure]; omega⟩
  | stage i =>
    have hcoup := coupled_stage h.coupled hs
    obtain ⟨pl', _, _, hpl, _, _, _, hk⟩ := jstep_stage_iff.mp hs
    have hhyg := hyg_step h.hyg hpl
    have hpm := pipeline_step_decreases hv hpl
    rcases hk with ⟨e, _, rfl⟩ | ⟨_, rfl⟩
    · obtain ⟨c0, hc0, hal0⟩ := view_child_of_alive h.coupled (stage_alive_of_step hpl)
      obtain ⟨h1, h2, h3⟩ := view_exit (st := e) h.inv h.awaited hc0 hal0
      exact ⟨⟨h1, h2, hhyg, hcoup⟩, by simp only [jmeasure]; omega⟩
    · exact ⟨⟨h.inv, h.awaited, hhyg, hcoup⟩, by simp only [jmeasure]; omega⟩

theorem jinv_steps {c : PCfg} {reqs : List Req} {j k : JSys} (hv : c.Valid) (h : JSteps c j k)
    (hj : JInv c reqs j) : JInv c reqs k := by
  induction h with
  | refl => exact hj
  | tail lab _ hs ih => exact (jinv_step hv lab ih hs).1

theorem jnot_stuck {c : PCfg} {reqs : List Req} {j : JSys} (hv : c.Valid) (h : JInv c reqs j)
    (hlive : j.view.final = false ∨ j.pl.done = false) : ∃ lab k, jstep c j lab = some k := by
  have stage_moves : (∃ i, j.pl.alive i = true) → ∃ lab k, jstep c j lab = some k := by
    intro ⟨i, hi⟩
    obtain ⟨i', pl', hs⟩ := pipeline_not_stuck hv h.hyg hi
    obtain ⟨st, st', hst, hnone, hstages, _⟩ := stageStep_char hs
    cases hex : st'.exit with
    | none => exact ⟨.stage i', _, jstep_stage_iff.mpr ⟨pl', st, st', hs, hst, hnone, hstages, .inr ⟨hex, rfl⟩⟩⟩
    | some e => exact ⟨.stage i', _, jstep_stage_iff.mpr ⟨pl', st, st', hs, hst, hnone, hstages, .inl ⟨e, hex, rfl⟩⟩⟩
  rcases hlive with hf | hd
  · obtain ⟨l, s', hs⟩ := not_stuck h.inv hf
    cases l with
    | parent => exact ⟨.parent, _, jstep_parent_iff.mpr ⟨s', hs, rfl⟩⟩
    | child i =>
      -- the view says child `i` is alive: so is stage `i`; some stage can move
      apply stage_moves
      refine ⟨i, ?_⟩
      obtain ⟨cc, _, hcc, hal, _⟩ := childStep_spec (show childStep j.view i = some s' from hs)
      rw [← h.coupled.alive i cc hcc]; exact hal
  · exact stage_moves (not_done_alive hd)

theorem jstep_len {c : PCfg} {j k : JSys} (lab : JLabel) (hs : jstep c j lab = some k) :
    k.pl.stages.length = j.pl.stages.length := by
  cases lab with
  | parent => obtain ⟨v, _, rfl⟩ := jstep_parent_iff.mp hs; rfl
  | stage i =>
    obtain ⟨pl', _, _, _, _, _, hst, hk⟩ := jstep_stage_iff.mp hs
    have : pl'.stages.length = j.pl.stages.length := by rw [hst]; simp
    rcases hk with ⟨_, _, rfl⟩ | ⟨_, rfl⟩ <;> exact this

theorem jsteps_len {c : PCfg} {j k : JSys} (h : JSteps c j k) :
    k.pl.stages.length = j.pl.stages.length := by
  induction h with
  | refl => rfl
  | tail lab _ hs ih => rw [jstep_len lab hs, ih]

end YashModel.Proc
