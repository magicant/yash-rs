/-
  C13 — Impl model (wave 3): the `wait` built-in waiting for ONE job while signals with a trap action
  arrive — `status::wait_while_running(job_status(index))` around `core::wait_for_any_job_or_trap`
  (yash-builtin/src/wait/status.rs, wait/core.rs), `Env::wait_for_signals` (yash-env/src/lib.rs: every
  signal `select` delivered is passed to `TrapSet::catch_signal`) and `trap::run_trap_if_caught`
  (yash-semantics/src/trap/signal.rs: `take_signal_if_caught`, only an `Action::Command` counts).

  The parent/children/SIGCHLD part is the `Sys` of `Model.lean` (same `childStep`, `sysWait`, `take`,
  `logOf`); added here: the signals OTHER than SIGCHLD that are sent to the shell while it waits.

  * A signal for which a trap command is set has the internal disposition `Catch`, hence (through
    `Concurrent::set_disposition`) it is blocked outside `select` and becomes pending (`sigPending`);
    the `select` inside `wait_for_signals` unblocks, and ALL pending caught signals — SIGCHLD included —
    are delivered in that one call and returned as one list (`Concurrent::select_impl`:
    `self.inner.caught_signals()`).
  * `wait_for_any_job_or_trap`: after `wait_for_signals` the loop runs, in list order, the trap of the
    first signal that has one and returns `Err(Trapped(signal, _))` — whether or not SIGCHLD is in the
    same list: XCU 2.12 "the reception of a signal for which a trap has been set shall cause the wait
    utility to return immediately with an exit status >128".  Only when no trap ran does the loop go
    back to `system.wait(-1)`.
  * `senders`: which child sends which signal to the shell (`kill -s SIG $$` inside an asynchronous
    list).  The `kill` precedes the child's `exit` in program order, so a child with an unsent entry
    cannot take its last step.

  Order of the caught signals: arrival order — exact for signals that arrive while the shell is blocked inside
  `select` (always the case under the executor: other processes run only while the shell is blocked); a signal that
  arrives while the shell is NOT in `select` stays pending in a `Sigset` (a `BTreeSet`) and the next `select`
  delivers those in ascending signal number — a difference visible only with two distinct trapped signals pending
  outside `select`, which needs pre-emption between a wake-up and the next `select`.

  Not modelled: `signals.contains(SIGINT) && env.sigint_has_default_action()` (interactive shells only: a
  defaulted SIGINT kills a non-interactive shell), signals that are neither trapped nor ignored (they
  end the shell), what the trap action does (its `Result`/divert is passed on; the exit status of the built-in is
  `ExitStatus::from(signal)` whatever the action's own status).
-/
import YashModel.Proc.Measure
namespace YashModel.Proc
open YashModel.Generated.ProcConsts (EXIT_SUCCESS)

/-- how `wait_while_running(job_status(j))` ends -/
inductive TrapOut where
  /-- `Ok(exit_status)`: the job has finished (and is removed from the job list) -/
  | finished (i : Nat) (r : Result)
  /-- `Err(NothingToWait)` -/
  | nothing
  /-- `Err(Trapped(sig, _))`: the trap action of `sig` was run, the built-in ends with `ExitStatus::from(sig)` -/
  | trapped (sig : Nat)
  /-- a single `wait_for_any_job_or_trap` returned `Ok(())`: the state of child `i` was recorded (bare `wait`) -/
  | changed (i : Nat)
  deriving DecidableEq, Repr

structure TSys where
  sys : Sys
  /-- the job (child index) the operand names -/
  job : Nat
  /-- signals with `Action::Command` -/
  traps : List Nat
  /-- trapped signals sent to the shell and not yet delivered (blocked outside `select`) -/
  sigPending : List Nat := []
  /-- `TrapSet`: signals caught (`catch_signal`) whose trap action has not run yet — run after the built-in -/
  flags : List Nat := []
  /-- `(child, signal)`: that child will send that signal to the shell before it exits -/
  senders : List (Nat × Nat) := []
  /-- `true`: ONE call of `wait_for_any_job_or_trap` (the caller, `any_job_is_running` of a `wait` without
      operands, looks at the whole job list after every `Ok(())`); `false`: `wait_while_running(job_status(job))` -/
  single : Bool := false
  out : Option TrapOut := none
  deriving Repr

/-- `job_status`: the recorded state of the job is final (the `log` entry of the child, see `jobStatus`) -/
def jobDone (log : List (Nat × Result)) (j : Nat) : Option Result :=
  (log.find? (fun e => e.1 == j)).map (·.2)

/-- the first signal of the delivered list for which `run_trap_if_caught` returns `Some` -/
def firstTrapped (traps sigs : List Nat) : Option Nat :=
  sigs.find? (fun σ => traps.contains σ)

/-- The built-in starts waiting for job `j`: `job_status` is looked at BEFORE the first
    `wait_for_any_job_or_trap` (`loop { if let Break(st) = job_status(..) { return Ok(st) } wait_for_any_job_or_trap(env).await?; }`). -/
def TSys.start (s : Sys) (j : Nat) (traps : List Nat) (senders : List (Nat × Nat)) : TSys :=
  match jobDone s.log j with
  | some r => { sys := { s with target := .any, todo := [], pc := .done }, job := j, traps := traps,
                senders := senders, out := some (.finished j r) }
  | none => { sys := { s with target := .any, todo := [], pc := .enable }, job := j, traps := traps,
              senders := senders }

/-- The next operand of the same built-in (`for index in indexes { … wait_while_running(job_status(index)).await? }`,
    `Command::await_jobs`): pending signals, trap flags and senders carry over. -/
def TSys.next (t : TSys) (j : Nat) : TSys :=
  match jobDone t.sys.log j with
  | some r => { t with sys := { t.sys with target := .any, todo := [], pc := .done }, job := j, single := false,
                       out := some (.finished j r) }
  | none => { t with sys := { t.sys with target := .any, todo := [], pc := .enable }, job := j, single := false,
                     out := none }

/-- one more `wait_for_any_job_or_trap` of a `wait` without operands -/
def TSys.call (t : TSys) : TSys :=
  { t with sys := { t.sys with target := .any, todo := [], pc := .enable }, single := true, out := none }

/-- One step of the shell inside `wait_while_running` / `wait_for_any_job_or_trap`. -/
def tparentStep (t : TSys) : Option TSys :=
  match t.out with
  | some _ => none
  | none =>
    match t.sys.pc with
    | .enable =>
      -- `env.traps.enable_internal_disposition_for_sigchld(&env.system).await?` FIRST
      some { t with sys := { t.sys with disp := .catch, pc := .poll } }
    | .poll =>
      -- `match env.system.wait(Pid::ALL)`
      match sysWait t.sys.children .any with
      | .state i st =>
        -- `env.jobs.update_status(pid, state); return Ok(())`, then `job_status` again
        if t.single then
          some { t with sys := { t.sys with children := take t.sys.children i, log := logOf i st ++ t.sys.log,
                                            pc := .done },
                        out := some (.changed i) }
        else
        match jobDone (logOf i st ++ t.sys.log) t.job with
        | some r =>
          some { t with sys := { t.sys with children := take t.sys.children i, log := logOf i st ++ t.sys.log,
                                            pc := .done },
                        out := some (.finished t.job r) }
        | none =>
          some { t with sys := { t.sys with children := take t.sys.children i, log := logOf i st ++ t.sys.log,
                                            pc := .enable } }
      | .none => some { t with sys := { t.sys with pc := .await } }
      | .echild => some { t with sys := { t.sys with pc := .done }, out := some .nothing }
    | .await =>
      -- `let signals = env.wait_for_signals().await;` — returns once something caught is pending, with ALL of it
      if t.sys.pending || !t.sigPending.isEmpty then
        -- `for signal in signals { if let Some(result) = run_trap_if_caught(env, signal).await { return Err(Trapped(..)) } }`
        match firstTrapped t.traps t.sigPending with
        | some σ =>
          some { t with sys := { t.sys with pending := false, pc := .done }, sigPending := [],
                        flags := (t.flags ++ t.sigPending).erase σ, out := some (.trapped σ) }
        | none =>
          some { t with sys := { t.sys with pending := false, pc := .poll }, sigPending := [],
                        flags := t.flags ++ t.sigPending }
      else none
    | _ => none

/-- SIGCHLD in the numbering of the model (`Prog.sigNames`: HUP = 1 … CONT = 9, CHLD = 10; observations show names) -/
def SIGCHLD_NO : Nat := 10

/-- `trap … CHLD`: SIGCHLD has a trap action of its own.  The caught signals of one wake-up are a list in ARRIVAL
    order (`Process::caught_signals`, a `Vec`: a signal raised while the shell is inside `select` is delivered at
    once and pushed), so when SIGCHLD can win the race for "first signal with a trap action" its position matters:
    the exit of a child then also appends SIGCHLD to `sigPending` (once). -/
def noteChld (t : TSys) (s : Sys) : List Nat :=
  if !t.sys.pending && s.pending && t.traps.contains SIGCHLD_NO && !t.sigPending.contains SIGCHLD_NO
  then t.sigPending ++ [SIGCHLD_NO] else t.sigPending

/-- a step of child `i`: as in `Model.lean`, but the child's last step (`exit`) comes after its `kill`s -/
def tchildStep (t : TSys) (i : Nat) : Option TSys :=
  match t.sys.children[i]? with
  | some c =>
    if c.state = .running 0 c.state.fin ∧ t.senders.any (fun e => e.1 == i) then none
    else (childStep t.sys i).map fun s => { t with sys := s, sigPending := noteChld t s }
  | none => none

/-- the `k`-th sender entry fires: `kill -s SIG $$` in a live child (the first unsent entry of that child).  A trapped signal becomes pending at the
    shell (once: pending signals are a set); any other is ignored here. -/
def tsendStep (t : TSys) (k : Nat) : Option TSys :=
  match t.senders[k]? with
  | some (i, σ) =>
    match t.sys.children[i]? with
    | some c =>
      -- program order: the entries of one child fire in list order
      if c.state.isAlive && !(t.senders.take k).any (fun e => e.1 == i) then
        some { t with senders := t.senders.eraseIdx k,
                      sigPending := if t.traps.contains σ && !t.sigPending.contains σ
                                    then t.sigPending ++ [σ] else t.sigPending }
      else none
    | none => none
  | none => none

inductive TLabel where
  | parent
  | child (i : Nat)
  | send (k : Nat)
  deriving DecidableEq, Repr

def tstep (t : TSys) : TLabel → Option TSys
  | .parent => tparentStep t
  | .child i => tchildStep t i
  | .send k => tsendStep t k

def tenabled (t : TSys) : List TLabel :=
  ((TLabel.parent :: ((List.range t.sys.children.length).map TLabel.child ++
      (List.range t.senders.length).map TLabel.send)).filter fun l => (tstep t l).isSome)

/-- the shell runs until it blocks or the built-in ends: a virtual process yields to the executor only where
    its `select` would block (`Concurrent::run_virtual`) -/
def parentBurst : Nat → TSys → TSys
  | 0, t => t
  | n + 1, t =>
    match tparentStep t with
    | some t' => parentBurst n t'
    | none => t

/-- strictly decreases on every step of the shell, of a child, of a sender (`wait_trap_progress`) -/
def tmeasure (t : TSys) : Nat :=
  2 * measure t.sys + 3 * t.sigPending.length + 4 * t.senders.length

/-- one turn of the shell under the executor: it runs until it blocks or the built-in ends (`tmeasure t` steps
    are always enough: `parentTurn_blocked`) -/
def parentTurn (t : TSys) : TSys := parentBurst (tmeasure t) t

/-- a step of the system as the virtual executor schedules it: a turn of the shell is a whole burst -/
def bstep (t : TSys) : TLabel → Option TSys
  | .parent => (tparentStep t).map fun _ => parentTurn t
  | l => tstep t l

/-- executable scheduler of the driver: `choices` pick among the enabled labels; a parent turn is a burst -/
def trun : Nat → List Nat → TSys → TSys
  | 0, _, t => t
  | fuel + 1, choices, t =>
    if t.out.isSome then t   -- the built-in has ended: the shell goes on with the script
    else
    match tenabled t with
    | [] => t
    | l :: ls =>
      let pick := match choices with
        | [] => l
        | c :: _ => (l :: ls).getD (c % (ls.length + 1)) l
      match bstep t pick with
      | some t' => trun fuel choices.tail t'
      | none => t

/-! ### the trap action -/

/-- the body of the trap action as far as the run varies it: `echo …` (any commands that end normally), commands that
    look at `$?` first (`probe`), `return r` (inside a function: `Divert::Return`) -/
inductive TrapAct where
  | plain
  | probe (before : Nat)
  | ret (r : Nat)
  deriving DecidableEq, Repr

/-- `run_trap` → `Result`: `Continue(())`, or `Break(Divert::Return(Some(r)))` for `return r` -/
def TrapAct.divert : TrapAct → Option Nat
  | .ret r => some r
  | _ => none

/-- `$?` as the action sees it when it starts: the value before the trap was taken (XCU `trap`: "the value of `$?` …
    shall be the value it had before the trap action was executed" on exit; on entry the built-in has not set it yet) -/
def TrapAct.entryStatus (before : Nat) : TrapAct → Nat := fun _ => before

/-- `Command::execute` of `wait`: `Err(Trapped(signal, divert)) => Result::with_exit_status_and_divert(ExitStatus::from(signal), divert)`
    — the exit status of the built-in is that of the SIGNAL whatever the action's last command returned; a `return r`
    in the action makes the enclosing function return `r` at once (the rest of its body is skipped) -/
def trappedResult (offset σ : Nat) (act : TrapAct) : Nat × Option Nat := (σ + offset, act.divert)

/-- `$?` after the command that called `wait` inside a function body: the function's status -/
def statusAfter (res : Nat × Option Nat) : Nat := res.2.getD res.1

/-! ### the operand loop and the operand-less form on top of it -/

/-- how the whole built-in ends: per-operand statuses (the exit status is the last), or `Err(Trapped(sig, _))`
    after the operands in `sts` had finished, or `Err(NothingToWait)` / the driver's fuel ran out -/
inductive OpsOut where
  | done (sts : List Nat)
  | trapped (sig : Nat) (sts : List Nat)
  | failed (sts : List Nat)
  deriving DecidableEq, Repr

def OpsOut.push (st : Nat) : OpsOut → OpsOut
  | .done sts => .done (st :: sts)
  | .trapped σ sts => .trapped σ (st :: sts)
  | .failed sts => .failed (st :: sts)

/-- `Command::await_jobs` over the resolved operands (`None` / a job index that is gone → `NOT_FOUND`, else
    `wait_while_running(job_status(i)).await?` — the `?` ends the whole built-in on `Trapped`), `run` being the
    scheduler that takes a started operand to its end.  Returns the job table, the state and the outcome. -/
def tawaitJobs (run : TSys → TSys) : List Nat → TSys → List (Option Nat) → List Nat × TSys × OpsOut
  | jobs, t, [] => (jobs, t, .done [])
  | jobs, t, none :: ops =>
    let r := tawaitJobs run jobs t ops
    (r.1, r.2.1, r.2.2.push (waitStatus .echild))
  | jobs, t, some i :: ops =>
    if i ∈ jobs then
      let u := run (t.next i)
      match u.out with
      | some (.finished _ r) =>
        let q := tawaitJobs run (jobs.erase i) u ops
        (q.1, q.2.1, q.2.2.push r.status)
      | some (.trapped σ) => (jobs, u, .trapped σ [])
      | _ => (jobs, u, .failed [])
    else
      let r := tawaitJobs run jobs t ops
      (r.1, r.2.1, r.2.2.push (waitStatus .echild))

/-- `any_job_is_running`: `job_status` applied to every job removes the finished ones; `Break(SUCCESS)` when none is left -/
def unfinished (jobs : List Nat) (log : List (Nat × Result)) : List Nat :=
  jobs.filter fun j => (jobDone log j).isNone

/-- `wait` without operands: `wait_while_running(any_job_is_running)` — `k` bounds the iterations (driver's fuel) -/
def tawaitAll (run : TSys → TSys) : Nat → List Nat → TSys → List Nat × TSys × OpsOut
  | 0, jobs, t => (unfinished jobs t.sys.log, t, .failed [])
  | k + 1, jobs, t =>
    match unfinished jobs t.sys.log with
    | [] => ([], t, .done [EXIT_SUCCESS])
    | j :: js =>
      let u := run t.call
      match u.out with
      | some (.changed _) => tawaitAll run k (j :: js) u
      | some (.trapped σ) => (j :: js, u, .trapped σ [])
      | _ => (j :: js, u, .failed [])

end YashModel.Proc
