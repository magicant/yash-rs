/-
  C13 — the parent waits for distinct children one after the other (what `execute_multi_command_pipeline`,
  subshells and command substitutions do): the results come out in the order of the requests, each the
  child's own final state, under every schedule (`Ord`, kept by every step).
-/
import YashModel.Proc.Ops
namespace YashModel.Proc

def waitReqs (ts : List Nat) : List Req := ts.map fun t => Req.wait (.pid t)

/-- what `wait(pid t)` must hand out: child `t`'s own final state -/
def expected (F : List Result) (t : Nat) : WaitRes := .got t (F.getD t (.exited 0))

/-- the requests `ts` (waits for distinct children with fates `F`) split into those done, at most one in progress, and
    those still to do; the results so far are the fates of the done ones, in order, and nobody else is reaped -/
structure Ord (F : List Result) (ts : List Nat) (s : Sys) : Prop where
  -- `cur` is empty or the one request in progress, so that `done ++ cur ++ rest` is the request list at every moment
  ex : ∃ done cur rest, ts = done ++ cur ++ rest ∧ s.todo = waitReqs rest ∧
    ((cur = [] ∧ s.pc = .done) ∨
     (∃ t, cur = [t] ∧ (s.pc = .enable ∨ s.pc = .poll ∨ s.pc = .await) ∧ s.target = .pid t)) ∧
    s.results.reverse = done.map (expected F) ∧
    (∀ i, reaped s.children i = true → i ∈ done)

theorem ord_init (spec : List (Nat × Result)) (ts : List Nat) :
    Ord (spec.map (·.2)) ts (init spec (waitReqs ts)) := by
  refine ⟨[], [], ts, by simp, rfl, Or.inl ⟨rfl, rfl⟩, by simp [init], ?_⟩
  intro i hr
  rw [reaped_init] at hr; cases hr

theorem ord_step {F : List Result} {ts : List Nat} {s s' : Sys} (l : Label)
    (hF : fins s = F) (hnd : ts.Nodup) (hlt : ∀ t ∈ ts, t < s.children.length)
    (h : Ord F ts s) (hs : step s l = some s') : Ord F ts s' := by
  obtain ⟨done, cur, rest, hts, htodo, hpc, hres, hreap⟩ := h.ex
  cases l with
  | child j =>
    obtain ⟨_, f2, f3, f4, f5, _⟩ := child_frame j hs
    refine ⟨done, cur, rest, hts, by rw [f4]; exact htodo, ?_, by rw [f2]; exact hres,
      fun i hi => hreap i ((reaped_childStep i j hs).symm.trans hi)⟩
    rw [f3, f5]; exact hpc
  | parent =>
    have hp := parentStep_iff.mp hs
    rcases hpc with ⟨rfl, hpcd⟩ | ⟨t, rfl, hpc3, htgt⟩
    · -- between two requests: the next one is taken up
      obtain ⟨rest', ⟨t, ht, rfl⟩ | ⟨ht, rfl⟩⟩ := hp.of_done hpcd <;> rw [htodo] at ht <;> cases rest <;> cases ht
      exact ⟨done, [_], _, by simp [hts], rfl, .inr ⟨_, rfl, .inl rfl, rfl⟩, hres, hreap⟩
    · have htmem : t ∈ ts := by rw [hts]; simp
      have htnd : t ∉ done := by
        intro hd
        rw [hts] at hnd
        exact (List.nodup_append.mp (List.nodup_append.mp hnd).1).2.2 t hd t (by simp) rfl
      -- the state `wait` hands out is that of child `t`
      have isT : ∀ {j : Nat} {st : PState}, sysWait s.children s.target = .state j st →
          j = t ∧ ∃ c, s.children[t]? = some c ∧ c.state = st := by
        intro j st hw
        obtain ⟨c, hc, _, hst, hm⟩ := sysWait_state hw
        rw [htgt] at hm; cases (hm : j = t)
        exact ⟨rfl, c, hc, hst⟩
      rcases hp.of_inWait hpc3 with ⟨hpc', e1, e2, e3, _, hch⟩ | ⟨j, r, hw, rfl⟩ | ⟨hw, rfl⟩
      · refine ⟨done, [t], rest, hts, e2.trans htodo, .inr ⟨t, rfl, hpc', e1.trans htgt⟩, e3 ▸ hres, ?_⟩
        rcases hch with e | ⟨j, f, r, hw, e⟩ <;> rw [e]
        · exact hreap
        · -- a state that is not final was taken: `t` is still not reaped
          obtain ⟨rfl, c, hc, hst⟩ := isT hw
          intro i hi
          by_cases hij : i = j
          · subst hij; rw [reaped_take_eq hc, if_pos rfl, hst] at hi; cases hi
          · exact hreap i (reaped_take_rev hi hij)
      · -- the final state of child `t`, its fate
        obtain ⟨rfl, c, hc, hst⟩ := isT hw
        have hr : r = F.getD j (.exited 0) := by
          rw [← hF]
          simp [fins, List.getD_eq_getElem?_getD, List.getElem?_map, hc, hst, PState.fin]
        refine ⟨done ++ [j], [], rest, by simp [hts], htodo, .inl ⟨rfl, rfl⟩, ?_, ?_⟩
        · simp [hres, expected, hr]
        · intro i hi
          by_cases hij : i = j
          · subst hij; simp
          · exact List.mem_append_left _ (hreap i (reaped_take_rev hi hij))
      · -- ECHILD is impossible: child `t` exists and has not been reaped (its request is this one)
        rw [htgt] at hw
        exact absurd (hreap t ((sysWait_pid_echild_iff (hlt t htmem)).mp hw)) htnd

theorem ord_steps {F : List Result} {ts : List Nat} {s t : Sys} (h : Steps s t)
    (hF : fins s = F) (hnd : ts.Nodup) (hlt : ∀ x ∈ ts, x < s.children.length) (ho : Ord F ts s) :
    Ord F ts t := by
  induction h with
  | refl => exact ho
  | @tail u _ l hst hs ih =>
    have hF' : fins u = F := (fin_steps hst).trans hF
    exact ord_step l hF' hnd
      (by intro x hx; rw [fins_length (fin_steps hst)]; exact hlt x hx) ih hs

end YashModel.Proc
