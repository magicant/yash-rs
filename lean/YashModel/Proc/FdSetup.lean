/-
  C13 — the descriptor shuffling of a pipeline child: `PipeSet::move_to_stdin_stdout`
  (yash-semantics/src/command/pipeline.rs), on a descriptor table that maps a descriptor to what it
  refers to.  Import-free definitions (part of the Impl model); the lemmas are in `FdLemmas.lean`.

  Allocation is not modelled by "lowest free descriptor": wherever the kernel picks a descriptor
  (`dup(STDOUT, Fd(0), …)`), the model takes ANY free one as a parameter, so the theorems hold for
  every allocation policy.
-/
namespace YashModel.Proc

/-- what a descriptor refers to: the read end / write end of pipe `j`, or something that is not a pipe of
    this pipeline (a file, a terminal, …) -/
inductive Res where
  | rd (j : Nat)
  | wr (j : Nat)
  | other
  deriving DecidableEq, Repr

def Res.isPipeEnd : Res → Bool
  | .other => false
  | _ => true

/-- descriptor table of one process -/
abbrev FdTab := Nat → Option Res

/-- `close(fd)`: EBADF (`none`) if `fd` is not open -/
def FdTab.close (T : FdTab) (fd : Nat) : Option FdTab :=
  if (T fd).isSome then some (fun k => if k = fd then none else T k) else none

/-- `dup2(from, to)`: EBADF if `from` is not open; `to` is silently replaced; `from = to` changes nothing -/
def FdTab.dup2 (T : FdTab) (frm to : Nat) : Option FdTab :=
  match T frm with
  | none => none
  | some r => some (fun k => if k = to then some r else T k)

/-- `dup(from, min, flags)`: the kernel picks a free descriptor `d ≥ min` (here `min = 0`): any free `d` -/
def FdTab.dupTo (T : FdTab) (frm d : Nat) : Option FdTab :=
  match T frm with
  | none => none
  | some r => if (T d).isNone then some (fun k => if k = d then some r else T k) else none

/-- `PipeSet { read_previous, next: (reader, writer) }` -/
structure PipeSet where
  readPrevious : Option Nat
  next : Option (Nat × Nat)
  deriving Repr

/-- `PipeSet::move_to_stdin_stdout` in the child (every `?` is an early `none`):
    ```
    if let Some((reader, writer)) = self.next {
        env.system.close(reader)?;
        if writer != Fd::STDOUT {
            if self.read_previous == Some(Fd::STDOUT) {
                self.read_previous = Some(env.system.dup(Fd::STDOUT, Fd(0), EnumSet::empty())?);
            }
            env.system.dup2(writer, Fd::STDOUT)?;
            env.system.close(writer)?;
        }
    }
    if let Some(reader) = self.read_previous && reader != Fd::STDIN {
        env.system.dup2(reader, Fd::STDIN)?;
        env.system.close(reader)?;
    }
    ``` -/
def moveToStdinStdout (T : FdTab) (ps : PipeSet) (d : Nat) : Option FdTab :=
  let step1 : Option (FdTab × Option Nat) :=
    match ps.next with
    | none => some (T, ps.readPrevious)
    | some (reader, writer) =>
      match T.close reader with
      | none => none
      | some T1 =>
        if writer = 1 then some (T1, ps.readPrevious)
        else
          let moved : Option (FdTab × Option Nat) :=
            if ps.readPrevious = some 1 then
              match T1.dupTo 1 d with
              | none => none
              | some T2 => some (T2, some d)
            else some (T1, ps.readPrevious)
          match moved with
          | none => none
          | some (T2, rp) =>
            match T2.dup2 writer 1 with
            | none => none
            | some T3 =>
              match T3.close writer with
              | none => none
              | some T4 => some (T4, rp)
  match step1 with
  | none => none
  | some (T5, rp) =>
    match rp with
    | none => some T5
    | some reader =>
      if reader = 0 then some T5
      else
        match T5.dup2 reader 0 with
        | none => none
        | some T6 => T6.close reader

/-- The table the child inherits, for the stage that reads pipe `jin` (if `readPrevious` is set) and
    writes pipe `jout` (if `next` is set): the descriptors named by the `PipeSet` are open, refer to those
    ends, are pairwise different (the `assert_ne!`s of the function), and no other descriptor refers to an
    end of a pipe of this pipeline (the parent has closed the earlier ones: `PipeSet::shift`). -/
structure ChildStart (T : FdTab) (ps : PipeSet) (jin jout : Nat) : Prop where
  prev : ∀ p, ps.readPrevious = some p → T p = some (.rd jin)
  nextR : ∀ r w, ps.next = some (r, w) → T r = some (.rd jout)
  nextW : ∀ r w, ps.next = some (r, w) → T w = some (.wr jout)
  distinctRW : ∀ r w, ps.next = some (r, w) → r ≠ w
  distinctP : ∀ p r w, ps.readPrevious = some p → ps.next = some (r, w) → p ≠ r ∧ p ≠ w
  only : ∀ fd res, T fd = some res → res.isPipeEnd = true →
    ps.readPrevious = some fd ∨ (∃ w, ps.next = some (fd, w)) ∨ (∃ r, ps.next = some (r, fd))

/-- "the stage holds exactly its stdin reader and its stdout writer": descriptor 0 is the read end of the
    incoming pipe (if there is one), descriptor 1 the write end of the outgoing pipe (if there is one), and
    no other descriptor refers to an end of a pipe of this pipeline -/
structure ChildHygienic (T : FdTab) (ps : PipeSet) (jin jout : Nat) : Prop where
  stdin : ps.readPrevious.isSome = true → T 0 = some (.rd jin)
  stdout : ps.next.isSome = true → T 1 = some (.wr jout)
  only : ∀ fd res, T fd = some res → res.isPipeEnd = true →
    (fd = 0 ∧ res = .rd jin ∧ ps.readPrevious.isSome = true) ∨
    (fd = 1 ∧ res = .wr jout ∧ ps.next.isSome = true)

end YashModel.Proc
