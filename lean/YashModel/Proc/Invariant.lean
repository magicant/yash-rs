/-
  C13 — the parent/children system: what a step of a child and of the parent is (`childStep_spec`, `ParentStep`),
  the invariant `Inv` and what it does not see (`Inv.idle`, `Inv.taken`, `Inv.of_children`), its preservation by every
  step of every process; every step decreases the measure; no non-final state satisfying it is stuck; runs (`Steps`).
-/
import YashModel.Proc.Wait
namespace YashModel.Proc

structure Inv (s : Sys) : Prop where
  /-- a set `state_has_changed` flag belongs to a terminated child (no stop/continue in the model) -/
  changed_halted : ∀ (i : Nat) (c : Child), s.children[i]? = some c → c.changed = true →
    c.state.isAlive = false
  /-- the handler is installed before the poll -/
  handler : s.pc = .poll ∨ s.pc = .await → s.disp = .catch
  /-- no lost SIGCHLD -/
  no_lost : s.pc = .await → ∀ (i : Nat) (c : Child), s.children[i]? = some c → s.target.matches i →
    c.changed = true → s.pending = true
  /-- while blocked there is something to wait for -/
  awaited : s.pc = .await → ∃ (i : Nat) (c : Child), s.children[i]? = some c ∧ s.target.matches i ∧
    (c.state.isAlive = true ∨ c.changed = true)
  /-- reaped exactly once -/
  once : ∀ i : Nat, logCount s.log i = if reaped s.children i then 1 else 0
  /-- what was handed out is the child's final state -/
  logged : ∀ (i : Nat) (r : Result), (i, r) ∈ s.log → ∃ c, s.children[i]? = some c ∧ c.state = .halted r

/-- `Steps s t`: some scheduler leads from `s` to `t` (any finite sequence of enabled steps) -/
inductive Steps : Sys → Sys → Prop where
  | refl (s : Sys) : Steps s s
  | tail {s t u : Sys} (l : Label) : Steps s t → step t l = some u → Steps s u

inductive StepsN : Nat → Sys → Sys → Prop where
  | refl (s : Sys) : StepsN 0 s s
  | tail {n : Nat} {s t u : Sys} (l : Label) : StepsN n s t → step t l = some u → StepsN (n + 1) s u

/-- reachable from the initial state of some children (`spec`: internal steps and final status of
    every child) and some list of requests of the parent, under some scheduler -/
def Reachable (spec : List (Nat × Result)) (reqs : List Req) (s : Sys) : Prop :=
  Steps (init spec reqs) s

theorem init_child {spec : List (Nat × Result)} {reqs : List Req} {i : Nat} {c : Child}
    (h : (init spec reqs).children[i]? = some c) : c.changed = false ∧ c.state.isAlive = true := by
  simp only [init, List.getElem?_map] at h
  cases hs : spec[i]? with
  | none => simp [hs] at h
  | some p => simp [hs] at h; subst h; simp [PState.isAlive]

theorem reaped_init (spec : List (Nat × Result)) (reqs : List Req) (i : Nat) :
    reaped (init spec reqs).children i = false := by
  unfold reaped
  split
  · rename_i c hc; simp [(init_child hc).2]
  · rfl

theorem inv_init (spec : List (Nat × Result)) (reqs : List Req) : Inv (init spec reqs) := by
  refine ⟨?_, ?_, ?_, ?_, ?_, ?_⟩
  · intro i c h hc; have := (init_child h).1; simp [hc] at this
  · intro h; simp [init] at h
  · intro h; simp [init] at h
  · intro h; simp [init] at h
  · intro i; rw [reaped_init]; simp [init, logCount]
  · intro i r h; simp [init] at h

theorem raiseSigchld_eq (s : Sys) :
    raiseSigchld s = { s with pending := s.pending || decide (s.disp = .catch) } := by
  obtain ⟨cs, d, p, pc, tg, td, rs, lg⟩ := s
  cases d <;> cases p <;> rfl

/-- A step of child `i` replaces its entry `c` (alive) by `c'` with the same fate: either `c'` is alive with the flag
    of `c` and nothing else changes (`childW` falls by 6), or `c` was at its last step, `c'` is halted and flagged and
    SIGCHLD is raised.  Only `children` and `pending` change. -/
theorem childStep_spec {s s' : Sys} {i : Nat} (hs : childStep s i = some s') :
    ∃ c c', s.children[i]? = some c ∧ c.state.isAlive = true ∧ c'.state.fin = c.state.fin ∧
      s' = { s with children := s.children.set i c', pending := s'.pending } ∧
      ((c'.state.isAlive = true ∧ c'.changed = c.changed ∧ s'.pending = s.pending ∧ childW c' + 6 = childW c) ∨
       (c.state = .running 0 c.state.fin ∧ c' = { state := .halted c.state.fin, changed := true } ∧
          s'.pending = (s.pending || decide (s.disp = .catch)))) := by
  unfold childStep at hs
  cases hc : s.children[i]? with
  | none => simp only [hc] at hs; cases hs
  | some c =>
    simp only [hc] at hs
    obtain ⟨st, ch⟩ := c
    cases st with
    | halted r => cases hs
    | running f r =>
      cases f with
      | succ f =>
        cases hs
        exact ⟨_, ⟨.running f r, ch⟩, rfl, rfl, rfl, rfl, .inl ⟨rfl, rfl, rfl, by simp only [childW]; omega⟩⟩
      | zero =>
        cases hs
        rw [raiseSigchld_eq]
        exact ⟨_, ⟨.halted r, true⟩, rfl, rfl, rfl, rfl, .inr ⟨rfl, rfl, rfl⟩⟩

theorem childStep_exit {s : Sys} {i : Nat} {c : Child} {r : Result} (hc : s.children[i]? = some c)
    (hst : c.state = .running 0 r) :
    childStep s i = some { s with children := s.children.set i { state := .halted r, changed := true },
                                  pending := s.pending || decide (s.disp = .catch) } := by
  unfold childStep
  simp only [hc, hst]
  rw [raiseSigchld_eq]

inductive ParentStep (s : Sys) : Sys → Prop where
  | enable : s.pc = .enable → ParentStep s { s with disp := .catch, pc := .poll }
  | got {i : Nat} {r : Result} : s.pc = .poll → sysWait s.children s.target = .state i (.halted r) →
      ParentStep s { s with children := take s.children i, log := (i, r) :: s.log,
                            results := .got i r :: s.results, pc := .done }
  | again {i f : Nat} {r : Result} : s.pc = .poll → sysWait s.children s.target = .state i (.running f r) →
      ParentStep s { s with children := take s.children i, pc := .enable }
  | block : s.pc = .poll → sysWait s.children s.target = .none → ParentStep s { s with pc := .await }
  | echild : s.pc = .poll → sysWait s.children s.target = .echild →
      ParentStep s { s with results := .echild :: s.results, pc := .done }
  | wake : s.pc = .await → s.pending = true → ParentStep s { s with pending := false, pc := .poll }
  | reapOne {i : Nat} {st : PState} : s.pc = .reap → sysWait s.children .any = .state i st →
      ParentStep s { s with children := take s.children i, log := logOf i st ++ s.log }
  | reapEnd : s.pc = .reap → (sysWait s.children .any = .none ∨ sysWait s.children .any = .echild) →
      ParentStep s { s with pc := .done }
  | nextWait {t : Target} {rest : List Req} : s.pc = .done → s.todo = .wait t :: rest →
      ParentStep s { s with todo := rest, target := t, pc := .enable }
  | nextReap {rest : List Req} : s.pc = .done → s.todo = .reapAll :: rest →
      ParentStep s { s with todo := rest, pc := .reap }

theorem parentStep_iff {s s' : Sys} : parentStep s = some s' ↔ ParentStep s s' := by
  constructor
  · intro hs
    unfold parentStep at hs
    cases hpc : s.pc <;> simp only [hpc] at hs
    · cases hs; exact .enable hpc
    · cases hw : sysWait s.children s.target with
      | state i st =>
        cases st with
        | running f r => simp only [hw] at hs; cases hs; exact .again hpc hw
        | halted r => simp only [hw] at hs; cases hs; exact .got hpc hw
      | none => simp only [hw] at hs; cases hs; exact .block hpc hw
      | echild => simp only [hw] at hs; cases hs; exact .echild hpc hw
    · by_cases hp : s.pending = true
      · rw [if_pos hp] at hs; cases hs; exact .wake hpc hp
      · rw [if_neg hp] at hs; cases hs
    · cases hw : sysWait s.children .any with
      | state i st => simp only [hw] at hs; cases hs; simpa only [hpc] using ParentStep.reapOne hpc hw
      | none => simp only [hw] at hs; cases hs; exact .reapEnd hpc (.inl hw)
      | echild => simp only [hw] at hs; cases hs; exact .reapEnd hpc (.inr hw)
    · cases htodo : s.todo with
      | nil => simp only [htodo] at hs; cases hs
      | cons r rest =>
        cases r with
        | wait t => simp only [htodo] at hs; cases hs; exact .nextWait hpc htodo
        | reapAll => simp only [htodo] at hs; cases hs; exact .nextReap hpc htodo
  · intro h
    cases h with
    | enable hpc => simp only [parentStep, hpc]
    | got hpc hw => simp only [parentStep, hpc, hw]
    | again hpc hw => simp only [parentStep, hpc, hw]
    | block hpc hw => simp only [parentStep, hpc, hw]
    | echild hpc hw => simp only [parentStep, hpc, hw]
    | wake hpc hp => simp only [parentStep, hpc, hp, if_true]
    | reapOne hpc hw => simp only [parentStep, hpc, hw]
    | reapEnd hpc hw => rcases hw with hw | hw <;> simp only [parentStep, hpc, hw]
    | nextWait hpc ht => simp only [parentStep, hpc, ht]
    | nextReap hpc ht => simp only [parentStep, hpc, ht]

def Pc.inWait (pc : Pc) : Prop := pc = .enable ∨ pc = .poll ∨ pc = .await

theorem ParentStep.of_done {s s' : Sys} (h : ParentStep s s') (hpc : s.pc = .done) :
    ∃ rest, (∃ t, s.todo = .wait t :: rest ∧ s' = { s with todo := rest, target := t, pc := .enable }) ∨
      (s.todo = .reapAll :: rest ∧ s' = { s with todo := rest, pc := .reap }) := by
  cases h with
  | nextWait _ ht => exact ⟨_, .inl ⟨_, ht, rfl⟩⟩
  | nextReap _ ht => exact ⟨_, .inr ⟨ht, rfl⟩⟩
  | enable h | got h | again h | block h | echild h | wake h | reapOne h | reapEnd h => rw [hpc] at h; cases h

theorem ParentStep.todo_eq {s s' : Sys} (h : ParentStep s s') (hpc : s.pc ≠ .done) : s'.todo = s.todo := by
  cases h with
  | nextWait h | nextReap h => exact absurd h hpc
  | enable | got | again | block | echild | wake | reapOne | reapEnd => rfl

/-- Inside a `wait` request the parent stays inside it — same request, nothing answered, the children untouched or a
    state that is not final taken — or answers it: with the final state of a child, or with ECHILD. -/
theorem ParentStep.of_inWait {s s' : Sys} (h : ParentStep s s') (hpc : s.pc.inWait) :
    (s'.pc.inWait ∧ s'.target = s.target ∧ s'.todo = s.todo ∧ s'.results = s.results ∧ s'.log = s.log ∧
      (s'.children = s.children ∨
        ∃ i f r, sysWait s.children s.target = .state i (.running f r) ∧ s'.children = take s.children i)) ∨
    (∃ i r, sysWait s.children s.target = .state i (.halted r) ∧
      s' = { s with children := take s.children i, log := (i, r) :: s.log,
                    results := .got i r :: s.results, pc := .done }) ∨
    (sysWait s.children s.target = .echild ∧ s' = { s with results := .echild :: s.results, pc := .done }) := by
  cases h with
  | enable => exact .inl ⟨.inr (.inl rfl), rfl, rfl, rfl, rfl, .inl rfl⟩
  | block => exact .inl ⟨.inr (.inr rfl), rfl, rfl, rfl, rfl, .inl rfl⟩
  | wake => exact .inl ⟨.inr (.inl rfl), rfl, rfl, rfl, rfl, .inl rfl⟩
  | again _ hw => exact .inl ⟨.inl rfl, rfl, rfl, rfl, rfl, .inr ⟨_, _, _, hw, rfl⟩⟩
  | got _ hw => exact .inr (.inl ⟨_, _, hw, rfl⟩)
  | echild _ hw => exact .inr (.inr ⟨hw, rfl⟩)
  | reapOne h | reapEnd h | nextWait h | nextReap h => rcases hpc with e | e | e <;> rw [e] at h <;> cases h

theorem ParentStep.of_reap {s s' : Sys} (h : ParentStep s s') (hpc : s.pc = .reap) :
    (∃ i st, sysWait s.children .any = .state i st ∧
      s' = { s with children := take s.children i, log := logOf i st ++ s.log }) ∨
    ((sysWait s.children .any = .none ∨ sysWait s.children .any = .echild) ∧ s' = { s with pc := .done }) := by
  cases h with
  | reapOne _ hw => exact .inl ⟨_, _, hw, rfl⟩
  | reapEnd _ hw => exact .inr ⟨hw, rfl⟩
  | enable h | got h | again h | block h | echild h | wake h | nextWait h | nextReap h => rw [hpc] at h; cases h

theorem Inv.state_halted {s : Sys} (h : Inv s) {t : Target} {i : Nat} {st : PState}
    (hw : sysWait s.children t = .state i st) : ∃ r, st = .halted r := by
  obtain ⟨c, hc, hch, rfl, _⟩ := sysWait_state hw
  exact PState.not_alive_iff.mp (h.changed_halted i c hc hch)

/-- the three clauses of `Inv` that speak of the blocked parent hold of every state that is not polling or blocked;
    the other three speak of `children` and `log` only -/
theorem Inv.idle {s s' : Sys} (h : Inv s) (hc : s'.children = s.children) (hl : s'.log = s.log)
    (h1 : s'.pc ≠ .poll) (h2 : s'.pc ≠ .await) : Inv s' :=
  ⟨hc ▸ h.changed_halted, fun h' => (h'.elim h1 h2).elim, fun h' => (h2 h').elim, fun h' => (h2 h').elim,
    by rw [hc, hl]; exact h.once, by rw [hc, hl]; exact h.logged⟩

/-- … and of a state that polls with the handler installed: nothing is claimed of it yet -/
theorem Inv.to_poll {s s' : Sys} (h : Inv s) (hc : s'.children = s.children) (hl : s'.log = s.log)
    (hpc : s'.pc = .poll) (hd : s'.disp = .catch) : Inv s' := by
  have notAwait : s'.pc = .await → False := fun h' => by rw [hpc] at h'; cases h'
  exact ⟨hc ▸ h.changed_halted, fun _ => hd, fun h' => (notAwait h').elim, fun h' => (notAwait h').elim,
    by rw [hc, hl]; exact h.once, by rw [hc, hl]; exact h.logged⟩

/-- the same after `take` -/
theorem Inv.taken {s s' : Sys} {t : Target} {i : Nat} {st : PState} (h : Inv s)
    (hw : sysWait s.children t = .state i st) (hc : s'.children = take s.children i)
    (hl : s'.log = logOf i st ++ s.log) (h1 : s'.pc ≠ .poll) (h2 : s'.pc ≠ .await) : Inv s' := by
  obtain ⟨r0, hr0⟩ := h.state_halted hw
  obtain ⟨c, hci, hch, rfl, _⟩ := sysWait_state hw
  refine ⟨?_, fun h' => (h'.elim h1 h2).elim, fun h' => (h2 h').elim, fun h' => (h2 h').elim, ?_, ?_⟩
  · rw [hc]
    intro j c' hj hch'
    rcases of_get_set hci (take_eq_set hci ▸ hj) with ⟨_, rfl⟩ | ⟨_, hj⟩
    · cases hch'
    · exact h.changed_halted j c' hj hch'
  · rw [hc, hl]
    intro j
    rw [take_eq_set hci, hr0]
    simp only [logOf, logCount, List.cons_append, List.nil_append, List.countP_cons]
    by_cases hji : j = i
    · subst hji
      rw [reaped_set_self hci]
      have := h.once j
      rw [reaped_self hci] at this
      simp [hch, logCount] at this
      simp [PState.isAlive]
      exact this
    · rw [reaped_set_other hci hji]
      have := h.once j
      have hne : ¬ i = j := fun e => hji e.symm
      simp [logCount] at this
      simp [hne, this]
  · rw [hc, hl]
    intro j r hj
    rw [hr0] at hj
    simp only [logOf, List.cons_append, List.nil_append, List.mem_cons] at hj
    rw [take_get hci]
    rcases hj with hj | hj
    · simp only [Prod.mk.injEq] at hj
      obtain ⟨rfl, rfl⟩ := hj
      exact ⟨{ c with changed := false }, by simp, hr0⟩
    · obtain ⟨c', h1, h2⟩ := h.logged j r hj
      by_cases hji : j = i
      · subst hji
        rw [hci] at h1; simp at h1; subst h1
        exact ⟨{ c with changed := false }, by simp, h2⟩
      · exact ⟨c', by simp [hji, h1], h2⟩

/-- `Inv` does not see a child that has not ended: entries may be replaced (or appended) freely as long as the old
    entry, if any, and the new one are alive and the new one is unflagged -/
theorem Inv.of_children {s : Sys} (h : Inv s) (cs' : List Child)
    (hrel : ∀ i : Nat, cs'[i]? = s.children[i]? ∨
      ((∀ c : Child, s.children[i]? = some c → c.state.isAlive = true) ∧
        ∃ c' : Child, cs'[i]? = some c' ∧ c'.state.isAlive = true ∧ c'.changed = false)) :
    Inv { s with children := cs' } := by
  have hre : ∀ i, reaped cs' i = reaped s.children i := by
    intro i
    rcases hrel i with e | ⟨hold, c', hc', hal, _⟩
    · unfold reaped; rw [e]
    · have : reaped s.children i = false := by
        unfold reaped
        cases hc : s.children[i]? with
        | none => rfl
        | some c => simp [hold c hc]
      rw [this, reaped_self hc', hal]; rfl
  refine ⟨?_, h.handler, ?_, ?_, fun i => by rw [hre]; exact h.once i, ?_⟩
  · intro i c hc hch
    rcases hrel i with e | ⟨_, c', hc', _, hf⟩
    · exact h.changed_halted i c (e ▸ hc) hch
    · cases hc.symm.trans hc'; rw [hf] at hch; cases hch
  · intro hpc i c hc hm hch
    rcases hrel i with e | ⟨_, c', hc', _, hf⟩
    · exact h.no_lost hpc i c (e ▸ hc) hm hch
    · cases hc.symm.trans hc'; rw [hf] at hch; cases hch
  · intro hpc
    obtain ⟨i, c, hc, hm, hor⟩ := h.awaited hpc
    rcases hrel i with e | ⟨_, c', hc', hal, _⟩
    · exact ⟨i, c, e.trans hc, hm, hor⟩
    · exact ⟨i, c', hc', hm, .inl hal⟩
  · intro i r hm
    obtain ⟨c, hc, hst⟩ := h.logged i r hm
    rcases hrel i with e | ⟨hold, _⟩
    · exact ⟨c, e.trans hc, hst⟩
    · have := hold c hc; rw [hst] at this; cases this

theorem Inv.reaped_iff_logged {s : Sys} (h : Inv s) (i : Nat) :
    reaped s.children i = true ↔ ∃ r, (i, r) ∈ s.log := by
  have := h.once i
  constructor
  · intro hr
    rw [hr, if_pos rfl] at this
    have hpos : 0 < List.countP (fun e => e.1 == i) s.log := by unfold logCount at this; rw [this]; exact Nat.one_pos
    obtain ⟨e, he, hei⟩ := List.countP_pos_iff.mp hpos
    have hi : e.1 = i := by simpa using hei
    exact ⟨e.2, hi ▸ he⟩
  · rintro ⟨r, hm⟩
    cases hr : reaped s.children i with
    | true => rfl
    | false =>
      rw [hr] at this
      have hz := List.countP_eq_zero.mp this (i, r) hm
      simp at hz

theorem Inv.logged_fin {s : Sys} (h : Inv s) {i : Nat} {r : Result} (hm : (i, r) ∈ s.log) :
    (fins s)[i]? = some r := by
  obtain ⟨c, hc, hst⟩ := h.logged i r hm
  simp [fins, List.getElem?_map, hc, hst, PState.fin]

/-- the child that moves was alive, and is alive or flagged afterwards -/
theorem reaped_childStep {s s' : Sys} (i j : Nat) (hs : childStep s j = some s') :
    reaped s'.children i = reaped s.children i := by
  obtain ⟨c, c', hc, hal, _, e, h⟩ := childStep_spec hs
  rw [e]
  by_cases hij : i = j
  · subst hij
    simp only
    rw [reaped_set_self hc, reaped_self hc, hal]
    rcases h with ⟨h, _⟩ | ⟨_, rfl, _⟩
    · simp [h]
    · simp
  · exact reaped_set_other hc hij

theorem inv_child {s s' : Sys} (i : Nat) (h : Inv s) (hs : childStep s i = some s') : Inv s' := by
  obtain ⟨c, c', hc, hal, _, e, hk⟩ := childStep_spec hs
  have hunfl : c.changed = false := by
    cases hch : c.changed with
    | false => rfl
    | true => have := h.changed_halted i c hc hch; rw [hal] at this; cases this
  rcases hk with ⟨hal', hch', hp, _⟩ | ⟨_, rfl, hp⟩
  · rw [e, hp]
    refine h.of_children _ fun j => ?_
    rw [get_set hc]
    by_cases hji : j = i
    · subst hji
      exact .inr ⟨fun d hd => by cases hc.symm.trans hd; exact hal, c', by simp, hal', hch'.trans hunfl⟩
    · exact .inl (by simp [hji])
  · -- the child terminates: `set_state` + SIGCHLD to the parent
    have hget : ∀ j, s'.children[j]? = if j = i then some ⟨.halted c.state.fin, true⟩ else s.children[j]? := by
      intro j; rw [e]; exact get_set hc _ j
    have hpc : s'.pc = s.pc := by rw [e]
    have hlog : s'.log = s.log := by rw [e]
    have htg : s'.target = s.target := by rw [e]
    have hdisp : s'.disp = s.disp := by rw [e]
    refine ⟨?_, by rw [hpc, hdisp]; exact h.handler, ?_, ?_, ?_, ?_⟩
    · intro j d hj hch
      rcases of_get_set hc (e ▸ hj) with ⟨_, rfl⟩ | ⟨_, hj⟩
      · rfl
      · exact h.changed_halted j d hj hch
    · intro hpc' _ _ _ _ _
      rw [hpc] at hpc'
      rw [hp, h.handler (.inr hpc')]; simp
    · intro hpc'
      rw [hpc] at hpc'
      obtain ⟨j, d, hj, hm, hor⟩ := h.awaited hpc'
      rw [htg]
      by_cases hji : j = i
      · exact ⟨j, _, by rw [hget, if_pos hji], hm, .inr rfl⟩
      · exact ⟨j, d, by rw [hget, if_neg hji]; exact hj, hm, hor⟩
    · intro j
      rw [reaped_childStep j i hs, hlog]; exact h.once j
    · intro j r hm
      rw [hlog] at hm
      obtain ⟨d, h1, h2⟩ := h.logged j r hm
      by_cases hji : j = i
      · subst hji; cases hc.symm.trans h1; rw [h2] at hal; cases hal
      · exact ⟨d, by rw [hget, if_neg hji]; exact h1, h2⟩

theorem inv_parent {s s' : Sys} (h : Inv s) (hs : parentStep s = some s') : Inv s' := by
  cases parentStep_iff.mp hs with
  | enable hpc => exact h.to_poll rfl rfl rfl rfl
  | got hpc hw => exact h.taken hw rfl rfl (by simp) (by simp)
  | again hpc hw => exact h.taken hw rfl rfl (by simp) (by simp)
  | echild hpc hw => exact h.idle rfl rfl (by simp) (by simp)
  | reapOne hpc hw => exact h.taken hw rfl rfl (by simp [hpc]) (by simp [hpc])
  | reapEnd hpc hw => exact h.idle rfl rfl (by simp) (by simp)
  | nextWait hpc ht => exact h.idle rfl rfl (by simp) (by simp)
  | nextReap hpc ht => exact h.idle rfl rfl (by simp) (by simp)
  | wake hpc hp => exact h.to_poll rfl rfl rfl (h.handler (.inr hpc))
  | block hpc hw =>
    obtain ⟨⟨i, c, hc, hm, hal⟩, hno⟩ := sysWait_none hw
    exact ⟨h.changed_halted, fun _ => h.handler (.inl hpc),
      fun _ j c' hj hm' hch => by have := hno j c' hj hm'; simp [hch] at this,
      fun _ => ⟨i, c, hc, hm, .inl hal⟩, h.once, h.logged⟩

theorem inv_step {s s' : Sys} (l : Label) (h : Inv s) (hs : step s l = some s') : Inv s' := by
  cases l with
  | parent => exact inv_parent h hs
  | child i => exact inv_child i h hs

theorem child_frame {s s' : Sys} (j : Nat) (hs : childStep s j = some s') :
    s'.log = s.log ∧ s'.results = s.results ∧ s'.pc = s.pc ∧ s'.todo = s.todo ∧ s'.target = s.target ∧
      s'.disp = s.disp := by
  obtain ⟨c, c', _, _, _, e, _⟩ := childStep_spec hs
  rw [e]; exact ⟨rfl, rfl, rfl, rfl, rfl, rfl⟩

theorem childStep_other {s s' : Sys} {i j : Nat} (hs : childStep s i = some s') (hij : j ≠ i) :
    s'.children[j]? = s.children[j]? := by
  obtain ⟨c, c', hc, _, _, e, _⟩ := childStep_spec hs
  rw [e]; simp [get_set hc, hij]

theorem measure_child_pending {s s' : Sys} (i : Nat) (hs : childStep s i = some s') :
    measure s' < measure s ∧ (measure s' + 2 ≤ measure s ∨ s'.pending = s.pending) := by
  obtain ⟨c, c', hc, _, _, e, h⟩ := childStep_spec hs
  have hw := childrenW_set hc c'
  rcases h with ⟨_, _, hp, h6⟩ | ⟨hst, rfl, hp⟩
  · refine ⟨?_, .inr hp⟩
    rw [e]; simp only [measure, hp]; omega
  · have : childW c ≥ 6 ∧ childW ({ state := .halted c.state.fin, changed := true } : Child) = 2 := by
      rw [childW, hst]; simp [childW]
    have h2 : (if s'.pending = true then 2 else 0) ≤ (if s.pending = true then 2 else 0) + 2 := by split <;> split <;> omega
    have : measure s' + 2 ≤ measure s := by
      rw [e]; simp only [measure]; omega
    exact ⟨by omega, .inl this⟩

theorem measure_parent {s s' : Sys} (hs : parentStep s = some s') : measure s' < measure s := by
  cases parentStep_iff.mp hs with
  | got hpc hw | again hpc hw | reapOne hpc hw =>
    have := childrenW_take hw; simp only [measure, hpc, pcW]; omega
  | wake hpc hp => simp only [measure, hpc, pcW, hp]; simp
  | nextWait hpc ht | nextReap hpc ht => simp only [measure, hpc, pcW, ht, List.length_cons]; omega
  | enable hpc | block hpc hw | echild hpc hw | reapEnd hpc hw => simp only [measure, hpc, pcW]; omega

/-- ★ Every step of every process strictly decreases `measure` — so every schedule is
    finite, whatever the scheduler does (no livelock). -/
theorem step_decreases {s s' : Sys} (l : Label) (hs : step s l = some s') : measure s' < measure s := by
  cases l with
  | parent => exact measure_parent hs
  | child i => exact (measure_child_pending i hs).1

theorem child_alive_enabled {s : Sys} {i : Nat} {c : Child} (hc : s.children[i]? = some c)
    (hal : c.state.isAlive = true) : ∃ s', childStep s i = some s' := by
  obtain ⟨f, r, hst⟩ := PState.alive_iff.mp hal
  unfold childStep
  cases f <;> (simp only [hc, hst]; exact ⟨_, rfl⟩)

theorem not_stuck {s : Sys} (h : Inv s) (hf : s.final = false) : ∃ l s', step s l = some s' := by
  have parent : ∀ {s'}, ParentStep s s' → ∃ l s', step s l = some s' :=
    fun hp => ⟨.parent, _, parentStep_iff.mpr hp⟩
  cases hpc : s.pc with
  | enable => exact parent (.enable hpc)
  | poll =>
    cases hw : sysWait s.children s.target with
    | state i st =>
      cases st with
      | running f r => exact parent (.again hpc hw)
      | halted r => exact parent (.got hpc hw)
    | none => exact parent (.block hpc hw)
    | echild => exact parent (.echild hpc hw)
  | reap =>
    cases hw : sysWait s.children .any with
    | state i st => exact parent (.reapOne hpc hw)
    | none => exact parent (.reapEnd hpc (.inl hw))
    | echild => exact parent (.reapEnd hpc (.inr hw))
  | done =>
    cases htodo : s.todo with
    | nil => simp [Sys.final, hpc, htodo] at hf
    | cons r rest =>
      cases r with
      | wait t => exact parent (.nextWait hpc htodo)
      | reapAll => exact parent (.nextReap hpc htodo)
  | await =>
    -- something awaited is alive (it can move) or flagged (then SIGCHLD is pending: `no_lost`)
    obtain ⟨i, c, hc, hm, hor⟩ := h.awaited hpc
    by_cases hch : c.changed = true
    · exact parent (.wake hpc (h.no_lost hpc i c hc hm hch))
    · obtain ⟨s', hs'⟩ := child_alive_enabled hc (hor.resolve_right hch)
      exact ⟨.child i, s', hs'⟩

theorem Steps.trans {s t u : Sys} (h1 : Steps s t) (h2 : Steps t u) : Steps s u := by
  induction h2 with
  | refl => exact h1
  | tail l _ hs ih => exact .tail l ih hs

theorem Steps.head {s t u : Sys} (l : Label) (hs : step s l = some t) (h : Steps t u) : Steps s u :=
  Steps.trans (.tail l (.refl s) hs) h

theorem inv_steps {s t : Sys} (h : Steps s t) (hi : Inv s) : Inv t := by
  induction h with
  | refl => exact hi
  | tail l _ hs ih => exact inv_step l ih hs

theorem reachable_inv {spec : List (Nat × Result)} {reqs : List Req} {s : Sys}
    (h : Reachable spec reqs s) : Inv s :=
  inv_steps h (inv_init spec reqs)

theorem fins_set {cs : List Child} {i : Nat} {c c' : Child} (hc : cs[i]? = some c) (h : c'.state.fin = c.state.fin) :
    (cs.set i c').map (·.state.fin) = cs.map (·.state.fin) := by
  apply List.ext_getElem?
  intro j
  simp only [List.getElem?_map, get_set hc]
  by_cases hji : j = i
  · subst hji; simp [hc, h]
  · simp [hji]

theorem fin_child {s s' : Sys} (i : Nat) (hs : childStep s i = some s') : fins s' = fins s := by
  obtain ⟨c, c', hc, _, hfin, e, _⟩ := childStep_spec hs
  rw [e]; exact fins_set hc hfin

theorem fin_take (cs : List Child) (i : Nat) : (take cs i).map (·.state.fin) = cs.map (·.state.fin) := by
  cases hc : cs[i]? with
  | none => unfold take; rw [hc]
  | some c => rw [take_eq_set hc]; exact fins_set hc rfl

theorem parent_children {s s' : Sys} (hs : parentStep s = some s') :
    s'.children = s.children ∨ ∃ j, s'.children = take s.children j := by
  cases parentStep_iff.mp hs <;> first | exact .inl rfl | exact .inr ⟨_, rfl⟩

theorem fin_parent {s s' : Sys} (hs : parentStep s = some s') : fins s' = fins s := by
  unfold fins
  rcases parent_children hs with e | ⟨j, e⟩ <;> rw [e]
  exact fin_take _ _

theorem fin_steps {s t : Sys} (h : Steps s t) : fins t = fins s := by
  induction h with
  | refl => rfl
  | tail l _ hs ih =>
    rw [← ih]
    cases l with
    | parent => exact fin_parent hs
    | child i => exact fin_child i hs

theorem fins_length {s s' : Sys} (h : fins s' = fins s) : s'.children.length = s.children.length := by
  have := congrArg List.length h; simpa [fins] using this

theorem fins_init (spec : List (Nat × Result)) (reqs : List Req) : fins (init spec reqs) = spec.map (·.2) := by
  simp only [fins, init, List.map_map]
  exact List.map_congr_left fun p _ => rfl

theorem reachable_fins {spec : List (Nat × Result)} {reqs : List Req} {s : Sys} (h : Reachable spec reqs s) :
    fins s = spec.map (·.2) :=
  (fin_steps h).trans (fins_init spec reqs)

theorem reachable_length {spec : List (Nat × Result)} {reqs : List Req} {s : Sys} (h : Reachable spec reqs s) :
    s.children.length = spec.length := by
  have := congrArg List.length (reachable_fins h); simpa [fins] using this

end YashModel.Proc
