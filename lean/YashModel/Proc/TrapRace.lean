/-
  C13 — "the trap wins": once the shell is blocked with a trapped signal pending (`Armed`) every run ends the built-in
  `Trapped`; the scenarios that lead there under every schedule (`Sole`, `SoleChld`) and, with any other children,
  under the executor's scheduling, where a turn of the shell is a burst (`BSteps`, `Waiting`, `Race`).
-/
import YashModel.Proc.TrapInv
import YashModel.Common.Loop
namespace YashModel.Proc
open YashModel.Run (Loop)

/-- the shell is blocked in `wait_for_signals` and a signal with a trap action is pending -/
def Armed (t : TSys) (σ : Nat) (log0 : List (Nat × Result)) : Prop :=
  t.out = none ∧ t.sys.pc = .await ∧ firstTrapped t.traps t.sigPending = some σ ∧ t.sys.log = log0

/-- the built-in has ended with `Trapped(σ)` and has handed out no child's state -/
def Fired (t : TSys) (σ : Nat) (log0 : List (Nat × Result)) : Prop :=
  t.out = some (.trapped σ) ∧ t.sys.log = log0

theorem firstTrapped_append {traps l l' : List Nat} {σ : Nat} (h : firstTrapped traps l = some σ) :
    firstTrapped traps (l ++ l') = some σ := by
  unfold firstTrapped at h ⊢; rw [List.find?_append, h]; rfl

theorem armed_step {t t' : TSys} {σ : Nat} {log0 : List (Nat × Result)} (l : TLabel)
    (h : Armed t σ log0 ∨ Fired t σ log0) (hs : tstep t l = some t') : Armed t' σ log0 ∨ Fired t' σ log0 := by
  by_cases hl : l = .parent
  · subst hl
    rcases h with ⟨hout, hpc, hft, hlog⟩ | ⟨hout, hlog⟩
    · -- the shell runs the trap of the first trapped signal: `σ`
      obtain ⟨_, ⟨σ', hf, rfl⟩ | ⟨hf, _⟩⟩ := (tparentStep_iff.mp hs).of_await hpc <;> rw [hft] at hf <;> cases hf
      exact .inr ⟨rfl, hlog⟩
    · rw [tparentStep_out hs] at hout; cases hout
  · obtain ⟨f1, f2, f3, l0, f4⟩ := tstep_others hl hs
    rcases h with ⟨hout, hpc, hft, hlog⟩ | ⟨hout, hlog⟩
    · exact .inl ⟨f1.trans hout, f2.trans hpc, by rw [f4, (tstep_frame l hs).2.1]; exact firstTrapped_append hft, f3.trans hlog⟩
    · exact .inr ⟨f1.trans hout, f3.trans hlog⟩

theorem armed_steps {t u : TSys} {σ : Nat} {log0 : List (Nat × Result)} (h : TSteps t u)
    (ha : Armed t σ log0 ∨ Fired t σ log0) : Armed u σ log0 ∨ Fired u σ log0 := by
  induction h with
  | refl => exact ha
  | tail l _ hs ih => exact armed_step l ih hs

theorem armed_out {u : TSys} {σ : Nat} {log0 : List (Nat × Result)} {o : TrapOut}
    (h : Armed u σ log0 ∨ Fired u σ log0) (ho : u.out = some o) : o = .trapped σ ∧ u.sys.log = log0 := by
  rcases h with ⟨h1, _⟩ | ⟨h1, h2⟩ <;> rw [h1] at ho <;> cases ho
  exact ⟨rfl, h2⟩

/-- A phase `P` that every step keeps (with the log) or leaves for `Armed`: every run from it is still in the phase, or
    armed, or has ended `Trapped` — with the log of the start. -/
theorem phase_steps {P : TSys → Prop} {σ : Nat}
    (step : ∀ (l : TLabel) (t t' : TSys), P t → tstep t l = some t' →
      (P t' ∧ t'.sys.log = t.sys.log) ∨ Armed t' σ t.sys.log)
    {t u : TSys} (h : TSteps t u) (hs : P t) :
    (P u ∧ u.sys.log = t.sys.log) ∨ Armed u σ t.sys.log ∨ Fired u σ t.sys.log := by
  induction h with
  | refl => exact Or.inl ⟨hs, rfl⟩
  | tail l _ hst ih =>
    rcases ih with ⟨h1, hl⟩ | h2
    · rcases step l _ _ h1 hst with ⟨h3, hl3⟩ | h3
      · exact Or.inl ⟨h3, hl3.trans hl⟩
      · right; left; rw [← hl]; exact h3
    · exact Or.inr (armed_step l h2 hst)

theorem phase_out {P : TSys → Prop} {σ : Nat} {t u : TSys} {o : TrapOut} (hP : ∀ t, P t → t.out = none)
    (h : (P u ∧ u.sys.log = t.sys.log) ∨ Armed u σ t.sys.log ∨ Fired u σ t.sys.log) (ho : u.out = some o) :
    o = .trapped σ ∧ u.sys.log = t.sys.log := by
  rcases h with ⟨h1, _⟩ | h2
  · rw [hP u h1] at ho; cases ho
  · exact armed_out h2 ho

/-- The shell is blocked in `wait` for the job, the only child alive, and nothing is pending: what `Sole` and `SoleChld`
    share. -/
structure Blocked (t : TSys) : Prop where
  out : t.out = none
  pc : t.sys.pc = .await
  pending : t.sys.pending = false
  nosig : t.sigPending = []
  others : ∀ (i : Nat) (c : Child), t.sys.children[i]? = some c → i ≠ t.job → c.state.isAlive = false
  jobAlive : ∃ c, t.sys.children[t.job]? = some c ∧ c.state.isAlive = true

theorem Blocked.parent_stuck {t : TSys} (h : Blocked t) : tparentStep t = none := by
  cases hs : tparentStep t with
  | none => rfl
  | some t' => have := ((tparentStep_iff.mp hs).of_await h.pc).1; simp [h.pending, h.nosig] at this

theorem Blocked.only_job {t : TSys} {i : Nat} {c : Child} (h : Blocked t) (hc : t.sys.children[i]? = some c)
    (hal : c.state.isAlive = true) : i = t.job :=
  Classical.byContradiction fun hij => by have := h.others i c hc hij; rw [hal] at this; cases this

/-- The only child that can move is the job.  An internal step of it keeps the phase; else it is the job's last step,
    which raises SIGCHLD if the handler is installed.  The log, the program counter, the disposition stay. -/
theorem Blocked.child {t : TSys} {i : Nat} {s : Sys} (h : Blocked t) (hcs : childStep t.sys i = some s) :
    i = t.job ∧ s.log = t.sys.log ∧ s.pc = .await ∧ s.disp = t.sys.disp ∧
    (Blocked { t with sys := s, sigPending := noteChld t s } ∨
      ∃ c, t.sys.children[t.job]? = some c ∧ c.state = .running 0 c.state.fin ∧
        s.pending = decide (t.sys.disp = .catch)) := by
  obtain ⟨f1, _, f3, _, _, f6⟩ := child_frame _ hcs
  obtain ⟨c, c', hc, hal, _, e, hk⟩ := childStep_spec hcs
  cases h.only_job hc hal
  refine ⟨rfl, f1, f3.trans h.pc, f6, ?_⟩
  rcases hk with ⟨hal', _, hp, _⟩ | ⟨hst, _, hp⟩
  · refine .inl ⟨h.out, f3.trans h.pc, hp.trans h.pending, (noteChld_same hp).trans h.nosig, ?_, ?_⟩
    · intro k d hk hkj; rw [childStep_other hcs hkj] at hk; exact h.others k d hk hkj
    · exact ⟨c', by rw [e]; simp [get_set hc], hal'⟩
  · exact .inr ⟨c, hc, hst, by rw [hp, h.pending]; rfl⟩

theorem not_last_of_sender {t : TSys} {i : Nat} {c : Child}
    (hb : ¬ (c.state = .running 0 c.state.fin ∧ t.senders.any (fun e => e.1 == i) = true))
    (hs : ∃ e, e ∈ t.senders ∧ e.1 = i) : c.state ≠ .running 0 c.state.fin := by
  obtain ⟨e0, he, hej⟩ := hs
  exact fun hst => hb ⟨hst, List.any_eq_true.mpr ⟨e0, he, by simp [hej]⟩⟩

/-- The shell is blocked in `wait` for job `j`, which is the only child alive; `j` still has to send the trapped
    signal `σ` to the shell (before it exits), nothing is pending yet. -/
structure Sole (t : TSys) (σ : Nat) : Prop where
  out : t.out = none
  pc : t.sys.pc = .await
  pending : t.sys.pending = false
  nosig : t.sigPending = []
  others : ∀ (i : Nat) (c : Child), t.sys.children[i]? = some c → i ≠ t.job → c.state.isAlive = false
  jobAlive : ∃ c, t.sys.children[t.job]? = some c ∧ c.state.isAlive = true
  sender : ∃ e, e ∈ t.senders ∧ e.1 = t.job
  sigs : ∀ e, e ∈ t.senders → e.1 = t.job → e.2 = σ
  trapped : σ ∈ t.traps

theorem Sole.blocked {t : TSys} {σ : Nat} (h : Sole t σ) : Blocked t :=
  ⟨h.out, h.pc, h.pending, h.nosig, h.others, h.jobAlive⟩

theorem sole_step {t t' : TSys} {σ : Nat} (l : TLabel) (h : Sole t σ) (hs : tstep t l = some t') :
    (Sole t' σ ∧ t'.sys.log = t.sys.log) ∨ Armed t' σ t.sys.log := by
  cases l with
  | parent => rw [show tstep t .parent = tparentStep t from rfl, h.blocked.parent_stuck] at hs; cases hs
  | child i =>
    obtain ⟨c, s, hc, hb, hcs, rfl⟩ := tchildStep_iff.mp hs
    obtain ⟨rfl, f1, _, _, hB | ⟨c0, hc0, hst, _⟩⟩ := h.blocked.child hcs
    · exact .inl ⟨⟨hB.out, hB.pc, hB.pending, hB.nosig, hB.others, hB.jobAlive, h.sender, h.sigs, h.trapped⟩, f1⟩
    · cases hc.symm.trans hc0; exact absurd hst (not_last_of_sender hb h.sender)
  | send k =>
    right
    obtain ⟨i, σ', c, hk, hc, hal, _, rfl⟩ := tsendStep_iff.mp hs
    cases h.sigs (i, σ') (List.mem_of_getElem? hk) (h.blocked.only_job hc hal)
    have htr : σ' ∈ t.traps := h.trapped
    exact ⟨h.out, h.pc, by simp [h.nosig, htr, firstTrapped], rfl⟩

theorem sole_steps {t u : TSys} {σ : Nat} (h : TSteps t u) (hs : Sole t σ) :
    (Sole u σ ∧ u.sys.log = t.sys.log) ∨ Armed u σ t.sys.log ∨ Fired u σ t.sys.log :=
  phase_steps (P := (Sole · σ)) (fun l _ _ h hs => sole_step l h hs) h hs

/-- `trap … CHLD; cmd & wait $!`: the shell is blocked in `wait` for job `j`, its only live child; SIGCHLD has a
    trap action, the handler is installed, nobody sends anything. -/
structure SoleChld (t : TSys) : Prop where
  out : t.out = none
  pc : t.sys.pc = .await
  disp : t.sys.disp = .catch
  pending : t.sys.pending = false
  nosig : t.sigPending = []
  others : ∀ (i : Nat) (c : Child), t.sys.children[i]? = some c → i ≠ t.job → c.state.isAlive = false
  jobAlive : ∃ c, t.sys.children[t.job]? = some c ∧ c.state.isAlive = true
  quiet : t.senders = []
  trapped : SIGCHLD_NO ∈ t.traps

theorem SoleChld.blocked {t : TSys} (h : SoleChld t) : Blocked t :=
  ⟨h.out, h.pc, h.pending, h.nosig, h.others, h.jobAlive⟩

theorem sole_chld_step {t t' : TSys} (l : TLabel) (h : SoleChld t) (hs : tstep t l = some t') :
    (SoleChld t' ∧ t'.sys.log = t.sys.log) ∨ Armed t' SIGCHLD_NO t.sys.log := by
  cases l with
  | parent => rw [show tstep t .parent = tparentStep t from rfl, h.blocked.parent_stuck] at hs; cases hs
  | send k =>
    obtain ⟨_, _, _, hk, _⟩ := tsendStep_iff.mp hs
    rw [h.quiet] at hk; cases hk
  | child i =>
    obtain ⟨c, s, hc, hb, hcs, rfl⟩ := tchildStep_iff.mp hs
    obtain ⟨rfl, f1, f3, f6, hB | ⟨_, _, _, hp⟩⟩ := h.blocked.child hcs
    · exact .inl ⟨⟨hB.out, hB.pc, f6.trans h.disp, hB.pending, hB.nosig, hB.others, hB.jobAlive, h.quiet, h.trapped⟩, f1⟩
    · -- the job's exit raises SIGCHLD, which has a trap action and is the only signal pending
      refine .inr ⟨h.out, f3, ?_, f1⟩
      simp [noteChld, hp, h.disp, h.pending, h.nosig, firstTrapped, h.trapped]

theorem sole_chld_steps {t u : TSys} (h : TSteps t u) (hs : SoleChld t) :
    (SoleChld u ∧ u.sys.log = t.sys.log) ∨ Armed u SIGCHLD_NO t.sys.log ∨ Fired u SIGCHLD_NO t.sys.log :=
  phase_steps (fun l _ _ h hs => sole_chld_step l h hs) h hs

theorem parentBurst_loop : Loop (fun n (_ : Unit) t => parentBurst n t) (fun t u => tparentStep t = some u)
    (fun t => tparentStep t = none) where
  zero _ _ := rfl
  succ n _ t := by
    cases e : tparentStep t with
    | none => exact .inl ⟨by simp only [parentBurst, e], rfl⟩
    | some u => exact .inr ⟨(), u, rfl, by simp only [parentBurst, e]⟩

theorem bstep_parent {t t' : TSys} (hs : bstep t .parent = some t') : t' = parentTurn t := by
  simp only [bstep, Option.map_eq_some_iff] at hs
  obtain ⟨_, _, e⟩ := hs; exact e.symm

theorem parentTurn_tsteps (t : TSys) : TSteps t (parentTurn t) :=
  parentBurst_loop.keeps (P := TSteps t) (fun h e => .tail .parent h e) (tmeasure t) () t (.refl t)

theorem bstep_tsteps {t t' : TSys} (l : TLabel) (hs : bstep t l = some t') : TSteps t t' := by
  cases l with
  | parent => cases bstep_parent hs; exact parentTurn_tsteps t
  | child i => exact .tail (.child i) (.refl t) hs
  | send k => exact .tail (.send k) (.refl t) hs

/-! ### under the executor's scheduling (a turn of the shell is a burst): any other children -/

/-- `BSteps t u`: a run of the system as the virtual executor schedules it — the shell, once scheduled, runs until
    it blocks (`Concurrent::run_virtual`), children and senders step one at a time -/
inductive BSteps : TSys → TSys → Prop where
  | refl (t : TSys) : BSteps t t
  | tail {t u v : TSys} (l : TLabel) : BSteps t u → bstep u l = some v → BSteps t v

theorem BSteps.tsteps {t u : TSys} (h : BSteps t u) : TSteps t u := by
  induction h with
  | refl => exact .refl _
  | tail l _ hs ih => exact TSteps.trans ih (bstep_tsteps l hs)

theorem parentTurn_blocked (t : TSys) : tparentStep (parentTurn t) = none :=
  (parentBurst_loop.stops_noMove (I := fun _ => True) tmeasure (fun _ _ => trivial) (fun _ e => tmeasure_parent e)
    (fun _ h => Option.eq_none_iff_forall_ne_some.2 fun u hs => h u hs) (tmeasure t) () t trivial (Nat.le_refl _)).2

/-- Mid-turn state of the shell waiting for job `j` that is alive, unreported, not recorded as finished and still
    has to send `σ`; nothing but SIGCHLD has arrived.  No condition on the other children. -/
structure Waiting (t : TSys) (σ : Nat) : Prop where
  out : t.out = none
  pcs : t.sys.pc = .enable ∨ t.sys.pc = .poll ∨ t.sys.pc = .await
  nosig : t.sigPending = []
  jobAlive : ∃ c, t.sys.children[t.job]? = some c ∧ c.state.isAlive = true ∧ c.changed = false
  open_ : jobDone t.sys.log t.job = none
  sender : ∃ e, e ∈ t.senders ∧ e.1 = t.job
  sigs : ∀ e, e ∈ t.senders → e.2 = σ
  trapped : σ ∈ t.traps
  /-- SIGCHLD itself has no trap action (else the exit of any other child interrupts the built-in as well) -/
  nochld : SIGCHLD_NO ∉ t.traps
  /-- `wait_while_running(job_status(job))`, not the single call of a bare `wait` -/
  multi : t.single = false

theorem noteChld_notrap {t : TSys} (s : Sys) (h : SIGCHLD_NO ∉ t.traps) : noteChld t s = t.sigPending := by
  unfold noteChld
  simp
  intro _ _ h3; exact absurd h3 h

theorem jobDone_logOf {log : List (Nat × Result)} {i j : Nat} (st : PState) (hij : i ≠ j) :
    jobDone (logOf i st ++ log) j = jobDone log j := by
  cases st with
  | running f r => simp [logOf]
  | halted r =>
    have : (i == j) = false := by simpa using hij
    simp [logOf, jobDone, this]

theorem waiting_parent {t t' : TSys} {σ : Nat} (h : Waiting t σ) (hs : tparentStep t = some t') :
    Waiting t' σ := by
  obtain ⟨cj, hcj, halj, hchj⟩ := h.jobAlive
  -- a state handed out now is not the job's: the job is unflagged
  have notJob : ∀ {i : Nat} {st : PState}, sysWait t.sys.children .any = .state i st →
      i ≠ t.job ∧ (take t.sys.children i)[t.job]? = some cj := by
    intro i st hw
    obtain ⟨c, hc, hch, _, _⟩ := sysWait_state hw
    have hij : i ≠ t.job := by
      intro e; subst e; cases hc.symm.trans hcj; rw [hchj] at hch; cases hch
    exact ⟨hij, by rw [take_get hc, if_neg (Ne.symm hij)]; exact hcj⟩
  cases tparentStep_iff.mp hs with
  | enable =>
    exact ⟨h.out, .inr (.inl rfl), h.nosig, ⟨cj, hcj, halj, hchj⟩, h.open_, h.sender, h.sigs, h.trapped, h.nochld, h.multi⟩
  | block =>
    exact ⟨h.out, .inr (.inr rfl), h.nosig, ⟨cj, hcj, halj, hchj⟩, h.open_, h.sender, h.sigs, h.trapped, h.nochld, h.multi⟩
  | wake =>
    exact ⟨h.out, .inr (.inl rfl), rfl, ⟨cj, hcj, halj, hchj⟩, h.open_, h.sender, h.sigs, h.trapped, h.nochld, h.multi⟩
  | trapped _ _ _ hf => simp [h.nosig, firstTrapped] at hf
  | changed _ _ _ hsg => rw [h.multi] at hsg; cases hsg
  | nothing _ _ hw => have := ((wait_any_echild_iff _).mp hw t.job cj hcj).2; rw [halj] at this; cases this
  | @finished i st r _ _ hw _ hj => rw [jobDone_logOf st (notJob hw).1, h.open_] at hj; cases hj
  | other _ _ hw _ hj =>
    exact ⟨h.out, .inl rfl, h.nosig, ⟨cj, (notJob hw).2, halj, hchj⟩, hj, h.sender, h.sigs, h.trapped, h.nochld, h.multi⟩

theorem waiting_burst {t : TSys} {σ : Nat} (n : Nat) (h : Waiting t σ) : Waiting (parentBurst n t) σ :=
  parentBurst_loop.keeps (P := (Waiting · σ)) waiting_parent n () t h

theorem waiting_turn {t : TSys} {σ : Nat} (h : Waiting t σ) :
    Waiting (parentTurn t) σ ∧ (parentTurn t).sys.pc = .await := by
  have hw : Waiting (parentTurn t) σ := waiting_burst (tmeasure t) h
  have hb := parentTurn_blocked t
  refine ⟨hw, ?_⟩
  rcases hw.pcs with e | e | e
  · obtain ⟨_, h'⟩ := tparent_moves hw.out (.inl e); rw [hb] at h'; cases h'
  · obtain ⟨_, h'⟩ := tparent_moves hw.out (.inr e); rw [hb] at h'; cases h'
  · exact e

theorem waiting_bstep {t t' : TSys} {σ : Nat} (l : TLabel) (h : Waiting t σ) (hpc : t.sys.pc = .await)
    (hs : bstep t l = some t') :
    (Waiting t' σ ∧ t'.sys.pc = .await ∧ jobDone t'.sys.log t'.job = none) ∨ Armed t' σ t.sys.log := by
  obtain ⟨cj, hcj, halj, hchj⟩ := h.jobAlive
  cases l with
  | parent =>
    cases bstep_parent hs
    obtain ⟨hw, hb⟩ := waiting_turn h
    exact .inl ⟨hw, hb, hw.open_⟩
  | child i =>
    left
    obtain ⟨c, s, hc, hb, hcs, rfl⟩ := tchildStep_iff.mp (show tchildStep t i = some t' from hs)
    obtain ⟨f2, _, f1, _⟩ := child_frame _ hcs
    have hjob : ∃ c', s.children[t.job]? = some c' ∧ c'.state.isAlive = true ∧ c'.changed = false := by
      by_cases hij : i = t.job
      · subst hij
        obtain ⟨c0, c', hc0, _, _, e, hk⟩ := childStep_spec hcs
        cases hc.symm.trans hc0
        cases hc.symm.trans hcj
        rcases hk with ⟨hal', hch', _, _⟩ | ⟨hst, _, _⟩
        · exact ⟨c', by rw [e]; simp [get_set hc], hal', hch'.trans hchj⟩
        · exact absurd hst (not_last_of_sender hb h.sender)
      · exact ⟨cj, by rw [childStep_other hcs (Ne.symm hij)]; exact hcj, halj, hchj⟩
    have hopen : jobDone s.log t.job = none := by rw [f2]; exact h.open_
    exact ⟨⟨h.out, .inr (.inr (f1.trans hpc)), (noteChld_notrap s h.nochld).trans h.nosig, hjob, hopen, h.sender, h.sigs,
      h.trapped, h.nochld, h.multi⟩, f1.trans hpc, hopen⟩
  | send k =>
    right
    obtain ⟨i, σ', _, hk, _, _, _, rfl⟩ := tsendStep_iff.mp (show tsendStep t k = some t' from hs)
    cases h.sigs (i, σ') (List.mem_of_getElem? hk)
    have htr : σ' ∈ t.traps := h.trapped
    exact ⟨h.out, hpc, by simp [h.nosig, htr, firstTrapped], rfl⟩

/-- what holds between the scheduling decisions of the executor once the shell is blocked waiting for the job:
    still waiting (blocked, job not recorded as finished), or the trapped signal has arrived and nothing has been
    handed out since, or the built-in has ended `Trapped` -/
def Race (j σ : Nat) (u : TSys) : Prop :=
  u.job = j ∧
  ((Waiting u σ ∧ u.sys.pc = .await) ∨
   (∃ log0, jobDone log0 j = none ∧ (Armed u σ log0 ∨ Fired u σ log0)))

theorem race_bstep {j σ : Nat} {u v : TSys} (l : TLabel) (h : Race j σ u) (hs : bstep u l = some v) :
    Race j σ v := by
  obtain ⟨hj, h⟩ := h
  refine ⟨((tsteps_frame (bstep_tsteps l hs)).1).trans hj, ?_⟩
  rcases h with ⟨hw, hpc⟩ | ⟨log0, hopen, ha⟩
  · rcases waiting_bstep l hw hpc hs with ⟨h1, h2, _⟩ | h1
    · exact .inl ⟨h1, h2⟩
    · -- the signal arrives: the log is that of the waiting state
      exact .inr ⟨u.sys.log, by rw [← hj]; exact hw.open_, .inl h1⟩
  · right
    refine ⟨log0, hopen, ?_⟩
    cases l with
    | parent => cases bstep_parent hs; exact armed_steps (parentTurn_tsteps u) ha
    | child i => exact armed_step (.child i) ha hs
    | send k => exact armed_step (.send k) ha hs

theorem race_bsteps {j σ : Nat} {t u : TSys} (h : BSteps t u) (hr : Race j σ t) : Race j σ u := by
  induction h with
  | refl => exact hr
  | tail l _ hs ih => exact race_bstep l ih hs

/-- `trun` makes steps of the system as the executor schedules them; nothing is claimed about where it stops (it also
    stops when the built-in has ended) -/
theorem trun_loop : Loop trun (fun t u => ∃ l, bstep t l = some u) (fun _ => True) where
  zero _ _ := rfl
  succ n choices t := by
    generalize hr : trun (n + 1) choices t = r
    rw [trun] at hr
    split at hr
    · exact .inl ⟨hr.symm, trivial⟩
    · split at hr
      · exact .inl ⟨hr.symm, trivial⟩
      · simp only at hr
        split at hr
        · rename_i t' ht'; exact .inr ⟨choices.tail, t', ⟨_, ht'⟩, hr.symm⟩
        · exact .inl ⟨hr.symm, trivial⟩

theorem trun_bsteps (fuel : Nat) (choices : List Nat) (t : TSys) : BSteps t (trun fuel choices t) :=
  trun_loop.keeps (P := BSteps t) (fun h ⟨l, hs⟩ => .tail l h hs) fuel choices t (.refl t)

theorem trun_tsteps (fuel : Nat) (choices : List Nat) (t : TSys) : TSteps t (trun fuel choices t) :=
  (trun_bsteps fuel choices t).tsteps

/-- `wait` for a live, unreported job `j` without a recorded final state that will send the trapped signal `σ`, after
    the shell's first turn: blocked, waiting for `j`, whatever the other children are -/
theorem waiting_start {s : Sys} {j σ : Nat} {c : Child} (hc : s.children[j]? = some c)
    (hal : c.state.isAlive = true) (hch : c.changed = false) (hopen : jobDone s.log j = none)
    (hσ : σ ≠ SIGCHLD_NO) {t0 : TSys} (ht0 : t0 = TSys.start s j [σ] [(j, σ)]) :
    Waiting (parentTurn t0) σ ∧ (parentTurn t0).sys.pc = .await ∧ (parentTurn t0).job = j := by
  have hstart : t0 =
      { sys := { s with target := .any, todo := [], pc := .enable }, job := j, traps := [σ],
        senders := [(j, σ)] } := by rw [ht0]; unfold TSys.start; rw [hopen]
  have hw0 : Waiting t0 σ := by
    rw [hstart]
    exact ⟨rfl, .inl rfl, rfl, ⟨c, hc, hal, hch⟩, hopen, ⟨(j, σ), by simp, rfl⟩, by simp, by simp,
      by simp; exact fun e => hσ e.symm, rfl⟩
  obtain ⟨hw, hb⟩ := waiting_turn hw0
  exact ⟨hw, hb, by rw [(tsteps_frame (parentTurn_tsteps t0)).1, hstart]⟩

/-- the state `St.newJob` + the start of `wait $!` + the shell's first turn produce: the new child at the end of the
    process table is such a job -/
theorem waiting_start_newJob {s : Sys} (hI : Inv s) (f n σ : Nat) (hσ : σ ≠ SIGCHLD_NO) :
    let s' : Sys := { s with children := s.children ++ [{ state := .running f (.exited n) }] }
    let t := parentTurn (TSys.start s' s.children.length [σ] [(s.children.length, σ)])
    Waiting t σ ∧ t.sys.pc = .await ∧ t.job = s.children.length := by
  intro s' t
  refine waiting_start (c := { state := .running f (.exited n) }) (by simp [s']) rfl rfl ?_ hσ rfl
  -- nothing is recorded for an index beyond the table
  cases hjd : jobDone s'.log s.children.length with
  | none => rfl
  | some r =>
    obtain ⟨c, hc, _⟩ := hI.logged _ _ (jobDone_mem hjd)
    simp at hc

end YashModel.Proc
