/-
  C13 — the operand loop of `wait` (`tawaitJobs`) and the operand-less form (`tawaitAll`) over the `wait`-with-traps
  system: what they guarantee whatever the scheduler does.
-/
import YashModel.Proc.TrapInv
namespace YashModel.Proc

/-- the job table after the operands `ops` have all been dealt with: every operand naming a job in the table
    removes it (`job_status` → `jobs.remove`) -/
def eraseOps : List Nat → List (Option Nat) → List Nat
  | jobs, [] => jobs
  | jobs, none :: t => eraseOps jobs t
  | jobs, some i :: t => eraseOps (jobs.erase i) t

theorem tinv_call {t : TSys} (h : TInv t) : TInv t.call :=
  ⟨h.inv.idle rfl rfl (by simp [TSys.call]) (by simp [TSys.call]), rfl, by simp [TSys.call], h.pend,
    by simp [TSys.call], by intro _ h'; simp [TSys.call] at h', by simp [TSys.call], by simp [TSys.call]⟩

theorem next_traps (t : TSys) (j : Nat) : (t.next j).traps = t.traps := by
  unfold TSys.next; split <;> rfl

theorem eraseOps_sub {jobs : List Nat} {ops : List (Option Nat)} {j : Nat} (h : j ∈ eraseOps jobs ops) :
    j ∈ jobs := by
  induction ops generalizing jobs with
  | nil => exact h
  | cons o t ih =>
    cases o with
    | none => exact ih h
    | some i => exact List.mem_of_mem_erase (ih h)

/-- what `tawaitJobs` guarantees whatever the scheduler `run` does (it only has to take steps of the system) -/
structure OpsSound (traps : List Nat) (jobs : List Nat) (ops : List (Option Nat))
    (res : List Nat × TSys × OpsOut) : Prop where
  inv : TInv res.2.1
  traps_eq : res.2.1.traps = traps
  ofDone : ∀ sts, res.2.2 = .done sts → sts.length = ops.length ∧ res.1 = eraseOps jobs ops
  ofTrapped : ∀ σ sts, res.2.2 = .trapped σ sts → σ ∈ traps ∧
    ∃ pre i rest, ops = pre ++ some i :: rest ∧ sts.length = pre.length ∧ res.1 = eraseOps jobs pre ∧ i ∈ res.1
  ofFailed : ∀ sts, res.2.2 = .failed sts →
    ∃ pre i rest, ops = pre ++ some i :: rest ∧ sts.length = pre.length ∧ res.1 = eraseOps jobs pre

theorem push_done {o : OpsOut} {st : Nat} {sts : List Nat} (h : o.push st = .done sts) :
    ∃ sts0, o = .done sts0 ∧ sts = st :: sts0 := by
  cases o <;> simp [OpsOut.push] at h
  exact ⟨_, rfl, h.symm⟩

theorem push_trapped {o : OpsOut} {st σ : Nat} {sts : List Nat} (h : o.push st = .trapped σ sts) :
    ∃ sts0, o = .trapped σ sts0 ∧ sts = st :: sts0 := by
  cases o <;> simp [OpsOut.push] at h
  obtain ⟨rfl, rfl⟩ := h
  exact ⟨_, rfl, rfl⟩

theorem push_failed {o : OpsOut} {st : Nat} {sts : List Nat} (h : o.push st = .failed sts) :
    ∃ sts0, o = .failed sts0 ∧ sts = st :: sts0 := by
  cases o <;> simp [OpsOut.push] at h
  exact ⟨_, rfl, h.symm⟩

/-- one more operand in front: `o` dealt with first (it left the table `eraseOps jobs [o]`), with status `st` -/
theorem opsSound_cons {traps jobs : List Nat} {o : Option Nat} {ops : List (Option Nat)}
    {res : List Nat × TSys × OpsOut} (h : OpsSound traps (eraseOps jobs [o]) ops res) (st : Nat) :
    OpsSound traps jobs (o :: ops) (res.1, res.2.1, res.2.2.push st) := by
  have herase : ∀ l, eraseOps jobs (o :: l) = eraseOps (eraseOps jobs [o]) l := by cases o <;> intro l <;> rfl
  refine ⟨h.inv, h.traps_eq, ?_, ?_, ?_⟩
  · intro sts hs
    obtain ⟨sts0, h0, rfl⟩ := push_done hs
    obtain ⟨h1, h2⟩ := h.ofDone sts0 h0
    exact ⟨by simp [h1], by rw [herase]; exact h2⟩
  · intro σ sts hs
    obtain ⟨sts0, h0, rfl⟩ := push_trapped hs
    obtain ⟨h1, pre, i, rest, h2, h3, h4, h5⟩ := h.ofTrapped σ sts0 h0
    exact ⟨h1, o :: pre, i, rest, by simp [h2], by simp [h3], by rw [herase]; exact h4, h5⟩
  · intro sts hs
    obtain ⟨sts0, h0, rfl⟩ := push_failed hs
    obtain ⟨pre, i, rest, h2, h3, h4⟩ := h.ofFailed sts0 h0
    exact ⟨o :: pre, i, rest, by simp [h2], by simp [h3], by rw [herase]; exact h4⟩

theorem tawaitJobs_sound (run : TSys → TSys) (hrun : ∀ x, TSteps x (run x)) (jobs : List Nat) (t : TSys)
    (ops : List (Option Nat)) (h : TInv t) : OpsSound t.traps jobs ops (tawaitJobs run jobs t ops) := by
  induction ops generalizing jobs t with
  | nil =>
    refine ⟨h, rfl, ?_, ?_, ?_⟩
    · intro sts hs; simp [tawaitJobs] at hs; subst hs; exact ⟨rfl, rfl⟩
    · intro σ sts hs; simp [tawaitJobs] at hs
    · intro sts hs; simp [tawaitJobs] at hs
  | cons o ops ih =>
    cases o with
    | none =>
      simp only [tawaitJobs]
      exact opsSound_cons (o := none) (ih jobs t h) _
    | some i =>
      simp only [tawaitJobs]
      split
      · rename_i hmem
        have hu : TInv (run (t.next i)) := tinv_steps (hrun _) (tinv_next h.inv h.pend i)
        have htr : (run (t.next i)).traps = t.traps :=
          ((tsteps_frame (hrun (t.next i))).2.1).trans (next_traps t i)
        split
        · rename_i j r hout
          have hrec := ih (jobs.erase i) (run (t.next i)) hu
          rw [htr] at hrec
          exact opsSound_cons (o := some i) hrec _
        · rename_i σ hout
          refine ⟨hu, htr, ?_, ?_, ?_⟩
          · intro sts hs; simp at hs
          · intro σ' sts hs
            simp at hs
            obtain ⟨rfl, rfl⟩ := hs
            exact ⟨by rw [← htr]; exact hu.trap_ok σ hout, [], i, ops, rfl, rfl, rfl, hmem⟩
          · intro sts hs; simp at hs
        · refine ⟨hu, htr, ?_, ?_, ?_⟩
          · intro sts hs; simp at hs
          · intro σ' sts hs; simp at hs
          · intro sts hs
            simp at hs; subst hs
            exact ⟨[], i, ops, rfl, rfl, rfl⟩
      · rename_i hmem
        exact opsSound_cons (o := some i) (by simpa [eraseOps, List.erase_of_not_mem hmem] using ih jobs t h) _

theorem tawaitJobs_one (run : TSys → TSys) {jobs : List Nat} (t : TSys) {i : Nat} (hi : i ∈ jobs) :
    tawaitJobs run jobs t [some i] =
      match (run (t.next i)).out with
      | some (.finished _ r) => (jobs.erase i, run (t.next i), .done [r.status])
      | some (.trapped σ) => (jobs, run (t.next i), .trapped σ [])
      | _ => (jobs, run (t.next i), .failed []) := by
  simp only [tawaitJobs, hi, if_true]
  split <;> simp_all [OpsOut.push]

theorem jobDone_append {l0 log : List (Nat × Result)} {j : Nat} (h : (jobDone log j).isSome = true) :
    (jobDone (l0 ++ log) j).isSome = true := by
  unfold jobDone at h ⊢
  rw [List.find?_append]
  cases hf : List.find? (fun e => e.1 == j) l0 with
  | some e => simp
  | none => simpa using h

theorem jobDone_steps {t u : TSys} {j : Nat} (h : TSteps t u) (hd : (jobDone t.sys.log j).isSome = true) :
    (jobDone u.sys.log j).isSome = true := by
  induction h with
  | refl => exact hd
  | tail l _ hs ih =>
    obtain ⟨l0, hl⟩ := tstep_log_suffix l hs
    rw [hl]; exact jobDone_append ih

/-- what `tawaitAll` guarantees whatever the scheduler does (in words at `wait_all_trapped_sound`) -/
structure AllSound (traps jobs : List Nat) (res : List Nat × TSys × OpsOut) : Prop where
  inv : TInv res.2.1
  traps_eq : res.2.1.traps = traps
  sub : ∀ j, j ∈ res.1 → j ∈ jobs
  kept : ∀ j, j ∈ jobs → j ∈ res.1 ∨ (jobDone res.2.1.sys.log j).isSome = true
  ofDone : ∀ sts, res.2.2 = .done sts → sts = [YashModel.Generated.ProcConsts.EXIT_SUCCESS] ∧ res.1 = []
  ofTrapped : ∀ σ sts, res.2.2 = .trapped σ sts → σ ∈ traps ∧ sts = [] ∧ res.1 ≠ []

theorem mem_unfinished {jobs : List Nat} {log : List (Nat × Result)} {j : Nat} :
    j ∈ unfinished jobs log ↔ j ∈ jobs ∧ jobDone log j = none := by
  simp [unfinished, List.mem_filter]

theorem unfinished_or_done (jobs : List Nat) (log : List (Nat × Result)) :
    ∀ j, j ∈ jobs → j ∈ unfinished jobs log ∨ (jobDone log j).isSome = true := by
  intro j hj
  cases hd : jobDone log j with
  | none => exact Or.inl (mem_unfinished.mpr ⟨hj, hd⟩)
  | some r => exact Or.inr rfl

theorem tawaitAll_log_mono (run : TSys → TSys) (hrun : ∀ x, TSteps x (run x)) (k : Nat) (jobs : List Nat)
    (t : TSys) (j : Nat) (hd : (jobDone t.sys.log j).isSome = true) :
    (jobDone (tawaitAll run k jobs t).2.1.sys.log j).isSome = true := by
  induction k generalizing jobs t with
  | zero => simpa [tawaitAll] using hd
  | succ k ih =>
    simp only [tawaitAll]
    have hu : (jobDone (run t.call).sys.log j).isSome = true :=
      jobDone_steps (hrun t.call) (by simpa [TSys.call] using hd)
    split
    · exact hd
    · split
      · exact ih _ _ hu
      · exact hu
      · exact hu

theorem tawaitAll_sound (run : TSys → TSys) (hrun : ∀ x, TSteps x (run x)) (k : Nat) (jobs : List Nat) (t : TSys)
    (h : TInv t) : AllSound t.traps jobs (tawaitAll run k jobs t) := by
  induction k generalizing jobs t with
  | zero =>
    have hkept0 := unfinished_or_done jobs t.sys.log
    simp only [tawaitAll]
    exact ⟨h, rfl, fun j hj => (mem_unfinished.mp hj).1, hkept0, by intro sts hs; simp at hs,
      by intro σ sts hs; simp at hs⟩
  | succ k ih =>
    have hkept0 := unfinished_or_done jobs t.sys.log
    simp only [tawaitAll]
    split
    · rename_i hnil
      refine ⟨h, rfl, by intro j hj; simp at hj, ?_, by intro sts hs; simp at hs; exact ⟨hs.symm, rfl⟩,
        by intro σ sts hs; simp at hs⟩
      intro j hj
      rcases hkept0 j hj with h1 | h1
      · rw [hnil] at h1; simp at h1
      · exact Or.inr h1
    · rename_i j0 js hcons
      have hu : TInv (run t.call) := tinv_steps (hrun _) (tinv_call h)
      have htr : (run t.call).traps = t.traps := (tsteps_frame (hrun t.call)).2.1
      have hlogmono : ∀ j, (jobDone t.sys.log j).isSome = true → (jobDone (run t.call).sys.log j).isSome = true :=
        fun j hd => jobDone_steps (hrun t.call) (by simpa [TSys.call] using hd)
      have hsub : ∀ j, j ∈ j0 :: js → j ∈ jobs := by
        intro j hj; rw [← hcons] at hj; exact (mem_unfinished.mp hj).1
      have hkept : ∀ j, j ∈ jobs → j ∈ j0 :: js ∨ (jobDone (run t.call).sys.log j).isSome = true := by
        intro j hj
        rcases hkept0 j hj with h1 | h1
        · left; rw [← hcons]; exact h1
        · exact Or.inr (hlogmono j h1)
      split
      · -- `Ok(())`: look at the job list again
        have hrec := ih (j0 :: js) (run t.call) hu
        rw [htr] at hrec
        refine ⟨hrec.inv, hrec.traps_eq, fun j hj => hsub j (hrec.sub j hj), ?_, hrec.ofDone, hrec.ofTrapped⟩
        intro j hj
        rcases hkept j hj with h1 | h1
        · exact hrec.kept j h1
        · exact Or.inr (tawaitAll_log_mono run hrun k (j0 :: js) (run t.call) j h1)
      · rename_i σ hout
        refine ⟨hu, htr, hsub, hkept, by intro sts hs; simp at hs, ?_⟩
        intro σ' sts hs
        simp at hs
        obtain ⟨rfl, rfl⟩ := hs
        exact ⟨by rw [← htr]; exact hu.trap_ok σ hout, rfl, by simp⟩
      · exact ⟨hu, htr, hsub, hkept, by intro sts hs; simp at hs, by intro σ sts hs; simp at hs⟩

end YashModel.Proc
