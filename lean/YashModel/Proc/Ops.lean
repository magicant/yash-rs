/-
  C13 — the operand loop of the `wait` built-in (`Command::await_jobs`, yash-builtin/src/wait.rs) on top
  of the small-step system: every `wait_for_any_job_or_trap()` is a complete run of the request
  `wait(-1)` under an arbitrary scheduler (`WaitAnyRun`), the loops of `wait_while_running` and
  `await_jobs` are inductive relations around it; every derivation of them yields what the Spec says (`waitOps_sound`),
  and the executable loops of the driver are such derivations.
-/
import YashModel.Proc.Awaited
import YashModel.Proc.Scheduler
import YashModel.Proc.Spec
namespace YashModel.Proc

/-- exit status `wait` must report for the child with pid `i` -/
def truthOf (fs : List Result) (i : Nat) : Nat := ((fs[i]?).map Result.status).getD 127

/-- an operand as the Spec sees it: a process ID or a job ID naming no job -/
def Operand.toSpec : Operand → Option Nat
  | .pid i => some i
  | .jobId => none

/-- One `wait_for_any_job_or_trap()` issued by a parent that is between requests: any scheduler, until
    the parent is done. -/
def WaitAnyRun (s t : Sys) : Prop :=
  Steps { s with todo := [.wait .any] } t ∧ t.final = true

/-- `status::wait_while_running(env, job_status(i))`:
    `loop { if let Break(st) = job_status(jobs) { return Ok(st) }  wait_for_any_job_or_trap(env).await? }`.
    Result `none` = `Err(NothingToWait)`. -/
inductive AwaitJob (i : Nat) : List Nat → Sys → List Nat → Sys → Option WaitRes → Prop where
  | brk {jobs jobs' : List Nat} {s : Sys} {res : WaitRes} :
      jobStatus jobs s.log i = some (res, jobs') → AwaitJob i jobs s jobs' s (some res)
  | again {jobs jobs' : List Nat} {s t u : Sys} {res : Option WaitRes} :
      jobStatus jobs s.log i = none → WaitAnyRun s t → t.results.head? ≠ some .echild →
      AwaitJob i jobs t jobs' u res → AwaitJob i jobs s jobs' u res
  | nothing {jobs : List Nat} {s t : Sys} :
      jobStatus jobs s.log i = none → WaitAnyRun s t → t.results.head? = some .echild →
      AwaitJob i jobs s jobs t none

/-- `Command::await_jobs` over the resolved operands:
    `for index in indexes { exit_status = Some(match index { None => NOT_FOUND, Some(i) =>
    wait_while_running(job_status(i)).await? }) }`.  Outcome: one result per operand (the exit status is
    that of the last one) and `ok = false` if the built-in failed. -/
inductive WaitOps : List Nat → Sys → List (Option Nat) → List Nat → Sys → List WaitRes → Bool → Prop where
  | nil {jobs : List Nat} {s : Sys} : WaitOps jobs s [] jobs s [] true
  | notFound {jobs jobs' : List Nat} {s s' : Sys} {t : List (Option Nat)} {rs : List WaitRes} {ok : Bool} :
      WaitOps jobs s t jobs' s' rs ok → WaitOps jobs s (none :: t) jobs' s' (.echild :: rs) ok
  | job {i : Nat} {jobs jobs1 jobs' : List Nat} {s s1 s' : Sys} {t : List (Option Nat)} {res : WaitRes}
      {rs : List WaitRes} {ok : Bool} :
      AwaitJob i jobs s jobs1 s1 (some res) → WaitOps jobs1 s1 t jobs' s' rs ok →
      WaitOps jobs s (some i :: t) jobs' s' (res :: rs) ok
  | error {i : Nat} {jobs jobs1 : List Nat} {s s1 : Sys} {t : List (Option Nat)} :
      AwaitJob i jobs s jobs1 s1 none → WaitOps jobs s (some i :: t) jobs1 s1 [] false

theorem inv_with_todo {s : Sys} (h : Inv s) (r : List Req) : Inv { s with todo := r } :=
  ⟨h.changed_halted, h.handler, h.no_lost, h.awaited, h.once, h.logged⟩

theorem reaped_steps {s t : Sys} (h : Steps s t) (i : Nat) (hr : reaped s.children i = true) :
    reaped t.children i = true := by
  induction h with
  | refl => exact hr
  | tail l _ hs ih =>
    cases l with
    | parent =>
      rcases parent_children hs with h1 | ⟨j, h1⟩
      · rw [h1]; exact ih
      · rw [h1]; exact reaped_take j ih
    | child j => exact (reaped_childStep i j hs).trans ih

/-- A run of the one request `wait(-1)` issued from the idle state `s0`: the request is not yet answered — log and
    results are those of `s0`, and it is still to be taken up or in progress —, or it has been answered, and not with
    ECHILD. -/
def WaitAnyInv (s0 u : Sys) : Prop :=
  (u.log = s0.log ∧ u.results = s0.results ∧
    ((u.pc = .done ∧ u.todo = [.wait .any]) ∨ (u.todo = [] ∧ u.target = .any ∧ u.pc.inWait))) ∨
  (u.pc = .done ∧ u.todo = [] ∧ u.results.head? ≠ some .echild)

/-- `i`, an existing child without a recorded final state (`hi`, `hlog`), is what rules out the answer ECHILD -/
theorem waitAny_step {s0 u u' : Sys} {i : Nat} (l : Label) (hinv : Inv u)
    (hi : i < u.children.length) (hlog : s0.log.find? (fun e => e.1 == i) = none)
    (h : WaitAnyInv s0 u) (hs : step u l = some u') : WaitAnyInv s0 u' := by
  cases l with
  | child j =>
    obtain ⟨f1, f2, f3, f4, f5, _⟩ := child_frame j hs
    unfold WaitAnyInv
    rw [f1, f2, f3, f4, f5]; exact h
  | parent =>
    have hp := parentStep_iff.mp hs
    rcases h with ⟨hl, hr, ⟨hpc, htodo⟩ | ⟨htodo, htgt, hpc⟩⟩ | ⟨hpc, htodo, _⟩
    · -- the request is taken up
      obtain ⟨rest, ⟨t, ht, rfl⟩ | ⟨ht, rfl⟩⟩ := hp.of_done hpc <;> rw [htodo] at ht <;> cases ht
      exact .inl ⟨hl, hr, .inr ⟨rfl, rfl, .inl rfl⟩⟩
    · rcases hp.of_inWait hpc with ⟨hpc', e1, e2, e3, e4, _⟩ | ⟨j, r, _, rfl⟩ | ⟨hw, rfl⟩
      · exact .inl ⟨e4.trans hl, e3.trans hr, .inr ⟨e2.trans htodo, e1.trans htgt, hpc'⟩⟩
      · exact .inr ⟨rfl, htodo, by simp⟩
      · -- ECHILD says every child is reaped; child `i` would be logged
        exfalso
        have hget : u.children[i]? = some u.children[i] := List.getElem?_eq_getElem hi
        have := ((wait_any_echild_iff _).mp (htgt ▸ hw)) i _ hget
        obtain ⟨r, hm⟩ := (hinv.reaped_iff_logged i).mp (by rw [reaped_self hget]; simp [this.1, this.2])
        have := List.find?_eq_none.mp hlog (i, r) (hl ▸ hm)
        simp at this
    · obtain ⟨rest, ⟨t, ht, _⟩ | ⟨ht, _⟩⟩ := hp.of_done hpc <;> rw [htodo] at ht <;> cases ht

theorem waitAny_steps {s0 a u : Sys} {i : Nat} (h : Steps a u) (hinv : Inv a)
    (hi : i < a.children.length) (hlog : s0.log.find? (fun e => e.1 == i) = none)
    (h0 : WaitAnyInv s0 a) : WaitAnyInv s0 u := by
  induction h with
  | refl => exact h0
  | tail l hst hs ih =>
    exact waitAny_step l (inv_steps hst hinv) (by rw [fins_length (fin_steps hst)]; exact hi) hlog ih hs

/-- `wait_for_any_job_or_trap` does not fail while job `i` (an existing child) has no recorded final state -/
theorem waitAny_no_echild {s t : Sys} {i : Nat} (hinv : Inv s) (hi : i < s.children.length)
    (hlog : s.log.find? (fun e => e.1 == i) = none) (hfin : s.final = true) (hrun : WaitAnyRun s t) :
    t.results.head? ≠ some .echild := by
  obtain ⟨hsteps, htfin⟩ := hrun
  obtain ⟨hpc, _⟩ := Sys.final_iff.mp hfin
  obtain ⟨htpc, httodo⟩ := Sys.final_iff.mp htfin
  have h0 : WaitAnyInv s { s with todo := [.wait .any] } := .inl ⟨rfl, rfl, .inl ⟨hpc, rfl⟩⟩
  rcases waitAny_steps (s0 := s) hsteps (inv_with_todo hinv _) hi hlog h0 with ⟨_, _, hshape⟩ | ⟨_, _, h3⟩
  · rcases hshape with ⟨_, htodo⟩ | ⟨_, _, hpc'⟩
    · rw [httodo] at htodo; cases htodo
    · rcases hpc' with e | e | e <;> rw [htpc] at e <;> cases e
  · exact h3

/-- what one iteration of the operand loop hands to the next: from the idle state `s` to the idle state `s'` the
    invariant holds again, the children's fates are the same and nobody reaped has come back -/
structure Carried (s s' : Sys) : Prop where
  inv : Inv s'
  fin : s'.final = true
  fins : fins s' = fins s
  mono : ∀ k : Nat, reaped s.children k = true → reaped s'.children k = true

theorem carried_refl {s : Sys} (hinv : Inv s) (hfin : s.final = true) : Carried s s :=
  ⟨hinv, hfin, rfl, fun _ h => h⟩

theorem carried_trans {s t u : Sys} (h1 : Carried s t) (h2 : Carried t u) : Carried s u :=
  ⟨h2.inv, h2.fin, h2.fins.trans h1.fins, fun k h => h2.mono k (h1.mono k h)⟩

theorem carried_run {s t : Sys} (hinv : Inv s) (hrun : WaitAnyRun s t) : Carried s t :=
  ⟨inv_steps hrun.1 (inv_with_todo hinv _), hrun.2,
   (fin_steps hrun.1).trans rfl,
   fun k h => reaped_steps hrun.1 k h⟩

theorem awaitJob_sound {i : Nat} {jobs jobs' : List Nat} {s s' : Sys} {res : Option WaitRes}
    (h : AwaitJob i jobs s jobs' s' res) (hinv : Inv s) (hfin : s.final = true)
    (hvalid : ∀ x ∈ jobs, x < s.children.length) :
    Carried s s' ∧ ∃ r, res = some r ∧ jobs' = jobs.erase i ∧
      waitStatus r = (if i ∈ jobs then truthOf (fins s) i else 127) ∧ (i ∈ jobs → reaped s'.children i = true) := by
  induction h with
  | @brk jobs' s res hjs =>
    refine ⟨carried_refl hinv hfin, res, rfl, ?_⟩
    unfold jobStatus at hjs
    by_cases hmem : i ∈ jobs
    · simp only [hmem, if_true] at hjs ⊢
      split at hjs
      · rename_i j r hfind
        simp only [Option.some.injEq, Prod.mk.injEq] at hjs
        obtain ⟨rfl, rfl⟩ := hjs
        have hj : j = i := by simpa using List.find?_some hfind
        subst hj
        have hm : (j, r) ∈ s.log := List.mem_of_find?_eq_some hfind
        refine ⟨rfl, ?_, fun _ => (hinv.reaped_iff_logged j).mpr ⟨r, hm⟩⟩
        simp [waitStatus, truthOf, hinv.logged_fin hm]
      · simp at hjs
    · simp only [hmem, if_false, Option.some.injEq, Prod.mk.injEq] at hjs ⊢
      exact ⟨by rw [List.erase_of_not_mem hmem]; exact hjs.2.symm, by rw [← hjs.1]; rfl, nofun⟩
  | @again jobs' s t u res hjs hrun hok _ ih =>
    have hc := carried_run hinv hrun
    have hlen := fins_length hc.fins
    obtain ⟨hc2, r, hr, hspec⟩ := ih hc.inv hc.fin (by intro x hx; rw [hlen]; exact hvalid x hx)
    refine ⟨carried_trans hc hc2, r, hr, ?_⟩
    rw [hc.fins] at hspec; exact hspec
  | @nothing s t hjs hrun hbad =>
    exfalso
    unfold jobStatus at hjs
    by_cases hmem : i ∈ jobs
    · simp only [hmem, if_true] at hjs
      split at hjs
      · simp at hjs
      · rename_i hfind
        exact waitAny_no_echild hinv (hvalid i hmem) hfind hfin hrun hbad
    · simp [hmem] at hjs

/-- a pid that is no job is not in the table: erasing it changes nothing -/
theorem waitEach_some (truth : Nat → Nat) (jobs : List Nat) (i : Nat) (t : List (Option Nat)) :
    Spec.waitEach truth jobs (some i :: t) =
      (if i ∈ jobs then truth i else 127) :: Spec.waitEach truth (jobs.erase i) t := by
  by_cases h : i ∈ jobs <;> simp [Spec.waitEach, h, List.erase_of_not_mem]

theorem waitOps_sound {jobs jobs' : List Nat} {s s' : Sys} {ro : List (Option Nat)}
    {rs : List WaitRes} {ok : Bool}
    (h : WaitOps jobs s ro jobs' s' rs ok) (hinv : Inv s) (hfin : s.final = true)
    (hvalid : ∀ x ∈ jobs, x < s.children.length) :
    Carried s s' ∧ ok = true ∧
    rs.map waitStatus = Spec.waitEach (truthOf (fins s)) jobs ro ∧
    (∀ i : Nat, some i ∈ ro → i ∈ jobs → reaped s'.children i = true) := by
  induction h with
  | nil => exact ⟨carried_refl hinv hfin, rfl, rfl, by intro i hi; simp at hi⟩
  | notFound _ ih =>
    obtain ⟨hc, hok, hrs, hall⟩ := ih hinv hfin hvalid
    refine ⟨hc, hok, by simp [Spec.waitEach, waitStatus, hrs], ?_⟩
    intro i hi hj
    simp only [List.mem_cons] at hi
    rcases hi with hi | hi
    · simp at hi
    · exact hall i hi hj
  | @job i jobs jobs1 jobs' s s1 s' t res rs ok haw _ ih =>
    obtain ⟨hc1, r, hr, hj1, hst, hreap⟩ := awaitJob_sound haw hinv hfin hvalid
    simp only [Option.some.injEq] at hr; subst hr
    have hvalid1 : ∀ x ∈ jobs1, x < s1.children.length := by
      intro x hx; rw [fins_length hc1.fins]; rw [hj1] at hx; exact hvalid x (List.mem_of_mem_erase hx)
    obtain ⟨hc2, hok, hrs, hall⟩ := ih hc1.inv hc1.fin hvalid1
    refine ⟨carried_trans hc1 hc2, hok, ?_, ?_⟩
    · rw [List.map_cons, waitEach_some, hst, hrs, hc1.fins, hj1]
    · intro k hk hkj
      simp only [List.mem_cons, Option.some.injEq] at hk
      by_cases hki : k = i
      · subst hki; exact hc2.mono k (hreap hkj)
      · rcases hk with hk | hk
        · exact absurd hk hki
        · exact hall k hk (by rw [hj1]; exact (List.mem_erase_of_ne hki).mpr hkj)
  | @error i jobs jobs1 s s1 t haw =>
    obtain ⟨_, r, hr, _⟩ := awaitJob_sound haw hinv hfin hvalid
    simp at hr

/-- resolving the operands against the job table first (as `Command::execute` does) does not change
    what the Spec predicts, as long as the table only shrinks -/
theorem waitEach_resolve (truth : Nat → Nat) (jobs0 : List Nat) (ops : List Operand) :
    ∀ jobs : List Nat, (∀ x ∈ jobs, x ∈ jobs0) →
      Spec.waitEach truth jobs (ops.map (resolve jobs0)) = Spec.waitEach truth jobs (ops.map Operand.toSpec) := by
  induction ops with
  | nil => intro jobs _; rfl
  | cons o t ih =>
    intro jobs hsub
    cases o with
    | jobId => simp only [List.map_cons, resolve, Operand.toSpec, Spec.waitEach]; rw [ih jobs hsub]
    | pid i =>
      simp only [List.map_cons, resolve, Operand.toSpec]
      by_cases h0 : i ∈ jobs0
      · simp only [h0, if_true, Spec.waitEach]
        by_cases hj : i ∈ jobs
        · simp only [hj, if_true]
          rw [ih _ (fun x hx => hsub x (List.mem_of_mem_erase hx))]
        · simp only [hj, if_false]; rw [ih jobs hsub]
      · have hj : i ∉ jobs := fun h => h0 (hsub i h)
        simp only [h0, if_false, Spec.waitEach, hj]
        rw [ih jobs hsub]

theorem awaitJobRun_sound (runFuel : Nat) (choices : Nat → List Nat) :
    ∀ (k : Nat) (jobs : List Nat) (s : Sys) (i : Nat) (jobs' : List Nat) (s' : Sys) (res : WaitRes),
      awaitJobRun runFuel choices k jobs s i = (jobs', s', some res) →
      AwaitJob i jobs s jobs' s' (some res) := by
  intro k
  induction k with
  | zero => intro jobs s i jobs' s' res h; simp [awaitJobRun] at h
  | succ k ih =>
    intro jobs s i jobs' s' res h
    unfold awaitJobRun at h
    cases hjs : jobStatus jobs s.log i with
    | some p =>
      obtain ⟨r, j1⟩ := p
      simp only [hjs, Prod.mk.injEq, Option.some.injEq] at h
      obtain ⟨rfl, rfl, rfl⟩ := h
      exact .brk hjs
    | none =>
      simp only [hjs] at h
      split at h
      · rename_i hfin
        split at h
        · simp at h
        · rename_i hne
          exact .again hjs ⟨run_steps _ _ _, hfin⟩ hne (ih _ _ _ _ _ _ h)
      · simp at h

theorem awaitJobsRun_sound (runFuel outer : Nat) (choices : Nat → List Nat) :
    ∀ (ops : List (Option Nat)) (jobs : List Nat) (s : Sys) (jobs' : List Nat) (s' : Sys)
      (rs : List WaitRes),
      awaitJobsRun runFuel outer choices jobs s ops = some (jobs', s', rs) →
      WaitOps jobs s ops jobs' s' rs true := by
  intro ops
  induction ops with
  | nil =>
    intro jobs s jobs' s' rs h
    simp only [awaitJobsRun, Option.some.injEq, Prod.mk.injEq] at h
    obtain ⟨rfl, rfl, rfl⟩ := h
    exact .nil
  | cons o t ih =>
    intro jobs s jobs' s' rs h
    cases o with
    | none =>
      simp only [awaitJobsRun] at h
      split at h
      · rename_i j1 s1 rs1 hrec
        simp only [Option.some.injEq, Prod.mk.injEq] at h
        obtain ⟨rfl, rfl, rfl⟩ := h
        exact .notFound (ih _ _ _ _ _ hrec)
      · simp at h
    | some i =>
      simp only [awaitJobsRun] at h
      split at h
      · rename_i j1 s1 res haw
        split at h
        · rename_i j2 s2 rs2 hrec
          simp only [Option.some.injEq, Prod.mk.injEq] at h
          obtain ⟨rfl, rfl, rfl⟩ := h
          exact .job (awaitJobRun_sound _ _ _ _ _ _ _ _ _ haw) (ih _ _ _ _ _ hrec)
        · simp at h
      · simp at h

end YashModel.Proc
