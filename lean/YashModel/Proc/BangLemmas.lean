/-
  C13 — `$!` in the interpreter of the run (`Prog.lean`): the list of pids of the asynchronous lists and the helper
  functions of `St.stmt` that leave it alone (every statement that starts no asynchronous list is made of them).
-/
import YashModel.Proc.Prog
namespace YashModel.Proc

/-- the pids of the asynchronous lists so far, oldest first; the last one is the value of `$!` -/
def St.pids (st : St) : List Nat := st.jobs.map (·.2.1)

/-- `$!`: "the process ID of the most recent background command" (XCU 2.5.2) — in the model the process-table index of
    the child forked for the last asynchronous list, the one `wait $!` waits for -/
def St.bangPid (st : St) : Option Nat := st.pids.getLast?

/-- the statements that start no asynchronous list -/
def Stmt.foreground : Stmt → Bool
  | .bg _ | .bn _ _ | .tw _ _ | .tk _ _ _ _ | .ts _ _ _ _ _ | .sc _ | .scp _ => false
  | _ => true

theorem pids_fork (st : St) (sts : List Nat) : (st.fork sts).1.pids = st.pids := rfl
theorem pids_exec (st : St) (reqs : List Req) : (st.exec reqs).pids = st.pids := rfl
theorem pids_wake (st : St) : st.wake.pids = st.pids := rfl

theorem pids_forkWait (st : St) (sts : List Nat) : (st.forkWait sts).1.pids = st.pids := by
  unfold St.forkWait; split <;> rfl

theorem pids_subshell (st : St) (v : Nat) : (st.subshell v).pids = st.pids := by
  unfold St.subshell; exact pids_forkWait st [v]

theorem pids_afterWait (st : St) (b : List Nat) : (st.afterWait b).pids = st.pids := by
  unfold St.afterWait; simp only []; split
  · rfl
  · split <;> rfl

theorem pids_awaitJobs (st : St) (ops : List (Option Nat)) (last : Nat) : (st.awaitJobs ops last).1.pids = st.pids := by
  unfold St.awaitJobs; split <;> rfl

theorem pids_waitOps (st : St) (ops : List WOp) : (st.waitOps ops).pids = st.pids := by
  unfold St.waitOps
  simp only []
  split
  · rfl
  · split
    · rw [pids_afterWait]; exact pids_awaitJobs _ _ _
    · rw [pids_afterWait]; rfl

theorem pids_waitAllJobs (st : St) : st.waitAllJobs.pids = st.pids := by
  unfold St.waitAllJobs
  simp only []
  split
  · rw [pids_afterWait]; exact pids_awaitJobs _ _ _
  · rw [pids_afterWait]; rfl

theorem pids_killJob (st : St) (pid sig : Nat) : (st.killJob pid sig).pids = st.pids := by
  have hmap : (st.jobs.map fun j => if j.2.1 == pid then (j.1, pid, sig + YashModel.Generated.ProcConsts.SIGNAL_EXIT_OFFSET) else j).map (·.2.1)
      = st.jobs.map (·.2.1) := by
    rw [List.map_map]
    apply List.map_congr_left
    intro j _
    simp only [Function.comp]
    split
    · rename_i h; simp at h; simp [h]
    · rfl
  unfold St.killJob
  simp only []
  split <;> exact hmap

theorem pids_withOut (a : St) (o : Option String) :
    (match o with
      | some w => { a with out := s!"o:{w}" :: a.out }
      | none => a).pids = a.pids := by
  cases o <;> rfl

theorem pids_ite {c : Prop} [Decidable c] {a b : St} {l : List Nat} (ha : a.pids = l) (hb : b.pids = l) :
    (if c then a else b).pids = l := by
  split <;> assumption

end YashModel.Proc
