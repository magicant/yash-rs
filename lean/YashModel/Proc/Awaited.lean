/-
  C13 — `Awaited`: every requested `wait pid` is still to do, in progress, or has left the child reaped; kept by every
  step, so a child the parent was asked to wait for is reaped when the parent is done (no zombie is left behind by a
  finished `wait`).
-/
import YashModel.Proc.Invariant
namespace YashModel.Proc

def Awaited (reqs : List Req) (s : Sys) : Prop :=
  ∀ i : Nat, Req.wait (.pid i) ∈ reqs → i < s.children.length →
    Req.wait (.pid i) ∈ s.todo ∨
    ((s.pc = .enable ∨ s.pc = .poll ∨ s.pc = .await) ∧ s.target = .pid i) ∨
    reaped s.children i = true

theorem awaited_init (spec : List (Nat × Result)) (reqs : List Req) : Awaited reqs (init spec reqs) := by
  intro i hi _; exact Or.inl hi

theorem awaited_child {reqs : List Req} {s s' : Sys} (j : Nat) (h : Awaited reqs s)
    (hs : childStep s j = some s') : Awaited reqs s' := by
  obtain ⟨_, _, hpc, htodo, htarget, _⟩ := child_frame j hs
  intro i hi hlen
  rw [fins_length (fin_child j hs)] at hlen
  rw [hpc, htodo, htarget, reaped_childStep i j hs]
  exact h i hi hlen

/-- by alternative of `Awaited`, not by arm of the step: a request still to do stays so or is taken up; one in progress
    stays so or ends with the child reaped; a reaped child stays reaped -/
theorem awaited_parent {reqs : List Req} {s s' : Sys} (h : Awaited reqs s)
    (hs : parentStep s = some s') : Awaited reqs s' := by
  have hstep := parentStep_iff.mp hs
  intro i hi hlen
  rw [fins_length (fin_parent hs)] at hlen
  rcases h i hi hlen with h1 | ⟨hpc3, ht⟩ | h1
  · by_cases hpc : s.pc = .done
    · obtain ⟨rest, ⟨t, htodo, rfl⟩ | ⟨htodo, rfl⟩⟩ := hstep.of_done hpc <;> rw [htodo] at h1 <;>
        rcases List.mem_cons.mp h1 with e | e
      · cases e; exact .inr (.inl ⟨.inl rfl, rfl⟩)
      · exact .inl e
      · cases e
      · exact .inl e
    · exact .inl (hstep.todo_eq hpc ▸ h1)
  · rcases hstep.of_inWait hpc3 with ⟨hpc', htg, _⟩ | ⟨j, r, hw, rfl⟩ | ⟨hw, rfl⟩
    · exact .inr (.inl ⟨hpc', htg.trans ht⟩)
    · obtain ⟨c, hc, _, hst, hm⟩ := sysWait_state hw
      rw [ht] at hm; cases (hm : _ = i)
      exact .inr (.inr (by rw [reaped_take_eq hc, if_pos rfl, hst]; rfl))
    · rw [ht] at hw; exact .inr (.inr ((sysWait_pid_echild_iff hlen).mp hw))
  · refine .inr (.inr ?_)
    rcases parent_children hs with e | ⟨j, e⟩ <;> rw [e]
    · exact h1
    · exact reaped_take j h1

theorem awaited_steps {reqs : List Req} {s t : Sys} (h : Steps s t)
    (ha : Awaited reqs s) : Awaited reqs t := by
  induction h with
  | refl => exact ha
  | tail l hst hs ih =>
    cases l with
    | parent => exact awaited_parent ih hs
    | child j => exact awaited_child j ih hs

theorem Awaited.reaped_of_final {reqs : List Req} {s : Sys} (h : Awaited reqs s) (hf : s.final = true) {i : Nat}
    (hreq : Req.wait (.pid i) ∈ reqs) (hi : i < s.children.length) : reaped s.children i = true := by
  obtain ⟨hpc, htodo⟩ := Sys.final_iff.mp hf
  rcases h i hreq hi with h1 | ⟨h1, _⟩ | h1
  · rw [htodo] at h1; cases h1
  · rcases h1 with e | e | e <;> rw [hpc] at e <;> cases e
  · exact h1

end YashModel.Proc
