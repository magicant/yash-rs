/-
  C13 — the pipeline model: the two system calls and what they mean between hygienic neighbours; what one step of a
  stage is (it ends, writes or reads); descriptor hygiene as an invariant; and under it no state with a live stage is stuck.
-/
import YashModel.Proc.Pipeline
import YashModel.Proc.Lists
namespace YashModel.Proc

/-- bytes a stage holds and still has to write -/
def internal : SProg → Nat
  | .spew n => n
  | .cat b => b
  | _ => 0

/-- the status a stage ends with when none of its writes fails -/
def ownStatus : SProg → Nat
  | .spew _ => 0
  | .take _ st => st
  | .drain => 0
  | .cat _ => 0
  | .idle st => st

/-- the stage writes to its standard output -/
def isWriter : SProg → Bool
  | .spew _ => true
  | .cat _ => true
  | _ => false

/-- Descriptor hygiene: "after `move_to_stdin_stdout` a stage holds exactly its stdin reader and its
    stdout writer" (and the parent holds nothing): pipe `j` is held for reading by stage `j+1` only and
    for writing by stage `j` only.  Plus the shape facts: one pipe between neighbours, capacity respected. -/
structure Hyg (c : PCfg) (s : PSys) : Prop where
  len : s.pipes.length + 1 = s.stages.length
  holders : ∀ (j : Nat) (p : Pipe), s.pipes[j]? = some p → p.readers = [j + 1] ∧ p.writers = [j]
  bound : ∀ (j : Nat) (p : Pipe), s.pipes[j]? = some p → p.content ≤ c.cap

/-- stage `i` can write without blocking: its standard output is not a pipe, or nobody holds the
    read end any more (EPIPE), or the pipe is empty -/
def Writable (s : PSys) (i : Nat) : Prop :=
  ∀ p, s.pipes[i]? = some p → s.live p.readers = 0 ∨ p.content = 0

theorem live_single (s : PSys) (k : Nat) : s.live [k] = if s.alive k then 1 else 0 := by
  simp [PSys.live, List.countP_cons]

/-- `write(1, buf[..n])` in stage `i`, outcome by outcome -/
theorem sysWrite_spec (c : PCfg) (s : PSys) (i n : Nat) :
    (sysWrite c s i n = .epipe ↔ ∃ p, s.pipes[i]? = some p ∧ s.live p.readers = 0) ∧
    (sysWrite c s i n = .block → ∃ p, s.pipes[i]? = some p ∧ s.live p.readers ≠ 0 ∧ c.cap - p.content < n ∧
      (c.cap - p.content = 0 ∨ n ≤ c.pbuf)) ∧
    (∀ m, sysWrite c s i n = .wrote m → m ≤ n ∧ (1 ≤ n → 1 ≤ m) ∧
      ∀ p, s.pipes[i]? = some p → s.live p.readers ≠ 0 ∧ m ≤ c.cap - p.content) := by
  unfold sysWrite
  cases hp : s.pipes[i]? with
  | none => exact ⟨⟨nofun, fun ⟨_, h, _⟩ => nomatch h⟩, nofun, fun m h => by cases h; exact ⟨Nat.le_refl _, id, nofun⟩⟩
  | some p =>
    simp only [Option.some.injEq, exists_eq_left']
    by_cases h0 : s.live p.readers = 0
    · rw [if_pos h0]; exact ⟨⟨fun _ => h0, fun _ => rfl⟩, nofun, nofun⟩
    · rw [if_neg h0]
      by_cases h1 : c.cap - p.content < n
      · rw [if_pos h1]
        by_cases h2 : c.cap - p.content = 0 ∨ n ≤ c.pbuf
        · rw [if_pos h2]; exact ⟨⟨nofun, fun h => absurd h h0⟩, fun _ => ⟨h0, h1, h2⟩, nofun⟩
        · rw [if_neg h2]
          refine ⟨⟨nofun, fun h => absurd h h0⟩, nofun, fun m h => ?_⟩
          cases h
          exact ⟨by omega, fun _ => by omega, fun q hq => by cases hq; exact ⟨h0, Nat.le_refl _⟩⟩
      · rw [if_neg h1]
        refine ⟨⟨nofun, fun h => absurd h h0⟩, nofun, fun m h => ?_⟩
        cases h
        exact ⟨Nat.le_refl _, id, fun q hq => by cases hq; exact ⟨h0, by omega⟩⟩

/-- `read(0, buf[..want])` in the stage after pipe `j`, outcome by outcome (the first stage, and a stage without a pipe
    before it, read end of file: `sysRead s 0 want = .eof` by `rfl`) -/
theorem sysRead_succ {s : PSys} {j : Nat} {p : Pipe} (hp : s.pipes[j]? = some p) (want : Nat) :
    (sysRead s (j + 1) want = .eof ↔ p.content = 0 ∧ s.live p.writers = 0) ∧
    (sysRead s (j + 1) want = .block ↔ p.content = 0 ∧ s.live p.writers ≠ 0) ∧
    (∀ k, sysRead s (j + 1) want = .got k ↔ p.content ≠ 0 ∧ k = min want p.content) := by
  simp only [sysRead, hp]
  by_cases h0 : p.content = 0
  · rw [if_pos h0]
    by_cases h1 : s.live p.writers = 0
    · rw [if_pos h1]; simp [h0, h1]
    · rw [if_neg h1]; simp [h0, h1]
  · rw [if_neg h0]; simp [h0, eq_comm]

theorem wrote_fits {c : PCfg} {s : PSys} {i n m : Nat} (hw : sysWrite c s i n = .wrote m) :
    (∀ p, s.pipes[i]? = some p → p.content ≤ c.cap → p.content + m ≤ c.cap) ∧ m ≤ n ∧ (1 ≤ n → 1 ≤ m) := by
  obtain ⟨h1, h2, h3⟩ := (sysWrite_spec c s i n).2.2 m hw
  exact ⟨fun p hp hb => by have := (h3 p hp).2; omega, h1, h2⟩

theorem got_fits {s : PSys} {i want m : Nat} (hr : sysRead s i want = .got m) (hw : 1 ≤ want) :
    ∃ j p, i = j + 1 ∧ s.pipes[j]? = some p ∧ m ≤ p.content ∧ 1 ≤ m ∧ m ≤ want := by
  cases i with
  | zero => cases hr
  | succ j =>
    cases hp : s.pipes[j]? with
    | none => simp [sysRead, hp] at hr
    | some p =>
      obtain ⟨h0, rfl⟩ := ((sysRead_succ hp want).2.2 m).mp hr
      exact ⟨j, p, rfl, hp, Nat.min_le_right _ _, by omega, Nat.min_le_left _ _⟩

theorem write_not_block {c : PCfg} {s : PSys} {i n : Nat} (hv : c.Valid) (hw : Writable s i) :
    sysWrite c s i n ≠ .block := by
  intro hb
  obtain ⟨p, hp, h0, h1, h2⟩ := (sysWrite_spec c s i n).2.1 hb
  obtain ⟨v1, v2, _⟩ := hv
  rcases hw p hp with h | h
  · exact h0 h
  · rw [h] at h1 h2; omega

theorem epipe_iff_reader_dead {c : PCfg} {s : PSys} {i n : Nat} {p : Pipe} (hp : s.pipes[i]? = some p)
    (hr : p.readers = [i + 1]) : sysWrite c s i n = .epipe ↔ s.alive (i + 1) = false := by
  rw [(sysWrite_spec c s i n).1]
  simp only [hp, Option.some.injEq, exists_eq_left', hr, live_single]
  cases s.alive (i + 1) <;> simp

/-- ★ the writer gets EPIPE once the only reader of its pipe has ended -/
theorem writer_gets_epipe {c : PCfg} {s : PSys} (h : Hyg c s) {i n : Nat} {p : Pipe}
    (hp : s.pipes[i]? = some p) (hdead : s.alive (i + 1) = false) : sysWrite c s i n = .epipe :=
  (epipe_iff_reader_dead hp (h.holders i p hp).1).mpr hdead

theorem write_next {c : PCfg} {s : PSys} {i n : Nat} {p : Pipe} (hp : s.pipes[i]? = some p)
    (hr : p.readers = [i + 1]) (hn : 1 ≤ n) :
    (sysWrite c s i n = .epipe → s.alive (i + 1) = false) ∧
    (∀ k, sysWrite c s i n = .wrote k → s.alive (i + 1) = true ∧ 1 ≤ k ∧ k ≤ n ∧ k ≤ c.cap - p.content) := by
  refine ⟨(epipe_iff_reader_dead hp hr).mp, fun k hk => ?_⟩
  obtain ⟨h1, h2, h3⟩ := (sysWrite_spec c s i n).2.2 k hk
  obtain ⟨h4, h5⟩ := h3 p hp
  rw [hr, live_single] at h4
  exact ⟨by cases ha : s.alive (i + 1) <;> simp [ha] at h4 ⊢, h2 hn, h1, h5⟩

theorem read_prev {s : PSys} {j want : Nat} {p : Pipe} (hp : s.pipes[j]? = some p)
    (hw : p.writers = [j]) :
    (sysRead s (j + 1) want = .eof → p.content = 0 ∧ s.alive j = false) ∧
    (∀ k, sysRead s (j + 1) want = .got k → k ≤ want ∧ k ≤ p.content ∧ (1 ≤ want → 1 ≤ k)) := by
  obtain ⟨h1, _, h3⟩ := sysRead_succ hp want
  refine ⟨fun h => ?_, fun k hk => ?_⟩
  · obtain ⟨h0, hl⟩ := h1.mp h
    rw [hw, live_single] at hl
    exact ⟨h0, by cases ha : s.alive j <;> simp [ha] at hl ⊢⟩
  · obtain ⟨h0, rfl⟩ := (h3 k).mp hk
    exact ⟨Nat.min_le_left _ _, Nat.min_le_right _ _, fun _ => by omega⟩

theorem addContent_pipes (s : PSys) (j m k : Nat) :
    (addContent s j m).pipes[k]? =
      if k = j then (s.pipes[j]?).map (fun p => { p with content := p.content + m }) else s.pipes[k]? := by
  unfold addContent
  cases hp : s.pipes[j]? with
  | none => by_cases hk : k = j <;> simp [hk, hp]
  | some p => simp only [get_set hp]; by_cases hk : k = j <;> simp [hk]

theorem subContent_pipes (s : PSys) (j m k : Nat) :
    (subContent s j m).pipes[k]? =
      if k = j then (s.pipes[j]?).map (fun p => { p with content := p.content - m }) else s.pipes[k]? := by
  unfold subContent
  cases hp : s.pipes[j]? with
  | none => by_cases hk : k = j <;> simp [hk, hp]
  | some p => simp only [get_set hp]; by_cases hk : k = j <;> simp [hk]

theorem addContent_stages (s : PSys) (j m : Nat) : (addContent s j m).stages = s.stages := by
  unfold addContent; split <;> rfl

theorem subContent_stages (s : PSys) (j m : Nat) : (subContent s j m).stages = s.stages := by
  unfold subContent; split <;> rfl

theorem addContent_len (s : PSys) (j m : Nat) : (addContent s j m).pipes.length = s.pipes.length := by
  unfold addContent; split <;> simp

theorem subContent_len (s : PSys) (j m : Nat) : (subContent s j m).pipes.length = s.pipes.length := by
  unfold subContent; split <;> simp

theorem addContent_eq {s : PSys} {i m : Nat} {p : SProg} {q : Pipe} (hq : s.pipes[i]? = some q) :
    addContent (setProg s i p) i m =
      { stages := s.stages.set i { prog := p }, pipes := s.pipes.set i { q with content := q.content + m } } := by
  unfold addContent; simp [setProg, hq]

theorem subContent_eq {s : PSys} {i j m : Nat} {p : SProg} {q : Pipe} (hq : s.pipes[j]? = some q) :
    subContent (setProg s i p) j m =
      { stages := s.stages.set i { prog := p }, pipes := s.pipes.set j { q with content := q.content - m } } := by
  unfold subContent; simp [setProg, hq]

theorem setProg_self {s : PSys} {i : Nat} {p : SProg} (hst : s.stages[i]? = some ⟨p, none⟩) : setProg s i p = s := by
  simp only [setProg, set_self hst]

theorem subContent_self {s : PSys} {i j m : Nat} {p : SProg} {q : Pipe} (hst : s.stages[i]? = some ⟨p, none⟩)
    (hq : s.pipes[j]? = some q) :
    subContent s j m =
      { stages := s.stages.set i { prog := p }, pipes := s.pipes.set j { q with content := q.content - m } } := by
  rw [← subContent_eq hq, setProg_self hst]

theorem alive_get {s : PSys} {i : Nat} {st : Stage} (hst : s.stages[i]? = some st) : s.alive i = st.exit.isNone := by
  unfold PSys.alive; rw [hst]

theorem alive_of_stages {s s' : PSys} {i : Nat} {st st' : Stage} (hst : s.stages[i]? = some st)
    (hs : s'.stages = s.stages.set i st') (k : Nat) : s'.alive k = if k = i then st'.exit.isNone else s.alive k := by
  unfold PSys.alive
  rw [hs, get_set hst]
  by_cases hk : k = i <;> simp [hk]

theorem alive_set {s : PSys} {i : Nat} {st : Stage} (hst : s.stages[i]? = some st) (st' : Stage) (ps : List Pipe)
    (k : Nat) : PSys.alive { stages := s.stages.set i st', pipes := ps } k = if k = i then st'.exit.isNone else s.alive k :=
  alive_of_stages hst rfl k

theorem alive_set_live {s : PSys} {i : Nat} {st : Stage} (hst : s.stages[i]? = some st) (hex : st.exit = none)
    (p : SProg) (ps : List Pipe) (k : Nat) :
    PSys.alive { stages := s.stages.set i ⟨p, none⟩, pipes := ps } k = s.alive k := by
  rw [alive_set hst]; split
  · next e => rw [e, alive_get hst, hex]
  · rfl

theorem alive_lt {s : PSys} {i : Nat} (h : s.alive i = true) : i < s.stages.length := by
  unfold PSys.alive at h
  cases hst : s.stages[i]? with
  | none => simp [hst] at h
  | some st => exact lt_of_get hst

/-- hygiene looks at the number of stages and, pipe by pipe, at the holders and the byte count -/
theorem Hyg.of_pipes {c : PCfg} {s s' : PSys} (h : Hyg c s) (hst : s'.stages.length = s.stages.length)
    (hlen : s'.pipes.length = s.pipes.length)
    (hp : ∀ (k : Nat) (p' : Pipe), s'.pipes[k]? = some p' → ∃ p : Pipe, s.pipes[k]? = some p ∧ p'.readers = p.readers ∧
      p'.writers = p.writers ∧ p'.content ≤ c.cap) : Hyg c s' := by
  refine ⟨by rw [hlen, hst]; exact h.len, fun k p' hk => ?_, fun k p' hk => ?_⟩
  · obtain ⟨p, h1, h2, h3, _⟩ := hp k p' hk
    rw [h2, h3]; exact h.holders k p h1
  · exact (hp k p' hk).choose_spec.2.2.2

theorem hyg_stages {c : PCfg} {s : PSys} (h : Hyg c s) (st' : List Stage)
    (hl : st'.length = s.stages.length) : Hyg c { s with stages := st' } :=
  h.of_pipes hl rfl fun k p hk => ⟨p, hk, rfl, rfl, h.bound k p hk⟩

theorem hyg_content {c : PCfg} {s s' : PSys} {j : Nat} {f : Nat → Nat} (h : Hyg c s) (hst : s'.stages = s.stages)
    (hlen : s'.pipes.length = s.pipes.length)
    (hpipes : ∀ k, s'.pipes[k]? = if k = j then (s.pipes[j]?).map (fun p => { p with content := f p.content }) else s.pipes[k]?)
    (hb : ∀ p, s.pipes[j]? = some p → f p.content ≤ c.cap) : Hyg c s' := by
  refine h.of_pipes (by rw [hst]) hlen fun k p' hk => ?_
  rw [hpipes] at hk
  by_cases hkj : k = j
  · subst hkj
    rw [if_pos rfl] at hk
    obtain ⟨p, hp, rfl⟩ := Option.map_eq_some_iff.mp hk
    exact ⟨p, hp, rfl, rfl, hb p hp⟩
  · rw [if_neg hkj] at hk; exact ⟨p', hk, rfl, rfl, h.bound k p' hk⟩

theorem hyg_add {c : PCfg} {s : PSys} (h : Hyg c s) (j m : Nat)
    (hb : ∀ p, s.pipes[j]? = some p → p.content + m ≤ c.cap) : Hyg c (addContent s j m) :=
  hyg_content (f := (· + m)) h (addContent_stages s j m) (addContent_len s j m) (addContent_pipes s j m) hb

theorem hyg_sub {c : PCfg} {s : PSys} (h : Hyg c s) (j m : Nat) : Hyg c (subContent s j m) :=
  hyg_content (f := (· - m)) h (subContent_stages s j m) (subContent_len s j m) (subContent_pipes s j m)
    fun p hp => Nat.le_trans (Nat.sub_le _ _) (h.bound j p hp)

theorem step_live {c : PCfg} {s t : PSys} {i : Nat} (hs : stageStep c s i = some t) :
    ∃ st, s.stages[i]? = some st ∧ st.exit = none := by
  unfold stageStep at hs
  split at hs
  · cases hs
  · rename_i st hst
    refine ⟨st, hst, ?_⟩
    cases he : st.exit with
    | none => rfl
    | some e => simp [he] at hs

theorem step_write {c : PCfg} {s t : PSys} {i n : Nat} {f : Nat → SProg} (hf : f = .spew ∨ f = .cat)
    (hst : s.stages[i]? = some ⟨f (n + 1), none⟩) (hs : stageStep c s i = some t) :
    (sysWrite c s i (n + 1) = .epipe ∧ t = exitStage s i 1 (f 0)) ∨
    ∃ k, sysWrite c s i (n + 1) = .wrote k ∧ t = addContent (setProg s i (f (n + 1 - k))) i k := by
  rcases hf with rfl | rfl <;>
    simp only [stageStep, hst, Option.isSome_none, Bool.false_eq_true, if_false] at hs <;>
    cases hw : sysWrite c s i (n + 1) <;> simp_all

theorem step_take {c : PCfg} {s t : PSys} {i k st : Nat} (hst : s.stages[i]? = some ⟨.take (k + 1) st, none⟩)
    (hs : stageStep c s i = some t) :
    (sysRead s i (k + 1) = .eof ∧ t = exitStage s i st (.take 0 st)) ∨
    ∃ m, sysRead s i (k + 1) = .got m ∧ t = subContent (setProg s i (.take (k + 1 - m) st)) (i - 1) m := by
  simp only [stageStep, hst, Option.isSome_none, Bool.false_eq_true, if_false] at hs
  cases hr : sysRead s i (k + 1) <;> simp_all

theorem step_drain {c : PCfg} {s t : PSys} {i : Nat} (hst : s.stages[i]? = some ⟨.drain, none⟩)
    (hs : stageStep c s i = some t) :
    (sysRead s i c.chunk = .eof ∧ t = exitStage s i 0 .drain) ∨
    ∃ m, sysRead s i c.chunk = .got m ∧ t = subContent s (i - 1) m := by
  simp only [stageStep, hst, Option.isSome_none, Bool.false_eq_true, if_false] at hs
  cases hr : sysRead s i c.chunk <;> simp_all

theorem step_cat_read {c : PCfg} {s t : PSys} {i : Nat} (hst : s.stages[i]? = some ⟨.cat 0, none⟩)
    (hs : stageStep c s i = some t) :
    (sysRead s i c.chunk = .eof ∧ t = exitStage s i 0 (.cat 0)) ∨
    ∃ m, sysRead s i c.chunk = .got m ∧ t = subContent (setProg s i (.cat m)) (i - 1) m := by
  simp only [stageStep, hst, Option.isSome_none, Bool.false_eq_true, if_false] at hs
  cases hr : sysRead s i c.chunk <;> simp_all

theorem step_exit {c : PCfg} {s t : PSys} {i n : Nat} {p : SProg} (hp : p = .idle n ∨ p = .take 0 n ∨ (p = .spew 0 ∧ n = 0))
    (hst : s.stages[i]? = some ⟨p, none⟩) (hs : stageStep c s i = some t) : t = exitStage s i n p := by
  rcases hp with rfl | rfl | ⟨rfl, rfl⟩ <;>
    simp only [stageStep, hst, Option.isSome_none, Bool.false_eq_true, if_false, Option.some.injEq] at hs <;>
    exact hs.symm

/-- A step of stage `i` is one of three things: the stage ends (with its own status, or with 1 after EPIPE), a `write`
    moves `m` of its bytes into pipe `i`, or a `read` takes `m` bytes out of pipe `i - 1`; its kind never changes. -/
theorem stageStep_kinds {c : PCfg} {s s' : PSys} {i : Nat} (hs : stageStep c s i = some s') :
    ∃ st, s.stages[i]? = some st ∧ st.exit = none ∧
      ((∃ e p, s' = exitStage s i e p ∧ internal p ≤ internal st.prog ∧
          ownStatus p = ownStatus st.prog ∧ isWriter p = isWriter st.prog ∧
          (e = ownStatus st.prog ∨ e = 1 ∧ isWriter st.prog = true ∧ ∃ n, sysWrite c s i n = .epipe)) ∨
       (∃ n m p, s' = addContent (setProg s i p) i m ∧ sysWrite c s i (n + 1) = .wrote m ∧
          internal p + m = internal st.prog ∧
          ownStatus p = ownStatus st.prog ∧ isWriter p = isWriter st.prog) ∨
       (∃ want m p, s' = subContent (setProg s i p) (i - 1) m ∧ sysRead s i want = .got m ∧
          (want = c.chunk ∨ 1 ≤ want) ∧ internal p ≤ internal st.prog + m ∧
          ownStatus p = ownStatus st.prog ∧ isWriter p = isWriter st.prog)) := by
  obtain ⟨⟨prog, ex⟩, hst, he⟩ := step_live hs
  cases he
  refine ⟨_, hst, rfl, ?_⟩
  cases prog with
  | idle n =>
    cases step_exit (.inl rfl) hst hs
    exact .inl ⟨n, _, rfl, Nat.le_refl _, rfl, rfl, .inl rfl⟩
  | spew n =>
    cases n with
    | zero =>
      cases step_exit (.inr (.inr ⟨rfl, rfl⟩)) hst hs
      exact .inl ⟨0, _, rfl, Nat.le_refl _, rfl, rfl, .inl rfl⟩
    | succ n =>
      rcases step_write (.inl rfl) hst hs with ⟨hw, rfl⟩ | ⟨m, hw, rfl⟩
      · exact .inl ⟨1, _, rfl, Nat.zero_le _, rfl, rfl, .inr ⟨rfl, rfl, _, hw⟩⟩
      · have hm := (wrote_fits hw).2.1
        exact .inr (.inl ⟨n, m, _, rfl, hw, by simp only [internal]; omega, rfl, rfl⟩)
  | take k n =>
    cases k with
    | zero =>
      cases step_exit (.inr (.inl rfl)) hst hs
      exact .inl ⟨n, _, rfl, Nat.le_refl _, rfl, rfl, .inl rfl⟩
    | succ k =>
      rcases step_take hst hs with ⟨_, rfl⟩ | ⟨m, hr, rfl⟩
      · exact .inl ⟨n, _, rfl, Nat.le_refl _, rfl, rfl, .inl rfl⟩
      · exact .inr (.inr ⟨_, m, _, rfl, hr, .inr (Nat.succ_le_succ (Nat.zero_le k)), Nat.zero_le _, rfl, rfl⟩)
  | drain =>
    rcases step_drain hst hs with ⟨_, rfl⟩ | ⟨m, hr, rfl⟩
    · exact .inl ⟨0, _, rfl, Nat.le_refl _, rfl, rfl, .inl rfl⟩
    · exact .inr (.inr ⟨_, m, .drain, by rw [setProg_self hst], hr, .inl rfl, Nat.zero_le _, rfl, rfl⟩)
  | cat b =>
    cases b with
    | zero =>
      rcases step_cat_read hst hs with ⟨_, rfl⟩ | ⟨m, hr, rfl⟩
      · exact .inl ⟨0, _, rfl, Nat.le_refl _, rfl, rfl, .inl rfl⟩
      · exact .inr (.inr ⟨_, m, _, rfl, hr, .inl rfl, by simp [internal], rfl, rfl⟩)
    | succ b =>
      rcases step_write (.inr rfl) hst hs with ⟨hw, rfl⟩ | ⟨m, hw, rfl⟩
      · exact .inl ⟨1, _, rfl, Nat.zero_le _, rfl, rfl, .inr ⟨rfl, rfl, _, hw⟩⟩
      · have hm := (wrote_fits hw).2.1
        exact .inr (.inl ⟨b, m, _, rfl, hw, by simp only [internal]; omega, rfl, rfl⟩)

theorem hyg_step {c : PCfg} {s s' : PSys} {i : Nat} (h : Hyg c s) (hs : stageStep c s i = some s') :
    Hyg c s' := by
  have hsp : ∀ p : SProg, Hyg c (setProg s i p) := fun p => hyg_stages h _ (by simp)
  obtain ⟨st, hst, _, h1 | h2 | h3⟩ := stageStep_kinds hs
  · obtain ⟨e, p, rfl, _⟩ := h1
    exact hyg_stages h _ (by simp)
  · obtain ⟨n, m, p, rfl, hw, _⟩ := h2
    exact hyg_add (hsp p) i m fun q hq => (wrote_fits hw).1 q hq (h.bound i q hq)
  · obtain ⟨want, m, p, rfl, _⟩ := h3
    exact hyg_sub (hsp p) _ _

theorem mkPipeline_stages_length (progs : List SProg) : (mkPipeline progs).stages.length = progs.length := by
  simp [mkPipeline]

theorem mkPipeline_pipes_length (progs : List SProg) : (mkPipeline progs).pipes.length = progs.length - 1 := by
  simp [mkPipeline]

theorem mkPipeline_stage (progs : List SProg) (i : Nat) :
    (mkPipeline progs).stages[i]? = (progs[i]?).map (⟨·, none⟩) := by
  simp [mkPipeline]

theorem mkPipeline_pipe {progs : List SProg} {j : Nat} {p : Pipe} :
    (mkPipeline progs).pipes[j]? = some p ↔ j + 1 < progs.length ∧ p = ⟨0, [j + 1], [j]⟩ := by
  simp only [mkPipeline, List.getElem?_map, Bool.false_eq_true, if_false]
  rcases Nat.lt_or_ge j (progs.length - 1) with h | h
  · rw [List.getElem?_range h]
    exact ⟨fun e => ⟨by omega, (Option.some.inj e).symm⟩, fun e => e.2 ▸ rfl⟩
  · rw [List.getElem?_eq_none (by simpa using h)]
    exact ⟨nofun, fun e => by omega⟩

theorem hyg_init (c : PCfg) (progs : List SProg) (hne : progs ≠ []) : Hyg c (mkPipeline progs) := by
  have hpos : 1 ≤ progs.length := List.length_pos_iff.mpr hne
  refine ⟨by rw [mkPipeline_pipes_length, mkPipeline_stages_length]; omega, fun j p hp => ?_, fun j p hp => ?_⟩
  · rw [(mkPipeline_pipe.mp hp).2]; exact ⟨rfl, rfl⟩
  · rw [(mkPipeline_pipe.mp hp).2]; exact Nat.zero_le _

theorem blocked_reads {c : PCfg} {s : PSys} {i : Nat} (hv : c.Valid) (hal : s.alive i = true) (hw : Writable s i)
    (hstep : stageStep c s i = none) : ∃ want, sysRead s i want = .block := by
  unfold PSys.alive at hal
  cases hst : s.stages[i]? with
  | none => simp [hst] at hal
  | some st =>
    simp only [hst] at hal
    have hex : st.exit.isSome = false := by cases h' : st.exit <;> simp_all
    unfold stageStep at hstep
    simp only [hst, hex] at hstep
    -- every arm of `stageStep` other than `.block` answers `some`
    cases hp : st.prog with
    | idle n => simp [hp] at hstep
    | spew n =>
      cases n with
      | zero => simp [hp] at hstep
      | succ n =>
        simp only [hp] at hstep
        cases hwr : sysWrite c s i (n + 1) with
        | block => exact absurd hwr (write_not_block hv hw)
        | _ => simp [hwr] at hstep
    | take k n =>
      cases k with
      | zero => simp [hp] at hstep
      | succ k =>
        simp only [hp] at hstep
        cases hrd : sysRead s i (k + 1) with
        | block => exact ⟨_, hrd⟩
        | _ => simp [hrd] at hstep
    | drain =>
      simp only [hp] at hstep
      cases hrd : sysRead s i c.chunk with
      | block => exact ⟨_, hrd⟩
      | _ => simp [hrd] at hstep
    | cat b =>
      cases b with
      | zero =>
        simp only [hp] at hstep
        cases hrd : sysRead s i c.chunk with
        | block => exact ⟨_, hrd⟩
        | _ => simp [hrd] at hstep
      | succ b =>
        simp only [hp] at hstep
        cases hwr : sysWrite c s i (b + 1) with
        | block => exact absurd hwr (write_not_block hv hw)
        | _ => simp [hwr] at hstep

/-- some stage at or before a live stage that could write can step (walk upstream) -/
theorem enabled_upto {c : PCfg} {s : PSys} (hv : c.Valid) (h : Hyg c s) :
    ∀ i : Nat, s.alive i = true → Writable s i → ∃ j s', stageStep c s j = some s' := by
  intro i
  induction i with
  | zero =>
    intro hal hw
    cases hstep : stageStep c s 0 with
    | some s' => exact ⟨0, s', hstep⟩
    | none => obtain ⟨want, hb⟩ := blocked_reads hv hal hw hstep; cases hb
  | succ j ih =>
    intro hal hw
    cases hstep : stageStep c s (j + 1) with
    | some s' => exact ⟨j + 1, s', hstep⟩
    | none =>
      -- blocked in a read: the pipe is empty and its only writer, stage `j`, is alive: look upstream
      obtain ⟨want, hb⟩ := blocked_reads hv hal hw hstep
      cases hp : s.pipes[j]? with
      | none => simp [sysRead, hp] at hb
      | some p =>
        obtain ⟨hc0, hlw⟩ := (sysRead_succ hp want).2.1.mp hb
        rw [(h.holders j p hp).2, live_single] at hlw
        have halj : s.alive j = true := by cases ha : s.alive j <;> simp [ha] at hlw ⊢
        exact ih halj fun q hq => by cases hp.symm.trans hq; exact .inr hc0

/-- the last live stage, by induction on a bound `d` for the number of stages from `k` on -/
theorem exists_last_alive (s : PSys) :
    ∀ (d k : Nat), s.stages.length - k ≤ d → s.alive k = true →
      ∃ i, s.alive i = true ∧ ∀ m, i < m → s.alive m = false := by
  intro d
  induction d with
  | zero =>
    intro k hk hal
    have := alive_lt hal; omega
  | succ d ih =>
    intro k hk hal
    by_cases hex : ∃ m, k < m ∧ s.alive m = true
    · obtain ⟨m, hkm, hm⟩ := hex
      have := alive_lt hm
      exact ih m (by omega) hm
    · refine ⟨k, hal, ?_⟩
      intro m hkm
      cases hm : s.alive m with
      | false => rfl
      | true => exact absurd ⟨m, hkm, hm⟩ hex

theorem pipeline_not_stuck {c : PCfg} {s : PSys} (hv : c.Valid) (h : Hyg c s) {k : Nat}
    (hal : s.alive k = true) : ∃ j s', stageStep c s j = some s' := by
  obtain ⟨i, hi, hlast⟩ := exists_last_alive s _ k (Nat.le_refl _) hal
  apply enabled_upto hv h i hi
  intro p hp
  left
  rw [(h.holders i p hp).1, live_single, hlast (i + 1) (by omega)]
  simp

end YashModel.Proc
