/-
  C13 — the parent's side of the pipeline set-up (`ForkLoop.lean`): the invariant of the fork loop, the exact result of
  `move_to_stdin_stdout` whenever it returns, and that the set-up goes through under the lowest-free allocation.
-/
import YashModel.Proc.ForkLoop
import YashModel.Proc.FdLemmas
import YashModel.Proc.Spec
import YashModel.Common.Fuel
namespace YashModel.Proc

/-- the Spec's name for what a descriptor refers to -/
def Res.kind : Res → Spec.FdKind
  | .rd j => .rd j
  | .wr j => .wr j
  | .other => .other

/-- every descriptor from `m` on is free -/
def Below (m : Nat) (T : FdTab) : Prop := ∀ fd, m ≤ fd → T fd = none

/-- Invariant of the fork loop between two `shift`s: the parent's table `T` is the table `T0` the pipeline
    started with, plus exactly the descriptors of the `PipeSet` (typed as `ChildStart` says), which are
    free in `T0`. -/
structure LoopInv (T0 T : FdTab) (ps : PipeSet) (jin jout : Nat) : Prop where
  start : ChildStart T ps jin jout
  frame : ∀ fd, ps.readPrevious ≠ some fd → (∀ r w, ps.next = some (r, w) → fd ≠ r ∧ fd ≠ w) → T fd = T0 fd
  fresh : ∀ fd, (ps.readPrevious = some fd ∨ ∃ r w, ps.next = some (r, w) ∧ (fd = r ∨ fd = w)) → T0 fd = none

theorem noPipe_ite (o : Nat → Bool) : NoPipe (fun fd => if o fd then some .other else none) := by
  intro fd res h
  simp only at h
  by_cases ho : o fd = true
  · rw [if_pos ho] at h; exact (Option.some.inj h).symm
  · rw [if_neg ho] at h; cases h

theorem loopInv_init {T0 : FdTab} (h0 : NoPipe T0) (a b : Nat) :
    LoopInv T0 T0 { readPrevious := none, next := none } a b := by
  refine ⟨⟨by simp, by simp, by simp, by simp, by simp, ?_⟩, by simp, by simp⟩
  intro fd res hfd hpe
  rw [h0 fd res hfd] at hpe
  simp [Res.isPipeEnd] at hpe

theorem only_of_frame {T0 T : FdTab} {ps : PipeSet} (h0 : NoPipe T0)
    (frame : ∀ fd, ps.readPrevious ≠ some fd → (∀ r w, ps.next = some (r, w) → fd ≠ r ∧ fd ≠ w) → T fd = T0 fd)
    (fd : Nat) (res : Res) (hfd : T fd = some res) (hpe : res.isPipeEnd = true) :
    ps.readPrevious = some fd ∨ (∃ w, ps.next = some (fd, w)) ∨ (∃ r, ps.next = some (r, fd)) := by
  refine Classical.byContradiction fun hc => ?_
  rw [frame fd (fun e => hc (.inl e)) fun r w hn =>
    ⟨fun e => hc (.inr (.inl ⟨w, e ▸ hn⟩)), fun e => hc (.inr (.inr ⟨r, e ▸ hn⟩))⟩] at hfd
  rw [h0 fd res hfd] at hpe
  cases hpe

theorem shiftClose_apply (T : FdTab) (ps : PipeSet) (fd : Nat) :
    shiftClose T ps fd =
      if ps.readPrevious = some fd ∨ ps.next.map (·.2) = some fd then none else T fd := by
  obtain ⟨rp, nx⟩ := ps
  rcases rp with _ | p <;> rcases nx with _ | ⟨r, w⟩ <;> simp [shiftClose, FdTab.closeIgn, eq_comm]
  -- both closed: the two tests one after the other are the disjunction
  by_cases hw : fd = w <;> by_cases hp : fd = p <;> simp [hw, hp]

theorem pipe_eq {T T' : FdTab} {j r w : Nat} (h : T.pipe j r w = some T') :
    T r = none ∧ T w = none ∧ r ≠ w ∧
      ∀ k, T' k = if k = r then some (.rd j) else if k = w then some (.wr j) else T k := by
  unfold FdTab.pipe at h
  split at h
  · rename_i hc
    simp at h; subst h
    exact ⟨by simpa using hc.1, by simpa using hc.2.1, hc.2.2, fun _ => rfl⟩
  · simp at h

theorem LoopInv.close {T0 T : FdTab} {ps : PipeSet} {a b : Nat} (h0 : NoPipe T0)
    (h : LoopInv T0 T ps a b) (j : Nat) :
    LoopInv T0 (shiftClose T ps) { readPrevious := ps.next.map (·.1), next := none } b j := by
  have frame : ∀ fd, ps.next.map (·.1) ≠ some fd → shiftClose T ps fd = T0 fd := by
    intro fd hfd
    rw [shiftClose_apply]
    split
    · rename_i hc
      refine (h.fresh fd ?_).symm
      rcases hc with hc | hc
      · exact .inl hc
      · obtain ⟨⟨r, w⟩, hn, rfl⟩ := Option.map_eq_some_iff.mp hc
        exact .inr ⟨r, w, hn, .inr rfl⟩
    · rename_i hc
      exact h.frame fd (fun e => hc (.inl e)) fun r w hn =>
        ⟨fun e => hfd (by simp [hn, e]), fun e => hc (.inr (by simp [hn, e]))⟩
  refine ⟨⟨?_, nofun, nofun, nofun, nofun, only_of_frame h0 fun fd h1 _ => frame fd h1⟩,
    fun fd h1 _ => frame fd h1, ?_⟩
  · intro p hp
    obtain ⟨⟨r, w⟩, hn, rfl⟩ := Option.map_eq_some_iff.mp hp
    rw [shiftClose_apply, if_neg, h.start.nextR r w hn]
    rintro (hc | hc)
    · exact (h.start.distinctP r r w hc hn).1 rfl
    · simp [hn] at hc
      exact h.start.distinctRW r w hn hc.symm
  · rintro fd (hp | ⟨_, _, hn, _⟩)
    · obtain ⟨⟨r, w⟩, hn, rfl⟩ := Option.map_eq_some_iff.mp hp
      exact h.fresh r (.inr ⟨r, w, hn, .inl rfl⟩)
    · cases hn

theorem LoopInv.addPipe {T0 T T' : FdTab} {rp : Option Nat} {a b j r w : Nat} (h0 : NoPipe T0)
    (h : LoopInv T0 T { readPrevious := rp, next := none } a b) (hp : T.pipe j r w = some T') :
    LoopInv T0 T' { readPrevious := rp, next := some (r, w) } a j := by
  obtain ⟨hr, hw, hrw, e⟩ := pipe_eq hp
  have hne : ∀ p, rp = some p → p ≠ r ∧ p ≠ w := by
    intro p hp
    have := h.start.prev p hp
    constructor <;> rintro rfl <;> simp_all
  have frame : ∀ fd, rp ≠ some fd → (∀ r' w', some (r, w) = some (r', w') → fd ≠ r' ∧ fd ≠ w') →
      T' fd = T0 fd := by
    intro fd h1 h2
    rw [e, if_neg (h2 r w rfl).1, if_neg (h2 r w rfl).2]
    exact h.frame fd h1 nofun
  refine ⟨⟨?_, ?_, ?_, ?_, ?_, only_of_frame h0 frame⟩, frame, ?_⟩
  · intro p hp
    rw [e, if_neg (hne p hp).1, if_neg (hne p hp).2]
    exact h.start.prev p hp
  · rintro _ _ ⟨⟩; rw [e, if_pos rfl]
  · rintro _ _ ⟨⟩; rw [e, if_neg hrw.symm, if_pos rfl]
  · rintro _ _ ⟨⟩; exact hrw
  · rintro p _ _ hp ⟨⟩; exact hne p hp
  · rintro fd (hp | ⟨_, _, ⟨⟩, rfl | rfl⟩)
    · exact h.fresh fd (.inl hp)
    · rw [← h.frame fd (fun hp => (hne fd hp).1 rfl) nofun]; exact hr
    · rw [← h.frame fd (fun hp => (hne fd hp).2 rfl) nofun]; exact hw

theorem shift_inv {A : Alloc} {T0 T T1 : FdTab} {ps ps1 : PipeSet} {hn : Bool} {j a b : Nat}
    (h0 : NoPipe T0) (h : LoopInv T0 T ps a b) (hs : shift A T ps hn j = some (T1, ps1)) :
    LoopInv T0 T1 ps1 b j ∧ ps1.readPrevious.isSome = ps.next.isSome ∧ ps1.next.isSome = hn := by
  have hc := h.close h0 j
  unfold shift at hs
  cases hn with
  | false =>
    simp at hs
    obtain ⟨rfl, rfl⟩ := hs
    exact ⟨hc, by simp, rfl⟩
  | true =>
    simp only [if_true] at hs
    split at hs
    · rename_i T3 h3
      simp at hs
      obtain ⟨rfl, rfl⟩ := hs
      exact ⟨hc.addPipe h0 h3, by simp, rfl⟩
    · simp at hs

/-- The fork loop from stage `i` on: every child inherits a table satisfying the invariant for ITS pipes
    (`i+k-1` in, `i+k` out), has a `read_previous` iff it is not the first stage and a `next` iff it is not
    the last, and after the final `shift(false)` the parent's table is `T0` again.  Before the `shift` of stage `i`
    `read_previous` is the read end of pipe `i-2` and `next` is pipe `i-1` (the subtractions truncate at `i = 0, 1`, where
    those entries of the `PipeSet` are empty); `next` is set iff a stage has been forked and another is to come. -/
theorem forkLoop_spec {A : Alloc} {T0 : FdTab} (h0 : NoPipe T0) :
    ∀ (rem i : Nat) (T : FdTab) (ps : PipeSet) (cs : List (FdTab × PipeSet)) (Tf : FdTab) (psf : PipeSet),
      LoopInv T0 T ps (i - 2) (i - 1) →
      ps.next.isSome = (decide (1 ≤ i) && decide (0 < rem)) →
      forkLoop A i rem T ps = some (cs, Tf, psf) →
      cs.length = rem ∧ (∀ fd, Tf fd = T0 fd) ∧ psf = { readPrevious := none, next := none } ∧
      ∀ k Tk psk, cs[k]? = some (Tk, psk) →
        LoopInv T0 Tk psk (i + k - 1) (i + k) ∧ psk.readPrevious.isSome = decide (0 < i + k) ∧
        psk.next.isSome = decide (k + 1 < rem) := by
  intro rem
  induction rem with
  | zero =>
    intro i T ps cs Tf psf hinv hnext hrun
    simp only [forkLoop] at hrun
    split at hrun
    · rename_i T' ps' hs
      simp at hrun
      obtain ⟨rfl, rfl, rfl⟩ := hrun
      obtain ⟨hinv', h1, h2⟩ := shift_inv h0 hinv hs
      simp at hnext
      rw [hnext] at h1
      obtain ⟨rp', nx'⟩ := ps'
      simp at h1 h2
      subst h1; subst h2
      refine ⟨rfl, ?_, rfl, by simp⟩
      intro fd
      exact hinv'.frame fd (by simp) (by simp)
    · simp at hrun
  | succ rem ih =>
    intro i T ps cs Tf psf hinv hnext hrun
    simp only [forkLoop] at hrun
    split at hrun
    · simp at hrun
    · rename_i T1 ps1 hs
      split at hrun
      · simp at hrun
      · rename_i cs' Tf' psf' hrec
        simp at hrun
        obtain ⟨rfl, rfl, rfl⟩ := hrun
        obtain ⟨hinv1, h1, h2⟩ := shift_inv h0 hinv hs
        have hinv1' : LoopInv T0 T1 ps1 (i + 1 - 2) (i + 1 - 1) := by
          have e1 : i + 1 - 2 = i - 1 := by omega
          have e2 : i + 1 - 1 = i := by omega
          rw [e1, e2]; exact hinv1
        obtain ⟨hlen, hTf, hpsf, hk⟩ := ih (i + 1) T1 ps1 cs' _ _ hinv1' (by rw [h2]; simp) hrec
        refine ⟨by simp [hlen], hTf, hpsf, ?_⟩
        intro k Tk psk hget
        cases k with
        | zero =>
          simp at hget
          obtain ⟨rfl, rfl⟩ := hget
          refine ⟨by simpa using hinv1, ?_, ?_⟩
          · rw [h1, hnext]; simp; omega
          · rw [h2]; simp
        | succ k =>
          simp at hget
          obtain ⟨a1, a2, a3⟩ := hk k Tk psk hget
          have e1 : i + 1 + k = i + (k + 1) := by omega
          rw [e1] at a1 a2
          exact ⟨a1, a2, by rw [a3]; simp⟩

theorem dupTo_eq {T T' : FdTab} {frm d : Nat} (h : T.dupTo frm d = some T') :
    ∃ r, T frm = some r ∧ T d = none ∧ ∀ k, T' k = if k = d then some r else T k := by
  unfold FdTab.dupTo at h
  split at h
  · simp at h
  · rename_i r hr
    split at h
    · rename_i hd; simp at h; subst h; exact ⟨r, hr, by simpa using hd, fun _ => rfl⟩
    · simp at h

/-- a descriptor that is free in the table the kernel sees at the `dup` (after `close(reader)`) is usable -/
theorem dupOk_of_free {T : FdTab} {ps : PipeSet} {jin jout d : Nat} (h : ChildStart T ps jin jout)
    (hd : dupTable T ps d = none) : DupOk T ps d := by
  intro r w hn hp _
  simp only [dupTable, hn, FdTab.closeIgn] at hd
  refine ⟨?_, ?_⟩
  · by_cases e : d = r
    · exact .inr e
    · rw [if_neg e] at hd; exact .inl hd
  · -- descriptor 1 holds the incoming read end
    rintro rfl
    rw [if_neg (h.distinctP 1 r w hp hn).1, h.prev 1 hp] at hd; cases hd

theorem move_dup_free {T T' : FdTab} {ps : PipeSet} {jin jout d : Nat} (h : ChildStart T ps jin jout)
    (hm : moveToStdinStdout T ps d = some T') : DupOk T ps d := by
  intro r w hn hp hw
  rw [move_split] at hm
  simp only [moveStdout, hn, close_some (h.nextR r w hn), hw, hp, if_true, if_false] at hm
  cases hdup : FdTab.dupTo (fun k => if k = r then none else T k) 1 d with
  | none => simp [hdup] at hm
  | some T2 =>
    obtain ⟨_, _, hd, _⟩ := dupTo_eq hdup
    exact dupOk_of_free h (by simpa [dupTable, hn, FdTab.closeIgn] using hd) r w hn hp hw

/-- ★ `PipeSet::move_to_stdin_stdout`, whenever it returns without error on a table
    with `ChildStart`, leaves EXACTLY this table: descriptor 0 = the incoming read end (if any), descriptor
    1 = the outgoing write end (if any), every other descriptor what it was if that was not a pipe end of
    the pipeline, and closed otherwise — for every numbering and every `dup` result (all branches).  This
    is stronger than `ChildHygienic` (it also says that nothing else is lost or gained), and it is what
    the `fd` case family compares with the real descriptor tables. -/
theorem child_setup_exact {T T' : FdTab} {ps : PipeSet} {jin jout d : Nat} (h : ChildStart T ps jin jout)
    (hm : moveToStdinStdout T ps d = some T') : ∀ fd, T' fd = setupResult T ps jin jout fd := by
  obtain ⟨T'', hT'', he⟩ := child_setup_spec h (move_dup_free h hm)
  cases hm.symm.trans hT''
  exact he

theorem childTables_spec {A : Alloc} :
    ∀ (cs : List (FdTab × PipeSet)) (i : Nat) (ts : List FdTab), childTables A i cs = some ts →
      ts.length = cs.length ∧
      ∀ (k : Nat) Tk psk, cs[k]? = some (Tk, psk) → ∃ T' d, ts[k]? = some T' ∧ moveToStdinStdout Tk psk d = some T' := by
  intro cs
  induction cs with
  | nil => intro i ts h; simp [childTables] at h; subst h; simp
  | cons c rest ih =>
    intro i ts h
    obtain ⟨T, ps⟩ := c
    simp only [childTables] at h
    split at h
    · simp at h
    · rename_i T' hT'
      split at h
      · simp at h
      · rename_i ts' hts'
        simp at h; subst h
        obtain ⟨hl, hk⟩ := ih (i + 1) ts' hts'
        refine ⟨by simp [hl], ?_⟩
        intro k Tk psk hget
        cases k with
        | zero =>
          simp at hget
          obtain ⟨rfl, rfl⟩ := hget
          exact ⟨T', _, by simp, hT'⟩
        | succ k =>
          simp at hget
          obtain ⟨T'', d, h1, h2⟩ := hk k Tk psk hget
          exact ⟨T'', d, by simpa using h1, h2⟩

theorem loopInv_other {T0 T : FdTab} {ps : PipeSet} {a b : Nat} (h0 : NoPipe T0) (h : LoopInv T0 T ps a b) (fd : Nat) :
    T fd = some .other ↔ (T0 fd).isSome = true := by
  by_cases hin : ps.readPrevious = some fd ∨ ∃ r w, ps.next = some (r, w) ∧ (fd = r ∨ fd = w)
  · rw [h.fresh fd hin]
    rcases hin with hp | ⟨r, w, hn, rfl | rfl⟩
    · simp [h.start.prev fd hp]
    · simp [h.start.nextR _ w hn]
    · simp [h.start.nextW r _ hn]
  · rw [h.frame fd (fun e => hin (.inl e)) fun r w hn =>
      ⟨fun e => hin (.inr ⟨r, w, hn, .inl e⟩), fun e => hin (.inr ⟨r, w, hn, .inr e⟩)⟩]
    refine ⟨fun e => by simp [e], fun hs => ?_⟩
    obtain ⟨res, hres⟩ := Option.isSome_iff_exists.mp hs
    rw [hres, h0 fd res hres]

theorem kind_eq {x : Option Res} {r : Res} : x.map Res.kind = some r.kind ↔ x = some r := by
  cases x with
  | none => simp
  | some r' => cases r <;> cases r' <;> simp [Res.kind]

theorem stageFd_rd {o : Nat → Bool} {n k fd j : Nat} :
    Spec.stageFd o n k fd = some (.rd j) ↔ fd = 0 ∧ k = j + 1 := by
  unfold Spec.stageFd
  split
  · rename_i h; simp only [Option.some.injEq, Spec.FdKind.rd.injEq]; omega
  · rename_i h
    split
    · rename_i h1; simp; omega
    · split <;> simp <;> omega

theorem stageFd_wr {o : Nat → Bool} {n k fd j : Nat} :
    Spec.stageFd o n k fd = some (.wr j) ↔ fd = 1 ∧ k = j ∧ j + 1 < n := by
  unfold Spec.stageFd
  split
  · simp; omega
  · split
    · rename_i h; simp only [Option.some.injEq, Spec.FdKind.wr.injEq]; omega
    · split <;> simp <;> omega

theorem Below.mono {m m' : Nat} {T : FdTab} (h : Below m T) (hm : m ≤ m') : Below m' T :=
  fun fd hfd => h fd (by omega)

theorem Below.closeIgn {m : Nat} {T : FdTab} (h : Below m T) (fd : Nat) : Below m (T.closeIgn fd) := by
  intro k hk
  simp only [FdTab.closeIgn]
  split
  · rfl
  · exact h k hk

theorem lowestFreeFrom_spec (T : FdTab) (fuel d k : Nat) (h1 : d ≤ k) (h2 : k < d + fuel) (hk : T k = none) :
    T (lowestFreeFrom T fuel d) = none ∧ lowestFreeFrom T fuel d ≤ k := by
  obtain ⟨g1, _, g3⟩ := Common.lowest_le (fun d => (T d).isNone) (lowestFreeFrom T) (fun _ => rfl) (fun _ _ => rfl)
    h1 h2 (by rw [hk]; rfl)
  exact ⟨Option.isNone_iff_eq_none.1 g1, g3⟩

theorem lowestFree_spec {b m : Nat} {T : FdTab} (h : Below m T) (hm : m < b) :
    T (lowestFree b T) = none ∧ lowestFree b T ≤ m :=
  lowestFreeFrom_spec T b 0 m (by omega) (by omega) (h m (Nat.le_refl m))

theorem pipe_ok {b m : Nat} {T2 : FdTab} (j : Nat) (hb2 : Below m T2) (hm : m + 2 ≤ b) :
    ∃ T3, T2.pipe j ((Alloc.lowest b).pipeR j T2)
        ((Alloc.lowest b).pipeW j (fun k => if k = (Alloc.lowest b).pipeR j T2 then some (.rd j) else T2 k)) = some T3 ∧
      Below (m + 2) T3 := by
  have hspec : T2 ((Alloc.lowest b).pipeR j T2) = none ∧ (Alloc.lowest b).pipeR j T2 ≤ m :=
    lowestFree_spec hb2 (by omega : m < b)
  obtain ⟨hr, hrm⟩ := hspec
  generalize (Alloc.lowest b).pipeR j T2 = r at hr hrm
  have hb3 : Below (m + 1) (fun k => if k = r then some (Res.rd j) else T2 k) := by
    intro k hk
    have : k ≠ r := by omega
    simp only [this, if_false]
    exact hb2 k (by omega)
  have hspec2 : (fun k => if k = r then some (Res.rd j) else T2 k)
        ((Alloc.lowest b).pipeW j (fun k => if k = r then some (Res.rd j) else T2 k)) = none ∧
      (Alloc.lowest b).pipeW j (fun k => if k = r then some (Res.rd j) else T2 k) ≤ m + 1 :=
    lowestFree_spec hb3 (by omega : m + 1 < b)
  obtain ⟨hw, hwm⟩ := hspec2
  generalize (Alloc.lowest b).pipeW j (fun k => if k = r then some (Res.rd j) else T2 k) = w at hw hwm
  have hwr : w ≠ r := by
    intro e; subst e; simp at hw
  simp only [hwr, if_false] at hw
  have hcond : (T2 r).isNone = true ∧ (T2 w).isNone = true ∧ r ≠ w := ⟨by simp [hr], by simp [hw], Ne.symm hwr⟩
  rw [FdTab.pipe, if_pos hcond]
  refine ⟨_, rfl, ?_⟩
  intro k hk
  have h1 : k ≠ r := by omega
  have h2 : k ≠ w := by omega
  simp only [h1, h2, if_false]
  exact hb2 k (by omega)

theorem shiftClose_below {m : Nat} {T : FdTab} (ps : PipeSet) (hb : Below m T) : Below m (shiftClose T ps) := by
  intro k hk
  rw [shiftClose_apply]
  split
  · rfl
  · exact hb k hk

theorem shift_ok {b m : Nat} {T : FdTab} (ps : PipeSet) (hn : Bool) (j : Nat) (hb : Below m T) (hm : m + 2 ≤ b) :
    ∃ T1 ps1, shift (Alloc.lowest b) T ps hn j = some (T1, ps1) ∧ Below (m + 2) T1 := by
  have hb2 := shiftClose_below ps hb
  unfold shift
  cases hn with
  | false => exact ⟨_, _, rfl, hb2.mono (by omega)⟩
  | true =>
    obtain ⟨T3, h3, hb3⟩ := pipe_ok (b := b) j hb2 hm
    simp only [if_true]
    rw [h3]
    exact ⟨T3, _, rfl, hb3⟩

theorem forkLoop_ok {b : Nat} : ∀ (rem i m : Nat) (T : FdTab) (ps : PipeSet), Below m T → m + 2 * (rem + 1) ≤ b →
    ∃ cs Tf psf, forkLoop (Alloc.lowest b) i rem T ps = some (cs, Tf, psf) ∧ ∀ c ∈ cs, Below (m + 2 * rem) c.1 := by
  intro rem
  induction rem with
  | zero =>
    intro i m T ps hb hm
    obtain ⟨T1, ps1, hs, _⟩ := shift_ok (b := b) ps false i hb (by omega)
    exact ⟨[], T1, ps1, by simp [forkLoop, hs], by simp⟩
  | succ rem ih =>
    intro i m T ps hb hm
    obtain ⟨T1, ps1, hs, hb1⟩ := shift_ok (b := b) ps (decide (0 < rem)) i hb (by omega)
    obtain ⟨cs, Tf, psf, hrec, hcs⟩ := ih (i + 1) (m + 2) T1 ps1 hb1 (by omega)
    refine ⟨(T1, ps1) :: cs, Tf, psf, by simp [forkLoop, hs, hrec], ?_⟩
    intro c hc
    simp at hc
    rcases hc with rfl | hc
    · exact hb1.mono (by omega)
    · exact (hcs c hc).mono (by omega)

theorem childTables_ok {b M : Nat} (hM : M < b) : ∀ (cs : List (FdTab × PipeSet)) (i : Nat),
    (∀ c ∈ cs, Below M c.1 ∧ ∃ jin jout, ChildStart c.1 c.2 jin jout) →
    ∃ ts, childTables (Alloc.lowest b) i cs = some ts := by
  intro cs
  induction cs with
  | nil => intro i _; exact ⟨[], rfl⟩
  | cons c rest ih =>
    intro i h
    obtain ⟨T, ps⟩ := c
    have hc0 : Below M T ∧ ∃ jin jout, ChildStart T ps jin jout := h (T, ps) (by simp)
    obtain ⟨hb, jin, jout, hcs⟩ := hc0
    obtain ⟨ts, hts⟩ := ih (i + 1) (fun c hc => h c (by simp [hc]))
    have hb1 : Below M (dupTable T ps) := by
      unfold dupTable
      split
      · exact hb.closeIgn _
      · exact hb
    have hspec : dupTable T ps ((Alloc.lowest b).dupD i (dupTable T ps)) = none ∧
        (Alloc.lowest b).dupD i (dupTable T ps) ≤ M := lowestFree_spec hb1 hM
    obtain ⟨hd, _⟩ := hspec
    simp only [childTables]
    generalize (Alloc.lowest b).dupD i (dupTable T ps) = d at hd ⊢
    obtain ⟨T', hT', _⟩ := child_setup_spec hcs (dupOk_of_free hcs hd)
    exact ⟨T' :: ts, by rw [hT', hts]⟩

end YashModel.Proc
