/-
  C13 — the termination measure of the pipeline model (every byte is charged once for every position — stage buffer,
  pipe, stage buffer, … — it has not yet passed, every live stage once), the runs of the stages under an arbitrary
  scheduler (`PSteps`), and the executable scheduler `prun`.
-/
import YashModel.Proc.StageStep
import YashModel.Common.Loop
namespace YashModel.Proc
open YashModel.Run (Loop)

def aliveBit (st : Stage) : Nat := if st.exit.isNone then 1 else 0

/-- sum over all positions of the bytes at or before that position (`acc` = bytes before the list),
    plus the number of live stages -/
def pmeasure (acc : Nat) : List Stage → List Pipe → Nat
  | [], _ => 0
  | st :: ts, [] =>
    (acc + internal st.prog) + aliveBit st + pmeasure (acc + internal st.prog) ts []
  | st :: ts, p :: pt =>
    (acc + internal st.prog) + (acc + internal st.prog + p.content) + aliveBit st +
      pmeasure (acc + internal st.prog + p.content) ts pt

def pmeas (s : PSys) : Nat := pmeasure 0 s.stages s.pipes

/-- `PSteps c s t`: some scheduler leads from `s` to `t` (any finite sequence of steps of stages) -/
inductive PSteps (c : PCfg) : PSys → PSys → Prop where
  | refl (s : PSys) : PSteps c s s
  | tail {s t u : PSys} (i : Nat) : PSteps c s t → stageStep c t i = some u → PSteps c s u

inductive PStepsN (c : PCfg) : Nat → PSys → PSys → Prop where
  | refl (s : PSys) : PStepsN c 0 s s
  | tail {n : Nat} {s t u : PSys} (i : Nat) : PStepsN c n s t → stageStep c t i = some u →
      PStepsN c (n + 1) s u

theorem pm_mono : ∀ (ts : List Stage) (ps : List Pipe) (a b : Nat), a ≤ b →
    pmeasure a ts ps ≤ pmeasure b ts ps := by
  intro ts
  induction ts with
  | nil => intro ps a b _; simp [pmeasure]
  | cons st tt ih =>
    intro ps a b hab
    cases ps with
    | nil =>
      have := ih [] (a + internal st.prog) (b + internal st.prog) (by omega)
      simp only [pmeasure]; omega
    | cons p pt =>
      have := ih pt (a + internal st.prog + p.content) (b + internal st.prog + p.content) (by omega)
      simp only [pmeasure]; omega

theorem pm_head (st st' : Stage) (tt : List Stage) (ps : List Pipe) (a a' : Nat)
    (hacc : a' + internal st'.prog ≤ a + internal st.prog) (hbit : aliveBit st' ≤ aliveBit st) :
    pmeasure a' (st' :: tt) ps + (a + internal st.prog - (a' + internal st'.prog)) +
      (aliveBit st - aliveBit st') ≤ pmeasure a (st :: tt) ps := by
  cases ps with
  | nil =>
    have := pm_mono tt [] (a' + internal st'.prog) (a + internal st.prog) hacc
    simp only [pmeasure]; omega
  | cons p pt =>
    have := pm_mono tt pt (a' + internal st'.prog + p.content) (a + internal st.prog + p.content) (by omega)
    simp only [pmeasure]; omega

theorem pm_stage : ∀ (ts : List Stage) (ps : List Pipe) (acc i : Nat) (st st' : Stage),
    ts[i]? = some st → internal st'.prog ≤ internal st.prog → aliveBit st' ≤ aliveBit st →
    pmeasure acc (ts.set i st') ps + (internal st.prog - internal st'.prog) +
      (aliveBit st - aliveBit st') ≤ pmeasure acc ts ps := by
  intro ts
  induction ts with
  | nil => intro ps acc i st st' h; simp at h
  | cons s0 tt ih =>
    intro ps acc i st st' h hint hbit
    cases i with
    | zero =>
      simp at h; subst h
      have := pm_head s0 st' tt ps acc acc (by omega) hbit
      simp only [List.set_cons_zero]; omega
    | succ i =>
      have h' : tt[i]? = some st := by simpa using h
      cases ps with
      | nil =>
        have := ih [] (acc + internal s0.prog) i st st' h' hint hbit
        simp only [List.set_cons_succ, pmeasure]; omega
      | cons p pt =>
        have := ih pt (acc + internal s0.prog + p.content) i st st' h' hint hbit
        simp only [List.set_cons_succ, pmeasure]; omega

theorem pm_write : ∀ (ts : List Stage) (ps : List Pipe) (acc i m : Nat) (st st' : Stage) (p p' : Pipe),
    ts[i]? = some st → ps[i]? = some p → internal st'.prog + m = internal st.prog →
    aliveBit st' = aliveBit st → p'.content = p.content + m →
    pmeasure acc (ts.set i st') (ps.set i p') + m = pmeasure acc ts ps := by
  intro ts
  induction ts with
  | nil => intro ps acc i m st st' p p' h; simp at h
  | cons s0 tt ih =>
    intro ps acc i m st st' p p' h hp hint hbit hc
    cases ps with
    | nil => simp at hp
    | cons p0 pt =>
      cases i with
      | zero =>
        simp at h hp; subst h; subst hp
        simp only [List.set_cons_zero, pmeasure, hbit, hc]
        have e : acc + internal st'.prog + (p0.content + m) = acc + internal s0.prog + p0.content := by omega
        rw [e]; omega
      | succ i =>
        have h' : tt[i]? = some st := by simpa using h
        have hp' : pt[i]? = some p := by simpa using hp
        have := ih pt (acc + internal s0.prog + p0.content) i m st st' p p' h' hp' hint hbit hc
        simp only [List.set_cons_succ, pmeasure]; omega

theorem pm_read : ∀ (ts : List Stage) (ps : List Pipe) (acc j m : Nat) (st st' : Stage) (p p' : Pipe),
    ts[j + 1]? = some st → ps[j]? = some p → internal st'.prog ≤ internal st.prog + m →
    aliveBit st' = aliveBit st → p'.content + m = p.content →
    pmeasure acc (ts.set (j + 1) st') (ps.set j p') + m ≤ pmeasure acc ts ps := by
  intro ts
  induction ts with
  | nil => intro ps acc j m st st' p p' h; simp at h
  | cons s0 tt ih =>
    intro ps acc j m st st' p p' h hp hint hbit hc
    cases ps with
    | nil => simp at hp
    | cons p0 pt =>
      cases j with
      | zero =>
        simp at hp; subst hp
        cases tt with
        | nil => simp at h
        | cons s1 t2 =>
          simp at h; subst h
          have := pm_head s1 st' t2 pt (acc + internal s0.prog + p0.content)
            (acc + internal s0.prog + p'.content) (by omega) (by omega)
          simp only [List.set_cons_succ, List.set_cons_zero, pmeasure] at this ⊢
          omega
      | succ j =>
        have h' : tt[j + 1]? = some st := by simpa using h
        have hp' : pt[j]? = some p := by simpa using hp
        have := ih pt (acc + internal s0.prog + p0.content) j m st st' p p' h' hp' hint hbit hc
        simp only [List.set_cons_succ, pmeasure]; omega

/-- every system call of every stage strictly decreases `pmeas` -/
theorem pipeline_step_decreases {c : PCfg} {s s' : PSys} {i : Nat} (hv : c.Valid)
    (hs : stageStep c s i = some s') : pmeas s' < pmeas s := by
  obtain ⟨st, hst, hnone, h1 | h2 | h3⟩ := stageStep_kinds hs
  all_goals have hbit1 : aliveBit st = 1 := by simp [aliveBit, hnone]
  · obtain ⟨e, p, rfl, hp, _⟩ := h1
    have := pm_stage s.stages s.pipes 0 i st { prog := p, exit := some e } hst hp (Nat.zero_le _)
    rw [hbit1, show aliveBit ({ prog := p, exit := some e } : Stage) = 0 from rfl] at this
    simp only [pmeas, exitStage]
    omega
  · obtain ⟨n, m, p, rfl, hw, hp, _⟩ := h2
    have hm : 1 ≤ m := (wrote_fits hw).2.2 (Nat.succ_le_succ (Nat.zero_le n))
    have h1 : aliveBit ({ prog := p } : Stage) = 1 := rfl
    cases hpipe : s.pipes[i]? with
    | none =>
      -- the last stage: its output is not a pipe
      have := pm_stage s.stages s.pipes 0 i st { prog := p } hst (by simp only; omega) (by rw [h1, hbit1]; omega)
      have e : addContent (setProg s i p) i m = setProg s i p := by
        unfold addContent; simp [setProg, hpipe]
      rw [e]
      simp only [pmeas, setProg]
      simp only at this
      omega
    | some q =>
      have := pm_write s.stages s.pipes 0 i m st { prog := p } q
        { q with content := q.content + m } hst hpipe hp (by rw [h1, hbit1]) rfl
      rw [addContent_eq hpipe]
      simp only [pmeas]
      omega
  · obtain ⟨want, m, p, rfl, hr, hwant, hp, _⟩ := h3
    have hw : 1 ≤ want := hwant.elim (fun e => e ▸ hv.2.2) id
    obtain ⟨j, q, hij, hq, hmq, hm1, _⟩ := got_fits hr hw
    subst hij
    have := pm_read s.stages s.pipes 0 j m st { prog := p } q
      { q with content := q.content - m } hst hq hp hbit1.symm (by simp only; omega)
    rw [Nat.add_sub_cancel, subContent_eq hq]
    simp only [pmeas]
    omega

theorem PSteps.head {c : PCfg} {s t u : PSys} (i : Nat) (hs : stageStep c s i = some t)
    (h : PSteps c t u) : PSteps c s u := by
  induction h with
  | refl => exact .tail i (.refl s) hs
  | tail j _ hj ih => exact .tail j ih hj

theorem hyg_steps {c : PCfg} {s t : PSys} (h : PSteps c s t) (hh : Hyg c s) : Hyg c t := by
  induction h with
  | refl => exact hh
  | tail i _ hs ih => exact hyg_step ih hs

theorem done_exit {s : PSys} (hd : s.done = true) {i : Nat} {st : Stage} (hst : s.stages[i]? = some st) :
    ∃ e, st.exit = some e :=
  Option.isSome_iff_exists.mp (List.all_eq_true.mp hd st (List.mem_of_getElem? hst))

theorem not_done_alive {s : PSys} (h : s.done = false) : ∃ k, s.alive k = true := by
  unfold PSys.done at h
  rw [List.all_eq_false] at h
  obtain ⟨st, hmem, hst⟩ := h
  obtain ⟨k, hk⟩ := List.mem_iff_getElem?.mp hmem
  refine ⟨k, ?_⟩
  unfold PSys.alive
  rw [hk]
  cases he : st.exit <;> simp_all

/-- a stage that can step is in the stage list -/
theorem mem_penabled {c : PCfg} {s : PSys} {i : Nat} : i ∈ penabled c s ↔ (stageStep c s i).isSome = true := by
  unfold penabled
  rw [List.mem_filter, and_iff_right_iff_imp, List.mem_range]
  intro hs
  obtain ⟨s', hs'⟩ := Option.isSome_iff_exists.mp hs
  obtain ⟨st, hst, _⟩ := step_live hs'
  exact lt_of_get hst

theorem pickStage_mem (choices : List Nat) (i : Nat) (is : List Nat) : pickStage choices i is ∈ i :: is := by
  unfold pickStage
  cases choices with
  | nil => simp
  | cons k t => exact getD_mod_mem i is k

theorem prun_loop (c : PCfg) :
    Loop (prun c) (fun s t => ∃ i, stageStep c s i = some t) (fun s => ∀ i, stageStep c s i = none) where
  zero _ _ := rfl
  succ n choices s := by
    cases he : penabled c s with
    | nil =>
      refine .inl ⟨by simp only [prun, he], fun i => ?_⟩
      have := mt (mem_penabled (c := c) (s := s) (i := i)).mpr (by rw [he]; simp)
      simpa using this
    | cons i is =>
      obtain ⟨s', hs'⟩ := Option.isSome_iff_exists.mp (mem_penabled.mp (he ▸ pickStage_mem choices i is))
      exact .inr ⟨choices.tail, s', ⟨_, hs'⟩, by simp only [prun, he, hs']⟩

theorem prun_steps (c : PCfg) (fuel : Nat) (choices : List Nat) (s : PSys) : PSteps c s (prun c fuel choices s) :=
  (prun_loop c).keeps (P := PSteps c s) (fun h ⟨i, hs⟩ => .tail i h hs) fuel choices s (.refl s)

theorem prun_done_of_hyg {c : PCfg} (hv : c.Valid) (fuel : Nat) (choices : List Nat) (s : PSys)
    (hh : Hyg c s) (hm : pmeas s ≤ fuel) : (prun c fuel choices s).done = true := by
  obtain ⟨hh', hstuck⟩ := (prun_loop c).stops_noMove pmeas (fun hh ⟨_, hs⟩ => hyg_step hh hs)
    (fun _ ⟨_, hs⟩ => pipeline_step_decreases hv hs)
    (fun s h i => Option.eq_none_iff_forall_ne_some.2 fun t hs => h t ⟨i, hs⟩) fuel choices s hh hm
  cases hd : (prun c fuel choices s).done with
  | true => rfl
  | false =>
    obtain ⟨k, hk⟩ := not_done_alive hd
    obtain ⟨i, t, hs⟩ := pipeline_not_stuck hv hh' hk
    rw [hstuck i] at hs; cases hs

end YashModel.Proc
