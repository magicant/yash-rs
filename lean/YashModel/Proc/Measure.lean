/-
  C13 — definitions over `Model.lean` that come before every lemma because the model file `WaitTrap.lean` needs the
  termination measure (it builds `tmeasure`, and with it the length of a turn of the shell, on it).
-/
import YashModel.Proc.Model
namespace YashModel.Proc

def Target.matches : Target → Nat → Prop
  | .any, _ => True
  | .pid k, i => i = k

instance (t : Target) (i : Nat) : Decidable (t.matches i) := by
  cases t <;> simp only [Target.matches] <;> infer_instance

/-- the child has terminated and its state has been handed out by `wait` -/
def reaped (cs : List Child) (i : Nat) : Bool :=
  match cs[i]? with
  | some c => !c.state.isAlive && !c.changed
  | none => false

/-- how often the final state of child `i` has been handed out by `wait` -/
def logCount (log : List (Nat × Result)) (i : Nat) : Nat :=
  log.countP (fun e => e.1 == i)

/-- the true statuses of the children, fixed from the start: no step changes them (`fin_steps`) -/
def fins (s : Sys) : List Result := s.children.map (·.state.fin)

def childW (c : Child) : Nat :=
  (match c.state with
   | .running f _ => 6 * (f + 1)
   | .halted _ => 0) + (if c.changed then 2 else 0)

def childrenW : List Child → Nat
  | [] => 0
  | c :: t => childW c + childrenW t

def pcW : Pc → Nat
  | .enable => 3
  | .poll => 2
  | .await => 1
  | .reap => 1
  | .done => 0

/-- Strictly decreases on every step of every process (`step_decreases`).  The weights: an internal step of a child
    costs it 6; its exit trades the last 6 for the flag (2) and, at most, a pending SIGCHLD (2): at least 2 less
    (`measure_child_pending`); a wake-up trades the pending 2 for `await → poll` (+1); handing out a state trades the flag 2
    for at most `poll → enable` (+1); a request (6) pays for its own `done → enable` (3).  `tmeasure` (`WaitTrap.lean`) is
    twice this plus 3 per pending trapped signal and 4 per sender: an exit that also notes SIGCHLD among the trapped
    signals (+3) is paid by its 2·2, a sender's signal (+3) by the sender (4). -/
def measure (s : Sys) : Nat :=
  childrenW s.children + (if s.pending then 2 else 0) + pcW s.pc + 6 * s.todo.length

end YashModel.Proc
