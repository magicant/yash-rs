/-
  C13 — the executable scheduler `run` (what the driver computes) makes steps of the system only, and is a complete
  run: with enough fuel it ends in a final state, whatever the choices.
-/
import YashModel.Proc.Invariant
import YashModel.Common.Loop
namespace YashModel.Proc
open YashModel.Run (Loop)

/-- a child that can step is in the table -/
theorem mem_enabled {s : Sys} {l : Label} : l ∈ enabled s ↔ (step s l).isSome = true := by
  unfold enabled
  rw [List.mem_filter, and_iff_right_iff_imp]
  intro hs
  cases l with
  | parent => simp
  | child i =>
    obtain ⟨s', hs'⟩ := Option.isSome_iff_exists.mp hs
    obtain ⟨_, _, hc, _⟩ := childStep_spec (show childStep s i = some s' from hs')
    simp only [List.mem_cons, List.mem_map, List.mem_range]
    exact .inr ⟨i, lt_of_get hc, rfl⟩

theorem pickLabel_mem (choices : List Nat) (l : Label) (ls : List Label) :
    pickLabel choices l ls ∈ l :: ls := by
  unfold pickLabel
  cases choices with
  | nil => simp
  | cons c t => exact getD_mod_mem l ls c

theorem run_loop : Loop run (fun s t => ∃ l, step s l = some t) (fun s => ∀ l, step s l = none) where
  zero _ _ := rfl
  succ n choices s := by
    cases he : enabled s with
    | nil =>
      refine .inl ⟨by simp only [run, he], fun l => ?_⟩
      have := mt (mem_enabled (s := s) (l := l)).mpr (by rw [he]; simp)
      simpa using this
    | cons l ls =>
      obtain ⟨s', hs'⟩ := Option.isSome_iff_exists.mp (mem_enabled.mp (he ▸ pickLabel_mem choices l ls))
      exact .inr ⟨choices.tail, s', ⟨_, hs'⟩, by simp only [run, he, hs']⟩

theorem run_steps (fuel : Nat) (choices : List Nat) (s : Sys) : Steps s (run fuel choices s) :=
  run_loop.keeps (P := Steps s) (fun h ⟨l, hs⟩ => .tail l h hs) fuel choices s (.refl s)

theorem run_final_of_inv (fuel : Nat) (choices : List Nat) (s : Sys) (hi : Inv s) (hm : measure s ≤ fuel) :
    (run fuel choices s).final = true := by
  obtain ⟨hi', hstuck⟩ := run_loop.stops_noMove measure (fun hi ⟨l, hs⟩ => inv_step l hi hs)
    (fun _ ⟨l, hs⟩ => step_decreases l hs)
    (fun s h l => Option.eq_none_iff_forall_ne_some.2 fun t hs => h t ⟨l, hs⟩) fuel choices s hi hm
  cases hf : (run fuel choices s).final with
  | true => rfl
  | false =>
    obtain ⟨l, t, hs⟩ := not_stuck hi' hf
    rw [hstuck l] at hs; cases hs

end YashModel.Proc
