/-
  C20 — Spec: the separated spelling of a `set` vector WITHOUT the side condition "`portable` is never named".  `separateM`
  follows the `portable` state the way set/syntax.rs does (an argument `-o portable` / `--portable` turns it on for the
  arguments behind it) and rewrites each argument as far as the state it is read in allows; `separateMsh` does the same for
  the shell's command line.  The driver evaluates them on every case; `SeparateModeLemmas.lean` proves that the loops do not
  tell a vector from this spelling.
-/
import YashModel.Args.BespokeSpec
namespace YashModel.Args.Bespoke

/-- `splitCluster` in a given `portable` state: while it is on (`full = false`) an attached name stays attached
    (`-eoNAME` → `-e -oNAME`: writing it `-o NAME` would turn a rejected argument into an accepted one) -/
def splitClusterM (full : Bool) (sign : Char) : Str → List Str × Bool
  | [] => ([], false)
  | c :: rest =>
    if c = 'o' then
      (if rest.isEmpty then ([[sign, 'o']], true)
       else if full then ([[sign, 'o'], rest], false) else ([sign :: 'o' :: rest], false))
    else
      let (l, p) := splitClusterM full sign rest
      ([sign, c] :: l, p)

/-- the `portable` state after an argument, as the code computes it -/
def stateAfterShort (nm : Names) (negate : Bool) (next : Option Str) (p : Bool) (cs : Str) : Bool :=
  match setShortLoop nm negate next p cs with
  | .ok (_, _, p') => p'
  | .error _ => p

def stateAfterName (nm : Names) (negate : Bool) (name : Str) : Bool :=
  match nm.parseLong name with
  | .ok opt st => if opt = portableOpt then (if negate then !st else st) else false
  | _ => false

/-- The separated spelling of a `set` vector, following the `portable` state the way the code does: while it is
    off, everything is rewritten (`separateSO true`); from the argument that turns it on, only groups are split
    into letters — attached names and long options stay as they are (they are rejected there by design). -/
def separateM (nm : Names) : Bool → List Str → List Str
  | _, [] => []
  | p, a :: rest =>
    match shortSign a with
    | some negate =>
      let cs := a.drop 1
      let (parts, pending) :=
        if cs.contains (signChar negate) then ([a], (splitClusterM (!p) (signChar negate) cs).2)
        else splitClusterM (!p) (signChar negate) cs
      let p' := stateAfterShort nm negate rest.head? p cs
      if pending then
        match rest with
        | [] => parts
        | x :: rest' => parts ++ x :: separateM nm p' rest'
      else parts ++ separateM nm p' rest
    | none =>
      if p then a :: rest
      else
        match longForm a with
        | some (negate, name) => [signChar negate, 'o'] :: name :: separateM nm (stateAfterName nm negate name) rest
        | none => a :: rest

def stateAfterShortSh (nm : Names) (negate : Bool) (next : Option Str) (p : Bool) (cs : Str) : Bool :=
  match shShortLoop nm negate next p cs with
  | .ok ((_, _, p'), _) => p'
  | .error _ => p

/-- the separated spelling of the shell's command line, following the `portable` state as the code does (long options
    are never rewritten there: `separateSO false`) -/
def separateMsh (nm : Names) : Bool → List Str → List Str
  | _, [] => []
  | p, a :: rest =>
    match shortSign a with
    | some negate =>
      let cs := a.drop 1
      let (parts, pending) :=
        if cs.contains (signChar negate) then ([a], (splitClusterM (!p) (signChar negate) cs).2)
        else splitClusterM (!p) (signChar negate) cs
      let p' := stateAfterShortSh nm negate rest.head? p cs
      if pending then
        match rest with
        | [] => parts
        | x :: rest' => parts ++ x :: separateMsh nm p' rest'
      else parts ++ separateMsh nm p' rest
    | none => a :: rest

end YashModel.Args.Bespoke
