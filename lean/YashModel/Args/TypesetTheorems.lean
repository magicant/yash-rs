/-
  C20 — property theorems and non-vacuity examples for the bespoke parser of the `typeset` family
  (yash-builtin/src/typeset/syntax.rs `try_parse_short` / `try_parse_long` / `parse` / `interpret`; used by
  `typeset`, `export`, `readonly`).

  `optionsOnly specs ln pre = some os` (TypesetSpec.lean): `pre` consists of faultless option arguments only —
  groups `-…` / `+…` all of whose letters are options (cancellable ones behind `+`) and, when long names are on,
  long options denoting exactly one (cancellable) option; no `--`, no operand.
-/
import YashModel.Args.TypesetLemmas
import YashModel.Args.Bespoke
import YashModel.Generated.ArgSpecs
namespace YashModel.Args.Typeset

theorem parseLoop_group {specs : List TSpec} {ln : Bool} {a : Str} {negate : Bool} {letters : Str}
    (h : shape a = .group negate letters) (rest : List Str) :
    parseLoop specs ln (a :: rest) =
      match shortLoop specs negate letters with
      | .error e => .error e
      | .ok os => prepend os (parseLoop specs ln rest) := by
  rw [parseLoop_cons, h]; rfl

theorem parseLoop_long {specs : List TSpec} {ln : Bool} {a : Str} {negate : Bool} {name : Str}
    (h : shape a = .long negate name) (rest : List Str) :
    parseLoop specs ln (a :: rest) =
      match longResolve (longCandidates specs name) negate ln with
      | .error e => .error e
      | .ok o => prepend [o] (parseLoop specs ln rest) := by
  rw [parseLoop_cons, h]; rfl

/-- ★ typeset, `set` and the shell's command line examine the same arguments as option groups: the prologue of
    typeset's `try_parse_short` is the function `Bespoke.shortSign` that `shape_group_characterised` describes -/
theorem typeset_examines_groups_like_set (a : Str) : shortSign a = Bespoke.shortSign a := by
  rw [shortSign_of_shape]
  have hf := shapeForm a
  generalize shape a = sh at hf
  cases hf with
  | empty => rfl
  | lone c => simp [Bespoke.shortSign]
  | dashdash => rfl
  | long negate name h => cases negate <;> simp [Bespoke.shortSign, signChar]
  | group negate c cs h => cases negate <;> simp_all [Bespoke.shortSign, signChar]
  | plain s c cs h1 h2 => unfold Bespoke.shortSign; split <;> simp_all

/-- ★ what the code's `parse` does with the first argument is decided by its Spec shape -/
theorem typeset_parse_by_shape (specs : List TSpec) (ln : Bool) (a : Str) (rest : List Str) :
    parse specs ln (a :: rest) =
      match shape a with
      | .separator => .ok ([], rest)
      | .operand => .ok ([], a :: rest)
      | .group negate letters =>
        (match shortLoop specs negate letters with
         | .error e => .error e
         | .ok os => prepend os (parse specs ln rest))
      | .long negate name =>
        (match longResolve (longCandidates specs name) negate ln with
         | .error e => .error e
         | .ok o => prepend [o] (parse specs ln rest)) :=
  parseLoop_cons specs ln a rest

/-- ★ `--` ends option parsing: behind any options-only prefix, everything after the first `--` is an operand,
    verbatim — whatever it is (another `--`, `-f`, `++x` …).  All tables, both modes. -/
theorem typeset_dashdash_ends {specs : List TSpec} {ln : Bool} {pre : List Str} {os : List Occ}
    (h : optionsOnly specs ln pre = some os) (xs : List Str) :
    parse specs ln (pre ++ dashdash :: xs) = .ok (os, xs) := by
  unfold parse
  rw [parseLoop_after_options h]
  simp [parseLoop, prepend]

theorem typeset_second_dashdash_is_operand {specs : List TSpec} {ln : Bool} {pre : List Str} {os : List Occ}
    (h : optionsOnly specs ln pre = some os) (xs : List Str) :
    parse specs ln (pre ++ dashdash :: dashdash :: xs) = .ok (os, dashdash :: xs) :=
  typeset_dashdash_ends h (dashdash :: xs)

/-- ★ the first operand ends option parsing, and stays -/
theorem typeset_first_operand_ends {specs : List TSpec} {ln : Bool} {pre : List Str} {os : List Occ}
    (h : optionsOnly specs ln pre = some os) (x : Str) (hx : shape x = .operand) (xs : List Str) :
    parse specs ln (pre ++ x :: xs) = .ok (os, x :: xs) := by
  unfold parse
  rw [parseLoop_after_options h, parseLoop_cons, hx]
  simp [prepend]

/-- ★ grouped = separate, at any argument position, for every table and both modes: `-c<cs>` ≡ `-c -<cs>`
    (`+c<cs>` ≡ `+c +<cs>`) when `c` and the first of `cs` are not the sign itself -/
theorem typeset_group_eq_separate {specs : List TSpec} {ln : Bool} {pre : List Str} {os : List Occ}
    (h : optionsOnly specs ln pre = some os) (negate : Bool) (c : Char) (cs : Str) (xs : List Str)
    (hc : c ≠ signChar negate) (hcs : cs ≠ []) (hhd : cs.head? ≠ some (signChar negate)) :
    parse specs ln (pre ++ (signChar negate :: c :: cs) :: xs) =
      parse specs ln (pre ++ [signChar negate, c] :: (signChar negate :: cs) :: xs) := by
  unfold parse
  rw [parseLoop_after_options h, parseLoop_after_options h]
  congr 1
  obtain ⟨d, ds, rfl⟩ := List.exists_cons_of_ne_nil hcs
  have hd : d ≠ signChar negate := by simpa using hhd
  have s1 := shape_group_cons negate c (d :: ds) hc
  have s2 := shape_group_cons negate c [] hc
  have s3 := shape_group_cons negate d ds hd
  rw [parseLoop_group s1, parseLoop_group s2]
  have := shortLoop_append specs negate [c] (d :: ds)
  simp only [List.singleton_append] at this
  rw [this]
  cases h1 : shortLoop specs negate [c] with
  | error e => rfl
  | ok o1 =>
    simp only []
    rw [parseLoop_group s3]
    cases h2 : shortLoop specs negate (d :: ds) with
    | error e => rfl
    | ok o2 => simp only []; rw [prepend_append]

/-- ★ a long option means its letter: if the (possibly abbreviated) name denotes exactly one option (one that may
    be cancelled, behind `++`), then `--name` ≡ `-c` and `++name` ≡ `+c` — exactly, the occurrences carry no
    spelling.  Well-formed tables, long names on. -/
theorem typeset_long_eq_short {specs : List TSpec} (wf : WellFormed specs) {pre : List Str} {os : List Occ}
    (h : optionsOnly specs true pre = some os) (negate : Bool) (name : Str) (s : TSpec)
    (hd : denotes specs negate name = some s) (hname : negate = false → name ≠ []) (xs : List Str) :
    parse specs true (pre ++ (signChar negate :: signChar negate :: name) :: xs) =
      parse specs true (pre ++ [signChar negate, s.short] :: xs) := by
  unfold parse
  rw [parseLoop_after_options h, parseLoop_after_options h]
  congr 1
  have hshape := shape_long_cons negate name hname
  have hoa : optionArg specs true (signChar negate :: signChar negate :: name) = some [{ spec := s, state := !negate }] := by
    simp [optionArg, hshape, hd]
  have hs := (singles_spec wf hoa).1
  have hso : singlesOf specs (signChar negate :: signChar negate :: name) = [[signChar negate, s.short]] := by
    simp [singlesOf, hshape, hd]
  rw [hso] at hs
  rw [parseLoop_optionArg hoa]
  exact (parseLoop_after_options hs xs).symm

/-- ★ one theorem for every mixture of the rewrites anywhere in the vector: the canonical spelling (every group
    split into letters, every long option that denotes one option replaced by its letter) parses alike -/
theorem typeset_canonical_same_parse {specs : List TSpec} (wf : WellFormed specs) (ln : Bool) (args : List Str) :
    parse specs ln (canon specs ln args) = parse specs ln args := by
  unfold parse
  induction args with
  | nil => simp [canon]
  | cons a rest ih =>
    rw [canon_cons]
    cases ho : optionArg specs ln a with
    | none => simp
    | some os =>
      simp only [Option.isSome_some, if_true]
      rw [parseLoop_after_options (singles_spec wf ho).1, ih, parseLoop_optionArg ho]

/-- ★ equivalent spellings (same canonical spelling) of an invocation come to the same command or the same error —
    through `interpret` as well, in every `portable` state -/
theorem typeset_equivalent_spellings_same_outcome {specs : List TSpec} (wf : WellFormed specs) (ln portable : Bool)
    (a b : List Str) (h : canon specs ln a = canon specs ln b) : run specs ln portable a = run specs ln portable b := by
  unfold run
  rw [← typeset_canonical_same_parse wf ln a, ← typeset_canonical_same_parse wf ln b, h]

/-- the canonical spelling of an accepted vector is canonical: single-letter options, then `--` / an operand -/
theorem typeset_canon_is_canonical {specs : List TSpec} (wf : WellFormed specs) (ln : Bool) (args : List Str)
    {r : List Occ × List Str} (h : parse specs ln args = .ok r) : isCanonical (canon specs ln args) = true := by
  unfold parse at h
  induction args generalizing r with
  | nil => simp [canon, isCanonical]
  | cons a rest ih =>
    rw [canon_cons]
    cases ho : optionArg specs ln a with
    | some os =>
      simp only [Option.isSome_some, if_true]
      rw [isCanonical_singles _ (singles_spec wf ho).2]
      rw [parseLoop_optionArg ho] at h
      obtain ⟨q', hq⟩ := prepend_ok h
      exact ih hq
    | none =>
      simp only [Option.isSome_none]
      cases hd : argDefect specs ln a with
      | some e => rw [parseLoop_defect hd] at h; simp at h
      | none =>
        rcases optionArg_of_no_defect hd with ⟨o1, h1⟩ | hsep | hop
        · rw [ho] at h1; simp at h1
        · have : a = dashdash := (shape_separator_iff a).1 hsep
          subst this
          simp [isCanonical, isSingle, dashdash]
        · have hns : isSingle a = false := by
            cases hsg : isSingle a with
            | false => rfl
            | true => exact absurd hop (isSingle_shape hsg).1
          simp [isCanonical, hns, hop]

/-- ☆ what the code's parser accepts, it reads as the ten-line reference reader reads the canonical spelling -/
theorem typeset_parse_is_read_of_canonical {specs : List TSpec} (wf : WellFormed specs) (ln : Bool) (args : List Str)
    {r : List Occ × List Str} (h : parse specs ln args = .ok r) : read specs (canon specs ln args) = .ok r := by
  rw [read_eq_parseLoop specs ln _ (typeset_canon_is_canonical wf ln args h)]
  exact (typeset_canonical_same_parse wf ln args).trans h

/-- ★ a long option may be abbreviated to any prefix that denotes one option: `--p` ≡ `--<full name>` (same for
    `++`), every table, both modes, any position -/
theorem typeset_long_prefix {specs : List TSpec} {ln : Bool} {pre : List Str} {os : List Occ}
    (h : optionsOnly specs ln pre = some os) (negate : Bool) (p : Str) (s : TSpec)
    (hp : longCandidates specs p = [s]) (hne : p ≠ []) (xs : List Str) :
    parse specs ln (pre ++ (signChar negate :: signChar negate :: p) :: xs) =
      parse specs ln (pre ++ (signChar negate :: signChar negate :: s.long) :: xs) := by
  have hmem : s ∈ longCandidates specs p := by rw [hp]; simp
  have hpre : p.isPrefixOf s.long = true := by
    have := (List.mem_filter.1 hmem).2; simpa [startsWith] using this
  have hlne : s.long ≠ [] := by
    intro h0; rw [h0] at hpre; cases p with
    | nil => exact hne rfl
    | cons c cs => simp at hpre
  have hfull : longCandidates specs s.long = [s] := by
    unfold longCandidates at hp ⊢
    apply filter_refine _ _ specs s hp
    · intro t ht
      simp only [startsWith] at ht ⊢
      rw [List.isPrefixOf_iff_prefix] at ht hpre ⊢
      exact hpre.trans ht
    · simp [startsWith]
  have sh : ∀ n : Str, n ≠ [] → shape (signChar negate :: signChar negate :: n) = .long negate n :=
    fun n hn => shape_long_cons negate n (fun _ => hn)
  unfold parse
  rw [parseLoop_after_options h, parseLoop_after_options h, parseLoop_long (sh p hne), parseLoop_long (sh s.long hlne), hp, hfull]

/-- ★ rejected ⇔ behind an options-only prefix stands an argument with a defect (a group with a letter that is no
    option or cannot be cancelled; a long name that denotes nothing / several options / an option that cannot be
    cancelled / is used while long names are off) — with exactly that error.  All tables, both modes. -/
theorem typeset_rejected_iff (specs : List TSpec) (ln : Bool) (args : List Str) (e : PErr) :
    parse specs ln args = .error e ↔
      ∃ pre os x post, args = pre ++ x :: post ∧ optionsOnly specs ln pre = some os ∧ argDefect specs ln x = some e := by
  unfold parse
  constructor
  · intro h
    rcases parseLoop_cases specs ln args with ⟨os, _, hp⟩ | ⟨pre, os, x, post, hargs, hpre, hx⟩
    · rw [hp] at h; simp at h
    · rcases hx with ⟨_, hp⟩ | ⟨_, hp⟩ | ⟨e', hd, hp⟩
      · rw [hp] at h; simp at h
      · rw [hp] at h; simp at h
      · rw [hp] at h; simp at h; subst h
        exact ⟨pre, os, x, post, hargs, hpre, hd⟩
  · rintro ⟨pre, os, x, post, rfl, hpre, hd⟩
    rw [parseLoop_after_options hpre, parseLoop_defect hd post]; rfl

theorem typeset_bad_letter_rejected {specs : List TSpec} {ln : Bool} {pre : List Str} {os : List Occ}
    (h : optionsOnly specs ln pre = some os) (negate : Bool) (good : Str) (c : Char) (tl : Str) (xs : List Str) {e : PErr}
    (hgood : good.all (letterOk specs negate) = true) (hdef : letterDefect specs negate c = some e)
    (hhd : (good ++ c :: tl).head? ≠ some (signChar negate)) :
    parse specs ln (pre ++ (signChar negate :: (good ++ c :: tl)) :: xs) = .error e := by
  apply (typeset_rejected_iff specs ln _ _).2
  refine ⟨pre, os, _, xs, rfl, h, ?_⟩
  simp only [argDefect, shape_group_of_head negate (by simp) hhd, List.findSome?_append,
    (all_ok_iff_no_defect specs negate good).1 hgood]
  simp [hdef]

/-- ★ a group `sign good… c tl…` whose letters `good` are faultless and whose letter `c` is no option is rejected as
    `unknownShort c`, at every argument position, whatever follows -/
theorem typeset_unknown_letter_rejected {specs : List TSpec} {ln : Bool} {pre : List Str} {os : List Occ}
    (h : optionsOnly specs ln pre = some os) (negate : Bool) (good : Str) (c : Char) (tl : Str) (xs : List Str)
    (hgood : good.all (letterOk specs negate) = true) (hc : findShort specs c = none)
    (hhd : (good ++ c :: tl).head? ≠ some (signChar negate)) :
    parse specs ln (pre ++ (signChar negate :: (good ++ c :: tl)) :: xs) = .error (.unknownShort c) :=
  typeset_bad_letter_rejected h negate good c tl xs hgood (by simp [letterDefect, hc]) hhd

/-- ★ `+…p…`: cancelling an option that is no attribute is rejected as `uncancelableShort`, same generality -/
theorem typeset_uncancelable_letter_rejected {specs : List TSpec} {ln : Bool} {pre : List Str} {os : List Occ}
    (h : optionsOnly specs ln pre = some os) (good : Str) (c : Char) (s : TSpec) (tl : Str) (xs : List Str)
    (hgood : good.all (letterOk specs true) = true) (hc : findShort specs c = some s) (hattr : s.attr = none)
    (hhd : (good ++ c :: tl).head? ≠ some '+') :
    parse specs ln (pre ++ ('+' :: (good ++ c :: tl)) :: xs) = .error (.uncancelableShort c) :=
  typeset_bad_letter_rejected h true good c tl xs hgood (by simp [letterDefect, hc, hattr]) hhd

/-- ★ long options: no candidate → `unknownLong`; two or more → `ambiguousLong`; one that `++` cannot cancel →
    `uncancelableLong` even while long names are off; one, long names off → `nonPortableLong` -/
theorem typeset_long_rejected {specs : List TSpec} {ln : Bool} {pre : List Str} {os : List Occ}
    (h : optionsOnly specs ln pre = some os) (negate : Bool) (name : Str) (hname : negate = false → name ≠ [])
    (xs : List Str) (e : PErr) (hd : longDefect specs ln negate name = some e) :
    parse specs ln (pre ++ (signChar negate :: signChar negate :: name) :: xs) = .error e := by
  apply (typeset_rejected_iff specs ln _ _).2
  refine ⟨pre, os, _, xs, rfl, h, ?_⟩
  have hshape := shape_long_cons negate name hname
  simp [argDefect, hshape, hd]

/-- ★ whatever `parse` accepts, every occurrence it delivers carries a spec OF THE TABLE (found under its letter or as
    the single candidate of a long name) — what C16's `c20_parse_feeds_builtin_model` asks of the occurrences -/
theorem typeset_occurrences_from_table (specs : List TSpec) (ln : Bool) : ∀ (args : List Str) (os : List Occ) (ops : List Str),
    parse specs ln args = .ok (os, ops) → ∀ o ∈ os, o.spec ∈ specs := by
  intro args os ops h
  unfold parse at h
  rcases parseLoop_cases specs ln args with ⟨os', h1, hp⟩ | ⟨pre, os', x, post, _, h1, hx⟩
  · rw [hp] at h; cases h; exact optionsOnly_specs_mem h1
  · rcases hx with ⟨_, hp⟩ | ⟨_, hp⟩ | ⟨e, _, hp⟩ <;> rw [hp] at h <;> cases h <;> exact optionsOnly_specs_mem h1

def ofRow (r : Char × List Char × Nat) : TSpec :=
  { short := r.1, long := r.2.1, attr := if r.2.2 = 1 then some .readOnly else if r.2.2 = 2 then some .export else none }

/-- the tables `typeset`, `export` and `readonly` hand to `parse`, as re-extracted from /repo on every run -/
def realTables : List (List TSpec) := Generated.ArgSpecs.typesetTables.map (fun t => t.2.map ofRow)

/-- ☆ every real table is well formed (no sign as a letter, no letter twice) and made of options `interpret` knows
    (its `attr.unwrap()` cannot panic) — so the theorems above apply to the three built-ins unconditionally -/
theorem real_tables_wellformed_interpretable : ∀ t ∈ realTables, WellFormed t ∧ Interpretable t := by decide +kernel

/-- ☆ in every real table every non-empty prefix of every long name denotes that option alone (no two names share a
    first letter): every abbreviation is unambiguous, and no name is a prefix of another -/
theorem real_tables_every_prefix_unambiguous :
    ∀ t ∈ realTables, ∀ s ∈ t, ∀ k ∈ List.range s.long.length, longCandidates t (s.long.take (k + 1)) = [s] := by decide +kernel

/-- ☆ the letters `interpret` tells apart are the ones `scanStep` tests, as re-extracted from its `match` arms -/
theorem interpret_letters_extracted :
    Generated.ArgSpecs.interpretLetters = [('X', "unexport"), ('f', "functions"), ('g', "global"), ('p', "print")] := by decide +kernel

def exT : List TSpec := realTables.getD 2 []

example : exT.map (·.short) = ['f', 'g', 'p', 'r', 'x', 'X'] := by decide +kernel
example : optionsOnly exT true [['-','r','x'], "++export".toList] =
    some [⟨ofRow ('r', "readonly".toList, 1), true⟩, ⟨ofRow ('x', "export".toList, 2), true⟩, ⟨ofRow ('x', "export".toList, 2), false⟩] := by decide +kernel
/-- `typeset -rx ++export -- -- -f`: the second `--` and `-f` are operands -/
example : parse exT true ([['-','r','x'], "++export".toList] ++ dashdash :: dashdash :: [['-','f']]) =
    .ok ([⟨ofRow ('r', "readonly".toList, 1), true⟩, ⟨ofRow ('x', "export".toList, 2), true⟩, ⟨ofRow ('x', "export".toList, 2), false⟩],
      [dashdash, ['-','f']]) :=
  typeset_second_dashdash_is_operand (by decide +kernel) _
example : canon exT true [['-','r','x'], "++ex".toList, "--p".toList, ['a'], ['-','f']] =
    [['-','r'], ['-','x'], ['+','x'], ['-','p'], ['a'], ['-','f']] := by decide +kernel
example : parse exT true [['+','r','p']] = .error (.uncancelableShort 'p') :=
  typeset_uncancelable_letter_rejected (pre := []) rfl ['r'] 'p' (ofRow ('p', "print".toList, 0)) [] [] (by decide +kernel) (by decide +kernel) (by decide +kernel) (by decide +kernel)
example : parse exT true [['-','r','-']] = .error (.unknownShort '-') :=
  typeset_unknown_letter_rejected (pre := []) rfl false ['r'] '-' [] [] (by decide +kernel) (by decide +kernel) (by decide +kernel)
example : parse exT false ["++print".toList] = .error .uncancelableLong :=
  typeset_long_rejected (pre := []) rfl true "print".toList (by simp) [] _ (by decide +kernel)
example : parse exT false ["--print".toList] = .error .nonPortableLong :=
  typeset_long_rejected (pre := []) rfl false "print".toList (by decide +kernel) [] _ (by decide +kernel)
example : parse exT true ["--re".toList, ['v']] = parse exT true ["--readonly".toList, ['v']] :=
  typeset_long_prefix (pre := []) rfl false "re".toList (ofRow ('r', "readonly".toList, 1)) (by decide +kernel) (by decide +kernel) [['v']]
example : run exT true false [['-','f','x']] =
    .interpretError (.inapplicable ⟨ofRow ('x', "export".toList, 2), true⟩ ⟨ofRow ('f', "functions".toList, 0), true⟩) := by decide +kernel
example : run exT true false [['-','g','r'], ['v','=','1']] = .cmd (.setVariables [['v','=','1']] [(.readOnly, true)] true) := by decide +kernel
/-- a table with nested names: typeset's parser gives the exactly named option no preference -/
example : parse [⟨'a', "re".toList, some .readOnly⟩, ⟨'b', "rex".toList, some .export⟩] true ["--re".toList] = .error .ambiguousLong := rfl

end YashModel.Args.Typeset
