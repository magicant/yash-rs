/-
  C20 — what the separated spellings (`separateSO`, `separateM`, `separateMsh`, `Getopts.separate`) and their "is separated"
  tests share: the one `match` of the spelling at a cluster, brought into the form `parts ++ what follows` (`sepBody_eq`), and
  that the letters of a cluster written out one by one pass the test (`parts_separated`).
-/
namespace YashModel.Args

/-- `k`: the cluster `a` is kept whole; `q`: its split and whether its last option waits for the next argument;
    `f`: the spelling of what follows that argument, `g`: of what follows the cluster -/
theorem sepBody_eq (k : Bool) (a : List Char) (q : List (List Char) × Bool) (rest : List (List Char))
    (f : List (List Char) → List (List Char)) (g : List (List Char)) :
    (match (if k = true then ([a], q.2) else q) with
     | (parts, pending) =>
       if pending = true then (match rest with | [] => parts | x :: rest' => parts ++ x :: f rest') else parts ++ g)
    = (if k = true then [a] else q.1) ++
        (if q.2 = true then (match rest with | [] => [] | x :: rest' => x :: f rest') else g) := by
  obtain ⟨parts, pend⟩ := q
  cases k <;> cases pend <;> cases rest <;> simp

/-- after one cluster: skip the option-argument if one is pending -/
def afterSep (sep : List (List Char) → Bool) (pending : Bool) (tail : List (List Char)) : Bool :=
  if pending then
    (match tail with
     | [] => true
     | _ :: t' => sep t')
  else sep tail

/-- `split` follows the scheme of `splitCluster` / `Getopts.splitGroup`.  `hsingle` is asked for `c ≠ sign` only, and the
    statement for clusters without the sign: `[sign, sign]` is not a letter but the separator `--` (or the start of a long
    option), which no test reads as a single letter. -/
theorem parts_separated (sep : List (List Char) → Bool) (sign : Char) (takes : Char → Bool)
    (split : List Char → List (List Char) × Bool) (hnil : split [] = ([], false))
    (hcons : ∀ c cs, split (c :: cs) =
      if takes c then (if cs.isEmpty then ([[sign, c]], true) else ([[sign, c], cs], false))
      else ([sign, c] :: (split cs).1, (split cs).2))
    (hsingle : ∀ c rest, c ≠ sign → sep ([sign, c] :: rest) = afterSep sep (takes c) rest) :
    ∀ (cs : List Char) (tail : List (List Char)), sign ∉ cs →
      sep ((split cs).1 ++ tail) = afterSep sep (split cs).2 tail
  | [], tail, _ => by simp [hnil, afterSep]
  | c :: cs, tail, hd => by
    have hc : c ≠ sign := fun h => hd (by simp [h])
    rw [hcons]
    cases ht : takes c with
    | true =>
      cases cs with
      | nil => simp [hsingle c _ hc, ht]
      | cons r0 cs' => simp [hsingle c _ hc, ht, afterSep]
    | false =>
      simp only [Bool.false_eq_true, if_false, List.cons_append]
      rw [hsingle c _ hc, ht]
      exact parts_separated sep sign takes split hnil hcons hsingle cs tail (fun h => hd (by simp [h]))

end YashModel.Args
