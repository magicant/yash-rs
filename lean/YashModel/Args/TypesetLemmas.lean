/-
  C20 — `typeset`: the model of typeset/syntax.rs (Typeset.lean) against its Spec (TypesetSpec.lean).  An option argument is
  faultless exactly when the Spec finds no defect in it; every run of the loop is a prefix of faultless option arguments, then
  the end of the options or the first defective argument (`parseLoop_cases`); the single-letter spelling `canon` is canonical
  and read alike.
-/
import YashModel.Args.TypesetSpec
namespace YashModel.Args.Typeset

inductive ShapeForm : Str → Shape → Prop
  | empty : ShapeForm [] .operand
  | lone (c : Char) : ShapeForm [c] .operand
  | dashdash : ShapeForm ['-', '-'] .separator
  | long (negate : Bool) (name : Str) (h : negate = false → name ≠ []) :
      ShapeForm (signChar negate :: signChar negate :: name) (.long negate name)
  | group (negate : Bool) (c : Char) (cs : Str) (h : c ≠ signChar negate) :
      ShapeForm (signChar negate :: c :: cs) (.group negate (c :: cs))
  | plain (s c : Char) (cs : Str) (h1 : s ≠ '-') (h2 : s ≠ '+') : ShapeForm (s :: c :: cs) .operand

theorem shape_group_cons (negate : Bool) (c : Char) (cs : Str) (h : c ≠ signChar negate) :
    shape (signChar negate :: c :: cs) = .group negate (c :: cs) := by
  cases negate <;> simp_all [shape, signChar]

theorem shape_group_of_head (negate : Bool) {ls : Str} (hne : ls ≠ []) (hhd : ls.head? ≠ some (signChar negate)) :
    shape (signChar negate :: ls) = .group negate ls := by
  cases ls with
  | nil => exact absurd rfl hne
  | cons d ds => exact shape_group_cons negate d ds (by simpa using hhd)

theorem shape_long_cons (negate : Bool) (name : Str) (h : negate = false → name ≠ []) :
    shape (signChar negate :: signChar negate :: name) = .long negate name := by
  cases negate with
  | true => simp [shape, signChar]
  | false => simp [shape, signChar, h rfl]

theorem shapeForm : ∀ a : Str, ShapeForm a (shape a)
  | [] => .empty
  | [c] => .lone c
  | s :: c :: cs => by
    by_cases h1 : s = '-'
    · subst h1
      by_cases hc : c = '-'
      · subst hc
        by_cases hcs : cs = []
        · subst hcs; exact .dashdash
        · rw [show ('-' : Char) = signChar false from rfl, shape_long_cons false cs (fun _ => hcs)]
          exact .long false cs (fun _ => hcs)
      · rw [show ('-' : Char) = signChar false from rfl, shape_group_cons false c cs hc]; exact .group false c cs hc
    · by_cases h2 : s = '+'
      · subst h2
        by_cases hc : c = '+'
        · subst hc
          rw [show ('+' : Char) = signChar true from rfl, shape_long_cons true cs (fun h => by cases h)]
          exact .long true cs (fun h => by cases h)
        · rw [show ('+' : Char) = signChar true from rfl, shape_group_cons true c cs hc]; exact .group true c cs hc
      · have : shape (s :: c :: cs) = .operand := by simp [shape, h1, h2]
        rw [this]; exact .plain s c cs h1 h2

theorem shortSign_of_shape (a : Str) :
    shortSign a = (match shape a with | .group negate _ => some negate | _ => none) := by
  have hf := shapeForm a
  generalize shape a = sh at hf
  cases hf with
  | empty => rfl
  | lone c => by_cases h1 : c = '-' <;> by_cases h2 : c = '+' <;> simp_all [shortSign]
  | dashdash => rfl
  | long negate name h => cases negate <;> simp [shortSign, signChar]
  | group negate c cs h => cases negate <;> simp_all [shortSign, signChar]
  | plain s c cs h1 h2 => simp [shortSign, h1, h2]

theorem longPrefix_of_shape (a : Str) (hsep : a ≠ dashdash) :
    longPrefix a = (match shape a with | .long negate name => some (name, negate) | _ => none) := by
  have hf := shapeForm a
  generalize shape a = sh at hf
  cases hf with
  | empty => rfl
  | lone c => simp [longPrefix]
  | dashdash => exact absurd rfl hsep
  | long negate name h => cases negate <;> rfl
  | group negate c cs h => cases negate <;> simp_all [longPrefix, signChar]
  | plain s c cs h1 h2 => unfold longPrefix; split <;> simp_all

theorem shape_separator_iff (a : Str) : shape a = .separator ↔ a = dashdash := by
  constructor
  · intro h
    have hf := shapeForm a
    rw [h] at hf
    cases hf with
    | dashdash => rfl
  · rintro rfl; rfl

theorem prepend_nil (r : Except PErr (List Occ × List Str)) : prepend [] r = r := by
  cases r with
  | error e => rfl
  | ok p => obtain ⟨a, b⟩ := p; simp [prepend]

theorem prepend_append (os os' : List Occ) (r : Except PErr (List Occ × List Str)) :
    prepend (os ++ os') r = prepend os (prepend os' r) := by
  cases r with
  | error e => rfl
  | ok p => obtain ⟨a, b⟩ := p; simp [prepend]

theorem parseLoop_cons (specs : List TSpec) (ln : Bool) (a : Str) (rest : List Str) :
    parseLoop specs ln (a :: rest) =
      match shape a with
      | .separator => .ok ([], rest)
      | .operand => .ok ([], a :: rest)
      | .group negate letters =>
        (match shortLoop specs negate letters with
         | .error e => .error e
         | .ok os => prepend os (parseLoop specs ln rest))
      | .long negate name =>
        (match longResolve (longCandidates specs name) negate ln with
         | .error e => .error e
         | .ok o => prepend [o] (parseLoop specs ln rest)) := by
  by_cases hsep : a = dashdash
  · subst hsep
    simp [parseLoop, shape, dashdash]
  · have hns : shape a ≠ .separator := fun h => hsep ((shape_separator_iff a).1 h)
    rw [parseLoop, if_neg hsep, shortSign_of_shape]
    cases hs : shape a with
    | separator => exact absurd hs hns
    | operand =>
      have := longPrefix_of_shape a hsep
      simp [hs] at this
      simp [tryParseLong, this]
    | group negate letters =>
      have : a.drop 1 = letters := by
        have hf := shapeForm a
        rw [hs] at hf
        cases hf
        rfl
      simp only [this]
      rfl
    | long negate name =>
      have := longPrefix_of_shape a hsep
      simp [hs] at this
      simp [tryParseLong, this]
      cases longResolve (longCandidates specs name) negate ln <;> simp

theorem shortLoop_append (specs : List TSpec) (negate : Bool) (l1 l2 : Str) :
    shortLoop specs negate (l1 ++ l2) =
      match shortLoop specs negate l1 with
      | .error e => .error e
      | .ok os => (match shortLoop specs negate l2 with
        | .error e => .error e
        | .ok os' => .ok (os ++ os')) := by
  induction l1 with
  | nil => simp [shortLoop]; cases shortLoop specs negate l2 <;> simp
  | cons c cs ih =>
    simp only [List.cons_append, shortLoop]
    cases hf : findShort specs c with
    | none => simp
    | some s =>
      simp only []
      by_cases hc : negate = true ∧ s.attr = none
      · simp [hc]
      · simp only [hc, if_false, ih]
        cases shortLoop specs negate cs with
        | error e => simp
        | ok os =>
          simp only []
          cases shortLoop specs negate l2 <;> simp

theorem uncancelable_iff (negate : Bool) (s : TSpec) :
    (negate && s.attr.isNone) = true ↔ (negate = true ∧ s.attr = none) := by
  simp [Option.isNone_iff_eq_none]

theorem shortLoop_defect (specs : List TSpec) (negate : Bool) (letters : Str) :
    shortLoop specs negate letters =
      match letters.findSome? (letterDefect specs negate) with
      | some e => .error e
      | none => .ok (letters.map (letterOcc specs negate)) := by
  induction letters with
  | nil => simp [shortLoop]
  | cons c cs ih =>
    simp only [shortLoop, List.findSome?_cons, letterDefect]
    cases hf : findShort specs c with
    | none => simp
    | some s =>
      by_cases hc : negate = true ∧ s.attr = none
      · simp [hc]
      · have : (negate && s.attr.isNone) = false := Bool.eq_false_iff.mpr (mt (uncancelable_iff negate s).mp hc)
        simp only [hc, if_false, this, ih]
        cases cs.findSome? (letterDefect specs negate) <;> simp [letterOcc, hf]

theorem letterOk_iff_no_defect (specs : List TSpec) (negate : Bool) (c : Char) :
    letterOk specs negate c = true ↔ letterDefect specs negate c = none := by
  unfold letterOk letterDefect
  cases hf : findShort specs c with
  | none => simp
  | some s => by_cases hc : (negate && s.attr.isNone) = true <;> simp [hc]

theorem all_ok_iff_no_defect (specs : List TSpec) (negate : Bool) (letters : Str) :
    letters.all (letterOk specs negate) = true ↔ letters.findSome? (letterDefect specs negate) = none := by
  induction letters with
  | nil => simp
  | cons c cs ih =>
    rw [List.all_cons, Bool.and_eq_true, List.findSome?_cons, ih, letterOk_iff_no_defect]
    cases letterDefect specs negate c <;> simp

theorem longResolve_defect (specs : List TSpec) (ln negate : Bool) (name : Str) :
    longResolve (longCandidates specs name) negate ln =
      match longDefect specs ln negate name with
      | some e => .error e
      | none => .ok { spec := ((longCandidates specs name).head?).getD { short := '?', long := [], attr := none }, state := !negate } := by
  unfold longResolve longDefect
  cases hc : longCandidates specs name with
  | nil => simp
  | cons s more =>
    cases more with
    | cons s2 m => simp
    | nil =>
      simp only [ne_eq, not_true_eq_false, if_false, List.head?_cons, Option.getD_some]
      by_cases hu : negate = true ∧ s.attr = none
      · rw [if_pos hu, if_pos ((uncancelable_iff negate s).mpr hu)]
      · rw [if_neg hu, if_neg (mt (uncancelable_iff negate s).mp hu)]
        cases ln <;> rfl

theorem denotes_some_iff (specs : List TSpec) (negate : Bool) (name : Str) (s : TSpec) :
    denotes specs negate name = some s ↔
      longCandidates specs name = [s] ∧ ¬ (negate = true ∧ s.attr = none) := by
  unfold denotes
  cases hc : longCandidates specs name with
  | nil => simp
  | cons s' more =>
    cases more with
    | cons s2 m => simp
    | nil =>
      simp only [List.cons.injEq, and_true]
      by_cases hu : negate = true ∧ s'.attr = none
      · rw [if_pos ((uncancelable_iff negate s').mpr hu)]
        exact ⟨fun h => (by cases h), fun ⟨h1, h2⟩ => absurd (h1 ▸ hu) h2⟩
      · rw [if_neg (mt (uncancelable_iff negate s').mp hu)]
        exact ⟨fun h => (by cases h; exact ⟨rfl, hu⟩), fun ⟨h1, _⟩ => (by rw [h1])⟩

theorem denotes_mem {specs : List TSpec} {negate : Bool} {name : Str} {s : TSpec}
    (h : denotes specs negate name = some s) : s ∈ specs := by
  have : s ∈ longCandidates specs name := by rw [((denotes_some_iff _ _ _ _).1 h).1]; simp
  exact (List.mem_filter.1 this).1

theorem longResolve_denotes {specs : List TSpec} {negate : Bool} {name : Str} {s : TSpec}
    (h : denotes specs negate name = some s) :
    longResolve (longCandidates specs name) negate true = .ok { spec := s, state := !negate } := by
  obtain ⟨h1, h2⟩ := (denotes_some_iff _ _ _ _).1 h
  simp [longResolve, h1, h2]

/-- the argument `a`, faultless, is the options `os` -/
inductive OptionArg (specs : List TSpec) (ln : Bool) (a : Str) : List Occ → Prop
  | group (negate : Bool) (letters : Str) (hs : shape a = .group negate letters)
      (hall : letters.all (letterOk specs negate) = true) : OptionArg specs ln a (letters.map (letterOcc specs negate))
  | long (negate : Bool) (name : Str) (s : TSpec) (hln : ln = true) (hs : shape a = .long negate name)
      (hd : denotes specs negate name = some s) : OptionArg specs ln a [{ spec := s, state := !negate }]

theorem optionArg_some {specs : List TSpec} {ln : Bool} {a : Str} {os : List Occ}
    (h : optionArg specs ln a = some os) : OptionArg specs ln a os := by
  unfold optionArg at h
  cases hs : shape a with
  | separator => simp [hs] at h
  | operand => simp [hs] at h
  | group negate letters =>
    simp only [hs] at h
    by_cases hall : letters.all (letterOk specs negate) = true
    · rw [if_pos hall] at h; cases h; exact .group negate letters hs hall
    · rw [if_neg hall] at h; cases h
  | long negate name =>
    simp only [hs] at h
    cases ln with
    | false => simp at h
    | true =>
      simp at h
      obtain ⟨s, hd, rfl⟩ := h
      exact .long negate name s rfl hs hd

theorem parseLoop_optionArg {specs : List TSpec} {ln : Bool} {a : Str} {os : List Occ}
    (h : optionArg specs ln a = some os) (rest : List Str) :
    parseLoop specs ln (a :: rest) = prepend os (parseLoop specs ln rest) := by
  rw [parseLoop_cons]
  cases optionArg_some h with
  | group negate letters hs hall => simp only [hs, shortLoop_defect, (all_ok_iff_no_defect specs negate letters).1 hall]
  | long negate name s hln hs hd => subst hln; simp only [hs, longResolve_denotes hd]

theorem optionsOnly_cons {specs : List TSpec} {ln : Bool} {a : Str} {rest : List Str} {os : List Occ}
    (h : optionsOnly specs ln (a :: rest) = some os) :
    ∃ o1 o2, optionArg specs ln a = some o1 ∧ optionsOnly specs ln rest = some o2 ∧ os = o1 ++ o2 := by
  simp only [optionsOnly] at h
  cases h1 : optionArg specs ln a <;> cases h2 : optionsOnly specs ln rest <;> simp only [h1, h2] at h <;> cases h
  exact ⟨_, _, rfl, rfl, rfl⟩

theorem parseLoop_after_options {specs : List TSpec} {ln : Bool} {pre : List Str} {os : List Occ}
    (h : optionsOnly specs ln pre = some os) (ys : List Str) :
    parseLoop specs ln (pre ++ ys) = prepend os (parseLoop specs ln ys) := by
  induction pre generalizing os with
  | nil => simp [optionsOnly] at h; subst h; simp [prepend_nil]
  | cons a rest ih =>
    obtain ⟨o1, o2, h1, h2, rfl⟩ := optionsOnly_cons h
    rw [List.cons_append, parseLoop_optionArg h1, ih h2, prepend_append]

theorem parseLoop_defect {specs : List TSpec} {ln : Bool} {a : Str} {e : PErr}
    (h : argDefect specs ln a = some e) (rest : List Str) :
    parseLoop specs ln (a :: rest) = .error e := by
  rw [parseLoop_cons]
  unfold argDefect at h
  cases hs : shape a with
  | separator => simp [hs] at h
  | operand => simp [hs] at h
  | group negate letters =>
    simp only [hs] at h
    simp only [shortLoop_defect, h]
  | long negate name =>
    simp only [hs] at h
    simp only [longResolve_defect, h]

theorem optionArg_of_no_defect {specs : List TSpec} {ln : Bool} {a : Str}
    (h : argDefect specs ln a = none) :
    (∃ os, optionArg specs ln a = some os) ∨ shape a = .separator ∨ shape a = .operand := by
  unfold argDefect at h
  unfold optionArg
  cases hs : shape a with
  | separator => simp
  | operand => simp
  | group negate letters =>
    simp only [hs] at h
    left
    simp [(all_ok_iff_no_defect specs negate letters).2 h]
  | long negate name =>
    simp only [hs] at h
    left
    -- no defect: one candidate, cancellable, long names on — that is `denotes`
    unfold longDefect at h
    cases hc : longCandidates specs name with
    | nil => simp [hc] at h
    | cons s more =>
      cases more with
      | cons s2 m => simp [hc] at h
      | nil =>
        simp only [hc] at h
        by_cases hu : (negate && s.attr.isNone) = true
        · rw [if_pos hu] at h; cases h
        · rw [if_neg hu] at h
          cases ln with
          | false => simp at h
          | true =>
            have hd : denotes specs negate name = some s :=
              (denotes_some_iff _ _ _ _).2 ⟨hc, mt (uncancelable_iff negate s).mpr hu⟩
            simp [hd]

theorem optionArg_no_defect {specs : List TSpec} {ln : Bool} {a : Str} {os : List Occ}
    (h : optionArg specs ln a = some os) : argDefect specs ln a = none := by
  unfold argDefect
  cases optionArg_some h with
  | group negate letters hs hall => simp only [hs]; exact (all_ok_iff_no_defect specs negate letters).1 hall
  | long negate name s hln hs hd =>
    obtain ⟨h1, h2⟩ := (denotes_some_iff _ _ _ _).1 hd
    simp [hs, longDefect, h1, hln, mt (uncancelable_iff negate s).mp h2]

/-- every vector splits into faultless options, then: nothing, the separator, an operand, or a defective argument -/
theorem parseLoop_cases (specs : List TSpec) (ln : Bool) (args : List Str) :
    (∃ os, optionsOnly specs ln args = some os ∧ parseLoop specs ln args = .ok (os, [])) ∨
    (∃ pre os x post, args = pre ++ x :: post ∧ optionsOnly specs ln pre = some os ∧
        ((shape x = .separator ∧ parseLoop specs ln args = .ok (os, post)) ∨
         (shape x = .operand ∧ parseLoop specs ln args = .ok (os, x :: post)) ∨
         (∃ e, argDefect specs ln x = some e ∧ parseLoop specs ln args = .error e))) := by
  induction args with
  | nil => left; exact ⟨[], rfl, rfl⟩
  | cons a rest ih =>
    cases hd : argDefect specs ln a with
    | some e =>
      right
      exact ⟨[], [], a, rest, rfl, rfl, Or.inr (Or.inr ⟨e, hd, parseLoop_defect hd rest⟩)⟩
    | none =>
      rcases optionArg_of_no_defect hd with ⟨o1, h1⟩ | hsep | hop
      · rcases ih with ⟨os, h2, h3⟩ | ⟨pre, os, x, post, hargs, hpre, hx⟩
        · left
          refine ⟨o1 ++ os, by simp [optionsOnly, h1, h2], ?_⟩
          rw [parseLoop_optionArg h1, h3]; simp [prepend]
        · right
          refine ⟨a :: pre, o1 ++ os, x, post, by simp [hargs], by simp [optionsOnly, h1, hpre], ?_⟩
          rcases hx with ⟨hs, hp⟩ | ⟨hs, hp⟩ | ⟨e, hs, hp⟩
          · left; refine ⟨hs, ?_⟩; rw [parseLoop_optionArg h1, hp]; simp [prepend]
          · right; left; refine ⟨hs, ?_⟩; rw [parseLoop_optionArg h1, hp]; simp [prepend]
          · right; right; refine ⟨e, hs, ?_⟩; rw [parseLoop_optionArg h1, hp]; rfl
      · right
        refine ⟨[], [], a, rest, rfl, rfl, Or.inl ⟨hsep, ?_⟩⟩
        rw [parseLoop_cons, hsep]
      · right
        refine ⟨[], [], a, rest, rfl, rfl, Or.inr (Or.inl ⟨hop, ?_⟩)⟩
        rw [parseLoop_cons, hop]

/-- the single-letter arguments one faultless option argument is rewritten to -/
def singlesOf (specs : List TSpec) (a : Str) : List Str :=
  match shape a with
  | .group negate letters => letters.map (fun c => [signChar negate, c])
  | .long negate name =>
    (match denotes specs negate name with
     | some s => [[signChar negate, s.short]]
     | none => [a])
  | _ => [a]

theorem canon_cons (specs : List TSpec) (ln : Bool) (a : Str) (rest : List Str) :
    canon specs ln (a :: rest) =
      if (optionArg specs ln a).isSome then singlesOf specs a ++ canon specs ln rest else a :: rest := by
  cases hs : shape a with
  | separator => simp [canon, optionArg, hs]
  | operand => simp [canon, optionArg, hs]
  | group negate letters =>
    by_cases hall : letters.all (letterOk specs negate) = true <;> simp [canon, optionArg, singlesOf, hs, hall]
  | long negate name =>
    cases ln with
    | false => simp [canon, optionArg, hs]
    | true => cases hd : denotes specs negate name <;> simp [canon, optionArg, singlesOf, hs, hd]

theorem findShort_some {specs : List TSpec} {c : Char} {s : TSpec} (h : findShort specs c = some s) :
    s ∈ specs ∧ s.short = c := by
  unfold findShort at h
  have h1 := List.mem_of_find?_eq_some h
  have h2 := List.find?_some h
  simp at h2
  exact ⟨h1, h2⟩

theorem single_optionArg {specs : List TSpec} (wf : WellFormed specs) (ln : Bool) {negate : Bool} {c : Char}
    (h : letterOk specs negate c = true) :
    optionArg specs ln [signChar negate, c] = some [letterOcc specs negate c] ∧ isSingle [signChar negate, c] = true := by
  have hc : c ≠ '-' ∧ c ≠ '+' := by
    unfold letterOk at h
    cases hf : findShort specs c with
    | none => simp [hf] at h
    | some s =>
      obtain ⟨hm, hsc⟩ := findShort_some hf
      have := wf s hm
      rw [hsc] at this
      exact ⟨this.1, this.2.1⟩
  have hne : c ≠ signChar negate := by cases negate <;> simp [signChar, hc.1, hc.2]
  constructor
  · simp [optionArg, shape_group_cons negate c [] hne, h]
  · cases negate <;> simp_all [isSingle, signChar]

theorem singles_spec {specs : List TSpec} (wf : WellFormed specs) {ln : Bool} {a : Str} {os : List Occ}
    (h : optionArg specs ln a = some os) :
    optionsOnly specs ln (singlesOf specs a) = some os ∧ ∀ x ∈ singlesOf specs a, isSingle x = true := by
  unfold singlesOf
  cases optionArg_some h with
  | group negate letters hs hall =>
    simp only [hs]
    clear hs h
    induction letters with
    | nil => simp [optionsOnly]
    | cons c cs ih =>
      simp only [List.all_cons, Bool.and_eq_true] at hall
      obtain ⟨h1, h2⟩ := single_optionArg wf ln hall.1
      obtain ⟨i1, i2⟩ := ih hall.2
      constructor
      · simp only [List.map_cons, optionsOnly, h1, i1]; simp
      · intro x hx
        simp only [List.map_cons, List.mem_cons] at hx
        rcases hx with hx | hx
        · subst hx; exact h2
        · exact i2 x hx
  | long negate name s hln hs hd =>
    subst hln
    simp only [hs, hd]
    -- the name's letter is a faultless single letter standing for the same occurrence
    have hw := wf s (denotes_mem hd)
    have hok : letterOk specs negate s.short = true := by
      unfold letterOk
      rw [hw.2.2]
      show (!(negate && s.attr.isNone)) = true
      rw [Bool.not_eq_true', Bool.eq_false_iff]
      exact mt (uncancelable_iff negate s).mp ((denotes_some_iff _ _ _ _).1 hd).2
    obtain ⟨h1, h2⟩ := single_optionArg wf true hok
    have hocc : letterOcc specs negate s.short = { spec := s, state := !negate } := by
      simp [letterOcc, hw.2.2]
    constructor
    · simp [optionsOnly, h1, hocc]
    · intro x hx; simp at hx; subst hx; exact h2

theorem isSingle_shape {a : Str} (h : isSingle a = true) : shape a ≠ .operand ∧ a ≠ dashdash ∧ shape a ≠ .separator := by
  match a with
  | [] => simp [isSingle] at h
  | [c] => simp [isSingle] at h
  | c0 :: c1 :: c2 :: cs => simp [isSingle] at h
  | [sg, c] =>
    simp [isSingle] at h
    obtain ⟨h1, h2⟩ := h
    rcases h1 with h1 | h1 <;> subst h1 <;> simp [shape, dashdash, h2]

theorem isCanonical_singles (l : List Str) (hl : ∀ x ∈ l, isSingle x = true) (v : List Str) :
    isCanonical (l ++ v) = isCanonical v := by
  induction l with
  | nil => rfl
  | cons x xs ih =>
    have hx := hl x (by simp)
    simp only [List.cons_append, isCanonical, hx, if_true]
    exact ih (fun y hy => hl y (by simp [hy]))

theorem prepend_ok {os : List Occ} {r : Except PErr (List Occ × List Str)} {q : List Occ × List Str}
    (h : prepend os r = .ok q) : ∃ q', r = .ok q' := by
  cases r with
  | error e => simp [prepend] at h
  | ok q' => exact ⟨q', rfl⟩

theorem read_eq_parseLoop (specs : List TSpec) (ln : Bool) (v : List Str) (h : isCanonical v = true) :
    read specs v = parseLoop specs ln v := by
  induction v with
  | nil => simp [read, parseLoop]
  | cons a rest ih =>
    simp only [isCanonical] at h
    by_cases hsg : isSingle a = true
    · simp only [hsg, if_true] at h
      match a, hsg with
      | [sg, c], hsg =>
        simp [isSingle] at hsg
        obtain ⟨h1, h2⟩ := hsg
        have hne : [sg, c] ≠ ['-', '-'] := by
          intro heq; simp at heq; rcases h1 with h1 | h1 <;> simp_all
        have hshape : shape [sg, c] = .group (sg = '+') [c] := by
          rcases h1 with h1 | h1 <;> subst h1 <;> simp [shape, h2]
        rw [parseLoop_cons, hshape]
        simp only [read, hne, if_false, h1, h2, ne_eq, not_false_eq_true, and_self, if_true, shortLoop]
        cases hf : findShort specs c with
        | none => simp
        | some s =>
          simp only []
          by_cases hc : sg = '+' ∧ s.attr = none
          · simp [hc]
          · have hc' : ¬ (decide (sg = '+') = true ∧ s.attr = none) := by simpa using hc
            simp only [hc, hc', if_false, ih h]
    · have hsg' : isSingle a = false := by simpa using hsg
      simp only [hsg', Bool.false_eq_true, if_false, Bool.or_eq_true, decide_eq_true_eq] at h
      by_cases hdd : a = ['-', '-']
      · subst hdd
        simp [read, parseLoop, dashdash]
      · have hop : shape a = .operand := by
          rcases h with h | h
          · exact absurd h hdd
          · exact h
        rw [parseLoop_cons, hop]
        unfold read
        simp only [hdd, if_false]
        split
        · rename_i sg c
          have : ¬ ((sg = '-' ∨ sg = '+') ∧ c ≠ sg) := by
            intro hcond
            simp [isSingle] at hsg'
            rcases hcond.1 with h1 | h1 <;> simp_all
          simp [this]
        · rfl

theorem filter_refine {α : Type} (q r : α → Bool) (l : List α) (s : α) (hq : l.filter q = [s])
    (hrq : ∀ t, r t = true → q t = true) (hs : r s = true) : l.filter r = [s] := by
  induction l with
  | nil => simp at hq
  | cons a l ih =>
    cases hqa : q a with
    | true =>
      simp only [List.filter_cons, hqa, if_true, List.cons.injEq] at hq
      obtain ⟨rfl, hnil⟩ := hq
      have : l.filter r = [] := by
        rw [List.filter_eq_nil_iff] at hnil ⊢
        intro t ht hrt
        exact hnil t ht (hrq t hrt)
      simp [hs, this]
    | false =>
      have hra : r a = false := by
        cases hr : r a with
        | false => rfl
        | true => rw [hrq a hr] at hqa; cases hqa
      simp only [List.filter_cons, hqa, hra] at hq ⊢
      exact ih hq

theorem optionArg_specs_mem {specs : List TSpec} {ln : Bool} {a : Str} {os : List Occ}
    (h : optionArg specs ln a = some os) : ∀ o ∈ os, o.spec ∈ specs := by
  cases optionArg_some h with
  | group negate letters hs hall =>
    intro o ho
    obtain ⟨c, hc, rfl⟩ := List.mem_map.mp ho
    have hok := List.all_eq_true.mp hall c hc
    unfold letterOk at hok
    cases hf : findShort specs c with
    | none => simp [hf] at hok
    | some s => simp only [letterOcc, hf, Option.getD_some]; exact (findShort_some hf).1
  | long negate name s hln hs hd => intro o ho; simp at ho; subst ho; exact denotes_mem hd

theorem optionsOnly_specs_mem {specs : List TSpec} {ln : Bool} : ∀ {pre : List Str} {os : List Occ},
    optionsOnly specs ln pre = some os → ∀ o ∈ os, o.spec ∈ specs
  | [], os, h => by simp [optionsOnly] at h; subst h; simp
  | a :: rest, os, h => by
    obtain ⟨o1, o2, h1, h2, rfl⟩ := optionsOnly_cons h
    intro o ho
    rcases List.mem_append.1 ho with ho | ho
    · exact optionArg_specs_mem h1 o ho
    · exact optionsOnly_specs_mem h2 o ho

end YashModel.Args.Typeset
