/-
  C20 — property theorems: "`--` ends option parsing" stated for every argument parser of the area at full
  strength — after the first separator in option position EVERYTHING is an operand, verbatim, another `--` included
  (a parser that dropped a second `--`, as the seeded change `skip_while(== "--")` does, could not satisfy any of
  these statements: each quantifies over an arbitrary tail `xs`).
-/
import YashModel.Args.ParseTheorems
import YashModel.Args.SetTheorems
import YashModel.Args.GetoptsLemmas
namespace YashModel.Args

/-- ★ `parse_arguments`: exactly ONE separator is skipped; a second `--` right behind it is the first operand -/
theorem second_dashdash_is_operand (specs : List OptionSpec) (mode : Mode) (pre : List Str) (os : List Occurrence)
    (xs : List Str) (hpre : OptionsOnly specs mode pre os) :
    parseArguments specs mode (pre ++ dashdash :: dashdash :: xs) = .ok (os, dashdash :: xs) :=
  dashdash_ends specs mode pre os (dashdash :: xs) hpre

/-- `-a -- -- -a`: the operands are what stands behind the first `--`, verbatim -/
example : parseArguments exT Mode.withExtensions [['-','a'], dashdash, dashdash, ['-','a']] =
    .ok ([⟨⟨some 'a', none, false, false⟩, .short 1, none⟩], [dashdash, ['-','a']]) := by rfl

namespace Bespoke

/-- ★ `set`: behind any options-only prefix the separator (`--` or `-`) ends the options, and the new positional
    parameters are everything after it, verbatim (`set -e -- -- x` sets `--`, `x`) -/
theorem set_separator_ends (nm : Names) {p : Bool} {pre : List Str} {os : List (Str × Bool)} {p' : Bool}
    (h : SetOptionsOnly nm p pre os p') (sep : Str) (hsep : sep = ['-', '-'] ∨ sep = ['-']) (xs : List Str) :
    setParse nm p (pre ++ sep :: xs) = .ok (.modify os (some xs)) := by
  have hstep : ∀ q next, setStep nm q sep next = .stop := by
    intro q next
    rcases hsep with rfl | rfl <;> rfl
  have hp : ¬ printForm (pre ++ sep :: xs) :=
    not_printForm_of_mem (a := sep) (by simp) (by rcases hsep with rfl | rfl <;> decide) (by rcases hsep with rfl | rfl <;> decide)
  rw [setParse_loop nm p _ hp, setLoop_after_options nm h, setLoop_cons, hstep]
  simp only [prependO, List.append_nil, finishSet]
  rcases hsep with rfl | rfl <;> simp

example : setParse exNames false [['-','e'], ['-','-'], ['-','-'], ['x']] =
    .ok (.modify [("errexit".toList, true)] (some [['-','-'], ['x']])) :=
  set_separator_ends exNames ex_optionsOnly_e _ (Or.inl rfl) _

/-- ★ the shell's own command line: at any point of the option loop (any `portable` state, any `Run` so far) the
    separator stops the loop with everything from it on left over … -/
theorem sh_separator_stops_loop (nm : Names) (p : Bool) (r : Run) (sep : Str) (hsep : sep = ['-', '-'] ∨ sep = ['-'])
    (xs : List Str) : shLoop nm p r (sep :: xs) = .ok (.inr (r, sep :: xs)) := by
  rw [shLoop_cons]
  have : shStep nm p sep xs.head? = .stop := by rcases hsep with rfl | rfl <;> rfl
  rw [this]

/-- what is done with the operands once the separator is dropped -/
def shInterpret (r : Run) (rem : List Str) : Except ShErr ShParse :=
  if r.options.contains (cmdlineOpt, true) then
    if r.options.contains (stdinOpt, true) then .error .conflictingSources
    else match rem with
      | [] => .error .missingCommandString
      | cmd :: rest =>
        match rest with
        | [] => .ok (.run { r with source := .string cmd, params := [] })
        | name :: params => .ok (.run { r with source := .string cmd, arg0 := name, params := params })
  else if r.options.contains (stdinOpt, true) then .ok (.run { r with source := .stdin, params := rem })
  else match rem with
    | [] => .ok (.run { r with params := [] })
    | file :: params => .ok (.run { r with source := .file file, arg0 := file, params := params })

/-- ★ … and exactly ONE separator is dropped: command string / script file / `arg0` / positional parameters are read
    from the arguments behind it, verbatim — a second `--` is the script file (or command string) -/
theorem sh_operands_after_separator (r : Run) (sep : Str) (hsep : sep = ['-', '-'] ∨ sep = ['-']) (xs : List Str) :
    shOperands r (sep :: xs) = shInterpret r xs := by
  rcases hsep with rfl | rfl <;> rfl

/-- ★ `kill`: at any point of the option loop `--` ends the options; the targets (or the operands of `-l`) are
    everything behind it, verbatim -/
theorem kill_dashdash_ends (nm : Names) (portable : Bool) (st : KillState) (xs : List Str) :
    killLoop nm portable st (['-', '-'] :: xs) = .ok (st, xs) := by
  rw [killLoop]; simp [killIsOption]

/-- ★ the shell's own command line: behind ANY accepted options-only prefix the separator (`--` or `-`) ends the
    options; command string / script file / `arg0` / positional parameters are read from everything behind it,
    verbatim (`sh -e -- -- x` runs the script `--` with the parameter `x`) -/
theorem sh_separator_ends (nm : Names) (arg0 : Str) {pre : List Str} {p' : Bool} {r' : Run}
    (h : ShOptionsOnly nm false { options := arg0Options arg0, arg0 := arg0 } pre p' r')
    (sep : Str) (hsep : sep = ['-', '-'] ∨ sep = ['-']) (xs : List Str) :
    shParse nm (arg0 :: (pre ++ sep :: xs)) = shInterpret r' xs := by
  unfold shParse
  simp only []
  rw [shLoop_after_options h, sh_separator_stops_loop nm p' r' sep hsep xs]
  exact sh_operands_after_separator r' sep hsep xs

/-- `yash -e -- -- x`: the script is `--`, its parameter `x` -/
example : shParse exNames ["yash".toList, ['-','e'], ['-','-'], ['-','-'], ['x']] =
    .ok (.run { options := [("errexit".toList, true)], arg0 := ['-','-'], source := .file ['-','-'], params := [['x']] }) :=
  sh_separator_ends exNames "yash".toList (pre := [['-','e']])
    (ShOptionsOnly.one false _ ['-','e'] (pushOptions [("errexit".toList, true)]) false [] false _ (fun next => by rfl)
      (ShOptionsOnly.nil false _)) ['-','-'] (Or.inl rfl) [['-','-'], ['x']]

/-- ★ `kill`: behind ANY accepted options-only prefix `--` ends the options: the loop ends in the state the prefix
    produced, with everything behind the `--` as operands, verbatim (`kill -s INT -- -1`: target `-1`) -/
theorem kill_dashdash_ends_anywhere (nm : Names) (portable : Bool) {st : KillState} {pre : List Str} {st' : KillState}
    (h : KillOptionsOnly nm portable st pre st') (xs : List Str) :
    killLoop nm portable st (pre ++ ['-', '-'] :: xs) = .ok (st', xs) := by
  rw [killLoop_after_options h, kill_dashdash_ends]

/-- ★ … so a signal sent is sent to exactly those targets: with a prefix that names a signal and neither `-l` nor
    `-v`, `kill <prefix> -- <targets>` is `Send` of that signal to `<targets>` (negative process ids included) -/
theorem kill_send_targets_after_dashdash (nm : Names) (portable : Bool) (sigterm : Int) {pre : List Str} {st' : KillState}
    (h : KillOptionsOnly nm portable { signal := sigterm } pre st') (hl : st'.list = false) (hv : st'.verbose = false)
    (xs : List Str) (hxs : xs ≠ []) :
    killParse nm portable sigterm (pre ++ ['-', '-'] :: xs) = .ok (.send st'.signal st'.hasOrigin xs) := by
  unfold killParse
  rw [kill_dashdash_ends_anywhere nm portable h]
  cases xs with
  | nil => exact absurd rfl hxs
  | cons x xs => simp [hl, hv]

def exSig2 : Names := { sig := [("INT".toList, 2)] }

/-- `kill -s INT -- -1 --`: signal 2 to the targets `-1`, `--` -/
example : killParse exSig2 false 15 [['-','s'], "INT".toList, ['-','-'], ['-','1'], ['-','-']] =
    .ok (.send 2 true [['-','1'], ['-','-']]) :=
  kill_send_targets_after_dashdash exSig2 false 15 (pre := [['-','s'], "INT".toList])
    (KillOptionsOnly.two _ ['-','s'] "INT".toList { signal := 2, hasOrigin := true } [] _ rfl (by decide) (by rfl)
      (KillOptionsOnly.nil _)) rfl rfl [['-','1'], ['-','-']] (by simp)

end Bespoke

namespace Getopts

/-- ★ `getopts`: `--` in option position ends the options and is skipped; the operands a script is left with are
    everything behind it, verbatim -/
theorem getopts_dashdash_ends (spec : Str) (xs : List Str) :
    obsOf (['-', '-'] :: xs) (walkAll spec (['-', '-'] :: xs)) = ([], some xs) := by
  rw [walkAll_eq_W]
  simp [W]

/-- ★ `getopts`: behind ANY prefix of option groups (with their option-arguments), `--` ends the options and is
    skipped; the script sees the events of the prefix and is left with everything behind the `--`, verbatim -/
theorem getopts_dashdash_ends_anywhere (spec : Str) {pre : List Str} {evs : List EvV}
    (h : GOptionsOnly spec (isColon spec) pre evs) (xs : List Str) :
    obsOf (pre ++ ['-', '-'] :: xs) (walkAll spec (pre ++ ['-', '-'] :: xs)) = (evs, some xs) := by
  rw [walkAll_eq_W, W_after_options h]
  simp [W, prependE]

/-- ★ … and so does the first operand (an argument that is not `-x…`), which stays -/
theorem getopts_first_operand_ends_anywhere (spec : Str) {pre : List Str} {evs : List EvV}
    (h : GOptionsOnly spec (isColon spec) pre evs) (x : Str) (hx : ∀ c cs, x ≠ '-' :: c :: cs) (xs : List Str) :
    obsOf (pre ++ x :: xs) (walkAll spec (pre ++ x :: xs)) = (evs, some (x :: xs)) := by
  rw [walkAll_eq_W, W_after_options h]
  simp [W_operand spec _ x xs hx, prependE]

/-- optstring `ab:` — `-a -b Y -- -- -a`: `a`, `b` with argument `Y`; operands `--`, `-a` -/
example : obsOf [['-','a'], ['-','b'], ['Y'], ['-','-'], ['-','-'], ['-','a']]
      (walkAll ['a','b',':'] [['-','a'], ['-','b'], ['Y'], ['-','-'], ['-','-'], ['-','a']]) =
    ([('a', none, false), ('b', some ['Y'], false)], some [['-','-'], ['-','a']]) :=
  getopts_dashdash_ends_anywhere ['a','b',':'] (pre := [['-','a'], ['-','b'], ['Y']])
    (GOptionsOnly.one 'a' [] [('a', none, false)] [['-','b'], ['Y']] [('b', some ['Y'], false)] (by decide)
      (fun next => by cases next <;> rfl)
      (GOptionsOnly.two 'b' [] ['Y'] [('b', some ['Y'], false)] [] [] (by decide) rfl GOptionsOnly.nil))
    [['-','-'], ['-','a']]

end Getopts
end YashModel.Args
