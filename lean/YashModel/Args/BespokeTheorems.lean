/-
  C20 — property theorems and non-vacuity examples for the bespoke parsers.

  Clause of the property: "grouped short options mean the same as separate ones, an option-argument
  attached to its option or given as the next argument is the same, … a long option … Equivalent
  spellings of an invocation have identical output, exit status and effect".  `set`
  (yash-builtin/src/set/syntax.rs: `-o name`, `+o name`, `--name`, `++name`, `--`, `-`), the shell's own
  command line (yash-cli/src/startup/args.rs) and `kill` (yash-builtin/src/kill/syntax.rs: `-s SIG`, `-n NUM`,
  `-SIG`, `-l`, `-v`) have parsers of their own.
-/
import YashModel.Args.SeparateModeLemmas
import YashModel.Args.KillLemmas
namespace YashModel.Args.Bespoke

/-- ★ `set`: for every answer table of `yash_env::option` that never yields the `portable` option
    (under `portable` the attached and long forms are rejected by design) and every argument vector,
    the vector and its fully separated spelling — every cluster `-xyz` / `+xyz` split into single
    letters, `-oNAME` written `-o NAME`, `--NAME` written `-o NAME`, `++NAME` written `+o NAME` — parse
    to the same command: the same options with the same states in the same order, the same
    positional parameters, or the same error. -/
theorem set_separated_same (nm : Names) (h : NoPortable nm) (args : List Str) :
    setParse nm false (separateSO true args) = setParse nm false args := by
  rw [← separateM_noPortable nm h]
  exact setParse_separateM nm false args

/-- two vectors with the same separated spelling parse alike (`-eu` / `-e -u` / `-ue`… are covered by
    instantiating this) -/
theorem set_same_separated_same_parse (nm : Names) (h : NoPortable nm) (a b : List Str)
    (hab : separateSO true a = separateSO true b) : setParse nm false a = setParse nm false b := by
  rw [← set_separated_same nm h a, ← set_separated_same nm h b, hab]

/-- ★ The shell's own command line (yash-cli/src/startup/args.rs): every cluster `-xyz` / `+xyz` of the
    arguments behind `argv[0]` may be written as single letters, and `-oNAME` as `-o NAME`, without
    changing the result of `parse` — the same `Run` (source, init files, options in order, `arg0`,
    positional parameters), `Help` / `Version`, or the same error.  (Long options are left alone: the
    command line has `--profile=…`, `--help`, … besides the shell options.) -/
theorem sh_separated_same (nm : Names) (h : NoPortable nm) (arg0 : Str) (args : List Str) :
    shParse nm (arg0 :: separateSO false args) = shParse nm (arg0 :: args) := by
  simp only [shParse]
  rw [← separateMsh_noPortable nm h, shLoop_separateM]

/-- ★ `kill` (while `portable` is off): `-lv` ≡ `-l -v`; `-sX` ≡ `-s X` and `-nX` ≡ `-n X` whenever `X` is a
    signal specification; `-X` ≡ `-s X` whenever the whole `X` is one (`-INT`, `-9`, `-sigint`); for every
    `str2sig` table, every initial signal and every vector — the same `Send` / `Print` command or the
    same error. -/
theorem kill_separated_same (nm : Names) (sigterm : Int) (args : List Str) :
    killParse nm false sigterm (separateKill nm args) = killParse nm false sigterm args := by
  unfold killParse
  rw [killLoop_separate nm args]

/-- ★ The Spec function `separateSO` meets its description: in its output every cluster in option position
    is a single letter (or contains its own sign as a letter), `-o` / `+o` is followed by the name as an
    argument of its own, and (for `set`) no `--name` / `++name` is left — so `set_separated_same` and
    `sh_separated_same` compare a vector with a really separated spelling. -/
theorem separateSO_is_separated (long : Bool) (args : List Str) :
    isSeparatedSO long (separateSO long args) = true :=
  match args with
  | [] => rfl
  | a :: rest => by
    cases hs : shortSign a with
    | some neg =>
      rw [separateSO_short long a rest neg hs, isSeparatedSO_cluster long neg a hs]
      cases (splitCluster (signChar neg) (a.drop 1)).2 with
      | true =>
        cases rest with
        | nil => rfl
        | cons x rest' => exact separateSO_is_separated long rest'
      | false => exact separateSO_is_separated long rest
    | none =>
      rw [separateSO]
      simp only [hs]
      cases long with
      | false =>
        simp only [Bool.false_eq_true, if_false]
        conv => lhs; unfold isSeparatedSO
        simp [hs]
      | true =>
        simp only [if_true]
        cases hlf : longForm a with
        | none =>
          simp only []
          conv => lhs; unfold isSeparatedSO
          simp [hs, hlf]
        | some q =>
          obtain ⟨neg, name⟩ := q
          simp only []
          rw [isSeparatedSO_single true neg 'o' _ (signChar_ne_o neg)]
          simp only [beq_self_eq_true, afterSep, if_true]
          exact separateSO_is_separated true rest

/-- ★ The shell's command line: for the long options that take an argument (`--profile`, `--rcfile` and their
    abbreviations) `--name=ARG` means `--name ARG` **for every ARG** — empty, starting or ending with `=`,
    containing any number of `=`: the name ends at the FIRST `=` and everything behind it is the argument.
    At any point of the option loop (any `portable` state `p`, any `Run` built so far), for every rest. -/
theorem sh_long_eq_arg_anywhere (nm : Names) (p : Bool) (r : Run) (name arg : Str) (ctor : Str → ShLong) (rest : List Str)
    (hname : name ≠ []) (heq : '=' ∉ name) (hctor : nonShell name = some (true, ctor))
    (h1 : nm.parseLong (name ++ '=' :: arg) = .noSuch) (h2 : nm.parseLong name = .noSuch) :
    shLoop nm p r (('-' :: '-' :: (name ++ '=' :: arg)) :: rest) =
      shLoop nm p r (('-' :: '-' :: name) :: arg :: rest) := by
  obtain ⟨ha, hb⟩ := shStep_long_eq_arg nm p name arg ctor rest.head? hname heq hctor h1 h2
  rw [shLoop_cons, shLoop_cons, ha]
  simp only [List.head?_cons]
  rw [hb]
  cases p <;> simp

/-- ★ … and as the first argument of the whole command line -/
theorem sh_long_eq_arg (nm : Names) (arg0 name arg : Str) (ctor : Str → ShLong) (rest : List Str)
    (hname : name ≠ []) (heq : '=' ∉ name) (hctor : nonShell name = some (true, ctor))
    (h1 : nm.parseLong (name ++ '=' :: arg) = .noSuch) (h2 : nm.parseLong name = .noSuch) :
    shParse nm (arg0 :: ('-' :: '-' :: (name ++ '=' :: arg)) :: rest) =
      shParse nm (arg0 :: ('-' :: '-' :: name) :: arg :: rest) := by
  simp only [shParse]
  rw [sh_long_eq_arg_anywhere nm false _ name arg ctor rest hname heq hctor h1 h2]

/-- the answers of yash_env::option for `e`, `u`, `errexit`, `nounset`, `err` -/
def exNames : Names where
  short := [('e', "errexit".toList, true), ('u', "unset".toList, false)]
  long := [("errexit".toList, .ok "errexit".toList true), ("nounset".toList, .ok "unset".toList false),
    ("err".toList, .ok "errexit".toList true), ("no".toList, .ambiguous)]

theorem exNames_noPortable : NoPortable exNames := noPortable_of_table exNames (by decide)

/-- `set -eu X` ≡ `set -e -u X`; `-eonounset`, `--err`, `++nounset` and their separated spellings -/
example : separateSO true [['-','e','u'], ['X']] = [['-','e'], ['-','u'], ['X']] := rfl
example : setParse exNames false [['-','e','u'], ['X']] = setParse exNames false [['-','e'], ['-','u'], ['X']] :=
  set_same_separated_same_parse exNames exNames_noPortable _ _ rfl
example : setParse exNames false [['-','e','u'], ['X']] =
    .ok (.modify [("errexit".toList, true), ("unset".toList, false)] (some [['X']])) := by rfl
example : setParse exNames false ['-' :: 'e' :: 'o' :: "nounset".toList, ['-','-'], ['-','e']] =
    setParse exNames false [['-','e'], ['-','o'], "nounset".toList, ['-','-'], ['-','e']] :=
  set_same_separated_same_parse exNames exNames_noPortable _ _ (by decide)
example : setParse exNames false ['-' :: '-' :: "err".toList, '+' :: '+' :: "nounset".toList] =
    setParse exNames false [['-','o'], "err".toList, ['+','o'], "nounset".toList] :=
  set_same_separated_same_parse exNames exNames_noPortable _ _ (by decide)
example : setParse exNames false ['-' :: '-' :: "err".toList, '+' :: '+' :: "nounset".toList] =
    .ok (.modify [("errexit".toList, true), ("unset".toList, true)] none) := by rfl
/-- errors are the same too: unknown letter inside a cluster, ambiguous name -/
example : setParse exNames false [['-','e','Z','u']] = .error (.unknownShort 'Z') := by rfl
example : setParse exNames false [['-','e'], ['-','Z'], ['-','u']] = .error (.unknownShort 'Z') := by rfl
example : setParse exNames false [['-','-','n','o']] = .error .ambiguousLong := by rfl
/-- under `portable` the attached form is rejected (so the equivalence is not claimed there) -/
example : setParse { exNames with info := [("errexit".toList, { portLong := some ("errexit".toList, true) })] } true
    ['-' :: 'o' :: "errexit".toList] = .error .unseparated := by rfl

/-- command line: `sh -ec cmd` ≡ `sh -e -c cmd`; `-eoerrexit` ≡ `-e -o errexit`; `-eV` is `Version` either way -/
def exShNames : Names := { exNames with short := exNames.short ++ [('c', "cmdline".toList, true)] }
theorem exShNames_noPortable : NoPortable exShNames := noPortable_of_table exShNames (by decide)
example : separateSO false [['-','e','c'], ['x']] = [['-','e'], ['-','c'], ['x']] := rfl
example : shParse exShNames [['s','h'], ['-','e','c'], ['x'], ['y']] = shParse exShNames [['s','h'], ['-','e'], ['-','c'], ['x'], ['y']] := by
  rw [← sh_separated_same exShNames exShNames_noPortable]; rfl
example : shParse exShNames [['s','h'], ['-','e','c'], ['x'], ['y']] =
    .ok (.run { source := .string ['x'], options := [("posixlycorrect".toList, true), ("errexit".toList, true), ("cmdline".toList, true)],
                arg0 := ['y'], params := [] }) := by rfl
example : shParse exShNames [['s','h'], ['-','e','V']] = .ok .version := by rfl
example : shParse exShNames [['s','h'], ['-','e'], ['-','V']] = .ok .version := by rfl

/-- kill: `-sINT 1` ≡ `-s INT 1`, `-INT 1` ≡ `-s INT 1`, `-lv` ≡ `-l -v`; `-stop` stays whole -/
def exSig : Names := { sig := [("INT".toList, 2), ("STOP".toList, 19)] }
example : separateKill exSig ['-' :: 's' :: "INT".toList, ['1']] = [['-','s'], "INT".toList, ['1']] := by decide +kernel
example : separateKill exSig ['-' :: "int".toList, ['1']] = [['-','s'], "int".toList, ['1']] := by decide +kernel
example : separateKill exSig [['-','l','v'], ['9']] = [['-','l'], ['-','v'], ['9']] := by decide +kernel
example : separateKill exSig ['-' :: "stop".toList, ['1']] = ['-' :: "stop".toList, ['1']] := by decide +kernel
example : killParse exSig false 15 ['-' :: 's' :: "INT".toList, ['1']] = .ok (.send 2 true [['1']]) := by rfl
example : killParse exSig false 15 [['-','s'], "INT".toList, ['1']] = .ok (.send 2 true [['1']]) := by rfl
example : killParse exSig false 15 ['-' :: "stop".toList, ['1']] = .ok (.send 19 true [['1']]) := by rfl
example : killParse exSig false 15 ['-' :: 's' :: "INT".toList, ['-','l']] = .error (.conflictingOptions 'l') := by rfl

example : isSeparatedSO true [['-','e','u'], ['-','-','e','r','r']] = false := by decide
example : isSeparatedSO true (separateSO true [['-','e','u','o','x'], ['-','-','e','r','r']]) = true := by decide

/-- `sh --rc=/etc/mode=login/rc=` ≡ `sh --rc /etc/mode=login/rc=`: the argument keeps all its `=` -/
example : shParse exShNames [['s','h'], '-' :: '-' :: "rc=/etc/mode=login/rc=".toList, ['x']] =
    shParse exShNames [['s','h'], ['-','-','r','c'], "/etc/mode=login/rc=".toList, ['x']] := by
  simpa using sh_long_eq_arg exShNames ['s','h'] ['r','c'] "/etc/mode=login/rc=".toList ShLong.rcfile [['x']]
    (by decide) (by decide) (by rfl) (by decide +kernel) (by decide +kernel)
example : shParse exShNames [['s','h'], '-' :: '-' :: "rc=/etc/mode=login/rc=".toList, ['x']] =
    .ok (.run { source := .file ['x'], rcfile := .file "/etc/mode=login/rc=".toList,
                options := [("posixlycorrect".toList, true)], arg0 := ['x'], params := [] }) := by
  simp only [String.reduceToList]; rfl   -- unfolding a long string literal inside `rfl` is slow
example : shParse exShNames [['s','h'], '-' :: '-' :: "profile==".toList] =
    shParse exShNames [['s','h'], "--profile".toList, ['=']] := by
  simpa using sh_long_eq_arg exShNames ['s','h'] "profile".toList ['='] ShLong.profile [] (by decide) (by decide)
    (by rfl) (by decide +kernel) (by decide +kernel)

end YashModel.Args.Bespoke
