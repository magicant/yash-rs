/-
  C20, getopts leg — property theorems and non-vacuity examples.

  `getopts` has its own option walker (yash-builtin/src/getopts/model.rs `next`), driven by the script
  through `$OPTIND` over several calls.  Clause of the property: "grouped short options mean the same
  as separate ones … an option-argument attached to its option or given as the next argument is the
  same … Equivalent spellings of an invocation have identical output, exit status and effect".
-/
import YashModel.Args.GetoptsLemmas
import YashModel.Args.GetoptsHistoryLemmas
namespace YashModel.Args.Getopts

/-- ★ For every optstring (known letters, letters with `:`, leading `:`, unknown letters, `:` and `-`
    as letters) and every argument vector: running `getopts` to the end on the vector and on its
    fully separated spelling (every group split into one argument per letter, attached
    option-arguments moved to the next argument) yields the same sequence of (option variable,
    `$OPTARG`, diagnostic printed) and leaves the same operands.  In particular an unknown letter or a
    missing argument inside a group is reported exactly as when written separately, and the letters
    behind it are still examined. -/
theorem getopts_grouping_invariant (spec : Str) (args : List Str) :
    obsOf args (walkAll spec args) = specObs spec args :=
  (walk_separate spec args).symm

/-- ★ The Spec function `separate` meets its description: in its output every group in option position is
    a single letter (or contains the letter `-`, which cannot be split off) and every option-argument is
    an argument of its own — so `getopts_grouping_invariant` really compares a vector with a *fully
    separated* spelling (it would be empty if `separate` did nothing). -/
theorem separate_is_separated (spec : Str) (args : List Str) : isSeparated spec (separate spec args) = true :=
  separate_isSeparated spec args

/-- ☆ The loop of calls of `next`, with `$OPTIND = arg[:char]` carried between them and the fuel
    `fuelFor`, always terminates with the call that returns non-zero, and observes exactly what a
    one-pass structural walk of the vector observes. -/
theorem getopts_loop_is_structural_walk (spec : Str) (args : List Str) :
    obsOf args (walkAll spec args) = ((W spec (isColon spec) args).1, some (W spec (isColon spec) args).2) :=
  walkAll_eq_W spec args

/-- ★ Whatever happened before in the shell — any remembered getopts state (other arguments, other
    `Origin`, any position), any values of the option variable and `$OPTARG`, any positional
    parameters — a session that starts with `OPTIND=1` and is run to completion is observed exactly
    like the same session in a fresh shell: the same (variable, `$OPTARG`, `$OPTIND`, diagnostic) per
    call, the same final status and the same final values.  For every spelling, optstring and vector. -/
theorem getopts_reset_restarts (env : GEnv) (sp : Spelling) (spec : Str) (vec : List Str) (h : WellFormed sp vec) :
    (runSession { env with optind := ['1'] } sp spec vec none).1 = freshObs sp spec vec :=
  runSession_reset { env with optind := ['1'] } rfl sp spec vec h

/-- ★ `getopts spec v` (positional parameters), `getopts spec v "$@"` and `getopts spec v args…` are
    indistinguishable after any history that ends with `OPTIND=1` (in a fresh shell: `freshObs_spelling`). -/
theorem getopts_spelling_invariant (env : GEnv) (sp sp' : Spelling) (spec : Str) (vec : List Str)
    (h : WellFormed sp vec) (h' : WellFormed sp' vec) :
    (runSession { env with optind := ['1'] } sp spec vec none).1 =
      (runSession { env with optind := ['1'] } sp' spec vec none).1 :=
  runSession_of_reset rfl rfl sp sp' spec vec h h'

/-- ☆ a whole history of complete sessions, each preceded by `OPTIND=1`, from any environment: every
    session is observed as in a fresh shell with the implicit spelling -/
theorem getopts_history_of_resets (sessions : List (Spelling × Str × List Str))
    (hw : ∀ s ∈ sessions, WellFormed s.1 s.2.2) (env : GEnv) :
    runHistory env (sessions.flatMap fun s => [.assign ['1'], .session s.1 s.2.1 s.2.2 none]) =
      sessions.flatMap fun s => [none, some (freshObs .implicit s.2.1 s.2.2)] := by
  induction sessions generalizing env with
  | nil => rfl
  | cons s rest ih =>
    have hs := hw s (by simp)
    have ih' := fun env => ih (fun t ht => hw t (by simp [ht])) env
    simp only [List.flatMap_cons, List.cons_append, List.nil_append, runHistory]
    rw [ih']
    have := getopts_reset_restarts env s.1 s.2.1 s.2.2 hs
    rw [this, freshObs_spelling s.1 s.2.1 s.2.2 hs]

/-- optstring `ab:` — `-axb Y Z`: `a`, unknown `x` (diagnostic), `b` with argument `Y`; operand `Z` -/
example : separate ['a','b',':'] [['-','a','x','b'], ['Y'], ['Z']] = [['-','a'], ['-','x'], ['-','b'], ['Y'], ['Z']] := rfl
example : obsOf [['-','a','x','b'], ['Y'], ['Z']] (walkAll ['a','b',':'] [['-','a','x','b'], ['Y'], ['Z']]) =
    ([('a', none, false), ('?', none, true), ('b', some ['Y'], false)], some [['Z']]) := by decide +kernel
example : specObs ['a','b',':'] [['-','a','x','b'], ['Y'], ['Z']] =
    ([('a', none, false), ('?', none, true), ('b', some ['Y'], false)], some [['Z']]) := by decide +kernel
/-- the `$OPTIND` values a script sees differ between the spellings (`1:2`, `1:3`, `3` vs `2`, `3`, `5`) -/
example : (walkAll ['a','b',':'] [['-','a','x','b'], ['Y'], ['Z']]).1.map (·.optind) = [(1,2), (1,3), (3,1)] := by decide +kernel
example : (walkAll ['a','b',':'] [['-','a'], ['-','x'], ['-','b'], ['Y'], ['Z']]).1.map (·.optind) = [(2,1), (3,1), (5,1)] := by decide +kernel
/-- leading `:` — unknown letter and missing argument are reported through the variable and `$OPTARG` -/
example : obsOf [['-','x','a','b']] (walkAll [':','a','b',':'] [['-','x','a','b']]) =
    ([('?', some ['x'], false), ('a', none, false), (':', some ['b'], false)], some []) := by decide +kernel
/-- attached argument, `--`, a group with the letter `-` (kept whole by `separate`) -/
example : separate ['a','b',':'] [['-','a','b','X'], ['-','-'], ['-','a']] = [['-','a'], ['-','b'], ['X'], ['-','-'], ['-','a']] := rfl
example : separate ['a'] [['-','a','-']] = [['-','a','-']] := rfl
example : obsOf [['-','a','b','X'], ['-','-'], ['-','a']] (walkAll ['a','b',':'] [['-','a','b','X'], ['-','-'], ['-','a']]) =
    ([('a', none, false), ('b', some ['X'], false)], some [['-','a']]) := by decide +kernel

/-- a session with positional parameters, then `OPTIND=1`, then the same vector written literally -/
example : runHistory freshEnv [.session .implicit ['a','b'] [['-','a','b']] none, .assign ['1'],
      .session .literal ['a','b'] [['-','a','b']] none] =
    [some (freshObs .implicit ['a','b'] [['-','a','b']]), none, some (freshObs .implicit ['a','b'] [['-','a','b']])] := by
  decide
example : (freshObs .implicit ['a','b'] [['-','a','b']]).calls =
    [⟨'a', none, ['1',':','2'], false⟩, ⟨'b', none, ['2'], false⟩] := by decide +kernel
/-- the documented misuse: no reset between two sessions -> the second is refused (status 2) -/
example : (runHistory freshEnv [.session .literal ['a','b'] [['-','a']] none,
      .session .literal ['a','b'] [['-','b']] none]).map (·.map (·.fin)) = [some (some 1), some (some 2)] := by decide +kernel
/-- garbage in `$OPTIND` with no remembered state is refused as well -/
example : (runHistory freshEnv [.assign ['x'], .session .implicit ['a'] [['-','a']] none]).map (·.map (·.fin)) =
    [none, some (some 2)] := by decide +kernel

/-- `-axbY Z` with `b:` is not separated; its separated spelling is -/
example : isSeparated ['a','b',':'] [['-','a','x','b','Y'], ['Z']] = false := by decide +kernel
example : isSeparated ['a','b',':'] (separate ['a','b',':'] [['-','a','x','b','Y'], ['Z']]) = true := by decide +kernel

end YashModel.Args.Getopts
