/-
  C20 — property theorems and non-vacuity examples: how an option *name* is read
  (`set -o NAME`, `-oNAME`, `--NAME`, `++NAME`, the shell's command line).  Documented rule: "only
  alphanumeric characters matter in long option names, and they are case-insensitive" (Unicode
  alphanumerics; ASCII case).  Clauses: equivalent spellings parse alike; malformed ones are rejected.
-/
import YashModel.Args.OptionNamesLemmas
namespace YashModel.Args.OptionNames

/-- ★ `canonicalize` has one meaning on both of its paths: keep the (Unicode) alphanumerics, fold ASCII
    case.  (A name that takes the fast path is returned unchanged, and that is what the slow path would
    have produced.) -/
theorem canonicalize_paths_agree (extra : List (Char × Bool)) (name : Str) :
    canonicalize extra name = strip extra name := by
  unfold canonicalize
  split
  · rename_i h
    unfold strip
    induction name with
    | nil => rfl
    | cons c rest ih =>
      simp only [List.all_cons, Bool.and_eq_true] at h
      obtain ⟨⟨ha, hu⟩, hr⟩ := h
      have hu' : isAsciiUpper c = false := by simpa using hu
      simp only [List.filter_cons, ha, if_true, List.map_cons, lowerAscii_id c hu']
      rw [← ih hr]
  · rfl

/-- ★ a canonical name with a character that occurs in no option name never matches (not exactly, not as an
    abbreviation, not after removing `no`) -/
theorem foreign_character_never_matches (table : List Str) (name : Str) (c : Char) (hc : c ∈ name)
    (ht : ∀ t ∈ table, c ∉ t) (hn : c ≠ 'n') (ho : c ≠ 'o') : parseLong table name = .noSuch := by
  unfold parseLong
  have hp : name.isPrefixOf ['n', 'o'] = false := by
    cases h : name.isPrefixOf ['n', 'o'] with
    | false => rfl
    | true =>
      have := (List.isPrefixOf_iff_prefix.mp h).subset hc
      simp at this
      rcases this with h | h
      · exact absurd h hn
      · exact absurd h ho
  rw [hp]
  simp only [Bool.false_eq_true, if_false, fromStr_foreign table name c hc ht]
  cases hs : stripNo name with
  | none => rfl
  | some rest =>
    have hrest : c ∈ rest := by
      unfold stripNo at hs
      split at hs
      · rename_i r
        cases hs
        simp at hc
        rcases hc with h | h | h
        · exact absurd h hn
        · exact absurd h ho
        · exact h
      · cases hs
    simp only [fromStr_foreign table rest c hrest ht]

/-- ★ inserting an ignorable character (anything that is not alphanumeric) anywhere in a name does not change
    what it names — whatever else the name contains, non-ASCII letters included -/
theorem name_insert_ignorable (table : List Str) (extra : List (Char × Bool)) (pre post : Str) (c : Char)
    (h : isAlnum extra c = false) :
    resolve table extra (pre ++ c :: post) = resolve table extra (pre ++ post) := by
  unfold resolve
  rw [canonicalize_paths_agree, canonicalize_paths_agree, strip_insert_ignorable extra pre post c h]

/-- ★ changing the case of an ASCII letter anywhere in a name does not change what it names -/
theorem name_ascii_case (table : List Str) (extra : List (Char × Bool)) (pre post : Str) (c : Char)
    (h : isAsciiUpper c = true) :
    resolve table extra (pre ++ c :: post) = resolve table extra (pre ++ lowerAscii c :: post) := by
  unfold resolve
  rw [canonicalize_paths_agree, canonicalize_paths_agree, strip_ascii_case extra pre post c h]

/-- ★ for the shell's real option table: a name containing a non-ASCII alphanumeric character is unknown in
    every spelling (`errexité`, `err-exité`, `ERREXITé`, `Err_Exité`, `x-é` …) -/
theorem non_ascii_alphanumeric_name_is_unknown (extra : List (Char × Bool)) (raw : Str) (c : Char) (hc : c ∈ raw)
    (hna : 128 ≤ c.toNat) (ha : isAlnum extra c = true) :
    resolve Generated.OptionNames.optionNames extra raw = .noSuch := by
  unfold resolve
  rw [canonicalize_paths_agree]
  have hu : isAsciiUpper c = false := by
    cases h : isAsciiUpper c with
    | false => rfl
    | true => have := (upper_bounds c h).2; omega
  have hmem := mem_strip extra raw c hc ha hu
  have hlow : ∀ d : Char, ('a' ≤ d && d ≤ 'z') = true → d.toNat ≤ 122 := by
    intro d hd
    simp only [Bool.and_eq_true, decide_eq_true_eq] at hd
    exact hd.2
  have ht : ∀ t ∈ Generated.OptionNames.optionNames, c ∉ t := by
    intro t hmt hct
    have := List.all_eq_true.mp optionNames_ascii t hmt
    have := hlow c (List.all_eq_true.mp this c hct)
    omega
  apply foreign_character_never_matches _ _ c hmem ht
  · intro h; subst h; simp at hna
  · intro h; subst h; simp at hna

def exExtra : List (Char × Bool) := [('é', true), ('–', false)]
def T := Generated.OptionNames.optionNames

example : resolve T exExtra "errexit".toList = .ok "errexit".toList true := by decide +kernel
example : resolve T exExtra "Err-Exit".toList = .ok "errexit".toList true := by decide +kernel
example : resolve T exExtra "no_CLOBBER".toList = .ok "clobber".toList false := by decide +kernel
example : resolve T exExtra "err–exit".toList = .ok "errexit".toList true := by decide +kernel
example : resolve T exExtra "x".toList = .ok "xtrace".toList true := by decide +kernel
example : resolve T exExtra "e".toList = .ambiguous := by decide +kernel
/-- the two paths: `errexité` (fast path) and `err-exité` (slow path) are the same unknown name -/
example : canonicalize exExtra "errexité".toList = "errexité".toList := by decide +kernel
example : canonicalize exExtra "Err-Exité".toList = "errexité".toList := by decide +kernel
example : resolve T exExtra "errexité".toList = .noSuch := by decide +kernel
example : resolve T exExtra "err-exité".toList = .noSuch :=
  non_ascii_alphanumeric_name_is_unknown exExtra _ 'é' (by decide) (by decide) (by decide)
example : resolve T exExtra "x-é".toList = .noSuch :=
  non_ascii_alphanumeric_name_is_unknown exExtra _ 'é' (by decide) (by decide) (by decide)
example : resolve T exExtra "err-exité".toList = resolve T exExtra "errexité".toList := by
  simpa using name_insert_ignorable T exExtra "err".toList "exité".toList '-' (by decide)
example : resolve T exExtra "Errexité".toList = resolve T exExtra "errexité".toList :=
  name_ascii_case T exExtra [] ['r','r','e','x','i','t','é'] 'E' (by decide)

end YashModel.Args.OptionNames
