/-
  C20 — `kill`: its option loop argument by argument.  `KillShape` / `killShape` say what one argument in option position is
  (decided against `str2sig` through `parseSignal`); `separateKill_by_shape` says that the Spec function `separateKill` is exactly
  the rewrite this classification defines, `killLoop_by_shape` what the loop does with an argument of each shape; hence the
  separated spelling is read alike (`killLoop_separate`).  `KillOptionsOnly`: a prefix behind which the loop starts afresh.
-/
import YashModel.Args.BespokeSpec
import YashModel.Common.Lists
namespace YashModel.Args.Bespoke

/-- what ONE argument in option position is to kill's syntax, decided against `str2sig` (through `parseSignal`):
    * `operand`   not `-x…` (a process / job id, `-` alone, the empty string): the options end, it stays
    * `separator` `--`
    * `flags`     `-` followed by letters `l` / `v` only
    * `sigOption` `-[lv]*s` / `-[lv]*n`, bare (takes the next argument) or with an attached text that is a signal specification
    * `sigSpec`   `-X` where the whole `X` is a signal specification (a number — so `-1`, `-9` are SIGNALS, never
                  negative process ids — or a name `str2sig` knows, any case, optional `SIG`) and does not start with `l` / `v`
    * `opaque`    anything else (`-stop`: `-s` with `top`, then the whole `stop`; `-x`; `-sFOO`): no separated spelling -/
inductive KillShape where
  | operand
  | separator
  | flags (pre : Str)
  | sigOption (pre : Str) (c : Char) (attached : Str)
  | sigSpec (spec : Str)
  | opaque
  deriving DecidableEq, Repr

def killShape (nm : Names) (a : Str) : KillShape :=
  if !killIsOption a then .operand
  else if a = ['-', '-'] then .separator
  else
    let options := a.drop 1
    let pre := options.takeWhile killFlag
    match options.dropWhile killFlag with
    | [] => .flags pre
    | c :: remainder =>
      if c = 's' ∨ c = 'n' then
        (if remainder.isEmpty ∨ (parseSignal nm remainder true).isSome then .sigOption pre c remainder else .opaque)
      else if pre.isEmpty ∧ (parseSignal nm options true).isSome then .sigSpec options
      else .opaque

/-- a prefix that kill's option loop consumes entirely as options (with the signal arguments `-s` / `-n` take) -/
inductive KillOptionsOnly (nm : Names) (portable : Bool) : KillState → List Str → KillState → Prop
  | nil (st : KillState) : KillOptionsOnly nm portable st [] st
  | one (st : KillState) (a : Str) (st' : KillState) (rest : List Str) (st'' : KillState) :
      killIsOption a = true → a ≠ ['-', '-'] →
      (∀ next, killChars nm portable (a.drop 1) next st (a.drop 1) = .ok (st', false)) →
      KillOptionsOnly nm portable st' rest st'' → KillOptionsOnly nm portable st (a :: rest) st''
  | two (st : KillState) (a x : Str) (st' : KillState) (rest : List Str) (st'' : KillState) :
      killIsOption a = true → a ≠ ['-', '-'] →
      killChars nm portable (a.drop 1) (some x) st (a.drop 1) = .ok (st', true) →
      KillOptionsOnly nm portable st' rest st'' → KillOptionsOnly nm portable st (a :: x :: rest) st''

abbrev KLooped := Except KillErr (KillState × List Str)

def contK (nm : Names) (x : Except KillErr (KillState × Bool)) (tail : List Str) : KLooped :=
  match x with
  | .error e => .error e
  | .ok (st', took) => killLoop nm false st' (if took then tail.tail else tail)

theorem killIsOption_dash {opts : Str} (h1 : opts ≠ []) : killIsOption ('-' :: opts) = true := by
  cases opts with
  | nil => exact absurd rfl h1
  | cons c t => rfl

theorem dash_ne_dashdash {opts : Str} (h2 : opts ≠ ['-']) : ('-' :: opts) ≠ ['-', '-'] :=
  fun h => h2 (by simpa using h)

theorem killLoop_option (nm : Names) (st : KillState) (opts : Str) (rest : List Str)
    (h1 : opts ≠ []) (h2 : opts ≠ ['-']) :
    killLoop nm false st (('-' :: opts) :: rest) = contK nm (killChars nm false opts rest.head? st opts) rest := by
  rw [killLoop]
  simp only [killIsOption_dash h1, Bool.not_true, Bool.false_eq_true, if_false, dash_ne_dashdash h2, List.drop_succ_cons,
    List.drop_zero]
  cases hx : killChars nm false opts rest.head? st opts with
  | error e => rfl
  | ok q =>
    obtain ⟨st', took⟩ := q
    cases took with
    | false => simp [contK]
    | true =>
      cases rest with
      | nil => simp [contK, killLoop]
      | cons b rest' => simp [contK]

def applyFlags (st : KillState) : Str → KillState
  | [] => st
  | c :: cs => applyFlags (if c = 'l' then { st with list := true } else { st with verbose := true }) cs

theorem killChars_cons (nm : Names) (opts : Str) (next : Option Str) (st : KillState) (c : Char) (remainder : Str) :
    killChars nm false opts next st (c :: remainder) =
      if c = 's' ∨ c = 'n' then
        (if remainder.isEmpty then
          (match next with
           | none => .error (.missingSignal c)
           | some arg => withTook true (setSignal st (parseSignal nm arg true)))
         else withTook false (setSignal st ((parseSignal nm remainder true).orElse fun _ => parseSignal nm opts true)))
      else if c = 'l' then killChars nm false opts next { st with list := true } remainder
      else if c = 'v' then killChars nm false opts next { st with verbose := true } remainder
      else withTook false (invalidToUnknown (setSignal st (parseSignal nm opts true))) := by
  conv => lhs; unfold killChars
  simp only [Bool.false_eq_true, and_false, false_and, if_false, Bool.not_false]
  split
  · split
    · cases next <;> rfl
    · rfl
  · rfl

theorem killChars_flags (nm : Names) (opts : Str) (next : Option Str) :
    ∀ (pre : Str) (st : KillState) (tl : Str), (∀ c ∈ pre, killFlag c = true) →
      killChars nm false opts next st (pre ++ tl) = killChars nm false opts next (applyFlags st pre) tl := by
  intro pre
  induction pre with
  | nil => intro st tl _; rfl
  | cons c pre ih =>
    intro st tl h
    have hc := h c (by simp)
    have ih' := fun st => ih st tl (fun d hd => h d (by simp [hd]))
    rw [List.cons_append, killChars_cons]
    simp only [killFlag, decide_eq_true_eq] at hc
    rcases hc with rfl | rfl
    · simp [applyFlags, ih']
    · simp [applyFlags, ih']

theorem killLoop_flags (nm : Names) : ∀ (pre : Str) (st : KillState) (tail : List Str),
    (∀ c ∈ pre, killFlag c = true) →
      killLoop nm false st (pre.map (fun c => ['-', c]) ++ tail) = killLoop nm false (applyFlags st pre) tail := by
  intro pre
  induction pre with
  | nil => intro st tail _; rfl
  | cons c pre ih =>
    intro st tail h
    have hc := h c (by simp)
    simp only [killFlag, decide_eq_true_eq] at hc
    simp only [List.map_cons, List.cons_append]
    rw [killLoop_option nm st [c] _ (by simp) (by rcases hc with rfl | rfl <;> decide), killChars_cons]
    rcases hc with rfl | rfl
    · simp [contK, killChars, applyFlags, ih _ tail (fun d hd => h d (by simp [hd]))]
    · simp [contK, killChars, applyFlags, ih _ tail (fun d hd => h d (by simp [hd]))]

theorem killLoop_sigOption (nm : Names) (st : KillState) (c : Char) (x : Str) (tail : List Str)
    (hsn : c = 's' ∨ c = 'n') :
    killLoop nm false st (['-', c] :: x :: tail) =
      contK nm (withTook true (setSignal st (parseSignal nm x true))) (x :: tail) := by
  rw [killLoop_option nm st [c] _ (by simp) (by rcases hsn with rfl | rfl <;> decide), killChars_cons]
  simp only [hsn, if_true, List.isEmpty_nil, List.head?_cons]

theorem invalidToUnknown_setSignal_some (st : KillState) (n : Int) :
    invalidToUnknown (setSignal st (some n)) = setSignal st (some n) := by
  by_cases h : st.hasOrigin = true <;> simp [setSignal, h, invalidToUnknown]

/-- what `killShape` has found out about the text `opts` behind the `-` when it answers with a shape -/
inductive KillOptForm (nm : Names) (opts : Str) : KillShape → Prop
  | flags (htl : opts.dropWhile killFlag = []) : KillOptForm nm opts (.flags (opts.takeWhile killFlag))
  | sigOption (c : Char) (rem : Str) (htl : opts.dropWhile killFlag = c :: rem) (hsn : c = 's' ∨ c = 'n')
      (hatt : rem ≠ [] → (parseSignal nm rem true).isSome = true) :
      KillOptForm nm opts (.sigOption (opts.takeWhile killFlag) c rem)
  | sigSpec (c : Char) (rem : Str) (htl : opts.dropWhile killFlag = c :: rem) (hsn : ¬ (c = 's' ∨ c = 'n'))
      (hl : c ≠ 'l') (hv : c ≠ 'v') (hpre : opts.takeWhile killFlag = [])
      (hsig : (parseSignal nm opts true).isSome = true) : KillOptForm nm opts (.sigSpec opts)
  | opaqueSig (c r0 : Char) (rem : Str) (htl : opts.dropWhile killFlag = c :: r0 :: rem) (hsn : c = 's' ∨ c = 'n')
      (hno : (parseSignal nm (r0 :: rem) true).isSome = false) : KillOptForm nm opts .opaque
  | opaqueOther (c : Char) (rem : Str) (htl : opts.dropWhile killFlag = c :: rem) (hsn : ¬ (c = 's' ∨ c = 'n'))
      (hl : c ≠ 'l') (hv : c ≠ 'v')
      (hno : ¬ ((opts.takeWhile killFlag).isEmpty = true ∧ (parseSignal nm opts true).isSome = true)) : KillOptForm nm opts .opaque

inductive KillForm (nm : Names) (a : Str) : KillShape → Prop
  | operand (hk : killIsOption a = false) : KillForm nm a .operand
  | separator (ha : a = ['-', '-']) : KillForm nm a .separator
  | option (opts : Str) (ha : a = '-' :: opts) (h1 : opts ≠ []) (h2 : opts ≠ ['-']) {sh : KillShape}
      (inner : KillOptForm nm opts sh) : KillForm nm a sh

theorem killForm (nm : Names) (a : Str) : KillForm nm a (killShape nm a) := by
  unfold killShape
  cases hk : killIsOption a with
  | false => simp only [Bool.not_false, if_true]; exact .operand hk
  | true =>
    by_cases hdd : a = ['-', '-']
    · simp only [Bool.not_true, Bool.false_eq_true, hdd, if_true, if_false]; exact .separator rfl
    · obtain ⟨opts, rfl, h1, h2⟩ : ∃ opts, a = '-' :: opts ∧ opts ≠ [] ∧ opts ≠ ['-'] := by
        unfold killIsOption at hk
        split at hk
        · rename_i c t; exact ⟨c :: t, rfl, by simp, fun h => hdd (by rw [h])⟩
        · cases hk
      simp only [Bool.not_true, Bool.false_eq_true, hdd, if_false, List.drop_succ_cons, List.drop_zero]
      cases htl : opts.dropWhile killFlag with
      | nil => exact .option opts rfl h1 h2 (.flags htl)
      | cons c rem =>
        simp only []
        by_cases hsn : c = 's' ∨ c = 'n'
        · simp only [hsn, if_true]
          by_cases h : rem.isEmpty = true ∨ (parseSignal nm rem true).isSome = true
          · simp only [h, if_true]
            exact .option opts rfl h1 h2 (.sigOption c rem htl hsn (fun hne => h.resolve_left (by simpa using hne)))
          · simp only [h, if_false]
            cases rem with
            | nil => exact absurd (Or.inl rfl) h
            | cons r0 rem => exact .option opts rfl h1 h2 (.opaqueSig c r0 rem htl hsn (by simpa using fun hs => h (Or.inr hs)))
        · -- `c` stopped the scan for `l` / `v`
          have hcf : killFlag c = false := by have := List.head?_dropWhile_not killFlag opts; rwa [htl] at this
          have hl : c ≠ 'l' := fun h => by simp [h, killFlag] at hcf
          have hv : c ≠ 'v' := fun h => by simp [h, killFlag] at hcf
          simp only [hsn, if_false]
          by_cases h : (opts.takeWhile killFlag).isEmpty = true ∧ (parseSignal nm opts true).isSome = true
          · simp only [h, and_self, if_true]
            exact .option opts rfl h1 h2 (.sigSpec c rem htl hsn hl hv (List.isEmpty_iff.mp h.1) h.2)
          · simp only [h, if_false]
            exact .option opts rfl h1 h2 (.opaqueOther c rem htl hsn hl hv h)

/-- ★ `separateKill` is the rewrite this classification defines — nothing else: flags are split, a signal option gets its
    argument as the next argument, a whole signal specification becomes `-s SPEC`, an operand / `--` ends the rewriting,
    an opaque argument is kept -/
theorem separateKill_by_shape (nm : Names) (a : Str) (rest : List Str) :
    separateKill nm (a :: rest) =
      match killShape nm a with
      | .operand => a :: rest
      | .separator => a :: rest
      | .flags pre => pre.map (fun c => ['-', c]) ++ separateKill nm rest
      | .sigOption pre c attached =>
        if attached.isEmpty then
          (match rest with
           | [] => pre.map (fun c => ['-', c]) ++ [['-', c]]
           | x :: rest' => pre.map (fun c => ['-', c]) ++ ['-', c] :: x :: separateKill nm rest')
        else pre.map (fun c => ['-', c]) ++ ['-', c] :: attached :: separateKill nm rest
      | .sigSpec spec => ['-', 's'] :: spec :: separateKill nm rest
      | .opaque => a :: separateKill nm rest := by
  have hf := killForm nm a
  generalize killShape nm a = sh at hf
  rw [separateKill]
  cases hf with
  | operand hk => simp [hk]
  | separator ha => simp [ha]
  | option opts ha h1 h2 inner =>
    subst ha
    simp only [killIsOption_dash h1, dash_ne_dashdash h2, Bool.not_true, Bool.false_eq_true, false_or, if_false,
      List.drop_succ_cons, List.drop_zero]
    cases inner with
    | flags htl => simp [htl]
    | sigOption c rem htl hsn hatt =>
      simp only [htl, hsn, if_true]
      cases rem with
      | nil => cases rest <;> rfl
      | cons r0 rem => simp [hatt (by simp)]
    | sigSpec c rem htl hsn _ _ hpre hsig => simp [htl, hsn, hpre, hsig]
    | opaqueSig c r0 rem htl hsn hno => simp [htl, hsn, hno]
    | opaqueOther c rem htl hsn _ _ hno => simp only [htl, hsn, hno, if_false]

/-- ★ the spelling rewrite stops at an operand and at `--`: they are kept verbatim with everything behind them.  (An
    opaque argument is kept too, but the rewriting goes on behind it: `separateKill_by_shape`.) -/
theorem separateKill_keeps (nm : Names) (a : Str) (rest : List Str)
    (h : killShape nm a = .operand ∨ killShape nm a = .separator) : separateKill nm (a :: rest) = a :: rest := by
  rw [separateKill_by_shape]
  rcases h with h | h <;> simp [h]

def thenK (nm : Names) (y : Except KillErr KillState) (tail : List Str) : KLooped :=
  match y with
  | .error e => .error e
  | .ok st => killLoop nm false st tail

theorem contK_false (nm : Names) (y : Except KillErr KillState) (tail : List Str) :
    contK nm (withTook false y) tail = thenK nm y tail := by cases y <;> rfl

theorem contK_true (nm : Names) (y : Except KillErr KillState) (x : Str) (tail : List Str) :
    contK nm (withTook true y) (x :: tail) = thenK nm y tail := by cases y <;> rfl

/-- what an argument without a separated spelling does (`opts` = its text, the last argument = what is left of it behind
    the leading `l` / `v`): `-sFOO` / `-nFOO` try `FOO`, then the whole text; any other letter makes the whole text the signal -/
def killOpaque (nm : Names) (st : KillState) (opts : Str) : Str → Except KillErr KillState
  | [] => .ok st
  | c :: remainder =>
    if c = 's' ∨ c = 'n' then
      setSignal st ((parseSignal nm remainder true).orElse fun _ => parseSignal nm opts true)
    else invalidToUnknown (setSignal st (parseSignal nm opts true))

theorem killLoop_opts (nm : Names) (st : KillState) (opts : Str) (rest : List Str) (h1 : opts ≠ []) (h2 : opts ≠ ['-']) :
    killLoop nm false st (('-' :: opts) :: rest) =
      contK nm (killChars nm false opts rest.head? (applyFlags st (opts.takeWhile killFlag)) (opts.dropWhile killFlag)) rest := by
  have hflags := killChars_flags nm opts rest.head? (opts.takeWhile killFlag) st (opts.dropWhile killFlag)
    (fun c hc => Common.mem_takeWhile hc)
  rw [List.takeWhile_append_dropWhile] at hflags
  rw [killLoop_option nm st opts rest h1 h2, hflags]

theorem killLoop_by_shape (nm : Names) (st : KillState) (a : Str) (rest : List Str) :
    killLoop nm false st (a :: rest) =
      match killShape nm a with
      | .operand => .ok (st, a :: rest)
      | .separator => .ok (st, rest)
      | .flags pre => killLoop nm false (applyFlags st pre) rest
      | .sigOption pre c attached =>
        if attached.isEmpty then
          (match rest with
           | [] => .error (.missingSignal c)
           | x :: rest' => thenK nm (setSignal (applyFlags st pre) (parseSignal nm x true)) rest')
        else thenK nm (setSignal (applyFlags st pre) (parseSignal nm attached true)) rest
      | .sigSpec spec => thenK nm (setSignal st (parseSignal nm spec true)) rest
      | .opaque =>
        thenK nm (killOpaque nm (applyFlags st ((a.drop 1).takeWhile killFlag)) (a.drop 1) ((a.drop 1).dropWhile killFlag)) rest := by
  have hf := killForm nm a
  generalize killShape nm a = sh at hf
  cases hf with
  | operand hk => simp [killLoop, hk]
  | separator ha => subst ha; simp [killLoop, killIsOption]
  | option opts ha h1 h2 inner =>
    subst ha
    rw [killLoop_opts nm st opts rest h1 h2]
    cases inner with
    | flags htl => rw [htl]; simp [killChars, contK]
    | sigOption c rem htl hsn hatt =>
      rw [htl, killChars_cons]
      simp only [hsn, if_true]
      cases rem with
      | nil =>
        simp only [List.isEmpty_nil, if_true]
        cases rest with
        | nil => rfl
        | cons x rest' => exact contK_true nm _ x rest'
      | cons r0 rem =>
        obtain ⟨n', hn'⟩ := Option.isSome_iff_exists.mp (hatt (by simp))
        simp only [List.isEmpty_cons, Bool.false_eq_true, if_false, contK_false, hn', Option.orElse]
    | sigSpec c rem htl hsn hl hv hpre hsig =>
      obtain ⟨n', hn'⟩ := Option.isSome_iff_exists.mp hsig
      rw [htl, killChars_cons, hpre]
      simp only [hsn, hl, hv, if_false, contK_false, hn', invalidToUnknown_setSignal_some, applyFlags]
    | opaqueSig c r0 rem htl hsn hno =>
      rw [htl, killChars_cons]
      simp only [hsn, if_true, List.isEmpty_cons, Bool.false_eq_true, if_false, contK_false, List.drop_succ_cons, List.drop_zero,
        htl, killOpaque]
    | opaqueOther c rem htl hsn hl hv hno =>
      rw [htl, killChars_cons]
      simp only [hsn, hl, hv, if_false, contK_false, List.drop_succ_cons, List.drop_zero, htl, killOpaque]

theorem thenK_congr (nm : Names) (y : Except KillErr KillState) {t1 t2 : List Str}
    (h : ∀ st, killLoop nm false st t1 = killLoop nm false st t2) : thenK nm y t1 = thenK nm y t2 := by
  cases y with
  | error e => rfl
  | ok st => exact h st

theorem killLoop_separate (nm : Names) : ∀ (args : List Str) (st : KillState),
    killLoop nm false st (separateKill nm args) = killLoop nm false st args
  | [], _ => rfl
  | a :: rest, st => by
    have ih := fun st => killLoop_separate nm rest st
    rw [separateKill_by_shape, killLoop_by_shape nm st a rest]
    have hf := killForm nm a
    generalize hsh : killShape nm a = sh at hf ⊢
    cases hf with
    | operand _ => simp only []; rw [killLoop_by_shape, hsh]
    | separator _ => simp only []; rw [killLoop_by_shape, hsh]
    | option opts _ _ _ inner =>
      cases inner with
      | opaqueSig => simp only []; rw [killLoop_by_shape, hsh]; exact thenK_congr nm _ ih
      | opaqueOther => simp only []; rw [killLoop_by_shape, hsh]; exact thenK_congr nm _ ih
      | flags =>
        simp only []
        rw [killLoop_flags nm _ st _ (fun c hc => Common.mem_takeWhile hc), ih]
      | sigSpec =>
        simp only []
        rw [killLoop_sigOption nm st 's' _ _ (Or.inl rfl), contK_true]
        exact thenK_congr nm _ ih
      | sigOption c rem _ hsn _ =>
        have hpre : ∀ x ∈ opts.takeWhile killFlag, killFlag x = true := fun x hx => Common.mem_takeWhile hx
        simp only []
        cases rem with
        | nil =>
          simp only [List.isEmpty_nil, if_true]
          cases rest with
          | nil =>
            simp only []
            rw [killLoop_flags nm _ st _ hpre,
              killLoop_option nm _ [c] [] (by simp) (by rcases hsn with rfl | rfl <;> decide), killChars_cons]
            simp [hsn, contK]
          | cons x rest' =>
            simp only []
            rw [killLoop_flags nm _ st _ hpre, killLoop_sigOption nm _ c x _ hsn, contK_true]
            exact thenK_congr nm _ (fun st => killLoop_separate nm rest' st)
        | cons r0 rem =>
          simp only [List.isEmpty_cons, Bool.false_eq_true, if_false]
          rw [killLoop_flags nm _ st _ hpre, killLoop_sigOption nm _ c _ _ hsn, contK_true]
          exact thenK_congr nm _ ih

theorem killShape_sigSpec (nm : Names) (c : Char) (cs : Str) (v : Int)
    (hc : c ≠ 's' ∧ c ≠ 'n' ∧ c ≠ 'l' ∧ c ≠ 'v') (hcd : (c :: cs) ≠ ['-'])
    (hv : parseSignal nm (c :: cs) true = some v) : killShape nm ('-' :: c :: cs) = .sigSpec (c :: cs) := by
  have hcf : killFlag c = false := by simp [killFlag, hc.2.2.1, hc.2.2.2]
  simp [killShape, killIsOption, dash_ne_dashdash hcd, hcf, hc.1, hc.2.1, hv]

theorem killLoop_after_options {nm : Names} {portable : Bool} {st : KillState} {pre : List Str} {st' : KillState}
    (h : KillOptionsOnly nm portable st pre st') (ys : List Str) :
    killLoop nm portable st (pre ++ ys) = killLoop nm portable st' ys := by
  induction h with
  | nil st => rfl
  | one st a st' rest st'' hopt hne hch _ ih =>
    rw [List.cons_append, killLoop]
    simp only [hopt, hne, hch, Bool.not_true, Bool.false_eq_true, if_false]
    exact ih
  | two st a x st' rest st'' hopt hne hch _ ih =>
    rw [List.cons_append, List.cons_append, killLoop]
    simp only [hopt, hne, List.head?_cons, hch, Bool.not_true, Bool.false_eq_true, if_false]
    exact ih

end YashModel.Args.Bespoke
