/-
  C20 — property theorems: the audit of how EVERY built-in of yash-builtin parses its arguments (re-extracted by
  tools/tables/args.py from lib.rs and every module on every run; a built-in with a parser of its own that is not one of
  the modelled ones makes the extractor fail), and the generic theorems about `parse_arguments` instantiated for the
  re-extracted table of every built-in that goes through it.
-/
import YashModel.Args.ParseTheorems
import YashModel.Args.CanonLemmas
import YashModel.Args.EndOfOptionsTheorems
import YashModel.Generated.ArgSpecs
namespace YashModel.Args
open YashModel.Generated

/-- ☆ the built-ins and their parsers, pinned: a new built-in, or one that changes the way it parses, has to be looked at -/
theorem builtin_parsers_audited :
    ArgSpecs.builtinParsers.map (fun e => (e.1, e.2.1)) =
      [("alias", "common"), ("bg", "common"), ("break", "common"), ("cd", "common"), ("colon", "ignores"),
       ("command", "common"), ("continue", "as:break"), ("eval", "common"), ("exec", "common"), ("exit", "common"),
       ("export", "typeset"), ("false", "noarg"), ("fg", "common"), ("getopts", "common+walker"), ("jobs", "common"),
       ("kill", "bespoke"), ("pwd", "common"), ("read", "common"), ("readonly", "typeset"), ("return", "common"),
       ("set", "bespoke"), ("shift", "common"), ("source", "common"), ("times", "common"), ("trap", "common"),
       ("true", "noarg"), ("type", "common"), ("typeset", "bespoke"), ("ulimit", "common"), ("umask", "common"),
       ("unalias", "common"), ("unset", "common"), ("wait", "common")] := by decide +kernel

/-- ☆ every built-in that hands a named table to `parse_arguments` has that table among the extracted ones (the others
    use the empty table `&[]`: every `-x` / `--x` is an unknown option) -/
theorem common_builtins_have_tables :
    ∀ e ∈ ArgSpecs.builtinParsers, e.2.1 = "common" →
      e.2.2 = ["[]"] ∨ (ArgSpecs.all.any fun t => t.1 == e.1) = true := by decide +kernel

/-- the option tables of the real built-ins as `OptionSpec`s (the empty table of the others included) -/
def builtinTables : List (List OptionSpec) := [] :: ArgSpecs.all.map (fun t => t.2.map rowSpec)

/-- ☆ every one of them respects the documented naming rules -/
theorem builtin_tables_well_named : ∀ t ∈ builtinTables, WellNamed t := by
  intro t ht
  rcases List.mem_cons.mp ht with rfl | ht
  · intro s hs; cases hs
  · obtain ⟨e, he, rfl⟩ := List.mem_map.mp ht
    exact wellNamed_of_tableOk e.2 (List.all_eq_true.mp tables_no_duplicate_names e he)

/-- ★ so for every re-extracted table — those of the built-ins that go through `parse_arguments` (cd, command, exit, jobs,
    pwd, read, return, trap, type, ulimit, umask, unalias, unset), the empty table of the others, and the rows of export /
    readonly / typeset as well — in the mode with all extensions on (`Mode.withExtensions`): every accepted invocation is
    read as the ten-line reference reader reads its canonical spelling — `parse_is_read_of_canonical`, its hypotheses
    discharged for the re-extracted tables -/
theorem builtin_parse_is_read_of_canonical : ∀ t ∈ builtinTables, ∀ (args : List Str) r,
    (parseArguments t Mode.withExtensions args).view = .ok r →
      Spec.readCanon t Mode.withExtensions (Spec.canon t args) = .ok r :=
  fun t ht args r h => parse_is_read_of_canonical t Mode.withExtensions rfl (builtin_tables_well_named t ht) args r h

/-- ★ … and equivalent spellings (same canonical spelling) parse alike: `equivalent_spellings_same_parse` for those tables -/
theorem builtin_equivalent_spellings_same_parse : ∀ t ∈ builtinTables, ∀ (a b : List Str),
    Spec.canon t a = Spec.canon t b →
      (parseArguments t Mode.withExtensions a).view = (parseArguments t Mode.withExtensions b).view :=
  fun t _ a b h => equivalent_spellings_same_parse t Mode.withExtensions rfl a b h

/-- `cd -- --`: the operand is `--` -/
example : parseArguments ((ArgSpecs.specs_cd).map rowSpec) Mode.withExtensions [dashdash, dashdash] = .ok ([], [dashdash]) :=
  second_dashdash_is_operand _ _ [] [] [] rfl

end YashModel.Args
