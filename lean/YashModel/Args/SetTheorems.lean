/-
  C20 — property theorems and non-vacuity examples for the `set` built-in
  (yash-builtin/src/set/syntax.rs `try_parse_short` / `try_parse_long` / `parse`, set.rs `main` / `modify`).

  Clause of the property: "malformed ones (unknown or ambiguous option, missing option-argument) are
  rejected with a diagnostic, a non-zero status and no effect" — for the one built-in whose effect IS its
  argument vector (options and positional parameters).
-/
import YashModel.Args.SetLemmas
import YashModel.Args.BespokeTheorems
namespace YashModel.Args.Bespoke

/-- ★ An argument is an option *group* exactly when it is a sign followed by at least one character and
    the first of them is not the same sign again — nothing else about that character matters.  In
    particular a sign followed by the OTHER sign (`-+…`, `+-…`) is a group (whose first letter is a sign). -/
theorem shape_group_characterised (a : Str) (neg : Bool) (ls : Str) :
    shape a = .group neg ls ↔ a = signChar neg :: ls ∧ ls ≠ [] ∧ ls.head? ≠ some (signChar neg) := by
  constructor
  · intro h
    have hf := shapeForm a
    rw [h] at hf
    cases hf with
    | group neg c cs hc => exact ⟨rfl, by simp, by simpa using hc⟩
  · rintro ⟨rfl, hne, hh⟩
    obtain ⟨c, cs, rfl⟩ := List.exists_cons_of_ne_nil hne
    exact shape_group_cons neg c cs (by simpa using hh)

/-- a long option is a doubled sign followed by the name (`--` alone is not one; `++` alone is) -/
theorem shape_long_characterised (a : Str) (neg : Bool) (name : Str) :
    shape a = .long neg name ↔ a = signChar neg :: signChar neg :: name ∧ (neg = false → name ≠ []) := by
  constructor
  · intro h
    have hf := shapeForm a
    rw [h] at hf
    cases hf with
    | long neg name hn => exact ⟨rfl, hn⟩
  · rintro ⟨rfl, hne⟩
    exact shape_long_cons neg name hne

/-- the separators are `-` and `--` -/
theorem shape_separator_characterised (a : Str) : shape a = .separator ↔ a = ['-'] ∨ a = ['-', '-'] := by
  constructor
  · intro h
    have hf := shapeForm a
    rw [h] at hf
    cases hf with
    | dash => exact .inl rfl
    | dashdash => exact .inr rfl
  · rintro (rfl | rfl) <;> rfl

/-- ★ The prologues of `try_parse_short` / `try_parse_long` decide the shape as the documentation does:
    the code examines an argument as a cluster of short options iff it is a group, with the same sign and
    the same letters. -/
theorem try_parse_short_examines_groups (a : Str) (neg : Bool) :
    shortSign a = some neg ↔ shape a = .group neg (a.drop 1) :=
  ⟨shape_of_shortSign a neg, fun h => (shortSign_of_shape a neg _ h).1⟩

/-- ☆ For every table of option names, both `portable` states and every argument vector, set's `parse`
    (cluster loop consuming the next argument, `try_parse_short` then `try_parse_long`, separator handling)
    returns exactly what the reference reader returns: the same command (options with their states in
    order, positional parameters or none) or the same error. -/
theorem set_parse_refines_reader (nm : Names) (p : Bool) (args : List Str) :
    setParse nm p args = specParse nm p args := by
  by_cases hp : printForm args
  · rcases hp with rfl | rfl | rfl <;> rfl
  rw [setParse_loop nm p args hp, setLoop_eq_readArgs nm args p]
  simp only [printForm, not_or] at hp
  simp only [specParse, hp.1, hp.2.1, hp.2.2, if_false]
  cases readArgs nm p none args with
  | error e => rfl
  | ok q =>
    obtain ⟨os, rem⟩ := q
    cases rem with
    | nil => rfl
    | cons a rest =>
      simp only [finishSet]
      by_cases hsep : a = ['-', '-'] ∨ a = ['-']
      · have : shape a = .separator := (shape_separator_characterised a).2 (by rcases hsep with h | h <;> simp [h])
        simp [hsep, this]
      · have : shape a ≠ .separator := fun hh => hsep (by rcases (shape_separator_characterised a).1 hh with h | h <;> simp [h])
        simp [hsep, this]

/-- ☆ … and the whole built-in (`main`: parse, then `modify` or print or report) leaves behind exactly
    what the Spec expects: environment (every option state, positional parameters), exit status,
    diagnostic, output. -/
theorem set_main_meets_expectation (nm : Names) (env : SetEnv) (args : List Str) :
    setMain nm env args = expect nm env args := by
  unfold setMain expect
  rw [set_parse_refines_reader]
  cases specParse nm (getOpt env.options portableOpt) args with
  | error e => rfl
  | ok c =>
    cases c with
    | printVariables => rfl
    | printHuman => rfl
    | printMachine => rfl
    | modify os ps =>
      simp only [modify, applyOptions_eq_specOptions]
      cases ps <;> rfl

/-- ★ malformed ⇒ diagnostic, non-zero status, nothing printed, NO effect: whenever the reference reader
    finds the invocation malformed (in the `portable` state of the environment), the built-in leaves every
    option and the positional parameters exactly as they were. -/
theorem set_malformed_rejected_without_effect (nm : Names) (env : SetEnv) (args : List Str)
    (h : malformed nm (getOpt env.options portableOpt) args = true) :
    setMain nm env args = rejected env := by
  rw [set_main_meets_expectation]
  unfold expect
  unfold malformed at h
  cases hsp : specParse nm (getOpt env.options portableOpt) args with
  | error e => rfl
  | ok c => rw [hsp] at h; cases h

/-- ★ "and only those": a well-formed invocation succeeds silently (status 0, no diagnostic). -/
theorem set_wellformed_accepted (nm : Names) (env : SetEnv) (args : List Str)
    (h : malformed nm (getOpt env.options portableOpt) args = false) :
    (setMain nm env args).status = 0 ∧ (setMain nm env args).diag = false := by
  rw [set_main_meets_expectation]
  unfold expect
  unfold malformed at h
  cases hsp : specParse nm (getOpt env.options portableOpt) args with
  | error e => rw [hsp] at h; cases h
  | ok c => cases c <;> exact ⟨rfl, rfl⟩

/-- ★ rejected ⇔ some argument, reached through options only, is itself defective (the malformed clause in both
    directions, on the code's parser): `set` reports error `e` exactly when the vector is not one of the two
    print forms and splits into a prefix consumed entirely as options (with the names `-o` / `+o` take, leaving
    `portable` in state `p'`), then an argument on which the option step fails with `e` in that state — so no
    vector is rejected for any other reason, and nothing behind the defective argument matters beyond the one
    argument a trailing `-o` would take. -/
theorem set_rejected_iff_defective_argument (nm : Names) (p : Bool) (args : List Str) (e : SetErr) :
    setParse nm p args = .error e ↔
      args ≠ [['-', 'o']] ∧ args ≠ [['+', 'o']] ∧
      ∃ pre a rest os p', args = pre ++ a :: rest ∧ SetOptionsOnly nm p pre os p' ∧
        setStep nm p' a rest.head? = .fail e := by
  by_cases hp : printForm args
  · rcases hp with rfl | rfl | rfl <;> simp [setParse]
  rw [setParse_loop nm p args hp, finishSet_error_iff]
  simp only [printForm, not_or] at hp
  simp only [ne_eq, hp.2.1, hp.2.2, not_false_eq_true, true_and]
  constructor
  · exact setLoop_error_localised nm args p e
  · rintro ⟨pre, a, rest, os, p', rfl, hpre, hfail⟩
    rw [setLoop_after_options nm hpre, setLoop_cons, hfail]
    simp

/-- ★ A group with a letter that is no option is rejected, wherever it stands: after any prefix consumed as
    options, behind any letters of the same group that are options (`good`), whatever follows in the group
    (`tl`) and in the vector (`rest`) — exactly the error naming that letter, in both `portable` states. -/
theorem set_unknown_letter_rejected (nm : Names) (p : Bool) (pre : List Str) (os : List (Str × Bool)) (p' : Bool)
    (hpre : SetOptionsOnly nm p pre os p') (neg : Bool) (good : Str) (c : Char) (tl : Str) (rest : List Str)
    (hgood : ∀ g ∈ good, g ≠ 'o' ∧ ∃ o, setLetter nm neg p' g = .ok o)
    (hc : c ≠ 'o') (hunknown : nm.parseShort c = none)
    (hfirst : (good ++ c :: tl).head? ≠ some (signChar neg)) :
    setParse nm p (pre ++ (signChar neg :: (good ++ c :: tl)) :: rest) = .error (.unknownShort c) := by
  have hs : shortSign (signChar neg :: (good ++ c :: tl)) = some neg :=
    (try_parse_short_examines_groups _ _).2 ((shape_group_characterised _ _ _).2 ⟨rfl, by simp, hfirst⟩)
  -- the vector is no print form: the group has a letter other than `o`
  have hgroup : ∀ s : Char, signChar neg :: (good ++ c :: tl) ≠ [s, 'o'] := by
    intro s h
    cases good with
    | nil => simp at h; exact hc h.2.1
    | cons g gs => cases gs <;> simp at h
  have hp := not_printForm_of_mem (l := pre ++ (signChar neg :: (good ++ c :: tl)) :: rest) (by simp) (hgroup '-') (hgroup '+')
  simp only [printForm, not_or] at hp
  refine (set_rejected_iff_defective_argument nm p _ _).2 ⟨hp.2.1, hp.2.2, pre, _, rest, os, p', rfl, hpre, ?_⟩
  rw [setStep_short nm p' _ _ neg hs]
  simp only [List.drop_succ_cons, List.drop_zero]
  rw [setShortLoop_bad_letter nm neg _ p' c tl _ hc (setLetter_unknown nm neg p' c hunknown) good hgood]
  rfl

/-- ★ The mixed-sign arguments: if no option is called `+` or `-` (true of the shell's table:
    `real_table_has_no_sign_letter`), then an argument whose first two characters are DIFFERENT signs —
    `-+`, `+-`, `-+e`, `+-o`, `-+o errexit` … — is rejected as the unknown option named by its second
    character, at every argument position behind options, whatever follows.  (It is not an operand, not a
    long option and not a separator.) -/
theorem set_mixed_sign_rejected (nm : Names) (p : Bool) (pre : List Str) (os : List (Str × Bool)) (p' : Bool)
    (hpre : SetOptionsOnly nm p pre os p') (neg : Bool) (cs : Str) (rest : List Str)
    (hsign : nm.parseShort (signChar (!neg)) = none) :
    setParse nm p (pre ++ (signChar neg :: signChar (!neg) :: cs) :: rest) = .error (.unknownShort (signChar (!neg))) := by
  have := set_unknown_letter_rejected nm p pre os p' hpre neg [] (signChar (!neg)) cs rest (by simp)
    (by cases neg <;> decide) hsign (by cases neg <;> simp [signChar])
  simpa using this

/-- ★ … with no effect: options given BEFORE the malformed argument in the same command are not applied and
    the positional parameters are not replaced. -/
theorem set_mixed_sign_no_effect (nm : Names) (env : SetEnv) (pre : List Str) (os : List (Str × Bool)) (p' : Bool)
    (hpre : SetOptionsOnly nm (getOpt env.options portableOpt) pre os p') (neg : Bool) (cs : Str) (rest : List Str)
    (hsign : nm.parseShort (signChar (!neg)) = none) :
    setMain nm env (pre ++ (signChar neg :: signChar (!neg) :: cs) :: rest) = rejected env := by
  unfold setMain
  rw [set_mixed_sign_rejected nm _ pre os p' hpre neg cs rest hsign]
  rfl

/-- ★ same for any unknown letter anywhere in a group -/
theorem set_unknown_letter_no_effect (nm : Names) (env : SetEnv) (pre : List Str) (os : List (Str × Bool)) (p' : Bool)
    (hpre : SetOptionsOnly nm (getOpt env.options portableOpt) pre os p') (neg : Bool) (good : Str) (c : Char) (tl : Str)
    (rest : List Str) (hgood : ∀ g ∈ good, g ≠ 'o' ∧ ∃ o, setLetter nm neg p' g = .ok o)
    (hc : c ≠ 'o') (hunknown : nm.parseShort c = none)
    (hfirst : (good ++ c :: tl).head? ≠ some (signChar neg)) :
    setMain nm env (pre ++ (signChar neg :: (good ++ c :: tl)) :: rest) = rejected env := by
  unfold setMain
  rw [set_unknown_letter_rejected nm _ pre os p' hpre neg good c tl rest hgood hc hunknown hfirst]
  rfl

/-- ☆ The table `parse_short` of yash-env/src/option.rs (re-extracted on every run) has no letter `-`, `+`
    or `o`, whatever the long names resolve to: the hypothesis of `set_mixed_sign_rejected` holds for the
    shell, and `o` is never shadowed by an option letter. -/
theorem real_table_has_no_sign_letter (long : List (Str × LongRes)) :
    (tableNames long).parseShort '-' = none ∧ (tableNames long).parseShort '+' = none ∧
    (tableNames long).parseShort 'o' = none := by
  refine ⟨?_, ?_, ?_⟩ <;> simp only [Names.parseShort, tableNames] <;> decide

/-- ★ for the shell's own table: `set … -+… …` / `set … +-… …` is rejected without effect -/
theorem set_mixed_sign_no_effect_real (long : List (Str × LongRes)) (env : SetEnv) (pre : List Str)
    (os : List (Str × Bool)) (p' : Bool)
    (hpre : SetOptionsOnly (tableNames long) (getOpt env.options portableOpt) pre os p') (neg : Bool) (cs : Str)
    (rest : List Str) :
    setMain (tableNames long) env (pre ++ (signChar neg :: signChar (!neg) :: cs) :: rest) = rejected env :=
  set_mixed_sign_no_effect _ env pre os p' hpre neg cs rest
    (by cases neg
        · exact (real_table_has_no_sign_letter long).2.1
        · exact (real_table_has_no_sign_letter long).1)

/-- for every table and every environment: `set` run on the separated spelling that follows the `portable` state
    (`separateM`, from the state the environment is in) leaves behind exactly what it leaves on the vector -/
theorem setMain_separateM (nm : Names) (env : SetEnv) (args : List Str) :
    setMain nm env (separateM nm (getOpt env.options portableOpt) args) = setMain nm env args := by
  unfold setMain
  rw [setParse_separateM]

/-- ★ Equivalent spellings have the same EFFECT, status and output (not only the same parse): while
    `portable` is off and never named, `set` run on the separated spelling leaves behind exactly what it
    leaves on the original vector. -/
theorem set_main_separated_same (nm : Names) (h : NoPortable nm) (env : SetEnv) (args : List Str)
    (hp : getOpt env.options portableOpt = false) :
    setMain nm env (separateSO true args) = setMain nm env args := by
  rw [← separateM_noPortable nm h, ← hp]
  exact setMain_separateM nm env args

/-- ★ The shell's own command line (yash-cli startup/args.rs `is_short_option` / `try_parse_short`) reads a
    mixed-sign first argument the same way: `sh -+e`, `sh +-` … are the unknown option named by the second
    character (not a script name). -/
theorem sh_mixed_sign_rejected (nm : Names) (arg0 : Str) (neg : Bool) (cs : Str) (rest : List Str)
    (hsign : nm.parseShort (signChar (!neg)) = none) :
    shParse nm (arg0 :: (signChar neg :: signChar (!neg) :: cs) :: rest) = .error (.unknownShort (signChar (!neg))) := by
  -- the argument is a group with sign `neg`; its first letter is the other sign, which is neither `V` nor `o` nor an option
  have hne : signChar (!neg) ≠ signChar neg := by cases neg <;> decide
  have hV : signChar (!neg) ≠ 'V' := by cases neg <;> decide
  have ho : signChar (!neg) ≠ 'o' := by cases neg <;> decide
  simp only [shParse]
  rw [shLoop_short nm false _ _ rest neg (shortSign_single neg _ cs hne)]
  simp only [List.drop_succ_cons, List.drop_zero]
  rw [shShortLoop_cons, if_neg hV, if_neg ho]
  simp [shLetter, hsign, thenConsV, contH]

/-- `-e` is consumed as an option whatever follows -/
theorem ex_optionsOnly_e : SetOptionsOnly exNames false [['-', 'e']] [("errexit".toList, true)] false := by
  have := SetOptionsOnly.one (nm := exNames) false ['-', 'e'] [("errexit".toList, true)] false [] [] false
    (fun next => by rfl) (SetOptionsOnly.nil false)
  simpa using this

/-- `-o errexit` (two arguments) is consumed as an option -/
theorem ex_optionsOnly_o : SetOptionsOnly exNames false [['-', 'o'], "errexit".toList] [("errexit".toList, true)] false := by
  have := SetOptionsOnly.two (nm := exNames) false ['-', 'o'] "errexit".toList [("errexit".toList, true)] false [] [] false
    (by rfl) (SetOptionsOnly.nil false)
  simpa using this

/-- `set -e -+u`: rejected as the unknown option `+`; `set +-e`, `set -+o errexit`, `set -+`, `set +-` alike -/
example : setParse exNames false [['-', 'e'], ['-', '+', 'u']] = .error (.unknownShort '+') :=
  set_mixed_sign_rejected exNames false _ _ _ ex_optionsOnly_e false ['u'] [] (by decide)
example : setParse exNames false [['+', '-', 'e']] = .error (.unknownShort '-') :=
  set_mixed_sign_rejected exNames false [] [] false (.nil false) true ['e'] [] (by decide)
example : setParse exNames false [['-', 'o'], "errexit".toList, ['-', '+', 'o'], "errexit".toList] = .error (.unknownShort '+') :=
  set_mixed_sign_rejected exNames false _ _ _ ex_optionsOnly_o false ['o'] ["errexit".toList] (by decide)
example : setParse exNames false [['-', '+']] = .error (.unknownShort '+') := by rfl
example : setParse exNames false [['+', '-']] = .error (.unknownShort '-') := by rfl
/-- `set -e -o nosuch X`: the defective argument is `-o` (with the name it takes), reached through `-e` -/
example : setParse exNames false [['-', 'e'], ['-', 'o'], "nosuch".toList, ['X']] = .error .unknownLong :=
  (set_rejected_iff_defective_argument exNames false _ _).2
    ⟨by decide, by decide, [['-', 'e']], ['-', 'o'], ["nosuch".toList, ['X']], _, _, rfl, ex_optionsOnly_e, by rfl⟩
/-- the same unknown letter later in a group, and well-formed neighbours -/
example : setParse exNames false [['-', 'e', '+', 'u']] = .error (.unknownShort '+') :=
  set_unknown_letter_rejected exNames false [] [] false (.nil false) false ['e'] '+' ['u'] []
    (by intro g hg; simp at hg; subst hg; exact ⟨by decide, _, rfl⟩) (by decide) (by decide) (by decide)
example : setParse exNames false [['-', '-'], ['-', '+', 'e']] = .ok (.modify [] (some [['-', '+', 'e']])) := by rfl
example : setParse exNames false [['+', '+', 'e', 'r', 'r']] = .ok (.modify [("errexit".toList, false)] none) := by rfl
/-- no effect: `set -e -+u` in an environment where errexit is off and `$@` = (p q) -/
example : setMain exNames { options := [("errexit".toList, false), ("unset".toList, true)], params := [['p'], ['q']] }
      [['-', 'e'], ['-', '+', 'u']] =
    rejected { options := [("errexit".toList, false), ("unset".toList, true)], params := [['p'], ['q']] } := by rfl
/-- … whereas `set -e -u` changes both options and keeps the parameters -/
example : setMain exNames { options := [("errexit".toList, false), ("unset".toList, true)], params := [['p'], ['q']] }
      [['-', 'e'], ['-', 'u']] =
    { env := { options := [("errexit".toList, true), ("unset".toList, false)], params := [['p'], ['q']] },
      status := 0, diag := false, out := .nothing } := by rfl
example : shParse exShNames [['s', 'h'], ['-', '+', 'e'], ['x']] = .error (.unknownShort '+') :=
  sh_mixed_sign_rejected exShNames ['s', 'h'] false ['e'] [['x']] (by decide)
example : shParse exShNames [['s', 'h'], ['+', '-']] = .error (.unknownShort '-') := by rfl
/-- the two halves of the malformed clause, instantiated -/
example : setMain exNames { options := [("errexit".toList, false)], params := [['p']] } [['-', 'e', 'Z']] =
    rejected { options := [("errexit".toList, false)], params := [['p']] } :=
  set_malformed_rejected_without_effect exNames _ _ (by rfl)
example : (setMain exNames { options := [("errexit".toList, false)], params := [['p']] } [['-', 'e'], ['-', '-']]).status = 0 :=
  (set_wellformed_accepted exNames _ _ (by rfl)).1
example : setMain exNames { options := [("errexit".toList, false)], params := [['p']] } [['-', 'e'], ['-', '-']] =
    { env := { options := [("errexit".toList, true)], params := [] }, status := 0, diag := false, out := .nothing } := by rfl
example : setMain exNames { options := [("errexit".toList, false)], params := [['p']] } [['-', 'e', 'u'], ['X']] =
    setMain exNames { options := [("errexit".toList, false)], params := [['p']] } [['-', 'e'], ['-', 'u'], ['X']] :=
  (set_main_separated_same exNames exNames_noPortable _ [['-', 'e', 'u'], ['X']] (by rfl)).symm
example : malformed exNames false [['-', 'e'], ['-', '+', 'u']] = true := by rfl
example : malformed exNames false [['-', 'e'], ['-', 'u'], ['X']] = false := by rfl
example : shape ['-', '+', 'e'] = .group false ['+', 'e'] := by rfl
example : shape ['+', '-'] = .group true ['-'] := by rfl
example : shape ['-', '-'] = .separator := by rfl
example : shape ['+', '+'] = .long true [] := by rfl
example : shape ['+'] = .operand := by rfl
/-- the reader agrees with the code on a vector using every shape -/
example : specParse exNames false [['-', 'e', 'o'], "nounset".toList, '+' :: '+' :: "err".toList, ['-'], ['-', 'u']] =
    .ok (.modify [("errexit".toList, true), ("unset".toList, false), ("errexit".toList, false)] (some [['-', 'u']])) := by rfl

end YashModel.Args.Bespoke
