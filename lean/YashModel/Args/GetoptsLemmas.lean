/-
  C20, getopts leg.  `W` is a structural walker (one argument at a time): the index-driven loop around `next`
  computes it (`walkAll_eq_W`), and it does not see the difference between a vector and its separated spelling
  (`W_separate`).  `isSeparated`: what "fully separated" means.  `GOptionsOnly`: a prefix of option groups, behind which `W`
  starts afresh.
-/
import YashModel.Args.SeparateBody
import YashModel.Args.Getopts
namespace YashModel.Args.Getopts

abbrev EvV := Char × Option Str × Bool

def Ev.erase (e : Ev) : EvV := (e.var, e.optarg, e.diag)

/-- `reportOcc` without `$OPTIND` -/
def evOf (colon : Bool) (o : Occ) : EvV :=
  match o.error with
  | none => (o.option, o.argument, false)
  | some .unknownOption => if colon then ('?', some [o.option], false) else ('?', none, true)
  | some .missingArgument => if colon then (':', some [o.option], false) else ('?', none, true)

theorem erase_reportOcc (colon : Bool) (o : Occ) (p : Nat × Nat) : (reportOcc colon o p).erase = evOf colon o := by
  unfold reportOcc evOf Ev.erase
  cases o.error with
  | none => rfl
  | some e => cases e <;> cases colon <;> rfl

/-- the occurrence `classify` reports for letter `c` followed by `rem` in its group, `next` = the
    following command-line argument; and whether that argument was consumed -/
def occOf (spec : Str) (c : Char) (rem : Str) (next : Option Str) : Occ × Bool :=
  match judge spec c with
  | .unknown => (⟨c, none, some .unknownOption⟩, false)
  | .noArgument => (⟨c, none, none⟩, false)
  | .takesArgument =>
    if !rem.isEmpty then (⟨c, some rem, none⟩, false)
    else match next with
      | some a => (⟨c, some a, none⟩, true)
      | none => (⟨c, none, some .missingArgument⟩, false)

/-- does the walk of the group stop at `c` (its argument, if any, is the rest / the next argument)? -/
def stopsAt (spec : Str) (c : Char) : Bool := judge spec c == .takesArgument

/-- events of the letters of one group -/
def letters (spec : Str) (colon : Bool) (next : Option Str) : Str → List EvV × Bool
  | [] => ([], false)
  | c :: rem =>
    let (o, took) := occOf spec c rem next
    if stopsAt spec c then ([evOf colon o], took)
    else
      let (l, t) := letters spec colon next rem
      (evOf colon o :: l, t)

def prependE (l : List EvV) (r : List EvV × List Str) : List EvV × List Str := (l ++ r.1, r.2)

/-- the structural walker: events and remaining operands -/
def W (spec : Str) (colon : Bool) : List Str → List EvV × List Str
  | [] => ([], [])
  | a :: rest =>
    match a with
    | '-' :: c :: cs =>
      if (c :: cs) = ['-'] then ([], rest)
      else
        match letters spec colon rest.head? (c :: cs) with
        | (l, false) => prependE l (W spec colon rest)
        | (l, true) =>
          match rest with
          | [] => (l, [])
          | _ :: rest' => prependE l (W spec colon rest')
    | _ => ([], a :: rest)

/-- the same function as `stopsAt`: `isSeparated` is stated with this name, `letters` and `classify_eq` with the other -/
def takesArgB (spec : Str) (c : Char) : Bool := judge spec c == .takesArgument

/-- Is every group in option position a single letter (or a group with the letter `-`, which cannot be
    split), each option-argument an argument of its own?  This is what "fully separated" means. -/
def isSeparated (spec : Str) : List Str → Bool
  | [] => true
  | a :: rest =>
    match a with
    | '-' :: c :: cs =>
      if (c :: cs) = ['-'] then true
      else if (c :: cs).contains '-' then
        (if (splitGroup spec (c :: cs)).2 then
          (match rest with
           | [] => true
           | _ :: rest' => isSeparated spec rest')
         else isSeparated spec rest)
      else if cs.isEmpty then
        (if takesArgB spec c then
          (match rest with
           | [] => true
           | _ :: rest' => isSeparated spec rest')
         else isSeparated spec rest)
      else false
    | _ => true

/-- a prefix of the vector that consists of option groups (with the option-arguments they take) only: no `--`, no
    operand, nothing pending at its end -/
inductive GOptionsOnly (spec : Str) (colon : Bool) : List Str → List EvV → Prop
  | nil : GOptionsOnly spec colon [] []
  | one (c : Char) (cs : Str) (l : List EvV) (rest : List Str) (evs : List EvV) :
      (c :: cs) ≠ ['-'] → (∀ next, letters spec colon next (c :: cs) = (l, false)) →
      GOptionsOnly spec colon rest evs → GOptionsOnly spec colon (('-' :: c :: cs) :: rest) (l ++ evs)
  | two (c : Char) (cs : Str) (x : Str) (l : List EvV) (rest : List Str) (evs : List EvV) :
      (c :: cs) ≠ ['-'] → letters spec colon (some x) (c :: cs) = (l, true) →
      GOptionsOnly spec colon rest evs → GOptionsOnly spec colon (('-' :: c :: cs) :: x :: rest) (l ++ evs)

theorem W_group (spec colon) (c : Char) (cs : Str) (rest : List Str) (h : (c :: cs) ≠ ['-']) :
    W spec colon (('-' :: c :: cs) :: rest) =
      prependE (letters spec colon rest.head? (c :: cs)).1
        (W spec colon (if (letters spec colon rest.head? (c :: cs)).2 then rest.tail else rest)) := by
  rw [W]
  simp only [h, if_false]
  cases hl : letters spec colon rest.head? (c :: cs) with
  | mk l t =>
    cases t with
    | false => simp
    | true =>
      cases rest with
      | nil => simp [W, prependE]
      | cons x rest' => simp

theorem classify_eq (spec : Str) (ai ci : Nat) (c : Char) (rem : Str) (following : List Str) :
    classify spec ai ci c rem following =
      if stopsAt spec c then
        ⟨some (occOf spec c rem following.head?).1, ai + 1 + (occOf spec c rem following.head?).2.toNat, 1⟩
      else if rem.isEmpty then ⟨some (occOf spec c rem following.head?).1, ai + 1, 1⟩
      else ⟨some (occOf spec c rem following.head?).1, ai, ci + 1⟩ := by
  unfold classify occOf stopsAt
  cases judge spec c <;> cases rem <;> cases following <;> simp

theorem next_at (spec : Str) (pre : List Str) (done : Str) (c : Char) (rem : Str) (following : List Str)
    (hne : done ++ c :: rem ≠ ['-']) :
    next (pre ++ ('-' :: (done ++ c :: rem)) :: following) spec (pre.length + 1) (done.length + 1) =
      classify spec (pre.length + 1) (done.length + 1) c rem following := by
  unfold next
  simp [hne]

def eraseR (r : List Ev × Option Nat) : List EvV × Option Nat := (r.1.map Ev.erase, r.2)

theorem walk_succ_some (spec : Str) (args : List Str) (fuel ai ci : Nat) (o : Occ) (na nc : Nat)
    (h : next args spec ai ci = ⟨some o, na, nc⟩) :
    eraseR (walk spec args (fuel + 1) ai ci) =
      (evOf (isColon spec) o :: (eraseR (walk spec args fuel na nc)).1, (eraseR (walk spec args fuel na nc)).2) := by
  simp only [walk, h, eraseR, List.map_cons, erase_reportOcc]

theorem walk_succ_none (spec : Str) (args : List Str) (fuel ai ci : Nat) (na nc : Nat)
    (h : next args spec ai ci = ⟨none, na, nc⟩) :
    eraseR (walk spec args (fuel + 1) ai ci) = ([], some na) := by
  simp only [walk, h, eraseR, List.map_nil]

theorem letters_cons (spec : Str) (colon : Bool) (next : Option Str) (c : Char) (rem : Str) :
    letters spec colon next (c :: rem) =
      if stopsAt spec c then ([evOf colon (occOf spec c rem next).1], (occOf spec c rem next).2)
      else (evOf colon (occOf spec c rem next).1 :: (letters spec colon next rem).1, (letters spec colon next rem).2) := by
  rw [letters]

/-- The calls on one group `-<done><c><rem>` from the character index behind `done` (what the index has already passed:
    `charIndex = done.length + 1`, hence the induction on `rem` with `done` growing): one call per event of the group,
    which is the fuel spent; then the walk goes on at the next argument, or the one after it if the group took it. -/
theorem walk_group (spec : Str) (pre following : List Str) :
    ∀ (rem done : Str) (c : Char) (k : Nat), done ++ c :: rem ≠ ['-'] →
      eraseR (walk spec (pre ++ ('-' :: (done ++ c :: rem)) :: following)
          (k + (letters spec (isColon spec) following.head? (c :: rem)).1.length) (pre.length + 1) (done.length + 1)) =
        ((letters spec (isColon spec) following.head? (c :: rem)).1 ++
          (eraseR (walk spec (pre ++ ('-' :: (done ++ c :: rem)) :: following) k
            (pre.length + 2 + (letters spec (isColon spec) following.head? (c :: rem)).2.toNat) 1)).1,
         (eraseR (walk spec (pre ++ ('-' :: (done ++ c :: rem)) :: following) k
            (pre.length + 2 + (letters spec (isColon spec) following.head? (c :: rem)).2.toNat) 1)).2) := by
  -- the letter that takes an argument ends the group, whatever follows it in the argument: one more call
  have stop : ∀ (rem done : Str) (c : Char) (k : Nat), done ++ c :: rem ≠ ['-'] → stopsAt spec c = true →
      eraseR (walk spec (pre ++ ('-' :: (done ++ c :: rem)) :: following) (k + 1) (pre.length + 1) (done.length + 1)) =
        (evOf (isColon spec) (occOf spec c rem following.head?).1 ::
          (eraseR (walk spec (pre ++ ('-' :: (done ++ c :: rem)) :: following) k
            (pre.length + 2 + (occOf spec c rem following.head?).2.toNat) 1)).1,
         (eraseR (walk spec (pre ++ ('-' :: (done ++ c :: rem)) :: following) k
            (pre.length + 2 + (occOf spec c rem following.head?).2.toNat) 1)).2) := by
    intro rem done c k hne hs
    have hn := next_at spec pre done c rem following hne
    rw [classify_eq, if_pos hs] at hn
    have e : pre.length + 1 + 1 + (occOf spec c rem following.head?).2.toNat =
        pre.length + 2 + (occOf spec c rem following.head?).2.toNat := by omega
    rw [e] at hn
    exact walk_succ_some _ _ _ _ _ _ _ _ hn
  intro rem
  induction rem with
  | nil =>
    intro done c k hne
    rw [letters_cons]
    by_cases hs : stopsAt spec c = true
    · simp only [hs, if_true, List.length_singleton, List.singleton_append]
      exact stop [] done c k hne hs
    · have hn := next_at spec pre done c [] following hne
      rw [classify_eq] at hn
      simp only [hs] at hn ⊢
      simp only [Bool.false_eq_true, if_false, List.isEmpty_nil, if_true] at hn ⊢
      simp only [letters, List.length_singleton, Bool.toNat_false, Nat.add_zero]
      rw [walk_succ_some _ _ _ _ _ _ _ _ hn]
      simp
  | cons r0 rem' ih =>
    intro done c k hne
    rw [letters_cons]
    by_cases hs : stopsAt spec c = true
    · simp only [hs, if_true, List.length_singleton, List.singleton_append]
      exact stop (r0 :: rem') done c k hne hs
    · -- any other letter: one call, then the rest of the group with `c` among the letters already passed
      have hn := next_at spec pre done c (r0 :: rem') following hne
      rw [classify_eq] at hn
      simp only [hs] at hn ⊢
      simp only [Bool.false_eq_true, if_false, List.isEmpty_cons] at hn ⊢
      simp only [List.length_cons]
      rw [← Nat.add_assoc, walk_succ_some _ _ _ _ _ _ _ _ hn]
      have e1 : done ++ c :: r0 :: rem' = (done ++ [c]) ++ r0 :: rem' := by simp
      have e2 : done.length + 1 = (done ++ [c]).length := by simp
      have := ih (done ++ [c]) r0 k (by rw [← e1]; exact hne)
      rw [← e1, ← e2] at this
      rw [this]
      simp

theorem occOf_nonstop (spec : Str) (c : Char) (rem rem' : Str) (next next' : Option Str)
    (h : stopsAt spec c = false) : occOf spec c rem next = occOf spec c rem' next' := by
  unfold stopsAt at h
  unfold occOf
  cases hj : judge spec c <;> simp_all

theorem splitGroup_cons (spec : Str) (c : Char) (rem : Str) :
    splitGroup spec (c :: rem) =
      if stopsAt spec c then (if rem.isEmpty then ([['-', c]], true) else ([['-', c], rem], false))
      else (['-', c] :: (splitGroup spec rem).1, (splitGroup spec rem).2) := by
  rw [splitGroup]
  unfold stopsAt
  cases judge spec c <;> simp

theorem letters_took (spec : Str) (colon : Bool) (next : Option Str) (cs : Str) :
    (letters spec colon next cs).2 = ((splitGroup spec cs).2 && next.isSome) := by
  induction cs with
  | nil => rfl
  | cons c rem ih =>
    rw [splitGroup_cons, letters_cons]
    by_cases hs : stopsAt spec c = true
    · have hj : judge spec c = .takesArgument := by simpa [stopsAt] using hs
      simp only [hs, if_true]
      cases rem <;> cases next <;> simp [occOf, hj]
    · simp only [hs]; exact ih

theorem letters_next (spec : Str) (colon : Bool) (n1 n2 : Option Str) (cs : Str)
    (h : (splitGroup spec cs).2 = false) : letters spec colon n1 cs = letters spec colon n2 cs := by
  induction cs with
  | nil => rfl
  | cons c rem ih =>
    rw [splitGroup_cons] at h
    rw [letters_cons, letters_cons]
    by_cases hs : stopsAt spec c = true
    · simp only [hs, if_true] at h ⊢
      cases rem with
      | nil => simp at h
      | cons r0 rem' => simp [stopsAt] at hs ⊢; simp [occOf, hs]
    · simp only [hs] at h ⊢
      rw [occOf_nonstop spec c rem rem n1 n2 (by simpa using hs), ih h]

theorem next_operand (spec : Str) (pre : List Str) (a : Str) (rest : List Str)
    (h : ∀ cs, a ≠ '-' :: cs) :
    next (pre ++ a :: rest) spec (pre.length + 1) 1 = ⟨none, pre.length + 1, 1⟩ := by
  unfold next
  simp only [Nat.add_sub_cancel, List.drop_left']
  rfl

theorem W_operand (spec : Str) (colon : Bool) (a : Str) (rest : List Str)
    (h : ∀ c cs, a ≠ '-' :: c :: cs) : W spec colon (a :: rest) = ([], a :: rest) := by
  unfold W
  split
  · rename_i c cs; exact absurd rfl (h c cs)
  · rfl

/-- The calls on the vector from the argument index behind `pre` (what the argument index has passed): the events of `W`,
    one unit of fuel each and one for the call that fails; `f` is the `$OPTIND` that call leaves, pointing at `W`'s operands. -/
theorem walk_vector (spec : Str) : ∀ (rest pre : List Str) (k : Nat),
    ∃ f, eraseR (walk spec (pre ++ rest) (k + (W spec (isColon spec) rest).1.length + 1) (pre.length + 1) 1) =
          ((W spec (isColon spec) rest).1, some f) ∧
        (pre ++ rest).drop (f - 1) = (W spec (isColon spec) rest).2
  | [], pre, k => by
    refine ⟨pre.length + 1, ?_, by simp [W]⟩
    exact walk_succ_none _ _ _ _ _ _ 1 (by simp [next, nonOption])
  | a :: rest', pre, k => by
    have operand : (∀ cs, a ≠ '-' :: cs) ∨ a = ['-'] →
        ∃ f, eraseR (walk spec (pre ++ a :: rest') (k + (W spec (isColon spec) (a :: rest')).1.length + 1) (pre.length + 1) 1) =
            ((W spec (isColon spec) (a :: rest')).1, some f) ∧
          (pre ++ a :: rest').drop (f - 1) = (W spec (isColon spec) (a :: rest')).2 := by
      intro hop
      have hw : W spec (isColon spec) (a :: rest') = ([], a :: rest') := by
        apply W_operand
        rcases hop with hop | rfl
        · intro c cs; exact hop (c :: cs)
        · intro c cs h; cases h
      refine ⟨pre.length + 1, ?_, by simp [hw]⟩
      rw [hw]
      rcases hop with hop | rfl
      · exact walk_succ_none _ _ _ _ _ _ 1 (next_operand spec pre a rest' hop)
      · exact walk_succ_none _ _ _ _ _ _ 1 (by simp [next, nonOption])
    cases a with
    | nil => exact operand (Or.inl (by intro cs h; cases h))
    | cons c0 t =>
      by_cases h0 : c0 = '-'
      · subst h0
        cases t with
        | nil => exact operand (Or.inr rfl)
        | cons c cs =>
          by_cases hdd : (c :: cs) = ['-']
          · refine ⟨pre.length + 2, ?_, by simp [W, hdd]⟩
            simp only [W, hdd, if_true]
            exact walk_succ_none _ _ _ _ _ _ 1 (by simp [next, nonOption])
          · rw [W_group spec _ c cs rest' hdd]
            simp only [prependE]
            have hg := walk_group spec pre rest' cs [] c
              (k + (W spec (isColon spec) (if (letters spec (isColon spec) rest'.head? (c :: cs)).2 then rest'.tail else rest')).1.length + 1)
              (by simpa using hdd)
            simp only [List.nil_append, List.length_nil, Nat.zero_add] at hg
            have efuel : k + ((letters spec (isColon spec) rest'.head? (c :: cs)).1 ++
                  (W spec (isColon spec) (if (letters spec (isColon spec) rest'.head? (c :: cs)).2 then rest'.tail else rest')).1).length + 1 =
                k + (W spec (isColon spec) (if (letters spec (isColon spec) rest'.head? (c :: cs)).2 then rest'.tail else rest')).1.length + 1 +
                  (letters spec (isColon spec) rest'.head? (c :: cs)).1.length := by
              simp only [List.length_append]; omega
            rw [efuel, hg]
            cases ht : (letters spec (isColon spec) rest'.head? (c :: cs)).2 with
            | false =>
              simp only [Bool.false_eq_true, if_false, Bool.toNat_false, Nat.add_zero]
              obtain ⟨f, h1, h2⟩ := walk_vector spec rest' (pre ++ ['-' :: c :: cs]) k
              have e1 : pre ++ ['-' :: c :: cs] ++ rest' = pre ++ ('-' :: c :: cs) :: rest' := by simp
              have e2 : (pre ++ ['-' :: c :: cs]).length + 1 = pre.length + 2 := by simp
              rw [e1, e2] at h1
              rw [e1] at h2
              exact ⟨f, by rw [h1], h2⟩
            | true =>
              cases rest' with
              | nil => rw [List.head?_nil, letters_took] at ht; simp at ht
              | cons x rest'' =>
                simp only [if_true, List.tail_cons, Bool.toNat_true]
                obtain ⟨f, h1, h2⟩ := walk_vector spec rest'' (pre ++ ['-' :: c :: cs, x]) k
                have e1 : pre ++ ['-' :: c :: cs, x] ++ rest'' = pre ++ ('-' :: c :: cs) :: x :: rest'' := by simp
                have e2 : (pre ++ ['-' :: c :: cs, x]).length + 1 = pre.length + 2 + 1 := by simp
                rw [e1, e2] at h1
                rw [e1] at h2
                exact ⟨f, by rw [h1], h2⟩

      · exact operand (Or.inl (by intro cs h; cases h; exact h0 rfl))

theorem letters_length (spec : Str) (colon : Bool) (next : Option Str) (cs : Str) :
    (letters spec colon next cs).1.length ≤ cs.length := by
  induction cs with
  | nil => simp [letters]
  | cons c rem ih =>
    rw [letters_cons]
    split
    · simp
    · simp only [List.length_cons]; omega

/-- the size of a vector as `fuelFor` counts it (`fuelFor args = textSize args + 1`): one call per character at most
    (an event per call, `letters_length`) and one per argument for the call that moves on -/
def textSize (l : List Str) : Nat := (l.map (·.length + 1)).sum

def IsGroup (a : Str) : Prop := ∃ c cs, a = '-' :: c :: cs ∧ (c :: cs) ≠ ['-']

theorem W_other (spec : Str) (colon : Bool) (a : Str) (rest : List Str) (hg : ¬ IsGroup a) :
    (W spec colon (a :: rest)).1 = [] := by
  unfold W
  split
  · rename_i c cs
    split
    · rfl
    · rename_i hdd; exact absurd ⟨c, cs, rfl, hdd⟩ hg
  · rfl

theorem W_length (spec : Str) (colon : Bool) : ∀ l : List Str, (W spec colon l).1.length ≤ textSize l
  | [] => by simp [W]
  | a :: rest => by
    by_cases hg : IsGroup a
    · obtain ⟨c, cs, rfl, hdd⟩ := hg
      rw [W_group spec colon c cs rest hdd]
      simp only [prependE, List.length_append, textSize, List.map_cons, List.sum_cons, List.length_cons]
      have h1 := letters_length spec colon rest.head? (c :: cs)
      have h2 : (W spec colon (if (letters spec colon rest.head? (c :: cs)).2 then rest.tail else rest)).1.length
          ≤ textSize rest := by
        split
        · cases rest with
          | nil => simp [W]
          | cons x rest' =>
            have := W_length spec colon rest'
            simp only [List.tail_cons, textSize, List.map_cons, List.sum_cons] at this ⊢
            omega
        · exact W_length spec colon rest
      simp only [textSize, List.length_cons] at h1 h2
      omega
    · simp [W_other spec colon a rest hg]

theorem walkAll_eq_W (spec : Str) (args : List Str) :
    obsOf args (walkAll spec args) = ((W spec (isColon spec) args).1, some (W spec (isColon spec) args).2) := by
  have hlen := W_length spec (isColon spec) args
  have hf : fuelFor args = (fuelFor args - ((W spec (isColon spec) args).1.length + 1)) +
      (W spec (isColon spec) args).1.length + 1 := by
    unfold fuelFor; unfold textSize at hlen; omega
  obtain ⟨f, h1, h2⟩ := walk_vector spec args [] _
  simp only [List.nil_append, List.length_nil, Nat.zero_add] at h1 h2
  unfold walkAll
  rw [hf]
  unfold obsOf
  unfold eraseR at h1
  have e1 := congrArg Prod.fst h1
  have e2 := congrArg Prod.snd h1
  simp only at e1 e2
  rw [e2]
  simp only [Option.map_some, h2]
  exact congrArg (fun l => (l, some (W spec (isColon spec) args).2)) e1

theorem W_parts (spec : Str) (colon : Bool) : ∀ (cs : Str) (tail : List Str), '-' ∉ cs →
    W spec colon ((splitGroup spec cs).1 ++ tail) =
      prependE (letters spec colon tail.head? cs).1
        (W spec colon (if (letters spec colon tail.head? cs).2 then tail.tail else tail)) := by
  intro cs
  induction cs with
  | nil => intro tail _; simp [splitGroup, letters, prependE]
  | cons c rem ih =>
    intro tail hd
    have hc : c ≠ '-' := fun h => hd (by simp [h])
    have hrem : '-' ∉ rem := fun h => hd (by simp [h])
    have hdd : [c] ≠ ['-'] := by intro h; cases h; exact hc rfl
    rw [splitGroup_cons, letters_cons]
    by_cases hs : stopsAt spec c = true
    · have hj : judge spec c = .takesArgument := by simpa [stopsAt] using hs
      simp only [hs, if_true]
      cases rem with
      | nil =>
        simp only [List.isEmpty_nil, if_true, List.singleton_append]
        rw [W_group spec colon c [] tail hdd, letters_cons]
        simp only [hs, if_true]
      | cons r0 rem' =>
        simp only [List.isEmpty_cons, Bool.false_eq_true, if_false, List.cons_append, List.nil_append]
        rw [W_group spec colon c [] _ hdd, letters_cons]
        simp only [hs, if_true, List.head?_cons, List.tail_cons]
        simp [occOf, hj]
    · have hs' : stopsAt spec c = false := by simpa using hs
      simp only [hs', Bool.false_eq_true, if_false, List.cons_append]
      rw [W_group spec colon c [] _ hdd, letters_cons]
      simp only [hs', Bool.false_eq_true, if_false, letters, ih tail hrem, prependE]
      rw [occOf_nonstop spec c [] rem _ tail.head? hs']
      simp

/-- the argument(s) `separate` writes for one group -/
def groupParts (spec : Str) (c : Char) (cs : Str) : List Str :=
  if (c :: cs).contains '-' then ['-' :: c :: cs] else (splitGroup spec (c :: cs)).1

theorem separate_group (spec : Str) (c : Char) (cs : Str) (rest : List Str) (hdd : (c :: cs) ≠ ['-']) :
    separate spec (('-' :: c :: cs) :: rest) =
      groupParts spec c cs ++
        (if (splitGroup spec (c :: cs)).2 then
          (match rest with
           | [] => []
           | x :: rest' => x :: separate spec rest')
         else separate spec rest) := by
  rw [separate]
  simp only [hdd, if_false, groupParts]
  exact sepBody_eq _ _ _ rest _ _

theorem separate_other (spec : Str) (a : Str) (rest : List Str)
    (hg : ¬ IsGroup a) : separate spec (a :: rest) = a :: rest := by
  unfold separate
  split
  · rename_i c cs
    split
    · rfl
    · rename_i hdd; exact absurd ⟨c, cs, rfl, hdd⟩ hg
  · rfl

theorem W_groupParts (spec : Str) (colon : Bool) (c : Char) (cs : Str) (tail : List Str)
    (hdd : (c :: cs) ≠ ['-']) :
    W spec colon (groupParts spec c cs ++ tail) =
      prependE (letters spec colon tail.head? (c :: cs)).1
        (W spec colon (if (letters spec colon tail.head? (c :: cs)).2 then tail.tail else tail)) := by
  unfold groupParts
  by_cases hc : (c :: cs).contains '-' = true
  · simp only [hc, if_true, List.singleton_append]
    exact W_group spec colon c cs tail hdd
  · simp only [hc]
    exact W_parts spec colon (c :: cs) tail (by simpa using hc)

theorem W_separate (spec : Str) (colon : Bool) : ∀ l : List Str, W spec colon (separate spec l) = W spec colon l
  | [] => rfl
  | a :: rest => by
    by_cases hg : IsGroup a
    · obtain ⟨c, cs, rfl, hdd⟩ := hg
      rw [separate_group spec c cs rest hdd, W_groupParts spec colon c cs _ hdd, W_group spec colon c cs rest hdd]
      cases hp : (splitGroup spec (c :: cs)).2 with
      | true =>
        cases rest with
        | nil => simp [letters_took]
        | cons x rest' =>
          have ht : (letters spec colon (some x) (c :: cs)).2 = true := by rw [letters_took, hp]; rfl
          simp only [if_true, List.head?_cons, ht, List.tail_cons]
          rw [W_separate spec colon rest']
      | false =>
        have h1 := letters_next spec colon (separate spec rest).head? rest.head? (c :: cs) hp
        have h3 : (letters spec colon rest.head? (c :: cs)).2 = false := by rw [letters_took, hp]; rfl
        simp only [Bool.false_eq_true, if_false, h1, h3]
        rw [W_separate spec colon rest]
    · rw [separate_other spec a rest hg]

theorem walk_separate (spec : Str) (args : List Str) :
    obsOf (separate spec args) (walkAll spec (separate spec args)) = obsOf args (walkAll spec args) := by
  rw [walkAll_eq_W, walkAll_eq_W, W_separate spec (isColon spec) args]

theorem isSeparated_single (spec : Str) (c : Char) (rest : List Str) (hc : c ≠ '-') :
    isSeparated spec (['-', c] :: rest) = afterSep (isSeparated spec) (takesArgB spec c) rest := by
  have h1 : ([c] : Str) ≠ ['-'] := by intro h; cases h; exact hc rfl
  have h2 : ([c] : Str).contains '-' = false := by simp; exact fun h => hc h.symm
  conv => lhs; unfold isSeparated
  simp only [h1, if_false, h2, Bool.false_eq_true, List.isEmpty_nil, if_true, afterSep]
  cases rest <;> rfl

theorem isSeparated_other (spec : Str) (a : Str) (rest : List Str) (hg : ¬ IsGroup a) :
    isSeparated spec (a :: rest) = true := by
  unfold isSeparated
  split
  · rename_i c cs
    by_cases hdd : (c :: cs) = ['-']
    · simp [hdd]
    · exact absurd ⟨c, cs, rfl, hdd⟩ hg
  · rfl

theorem separate_isSeparated (spec : Str) : ∀ args : List Str, isSeparated spec (separate spec args) = true
  | [] => rfl
  | a :: rest => by
    by_cases hg : IsGroup a
    · obtain ⟨c, cs, rfl, hdd⟩ := hg
      rw [separate_group spec c cs rest hdd]
      -- what follows a group, whatever is written for the group itself
      have key : ∀ tail, isSeparated spec (groupParts spec c cs ++ tail) =
          afterSep (isSeparated spec) (splitGroup spec (c :: cs)).2 tail := by
        intro tail
        unfold groupParts
        by_cases hk : (c :: cs).contains '-' = true
        · simp only [hk, if_true, List.singleton_append]
          conv => lhs; unfold isSeparated
          simp only [hdd, if_false, hk, if_true, afterSep]
          cases tail <;> rfl
        · simp only [hk]
          exact parts_separated (isSeparated spec) '-' (takesArgB spec) (splitGroup spec) rfl (splitGroup_cons spec)
            (fun c rest hc => isSeparated_single spec c rest hc) (c :: cs) tail (by simpa using hk)
      rw [key]
      cases hp : (splitGroup spec (c :: cs)).2 with
      | true =>
        cases rest with
        | nil => rfl
        | cons x rest' =>
          simp only [if_true, afterSep]
          exact separate_isSeparated spec rest'
      | false =>
        simp only [Bool.false_eq_true, if_false, afterSep]
        exact separate_isSeparated spec rest
    · rw [separate_other spec a rest hg]; exact isSeparated_other spec a rest hg

theorem W_after_options {spec : Str} {colon : Bool} {pre : List Str} {evs : List EvV}
    (h : GOptionsOnly spec colon pre evs) (ys : List Str) :
    W spec colon (pre ++ ys) = prependE evs (W spec colon ys) := by
  induction h with
  | nil => simp [prependE]
  | one c cs l rest evs hne hl _ ih =>
    rw [List.cons_append, W_group _ _ _ _ _ hne, hl]
    simp [ih, prependE, List.append_assoc]
  | two c cs x l rest evs hne hl _ ih =>
    rw [List.cons_append, List.cons_append, W_group _ _ _ _ _ hne]
    simp only [List.head?_cons, hl, if_true, List.tail_cons]
    simp [ih, prependE, List.append_assoc]

end YashModel.Args.Getopts
