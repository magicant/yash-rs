/-
  C20 — Impl model of the bespoke argument parser of the `typeset` built-in family
  (`typeset`, `export`, `readonly`): `yash-builtin/src/typeset/syntax.rs`

  * `try_parse_short`  (`shortSign` = its prologue, `shortLoop` = its `for c in … .skip(1)` loop)
  * `try_parse_long`   (`longPrefix`, `tryParseLong`: every option whose long name STARTS WITH the given
                        name is a candidate — unlike `common/syntax.rs` an exactly named option gets no
                        preference)
  * `parse`            (`parseLoop`: the `loop` with `next_if(== "--")`, `try_parse_short`, `try_parse_long`)
  * `interpret`        (`interpret`: the `for (index, option)` loop = `scan`, the `portable` operand checks,
                        the `-f` / `-g` clash, `Attr → FunctionAttr` conversion, the four `Command`s)
  * `export.rs` / `readonly.rs` `main`: what they add to the interpreted command (`exportAdjust`,
    `readonlyAdjust`)

  Import-free and executable.  Strings are lists of characters (`strip_prefix`, `chars().skip(1)`,
  `starts_with` are all character-boundary operations).  `Field::origin` / `Location` are dropped: an
  `OptionOccurrence` is its spec and its state (it carries NO spelling, so equivalent spellings give equal
  occurrences, not only equal views); an error keeps its class and the option character it names.
  `State::On` is `true`.
-/
namespace YashModel.Args.Typeset

abbrev Str := List Char

/-- `enum Attr` -/
inductive Attr where
  | readOnly
  | export
  deriving DecidableEq, Repr

/-- typeset's own `struct OptionSpec { short, long, attr }` -/
structure TSpec where
  short : Char
  long : Str
  attr : Option Attr
  deriving DecidableEq, Repr

/-- `struct OptionOccurrence { spec, state, location }` without the location -/
structure Occ where
  spec : TSpec
  state : Bool
  deriving DecidableEq, Repr

/-- `enum ParseError` (the `Field` payload dropped) -/
inductive PErr where
  | unknownShort (c : Char)
  | unknownLong
  | ambiguousLong
  | nonPortableLong
  | uncancelableShort (c : Char)
  | uncancelableLong
  deriving DecidableEq, Repr

/-- The prologue of `try_parse_short`: the first character is the sign (`-` → `negate = false`, `+` →
    `negate = true`), the second one exists and is not the same sign again.  `none` = `return Ok(false)`. -/
def shortSign (a : Str) : Option Bool :=
  match a with
  | [] => none
  | c0 :: rest =>
    let negate : Option Bool := if c0 = '-' then some false else if c0 = '+' then some true else none
    match negate with
    | none => none
    | some negate =>
      match rest with
      | [] => none
      | c1 :: _ =>
        if c1 = '-' ∧ negate = false then none
        else if c1 = '+' ∧ negate = true then none
        else some negate

/-- `option_specs.iter().find(|spec| spec.short == c)` -/
def findShort (specs : List TSpec) (c : Char) : Option TSpec :=
  specs.find? (fun s => s.short == c)

/-- the `for c in field.value.chars().skip(1)` loop of `try_parse_short` (the occurrences pushed before an
    error are discarded with the whole result by `?` in `parse`) -/
def shortLoop (specs : List TSpec) (negate : Bool) : Str → Except PErr (List Occ)
  | [] => .ok []
  | c :: cs =>
    match findShort specs c with
    | none => .error (.unknownShort c)
    | some spec =>
      if negate ∧ spec.attr = none then .error (.uncancelableShort c)
      else
        match shortLoop specs negate cs with
        | .error e => .error e
        | .ok os => .ok ({ spec := spec, state := !negate } :: os)

/-- `strip_prefix("--")` / `strip_prefix("++")`: `some (name, negate)` -/
def longPrefix : Str → Option (Str × Bool)
  | '-' :: '-' :: name => some (name, false)
  | '+' :: '+' :: name => some (name, true)
  | _ => none

/-- `spec.long.starts_with(name)` -/
def startsWith (long name : Str) : Bool := name.isPrefixOf long

/-- `option_specs.iter().filter(|spec| spec.long.starts_with(name))` -/
def longCandidates (specs : List TSpec) (name : Str) : List TSpec :=
  specs.filter (fun s => startsWith s.long name)

/-- the `match spec { … }` of `try_parse_long` on the first two candidates (in this order: unknown, ambiguous,
    uncancelable — before the portability check —, non-portable, accepted) -/
def longResolve (cands : List TSpec) (negate longNames : Bool) : Except PErr Occ :=
  match cands with
  | [] => .error .unknownLong
  | spec :: more =>
    if more ≠ [] then .error .ambiguousLong
    else if negate ∧ spec.attr = none then .error .uncancelableLong
    else if !longNames then .error .nonPortableLong
    else .ok { spec := spec, state := !negate }

/-- `try_parse_long`; `none` = `Ok(None)` (not a long option, nothing consumed) -/
def tryParseLong (specs : List TSpec) (longNames : Bool) (a : Str) : Option (Except PErr Occ) :=
  match longPrefix a with
  | none => none
  | some (name, negate) => some (longResolve (longCandidates specs name) negate longNames)

def dashdash : Str := ['-', '-']

/-- put the occurrences of one argument in front of the result for the remaining arguments -/
def prepend (os : List Occ) : Except PErr (List Occ × List Str) → Except PErr (List Occ × List Str)
  | .ok (os', ops) => .ok (os ++ os', ops)
  | .error e => .error e

/-- the `loop` of `parse` (`longNames` = `mode.long_option_names`, the only field of `Mode` it reads) -/
def parseLoop (specs : List TSpec) (longNames : Bool) : List Str → Except PErr (List Occ × List Str)
  | [] => .ok ([], [])
  | a :: rest =>
    if a = dashdash then .ok ([], rest)
    else
      match shortSign a with
      | some negate =>
        (match shortLoop specs negate (a.drop 1) with
         | .error e => .error e
         | .ok os => prepend os (parseLoop specs longNames rest))
      | none =>
        match tryParseLong specs longNames a with
        | some (.error e) => .error e
        | some (.ok o) => prepend [o] (parseLoop specs longNames rest)
        | none => .ok ([], a :: rest)

/-- `parse` -/
def parse (specs : List TSpec) (longNames : Bool) (args : List Str) : Except PErr (List Occ × List Str) :=
  parseLoop specs longNames args

/-! ## `interpret` -/

/-- `enum FunctionAttr` has the single member `ReadOnly`; `TryFrom<Attr> for FunctionAttr` -/
def toFunctionAttr : Attr → Bool
  | .readOnly => true
  | .export => false

/-- `enum Command`: variables / functions, the attribute list, `Scope::Global` -/
inductive Cmd where
  | setVariables (variables : List Str) (attrs : List (Attr × Bool)) (global : Bool)
  | printVariables (variables : List Str) (attrs : List (Attr × Bool)) (global : Bool)
  | setFunctions (functions : List Str) (attrs : List (Attr × Bool))
  | printFunctions (functions : List Str) (attrs : List (Attr × Bool))
  deriving DecidableEq, Repr

/-- `enum InterpretError` (locations dropped; `clashing` / `function` are the occurrences) -/
inductive IErr where
  | inapplicable (clashing function : Occ)
  | missingOperand
  | unexpectedOperands (operands : List Str)
  /-- `option.spec.attr.unwrap()` on a spec that is none of `f g p X` and has no attribute: the documented
      panic for a table that is not a subset of `ALL_OPTIONS` (never produced for the real tables:
      `real_tables_wellformed_interpretable`) -/
  | foreignSpec (c : Char)
  deriving DecidableEq, Repr

/-- the mutable variables of the `for (index, option) in options.iter().enumerate()` loop -/
structure Scan where
  functions : Option Nat := none
  global : Option Nat := none
  print : Option Nat := none
  attrs : List (Nat × Attr × Bool) := []
  foreign : Option Char := none
  deriving DecidableEq, Repr

/-- one iteration of that loop: `match option.spec.short { 'f' … 'g' … 'p' … 'X' … _ … }` -/
def scanStep (sc : Scan) (index : Nat) (o : Occ) : Scan :=
  if o.spec.short = 'f' then { sc with functions := some index }
  else if o.spec.short = 'g' then { sc with global := some index }
  else if o.spec.short = 'p' then { sc with print := some index }
  else if o.spec.short = 'X' then { sc with attrs := sc.attrs ++ [(index, .export, !o.state)] }
  else
    match o.spec.attr with
    | some a => { sc with attrs := sc.attrs ++ [(index, a, o.state)] }
    | none => { sc with foreign := sc.foreign.or (some o.spec.short) }

def scanFrom (sc : Scan) (index : Nat) : List Occ → Scan
  | [] => sc
  | o :: os => scanFrom (scanStep sc index o) (index + 1) os

def scan (options : List Occ) : Scan := scanFrom {} 0 options

/-- the first attribute `try_into::<FunctionAttr>` refuses: its option index -/
def firstNonFunctionAttr : List (Nat × Attr × Bool) → Option Nat
  | [] => none
  | (i, a, _) :: rest => if toFunctionAttr a then firstNonFunctionAttr rest else some i

def dummyOcc : Occ := { spec := { short := '?', long := [], attr := none }, state := true }

/-- `interpret(options, operands, portable)` -/
def interpret (options : List Occ) (operands : List Str) (portable : Bool) : Except IErr Cmd :=
  let sc := scan options
  match sc.foreign with
  | some c => .error (.foreignSpec c)
  | none =>
    let print := operands.isEmpty || sc.print.isSome
    if portable ∧ sc.print.isNone ∧ operands.isEmpty then .error .missingOperand
    else if portable ∧ sc.print.isSome ∧ !operands.isEmpty then .error (.unexpectedOperands operands)
    else
      let attrs := sc.attrs.map (fun e => (e.2.1, e.2.2))
      match sc.functions with
      | some fi =>
        (match sc.global with
         | some gi => .error (.inapplicable (options.getD gi dummyOcc) (options.getD fi dummyOcc))
         | none =>
           match firstNonFunctionAttr sc.attrs with
           | some ai => .error (.inapplicable (options.getD ai dummyOcc) (options.getD fi dummyOcc))
           | none => if print then .ok (.printFunctions operands attrs) else .ok (.setFunctions operands attrs))
      | none =>
        if print then .ok (.printVariables operands attrs sc.global.isSome)
        else .ok (.setVariables operands attrs sc.global.isSome)

/-- what a whole invocation comes to: the command, or one of the two kinds of error -/
inductive Outcome where
  | cmd (c : Cmd)
  | parseError (e : PErr)
  | interpretError (e : IErr)
  deriving DecidableEq, Repr

/-- `parse` then `interpret`, as `typeset.rs` / `export.rs` / `readonly.rs` `main` chain them
    (`Mode::with_env(env)`: `long_option_names = !portable`) -/
def run (specs : List TSpec) (longNames portable : Bool) (args : List Str) : Outcome :=
  match parse specs longNames args with
  | .error e => .parseError e
  | .ok (os, ops) =>
    match interpret os ops portable with
    | .error e => .interpretError e
    | .ok c => .cmd c

/-- `export.rs` `main`: `attrs.push((Export, On)); scope = Global` (functions: `unreachable!` — `-f` is not in
    export's table) -/
def exportAdjust : Cmd → Cmd
  | .setVariables v a _ => .setVariables v (a ++ [(.export, true)]) true
  | .printVariables v a _ => .printVariables v (a ++ [(.export, true)]) true
  | c => c

/-- `readonly.rs` `main`: `attrs.push((ReadOnly, On))`, variables also `scope = Global` -/
def readonlyAdjust : Cmd → Cmd
  | .setVariables v a _ => .setVariables v (a ++ [(.readOnly, true)]) true
  | .printVariables v a _ => .printVariables v (a ++ [(.readOnly, true)]) true
  | .setFunctions f a => .setFunctions f (a ++ [(.readOnly, true)])
  | .printFunctions f a => .printFunctions f (a ++ [(.readOnly, true)])

end YashModel.Args.Typeset
