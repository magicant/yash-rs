/-
  Driver for C20.  stdin: one case per line, stdout: `<model observation>\t<spec>`.

  Case lines (space-separated tokens; strings are hex of UTF-8, `-` = empty string, `~` = absent):
    P <mode> <specs> <arg>*                       one vector against `parse_arguments`
    S <cmd> <mode> <specs> <setup> <probe> <arg>* ( | <arg>* )*   equivalent spellings of one invocation
    M <cmd> <mode> <specs> <setup> <probe> <arg>*                 a malformed invocation
    B <portable> <cmd> <setup> <probe> <arg>* ( | <arg>* )*   shell-level spellings (no model: observation = their number)
    E <portable> <cmd> <setup> <probe> <arg>*     shell-level rejection (no model)
    G <optstring> <arg>*                          `while getopts optstring v arg…` run to the end
    J <step> ( ; <step> )*                        getopts sessions in ONE shell: `S <i|a|l> <optstring> <limit|*> <arg>*` | `R <value>`
    T <portable> <names> <arg>*                   set/syntax.rs `parse`
    H <names> <argv0> <arg>*                      startup/args.rs `parse` (the shell's own command line)
    K <portable> <sigterm> <names> <arg>*         kill/syntax.rs `parse`
    Y <ln><p> <table> <arg>*                      typeset/syntax.rs `parse` + `interpret` (<ln> = long_option_names, <p> = portable;
                                                  <table> = `@typeset` | `@export` | `@readonly` (re-extracted constants) | `_` |
                                                  comma-separated `<short>:<long>:<attr>`, attr 0 none / 1 ReadOnly / 2 Export)
    Q <builtin> <portable> <arg>*                 cd / pwd / unset / unalias `syntax::parse`: parse_arguments + the built-in's own checks
    U <names> <init> <params0> <arg>*             `set arg…` run in a shell: set.rs `main` (<init> = `name.bit;…` for every option,
                                                  <params0> = `_` or comma-separated positional parameters)
  <names> = `_` or comma-separated answers of yash_env::option / Signals::str2sig:
            s:<char>:<opt>:<state>  l:<raw>:N|A|<opt>:<state>  o:<opt>:<modifiable>:<portable short c.state|~>:<portable long n.state|~>  g:<NAME>:<number>
  <mode>  = three bits: long_option_names, extension_options, option_arguments_in_same_field
  <specs> = `_` (empty table) or comma-separated `<short>:<long>:<takesArg>:<extension>`
-/
import YashModel.Common.Proto
import YashModel.Args.Model
import YashModel.Args.Spec
import YashModel.Args.Canon
import YashModel.Args.Getopts
import YashModel.Args.GetoptsHistory
import YashModel.Args.Bespoke
import YashModel.Args.BespokeSpec
import YashModel.Args.SetMain
import YashModel.Args.SetSpec
import YashModel.Args.OptionNames
import YashModel.Args.Typeset
import YashModel.Args.SeparateModeSpec
import YashModel.Args.Str2sig
import YashModel.Args.Post
import YashModel.Args.TypesetSpec
import YashModel.Generated.OptionNames
import YashModel.Generated.ArgSpecs
open YashModel YashModel.Args YashModel.Proto

def parseBit (c : Char) : Option Bool :=
  if c = '1' then some true else if c = '0' then some false else none

def parseMode (t : String) : Option Mode :=
  match t.toList with
  | [a, b, c] => do pure ⟨← parseBit a, ← parseBit b, ← parseBit c⟩
  | _ => none

def parseOptStr (t : String) : Option (Option Str) :=
  if t = "~" then some none else (decChars t).map some

def parseSpec (t : String) : Option OptionSpec :=
  match t.splitOn ":" with
  | [s, l, a, e] => do
    let sh ← parseOptStr s
    let short ← match sh with
      | none => some none
      | some [c] => some (some c)
      | _ => none
    let long ← parseOptStr l
    let a ← match a.toList with | [c] => parseBit c | _ => none
    let e ← match e.toList with | [c] => parseBit c | _ => none
    pure { short := short, long := long, takesArg := a, extension := e }
  | _ => none

def parseSpecs (t : String) : Option (List OptionSpec) :=
  if t = "_" then some [] else (t.splitOn ",").mapM parseSpec

def bit (b : Bool) : String := if b then "1" else "0"

def showOptStr : Option Str → String
  | none => "~"
  | some s => encChars s

def showSpec (s : OptionSpec) : String :=
  let sh := match s.short with | none => "~" | some c => encChars [c]
  s!"{sh}:{showOptStr s.long}:{bit s.takesArg}:{bit s.extension}"

def showSpelling : Spelling → String
  | .short i => s!"s{i}"
  | .long => "l"

def showErr : ParseError → String
  | .unknownShort c => s!"err:unknownShort:{encChars [c]}"
  | .unknownLong => "err:unknownLong"
  | .nonPortableShort c s => s!"err:nonPortableShort:{encChars [c]}:{showSpec s}"
  | .nonPortableLong s => s!"err:nonPortableLong:{showSpec s}"
  | .ambiguousLong ss => s!"err:ambiguous:{"+".intercalate (ss.map showSpec)}"
  | .missingArgument s => s!"err:missing:{showSpec s}"
  | .unseparatedArgument s => s!"err:unseparated:{showSpec s}"
  | .unexpectedArgument s => s!"err:unexpected:{showSpec s}"

def showParsed : Parsed → String
  | .error e => showErr e
  | .ok (os, ops) =>
    let o := os.map fun o => s!"{showSpec o.spec}@{showSpelling o.spelling}={showOptStr o.argument}"
    s!"ok [{";".intercalate o}] [{",".intercalate (ops.map encChars)}]"

def showView : View → String
  | .error e => showErr e
  | .ok (os, ops) =>
    let o := os.map fun (s, a) => s!"{showSpec s}={showOptStr a}"
    s!"ok [{";".intercalate o}] [{",".intercalate (ops.map encChars)}]"

/-- split a token list at `;` -/
def splitSemi (ts : List String) : List (List String) :=
  let rec go (ts : List String) (cur : List String) (acc : List (List String)) : List (List String) :=
    match ts with
    | [] => (cur.reverse :: acc).reverse
    | t :: r => if t = ";" then go r [] (cur.reverse :: acc) else go r (t :: cur) acc
  go ts [] []

/-- split a token list at `|` -/
def splitBar (ts : List String) : List (List String) :=
  let rec go (ts : List String) (cur : List String) (acc : List (List String)) : List (List String) :=
    match ts with
    | [] => (cur.reverse :: acc).reverse
    | t :: r => if t = "|" then go r [] (cur.reverse :: acc) else go r (t :: cur) acc
  go ts [] []

def specVerdict (specs : List OptionSpec) (mode : Mode) (args : List Str) (r : Parsed) : Option String :=
  let v := r.view
  let s := Spec.parse specs mode args
  if showView v ≠ showView s then some s!"FAIL:spec-predicts {showView s}"
  else if mode.optionArgumentsInSameField then
    -- the canonical spelling (Canon.lean) must parse alike, and be read by the simple reader when accepted
    let c := Spec.canon specs args
    let vc := (parseArguments specs mode c).view
    if showView vc ≠ showView v then some s!"FAIL:canonical-spelling-gives {showView vc}"
    else match v with
      | .ok _ =>
        if specs.all (fun s => s.short != some '-' && (match s.long with | some l => !l.isEmpty && !l.contains '=' | none => true))
            && showView (Spec.readCanon specs mode c) ≠ showView v then
          some s!"FAIL:simple-reader-gives {showView (Spec.readCanon specs mode c)}"
        else none
      | .error _ => none
  else none

/-! getopts leg -/

def showOptind (p : Nat × Nat) : String := if p.2 = 1 then s!"{p.1}" else s!"{p.1}:{p.2}"

def showGetopts (r : List Getopts.Ev × Option Nat) : String :=
  let evs := r.1.map fun e => s!"{encChars [e.var]},{showOptStr e.optarg},{showOptind e.optind}"
  let diags := (r.1.filter (·.diag)).length
  let fin := match r.2 with
    | some i => s!"3f,~,{i},st1"
    | none => "LOOP"
  s!"[{";".intercalate evs}] end={fin} diag={diags}"

def showGObs (o : Getopts.Obs) : String :=
  let evs := o.1.map fun (v, a, d) => s!"{encChars [v]},{showOptStr a},{bit d}"
  let ops := match o.2 with
    | some l => ",".intercalate (l.map encChars)
    | none => "LOOP"
  s!"[{";".intercalate evs}] [{ops}]"

def runGetopts (spec : Str) (args : List Str) : String :=
  let r := Getopts.walkAll spec args
  let o := Getopts.obsOf args r
  let s := Getopts.specObs spec args
  let verdict := if showGObs o = showGObs s then "ok" else s!"FAIL:separated-spelling-gives {showGObs s}"
  showGetopts r ++ "\t" ++ verdict

/-! bespoke parsers: set, the shell's command line, kill -/

open YashModel.Args.Bespoke in
def parseNames (t : String) : Option Names :=
  if t = "_" then some {} else
  (t.splitOn ",").foldlM (init := ({} : Names)) fun nm e =>
    match e.splitOn ":" with
    | ["s", c, o, st] => do
      let c ← decChars c
      let c ← c.head?
      let o ← decChars o
      let st ← st.toList.head? >>= parseBit
      pure { nm with short := nm.short ++ [(c, o, st)] }
    | ["l", r, "N"] => do pure { nm with long := nm.long ++ [(← decChars r, .noSuch)] }
    | ["l", r, "A"] => do pure { nm with long := nm.long ++ [(← decChars r, .ambiguous)] }
    | ["l", r, o, st] => do
      let st ← st.toList.head? >>= parseBit
      pure { nm with long := nm.long ++ [(← decChars r, .ok (← decChars o) st)] }
    | ["o", o, m, ps, pl] => do
      let m ← m.toList.head? >>= parseBit
      let pair (x : String) : Option (Option (List Char × Bool)) :=
        if x = "~" then some none else
        match x.splitOn "." with
        | [n, st] => do pure (some (← decChars n, ← st.toList.head? >>= parseBit))
        | _ => none
      let ps ← pair ps
      let pl ← pair pl
      let ps' ← match ps with
        | none => some none
        | some ([c], st) => some (some (c, st))
        | _ => none
      pure { nm with info := nm.info ++ [(← decChars o, { modifiable := m, portShort := ps', portLong := pl })] }
    | ["g", n, v] => do pure { nm with sig := nm.sig ++ [(← decChars n, ← v.toInt?)] }
    | ["a", _, _] => some nm
    | _ => none

def showOpts (os : List (Str × Bool)) : String :=
  ";".intercalate (os.map fun (o, st) => s!"{String.ofList o}={bit st}")

def showStrs (l : List Str) : String := ",".intercalate (l.map encChars)

open YashModel.Args.Bespoke in
def showSet : Except SetErr SetCmd → String
  | .ok .printVariables => "ok vars"
  | .ok .printHuman => "ok human"
  | .ok .printMachine => "ok machine"
  | .ok (.modify os ps) =>
    let p := match ps with | none => "~" | some l => s!"[{showStrs l}]"
    s!"ok modify [{showOpts os}] params={p}"
  | .error e => match e with
    | .unknownShort c => s!"err:unknownShort:{encChars [c]}"
    | .unknownLong => "err:unknownLong"
    | .ambiguousLong => "err:ambiguousLong"
    | .missingArgument => "err:missingArgument"
    | .unmodifiableShort c => s!"err:unmodifiableShort:{encChars [c]}"
    | .unmodifiableLong => "err:unmodifiableLong"
    | .nonPortableShort c => s!"err:nonPortableShort:{encChars [c]}"
    | .nonPortableLong => "err:nonPortableLong"
    | .unseparated => "err:unseparated"

open YashModel.Args.Bespoke in
def showSh : Except ShErr ShParse → String
  | .ok .help => "ok help"
  | .ok .version => "ok version"
  | .ok (.run r) =>
    let src := match r.source with | .stdin => "stdin" | .file p => s!"file:{encChars p}" | .string p => s!"string:{encChars p}"
    let ini : InitFile → String := fun i => match i with | .none => "none" | .default => "default" | .file p => s!"file:{encChars p}"
    s!"ok run src={src} profile={ini r.profile} rcfile={ini r.rcfile} opts=[{showOpts r.options}] arg0={encChars r.arg0} params=[{showStrs r.params}]"
  | .error e => match e with
    | .unknownShort c => s!"err:unknownShort:{encChars [c]}"
    | .unknownLong => "err:unknownLong"
    | .ambiguousLong => "err:ambiguousLong"
    | .missingArgument => "err:missingArgument"
    | .unexpectedArgument => "err:unexpectedArgument"
    | .conflictingSources => "err:conflictingSources"
    | .unnegatableShort c => s!"err:unnegatableShort:{encChars [c]}"
    | .unnegatableLong => "err:unnegatableLong"
    | .missingCommandString => "err:missingCommandString"
    | .nonPortableShort c => s!"err:nonPortableShort:{encChars [c]}"
    | .nonPortableShortNegation c => s!"err:nonPortableShortNegation:{encChars [c]}"
    | .nonPortableLong => "err:nonPortableLong"
    | .unseparated => "err:unseparated"

open YashModel.Args.Bespoke in
def showKill : Except KillErr KillCmd → String
  | .ok (.send sig o ts) => s!"ok send {sig} origin={bit o} [{showStrs ts}]"
  | .ok (.print ss v) => s!"ok print [{showStrs ss}] verbose={bit v}"
  | .error e => match e with
    | .unknownOption => "err:unknownOption"
    | .nonPortableOption c => s!"err:nonPortableOption:{encChars [c]}"
    | .conflictingOptions c => s!"err:conflictingOptions:{encChars [c]}"
    | .missingSignal c => s!"err:missingSignal:{encChars [c]}"
    | .unseparatedSignalArgument => "err:unseparatedSignalArgument"
    | .nonPortableSignalNumber n => s!"err:nonPortableSignalNumber:{n}"
    | .nonPortableSignalPrefix => "err:nonPortableSignalPrefix"
    | .multipleSignals => "err:multipleSignals"
    | .invalidSignal => "err:invalidSignal"
    | .multipleListOperands => "err:multipleListOperands"
    | .nonPortableListOperand => "err:nonPortableListOperand"
    | .missingTarget => "err:missingTarget"

/-- `a:<char>:<0|1>` entries of <names>: `char::is_alphanumeric` of the non-ASCII characters of the case -/
def parseAlnum (t : String) : List (Char × Bool) :=
  if t = "_" then [] else
  (t.splitOn ",").filterMap fun e =>
    match e.splitOn ":" with
    | ["a", c, b] => do
      let c ← decChars c
      let c ← c.head?
      let b ← b.toList.head? >>= parseBit
      pure (c, b)
    | _ => none

def allSuffixes (args : List (List Char)) : List (List Char) :=
  ([] :: args.flatMap fun a => (List.range a.length).map fun i => a.drop i).eraseDups

/-- The long-name answers are NOT taken from the harness: they are computed by the model of
    `canonicalize` / `parse_long` (Args/OptionNames.lean) over the generated table of option names. -/
def withModelLong (nm : Bespoke.Names) (extra : List (Char × Bool)) (args : List (List Char)) : Bespoke.Names :=
  { nm with long := (allSuffixes args).map fun s =>
      (s, match OptionNames.resolve Generated.OptionNames.optionNames extra s with
          | .ok o st => Bespoke.LongRes.ok o st
          | .noSuch => .noSuch
          | .ambiguous => .ambiguous) }

/-- The answers of `parse_short`, `is_modifiable`, `portable_short_name`, `portable_long_name` are NOT taken from
    the harness either: they come from the tables re-extracted from yash-env/src/option.rs (`Bespoke.tableNames`);
    only `str2sig` (kill) is still the harness's. -/
def withModelTables (nm : Bespoke.Names) (extra : List (Char × Bool)) (args : List (List Char)) : Bespoke.Names :=
  { Bespoke.tableNames (withModelLong nm extra args).long with sig := nm.sig }

open YashModel.Args.Bespoke in
def showSetResult (init : OptStates) (r : SetResult) : String :=
  let out := match r.out with
    | .nothing => "-"
    | .variables => "vars"
    | .text s => encChars s
  let chg := r.env.options.filter fun e => !(init.any fun i => i.1 == e.1 && i.2 == e.2)
  s!"st={r.status} diag={bit r.diag} out={out} chg=[{showOpts chg}] params=[{showStrs r.env.params}]"

def parseInit (t : String) : Option (List (List Char × Bool)) :=
  (t.splitOn ";").mapM fun e =>
    match e.splitOn "." with
    | [n, b] => do pure (n.toList, ← b.toList.head? >>= parseBit)
    | _ => none

def hasSub (s pat : String) : Bool := (s.splitOn pat).length > 1

def byDesign (o : String) : Bool :=
  hasSub o "portable=1" || o.startsWith "err:nonPortable" || o.startsWith "err:unseparated"

/-- observation, then: `ok` if the separated spelling gives the same; `-` if they differ while the
    `portable` option is (or is being turned) on — there the attached / long forms are rejected by
    design; `FAIL` otherwise -/
def specCompare (portable : Bool) (a b : String) : String :=
  let verdict :=
    if a = b then "ok"
    else if portable || byDesign a || byDesign b then "-"
    else s!"FAIL:separated-spelling-gives {b}"
  a ++ "\t" ++ verdict

/-! getopts histories -/

open YashModel.Args.Getopts in
def parseHStep (ts : List String) : Option HStep :=
  match ts with
  | ["R", v] => do pure (.assign (← decChars v))
  | "S" :: sp :: spec :: lim :: vec => do
    let sp ← match sp with | "i" => some Spelling.implicit | "a" => some .dollarAt | "l" => some .literal | _ => none
    let lim ← if lim = "*" then some none else lim.toNat?.map some
    pure (.session sp (← decChars spec) (← vec.mapM decChars) lim)
  | _ => none

def showRawStr (s : List Char) : String := if s.isEmpty then "-" else String.ofList s

open YashModel.Args.Getopts in
def showStepObs (o : StepObs) : String :=
  let cs := o.calls.map fun c => s!"{encChars [c.var]},{showOptStr c.optarg},{showRawStr c.optind}"
  let fin := match o.fin with | some n => s!"st{n}" | none => "part"
  let v := match o.var with | some c => encChars [c] | none => "~"
  s!"[{";".intercalate cs}] fin={fin} now={v},{showOptStr o.optarg},{showRawStr o.optind}"

open YashModel.Args.Getopts in
/-- Spec: every complete session that starts with `OPTIND=1` behaves as in a fresh shell, in each spelling -/
def historyVerdict (steps : List HStep) : String :=
  let rec go (env : GEnv) (steps : List HStep) (checked : Nat) : String :=
    match steps with
    | [] => if checked = 0 then "-" else "ok"
    | .assign v :: rest => go { env with optind := v } rest checked
    | .session sp spec vec limit :: rest =>
      let (o, env') := runSession env sp spec vec limit
      if limit.isNone && env.optind == ['1'] && !(sp == .literal && vec.isEmpty) then
        let sps := [Spelling.implicit, .dollarAt] ++ (if vec.isEmpty then [] else [.literal])
        if sps.all (fun s => showStepObs (freshObs s spec vec) == showStepObs o) then go env' rest (checked + 1)
        else s!"FAIL:session differs from a fresh shell: {showStepObs (freshObs sp spec vec)}"
      else go env' rest checked
  go freshEnv steps 0

open YashModel.Args.Getopts in
def runHistoryLine (ts : List String) : String :=
  match (splitSemi ts).mapM parseHStep with
  | none => "bad-case\t-"
  | some steps =>
    let obs := runHistory freshEnv steps
    let shown := obs.map fun o => match o with | none => "r" | some o => showStepObs o
    let diag := (obs.filterMap id).foldl (fun n o => n + (o.calls.filter (·.diag)).length) 0
    let err := ((obs.filterMap id).filter (fun o => o.fin == some 2)).length
    s!"{" | ".intercalate shown} diag={diag} err={err}" ++ "\t" ++ historyVerdict steps

/-! the typeset family's own parser -/

open YashModel.Args.Typeset in
def attrOfNat : Nat → Option (Option Attr)
  | 0 => some none
  | 1 => some (some .readOnly)
  | 2 => some (some .export)
  | _ => none

open YashModel.Args.Typeset in
def parseTTable (t : String) : Option (List TSpec) :=
  if t.startsWith "@" then
    (Generated.ArgSpecs.typesetTables.find? (fun e => "@" ++ e.1 == t)).bind fun e =>
      e.2.mapM fun (c, l, a) => do pure { short := c, long := l, attr := ← attrOfNat a }
  else if t = "_" then some []
  else (t.splitOn ",").mapM fun e =>
    match e.splitOn ":" with
    | [s, l, a] => do
      let s ← decChars s
      let c ← match s with | [c] => some c | _ => none
      pure { short := c, long := ← decChars l, attr := ← (a.toNat? >>= attrOfNat) }
    | _ => none

open YashModel.Args.Typeset in
def attrNum : Option Attr → Nat
  | none => 0
  | some .readOnly => 1
  | some .export => 2

open YashModel.Args.Typeset in
def showOcc (o : Occ) : String := s!"{encChars [o.spec.short]}.{attrNum o.spec.attr}={bit o.state}"

open YashModel.Args.Typeset in
def showTAttrs (l : List (Attr × Bool)) : String :=
  ";".intercalate (l.map fun (a, st) => s!"{match a with | .readOnly => "ro" | .export => "ex"}={bit st}")

open YashModel.Args.Typeset in
def showPErr : PErr → String
  | .unknownShort c => s!"err:unknownShort:{encChars [c]}"
  | .unknownLong => "err:unknownLong"
  | .ambiguousLong => "err:ambiguousLong"
  | .nonPortableLong => "err:nonPortableLong"
  | .uncancelableShort c => s!"err:uncancelableShort:{encChars [c]}"
  | .uncancelableLong => "err:uncancelableLong"

open YashModel.Args.Typeset in
def showTParse : Except PErr (List Occ × List Typeset.Str) → String
  | .error e => showPErr e
  | .ok (os, ops) => s!"ok [{";".intercalate (os.map showOcc)}] [{showStrs ops}]"

open YashModel.Args.Typeset in
def showInterp : Except IErr Cmd → String
  | .ok (.setVariables v a g) => s!"setvars [{showTAttrs a}] g={bit g} [{showStrs v}]"
  | .ok (.printVariables v a g) => s!"printvars [{showTAttrs a}] g={bit g} [{showStrs v}]"
  | .ok (.setFunctions f a) => s!"setfns [{showTAttrs a}] [{showStrs f}]"
  | .ok (.printFunctions f a) => s!"printfns [{showTAttrs a}] [{showStrs f}]"
  | .error (.inapplicable c f) => s!"ierr:inapplicable:{showOcc c}:{showOcc f}"
  | .error .missingOperand => "ierr:missingOperand"
  | .error (.unexpectedOperands ops) => s!"ierr:unexpectedOperands:[{showStrs ops}]"
  | .error (.foreignSpec c) => s!"ierr:foreignSpec:{encChars [c]}"

open YashModel.Args.Typeset in
def showTypeset (specs : List TSpec) (portable : Bool) (r : Except PErr (List Occ × List Typeset.Str)) : String :=
  match r with
  | .error _ => showTParse r
  | .ok (os, ops) =>
    let i := if decide (Interpretable specs) then showInterp (interpret os ops portable) else "skip"
    s!"{showTParse r} => {i}"

open YashModel.Args.Typeset in
def runTypeset (specs : List TSpec) (ln portable : Bool) (args : List Typeset.Str) : String :=
  let r := parse specs ln args
  let obs := showTypeset specs portable r
  let spec :=
    if decide (WellFormed specs) then
      let c := canon specs ln args
      let rc := parse specs ln c
      if showTypeset specs portable rc ≠ obs then s!"FAIL:canonical-spelling-gives {showTypeset specs portable rc}"
      else match r with
        | .ok _ =>
          if !isCanonical c then "FAIL:canonical-spelling-is-not-canonical"
          else if showTParse (read specs c) ≠ showTParse r then s!"FAIL:simple-reader-gives {showTParse (read specs c)}"
          else "ok"
        | .error _ => "ok"
    else "-"
  obs ++ "\t" ++ spec

/-! what the built-in's syntax.rs does after `parse_arguments` (cd, pwd, unset, unalias) -/

open YashModel.Args.Post in
def runPost (b : String) (p : Bool) (args : List (List Char)) : Option String :=
  let opt (o : Option (List Char)) : String := match o with | some s => encChars s | none => "~"
  match b with
  | "cd" => some (match cdParse p args with
      | .ok c => s!"ok cd physical={bit c.physical} ensure={bit c.ensurePwd} operand={opt c.operand}"
      | .error (.common e) => s!"err:common:{showErr e}"
      | .error .ensurePwdNotPhysical => "err:ensurePwdNotPhysical"
      | .error .emptyOperand => "err:emptyOperand"
      | .error (.unexpectedOperands o) => s!"err:unexpectedOperands:[{showStrs o}]")
  | "pwd" => some (match pwdParse p args with
      | .ok m => s!"ok pwd physical={bit m}"
      | .error (.common e) => s!"err:common:{showErr e}"
      | .error (.unexpectedOperands o) => s!"err:unexpectedOperands:[{showStrs o}]")
  | "unset" => some (match unsetParse p args with
      | .ok c => s!"ok unset functions={bit c.functions} [{showStrs c.names}]"
      | .error (.common e) => s!"err:common:{showErr e}"
      | .error .conflictingOption => "err:conflictingOption"
      | .error .missingOperand => "err:missingOperand")
  | "unalias" => some (match unaliasParse p args with
      | .ok (.remove n) => s!"ok unalias remove [{showStrs n}]"
      | .ok .removeAll => "ok unalias all"
      | .error (.common e) => s!"err:common:{showErr e}"
      | .error .conflictingOptionAndOperand => "err:conflictingOptionAndOperand"
      | .error .missingArgument => "err:missingArgument")
  | _ => none

open YashModel.Args.Post in
def postSpecs (b : String) : List OptionSpec :=
  match b with | "cd" => cdSpecs | "pwd" => pwdSpecs | "unset" => unsetSpecs | "unalias" => unaliasSpecs | _ => []

def runLine (line : String) : String :=
  match words line with
  | "P" :: m :: sp :: args =>
    (match parseMode m, parseSpecs sp, args.mapM decChars with
     | some mode, some specs, some args =>
       let r := parseArguments specs mode args
       showParsed r ++ "\t" ++ (specVerdict specs mode args r).getD "ok"
     | _, _, _ => "bad-case\t-")
  | "S" :: _cmd :: m :: sp :: _setup :: _probe :: rest =>
    (match parseMode m, parseSpecs sp, (splitBar rest).mapM (·.mapM decChars) with
     | some mode, some specs, some spellings =>
       let rs := spellings.map (parseArguments specs mode)
       let views := (rs.map (fun r => showView r.view)).eraseDups
       let first := match rs.head? with | some r => showView r.view | none => "-"
       let bad := (spellings.zip rs).filterMap fun (a, r) => specVerdict specs mode a r
       let spec := match bad with
         | b :: _ => b
         | [] => if views.length = 1 then "ok" else "FAIL:spellings-not-equivalent"
       s!"n={spellings.length} classes={views.length} first={first}" ++ "\t" ++ spec
     | _, _, _ => "bad-case\t-")
  | "M" :: _cmd :: m :: sp :: _setup :: _probe :: args =>
    (match parseMode m, parseSpecs sp, args.mapM decChars with
     | some mode, some specs, some args =>
       let r := parseArguments specs mode args
       let obs := match r with
         | .error e => "rejected " ++ showErr e
         | .ok _ => "accepted " ++ showView r.view
       let spec := match specVerdict specs mode args r with
         | some b => b
         | none => match r with | .error _ => "ok" | .ok _ => "FAIL:malformed-accepted"
       obs ++ "\t" ++ spec
     | _, _, _ => "bad-case\t-")
  | "T" :: p :: nm :: args =>
    (match p.toList.head? >>= parseBit, parseNames nm, args.mapM decChars with
     | some p, some nm0, some args =>
       let nm := withModelTables nm0 (parseAlnum nm) args
       -- in EVERY `portable` state (named in the vector or not) the mode-following separated spelling must parse alike
       let base := showSet (Bespoke.setParse nm p args)
       let m := Bespoke.separateM nm p args
       let isPrint : List (List Char) → Bool := fun l => l == [] || l == [['-', 'o']] || l == [['+', 'o']]
       let viaM := showSet (Bespoke.setParse nm p m)
       if !isPrint args && !isPrint m && viaM ≠ base then base ++ "\t" ++ s!"FAIL:mode-separated-spelling-gives {viaM}"
       else specCompare p base (showSet (Bespoke.setParse nm p (Bespoke.separateSO true args)))
     | _, _, _ => "bad-case\t-")
  | "H" :: nm :: args =>
    (match parseNames nm, args.mapM decChars with
     | some nm0, some args =>
       let nm := withModelTables nm0 (parseAlnum nm) args
       -- `--name=ARG` as the first argument is also rewritten to `--name ARG` (options that take an argument)
       let eqSplit : List (List Char) → List (List Char) := fun r =>
         match r with
         | ('-' :: '-' :: body) :: r' =>
           let n := body.takeWhile (· != '=')
           let tl := body.dropWhile (· != '=')
           (match Bespoke.nonShell n, tl with
            | some (true, _), _ :: v => if n.isEmpty then r else ('-' :: '-' :: n) :: v :: r'
            | _, _ => r)
         | _ => r
       let base := showSh (Bespoke.shParse nm args)
       -- in every `portable` state the mode-following separated spelling must parse alike
       let viaM := showSh (Bespoke.shParse nm (match args with | a0 :: r => a0 :: Bespoke.separateMsh nm false r | [] => []))
       if viaM ≠ base then base ++ "\t" ++ s!"FAIL:mode-separated-spelling-gives {viaM}" else
       let alt := showSh (Bespoke.shParse nm (match args with | a0 :: r => a0 :: eqSplit r | [] => []))
       if alt ≠ base && !byDesign alt && !byDesign base then base ++ "\t" ++ s!"FAIL:`--name ARG`-spelling-gives {alt}"
       else specCompare false base (showSh (Bespoke.shParse nm (match args with | a0 :: r => a0 :: Bespoke.separateSO false r | [] => [])))
     | _, _ => "bad-case\t-")
  | "K" :: p :: st :: nm :: args =>
    (match p.toList.head? >>= parseBit, st.toInt?, parseNames nm, args.mapM decChars with
     | some p, some st, some nm0, some args =>
       -- the answers of `str2sig` are NOT taken from the harness (its `g:` entries are ignored): they are computed by the
       -- model of `str2sig` over the re-extracted NAMED_SIGNALS / VirtualSystem constants (Args/Str2sig.lean)
       let nm : Bespoke.Names := { nm0 with sig := Bespoke.sigAnswers args }
       specCompare p (showKill (Bespoke.killParse nm p st args)) (showKill (Bespoke.killParse nm p st (Bespoke.separateKill nm args)))
     | _, _, _, _ => "bad-case\t-")
  | "U" :: nm :: init :: p0 :: args =>
    (match parseNames nm, parseInit init, (if p0 = "_" then some [] else (p0.splitOn ",").mapM decChars), args.mapM decChars with
     | some nm0, some init, some params0, some args =>
       let nm := withModelTables nm0 (parseAlnum nm) args
       let env : Bespoke.SetEnv := { options := init, params := params0 }
       let obs := showSetResult init (Bespoke.setMain nm env args)
       let exp := showSetResult init (Bespoke.expect nm env args)
       -- a malformed invocation: the Spec's prediction is compared with the REAL run (`=`); otherwise the
       -- model's run must be what the reference reader expects
       let spec := if Bespoke.malformed nm (Bespoke.getOpt init Bespoke.portableOpt) args then "=" ++ exp
         else if obs = exp then "ok" else s!"FAIL:reference-reader-expects {exp}"
       obs ++ "\t" ++ spec
     | _, _, _, _ => "bad-case\t-")
  | "Q" :: b :: p :: args =>
    (match p.toList.head? >>= parseBit, args.mapM decChars with
     | some p, some args =>
       (match runPost b p args with
        | some obs =>
          -- the canonical spelling must come to the same command / error (attached arguments need the extensions)
          let spec := if p then "-" else
            match runPost b p (Spec.canon (postSpecs b) args) with
            | some o2 => if o2 = obs then "ok" else s!"FAIL:canonical-spelling-gives {o2}"
            | none => "-"
          obs ++ "\t" ++ spec
        | none => "bad-case\t-")
     | _, _ => "bad-case\t-")
  | "Y" :: m :: tb :: args =>
    (match m.toList, parseTTable tb, args.mapM decChars with
     | [a, b], some specs, some args =>
       (match parseBit a, parseBit b with
        | some ln, some p => runTypeset specs ln p args
        | _, _ => "bad-case\t-")
     | _, _, _ => "bad-case\t-")
  | "B" :: _p :: _cmd :: _setup :: _probe :: rest => s!"n={(splitBar rest).length}\t-"
  | "E" :: _p :: _cmd :: _setup :: _probe :: _ => "n=1\t-"
  | "J" :: ts => runHistoryLine ts
  | "G" :: sp :: args =>
    (match decChars sp, args.mapM decChars with
     | some spec, some args => runGetopts spec args
     | _, _ => "bad-case\t-")
  | _ => "bad-case\t-"

def main : IO Unit := mainLoop runLine
