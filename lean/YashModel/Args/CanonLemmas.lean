/-
  C20 — lemmas about the canonical spelling (`Canon.lean`): it is read like the original
  (`run_canon`), it is canonical when the vector is well formed (`canon_isCanonical`), and canonical
  vectors are read by the ten-line reader (`run_eq_readCanon`).
-/
import YashModel.Args.ParseRefine
namespace YashModel.Args
open Spec

/-- the documented requirements on option names: the short name is not `-`; the long name is not empty
    and contains no `=` -/
def WellNamed (specs : List OptionSpec) : Prop :=
  ∀ s ∈ specs, s.short ≠ some '-' ∧ ∀ l, s.long = some l → l ≠ [] ∧ '=' ∉ l

theorem argKind_cluster (a : Str) (cs : Str) (h : argKind a = .cluster cs) :
    ∃ c cs', cs = c :: cs' ∧ a = '-' :: c :: cs' ∧ c ≠ '-' := by
  have hf := argForm a
  rw [h] at hf
  cases hf with
  | cluster c cs' hc => exact ⟨c, cs', rfl, rfl, hc⟩

theorem argKind_long (a : Str) (body : Str) (h : argKind a = .long body) :
    ∃ c b, body = c :: b ∧ a = '-' :: '-' :: c :: b := by
  have hf := argForm a
  rw [h] at hf
  cases hf with
  | long c b => exact ⟨c, b, rfl, rfl⟩

theorem run_canonCluster (specs : List OptionSpec) (mode : Mode) (hm : mode.optionArgumentsInSameField = true) :
    ∀ (cs : Str) (tail : List Str), cs.head? ≠ some '-' →
      Spec.run specs mode none (canonCluster specs cs ++ tail) =
        contV specs mode (Spec.cluster specs mode cs) tail := by
  intro cs
  induction cs with
  | nil => intro tail _; simp [canonCluster, Spec.cluster, contV]
  | cons c cs ih =>
    intro tail hd
    have hc : c ≠ '-' := fun h => hd (by simp [h])
    rw [canonCluster]
    cases hf : specs.find? (fun s => s.short == some c) with
    | none => exact run_cluster specs mode c cs tail hc
    | some s =>
      simp only []
      by_cases ha : s.takesArg = true
      · simp only [ha, if_true]
        by_cases he : cs = []
        · subst he; exact run_cluster specs mode c [] tail hc
        · -- `-cX` is written `-c X`: the law of the attached option-argument
          have he' : cs.isEmpty = false := by simpa using he
          simp only [he', Bool.false_eq_true, if_false, List.cons_append, List.nil_append]
          rw [show shortTok c = ['-', c] from rfl, run_cluster specs mode c [] _ hc]
          exact (contV_cluster_attached specs mode c s cs tail hf ha he hm [] (by simp)).symm
      · have ha' : s.takesArg = false := by simpa using ha
        simp only [ha', Bool.false_eq_true, if_false]
        by_cases hn : cs.head? = some '-'
        · simp only [hn, if_true]; exact run_cluster specs mode c cs tail hc
        · -- a flag is split off: behind it the rest is read as a cluster of its own, which is the induction hypothesis
          simp only [hn, if_false, List.cons_append]
          rw [show shortTok c = ['-', c] from rfl, run_cluster specs mode c [] _ hc]
          refine (contV_cluster_congr specs mode (cs := cs) (cs' := []) ?_ [c] (noArg_singleton hf ha')).symm
          rw [← ih tail hn]; simp [Spec.cluster, contV]

/-- what an accepted cluster has done with its first letter -/
inductive ClusterOk (specs : List OptionSpec) (mode : Mode) (c : Char) (cs : Str) : List Spec.Opt → Option OptionSpec → Prop
  | last (s : OptionSpec) (hf : specs.find? (fun s => s.short == some c) = some s) (ha : s.takesArg = true) (he : cs = []) :
      ClusterOk specs mode c cs [] (some s)
  | attached (s : OptionSpec) (hf : specs.find? (fun s => s.short == some c) = some s) (ha : s.takesArg = true) (he : cs ≠ []) :
      ClusterOk specs mode c cs [(s, some cs)] none
  | flag (s : OptionSpec) (hf : specs.find? (fun s => s.short == some c) = some s) (ha : s.takesArg = false)
      (os : List Spec.Opt) (p : Option OptionSpec) (hr : Spec.cluster specs mode cs = .ok (os, p)) :
      ClusterOk specs mode c cs ((s, none) :: os) p

theorem cluster_cons_ok {specs : List OptionSpec} {mode : Mode} {c : Char} {cs : Str} {os : List Spec.Opt}
    {p : Option OptionSpec} (h : Spec.cluster specs mode (c :: cs) = .ok (os, p)) : ClusterOk specs mode c cs os p := by
  rw [cluster_cons] at h
  cases hf : specs.find? (fun s => s.short == some c) with
  | none => rw [hf] at h; cases h
  | some s =>
    simp only [hf] at h
    by_cases hx : s.extension = true ∧ ¬ mode.extensionOptions = true
    · rw [if_pos hx] at h; cases h
    · rw [if_neg hx] at h
      by_cases ha : s.takesArg = true
      · rw [if_pos ha] at h
        by_cases he : cs = []
        · rw [if_pos he] at h; cases h; exact .last s hf ha he
        · rw [if_neg he] at h
          by_cases hm : mode.optionArgumentsInSameField = true
          · rw [if_pos hm] at h; cases h; exact .attached s hf ha he
          · rw [if_neg hm] at h; cases h
      · rw [if_neg ha] at h
        cases hr : Spec.cluster specs mode cs with
        | error e => rw [hr] at h; cases h
        | ok q => obtain ⟨os', p'⟩ := q; rw [hr] at h; cases h; exact .flag s hf (by simpa using ha) os' _ hr

theorem cluster_pending (specs : List OptionSpec) (mode : Mode) : ∀ (cs : Str) (os : List Spec.Opt) (p : Option OptionSpec),
    Spec.cluster specs mode cs = .ok (os, p) → p.isSome = pendingOf specs cs := by
  intro cs
  induction cs with
  | nil => intro os p h; simp [Spec.cluster] at h; simp [pendingOf, ← h.2]
  | cons c cs ih =>
    intro os p h
    cases cluster_cons_ok h with
    | last s hf ha he => simp [pendingOf, hf, ha, he]
    | attached s hf ha he => simp [pendingOf, hf, ha, he]
    | flag s hf ha os' p hr => simp [pendingOf, hf, ha, ih os' p hr]

theorem longOpt_full (specs : List OptionSpec) (mode : Mode) (l : Str) (s : OptionSpec)
    (hc : candidates specs l = [s]) (hne : '=' ∉ l) :
    Spec.longOpt specs mode l = Spec.longOne mode s false [] := by
  have := longOpt_split specs mode l [] hne (Or.inl rfl)
  rw [List.append_nil, hc] at this
  exact this

theorem longOpt_one (specs : List OptionSpec) (mode : Mode) (body : Str) (s : OptionSpec)
    (hc : candidates specs (body.takeWhile (fun x => decide (x ≠ '='))) = [s]) :
    Spec.longOpt specs mode body =
      Spec.longOne mode s (body.contains '=') ((body.dropWhile (fun x => decide (x ≠ '='))).drop 1) := by
  simp only [Spec.longOpt, hc]

theorem longOne_false_arg (mode : Mode) (s : OptionSpec) (a a' : Str) :
    Spec.longOne mode s false a = Spec.longOne mode s false a' := by
  unfold Spec.longOne
  split
  · rfl
  · cases s.takesArg <;> rfl

/-- how `canonLong` writes `--body` (`odd`: the full name of the option it denotes is empty or contains `=`) -/
inductive CanonLongForm (specs : List OptionSpec) (body : Str) : List Str × Bool → Prop
  | unresolved (hc : ∀ s, candidates specs (body.takeWhile (fun x => decide (x ≠ '='))) ≠ [s]) :
      CanonLongForm specs body ([longTok body], false)
  | odd (s : OptionSpec) (l : Str) (hc : candidates specs (body.takeWhile (fun x => decide (x ≠ '='))) = [s])
      (hl : s.long = some l) (hbad : (l.isEmpty || l.contains '=') = true) :
      CanonLongForm specs body ([longTok body], s.takesArg && !body.contains '=')
  | named (s : OptionSpec) (l0 : Char) (l' : Str)
      (hc : candidates specs (body.takeWhile (fun x => decide (x ≠ '='))) = [s])
      (hl : s.long = some (l0 :: l')) (hleq : '=' ∉ l0 :: l') :
      CanonLongForm specs body
        (if s.takesArg then
          (if body.contains '=' then
            ([longTok (l0 :: l'), (body.dropWhile (fun x => decide (x ≠ '='))).drop 1], false)
           else ([longTok (l0 :: l')], true))
         else (if body.contains '=' then ([longTok body], false) else ([longTok (l0 :: l')], false)))

theorem canonLongForm (specs : List OptionSpec) (body : Str) : CanonLongForm specs body (canonLong specs body) := by
  unfold canonLong
  simp only []
  match hc : candidates specs (body.takeWhile (fun x => decide (x ≠ '='))) with
  | [] => exact .unresolved (fun s h => by rw [hc] at h; cases h)
  | _ :: _ :: _ => exact .unresolved (fun s h => by rw [hc] at h; cases h)
  | [s] =>
    simp only []
    cases hl : s.long with
    | none =>
      -- impossible: a candidate has a long name
      have := (candidates_mem specs _ s hc).2
      simp [Spec.abbreviates, hl] at this
    | some l =>
      simp only []
      by_cases hbad : (l.isEmpty || l.contains '=') = true
      · rw [if_pos hbad]; exact .odd s l hc hl hbad
      · rw [if_neg hbad]
        cases l with
        | nil => exact absurd rfl hbad
        | cons l0 l' => exact .named s l0 l' hc hl (fun h => hbad (by simp [h]))

theorem longOpt_unresolved (specs : List OptionSpec) (mode : Mode) (body : Str)
    (hc : ∀ s, candidates specs (body.takeWhile (fun x => decide (x ≠ '='))) ≠ [s]) (q) :
    Spec.longOpt specs mode body ≠ .ok q := by
  intro h
  match hm : candidates specs (body.takeWhile (fun x => decide (x ≠ '='))) with
  | [] => simp only [Spec.longOpt, hm] at h; cases h
  | _ :: _ :: _ => simp only [Spec.longOpt, hm] at h; cases h
  | [s] => exact hc s hm

theorem run_canonLong (specs : List OptionSpec) (mode : Mode) (c : Char) (b : Str) (tail : List Str) :
    Spec.run specs mode none ((canonLong specs (c :: b)).1 ++ tail) =
      contV specs mode (Spec.longOpt specs mode (c :: b)) tail := by
  have keep : Spec.run specs mode none ([longTok (c :: b)] ++ tail) =
      contV specs mode (Spec.longOpt specs mode (c :: b)) tail := by
    exact run_long specs mode c b tail
  have hform := canonLongForm specs (c :: b)
  generalize canonLong specs (c :: b) = parts at hform ⊢
  cases hform with
  | unresolved hc => exact keep
  | odd s l hc hl hbad => exact keep
  | named s l0 l' hc hl hleq =>
    have hLO := longOpt_full specs mode (l0 :: l') s (candidates_full specs _ (l0 :: l') s hc hl) hleq
    rw [longOpt_one specs mode (c :: b) s hc]
    have hfullrun : ∀ t, Spec.run specs mode none (longTok (l0 :: l') :: t) =
        contV specs mode (Spec.longOne mode s false []) t := by
      intro t; rw [← hLO]; exact run_long specs mode l0 l' t
    by_cases ha : s.takesArg = true <;> by_cases he : (c :: b).contains '=' = true
    · -- `--name=arg` for an option with an argument: written `--full arg`
      simp only [ha, he, if_true, List.cons_append, List.nil_append]
      rw [hfullrun]
      exact (contV_longOne_arg specs mode s ha _ [] tail).symm
    · -- `--name`, the argument follows: written `--full`
      have he' : (c :: b).contains '=' = false := by simpa using he
      simp only [ha, he', if_true, Bool.false_eq_true, if_false, List.singleton_append]
      rw [hfullrun, longOne_false_arg mode s [] _]
    · -- `--name=arg` for a flag (an error): kept as it is
      simp only [ha, he, Bool.false_eq_true, if_false, if_true]
      rw [keep, longOpt_one specs mode (c :: b) s hc, he]
    · -- `--name` for a flag: written `--full`
      have ha' : s.takesArg = false := by simpa using ha
      have he' : (c :: b).contains '=' = false := by simpa using he
      simp only [ha', he', Bool.false_eq_true, if_false, List.singleton_append]
      rw [hfullrun, longOne_false_arg mode s [] _]

theorem longOne_pending (mode : Mode) (s : OptionSpec) (he : Bool) (a : Str) (os : List Spec.Opt)
    (p : Option OptionSpec) (h : Spec.longOne mode s he a = .ok (os, p)) : p.isSome = (s.takesArg && !he) := by
  unfold Spec.longOne at h
  split at h
  · cases h
  · cases ha : s.takesArg <;> cases he <;> simp [ha] at h <;> simp [← h.2]

theorem long_pending (specs : List OptionSpec) (mode : Mode) (body : Str) (os : List Spec.Opt)
    (p : Option OptionSpec) (h : Spec.longOpt specs mode body = .ok (os, p)) :
    p.isSome = (canonLong specs body).2 := by
  have hform := canonLongForm specs body
  generalize canonLong specs body = parts at hform ⊢
  cases hform with
  | unresolved hc => exact absurd h (longOpt_unresolved specs mode body hc _)
  | odd s l hc hl hbad =>
    rw [longOpt_one specs mode body s hc] at h
    exact longOne_pending mode s _ _ os p h
  | named s l0 l' hc hl hleq =>
    rw [longOpt_one specs mode body s hc] at h
    rw [longOne_pending mode s _ _ os p h]
    cases s.takesArg <;> cases (body.contains '=') <;> rfl

theorem parts_run (specs : List OptionSpec) (mode : Mode) (hm : mode.optionArgumentsInSameField = true)
    (a : Str) (tail : List Str) (hk : argKind a ≠ .stop) :
    Spec.run specs mode none ((canonParts specs a (argKind a)).1 ++ tail) =
      runKind specs mode a tail (argKind a) := by
  cases hka : argKind a with
  | stop => exact absurd hka hk
  | long body =>
    obtain ⟨c, b, rfl, rfl⟩ := argKind_long a body hka
    simp only [canonParts, runKind]
    exact run_canonLong specs mode c b tail
  | cluster cs =>
    obtain ⟨c, cs', rfl, rfl, hc⟩ := argKind_cluster a cs hka
    simp only [canonParts, runKind]
    exact run_canonCluster specs mode hm (c :: cs') tail (by simpa using hc)

theorem parts_pending (specs : List OptionSpec) (mode : Mode) (a : Str) (os : List Spec.Opt) (p : Option OptionSpec)
    (h : argResult specs mode (argKind a) = .ok (os, p)) : p.isSome = (canonParts specs a (argKind a)).2 := by
  cases hka : argKind a with
  | stop => rw [hka] at h; cases h; rfl
  | long body => rw [hka] at h; exact long_pending specs mode body os p h
  | cluster cs => rw [hka] at h; exact cluster_pending specs mode cs os p h

theorem canon_cons (specs : List OptionSpec) (a : Str) (rest : List Str) (hk : argKind a ≠ .stop) :
    canon specs (a :: rest) = (canonParts specs a (argKind a)).1 ++
      (if (canonParts specs a (argKind a)).2 then (match rest with | [] => [] | x :: rest' => x :: canon specs rest')
       else canon specs rest) := by
  conv => lhs; unfold canon
  rw [if_neg hk]
  cases (canonParts specs a (argKind a)).2 <;> cases rest <;> simp

theorem run_canon (specs : List OptionSpec) (mode : Mode) (hm : mode.optionArgumentsInSameField = true) :
    ∀ args : List Str, Spec.run specs mode none (canon specs args) = Spec.run specs mode none args
  | [] => rfl
  | a :: rest => by
    by_cases hk : argKind a = .stop
    · conv => lhs; unfold canon
      rw [if_pos hk]
    · rw [canon_cons specs a rest hk, parts_run specs mode hm a _ hk, run_kind, runKind_option specs mode a _ hk,
        runKind_option specs mode a _ hk]
      cases hR : argResult specs mode (argKind a) with
      | error e => rfl
      | ok q =>
        obtain ⟨os, p⟩ := q
        rw [← parts_pending specs mode a os p hR]
        cases p with
        | none =>
          simp only [Option.isSome_none, Bool.false_eq_true, if_false, contV]
          rw [run_canon specs mode hm rest]
        | some s =>
          simp only [Option.isSome_some, if_true, contV]
          cases rest with
          | nil => rfl
          | cons x rest' => rw [run_pending_cons, run_pending_cons, run_canon specs mode hm rest']

theorem isCanonical_stop (specs : List OptionSpec) (a : Str) (rest : List Str) (h : tokOf specs a = .stop) :
    isCanonical specs false (a :: rest) = true := by rw [isCanonical]; simp only [h]
theorem isCanonical_bad (specs : List OptionSpec) (a : Str) (rest : List Str) (e : ParseError)
    (h : tokOf specs a = .bad e) : isCanonical specs false (a :: rest) = false := by rw [isCanonical]; simp only [h]
theorem isCanonical_opt (specs : List OptionSpec) (a : Str) (rest : List Str) (s : OptionSpec) (l : Bool) (c : Char)
    (h : tokOf specs a = .opt s l c) : isCanonical specs false (a :: rest) = isCanonical specs s.takesArg rest := by
  rw [isCanonical]; simp only [h]
theorem isCanonical_pending (specs : List OptionSpec) (x : Str) (rest : List Str) :
    isCanonical specs true (x :: rest) = isCanonical specs false rest := by
  rw [isCanonical]

theorem readCanon_stop (specs : List OptionSpec) (mode : Mode) (a : Str) (rest : List Str) (h : tokOf specs a = .stop) :
    readCanon specs mode (a :: rest) = if a = ['-', '-'] then .ok ([], rest) else .ok ([], a :: rest) := by
  rw [readCanon]; simp only [h]
theorem readCanon_blocked (specs : List OptionSpec) (mode : Mode) (a : Str) (rest : List Str) (s : OptionSpec) (l : Bool)
    (c : Char) (h : tokOf specs a = .opt s l c) (hb : blocked mode s l = true) :
    readCanon specs mode (a :: rest) = .error (blockedError s l c) := by
  rw [readCanon]; simp only [h, hb, if_true]
theorem readCanon_flag (specs : List OptionSpec) (mode : Mode) (a : Str) (rest : List Str) (s : OptionSpec) (l : Bool)
    (c : Char) (h : tokOf specs a = .opt s l c) (hb : blocked mode s l = false) (ha : s.takesArg = false) :
    readCanon specs mode (a :: rest) = Spec.cons [(s, none)] (readCanon specs mode rest) := by
  rw [readCanon]; simp only [h, hb, ha, Bool.false_eq_true, if_false]
theorem readCanon_arg_nil (specs : List OptionSpec) (mode : Mode) (a : Str) (s : OptionSpec) (l : Bool)
    (c : Char) (h : tokOf specs a = .opt s l c) (hb : blocked mode s l = false) (ha : s.takesArg = true) :
    readCanon specs mode [a] = .error (.missingArgument s) := by
  rw [readCanon]; simp only [h, hb, ha, Bool.false_eq_true, if_false, if_true]
theorem readCanon_arg_cons (specs : List OptionSpec) (mode : Mode) (a x : Str) (rest : List Str) (s : OptionSpec) (l : Bool)
    (c : Char) (h : tokOf specs a = .opt s l c) (hb : blocked mode s l = false) (ha : s.takesArg = true) :
    readCanon specs mode (a :: x :: rest) = Spec.cons [(s, some x)] (readCanon specs mode rest) := by
  rw [readCanon]; simp only [h, hb, ha, Bool.false_eq_true, if_false, if_true]

theorem blocked_long_iff (mode : Mode) (s : OptionSpec) : blocked mode s true = true ↔ ¬ LongAllowed mode s := by
  rw [← longOneGuard_iff]; simp [blocked]

theorem blocked_short (mode : Mode) (s : OptionSpec) : blocked mode s false = (s.extension && !mode.extensionOptions) := by
  simp [blocked]

/-- what the token of an argument says about the argument -/
inductive TokForm (specs : List OptionSpec) (a : Str) : Tok → Prop
  | stop (hk : argKind a = .stop) : TokForm specs a .stop
  | long (body : Str) (s : OptionSpec) (hk : argKind a = .long body) (he : body.contains '=' = false)
      (hf : specs.find? (fun s => s.long == some body) = some s) : TokForm specs a (.opt s true '-')
  | short (c : Char) (s : OptionSpec) (hk : argKind a = .cluster [c])
      (hf : specs.find? (fun s => s.short == some c) = some s) : TokForm specs a (.opt s false c)
  | bad (e : ParseError) : TokForm specs a (.bad e)

theorem tokForm (specs : List OptionSpec) (a : Str) : TokForm specs a (tokOf specs a) := by
  unfold tokOf
  cases hk : argKind a with
  | stop => exact .stop hk
  | long body =>
    simp only []
    by_cases he : body.contains '=' = true
    · rw [if_pos he]; exact .bad _
    · rw [if_neg he]
      cases hf : specs.find? (fun s => s.long == some body) with
      | none => exact .bad _
      | some s => exact .long body s hk (by simpa using he) hf
  | cluster cs =>
    match cs with
    | [] => exact .bad _
    | _ :: _ :: _ => exact .bad _
    | [c] =>
      simp only []
      cases hf : specs.find? (fun s => s.short == some c) with
      | none => exact .bad _
      | some s => exact .short c s hk hf

theorem run_opt_token (specs : List OptionSpec) (mode : Mode) (a : Str) (rest : List Str) (s : OptionSpec) (l : Bool)
    (c : Char) (h : tokOf specs a = .opt s l c) :
    Spec.run specs mode none (a :: rest) =
      if blocked mode s l then .error (blockedError s l c)
      else contV specs mode (.ok (if s.takesArg then [] else [(s, none)], if s.takesArg then some s else none)) rest := by
  rw [run_kind]
  have hform := tokForm specs a
  rw [h] at hform
  cases hform with
  | long body _ hk he hf =>
    rw [hk]
    simp only [runKind]
    rw [longOpt_full specs mode body s (candidates_of_find specs body s hf) (by simpa using he)]
    unfold Spec.longOne
    by_cases hx : LongAllowed mode s
    · rw [if_neg (fun h => (blocked_long_iff mode s).mp h hx), if_neg (fun h => (longOneGuard_iff mode s).mp h hx)]
      cases s.takesArg <;> rfl
    · rw [if_pos ((blocked_long_iff mode s).mpr hx), if_pos ((longOneGuard_iff mode s).mpr hx)]; rfl
  | short _ _ hk hf =>
    rw [hk]
    simp only [runKind]
    rw [cluster_cons, hf]
    simp only []
    have e0 : Spec.cluster specs mode [] = .ok ([], none) := by simp [Spec.cluster]
    rw [blocked_short]
    by_cases hx : s.extension = true ∧ ¬ mode.extensionOptions = true
    · rw [if_pos hx, if_pos ((extGuard_iff mode s).mpr hx)]; rfl
    · rw [if_neg hx, if_neg (mt (extGuard_iff mode s).mp hx), e0]
      cases s.takesArg <;> rfl

theorem run_eq_readCanon (specs : List OptionSpec) (mode : Mode) : ∀ v : List Str,
    isCanonical specs false v = true → Spec.run specs mode none v = readCanon specs mode v
  | [], _ => by simp [run_nil, readCanon]
  | a :: rest, hcan => by
    cases ht : tokOf specs a with
    | stop =>
      rw [readCanon_stop specs mode a rest ht, run_kind]
      have hform := tokForm specs a
      rw [ht] at hform
      have : argKind a = .stop := by cases hform with | stop hk => exact hk
      rw [this]; rfl
    | bad e => rw [isCanonical_bad specs a rest e ht] at hcan; cases hcan
    | opt s l c =>
      rw [isCanonical_opt specs a rest s l c ht] at hcan
      rw [run_opt_token specs mode a rest s l c ht]
      cases hb : blocked mode s l with
      | true => rw [readCanon_blocked specs mode a rest s l c ht hb]; rfl
      | false =>
        simp only [Bool.false_eq_true, if_false]
        cases ha : s.takesArg with
        | false =>
          rw [ha] at hcan
          rw [readCanon_flag specs mode a rest s l c ht hb ha]
          simp only [contV, Bool.false_eq_true, if_false]
          rw [run_eq_readCanon specs mode rest hcan]
        | true =>
          rw [ha] at hcan
          simp only [contV, if_true]
          cases rest with
          | nil =>
            rw [readCanon_arg_nil specs mode a s l c ht hb ha, run_pending_nil]; rfl
          | cons x rest' =>
            rw [isCanonical_pending] at hcan
            rw [readCanon_arg_cons specs mode a x rest' s l c ht hb ha, run_pending_cons,
              run_eq_readCanon specs mode rest' hcan]
            cases readCanon specs mode rest' with
            | error e => rfl
            | ok q => cases q; rfl

theorem tokOf_shortTok (specs : List OptionSpec) (c : Char) (s : OptionSpec) (hc : c ≠ '-')
    (hf : specs.find? (fun s => s.short == some c) = some s) : tokOf specs (shortTok c) = .opt s false c := by
  unfold tokOf shortTok; rw [argKind_cluster_cons [] hc]; simp only [hf]

theorem find_dash_none (specs : List OptionSpec) (hw : WellNamed specs) :
    specs.find? (fun s => s.short == some '-') = none := by
  apply List.find?_eq_none.mpr
  intro s hs
  have := (hw s hs).1
  simpa using this

theorem cons_ok {os : List VOpt} {X : View} {r} (h : Spec.cons os X = .ok r) : ∃ r', X = .ok r' := by
  cases X with
  | error e => cases h
  | ok r' => exact ⟨r', rfl⟩

theorem cluster_canonical (specs : List OptionSpec) (mode : Mode) (hw : WellNamed specs) :
    ∀ (cs : Str) (os : List Spec.Opt) (p : Option OptionSpec), cs.head? ≠ some '-' →
      Spec.cluster specs mode cs = .ok (os, p) →
      ∀ tail, isCanonical specs false (canonCluster specs cs ++ tail) = isCanonical specs p.isSome tail := by
  intro cs
  induction cs with
  | nil => intro os p _ h tail; simp [Spec.cluster] at h; simp [canonCluster, ← h.2]
  | cons c cs ih =>
    intro os p hd h tail
    have hc : c ≠ '-' := fun he => hd (by simp [he])
    cases cluster_cons_ok h with
    | last s hf ha he =>
      subst he
      simp only [canonCluster, hf, ha, List.isEmpty_nil, if_true, List.singleton_append]
      rw [isCanonical_opt specs _ tail s false c (tokOf_shortTok specs c s hc hf), ha]; rfl
    | attached s hf ha he =>
      have he' : cs.isEmpty = false := by simpa using he
      simp only [canonCluster, hf, ha, he', if_true, Bool.false_eq_true, if_false, List.cons_append, List.nil_append]
      rw [isCanonical_opt specs _ _ s false c (tokOf_shortTok specs c s hc hf), ha, isCanonical_pending]; rfl
    | flag s hf ha os' p hr =>
      have hnext : cs.head? ≠ some '-' := by
        -- the next letter cannot be `-`, which no option is called: the cluster was accepted
        intro hn
        cases cs with
        | nil => simp at hn
        | cons d cs' =>
          simp at hn; subst hn
          rw [cluster_cons, find_dash_none specs hw] at hr
          cases hr
      simp only [canonCluster, hf, ha, hnext, Bool.false_eq_true, if_false, List.cons_append]
      rw [isCanonical_opt specs _ _ s false c (tokOf_shortTok specs c s hc hf), ha, ih os' p hnext hr tail]

theorem tokOf_longTok (specs : List OptionSpec) (l0 : Char) (l' : Str) (s : OptionSpec)
    (hne : (l0 :: l').contains '=' = false)
    (hf : specs.find? (fun s => s.long == some (l0 :: l')) = some s) :
    tokOf specs (longTok (l0 :: l')) = .opt s true '-' := by
  unfold tokOf longTok; rw [argKind_long_cons]; simp only [hne, Bool.false_eq_true, if_false, hf]

theorem long_canonical (specs : List OptionSpec) (mode : Mode) (hw : WellNamed specs) (body : Str)
    (os : List Spec.Opt) (p : Option OptionSpec) (h : Spec.longOpt specs mode body = .ok (os, p)) :
    ∀ tail, isCanonical specs false ((canonLong specs body).1 ++ tail) = isCanonical specs p.isSome tail := by
  intro tail
  have hform := canonLongForm specs body
  generalize canonLong specs body = parts at hform ⊢
  cases hform with
  | unresolved hc => exact absurd h (longOpt_unresolved specs mode body hc _)
  | odd s l hc hl hbad =>
    -- impossible: the names of the table are readable
    obtain ⟨hlne, hleq⟩ := (hw s (candidates_mem specs _ s hc).1).2 l hl
    cases l with
    | nil => exact absurd rfl hlne
    | cons l0 l' => simp [hleq] at hbad
  | named s l0 l' hc hl hleq =>
    rw [longOpt_one specs mode body s hc] at h
    have hp := longOne_pending mode s _ _ os p h
    have hfind := find_full specs _ (l0 :: l') s hc hl
    have htok := tokOf_longTok specs l0 l' s (by simpa using hleq) hfind
    cases ha : s.takesArg <;> cases he : body.contains '='
    · rw [ha, he] at hp
      simp only [Bool.false_eq_true, if_false, List.singleton_append]
      rw [isCanonical_opt specs _ tail s true '-' htok, ha, hp]; rfl
    · -- `--name=arg` for a flag is not read
      exfalso
      rw [he] at h
      unfold Spec.longOne at h
      split at h
      · cases h
      · simp [ha] at h
    · rw [ha, he] at hp
      simp only [if_true, Bool.false_eq_true, if_false, List.singleton_append]
      rw [isCanonical_opt specs _ tail s true '-' htok, ha, hp]; rfl
    · rw [ha, he] at hp
      simp only [if_true, List.cons_append, List.nil_append]
      rw [isCanonical_opt specs _ _ s true '-' htok, ha, isCanonical_pending, hp]; rfl

theorem parts_canonical (specs : List OptionSpec) (mode : Mode) (hw : WellNamed specs) (a : Str) (os : List Spec.Opt)
    (p : Option OptionSpec) (hk : argKind a ≠ .stop) (h : argResult specs mode (argKind a) = .ok (os, p)) :
    ∀ tail, isCanonical specs false ((canonParts specs a (argKind a)).1 ++ tail) = isCanonical specs p.isSome tail := by
  cases hka : argKind a with
  | stop => exact absurd hka hk
  | long body => rw [hka] at h; exact long_canonical specs mode hw body os p h
  | cluster cs =>
    rw [hka] at h
    obtain ⟨c, cs', rfl, _, hc⟩ := argKind_cluster a cs hka
    exact cluster_canonical specs mode hw (c :: cs') os p (by simpa using hc) h

theorem canon_isCanonical (specs : List OptionSpec) (mode : Mode) (hw : WellNamed specs) :
    ∀ (args : List Str) (r), Spec.run specs mode none args = .ok r →
      isCanonical specs false (canon specs args) = true
  | [], _, _ => rfl
  | a :: rest, r, hrun => by
    by_cases hk : argKind a = .stop
    · unfold canon
      rw [if_pos hk]
      exact isCanonical_stop specs a rest (by unfold tokOf; rw [hk])
    · rw [run_kind, runKind_option specs mode a rest hk] at hrun
      cases hR : argResult specs mode (argKind a) with
      | error e => rw [hR] at hrun; cases hrun
      | ok q =>
        obtain ⟨os, p⟩ := q
        rw [hR] at hrun
        simp only [contV] at hrun
        obtain ⟨r', hr'⟩ := cons_ok hrun
        -- the parts are canonical; what follows them is, by induction, behind the argument they wait for
        rw [canon_cons specs a rest hk, parts_canonical specs mode hw a os p hk hR, ← parts_pending specs mode a os p hR]
        cases p with
        | none => exact canon_isCanonical specs mode hw rest r' hr'
        | some s =>
          cases rest with
          | nil => rfl
          | cons x rest' =>
            rw [run_pending_cons] at hr'
            obtain ⟨r'', hr''⟩ := cons_ok hr'
            simp only [Option.isSome_some, if_true]
            rw [isCanonical_pending]
            exact canon_isCanonical specs mode hw rest' r'' hr''

theorem wellNamed_of_tableOk (t : List Row) (h : tableOk t = true) : WellNamed (t.map rowSpec) := by
  intro s hs
  obtain ⟨r, hr, rfl⟩ := List.mem_map.mp hs
  have hrow : rowOk r = true := by
    simp only [tableOk, Bool.and_eq_true] at h
    exact List.all_eq_true.mp h.2 r hr
  simp only [rowOk, Bool.and_eq_true, bne_iff_ne, ne_eq] at hrow
  refine ⟨hrow.1.2, ?_⟩
  intro l hl
  have hl' : r.2.1 = some l := hl
  rw [hl'] at hrow
  simp only [Bool.and_eq_true, Bool.not_eq_true', List.isEmpty_eq_false_iff] at hrow
  exact ⟨hrow.2.1.1, fun hm => by simp [hm] at hrow⟩

end YashModel.Args
