/-
  C20 — property theorems, `kill`: the tables behind `str2sig`, and signal-versus-process-id ambiguity.
-/
import YashModel.Args.KillLemmas
import YashModel.Args.Str2sig
namespace YashModel.Args.Bespoke
open YashModel.Generated

/-- ☆ `NAMED_SIGNALS` is strictly ascending — the precondition of the binary search in `str2sig`, which is therefore the
    linear `find?` of the model -/
theorem namedSignals_ascending :
    (SignalNames.namedSignals.map (·.1)).Pairwise (· < ·) := by decide +kernel

/-- ☆ the real-time prefixes `str2sig` strips, in the order of its `if let … else if let` chain -/
theorem rt_prefixes_extracted : SignalNames.rtBaseNames = ["RTMIN", "RTMAX"] := by decide

/-- ☆ every constant `NAMED_SIGNALS` reads is bound by the virtual system to a constant that has a number -/
theorem named_signals_all_numbered :
    ∀ e ∈ SignalNames.namedSignals, e.2 = "" ∨ (namedNumber e.2).isSome = true := by decide +kernel

example : str2sig "INT".toList = some 2 := by decide +kernel
example : str2sig "RTMIN+3".toList = some 204 := by decide +kernel
example : str2sig "RTMAX+1".toList = none := by decide +kernel
example : str2sig "int".toList = none := by decide +kernel

/-- ★ signal or process? an argument `-<spec>` in option position whose text is a signal specification (a number, or a
    name `str2sig` knows) and does not start with one of kill's letters `s n l v` is the SIGNAL, never a negative process
    id: `kill -9 1 2` sends signal 9 to `1`, `2` -/
theorem kill_dash_spec_is_signal (nm : Names) (sigterm : Int) (c : Char) (cs : Str) (v : Int)
    (hc : c ≠ 's' ∧ c ≠ 'n' ∧ c ≠ 'l' ∧ c ≠ 'v') (hcd : (c :: cs) ≠ ['-'])
    (hv : parseSignal nm (c :: cs) true = some v) (t : Str) (ht : killIsOption t = false) (ts : List Str) :
    killParse nm false sigterm (('-' :: c :: cs) :: t :: ts) = .ok (.send v true (t :: ts)) := by
  unfold killParse
  rw [killLoop_by_shape, killShape_sigSpec nm c cs v hc hcd hv]
  simp [hv, setSignal, thenK, killLoop, ht]

/-- ★ … and so is a SECOND such argument: a negative process id directly behind the signal is read as another signal
    and rejected — it needs the `--` (`kill -9 -5` fails, `kill -9 -- -5` signals the process group 5:
    `kill_send_targets_after_dashdash`) -/
theorem kill_negative_pid_needs_dashdash (nm : Names) (sigterm : Int) (c d : Char) (cs ds : Str) (v w : Int)
    (hc : c ≠ 's' ∧ c ≠ 'n' ∧ c ≠ 'l' ∧ c ≠ 'v') (hcd : (c :: cs) ≠ ['-'])
    (hd : d ≠ 's' ∧ d ≠ 'n' ∧ d ≠ 'l' ∧ d ≠ 'v') (hdd : (d :: ds) ≠ ['-'])
    (hv : parseSignal nm (c :: cs) true = some v) (hw : parseSignal nm (d :: ds) true = some w) (ts : List Str) :
    killParse nm false sigterm (('-' :: c :: cs) :: ('-' :: d :: ds) :: ts) = .error .multipleSignals := by
  unfold killParse
  rw [killLoop_by_shape, killShape_sigSpec nm c cs v hc hcd hv]
  simp only [hv, setSignal, thenK, Bool.false_eq_true, if_false]
  rw [killLoop_by_shape, killShape_sigSpec nm d ds w hd hdd hw]
  simp [hw, setSignal, thenK]

/-- `kill -9 1 2`; `kill -INT 1` with the names the model of `str2sig` answers; `kill -9 -5` -/
example : killParse {} false 15 [['-','9'], ['1'], ['2']] = .ok (.send 9 true [['1'], ['2']]) :=
  kill_dash_spec_is_signal {} 15 '9' [] 9 (by decide) (by decide) (by decide) ['1'] rfl [['2']]
example : killParse { sig := sigAnswers [['-','I','N','T']] } false 15 [['-','I','N','T'], ['1']] = .ok (.send 2 true [['1']]) :=
  kill_dash_spec_is_signal _ 15 'I' ['N','T'] 2 (by decide) (by decide) (by decide +kernel) ['1'] rfl []
example : killParse {} false 15 [['-','9'], ['-','5']] = .error .multipleSignals :=
  kill_negative_pid_needs_dashdash {} 15 '9' '5' [] [] 9 5 (by decide) (by decide) (by decide) (by decide) (by decide) (by decide) []

end YashModel.Args.Bespoke
