/-
  C20 — the getopts built-in's OWN argument handling (getopts.rs `main`, before the walker): `parse_arguments(&[], …)`
  (no option of its own: any `-x` is an unknown option), at least two operands (optstring, variable name), and the
  rule "more than two operands = an explicit argument vector, otherwise the positional parameters".  The optstring is not
  validated (any text; `judge` gives every character a meaning) and the variable name is only checked when it is
  assigned (report.rs: E cases).  Model + property theorems; the tie of `parse_arguments` on the empty table is the P leg
  (`P <mode> _ …`), the explicit / implicit vector rule is observed by the J leg (`callArgs`).
-/
import YashModel.Args.ParseTheorems
namespace YashModel.Args.Getopts
open YashModel.Args

inductive OwnErr where
  | common (e : ParseError)
  | insufficientOperands (given : Nat)
  deriving DecidableEq, Repr

/-- optstring, variable name, and the explicit argument vector if there is one (`operands.len() > 2`) -/
structure Own where
  optstring : Str
  var : Str
  explicit : Option (List Str)
  deriving DecidableEq, Repr

def ownPost (operands : List Str) : Except OwnErr Own :=
  match operands with
  | spec :: var :: rest => .ok ⟨spec, var, if rest.isEmpty then none else some rest⟩
  | _ => .error (.insufficientOperands operands.length)

/-- the first lines of getopts.rs `main` -/
def ownParse (mode : Mode) (args : List Str) : Except OwnErr Own :=
  match parseArguments [] mode args with
  | .error e => .error (.common e)
  | .ok (_, operands) => ownPost operands

theorem ownParse_operand (mode : Mode) (spec : Str) (rest : List Str) (hs : IsOperand spec) :
    ownParse mode (spec :: rest) = ownPost (spec :: rest) := by
  unfold ownParse
  have := first_operand_ends [] mode [] [] spec rest rfl hs
  simp only [List.nil_append] at this
  rw [this]

/-- ★ the argument vector handed to getopts is taken VERBATIM: once the optstring (an operand) is reached, nothing behind
    it is examined as an option of getopts itself — `getopts ab v -a -- -b` walks the vector `-a -- -b` -/
theorem getopts_explicit_vector_verbatim (mode : Mode) (spec var : Str) (x : Str) (xs : List Str) (hs : IsOperand spec) :
    ownParse mode (spec :: var :: x :: xs) = .ok ⟨spec, var, some (x :: xs)⟩ :=
  ownParse_operand mode spec _ hs

/-- ★ with exactly two operands the positional parameters are walked (no explicit vector) … -/
theorem getopts_implicit_vector (mode : Mode) (spec var : Str) (hs : IsOperand spec) :
    ownParse mode [spec, var] = .ok ⟨spec, var, none⟩ :=
  ownParse_operand mode spec _ hs

/-- ★ … a leading `--` is skipped once — it is how an optstring that starts with `-` is passed (`getopts -- -a v`) -/
theorem getopts_own_dashdash (mode : Mode) (operands : List Str) :
    ownParse mode (dashdash :: operands) = ownPost operands := by
  unfold ownParse
  have := dashdash_ends [] mode [] [] operands rfl
  simp only [List.nil_append] at this
  rw [this]

/-- ★ fewer than two operands are rejected, with the number given -/
theorem getopts_insufficient_operands (mode : Mode) (spec : Str) (hs : IsOperand spec) :
    ownParse mode [spec] = .error (.insufficientOperands 1) ∧ ownParse mode [] = .error (.insufficientOperands 0) :=
  ⟨ownParse_operand mode spec _ hs, rfl⟩

example : ownParse Mode.withExtensions [['a','b'], ['v'], ['-','a'], dashdash, ['-','b']] =
    .ok ⟨['a','b'], ['v'], some [['-','a'], dashdash, ['-','b']]⟩ :=
  getopts_explicit_vector_verbatim _ _ _ _ _ (Or.inl (by decide))
example : ownParse Mode.withExtensions [['-','a'], ['v']] = .error (.common (.unknownShort 'a')) := by rfl
example : ownParse Mode.withExtensions [dashdash, ['-','a'], ['v']] = .ok ⟨['-','a'], ['v'], none⟩ := by
  rw [getopts_own_dashdash]; rfl

end YashModel.Args.Getopts
