/-
  C20 — property theorems: the built-ins' own checks after `parse_arguments` (Post.lean: cd, pwd, unset, unalias)
  composed with the parser theorems: equivalent spellings come to the same `Command` or the same error, end to end.
-/
import YashModel.Args.Post
import YashModel.Args.ParseTheorems
namespace YashModel.Args.Post
open YashModel.Args YashModel.Generated

/-- ★ whatever a built-in computes from the VIEW of the parse (options without their spelling, operands, or the parse
    error) is the same for two vectors with the same canonical spelling — every table, every mode with attached arguments -/
theorem post_same_of_equivalent_spellings {α : Type} (f : View → α) (specs : List OptionSpec) (mode : Mode)
    (hm : mode.optionArgumentsInSameField = true) (a b : List Str) (h : Spec.canon specs a = Spec.canon specs b) :
    f (parseArguments specs mode a).view = f (parseArguments specs mode b).view := by
  rw [equivalent_spellings_same_parse specs mode hm a b h]

/-- ★ `cd`: equivalent spellings (`-LP` / `-L -P` / `--logical --physical` / `--lo --ph` …) give the same `Command`
    (mode, `ensure_pwd`, operand) or the same error (parse error, `-e` without `-P`, empty / surplus operand) -/
theorem cd_equivalent_spellings_same_command (a b : List Str) (h : Spec.canon cdSpecs a = Spec.canon cdSpecs b) :
    cdParse false a = cdParse false b :=
  post_same_of_equivalent_spellings (α := Except CdErr CdCmd) (fun v => match v with | .error e => .error (.common e) | .ok v => cdPost v)
    cdSpecs (modeOf false) rfl a b h

theorem pwd_equivalent_spellings_same_command (a b : List Str) (h : Spec.canon pwdSpecs a = Spec.canon pwdSpecs b) :
    pwdParse false a = pwdParse false b :=
  post_same_of_equivalent_spellings (α := Except PwdErr Bool) (fun v => match v with | .error e => .error (.common e) | .ok v => pwdPost v)
    pwdSpecs (modeOf false) rfl a b h

theorem unset_equivalent_spellings_same_command (a b : List Str) (h : Spec.canon unsetSpecs a = Spec.canon unsetSpecs b) :
    unsetParse false a = unsetParse false b :=
  post_same_of_equivalent_spellings (α := Except UnsetErr UnsetCmd) (fun v => match v with | .error e => .error (.common e) | .ok v => unsetPost false v)
    unsetSpecs (modeOf false) rfl a b h

theorem unalias_equivalent_spellings_same_command (a b : List Str)
    (h : Spec.canon unaliasSpecs a = Spec.canon unaliasSpecs b) :
    unaliasParse false a = unaliasParse false b :=
  post_same_of_equivalent_spellings (α := Except UnaliasErr UnaliasCmd) (fun v => match v with | .error e => .error (.common e) | .ok v => unaliasPost v)
    unaliasSpecs (modeOf false) rfl a b h

/-- ★ `unset`: `-f` and `-v` exclude each other whatever their order, number and spelling, and whatever the operands -/
theorem unset_conflict_iff (portable : Bool) (os : Occs) (names : List Str) :
    unsetPost portable (os, names) = .error .conflictingOption ↔ (os.any (hasShort 'f') = true ∧ os.any (hasShort 'v') = true) := by
  unfold unsetPost
  by_cases h : os.any (hasShort 'f') = true ∧ os.any (hasShort 'v') = true
  · simp [h]
  · simp only [h, if_false, iff_false]
    split <;> simp

/-- ★ `pwd`: the last of `-L` / `-P` wins; any operand is an error that names all of them -/
theorem pwd_last_option_wins (os : Occs) (o : OptionSpec × Option Str) :
    pwdPost (os ++ [o], []) = .ok (hasShort 'P' o) := by
  simp [pwdPost]

theorem pwd_rejects_operands (os : Occs) (x : Str) (xs : List Str) :
    pwdPost (os, x :: xs) = .error (.unexpectedOperands (x :: xs)) := by
  simp [pwdPost]

/-- ★ `cd`: unless the options are `-e` without a final `-P` (rejected before the operands are looked at: the example
    below), a second operand is rejected -/
theorem cd_rejects_second_operand (os : Occs) (x y : Str) (ys : List Str)
    (h : ¬ ((cdScan os (false, false)).1 = true ∧ (cdScan os (false, false)).2 = false)) :
    cdPost (os, x :: y :: ys) = .error (.unexpectedOperands (y :: ys)) := by
  unfold cdPost
  cases hsc : cdScan os (false, false) with
  | mk e phys =>
    rw [hsc] at h
    cases e <;> cases phys <;> simp_all

/-- ☆ the error classes of the four transcribed `syntax.rs` are the ones the model has (re-extracted enum variants) -/
theorem post_error_enums_audited :
    (ArgSpecs.errorEnums.filter fun e => e.1 == "cd/syntax.rs" || e.1 == "pwd/syntax.rs" || e.1 == "unset/syntax.rs" || e.1 == "unalias/syntax.rs") =
      [("cd/syntax.rs", "Error", ["CommonError", "EnsurePwdNotPhysical", "EmptyOperand", "UnexpectedOperands"]),
       ("pwd/syntax.rs", "Error", ["CommonError", "UnexpectedOperands"]),
       ("unalias/syntax.rs", "Error", ["CommonError", "ConflictingOptionAndOperand", "MissingArgument"]),
       ("unset/syntax.rs", "Error", ["CommonError", "ConflictingOption", "MissingOperand"])] := by decide +kernel

/-- ☆ every error enum of every built-in, with its number of variants, pinned: a new error class anywhere has to be looked at -/
theorem builtin_error_enums_pinned :
    ArgSpecs.errorEnums.map (fun e => (e.1, e.2.1, e.2.2.length)) =
      [("alias/semantics.rs", "Error", 2), ("break/semantics.rs", "Error", 1), ("break/syntax.rs", "Error", 3),
       ("cd/chdir.rs", "Error", 2), ("cd/syntax.rs", "Error", 4), ("cd/target.rs", "TargetError", 3),
       ("command/syntax.rs", "Error", 4), ("getopts/model.rs", "Error", 2), ("getopts/report.rs", "Error", 4),
       ("getopts/verify.rs", "Error", 2), ("kill/send.rs", "Error", 6), ("kill/syntax.rs", "Error", 12),
       ("pwd/semantics.rs", "Error", 1), ("pwd/syntax.rs", "Error", 2), ("read/syntax.rs", "Error", 5),
       ("set/syntax.rs", "Error", 9), ("source/syntax.rs", "Error", 3), ("times/syntax.rs", "Error", 2),
       ("trap.rs", "ErrorCause", 2), ("trap/syntax.rs", "Error", 2), ("typeset.rs", "ExecuteError", 8),
       ("typeset/syntax.rs", "ParseError", 6), ("typeset/syntax.rs", "InterpretError", 3), ("ulimit.rs", "Error", 5),
       ("ulimit/syntax.rs", "Error", 9), ("umask/symbol.rs", "ParseClausesError", 2), ("umask/symbol.rs", "ParseClauseError", 1),
       ("umask/symbol.rs", "ParseActionError", 2), ("umask/symbol.rs", "ParsePermissionError", 1), ("umask/syntax.rs", "Error", 4),
       ("unalias/semantics.rs", "Error", 1), ("unalias/syntax.rs", "Error", 3), ("unset/syntax.rs", "Error", 3),
       ("wait/core.rs", "Error", 3), ("wait/syntax.rs", "Error", 3)] := by decide +kernel

example : Spec.canon cdSpecs [['-','P','e'], ['x']] = Spec.canon cdSpecs [['-','P'], ['-','e'], ['x']] := by decide +kernel
example : cdParse false [['-','P','e'], ['x']] = .ok ⟨true, true, some ['x']⟩ := by rfl
example : cdParse false [['-','P'], ['-','e'], ['x']] = cdParse false [['-','P','e'], ['x']] :=
  cd_equivalent_spellings_same_command _ _ (by decide)
example : cdParse false ["--ph".toList, "--ens".toList, ['x']] = cdParse false ["--physical".toList, "--ensure-pwd".toList, ['x']] :=
  cd_equivalent_spellings_same_command _ _ (by decide)
example : cdParse false [['-','e','L'], ['x']] = .error .ensurePwdNotPhysical := by rfl
example : cdParse false [['-','-'], ['-','-']] = .ok ⟨false, false, some ['-','-']⟩ := by rfl
example : unsetParse false [['-','f','v'], ['x']] = .error .conflictingOption := by rfl
example : unaliasParse false [['-','a'], ['x']] = .error .conflictingOptionAndOperand := by rfl

end YashModel.Args.Post
