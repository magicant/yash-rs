/-
  C20, getopts histories — what a session of `getopts` calls depends on.  Two environments that agree on `$OPTIND`, the
  option variable, `$OPTARG` and — up to its `Origin` — the remembered state cannot be told apart by `call` (`Agree`,
  `call_sim`); with `OPTIND=1` on both sides nothing else has to agree (`Sim`).  Hence a complete session started with
  `OPTIND=1` looks the same from any environment and in any spelling (`runSession_of_reset`).
-/
import YashModel.Args.GetoptsHistory
namespace YashModel.Args.Getopts

/-- a session is well formed if it really passes its vector: the literal spelling of the empty vector is
    `getopts spec v`, which reads whatever the positional parameters happen to be -/
def WellFormed (sp : Spelling) (vec : List Str) : Prop := sp = .literal → vec ≠ []

def flipOrigin (d : Bool) (env : GEnv) : GEnv :=
  { env with state := env.state.map fun s => { s with direct := d } }

theorem flipOrigin_fresh (d : Bool) (p : List Str) : flipOrigin d { freshEnv with params := p } = { freshEnv with params := p } := rfl

theorem fuelFor_pos (args : List Str) : ∃ n, fuelFor args + 1 = n + 1 + 1 := ⟨(args.map (·.length + 1)).sum, rfl⟩

/-- Two environments, read with origins `d1` / `d2`, that `getopts` cannot tell apart: the same `$OPTIND`, option
    variable and `$OPTARG`, and remembered states that agree up to their `Origin`, each having the origin its own calls
    pass.  The positional parameters are free. -/
def Agree (e1 : GEnv) (d1 : Bool) (e2 : GEnv) (d2 : Bool) : Prop :=
  e1.optind = e2.optind ∧ e1.var = e2.var ∧ e1.optarg = e2.optarg ∧
    match e1.state, e2.state with
    | none, none => True
    | some s1, some s2 => s1.args = s2.args ∧ s1.optind = s2.optind ∧ s1.direct = d1 ∧ s2.direct = d2
    | _, _ => False

/-- … or both have `OPTIND=1`: then nothing remembered is looked at, and the first call overwrites the rest -/
def Sim (e1 : GEnv) (d1 : Bool) (e2 : GEnv) (d2 : Bool) : Prop :=
  Agree e1 d1 e2 d2 ∨ (e1.optind = ['1'] ∧ e2.optind = ['1'])

theorem verifyState_reset (st : Option GState) (v oa ps) (a : List Str) (d : Bool) :
    verifyState ⟨st, ['1'], v, oa, ps⟩ a d = some ⟨a, d, ['1']⟩ := by
  cases st <;> simp [verifyState]

theorem verifyState_some (prev : GState) (oi : Str) (v oa ps) (a : List Str) (d : Bool) (h1 : oi ≠ ['1']) :
    verifyState ⟨some prev, oi, v, oa, ps⟩ a d =
      if d = prev.direct ∧ a = prev.args ∧ oi = prev.optind then some prev else none := by
  simp only [verifyState, if_neg h1]
  by_cases h2 : d = prev.direct <;> by_cases h3 : a = prev.args <;> by_cases h4 : oi = prev.optind <;> simp [h2, h3, h4]

theorem call_sim {e1 e2 : GEnv} {d1 d2 : Bool} (h : Sim e1 d1 e2 d2) (spec : Str) (a : List Str) :
    (call e1 spec a d1).1 = (call e2 spec a d2).1 ∧ Agree (call e1 spec a d1).2 d1 (call e2 spec a d2).2 d2 := by
  obtain ⟨st1, oi, v1, oa1, ps1⟩ := e1
  obtain ⟨st2, oi2, v2, oa2, ps2⟩ := e2
  have hoi : oi = oi2 := by
    rcases h with h | ⟨h1, h2⟩
    · exact h.1
    · exact h1.trans h2.symm
  subst hoi
  -- both calls are refused (then the environments stay as they are), or both go on from `$OPTIND` with states that
  -- agree up to the origin
  have key : (verifyState ⟨st1, oi, v1, oa1, ps1⟩ a d1 = none ∧ verifyState ⟨st2, oi, v2, oa2, ps2⟩ a d2 = none ∧
        Agree ⟨st1, oi, v1, oa1, ps1⟩ d1 ⟨st2, oi, v2, oa2, ps2⟩ d2) ∨
      ∃ s1 s2, verifyState ⟨st1, oi, v1, oa1, ps1⟩ a d1 = some s1 ∧ verifyState ⟨st2, oi, v2, oa2, ps2⟩ a d2 = some s2 ∧
        s1.args = s2.args ∧ s1.direct = d1 ∧ s2.direct = d2 := by
    by_cases h1 : oi = ['1']
    · subst h1
      exact .inr ⟨_, _, verifyState_reset .., verifyState_reset .., rfl, rfl, rfl⟩
    · rcases h with hag | ⟨h2, _⟩
      · have hst := hag.2.2.2
        match st1, st2, hst with
        | none, none, _ => exact .inl ⟨by simp [verifyState, h1], by simp [verifyState, h1], hag⟩
        | some s1, some s2, ⟨ha, hoo, hd1, hd2⟩ =>
          rw [verifyState_some s1 oi _ _ _ a d1 h1, verifyState_some s2 oi _ _ _ a d2 h1, ← ha, ← hoo]
          by_cases h3 : a = s1.args ∧ oi = s1.optind
          · rw [if_pos ⟨hd1.symm, h3⟩, if_pos ⟨hd2.symm, h3⟩]; exact .inr ⟨s1, s2, rfl, rfl, ha, hd1, hd2⟩
          · rw [if_neg fun h => h3 h.2, if_neg fun h => h3 h.2]; exact .inl ⟨rfl, rfl, hag⟩
      · exact absurd h2 h1
  unfold call
  rcases key with ⟨k1, k2, hag⟩ | ⟨s1, s2, k1, k2, ha, hd1, hd2⟩
  · simp only [k1, k2]; exact ⟨trivial, hag⟩
  · simp only [k1, k2]
    cases (next a spec (optindIndexes oi).1 (optindIndexes oi).2).occ <;> simp [Agree, ha, hd1, hd2]

/-- two runs of calls that report the same calls, end with the same status and leave environments that agree -/
def Alike (d1 d2 : Bool) (r1 r2 : List CallObs × Option Nat × GEnv) : Prop :=
  r1.1 = r2.1 ∧ r1.2.1 = r2.2.1 ∧ Agree r1.2.2 d1 r2.2.2 d2

theorem runCalls_step (spec : Str) (a : List Str) {d1 d2 : Bool} {fuel : Nat} {e1 e2 : GEnv} (h : Sim e1 d1 e2 d2)
    (rec : ∀ {e1' e2' : GEnv}, Agree e1' d1 e2' d2 → Alike d1 d2 (runCalls spec a d1 fuel e1') (runCalls spec a d2 fuel e2')) :
    Alike d1 d2 (runCalls spec a d1 (fuel + 1) e1) (runCalls spec a d2 (fuel + 1) e2) := by
  obtain ⟨ho, hs⟩ := call_sim h spec a
  rw [runCalls, runCalls]
  cases hc1 : call e1 spec a d1 with
  | mk o1 e1' =>
    cases hc2 : call e2 spec a d2 with
    | mk o2 e2' =>
      rw [hc1, hc2] at ho hs
      cases ho
      cases o1 with
      | misuse => exact ⟨rfl, rfl, hs⟩
      | finished => exact ⟨rfl, rfl, hs⟩
      | option e =>
        obtain ⟨h1, h2, h3⟩ := rec hs
        have hs1 : e1'.optind = e2'.optind := hs.1
        exact ⟨by simp only [h1, hs1], h2, h3⟩

theorem runCalls_agree (spec : Str) (a : List Str) (d1 d2 : Bool) : ∀ (fuel : Nat) {e1 e2 : GEnv}, Agree e1 d1 e2 d2 →
    Alike d1 d2 (runCalls spec a d1 fuel e1) (runCalls spec a d2 fuel e2)
  | 0, _, _, h => ⟨rfl, rfl, h⟩
  | fuel + 1, _, _, h => runCalls_step spec a (.inl h) (runCalls_agree spec a d1 d2 fuel)

theorem callArgs_prepare (env : GEnv) (sp : Spelling) (vec : List Str) (h : WellFormed sp vec) :
    (callArgs (prepare env sp vec) sp vec).1 = vec := by
  cases sp with
  | implicit => rfl
  | dollarAt => simp only [callArgs, prepare]; cases vec <;> rfl
  | literal =>
    have := h rfl
    cases vec with
    | nil => exact absurd rfl this
    | cons a t => rfl

theorem prepare_optind (e : GEnv) (sp : Spelling) (vec : List Str) : (prepare e sp vec).optind = e.optind := by
  cases sp <;> rfl

theorem runSession_of_reset {e1 e2 : GEnv} (h1 : e1.optind = ['1']) (h2 : e2.optind = ['1']) (sp1 sp2 : Spelling)
    (spec : Str) (vec : List Str) (w1 : WellFormed sp1 vec) (w2 : WellFormed sp2 vec) :
    (runSession e1 sp1 spec vec none).1 = (runSession e2 sp2 spec vec none).1 := by
  unfold runSession
  obtain ⟨d1, c1⟩ : ∃ d, callArgs (prepare e1 sp1 vec) sp1 vec = (vec, d) := ⟨_, Prod.ext (callArgs_prepare e1 sp1 vec w1) rfl⟩
  obtain ⟨d2, c2⟩ : ∃ d, callArgs (prepare e2 sp2 vec) sp2 vec = (vec, d) := ⟨_, Prod.ext (callArgs_prepare e2 sp2 vec w2) rfl⟩
  -- the first call is taken under `Sim` (both `OPTIND=1`), all later ones under `Agree`: one `runCalls_step` on top of
  -- `runCalls_agree`, with `fuel := fuelFor vec` because a session's limit is `fuelFor vec + 1`
  obtain ⟨r1, r2, r3, r4, r5, _⟩ := runCalls_step spec vec (fuel := fuelFor vec)
    (.inr ⟨(prepare_optind e1 sp1 vec).trans h1, (prepare_optind e2 sp2 vec).trans h2⟩) (runCalls_agree spec vec d1 d2 _)
  simp only [c1, c2, Option.getD_none, r1, r2, r3, r4, r5]

theorem runSession_reset (env : GEnv) (h0 : env.optind = ['1']) (sp : Spelling) (spec : Str) (vec : List Str)
    (h : WellFormed sp vec) :
    (runSession env sp spec vec none).1 = freshObs sp spec vec :=
  runSession_of_reset h0 rfl sp sp spec vec h h

/-- in a fresh shell the three spellings of one vector are indistinguishable -/
theorem freshObs_spelling (sp : Spelling) (spec : Str) (vec : List Str) (h : WellFormed sp vec) :
    freshObs sp spec vec = freshObs .implicit spec vec :=
  runSession_of_reset rfl rfl sp .implicit spec vec h (fun hh => by cases hh)

end YashModel.Args.Getopts
