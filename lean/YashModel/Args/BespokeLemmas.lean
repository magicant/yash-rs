/-
  C20 — `set` and the shell's command line, their option loops step by step.  The two are one plan carried out twice, lemma for
  lemma (`setLoop_cons` / `shLoop_cons`, `contS` / `contH`, `setShortLoop_ok` / `shShortLoop_ok`, …).  They share the split of a
  cluster (`splitCluster`), the `-o` arm (`oArm`) and the test of separation (`SeparateBody.lean`); they differ in the state the
  loop carries (`Run`), in the `-V` exit of the command line, and in the error type, which is why each loop has its own induction.
-/
import YashModel.Args.SeparateBody
import YashModel.Common.Lists
import YashModel.Args.BespokeSpec
namespace YashModel.Args.Bespoke

/-- the `portable` option is never named: the parsers then stay in the mode in which all spellings are
    accepted (under `portable` the attached and long forms are rejected by design) -/
def NoPortable (nm : Names) : Prop := ∀ raw st, nm.parseLong raw ≠ .ok portableOpt st

theorem noPortable_of_table (nm : Names)
    (h : (nm.long.all fun e => match e.2 with | .ok o _ => o != portableOpt | _ => true) = true) :
    NoPortable nm := by
  intro raw st hp
  unfold Names.parseLong at hp
  cases hf : nm.long.find? (fun e => e.1 == raw) with
  | none => simp [hf] at hp
  | some e =>
    simp only [hf] at hp
    have := List.all_eq_true.mp h e (List.mem_of_find?_eq_some hf)
    rw [hp] at this
    simp at this

/-- the three print forms of `set` (no argument, a lone `-o`, a lone `+o`) -/
def printForm (l : List Str) : Prop := l = [] ∨ l = [['-', 'o']] ∨ l = [['+', 'o']]

instance (l : List Str) : Decidable (printForm l) := by unfold printForm; infer_instance

/-- In option position every cluster is a single letter (or contains its own sign as a letter, which
    cannot be split off); `-o` / `+o` is followed by its name as an argument of its own; and, where
    long options are rewritten (`long = true`: set), no `--name` / `++name` is left. -/
def isSeparatedSO (long : Bool) : List Str → Bool
  | [] => true
  | a :: rest =>
    match shortSign a with
    | some neg =>
      if (a.drop 1).contains (signChar neg) then
        (if (splitCluster (signChar neg) (a.drop 1)).2 then
          (match rest with
           | [] => true
           | _ :: rest' => isSeparatedSO long rest')
         else isSeparatedSO long rest)
      else if (a.drop 2).isEmpty then
        (if a.drop 1 = ['o'] then
          (match rest with
           | [] => true
           | _ :: rest' => isSeparatedSO long rest')
         else isSeparatedSO long rest)
      else false
    | none => if long then (longForm a).isNone else true

/-- a prefix of the command line that the option loop consumes entirely as options (with the arguments they take),
    from `portable` state `p` and `Run` `r` to `p'`, `r'` -/
inductive ShOptionsOnly (nm : Names) : Bool → Run → List Str → Bool → Run → Prop
  | nil (p : Bool) (r : Run) : ShOptionsOnly nm p r [] p r
  | one (p : Bool) (r : Run) (a : Str) (f : Run → Run) (p' : Bool) (rest : List Str) (p'' : Bool) (r'' : Run) :
      (∀ next, shStep nm p a next = .go f false p') → ShOptionsOnly nm p' (f r) rest p'' r'' →
      ShOptionsOnly nm p r (a :: rest) p'' r''
  | two (p : Bool) (r : Run) (a x : Str) (f : Run → Run) (p' : Bool) (rest : List Str) (p'' : Bool) (r'' : Run) :
      shStep nm p a (some x) = .go f true p' → ShOptionsOnly nm p' (f r) rest p'' r'' →
      ShOptionsOnly nm p r (a :: x :: rest) p'' r''

theorem setParse_loop (nm : Names) (p : Bool) (l : List Str) (h : ¬ printForm l) :
    setParse nm p l = finishSet (setLoop nm p l) := by
  simp only [printForm, not_or] at h
  simp [setParse, h.1, h.2.1, h.2.2]

theorem printForm_cons {x : Str} {l : List Str} (h : printForm (x :: l)) : (∃ s : Char, x = [s, 'o']) ∧ l = [] := by
  rcases h with h | h | h
  · cases h
  · cases h; exact ⟨⟨_, rfl⟩, rfl⟩
  · cases h; exact ⟨⟨_, rfl⟩, rfl⟩

theorem not_printForm_of_mem {l : List Str} {a : Str} (ha : a ∈ l) (h2 : a ≠ ['-', 'o']) (h3 : a ≠ ['+', 'o']) :
    ¬ printForm l := by
  rintro (rfl | rfl | rfl)
  · cases ha
  · exact h2 (by simpa using ha)
  · exact h3 (by simpa using ha)

@[simp] theorem prependO_nil (r : Looped ε) : prependO [] r = r := by
  cases r with
  | error e => rfl
  | ok p => cases p; rfl

@[simp] theorem prependO_prependO (a b : List (Str × Bool)) (r : Looped ε) :
    prependO a (prependO b r) = prependO (a ++ b) r := by
  cases r with
  | error e => rfl
  | ok p => cases p; simp [prependO]

theorem shortSign_single (neg : Bool) (c : Char) (cs : Str) (h : c ≠ signChar neg) :
    shortSign (signChar neg :: c :: cs) = some neg := by
  cases neg <;> simp [signChar, shortSign] at h ⊢ <;> exact h

theorem shortSign_cases (a : Str) (neg : Bool) (h : shortSign a = some neg) :
    ∃ c cs, a = signChar neg :: c :: cs ∧ c ≠ signChar neg := by
  unfold shortSign at h
  split at h
  · rename_i c cs
    split at h
    · cases h
    · cases h; exact ⟨c, cs, rfl, by simpa [signChar] using ‹¬c = '-'›⟩
  · rename_i c cs
    split at h
    · cases h
    · cases h; exact ⟨c, cs, rfl, by simpa [signChar] using ‹¬c = '+'›⟩
  · cases h

theorem signChar_ne_o (neg : Bool) : 'o' ≠ signChar neg := by cases neg <;> decide

theorem longForm_some (a : Str) (neg : Bool) (name : Str) (h : longForm a = some (neg, name)) :
    a = signChar neg :: signChar neg :: name ∧ (neg = false → name ≠ []) := by
  unfold longForm at h
  split at h
  · split at h
    · cases h
    · rename_i hne
      cases h
      exact ⟨rfl, fun _ => by simpa using hne⟩
  · cases h; exact ⟨rfl, fun hh => by cases hh⟩
  · cases h

theorem splitCluster_cons (sign c : Char) (rest : Str) :
    splitCluster sign (c :: rest) =
      if c = 'o' then (if rest.isEmpty then ([[sign, 'o']], true) else ([[sign, 'o'], rest], false))
      else ([sign, c] :: (splitCluster sign rest).1, (splitCluster sign rest).2) := by
  rw [splitCluster]

theorem splitCluster_pending_cons (sign c : Char) (rest : Str) :
    (splitCluster sign (c :: rest)).2 = if c = 'o' then rest.isEmpty else (splitCluster sign rest).2 := by
  rw [splitCluster_cons]
  split
  · cases rest <;> rfl
  · rfl

/-- what `separateSO` writes for the cluster `a` (`shortSign a = some neg`) -/
def clusterSO (neg : Bool) (a : Str) : List Str :=
  if (a.drop 1).contains (signChar neg) then [a] else (splitCluster (signChar neg) (a.drop 1)).1

theorem separateSO_short (long : Bool) (a : Str) (rest : List Str) (neg : Bool) (hs : shortSign a = some neg) :
    separateSO long (a :: rest) =
      clusterSO neg a ++
        (if (splitCluster (signChar neg) (a.drop 1)).2 then
          (match rest with
           | [] => []
           | x :: rest' => x :: separateSO long rest')
         else separateSO long rest) := by
  rw [separateSO]
  simp only [hs, clusterSO]
  exact sepBody_eq _ a _ rest _ _

theorem ite_error_eq_ok {ε α : Type} {c : Prop} [Decidable c] {e : ε} {x : Except ε α} {y : α}
    (h : (if c then .error e else x) = .ok y) : x = .ok y := by
  split at h
  · cases h
  · exact h

section oArm
variable {ε : Type} (nm : Names) (neg : Bool) (eMis eUnk eAmb eUnm eNonP eUnsep : ε) (cm : Bool)

theorem oArm_ok {p : Bool} {rest : Str} {next : Option Str} {os : List (Str × Bool)} {took p' : Bool}
    (h : oArm nm neg p rest next eMis eUnk eAmb eUnm eNonP eUnsep cm = .ok (os, took, p')) :
    took = rest.isEmpty ∧ (NoPortable nm → p' = p) := by
  simp only [oArm] at h
  generalize (if (!rest.isEmpty) = true then some rest else next) = raw? at h
  cases raw? with
  | none => cases h
  | some raw =>
    simp only [] at h
    cases hl : nm.parseLong raw with
    | noSuch => rw [hl] at h; cases h
    | ambiguous => rw [hl] at h; cases h
    | ok opt st =>
      rw [hl] at h
      simp only [] at h
      cases ite_error_eq_ok (ite_error_eq_ok (ite_error_eq_ok h))
      exact ⟨by simp, fun hnm => if_neg fun (he : opt = portableOpt) => hnm raw st (he ▸ hl)⟩

theorem oArm_next (p : Bool) (rest : Str) (h : rest ≠ []) (n1 n2 : Option Str) :
    oArm nm neg p rest n1 eMis eUnk eAmb eUnm eNonP eUnsep cm =
      oArm nm neg p rest n2 eMis eUnk eAmb eUnm eNonP eUnsep cm := by
  have : rest.isEmpty = false := by cases rest <;> simp_all
  simp [oArm, this]

theorem oArm_attached_eq_next (raw : Str) (next : Option Str) (hraw : raw ≠ []) :
    (∃ e, oArm nm neg false [] (some raw) eMis eUnk eAmb eUnm eNonP eUnsep cm = .error e ∧
          oArm nm neg false raw next eMis eUnk eAmb eUnm eNonP eUnsep cm = .error e) ∨
    (∃ os p', oArm nm neg false [] (some raw) eMis eUnk eAmb eUnm eNonP eUnsep cm = .ok (os, true, p') ∧
          oArm nm neg false raw next eMis eUnk eAmb eUnm eNonP eUnsep cm = .ok (os, false, p')) := by
  have : raw.isEmpty = false := by cases raw <;> simp_all
  simp only [oArm, List.isEmpty_nil, Bool.not_true, Bool.false_eq_true, if_false, this, Bool.not_false, if_true,
    Bool.false_and]
  cases nm.parseLong raw with
  | noSuch => exact .inl ⟨_, rfl, rfl⟩
  | ambiguous => exact .inl ⟨_, rfl, rfl⟩
  | ok opt st =>
    simp only []
    split
    · exact .inl ⟨_, rfl, rfl⟩
    · exact .inr ⟨_, _, rfl, rfl⟩

end oArm

theorem setLoop_cons (nm : Names) (p : Bool) (a : Str) (rest : List Str) :
    setLoop nm p (a :: rest) =
      match setStep nm p a rest.head? with
      | .fail e => .error e
      | .stop => .ok ([], a :: rest)
      | .opts os took p' => prependO os (setLoop nm p' (if took then rest.tail else rest)) := by
  rw [setLoop]
  cases h : setStep nm p a rest.head? with
  | fail e => rfl
  | stop => rfl
  | opts os took p' =>
    cases took with
    | false => simp
    | true =>
      cases rest with
      | nil => simp [setLoop, prependO]
      | cons b rest' => simp

def contS (nm : Names) (x : Except SetErr ShortOut) (tail : List Str) : Looped SetErr :=
  match x with
  | .error e => .error e
  | .ok (os, took, p') => prependO os (setLoop nm p' (if took then tail.tail else tail))

theorem setLoop_short (nm : Names) (p : Bool) (a : Str) (rest : List Str) (neg : Bool)
    (h : shortSign a = some neg) :
    setLoop nm p (a :: rest) = contS nm (setShortLoop nm neg rest.head? p (a.drop 1)) rest := by
  rw [setLoop_cons]
  simp only [setStep, h]
  cases setShortLoop nm neg rest.head? p (List.drop 1 a) with
  | error e => rfl
  | ok q => obtain ⟨os, took, p'⟩ := q; rfl

theorem setShortLoop_cons (nm : Names) (neg : Bool) (next : Option Str) (p : Bool) (c : Char) (rest : Str) :
    setShortLoop nm neg next p (c :: rest) =
      if c = 'o' then
        oArm nm neg p rest next .missingArgument .unknownLong .ambiguousLong .unmodifiableLong
          .nonPortableLong .unseparated true
      else thenCons (setLetter nm neg p c) (setShortLoop nm neg next p rest) := by
  rw [setShortLoop]

theorem contS_thenCons (nm : Names) (l : Except SetErr (Str × Bool)) (x : Except SetErr ShortOut) (tail : List Str) :
    contS nm (thenCons l x) tail =
      match l with
      | .error e => .error e
      | .ok o => prependO [o] (contS nm x tail) := by
  cases l with
  | error e => rfl
  | ok o =>
    cases x with
    | error e => rfl
    | ok q => obtain ⟨os, took, p'⟩ := q; simp [thenCons, consOpt, contS]

theorem thenCons_ok {l : Except ε (Str × Bool)} {r : Except ε ShortOut} {os : List (Str × Bool)} {took p' : Bool}
    (h : thenCons l r = .ok (os, took, p')) : ∃ os', r = .ok (os', took, p') := by
  cases l with
  | error e => cases h
  | ok o =>
    cases r with
    | error e => cases h
    | ok q =>
      obtain ⟨os', t, p''⟩ := q
      simp only [thenCons, consOpt, Except.ok.injEq, Prod.mk.injEq] at h
      obtain ⟨_, rfl, rfl⟩ := h
      exact ⟨os', rfl⟩

/-- `sign` is arbitrary (`(splitCluster sign cs).2` does not depend on it; callers pass `'-'` or `signChar neg`); likewise in
    `setShort_next`, `shShortLoop_ok`, `shShort_next` -/
theorem setShortLoop_ok (nm : Names) (neg : Bool) (next : Option Str) (p : Bool) (sign : Char) :
    ∀ (cs : Str) {os : List (Str × Bool)} {took p' : Bool},
      setShortLoop nm neg next p cs = .ok (os, took, p') →
      took = (splitCluster sign cs).2 ∧ (NoPortable nm → p' = p) := by
  intro cs
  induction cs with
  | nil => intro os took p' h; rw [setShortLoop] at h; cases h; exact ⟨rfl, fun _ => rfl⟩
  | cons c rest ih =>
    intro os took p' h
    rw [setShortLoop_cons] at h
    rw [splitCluster_pending_cons]
    by_cases ho : c = 'o'
    · rw [if_pos ho] at h ⊢
      exact oArm_ok _ _ _ _ _ _ _ _ _ h
    · rw [if_neg ho] at h ⊢
      obtain ⟨os', hr⟩ := thenCons_ok h
      exact ih hr

theorem setShort_next (nm : Names) (neg : Bool) (n1 n2 : Option Str) (p : Bool) (sign : Char) :
    ∀ cs : Str, (splitCluster sign cs).2 = false →
      setShortLoop nm neg n1 p cs = setShortLoop nm neg n2 p cs := by
  intro cs
  induction cs with
  | nil => intro _; rfl
  | cons c rest ih =>
    intro hp
    rw [splitCluster_pending_cons] at hp
    rw [setShortLoop_cons, setShortLoop_cons]
    by_cases ho : c = 'o'
    · simp only [if_pos ho] at hp ⊢
      exact oArm_next _ _ _ _ _ _ _ _ _ _ _ (fun h => by rw [h] at hp; cases hp) _ _
    · simp only [if_neg ho] at hp ⊢
      rw [ih hp]

theorem shLoop_cons (nm : Names) (p : Bool) (r : Run) (a : Str) (rest : List Str) :
    shLoop nm p r (a :: rest) =
      match shStep nm p a rest.head? with
      | .fail e => .error e
      | .finish x => .ok (.inl x)
      | .stop => .ok (.inr (r, a :: rest))
      | .go f took p' => shLoop nm p' (f r) (if took then rest.tail else rest) := by
  rw [shLoop]
  cases h : shStep nm p a rest.head? with
  | fail e => rfl
  | finish x => rfl
  | stop => rfl
  | go f took p' =>
    cases took with
    | false => simp
    | true =>
      cases rest with
      | nil => simp [shLoop]
      | cons b rest' => simp

def contH (nm : Names) (x : Except ShErr (ShortOut × Bool)) (r : Run) (tail : List Str) :
    Except ShErr (ShParse ⊕ (Run × List Str)) :=
  match x with
  | .error e => .error e
  | .ok ((os, took, p'), v) =>
    if v then .ok (.inl .version) else shLoop nm p' (pushOptions os r) (if took then tail.tail else tail)

theorem shLoop_short (nm : Names) (p : Bool) (r : Run) (a : Str) (rest : List Str) (neg : Bool)
    (h : shortSign a = some neg) :
    shLoop nm p r (a :: rest) = contH nm (shShortLoop nm neg rest.head? p (a.drop 1)) r rest := by
  rw [shLoop_cons]
  simp only [shStep, h]
  cases shShortLoop nm neg rest.head? p (List.drop 1 a) with
  | error e => rfl
  | ok q =>
    obtain ⟨⟨os, took, p'⟩, v⟩ := q
    cases v <;> simp [ShStep.ofShort, contH]

theorem shShortLoop_cons (nm : Names) (neg : Bool) (next : Option Str) (p : Bool) (c : Char) (rest : Str) :
    shShortLoop nm neg next p (c :: rest) =
      if c = 'V' then
        (if neg then .error (.unnegatableShort 'V')
         else if p then .error (.nonPortableShort 'V')
         else .ok (([], false, p), true))
      else if c = 'o' then
        noVersion (oArm nm neg p rest next ShErr.missingArgument .unknownLong .ambiguousLong .unknownLong
            .nonPortableLong .unseparated false)
      else thenConsV (shLetter nm neg p c) (shShortLoop nm neg next p rest) := by
  rw [shShortLoop]

theorem pushOptions_nil (r : Run) : pushOptions [] r = r := by simp [pushOptions]

theorem contH_thenConsV (nm : Names) (l : Except ShErr (Str × Bool)) (x : Except ShErr (ShortOut × Bool))
    (r : Run) (tail : List Str) :
    contH nm (thenConsV l x) r tail =
      match l with
      | .error e => .error e
      | .ok o => contH nm x (pushOptions [o] r) tail := by
  cases l with
  | error e => rfl
  | ok o =>
    cases x with
    | error e => rfl
    | ok q =>
      obtain ⟨⟨os, took, p'⟩, v⟩ := q
      cases v <;> simp [thenConsV, contH, pushOptions]

theorem thenConsV_ok {l : Except ShErr (Str × Bool)} {x : Except ShErr (ShortOut × Bool)}
    {os : List (Str × Bool)} {took p' v : Bool} (h : thenConsV l x = .ok ((os, took, p'), v)) :
    ∃ os', x = .ok ((os', took, p'), v) := by
  cases l with
  | error e => cases h
  | ok o =>
    cases x with
    | error e => cases h
    | ok q =>
      obtain ⟨⟨os', t, p''⟩, v'⟩ := q
      simp only [thenConsV, Except.ok.injEq, Prod.mk.injEq] at h
      obtain ⟨⟨_, rfl, rfl⟩, rfl⟩ := h
      exact ⟨os', rfl⟩

theorem noVersion_ok {x : Except ShErr ShortOut} {q : ShortOut} {v : Bool} (h : noVersion x = .ok (q, v)) :
    x = .ok q ∧ v = false := by
  cases x with
  | error e => cases h
  | ok q' => cases h; exact ⟨rfl, rfl⟩

theorem shV_ok {neg p : Bool} {q : ShortOut} {v : Bool}
    (h : (if neg then Except.error (ShErr.unnegatableShort 'V') else if p then .error (.nonPortableShort 'V')
      else .ok (([], false, p), true)) = .ok (q, v)) : q = ([], false, p) ∧ v = true := by
  cases neg <;> cases p <;> simp at h
  exact ⟨h.1.symm, h.2⟩

theorem shShortLoop_ok (nm : Names) (neg : Bool) (next : Option Str) (p : Bool) (sign : Char) :
    ∀ (cs : Str) {os : List (Str × Bool)} {took p' v : Bool},
      shShortLoop nm neg next p cs = .ok ((os, took, p'), v) →
      (v = true ∨ took = (splitCluster sign cs).2) ∧ (NoPortable nm → p' = p) := by
  intro cs
  induction cs with
  | nil => intro os took p' v h; rw [shShortLoop] at h; cases h; exact ⟨.inr rfl, fun _ => rfl⟩
  | cons c rest ih =>
    intro os took p' v h
    rw [shShortLoop_cons] at h
    rw [splitCluster_pending_cons]
    split at h
    · obtain ⟨hq, hv⟩ := shV_ok h
      cases hq
      exact ⟨.inl hv, fun _ => rfl⟩
    · by_cases ho : c = 'o'
      · rw [if_pos ho] at h ⊢
        obtain ⟨ht, hp⟩ := oArm_ok _ _ _ _ _ _ _ _ _ (noVersion_ok h).1
        exact ⟨.inr ht, hp⟩
      · rw [if_neg ho] at h ⊢
        obtain ⟨os', hr⟩ := thenConsV_ok h
        exact ih hr

theorem shShort_next (nm : Names) (neg : Bool) (n1 n2 : Option Str) (p : Bool) (sign : Char) :
    ∀ cs : Str, (splitCluster sign cs).2 = false →
      shShortLoop nm neg n1 p cs = shShortLoop nm neg n2 p cs := by
  intro cs
  induction cs with
  | nil => intro _; rfl
  | cons c rest ih =>
    intro hp
    rw [splitCluster_pending_cons] at hp
    rw [shShortLoop_cons, shShortLoop_cons]
    split
    · rfl
    · by_cases ho : c = 'o'
      · simp only [if_pos ho] at hp ⊢
        rw [oArm_next _ _ _ _ _ _ _ _ _ _ _ (fun h => by rw [h] at hp; cases hp) n1 n2]
      · simp only [if_neg ho] at hp ⊢
        rw [ih hp]

theorem isSeparatedSO_single (long : Bool) (neg : Bool) (c : Char) (rest : List Str) (hc : c ≠ signChar neg) :
    isSeparatedSO long ([signChar neg, c] :: rest) =
      afterSep (isSeparatedSO long) (c == 'o') rest := by
  conv => lhs; unfold isSeparatedSO
  have hs := shortSign_single neg c [] hc
  have h2 : ([c] : Str).contains (signChar neg) = false := by simp; exact fun h => hc h.symm
  simp only [hs, List.drop_succ_cons, List.drop_zero, h2, Bool.false_eq_true, if_false, List.isEmpty_nil, if_true,
    afterSep]
  by_cases ho : c = 'o'
  · subst ho; cases rest <;> simp
  · have : ([c] : Str) ≠ ['o'] := by intro h; cases h; exact ho rfl
    simp [this, ho]

theorem isSeparatedSO_cluster (long : Bool) (neg : Bool) (a : Str) (hs : shortSign a = some neg) (tail : List Str) :
    isSeparatedSO long (clusterSO neg a ++ tail) =
      afterSep (isSeparatedSO long) (splitCluster (signChar neg) (a.drop 1)).2 tail := by
  unfold clusterSO
  split
  · rename_i hk
    conv => lhs; unfold isSeparatedSO
    simp only [List.singleton_append, hs, hk, if_true, afterSep]
    cases tail <;> rfl
  · rename_i hk
    exact parts_separated (isSeparatedSO long) (signChar neg) (· == 'o') (splitCluster (signChar neg)) rfl
      (fun c cs => by rw [splitCluster_cons]; by_cases ho : c = 'o' <;> simp [ho])
      (fun c rest hc => isSeparatedSO_single long neg c rest hc) _ tail (by simpa using hk)

theorem nonShell_arg (name : Str) (ctor : Str → ShLong) (h : nonShell name = some (true, ctor)) :
    ctor = ShLong.profile ∨ ctor = ShLong.rcfile := by
  unfold nonShell at h
  by_cases h1 : name.isPrefixOf "profile".toList
  · rw [if_pos h1] at h; cases h; exact .inl rfl
  by_cases h2 : name.isPrefixOf "rcfile".toList
  · rw [if_neg h1, if_pos h2] at h; cases h; exact .inr rfl
  -- the other four names take no argument
  by_cases h3 : name.isPrefixOf "noprofile".toList
  · rw [if_neg h1, if_neg h2, if_pos h3] at h; cases h
  by_cases h4 : name.isPrefixOf "norcfile".toList
  · rw [if_neg h1, if_neg h2, if_neg h3, if_pos h4] at h; cases h
  by_cases h5 : name.isPrefixOf "help".toList
  · rw [if_neg h1, if_neg h2, if_neg h3, if_neg h4, if_pos h5] at h; cases h
  by_cases h6 : name.isPrefixOf "version".toList
  · rw [if_neg h1, if_neg h2, if_neg h3, if_neg h4, if_neg h5, if_pos h6] at h; cases h
  · rw [if_neg h1, if_neg h2, if_neg h3, if_neg h4, if_neg h5, if_neg h6] at h; cases h

theorem takeWhile_notEqC_append (n t : Str) (hn : '=' ∉ n) (ht : t = [] ∨ t.head? = some '=') :
    (n ++ t).takeWhile notEqC = n ∧ (n ++ t).dropWhile notEqC = t :=
  Common.takeWhile_ne_append '=' n t hn ht

theorem shStep_long_eq_arg (nm : Names) (p : Bool) (name arg : Str) (ctor : Str → ShLong) (next : Option Str)
    (hname : name ≠ []) (heq : '=' ∉ name) (hctor : nonShell name = some (true, ctor))
    (h1 : nm.parseLong (name ++ '=' :: arg) = .noSuch) (h2 : nm.parseLong name = .noSuch) :
    shStep nm p ('-' :: '-' :: (name ++ '=' :: arg)) next =
      (if p then ShStep.fail .nonPortableLong else ShStep.go (applyLong (ctor arg)) false p) ∧
    shStep nm p ('-' :: '-' :: name) (some arg) =
      (if p then ShStep.fail .nonPortableLong else ShStep.go (applyLong (ctor arg)) true p) := by
  obtain ⟨c, name', rfl⟩ : ∃ c name', name = c :: name' := by
    cases name with
    | nil => exact absurd rfl hname
    | cons c n => exact ⟨c, n, rfl⟩
  have hgo : ∀ t p', ShStep.ofLong (.ok (ctor arg, t, p')) = ShStep.go (applyLong (ctor arg)) t p' := by
    intro t p'
    rcases nonShell_arg _ ctor hctor with rfl | rfl <;> rfl
  obtain ⟨ta, da⟩ := takeWhile_notEqC_append (c :: name') ('=' :: arg) heq (Or.inr rfl)
  obtain ⟨tb, db⟩ := takeWhile_notEqC_append (c :: name') [] heq (Or.inl rfl)
  rw [List.append_nil] at tb db
  constructor
  · have hs : shortSign ('-' :: '-' :: (c :: name' ++ '=' :: arg)) = none := by simp [shortSign]
    have hl : isLongArg ('-' :: '-' :: (c :: name' ++ '=' :: arg)) = some false := by simp [isLongArg]
    simp only [shStep, hs, hl, List.drop_succ_cons, List.drop_zero, shLong, ta, da, hctor, h1]
    cases p with
    | true => simp [ShStep.ofLong]
    | false => simp only [Bool.false_eq_true, if_false, List.isEmpty_cons, Bool.not_false, if_true]; exact hgo false false
  · have hs : shortSign ('-' :: '-' :: c :: name') = none := by simp [shortSign]
    have hl : isLongArg ('-' :: '-' :: c :: name') = some false := by simp [isLongArg]
    simp only [shStep, hs, hl, List.drop_succ_cons, List.drop_zero, shLong, tb, db, hctor, h2]
    cases p with
    | true => simp [ShStep.ofLong]
    | false => simp only [Bool.false_eq_true, if_false, List.isEmpty_nil, Bool.not_true, if_true]; exact hgo true false

theorem shLoop_after_options {nm : Names} {p : Bool} {r : Run} {pre : List Str} {p' : Bool} {r' : Run}
    (h : ShOptionsOnly nm p r pre p' r') (ys : List Str) :
    shLoop nm p r (pre ++ ys) = shLoop nm p' r' ys := by
  induction h with
  | nil p r => rfl
  | one p r a f p' rest p'' r'' hstep _ ih =>
    rw [List.cons_append, shLoop_cons, hstep]
    simpa using ih
  | two p r a x f p' rest p'' r'' hstep _ ih =>
    rw [List.cons_append, List.cons_append, shLoop_cons]
    simp only [List.head?_cons, hstep]
    simpa using ih

end YashModel.Args.Bespoke
