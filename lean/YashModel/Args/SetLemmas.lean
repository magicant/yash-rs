/-
  C20 — the `set` built-in: the forms of an argument with their shape (`ShapeForm`, `shapeForm`) tie `shape` to the prologues
  of `try_parse_short` / `try_parse_long` (`shortSign`, `setLong`); the loop of `parse` is the argument-at-a-time reference
  reader (`setLoop_eq_readArgs`); an error of the loop comes from one defective argument behind a prefix consumed as options
  (`SetOptionsOnly`, `setLoop_error_localised`).
-/
import YashModel.Args.BespokeLemmas
import YashModel.Args.SetSpec
namespace YashModel.Args.Bespoke

/-- `pre` is consumed entirely as options (with the names `-o` / `+o` take): the options in order and the
    `portable` state afterwards -/
inductive SetOptionsOnly (nm : Names) : Bool → List Str → List (Str × Bool) → Bool → Prop
  | nil (p : Bool) : SetOptionsOnly nm p [] [] p
  /-- an argument that is a complete option group / long option by itself -/
  | one (p : Bool) (a : Str) (os : List (Str × Bool)) (p' : Bool) (rest : List Str) (os' : List (Str × Bool)) (p'' : Bool) :
      (∀ next, setStep nm p a next = .opts os false p') → SetOptionsOnly nm p' rest os' p'' →
      SetOptionsOnly nm p (a :: rest) (os ++ os') p''
  /-- a group ending in `o` together with the name that follows it -/
  | two (p : Bool) (a x : Str) (os : List (Str × Bool)) (p' : Bool) (rest : List Str) (os' : List (Str × Bool)) (p'' : Bool) :
      setStep nm p a (some x) = .opts os true p' → SetOptionsOnly nm p' rest os' p'' →
      SetOptionsOnly nm p (a :: x :: rest) (os ++ os') p''

theorem isSign_signChar (neg : Bool) : isSign (signChar neg) = true := by cases neg <;> rfl

theorem signChar_eq_plus (neg : Bool) : (signChar neg == '+') = neg := by cases neg <;> rfl

inductive ShapeForm : Str → Shape → Prop
  | empty : ShapeForm [] .operand
  | dash : ShapeForm ['-'] .separator
  | lone (c : Char) (h : c ≠ '-') : ShapeForm [c] .operand
  | dashdash : ShapeForm ['-', '-'] .separator
  | long (neg : Bool) (name : Str) (h : neg = false → name ≠ []) :
      ShapeForm (signChar neg :: signChar neg :: name) (.long neg name)
  | group (neg : Bool) (c : Char) (cs : Str) (h : c ≠ signChar neg) : ShapeForm (signChar neg :: c :: cs) (.group neg (c :: cs))
  | plain (s c : Char) (cs : Str) (h : isSign s = false) : ShapeForm (s :: c :: cs) .operand

theorem shape_group_cons (neg : Bool) (c : Char) (cs : Str) (h : c ≠ signChar neg) :
    shape (signChar neg :: c :: cs) = .group neg (c :: cs) := by
  simp [shape, isSign_signChar, h, signChar_eq_plus]

theorem shape_long_cons (neg : Bool) (name : Str) (h : neg = false → name ≠ []) :
    shape (signChar neg :: signChar neg :: name) = .long neg name := by
  cases neg with
  | false => simp [shape, isSign, signChar, h rfl]
  | true => simp [shape, isSign, signChar]

theorem shapeForm : ∀ a : Str, ShapeForm a (shape a)
  | [] => .empty
  | [c] => by
    by_cases hc : c = '-'
    · subst hc; exact .dash
    · simp only [shape, hc, if_false]; exact .lone c hc
  | s :: c :: cs => by
    cases hs : isSign s with
    | false => simp only [shape, hs, Bool.false_eq_true, if_false]; exact .plain s c cs hs
    | true =>
      obtain ⟨neg, rfl⟩ : ∃ neg, s = signChar neg := by
        simp only [isSign, Bool.or_eq_true, beq_iff_eq] at hs
        rcases hs with rfl | rfl
        · exact ⟨false, rfl⟩
        · exact ⟨true, rfl⟩
      by_cases hc : c = signChar neg
      · subst hc
        by_cases hsep : neg = false ∧ cs = []
        · obtain ⟨rfl, rfl⟩ := hsep; exact .dashdash
        · have hn : neg = false → cs ≠ [] := fun h1 h2 => hsep ⟨h1, h2⟩
          rw [shape_long_cons neg cs hn]; exact .long neg cs hn
      · rw [shape_group_cons neg c cs hc]; exact .group neg c cs hc

theorem shape_of_shortSign (a : Str) (neg : Bool) (h : shortSign a = some neg) :
    shape a = .group neg (a.drop 1) := by
  obtain ⟨c, cs, rfl, hc⟩ := shortSign_cases a neg h
  exact shape_group_cons neg c cs hc

theorem shortSign_of_shape (a : Str) (neg : Bool) (ls : Str) (h : shape a = .group neg ls) :
    shortSign a = some neg ∧ a.drop 1 = ls := by
  have hf := shapeForm a
  rw [h] at hf
  cases hf with
  | group neg c cs hc => exact ⟨shortSign_single neg c cs hc, rfl⟩

theorem shortSign_none_of_shape (a : Str) (h : ∀ neg ls, shape a ≠ .group neg ls) : shortSign a = none := by
  cases hs : shortSign a with
  | none => rfl
  | some neg => exact absurd (shape_of_shortSign a neg hs) (h neg _)

/-- `judgeName` is the body of set's `-o` arm once the name is fixed: the same three checks (modifiable, portable name,
    not attached under `portable`) in the same order -/
theorem oArm_some (nm : Names) (neg p : Bool) (rest : Str) (next : Option Str) (raw : Str)
    (h : (if (!rest.isEmpty) = true then some rest else next) = some raw) :
    oArm nm neg p rest next SetErr.missingArgument .unknownLong .ambiguousLong .unmodifiableLong
        .nonPortableLong .unseparated true =
      match judgeName nm p neg (!rest.isEmpty) raw with
      | .error e => .error e
      | .ok (o, p') => .ok ([o], rest.isEmpty, p') := by
  simp only [oArm, judgeName, h, Bool.true_and]
  cases nm.parseLong raw with
  | noSuch => rfl
  | ambiguous => rfl
  | ok opt st =>
    simp only []
    by_cases hm : (!(nm.infoOf opt).modifiable) = true
    · rw [if_pos hm, if_pos hm]
    · rw [if_neg hm, if_neg hm]
      by_cases hnp : (p && !isPortableLongName nm raw opt st) = true
      · rw [if_pos hnp, if_pos hnp]
      · rw [if_neg hnp, if_neg hnp]
        by_cases hun : (p && !rest.isEmpty) = true
        · rw [if_pos hun, if_pos hun]
        · rw [if_neg hun, if_neg hun]; simp

theorem setShortLoop_eq_readLetters (nm : Names) (neg : Bool) (next : Option Str) (p : Bool) :
    ∀ ls : Str, setShortLoop nm neg next p ls =
      match readLetters nm neg p ls with
      | .error e => .error e
      | .ok (os, p', false) => .ok (os, false, p')
      | .ok (os, p', true) =>
        (match next with
         | none => .error .missingArgument
         | some x => match judgeName nm p' neg false x with
           | .error e => .error e
           | .ok (o, p'') => .ok (os ++ [o], true, p'')) := by
  intro ls
  induction ls with
  | nil => simp [setShortLoop, readLetters]
  | cons c rest ih =>
    rw [setShortLoop_cons]
    by_cases hc : c = 'o'
    · subst hc
      rw [if_pos rfl]
      cases rest with
      | nil =>
        cases next with
        | none => simp [oArm, readLetters]
        | some x =>
          rw [oArm_some nm neg p [] (some x) x rfl]
          simp only [readLetters, List.isEmpty_nil, if_true, Bool.not_true]
          cases judgeName nm p neg false x with
          | error e => rfl
          | ok q => obtain ⟨o, p'⟩ := q; simp
      | cons d ds =>
        rw [oArm_some nm neg p (d :: ds) next (d :: ds) rfl]
        simp only [readLetters, List.isEmpty_cons, if_true, Bool.not_false]
        cases judgeName nm p neg true (d :: ds) with
        | error e => simp
        | ok q => obtain ⟨o, p'⟩ := q; simp
    · rw [if_neg hc, ih]
      simp only [readLetters, hc, if_false]
      cases setLetter nm neg p c with
      | error e => simp [thenCons]
      | ok o =>
        cases readLetters nm neg p rest with
        | error e => simp [thenCons, consOpt]
        | ok q =>
          obtain ⟨os, p', pend⟩ := q
          cases pend with
          | false => simp [thenCons, consOpt]
          | true =>
            cases next with
            | none => simp [thenCons, consOpt]
            | some x =>
              cases hj : judgeName nm p' neg false x with
              | error e => simp [thenCons, consOpt, hj]
              | ok r => obtain ⟨o2, p''⟩ := r; simp [thenCons, consOpt, hj]

theorem judgeName_off (nm : Names) (neg att : Bool) (raw : Str) :
    judgeName nm false neg att raw = judgeLongForm nm false neg raw := by
  unfold judgeName judgeLongForm
  cases nm.parseLong raw <;> simp

theorem setLong_long (nm : Names) (p neg : Bool) (name : Str) (hn : neg = false → name ≠ []) :
    Step.ofLong (setLong nm p (signChar neg :: signChar neg :: name)) =
      match judgeLongForm nm p neg name with
      | .error e => Step.fail e
      | .ok (o, p') => Step.opts [o] false p' := by
  have hne : neg = false → name.isEmpty = false := fun h => by simpa using hn h
  cases neg with
  | false =>
    simp only [signChar, setLong, Bool.false_eq_true, if_false, hne rfl, judgeLongForm]
    cases nm.parseLong name with
    | noSuch => rfl
    | ambiguous => rfl
    | ok opt st =>
      -- the same two checks (modifiable, not under `portable`) in the same order
      simp only []
      by_cases hm : (!(nm.infoOf opt).modifiable) = true
      · rw [if_pos hm]; rfl
      · rw [if_neg hm]; cases p <;> rfl
  | true =>
    simp only [signChar, setLong, if_true, judgeLongForm]
    cases nm.parseLong name with
    | noSuch => rfl
    | ambiguous => rfl
    | ok opt st =>
      simp only []
      by_cases hm : (!(nm.infoOf opt).modifiable) = true
      · rw [if_pos hm]; rfl
      · rw [if_neg hm]; cases p <;> rfl

theorem setLong_eq_shape (nm : Names) (p : Bool) (a : Str) (h : shortSign a = none) :
    Step.ofLong (setLong nm p a) =
      match shape a with
      | .long neg name =>
        (match judgeLongForm nm p neg name with
         | .error e => Step.fail e
         | .ok (o, p') => Step.opts [o] false p')
      | _ => Step.stop := by
  have hf := shapeForm a
  generalize shape a = sh at hf
  cases hf with
  | empty => rfl
  | dash => rfl
  | lone c hc => simp [setLong, Step.ofLong]
  | dashdash => rfl
  | long neg name hn => exact setLong_long nm p neg name hn
  | group neg c cs hc => rw [shortSign_single neg c cs hc] at h; cases h
  | plain s c cs hs =>
    have h1 : s ≠ '-' := fun e => by simp [e, isSign] at hs
    have h2 : s ≠ '+' := fun e => by simp [e, isSign] at hs
    simp [setLong, h1, h2, Step.ofLong]

@[simp] theorem prependO_error (os : List (Str × Bool)) (e : ε) :
    prependO os (Except.error e : Looped ε) = .error e := rfl

theorem readArgs_pending_cons (nm : Names) (p neg : Bool) (a : Str) (rest : List Str) :
    readArgs nm p (some neg) (a :: rest) =
      match judgeName nm p neg false a with
      | .error e => .error e
      | .ok (o, p') => prependO [o] (readArgs nm p' none rest) := by
  rw [readArgs]
  cases judgeName nm p neg false a <;> rfl

theorem setLoop_eq_readArgs (nm : Names) : ∀ (args : List Str) (p : Bool),
    setLoop nm p args = readArgs nm p none args
  | [], _ => by simp [setLoop, readArgs]
  | a :: rest, p => by
    cases hs : shortSign a with
    | some neg =>
      have hshape := shape_of_shortSign a neg hs
      rw [setLoop_short nm p a rest neg hs, setShortLoop_eq_readLetters]
      rw [readArgs]
      simp only [hshape]
      cases readLetters nm neg p (a.drop 1) with
      | error e => simp [contS]
      | ok q =>
        obtain ⟨os, p', pend⟩ := q
        cases pend with
        | false => simp [contS, setLoop_eq_readArgs nm rest p']
        | true =>
          cases rest with
          | nil => simp [contS, readArgs]
          | cons x rest' =>
            simp only [List.head?_cons, if_true]
            rw [readArgs_pending_cons]
            cases judgeName nm p' neg false x with
            | error e => simp [contS]
            | ok r =>
              obtain ⟨o, p''⟩ := r
              simp [contS, setLoop_eq_readArgs nm rest' p'']
    | none =>
      rw [setLoop_cons]
      have hl := setLong_eq_shape nm p a hs
      simp only [setStep, hs]
      rw [hl, readArgs]
      have hng : ∀ neg ls, shape a ≠ .group neg ls := by
        intro neg ls hg
        have := (shortSign_of_shape a neg ls hg).1
        rw [hs] at this
        cases this
      cases hsh : shape a with
      | operand => simp
      | separator => simp
      | group neg ls => exact absurd hsh (hng neg ls)
      | long neg name =>
        simp only
        cases judgeLongForm nm p neg name with
        | error e => simp
        | ok r => obtain ⟨o, p'⟩ := r; simp [setLoop_eq_readArgs nm rest p']

theorem applyOptions_eq_specOptions (s : OptStates) (os : List (Str × Bool)) :
    applyOptions s os = specOptions s os := by
  induction os generalizing s with
  | nil => rfl
  | cons o rest ih => obtain ⟨n, st⟩ := o; simp [applyOptions, specOptions, ih]

theorem setLoop_after_options (nm : Names) {p : Bool} {pre : List Str} {os : List (Str × Bool)} {p' : Bool}
    (h : SetOptionsOnly nm p pre os p') (tail : List Str) :
    setLoop nm p (pre ++ tail) = prependO os (setLoop nm p' tail) := by
  induction h with
  | nil p => simp
  | one p a os p' rest os' p'' hstep _ ih =>
    rw [List.cons_append, setLoop_cons, hstep]
    simp [ih]
  | two p a x os p' rest os' p'' hstep _ ih =>
    rw [List.cons_append, List.cons_append, setLoop_cons]
    simp only [List.head?_cons, hstep]
    simp [ih]

theorem setStep_short (nm : Names) (p : Bool) (a : Str) (next : Option Str) (neg : Bool) (hs : shortSign a = some neg) :
    setStep nm p a next = Step.ofShort (setShortLoop nm neg next p (a.drop 1)) := by
  unfold setStep; rw [hs]

theorem setStep_long (nm : Names) (p : Bool) (a : Str) (next : Option Str) (hs : shortSign a = none) :
    setStep nm p a next = Step.ofLong (setLong nm p a) := by
  unfold setStep; rw [hs]

theorem setStep_opts_false_indep (nm : Names) (p : Bool) (a : Str) (n n' : Option Str) (os : List (Str × Bool)) (p' : Bool)
    (h : setStep nm p a n = .opts os false p') : setStep nm p a n' = .opts os false p' := by
  cases hs : shortSign a with
  | none => rw [setStep_long nm p a _ hs] at h ⊢; exact h
  | some neg =>
    rw [setStep_short nm p a _ neg hs] at h ⊢
    cases hx : setShortLoop nm neg n p (a.drop 1) with
    | error e => rw [hx] at h; cases h
    | ok q =>
      obtain ⟨os1, took, p1⟩ := q
      rw [hx] at h
      simp only [Step.ofShort] at h
      injection h with h1 h2 h3
      subst h1 h2 h3
      rw [setShort_next nm neg n' n p '-' _ (setShortLoop_ok nm neg n p '-' _ hx).1.symm, hx]
      rfl

theorem prependO_eq_error (os : List (Str × Bool)) (r : Looped ε) (e : ε) (h : prependO os r = .error e) :
    r = .error e := by
  cases r with
  | error e' => simpa using h
  | ok q => cases q; simp [prependO] at h

theorem setLoop_error_localised (nm : Names) : ∀ (args : List Str) (p : Bool) (e : SetErr),
    setLoop nm p args = .error e →
    ∃ pre a rest os p', args = pre ++ a :: rest ∧ SetOptionsOnly nm p pre os p' ∧ setStep nm p' a rest.head? = .fail e
  | [], _, _, herr => by simp [setLoop] at herr
  | a :: rest, p, e, herr => by
    rw [setLoop_cons] at herr
    cases hstep : setStep nm p a rest.head? with
    | fail e' =>
      rw [hstep] at herr
      injection herr with he
      subst he
      exact ⟨[], a, rest, [], p, rfl, .nil p, hstep⟩
    | stop => rw [hstep] at herr; cases herr
    | opts os took p1 =>
      rw [hstep] at herr
      have hin := prependO_eq_error _ _ _ herr
      cases took with
      | false =>
        simp only [Bool.false_eq_true, if_false] at hin
        obtain ⟨pre, b, rest', os', p', hsplit, hpre, hfail⟩ := setLoop_error_localised nm rest p1 e hin
        refine ⟨a :: pre, b, rest', os ++ os', p', by rw [hsplit]; rfl, ?_, hfail⟩
        exact .one p a os p1 pre os' p' (fun next => setStep_opts_false_indep nm p a _ next os p1 hstep) hpre
      | true =>
        cases rest with
        | nil => simp [setLoop] at hin
        | cons x rest1 =>
          simp only [if_true, List.tail_cons] at hin
          obtain ⟨pre, b, rest', os', p', hsplit, hpre, hfail⟩ := setLoop_error_localised nm rest1 p1 e hin
          refine ⟨a :: x :: pre, b, rest', os ++ os', p', by rw [hsplit]; rfl, ?_, hfail⟩
          exact .two p a x os p1 pre os' p' (by simpa using hstep) hpre

theorem finishSet_error_iff (r : Looped SetErr) (e : SetErr) : finishSet r = .error e ↔ r = .error e := by
  cases r with
  | error e' => simp [finishSet]
  | ok q =>
    obtain ⟨os, rem⟩ := q
    cases rem with
    | nil => simp [finishSet]
    | cons a rest => by_cases h : a = ['-', '-'] ∨ a = ['-'] <;> simp [finishSet, h]

theorem setShortLoop_bad_letter (nm : Names) (neg : Bool) (next : Option Str) (p : Bool) (c : Char) (tl : Str) (e : SetErr)
    (hc : c ≠ 'o') (hbad : setLetter nm neg p c = .error e) :
    ∀ good : Str, (∀ g ∈ good, g ≠ 'o' ∧ ∃ o, setLetter nm neg p g = .ok o) →
      setShortLoop nm neg next p (good ++ c :: tl) = .error e := by
  intro good
  induction good with
  | nil => intro _; simp [setShortLoop_cons, hc, hbad, thenCons]
  | cons g gs ih =>
    intro hg
    obtain ⟨hgo, o, ho⟩ := hg g (by simp)
    rw [List.cons_append, setShortLoop_cons, if_neg hgo, ho, ih (fun x hx => hg x (by simp [hx]))]
    rfl

theorem setLetter_unknown (nm : Names) (neg p : Bool) (c : Char) (h : nm.parseShort c = none) :
    setLetter nm neg p c = .error (.unknownShort c) := by
  simp [setLetter, h]

end YashModel.Args.Bespoke
