/-
  C20 — option names (`OptionNames.lean`): what `strip` ignores (punctuation, ASCII case), and that a name with a character
  no option name contains is unknown.
-/
import YashModel.Args.OptionNames
import YashModel.Generated.OptionNames
namespace YashModel.Args.OptionNames

theorem upper_bounds (c : Char) (h : isAsciiUpper c = true) : 65 ≤ c.toNat ∧ c.toNat ≤ 90 := by
  simp only [isAsciiUpper, Bool.and_eq_true, decide_eq_true_eq] at h
  have h1 : 'A'.val ≤ c.val := h.1
  have h2 : c.val ≤ 'Z'.val := h.2
  constructor
  · exact h1
  · exact h2

theorem ascii_upper_facts : ∀ n, n < 91 → 65 ≤ n →
    (Char.ofNat n).toNat < 128 ∧ isAsciiAlnum (Char.ofNat n) = true ∧
    (lowerAscii (Char.ofNat n)).toNat < 128 ∧ isAsciiAlnum (lowerAscii (Char.ofNat n)) = true ∧
    isAsciiUpper (lowerAscii (Char.ofNat n)) = false := by decide

theorem upper_facts (extra : List (Char × Bool)) (c : Char) (h : isAsciiUpper c = true) :
    isAlnum extra c = true ∧ isAlnum extra (lowerAscii c) = true ∧ isAsciiUpper (lowerAscii c) = false := by
  obtain ⟨h1, h2⟩ := upper_bounds c h
  have hc : c = Char.ofNat c.toNat := (Char.ofNat_toNat c).symm
  obtain ⟨f1, f2, f3, f4, f5⟩ := ascii_upper_facts c.toNat (by omega) h1
  rw [← hc] at f1 f2 f3 f4 f5
  refine ⟨?_, ?_, f5⟩
  · unfold isAlnum; rw [if_pos f1]; exact f2
  · unfold isAlnum; rw [if_pos f3]; exact f4

theorem lowerAscii_id (c : Char) (h : isAsciiUpper c = false) : lowerAscii c = c := by
  unfold lowerAscii; simp [h]

theorem strip_append (extra : List (Char × Bool)) (a b : Str) : strip extra (a ++ b) = strip extra a ++ strip extra b := by
  simp [strip, List.filter_append]

theorem strip_insert_ignorable (extra : List (Char × Bool)) (pre post : Str) (c : Char) (h : isAlnum extra c = false) :
    strip extra (pre ++ c :: post) = strip extra (pre ++ post) := by
  rw [strip_append, strip_append]
  congr 1
  simp [strip, h]

theorem strip_ascii_case (extra : List (Char × Bool)) (pre post : Str) (c : Char) (h : isAsciiUpper c = true) :
    strip extra (pre ++ c :: post) = strip extra (pre ++ lowerAscii c :: post) := by
  obtain ⟨h1, h2, h3⟩ := upper_facts extra c h
  rw [strip_append, strip_append]
  congr 1
  simp [strip, h1, h2, lowerAscii_id _ h3]

theorem mem_strip (extra : List (Char × Bool)) (name : Str) (c : Char) (hc : c ∈ name)
    (ha : isAlnum extra c = true) (hu : isAsciiUpper c = false) : c ∈ strip extra name := by
  unfold strip
  rw [List.mem_map]
  exact ⟨c, by simp [hc, ha], lowerAscii_id c hu⟩

theorem fromStr_foreign (table : List Str) (name : Str) (c : Char) (hc : c ∈ name) (ht : ∀ t ∈ table, c ∉ t) :
    fromStr table name = .noSuch := by
  unfold fromStr
  have h1 : table.contains name = false := by
    cases h : table.contains name with
    | false => rfl
    | true => exact absurd hc (ht name (by simpa using h))
  rw [h1]
  have h2 : table.filter (fun t => name.isPrefixOf t) = [] := by
    apply List.filter_eq_nil_iff.mpr
    intro t hmem hp
    have := (List.isPrefixOf_iff_prefix.mp hp).subset hc
    exact ht t hmem this
  simp [h2]

/-- every option name of the shell is written in lower-case ASCII letters (checked on the generated table) -/
theorem optionNames_ascii :
    (Generated.OptionNames.optionNames.all fun t => t.all fun c => 'a' ≤ c && c ≤ 'z') = true := by decide

end YashModel.Args.OptionNames
