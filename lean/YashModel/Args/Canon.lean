/-
  C20 — the canonical spelling of an argument vector for `parse_arguments` (common/syntax.rs), a Spec
  function: every cluster of short options split into single letters, every attached option-argument
  (`-oX`, `--name=X`) moved to the next argument, every abbreviated long name written in full.  Tokens
  that cannot be resolved (unknown letter, unknown / ambiguous name, `=arg` on a flag) are left as they
  are — they make the whole vector malformed either way — and a letter is not split from a following
  letter `-` (a lone `-` letter cannot be an argument of its own: `--` is the separator).  Everything from
  `--` or the first operand on is left untouched.
  `ParseTheorems.lean`: the canonical spelling parses like the original (`canonical_spelling_same_parse`),
  two vectors with the same canonical spelling parse alike (`equivalent_spellings_same_parse`), and
  the canonical spelling of a well-formed vector is canonical (`canon_is_canonical`): only `-c`,
  `--fullname`, option-arguments, then `--`/operands, which a ten-line reader (`readCanon`) can parse.
-/
import YashModel.Args.Spec
namespace YashModel.Args.Spec
open YashModel.Args

inductive ArgKind where
  /-- `--`, `-`, the empty string, anything not starting with `-`: option parsing stops here -/
  | stop
  /-- `--body`, body non-empty -/
  | long (body : Str)
  /-- `-cs`, cs non-empty and not starting with `-` -/
  | cluster (cs : Str)
  deriving DecidableEq, Repr

def argKind (a : Str) : ArgKind :=
  match a with
  | '-' :: c :: cs => if c = '-' then (if cs.isEmpty then .stop else .long cs) else .cluster (c :: cs)
  | _ => .stop

def shortTok (c : Char) : Str := ['-', c]
def longTok (l : Str) : Str := '-' :: '-' :: l

/-- does the cluster end with an option whose argument is the next command-line argument? -/
def pendingOf (specs : List OptionSpec) : Str → Bool
  | [] => false
  | c :: cs =>
    match specs.find? (fun s => s.short == some c) with
    | none => false
    | some s => if s.takesArg then cs.isEmpty else pendingOf specs cs

/-- the letters of a cluster, one argument each.  An unknown letter keeps the rest of the cluster (the
    vector is malformed either way); a letter followed by the letter `-` is not split off either
    (`-a-b` cannot be written `-a --b`). -/
def canonCluster (specs : List OptionSpec) : Str → List Str
  | [] => []
  | c :: cs =>
    match specs.find? (fun s => s.short == some c) with
    | none => ['-' :: c :: cs]
    | some s =>
      if s.takesArg then (if cs.isEmpty then [shortTok c] else [shortTok c, cs])
      else if cs.head? = some '-' then ['-' :: c :: cs]
      else shortTok c :: canonCluster specs cs

/-- a long option: the full name, the attached argument moved out -/
def canonLong (specs : List OptionSpec) (body : Str) : List Str × Bool :=
  let name := body.takeWhile (· ≠ '=')
  let hasEq := body.contains '='
  let arg := (body.dropWhile (· ≠ '=')).drop 1
  match candidates specs name with
  | [s] =>
    (match s.long with
     | some l =>
       if l.isEmpty || l.contains '=' then ([longTok body], s.takesArg && !hasEq)
       else if s.takesArg then (if hasEq then ([longTok l, arg], false) else ([longTok l], true))
       else (if hasEq then ([longTok body], false) else ([longTok l], false))
     | none => ([longTok body], false))
  | _ => ([longTok body], false)

def canonParts (specs : List OptionSpec) (a : Str) : ArgKind → List Str × Bool
  | .stop => ([a], false)
  | .long body => canonLong specs body
  | .cluster cs => (canonCluster specs cs, pendingOf specs cs)

/-- the canonical spelling -/
def canon (specs : List OptionSpec) : List Str → List Str
  | [] => []
  | a :: rest =>
    if argKind a = .stop then a :: rest
    else if (canonParts specs a (argKind a)).2 then
      match rest with
      | [] => (canonParts specs a (argKind a)).1
      | x :: rest' => (canonParts specs a (argKind a)).1 ++ x :: canon specs rest'
    else (canonParts specs a (argKind a)).1 ++ canon specs rest

/-- a token of a canonical vector -/
inductive Tok where
  /-- `--`, `-`, an operand: option parsing stops -/
  | stop
  /-- `-c` (`isLong = false`) or `--fullname` (`isLong = true`) naming the option `s` -/
  | opt (s : OptionSpec) (isLong : Bool) (c : Char)
  /-- anything else that starts with `-` -/
  | bad (e : ParseError)
  deriving Repr

def tokOf (specs : List OptionSpec) (a : Str) : Tok :=
  match argKind a with
  | .stop => .stop
  | .long body =>
    if body.contains '=' then .bad .unknownLong
    else match specs.find? (fun s => s.long == some body) with
      | some s => .opt s true '-'
      | none => .bad .unknownLong
  | .cluster cs =>
    match cs with
    | [c] =>
      (match specs.find? (fun s => s.short == some c) with
       | some s => .opt s false c
       | none => .bad (.unknownShort c))
    | _ => .bad .unknownLong

/-- is the option switched off by the mode? -/
def blocked (mode : Mode) (s : OptionSpec) (isLong : Bool) : Bool :=
  (isLong && !mode.longOptionNames) || (s.extension && !mode.extensionOptions)

def blockedError (s : OptionSpec) (isLong : Bool) (c : Char) : ParseError :=
  if isLong then .nonPortableLong s else .nonPortableShort c s

/-- A reader for canonical vectors only: `-c`, `--fullname`, each followed by its argument if it takes
    one; `--`; operands. -/
def readCanon (specs : List OptionSpec) (mode : Mode) : List Str → View
  | [] => .ok ([], [])
  | a :: rest =>
    match tokOf specs a with
    | .stop => if a = ['-', '-'] then .ok ([], rest) else .ok ([], a :: rest)
    | .bad e => .error e
    | .opt s isLong c =>
      if blocked mode s isLong then .error (blockedError s isLong c)
      else if s.takesArg then
        match rest with
        | [] => .error (.missingArgument s)
        | x :: rest' => cons [(s, some x)] (readCanon specs mode rest')
      else cons [(s, none)] (readCanon specs mode rest)

/-- is the vector in canonical spelling? (`pending` = the previous option still needs its argument) -/
def isCanonical (specs : List OptionSpec) : Bool → List Str → Bool
  | _, [] => true
  | true, _ :: rest => isCanonical specs false rest
  | false, a :: rest =>
    match tokOf specs a with
    | .stop => true
    | .bad _ => false
    | .opt s _ _ => isCanonical specs s.takesArg rest

end YashModel.Args.Spec
