/-
  C20 — refinement: the Impl model (`Model.lean`) computes, modulo spelling, exactly what the
  reference parser (`Spec.lean`) computes; and laws of the reference parser proved on the Spec side.
  Both sides are read by the kind of the first argument (`argKind`; its forms: `ArgForm`, `argForm`): `run_kind` says
  what `Spec.run` does, `step_by_kind` what the Impl's `step` does.
-/
import YashModel.Args.ParseLemmas
import YashModel.Args.Canon
namespace YashModel.Args
open Spec

/-- (Spec side) `pre` is transparent for the reference parser: it contributes exactly the options `vs`,
    and parsing then continues with whatever follows as if from the start (no pending argument, option
    parsing not ended). -/
def SpecOptionsOnly (specs : List OptionSpec) (mode : Mode) (pre : List Str) (vs : List VOpt) : Prop :=
  ∀ ys, Spec.run specs mode none (pre ++ ys) = Spec.cons vs (Spec.run specs mode none ys)

theorem finishV_cons (os : List VOpt) (v : View) : finishV (Spec.cons os v) = Spec.cons os (finishV v) := by
  cases v with
  | error e => rfl
  | ok p => cases p; rfl

/-- what the Impl's cluster / long-option step delivers, given what the Spec's `cluster` / `longOpt`
    says and the peeked next argument -/
def resolveP (c : Except ParseError (List Spec.Opt × Option OptionSpec)) (next : Option Str) :
    Except ParseError (List VOpt × Bool) :=
  match c with
  | .error e => .error e
  | .ok (os, none) => .ok (os, false)
  | .ok (os, some s) =>
    match next with
    | none => .error (.missingArgument s)
    | some x => .ok (os ++ [(s, some x)], true)

theorem resolveP_cons (s : OptionSpec) (c) (next : Option Str) :
    resolveP (match c with
      | .ok (os, p) => .ok ((s, none) :: os, p)
      | .error e => .error e) next = consV (s, none) (resolveP c next) := by
  cases c with
  | error e => rfl
  | ok q =>
    obtain ⟨os, p⟩ := q
    cases p with
    | none => rfl
    | some s' => cases next <;> rfl

theorem cluster_shortLoop (specs : List OptionSpec) (mode : Mode) (next : Option Str) (chars : Str) (i : Nat) :
    viewS (shortLoop specs mode next i chars) = resolveP (Spec.cluster specs mode chars) next := by
  induction chars generalizing i with
  | nil => rfl
  | cons c cs ih =>
    simp only [shortLoop, Spec.cluster, findShort]
    cases hf : specs.find? (fun s => s.short == some c) with
    | none => rfl
    | some s =>
      simp only []
      by_cases hx : s.extension = true ∧ ¬ mode.extensionOptions = true
      · rw [if_pos ((extGuard_iff mode s).mpr hx), if_pos hx]; rfl
      · rw [if_neg (mt (extGuard_iff mode s).mp hx), if_neg hx]
        cases ha : s.takesArg with
        | false =>
          simp only [Bool.not_false, if_true, Bool.false_eq_true, if_false]
          rw [viewS_consOcc, ih]
          exact (resolveP_cons s _ next).symm
        | true =>
          cases cs with
          | nil => cases next <;> simp [viewS, resolveP, Occurrence.view]
          | cons d ds =>
            cases hs : mode.optionArgumentsInSameField <;> simp [viewS, resolveP, Occurrence.view]

theorem notEq_eq : ((fun c => decide (c ≠ '=')) : Char → Bool) = notEq := by
  funext c; by_cases h : c = '=' <;> simp [notEq, h]

theorem contains_eq_dropWhile (body : Str) : body.contains '=' = !(body.dropWhile notEq).isEmpty := by
  induction body with
  | nil => rfl
  | cons c b ih =>
    by_cases hc : c = '='
    · subst hc; simp [notEq]
    · have h1 : notEq c = true := by simp [notEq, hc]
      have h2 : ('=' == c) = false := by simp; exact fun h => hc h.symm
      simp only [List.contains_cons, List.dropWhile_cons, h1, if_true, h2, Bool.false_or]; exact ih

theorem longOpt_parseLong (specs : List OptionSpec) (mode : Mode) (body : Str) (next : Option Str) :
    viewL (parseLong specs mode ('-' :: '-' :: body) next) = resolveP (Spec.longOpt specs mode body) next := by
  simp only [parseLong, Spec.longOpt, List.drop_succ_cons, List.drop_zero, notEq_eq]
  rw [longMatch_resolves, contains_eq_dropWhile]
  generalize Spec.candidates specs (List.takeWhile notEq body) = cands
  match cands with
  | [] => rfl
  | s1 :: s2 :: t => rfl
  | [s] =>
    simp only [Spec.longOne]
    by_cases hx : LongAllowed mode s
    · rw [if_neg (fun h => (longGuard_iff mode s).mp h hx), if_neg (fun h => (longOneGuard_iff mode s).mp h hx)]
      cases ha : s.takesArg <;> cases htl : List.dropWhile notEq body <;> cases next <;>
        simp [viewL, resolveP, Occurrence.view]
    · rw [if_pos ((longGuard_iff mode s).mpr hx), if_pos ((longOneGuard_iff mode s).mpr hx)]; rfl

/-- the Spec's continuation after a cluster / long option -/
def contV (specs : List OptionSpec) (mode : Mode)
    (R : Except ParseError (List Spec.Opt × Option OptionSpec)) (rest : List Str) : View :=
  match R with
  | .ok (os, p) => Spec.cons os (Spec.run specs mode p rest)
  | .error e => .error e

theorem run_nil (specs mode) : Spec.run specs mode none [] = .ok ([], []) := by simp [Spec.run]
theorem run_pending_nil (specs mode) (s : OptionSpec) :
    Spec.run specs mode (some s) [] = .error (.missingArgument s) := by simp [Spec.run]
theorem run_pending_cons (specs mode) (s : OptionSpec) (a : Str) (rest : List Str) :
    Spec.run specs mode (some s) (a :: rest) = Spec.cons [(s, some a)] (Spec.run specs mode none rest) := by
  simp [Spec.run]
/-- the forms an argument can have, each with its kind -/
inductive ArgForm : Str → ArgKind → Prop
  | empty : ArgForm [] .stop
  | lone : ArgForm ['-'] .stop
  | separator : ArgForm ['-', '-'] .stop
  | operand (c : Char) (t : Str) (h : c ≠ '-') : ArgForm (c :: t) .stop
  | long (c : Char) (b : Str) : ArgForm ('-' :: '-' :: c :: b) (.long (c :: b))
  | cluster (c : Char) (cs : Str) (h : c ≠ '-') : ArgForm ('-' :: c :: cs) (.cluster (c :: cs))

theorem argKind_cluster_cons {c : Char} (cs : Str) (h : c ≠ '-') : argKind ('-' :: c :: cs) = .cluster (c :: cs) := by
  simp [argKind, h]

theorem argKind_long_cons (c : Char) (b : Str) : argKind ('-' :: '-' :: c :: b) = .long (c :: b) := by
  simp [argKind]

theorem argForm : ∀ a : Str, ArgForm a (argKind a)
  | [] => .empty
  | c :: t => by
    by_cases h0 : c = '-'
    · subst h0
      match t with
      | [] => exact .lone
      | d :: cs =>
        by_cases hd : d = '-'
        · subst hd
          match cs with
          | [] => exact .separator
          | e :: b => exact .long e b
        · rw [argKind_cluster_cons cs hd]; exact .cluster d cs hd
    · have : argKind (c :: t) = .stop := by
        unfold argKind; split
        · rename_i h; cases h; exact absurd rfl h0
        · rfl
      rw [this]; exact .operand c t h0

theorem argKind_operand {x : Str} (hx : IsOperand x) : argKind x = .stop ∧ x ≠ ['-', '-'] := by
  have hf := argForm x
  generalize argKind x = k at hf
  cases hf with
  | empty => exact ⟨rfl, by simp⟩
  | lone => exact ⟨rfl, by simp⟩
  | operand c t h => exact ⟨rfl, fun e => h (by cases e; rfl)⟩
  | separator => rcases hx with hx | hx <;> simp at hx
  | long c b => rcases hx with hx | hx <;> simp at hx
  | cluster c cs h => rcases hx with hx | hx <;> simp at hx

/-- what the reference parser does with the first argument, by its kind -/
def runKind (specs : List OptionSpec) (mode : Mode) (a : Str) (rest : List Str) : ArgKind → View
  | .stop => if a = ['-', '-'] then .ok ([], rest) else .ok ([], a :: rest)
  | .long body => contV specs mode (Spec.longOpt specs mode body) rest
  | .cluster cs => contV specs mode (Spec.cluster specs mode cs) rest

/-- what the reference parser reads from one option argument alone -/
def argResult (specs : List OptionSpec) (mode : Mode) : ArgKind → Except ParseError (List Spec.Opt × Option OptionSpec)
  | .stop => .ok ([], none)
  | .long body => Spec.longOpt specs mode body
  | .cluster cs => Spec.cluster specs mode cs

theorem runKind_option (specs : List OptionSpec) (mode : Mode) (a : Str) (rest : List Str) {k : ArgKind}
    (hk : k ≠ .stop) : runKind specs mode a rest k = contV specs mode (argResult specs mode k) rest := by
  cases k with
  | stop => exact absurd rfl hk
  | long body => rfl
  | cluster cs => rfl

theorem run_kind (specs : List OptionSpec) (mode : Mode) (a : Str) (rest : List Str) :
    Spec.run specs mode none (a :: rest) = runKind specs mode a rest (argKind a) := by
  have hf := argForm a
  generalize argKind a = k at hf
  cases hf with
  | empty => simp [Spec.run, runKind]
  | lone => simp [Spec.run, runKind]
  | separator => simp [Spec.run, runKind]
  | operand c t h =>
    -- none of the four patterns that begin with `-` matches; the last arm is left
    have hd : ∀ {x y : Str}, c :: x = '-' :: y → False := fun e => h (List.cons.inj e).1
    unfold Spec.run
    split
    · next e => exact (hd e).elim
    · next e => exact (hd e).elim
    · next e => exact (hd e).elim
    · next e => exact (hd e).elim
    · exact (if_neg (fun e => hd e)).symm
  | long c b => simp only [Spec.run, runKind, contV]; cases Spec.longOpt specs mode (c :: b) <;> rfl
  | cluster c cs h =>
    -- `-c…` with `c ≠ '-'` matches the fourth pattern `'-' :: cs` and none before it
    have hd : ∀ {x y : Str}, c :: x = '-' :: y → False := fun e => h (List.cons.inj e).1
    unfold Spec.run
    split
    · next e => exact (hd (List.cons.inj e).2).elim
    · next e => exact (hd (List.cons.inj e).2).elim
    · next e => cases e
    · next e => cases e; simp only [runKind, contV]; cases Spec.cluster specs mode (c :: cs) <;> rfl
    · next hx => exact (hx (c :: cs) rfl).elim

theorem run_dashdash (specs mode) (rest : List Str) :
    Spec.run specs mode none (['-', '-'] :: rest) = .ok ([], rest) := by simp [Spec.run]
theorem run_long (specs mode) (c : Char) (body : Str) (rest : List Str) :
    Spec.run specs mode none (('-' :: '-' :: c :: body) :: rest) =
      contV specs mode (Spec.longOpt specs mode (c :: body)) rest := by
  rw [run_kind, argKind_long_cons]; rfl
theorem run_cluster (specs mode) (c : Char) (cs : Str) (rest : List Str) (hc : c ≠ '-') :
    Spec.run specs mode none (('-' :: c :: cs) :: rest) =
      contV specs mode (Spec.cluster specs mode (c :: cs)) rest := by
  rw [run_kind, argKind_cluster_cons cs hc]; rfl

theorem step_by_kind (specs mode) (a : Str) (next : Option Str) :
    step specs mode a next =
      match argKind a with
      | .stop => .stop
      | .long _ => Step.ofLong (parseLong specs mode a next)
      | .cluster cs => Step.ofShort (shortLoop specs mode next 1 cs) := by
  have hf := argForm a
  generalize argKind a = k at hf
  cases hf with
  | empty => rfl
  | lone => rfl
  | separator => rfl
  | operand c t h =>
    have h1 : startsWithSingleHyphen (c :: t) = false := by unfold startsWithSingleHyphen; split <;> simp_all
    have h2 : startsWithDoubleHyphen (c :: t) = false := by unfold startsWithDoubleHyphen; split <;> simp_all
    simp [step, h1, h2]
  | long c b => simp [step, startsWithSingleHyphen, startsWithDoubleHyphen]
  | cluster c cs h => simp [step, startsWithSingleHyphen, h]


theorem optLoop_view_kind (specs mode) (a : Str) (rest : List Str) :
    (optLoop specs mode (a :: rest)).view =
      match argKind a with
      | .stop => .ok ([], a :: rest)
      | .long _ => bindV specs mode (viewL (parseLong specs mode a rest.head?)) rest
      | .cluster cs => bindV specs mode (viewS (shortLoop specs mode rest.head? 1 cs)) rest := by
  rw [optLoop_cons, step_by_kind]
  cases argKind a with
  | stop => rfl
  | long b =>
    simp only []
    cases parseLong specs mode a rest.head? with
    | error e => rfl
    | ok p => cases p; simp [viewL, bindV, Step.ofLong]
  | cluster cs =>
    simp only []
    cases shortLoop specs mode rest.head? 1 cs with
    | error e => rfl
    | ok p => cases p; simp [viewS, bindV, Step.ofShort]

theorem refine_cont (specs : List OptionSpec) (mode : Mode)
    (R : Except ParseError (List Spec.Opt × Option OptionSpec)) (rest : List Str)
    (ih : finishV (optLoop specs mode rest).view = Spec.run specs mode none rest)
    (ih' : finishV (optLoop specs mode rest.tail).view = Spec.run specs mode none rest.tail) :
    finishV (bindV specs mode (resolveP R rest.head?) rest) = contV specs mode R rest := by
  cases R with
  | error e => rfl
  | ok q =>
    obtain ⟨os, p⟩ := q
    cases p with
    | none =>
      simp only [resolveP, bindV, contV, Bool.false_eq_true, if_false, finishV_cons,
        ih]
    | some s =>
      cases rest with
      | nil => simp [resolveP, bindV, contV, run_pending_nil, Spec.cons, finishV]
      | cons x rest' =>
        simp only [resolveP, List.head?_cons, bindV, if_true, List.tail_cons, contV, finishV_cons,
          run_pending_cons, cons_cons] at ih' ⊢
        rw [ih']

theorem optLoop_refines_run (specs : List OptionSpec) (mode : Mode) : ∀ args : List Str,
    finishV (optLoop specs mode args).view = Spec.run specs mode none args
  | [] => by simp [optLoop, Parsed.view, finishV, skipSeparator, run_nil]
  | a :: rest => by
    have ih' : finishV (optLoop specs mode rest.tail).view = Spec.run specs mode none rest.tail := by
      cases rest with
      | nil => exact optLoop_refines_run specs mode []
      | cons x rest' => exact optLoop_refines_run specs mode rest'
    rw [run_kind, optLoop_view_kind]
    have hf := argForm a
    generalize argKind a = k at hf
    cases hf with
    | empty => simp [runKind, finishV, skipSeparator, dashdash]
    | lone => simp [runKind, finishV, skipSeparator, dashdash]
    | separator => simp [runKind, finishV, skipSeparator, dashdash]
    | operand c t h => simp [runKind, finishV, skipSeparator, dashdash, h]
    | long c b =>
      simp only [runKind]
      rw [longOpt_parseLong]
      exact refine_cont specs mode _ rest (optLoop_refines_run specs mode rest) ih'
    | cluster c cs h =>
      simp only [runKind]
      rw [cluster_shortLoop]
      exact refine_cont specs mode _ rest (optLoop_refines_run specs mode rest) ih'

theorem spec_dashdash_ends (specs : List OptionSpec) (mode : Mode) (pre : List Str) (vs : List VOpt)
    (xs : List Str) (h : SpecOptionsOnly specs mode pre vs) :
    Spec.parse specs mode (pre ++ dashdash :: xs) = .ok (vs, xs) := by
  unfold Spec.parse
  rw [h, dashdash, run_dashdash]
  simp [Spec.cons]

def consC (s : OptionSpec) :
    Except ParseError (List Spec.Opt × Option OptionSpec) → Except ParseError (List Spec.Opt × Option OptionSpec)
  | .ok (os, p) => .ok ((s, none) :: os, p)
  | .error e => .error e

theorem cluster_cons (specs : List OptionSpec) (mode : Mode) (c : Char) (cs : Str) :
    Spec.cluster specs mode (c :: cs) =
      match specs.find? (fun s => s.short == some c) with
      | none => .error (.unknownShort c)
      | some s =>
        if s.extension = true ∧ ¬ mode.extensionOptions = true then .error (.nonPortableShort c s)
        else if s.takesArg = true then
          (if cs = [] then .ok ([], some s)
           else if mode.optionArgumentsInSameField = true then .ok ([(s, some cs)], none)
           else .error (.unseparatedArgument s))
        else consC s (Spec.cluster specs mode cs) := by
  rw [Spec.cluster]
  cases specs.find? (fun s => s.short == some c) <;> rfl

theorem cluster_cons_allowed (specs : List OptionSpec) (mode : Mode) {c : Char} (cs : Str) {s : OptionSpec}
    (hf : findShort specs c = some s) (he : s.extension = true → mode.extensionOptions = true) :
    Spec.cluster specs mode (c :: cs) =
      if s.takesArg = true then
        (if cs = [] then .ok ([], some s)
         else if mode.optionArgumentsInSameField = true then .ok ([(s, some cs)], none)
         else .error (.unseparatedArgument s))
      else consC s (Spec.cluster specs mode cs) := by
  rw [cluster_cons, show specs.find? (fun s => s.short == some c) = some s from hf]
  exact if_neg fun hx => hx.2 (he hx.1)

theorem longOne_blocked {mode : Mode} {s : OptionSpec} (h : ¬ LongAllowed mode s) (hasEq : Bool) (arg : Str) :
    Spec.longOne mode s hasEq arg = .error (.nonPortableLong s) := by
  unfold Spec.longOne; exact if_pos ((longOneGuard_iff mode s).mpr h)

theorem longOne_allowed {mode : Mode} {s : OptionSpec} (h : LongAllowed mode s) (hasEq : Bool) (arg : Str) :
    Spec.longOne mode s hasEq arg =
      match s.takesArg, hasEq with
      | false, false => .ok ([(s, none)], none)
      | false, true => .error (.unexpectedArgument s)
      | true, false => .ok ([], some s)
      | true, true => .ok ([(s, some arg)], none) := by
  unfold Spec.longOne; exact if_neg fun hx => (longOneGuard_iff mode s).mp hx h

theorem contV_consC (specs : List OptionSpec) (mode : Mode) (s : OptionSpec) (R) (tail : List Str) :
    contV specs mode (consC s R) tail = Spec.cons [(s, none)] (contV specs mode R tail) := by
  cases R with
  | error e => rfl
  | ok q => obtain ⟨os, p⟩ := q; simp [consC, contV]

/-- letters that take no argument in front change nothing about how two cluster tails compare -/
theorem contV_cluster_congr (specs : List OptionSpec) (mode : Mode) {cs cs' : Str} {r r' : List Str}
    (h : contV specs mode (Spec.cluster specs mode cs) r = contV specs mode (Spec.cluster specs mode cs') r') :
    ∀ pre : Str, (∀ c ∈ pre, NoArg specs c) →
      contV specs mode (Spec.cluster specs mode (pre ++ cs)) r = contV specs mode (Spec.cluster specs mode (pre ++ cs')) r'
  | [], _ => h
  | c :: pre, hpre => by
    have ih := contV_cluster_congr specs mode h pre (fun d hd => hpre d (by simp [hd]))
    rw [List.cons_append, List.cons_append, cluster_cons, cluster_cons]
    cases hf : specs.find? (fun s => s.short == some c) with
    | none => rfl
    | some s =>
      have ha : s.takesArg = false := hpre c (by simp) s hf
      simp only [ha, Bool.false_eq_true, if_false]
      by_cases hx : s.extension = true ∧ ¬ mode.extensionOptions = true
      · rw [if_pos hx, if_pos hx]; rfl
      · rw [if_neg hx, if_neg hx, contV_consC, contV_consC, ih]

theorem noArg_singleton {specs : List OptionSpec} {a : Char} {s : OptionSpec} (hf : findShort specs a = some s)
    (ha : s.takesArg = false) : ∀ c ∈ [a], NoArg specs c := by
  intro c hc s' hs'
  rw [List.mem_singleton.mp hc, hf] at hs'
  cases hs'; exact ha

theorem contV_cluster_split (specs : List OptionSpec) (mode : Mode) (cs : Str) (r : List Str)
    (hc : ∃ c0 cs', cs = c0 :: cs' ∧ c0 ≠ '-') (pre : Str) (hpre : ∀ c ∈ pre, NoArg specs c) :
    contV specs mode (Spec.cluster specs mode (pre ++ cs)) r =
      contV specs mode (Spec.cluster specs mode pre) (('-' :: cs) :: r) := by
  obtain ⟨c0, cs', rfl, hc0⟩ := hc
  have := contV_cluster_congr specs mode (cs := c0 :: cs') (cs' := []) (r := r) (r' := ('-' :: c0 :: cs') :: r)
    (by simp [Spec.cluster, contV, run_cluster _ _ _ _ _ hc0]) pre hpre
  rwa [List.append_nil] at this

theorem spec_group_eq_separate_general (specs : List OptionSpec) (mode : Mode) (pre cs : Str) (r : List Str)
    (hpre : ∀ c ∈ pre, NoArg specs c) (hp : ∃ p0 pre', pre = p0 :: pre' ∧ p0 ≠ '-')
    (hc : ∃ c0 cs', cs = c0 :: cs' ∧ c0 ≠ '-') :
    Spec.parse specs mode (('-' :: (pre ++ cs)) :: r) = Spec.parse specs mode (('-' :: pre) :: ('-' :: cs) :: r) := by
  obtain ⟨p0, pre', rfl, hp0⟩ := hp
  unfold Spec.parse
  rw [List.cons_append, run_cluster _ _ _ _ _ hp0, run_cluster _ _ _ _ _ hp0, ← List.cons_append]
  exact contV_cluster_split specs mode cs r hc (p0 :: pre') hpre

theorem contV_cluster_attached (specs : List OptionSpec) (mode : Mode) (o : Char) (s : OptionSpec) (x : Str) (r : List Str)
    (hf : findShort specs o = some s) (ha : s.takesArg = true) (hx : x ≠ []) (hm : mode.optionArgumentsInSameField = true)
    (pre : Str) (hpre : ∀ c ∈ pre, NoArg specs c) :
    contV specs mode (Spec.cluster specs mode (pre ++ o :: x)) r =
      contV specs mode (Spec.cluster specs mode (pre ++ [o])) (x :: r) := by
  refine contV_cluster_congr specs mode ?_ pre hpre
  have hf' : specs.find? (fun s => s.short == some o) = some s := hf
  rw [cluster_cons, cluster_cons, hf']
  simp only [ha, if_true]
  by_cases hb : s.extension = true ∧ ¬ mode.extensionOptions = true
  · rw [if_pos hb, if_pos hb]; rfl
  · rw [if_neg hb, if_neg hb, if_neg hx]
    simp [hm, contV, run_pending_cons]

theorem spec_attached_eq_next_general (specs : List OptionSpec) (mode : Mode) (pre x : Str) (o : Char)
    (s : OptionSpec) (r : List Str)
    (hpre : ∀ c ∈ pre, NoArg specs c) (hf : findShort specs o = some s) (ha : s.takesArg = true)
    (hx : x ≠ []) (hm : mode.optionArgumentsInSameField = true)
    (hh : ∃ c0 cs', pre ++ [o] = c0 :: cs' ∧ c0 ≠ '-') :
    Spec.parse specs mode (('-' :: (pre ++ o :: x)) :: r) = Spec.parse specs mode (('-' :: (pre ++ [o])) :: x :: r) := by
  obtain ⟨c0, cs', hcs, hc0⟩ := hh
  have key := contV_cluster_attached specs mode o s x r hf ha hx hm pre hpre
  have e1 : pre ++ o :: x = c0 :: (cs' ++ x) := by
    rw [show pre ++ o :: x = (pre ++ [o]) ++ x by simp, hcs]; rfl
  unfold Spec.parse
  rw [e1, hcs] at key ⊢
  rw [run_cluster _ _ _ _ _ hc0, run_cluster _ _ _ _ _ hc0]
  exact key

def longSpecResult (mode : Mode) (cands : List OptionSpec) (t : Str) :
    Except ParseError (List Spec.Opt × Option OptionSpec) :=
  match cands with
  | [] => .error .unknownLong
  | [s] => Spec.longOne mode s (!t.isEmpty) (t.drop 1)
  | ss => .error (.ambiguousLong ss)

theorem longOpt_split (specs : List OptionSpec) (mode : Mode) (n t : Str) (hn : '=' ∉ n)
    (ht : t = [] ∨ t.head? = some '=') :
    Spec.longOpt specs mode (n ++ t) = longSpecResult mode (Spec.candidates specs n) t := by
  obtain ⟨h1, h2⟩ := takeWhile_notEq_append n t hn ht
  simp only [Spec.longOpt, notEq_eq, h1, h2, contains_eq_dropWhile, longSpecResult]
  rfl

/-- `=arg` and the next argument, for one resolved option that takes an argument (switched off by the mode or not) -/
theorem contV_longOne_arg (specs : List OptionSpec) (mode : Mode) (s : OptionSpec) (ha : s.takesArg = true)
    (x a' : Str) (r : List Str) :
    contV specs mode (Spec.longOne mode s true x) r = contV specs mode (Spec.longOne mode s false a') (x :: r) := by
  unfold Spec.longOne
  split
  · rfl
  · simp [ha, contV, run_pending_cons]

theorem spec_long_eq_arg (specs : List OptionSpec) (mode : Mode) (l x : Str) (r : List Str)
    (hl : l ≠ []) (heq : '=' ∉ l) (ha : ∀ s, Spec.candidates specs l = [s] → s.takesArg = true) :
    Spec.parse specs mode (('-' :: '-' :: (l ++ '=' :: x)) :: r) =
      Spec.parse specs mode (('-' :: '-' :: l) :: x :: r) := by
  match l, hl with
  | c :: l', _ =>
    unfold Spec.parse
    have e1 : c :: l' ++ '=' :: x = c :: (l' ++ '=' :: x) := rfl
    rw [e1, run_long, run_long, ← e1, longOpt_split specs mode (c :: l') ('=' :: x) heq (Or.inr rfl)]
    have e2 : c :: l' = (c :: l') ++ [] := by simp
    rw [e2, longOpt_split specs mode (c :: l') [] heq (Or.inl rfl), ← e2]
    match hc : Spec.candidates specs (c :: l') with
    | [] => rfl
    | _ :: _ :: _ => rfl
    | [s] =>
      simp only [longSpecResult, List.isEmpty_cons, List.isEmpty_nil, Bool.not_false, Bool.not_true, List.drop_succ_cons,
        List.drop_zero, List.drop_nil]
      exact contV_longOne_arg specs mode s (ha s hc) x [] r

theorem spec_first_operand_ends (specs : List OptionSpec) (mode : Mode) (pre : List Str) (vs : List VOpt)
    (x : Str) (xs : List Str) (h : SpecOptionsOnly specs mode pre vs) (hx : IsOperand x) :
    Spec.parse specs mode (pre ++ x :: xs) = .ok (vs, x :: xs) := by
  unfold Spec.parse
  rw [h, run_kind, (argKind_operand hx).1]
  simp [runKind, (argKind_operand hx).2, Spec.cons]

end YashModel.Args
