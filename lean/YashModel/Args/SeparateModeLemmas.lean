/-
  C20 — the loops of `set` and of the shell's command line do not tell a vector from its mode-following separated spelling
  (`separateM`, `separateMsh`: SeparateModeSpec.lean): `setLoop_separateM`, `shLoop_separateM`, for any table and any `portable`
  state; `set`'s three print forms are kept and nothing else is written as one, so its `parse` does not either
  (`setParse_separateM`).  While `portable` is off and never named the two spellings are `separateSO` (`separateM_noPortable`,
  `separateMsh_noPortable`).
-/
import YashModel.Args.SetLemmas
import YashModel.Args.SeparateModeSpec
namespace YashModel.Args.Bespoke

theorem splitClusterM_cons (full : Bool) (sign c : Char) (rest : Str) :
    splitClusterM full sign (c :: rest) =
      if c = 'o' then
        (if rest.isEmpty then ([[sign, 'o']], true)
         else if full then ([[sign, 'o'], rest], false) else ([sign :: 'o' :: rest], false))
      else ([sign, c] :: (splitClusterM full sign rest).1, (splitClusterM full sign rest).2) := by
  rw [splitClusterM]

theorem splitClusterM_pending (full : Bool) (sign : Char) (cs : Str) :
    (splitClusterM full sign cs).2 = (splitCluster sign cs).2 := by
  induction cs with
  | nil => rfl
  | cons c rest ih =>
    rw [splitClusterM_cons, splitCluster_pending_cons]
    split
    · cases rest with
      | nil => rfl
      | cons r rs => cases full <;> rfl
    · exact ih

theorem splitClusterM_full (sign : Char) (cs : Str) : splitClusterM true sign cs = splitCluster sign cs := by
  induction cs with
  | nil => rfl
  | cons c rest ih => rw [splitClusterM_cons, splitCluster_cons, ih]; rfl

/-- what `separateM` / `separateMsh` write for the cluster `a` read in state `p` -/
def clusterM (p neg : Bool) (a : Str) : List Str :=
  if (a.drop 1).contains (signChar neg) then [a] else (splitClusterM (!p) (signChar neg) (a.drop 1)).1

theorem clusterM_off (neg : Bool) (a : Str) : clusterM false neg a = clusterSO neg a := by
  simp only [clusterM, clusterSO, Bool.not_false, splitClusterM_full]

theorem separateM_short (nm : Names) (p : Bool) (a : Str) (rest : List Str) (neg : Bool)
    (hs : shortSign a = some neg) :
    separateM nm p (a :: rest) =
      clusterM p neg a ++
        (if (splitCluster (signChar neg) (a.drop 1)).2 then
          (match rest with
           | [] => []
           | x :: rest' => x :: separateM nm (stateAfterShort nm neg rest.head? p (a.drop 1)) rest')
         else separateM nm (stateAfterShort nm neg rest.head? p (a.drop 1)) rest) := by
  rw [separateM]
  simp only [hs, clusterM, ← splitClusterM_pending (!p)]
  exact sepBody_eq _ a _ rest _ _

theorem setLoop_partsM (nm : Names) (neg : Bool) (p : Bool) : ∀ (cs : Str) (tail : List Str), signChar neg ∉ cs →
    setLoop nm p ((splitClusterM (!p) (signChar neg) cs).1 ++ tail) =
      contS nm (setShortLoop nm neg tail.head? p cs) tail := by
  intro cs
  induction cs with
  | nil => intro tail _; simp [splitClusterM, setShortLoop, contS]
  | cons c rest ih =>
    intro tail hd
    have hc : c ≠ signChar neg := fun h => hd (by simp [h])
    have hrest : signChar neg ∉ rest := fun h => hd (by simp [h])
    rw [splitClusterM_cons]
    by_cases ho : c = 'o'
    · subst ho
      simp only [if_true]
      cases rest with
      | nil =>
        simp only [List.isEmpty_nil, if_true, List.singleton_append]
        rw [setLoop_short nm p _ tail neg (shortSign_single neg 'o' [] hc)]
        rfl
      | cons r0 rest' =>
        cases p with
        | false =>
          simp only [List.isEmpty_cons, Bool.false_eq_true, if_false, Bool.not_false, if_true, List.cons_append, List.nil_append]
          rw [setLoop_short nm false _ _ neg (shortSign_single neg 'o' [] hc)]
          simp only [List.drop_succ_cons, List.drop_zero, List.head?_cons]
          rw [setShortLoop_cons, setShortLoop_cons]
          simp only [if_true]
          rcases oArm_attached_eq_next nm neg SetErr.missingArgument .unknownLong .ambiguousLong .unmodifiableLong
            .nonPortableLong .unseparated true (r0 :: rest') tail.head? (by simp) with ⟨e, h1, h2⟩ | ⟨os, p', h1, h2⟩ <;>
            rw [h1, h2] <;> rfl
        | true =>
          simp only [List.isEmpty_cons, Bool.false_eq_true, if_false, Bool.not_true, List.singleton_append]
          rw [setLoop_short nm true _ tail neg (shortSign_single neg 'o' (r0 :: rest') hc)]
          rfl
    · simp only [ho, if_false, List.cons_append]
      rw [setLoop_short nm p _ _ neg (shortSign_single neg c [] hc)]
      simp only [List.drop_succ_cons, List.drop_zero]
      rw [setShortLoop_cons, setShortLoop_cons]
      simp only [ho, if_false]
      rw [contS_thenCons, contS_thenCons]
      cases setLetter nm neg p c with
      | error e => rfl
      | ok o =>
        simp only [setShortLoop, contS, Bool.false_eq_true, if_false, prependO_nil]
        rw [ih tail hrest]
        rfl

theorem setLoop_clusterM (nm : Names) (p : Bool) (a : Str) (neg : Bool) (hs : shortSign a = some neg)
    (tail : List Str) :
    setLoop nm p (clusterM p neg a ++ tail) = contS nm (setShortLoop nm neg tail.head? p (a.drop 1)) tail := by
  unfold clusterM
  split
  · exact setLoop_short nm p a tail neg hs
  · rename_i hk
    exact setLoop_partsM nm neg p _ tail (by simpa using hk)

theorem judgeLongForm_state {nm : Names} {neg : Bool} {name : Str} {o : Str × Bool} {p' : Bool}
    (h : judgeLongForm nm false neg name = .ok (o, p')) : p' = stateAfterName nm neg name := by
  unfold judgeLongForm at h
  unfold stateAfterName
  cases hp : nm.parseLong name with
  | noSuch => rw [hp] at h; cases h
  | ambiguous => rw [hp] at h; cases h
  | ok opt st =>
    rw [hp] at h
    simp only [Bool.false_eq_true, if_false] at h ⊢
    split at h
    · cases h
    · cases h; rfl

theorem setLoop_o_eq_long (nm : Names) (neg : Bool) (name : Str) (tl tl' : List Str) (hn : neg = false → name ≠ [])
    (h : setLoop nm (stateAfterName nm neg name) tl = setLoop nm (stateAfterName nm neg name) tl') :
    setLoop nm false ([signChar neg, 'o'] :: name :: tl) =
      setLoop nm false ((signChar neg :: signChar neg :: name) :: tl') := by
  have hs : shortSign (signChar neg :: signChar neg :: name) = none := by cases neg <;> simp [signChar, shortSign]
  -- left: the `-o` arm with the next argument as its name (`oArm_some`); right: the long form (`setLong_long`);
  -- while `portable` is off both judge the name alike (`judgeName_off`)
  rw [setLoop_short nm false _ _ neg (shortSign_single neg 'o' [] (signChar_ne_o neg)), setLoop_cons]
  simp only [List.drop_succ_cons, List.drop_zero, List.head?_cons, setStep, hs]
  rw [setShortLoop_cons, if_pos rfl, oArm_some nm neg false [] (some name) name rfl, judgeName_off,
    setLong_long nm false neg name hn]
  cases hj : judgeLongForm nm false neg name with
  | error e => rfl
  | ok q =>
    obtain ⟨o, p'⟩ := q
    cases judgeLongForm_state hj
    simp [contS, h]

theorem setLoop_separateM (nm : Names) : ∀ (args : List Str) (p : Bool),
    setLoop nm p (separateM nm p args) = setLoop nm p args
  | [], _ => rfl
  | a :: rest, p => by
    cases hs : shortSign a with
    | some neg =>
      rw [separateM_short nm p a rest neg hs, setLoop_clusterM nm p a neg hs, setLoop_short nm p a rest neg hs]
      cases hp : (splitCluster (signChar neg) (a.drop 1)).2 with
      | true =>
        cases rest with
        | nil => rfl
        | cons x rest' =>
          simp only [if_true, List.head?_cons, stateAfterShort]
          cases hx : setShortLoop nm neg (some x) p (a.drop 1) with
          | error e => rfl
          | ok q =>
            obtain ⟨os, took, p'⟩ := q
            obtain rfl : took = true := (setShortLoop_ok nm neg _ p (signChar neg) _ hx).1.trans hp
            simp only [contS, if_true, List.tail_cons]
            rw [setLoop_separateM nm rest' p']
      | false =>
        simp only [Bool.false_eq_true, if_false]
        rw [setShort_next nm neg _ rest.head? p (signChar neg) _ hp]
        simp only [stateAfterShort]
        cases hx : setShortLoop nm neg rest.head? p (a.drop 1) with
        | error e => rfl
        | ok q =>
          obtain ⟨os, took, p'⟩ := q
          obtain rfl : took = false := (setShortLoop_ok nm neg _ p (signChar neg) _ hx).1.trans hp
          simp only [contS, Bool.false_eq_true, if_false]
          rw [setLoop_separateM nm rest p']
    | none =>
      rw [separateM]
      simp only [hs]
      cases p with
      | true => rfl
      | false =>
        simp only [Bool.false_eq_true, if_false]
        cases hlf : longForm a with
        | none => rfl
        | some q =>
          obtain ⟨neg, name⟩ := q
          obtain ⟨rfl, hne⟩ := longForm_some a neg name hlf
          exact setLoop_o_eq_long nm neg name _ rest hne (setLoop_separateM nm rest _)

theorem separateM_printForm (nm : Names) (p : Bool) {args : List Str} (h : printForm args) :
    separateM nm p args = args := by
  rcases h with rfl | rfl | rfl <;> rfl

/-- a vector that begins with what `clusterM` writes for a cluster is a print form only if the cluster is `o` alone and nothing
    follows -/
theorem clusterM_printForm {p neg : Bool} {c : Char} {cs : Str} {tail : List Str}
    (h : printForm (clusterM p neg (signChar neg :: c :: cs) ++ tail)) : c = 'o' ∧ cs = [] ∧ tail = [] := by
  unfold clusterM at h
  rw [List.drop_succ_cons, List.drop_zero, splitClusterM_cons] at h
  split at h
  · -- a cluster with its own sign among the letters is kept whole
    obtain ⟨⟨s, hx⟩, ht⟩ := printForm_cons h
    cases hx; exact ⟨rfl, rfl, ht⟩
  · by_cases ho : c = 'o'
    · subst ho
      rw [if_pos rfl] at h
      cases cs with
      | nil => exact ⟨rfl, rfl, (printForm_cons h).2⟩
      | cons d ds =>
        -- `-oNAME` is written as two arguments while `portable` is off, and kept while it is on
        cases p with
        | false => cases (printForm_cons h).2
        | true => obtain ⟨⟨s, hx⟩, _⟩ := printForm_cons h; cases hx
    · rw [if_neg ho] at h
      obtain ⟨⟨s, hx⟩, _⟩ := printForm_cons h
      cases hx; exact absurd rfl ho

theorem printForm_of_separateM (nm : Names) (p : Bool) (args : List Str)
    (h : printForm (separateM nm p args)) : printForm args := by
  cases args with
  | nil => exact .inl rfl
  | cons a rest =>
    cases hs : shortSign a with
    | some neg =>
      obtain ⟨c, cs, rfl, _⟩ := shortSign_cases a neg hs
      rw [separateM_short nm p _ rest neg hs] at h
      obtain ⟨rfl, rfl, hT⟩ := clusterM_printForm h
      -- `-o` / `+o` waits for its name: nothing follows only if nothing followed
      cases rest with
      | nil => cases neg <;> simp [printForm, signChar]
      | cons y rest' => simp [splitCluster] at hT
    | none =>
      rw [separateM] at h
      simp only [hs] at h
      cases p with
      | true => exact h
      | false =>
        cases hl : longForm a with
        | none => simpa [hl] using h
        | some q => rw [hl] at h; simp [printForm] at h

/-- `separateM` keeps the three print forms and writes nothing else as one, so `parse` gives the same command or error for the
    separated spelling, whatever the `portable` state and the table -/
theorem setParse_separateM (nm : Names) (p : Bool) (args : List Str) :
    setParse nm p (separateM nm p args) = setParse nm p args := by
  by_cases hp : printForm args
  · rw [separateM_printForm nm p hp]
  · rw [setParse_loop nm p _ (fun h => hp (printForm_of_separateM nm p args h)), setParse_loop nm p _ hp, setLoop_separateM]

theorem stateAfterName_noPortable (nm : Names) (h : NoPortable nm) (neg : Bool) (name : Str) :
    stateAfterName nm neg name = false := by
  unfold stateAfterName
  split
  · rename_i opt st hl
    exact if_neg fun (he : opt = portableOpt) => h name st (he ▸ hl)
  · rfl

theorem stateAfterShort_noPortable (nm : Names) (h : NoPortable nm) (neg : Bool) (next : Option Str) (cs : Str) :
    stateAfterShort nm neg next false cs = false := by
  unfold stateAfterShort
  split
  · exact (setShortLoop_ok nm neg next false '-' cs ‹_›).2 h
  · rfl

theorem separateM_noPortable (nm : Names) (h : NoPortable nm) : ∀ args : List Str,
    separateM nm false args = separateSO true args
  | [] => rfl
  | a :: rest => by
    cases hs : shortSign a with
    | some neg =>
      rw [separateM_short nm false a rest neg hs, separateSO_short true a rest neg hs, clusterM_off,
        stateAfterShort_noPortable nm h]
      cases rest with
      | nil => rfl
      | cons x rest' => simp only [separateM_noPortable nm h rest', separateM_noPortable nm h (x :: rest')]
    | none =>
      rw [separateM, separateSO]
      simp only [hs, Bool.false_eq_true, if_false, if_true]
      cases longForm a with
      | none => rfl
      | some q => simp only [stateAfterName_noPortable nm h, separateM_noPortable nm h rest]

theorem separateMsh_short (nm : Names) (p : Bool) (a : Str) (rest : List Str) (neg : Bool)
    (hs : shortSign a = some neg) :
    separateMsh nm p (a :: rest) =
      clusterM p neg a ++
        (if (splitCluster (signChar neg) (a.drop 1)).2 then
          (match rest with
           | [] => []
           | x :: rest' => x :: separateMsh nm (stateAfterShortSh nm neg rest.head? p (a.drop 1)) rest')
         else separateMsh nm (stateAfterShortSh nm neg rest.head? p (a.drop 1)) rest) := by
  rw [separateMsh]
  simp only [hs, clusterM, ← splitClusterM_pending (!p)]
  exact sepBody_eq _ a _ rest _ _

theorem shLoop_partsM (nm : Names) (neg : Bool) (p : Bool) : ∀ (cs : Str) (r : Run) (tail : List Str), signChar neg ∉ cs →
    shLoop nm p r ((splitClusterM (!p) (signChar neg) cs).1 ++ tail) =
      contH nm (shShortLoop nm neg tail.head? p cs) r tail := by
  intro cs
  induction cs with
  | nil => intro r tail _; simp [splitClusterM, shShortLoop, contH, pushOptions_nil]
  | cons c rest ih =>
    intro r tail hd
    have hc : c ≠ signChar neg := fun h => hd (by simp [h])
    have hrest : signChar neg ∉ rest := fun h => hd (by simp [h])
    rw [splitClusterM_cons]
    by_cases ho : c = 'o'
    · subst ho
      simp only [if_true]
      cases rest with
      | nil =>
        simp only [List.isEmpty_nil, if_true, List.singleton_append]
        rw [shLoop_short nm p r _ tail neg (shortSign_single neg 'o' [] hc)]
        rfl
      | cons r0 rest' =>
        cases p with
        | false =>
          simp only [List.isEmpty_cons, Bool.false_eq_true, if_false, Bool.not_false, if_true, List.cons_append, List.nil_append]
          rw [shLoop_short nm false r _ _ neg (shortSign_single neg 'o' [] hc)]
          simp only [List.drop_succ_cons, List.drop_zero, List.head?_cons]
          rw [shShortLoop_cons, shShortLoop_cons]
          have hv : ('o' : Char) ≠ 'V' := by decide
          simp only [hv, if_false, if_true]
          rcases oArm_attached_eq_next nm neg ShErr.missingArgument .unknownLong .ambiguousLong .unknownLong
            .nonPortableLong .unseparated false (r0 :: rest') tail.head? (by simp) with ⟨e, h1, h2⟩ | ⟨os, p', h1, h2⟩ <;>
            rw [h1, h2] <;> rfl
        | true =>
          simp only [List.isEmpty_cons, Bool.false_eq_true, if_false, Bool.not_true, List.singleton_append]
          rw [shLoop_short nm true r _ tail neg (shortSign_single neg 'o' (r0 :: rest') hc)]
          rfl
    · simp only [ho, if_false, List.cons_append]
      rw [shLoop_short nm p r _ _ neg (shortSign_single neg c [] hc)]
      simp only [List.drop_succ_cons, List.drop_zero]
      rw [shShortLoop_cons, shShortLoop_cons]
      by_cases hv : c = 'V'
      · subst hv
        simp only [if_true]
        cases neg <;> cases p <;> simp [contH]
      · simp only [hv, ho, if_false]
        rw [contH_thenConsV, contH_thenConsV]
        cases shLetter nm neg p c with
        | error e => rfl
        | ok o =>
          simp only [shShortLoop, contH, Bool.false_eq_true, if_false, pushOptions_nil]
          rw [ih (pushOptions [o] r) tail hrest]
          rfl

theorem shLoop_clusterM (nm : Names) (p : Bool) (r : Run) (a : Str) (neg : Bool) (hs : shortSign a = some neg)
    (tail : List Str) :
    shLoop nm p r (clusterM p neg a ++ tail) = contH nm (shShortLoop nm neg tail.head? p (a.drop 1)) r tail := by
  unfold clusterM
  split
  · exact shLoop_short nm p r a tail neg hs
  · rename_i hk
    exact shLoop_partsM nm neg p _ r tail (by simpa using hk)

theorem shLoop_separateM (nm : Names) : ∀ (args : List Str) (p : Bool) (r : Run),
    shLoop nm p r (separateMsh nm p args) = shLoop nm p r args
  | [], _, _ => rfl
  | a :: rest, p, r => by
    cases hs : shortSign a with
    | none => rw [separateMsh]; simp only [hs]
    | some neg =>
      rw [separateMsh_short nm p a rest neg hs, shLoop_clusterM nm p r a neg hs, shLoop_short nm p r a rest neg hs]
      cases hp : (splitCluster (signChar neg) (a.drop 1)).2 with
      | true =>
        cases rest with
        | nil => rfl
        | cons x rest' =>
          simp only [if_true, List.head?_cons, stateAfterShortSh]
          cases hx : shShortLoop nm neg (some x) p (a.drop 1) with
          | error e => rfl
          | ok q =>
            obtain ⟨⟨os, took, p'⟩, v⟩ := q
            rcases (shShortLoop_ok nm neg _ p (signChar neg) _ hx).1 with rfl | ht
            · rfl
            · obtain rfl : took = true := ht.trans hp
              simp only [contH, if_true, List.tail_cons, shLoop_separateM nm rest' p']
      | false =>
        simp only [Bool.false_eq_true, if_false]
        rw [shShort_next nm neg _ rest.head? p (signChar neg) _ hp]
        simp only [stateAfterShortSh]
        cases hx : shShortLoop nm neg rest.head? p (a.drop 1) with
        | error e => rfl
        | ok q =>
          obtain ⟨⟨os, took, p'⟩, v⟩ := q
          rcases (shShortLoop_ok nm neg _ p (signChar neg) _ hx).1 with rfl | ht
          · rfl
          · obtain rfl : took = false := ht.trans hp
            simp only [contH, Bool.false_eq_true, if_false, shLoop_separateM nm rest p']

theorem stateAfterShortSh_noPortable (nm : Names) (h : NoPortable nm) (neg : Bool) (next : Option Str) (cs : Str) :
    stateAfterShortSh nm neg next false cs = false := by
  unfold stateAfterShortSh
  split
  · exact (shShortLoop_ok nm neg next false '-' cs ‹_›).2 h
  · rfl

theorem separateMsh_noPortable (nm : Names) (h : NoPortable nm) : ∀ args : List Str,
    separateMsh nm false args = separateSO false args
  | [] => rfl
  | a :: rest => by
    cases hs : shortSign a with
    | some neg =>
      rw [separateMsh_short nm false a rest neg hs, separateSO_short false a rest neg hs, clusterM_off,
        stateAfterShortSh_noPortable nm h]
      cases rest with
      | nil => rfl
      | cons x rest' => simp only [separateMsh_noPortable nm h rest', separateMsh_noPortable nm h (x :: rest')]
    | none => rw [separateMsh, separateSO]; simp only [hs, Bool.false_eq_true, if_false]

end YashModel.Args.Bespoke
