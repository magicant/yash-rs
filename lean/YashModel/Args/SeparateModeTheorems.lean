/-
  C20 — property theorems: equivalent spellings of `set` in EVERY `portable` state, the option named or not.
-/
import YashModel.Args.SeparateModeLemmas
namespace YashModel.Args.Bespoke

/-- ★ `set`'s option loop, for every answer table (the `portable` option may be named anywhere), every initial
    `portable` state and every vector: the separated spelling `separateM` — full separation while `portable` is off,
    letters only from the argument that turns it on — leaves the same options in the same order, the same remaining
    arguments, or fails with the same error.  (`set_separated_same` assumes "`portable` is never named" and `p = false`.) -/
theorem set_loop_separated_same_any_portable (nm : Names) (p : Bool) (args : List Str) :
    setLoop nm p (separateM nm p args) = setLoop nm p args :=
  setLoop_separateM nm args p

/-- ★ … hence the same command or error from `parse`, unless one of the two vectors is a print form (and then too:
    `setParse_separateM` is this statement without the two hypotheses — a print form is its own separated spelling and no
    other vector's) -/
theorem set_separated_same_any_portable (nm : Names) (p : Bool) (args : List Str)
    (h : ¬ printForm args) (h' : ¬ printForm (separateM nm p args)) :
    setParse nm p (separateM nm p args) = setParse nm p args := by
  rw [setParse_loop nm p _ h', setParse_loop nm p _ h,
    set_loop_separated_same_any_portable]

def exP : Names where
  short := [('e', "errexit".toList, true), ('u', "unset".toList, false)]
  long := [("errexit".toList, .ok "errexit".toList true), ("portable".toList, .ok portableOpt true)]
  info := [("errexit".toList, { portShort := some ('e', true), portLong := some ("errexit".toList, true) }),
    ("unset".toList, { portShort := some ('u', false) })]

/-- before `-o portable` everything is separated (`-oerrexit` → `-o errexit`, `--errexit` → `-o errexit`); behind it
    only the letters are (`-euoerrexit` → `-e -u -oerrexit`, `--errexit` kept) -/
example : separateM exP false [['-','e','o','x'], ['-','-','x']] = [['-','e'], ['-','o'], ['x'], ['-','o'], ['x']] := by decide +kernel
example : separateM exP false [['-','u','o'], "portable".toList, ['-','e','u','o','x'], ['-','-','x']] =
    [['-','u'], ['-','o'], "portable".toList, ['-','e'], ['-','u'], ['-','o','x'], ['-','-','x']] := by decide +kernel
example : setParse exP false [['-','e','u','o'], "portable".toList, ['-','e','u'], ['x']] =
    .ok (.modify [("errexit".toList, true), ("unset".toList, false), (portableOpt, true), ("errexit".toList, true), ("unset".toList, false)]
      (some [['x']])) := by rfl
example : setParse exP false [['-','e'], ['-','u'], ['-','o'], "portable".toList, ['-','e'], ['-','u'], ['x']] =
    setParse exP false [['-','e','u','o'], "portable".toList, ['-','e','u'], ['x']] :=
  set_separated_same_any_portable exP false [['-','e','u','o'], "portable".toList, ['-','e','u'], ['x']] (by decide) (by decide)
/-- behind `-o portable` the attached name is rejected in both spellings, with the same error -/
example : setParse exP false [['-','o'], "portable".toList, '-' :: 'e' :: 'o' :: "errexit".toList] = .error .unseparated := by rfl
example : setParse exP false [['-','o'], "portable".toList, ['-','e'], '-' :: 'o' :: "errexit".toList] = .error .unseparated := by rfl

/-- ★ the command line's option loop, for every answer table (`-o portable` may be named), every `portable` state and
    `Run` so far, every vector: the mode-following separated spelling `separateMsh` leaves the same result -/
theorem sh_loop_separated_same_any_portable (nm : Names) (p : Bool) (r : Run) (args : List Str) :
    shLoop nm p r (separateMsh nm p args) = shLoop nm p r args :=
  shLoop_separateM nm args p r

/-- ★ … hence the same `Run` / `Help` / `Version` / error from `parse` (`sh_separated_same` assumes "`portable` never named") -/
theorem sh_separated_same_any_portable (nm : Names) (arg0 : Str) (args : List Str) :
    shParse nm (arg0 :: separateMsh nm false args) = shParse nm (arg0 :: args) := by
  simp only [shParse]
  rw [sh_loop_separated_same_any_portable]

example : separateMsh exP false [['-','e','o'], "portable".toList, ['-','e','u','o','x'], ['f']] =
    [['-','e'], ['-','o'], "portable".toList, ['-','e'], ['-','u'], ['-','o','x'], ['f']] := by decide +kernel

end YashModel.Args.Bespoke
