/-
  C20 — the common parser (`Model.lean`): the predicates the theorems are stated with, the audit of a generated table
  (`rowOk`, `tableOk`), results modulo spelling, the two loops step by step, and long-name resolution against `Spec.candidates`.
-/
import YashModel.Common.Lists
import YashModel.Args.Model
import YashModel.Args.Spec
namespace YashModel.Args

abbrev VOpt := OptionSpec × Option Str

/-- `pre` is consumed entirely as options and their arguments: nothing is pending, and option
    parsing has not ended (so `pre` contains neither an operand nor the `--` separator). -/
def OptionsOnly (specs : List OptionSpec) (mode : Mode) (pre : List Str) (os : List Occurrence) : Prop :=
  optLoop specs mode pre = .ok (os, [])

/-- an argument that is not examined as an option: it does not start with `-`, or is exactly `-` -/
def IsOperand (x : Str) : Prop := x.head? ≠ some '-' ∨ x = ['-']

/-- the name `p` denotes exactly the option `s`: `s` is named `p` (the first such option wins), or no
    option is named `p` and `s` is the only one whose long name `p` abbreviates.
    (`Spec.candidates` is the declarative resolution; `longMatch_resolves` ties the code to it.) -/
def Denotes (specs : List OptionSpec) (p : Str) (s : OptionSpec) : Prop := Spec.candidates specs p = [s]

instance (specs : List OptionSpec) (p : Str) (s : OptionSpec) : Decidable (Denotes specs p s) :=
  inferInstanceAs (Decidable (Spec.candidates specs p = [s]))

/-- the mode lets the long option `s` through -/
def LongAllowed (mode : Mode) (s : OptionSpec) : Prop :=
  mode.longOptionNames = true ∧ (s.extension = true → mode.extensionOptions = true)

/-- accepted flag: known, takes no argument, allowed by the mode -/
def IsFlag (specs : List OptionSpec) (mode : Mode) (c : Char) : Prop :=
  ∃ s, findShort specs c = some s ∧ s.takesArg = false ∧ (s.extension = true → mode.extensionOptions = true)

/-- an option character that, if it is known at all, takes no argument -/
def NoArg (specs : List OptionSpec) (c : Char) : Prop := ∀ s, findShort specs c = some s → s.takesArg = false

/-- the guard of `parse_long_option`, read as a proposition -/
theorem longGuard_iff (mode : Mode) (s : OptionSpec) :
    (!(mode.longOptionNames && (mode.extensionOptions || !s.extension))) = true ↔ ¬ LongAllowed mode s := by
  unfold LongAllowed
  cases mode.longOptionNames <;> cases mode.extensionOptions <;> cases s.extension <;> simp

/-- the guard of the reference parser's `longOne` -/
theorem longOneGuard_iff (mode : Mode) (s : OptionSpec) :
    (¬ mode.longOptionNames = true ∨ (s.extension = true ∧ ¬ mode.extensionOptions = true)) ↔ ¬ LongAllowed mode s := by
  unfold LongAllowed
  cases mode.longOptionNames <;> cases mode.extensionOptions <;> cases s.extension <;> simp

/-- the guard of the cluster loop, and of the reference parser's `cluster` -/
theorem extGuard_iff (mode : Mode) (s : OptionSpec) :
    (s.extension && !mode.extensionOptions) = true ↔ (s.extension = true ∧ ¬ mode.extensionOptions = true) := by
  simp

/-- one row of a generated table (as written by tools/tables/args.py): short name, long name, takes an argument, is an extension -/
abbrev Row := Option Char × Option (List Char) × Bool × Bool

def rowSpec (r : Row) : OptionSpec :=
  { short := r.1, long := r.2.1, takesArg := r.2.2.1, extension := r.2.2.2 }

/-- the option has a name; the short name is not `-`; the long name is non-empty, has no `=` and
    does not start with `-` (what the documentation of `OptionSpec::short` / `long` asks for) -/
def rowOk (r : Row) : Bool :=
  (r.1.isSome || r.2.1.isSome) && r.1 != some '-' &&
  (match r.2.1 with
   | some l => !l.isEmpty && !l.contains '=' && l.head? != some '-'
   | none => true)

def nodupB {α : Type} [DecidableEq α] : List α → Bool
  | [] => true
  | a :: t => !t.contains a && nodupB t

/-- no two options of the table share a short name or a long name, and every row is well formed -/
def tableOk (t : List Row) : Bool :=
  nodupB (t.filterMap (·.1)) && nodupB (t.filterMap (·.2.1)) && t.all rowOk

/-- every option of the table is reachable by its own names: `-c` finds it and `--long` denotes it -/
def tableReachable (t : List Row) : Bool :=
  let specs := t.map rowSpec
  specs.all fun s =>
    (match s.short with | some c => findShort specs c == some s | none => true) &&
    (match s.long with | some l => Spec.candidates specs l == [s] | none => true)

/-- results modulo spelling: `viewS` / `viewL` erase it from the result of the short loop / of `parseLong`; `consV`, `finishV`
    are `consOcc`, `finish` on such views -/
def viewS : Except ParseError (List Occurrence × Bool) → Except ParseError (List VOpt × Bool)
  | .ok (os, took) => .ok (os.map Occurrence.view, took)
  | .error e => .error e

def finishV : View → View
  | .ok (vs, rem) => .ok (vs, skipSeparator rem)
  | .error e => .error e

def consV (v : VOpt) : Except ParseError (List VOpt × Bool) → Except ParseError (List VOpt × Bool)
  | .ok (vs, took) => .ok (v :: vs, took)
  | .error e => .error e

/-- continue the loop after a cluster / long option whose view is `x` -/
def bindV (specs : List OptionSpec) (mode : Mode) (x : Except ParseError (List VOpt × Bool)) (rest : List Str) : View :=
  match x with
  | .error e => .error e
  | .ok (vs, took) => Spec.cons vs (optLoop specs mode (if took then rest.tail else rest)).view

@[simp] theorem prepend_nil (r : Parsed) : prepend [] r = r := by
  cases r with
  | error e => rfl
  | ok p => cases p; rfl

@[simp] theorem prepend_prepend (a b : List Occurrence) (r : Parsed) :
    prepend a (prepend b r) = prepend (a ++ b) r := by
  cases r with
  | error e => rfl
  | ok p => cases p; simp [prepend]

@[simp] theorem prepend_error (a : List Occurrence) (e : ParseError) : prepend a (.error e) = .error e := rfl

@[simp] theorem cons_nil (r : View) : Spec.cons [] r = r := by
  cases r with
  | error e => rfl
  | ok p => cases p; rfl

@[simp] theorem cons_cons (a b : List VOpt) (r : View) :
    Spec.cons a (Spec.cons b r) = Spec.cons (a ++ b) r := by
  cases r with
  | error e => rfl
  | ok p => cases p; simp [Spec.cons]

@[simp] theorem view_prepend (os : List Occurrence) (r : Parsed) :
    (prepend os r).view = Spec.cons (os.map Occurrence.view) r.view := by
  cases r with
  | error e => rfl
  | ok p => cases p; simp [prepend, Parsed.view, Spec.cons]

@[simp] theorem view_finish (r : Parsed) : (finish r).view = finishV r.view := by
  cases r with
  | error e => rfl
  | ok p => cases p; rfl

@[simp] theorem finish_prepend (os : List Occurrence) (r : Parsed) :
    finish (prepend os r) = prepend os (finish r) := by
  cases r with
  | error e => rfl
  | ok p => cases p; rfl

@[simp] theorem viewS_consOcc (o : Occurrence) (x) : viewS (consOcc o x) = consV o.view (viewS x) := by
  cases x with
  | error e => rfl
  | ok p => cases p; rfl

theorem optLoop_cons (specs : List OptionSpec) (mode : Mode) (a : Str) (rest : List Str) :
    optLoop specs mode (a :: rest) =
      match step specs mode a rest.head? with
      | .fail e => .error e
      | .stop => .ok ([], a :: rest)
      | .opts os took => prepend os (optLoop specs mode (if took then rest.tail else rest)) := by
  rw [optLoop]
  cases h : step specs mode a rest.head? with
  | fail e => rfl
  | stop => rfl
  | opts os took =>
    cases took with
    | false => simp
    | true =>
      cases rest with
      | nil => simp [optLoop, prepend]
      | cons b rest' => simp

theorem step_short (specs mode) (a : Str) (next : Option Str) (h : startsWithSingleHyphen a = true) :
    step specs mode a next = Step.ofShort (shortLoop specs mode next 1 (a.drop 1)) := by
  simp [step, h]

theorem step_long (specs mode) (a : Str) (next : Option Str) (h1 : startsWithSingleHyphen a = false)
    (h2 : startsWithDoubleHyphen a = true) :
    step specs mode a next = Step.ofLong (parseLong specs mode a next) := by
  simp [step, h1, h2]

theorem step_stop (specs mode) (a : Str) (next : Option Str) (h1 : startsWithSingleHyphen a = false)
    (h2 : startsWithDoubleHyphen a = false) : step specs mode a next = .stop := by
  simp [step, h1, h2]

def viewL : Except ParseError (Occurrence × Bool) → Except ParseError (List VOpt × Bool)
  | .ok (o, took) => .ok ([o.view], took)
  | .error e => .error e

theorem shortLoop_cons_unknown (specs mode next) (i : Nat) {c : Char} (rest : Str) (hf : findShort specs c = none) :
    shortLoop specs mode next i (c :: rest) = .error (.unknownShort c) := by
  rw [shortLoop, hf]

theorem shortLoop_cons_blocked (specs mode next) (i : Nat) {c : Char} (rest : Str) {s : OptionSpec}
    (hf : findShort specs c = some s) (hx : (s.extension && !mode.extensionOptions) = true) :
    shortLoop specs mode next i (c :: rest) = .error (.nonPortableShort c s) := by
  rw [shortLoop, hf]
  simp only [hx, if_true]

theorem shortLoop_cons_flag (specs mode next) (i : Nat) {c : Char} (rest : Str) {s : OptionSpec}
    (hf : findShort specs c = some s) (hx : (s.extension && !mode.extensionOptions) = false) (ha : s.takesArg = false) :
    shortLoop specs mode next i (c :: rest) =
      consOcc ⟨s, .short i, none⟩ (shortLoop specs mode next (i + c.utf8Size) rest) := by
  rw [shortLoop, hf]
  simp only [hx, ha, Bool.false_eq_true, if_false, Bool.not_false, if_true]

theorem shortLoop_cons_arg (specs mode next) (i : Nat) {c : Char} (rest : Str) {s : OptionSpec}
    (hf : findShort specs c = some s) (hx : (s.extension && !mode.extensionOptions) = false) (ha : s.takesArg = true) :
    shortLoop specs mode next i (c :: rest) =
      if rest.isEmpty then
        match next with
        | none => .error (.missingArgument s)
        | some a => .ok ([⟨s, .short i, some a⟩], true)
      else if !mode.optionArgumentsInSameField then .error (.unseparatedArgument s)
      else .ok ([⟨s, .short i, some rest⟩], false) := by
  rw [shortLoop, hf]
  simp only [hx, ha, Bool.not_true, Bool.false_eq_true, if_false]
  rfl

theorem consOcc_ok (o : Occurrence) (x) (os : List Occurrence) (t : Bool) (h : consOcc o x = .ok (os, t)) :
    ∃ os', x = .ok (os', t) ∧ os = o :: os' := by
  cases x with
  | error e => simp [consOcc] at h
  | ok q => obtain ⟨os', t'⟩ := q; simp [consOcc] at h; exact ⟨os', by rw [h.2], h.1.symm⟩

/-- The next argument `n1` matters to a cluster only when it is taken: a result that took it had one,
    and a result that did not is the same whatever follows. -/
theorem shortLoop_next (specs : List OptionSpec) (mode : Mode) (n1 : Option Str) :
    ∀ (cs : Str) (i : Nat) (os : List Occurrence) (took : Bool),
      shortLoop specs mode n1 i cs = .ok (os, took) →
      (took = true → n1 ≠ none) ∧ (took = false → ∀ n2, shortLoop specs mode n2 i cs = .ok (os, false)) := by
  intro cs
  induction cs with
  | nil =>
    intro i os took h
    rw [shortLoop] at h
    cases h
    exact ⟨fun h => (by cases h), fun _ n2 => by rw [shortLoop]⟩
  | cons c rest ih =>
    intro i os took h
    cases hf : findShort specs c with
    | none => rw [shortLoop_cons_unknown _ _ _ _ _ hf] at h; cases h
    | some s =>
      cases hx : s.extension && !mode.extensionOptions with
      | true => rw [shortLoop_cons_blocked _ _ _ _ _ hf hx] at h; cases h
      | false =>
        cases ha : s.takesArg with
        | false =>
          rw [shortLoop_cons_flag _ _ _ _ _ hf hx ha] at h
          obtain ⟨os', hr, rfl⟩ := consOcc_ok _ _ _ _ h
          obtain ⟨hn, hall⟩ := ih _ _ _ hr
          exact ⟨hn, fun ht n2 => by rw [shortLoop_cons_flag _ _ _ _ _ hf hx ha, hall ht n2]; rfl⟩
        | true =>
          -- only the last letter of the cluster can take the next argument
          rw [shortLoop_cons_arg _ _ _ _ _ hf hx ha] at h
          by_cases hr : rest.isEmpty = true
          · rw [if_pos hr] at h
            cases n1 with
            | none => cases h
            | some a => cases h; exact ⟨fun _ => (by simp), fun ht => by cases ht⟩
          · rw [if_neg hr] at h
            by_cases hm : (!mode.optionArgumentsInSameField) = true
            · rw [if_pos hm] at h; cases h
            · rw [if_neg hm] at h
              cases h
              exact ⟨fun ht => (by cases ht),
                fun _ n2 => by rw [shortLoop_cons_arg _ _ _ _ _ hf hx ha, if_neg hr, if_neg hm]⟩

/-- what `parseLong` does once the name is resolved (`t` = empty, or `=` and the attached argument) -/
def longResult (mode : Mode) (m : Except (List OptionSpec) OptionSpec) (t : Str) (nx : Option Str) :
    Except ParseError (Occurrence × Bool) :=
  match m with
  | .error ms => .error (if ms.isEmpty then .unknownLong else .ambiguousLong ms)
  | .ok spec =>
    if !(mode.longOptionNames && (mode.extensionOptions || !spec.extension)) then
      .error (.nonPortableLong spec)
    else if !spec.takesArg then
      (if t.isEmpty then .ok (⟨spec, .long, none⟩, false) else .error (.unexpectedArgument spec))
    else if t.isEmpty then
      match nx with
      | none => .error (.missingArgument spec)
      | some a => .ok (⟨spec, .long, some a⟩, true)
    else .ok (⟨spec, .long, some (t.drop 1)⟩, false)

theorem parseLong_eq (specs : List OptionSpec) (mode : Mode) (a : Str) (nx : Option Str) :
    parseLong specs mode a nx =
      longResult mode (longMatch specs ((a.drop 2).takeWhile notEq)) ((a.drop 2).dropWhile notEq) nx := rfl

theorem longResult_blocked (mode : Mode) (s : OptionSpec) (t : Str) (nx : Option Str) (hb : ¬ LongAllowed mode s) :
    longResult mode (.ok s) t nx = .error (.nonPortableLong s) := by
  simp only [longResult]
  rw [if_pos ((longGuard_iff mode s).mpr hb)]

theorem longResult_flag (mode : Mode) (s : OptionSpec) (t : Str) (nx : Option Str) (hb : LongAllowed mode s)
    (ha : s.takesArg = false) :
    longResult mode (.ok s) t nx =
      if t.isEmpty then .ok (⟨s, .long, none⟩, false) else .error (.unexpectedArgument s) := by
  simp only [longResult]
  rw [if_neg (fun h => (longGuard_iff mode s).mp h hb)]
  simp only [ha, Bool.not_false, if_true]

theorem longResult_arg_none (mode : Mode) (s : OptionSpec) (hb : LongAllowed mode s) (ha : s.takesArg = true) :
    longResult mode (.ok s) [] none = .error (.missingArgument s) := by
  simp only [longResult]
  rw [if_neg (fun h => (longGuard_iff mode s).mp h hb)]
  simp [ha]

theorem longResult_arg_next (mode : Mode) (s : OptionSpec) (x : Str) (hb : LongAllowed mode s) (ha : s.takesArg = true) :
    longResult mode (.ok s) [] (some x) = .ok (⟨s, .long, some x⟩, true) := by
  simp only [longResult]
  rw [if_neg (fun h => (longGuard_iff mode s).mp h hb)]
  simp [ha]

theorem longResult_arg_attached (mode : Mode) (s : OptionSpec) (t : Str) (nx : Option Str) (hb : LongAllowed mode s)
    (ha : s.takesArg = true) (ht : t ≠ []) :
    longResult mode (.ok s) t nx = .ok (⟨s, .long, some (t.drop 1)⟩, false) := by
  simp only [longResult]
  rw [if_neg (fun h => (longGuard_iff mode s).mp h hb)]
  simp [ha, ht]

theorem longResult_next (mode : Mode) (m : Except (List OptionSpec) OptionSpec) (t : Str) (n1 : Option Str)
    (o : Occurrence) (took : Bool) (h : longResult mode m t n1 = .ok (o, took)) :
    (took = true → n1 ≠ none) ∧ (took = false → ∀ n2, longResult mode m t n2 = .ok (o, false)) := by
  cases m with
  | error ms => cases h
  | ok s =>
    by_cases hb : LongAllowed mode s
    · cases ha : s.takesArg with
      | false =>
        rw [longResult_flag mode s t n1 hb ha] at h
        by_cases ht : t.isEmpty = true
        · rw [if_pos ht] at h
          cases h
          exact ⟨fun h => (by cases h), fun _ n2 => by rw [longResult_flag mode s t n2 hb ha, if_pos ht]⟩
        · rw [if_neg ht] at h; cases h
      | true =>
        cases t with
        | nil =>
          cases n1 with
          | none => rw [longResult_arg_none mode s hb ha] at h; cases h
          | some x =>
            rw [longResult_arg_next mode s x hb ha] at h
            cases h
            exact ⟨fun _ => (by simp), fun h => by cases h⟩
        | cons e x =>
          rw [longResult_arg_attached mode s _ n1 hb ha (by simp)] at h
          cases h
          exact ⟨fun h => (by cases h), fun _ n2 => longResult_arg_attached mode s _ n2 hb ha (by simp)⟩
    · rw [longResult_blocked mode s t n1 hb] at h; cases h

theorem step_next (specs : List OptionSpec) (mode : Mode) (a : Str) (n1 : Option Str) (os : List Occurrence)
    (took : Bool) (h : step specs mode a n1 = .opts os took) :
    (took = true → n1 ≠ none) ∧ (took = false → ∀ n2, step specs mode a n2 = .opts os false) := by
  by_cases h1 : startsWithSingleHyphen a = true
  · rw [step_short _ _ _ _ h1] at h
    cases hs : shortLoop specs mode n1 1 (a.drop 1) with
    | error e => rw [hs] at h; cases h
    | ok q =>
      obtain ⟨os', t⟩ := q
      rw [hs] at h
      cases h
      obtain ⟨hn, hall⟩ := shortLoop_next specs mode n1 _ _ _ _ hs
      exact ⟨hn, fun ht n2 => by rw [step_short _ _ _ _ h1, hall ht n2]; rfl⟩
  · have h1' : startsWithSingleHyphen a = false := by simpa using h1
    by_cases h2 : startsWithDoubleHyphen a = true
    · rw [step_long _ _ _ _ h1' h2, parseLong_eq] at h
      cases hs : longResult mode (longMatch specs ((a.drop 2).takeWhile notEq)) ((a.drop 2).dropWhile notEq) n1 with
      | error e => rw [hs] at h; cases h
      | ok q =>
        obtain ⟨o, t⟩ := q
        rw [hs] at h
        cases h
        obtain ⟨hn, hall⟩ := longResult_next _ _ _ _ _ _ hs
        exact ⟨hn, fun ht n2 => by rw [step_long _ _ _ _ h1' h2, parseLong_eq, hall ht n2]; rfl⟩
    · rw [step_stop _ _ _ _ h1' (by simpa using h2)] at h; cases h

theorem prepend_eq_ok (os1 : List Occurrence) (r : Parsed) (os : List Occurrence) (rem : List Str)
    (h : prepend os1 r = .ok (os, rem)) : ∃ os2, r = .ok (os2, rem) ∧ os = os1 ++ os2 := by
  cases r with
  | error e => simp [prepend] at h
  | ok p =>
    obtain ⟨os2, rem2⟩ := p
    simp [prepend] at h
    exact ⟨os2, by simp [h.2], h.1.symm⟩

theorem optLoop_append (specs mode) : ∀ (pre ys : List Str) (os : List Occurrence),
    optLoop specs mode pre = .ok (os, []) →
    optLoop specs mode (pre ++ ys) = prepend os (optLoop specs mode ys)
  | [], ys, os, h => by simp [optLoop] at h; simp [h]
  | a :: rest, ys, os, h => by
    rw [optLoop_cons] at h
    rw [List.cons_append, optLoop_cons]
    cases hs : step specs mode a rest.head? with
    | fail e => simp [hs] at h
    | stop => simp [hs] at h
    | opts os1 took =>
      simp only [hs] at h
      obtain ⟨os2, h2, hos⟩ := prepend_eq_ok _ _ _ _ h
      cases rest with
      | nil =>
        simp only [List.head?_nil] at hs
        -- nothing follows, so nothing was taken, and the step is the same before `ys`
        obtain ⟨hn, hall⟩ := step_next _ _ _ _ _ _ hs
        have ht : took = false := by
          cases took with
          | false => rfl
          | true => exact absurd rfl (hn rfl)
        subst ht
        simp only [List.nil_append, hall rfl]
        simp [optLoop] at h2
        simp [hos, h2]
      | cons b rest' =>
        simp only [List.cons_append, List.head?_cons] at hs ⊢
        simp only [hs]
        cases took with
        | false =>
          simp only [Bool.false_eq_true, if_false] at h2 ⊢
          have := optLoop_append specs mode (b :: rest') ys os2 h2
          simp only [List.cons_append] at this
          rw [this, hos]; simp
        | true =>
          simp only [if_true, List.tail_cons] at h2 ⊢
          rw [optLoop_append specs mode rest' ys os2 h2, hos]; simp

theorem takeWhile_notEq_append (n t : Str) (hn : '=' ∉ n) (ht : t = [] ∨ t.head? = some '=') :
    (n ++ t).takeWhile notEq = n ∧ (n ++ t).dropWhile notEq = t :=
  Common.takeWhile_ne_append '=' n t hn ht

def isExact (name : Str) (s : OptionSpec) : Bool :=
  match s.longMatch name with
  | .exact => true
  | _ => false
def isPart (name : Str) (s : OptionSpec) : Bool :=
  match s.longMatch name with
  | .part => true
  | _ => false

theorem longMatchGo_eq (name : Str) (specs acc : List OptionSpec) :
    longMatchGo name specs acc =
      match specs.find? (isExact name) with
      | some s => .ok s
      | none => match acc ++ specs.filter (isPart name) with
        | [s] => .ok s
        | l => .error l := by
  induction specs generalizing acc with
  | nil => simp [longMatchGo]; cases acc with
    | nil => rfl
    | cons a t => cases t <;> rfl
  | cons s rest ih =>
    cases hm : s.longMatch name with
    | no =>
      have h1 : isExact name s = false := by simp [isExact, hm]
      have h2 : isPart name s = false := by simp [isPart, hm]
      simp only [longMatchGo, hm, List.find?_cons, List.filter_cons, h1, h2]; exact ih acc
    | part =>
      have h1 : isExact name s = false := by simp [isExact, hm]
      have h2 : isPart name s = true := by simp [isPart, hm]
      simp only [longMatchGo, hm, List.find?_cons, List.filter_cons, h1, h2, if_true]; rw [ih]; simp
    | exact =>
      have h1 : isExact name s = true := by simp [isExact, hm]
      simp only [longMatchGo, hm, List.find?_cons, h1]

theorem longMatch_eq (name : Str) (s : OptionSpec) :
    s.longMatch name =
      if s.long = some name then .exact else if Spec.abbreviates name s = true then .part else .no := by
  unfold OptionSpec.longMatch Spec.abbreviates
  cases hl : s.long with
  | none => simp
  | some l =>
    simp only [Option.some.injEq]
    by_cases hp : name.isPrefixOf l = true
    · rw [if_pos hp, if_pos hp]
      by_cases hlen : (l.length == name.length) = true
      · have : l = name :=
          ((List.isPrefixOf_iff_prefix.mp hp).eq_of_length (by simpa using (beq_iff_eq.mp hlen).symm)).symm
        rw [if_pos hlen, if_pos this]
      · rw [if_neg hlen, if_neg fun h => hlen (by simp [h])]
    · rw [if_neg hp, if_neg hp, if_neg fun h => hp (by simp [h])]

theorem isExact_eq (name : Str) (s : OptionSpec) : isExact name s = (s.long == some name) := by
  unfold isExact
  rw [longMatch_eq]
  by_cases h : s.long = some name
  · simp [h]
  · rw [if_neg h]; cases Spec.abbreviates name s <;> simp [h]

theorem isPart_eq (name : Str) (s : OptionSpec) (h : isExact name s = false) :
    isPart name s = Spec.abbreviates name s := by
  have hne : s.long ≠ some name := by simpa [isExact_eq] using h
  unfold isPart
  rw [longMatch_eq, if_neg hne]
  cases Spec.abbreviates name s <;> rfl

/-- ☆ The code's `long_match` computes the declarative resolution: the exactly named option if there
    is one (first in the table), otherwise the options whose name `name` abbreviates — one of them
    is the match, none or several are an error carrying them. -/
theorem longMatch_resolves (specs : List OptionSpec) (name : Str) :
    longMatch specs name =
      match Spec.candidates specs name with
      | [s] => .ok s
      | ss => .error ss := by
  unfold longMatch Spec.candidates
  rw [longMatchGo_eq]
  have hfind : specs.find? (isExact name) = specs.find? (fun s => s.long == some name) := by
    congr 1; funext s; exact isExact_eq name s
  rw [← hfind]
  cases hf : specs.find? (isExact name) with
  | some s => rfl
  | none =>
    have : specs.filter (isPart name) = specs.filter (Spec.abbreviates name) := by
      apply List.filter_congr
      intro s hs
      exact isPart_eq name s (by simpa using List.find?_eq_none.mp hf s hs)
    simp only [List.nil_append, this]

theorem candidates_mem (specs : List OptionSpec) (p : Str) (s : OptionSpec)
    (hu : Spec.candidates specs p = [s]) : s ∈ specs ∧ Spec.abbreviates p s = true := by
  unfold Spec.candidates at hu
  cases hf : specs.find? (fun s => s.long == some p) with
  | some s' =>
    simp [hf] at hu; subst hu
    have h1 := List.mem_of_find?_eq_some hf
    have h2 := List.find?_some hf
    refine ⟨h1, ?_⟩
    simp at h2
    simp [Spec.abbreviates, h2]
  | none =>
    simp [hf] at hu
    have : s ∈ specs.filter (Spec.abbreviates p) := by simp [hu]
    simpa using this

theorem find_full (specs : List OptionSpec) (p l : Str) (s : OptionSpec)
    (hu : Spec.candidates specs p = [s]) (hl : s.long = some l) :
    specs.find? (fun s => s.long == some l) = some s := by
  unfold Spec.candidates at hu
  cases hfp : specs.find? (fun s => s.long == some p) with
  | some s'' =>
    -- `p` is a full name, so it is `l`
    rw [hfp] at hu
    cases hu
    have h3 : s.long = some p := by simpa using List.find?_some hfp
    have : l = p := by rw [hl] at h3; exact Option.some.inj h3
    rw [this]; exact hfp
  | none =>
    rw [hfp] at hu
    replace hu : specs.filter (Spec.abbreviates p) = [s] := hu
    have hs : s ∈ specs.filter (Spec.abbreviates p) := by rw [hu]; simp
    obtain ⟨hmem, hab⟩ := List.mem_filter.mp hs
    have hpl : p.isPrefixOf l = true := by simpa [Spec.abbreviates, hl] using hab
    cases hf : specs.find? (fun s => s.long == some l) with
    | none => exact absurd (List.find?_eq_none.mp hf s hmem) (by simp [hl])
    | some s' =>
      -- the option found under `l` is abbreviated by `p` too, and `s` is the only such
      have h2 : s'.long = some l := by simpa using List.find?_some hf
      have : s' ∈ specs.filter (Spec.abbreviates p) :=
        List.mem_filter.mpr ⟨List.mem_of_find?_eq_some hf, by simp [Spec.abbreviates, h2, hpl]⟩
      rw [hu] at this
      rw [List.mem_singleton.mp this]

theorem candidates_of_find (specs : List OptionSpec) (name : Str) (s : OptionSpec)
    (h : specs.find? (fun s => s.long == some name) = some s) : Spec.candidates specs name = [s] := by
  simp [Spec.candidates, h]

theorem candidates_full (specs : List OptionSpec) (p l : Str) (s : OptionSpec)
    (hu : Spec.candidates specs p = [s]) (hl : s.long = some l) : Spec.candidates specs l = [s] :=
  candidates_of_find specs l s (find_full specs p l s hu hl)

theorem longMatch_ok_iff {specs : List OptionSpec} {p : Str} {s : OptionSpec} :
    longMatch specs p = .ok s ↔ Denotes specs p s := by
  rw [longMatch_resolves]
  unfold Denotes
  generalize Spec.candidates specs p = cs
  match cs with
  | [] => simp
  | [s'] => simp
  | _ :: _ :: _ => simp

theorem doubleHyphen_not_single (n : Str) : startsWithSingleHyphen ('-' :: '-' :: n) = false := by
  simp [startsWithSingleHyphen]

theorem doubleHyphen_double (n t : Str) (hn : n ++ t ≠ []) : startsWithDoubleHyphen ('-' :: '-' :: (n ++ t)) = true := by
  cases h : n ++ t with
  | nil => exact absurd h hn
  | cons c n' => rfl

theorem step_longform (specs mode) (n t : Str) (nx : Option Str) (hne : n ++ t ≠ []) (hn : '=' ∉ n)
    (ht : t = [] ∨ t.head? = some '=') :
    step specs mode ('-' :: '-' :: (n ++ t)) nx = Step.ofLong (longResult mode (longMatch specs n) t nx) := by
  obtain ⟨h1, h2⟩ := takeWhile_notEq_append n t hn ht
  rw [step_long _ _ _ _ (doubleHyphen_not_single _) (doubleHyphen_double n t hne), parseLong_eq]
  simp only [List.drop_succ_cons, List.drop_zero, h1, h2]

theorem head_ne_dash_append (g : Str) (c : Char) (cs : Str) (h : ∃ c0 cs', g ++ [c] = c0 :: cs' ∧ c0 ≠ '-') :
    ∃ c0 cs'', g ++ c :: cs = c0 :: cs'' ∧ c0 ≠ '-' := by
  obtain ⟨c0, cs', h1, h2⟩ := h
  refine ⟨c0, cs' ++ cs, ?_, h2⟩
  have : g ++ c :: cs = (g ++ [c]) ++ cs := by simp
  rw [this, h1]; rfl

end YashModel.Args
