/-
  C20 — an error of `parse_arguments` comes from exactly one defective argument behind a prefix of accepted
  options (`step_fail_iff`, `optLoop_error_localised`).
-/
import YashModel.Args.ParseRefine
namespace YashModel.Args
open Spec

/-- The defect of one argument in option position, if it has one (`next` = the argument behind it):
    the error the reference parser's `cluster` / `longOpt` finds in it, or a missing option-argument. -/
def tokenDefect (specs : List OptionSpec) (mode : Mode) (a : Str) (next : Option Str) : Option ParseError :=
  let ofResult (R : Except ParseError (List Spec.Opt × Option OptionSpec)) : Option ParseError :=
    match R with
    | .error e => some e
    | .ok (_, some s) => if next.isNone then some (.missingArgument s) else none
    | .ok (_, none) => none
  match argKind a with
  | .stop => none
  | .long body => ofResult (Spec.longOpt specs mode body)
  | .cluster cs => ofResult (Spec.cluster specs mode cs)

theorem ofShort_fail_iff (x : Except ParseError (List Occurrence × Bool)) (e : ParseError) :
    Step.ofShort x = .fail e ↔ viewS x = .error e := by
  cases x with
  | error e' => simp [Step.ofShort, viewS]
  | ok q => cases q; simp [Step.ofShort, viewS]

theorem ofLong_fail_iff (x : Except ParseError (Occurrence × Bool)) (e : ParseError) :
    Step.ofLong x = .fail e ↔ viewL x = .error e := by
  cases x with
  | error e' => simp [Step.ofLong, viewL]
  | ok q => cases q; simp [Step.ofLong, viewL]

/-- `tokenDefect`'s local `ofResult` as a function of its own (`tokenDefect_eq`) -/
def defectOf (next : Option Str) : Except ParseError (List Spec.Opt × Option OptionSpec) → Option ParseError
  | .error e => some e
  | .ok (_, some s) => if next.isNone then some (.missingArgument s) else none
  | .ok (_, none) => none

theorem resolveP_error (R) (next : Option Str) (e : ParseError) :
    resolveP R next = .error e ↔ defectOf next R = some e := by
  cases R with
  | error e' => simp [resolveP, defectOf]
  | ok q =>
    obtain ⟨os, p⟩ := q
    cases p with
    | none => simp [resolveP, defectOf]
    | some s => cases next <;> simp [resolveP, defectOf]

theorem tokenDefect_eq (specs : List OptionSpec) (mode : Mode) (a : Str) (next : Option Str) :
    tokenDefect specs mode a next = defectOf next (argResult specs mode (argKind a)) := by
  unfold tokenDefect
  cases argKind a <;> rfl

theorem step_fail_iff (specs : List OptionSpec) (mode : Mode) (a : Str) (next : Option Str) (e : ParseError) :
    step specs mode a next = .fail e ↔ tokenDefect specs mode a next = some e := by
  rw [tokenDefect_eq, step_by_kind]
  have hf := argForm a
  generalize argKind a = k at hf
  cases hf with
  | empty => simp [argResult, defectOf]
  | lone => simp [argResult, defectOf]
  | separator => simp [argResult, defectOf]
  | operand c t h => simp [argResult, defectOf]
  | long c b => simp only [argResult]; rw [← resolveP_error, ← longOpt_parseLong, ofLong_fail_iff]
  | cluster c cs hc => simp only [argResult]; rw [← resolveP_error, ← cluster_shortLoop specs mode next (c :: cs) 1, ofShort_fail_iff]

theorem tokenDefect_cluster (specs : List OptionSpec) (mode : Mode) (x : Str) (next : Option Str)
    (hh : ∃ c0 cs', x = c0 :: cs' ∧ c0 ≠ '-') :
    tokenDefect specs mode ('-' :: x) next = defectOf next (Spec.cluster specs mode x) := by
  obtain ⟨c0, cs', rfl, h0⟩ := hh
  rw [tokenDefect_eq, argKind_cluster_cons cs' h0]; rfl

theorem tokenDefect_long (specs : List OptionSpec) (mode : Mode) (n t : Str) (next : Option Str) (hne : n ++ t ≠ [])
    (hn : '=' ∉ n) (ht : t = [] ∨ t.head? = some '=') :
    tokenDefect specs mode ('-' :: '-' :: (n ++ t)) next =
      defectOf next (longSpecResult mode (Spec.candidates specs n) t) := by
  obtain ⟨c, b, hcb⟩ := List.exists_cons_of_ne_nil hne
  rw [tokenDefect_eq, ← longOpt_split specs mode n t hn ht, hcb, argKind_long_cons]; rfl

theorem cluster_flags_defect (specs : List OptionSpec) (mode : Mode) (next : Option Str) (tail : Str) :
    ∀ g : Str, (∀ d ∈ g, IsFlag specs mode d) →
      defectOf next (Spec.cluster specs mode (g ++ tail)) = defectOf next (Spec.cluster specs mode tail)
  | [], _ => rfl
  | c :: g, hg => by
    obtain ⟨s, hf, ha, he⟩ := hg c (by simp)
    rw [List.cons_append, cluster_cons_allowed specs mode _ hf he]
    simp only [ha, Bool.false_eq_true, if_false]
    rw [← cluster_flags_defect specs mode next tail g (fun d hd => hg d (by simp [hd]))]
    cases Spec.cluster specs mode (g ++ tail) with
    | error e => rfl
    | ok q => obtain ⟨os, p⟩ := q; cases p <;> rfl

theorem malformed_at (specs : List OptionSpec) (mode : Mode) {pre : List Str} {os : List Occurrence} (a : Str) (r : List Str)
    {e : ParseError} (hpre : OptionsOnly specs mode pre os) (hdef : tokenDefect specs mode a r.head? = some e) :
    parseArguments specs mode (pre ++ a :: r) = .error e := by
  unfold parseArguments
  rw [optLoop_append specs mode pre (a :: r) os hpre, optLoop_cons, (step_fail_iff specs mode a r.head? e).mpr hdef]
  rfl

theorem prepend_error_iff (os : List Occurrence) (r : Parsed) (e : ParseError) :
    prepend os r = .error e ↔ r = .error e := by
  cases r with
  | error e' => simp [prepend]
  | ok q => cases q; simp [prepend]

theorem optLoop_error_localised (specs : List OptionSpec) (mode : Mode) : ∀ (args : List Str) (e : ParseError),
    optLoop specs mode args = .error e →
    ∃ pre a r os, args = pre ++ a :: r ∧ optLoop specs mode pre = .ok (os, []) ∧
      tokenDefect specs mode a r.head? = some e
  | [], _, h => by simp [optLoop] at h
  | a :: rest, e, h => by
    rw [optLoop_cons] at h
    cases hs : step specs mode a rest.head? with
    | fail e' =>
      rw [hs] at h
      simp at h; subst h
      exact ⟨[], a, rest, [], rfl, rfl, (step_fail_iff specs mode a rest.head? e').mp hs⟩
    | stop => rw [hs] at h; cases h
    | opts os1 took =>
      rw [hs] at h
      simp only [] at h
      rw [prepend_error_iff] at h
      cases took with
      | false =>
        simp only [Bool.false_eq_true, if_false] at h
        obtain ⟨pre', a', r', os', hsplit, hpre, hdef⟩ := optLoop_error_localised specs mode rest e h
        refine ⟨a :: pre', a', r', os1 ++ os', by rw [hsplit]; rfl, ?_, hdef⟩
        rw [optLoop_cons, (step_next specs mode a rest.head? os1 false hs).2 rfl pre'.head?]
        simp [hpre, prepend]
      | true =>
        cases rest with
        | nil => simp [optLoop] at h
        | cons x rest' =>
          simp only [if_true, List.tail_cons] at h
          obtain ⟨pre', a', r', os', hsplit, hpre, hdef⟩ := optLoop_error_localised specs mode rest' e h
          refine ⟨a :: x :: pre', a', r', os1 ++ os', by rw [hsplit]; rfl, ?_, hdef⟩
          rw [optLoop_cons]
          simp only [List.head?_cons] at hs ⊢
          rw [hs]
          simp [hpre, prepend]
end YashModel.Args
