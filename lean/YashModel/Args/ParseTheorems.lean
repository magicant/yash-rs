/-
  C20 — property theorems of the common option parser, with non-vacuity examples (the fixture `exT` is also used by
  `EndOfOptionsTheorems.lean`).

  Property text: "Every built-in parses its arguments according to the POSIX utility syntax
  guidelines plus the documented extensions: for any argument vector, grouped short options mean
  the same as separate ones, an option-argument attached to its option or given as the next
  argument is the same, `--` ends option parsing, and a long option may be abbreviated to any
  unambiguous prefix and take its argument after `=` or as the next argument.  Equivalent spellings
  of an invocation have identical output, exit status and effect on the shell, while malformed ones
  (unknown or ambiguous option, missing option-argument) are rejected with a diagnostic, a non-zero
  status and no effect."

  All statements are about `parseArguments` (= `parse_arguments` of yash-builtin/src/common/syntax.rs),
  for every option-spec table, every mode (unless a mode condition is spelled out) and every
  argument vector.  `.view` forgets the `OptionSpelling` (the only thing in which two spellings of
  the same invocation are allowed to differ).  Notation: `'-' :: cs` is the argument `-cs`,
  `'-' :: '-' :: n` is `--n`.  Side conditions are the ones the code forces; the comments of the equivalence theorems say
  why each is needed.
-/
import YashModel.Args.CanonLemmas
import YashModel.Args.ErrorLemmas
import YashModel.Generated.ArgSpecs
namespace YashModel.Args

/-! ## refinement: the Impl model is the reference parser, modulo spelling

  The laws that hold modulo spelling (`group_eq_separate`, `attached_eq_next`, the canonical spelling) are proved on the
  (much simpler) Spec side and follow from this one theorem; those that are exact equalities, occurrences with their
  `Spelling`, are proved on the Impl loop.  It also backs the driver's per-case comparison `view (model) = Spec.parse` (spec column of the correspondence
  run) by a proof for all inputs. -/

/-- ☆ For every option table, every mode and every argument vector, the transcription of
    `parse_arguments` delivers — modulo `OptionSpelling` — exactly what the reference parser of
    `Spec.lean` delivers: the same options with the same arguments in the same order and the same
    operands, or the same error (class, option character and named specs). -/
theorem parse_refines_spec (specs : List OptionSpec) (mode : Mode) (args : List Str) :
    (parseArguments specs mode args).view = Spec.parse specs mode args := by
  unfold parseArguments Spec.parse
  rw [view_finish]
  exact optLoop_refines_run specs mode args

/-- ★ A cluster `-<pre><cs>` means the same as `-<pre> -<cs>`, when the options of `pre` take no
    argument.  Forced side conditions: `cs` must not start with `-` (`-a-` is the unknown option `-`,
    while `-a --` ends the options), `pre` must not start with `-` (`--…` is a long option or the
    separator); an option of `pre` that takes an argument swallows the rest of the cluster
    (that is `attached_eq_next`). Unknown or non-portable characters fail identically in both spellings. -/
theorem group_eq_separate_general (specs : List OptionSpec) (mode : Mode) (pre cs : Str) (r : List Str)
    (hpre : ∀ c ∈ pre, NoArg specs c) (hp : ∃ p0 pre', pre = p0 :: pre' ∧ p0 ≠ '-')
    (hc : ∃ c0 cs', cs = c0 :: cs' ∧ c0 ≠ '-') :
    (parseArguments specs mode (('-' :: (pre ++ cs)) :: r)).view =
      (parseArguments specs mode (('-' :: pre) :: ('-' :: cs) :: r)).view := by
  rw [parse_refines_spec, parse_refines_spec]; exact spec_group_eq_separate_general specs mode pre cs r hpre hp hc

/-- ★ `group_eq_separate` in the form of DESIGN.md: `-a<cs>` ≡ `-a -<cs>` for an option `a` without argument. -/
theorem group_eq_separate (specs : List OptionSpec) (mode : Mode) (a : Char) (s : OptionSpec) (cs : Str)
    (r : List Str) (hf : findShort specs a = some s) (ha : s.takesArg = false) (hd : a ≠ '-')
    (hc : ∃ c0 cs', cs = c0 :: cs' ∧ c0 ≠ '-') :
    (parseArguments specs mode (('-' :: a :: cs) :: r)).view =
      (parseArguments specs mode (['-', a] :: ('-' :: cs) :: r)).view := by
  have := group_eq_separate_general specs mode [a] cs r
    (noArg_singleton hf ha) ⟨a, [], rfl, hd⟩ hc
  simpa using this

/-- ★ `-<pre>o<x>` ≡ `-<pre>o <x>` for an option `o` that takes an argument, after any cluster `pre` of
    options without argument.  Forced side conditions: `x ≠ ""` (`-o` alone takes the *next*
    argument), the cluster does not start with `-`, and the mode accepts attached arguments (under
    the `portable` option the attached form is rejected: `portable_rejects_attached`). -/
theorem attached_eq_next_general (specs : List OptionSpec) (mode : Mode) (pre x : Str) (o : Char)
    (s : OptionSpec) (r : List Str)
    (hpre : ∀ c ∈ pre, NoArg specs c) (hf : findShort specs o = some s) (ha : s.takesArg = true)
    (hx : x ≠ []) (hm : mode.optionArgumentsInSameField = true)
    (hh : ∃ c0 cs', pre ++ [o] = c0 :: cs' ∧ c0 ≠ '-') :
    (parseArguments specs mode (('-' :: (pre ++ o :: x)) :: r)).view =
      (parseArguments specs mode (('-' :: (pre ++ [o])) :: x :: r)).view := by
  rw [parse_refines_spec, parse_refines_spec]; exact spec_attached_eq_next_general specs mode pre x o s r hpre hf ha hx hm hh

/-- ★ `attached_eq_next` in the form of DESIGN.md: `-o<x>` ≡ `-o <x>`. -/
theorem attached_eq_next (specs : List OptionSpec) (mode : Mode) (o : Char) (s : OptionSpec) (x : Str)
    (r : List Str) (hf : findShort specs o = some s) (ha : s.takesArg = true) (hx : x ≠ [])
    (hd : o ≠ '-') (hm : mode.optionArgumentsInSameField = true) :
    (parseArguments specs mode (('-' :: o :: x) :: r)).view =
      (parseArguments specs mode (['-', o] :: x :: r)).view := by
  have := attached_eq_next_general specs mode [] x o s r (by simp) hf ha hx hm ⟨o, [], rfl, hd⟩
  simpa using this

/-- ★ After a prefix that consists of options only, `--` ends option parsing: everything behind it,
    whatever it looks like, is an operand, and the separator itself is not.  (The hypothesis is
    forced: after `-o` with a pending argument, `--` *is* that argument.) -/
theorem dashdash_ends (specs : List OptionSpec) (mode : Mode) (pre : List Str) (os : List Occurrence)
    (xs : List Str) (hpre : OptionsOnly specs mode pre os) :
    parseArguments specs mode (pre ++ dashdash :: xs) = .ok (os, xs) := by
  unfold parseArguments
  rw [optLoop_append specs mode pre _ os hpre, optLoop_cons,
    step_stop _ _ _ _ (by decide) (by decide)]
  simp [prepend, finish, skipSeparator]

/-- ★ The first operand ends option parsing (guideline 9; no options after operands): it and everything
    behind it are the operands. -/
theorem first_operand_ends (specs : List OptionSpec) (mode : Mode) (pre : List Str) (os : List Occurrence)
    (x : Str) (xs : List Str) (hpre : OptionsOnly specs mode pre os) (hx : IsOperand x) :
    parseArguments specs mode (pre ++ x :: xs) = .ok (os, x :: xs) := by
  unfold parseArguments
  rw [optLoop_append specs mode pre _ os hpre, optLoop_cons, step_by_kind, (argKind_operand hx).1]
  simp [prepend, finish, skipSeparator, dashdash, (argKind_operand hx).2]

/-- ★ A long option may be abbreviated to any prefix `p` that denotes it unambiguously: `--p` (and
    `--p=x`) is the same as `--l` (`--l=x`) with the full name `l`.  Forced side conditions: `p ≠ ""`
    (`--` is the separator), `l` contains no `=` (the name of `--l` ends at the first `=`; the
    documentation of `OptionSpec::long` excludes such names), `t` is empty or `=…`. -/
theorem long_prefix (specs : List OptionSpec) (mode : Mode) (p l t : Str) (s : OptionSpec) (r : List Str)
    (hu : Denotes specs p s) (hl : s.long = some l) (hp : p ≠ []) (heq : '=' ∉ l)
    (ht : t = [] ∨ t.head? = some '=') :
    parseArguments specs mode (('-' :: '-' :: (p ++ t)) :: r) =
      parseArguments specs mode (('-' :: '-' :: (l ++ t)) :: r) := by
  have hfull : Denotes specs l s := candidates_full specs p l s hu hl
  have hpl : p.isPrefixOf l = true := by
    simpa [Spec.abbreviates, hl] using (candidates_mem specs p s hu).2
  have hpre := List.isPrefixOf_iff_prefix.mp hpl
  have hpeq : '=' ∉ p := fun h => heq (hpre.subset h)
  have hlne : l ≠ [] := by
    intro h; subst h
    exact hp (List.prefix_nil.mp hpre)
  unfold parseArguments
  congr 1
  rw [optLoop_cons, optLoop_cons, step_longform specs mode p t _ (by simp [hp]) hpeq ht,
    step_longform specs mode l t _ (by simp [hlne]) heq ht, longMatch_ok_iff.mpr hu, longMatch_ok_iff.mpr hfull]
  cases longResult mode (.ok s) t r.head? with
  | error e => rfl
  | ok q => cases q; rfl

/-- ★ `--l=x` ≡ `--l x` whenever the name `l` (full or abbreviated) can only denote an option that
    takes an argument.  Forced side conditions: `l ≠ ""`, no `=` in `l`.  (If `l` is unknown or
    ambiguous both spellings fail identically; if it denotes an option without argument, `--l=x`
    is rejected — `malformed_unexpected_argument` — while `--l x` has the operand `x`.) -/
theorem long_eq_arg (specs : List OptionSpec) (mode : Mode) (l x : Str) (r : List Str)
    (hl : l ≠ []) (heq : '=' ∉ l) (ha : ∀ s, Denotes specs l s → s.takesArg = true) :
    parseArguments specs mode (('-' :: '-' :: (l ++ '=' :: x)) :: r) =
      parseArguments specs mode (('-' :: '-' :: l) :: x :: r) := by
  unfold parseArguments
  congr 1
  have e2 : ('-' :: '-' :: l) = '-' :: '-' :: (l ++ []) := by simp
  rw [optLoop_cons, optLoop_cons, e2, step_longform specs mode l ('=' :: x) _ (by simp) heq (Or.inr rfl),
    step_longform specs mode l [] _ (by simp [hl]) heq (Or.inl rfl)]
  cases hm : longMatch specs l with
  | error ms => rfl
  | ok s =>
    have hs : s.takesArg = true := ha s (longMatch_ok_iff.mp hm)
    by_cases hb : LongAllowed mode s
    · -- both spellings give the option with the argument `x`; the second takes it from the next argument
      rw [longResult_arg_attached mode s _ _ hb hs (by simp), List.head?_cons, longResult_arg_next mode s x hb hs]
      rfl
    · rw [longResult_blocked mode s _ _ hb, longResult_blocked mode s _ _ hb]; rfl

/-! ## malformed invocations are rejected

  The result is an `error`: no option and no operand is delivered — not even those of the valid
  prefix `pre` — so the built-in has nothing to act on (`no effect`).  Every statement holds at any
  position: after an arbitrary options-only prefix `pre`, and (for short options) inside a cluster
  behind any accepted flags `g`. -/

/-- ★ unknown short option -/
theorem malformed_unknown_short (specs : List OptionSpec) (mode : Mode) (pre : List Str)
    (os : List Occurrence) (g cs : Str) (c : Char) (r : List Str)
    (hpre : OptionsOnly specs mode pre os) (hg : ∀ d ∈ g, IsFlag specs mode d)
    (hc : findShort specs c = none) (hh : ∃ c0 cs', g ++ [c] = c0 :: cs' ∧ c0 ≠ '-') :
    parseArguments specs mode (pre ++ ('-' :: (g ++ c :: cs)) :: r) = .error (.unknownShort c) := by
  refine malformed_at specs mode _ r hpre ?_
  rw [tokenDefect_cluster _ _ _ _ (head_ne_dash_append g c cs hh), cluster_flags_defect _ _ _ _ g hg, cluster_cons,
    show specs.find? (fun s => s.short == some c) = none from hc]
  rfl

/-- ★ unknown long option: no option is named `n` and `n` abbreviates none -/
theorem malformed_unknown_long (specs : List OptionSpec) (mode : Mode) (pre : List Str)
    (os : List Occurrence) (n t : Str) (r : List Str)
    (hpre : OptionsOnly specs mode pre os) (hc : Spec.candidates specs n = [])
    (hne : n ++ t ≠ []) (hn : '=' ∉ n) (ht : t = [] ∨ t.head? = some '=') :
    parseArguments specs mode (pre ++ ('-' :: '-' :: (n ++ t)) :: r) = .error .unknownLong := by
  refine malformed_at specs mode _ r hpre ?_
  rw [tokenDefect_long _ _ _ _ _ hne hn ht, hc]; rfl

/-- ★ ambiguous long option: `n` is no option's name and abbreviates two or more (`ss`, in table order) -/
theorem malformed_ambiguous_long (specs : List OptionSpec) (mode : Mode) (pre : List Str)
    (os : List Occurrence) (n t : Str) (r : List Str) (ss : List OptionSpec)
    (hpre : OptionsOnly specs mode pre os) (hc : Spec.candidates specs n = ss) (h2 : 2 ≤ ss.length)
    (hne : n ++ t ≠ []) (hn : '=' ∉ n) (ht : t = [] ∨ t.head? = some '=') :
    parseArguments specs mode (pre ++ ('-' :: '-' :: (n ++ t)) :: r) = .error (.ambiguousLong ss) := by
  refine malformed_at specs mode _ r hpre ?_
  rw [tokenDefect_long _ _ _ _ _ hne hn ht, hc]
  match ss, h2 with
  | a :: b :: rest, _ => rfl

/-- ★ missing option-argument, short option: the option that takes an argument is the last character of
    the last command-line argument -/
theorem malformed_missing_argument_short (specs : List OptionSpec) (mode : Mode) (pre : List Str)
    (os : List Occurrence) (g : Str) (o : Char) (s : OptionSpec)
    (hpre : OptionsOnly specs mode pre os) (hg : ∀ d ∈ g, IsFlag specs mode d)
    (hf : findShort specs o = some s) (ha : s.takesArg = true)
    (he : s.extension = true → mode.extensionOptions = true)
    (hh : ∃ c0 cs', g ++ [o] = c0 :: cs' ∧ c0 ≠ '-') :
    parseArguments specs mode (pre ++ [('-' :: (g ++ [o]))]) = .error (.missingArgument s) := by
  refine malformed_at specs mode _ [] hpre ?_
  rw [tokenDefect_cluster _ _ _ _ hh, cluster_flags_defect _ _ _ _ g hg, cluster_cons_allowed specs mode [] hf he]
  simp [defectOf, ha]

/-- ★ missing option-argument, long option (no `=`, nothing follows) -/
theorem malformed_missing_argument_long (specs : List OptionSpec) (mode : Mode) (pre : List Str)
    (os : List Occurrence) (n : Str) (s : OptionSpec)
    (hpre : OptionsOnly specs mode pre os) (hd : Denotes specs n s) (ha : s.takesArg = true)
    (hm : LongAllowed mode s) (hne : n ≠ []) (hn : '=' ∉ n) :
    parseArguments specs mode (pre ++ [('-' :: '-' :: n)]) = .error (.missingArgument s) := by
  refine malformed_at specs mode _ [] hpre ?_
  have := tokenDefect_long specs mode n [] none (by simp [hne]) hn (Or.inl rfl)
  rw [List.append_nil] at this
  rw [List.head?_nil, this, show Spec.candidates specs n = [s] from hd]
  simp [defectOf, longSpecResult, longOne_allowed hm, ha]

/-- ★ unexpected `=arg` on a long option that takes no argument -/
theorem malformed_unexpected_argument (specs : List OptionSpec) (mode : Mode) (pre : List Str)
    (os : List Occurrence) (n x : Str) (s : OptionSpec) (r : List Str)
    (hpre : OptionsOnly specs mode pre os) (hd : Denotes specs n s) (ha : s.takesArg = false)
    (hm : LongAllowed mode s) (hn : '=' ∉ n) :
    parseArguments specs mode (pre ++ ('-' :: '-' :: (n ++ '=' :: x)) :: r) = .error (.unexpectedArgument s) := by
  refine malformed_at specs mode _ r hpre ?_
  rw [tokenDefect_long _ _ _ _ _ (by simp) hn (Or.inr rfl), show Spec.candidates specs n = [s] from hd]
  simp [defectOf, longSpecResult, longOne_allowed hm, ha]

/-! ## what the `portable` option rejects (by design, not a violation)

  `Mode::with_env` gives `Mode.portable` (all three extensions off) when the shell option `portable`
  is on.  The statements are for any mode with the respective extension off. -/

/-- ★ every long option (full, abbreviated, with or without `=arg`) is rejected when long names are off,
    and so is a long option marked as an extension when extension options are off -/
theorem portable_rejects_long (specs : List OptionSpec) (mode : Mode) (pre : List Str)
    (os : List Occurrence) (n t : Str) (s : OptionSpec) (r : List Str)
    (hpre : OptionsOnly specs mode pre os) (hd : Denotes specs n s) (hm : ¬ LongAllowed mode s)
    (hne : n ++ t ≠ []) (hn : '=' ∉ n) (ht : t = [] ∨ t.head? = some '=') :
    parseArguments specs mode (pre ++ ('-' :: '-' :: (n ++ t)) :: r) = .error (.nonPortableLong s) := by
  refine malformed_at specs mode _ r hpre ?_
  rw [tokenDefect_long _ _ _ _ _ hne hn ht, show Spec.candidates specs n = [s] from hd]
  simp only [longSpecResult, longOne_blocked hm]; rfl

/-- ★ an option-argument attached to its short option is rejected when that extension is off -/
theorem portable_rejects_attached (specs : List OptionSpec) (mode : Mode) (pre : List Str)
    (os : List Occurrence) (g x : Str) (o : Char) (s : OptionSpec) (r : List Str)
    (hpre : OptionsOnly specs mode pre os) (hg : ∀ d ∈ g, IsFlag specs mode d)
    (hf : findShort specs o = some s) (ha : s.takesArg = true)
    (he : s.extension = true → mode.extensionOptions = true) (hx : x ≠ [])
    (hm : mode.optionArgumentsInSameField = false)
    (hh : ∃ c0 cs', g ++ [o] = c0 :: cs' ∧ c0 ≠ '-') :
    parseArguments specs mode (pre ++ ('-' :: (g ++ o :: x)) :: r) = .error (.unseparatedArgument s) := by
  refine malformed_at specs mode _ r hpre ?_
  rw [tokenDefect_cluster _ _ _ _ (head_ne_dash_append g o x hh), cluster_flags_defect _ _ _ _ g hg,
    cluster_cons_allowed specs mode x hf he]
  simp [defectOf, ha, hx, hm]

/-- ★ a short option marked as an extension is rejected when extension options are off -/
theorem portable_rejects_extension (specs : List OptionSpec) (mode : Mode) (pre : List Str)
    (os : List Occurrence) (g cs : Str) (c : Char) (s : OptionSpec) (r : List Str)
    (hpre : OptionsOnly specs mode pre os) (hg : ∀ d ∈ g, IsFlag specs mode d)
    (hf : findShort specs c = some s) (hx : s.extension = true) (hm : mode.extensionOptions = false)
    (hh : ∃ c0 cs', g ++ [c] = c0 :: cs' ∧ c0 ≠ '-') :
    parseArguments specs mode (pre ++ ('-' :: (g ++ c :: cs)) :: r) = .error (.nonPortableShort c s) := by
  refine malformed_at specs mode _ r hpre ?_
  rw [tokenDefect_cluster _ _ _ _ (head_ne_dash_append g c cs hh), cluster_flags_defect _ _ _ _ g hg, cluster_cons,
    show specs.find? (fun s => s.short == some c) = some s from hf]
  simp only [if_pos (show s.extension = true ∧ ¬ mode.extensionOptions = true from ⟨hx, by simp [hm]⟩)]; rfl

/-- the hypothesis of the direct theorems (`OptionsOnly`, on the Impl loop) gives the Spec-side one -/
theorem optionsOnly_transfers (specs : List OptionSpec) (mode : Mode) (pre : List Str) (os : List Occurrence)
    (h : OptionsOnly specs mode pre os) : SpecOptionsOnly specs mode pre (os.map Occurrence.view) := by
  intro ys
  rw [← optLoop_refines_run, ← optLoop_refines_run, optLoop_append specs mode pre ys os h, view_prepend, finishV_cons]

/-- ☆ `dashdash_ends` again, as a corollary of the refinement and the Spec-side law `spec_dashdash_ends`.
    `SpecOptionsOnly pre vs`: the reference parser treats `pre` as nothing but the options `vs`, whatever follows. -/
theorem dashdash_ends_via_spec (specs : List OptionSpec) (mode : Mode) (pre : List Str) (vs : List VOpt)
    (xs : List Str) (h : SpecOptionsOnly specs mode pre vs) :
    (parseArguments specs mode (pre ++ dashdash :: xs)).view = .ok (vs, xs) := by
  rw [parse_refines_spec]; exact spec_dashdash_ends specs mode pre vs xs h

/-- ☆ `first_operand_ends` again, via the Spec -/
theorem first_operand_ends_via_spec (specs : List OptionSpec) (mode : Mode) (pre : List Str) (vs : List VOpt)
    (x : Str) (xs : List Str) (h : SpecOptionsOnly specs mode pre vs) (hx : IsOperand x) :
    (parseArguments specs mode (pre ++ x :: xs)).view = .ok (vs, x :: xs) := by
  rw [parse_refines_spec]; exact spec_first_operand_ends specs mode pre vs x xs h hx

/-- ☆ `-a<cs>` ≡ `-a -<cs>` modulo spelling: a law of the reference parser (`spec_group_eq_separate_general`), carried over
    by the refinement -/
theorem group_eq_separate_via_spec (specs : List OptionSpec) (mode : Mode) (a : Char) (s : OptionSpec)
    (cs : Str) (r : List Str) (hf : findShort specs a = some s) (ha : s.takesArg = false) (hd : a ≠ '-')
    (hc : ∃ c0 cs', cs = c0 :: cs' ∧ c0 ≠ '-') :
    (parseArguments specs mode (('-' :: a :: cs) :: r)).view =
      (parseArguments specs mode (['-', a] :: ('-' :: cs) :: r)).view := by
  exact group_eq_separate specs mode a s cs r hf ha hd hc

/-- ☆ `long_eq_arg` again (modulo spelling), via the Spec (`spec_long_eq_arg`) -/
theorem long_eq_arg_via_spec (specs : List OptionSpec) (mode : Mode) (l x : Str) (r : List Str)
    (hl : l ≠ []) (heq : '=' ∉ l) (ha : ∀ s, Denotes specs l s → s.takesArg = true) :
    (parseArguments specs mode (('-' :: '-' :: (l ++ '=' :: x)) :: r)).view =
      (parseArguments specs mode (('-' :: '-' :: l) :: x :: r)).view := by
  rw [parse_refines_spec, parse_refines_spec]; exact spec_long_eq_arg specs mode l x r hl heq ha

/-! ## equivalent spellings: one invariance theorem

  `Spec.canon` (Canon.lean) rewrites a vector into its canonical spelling: clusters split into single
  letters, attached option-arguments (`-oX`, `--name=X`) moved to the next argument, abbreviated long
  names written in full.  Two vectors are *equivalent spellings* when they have the same canonical
  spelling. -/

/-- ★ For every option table, every argument vector and every mode that accepts attached
    option-arguments (under `portable` they are rejected: `portable_rejects_attached`): the canonical
    spelling parses like the vector itself — same options with the same arguments in the same order
    and the same operands, or the same error. -/
theorem canonical_spelling_same_parse (specs : List OptionSpec) (mode : Mode)
    (hm : mode.optionArgumentsInSameField = true) (args : List Str) :
    (parseArguments specs mode (Spec.canon specs args)).view = (parseArguments specs mode args).view := by
  rw [parse_refines_spec, parse_refines_spec]
  exact run_canon specs mode hm args

/-- ★ Equivalent spellings of an invocation parse alike.  (Grouped / separate letters, attached / separate
    option-arguments, abbreviated / full long names, `=arg` / next argument, and any mixture of them
    anywhere in the vector: all are instances, see the examples.) -/
theorem equivalent_spellings_same_parse (specs : List OptionSpec) (mode : Mode)
    (hm : mode.optionArgumentsInSameField = true) (a b : List Str) (h : Spec.canon specs a = Spec.canon specs b) :
    (parseArguments specs mode a).view = (parseArguments specs mode b).view := by
  rw [← canonical_spelling_same_parse specs mode hm a, ← canonical_spelling_same_parse specs mode hm b, h]

/-- ★ `Spec.canon` really produces the canonical spelling: if the vector is accepted (and the table
    respects the documented naming rules: no short name `-`, long names non-empty and without `=`),
    every option of the canonical spelling is written `-c` or `--fullname`, each followed by its
    argument as an argument of its own, up to `--` / the first operand. -/
theorem canon_is_canonical (specs : List OptionSpec) (mode : Mode) (hw : WellNamed specs) (args : List Str) (r)
    (h : (parseArguments specs mode args).view = .ok r) :
    Spec.isCanonical specs false (Spec.canon specs args) = true := by
  rw [parse_refines_spec] at h
  exact canon_isCanonical specs mode hw args r h

/-- ★ On canonical vectors `parse_arguments` is the ten-line reader `Spec.readCanon` (one token at a time:
    `-c`, `--fullname`, its argument if it takes one, `--`, operands). -/
theorem canonical_vectors_read_simply (specs : List OptionSpec) (mode : Mode) (v : List Str)
    (h : Spec.isCanonical specs false v = true) :
    (parseArguments specs mode v).view = Spec.readCanon specs mode v := by
  rw [parse_refines_spec]
  exact run_eq_readCanon specs mode v h

/-- ★ End to end: what `parse_arguments` delivers for an accepted vector is what the simple reader
    reads off its canonical spelling ("separate everything first, then read options until `--` or
    the first operand"). -/
theorem parse_is_read_of_canonical (specs : List OptionSpec) (mode : Mode)
    (hm : mode.optionArgumentsInSameField = true) (hw : WellNamed specs) (args : List Str) (r)
    (h : (parseArguments specs mode args).view = .ok r) :
    Spec.readCanon specs mode (Spec.canon specs args) = .ok r := by
  rw [← canonical_vectors_read_simply specs mode _ (canon_is_canonical specs mode hw args r h),
    canonical_spelling_same_parse specs mode hm, h]

/-- ★ `parse_arguments` fails with `e` **if and only if** the vector splits into a prefix that consists of
    accepted options only, one argument in option position whose defect is `e`, and a rest that is never
    looked at.  The defect (`tokenDefect`) is what the reference parser finds wrong with that one
    argument: an unknown letter in a cluster, a letter / name switched off by the mode, an attached
    argument while that is switched off, an unknown or ambiguous long name, `=arg` on an option
    without argument, or an option that needs an argument at the very end of the vector.
    "If": every malformed vector is rejected, with nothing delivered (not even the options of the valid
    prefix).  "Only if": nothing else is ever rejected — every other vector is accepted. -/
theorem malformed_iff (specs : List OptionSpec) (mode : Mode) (args : List Str) (e : ParseError) :
    parseArguments specs mode args = .error e ↔
      ∃ pre a r os, args = pre ++ a :: r ∧ OptionsOnly specs mode pre os ∧
        tokenDefect specs mode a r.head? = some e := by
  constructor
  · intro h
    have : optLoop specs mode args = .error e := by
      unfold parseArguments at h
      cases hl : optLoop specs mode args with
      | error e' => rw [hl] at h; simp [finish] at h; rw [h]
      | ok q => rw [hl] at h; cases q; simp [finish] at h
    exact optLoop_error_localised specs mode args e this
  · rintro ⟨pre, a, r, os, rfl, hpre, hdef⟩
    exact malformed_at specs mode a r hpre hdef

/-- ★ a vector is accepted exactly when no argument in option position has a defect -/
theorem accepted_iff_no_defect (specs : List OptionSpec) (mode : Mode) (args : List Str) :
    (∃ r, parseArguments specs mode args = .ok r) ↔
      ¬ ∃ pre a r os e, args = pre ++ a :: r ∧ OptionsOnly specs mode pre os ∧
        tokenDefect specs mode a r.head? = some e := by
  constructor
  · rintro ⟨r, hr⟩ ⟨pre, a, r', os, e, h1, h2, h3⟩
    have := (malformed_iff specs mode args e).mpr ⟨pre, a, r', os, h1, h2, h3⟩
    rw [hr] at this; cases this
  · intro h
    cases hp : parseArguments specs mode args with
    | ok r => exact ⟨r, rfl⟩
    | error e =>
      obtain ⟨pre, a, r, os, h1, h2, h3⟩ := (malformed_iff specs mode args e).mp hp
      exact absurd ⟨pre, a, r, os, e, h1, h2, h3⟩ h

/-- ☆ No generated table has two options with the same short name or the same long name, and every
    name is well formed (not `-`, not empty, no `=`). -/
theorem tables_no_duplicate_names :
    (Generated.ArgSpecs.all.all fun t => tableOk t.2) = true := by decide +kernel

/-- ☆ In every generated table each option is found by its own short name and denoted by its own
    full long name (so `long_prefix` and `long_eq_arg` apply to every long option of every built-in). -/
theorem tables_names_reach_their_option :
    (Generated.ArgSpecs.all.all fun t => tableReachable t.2) = true := by decide +kernel

/-- ☆ Static audit: `OptionOccurrence::spelling` is the only way a built-in could tell two spellings of
    one invocation apart.  Outside common/syntax.rs (and tests) it is read by `ulimit` only, which —
    solely while the `portable` option is on — rejects grouped option letters, as POSIX exempts
    `ulimit` from Utility Syntax Guideline 5.  A new reader breaks this theorem. -/
theorem spelling_readers_audited : Generated.ArgSpecs.spellingReaders = ["ulimit/syntax.rs"] := rfl

/-- `-a`, `-b` (flags), `-o`/`--output` (takes an argument), `--long`, `--lot` (flags),
    `-x`/`--extra` (extension flag) -/
def exT : List OptionSpec := [
  { short := some 'a' }, { short := some 'b' },
  { short := some 'o', long := some ['o','u','t','p','u','t'], takesArg := true },
  { long := some ['l','o','n','g'] }, { long := some ['l','o','t'] },
  { short := some 'x', long := some ['e','x','t','r','a'], extension := true }]

def exO : OptionSpec := { short := some 'o', long := some ['o','u','t','p','u','t'], takesArg := true }
def exX : OptionSpec := { short := some 'x', long := some ['e','x','t','r','a'], extension := true }
def exM := Mode.withExtensions

/-- `-ab X` ≡ `-a -b X` -/
example : (parseArguments exT exM [['-','a','b'], ['X']]).view =
    (parseArguments exT exM [['-','a'], ['-','b'], ['X']]).view :=
  group_eq_separate exT exM 'a' { short := some 'a' } ['b'] [['X']] (by decide) rfl (by decide) ⟨'b', [], rfl, by decide⟩
example : (parseArguments exT exM [['-','a','b'], ['X']]).view =
    .ok ([({ short := some 'a' }, none), ({ short := some 'b' }, none)], [['X']]) := rfl
/-- the side condition of `group_eq_separate` is forced: `-a-` is an error, `-a --` is not -/
example : parseArguments exT exM [['-','a','-']] = .error (.unknownShort '-') := rfl
example : (parseArguments exT exM [['-','a'], ['-','-']]).view = .ok ([({ short := some 'a' }, none)], []) := rfl

private theorem ex_noarg_ab : ∀ c ∈ ['a', 'b'], NoArg exT c := by
  intro c hc s hs
  simp at hc
  rcases hc with rfl | rfl
  · have : findShort exT 'a' = some { short := some 'a' } := by decide
    rw [this] at hs; cases hs; rfl
  · have : findShort exT 'b' = some { short := some 'b' } := by decide
    rw [this] at hs; cases hs; rfl

/-- `-abab` ≡ `-ab -ab` -/
example : (parseArguments exT exM [['-','a','b','a','b']]).view =
    (parseArguments exT exM [['-','a','b'], ['-','a','b']]).view :=
  group_eq_separate_general exT exM ['a','b'] ['a','b'] [] ex_noarg_ab ⟨'a', ['b'], rfl, by decide⟩
    ⟨'a', ['b'], rfl, by decide⟩

/-- `-oX Y` ≡ `-o X Y`, `-aboX` ≡ `-abo X` -/
example : (parseArguments exT exM [['-','o','X'], ['Y']]).view =
    (parseArguments exT exM [['-','o'], ['X'], ['Y']]).view :=
  attached_eq_next exT exM 'o' exO ['X'] [['Y']] (by decide) rfl (by decide) (by decide) rfl
example : (parseArguments exT exM [['-','a','b','o','X']]).view =
    (parseArguments exT exM [['-','a','b','o'], ['X']]).view :=
  attached_eq_next_general exT exM ['a','b'] ['X'] 'o' exO [] ex_noarg_ab (by decide) rfl (by decide) rfl
    ⟨'a', ['b','o'], rfl, by decide⟩
example : (parseArguments exT exM [['-','a','b','o','X']]).view =
    .ok ([({ short := some 'a' }, none), ({ short := some 'b' }, none), (exO, some ['X'])], []) := rfl
/-- an option-argument may look like anything, also like the separator -/
example : (parseArguments exT exM [['-','o'], ['-','-'], ['-','a']]).view =
    .ok ([(exO, some ['-','-']), ({ short := some 'a' }, none)], []) := rfl

/-- `-a -o X -- -b --long` : everything after `--` is an operand -/
example : OptionsOnly exT exM [['-','a'], ['-','o'], ['X']]
    [⟨{ short := some 'a' }, .short 1, none⟩, ⟨exO, .short 1, some ['X']⟩] := rfl
example : parseArguments exT exM ([['-','a'], ['-','o'], ['X']] ++ dashdash :: [['-','b'], ['-','-','l','o','n','g']]) =
    .ok ([⟨{ short := some 'a' }, .short 1, none⟩, ⟨exO, .short 1, some ['X']⟩], [['-','b'], ['-','-','l','o','n','g']]) :=
  dashdash_ends exT exM _ _ _ rfl
/-- `-a X -b` : `-b` is an operand; `-` alone is an operand -/
example : parseArguments exT exM ([['-','a']] ++ ['X'] :: [['-','b']]) =
    .ok ([⟨{ short := some 'a' }, .short 1, none⟩], [['X'], ['-','b']]) :=
  first_operand_ends exT exM _ _ _ _ rfl (Or.inl (by decide))
example : parseArguments exT exM ([['-','a']] ++ ['-'] :: [['-','b']]) =
    .ok ([⟨{ short := some 'a' }, .short 1, none⟩], [['-'], ['-','b']]) :=
  first_operand_ends exT exM _ _ _ _ rfl (Or.inr rfl)

/-- `--ou=X` ≡ `--output=X`; `--o` denotes `--output`; `--lo` is ambiguous; `--lon` denotes `--long` -/
example : Denotes exT ['o','u'] exO := by decide
example : Denotes exT ['l','o','n'] { long := some ['l','o','n','g'] } := by decide
example : parseArguments exT exM [['-','-','o','u','=','X'], ['Y']] =
    parseArguments exT exM [['-','-','o','u','t','p','u','t','=','X'], ['Y']] :=
  long_prefix exT exM ['o','u'] ['o','u','t','p','u','t'] ['=','X'] exO [['Y']] (by decide) rfl (by decide)
    (by decide) (Or.inr rfl)
example : longMatch exT ['l','o'] = .error [{ long := some ['l','o','n','g'] }, { long := some ['l','o','t'] }] := rfl
/-- `--ou=X` ≡ `--ou X` -/
example : parseArguments exT exM [['-','-','o','u','=','X'], ['Y']] =
    parseArguments exT exM [['-','-','o','u'], ['X'], ['Y']] :=
  long_eq_arg exT exM ['o','u'] ['X'] [['Y']] (by decide) (by decide)
    (by intro s h; have h' : Denotes exT ['o','u'] exO := by decide
        unfold Denotes at h h'; rw [h'] at h; cases h; rfl)
example : (parseArguments exT exM [['-','-','o','u','=','X'], ['Y']]).view = .ok ([(exO, some ['X'])], [['Y']]) := rfl

/-- malformed: `-a -bZ`, `--nope`, `--lo`, `-a -bo`, `--output`, `--long=1` -/
private theorem ex_flag_b : ∀ d ∈ ['b'], IsFlag exT exM d := by
  intro d hd; simp at hd; subst hd
  exact ⟨{ short := some 'b' }, by decide, rfl, by decide⟩
example : parseArguments exT exM ([['-','a']] ++ ['-','b','Z','a'] :: [['X']]) = .error (.unknownShort 'Z') :=
  malformed_unknown_short exT exM _ _ ['b'] ['a'] 'Z' _ (show OptionsOnly exT exM [['-','a']] _ from rfl) ex_flag_b
    (by decide) ⟨'b', ['Z'], rfl, by decide⟩
example : parseArguments exT exM ([['-','a']] ++ ['-','-','n','o','p','e'] :: [['X']]) = .error .unknownLong :=
  malformed_unknown_long exT exM _ _ ['n','o','p','e'] [] _ (show OptionsOnly exT exM [['-','a']] _ from rfl)
    (by decide) (by decide) (by decide) (Or.inl rfl)
example : parseArguments exT exM ([['-','a']] ++ ['-','-','l','o'] :: [['X']]) =
    .error (.ambiguousLong [{ long := some ['l','o','n','g'] }, { long := some ['l','o','t'] }]) :=
  malformed_ambiguous_long exT exM _ _ ['l','o'] [] _ _ (show OptionsOnly exT exM [['-','a']] _ from rfl)
    (by decide) (by decide) (by decide) (by decide) (Or.inl rfl)
example : parseArguments exT exM ([['-','a']] ++ [['-','b','o']]) = .error (.missingArgument exO) :=
  malformed_missing_argument_short exT exM _ _ ['b'] 'o' exO (show OptionsOnly exT exM [['-','a']] _ from rfl)
    ex_flag_b (by decide) rfl (by decide) ⟨'b', ['o'], rfl, by decide⟩
example : parseArguments exT exM ([['-','a']] ++ [['-','-','o','u','t']]) = .error (.missingArgument exO) :=
  malformed_missing_argument_long exT exM _ _ ['o','u','t'] exO (show OptionsOnly exT exM [['-','a']] _ from rfl)
    (by decide) rfl ⟨rfl, by decide⟩ (by decide) (by decide)
example : parseArguments exT exM ([['-','a']] ++ ['-','-','l','o','n','g','=','1'] :: []) =
    .error (.unexpectedArgument { long := some ['l','o','n','g'] }) :=
  malformed_unexpected_argument exT exM _ _ ['l','o','n','g'] ['1'] _ [] (show OptionsOnly exT exM [['-','a']] _ from rfl)
    (by decide) rfl ⟨rfl, by decide⟩ (by decide)

/-- under the `portable` option: `--long`, `-oX`, `-x` are rejected (and `-o X`, `-ab` still accepted) -/
example : parseArguments exT Mode.portable ([['-','a']] ++ ['-','-','l','o','n','g'] :: []) =
    .error (.nonPortableLong { long := some ['l','o','n','g'] }) :=
  portable_rejects_long exT Mode.portable _ _ ['l','o','n','g'] [] _ [] (show OptionsOnly exT Mode.portable [['-','a']] _ from rfl)
    (by decide) (by intro h; exact absurd h.1 (by decide)) (by decide) (by decide) (Or.inl rfl)
example : parseArguments exT Mode.portable ([['-','a']] ++ ['-','o','X'] :: []) = .error (.unseparatedArgument exO) :=
  portable_rejects_attached exT Mode.portable _ _ [] ['X'] 'o' exO [] (show OptionsOnly exT Mode.portable [['-','a']] _ from rfl)
    (by simp) (by decide) rfl (by decide) (by decide) rfl ⟨'o', [], rfl, by decide⟩
example : parseArguments exT Mode.portable ([['-','a']] ++ ['-','x'] :: []) = .error (.nonPortableShort 'x' exX) :=
  portable_rejects_extension exT Mode.portable _ _ [] [] 'x' exX [] (show OptionsOnly exT Mode.portable [['-','a']] _ from rfl)
    (by simp) (by decide) rfl rfl ⟨'x', [], rfl, by decide⟩
example : (parseArguments exT Mode.portable [['-','a','b'], ['-','o'], ['X'], ['Y']]).view =
    .ok ([({ short := some 'a' }, none), ({ short := some 'b' }, none), (exO, some ['X'])], [['Y']]) := rfl

/-- refinement on a concrete vector, and the Spec-side hypothesis met by `-a -o X` -/
example : Spec.parse exT exM [['-','a','b','o','X'], ['-','-','o','u','=','Y'], ['-','-'], ['-','a']] =
    .ok ([({ short := some 'a' }, none), ({ short := some 'b' }, none), (exO, some ['X']), (exO, some ['Y'])],
      [['-','a']]) := rfl
example : SpecOptionsOnly exT exM [['-','a'], ['-','o'], ['X']] [({ short := some 'a' }, none), (exO, some ['X'])] :=
  optionsOnly_transfers exT exM _ [⟨{ short := some 'a' }, .short 1, none⟩, ⟨exO, .short 1, some ['X']⟩] rfl
example : (parseArguments exT exM ([['-','a'], ['-','o'], ['X']] ++ dashdash :: [['-','b']])).view =
    .ok ([({ short := some 'a' }, none), (exO, some ['X'])], [['-','b']]) :=
  dashdash_ends_via_spec exT exM _ _ _
    (optionsOnly_transfers exT exM _ [⟨{ short := some 'a' }, .short 1, none⟩, ⟨exO, .short 1, some ['X']⟩] rfl)
example : (parseArguments exT exM ([['-','a']] ++ ['X'] :: [['-','b']])).view =
    .ok ([({ short := some 'a' }, none)], [['X'], ['-','b']]) :=
  first_operand_ends_via_spec exT exM _ _ _ _
    (optionsOnly_transfers exT exM _ [⟨{ short := some 'a' }, .short 1, none⟩] rfl) (Or.inl (by decide))
example : (parseArguments exT exM [['-','a','b'], ['X']]).view =
    (parseArguments exT exM [['-','a'], ['-','b'], ['X']]).view :=
  group_eq_separate_via_spec exT exM 'a' { short := some 'a' } ['b'] [['X']] (by decide) rfl (by decide)
    ⟨'b', [], rfl, by decide⟩
example : (parseArguments exT exM [['-','-','o','u','=','X'], ['Y']]).view =
    (parseArguments exT exM [['-','-','o','u'], ['X'], ['Y']]).view :=
  long_eq_arg_via_spec exT exM ['o','u'] ['X'] [['Y']] (by decide) (by decide)
    (by intro s h; have h' : Denotes exT ['o','u'] exO := by decide
        unfold Denotes at h h'; rw [h'] at h; cases h; rfl)

/-- equivalent spellings, anywhere in the vector: `-abo X --lon --ou=Y -- -a` ≡ `-a -b -oX --long --output Y -- -a` -/
example : Spec.canon exT [['-','a','b','o'], ['X'], ['-','-','l','o','n'], ['-','-','o','u','=','Y'], ['-','-'], ['-','a']] =
    [['-','a'], ['-','b'], ['-','o'], ['X'], ['-','-','l','o','n','g'], ['-','-','o','u','t','p','u','t'], ['Y'], ['-','-'], ['-','a']] := by
  decide
example : (parseArguments exT exM [['-','a','b','o'], ['X'], ['-','-','l','o','n'], ['-','-','o','u','=','Y'], ['-','-'], ['-','a']]).view =
    (parseArguments exT exM [['-','a'], ['-','b'], ['-','o','X'], ['-','-','l','o','n','g'], ['-','-','o','u','t','p','u','t'], ['Y'], ['-','-'], ['-','a']]).view :=
  equivalent_spellings_same_parse exT exM rfl _ _ (by decide)
/-- an abbreviation with an attached argument (`--lo=X` where `lo` abbreviates the only `lo…` option) -/
def exT2 : List OptionSpec := [{ short := some 'l', long := some ['l','o','n','g'], takesArg := true }, { short := some 'a' }]
example : Spec.canon exT2 [['-','-','l','o','=','X'], ['Y']] = [['-','-','l','o','n','g'], ['X'], ['Y']] := by decide
example : (parseArguments exT2 exM [['-','-','l','o','=','X'], ['Y']]).view =
    (parseArguments exT2 exM [['-','-','l','o','n','g'], ['X'], ['Y']]).view :=
  equivalent_spellings_same_parse exT2 exM rfl _ _ (by decide)
example : (parseArguments exT2 exM [['-','-','l','o','=','X'], ['Y']]).view =
    .ok ([({ short := some 'l', long := some ['l','o','n','g'], takesArg := true }, some ['X'])], [['Y']]) := rfl
/-- malformed tokens are left alone; a letter is not split from a following `-` -/
example : Spec.canon exT [['-','a','Z','b']] = [['-','a'], ['-','Z','b']] := by decide
example : Spec.canon exT [['-','a','-','b']] = [['-','a','-','b']] := by decide
example : Spec.canon exT [['-','-','l','o']] = [['-','-','l','o']] := by decide
/-- the naming rules hold for the example table; the canonical spelling is canonical and read by the simple reader -/
theorem exT_wellNamed : WellNamed exT := by
  intro s hs
  simp [exT] at hs
  rcases hs with rfl | rfl | rfl | rfl | rfl | rfl <;> refine ⟨by decide, ?_⟩ <;> intro l hl <;> cases hl <;> decide
example : Spec.isCanonical exT false (Spec.canon exT [['-','a','b','o','X'], ['-','-','l','o','n'], ['Y']]) = true := by decide
example : Spec.readCanon exT exM (Spec.canon exT [['-','a','b','o','X'], ['-','-','l','o','n'], ['Y']]) =
    .ok ([({ short := some 'a' }, none), ({ short := some 'b' }, none), (exO, some ['X']), ({ long := some ['l','o','n','g'] }, none)], [['Y']]) :=
  parse_is_read_of_canonical exT exM rfl exT_wellNamed _ _ rfl

/-- defects of single arguments, and a rejected vector located by `malformed_iff` -/
example : tokenDefect exT exM ['-','a','Z','b'] none = some (.unknownShort 'Z') := by rfl
example : tokenDefect exT exM ['-','-','l','o'] none =
    some (.ambiguousLong [{ long := some ['l','o','n','g'] }, { long := some ['l','o','t'] }]) := by rfl
example : tokenDefect exT exM ['-','a','o'] none = some (.missingArgument exO) := by rfl
example : tokenDefect exT exM ['-','a','o'] (some ['X']) = none := by rfl
example : tokenDefect exT Mode.portable ['-','o','X'] none = some (.unseparatedArgument exO) := by rfl
example : parseArguments exT exM ([['-','a'], ['-','o'], ['X']] ++ ['-','b','Z'] :: [['-','a']]) = .error (.unknownShort 'Z') :=
  (malformed_iff exT exM _ _).mpr ⟨[['-','a'], ['-','o'], ['X']], ['-','b','Z'], [['-','a']], _, rfl, rfl, by rfl⟩

end YashModel.Args
