/-
  C01 — a word made only of literal characters, backslash escapes and quotes expands
  (declaratively, hence in the model) to one field of characters of literal origin (`Good`; such a field is never split:
  `protected_of_origin` in `ArgLemmas`) whose quote removal is the enclosed text.
-/
import YashModel.Expansion.PhraseLemmas
namespace YashModel.Expansion

/-- what source text `s` without expansions becomes: every character of `cs` has origin `literal` (the quoting
    characters around and the backslashes included), and quote removal of `cs` gives `s` back -/
def Good (cs : List AttrChar) (s : List Char) : Prop :=
  (∀ c ∈ cs, c.origin = .literal) ∧ removeQuotesAndStrip cs = s

theorem Good.append {a b : List AttrChar} {s t : List Char} (ha : Good a s) (hb : Good b t) :
    Good (a ++ b) (s ++ t) := by
  refine ⟨?_, ?_⟩
  · intro c hc
    rcases List.mem_append.mp hc with h | h
    · exact ha.1 c h
    · exact hb.1 c h
  · rw [removeQuotesAndStrip_append, ha.2, hb.2]

theorem Good.quoteField {cs : List AttrChar} {s : List Char} (h : Good cs s) :
    Good (quoteField cs) s := by
  refine ⟨?_, ?_⟩
  · intro c hc
    simp only [YashModel.Expansion.quoteField, List.mem_append, List.mem_singleton, List.mem_map] at hc
    rcases hc with (hc | ⟨d, hd, rfl⟩) | hc
    · subst hc; rfl
    · exact h.1 d hd
    · subst hc; rfl
  · rw [removeQuotes_quoteField, h.2]

theorem Good.quoted (pre : List AttrChar) (s : List Char)
    (hpre : ∀ c ∈ pre, c.origin = .literal ∧ c.isQuoting = true) :
    Good (pre ++ s.map quotedLit ++ [quoteChar '\'']) s := by
  refine ⟨?_, ?_⟩
  · intro c hc
    simp only [List.mem_append, List.mem_singleton, List.mem_map] at hc
    rcases hc with (hc | ⟨d, _, rfl⟩) | hc
    · exact (hpre c hc).1
    · rfl
    · subst hc; rfl
  · rw [removeQuotesAndStrip_append, removeQuotesAndStrip_append, removeQuotesAndStrip_of_quoting fun c hc => (hpre c hc).2,
      removeQuotesAndStrip_map quotedLit (fun _ => ⟨rfl, rfl⟩),
      removeQuotesAndStrip_of_quoting (cs := [quoteChar '\'']) (by simp [quoteChar])]
    simp

theorem Good.nil : Good [] [] := ⟨fun _ h => absurd h List.not_mem_nil, rfl⟩

theorem text_plain_cons {u : TextUnit} {t : Text} {s : List Char} (h : (Text.cons u t).plain = some s) :
    ∃ c r, u.plain = some c ∧ t.plain = some r ∧ s = c :: r := by
  rw [Text.plain] at h
  cases hu : u.plain <;> cases ht : t.plain <;> simp only [hu, ht, reduceCtorEq] at h
  cases h; exact ⟨_, _, rfl, rfl, rfl⟩

theorem word_plain_cons {u : WordUnit} {w : Word} {s : List Char} (h : (Word.cons u w).plain = some s) :
    ∃ a r, u.plain = some a ∧ w.plain = some r ∧ s = a ++ r := by
  rw [Word.plain] at h
  cases hu : u.plain <;> cases hw : w.plain <;> simp only [hu, hw, reduceCtorEq] at h
  cases h; exact ⟨_, _, rfl, rfl, rfl⟩

theorem posixTextUnit_plain (env : Env) (ws : Bool) (u : TextUnit) (c : Char) (h : u.plain = some c) :
    ∃ cs, posixTextUnit env ws u = (env, .ok [cs]) ∧ Good cs [c] ∧ cs ≠ [] := by
  cases u with
  | lit d => cases h; exact ⟨_, rfl, ⟨by simp, rfl⟩, by simp⟩
  | bs d => cases h; exact ⟨_, rfl, ⟨by simp [quoteChar, quotedLit], rfl⟩, by simp⟩
  | _ => cases h

theorem posixTextGo_plain (env : Env) (ws : Bool) : ∀ (t : Text) (s : List Char) (a : List AttrChar),
    t.plain = some s → ∃ cs, posixTextGo env ws [a] t = (env, .ok [a ++ cs]) ∧ Good cs s
  | .nil, s, a, h => by cases h; exact ⟨[], by rw [posixTextGo, List.append_nil], Good.nil⟩
  | .cons u t, s, a, h => by
    obtain ⟨c, r, hu, ht, rfl⟩ := text_plain_cons h
    obtain ⟨cu, hcu, gu, _⟩ := posixTextUnit_plain env ws u c hu
    obtain ⟨ct, hct, gt⟩ := posixTextGo_plain env ws t r (a ++ cu) ht
    refine ⟨cu ++ ct, ?_, gu.append gt⟩
    rw [posixTextGo, hcu]
    simp only [joinFields_single, hct, List.append_assoc]

theorem posixWordUnit_plain (env : Env) (ws : Bool) (u : WordUnit) (s : List Char) (h : u.plain = some s) :
    ∃ cs, posixWordUnit env ws u = (env, .ok [cs]) ∧ Good cs s ∧ cs ≠ [] := by
  cases u with
  | unq t =>
    simp only [WordUnit.plain, Option.map_eq_some_iff] at h
    obtain ⟨c, hc, rfl⟩ := h
    rw [posixWordUnit]
    exact posixTextUnit_plain env ws t c hc
  | sq q => cases h; exact ⟨_, rfl, Good.quoted [quoteChar '\''] s (by simp [quoteChar]), by simp⟩
  | dsq q =>
    cases h; exact ⟨_, rfl, Good.quoted [quoteChar '$', quoteChar '\''] s (by simp [quoteChar]), by simp⟩
  | tilde n sl => cases h
  | dq t =>
    rw [WordUnit.plain] at h
    cases t with
    | nil => cases h; exact ⟨quoteField [], rfl, Good.nil.quoteField, by simp [quoteField]⟩
    | cons v t' =>
      obtain ⟨c, r, hv, ht, rfl⟩ := text_plain_cons h
      obtain ⟨cv, hcv, gv, _⟩ := posixTextUnit_plain env false v c hv
      obtain ⟨ct, hct, gt⟩ := posixTextGo_plain env false t' r cv ht
      refine ⟨quoteField (cv ++ ct), ?_, (gv.append gt).quoteField, by simp [quoteField]⟩
      exact posixWordUnit_dq_cons ws hcv hct

theorem posixWordGo_plain (env : Env) (ws : Bool) : ∀ (w : Word) (s : List Char) (a : List AttrChar),
    w.plain = some s → ∃ cs, posixWordGo env ws [a] w = (env, .ok [a ++ cs]) ∧ Good cs s
  | .nil, s, a, h => by cases h; exact ⟨[], by rw [posixWordGo, List.append_nil], Good.nil⟩
  | .cons u w, s, a, h => by
    obtain ⟨b, r, hu, hw, rfl⟩ := word_plain_cons h
    obtain ⟨cu, hcu, gu, _⟩ := posixWordUnit_plain env ws u b hu
    obtain ⟨cw, hcw, gw⟩ := posixWordGo_plain env ws w r (a ++ cu) hw
    refine ⟨cu ++ cw, ?_, gu.append gw⟩
    rw [posixWordGo, hcu]
    simp only [joinFields_single, hcw, List.append_assoc]

theorem posixWord_plain (env : Env) (ws : Bool) (u : WordUnit) (w : Word) (s : List Char)
    (h : (Word.cons u w).plain = some s) :
    ∃ cs, posixWord env ws (.cons u w) = (env, .ok [cs]) ∧ Good cs s ∧ cs ≠ [] := by
  obtain ⟨b, r, hu, hw, rfl⟩ := word_plain_cons h
  obtain ⟨cu, hcu, gu, hne⟩ := posixWordUnit_plain env ws u b hu
  obtain ⟨cw, hcw, gw⟩ := posixWordGo_plain env ws w r cu hw
  exact ⟨cu ++ cw, by rw [posixWord, hcu]; exact hcw, gu.append gw, by simp [hne]⟩

end YashModel.Expansion
