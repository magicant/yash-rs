/-
  C01 — the two formulations of the POSIX splitter in the Spec agree — the fields `specFields` cuts
  directly out of the characters are the slices at the index ranges of `specSplit` (same recursion, same fuel, the
  index being the length of what has been consumed) —, the fields of `specFields` partition the input, and the model's
  `splitWith` is `specFields`.
-/
import YashModel.Expansion.SplitLemmas
namespace YashModel.Expansion

variable {α : Type}

theorem dropWsF_eq (cls : α → Cls) (xs : List α) : dropWsF cls xs = xs.dropWhile (fun x => cls x == .ws) := by
  induction xs with
  | nil => rfl
  | cons x xs ih => by_cases h : cls x = .ws <;> simp [dropWsF, h, ih]

theorem spanNon_eq (cls : α → Cls) (xs : List α) :
    spanNon cls xs = (xs.takeWhile (fun x => cls x == .non), xs.dropWhile (fun x => cls x == .non)) := by
  induction xs with
  | nil => rfl
  | cons x xs ih => by_cases h : cls x = .non <;> simp [spanNon, h, ih]

theorem takeNon_spanNon (cls : α → Cls) (xs pre : List α) :
    takeNon pre.length (xs.map cls) = ((pre ++ (spanNon cls xs).1).length, (spanNon cls xs).2.map cls) ∧
      (spanNon cls xs).1 ++ (spanNon cls xs).2 = xs := by
  rw [takeNon_eq, spanNon_eq, List.takeWhile_map, List.dropWhile_map]
  exact ⟨by simp [Function.comp_def], List.takeWhile_append_dropWhile⟩

theorem dropWs_dropWsF (cls : α → Cls) (xs pre : List α) : ∃ pre', pre' ++ dropWsF cls xs = pre ++ xs ∧
    dropWs pre.length (xs.map cls) = (pre'.length, (dropWsF cls xs).map cls) := by
  refine ⟨pre ++ xs.takeWhile (fun x => cls x == .ws), ?_, ?_⟩
  · rw [dropWsF_eq, List.append_assoc, List.takeWhile_append_dropWhile]
  · rw [dropWs_eq, dropWsF_eq, List.takeWhile_map, List.dropWhile_map]; simp [Function.comp_def]

theorem specFieldsGo_nil (cls : α → Cls) (fuel : Nat) : specFieldsGo cls fuel [] = [] := by
  cases fuel <;> rfl

theorem specGo_slice (cls : α → Cls) : ∀ (fuel : Nat) (pre ys : List α),
    (specGo fuel pre.length (ys.map cls)).map (slice (pre ++ ys)) = specFieldsGo cls fuel ys
  | 0, _, _ => rfl
  | _ + 1, _, [] => rfl
  | fuel + 1, pre, y :: ys => by
    obtain ⟨hT, hsp⟩ := takeNon_spanNon cls (y :: ys) pre
    obtain ⟨p1, hp1, hD⟩ := dropWs_dropWsF cls (spanNon cls (y :: ys)).2 (pre ++ (spanNon cls (y :: ys)).1)
    rw [specFieldsGo]
    generalize spanNon cls (y :: ys) = sp at *
    obtain ⟨f, r⟩ := sp
    simp only at hT hsp hp1 hD ⊢
    rw [List.map_cons] at hT ⊢
    rw [specGo]
    simp only [hT, hD]
    rw [← hsp]
    have hf : slice (pre ++ (f ++ r)) (pre.length, (pre ++ f).length) = f := by simp [slice]
    rw [dropDelim]
    generalize dropWsF cls r = r1 at hp1 ⊢
    cases r1 with
    | nil => simp only [List.map_nil, List.map_cons, hf, specGo_nil, specFieldsGo_nil]
    | cons z r2 =>
      have h1 : p1 ++ z :: r2 = pre ++ (f ++ r) := by rw [hp1, List.append_assoc]
      rw [List.map_cons]
      cases hz : cls z with
      | nws =>
        obtain ⟨p2, hp2, hD2⟩ := dropWs_dropWsF cls r2 (p1 ++ [z])
        rw [List.length_append, List.length_singleton] at hD2
        rw [List.append_assoc, List.singleton_append, h1] at hp2
        simp only [hD2, List.map_cons, hf]
        rw [← hp2, specGo_slice cls fuel p2, hz, if_pos rfl]
      | ws =>
        simp only [List.map_cons, hf]
        rw [← hz, ← List.map_cons, ← h1, specGo_slice cls fuel p1, hz, if_neg (by decide)]
      | non =>
        simp only [List.map_cons, hf]
        rw [← hz, ← List.map_cons, ← h1, specGo_slice cls fuel p1, hz, if_neg (by decide)]

theorem specSplitWith_eq_specFields (cls : α → Cls) (xs : List α) : specSplitWith cls xs = specFields cls xs := by
  obtain ⟨p0, hp0, hD⟩ := dropWs_dropWsF cls xs []
  have h := specGo_slice cls (xs.length + 1) p0 (dropWsF cls xs)
  rw [List.length_nil] at hD
  rw [hp0, List.nil_append] at h
  simpa [specSplitWith, specSplit, specFields, hD] using h

theorem dropWsF_filter (cls : α → Cls) (xs : List α) :
    (dropWsF cls xs).filter (fun x => decide (cls x = .non)) = xs.filter (fun x => decide (cls x = .non)) ∧
      (dropWsF cls xs).length ≤ xs.length := by
  rw [dropWsF_eq]
  refine ⟨?_, Common.length_dropWhile_le ..⟩
  -- what is dropped is IFS white space, of which the filter keeps nothing
  have hnil : (xs.takeWhile fun x => cls x == .ws).filter (fun x => decide (cls x = .non)) = [] :=
    List.filter_eq_nil_iff.mpr fun a ha => by have := Common.mem_takeWhile ha; simp at this; simp [this]
  have := congrArg (List.filter fun x => decide (cls x = .non))
    (List.takeWhile_append_dropWhile (p := fun x => cls x == .ws) (l := xs))
  rw [List.filter_append, hnil, List.nil_append] at this
  exact this

theorem dropDelim_filter (cls : α → Cls) (y : α) (ys : List α) (hy : cls y ≠ .non) :
    (dropDelim cls (y :: ys)).filter (fun x => decide (cls x = .non)) = ys.filter (fun x => decide (cls x = .non)) ∧
      (dropDelim cls (y :: ys)).length ≤ ys.length := by
  have hys := dropWsF_filter cls ys
  cases hc : cls y with
  | non => exact absurd hc hy
  | nws => simpa [dropDelim, dropWsF, hc] using hys
  | ws =>
    simp only [dropDelim, dropWsF, hc, if_true]
    rw [← hys.1]
    cases hd : dropWsF cls ys with
    | nil => simp
    | cons z zs =>
      rw [hd] at hys
      have hzs := dropWsF_filter cls zs
      by_cases hz : cls z = .nws
      · simp only [hz, if_true, List.filter_cons, reduceCtorEq, decide_false, Bool.false_eq_true, if_false]
        exact ⟨hzs.1, by have := hys.2; simp only [List.length_cons] at this; omega⟩
      · simp only [hz, if_false]; exact ⟨trivial, hys.2⟩

theorem spanNon_fst_non (cls : α → Cls) (xs : List α) : ∀ c ∈ (spanNon cls xs).1, cls c = .non := by
  intro c hc
  rw [spanNon_eq] at hc
  simpa using Common.mem_takeWhile hc

theorem spanNon_snd (cls : α → Cls) (xs : List α) :
    (spanNon cls xs).2.length ≤ xs.length ∧ ∀ y ys, (spanNon cls xs).2 = y :: ys → cls y ≠ .non := by
  rw [spanNon_eq]
  refine ⟨Common.length_dropWhile_le .., fun y ys h hy => ?_⟩
  have := Common.stopsAt_dropWhile (fun x => cls x == .non) xs y (by rw [show xs.dropWhile _ = y :: ys from h]; rfl)
  simp [hy] at this

theorem specFieldsGo_flatten (cls : α → Cls) : ∀ (fuel : Nat) (xs : List α), xs.length < fuel →
    (specFieldsGo cls fuel xs).flatten = xs.filter (fun x => decide (cls x = .non))
  | 0, _, h => absurd h (Nat.not_lt_zero _)
  | _ + 1, [], _ => rfl
  | fuel + 1, x :: xs, h => by
    have hsp := (takeNon_spanNon cls (x :: xs) []).2
    have hlen := (spanNon_snd cls (x :: xs)).1
    have hnon := (spanNon_snd cls (x :: xs)).2
    have hf := spanNon_fst_non cls (x :: xs)
    rw [specFieldsGo, List.flatten_cons]
    generalize spanNon cls (x :: xs) = sp at *
    obtain ⟨f, r⟩ := sp
    simp only at hsp hlen hnon hf ⊢
    rw [← hsp, List.filter_append, List.filter_eq_self.mpr (fun c hc => by simpa using hf c hc)]
    cases r with
    | nil => rw [show dropDelim cls [] = [] from rfl, specFieldsGo_nil]; rfl
    | cons y ys =>
      have hy := hnon y ys rfl
      have hd := dropDelim_filter cls y ys hy
      rw [specFieldsGo_flatten cls fuel _ (by simp only [List.length_cons] at h hlen; omega), hd.1,
        List.filter_cons, if_neg (by simpa using hy)]

theorem specFields_flatten (cls : α → Cls) (xs : List α) :
    (specFields cls xs).flatten = xs.filter (fun x => decide (cls x = .non)) := by
  have h := dropWsF_filter cls xs
  rw [specFields, specFieldsGo_flatten cls _ _ (Nat.lt_succ_of_le h.2), h.1]

theorem specFields_non (cls : α → Cls) (xs : List α) : ∀ f ∈ specFields cls xs, ∀ c ∈ f, cls c = .non := by
  intro f hf c hcf
  have hc : c ∈ (specFields cls xs).flatten := List.mem_flatten.mpr ⟨f, hf, hcf⟩
  rw [specFields_flatten, List.mem_filter] at hc
  simpa using hc.2

theorem spanNon_allNon (cls : α → Cls) (xs : List α) (h : ∀ x ∈ xs, cls x = .non) : spanNon cls xs = (xs, []) := by
  rw [spanNon_eq, Common.takeWhile_all (by simpa using h), Common.dropWhile_all (by simpa using h)]

theorem specFields_allNon (cls : α → Cls) (xs : List α) (h : ∀ x ∈ xs, cls x = .non) :
    specFields cls xs = if xs = [] then [] else [xs] := by
  cases xs with
  | nil => rfl
  | cons x xs =>
    have hx : cls x ≠ .ws := by rw [h x (List.mem_cons_self ..)]; decide
    rw [specFields, dropWsF, if_neg hx, List.length_cons, specFieldsGo, spanNon_allNon cls _ h, if_neg (by simp)]
    rfl

/-- `split_into` equals the recursive splitter that works directly on the characters (drop leading IFS white space; a
    field is the maximal run of non-IFS characters; a delimiter is `ws* nws? ws*`; repeat). -/
theorem splitWith_eq_specFields (cls : α → Cls) (xs : List α) : splitWith cls xs = specFields cls xs :=
  (splitWith_eq_specSplitWith cls xs).trans (specSplitWith_eq_specFields cls xs)

theorem splitInto_eq_specFields (ifs : Ifs) : splitInto ifs = specFields ifs.classifyAttr :=
  funext (splitWith_eq_specFields _)

end YashModel.Expansion
