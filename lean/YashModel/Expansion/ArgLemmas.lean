/-
  C01 — a word as a command argument or in a single-field context, once its initial expansion is known.
  Every end-to-end function factors through the declarative `posixWord`; the fields are then split — except that non-empty
  `Protected` fields never are — or joined.  For words of one unit, what the unit denotes is all that is needed.
-/
import YashModel.Expansion.FieldLemmas
import YashModel.Expansion.Denotation
namespace YashModel.Expansion

/-! ## Fields that field splitting leaves alone

  `Protected` is the hypothesis of the property theorem `quoted_never_split`, named. -/

/-- a field no character of which field splitting may look at -/
def Protected (cs : List AttrChar) : Prop :=
  ∀ c ∈ cs, c.isQuoted = true ∨ c.isQuoting = true ∨ c.origin ≠ .softExpansion

theorem Protected.append {a b : List AttrChar} (ha : Protected a) (hb : Protected b) : Protected (a ++ b) :=
  fun c hc => (List.mem_append.mp hc).elim (ha c) (hb c)

theorem protected_of_origin {cs : List AttrChar} {o : Origin} (ho : o ≠ .softExpansion) (h : ∀ c ∈ cs, c.origin = o) :
    Protected cs := fun c hc => .inr (.inr (by rw [h c hc]; exact ho))

theorem protected_quoteField (cs : List AttrChar) : Protected (quoteField cs) := by
  intro c hc
  simp only [quoteField, List.mem_append, List.mem_singleton, List.mem_map] at hc
  rcases hc with (hc | ⟨d, _, hd⟩) | hc
  · subst hc; simp [quoteChar]
  · subst hd; simp
  · subst hc; simp [quoteChar]

theorem classifyAttr_protected (ifs : Ifs) {c : AttrChar}
    (h : c.isQuoted = true ∨ c.isQuoting = true ∨ c.origin ≠ .softExpansion) : ifs.classifyAttr c = .non := by
  rw [Ifs.classifyAttr, if_pos]
  rcases h with h | h | h
  · rw [h]; rfl
  · rw [h, Bool.or_true]; rfl
  · rw [bne_iff_ne.mpr h, Bool.or_true]

/-- ★ Quotes protect what they enclose: a field all of whose characters are quoted, quoting, or
    not the result of a parameter expansion is never split, whatever IFS is. -/
theorem quoted_never_split (ifs : Ifs) (cs : List AttrChar)
    (h : ∀ c ∈ cs, c.isQuoted = true ∨ c.isQuoting = true ∨ c.origin ≠ .softExpansion) :
    splitInto ifs cs = if cs = [] then [] else [cs] := by
  rw [splitInto, splitWith_eq_specFields]
  exact specFields_allNon _ _ fun c hc => classifyAttr_protected ifs (h c hc)

theorem splitInto_protected (ifs : Ifs) {cs : List AttrChar} (hne : cs ≠ []) (h : Protected cs) :
    splitInto ifs cs = [cs] := by
  rw [quoted_never_split ifs cs h, if_neg hne]

theorem split_protected_fields (ifs : Ifs) : ∀ fs : Fields, (∀ f ∈ fs, f ≠ [] ∧ Protected f) →
    fs.flatMap (splitInto ifs) = fs
  | [], _ => rfl
  | f :: fs, h => by
    rw [List.flatMap_cons, splitInto_protected ifs (h f (List.mem_cons_self ..)).1 (h f (List.mem_cons_self ..)).2,
      split_protected_fields ifs fs fun g hg => h g (List.mem_cons_of_mem _ hg)]
    rfl

/-! ## The pipeline behind the initial expansion -/

/-- The whole pipeline `expand_word_multiple` (initial expansion → split → quote removal) equals
    the pipeline with the POSIX splitter, for every word, environment and IFS. -/
theorem expandWordMultiple_eq_spec (env : Env) (w : Word) :
    expandWordMultiple env w = specExpandWordMultiple env w := by
  simp only [expandWordMultiple, specExpandWordMultiple, splitInto_eq_specFields]; rfl

/-- ★★ End to end, the function the driver runs for a command argument: `expand_word_multiple`
    = declarative initial expansion → recursive POSIX splitter on every field under the IFS in
    force after the expansion → quote removal.  Every word, every environment, every IFS. -/
theorem expandWordMultiple_eq_posix (env : Env) (w : Word) :
    expandWordMultiple env w = posixExpandArg env w := by
  rw [expandWordMultiple_eq_spec, specExpandWordMultiple, posixExpandArg, ← initial_expansion_eq_posix]
  symm; exact seq_of_den _ _

/-- … and in a single-field context (`expand_word`: scalar assignment, declaration utilities): the fields joined by the
    `$*` separator instead of split. -/
theorem expandWordSingle_eq_posix (env : Env) (w : Word) :
    expandWordSingle env w = posixExpandSingle env w := by
  simp only [expandWordSingle, posixExpandSingle, ← initial_expansion_eq_posix, ifsJoin_eq]
  symm; exact seq_of_den _ _

theorem expandWordMultiple_of_posix {env env' : Env} {w : Word} {fs : Fields}
    (h : posixWord env true w = (env', .ok fs)) :
    expandWordMultiple env w = (env', .ok ((fs.flatMap (splitInto env'.ifs)).map removeQuotesAndStrip)) := by
  rw [expandWordMultiple_eq_posix, posixExpandArg, h, splitInto_eq_specFields]

theorem expandWordSingle_of_posix {env env' : Env} {w : Word} {fs : Fields}
    (h : posixWord env true w = (env', .ok fs)) :
    expandWordSingle env w = (env', .ok (removeQuotesAndStrip (joinBySep env' fs))) := by
  rw [expandWordSingle_eq_posix, posixExpandSingle, h]

/-- Quotes protect what they enclose, for the whole pipeline: a word whose initial expansion is one non-empty protected
    field yields exactly that field, quote-removed, whatever IFS is. -/
theorem expandWordMultiple_protected_one {env env' : Env} {w : Word} {cs : List AttrChar}
    (h : posixWord env true w = (env', .ok [cs])) (hne : cs ≠ []) (hp : Protected cs) :
    expandWordMultiple env w = (env', .ok [removeQuotesAndStrip cs]) := by
  rw [expandWordMultiple_of_posix h, List.flatMap_singleton, splitInto_protected _ hne hp]; rfl

/-! ## Words of one unit -/

theorem posixWord_unit (env : Env) (ws : Bool) (u : WordUnit) :
    posixWord env ws (.cons u .nil) = posixWordUnit env ws u := by
  rw [posixWord]
  rcases posixWordUnit env ws u with ⟨e, _ | _⟩ <;> rfl

theorem posixWord_dq_unit {env env' : Env} (ws : Bool) {u : TextUnit} {fs : Fields}
    (h : posixTextUnit env false u = (env', .ok fs)) :
    posixWord env ws (.cons (.dq (.cons u .nil)) .nil) = (env', .ok (fs.map quoteField)) := by
  rw [posixWord_unit, posixWordUnit_dq_cons ws h (by rw [posixTextGo])]

/-- A double-quoted word is never split: it yields the fields of its content, expanded in a non-splitting context
    (one field, except where `$@` makes several or none), each quote-removed — for every content, environment and IFS. -/
theorem arg_dq (env : Env) (t : Text) :
    expandWordMultiple env (.cons (.dq t) .nil) =
      match (if t.isNil then (env, .ok [[]]) else posixTextGo env false [] t : SRes) with
      | (env', .error e) => (env', .error e)
      | (env', .ok fs) => (env', .ok (fs.map removeQuotesAndStrip)) := by
  rw [expandWordMultiple_eq_posix, posixExpandArg, posixWord_unit, posixWordUnit]
  rcases (if t.isNil then (env, .ok [[]]) else posixTextGo env false [] t : SRes) with ⟨env', _ | fs⟩
  · rfl
  · simp only
    rw [← splitInto_eq_specFields, split_protected_fields, removeQuotes_quoteField_map]
    intro f hf
    obtain ⟨g, _, rfl⟩ := List.mem_map.mp hf
    exact ⟨by simp [quoteField], protected_quoteField g⟩

theorem arg_dq_unit {env env' : Env} {u : TextUnit} {fs : Fields} (h : posixTextUnit env false u = (env', .ok fs)) :
    expandWordMultiple env (.cons (.dq (.cons u .nil)) .nil) = (env', .ok (fs.map removeQuotesAndStrip)) := by
  rw [arg_dq, posixText_cons .nil h, posixTextGo]

theorem arg_unq_unit {env env' : Env} {u : TextUnit} {fs : Fields} (h : posixTextUnit env true u = (env', .ok fs)) :
    expandWordMultiple env (.cons (.unq u) .nil) =
      (env', .ok ((fs.flatMap (splitInto env'.ifs)).map removeQuotesAndStrip)) :=
  expandWordMultiple_of_posix (by rw [posixWord_unit, posixWordUnit, h])

theorem single_unq_unit {env env' : Env} {u : TextUnit} {fs : Fields} (h : posixTextUnit env true u = (env', .ok fs)) :
    expandWordSingle env (.cons (.unq u) .nil) = (env', .ok (removeQuotesAndStrip (joinBySep env' fs))) :=
  expandWordSingle_of_posix (by rw [posixWord_unit, posixWordUnit, h])

/-! ## What single units denote -/

theorem posixTextUnit_param_none {env : Env} {p : Param} (ws : Bool)
    (h : ¬ (resolve env p = none ∧ env.nounset = true)) :
    posixTextUnit env ws (.param p .none) = (env, .ok (paramFields env ws p (resolve env p))) := by
  rw [posixTextUnit, posixParam, if_neg h]

theorem posixTextUnit_param_length {env : Env} {p : Param} (ws : Bool)
    (h : ¬ (resolve env p = none ∧ env.nounset = true)) :
    posixTextUnit env ws (.param p .length) = (env, .ok (paramFields env ws p (lengthOf (resolve env p)))) := by
  rw [posixTextUnit, posixParam, if_neg h]

theorem posixTextUnit_cmd (env : Env) (ws b : Bool) (c : List Char) :
    posixTextUnit env ws (.cmd b c) = (env, .ok [toField (stripTrailingNewlines (env.cmdOut c))]) := by
  rw [posixTextUnit]

theorem expandTextUnit_arith_eq (env : Env) (ws : Bool) (t : Text) :
    expandTextUnit env ws (.arith t) =
      match expandTextJoined env t with
      | (e, .error x) => (e, .error x)
      | (e, .ok src) => arithEval e src := by
  rw [expandTextUnit, expandTextJoined]
  rcases (if t.isNil then (env, .ok Phrase.oneEmptyField) else expandTextGo env true Phrase.zeroFields t : Res) with
    ⟨e, _ | _⟩ <;> rfl

theorem posixTextUnit_arith {env env1 env2 : Env} (ws : Bool) {t : Text} {src : List Char} {v : Int}
    (h1 : expandTextJoined env t = (env1, .ok src))
    (h2 : Arith.evalStrG arithI false src env1 = .ok (v, env2)) :
    posixTextUnit env ws (.arith t) = (env2, .ok [toField (intChars v)]) := by
  rw [← textUnit_den, expandTextUnit_arith_eq, h1]
  simp only [arithEval, h2]; rfl

theorem posixTextUnit_at (env : Env) (ws : Bool) :
    posixTextUnit env ws (.param .at .none) = (env, .ok (env.pos.map toField)) := by
  simp [posixTextUnit, posixParam, resolve, paramFields, valueFields]

theorem posixTextUnit_star (env : Env) (ws : Bool) :
    posixTextUnit env ws (.param .star .none) =
      (env, .ok (if ws = false then [joinBySep env (env.pos.map toField)] else env.pos.map toField)) := by
  simp [posixTextUnit, posixParam, resolve, paramFields, valueFields]

end YashModel.Expansion
