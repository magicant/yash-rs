/-
  C01 — property theorems and non-vacuity examples.  The property theorems that the lemma files need themselves are
  stated there.

  Property text: "For every word and every shell state (variables set, empty or unset; positional
  parameters; any IFS), expansion produces exactly the fields of POSIX XCU 2.6: quotes and
  backslashes protect what they enclose, each parameter-expansion form (`${x}`, `${#x}`, `-` `=`
  `?` `+` with or without `:`, `#` `##` `%` `%%`) selects the documented value, only unquoted
  expansion results are split at IFS (runs of IFS whitespace merge, every other IFS character
  delimits, empty fields survive only from quotes or non-whitespace separators), and `$@`/`$*`
  quoted or not follow their special rules.  With `nounset`, an unset parameter is an error exactly
  where POSIX says so, and the `read` built-in splits a line by the same IFS rules, giving the
  remainder to the last variable."

  All theorems quantify over arbitrary class lists / character lists / IFS values / environments
  (no bound on lengths or on the number of positional parameters).
-/
import YashModel.Expansion.WordBridge
import YashModel.Expansion.ArgLemmas
import YashModel.Expansion.EnvLemmas
import YashModel.Expansion.FieldLemmas
import YashModel.Expansion.ReadLemmas
import YashModel.Expansion.Denotation
import YashModel.Expansion.QuoteLemmas
import YashModel.Expansion.TrimLemmas
import YashModel.Expansion.LexLemmas
namespace YashModel.Expansion

/-! ## Field splitting -/

/-- By `ranges_eq_specSplit`, `split_into` cuts every field exactly as XCU 2.6.5 prescribes, for every IFS and every
    attributed field. -/
theorem splitInto_eq_spec (ifs : Ifs) (field : List AttrChar) :
    splitInto ifs field = specSplitWith ifs.classifyAttr field :=
  splitWith_eq_specSplitWith _ _

/-- Multi-word assembly (`expand_words`: `for` lists, array assignments, command arguments): the
    fields of a word list are those of the POSIX pipeline word by word, in order, each word expanded
    in the environment its predecessors left; the first error stops the list. -/
theorem expandWords_eq_spec (ws : List Word) :
    ∀ env : Env, expandWords env ws = specExpandWords env ws := by
  induction ws with
  | nil => intro env; rfl
  | cons w ws ih => intro env; simp only [expandWords, specExpandWords, expandWordMultiple_eq_spec, ih]; rfl

/-- ★ Splitting partitions the input: (1) the fields, concatenated, are exactly the non-IFS
    characters in their original order (nothing lost, duplicated or reordered; every separator
    dropped); (2) no field contains an IFS character; (3) an empty field `k..k` arises only at a
    non-white-space IFS character whose nearest preceding character other than IFS white space is
    not a field character (start of input or another non-white-space separator), i.e. runs of IFS
    white space merge and never produce empty fields. -/
theorem split_partition {α : Type} (cls : α → Cls) (xs : List α) :
    (splitWith cls xs).flatten = xs.filter (fun x => decide (cls x = .non)) ∧
    (∀ f ∈ splitWith cls xs, ∀ c ∈ f, cls c = .non) ∧
    (∀ k, (k, k) ∈ rangesOf cls xs →
        (xs.map cls)[k]? = some .nws ∧ lastNonWs ((xs.map cls).take k) ≠ some .non) := by
  refine ⟨?_, ?_, ?_⟩
  · rw [splitWith_eq_specFields, specFields_flatten]
  · rw [splitWith_eq_specFields]; exact specFields_non cls xs
  · intro k hk
    have h := ranges_empty (xs.map cls) .afterNws [] (by simp [StOk, lastNonWs]) k
      (by simpa [rangesOf] using hk)
    simpa using h

theorem splitInto_partition (ifs : Ifs) (field : List AttrChar) :
    (splitInto ifs field).flatten = field.filter (fun c => decide (ifs.classifyAttr c = .non)) ∧
    (∀ f ∈ splitInto ifs field, ∀ c ∈ f, ifs.classifyAttr c = .non) :=
  ⟨(split_partition ifs.classifyAttr field).1, (split_partition ifs.classifyAttr field).2.1⟩

example : rangesOf (Ifs.new [':', ' ']).classify ":a: :b".toList = [(0, 0), (1, 2), (4, 4), (5, 6)] := by decide +kernel

example : ∀ c ∈ quoteField (toField "a b".toList),
    c.isQuoted = true ∨ c.isQuoting = true ∨ c.origin ≠ .softExpansion := protected_quoteField _

/-! ## The whole pipeline against the declarative POSIX expansion -/

/-- ★★ `expandWordMultiple_eq_posix` (the declarative pipeline for one command argument) for word lists (`expand_words`:
    arguments, `for` lists, array assignments): word by word, each in the environment its predecessors left … -/
theorem expandWords_eq_posix (ws : List Word) :
    ∀ env : Env, expandWords env ws = posixExpandArgs env ws := by
  induction ws with
  | nil => intro env; rfl
  | cons w ws ih => intro env; simp only [expandWords, posixExpandArgs, expandWordMultiple_eq_posix, ih]; rfl

/-- … and for here-document contents (`expand_text`): the text expanded declaratively, joined, quote-removed. -/
theorem expandTextJoined_eq_posix (env : Env) (t : Text) :
    expandTextJoined env t = posixExpandText env t := by
  simp only [expandTextJoined, posixExpandText, ← text_den, ifsJoin_eq]
  symm; exact seq_of_den _ _

/-! ## Phrase algebra -/

/-- ☆ Appending is associative on denotations: the fold of `impl Expand for [T]` over the units of
    a word gives the same fields however the partial results are grouped. -/
theorem append_assoc (a b c : Phrase) :
    ((a.append b).append c).toFields = (a.append (b.append c)).toFields := by
  simp only [append_denote, joinFields_assoc]

/-- ★ Every operation on a `Phrase` commutes with its denotation (`toFields`), for every constructor shape — a single
    `Char`, one `Field` (empty or not), `Full` with no, one or several fields: `for_each_char_mut` (`mapChars`, hence the
    re-attribution `switch::attribute`) maps every character of every field; `append` glues last to first; `ifs_join`
    joins with the `$*` separator; `double_quote` wraps every field; the conversion to fields, field splitting and quote
    removal only look at the denotation. -/
theorem phrase_operations_denote (p q : Phrase) (f : AttrChar → AttrChar) (env : Env) :
    (p.mapChars f).toFields = p.toFields.map (·.map f) ∧
    (reattribute p).toFields = soften p.toFields ∧
    (p.append q).toFields = joinFields p.toFields q.toFields ∧
    p.ifsJoin env = joinBySep env p.toFields ∧
    (doubleQuote p).toFields = p.toFields.map quoteField := by
  exact ⟨toFields_mapChars f p, toFields_reattribute p, append_denote p q, ifsJoin_eq p env, toFields_doubleQuote p⟩

/-- ★ Representation independence: two phrases that denote the same fields — whatever their shapes — are
    indistinguishable by every operation of the expansion: re-attribution, `for_each_char_mut` with any function,
    appending on either side, `$*` joining, double-quoting, and the final splitting / quote removal of
    `expand_word_multiple` (which reads `toFields` only). -/
theorem phrase_representation_independent (p q : Phrase) (h : p.toFields = q.toFields) :
    (∀ f, (p.mapChars f).toFields = (q.mapChars f).toFields) ∧
    (reattribute p).toFields = (reattribute q).toFields ∧
    (∀ r : Phrase, (p.append r).toFields = (q.append r).toFields) ∧
    (∀ r : Phrase, (r.append p).toFields = (r.append q).toFields) ∧
    (∀ env, p.ifsJoin env = q.ifsJoin env) ∧
    (doubleQuote p).toFields = (doubleQuote q).toFields ∧
    (∀ ifs, (p.toFields.flatMap (splitInto ifs)).map removeQuotesAndStrip =
            (q.toFields.flatMap (splitInto ifs)).map removeQuotesAndStrip) := by
  refine ⟨fun f => ?_, ?_, fun r => ?_, fun r => ?_, fun env => ?_, ?_, fun ifs => by rw [h]⟩
  · rw [toFields_mapChars, toFields_mapChars, h]
  · rw [toFields_reattribute, toFields_reattribute, h]
  · rw [append_denote, append_denote, h]
  · rw [append_denote, append_denote, h]
  · rw [ifsJoin_eq, ifsJoin_eq, h]
  · rw [toFields_doubleQuote, toFields_doubleQuote, h]

/-- A one-character phrase in its three representations — `Char(c)`, `Field([c])`, `Full([[c]])` — denotes the same
    single field, so by `phrase_representation_independent` a one-character word behaves like the one-element field
    everywhere; in particular its re-attribution softens that character in all three shapes. -/
theorem one_char_shapes (c : AttrChar) :
    (Phrase.char c).toFields = [[c]] ∧ (Phrase.field [c]).toFields = [[c]] ∧ (Phrase.full [[c]]).toFields = [[c]] ∧
    reattribute (.char c) = .char (softenChar c) ∧ reattribute (.field [c]) = .field [softenChar c] ∧
    reattribute (.full [[c]]) = .full [[softenChar c]] ∧
    (∀ env, (Phrase.char c).ifsJoin env = [c] ∧ (Phrase.field [c]).ifsJoin env = [c] ∧ (Phrase.full [[c]]).ifsJoin env = [c]) :=
  ⟨rfl, rfl, rfl, rfl, rfl, rfl, fun _ => ⟨rfl, rfl, rfl⟩⟩

/-- The word of a switch that consists of ONE literal character is substituted as a soft expansion: `${u-c}` with `u`
    unset expands to the single character `c` with origin `SoftExpansion`, not `Literal` (so `classifyAttr` reads it
    against IFS like any other expansion result). -/
theorem one_char_switch_word_is_soft (env : Env) (c : Char) (hu : env.getValue "u" = none) :
    (expandWord env true (.cons (.unq (.param (.var "u") (.switch .unset .default (.cons (.unq (.lit c)) .nil)))) .nil)).2
      = .ok (.char (softChar c)) := by
  simp [expandWord, expandWordUnit, expandTextUnit, expandParam, resolve, hu, Vacancy.of, ValueCondition.with_,
    switchDecision, expandWordGo, reattribute, Phrase.mapChars, softenChar, softChar, Phrase.zeroFields, Phrase.append]

/-! ## Switch modifiers -/

def vacancyName : Vacancy → String
  | .unset => "Unset" | .emptyScalar => "EmptyScalar" | .valuelessArray => "ValuelessArray" | .emptyValueArray => "EmptyValueArray"

def valueConditionName : ValueCondition → String
  | .occupied => "Occupied"
  | .vacant v => "Vacant:" ++ vacancyName v

/-- `ValueCondition::with` of the code — evaluated from param/switch.rs on every run, on every pair (condition,
    vacancy), whatever the grouping of its match arms — IS the model's `ValueCondition.with_`. -/
theorem value_condition_table_agrees :
    Generated.ExpansionTables.valueConditionTable =
      ([(SwCond.unset, "Unset"), (SwCond.unsetOrEmpty, "UnsetOrEmpty")].flatMap fun c =>
        ([(none, "None"), (some Vacancy.unset, "Unset"), (some .emptyScalar, "EmptyScalar"),
          (some .valuelessArray, "ValuelessArray"), (some .emptyValueArray, "EmptyValueArray")].map fun v =>
          (c.2, v.2, valueConditionName (ValueCondition.with_ c.1 v.1)))) := by
  decide +kernel

/-- With `nounset`, an unset parameter is an error exactly in the forms without a switch
    modifier (`$p`, `${p}`, `${#p}`, `${p#w}` …), before anything else is evaluated … -/
theorem nounset_error_plain (env : Env) (ws : Bool) (p : Param) (m : Modifier)
    (hm : ∀ cond act w, m ≠ .switch cond act w) (hn : env.nounset = true) :
    expandParam env ws p none m = (env, .error .unsetParameter) := by
  cases m with
  | none => simp [expandParam, hn]
  | length => simp [expandParam, hn]
  | trim side len w => simp [expandParam, hn]
  | switch cond act w => exact absurd rfl (hm cond act w)

/-- … and a set parameter never is, whatever the option says -/
theorem nounset_no_error_when_set (env : Env) (ws : Bool) (p : Param) (v : Value) :
    expandParam env ws p (some v) .none = (env, .ok (finishParam env ws p (some v))) ∧
    expandParam env ws p (some v) .length = (env, .ok (finishParam env ws p (lengthOf (some v)))) := by
  simp [expandParam]

/-- … while a switch modifier is never a `nounset` error: when the table says "substitute
    parameter / null" the expansion is the parameter's own (possibly absent) value, even for an
    unset parameter under `set -u` (e.g. `${u+w}`). -/
theorem switch_skip_no_error (env : Env) (ws : Bool) (p : Param) (v : Option Value)
    (cond : SwCond) (act : SwAction) (w : Word)
    (h : switchDecision act (ValueCondition.with_ cond (Vacancy.of v)) = .skip) :
    expandParam env ws p v (.switch cond act w) = (env, .ok (finishParam env ws p v)) := by
  simp [expandParam, h]

example : switchDecision .alter (ValueCondition.with_ .unset (Vacancy.of none)) = .skip := by decide +kernel

/-! ## `"$@"` and `"$*"` -/

def wordDqAt : Word := .cons (.dq (.cons (.param .at .none) .nil)) .nil
def wordDqStar : Word := .cons (.dq (.cons (.param .star .none) .nil)) .nil

/-- ★ `"$@"` expands, in every environment and for every IFS, to exactly the positional
    parameters: zero fields when there are none, otherwise one field per parameter with exactly
    its value (empty parameters stay as empty fields; nothing is split). -/
theorem dquote_at_fields (env : Env) :
    expandWordMultiple env wordDqAt = (env, .ok env.pos) := by
  rw [wordDqAt, arg_dq_unit (posixTextUnit_at env false), removeQuotes_toField_map]

/-- ★ `"$@"` with no positional parameters denotes zero fields; `"$*"` always denotes exactly one
    field (here: the empty one). -/
theorem dquote_at_zero_params (env : Env) (h : env.pos = []) :
    expandWordMultiple env wordDqAt = (env, .ok []) ∧
    expandWordMultiple env wordDqStar = (env, .ok [[]]) := by
  refine ⟨by rw [dquote_at_fields, h], ?_⟩
  rw [wordDqStar, arg_dq_unit (posixTextUnit_star env false), h]; rfl

example : (expandWordMultiple
    { vars := [], pos := ["a b".toList, [], ":".toList], nounset := true, exitStatus := 0, arg0 := [] }
    wordDqAt).2 = .ok ["a b".toList, [], ":".toList] := by rw [dquote_at_fields]

/-- In a single-field context (scalar assignment `v=…`, declaration utilities, here-documents:
    `expand_word`) `"$*"` and `"$@"` both give the positional parameters joined by the first
    character of IFS (a space when IFS is unset, nothing when it is empty), for every environment
    and any number of parameters. -/
theorem single_field_dquote_params (env : Env) :
    expandWordSingle env wordDqStar = (env, .ok (joinStrings (sepChar env) env.pos)) ∧
    expandWordSingle env wordDqAt = (env, .ok (joinStrings (sepChar env) env.pos)) := by
  rw [wordDqStar, wordDqAt, expandWordSingle_of_posix (posixWord_dq_unit true (posixTextUnit_star env false)),
    expandWordSingle_of_posix (posixWord_dq_unit true (posixTextUnit_at env false))]
  simp only [if_true, List.map_cons, List.map_nil, joinBySep_one, removeQuotes_quoteField, removeQuotes_joinBySep,
    removeQuotes_quoteField_map, removeQuotes_toField_map, and_self]

/-! ## The braced-parameter lexer -/

-- the concrete lexer cases below are evaluated by the kernel
deriving instance DecidableEq for Except

/-- The `${#…}` ambiguity is resolved as XCU 2.6.2 requires: `${#}` is `$#`; `${##}`, `${#-}`,
    `${#?}` are the lengths of `$#`, `$-`, `$?`; `${#x}` is a length and `${x#p}` a trim; `${#-w}`,
    `${#:-w}`, `${##p}`, `${#%p}` apply a switch/trim to `$#`; a length prefix together with a suffix
    modifier is an error.  (Finite table of the special cases, checked by evaluation.) -/
theorem lex_hash_forms :
    (lexBraced false "#}".toList).map (fun b => (b.id, b.modifier)) = .ok (['#'], .none) ∧
    (lexBraced false "##}".toList).map (fun b => (b.id, b.modifier)) = .ok (['#'], .length) ∧
    (lexBraced false "#-}".toList).map (fun b => (b.id, b.modifier)) = .ok (['-'], .length) ∧
    (lexBraced false "#?}".toList).map (fun b => (b.id, b.modifier)) = .ok (['?'], .length) ∧
    (lexBraced false "#x}".toList).map (fun b => (b.id, b.modifier)) = .ok (['x'], .length) ∧
    (lexBraced false "x#p}".toList).map (fun b => (b.id, b.modifier)) = .ok (['x'], .trim '#' false ['p']) ∧
    (lexBraced false "#-w}".toList).map (fun b => (b.id, b.modifier)) = .ok (['#'], .switch false '-' ['w']) ∧
    (lexBraced false "#:-w}".toList).map (fun b => (b.id, b.modifier)) = .ok (['#'], .switch true '-' ['w']) ∧
    (lexBraced false "##p}".toList).map (fun b => (b.id, b.modifier)) = .ok (['#'], .trim '#' false ['p']) ∧
    (lexBraced false "#%p}".toList).map (fun b => (b.id, b.modifier)) = .ok (['#'], .trim '%' false ['p']) ∧
    (lexBraced false "#x-w}".toList).map (fun b => (b.id, b.modifier)) = .error .multipleModifier ∧
    (lexBraced false "x:#p}".toList).map (fun b => (b.id, b.modifier)) = .error .invalidModifier ∧
    (lexBraced false "00}".toList).map (fun b => (b.id, b.param)) = .ok (['0', '0'], .pos 0) ∧
    (lexBraced false "10}".toList).map (fun b => (b.id, b.param)) = .ok (['1', '0'], .pos 10) ∧
    (lexBraced false "0}".toList).map (fun b => (b.id, b.param)) = .ok (['0'], .zero) ∧
    (lexBraced true "@-w}".toList).map (fun b => (b.id, b.modifier)) = .error .nonPortable := by
  and_intros <;> decide +kernel

/-- `${p:-w}` versus `${p-w}` (and `= ? +`): after any parameter, an optional colon followed by one
    of the switch symbols (the characters `suffix_modifier` dispatches to `switch`: the generated table,
    `+ - = ?` in the current code) starts a switch whose condition is "unset or empty" exactly when the
    colon is present, and whose word runs to the first closing brace — for every word without `}`. -/
theorem lexSuffix_switch (colon : Bool) (act : Char) (w rest : List Char)
    (ha : act ∈ Generated.ExpansionTables.suffixSwitchSymbols) (hw : ∀ c ∈ w, c ≠ '}') :
    lexSuffix ((if colon then [':'] else []) ++ act :: (w ++ '}' :: rest))
      = .ok (.switch colon act w, '}' :: rest) := by
  have hne : act ≠ ':' := by rintro rfl; exact absurd ha (by decide)
  rw [lexSuffix_cons _ _ _ hne, if_pos (List.contains_iff_mem.mpr ha), (span_until_brace w rest hw).1,
    (span_until_brace w rest hw).2]

example : lexSuffix ":-a b}c".toList = .ok (.switch true '-' "a b".toList, "}c".toList) := by decide +kernel

/-- the tables as the code has them today (re-extracted on every run; an edit of the Rust tables changes
    these definitions and re-checks every theorem stated over them) -/
example : Generated.ExpansionTables.suffixSwitchSymbols = ['+', '-', '=', '?'] ∧
    Generated.ExpansionTables.suffixTrimSymbols = ['#', '%'] ∧
    Generated.ExpansionTables.lengthPrefixPlain = ['%', '+', ':', '=', '}'] ∧
    Generated.ExpansionTables.lengthPrefixAmbiguous = ['#', '-', '?'] ∧
    Generated.ExpansionTables.ifsDefault = [' ', '\t', '\n'] ∧
    optionShortNames = "aCcenfhilmbsuvx".toList ∧
    "@*#?-$!0".toList.map specialOfChar =
      [some .at, some .star, some .num, some .question, some .hyphen, some .dollar, some .bang, some .zero] := by
  decide +kernel

/-- ★ The general form `${<id><suffix>}` for every identifier made of name characters (a variable name, a positional
    index of any number of digits, `0`): the lexer reads the longest run of name characters as the identifier,
    classifies it with `type_of_id`, hands what follows to `suffix_modifier` and requires the closing brace — the result
    has exactly that parameter, exactly the modifier `suffix_modifier` returns and exactly the text after the brace;
    no identifier of this kind is rejected in portable mode. -/
theorem lexBraced_id_general (portable : Bool) (c : Char) (s2 s3 rest : List Char) (p : Param) (m : LexMod)
    (hc : isNameChar c = true) (hs : ∀ d ∈ s2, isNameChar d = true)
    (hstop : ∀ d, s3.head? = some d → isNameChar d = false)
    (hid : typeOfId (c :: s2) = some p)
    (hsuf : lexSuffix (s3 ++ '}' :: rest) = .ok (m, '}' :: rest)) :
    lexBraced portable (c :: s2 ++ (s3 ++ '}' :: rest)) =
      .ok { id := c :: s2, param := p, modifier := m, rest := rest } := by
  have hne : c ≠ '#' := by rintro rfl; revert hc; decide
  have ht : ∀ d, (s3 ++ '}' :: rest).head? = some d → isNameChar d = false := by
    intro d hd
    cases s3 with
    | nil => simp at hd; subst hd; decide
    | cons e s3' => exact hstop d (by simpa using hd)
  have ⟨htw, hdw⟩ := Common.span_unique (l := s2 ++ (s3 ++ '}' :: rest)) rfl hs ht
  simp [lexBraced, hasLengthPrefix_not_hash c _ hne, hc, htw, hdw, hid, hsuf, typeOfId_not_special (c :: s2) p hid m]

/-- ★ … and for every special parameter `@ * ? - $ !` (the generated `SpecialParam::from_char` table; `#` has its own
    table `lex_hash_forms`): one character, then the suffix; in portable mode exactly the combinations
    `has_non_portable_modifier` lists are rejected. -/
theorem lexBraced_special_general (portable : Bool) (c : Char) (s3 rest : List Char) (p : Param) (m : LexMod)
    (hc : isNameChar c = false) (hne : c ≠ '#') (hsp : specialOfChar c = some p)
    (hsuf : lexSuffix (s3 ++ '}' :: rest) = .ok (m, '}' :: rest)) :
    lexBraced portable (c :: (s3 ++ '}' :: rest)) =
      if portable && hasNonPortableModifier p m then .error .nonPortable
      else .ok { id := [c], param := p, modifier := m, rest := rest } := by
  simp [lexBraced, hasLengthPrefix_not_hash c _ hne, hc, hsp, hsuf]

/-- ★ `${name}` for EVERY name (portable name characters, not starting with a digit) and whatever follows the
    closing brace: the lexer yields the variable of exactly that name, no modifier, in both modes — the general
    counterpart of the finite table `lex_hash_forms` (a name never triggers the `#` ambiguity, `}` is in none
    of the generated modifier tables). -/
theorem lexBraced_name (portable : Bool) (c : Char) (s2 rest : List Char)
    (hc : isNameChar c = true) (hnd : c.isDigit = false) (hs : ∀ d ∈ s2, isNameChar d = true) :
    (lexBraced portable (c :: s2 ++ '}' :: rest)).toOption.map (fun b => (b.id, b.param, b.modifier, b.rest)) =
      some (c :: s2, .var (String.ofList (c :: s2)), .none, rest) := by
  rw [show lexBraced portable (c :: s2 ++ '}' :: rest) = _ from
    lexBraced_id_general portable c s2 [] rest _ .none hc hs (by simp) ((typeOfId_cases c s2).2.2.2 hnd)
      (lexSuffix_brace rest)]
  rfl

example : (lexBraced true "foo_1}bar".toList).toOption.map (fun b => (b.id, b.param, b.modifier, b.rest)) =
    some ("foo_1".toList, .var "foo_1", .none, "bar".toList) := by decide +kernel

/-- The symbol tables of the lexer agree with each other and with XCU 2.6.2: every symbol `suffix_modifier` dispatches
    to `switch` / `trim` has an action / a side there (and no other symbol has), and the assignment is the standard's:
    `-` default, `=` assign, `?` error, `+` alternative, `#` prefix, `%` suffix.  (The tables are re-extracted from
    modifier.rs on every run; the driver decodes the case syntax through them.) -/
theorem symbol_tables_agree :
    (∀ c, c ∈ Generated.ExpansionTables.suffixSwitchSymbols ↔ (swActionOfSymbol c).isSome = true) ∧
    (∀ c, c ∈ Generated.ExpansionTables.suffixTrimSymbols ↔ (trimSideOfSymbol c).isSome = true) ∧
    "-=?+".toList.map swActionOfSymbol = [some .default, some .assign, some .error, some .alter] ∧
    "#%".toList.map trimSideOfSymbol = [some .prefix, some .suffix] := by
  refine ⟨fun c => ⟨?_, fun h => ?_⟩, fun c => ⟨?_, fun h => ?_⟩, by decide +kernel, by decide +kernel⟩
  · exact (by decide +kernel : ∀ d ∈ Generated.ExpansionTables.suffixSwitchSymbols, (swActionOfSymbol d).isSome = true) c
  · exact (by decide +kernel : ∀ d ∈ Generated.ExpansionTables.switchSymbols.map (·.1),
      d ∈ Generated.ExpansionTables.suffixSwitchSymbols) c (mem_keys_of_lookup_bind _ _ c h)
  · exact (by decide +kernel : ∀ d ∈ Generated.ExpansionTables.suffixTrimSymbols, (trimSideOfSymbol d).isSome = true) c
  · exact (by decide +kernel : ∀ d ∈ Generated.ExpansionTables.trimSymbols.map (·.1),
      d ∈ Generated.ExpansionTables.suffixTrimSymbols) c (mem_keys_of_lookup_bind _ _ c h)

/-- `${p#w}`, `${p##w}`, `${p%w}`, `${p%%w}`: after any parameter, a trim symbol (the characters `suffix_modifier`
    dispatches to `trim`: the generated table, `# %` in the current code), doubled for "longest", starts a trim whose
    pattern runs to the first closing brace — for every pattern without `}` (a "shortest" pattern does not start with
    the symbol itself: that is the doubled form); and a colon before a trim symbol is an invalid modifier. -/
theorem lexSuffix_trim (side : Char) (long : Bool) (w rest : List Char)
    (hs : side ∈ Generated.ExpansionTables.suffixTrimSymbols) (hw : ∀ c ∈ w, c ≠ '}')
    (hshort : long = false → w.head? ≠ some side) :
    lexSuffix (side :: (if long then [side] else []) ++ w ++ '}' :: rest) = .ok (.trim side long w, '}' :: rest) ∧
    lexSuffix (':' :: side :: (if long then [side] else []) ++ w ++ '}' :: rest) = .error .invalidModifier := by
  have ⟨htw, hdw⟩ := span_until_brace w rest hw
  have hne : side ≠ ':' := by rintro rfl; exact absurd hs (by decide)
  have hnsw : Generated.ExpansionTables.suffixSwitchSymbols.contains side = false :=
    (by decide : ∀ d ∈ Generated.ExpansionTables.suffixTrimSymbols,
      Generated.ExpansionTables.suffixSwitchSymbols.contains d = false) side hs
  have htr : Generated.ExpansionTables.suffixTrimSymbols.contains side = true := List.contains_iff_mem.mpr hs
  refine ⟨?_, (lexSuffix_cons true side _ hne).trans (by rw [hnsw, htr]; rfl)⟩
  refine (lexSuffix_cons false side _ hne).trans ?_
  rw [hnsw, htr]
  cases long with
  | true => simp [htw, hdw]
  | false =>
    have hh : ((w ++ '}' :: rest).head? == some side) = false := by
      cases w with
      | nil =>
        have : side ≠ '}' := by rintro rfl; exact absurd hs (by decide)
        simp [Ne.symm this]
      | cons d w' => simpa using hshort rfl
    have hg : ¬ (w.head?.getD '}' = side) := by simpa using hh
    simp [hg, htw, hdw]

/-- `${#<id>}` is the length of the parameter, for every identifier of name characters. -/
theorem lexBraced_length_id (portable : Bool) (c : Char) (s2 rest : List Char) (p : Param)
    (hc : isNameChar c = true) (hs : ∀ d ∈ s2, isNameChar d = true) (hid : typeOfId (c :: s2) = some p) :
    lexBraced portable ('#' :: c :: s2 ++ '}' :: rest) =
      .ok { id := c :: s2, param := p, modifier := .length, rest := rest } := by
  have hno : ∀ l : List Char, (∀ d ∈ l, isNameChar d = false) → c ∉ l := fun l hl h => by
    have := hl c h; rw [hc] at this; cases this
  have h1 := hno Generated.ExpansionTables.lengthPrefixPlain (by decide)
  have h2 := hno Generated.ExpansionTables.lengthPrefixAmbiguous (by decide)
  have hpre : hasLengthPrefix ('#' :: c :: (s2 ++ '}' :: rest)) = true := by
    simp [hasLengthPrefix, h1, h2]
  have ⟨htw, hdw⟩ := Common.span_unique (l := s2 ++ '}' :: rest) rfl hs (Common.StopsAt.cons (by decide) rest)
  simp [lexBraced, hpre, hc, htw, hdw, hid, lexSuffix_brace, typeOfId_not_special (c :: s2) p hid .length]

example : lexBraced true "12%%a*}z".toList = .ok { id := "12".toList, param := .pos 12, modifier := .trim '%' true "a*".toList, rest := ['z'] } := by
  have h := lexBraced_id_general true '1' ['2'] "%%a*".toList ['z'] (.pos 12) (.trim '%' true "a*".toList)
    (by decide) (by decide) (by decide) (by decide) rfl
  simpa using h

example : lexBraced true "@%a}".toList = .error .nonPortable ∧
    lexBraced false "@%a}".toList = .ok { id := ['@'], param := .at, modifier := .trim '%' false ['a'], rest := [] } := by
  have h := fun pt => lexBraced_special_general pt '@' "%a".toList [] .at (.trim '%' false ['a']) (by decide) (by decide)
    (by decide) rfl
  exact ⟨by simpa [hasNonPortableModifier] using h true, by simpa using h false⟩

example : lexSuffix "##a*}c".toList = .ok (.trim '#' true "a*".toList, "}c".toList) := by decide +kernel

/-! ## Quotes and backslashes protect what they enclose -/

/-- ★★ A word built from literal characters, backslash escapes, `'…'`, `$'…'` and `"…"` (any
    number of units, in any order, double quotes containing literals and escapes) expands, as a
    command argument, to exactly one field whose value is exactly the enclosed text — for every
    IFS and environment: nothing is split, nothing is lost, no quote character survives. -/
theorem quotes_protect (env : Env) (w : Word) (s : List Char) (hw : w ≠ .nil)
    (h : w.plain = some s) : expandWordMultiple env w = (env, .ok [s]) := by
  cases w with
  | nil => exact absurd rfl hw
  | cons u w' =>
    obtain ⟨cs, hcs, hgood, hne⟩ := posixWord_plain env true u w' s h
    rw [expandWordMultiple_protected_one hcs hne (protected_of_origin (by decide) hgood.1), hgood.2]

/-- … and in a single-field context (assignment) to exactly that text. -/
theorem quotes_protect_single (env : Env) (w : Word) (s : List Char) (h : w.plain = some s) :
    expandWordSingle env w = (env, .ok s) := by
  cases w with
  | nil => cases h; rfl
  | cons u w' =>
    obtain ⟨cs, hcs, hgood, _⟩ := posixWord_plain env true u w' s h
    rw [expandWordSingle_of_posix hcs, joinBySep_one, hgood.2]

/-- Quotes and backslashes protect what they enclose: a single-quoted string, as a whole word,
    expands to exactly one field containing exactly the enclosed characters, for every IFS. -/
theorem single_quote_exact (env : Env) (s : List Char) :
    expandWordMultiple env (.cons (.sq s) .nil) = (env, .ok [s]) := by
  exact quotes_protect env _ s (by simp) (by simp [Word.plain, WordUnit.plain])

example : (Word.cons (.unq (.lit 'a')) (.cons (.dq (.cons (.lit ' ') (.cons (.bs '$') .nil)))
    (.cons (.sq ['b', ' ']) (.cons (.unq (.bs ' ')) .nil)))).plain = some ['a', ' ', '$', 'b', ' ', ' '] := by decide +kernel

/-! ## Tilde expansion (XCU 2.6.1; `initial/tilde.rs`) -/

/-- ★ A tilde-prefix at the front of a word, followed by any text made of literal characters and quoting forms,
    expands as a command argument to exactly ONE field: the text the prefix stands for (`tildeText`: the directory,
    one trailing slash dropped before a slash) followed by the enclosed text — for every environment, whatever
    characters the directory contains and whatever IFS is (a blank or an IFS character inside HOME never splits;
    an empty directory still yields one — empty — field). -/
theorem tilde_word_one_field (env : Env) (name : List Char) (slash : Bool) (w : Word) (s : List Char)
    (h : w.plain = some s) :
    expandWordMultiple env (.cons (.tilde name slash) w) = (env, .ok [tildeText env name slash ++ s]) := by
  obtain ⟨cs, hcs, hgood⟩ := posixWordGo_plain env true w s (posixTilde env name slash) h
  rw [expandWordMultiple_protected_one (cs := posixTilde env name slash ++ cs) (by rw [posixWord, posixWordUnit]; exact hcs)
    (fun h => posixTilde_ne_nil env name slash (List.append_eq_nil_iff.mp h).1)
    ((protected_of_origin (by decide) (posixTilde_origin env name slash)).append (protected_of_origin (by decide) hgood.1)),
    removeQuotesAndStrip_append, removeQuotes_posixTilde, hgood.2]

theorem tilde_word_single (env : Env) (name : List Char) (slash : Bool) (w : Word) (s : List Char)
    (h : w.plain = some s) :
    expandWordSingle env (.cons (.tilde name slash) w) = (env, .ok (tildeText env name slash ++ s)) := by
  obtain ⟨cs, hcs, hgood⟩ := posixWordGo_plain env true w s (posixTilde env name slash) h
  rw [expandWordSingle_of_posix (fs := [posixTilde env name slash ++ cs]) (by rw [posixWord, posixWordUnit]; exact hcs),
    joinBySep_one, removeQuotesAndStrip_append, removeQuotes_posixTilde, hgood.2]

/-- What the prefix stands for when XCU 2.6.1 defines it (HOME set for `~`, login name known for `~name`): the directory
    itself; and when the prefix is followed by a slash and the directory ends in one, the directory without that slash —
    so that prefix + `/` reads exactly as the directory (no doubled slash). -/
theorem tilde_directory (env : Env) (name dir : List Char) (slash : Bool) (h : tildeDir env name = some dir) :
    (slash = false → tildeText env name slash = dir) ∧
    (slash = true → dir.getLast? ≠ some '/' → tildeText env name slash = dir) ∧
    (slash = true → dir.getLast? = some '/' → tildeText env name slash ++ ['/'] = dir) := by
  unfold tildeText
  rw [h]
  refine ⟨fun hs => by simp [hs], fun hs hl => by simp [hl], fun hs hl => ?_⟩
  simp only [hs, hl, and_self, if_true]
  exact Common.dropLast_append_getLast hl

/-- Where POSIX leaves the result unspecified (HOME unset, unknown login name) the prefix is left as it is — for every
    name the parser can produce (a tilde name never contains a slash). -/
theorem tilde_unspecified_unchanged (env : Env) (name : List Char) (slash : Bool) (hs : '/' ∉ name)
    (h : tildeDir env name = none) : tildeText env name slash = '~' :: name := by
  unfold tildeText
  rw [h]
  have : ('~' :: name).getLast? ≠ some '/' := by
    intro hl
    have hm := List.mem_of_getLast? hl
    simp at hm
    exact hs hm
  simp [this]

def envHome (h : String) : Env :=
  { vars := [("IFS", { value := some (.scalar Ifs.defaultChars), readOnly := false }),
             ("HOME", { value := some (.scalar h.toList), readOnly := false })],
    pos := [], nounset := false, exitStatus := 0, arg0 := [], homes := [("a".toList, "/u v/".toList)] }

/-- `~/c` with HOME = `/a b` under the default IFS: one field, the blank inside the directory does not split -/
example : expandWordMultiple (envHome "/a b") (.cons (.tilde [] true) (.cons (.unq (.lit '/')) (.cons (.unq (.lit 'c')) .nil)))
    = (envHome "/a b", .ok ["/a b/c".toList]) := by
  rw [tilde_word_one_field _ _ _ _ "/c".toList rfl]
  have : tildeText (envHome "/a b") [] true = "/a b".toList := by decide +kernel
  rw [this]; rfl
/-- an empty HOME: `~` is one empty field (not zero fields) -/
example : expandWordMultiple (envHome "") (.cons (.tilde [] false) .nil) = (envHome "", .ok [[]]) := by
  rw [tilde_word_one_field _ _ _ _ [] rfl]
  have : tildeText (envHome "") [] false = [] := by decide +kernel
  rw [this]; rfl
/-- `~a/` where the user database gives `/u v/`: the trailing slash of the directory is dropped before the slash -/
example : expandWordMultiple (envHome "") (.cons (.tilde "a".toList true) (.cons (.unq (.lit '/')) .nil))
    = (envHome "", .ok ["/u v/".toList]) := by
  rw [tilde_word_one_field _ _ _ _ "/".toList rfl]
  have : tildeText (envHome "") "a".toList true = "/u v".toList := by decide +kernel
  rw [this]; rfl
/-- an unknown login name: the tilde-prefix stays -/
example : tildeText (envHome "/h") "zz".toList false = "~zz".toList ∧ tildeDir (envHome "/h") "zz".toList = none := by
  decide +kernel
/-- inside double quotes `~` is an ordinary character (`quotes_protect`) -/
example : expandWordMultiple (envHome "/h") (.cons (.dq (.cons (.lit '~') .nil)) .nil) = (envHome "/h", .ok ["~".toList]) :=
  quotes_protect _ _ _ (by simp) rfl

/-! ## This model and C04's word model (`Fnmatch/Word.lean`) are the same transcription -/

/-- ★ The two transcriptions of word.rs / text.rs cannot drift apart: whenever C04's environment-free pattern word `pw`
    describes the word `w` in `env` (`corrW`: same units; `param v` ↔ a parameter whose value is the scalar `v`;
    `alt pw'` ↔ `${p+w'}` / `${p:+w'}` taking its word), this area's initial expansion of `w` — in both splitting contexts —
    leaves the environment unchanged and denotes exactly ONE field: the attributed characters of `Fnmatch.PWord.expand pw`
    (origin, quoted and quoting flag of every character). -/
theorem expandWord_eq_PWord (env : Env) (ws : Bool) (pw : Fnmatch.PWord) (w : Word) (h : corrW env pw w = true) :
    den (expandWord env ws w) = (env, .ok [pw.expand.map convChar]) := by
  rw [initial_expansion_eq_posix]; exact w_bridge pw w env ws h

/-- … hence the pattern characters a trim / `case` pattern gets from the word are C04's `patternOfWord`: the same
    word read by either model gives the same pattern. -/
theorem pattern_of_word_agrees (env : Env) (ws : Bool) (pw : Fnmatch.PWord) (w : Word) (ph : Phrase) (env' : Env)
    (h : corrW env pw w = true) (hx : expandWord env ws w = (env', .ok ph)) :
    env' = env ∧ toPatternChars (applyEscapes (ph.ifsJoin env')) = Fnmatch.patternOfWord pw := by
  have hd := expandWord_eq_PWord env ws pw w h
  rw [hx] at hd
  simp only [den_ok, Prod.mk.injEq, Except.ok.injEq] at hd
  obtain ⟨he, hf⟩ := hd
  refine ⟨he, ?_⟩
  rw [ifsJoin_eq, hf, pattern_chars_compose]
  have hl : (joinBySep env' [pw.expand.map convChar]).map (fun c => (⟨c.value, c.isQuoted, c.isQuoting⟩ : Fnmatch.AttrChar))
      = pw.expand.map Fnmatch.PAttrChar.reduce := by
    rw [joinBySep_one, List.map_map]
    exact List.map_congr_left fun c _ => rfl
  rw [hl]
  rfl

def envXY : Env :=
  { vars := [("x", { value := some (.scalar "a*".toList), readOnly := false })],
    pos := ["b c".toList], nounset := false, exitStatus := 0, arg0 := [] }

/-- `"\$$x"'q'${1+"$x"\*}` : every kind of unit, a parameter and a nested switch word -/
example : corrW envXY
    (.cons (.dq (.cons (.bs '$') (.cons (.param "a*".toList) .nil)))
      (.cons (.sq ['q']) (.cons (.unq (.alt (.cons (.dq (.cons (.param "a*".toList) .nil)) (.cons (.unq (.bs '*')) .nil)))) .nil)))
    (.cons (.dq (.cons (.bs '$') (.cons (.param (.var "x") .none) .nil)))
      (.cons (.sq ['q']) (.cons (.unq (.param (.pos 1) (.switch .unset .alter
        (.cons (.dq (.cons (.param (.var "x") .none) .nil)) (.cons (.unq (.bs '*')) .nil))))) .nil))) = true := by
  decide +kernel

/-! ## Which `~` is a tilde prefix (`parser/lex/tilde.rs`) -/

/-- In a word without an unquoted colon the two readings coincide: `parse_tilde_everywhere_after(0)` (assignment
    values) finds exactly the tilde prefix `parse_tilde_front` (command words) finds. -/
theorem tilde_everywhere_eq_front (us : List WordUnit) (h : ∀ u ∈ us, isColonUnit u = false) :
    parseTildeEverywhereAfter 0 us = parseTildeFront us := by
  have hnone : ∀ l : List WordUnit, (∀ u ∈ l, isColonUnit u = false) → l.findIdx? isColonUnit = none := by
    intro l hl
    rw [List.findIdx?_eq_none_iff]; exact hl
  have hpt : parseTilde us true = parseTilde us false := by
    unfold parseTilde
    split
    · rename_i rest
      exact parseTildeGo_no_colon rest (fun u hu => h u (by simp [hu])) [] 1
    · rfl
  simp only [parseTildeEverywhereAfter, List.take_zero, List.nil_append, List.drop_zero, parseTildeEverywhereGo,
    parseTildeFront, hpt]
  cases hp : parseTilde us false with
  | none => simp [hnone us h]
  | some r =>
    obtain ⟨len, name, slash⟩ := r
    have hd : ∀ u ∈ us.drop len, isColonUnit u = false := fun u hu => h u (List.mem_of_mem_drop hu)
    simp [hnone _ hd]

/-- the example of tilde.rs: `~=~a/b:~c` read from unit 2 on -/
example : parseTildeEverywhereAfter 2 ("~=~a/b:~c".toList.map fun c => WordUnit.unq (.lit c)) =
    [.unq (.lit '~'), .unq (.lit '='), .tilde ['a'] true, .unq (.lit '/'), .unq (.lit 'b'), .unq (.lit ':'), .tilde ['c'] false] := by
  rfl

/-! ## Command substitution as an opaque value source (XCU 2.6.3; `initial/command_subst.rs`) -/

/-- "removing sequences of one or more <newline> characters at the end of the substitution": what is removed is a run
    of newlines, and what is left does not end in a newline — for every output. -/
theorem strip_trailing_newlines_spec (s : List Char) :
    (∃ k, s = stripTrailingNewlines s ++ List.replicate k '\n') ∧ (stripTrailingNewlines s).getLast? ≠ some '\n' := by
  rw [stripTrailingNewlines_eq]
  obtain ⟨tail, h1, h2, h3⟩ := Common.rstrip_spec (· == '\n') s
  refine ⟨⟨tail.length, ?_⟩, fun h => by simpa using h3 _ h⟩
  rw [← List.eq_replicate_iff.mpr ⟨rfl, fun c hc => by simpa using h2 c hc⟩]
  exact h1

/-- ★ Command substitution for EVERY output: `$(…)` as a command argument is the output without its trailing
    newlines, as characters of a soft expansion, split at the IFS in force — whatever the command writes. -/
theorem cmdsubst_is_split (env : Env) (bq : Bool) (c : List Char) :
    expandWordMultiple env (.cons (.unq (.cmd bq c)) .nil) =
      (env, .ok ((splitInto env.ifs (toField (stripTrailingNewlines (env.cmdOut c)))).map removeQuotesAndStrip)) := by
  rw [arg_unq_unit (posixTextUnit_cmd env true bq c), List.flatMap_singleton]

/-- … and `"$(…)"` is exactly one field, the output without its trailing newlines (inner newlines, blanks and IFS
    characters kept), for every output and every IFS. -/
theorem cmdsubst_in_dquotes_one_field (env : Env) (bq : Bool) (c : List Char) :
    expandWordMultiple env (.cons (.dq (.cons (.cmd bq c) .nil)) .nil) =
      (env, .ok [stripTrailingNewlines (env.cmdOut c)]) := by
  rw [arg_dq_unit (posixTextUnit_cmd env false bq c), ← removeQuotes_toField_map [_]]; rfl

/-- The backquote form expands like `$(…)` (the difference is in the lexer's unquoting of the command text), in every
    context; and a command substitution never changes the environment. -/
theorem cmdsubst_backquote_same (env : Env) (ws : Bool) (c : List Char) :
    expandTextUnit env ws (.cmd true c) = expandTextUnit env ws (.cmd false c) ∧
    (expandTextUnit env ws (.cmd false c)).1 = env := by
  simp [expandTextUnit]

def envOut (out : String) : Env :=
  { vars := [("IFS", { value := some (.scalar ": ".toList), readOnly := false })],
    pos := [], nounset := false, exitStatus := 0, arg0 := [], cmdOut := fun _ => out.toList }

example : (expandWordMultiple (envOut "a:b c\n\n") (.cons (.unq (.cmd false [])) .nil)).2.toOption
    = some ["a".toList, "b".toList, "c".toList] := by decide +kernel
example : (expandWordMultiple (envOut "a:b\nc\n\n") (.cons (.dq (.cons (.cmd true []) .nil)) .nil)).2.toOption
    = some ["a:b\nc".toList] := by decide +kernel

/-! ## Arithmetic expansion (XCU 2.6.4; `initial/arith.rs` composed with the yash-arith model of C03) -/

/-- ★ `$((…))` yields the value in decimal as characters of a SOFT expansion: as a command argument it IS split at
    the IFS in force after the evaluation (e.g. at a digit or the minus sign when IFS holds one), for every content,
    environment and value. -/
theorem arith_expansion_is_split (env env1 env2 : Env) (t : Text) (src : List Char) (v : Int)
    (h1 : expandTextJoined env t = (env1, .ok src))
    (h2 : Arith.evalStrG arithI false src env1 = .ok (v, env2)) :
    expandWordMultiple env (.cons (.unq (.arith t)) .nil) =
      (env2, .ok ((splitInto env2.ifs (toField (intChars v))).map removeQuotesAndStrip)) := by
  rw [arg_unq_unit (posixTextUnit_arith true h1 h2), List.flatMap_singleton]

/-- … and inside double quotes it is one field, the decimal value, whatever IFS is. -/
theorem arith_in_dquotes_one_field (env env1 env2 : Env) (t : Text) (src : List Char) (v : Int)
    (h1 : expandTextJoined env t = (env1, .ok src))
    (h2 : Arith.evalStrG arithI false src env1 = .ok (v, env2)) :
    expandWordMultiple env (.cons (.dq (.cons (.arith t) .nil)) .nil) = (env2, .ok [intChars v]) := by
  rw [arg_dq_unit (posixTextUnit_arith false h1 h2), ← removeQuotes_toField_map [_]]; rfl

/-- ★ Assignments made inside `$((…))` are visible to the later units of the same word, left to right: what follows
    the arithmetic expansion is expanded in the environment the evaluation left, glued to the value. -/
theorem arith_assignment_visible_later (env env1 env2 : Env) (ws : Bool) (t : Text) (src : List Char) (v : Int) (w : Word)
    (h1 : expandTextJoined env t = (env1, .ok src))
    (h2 : Arith.evalStrG arithI false src env1 = .ok (v, env2)) :
    expandWord env ws (.cons (.unq (.arith t)) w) = expandWordGo env2 ws (.field (toField (intChars v))) w := by
  simp [expandWord, expandWordUnit, expandTextUnit_arith_eq, h1, arithEval, h2, Phrase.zeroFields, Phrase.append]

/-- the adapter: the interface C03's evaluator uses reads `get_scalar` and writes through `Env.assign` -/
theorem arithI_is_the_environment (env : Env) (name : List Char) (val : List Char) :
    (arithI.assign env name val = match env.assign (String.ofList name) val with
      | some e => .ok e | none => .error .assignVariableError) ∧
    (arithI.get env name = match env.getScalar (String.ofList name) with
      | some s => .ok (some s) | none => if env.nounset then .error .getVariableError else .ok none) :=
  ⟨rfl, rfl⟩

def envX (x : String) (ifs : String) : Env :=
  { vars := [("IFS", { value := some (.scalar ifs.toList), readOnly := false }),
             ("x", { value := some (.scalar x.toList), readOnly := false })],
    pos := [], nounset := false, exitStatus := 0, arg0 := [] }

def litText (s : String) : Text := s.toList.foldr (fun c t => .cons (.lit c) t) .nil

/-- `$((x=5))$x` with x = 3: the later `$x` sees 5 -/
example : ((expandWordSingle (envX "3" " ") (.cons (.unq (.arith (litText "x=5"))) (.cons (.unq (.param (.var "x") .none)) .nil))).2.toOption)
    = some "55".toList := by decide +kernel
/-- `$((100+1))` with IFS = `0`: split at the zero -/
example : ((expandWordMultiple (envX "3" "0") (.cons (.unq (.arith (litText "100+1"))) .nil)).2.toOption)
    = some ["1".toList, "1".toList] := by decide +kernel
/-- `"$((x++))$x"$x` -/
example : ((expandWordMultiple (envX "3" " ") (.cons (.dq (.cons (.arith (litText "x++")) (.cons (.param (.var "x") .none) .nil)))
      (.cons (.unq (.param (.var "x") .none)) .nil))).2.toOption) = some ["344".toList] := by decide +kernel

/-! ## `${p}` and `${#p}` -/

/-- `$p` / `${p}` select the parameter's value and `${#p}` its length in characters (a parameter
    that is unset, `nounset` being off, counts as empty / `0`) — shown in a single-field context,
    where no splitting interferes; for every scalar-valued parameter of any kind. -/
theorem value_and_length_forms (env : Env) (p : Param) (hn : env.nounset = false)
    (hv : ∀ vs, resolve env p ≠ some (.array vs)) :
    expandWordSingle env (.cons (.unq (.param p .none)) .nil)
      = (env, .ok (match resolve env p with | some (.scalar s) => s | _ => [])) ∧
    expandWordSingle env (.cons (.unq (.param p .length)) .nil)
      = (env, .ok (match resolve env p with | some (.scalar s) => natToChars s.length | _ => ['0'])) := by
  have hn' : ¬ (resolve env p = none ∧ env.nounset = true) := fun h => by rw [hn] at h; cases h.2
  rw [single_unq_unit (posixTextUnit_param_none true hn'), single_unq_unit (posixTextUnit_param_length true hn')]
  rcases hr : resolve env p with _ | s | vs
  · simp only [lengthOf, paramFields_none, paramFields_scalar, joinBySep_one, removeQuotes_toField,
      removeQuotesAndStrip_nil, and_self]
  · simp only [lengthOf, paramFields_scalar, joinBySep_one, removeQuotes_toField, and_self]
  · exact absurd hr (hv vs)

example : resolve
    { vars := [("x", { value := some (.scalar ['a', 'b']), readOnly := false })],
      pos := [], nounset := false, exitStatus := 0, arg0 := [] }
    (.var "x") = some (.scalar ['a', 'b']) := by decide +kernel

/-! ## Trims (composed with the C04 model and theorems of yash-fnmatch) -/

/-- ★ `${p#w} ${p##w} ${p%w} ${p%%w}` in the literal sense of XCU 2.6.2, against POSIX pattern matching
    (`Fnmatch.posixMatch`: the XCU 2.13 grammar with bracket expressions, ranges, classes, complements, quoted
    characters, then the glob language): for a pattern inside the defined notation the result is the value
    cut at a split point whose removed part matches, the removed part being the shortest (`#`, `%`) / longest
    (`##`, `%%`) among ALL matching prefixes (`#`) / suffixes (`%`); and the value itself exactly when no
    prefix / suffix matches. -/
theorem trim_removes_shortest_longest (pcs : List PatChar) (side : TrimSide) (len : TrimLen) (v : List Char)
    (h : patternInPosix side pcs = true) :
    (∃ i, i ≤ v.length ∧ Fnmatch.posixMatch pcs (trimRemovedPart side v i) = true ∧
        Fnmatch.trimApply side len pcs v = trimKeptPart side v i ∧
        ∀ j, j ≤ v.length → Fnmatch.posixMatch pcs (trimRemovedPart side v j) = true →
          (len = .shortest → trimRemovedLen side v i ≤ trimRemovedLen side v j) ∧
          (len = .longest → trimRemovedLen side v j ≤ trimRemovedLen side v i)) ∨
    ((∀ j, j ≤ v.length → Fnmatch.posixMatch pcs (trimRemovedPart side v j) = false) ∧
      Fnmatch.trimApply side len pcs v = v) := by
  rw [trimString_eq_posix, posixTrimString, if_pos h]
  unfold Fnmatch.posixMatch
  generalize Fnmatch.specParse pcs = ast
  -- a prefix is removed at split point `k` by keeping `v.drop k`; a suffix by keeping `v.take k`, so the shortest suffix
  -- is the GREATEST split point (hence `Nat.sub_le_sub_left` on the removed lengths `v.length - k`)
  cases side with
  | «prefix» =>
    cases len with
    | shortest =>
      simp only [Fnmatch.specTrim, trimRemovedPart, trimKeptPart, trimRemovedLen]
      rcases least_witness (fun k => Fnmatch.globMatch ast (v.take k)) v.length v.drop v with
        ⟨i, hi, hp, he, hmin⟩ | h
      · exact .inl ⟨i, hi, hp, he, fun j hj hm => ⟨fun _ => hmin j hj hm, nofun⟩⟩
      · exact .inr h
    | longest =>
      simp only [Fnmatch.specTrim, trimRemovedPart, trimKeptPart, trimRemovedLen]
      rcases greatest_witness (fun k => Fnmatch.globMatch ast (v.take k)) v.length v.drop v with
        ⟨i, hi, hp, he, hmax⟩ | h
      · exact .inl ⟨i, hi, hp, he, fun j hj hm => ⟨nofun, fun _ => hmax j hj hm⟩⟩
      · exact .inr h
  | suffix =>
    cases len with
    | shortest =>
      simp only [Fnmatch.specTrim, trimRemovedPart, trimKeptPart, trimRemovedLen]
      rcases greatest_witness (fun k => Fnmatch.globMatch ast (v.drop k)) v.length v.take v with
        ⟨i, hi, hp, he, hmax⟩ | h
      · exact .inl ⟨i, hi, hp, he, fun j hj hm => ⟨fun _ => Nat.sub_le_sub_left (hmax j hj hm) _, nofun⟩⟩
      · exact .inr h
    | longest =>
      simp only [Fnmatch.specTrim, trimRemovedPart, trimKeptPart, trimRemovedLen]
      rcases least_witness (fun k => Fnmatch.globMatch ast (v.drop k)) v.length v.take v with
        ⟨i, hi, hp, he, hmin⟩ | h
      · exact .inl ⟨i, hi, hp, he, fun j hj hm => ⟨nofun, fun _ => Nat.sub_le_sub_left (hmin j hj hm) _⟩⟩
      · exact .inr h

/-- non-vacuity, with a bracket expression: `[a-c]*` is inside the defined notation; `##` removes all of
    `bxbx`, `#` only `b`; `%[!x]` removes nothing from `bx`, `%%[[:alpha:]]` removes the `x` -/
example :
    let p1 : List PatChar := [.normal '[', .normal 'a', .normal '-', .normal 'c', .normal ']', .normal '*']
    let p2 : List PatChar := [.normal '[', .normal '!', .normal 'x', .normal ']']
    let p3 : List PatChar := "[[:alpha:]]".toList.map .normal
    patternInPosix .prefix p1 = true ∧ patternInPosix .suffix p2 = true ∧ patternInPosix .suffix p3 = true ∧
    Fnmatch.trimApply .prefix .longest p1 "bxbx".toList = [] ∧
    Fnmatch.trimApply .prefix .shortest p1 "bxbx".toList = "xbx".toList ∧
    Fnmatch.trimApply .suffix .shortest p2 "bx".toList = "bx".toList ∧
    Fnmatch.trimApply .suffix .longest p3 "bx".toList = "b".toList := by decide +kernel

/-- outside the defined notation the fallback branch of the Spec is taken: `[z-a]` (inverted range) does not
    compile and leaves the value unchanged; `[a[.ab.]]` (multi-character collating element, prefix form) -/
example :
    patternInPosix .prefix ("[z-a]".toList.map .normal) = false ∧
    Fnmatch.trimApply .prefix .shortest ("[z-a]".toList.map .normal) "za".toList = "za".toList ∧
    patternInPosix .prefix ("[a[.ab.]]".toList.map .normal) = false ∧
    patternInPosix .suffix ("[a[.ab.]]".toList.map .normal) = true := by decide +kernel

example : bracketFree [.normal 'a', .literal '[', .normal '*', .normal '?'] = true := by decide +kernel

/-- ★ the trim inside the declarative expansion (`posixParam`, which the model's `expandParam` denotes by
    `param_den`): `${x<op>w}` on a set scalar variable yields the one field `posixTrim` describes, the pattern being the expansion of `w` joined, escapes applied; in every context, for every
    pattern word. -/
theorem trim_expansion (env : Env) (ws : Bool) (name : String) (v : List Char) (side : TrimSide) (len : TrimLen)
    (w : Word) (hv : env.getValue name = some (.scalar v)) :
    posixParam env ws (.var name) (resolve env (.var name)) (.trim side len w) =
      match posixWord env ws w with
      | (env', .error e) => (env', .error e)
      | (env', .ok fs) =>
        (env', .ok [toField (posixTrimString (toPatternChars (applyEscapes (joinBySep env' fs))) side len v)]) := by
  simp only [resolve, hv, posixParam]
  rcases posixWord env ws w with ⟨env', r⟩
  cases r with
  | error e => simp
  | ok fs => simp [paramFields, valueFields, posixTrim]

/-- non-vacuity, end to end through the function the driver runs: `${x%%[.:]*}` with `x=a.b:c` is the one field
    `a`; `${x#*[.:]}` is `b:c`; `"${@#[!a]}"` with the parameters `ba` `ab` gives `a` and `ab` -/
example :
    let env : Env := { vars := [("x", { value := some (.scalar "a.b:c".toList), readOnly := false })],
                       pos := ["ba".toList, "ab".toList], nounset := false, exitStatus := 0, arg0 := [] }
    let lits := fun (s : String) => s.toList.foldr (fun c w => Word.cons (.unq (.lit c)) w) Word.nil
    env.getValue "x" = some (.scalar "a.b:c".toList) ∧
    (expandWordMultiple env (.cons (.unq (.param (.var "x") (.trim .suffix .longest (lits "[.:]*")))) .nil)).2.toOption
      = some ["a".toList] ∧
    (expandWordMultiple env (.cons (.unq (.param (.var "x") (.trim .prefix .shortest (lits "*[.:]")))) .nil)).2.toOption
      = some ["b:c".toList] ∧
    (expandWordMultiple env (.cons (.dq (.cons (.param .at (.trim .prefix .shortest (lits "[!a]"))) .nil)) .nil)).2.toOption
      = some ["a".toList, "ab".toList] := by decide +kernel

/-! ## `${p=w}` / `${p:=w}` assign to the parameter -/

/-- ★ "The expansion of word shall be assigned to parameter" (XCU 2.6.2): when `${name=w}` /
    `${name:=w}` finds the variable vacant, the expansion succeeds with the quote-removed value of
    the word, and from then on that value is what `name` expands to — in the context where the
    expansion happened and, provided no function call in progress has declared `name` local, in
    EVERY context afterwards: after the running functions return (`popCtx`), in later calls, at top
    level (`ctxs'` is any stack of function contexts that do not declare `name`).  The value goes to
    the global variable, never into the context of the function call in progress. -/
theorem assign_switch_effect (env env1 : Env) (ws : Bool) (name : String) (cond : SwCond) (w : Word)
    (ph : Phrase) (vac : Vacancy)
    (hd : switchDecision .assign (ValueCondition.with_ cond (Vacancy.of (env.getValue name))) = .assignWord vac)
    (hw : expandWord env ws w = (env1, .ok ph))
    (hro : ∀ v, env1.getVar name = some v → v.readOnly = false) :
    ∃ env2,
      expandParam env ws (.var name) (env.getValue name) (.switch cond .assign w)
        = (env2, .ok (.field (toField (removeQuotesAndStrip ((reattribute ph).ifsJoin env1))))) ∧
      env2.getValue name = some (.scalar (removeQuotesAndStrip ((reattribute ph).ifsJoin env1))) ∧
      ((∀ c ∈ env1.ctxs, c.lookup name = none) →
        ∀ ctxs', (∀ c ∈ ctxs', c.lookup name = none) →
          ({ env2 with ctxs := ctxs' }).getValue name
            = some (.scalar (removeQuotesAndStrip ((reattribute ph).ifsJoin env1)))) := by
  obtain ⟨env2, h2⟩ := assign_succeeds env1 name (removeQuotesAndStrip ((reattribute ph).ifsJoin env1)) hro
  refine ⟨env2, ?_, assign_getValue _ _ _ _ h2, ?_⟩
  · simp only [expandParam, hd, hw, h2]
  · intro hnl ctxs' hnl'
    obtain ⟨_, hv⟩ := assign_global _ _ _ _ h2 hnl
    rw [getValue_global _ _ (by simpa using hnl')]
    exact hv

/-- inside a function call (no locals) `${u=q}` with `u` unset, then the
    return, then `$u` at top level gives `q` -/
example :
    let env : Env := { vars := [], pos := [], nounset := true, exitStatus := 0, arg0 := [], ctxs := [[]] }
    let r := expandWordMultiple env (.cons (.unq (.param (.var "u") (.switch .unset .assign (.cons (.unq (.lit 'q')) .nil)))) .nil)
    (expandWordMultiple r.1.popCtx (.cons (.unq (.param (.var "u") .none)) .nil)).2 = .ok [['q']] := by decide +kernel

/-- a local declared by the function in progress receives the value instead, and the global stays
    as it was: after the return `u` is unset again -/
example :
    let env : Env := { vars := [], pos := [], nounset := false, exitStatus := 0, arg0 := [],
                       ctxs := [[("u", { value := none, readOnly := false })]] }
    let r := expandWordMultiple env (.cons (.unq (.param (.var "u") (.switch .unset .assign (.cons (.unq (.lit 'q')) .nil)))) .nil)
    r.2 = .ok [['q']] ∧ r.1.getValue "u" = some (.scalar ['q']) ∧ r.1.popCtx.getValue "u" = none := by decide +kernel

/-! ## Field splitting uses the IFS in force after the word's expansions -/

/-- ★ XCU 2.6: all parameter expansions of a word happen first, field splitting afterwards — the
    separators are those of the variable state the initial expansion LEFT (`env'`), not of the
    state it started from. -/
theorem split_uses_ifs_after_expansion (env env' : Env) (w : Word) (ph : Phrase)
    (h : expandWord env true w = (env', .ok ph)) :
    expandWordMultiple env w
      = (env', .ok ((ph.toFields.flatMap (splitInto env'.ifs)).map removeQuotesAndStrip)) := by
  simp [expandWordMultiple, h]

/-- ★ … which shows when the word itself assigns IFS: with IFS unset and `x` a scalar, the word
    `${IFS=:}$x` is split at colons — the separator assigned while the word was being expanded —
    and not at the blanks of the default IFS that was in force before (`unset IFS; x='a:b c'` gives
    the three fields `''`, `a`, `b c`).  For every value of `x` and every such environment. -/
theorem ifs_assigned_in_word_is_used (env : Env) (s : List Char)
    (hifs : env.getVar "IFS" = none) (hx : env.getValue "x" = some (.scalar s)) :
    (expandWordMultiple env
        (.cons (.unq (.param (.var "IFS") (.switch .unset .assign (.cons (.unq (.lit ':')) .nil))))
          (.cons (.unq (.param (.var "x") .none)) .nil))).2
      = .ok ((splitInto (Ifs.new [':']) (toField [':'] ++ toField s)).map removeQuotesAndStrip) := by
  have hv : env.getValue "IFS" = none := by simp [Env.getValue, hifs]
  obtain ⟨env2, hassign⟩ := assign_succeeds env "IFS" [':'] fun w h => by rw [hifs] at h; cases h
  have hx2 : env2.getValue "x" = some (.scalar s) := (assign_getValue_ne hassign (by decide)).trans hx
  have hifs2 : env2.ifs = Ifs.new [':'] := by
    rw [Env.ifs, Env.getScalar, assign_getValue _ _ _ _ hassign]
  have hrq : removeQuotesAndStrip [softenChar { value := ':', origin := .literal, isQuoted := false, isQuoting := false }]
      = [':'] := by
    simp [removeQuotesAndStrip_cons, removeQuotesAndStrip_nil, softenChar]
  have hexp : expandWord env true
        (.cons (.unq (.param (.var "IFS") (.switch .unset .assign (.cons (.unq (.lit ':')) .nil))))
          (.cons (.unq (.param (.var "x") .none)) .nil))
      = (env2, .ok (.field (toField [':'] ++ toField s))) := by
    simp [expandWord, expandWordUnit, expandTextUnit, expandParam, resolve, hv, Vacancy.of,
      ValueCondition.with_, switchDecision, expandWordGo, Phrase.zeroFields, Phrase.append,
      reattribute, Phrase.mapChars, Phrase.ifsJoin, hrq, hassign, hx2, finishParam, intoPhrase]
  rw [split_uses_ifs_after_expansion _ _ _ _ hexp, hifs2]
  simp [Phrase.toFields]

example :
    (expandWordMultiple
      { vars := [("x", { value := some (.scalar ['a', ':', 'b', ' ', 'c']), readOnly := false })],
        pos := [], nounset := false, exitStatus := 0, arg0 := [] }
      (.cons (.unq (.param (.var "IFS") (.switch .unset .assign (.cons (.unq (.lit ':')) .nil))))
        (.cons (.unq (.param (.var "x") .none)) .nil))).2
    = .ok [[], ['a'], ['b', ' ', 'c']] := by decide +kernel

/-! ## `nounset` exactly where POSIX says -/

/-- which parameters can be unset at all: a variable without value, a positional parameter beyond
    the last one (or index 0), `$!` before any asynchronous command — never `$@ $* $# $? $- $$ $0` -/
theorem resolve_none_iff (env : Env) (p : Param) :
    resolve env p = none ↔
      match p with
      | .var name => env.getValue name = none
      | .pos 0 => True
      | .pos (k+1) => env.pos.length ≤ k
      | .bang => env.lastAsync = 0
      | _ => False := by
  cases p with
  | pos n =>
    cases n with
    | zero => simp [resolve]
    | succ k => simp [resolve]
  | bang => simp [resolve]
  | _ => simp [resolve]

/-- ★ `set -u`: a parameter expansion without a switch modifier fails with "unset parameter" if and
    only if the option is on and the parameter is unset; nothing else about the expansion matters,
    and the environment is untouched. -/
theorem nounset_error_iff (env : Env) (ws : Bool) (p : Param) (v : Option Value) :
    (expandParam env ws p v .none = (env, .error .unsetParameter) ↔ (env.nounset = true ∧ v = none)) ∧
    (expandParam env ws p v .length = (env, .error .unsetParameter) ↔ (env.nounset = true ∧ v = none)) := by
  constructor
  · cases v <;> cases hn : env.nounset <;> simp [expandParam, hn]
  · cases v <;> cases hn : env.nounset <;> simp [expandParam, hn]

/-- ★ `$@` and `$*` are exempt: with no positional parameters — `nounset` on or off — they expand,
    unquoted, to zero fields and never to an error (XCU 2.5.2; `"$@"`/`"$*"`: `dquote_at_zero_params`). -/
theorem at_star_zero_params_unquoted (env : Env) (h : env.pos = []) :
    expandWordMultiple env (.cons (.unq (.param .at .none)) .nil) = (env, .ok []) ∧
    expandWordMultiple env (.cons (.unq (.param .star .none)) .nil) = (env, .ok []) := by
  rw [arg_unq_unit (posixTextUnit_at env true), arg_unq_unit (posixTextUnit_star env true), h]
  exact ⟨rfl, rfl⟩

/-- `$@ $* $# $? $- $$ $0` are never a `nounset` error, in any form without a switch -/
theorem special_params_never_unset (env : Env) (ws : Bool) (p : Param)
    (hp : p = .at ∨ p = .star ∨ p = .num ∨ p = .question ∨ p = .hyphen ∨ p = .dollar ∨ p = .zero) :
    expandParam env ws p (resolve env p) .none = (env, .ok (finishParam env ws p (resolve env p))) := by
  rcases hp with h | h | h | h | h | h | h <;> subst h <;> simp [expandParam, resolve]

example : (expandWordMultiple
    { vars := [], pos := [], nounset := true, exitStatus := 0, arg0 := [] }
    (.cons (.unq (.param .at .none)) .nil)).2 = .ok [] := by
  rw [(at_star_zero_params_unquoted _ rfl).1]

/-! ## Double quotes and the splitting context -/

/-- ★ What double quotes enclose is expanded in a non-splitting context whatever context the quotes
    stand in: the result of a double-quoted unit does not depend on the `will_split` flag around it … -/
theorem dquote_ignores_context (env : Env) (ws ws' : Bool) (t : Text) :
    expandWordUnit env ws (.dq t) = expandWordUnit env ws' (.dq t) := by
  simp only [expandWordUnit]

/-- ★ … and what follows the closing quote is expanded in the surrounding context again:
    `"$*"$*` (as a command argument) is the quoted join of the positional parameters glued to the
    first of the parameters as separate fields — for every environment and IFS. -/
theorem star_after_dquote_splits (env : Env) :
    den (expandWord env true
      (.cons (.dq (.cons (.param .star .none) .nil)) (.cons (.unq (.param .star .none)) .nil)))
    = (env, .ok (joinFields [quoteField (joinBySep env (env.pos.map toField))] (env.pos.map toField))) := by
  rw [initial_expansion_eq_posix]
  simp [posixWord, posixWordUnit, posixWordGo, posixTextGo, posixTextUnit, posixParam, resolve,
    Text.isNil, paramFields, valueFields, joinFields_nil_left]

/-- the same inside: `"${u-"$*"}$*"` with `u` unset — the nested quotes do not turn splitting on
    for the rest of the outer quotes (both `$*` are joined) -/
theorem star_after_nested_dquote_joined (env : Env) (hu : env.getValue "u" = none) :
    den (expandWord env true
      (.cons (.dq (.cons (.param (.var "u") (.switch .unset .default
              (.cons (.dq (.cons (.param .star .none) .nil)) .nil)))
            (.cons (.param .star .none) .nil))) .nil))
    = (env, .ok [quoteField
        ((quoteField (joinBySep env (env.pos.map toField))).map
            (fun c => if c.origin = .literal then { c with origin := .softExpansion } else c)
          ++ joinBySep env (env.pos.map toField))]) := by
  rw [initial_expansion_eq_posix]
  simp [posixWord, posixWordUnit, posixWordGo, posixTextGo, posixTextUnit, posixParam, resolve, hu,
    Text.isNil, paramFields, valueFields, joinFields, PState.of, Vacancy.of, PState.ofVacancy,
    posixTable, soften, quoteField, quoteChar]

example :
    (expandWordMultiple
      { vars := [("IFS", { value := some (.scalar []), readOnly := false })],
        pos := ["a".toList, "b".toList], nounset := false, exitStatus := 0, arg0 := [] }
      (.cons (.dq (.cons (.param .star .none) .nil)) (.cons (.unq (.param .star .none)) .nil))).2
    = .ok [['a', 'b', 'a'], ['b']] := by decide +kernel

/-! ## `read` -/

/-- ★ with `-r` the line is the input up to the first delimiter, every character ordinary (a backslash too) -/
theorem read_raw_line (delim : Char) (input : List Char) :
    readInput true delim input =
      ((input.takeWhile (· != delim)).map plainChar, input.contains delim) := by
  induction input with
  | nil => rfl
  | cons c t ih =>
    rw [readInput.eq_def]
    by_cases hd : c = delim
    · simp [hd]
    · simp [hd, ih]
      exact fun h => absurd h.symm hd

example : readInput true '\n' "a\\ b\nc".toList = ("a\\ b".toList.map plainChar, true) := by decide +kernel

/-- ★ what the variables can receive: quote removal of the logical line is the line with every continuation
    and every escaping backslash removed and every escaped character kept literally -/
theorem read_line_value (raw : Bool) (delim : Char) (input : List Char) :
    removeQuotesAndStrip (readInput raw delim input).1 =
      ((readItems raw delim input).takeWhile (· ≠ .delimiter)).flatMap RItem.value := by
  rw [readInput_eq_specReadInput_all, specReadInput]
  exact removeQuotes_items _

/-- `a\<newline>b\ c\\` then newline: one logical line `ab c\`, the escaped space and backslash literal -/
example : removeQuotesAndStrip (readInput false '\n' "a\\\nb\\ c\\\\\nrest".toList).1 = "ab c\\".toList ∧
    (readInput false '\n' "a\\\nb\\ c\\\\\nrest".toList).2 = true ∧
    (readInput false ':' "a\\:b:c".toList) =
      ([plainChar 'a', readQuoting '\\', readQuoted ':', plainChar 'b'], true) := by decide +kernel

/-- ★ a backslash-escaped character is never a field separator and neither is its backslash — whatever IFS
    is; together with `quoted_never_split` / `read_eq_specRead`: `read` never splits at an escaped character -/
theorem read_escaped_never_separator (ifs : Ifs) (c : Char) :
    ifs.classifyAttr (readQuoted c) = .non ∧ ifs.classifyAttr (readQuoting '\\') = .non :=
  ⟨classifyAttr_protected ifs (.inl rfl), classifyAttr_protected ifs (.inr (.inl rfl))⟩

/-- `restTrimmed` is the rest of the line minus exactly its trailing IFS white space -/
theorem restTrimmed_spec (ifs : Ifs) (text : List AttrChar) (start : Nat) :
    ∃ tail, text.drop start = restTrimmed ifs text start ++ tail ∧
      (∀ c ∈ tail, ifs.classifyAttr c = .ws) ∧
      (∀ c, (restTrimmed ifs text start).getLast? = some c → ifs.classifyAttr c ≠ .ws) := by
  rw [restTrimmed_eq]
  obtain ⟨tail, h1, h2, h3⟩ := Common.rstrip_spec (fun c => ifs.classifyAttr c == .ws) (text.drop start)
  refine ⟨tail, h1, ?_, ?_⟩
  · intro c hc; simpa using h2 c hc
  · intro c hc; have := h3 c hc; simpa using this

example : readAssign (Ifs.new [' ', ':']) ((" a: b c  ".toList).map plainChar) 1
    = ["a".toList, "b c".toList] := by decide +kernel

end YashModel.Expansion
