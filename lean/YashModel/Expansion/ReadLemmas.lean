/-
  C01 — `read`: `assigning::assign` (Model `readAssign`) is the Spec's `specRead`, `input::read` (Model `readInput`) the
  item-wise `specReadInput`.  In front: `restTrimmed`, `trimmedEnd` and `stripTrailingNewlines` are instances of
  `Common.rstrip`, the removal of a trailing run.
-/
import YashModel.Expansion.SplitLemmas
import YashModel.Expansion.PhraseLemmas
namespace YashModel.Expansion
open Common (rstrip rstrip_cons rstrip_spec)

variable {α : Type}

/-! ## Removing a trailing run -/

theorem stripTrailingNewlines_eq (s : List Char) : stripTrailingNewlines s = rstrip (· == '\n') s := rfl

theorem restTrimmed_eq (ifs : Ifs) (text : List AttrChar) (s : Nat) :
    restTrimmed ifs text s = rstrip (fun c => ifs.classifyAttr c == .ws) (text.drop s) := rfl

theorem rstrip_append (p : α → Bool) (l : List α) : rstrip p l ++ (l.reverse.takeWhile p).reverse = l := by
  rw [rstrip, ← List.reverse_append, List.takeWhile_append_dropWhile, List.reverse_reverse]

theorem rstrip_eq_take (p : α → Bool) (l : List α) :
    rstrip p l = l.take (l.length - (l.reverse.takeWhile p).length) := by
  have key : ∀ A B : List α, (A ++ B).take ((A ++ B).length - B.length) = A := fun A B => by simp
  have := key (rstrip p l) (l.reverse.takeWhile p).reverse
  rw [rstrip_append] at this
  simpa using this.symm

theorem rstrip_drop (p : α → Bool) (l : List α) :
    ∀ s, rstrip p (l.drop s) = (rstrip p l).drop s := by
  induction l with
  | nil => intro s; simp [rstrip]
  | cons x l ih =>
    intro s
    cases s with
    | zero => simp
    | succ s =>
      simp only [List.drop_succ_cons]
      rw [ih s, rstrip_cons]
      by_cases h : ((rstrip p l).isEmpty && p x) = true
      · have he : rstrip p l = [] := by
          have := (Bool.and_eq_true _ _).mp h
          simpa using this.1
        have hp : p x = true := ((Bool.and_eq_true _ _).mp h).2
        simp [he, hp]
      · simp [h]

theorem restTrimmed_eq_slice (ifs : Ifs) (text : List AttrChar) (s : Nat) :
    restTrimmed ifs text s = slice text (s, trimmedEnd ifs text) := by
  rw [restTrimmed_eq, rstrip_drop, rstrip_eq_take]
  simp only [slice, trimmedEnd]
  rw [List.drop_take]

theorem assignFirst_eq (text : List AttrChar) :
    ∀ (n : Nat) (rs : List (Nat × Nat)),
      assignFirst text n rs =
        ((List.range n).map (fun k =>
            match rs[k]? with
            | some r => removeQuotesAndStrip (slice text r)
            | none => []),
         rs.drop n) := by
  intro n
  induction n with
  | zero => intro rs; simp [assignFirst]
  | succ n ih =>
    intro rs
    cases rs with
    | nil =>
      simp only [assignFirst, ih []]
      simp [List.range_succ_eq_map]
    | cons r rs =>
      simp only [assignFirst, ih rs]
      simp [List.range_succ_eq_map, Function.comp_def]

theorem lastRange_drop (ifs : Ifs) (text : List AttrChar) (rs : List (Nat × Nat)) (n : Nat) :
    lastRange ifs text (rs.drop n) =
      match rs[n]? with
      | none => (0, 0)
      | some r => if rs.length = n + 1 then r else (r.1, trimmedEnd ifs text) := by
  have hhead : (rs.drop n)[0]? = rs[n]? := by simp
  have hlen : (rs.drop n).length = rs.length - n := List.length_drop
  rcases hd : rs.drop n with _ | ⟨r, _ | ⟨r', t⟩⟩ <;> rw [hd] at hhead hlen <;>
    simp only [List.getElem?_nil, List.getElem?_cons_zero, List.length_nil, List.length_cons] at hhead hlen <;>
    rw [← hhead, lastRange]
  · exact (if_pos (by omega)).symm
  · exact (if_neg (by omega)).symm

/-- ☆ The `read` built-in's assignment (`assigning::assign`: fields from the split machine, the
    last variable's range extended to the last character that is not IFS white space) gives every
    variable exactly what XCU `read` prescribes on the POSIX field splitting of the line: variable
    `k` receives field `k` (empty if there is none) and the last variable receives its field, or —
    when more fields follow — the rest of the line from the start of its field without trailing
    IFS white space.  For every IFS, every line and every number of variables. -/
theorem read_eq_specRead (ifs : Ifs) (text : List AttrChar) (nBefore : Nat) :
    readAssign ifs text nBefore = specRead ifs text nBefore := by
  unfold readAssign specRead
  simp only [rangesOf_eq_specSplit, assignFirst_eq, lastRange_drop]
  generalize specSplit (text.map ifs.classifyAttr) = rs
  congr 2
  cases rs[nBefore]? with
  | none => rfl
  | some r =>
    simp only []
    by_cases h : rs.length = nBefore + 1
    · rw [if_pos h, if_pos h]
    · rw [if_neg h, if_neg h, restTrimmed_eq_slice]

/-- "`read` splits by the same IFS rules": variable `k` (not the last) receives field `k` of the very
    splitting that word expansion uses (`split_into`), quote-removed — empty if there is none … -/
theorem read_field_k (ifs : Ifs) (text : List AttrChar) (n k : Nat) (hk : k < n) :
    (readAssign ifs text n)[k]? =
      some (removeQuotesAndStrip ((splitInto ifs text)[k]?.getD [])) := by
  unfold readAssign
  simp only [assignFirst_eq]
  rw [List.getElem?_append_left (by simp [hk])]
  simp only [List.getElem?_map, List.getElem?_range hk, Option.map_some, splitInto, splitWith]
  cases h : (rangesOf ifs.classifyAttr text)[k]? with
  | none => simp [removeQuotesAndStrip_nil]
  | some r => simp

/-- … and the last variable receives its field when no more follow, and otherwise the line from the
    start of that field on, without trailing IFS white space (`restTrimmed`, characterised by `restTrimmed_spec`). -/
theorem read_last_variable (ifs : Ifs) (text : List AttrChar) (n : Nat) :
    (readAssign ifs text n)[n]? =
      some (if (splitInto ifs text).length ≤ n + 1
            then removeQuotesAndStrip ((splitInto ifs text)[n]?.getD [])
            else removeQuotesAndStrip
              (restTrimmed ifs text (((rangesOf ifs.classifyAttr text)[n]?.getD (0, 0)).1))) := by
  rw [read_eq_specRead]
  unfold specRead
  simp only [← rangesOf_eq_specSplit]
  rw [List.getElem?_append_right (by simp)]
  simp only [List.length_map, List.length_range, Nat.sub_self, List.getElem?_cons_zero, splitInto,
    splitWith, List.getElem?_map]
  generalize rangesOf ifs.classifyAttr text = rs
  cases h : rs[n]? with
  | none =>
    have hl : rs.length ≤ n := List.getElem?_eq_none_iff.mp h
    simp [show rs.length ≤ n + 1 by omega, removeQuotesAndStrip_nil]
  | some r =>
    have hl : n < rs.length := (List.getElem?_eq_some_iff.mp h).1
    by_cases he : rs.length = n + 1
    · simp [he]
    · simp [he, show ¬ rs.length ≤ n + 1 by omega]

/-- ★ `input::read` — one pass over the input with the delimiter test first, a backslash consuming the next
    character, backslash–newline skipped — is the logical line of XCU `read`: lex the WHOLE input into items
    (ordinary character, escaped character, line continuation, dangling backslash, delimiter), keep the items
    before the first delimiter, let every escaped character be quoted and its backslash quoting; the exit
    status's "delimiter found" is "the input has a delimiter item".  For every input, delimiter (`-d`) and
    both settings of `-r`. -/
theorem readInput_eq_specReadInput_all (raw : Bool) (delim : Char) (input : List Char) :
    readInput raw delim input = specReadInput raw delim input := by
  -- along the reader's own recursion: a backslash takes the next character with it
  unfold specReadInput
  induction input using readInput.induct raw delim with
  | case1 => rfl
  | case2 c rest hd => rw [readInput.eq_def, readItems.eq_def]; simp [hd]
  | case3 c hd hb => rw [readInput.eq_def, readItems.eq_def]; simp [hd, hb, RItem.chars]
  | case4 c hd hb d rest hn ih => rw [readInput.eq_def, readItems.eq_def]; simp [hd, hb, hn, ih, RItem.chars]
  | case5 c hd hb d rest hn ih => rw [readInput.eq_def, readItems.eq_def]; simp [hd, hb, hn, ih, RItem.chars]
  | case6 c rest hd hb ih => rw [readInput.eq_def, readItems.eq_def]; simp [hd, hb, ih, RItem.chars]

/-- ★ end to end for `read [-r] [-d c] v1 … vn`: what the driver computes (`input::read`, then
    `assigning::assign`) is the Spec column (logical line by items, XCU `read` on the recursive splitter) -/
theorem read_end_to_end (ifs : Ifs) (raw : Bool) (delim : Char) (input : List Char) (nBefore : Nat) :
    readAssign ifs (readInput raw delim input).1 nBefore =
      specRead ifs (specReadInput raw delim input).1 nBefore ∧
    (readInput raw delim input).2 = (specReadInput raw delim input).2 := by
  rw [readInput_eq_specReadInput_all]
  exact ⟨read_eq_specRead ifs _ nBefore, rfl⟩

/-- `readItems` under `-r`: every character an item of its own -/
theorem readItems_raw (delim : Char) : ∀ (s : List Char),
    readItems true delim s = s.map (fun c => if c == delim then RItem.delimiter else RItem.plain c)
  | [] => rfl
  | c :: rest => by
    rw [readItems.eq_def]; simp only []; rw [readItems_raw delim rest]
    by_cases hd : (c == delim) = true
    · have : c = delim := by simpa using hd
      simp [this]
    · have : ¬ c = delim := by simpa using hd
      simp [this]

theorem removeQuotes_items (items : List RItem) :
    removeQuotesAndStrip (items.flatMap RItem.chars) = items.flatMap RItem.value := by
  induction items with
  | nil => rfl
  | cons i t ih =>
    rw [List.flatMap_cons, List.flatMap_cons, removeQuotesAndStrip_append, ih]
    cases i <;> simp [RItem.chars, RItem.value, removeQuotesAndStrip_cons, removeQuotesAndStrip_nil, plainChar, softChar,
      readQuoting, readQuoted]

end YashModel.Expansion
