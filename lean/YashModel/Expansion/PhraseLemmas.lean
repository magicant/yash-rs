/-
  C01 — every operation on a `Phrase` is an operation on the list of fields it denotes.
-/
import YashModel.Expansion.Model
import YashModel.Expansion.Spec
namespace YashModel.Expansion

theorem appendLast_eq {α : Type} (l : List (List α)) (hl : l ≠ []) (r : List α) :
    appendLast l r = l.dropLast ++ [l.getLast hl ++ r] := by
  induction l with
  | nil => exact absurd rfl hl
  | cons x t ih =>
    cases t with
    | nil => simp [appendLast]
    | cons y t =>
      simp only [appendLast]
      rw [ih (by simp)]
      simp

theorem joinFields_nil_left {α : Type} (r : List (List α)) : joinFields [] r = r := by
  simp [joinFields]

theorem joinFields_nil_right {α : Type} (l : List (List α)) : joinFields l [] = l := by
  unfold joinFields
  cases h : l.getLast? with
  | none => simp at h; simp [h]
  | some x => rfl

theorem joinFields_cons_cons {α : Type} (x : List α) (l : List (List α)) (y : List α) (ys : List (List α)) :
    joinFields (x :: l) (y :: ys) = appendLast (x :: l) y ++ ys := by
  unfold joinFields
  rw [appendLast_eq (x :: l) (by simp)]
  rw [List.getLast?_eq_some_getLast (by simp : x :: l ≠ [])]

theorem joinFields_cons2 {α : Type} (x y : List α) (t r : List (List α)) :
    joinFields (x :: y :: t) r = x :: joinFields (y :: t) r := by
  cases r with
  | nil => simp [joinFields_nil_right]
  | cons rf rs => simp [joinFields_cons_cons, appendLast]

theorem joinFields_single {α : Type} (x y : List α) (ys : List (List α)) :
    joinFields [x] (y :: ys) = (x ++ y) :: ys := by
  simp [joinFields_cons_cons, appendLast]

theorem joinFields_ne_nil {α : Type} (x : List α) (l m : List (List α)) :
    joinFields (x :: l) m ≠ [] := by
  cases m with
  | nil => simp [joinFields_nil_right]
  | cons y ys =>
    cases l with
    | nil => simp [joinFields_single]
    | cons x2 t => simp [joinFields_cons2]

theorem joinFields_assoc {α : Type} (l m r : List (List α)) :
    joinFields (joinFields l m) r = joinFields l (joinFields m r) := by
  induction l with
  | nil => simp [joinFields_nil_left]
  | cons x t ih =>
    cases t with
    | nil =>
      cases m with
      | nil => simp [joinFields_nil_right, joinFields_nil_left]
      | cons y ys =>
        cases ys with
        | nil =>
          cases r with
          | nil => simp [joinFields_nil_right]
          | cons z zs => simp [joinFields_single]
        | cons y2 t2 => simp [joinFields_single, joinFields_cons2]
    | cons x2 t2 =>
      rw [joinFields_cons2, joinFields_cons2]
      obtain ⟨a, as, ha⟩ : ∃ a as, joinFields (x2 :: t2) m = a :: as := by
        cases h : joinFields (x2 :: t2) m with
        | nil => exact absurd h (joinFields_ne_nil _ _ _)
        | cons a as => exact ⟨a, as, rfl⟩
      rw [ha, joinFields_cons2, ← ha, ih]

/-- ★ `Phrase::append` denotes concatenation of field lists where the last field of the left
    operand is glued to the first field of the right one — for all nine shape combinations. -/
theorem append_denote (a b : Phrase) :
    (a.append b).toFields = joinFields a.toFields b.toFields := by
  cases a with
  | char l =>
    cases b with
    | char r => simp [Phrase.append, Phrase.toFields, joinFields]
    | field r => simp [Phrase.append, Phrase.toFields, joinFields]
    | full rs => cases rs <;> simp [Phrase.append, Phrase.toFields, joinFields]
  | field l =>
    cases b with
    | char r => simp [Phrase.append, Phrase.toFields, joinFields]
    | field r => simp [Phrase.append, Phrase.toFields, joinFields]
    | full rs => cases rs <;> simp [Phrase.append, Phrase.toFields, joinFields]
  | full ls =>
    cases ls with
    | nil =>
      cases b with
      | char r => simp [Phrase.append, Phrase.toFields, joinFields]
      | field r => simp [Phrase.append, Phrase.toFields, joinFields]
      | full rs => cases rs <;> simp [Phrase.append, Phrase.toFields, joinFields]
    | cons lf ls =>
      cases b with
      | char r => simp [Phrase.append, Phrase.toFields, joinFields_cons_cons]
      | field r => simp [Phrase.append, Phrase.toFields, joinFields_cons_cons]
      | full rs =>
        cases rs with
        | nil => simp [Phrase.append, Phrase.toFields, joinFields_nil_right]
        | cons rf rs => simp [Phrase.append, Phrase.toFields, joinFields_cons_cons]

/-! ## Quote removal -/

theorem skipQuotes_eq_filter (cs : List AttrChar) :
    skipQuotes cs = cs.filter (fun c => !c.isQuoting) := by
  induction cs with
  | nil => rfl
  | cons c cs ih => by_cases h : c.isQuoting <;> simp [skipQuotes, h, ih]

theorem strip_eq_map (cs : List AttrChar) : strip cs = cs.map (·.value) := by
  induction cs with
  | nil => rfl
  | cons c cs ih => simp [strip, ih]

/-- ★ Quote removal and attribute stripping output exactly the values of the characters that are
    not quoting characters, in order (nothing else is removed, nothing is added). -/
theorem quoteRemoval_exact (cs : List AttrChar) :
    removeQuotesAndStrip cs = (cs.filter (fun c => !c.isQuoting)).map (·.value) := by
  rw [removeQuotesAndStrip, skipQuotes_eq_filter, strip_eq_map]

theorem removeQuotesAndStrip_nil : removeQuotesAndStrip [] = [] := rfl

theorem removeQuotesAndStrip_cons (c : AttrChar) (cs : List AttrChar) :
    removeQuotesAndStrip (c :: cs) = if c.isQuoting then removeQuotesAndStrip cs else c.value :: removeQuotesAndStrip cs := by
  simp only [quoteRemoval_exact, List.filter_cons]
  cases c.isQuoting <;> rfl

theorem removeQuotesAndStrip_append (a b : List AttrChar) :
    removeQuotesAndStrip (a ++ b) = removeQuotesAndStrip a ++ removeQuotesAndStrip b := by
  simp only [quoteRemoval_exact, List.filter_append, List.map_append]

theorem removeQuotesAndStrip_map (mk : Char → AttrChar) (h : ∀ c, (mk c).isQuoting = false ∧ (mk c).value = c)
    (s : List Char) : removeQuotesAndStrip (s.map mk) = s := by
  rw [quoteRemoval_exact, List.filter_eq_self.mpr (fun a ha => by
    obtain ⟨c, _, rfl⟩ := List.mem_map.mp ha; rw [(h c).1]; rfl), List.map_map]
  exact (List.map_congr_left fun c _ => (h c).2).trans (List.map_id s)

theorem removeQuotesAndStrip_of_quoting {cs : List AttrChar} (h : ∀ c ∈ cs, c.isQuoting = true) :
    removeQuotesAndStrip cs = [] := by
  rw [quoteRemoval_exact, List.filter_eq_nil_iff.mpr (fun a ha => by rw [h a ha]; decide)]; rfl

theorem removeQuotes_toField (s : List Char) : removeQuotesAndStrip (toField s) = s :=
  removeQuotesAndStrip_map softChar (fun _ => ⟨rfl, rfl⟩) s

theorem removeQuotes_quoteField (cs : List AttrChar) :
    removeQuotesAndStrip (quoteField cs) = removeQuotesAndStrip cs := by
  have hq : removeQuotesAndStrip [quoteChar '"'] = [] := removeQuotesAndStrip_of_quoting (by simp [quoteChar])
  rw [quoteField, removeQuotesAndStrip_append, removeQuotesAndStrip_append, hq, List.nil_append, List.append_nil]
  -- setting the `isQuoted` flag changes neither `isQuoting` nor `value`
  simp only [quoteRemoval_exact, List.filter_map, List.map_map]
  rfl

theorem removeQuotes_joinWith_fields (sep : Option Char) (fs : List (List AttrChar)) :
    removeQuotesAndStrip (joinWith (sep.map softChar) fs)
      = joinStrings sep (fs.map removeQuotesAndStrip) := by
  induction fs with
  | nil => rfl
  | cons f t ih =>
    cases t with
    | nil => simp [joinWith, joinStrings]
    | cons g r =>
      simp only [List.map_cons, joinWith, joinStrings, removeQuotesAndStrip_append] at ih ⊢
      rw [ih]
      cases sep <;> simp [removeQuotesAndStrip_cons, removeQuotesAndStrip_nil, softChar]

theorem ifsSeparator_eq (env : Env) : ifsSeparator env = (sepChar env).map softChar := by
  unfold ifsSeparator sepChar
  rcases env.getValue "IFS" with _ | v
  · rfl
  · cases v <;> rfl

theorem joinFields_nil_left' (r : Fields) : joinFields [] r = r := joinFields_nil_left r

theorem joinWith_eq_intercalate (sep : Option AttrChar) (fs : Fields) :
    joinWith sep fs = List.intercalate sep.toList fs := by
  induction fs with
  | nil => rfl
  | cons f t ih =>
    cases t with
    | nil => simp [joinWith, List.intercalate]
    | cons g r =>
      simp only [joinWith, ih]
      cases sep <;> simp [List.intercalate, List.intersperse]

theorem removeQuotes_quoteField_map (fs : Fields) :
    (fs.map quoteField).map removeQuotesAndStrip = fs.map removeQuotesAndStrip := by
  simp [removeQuotes_quoteField]

theorem removeQuotes_toField_map (ps : List (List Char)) : (ps.map toField).map removeQuotesAndStrip = ps := by
  simp [removeQuotes_toField, Function.comp_def]

theorem joinBySep_one (env : Env) (f : List AttrChar) : joinBySep env [f] = f := by
  simp [joinBySep]

theorem removeQuotes_joinBySep (env : Env) (fs : Fields) :
    removeQuotesAndStrip (joinBySep env fs) = joinStrings (sepChar env) (fs.map removeQuotesAndStrip) := by
  rw [joinBySep, sepAttr, ← joinWith_eq_intercalate, removeQuotes_joinWith_fields]

theorem ifsJoin_eq (ph : Phrase) (env : Env) : ph.ifsJoin env = joinBySep env ph.toFields := by
  cases ph with
  | char c => simp [Phrase.ifsJoin, joinBySep, Phrase.toFields, List.intercalate]
  | field f => simp [Phrase.ifsJoin, joinBySep, Phrase.toFields, List.intercalate]
  | full fs =>
    simp only [Phrase.ifsJoin, joinBySep, Phrase.toFields, sepAttr, ifsSeparator_eq]
    exact joinWith_eq_intercalate _ fs

theorem toFields_doubleQuote (ph : Phrase) :
    (doubleQuote ph).toFields = ph.toFields.map quoteField := by
  cases ph <;> simp [doubleQuote, Phrase.toFields, quoteField]

theorem toFields_mapChars (f : AttrChar → AttrChar) (ph : Phrase) :
    (ph.mapChars f).toFields = ph.toFields.map (·.map f) := by
  cases ph <;> simp [Phrase.mapChars, Phrase.toFields]

theorem toFields_reattribute (ph : Phrase) : (reattribute ph).toFields = soften ph.toFields := by
  have hf : softenChar = (fun c => if c.origin = .literal then { c with origin := .softExpansion } else c) := by
    funext c; unfold softenChar; cases h : c.origin <;> simp
  rw [reattribute, toFields_mapChars, hf]; rfl

theorem toFields_intoPhrase (v : Option Value) : (intoPhrase v).toFields = valueFields v := by
  rcases v with _ | v
  · rfl
  · cases v <;> rfl

theorem toFields_finishParam (env : Env) (ws : Bool) (p : Param) (v : Option Value) :
    (finishParam env ws p v).toFields = paramFields env ws p v := by
  unfold finishParam paramFields
  by_cases hp : p = .star
  · subst hp
    cases ws with
    | false =>
      simp only [Bool.not_false, Bool.true_and, beq_self_eq_true, if_true, and_self]
      show [(intoPhrase v).ifsJoin env] = _
      rw [ifsJoin_eq, toFields_intoPhrase]
    | true => simp [toFields_intoPhrase]
  · have : (p == Param.star) = false := by simpa using hp
    cases ws <;> simp [this, hp, toFields_intoPhrase]

theorem paramFields_scalar (env : Env) (ws : Bool) (p : Param) (v : List Char) :
    paramFields env ws p (some (.scalar v)) = [toField v] := by
  unfold paramFields
  split <;> simp [valueFields, joinBySep, List.intercalate]

theorem paramFields_none (env : Env) (ws : Bool) (p : Param) : paramFields env ws p none = [[]] := by
  unfold paramFields
  split <;> simp [valueFields, joinBySep, List.intercalate]

/-- "the expansion of a text" (`if t.isNil … else posixTextGo … [] t`, as the Spec writes it for quoted, arithmetic and
    here-document content) where the first unit's fields are known -/
theorem posixText_cons {env env' : Env} {ws : Bool} {u : TextUnit} {fs : Fields} (t : Text)
    (h : posixTextUnit env ws u = (env', .ok fs)) :
    (if (Text.cons u t).isNil then (env, .ok [[]]) else posixTextGo env ws [] (.cons u t) : SRes) =
      posixTextGo env' ws fs t := by
  rw [show (Text.cons u t).isNil = false from rfl, if_neg (by decide), posixTextGo, h]
  simp only [joinFields_nil_left]

theorem posixWordUnit_dq_cons {env env' e : Env} (ws : Bool) {u : TextUnit} {t : Text} {fs gs : Fields}
    (h : posixTextUnit env false u = (env', .ok fs)) (hg : posixTextGo env' false fs t = (e, .ok gs)) :
    posixWordUnit env ws (.dq (.cons u t)) = (e, .ok (gs.map quoteField)) := by
  rw [posixWordUnit, posixText_cons t h, hg]

end YashModel.Expansion
