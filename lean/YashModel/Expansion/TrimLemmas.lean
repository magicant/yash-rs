/-
  C01 — prefix / suffix removal.  The model's `trimApply` is the C04 model of yash-fnmatch
  (`Fnmatch.trimApply`); C04's results turn it into the Spec's `posixTrim`.  They are used in their lemma-file
  form (`Fnmatch.Proofs.*`, `parseAtoms_eq_spec`: the proofs behind C04's audited property theorems
  `trimApply_correct`, `trimApply_suffix_correct`, `parser_is_grammar`, `specTrim_declarative`), so
  that this file does not depend on C04's `Theorems.lean` and the files only that one imports.
-/
import YashModel.Expansion.Model
import YashModel.Expansion.Spec
import YashModel.Fnmatch.Parser
import YashModel.Fnmatch.Trim
namespace YashModel.Expansion

theorem trimString_eq_posix (pcs : List PatChar) (side : TrimSide) (len : TrimLen) (v : List Char) :
    Fnmatch.trimApply side len pcs v = posixTrimString pcs side len v := by
  unfold posixTrimString
  by_cases h : patternInPosix side pcs = true
  · rw [if_pos h]
    unfold patternInPosix at h
    have hg : Fnmatch.parseAtoms pcs = Fnmatch.specParse pcs :=
      Fnmatch.parseAtoms_eq_spec pcs.length pcs (Nat.le_refl _)
    rw [← hg] at h ⊢
    rw [Bool.and_eq_true] at h
    obtain ⟨hd, hs⟩ := h
    cases side with
    | suffix => exact Fnmatch.Proofs.trimApply_suffix_correct pcs hd len v
    | «prefix» =>
      have hn : Fnmatch.noMulti (Fnmatch.parseAtoms pcs) = true := by simpa using hs
      exact Fnmatch.Proofs.trimApply_correct pcs hd hn .prefix len v
  · rw [if_neg h]

/-- ★ `trim::apply` — `Pattern::parse_with_config`, regex translation, `find` / `rfind`, literal fast path,
    fallback for a pattern that does not compile, scalar and array values (the C04 model, run by the driver) —
    is the Spec's `posixTrim` for EVERY pattern-character string and value: inside the notation POSIX defines
    the removal of the shortest / longest prefix / suffix that matches in the glob language of the grammar
    (`trim_removes_shortest_longest`); outside it (no hypothesis needed) the documented fallback. -/
theorem trim_eq_posix (pcs : List PatChar) (side : TrimSide) (len : TrimLen) (val : Value) :
    trimApply pcs side len val = posixTrim pcs side len val := by
  cases val with
  | scalar s => simp [trimApply, posixTrim, trimString_eq_posix]
  | array vs =>
    simp only [trimApply, posixTrim, Fnmatch.trimArray]
    congr 1
    exact List.map_congr_left (fun v _ => trimString_eq_posix pcs side len v)

/-! What the Spec's searches return, said of the part of the value a trim keeps. -/

theorem least_witness {β : Type} (p : Nat → Bool) (n : Nat) (kept : Nat → β) (v : β) :
    (∃ i, i ≤ n ∧ p i = true ∧ (match Fnmatch.leastUpTo p n with | some k => kept k | none => v) = kept i ∧
        ∀ j, j ≤ n → p j = true → i ≤ j) ∨
    ((∀ j, j ≤ n → p j = false) ∧ (match Fnmatch.leastUpTo p n with | some k => kept k | none => v) = v) := by
  rcases Fnmatch.Proofs.leastUpTo_spec (p := p) (n := n) with ⟨hn, hall⟩ | ⟨k, hk, hle, hp, hmin⟩
  · rw [hn]; exact .inr ⟨hall, rfl⟩
  · rw [hk]
    refine .inl ⟨k, hle, hp, rfl, fun j _ hm => Nat.le_of_not_lt fun hlt => ?_⟩
    rw [hmin j hlt] at hm; cases hm

theorem greatest_witness {β : Type} (p : Nat → Bool) (n : Nat) (kept : Nat → β) (v : β) :
    (∃ i, i ≤ n ∧ p i = true ∧ (match Fnmatch.greatestUpTo p n with | some k => kept k | none => v) = kept i ∧
        ∀ j, j ≤ n → p j = true → j ≤ i) ∨
    ((∀ j, j ≤ n → p j = false) ∧ (match Fnmatch.greatestUpTo p n with | some k => kept k | none => v) = v) := by
  rcases Fnmatch.Proofs.greatestUpTo_spec (p := p) (n := n) with ⟨hn, hall⟩ | ⟨k, hk, hle, hp, hmax⟩
  · rw [hn]; exact .inr ⟨hall, rfl⟩
  · rw [hk]
    refine .inl ⟨k, hle, hp, rfl, fun j hj hm => Nat.le_of_not_lt fun hlt => ?_⟩
    rw [hmax j hlt hj] at hm; cases hm

/-- what `attr_fnmatch.rs` reads of an attributed character -/
def projAttr (c : AttrChar) : Fnmatch.AttrChar := ⟨c.value, c.isQuoted, c.isQuoting⟩

/-- the two transcriptions are the same recursion, and every test reads the projected fields only -/
theorem applyEscapesGo_proj : ∀ (cs : List AttrChar) (q : Bool),
    (applyEscapesGo q cs).map projAttr = Fnmatch.applyEscapesAux q (cs.map projAttr)
  | [], q => rfl
  | a :: t, q => by
    have ih := fun q => applyEscapesGo_proj t q
    simp only [applyEscapesGo, Fnmatch.applyEscapesAux, List.map_cons, apply_ite (List.map projAttr), ih,
      List.any_map]
    cases q <;> rfl

theorem toPatternChars_proj : ∀ (cs : List AttrChar),
    toPatternChars cs = Fnmatch.toPatternChars (cs.map projAttr)
  | [] => rfl
  | c :: t => by
    have ih := toPatternChars_proj t
    unfold Fnmatch.toPatternChars at ih ⊢
    rw [toPatternChars, List.map_cons, List.filterMap_cons]
    by_cases h1 : c.isQuoting = true
    · simp [h1, projAttr, ih]
    · by_cases h2 : c.isQuoted = true
      · simp [h1, h2, projAttr, ih]
      · simp [h1, h2, projAttr, ih]

/-- ★ the pattern characters: in the expanded pattern word a quoting character (`'`, `"`, `\`) is dropped, a
    quoted character is a literal pattern character and any other one keeps its special meaning — and the
    model's `apply_escapes` / `to_pattern_chars` are C04's (same functions on the projection of the
    attributed characters), so the trim patterns of this property and the `case` patterns of C04 are read by
    the same kernel-checked chain. -/
theorem pattern_chars_compose (cs : List AttrChar) :
    toPatternChars (applyEscapes cs) =
      Fnmatch.toPatternChars (Fnmatch.applyEscapes (cs.map fun c => ⟨c.value, c.isQuoted, c.isQuoting⟩)) := by
  rw [toPatternChars_proj]
  unfold applyEscapes Fnmatch.applyEscapes
  rw [applyEscapesGo_proj]
  rfl

def noBracketAtom : Fnmatch.Atom → Bool
  | .bracket _ => false
  | _ => true

theorem specParse_bracketFree : ∀ (n : Nat) (pcs : List PatChar), pcs.length ≤ n → bracketFree pcs = true →
    (Fnmatch.specParse pcs).all noBracketAtom = true := by
  intro n
  induction n with
  | zero =>
    intro pcs hl _
    have : pcs = [] := List.eq_nil_of_length_eq_zero (by omega)
    subst this
    simp [Fnmatch.specParse]
  | succ n ih =>
    intro pcs hl hb
    cases pcs with
    | nil => simp [Fnmatch.specParse]
    | cons pc t =>
      have hb' : (pc != Fnmatch.PatternChar.normal '[') = true ∧ bracketFree t = true := by
        simpa [bracketFree] using hb
      have hne : pc ≠ .normal '[' := by simpa using hb'.1
      have iht := ih t (by simp at hl; omega) hb'.2
      rw [Fnmatch.specParse]
      by_cases h1 : pc = .normal '?'
      · simp [h1, noBracketAtom, iht]
      · by_cases h2 : pc = .normal '*'
        · simp [h2, noBracketAtom, iht]
        · simp [h1, h2, hne, noBracketAtom, iht]

theorem defined_of_noBracket (ast : Fnmatch.Ast) (h : ast.all noBracketAtom = true) :
    Fnmatch.astDefined ast = true ∧ Fnmatch.noMulti ast = true := by
  have atom : ∀ a, noBracketAtom a = true → Fnmatch.atomOk a = true ∧ Fnmatch.noMultiAtom a = true := by
    intro a ha; cases a <;> first | exact ⟨rfl, rfl⟩ | cases ha
  rw [List.all_eq_true] at h
  exact ⟨List.all_eq_true.mpr fun a ha => (atom a (h a ha)).1, List.all_eq_true.mpr fun a ha => (atom a (h a ha)).2⟩

/-- ★ a syntactically described class inside the defined notation: a pattern without an unquoted `[` —
    ordinary characters, quoted characters of any kind (also quoted `[`, `*`, `?`), `?` and `*` — for both
    sides; so for these `trim_eq_posix` and `trim_removes_shortest_longest` hold without any semantic hypothesis. -/
theorem bracketFree_patterns_in_posix (pcs : List PatChar) (h : bracketFree pcs = true) (side : TrimSide) :
    patternInPosix side pcs = true := by
  have := defined_of_noBracket _ (specParse_bracketFree pcs.length pcs (Nat.le_refl _) h)
  simp [patternInPosix, this.1, this.2]

end YashModel.Expansion
