/-
  C01 — variables: `setVar` / `lookup` is a finite map (`lookup_setVar_eq`, the law of `Common.AList`); the function contexts
  (`lookupCtxs`, `setInCtxs`) are one in front of the globals; and `Env.assign` is an update of the map `Env.getVar`
  (`assign_getVar`): the visible variable of that name gets the value wherever it lives, every other name is left alone.
-/
import YashModel.Expansion.Model
import YashModel.Common.AList
namespace YashModel.Expansion

theorem lookup_setVar_eq (l : List (String × Var)) (n m : String) (v : Var) :
    (setVar l n v).lookup m = if m = n then some v else l.lookup m :=
  Common.get_put (get := fun l m => List.lookup m l) (stop := fun _ _ => False)
    ⟨fun _ => rfl, fun k v t q => by by_cases h : q = k <;> simp [List.lookup, h, beq_eq_false_iff_ne.2]⟩
    ⟨fun _ _ => rfl, fun k' v' t k v => by by_cases h : k' = k <;> simp [setVar, h, eq_comm]⟩ l n m v

theorem lookupCtxs_eq_none_iff (cs : List (List (String × Var))) (n : String) :
    lookupCtxs cs n = none ↔ ∀ c ∈ cs, c.lookup n = none := by
  induction cs with
  | nil => simp [lookupCtxs]
  | cons c t ih =>
    rw [lookupCtxs, List.forall_mem_cons]
    cases c.lookup n with
    | some w => simp
    | none => exact ⟨fun h => ⟨rfl, ih.mp h⟩, fun h => ih.mpr h.2⟩

theorem setInCtxs_eq_none_iff (cs : List (List (String × Var))) (n : String) (v : Var) :
    setInCtxs cs n v = none ↔ lookupCtxs cs n = none := by
  induction cs with
  | nil => simp [setInCtxs, lookupCtxs]
  | cons c t ih =>
    rw [setInCtxs, lookupCtxs]
    cases hc : c.lookup n with
    | some w => simp
    | none => simp [ih]

theorem lookupCtxs_setInCtxs (cs cs' : List (List (String × Var))) (n m : String) (v : Var)
    (h : setInCtxs cs n v = some cs') : lookupCtxs cs' m = if m = n then some v else lookupCtxs cs m := by
  induction cs generalizing cs' with
  | nil => simp [setInCtxs] at h
  | cons c t ih =>
    rw [setInCtxs] at h
    cases hc : c.lookup n with
    | some w =>
      -- the innermost context has the name: it is updated, the others stay
      rw [hc] at h
      cases h
      rw [lookupCtxs, lookupCtxs, lookup_setVar_eq]
      by_cases hm : m = n
      · rw [if_pos hm, if_pos hm]
      · rw [if_neg hm, if_neg hm]
    | none =>
      rw [hc] at h
      obtain ⟨t', ht', rfl⟩ := Option.map_eq_some_iff.mp h
      rw [lookupCtxs, lookupCtxs, ih t' ht']
      by_cases hm : m = n
      · rw [hm, hc, if_pos rfl]
      · rw [if_neg hm, if_neg hm]

theorem getVar_none {env : Env} {n : String} (h : env.getVar n = none) :
    lookupCtxs env.ctxs n = none ∧ env.vars.lookup n = none := by
  unfold Env.getVar at h
  cases hc : lookupCtxs env.ctxs n with
  | none => rw [hc] at h; exact ⟨rfl, h⟩
  | some w => rw [hc] at h; cases h

theorem assign_succeeds (env : Env) (n : String) (v : List Char)
    (h : ∀ w, env.getVar n = some w → w.readOnly = false) : ∃ env', env.assign n v = some env' := by
  unfold Env.assign
  cases hg : env.getVar n with
  | none => exact ⟨_, rfl⟩
  | some w =>
    simp only [h w hg, Bool.false_eq_true, if_false]
    cases setInCtxs env.ctxs n { value := some (.scalar v), readOnly := false } <;> exact ⟨_, rfl⟩

theorem assign_eq_some {env env' : Env} {n : String} {v : List Char} (h : env.assign n v = some env') :
    ∃ w : Var, w.value = some (.scalar v) ∧
      ((∃ cs, setInCtxs env.ctxs n w = some cs ∧ env' = { env with ctxs := cs }) ∨
       (lookupCtxs env.ctxs n = none ∧ env' = { env with vars := setVar env.vars n w })) := by
  unfold Env.assign at h
  cases hg : env.getVar n with
  | none =>
    rw [hg] at h
    exact ⟨_, rfl, .inr ⟨(getVar_none hg).1, (Option.some.inj h).symm⟩⟩
  | some w =>
    rw [hg] at h
    by_cases hro : w.readOnly = true
    · simp [hro] at h
    · simp only [hro, Bool.false_eq_true, if_false] at h
      refine ⟨{ value := some (.scalar v), readOnly := false }, rfl, ?_⟩
      cases hs : setInCtxs env.ctxs n { value := some (.scalar v), readOnly := false } with
      | some cs => rw [hs] at h; exact .inl ⟨cs, rfl, (Option.some.inj h).symm⟩
      | none => rw [hs] at h; exact .inr ⟨(setInCtxs_eq_none_iff ..).mp hs, (Option.some.inj h).symm⟩

theorem assign_getVar {env env' : Env} {n : String} {v : List Char} (h : env.assign n v = some env') :
    ∃ w : Var, w.value = some (.scalar v) ∧ ∀ m, env'.getVar m = if m = n then some w else env.getVar m := by
  obtain ⟨w, hw, ⟨cs, hcs, rfl⟩ | ⟨hl, rfl⟩⟩ := assign_eq_some h
  · refine ⟨w, hw, fun m => ?_⟩
    simp only [Env.getVar, lookupCtxs_setInCtxs _ _ n m w hcs]
    by_cases hm : m = n
    · rw [if_pos hm, if_pos hm]
    · rw [if_neg hm, if_neg hm]
  · refine ⟨w, hw, fun m => ?_⟩
    simp only [Env.getVar, lookup_setVar_eq]
    by_cases hm : m = n
    · rw [hm, hl, if_pos rfl]
    · rw [if_neg hm, if_neg hm]

theorem assign_getValue (env env' : Env) (n : String) (v : List Char)
    (h : env.assign n v = some env') : env'.getValue n = some (.scalar v) := by
  obtain ⟨w, hw, hg⟩ := assign_getVar h
  rw [Env.getValue, hg, if_pos rfl]; exact hw

theorem assign_getValue_ne {env env' : Env} {n m : String} {v : List Char}
    (h : env.assign n v = some env') (hm : m ≠ n) : env'.getValue m = env.getValue m := by
  obtain ⟨w, _, hg⟩ := assign_getVar h
  rw [Env.getValue, hg, if_neg hm]; rfl

theorem getValue_global (env : Env) (n : String) (h : ∀ c ∈ env.ctxs, c.lookup n = none) :
    env.getValue n = (env.vars.lookup n).bind (·.value) := by
  rw [Env.getValue, Env.getVar, (lookupCtxs_eq_none_iff ..).mpr h]

theorem assign_global (env env' : Env) (n : String) (v : List Char)
    (h : env.assign n v = some env') (hnl : ∀ c ∈ env.ctxs, c.lookup n = none) :
    env'.ctxs = env.ctxs ∧ (env'.vars.lookup n).bind (·.value) = some (.scalar v) := by
  obtain ⟨w, hw, ⟨cs, hcs, rfl⟩ | ⟨_, rfl⟩⟩ := assign_eq_some h
  · rw [(setInCtxs_eq_none_iff ..).mpr ((lookupCtxs_eq_none_iff ..).mpr hnl)] at hcs; cases hcs
  · exact ⟨rfl, by rw [lookup_setVar_eq, if_pos rfl]; exact hw⟩

end YashModel.Expansion
