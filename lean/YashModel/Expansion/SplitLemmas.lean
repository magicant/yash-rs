/-
  C01 — the split state machine `ranges` (Model) equals the recursive POSIX
  splitter `specSplit` (Spec) on every class list (proof shape of DESIGN.md appendix C); and where the machine
  emits empty ranges (`ranges_empty`).
-/
import YashModel.Expansion.Model
import YashModel.Expansion.Spec
import YashModel.Common.Lists
namespace YashModel.Expansion

theorem dropWs_eq (i : Nat) (cs : List Cls) :
    dropWs i cs = (i + (cs.takeWhile (· == .ws)).length, cs.dropWhile (· == .ws)) := by
  induction cs generalizing i with
  | nil => rfl
  | cons c cs ih => cases c <;> simp [dropWs, ih]; omega

theorem takeNon_eq (i : Nat) (cs : List Cls) :
    takeNon i cs = (i + (cs.takeWhile (· == .non)).length, cs.dropWhile (· == .non)) := by
  induction cs generalizing i with
  | nil => rfl
  | cons c cs ih => cases c <;> simp [takeNon, ih]; omega

theorem dropWs_len (i : Nat) (cs : List Cls) : (dropWs i cs).2.length ≤ cs.length := by
  rw [dropWs_eq]; exact Common.length_dropWhile_le ..

theorem takeNon_len (i : Nat) (cs : List Cls) : (takeNon i cs).2.length ≤ cs.length := by
  rw [takeNon_eq]; exact Common.length_dropWhile_le ..

theorem dropWs_head (i : Nat) (cs : List Cls) : ∀ r, (dropWs i cs).2 ≠ .ws :: r := by
  intro r h
  have h' : cs.dropWhile (· == Cls.ws) = .ws :: r := by rw [dropWs_eq] at h; exact h
  exact absurd (Common.stopsAt_dropWhile (· == Cls.ws) cs .ws (by rw [h']; rfl)) (by decide)

theorem takeNon_head (i : Nat) (cs : List Cls) : ∀ r, (takeNon i cs).2 ≠ .non :: r := by
  intro r h
  have h' : cs.dropWhile (· == Cls.non) = .non :: r := by rw [takeNon_eq] at h; exact h
  exact absurd (Common.stopsAt_dropWhile (· == Cls.non) cs .non (by rw [h']; rfl)) (by decide)

theorem ranges_skipWs_afterWs (i : Nat) (cs : List Cls) :
    ranges .afterWs i cs = ranges .afterWs (dropWs i cs).1 (dropWs i cs).2 := by
  induction cs generalizing i with
  | nil => simp [dropWs]
  | cons c cs ih => cases c <;> simp [dropWs, ranges]; exact ih _

theorem ranges_skipWs_afterNws (i : Nat) (cs : List Cls) :
    ranges .afterNws i cs = ranges .afterNws (dropWs i cs).1 (dropWs i cs).2 := by
  induction cs generalizing i with
  | nil => simp [dropWs]
  | cons c cs ih => cases c <;> simp [dropWs, ranges]; exact ih _

/-- continuation after a field ended at j with remaining `rest` (rest doesn't start with non) -/
def cont (j : Nat) : List Cls → List (Nat × Nat)
  | [] => []
  | .ws :: r => ranges .afterWs (j+1) r
  | .nws :: r => ranges .afterNws (j+1) r
  | .non :: r => ranges (.mid j) (j+1) r  -- unreachable in use

theorem ranges_mid (s i : Nat) (cs : List Cls) :
    ranges (.mid s) i cs = (s, (takeNon i cs).1) :: cont (takeNon i cs).1 (takeNon i cs).2 := by
  induction cs generalizing i with
  | nil => simp [ranges, takeNon, cont]
  | cons c cs ih => cases c <;> simp [ranges, takeNon, cont]; exact ih _

theorem takeNon_start (i : Nat) (cs : List Cls) : i ≤ (takeNon i cs).1 := by
  rw [takeNon_eq]; exact Nat.le_add_right ..

theorem specGo_nil (fuel i : Nat) : specGo fuel i [] = [] := by
  cases fuel <;> simp [specGo]

/-- what the spec does after a field ending at `j` with remaining `rest` -/
def specCont (fuel j : Nat) (rest : List Cls) : List (Nat × Nat) :=
  let kr := dropWs j rest
  match kr.2 with
  | .nws :: rest2 =>
    let lr := dropWs (kr.1+1) rest2
    specGo fuel lr.1 lr.2
  | rest1 => specGo fuel kr.1 rest1

theorem specGo_cons (fuel i : Nat) (c : Cls) (cs : List Cls) :
    specGo (fuel + 1) i (c :: cs) =
      (i, (takeNon i (c :: cs)).1) :: specCont fuel (takeNon i (c :: cs)).1 (takeNon i (c :: cs)).2 := by
  simp only [specGo, specCont]
  generalize (dropWs (takeNon i (c :: cs)).1 (takeNon i (c :: cs)).2).2 = kr
  rcases kr with _ | ⟨_ | _ | _, _⟩ <;> rfl

/-- The induction hypothesis of `split_main`, for class lists shorter than `fuel` that do not start with IFS white space
    (`specGo` is only ever entered behind a whole delimiter `ws* nws? ws*`).  After a non-white-space separator the machine
    and `specGo` agree outright; after IFS white space only if no `nws` follows — there the machine is still inside the
    delimiter (the `nws` belongs to it and opens no empty field), while `specGo` would read it as an empty field. -/
def SplitIH (fuel : Nat) : Prop := ∀ (i : Nat) (cs : List Cls), cs.length < fuel →
    (∀ r, cs ≠ .ws :: r) →
    ranges .afterNws i cs = specGo fuel i cs ∧
    ((∀ r, cs ≠ .nws :: r) → ranges .afterWs i cs = specGo fuel i cs)

theorem cont_spec (fuel : Nat) (ih : SplitIH fuel) (j : Nat) (rest : List Cls)
    (hlen : rest.length < fuel + 1) (hnon : ∀ r, rest ≠ .non :: r) :
    cont j rest = specCont fuel j rest := by
  cases rest with
  | nil => simp [cont, specCont, dropWs, specGo_nil]
  | cons c r =>
    cases c with
    | non => exact absurd rfl (hnon r)
    | nws =>
      simp only [cont, specCont, dropWs]
      rw [ranges_skipWs_afterNws]
      have hl := dropWs_len (j+1) r
      exact (ih _ _ (by simp at hlen; omega) (dropWs_head _ _)).1
    | ws =>
      simp only [cont, specCont, dropWs]
      rw [ranges_skipWs_afterWs]
      have hl := dropWs_len (j+1) r
      have hh := dropWs_head (j+1) r
      generalize dropWs (j+1) r = kr at *
      obtain ⟨k, kr2⟩ := kr
      simp only at *
      cases kr2 with
      | nil => simp [ranges, specGo_nil]
      | cons d kr3 =>
        cases d with
        | ws => exact absurd rfl (hh kr3)
        | nws =>
          simp only [ranges]
          rw [ranges_skipWs_afterNws]
          have hl2 := dropWs_len (k+1) kr3
          exact (ih _ _ (by simp at hlen hl; omega) (dropWs_head _ _)).1
        | non =>
          simp only
          exact (ih _ _ (by simp at hlen hl ⊢; omega) (by intro r h; cases h)).2 (by intro r h; cases h)

theorem split_main (fuel : Nat) : SplitIH fuel := by
  induction fuel with
  | zero => intro i cs h; omega
  | succ fuel ih =>
    intro i cs hlen hws
    cases cs with
    | nil => simp [ranges, specGo]
    | cons c cs =>
      cases c with
      | ws => exact absurd rfl (hws cs)
      | nws =>
        refine ⟨?_, fun h => absurd rfl (h cs)⟩
        rw [specGo_cons, show takeNon i (.nws :: cs) = (i, .nws :: cs) from rfl,
          ← cont_spec fuel ih i (.nws :: cs) (by simpa using hlen) (by intro r h; cases h)]
        rfl
      | non =>
        have key : ranges (.mid i) (i+1) cs = specGo (fuel+1) i (.non :: cs) := by
          have hl := takeNon_len (i+1) cs
          rw [ranges_mid, specGo_cons, show takeNon i (.non :: cs) = takeNon (i+1) cs from rfl,
            ← cont_spec fuel ih _ _ (by simp at hlen; omega) (takeNon_head (i+1) cs)]
        exact ⟨key, fun _ => key⟩

/-- ★ The split state machine (`Ranges::next`, run to exhaustion from its initial state) yields
    exactly the index ranges of the recursive POSIX splitter, for every class list. -/
theorem ranges_eq_specSplit (cs : List Cls) : ranges .afterNws 0 cs = specSplit cs := by
  unfold specSplit
  rw [ranges_skipWs_afterNws]
  have hl := dropWs_len 0 cs
  exact (split_main _ _ _ (by omega) (dropWs_head _ _)).1

theorem rangesOf_eq_specSplit {α : Type} (cls : α → Cls) (xs : List α) : rangesOf cls xs = specSplit (xs.map cls) :=
  ranges_eq_specSplit _

theorem splitWith_eq_specSplitWith {α : Type} (cls : α → Cls) (xs : List α) : splitWith cls xs = specSplitWith cls xs := by
  rw [splitWith, rangesOf_eq_specSplit]; rfl

/-! ## Where the machine emits empty ranges

  `lastNonWs` is vocabulary of the property theorem `split_partition`. -/

def lastNonWs (p : List Cls) : Option Cls := (p.reverse.dropWhile (fun c => c == .ws)).head?

theorem lastNonWs_snoc_ws (p : List Cls) : lastNonWs (p ++ [.ws]) = lastNonWs p := by
  simp [lastNonWs]

theorem lastNonWs_snoc_nws (p : List Cls) : lastNonWs (p ++ [.nws]) = some .nws := by
  simp [lastNonWs]

/-- The invariant of `ranges_empty`: the state fits the prefix `p` consumed so far — in a field, the field began inside `p`;
    after a non-white-space separator (also the initial state), the last class of `p` other than IFS white space is not a
    field character, so an `nws` met now opens an empty field rightly. -/
def StOk (p : List Cls) : St → Prop
  | .mid s => s < p.length
  | .afterWs => True
  | .afterNws => lastNonWs p ≠ some .non

theorem ranges_empty (cs : List Cls) :
    ∀ (st : St) (p : List Cls), StOk p st →
      ∀ k, (k, k) ∈ ranges st p.length cs →
        (p ++ cs)[k]? = some .nws ∧ lastNonWs ((p ++ cs).take k) ≠ some .non := by
  induction cs with
  | nil =>
    intro st p hok k hk
    cases st with
    | mid s =>
      simp only [ranges, List.mem_singleton, Prod.mk.injEq] at hk
      simp only [StOk] at hok
      omega
    | afterWs => simp [ranges] at hk
    | afterNws => simp [ranges] at hk
  | cons c cs ih =>
    intro st p hok k hk
    have hre : p ++ c :: cs = (p ++ [c]) ++ cs := by simp
    have hlen : (p ++ [c]).length = p.length + 1 := by simp
    have step : ∀ st', StOk (p ++ [c]) st' → (k, k) ∈ ranges st' (p.length + 1) cs →
        (p ++ c :: cs)[k]? = some .nws ∧ lastNonWs ((p ++ c :: cs).take k) ≠ some .non := by
      intro st' hok' hk'
      rw [hre]
      exact ih st' (p ++ [c]) hok' k (by rw [hlen]; exact hk')
    have hmid : StOk (p ++ [c]) (.mid p.length) := by simp [StOk]
    have hnws : c = .nws → StOk (p ++ [c]) .afterNws := by rintro rfl; simp [StOk, lastNonWs_snoc_nws]
    cases st with
    | mid s =>
      simp only [StOk] at hok
      cases c with
      | non => exact step (.mid s) (by simp only [StOk, hlen]; omega) hk
      | ws =>
        rcases List.mem_cons.mp hk with h | hk
        · cases h; omega
        · exact step .afterWs trivial hk
      | nws =>
        rcases List.mem_cons.mp hk with h | hk
        · cases h; omega
        · exact step .afterNws (hnws rfl) hk
    | afterWs =>
      cases c with
      | non => exact step (.mid p.length) hmid hk
      | ws => exact step .afterWs trivial hk
      | nws => exact step .afterNws (hnws rfl) hk
    | afterNws =>
      simp only [StOk] at hok
      cases c with
      | non => exact step (.mid p.length) hmid hk
      | ws => exact step .afterNws (by simp only [StOk, lastNonWs_snoc_ws]; exact hok) hk
      | nws =>
        rcases List.mem_cons.mp hk with h | hk
        · cases h
          refine ⟨by simp, ?_⟩
          simpa using hok
        · exact step .afterNws (hnws rfl) hk

end YashModel.Expansion
