/-
  C01 — the parts of the braced-parameter lexer `lexBraced`: `type_of_id`, the scan to `}`, the `#` prefix test,
  `suffix_modifier`.
-/
import YashModel.Expansion.Model
import YashModel.Common.Lists
namespace YashModel.Expansion

/-- `type_of_id` on digits: `0` is the special parameter, every other all-digit identifier (any length, leading
    zeros allowed) the positional parameter of that decimal number; an identifier starting with a digit that contains
    another name character is invalid; everything else is a variable name. -/
theorem typeOfId_cases (c : Char) (s2 : List Char) :
    (c :: s2 = ['0'] → typeOfId (c :: s2) = some .zero) ∧
    (c.isDigit = true → (c :: s2).all Char.isDigit = true → c :: s2 ≠ ['0'] →
      typeOfId (c :: s2) = some (.pos (digitsToNat (c :: s2)))) ∧
    (c.isDigit = true → (c :: s2).all Char.isDigit = false → typeOfId (c :: s2) = none) ∧
    (c.isDigit = false → typeOfId (c :: s2) = some (.var (String.ofList (c :: s2)))) := by
  refine ⟨fun h => by simp [typeOfId, h], fun hd ha h0 => ?_, fun hd ha => ?_, fun hd => ?_⟩
  · unfold typeOfId; simp only [h0, if_false, hd, if_true, ha]
  · unfold typeOfId
    have h0 : c :: s2 ≠ ['0'] := by
      intro h; rw [h] at ha; revert ha; decide
    simp only [h0, if_false, hd, if_true, ha]; simp
  · unfold typeOfId
    have h0 : c :: s2 ≠ ['0'] := by
      intro h; simp at h; have := h.1; subst this; revert hd; decide
    simp [h0, hd]

theorem typeOfId_range {id : List Char} {p : Param} (h : typeOfId id = some p) :
    p = .zero ∨ (∃ n, p = .pos n) ∨ ∃ s, p = .var s := by
  cases id with
  | nil => cases h; exact .inr (.inr ⟨_, rfl⟩)
  | cons c s2 =>
    obtain ⟨h0, hpos, hbad, hvar⟩ := typeOfId_cases c s2
    by_cases hz : c :: s2 = ['0']
    · rw [h0 hz] at h; cases h; exact .inl rfl
    · by_cases hd : c.isDigit = true
      · by_cases ha : (c :: s2).all Char.isDigit = true
        · rw [hpos hd ha hz] at h; cases h; exact .inr (.inl ⟨_, rfl⟩)
        · rw [hbad hd (by simpa using ha)] at h; cases h
      · rw [hvar (by simpa using hd)] at h; cases h; exact .inr (.inr ⟨_, rfl⟩)

theorem typeOfId_not_special (id : List Char) (p : Param) (h : typeOfId id = some p) (m : LexMod) :
    hasNonPortableModifier p m = false := by
  rcases typeOfId_range h with rfl | ⟨n, rfl⟩ | ⟨s, rfl⟩ <;> cases m <;> rfl

theorem span_until_brace (v rest : List Char) (hv : ∀ c ∈ v, c ≠ '}') :
    (v ++ '}' :: rest).takeWhile (· != '}') = v ∧ (v ++ '}' :: rest).dropWhile (· != '}') = '}' :: rest :=
  Common.takeWhile_ne_append '}' v _ (fun h => hv _ h rfl) (.inr rfl)

theorem hasLengthPrefix_not_hash (c : Char) (t : List Char) (h : c ≠ '#') : hasLengthPrefix (c :: t) = false := by
  unfold hasLengthPrefix
  split
  · rename_i heq; simp at heq; exact absurd heq.1 h
  · rfl

/-- `suffix_modifier` after its look at the optional colon -/
theorem lexSuffix_cons (colon : Bool) (c : Char) (r : List Char) (hc : c ≠ ':') :
    lexSuffix ((if colon then [':'] else []) ++ c :: r) =
      if Generated.ExpansionTables.suffixSwitchSymbols.contains c then
        .ok (.switch colon c (r.takeWhile (· != '}')), r.dropWhile (· != '}'))
      else if Generated.ExpansionTables.suffixTrimSymbols.contains c then
        if colon then .error .invalidModifier
        else
          let r' := if r.head? == some c then r.tail else r
          .ok (.trim c (r.head? == some c) (r'.takeWhile (· != '}')), r'.dropWhile (· != '}'))
      else if colon then .error .invalidModifier
      else .ok (.none, c :: r) := by
  have h : ((c :: r).head? == some ':') = false := by simpa using hc
  cases colon
  · simp only [Bool.false_eq_true, if_false, List.nil_append, lexSuffix, h]
  · rfl

theorem lexSuffix_brace (rest : List Char) : lexSuffix ('}' :: rest) = .ok (.none, '}' :: rest) :=
  lexSuffix_cons false '}' rest (by decide)

theorem mem_keys_of_lookup_bind {β γ : Type} (l : List (Char × β)) (f : β → Option γ) (c : Char)
    (h : ((l.lookup c).bind f).isSome = true) : c ∈ l.map (·.1) := by
  cases hl : l.lookup c with
  | none => simp [hl] at h
  | some v =>
    obtain ⟨l1, l2, heq, _⟩ := List.lookup_eq_some_iff.mp hl
    rw [heq]; simp

end YashModel.Expansion
