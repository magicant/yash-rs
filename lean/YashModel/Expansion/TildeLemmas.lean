/-
  C01 — tilde expansion.  `tilde::expand` (Model `expandTilde`, over the generated constants of
  `initial/tilde.rs`) is the Spec's `posixTilde`; what `posixTilde` consists of; and, for the lexer's `parse_tilde`,
  that the colon flag is immaterial where there is no colon.
-/
import YashModel.Expansion.PhraseLemmas
namespace YashModel.Expansion

/-- the constants of `initial/tilde.rs` as the code has them today (generated on every run) are the ones XCU 2.6.1 and
    the yash documentation name: the variable `HOME`, the tilde itself as stand-in and as kept prefix, the slash,
    characters that are unquoted results of a hard expansion, a quoting `"` as the mark of an empty pathname -/
theorem tilde_constants_today :
    Generated.ExpansionTables.tildeHomeVar = "HOME" ∧ Generated.ExpansionTables.tildeHomeFallback = ['~'] ∧
    Generated.ExpansionTables.tildeUnknownPrefix = ['~'] ∧ Generated.ExpansionTables.tildeSlash = some '/' ∧
    (∀ c, hardChar c = protectedChar c) ∧ tildeDummyQuote = emptyPathnameMark :=
  ⟨rfl, rfl, rfl, rfl, fun _ => rfl, rfl⟩

/-- `tilde::expand` = the declarative tilde expansion: directory looked up as XCU 2.6.1 says, one trailing slash
    dropped before a slash, the prefix itself where the result is unspecified, a dummy quote for an empty result -/
theorem expandTilde_eq_posixTilde (env : Env) (name : List Char) (slash : Bool) :
    expandTilde env name slash = posixTilde env name slash := by
  obtain ⟨h1, h2, h3, h4, h5, h6⟩ := tilde_constants_today
  have hbody : tildeStrip (tildeBody env name) slash = tildeText env name slash := by
    unfold tildeBody tildeText tildeDir tildeStrip
    rw [h1, h2, h3, h4]
    by_cases hn : name = []
    · subst hn
      cases env.getScalar "HOME" <;> simp
    · have hne : name.isEmpty = false := by cases name <;> simp_all
      cases env.homes.lookup name <;> simp [hn, hne]
  unfold expandTilde tildeFinish posixTilde
  rw [hbody, h6]
  have h5' : hardChar = protectedChar := funext h5
  rw [h5']
  cases tildeText env name slash <;> simp

theorem posixTilde_origin (env : Env) (name : List Char) (slash : Bool) :
    ∀ c ∈ posixTilde env name slash, c.origin = .hardExpansion := by
  intro c hc
  unfold posixTilde at hc
  split at hc
  · rw [List.mem_singleton.mp hc]; rfl
  · obtain ⟨d, _, rfl⟩ := List.mem_map.mp hc; rfl

theorem posixTilde_ne_nil (env : Env) (name : List Char) (slash : Bool) : posixTilde env name slash ≠ [] := by
  unfold posixTilde
  split
  · simp
  · simpa using ‹¬ tildeText env name slash = []›

theorem removeQuotes_posixTilde (env : Env) (name : List Char) (slash : Bool) :
    removeQuotesAndStrip (posixTilde env name slash) = tildeText env name slash := by
  unfold posixTilde
  by_cases h : tildeText env name slash = []
  · rw [if_pos h, h]; exact removeQuotesAndStrip_of_quoting (by simp [emptyPathnameMark])
  · rw [if_neg h]; exact removeQuotesAndStrip_map protectedChar (fun _ => ⟨rfl, rfl⟩) _

theorem parseTildeGo_no_colon (us : List WordUnit) (h : ∀ u ∈ us, isColonUnit u = false) :
    ∀ (name : List Char) (count : Nat), parseTildeGo true us name count = parseTildeGo false us name count := by
  induction us with
  | nil => intro name count; rfl
  | cons u rest ih =>
    intro name count
    have hu := h u (by simp)
    have hr := ih (fun v hv => h v (by simp [hv]))
    cases u with
    | unq t =>
      cases t with
      | lit c =>
        have hc : c ≠ ':' := by intro hc; subst hc; simp [isColonUnit] at hu
        simp [parseTildeGo, hc, hr]
      | bs c => rfl
      | param p m => rfl
      | arith t => rfl
      | cmd b c => rfl
    | sq s => rfl
    | dsq s => rfl
    | dq t => rfl
    | tilde n sl => rfl

end YashModel.Expansion
