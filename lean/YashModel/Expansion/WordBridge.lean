/-
  C01 ↔ C04: the two transcriptions of word.rs / text.rs agree.  C04's `Fnmatch.PWord.expand` (`Fnmatch/Word.lean`) gives the
  attributed characters of an environment-free pattern word (a parameter is given by its scalar value); this area's
  `expandWord` is the full expansion.  `corrW env pw w` decides that the C04 word `pw` describes the C01 word `w` in the
  environment `env` (same units; `param v` ↔ `$p`/`${p}` of a parameter whose value is the scalar `v`; `alt pw'` ↔
  `${p+w'}` / `${p:+w'}` of a parameter whose value makes the switch take its word); `expandWord_eq_PWord` proves that then
  the C01 expansion is exactly ONE field: C04's characters.
-/
import YashModel.Fnmatch.Word
import YashModel.Expansion.PhraseLemmas
namespace YashModel.Expansion
open Fnmatch (PTextUnit PText PWordUnit PWord PAttrChar POrigin)

def convOrigin : POrigin → Origin
  | .literal => .literal
  | .hardExpansion => .hardExpansion
  | .softExpansion => .softExpansion

/-- C04's four-field attributed character as this area's `AttrChar` -/
def convChar (c : PAttrChar) : AttrChar :=
  { value := c.value, origin := convOrigin c.origin, isQuoted := c.isQuoted, isQuoting := c.isQuoting }

/-- the switch takes its word: `${p+w}` on a set parameter, `${p:+w}` on a set and non-empty one -/
def altTaken (cond : SwCond) (v : List Char) : Bool := cond == .unset || !v.isEmpty

mutual
  def corrTU (env : Env) : PTextUnit → TextUnit → Bool
    | .lit c, .lit d => c == d
    | .bs c, .bs d => c == d
    | .param v, .param p .none => decide (resolve env p = some (.scalar v))
    | .alt pw, .param p (.switch cond .alter w) =>
      (match resolve env p with
        | some (.scalar v) => altTaken cond v
        | _ => false) && corrW env pw w
    | _, _ => false
  def corrT (env : Env) : PText → Text → Bool
    | .nil, .nil => true
    | .cons pu pt, .cons u t => corrTU env pu u && corrT env pt t
    | _, _ => false
  def corrWU (env : Env) : PWordUnit → WordUnit → Bool
    | .unq pu, .unq u => corrTU env pu u
    | .sq s, .sq s' => s == s'
    | .dq pt, .dq t => corrT env pt t
    | _, _ => false
  def corrW (env : Env) : PWord → Word → Bool
    | .nil, .nil => true
    | .cons pu pw, .cons u w => corrWU env pu u && corrW env pw w
    | _, _ => false
end

theorem corrTU_lit {env : Env} {c : Char} {u : TextUnit} (h : corrTU env (.lit c) u = true) : u = .lit c := by
  cases u <;> simp_all [corrTU]

theorem corrTU_bs {env : Env} {c : Char} {u : TextUnit} (h : corrTU env (.bs c) u = true) : u = .bs c := by
  cases u <;> simp_all [corrTU]

theorem corrTU_param {env : Env} {v : List Char} {u : TextUnit} (h : corrTU env (.param v) u = true) :
    ∃ p, u = .param p .none ∧ resolve env p = some (.scalar v) := by
  cases u with
  | param p m => cases m <;> simp_all [corrTU]
  | _ => simp [corrTU] at h

theorem corrTU_alt {env : Env} {pw : PWord} {u : TextUnit} (h : corrTU env (.alt pw) u = true) :
    ∃ p cond w v, u = .param p (.switch cond .alter w) ∧ resolve env p = some (.scalar v) ∧
      altTaken cond v = true ∧ corrW env pw w = true := by
  cases u with
  | param p m =>
    cases m with
    | switch cond act w =>
      cases act with
      | alter =>
        rw [corrTU, Bool.and_eq_true] at h
        cases hr : resolve env p with
        | some val =>
          cases val with
          | scalar v => rw [hr] at h; exact ⟨p, cond, w, v, rfl, hr, h.1, h.2⟩
          | array vs => simp [hr] at h
        | none => simp [hr] at h
      | _ => simp [corrTU] at h
    | _ => simp [corrTU] at h
  | _ => simp [corrTU] at h

theorem corrT_nil {env : Env} {t : Text} (h : corrT env .nil t = true) : t = .nil := by
  cases t <;> simp_all [corrT]

theorem corrT_cons {env : Env} {pu : PTextUnit} {pt : PText} {t : Text} (h : corrT env (.cons pu pt) t = true) :
    ∃ u t', t = .cons u t' ∧ corrTU env pu u = true ∧ corrT env pt t' = true := by
  cases t with
  | nil => simp [corrT] at h
  | cons u t' => exact ⟨u, t', rfl, by simpa [corrT] using h⟩

theorem corrWU_unq {env : Env} {pu : PTextUnit} {u : WordUnit} (h : corrWU env (.unq pu) u = true) :
    ∃ tu, u = .unq tu ∧ corrTU env pu tu = true := by
  cases u <;> simp_all [corrWU]

theorem corrWU_sq {env : Env} {s : List Char} {u : WordUnit} (h : corrWU env (.sq s) u = true) : u = .sq s := by
  cases u <;> simp_all [corrWU]

theorem corrWU_dq {env : Env} {pt : PText} {u : WordUnit} (h : corrWU env (.dq pt) u = true) :
    ∃ t, u = .dq t ∧ corrT env pt t = true := by
  cases u <;> simp_all [corrWU]

theorem corrW_nil {env : Env} {w : Word} (h : corrW env .nil w = true) : w = .nil := by
  cases w <;> simp_all [corrW]

theorem corrW_cons {env : Env} {pu : PWordUnit} {pw : PWord} {w : Word} (h : corrW env (.cons pu pw) w = true) :
    ∃ u w', w = .cons u w' ∧ corrWU env pu u = true ∧ corrW env pw w' = true := by
  cases w with
  | nil => simp [corrW] at h
  | cons u w' => exact ⟨u, w', rfl, by simpa [corrW] using h⟩

theorem conv_attribute (cs : List PAttrChar) :
    soften [cs.map convChar] = [(cs.map Fnmatch.pAttribute).map convChar] := by
  simp only [soften, List.map_cons, List.map_nil, List.map_map, List.cons.injEq, and_true]
  apply List.map_congr_left
  intro c _
  cases c with
  | mk v o q g => cases o <;> simp [convChar, convOrigin, Fnmatch.pAttribute]

theorem conv_quoteField (cs : List PAttrChar) :
    quoteField (cs.map convChar) =
      ([Fnmatch.pQuoteChar '"'] ++ cs.map Fnmatch.pSetQuoted ++ [Fnmatch.pQuoteChar '"']).map convChar := by
  simp [quoteField, quoteChar, Fnmatch.pQuoteChar, Fnmatch.pSetQuoted, convChar, convOrigin, Function.comp_def]

theorem altTaken_table {cond : SwCond} {v : List Char} (h : altTaken cond v = true) :
    posixTable .alter cond (PState.of (some (.scalar v))) = .substituteWord := by
  unfold altTaken at h
  cases cond <;> cases hve : v.isEmpty <;> simp_all [posixTable, PState.of, PState.ofVacancy, Vacancy.of]

mutual
  theorem tu_bridge : ∀ (pu : PTextUnit) (u : TextUnit) (env : Env) (ws : Bool), corrTU env pu u = true →
      posixTextUnit env ws u = (env, .ok [pu.expand.map convChar])
    | .lit c, u, env, ws, h => by
      rw [corrTU_lit h]; simp [posixTextUnit, PTextUnit.expand, convChar, convOrigin]
    | .bs c, u, env, ws, h => by
      rw [corrTU_bs h]
      simp [posixTextUnit, PTextUnit.expand, convChar, convOrigin, quoteChar, quotedLit, Fnmatch.pQuoteChar,
        Fnmatch.pQuotedLit]
    | .param v, u, env, ws, h => by
      obtain ⟨p, rfl, hr⟩ := corrTU_param h
      simp [posixTextUnit, posixParam, hr, paramFields_scalar, PTextUnit.expand, toField, softChar, convChar,
        convOrigin, Function.comp_def]
    | .alt pw, u, env, ws, h => by
      obtain ⟨p, cond, w, v, rfl, hr, hv, hw⟩ := corrTU_alt h
      simp only [posixTextUnit, posixParam, hr, altTaken_table hv, w_bridge pw w env ws hw, PTextUnit.expand]
      rw [conv_attribute]

  theorem tgo_bridge : ∀ (pt : PText) (t : Text) (env : Env) (ws : Bool) (a : List AttrChar), corrT env pt t = true →
      posixTextGo env ws [a] t = (env, .ok [a ++ pt.expand.map convChar])
    | .nil, t, env, ws, a, h => by rw [corrT_nil h]; simp [posixTextGo, PText.expand]
    | .cons pu pt, t, env, ws, a, h => by
      obtain ⟨u, t', rfl, h1, h2⟩ := corrT_cons h
      simp only [posixTextGo, tu_bridge pu u env ws h1, joinFields_single, tgo_bridge pt t' env ws _ h2,
        PText.expand, List.map_append, List.append_assoc]

  theorem wu_bridge : ∀ (pu : PWordUnit) (u : WordUnit) (env : Env) (ws : Bool), corrWU env pu u = true →
      posixWordUnit env ws u = (env, .ok [pu.expand.map convChar])
    | .unq pu, u, env, ws, h => by
      obtain ⟨tu, rfl, h1⟩ := corrWU_unq h
      simp only [posixWordUnit, tu_bridge pu tu env ws h1, PWordUnit.expand]
    | .sq s, u, env, ws, h => by
      rw [corrWU_sq h]
      simp [posixWordUnit, PWordUnit.expand, quoteChar, quotedLit, Fnmatch.pQuoteChar, Fnmatch.pQuotedLit, convChar,
        convOrigin, Function.comp_def]
    | .dq .nil, u, env, ws, h => by
      obtain ⟨t, rfl, h1⟩ := corrWU_dq h
      rw [corrT_nil h1]
      simp [posixWordUnit, Text.isNil, PWordUnit.expand, PText.expand, quoteField, quoteChar, Fnmatch.pQuoteChar,
        convChar, convOrigin]
    | .dq (.cons pu pt'), u, env, ws, h => by
      obtain ⟨t, rfl, h1⟩ := corrWU_dq h
      obtain ⟨tu, t', rfl, h2, h3⟩ := corrT_cons h1
      rw [posixWordUnit_dq_cons ws (tu_bridge pu tu env false h2) (tgo_bridge pt' t' env false _ h3)]
      simp only [List.map_cons, List.map_nil, PWordUnit.expand, PText.expand]
      rw [← List.map_append, conv_quoteField]

  theorem wgo_bridge : ∀ (pw : PWord) (w : Word) (env : Env) (ws : Bool) (a : List AttrChar), corrW env pw w = true →
      posixWordGo env ws [a] w = (env, .ok [a ++ pw.expand.map convChar])
    | .nil, w, env, ws, a, h => by rw [corrW_nil h]; simp [posixWordGo, PWord.expand]
    | .cons pu pw, w, env, ws, a, h => by
      obtain ⟨u, w', rfl, h1, h2⟩ := corrW_cons h
      simp only [posixWordGo, wu_bridge pu u env ws h1, joinFields_single, wgo_bridge pw w' env ws _ h2,
        PWord.expand, List.map_append, List.append_assoc]

  theorem w_bridge : ∀ (pw : PWord) (w : Word) (env : Env) (ws : Bool), corrW env pw w = true →
      posixWord env ws w = (env, .ok [pw.expand.map convChar])
    | .nil, w, env, ws, h => by rw [corrW_nil h]; simp [posixWord, PWord.expand]
    | .cons pu pw, w, env, ws, h => by
      obtain ⟨u, w', rfl, h1, h2⟩ := corrW_cons h
      simp only [posixWord, wu_bridge pu u env ws h1, wgo_bridge pw w' env ws _ h2, PWord.expand, List.map_append]
end

end YashModel.Expansion
