/-
  C01 — the denotation of the initial expansion: the Impl model's `expandWord` … on `Phrase` denotes the declarative
  expansion on field lists (`posixWord` …, Spec), for every word of the modelled fragment, every environment and both
  splitting contexts.  `den` reads a model result as fields; `den_seq` / `seq_of_den` carry it through the sequencing every
  expansion function uses; ★ `switch_table` (with `vacancy_of_decision`) is the one place where the two sides decide
  differently; the mutual block `textUnit_den … initial_expansion_eq_posix` is the induction.
-/
import YashModel.Expansion.PhraseLemmas
import YashModel.Expansion.TrimLemmas
import YashModel.Expansion.TildeLemmas
namespace YashModel.Expansion

def den (r : Res) : SRes :=
  (r.1, match r.2 with
        | .ok ph => .ok ph.toFields
        | .error e => .error e)

@[simp] theorem den_ok (env : Env) (ph : Phrase) : den (env, .ok ph) = (env, .ok ph.toFields) := rfl
@[simp] theorem den_error (env : Env) (e : Err) : den (env, .error e) = (env, .error e) := rfl

/-- ★ The decision taken by `switch::apply` is the entry of the XCU 2.6.2 table, for every action,
    with and without colon, and every vacancy class of the value (the quantifier is finite: the
    whole table is checked by case analysis). -/
theorem switch_table (act : SwAction) (cond : SwCond) (vac : Option Vacancy) :
    outcomeOf (switchDecision act (ValueCondition.with_ cond vac)) (PState.ofVacancy vac)
      = posixTable act cond (PState.ofVacancy vac) := by
  cases act <;> cases cond <;> rcases vac with _ | v <;> (try cases v) <;> rfl

theorem switch_table_value (act : SwAction) (cond : SwCond) (v : Option Value) :
    outcomeOf (switchDecision act (ValueCondition.with_ cond (Vacancy.of v))) (PState.of v)
      = posixTable act cond (PState.of v) :=
  switch_table act cond (Vacancy.of v)

/-- only a vacant value makes `switch::apply` assign or fail, and it reports that vacancy -/
theorem switchDecision_vacant {act : SwAction} {c : ValueCondition} {vac : Vacancy}
    (h : switchDecision act c = .assignWord vac ∨ switchDecision act c = .fail vac) : c = .vacant vac := by
  cases c with
  | occupied => cases act <;> simp [switchDecision] at h
  | vacant v => cases act <;> simp [switchDecision] at h <;> rw [h]

theorem with_vacant {cond : SwCond} {o : Option Vacancy} {vac : Vacancy}
    (h : ValueCondition.with_ cond o = .vacant vac) : o = some vac := by
  cases o with
  | none => cases cond <;> cases h
  | some x => cases cond <;> cases x <;> simp [ValueCondition.with_] at h <;> rw [h]

theorem vacancy_of_decision {act : SwAction} {cond : SwCond} {v : Option Value} {vac : Vacancy}
    (h : switchDecision act (ValueCondition.with_ cond (Vacancy.of v)) = .assignWord vac ∨
         switchDecision act (ValueCondition.with_ cond (Vacancy.of v)) = .fail vac) : vacancyOf v = vac := by
  rw [vacancyOf, with_vacant (switchDecision_vacant h)]; rfl

theorem vacancyOf_eq (v : Option Value) : vacancyOf v = (Vacancy.of v).getD .unset := rfl

theorem arithEval_den (env : Env) (src : List Char) : den (arithEval env src) = posixArith env src := by
  unfold arithEval posixArith
  cases Arith.evalStrG arithI false src env with
  | error e => simp
  | ok r => simp [Phrase.toFields]

theorem den_finishParam (env env' : Env) (ws : Bool) (p : Param) (v : Option Value) :
    den (env', .ok (finishParam env ws p v)) = (env', .ok (paramFields env ws p v)) := by
  rw [den_ok, toFields_finishParam]

/-- The sequencing every expansion function uses — an error ends the run in the environment reached, a result
    goes to the continuation — commutes with the denotation when the continuation does. -/
theorem den_seq {r : Res} {s : SRes} {k : Env → Phrase → Res} {k' : Env → Fields → SRes}
    (hk : ∀ env ph, den (k env ph) = k' env ph.toFields) : den r = s →
    den (match r with
         | (env, .error e) => (env, .error e)
         | (env, .ok ph) => k env ph) =
      match s with
      | (env, .error e) => (env, .error e)
      | (env, .ok fs) => k' env fs := by
  rintro rfl
  rcases r with ⟨env, _ | _⟩
  · rfl
  · exact hk _ _

/-- the same for a continuation that leaves the phrases behind (field splitting, joining, quote removal) -/
theorem seq_of_den {β : Type} (r : Res) (k : Env → Fields → Env × Except Err β) :
    (match den r with
     | (env, .error e) => (env, .error e)
     | (env, .ok fs) => k env fs : Env × Except Err β) =
      match r with
      | (env, .error e) => (env, .error e)
      | (env, .ok ph) => k env ph.toFields := by
  rcases r with ⟨env, _ | _⟩ <;> rfl

theorem den_nounset_guard (env : Env) (v : Option Value) {r : Res} {s : SRes} (h : den r = s) :
    den (if v.isNone && env.nounset then (env, Except.error .unsetParameter) else r) =
      if v = none ∧ env.nounset = true then (env, Except.error .unsetParameter) else s := by
  subst h
  cases v <;> cases env.nounset <;> rfl

theorem den_ite (b : Bool) {r r' : Res} {s s' : SRes} : den r = s → den r' = s' →
    den (if b then r else r') = if b then s else s' := by
  rintro rfl rfl; cases b <;> rfl

mutual
theorem textUnit_den : ∀ (u : TextUnit) (env : Env) (ws : Bool),
    den (expandTextUnit env ws u) = posixTextUnit env ws u
  | .lit c, env, ws => by rw [expandTextUnit, posixTextUnit]; rfl
  | .bs c, env, ws => by rw [expandTextUnit, posixTextUnit]; rfl
  | .param p m, env, ws => by
    rw [expandTextUnit, posixTextUnit]
    exact param_den m env ws p (resolve env p)
  | .cmd b c, env, ws => by rw [expandTextUnit, posixTextUnit]; rfl
  | .arith t, env, ws => by
    rw [expandTextUnit, posixTextUnit]
    refine den_seq (fun env' ph => ?_) (den_ite _ rfl (textGo_den t env true _))
    rw [ifsJoin_eq]; exact arithEval_den _ _

theorem param_den : ∀ (m : Modifier) (env : Env) (ws : Bool) (p : Param) (v : Option Value),
    den (expandParam env ws p v m) = posixParam env ws p v m
  | .none, env, ws, p, v => by
    rw [expandParam, posixParam]
    exact den_nounset_guard env v (den_finishParam ..)
  | .length, env, ws, p, v => by
    rw [expandParam, posixParam]
    exact den_nounset_guard env v (den_finishParam ..)
  | .trim side len w, env, ws, p, v => by
    simp only [expandParam, posixParam]
    refine den_nounset_guard env v ?_
    cases v with
    | none => exact den_finishParam ..
    | some val =>
      refine den_seq (fun env' ph => ?_) (initial_expansion_eq_posix w env ws)
      rw [ifsJoin_eq, trim_eq_posix]; exact den_finishParam ..
  | .switch cond act w, env, ws, p, v => by
    simp only [expandParam, posixParam]
    rw [← switch_table_value]
    cases hd : switchDecision act (ValueCondition.with_ cond (Vacancy.of v)) with
    | skip => cases PState.of v <;> exact den_finishParam ..
    | useWord =>
      exact den_seq (fun env' ph => by rw [den_ok, toFields_reattribute]) (initial_expansion_eq_posix w env ws)
    | assignWord vac =>
      rw [vacancy_of_decision (.inl hd)]
      cases p with
      | var name =>
        refine den_seq (fun env' ph => ?_) (initial_expansion_eq_posix w env ws)
        rw [ifsJoin_eq, toFields_reattribute]
        cases env'.assign name (removeQuotesAndStrip (joinBySep env' (soften ph.toFields))) <;> rfl
      | _ => rfl
    | fail vac =>
      rw [vacancy_of_decision (.inr hd)]
      cases w.isNil
      · exact den_seq (fun env' ph => by rw [ifsJoin_eq]; rfl) (initial_expansion_eq_posix w env true)
      · rfl

theorem textGo_den : ∀ (t : Text) (env : Env) (ws : Bool) (acc : Phrase),
    den (expandTextGo env ws acc t) = posixTextGo env ws acc.toFields t
  | .nil, env, ws, acc => by rw [expandTextGo, posixTextGo]; rfl
  | .cons u t, env, ws, acc => by
    rw [expandTextGo, posixTextGo]
    refine den_seq (fun env' ph => ?_) (textUnit_den u env ws)
    rw [← append_denote]; exact textGo_den t env' ws _

theorem wordUnit_den : ∀ (u : WordUnit) (env : Env) (ws : Bool),
    den (expandWordUnit env ws u) = posixWordUnit env ws u
  | .unq u, env, ws => by
    rw [expandWordUnit, posixWordUnit]
    exact textUnit_den u env ws
  | .sq s, env, ws => by rw [expandWordUnit, posixWordUnit]; rfl
  | .dsq s, env, ws => by rw [expandWordUnit, posixWordUnit]; rfl
  | .tilde name slash, env, ws => by
    rw [expandWordUnit, posixWordUnit, den_ok, Phrase.toFields, expandTilde_eq_posixTilde]
  | .dq t, env, ws => by
    rw [expandWordUnit, posixWordUnit]
    exact den_seq (fun env' ph => by rw [den_ok, toFields_doubleQuote]) (den_ite _ rfl (textGo_den t env false _))

theorem wordGo_den : ∀ (w : Word) (env : Env) (ws : Bool) (acc : Phrase),
    den (expandWordGo env ws acc w) = posixWordGo env ws acc.toFields w
  | .nil, env, ws, acc => by rw [expandWordGo, posixWordGo]; rfl
  | .cons u w, env, ws, acc => by
    rw [expandWordGo, posixWordGo]
    refine den_seq (fun env' ph => ?_) (wordUnit_den u env ws)
    rw [← append_denote]; exact wordGo_den w env' ws _

/-- ★★ Initial expansion: for every word of the modelled fragment (literals, backslashes, `'…'`,
    `$'…'`, `"…"`, a tilde prefix, `$p`, `${p}`, `${#p}`, the eight switches, the four trims, `$(…)` and
    `` `…` `` over the opaque output source, `$((…))`, all nested to any depth), every environment and both splitting
    contexts, the fields the implementation's `Phrase` denotes, the environment it leaves (assignments by `${p=w}`) and the error it raises
    are those of the declarative expansion `posixWord` (fields as lists, adjacent units glued
    last-to-first, double-quoted content expanded in a non-splitting context whatever surrounds the
    quotes and followed by units expanded in the surrounding context again, `$*` joined exactly
    where no splitting will happen, switches by the XCU 2.6.2 table, `nounset` only in the
    switch-less forms). -/
theorem initial_expansion_eq_posix (w : Word) (env : Env) (willSplit : Bool) :
    den (expandWord env willSplit w) = posixWord env willSplit w :=
  match w with
  | .nil => by rw [expandWord, posixWord]; rfl
  | .cons u w => by
    rw [expandWord, posixWord]
    refine den_seq (fun env' ph => ?_) (wordUnit_den u env willSplit)
    exact (wordGo_den w env' willSplit _).trans (by rw [append_denote]; rfl)
end

/-- the content of double quotes, of `$((…))` and of a here-document -/
theorem text_den (t : Text) (env : Env) (ws : Bool) :
    den (if t.isNil then (env, .ok Phrase.oneEmptyField) else expandTextGo env ws Phrase.zeroFields t) =
      if t.isNil then (env, .ok [[]]) else posixTextGo env ws [] t :=
  den_ite _ rfl (textGo_den t env ws _)

end YashModel.Expansion
