/-
  Driver side of the case families `bi`, `dv`, `id`, `rel` of c02 (formats in harness/src/bin/c02.rs):

  `bi <break|continue|return|exit> <portable 0|1> <$?> <stack, top first: L S C B b D T I, or .> <args: hex,… or .>`
      the real built-in `main` called on an `Env` with that frame stack, `$?` and option; model observation
      `p=<operand parse of break/continue> lc=<loop_count(1)>.<loop_count(2)>.<loop_count(usize::MAX)>
       cb=<current_builtin().is_special> st=<exit status> dv=<divert>` from `Exec/Builtins.lean`.
  `dv <a> <b>`: `Ord for Divert` — `cmp=<lt|eq|gt> max=<a.max(b)>` from `Divert.le` / `Divert.max`.
-/
import YashModel.Common.Proto
import YashModel.Exec.Builtins
import YashModel.Exec.Identify
import YashModel.Exec.SearchDriver
import YashModel.Exec.ReadEval
import YashModel.Exec.Sexp
namespace YashModel.Exec.Builtins
open YashModel.Proto

def frameOf : Char → Option Frame
  | 'L' => some .loop | 'S' => some .subshell | 'C' => some .condition | 'B' => some (.builtin true)
  | 'b' => some (.builtin false) | 'D' => some .dotScript | 'T' => some .trap | 'I' => some .initFile
  | _ => none

def decStack (t : String) : Option (List Frame) :=
  if t = "." then some [] else t.toList.mapM frameOf

def decArgs (t : String) : Option (List Str) :=
  if t = "." then some [] else (t.splitOn ",").mapM decChars

def showOpt : Option Nat → String
  | none => "-"
  | some n => toString n

def showDivert : Divert → String
  | .continue_ n => s!"Ct{n}" | .break_ n => s!"Bk{n}" | .return_ e => s!"R{showOpt e}"
  | .interrupt e => s!"I{showOpt e}" | .exit e => s!"X{showOpt e}" | .abort e => s!"A{showOpt e}"

def showRes : Res → String
  | .continue_ => "C"
  | .break_ d => showDivert d
  | .outOfFuel => "FUEL"

def IntErr.name : IntErr → String
  | .empty => "Empty" | .invalidDigit => "InvalidDigit" | .posOverflow => "PosOverflow"
  | .negOverflow => "NegOverflow" | .zero => "Zero"

def showBreakParse : Except BreakSyntaxError Nat → String
  | .ok n => s!"ok{n}"
  | .error (.common _) => "opt"
  | .error .tooManyOperands => "many"
  | .error (.invalidNumber e) => s!"num:{e.name}"

def decOpt (t : String) : Option (Option Nat) :=
  if t = "-" then some none else t.toNat?.map some

def decDivert (t : String) : Option Divert :=
  match t.toList with
  | 'C' :: 't' :: n => (String.ofList n).toNat?.map Divert.continue_
  | 'B' :: 'k' :: n => (String.ofList n).toNat?.map Divert.break_
  | 'R' :: e => (decOpt (String.ofList e)).map Divert.return_
  | 'I' :: e => (decOpt (String.ofList e)).map Divert.interrupt
  | 'X' :: e => (decOpt (String.ofList e)).map Divert.exit
  | 'A' :: e => (decOpt (String.ofList e)).map Divert.abort
  | _ => none

def decGuard (t : String) : ExitGuard :=
  match t.toList with
  | [i, x, c, j] => { interactive := i == '1', posix := x == '1', configured := c == '1', stoppedJob := j == '1' }
  | _ => {}

def runBiG (which portable status stack args guard : String) : String :=
    match decStack stack, decArgs args, status.toNat? with
    | some stk, some as, some st =>
      let p := portable = "1"
      let res : Option (String × BResult) :=
        match which with
        | "break" => some (showBreakParse (breakParse p as), breakMain true p stk as)
        | "continue" => some (showBreakParse (breakParse p as), breakMain false p stk as)
        | "return" => some ("-", returnMain p stk st as)
        | "exit" => some ("-", exitMainG (decGuard guard) p stk st as)
        | _ => none
      match res with
      | none => "bad-case\t-"
      | some (ps, r) =>
        let cb := match currentBuiltin stk with | none => "-" | some true => "1" | some false => "0"
        s!"p={ps} lc={loopCountChain stk 1}.{loopCountChain stk 2}.{loopCountChain stk usizeMax} cb={cb} " ++
          s!"st={r.exitStatus} dv={showRes r.divert}\t-"
    | _, _, _ => "bad-case\t-"

/-- the optional sixth token `<interactive><posixlycorrect><guard configured><a job is stopped>` (four 0/1 digits)
    sets up the suspended-jobs guard of `exit`; absent = `0000` -/
def runBi (toks : List String) : String :=
  match toks with
  | [which, portable, status, stack, args] => runBiG which portable status stack args "0000"
  | [which, portable, status, stack, args, guard] => runBiG which portable status stack args guard
  | _ => "bad-case\t-"

def runDv (toks : List String) : String :=
  match toks with
  | [a, b] =>
    match decDivert a, decDivert b with
    | some x, some y =>
      let c := if x.le y then (if y.le x then "eq" else "lt") else "gt"
      let showR (r : BResult) : String := s!"{r.exitStatus}:{showRes r.divert}"
      let ra : BResult := ⟨1, .break_ x⟩
      let rb : BResult := ⟨0, .break_ y⟩
      let plain : BResult := ⟨2, .continue_⟩
      s!"cmp={c} max={showDivert (x.max y)} es={showOpt x.exitStatus}/{showOpt y.exitStatus} " ++
        s!"rm={showR (ra.max plain)}/{showR (plain.max ra)}/{showR (ra.max rb)}\t-"
    | _, _ => "bad-case\t-"
  | _ => "bad-case\t-"

/-- `id <v|V> <aliases: name=replacement in hex, comma separated, or .> <the six tokens of a search case>`:
    `out=<hex of the line printed, or ->` for `v`, `kind=<class>` for `V` (= `type`), then `st=<exit status>` -/
def showKind : Identify.Kind → String
  | .keyword => "keyword" | .alias => "alias" | .function => "function" | .external => "external"
  | .builtin t => s!"builtin-{Search.BType.letter t}"

def decAliases (t : String) : Option (List (Str × Str)) :=
  if t = "." then some []
  else (t.splitOn ",").mapM fun a =>
    match a.splitOn "=" with
    | [n, r] => do pure (← decChars n, ← decChars r)
    | _ => none

def runId (toks : List String) : String :=
  match toks with
  | mode :: als :: rest =>
    match decAliases als, Search.parseEnv rest with
    | some aliases, some (env, name) =>
      let (c, st) := Identify.identify { env := env, aliases := aliases } name
      let body := match mode, c with
        | "v", some c => s!"out={encChars (Identify.describeShort name c)}"
        | "v", none => "out=-"
        | _, some c => s!"kind={showKind c.kind}"
        | _, none => "kind=-"
      s!"{body} st={st}\t-"
    | _, _ => "bad-case\t-"
  | _ => "bad-case\t-"

/-- `rel <initial $?> <line codes>`: the read-eval loop entered with that `$?` on a script of one line per code —
    `c` comment only, `b` blank, a digit d `st d`, `p` `probe 1`, `e` `eval '# comment'`, `E` `eval ''`, `g` `eval 'st 6'`,
    `d` `. /dot_c` (a file of comments and blank lines), `D` `. /dot_s` (comment, `st 7`, comment, blank).  `eval` and `.`
    run the same loop on their text with `executed = false`. -/
def relLines (codes : List Char) : List Line :=
  let it (c : Cmd) : Item := .mk (.mk false [c]) []
  let inner (ls : List Line) : Cmd := .st (readEvalLoop 20 { status := 1 } ls false).1.status
  codes.map fun ch =>
    if ch == 'c' || ch == 'b' then .cmds []
    else if ch == 'p' then .cmds [it (.probe 1)]
    else if ch == 'e' || ch == 'E' || ch == 'd' then .cmds [it (inner [.cmds []])]
    else if ch == 'g' then .cmds [it (inner [.cmds [it (.st 6)]])]
    else if ch == 'D' then .cmds [it (inner [.cmds [], .cmds [it (.st 7)], .cmds [], .cmds []])]
    else .cmds [it (.st (ch.toNat - 48))]

def runRel (toks : List String) : String :=
  match toks with
  | [init, codes] =>
    match init.toNat? with
    | some st0 =>
      let codes := if codes = "." then [] else codes.toList
      let (s, _) := readEvalLoop 1000 { status := st0 } (relLines codes) false
      s!"trace={showTrace s.trace} st={s.status}\t-"
    | none => "bad-case\t-"
  | _ => "bad-case\t-"

/-- the lines of the wave-3 families; `none` = not one of them -/
def runLine? (line : String) : Option String :=
  match line.splitOn " " with
  | "bi" :: toks => some (runBi toks)
  | "dv" :: toks => some (runDv toks)
  | "id" :: toks => some (runId toks)
  | "rel" :: toks => some (runRel toks)
  | _ => none

end YashModel.Exec.Builtins
