/-
  C02 — property theorems (and non-vacuity examples) of the command language.

  Property text (abridged): for every program built from lists, and-or lists, negated and
  multi-command pipelines, groups, subshells, if/while/until/for/case, function definitions and
  calls and break/continue/return/exit, the commands that run, their order, `$?` at every point
  and the final status are those of POSIX XCU 2.9–2.15: `&&`/`||` short-circuit left to right with
  equal precedence, `!` inverts only the status, loops honour break/continue levels, `return`
  leaves only the innermost function, a compound command's status is that of the last command it
  ran (zero if none).

  The theorems are about the Impl model `YashModel.Exec` (tied to the Rust code by the c02
  correspondence run) and hold for every program, every state and every fuel.
-/
import YashModel.Exec.Escape
import YashModel.Exec.LawLemmas
import YashModel.Exec.LoopIrrelevance
import YashModel.Exec.SearchTheorems
import YashModel.Exec.BuiltinTheorems
import YashModel.Exec.ReadEvalTheorems
namespace YashModel.Exec

theorem stack_balanced_cmd (fuel : Nat) (s : St) (c : Cmd) : (execCmd fuel s c).1.stack = s.stack :=
  (bal fuel).cmd s c

theorem stack_balanced_list (fuel : Nat) (s : St) (l : List Item) : (execList fuel s l).1.stack = s.stack :=
  (bal fuel).list s l

/-- A `break`/`continue` divert leaving any command is bounded by the number of loops that enclose
    the command (counted through condition and built-in frames, stopping at a subshell). -/
theorem break_never_escapes (fuel : Nat) (s : St) (c : Cmd) : Within (loops s.stack) (execCmd fuel s c).2 :=
  (esc fuel).cmd s c

theorem break_never_escapes_list (fuel : Nat) (s : St) (l : List Item) :
    Within (loops s.stack) (execList fuel s l).2 :=
  (esc fuel).list s l

/-- Hence nothing but `Return`, `Interrupt`, `Exit` (or `Abort`) ends a script run at top level. -/
theorem toplevel_no_break (fuel : Nat) (s : St) (ls : List Line) (hs : loops s.stack = 0) (n : Nat) :
    (runScript fuel s ls).2 ≠ .break_ (.break_ n) ∧ (runScript fuel s ls).2 ≠ .break_ (.continue_ n) := by
  have h := runScript_within fuel s ls
  rw [hs] at h
  constructor <;> intro he <;> rw [he] at h <;> exact Nat.not_lt_zero _ h

/-- `break n` inside `d` visible loops leaves exactly `min n d` of them (`d = 0`: an error of a
    special built-in, which interrupts the shell with status 1). -/
theorem break_leaves_min (fuel : Nat) (s : St) (n : Nat) :
    execCmd (fuel+1) s (.brk n) =
      if min n (loops s.stack) = 0 then ({ s with status := 1 }, .break_ (.interrupt none))
      else ({ s with status := 0 }, .break_ (.break_ (min n (loops s.stack) - 1))) := by
  simp only [execCmd, breakBuiltin, loopCount_eq_min, loops_builtin]
  split <;> simp [finishSimple]

/-- a loop consumes one level of `break`: `Break{0}` ends the loop normally, `Break{k+1}` leaves it
    as `Break{k}`; likewise for `continue` -/
theorem loop_consumes_level (k : Nat) :
    loopStep (.break_ (.break_ 0)) = .stop ∧ loopStep (.break_ (.break_ (k+1))) = .out (.break_ (.break_ k)) ∧
    loopStep (.break_ (.continue_ 0)) = .next ∧
    loopStep (.break_ (.continue_ (k+1))) = .out (.break_ (.continue_ k)) := by
  simp [loopStep]

/-- `return` leaves only the innermost function: a function call never yields a `Return` divert,
    and when its body returns with a status the caller goes on with exactly that status. -/
theorem return_innermost (fuel : Nat) (s : St) (name : Name) (nargs : Nat) (body : Cmd)
    (hc : classify s name = .function body) :
    (∀ e, (execCmd (fuel+1) s (.call name nargs)).2 ≠ .break_ (.return_ e)) ∧
    (∀ e, (execCmd fuel { s with params := nargs } body).2 = .break_ (.return_ (some e)) →
      (execCmd (fuel+1) s (.call name nargs)).1.status = e ∧
      (execCmd (fuel+1) s (.call name nargs)).2 = (execCmd (fuel+1) s (.call name nargs)).1.applyErrexit) ∧
    -- the caller's positional parameters are what they were, whatever the body did
    (execCmd (fuel+1) s (.call name nargs)).1.params = s.params := by
  rw [execCmd_call, hc]
  simp only [callTarget]
  generalize execCmd fuel { s with params := nargs } body = x
  obtain ⟨s1, r⟩ := x
  -- the tail of a simple command ends normally or by errexit, never by `return`
  have he : ∀ (t : St) e, (finishSimple t .continue_).2 ≠ .break_ (.return_ e) := by
    intro t e; show t.applyErrexit ≠ _
    rcases applyErrexit_cases t with h | h <;> rw [h] <;> simp
  refine ⟨fun e => ?_, fun e hr => by cases hr; exact ⟨rfl, rfl⟩, ?_⟩
  · cases r with
    | break_ d => cases d with
      | return_ e' => cases e' <;> exact he _ e
      | _ => simp [callTail, finishSimple]
    | continue_ => exact he _ e
    | outOfFuel => simp [callTail, finishSimple]
  · cases r with
    | break_ d => cases d with
      | return_ e' => cases e' <;> rfl
      | _ => rfl
    | _ => rfl

/-- the skipped side of `&&` / `||` contributes nothing: state and trace are untouched -/
theorem andor_skips (fuel : Nat) (s : St) (andThen : Bool) (p q : Bool × Pipeline) (rest : List (Bool × Pipeline))
    (hskip : (s.status = 0) ≠ p.1) (hp : p.1 = andThen) :
    execAndOrRest (fuel+1) s (p :: q :: rest) = execAndOrRest fuel s (q :: rest) := by
  obtain ⟨a, pp⟩ := p
  rw [execAndOrRest_cons, if_neg hskip]

/-- left to right with equal precedence: after `a` (run in a condition context) the rest is decided
    only by the current `$?`, one operator at a time -/
theorem andor_left_to_right (fuel : Nat) (s : St) (a : Pipeline) (r : Bool × Pipeline) (rest : List (Bool × Pipeline)) :
    execItem (fuel+1) s (.mk a (r :: rest)) =
      match execPipeline fuel (s.push .condition) a with
      | (s1, .continue_) => execAndOrRest fuel s1 (r :: rest)
      | (s1, res) => (s1.pop, res) := by
  rw [execItem_cons]
  generalize execPipeline fuel (s.push .condition) a = x
  obtain ⟨s1, res⟩ := x
  cases res <;> rfl

/-- the last pipeline of an and-or list runs without the condition frame (so errexit applies to it) -/
theorem andor_last_unconditioned (fuel : Nat) (s : St) (andThen : Bool) (p : Pipeline) :
    execAndOrRest (fuel+1) s [(andThen, p)] =
      if (s.pop.status = 0) = andThen then execPipeline fuel s.pop p else (s.pop, .continue_) :=
  execAndOrRest_last fuel s andThen p

/-- `! p` runs `p` exactly as in a condition context (same trace, same diverts) and, when `p`
    completes normally, only inverts the status — it never triggers errexit itself -/
theorem negation_status_only (fuel : Nat) (s : St) (cmds : List Cmd) :
    execPipeline (fuel+1) s (.mk true cmds) =
      match execCommands fuel (s.push .condition) cmds with
      | (s1, .continue_) => ({ s1.pop with status := if s1.pop.status = 0 then 1 else 0 }, .continue_)
      | (s1, r) => (s1.pop, r) := by
  rw [execPipeline_negated]
  generalize execCommands fuel (s.push .condition) cmds = x
  obtain ⟨s1, r⟩ := x
  cases r <;> rfl

theorem negation_keeps_trace (fuel : Nat) (s : St) (cmds : List Cmd) :
    (execPipeline (fuel+1) s (.mk true cmds)).1.trace = (execCommands fuel (s.push .condition) cmds).1.trace := by
  rw [negation_status_only]
  generalize execCommands fuel (s.push .condition) cmds = x
  obtain ⟨s1, r⟩ := x
  cases r <;> rfl

theorem if_none_taken_zero (fuel : Nat) (s : St) (cond body : List Item)
    (hc : (execList (fuel+1) (s.push .condition) cond).2 = .continue_)
    (hs : (execList (fuel+1) (s.push .condition) cond).1.status ≠ 0) :
    execCmd (fuel+2) s (.ifc cond body [] none) =
      ({ (execList (fuel+1) (s.push .condition) cond).1.pop with status := 0 }, .continue_) := by
  rw [execCmd_ifc, execElifs_cons, andThen_continue (x := popped _) hc]
  exact if_neg hs

/-- `while` whose condition fails at once (or `until` whose condition succeeds at once) yields 0 -/
theorem while_no_iteration_zero (fuel : Nat) (s : St) (until_ : Bool) (cond body : List Item)
    (hc : (execList fuel ((s.push .loop).push .condition) cond).2 = .continue_)
    (hs : ((execList fuel ((s.push .loop).push .condition) cond).1.status = 0) ≠ !until_) :
    (execCmd (fuel+2) s (.whileLoop until_ cond body)).1.status = 0 ∧
    (execCmd (fuel+2) s (.whileLoop until_ cond body)).2 = .continue_ := by
  rw [execCmd_whileLoop, execWhile_succ]
  generalize execList fuel ((s.push .loop).push .condition) cond = x at *
  obtain ⟨s1, r⟩ := x
  subst hc
  have hs : ¬ (s1.pop.status = 0) = !until_ := hs
  simp only [whileRound, loopCtl, popped, loopStep_continue, afterContinue, hs, if_false]
  exact ⟨rfl, rfl⟩

/-- `for` over no words yields 0 (bodies are never empty in parser-produced trees) -/
theorem for_no_words_zero (fuel : Nat) (s : St) (body : List Item) (hb : body ≠ []) :
    execCmd (fuel+1) s (.forLoop 0 body) = ({ s with status := 0 }, .continue_) := by
  rw [execCmd_forLoop, if_pos ⟨rfl, by cases body <;> simp_all⟩]

/-- `case` with no matching item (and no failing pattern expansion) yields 0 and runs nothing -/
theorem case_no_match_zero (fuel : Nat) (s : St) (items : List (Bool × Bool × List Item × CaseCont))
    (hm : ∀ it ∈ items, it.1 = false ∧ it.2.1 = false) (hf : items.length < fuel) :
    execCmd (fuel+1) s (.caseC items) = ({ s with status := 0 }, .continue_) := by
  have key : ∀ (fuel : Nat) (items : List (Bool × Bool × List Item × CaseCont)) (u : Bool),
      (∀ it ∈ items, it.1 = false ∧ it.2.1 = false) → items.length < fuel →
      execCase fuel s items false u = (s, .continue_, u) := by
    intro fuel
    induction fuel with
    | zero => intro items u _ h; omega
    | succ fuel ih =>
      intro items u hm hf
      cases items with
      | nil => rfl
      | cons it rest =>
        obtain ⟨m, e, body, k⟩ := it
        have hm0 : m = false ∧ e = false := hm (m, e, body, k) (by simp)
        obtain ⟨hm1, he1⟩ := hm0
        subst hm1 he1
        exact ih rest u (fun it h => hm it (List.mem_cons_of_mem _ h)) (by simp at hf; omega)
  rw [execCmd_caseC, key fuel items false hm hf]
  rfl

/-- the patterns of a `case` item are expanded only if the item is reached without falling through: an
    item entered through `;&` runs its body whatever its patterns would do (here: fail to expand), while
    the same item reached normally stops the shell with the expansion error -/
theorem case_fallthrough_skips_patterns (fuel : Nat) (s : St) (m : Bool) (body : List Item) (k : CaseCont)
    (rest : List (Bool × Bool × List Item × CaseCont)) (u : Bool) :
    (execCase (fuel+1) s ((m, true, body, k) :: rest) false u).2.1 = s.expansionError ∧
    execCase (fuel+1) s ((m, true, body, k) :: rest) true u =
      execCase (fuel+1) s ((true, false, body, k) :: rest) true u := by
  exact ⟨rfl, rfl⟩

/-- a loop's status is that of the last command its body ran: the `while` register -/
theorem while_status_is_last_body (fuel : Nat) (s : St) (until_ : Bool) (cond body : List Item) (e : Nat) :
    (execCmd (fuel+1) s (.whileLoop until_ cond body)).2 = .continue_ →
    (execCmd (fuel+1) s (.whileLoop until_ cond body)).1.status =
      (execWhile fuel (s.push .loop) until_ cond body 0).2.2 := by
  rw [execCmd_whileLoop]
  generalize execWhile fuel (s.push .loop) until_ cond body 0 = x
  obtain ⟨s1, r, e'⟩ := x
  cases r <;> simp [whilePost, popped]

/-- a command without a name (only assignments and/or words that expand to nothing) has the status of
    the last command substitution it performed — those of the assignments after those of the
    redirections after those of the words — and zero if it performed none -/
theorem absent_command_status (fuel : Nat) (s : St) (w r a : Option Nat) :
    (execCmd (fuel+1) s (.absent w r a)).1.status =
      match a, r, w with
      | some x, _, _ => x
      | none, some y, _ => y
      | none, none, some z => z
      | none, none, none => 0 := by
  cases a <;> cases r <;> cases w <;> rfl

/-- an asynchronous list followed by `wait` never diverts the shell and leaves status 0: whatever the
    list does — `exit`, `break`, `return`, a failing command under errexit — stays in its subshell;
    only its output is seen (and the signals it sent to the shell) -/
theorem async_list_isolated (fuel : Nat) (s : St) (body : List Item)
    (hf : (execList fuel (s.push .subshell) body).2 ≠ .outOfFuel) :
    (execCmd (fuel+1) s (.asyncWait body)).2 = .continue_ ∧
    (execCmd (fuel+1) s (.asyncWait body)).1 =
      { s with status := 0,
               trace := ((execList fuel (s.push .subshell) body).1.applyResult
                          (execList fuel (s.push .subshell) body).2).trace,
               -- a signal the list sent to the shell is pending when the list has been joined
               pending := ((execList fuel (s.push .subshell) body).1.applyResult
                          (execList fuel (s.push .subshell) body).2).pending } := by
  rw [execCmd_asyncWait, joinSub_of_fuel hf, applyErrexit_of_status_zero (subResult ..) rfl]
  exact ⟨rfl, rfl⟩

/-- a subshell `( … )` contains everything its body does but the output, the status and the signals it
    sent: no `break`/`continue`/`return`/`exit` leaves it (the only divert of the command itself is the
    parent's own errexit), and options, parameters, functions and counters of the shell are untouched -/
theorem subshell_contains (fuel : Nat) (s : St) (body : List Item) :
    ((execCmd (fuel+1) s (.subshell body)).2 = .continue_ ∨
     (execCmd (fuel+1) s (.subshell body)).2 = .break_ (.exit none) ∨
     (execCmd (fuel+1) s (.subshell body)).2 = .outOfFuel) ∧
    (∃ st tr pe, (execCmd (fuel+1) s (.subshell body)).1 = { s with status := st, trace := tr, pending := pe }) := by
  rw [execCmd_subshell]
  by_cases h : (execList fuel (s.push .subshell) body).2 = .outOfFuel
  · rw [joinSub_outOfFuel h]; exact ⟨.inr (.inr rfl), s.status, s.trace, s.pending, rfl⟩
  · rw [joinSub_of_fuel h]; exact ⟨(applyErrexit_cases _).elim (.inr ∘ .inl) .inl, _, _, _, rfl⟩

/-- not vacuous: `( set -e; f0() { :; }; break 2; probe 1 )` inside a loop, then `( exit 3 )` -/
example :
    let s : St := { stack := [.loop] }
    let body : List Item := [.mk (.mk false [.setE true]) [], .mk (.mk false [.fundef (.f 0) (.group [])]) [],
      .mk (.mk false [.brk 2]) [], .mk (.mk false [.probe 1]) []]
    (execCmd 9 s (.subshell body)).2 = .continue_ ∧ (execCmd 9 s (.subshell body)).1.status = 1 ∧
    (execCmd 9 s (.subshell body)).1.errexit = false ∧ (execCmd 9 s (.subshell body)).1.funcs.length = 0 ∧
    (execCmd 9 s (.subshell [.mk (.mk false [.exit (some 3)]) []])).1.status = 3 := by
  decide

/-- `for v do …` iterates once per positional parameter of the current context: it is the loop over
    that many words -/
theorem for_pos_is_for_params (fuel : Nat) (s : St) (body : List Item) :
    execCmd (fuel+1) s (.forPos body) = execCmd (fuel+1) s (.forLoop s.params body) :=
  execCmd_forPos fuel s body

/-- a function made read-only is never replaced: the definition fails with status 2 and the function
    table is what it was; any other definition succeeds with status 0 -/
theorem readonly_function_stays (fuel : Nat) (s : St) (name : Name) (body : Cmd) :
    (s.roFuncs.contains name = true →
      (execCmd (fuel+1) s (.fundef name body)).1.funcs = s.funcs ∧
      (execCmd (fuel+1) s (.fundef name body)).1.status = 2) ∧
    (s.roFuncs.contains name = false →
      (execCmd (fuel+1) s (.fundef name body)).1.funcs = defineFn s.funcs name body ∧
      (execCmd (fuel+1) s (.fundef name body)).1.status = 0) := by
  constructor <;> intro h <;> simp only [execCmd, h, finishSimple, Bool.false_eq_true, ite_true, ite_false] <;> simp

/-- Every command, in every state and with every fuel, behaves under the implementation's frame stack
    exactly as the Spec prescribes for the context that stack stands for (`loops` visible loops,
    errexit-exempt iff a `Condition` frame is present): same result, same state up to the stack. -/
theorem exec_refines_spec (fuel : Nat) (s : St) (c : Cmd) :
    SameButStack (execCmd fuel s c).1 (specCmd fuel (ctxOf s.stack) s c).1 ∧
    (execCmd fuel s c).2 = (specCmd fuel (ctxOf s.stack) s c).2 :=
  (ref fuel).cmd s s c (sbs_refl s)

theorem exec_refines_spec_list (fuel : Nat) (s : St) (l : List Item) :
    SameButStack (execList fuel s l).1 (specList fuel (ctxOf s.stack) s l).1 ∧
    (execList fuel s l).2 = (specList fuel (ctxOf s.stack) s l).2 :=
  (ref fuel).list s s l (sbs_refl s)

/-- Whole shell runs (read-eval loop, shell errors, EXIT trap): the commands traced, `$?` at each of
    them, the final exit status and the way the run ended are those of the Spec. -/
theorem shell_refines_spec (fuel : Nat) (script : List Line) :
    (runShell fuel {} script).1.trace = (specShell fuel {} script).1.trace ∧
    (runShell fuel {} script).1.status = (specShell fuel {} script).1.status ∧
    (runShell fuel {} script).2 = (specShell fuel {} script).2 := by
  rw [show runShell fuel {} script = _ from sim_shell fuel {} script]
  exact ⟨rfl, rfl, rfl⟩

/-- …and so is everything the shell is left with (the final state the c02 driver prints and the harness
    reads from the real `Env`): option flags, positional parameters, function table, read-only set,
    counters, traps — the Spec's final state is the implementation's, but for the frame stack the Spec
    does not have -/
theorem shell_refines_spec_state (fuel : Nat) (script : List Line) :
    ∃ st, (specShell fuel {} script).1 = { (runShell fuel {} script).1 with stack := st } :=
  ⟨_, by rw [show runShell fuel {} script = _ from sim_shell fuel {} script]; rfl⟩

/-- a whole shell run leaves the frame stack as it found it: after the last command and the EXIT trap
    nothing is left on it (`stk=` is empty in every observation) -/
theorem stack_balanced_shell (fuel : Nat) (s : St) (script : List Line) :
    (runShell fuel s script).1.stack = s.stack := by
  rw [runShell_eq]
  exact shellTail_stack (stack_balanced_script fuel s script) fun s1 h1 => (runExitTrap_stack fuel s1).trans h1

/-- `l1; l2` is `l1`, then — iff `l1` ended normally — `l2` in the state `l1` left, with the fuel `l1`'s
    items did not use; a divert (or fuel exhaustion) inside `l1` ends the whole list with that result and
    nothing of `l2` runs.  For every state, every pair of lists and every fuel that covers `l1`'s length. -/
theorem list_sequential (l1 l2 : List Item) : ∀ (fuel : Nat) (s : St), l1.length ≤ fuel →
    execList fuel s (l1 ++ l2) =
      match execList fuel s l1 with
      | (s1, .continue_) => execList (fuel - l1.length) s1 l2
      | x => x := by
  induction l1 with
  | nil =>
    intro fuel s _
    cases fuel <;> rfl
  | cons it rest ih =>
    intro fuel s hle
    cases fuel with
    | zero => simp at hle
    | succ n =>
      rw [List.cons_append, execList_cons, execList_cons, List.length_cons, Nat.add_sub_add_right]
      generalize execItem n s it = x
      obtain ⟨s1, r⟩ := x
      cases r with
      | continue_ => exact ih n s1 (Nat.le_of_succ_le_succ hle)
      | _ => rfl

/-- not vacuous: `probe 1; st 3` then `probe 2; exit 4; probe 3` -/
example :
    let l1 : List Item := [.mk (.mk false [.probe 1]) [], .mk (.mk false [.st 3]) []]
    let l2 : List Item := [.mk (.mk false [.probe 2]) [], .mk (.mk false [.exit (some 4)]) [], .mk (.mk false [.probe 3]) []]
    (execList 9 {} l1).2 = .continue_ ∧ (execList 9 {} (l1 ++ l2)).2 = .break_ (.exit (some 4)) ∧
    (execList 9 {} (l1 ++ l2)).1.trace = [(2, 3), (1, 0)] ∧
    (execList 9 {} (l2 ++ l1)).1.trace = [(2, 0)] := by
  decide

/-! ### ☆ pipeline_status: the exit status of a multi-command pipeline

Without `pipefail` it is the exit status of the last command; with `pipefail` that of the rightmost
command that failed, zero if none did — whatever the commands are, under job control or not. -/

/-- the status a pipeline reports, from the exit statuses of its commands in order (`final` starts at 0):
    the register update of `execute_multi_command_pipeline` -/
def pipeStatus (pipefail : Bool) : List Nat → Nat → Nat
  | [], final => final
  | e :: rest, final => pipeStatus pipefail rest (if e ≠ 0 ∨ !pipefail then e else final)

/-- the exit statuses of the members, each run in its own subshell on a copy of the shell's state -/
def memberStatuses : Nat → St → List Cmd → List Nat
  | 0, _, _ => []
  | _+1, _, [] => []
  | fuel+1, s, c :: rest =>
    let x := execCmd fuel (s.push .subshell) c
    let c2 := x.1.applyResult x.2
    c2.status :: memberStatuses fuel { s with trace := c2.trace, pending := c2.pending } rest

theorem members_never_divert (fuel : Nat) : ∀ (s : St) (cs : List Cmd) (f : Nat) (dv : Divert),
    (execPipeMembers fuel s cs f).2 ≠ .break_ dv := by
  intro s cs f dv
  obtain ⟨tr, pe, h | ⟨st, h⟩⟩ := execPipeMembers_result fuel s cs f <;> rw [h] <;> exact Res.noConfusion

theorem members_status (fuel : Nat) : ∀ (s : St) (cs : List Cmd) (f : Nat),
    (execPipeMembers fuel s cs f).2 = .continue_ →
    (execPipeMembers fuel s cs f).1.status = pipeStatus s.pipefail (memberStatuses fuel s cs) f := by
  induction fuel with
  | zero => intro s cs f h; exact Res.noConfusion h
  | succ fuel ih =>
    intro s cs f h
    cases cs with
    | nil => rfl
    | cons c rest =>
      rw [execPipeMembers_cons] at h ⊢
      by_cases hf : (execCmd fuel (s.push .subshell) c).2 = .outOfFuel
      · rw [joinSub_outOfFuel hf] at h; exact Res.noConfusion h
      · rw [joinSub_of_fuel hf] at h ⊢; exact ih _ rest _ h

/-- The status of the whole pipeline command (`c1 | c2 | …`, two or more commands), with or without the
    job-control wrapper subshell. -/
theorem pipeline_status (fuel : Nat) (s : St) (c d : Cmd) (t : List Cmd)
    (h : (execCommands (fuel+1) s (c :: d :: t)).2 ≠ .outOfFuel) :
    (execPipeMembers fuel s.enterJc (c :: d :: t) 0).2 = .continue_ ∧
    (execCommands (fuel+1) s (c :: d :: t)).1.status =
      pipeStatus s.pipefail (memberStatuses fuel s.enterJc (c :: d :: t)) 0 := by
  rw [execCommands_many] at h ⊢
  have hm := members_status fuel s.enterJc (c :: d :: t) 0
  -- members never divert: each runs in its own subshell
  obtain ⟨tr, pe, hx | ⟨st, hx⟩⟩ := execPipeMembers_result fuel s.enterJc (c :: d :: t) 0
  · rw [hx] at h; exact absurd rfl h
  · rw [hx] at hm ⊢
    rw [leaveJc_eq, show s.pipefail = s.enterJc.pipefail by rw [enterJc_eq]]
    exact ⟨rfl, hm rfl⟩

/-- without `pipefail`: the last command's status -/
theorem pipeStatus_last (sts : List Nat) (f : Nat) (h : sts ≠ []) : pipeStatus false sts f = sts.getLast h := by
  induction sts generalizing f with
  | nil => exact absurd rfl h
  | cons e rest ih =>
    cases rest with
    | nil => simp [pipeStatus]
    | cons e2 r2 =>
      have := ih (if e ≠ 0 ∨ (!false) = true then e else f) (by simp)
      simp only [pipeStatus] at this ⊢
      simpa using this

/-- with `pipefail`: the rightmost non-zero status, or what the register held (zero) if there is none -/
theorem pipeStatus_pipefail (sts : List Nat) (f : Nat) :
    pipeStatus true sts f = ((sts.reverse.find? (· ≠ 0)).getD f) := by
  induction sts generalizing f with
  | nil => simp [pipeStatus]
  | cons e rest ih =>
    simp only [pipeStatus, ih, List.reverse_cons, List.find?_append]
    by_cases he : e = 0
    · subst he; simp
    · cases hf : List.find? (fun x => decide (x ≠ 0)) rest.reverse <;> simp [he]

/-- not vacuous: `st 2 | st 0 | st 0` is 0 without pipefail and 2 with it -/
example :
    let p : List Cmd := [.st 2, .st 0, .st 0]
    (execCommands 5 {} p).1.status = 0 ∧ (execCommands 5 { pipefail := true } p).1.status = 2 ∧
    (execCommands 5 { pipefail := true } [.st 2, .st 3, .st 0]).1.status = 3 := by decide

/-! ### ☆ fuel_irrelevant: the fuel index is only a termination device

Every theorem of this file holds "for every fuel"; these theorems say what that quantifier means.  If
an execution returns anything but `outOfFuel`, every larger amount of fuel returns the same state and
the same result, so a terminating execution has exactly one outcome: the one the driver prints. -/

theorem fuel_irrelevant (n k : Nat) (s : St) (c : Cmd) (h : (execCmd n s c).2 ≠ .outOfFuel) :
    execCmd (n+k) s c = execCmd n s c :=
  lift_cmd n k s c h

theorem fuel_irrelevant_shell (n k : Nat) (s : St) (script : List Line)
    (h : (runShell n s script).2 ≠ .outOfFuel) : runShell (n+k) s script = runShell n s script :=
  le_add (fun n => runShell n s script) (fun x => x.2 = .outOfFuel) (fun n => runShell_le n s script) n k h

/-- a terminating command has one outcome, whatever the fuel it was run with -/
theorem outcome_unique (n m : Nat) (s : St) (c : Cmd)
    (hn : (execCmd n s c).2 ≠ .outOfFuel) (hm : (execCmd m s c).2 ≠ .outOfFuel) :
    execCmd n s c = execCmd m s c :=
  le_unique (fun n => execCmd n s c) (fun x => x.2 = .outOfFuel) (fun n => (mono_all n).cmd s c) n m hn hm

/-- a terminating shell run has one trace, one exit status and one way of ending -/
theorem shell_outcome_unique (n m : Nat) (script : List Line)
    (hn : (runShell n {} script).2 ≠ .outOfFuel) (hm : (runShell m {} script).2 ≠ .outOfFuel) :
    runShell n {} script = runShell m {} script :=
  le_unique (fun n => runShell n {} script) (fun x => x.2 = .outOfFuel) (fun n => runShell_le n {} script) n m hn hm

/-- not vacuous: `while tick 0 3; do probe 1; done` terminates with fuel 40 (and not with fuel 5) -/
example :
    let c : Cmd := .whileLoop false [.mk (.mk false [.tick 0 3]) []] [.mk (.mk false [.probe 1]) []]
    (execCmd 40 {} c).2 = .continue_ ∧ (execCmd 5 {} c).2 = .outOfFuel ∧ (execCmd 40 {} c).1.trace.length = 3 := by
  decide

/-- `while false; do probe 1; done` : condition fails at once -/
example :
    let s : St := {}
    (execList 5 ((s.push .loop).push .condition) [.mk (.mk false [.st 1]) []]).2 = .continue_ ∧
    (execCmd 7 s (.whileLoop false [.mk (.mk false [.st 1]) []] [.mk (.mk false [.probe 1]) []])).1.status = 0 := by
  decide

/-- `st 1 && probe 1 || probe 2`: with `$? = 1` the `&&` side is skipped (hypotheses of `andor_skips`) and
    the `||` side runs -/
example :
    let s : St := { status := 1, stack := [.condition] }
    let p : Bool × Pipeline := (true, .mk false [.probe 1])
    let q : Bool × Pipeline := (false, .mk false [.probe 2])
    ((s.status = 0) ≠ p.1) ∧ (execAndOrRest 9 s [p, q]).1.trace = [(2, 1)] := by
  decide

/-- `if st 3; then probe 1; fi` (hypotheses of `if_none_taken_zero`): the condition ends normally with a
    non-zero status, nothing runs, `$?` is 0 -/
example :
    let s : St := {}
    let cond : List Item := [.mk (.mk false [.st 3]) []]
    (execList 6 (s.push .condition) cond).2 = .continue_ ∧ (execList 6 (s.push .condition) cond).1.status ≠ 0 ∧
    (execCmd 7 s (.ifc cond [.mk (.mk false [.probe 1]) []] [] none)).1.status = 0 ∧
    (execCmd 7 s (.ifc cond [.mk (.mk false [.probe 1]) []] [] none)).1.trace = [] := by
  decide

/-- `case x in y) probe 1;; z) probe 2;; esac` after `st 5` (hypotheses of `case_no_match_zero`) -/
example :
    let items : List (Bool × Bool × List Item × CaseCont) :=
      [(false, false, [.mk (.mk false [.probe 1]) []], .break_), (false, false, [.mk (.mk false [.probe 2]) []], .break_)]
    (items.all fun it => !it.1 && !it.2.1) = true ∧ items.length < 5 ∧
    (execCmd 6 { status := 5 } (.caseC items)).1.status = 0 ∧ (execCmd 6 { status := 5 } (.caseC items)).1.trace = [] ∧
    (execCmd 6 { status := 5 } (.caseC items)).2 = .continue_ := by
  decide

/-- `{ probe 1; exit 3; probe 2; } & wait` under errexit (hypothesis of `async_list_isolated`): the list
    terminates in its subshell; the shell goes on with status 0 and sees the one probe -/
example :
    let s : St := { errexit := true, status := 4 }
    let body : List Item := [.mk (.mk false [.probe 1]) [], .mk (.mk false [.exit (some 3)]) [], .mk (.mk false [.probe 2]) []]
    (execList 8 (s.push .subshell) body).2 ≠ .outOfFuel ∧
    (execCmd 9 s (.asyncWait body)).2 = .continue_ ∧ (execCmd 9 s (.asyncWait body)).1.status = 0 ∧
    (execCmd 9 s (.asyncWait body)).1.trace = [(1, 4)] := by
  decide

/-- `exit 3 | st 0 | unknown` under job control (hypothesis of `pipeline_status`): the run terminates, and
    the status is that of the last command without pipefail, of the rightmost failure with it -/
example :
    let s : St := { monitor := true }
    (execCommands 6 s [.exit (some 3), .st 0, .unknown]).2 ≠ .outOfFuel ∧
    (execCommands 6 s [.exit (some 3), .st 0, .unknown]).1.status = 127 ∧
    (execCommands 6 { s with pipefail := true } [.exit (some 3), .st 0, .st 0]).1.status = 3 := by
  decide

/-- a function body that returns 7: `f0() { probe 1; return 7; probe 2; }; f0` -/
example :
    let body : Cmd := .group [.mk (.mk false [.probe 1]) [], .mk (.mk false [.ret (some 7)]) [], .mk (.mk false [.probe 2]) []]
    let s : St := { funcs := [(.f 0, body)] }
    (execCmd 20 s body).2 = .break_ (.return_ (some 7)) ∧
    (execCmd 21 s (.call (.f 0) 0)).1.status = 7 ∧ (execCmd 21 s (.call (.f 0) 0)).1.trace = [(1, 0)] := by
  decide

/-- `break 2` inside two nested loops inside a condition leaves both (`Within` is not vacuous) -/
example : loops [.builtin true, .condition, .loop, .loop, .subshell, .loop] = 2 ∧
    (execCmd 3 { stack := [.condition, .loop, .loop, .subshell, .loop] } (.brk 5)).2 = .break_ (.break_ 1) := by
  decide

/-! ### algebraic laws of the command language

Each law equates two *different programs* on the transcribed executor, for all sub-commands and all states: the
frame stacks they build differ (an extra `Condition` frame, a group's extra command boundary), so none of them is an
unfolding of one definition — they go through `sim` (a second `Condition` frame is invisible:
`cmds_under_condition`, `pipe_under_condition`), fuel lifting (`fuel_irrelevant_list`, `lift_pipe`) and `pollWith_none`.  Fuel: the larger program is given the extra fuel its nesting consumes; the
hypothesis `… ≠ outOfFuel` says that the smaller one terminates.  Hypotheses of the form `….trapDue = none` say that
no action of a caught signal is waiting at the one command boundary the regrouped program has and the other lacks. -/

section Laws

/-- `{ c; }` ≡ `c`: a brace group around one command is that command (same state, trace, `$?`, divert), the only
    thing the group adds being one more point at which the action of a caught signal may run — nothing when none
    is due in the state `c` leaves -/
theorem group_is_command (n : Nat) (s : St) (c : Cmd) (ht : (execCmd n s c).1.trapDue = none) :
    execCmd (n+5) s (.group (wrap c)) = execCmd n s c := by
  rw [execCmd_group]
  exact execList_wrap n s c ht

/-- `elif` is `else if`: the tail `elif c2; then b2; …` of an `if` runs exactly as the command
    `if c2; then b2; …; fi` -/
theorem elifs_is_if (f : Nat) (s : St) (c b : List Item) (rest : List (List Item × List Item)) (els : Option (List Item)) :
    execElifs f s ((c, b) :: rest) els = execCmd f s (.ifc c b rest els) := by
  cases f with
  | zero => rfl
  | succ f => exact (execCmd_ifc f s c b rest els).symm

/-- `if c1; then b1; elif c2; then b2; …; fi` ≡ `if c1; then b1; else if c2; then b2; …; fi; fi` for all
    conditions, bodies, further `elif`s and `else` parts and every state: whenever the flat form terminates, the
    nested form (given the fuel its extra nesting takes) ends in the same state with the same trace, `$?` and divert
    — provided no caught signal's action is due when the inner `if` ends (the nested form has one more command
    boundary there) -/
theorem if_elif_is_nested (f : Nat) (s : St) (c1 b1 c2 b2 : List Item)
    (rest : List (List Item × List Item)) (els : Option (List Item))
    (hterm : (execCmd (f+1) s (.ifc c1 b1 ((c2, b2) :: rest) els)).2 ≠ .outOfFuel)
    (ht : (execCmd f (execList f (s.push .condition) c1).1.pop (.ifc c2 b2 rest els)).1.trapDue = none) :
    execCmd (f+6) s (.ifc c1 b1 [] (some (wrap (.ifc c2 b2 rest els)))) =
      execCmd (f+1) s (.ifc c1 b1 ((c2, b2) :: rest) els) := by
  rw [execCmd_ifc, execElifs_cons] at hterm
  rw [execCmd_ifc, execCmd_ifc, execElifs_cons, execElifs_cons]
  by_cases hc : (execList f (s.push .condition) c1).2 = .continue_
  · have hk := andThen_continue (x := popped (execList f (s.push .condition) c1)) hc
    rw [hk] at hterm
    rw [fuel_irrelevant_list f 5 _ _ (by rw [hc]; exact Res.noConfusion), hk, hk]
    by_cases h0 : (popped (execList f (s.push .condition) c1)).1.status = 0
    · simp only [if_pos h0] at hterm ⊢; exact fuel_irrelevant_list f 5 _ _ hterm
    · simp only [if_neg h0, elifs_is_if]; exact execList_wrap f _ _ ht
  · have hk := andThen_of_ne (x := popped (execList f (s.push .condition) c1)) hc
    rw [hk] at hterm
    rw [fuel_irrelevant_list f 5 _ _ hterm, hk, hk]

/-- `! { ! p; }`: the pipeline runs exactly as under a single `!` (errexit-exempt context, same trace, a divert
    passes through unchanged) and the status is 0 iff `p`'s is 0, else 1 — negation touches nothing but the status,
    twice -/
theorem double_negation (n : Nat) (s : St) (cmds : List Cmd)
    (ht : (execCommands n (s.push .condition) cmds).1.trapDue = none) :
    execPipeline (n+6) s (.mk true [.group [.mk (.mk true cmds) []]]) =
      match execCommands n (s.push .condition) cmds with
      | (s1, .continue_) => ({ s1.pop with status := if s1.pop.status = 0 then 0 else 1 }, .continue_)
      | (s1, r) => (s1.pop, r) := by
  rw [execPipeline_negated, execCommands_single, execCmd_group_single, execItem_single, execPipeline_negated,
    cmds_under_condition n _ s.stack cmds rfl]
  generalize execCommands n (s.push .condition) cmds = x at ht ⊢
  obtain ⟨t, r⟩ := x
  cases r with
  | continue_ =>
    show andThen (popped (pollWith _ { t with status := if t.status = 0 then 1 else 0 } .continue_)) _ = _
    rw [pollWith_none _ _ _ (show St.trapDue { t with status := if t.status = 0 then 1 else 0 } = none from ht)]
    by_cases h0 : t.status = 0 <;> simp [h0, andThen, popped, St.pop]
  | break_ d => show andThen (popped (pollWith _ t (.break_ d))) _ = _; rw [pollWith_none _ _ _ ht]; rfl
  | outOfFuel => rfl

/-- `&&` and `||` have equal precedence and associate to the left: `a op1 b op2 c` ≡ `{ a op1 b; } op2 c` for all four
    combinations of operators, all pipelines and every state — same final state (trace, `$?`, options, functions),
    same divert — whenever the flat list terminates, provided no caught signal's action is due when the group ends
    (the group is one more command boundary) -/
theorem andor_left_assoc (n : Nat) (s : St) (a b c : Pipeline) (op1 op2 : Bool)
    (hterm : (execItem (n+3) s (.mk a [(op1, b), (op2, c)])).2 ≠ .outOfFuel)
    (ht : (execItem (n+3) (s.push .condition) (.mk a [(op1, b)])).1.trapDue = none) :
    execItem (n+8) s (.mk (.mk false [.group [.mk a [(op1, b)]]]) [(op2, c)]) =
      execItem (n+3) s (.mk a [(op1, b), (op2, c)]) := by
  -- the group's and-or list runs under a second `Condition` frame, which is invisible
  have hinner : execItem (n+3) (s.push .condition) (.mk a [(op1, b)]) =
      match execPipeline (n+2) (s.push .condition) a with
      | (u1, .continue_) => if (u1.status = 0) = op1 then execPipeline (n+1) u1 b else (u1, .continue_)
      | (u1, r) => (u1, r) := by
    rw [andor_left_to_right, ← pipe_under_condition (n+2) (s.push .condition) s.stack a rfl]
    generalize execPipeline (n+2) ((s.push .condition).push .condition) a = x
    obtain ⟨u1, r⟩ := x
    cases r with
    | continue_ => exact andor_last_unconditioned (n+1) u1 op1 b
    | _ => rfl
  -- however the group ends normally, `c` then runs iff `$?` fits `op2`, with the fuel the flat form gives it
  have tail : ∀ u : St, (execAndOrRest (n+1) u [(op2, c)]).2 ≠ .outOfFuel →
      execAndOrRest (n+7) u [(op2, c)] = execAndOrRest (n+1) u [(op2, c)] := by
    intro u h
    rw [execAndOrRest_last] at h ⊢
    rw [execAndOrRest_last]
    by_cases h2 : (u.pop.status = 0) = op2
    · rw [if_pos h2] at h ⊢
      rw [if_pos h2]
      exact lift_pipe n 6 _ _ h
    · rw [if_neg h2, if_neg h2]
  rw [hinner] at ht
  rw [andor_left_to_right] at hterm
  rw [andor_left_to_right, execPipeline_plain, execCommands_single, execCmd_group_single, hinner, andor_left_to_right]
  generalize execPipeline (n+2) (s.push .condition) a = x at ht hterm ⊢
  obtain ⟨u1, r⟩ := x
  cases r with
  | outOfFuel => exact absurd rfl hterm
  | break_ d =>
    simp only at ht ⊢
    rw [pollWith_none _ _ _ ht]
  | continue_ =>
    simp only at ht hterm ⊢
    rw [execAndOrRest_cons] at hterm ⊢
    by_cases h1 : (u1.status = 0) = op1
    · simp only [h1, if_true] at ht hterm ⊢
      generalize execPipeline (n+1) u1 b = y at ht hterm ⊢
      obtain ⟨u2, r2⟩ := y
      cases r2 with
      | outOfFuel => exact absurd rfl hterm
      | break_ d => simp only [andThenPop] at ht ⊢; rw [pollWith_none _ _ _ ht]
      | continue_ =>
        simp only [andThenPop] at ht hterm ⊢
        rw [pollWith_none _ _ _ ht]
        simp only
        exact tail u2 hterm
    · simp only [h1, if_false] at ht hterm ⊢
      rw [pollWith_none _ _ _ ht]
      simp only
      exact tail u1 hterm

/-- `until p; do body; done` ≡ `while ! p; do body; done` for every pipeline `p`, every state and every fuel with which the `until` form terminates: same
    iterations, same trace, same final state and `$?`, same divert.  The one thing the two differ in is the `$?` the
    body *starts* with (`p`'s own non-zero status under `until`, 0 after `! p`), so the law is stated for bodies that
    do not read the `$?` they start with (`hbody`; every body whose first command sets `$?` qualifies:
    `list_after_st`) -/
theorem until_is_while_not (f : Nat) (s : St) (cmds : List Cmd) (body : List Item)
    (hbody : ∀ (g : Nat) (t : St) (k : Nat), (execList g t body).2 ≠ .outOfFuel →
      execList g { t with status := k } body = execList g t body)
    (hterm : (execCmd f s (.whileLoop true (condPos cmds) body)).2 ≠ .outOfFuel) :
    execCmd f s (.whileLoop false (condNeg cmds) body) = execCmd f s (.whileLoop true (condPos cmds) body) := by
  cases f with
  | zero => exact absurd rfl hterm
  | succ f =>
    rw [execCmd_whileLoop, whilePost_popped] at hterm ⊢
    rw [execCmd_whileLoop, whilePost_popped]
    rw [until_while_post cmds body hbody f (s.push .loop) 0 hterm]

def itemOf (c : Cmd) : Item := .mk (.mk false [c]) []

/-- not vacuous: `if st 1; then probe 1; elif st 0; then probe 2; fi` terminates, no signal is due, and both forms
    trace probe 2 -/
example :
    (execCmd 11 {} (.ifc [itemOf (.st 1)] [itemOf (.probe 1)] [([itemOf (.st 0)], [itemOf (.probe 2)])] none)).2 ≠ .outOfFuel ∧
    (execCmd 10 (execList 10 (({} : St).push .condition) [itemOf (.st 1)]).1.pop
      (.ifc [itemOf (.st 0)] [itemOf (.probe 2)] [] none)).1.trapDue = none ∧
    (execCmd 16 {} (.ifc [itemOf (.st 1)] [itemOf (.probe 1)] [] (some (wrap (.ifc [itemOf (.st 0)] [itemOf (.probe 2)] [] none))))).1.trace
      = [(2, 0)] := by
  refine ⟨by decide, rfl, by decide⟩

/-- not vacuous: `st 1 && probe 1 || probe 2` (the `&&` side skipped, the `||` side run) and its grouped form -/
example :
    (execItem 8 {} (.mk (.mk false [.st 1]) [(true, .mk false [.probe 1]), (false, .mk false [.probe 2])])).2 ≠ .outOfFuel ∧
    (execItem 8 (({} : St).push .condition) (.mk (.mk false [.st 1]) [(true, .mk false [.probe 1])])).1.trapDue = none ∧
    (execItem 13 {} (.mk (.mk false [.group [.mk (.mk false [.st 1]) [(true, .mk false [.probe 1])]]])
      [(false, .mk false [.probe 2])])).1.trace = [(2, 1)] := by
  refine ⟨by decide, rfl, by decide⟩

/-- not vacuous: `! { ! st 3; }` yields 1, `! { ! st 0; }` yields 0 -/
example :
    (execCommands 4 (({} : St).push .condition) [.st 3]).1.trapDue = none ∧
    (execPipeline 10 {} (.mk true [.group [.mk (.mk true [.st 3]) []]])).1.status = 1 ∧
    (execPipeline 10 {} (.mk true [.group [.mk (.mk true [.st 0]) []]])).1.status = 0 := by
  refine ⟨rfl, by decide, by decide⟩

/-- not vacuous: `until tick 0 0; do st 0; probe 1; break; done`: the condition fails, the body (it begins with
    `st 0`, so `list_after_st` gives `hbody`) runs once and leaves the loop -/
example :
    let body := [itemOf (.st 0), itemOf (.probe 1), itemOf (.brk 1)]
    (∀ (g : Nat) (t : St) (k : Nat), (execList g t body).2 ≠ .outOfFuel →
      execList g { t with status := k } body = execList g t body) ∧
    (execCmd 20 {} (.whileLoop true (condPos [.tick 0 0]) body)).2 ≠ .outOfFuel ∧
    (execCmd 20 {} (.whileLoop false (condNeg [.tick 0 0]) body)).1.trace = [(1, 0)] := by
  refine ⟨fun g t k h => list_after_st 0 _ g t k h, by decide, by decide⟩

end Laws

/-- a stage of a pipeline is a subshell: when it ends by `exit n` or `return n` — executed at any depth inside the
    stage, the divert is what the stage's command returns — its exit status is the operand `n`; without an operand it
    is the `$?` at that point; and a stage that ends normally or by `break`/`continue` has the `$?` it ended with.
    (`pipeline_status` then gives the pipeline's status from these.) -/
theorem stage_status_is_operand (fuel : Nat) (s : St) (c : Cmd) (rest : List Cmd) :
    (memberStatuses (fuel+1) s (c :: rest)).head? =
      some (match (execCmd fuel (s.push .subshell) c).2 with
        | .break_ (.exit (some n)) => n
        | .break_ (.return_ (some n)) => n
        | .break_ (.interrupt (some n)) => n
        | .break_ (.abort (some n)) => n
        | _ => (execCmd fuel (s.push .subshell) c).1.status) := by
  simp only [memberStatuses, List.head?_cons]
  generalize execCmd fuel (s.push .subshell) c = x
  obtain ⟨c1, r⟩ := x
  cases r with
  | continue_ => rfl
  | outOfFuel => rfl
  | break_ d =>
    cases d with
    | continue_ k => rfl
    | break_ k => rfl
    | return_ e => cases e <;> rfl
    | interrupt e => cases e <;> rfl
    | exit e => cases e <;> rfl
    | abort e => cases e <;> rfl

/-- not vacuous: `{ if st 0; then st 3; exit 7; fi; st 0; } | st 0` under pipefail is 7 (the operand, from two levels
    down), `… exit; …` is 3 (`$?` at that point), and `{ f0() { return 9; }; f0; st 0; } | st 0` is 0: `return`
    leaves only the function -/
example :
    let it (c : Cmd) : Item := .mk (.mk false [c]) []
    let stage (e : Option Nat) : Cmd := .group [it (.ifc [it (.st 0)] [it (.st 3), it (.exit e)] [] none), it (.st 0)]
    (execCommands 20 { pipefail := true } [stage (some 7), .st 0]).1.status = 7 ∧
    (execCommands 20 { pipefail := true } [stage none, .st 0]).1.status = 3 ∧
    (execCommands 20 { pipefail := true }
      [.group [it (.fundef (.f 0) (.group [it (.ret (some 9))])), it (.call (.f 0) 0), it (.st 0)], .st 0]).1.status = 0 := by
  decide

/-- context-loop irrelevance on the executor: a list run with one more `Loop` frame on the stack (in a context where
    no signal-trap action can run: inside a subshell or a trap action) either ends with a `break`/`continue` that
    reaches that loop or beyond, or is the very same run — same divert, same state but for the extra frame -/
theorem loop_frame_irrelevant (f : Nat) (s : St) (l : List Item) (hq : (ctxOf s.stack).quiet = true) :
    Reach (loops s.stack) (execList f (s.push .loop) l).2 ∨
      execList f (s.push .loop) l = ({ (execList f s l).1 with stack := .loop :: s.stack }, (execList f s l).2) := by
  rw [(sim f).list (s.push .loop) s.stack l, (sim f).list s s.stack l, push_stack, ctxOf_loop]
  show Reach _ (specList f (ctxOf s.stack).inLoop s l).2 ∨
    putStack (.loop :: s.stack) (specList f (ctxOf s.stack).inLoop s l) = putStack (.loop :: s.stack) (specList f (ctxOf s.stack) s l)
  rcases (irr f).list (ctxOf s.stack) 1 s l hq with h | h
  · exact .inl h
  · right; rw [show (ctxOf s.stack).inLoop = (ctxOf s.stack).more 1 from rfl, h]

/-- `for x in w; do body; done` ≡ `body` (one word): when the body, run inside the loop, ends without a
    `break`/`continue` (normally, or by return/exit/an error), the loop command is the body run without the loop —
    same state, trace, `$?` and divert -/
theorem for_one_is_body (g : Nat) (s : St) (body : List Item) (hne : body ≠ [])
    (hq : (ctxOf s.stack).quiet = true)
    (hnb : ∀ k, (execList (g+1) (s.push .loop) body).2 ≠ .break_ (.break_ k) ∧
      (execList (g+1) (s.push .loop) body).2 ≠ .break_ (.continue_ k)) :
    execCmd (g+3) s (.forLoop 1 body) = execList (g+1) s body := by
  rw [execCmd_forLoop, if_neg (fun h => Nat.succ_ne_zero 0 h.1), execFor_succ]
  have h := loop_frame_irrelevant (g+1) s body hq
  have hbs := (bal (g+1)).list s body
  generalize execList (g+1) (s.push .loop) body = x at h hnb ⊢
  obtain ⟨s1, r⟩ := x
  have hl : popped (loopCtl (s1, r) (fun _ => .continue_) id (execFor (g+1) · 0 body)) = (s1.pop, r) ∧
      ¬ Reach (loops s.stack) r := by
    cases r with
    | break_ dv => cases dv with
      | break_ k => exact absurd rfl (hnb k).1
      | continue_ k => exact absurd rfl (hnb k).2
      | _ => exact ⟨rfl, id⟩
    | _ => exact ⟨rfl, id⟩
  rw [hl.1]
  rcases h with h | h
  · exact absurd h hl.2
  · cases h
    generalize execList (g+1) s body = y at hbs ⊢
    obtain ⟨s2, r2⟩ := y
    cases s2; cases hbs; rfl

/-- not vacuous (`for_one_is_body`): inside a subshell, `for x in w; do probe 1; st 4; done` is `probe 1; st 4` -/
example :
    let it (c : Cmd) : Item := .mk (.mk false [c]) []
    let s : St := { stack := [.subshell] }
    (ctxOf s.stack).quiet = true ∧
    (execList 6 (s.push .loop) [it (.probe 1), it (.st 4)]).2 = .continue_ ∧
    execCmd 8 s (.forLoop 1 [it (.probe 1), it (.st 4)]) = execList 6 s [it (.probe 1), it (.st 4)] := by
  refine ⟨by decide, by decide, ?_⟩
  have h : (execList 6 (({ stack := [.subshell] } : St).push .loop)
      [.mk (.mk false [.probe 1]) [], .mk (.mk false [.st 4]) []]).2 = .continue_ := by decide
  exact for_one_is_body 5 _ _ (by simp) (by decide) (by intro k; rw [h]; simp)

/-- the textbook unfolding `while c; do b; done` ≡ `if c; then b; while c; do b; done; fi` does NOT hold for `$?`
    in the shell (POSIX: a `while` that runs its body no further yields the status of the last body executed, but a
    *fresh* `while` that never runs its body yields 0): `while tick 0 1; do st 5; done` ends with 5, its unfolding with
    0 — same trace, different status.  (The law that does hold is the loop's own recursion with its status register:
    `while_status_is_last_body`.) -/
example :
    let it (c : Cmd) : Item := .mk (.mk false [c]) []
    let w : Cmd := .whileLoop false [it (.tick 0 1)] [it (.st 5)]
    (execCmd 30 {} w).1.status = 5 ∧
    (execCmd 30 {} (.ifc [it (.tick 0 1)] [it (.st 5), it w] [] none)).1.status = 0 := by
  decide

/-- yash-rs has no function frame (`execute_function_body` pushes nothing on `env.stack`): `break`/`continue` inside a
    function body see the CALLER's loops — `f0() { break; }; while …; do f0; probe 1; done` leaves the loop.  In the
    model: a call whose body is `break n` inside `L > 0` visible loops yields `Break (min n L - 1)` to the caller -/
theorem function_break_reaches_caller (fuel : Nat) (s : St) (name : Name) (nargs n : Nat)
    (hc : classify s name = .function (.brk n)) (hl : 0 < min n (loops s.stack)) :
    (execCmd (fuel+2) s (.call name nargs)).2 = .break_ (.break_ (min n (loops s.stack) - 1)) := by
  have h0 : ¬ min n (loops s.stack) = 0 := by omega
  simp [execCmd, hc, breakBuiltin, loopCount_eq_min, loops_builtin, h0, finishSimple]

example :
    let it (c : Cmd) : Item := .mk (.mk false [c]) []
    (runShell 60 {} [.cmds [it (.fundef (.f 0) (.brk 1)),
      it (.whileLoop false [it (.tick 0 3)] [it (.call (.f 0) 0), it (.probe 1)]), it (.probe 2)]]).1.trace = [(2, 0)] := by
  decide

end YashModel.Exec
