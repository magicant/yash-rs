/-
  C02: `break`/`continue` diverts never escape the loops that enclose them.  Proved on the Spec, for every context
  (`EscS`: no stack to follow), and read off for the model through `Sim`.
-/
import YashModel.Exec.Refine
namespace YashModel.Exec

/-- the divert carried by a result stays within `k` enclosing loops -/
def Within (k : Nat) : Res → Prop
  | .break_ (.break_ n) => n < k
  | .break_ (.continue_ n) => n < k
  | _ => True

theorem within_mono {k k' : Nat} {r : Res} (h : Within k r) (hk : k ≤ k') : Within k' r := by
  cases r with
  | break_ d => cases d with
    | break_ n => exact Nat.lt_of_lt_of_le h hk
    | continue_ n => exact Nat.lt_of_lt_of_le h hk
    | _ => trivial
  | _ => trivial

theorem within_loopStep_out {k : Nat} {r r' : Res} (h : Within (k + 1) r) (hl : loopStep r = .out r') :
    Within k r' := by
  cases r with
  | continue_ => cases hl
  | outOfFuel => cases hl; trivial
  | break_ d =>
    cases d with
    | break_ n => cases n with
      | zero => cases hl
      | succ n => cases hl; exact Nat.lt_of_succ_lt_succ h
    | continue_ n => cases n with
      | zero => cases hl
      | succ n => cases hl; exact Nat.lt_of_succ_lt_succ h
    | _ => cases hl; trivial

theorem within_pollRes {k : Nat} {r t : Res} (hr : Within k r) (ht : Within k t) : Within k (pollRes r t) := by
  cases t with
  | outOfFuel => cases r <;> trivial
  | continue_ => cases r <;> exact hr
  | break_ d =>
    cases r with
    | continue_ => exact ht
    | outOfFuel => trivial
    | break_ m => rcases divert_max_cases m d with h | h <;> simp only [pollRes, h] <;> assumption

theorem within_errexitS (ctx : Ctx) (s : St) (k : Nat) : Within k (errexitS ctx s) := by
  unfold errexitS; split <;> trivial

theorem within_expansionErrorS (ctx : Ctx) (s : St) (k : Nat) : Within k (expansionErrorS ctx s) := by
  unfold expansionErrorS; split <;> trivial

theorem within_afterSimple (ctx : Ctx) (s : St) (r : Res) (k : Nat) (h : Within k r) :
    Within k (afterSimple ctx s r).2 := by
  cases r with
  | continue_ => exact within_errexitS ctx s k
  | _ => exact h

theorem within_breakS (ctx : Ctx) (n : Nat) (b : Bool) : Within ctx.loops (breakS ctx n b).2 := by
  unfold breakS
  dsimp only
  split
  · trivial
  · cases b <;> simp only [Within, Bool.false_eq_true, if_false, if_true] <;> omega

theorem within_pollCtl {k : Nat} {due : Option (List Item)} {act : List Item → St × Res} {s1 : St} {r : Res}
    (hr : Within k r) (ha : ∀ body, Within k (act body).2) : Within k (pollCtl due act s1 r).2 := by
  cases r with
  | outOfFuel => trivial
  | _ => cases due with
    | none => exact hr
    | some body => simp only [pollCtl]; rw [finishPoll_eq]; exact within_pollRes hr (ha body)

theorem within_pollWithS (run : Ctx → St → List Item → St × Res) (hrun : ∀ ctx s l, Within ctx.loops (run ctx s l).2)
    (ctx : Ctx) (s1 : St) (r : Res) (hr : Within ctx.loops r) : Within ctx.loops (pollWithS run ctx s1 r).2 := by
  rw [pollWithS_eq]
  -- a trap action sees no enclosing loop
  exact within_pollCtl hr fun body => within_mono (hrun ctx.trap _ body) (Nat.zero_le _)

theorem within_andThen {k : Nat} {x : St × Res} {kf : St → St × Res} (hx : Within k x.2)
    (hk : ∀ s1, Within k (kf s1).2) : Within k (andThen x kf).2 := by
  obtain ⟨s1, r⟩ := x
  cases r with
  | continue_ => exact hk s1
  | _ => exact hx

/-- stated for a run with a stack put back: `runScript_within` holds on every stack, while the Spec has scripts
    only on the empty one, so it follows the model's script and goes to the Spec item by item -/
theorem within_andThenApply {k : Nat} {st : List Frame} {y : St × Res} {kf : St → St × Res} (hy : Within k y.2)
    (hk : ∀ s1 : St, Within k (kf { s1 with stack := st }).2) : Within k (andThenApply (putStack st y) kf).2 := by
  obtain ⟨s1, r⟩ := y
  cases r with
  | continue_ => exact hk s1
  | _ => exact hy

theorem within_loopCtl {α : Type} {k : Nat} {Q : α → Prop} {x : St × Res} {stop : Nat → α} {out : Res → α}
    {next : St → St × α} (hx : Within (k + 1) x.2) (hs : ∀ n, Q (stop n)) (ho : ∀ r, Within k r → Q (out r))
    (hn : ∀ s1, Q (next s1).2) : Q (loopCtl x stop out next).2 := by
  simp only [loopCtl]
  cases hl : loopStep x.2 with
  | next => exact hn _
  | stop => exact hs _
  | out r' => exact ho _ (within_loopStep_out hx hl)

theorem within_whileRound {k : Nat} (u : Bool) (e : Nat) {x : St × Res} {body : St → St × Res}
    {loop : St → Nat → St × (Res × Nat)} (hx : Within (k + 1) x.2) (hb : ∀ s1, Within (k + 1) (body s1).2)
    (hl : ∀ s1 n, Within k (loop s1 n).2.1) : Within k (whileRound u e x body loop).2.1 := by
  refine within_loopCtl (Q := fun p : Res × Nat => Within k p.1) hx (fun _ => trivial) (fun _ h => h) fun s1 =>
    afterContinue_cases (Q := fun p : St × (Res × Nat) => Within k p.2.1) _ (hl s1 e) ?_
  split
  · exact within_loopCtl (Q := fun p : Res × Nat => Within k p.1) (hb s1) (fun _ => trivial) (fun _ h => h) fun s2 =>
      afterContinue_cases (Q := fun p : St × (Res × Nat) => Within k p.2.1) _ (hl s2 e) (hl s2 _)
  · trivial

theorem within_whilePost {k : Nat} {x : St × (Res × Nat)} (h : Within k x.2.1) : Within k (whilePost x).2 := by
  obtain ⟨s1, r, e⟩ := x
  cases r with
  | continue_ => trivial
  | _ => exact h

theorem within_caseNext {n : Nat} {x : St × Res} (u u1 : Bool) (k : CaseCont) {next : St → Bool → St × Res × Bool}
    (hx : Within n x.2) (hn : ∀ s1 fl, Within n (next s1 fl).2.1) : Within n (caseNext x u u1 k next).2.1 := by
  obtain ⟨s1, r⟩ := x
  cases r with
  | continue_ => cases k with
    | break_ => trivial
    | _ => exact hn s1 _
  | _ => exact hx

theorem within_casePost {k : Nat} {x : St × Res × Bool} (h : Within k x.2.1) : Within k (casePost x).2 := by
  obtain ⟨s1, r, u⟩ := x
  cases r with
  | continue_ => trivial
  | _ => exact h

theorem within_joinSub {n : Nat} (s : St) (x : St × Res) {k : St → St × Res} (hk : ∀ c2, Within n (k c2).2) :
    Within n (joinSub s x k).2 := by
  obtain ⟨c1, r⟩ := x
  cases r with
  | outOfFuel => trivial
  | _ => exact hk _

theorem within_callTarget {k : Nat} (ctx : Ctx) {run : St → Cmd → St × Res} (s : St) (nargs : Nat) (t : Target)
    (hrun : ∀ a c, Within k (run a c).2) : Within k (callTarget (afterSimple ctx) run s nargs t).2 := by
  cases t with
  | function body =>
    simp only [callTarget, callTail]
    have h := hrun { s with params := nargs } body
    split
    · exact within_afterSimple _ _ _ _ trivial
    · exact within_afterSimple _ _ _ _ h
  | _ => simp only [callTarget]; exact within_afterSimple _ _ _ _ trivial

structure EscS (fuel : Nat) : Prop where
  cmd : ∀ (ctx : Ctx) s c, Within ctx.loops (specCmd fuel ctx s c).2
  elifs : ∀ (ctx : Ctx) s e els, Within ctx.loops (specElifs fuel ctx s e els).2
  while_ : ∀ (ctx : Ctx) s u c b e, Within ctx.loops (specWhile fuel ctx s u c b e).2.1
  for_ : ∀ (ctx : Ctx) s n b, Within ctx.loops (specFor fuel ctx s n b).2
  case_ : ∀ (ctx : Ctx) s items f u, Within ctx.loops (specCase fuel ctx s items f u).2.1
  list : ∀ (ctx : Ctx) s l, Within ctx.loops (specList fuel ctx s l).2
  item : ∀ (ctx : Ctx) s i, Within ctx.loops (specItem fuel ctx s i).2
  aor : ∀ (ctx : Ctx) s r, Within ctx.loops (specAndOrRest fuel ctx s r).2
  pipe : ∀ (ctx : Ctx) s p, Within ctx.loops (specPipeline fuel ctx s p).2
  cmds : ∀ (ctx : Ctx) s cs, Within ctx.loops (specCommands fuel ctx s cs).2
  members : ∀ (ctx : Ctx) s cs f, Within 0 (specPipeMembers fuel ctx s cs f).2

theorem escS_zero : EscS 0 where
  cmd _ _ _ := trivial
  elifs _ _ _ _ := trivial
  while_ _ _ _ _ _ _ := trivial
  for_ _ _ _ _ := trivial
  case_ _ _ _ _ _ := trivial
  list _ _ _ := trivial
  item _ _ _ := trivial
  aor _ _ _ := trivial
  pipe _ _ _ := trivial
  cmds _ _ _ := trivial
  members _ _ _ _ := trivial

theorem escS_list (f : Nat) (ih : EscS f) (ctx : Ctx) (s : St) (l : List Item) :
    Within ctx.loops (specList (f+1) ctx s l).2 := by
  cases l with
  | nil => trivial
  | cons it rest => rw [specList_cons]; exact within_andThen (ih.item ctx s it) fun s1 => ih.list ctx s1 rest

theorem escS_item (f : Nat) (ih : EscS f) (ctx : Ctx) (s : St) (i : Item) : Within ctx.loops (specItem (f+1) ctx s i).2 := by
  match i with
  | .mk p [] => exact ih.pipe ctx s p
  | .mk p (a :: t) =>
    rw [specItem_cons]; exact within_andThen (ih.pipe ctx.cond s p) fun s1 => ih.aor ctx s1 (a :: t)

theorem escS_aor (f : Nat) (ih : EscS f) (ctx : Ctx) (s : St) (r : List (Bool × Pipeline)) :
    Within ctx.loops (specAndOrRest (f+1) ctx s r).2 := by
  match r with
  | [] => trivial
  | [(a, p)] =>
    rw [specAndOrRest_last]
    split
    · exact ih.pipe ctx s p
    · trivial
  | (a, p) :: q :: t =>
    rw [specAndOrRest_cons]
    split
    · exact within_andThen (ih.pipe ctx.cond s p) fun s1 => ih.aor ctx s1 (q :: t)
    · exact ih.aor ctx s (q :: t)

theorem escS_pipe (f : Nat) (ih : EscS f) (ctx : Ctx) (s : St) (p : Pipeline) :
    Within ctx.loops (specPipeline (f+1) ctx s p).2 := by
  match p with
  | .mk false cs => exact ih.cmds ctx s cs
  | .mk true cs => rw [specPipeline_negated]; exact within_andThen (ih.cmds ctx.cond s cs) fun _ => trivial

theorem escS_cmds (f : Nat) (ih : EscS f) (ctx : Ctx) (s : St) (cs : List Cmd) :
    Within ctx.loops (specCommands (f+1) ctx s cs).2 := by
  match cs with
  | [] => trivial
  | [c] => rw [specCommands_single]; exact within_pollWithS _ ih.list ctx _ _ (ih.cmd ctx s c)
  | c :: d :: t =>
    rw [specCommands_many]
    exact within_andThen (within_mono (ih.members ctx s _ 0) (Nat.zero_le _)) fun s1 => within_errexitS ctx s1 _

theorem escS_members (f : Nat) (ih : EscS f) (ctx : Ctx) (s : St) (cs : List Cmd) (k : Nat) :
    Within 0 (specPipeMembers (f+1) ctx s cs k).2 := by
  cases cs with
  | nil => trivial
  | cons c rest => rw [specPipeMembers_cons]; exact within_joinSub s _ fun _ => ih.members ctx _ rest _

theorem escS_elifs (f : Nat) (ih : EscS f) (ctx : Ctx) (s : St) (e : List (List Item × List Item))
    (els : Option (List Item)) : Within ctx.loops (specElifs (f+1) ctx s e els).2 := by
  match e, els with
  | [], none => trivial
  | [], some l => exact ih.list ctx s l
  | (cond, body) :: rest, els =>
    rw [specElifs_cons]
    refine within_andThen (ih.list ctx.cond s cond) fun s1 => ?_
    split
    · exact ih.list ctx s1 body
    · exact ih.elifs ctx s1 rest els

theorem escS_for (f : Nat) (ih : EscS f) (ctx : Ctx) (s : St) (n : Nat) (b : List Item) :
    Within ctx.loops (specFor (f+1) ctx s n b).2 := by
  cases n with
  | zero => trivial
  | succ n =>
    rw [specFor_succ]
    exact within_loopCtl (Q := Within ctx.loops) (ih.list ctx.inLoop s b) (fun _ => trivial) (fun _ h => h)
      fun s1 => ih.for_ ctx s1 n b

theorem escS_case (f : Nat) (ih : EscS f) (ctx : Ctx) (s : St) (items : List (Bool × Bool × List Item × CaseCont))
    (fl u : Bool) : Within ctx.loops (specCase (f+1) ctx s items fl u).2.1 := by
  match items with
  | [] => trivial
  | (m, e, body, k) :: rest =>
    rw [specCase_cons]
    split
    · exact within_expansionErrorS ctx s _
    · split
      · exact ih.case_ ctx s rest false u
      · exact within_caseNext _ _ _ (ih.list ctx s body) fun s1 fl => ih.case_ ctx s1 rest fl _

theorem escS_while (f : Nat) (ih : EscS f) (ctx : Ctx) (s : St) (u : Bool) (c b : List Item) (e : Nat) :
    Within ctx.loops (specWhile (f+1) ctx s u c b e).2.1 := by
  rw [specWhile_succ]
  exact within_whileRound u e (ih.list ctx.inLoop.cond s c) (fun s1 => ih.list ctx.inLoop s1 b) (ih.while_ ctx · u c b ·)

theorem escS_forLoop (f : Nat) (ih : EscS f) (ctx : Ctx) (s : St) (values : Nat) (body : List Item) :
    Within ctx.loops (specCmd (f+1) ctx s (.forLoop values body)).2 := by
  rw [specCmd_forLoop]
  split
  · trivial
  · exact ih.for_ ctx s values body

theorem escS_cmd (f : Nat) (ih : EscS f) (ctx : Ctx) (s : St) (c : Cmd) : Within ctx.loops (specCmd (f+1) ctx s c).2 := by
  cases c with
  | group body => rw [specCmd_group]; exact ih.list ctx s body
  | subshell body =>
    rw [specCmd_subshell]
    exact within_joinSub s _ fun c2 => show Within _ (errexitS ctx _) from within_errexitS ctx _ _
  -- the status the shell goes on with is 0: errexit cannot fire
  | asyncWait body => rw [specCmd_asyncWait]; exact within_joinSub s _ fun _ => trivial
  | ifc cond body elifs els => rw [specCmd_ifc]; exact escS_elifs f ih ctx s _ els
  | whileLoop u cond body => rw [specCmd_whileLoop]; exact within_whilePost (ih.while_ ctx s u cond body 0)
  | forLoop values body => exact escS_forLoop f ih ctx s values body
  | forPos body => exact escS_forLoop f ih ctx s _ body
  | caseC items => rw [specCmd_caseC]; exact within_casePost (ih.case_ ctx s items false false)
  | call name nargs => rw [specCmd_call]; exact within_callTarget ctx s nargs _ (ih.cmd ctx)
  | brk n => exact within_afterSimple _ _ _ _ (within_breakS ctx n true)
  | cont n => exact within_afterSimple _ _ _ _ (within_breakS ctx n false)
  | tick _ _ | fundef _ _ => rw [specCmd]; split <;> exact within_afterSimple _ _ _ _ trivial
  | freeze name => rw [specCmd]; cases lookupFn s.funcs name <;> exact within_afterSimple _ _ _ _ trivial
  | forRo values => rw [specCmd]; split <;> first | trivial | exact within_expansionErrorS ctx s _
  | expErr | assignErr | raiseErr => exact within_expansionErrorS ctx _ _
  | redirErr k => cases k <;> first | exact within_errexitS ctx _ _ | trivial
  | specialErr w st => exact within_afterSimple _ _ _ _ (by split <;> trivial)
  -- every other command ends in `afterSimple` with no divert of its own
  | _ => exact within_afterSimple _ _ _ _ trivial

theorem escS : ∀ fuel, EscS fuel
  | 0 => escS_zero
  | f+1 =>
    have ih := escS f
    { cmd := escS_cmd f ih, elifs := escS_elifs f ih, while_ := escS_while f ih, for_ := escS_for f ih,
      case_ := escS_case f ih, list := escS_list f ih, item := escS_item f ih, aor := escS_aor f ih,
      pipe := escS_pipe f ih, cmds := escS_cmds f ih, members := escS_members f ih }

structure Esc (fuel : Nat) : Prop where
  cmd : ∀ s c, Within (loops s.stack) (execCmd fuel s c).2
  elifs : ∀ s e els, Within (loops s.stack) (execElifs fuel s e els).2
  while_ : ∀ s u c b e st, s.stack = .loop :: st → Within (loops st) (execWhile fuel s u c b e).2.1
  for_ : ∀ s n b st, s.stack = .loop :: st → Within (loops st) (execFor fuel s n b).2
  case_ : ∀ s items f u, Within (loops s.stack) (execCase fuel s items f u).2.1
  list : ∀ s l, Within (loops s.stack) (execList fuel s l).2
  item : ∀ s i, Within (loops s.stack) (execItem fuel s i).2
  aor : ∀ s r st, s.stack = .condition :: st → Within (loops st) (execAndOrRest fuel s r).2
  pipe : ∀ s p, Within (loops s.stack) (execPipeline fuel s p).2
  cmds : ∀ s cs, Within (loops s.stack) (execCommands fuel s cs).2
  members : ∀ s cs f, Within 0 (execPipeMembers fuel s cs f).2

theorem esc (fuel : Nat) : Esc fuel where
  cmd s c := by rw [(sim fuel).cmd s s.stack c]; exact (escS fuel).cmd (ctxOf s.stack) _ c
  elifs s e els := by rw [(sim fuel).elifs s s.stack e els]; exact (escS fuel).elifs (ctxOf s.stack) _ e els
  while_ s u c b e st h := by rw [(sim fuel).while_ s s.stack u c b e st h]; exact (escS fuel).while_ (ctxOf st) _ u c b e
  for_ s n b st h := by rw [(sim fuel).for_ s s.stack n b st h]; exact (escS fuel).for_ (ctxOf st) _ n b
  case_ s items f u := by rw [(sim fuel).case_ s s.stack items f u]; exact (escS fuel).case_ (ctxOf s.stack) _ items f u
  list s l := by rw [(sim fuel).list s s.stack l]; exact (escS fuel).list (ctxOf s.stack) _ l
  item s i := by rw [(sim fuel).item s s.stack i]; exact (escS fuel).item (ctxOf s.stack) _ i
  aor s r st h := by rw [(sim fuel).aor s s.stack r st h]; exact (escS fuel).aor (ctxOf st) _ r
  pipe s p := by rw [(sim fuel).pipe s s.stack p]; exact (escS fuel).pipe (ctxOf s.stack) _ p
  cmds s cs := by rw [(sim fuel).cmds s s.stack cs]; exact (escS fuel).cmds (ctxOf s.stack) _ cs
  members s cs f := by rw [(sim fuel).members s s.stack cs f]; exact (escS fuel).members (ctxOf s.stack) _ cs f

theorem runScript_within (fuel : Nat) : ∀ (s : St) (ls : List Line), Within (loops s.stack) (runScript fuel s ls).2 := by
  induction fuel with
  | zero => intro s ls; trivial
  | succ fuel ih =>
    intro s ls
    match ls with
    | [] => trivial
    | .syntaxError :: _ => trivial
    | .cmds l :: rest =>
      rw [runScript_cmds, show pollWith (execList fuel) s .continue_ = _ from
        pollWith_putStack _ (specList fuel) (sim fuel).list s s.stack .continue_]
      refine within_andThenApply (within_pollWithS _ (escS fuel).list _ _ _ trivial) fun s0 => ?_
      rw [(sim fuel).list { s0 with stack := s.stack } s0.stack l]
      exact within_andThenApply ((escS fuel).list _ _ l) fun s2 => ih { s2 with stack := s.stack } rest

end YashModel.Exec
