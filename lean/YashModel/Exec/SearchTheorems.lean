/-
  C02 — the command search: the transcription against POSIX XCU 2.9.1.4, its composition with the executor model's name
  classes, `command -v`/`type`, and the tables re-extracted from the code.
-/
import YashModel.Exec.SearchCompose
import YashModel.Exec.Identify
namespace YashModel.Exec

/-- special built-in, then function, then other built-in: a function named like the special
    built-in `:` is never called; one named like a regular built-in is -/
theorem search_order (s : St) (body : Cmd) :
    classify { s with funcs := defineFn s.funcs .colon body } .colon = .specialColon ∧
    classify { s with funcs := defineFn s.funcs .true_ body } .true_ = .function body := by
  constructor
  · rfl
  · simp [classify, defineFn, lookupFn]

/-- …then the other built-ins, then `$PATH`: a substitutive built-in counts only if `$PATH` has its
    name (otherwise the command is not found, 127, although the built-in exists), an external utility
    found in `$PATH` is started (126: the simulated `execve` fails), a function of either name comes
    first, and a name with a slash never reaches the functions -/
theorem search_order_path (s : St) (body : Cmd) :
    (lookupFn s.funcs .sbIn = none → classify s .sbIn = .status 0) ∧
    (lookupFn s.funcs .sbOut = none → classify s .sbOut = .status 127) ∧
    (lookupFn s.funcs .xtIn = none → classify s .xtIn = .status 126) ∧
    classify { s with funcs := defineFn s.funcs .sbIn body } .sbIn = .function body ∧
    classify { s with funcs := defineFn s.funcs .sbOut body } .sbOut = .function body ∧
    classify { s with funcs := defineFn s.funcs .xtIn body } .xtIn = .function body ∧
    classify { s with funcs := defineFn s.funcs .xtPath body } .xtPath = .status 126 := by
  refine ⟨?_, ?_, ?_, ?_, ?_, ?_, rfl⟩
  · intro h; simp [classify, h]
  · intro h; simp [classify, h]
  · intro h; simp [classify, h]
  · simp [classify, defineFn, lookupFn]
  · simp [classify, defineFn, lookupFn]
  · simp [classify, defineFn, lookupFn]

/-! ### ☆ the command search: yash-env/src/semantics/command/search.rs inside the model

`Search.runSimple` transcribes what `SimpleCommand::execute` does with a command name (`classify`, then
`resolve_builtin` / `search_path` at the place of use); `Search.SpecRuns` is POSIX XCU 2.9.1.4 as a
relation with one rule per item of the text. -/

open Search in
/-- every simple command is dispatched as XCU 2.9.1.4 prescribes — for every table of built-ins, set of
    functions, `$PATH` value (unset, scalar, array), file system and option setting -/
theorem search_meets_posix (env : Search.Env) (name : Search.Str) :
    SpecRuns env name (runSimple env name) := by
  rw [← specRun_eq_runSimple]; exact specRuns_specRun env name

open Search in
/-- …and the rules leave no choice: whatever satisfies them is what the code does (so the eight rules
    are exhaustive and mutually exclusive) -/
theorem search_posix_unique (env : Search.Env) (name : Search.Str) (o : Outcome)
    (h : SpecRuns env name o) : o = runSimple env name := by
  rw [← specRun_eq_runSimple]; exact specRuns_unique env name o h

open Search in
/-- the order of the search in plain words: a name with a slash never looks at built-ins or functions;
    a special built-in hides a function of its name; a function hides every other built-in and `$PATH` -/
theorem search_order_general (env : Search.Env) (name : Search.Str) :
    ('/' ∈ name → runSimple env name = .exec name) ∧
    ('/' ∉ name → visible env name = some .special → rejected env name .special = false →
      runSimple env name = .builtin .special []) ∧
    ('/' ∉ name → visible env name ≠ some .special → name ∈ env.functions →
      runSimple env name = .function) := by
  refine ⟨fun h => ?_, fun h hv hr => ?_, fun h hv hf => ?_⟩
  · exact (search_posix_unique env name _ (.slash h)).symm
  · exact (search_posix_unique env name _ (.special h hv hr)).symm
  · exact (search_posix_unique env name _ (.function h hv hf)).symm

open Search in
/-- `search_path` returns `dir/name` for the first entry `dir` of `$PATH` under which `name` is an
    executable file, and nothing iff there is no such entry -/
theorem search_path_first_hit (env : Search.Env) (name : Search.Str) :
    (∀ p, searchPath env name = some p ↔ FirstHit env name p) ∧
    (searchPath env name = none ↔ NoHit env name) := by
  rw [searchPath_eq_firstHitIn]
  exact ⟨fun p => (firstHit_iff env name p).symm, (noHit_iff env name).symm⟩

open Search in
/-- a scalar `$PATH` is cut exactly at its colons: the entries joined by `:` give the value back, no
    entry contains a colon, and there is always at least one entry (the empty value is one empty entry,
    i.e. the working directory) -/
theorem path_split_colons (v : Search.Str) :
    [':'].intercalate (PathVal.scalar v).split = v ∧
    (∀ d ∈ (PathVal.scalar v).split, ':' ∉ d) ∧ (PathVal.scalar v).split ≠ [] :=
  ⟨splitOn_join ':' v, splitOn_no_sep ':' v, splitOn_ne_nil ':' v⟩

open Search in
/-- the one-call `search` and the dispatch of `SimpleCommand::execute` (which calls `classify`,
    `resolve_builtin` and `search_path` at three different places) agree: same target, same path, and a
    failed search is exactly a command that does not run, with the status of `Error::exit_status` -/
theorem search_agrees_with_dispatch (env : Search.Env) (name : Search.Str) :
    match search env name with
    | .ok (.builtin t _ p) => runSimple env name = .builtin t p
    | .ok .function => runSimple env name = .function
    | .ok (.external p) => runSimple env name = .exec p
    | .error e => runSimple env name = .status e.exitStatus := by
  unfold Search.search Search.runSimple
  cases hc : Search.classify env name with
  | function => simp
  | builtin t a p0 =>
    simp only
    cases hr : resolveBuiltin env name t a <;> simp [Error.exitStatus]
  | external p0 =>
    simp only
    by_cases hs : '/' ∈ name
    · simp [hs]
    · cases hp : searchPath env name <;> simp [hs, Error.exitStatus]

/-- composition: the name classes of the executor model (`classify`, used by `execCmd` for `.call`) are
    the transcribed search run in the environment the harness installs — what runs is the function
    body found by `lookupFn`, or nothing but the status the search dictates (the constants 126/127 of
    the model are `ExitStatus::NOEXEC`/`NOT_FOUND` as extracted from the code) -/
theorem classify_is_search (s : St) (n : Name) :
    (classify s n).effect =
      outcomeEffect s.funcs n (Search.runSimple (harnessEnv s.funcs) (nameStr n)) := by
  rw [← Search.specRun_eq_runSimple, harnessEnv, envWith_specRun]
  cases h : lookupFn s.funcs n with
  | none =>
    have hmem : nameStr n ∉ s.funcs.map (fun p => nameStr p.1) := fun x => by
      have := (mem_names_iff s.funcs n).1 x
      simp [h] at this
    cases n <;> simp only [classify, h, hmem, if_false] <;> simp [Target.effect, outcomeEffect, Generated.ExecTables.NOEXEC, Generated.ExecTables.NOT_FOUND]
  | some b =>
    have hmem : nameStr n ∈ s.funcs.map (fun p => nameStr p.1) := (mem_names_iff s.funcs n).2 (by simp [h])
    cases n <;> simp only [classify, h, hmem, if_true] <;> simp [Target.effect, outcomeEffect, h, Generated.ExecTables.NOEXEC, Generated.ExecTables.NOT_FOUND]

/-- not vacuous: in `PATH=/nonexistent::/bin` with `/bin/ls` and `./ls` executable, `ls` is found in the
    working directory (the empty entry) before `/bin`; a function `ls` hides both; a substitutive
    built-in `ls` runs with that path; without the files it is "not found" although the built-in exists -/
example :
    let ls := ['l', 's']
    let env : Search.Env := {
      path := .scalar "/nonexistent::/bin".toList, execs := ["/bin/ls".toList, "/ls".toList] }
    Search.runSimple env ls = .exec ls ∧
    Search.runSimple { env with functions := [ls] } ls = .function ∧
    Search.runSimple { env with builtins := [(ls, .substitutive)] } ls = .builtin .substitutive ls ∧
    Search.runSimple { env with builtins := [(ls, .substitutive)], execs := [] } ls = .status 127 ∧
    Search.runSimple { env with builtins := [(ls, .special)], functions := [ls] } ls = .builtin .special [] ∧
    Search.runSimple { env with builtins := [(ls, .extension)], posix := true } ls = .exec ls ∧
    Search.runSimple { env with builtins := [(ls, .elective)], portable := true } ls = .status 126 := by
  decide +kernel

open Search in
/-- the exit statuses of a failed search are those of `Unusable::exit_status` / `Error::exit_status`, the
    built-in types are the variants of `enum Type`, in the code as it stands -/
theorem search_tables :
    (∀ u : Unusable, (Generated.ExecTables.unusableStatus.lookup u.rustName).bind
        (Generated.ExecTables.exitStatusByName.lookup ·) = some u.exitStatus) ∧
    Generated.ExecTables.exitStatusByName.lookup Generated.ExecTables.errorNotFoundStatus =
      some Error.notFound.exitStatus ∧
    BType.all.map BType.rustName = Generated.ExecTables.builtinTypes ∧
    Generated.ExecTables.availabilityVariants = ["Available", "NotPortable"] := by
  refine ⟨fun u => ?_, by decide +kernel, by decide +kernel, by decide +kernel⟩
  cases u <;> decide +kernel

section IdentifyThms
open Search Identify

theorem searchPath_exec (env : Search.Env) (name p : Str) (h : searchPath env name = some p) :
    env.isExecutableFile p = true := by
  unfold searchPath at h
  exact List.find?_some h

theorem normalizeTarget_builtin (env : Search.Env) (t : BType) (a : Avail) (p : Str) (hs : t ≠ .substitutive) :
    normalizeTarget env (.builtin t a p) = some (.builtin t a p) := by
  cases t <;> first | rfl | exact absurd rfl hs

theorem search_substitutive_exec (env : Search.Env) (name p : Str) (a : Avail)
    (h : search env name = .ok (.builtin .substitutive a p)) : env.isExecutableFile p = true := by
  unfold search at h
  split at h
  · split at h <;> cases h
    rename_i hr
    exact searchPath_exec _ _ _ ((if_pos rfl).mp ((resolveBuiltin_ok ..).1 hr).2)
  · repeat' split at h
    all_goals cases h
  · cases h

/-- `command -v` / `command -V` / `type` answer what a simple command of that name would do — for every table of
    built-ins, function set, `$PATH`, file system, option setting and alias set, and every name that is neither a
    keyword nor an alias (those are reported as such, before any search):
    a function iff the shell would call the function; a built-in of type `t` iff it would run that built-in (for a
    substitutive one, with the absolute path of the file found in `$PATH`); an external utility at `p` iff it would
    `execve` an executable file whose absolute path is `p`; and "not found" — nothing printed, exit status 1 —
    iff the command would fail with a non-zero status without running anything, or would try to execute a file
    that is not executable -/
theorem identify_agrees_with_execution (e : IdEnv) (name : Str)
    (hk : isKeyword name = false) (ha : e.aliases.lookup name = none) :
    match identify e name with
    | (some (.target (.builtin t _ p)), st) =>
      st = 0 ∧ ∃ p', runSimple e.env name = .builtin t p' ∧ p = (if t = .substitutive then absPath p' else p')
    | (some (.target .function), st) => st = 0 ∧ runSimple e.env name = .function
    | (some (.target (.external p)), st) =>
      st = 0 ∧ ∃ p', runSimple e.env name = .exec p' ∧ e.env.isExecutableFile p' = true ∧ p = absPath p'
    | (none, st) =>
      st = 1 ∧ ((∃ n, runSimple e.env name = .status n ∧ n ≠ 0) ∨
        (∃ p', runSimple e.env name = .exec p' ∧ e.env.isExecutableFile p' = false))
    | (some _, _) => False := by
  have hd := search_agrees_with_dispatch e.env name
  simp only [identify, categorize, hk, ha, Bool.false_eq_true, if_false]
  cases hs : search e.env name with
  | error er =>
    rw [hs] at hd
    refine ⟨rfl, .inl ⟨_, hd, ?_⟩⟩
    rcases er with _ | _ | _ <;> decide
  | ok tg =>
    rw [hs] at hd
    cases tg with
    | function => exact ⟨rfl, hd⟩
    | external p =>
      by_cases hx : e.env.isExecutableFile p = true
      · simp only [normalizeTarget, hx, if_true]; exact ⟨rfl, p, hd, hx, rfl⟩
      · simp only [normalizeTarget, hx, Bool.false_eq_true, if_false]; exact ⟨rfl, .inr ⟨p, hd, by simpa using hx⟩⟩
    | builtin t a p =>
      by_cases hsub : t = .substitutive
      · subst hsub
        simp only [normalizeTarget, search_substitutive_exec _ _ _ _ hs, if_true]
        exact ⟨rfl, p, hd, rfl⟩
      · simp only [normalizeTarget_builtin _ _ _ _ hsub]; exact ⟨rfl, p, hd, (if_neg hsub).symm⟩

/-- the order of `categorize`: a keyword is reported as a keyword whatever else bears the name, then an alias, then
    the command search; the exit status is 0 exactly when something is printed, and 1 otherwise -/
theorem identify_precedence (e : IdEnv) (name : Str) :
    (isKeyword name = true → identify e name = (some .keyword, 0)) ∧
    (isKeyword name = false → ∀ r, e.aliases.lookup name = some r → identify e name = (some (.alias name r), 0)) ∧
    ((identify e name).2 = 0 ↔ (identify e name).1.isSome = true) ∧
    ((identify e name).2 = 0 ∨ (identify e name).2 = 1) := by
  refine ⟨?_, ?_, ?_, ?_⟩
  · intro h; simp [identify, categorize, h, Generated.ExecTables.SUCCESS]
  · intro h r hr; simp [identify, categorize, h, hr, Generated.ExecTables.SUCCESS]
  · unfold identify; cases categorize e name <;> simp [Generated.ExecTables.SUCCESS, Generated.ExecTables.FAILURE]
  · unfold identify; cases categorize e name <;> simp [Generated.ExecTables.SUCCESS, Generated.ExecTables.FAILURE]

/-- not vacuous: `if` defined as a function and as an alias is still a keyword; `na` with an alias, a function and a
    file `/rel/na` behind the relative `$PATH` entry `rel`: the alias, then (without it) the function, then the
    absolute path `/rel/na`; a name with a slash that is not executable is not found although the shell would try to execute it -/
example :
    let env : Search.Env :=
      { functions := ["if".toList, "na".toList], path := PathVal.scalar "rel".toList, execs := ["/rel/na".toList] }
    identify { env := env, aliases := [("if".toList, "x".toList)] } "if".toList = (some .keyword, 0) ∧
    identify { env := env, aliases := [("na".toList, "nb".toList)] } "na".toList =
      (some (.alias "na".toList "nb".toList), 0) ∧
    identify { env := env } "na".toList = (some (.target .function), 0) ∧
    identify { env := { env with functions := [] } } "na".toList = (some (.target (.external "/rel/na".toList)), 0) ∧
    identify { env := env } "x/y".toList = (none, 1) ∧
    Search.runSimple env "x/y".toList = .exec "x/y".toList := by
  decide +kernel

end IdentifyThms

end YashModel.Exec
