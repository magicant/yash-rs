/-
  Lemmas about the command search: `$PATH` splitting and scanning characterised declaratively, the
  executable Spec equals the transcription, the relational Spec is functional and `specRun` solves it.
-/
import YashModel.Exec.SearchSpec
namespace YashModel.Exec.Search
open YashModel.Generated

theorem splitOn_ne_nil (sep : Char) (s : Str) : splitOn sep s ≠ [] := by
  cases s with
  | nil => simp [splitOn]
  | cons c cs => simp only [splitOn]; split <;> simp

theorem splitOn_cons_headD (sep : Char) (s : Str) :
    (splitOn sep s).headD [] :: (splitOn sep s).tail = splitOn sep s := by
  have := splitOn_ne_nil sep s
  cases h : splitOn sep s with
  | nil => exact absurd h this
  | cons a b => rfl

theorem splitOn_join (sep : Char) (s : Str) : [sep].intercalate (splitOn sep s) = s := by
  induction s with
  | nil => simp [splitOn, List.intercalate]
  | cons c cs ih =>
    simp only [splitOn]
    by_cases h : c = sep
    · subst h
      simp only [if_true]
      have hne := splitOn_ne_nil c cs
      cases hs : splitOn c cs with
      | nil => exact absurd hs hne
      | cons a b =>
        rw [hs] at ih
        simp only [List.intercalate, List.intersperse, List.flatten] at ih ⊢
        cases b with
        | nil => simp_all [List.intersperse]
        | cons b1 b2 => simp_all [List.intersperse]
    · simp only [h, if_false]
      have hne := splitOn_ne_nil sep cs
      cases hs : splitOn sep cs with
      | nil => exact absurd hs hne
      | cons a b =>
        rw [hs] at ih
        simp only [List.headD, List.tail]
        cases b with
        | nil => simp_all [List.intercalate, List.intersperse]
        | cons b1 b2 => simp_all [List.intercalate, List.intersperse]

theorem splitOn_no_sep (sep : Char) (s : Str) : ∀ seg ∈ splitOn sep s, sep ∉ seg := by
  induction s with
  | nil => simp [splitOn]
  | cons c cs ih =>
    intro seg hseg
    simp only [splitOn] at hseg
    by_cases h : c = sep
    · simp only [h, if_true, List.mem_cons] at hseg
      rcases hseg with rfl | hseg
      · simp
      · exact ih seg hseg
    · simp only [h, if_false, List.mem_cons] at hseg
      have hc := splitOn_cons_headD sep cs
      rcases hseg with rfl | hseg
      · intro hm
        simp only [List.mem_cons] at hm
        rcases hm with rfl | hm
        · exact h rfl
        · exact ih _ (by rw [← hc]; simp) hm
      · exact ih seg (by rw [← hc]; simp [hseg])

/-- the scan over the directories is `List.find?` over the candidate paths -/
theorem firstHitIn_eq_find (env : Env) (name : Str) (ds : List Str) :
    firstHitIn env name ds = (ds.map (joinPath · name)).find? env.isExecutableFile := by
  induction ds with
  | nil => rfl
  | cons d ds ih => simp only [firstHitIn, List.map_cons, List.find?_cons, ih]; split <;> simp_all

theorem firstHitIn_some_iff (env : Env) (name : Str) (ds : List Str) (p : Str) :
    firstHitIn env name ds = some p ↔
      ∃ pre dir post, ds = pre ++ dir :: post ∧
        (∀ d ∈ pre, env.isExecutableFile (joinPath d name) = false) ∧
        env.isExecutableFile (joinPath dir name) = true ∧ p = joinPath dir name := by
  rw [firstHitIn_eq_find, List.find?_eq_some_iff_append]
  constructor
  · rintro ⟨hp, as, bs, h, has⟩
    obtain ⟨pre, rest, rfl, rfl, hrest⟩ := List.map_eq_append_iff.1 h
    obtain ⟨dir, post, rfl, rfl, rfl⟩ := List.map_eq_cons_iff.1 hrest
    exact ⟨pre, dir, post, rfl, fun d hd => by simpa using has _ (List.mem_map_of_mem hd), hp, rfl⟩
  · rintro ⟨pre, dir, post, rfl, hpre, hdir, rfl⟩
    refine ⟨hdir, pre.map (joinPath · name), post.map (joinPath · name), by simp, ?_⟩
    intro a ha
    obtain ⟨d, hd, rfl⟩ := List.mem_map.1 ha
    simp [hpre d hd]

theorem firstHitIn_none_iff (env : Env) (name : Str) (ds : List Str) :
    firstHitIn env name ds = none ↔ ∀ d ∈ ds, env.isExecutableFile (joinPath d name) = false := by
  rw [firstHitIn_eq_find, List.find?_eq_none]
  simp

/-- `search_path` (an iterator chain `map`/`find`) is that scan -/
theorem searchPath_eq_firstHitIn (env : Env) (name : Str) :
    searchPath env name = firstHitIn env name env.path.split := by
  rw [firstHitIn_eq_find]; rfl

theorem firstHit_iff (env : Env) (name p : Str) :
    FirstHit env name p ↔ firstHitIn env name env.path.split = some p := by
  rw [firstHitIn_some_iff]; rfl

theorem noHit_iff (env : Env) (name : Str) :
    NoHit env name ↔ firstHitIn env name env.path.split = none := by
  rw [firstHitIn_none_iff]; rfl

theorem resolveBuiltin_ok (env : Env) (name : Str) (t : BType) (a : Avail) (p : Str) :
    resolveBuiltin env name t a = .ok p ↔
      a = .available ∧ if t = .substitutive then searchPath env name = some p else p = [] := by
  unfold resolveBuiltin
  cases a with
  | notPortable => simp
  | available =>
    by_cases hs : t = .substitutive
    · simp only [hs, if_true, true_and]
      cases searchPath env name <;> simp
    · simp only [hs, if_false, true_and]
      exact ⟨fun h => (Except.ok.inj h).symm, fun h => h ▸ rfl⟩

theorem builtin_eq (env : Env) (name : Str) :
    env.builtin name =
      (visible env name).map fun t => (t, if rejected env name t then Avail.notPortable else .available) := by
  unfold Env.builtin visible rejected
  cases env.builtins.lookup name with
  | none => rfl
  | some t =>
    simp only
    by_cases h : t = .extension ∧ env.posix = true
    · simp [h]
    · simp only [h, if_false, Option.map_some]
      cases t <;> cases hp : env.portable <;> simp

theorem specRun_eq_runSimple (env : Env) (name : Str) : specRun env name = runSimple env name := by
  unfold specRun runSimple classify resolveBuiltin
  rw [searchPath_eq_firstHitIn, builtin_eq]
  by_cases hs : '/' ∈ name
  · simp [hs]
  · by_cases hf : name ∈ env.functions
    · cases hv : visible env name with
      | none => simp [hs, hf]
      | some t => cases hr : rejected env name t <;> cases t <;> simp_all [Unusable.exitStatus]
    · cases hv : visible env name with
      | none => cases hh : firstHitIn env name env.path.split <;> simp [hs, hf, hh]
      | some t =>
        -- only a substitutive built-in looks at `$PATH`; it is never rejected
        by_cases hsub : t = .substitutive
        · subst hsub
          cases hh : firstHitIn env name env.path.split <;> simp_all [Unusable.exitStatus, rejected]
        · cases hr : rejected env name t <;> cases t <;> simp_all [Unusable.exitStatus]

theorem specRuns_specRun (env : Env) (name : Str) : SpecRuns env name (specRun env name) := by
  unfold specRun
  by_cases hs : '/' ∈ name
  · simp only [List.contains_eq_mem, hs, decide_true, if_true]; exact .slash hs
  · simp only [List.contains_eq_mem, hs, decide_false, Bool.false_eq_true, if_false]
    by_cases hsp : visible env name = some .special
    · simp only [hsp, if_true]
      cases hr : rejected env name .special
      · simp only [Bool.false_eq_true, if_false]; exact .special hs hsp hr
      · simp only [if_true]; exact .notPortable .special hs hsp (Or.inl rfl) hr
    · simp only [hsp, if_false]
      by_cases hf : name ∈ env.functions
      · simp only [hf, decide_true, if_true]
        exact .function hs hsp hf
      · simp only [hf, decide_false, Bool.false_eq_true, if_false]
        -- a built-in that is neither special nor substitutive runs unless `portable` rejects it
        have regular : ∀ t, visible env name = some t → t ≠ .special → t ≠ .substitutive →
            SpecRuns env name (if rejected env name t then .status ExecTables.NOEXEC else .builtin t []) := by
          intro t hv h1 h2
          cases hr : rejected env name t
          · simp only [Bool.false_eq_true, if_false]; exact .regular t hs hf hv h1 h2 hr
          · simp only [if_true]; exact .notPortable t hs hv (Or.inr hf) hr
        cases hv : visible env name with
        | none =>
          simp only
          cases hh : firstHitIn env name env.path.split with
          | none => exact .notFound hs hf (Or.inl hv) ((noHit_iff env name).2 hh)
          | some p => exact .external p hs hf hv ((firstHit_iff env name p).2 hh)
        | some t =>
          cases t with
          | special => exact absurd hv hsp
          | substitutive =>
            simp only
            cases hh : firstHitIn env name env.path.split with
            | none => exact .notFound hs hf (Or.inr hv) ((noHit_iff env name).2 hh)
            | some p => exact .substitutive p hs hf hv ((firstHit_iff env name p).2 hh)
          | mandatory => exact regular _ hv (by simp) (by simp)
          | elective => exact regular _ hv (by simp) (by simp)
          | extension => exact regular _ hv (by simp) (by simp)

theorem specRuns_unique (env : Env) (name : Str) (o : Outcome) (h : SpecRuns env name o) :
    o = specRun env name := by
  unfold specRun
  cases h with
  | slash hs => simp [hs]
  | special hs hv hr => simp [hs, hv, hr]
  | function hs hv hf => simp [hs, hv, hf]
  | regular t hs hf hv ht1 ht2 hr => cases t <;> simp_all
  | notPortable t hs hv hor hr =>
    cases t with
    | special => simp [hs, hv, hr]
    | substitutive => simp [rejected] at hr
    | mandatory => simp [rejected] at hr
    | elective => simp_all
    | extension => simp_all
  | substitutive p hs hf hv hh =>
    have := (firstHit_iff env name p).1 hh
    simp [hs, hv, hf, this]
  | external p hs hf hv hh =>
    have := (firstHit_iff env name p).1 hh
    simp [hs, hv, hf, this]
  | notFound hs hf hv hh =>
    have := (noHit_iff env name).1 hh
    rcases hv with hv | hv <;> simp [hs, hv, hf, this]

end YashModel.Exec.Search
