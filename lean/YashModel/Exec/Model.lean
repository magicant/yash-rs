/-
  Impl model of command execution (C02, shared with C10): a transcription of
  yash-semantics/src/command{.rs,/and_or.rs,/pipeline.rs,/item.rs,/compound_command/*.rs,
  /function_definition.rs,/simple_command/{builtin,function,external}.rs}, the `break`/`continue`/
  `return`/`exit` built-ins, `Stack::loop_count` and `Env::{apply_errexit,apply_result}`.

  The interpreter mirrors the Rust structure (a `Result = Continue | Break Divert` threaded through
  frame pushes and pops), not POSIX prose.  It is indexed by fuel; exhaustion is a distinct outcome.
  Import-free and executable.
-/
namespace YashModel.Exec

/-- `yash_env::stack::Frame` (the variants that command execution pushes) -/
inductive Frame where
  | loop | subshell | condition | builtin (special : Bool) | dotScript | trap | initFile
  deriving DecidableEq, Repr

/-- `retains_context` of `Stack::loop_count` -/
def Frame.retainsContext : Frame → Bool
  | .loop | .condition | .builtin _ => true
  | .subshell | .dotScript | .trap | .initFile => false

/-- `Stack::loop_count(max)`; the stack's top is the *head* of the list. -/
def loopCountAux : List Frame → Nat → Nat
  | [], _ => 0
  | _, 0 => 0
  | f :: rest, max + 1 =>
    if f.retainsContext then
      (if f = .loop then 1 + loopCountAux rest max else loopCountAux rest (max + 1))
    else 0

def loopCount (stack : List Frame) (max : Nat) : Nat := loopCountAux stack max

/-- `yash_env::semantics::Divert` -/
inductive Divert where
  | continue_ (count : Nat)
  | break_ (count : Nat)
  | return_ (status : Option Nat)
  | interrupt (status : Option Nat)
  | exit (status : Option Nat)
  | abort (status : Option Nat)
  deriving DecidableEq, Repr

def Divert.exitStatus : Divert → Option Nat
  | .continue_ _ | .break_ _ => none
  | .return_ s | .interrupt s | .exit s | .abort s => s

/-- the derived `Ord` of `Divert`: variants in declaration order (severity), then the payload
    (`None < Some`, numbers by value) -/
def Divert.rank : Divert → Nat
  | .continue_ _ => 0 | .break_ _ => 1 | .return_ _ => 2 | .interrupt _ => 3 | .exit _ => 4 | .abort _ => 5

def optLe : Option Nat → Option Nat → Bool
  | none, _ => true
  | some _, none => false
  | some a, some b => a ≤ b

def Divert.le (a b : Divert) : Bool :=
  if a.rank < b.rank then true
  else if b.rank < a.rank then false
  else match a, b with
    | .continue_ x, .continue_ y => x ≤ y
    | .break_ x, .break_ y => x ≤ y
    | .return_ x, .return_ y => optLe x y
    | .interrupt x, .interrupt y => optLe x y
    | .exit x, .exit y => optLe x y
    | .abort x, .abort y => optLe x y
    | _, _ => true

/-- `Ord::max` -/
def Divert.max (a b : Divert) : Divert := if a.le b then b else a

/-- `ControlFlow<Divert, ()>` plus fuel exhaustion -/
inductive Res where
  | continue_
  | break_ (d : Divert)
  | outOfFuel
  deriving DecidableEq, Repr

/-- names a simple command may invoke through the command search -/
inductive Name where
  | f (k : Nat)       -- a plain function name `f<k>` (nothing else of that name exists)
  | true_             -- `true`: a mandatory (regular) built-in, a function of that name wins
  | colon             -- `:`: a special built-in, it wins over a function of that name
  | sbIn              -- `sbin`: a substitutive built-in whose external counterpart is in `$PATH`
  | sbOut             -- `sbout`: a substitutive built-in with nothing of that name in `$PATH`
  | xtIn              -- `xtin`: no built-in; an executable file of that name is in `$PATH`
  | xtPath            -- `/bin/xtin`: a name with a slash is always an external utility
  deriving DecidableEq, Repr

inductive CaseCont where | break_ | fallThrough | continue_
  deriving DecidableEq, Repr

/-- the kind of command a failing redirection is attached to (C10) -/
inductive RedirKind where
  | regular | special | function | external | compound | absent
  deriving DecidableEq, Repr

mutual
  inductive Cmd where
    | probe (marker : Nat)                 -- regular built-in: trace (marker, $?), `$?` preserved
    | st (n : Nat)                         -- regular built-in returning status n
    | brk (n : Nat)                        -- `break n` (n ≥ 1)
    | cont (n : Nat)                       -- `continue n`
    | ret (n : Option Nat)                 -- `return [n]`
    | exit (n : Option Nat)                -- `exit [n]`
    | setE (on : Bool)                     -- `set -e` / `set +e`
    | setM (on : Bool)                     -- `set -m` / `set +m` (job control)
    | setP (on : Bool)                     -- `set -o pipefail` / `set +o pipefail`
    | call (name : Name) (nargs : Nat)     -- a command name resolved by the search order, with arguments
    | setParams (n : Nat)                  -- `set -- w1 … wn`: the positional parameters of this context
    | freeze (name : Name)                 -- `typeset -fr name`: makes the function read-only
    | unknown                              -- a name that is nothing: status 127
    | absent (words redirs assigns : Option Nat)
        -- no command name: words that expand to no field, redirections (performed in a subshell) and
        -- assignments, each possibly holding command substitutions (the status of its last one, if any)
    | tick (c k : Nat)                     -- regular built-in: succeeds while counter c < k, then fails
    | group (body : List Item)
    | subshell (body : List Item)
    | asyncWait (body : List Item)         -- `{ body; } & wait`: an asynchronous list, then `wait`
    | ifc (cond : List Item) (body : List Item) (elifs : List (List Item × List Item)) (els : Option (List Item))
    | whileLoop (until_ : Bool) (cond : List Item) (body : List Item)
    | forLoop (values : Nat) (body : List Item)
    | forPos (body : List Item)            -- `for v do …`: one iteration per positional parameter
    | forRo (values : Nat)                 -- `for ro in w1 … wn`: the loop variable is read-only
    | caseC (items : List (Bool × Bool × List Item × CaseCont))
        -- (a pattern matches, evaluating the patterns fails before any match, body, continuation)
    | fundef (name : Name) (body : Cmd)
    -- shell errors (C10)
    | expErr                               -- simple command whose word expansion fails (`probe ${u?}`)
    | assignErr                            -- assignment to a read-only variable, alone or before a command
    | redirErr (k : RedirKind)             -- command whose redirection cannot be performed
    | specialErr (wrapped : Bool) (status : Nat)   -- usage error of a special built-in, directly or via `command`
    | trapExit (body : List Item)          -- `trap '…' EXIT`
    | trapSig (body : List Item)           -- `trap '…' USR1`
    | raise (n : Nat)                      -- `st n $(kill -s USR1 $$)`: a regular command during which
                                           -- the (main) shell receives the trapped signal
    | raiseErr                             -- `st 0 $(kill -s USR1 $$) ${u?}`: the signal, then an
                                           -- expansion error in the same command
  inductive Pipeline where
    | mk (negation : Bool) (commands : List Cmd)
  inductive Item where
    | mk (first : Pipeline) (rest : List (Bool × Pipeline))   -- (isAndThen, pipeline)
end

structure St where
  status : Nat := 0
  errexit : Bool := false
  pipefail : Bool := false
  monitor : Bool := false
  params : Nat := 0                       -- number of positional parameters of the current context
  roFuncs : List Name := []               -- read-only functions
  stack : List Frame := []
  funcs : List (Name × Cmd) := []
  counters : List (Nat × Nat) := []
  trace : List (Nat × Nat) := []          -- newest first
  exitTrap : Option (List Item) := none
  sigTrap : Option (List Item) := none    -- the action of the trapped signal (USR1)
  pending : Bool := false                 -- the signal was caught and its action has not run yet
  deriving Inhabited

def St.push (s : St) (f : Frame) : St := { s with stack := f :: s.stack }
def St.pop (s : St) : St := { s with stack := s.stack.tail }

/-- `Env::controls_jobs` -/
def St.controlsJobs (s : St) : Bool := s.monitor && !s.stack.contains .subshell

/-- `run_traps_for_caught_signals` is due: a caught signal with a command action, and no trap action
    running. A subshell has no command traps (`enter_subshell` resets them) and the signal goes to
    `$$`, which stays the main shell: what a child (or a child of a child) sends is pending in the
    main shell, which is waiting for that child and polls when it has joined it. -/
def St.trapDue (s : St) : Option (List Item) :=
  if s.pending && !s.stack.contains .trap && !s.stack.contains .subshell then s.sigTrap else none

/-- the tail of `run_trap` and of `Command::execute`: `$?` is restored unless the action was
    interrupted; of two diverts the more severe one wins -/
def finishPoll (prev : Nat) (s2 : St) (r t : Res) : St × Res :=
  let s3 : St := match t with
    | .break_ (.interrupt (some e)) => { s2 with status := e }
    | .break_ (.interrupt none) => s2
    | _ => { s2 with status := prev }
  match r, t with
  | _, .outOfFuel => (s3, .outOfFuel)
  | r, .continue_ => (s3, r)
  | .continue_, t => (s3, t)
  | .break_ m, .break_ d => (s3, .break_ (m.max d))
  | .outOfFuel, _ => (s3, .outOfFuel)

/-- `run_traps_for_caught_signals` after a command that ended with `r` in state `s1`; `run` executes
    the action (a list, under the `Trap` frame pushed here) -/
def pollWith (run : St → List Item → St × Res) (s1 : St) (r : Res) : St × Res :=
  match r with
  | .outOfFuel => (s1, .outOfFuel)
  | r =>
    match s1.trapDue with
    | none => (s1, r)
    | some body =>
      let x := run ({ s1 with pending := false }.push .trap) body
      finishPoll s1.status x.1.pop r x.2

/-- entering / leaving the subshell that wraps a job-controlled pipeline -/
def St.enterJc (s : St) : St := if s.controlsJobs then s.push .subshell else s
def St.leaveJc (s s1 : St) : St := if s.controlsJobs then s1.pop else s1

/-- `errexit_is_applicable` -/
def St.errexitApplicable (s : St) : Bool := s.errexit && !s.stack.contains .condition

/-- `apply_errexit` -/
def St.applyErrexit (s : St) : Res :=
  if s.status ≠ 0 ∧ s.errexitApplicable then .break_ (.exit none) else .continue_

/-- `Handle for expansion::Error` (also assignment errors): the error status travels in the divert -/
def St.expansionError (s : St) : Res :=
  if s.errexitApplicable then .break_ (.exit (some 2)) else .break_ (.interrupt (some 2))

/-- `apply_result` -/
def St.applyResult (s : St) : Res → St
  | .break_ d => match d.exitStatus with | some e => { s with status := e } | none => s
  | _ => s

def lookupFn (fs : List (Name × Cmd)) (n : Name) : Option Cmd :=
  match fs with
  | [] => none
  | (m, c) :: t => if m = n then some c else lookupFn t n

def defineFn (fs : List (Name × Cmd)) (n : Name) (c : Cmd) : List (Name × Cmd) :=
  (n, c) :: fs.filter (fun p => p.1 ≠ n)

def getCounter (cs : List (Nat × Nat)) (c : Nat) : Nat :=
  match cs with
  | [] => 0
  | (k, v) :: t => if k = c then v else getCounter t c

def setCounter (cs : List (Nat × Nat)) (c v : Nat) : List (Nat × Nat) :=
  (c, v) :: cs.filter (fun p => p.1 ≠ c)

/-- what the command search finds for a name (`classify`): special built-in, function, other built-in -/
inductive Target where
  | specialColon | function (body : Cmd) | regularTrue | notFound
  | status (n : Nat)    -- a target whose only effect is its exit status (see `classify`)

def classify (s : St) : Name → Target
  | .colon => .specialColon
  | .true_ => match lookupFn s.funcs .true_ with | some b => .function b | none => .regularTrue
  | .f k => match lookupFn s.funcs (.f k) with | some b => .function b | none => .notFound
  -- `resolve_builtin`: a substitutive built-in runs (status 0) only if `search_path` finds its name,
  -- otherwise the command is not found; a function of that name comes first either way
  | .sbIn => match lookupFn s.funcs .sbIn with | some b => .function b | none => .status 0
  | .sbOut => match lookupFn s.funcs .sbOut with | some b => .function b | none => .status 127
  -- an external utility found in `$PATH`: the simulated `execve` fails with ENOSYS, status 126
  | .xtIn => match lookupFn s.funcs .xtIn with | some b => .function b | none => .status 126
  -- `name.contains('/')`: functions are not consulted
  | .xtPath => .status 126

/-- `break`/`continue` built-in (`semantics::run`) with the `Builtin` frame already pushed:
    returns (exit status, divert) -/
def breakBuiltin (stack : List Frame) (n : Nat) (isBreak : Bool) : Nat × Res :=
  let count := loopCount stack n
  if count = 0 then (1, .break_ (.interrupt none))      -- "not in a loop": special built-in error
  else (0, .break_ (if isBreak then .break_ (count - 1) else .continue_ (count - 1)))

/-- the tail shared by every simple command: `env.exit_status = …; result.divert()?; apply_errexit()` -/
def finishSimple (s : St) (r : Res) : St × Res :=
  match r with
  | .continue_ => (s, s.applyErrexit)
  | r => (s, r)

/-- the loop-control part of `Loop::execute` / `for_loop::execute` applied to a body/condition result:
    `none` = go on looping normally -/
inductive LoopStep where
  | next            -- `Continue(())` or `Continue{0}`: next iteration
  | stop            -- `Break{0}`: leave this loop
  | out (r : Res)   -- propagate (with the count already decremented)

def loopStep : Res → LoopStep
  | .continue_ => .next
  | .break_ (.break_ 0) => .stop
  | .break_ (.break_ (n+1)) => .out (.break_ (.break_ n))
  | .break_ (.continue_ 0) => .next
  | .break_ (.continue_ (n+1)) => .out (.break_ (.continue_ n))
  | r => .out r

mutual
  /-- `impl Command for syntax::Command`, without the traps of caught signals that follow every command
      (`execCommands` runs them: `pollWith`) -/
  def execCmd : Nat → St → Cmd → St × Res
    | 0, s, _ => (s, .outOfFuel)
    | fuel+1, s, c =>
      match c with
      | .probe m =>
        let s1 := { s with trace := (m, s.status) :: s.trace }
        finishSimple s1 .continue_
      | .st n => finishSimple { s with status := n } .continue_
      | .brk n =>
        let (e, r) := breakBuiltin (.builtin true :: s.stack) n true
        finishSimple { s with status := e } r
      | .cont n =>
        let (e, r) := breakBuiltin (.builtin true :: s.stack) n false
        finishSimple { s with status := e } r
      | .ret n => finishSimple s (.break_ (.return_ n))
      | .exit n => finishSimple s (.break_ (.exit n))
      | .setE on => finishSimple { s with errexit := on, status := 0 } .continue_
      | .setM on => finishSimple { s with monitor := on, status := 0 } .continue_
      | .setP on => finishSimple { s with pipefail := on, status := 0 } .continue_
      | .unknown => finishSimple { s with status := 127 } .continue_
      -- `execute_absent_target`: the status of the last command substitution of the assignments,
      -- else of the redirections, else of the words, else zero
      | .absent w r a =>
        finishSimple { s with status := (a.orElse fun _ => r.orElse fun _ => w).getD 0 } .continue_
      | .tick c k =>
        let v := getCounter s.counters c
        if v < k then finishSimple { s with counters := setCounter s.counters c (v+1), status := 0 } .continue_
        else finishSimple { s with status := 1 } .continue_
      | .setParams n => finishSimple { s with params := n, status := 0 } .continue_
      | .freeze name =>
        -- `SetFunctions::execute`: an unknown function is an error of a non-special built-in
        (match lookupFn s.funcs name with
         | some _ => finishSimple { s with roFuncs := name :: s.roFuncs, status := 0 } .continue_
         | none => finishSimple { s with status := 1 } .continue_)
      | .call name nargs =>
        match classify s name with
        | .specialColon => finishSimple { s with status := 0 } .continue_
        | .regularTrue => finishSimple { s with status := 0 } .continue_
        | .notFound => finishSimple { s with status := 127 } .continue_
        | .function body =>
          -- `execute_function_body`: a new context holds the arguments as positional parameters;
          -- only `Return` is caught
          let (s1, r) := execCmd fuel { s with params := nargs } body
          let s1 := { s1 with params := s.params }
          match r with
          | .break_ (.return_ e) =>
            finishSimple (match e with | some e => { s1 with status := e } | none => s1) .continue_
          | r => finishSimple s1 r
        | .status n => finishSimple { s with status := n } .continue_
      | .fundef name body =>
        -- `define_function`: a read-only function of that name stays; status 2, `apply_errexit`
        if s.roFuncs.contains name then finishSimple { s with status := 2 } .continue_
        else finishSimple { s with funcs := defineFn s.funcs name body, status := 0 } .continue_
      | .expErr => (s, s.expansionError)
      | .assignErr => (s, s.expansionError)
      | .redirErr k =>
        -- `redir::Error::handle`: status 2, continue; a special built-in then interrupts the shell
        let s1 := { s with status := 2 }
        (match k with
         | .special => (s1, .break_ (.interrupt none))
         | _ => (s1, s1.applyErrexit))
      | .specialErr wrapped status =>
        -- `report_error`/`report_failure`: the innermost `Builtin` frame decides (`command` pushes a
        -- frame with `is_special = false`)
        finishSimple { s with status := status } (if wrapped then .continue_ else .break_ (.interrupt none))
      | .trapExit body => finishSimple { s with exitTrap := some body, status := 0 } .continue_
      | .trapSig body => finishSimple { s with sigTrap := some body, status := 0 } .continue_
      | .raise n => finishSimple { s with pending := true, status := n } .continue_
      | .raiseErr => ({ s with pending := true }, { s with pending := true }.expansionError)
      | .group body => execList fuel s body
      | .subshell body =>
        -- the child runs on a copy with a `Subshell` frame; only status and output come back
        let (c1, r) := execList fuel (s.push .subshell) body
        match r with
        | .outOfFuel => (s, .outOfFuel)
        | r =>
          let c2 := c1.applyResult r
          let s1 := { s with status := c2.status, trace := c2.trace, pending := c2.pending }
          (s1, s1.applyErrexit)
      | .asyncWait body =>
        -- `execute_async`: the list runs in a subshell and the shell goes on at once with status 0;
        -- `wait` without operands then returns 0 when the child is gone. Only the output comes back.
        let (c1, r) := execList fuel (s.push .subshell) body
        match r with
        | .outOfFuel => (s, .outOfFuel)
        | r =>
          let c2 := c1.applyResult r
          let s1 := { s with status := 0, trace := c2.trace, pending := c2.pending }
          (s1, s1.applyErrexit)
      | .ifc cond body elifs els =>
        let (s1, r) := execList fuel (s.push .condition) cond
        let s1 := s1.pop
        match r with
        | .continue_ =>
          if s1.status = 0 then execList fuel s1 body
          else execElifs fuel s1 elifs els
        | r => (s1, r)
      | .whileLoop until_ cond body =>
        let (s1, r) := execWhile fuel (s.push .loop) until_ cond body 0
        let s1 := s1.pop
        match r with
        | (.continue_, e) => ({ s1 with status := e }, .continue_)
        | (r, _) => (s1, r)
      | .forLoop values body =>
        let s0 := s.push .loop
        if values = 0 ∧ !body.isEmpty then ({ s0 with status := 0 }.pop, .continue_)
        else
          let (s1, r) := execFor fuel s0 values body
          (s1.pop, r)
      | .forPos body =>
        let s0 := s.push .loop
        if s.params = 0 ∧ !body.isEmpty then ({ s0 with status := 0 }.pop, .continue_)
        else
          let (s1, r) := execFor fuel s0 s.params body
          (s1.pop, r)
      | .forRo values =>
        -- the first assignment to the loop variable fails: `Handle for expansion::Error`
        if values = 0 then ({ s with status := 0 }, .continue_) else (s, s.expansionError)
      | .caseC items =>
        let (s1, r, updated) := execCase fuel s items false false
        match r with
        | .continue_ => (if updated then s1 else { s1 with status := 0 }, .continue_)
        | r => (s1, r)

  /-- the `elif … else … fi` tail of `if::execute` -/
  def execElifs : Nat → St → List (List Item × List Item) → Option (List Item) → St × Res
    | 0, s, _, _ => (s, .outOfFuel)
    | fuel+1, s, elifs, els =>
      match elifs with
      | [] =>
        match els with
        | some e => execList fuel s e
        | none => ({ s with status := 0 }, .continue_)
      | (cond, body) :: rest =>
        let (s1, r) := execList fuel (s.push .condition) cond
        let s1 := s1.pop
        match r with
        | .continue_ =>
          if s1.status = 0 then execList fuel s1 body
          else execElifs fuel s1 rest els
        | r => (s1, r)

  /-- `Loop::execute` + `Loop::iterate`; the last argument is the loop's own `exit_status` register.
      Returns the result together with that register. -/
  def execWhile : Nat → St → Bool → List Item → List Item → Nat → St × (Res × Nat)
    | 0, s, _, _, _, e => (s, (.outOfFuel, e))
    | fuel+1, s, until_, cond, body, e =>
      -- evaluate_condition
      let (s1, r) := execList fuel (s.push .condition) cond
      let s1 := s1.pop
      match loopStep r with
      | .stop => (s1, (.continue_, s1.status))              -- Break{0}: exit_status := env.exit_status
      | .out r => (s1, (r, e))
      | .next =>
        match r with
        | .break_ (.continue_ 0) => execWhile fuel s1 until_ cond body e   -- `continue` in the condition
        | _ =>
          if (s1.status = 0) = !until_ then
            let (s2, r2) := execList fuel s1 body
            match loopStep r2 with
            | .stop => (s2, (.continue_, s2.status))
            | .out r => (s2, (r, e))
            | .next =>
              match r2 with
              | .break_ (.continue_ 0) => execWhile fuel s2 until_ cond body e
              | _ => execWhile fuel s2 until_ cond body s2.status
          else (s1, (.continue_, e))

  /-- the iteration of `for_loop::execute` (the variable itself is not modelled) -/
  def execFor : Nat → St → Nat → List Item → St × Res
    | 0, s, _, _ => (s, .outOfFuel)
    | _+1, s, 0, _ => (s, .continue_)
    | fuel+1, s, n+1, body =>
      let (s1, r) := execList fuel s body
      match loopStep r with
      | .stop => (s1, .continue_)
      | .out r => (s1, r)
      | .next => execFor fuel s1 n body

  /-- `case::execute`; flags: falling through, exit status updated -/
  def execCase : Nat → St → List (Bool × Bool × List Item × CaseCont) → Bool → Bool → St × Res × Bool
    | 0, s, _, _, u => (s, .outOfFuel, u)
    | _+1, s, [], _, u => (s, .continue_, u)
    | fuel+1, s, (m, e, body, k) :: rest, falling, u =>
      -- the patterns of an item are expanded only when the item is not entered by falling through
      if !falling && e then (s, s.expansionError, u)
      else if !falling && !m then execCase fuel s rest false u
      else
        let (s1, r) := execList fuel s body
        match r with
        | .continue_ =>
          let u1 := !body.isEmpty
          match k with
          | .break_ => (s1, .continue_, u1)
          | .fallThrough => execCase fuel s1 rest true u1
          | .continue_ => execCase fuel s1 rest false u1
        | r => (s1, r, u)

  /-- `impl Command for syntax::List` -/
  def execList : Nat → St → List Item → St × Res
    | 0, s, _ => (s, .outOfFuel)
    | _+1, s, [] => (s, .continue_)
    | fuel+1, s, it :: rest =>
      let (s1, r) := execItem fuel s it
      match r with
      | .continue_ => execList fuel s1 rest
      | r => (s1, r)

  /-- `impl Command for AndOrList` -/
  def execItem : Nat → St → Item → St × Res
    | 0, s, _ => (s, .outOfFuel)
    | fuel+1, s, .mk first rest =>
      match rest with
      | [] => execPipeline fuel s first
      | _ =>
        let (s1, r) := execPipeline fuel (s.push .condition) first
        match r with
        | .continue_ => execAndOrRest fuel s1 rest
        | r => (s1.pop, r)

  /-- the conditional pipelines of an and-or list; the state still has the `Condition` frame on
      entry, which is dropped before the last pipeline -/
  def execAndOrRest : Nat → St → List (Bool × Pipeline) → St × Res
    | 0, s, _ => (s.pop, .outOfFuel)
    | _+1, s, [] => (s.pop, .continue_)
    | fuel+1, s, [(andThen, p)] =>
      let s := s.pop
      if (s.status = 0) = andThen then execPipeline fuel s p else (s, .continue_)
    | fuel+1, s, (andThen, p) :: rest =>
      if (s.status = 0) = andThen then
        let (s1, r) := execPipeline fuel s p
        match r with
        | .continue_ => execAndOrRest fuel s1 rest
        | r => (s1.pop, r)
      else execAndOrRest fuel s rest

  /-- `impl Command for syntax::Pipeline` -/
  def execPipeline : Nat → St → Pipeline → St × Res
    | 0, s, _ => (s, .outOfFuel)
    | fuel+1, s, .mk negation cmds =>
      if !negation then execCommands fuel s cmds
      else
        let (s1, r) := execCommands fuel (s.push .condition) cmds
        let s1 := s1.pop
        match r with
        | .continue_ => ({ s1 with status := if s1.status = 0 then 1 else 0 }, .continue_)
        | r => (s1, r)

  /-- `execute_commands_in_pipeline` -/
  def execCommands : Nat → St → List Cmd → St × Res
    | 0, s, _ => (s, .outOfFuel)
    | _+1, s, [] => ({ s with status := 0 }, .continue_)
    | fuel+1, s, [c] =>
      -- `impl Command for syntax::Command`: the command, then the traps of caught signals
      let x := execCmd fuel s c
      pollWith (execList fuel) x.1 x.2
    | fuel+1, s, cmds =>
      -- `execute_multi_command_pipeline`: every command in its own subshell; under job control
      -- (`execute_job_controlled_pipeline`) the whole pipeline runs in one more subshell, whose exit
      -- status and output come back; `apply_errexit` is the parent's either way
      let (s1, r) := execPipeMembers fuel s.enterJc cmds 0
      match r with
      | .continue_ => (s.leaveJc s1, (s.leaveJc s1).applyErrexit)
      | r => (s.leaveJc s1, r)

  /-- runs each member on a copy of the parent state; `final` accumulates the pipeline status -/
  def execPipeMembers : Nat → St → List Cmd → Nat → St × Res
    | 0, s, _, _ => (s, .outOfFuel)
    | _+1, s, [], final => ({ s with status := final }, .continue_)
    | fuel+1, s, c :: rest, final =>
      let (c1, r) := execCmd fuel (s.push .subshell) c
      match r with
      | .outOfFuel => (s, .outOfFuel)
      | r =>
        let c2 := c1.applyResult r
        let final' := if c2.status ≠ 0 ∨ !s.pipefail then c2.status else final
        execPipeMembers fuel { s with trace := c2.trace, pending := c2.pending } rest final'
end

/-- one command line as `read_eval_loop` sees it: a complete command, or text that does not parse -/
inductive Line where
  | cmds (l : List Item)
  | syntaxError

/-- `read_eval_loop` + `apply_result` on a script given as a list of command lines -/
def runScript : Nat → St → List Line → St × Res
  | 0, s, _ => (s, .outOfFuel)
  | _+1, s, [] => (s, .continue_)
  | fuel+1, s, .syntaxError :: _ =>
    -- `Handle for parser::Error`: Interrupt(Some(ERROR))
    let r := Res.break_ (.interrupt (some 2))
    (s.applyResult r, r)
  | fuel+1, s, .cmds line :: rest =>
    -- `run_command`: traps of signals caught so far, then the command line
    let x := pollWith (execList fuel) s .continue_
    match x.2 with
    | .continue_ =>
      let (s1, r) := execList fuel x.1 line
      (match r with
       | .continue_ => runScript fuel s1 rest
       | r => (s1.applyResult r, r))
    | r0 => (x.1.applyResult r0, r0)

/-- `run_exit_trap` / `run_trap`: the action runs under a `Trap` frame; `$?` is restored afterwards
    unless the action itself was interrupted -/
def runExitTrap (fuel : Nat) (s : St) : St × Res :=
  match s.exitTrap with
  | none => (s, .continue_)
  | some body =>
    let prev := s.status
    let (s1, r) := execList fuel (s.push .trap) body
    let s1 := s1.pop
    match r with
    | .outOfFuel => (s1, .outOfFuel)
    -- an error with a status of its own (expansion, syntax): that status is the one propagated
    | .break_ (.interrupt (some _)) => (s1.applyResult r, r)
    | .break_ (.interrupt none) => (s1, r)
    | r => ({ s1 with status := prev }.applyResult r, r)

/-- the shell process: `run_as_shell_process` after option parsing -/
def runShell (fuel : Nat) (s : St) (script : List Line) : St × Res :=
  let (s1, r) := runScript fuel s script
  match r with
  | .outOfFuel => (s1, .outOfFuel)
  | .break_ (.abort _) => (s1, r)
  | _ =>
    let (s2, r2) := runExitTrap fuel s1
    match r2 with
    | .outOfFuel => (s2, .outOfFuel)
    | _ => (s2, r)

end YashModel.Exec
