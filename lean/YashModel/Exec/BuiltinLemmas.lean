/- The control-flow built-ins (Exec/Builtins.lean) and `Ord for Divert`. -/
import YashModel.Exec.Builtins
import YashModel.Exec.Step
namespace YashModel.Exec.Builtins
open YashModel.Exec

theorem chain_loops (stack : List Frame) :
    ((stack.takeWhile Frame.retainsContext).filter (fun f => f = .loop)).length = loops stack := by
  induction stack with
  | nil => simp [loops]
  | cons f rest ih =>
    simp only [List.takeWhile_cons, loops]
    cases h : f.retainsContext
    · simp
    · simp only [if_true]
      by_cases hl : f = .loop
      · simp [hl, ih]; omega
      · simp [hl, ih]

theorem loopCountChain_eq_min (stack : List Frame) (max : Nat) :
    loopCountChain stack max = min max (loops stack) := by
  simp [loopCountChain, List.length_take, chain_loops]

theorem loopCountChain_eq (stack : List Frame) (max : Nat) : loopCountChain stack max = loopCount stack max := by
  rw [loopCountChain_eq_min, loopCount_eq_min]

theorem parseArguments_operand (specs : List Args.OptionSpec) (mode : Args.Mode) (w : Str)
    (hw : w.head? ≠ some '-') : Args.parseArguments specs mode [w] = .ok ([], [w]) := by
  have h1 : Args.startsWithSingleHyphen w = false := by
    unfold Args.startsWithSingleHyphen; split <;> simp_all
  have h2 : Args.startsWithDoubleHyphen w = false := by
    unfold Args.startsWithDoubleHyphen; split <;> simp_all
  have h3 : w ≠ Args.dashdash := by
    intro h; subst h; simp [Args.dashdash] at hw
  simp [Args.parseArguments, Args.optLoop, Args.step, h1, h2, Args.finish, Args.skipSeparator, h3]

theorem parseArguments_nil (specs : List Args.OptionSpec) (mode : Args.Mode) :
    Args.parseArguments specs mode [] = .ok ([], []) := by
  simp [Args.parseArguments, Args.optLoop, Args.finish, Args.skipSeparator]

theorem parseDigits_minus (b : Nat) (o : IntErr) (ds : List Char) (acc : Nat) :
    parseDigits b o ('-' :: ds) acc = .error .invalidDigit := by
  simp [parseDigits, digitVal]

theorem parseUsize_ok_head (w : Str) (n : Nat) (h : parseUsize w = .ok n) : w.head? ≠ some '-' := by
  intro hh
  cases w with
  | nil => simp at hh
  | cons c ds =>
    simp at hh
    subst hh
    cases ds with
    | nil => simp [parseUsize] at h
    | cons d ds =>
      unfold parseUsize at h
      simp [parseDigits_minus] at h

theorem parseNonZeroUsize_ok (w : Str) (n : Nat) (h : parseNonZeroUsize w = .ok n) :
    parseUsize w = .ok n ∧ 1 ≤ n := by
  unfold parseNonZeroUsize at h
  split at h
  · simp at h
  · rename_i hne
    refine ⟨h, ?_⟩
    cases n with
    | zero => exact absurd h (by intro h'; exact hne h')
    | succ k => omega

theorem breakParse_operand (p : Bool) (w : Str) (n : Nat) (h : parseNonZeroUsize w = .ok n) :
    breakParse p [w] = .ok n := by
  have hw := parseUsize_ok_head w n (parseNonZeroUsize_ok w n h).1
  simp [breakParse, parseArguments_operand _ _ w hw, h]

theorem breakParse_nil (p : Bool) : breakParse p [] = .ok 1 := by
  simp [breakParse, parseArguments_nil]

theorem currentBuiltin_top (b : Bool) (st : List Frame) : currentBuiltin (.builtin b :: st) = some b := rfl

theorem reportDivert_eq (stack : List Frame) :
    reportDivert stack = if currentBuiltin stack = some true then .break_ (.interrupt none) else .continue_ := by
  unfold reportDivert
  cases currentBuiltin stack with
  | none => rfl
  | some b => cases b <;> rfl

/-- a count that `break`/`continue` accepts is at least one: the default, or what `NonZeroUsize` parsed -/
theorem breakParse_ok (p : Bool) (args : List Str) (n : Nat) (h : breakParse p args = .ok n) : 1 ≤ n := by
  unfold breakParse at h
  cases hpa : Args.parseArguments [] (modeWithEnv p) args with
  | error e => rw [hpa] at h; cases h
  | ok x =>
    rw [hpa] at h
    obtain ⟨_, operands⟩ := x
    simp only at h
    by_cases hlen : operands.length > 1
    · rw [if_pos hlen] at h; cases h
    · rw [if_neg hlen] at h
      cases hl : operands.getLast? with
      | none => rw [hl] at h; cases h; exact Nat.le_refl 1
      | some field =>
        rw [hl] at h
        simp only at h
        cases hq : parseNonZeroUsize field with
        | error e => rw [hq] at h; cases h
        | ok m => rw [hq] at h; cases h; exact (parseNonZeroUsize_ok _ _ hq).2

theorem breakMain_of_parse (isBreak p : Bool) (st : List Frame) (args : List Str) (n : Nat)
    (h : breakParse p args = .ok n) :
    breakMain isBreak p (.builtin true :: st) args =
      ⟨(breakBuiltin (.builtin true :: st) n isBreak).1, (breakBuiltin (.builtin true :: st) n isBreak).2⟩ := by
  simp only [breakMain, h, breakRun, breakBuiltin, loopCountChain_eq]
  by_cases hc : loopCount (.builtin true :: st) n = 0
  · simp [hc, reportSimpleFailure, reportDivert, currentBuiltin_top, Generated.ExecTables.FAILURE]
  · simp [hc, Generated.ExecTables.SUCCESS]

end YashModel.Exec.Builtins

namespace YashModel.Exec

/-- the place of a payload in the derived order of `Option`: `None` first, then the numbers by value -/
def optKey : Option Nat → Nat
  | none => 0
  | some n => n + 1

theorem optLe_iff (a b : Option Nat) : optLe a b = true ↔ optKey a ≤ optKey b := by
  cases a <;> cases b <;> simp [optLe, optKey]

theorem optKey_inj {a b : Option Nat} (h : optKey a = optKey b) : a = b := by
  cases a <;> cases b <;> simp_all [optKey]

/-- the payload of a divert as a number; together with `rank` it determines the divert -/
def Divert.payload : Divert → Nat
  | .continue_ n | .break_ n => n
  | .return_ s | .interrupt s | .exit s | .abort s => optKey s

theorem Divert.eq_of_key {a b : Divert} (hr : a.rank = b.rank) (hp : a.payload = b.payload) : a = b := by
  -- `cases hr` closes the thirty goals with two different variants
  cases a <;> cases b <;> cases hr <;> first | exact congrArg _ hp | exact congrArg _ (optKey_inj hp)

/-- the derived `Ord for Divert` is the lexicographic order on (rank, payload) -/
theorem Divert.le_iff (a b : Divert) :
    a.le b = true ↔ a.rank < b.rank ∨ (a.rank = b.rank ∧ a.payload ≤ b.payload) := by
  unfold Divert.le
  by_cases h1 : a.rank < b.rank
  · simp [h1]
  · by_cases h2 : b.rank < a.rank
    · simp [h1, h2]; omega
    · have hr : a.rank = b.rank := by omega
      rw [if_neg h1, if_neg h2]
      cases a <;> cases b <;> cases hr <;> simp [Divert.rank, Divert.payload, optLe_iff]

theorem Divert.le_refl (a : Divert) : a.le a = true := (Divert.le_iff a a).2 (Or.inr ⟨rfl, Nat.le_refl _⟩)

end YashModel.Exec

namespace YashModel.Exec.Builtins

/-- the number a digit string denotes, continuing from `acc` -/
def decimalValue (ds : List Char) (acc : Nat) : Nat :=
  ds.foldl (fun a c => a * 10 + (digitVal c).getD 0) acc

theorem decimalValue_ge (ds : List Char) (acc : Nat) : acc ≤ decimalValue ds acc := by
  induction ds generalizing acc with
  | nil => simp [decimalValue]
  | cons c cs ih =>
    have := ih (acc * 10 + (digitVal c).getD 0)
    simp only [decimalValue, List.foldl_cons] at this ⊢
    omega

theorem parseDigits_ok_iff (b : Nat) (o : IntErr) (ds : List Char) (acc n : Nat) (hacc : acc ≤ b) :
    parseDigits b o ds acc = .ok n ↔
      (∀ c ∈ ds, (digitVal c).isSome = true) ∧ n = decimalValue ds acc ∧ n ≤ b := by
  induction ds generalizing acc with
  | nil => simp [parseDigits, decimalValue]; constructor
           · intro h; subst h; exact ⟨rfl, hacc⟩
           · intro h; exact h.1.symm
  | cons c cs ih =>
    simp only [parseDigits]
    cases hd : digitVal c with
    | none => simp [hd]
    | some d =>
      simp only
      by_cases hov : acc * 10 + d > b
      · simp only [hov, if_true]
        constructor
        · intro h; cases h
        · intro ⟨_, h2, h3⟩
          have := decimalValue_ge cs (acc * 10 + d)
          simp only [decimalValue, List.foldl_cons, hd, Option.getD_some] at h2 this
          omega
      · simp only [hov, if_false]
        rw [ih (acc * 10 + d) (by omega)]
        simp [decimalValue, hd]

theorem parseUsize_unsigned (ds : List Char) (hne : ds ≠ [])
    (hp : ds.head? ≠ some '+') (hm : ds.head? ≠ some '-') :
    parseUsize ds = parseDigits usizeMax .posOverflow ds 0 := by
  unfold parseUsize
  split <;> simp_all

theorem parseI32_unsigned (ds : List Char) (hne : ds ≠ [])
    (hp : ds.head? ≠ some '+') (hm : ds.head? ≠ some '-') :
    parseI32 ds = (parseDigits (2 ^ 31 - 1) .posOverflow ds 0).map Int.ofNat := by
  unfold parseI32
  split <;> simp_all

end YashModel.Exec.Builtins
