/-
  Fuel is only a termination device: once an execution function returns anything but `outOfFuel`,
  more fuel returns exactly the same state and result.
-/
import YashModel.Exec.Step
namespace YashModel.Exec

/-- `a` ran out of fuel, or it is already the final answer `b` -/
def Le (a b : St × Res) : Prop := a.2 = .outOfFuel ∨ a = b
def LeW (a b : St × (Res × Nat)) : Prop := a.2.1 = .outOfFuel ∨ a = b
def LeC (a b : St × Res × Bool) : Prop := a.2.1 = .outOfFuel ∨ a = b

structure Mono (n : Nat) : Prop where
  cmd : ∀ s c, Le (execCmd n s c) (execCmd (n+1) s c)
  elifs : ∀ s e els, Le (execElifs n s e els) (execElifs (n+1) s e els)
  while_ : ∀ s u c b e, LeW (execWhile n s u c b e) (execWhile (n+1) s u c b e)
  for_ : ∀ s k b, Le (execFor n s k b) (execFor (n+1) s k b)
  case_ : ∀ s items f u, LeC (execCase n s items f u) (execCase (n+1) s items f u)
  list : ∀ s l, Le (execList n s l) (execList (n+1) s l)
  item : ∀ s i, Le (execItem n s i) (execItem (n+1) s i)
  aor : ∀ s r, Le (execAndOrRest n s r) (execAndOrRest (n+1) s r)
  pipe : ∀ s p, Le (execPipeline n s p) (execPipeline (n+1) s p)
  cmds : ∀ s cs, Le (execCommands n s cs) (execCommands (n+1) s cs)
  members : ∀ s cs f, Le (execPipeMembers n s cs f) (execPipeMembers (n+1) s cs f)

theorem mono_zero : Mono 0 where
  cmd _ _ := .inl rfl
  elifs _ _ _ := .inl rfl
  while_ _ _ _ _ _ := .inl rfl
  for_ _ _ _ := .inl rfl
  case_ _ _ _ _ := .inl rfl
  list _ _ := .inl rfl
  item _ _ := .inl rfl
  aor _ _ := .inl rfl
  pipe _ _ := .inl rfl
  cmds _ _ := .inl rfl
  members _ _ _ := .inl rfl

-- `mstep h a b with x hm`: case on `h : Le a b` with `a`, `b` generalised
macro "mstep " h:term:max a:term:max b:term:max " with " x:ident hm:ident : tactic => `(tactic|
  (have $hm := $h
   generalize $b = y at $hm:ident ⊢
   generalize $a = $x at $hm:ident ⊢
   rcases $hm:ident with $hm:ident | $hm:ident
   rotate_left
   subst $hm:ident
   rotate_left))

/-! `Le` and its kin under the control operators (`Step`): out of fuel is "bad" and is passed on by each of them -/

theorem Le.andThen {x y : St × Res} {k k' : St → St × Res} (h : Le x y) (hk : ∀ s1, Le (k s1) (k' s1)) :
    Le (andThen x k) (andThen y k') :=
  orEq_andThen (bad := (· = Res.outOfFuel)) Res.noConfusion h hk

theorem Le.andThenPop {x y : St × Res} {k k' : St → St × Res} (h : Le x y) (hk : ∀ s1, Le (k s1) (k' s1)) :
    Le (andThenPop x k) (andThenPop y k') := by
  rcases h with h | rfl
  · left; rw [andThenPop_of_ne (by rw [h]; exact Res.noConfusion)]; exact h
  · by_cases hx : x.2 = .continue_
    · rw [andThenPop_continue hx, andThenPop_continue hx]; exact hk _
    · rw [andThenPop_of_ne hx, andThenPop_of_ne hx]; exact .inr rfl

theorem Le.popped {x y : St × Res} (h : Le x y) : Le (popped x) (popped y) :=
  orEq_popped (bad := (· = Res.outOfFuel)) h

theorem outOfFuel_out (r : Res) (h : r = .outOfFuel) : ∃ r', loopStep r = .out r' ∧ r' = .outOfFuel := by
  subst h; exact ⟨_, rfl, rfl⟩

theorem Le.joinSub (s : St) {x y : St × Res} {k k' : St → St × Res} (h : Le x y) (hk : ∀ c2, Le (k c2) (k' c2)) :
    Le (joinSub s x k) (joinSub s y k') := by
  rcases h with h | rfl
  · left; rw [joinSub_outOfFuel h]
  · by_cases hf : x.2 = .outOfFuel
    · left; rw [joinSub_outOfFuel hf]
    · rw [joinSub_of_fuel hf, joinSub_of_fuel hf]; exact hk _

theorem Le.andThenApply {x y : St × Res} {k k' : St → St × Res} (h : Le x y) (hk : ∀ s1, Le (k s1) (k' s1)) :
    Le (andThenApply x k) (andThenApply y k') := by
  rcases h with h | rfl
  · left; rw [andThenApply_of_ne (by rw [h]; exact Res.noConfusion)]; exact h
  · by_cases hx : x.2 = .continue_
    · rw [andThenApply_continue hx, andThenApply_continue hx]; exact hk _
    · rw [andThenApply_of_ne hx, andThenApply_of_ne hx]; exact .inr rfl

theorem Le.exitTrapTail (p : Nat) {x y : St × Res} (h : Le x y) : Le (exitTrapTail p x) (exitTrapTail p y) := by
  rcases h with h | rfl
  · left; obtain ⟨s1, r⟩ := x; cases h; rfl
  · exact .inr rfl

theorem Le.shellTail {x y : St × Res} {trap trap' : St → St × Res} (h : Le x y) (ht : ∀ s, Le (trap s) (trap' s)) :
    Le (shellTail x trap) (shellTail y trap') := by
  rcases h with h | rfl
  · left; rw [shellTail_skip (.inl h)]; exact h
  · by_cases hs : x.2 = .outOfFuel ∨ ∃ e, x.2 = .break_ (.abort e)
    · rw [shellTail_skip hs, shellTail_skip hs]; exact .inr rfl
    · have h1 : x.2 ≠ .outOfFuel := fun h => hs (.inl h)
      have h2 : ∀ e, x.2 ≠ .break_ (.abort e) := fun e h => hs (.inr ⟨e, h⟩)
      rw [shellTail_run h1 h2, shellTail_run h1 h2]
      -- the script's result stands unless the trap runs out of fuel
      rcases ht x.1 with h | h
      · left; simp only [h, if_true]
      · rw [h]; exact .inr rfl

theorem finishPoll_outOfFuel (prev : Nat) (s2 : St) (r : Res) : (finishPoll prev s2 r .outOfFuel).2 = .outOfFuel := by
  rw [finishPoll_eq]; exact pollRes_outOfFuel r

theorem Le.pollCtl (due : Option (List Item)) {act act' : List Item → St × Res} (s1 : St) (r : Res)
    (h : ∀ body, Le (act body) (act' body)) : Le (pollCtl due act s1 r) (pollCtl due act' s1 r) := by
  cases r with
  | outOfFuel => exact .inl rfl
  | _ => cases due with
    | none => exact .inr rfl
    | some body =>
      rcases h body with h | h
      · left; simp only [Exec.pollCtl]; rw [h]; exact finishPoll_outOfFuel _ _ _
      · right; simp only [Exec.pollCtl]; rw [h]

theorem pollWith_mono (run run' : St → List Item → St × Res) (h : ∀ s l, Le (run s l) (run' s l))
    (s1 : St) (r : Res) : Le (pollWith run s1 r) (pollWith run' s1 r) := by
  rw [pollWith_eq, pollWith_eq]
  exact Le.pollCtl _ _ _ fun body => (h _ body).popped

theorem loopStep_out_outOfFuel : loopStep .outOfFuel = .out .outOfFuel := rfl

theorem finishSimple_outOfFuel (s : St) : (finishSimple s .outOfFuel).2 = .outOfFuel := rfl

theorem mono_list (n : Nat) (ih : Mono n) (s : St) (l : List Item) : Le (execList (n+1) s l) (execList (n+2) s l) := by
  cases l with
  | nil => exact .inr rfl
  | cons it rest => rw [execList_cons, execList_cons]; exact (ih.item s it).andThen fun s1 => ih.list s1 rest

theorem mono_item (n : Nat) (ih : Mono n) (s : St) (i : Item) : Le (execItem (n+1) s i) (execItem (n+2) s i) := by
  match i with
  | .mk p [] => exact ih.pipe s p
  | .mk p (a :: t) =>
    rw [execItem_cons, execItem_cons]; exact (ih.pipe _ p).andThenPop fun s1 => ih.aor s1 (a :: t)

theorem mono_aor (n : Nat) (ih : Mono n) (s : St) (r : List (Bool × Pipeline)) :
    Le (execAndOrRest (n+1) s r) (execAndOrRest (n+2) s r) := by
  match r with
  | [] => exact .inr rfl
  | [(a, p)] =>
    rw [execAndOrRest_last, execAndOrRest_last]
    split
    · exact ih.pipe _ p
    · exact .inr rfl
  | (a, p) :: q :: t =>
    rw [execAndOrRest_cons, execAndOrRest_cons]
    split
    · exact (ih.pipe s p).andThenPop fun s1 => ih.aor s1 (q :: t)
    · exact ih.aor s (q :: t)

theorem mono_pipe (n : Nat) (ih : Mono n) (s : St) (p : Pipeline) :
    Le (execPipeline (n+1) s p) (execPipeline (n+2) s p) := by
  match p with
  | .mk false cs => exact ih.cmds s cs
  | .mk true cs =>
    rw [execPipeline_negated, execPipeline_negated]
    exact (ih.cmds _ cs).popped.andThen fun _ => .inr rfl

theorem mono_cmds (n : Nat) (ih : Mono n) (s : St) (cs : List Cmd) :
    Le (execCommands (n+1) s cs) (execCommands (n+2) s cs) := by
  match cs with
  | [] => exact .inr rfl
  | [c] =>
    rw [execCommands_single, execCommands_single]
    rcases ih.cmd s c with h | h
    · left; rw [h]; rfl
    · rw [← h]; exact pollWith_mono _ _ ih.list _ _
  | c :: d :: t =>
    rw [execCommands_many, execCommands_many]
    refine Le.andThen ?_ fun _ => .inr rfl
    rcases ih.members s.enterJc (c :: d :: t) 0 with h | h
    · exact .inl h
    · rw [h]; exact .inr rfl

theorem mono_members (n : Nat) (ih : Mono n) (s : St) (cs : List Cmd) (f : Nat) :
    Le (execPipeMembers (n+1) s cs f) (execPipeMembers (n+2) s cs f) := by
  cases cs with
  | nil => exact .inr rfl
  | cons c rest =>
    rw [execPipeMembers_cons, execPipeMembers_cons]
    exact (ih.cmd _ c).joinSub s fun c2 => ih.members _ rest _

theorem mono_elifs (n : Nat) (ih : Mono n) (s : St) (e : List (List Item × List Item)) (els : Option (List Item)) :
    Le (execElifs (n+1) s e els) (execElifs (n+2) s e els) := by
  match e, els with
  | [], none => exact .inr rfl
  | [], some l => exact ih.list s l
  | (cond, body) :: rest, els =>
    rw [execElifs_cons, execElifs_cons]
    refine (ih.list _ cond).popped.andThen fun s1 => ?_
    split
    · exact ih.list s1 body
    · exact ih.elifs s1 rest els

theorem mono_for (n : Nat) (ih : Mono n) (s : St) (k : Nat) (b : List Item) :
    Le (execFor (n+1) s k b) (execFor (n+2) s k b) := by
  cases k with
  | zero => exact .inr rfl
  | succ k =>
    rw [execFor_succ, execFor_succ]
    exact orEq_loopCtl_of (bad := (· = Res.outOfFuel)) (bad' := (· = Res.outOfFuel)) _ _ outOfFuel_out (ih.list s b)
      fun s1 => ih.for_ s1 k b

theorem mono_case (n : Nat) (ih : Mono n) (s : St) (items : List (Bool × Bool × List Item × CaseCont)) (f u : Bool) :
    LeC (execCase (n+1) s items f u) (execCase (n+2) s items f u) := by
  match items with
  | [] => exact .inr rfl
  | (m, e, body, k) :: rest =>
    rw [execCase_cons, execCase_cons]
    split
    · exact .inr rfl
    · split
      · exact ih.case_ s rest false u
      · exact orEq_caseNext (bad := (· = Res.outOfFuel)) Res.noConfusion _ _ _ (ih.list s body)
          fun s1 fl => ih.case_ s1 rest fl _

theorem mono_while (n : Nat) (ih : Mono n) (s : St) (u : Bool) (c b : List Item) (e : Nat) :
    LeW (execWhile (n+1) s u c b e) (execWhile (n+2) s u c b e) := by
  rw [execWhile_succ, execWhile_succ]
  exact orEq_whileRound (bad := (· = Res.outOfFuel)) (bad' := (· = Res.outOfFuel)) u e outOfFuel_out
    (ih.list _ c).popped (ih.list · b) (ih.while_ · u c b ·)

theorem mono_forLoop (n : Nat) (ih : Mono n) (s : St) (values : Nat) (body : List Item) :
    Le (execCmd (n+1) s (.forLoop values body)) (execCmd (n+2) s (.forLoop values body)) := by
  rw [execCmd_forLoop, execCmd_forLoop]
  split
  · exact .inr rfl
  · exact (ih.for_ _ values body).popped

theorem mono_cmd (n : Nat) (ih : Mono n) (s : St) (c : Cmd) : Le (execCmd (n+1) s c) (execCmd (n+2) s c) := by
  cases c with
  | group body => rw [execCmd_group, execCmd_group]; exact ih.list s body
  | subshell body =>
    rw [execCmd_subshell, execCmd_subshell]; exact (ih.list _ body).joinSub s fun _ => .inr rfl
  | asyncWait body =>
    rw [execCmd_asyncWait, execCmd_asyncWait]; exact (ih.list _ body).joinSub s fun _ => .inr rfl
  | ifc cond body elifs els => rw [execCmd_ifc, execCmd_ifc]; exact mono_elifs n ih s _ els
  | whileLoop u cond body =>
    rw [execCmd_whileLoop, execCmd_whileLoop]
    exact orEq_whilePost (bad := (· = Res.outOfFuel)) Res.noConfusion
      (orEq_popped (bad := fun p : Res × Nat => p.1 = .outOfFuel) (ih.while_ _ u cond body 0))
  | forLoop values body => exact mono_forLoop n ih s values body
  | forPos body => exact mono_forLoop n ih s _ body
  | caseC items =>
    rw [execCmd_caseC, execCmd_caseC]
    exact orEq_casePost (bad := (· = Res.outOfFuel)) Res.noConfusion (ih.case_ s items false false)
  | call name nargs =>
    rw [execCmd_call, execCmd_call]
    exact orEq_callTarget (bad := (· = Res.outOfFuel)) (fun _ => Res.noConfusion) (fun _ _ h => by rw [h]; rfl) s nargs _
      ih.cmd
  -- the other commands call nothing: both runs are the same term
  | _ => exact .inr rfl

theorem mono_all : ∀ n, Mono n
  | 0 => mono_zero
  | n+1 =>
    have ih := mono_all n
    { cmd := mono_cmd n ih, elifs := mono_elifs n ih, while_ := mono_while n ih, for_ := mono_for n ih,
      case_ := mono_case n ih, list := mono_list n ih, item := mono_item n ih, aor := mono_aor n ih,
      pipe := mono_pipe n ih, cmds := mono_cmds n ih, members := mono_members n ih }

theorem runScript_le (n : Nat) : ∀ s ls, Le (runScript n s ls) (runScript (n+1) s ls) := by
  induction n with
  | zero => intro s ls; exact .inl rfl
  | succ n ihn =>
    intro s ls
    match ls with
    | [] => exact .inr rfl
    | .syntaxError :: _ => exact .inr rfl
    | .cmds line :: rest =>
      rw [runScript_cmds, runScript_cmds]
      exact (pollWith_mono _ _ (mono_all n).list s .continue_).andThenApply fun s0 =>
        ((mono_all n).list s0 line).andThenApply fun s1 => ihn s1 rest

theorem runExitTrap_le (n : Nat) (s : St) : Le (runExitTrap n s) (runExitTrap (n+1) s) := by
  rw [runExitTrap_eq, runExitTrap_eq]
  cases s.exitTrap with
  | none => exact .inr rfl
  | some body => exact ((mono_all n).list _ body).popped.exitTrapTail _

theorem runShell_le (n : Nat) (s : St) (script : List Line) :
    Le (runShell n s script) (runShell (n+1) s script) := by
  rw [runShell_eq, runShell_eq]
  exact (runScript_le n s script).shellTail (runExitTrap_le n)

theorem le_add {α : Type} (f : Nat → α) (bad : α → Prop)
    (h : ∀ n, bad (f n) ∨ f n = f (n+1)) (n k : Nat) (hn : ¬ bad (f n)) : f (n+k) = f n := by
  induction k with
  | zero => rfl
  | succ k ih =>
    have h1 := h (n+k)
    rw [ih] at h1
    rcases h1 with h1 | h1
    · exact absurd h1 hn
    · rw [← Nat.add_assoc, ← h1]

theorem le_unique {α : Type} (f : Nat → α) (bad : α → Prop)
    (h : ∀ n, bad (f n) ∨ f n = f (n+1)) (n m : Nat) (hn : ¬ bad (f n)) (hm : ¬ bad (f m)) : f n = f m := by
  rcases Nat.le_total n m with hle | hle <;> obtain ⟨k, rfl⟩ := Nat.exists_eq_add_of_le hle
  · exact (le_add f bad h n k hn).symm
  · exact le_add f bad h m k hm

end YashModel.Exec
