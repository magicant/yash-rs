/-
  Composition: the name classes of `Exec.Model.classify` are the transcribed command search
  (`Search.runSimple`) run in the environment the harness installs.
-/
import YashModel.Exec.SearchEnv
import YashModel.Exec.SearchLemmas
namespace YashModel.Exec
open Search

theorem toDigits_injective {a b : Nat} (h : Nat.toDigits 10 a = Nat.toDigits 10 b) : a = b := by
  rw [← @Nat.ofDigitChars_ten_toDigits a, h, Nat.ofDigitChars_ten_toDigits]

theorem nameStr_injective {a b : Name} (h : nameStr a = nameStr b) : a = b := by
  -- a function name begins with `f`; the other six words are closed and pairwise different
  cases a with
  | f k =>
    cases b with
    | f k' => exact congrArg Name.f (toDigits_injective (List.cons.inj h).2)
    | _ => exact absurd (List.cons.inj h).1 (by decide)
  | _ =>
    cases b with
    | f k' => exact absurd (List.cons.inj h).1 (by decide)
    | _ => first | rfl | exact absurd h (by decide)

theorem mem_names_iff (funcs : List (Name × Cmd)) (n : Name) :
    nameStr n ∈ funcs.map (fun p => nameStr p.1) ↔ (lookupFn funcs n).isSome = true := by
  induction funcs with
  | nil => simp [lookupFn]
  | cons p rest ih =>
    obtain ⟨m, c⟩ := p
    simp only [List.map_cons, List.mem_cons, lookupFn]
    by_cases h : m = n
    · subst h; simp
    · have : nameStr n ≠ nameStr m := fun e => h (nameStr_injective e).symm
      simp [h, this, ih]

theorem digits_no_slash (k : Nat) : '/' ∉ Nat.toDigits 10 k := by
  intro h
  have := Nat.isDigit_of_mem_toDigits (by decide) (by decide) h
  exact absurd this (by decide)

/-- in the harness environment, for a name without a slash that is no special built-in, the functions
    matter only through one membership test -/
theorem envWith_specRun_functions (F : List Str) (w : Str) (hs : '/' ∉ w)
    (hv : visible (envWith []) w ≠ some .special) :
    specRun (envWith F) w = if w ∈ F then .function else specRun (envWith []) w := by
  have hs' : ¬ w.contains '/' = true := by simpa using hs
  unfold specRun
  rw [if_neg hs', if_neg hs', if_neg (show ¬ visible (envWith F) w = _ from hv), if_neg hv]
  simp only [envWith, List.contains_eq_mem, decide_eq_true_eq, List.not_mem_nil, if_false]
  rfl

theorem envWith_specRun (F : List Str) (n : Name) :
    specRun (envWith F) (nameStr n) =
      match n with
      | .colon => .builtin .special []
      | .xtPath => .exec (nameStr .xtPath)
      | .true_ => if nameStr n ∈ F then .function else .builtin .mandatory []
      | .sbIn => if nameStr n ∈ F then .function
                 else .builtin .substitutive ['/', 'b', 'i', 'n', '/', 's', 'b', 'i', 'n']
      | .sbOut => if nameStr n ∈ F then .function else .status 127
      | .xtIn => if nameStr n ∈ F then .function
                 else .exec ['/', 'b', 'i', 'n', '/', 'x', 't', 'i', 'n']
      | .f _ => if nameStr n ∈ F then .function else .status 127 := by
  cases n with
  | f k =>
    have hs : '/' ∉ nameStr (.f k) := by
      simp only [nameStr, List.mem_cons, not_or]
      exact ⟨by decide, digits_no_slash k⟩
    -- `f…` differs from every built-in and every file of the environment in its first letter
    have hv : visible (envWith []) (nameStr (.f k)) = none := rfl
    have h127 : specRun (envWith []) (nameStr (.f k)) = .status 127 := by
      unfold specRun
      rw [if_neg (by simpa using hs), hv]
      rfl
    rw [envWith_specRun_functions F _ hs (by rw [hv]; nofun), h127]
  | colon => rfl
  | xtPath => rfl
  | true_ => rw [envWith_specRun_functions F _ (by decide) (by decide)]; rfl
  | sbIn => rw [envWith_specRun_functions F _ (by decide) (by decide)]; rfl
  | sbOut => rw [envWith_specRun_functions F _ (by decide) (by decide)]; rfl
  | xtIn => rw [envWith_specRun_functions F _ (by decide) (by decide)]; rfl

end YashModel.Exec
