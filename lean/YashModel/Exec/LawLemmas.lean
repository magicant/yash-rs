/-
  Lemmas for the algebraic laws of the command language (Exec/Theorems.lean, section `Laws`).
-/
import YashModel.Exec.Balance
import YashModel.Exec.FuelMono
namespace YashModel.Exec

/-- `{ c; }` as a list: the command, then the poll for caught signals that ends every command.  Running it takes four
    units of fuel more than `c` (list, and-or list, pipeline, command sequence), a group around it a fifth: these are
    the offsets 4, 5, 6, 8 of the laws, and the reason for the small cases `0 … 4` where the fuel does not reach `c` -/
def wrap (c : Cmd) : List Item := [.mk (.mk false [c]) []]

def condPos (cmds : List Cmd) : List Item := [.mk (.mk false cmds) []]

def condNeg (cmds : List Cmd) : List Item := [.mk (.mk true cmds) []]

/-- what `!` does to a completed condition -/
def flipStatus : St × Res → St × Res
  | (t, .continue_) => ({ t with status := if t.status = 0 then 1 else 0 }, .continue_)
  | x => x

theorem lift_cmd (n k : Nat) (s : St) (c : Cmd) (h : (execCmd n s c).2 ≠ .outOfFuel) :
    execCmd (n+k) s c = execCmd n s c :=
  le_add (fun n => execCmd n s c) (fun x => x.2 = .outOfFuel) (fun n => (mono_all n).cmd s c) n k h
theorem fuel_irrelevant_list (n k : Nat) (s : St) (l : List Item) (h : (execList n s l).2 ≠ .outOfFuel) :
    execList (n+k) s l = execList n s l :=
  le_add (fun n => execList n s l) (fun x => x.2 = .outOfFuel) (fun n => (mono_all n).list s l) n k h
theorem lift_pipe (n k : Nat) (s : St) (p : Pipeline) (h : (execPipeline n s p).2 ≠ .outOfFuel) :
    execPipeline (n+k) s p = execPipeline n s p :=
  le_add (fun n => execPipeline n s p) (fun x => x.2 = .outOfFuel) (fun n => (mono_all n).pipe s p) n k h
theorem lift_cmds (n k : Nat) (s : St) (cs : List Cmd) (h : (execCommands n s cs).2 ≠ .outOfFuel) :
    execCommands (n+k) s cs = execCommands n s cs :=
  le_add (fun n => execCommands n s cs) (fun x => x.2 = .outOfFuel) (fun n => (mono_all n).cmds s cs) n k h
theorem lift_elifs (n k : Nat) (s : St) (e : List (List Item × List Item)) (els : Option (List Item))
    (h : (execElifs n s e els).2 ≠ .outOfFuel) : execElifs (n+k) s e els = execElifs n s e els :=
  le_add (fun n => execElifs n s e els) (fun x => x.2 = .outOfFuel) (fun n => (mono_all n).elifs s e els) n k h

/-- a second `Condition` frame is invisible: what runs under it is what runs without it -/
theorem cmds_under_condition (f : Nat) (t : St) (st : List Frame) (cs : List Cmd) (h : t.stack = .condition :: st) :
    popped (execCommands f (t.push .condition) cs) = execCommands f t cs := by
  rw [(sim f).cmds (t.push .condition) t.stack cs, (sim f).cmds t t.stack cs, push_stack, popped_putStack, h,
    ctxOf_condition, ctxOf_condition]
  rfl

theorem pipe_under_condition (f : Nat) (t : St) (st : List Frame) (p : Pipeline) (h : t.stack = .condition :: st) :
    popped (execPipeline f (t.push .condition) p) = execPipeline f t p := by
  rw [(sim f).pipe (t.push .condition) t.stack p, (sim f).pipe t t.stack p, push_stack, popped_putStack, h,
    ctxOf_condition, ctxOf_condition]
  rfl

theorem execList_wrap (n : Nat) (s : St) (c : Cmd) (ht : (execCmd n s c).1.trapDue = none) :
    execList (n+4) s (wrap c) = execCmd n s c := by
  rw [wrap, execList_single, execItem_single, execPipeline_plain, execCommands_single, pollWith_none _ _ _ ht]

theorem execCmd_group_single (f : Nat) (s : St) (it : Item) : execCmd (f+2) s (.group [it]) = execItem f s it := by
  rw [execCmd_group, execList_single]

theorem flipStatus_of_ne (t : St) {r : Res} (h : r ≠ .continue_) : flipStatus (t, r) = (t, r) := by
  cases r <;> first | rfl | exact absurd rfl h

theorem cond_neg_is_flip (f : Nat) (t : St) (st : List Frame) (cmds : List Cmd)
    (hst : t.stack = .condition :: st) :
    execList f t (condNeg cmds) = flipStatus (execList f t (condPos cmds)) := by
  match f with
  | 0 | 1 | 2 => rfl
  | f+3 =>
    simp only [condNeg, condPos, execList_cons, execItem_single, execPipeline_negated, execPipeline_plain,
      cmds_under_condition f t st cmds hst]
    generalize execCommands f t cmds = x
    obtain ⟨t1, r⟩ := x
    cases r <;> rfl

theorem popped_flipStatus (x : St × Res) : popped (flipStatus x) = flipStatus (popped x) := by
  obtain ⟨t, r⟩ := x
  cases r <;> rfl

/-- a round of `until` is the round of `while` after `!` has turned the condition's status round — the two test the same
    thing — for a body that does not read the `$?` it starts with, when the loops that follow agree -/
theorem whileRound_flip (e : Nat) (x : St × Res) (body : St → St × Res) (loop loop' : St → Nat → St × (Res × Nat))
    (hbody : ∀ t k, (body t).2 ≠ .outOfFuel → body { t with status := k } = body t)
    (hloop : ∀ s e, (whilePost (loop s e)).2 ≠ .outOfFuel → whilePost (loop s e) = whilePost (loop' s e)) :
    (whilePost (whileRound true e x body loop)).2 ≠ .outOfFuel →
      whilePost (whileRound true e x body loop) = whilePost (whileRound false e (flipStatus x) body loop') := by
  obtain ⟨u, r⟩ := x
  rcases loopStep_cases r with rfl | rfl | rfl | ⟨r', hl⟩
  · simp only [flipStatus, whileRound, loopCtl, loopStep_continue, afterContinue]
    by_cases h0 : u.status = 0
    · simp [h0, whilePost]
    · simp only [h0, if_false]
      rw [if_pos (by simp), if_pos (by simp)]
      by_cases hoof : (body u).2 = .outOfFuel
      · intro hne
        exact absurd (by simp only [show loopStep (body u).2 = .out .outOfFuel by rw [hoof]; rfl]; rfl) hne
      · rw [hbody u 0 hoof]
        generalize body u = y
        obtain ⟨s2, r2⟩ := y
        rcases loopStep_cases r2 with rfl | rfl | rfl | ⟨r', hl⟩
        · exact hloop _ _
        · exact hloop _ _
        · intro _; rfl
        · simp only [hl]; exact fun _ => trivial
  · exact hloop _ _
  · intro _; rfl
  · have hne : r ≠ .continue_ := by rintro rfl; cases hl
    rw [flipStatus_of_ne _ hne]
    simp only [whileRound, loopCtl, hl]
    exact fun _ => trivial

theorem until_while_post (cmds : List Cmd) (body : List Item)
    (hbody : ∀ (g : Nat) (t : St) (k : Nat), (execList g t body).2 ≠ .outOfFuel →
      execList g { t with status := k } body = execList g t body) :
    ∀ (f : Nat) (s : St) (e : Nat), (whilePost (execWhile f s true (condPos cmds) body e)).2 ≠ .outOfFuel →
      whilePost (execWhile f s true (condPos cmds) body e) = whilePost (execWhile f s false (condNeg cmds) body e) := by
  intro f
  induction f with
  | zero => intro s e h; exact absurd rfl h
  | succ f ih =>
    intro s e
    rw [execWhile_succ, execWhile_succ, cond_neg_is_flip f (s.push .condition) s.stack cmds rfl, popped_flipStatus]
    exact whileRound_flip e _ _ _ _ (hbody f) ih

theorem whilePost_popped (x : St × (Res × Nat)) : whilePost (popped x) = popped (whilePost x) := by
  obtain ⟨s1, r, e⟩ := x
  cases r <;> rfl

/-- a list that begins with a command setting `$?` does not depend on the `$?` it starts with -/
theorem list_after_st (n : Nat) (rest : List Item) (g : Nat) (t : St) (k : Nat)
    (h : (execList g t (.mk (.mk false [.st n]) [] :: rest)).2 ≠ .outOfFuel) :
    execList g { t with status := k } (.mk (.mk false [.st n]) [] :: rest) =
      execList g t (.mk (.mk false [.st n]) [] :: rest) := by
  match g with
  | 0 | 1 | 2 | 3 | 4 => exact absurd rfl h
  | g+5 => rfl

end YashModel.Exec
