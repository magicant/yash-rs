/-
  The command-search environment of the program runs (C02/C10): what `harness/src/prog.rs::observe`
  installs — the built-ins `:` (special, from yash-builtin), `ok` (mandatory), `sbin`/`sbout`
  (substitutive), `PATH=/nonexistent:/bin`, the executable files `/bin/sbin` and `/bin/xtin` — and the
  functions the program has defined so far.  With it the name classes of `Exec.Model.classify` are
  instances of the transcribed search (`Search.runSimple`) instead of a stand-in: theorem
  `classify_is_search` (Exec/SearchTheorems.lean, lemmas in Exec/SearchCompose.lean).  Import-free.
-/
import YashModel.Exec.Model
import YashModel.Exec.Search
namespace YashModel.Exec

/-- the word a `Name` is rendered as (harness/src/prog.rs `NAMES`) -/
def nameStr : Name → Search.Str
  | .f k => 'f' :: Nat.toDigits 10 k
  | .true_ => ['o', 'k']
  | .colon => [':']
  | .sbIn => ['s', 'b', 'i', 'n']
  | .sbOut => ['s', 'b', 'o', 'u', 't']
  | .xtIn => ['x', 't', 'i', 'n']
  | .xtPath => ['/', 'b', 'i', 'n', '/', 'x', 't', 'i', 'n']

/-- the search environment the harness installs, with the function names `fs` -/
def envWith (fs : List Search.Str) : Search.Env :=
  { builtins := [([':'], .special), (['o', 'k'], .mandatory),
                 (['s', 'b', 'i', 'n'], .substitutive), (['s', 'b', 'o', 'u', 't'], .substitutive)],
    functions := fs,
    path := .scalar ['/', 'n', 'o', 'n', 'e', 'x', 'i', 's', 't', 'e', 'n', 't', ':', '/', 'b', 'i', 'n'],
    execs := [['/', 'b', 'i', 'n', '/', 's', 'b', 'i', 'n'], ['/', 'b', 'i', 'n', '/', 'x', 't', 'i', 'n']] }

/-- the search environment of a program run whose function table is `funcs` -/
def harnessEnv (funcs : List (Name × Cmd)) : Search.Env := envWith (funcs.map fun p => nameStr p.1)

/-- what running a search outcome amounts to in those runs: a function body to execute, or just an exit
    status — `:`, `ok`, `sbin`, `sbout` return 0, the simulated `execve` fails with ENOSYS (126 = NOEXEC) -/
def outcomeEffect (funcs : List (Name × Cmd)) (n : Name) : Search.Outcome → Sum Cmd Nat
  | .builtin _ _ => .inr 0
  | .function => match lookupFn funcs n with | some b => .inl b | none => .inr Generated.ExecTables.NOT_FOUND
  | .exec _ => .inr Generated.ExecTables.NOEXEC
  | .status k => .inr k

/-- the same view of `Exec.Model`'s `Target` -/
def Target.effect : Target → Sum Cmd Nat
  | .specialColon => .inr 0
  | .function b => .inl b
  | .regularTrue => .inr 0
  | .notFound => .inr 127
  | .status n => .inr n

end YashModel.Exec
