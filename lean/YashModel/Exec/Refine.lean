/-
  C02/C10: the Impl model (frame stack, push/pop) is the Spec (contexts).  `Sim`: every execution function is the
  Spec's run in the context its stack stands for, with the stack put back — an induction on fuel over the eleven
  functions that rewrites with the step equations; the script and the shell likewise.  `Ref` states the same as a
  relation.
-/
import YashModel.Exec.Step
namespace YashModel.Exec

/-- the Spec context that a frame stack stands for -/
def ctxOf (stack : List Frame) : Ctx :=
  ⟨loops stack, stack.contains .condition, stack.contains .trap || stack.contains .subshell⟩

/-- `b` is `a` except possibly for the frame stack (which the Spec never looks at) -/
def SameButStack (a b : St) : Prop := ∃ st, b = { a with stack := st }

def RelS (x y : St × Res) : Prop := SameButStack x.1 y.1 ∧ x.2 = y.2

theorem sbs_refl (s : St) : SameButStack s s := ⟨s.stack, rfl⟩

@[simp] theorem ctxOf_condition (st : List Frame) : ctxOf (.condition :: st) = (ctxOf st).cond := by
  simp [ctxOf, Ctx.cond]
@[simp] theorem ctxOf_loop (st : List Frame) : ctxOf (.loop :: st) = (ctxOf st).inLoop := by
  simp [ctxOf, Ctx.inLoop]; omega
@[simp] theorem ctxOf_subshell (st : List Frame) : ctxOf (.subshell :: st) = (ctxOf st).sub := by
  simp [ctxOf, Ctx.sub]
@[simp] theorem ctxOf_trapFrame (st : List Frame) : ctxOf (.trap :: st) = (ctxOf st).trap := by
  simp [ctxOf, Ctx.trap]

theorem trapDue_eq (s : St) (st : List Frame) :
    s.trapDue = trapDueS (ctxOf s.stack) { s with stack := st } := by
  unfold St.trapDue trapDueS ctxOf
  cases s.pending <;> cases s.stack.contains .trap <;> cases s.stack.contains .subshell <;> simp

theorem ctxOf_cond_loops (st : List Frame) : (ctxOf st).cond.loops = (ctxOf st).loops := rfl

theorem applyErrexit_eq (s : St) (st : List Frame) :
    s.applyErrexit = errexitS (ctxOf s.stack) { s with stack := st } := by
  unfold St.applyErrexit St.errexitApplicable errexitS ctxOf
  cases h1 : s.errexit <;> cases h2 : s.stack.contains .condition <;> simp [h1, h2]

theorem expansionError_eq (s : St) (st : List Frame) :
    s.expansionError = expansionErrorS (ctxOf s.stack) { s with stack := st } := by
  unfold St.expansionError St.errexitApplicable expansionErrorS ctxOf
  cases h1 : s.errexit <;> cases h2 : s.stack.contains .condition <;> simp [h1, h2]

theorem breakBuiltin_eq (stack : List Frame) (n : Nat) (b : Bool) :
    breakBuiltin (.builtin true :: stack) n b = breakS (ctxOf stack) n b := by
  unfold breakBuiltin breakS ctxOf
  simp only [loopCount_eq_min, loops_builtin]

theorem classify_stack (s : St) (st : List Frame) (n : Name) :
    classify { s with stack := st } n = classify s n := by
  cases n <;> rfl

/-- the subshell around a job-controlled pipeline is invisible to the Spec context of its members -/
theorem ctxOf_enterJc_sub (s : St) : (ctxOf s.enterJc.stack).sub = (ctxOf s.stack).sub := by
  rw [enterJc_stack]; split <;> rfl

/-! ### putting the stack back commutes with the operators -/

theorem popped_putStack {α : Type} (f : Frame) (st : List Frame) (y : St × α) :
    popped (putStack (f :: st) y) = putStack st y := rfl

theorem andThen_putStack (st : List Frame) (y : St × Res) (k k' : St → St × Res)
    (h : ∀ s1, k { s1 with stack := st } = putStack st (k' s1)) :
    andThen (putStack st y) k = putStack st (andThen y k') := by
  obtain ⟨s1, r⟩ := y
  cases r with
  | continue_ => exact h s1
  | _ => rfl

theorem andThenPop_putStack (fr : Frame) (st : List Frame) (y : St × Res) (k k' : St → St × Res)
    (h : ∀ s1, k { s1 with stack := fr :: st } = putStack st (k' s1)) :
    andThenPop (putStack (fr :: st) y) k = putStack st (andThen y k') := by
  obtain ⟨s1, r⟩ := y
  cases r with
  | continue_ => exact h s1
  | _ => rfl

theorem loopCtl_putStack {α : Type} (st : List Frame) (y : St × Res) (stop : Nat → α) (out : Res → α)
    (next next' : St → St × α) (h : ∀ s1, next { s1 with stack := st } = putStack st (next' s1)) :
    loopCtl (putStack st y) stop out next = putStack st (loopCtl y stop out next') := by
  obtain ⟨s1, r⟩ := y
  simp only [loopCtl, putStack]
  cases loopStep r with
  | next => exact h s1
  | _ => rfl

theorem afterContinue_putStack {α : Type} (st : List Frame) (r : Res) {a b a' b' : St × α}
    (ha : a = putStack st a') (hb : b = putStack st b') :
    afterContinue r a b = putStack st (afterContinue r a' b') := by
  subst ha hb
  unfold afterContinue
  split <;> rfl

theorem whileRound_putStack (st : List Frame) (u : Bool) (e : Nat) (y : St × Res) (body body' : St → St × Res)
    (loop loop' : St → Nat → St × (Res × Nat))
    (hb : ∀ s1, body { s1 with stack := st } = putStack st (body' s1))
    (hl : ∀ s1 k, loop { s1 with stack := st } k = putStack st (loop' s1 k)) :
    whileRound u e (putStack st y) body loop = putStack st (whileRound u e y body' loop') := by
  refine loopCtl_putStack _ _ _ _ _ _ fun s1 => afterContinue_putStack _ _ (hl s1 e) ?_
  rw [apply_ite (putStack st), hb s1]
  refine ite_congr rfl (fun _ => ?_) (fun _ => rfl)
  exact loopCtl_putStack _ _ _ _ _ _ fun s2 => afterContinue_putStack _ _ (hl s2 e) (hl s2 _)

theorem whilePost_putStack (st : List Frame) (y : St × (Res × Nat)) :
    whilePost (putStack st y) = putStack st (whilePost y) := by
  obtain ⟨s1, r, e⟩ := y
  cases r <;> rfl

theorem caseNext_putStack (st : List Frame) (y : St × Res) (u u1 : Bool) (k : CaseCont)
    (next next' : St → Bool → St × Res × Bool)
    (h : ∀ s1 fl, next { s1 with stack := st } fl = putStack st (next' s1 fl)) :
    caseNext (putStack st y) u u1 k next = putStack st (caseNext y u u1 k next') := by
  obtain ⟨s1, r⟩ := y
  cases r with
  | continue_ => cases k with
    | break_ => rfl
    | _ => exact h s1 _
  | _ => rfl

theorem casePost_putStack (st : List Frame) (y : St × Res × Bool) :
    casePost (putStack st y) = putStack st (casePost y) := by
  obtain ⟨s1, r, u⟩ := y
  cases r with
  | continue_ => cases u <;> rfl
  | _ => rfl

theorem joinSub_putStack (s : St) (st st1 : List Frame) (y : St × Res) (k k' : St → St × Res)
    (h : ∀ c2, k { c2 with stack := st1 } = putStack s.stack (k' c2)) :
    joinSub s (putStack st1 y) k = putStack s.stack (joinSub { s with stack := st } y k') := by
  obtain ⟨c1, r⟩ := y
  cases r with
  | outOfFuel => rfl
  | _ => simp only [joinSub, putStack, applyResult_withStack]; exact h _

/-- `ctx` and `stk` are variables so that the simple commands, whose two sides only reduce to this shape, unify -/
theorem finishSimple_putStack (a : St) (st stk : List Frame) (ctx : Ctx) (r : Res) (hctx : ctx = ctxOf a.stack)
    (hs : stk = a.stack) : finishSimple a r = putStack stk (afterSimple ctx { a with stack := st } r) := by
  subst hctx hs
  cases r with
  | continue_ => simp only [finishSimple, afterSimple, putStack, applyErrexit_eq a st]
  | _ => rfl

theorem callTail_putStack (st : List Frame) (n : Nat) (y : St × Res) :
    callTail finishSimple n (putStack st y) = putStack st (callTail (afterSimple (ctxOf st)) n y) := by
  obtain ⟨s1, r⟩ := y
  cases r with
  | break_ d => cases d with
    | return_ e => cases e <;> simp only [callTail, putStack] <;> exact finishSimple_putStack _ s1.stack _ _ _ rfl rfl
    | _ => simp only [callTail, putStack]; exact finishSimple_putStack _ s1.stack _ _ _ rfl rfl
  | _ => simp only [callTail, putStack]; exact finishSimple_putStack _ s1.stack _ _ _ rfl rfl

theorem callTarget_putStack (run : St → Cmd → St × Res) (runS : St → Cmd → St × Res) (s : St) (st : List Frame)
    (nargs : Nat) (t : Target)
    (h : ∀ c, run { s with params := nargs } c = putStack s.stack (runS { s with stack := st, params := nargs } c)) :
    callTarget finishSimple run s nargs t =
      putStack s.stack (callTarget (afterSimple (ctxOf s.stack)) runS { s with stack := st } nargs t) := by
  cases t with
  | function body =>
    simp only [callTarget]
    rw [h]
    exact callTail_putStack _ _ _
  | _ => simp only [callTarget]; exact finishSimple_putStack _ st _ _ _ rfl rfl

theorem pollCtl_putStack (due : Option (List Item)) (act act' : List Item → St × Res) (s1 : St) (st : List Frame)
    (r : Res) (h : ∀ body, act body = putStack st (act' body)) :
    pollCtl due act { s1 with stack := st } r = putStack st (pollCtl due act' s1 r) := by
  cases r with
  | outOfFuel => rfl
  | _ => cases due with
    | none => rfl
    | some body => simp only [pollCtl]; rw [finishPoll_eq, finishPoll_eq, h]; rfl

theorem pollWith_putStack (run : St → List Item → St × Res) (runS : Ctx → St → List Item → St × Res)
    (hrun : ∀ s st l, run s l = putStack s.stack (runS (ctxOf s.stack) { s with stack := st } l))
    (s1 : St) (st : List Frame) (r : Res) :
    pollWith run { s1 with stack := st } r = putStack st (pollWithS runS (ctxOf st) s1 r) := by
  rw [pollWith_eq, pollWithS_eq, trapDue_eq { s1 with stack := st } s1.stack]
  refine pollCtl_putStack _ _ _ _ _ _ fun body => ?_
  rw [hrun _ s1.stack body]
  dsimp only [St.push]
  rw [ctxOf_trapFrame]
  rfl

theorem leaveJc_putStack (s y : St) : s.leaveJc { y with stack := s.enterJc.stack } = { y with stack := s.stack } := by
  rw [leaveJc_eq, leaveJc_stack_eq, enterJc_stack]; split <;> rfl

theorem enterJc_with_stack (s : St) (st : List Frame) : ({ s.enterJc with stack := st } : St) = { s with stack := st } := by
  rw [enterJc_eq]

/-- a run is the Spec run in the context its stack stands for, with the stack put back; the Spec's start state may
    carry any stack, since the Spec never looks at it.  `specWhile`, `specFor`, `specAndOrRest` are given the context
    *outside* the `Loop` resp. `Condition` frame the model runs them under, hence `s.stack = f :: st` in these fields;
    `aor` alone puts back `st`: `execAndOrRest` takes the `Condition` frame off itself, before its last pipeline -/
structure Sim (fuel : Nat) : Prop where
  cmd : ∀ s st c, execCmd fuel s c = putStack s.stack (specCmd fuel (ctxOf s.stack) { s with stack := st } c)
  elifs : ∀ s st e els,
    execElifs fuel s e els = putStack s.stack (specElifs fuel (ctxOf s.stack) { s with stack := st } e els)
  while_ : ∀ s st' u c b e st, s.stack = .loop :: st →
    execWhile fuel s u c b e = putStack s.stack (specWhile fuel (ctxOf st) { s with stack := st' } u c b e)
  for_ : ∀ s st' n b st, s.stack = .loop :: st →
    execFor fuel s n b = putStack s.stack (specFor fuel (ctxOf st) { s with stack := st' } n b)
  case_ : ∀ s st items f u,
    execCase fuel s items f u = putStack s.stack (specCase fuel (ctxOf s.stack) { s with stack := st } items f u)
  list : ∀ s st l, execList fuel s l = putStack s.stack (specList fuel (ctxOf s.stack) { s with stack := st } l)
  item : ∀ s st i, execItem fuel s i = putStack s.stack (specItem fuel (ctxOf s.stack) { s with stack := st } i)
  aor : ∀ s st' r st, s.stack = .condition :: st →
    execAndOrRest fuel s r = putStack st (specAndOrRest fuel (ctxOf st) { s with stack := st' } r)
  pipe : ∀ s st p, execPipeline fuel s p = putStack s.stack (specPipeline fuel (ctxOf s.stack) { s with stack := st } p)
  cmds : ∀ s st cs,
    execCommands fuel s cs = putStack s.stack (specCommands fuel (ctxOf s.stack) { s with stack := st } cs)
  members : ∀ s st cs k,
    execPipeMembers fuel s cs k = putStack s.stack (specPipeMembers fuel (ctxOf s.stack) { s with stack := st } cs k)

theorem sim_zero : Sim 0 where
  cmd _ _ _ := rfl
  elifs _ _ _ _ := rfl
  while_ _ _ _ _ _ _ _ _ := rfl
  for_ _ _ _ _ _ _ := rfl
  case_ _ _ _ _ _ := rfl
  list _ _ _ := rfl
  item _ _ _ := rfl
  aor s _ _ _ h := by rw [execAndOrRest, specAndOrRest]; simp only [putStack, St.pop, h, List.tail_cons]
  pipe _ _ _ := rfl
  cmds _ _ _ := rfl
  members _ _ _ _ := rfl

theorem sim_list (f : Nat) (ih : Sim f) (s : St) (st : List Frame) (l : List Item) :
    execList (f+1) s l = putStack s.stack (specList (f+1) (ctxOf s.stack) { s with stack := st } l) := by
  cases l with
  | nil => rfl
  | cons it rest =>
    rw [execList_cons, specList_cons, ih.item s st it]
    exact andThen_putStack _ _ _ _ fun s1 => ih.list { s1 with stack := s.stack } s1.stack rest

theorem sim_item (f : Nat) (ih : Sim f) (s : St) (st : List Frame) (i : Item) :
    execItem (f+1) s i = putStack s.stack (specItem (f+1) (ctxOf s.stack) { s with stack := st } i) := by
  match i with
  | .mk p [] => exact ih.pipe s st p
  | .mk p (a :: t) =>
    rw [execItem_cons, specItem_cons, ih.pipe (s.push .condition) st p, push_stack, ctxOf_condition]
    exact andThenPop_putStack _ _ _ _ _ fun s1 => ih.aor { s1 with stack := .condition :: s.stack } s1.stack (a :: t) _ rfl

theorem sim_aor (f : Nat) (ih : Sim f) (s : St) (st' : List Frame) (r : List (Bool × Pipeline)) (st : List Frame)
    (hst : s.stack = .condition :: st) :
    execAndOrRest (f+1) s r = putStack st (specAndOrRest (f+1) (ctxOf st) { s with stack := st' } r) := by
  have hp : s.pop.stack = st := by rw [pop_stack, hst]; rfl
  match r with
  | [] => rw [← hp]; rfl
  | [(a, p)] =>
    rw [execAndOrRest_last, specAndOrRest_last, apply_ite (putStack st), ← hp]
    exact ite_congr rfl (fun _ => ih.pipe s.pop st' p) (fun _ => rfl)
  | (a, p) :: q :: t =>
    rw [execAndOrRest_cons, specAndOrRest_cons, apply_ite (putStack st)]
    refine ite_congr rfl (fun _ => ?_) (fun _ => ih.aor s st' (q :: t) st hst)
    rw [ih.pipe s st' p, hst, ctxOf_condition]
    exact andThenPop_putStack _ _ _ _ _ fun s1 => ih.aor { s1 with stack := .condition :: st } s1.stack (q :: t) _ rfl

theorem sim_pipe (f : Nat) (ih : Sim f) (s : St) (st : List Frame) (p : Pipeline) :
    execPipeline (f+1) s p = putStack s.stack (specPipeline (f+1) (ctxOf s.stack) { s with stack := st } p) := by
  match p with
  | .mk false cs => exact ih.cmds s st cs
  | .mk true cs =>
    rw [execPipeline_negated, specPipeline_negated, ih.cmds (s.push .condition) st cs, push_stack, popped_putStack,
      ctxOf_condition]
    exact andThen_putStack _ _ _ _ fun _ => rfl

theorem sim_cmds (f : Nat) (ih : Sim f) (s : St) (st : List Frame) (cs : List Cmd) :
    execCommands (f+1) s cs = putStack s.stack (specCommands (f+1) (ctxOf s.stack) { s with stack := st } cs) := by
  match cs with
  | [] => rfl
  | [c] =>
    rw [execCommands_single, specCommands_single, ih.cmd s st c]
    exact pollWith_putStack _ _ (fun a b l => ih.list a b l) _ _ _
  | c :: d :: t =>
    rw [execCommands_many, specCommands_many, ih.members s.enterJc st _ 0, enterJc_with_stack,
      specPipeMembers_sub f (ctxOf s.enterJc.stack) (ctxOf s.stack) _ _ _ (ctxOf_enterJc_sub s)]
    simp only [putStack, leaveJc_putStack]
    exact andThen_putStack s.stack _ _ _ fun s1 => by rw [applyErrexit_eq _ s1.stack]; rfl

theorem sim_members (f : Nat) (ih : Sim f) (s : St) (st : List Frame) (cs : List Cmd) (k : Nat) :
    execPipeMembers (f+1) s cs k =
      putStack s.stack (specPipeMembers (f+1) (ctxOf s.stack) { s with stack := st } cs k) := by
  cases cs with
  | nil => rfl
  | cons c rest =>
    rw [execPipeMembers_cons, specPipeMembers_cons, ih.cmd (s.push .subshell) st c, push_stack, ctxOf_subshell]
    exact joinSub_putStack _ _ _ _ _ _ fun c2 => ih.members { s with trace := c2.trace, pending := c2.pending } st rest _

theorem sim_elifs (f : Nat) (ih : Sim f) (s : St) (st : List Frame) (e : List (List Item × List Item))
    (els : Option (List Item)) :
    execElifs (f+1) s e els = putStack s.stack (specElifs (f+1) (ctxOf s.stack) { s with stack := st } e els) := by
  match e, els with
  | [], none => rfl
  | [], some l => exact ih.list s st l
  | (cond, body) :: rest, els =>
    rw [execElifs_cons, specElifs_cons, ih.list (s.push .condition) st cond, push_stack, popped_putStack,
      ctxOf_condition]
    refine andThen_putStack _ _ _ _ fun s1 => ?_
    rw [apply_ite (putStack s.stack)]
    exact ite_congr rfl (fun _ => ih.list { s1 with stack := s.stack } s1.stack body)
      (fun _ => ih.elifs { s1 with stack := s.stack } s1.stack rest els)

theorem sim_for (f : Nat) (ih : Sim f) (s : St) (st' : List Frame) (n : Nat) (b : List Item) (st : List Frame)
    (hst : s.stack = .loop :: st) :
    execFor (f+1) s n b = putStack s.stack (specFor (f+1) (ctxOf st) { s with stack := st' } n b) := by
  cases n with
  | zero => rfl
  | succ n =>
    rw [execFor_succ, specFor_succ, ih.list s st' b, hst, ctxOf_loop]
    exact loopCtl_putStack _ _ _ _ _ _ fun s1 => ih.for_ { s1 with stack := .loop :: st } s1.stack n b st rfl

theorem sim_case (f : Nat) (ih : Sim f) (s : St) (st : List Frame) (items : List (Bool × Bool × List Item × CaseCont))
    (fl u : Bool) :
    execCase (f+1) s items fl u = putStack s.stack (specCase (f+1) (ctxOf s.stack) { s with stack := st } items fl u) := by
  match items with
  | [] => rfl
  | (m, e, body, k) :: rest =>
    rw [execCase_cons, specCase_cons, apply_ite (putStack s.stack), apply_ite (putStack s.stack)]
    refine ite_congr rfl (fun _ => ?_) fun _ => ite_congr rfl (fun _ => ih.case_ s st rest false u) fun _ => ?_
    · rw [expansionError_eq s st]; rfl
    · rw [ih.list s st body]
      exact caseNext_putStack _ _ _ _ _ _ _ fun s1 fl => ih.case_ { s1 with stack := s.stack } s1.stack rest fl _

theorem sim_while (f : Nat) (ih : Sim f) (s : St) (st' : List Frame) (u : Bool) (c b : List Item) (e : Nat)
    (st : List Frame) (hst : s.stack = .loop :: st) :
    execWhile (f+1) s u c b e = putStack s.stack (specWhile (f+1) (ctxOf st) { s with stack := st' } u c b e) := by
  rw [execWhile_succ, specWhile_succ, ih.list (s.push .condition) st' c, push_stack, popped_putStack, hst,
    ctxOf_condition, ctxOf_loop]
  exact whileRound_putStack _ _ _ _ _ _ _ _
    (fun s1 => by rw [ih.list { s1 with stack := .loop :: st } s1.stack b, ctxOf_loop])
    (fun s1 k => ih.while_ { s1 with stack := .loop :: st } s1.stack u c b k st rfl)

theorem sim_forLoop (f : Nat) (ih : Sim f) (s : St) (st : List Frame) (values : Nat) (body : List Item) :
    execCmd (f+1) s (.forLoop values body) =
      putStack s.stack (specCmd (f+1) (ctxOf s.stack) { s with stack := st } (.forLoop values body)) := by
  rw [execCmd_forLoop, specCmd_forLoop, apply_ite (putStack s.stack)]
  refine ite_congr rfl (fun _ => rfl) fun _ => ?_
  rw [ih.for_ (s.push .loop) st values body s.stack rfl, push_stack, popped_putStack]
  rfl

theorem sim_cmd (f : Nat) (ih : Sim f) (s : St) (st : List Frame) (c : Cmd) :
    execCmd (f+1) s c = putStack s.stack (specCmd (f+1) (ctxOf s.stack) { s with stack := st } c) := by
  cases c with
  | group body => rw [execCmd_group, specCmd_group]; exact ih.list s st body
  | subshell body =>
    rw [execCmd_subshell, specCmd_subshell, ih.list (s.push .subshell) st body, push_stack, ctxOf_subshell]
    exact joinSub_putStack _ _ _ _ _ _ fun c2 => by rw [applyErrexit_eq _ st]; rfl
  | asyncWait body =>
    rw [execCmd_asyncWait, specCmd_asyncWait, ih.list (s.push .subshell) st body, push_stack, ctxOf_subshell]
    exact joinSub_putStack _ _ _ _ _ _ fun c2 => by rw [applyErrexit_eq _ st]; rfl
  | ifc cond body elifs els => rw [execCmd_ifc, specCmd_ifc]; exact sim_elifs f ih s st _ els
  | whileLoop u cond body =>
    rw [execCmd_whileLoop, specCmd_whileLoop, ih.while_ (s.push .loop) st u cond body 0 s.stack rfl, push_stack,
      popped_putStack, whilePost_putStack]
    rfl
  | forLoop values body => exact sim_forLoop f ih s st values body
  | forPos body => exact sim_forLoop f ih s st _ body
  | caseC items => rw [execCmd_caseC, specCmd_caseC, ih.case_ s st items false false, casePost_putStack]
  | call name nargs =>
    rw [execCmd_call, specCmd_call, classify_stack]
    exact callTarget_putStack _ _ s st nargs _ fun c => ih.cmd { s with params := nargs } st c
  | brk n | cont n => rw [execCmd, specCmd, breakBuiltin_eq]; exact finishSimple_putStack _ st _ _ _ rfl rfl
  | tick _ _ | fundef _ _ => rw [execCmd, specCmd]; split <;> exact finishSimple_putStack _ st _ _ _ rfl rfl
  | freeze name =>
    rw [execCmd, specCmd]
    cases lookupFn s.funcs name <;> exact finishSimple_putStack _ st _ _ _ rfl rfl
  | forRo values =>
    rw [execCmd, specCmd]
    split
    · rfl
    · rw [expansionError_eq s st]; rfl
  | expErr | assignErr => rw [execCmd, specCmd, expansionError_eq s st]; rfl
  | raiseErr => rw [execCmd, specCmd, expansionError_eq { s with pending := true } st]; rfl
  | redirErr k =>
    cases k with
    | special => rfl
    | _ =>
      show (({ s with status := 2 } : St), St.applyErrexit { s with status := 2 }) = _
      rw [applyErrexit_eq { s with status := 2 } st]; rfl
  -- every other command changes some fields other than the stack and ends in `finishSimple`
  | _ => rw [execCmd, specCmd]; exact finishSimple_putStack _ st _ _ _ rfl rfl

theorem sim : ∀ fuel, Sim fuel
  | 0 => sim_zero
  | f+1 =>
    have ih := sim f
    { cmd := sim_cmd f ih, elifs := sim_elifs f ih, while_ := sim_while f ih, for_ := sim_for f ih,
      case_ := sim_case f ih, list := sim_list f ih, item := sim_item f ih, aor := sim_aor f ih,
      pipe := sim_pipe f ih, cmds := sim_cmds f ih, members := sim_members f ih }

theorem andThenApply_putStack (st : List Frame) (y : St × Res) (k k' : St → St × Res)
    (h : ∀ s1, k { s1 with stack := st } = putStack st (k' s1)) :
    andThenApply (putStack st y) k = putStack st (andThenApply y k') := by
  obtain ⟨s1, r⟩ := y
  cases r with
  | continue_ => exact h s1
  | _ => simp only [andThenApply, putStack, applyResult_withStack]

theorem exitTrapTail_putStack (st : List Frame) (p : Nat) (y : St × Res) :
    exitTrapTail p (putStack st y) = putStack st (exitTrapTail p y) := by
  by_cases h : y.2 = .outOfFuel
  · rw [exitTrapTail_outOfFuel h, exitTrapTail_outOfFuel (x := putStack st y) h]; rfl
  · rw [exitTrapTail_eq h, exitTrapTail_eq (x := putStack st y) h]
    exact congrArg (·, y.2) (applyResult_withStack { y.1 with status := pollStatus p y.1.status y.2 } st y.2)

theorem shellTail_putStack (st : List Frame) (y : St × Res) (trap trap' : St → St × Res)
    (h : ∀ s1, trap { s1 with stack := st } = putStack st (trap' s1)) :
    shellTail (putStack st y) trap = putStack st (shellTail y trap') := by
  by_cases hs : y.2 = .outOfFuel ∨ ∃ e, y.2 = .break_ (.abort e)
  · rw [shellTail_skip hs, shellTail_skip (x := putStack st y) hs]
  · have h1 : y.2 ≠ .outOfFuel := fun h => hs (.inl h)
    have h2 : ∀ e, y.2 ≠ .break_ (.abort e) := fun e h => hs (.inr ⟨e, h⟩)
    rw [shellTail_run h1 h2, shellTail_run (x := putStack st y) h1 h2]
    exact (h y.1).symm ▸ rfl

theorem sim_script (fuel : Nat) : ∀ (s1 : St) (ls : List Line),
    runScript fuel { s1 with stack := [] } ls = putStack [] (specScript fuel s1 ls) := by
  induction fuel with
  | zero => intro s1 ls; rfl
  | succ fuel ih =>
    intro s1 ls
    match ls with
    | [] => rfl
    | .syntaxError :: _ => rfl
    | .cmds l :: rest =>
      rw [runScript_cmds, specScript_cmds, pollWith_putStack _ (specList fuel) (sim fuel).list s1 [] .continue_]
      refine andThenApply_putStack _ _ _ _ fun s0 => ?_
      rw [(sim fuel).list { s0 with stack := [] } s0.stack l]
      exact andThenApply_putStack _ _ _ _ fun s2 => ih s2 rest

theorem sim_exitTrap (fuel : Nat) (s1 : St) :
    runExitTrap fuel { s1 with stack := [] } = putStack [] (specExitTrap fuel s1) := by
  rw [runExitTrap_eq, specExitTrap_eq]
  -- `{ s1 with stack := [] }` spells out every field of `s1`, so a case split on `s1.exitTrap` alone would replace the
  -- field on one side only; with `s1` taken apart the field is a variable of both sides
  cases s1 with
  | mk status errexit pipefail monitor params roFuncs stack funcs counters trace exitTrap sigTrap pending =>
    cases exitTrap with
    | none => rfl
    | some body =>
      simp only
      rw [(sim fuel).list _ stack body]
      show exitTrapTail _ (putStack [] (specList fuel ⟨0, false, true⟩ _ body)) = _
      exact exitTrapTail_putStack _ _ _

theorem sim_shell (fuel : Nat) (s1 : St) (script : List Line) :
    runShell fuel { s1 with stack := [] } script = putStack [] (specShell fuel s1 script) := by
  rw [runShell_eq, specShell_eq, sim_script]
  exact shellTail_putStack _ _ _ _ (sim_exitTrap fuel)

structure Ref (fuel : Nat) : Prop where
  cmd : ∀ s s' c, SameButStack s s' → RelS (execCmd fuel s c) (specCmd fuel (ctxOf s.stack) s' c)
  elifs : ∀ s s' e els, SameButStack s s' →
    RelS (execElifs fuel s e els) (specElifs fuel (ctxOf s.stack) s' e els)
  while_ : ∀ s s' u c b e st, SameButStack s s' → s.stack = .loop :: st →
    SameButStack (execWhile fuel s u c b e).1 (specWhile fuel (ctxOf st) s' u c b e).1 ∧
    (execWhile fuel s u c b e).2 = (specWhile fuel (ctxOf st) s' u c b e).2
  for_ : ∀ s s' n b st, SameButStack s s' → s.stack = .loop :: st →
    RelS (execFor fuel s n b) (specFor fuel (ctxOf st) s' n b)
  case_ : ∀ s s' items f u, SameButStack s s' →
    SameButStack (execCase fuel s items f u).1 (specCase fuel (ctxOf s.stack) s' items f u).1 ∧
    (execCase fuel s items f u).2 = (specCase fuel (ctxOf s.stack) s' items f u).2
  list : ∀ s s' l, SameButStack s s' → RelS (execList fuel s l) (specList fuel (ctxOf s.stack) s' l)
  item : ∀ s s' i, SameButStack s s' → RelS (execItem fuel s i) (specItem fuel (ctxOf s.stack) s' i)
  aor : ∀ s s' r st, SameButStack s s' → s.stack = .condition :: st →
    RelS (execAndOrRest fuel s r) (specAndOrRest fuel (ctxOf st) s' r)
  pipe : ∀ s s' p, SameButStack s s' → RelS (execPipeline fuel s p) (specPipeline fuel (ctxOf s.stack) s' p)
  cmds : ∀ s s' cs, SameButStack s s' → RelS (execCommands fuel s cs) (specCommands fuel (ctxOf s.stack) s' cs)
  members : ∀ s s' cs f, SameButStack s s' →
    RelS (execPipeMembers fuel s cs f) (specPipeMembers fuel (ctxOf s.stack) s' cs f)

theorem relS_putStack {α : Type} (stk : List Frame) (y : St × α) :
    SameButStack (putStack stk y).1 y.1 ∧ (putStack stk y).2 = y.2 :=
  ⟨⟨y.1.stack, rfl⟩, rfl⟩

theorem ref (fuel : Nat) : Ref fuel where
  cmd s _ c h := by obtain ⟨st, rfl⟩ := h; rw [(sim fuel).cmd s st c]; exact relS_putStack _ _
  elifs s _ e els h := by obtain ⟨st, rfl⟩ := h; rw [(sim fuel).elifs s st e els]; exact relS_putStack _ _
  while_ s _ u c b e st h hst := by
    obtain ⟨st', rfl⟩ := h; rw [(sim fuel).while_ s st' u c b e st hst]; exact relS_putStack _ _
  for_ s _ n b st h hst := by obtain ⟨st', rfl⟩ := h; rw [(sim fuel).for_ s st' n b st hst]; exact relS_putStack _ _
  case_ s _ items f u h := by obtain ⟨st, rfl⟩ := h; rw [(sim fuel).case_ s st items f u]; exact relS_putStack _ _
  list s _ l h := by obtain ⟨st, rfl⟩ := h; rw [(sim fuel).list s st l]; exact relS_putStack _ _
  item s _ i h := by obtain ⟨st, rfl⟩ := h; rw [(sim fuel).item s st i]; exact relS_putStack _ _
  aor s _ r st h hst := by obtain ⟨st', rfl⟩ := h; rw [(sim fuel).aor s st' r st hst]; exact relS_putStack _ _
  pipe s _ p h := by obtain ⟨st, rfl⟩ := h; rw [(sim fuel).pipe s st p]; exact relS_putStack _ _
  cmds s _ cs h := by obtain ⟨st, rfl⟩ := h; rw [(sim fuel).cmds s st cs]; exact relS_putStack _ _
  members s _ cs f h := by obtain ⟨st, rfl⟩ := h; rw [(sim fuel).members s st cs f]; exact relS_putStack _ _

end YashModel.Exec
