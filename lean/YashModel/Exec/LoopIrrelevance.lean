/-
  Context-loop irrelevance: on the Spec, a run under `d` more visible loops either ends with a break/continue that
  reaches beyond the smaller context, or is the same run (`specPipeMembers` only reads `ctx.sub`).  Stated for quiet
  contexts (no signal-trap action can run: inside a subshell or a trap action) — with a pending trap the statement is
  false, see notes/C02.md.
  The names `Irr` and `irr` are also those of C10's errexit blindness (Errexit/ConditionBlind.lean), a different
  structure: the two modules cannot be imported together.
-/
import YashModel.Exec.Step
namespace YashModel.Exec

/-- the same context with `d` more enclosing loops visible -/
def Ctx.more (c : Ctx) (d : Nat) : Ctx := { c with loops := c.loops + d }

/-- a `break`/`continue` result that reaches beyond `L` enclosing loops -/
def Reach (L : Nat) : Res → Prop
  | .break_ (.break_ k) => L ≤ k
  | .break_ (.continue_ k) => L ≤ k
  | _ => False

@[simp] theorem more_cond (c : Ctx) (d : Nat) : (c.more d).cond = c.cond.more d := rfl
@[simp] theorem more_inLoop (c : Ctx) (d : Nat) : (c.more d).inLoop = c.inLoop.more d := by
  simp [Ctx.more, Ctx.inLoop]; omega
@[simp] theorem more_sub (c : Ctx) (d : Nat) : (c.more d).sub = c.sub := rfl
@[simp] theorem more_quiet (c : Ctx) (d : Nat) : (c.more d).quiet = c.quiet := rfl
@[simp] theorem more_exempt (c : Ctx) (d : Nat) : (c.more d).exempt = c.exempt := rfl
@[simp] theorem more_loops (c : Ctx) (d : Nat) : (c.more d).loops = c.loops + d := rfl
@[simp] theorem cond_quiet (c : Ctx) : c.cond.quiet = c.quiet := rfl
@[simp] theorem cond_loops (c : Ctx) : c.cond.loops = c.loops := rfl
@[simp] theorem inLoop_quiet (c : Ctx) : c.inLoop.quiet = c.quiet := rfl
@[simp] theorem inLoop_loops (c : Ctx) : c.inLoop.loops = c.loops + 1 := rfl

/-- the larger run reaches beyond the smaller context's loops, or the two runs are the same -/
def IrrP (L : Nat) (big small : St × Res) : Prop := Reach L big.2 ∨ big = small

structure Irr (fuel : Nat) : Prop where
  cmd : ∀ (ctx : Ctx) d s c, ctx.quiet = true → IrrP ctx.loops (specCmd fuel (ctx.more d) s c) (specCmd fuel ctx s c)
  list : ∀ (ctx : Ctx) d s l, ctx.quiet = true → IrrP ctx.loops (specList fuel (ctx.more d) s l) (specList fuel ctx s l)
  item : ∀ (ctx : Ctx) d s i, ctx.quiet = true → IrrP ctx.loops (specItem fuel (ctx.more d) s i) (specItem fuel ctx s i)
  aor : ∀ (ctx : Ctx) d s r, ctx.quiet = true →
    IrrP ctx.loops (specAndOrRest fuel (ctx.more d) s r) (specAndOrRest fuel ctx s r)
  pipe : ∀ (ctx : Ctx) d s p, ctx.quiet = true →
    IrrP ctx.loops (specPipeline fuel (ctx.more d) s p) (specPipeline fuel ctx s p)
  cmds : ∀ (ctx : Ctx) d s cs, ctx.quiet = true →
    IrrP ctx.loops (specCommands fuel (ctx.more d) s cs) (specCommands fuel ctx s cs)
  elifs : ∀ (ctx : Ctx) d s e els, ctx.quiet = true →
    IrrP ctx.loops (specElifs fuel (ctx.more d) s e els) (specElifs fuel ctx s e els)
  for_ : ∀ (ctx : Ctx) d s n b, ctx.quiet = true →
    IrrP ctx.loops (specFor fuel (ctx.more d) s n b) (specFor fuel ctx s n b)
  case_ : ∀ (ctx : Ctx) d s items f u, ctx.quiet = true →
    Reach ctx.loops (specCase fuel (ctx.more d) s items f u).2.1 ∨
      specCase fuel (ctx.more d) s items f u = specCase fuel ctx s items f u
  while_ : ∀ (ctx : Ctx) d s u c b e, ctx.quiet = true →
    Reach ctx.loops (specWhile fuel (ctx.more d) s u c b e).2.1 ∨
      specWhile fuel (ctx.more d) s u c b e = specWhile fuel ctx s u c b e

theorem reach_loopStep {L : Nat} {r : Res} (h : Reach (L+1) r) :
    ∃ r', loopStep r = .out r' ∧ Reach L r' := by
  cases r with
  | break_ dv =>
    cases dv with
    | break_ k => cases k with
      | zero => simp [Reach] at h
      | succ k => exact ⟨_, rfl, by simp [Reach] at h ⊢; omega⟩
    | continue_ k => cases k with
      | zero => simp [Reach] at h
      | succ k => exact ⟨_, rfl, by simp [Reach] at h ⊢; omega⟩
    | _ => simp [Reach] at h
  | _ => simp [Reach] at h

theorem pollWithS_quiet (run : Ctx → St → List Item → St × Res) (ctx : Ctx) (s1 : St) (r : Res)
    (hq : ctx.quiet = true) : pollWithS run ctx s1 r = (s1, r) := by
  rw [pollWithS_eq, show trapDueS ctx s1 = none by simp [trapDueS, hq], pollCtl_none]

@[simp] theorem errexitS_more (ctx : Ctx) (d : Nat) (s : St) : errexitS (ctx.more d) s = errexitS ctx s := rfl
@[simp] theorem afterSimple_more (ctx : Ctx) (d : Nat) (s : St) (r : Res) :
    afterSimple (ctx.more d) s r = afterSimple ctx s r := by
  cases r <;> rfl
@[simp] theorem expansionErrorS_more (ctx : Ctx) (d : Nat) (s : St) :
    expansionErrorS (ctx.more d) s = expansionErrorS ctx s := rfl

theorem breakS_irr (ctx : Ctx) (d n : Nat) (isBreak : Bool) :
    Reach ctx.loops (breakS (ctx.more d) n isBreak).2 ∨ breakS (ctx.more d) n isBreak = breakS ctx n isBreak := by
  obtain ⟨L, ex, q⟩ := ctx
  show Reach L (breakS ⟨L + d, ex, q⟩ n isBreak).2 ∨ breakS ⟨L + d, ex, q⟩ n isBreak = breakS ⟨L, ex, q⟩ n isBreak
  unfold breakS
  dsimp only
  -- the count taken in the larger context either exceeds the smaller context's loops or is its count too
  rcases Nat.lt_or_ge L (min n (L + d)) with h | h
  · left
    rw [if_neg (by omega)]
    cases isBreak <;> exact Nat.le_sub_one_of_lt h
  · right
    rw [show min n (L + d) = min n L by omega]

theorem loopIrr_list (fuel : Nat) (ih : Irr fuel) (ctx : Ctx) (d : Nat) (s : St) (l : List Item) (hq : ctx.quiet = true) :
    IrrP ctx.loops (specList (fuel+1) (ctx.more d) s l) (specList (fuel+1) ctx s l) := by
  cases l with
  | nil => exact .inr rfl
  | cons it rest =>
    rw [specList_cons, specList_cons]
    exact orEq_andThen (bad := Reach ctx.loops) id (ih.item ctx d s it hq) fun s1 => ih.list ctx d s1 rest hq

theorem loopIrr_item (fuel : Nat) (ih : Irr fuel) (ctx : Ctx) (d : Nat) (s : St) (i : Item) (hq : ctx.quiet = true) :
    IrrP ctx.loops (specItem (fuel+1) (ctx.more d) s i) (specItem (fuel+1) ctx s i) := by
  match i with
  | .mk p [] => exact ih.pipe ctx d s p hq
  | .mk p (a :: t) =>
    rw [specItem_cons, specItem_cons, more_cond]
    exact orEq_andThen (bad := Reach ctx.loops) id (ih.pipe ctx.cond d s p hq) fun s1 => ih.aor ctx d s1 (a :: t) hq

theorem loopIrr_aor (fuel : Nat) (ih : Irr fuel) (ctx : Ctx) (d : Nat) (s : St) (r : List (Bool × Pipeline))
    (hq : ctx.quiet = true) :
    IrrP ctx.loops (specAndOrRest (fuel+1) (ctx.more d) s r) (specAndOrRest (fuel+1) ctx s r) := by
  match r with
  | [] => exact .inr rfl
  | [(a, p)] =>
    rw [specAndOrRest_last, specAndOrRest_last]
    split
    · exact ih.pipe ctx d s p hq
    · exact .inr rfl
  | (a, p) :: q :: t =>
    rw [specAndOrRest_cons, specAndOrRest_cons, more_cond]
    split
    · exact orEq_andThen (bad := Reach ctx.loops) id (ih.pipe ctx.cond d s p hq) fun s1 => ih.aor ctx d s1 (q :: t) hq
    · exact ih.aor ctx d s (q :: t) hq

theorem loopIrr_pipe (fuel : Nat) (ih : Irr fuel) (ctx : Ctx) (d : Nat) (s : St) (p : Pipeline) (hq : ctx.quiet = true) :
    IrrP ctx.loops (specPipeline (fuel+1) (ctx.more d) s p) (specPipeline (fuel+1) ctx s p) := by
  match p with
  | .mk false cs => exact ih.cmds ctx d s cs hq
  | .mk true cs =>
    rw [specPipeline_negated, specPipeline_negated, more_cond]
    exact orEq_andThen (bad := Reach ctx.loops) id (ih.cmds ctx.cond d s cs hq) fun _ => .inr rfl

theorem loopIrr_cmds (fuel : Nat) (ih : Irr fuel) (ctx : Ctx) (d : Nat) (s : St) (cs : List Cmd) (hq : ctx.quiet = true) :
    IrrP ctx.loops (specCommands (fuel+1) (ctx.more d) s cs) (specCommands (fuel+1) ctx s cs) := by
  match cs with
  | [] => exact .inr rfl
  | [c] =>
    -- no trap action runs in a quiet context: the poll is the command's result
    rw [specCommands_single, specCommands_single, pollWithS_quiet _ ctx _ _ hq, pollWithS_quiet _ (ctx.more d) _ _ hq]
    exact ih.cmd ctx d s c hq
  | c :: c2 :: rest =>
    rw [specCommands_many, specCommands_many, specPipeMembers_sub fuel (ctx.more d) ctx s (c :: c2 :: rest) 0 rfl]
    exact .inr rfl

theorem loopIrr_elifs (fuel : Nat) (ih : Irr fuel) (ctx : Ctx) (d : Nat) (s : St)
    (e : List (List Item × List Item)) (els : Option (List Item)) (hq : ctx.quiet = true) :
    IrrP ctx.loops (specElifs (fuel+1) (ctx.more d) s e els) (specElifs (fuel+1) ctx s e els) := by
  match e, els with
  | [], none => exact .inr rfl
  | [], some l => exact ih.list ctx d s l hq
  | (cond, body) :: rest, els =>
    rw [specElifs_cons, specElifs_cons, more_cond]
    refine orEq_andThen (bad := Reach ctx.loops) id (ih.list ctx.cond d s cond hq) fun s1 => ?_
    split
    · exact ih.list ctx d s1 body hq
    · exact ih.elifs ctx d s1 rest els hq

theorem loopIrr_for (fuel : Nat) (ih : Irr fuel) (ctx : Ctx) (d : Nat) (s : St) (n : Nat) (b : List Item)
    (hq : ctx.quiet = true) :
    IrrP ctx.loops (specFor (fuel+1) (ctx.more d) s n b) (specFor (fuel+1) ctx s n b) := by
  cases n with
  | zero => exact .inr rfl
  | succ n =>
    rw [specFor_succ, specFor_succ, more_inLoop]
    exact orEq_loopCtl_of (bad := Reach (ctx.loops + 1)) (bad' := Reach ctx.loops) _ _ (fun _ => reach_loopStep)
      (ih.list ctx.inLoop d s b hq) fun s1 => ih.for_ ctx d s1 n b hq

theorem loopIrr_case (fuel : Nat) (ih : Irr fuel) (ctx : Ctx) (d : Nat) (s : St)
    (items : List (Bool × Bool × List Item × CaseCont)) (f u : Bool) (hq : ctx.quiet = true) :
    Reach ctx.loops (specCase (fuel+1) (ctx.more d) s items f u).2.1 ∨
      specCase (fuel+1) (ctx.more d) s items f u = specCase (fuel+1) ctx s items f u := by
  match items with
  | [] => exact .inr rfl
  | (m, e, body, k) :: rest =>
    rw [specCase_cons, specCase_cons, expansionErrorS_more]
    split
    · exact .inr rfl
    · split
      · exact ih.case_ ctx d s rest false u hq
      · exact orEq_caseNext (bad := Reach ctx.loops) id _ _ _ (ih.list ctx d s body hq)
          fun s1 fl => ih.case_ ctx d s1 rest fl _ hq

theorem loopIrr_while (fuel : Nat) (ih : Irr fuel) (ctx : Ctx) (d : Nat) (s : St) (u : Bool) (c b : List Item) (e : Nat)
    (hq : ctx.quiet = true) :
    Reach ctx.loops (specWhile (fuel+1) (ctx.more d) s u c b e).2.1 ∨
      specWhile (fuel+1) (ctx.more d) s u c b e = specWhile (fuel+1) ctx s u c b e := by
  rw [specWhile_succ, specWhile_succ, more_inLoop, more_cond]
  exact orEq_whileRound (bad := Reach (ctx.loops + 1)) (bad' := Reach ctx.loops) u e (fun _ => reach_loopStep)
    (ih.list ctx.inLoop.cond d s c hq) (ih.list ctx.inLoop d · b hq) (ih.while_ ctx d · u c b · hq)

theorem loopIrr_forLoop (fuel : Nat) (ih : Irr fuel) (ctx : Ctx) (d : Nat) (s : St) (values : Nat) (body : List Item)
    (hq : ctx.quiet = true) :
    IrrP ctx.loops (specCmd (fuel+1) (ctx.more d) s (.forLoop values body)) (specCmd (fuel+1) ctx s (.forLoop values body)) := by
  rw [specCmd_forLoop, specCmd_forLoop]
  split
  · exact .inr rfl
  · exact ih.for_ ctx d s values body hq

/-- a result that reaches beyond the loops is a `break`/`continue`: the tail of a simple command passes it on -/
theorem reach_afterSimple {L : Nat} (ctx : Ctx) (s : St) (r : Res) (h : Reach L r) : Reach L (afterSimple ctx s r).2 := by
  cases r with
  | break_ dv => exact h
  | _ => exact h.elim

theorem loopIrr_cmd (fuel : Nat) (ih : Irr fuel) (ctx : Ctx) (d : Nat) (s : St) (c : Cmd) (hq : ctx.quiet = true) :
    IrrP ctx.loops (specCmd (fuel+1) (ctx.more d) s c) (specCmd (fuel+1) ctx s c) := by
  cases c with
  | brk n =>
    simp only [specCmd]
    rcases breakS_irr ctx d n true with h | h
    · exact .inl (reach_afterSimple _ _ _ h)
    · right; simp only [h, afterSimple_more]
  | cont n =>
    simp only [specCmd]
    rcases breakS_irr ctx d n false with h | h
    · exact .inl (reach_afterSimple _ _ _ h)
    · right; simp only [h, afterSimple_more]
  | group body => rw [specCmd_group, specCmd_group]; exact ih.list ctx d s body hq
  | call name nargs =>
    rw [specCmd_call, specCmd_call, show afterSimple (ctx.more d) = afterSimple ctx from funext fun _ => funext fun _ =>
      afterSimple_more ..]
    exact orEq_callTarget (bad := Reach ctx.loops) (fun _ h => h) (reach_afterSimple ctx) s nargs _
      fun a c => ih.cmd ctx d a c hq
  | ifc cond body elifs els => rw [specCmd_ifc, specCmd_ifc]; exact loopIrr_elifs fuel ih ctx d s _ els hq
  | whileLoop u cond body =>
    rw [specCmd_whileLoop, specCmd_whileLoop]
    exact orEq_whilePost (bad := Reach ctx.loops) id (ih.while_ ctx d s u cond body 0 hq)
  | forLoop values body => exact loopIrr_forLoop fuel ih ctx d s values body hq
  | forPos body => exact loopIrr_forLoop fuel ih ctx d s _ body hq
  | caseC items =>
    rw [specCmd_caseC, specCmd_caseC]
    exact orEq_casePost (bad := Reach ctx.loops) id (ih.case_ ctx d s items false false hq)
  -- the other commands do not look at the loop count: the two runs are the same term
  | _ => exact .inr rfl

theorem loopIrr_zero : Irr 0 where
  cmd _ _ _ _ _ := .inr rfl
  list _ _ _ _ _ := .inr rfl
  item _ _ _ _ _ := .inr rfl
  aor _ _ _ _ _ := .inr rfl
  pipe _ _ _ _ _ := .inr rfl
  cmds _ _ _ _ _ := .inr rfl
  elifs _ _ _ _ _ _ := .inr rfl
  for_ _ _ _ _ _ _ := .inr rfl
  case_ _ _ _ _ _ _ _ := .inr rfl
  while_ _ _ _ _ _ _ _ _ := .inr rfl

theorem irr : ∀ fuel, Irr fuel
  | 0 => loopIrr_zero
  | fuel+1 =>
    have ih := irr fuel
    { cmd := loopIrr_cmd fuel ih, list := loopIrr_list fuel ih, item := loopIrr_item fuel ih, aor := loopIrr_aor fuel ih,
      pipe := loopIrr_pipe fuel ih, cmds := loopIrr_cmds fuel ih, elifs := loopIrr_elifs fuel ih, for_ := loopIrr_for fuel ih,
      case_ := loopIrr_case fuel ih, while_ := loopIrr_while fuel ih }

end YashModel.Exec
