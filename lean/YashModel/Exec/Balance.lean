/-
  C02: every execution function restores the frame stack (push/pop balance on every path, including diverts and fuel
  exhaustion), and so do a script run and the EXIT trap.  For eight of the eleven functions this is read off `Sim`; the
  loops and the and-or tail are balanced on every stack, not only on those `Sim` speaks of, by inductions of their own.
-/
import YashModel.Exec.Refine
namespace YashModel.Exec

structure Bal (fuel : Nat) : Prop where
  cmd : ∀ s c, (execCmd fuel s c).1.stack = s.stack
  elifs : ∀ s e els, (execElifs fuel s e els).1.stack = s.stack
  while_ : ∀ s u c b e, (execWhile fuel s u c b e).1.stack = s.stack
  for_ : ∀ s n b, (execFor fuel s n b).1.stack = s.stack
  case_ : ∀ s items f u, (execCase fuel s items f u).1.stack = s.stack
  list : ∀ s l, (execList fuel s l).1.stack = s.stack
  item : ∀ s i, (execItem fuel s i).1.stack = s.stack
  aor : ∀ s r, (execAndOrRest fuel s r).1.stack = s.stack.tail
  pipe : ∀ s p, (execPipeline fuel s p).1.stack = s.stack
  cmds : ∀ s cs, (execCommands fuel s cs).1.stack = s.stack
  members : ∀ s cs f, (execPipeMembers fuel s cs f).1.stack = s.stack

theorem list_stack (f : Nat) (s : St) (l : List Item) : (execList f s l).1.stack = s.stack := by
  rw [(sim f).list s s.stack l]; rfl

theorem pipe_stack (f : Nat) (s : St) (p : Pipeline) : (execPipeline f s p).1.stack = s.stack := by
  rw [(sim f).pipe s s.stack p]; rfl

theorem while_stack (fuel : Nat) : ∀ s u c b e, (execWhile fuel s u c b e).1.stack = s.stack := by
  induction fuel with
  | zero => intro s u c b e; rfl
  | succ f ih =>
    intro s u c b e
    rw [execWhile_succ]
    exact whileRound_stack u e (popped_stack (list_stack f (s.push .condition) c))
      (fun s1 h1 => (list_stack f s1 b).trans h1) (fun s1 k h1 => (ih s1 u c b k).trans h1)

theorem for_stack (fuel : Nat) : ∀ s n b, (execFor fuel s n b).1.stack = s.stack := by
  induction fuel with
  | zero => intro s n b; rfl
  | succ f ih =>
    intro s n b
    cases n with
    | zero => rfl
    | succ n => rw [execFor_succ]; exact loopCtl_stack (list_stack f s b) fun s1 h1 => (ih s1 n b).trans h1

theorem aor_stack (fuel : Nat) : ∀ s r, (execAndOrRest fuel s r).1.stack = s.stack.tail := by
  induction fuel with
  | zero => intro s r; rfl
  | succ f ih =>
    intro s r
    match r with
    | [] => rfl
    | [(a, p)] => rw [execAndOrRest_last]; split <;> first | exact pipe_stack f s.pop p | rfl
    | (a, p) :: q :: t =>
      rw [execAndOrRest_cons]
      split
      · exact andThenPop_stack (pipe_stack f s p) fun s1 h1 => (ih s1 (q :: t)).trans (congrArg List.tail h1)
      · exact ih s (q :: t)

theorem bal (fuel : Nat) : Bal fuel where
  cmd s c := by rw [(sim fuel).cmd s s.stack c]; rfl
  elifs s e els := by rw [(sim fuel).elifs s s.stack e els]; rfl
  while_ := while_stack fuel
  for_ := for_stack fuel
  case_ s items f u := by rw [(sim fuel).case_ s s.stack items f u]; rfl
  list := list_stack fuel
  item s i := by rw [(sim fuel).item s s.stack i]; rfl
  aor := aor_stack fuel
  pipe := pipe_stack fuel
  cmds s cs := by rw [(sim fuel).cmds s s.stack cs]; rfl
  members s cs f := by rw [(sim fuel).members s s.stack cs f]; rfl

theorem pollWith_stack (run : St → List Item → St × Res) (hrun : ∀ s l, (run s l).1.stack = s.stack)
    (s1 : St) (r : Res) : (pollWith run s1 r).1.stack = s1.stack := by
  rw [pollWith_eq]
  exact pollCtl_stack fun body => popped_stack (hrun _ body)

theorem leaveJc_stack (s s1 : St) (h : s1.stack = s.enterJc.stack) : (s.leaveJc s1).stack = s.stack := by
  rw [leaveJc_stack_eq, h, enterJc_stack]
  cases s.controlsJobs <;> rfl

theorem stack_balanced_script (fuel : Nat) : ∀ (s : St) (ls : List Line), (runScript fuel s ls).1.stack = s.stack := by
  induction fuel with
  | zero => intro s ls; rfl
  | succ fuel ih =>
    intro s ls
    match ls with
    | [] => rfl
    | .syntaxError :: _ => exact applyResult_stack _ _
    | .cmds l :: rest =>
      rw [runScript_cmds]
      exact andThenApply_stack (pollWith_stack _ (list_stack fuel) s .continue_) fun s0 h0 =>
        andThenApply_stack ((list_stack fuel s0 l).trans h0) fun s1 h1 => (ih s1 rest).trans h1

theorem runExitTrap_stack (fuel : Nat) (s : St) : (runExitTrap fuel s).1.stack = s.stack := by
  rw [runExitTrap_eq]
  cases s.exitTrap with
  | none => rfl
  | some body => exact (exitTrapTail_stack _ _).trans (popped_stack (list_stack fuel (s.push .trap) body))

end YashModel.Exec
