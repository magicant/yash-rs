/-
  One step of the interpreter, stated once.  The Impl model (`exec*`) and the Spec (`spec*`) are built from the same few
  control operators and differ only in push/pop and in the tail of a simple command; the poll for caught signals and
  the script layer likewise.  Each function with fuel left is an equation in these operators (a leaf command is its own
  unfolding); the inductions over the eleven functions rewrite with them and use one closure lemma per operator.
-/
import YashModel.Exec.Spec
namespace YashModel.Exec

def putStack {α : Type} (st : List Frame) (x : St × α) : St × α := ({ x.1 with stack := st }, x.2)

def popped {α : Type} (x : St × α) : St × α := (x.1.pop, x.2)

/-- go on with `k` after a run that ended normally; any other result is the result of the whole -/
def andThen (x : St × Res) (k : St → St × Res) : St × Res :=
  match x.2 with
  | .continue_ => k x.1
  | r => (x.1, r)

/-- `andThen` where `k` takes a frame off and a run that does not get to `k` has to do so itself -/
def andThenPop (x : St × Res) (k : St → St × Res) : St × Res :=
  match x.2 with
  | .continue_ => k x.1
  | r => (x.1.pop, r)

/-- what a loop does with the result `x` of its condition or body: `Break{0}` ends it, `out r` leaves it, else it goes on -/
def loopCtl {α : Type} (x : St × Res) (stop : Nat → α) (out : Res → α) (next : St → St × α) : St × α :=
  match loopStep x.2 with
  | .stop => (x.1, stop x.1.status)
  | .out r => (x.1, out r)
  | .next => next x.1

/-- `again` after a `continue` that this loop takes, `next` after a normal end -/
def afterContinue {α : Type} (r : Res) (again next : α) : α :=
  match r with
  | .break_ (.continue_ 0) => again
  | _ => next

/-- one round of `while`/`until` after the condition's run `x`; `loop` is the loop with less fuel, `e` its status register -/
def whileRound (u : Bool) (e : Nat) (x : St × Res) (body : St → St × Res) (loop : St → Nat → St × (Res × Nat)) :
    St × (Res × Nat) :=
  loopCtl x (fun k => (.continue_, k)) (fun r => (r, e)) fun s1 =>
    afterContinue x.2 (loop s1 e) <|
      if (s1.status = 0) = !u then
        loopCtl (body s1) (fun k => (.continue_, k)) (fun r => (r, e)) fun s2 =>
          afterContinue (body s1).2 (loop s2 e) (loop s2 s2.status)
      else (s1, (.continue_, e))

/-- how `while_loop::execute` turns the loop's result into the command's -/
def whilePost (x : St × (Res × Nat)) : St × Res :=
  match x.2 with
  | (.continue_, e) => ({ x.1 with status := e }, .continue_)
  | (r, _) => (x.1, r)

/-- after the body of a `case` item: `;;` ends the command, `;&` falls through, `;;&` goes on testing; `u1`: the body set `$?` -/
def caseNext (x : St × Res) (u u1 : Bool) (k : CaseCont) (next : St → Bool → St × Res × Bool) : St × Res × Bool :=
  match x.2 with
  | .continue_ =>
    match k with
    | .break_ => (x.1, .continue_, u1)
    | .fallThrough => next x.1 true
    | .continue_ => next x.1 false
  | r => (x.1, r, u)

/-- how `case::execute` turns the items' result into the command's: status 0 if no body set it -/
def casePost (x : St × Res × Bool) : St × Res :=
  match x.2.1 with
  | .continue_ => (if x.2.2 then x.1 else { x.1 with status := 0 }, .continue_)
  | r => (x.1, r)

/-- a child's run `x` joined by the parent `s`: out of fuel, or `k` of the child's final state -/
def joinSub (s : St) (x : St × Res) (k : St → St × Res) : St × Res :=
  match x.2 with
  | .outOfFuel => (s, .outOfFuel)
  | r => k (x.1.applyResult r)

/-- what the parent keeps of a subshell `c2`: output, pending signal, and the status `st` -/
def subResult (s c2 : St) (st : Nat) : St := { s with status := st, trace := c2.trace, pending := c2.pending }

/-- a function call after its body's run `x`: parameters put back, a `return` caught; `fin` is the tail of a simple
    command (`finishSimple` in the model, `afterSimple ctx` in the Spec) -/
def callTail (fin : St → Res → St × Res) (params : Nat) (x : St × Res) : St × Res :=
  match x.2 with
  | .break_ (.return_ e) =>
    fin (match e with
      | some e => { x.1 with params := params, status := e }
      | none => { x.1 with params := params }) .continue_
  | r => fin { x.1 with params := params } r

/-- a simple command whose name the search resolved to `t`: `run` runs a function's body, any other target sets `$?` -/
def callTarget (fin : St → Res → St × Res) (run : St → Cmd → St × Res) (s : St) (nargs : Nat) (t : Target) : St × Res :=
  match t with
  | .specialColon => fin { s with status := 0 } .continue_
  | .regularTrue => fin { s with status := 0 } .continue_
  | .notFound => fin { s with status := 127 } .continue_
  | .function body => callTail fin s.params (run { s with params := nargs } body)
  | .status n => fin { s with status := n } .continue_

/-- `andThen` at the top of a script: a result that ends the script is applied to the state (`apply_result`) -/
def andThenApply (x : St × Res) (k : St → St × Res) : St × Res :=
  match x.2 with
  | .continue_ => k x.1
  | r => (x.1.applyResult r, r)

/-- what `run_exit_trap` makes of the action's run `x`; `prev` is `$?` before the action -/
def exitTrapTail (prev : Nat) (x : St × Res) : St × Res :=
  match x.2 with
  | .outOfFuel => (x.1, .outOfFuel)
  | .break_ (.interrupt (some _)) => (x.1.applyResult x.2, x.2)
  | .break_ (.interrupt none) => (x.1, x.2)
  | r => ({ x.1 with status := prev }.applyResult r, r)

/-- the shell after its script's run `x`: the EXIT trap (`trap`) unless the script aborted; the script's result stands -/
def shellTail (x : St × Res) (trap : St → St × Res) : St × Res :=
  match x.2 with
  | .outOfFuel => (x.1, .outOfFuel)
  | .break_ (.abort _) => (x.1, x.2)
  | _ =>
    match (trap x.1).2 with
    | .outOfFuel => ((trap x.1).1, .outOfFuel)
    | _ => ((trap x.1).1, x.2)

/-- `$?` after a trap action that ended with `t`: its own status if interrupted with one, `cur` if without, else `prev` -/
def pollStatus (prev cur : Nat) : Res → Nat
  | .break_ (.interrupt (some e)) => e
  | .break_ (.interrupt none) => cur
  | _ => prev

/-- the result of a command that ended with `r` and whose trap action ended with `t`: of two diverts the more severe -/
def pollRes : Res → Res → Res
  | _, .outOfFuel => .outOfFuel
  | r, .continue_ => r
  | .continue_, t => t
  | .break_ m, .break_ d => .break_ (m.max d)
  | .outOfFuel, _ => .outOfFuel

/-- the poll for caught signals after a command that ended with `r` in `s1`: `act` runs the action that is `due` (model:
    under a `Trap` frame, popped; Spec: in the trap context) and `finishPoll` merges the two ends -/
def pollCtl (due : Option (List Item)) (act : List Item → St × Res) (s1 : St) (r : Res) : St × Res :=
  match r with
  | .outOfFuel => (s1, .outOfFuel)
  | r =>
    match due with
    | none => (s1, r)
    | some body => finishPoll s1.status (act body).1 r (act body).2

theorem loopStep_continue : loopStep .continue_ = .next := rfl

/-- the four ways a loop goes on after its condition or body: normally, by `continue`, by `break`, or
    with a result that leaves the loop (`loopStep` passes it outward) -/
theorem loopStep_cases (r : Res) :
    r = .continue_ ∨ r = .break_ (.continue_ 0) ∨ r = .break_ (.break_ 0) ∨ ∃ r', loopStep r = .out r' := by
  cases r with
  | continue_ => exact .inl rfl
  | outOfFuel => exact .inr (.inr (.inr ⟨_, rfl⟩))
  | break_ d =>
    cases d with
    | continue_ n => cases n with
      | zero => exact .inr (.inl rfl)
      | succ n => exact .inr (.inr (.inr ⟨_, rfl⟩))
    | break_ n => cases n with
      | zero => exact .inr (.inr (.inl rfl))
      | succ n => exact .inr (.inr (.inr ⟨_, rfl⟩))
    | _ => exact .inr (.inr (.inr ⟨_, rfl⟩))

theorem loopCtl_out {α : Type} {x : St × Res} {r' : Res} (stop : Nat → α) (out : Res → α) (next : St → St × α)
    (h : loopStep x.2 = .out r') : loopCtl x stop out next = (x.1, out r') := by
  simp only [loopCtl, h]

theorem afterContinue_cases {α : Type} {Q : α → Prop} (r : Res) {a b : α} (ha : Q a) (hb : Q b) :
    Q (afterContinue r a b) := by
  unfold afterContinue; split <;> assumption

/-! ### a run that did not end normally is the run of the whole: nothing after it runs -/

theorem andThen_continue {x : St × Res} (h : x.2 = .continue_) (k : St → St × Res) : andThen x k = k x.1 := by
  unfold andThen; rw [h]

theorem andThen_of_ne {x : St × Res} (h : x.2 ≠ .continue_) (k : St → St × Res) : andThen x k = x := by
  obtain ⟨s1, r⟩ := x
  cases r with
  | continue_ => exact absurd rfl h
  | _ => rfl

theorem andThen_pure (x : St × Res) : andThen x (fun s1 => (s1, .continue_)) = x := by
  obtain ⟨s1, r⟩ := x
  cases r <;> rfl

theorem andThen_break {x : St × Res} {d : Divert} (h : x.2 = .break_ d) (k : St → St × Res) :
    andThen x k = (x.1, .break_ d) := by
  rw [andThen_of_ne (by rw [h]; exact Res.noConfusion), ← h]

theorem andThenPop_continue {x : St × Res} (h : x.2 = .continue_) (k : St → St × Res) : andThenPop x k = k x.1 := by
  unfold andThenPop; rw [h]

theorem andThenPop_of_ne {x : St × Res} (h : x.2 ≠ .continue_) (k : St → St × Res) : andThenPop x k = popped x := by
  obtain ⟨s1, r⟩ := x
  cases r with
  | continue_ => exact absurd rfl h
  | _ => rfl

theorem andThenApply_continue {x : St × Res} (h : x.2 = .continue_) (k : St → St × Res) :
    andThenApply x k = k x.1 := by
  unfold andThenApply; rw [h]

theorem andThenApply_of_ne {x : St × Res} (h : x.2 ≠ .continue_) (k : St → St × Res) :
    andThenApply x k = (x.1.applyResult x.2, x.2) := by
  obtain ⟨s1, r⟩ := x
  cases r with
  | continue_ => exact absurd rfl h
  | _ => rfl

theorem whilePost_of_ne {x : St × (Res × Nat)} (h : x.2.1 ≠ .continue_) : whilePost x = (x.1, x.2.1) := by
  obtain ⟨s1, r, e⟩ := x
  cases r with
  | continue_ => exact absurd rfl h
  | _ => rfl

theorem casePost_of_ne {x : St × Res × Bool} (h : x.2.1 ≠ .continue_) : casePost x = (x.1, x.2.1) := by
  obtain ⟨s1, r, u⟩ := x
  cases r with
  | continue_ => exact absurd rfl h
  | _ => rfl

theorem caseNext_of_ne {x : St × Res} (h : x.2 ≠ .continue_) (u u1 : Bool) (k : CaseCont)
    (next : St → Bool → St × Res × Bool) : caseNext x u u1 k next = (x.1, x.2, u) := by
  obtain ⟨s1, r⟩ := x
  cases r with
  | continue_ => exact absurd rfl h
  | _ => rfl

theorem popped_mk {α : Type} (a : St) (r : α) : popped (a, r) = (a.pop, r) := rfl

theorem joinSub_outOfFuel {s : St} {x : St × Res} (h : x.2 = .outOfFuel) (k : St → St × Res) :
    joinSub s x k = (s, .outOfFuel) := by
  unfold joinSub; rw [h]

theorem joinSub_of_fuel {s : St} {x : St × Res} {k : St → St × Res} (h : x.2 ≠ .outOfFuel) :
    joinSub s x k = k (x.1.applyResult x.2) := by
  obtain ⟨c1, r⟩ := x
  cases r with
  | outOfFuel => exact absurd rfl h
  | _ => rfl

/-! ### the primitives by case: errexit, the job-control wrapper, the poll -/

theorem applyErrexit_of_not_applicable (s : St) (h : s.errexitApplicable = false) : s.applyErrexit = .continue_ := by
  unfold St.applyErrexit; rw [h]; exact if_neg fun hh => Bool.noConfusion hh.2

theorem applyErrexit_of_applicable (s : St) (h : s.errexitApplicable = true) (hs : s.status ≠ 0) :
    s.applyErrexit = .break_ (.exit none) := by
  unfold St.applyErrexit; exact if_pos ⟨hs, h⟩

theorem applyErrexit_of_status_zero (s : St) (h : s.status = 0) : s.applyErrexit = .continue_ := by
  unfold St.applyErrexit; exact if_neg fun hh => hh.1 h

theorem applyErrexit_cases (s : St) : s.applyErrexit = .break_ (.exit none) ∨ s.applyErrexit = .continue_ := by
  unfold St.applyErrexit; split
  · exact .inl rfl
  · exact .inr rfl

theorem errexitApplicable_of_condition (s : St) (h : s.stack.contains .condition = true) :
    s.errexitApplicable = false := by
  unfold St.errexitApplicable; rw [h]; cases s.errexit <;> rfl

theorem expansionError_of_not_applicable (s : St) (h : s.errexitApplicable = false) :
    s.expansionError = .break_ (.interrupt (some 2)) := by
  unfold St.expansionError; rw [h]; rfl

theorem expansionError_of_applicable (s : St) (h : s.errexitApplicable = true) :
    s.expansionError = .break_ (.exit (some 2)) := by
  unfold St.expansionError; rw [h]; rfl

theorem enterJc_eq (s : St) : s.enterJc = { s with stack := s.enterJc.stack } := by
  unfold St.enterJc; split <;> rfl

theorem enterJc_stack (s : St) : s.enterJc.stack = if s.controlsJobs then .subshell :: s.stack else s.stack := by
  unfold St.enterJc; split <;> rfl

theorem leaveJc_eq (s t : St) : s.leaveJc t = { t with stack := (s.leaveJc t).stack } := by
  unfold St.leaveJc; split <;> rfl

theorem leaveJc_stack_eq (s t : St) : (s.leaveJc t).stack = if s.controlsJobs then t.stack.tail else t.stack := by
  unfold St.leaveJc; split <;> rfl

theorem applyResult_eq (s : St) (r : Res) : s.applyResult r = { s with status := (s.applyResult r).status } := by
  unfold St.applyResult
  split
  · split <;> rfl
  · rfl

theorem applyResult_status (s : St) (d : Divert) :
    (s.applyResult (.break_ d)).status = d.exitStatus.getD s.status := by
  unfold St.applyResult
  cases h : d.exitStatus <;> simp only [h] <;> rfl

theorem Divert.max_of_le {a b : Divert} (h : a.le b = true) : a.max b = b := if_pos h

theorem Divert.max_of_not_le {a b : Divert} (h : a.le b = false) : a.max b = a := if_neg (h ▸ Bool.false_ne_true)

theorem divert_max_cases (a b : Divert) : a.max b = a ∨ a.max b = b := by
  cases h : a.le b
  · exact .inl (Divert.max_of_not_le h)
  · exact .inr (Divert.max_of_le h)

theorem finishPoll_eq (prev : Nat) (s : St) (r t : Res) :
    finishPoll prev s r t = ({ s with status := pollStatus prev s.status t }, pollRes r t) := by
  cases t with
  | continue_ => cases r <;> rfl
  | outOfFuel => cases r <;> rfl
  | break_ d =>
    cases d with
    | interrupt x => cases x <;> cases r <;> rfl
    | _ => cases r <;> rfl

theorem pollRes_outOfFuel (r : Res) : pollRes r .outOfFuel = .outOfFuel := by
  cases r <;> rfl

theorem exitTrapTail_outOfFuel {x : St × Res} (h : x.2 = .outOfFuel) (prev : Nat) :
    exitTrapTail prev x = (x.1, .outOfFuel) := by
  unfold exitTrapTail; rw [h]

theorem exitTrapTail_eq {x : St × Res} (h : x.2 ≠ .outOfFuel) (prev : Nat) :
    exitTrapTail prev x = (St.applyResult { x.1 with status := pollStatus prev x.1.status x.2 } x.2, x.2) := by
  obtain ⟨s1, r⟩ := x
  cases r with
  | outOfFuel => exact absurd rfl h
  | continue_ => rfl
  | break_ d => cases d with
    | interrupt e => cases e <;> rfl
    | _ => rfl

theorem shellTail_skip {x : St × Res} (h : x.2 = .outOfFuel ∨ ∃ e, x.2 = .break_ (.abort e)) (trap : St → St × Res) :
    shellTail x trap = x := by
  obtain ⟨s1, r⟩ := x
  rcases h with h | ⟨e, h⟩ <;> cases h <;> rfl

theorem shellTail_run {x : St × Res} (h1 : x.2 ≠ .outOfFuel) (h2 : ∀ e, x.2 ≠ .break_ (.abort e)) (trap : St → St × Res) :
    shellTail x trap = ((trap x.1).1, if (trap x.1).2 = .outOfFuel then .outOfFuel else x.2) := by
  obtain ⟨s1, r⟩ := x
  have run : ∀ r : Res, (match (trap s1).2 with | .outOfFuel => ((trap s1).1, Res.outOfFuel) | _ => ((trap s1).1, r)) =
      ((trap s1).1, if (trap s1).2 = .outOfFuel then .outOfFuel else r) := by
    intro r; cases (trap s1).2 <;> rfl
  cases r with
  | outOfFuel => exact absurd rfl h1
  | continue_ => exact run _
  | break_ d => cases d with
    | abort e => exact absurd rfl (h2 e)
    | _ => exact run _

theorem pollWith_eq (run : St → List Item → St × Res) (s1 : St) (r : Res) :
    pollWith run s1 r =
      pollCtl s1.trapDue (fun body => popped (run ({ s1 with pending := false }.push .trap) body)) s1 r :=
  rfl

theorem pollWithS_eq (run : Ctx → St → List Item → St × Res) (ctx : Ctx) (s1 : St) (r : Res) :
    pollWithS run ctx s1 r = pollCtl (trapDueS ctx s1) (run ctx.trap { s1 with pending := false }) s1 r :=
  rfl

theorem pollCtl_none (act : List Item → St × Res) (s1 : St) (r : Res) : pollCtl none act s1 r = (s1, r) := by
  cases r <;> rfl

theorem pollCtl_some (body : List Item) (act : List Item → St × Res) (s1 : St) {r : Res} (hr : r ≠ .outOfFuel) :
    pollCtl (some body) act s1 r = finishPoll s1.status (act body).1 r (act body).2 := by
  cases r with
  | outOfFuel => exact absurd rfl hr
  | _ => rfl

theorem pollWith_none (run : St → List Item → St × Res) (s1 : St) (r : Res) (h : s1.trapDue = none) :
    pollWith run s1 r = (s1, r) := by
  rw [pollWith_eq, h, pollCtl_none]

theorem pollWith_outOfFuel (run : St → List Item → St × Res) (s1 : St) :
    pollWith run s1 .outOfFuel = (s1, .outOfFuel) := rfl

theorem pollWith_due (run : St → List Item → St × Res) (s1 : St) {r : Res} (body : List Item) (hr : r ≠ .outOfFuel)
    (hd : s1.trapDue = some body) :
    pollWith run s1 r =
      finishPoll s1.status (run ({ s1 with pending := false }.push .trap) body).1.pop r
        (run ({ s1 with pending := false }.push .trap) body).2 := by
  rw [pollWith_eq, hd, pollCtl_some _ _ _ hr]; rfl

theorem execList_cons (f : Nat) (s : St) (it : Item) (rest : List Item) :
    execList (f+1) s (it :: rest) = andThen (execItem f s it) (execList f · rest) :=
  rfl

/-- a list of one item is that item (without fuel the item is already out of it) -/
theorem execList_single (f : Nat) (s : St) (it : Item) : execList (f+1) s [it] = execItem f s it := by
  rw [execList_cons]
  cases f with
  | zero => rfl
  | succ f => exact andThen_pure _

theorem execItem_single (f : Nat) (s : St) (p : Pipeline) : execItem (f+1) s (.mk p []) = execPipeline f s p :=
  rfl

theorem execItem_cons (f : Nat) (s : St) (p : Pipeline) (a : Bool × Pipeline) (t : List (Bool × Pipeline)) :
    execItem (f+1) s (.mk p (a :: t)) =
      andThenPop (execPipeline f (s.push .condition) p) (execAndOrRest f · (a :: t)) :=
  rfl

theorem execAndOrRest_last (f : Nat) (s : St) (a : Bool) (p : Pipeline) :
    execAndOrRest (f+1) s [(a, p)] =
      if (s.pop.status = 0) = a then execPipeline f s.pop p else (s.pop, .continue_) :=
  rfl

theorem execAndOrRest_cons (f : Nat) (s : St) (a : Bool) (p : Pipeline) (q : Bool × Pipeline)
    (t : List (Bool × Pipeline)) :
    execAndOrRest (f+1) s ((a, p) :: q :: t) =
      if (s.status = 0) = a then andThenPop (execPipeline f s p) (execAndOrRest f · (q :: t))
      else execAndOrRest f s (q :: t) :=
  rfl

theorem execPipeline_plain (f : Nat) (s : St) (cs : List Cmd) :
    execPipeline (f+1) s (.mk false cs) = execCommands f s cs :=
  rfl

theorem execPipeline_negated (f : Nat) (s : St) (cs : List Cmd) :
    execPipeline (f+1) s (.mk true cs) =
      andThen (popped (execCommands f (s.push .condition) cs))
        fun s1 => ({ s1 with status := if s1.status = 0 then 1 else 0 }, .continue_) :=
  rfl

theorem execCommands_single (f : Nat) (s : St) (c : Cmd) :
    execCommands (f+1) s [c] = pollWith (execList f) (execCmd f s c).1 (execCmd f s c).2 :=
  rfl

theorem execCommands_many (f : Nat) (s : St) (c d : Cmd) (t : List Cmd) :
    execCommands (f+1) s (c :: d :: t) =
      andThen (s.leaveJc (execPipeMembers f s.enterJc (c :: d :: t) 0).1, (execPipeMembers f s.enterJc (c :: d :: t) 0).2)
        fun s1 => (s1, s1.applyErrexit) :=
  rfl

theorem execPipeMembers_cons (f : Nat) (s : St) (c : Cmd) (rest : List Cmd) (final : Nat) :
    execPipeMembers (f+1) s (c :: rest) final =
      joinSub s (execCmd f (s.push .subshell) c) fun c2 =>
        execPipeMembers f { s with trace := c2.trace, pending := c2.pending } rest
          (if c2.status ≠ 0 ∨ !s.pipefail then c2.status else final) :=
  rfl

/-- the members hand back the parent's state with only the output, the pending signal and (at a normal end) `$?`
    changed, and end normally or out of fuel -/
theorem execPipeMembers_result (fuel : Nat) : ∀ (s : St) (cs : List Cmd) (f : Nat), ∃ tr pe,
    execPipeMembers fuel s cs f = ({ s with trace := tr, pending := pe }, .outOfFuel) ∨
    ∃ st, execPipeMembers fuel s cs f = ({ s with status := st, trace := tr, pending := pe }, .continue_) := by
  induction fuel with
  | zero => intro s cs f; exact ⟨s.trace, s.pending, .inl rfl⟩
  | succ fuel ih =>
    intro s cs f
    cases cs with
    | nil => exact ⟨s.trace, s.pending, .inr ⟨f, rfl⟩⟩
    | cons c rest =>
      rw [execPipeMembers_cons]
      by_cases hf : (execCmd fuel (s.push .subshell) c).2 = .outOfFuel
      · rw [joinSub_outOfFuel hf]; exact ⟨s.trace, s.pending, .inl rfl⟩
      · rw [joinSub_of_fuel hf]; exact ih _ rest _

theorem execElifs_cons (f : Nat) (s : St) (cond body : List Item) (rest : List (List Item × List Item))
    (els : Option (List Item)) :
    execElifs (f+1) s ((cond, body) :: rest) els =
      andThen (popped (execList f (s.push .condition) cond))
        fun s1 => if s1.status = 0 then execList f s1 body else execElifs f s1 rest els :=
  rfl

theorem execFor_succ (f : Nat) (s : St) (n : Nat) (body : List Item) :
    execFor (f+1) s (n+1) body = loopCtl (execList f s body) (fun _ => .continue_) id (execFor f · n body) :=
  rfl

theorem execCase_cons (f : Nat) (s : St) (m e : Bool) (body : List Item) (k : CaseCont)
    (rest : List (Bool × Bool × List Item × CaseCont)) (falling u : Bool) :
    execCase (f+1) s ((m, e, body, k) :: rest) falling u =
      if !falling && e then (s, s.expansionError, u)
      else if !falling && !m then execCase f s rest false u
      else caseNext (execList f s body) u (!body.isEmpty) k (execCase f · rest · (!body.isEmpty)) :=
  rfl

theorem execWhile_succ (f : Nat) (s : St) (u : Bool) (c b : List Item) (e : Nat) :
    execWhile (f+1) s u c b e =
      whileRound u e (popped (execList f (s.push .condition) c)) (execList f · b) (execWhile f · u c b ·) :=
  rfl

theorem execCmd_group (f : Nat) (s : St) (body : List Item) : execCmd (f+1) s (.group body) = execList f s body :=
  rfl

theorem execCmd_subshell (f : Nat) (s : St) (body : List Item) :
    execCmd (f+1) s (.subshell body) =
      joinSub s (execList f (s.push .subshell) body) fun c2 =>
        (subResult s c2 c2.status, (subResult s c2 c2.status).applyErrexit) :=
  rfl

theorem execCmd_asyncWait (f : Nat) (s : St) (body : List Item) :
    execCmd (f+1) s (.asyncWait body) =
      joinSub s (execList f (s.push .subshell) body) fun c2 => (subResult s c2 0, (subResult s c2 0).applyErrexit) :=
  rfl

theorem execCmd_ifc (f : Nat) (s : St) (c b : List Item) (rest : List (List Item × List Item)) (els : Option (List Item)) :
    execCmd (f+1) s (.ifc c b rest els) = execElifs (f+1) s ((c, b) :: rest) els :=
  rfl

theorem execCmd_whileLoop (f : Nat) (s : St) (u : Bool) (c b : List Item) :
    execCmd (f+1) s (.whileLoop u c b) = whilePost (popped (execWhile f (s.push .loop) u c b 0)) :=
  rfl

theorem execCmd_forLoop (f : Nat) (s : St) (values : Nat) (body : List Item) :
    execCmd (f+1) s (.forLoop values body) =
      if values = 0 ∧ !body.isEmpty then ({ s with status := 0 }, .continue_)
      else popped (execFor f (s.push .loop) values body) :=
  rfl

theorem execCmd_forPos (f : Nat) (s : St) (body : List Item) :
    execCmd (f+1) s (.forPos body) = execCmd (f+1) s (.forLoop s.params body) :=
  rfl

theorem execCmd_caseC (f : Nat) (s : St) (items : List (Bool × Bool × List Item × CaseCont)) :
    execCmd (f+1) s (.caseC items) = casePost (execCase f s items false false) :=
  rfl

theorem execCmd_call (f : Nat) (s : St) (name : Name) (nargs : Nat) :
    execCmd (f+1) s (.call name nargs) = callTarget finishSimple (execCmd f) s nargs (classify s name) :=
  rfl

theorem runScript_cmds (f : Nat) (s : St) (l : List Item) (rest : List Line) :
    runScript (f+1) s (.cmds l :: rest) =
      andThenApply (pollWith (execList f) s .continue_) fun s0 =>
        andThenApply (execList f s0 l) (runScript f · rest) :=
  rfl

theorem runExitTrap_eq (f : Nat) (s : St) :
    runExitTrap f s =
      match s.exitTrap with
      | none => (s, .continue_)
      | some body => exitTrapTail s.status (popped (execList f (s.push .trap) body)) :=
  rfl

theorem runShell_eq (f : Nat) (s : St) (script : List Line) :
    runShell f s script = shellTail (runScript f s script) (runExitTrap f) :=
  rfl

theorem specList_cons (f : Nat) (ctx : Ctx) (s : St) (it : Item) (rest : List Item) :
    specList (f+1) ctx s (it :: rest) = andThen (specItem f ctx s it) (specList f ctx · rest) :=
  rfl

theorem specItem_cons (f : Nat) (ctx : Ctx) (s : St) (p : Pipeline) (a : Bool × Pipeline) (t : List (Bool × Pipeline)) :
    specItem (f+1) ctx s (.mk p (a :: t)) = andThen (specPipeline f ctx.cond s p) (specAndOrRest f ctx · (a :: t)) :=
  rfl

theorem specAndOrRest_last (f : Nat) (ctx : Ctx) (s : St) (a : Bool) (p : Pipeline) :
    specAndOrRest (f+1) ctx s [(a, p)] = if (s.status = 0) = a then specPipeline f ctx s p else (s, .continue_) :=
  rfl

theorem specAndOrRest_cons (f : Nat) (ctx : Ctx) (s : St) (a : Bool) (p : Pipeline) (q : Bool × Pipeline)
    (t : List (Bool × Pipeline)) :
    specAndOrRest (f+1) ctx s ((a, p) :: q :: t) =
      if (s.status = 0) = a then andThen (specPipeline f ctx.cond s p) (specAndOrRest f ctx · (q :: t))
      else specAndOrRest f ctx s (q :: t) :=
  rfl

theorem specPipeline_negated (f : Nat) (ctx : Ctx) (s : St) (cs : List Cmd) :
    specPipeline (f+1) ctx s (.mk true cs) =
      andThen (specCommands f ctx.cond s cs)
        fun s1 => ({ s1 with status := if s1.status = 0 then 1 else 0 }, .continue_) :=
  rfl

theorem specCommands_single (f : Nat) (ctx : Ctx) (s : St) (c : Cmd) :
    specCommands (f+1) ctx s [c] = pollWithS (specList f) ctx (specCmd f ctx s c).1 (specCmd f ctx s c).2 :=
  rfl

theorem specCommands_many (f : Nat) (ctx : Ctx) (s : St) (c d : Cmd) (t : List Cmd) :
    specCommands (f+1) ctx s (c :: d :: t) =
      andThen (specPipeMembers f ctx s (c :: d :: t) 0) fun s1 => (s1, errexitS ctx s1) :=
  rfl

theorem specPipeMembers_cons (f : Nat) (ctx : Ctx) (s : St) (c : Cmd) (rest : List Cmd) (final : Nat) :
    specPipeMembers (f+1) ctx s (c :: rest) final =
      joinSub s (specCmd f ctx.sub s c) fun c2 =>
        specPipeMembers f ctx { s with trace := c2.trace, pending := c2.pending } rest
          (if c2.status ≠ 0 ∨ !s.pipefail then c2.status else final) :=
  rfl

theorem specElifs_cons (f : Nat) (ctx : Ctx) (s : St) (cond body : List Item) (rest : List (List Item × List Item))
    (els : Option (List Item)) :
    specElifs (f+1) ctx s ((cond, body) :: rest) els =
      andThen (specList f ctx.cond s cond)
        fun s1 => if s1.status = 0 then specList f ctx s1 body else specElifs f ctx s1 rest els :=
  rfl

theorem specFor_succ (f : Nat) (ctx : Ctx) (s : St) (n : Nat) (body : List Item) :
    specFor (f+1) ctx s (n+1) body =
      loopCtl (specList f ctx.inLoop s body) (fun _ => .continue_) id (specFor f ctx · n body) :=
  rfl

theorem specCase_cons (f : Nat) (ctx : Ctx) (s : St) (m e : Bool) (body : List Item) (k : CaseCont)
    (rest : List (Bool × Bool × List Item × CaseCont)) (falling u : Bool) :
    specCase (f+1) ctx s ((m, e, body, k) :: rest) falling u =
      if !falling && e then (s, expansionErrorS ctx s, u)
      else if !falling && !m then specCase f ctx s rest false u
      else caseNext (specList f ctx s body) u (!body.isEmpty) k (specCase f ctx · rest · (!body.isEmpty)) :=
  rfl

theorem specWhile_succ (f : Nat) (ctx : Ctx) (s : St) (u : Bool) (c b : List Item) (e : Nat) :
    specWhile (f+1) ctx s u c b e =
      whileRound u e (specList f ctx.inLoop.cond s c) (specList f ctx.inLoop · b) (specWhile f ctx · u c b ·) :=
  rfl

theorem specCmd_group (f : Nat) (ctx : Ctx) (s : St) (body : List Item) :
    specCmd (f+1) ctx s (.group body) = specList f ctx s body :=
  rfl

theorem specCmd_subshell (f : Nat) (ctx : Ctx) (s : St) (body : List Item) :
    specCmd (f+1) ctx s (.subshell body) =
      joinSub s (specList f ctx.sub s body) fun c2 =>
        (subResult s c2 c2.status, errexitS ctx (subResult s c2 c2.status)) :=
  rfl

theorem specCmd_asyncWait (f : Nat) (ctx : Ctx) (s : St) (body : List Item) :
    specCmd (f+1) ctx s (.asyncWait body) =
      joinSub s (specList f ctx.sub s body) fun c2 => (subResult s c2 0, errexitS ctx (subResult s c2 0)) :=
  rfl

theorem specCmd_ifc (f : Nat) (ctx : Ctx) (s : St) (c b : List Item) (rest : List (List Item × List Item))
    (els : Option (List Item)) :
    specCmd (f+1) ctx s (.ifc c b rest els) = specElifs (f+1) ctx s ((c, b) :: rest) els :=
  rfl

theorem specCmd_whileLoop (f : Nat) (ctx : Ctx) (s : St) (u : Bool) (c b : List Item) :
    specCmd (f+1) ctx s (.whileLoop u c b) = whilePost (specWhile f ctx s u c b 0) :=
  rfl

theorem specCmd_forLoop (f : Nat) (ctx : Ctx) (s : St) (values : Nat) (body : List Item) :
    specCmd (f+1) ctx s (.forLoop values body) =
      if values = 0 ∧ !body.isEmpty then ({ s with status := 0 }, .continue_) else specFor f ctx s values body :=
  rfl

theorem specCmd_caseC (f : Nat) (ctx : Ctx) (s : St) (items : List (Bool × Bool × List Item × CaseCont)) :
    specCmd (f+1) ctx s (.caseC items) = casePost (specCase f ctx s items false false) :=
  rfl

/-- no `rfl` as for the model: the Spec's `match` lists `.status` before `.function`, so its matcher differs from `callTarget`'s -/
theorem specCmd_call (f : Nat) (ctx : Ctx) (s : St) (name : Name) (nargs : Nat) :
    specCmd (f+1) ctx s (.call name nargs) = callTarget (afterSimple ctx) (specCmd f ctx) s nargs (classify s name) := by
  rw [specCmd]
  cases classify s name with
  | function body =>
    simp only [callTarget]
    generalize specCmd f ctx { s with params := nargs } body = x
    obtain ⟨s1, r⟩ := x
    cases r with
    | break_ d => cases d with
      | return_ e => cases e <;> rfl
      | _ => rfl
    | _ => rfl
  | _ => rfl

theorem specScript_cmds (f : Nat) (s : St) (l : List Item) (rest : List Line) :
    specScript (f+1) s (.cmds l :: rest) =
      andThenApply (pollWithS (specList f) ⟨0, false, false⟩ s .continue_) fun s0 =>
        andThenApply (specList f ⟨0, false, false⟩ s0 l) (specScript f · rest) :=
  rfl

theorem specExitTrap_eq (f : Nat) (s : St) :
    specExitTrap f s =
      match s.exitTrap with
      | none => (s, .continue_)
      | some body => exitTrapTail s.status (specList f ⟨0, false, true⟩ s body) :=
  rfl

theorem specShell_eq (f : Nat) (s : St) (script : List Line) :
    specShell f s script = shellTail (specScript f s script) (specExitTrap f) :=
  rfl

/-- the members of a pipeline read the context only through `ctx.sub` (each runs in a subshell of its own); this is why
    `Irr` has no `members` field -/
theorem specPipeMembers_sub (fuel : Nat) : ∀ (ctx ctx' : Ctx) s cs f, ctx.sub = ctx'.sub →
    specPipeMembers fuel ctx s cs f = specPipeMembers fuel ctx' s cs f := by
  induction fuel with
  | zero => intro ctx ctx' s cs f _; rfl
  | succ n ih =>
    intro ctx ctx' s cs f h
    cases cs with
    | nil => rfl
    | cons c rest =>
      rw [specPipeMembers_cons, specPipeMembers_cons, h]
      exact congrArg (joinSub s _) (funext fun c2 => ih _ _ _ _ _ h)

/-! ### the frame stack, and keeping it -/

@[simp] theorem push_stack (s : St) (f : Frame) : (s.push f).stack = f :: s.stack := rfl
@[simp] theorem pop_stack (s : St) : s.pop.stack = s.stack.tail := rfl

/-- number of `Loop` frames visible from the top of the stack (`loop_count(∞)`) -/
def loops : List Frame → Nat
  | [] => 0
  | f :: rest => if f.retainsContext then (if f = .loop then 1 + loops rest else loops rest) else 0

theorem loopCountAux_eq_min (stack : List Frame) (max : Nat) :
    loopCountAux stack max = min max (loops stack) := by
  induction stack generalizing max with
  | nil => cases max <;> simp [loopCountAux, loops]
  | cons f rest ih =>
    cases max with
    | zero => simp [loopCountAux]
    | succ m =>
      simp only [loopCountAux, loops]
      split
      · split
        · rw [ih]; omega
        · rw [ih]
      · simp

theorem loopCount_eq_min (stack : List Frame) (max : Nat) : loopCount stack max = min max (loops stack) :=
  loopCountAux_eq_min stack max

@[simp] theorem loops_condition (st : List Frame) : loops (.condition :: st) = loops st := by
  simp [loops, Frame.retainsContext]
@[simp] theorem loops_builtin (st : List Frame) (b : Bool) : loops (.builtin b :: st) = loops st := by
  simp [loops, Frame.retainsContext]
@[simp] theorem loops_loop (st : List Frame) : loops (.loop :: st) = 1 + loops st := by
  simp [loops, Frame.retainsContext]
@[simp] theorem loops_subshell (st : List Frame) : loops (.subshell :: st) = 0 := by
  simp [loops, Frame.retainsContext]
@[simp] theorem loops_trap (st : List Frame) : loops (.trap :: st) = 0 := by
  simp [loops, Frame.retainsContext]

theorem applyResult_withStack (c : St) (st : List Frame) (r : Res) :
    ({ c with stack := st } : St).applyResult r = { c.applyResult r with stack := st } := by
  unfold St.applyResult
  split
  · split <;> rfl
  · rfl

@[simp] theorem applyResult_stack (s : St) (r : Res) : (s.applyResult r).stack = s.stack := by
  rw [applyResult_eq]

theorem popped_stack {α : Type} {x : St × α} {stk : List Frame} {f : Frame} (h : x.1.stack = f :: stk) :
    (popped x).1.stack = stk :=
  congrArg List.tail h

theorem andThen_stack {stk : List Frame} {x : St × Res} {k : St → St × Res} (hx : x.1.stack = stk)
    (hk : ∀ s1, s1.stack = stk → (k s1).1.stack = stk) : (andThen x k).1.stack = stk := by
  obtain ⟨s1, r⟩ := x
  cases r with
  | continue_ => exact hk s1 hx
  | _ => exact hx

theorem andThenPop_stack {stk : List Frame} {x : St × Res} {k : St → St × Res} (hx : x.1.stack = stk)
    (hk : ∀ s1, s1.stack = stk → (k s1).1.stack = stk.tail) : (andThenPop x k).1.stack = stk.tail := by
  obtain ⟨s1, r⟩ := x
  cases r with
  | continue_ => exact hk s1 hx
  | _ => exact congrArg List.tail hx

theorem loopCtl_stack {α : Type} {stk : List Frame} {x : St × Res} {stop : Nat → α} {out : Res → α}
    {next : St → St × α} (hx : x.1.stack = stk) (hn : ∀ s1, s1.stack = stk → (next s1).1.stack = stk) :
    (loopCtl x stop out next).1.stack = stk := by
  simp only [loopCtl]
  cases loopStep x.2 with
  | next => exact hn _ hx
  | _ => exact hx

theorem whileRound_stack {stk : List Frame} (u : Bool) (e : Nat) {x : St × Res} {body : St → St × Res}
    {loop : St → Nat → St × (Res × Nat)} (hx : x.1.stack = stk)
    (hb : ∀ s1, s1.stack = stk → (body s1).1.stack = stk)
    (hl : ∀ s1 k, s1.stack = stk → (loop s1 k).1.stack = stk) : (whileRound u e x body loop).1.stack = stk := by
  refine loopCtl_stack hx fun s1 h1 =>
    afterContinue_cases (Q := fun p : St × (Res × Nat) => p.1.stack = stk) _ (hl s1 e h1) ?_
  split
  · exact loopCtl_stack (hb s1 h1) fun s2 h2 =>
      afterContinue_cases (Q := fun p : St × (Res × Nat) => p.1.stack = stk) _ (hl s2 e h2) (hl s2 _ h2)
  · exact h1

theorem joinSub_stack {s : St} {x : St × Res} {k : St → St × Res} (hk : ∀ c, (k c).1.stack = s.stack) :
    (joinSub s x k).1.stack = s.stack := by
  obtain ⟨c1, r⟩ := x
  cases r with
  | outOfFuel => rfl
  | _ => exact hk _

theorem whilePost_stack (x : St × (Res × Nat)) : (whilePost x).1.stack = x.1.stack := by
  obtain ⟨s1, r, e⟩ := x
  cases r <;> rfl

theorem casePost_stack (x : St × Res × Bool) : (casePost x).1.stack = x.1.stack := by
  obtain ⟨s1, r, u⟩ := x
  cases r with
  | continue_ => cases u <;> rfl
  | _ => rfl

theorem caseNext_stack {stk : List Frame} {x : St × Res} {u u1 : Bool} {k : CaseCont}
    {next : St → Bool → St × Res × Bool} (hx : x.1.stack = stk)
    (hn : ∀ s1 fl, s1.stack = stk → (next s1 fl).1.stack = stk) : (caseNext x u u1 k next).1.stack = stk := by
  obtain ⟨s1, r⟩ := x
  cases r with
  | continue_ => cases k with
    | break_ => exact hx
    | _ => exact hn s1 _ hx
  | _ => exact hx

theorem andThenApply_stack {stk : List Frame} {x : St × Res} {k : St → St × Res} (hx : x.1.stack = stk)
    (hk : ∀ s1, s1.stack = stk → (k s1).1.stack = stk) : (andThenApply x k).1.stack = stk := by
  obtain ⟨s1, r⟩ := x
  cases r with
  | continue_ => exact hk s1 hx
  | _ => exact (applyResult_stack _ _).trans hx

theorem exitTrapTail_stack (prev : Nat) (x : St × Res) : (exitTrapTail prev x).1.stack = x.1.stack := by
  by_cases h : x.2 = .outOfFuel
  · rw [exitTrapTail_outOfFuel h]
  · rw [exitTrapTail_eq h]; exact applyResult_stack _ _

theorem shellTail_stack {stk : List Frame} {x : St × Res} {trap : St → St × Res} (hx : x.1.stack = stk)
    (ht : ∀ s1, s1.stack = stk → (trap s1).1.stack = stk) : (shellTail x trap).1.stack = stk := by
  by_cases hs : x.2 = .outOfFuel ∨ ∃ e, x.2 = .break_ (.abort e)
  · rw [shellTail_skip hs]; exact hx
  · rw [shellTail_run (fun h => hs (.inl h)) fun e h => hs (.inr ⟨e, h⟩)]; exact ht _ hx

theorem pollCtl_stack {due : Option (List Item)} {act : List Item → St × Res} {s1 : St} {r : Res}
    (h : ∀ body, (act body).1.stack = s1.stack) : (pollCtl due act s1 r).1.stack = s1.stack := by
  cases r with
  | outOfFuel => rfl
  | _ => cases due with
    | none => rfl
    | some body => simp only [pollCtl]; rw [finishPoll_eq]; exact h body

/-! ### "bad, or the same run"

Fuel monotonicity (`bad` = out of fuel) and the Spec's loop irrelevance (`bad` = a break that reaches beyond the smaller
context) relate two runs by `bad x.2 ∨ x = y`.  A bad result is no normal end, so it passes through every operator. -/

theorem orEq_andThen {bad : Res → Prop} (hc : ¬ bad .continue_) {x y : St × Res} {k k' : St → St × Res}
    (h : bad x.2 ∨ x = y) (hk : ∀ s1, bad (k s1).2 ∨ k s1 = k' s1) :
    bad (andThen x k).2 ∨ andThen x k = andThen y k' := by
  rcases h with h | rfl
  · left; rw [andThen_of_ne fun e => hc (e ▸ h)]; exact h
  · by_cases hx : x.2 = .continue_
    · rw [andThen_continue hx, andThen_continue hx]; exact hk _
    · rw [andThen_of_ne hx, andThen_of_ne hx]; exact .inr rfl

theorem orEq_popped {α : Type} {bad : α → Prop} {x y : St × α} (h : bad x.2 ∨ x = y) :
    bad (popped x).2 ∨ popped x = popped y := by
  rcases h with h | rfl
  · exact .inl h
  · exact .inr rfl

theorem orEq_loopCtl {α : Type} {bad' : α → Prop} (x : St × Res) (stop : Nat → α) (out : Res → α)
    {next next' : St → St × α} (hn : ∀ s1, bad' (next s1).2 ∨ next s1 = next' s1) :
    bad' (loopCtl x stop out next).2 ∨ loopCtl x stop out next = loopCtl x stop out next' := by
  simp only [loopCtl]
  cases loopStep x.2 with
  | next => exact hn x.1
  | _ => exact .inr rfl

theorem orEq_afterContinue {α : Type} {bad : α → Prop} (r : Res) {a b a' b' : St × α}
    (ha : bad a.2 ∨ a = a') (hb : bad b.2 ∨ b = b') :
    bad (afterContinue r a b).2 ∨ afterContinue r a b = afterContinue r a' b' := by
  unfold afterContinue
  split
  · exact ha
  · exact hb

/-- results that are `bad` inside the loop leave it as results that are `bad'` outside (`hout`), so a round of related
    parts is related -/
theorem orEq_whileRound {bad bad' : Res → Prop} (u : Bool) (e : Nat) {x y : St × Res} {body body' : St → St × Res}
    {loop loop' : St → Nat → St × (Res × Nat)}
    (hout : ∀ r, bad r → ∃ r', loopStep r = .out r' ∧ bad' r')
    (hx : bad x.2 ∨ x = y) (hb : ∀ s1, bad (body s1).2 ∨ body s1 = body' s1)
    (hl : ∀ s1 k, bad' (loop s1 k).2.1 ∨ loop s1 k = loop' s1 k) :
    bad' (whileRound u e x body loop).2.1 ∨ whileRound u e x body loop = whileRound u e y body' loop' := by
  rcases hx with hx | rfl
  · obtain ⟨r', h, hr⟩ := hout _ hx
    left; rw [whileRound, loopCtl_out _ _ _ h]; exact hr
  · refine orEq_loopCtl (bad' := fun p : Res × Nat => bad' p.1) _ _ _ fun s1 =>
      orEq_afterContinue (bad := fun p : Res × Nat => bad' p.1) _ (hl s1 e) ?_
    by_cases hc : (s1.status = 0) = ((!u) = true)
    · rw [if_pos hc, if_pos hc]
      rcases hb s1 with hb | hb
      · obtain ⟨r', h, hr⟩ := hout _ hb
        left; rw [loopCtl_out _ _ _ h]; exact hr
      · rw [← hb]
        exact orEq_loopCtl (bad' := fun p : Res × Nat => bad' p.1) _ _ _ fun s2 =>
          orEq_afterContinue (bad := fun p : Res × Nat => bad' p.1) _ (hl s2 e) (hl s2 _)
    · rw [if_neg hc, if_neg hc]; exact .inr rfl

/-- `loopCtl` of two related runs, for a loop whose results are plain (`for`) -/
theorem orEq_loopCtl_of {α : Type} {bad : Res → Prop} {bad' : α → Prop} {x y : St × Res} (stop : Nat → α)
    (out : Res → α) {next next' : St → St × α}
    (hout : ∀ r, bad r → ∃ r', loopStep r = .out r' ∧ bad' (out r'))
    (hx : bad x.2 ∨ x = y) (hn : ∀ s1, bad' (next s1).2 ∨ next s1 = next' s1) :
    bad' (loopCtl x stop out next).2 ∨ loopCtl x stop out next = loopCtl y stop out next' := by
  rcases hx with hx | rfl
  · obtain ⟨r', h, hr⟩ := hout _ hx
    left; rw [loopCtl_out _ _ _ h]; exact hr
  · exact orEq_loopCtl _ _ _ hn

theorem orEq_whilePost {bad : Res → Prop} (hc : ¬ bad .continue_) {x y : St × (Res × Nat)}
    (h : bad x.2.1 ∨ x = y) : bad (whilePost x).2 ∨ whilePost x = whilePost y := by
  rcases h with h | rfl
  · left; rw [whilePost_of_ne fun e => hc (e ▸ h)]; exact h
  · exact .inr rfl

theorem orEq_casePost {bad : Res → Prop} (hc : ¬ bad .continue_) {x y : St × Res × Bool}
    (h : bad x.2.1 ∨ x = y) : bad (casePost x).2 ∨ casePost x = casePost y := by
  rcases h with h | rfl
  · left; rw [casePost_of_ne fun e => hc (e ▸ h)]; exact h
  · exact .inr rfl

theorem orEq_caseNext {bad : Res → Prop} (hc : ¬ bad .continue_) {x y : St × Res} (u u1 : Bool) (k : CaseCont)
    {next next' : St → Bool → St × Res × Bool} (h : bad x.2 ∨ x = y)
    (hn : ∀ s1 fl, bad (next s1 fl).2.1 ∨ next s1 fl = next' s1 fl) :
    bad (caseNext x u u1 k next).2.1 ∨ caseNext x u u1 k next = caseNext y u u1 k next' := by
  rcases h with h | rfl
  · left; rw [caseNext_of_ne fun e => hc (e ▸ h)]; exact h
  · by_cases hx : x.2 = .continue_
    · unfold caseNext; rw [hx]
      cases k with
      | break_ => exact .inr rfl
      | _ => exact hn _ _
    · rw [caseNext_of_ne hx, caseNext_of_ne hx]; exact .inr rfl

/-- a bad result of the body is no `return` (`hret`) and passes through the tail `fin` of the call (`hfin`) -/
theorem orEq_callTarget {bad : Res → Prop} {fin : St → Res → St × Res} {run run' : St → Cmd → St × Res}
    (hret : ∀ e, ¬ bad (.break_ (.return_ e))) (hfin : ∀ s r, bad r → bad (fin s r).2) (s : St) (nargs : Nat)
    (t : Target) (h : ∀ a c, bad (run a c).2 ∨ run a c = run' a c) :
    bad (callTarget fin run s nargs t).2 ∨ callTarget fin run s nargs t = callTarget fin run' s nargs t := by
  cases t with
  | function body =>
    simp only [callTarget]
    rcases h { s with params := nargs } body with h | h
    · left
      generalize run { s with params := nargs } body = x at h
      obtain ⟨s1, r⟩ := x
      cases r with
      | break_ d => cases d with
        | return_ e => exact absurd h (hret e)
        | _ => exact hfin _ _ h
      | _ => exact hfin _ _ h
    · rw [h]; exact .inr rfl
  | _ => exact .inr rfl

end YashModel.Exec
