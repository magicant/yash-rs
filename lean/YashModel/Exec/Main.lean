/- Driver for C02 (see `Exec/Driver.lean`; the `bi`/`dv`/`id`/`rel` families: `Exec/BuiltinDriver.lean`). -/
import YashModel.Common.Proto
import YashModel.Exec.Driver
import YashModel.Exec.BuiltinDriver
def main : IO Unit := YashModel.Proto.mainLoop fun line =>
  (YashModel.Exec.Builtins.runLine? line).getD (YashModel.Exec.runLineFull line)
