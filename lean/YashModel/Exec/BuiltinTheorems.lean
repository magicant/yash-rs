/-
  C02 — the control-flow built-ins `break`/`continue`/`return`/`exit` as transcribed (`Builtins`) against the executor
  model's commands, `Ord for Divert`, and the tables re-extracted from the code.
-/
import YashModel.Exec.BuiltinLemmas
namespace YashModel.Exec

/-! ### the tables of the code (re-extracted into `Generated/ExecTables.lean` on every run) -/

/-- the variant's name in yash-env/src/stack.rs -/
def Frame.rustName : Frame → String
  | .loop => "Loop" | .subshell => "Subshell" | .condition => "Condition" | .builtin _ => "Builtin"
  | .dotScript => "DotScript" | .trap => "Trap" | .initFile => "InitFile"

/-- `Frame.retainsContext` is the `retains_context` match of `Stack::loop_count` as it stands in the
    code, and the model's frames are all the variants of `enum Frame` -/
theorem retainsContext_table :
    (∀ f : Frame, Generated.ExecTables.retainsContext.lookup f.rustName = some f.retainsContext) ∧
    Generated.ExecTables.frameVariants =
      [Frame.loop, .subshell, .condition, .builtin true, .dotScript, .trap, .initFile].map Frame.rustName := by
  refine ⟨fun f => ?_, by decide +kernel⟩
  cases f with
  | builtin b => cases b <;> decide +kernel
  | _ => decide +kernel

section ControlBuiltins
open Builtins

/-- `Stack::loop_count` as written in stack.rs (take_while / filter / take / count) is the recursion the executor
    model uses, and both are `min max (visible loops)` -/
theorem loop_count_is_chain (stack : List Frame) (max : Nat) :
    loopCountChain stack max = loopCount stack max ∧ loopCountChain stack max = min max (loops stack) :=
  ⟨loopCountChain_eq stack max, loopCountChain_eq_min stack max⟩

/-- composition: the executor model's `break n` / `continue n` is the transcribed built-in (`parse_arguments`,
    `str::parse::<NonZeroUsize>`, `semantics::run`, the error reports) called by `execute_builtin` with the
    operand text `w`, for every text Rust's parser reads as `n`; without an operand it is `break 1` -/
theorem break_builtin_is_model (fuel : Nat) (s : St) (isBreak p : Bool) (w : Str) (n : Nat)
    (h : parseNonZeroUsize w = .ok n) :
    runBuiltin s true (fun st => breakMain isBreak p st [w]) =
      execCmd (fuel+1) s (if isBreak then .brk n else .cont n) ∧
    runBuiltin s true (fun st => breakMain isBreak p st []) =
      execCmd (fuel+1) s (if isBreak then .brk 1 else .cont 1) := by
  constructor
  · simp only [runBuiltin, breakMain_of_parse isBreak p s.stack [w] n (breakParse_operand p w n h)]
    cases isBreak <;> rfl
  · simp only [runBuiltin, breakMain_of_parse isBreak p s.stack [] 1 (breakParse_nil p)]
    cases isBreak <;> rfl

example : parseNonZeroUsize ['+', '2'] = .ok 2 ∧ parseNonZeroUsize ['0', '0', '7'] = .ok 7 := ⟨rfl, rfl⟩

/-- composition: the executor model's `return [n]` / `exit [n]` is the transcribed built-in called by
    `execute_builtin`, for every operand text `w` that `str::parse::<i32>` reads as a non-negative `v` (a text
    beginning with `-` is an option to `parse_arguments`, never an operand) -/
theorem return_exit_builtin_is_model (fuel : Nat) (s : St) (p : Bool) (w : Str) (v : Nat)
    (h : parseI32 w = .ok (Int.ofNat v)) (hw : w.head? ≠ some '-') :
    runBuiltin s true (fun st => returnMain p st s.status [w]) = execCmd (fuel+1) s (.ret (some v)) ∧
    runBuiltin s true (fun st => returnMain p st s.status []) = execCmd (fuel+1) s (.ret none) ∧
    runBuiltin s true (fun st => exitMain p st s.status [w]) = execCmd (fuel+1) s (.exit (some v)) ∧
    runBuiltin s true (fun st => exitMain p st s.status []) = execCmd (fuel+1) s (.exit none) := by
  refine ⟨?_, ?_, ?_, ?_⟩
  · simp [runBuiltin, returnMain, parseArguments_operand _ _ w hw, statusOperand, h, execCmd]
  · simp [runBuiltin, returnMain, parseArguments_nil, statusOperand, execCmd]
  · simp [runBuiltin, exitMain, parseArguments_operand _ _ w hw, statusOperand, h, execCmd]
  · simp [runBuiltin, exitMain, parseArguments_nil, statusOperand, execCmd]

example : parseI32 ['+', '0', '7'] = .ok (Int.ofNat 7) ∧ parseI32 ['2', '5', '6'] = .ok (Int.ofNat 256) := ⟨rfl, rfl⟩

/-- every call of `break` / `continue`, whatever the arguments and the frame stack: either the operands parse to
    some `n ≥ 1`, a loop is visible, and the result is status 0 with exactly `min n (visible loops) - 1` further
    levels — or nothing is left: a non-zero status (2 for a syntax error, 1 outside a loop) and the shell is
    interrupted iff the innermost built-in frame is that of a special built-in -/
theorem break_main_cases (isBreak p : Bool) (stack : List Frame) (args : List Str) :
    (∃ n, breakParse p args = .ok n ∧ 1 ≤ n ∧ 0 < loops stack ∧
      breakMain isBreak p stack args =
        ⟨0, .break_ (if isBreak then .break_ (min n (loops stack) - 1) else .continue_ (min n (loops stack) - 1))⟩) ∨
    ((breakMain isBreak p stack args).exitStatus ≠ 0 ∧
      (breakMain isBreak p stack args).divert =
        if currentBuiltin stack = some true then .break_ (.interrupt none) else .continue_) := by
  have hrd := reportDivert_eq stack
  cases hp : breakParse p args with
  | error e => right; simp [breakMain, hp, reportError, hrd, Generated.ExecTables.ERROR]
  | ok n =>
    have hn : 1 ≤ n := breakParse_ok p args n hp
    by_cases hl : loops stack = 0
    · right
      simp [breakMain, hp, breakRun, loopCountChain_eq_min, hl, reportSimpleFailure, hrd, Generated.ExecTables.FAILURE]
    · left
      refine ⟨n, rfl, hn, by omega, ?_⟩
      have : ¬ min n (loops stack) = 0 := by omega
      simp [breakMain, hp, breakRun, loopCountChain_eq_min, this, Generated.ExecTables.SUCCESS]

/-- every call of `return` / `exit` (non-interactive shell), whatever the arguments: a syntax error (status 2, the
    shell interrupted iff the innermost built-in frame is special), or the divert of that built-in and no other —
    `Return` resp. `Exit` with some payload or none, `$?` left as it was — or, for `return` only (`return -n`), no
    divert and some status or `$?`.  Which payload: `return_exit_builtin_is_model`, for one plain operand -/
theorem return_exit_main_cases (p : Bool) (stack : List Frame) (status : Nat) (args : List Str) :
    (((returnMain p stack status args).exitStatus = 2 ∧
        (returnMain p stack status args).divert =
          if currentBuiltin stack = some true then .break_ (.interrupt none) else .continue_) ∨
      (∃ es, returnMain p stack status args = ⟨status, .break_ (.return_ es)⟩) ∨
      (∃ es : Option Nat, returnMain p stack status args = ⟨es.getD status, .continue_⟩)) ∧
    (((exitMain p stack status args).exitStatus = 2 ∧
        (exitMain p stack status args).divert =
          if currentBuiltin stack = some true then .break_ (.interrupt none) else .continue_) ∨
      (∃ es, exitMain p stack status args = ⟨status, .break_ (.exit es)⟩)) := by
  have hrd := reportDivert_eq stack
  constructor
  · unfold returnMain
    split
    · left; simp [reportError, hrd, Generated.ExecTables.ERROR]
    · split
      · left; simp [reportError, hrd, Generated.ExecTables.ERROR]
      · rename_i es _
        simp only
        split
        · right; right; exact ⟨es, rfl⟩
        · right; left; exact ⟨es, rfl⟩
  · unfold exitMain
    split
    · left; simp [reportError, hrd, Generated.ExecTables.ERROR]
    · split
      · left; simp [reportError, hrd, Generated.ExecTables.ERROR]
      · rename_i es _
        right; exact ⟨es, rfl⟩

/-- not vacuous, every branch: `return -n 5`, `return -- 3`, `return -5` (an unknown option), `return 1 2`,
    `exit -f 4`, `exit 2147483648` (overflow) in a special / a regular built-in frame -/
example :
    returnMain false [.builtin true] 9 [['-', 'n'], ['5']] = ⟨5, .continue_⟩ ∧
    returnMain false [.builtin true] 9 [['-', '-'], ['3']] = ⟨9, .break_ (.return_ (some 3))⟩ ∧
    returnMain false [.builtin true] 9 [['-', '5']] = ⟨2, .break_ (.interrupt none)⟩ ∧
    returnMain false [.builtin false, .builtin true] 9 [['1'], ['2']] = ⟨2, .continue_⟩ ∧
    returnMain true [.builtin true] 9 [['-', 'n']] = ⟨2, .break_ (.interrupt none)⟩ ∧
    exitMain false [.builtin true] 9 [['-', 'f'], ['4']] = ⟨9, .break_ (.exit (some 4))⟩ ∧
    exitMain false [.condition, .builtin true] 9 [['2','1','4','7','4','8','3','6','4','8']] = ⟨2, .break_ (.interrupt none)⟩ := by
  decide +kernel

/-- what `str::parse` makes of an operand written without a sign: it is read as `n` iff it consists of ASCII
    digits only, denotes `n` in decimal, and `n` fits the type — `1 ≤ n ≤ usize::MAX` for `break`/`continue`
    (`NonZeroUsize`), `n ≤ i32::MAX` for `return`/`exit`; both bounds inclusive -/
theorem operand_is_decimal_value (ds : List Char) (n : Nat) (hne : ds ≠ [])
    (hp : ds.head? ≠ some '+') (hm : ds.head? ≠ some '-') :
    (parseNonZeroUsize ds = .ok n ↔
      (∀ c ∈ ds, (digitVal c).isSome = true) ∧ n = decimalValue ds 0 ∧ 1 ≤ n ∧ n ≤ 2 ^ 64 - 1) ∧
    (parseI32 ds = .ok (Int.ofNat n) ↔
      (∀ c ∈ ds, (digitVal c).isSome = true) ∧ n = decimalValue ds 0 ∧ n ≤ 2 ^ 31 - 1) := by
  constructor
  · have key := parseDigits_ok_iff usizeMax .posOverflow ds 0 n (Nat.zero_le _)
    constructor
    · intro h
      obtain ⟨h1, h2⟩ := parseNonZeroUsize_ok ds n h
      rw [parseUsize_unsigned ds hne hp hm] at h1
      obtain ⟨a, b, c⟩ := key.1 h1
      exact ⟨a, b, h2, c⟩
    · intro ⟨a, b, h2, c⟩
      have h1 := key.2 ⟨a, b, c⟩
      unfold parseNonZeroUsize
      rw [parseUsize_unsigned ds hne hp hm, h1]
      cases n with
      | zero => omega
      | succ k => rfl
  · rw [parseI32_unsigned ds hne hp hm]
    have key := parseDigits_ok_iff (2 ^ 31 - 1) .posOverflow ds 0 n (Nat.zero_le _)
    rw [← key]
    cases parseDigits (2 ^ 31 - 1) .posOverflow ds 0 with
    | error e => simp [Except.map]
    | ok v => simp [Except.map]; exact Int.ofNat_inj

deriving instance DecidableEq for Except

/-- not vacuous, at the boundaries: `usize::MAX` and `i32::MAX` are accepted, one more is not, `0` is no count -/
example :
    parseNonZeroUsize "18446744073709551615".toList = .ok (2 ^ 64 - 1) ∧
    parseNonZeroUsize "18446744073709551616".toList = .error .posOverflow ∧
    parseNonZeroUsize ['0'] = .error .zero ∧
    parseI32 "2147483647".toList = .ok (2 ^ 31 - 1) ∧ parseI32 "2147483648".toList = .error .posOverflow ∧
    parseI32 "-2147483648".toList = .ok (-(2 ^ 31)) ∧ parseI32 "-2147483649".toList = .error .negOverflow ∧
    parseI32 "99x".toList = .error .invalidDigit ∧ parseI32 "99999999999x".toList = .error .posOverflow := by
  decide +kernel

/-! ### `Ord for Divert` (the merge of a command's divert with a trap action's, command.rs) -/

/-- the derived `Ord for Divert` is a linear order … -/
theorem divert_le_linear_order (a b c : Divert) :
    a.le a = true ∧ (a.le b = true ∨ b.le a = true) ∧ (a.le b = true → b.le a = true → a = b) ∧
    (a.le b = true → b.le c = true → a.le c = true) := by
  refine ⟨a.le_refl, ?_⟩
  simp only [Divert.le_iff]
  exact ⟨by omega, fun h1 h2 => Divert.eq_of_key (by omega) (by omega), by omega⟩

/-- … and `Ord::max` on it picks one of its arguments, an upper bound of both, the same whichever comes first;
    the later variant (`Continue < Break < Return < Interrupt < Exit < Abort`) wins whatever the payloads -/
theorem divert_max_props (a b : Divert) :
    (a.max b = a ∨ a.max b = b) ∧ a.le (a.max b) = true ∧ b.le (a.max b) = true ∧ a.max b = b.max a ∧
    (a.rank < b.rank → a.max b = b) := by
  obtain ⟨_, htot, hanti, _⟩ := divert_le_linear_order a b a
  cases h1 : a.le b
  · have hn : ¬ a.le b = true := h1 ▸ Bool.false_ne_true
    have h2 : b.le a = true := htot.resolve_left hn
    rw [Divert.max_of_not_le h1, Divert.max_of_le h2]
    exact ⟨.inl rfl, a.le_refl, h2, rfl, fun h => absurd ((Divert.le_iff a b).2 (.inl h)) hn⟩
  · rw [Divert.max_of_le h1]
    refine ⟨.inr rfl, h1, b.le_refl, ?_, fun _ => rfl⟩
    cases h2 : b.le a
    · exact (Divert.max_of_not_le h2).symm
    · rw [Divert.max_of_le h2]; exact (hanti h1 h2).symm

/-- not vacuous: `Exit(None)` beats `Return(Some 255)`; among equals the payload decides, `None` first -/
example : (Divert.return_ (some 255)).max (.exit none) = .exit none ∧
    (Divert.interrupt none).max (.interrupt (some 0)) = .interrupt (some 0) ∧
    (Divert.break_ 2).max (.break_ 1) = .break_ 2 := by decide

/-- the variant's name in yash-env/src/semantics.rs -/
def Divert.rustName : Divert → String
  | .continue_ _ => "Continue" | .break_ _ => "Break" | .return_ _ => "Return"
  | .interrupt _ => "Interrupt" | .exit _ => "Exit" | .abort _ => "Abort"

/-- `Divert.rank` (the severity `Divert.le` / `Divert.max` compare first) is the position of the variant in
    `enum Divert` as it stands in the code, whose `Ord` is derived -/
theorem divert_rank_table (d : Divert) :
    Generated.ExecTables.divertVariants[d.rank]? = some d.rustName ∧
    Generated.ExecTables.divertVariants.length = 6 := by
  cases d <;> simp only [Divert.rank, Divert.rustName] <;> decide +kernel

/-- the statuses and the divert of the error reports are those of common/report.rs as it stands: `report_error`
    (and `syntax_error` through it) passes `ERROR`, `report_simple_failure` `FAILURE`, and
    `prepare_report_message_and_divert` interrupts exactly for a special built-in -/
theorem report_tables (stack : List Frame) :
    (Generated.ExecTables.reportStatus.lookup "report_error").bind (Generated.ExecTables.exitStatusByName.lookup ·) =
      some (reportError stack).exitStatus ∧
    (Generated.ExecTables.reportStatus.lookup "report_simple_failure").bind
      (Generated.ExecTables.exitStatusByName.lookup ·) = some (reportSimpleFailure stack).exitStatus ∧
    Generated.ExecTables.reportDivert = ("Break(Interrupt(None))", "Continue(())") ∧
    (reportError stack).divert = (if currentBuiltin stack = some true then .break_ (.interrupt none) else .continue_) ∧
    (reportSimpleFailure stack).divert = (reportError stack).divert := by
  refine ⟨by simp only [reportError]; decide +kernel, by simp only [reportSimpleFailure]; decide +kernel,
    by decide +kernel, ?_, rfl⟩
  exact reportDivert_eq stack

end ControlBuiltins

section Illformed
open Builtins

/-! ill-formed argument vectors; and `exit`'s guard against stopped jobs (`exit_guard`) -/

/-- ill-formed argument vectors need no constructor of their own: whenever `break`/`continue`/`return`/`exit`
    reports an error — any argument vector, called directly (`special = true`) or through `command`
    (`special = false`: the innermost built-in frame is `command`'s, not special) — `execute_builtin` running the
    transcribed `main` is exactly the executor model's `specialErr wrapped status` (C10's shell-error command, which
    the generator renders as `return 1 2`, `exit x`, `break 0`, `continue x`, …), with the status the transcription
    computes -/
theorem illformed_builtin_is_specialErr (fuel : Nat) (s : St) (special isBreak p : Bool) (args : List Str) :
    ((breakMain isBreak p (.builtin special :: s.stack) args).exitStatus ≠ 0 →
      runBuiltin s special (fun st => breakMain isBreak p st args) =
        execCmd (fuel+1) s (.specialErr (!special) (breakMain isBreak p (.builtin special :: s.stack) args).exitStatus)) ∧
    (returnMain p (.builtin special :: s.stack) s.status args = reportError (.builtin special :: s.stack) →
      runBuiltin s special (fun st => returnMain p st s.status args) = execCmd (fuel+1) s (.specialErr (!special) 2)) ∧
    (exitMain p (.builtin special :: s.stack) s.status args = reportError (.builtin special :: s.stack) →
      runBuiltin s special (fun st => exitMain p st s.status args) = execCmd (fuel+1) s (.specialErr (!special) 2)) := by
  refine ⟨?_, ?_, ?_⟩
  · intro hne
    rcases break_main_cases isBreak p (.builtin special :: s.stack) args with ⟨n, _, _, _, h⟩ | ⟨_, hd⟩
    · rw [h] at hne; exact absurd rfl hne
    · simp only [runBuiltin, execCmd, hd, currentBuiltin_top]
      cases special <;> simp
  · intro h
    simp only [runBuiltin, execCmd, h, reportError, reportDivert, currentBuiltin_top, Generated.ExecTables.ERROR]
    cases special <;> simp
  · intro h
    simp only [runBuiltin, execCmd, h, reportError, reportDivert, currentBuiltin_top, Generated.ExecTables.ERROR]
    cases special <;> simp

/-- not vacuous: the eight argument vectors the generator writes for `specialErr _ 2` all are errors with status 2 -/
example :
    (breakMain true false [.builtin true, .loop] [['1'], ['2']]).exitStatus = 2 ∧
    (breakMain true false [.builtin true, .loop] [['0']]).exitStatus = 2 ∧
    (breakMain false false [.builtin false, .builtin true, .loop] [['x']]).exitStatus = 2 ∧
    (breakMain false false [.builtin true, .loop] [['0']]).exitStatus = 2 ∧
    returnMain false [.builtin true] 7 [['1'], ['2']] = reportError [.builtin true] ∧
    returnMain false [.builtin true] 7 [['x']] = reportError [.builtin true] ∧
    exitMain false [.builtin false, .builtin true] 7 [['1'], ['2']] = reportError [.builtin false, .builtin true] ∧
    exitMain false [.builtin true] 7 [['x']] = reportError [.builtin true] := by
  decide +kernel

/-- the suspended-jobs guard of `exit` (docs/src/builtins/exit.md: "in an interactive shell, if there are suspended
    jobs, the built-in prints a warning and refuses to exit … returns exit status 1 without exiting"; `-f` overrides):
    for every argument vector, stack and `$?`, `exit` either does what the unguarded built-in does, or it refuses —
    status 1, `Interrupt(None)` — and it refuses only where the unguarded built-in would have exited, and only in
    an interactive shell (option on, not in a subshell) that is not `posixlycorrect`, has the guard configured and
    a stopped job; outside such a shell the guard is invisible (`exitMain` is that instance) -/
theorem exit_guard (g : ExitGuard) (p : Bool) (stack : List Frame) (status : Nat) (args : List Str) :
    (exitMainG g p stack status args = exitMain p stack status args ∨
      (exitMainG g p stack status args = ⟨1, .break_ (.interrupt none)⟩ ∧
        (∃ es, exitMain p stack status args = ⟨status, .break_ (.exit es)⟩) ∧
        g.interactive = true ∧ stack.contains .subshell = false ∧ g.posix = false ∧ g.configured = true ∧
        g.stoppedJob = true)) ∧
    ((isInteractive g.interactive stack = false ∨ g.posix = true ∨ g.configured = false ∨ g.stoppedJob = false) →
      exitMainG g p stack status args = exitMain p stack status args) := by
  unfold exitMainG exitMain
  cases Args.parseArguments exitSpecs (modeWithEnv p) args with
  | error e => simp
  | ok x =>
    obtain ⟨options, operands⟩ := x
    simp only
    cases statusOperand operands with
    | none => simp
    | some es =>
      simp only
      constructor
      · by_cases hc : (!(options.any fun o => o.spec.short == some 'f') && isInteractive g.interactive stack &&
            !g.posix && g.configured && g.stoppedJob) = true
        · right
          simp only [hc, if_true]
          simp only [Bool.and_eq_true, Bool.not_eq_true', isInteractive] at hc
          refine ⟨by simp [Generated.ExecTables.FAILURE], ⟨es, rfl⟩, ?_⟩
          simp_all
        · left; simp only [hc]; simp
      · intro h
        have : (!(options.any fun o => o.spec.short == some 'f') && isInteractive g.interactive stack &&
            !g.posix && g.configured && g.stoppedJob) = false := by
          rcases h with h | h | h | h <;> simp [h]
        simp [this]

/-- not vacuous: an interactive shell with a stopped job — `exit 3` refuses (again and again: the built-in keeps no
    memory of an earlier refusal), `exit -f 3` and `exit --force` go through, `exit 1 2` is the syntax error first,
    `( exit 3 )` and a `posixlycorrect` shell are not guarded -/
example :
    let g : ExitGuard := { interactive := true, configured := true, stoppedJob := true }
    exitMainG g false [.builtin true] 9 [['3']] = ⟨1, .break_ (.interrupt none)⟩ ∧
    exitMainG g false [.builtin true] 1 [['3']] = ⟨1, .break_ (.interrupt none)⟩ ∧
    exitMainG g false [.builtin true] 9 [['-', 'f'], ['3']] = ⟨9, .break_ (.exit (some 3))⟩ ∧
    exitMainG g false [.builtin true] 9 [['-', '-', 'f', 'o', 'r', 'c', 'e']] = ⟨9, .break_ (.exit none)⟩ ∧
    exitMainG g false [.builtin true] 9 [['1'], ['2']] = ⟨2, .break_ (.interrupt none)⟩ ∧
    exitMainG g false [.builtin true, .subshell] 9 [['3']] = ⟨9, .break_ (.exit (some 3))⟩ ∧
    exitMainG { g with posix := true } false [.builtin true] 9 [['3']] = ⟨9, .break_ (.exit (some 3))⟩ := by
  decide +kernel

end Illformed

/-! ### tables of break/continue (re-extracted; both the chain/early-return and the loop/`checked_sub` shapes are read) -/

/-- the level arithmetic and the default count of the transcribed `break`/`continue` are those of the code as it
    stands: with `c > 0` visible loops the divert carries `c - breakLevelOffset`, and no operand means
    `breakDefaultCount` -/
theorem break_tables (isBreak p : Bool) (stack : List Frame) (n : Nat) (h : Builtins.loopCountChain stack n ≠ 0) :
    Builtins.breakRun isBreak stack n =
      some ⟨Generated.ExecTables.SUCCESS, .break_ (if isBreak
        then .break_ (Builtins.loopCountChain stack n - Generated.ExecTables.breakLevelOffset)
        else .continue_ (Builtins.loopCountChain stack n - Generated.ExecTables.continueLevelOffset))⟩ ∧
    Builtins.breakParse p [] = .ok Generated.ExecTables.breakDefaultCount := by
  refine ⟨by simp [Builtins.breakRun, h, Generated.ExecTables.breakLevelOffset,
    Generated.ExecTables.continueLevelOffset], Builtins.breakParse_nil p⟩

end YashModel.Exec
