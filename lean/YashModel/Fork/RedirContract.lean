/-
  C08 — what one redirection of `exec` makes of the descriptor table: a contract for `open_and_overwrite`, and from it
  for `perform` + `preserve_redirs`.  Both use a scratch descriptor — put at a free slot, work, delete: the descriptor
  `open` answered, the saved copy of the target at ≥ 10.
-/
import YashModel.Fork.CallLemmas
import YashModel.Fork.Spec
namespace YashModel.Fork

/-- The contract of a redirection step that made `r` (success?, process) of the process `q`: on success the target
    `n` holds `v` and every other descriptor is as before; on failure the table is as before; and it succeeds only below
    the soft limit, unless it closes the target or copies it onto itself. -/
def RedirContract (r : Bool × Proc) (q : Proc) (n : Nat) (b : RedirBody) (v : Option FdEntry) : Prop :=
  (r.1 = true → ∀ m, fdGet r.2.fds m = if m = n then v else fdGet q.fds m)
  ∧ (r.1 = false → ∀ m, fdGet r.2.fds m = fdGet q.fds m)
  ∧ (r.1 = true → b = .close ∨ b = .copy n ∨ fdAllowed q n = true)

theorem RedirContract.of_fail {r : Bool × Proc} {q : Proc} {n : Nat} {b : RedirBody} {v : Option FdEntry}
    (h : r.1 = false) (ht : ∀ m, fdGet r.2.fds m = fdGet q.fds m) : RedirContract r q n b v := by
  have hn : ¬ r.1 = true := by rw [h]; decide
  exact ⟨fun h' => absurd h' hn, fun _ => ht, fun h' => absurd h' hn⟩

theorem RedirContract.of_ok {r : Bool × Proc} {q : Proc} {n : Nat} {b : RedirBody} {v : Option FdEntry}
    (h : r.1 = true) (ht : ∀ m, fdGet r.2.fds m = if m = n then v else fdGet q.fds m)
    (hl : b = .close ∨ b = .copy n ∨ fdAllowed q n = true) : RedirContract r q n b v := by
  have hn : ¬ r.1 = false := by rw [h]; decide
  exact ⟨fun _ => ht, fun h' => absurd h' hn, fun _ => hl⟩

def OAOSpec (q : Proc) (n : Nat) (b : RedirBody) (v : Option FdEntry) : Prop :=
  RedirContract (openAndOverwrite q n b) q n b v

/-- A scratch descriptor: put at a slot `k` that was free and deleted again, it leaves no trace … -/
theorem fdGet_unscratch {l : List (Nat × FdEntry)} {k : Nat} (e : FdEntry) (hk : fdGet l k = none) (m : Nat) :
    (if m = k then none else fdGet (fdPut l k e) m) = fdGet l m := by
  by_cases h : m = k
  · rw [if_pos h, h, hk]
  · rw [if_neg h, fdGet_fdPut, if_neg h]

/-- … also when the work in between wrote another slot `n`. -/
theorem fdGet_unscratch_at {l : List (Nat × FdEntry)} {k n : Nat} (e : FdEntry) (v : Option FdEntry)
    (hk : fdGet l k = none) (hkn : k ≠ n) (m : Nat) :
    (if m = k then none else if m = n then v else fdGet (fdPut l k e) m) = if m = n then v else fdGet l m := by
  by_cases h : m = n
  · rw [if_pos h, if_pos h, if_neg (fun e => hkn (e.symm.trans h))]
  · rw [if_neg h, if_neg h]
    exact fdGet_unscratch e hk m

theorem oao_file (q : Proc) (n : Nat) (l : String) : OAOSpec q n (.file l) (some { label := l }) := by
  have hk := (lowest_unused_descriptor q.fds 0).1
  unfold OAOSpec
  simp only [openAndOverwrite]
  by_cases ha : fdAllowed q (minUnusedFd q.fds 0) = true
  · rw [open_ok' q l false ha]
    simp only []
    by_cases hkn : minUnusedFd q.fds 0 = n
    · -- `open` answered the target itself
      simp only [hkn, ne_eq, not_true_eq_false, if_false]
      exact .of_ok rfl (fun m => by rw [← hkn]; exact fdGet_fdPut _ _ _ _) (.inr (.inr (hkn ▸ ha)))
    · -- `open` answered a scratch descriptor: `dup2` to the target, `close`
      simp only [ne_eq, hkn, not_false_eq_true, if_true]
      have hsrc : fdGet ({ q with fds := fdPut q.fds (minUnusedFd q.fds 0) { label := l } } : Proc).fds
          (minUnusedFd q.fds 0) = some { label := l } := by simp [fdGet_fdPut]
      by_cases hn : fdAllowed q n = true
      · rw [dup2_ok _ _ _ _ hsrc hkn hn, close_eq]
        refine .of_ok rfl (fun m => ?_) (.inr (.inr hn))
        show fdGet (fdDel (fdPut (fdPut q.fds _ _) n _) _) m = _
        rw [fdGet_fdDel, fdGet_fdPut]
        exact fdGet_unscratch_at _ _ hk hkn m
      · rw [dup2_limit _ _ _ _ hsrc hkn hn, close_eq]
        refine .of_fail rfl fun m => ?_
        show fdGet (fdDel (fdPut q.fds _ _) _) m = _
        rw [fdGet_fdDel]
        exact fdGet_unscratch _ hk m
  · rw [open_limit q l ha]
    exact .of_fail rfl fun _ => rfl

theorem oao_close (q : Proc) (n : Nat) : OAOSpec q n .close none := by
  unfold OAOSpec
  simp only [openAndOverwrite, close_eq]
  exact .of_ok rfl (fun m => fdGet_fdDel _ _ _) (.inl rfl)

theorem oao_copy (q : Proc) (n s : Nat) :
    OAOSpec q n (.copy s) ((fdGet q.fds s).map fun e => { e with cloexec := false }) := by
  unfold OAOSpec
  simp only [openAndOverwrite]
  cases hs : fdGet q.fds s with
  | none => exact .of_fail rfl fun _ => rfl
  | some e =>
    simp only []
    by_cases hbad : (e.label = "oin" || e.cloexec) = true
    · simp only [hbad, if_true]
      exact .of_fail rfl fun _ => rfl
    · simp only [hbad]
      by_cases hsn : s = n
      · -- `N>&N`: nothing to do; a CLOEXEC source was refused above, so the entry already is its copy without the flag
        subst hsn
        simp only [ne_eq, not_true_eq_false, if_false, Option.map_some, Bool.false_eq_true]
        have hc : e.cloexec = false := by
          cases hcl : e.cloexec with
          | false => rfl
          | true => simp [hcl] at hbad
        have he : ({ e with cloexec := false } : FdEntry) = e := by
          obtain ⟨lab, cl⟩ := e
          cases hc
          rfl
        refine .of_ok rfl (fun m => ?_) (.inr (.inl rfl))
        by_cases hm : m = s
        · rw [if_pos hm, he, hm, hs]
        · rw [if_neg hm]
      · simp only [ne_eq, hsn, not_false_eq_true, if_true, Option.map_some]
        by_cases hn : fdAllowed q n = true
        · rw [dup2_ok _ _ _ _ hs hsn hn]
          exact .of_ok rfl (fun m => fdGet_fdPut _ _ _ _) (.inr (.inr hn))
        · rw [dup2_limit _ _ _ _ hs hsn hn]
          exact .of_fail rfl fun _ => rfl

theorem oao_copy_cloexec (q : Proc) (n s : Nat) (e : FdEntry) (v : Option FdEntry) (hs : fdGet q.fds s = some e)
    (hc : e.cloexec = true) : OAOSpec q n (.copy s) v := by
  unfold OAOSpec
  simp only [openAndOverwrite, hs, hc, Bool.or_true, if_true]
  exact .of_fail rfl fun _ => rfl

/-- the process after `perform` saved the open target `n` (entry `e`) at the lowest free descriptor ≥ 10 -/
def savedProc (p : Proc) (e : FdEntry) : Proc :=
  { p with fds := fdPut p.fds (minUnusedFd p.fds minInternalFd) { e with cloexec := true } }

/-- The contract of one redirection of `exec` (`perform` + `preserve_redirs`) from the contract of `open_and_overwrite`.
    `perform` first saves an open target at a scratch descriptor ≥ 10 and `preserve_redirs` closes that copy afterwards,
    so `open_and_overwrite` runs on `p` when the target is closed and on `savedProc p e` when it holds `e`: its contract
    is needed on both. -/
theorem execRedir_of_oao (p : Proc) (n : Nat) (b : RedirBody) (v : Option FdEntry)
    (hp : OAOSpec p n b v)
    (hq : ∀ e, fdGet p.fds n = some e → OAOSpec (savedProc p e) n b v) :
    RedirContract (execRedir p n b) p n b v := by
  have hsv := (lowest_unused_descriptor p.fds minInternalFd).1
  unfold execRedir performRedir
  by_cases hcl : isCloexec p n = true
  · simp only [hcl, if_true]
    exact .of_fail rfl fun _ => rfl
  · simp only [hcl, Bool.false_eq_true, if_false]
    cases hn : fdGet p.fds n with
    | none =>
      rw [dup_closed p n _ _ hn]
      simp only [if_true]
      exact hp
    | some e =>
      by_cases ha : fdAllowed p (minUnusedFd p.fds minInternalFd) = true
      · have hd : (Call.dup n minInternalFd true).runT p
            = (.fd (minUnusedFd p.fds minInternalFd), savedProc p e) := dup_ok p n _ _ e hn ha
        rw [hd]
        simp only []
        obtain ⟨h1, h2, h3⟩ := hq e hn
        have hne : minUnusedFd p.fds minInternalFd ≠ n := by
          intro hc; rw [hc] at hsv; rw [hsv] at hn; cases hn
        -- either way the saved copy is closed again: a scratch descriptor
        by_cases hr : (openAndOverwrite (savedProc p e) n b).1 = true
        · simp only [hr, if_true, close_eq]
          refine .of_ok rfl (fun m => ?_) (h3 hr)
          show fdGet (fdDel _ _) m = _
          rw [fdGet_fdDel, h1 hr m]
          exact fdGet_unscratch_at _ _ hsv hne m
        · have hr' : (openAndOverwrite (savedProc p e) n b).1 = false := by simpa using hr
          simp only [hr', close_eq, Bool.false_eq_true, if_false]
          refine .of_fail rfl fun m => ?_
          show fdGet (fdDel _ _) m = _
          rw [fdGet_fdDel, h2 hr' m]
          exact fdGet_unscratch _ hsv m
      · rw [dup_limit p n _ _ e hn ha]
        simp only []
        exact .of_fail rfl fun _ => rfl

/-- The contract of one redirection of `exec`, for every body (Spec: `specRedirEntry`); the third clause is the soft
    limit.  The one case in which what `N>&M` copies differs between `p` and `savedProc p e` is `M` = the slot of the
    saved copy: closed in `p`, CLOEXEC in `savedProc p e`, refused in both. -/
theorem execRedir_contract (p : Proc) (n : Nat) (b : RedirBody) :
    RedirContract (execRedir p n b) p n b (specRedirEntry p b) := by
  cases b with
  | file l => exact execRedir_of_oao p n _ _ (oao_file p n l) (fun e _ => oao_file _ n l)
  | close => exact execRedir_of_oao p n _ _ (oao_close p n) (fun e _ => oao_close _ n)
  | copy s =>
    refine execRedir_of_oao p n _ _ (oao_copy p n s) (fun e he => ?_)
    by_cases hss : s = minUnusedFd p.fds minInternalFd
    · refine oao_copy_cloexec _ n s { e with cloexec := true } _ ?_ rfl
      simp [savedProc, fdGet_fdPut, hss]
    · have := oao_copy (savedProc p e) n s
      have hg : fdGet (savedProc p e).fds s = fdGet p.fds s := by simp [savedProc, fdGet_fdPut, hss]
      rw [hg] at this
      exact this

end YashModel.Fork
