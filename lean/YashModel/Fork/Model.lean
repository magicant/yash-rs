/-
  Impl model for C08 (subshell isolation).

  * `Env` — `yash-env/src/lib.rs` `struct Env<S>`: the 14 state fields plus `system`. The fields the property
    names are modelled in detail (variables incl. positional parameters, functions, aliases, options, traps,
    exit status, jobs, stack); `arg0`, `builtins`, `main_pgid`, `main_pid`, `tty`, `any` are carried as plain data.
    `system` is the per-process state of the simulated OS (`system/virtual/process.rs` `struct Process`):
    fd table, cwd, umask, signal dispositions / blocked mask (the `Sys` of the Trap model).
  * `ForkEnvState`, `extractFromEnv`, `restoreIntoEnv`, `intoEnvWithSystem`, `ForkEnvState.clone` —
    `yash-env/src/fork.rs`, field by field (the generated `Generated/ForkMaps.lean` re-extracts the same maps
    from the Rust source on every run; `Fork/Fields.lean` defines what is checked of the maps, `Fork/Theorems.lean` proves it).
  * `Proc.forkFrom` — `Process::fork_from`: which fields the child process receives is read from the
    *generated* `processForkMap`, so the model follows the code.
  * `runInChild` — `Env::run_in_child_process` over `VirtualSystem::run_in_child_process`.
  * `subshellEntry` — the child prologue of `subshell::Config::start` (push `Frame::Subshell`, `disown_all`,
    `TrapSet::enter_subshell`), using the Trap model of C11.
  * `Call` / `Call.runT` / `Call.run` — ten system calls of `impl … for VirtualSystem` (system/virtual.rs) with the
    `Process` methods they use and their error branches, as functions of the caller's own `Process`; the `X:`
    cases drive them on the real shared `SystemState` (Fork/Shared.lean has the table).
  * `openAndOverwrite` / `performRedir` / `execRedir` — the redirection engine of `yash-semantics/src/redir.rs`
    (`open_and_overwrite`, `perform`, `RedirGuard::preserve_redirs`) composed from those calls.
  * the mutators of the sweep (`applyOp`; `umask`, `cd`, `ulimit -n` and the `exec` redirections are built from the
    calls above, a failing special built-in ends the shell through `builtinError`), the kinds of subshell of
    `yash-semantics`, and the snapshot the harness takes with real built-ins.

  Import-free apart from `YashModel.*`; executable.  A `&mut` is a returned value; the shared
  `Rc<RefCell<SystemState>>` is modelled *by value* (no aliasing) — that is exactly the part of the property
  the theorems cannot speak about and only the correspondence sweep exhibits.
-/
import YashModel.Trap.Model
import YashModel.Generated.ForkMaps
import YashModel.Common.Proto

namespace YashModel.Fork
open YashModel.Trap (Disp Action TrapState GrandState TrapMap Sys SIGINT SIGQUIT SIGTERM SIGUSR1)

/-! ## Small finite maps (sorted association lists, like `BTreeMap`/sorted listing of a `HashMap`) -/

abbrev Assoc (α : Type) := List (String × α)

def Assoc.find {α : Type} : Assoc α → String → Option α
  | [], _ => none
  | (k', v) :: t, k => if k = k' then some v else Assoc.find t k

def Assoc.put {α : Type} : Assoc α → String → α → Assoc α
  | [], k, v => [(k, v)]
  | (k', v') :: t, k, v =>
    if k = k' then (k, v) :: t
    else if k < k' then (k, v) :: (k', v') :: t
    else (k', v') :: Assoc.put t k v

def Assoc.del {α : Type} (m : Assoc α) (k : String) : Assoc α := m.filter (fun kv => kv.1 ≠ k)

/-! ## State -/

/-- `variable::Variable` (value, `is_exported`, `read_only_location.is_some()`) -/
structure Var where
  value : String
  exported : Bool := false
  readonly : Bool := false
  deriving DecidableEq, Repr

/-- an entry of `Process::fds`: which open file it designates and the CLOEXEC flag -/
structure FdEntry where
  label : String
  cloexec : Bool := false
  deriving DecidableEq, Repr

def SIGURG : Nat := 123

/-- `system::virtual::Process` — the fields the property names -/
structure Proc where
  fds : List (Nat × FdEntry)
  cwd : String
  umask : String
  /-- `dispositions`, `blocked_signals` (and the select mask of `Concurrent`) -/
  sys : Sys
  ppid : Nat := 1
  /-- `/dev/tty` exists in the file system (not per-process state; carried here for convenience) -/
  ttyAvail : Bool := false
  /-- `resource_limits[NOFILE].soft` (`none` = not set / `INFINITY`; `ulimit -S -n` then prints `unlimited`) -/
  nofile : Option Nat := none

/-- `JobList` as far as a subshell can see it: the listed jobs (job number, identity, `is_owned`), the job
    `$!` designates (`last_async_pid`), and a counter for fresh identities. All jobs of the sweep are running. -/
structure Jobs where
  list : List (Nat × Nat × Bool) := []
  last : Option Nat := none
  next : Nat := 0
  deriving DecidableEq, Repr

/-- the lowest free job number (slab index + 1) -/
def Jobs.freeNumber (j : Jobs) : Nat :=
  ((List.range (j.list.length + 1)).map (· + 1)).find? (fun n => !(j.list.any (·.1 == n))) |>.getD (j.list.length + 1)

/-- `jobs.insert(job)` + `set_last_async_pid`: a new owned job becomes `$!` -/
def Jobs.add (j : Jobs) : Jobs :=
  { list := j.list ++ [(j.freeNumber, j.next, true)], last := some j.next, next := j.next + 1 }

/-- `JobList::disown_all` -/
def Jobs.disownAll (j : Jobs) : Jobs := { j with list := j.list.map fun e => (e.1, e.2.1, false) }

/-- the `wait $!` of an asynchronous list that has finished removes its job -/
def Jobs.removeLast (j : Jobs) : Jobs :=
  match j.last with
  | some u => { j with list := j.list.filter (·.2.1 ≠ u) }
  | none => j

/-- `VariableSet`: visible variables plus the positional parameters of the current regular context -/
structure Variables where
  vars : Assoc Var
  params : List String
  deriving DecidableEq, Repr

/-- `struct Env<S>` -/
structure Env where
  aliases : Assoc String
  arg0 : String
  builtins : List String
  exitStatus : Nat
  functions : Assoc String
  jobs : Jobs
  mainPgid : Nat
  mainPid : Nat
  /-- `OptionSet`: the enabled options (sorted) -/
  options : List String
  /-- `Stack`: the frames, `"Subshell"` among them -/
  stack : List String
  traps : TrapMap
  tty : Option Nat
  variables : Variables
  any : List String
  system : Proc

/-- `struct ForkEnvState<S>` -/
structure ForkEnvState where
  aliases : Assoc String
  arg0 : String
  builtins : List String
  exitStatus : Nat
  functions : Assoc String
  jobs : Jobs
  mainPgid : Nat
  mainPid : Nat
  options : List String
  stack : List String
  traps : TrapMap
  tty : Option Nat
  variables : Variables
  any : List String

/-- `ForkEnvState::extract_from_env`: the state and what is left in `env` (`std::mem::take` leaves
    `Default::default()`, `Copy` fields stay). -/
def extractFromEnv (env : Env) : ForkEnvState × Env :=
  ({ aliases := env.aliases, arg0 := env.arg0, builtins := env.builtins, exitStatus := env.exitStatus,
     functions := env.functions, jobs := env.jobs, mainPgid := env.mainPgid, mainPid := env.mainPid,
     options := env.options, stack := env.stack, traps := env.traps, tty := env.tty,
     variables := env.variables, any := env.any },
   { env with aliases := [], arg0 := "", builtins := [], functions := [], jobs := {}, stack := [],
              traps := [], variables := { vars := [], params := [] }, any := [] })

/-- `ForkEnvState::restore_into_env` -/
def restoreIntoEnv (st : ForkEnvState) (env : Env) : Env :=
  { env with aliases := st.aliases, arg0 := st.arg0, builtins := st.builtins, exitStatus := st.exitStatus,
             functions := st.functions, jobs := st.jobs, mainPgid := st.mainPgid, mainPid := st.mainPid,
             options := st.options, stack := st.stack, traps := st.traps, tty := st.tty,
             variables := st.variables, any := st.any }

/-- `ForkEnvState::into_env_with_system` -/
def intoEnvWithSystem (st : ForkEnvState) (system : Proc) : Env :=
  { aliases := st.aliases, arg0 := st.arg0, builtins := st.builtins, exitStatus := st.exitStatus,
    functions := st.functions, jobs := st.jobs, mainPgid := st.mainPgid, mainPid := st.mainPid,
    options := st.options, stack := st.stack, traps := st.traps, tty := st.tty,
    variables := st.variables, any := st.any, system := system }

/-- `impl Clone for ForkEnvState` (a deep copy: in a value model the identity) -/
def ForkEnvState.clone (st : ForkEnvState) : ForkEnvState :=
  { aliases := st.aliases, arg0 := st.arg0, builtins := st.builtins, exitStatus := st.exitStatus,
    functions := st.functions, jobs := st.jobs, mainPgid := st.mainPgid, mainPid := st.mainPid,
    options := st.options, stack := st.stack, traps := st.traps, tty := st.tty,
    variables := st.variables, any := st.any }

/-- the umask of `Process::with_parent_and_group` (`Mode::default()` = 0o644) -/
def defaultUmask : String := "644"

/-- Is `field` of the child process copied from the parent by `Process::fork_from`?  `copied` is the list of
    child fields the function writes from the parent (the generated `processForkMap`). -/
def isCopied (copied : List (String × String)) (field : String) : Bool :=
  copied.any (fun p => p.1 == field && p.2 == field)

/-- `Process::fork_from(ppid, parent)`: starts from `with_parent_and_group` and copies the listed fields. -/
def Proc.forkFrom (copied : List (String × String)) (ppid : Nat) (parent : Proc) : Proc :=
  { fds := if isCopied copied "fds" then parent.fds else [],
    cwd := if isCopied copied "cwd" then parent.cwd else "",
    umask := if isCopied copied "umask" then parent.umask else defaultUmask,
    sys := { disp := if isCopied copied "dispositions" then parent.sys.disp else fun _ => .default,
             blocked := if isCopied copied "blocked_signals" then parent.sys.blocked else fun _ => false,
             selectMask := parent.sys.selectMask },
    ppid := ppid, ttyAvail := parent.ttyAvail,
    -- the limits are copied or start unset; they never filter the descriptor table (`fds` above is the
    -- parent's table whatever `nofile` is — POSIX: a fork duplicates every open descriptor)
    nofile := if isCopied copied "resource_limits" then parent.nofile else none }

/-- the code as it is -/
def implCopied : List (String × String) := Generated.ForkMaps.processForkMap

/-- what POSIX `fork` copies of the fields the property names -/
def specCopied : List (String × String) :=
  [("fds", "fds"), ("cwd", "cwd"), ("umask", "umask"), ("dispositions", "dispositions"),
   ("blocked_signals", "blocked_signals"), ("resource_limits", "resource_limits")]

/-- `Env::run_in_child_process` (over `VirtualSystem::run_in_child_process`): extract, clone for the child,
    fork the process, build the child's `Env`, restore the parent. Returns (parent after the call, what the
    child task made of its copy). The child task is *any* function of the child's environment (its result
    type `β` stands for everything the child does: final state, output, exit status). -/
def runInChild {β : Type} (copied : List (String × String)) (env : Env) (childTask : Env → β) : Env × β :=
  let ex := extractFromEnv env
  let childSystem := Proc.forkFrom copied env.mainPid ex.2.system
  let childEnv := intoEnvWithSystem ex.1.clone childSystem
  (restoreIntoEnv ex.1 ex.2, childTask childEnv)

/-! ## Subshell entry (`subshell::Config::start`, the part that runs in the child before the task) -/

/-- `env.traps.enter_subshell(&env.system, ignore_sigint_sigquit, keep_internal_dispositions_for_stoppers)` -/
def enterTraps (env : Env) (ignoreSigintSigquit keepStoppers : Bool) : Env :=
  let st := Trap.enterSubshell { sys := env.system.sys, traps := env.traps } ignoreSigintSigquit keepStoppers
  { env with traps := st.traps, system := { env.system with sys := st.sys } }

/-- push `Frame::Subshell`; (`setpgid`/`tcsetpgrp` of a job-controlled subshell touch nothing the property names;)
    `jobs.disown_all()`; `enter_subshell(ignore_sigint_sigquit, keep_internal_dispositions_for_stoppers)`.
    Note that the options are NOT touched: the child keeps the parent's option set, `monitor` included. -/
def subshellEntry (ignoreSigintSigquit keepStoppers : Bool) (env : Env) : Env :=
  let e1 := { env with stack := "Subshell" :: env.stack }
  let e2 := { e1 with jobs := e1.jobs.disownAll }
  enterTraps e2 ignoreSigintSigquit keepStoppers

/-- `Env::controls_jobs`: `monitor` is on and the shell is not itself a subshell -/
def controlsJobs (env : Env) : Bool := env.options.contains "monitor" && !env.stack.contains "Subshell"

/-- `Config::start(env, task)` with `job_control` already reduced by `controls_jobs` (`jc`) and the
    `ignores_sigint_sigquit` flag of the configuration: the parent's environment after the call and the
    child's result. `ignore_sigint_sigquit = flag && !jc`, `keep_stoppers = !jc`. -/
def startSubshell {β : Type} (copied : List (String × String)) (ignoresFlag jc : Bool) (env : Env)
    (task : Env → β) : Env × β :=
  runInChild copied env (fun c => task (subshellEntry (ignoresFlag && !jc) (!jc) c))

/-! ## Mutators of the sweep -/

inductive TrapAct where
  | dflt | ign | cmd (n : Nat)
  deriving DecidableEq, Repr

inductive Op where
  | set (n v : String) | unset (n : String) | export (n v : String) | readonly (n v : String)
  | fn (f b : String) | unfn (f : String) | alias (a v : String) | unalias (a : String)
  | optOn (o : String) | optOff (o : String) | shift | args (xs : List String)
  | cd (d : String) | umask (m : String) | trap (cond : Nat) (a : TrapAct)
  | fdw (n : Nat) (file : String) | fdr (n : Nat) | fdd (n m : Nat) | fdc (n : Nat)
  | local (n v : String) | raise (sig : Nat) | bg | exit (n : Nat) | nofile (v : Option Nat)
  /-- a scheduling point of the starter between `&` and `wait` (`( : )`): changes WHEN the asynchronous child
      runs, and nothing else -/
  | yield
  /-- commands of the innermost child that need NEW descriptors: a pipeline `: | :` (`Pipe::pipe`: two free descriptors
      below the limit), a command substitution `: "$(:)"` (the same), a here-document on a regular built-in
      (`probe THD <<E`: the redirection engine saves fd 0 at ≥ 10 and opens a temporary file) -/
  | pl | cs | hd
  /-- a three-member pipeline started while fd 1 is CLOSED (`exec 9>&1 1>&-; probe TPC | cat | cat >&9; exec 1>&9 9>&-`): the
      first pipe's read end then IS descriptor 1, so the middle member runs the corner of `move_to_stdin_stdout` that first
      moves the previous end away with `dup(1, 0)`; the marker travels through both pipes -/
  | plc
  deriving DecidableEq, Repr

/-- sorted insertion into the list of enabled options -/
def insertSorted (x : String) : List String → List String
  | [] => [x]
  | y :: t => if x = y then y :: t else if x < y then x :: y :: t else y :: insertSorted x t

def fdGet : List (Nat × FdEntry) → Nat → Option FdEntry
  | [], _ => none
  | (k', v) :: t, k => if k = k' then some v else fdGet t k

def fdPut : List (Nat × FdEntry) → Nat → FdEntry → List (Nat × FdEntry)
  | [], k, v => [(k, v)]
  | (k', v') :: t, k, v =>
    if k = k' then (k, v) :: t
    else if k < k' then (k, v) :: (k', v') :: t
    else (k', v') :: fdPut t k v

def fdDel (m : List (Nat × FdEntry)) (k : Nat) : List (Nat × FdEntry) := m.filter (fun kv => kv.1 ≠ k)

/-- the shell process is alive, or was terminated (value = the exit status the parent sees) -/
structure Shell where
  env : Env
  halted : Option Nat := none
  /-- what the process printed besides snapshots -/
  events : List String := []

def setVar (env : Env) (n : String) (f : Option Var → Var) : Env :=
  { env with variables := { env.variables with vars := env.variables.vars.put n (f (env.variables.vars.find n)) } }

/-- the trap built-in setting one action (non-interactive: `override_ignore = false`) -/
def trapSet (env : Env) (cond : Nat) (a : TrapAct) : Env :=
  let act : Action := match a with
    | .dflt => .default
    | .ign => .ignore
    | .cmd n => .command n
  -- `override_ignore = env.options.get(Interactive) == On` (the option, also inside subshells)
  let r := Trap.setAction { sys := env.system.sys, traps := env.traps } cond act 0 (env.options.contains "interactive")
  { env with traps := r.1.traps, system := { env.system with sys := r.1.sys } }

/-- the signal effect of the virtual system for the signals of the sweep (`SignalEffect::of`): SIGURG is
    discarded by default, the others terminate -/
def fatalByDefault (sig : Nat) : Bool := sig != SIGURG

/-- SIGKILL can be neither caught nor ignored -/
def SIGKILL : Nat := Trap.SIGKILL

/-- the command id of the trap that runs when `sig` is caught -/
def trapCommandOf (env : Env) (sig : Nat) : Option Nat :=
  match Trap.get env.traps sig with
  | some g => match g.current.action with
    | .command n => some n
    | _ => none
  | none => none

/-! ### `cd` on the virtual file system

`yash-builtin/src/cd.rs`: the target is shortened relative to `$PWD` (`cd/shorten.rs`, `Path::strip_prefix`, empty
result = `.`), then `VirtualSystem::chdir` checks that the path — relative paths are joined to the process's cwd and
walked *from the root*, `.` components skipped — is an existing directory and stores `cwd.join(path)` with `.`
components dropped and `..` resolved (`normalizePath`). -/

/-- components of a path, the root directory being the component `/` -/
def pathComps (p : String) : List String :=
  (if p.startsWith "/" then ["/"] else []) ++ (p.splitOn "/").filter (· ≠ "")

def stripPrefix? : List String → List String → Option (List String)
  | [], t => some t
  | _ :: _, [] => none
  | a :: p, b :: t => if a = b then stripPrefix? p t else none

def renderComps : List String → String
  | "/" :: t => "/" ++ "/".intercalate t
  | t => "/".intercalate t

/-- `shorten(target, pwd, Mode::Logical)` -/
def shorten (target pwd : String) : String :=
  match stripPrefix? (pathComps pwd) (pathComps target) with
  | some [] => "."
  | some rest => renderComps rest
  | none => target

/-- `PathBuf::join` -/
def joinPath (cwd p : String) : String :=
  if p.startsWith "/" then p
  else if cwd = "" then p
  else if cwd.endsWith "/" then cwd ++ p
  else cwd ++ "/" ++ p

/-- the loop of `VirtualSystem::chdir` that keeps the working directory canonical: `.` components are dropped,
    `..` pops the last component (`PathBuf::pop` never removes the root), everything else is pushed -/
def normalizeComps : List String → List String → List String
  | acc, [] => acc.reverse
  | acc, "." :: t => normalizeComps acc t
  | acc, ".." :: t =>
    match acc with
    | [] => normalizeComps [] t
    | "/" :: r => normalizeComps ("/" :: r) t
    | _ :: r => normalizeComps r t
  | acc, c :: t => normalizeComps (c :: acc) t

/-- the path `VirtualSystem::chdir` stores for `cwd.join(path)` -/
def normalizePath (p : String) : String := renderComps (normalizeComps [] (pathComps p))

/-- the directories of the file system the harness sets up: `/`, `/d1`, `/d1/s`, `/d2` -/
def dirExists (p : String) : Bool :=
  -- `resolve_existing_file` walks the components from the root: `.` stays, `..` goes to the parent (the root is its own)
  let cs := (normalizeComps [] (pathComps p)).filter (fun c => c ≠ "/")
  cs == [] || cs == ["d1"] || cs == ["d2"] || cs == ["d1", "s"]

/-! ## `Process` methods (`yash-env/src/system/virtual/process.rs`) -/

/-- `resource_limits.get(&Resource::NOFILE).map(|l| l.soft)` (`none` = `INFINITY`) -/
def nofileLimit (p : Proc) : Option Nat := p.nofile

/-- the limit as `ulimit -S -n` prints it -/
def showLimit : Option Nat → String
  | none => "unlimited"
  | some n => toString n

/-- the guard of `Process::set_fd` / `Process::has_unused_fd`: `limit == INFINITY || fd < limit` -/
def fdAllowed (p : Proc) (fd : Nat) : Bool :=
  match nofileLimit p with
  | none => true
  | some l => fd < l

/-- `min_unused_fd(min, fds.keys())`: the lowest descriptor `>= min` that is not open -/
def minUnusedFd (fds : List (Nat × FdEntry)) (min : Nat) : Nat :=
  (((List.range (fds.length + 1)).map (· + min)).find? (fun n => (fdGet fds n).isNone)).getD (min + fds.length)

/-- `Process::set_fd(fd, body)`: `Ok` (entry written) or `Err` (nothing changes) -/
def Proc.setFd (p : Proc) (fd : Nat) (e : FdEntry) : Option Proc :=
  if fdAllowed p fd then some { p with fds := fdPut p.fds fd e } else none

/-- `Process::open_fd_ge(min_fd, body)` -/
def Proc.openFdGe (p : Proc) (min : Nat) (e : FdEntry) : Option (Nat × Proc) :=
  let fd := minUnusedFd p.fds min
  (p.setFd fd e).map fun q => (fd, q)

/-! ## System calls (`impl … for VirtualSystem`), as functions of the calling process's own `Process` -/

inductive Call where
  /-- `Umask::umask` -/
  | umask (m : String)
  /-- `Chdir::chdir` -/
  | chdir (path : String)
  /-- `Open::open` of an existing file (→ `create_fd` → `open_fd`); `cloexec` = `OpenFlag::CloseOnExec` among the flags -/
  | open (file : String) (cloexec : Bool := false)
  /-- `Dup::dup(from, to_min, flags)` -/
  | dup (src min : Nat) (cloexec : Bool)
  /-- `Dup::dup2(from, to)` -/
  | dup2 (src dst : Nat)
  /-- `Close::close` -/
  | close (fd : Nat)
  /-- `Fcntl::fcntl_setfd` -/
  | setfd (fd : Nat) (cloexec : Bool)
  /-- `Sigaction::sigaction` -/
  | sigaction (sig : Nat) (d : Disp)
  /-- `Sigmask::sigmask(Some((Add | Remove, {sig})), None)` -/
  | sigmask (block : Bool) (sig : Nat)
  /-- `SetRlimit::setrlimit(Resource::NOFILE, LimitPair { soft, hard: INFINITY })` -/
  | setrlimit (soft : Option Nat)
  deriving DecidableEq, Repr

/-- what a call answers: `Ok(())`, `Ok(fd)`, or `Err(errno)` -/
inductive CallRes where
  | ok
  | fd (n : Nat)
  | err (errno : String)
  deriving DecidableEq, Repr

/-- the text of an answer in the observation of the `X:` cases -/
def CallRes.show : CallRes → String
  | .ok => "ok"
  | .fd n => s!"fd{n}"
  | .err e => e

def CallRes.isErr : CallRes → Bool
  | .err _ => true
  | _ => false

/-- The effect of one call on the `Process` of the caller (`self.current_process_mut()`), and its typed answer.
    A failing call changes nothing (`failing_call_changes_nothing`). -/
def Call.runT : Call → Proc → CallRes × Proc
  | .umask m, p => (.ok, { p with umask := m })
  | .chdir path, p =>
    -- `resolve_existing_file` (relative paths joined to `cwd`), must be a directory; the stored path is
    -- `cwd.join(path)` with `.` dropped and `..` resolved
    if dirExists (joinPath p.cwd path) then (.ok, { p with cwd := normalizePath (joinPath p.cwd path) })
    else (.err "ENOENT", p)
  | .open file x, p =>
    -- `has_unused_fd()` is checked before the file is resolved; then `create_fd` → `open_fd`
    if fdAllowed p (minUnusedFd p.fds 0) then
      match p.openFdGe 0 { label := file, cloexec := x } with
      | some (fd, q) => (.fd fd, q)
      | none => (.err "EMFILE", p)
    else (.err "EMFILE", p)
  | .dup src min cloexec, p =>
    match fdGet p.fds src with
    | none => (.err "EBADF", p)
    | some e =>
      match p.openFdGe min { e with cloexec := cloexec } with
      | some (fd, q) => (.fd fd, q)
      | none => (.err "EMFILE", p)
  | .dup2 src dst, p =>
    match fdGet p.fds src with
    | none => (.err "EBADF", p)
    | some e =>
      if src = dst then (.fd dst, p)
      else match p.setFd dst { e with cloexec := false } with
        | some q => (.fd dst, q)
        | none => (.err "EBADF", p)
  | .close fd, p => (.ok, { p with fds := fdDel p.fds fd })
  | .setfd fd cloexec, p =>
    match fdGet p.fds fd with
    | none => (.err "EBADF", p)
    | some e => (.ok, { p with fds := fdPut p.fds fd { e with cloexec := cloexec } })
  | .sigaction sig d, p => (.ok, { p with sys := { p.sys with disp := Trap.upd p.sys.disp sig d } })
  | .sigmask block sig, p => (.ok, { p with sys := { p.sys with blocked := Trap.upd p.sys.blocked sig block } })
  | .setrlimit soft, p => (.ok, { p with nofile := soft })

/-- the same with the answer as the `X:` cases print it (`ok`, `fd<n>`, or the `Errno`) -/
def Call.run (c : Call) (p : Proc) : String × Proc := ((c.runT p).1.show, (c.runT p).2)

/-- the calls of a process one after the other, on its own `Process` -/
def runCalls (p : Proc) (cs : List Call) : Proc := cs.foldl (fun q c => (c.run q).2) p

/-! ## The redirection engine (`yash-semantics/src/redir.rs`), as the `exec` built-in uses it

`exec N>|file`, `exec N<file`, `exec N>&M`, `exec N>&-` are what the fd mutators of the sweep render to.  Each is one
`RedirGuard::perform_redir` (→ `perform` → `open_and_overwrite`) followed by `RedirGuard::preserve_redirs` (the `exec`
built-in makes the redirection permanent).  Every step is a system call of the process itself (`Call.runT`). -/

/-- `yash_env::io::MIN_INTERNAL_FD` (checked against the source by the generated `minInternalFd`) -/
def minInternalFd : Nat := 10

/-- the body of a redirection after `open_normal` has classified it -/
inductive RedirBody where
  /-- `N>|file` / `N<file`: `open_file` → `FdSpec::Owned(fd)`; `label` names the open file description -/
  | file (label : String)
  /-- `N>&M`: `copy_fd(…, OfdAccess::WriteOnly)` → `FdSpec::Borrowed(M)` -/
  | copy (src : Nat)
  /-- `N>&-`: `copy_fd` → `FdSpec::Closed` -/
  | close
  deriving DecidableEq, Repr

/-- `is_cloexec(env, fd)` -/
def isCloexec (p : Proc) (fd : Nat) : Bool :=
  match fdGet p.fds fd with
  | some e => e.cloexec
  | none => false

/-- `open_and_overwrite(env, redir, target_fd)`: success?, and the process afterwards.
    `file`: `open` → `k`; when `k ≠ target`: `dup2(k, target)`, then `close(k)` whatever `dup2` answered.
    `copy`: `copy_fd` checks that the source is open for writing (`is_fd_valid`; the read-only file of the sweep is the
    one labelled `oin`) and has no CLOEXEC flag; when `src ≠ target`: `dup2(src, target)`; the source stays open.
    `close`: `close(target)`. -/
def openAndOverwrite (p : Proc) (target : Nat) : RedirBody → Bool × Proc
  | .file label =>
    let r := (Call.open label).runT p
    match r.1 with
    | .fd k =>
      if k ≠ target then
        let d := (Call.dup2 k target).runT r.2
        (!d.1.isErr, ((Call.close k).runT d.2).2)
      else (true, r.2)
    | _ => (false, r.2)
  | .copy src =>
    match fdGet p.fds src with
    | none => (false, p)
    | some e =>
      if e.label = "oin" || e.cloexec then (false, p)
      else if src ≠ target then
        let d := (Call.dup2 src target).runT p
        (!d.1.isErr, d.2)
      else (true, p)
  | .close => (true, ((Call.close target).runT p).2)

/-- `perform(env, redir)`: refuse a CLOEXEC target (`ErrorCause::ReservedFd`); save the target with
    `dup(target, MIN_INTERNAL_FD, CLOEXEC)` (`EBADF` = nothing to save, any other error = `FdNotOverwritten`);
    `open_and_overwrite`; on failure close the saved copy.  Result: success?, the saved descriptor, the process. -/
def performRedir (p : Proc) (target : Nat) (body : RedirBody) : Bool × Option Nat × Proc :=
  if isCloexec p target then (false, none, p) else
  let s := (Call.dup target minInternalFd true).runT p
  match s.1 with
  | .err e =>
    if e = "EBADF" then
      let r := openAndOverwrite s.2 target body
      (r.1, none, r.2)
    else (false, none, s.2)
  | .fd save =>
    let r := openAndOverwrite s.2 target body
    if r.1 then (true, some save, r.2)
    else (false, none, ((Call.close save).runT r.2).2)
  | .ok => (false, none, s.2)

/-- one redirection of the `exec` built-in: `perform_redir`, then `preserve_redirs` closes the saved copy -/
def execRedir (p : Proc) (target : Nat) (body : RedirBody) : Bool × Proc :=
  let r := performRedir p target body
  match r.2.1 with
  | some save => (r.1, ((Call.close save).runT r.2.2).2)
  | none => (r.1, r.2.2)

/-- option names the `set` built-in refuses while `portable` is on (no POSIX spelling) -/
def nonPortableOpts : List String := ["hashondefinition", "login", "posixlycorrect"]

/-- `Pipe::pipe` succeeds: two descriptors below the soft limit are free (reader = the lowest, then the writer) -/
def pipeOk (p : Proc) : Bool :=
  let o := (Call.open "pipe").runT p
  !o.1.isErr && !((Call.open "pipe").runT o.2).1.isErr

/-- the here-document of `probe THD <<E` can be set up: `perform` with the temporary file as an owned descriptor
    (save fd 0 at ≥ `MIN_INTERNAL_FD`, `open_tmpfile`, `dup2`, `close`); afterwards `undo_redirs` puts fd 0 back -/
def hereDocOk (p : Proc) : Bool := (performRedir p 0 (.file "tmp")).1

/-- the exit status of a mutator in `env` (all succeed except `unalias` of an undefined alias and a `cd`
    whose target does not resolve) -/
def opStatus (env : Env) : Op → Nat
  | .unalias a => if (env.aliases.find a).isNone then 1 else 0
  | .cd d =>
    let old := ((env.variables.vars.find "PWD").map (·.value)).getD ""
    if ((Call.chdir (shorten d old)).runT env.system).1.isErr then 2 else 0
  -- a redirection error of a regular built-in: status 2, the shell goes on (unless errexit)
  | .hd => if hereDocOk env.system then 0 else 2
  | _ => 0

/-- the shell exits by itself with `status` (errexit): the EXIT trap runs first -/
def exitShell (sh : Shell) (status : Nat) : Shell :=
  let evs := match trapCommandOf sh.env 0 with
    | some n => [s!"T{n}"]
    | none => []
  { sh with events := sh.events ++ evs, halted := some status }

/-- An error of a special built-in (`exec` with a failing redirection, `set` with an option it refuses): the
    non-interactive-loop shell of the sweep exits with status 2 — through `exitShell`, so its EXIT trap runs. -/
def builtinError (sh : Shell) : Shell := exitShell sh 2

/-- `exec` with one redirection: the process state is whatever the redirection engine left (`execRedir`); a failure
    is an error of the special built-in. -/
def redirOp (sh : Shell) (n : Nat) (b : RedirBody) : Shell :=
  let r := execRedir sh.env.system n b
  let sh1 : Shell := { sh with env := { sh.env with system := r.2 } }
  if r.1 then sh1 else builtinError sh1

/-- `Env::get_tty`: once (`env.tty` caches the answer) `/dev/tty` is opened with `CloseOnExec | NoCtty`, then
    `io::move_fd_internal`: a descriptor already at or above `MIN_INTERNAL_FD` stays; otherwise
    `dup(fd, MIN_INTERNAL_FD, CloseOnExec)` and `close(fd)` whatever `dup` answered; `env.tty = dup's answer .ok()`.
    Every step is a system call of the shell's own process (`getTty_fdCalls`). -/
def getTty (env : Env) : Env :=
  if env.tty.isSome || !env.system.ttyAvail then env else
  let o := (Call.open "tty" true).runT env.system
  match o.1 with
  | .fd k =>
    if minInternalFd ≤ k then { env with tty := some k, system := o.2 }
    else
      let d := (Call.dup k minInternalFd true).runT o.2
      let q := ((Call.close k).runT d.2).2
      match d.1 with
      | .fd n => { env with tty := some n, system := q }
      | _ => { env with system := q }
  | _ => { env with system := o.2 }

/-- the `set` built-in after changing `monitor` outside a subshell ("reinitialize job control"): the shell is
    internal dispositions for the stop signals are enabled iff the `interactive` and `monitor` options are both
    on, disabled otherwise (`update_internal_dispositions_for_stoppers`), and with `monitor` now on `ensure_foreground` opens the
    terminal (`tcsetpgrp` itself changes nothing the property names) -/
def monitorChanged (o : String) (env : Env) : Env :=
  if o ≠ "monitor" || env.stack.contains "Subshell" then env else
  let st0 : Trap.State := { sys := env.system.sys, traps := env.traps }
  let st := if env.options.contains "interactive" && env.options.contains "monitor"
    then Trap.enableStoppers st0 else Trap.disableStoppers st0
  let e1 := { env with traps := st.traps, system := { env.system with sys := st.sys } }
  if e1.options.contains "monitor" then getTty e1 else e1

/-- the effect of one mutator on a live shell process -/
def applyOpCore (sh : Shell) (op : Op) : Shell :=
  let env := sh.env
  let allexport := env.options.contains "allexport"
  match op with
  | .set n v => { sh with env := setVar env n fun o => match o with
      | some x => { x with value := v, exported := x.exported || allexport }
      | none => { value := v, exported := allexport } }
  | .unset n => { sh with env := { env with variables := { env.variables with vars := env.variables.vars.del n } } }
  | .export n v => { sh with env := setVar env n fun o => match o with
      | some x => { x with value := v, exported := true }
      | none => { value := v, exported := true } }
  | .readonly n v => { sh with env := setVar env n fun o => match o with
      | some x => { x with value := v, readonly := true, exported := x.exported || allexport }
      | none => { value := v, readonly := true, exported := allexport } }
  | .fn f b => { sh with env := { env with functions := env.functions.put f b } }
  | .unfn f => { sh with env := { env with functions := env.functions.del f } }
  | .alias a v => { sh with env := { env with aliases := env.aliases.put a v } }
  | .unalias a => { sh with env := { env with aliases := env.aliases.del a } }
  | .optOn o =>
    -- a non-portable option name while `portable` is on is an error of the special built-in `set`: the shell
    -- exits with status 2 after its EXIT trap
    if env.options.contains "portable" && nonPortableOpts.contains o then builtinError sh
    else { sh with env := monitorChanged o { env with options := insertSorted o env.options } }
  | .optOff o =>
    if env.options.contains "portable" && nonPortableOpts.contains o then builtinError sh
    else { sh with env := monitorChanged o { env with options := env.options.filter (· ≠ o) } }
  | .bg => { sh with env := { env with jobs := env.jobs.add } }
  | .nofile v => { sh with env := { env with system := ((Call.setrlimit v).runT env.system).2 } }
  | .exit _ => sh
  | .yield => sh
  -- "cannot connect pipes in the pipeline": `Divert::Interrupt(Some(NOEXEC))` — the script ends with 126 after the EXIT trap
  | .pl => if pipeOk env.system then sh else exitShell sh 126
  -- the expansion error of a command substitution that cannot open its pipe ends the shell with 2
  | .cs => if pipeOk env.system then sh else exitShell sh 2
  | .hd => if hereDocOk env.system then { sh with events := sh.events ++ ["THD"] } else sh
  | .plc => { sh with events := sh.events ++ ["TPC"] }
  -- `shift` with no positional parameter left is an error of the special built-in: the shell exits with status 1
  -- after its EXIT trap
  | .shift =>
    if env.variables.params.isEmpty then exitShell sh 1
    else { sh with env := { env with variables := { env.variables with params := env.variables.params.drop 1 } } }
  | .args xs => { sh with env := { env with variables := { env.variables with params := xs } } }
  | .cd d =>
    let old := ((env.variables.vars.find "PWD").map (·.value)).getD ""
    -- the built-in hands the shortened path to `chdir`
    let r := (Call.chdir (shorten d old)).runT env.system
    if !r.1.isErr then
      let e1 := setVar env "OLDPWD" fun _ => { value := old, exported := true }
      let e2 := setVar e1 "PWD" fun o => match o with
        | some x => { x with value := d }
        | none => { value := d, exported := true }
      { sh with env := { e2 with system := r.2 } }
    else sh
  | .umask m => { sh with env := { env with system := ((Call.umask m).runT env.system).2 } }
  | .trap c a => { sh with env := trapSet env c a }
  -- `exec N>|file`, `exec N</o/in`, `exec N>&M`, `exec N>&-`: the redirection engine; a target at or above the soft
  -- RLIMIT_NOFILE, a source that is closed / read-only / CLOEXEC, a CLOEXEC target are redirection errors
  | .fdw n file => redirOp sh n (.file file)
  | .fdr n => redirOp sh n (.file "oin")
  | .fdd n m => redirOp sh n (.copy m)
  | .fdc n => redirOp sh n .close
  | .local n v =>
    { sh with env := { env with functions := env.functions.put "lf" (n ++ "." ++ v) },
              events := sh.events ++ ["L:" ++ v] }
  | .raise sig =>
    if sig = SIGKILL then { sh with halted := some (384 + sig) } else
    match env.system.sys.disp sig with
    | .catch => match trapCommandOf env sig with
      | some n => { sh with events := sh.events ++ [s!"T{n}"] }
      | none => sh
    | .ignore => sh
    | .default => if fatalByDefault sig then { sh with halted := some (384 + sig) } else sh

/-- one mutator in a shell process: nothing if the process is gone; with `errexit` a failing mutator makes the
    shell exit with its status -/
def applyOp (sh : Shell) (op : Op) : Shell :=
  if sh.halted.isSome then sh else
  let st := opStatus sh.env op
  let r := applyOpCore sh op
  if r.halted.isSome then r
  else match op with
    | .exit n => exitShell r n            -- the `exit` built-in: EXIT trap, then the process ends
    | _ => if st ≠ 0 ∧ r.env.options.contains "errexit" then exitShell r st else r

def applyOps (sh : Shell) (ops : List Op) : Shell := ops.foldl applyOp sh

/-! ## Snapshots (what the harness prints with real built-ins) -/

def trackedConds : List (String × Nat) :=
  [("EXIT", 0), ("INT", SIGINT), ("QUIT", SIGQUIT), ("TERM", SIGTERM), ("TSTP", Trap.SIGTSTP),
   ("TTIN", Trap.SIGTTIN), ("TTOU", Trap.SIGTTOU), ("URG", SIGURG), ("USR1", SIGUSR1)]

/-- the `trap` built-in without operands calls `TrapSet::peek_state` for every condition, which fills vacant
    entries from the system -/
def peekAll (env : Env) : Env :=
  let st := trackedConds.foldl (fun (st : Trap.State) c => (Trap.peekState st c.2).1)
    { sys := env.system.sys, traps := env.traps }
  { env with traps := st.traps, system := { env.system with sys := st.sys } }

def showVar (kv : String × Var) : String :=
  kv.1 ++ "=" ++ Proto.encStr kv.2.value ++ "/" ++ (if kv.2.readonly then "r" else "") ++ (if kv.2.exported then "x" else "")

def showDisp : Disp → String
  | .default => "D"
  | .ignore => "I"
  | .catch => "C"

def showTrapLine (env : Env) (c : String × Nat) : Option String :=
  match Trap.get env.traps c.2 with
  | none => none
  | some g => match (g.parent.getD g.current).action with
    | .default => none
    | .ignore => some (c.1 ++ ":i")
    | .command n => some (c.1 ++ s!":c{n}")

def showSys (p : Proc) : String :=
  let fds := p.fds.map fun kv => s!"{kv.1}:{kv.2.label}{if kv.2.cloexec then "x" else ""}"
  let ds := (trackedConds.filter (·.2 ≠ 0)).map fun c => c.1 ++ ":" ++ showDisp (p.sys.disp c.2)
  s!"cwd={Proto.encStr p.cwd} um={p.umask} fd={",".intercalate fds} d={",".intercalate ds}"

/-- `jobs -l` (numbers of the listed jobs) and which of them `$!` designates -/
def showJobs (j : Jobs) : String :=
  let nums := j.list.map fun (e : Nat × Nat × Bool) => toString e.1
  let last := match j.last with
    | none => "-"
    | some u => match j.list.find? (fun (e : Nat × Nat × Bool) => e.2.1 == u) with
      | some e => s!"j{e.1}"
      | none => "?"
  s!"j={",".intercalate nums} !={last}"

/-- the text of a snapshot taken in `env` (after the `trap` built-in has peeked) -/
def showSnapshot (env : Env) : String :=
  let v := env.variables.vars.map showVar
  let f := env.functions.map fun kv => kv.1 ++ "=" ++ kv.2
  let a := env.aliases.map fun kv => kv.1 ++ "=" ++ kv.2
  let t := trackedConds.filterMap (showTrapLine env)
  s!"v={",".intercalate v} f={",".intercalate f} a={",".intercalate a} o={",".intercalate env.options} u={env.system.umask} l={showLimit env.system.nofile} t={",".intercalate t} p={",".intercalate env.variables.params} {showSys env.system} {showJobs env.jobs}"

/-- take snapshot `tag` in a live process; `withTrap = false`: the snapshot does not run the `trap` built-in
    (no peeking, empty `t=`) -/
def snapshotT (withTrap : Bool) (sh : Shell) (tag : String) : Shell :=
  if sh.halted.isSome then sh else
  if withTrap then
    let env := peekAll sh.env
    { sh with env := env, events := sh.events ++ [tag ++ "{" ++ showSnapshot env ++ "}"] }
  else
    { sh with events := sh.events ++ [tag ++ "{" ++ showSnapshot { sh.env with traps := [] } ++ "}"] }

def snapshot (sh : Shell) (tag : String) : Shell := snapshotT true sh tag

/-! ## The kinds of subshell (`yash-semantics`) -/

inductive Kind where
  | paren | subst | pipeF | pipeM | pipeL | async
  deriving DecidableEq, Repr

/-- the plumbing the child performs on its own fd table before the body runs, as the snapshot shows it: the pipe
    ends / `/dev/null` at fd 0 / fd 1 (the descriptors the starter opened for the pipe are closed again on both sides;
    `plumbCalls` + `plumb_is_own_calls` give the system calls behind it) -/
def plumb (k : Kind) (jc : Bool) (env : Env) : Env :=
  let setFd (e : Env) (n : Nat) (l : String) : Env :=
    { e with system := { e.system with fds := fdPut e.system.fds n { label := l } } }
  match k with
  | .paren => env
  | .subst => setFd env 1 "pipe"
  | .pipeF => setFd env 1 "pipe"
  | .pipeM => setFd (setFd env 0 "pipe") 1 "pipe"
  | .pipeL => setFd env 0 "pipe"
  | .async => if jc then env else setFd env 0 "null"   -- `nullify_stdin` only without job control

/-- `yash-semantics/src/command/pipeline.rs` `struct PipeSet`: the read end left over from the previous command and
    the pipe to the next one — descriptors the STARTER opened with `Pipe::pipe` before the fork -/
structure PipeSet where
  readPrevious : Option Nat := none
  next : Option (Nat × Nat) := none
  deriving DecidableEq, Repr

/-- `PipeSet::move_to_stdin_stdout`, the calls of the child (also `subshell_body` of command_subst.rs, which is the
    same with `next = (reader, writer)` and no previous end): `close(reader)`; `dup2(writer, 1)`, `close(writer)` unless
    the writer is fd 1; `dup2(previous, 0)`, `close(previous)` unless it is fd 0.  (The corner `read_previous == 1`,
    where the code first moves the end away with `dup`, needs stdout closed in the starter and is left out.) -/
def moveToStdinStdout (ps : PipeSet) : List Call :=
  (match ps.next with
   | some (r, w) => [Call.close r] ++ (if w ≠ 1 then [Call.dup2 w 1, Call.close w] else [])
   | none => [])
  ++ (match ps.readPrevious with
   | some rp => if rp ≠ 0 then [Call.dup2 rp 0, Call.close rp] else []
   | none => [])

/-- `nullify_stdin` of command/item.rs: `close(0)`, `open("/dev/null")` (which then answers fd 0) -/
def nullifyStdin : List Call := [.close 0, .open "null"]

/-- the `PipeSet` a subshell of kind `k` is started with, given the ends the starter holds -/
def kindPipes (k : Kind) (rp r w : Nat) : PipeSet :=
  match k with
  | .subst | .pipeF => { next := some (r, w) }
  | .pipeM => { readPrevious := some rp, next := some (r, w) }
  | .pipeL => { readPrevious := some rp }
  | _ => {}

/-- the child's own system calls between the fork and its body, for every kind -/
def plumbCalls (k : Kind) (jc : Bool) (rp r w : Nat) : List Call :=
  match k with
  | .paren => []
  | .async => if jc then [] else nullifyStdin
  | _ => moveToStdinStdout (kindPipes k rp r w)

/-- the starter's own calls after the fork: it closes the ends it opened for this child (`PipeSet::shift`,
    `expand_common`) -/
def starterCloses (k : Kind) (rp r w : Nat) : List Call :=
  match k with
  | .subst | .pipeF => [.close w, .close r]
  | .pipeM => [.close rp, .close w, .close r]
  | .pipeL => [.close rp]
  | _ => []

/-- `run_exit_trap` at the end of a subshell / of the shell -/
def runExitTrap (sh : Shell) : Shell :=
  if sh.halted.isSome then sh else
  match trapCommandOf sh.env 0 with
  | some n => { sh with events := sh.events ++ [s!"T{n}"] }
  | none => sh

/-- the status the parent reads for a subshell of kind `k` whose process ended with `childStatus` -/
def kindStatus (k : Kind) (pipefail : Bool) (childStatus : Nat) : Nat :=
  match k with
  | .paren => childStatus
  | .subst => 0            -- `probe SUBST "$(…)"`: the probe built-in keeps the previous `$?`
  | .pipeF => if pipefail then childStatus else 0
  | .pipeM => if pipefail then childStatus else 0
  | .pipeL => childStatus
  | .async => childStatus  -- `wait $!`

/-- How `yash-semantics` starts the subshell of each kind (`jc` = `env.controls_jobs()`). -/
def startKind {β : Type} (copied : List (String × String)) (k : Kind) (jc : Bool) (env : Env) (task : Env → β)
    : Env × β :=
  match k with
  | .paren => startSubshell copied false jc env task           -- `Config::foreground()`
  | .subst => startSubshell copied false false env task        -- `Config::new()`
  | .async => startSubshell copied true jc env task            -- background, `ignores_sigint_sigquit`
  | _ =>
    -- a job-controlled pipeline runs inside one foreground subshell (`execute_job_controlled_pipeline`);
    -- each member is then a `Config::new()` subshell of that one
    if jc then startSubshell copied false true env fun w => (startSubshell copied false false w task).2
    else startSubshell copied false false env task

/-- what follows the subshell command in the parent: with `errexit` a non-zero status ends the shell before
    `probe ST` runs; otherwise the status is printed -/
def finishKind (k : Kind) (out : Shell) (st : Nat) (intr : Option Nat) : Shell :=
  if out.halted.isSome then out
  else match intr with
    | some s => exitShell out s       -- `Divert::Interrupt(Some(status))`: the command line is abandoned
    | none =>
      if st ≠ 0 ∧ out.env.options.contains "errexit" then exitShell out st
      else { out with events := out.events ++ (if k == .subst then [s!"sub:0", s!"st:{st}"] else [s!"st:{st}"]) }

/-- `Env::is_interactive`: the `interactive` option is on and the shell is not itself a subshell -/
def isInteractive (env : Env) : Bool := env.options.contains "interactive" && !env.stack.contains "Subshell"

/-- `Env::sigint_has_default_action`: no trap entry for SIGINT, or its current action is `Default` -/
def sigintDefault (env : Env) : Bool :=
  match Trap.get env.traps SIGINT with
  | none => true
  | some g => g.current.action == .default

/-- the constructs whose wait ends in the SIGINT rule: `( )` and a job-controlled pipeline
    (`job::handle_job_status`), and a command substitution (`expand_common`); not a plain pipeline, not `&` -/
def interruptsOnSigint (k : Kind) (jc : Bool) : Bool :=
  match k with
  | .paren => true
  | .subst => true
  | .async => false
  | _ => jc

/-- The documented exception to "the parent observes only the exit status": in an *interactive* shell
    (`is_interactive`: option on AND not in a subshell) whose SIGINT action is the default, a subshell that was
    killed by SIGINT interrupts the command line (`Divert::Interrupt(Some(384 + SIGINT))`).  `status` is the
    status of the awaited process; a status of `384 + sig` always means "killed by `sig`" here because a shell
    whose `$?` is such a status ends by re-raising the signal (`exit_or_raise`). -/
def interruptedBy (k : Kind) (jc : Bool) (env : Env) (status : Nat) : Option Nat :=
  if status == 384 + SIGINT && interruptsOnSigint k jc && isInteractive env && sigintDefault env
  then some status else none

/-- What the starting shell does *by itself* around a subshell of kind `k`, from its environment `env` as
    restored after the fork: nothing for the synchronous kinds; an asynchronous list is remembered as a job and
    becomes `$!`, the shell's own mutators between `&` and `wait` run, and `wait $!` removes the finished job. -/
def parentSide (k : Kind) (env : Env) (during : List Op) : Shell :=
  let e0 : Env := if k == .async then { env with jobs := env.jobs.add } else env
  let p0 := applyOps { env := e0 } (if k == .async then during else [])
  if k == .async then { p0 with env := { p0.env with jobs := p0.env.jobs.removeLast } } else p0

/-- a process forked from the shell `w` (all state fields copied, the system handle = the forked process) -/
def forkedCopy (copied : List (String × String)) (w : Env) : Env :=
  { w with system := Proc.forkFrom copied w.mainPid w.system }

/-- the environment the task of a subshell of kind `k` starts from, given the starter `env`: fork, then one
    `subshellEntry` — for a job-controlled pipeline: fork + entry of the wrapper, fork + entry of the member -/
def entryEnv (copied : List (String × String)) (k : Kind) (jc : Bool) (env : Env) : Env :=
  match k with
  | .paren => subshellEntry false (!jc) (forkedCopy copied env)
  | .subst => subshellEntry false true (forkedCopy copied env)
  | .async => subshellEntry (!jc) (!jc) (forkedCopy copied env)
  | _ =>
    if jc then subshellEntry false true (forkedCopy copied (subshellEntry false false (forkedCopy copied env)))
    else subshellEntry false true (forkedCopy copied env)

/-- what the child process of a subshell of kind `k` started from `sh` makes of `body` (its final state, its
    output, whether it was killed) -/
def childShell (copied : List (String × String)) (k : Kind) (sh : Shell) (body : Shell → Shell) : Shell :=
  (startKind copied k (controlsJobs sh.env) sh.env
    fun c => runExitTrap (body { env := plumb k (controlsJobs sh.env) c })).2

/-- Runs `body` in a subshell of kind `k` started from the live shell `sh`; `during` are the parent's own
    mutators between `&` and `wait` (asynchronous lists only).  The child's output comes first in the
    event list of the result because the parent prints nothing until it has waited. -/
def runKind (copied : List (String × String)) (k : Kind) (sh : Shell) (body : Shell → Shell)
    (during : List Op) : Shell :=
  if sh.halted.isSome then sh else
  let jc := controlsJobs sh.env
  let r : Env × Shell := startKind copied k jc sh.env fun c => runExitTrap (body { env := plumb k jc c })
  let childSh : Shell := childShell copied k sh body
  -- the child exits with its `$?` (`exit_or_raise`), or was killed
  let childStatus := childSh.halted.getD childSh.env.exitStatus
  let p : Shell := parentSide k r.1 during
  let st := kindStatus k (p.env.options.contains "pipefail") childStatus
  -- the status of the process the shell actually waited for (the job-control wrapper of a pipeline exits with
  -- the pipeline's status; `$( )` reports the child's even though the `probe` built-in then keeps `$?`)
  let waited := if k == .subst then childStatus else st
  let intr := interruptedBy k jc p.env waited
  -- an interrupted command substitution never delivers its output: the `probe` that would print it does not run
  let childEvents := if k == .subst && intr.isSome then [] else childSh.events
  let out : Shell := { env := { p.env with exitStatus := st }, halted := p.halted,
                       events := sh.events ++ childEvents ++ p.events }
  finishKind k out st intr

/-! ## A whole case -/

structure Case where
  pro : List Op
  kinds : List Kind
  /-- mutators of the intermediate levels (level 1, level 2) before they start the next subshell -/
  mid : List (List Op) := []
  child : List Op
  during : List Op
  /-- `T:1` `/dev/tty` exists -/
  tty : Bool := false
  /-- `I:1` the internal dispositions of an interactive job-control shell are installed -/
  internal : Bool := false
  /-- `G:SIG` a signal inherited as ignored -/
  ignored : Option Nat := none
  /-- `Q:1` snapshot `B0` does not run `trap` -/
  quiet : Bool := false
  /-- `A:` mutators of the first member of the innermost pipeline (`pipeL`): a sibling process of the child; what it
      does to ITS state shows nowhere — the prediction does not depend on them (`two_children_isolated`) -/
  first : List Op := []

def baseEnv : Env :=
  { aliases := [], arg0 := "yash", builtins := [], exitStatus := 0, functions := [], jobs := {},
    mainPgid := 2, mainPid := 2, options := ["clobber", "exec", "glob", "log", "unset"], stack := [], traps := [], tty := none,
    variables := { vars := [("PWD", { value := "", exported := true })], params := [] }, any := [],
    system := { fds := [(0, { label := "in" }), (1, { label := "out" }), (2, { label := "err" })],
                cwd := "", umask := defaultUmask,
                sys := { disp := fun _ => .default, blocked := fun _ => false } } }

def initialEnv : Env := baseEnv

/-- the environment the shell of a case starts with -/
def startEnv (c : Case) : Env :=
  let e0 := baseEnv
  let sys0 : Sys := match c.ignored with
    | some s => { e0.system.sys with disp := Trap.upd e0.system.sys.disp s .ignore }
    | none => e0.system.sys
  let st0 : Trap.State := { sys := sys0, traps := [] }
  let st := if c.internal then Trap.enableStoppers (Trap.enableTerminators st0) else st0
  { e0 with traps := st.traps, options := if c.internal then insertSorted "interactive" e0.options else e0.options,
            system := { e0.system with sys := st.sys, ttyAvail := c.tty } }

/-! ### Programs of the modelled fragment

Mutators, snapshots and subshell constructs of every kind, sequenced and nested to any depth. The programs of
the sweep (`levelProg`, `caseProg`) are instances; the isolation theorems are stated for every `Prog`. -/

inductive Prog where
  /-- mutators run one after the other -/
  | ops (l : List Op)
  /-- a snapshot (`withTrap = false`: without the `trap` listing) -/
  | snap (withTrap : Bool) (tag : String)
  /-- "the last command succeeded": `$? := 0` in a live shell -/
  | ok
  /-- the EXIT trap at the end of the shell -/
  | exitTrap
  | seq (a b : Prog)
  /-- a subshell of kind `k` running `body`; `during` = the starter's own mutators between `&` and `wait` -/
  | sub (k : Kind) (body : Prog) (during : List Op)

def runProg (copied : List (String × String)) : Prog → Shell → Shell
  | .ops l, sh => applyOps sh l
  | .snap w tag, sh => snapshotT w sh tag
  | .ok, sh => if sh.halted.isSome then sh else { sh with env := { sh.env with exitStatus := 0 } }
  | .exitTrap, sh => runExitTrap sh
  | .seq a b, sh => runProg copied b (runProg copied a sh)
  | .sub k body during, sh => runKind copied k sh (runProg copied body) during

/-- the body of the subshell of level `j` given the kinds still to be entered and the mutators of the
    intermediate levels: `C<j>`, the level's mutators, `B<j>`, the next subshell, `A<j>` — or, innermost,
    `C<d>`, the child's mutators, `D<d>` -/
def levelProg (child : List Op) : Nat → List Kind → List (List Op) → Prog
  | j, [], _ => .seq (.snap true s!"C{j}") (.seq (.ops child) (.seq (.snap true s!"D{j}") .ok))
  | j, k :: ks, mids =>
    .seq (.snap true s!"C{j}") (.seq (.ops (mids.headD [])) (.seq (.snap true s!"B{j}")
      (.seq (.sub k (levelProg child (j + 1) ks mids.tail) []) (.seq (.snap true s!"A{j}") .ok))))

/-- the whole program of a case: prologue, `B0`, the subshell(s), `A0`, EXIT trap of the shell itself -/
def caseProg (c : Case) : Prog :=
  .seq (.ops c.pro) (.seq (.snap (!c.quiet) "B0")
    (.seq (match c.kinds with
        | [] => .ops []
        | k :: ks => .sub k (levelProg c.child 1 ks c.mid) c.during)
      (.seq (.snap true "A0") .exitTrap)))

def runCase (copied : List (String × String)) (c : Case) : Shell :=
  runProg copied (caseProg c) { env := startEnv c }

/-- the observation line -/
def observation (sh : Shell) : String :=
  let isSnap (e : String) : Bool := e.endsWith "}"
  let nsnap := (sh.events.filter isSnap).length
  -- the EXIT trap of the shell runs after `A`; the final process state is read after it
  let rest := String.ofList (List.replicate (nsnap - 1) '=')
  " ".intercalate sh.events ++ " fin{" ++ showSys sh.env.system ++ "} exit=" ++ toString (sh.halted.getD 0) ++ " rest=" ++ (if rest.isEmpty then "-" else rest)

end YashModel.Fork
