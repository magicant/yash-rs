/-
  C08 — property theorems (theorem half of a PARTIAL claim; see props/C08.json `level_text`): about the maps the
  translator re-extracts from the Rust source on every run (`Generated/ForkMaps.lean`, `Generated/ForkSystem.lean`;
  evaluation over genuinely finite tables, plus their meaning for an arbitrary assignment of values to field names),
  about the record model of `Fork/Model.lean` (`run_in_child_process`, `Config::start`, `TrapSet::enter_subshell` from
  the Trap model of C11), and about the system calls of its own process that every write of that model comes down to.

  What no theorem here can say: that the *real* clone shares no interior-mutable cell between parent and
  child, and that nothing goes wrong under interleaving of child and parent.  A value model has no aliasing: the
  cells reachable from a cloned field are classified over the generated table `interiorCells`
  (`env_cells_classified`, `shared_records_writers`), and only the correspondence sweep (harness/src/bin/c08.rs)
  exhibits the rest.
-/
import YashModel.Fork.SigLemmas
import YashModel.Fork.RedirContract
import YashModel.Fork.Fields
import YashModel.Fork.TrapInv
import YashModel.Generated.ForkSystem
namespace YashModel.Fork
open YashModel.Generated.ForkMaps
open YashModel.Trap (GrandState TrapState Action SubOpt)

/-! ## The tables the translator extracts from the source -/

/-- ★ Every state field of `Env` is restored by `restore_into_env` from the state field that
    `extract_from_env` filled from *that same* `Env` field (none swapped), every field of `ForkEnvState` is
    both filled and put back (none dropped), and `system` — the only field not restored — is never moved out. -/
theorem restore_extract_id :
    (∀ f ∈ envFields, f ≠ "system" → roundTrip f = some f)
    ∧ (∀ s ∈ stateFields, (extractPairs.map (·.1)).contains s ∧ (restoreMap.map (·.2)).contains s)
    ∧ (∀ f ∈ envFields, roundTripOK f = true)
    ∧ isTaken "system" = false := by decide +kernel

/-- ★ Every state field of `Env` reaches the child: through `extract_from_env`, `ForkEnvState::clone`
    (and `clone_from`) and `into_env_with_system` the child's field `f` holds the parent's field `f`; the
    child's `system` is its own handle; `Env::clone_with_system` copies every state field too. -/
theorem clone_complete :
    (∀ f ∈ envFields, f ≠ "system" → childSource f = some f)
    ∧ childSource "system" = some "@system"
    ∧ (∀ s ∈ stateFields, srcOf stateCloneMap s = some s ∧ srcOf stateCloneFromMap s = some s)
    ∧ (∀ f ∈ envFields, f ≠ "system" → srcOf cloneWithSystemMap f = some f)
    ∧ srcOf cloneWithSystemMap "system" = some "@system" := by decide +kernel

/-- No field is written twice by any of the maps, no field is read twice, and the maps mention exactly the
    declared fields. -/
theorem no_field_twice :
    (extractMap.map (·.1)).Nodup ∧ (extractMap.map (·.2.1)).Nodup
    ∧ (restoreMap.map (·.1)).Nodup ∧ (restoreMap.map (·.2)).Nodup
    ∧ (intoEnvMap.map (·.1)).Nodup ∧ (intoEnvMap.map (·.2)).Nodup
    ∧ (stateCloneMap.map (·.1)).Nodup ∧ (stateCloneMap.map (·.2)).Nodup
    ∧ (cloneWithSystemMap.map (·.1)).Nodup ∧ (cloneWithSystemMap.map (·.2)).Nodup
    ∧ (processForkMap.map (·.1)).Nodup
    ∧ envFields.Nodup ∧ stateFields.Nodup
    ∧ (intoEnvMap.map (·.1)) = envFields
    ∧ (extractMap.map (·.1)) = stateFields
    ∧ (∀ p ∈ processForkMap, processFields.contains p.1) := by decide +kernel

/-- Meaning of `restore_extract_id` for *any* environment (an arbitrary assignment of values of any type to
    field names) and any defaults left behind by `take`: after `restore_into_env (extract_from_env env)` every
    field of `Env` holds what it held before — whatever happened to the extracted state's clone in the child. -/
theorem fields_restore_extract {V : Type} (env dflt : String → V) :
    ∀ f ∈ envFields, restoreF (extractF env dflt).1 (extractF env dflt).2 f = env f := by
  intro f hf
  have hok := restore_extract_id.2.2.1 f hf
  unfold roundTripOK at hok
  unfold restoreF extractF
  cases h : srcOf restoreMap f with
  | none =>
    simp only [h] at hok ⊢
    have : isTaken f = false := by simpa using hok
    simp [this]
  | some s =>
    simp only [h] at hok ⊢
    have h2 : srcOf extractPairs s = some f := by simpa using hok
    simp [h2]

example : restoreF (extractF (fun f => f ++ "!") (fun _ => "")).1 (extractF (fun f => f ++ "!") (fun _ => "")).2
    "variables" = "variables!" := by decide +kernel

/-- ★ `Process::fork_from` in the code as it is (the *generated* `processForkMap`) copies every per-process
    field the property names: the child's fd table, working directory, umask, signal dispositions and blocked
    mask are the parent's — i.e. the code's copy list covers the Spec's (`specCopied`). -/
theorem child_process_copy (ppid : Nat) (p : Proc) :
    (∀ f ∈ specCopied, isCopied implCopied f.1 = true)
    ∧ isCopied implCopied "resource_limits" = true
    ∧ (Proc.forkFrom implCopied ppid p).fds = p.fds
    ∧ (Proc.forkFrom implCopied ppid p).cwd = p.cwd
    ∧ (Proc.forkFrom implCopied ppid p).umask = p.umask
    ∧ (Proc.forkFrom implCopied ppid p).sys.disp = p.sys.disp
    ∧ (Proc.forkFrom implCopied ppid p).sys.blocked = p.sys.blocked := by
  rw [forkFrom_impl]
  exact ⟨by decide +kernel, by decide +kernel, rfl, rfl, rfl, rfl, rfl⟩

/-- the child of a parent in `/d1` with umask 027 -/
example : (Proc.forkFrom implCopied 2 { initialEnv.system with cwd := "/d1", umask := "027" }).cwd = "/d1"
    ∧ (Proc.forkFrom implCopied 2 { initialEnv.system with cwd := "/d1", umask := "027" }).umask = "027" := by
  decide +kernel

/-- … and nothing else: what belongs to the execution state of the parent process itself is NOT inherited by
    the forked child (POSIX `fork`: "the set of signals pending for the child process shall be initialized to
    the empty set"; process state, caught signals, wakers and the `exec` record start afresh), the fields copied from
    the parent are exactly the eleven listed, and `ppid` — the twelfth entry of the map — is set from the argument. -/
theorem child_process_fresh :
    (∀ f ∈ ["pending_signals", "caught_signals", "caught_signals_count", "state", "state_has_changed",
            "resumption_awaiters", "signal_wakers", "last_exec"], isCopied implCopied f = false)
    ∧ (∀ f ∈ processFields, isCopied implCopied f = true ↔
        f ∈ ["pgid", "uid", "euid", "gid", "egid", "fds", "umask", "cwd", "resource_limits", "dispositions",
             "blocked_signals"])
    ∧ srcOf implCopied "ppid" = some "@ppid" := by decide +kernel

/-- ★ A fork duplicates EVERY open descriptor whatever the soft RLIMIT_NOFILE is (lowering the limit never
    closes a descriptor, and the child inherits the lowered limit too): the code does not hand the descriptors
    over through the limit-checking accessor after the limits were copied (generated `forkFdsLimitChecked`), and
    in the model the child's table is the parent's for every value of the limit. -/
theorem child_fds_for_every_limit (ppid : Nat) (p : Proc) (limit : Option Nat) :
    forkFdsLimitChecked = false
    ∧ (Proc.forkFrom implCopied ppid { p with nofile := limit }).fds = p.fds
    ∧ (Proc.forkFrom implCopied ppid { p with nofile := limit }).nofile = limit := by
  rw [forkFrom_impl]
  exact ⟨by decide +kernel, rfl, rfl⟩

/-- a descriptor above a lowered limit: still there in the child -/
example : fdGet (Proc.forkFrom implCopied 2
    { initialEnv.system with fds := fdPut initialEnv.system.fds 20 { label := "f1" }, nofile := some 16 }).fds 20
    = some { label := "f1" } := by decide +kernel

/-- With everything POSIX names copied (`specCopied`, the Spec's fork) the child process is the parent's. -/
theorem child_process_copy_spec (ppid : Nat) (p : Proc) :
    (Proc.forkFrom specCopied ppid p).fds = p.fds ∧ (Proc.forkFrom specCopied ppid p).cwd = p.cwd
    ∧ (Proc.forkFrom specCopied ppid p).umask = p.umask ∧ (Proc.forkFrom specCopied ppid p).sys = p.sys := by
  rw [forkFrom_spec]
  exact ⟨rfl, rfl, rfl, rfl⟩

/-- ★ The process-level fork of the code (generated copy list of `Process::fork_from`) IS the Spec's fork (POSIX: fd
    table, cwd, umask, dispositions, mask, limits), as functions on processes — so every run of the model with the
    code's fork equals the run with the Spec's fork (`impl_run_eq_spec_run`). -/
theorem forkFrom_impl_eq_spec : Proc.forkFrom implCopied = Proc.forkFrom specCopied :=
  funext fun ppid => funext fun p => (forkFrom_impl ppid p).trans (forkFrom_spec ppid p).symm

/-- The methods of `VirtualSystem` behind the calls of the model (`Call`, `SysState.fork`). -/
def modelledMethods : List String :=
  ["Umask::umask", "Chdir::chdir", "Open::open", "Dup::dup", "Dup::dup2", "Close::close", "Fcntl::fcntl_setfd",
   "Sigaction::sigaction", "Sigmask::sigmask", "SetRlimit::setrlimit"]

/-- the write classes the generated table records for a method (`none`: no such method) -/
def writesOf (m : String) : Option (List String) := (Generated.ForkSystem.systemWrites.find? (·.1 == m)).map (·.2)

/-- ★ The tie of `exec_frame` to the source (generated `systemWrites`, re-extracted from virtual.rs on every run):
    (1) every system call behind the model's `Call`s writes the caller's own entry `processes[self.process_id]` and
        nothing else of the shared state — except `open` (the file system) and `sigmask` (whose only foreign write is
        the SIGCHLD raised in the parent when unblocking delivers a pending stop/terminate signal to the caller: no
        signal is ever pending in the modelled runs);
    (2) `run_in_child_process` only inserts an entry;
    (3) the system calls that write anything but their own entry and the file system are EXACTLY `exit` (SIGCHLD to the
        parent), `run_in_child_process`, `kill`/`raise`, `setpgid`, `sigmask`, `tcsetpgrp` and `wait` — in particular
        not `umask`, `chdir`, `dup`, `dup2`, `close`, `fcntl_setfd`, `sigaction`, `setrlimit`, `open`, `pipe`. -/
theorem syscalls_address_own_process :
    (∀ m ∈ modelledMethods, m ≠ "Open::open" → m ≠ "Sigmask::sigmask" → writesOf m = some ["self"])
    ∧ writesOf "Open::open" = some ["fs", "self"]
    ∧ writesOf "Sigmask::sigmask" = some ["other", "self"]
    ∧ writesOf "Fork::run_in_child_process" = some ["insert"]
    ∧ (Generated.ForkSystem.systemWrites.filter (fun r => r.2.any (fun w => w != "self" && w != "fs"))).map (·.1)
        = ["Exit::exit", "Fork::run_in_child_process", "SendSignal::kill", "SendSignal::raise", "SetPgid::setpgid",
           "Sigmask::sigmask", "TcSetPgrp::tcsetpgrp", "Wait::wait"] := by decide +kernel

/-- how `startKind` / `startSubshell` / `subshellEntry` take the constructs of yash-semantics to be configured:
    (source file, `Config.job_control`, `Config.ignores_sigint_sigquit`) — `( )` and the wrapper of a job-controlled
    pipeline are `Config::foreground()`, `$( )` and the members of a pipeline `Config::new()`, `&` is background
    with `ignores_sigint_sigquit` -/
def modelledStarts : List (String × String × Bool) :=
  [("command_subst.rs", "None", false), ("item.rs", "Background", true), ("pipeline.rs", "Foreground", false),
   ("pipeline.rs", "None", false), ("subshell.rs", "Foreground", false)]

/-- ★ The tie of `startKind` / `startSubshell` / `subshellEntry` to the source (generated `ForkSystem` tables,
    re-extracted from yash-semantics and `Config::start` on every run): every construct builds the `Config` the
    model assumes, and no other place builds one; `Config::start` hands `enter_subshell` exactly
    `ignores_sigint_sigquit && !job-controlled` and `!job-controlled` (truth tables of the two Rust expressions);
    the child task pushes the `Subshell` frame, disowns the jobs and resets the traps BEFORE the task runs, in
    that order. -/
theorem subshell_configs_as_modelled :
    Generated.ForkSystem.subshellStarts.map (fun r => (r.1, r.2.2.1, r.2.2.2)) = modelledStarts
    ∧ (∀ flag jc : Bool, (Generated.ForkSystem.startIgnoreTable.find? (fun r => r.1 == flag && r.2.1 == jc)).map (·.2.2)
        = some (flag && !jc))
    ∧ (∀ jc : Bool, (Generated.ForkSystem.startKeepTable.find? (·.1 == jc)).map (·.2) = some (!jc))
    ∧ Generated.ForkSystem.childPrologue
        = ["push_frame", "setpgid", "disown_all", "enter_subshell", "task", "exit_or_raise"] := by decide +kernel

/-- The constants and the call order of the redirection engine are what the model assumes — re-extracted from /repo
    on every run (`tools/tables/forksys.py`): `MIN_INTERNAL_FD` (yash-env/src/io.rs) is the model's `minInternalFd`;
    a process created from nothing has the model's `defaultUmask` (`with_parent_and_group` → `Mode::default()`);
    `perform` checks the target's CLOEXEC flag, THEN saves it with `dup(target, MIN_INTERNAL_FD, CloseOnExec)` (EBADF =
    nothing to save), THEN runs `open_and_overwrite`, and closes the saved copy on error; `open_and_overwrite`
    closes the opened descriptor AFTER `dup2`; `preserve_redirs` only closes saved copies. -/
theorem redirection_engine_as_modelled :
    Generated.ForkSystem.minInternalFd = minInternalFd
    ∧ Generated.ForkSystem.freshUmask = defaultUmask
    ∧ Generated.ForkSystem.performOrder = ["is_cloexec_target", "dup_save", "open_and_overwrite", "close_save_on_error"]
    ∧ Generated.ForkSystem.saveEbadfIsNone = true
    ∧ Generated.ForkSystem.overwriteOrder = ["dup2", "close_spec", "close_target"]
    ∧ Generated.ForkSystem.preserveClosesSave = true := by decide +kernel

/-- ★ Aliasing inside the cloned fields of `Env`.  Over the table of EVERY
    `Rc` / `RefCell` / `Cell` / `Weak` / `OnceCell` / trait-object cell reachable from a non-`system` field of `Env`
    (re-extracted from yash-env and yash-syntax on every run, over-approximating by bare type name):
    every cell is classified (`cellClass`); the ONLY shared cell that can be written after the fork is
    `Code.value: RefCell<String>`, and the only code that takes a mutable borrow of it is the lexer's `push_str` of the
    line it has just read (append-only source text for error messages, not state the property names); the one opaque
    container (`DataSet`) is cloned entry by entry.  A new field holding an `Rc<RefCell<…>>`, a `Cell`, a new trait
    object, or a second writer of `Code.value` breaks this proof. -/
theorem env_cells_classified :
    (∀ e ∈ Generated.ForkMaps.interiorCells, cellClass e ≠ "UNCLASSIFIED")
    ∧ Generated.ForkMaps.interiorCells.filter (fun e => cellClass e = "sharedMutable")
        = [("RefCell", "Code.value", "RefCell<String>")]
    ∧ Generated.ForkMaps.codeValueWriters = [("yash-syntax/src/parser/lex/core.rs", "push_str")]
    ∧ (Generated.ForkMaps.interiorCells.filter (fun e => cellClass e = "clonedOnFork")).length = 1 := by
  decide +kernel

/-- ★ "Never mutated through the `Rc`" for the records `env_cells_classified` calls `sharedImmutable` (`Rc<Code>`,
    `Rc<Source>`, `Rc<Alias>`, `Rc<Function<S>>`, `Rc<str>`, `Rc<dyn FunctionBodyObject<S>>`), checked against the
    writers: a value behind an `Rc` that has no interior cell (the cells are exactly the rows of `interiorCells`) can
    be written only through `Rc::get_mut` (answers `None` while another `Rc` points to it), `Rc::make_mut` (clones
    first while it is shared: the writer gets a copy of its own) or unsafe code.  Re-extracted on every run: the only
    such call is the `make_mut` of `typeset -fr` (set_functions.rs: copy-on-write of the `Function` — a subshell marking
    a function read-only gets its own copy), there is no `get_mut_unchecked`, and `unsafe` outside the FFI layer occurs
    in exactly three files, none of which writes a shared record (the executor helper's `spawn_pinned`, the
    `Rc::from_raw` transparent cast at function DEFINITION, `RealSystem::new`).  A new site breaks this proof. -/
theorem shared_records_writers :
    Generated.ForkMaps.rcMutSites = [("yash-builtin/src/typeset/set_functions.rs", "make_mut")]
    ∧ (∀ s ∈ Generated.ForkMaps.rcMutSites, s.2 ≠ "get_mut_unchecked")
    ∧ Generated.ForkMaps.unsafeFiles
        = ["yash-cli/src/lib.rs", "yash-env/src/executor_helper.rs",
           "yash-semantics/src/command/function_definition.rs"] := by decide +kernel

/-! ## The record model: the starter's side of a subshell, the environment its task starts from -/

/-- The child task receives a copy: all fourteen state fields are the parent's, the system handle is the
    forked process. -/
theorem child_entry_copy (copied : List (String × String)) (env : Env) :
    (runInChild copied env id).2 = { env with system := Proc.forkFrom copied env.mainPid env.system } := by
  cases env; rfl

/-- ★ A whole subshell of any kind, with any body: the starting shell's state afterwards is what it does *by
    itself* (`parentSide`: nothing for the synchronous kinds; for `&` its own job-table entry, its own mutators
    between `&` and `wait`, and the removal of the finished job by `wait $!`), except the exit status — nothing
    depends on `body`. -/
theorem subshell_isolated (copied : List (String × String)) (k : Kind) (sh : Shell) (body : Shell → Shell)
    (during : List Op) (h : sh.halted = none) :
    { (runKind copied k sh body during).env with exitStatus := 0 }
      = { (parentSide k sh.env during).env with exitStatus := 0 } := by
  obtain ⟨st, e⟩ := runKind_env copied k sh body during h
  rw [e]

/-- … and for the synchronous kinds that is the state before, job table included. -/
theorem sync_subshell_isolated (copied : List (String × String)) (k : Kind) (sh : Shell) (body : Shell → Shell)
    (h : sh.halted = none) (hk : k ≠ .async) :
    { (runKind copied k sh body []).env with exitStatus := 0 } = { sh.env with exitStatus := 0 } := by
  rw [subshell_isolated copied k sh body [] h, parentSide_sync k _ [] hk]

example : { (runKind implCopied .paren { env := initialEnv }
      (fun c => applyOps c [.set "va" "1", .cd "/d1", .bg]) []).env with exitStatus := 0 }
    = { initialEnv with exitStatus := 0 } :=
  sync_subshell_isolated implCopied .paren { env := initialEnv } _ rfl (by decide)

/-- "Every subshell construct occurring anywhere in the program, at any nesting depth, leaves its starter's
    state as the starter itself made it": the predicate, by recursion on the program. -/
def AllIsolated (copied : List (String × String)) : Prog → Prop
  | .ops _ => True
  | .snap _ _ => True
  | .ok => True
  | .exitTrap => True
  | .seq a b => AllIsolated copied a ∧ AllIsolated copied b
  | .sub k body during =>
    (∀ sh : Shell, sh.halted = none →
        { (runProg copied (.sub k body during) sh).env with exitStatus := 0 }
          = { (parentSide k sh.env during).env with exitStatus := 0 })
    ∧ AllIsolated copied body

/-- ★★ Isolation for EVERY program of the modelled fragment (mutators, snapshots, `$?` steps, subshell
    constructs of all six kinds — job-controlled or not —, sequenced and nested to ANY depth, with the starter's
    own mutators between `&` and `wait`): at every occurrence of a subshell construct, from every live starting
    shell, the starter's whole state afterwards (variables, positional parameters, functions, aliases, options,
    traps, fd table, cwd, umask, dispositions, stack, …) equals what the starter itself made of the state before
    (`parentSide`: nothing for a synchronous kind; for `&` its own job entry / `$!`, its own mutators, the removal
    of the finished job), except `$?` — whatever the body, itself any program of the fragment, does.
    By induction on the program; the output is not part of the state (it is in `Shell.events`). -/
theorem subshell_isolated_nested (copied : List (String × String)) : ∀ p : Prog, AllIsolated copied p := by
  intro p
  induction p with
  | ops _ => trivial
  | snap _ _ => trivial
  | ok => trivial
  | exitTrap => trivial
  | seq a b iha ihb => exact ⟨iha, ihb⟩
  | sub k body during ih =>
    exact ⟨fun sh h => subshell_isolated copied k sh (runProg copied body) during h, ih⟩

/-- the programs the sweep runs are in the fragment, so all their levels are isolated (depth 1, 2, 3, …) -/
theorem case_levels_isolated (copied : List (String × String)) (c : Case) : AllIsolated copied (caseProg c) :=
  subshell_isolated_nested copied (caseProg c)

example : AllIsolated implCopied
    (.sub .paren (.seq (.ops [.set "va" "1"]) (.sub .async (.sub .subst (.ops [.cd "/d1", .bg]) []) [])) []) :=
  subshell_isolated_nested _ _

/-- ★ "The parent observes only the exit status (and the output)": two bodies whose child processes end with
    the same status — exited or killed — leave the starter in the same state, halted or not in the same way;
    only the output (`events`) can differ. -/
theorem parent_observes_only_status (copied : List (String × String)) (k : Kind) (sh : Shell)
    (body1 body2 : Shell → Shell) (during : List Op)
    (hs : (childShell copied k sh body1).halted.getD (childShell copied k sh body1).env.exitStatus
        = (childShell copied k sh body2).halted.getD (childShell copied k sh body2).env.exitStatus) :
    (runKind copied k sh body1 during).env = (runKind copied k sh body2 during).env
    ∧ (runKind copied k sh body1 during).halted = (runKind copied k sh body2 during).halted := by
  cases h : sh.halted with
  | some n =>
    rw [runKind_halted copied k sh body1 during n h, runKind_halted copied k sh body2 during n h]
    exact ⟨rfl, rfl⟩
  | none =>
    rw [runKind_live copied k sh body1 during h, runKind_live copied k sh body2 during h, hs]
    exact ⟨by rw [afterSub_env, afterSub_env], by unfold afterSub; simp only [finishKind_halted]⟩

/-- ★ The parent's side of an asynchronous list without mutators of its own: when the identities in the job
    table are fresh (always the case for a table built by `Jobs.add`), the only thing that changes in the
    starter is `$!` (and the identity counter): the job list is the one before, the job of the `&` having been
    entered and removed again by `wait $!`. -/
theorem async_parent_side (env : Env) (hfresh : ∀ e ∈ env.jobs.list, e.2.1 ≠ env.jobs.next) :
    (parentSide .async env []).env
      = { env with jobs := { env.jobs with last := some env.jobs.next, next := env.jobs.next + 1 } } := by
  have hl : (env.jobs.list ++ [(env.jobs.freeNumber, env.jobs.next, true)]).filter
      (fun e => decide (e.2.1 ≠ env.jobs.next)) = env.jobs.list := by
    have h1 : env.jobs.list.filter (fun e => decide (e.2.1 ≠ env.jobs.next)) = env.jobs.list := by
      apply List.filter_eq_self.mpr
      intro e he
      simpa using hfresh e he
    rw [List.filter_append, h1]
    simp [List.filter]
  show ({ (applyOps { env := { env with jobs := env.jobs.add } } []) with
          env := { (applyOps { env := { env with jobs := env.jobs.add } } []).env with
            jobs := (applyOps { env := { env with jobs := env.jobs.add } } []).env.jobs.removeLast } } : Shell).env = _
  simp only [applyOps, List.foldl_nil, Jobs.add, Jobs.removeLast, hl]

/-- ★ A child that ENDS BY A SIGNAL: for every synchronous kind of subshell, whenever the situation is not the
    documented top-level interactive SIGINT one — the starting shell is itself a subshell (any level >= 1), or
    not interactive, or has a non-default SIGINT action, or the signal is not SIGINT — the starting shell only
    observes the status (`384 + sig` through the kind's status rule) and GOES ON: it is not halted, the status
    is in `$?`, its state is the state before. (`errexit` off; an asynchronous list is waited for by `wait`,
    which has no such rule at all.) -/
theorem signaled_child_only_status (copied : List (String × String)) (k : Kind) (sh : Shell)
    (body : Shell → Shell) (sig : Nat) (h : sh.halted = none) (hk : k ≠ .async)
    (hc : (childShell copied k sh body).halted = some (384 + sig))
    (hn : sh.env.stack.contains "Subshell" = true ∨ sh.env.options.contains "interactive" = false
      ∨ sigintDefault sh.env = false ∨ sig ≠ Trap.SIGINT)
    (herr : sh.env.options.contains "errexit" = false) :
    (runKind copied k sh body []).halted = none
    ∧ (runKind copied k sh body []).env.exitStatus
        = kindStatus k (sh.env.options.contains "pipefail") (384 + sig)
    ∧ { (runKind copied k sh body []).env with exitStatus := 0 } = { sh.env with exitStatus := 0 } := by
  -- the status the starter waited for is `384 + sig` or (a pipeline member without `pipefail`) 0: SIGINT's only if `sig` is
  have hw : interruptedBy k (controlsJobs sh.env) sh.env
      (if k == .subst then 384 + sig else kindStatus k (sh.env.options.contains "pipefail") (384 + sig)) = none := by
    refine interruptedBy_eq_none _ _ _ _ (hn.imp_right fun h => h.imp_right fun h => h.imp_right fun hsig => ?_)
    have : ∀ st, (st = 384 + sig ∨ st = 0) → st ≠ 384 + Trap.SIGINT := by
      rintro st (rfl | rfl)
      · exact fun e => hsig (by omega)
      · simp [Trap.SIGINT]
    apply this
    split
    · exact .inl rfl
    · exact kindStatus_cases _ _ _
  obtain ⟨r1, r2⟩ := afterSub_sync k sh (384 + sig) (childShell copied k sh body).events hk hw herr
  rw [runKind_live copied k sh body [] h, hc, Option.getD_some, r2]
  exact ⟨r1, rfl, rfl⟩

/-- Inside a subshell environment (any level >= 1) the SIGINT rule
    never applies, whatever the `interactive` option says. -/
theorem subshell_never_interrupts (k : Kind) (jc : Bool) (env : Env) (status : Nat)
    (h : env.stack.contains "Subshell" = true) : interruptedBy k jc env status = none :=
  interruptedBy_eq_none k jc env status (Or.inl h)

/-- The documented exception, as a clause: at the top level of an *interactive* shell whose SIGINT action is
    the default, a `( )` or `$( )` whose process was killed by SIGINT interrupts the command line
    (`Divert::Interrupt(Some(384 + SIGINT))`; in the harness's read-eval loop: the script ends with that status,
    after the EXIT trap). -/
theorem interactive_sigint_interrupts (copied : List (String × String)) (k : Kind) (sh : Shell)
    (body : Shell → Shell) (h : sh.halted = none) (hk : k = .paren ∨ k = .subst)
    (hc : (childShell copied k sh body).halted = some (384 + Trap.SIGINT))
    (hi : isInteractive sh.env = true) (hd : sigintDefault sh.env = true) :
    (runKind copied k sh body []).halted = some (384 + Trap.SIGINT) := by
  have hka : k ≠ .async := by rcases hk with rfl | rfl <;> decide
  rw [runKind_live copied k sh body [] h, hc]
  unfold afterSub
  simp only [parentSide_sync k _ [] hka, Option.getD_some]
  rcases hk with rfl | rfl <;>
    simp [interruptedBy, interruptsOnSigint, kindStatus, hi, hd, finishKind, exitShell]

/-- ★ `TrapSet::enter_subshell` as run by the child prologue of `Config::start`: afterwards
    (1) no condition has a command action;
    (2) a condition that was ignored is still ignored;
    (3) the command action the parent had is remembered as `parent_state` (what `trap` prints in the subshell). -/
theorem subshell_traps_reset (ii ks : Bool) (env : Env) :
    (∀ c g', Trap.get (subshellEntry ii ks env).traps c = some g' → g'.current.action.isCommand = false)
    ∧ (∀ c g, Trap.get env.traps c = some g → g.current.action = .ignore →
        ∃ g', Trap.get (subshellEntry ii ks env).traps c = some g' ∧ g'.current.action = .ignore)
    ∧ (∀ c g n, Trap.get env.traps c = some g → g.current.action = .command n →
        ∃ g', Trap.get (subshellEntry ii ks env).traps c = some g' ∧ g'.parent = some g.current
          ∧ g'.current.action ≠ .command n) := by
  rw [show (subshellEntry ii ks env).traps = (Trap.enterSubshell env.trapState ii ks).traps from
    congrArg (·.traps) (subshellEntry_trapState ii ks env)]
  refine ⟨fun c g' hg' => ?_, fun c g hg hi => ?_, fun c g n hg hc => ?_⟩
  · cases h : Trap.get env.traps c with
    | some g =>
      rw [Trap.get_enterSubshell_some env.trapState ii ks c g h] at hg'
      cases hg'
      exact Trap.enterState_not_command _ _
    | none =>
      -- a vacant entry stays vacant, or becomes the `ignore` entry of SIGINT / SIGQUIT
      have hn := Trap.get_enterSubshell_none env.trapState ii ks c h
      by_cases hc : ii = true ∧ (c = Trap.SIGINT ∨ c = Trap.SIGQUIT)
      · obtain ⟨g1, e1, a1, _⟩ := hn.1 hc
        have : g' = g1 := Option.some.inj (hg'.symm.trans e1)
        rw [this, a1]
        rfl
      · exact absurd (hg'.symm.trans (hn.2 hc)) (by simp)
  · obtain ⟨g', e, ha, _⟩ := Trap.enterSubshell_entry env.trapState ii ks c g hg
    refine ⟨g', e, ?_⟩
    rw [ha, hi]
    split <;> rfl
  · obtain ⟨g', e, ha, hp⟩ := Trap.enterSubshell_entry env.trapState ii ks c g hg
    refine ⟨g', e, by rw [hp, hc]; rfl, fun hcontra => ?_⟩
    -- the action is `ignore` or the reset of the command, which is `default`
    rw [ha, hc] at hcontra
    split at hcontra <;> cases hcontra

/-- The EXIT trap (and every other trap command) of the starting shell cannot run in the subshell: right
    after entry no condition has a command to run, so `run_exit_trap` at the end of a child of any kind runs
    only a command the child itself has set. -/
theorem subshell_no_inherited_trap_command (ii ks : Bool) (env : Env) (c : Nat) :
    trapCommandOf (subshellEntry ii ks env) c = none := by
  unfold trapCommandOf
  cases h : Trap.get (subshellEntry ii ks env).traps c with
  | none => rfl
  | some g =>
    have hc := (subshell_traps_reset ii ks env).1 c g h
    cases ha : g.current.action with
    | command n => rw [ha] at hc; simp [Action.isCommand] at hc
    | default => simp [ha]
    | ignore => simp [ha]

/-- ★ Copy on entry, the part of `Config::start`'s child prologue that is NOT the trap reset: aliases,
    functions, options (`monitor` included), variables, positional parameters, exit status and the process's
    fd table / cwd / umask are exactly the starter's; the jobs are the same jobs, only disowned, and `$!` still
    designates the same one; the stack gains the `Subshell` frame. -/
theorem subshell_entry_copy (ii ks : Bool) (env : Env) :
    (subshellEntry ii ks env).aliases = env.aliases
    ∧ (subshellEntry ii ks env).functions = env.functions
    ∧ (subshellEntry ii ks env).options = env.options
    ∧ (subshellEntry ii ks env).variables = env.variables
    ∧ (subshellEntry ii ks env).exitStatus = env.exitStatus
    ∧ (subshellEntry ii ks env).system.fds = env.system.fds
    ∧ (subshellEntry ii ks env).system.cwd = env.system.cwd
    ∧ (subshellEntry ii ks env).system.umask = env.system.umask
    ∧ (subshellEntry ii ks env).stack = "Subshell" :: env.stack
    ∧ (subshellEntry ii ks env).jobs.last = env.jobs.last
    ∧ (subshellEntry ii ks env).jobs.list.map (fun e => (e.1, e.2.1)) = env.jobs.list.map (fun e => (e.1, e.2.1))
    ∧ (∀ e ∈ (subshellEntry ii ks env).jobs.list, e.2.2 = false) := by
  refine ⟨rfl, rfl, rfl, rfl, rfl, rfl, rfl, rfl, rfl, rfl, ?_, ?_⟩
  · show (env.jobs.disownAll).list.map _ = _
    simp [Jobs.disownAll, List.map_map, Function.comp_def]
  · intro e he
    have he' : e ∈ (env.jobs.disownAll).list := he
    simp only [Jobs.disownAll, List.mem_map] at he'
    obtain ⟨x, _, rfl⟩ := he'
    rfl

/-- a shell with `monitor` on and one background job: the subshell still has `monitor` and lists the job -/
example :
    let env := (applyOps { env := initialEnv } [.optOn "monitor", .bg]).env
    env.options.contains "monitor" = true
    ∧ (subshellEntry false false env).options.contains "monitor" = true
    ∧ showJobs (subshellEntry false false env).jobs = "j=1 !=j1" := by
  decide +kernel

/-- non-vacuity: a parent with `trap 'probe T1' INT; trap '' QUIT` -/
example :
    let env := (applyOps { env := initialEnv } [.trap Trap.SIGINT (.cmd 1), .trap Trap.SIGQUIT .ign]).env
    ((Trap.get env.traps Trap.SIGINT).map (·.current.action)) = some (.command 1)
    ∧ ((Trap.get (subshellEntry false true env).traps Trap.SIGINT).map (·.current.action)) = some .default
    ∧ ((Trap.get (subshellEntry false true env).traps Trap.SIGINT).bind (·.parent)).map (·.action) = some (.command 1)
    ∧ ((Trap.get (subshellEntry false true env).traps Trap.SIGQUIT).map (·.current.action)) = some .ignore
    ∧ ((Trap.get (subshellEntry true true env).traps Trap.SIGINT).map (·.current.action)) = some .ignore := by
  decide +kernel

/-- carries "ignored stays ignored" through the two entries of a job-controlled pipeline -/
def IgnoredKept (a b : Env) : Prop :=
  ∀ c g, Trap.get a.traps c = some g → g.current.action = .ignore →
    ∃ g', Trap.get b.traps c = some g' ∧ g'.current.action = .ignore

theorem IgnoredKept.trans {a b c : Env} (h1 : IgnoredKept a b) (h2 : IgnoredKept b c) : IgnoredKept a c :=
  fun s g hg hi => let ⟨g1, hg1, hi1⟩ := h1 s g hg hi; h2 s g1 hg1 hi1

/-- ★ Trap reset for EVERY kind of subshell, job-controlled or not (the job-controlled pipeline enters twice):
    in the environment the task starts from, no condition has a command action, and a condition the starter
    ignored is still ignored. -/
theorem kind_entry_traps (copied : List (String × String)) (k : Kind) (jc : Bool) (env : Env) :
    (∀ c g', Trap.get (entryEnv copied k jc env).traps c = some g' → g'.current.action.isCommand = false)
    ∧ (∀ c g, Trap.get env.traps c = some g → g.current.action = .ignore →
        ∃ g', Trap.get (entryEnv copied k jc env).traps c = some g' ∧ g'.current.action = .ignore) :=
  ⟨entryEnv_rel copied (R := fun _ b => ∀ c g', Trap.get b.traps c = some g' → g'.current.action.isCommand = false)
      (fun ii ks e => (subshell_traps_reset ii ks (forkedCopy copied e)).1) (fun _ h2 => h2) k jc env,
   entryEnv_rel copied (R := IgnoredKept) (fun ii ks e => (subshell_traps_reset ii ks (forkedCopy copied e)).2.1)
      .trans k jc env⟩

/-- ★ Copy on entry for EVERY kind: besides the plumbing of the kind (fd 0 / fd 1) the task of the subshell
    starts with the starter's aliases, functions, options, variables and positional parameters, `$?`, `$!`. -/
theorem kind_entry_copy (copied : List (String × String)) (k : Kind) (jc : Bool) (env : Env) :
    (entryEnv copied k jc env).aliases = env.aliases
    ∧ (entryEnv copied k jc env).functions = env.functions
    ∧ (entryEnv copied k jc env).options = env.options
    ∧ (entryEnv copied k jc env).variables = env.variables
    ∧ (entryEnv copied k jc env).exitStatus = env.exitStatus
    ∧ (entryEnv copied k jc env).jobs.last = env.jobs.last := by
  have h := entryEnv_proj copied
    (fun e => (e.aliases, e.functions, e.options, e.variables, e.exitStatus, e.jobs.last)) (fun _ _ _ => rfl) k jc env
  simp only [Prod.mk.injEq] at h
  exact h

/-- ★ … and at process level, for the code as it is (generated `processForkMap`): the task of EVERY kind
    starts with the starter's fd table, working directory and umask (before the kind's own plumbing of fd 0/1). -/
theorem kind_entry_process (k : Kind) (jc : Bool) (env : Env) :
    (entryEnv implCopied k jc env).system.fds = env.system.fds
    ∧ (entryEnv implCopied k jc env).system.cwd = env.system.cwd
    ∧ (entryEnv implCopied k jc env).system.umask = env.system.umask := by
  have h := entryEnv_proj implCopied (fun e => (e.system.fds, e.system.cwd, e.system.umask))
    (fun _ _ e => by simp only [subshellEntry, enterTraps, forkedCopy, forkFrom_impl]) k jc env
  simp only [Prod.mk.injEq] at h
  exact h

/-- What ties the `kind_entry_*` theorems to the run: the child process of a subshell of kind `k` is the
    body applied to `entryEnv` (+ the kind's plumbing of fd 0/1), followed by its EXIT trap. -/
theorem child_starts_from_entry (copied : List (String × String)) (k : Kind) (sh : Shell) (body : Shell → Shell) :
    childShell copied k sh body
      = runExitTrap (body { env := plumb k (controlsJobs sh.env) (entryEnv copied k (controlsJobs sh.env) sh.env) }) := by
  unfold childShell
  rw [startKind_eq]

/-! ### Composition with C11: the PROCESS of a subshell after entry, at every level of every run -/

/-- ★ C11's invariant (installed disposition of every signal = merge of the trap-set entry and the internal
    disposition; mask consistent; map sorted) survives EVERY program of the fragment: mutators (`trap`, `set -m`
    with its internal dispositions, …), snapshots (`trap` listing = `peek_state`), subshell constructs of every
    kind with any body. -/
theorem trap_invariant_everywhere (init : Nat → Trap.Disp) (hinit : ∀ s, init s ≠ .catch) :
    ∀ (p : Prog) (sh : Shell), TrapOK init sh.env → TrapOK init (runProg implCopied p sh).env :=
  runProg_invariant implCopied (TrapOK init) (fun _ _ e h => .of_state (congrArg (·.1) e).symm h)
    (monitorChanged_trapOK init hinit) (trapSet_trapOK init hinit) (peekAll_trapOK init hinit)
    (fun _ h => h) (fun _ h => h)

/-- What holds in the process of a subshell of kind `k` started from `env`, right after entry (before the body):
    C11's invariant again; NO signal except SIGCHLD has a handler installed (neither a trap command of the starter
    nor an internal handler of an interactive shell can run in the subshell); a signal whose trap action the
    starter had set to ignore is ignored by the process. -/
def EntryClaims (init : Nat → Trap.Disp) (k : Kind) (jc : Bool) (env : Env) : Prop :=
  TrapOK init (entryEnv implCopied k jc env)
  ∧ (∀ s, s ≠ 0 → s ≠ Trap.SIGCHLD → (entryEnv implCopied k jc env).system.sys.disp s ≠ .catch)
  ∧ (∀ s g, s ≠ 0 → s ≠ Trap.SIGCHLD → Trap.get env.traps s = some g → g.current.action = .ignore →
      (entryEnv implCopied k jc env).system.sys.disp s = .ignore)

/-- ★ The process-level half of "traps with command actions are reset to default while ignored signals stay
    ignored", for EVERY kind, job-controlled or not (two entries for a job-controlled pipeline), from any starter
    that satisfies C11's invariant. -/
theorem kind_entry_dispositions (init : Nat → Trap.Disp) (hinit : ∀ s, init s ≠ .catch) (k : Kind) (jc : Bool)
    (env : Env) (h : TrapOK init env) : EntryClaims init k jc env := by
  -- the third claim goes through the wrapper of a job-controlled pipeline by `IgnoredKept`: what the starter ignored
  -- the wrapper's trap set ignores, so the member's process does
  have r := entryEnv_rel implCopied
    (R := fun a b => IgnoredKept a b ∧ (TrapOK init a →
      TrapOK init b
      ∧ (∀ s, s ≠ 0 → s ≠ Trap.SIGCHLD → b.system.sys.disp s ≠ .catch)
      ∧ (∀ s g, s ≠ 0 → s ≠ Trap.SIGCHLD → Trap.get a.traps s = some g → g.current.action = .ignore →
          b.system.sys.disp s = .ignore)))
    (fun ii ks e => ⟨(subshell_traps_reset ii ks (forkedCopy implCopied e)).2.1, fun he =>
      have hf := forkedCopy_trapOK init e he
      ⟨subshellEntry_trapOK init ii ks _ hf,
       fun s hs0 hc => Trap.enterSubshell_no_handler init hinit _ hf ii ks s hs0 hc,
       fun s g hs0 hc hg ha => Trap.enterSubshell_ignored_stays init _ hf ii ks s hs0 hc g hg ha⟩⟩)
    (fun h1 h2 => ⟨h1.1.trans h2.1, fun ha =>
      have ⟨hb, _, _⟩ := h1.2 ha
      have ⟨hc, n2, d2⟩ := h2.2 hb
      ⟨hc, n2, fun s g hs0 hchld hg hi => let ⟨g1, hg1, hi1⟩ := h1.1 s g hg hi; d2 s g1 hs0 hchld hg1 hi1⟩⟩) k jc env
  exact r.2 h

/-- … and a command trap of the starter leaves the DEFAULT disposition in the child process, whenever the entry
    does not ignore that signal on purpose (`Trap.subshellOption … = clear`: everything except INT/QUIT of a
    non-job-controlled `&` and the stop signals of a job-control shell's non-job-controlled subshell). -/
theorem entry_command_trap_default (init : Nat → Trap.Disp) (ii ks : Bool) (env : Env) (h : TrapOK init env)
    (s : Nat) (hs0 : s ≠ 0) (g : Trap.GrandState) (n : Nat) (hg : Trap.get env.traps s = some g)
    (ha : g.current.action = .command n) (hopt : Trap.subshellOption s g ii ks = .clear) :
    (subshellEntry ii ks (forkedCopy implCopied env)).system.sys.disp s = .default := by
  show (Trap.enterSubshell (forkedCopy implCopied env).trapState ii ks).sys.disp s = _
  rw [Trap.enterSubshell_disp init _ (forkedCopy_trapOK init env h) ii ks s hs0 g hg (by rw [hopt]; simp), hopt, ha]
  rfl

/-- non-vacuity of `entry_command_trap_default`: `trap 'probe T1' USR1` in the starter -/
example :
    let env := (applyOps { env := initialEnv } [.trap Trap.SIGUSR1 (.cmd 1)]).env
    ((Trap.get env.traps Trap.SIGUSR1).map (·.current.action)) = some (.command 1)
    ∧ ((Trap.get env.traps Trap.SIGUSR1).map (fun g => Trap.subshellOption Trap.SIGUSR1 g false true)) = some .clear
    ∧ env.system.sys.disp Trap.SIGUSR1 = .catch
    ∧ (subshellEntry false true (forkedCopy implCopied env)).system.sys.disp Trap.SIGUSR1 = .default := by
  decide +kernel

/-- "At every subshell construct the run of `p` from `sh` actually reaches — at any nesting depth — the entry
    claims hold": the predicate follows the execution (the second part of a sequence starts from the shell the
    first part left; the body of a subshell starts from its entry environment). -/
def EntriesHold (init : Nat → Trap.Disp) : Prog → Shell → Prop
  | .seq a b, sh => EntriesHold init a sh ∧ EntriesHold init b (runProg implCopied a sh)
  | .sub k body _, sh =>
    sh.halted = none →
      EntryClaims init k (controlsJobs sh.env) sh.env
      ∧ EntriesHold init body
          { env := plumb k (controlsJobs sh.env) (entryEnv implCopied k (controlsJobs sh.env) sh.env) }
  | _, _ => True

/-- ★★ For EVERY program of the fragment run from any shell that satisfies C11's invariant: at every subshell
    construct the run reaches, at every depth, the child process starts with no inherited handler and with the
    starter's ignored signals ignored (`EntryClaims`).  By induction on the program, the invariant being carried
    along the execution by `trap_invariant_everywhere` and into each child by `kind_entry_dispositions`. -/
theorem entries_hold (init : Nat → Trap.Disp) (hinit : ∀ s, init s ≠ .catch) :
    ∀ (p : Prog) (sh : Shell), TrapOK init sh.env → EntriesHold init p sh := by
  intro p
  induction p with
  | ops _ => intro _ _; trivial
  | snap _ _ => intro _ _; trivial
  | ok => intro _ _; trivial
  | exitTrap => intro _ _; trivial
  | seq a b iha ihb =>
    intro sh h
    exact ⟨iha sh h, ihb _ (trap_invariant_everywhere init hinit a sh h)⟩
  | sub k body during ih =>
    intro sh h _
    have hc := kind_entry_dispositions init hinit k (controlsJobs sh.env) sh.env h
    refine ⟨hc, ih _ ?_⟩
    exact .of_state (plumb_trapState k _ _) hc.1

/-- ★ … in particular for every case of the sweep, from the shell the harness starts (inherited-ignored signal,
    internal dispositions of an interactive shell or not): the driver runs `runProg implCopied (caseProg c)` from
    `startEnv c`, and that very run satisfies the entry claims at all its levels and ends in a shell that still
    satisfies C11's invariant. -/
theorem case_entry_dispositions (c : Case) :
    EntriesHold (initOf c) (caseProg c) { env := startEnv c }
    ∧ TrapOK (initOf c) (runCase implCopied c).env :=
  ⟨entries_hold (initOf c) (initOf_ne_catch c) (caseProg c) _ (startEnv_trapOK c),
   trap_invariant_everywhere (initOf c) (initOf_ne_catch c) (caseProg c) _ (startEnv_trapOK c)⟩

/-- non-vacuity: an interactive shell (internal `Catch` for SIGINT) with `trap … USR1` and `trap '' QUIT`; in the
    `( )` child SIGINT and SIGUSR1 are back to the default disposition, SIGQUIT is ignored; in the `&` child
    SIGINT is ignored -/
example :
    let env := (applyOps { env := startEnv { pro := [], kinds := [], child := [], during := [], internal := true } }
      [.trap Trap.SIGUSR1 (.cmd 1), .trap Trap.SIGQUIT .ign]).env
    env.system.sys.disp Trap.SIGINT = .catch ∧ env.system.sys.disp Trap.SIGUSR1 = .catch
    ∧ (entryEnv implCopied .paren false env).system.sys.disp Trap.SIGINT = .default
    ∧ (entryEnv implCopied .paren false env).system.sys.disp Trap.SIGUSR1 = .default
    ∧ (entryEnv implCopied .paren false env).system.sys.disp Trap.SIGQUIT = .ignore
    ∧ (entryEnv implCopied .async false env).system.sys.disp Trap.SIGINT = .ignore := by
  decide +kernel

/-! ### The `=Spec` column as a theorem; the freshness hypothesis of `async_parent_side` discharged -/

theorem runProg_congr (c1 c2 : List (String × String)) (h : Proc.forkFrom c1 = Proc.forkFrom c2) :
    ∀ (p : Prog) (sh : Shell), runProg c1 p sh = runProg c2 p sh := by
  intro p
  induction p with
  | ops _ => intro sh; rfl
  | snap _ _ => intro sh; rfl
  | ok => intro sh; rfl
  | exitTrap => intro sh; rfl
  | seq a b iha ihb => intro sh; show runProg c1 b (runProg c1 a sh) = _; rw [iha, ihb]; rfl
  | sub k body during ih =>
    intro sh
    show runKind c1 k sh (runProg c1 body) during = runKind c2 k sh (runProg c2 body) during
    rw [funext ih]
    exact runKind_congr c1 c2 h k sh _ during

/-- ★★ The model of the code IS the Spec on EVERY program of the fragment, from every shell: running with the copy
    list extracted from `Process::fork_from` gives the same shell — state, halting, output — as running with the
    fork POSIX describes.  (Breaks as soon as the extracted copy list loses one of fds / cwd / umask / dispositions /
    mask / limits: then `forkFrom_impl_eq_spec` fails.) -/
theorem impl_run_eq_spec_run : ∀ (p : Prog) (sh : Shell), runProg implCopied p sh = runProg specCopied p sh :=
  runProg_congr implCopied specCopied forkFrom_impl_eq_spec

/-- … so for every case the driver's two columns agree: what the `=Spec` comparison checks per case is a theorem
    for all cases (the comparison that remains is the one against the real code). -/
theorem case_model_eq_spec (c : Case) : observation (runCase implCopied c) = specObservation c := by
  unfold specObservation runCase
  rw [impl_run_eq_spec_run]

/-- ★ The hypothesis of `async_parent_side` ("the identities in the job table are fresh") is an invariant of every
    run: it holds in the shell a case starts from and is kept by every program of the fragment (in the starter; the
    same argument applies inside every child, whose table is the starter's, disowned).  So for every `&` the sweep
    runs, the starter's job list afterwards is the list before and only `$!` changed. -/
theorem jobs_fresh_everywhere (copied : List (String × String)) :
    ∀ (p : Prog) (sh : Shell), JobsFresh sh.env.jobs → JobsFresh (runProg copied p sh).env.jobs :=
  runProg_invariant copied (fun env => JobsFresh env.jobs)
    (fun a b e h => (show a.jobs = b.jobs from congrArg (·.2) e) ▸ h)
    (fun o env h => by rw [monitorChanged_jobs]; exact h) (fun _ _ _ h => h)
    (fun _ h => by unfold peekAll; exact h) (fun _ h => jobsFresh_add _ h) (fun _ h => jobsFresh_removeLast _ h)

theorem case_jobs_fresh (copied : List (String × String)) (c : Case) : JobsFresh (runCase copied c).env.jobs :=
  jobs_fresh_everywhere copied (caseProg c) _ (by intro e he; cases he)

theorem async_parent_side_fresh (env : Env) (h : JobsFresh env.jobs) :
    (parentSide .async env []).env
      = { env with jobs := { env.jobs with last := some env.jobs.next, next := env.jobs.next + 1 } } :=
  async_parent_side env (fun e he => Nat.ne_of_lt (h e he))

/-- `async_parent_side`: a table with two jobs (fresh identities 0 and 1) -/
example :
    let env := (applyOps { env := initialEnv } [.bg, .bg]).env
    JobsFresh env.jobs ∧ env.jobs.list.length = 2
    ∧ showJobs (parentSide .async env []).env.jobs = "j=1,2 !=?" := by
  refine ⟨?_, by decide +kernel, by decide +kernel⟩
  exact jobs_fresh_everywhere implCopied (.ops [.bg, .bg]) { env := initialEnv } (by intro e he; cases he)

/-- `parent_observes_only_status`: two different bodies that both end with status 3 -/
example :
    (childShell implCopied .paren { env := initialEnv } (fun c => applyOps c [.set "va" "1", .exit 3])).halted = some 3
    ∧ (childShell implCopied .paren { env := initialEnv } (fun c => applyOps c [.umask "077", .bg, .exit 3])).halted
        = some 3 := by
  decide +kernel

/-- `signaled_child_only_status` / `interactive_sigint_interrupts`: a child that kills itself with SIGINT — in a
    non-interactive starter (first theorem: `interactive` off) and at the top level of an interactive one with the
    default SIGINT action (second theorem) -/
example :
    (childShell implCopied .paren { env := initialEnv } (fun c => applyOps c [.raise Trap.SIGINT])).halted
        = some (384 + Trap.SIGINT)
    ∧ initialEnv.options.contains "interactive" = false
    ∧ initialEnv.options.contains "errexit" = false
    ∧ (let env := startEnv { pro := [], kinds := [], child := [], during := [], internal := true }
       isInteractive env = true ∧ sigintDefault env = true
       ∧ (childShell implCopied .subst { env := env } (fun c => applyOps c [.raise Trap.SIGINT])).halted
           = some (384 + Trap.SIGINT)) := by
  decide +kernel

/-- `subshell_never_interrupts`: the environment of a subshell of an interactive shell -/
example :
    ((entryEnv implCopied .paren false
      (startEnv { pro := [], kinds := [], child := [], during := [], internal := true })).stack.contains "Subshell")
      = true := by
  decide +kernel

/-! ### Scheduling points, failing built-ins and descriptor-hungry commands of one shell -/

/-- A scheduling point of the starter between `&` and `wait` (`W:yield`: the starter blocks in `( : )`, the executor
    runs the asynchronous child — or the part of it up to its next wait — there) leaves no trace in the starter.
    Hence the model's and the Spec's answer for a program is the same under every placement of the yields:
    `applyOps` over a list with yields is `applyOps` over the list without them.  The differential run then shows that
    the real shell's snapshots agree with that ONE answer under each of the schedules driven. -/
theorem yield_is_invisible (sh : Shell) (ops : List Op) :
    applyOp sh .yield = sh ∧ applyOps sh ops = applyOps sh (ops.filter (· ≠ .yield)) := by
  have h1 : ∀ s : Shell, applyOp s .yield = s := by
    intro s
    unfold applyOp
    cases hs : s.halted with
    | some n => rfl
    | none => simp [opStatus, applyOpCore, hs]
  refine ⟨h1 sh, ?_⟩
  induction ops generalizing sh with
  | nil => rfl
  | cons op rest ih =>
    by_cases ho : op = .yield
    · subst ho
      simp only [applyOps, List.foldl_cons, h1] at ih ⊢
      simpa [List.filter] using ih sh
    · simp only [applyOps, List.foldl_cons] at ih ⊢
      simp only [List.filter, ho, ne_eq, not_false_eq_true, decide_true, List.foldl_cons]
      exact ih _

/-- the starter's side of `&` … `wait` under two schedules: same shell -/
example :
    (parentSide .async initialEnv [.yield, .umask "027", .yield]).env.system.umask
      = (parentSide .async initialEnv [.umask "027"]).env.system.umask
    ∧ (parentSide .async initialEnv [.yield, .umask "027", .yield]).events = [] := by decide +kernel

/-- A pipeline, a command substitution or a here-document started by a subshell that has no descriptors to spare
    (`Pipe::pipe` / `open_tmpfile` / the saving `dup` answer EMFILE) fails IN that subshell: whether it can be set up
    or not, the subshell's own environment — every field, its process included — is what it was (the failure ends the
    subshell with 126 / 2, or, for the here-document of a regular built-in, leaves status 2), so a fortiori
    (`subshell_isolated_nested`) the starter's. -/
theorem descriptor_hungry_commands_change_nothing (sh : Shell) (op : Op) (h : op = .pl ∨ op = .cs ∨ op = .hd) :
    (applyOpCore sh op).env = sh.env
    ∧ ((applyOpCore sh op).halted.isSome = true →
        (op = .pl ∧ pipeOk sh.env.system = false ∧ (applyOpCore sh op).halted = some 126)
        ∨ (op = .cs ∧ pipeOk sh.env.system = false ∧ (applyOpCore sh op).halted = some 2)
        ∨ sh.halted.isSome = true) := by
  rcases h with rfl | rfl | rfl
  · simp only [applyOpCore]
    cases hp : pipeOk sh.env.system <;> simp [exitShell]
  · simp only [applyOpCore]
    cases hp : pipeOk sh.env.system <;> simp [exitShell]
  · simp only [applyOpCore]
    cases hp : hereDocOk sh.env.system <;> simp

/-- non-vacuity: with descriptors 0-3 in use and a soft limit of 4 neither a pipe nor a here-document can be set up;
    with the limit at 16 both can -/
example :
    let p4 : Proc := { baseEnv.system with nofile := some 4, fds := fdPut baseEnv.system.fds 3 { label := "f1" } }
    let p16 : Proc := { p4 with nofile := some 16 }
    pipeOk p4 = false ∧ hereDocOk p4 = false ∧ pipeOk p16 = true ∧ hereDocOk p16 = true := by decide +kernel

/-- `shift` with no positional parameter left (an error of the special built-in): the shell
    that runs it ends with status 1 after its OWN exit trap, its environment untouched — inside a subshell the starter
    sees the status only (`subshell_isolated_nested`). -/
theorem shift_without_parameters_halts (sh : Shell) (hl : sh.halted = none) (he : sh.env.variables.params = []) :
    (applyOp sh .shift).halted = some 1 ∧ (applyOp sh .shift).env = sh.env
    ∧ (applyOp sh .shift).events = sh.events ++ (match trapCommandOf sh.env 0 with
        | some k => [s!"T{k}"]
        | none => []) := by
  have hc : applyOpCore sh .shift = exitShell sh 1 := by
    simp only [applyOpCore, he, List.isEmpty_nil, if_true]
  -- the shell has halted in `applyOpCore`, so `applyOp` adds nothing
  have ha : applyOp sh .shift = exitShell sh 1 := by
    unfold applyOp
    rw [hc]
    simp only [hl, Option.isSome_none, Bool.false_eq_true, if_false, exitShell, Option.isSome_some, if_true]
  rw [ha]
  exact ⟨rfl, rfl, rfl⟩

/-- non-vacuity, and the other branch: with a parameter left `shift` drops it and the shell lives on -/
example :
    (applyOp { env := initialEnv } .shift).halted = some 1
    ∧ (applyOp (applyOp { env := initialEnv } (.args ["1"])) .shift).halted = none
    ∧ (applyOp (applyOp { env := initialEnv } (.args ["1", "two"])) .shift).env.variables.params = ["two"] := by decide +kernel

/-- The model's (and the Spec's) answer for a case does not read the `A:` ops (`Case.first`: what the FIRST member of
    the innermost pipeline does to its own state): `runCase` ignores the field, which is all this says.  That a
    sibling's effects cannot show in the starter or in the other member is `two_children_isolated`. -/
theorem sibling_member_invisible (copied : List (String × String)) (c : Case) (ops : List Op) :
    runCase copied { c with first := ops } = runCase copied c := rfl

/-! ## Every write of the shell-level model to its process is a system call of that process -/

/-- A call that answers an error has changed nothing: `dup` onto a full table, `dup2` above the limit, `chdir` to a
    missing directory, … leave the process as it was. -/
theorem failing_call_changes_nothing (c : Call) (p : Proc) (h : (c.runT p).1.isErr = true) : (c.runT p).2 = p := by
  -- every branch of `Call.runT` that answers `err` returns the process it was given
  cases c <;> simp only [Call.runT] at h ⊢ <;> (repeat' split) <;> simp_all [CallRes.isErr]

/-- `Dup::dup` answers exactly the descriptor of `lowest_unused_descriptor`: when `dup(src, min, flags)` answers `fd k`, `k` is the lowest
    unused descriptor ≥ `min`, it is below the soft limit, it now designates `src`'s open file with the requested
    CLOEXEC flag, and no other descriptor changed. -/
theorem dup_answers_lowest (p : Proc) (src min k : Nat) (x : Bool)
    (h : ((Call.dup src min x).runT p).1 = .fd k) :
    k = minUnusedFd p.fds min ∧ fdAllowed p k = true
    ∧ ∀ m, fdGet ((Call.dup src min x).runT p).2.fds m
        = if m = k then (fdGet p.fds src).map (fun e => { e with cloexec := x }) else fdGet p.fds m := by
  cases hs : fdGet p.fds src with
  | none => rw [dup_closed p src min x hs] at h; cases h
  | some e =>
    by_cases ha : fdAllowed p (minUnusedFd p.fds min) = true
    · rw [dup_ok p src min x e hs ha] at h ⊢
      cases h
      exact ⟨rfl, ha, fun m => by simp only [fdGet_fdPut, Option.map_some]⟩
    · rw [dup_limit p src min x e hs ha] at h; cases h

/-- non-vacuity: descriptors 0–2 and 10 open, `dup(1, 10, CLOEXEC)` answers 11 -/
example :
    ((Call.dup 1 10 true).runT { baseEnv.system with fds := fdPut baseEnv.system.fds 10 { label := "tty", cloexec := true } }).1
      = .fd 11 := by decide +kernel

/-- ★ What one redirection of `exec` does (`perform` → `open_and_overwrite` → `preserve_redirs`; Spec:
    `specRedirEntry`).  Success: the target descriptor designates what the redirection names (the file / the source's
    open file description without CLOEXEC / nothing) and EVERY other descriptor is as before — the saved copy at ≥ 10
    and the temporary descriptor of `open` are gone again.  Failure: the whole table is as before.  Either way
    nothing but the descriptor table is touched (cwd, umask, dispositions, mask, limit). -/
theorem exec_redirection_table (p : Proc) (n : Nat) (b : RedirBody) :
    ((execRedir p n b).1 = true →
        ∀ m, fdGet (execRedir p n b).2.fds m = if m = n then specRedirEntry p b else fdGet p.fds m)
    ∧ ((execRedir p n b).1 = false → ∀ m, fdGet (execRedir p n b).2.fds m = fdGet p.fds m)
    ∧ p.SameButFds (execRedir p n b).2 :=
  ⟨(execRedir_contract p n b).1, (execRedir_contract p n b).2.1, execRedir_same p n b⟩

/-- non-vacuity: fd 4 open, `exec 4>|f1` succeeds (saved copy at 10 and temporary fd 3 are gone), `exec 4>&5` fails
    (5 is closed) and leaves the table alone -/
example :
    let p : Proc := { baseEnv.system with fds := fdPut baseEnv.system.fds 4 { label := "f2" } }
    (execRedir p 4 (.file "f1")).1 = true
    ∧ (execRedir p 4 (.file "f1")).2.fds = [(0, { label := "in" }), (1, { label := "out" }), (2, { label := "err" }),
        (4, { label := "f1" })]
    ∧ (execRedir p 4 (.copy 5)).1 = false ∧ (execRedir p 4 (.copy 5)).2.fds = p.fds := by
  decide +kernel

/-- ★ No redirection creates a descriptor at or above the soft RLIMIT_NOFILE (`Process::set_fd`'s guard reached
    through `dup2`, or through `open` itself when the target is the lowest free descriptor): with the target not
    allowed, `N>|file`, `N<file` and `N>&M` (M ≠ N) fail — whatever else is open, whatever the saved copy did. -/
theorem redirection_respects_limit (p : Proc) (n : Nat) (b : RedirBody) (hb : b ≠ .close) (hself : b ≠ .copy n)
    (h : (execRedir p n b).1 = true) : fdAllowed p n = true := by
  rcases (execRedir_contract p n b).2.2 h with e | e | e
  · exact absurd e hb
  · exact absurd e hself
  · exact e

/-- non-vacuity: under `ulimit -S -n 16`, with
    descriptor 20 open from before, `exec 20>|f1` and `exec 20>&1` fail, `exec 5>|f1` succeeds, and fd 20 is still
    what it was -/
example :
    let p : Proc := { baseEnv.system with nofile := some 16, fds := fdPut baseEnv.system.fds 20 { label := "f2" } }
    (execRedir p 20 (.file "f1")).1 = false ∧ (execRedir p 20 (.copy 1)).1 = false
    ∧ (execRedir p 5 (.file "f1")).1 = true
    ∧ fdGet (execRedir p 20 (.file "f1")).2.fds 20 = some { label := "f2" } := by
  decide +kernel

/-- ★ An `exec` redirection that cannot be performed is an error of the special built-in (`builtinError`): the shell
    that runs it halts with status 2, every descriptor of its table is what it was, and the only event is its own EXIT
    trap.  (Inside a subshell, what the starter sees of this is `subshell_isolated` and `kindStatus` of 2.) -/
theorem failing_redirection_halts (sh : Shell) (n : Nat) (b : RedirBody) (h : (execRedir sh.env.system n b).1 = false) :
    (redirOp sh n b).halted = some 2
    ∧ (∀ m, fdGet (redirOp sh n b).env.system.fds m = fdGet sh.env.system.fds m)
    ∧ (redirOp sh n b).events = sh.events ++ (match trapCommandOf sh.env 0 with
        | some k => [s!"T{k}"]
        | none => []) := by
  have hf := (exec_redirection_table sh.env.system n b).2.1 h
  refine ⟨?_, ?_, ?_⟩
  · unfold redirOp builtinError exitShell; simp only [h]; rfl
  · intro m; rw [redirOp_env]; exact hf m
  · unfold redirOp builtinError exitShell trapCommandOf; simp only [h]; rfl

/-- the mutators whose whole effect on the process is system calls of the process itself -/
def Op.processLevel : Op → Bool
  | .umask _ | .cd _ | .nofile _ | .fdw _ _ | .fdr _ | .fdd _ _ | .fdc _ => true
  | _ => false

/-- ★ The by-value `Env.system` and the shared table agree on the mutators: for `umask`, `cd`, `ulimit -n` and the
    `exec` redirections the process state after the mutator is the state before with a list of the process's OWN
    system calls applied (`runCalls`, the function `interleaving_isolated` / `shared_table_is_spec` speak about) —
    successful or not. -/
theorem process_mutators_are_own_calls (sh : Shell) (op : Op) (hop : op.processLevel = true) :
    ∃ cs, (applyOpCore sh op).env.system = runCalls sh.env.system cs := by
  cases op with
  | umask m => exact ⟨[.umask m], by simp only [applyOpCore]; rfl⟩
  | nofile v => exact ⟨[.setrlimit v], by simp only [applyOpCore]; rfl⟩
  | cd d =>
    refine ⟨[.chdir (shorten d (((sh.env.variables.vars.find "PWD").map (·.value)).getD ""))], ?_⟩
    simp only [applyOpCore, runCalls, List.foldl, Call.run]
    split
    · simp only []
    · rename_i h
      exact (failing_call_changes_nothing _ _ (by simpa using h)).symm
  | fdw n f => exact (redirOp_fdCalls sh n (.file f)).calls
  | fdr n => exact (redirOp_fdCalls sh n (.file "oin")).calls
  | fdd n m => exact (redirOp_fdCalls sh n (.copy m)).calls
  | fdc n => exact (redirOp_fdCalls sh n .close).calls
  | _ => cases hop

theorem reach_of_trapState {env env' : Env} {op : Trap.Op} (e : env'.trapState = Trap.step env.trapState op) :
    SysReach env.system.sys env'.system.sys := by
  show SysReach env.trapState.sys env'.trapState.sys
  rw [e]
  exact step_reach _ _

/-- ★ The `trap` built-in (`TrapSet::set_action`, any condition, any action, error paths included) changes the shell's
    process by `sigaction` / `sigmask` calls of that process only, and nothing but its signal state. -/
theorem trap_builtin_is_own_calls (sh : Shell) (c : Nat) (a : TrapAct) :
    SysReach sh.env.system.sys (applyOpCore sh (.trap c a)).env.system.sys
    ∧ sh.env.system.SameButSys (applyOpCore sh (.trap c a)).env.system := by
  obtain ⟨act, ov, e⟩ := trapSet_trapState sh.env c a
  exact ⟨reach_of_trapState e, .of_sys _ _⟩

/-- ★ The child prologue of `Config::start` (push the frame, disown, `enter_subshell` with any flags) changes the
    child's process by `sigaction` / `sigmask` calls of the child only, and nothing but its signal state. -/
theorem subshell_entry_is_own_calls (ii ks : Bool) (env : Env) :
    SysReach env.system.sys (subshellEntry ii ks env).system.sys
    ∧ env.system.SameButSys (subshellEntry ii ks env).system :=
  ⟨reach_of_trapState (subshellEntry_trapState ii ks env), .of_sys _ _⟩

/-- ★ `set -m` / `set +m` outside a subshell (`monitorChanged`: the internal dispositions for the stop signals, then
    `Env::get_tty` when `monitor` is now on): the signal state changes by `sigaction` / `sigmask` calls of the shell's
    own process, and the rest of the process by `open` / `dup` / `close` calls of it (`/dev/tty` at ≥ 10, CLOEXEC) —
    no other write.  With `trap_builtin_is_own_calls`, `process_mutators_are_own_calls` and `kind_entry_on_shared_table`
    every write to `Env.system` the shell-level model performs is an own-entry call (the `trap` listing of a snapshot,
    `peekAll`, writes back the signal state it read: `Trap.peekState` only fills vacant entries of the trap set). -/
theorem set_monitor_is_own_calls (o : String) (env : Env) :
    SysReach env.system.sys (monitorChanged o env).system.sys
    ∧ ∃ cs, (monitorChanged o env).system
        = runCalls { env.system with sys := (monitorChanged o env).system.sys } cs := by
  obtain ⟨cs, _, hcs⟩ := monitorChanged_fdCalls o env
  refine ⟨?_, cs, hcs⟩
  rcases monitorChanged_trapState o env with e | e | e
  · show SysReach env.trapState.sys (monitorChanged o env).trapState.sys
    rw [e]
    exact .refl _
  · exact reach_of_trapState e
  · exact reach_of_trapState e

end YashModel.Fork
