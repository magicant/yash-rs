/-
  C08 — the system calls of one process (`Call.runT`): what a call of the process can change (`Proc.SameButFds`;
  `FdCalls`: a list of its descriptor calls changes nothing but the descriptor table), the descriptor-table algebra
  (`fdGet` of `fdPut` / `fdDel`, `min_unused_fd` is the lowest unused descriptor) and the answers of the calls case by
  case.
-/
import YashModel.Fork.Model
import YashModel.Common.AList
namespace YashModel.Fork

def Proc.SameButFds (p q : Proc) : Prop :=
  q.cwd = p.cwd ∧ q.umask = p.umask ∧ q.sys = p.sys ∧ q.ppid = p.ppid ∧ q.ttyAvail = p.ttyAvail ∧ q.nofile = p.nofile

def Call.onFds : Call → Bool
  | .open .. | .dup .. | .dup2 .. | .close _ | .setfd .. => true
  | _ => false

/-- `q` is `p` after some list of descriptor calls of the process itself -/
def FdCalls (p q : Proc) : Prop := ∃ cs : List Call, (∀ c ∈ cs, c.onFds = true) ∧ q = runCalls p cs

theorem Proc.SameButFds.of_fds (p : Proc) (fds : List (Nat × FdEntry)) : p.SameButFds { p with fds := fds } :=
  ⟨rfl, rfl, rfl, rfl, rfl, rfl⟩

theorem Proc.SameButFds.refl (p : Proc) : p.SameButFds p := .of_fds p p.fds

theorem Proc.SameButFds.cwd {p q : Proc} (h : p.SameButFds q) : q.cwd = p.cwd := h.1
theorem Proc.SameButFds.umask {p q : Proc} (h : p.SameButFds q) : q.umask = p.umask := h.2.1
theorem Proc.SameButFds.sys {p q : Proc} (h : p.SameButFds q) : q.sys = p.sys := h.2.2.1
theorem Proc.SameButFds.nofile {p q : Proc} (h : p.SameButFds q) : q.nofile = p.nofile := h.2.2.2.2.2

theorem Proc.SameButFds.trans {p q r : Proc} (h1 : p.SameButFds q) (h2 : q.SameButFds r) : p.SameButFds r := by
  obtain ⟨a1, a2, a3, a4, a5, a6⟩ := h1
  obtain ⟨b1, b2, b3, b4, b5, b6⟩ := h2
  exact ⟨b1.trans a1, b2.trans a2, b3.trans a3, b4.trans a4, b5.trans a5, b6.trans a6⟩

theorem setFd_same (p q : Proc) (fd : Nat) (e : FdEntry) (h : p.setFd fd e = some q) : p.SameButFds q := by
  unfold Proc.setFd at h
  split at h
  · cases h; exact .of_fds p _
  · cases h

theorem openFdGe_same (p q : Proc) (min fd : Nat) (e : FdEntry) (h : p.openFdGe min e = some (fd, q)) :
    p.SameButFds q := by
  unfold Proc.openFdGe at h
  simp only [Option.map_eq_some_iff] at h
  obtain ⟨q', hq, hp⟩ := h
  cases hp
  exact setFd_same p q _ e hq

theorem runCalls_nil (p : Proc) : runCalls p [] = p := rfl
theorem runCalls_cons (p : Proc) (c : Call) (cs : List Call) : runCalls p (c :: cs) = runCalls (c.runT p).2 cs := rfl

theorem runCalls_append (p : Proc) (a b : List Call) : runCalls p (a ++ b) = runCalls (runCalls p a) b := by
  simp [runCalls, List.foldl_append]

theorem Call.onFds_same (c : Call) (p : Proc) (hc : c.onFds = true) : p.SameButFds (c.runT p).2 := by
  cases c with
  | «open» f x =>
    simp only [Call.runT]
    split
    · split
      · rename_i fd q h; exact openFdGe_same p q 0 fd _ h
      · exact .refl p
    · exact .refl p
  | dup s m x =>
    simp only [Call.runT]
    split
    · exact .refl p
    · split
      · rename_i fd q h; exact openFdGe_same p q _ fd _ h
      · exact .refl p
  | dup2 s d =>
    simp only [Call.runT]
    split
    · exact .refl p
    · split
      · exact .refl p
      · split
        · rename_i q h; exact setFd_same p q _ _ h
        · exact .refl p
  | close n => exact .of_fds p _
  | setfd n x =>
    simp only [Call.runT]
    split
    · exact .refl p
    · exact .of_fds p _
  | _ => cases hc

theorem chdir_sys (p : Proc) (path : String) : ((Call.chdir path).runT p).2.sys = p.sys := by
  simp only [Call.runT]
  split <;> rfl

theorem FdCalls.refl (p : Proc) : FdCalls p p := ⟨[], fun _ h => (nomatch h), rfl⟩

theorem FdCalls.of_calls (p : Proc) (cs : List Call) (h : ∀ c ∈ cs, c.onFds = true) : FdCalls p (runCalls p cs) :=
  ⟨cs, h, rfl⟩

theorem FdCalls.step (c : Call) (p : Proc) (hc : c.onFds = true) : FdCalls p (c.runT p).2 :=
  ⟨[c], fun x hx => by rw [List.mem_singleton.mp hx]; exact hc, rfl⟩

theorem FdCalls.trans {p q r : Proc} (h1 : FdCalls p q) (h2 : FdCalls q r) : FdCalls p r := by
  obtain ⟨c1, k1, rfl⟩ := h1
  obtain ⟨c2, k2, rfl⟩ := h2
  exact ⟨c1 ++ c2, fun c hc => (List.mem_append.mp hc).elim (k1 c) (k2 c), (runCalls_append _ _ _).symm⟩

theorem FdCalls.calls {p q : Proc} (h : FdCalls p q) : ∃ cs, q = runCalls p cs :=
  let ⟨cs, _, e⟩ := h; ⟨cs, e⟩

theorem FdCalls.same {p q : Proc} (h : FdCalls p q) : p.SameButFds q := by
  obtain ⟨cs, k, rfl⟩ := h
  induction cs generalizing p with
  | nil => exact .refl p
  | cons c rest ih =>
    exact (Call.onFds_same c p (k c List.mem_cons_self)).trans (ih fun x hx => k x (List.mem_cons_of_mem _ hx))

theorem fdGet_isGet : Common.IsGet fdGet := ⟨fun _ => rfl, fun _ _ _ _ => rfl⟩

theorem fdGet_fdPut (l : List (Nat × FdEntry)) (k m : Nat) (e : FdEntry) :
    fdGet (fdPut l k e) m = if m = k then some e else fdGet l m :=
  Common.get_put (stop := (· < ·)) fdGet_isGet ⟨fun _ _ => rfl, fun _ _ _ _ _ => rfl⟩ l k m e

theorem fdGet_fdDel (l : List (Nat × FdEntry)) (k m : Nat) :
    fdGet (fdDel l k) m = if m = k then none else fdGet l m :=
  Common.get_filter_ne fdGet_isGet l k m

theorem mem_keys_of_fdGet (l : List (Nat × FdEntry)) (c : Nat) (h : fdGet l c ≠ none) : c ∈ l.map (·.1) := by
  induction l with
  | nil => exact absurd rfl h
  | cons hd tl ih =>
    rw [fdGet] at h
    by_cases e : c = hd.1
    · exact e ▸ List.mem_cons_self
    · rw [if_neg e] at h; exact List.mem_cons_of_mem _ (ih h)

/-- pigeonhole: more candidates than open descriptors, so one of them is free -/
theorem exists_free (l : List (Nat × FdEntry)) (cs : List Nat) (hnd : cs.Nodup) (hlen : l.length < cs.length) :
    ∃ c ∈ cs, fdGet l c = none := by
  refine Classical.byContradiction fun hno => ?_
  have := hnd.length_le_of_subset (l₂ := l.map (·.1)) fun c hc =>
    mem_keys_of_fdGet l c fun e => hno ⟨c, hc, e⟩
  rw [List.length_map] at this
  omega

/-- POSIX `open` / `dup` / `fcntl(F_DUPFD)`: "the lowest numbered available file descriptor (greater than or equal to
    the argument)".  `min_unused_fd` as transcribed (`minUnusedFd`, a bounded search with a fall-back value) meets that
    declaratively: the result is not open, is at least `min`, and every descriptor between `min` and the result is open
    (the fall-back is never taken: pigeonhole). -/
theorem lowest_unused_descriptor (l : List (Nat × FdEntry)) (min : Nat) :
    fdGet l (minUnusedFd l min) = none ∧ min ≤ minUnusedFd l min
    ∧ ∀ m, min ≤ m → m < minUnusedFd l min → (fdGet l m).isSome = true := by
  unfold minUnusedFd
  rw [List.find?_map]
  cases hf : (List.range (l.length + 1)).find? ((fun n => (fdGet l n).isNone) ∘ (· + min)) with
  | none =>
    exfalso
    have hnd : ((List.range (l.length + 1)).map (· + min)).Nodup := by
      rw [List.Nodup, List.pairwise_map]
      exact List.Pairwise.imp (fun h => by omega) List.nodup_range
    obtain ⟨c, hc, hfree⟩ := exists_free l _ hnd (by simp)
    obtain ⟨i, hi, rfl⟩ := List.mem_map.mp hc
    have := List.find?_eq_none.mp hf i hi
    simp [hfree] at this
  | some i =>
    obtain ⟨hp, _, hlt⟩ := List.find?_range_eq_some.mp hf
    simp only [Option.map_some, Option.getD_some]
    refine ⟨by simpa using hp, by omega, fun m h1 h2 => ?_⟩
    have := hlt (m - min) (by omega)
    have e : m - min + min = m := by omega
    simp only [Function.comp, e] at this
    cases hg : fdGet l m <;> simp_all

theorem open_ok' (q : Proc) (l : String) (x : Bool) (ha : fdAllowed q (minUnusedFd q.fds 0) = true) :
    (Call.open l x).runT q
      = (.fd (minUnusedFd q.fds 0),
         { q with fds := fdPut q.fds (minUnusedFd q.fds 0) { label := l, cloexec := x } }) := by
  simp [Call.runT, Proc.openFdGe, Proc.setFd, ha]

theorem open_limit (q : Proc) (l : String) (ha : ¬ fdAllowed q (minUnusedFd q.fds 0) = true) :
    (Call.open l).runT q = (.err "EMFILE", q) := by
  simp [Call.runT, ha]

theorem dup2_ok (q : Proc) (s d : Nat) (e : FdEntry) (hs : fdGet q.fds s = some e) (hne : s ≠ d)
    (ha : fdAllowed q d = true) :
    (Call.dup2 s d).runT q = (.fd d, { q with fds := fdPut q.fds d { e with cloexec := false } }) := by
  simp [Call.runT, Proc.setFd, hs, hne, ha]

theorem dup2_limit (q : Proc) (s d : Nat) (e : FdEntry) (hs : fdGet q.fds s = some e) (hne : s ≠ d)
    (ha : ¬ fdAllowed q d = true) :
    (Call.dup2 s d).runT q = (.err "EBADF", q) := by
  simp [Call.runT, Proc.setFd, hs, hne, ha]

theorem close_eq (q : Proc) (n : Nat) : (Call.close n).runT q = (.ok, { q with fds := fdDel q.fds n }) := rfl

theorem dup_closed (q : Proc) (s min : Nat) (x : Bool) (hs : fdGet q.fds s = none) :
    (Call.dup s min x).runT q = (.err "EBADF", q) := by
  simp [Call.runT, hs]

theorem dup_ok (q : Proc) (s min : Nat) (x : Bool) (e : FdEntry) (hs : fdGet q.fds s = some e)
    (ha : fdAllowed q (minUnusedFd q.fds min) = true) :
    (Call.dup s min x).runT q
      = (.fd (minUnusedFd q.fds min),
         { q with fds := fdPut q.fds (minUnusedFd q.fds min) { e with cloexec := x } }) := by
  simp [Call.runT, Proc.openFdGe, Proc.setFd, hs, ha]

theorem dup_limit (q : Proc) (s min : Nat) (x : Bool) (e : FdEntry) (hs : fdGet q.fds s = some e)
    (ha : ¬ fdAllowed q (minUnusedFd q.fds min) = true) :
    (Call.dup s min x).runT q = (.err "EMFILE", q) := by
  simp [Call.runT, Proc.openFdGe, Proc.setFd, hs, ha]

theorem fdAllowed_congr {p q : Proc} (h : q.nofile = p.nofile) (n : Nat) : fdAllowed q n = fdAllowed p n := by
  unfold fdAllowed nofileLimit
  rw [h]

end YashModel.Fork
