/-
  C08 — every write of the Trap model (C11) to the process's signal state is a `sigaction` / `sigmask` call of the
  process itself: `Sys.setDisposition` (the one primitive `TrapSet` uses) is `[sigmask block]? sigaction [sigmask
  unblock]?` of `Call.runT`, up to `Sys.selectMask`, and an operation of the trap set is a list of `set_disposition`
  calls (`Trap.step_sys`).
-/
import YashModel.Fork.CallLemmas
import YashModel.Trap.Entries
namespace YashModel.Fork
open YashModel.Trap (Disp Sys)

/-- the part of `Sys` that lives in `Process`: `dispositions` and `blocked_signals` -/
def SysEq (a b : Sys) : Prop := a.disp = b.disp ∧ a.blocked = b.blocked

def Proc.SameButSys (p q : Proc) : Prop :=
  q.fds = p.fds ∧ q.cwd = p.cwd ∧ q.umask = p.umask ∧ q.ppid = p.ppid ∧ q.ttyAvail = p.ttyAvail ∧ q.nofile = p.nofile

/-- `s'` is — up to the shell-side select mask — what a list of `sigaction` / `sigmask` calls of a process makes of
    the signal state `s`, whatever else the process looks like; nothing else of the process changes.  (A relation on
    `Trap.Sys`, stated for every process that has that signal state up to `SysEq`, because `Sys.selectMask` — which
    `set_disposition` also updates — belongs to `Concurrent` in the shell and not to `Process`: no call writes it.) -/
def SysReach (s s' : Sys) : Prop :=
  ∃ cs : List Call,
    (∀ c ∈ cs, (∃ sig d, c = .sigaction sig d) ∨ (∃ b sig, c = .sigmask b sig))
    ∧ ∀ p : Proc, SysEq p.sys s → SysEq (runCalls p cs).sys s' ∧ p.SameButSys (runCalls p cs)

theorem Proc.SameButSys.of_sys (p : Proc) (s : Sys) : p.SameButSys { p with sys := s } := ⟨rfl, rfl, rfl, rfl, rfl, rfl⟩

theorem Proc.SameButSys.refl (p : Proc) : p.SameButSys p := .of_sys p p.sys

theorem Proc.SameButSys.trans {p q r : Proc} (h1 : p.SameButSys q) (h2 : q.SameButSys r) : p.SameButSys r := by
  obtain ⟨a1, a2, a3, a4, a5, a6⟩ := h1
  obtain ⟨b1, b2, b3, b4, b5, b6⟩ := h2
  exact ⟨b1.trans a1, b2.trans a2, b3.trans a3, b4.trans a4, b5.trans a5, b6.trans a6⟩

theorem Proc.SameButSys.fds {p q : Proc} (h : p.SameButSys q) : q.fds = p.fds := h.1
theorem Proc.SameButSys.cwd {p q : Proc} (h : p.SameButSys q) : q.cwd = p.cwd := h.2.1
theorem Proc.SameButSys.umask {p q : Proc} (h : p.SameButSys q) : q.umask = p.umask := h.2.2.1
theorem Proc.SameButSys.nofile {p q : Proc} (h : p.SameButSys q) : q.nofile = p.nofile := h.2.2.2.2.2

theorem SysReach.refl (s : Sys) : SysReach s s := ⟨[], fun _ h => (nomatch h), fun p h => ⟨h, .refl p⟩⟩

theorem SysReach.trans {a b c : Sys} (h1 : SysReach a b) (h2 : SysReach b c) : SysReach a c := by
  obtain ⟨c1, k1, r1⟩ := h1
  obtain ⟨c2, k2, r2⟩ := h2
  refine ⟨c1 ++ c2, ?_, fun p hp => ?_⟩
  · intro x hx
    rcases List.mem_append.mp hx with hx | hx
    · exact k1 x hx
    · exact k2 x hx
  · rw [runCalls_append]
    obtain ⟨e1, f1⟩ := r1 p hp
    obtain ⟨e2, f2⟩ := r2 (runCalls p c1) e1
    exact ⟨e2, f1.trans f2⟩

theorem sysReach_of_eq {a b c : Sys} (h : SysReach a b) (e : SysEq b c) : SysReach a c := by
  obtain ⟨cs, k, r⟩ := h
  exact ⟨cs, k, fun p hp => ⟨⟨(r p hp).1.1.trans e.1, (r p hp).1.2.trans e.2⟩, (r p hp).2⟩⟩

theorem SysReach.ite (c : Prop) [Decidable c] {s t : Sys} (h : SysReach s t) : SysReach s (if c then t else s) := by
  split
  · exact h
  · exact .refl s

theorem sigaction_reach (s : Sys) (sig : Nat) (d : Disp) : SysReach s { s with disp := Trap.upd s.disp sig d } :=
  ⟨[.sigaction sig d], fun c hc => .inl ⟨sig, d, List.mem_singleton.mp hc⟩,
   fun p hp => ⟨⟨congrArg (Trap.upd · sig d) hp.1, hp.2⟩, .of_sys p _⟩⟩

theorem sigmask_reach (s : Sys) (b : Bool) (sig : Nat) : SysReach s (s.updateMask b sig) :=
  ⟨[.sigmask b sig], fun c hc => .inr ⟨b, sig, List.mem_singleton.mp hc⟩,
   fun p hp => ⟨⟨hp.1, congrArg (Trap.upd · sig b) hp.2⟩, .of_sys p _⟩⟩

/-- `Concurrent::set_disposition`: block first when installing a handler, `sigaction`, unblock after anything else -/
theorem setDisposition_reach (s : Sys) (sig : Nat) (d : Disp) : SysReach s (s.setDisposition sig d).2 :=
  ((SysReach.ite _ (sigmask_reach s true sig)).trans (sigaction_reach _ sig d)).trans
    (SysReach.ite _ (sigmask_reach _ false sig))

theorem sysAfter_reach (sys : Sys) (ps : List (Nat × Disp)) : SysReach sys (Trap.sysAfter sys ps) := by
  induction ps generalizing sys with
  | nil => exact .refl sys
  | cons p ps ih =>
    obtain ⟨s, d⟩ := p
    exact (setDisposition_reach sys s d).trans (ih _)

/-- every operation of the trap set (`Trap.step`: `set_action`, the internal dispositions, `enter_subshell`, …) changes
    the signal state by `sigaction` / `sigmask` calls of the process itself -/
theorem step_reach (st : Trap.State) (op : Trap.Op) : SysReach st.sys (Trap.step st op).sys :=
  Trap.step_sys st op ▸ sysAfter_reach _ _

end YashModel.Fork
