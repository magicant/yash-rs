/-
  C08 — composition with C11 (Trap): the invariant of the trap area (`Trap.Inv`: the disposition installed in
  the process for every signal is the reference merge of the trap set's entry, the mask is consistent, the map is
  sorted) is kept by every step of the C08 model — the start of a case, a mutator, the `trap` listing, fork and entry
  of a subshell of any kind.  What the invariant then says about the dispositions of the child process is C11's.
-/
import YashModel.Fork.ShellLemmas
import YashModel.Trap.Entries
namespace YashModel.Fork
open YashModel.Trap (Disp Action GrandState)

/-- C11's invariant for a shell, `init` being the dispositions the shell inherited at start-up -/
def TrapOK (init : Nat → Disp) (env : Env) : Prop := Trap.Inv init env.trapState

/-- the dispositions the shell of a case inherits -/
def initOf (c : Case) : Nat → Disp :=
  match c.ignored with
  | some s => Trap.upd (fun _ => .default) s .ignore
  | none => fun _ => .default

theorem initOf_ne_catch (c : Case) : ∀ s, initOf c s ≠ .catch := by
  intro s
  unfold initOf
  cases c.ignored with
  | none => simp
  | some k => by_cases h : s = k <;> simp [Trap.upd, h]

theorem TrapOK.of_state {init : Nat → Disp} {env : Env} {st : Trap.State} (e : env.trapState = st)
    (h : Trap.Inv init st) : TrapOK init env := by
  unfold TrapOK
  rw [e]
  exact h

/-- the shell of a case starts from `Trap.State.init` of the inherited dispositions, with the internal dispositions
    of an interactive job-control shell on top when the case asks for them -/
theorem startEnv_trapOK (c : Case) : TrapOK (initOf c) (startEnv c) := by
  have hinit := initOf_ne_catch c
  have h : ∀ b : Bool, Trap.Inv (initOf c)
      (if b then Trap.enableStoppers (Trap.enableTerminators (Trap.State.init (initOf c)))
        else Trap.State.init (initOf c)) := by
    intro b
    have h0 := Trap.inv_init_state _ hinit
    split
    · exact Trap.disposition_step _ hinit _ .enableStoppers (Trap.disposition_step _ hinit _ .enableTerminators h0)
    · exact h0
  obtain ⟨pro, kinds, mid, child, during, tty, internal, ignored, quiet, first⟩ := c
  cases ignored <;> exact h internal

theorem monitorChanged_trapOK (init : Nat → Disp) (hinit : ∀ s, init s ≠ .catch) (o : String) (env : Env)
    (h : TrapOK init env) : TrapOK init (monitorChanged o env) := by
  rcases monitorChanged_trapState o env with e | e | e
  · exact .of_state e h
  · exact .of_state e (Trap.disposition_step init hinit _ .enableStoppers h)
  · exact .of_state e (Trap.disposition_step init hinit _ .disableStoppers h)

theorem setVar_trapState (env : Env) (n : String) (f : Option Var → Var) :
    (setVar env n f).trapState = env.trapState := rfl

theorem trapSet_trapOK (init : Nat → Disp) (hinit : ∀ s, init s ≠ .catch) (env : Env) (c : Nat) (a : TrapAct)
    (h : TrapOK init env) : TrapOK init (trapSet env c a) := by
  obtain ⟨act, ov, e⟩ := trapSet_trapState env c a
  exact .of_state e (Trap.disposition_step init hinit _ _ h)

theorem peekFold_inv (init : Nat → Disp) (hinit : ∀ s, init s ≠ .catch) (cs : List (String × Nat)) :
    ∀ st : Trap.State, Trap.Inv init st →
      Trap.Inv init (cs.foldl (fun (st : Trap.State) c => (Trap.peekState st c.2).1) st) := by
  induction cs with
  | nil => intro st h; exact h
  | cons c rest ih => intro st h; exact ih _ (Trap.inv_peek init hinit st c.2 h)

theorem peekAll_trapOK (init : Nat → Disp) (hinit : ∀ s, init s ≠ .catch) (env : Env) (h : TrapOK init env) :
    TrapOK init (peekAll env) :=
  .of_state (by rw [peekAll_eq, Env.withTrapState_trapState]) (peekFold_inv init hinit trackedConds env.trapState h)

theorem subshellEntry_trapOK (init : Nat → Disp) (ii ks : Bool) (env : Env) (h : TrapOK init env) :
    TrapOK init (subshellEntry ii ks env) :=
  Trap.inv_enterSubshell init env.trapState ii ks h

theorem forkedCopy_trapOK (init : Nat → Disp) (env : Env) (h : TrapOK init env) :
    TrapOK init (forkedCopy implCopied env) :=
  .of_state (by unfold Env.trapState forkedCopy; rw [forkFrom_impl]) h

theorem entryEnv_trapOK (init : Nat → Disp) (k : Kind) (jc : Bool) (env : Env) (h : TrapOK init env) :
    TrapOK init (entryEnv implCopied k jc env) :=
  entryEnv_rel implCopied (R := fun a b => TrapOK init a → TrapOK init b)
    (fun ii ks e he => subshellEntry_trapOK init ii ks _ (forkedCopy_trapOK init e he))
    (fun h1 h2 ha => h2 (h1 ha)) k jc env h

end YashModel.Fork
