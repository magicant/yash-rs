/-
  Driver for C08.  stdin: one case per line, stdout: `<model observation>\t=<observation the Spec predicts>`.

  Case (`;`-separated items, see harness/src/bin/c08.rs):
    F:1                         render inside a function (no effect on the prediction)
    P:<op>  C:<op>  W:<op>      mutators of the parent before / of the child / of the parent during `&`
    K:<kind>                    paren | subst | pipeF | pipeM | pipeL | async   (up to three, outer first)
  or a schedule of raw system calls of several processes on one shared `SystemState` (see `parseXOp` below):
    X:<pid> fork | umask M | chdir D | open F | dup N MIN [x] | dup2 N M | close N | cloexec N 0|1 |
            sigaction SIG D|I|C | block SIG | unblock SIG | rlimit V      (model: Fork/Shared.lean, Spec: `specProc`)
  Ops: set N V | unset N | export N V | readonly N V | fn F B | unfn F | alias A V | unalias A | opt+ O |
       opt- O | shift | args X… | cd D | umask M | trap S d|i|cN | fdw N F | fdr N | fdd N M | fdc N |
       local N V | raise S
-/
import YashModel.Common.Proto
import YashModel.Fork.Model
import YashModel.Fork.Spec
open YashModel YashModel.Fork YashModel.Proto

def VARS := ["va", "vb", "vc"]
def VALS := ["1", "two", "x3", "w4"]
def FUNS := ["F1", "F2"]
def BODIES := ["b1", "b2"]
def ALIASES := ["A1", "A2"]
def OPTS := ["allexport", "clobber", "errexit", "glob", "hashondefinition", "ignoreeof", "log", "login", "monitor",
  "notify", "pipefail", "portable", "posixlycorrect", "unset", "verbose", "vi", "xtrace"]
def DIRS := ["/d1", "/d2", "/d1/s"]
def MASKS := ["022", "027", "077"]
def FILES := ["f1", "f2"]
/-- 10 = `MIN_INTERNAL_FD`; never the target of `fdd` (see the harness) -/
def FDS := ["3", "4", "5", "20", "10"]
def LIMITS := ["16", "18", "unlimited", "4"]

/-- conditions the `trap` / `raise` ops range over (TSTP/TTIN/TTOU are only watched) -/
def opConds : List String := ["EXIT", "INT", "QUIT", "TERM", "URG", "USR1"]
def parseCond (s : String) : Option Nat :=
  if opConds.contains s then (trackedConds.find? (·.1 == s)).map (·.2) else none

def parseTrapAct (s : String) : Option TrapAct :=
  match s.toList with
  | ['d'] => some .dflt
  | ['i'] => some .ign
  | ['c', d] => if '1' ≤ d ∧ d ≤ '6' then some (.cmd (d.toNat - 48)) else none
  | _ => none

def guardIn (x : String) (xs : List String) : Option Unit := if xs.contains x then some () else none

def parseOp (t : String) : Option Op :=
  match words t with
  | ["set", n, v] => do guardIn n VARS; guardIn v VALS; pure (.set n v)
  | ["unset", n] => do guardIn n VARS; pure (.unset n)
  | ["export", n, v] => do guardIn n VARS; guardIn v VALS; pure (.export n v)
  | ["readonly", n, v] => do guardIn n VARS; guardIn v VALS; pure (.readonly n v)
  | ["fn", f, b] => do guardIn f FUNS; guardIn b BODIES; pure (.fn f b)
  | ["unfn", f] => do guardIn f FUNS; pure (.unfn f)
  | ["alias", a, v] => do guardIn a ALIASES; guardIn v VALS; pure (.alias a v)
  | ["unalias", a] => do guardIn a ALIASES; pure (.unalias a)
  | ["opt+", o] => do guardIn o OPTS; pure (.optOn o)
  | ["opt-", o] => do guardIn o OPTS; pure (.optOff o)
  | ["shift"] => some .shift
  | "args" :: xs => if xs.length ≤ 3 ∧ xs.all (VALS.contains ·) then some (.args xs) else none
  | ["cd", d] => do guardIn d DIRS; pure (.cd d)
  | ["umask", m] => do guardIn m MASKS; pure (.umask m)
  | ["trap", s, a] => do pure (.trap (← parseCond s) (← parseTrapAct a))
  | ["fdw", n, f] => do guardIn n FDS; guardIn f FILES; pure (.fdw (← n.toNat?) f)
  | ["fdr", n] => do guardIn n FDS; pure (.fdr (← n.toNat?))
  | ["fdd", n, m] => do
    guardIn n FDS; guardIn m (FDS ++ ["1", "2"])
    if n == "10" then none else pure (.fdd (← n.toNat?) (← m.toNat?))
  | ["fdc", n] => do guardIn n FDS; pure (.fdc (← n.toNat?))
  | ["local", n, v] => do guardIn n VARS; guardIn v VALS; pure (.local n v)
  | ["raise", "KILL"] => some (.raise Fork.SIGKILL)
  | ["raise", s] => do
    let c ← parseCond s
    if c = 0 then none else pure (.raise c)
  | ["bg"] => some .bg
  | ["yield"] => some .yield
  | ["pl"] => some .pl
  | ["cs"] => some .cs
  | ["hd"] => some .hd
  | ["plc"] => some .plc
  | ["nofile", v] => do guardIn v LIMITS; pure (.nofile (if v == "unlimited" then none else v.toNat?))
  | ["exit", n] => do guardIn n ["0", "3", "7"]; pure (.exit (← n.toNat?))
  | _ => none

def parseKind : String → Option Kind
  | "paren" => some .paren
  | "subst" => some .subst
  | "pipeF" => some .pipeF
  | "pipeM" => some .pipeM
  | "pipeL" => some .pipeL
  | "async" => some .async
  | _ => none

def isSilent : Op → Bool
  | .raise _ => false
  | .local _ _ => false
  | .exit _ => false
  | _ => true

def isExit : Op → Bool
  | .exit _ => true
  | _ => false

def setMid (mid : List (List Op)) (i : Nat) (op : Op) : List (List Op) :=
  let m := mid ++ List.replicate (2 - mid.length) []
  m.mapIdx fun k ops => if k = i then ops ++ [op] else ops

def parseItems : List String → Case → Option Case
  | [], c => some c
  | item :: rest, c =>
    match item.splitOn ":" with
    | [tag, body] =>
      let body := body.trimAscii.toString
      match tag with
      | "F" => if body == "1" then parseItems rest c else none
      | "T" => if body == "1" then parseItems rest { c with tty := true } else none
      | "I" => if body == "1" then parseItems rest { c with internal := true } else none
      | "Q" => if body == "1" then parseItems rest { c with quiet := true } else none
      | "G" => do
        let s ← match words body with
          | [w] => parseCond w
          | _ => none
        if s = 0 then none else parseItems rest { c with ignored := some s }
      | "K" => do
        let k ← match words body with
          | [w] => parseKind w
          | _ => none
        parseItems rest { c with kinds := c.kinds ++ [k] }
      | "P" => do
        let op ← parseOp body
        if isExit op ∨ op = .yield ∨ op = .pl ∨ op = .cs ∨ op = .hd ∨ op = .plc then none else parseItems rest { c with pro := c.pro ++ [op] }
      | "M" => do
        let op ← parseOp body
        if isSilent op ∧ op ≠ .yield ∧ op ≠ .pl ∧ op ≠ .cs ∧ op ≠ .hd ∧ op ≠ .plc then parseItems rest { c with mid := setMid c.mid 0 op } else none
      | "N" => do
        let op ← parseOp body
        if isSilent op ∧ op ≠ .yield ∧ op ≠ .pl ∧ op ≠ .cs ∧ op ≠ .hd ∧ op ≠ .plc then parseItems rest { c with mid := setMid c.mid 1 op } else none
      | "C" => do parseItems rest { c with child := c.child ++ [← parseOp body] }
      | "A" => do
        -- mutators of the FIRST member of the innermost pipeline (kind `pipeL`): another process, living at the same
        -- time as the child; nothing it does is visible anywhere (its output goes to `:`), so the model only records
        -- that there is one
        let op ← parseOp body
        let ok := match op with
          | .set _ _ | .export _ _ | .fn _ _ | .alias _ _ | .umask _ | .cd _ | .yield => true
          | .trap c _ => c ≠ 0
          | .fdw n _ => n ≠ 20 ∧ n ≠ 10
          | _ => false
        if ok then parseItems rest { c with first := c.first ++ [op] } else none
      | "W" => do
        let op ← parseOp body
        if isSilent op ∧ op ≠ .bg ∧ op ≠ .pl ∧ op ≠ .cs ∧ op ≠ .hd ∧ op ≠ .plc then parseItems rest { c with during := c.during ++ [op] } else none
      | _ => none
    | _ => none

def parseCase (line : String) : Option Case := do
  let c ← parseItems ((splitTrim line ";").filter (· ≠ "")) { pro := [], kinds := [], child := [], during := [] }
  if c.kinds.isEmpty ∨ c.kinds.length > 3 then none
  else if ¬ c.during.isEmpty ∧ c.kinds.head? ≠ some .async then none
  else if ¬ c.first.isEmpty ∧ c.kinds.getLast? ≠ some .pipeL then none
  else if ¬ (c.mid.headD []).isEmpty ∧ c.kinds.length < 2 then none
  else if ¬ ((c.mid.drop 1).headD []).isEmpty ∧ c.kinds.length < 3 then none
  else some c

/-! ### `X:` cases — a schedule of raw system calls of several processes on one `SystemState`

    X:<pid> fork | umask M | chdir D | open F | dup N MIN [x] | dup2 N M | close N | cloexec N 0|1 |
            sigaction SIG D|I|C | block SIG | unblock SIG | rlimit 4|16|18|unlimited -/

def XDIRS := DIRS ++ ["s", ".", "/dx", "..", "/d1/s/..", "../d2", "/.."]
def XFDS := ["0", "1", "2", "3", "4", "5", "10", "17", "20"]
def XLIMITS := ["4", "16", "18", "unlimited"]

def parseDisp : String → Option Trap.Disp
  | "D" => some .default
  | "I" => some .ignore
  | "C" => some .catch
  | _ => none

def parseSig (s : String) : Option Nat := do
  let c ← parseCond s
  if c = 0 then none else pure c

def parseXOp (ws : List String) : Option XOp :=
  match ws with
  | ["fork"] => some .fork
  | ["umask", m] => do guardIn m MASKS; pure (.call (.umask m))
  | ["chdir", d] => do guardIn d XDIRS; pure (.call (.chdir d))
  | ["open", f] => do guardIn f FILES; pure (.call (.open f))
  | ["dup", n, m] => do guardIn n XFDS; guardIn m XFDS; pure (.call (.dup (← n.toNat?) (← m.toNat?) false))
  | ["dup", n, m, "x"] => do guardIn n XFDS; guardIn m XFDS; pure (.call (.dup (← n.toNat?) (← m.toNat?) true))
  | ["dup2", n, m] => do guardIn n XFDS; guardIn m XFDS; pure (.call (.dup2 (← n.toNat?) (← m.toNat?)))
  | ["close", n] => do guardIn n XFDS; pure (.call (.close (← n.toNat?)))
  | ["cloexec", n, b] => do guardIn n XFDS; guardIn b ["0", "1"]; pure (.call (.setfd (← n.toNat?) (b == "1")))
  | ["sigaction", s, d] => do pure (.call (.sigaction (← parseSig s) (← parseDisp d)))
  | ["block", s] => do pure (.call (.sigmask true (← parseSig s)))
  | ["unblock", s] => do pure (.call (.sigmask false (← parseSig s)))
  | ["rlimit", v] => do guardIn v XLIMITS; pure (.call (.setrlimit (if v == "unlimited" then none else v.toNat?)))
  | _ => none

def parseXItem (item : String) : Option (Nat × XOp) :=
  match item.splitOn ":" with
  | ["X", body] =>
    match words body with
    | pid :: ws => do
      let n ← pid.toNat?
      if n < 2 ∨ n > 40 then none else pure (n, ← parseXOp ws)
    | [] => none
  | _ => none

def parseXCase (line : String) : Option (List (Nat × XOp)) :=
  let items := (splitTrim line ";").filter (· ≠ "")
  if items.isEmpty ∨ items.length > 40 then none else items.mapM parseXItem

def runLine (line : String) : String :=
  if line.startsWith "X:" then
    match parseXCase line with
    | none => "bad-case\t-"
    | some sched => xObservation implCopied sched ++ "\t=" ++ specXObservation sched
  else
  match parseCase line with
  | none => "bad-case\t-"
  | some c => observation (runCase implCopied c) ++ "\t=" ++ specObservation c

def main : IO Unit := mainLoop runLine
