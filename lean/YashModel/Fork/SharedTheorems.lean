/-
  C08 — property theorems about the SHARED process table of the virtual system (`Fork/Shared.lean`): a call or a fork
  through one handle changes one entry; under every interleaving each process ends as its own calls; the table is the
  Spec's; the writes of the shell-level model, being calls of its own process, reach no other entry; and C13's fork
  loop hands every stage of a pipeline the pipe ends its plumbing needs.
-/
import YashModel.Fork.Theorems
import YashModel.Fork.SharedLemmas
import YashModel.Fork.PlumbLemmas
import YashModel.Proc.ForkLemmas
namespace YashModel.Fork
open YashModel.Trap (GrandState TrapState Action SubOpt)

/-- ★ Frame: a call made through the handle of process `pid` changes the entry of `pid` by the call's effect on that
    one `Process` (`Call.run`, nothing on failure) and leaves the entry of EVERY other process untouched. -/
theorem exec_frame (s : SysState) (pid : Nat) (c : Call) :
    (∀ q, q ≠ pid → (s.exec pid c).2.processes.get q = s.processes.get q)
    ∧ (s.exec pid c).2.processes.get pid = (s.processes.get pid).map (fun p => (c.run p).2) := by
  constructor
  · intro q hq; rw [exec_get]; simp [hq]
  · rw [exec_get]; simp

/-- ★ `run_in_child_process` on the table: the pid handed out was not in use; the new entry is
    `Process::fork_from(parent)`; every entry that existed — the forking process's own included — is untouched. -/
theorem fork_frame (copied : List (String × String)) (s : SysState) (pid : Nat) (p : Proc)
    (h : s.processes.get pid = some p) :
    s.processes.get s.nextPid = none
    ∧ (s.fork copied pid).2.processes.get s.nextPid = some (Proc.forkFrom copied pid p)
    ∧ (∀ q, q ≠ s.nextPid → (s.fork copied pid).2.processes.get q = s.processes.get q)
    ∧ (s.fork copied pid).2.processes.get pid = some p := by
  have hfresh := nextPid_fresh s
  have hne : pid ≠ s.nextPid := by intro e; rw [e, hfresh] at h; cases h
  refine ⟨hfresh, ?_, ?_, ?_⟩
  · rw [fork_get, h]; simp
  · intro q hq; rw [fork_get, h]; simp [hq]
  · rw [fork_get, h]; simp [hne]

/-- ★★ Two concurrently running children (two members of a pipeline, an asynchronous list and a foreground subshell):
    under EVERY interleaving of their system calls on the shared table each child's entry is its own calls applied to
    what it had, and every other entry — the starter's — is untouched: the starter's process state after both have
    finished does not depend on the schedule.  (`interleaving_isolated` is the case of a parent and the child it has
    just forked.) -/
theorem two_children_isolated (copied : List (String × String)) (s : SysState) (c1 c2 : Nat) (hne : c1 ≠ c2)
    (p1 p2 : Proc) (h1 : s.processes.get c1 = some p1) (h2 : s.processes.get c2 = some p2)
    (sched : List (Bool × Call)) :
    (s.run copied (schedOf c1 c2 sched)).processes.get c1
        = some (runCalls p1 ((sched.filter (fun x => !x.1)).map (·.2)))
    ∧ (s.run copied (schedOf c1 c2 sched)).processes.get c2
        = some (runCalls p2 ((sched.filter (fun x => x.1)).map (·.2)))
    ∧ ∀ starter, starter ≠ c1 → starter ≠ c2 →
        (s.run copied (schedOf c1 c2 sched)).processes.get starter = s.processes.get starter := by
  have r : ∀ q, (s.run copied (schedOf c1 c2 sched)).processes.get q = _ :=
    run_calls_get copied (fun x : Bool × Call => if x.1 then c2 else c1) (·.2) sched s
  -- whose call an item is, read off its flag
  have f1 : (fun x : Bool × Call => decide ((if x.1 then c2 else c1) = c1)) = fun x => !x.1 := by
    funext x; cases x.1 <;> simp [hne.symm]
  have f2 : (fun x : Bool × Call => decide ((if x.1 then c2 else c1) = c2)) = fun x => x.1 := by
    funext x; cases x.1 <;> simp [hne]
  refine ⟨by rw [r, h1, f1]; rfl, by rw [r, h2, f2]; rfl, fun q hq1 hq2 => ?_⟩
  rw [r, List.filter_eq_nil_iff.mpr (by intro x _; cases x.1 <;> simp [hq1.symm, hq2.symm])]
  cases s.processes.get q <;> rfl

/-- ★★ "Under every interleaving of the child with the parent": after a fork, whatever the order in which the calls
    of the child and of the parent (umask, chdir, open, dup, dup2, close, fcntl, sigaction, sigmask, setrlimit — in
    any number) reach the shared `SystemState`, the parent's entry ends as the parent's OWN calls applied to its entry
    before the fork, the child's entry as the child's own calls applied to `Process::fork_from(parent)`, and no third
    process is touched.  Nothing the child does shows in the parent, at any intermediate point (the statement holds
    for every prefix of the schedule, being quantified over all schedules). -/
theorem interleaving_isolated (copied : List (String × String)) (s : SysState) (parent : Nat) (p0 : Proc)
    (h : s.processes.get parent = some p0) (sched : List (Bool × Call)) :
    ((s.fork copied parent).2.run copied (schedOf parent s.nextPid sched)).processes.get parent
        = some (runCalls p0 ((sched.filter (fun x => !x.1)).map (·.2)))
    ∧ ((s.fork copied parent).2.run copied (schedOf parent s.nextPid sched)).processes.get s.nextPid
        = some (runCalls (Proc.forkFrom copied parent p0) ((sched.filter (fun x => x.1)).map (·.2)))
    ∧ ∀ q, q ≠ parent → q ≠ s.nextPid →
        ((s.fork copied parent).2.run copied (schedOf parent s.nextPid sched)).processes.get q
          = s.processes.get q := by
  obtain ⟨hfresh, hchild, hothers, hparent⟩ := fork_frame copied s parent p0 h
  have hne : parent ≠ s.nextPid := by intro e; rw [e, hfresh] at h; cases h
  obtain ⟨r1, r2, r3⟩ :=
    two_children_isolated copied (s.fork copied parent).2 parent s.nextPid hne p0 _ hparent hchild sched
  exact ⟨r1, r2, fun q hq1 hq2 => (r3 q hq1 hq2).trans (hothers q hq2)⟩

/-- non-vacuity of `interleaving_isolated`: the child sets its umask, closes stdout and ignores SIGINT while the
    parent opens a file and lowers its descriptor limit, interleaved -/
def exampleInterleaving : ProcTable :=
  ((initialSys.fork implCopied 2).2.run implCopied (schedOf 2 initialSys.nextPid
    [(true, .umask "077"), (false, .open "f1"), (true, .close 1), (true, .sigaction Trap.SIGINT .ignore),
     (false, .setrlimit (some 16))])).processes

/-- … each entry shows only its owner's calls -/
example :
    (exampleInterleaving.get 2).map (fun p => (p.umask, p.nofile)) = some ("644", some 16)
    ∧ (exampleInterleaving.get 2).map (fun p => (fdGet p.fds 3, fdGet p.fds 1))
        = some (some { label := "f1" }, some { label := "out" })
    ∧ (exampleInterleaving.get 2).map (fun p => (p.sys.disp Trap.SIGINT, p.ppid)) = some (.default, 1)
    ∧ (exampleInterleaving.get 3).map (fun p => (p.umask, p.nofile)) = some ("077", none)
    ∧ (exampleInterleaving.get 3).map (fun p => (fdGet p.fds 3, fdGet p.fds 1)) = some (none, none)
    ∧ (exampleInterleaving.get 3).map (fun p => (p.sys.disp Trap.SIGINT, p.ppid)) = some (.ignore, 2) := by
  decide +kernel

theorem specProc_impl_eq_spec (h : List (Nat × XOp)) (q : Nat) : specProc implCopied h q = specProc specCopied h q :=
  specProc_congr implCopied specCopied forkFrom_impl_eq_spec h q

/-- ★★ For EVERY schedule of calls and forks of any number of processes (what the `X:` cases run, one real
    `SystemState`, the handles used in the order the schedule says): every entry of the shared table, as the code's
    fork produces it (generated copy list), is what the Spec says about that process alone — its own calls applied
    to the copy of its creator's state at the moment of its creation (`specProc`, which never looks at a table and
    skips every step of another process); the pids in use are exactly `2 … 2 + (number of forks)`; and every call
    answers what the Spec says (`ok`, the descriptor, the pid, or the error).  This is the `=Spec` column of the `X:`
    cases as a theorem. -/
theorem shared_table_is_spec (sched : List (Nat × XOp)) :
    (∀ q, (initialSys.run implCopied sched).processes.get q = specProc specCopied sched.reverse q)
    ∧ (∀ q, ((initialSys.run implCopied sched).processes.get q).isSome = true
        ↔ (2 ≤ q ∧ q ≤ 2 + specCount sched.reverse))
    ∧ (∀ x : Nat × XOp, ((initialSys.run implCopied sched).step implCopied x.1 x.2).1
        = specResult specCopied sched.reverse x.1 x.2) := by
  have m := matches_run implCopied sched
  refine ⟨fun q => (m.entries q).trans (specProc_impl_eq_spec _ q), m.pids, ?_⟩
  intro x
  obtain ⟨p, op⟩ := x
  have he := m.entries p
  unfold specResult
  rw [← specProc_impl_eq_spec, ← he]
  cases op with
  | call c =>
    show ((initialSys.run implCopied sched).exec p c).1 = _
    unfold SysState.exec
    cases (initialSys.run implCopied sched).processes.get p <;> rfl
  | fork =>
    show ((initialSys.run implCopied sched).fork implCopied p).1 = _
    rw [fork_result, m.nextPid]
    cases (initialSys.run implCopied sched).processes.get p <;> rfl

/-- The Spec's per-process reading, stated on its own: a step of ANOTHER process never changes what the Spec says
    about `q` — unless it is the fork that creates `q`. -/
theorem spec_skips_other_processes (copied : List (String × String)) (h : List (Nat × XOp)) (p q : Nat) (op : XOp)
    (hpq : p ≠ q) (hnew : q ≠ 3 + specCount h) :
    specProc copied ((p, op) :: h) q = specProc copied h q := by
  cases op with
  | call c => simp [specProc, hpq]
  | fork => simp [specProc, hnew]


/-- non-vacuity of `fork_frame` / `spec_skips_other_processes`: process 2 exists in the initial system; after one
    fork a call of process 3 does not change what the Spec says about process 2 -/
example :
    (initialSys.processes.get 2).isSome = true
    ∧ (3 : Nat) ≠ 2 ∧ (2 : Nat) ≠ 3 + specCount [((2 : Nat), XOp.fork)]
    ∧ ((specProc specCopied [(3, .call (.umask "077")), (2, .fork)] 2).map (·.umask)) = some "644"
    ∧ ((specProc specCopied [(3, .call (.umask "077")), (2, .fork)] 3).map (·.umask)) = some "077" := by
  decide +kernel

/-- ★★ `shared_table_is_spec` as an equality of LISTS: after ANY schedule of calls and forks the
    whole process table of the model of the code — a `BTreeMap`, i.e. sorted by pid, which `ProcTable.put` keeps —
    IS the table the Spec builds process by process, hence prints the same text in the `X:` observation.  Holding for
    every schedule it holds for every prefix, i.e. for every intermediate table the observation shows. -/
theorem shared_table_eq_spec_table (sched : List (Nat × XOp)) :
    (initialSys.run implCopied sched).processes = specTable specCopied sched.reverse
    ∧ showTable (initialSys.run implCopied sched) = showTable { processes := specTable specCopied sched.reverse } := by
  have m := matches_run implCopied sched
  have hs : (initialSys.run implCopied sched).processes.Sorted :=
    run_sorted implCopied sched initialSys (by simp [initialSys, ProcTable.Sorted])
  have e : specTable implCopied sched.reverse = specTable specCopied sched.reverse := by
    unfold specTable
    simp only [specProc_impl_eq_spec]
  have h1 := (m.table_eq hs).trans e
  exact ⟨h1, by unfold showTable; rw [h1]⟩

/-- non-vacuity: a schedule with a fork, calls of both processes and a grandchild; the table has three entries -/
example :
    ((initialSys.run implCopied [(2, .fork), (3, .call (.umask "077")), (3, .fork), (2, .call (.close 1))]).processes.map
        (fun e => (e.1, e.2.umask, e.2.fds.length)))
      = [(2, "644", 2), (3, "077", 3), (4, "077", 3)] := by decide +kernel

/-! ### The shell-level model on the shared table: mutators, the entry sequence of every kind -/

theorem own_calls_on_table (copied : List (String × String)) (pid : Nat) (cs : List Call) :
    ∀ (s : SysState) (p : Proc), s.processes.get pid = some p →
      (s.run copied (cs.map fun c => (pid, .call c))).processes.get pid = some (runCalls p cs)
      ∧ ∀ q, q ≠ pid → (s.run copied (cs.map fun c => (pid, .call c))).processes.get q = s.processes.get q := by
  intro s p h
  have r := run_calls_get copied (fun _ => pid) id cs s
  simp only [id] at r
  refine ⟨by rw [r, h, List.filter_eq_self.mpr (by simp)]; simp, fun q hq => ?_⟩
  rw [r, List.filter_eq_nil_iff.mpr (by simpa using fun _ _ => hq.symm)]
  cases s.processes.get q <;> rfl

/-- ★★ A process-level mutator of the shell with process id `pid`, performed on the SHARED table (the shell's
    `Env.system` being the entry of `pid`): afterwards the entry of `pid` is exactly the `Env.system` the shell-level
    model computes, and the entry of every other process — the parent's, a sibling's — is untouched.  So what a
    subshell does with `umask`, `cd`, `ulimit -n`, `exec N>…` cannot reach its starter through the shared
    `SystemState`; with `interleaving_isolated` this holds for every interleaving with the starter's own mutators. -/
theorem mutator_on_shared_table (copied : List (String × String)) (s : SysState) (pid : Nat) (sh : Shell) (op : Op)
    (hop : op.processLevel = true) (hs : s.processes.get pid = some sh.env.system) :
    ∃ cs : List Call,
      (s.run copied (cs.map fun c => (pid, .call c))).processes.get pid = some (applyOpCore sh op).env.system
      ∧ ∀ q, q ≠ pid → (s.run copied (cs.map fun c => (pid, .call c))).processes.get q = s.processes.get q := by
  obtain ⟨cs, h⟩ := process_mutators_are_own_calls sh op hop
  obtain ⟨r1, r2⟩ := own_calls_on_table copied pid cs s sh.env.system hs
  exact ⟨cs, by rw [r1, h], r2⟩

/-- non-vacuity: a child (pid 3) forked from the initial process runs `exec 4>|f1` as calls on the table -/
example :
    let s := (initialSys.fork implCopied 2).2
    let sh : Shell := { env := { baseEnv with system := Proc.forkFrom implCopied 2 baseEnv.system } }
    (s.processes.get 3).isSome = true ∧ (Op.fdw 4 "f1").processLevel = true
    ∧ fdGet (applyOpCore sh (.fdw 4 "f1")).env.system.fds 4 = some { label := "f1" } := by
  decide +kernel

/-- `two_children_isolated` for the pipeline kinds, with what the members do expressed in the shell-level model: whatever process-level
    mutators (`umask`, `cd`, `ulimit -n`, `exec` redirections) the two members perform, in whatever order their calls
    reach the table, the starter's entry is the one it had when it forked them. -/
theorem pipeline_members_leave_starter (copied : List (String × String)) (s : SysState) (starter c1 c2 : Nat)
    (hne : c1 ≠ c2) (hs1 : starter ≠ c1) (hs2 : starter ≠ c2) (sh1 sh2 : Shell)
    (h1 : s.processes.get c1 = some sh1.env.system) (h2 : s.processes.get c2 = some sh2.env.system)
    (op1 op2 : Op) (ho1 : op1.processLevel = true) (ho2 : op2.processLevel = true) :
    ∃ cs1 cs2 : List Call,
      (applyOpCore sh1 op1).env.system = runCalls sh1.env.system cs1
      ∧ (applyOpCore sh2 op2).env.system = runCalls sh2.env.system cs2
      ∧ ∀ sched : List (Bool × Call),
          (sched.filter (fun x => !x.1)).map (·.2) = cs1 → (sched.filter (fun x => x.1)).map (·.2) = cs2 →
          (s.run copied (schedOf c1 c2 sched)).processes.get c1 = some (applyOpCore sh1 op1).env.system
          ∧ (s.run copied (schedOf c1 c2 sched)).processes.get c2 = some (applyOpCore sh2 op2).env.system
          ∧ (s.run copied (schedOf c1 c2 sched)).processes.get starter = s.processes.get starter := by
  obtain ⟨cs1, e1⟩ := process_mutators_are_own_calls sh1 op1 ho1
  obtain ⟨cs2, e2⟩ := process_mutators_are_own_calls sh2 op2 ho2
  refine ⟨cs1, cs2, e1, e2, fun sched f1 f2 => ?_⟩
  obtain ⟨r1, r2, r3⟩ := two_children_isolated copied s c1 c2 hne _ _ h1 h2 sched
  exact ⟨by rw [r1, f1, e1], by rw [r2, f2, e2], r3 starter hs1 hs2⟩

/-- ★★ … on the SHARED table: the trap reset of a subshell's entry, performed through the child's handle (its
    `Env.system` being the entry of `child`, i.e. AFTER the fork), leaves in the child's entry exactly the
    dispositions and the mask the shell-level model computes and touches no other entry — the starter keeps its
    handlers.  (Running the same prologue through the PARENT's handle would by the same
    theorem change the parent's entry: the statement pins the side of the fork.) -/
theorem entry_reset_on_shared_table (copied : List (String × String)) (s : SysState) (child : Nat) (ii ks : Bool)
    (env : Env) (hs : s.processes.get child = some env.system) :
    ∃ cs : List Call,
      (∃ q', (s.run copied (cs.map fun c => (child, .call c))).processes.get child = some q'
        ∧ SysEq q'.sys (subshellEntry ii ks env).system.sys ∧ env.system.SameButSys q')
      ∧ ∀ q, q ≠ child → (s.run copied (cs.map fun c => (child, .call c))).processes.get q = s.processes.get q := by
  obtain ⟨cs, _, r⟩ := (subshell_entry_is_own_calls ii ks env).1
  obtain ⟨r1, r2⟩ := own_calls_on_table copied child cs s env.system hs
  obtain ⟨e, f⟩ := r env.system ⟨rfl, rfl⟩
  exact ⟨cs, ⟨_, r1, e, f⟩, r2⟩

/-- non-vacuity: the starter has `trap 'probe T1' INT` (handler installed); after the entry the child's disposition
    is the default, and `SysReach` is met by an actual call list (`sigaction INT default`, `sigmask unblock INT`) -/
example :
    let env := (applyOps { env := initialEnv } [.trap Trap.SIGINT (.cmd 1)]).env
    env.system.sys.disp Trap.SIGINT = .catch
    ∧ (subshellEntry false true env).system.sys.disp Trap.SIGINT = .default
    ∧ (runCalls env.system [.sigaction Trap.SIGINT .default, .sigmask false Trap.SIGINT]).sys.disp Trap.SIGINT
        = (subshellEntry false true env).system.sys.disp Trap.SIGINT := by
  decide +kernel

/-- ★★ ONE statement for every kind of subshell, on the shared table.  The child's `Env` right after the fork is
    `env` (its `Env.system` is the entry of `child`, a copy of the starter's — `fork_frame` — that holds the pipe ends
    the starter opened for it).  Everything the entry sequence then does to the process — the trap reset of
    `Config::start`'s prologue and the kind's plumbing of fd 0 / fd 1 (`move_to_stdin_stdout`, `subshell_body`,
    `nullify_stdin`) — is a list of the CHILD's own system calls: run through the child's handle they leave every
    other entry of the table untouched (the starter's included), and the child's entry is the one the shell-level
    model starts the body from (`plumb k jc (subshellEntry …)`): its descriptor table except that the starter's pipe
    ends are closed, its dispositions and mask, and the starter's cwd / umask / limit. -/
theorem kind_entry_on_shared_table (copied : List (String × String)) (s : SysState) (child : Nat) (env : Env)
    (hs : s.processes.get child = some env.system) (k : Kind) (jc ii ks : Bool) (rp r w : Nat)
    (he : PipeEnds k jc env.system rp r w) :
    ∃ cs : List Call,
      (∀ q, q ≠ child → (s.run copied (cs.map fun c => (child, .call c))).processes.get q = s.processes.get q)
      ∧ ∃ q', (s.run copied (cs.map fun c => (child, .call c))).processes.get child = some q'
        ∧ (∀ m, fdGet q'.fds m = if m ∈ kindEnds k rp r w then none
            else fdGet (plumb k jc (subshellEntry ii ks env)).system.fds m)
        ∧ SysEq q'.sys (plumb k jc (subshellEntry ii ks env)).system.sys
        ∧ q'.cwd = env.system.cwd ∧ q'.umask = env.system.umask ∧ q'.nofile = env.system.nofile := by
  obtain ⟨cs1, _, r1⟩ := (subshell_entry_is_own_calls ii ks env).1
  obtain ⟨e1, f1⟩ := r1 env.system ⟨rfl, rfl⟩
  -- the process after the reset still holds the ends; the plumbing then changes its descriptor table only
  have p1 := plumb_is_own_calls k jc (runCalls env.system cs1) (subshellEntry ii ks env) f1.fds.symm rp r w
    (he.congr f1.fds f1.nofile)
  have p2 := (FdCalls.of_calls (runCalls env.system cs1) _ (plumbCalls_onFds k jc rp r w)).same
  obtain ⟨t1, t2⟩ := own_calls_on_table copied child (cs1 ++ plumbCalls k jc rp r w) s env.system hs
  rw [runCalls_append] at t1
  refine ⟨cs1 ++ plumbCalls k jc rp r w, t2, _, t1, p1, ?_, p2.cwd.trans f1.cwd, p2.umask.trans f1.umask,
    p2.nofile.trans f1.nofile⟩
  rw [plumb_sys, p2.sys]
  exact e1

/-- non-vacuity of `PipeEnds`: a forked child holding the read end of the previous pipe at 3 and a new pipe at 4/5
    (the middle member of a pipeline); after its own calls fd 0 and fd 1 are the pipes and 3, 4, 5 are closed -/
example :
    let pe : FdEntry := { label := "pipe" }
    let q : Proc := { baseEnv.system with fds := fdPut (fdPut (fdPut baseEnv.system.fds 3 pe) 4 pe) 5 pe }
    (fdGet q.fds 4).isSome = true ∧ fdGet q.fds 5 = some pe ∧ fdGet q.fds 3 = some pe
    ∧ fdAllowed q 0 = true ∧ fdAllowed q 1 = true
    ∧ (runCalls q (plumbCalls .pipeM false 3 4 5)).fds
        = [(0, { label := "pipe" }), (1, { label := "pipe" }), (2, { label := "err" })] := by
  decide +kernel

/-! ### `PipeEnds` discharged from C13's model of the starter's side of a pipeline -/

/-- the process `q` of the C08 model is a concrete version of C13's abstract table `T`: the same descriptors are
    open, and a descriptor C13 types as an end of a pipe of this pipeline is the snapshot's `pipe` entry -/
def AbsTab (q : Proc) (T : YashModel.Proc.FdTab) : Prop :=
  (∀ k, (T k).isSome = (fdGet q.fds k).isSome)
  ∧ (∀ k res, T k = some res → res.isPipeEnd = true → fdGet q.fds k = some { label := "pipe" })

/-- C13's loop invariant at the moment a stage is forked (`LoopInv`: the starter's table is the table the pipeline
    started with plus exactly the descriptors of the `PipeSet`, typed and pairwise distinct, all of them FREE in the
    starting table) gives C08's `PipeEnds` for the child's copy — provided stdin and stdout were open in the starter
    when the pipeline began (then no pipe end can sit at 0 or 1, in particular `read_previous ≠ 1`: the corner in which
    `move_to_stdin_stdout` first moves the previous end away with `dup` needs stdout CLOSED in the starter). -/
theorem pipeEnds_of_loopInv (k : Kind) (jc : Bool) (q : Proc) (T0 T : YashModel.Proc.FdTab)
    (ps : YashModel.Proc.PipeSet) (jin jout rp r w : Nat)
    (habs : AbsTab q T) (hinv : YashModel.Proc.LoopInv T0 T ps jin jout)
    (h0 : (T0 0).isSome = true) (h1 : (T0 1).isSome = true)
    (a0 : fdAllowed q 0 = true) (a1 : fdAllowed q 1 = true)
    (hnext : needsNext k = true → ps.next = some (r, w))
    (hprev : needsPrev k = true → ps.readPrevious = some rp) :
    PipeEnds k jc q rp r w := by
  obtain ⟨hopen, hpipe⟩ := habs
  -- a descriptor free in the starting table is neither stdin nor stdout
  have ge2 : ∀ fd, T0 fd = none → 2 ≤ fd := by
    intro fd hfd
    by_cases c0 : fd = 0
    · subst c0; rw [hfd] at h0; cases h0
    · by_cases c1 : fd = 1
      · subst c1; rw [hfd] at h1; cases h1
      · omega
  refine ⟨fun hn => ?_, fun hp => ?_, fun hn hp => ?_, fun _ _ => a0⟩
  · have e := hnext hn
    refine ⟨?_, hpipe w _ (hinv.start.nextW r w e) rfl, hinv.start.distinctRW r w e,
      ge2 r (hinv.fresh r (.inr ⟨r, w, e, .inl rfl⟩)), ge2 w (hinv.fresh w (.inr ⟨r, w, e, .inr rfl⟩)), a1⟩
    rw [← hopen r, hinv.start.nextR r w e]; rfl
  · have e := hprev hp
    exact ⟨hpipe rp _ (hinv.start.prev rp e) rfl, ge2 rp (hinv.fresh rp (.inl e)), a0⟩
  · exact hinv.start.distinctP rp r w (hprev hp) (hnext hn)

/-- which kind of subshell stage `k` of an `n`-stage pipeline is -/
def stageKind (n k : Nat) : Kind := if k = 0 then .pipeF else if k + 1 < n then .pipeM else .pipeL

theorem needsNext_stageKind {n k : Nat} (hn : 2 ≤ n) (h : needsNext (stageKind n k) = true) : k + 1 < n := by
  unfold stageKind at h
  by_cases c0 : k = 0
  · omega
  · by_cases c1 : k + 1 < n
    · exact c1
    · simp [c0, c1, needsNext] at h

theorem needsPrev_stageKind {n k : Nat} (h : needsPrev (stageKind n k) = true) : 0 < k := by
  unfold stageKind at h
  by_cases c0 : k = 0
  · simp [c0, needsPrev] at h
  · omega

theorem eq_some_getD {α : Type} {o : Option α} (d : α) (h : o.isSome = true) : o = some (o.getD d) := by
  cases o with
  | none => cases h
  | some v => rfl

/-- ★★ Composition with C13 (`Proc/ForkLoop.lean`: `PipeSet::shift` + the fork loop, any allocation policy `A`;
    `forkLoop_spec`).  A pipeline of `n ≥ 2` stages started from a table `T0` without pipe ends, stdin and stdout open:
    (1) after the loop the STARTER's table is `T0` again — every descriptor it opened for the pipeline is closed
    (C13's `forkLoop_spec`); (2) for EVERY stage `k`, any process `q` of this model that is a concrete version
    (`AbsTab`) of the table the stage inherited at its fork satisfies `PipeEnds` for that stage's kind, with the
    descriptors of the `PipeSet` it was handed — so `kind_entry_on_shared_table` applies to every stage of every
    pipeline with no hypothesis about pipe ends left; in particular `read_previous = 1` cannot occur here (that corner
    of `move_to_stdin_stdout` needs stdout closed in the starter; C13's `child_setup_exact` covers it on the abstract table). -/
theorem pipeline_stage_pipeEnds {A : YashModel.Proc.Alloc} {n : Nat} {T0 Tf : YashModel.Proc.FdTab}
    {cs : List (YashModel.Proc.FdTab × YashModel.Proc.PipeSet)} {psf : YashModel.Proc.PipeSet}
    (h0 : YashModel.Proc.NoPipe T0) (hin : (T0 0).isSome = true) (hout : (T0 1).isSome = true) (hn : 2 ≤ n)
    (hrun : YashModel.Proc.forkLoop A 0 n T0 { readPrevious := none, next := none } = some (cs, Tf, psf))
    (k : Nat) (Tk : YashModel.Proc.FdTab) (psk : YashModel.Proc.PipeSet) (hk : cs[k]? = some (Tk, psk))
    (q : Proc) (habs : AbsTab q Tk) (a0 : fdAllowed q 0 = true) (a1 : fdAllowed q 1 = true) (jc : Bool) :
    (∀ fd, Tf fd = T0 fd)
    ∧ ∃ rp r w, PipeEnds (stageKind n k) jc q rp r w
        ∧ (needsNext (stageKind n k) = true → psk.next = some (r, w))
        ∧ (needsPrev (stageKind n k) = true → psk.readPrevious = some rp) := by
  obtain ⟨_, hTf, _, hall⟩ := YashModel.Proc.forkLoop_spec h0 n 0 T0 _ cs Tf psf
    (YashModel.Proc.loopInv_init h0 _ _) (by simp) hrun
  obtain ⟨hinv, hrp, hnx⟩ := hall k Tk psk hk
  -- The descriptors have to be named before the kind of the stage is known: those of the `PipeSet`, with a default
  -- that a stage without that end never looks at (`eq_some_getD`).
  have hnext : needsNext (stageKind n k) = true →
      psk.next = some ((psk.next.getD (0, 0)).1, (psk.next.getD (0, 0)).2) :=
    fun h => eq_some_getD (0, 0) (by rw [hnx]; simp [needsNext_stageKind hn h])
  have hprev : needsPrev (stageKind n k) = true → psk.readPrevious = some (psk.readPrevious.getD 0) :=
    fun h => eq_some_getD 0 (by rw [hrp]; simp [needsPrev_stageKind h])
  exact ⟨hTf, _, _, _, pipeEnds_of_loopInv _ jc q T0 Tk psk _ _ _ _ _ habs hinv hin hout a0 a1 hnext hprev,
    hnext, hprev⟩

end YashModel.Fork
