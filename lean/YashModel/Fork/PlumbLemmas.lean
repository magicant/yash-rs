/-
  C08 — the plumbing of fd 0 / fd 1 of every kind of subshell (`PipeSet::move_to_stdin_stdout`, `subshell_body` of
  command_subst.rs, `nullify_stdin`) as lists of the child's own system calls (`plumbCalls` of Model.lean), and what
  they make of a table that holds the starter's pipe ends.
-/
import YashModel.Fork.CallLemmas
namespace YashModel.Fork

/-- the descriptors the starter opened for a subshell of kind `k` (closed again on both sides) -/
def kindEnds (k : Kind) (rp r w : Nat) : List Nat :=
  match k with
  | .subst | .pipeF => [r, w]
  | .pipeM => [rp, r, w]
  | .pipeL => [rp]
  | _ => []

/-- does a subshell of this kind get a pipe to the next command / the read end of the previous pipe? -/
def needsNext : Kind → Bool
  | .subst | .pipeF | .pipeM => true
  | _ => false
def needsPrev : Kind → Bool
  | .pipeM | .pipeL => true
  | _ => false

/-- What the child of kind `k` finds in its (forked) table: the pipe ends the starter opened FOR THIS KIND, at distinct
    descriptors other than 0 and 1; the descriptor it is going to overwrite (1 / 0) below the soft limit.  For a pipeline
    this is what C13's fork loop establishes (`pipeEnds_of_loopInv`, Fork/SharedTheorems.lean). -/
structure PipeEnds (k : Kind) (jc : Bool) (q : Proc) (rp r w : Nat) : Prop where
  next : needsNext k = true → (fdGet q.fds r).isSome = true ∧ fdGet q.fds w = some { label := "pipe" } ∧ r ≠ w
    ∧ 2 ≤ r ∧ 2 ≤ w ∧ fdAllowed q 1 = true
  prev : needsPrev k = true → fdGet q.fds rp = some { label := "pipe" } ∧ 2 ≤ rp ∧ fdAllowed q 0 = true
  both : needsNext k = true → needsPrev k = true → rp ≠ r ∧ rp ≠ w
  null : k = .async → jc = false → fdAllowed q 0 = true


theorem plumbCalls_onFds (k : Kind) (jc : Bool) (rp r w : Nat) : ∀ c ∈ plumbCalls k jc rp r w, c.onFds = true := by
  have hm : ∀ ps : PipeSet, ∀ c ∈ moveToStdinStdout ps, c.onFds = true := by
    intro ps c hc
    unfold moveToStdinStdout at hc
    rcases List.mem_append.mp hc with h | h
    · cases hn : ps.next with
      | none => simp [hn] at h
      | some e =>
        simp only [hn] at h
        split at h <;> simp at h <;> rcases h with rfl | rfl | rfl <;> rfl
    · cases hp : ps.readPrevious with
      | none => simp [hp] at h
      | some e =>
        simp only [hp] at h
        split at h <;> simp at h <;> rcases h with rfl | rfl <;> rfl
  intro c hc
  cases k with
  | paren => simp [plumbCalls] at hc
  | async =>
    cases jc
    · simp [plumbCalls, nullifyStdin] at hc
      rcases hc with rfl | rfl <;> rfl
    · simp [plumbCalls] at hc
  | subst => exact hm (kindPipes .subst rp r w) c hc
  | pipeF => exact hm (kindPipes .pipeF rp r w) c hc
  | pipeM => exact hm (kindPipes .pipeM rp r w) c hc
  | pipeL => exact hm (kindPipes .pipeL rp r w) c hc

theorem plumb_out (q : Proc) (r w : Nat) (ew : FdEntry) (hw : fdGet q.fds w = some ew) (hrw : r ≠ w) (hw1 : w ≠ 1)
    (hr1 : r ≠ 1) (h1 : fdAllowed q 1 = true) (m : Nat) :
    fdGet (runCalls q [.close r, .dup2 w 1, .close w]).fds m
      = if m = r ∨ m = w then none else fdGet (fdPut q.fds 1 { ew with cloexec := false }) m := by
  have hs : fdGet ((Call.close r).runT q).2.fds w = some ew := by
    simp only [close_eq, fdGet_fdDel, hrw.symm, if_false, hw]
  have ha : fdAllowed ((Call.close r).runT q).2 1 = true := h1
  simp only [runCalls_cons, runCalls_nil]
  rw [dup2_ok _ w 1 ew hs hw1 ha]
  simp only [close_eq, fdGet_fdDel, fdGet_fdPut]
  by_cases a : m = w
  · simp [a]
  · by_cases b : m = r
    · simp [b, hr1]
    · simp [a, b]

theorem plumb_in (q : Proc) (rp : Nat) (ep : FdEntry) (hp : fdGet q.fds rp = some ep) (hp0 : rp ≠ 0)
    (h0 : fdAllowed q 0 = true) (m : Nat) :
    fdGet (runCalls q [.dup2 rp 0, .close rp]).fds m
      = if m = rp then none else fdGet (fdPut q.fds 0 { ep with cloexec := false }) m := by
  simp only [runCalls_cons, runCalls_nil]
  rw [dup2_ok _ rp 0 ep hp hp0 h0]
  simp only [close_eq, fdGet_fdDel]

/-- `nullify_stdin`: `close(0)`, then `open("/dev/null")` answers 0 -/
theorem plumb_null (q : Proc) (h0 : fdAllowed q 0 = true) (m : Nat) :
    fdGet (runCalls q nullifyStdin).fds m = fdGet (fdPut q.fds 0 { label := "null" }) m := by
  have hfree : fdGet (fdDel q.fds 0) 0 = none := by simp [fdGet_fdDel]
  -- descriptor 0 has just been closed, so it is the lowest unused one
  have hz : minUnusedFd (fdDel q.fds 0) 0 = 0 := by
    by_cases h : minUnusedFd (fdDel q.fds 0) 0 = 0
    · exact h
    · have := (lowest_unused_descriptor (fdDel q.fds 0) 0).2.2 0 (Nat.le_refl _) (by omega)
      rw [hfree] at this; cases this
  have ha : fdAllowed ((Call.close 0).runT q).2 (minUnusedFd ((Call.close 0).runT q).2.fds 0) = true := by
    show fdAllowed _ (minUnusedFd (fdDel q.fds 0) 0) = true
    rw [hz]; exact h0
  unfold nullifyStdin
  simp only [runCalls_cons, runCalls_nil]
  rw [open_ok' _ "null" false ha]
  show fdGet (fdPut (fdDel q.fds 0) (minUnusedFd (fdDel q.fds 0) 0) _) m = _
  rw [hz, fdGet_fdPut, fdGet_fdPut, fdGet_fdDel]
  by_cases a : m = 0 <;> simp [a]

theorem PipeEnds.congr {k : Kind} {jc : Bool} {q q' : Proc} {rp r w : Nat} (hf : q'.fds = q.fds)
    (hn : q'.nofile = q.nofile) (h : PipeEnds k jc q rp r w) : PipeEnds k jc q' rp r w := by
  have ha := fdAllowed_congr hn
  obtain ⟨a, b, c, d⟩ := h
  exact ⟨by rw [hf, ha]; exact a, by rw [hf, ha]; exact b, c, by rw [ha]; exact d⟩

/-- The plumbing the snapshot shows (`plumb`, on any environment `env` whose process has the descriptor table of `q`)
    is what the child's own calls (`plumbCalls`) make of `q`, a process that holds the starter's pipe ends, those ends
    being closed again. -/
theorem plumb_is_own_calls (k : Kind) (jc : Bool) (q : Proc) (env : Env) (hq : env.system.fds = q.fds) (rp r w : Nat)
    (h : PipeEnds k jc q rp r w) (m : Nat) :
    fdGet (runCalls q (plumbCalls k jc rp r w)).fds m
      = if m ∈ kindEnds k rp r w then none else fdGet (plumb k jc env).system.fds m := by
  obtain ⟨hnext, hprev, hboth, hnull⟩ := h
  cases k with
  | paren => simp [plumbCalls, kindEnds, plumb, runCalls_nil, hq]
  | async =>
    cases jc with
    | true => simp [plumbCalls, kindEnds, plumb, runCalls_nil, hq]
    | false =>
      simp only [plumbCalls, Bool.false_eq_true, if_false, kindEnds, List.not_mem_nil, plumb, hq,
        plumb_null q (hnull rfl rfl) m]
  | subst | pipeF =>
    obtain ⟨_, hw, hrw, r2, w2, a1⟩ := hnext rfl
    have w1 : w ≠ 1 := by omega
    simp only [plumbCalls, kindPipes, moveToStdinStdout, ne_eq, w1, not_false_eq_true, if_true, List.append_nil,
      List.singleton_append, plumb_out q r w _ hw hrw w1 (by omega) a1 m, kindEnds, List.mem_cons, List.not_mem_nil,
      or_false, plumb, hq]
  | pipeL =>
    obtain ⟨hp, p2, a0⟩ := hprev rfl
    have p0 : rp ≠ 0 := by omega
    simp only [plumbCalls, kindPipes, moveToStdinStdout, ne_eq, p0, not_false_eq_true, if_true, List.nil_append,
      plumb_in q rp _ hp p0 a0 m, kindEnds, List.mem_cons, List.not_mem_nil, or_false, plumb, hq]
  | pipeM =>
    obtain ⟨_, hw, hrw, r2, w2, a1⟩ := hnext rfl
    obtain ⟨hp, p2, a0⟩ := hprev rfl
    obtain ⟨hpr, hpw⟩ := hboth rfl rfl
    have w1 : w ≠ 1 := by omega
    have p0 : rp ≠ 0 := by omega
    have out := plumb_out q r w _ hw hrw w1 (by omega) a1
    -- the first three calls leave the previous read end where it was, and the limit
    have hp' : fdGet (runCalls q [.close r, .dup2 w 1, .close w]).fds rp = some { label := "pipe" } := by
      rw [out rp, if_neg (by omega), fdGet_fdPut, if_neg (by omega), hp]
    have a0' : fdAllowed (runCalls q [.close r, .dup2 w 1, .close w]) 0 = true := by
      rw [fdAllowed_congr (FdCalls.of_calls q _ (by simp [Call.onFds])).same.nofile]; exact a0
    have inn := plumb_in _ rp _ hp' p0 a0'
    have e : plumbCalls .pipeM jc rp r w = [.close r, .dup2 w 1, .close w] ++ [.dup2 rp 0, .close rp] := by
      simp [plumbCalls, kindPipes, moveToStdinStdout, w1, p0]
    rw [e, runCalls_append]
    simp only [inn m, fdGet_fdPut, out m, kindEnds, List.mem_cons, List.not_mem_nil, or_false, plumb, hq]
    -- fd 0 and fd 1 are not among the ends, so closing the ends and writing 0 / 1 commute
    by_cases c : m = rp
    · rw [if_pos c, if_pos (.inl c)]
    · by_cases d : m = r ∨ m = w
      · rw [if_neg c, if_neg (by omega), if_pos d, if_pos (.inr d)]
      · have d' : ¬ (m = rp ∨ m = r ∨ m = w) := by omega
        by_cases z : m = 0
        · subst z; rw [if_neg c, if_pos rfl, if_neg d', if_neg (by decide), if_pos rfl]
        · rw [if_neg c, if_neg z, if_neg d, if_neg d', if_neg z]

end YashModel.Fork
