/-
  C08 — the SHARED state of the virtual system (`yash-env/src/system/virtual.rs`).

  In the code every virtual process is a handle `VirtualSystem { state: Rc<RefCell<SystemState>>, process_id }` on
  ONE `SystemState`; `SystemState::processes : BTreeMap<Pid, Process>` holds the per-process state of all of
  them.  `Fork/Model.lean` models the process state of a shell *by value* (`Env.system : Proc`).  This file
  models the shared table itself; the system calls the property's mutators reach (`Call`, `Call.runT`: each one a
  transcription of the `impl … for VirtualSystem` method and of the `Process` methods it calls, error branches
  included) live in `Fork/Model.lean` since wave 3, because the shell-level mutators are built from them —
  so that "a process can only change its own entry" (`exec_frame`, `interleaving_isolated` in SharedTheorems.lean)
  is a statement about the table, for every schedule of calls of any number of processes.

  Which entry of the table a method writes is not typed here: the translator re-extracts it from virtual.rs
  on every run (`Generated/ForkSystem.lean`, `systemWrites`); `syscalls_address_own_process` (Theorems.lean)
  checks that every method modelled below writes `processes[self.process_id]` only.

  Import-free apart from `YashModel.*`; executable (driven by the `X:` cases of harness/src/bin/c08.rs, which
  issue the REAL calls through several handles on one real `SystemState` in an arbitrary interleaving and
  print the whole process table after every call).
-/
import YashModel.Fork.Model

namespace YashModel.Fork
open YashModel.Trap (Disp Sys)

/-! The `Process` methods, the system calls (`Call`, `Call.runT`, `Call.run`) and `runCalls` live in `Fork/Model.lean`
    (the mutators of the shell-level model are built from them). -/

/-! ## `SystemState` -/

/-- `BTreeMap<Pid, Process>`: association list sorted by pid -/
abbrev ProcTable := List (Nat × Proc)

def ProcTable.get : ProcTable → Nat → Option Proc
  | [], _ => none
  | (k', v) :: t, k => if k = k' then some v else ProcTable.get t k

/-- `BTreeMap::insert` -/
def ProcTable.put : ProcTable → Nat → Proc → ProcTable
  | [], k, v => [(k, v)]
  | (k', v') :: t, k, v =>
    if k = k' then (k, v) :: t
    else if k < k' then (k, v) :: (k', v') :: t
    else (k', v') :: ProcTable.put t k v

/-- `processes.keys().max()` -/
def ProcTable.maxPid : ProcTable → Option Nat
  | [] => none
  | (k, _) :: t => some (match ProcTable.maxPid t with
    | none => k
    | some m => if k ≤ m then m else k)

/-- `SystemState` as far as the property goes (the file system is fixed, see `dirExists`) -/
structure SysState where
  processes : ProcTable

/-- One step of a schedule: process `pid` (the `process_id` of the handle used) performs a call, or forks. -/
inductive XOp where
  | call (c : Call)
  | fork
  deriving DecidableEq, Repr

/-- A call made through the handle of `pid`: `self.current_process_mut()` =
    `state.processes.get_mut(&self.process_id).unwrap()` — the entry of `pid` is replaced, nothing else is
    touched.  (A handle whose process does not exist would panic; the driver reports `nopid`.) -/
def SysState.exec (s : SysState) (pid : Nat) (c : Call) : String × SysState :=
  match s.processes.get pid with
  | none => ("nopid", s)
  | some p => ((c.run p).1, { s with processes := s.processes.put pid (c.run p).2 })

/-- `VirtualSystem::run_in_child_process`: the child's pid is the largest pid + 1 (2 in an empty table), its
    entry is `Process::fork_from(self.process_id, parent)`, inserted into the table. -/
def SysState.fork (copied : List (String × String)) (s : SysState) (pid : Nat) : String × SysState :=
  match s.processes.get pid with
  | none => ("nopid", s)
  | some p =>
    let child := match s.processes.maxPid with
      | none => 2
      | some m => m + 1
    (s!"pid{child}", { s with processes := s.processes.put child (Proc.forkFrom copied pid p) })

def SysState.step (copied : List (String × String)) (s : SysState) (pid : Nat) : XOp → String × SysState
  | .call c => s.exec pid c
  | .fork => s.fork copied pid

/-- a whole schedule: any interleaving of the calls of any number of processes -/
def SysState.run (copied : List (String × String)) (s : SysState) (sched : List (Nat × XOp)) : SysState :=
  sched.foldl (fun st x => (st.step copied x.1 x.2).2) s

/-- the system the harness starts from (`VirtualSystem::new`): one process, pid 2, child of pid 1 -/
def initialSys : SysState := { processes := [(2, baseEnv.system)] }

/-! ## Observation of an `X:` case: the result of every call and the WHOLE table after it -/

def showBlocked (p : Proc) : String :=
  ",".intercalate (((trackedConds.filter (·.2 ≠ 0)).filter (fun c => p.sys.blocked c.2)).map (·.1))

def showProcEntry (kv : Nat × Proc) : String :=
  s!"{kv.1}({kv.2.ppid})" ++ "{" ++ s!"{showSys kv.2} l={showLimit kv.2.nofile} b={showBlocked kv.2}" ++ "}"

def showTable (s : SysState) : String := " ".intercalate (s.processes.map showProcEntry)

/-- results and tables after every step, in order -/
def xTrace (copied : List (String × String)) : SysState → List (Nat × XOp) → List String
  | _, [] => []
  | s, x :: rest =>
    let r := s.step copied x.1 x.2
    (r.1 ++ " " ++ showTable r.2) :: xTrace copied r.2 rest

def xObservation (copied : List (String × String)) (sched : List (Nat × XOp)) : String :=
  " / ".intercalate (("start " ++ showTable initialSys) :: xTrace copied initialSys sched)

end YashModel.Fork
