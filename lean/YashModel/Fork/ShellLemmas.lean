/-
  C08 — the shell-level model.  A live starter sees the child of a subshell through its status and its output only
  (`runKind_live`); everything else goes by two schemas: what every step of a program keeps holds along every run
  (`runProg_invariant`), and what one fork + entry establishes holds for every kind of subshell (`entryEnv_rel`).
-/
import YashModel.Fork.RedirLemmas
namespace YashModel.Fork
open YashModel.Trap

/-- the starter after a subshell of kind `k` whose process ended with `childStatus` having printed `childEvents` -/
def afterSub (k : Kind) (sh : Shell) (during : List Op) (childStatus : Nat) (childEvents : List String) : Shell :=
  let jc := controlsJobs sh.env
  let p := parentSide k sh.env during
  let st := kindStatus k (p.env.options.contains "pipefail") childStatus
  let intr := interruptedBy k jc p.env (if k == .subst then childStatus else st)
  finishKind k { env := { p.env with exitStatus := st }, halted := p.halted,
                 events := sh.events ++ (if k == .subst && intr.isSome then [] else childEvents) ++ p.events } st intr

/-- the trap set and the signal state of the shell's process, as the state of the Trap model -/
def Env.trapState (env : Env) : Trap.State := { sys := env.system.sys, traps := env.traps }

/-- the part of the environment the invariants of a run speak about: the trap state and the job table -/
def Env.sigJobs (e : Env) : Trap.State × Jobs := (e.trapState, e.jobs)

/-- `env` with `st` written back, as `enterTraps`, `trapSet`, `monitorChanged`, `peekAll` do -/
def Env.withTrapState (env : Env) (st : Trap.State) : Env :=
  { env with traps := st.traps, system := { env.system with sys := st.sys } }

/-- the identities in a job table are fresh: every listed job was numbered before the counter -/
def JobsFresh (j : Jobs) : Prop := ∀ e ∈ j.list, e.2.1 < j.next

/-- a copy list that names the six per-process fields of the model makes `Process::fork_from` hand the child the
    parent's process, up to `ppid` -/
theorem forkFrom_of_copied (copied : List (String × String))
    (h : ∀ f ∈ ["fds", "cwd", "umask", "dispositions", "blocked_signals", "resource_limits"], isCopied copied f = true)
    (ppid : Nat) (p : Proc) : Proc.forkFrom copied ppid p = { p with ppid := ppid } := by
  simp only [List.mem_cons, List.not_mem_nil, or_false, forall_eq_or_imp, forall_eq] at h
  obtain ⟨h1, h2, h3, h4, h5, h6⟩ := h
  simp only [Proc.forkFrom, h1, h2, h3, h4, h5, h6, if_true]

/-- the one place where the generated copy list of `Process::fork_from` (`processForkMap`) enters the proofs -/
theorem forkFrom_impl (ppid : Nat) (p : Proc) : Proc.forkFrom implCopied ppid p = { p with ppid := ppid } :=
  forkFrom_of_copied implCopied (by decide +kernel) ppid p

theorem forkFrom_spec (ppid : Nat) (p : Proc) : Proc.forkFrom specCopied ppid p = { p with ppid := ppid } :=
  forkFrom_of_copied specCopied (by decide +kernel) ppid p

/-- ★ `Env::run_in_child_process`: for ANY child task (any function of the child's environment, of any result
    type) and any process-level copy list, the parent's environment after the call is the environment before.
    (In a value model this holds by construction — the child works on a copy; it is stated so that the
    correspondence run has a definite prediction.) -/
theorem fork_isolated {β : Type} (copied : List (String × String)) (env : Env) (childTask : Env → β) :
    (runInChild copied env childTask).1 = env := by
  cases env; rfl

theorem runInChild_eq {β : Type} (copied : List (String × String)) (env : Env) (childTask : Env → β) :
    runInChild copied env childTask = (env, childTask (forkedCopy copied env)) := by
  cases env; rfl

theorem startKind_eq {β : Type} (copied : List (String × String)) (k : Kind) (jc : Bool) (env : Env)
    (task : Env → β) : startKind copied k jc env task = (env, task (entryEnv copied k jc env)) := by
  unfold startKind entryEnv startSubshell
  cases k <;> cases jc <;> simp only [runInChild_eq, if_true, Bool.false_eq_true, if_false] <;> rfl

theorem kindStatus_cases (k : Kind) (pipefail : Bool) (st : Nat) :
    kindStatus k pipefail st = st ∨ kindStatus k pipefail st = 0 := by
  cases k <;> cases pipefail <;> simp [kindStatus]

theorem finishKind_env (k : Kind) (out : Shell) (st : Nat) (intr : Option Nat) :
    (finishKind k out st intr).env = out.env := by
  unfold finishKind
  split
  · rfl
  · cases intr with
    | some s => rfl
    | none => simp only []; split <;> rfl

theorem parentSide_sync (k : Kind) (env : Env) (during : List Op) (hk : k ≠ .async) :
    parentSide k env during = { env := env } := by
  cases k <;> first | exact absurd rfl hk | rfl

theorem interruptedBy_eq_none (k : Kind) (jc : Bool) (env : Env) (status : Nat)
    (h : env.stack.contains "Subshell" = true ∨ env.options.contains "interactive" = false
      ∨ sigintDefault env = false ∨ status ≠ 384 + SIGINT) :
    interruptedBy k jc env status = none := by
  unfold interruptedBy isInteractive
  split
  · rename_i hcond
    simp only [Bool.and_eq_true, Bool.not_eq_true', beq_iff_eq] at hcond
    obtain ⟨⟨⟨h1, _⟩, h3, h4⟩, h5⟩ := hcond
    rcases h with h | h | h | h
    · rw [h] at h4; cases h4
    · rw [h] at h3; cases h3
    · rw [h] at h5; cases h5
    · exact absurd h1 h
  · rfl

theorem finishKind_halted (k : Kind) (out : Shell) (st : Nat) (intr : Option Nat) :
    (finishKind k out st intr).halted
      = if out.halted.isSome then out.halted
        else match intr with
          | some s => some s
          | none => if st ≠ 0 ∧ out.env.options.contains "errexit" then some st else none := by
  unfold finishKind
  split
  · rfl
  · cases intr with
    | some s => rfl
    | none => simp only []; split <;> simp_all [exitShell]

/-- A live starter sees the child of a subshell through its status and its output, and through nothing else. -/
theorem runKind_live (copied : List (String × String)) (k : Kind) (sh : Shell) (body : Shell → Shell)
    (during : List Op) (h : sh.halted = none) :
    runKind copied k sh body during
      = afterSub k sh during ((childShell copied k sh body).halted.getD (childShell copied k sh body).env.exitStatus)
          (childShell copied k sh body).events := by
  unfold runKind afterSub
  simp only [h, Option.isSome_none, Bool.false_eq_true, if_false, startKind_eq]

theorem runKind_halted (copied : List (String × String)) (k : Kind) (sh : Shell) (body : Shell → Shell)
    (during : List Op) (n : Nat) (h : sh.halted = some n) : runKind copied k sh body during = sh := by
  unfold runKind
  rw [h]
  rfl

theorem afterSub_env (k : Kind) (sh : Shell) (during : List Op) (cs : Nat) (ev : List String) :
    (afterSub k sh during cs ev).env
      = { (parentSide k sh.env during).env with
          exitStatus := kindStatus k ((parentSide k sh.env during).env.options.contains "pipefail") cs } :=
  finishKind_env _ _ _ _

theorem afterSub_sync (k : Kind) (sh : Shell) (cs : Nat) (ev : List String) (hk : k ≠ .async)
    (hi : interruptedBy k (controlsJobs sh.env) sh.env
      (if k == .subst then cs else kindStatus k (sh.env.options.contains "pipefail") cs) = none)
    (herr : sh.env.options.contains "errexit" = false) :
    (afterSub k sh [] cs ev).halted = none
    ∧ (afterSub k sh [] cs ev).env
        = { sh.env with exitStatus := kindStatus k (sh.env.options.contains "pipefail") cs } := by
  have herr' : ¬ "errexit" ∈ sh.env.options := by simpa using herr
  refine ⟨?_, by rw [afterSub_env, parentSide_sync k _ [] hk]⟩
  unfold afterSub
  simp only [parentSide_sync k _ [] hk, hi, finishKind_halted]
  simp [herr']

theorem Env.withTrapState_trapState (env : Env) (st : Trap.State) : (env.withTrapState st).trapState = st := rfl

theorem peekAll_eq (env : Env) :
    peekAll env
      = env.withTrapState (trackedConds.foldl (fun (st : Trap.State) c => (Trap.peekState st c.2).1) env.trapState) :=
  rfl

theorem subshellEntry_trapState (ii ks : Bool) (env : Env) :
    (subshellEntry ii ks env).trapState = Trap.step env.trapState (.enterSubshell ii ks) := rfl

theorem trapSet_trapState (env : Env) (c : Nat) (a : TrapAct) :
    ∃ act ov, (trapSet env c a).trapState = Trap.step env.trapState (.setAction c act 0 ov) := ⟨_, _, rfl⟩

theorem getTty_trapState (env : Env) : (getTty env).trapState = env.trapState := by
  unfold Env.trapState
  rw [getTty_sys, getTty_eq]

/-- `set -m` / `set +m`: the trap state stays or the internal dispositions for the stop signals are switched, and then
    `get_tty` may run — nothing else -/
theorem monitorChanged_cases (o : String) (env : Env) :
    ∃ st, (st = env.trapState ∨ st = Trap.step env.trapState .enableStoppers
        ∨ st = Trap.step env.trapState .disableStoppers)
      ∧ (monitorChanged o env = env.withTrapState st ∨ monitorChanged o env = getTty (env.withTrapState st)) := by
  unfold monitorChanged
  split
  · exact ⟨_, .inl rfl, .inl rfl⟩
  · simp only []
    by_cases hc : (env.options.contains "interactive" && env.options.contains "monitor") = true
    · refine ⟨_, .inr (.inl rfl), ?_⟩
      rw [if_pos hc]
      split
      · exact .inr rfl
      · exact .inl rfl
    · refine ⟨_, .inr (.inr rfl), ?_⟩
      rw [if_neg hc]
      split
      · exact .inr rfl
      · exact .inl rfl

theorem monitorChanged_trapState (o : String) (env : Env) :
    (monitorChanged o env).trapState = env.trapState
    ∨ (monitorChanged o env).trapState = Trap.step env.trapState .enableStoppers
    ∨ (monitorChanged o env).trapState = Trap.step env.trapState .disableStoppers := by
  obtain ⟨st, hst, e | e⟩ := monitorChanged_cases o env <;> rw [e]
  · exact hst
  · rw [getTty_trapState]; exact hst

theorem monitorChanged_fdCalls (o : String) (env : Env) :
    FdCalls { env.system with sys := (monitorChanged o env).system.sys } (monitorChanged o env).system := by
  obtain ⟨st, _, e | e⟩ := monitorChanged_cases o env <;> rw [e]
  · exact .refl _
  · rw [getTty_sys]; exact getTty_fdCalls _

theorem monitorChanged_jobs (o : String) (env : Env) : (monitorChanged o env).jobs = env.jobs := by
  obtain ⟨st, _, e | e⟩ := monitorChanged_cases o env <;> rw [e]
  · rfl
  · rw [getTty_eq]; rfl

theorem plumb_eq (k : Kind) (jc : Bool) (env : Env) :
    plumb k jc env = { env with system := { env.system with fds := (plumb k jc env).system.fds } } := by
  cases k <;> cases jc <;> rfl

theorem plumb_trapState (k : Kind) (jc : Bool) (env : Env) : (plumb k jc env).trapState = env.trapState := by
  rw [plumb_eq]; rfl

theorem plumb_sys (k : Kind) (jc : Bool) (env : Env) : (plumb k jc env).system.sys = env.system.sys :=
  congrArg (·.sys) (plumb_trapState k jc env)

theorem redirOp_frame (sh : Shell) (n : Nat) (b : RedirBody) : (redirOp sh n b).env.sigJobs = sh.env.sigJobs := by
  rw [redirOp_env]
  unfold Env.sigJobs Env.trapState
  rw [(execRedir_same _ _ _).sys]

/-- What a mutator can do to that part: nothing, except that `set -m` / `set +m` reinitialise job control
    (`monitorChanged`), `trap` sets an action and `bg` adds a job. -/
theorem applyOpCore_frame (sh : Shell) (op : Op) :
    (applyOpCore sh op).env.sigJobs = sh.env.sigJobs
    ∨ (∃ o e, e.sigJobs = sh.env.sigJobs ∧ (applyOpCore sh op).env = monitorChanged o e)
    ∨ (∃ c a, (applyOpCore sh op).env = trapSet sh.env c a)
    ∨ (applyOpCore sh op).env = { sh.env with jobs := sh.env.jobs.add } := by
  -- one occurrence of the environment afterwards, so that `applyOpCore` is unfolded once
  generalize h : (applyOpCore sh op).env = e'
  cases op with
  | optOn o =>
    unfold applyOpCore at h; simp only [] at h
    split at h <;> subst h
    · exact .inl rfl
    · exact .inr (.inl ⟨o, { sh.env with options := insertSorted o sh.env.options }, rfl, rfl⟩)
  | optOff o =>
    unfold applyOpCore at h; simp only [] at h
    split at h <;> subst h
    · exact .inl rfl
    · exact .inr (.inl ⟨o, { sh.env with options := sh.env.options.filter (· ≠ o) }, rfl, rfl⟩)
  | trap c a => subst h; exact .inr (.inr (.inl ⟨c, a, rfl⟩))
  | bg => subst h; exact .inr (.inr (.inr rfl))
  | cd d =>
    unfold applyOpCore at h; simp only [] at h
    split at h <;> subst h
    · left; simp only [Env.sigJobs, Env.trapState, setVar, chdir_sys]
    · exact .inl rfl
  | fdw _ _ | fdr _ | fdd _ _ | fdc _ => subst h; exact .inl (redirOp_frame sh _ _)
  | shift | pl | cs | hd => unfold applyOpCore at h; simp only [] at h; split at h <;> subst h <;> exact .inl rfl
  | raise sig =>
    unfold applyOpCore at h; simp only [] at h
    repeat' split at h
    all_goals subst h; exact .inl rfl
  -- variables, functions, aliases, positional parameters, `umask`, `ulimit -n`, `local`, `exit`, `yield`, `plc`
  | _ => subst h; exact .inl rfl

theorem runExitTrap_env (sh : Shell) : (runExitTrap sh).env = sh.env := by
  unfold runExitTrap
  split
  · rfl
  · split <;> rfl

/-- errexit and `exit` end the shell; they do not touch its environment -/
theorem applyOp_env (sh : Shell) (op : Op) :
    (applyOp sh op).env = if sh.halted.isSome then sh.env else (applyOpCore sh op).env := by
  unfold applyOp
  split
  · rfl
  · simp only []
    split
    · rfl
    · split
      · rfl
      · split <;> rfl

theorem snapshotT_env (w : Bool) (sh : Shell) (tag : String) :
    (snapshotT w sh tag).env = if sh.halted.isSome || !w then sh.env else peekAll sh.env := by
  unfold snapshotT
  cases sh.halted.isSome <;> cases w <;> rfl

theorem runKind_env (copied : List (String × String)) (k : Kind) (sh : Shell) (body : Shell → Shell)
    (during : List Op) (h : sh.halted = none) :
    ∃ st, (runKind copied k sh body during).env = { (parentSide k sh.env during).env with exitStatus := st } :=
  ⟨_, by rw [runKind_live copied k sh body during h, afterSub_env]⟩

/-- A property of the trap state and the job table that `set -m` / `set +m`, the `trap` built-in, the `trap` listing of a
    snapshot and the starter's own job bookkeeping around `&` keep holds along every run of every program: no other step
    touches that part of the environment (`applyOpCore_frame`). -/
theorem runProg_invariant (copied : List (String × String)) (P : Env → Prop)
    (hfr : ∀ a b : Env, a.sigJobs = b.sigJobs → P a → P b)
    (hmon : ∀ o env, P env → P (monitorChanged o env))
    (htrap : ∀ env c a, P env → P (trapSet env c a))
    (hpeek : ∀ env, P env → P (peekAll env))
    (hadd : ∀ env, P env → P { env with jobs := env.jobs.add })
    (hrem : ∀ env, P env → P { env with jobs := env.jobs.removeLast }) :
    ∀ (p : Prog) (sh : Shell), P sh.env → P (runProg copied p sh).env := by
  have hst : ∀ (env : Env) (n : Nat), P env → P { env with exitStatus := n } := fun env _ => hfr env _ rfl
  have hop : ∀ (sh : Shell) (op : Op), P sh.env → P (applyOpCore sh op).env := by
    intro sh op h
    rcases applyOpCore_frame sh op with hf | ⟨o, e, hf, he⟩ | ⟨c, a, he⟩ | he
    · exact hfr _ _ hf.symm h
    · rw [he]; exact hmon o e (hfr _ _ hf.symm h)
    · rw [he]; exact htrap _ c a h
    · rw [he]; exact hadd _ h
  have hops : ∀ (l : List Op) (sh : Shell), P sh.env → P (applyOps sh l).env := by
    intro l
    induction l with
    | nil => intro sh h; exact h
    | cons op rest ih =>
      intro sh h
      refine ih _ ?_
      rw [applyOp_env]
      split
      · exact h
      · exact hop sh op h
  intro p
  induction p with
  | ops l => exact hops l
  | snap w tag =>
    intro sh h
    show P (snapshotT w sh tag).env
    rw [snapshotT_env]
    split
    · exact h
    · exact hpeek _ h
  | ok =>
    intro sh h
    show P (if sh.halted.isSome then sh else { sh with env := { sh.env with exitStatus := 0 } }).env
    split
    · exact h
    · exact hst _ _ h
  | exitTrap => intro sh h; show P (runExitTrap sh).env; rw [runExitTrap_env]; exact h
  | seq a b iha ihb => intro sh h; exact ihb _ (iha sh h)
  | sub k body during _ =>
    intro sh h
    show P (runKind copied k sh (runProg copied body) during).env
    cases hh : sh.halted with
    | some n => rw [runKind_halted copied k sh _ during n hh]; exact h
    | none =>
      obtain ⟨st, e⟩ := runKind_env copied k sh (runProg copied body) during hh
      rw [e]
      refine hst _ _ ?_
      by_cases hk : k = .async
      · subst hk
        exact hrem _ (hops during { env := { sh.env with jobs := sh.env.jobs.add } } (hadd _ h))
      · rw [parentSide_sync k sh.env during hk]; exact h

/-- `entryEnv` is one fork followed by the child prologue, or — for the member of a job-controlled pipeline — two
    of them: a relation that every such step establishes and that composes holds between the starter and the
    environment the task starts from. -/
theorem entryEnv_rel (copied : List (String × String)) {R : Env → Env → Prop}
    (step : ∀ ii ks e, R e (subshellEntry ii ks (forkedCopy copied e)))
    (trans : ∀ {a b c}, R a b → R b c → R a c) (k : Kind) (jc : Bool) (env : Env) :
    R env (entryEnv copied k jc env) := by
  unfold entryEnv
  split
  · exact step _ _ _
  · exact step _ _ _
  · exact step _ _ _
  · split
    · exact trans (step _ _ _) (step _ _ _)
    · exact step _ _ _

theorem entryEnv_proj (copied : List (String × String)) {α : Type} (f : Env → α)
    (hf : ∀ ii ks e, f (subshellEntry ii ks (forkedCopy copied e)) = f e) (k : Kind) (jc : Bool) (env : Env) :
    f (entryEnv copied k jc env) = f env :=
  entryEnv_rel copied (R := fun a b => f b = f a) hf (fun h1 h2 => h2.trans h1) k jc env

theorem runKind_congr (c1 c2 : List (String × String)) (h : Proc.forkFrom c1 = Proc.forkFrom c2) (k : Kind)
    (sh : Shell) (body : Shell → Shell) (during : List Op) :
    runKind c1 k sh body during = runKind c2 k sh body during := by
  cases hh : sh.halted with
  | some n => rw [runKind_halted c1 k sh body during n hh, runKind_halted c2 k sh body during n hh]
  | none =>
    rw [runKind_live c1 k sh body during hh, runKind_live c2 k sh body during hh]
    simp only [childShell, startKind_eq, entryEnv, forkedCopy, h]


theorem jobsFresh_add (j : Jobs) (h : JobsFresh j) : JobsFresh j.add := by
  intro e he
  simp only [Jobs.add, List.mem_append, List.mem_singleton] at he
  rcases he with he | he
  · have := h e he; show e.2.1 < j.next + 1; omega
  · subst he; show j.next < j.next + 1; omega

theorem jobsFresh_disownAll (j : Jobs) (h : JobsFresh j) : JobsFresh j.disownAll := by
  intro e he
  simp only [Jobs.disownAll, List.mem_map] at he
  obtain ⟨x, hx, rfl⟩ := he
  exact h x hx

theorem jobsFresh_removeLast (j : Jobs) (h : JobsFresh j) : JobsFresh j.removeLast := by
  unfold Jobs.removeLast
  cases j.last with
  | none => exact h
  | some u =>
    intro e he
    simp only [List.mem_filter] at he
    exact h e he.1

end YashModel.Fork
