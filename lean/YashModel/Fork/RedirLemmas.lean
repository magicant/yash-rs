/-
  C08 — what the shell builds from the calls of its process: the redirection engine (`openAndOverwrite`,
  `performRedir`, `execRedir`) and `Env::get_tty`.  Every step is a descriptor call of the process (`FdCalls`), so each
  touches the descriptor table only.
-/
import YashModel.Fork.CallLemmas
namespace YashModel.Fork

theorem oao_fdCalls (q : Proc) (n : Nat) (b : RedirBody) : FdCalls q (openAndOverwrite q n b).2 := by
  cases b with
  | close => exact .step (.close n) q rfl
  | file l =>
    simp only [openAndOverwrite]
    have ho := FdCalls.step (.open l) q rfl
    split
    · split
      · exact ho.trans ((FdCalls.step (.dup2 _ n) _ rfl).trans (.step (.close _) _ rfl))
      · exact ho
    · exact ho
  | copy s =>
    simp only [openAndOverwrite]
    split
    · exact .refl q
    · split
      · exact .refl q
      · split
        · exact .step (.dup2 s n) q rfl
        · exact .refl q

theorem performRedir_fdCalls (p : Proc) (n : Nat) (b : RedirBody) : FdCalls p (performRedir p n b).2.2 := by
  unfold performRedir
  have hs := FdCalls.step (.dup n minInternalFd true) p rfl
  have ho := hs.trans (oao_fdCalls ((Call.dup n minInternalFd true).runT p).2 n b)
  split
  · exact .refl p
  · simp only []
    split
    · split
      · exact ho
      · exact hs
    · split
      · exact ho
      · exact ho.trans (.step (.close _) _ rfl)
    · exact hs

/-- every step of a redirection of `exec`, successful or not, is a descriptor call of the process itself: the
    process afterwards is the process before with a list of its own descriptor calls applied -/
theorem execRedir_fdCalls (p : Proc) (n : Nat) (b : RedirBody) : FdCalls p (execRedir p n b).2 := by
  unfold execRedir
  have h := performRedir_fdCalls p n b
  simp only []
  split
  · exact h.trans (.step (.close _) _ rfl)
  · exact h

theorem execRedir_same (p : Proc) (t : Nat) (b : RedirBody) : p.SameButFds (execRedir p t b).2 :=
  (execRedir_fdCalls p t b).same

theorem getTty_spec (env : Env) :
    ∃ t q, getTty env = { env with tty := t, system := q } ∧ FdCalls env.system q := by
  unfold getTty
  have ho := FdCalls.step (.open "tty" true) env.system rfl
  split
  · exact ⟨_, _, rfl, .refl _⟩
  · simp only []
    split
    · rename_i k _
      have hc := ho.trans ((FdCalls.step (.dup k minInternalFd true) _ rfl).trans (.step (.close k) _ rfl))
      split
      · exact ⟨_, _, rfl, ho⟩
      · split
        · exact ⟨_, _, rfl, hc⟩
        · exact ⟨_, _, rfl, hc⟩
    · exact ⟨_, _, rfl, ho⟩

theorem getTty_fdCalls (env : Env) : FdCalls env.system (getTty env).system := by
  obtain ⟨t, q, e, h⟩ := getTty_spec env
  rw [e]; exact h

theorem getTty_sys (env : Env) : (getTty env).system.sys = env.system.sys := (getTty_fdCalls env).same.sys

theorem getTty_eq (env : Env) : getTty env = { env with tty := (getTty env).tty, system := (getTty env).system } := by
  obtain ⟨t, q, e, _⟩ := getTty_spec env
  rw [e]

theorem redirOp_env (sh : Shell) (n : Nat) (b : RedirBody) :
    (redirOp sh n b).env = { sh.env with system := (execRedir sh.env.system n b).2 } := by
  unfold redirOp builtinError
  simp only []
  split <;> rfl

theorem redirOp_fdCalls (sh : Shell) (n : Nat) (b : RedirBody) : FdCalls sh.env.system (redirOp sh n b).env.system := by
  rw [redirOp_env]
  exact execRedir_fdCalls sh.env.system n b

end YashModel.Fork
