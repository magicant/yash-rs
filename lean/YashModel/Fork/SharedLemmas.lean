/-
  C08 — the shared process table (`Fork/Shared.lean`) against its Spec (`Fork/Spec.lean`): a call or a fork changes
  one entry; a schedule of calls seen from one process; every run from `initialSys` keeps the entries the Spec's; the
  table, sorted by pid, is then the Spec's table as a list.
-/
import YashModel.Fork.Shared
import YashModel.Fork.Spec
import YashModel.Common.AList
namespace YashModel.Fork

/-! ## Key-sorted tables: in a table in `BTreeMap` order the members are what `get` answers, and the members determine
    the table.  Nothing here looks inside a `Proc`. -/

/-- `BTreeMap` order: strictly increasing pids -/
def ProcTable.Sorted (t : ProcTable) : Prop := t.Pairwise (fun a b => a.1 < b.1)

/-- the table listing `f q` for `q = lo, lo+1, …, lo+n-1` (those that exist) -/
def tabulate (f : Nat → Option Proc) (lo n : Nat) : ProcTable :=
  (List.range n).filterMap fun i => (f (i + lo)).map fun x => (i + lo, x)

theorem ProcTable.get_put (t : ProcTable) (k q : Nat) (v : Proc) :
    (t.put k v).get q = if q = k then some v else t.get q :=
  Common.get_put (get := ProcTable.get) (put := ProcTable.put) (stop := (· < ·))
    ⟨fun _ => rfl, fun _ _ _ _ => rfl⟩ ⟨fun _ _ => rfl, fun _ _ _ _ _ => rfl⟩ t k q v

theorem ProcTable.maxPid_spec (t : ProcTable) :
    (t.maxPid = none → ∀ q, t.get q = none)
    ∧ ∀ m, t.maxPid = some m → (t.get m).isSome = true ∧ ∀ q, m < q → t.get q = none := by
  induction t with
  | nil => exact ⟨fun _ _ => rfl, fun m h => (by cases h)⟩
  | cons hd tl ih =>
    obtain ⟨k, v⟩ := hd
    refine ⟨fun h => (by cases h), fun m h => ?_⟩
    unfold ProcTable.maxPid at h
    cases hm : ProcTable.maxPid tl with
    | none =>
      simp only [hm, Option.some.injEq] at h
      subst h
      refine ⟨by simp [ProcTable.get], fun q hq => ?_⟩
      rw [ProcTable.get, if_neg (by omega)]
      exact ih.1 hm q
    | some m' =>
      obtain ⟨hin, habove⟩ := ih.2 m' hm
      simp only [hm, Option.some.injEq] at h
      split at h <;> subst h
      · refine ⟨?_, fun q hq => ?_⟩
        · unfold ProcTable.get; split
          · rfl
          · exact hin
        · rw [ProcTable.get, if_neg (by omega)]
          exact habove q hq
      · refine ⟨by simp [ProcTable.get], fun q hq => ?_⟩
        rw [ProcTable.get, if_neg (by omega)]
        exact habove q (by omega)

theorem ProcTable.Sorted.mem_iff {t : ProcTable} (h : t.Sorted) (e : Nat × Proc) :
    e ∈ t ↔ t.get e.1 = some e.2 := by
  induction t with
  | nil => exact ⟨fun he => (nomatch he), fun he => (nomatch he)⟩
  | cons hd tl ih =>
    obtain ⟨k, v⟩ := hd
    obtain ⟨hlo, hs⟩ := List.pairwise_cons.mp h
    rw [List.mem_cons, ProcTable.get]
    by_cases hk : e.1 = k
    · -- only the head has the key `k`
      rw [if_pos hk]
      refine ⟨fun he => ?_, fun hv => .inl (Prod.ext hk (Option.some.inj hv).symm)⟩
      rcases he with rfl | he
      · rfl
      · exact absurd hk (Nat.ne_of_gt (hlo e he))
    · rw [if_neg hk, ← ih hs]
      refine ⟨fun he => ?_, .inr⟩
      rcases he with rfl | he
      · exact absurd rfl hk
      · exact he

theorem ProcTable.put_sorted (t : ProcTable) (k : Nat) (v : Proc) (h : t.Sorted) : (t.put k v).Sorted := by
  induction t with
  | nil => exact List.pairwise_singleton _ _
  | cons hd tl ih =>
    obtain ⟨k', v'⟩ := hd
    obtain ⟨hlo, (hs : ProcTable.Sorted tl)⟩ := List.pairwise_cons.mp h
    unfold ProcTable.put
    by_cases h1 : k = k'
    · rw [if_pos h1, h1]; exact List.pairwise_cons.mpr ⟨hlo, hs⟩
    · rw [if_neg h1]
      by_cases h2 : k < k'
      · rw [if_pos h2]
        refine List.pairwise_cons.mpr ⟨fun e he => ?_, h⟩
        rcases List.mem_cons.mp he with rfl | he
        · exact h2
        · exact Nat.lt_trans h2 (hlo e he)
      · rw [if_neg h2]
        refine List.pairwise_cons.mpr ⟨fun e he => ?_, ih hs⟩
        -- a member of the rest after the insertion is the new pair or was there before
        have hg := ((ih hs).mem_iff e).mp he
        rw [ProcTable.get_put] at hg
        by_cases hek : e.1 = k
        · show k' < e.1; omega
        · rw [if_neg hek] at hg; exact hlo e ((hs.mem_iff e).mpr hg)

theorem ProcTable.Sorted.nodup {t : ProcTable} (h : t.Sorted) : t.Nodup :=
  List.Pairwise.imp (fun hlt e => by rw [e] at hlt; exact Nat.lt_irrefl _ hlt) h

theorem ProcTable.Sorted.ext {a b : ProcTable} (ha : a.Sorted) (hb : b.Sorted) (h : ∀ e, e ∈ a ↔ e ∈ b) : a = b :=
  List.Perm.eq_of_pairwise (fun _ _ _ _ h1 h2 => absurd h1 (Nat.lt_asymm h2)) ha hb
    ((List.perm_ext_iff_of_nodup ha.nodup hb.nodup).mpr h)

theorem mem_tabulate (f : Nat → Option Proc) (lo n : Nat) (e : Nat × Proc) :
    e ∈ tabulate f lo n ↔ f e.1 = some e.2 ∧ lo ≤ e.1 ∧ e.1 < lo + n := by
  simp only [tabulate, List.mem_filterMap, List.mem_range, Option.map_eq_some_iff]
  constructor
  · rintro ⟨i, hi, x, hx, rfl⟩
    exact ⟨hx, by omega, by omega⟩
  · rintro ⟨hf, h1, h2⟩
    have e1 : e.1 - lo + lo = e.1 := Nat.sub_add_cancel h1
    exact ⟨e.1 - lo, by omega, e.2, by rw [e1]; exact hf, by rw [e1]⟩

theorem tabulate_sorted (f : Nat → Option Proc) (lo n : Nat) : (tabulate f lo n).Sorted := by
  unfold tabulate ProcTable.Sorted
  refine List.Pairwise.filterMap _ ?_ (List.pairwise_lt_range (n := n))
  intro a a' haa b hb b' hb'
  simp only [Option.map_eq_some_iff] at hb hb'
  obtain ⟨x, _, rfl⟩ := hb
  obtain ⟨x', _, rfl⟩ := hb'
  simp only
  omega

/-! ## A step and a run on the table, seen from one process -/

def SysState.nextPid (s : SysState) : Nat :=
  match s.processes.maxPid with
  | none => 2
  | some m => m + 1

/-- a schedule of two processes: `true` = a call of the child, `false` = a call of the parent -/
def schedOf (parent child : Nat) (sched : List (Bool × Call)) : List (Nat × XOp) :=
  sched.map fun x => (if x.1 then child else parent, .call x.2)

theorem step_processes (copied : List (String × String)) (s : SysState) (pid : Nat) (op : XOp) :
    (s.step copied pid op).2.processes = s.processes
    ∨ ∃ k v, (s.step copied pid op).2.processes = s.processes.put k v := by
  cases op with
  | call c =>
    show (s.exec pid c).2.processes = s.processes ∨ ∃ k v, (s.exec pid c).2.processes = s.processes.put k v
    unfold SysState.exec
    cases s.processes.get pid with
    | none => exact .inl rfl
    | some p => exact .inr ⟨_, _, rfl⟩
  | fork =>
    show (s.fork copied pid).2.processes = s.processes
      ∨ ∃ k v, (s.fork copied pid).2.processes = s.processes.put k v
    unfold SysState.fork
    cases s.processes.get pid with
    | none => exact .inl rfl
    | some p => exact .inr ⟨_, _, rfl⟩

theorem exec_get (s : SysState) (pid q : Nat) (c : Call) :
    (s.exec pid c).2.processes.get q
      = if q = pid then (s.processes.get pid).map (fun p => (c.run p).2) else s.processes.get q := by
  unfold SysState.exec
  cases h : s.processes.get pid with
  | none => by_cases hq : q = pid <;> simp [hq, h]
  | some p => simp [ProcTable.get_put]

theorem nextPid_fresh (s : SysState) : s.processes.get s.nextPid = none := by
  unfold SysState.nextPid
  cases h : s.processes.maxPid with
  | none => exact s.processes.maxPid_spec.1 h 2
  | some m => exact (s.processes.maxPid_spec.2 m h).2 (m + 1) (by omega)

theorem fork_get (copied : List (String × String)) (s : SysState) (pid q : Nat) :
    (s.fork copied pid).2.processes.get q
      = match s.processes.get pid with
        | none => s.processes.get q
        | some p => if q = s.nextPid then some (Proc.forkFrom copied pid p) else s.processes.get q := by
  unfold SysState.fork SysState.nextPid
  cases h : s.processes.get pid with
  | none => rfl
  | some p => exact ProcTable.get_put _ _ _ _

theorem fork_result (copied : List (String × String)) (s : SysState) (pid : Nat) :
    (s.fork copied pid).1
      = match s.processes.get pid with
        | none => "nopid"
        | some _ => s!"pid{s.nextPid}" := by
  unfold SysState.fork SysState.nextPid
  cases h : s.processes.get pid <;> rfl

theorem run_append (copied : List (String × String)) (s : SysState) (a b : List (Nat × XOp)) :
    s.run copied (a ++ b) = (s.run copied a).run copied b := by
  simp [SysState.run, List.foldl_append]

theorem run_snoc (copied : List (String × String)) (s : SysState) (a : List (Nat × XOp)) (x : Nat × XOp) :
    s.run copied (a ++ [x]) = ((s.run copied a).step copied x.1 x.2).2 := by
  rw [run_append]; rfl

theorem run_sorted (copied : List (String × String)) (sched : List (Nat × XOp)) :
    ∀ s : SysState, s.processes.Sorted → (s.run copied sched).processes.Sorted := by
  induction sched with
  | nil => intro s h; exact h
  | cons x rest ih =>
    intro s h
    refine ih _ ?_
    rcases step_processes copied s x.1 x.2 with e | ⟨k, v, e⟩
    · rw [e]; exact h
    · rw [e]; exact ProcTable.put_sorted _ _ _ h

/-- One process's view of a schedule of calls of ANY number of processes, from ANY table: the entry of every process
    `q` ends as `q`'s own calls, in their order, applied to the entry it had; a pid not in the table stays out of it. -/
theorem run_calls_get {α : Type} (copied : List (String × String)) (owner : α → Nat) (call : α → Call)
    (sched : List α) : ∀ (s : SysState) (q : Nat),
    (s.run copied (sched.map fun x => (owner x, .call (call x)))).processes.get q
      = (s.processes.get q).map fun p => runCalls p ((sched.filter fun x => owner x = q).map call) := by
  induction sched with
  | nil => intro s q; show s.processes.get q = _; cases s.processes.get q <;> rfl
  | cons x rest ih =>
    intro s q
    show ((s.exec (owner x) (call x)).2.run copied (rest.map fun x => (owner x, .call (call x)))).processes.get q = _
    rw [ih, exec_get]
    by_cases hq : owner x = q
    · subst hq
      rw [if_pos rfl, List.filter_cons_of_pos (by simp)]
      cases s.processes.get (owner x) <;> rfl
    · rw [if_neg (fun e => hq e.symm), List.filter_cons_of_neg (by simpa using hq)]

/-! ## The table against the Spec: `Matches` -/

/-- What the run from `initialSys` keeps true, for the history `h` (latest step first):
    the pids are exactly `2 … 2 + specCount h` and every entry is the Spec's.  (`pids` follows from `entries`, since
    which processes exist is a fact about the history alone — `specProc_isSome`; every `Matches` is built by
    `Matches.of_entries`.) -/
structure Matches (copied : List (String × String)) (s : SysState) (h : List (Nat × XOp)) : Prop where
  entries : ∀ q, s.processes.get q = specProc copied h q
  pids : ∀ q, (s.processes.get q).isSome = true ↔ (2 ≤ q ∧ q ≤ 2 + specCount h)

theorem Matches.nextPid {copied : List (String × String)} {s : SysState} {h : List (Nat × XOp)}
    (m : Matches copied s h) : s.nextPid = 3 + specCount h := by
  have h2 : (s.processes.get 2).isSome = true := (m.pids 2).mpr ⟨Nat.le_refl _, by omega⟩
  have htop : (s.processes.get (2 + specCount h)).isSome = true := (m.pids _).mpr ⟨by omega, Nat.le_refl _⟩
  unfold SysState.nextPid
  cases hm : s.processes.maxPid with
  | none => rw [s.processes.maxPid_spec.1 hm 2] at h2; cases h2
  | some mx =>
    obtain ⟨hmem, habove⟩ := s.processes.maxPid_spec.2 mx hm
    have hle := ((m.pids mx).mp hmem).2
    have hge : 2 + specCount h ≤ mx := Nat.le_of_not_lt fun hlt => by rw [habove _ hlt] at htop; cases htop
    show mx + 1 = 3 + specCount h
    omega

theorem specProc_isSome (copied : List (String × String)) (h : List (Nat × XOp)) :
    ∀ q, (specProc copied h q).isSome = true ↔ (2 ≤ q ∧ q ≤ 2 + specCount h) := by
  induction h with
  | nil =>
    intro q
    by_cases hq : q = 2
    · simp [specProc, specCount, hq]
    · simp only [specProc, specCount, hq, if_false]
      constructor
      · intro h; cases h
      · intro h; omega
  | cons x rest ih =>
    obtain ⟨p, op⟩ := x
    intro q
    cases op with
    | call c =>
      simp only [specProc, specCount]
      split
      · rw [Option.isSome_map]; exact ih q
      · exact ih q
    | fork =>
      simp only [specProc, specCount]
      by_cases hp : 2 ≤ p ∧ p ≤ 2 + specCount rest
      · by_cases hq : q = 3 + specCount rest
        · rw [if_pos ⟨hq, hp⟩, if_pos hp, Option.isSome_map, (ih p).mpr hp]
          constructor
          · intro _; omega
          · intro _; rfl
        · rw [if_neg (fun hc => hq hc.1), if_pos hp, ih q]; omega
      · rw [if_neg (fun hc => hp hc.2), if_neg hp]; exact ih q

theorem Matches.of_entries {copied : List (String × String)} {s : SysState} {h : List (Nat × XOp)}
    (he : ∀ q, s.processes.get q = specProc copied h q) : Matches copied s h :=
  ⟨he, fun q => by rw [he q]; exact specProc_isSome copied h q⟩

theorem matches_initial (copied : List (String × String)) : Matches copied initialSys [] := by
  refine .of_entries fun q => ?_
  by_cases hq : q = 2
  · subst hq; rfl
  · simp [initialSys, ProcTable.get, specProc, hq]

theorem matches_step (copied : List (String × String)) (s : SysState) (h : List (Nat × XOp))
    (m : Matches copied s h) (x : Nat × XOp) : Matches copied (s.step copied x.1 x.2).2 (x :: h) := by
  obtain ⟨p, op⟩ := x
  refine .of_entries fun q => ?_
  cases op with
  | call c =>
    show (s.exec p c).2.processes.get q = _
    rw [exec_get]
    simp only [specProc]
    by_cases hq : q = p
    · subst hq; simp [m.entries]
    · have : ¬ p = q := fun e => hq e.symm
      simp [hq, this, m.entries]
  | fork =>
    have hex : (s.processes.get p).isSome = true ↔ (2 ≤ p ∧ p ≤ 2 + specCount h) := m.pids p
    show (s.fork copied p).2.processes.get q = _
    rw [fork_get]
    simp only [specProc]
    cases hp : s.processes.get p with
    | none =>
      have hno : ¬ (2 ≤ p ∧ p ≤ 2 + specCount h) := by
        intro hc; have := hex.mpr hc; rw [hp] at this; cases this
      simp only []
      rw [if_neg (fun hc => hno hc.2), m.entries]
    | some v =>
      have hyes : 2 ≤ p ∧ p ≤ 2 + specCount h := hex.mp (by rw [hp]; rfl)
      simp only [m.nextPid]
      by_cases hq : q = 3 + specCount h
      · rw [if_pos hq, if_pos ⟨hq, hyes⟩, ← m.entries, hp]; rfl
      · rw [if_neg hq, if_neg (fun hc => hq hc.1), m.entries]

theorem matches_run_from (copied : List (String × String)) (sched : List (Nat × XOp)) :
    ∀ (s : SysState) (h : List (Nat × XOp)), Matches copied s h →
      Matches copied (s.run copied sched) (sched.reverse ++ h) := by
  induction sched with
  | nil => intro s h m; exact m
  | cons x rest ih =>
    intro s h m
    have m1 := matches_step copied s h m x
    have m2 := ih _ _ m1
    have e : (x :: rest).reverse ++ h = rest.reverse ++ (x :: h) := by simp
    rw [e]
    exact m2

theorem matches_run (copied : List (String × String)) (sched : List (Nat × XOp)) :
    Matches copied (initialSys.run copied sched) sched.reverse := by
  have := matches_run_from copied sched initialSys [] (matches_initial copied)
  simpa using this

theorem specProc_congr (c1 c2 : List (String × String)) (hf : Proc.forkFrom c1 = Proc.forkFrom c2)
    (h : List (Nat × XOp)) (q : Nat) : specProc c1 h q = specProc c2 h q := by
  induction h generalizing q with
  | nil => rfl
  | cons x rest ih =>
    obtain ⟨p, op⟩ := x
    cases op with
    | call c => simp only [specProc, ih]
    | fork => simp only [specProc, ih, hf]

theorem Matches.table_eq {copied : List (String × String)} {s : SysState} {h : List (Nat × XOp)}
    (m : Matches copied s h) (hs : s.processes.Sorted) : s.processes = specTable copied h := by
  show s.processes = tabulate (specProc copied h) 2 (specCount h + 1)
  refine hs.ext (tabulate_sorted _ _ _) fun e => ?_
  rw [hs.mem_iff, m.entries, mem_tabulate]
  refine ⟨fun he => ⟨he, ?_⟩, fun he => he.1⟩
  have := (specProc_isSome copied h e.1).mp (by rw [he]; rfl)
  omega

end YashModel.Fork
