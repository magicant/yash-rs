/-
  C06 — the nesting depth of a command tree (what the budget of `parseCommand` has to cover) is bounded by the length of
  its printed text: every level of nesting prints at least one character.
-/
import YashModel.Syntax.Model
namespace YashModel.Syntax

mutual
  def cdepth : Command → Nat
    | .simple _ => 0
    | .compound c _ => cpdepth c + 1
    | .function _ _ c _ => cpdepth c + 1
  def cpdepth : CompoundCommand → Nat
    | .grouping l => ldepth l
    | .subshell l => ldepth l
    | .forLoop _ _ b => ldepth b
    | .whileLoop c b => max (ldepth c) (ldepth b)
    | .untilLoop c b => max (ldepth c) (ldepth b)
    | .ifCmd c b es hasElse e =>
      max (max (ldepth c) (ldepth b)) (max (edepth es) (if hasElse then ldepth e else 0))
    | .caseCmd _ items => cidepth items
  def edepth : List ElifThen → Nat
    | [] => 0
    | .mk c b :: rest => max (max (ldepth c) (ldepth b)) (edepth rest)
  def cidepth : List CaseItem → Nat
    | [] => 0
    | .mk _ b _ :: rest => max (ldepth b) (cidepth rest)
  def csdepth : List Command → Nat
    | [] => 0
    | c :: cs => max (cdepth c) (csdepth cs)
  def pdepth : Pipeline → Nat
    | .mk cs _ => csdepth cs
  def rdepth : List AndOrRest → Nat
    | [] => 0
    | .mk _ p :: rs => max (pdepth p) (rdepth rs)
  def adepth : AndOrList → Nat
    | .mk p rs => max (pdepth p) (rdepth rs)
  def ldepth : List Item → Nat
    | [] => 0
    | .mk a _ :: rest => max (adepth a) (ldepth rest)
end

mutual
  theorem cdepth_le : ∀ c : Command, cdepth c ≤ (printCommand c).length
    | .simple _ => Nat.zero_le _
    | .compound c rs => by
      have := cpdepth_le c
      simp only [cdepth, printCommand, List.length_append]; omega
    | .function kw n c rs => by
      have := cpdepth_le c
      simp only [cdepth, printCommand, List.length_append]; omega
  theorem cpdepth_le : ∀ c : CompoundCommand, cpdepth c + 1 ≤ (printCompound c).length
    | .grouping l => by
      have := ldepth_le true l
      simp only [cpdepth, printCompound, List.length_append, str, String.reduceToList, List.length_cons]; omega
    | .subshell l => by
      have := ldepth_le false l
      simp only [cpdepth, printCompound, List.length_append, List.length_cons]; omega
    | .forLoop n vs b => by
      have := ldepth_le true b
      simp only [cpdepth, printCompound, List.length_append, str, String.reduceToList, List.length_cons]; omega
    | .whileLoop c b => by
      have h1 := ldepth_le true c
      have h2 := ldepth_le true b
      simp only [cpdepth, printCompound, List.length_append, str, String.reduceToList, List.length_cons]; omega
    | .untilLoop c b => by
      have h1 := ldepth_le true c
      have h2 := ldepth_le true b
      simp only [cpdepth, printCompound, List.length_append, str, String.reduceToList, List.length_cons]; omega
    | .ifCmd c b es hasElse e => by
      have h1 := ldepth_le true c
      have h2 := ldepth_le true b
      have h3 := edepth_le es
      have h4 := ldepth_le true e
      simp only [cpdepth, printCompound, List.length_append, str, String.reduceToList, List.length_cons]
      split <;> simp only [List.length_append, List.length_nil] <;> omega
    | .caseCmd s items => by
      have := cidepth_le items
      simp only [cpdepth, printCompound, List.length_append, str, String.reduceToList, List.length_cons]; omega
  theorem edepth_le : ∀ es : List ElifThen, edepth es ≤ (printElifs es).length
    | [] => Nat.zero_le _
    | .mk c b :: rest => by
      have h1 := ldepth_le true c
      have h2 := ldepth_le true b
      have h3 := edepth_le rest
      simp only [edepth, printElifs, List.length_append, List.length_cons]; omega
  theorem cidepth_le : ∀ is : List CaseItem, cidepth is ≤ (printCaseItems is).length
    | [] => Nat.zero_le _
    | .mk ps b k :: rest => by
      have h2 := ldepth_le false b
      have h3 := cidepth_le rest
      simp only [cidepth, printCaseItems, List.length_append, List.length_cons]; omega
  theorem csdepth_le : ∀ cs : List Command, csdepth cs ≤ (printCommands cs).length
    | [] => Nat.zero_le _
    | [c] => by
      have := cdepth_le c
      simp only [csdepth, printCommands]; omega
    | c :: d :: rest => by
      have h1 := cdepth_le c
      have h2 := csdepth_le (d :: rest)
      simp only [csdepth, printCommands, List.length_append] at h2 ⊢; omega
  theorem pdepth_le : ∀ p : Pipeline, pdepth p ≤ (printPipeline p).length
    | .mk cs neg => by
      have := csdepth_le cs
      simp only [pdepth, printPipeline, List.length_append]; omega
  theorem rdepth_le : ∀ rs : List AndOrRest, rdepth rs ≤ (printAndOrRest rs).length
    | [] => Nat.zero_le _
    | .mk a p :: rest => by
      have h1 := pdepth_le p
      have h2 := rdepth_le rest
      simp only [rdepth, printAndOrRest, List.length_append, List.length_cons]; omega
  theorem adepth_le : ∀ a : AndOrList, adepth a ≤ (printAndOr a).length
    | .mk p rs => by
      have h1 := pdepth_le p
      have h2 := rdepth_le rs
      simp only [adepth, printAndOr, List.length_append]; omega
  theorem ldepth_le (alt : Bool) : ∀ l : List Item, ldepth l ≤ (printList alt l).length
    | [] => Nat.zero_le _
    | [.mk a async] => by
      have := adepth_le a
      simp only [ldepth, printList, printItem, List.length_append]; omega
    | .mk a async :: j :: rest => by
      have h1 := adepth_le a
      have h2 := ldepth_le alt (j :: rest)
      simp only [ldepth, printList, printItem, List.length_append, List.length_cons] at h2 ⊢; omega
end

end YashModel.Syntax
