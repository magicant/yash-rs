/-
  C06 — commands of plain literal words lie in the fragment: a decidable sufficient condition (`plainArg`) for the leaves
  of the examples (`leaf`, `leaf_ok`).
-/
import YashModel.Syntax.Closed
namespace YashModel.Syntax

def plainChar (c : Char) : Bool := plainTok c && c != '~' && c != '#' && c != '='

def plainArg (s : List Char) : Bool := !s.isEmpty && s.all plainChar

theorem plainChar_facts (c : Char) (h : plainChar c = true) : plainTok c = true ∧ c ≠ '~' ∧ c ≠ '#' ∧ c ≠ '=' := by
  simp only [plainChar, Bool.and_eq_true, bne_iff_ne, ne_eq] at h
  exact ⟨h.1.1.1, h.1.1.2, h.1.2, h.2⟩

theorem plainArg_tok (s : List Char) (h : plainArg s = true) (next : List Char) :
    TokWordOk (digitsWord s) next := by
  simp only [plainArg, Bool.and_eq_true, Bool.not_eq_true', List.all_eq_true] at h
  cases s with
  | nil => simp at h
  | cons c cs =>
    obtain ⟨a1, a2, a3, _⟩ := plainChar_facts c (h.2 c (by simp))
    exact litWord_tok c next ⟨a1, a2, a3⟩ cs
      (List.all_eq_true.mpr fun x hx => (plainChar_facts x (h.2 x (by simp [hx]))).1)

theorem splitAssign_digitsWord (s : List Char) (h : '=' ∉ s) : splitAssign (digitsWord s) = none := by
  simpa [splitAssign] using splitAssign_lit s [] h

theorem plainArg_noAssign (s : List Char) (h : plainArg s = true) : assignOf (digitsWord s) = none := by
  have : '=' ∉ s := by
    intro hm
    simp only [plainArg, Bool.and_eq_true, List.all_eq_true] at h
    exact (plainChar_facts _ (h.2 _ hm)).2.2.2 rfl
  simp [assignOf, splitAssign_digitsWord s this]

theorem simpleOk_plain (w : List Char) (ws : List (List Char)) (hw : plainArg w = true)
    (hws : ws.all plainArg = true) (hk : isKeyword w = false) (tail : List Char) :
    SimpleOk ⟨[], (w :: ws).map digitsWord, []⟩ tail := by
  refine simpleOk_words ((w :: ws).map digitsWord) (by simp) tail ?_
  have hkw : isKeywordWord (digitsWord w) = false := by
    simp [isKeywordWord, wordLiteral_digitsWord, hk]
  -- the first piece, then the others by induction with a non-empty builder
  have rest : ∀ (vs : List (List Char)) (b : Builder), vs.all plainArg = true → b.words ≠ [] →
      PiecesOk b (wordPieces (vs.map digitsWord)) tail := by
    intro vs
    induction vs with
    | nil => intro _ _ _; simp [wordPieces, PiecesOk]
    | cons v vs ih =>
      intro b hv hb
      simp only [List.all_cons, Bool.and_eq_true] at hv
      simp only [wordPieces, List.map_cons, PiecesOk, PieceOk]
      refine ⟨⟨plainArg_tok v hv.1 _, fun e => absurd e hb, fun _ => by
        simp [plainArg_noAssign v hv.1]⟩, ?_⟩
      have := ih (b.push (.word (digitsWord v))) hv.2 (by simp [Builder.push])
      simpa [wordPieces] using this
  simp only [wordPieces, List.map_cons, PiecesOk, PieceOk]
  refine ⟨⟨plainArg_tok w hw _, fun _ => ⟨plainArg_noAssign w hw, fun e => by simp [hkw] at e⟩,
    fun e => by simp at e⟩, ?_⟩
  have := rest ws (Builder.push ⟨[], [], []⟩ (.word (digitsWord w))) hws (by simp [Builder.push])
  simpa [wordPieces] using this

/-- a simple command of literal plain words, as a leaf of examples -/
@[irreducible] def leaf (w : String) (ws : List String) : Command :=
  .simple ⟨[], (w.toList :: ws.map String.toList).map digitsWord, []⟩

theorem leaf_ok (w : String) (ws : List String) (hw : plainArg w.toList = true)
    (hws : (ws.map String.toList).all plainArg = true) (hk : isKeyword w.toList = false) (tail : List Char)
    (ht : TailOk tail) : CommandOk (leaf w ws) tail := by
  unfold leaf
  exact ⟨simpleOk_plain w.toList _ hw hws hk tail, ht⟩

end YashModel.Syntax
