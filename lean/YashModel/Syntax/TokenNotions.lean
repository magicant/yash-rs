/-
  C06 — the vocabulary of the token- and command-level statements.  Definitions only.
-/
import YashModel.Syntax.Fragment
import YashModel.Syntax.Parser
namespace YashModel.Syntax

/-- a character that cannot continue or start an operator -/
def NotOpChar (y : Char) : Prop := isOperatorChar y = false

/-- `Operator::from(RedirOp)` -/
def opOfRedirOp : RedirOp → Op
  | .fileIn => .less | .fileInOut => .lessGreater | .fileOut => .greater
  | .fileAppend => .greaterGreater | .fileClobber => .greaterBar | .fdIn => .lessAnd
  | .fdOut => .greaterAnd | .pipe => .greaterGreaterBar | .string => .lessLessLess

/-- `Operator::as_str` -/
def Op.text : Op → List Char
  | .newline => ['\n'] | .and => ['&'] | .andAnd => ['&', '&'] | .openParen => ['('] | .closeParen => [')']
  | .semicolon => [';'] | .semicolonAnd => [';', '&'] | .semicolonSemicolon => [';', ';']
  | .semicolonSemicolonAnd => [';', ';', '&'] | .semicolonBar => [';', '|'] | .less => ['<']
  | .lessAnd => ['<', '&'] | .lessOpenParen => ['<', '('] | .lessLess => ['<', '<']
  | .lessLessDash => ['<', '<', '-'] | .lessLessLess => ['<', '<', '<'] | .lessGreater => ['<', '>']
  | .greater => ['>'] | .greaterAnd => ['>', '&'] | .greaterOpenParen => ['>', '(']
  | .greaterGreater => ['>', '>'] | .greaterGreaterBar => ['>', '>', '|'] | .greaterBar => ['>', '|']
  | .bar => ['|'] | .barBar => ['|', '|']

/-- the characters that extend the operator to a longer one: the edges of its node in the `OPERATORS` trie -/
def Op.more : Op → List Char
  | .and => ['&'] | .semicolon => ['&', ';', '|'] | .semicolonSemicolon => ['&']
  | .less => ['&', '(', '<', '>'] | .lessLess => ['-', '<'] | .greater => ['&', '(', '>', '|']
  | .greaterGreater => ['|'] | .bar => ['|']
  | _ => []

/-- what follows does not extend the operator `o`: the lexer does not look at it (`o` has no longer form), or it
    starts no line continuation and its first character continues no longer operator -/
def OpStops (o : Op) (next : List Char) : Prop :=
  o.more = [] ∨ (skipLC next = next ∧ ∀ y t, next = y :: t → y ∉ o.more)

/-- operators that do not start a redirection -/
def Op.plain (o : Op) : Bool :=
  (redirOpOf o).isNone && o != .lessLess && o != .lessLessDash && o != .lessOpenParen &&
    o != .greaterOpenParen && o != .openParen

/-- command terminators -/
def TermOk (e : Char) : Prop := e = ';' ∨ e = '&' ∨ e = '|' ∨ e = ')' ∨ e = '\n'

instance (e : Char) : Decidable (TermOk e) := by unfold TermOk; exact inferInstance

/-- `Operator::from(CaseContinuation)` -/
def contOp : CaseCont → Op
  | .break_ => .semicolonSemicolon
  | .fallThrough => .semicolonAnd
  | .continue_ => .semicolonBar

/-- is the word a reserved word (`token_id`)? -/
def isKeywordWord (w : Word) : Bool := ((wordLiteral w).map isKeyword).getD false

/-- a word that is printed as a token of its own -/
structure TokWordOk (w : Word) (next : List Char) : Prop where
  ok : WordUnits.Ok .word .token w next
  nonempty : w ≠ []
  noTilde : NoTildeFront w
  noComment : (printWord w).head? ≠ some '#'

/-- what follows a printed token: the end of input, or a delimiter character that is not `<` or `>` -/
structure NextOk (next : List Char) : Prop where
  ends : next = [] ∨ ∃ x r, next = x :: r ∧ Delim.token.Ends x
  noAngle : nextIsAngle next = false

/-- tokens at which no word, redirection or command starts: the end of input or an operator that starts no
    redirection and is not `(` -/
def Stops (t : Token) : Prop := t.id = .endOfInput ∨ ∃ o, t.id = .op o ∧ o.plain = true

/-- the text after a command: the end of input, or an optional blank and a terminator character
    (`;`, `&`, `|`, `)`, newline) -/
def TailOk (tail : List Char) : Prop :=
  tail = [] ∨
  ∃ (sp : Bool) (e : Char) (rest : List Char), tail = (if sp then [' '] else []) ++ e :: rest ∧ TermOk e

/-- the first character of a printed command: not a newline, not a comment, not a blank, no line
    continuation -/
def HeadOk (x : List Char) : Prop :=
  ∃ y t, x = y :: t ∧ y ≠ '\n' ∧ y ≠ '#' ∧ isBlank y = false ∧ skipLC (y :: t) = y :: t

/-- a reserved word of plain characters, as a Boolean -/
def kwOk (k : String) : Bool :=
  match k.toList with
  | [] => false
  | c :: cs => (c :: cs).all plainTok && c != '~' && c != '#' && isKeyword (c :: cs)

/-- the reserved words the compound-command lemmas print and expect -/
abbrev Kw (k : String) : Prop := kwOk k = true

/-- the token read at a printed reserved word -/
def kwTok (k : String) : Token := ⟨digitsWord k.toList, .word true⟩

/-- conditions on a file descriptor number -/
def FdOk : Option Nat → Prop
  | none => True
  | some n => n ≤ 2147483647

/-- the redirections printed after a compound command -/
def RedirsOk : List Redir → List Char → Prop
  | [], _ => True
  | .normal fd _ w :: rs, tail => FdOk fd ∧ TokWordOk w (printRedirsSp rs ++ tail) ∧ RedirsOk rs tail
  | .hereDoc _ _ _ :: _, _ => False

end YashModel.Syntax
