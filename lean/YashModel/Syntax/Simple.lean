/-
  C06 — simple commands on printed text: the loop of `Parser::simple_command` read piece by piece (assignment, word,
  redirection, array assignment), ★ `simple_command_roundtrip`, and the commands of the fragment (`SimpleOk`) in front of a
  command tail.
-/
import YashModel.Syntax.Redir
namespace YashModel.Syntax
open YashModel.Common

/-! ## the simple-command loop -/

theorem loop_stops (cs : List Char) (t : Token) (r : List Char) (hl : lexToken cs = some (t, r))
    (h : Stops t ∨ t.id = .op .openParen) (b : Builder) (fuel : Nat) :
    parseSimpleLoop (fuel + 1) b cs = some (b, cs) := by
  have hr := parseRedir_stops cs t r hl (h.imp id Or.inr)
  rcases h with (hk | ⟨o, hk, _⟩) | hk <;> simp [parseSimpleLoop, hr, hl, hk]

theorem loop_word (w : Word) (next : List Char) (hw : TokWordOk w next) (hn : NextOk next)
    (sp : Bool) (b : Builder) (fuel : Nat)
    (h1 : b.words = [] → assignOf w = none ∧ (isKeywordWord w = true → b.isEmpty = false))
    (h2 : b.words ≠ [] → (hasUnquotedTilde w && (assignOf w).isSome) = false) :
    parseSimpleLoop (fuel + 1) b ((if sp then [' '] else []) ++ (printWord w ++ next)) =
      parseSimpleLoop fuel { b with words := b.words ++ [w] } next := by
  have ht := token_roundtrip w next hw hn sp
  have hr := parseRedir_word w next hw hn sp
  by_cases hbw : b.words = []
  · obtain ⟨ha, hk⟩ := h1 hbw
    have hkb : (isKeywordWord w && b.isEmpty) = false := by
      cases hkw : isKeywordWord w with
      | false => simp
      | true => simp [hk hkw]
    simp [parseSimpleLoop, hr, ht, hkb, hbw, ha]
  · have hbe : b.isEmpty = false := by
      cases hws : b.words with
      | nil => exact absurd hws hbw
      | cons x xs => simp [Builder.isEmpty, hws]
    have hwe : b.words.isEmpty = false := by
      cases hws : b.words with
      | nil => exact absurd hws hbw
      | cons x xs => rfl
    simp [parseSimpleLoop, hr, ht, hbe, hwe, h2 hbw]

theorem loop_redir (fd : Option Nat) (hfd : FdOk fd) (op : RedirOp) (w : Word) (next : List Char)
    (hw : TokWordOk w next) (hn : NextOk next) (sp : Bool) (b : Builder) (fuel : Nat) :
    parseSimpleLoop (fuel + 1) b
        ((if sp then [' '] else []) ++ (printRedir (.normal fd op w) ++ next)) =
      parseSimpleLoop fuel { b with redirs := b.redirs ++ [.normal fd op w] } next := by
  simp [parseSimpleLoop, redirection_roundtrip fd hfd op w next hw hn sp]

/-- the word token `name=value` -/
def assignWord (n : List Char) (v : Word) : Word := digitsWord n ++ .unquoted (.literal '=') :: v

theorem printWord_assignWord (n : List Char) (v : Word) :
    printWord (assignWord n v) = n ++ '=' :: printWord v := by
  simp [assignWord, printWord_append, printWord_digitsWord, printWord, printWordUnit, printTextUnit]

theorem splitAssign_lit (n : List Char) (w : Word) (h : '=' ∉ n) :
    splitAssign (digitsWord n ++ w) = (splitAssign w).map fun p => (n ++ p.1, p.2) := by
  induction n with
  | nil => cases hs : splitAssign w <;> simp [digitsWord, hs]
  | cons c n ih =>
    have hc : c ≠ '=' := by intro e; apply h; simp [e]
    have := ih (fun e => h (by simp [e]))
    simp only [digitsWord, List.map_cons, List.cons_append] at this ⊢
    simp only [splitAssign, hc, if_false, this]
    cases splitAssign w <;> simp

theorem splitAssign_assignWord (n : List Char) (v : Word) (h : '=' ∉ n) :
    splitAssign (assignWord n v) = some (n, v) := by
  simp [assignWord, splitAssign_lit n _ h, splitAssign]

theorem assignOf_assignWord (n : List Char) (v : Word) (h : '=' ∉ n) (hne : n ≠ []) :
    assignOf (assignWord n v) = some (n, v) := by
  cases n with
  | nil => exact absurd rfl hne
  | cons c n => simp [assignOf, splitAssign_assignWord _ v h]

theorem wordLiteral_assignWord (n : List Char) (v : Word) :
    wordLiteral (assignWord n v) = (wordLiteral v).map fun s => n ++ '=' :: s := by
  induction n with
  | nil =>
    simp only [assignWord, digitsWord, List.map_nil, List.nil_append, wordLiteral]
  | cons c n ih =>
    simp only [assignWord, digitsWord, List.map_cons, List.cons_append] at ih ⊢
    simp only [wordLiteral, ih]
    cases wordLiteral v <;> simp

theorem isKeyword_has_eq (s : List Char) (h : '=' ∈ s) : isKeyword s = false :=
  not_isKeyword (·.contains '=') (by decide) s (by simpa using h)

theorem isKeywordWord_assignWord (n : List Char) (v : Word) : isKeywordWord (assignWord n v) = false := by
  simp only [isKeywordWord, wordLiteral_assignWord]
  cases wordLiteral v with
  | none => simp
  | some s => simp [isKeyword_has_eq]

theorem loop_assign (n : List Char) (v : Word) (next : List Char)
    (hw : TokWordOk (assignWord n v) next) (hn : NextOk next) (sp : Bool) (b : Builder) (fuel : Nat)
    (hb : b.words = []) (h1 : '=' ∉ n) (h2 : n ≠ []) (h3 : hasUnquotedTilde v = false)
    (h4 : (v.isEmpty && arrayFollows next) = false) :
    parseSimpleLoop (fuel + 1) b ((if sp then [' '] else []) ++ ((n ++ '=' :: printWord v) ++ next)) =
      parseSimpleLoop fuel { b with assigns := b.assigns ++ [⟨n, .scalar v⟩] } next := by
  rw [← printWord_assignWord]
  have ht := token_roundtrip _ next hw hn sp
  have hr := parseRedir_word _ next hw hn sp
  simp [parseSimpleLoop, hr, ht, isKeywordWord_assignWord, hb, assignOf_assignWord n v h1 h2, h3, h4]

/-! ## Array assignments `name=(w₁ … wₙ)` -/

/-- the printed words of an array value -/
def printArrayWords (ws : List Word) : List Char := joinWith [' '] (ws.map printWord)

/-- the words of an array value, given the text after the closing parenthesis -/
def ArrWordsOk : List Word → List Char → Prop
  | [], _ => True
  | [w], next => TokWordOk w (')' :: next)
  | w :: v :: ws, next => TokWordOk w (' ' :: (printArrayWords (v :: ws) ++ ')' :: next)) ∧ ArrWordsOk (v :: ws) next

theorem printArrayWords_cons2 (w v : Word) (ws : List Word) :
    printArrayWords (w :: v :: ws) = printWord w ++ ' ' :: printArrayWords (v :: ws) := by
  simp [printArrayWords, joinWith]

theorem arrWords_rt (next : List Char) :
    ∀ (ws : List Word) (fuel : Nat) (sp : Bool), (printArrayWords ws ++ ')' :: next).length + 1 ≤ fuel →
      (ws = [] → sp = false) → ArrWordsOk ws next →
      parseArrayWords fuel ((if sp then [' '] else []) ++ (printArrayWords ws ++ ')' :: next)) = some (ws, next) := by
  intro ws
  induction ws with
  | nil =>
    intro fuel sp hf hsp _
    obtain ⟨k, rfl⟩ := exists_succ_of_le (show 0 + 1 ≤ fuel by omega)
    simp [hsp rfl, printArrayWords, joinWith, parseArrayWords, lexToken_rparen]
  | cons w ws ih =>
    intro fuel sp hf _ hok
    obtain ⟨k, rfl⟩ := exists_succ_of_le (show 0 + 1 ≤ fuel by omega)
    cases ws with
    | nil =>
      have hw : TokWordOk w (')' :: next) := hok
      have ht := token_roundtrip w _ hw (nextOk_rparen next) sp
      obtain ⟨j, rfl⟩ : ∃ j, k = j + 1 := ⟨k - 1, by simp only [List.length_append, List.length_cons] at hf; omega⟩
      simp [printArrayWords, joinWith, parseArrayWords, ht, lexToken_rparen]
    | cons v vs =>
      obtain ⟨hw, hrest⟩ := hok
      have ht := token_roundtrip w _ hw (nextOk_blank _) sp
      have ih' := ih k true (by
        rw [printArrayWords_cons2] at hf
        simp only [List.length_append, List.length_cons] at hf ⊢; omega) (by intro e; cases e) hrest
      simp only [if_true, List.singleton_append] at ih'
      rw [printArrayWords_cons2]
      simp only [List.append_assoc, List.cons_append]
      rw [parseArrayWords]
      rw [ht]
      simp [ih']

def printArrayAssign (n : List Char) (ws : List Word) : List Char :=
  n ++ '=' :: '(' :: (printArrayWords ws ++ [')'])

theorem loop_arrayAssign (n : List Char) (ws : List Word) (next : List Char)
    (hw : TokWordOk (assignWord n []) ('(' :: (printArrayWords ws ++ ')' :: next)))
    (sp : Bool) (b : Builder) (fuel : Nat)
    (hb : b.words = []) (h1 : '=' ∉ n) (h2 : n ≠ []) (hws : ArrWordsOk ws next) :
    parseSimpleLoop (fuel + 1) b ((if sp then [' '] else []) ++ (printArrayAssign n ws ++ next)) =
      parseSimpleLoop fuel { b with assigns := b.assigns ++ [⟨n, .array ws⟩] } next := by
  have hn := nextOk_lparen (printArrayWords ws ++ ')' :: next)
  have ht := token_roundtrip _ _ hw hn sp
  have hr := parseRedir_word _ _ hw hn sp
  rw [printWord_assignWord] at ht hr
  simp only [printWord, List.append_assoc, List.cons_append, List.nil_append] at ht hr
  have hlp : lexToken ('(' :: (printArrayWords ws ++ ')' :: next)) = _ :=
    lexToken_opText .openParen _ (Or.inl rfl) false
  have ha := arrWords_rt next ws ((printArrayWords ws ++ ')' :: next).length + 2) false (by omega) (fun _ => rfl) hws
  simp only [Bool.false_eq_true, if_false, List.nil_append, List.length_append, List.length_cons] at ha
  have hx : printArrayAssign n ws ++ next = n ++ '=' :: '(' :: (printArrayWords ws ++ ')' :: next) := by
    simp [printArrayAssign]
  rw [hx]
  simp [parseSimpleLoop, hr, ht, isKeywordWord_assignWord, hb, assignOf_assignWord n [] h1 h2, hasUnquotedTilde,
    arrayFollows, skipLC_cons_ne, hlp, ha]

/-- the printed pieces of a simple command -/
inductive Piece
  | assign (name : List Char) (v : Word)
  | word (w : Word)
  | redir (fd : Option Nat) (op : RedirOp) (w : Word)
  | arrayAssign (name : List Char) (ws : List Word)

def Piece.print : Piece → List Char
  | .assign n v => n ++ '=' :: printWord v
  | .word w => printWord w
  | .redir fd op w => printRedir (.normal fd op w)
  | .arrayAssign n ws => printArrayAssign n ws

def Builder.push (b : Builder) : Piece → Builder
  | .assign n v => { b with assigns := b.assigns ++ [⟨n, .scalar v⟩] }
  | .word w => { b with words := b.words ++ [w] }
  | .redir fd op w => { b with redirs := b.redirs ++ [.normal fd op w] }
  | .arrayAssign n ws => { b with assigns := b.assigns ++ [⟨n, .array ws⟩] }

/-- what the parser needs to know about a piece, given the builder state and the text that follows -/
def PieceOk (b : Builder) : Piece → List Char → Prop
  | .assign n v, next =>
    b.words = [] ∧ TokWordOk (assignWord n v) next ∧ '=' ∉ n ∧ n ≠ [] ∧ hasUnquotedTilde v = false ∧
      (v.isEmpty && arrayFollows next) = false
  | .word w, next =>
    TokWordOk w next ∧
      (b.words = [] → assignOf w = none ∧ (isKeywordWord w = true → b.isEmpty = false)) ∧
      (b.words ≠ [] → (hasUnquotedTilde w && (assignOf w).isSome) = false)
  | .redir fd _ w, next => FdOk fd ∧ TokWordOk w next
  | .arrayAssign n ws, next =>
    b.words = [] ∧ TokWordOk (assignWord n []) ('(' :: (printArrayWords ws ++ ')' :: next)) ∧ '=' ∉ n ∧ n ≠ [] ∧
      ArrWordsOk ws next

def printPieces (ps : List Piece) : List Char := joinWith [' '] (ps.map Piece.print)

/-- the text that follows the first of the pieces `p :: ps` -/
def afterPiece (ps : List Piece) (tail : List Char) : List Char :=
  (if ps.isEmpty then [] else [' ']) ++ (printPieces ps ++ tail)

def PiecesOk (b : Builder) : List Piece → List Char → Prop
  | [], _ => True
  | p :: ps, tail => PieceOk b p (afterPiece ps tail) ∧ PiecesOk (b.push p) ps tail

theorem printPieces_cons (p : Piece) (ps : List Piece) (tail : List Char) :
    printPieces (p :: ps) ++ tail = p.print ++ afterPiece ps tail := by
  cases ps with
  | nil => simp [printPieces, joinWith, afterPiece]
  | cons q qs => simp [printPieces, joinWith, afterPiece]

theorem afterPiece_eq (ps : List Piece) (tail : List Char) :
    afterPiece ps tail = (if (!ps.isEmpty) = true then [' '] else []) ++ (printPieces ps ++ tail) := by
  cases ps <;> simp [afterPiece]

theorem loop_eof (b : Builder) (fuel : Nat) : parseSimpleLoop (fuel + 1) b [] = some (b, []) :=
  loop_stops [] _ _ lexToken_eof (Or.inl (Or.inl rfl)) b fuel

/-- where the simple-command loop stops: a delimiter or the end of input follows and the loop returns its builder there.
    Wider than `TailOk`: a function name is read in front of `(`, which ends no command (`stopTail_paren`). -/
structure StopTail (tail : List Char) : Prop where
  next : NextOk tail
  stop : ∀ (b : Builder) (fuel : Nat), parseSimpleLoop (fuel + 1) b tail = some (b, tail)

theorem stopTail_of_tailOk (tail : List Char) (h : TailOk tail) : StopTail tail := by
  obtain ⟨t, r, hl, hs⟩ := tail_stops tail h
  exact ⟨nextOk_tail tail h, loop_stops tail t r hl (Or.inl hs)⟩

theorem nextOk_after_tail (ps : List Piece) (tail : List Char) (h : NextOk tail) :
    NextOk (afterPiece ps tail) := by
  cases ps with
  | nil => simpa [afterPiece, printPieces, joinWith] using h
  | cons q qs =>
    simpa [afterPiece] using nextOk_blank (printPieces (q :: qs) ++ tail)

theorem loop_pieces_tail (tail : List Char) (ht : StopTail tail) :
    ∀ (ps : List Piece) (b : Builder) (fuel : Nat) (sp : Bool), ps.length + 1 ≤ fuel →
      (ps = [] → sp = false) → PiecesOk b ps tail →
      parseSimpleLoop fuel b ((if sp then [' '] else []) ++ (printPieces ps ++ tail)) =
        some (ps.foldl Builder.push b, tail) := by
  intro ps
  induction ps with
  | nil =>
    intro b fuel sp hf hsp _
    obtain ⟨k, rfl⟩ := exists_succ_of_le hf
    simpa [hsp rfl, printPieces, joinWith] using ht.stop b k
  | cons p ps ih =>
    intro b fuel sp hf _ hok
    obtain ⟨k, rfl⟩ := exists_succ_of_le hf
    obtain ⟨hp, hrest⟩ := hok
    have hn := nextOk_after_tail ps tail ht.next
    have ih' := ih (b.push p) k (!ps.isEmpty) (by simp at hf; omega) (by intro h; simp [h]) hrest
    rw [← afterPiece_eq] at ih'
    rw [printPieces_cons, List.foldl_cons, ← ih']
    cases p with
    | assign n v =>
      obtain ⟨h0, h1, h2, h3, h4, h5⟩ := hp
      exact loop_assign n v _ h1 hn sp b k h0 h2 h3 h4 h5
    | word w =>
      obtain ⟨h1, h2, h3⟩ := hp
      exact loop_word w _ h1 hn sp b k h2 h3
    | redir fd op w =>
      obtain ⟨h1, h2⟩ := hp
      exact loop_redir fd h1 op w _ h2 hn sp b k
    | arrayAssign n ws =>
      obtain ⟨h0, h1, h2, h3, h4⟩ := hp
      exact loop_arrayAssign n ws _ h1 sp b k h0 h2 h3 h4

theorem loop_pieces_eof :
    ∀ (ps : List Piece) (b : Builder) (fuel : Nat) (sp : Bool), ps.length + 1 ≤ fuel →
      (ps = [] → sp = false) → PiecesOk b ps [] →
      parseSimpleLoop fuel b ((if sp then [' '] else []) ++ printPieces ps) =
        some (ps.foldl Builder.push b, []) := by
  simpa only [List.append_nil] using loop_pieces_tail [] ⟨nextOk_nil, loop_eof⟩

/-- a simple command with scalar assignments and normal redirections -/
def mkSimple (as : List (List Char × Word)) (ws : List Word)
    (rs : List (Option Nat × RedirOp × Word)) : SimpleCommand :=
  ⟨as.map fun a => ⟨a.1, .scalar a.2⟩, ws, rs.map fun r => .normal r.1 r.2.1 r.2.2⟩

def assignPieces (as : List (List Char × Word)) : List Piece := as.map fun a => .assign a.1 a.2

def wordPieces (ws : List Word) : List Piece := ws.map .word

def redirPieces (rs : List (Option Nat × RedirOp × Word)) : List Piece :=
  rs.map fun r => .redir r.1 r.2.1 r.2.2

/-- the pieces in the order `impl Display for SimpleCommand` prints them -/
def simplePieces (as : List (List Char × Word)) (ws : List Word)
    (rs : List (Option Nat × RedirOp × Word)) : List Piece :=
  if !(mkSimple as ws rs).assigns.isEmpty || !firstWordIsKeyword (mkSimple as ws rs) then
    assignPieces as ++ wordPieces ws ++ redirPieces rs
  else redirPieces rs ++ wordPieces ws

/-- the assignment pieces of arbitrary assignments (scalar or array) -/
def assignPiecesV (as : List Assign) : List Piece :=
  as.map fun a => match a.value with
    | .scalar v => .assign a.name v
    | .array ws => .arrayAssign a.name ws

/-- a simple command with arbitrary assignments (scalar or array), words and normal redirections -/
def mkSimpleV (as : List Assign) (ws : List Word) (rs : List (Option Nat × RedirOp × Word)) : SimpleCommand :=
  ⟨as, ws, rs.map fun r => .normal r.1 r.2.1 r.2.2⟩

/-- its pieces in the order `impl Display for SimpleCommand` prints them; `simplePieces` is the case of scalar
    assignments (`simplePieces_eq`) -/
def simplePiecesV (as : List Assign) (ws : List Word) (rs : List (Option Nat × RedirOp × Word)) : List Piece :=
  if !as.isEmpty || !firstWordIsKeyword (mkSimpleV as ws rs) then
    assignPiecesV as ++ wordPieces ws ++ redirPieces rs
  else redirPieces rs ++ wordPieces ws

theorem simplePieces_eq (as : List (List Char × Word)) (ws : List Word) (rs : List (Option Nat × RedirOp × Word)) :
    simplePieces as ws rs = simplePiecesV (as.map fun a => ⟨a.1, .scalar a.2⟩) ws rs := by
  simp [simplePieces, simplePiecesV, mkSimple, mkSimpleV, assignPieces, assignPiecesV, List.map_map,
    Function.comp_def]

/-! what the pieces add to the builder -/

theorem foldl_assignsV (as : List Assign) (b : Builder) :
    (assignPiecesV as).foldl Builder.push b = { b with assigns := b.assigns ++ as } := by
  induction as generalizing b with
  | nil => simp [assignPiecesV]
  | cons a as ih =>
    simp only [assignPiecesV, List.map_cons, List.foldl_cons] at ih ⊢
    rw [ih]
    obtain ⟨n, v⟩ := a
    cases v <;> simp [Builder.push]

theorem foldl_words (ws : List Word) (b : Builder) :
    (wordPieces ws).foldl Builder.push b = { b with words := b.words ++ ws } := by
  induction ws generalizing b with
  | nil => simp [wordPieces]
  | cons a as ih =>
    simp only [wordPieces, List.map_cons, List.foldl_cons] at ih ⊢
    rw [ih]
    simp [Builder.push]

theorem foldl_redirs (rs : List (Option Nat × RedirOp × Word)) (b : Builder) :
    (redirPieces rs).foldl Builder.push b =
      { b with redirs := b.redirs ++ rs.map fun r => .normal r.1 r.2.1 r.2.2 } := by
  induction rs generalizing b with
  | nil => simp [redirPieces]
  | cons a as ih =>
    simp only [redirPieces, List.map_cons, List.foldl_cons] at ih ⊢
    rw [ih]
    simp [Builder.push]

theorem foldl_push_nonempty (ps : List Piece) (hps : ps ≠ []) :
    (ps.foldl Builder.push ⟨[], [], []⟩).isEmpty = false := by
  obtain ⟨qs, p, rfl⟩ : ∃ qs p, ps = qs ++ [p] := ⟨ps.dropLast, ps.getLast hps, (List.dropLast_concat_getLast hps).symm⟩
  rw [List.foldl_append]
  cases p <;> simp [Builder.push, Builder.isEmpty]

theorem foldl_simplePiecesV (as : List Assign) (ws : List Word) (rs : List (Option Nat × RedirOp × Word)) :
    (simplePiecesV as ws rs).foldl Builder.push ⟨[], [], []⟩ =
      ⟨as, ws, (mkSimpleV as ws rs).redirs⟩ := by
  unfold simplePiecesV
  split
  · simp [List.foldl_append, foldl_assignsV, foldl_words, foldl_redirs, mkSimpleV]
  · rename_i h
    have : as = [] := by
      cases as with
      | nil => rfl
      | cons a as => simp at h
    subst this
    simp [List.foldl_append, foldl_words, foldl_redirs, mkSimpleV]

theorem simplePiecesV_ne_nil (as : List Assign) (ws : List Word) (rs : List (Option Nat × RedirOp × Word))
    (hne : as ≠ [] ∨ ws ≠ [] ∨ rs ≠ []) : simplePiecesV as ws rs ≠ [] := by
  intro e
  have := foldl_simplePiecesV as ws rs
  rw [e] at this
  simp [mkSimpleV] at this
  obtain ⟨a1, a2, a3⟩ := this
  rcases hne with h | h | h
  · exact h a1
  · exact h a2
  · exact h a3

/-! … and how they print -/

theorem printAssign_piece (a : Assign) :
    printAssign a = (match a.value with
      | .scalar v => Piece.assign a.name v
      | .array ws => Piece.arrayAssign a.name ws).print := by
  obtain ⟨n, v⟩ := a
  cases v <;> simp [printAssign, printValue, Piece.print, printArrayAssign, printArrayWords]

theorem printSimple_piecesV (as : List Assign) (ws : List Word) (rs : List (Option Nat × RedirOp × Word)) :
    printSimple (mkSimpleV as ws rs) = printPieces (simplePiecesV as ws rs) := by
  have ha : as.map printAssign = (assignPiecesV as).map Piece.print := by
    simp only [assignPiecesV, List.map_map]
    exact List.map_congr_left fun a _ => by simpa using printAssign_piece a
  unfold printSimple simplePiecesV printPieces
  simp only [show (mkSimpleV as ws rs).assigns = as from rfl, show (mkSimpleV as ws rs).words = ws from rfl, ha]
  split <;> simp [mkSimpleV, wordPieces, redirPieces, List.map_append, List.map_map, Function.comp_def, Piece.print]

/-! the scalar case -/

theorem printSimple_pieces (as : List (List Char × Word)) (ws : List Word)
    (rs : List (Option Nat × RedirOp × Word)) :
    printSimple (mkSimple as ws rs) = printPieces (simplePieces as ws rs) := by
  rw [simplePieces_eq]; exact printSimple_piecesV _ ws rs

theorem foldl_simplePieces (as : List (List Char × Word)) (ws : List Word)
    (rs : List (Option Nat × RedirOp × Word)) :
    (simplePieces as ws rs).foldl Builder.push ⟨[], [], []⟩ =
      ⟨(mkSimple as ws rs).assigns, (mkSimple as ws rs).words, (mkSimple as ws rs).redirs⟩ := by
  rw [simplePieces_eq]; exact foldl_simplePiecesV _ ws rs

theorem simplePieces_ne_nil (as : List (List Char × Word)) (ws : List Word) (rs : List (Option Nat × RedirOp × Word))
    (hne : (mkSimple as ws rs).assigns ≠ [] ∨ ws ≠ [] ∨ (mkSimple as ws rs).redirs ≠ []) :
    simplePieces as ws rs ≠ [] := by
  rw [simplePieces_eq]
  exact simplePiecesV_ne_nil _ ws rs (hne.imp id (Or.imp id fun h e => h (by simp [mkSimple, e])))

/-- from the pieces to the command: the loop has read them into the builder, which is the command -/
theorem parseSimple_pieces (tail : List Char) (ht : StopTail tail) (ps : List Piece) (hps : ps ≠ [])
    (c : SimpleCommand) (hfold : ps.foldl Builder.push ⟨[], [], []⟩ = ⟨c.assigns, c.words, c.redirs⟩)
    (hok : PiecesOk ⟨[], [], []⟩ ps tail) (sp : Bool) (fuel : Nat) (hf : ps.length + 1 ≤ fuel) :
    parseSimple fuel ((if sp then [' '] else []) ++ (printPieces ps ++ tail)) = some (some c, tail) := by
  have hl := loop_pieces_tail tail ht ps ⟨[], [], []⟩ fuel sp hf (fun e => absurd e hps) hok
  have hne := foldl_push_nonempty ps hps
  unfold parseSimple
  rw [hl]
  rw [hfold] at hne ⊢
  simp [hne]

/-- ★ A simple command with scalar assignments, words and redirections
    (`mkSimple as ws rs`) prints — assignments, words, redirections; or redirections first when there is no
    assignment and the first word is a reserved word — as text that the model of
    `Parser::simple_command` reads back as the same command, stopping in front of the terminator `e`
    (`;`, `&`, `|`, `)` or newline).  `PiecesOk` lists what the parser needs piece by piece: every token word
    is in the word fragment, non-empty, not starting with `~` or `#`; an assignment name is non-empty and
    has no `=`; assignment values have no unquoted `~`; the first word is not itself of the form
    `name=…`; a reserved word comes first only after an assignment or a redirection; file descriptors
    fit in an `i32`.  Not covered: array assignments, here-documents, tilde expansions in values. -/
theorem simple_command_roundtrip (as : List (List Char × Word)) (ws : List Word)
    (rs : List (Option Nat × RedirOp × Word)) (e : Char) (rest : List Char) (he : TermOk e)
    (hne : (mkSimple as ws rs).assigns ≠ [] ∨ ws ≠ [] ∨ (mkSimple as ws rs).redirs ≠ [])
    (hok : PiecesOk ⟨[], [], []⟩ (simplePieces as ws rs) (e :: rest)) :
    parseSimple ((simplePieces as ws rs).length + 1) (printSimple (mkSimple as ws rs) ++ e :: rest) =
      some (some (mkSimple as ws rs), e :: rest) := by
  rw [printSimple_pieces]
  simpa using parseSimple_pieces (e :: rest) (stopTail_of_tailOk _ (tailOk_cons e rest he)) _
    (simplePieces_ne_nil as ws rs hne) _ (foldl_simplePieces as ws rs) hok false _ (Nat.le_refl _)

/-! ## simple commands in front of a command tail -/

/-- simple commands of the proved fragment, given the text that follows.  The pieces are given by a witness, not computed
    from `c`: one predicate for both print orders and both kinds of assignment (`simpleOk_V`, `simpleOk_of_mk`,
    `simpleOk_words` give the witness). -/
def SimpleOk (c : SimpleCommand) (tail : List Char) : Prop :=
  ∃ ps : List Piece, ps ≠ [] ∧ printSimple c = printPieces ps ∧
    ps.foldl Builder.push ⟨[], [], []⟩ = ⟨c.assigns, c.words, c.redirs⟩ ∧ PiecesOk ⟨[], [], []⟩ ps tail

theorem simpleOk_V (as : List Assign) (ws : List Word) (rs : List (Option Nat × RedirOp × Word)) (tail : List Char)
    (hne : as ≠ [] ∨ ws ≠ [] ∨ rs ≠ []) (hok : PiecesOk ⟨[], [], []⟩ (simplePiecesV as ws rs) tail) :
    SimpleOk (mkSimpleV as ws rs) tail :=
  ⟨simplePiecesV as ws rs, simplePiecesV_ne_nil as ws rs hne, printSimple_piecesV as ws rs,
    foldl_simplePiecesV as ws rs, hok⟩

theorem simpleOk_of_mk (as : List (List Char × Word)) (ws : List Word) (rs : List (Option Nat × RedirOp × Word))
    (tail : List Char)
    (hne : (mkSimple as ws rs).assigns ≠ [] ∨ ws ≠ [] ∨ (mkSimple as ws rs).redirs ≠ [])
    (hok : PiecesOk ⟨[], [], []⟩ (simplePieces as ws rs) tail) : SimpleOk (mkSimple as ws rs) tail :=
  ⟨simplePieces as ws rs, simplePieces_ne_nil as ws rs hne, printSimple_pieces as ws rs,
    foldl_simplePieces as ws rs, hok⟩

theorem simpleOk_words (ws : List Word) (hne : ws ≠ []) (tail : List Char)
    (hok : PiecesOk ⟨[], [], []⟩ (wordPieces ws) tail) : SimpleOk ⟨[], ws, []⟩ tail := by
  have hmk : (⟨[], ws, []⟩ : SimpleCommand) = mkSimple [] ws [] := by simp [mkSimple]
  -- without assignments and redirections both print orders are the words
  have hp : simplePieces [] ws [] = wordPieces ws := by simp [simplePieces, assignPieces, redirPieces]
  rw [hmk]
  exact simpleOk_of_mk [] ws [] tail (Or.inr (Or.inl hne)) (by rw [hp]; exact hok)

theorem simpleOk_assigns (as : List Assign) (ws : List Word) (rs : List (Option Nat × RedirOp × Word))
    (tail : List Char) (hne : as ≠ [])
    (hok : PiecesOk ⟨[], [], []⟩ (assignPiecesV as ++ wordPieces ws ++ redirPieces rs) tail) :
    SimpleOk (mkSimpleV as ws rs) tail := by
  have he : as.isEmpty = false := List.isEmpty_eq_false_iff.mpr hne
  exact simpleOk_V as ws rs tail (Or.inl hne) (by simpa [simplePiecesV, he] using hok)

theorem headOk_piece (b : Builder) (p : Piece) (next : List Char) (h : PieceOk b p next) (x : List Char) :
    HeadOk (p.print ++ x) := by
  cases p with
  | assign n v =>
    obtain ⟨_, h1, _⟩ := h
    have := headOk_tokWord _ _ h1 x
    rwa [printWord_assignWord] at this
  | word w => exact headOk_tokWord w next h.1 x
  | arrayAssign n ws =>
    obtain ⟨_, h1, _⟩ := h
    have := headOk_tokWord _ _ h1 ('(' :: (printArrayWords ws ++ ')' :: x))
    rw [printWord_assignWord] at this
    simpa [Piece.print, printArrayAssign, printWord] using this
  | redir fd op w =>
    cases fd with
    | none =>
      obtain ⟨c, tl, e, hc⟩ := redirOp_str_head op
      simp only [Piece.print, printRedir, printFd, List.nil_append, e, List.cons_append]
      rcases hc with rfl | rfl <;> exact headOk_char _ _ ⟨by decide, by decide, by decide, by decide⟩
    | some k =>
      have := headOk_tokWord _ [] (printNat_tokWord k []) (op.str ++ (printWord w ++ x))
      simpa [Piece.print, printRedir, printFd, printWord_digitsWord] using this

theorem pieces_length_le (tail : List Char) : ∀ (ps : List Piece) (b : Builder), PiecesOk b ps tail →
    ps.length ≤ (printPieces ps).length := by
  intro ps
  induction ps with
  | nil => intro _ _; simp
  | cons p ps ih =>
    intro b h
    have h1 : 1 ≤ p.print.length := by
      obtain ⟨y, t, e, _⟩ := headOk_piece b p _ h.1 []
      rw [List.append_nil] at e
      simp [e]
    have h2 := ih _ h.2
    cases ps with
    | nil => simpa [printPieces, joinWith] using h1
    | cons q qs =>
      simp only [printPieces, List.map_cons, joinWith, List.length_append, List.length_cons] at h2 ⊢
      simp only [List.length_nil] at h2 ⊢
      omega

theorem parseSimple_stop (c : SimpleCommand) (tail : List Char) (ht : StopTail tail)
    (h : SimpleOk c tail) (sp : Bool) :
    ∀ fuel, (printSimple c).length + 2 ≤ fuel →
      parseSimple fuel ((if sp then [' '] else []) ++ (printSimple c ++ tail)) = some (some c, tail) := by
  intro fuel hf
  obtain ⟨ps, hps, hprint, hfold, hok⟩ := h
  have hlen := pieces_length_le tail _ _ hok
  rw [hprint] at hf ⊢
  exact parseSimple_pieces tail ht ps hps c hfold hok sp fuel (by omega)

theorem parseSimple_tail (c : SimpleCommand) (tail : List Char) (ht : TailOk tail)
    (h : SimpleOk c tail) (sp : Bool) :
    ∀ fuel, (printSimple c).length + 2 ≤ fuel →
      parseSimple fuel ((if sp then [' '] else []) ++ (printSimple c ++ tail)) = some (some c, tail) :=
  parseSimple_stop c tail (stopTail_of_tailOk tail ht) h sp

theorem parseSimple_none (cs : List Char) (t : Token) (r : List Char) (hl : lexToken cs = some (t, r))
    (h : Stops t ∨ t.id = .word true ∨ t.id = .op .openParen) :
    ∀ f, 1 ≤ f → parseSimple f cs = some (none, cs) := by
  intro f hf
  obtain ⟨k, rfl⟩ := exists_succ_of_le hf
  have hr := parseRedir_stops cs t r hl (h.imp id (Or.imp (fun e => ⟨_, e⟩) id))
  rcases h with (hk | ⟨o, hk, _⟩) | hk | hk <;> simp [parseSimple, parseSimpleLoop, hr, hl, hk, Builder.isEmpty]

theorem headOk_simple (c : SimpleCommand) (tail : List Char) (h : SimpleOk c tail) :
    HeadOk (printSimple c ++ tail) := by
  obtain ⟨ps, hps, hprint, _, hok⟩ := h
  rw [hprint]
  cases ps with
  | nil => exact absurd rfl hps
  | cons p ps =>
    rw [printPieces_cons]
    exact headOk_piece _ p _ hok.1 _

theorem stopTail_paren (x : List Char) : StopTail ('(' :: x) :=
  ⟨nextOk_lparen x,
    loop_stops _ _ x (lexToken_lparen x false) (Or.inr rfl)⟩

end YashModel.Syntax
