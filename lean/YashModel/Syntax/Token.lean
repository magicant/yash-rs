/-
  C06 — `Lexer::token` on printed text: a word token (★ `token_roundtrip`), an operator token, the end of input; what may
  follow a token or a command, what a command starts with; reserved words.
-/
import YashModel.Syntax.Word
import YashModel.Syntax.Operator
namespace YashModel.Syntax
open YashModel.Generated.QuoteTables YashModel.Common

/-! ## word tokens -/

theorem firstOk_token (y : Char) (h : FirstOk .token y) : NotOpChar y ∧ isBlank y = false := by
  rcases h with h | h | h | h | h | h
  any_goals (subst h; exact ⟨by unfold NotOpChar; decide, by decide⟩)
  simp [Delim.test, isTokenDelimiter] at h
  exact ⟨h.1, h.2⟩

theorem printWord_ne_nil (ctx : Ctx) (d : Delim) (w : List WordUnit) (next : List Char)
    (h : WordUnits.Ok ctx d w next) (hne : w ≠ []) : printWord w ≠ [] := by
  cases w with
  | nil => exact absurd rfl hne
  | cons u us =>
    simp only [WordUnits.Ok] at h
    obtain ⟨y, t, e, _, _⟩ := printWordUnit_head ctx d u _ h.1
    simp [printWord, e]

theorem tokWord_head (w : Word) (next : List Char) (hw : TokWordOk w next) :
    ∃ y t, printWord w = y :: t ∧ NotOpChar y ∧ isBlank y = false ∧ y ≠ '#' ∧
      ∀ X, skipLC (y :: t ++ X) = y :: t ++ X := by
  have hne := printWord_ne_nil _ _ w _ hw.ok hw.nonempty
  obtain ⟨y, t, e, hy, hk⟩ := printWord_head_ok .word .token w _ hw.ok hne
  have hyc : y ≠ '#' := by intro e'; apply hw.noComment; simp [e, e']
  exact ⟨y, t, e, (firstOk_token y hy).1, (firstOk_token y hy).2, hyc, hk⟩

theorem skipComment_id (y : Char) (t : List Char) (hk : skipLC (y :: t) = y :: t) (hy : y ≠ '#') :
    skipComment (y :: t) = y :: t := by
  simp [skipComment, hk, hy]

/-- In front of a character that is no blank, no `#` and starts no line continuation the token step skips at most
    the one blank; what it returns is decided by `lexOperator` and `lexWord` at that character. -/
theorem lexToken_at (sp : Bool) (y : Char) (t : List Char) (hk : skipLC (y :: t) = y :: t)
    (hb : isBlank y = false) (hc : y ≠ '#') :
    lexToken ((if sp then [' '] else []) ++ y :: t) =
      match lexOperator (y :: t) with
      | some (o, r) => some (⟨[], .op o⟩, r)
      | none =>
        match lexWord .token (y :: t) with
        | none => none
        | some (w, r) => some (⟨parseTildeFront w, tokenId (parseTildeFront w) r⟩, r) := by
  have hsb := skipBlanks_pre sp y t hk hb ((if sp then [' '] else []) ++ y :: t).length (by cases sp <;> simp)
  unfold lexToken
  simp only [hsb, skipComment_id y t hk hc]
  rfl

theorem lexToken_operator (sp : Bool) (y : Char) (t : List Char) (hk : skipLC (y :: t) = y :: t)
    (hb : isBlank y = false) (hc : y ≠ '#') (o : Op) (r : List Char)
    (ho : lexOperator (y :: t) = some (o, r)) :
    lexToken ((if sp then [' '] else []) ++ y :: t) = some (⟨[], .op o⟩, r) := by
  rw [lexToken_at sp y t hk hb hc, ho]

theorem lexToken_op1 (e : Char) (tail : List Char) (o : Op) (he : e ≠ '\\' ∧ isBlank e = false ∧ e ≠ '#')
    (ho : lexOperator (e :: tail) = some (o, tail)) :
    lexToken (e :: tail) = some (⟨[], .op o⟩, tail) :=
  lexToken_operator false e tail (skipLC_cons_ne e tail he.1) he.2.1 he.2.2 o tail ho

theorem lexToken_opText (o : Op) (next : List Char) (h : OpStops o next) (sp : Bool) :
    lexToken ((if sp then [' '] else []) ++ (o.text ++ next)) = some (⟨[], .op o⟩, next) := by
  have ho := lexOperator_text o next h
  obtain ⟨c, tl, e, h1, h2, h3⟩ : ∃ c tl, o.text = c :: tl ∧ c ≠ '\\' ∧ isBlank c = false ∧ c ≠ '#' := by
    cases o <;> exact ⟨_, _, rfl, by decide, by decide, by decide⟩
  rw [e] at ho ⊢
  exact lexToken_operator sp c (tl ++ next) (skipLC_cons_ne c _ h1) h2 h3 o next ho

theorem nextOk_nil : NextOk [] := ⟨Or.inl rfl, rfl⟩

theorem lexToken_word_gen (w : Word) (next : List Char) (hw : TokWordOk w next)
    (hends : Delim.token.EndsAt next) (sp : Bool) :
    lexToken ((if sp then [' '] else []) ++ (printWord w ++ next)) =
      some (⟨w, tokenId w next⟩, next) := by
  obtain ⟨y, t, e, hop, hbl, hyc, hk⟩ := tokWord_head w next hw
  have hk' := hk next
  have hwl := word_ends .token w next hw.ok hends
  have hin : (if sp then [' '] else []) ++ (printWord w ++ next) =
      (if sp then [' '] else []) ++ y :: (t ++ next) := by simp [e]
  have hwl' : lexWord .token (y :: (t ++ next)) = some (w, next) := by
    rw [← hwl, e]; simp
  rw [hin, lexToken_at sp y _ (by simpa using hk') hbl hyc, lexOperator_none y _ (by simpa using hk') hop, hwl']
  simp [parseTildeFront_id w hw.noTilde]

/-- ★ A token word of the fragment, printed and followed by the end of input or by a delimiter character other than
    `<` `>` (`NextOk`: a blank, a terminator, `(`), is read by the
    parser's token step (`skip_blanks_and_comment`, `operator`, `word`, `parse_tilde_front`, `token_id`)
    as exactly that word, classified as a reserved word or a plain word (never an IO number). -/
theorem token_roundtrip (w : Word) (next : List Char) (hw : TokWordOk w next) (hn : NextOk next)
    (sp : Bool) :
    lexToken ((if sp then [' '] else []) ++ (printWord w ++ next)) =
      some (⟨w, .word (isKeywordWord w)⟩, next) := by
  rw [lexToken_word_gen w next hw hn.ends sp]
  have hwe : w.isEmpty = false := List.isEmpty_eq_false_iff.mpr hw.nonempty
  simp [tokenId, hwe, hn.noAngle, isKeywordWord]
  cases hkw : ((wordLiteral w).map isKeyword).getD false <;> simp

theorem token_blank (w : Word) (next : List Char) (hw : TokWordOk w next) (hn : NextOk next) :
    lexToken (' ' :: (printWord w ++ next)) = some (⟨w, .word (isKeywordWord w)⟩, next) := by
  simpa using token_roundtrip w next hw hn true

/-- a printed token word at the end of input is read by the token step as that word, with its reserved-word
    classification, after an optional blank -/
theorem token_roundtrip_at_end_of_input (w : Word) (hw : TokWordOk w []) (sp : Bool) :
    lexToken ((if sp then [' '] else []) ++ printWord w) = some (⟨w, .word (isKeywordWord w)⟩, []) := by
  simpa using token_roundtrip w [] hw nextOk_nil sp

/-! ## operator tokens, the end of input -/

theorem lexToken_eof : lexToken [] = some (⟨[], .endOfInput⟩, []) := by rfl

theorem stops_not_lparen (t : Token) (h : Stops t) : t.isOp .openParen = false := by
  rcases h with hk | ⟨o, hk, hp⟩
  · simp [Token.isOp, hk]
  · simp [Token.isOp, hk, (o.plain_facts hp).2.2.2.2.2]

theorem lexToken_rparen (x : List Char) :
    lexToken (')' :: x) = some (⟨[], .op .closeParen⟩, x) :=
  lexToken_opText .closeParen x (Or.inl rfl) false

theorem lexToken_lparen (x : List Char) (sp : Bool) :
    lexToken ((if sp then [' '] else []) ++ '(' :: x) = some (⟨[], .op .openParen⟩, x) :=
  lexToken_opText .openParen x (Or.inl rfl) sp

theorem lexToken_bar (x : List Char) :
    lexToken (' ' :: '|' :: ' ' :: x) = some (⟨[], .op .bar⟩, ' ' :: x) :=
  lexToken_opText .bar _ (opStops_of_head _ _ _ (by decide) (by decide)) true

/-- ` && ` and ` || ` as `printAndOrRest` writes them -/
theorem lexToken_andOr (isAnd : Bool) (x : List Char) :
    lexToken (' ' :: (if isAnd then '&' else '|') :: (if isAnd then '&' else '|') :: ' ' :: x) =
      some (⟨[], .op (if isAnd then .andAnd else .barBar)⟩, ' ' :: x) := by
  cases isAnd
  · exact lexToken_opText .barBar _ (opStops_of_head _ _ _ (by decide) (by decide)) true
  · exact lexToken_opText .andAnd _ (opStops_of_head _ _ _ (by decide) (by decide)) true

theorem lexToken_cont (k : CaseCont) (x : List Char) (sp : Bool) :
    lexToken ((if sp then [' '] else []) ++ (k.str ++ ' ' :: x)) = some (⟨[], .op (contOp k)⟩, ' ' :: x) := by
  rw [k.str_eq_text]
  exact lexToken_opText _ _ (opStops_of_head _ _ _ (by decide) (by cases k <;> decide)) sp

theorem tokenId_not_op (w : Word) (r : List Char) (o : Op) : tokenId w r ≠ .op o := by
  unfold tokenId
  intro h
  split at h
  · cases h
  · simp only [] at h
    split at h
    · cases h
    · split at h
      · cases h
      · split at h <;> cases h

/-! ## words of literal characters -/

theorem digit_plain (c : Char) (h : isAsciiDigit c = true) :
    c ≠ '\\' ∧ c ≠ '$' ∧ c ≠ '`' ∧ Delim.token.test c = false ∧ c ≠ '"' ∧ c ≠ '\'' ∧ c ≠ '~' ∧
      c ≠ '#' := by
  simp only [isAsciiDigit, Bool.and_eq_true, decide_eq_true_eq] at h
  obtain ⟨h1, h2⟩ := h
  have hr : 48 ≤ c.toNat ∧ c.toNat ≤ 57 := ⟨h1, h2⟩
  have hne : ∀ x : Char, (x.toNat < 48 ∨ 57 < x.toNat) → c ≠ x := by
    intro x hx e; subst e; omega
  refine ⟨hne _ (by decide), hne _ (by decide), hne _ (by decide), ?_, hne _ (by decide),
    hne _ (by decide), hne _ (by decide), hne _ (by decide)⟩
  simp only [Delim.test, isTokenDelimiter, isOperatorChar, operatorChars, isBlank, isWhitespace,
    whitespaceRanges, blankExcluded]
  simp only [List.contains_cons, List.contains_nil, List.any_cons, List.any_nil, Bool.or_false,
    Bool.or_eq_false_iff, beq_eq_false_iff_ne, ne_eq, Bool.and_eq_false_imp]
  refine ⟨⟨hne _ (by decide), hne _ (by decide), hne _ (by decide), hne _ (by decide),
    hne _ (by decide), hne _ (by decide), hne _ (by decide), hne _ (by decide)⟩, ?_⟩
  intro _
  simp
  omega

theorem digit_plainTok (c : Char) (h : isAsciiDigit c = true) : plainTok c = true ∧ c ≠ '~' ∧ c ≠ '#' := by
  obtain ⟨a1, a2, a3, a4, a5, a6, a7, a8⟩ := digit_plain c h
  simp [plainTok, a1, a2, a3, a4, a5, a6, a7, a8]

theorem litWord_tok (c : Char) (next : List Char) (h : plainTok c = true ∧ c ≠ '~' ∧ c ≠ '#') (cs : List Char)
    (hcs : cs.all plainTok = true) : TokWordOk (digitsWord (c :: cs)) next :=
  ⟨litWord_ok _ (by simp [h.1, hcs]) next, by simp [digitsWord], by simp [digitsWord, NoTildeFront, h.2.1], by
    rw [printWord_digitsWord]; simp [h.2.2]⟩

theorem digits_plainTok (s : List Char) (hs : s.all isAsciiDigit = true) : s.all plainTok = true :=
  List.all_eq_true.mpr fun y hy => (digit_plainTok y (List.all_eq_true.mp hs y hy)).1

theorem digitsWord_ok (s : List Char) (hs : s.all isAsciiDigit = true) (next : List Char) :
    WordUnits.Ok .word .token (digitsWord s) next :=
  litWord_ok s (digits_plainTok s hs) next

/-- a string with a property that no reserved word of the table has is no reserved word -/
theorem not_isKeyword (p : List Char → Bool) (hk : ∀ k ∈ keywords, p k = false) (s : List Char) (hs : p s = true) :
    isKeyword s = false := by
  cases h : isKeyword s with
  | false => rfl
  | true =>
    have : s ∈ keywords := by simpa [isKeyword] using h
    rw [hk s this] at hs
    cases hs

theorem isKeyword_digits (s : List Char) (hs : s.all isAsciiDigit = true) : isKeyword s = false :=
  not_isKeyword (·.all isAsciiDigit) (by decide) s hs

/-! ## what follows a token, a command; what a command starts with -/

theorem nextOk_cons (c : Char) (r : List Char) (hc : Delim.token.Ends c) (ha : c ≠ '<' ∧ c ≠ '>') : NextOk (c :: r) := by
  have hb : c ≠ '\\' := by intro e; subst e; exact absurd hc.2 (by decide)
  exact ⟨Or.inr ⟨c, r, rfl, hc⟩, by simp [nextIsAngle, skipLC_cons_ne c r hb, ha.1, ha.2]⟩

theorem nextOk_rparen (x : List Char) : NextOk (')' :: x) := nextOk_cons _ x ⟨by decide, by decide⟩ (by decide)

theorem nextOk_blank (x : List Char) : NextOk (' ' :: x) := nextOk_cons _ x ⟨by decide, by decide⟩ (by decide)

theorem nextOk_lparen (x : List Char) : NextOk ('(' :: x) := nextOk_cons _ x ⟨by decide, by decide⟩ (by decide)

theorem nextOk_term (e : Char) (rest : List Char) (he : TermOk e) : NextOk (e :: rest) := by
  rcases he with h | h | h | h | h <;> subst h <;> exact nextOk_cons _ rest ⟨by decide, by decide⟩ (by decide)

theorem lexToken_tail (tail : List Char) (h : TailOk tail) :
    tail = [] ∨ ∃ o r, lexToken tail = some (⟨[], .op o⟩, r) ∧ o.plain = true := by
  rcases h with rfl | ⟨sp, e, rest, rfl, he⟩
  · exact Or.inl rfl
  right
  obtain ⟨h1, h2, h3⟩ := term_facts e he
  obtain ⟨x, hx, hp⟩ := lexOperator_term e he rest
  have hk := skipLC_cons_ne e rest h1
  exact ⟨x.1, x.2, lexToken_operator sp e rest hk h2 h3 x.1 x.2 hx, hp⟩

theorem nextOk_tail (tail : List Char) (h : TailOk tail) : NextOk tail := by
  rcases h with rfl | ⟨sp, e, rest, rfl, he⟩
  · exact nextOk_nil
  cases sp with
  | false => simpa using nextOk_term e rest he
  | true => simpa using nextOk_blank (e :: rest)

theorem tail_stops (tail : List Char) (h : TailOk tail) : ∃ t r, lexToken tail = some (t, r) ∧ Stops t := by
  rcases lexToken_tail tail h with rfl | ⟨o, r, hl, hp⟩
  · exact ⟨_, _, lexToken_eof, Or.inl rfl⟩
  · exact ⟨_, _, hl, Or.inr ⟨o, rfl, hp⟩⟩

theorem tailOk_cons (e : Char) (rest : List Char) (he : TermOk e) : TailOk (e :: rest) :=
  Or.inr ⟨false, e, rest, by simp, he⟩

theorem skipNewlines_head (x : List Char) (h : HeadOk x) (sp : Bool) :
    ∀ fuel, skipNewlines fuel ((if sp then [' '] else []) ++ x) = (if sp then [' '] else []) ++ x := by
  intro fuel
  obtain ⟨y, t, rfl, h1, h2, h3, hk⟩ := h
  cases fuel with
  | zero => rfl
  | succ n =>
    have hnl := lexOperator_not_newline y t hk h1
    simp only [skipNewlines]
    rw [lexToken_at sp y t hk h3 h2]
    cases ho : lexOperator (y :: t) with
    | some x =>
      have := hnl x ho
      simp [Token.isOp, this]
    | none =>
      simp only []
      cases lexWord .token (y :: t) with
      | none => rfl
      | some p =>
        have := tokenId_not_op (parseTildeFront p.1) p.2 .newline
        simp [Token.isOp, this]

theorem skipNewlines_blank (x : List Char) (h : HeadOk x) (fuel : Nat) :
    skipNewlines fuel (' ' :: x) = ' ' :: x := by
  simpa using skipNewlines_head x h true fuel

theorem headOk_tokWord (w : Word) (next : List Char) (hw : TokWordOk w next) (x : List Char) :
    HeadOk (printWord w ++ x) := by
  obtain ⟨y, t, e, hop, hbl, hc, hk⟩ := tokWord_head w next hw
  exact ⟨y, t ++ x, by simp [e], (notOp_facts y hop).1, hc, hbl, by simpa using hk x⟩

theorem headOk_char (c : Char) (x : List Char)
    (h : c ≠ '\n' ∧ c ≠ '#' ∧ isBlank c = false ∧ c ≠ '\\') : HeadOk (c :: x) :=
  ⟨c, x, rfl, h.1, h.2.1, h.2.2.1, skipLC_cons_ne c x h.2.2.2⟩

/-! ## reserved words -/

theorem Kw.kw {k : String} (hk : Kw k) : isKeyword k.toList = true := by
  unfold Kw kwOk at hk
  split at hk
  · cases hk
  · rename_i c cs e
    simp only [Bool.and_eq_true] at hk
    rw [e]; exact hk.2

theorem Kw.ne {k : String} (hk : Kw k) : k.toList ≠ [] := by
  intro e
  simp [Kw, kwOk, e] at hk

theorem kw_tokWord (k : String) (hk : Kw k) (next : List Char) : TokWordOk (digitsWord k.toList) next := by
  unfold Kw kwOk at hk
  split at hk
  · cases hk
  · rename_i c cs e
    simp only [Bool.and_eq_true, List.all_cons, bne_iff_ne, ne_eq] at hk
    obtain ⟨⟨⟨⟨h1, h2⟩, h3⟩, h4⟩, _⟩ := hk
    rw [e]; exact litWord_tok c next ⟨h1, h3, h4⟩ cs h2

theorem kw_lbrace : Kw "{" := by decide +kernel
theorem kw_rbrace : Kw "}" := by decide +kernel
theorem kw_do : Kw "do" := by decide +kernel
theorem kw_done : Kw "done" := by decide +kernel
theorem kw_while : Kw "while" := by decide +kernel
theorem kw_until : Kw "until" := by decide +kernel
theorem kw_if : Kw "if" := by decide +kernel
theorem kw_then : Kw "then" := by decide +kernel
theorem kw_elif : Kw "elif" := by decide +kernel
theorem kw_else : Kw "else" := by decide +kernel
theorem kw_fi : Kw "fi" := by decide +kernel
theorem kw_for : Kw "for" := by decide +kernel
theorem kw_in : Kw "in" := by decide +kernel
theorem kw_case : Kw "case" := by decide +kernel
theorem kw_esac : Kw "esac" := by decide +kernel
theorem kw_bang : Kw "!" := by decide +kernel

theorem kwTok_isKw (k k' : String) : (kwTok k).isKw k' = decide (k' = k) := by
  simp [kwTok, Token.isKw, wordLiteral_digitsWord, String.toList_inj, eq_comm]

theorem kwTok_isOp (k : String) (o : Op) : (kwTok k).isOp o = false := rfl

theorem kwTok_isWord (k : String) : (kwTok k).isWord = true := rfl

theorem lexToken_kw_exact (k : String) (hk : Kw k) (next : List Char) (hn : NextOk next) (sp : Bool) :
    lexToken ((if sp then [' '] else []) ++ (k.toList ++ next)) = some (kwTok k, next) := by
  have ht := token_roundtrip _ next (kw_tokWord k hk next) hn sp
  rw [printWord_digitsWord] at ht
  have hkk : isKeywordWord (digitsWord k.toList) = true := by
    simp [isKeywordWord, wordLiteral_digitsWord, hk.kw]
  rw [ht, hkk]
  rfl

theorem lexToken_kw' (k : String) (hk : Kw k) (next : List Char) (hn : NextOk next) (sp : Bool) :
    ∃ t, lexToken ((if sp then [' '] else []) ++ (k.toList ++ next)) = some (t, next) ∧
      (∀ k' : String, t.isKw k' = decide (k'.toList = k.toList)) ∧ t.isWord = true ∧
      (∀ o, t.isOp o = false) :=
  ⟨kwTok k, lexToken_kw_exact k hk next hn sp, fun k' => by simp [kwTok_isKw, String.toList_inj],
    kwTok_isWord k, kwTok_isOp k⟩

theorem lexToken_kw_blank (k : String) (hk : Kw k) (next : List Char) (hn : NextOk next) :
    lexToken (' ' :: (k.toList ++ next)) = some (kwTok k, next) := by
  simpa using lexToken_kw_exact k hk next hn true

theorem expectKw_kw (k : String) (hk : Kw k) (next : List Char) (hn : NextOk next) (sp : Bool) :
    expectKw k ((if sp then [' '] else []) ++ (k.toList ++ next)) = some next := by
  simp [expectKw, lexToken_kw_exact k hk next hn sp, kwTok_isKw]

theorem expectKw_blank (k : String) (hk : Kw k) (next : List Char) (hn : NextOk next) :
    expectKw k (' ' :: (k.toList ++ next)) = some next := by
  simpa using expectKw_kw k hk next hn true

theorem expectKw_other (k k' : String) (hk : Kw k) (hne : k' ≠ k) (next : List Char)
    (hn : NextOk next) (sp : Bool) :
    expectKw k' ((if sp then [' '] else []) ++ (k.toList ++ next)) = none := by
  simp [expectKw, lexToken_kw_exact k hk next hn sp, kwTok_isKw, hne]

theorem headOk_kw (k : String) (hk : Kw k) (x : List Char) : HeadOk (k.toList ++ x) := by
  have := headOk_tokWord _ [] (kw_tokWord k hk []) x
  rwa [printWord_digitsWord] at this

/-! ## the word tokens of a simple command in the flat fragment -/

theorem printWords_cons (w : Word) (ws : List Word) :
    printWords (w :: ws) = printWord w ++ ((if ws.isEmpty then [] else [' ']) ++ printWords ws) := by
  cases ws with
  | nil => simp [printWords, joinWith]
  | cons v vs => simp [printWords, joinWith]

theorem lexWords_print (c : Char) (hc : Delim.token.Ends c) (hb : isBlank c = false)
    (rest : List Char) (ws : List Word) (h : ∀ w ∈ ws, w.FlatArg) :
    ∀ (sp : Bool) fuel, ws.length + 1 ≤ fuel →
      lexWords fuel ((if sp then [' '] else []) ++ (printWords ws ++ c :: rest)) = some (ws, c :: rest) := by
  have hcs : c ≠ '\\' := by
    have := hc.2
    simp [isWordSpecial] at this
    exact this.1.1.1.1
  have hsk : skipLC (c :: rest) = c :: rest := skipLC_cons_ne c rest hcs
  induction ws with
  | nil =>
    intro sp fuel hf
    obtain ⟨n, rfl⟩ := exists_succ_of_le hf
    have hw := word_self_delimiting_partial [] (by simp) c hc rest
    simp only [printWord, List.nil_append] at hw
    simp only [lexWords, printWords, List.map_nil, joinWith, List.nil_append]
    rw [skipBlanks_pre sp c rest hsk hb _ (by cases sp <;> simp), hw]
  | cons w ws ih =>
    intro sp fuel hf
    obtain ⟨n, rfl⟩ := exists_succ_of_le hf
    have hwf := h w (by simp)
    have hok := flat_word_ok .token w hwf.1 []
    obtain ⟨c0, t0, e0, hy0, hs0⟩ :=
      printWord_head_ok .word .token w [] hok (printWord_ne_nil _ _ w [] hok hwf.2.1)
    have hb0 := (firstOk_token c0 hy0).2
    have ih' := ih (fun v hv => h v (by simp [hv])) (!ws.isEmpty) n (by simp at hf; omega)
    have hnext : ∃ c1 r1, ((if ws.isEmpty then [] else [' ']) ++ printWords ws) ++ c :: rest = c1 :: r1 ∧
        Delim.token.Ends c1 := by
      cases hws : ws.isEmpty with
      | true =>
        have : ws = [] := by simpa using hws
        subst this
        exact ⟨c, rest, by simp [printWords, joinWith], hc⟩
      | false => exact ⟨' ', printWords ws ++ c :: rest, by simp, ⟨by decide, by decide⟩⟩
    obtain ⟨c1, r1, e1, hc1⟩ := hnext
    have hw := word_self_delimiting_partial w hwf.1 c1 hc1 r1
    obtain ⟨u, us, ew⟩ : ∃ u us, w = u :: us := by
      cases w with
      | nil => exact absurd rfl hwf.2.1
      | cons u us => exact ⟨u, us, rfl⟩
    have htl := parseTildeFront_id w hwf.2.2
    rw [printWords_cons]
    have hin : (if sp then [' '] else []) ++
        (printWord w ++ ((if ws.isEmpty then [] else [' ']) ++ printWords ws) ++ c :: rest) =
        (if sp then [' '] else []) ++ c0 :: (t0 ++ c1 :: r1) := by
      rw [List.append_assoc, e1, e0]; simp
    have hlen : 1 ≤ ((if sp then [' '] else []) ++ c0 :: (t0 ++ c1 :: r1)).length := by
      cases sp <;> simp
    rw [hin]
    simp only [lexWords]
    rw [skipBlanks_pre sp c0 (t0 ++ c1 :: r1) (by simpa using hs0 (c1 :: r1)) hb0 _ hlen]
    have hw' : lexWord .token (c0 :: (t0 ++ c1 :: r1)) = some (w, c1 :: r1) := by
      rw [← hw, e0]; simp
    rw [hw', ew]
    simp only
    rw [← ew, htl, ← e1]
    have : (if ws.isEmpty then [] else [' ']) ++ printWords ws ++ c :: rest =
        (if (!ws.isEmpty) = true then [' '] else []) ++ (printWords ws ++ c :: rest) := by
      cases ws.isEmpty <;> simp
    rw [this, ih']

end YashModel.Syntax
