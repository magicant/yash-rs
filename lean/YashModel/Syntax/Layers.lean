/-
  C06 — the list layers over an abstract command parser, each from the round trip of the layer below: pipelines (1),
  and-or lists (2), lists (3); what may follow a pipeline or an and-or list (`EndsWithout`).
-/
import YashModel.Syntax.Token
namespace YashModel.Syntax
open YashModel.Common

/-! ## Layer 1: pipelines -/

/-- `pc` reads the printed command back when `tail` follows, with or without a blank in front -/
def CmdRT (pc : CmdParser) (c : Command) (tail : List Char) : Prop :=
  HeadOk (printCommand c ++ tail) ∧
  ∀ sp : Bool, pc ((if sp then [' '] else []) ++ (printCommand c ++ tail)) = some (some c, tail)

/-- the text after the first command of `c :: cs` printed as a pipeline -/
def pipeRest : List Command → List Char → List Char
  | [], tail => tail
  | d :: ds, tail => ' ' :: '|' :: ' ' :: (printCommand d ++ pipeRest ds tail)

theorem printCommands_cons (c : Command) (cs : List Command) (tail : List Char) :
    printCommands (c :: cs) ++ tail = printCommand c ++ pipeRest cs tail := by
  induction cs generalizing c with
  | nil => simp [printCommands, pipeRest]
  | cons d ds ih =>
    have := ih d
    simp only [printCommands, pipeRest, str, List.append_assoc] at this ⊢
    rw [this]
    rfl

/-- every command of the pipeline reads back in its place -/
def CmdsRT (pc : CmdParser) : List Command → List Char → Prop
  | [], _ => True
  | c :: cs, tail => CmdRT pc c (pipeRest cs tail) ∧ CmdsRT pc cs tail

/-- the token that follows is an operator other than those in `bad` -/
def EndsWithout (tail : List Char) (bad : List Op) : Prop :=
  TailOk tail ∧ ∀ o r, lexToken tail = some (⟨[], .op o⟩, r) → o ∉ bad

theorem endsWithout_tok (tail : List Char) (bad : List Op) (h : EndsWithout tail bad) :
    ∃ t r, lexToken tail = some (t, r) ∧ ∀ o ∈ bad, t.isOp o = false := by
  rcases lexToken_tail tail h.1 with rfl | ⟨o, r, hl, _⟩
  · exact ⟨_, _, lexToken_eof, fun o _ => by simp [Token.isOp]⟩
  · refine ⟨_, _, hl, fun o' ho' => ?_⟩
    simp only [Token.isOp, decide_eq_false_iff_not, TokId.op.injEq]
    intro e
    exact h.2 o r hl (e ▸ ho')

theorem pipeTail_rt (pc : CmdParser) (tail : List Char) (ht : EndsWithout tail [.bar]) :
    ∀ (cs : List Command) (fuel : Nat), (pipeRest cs tail).length + 1 ≤ fuel → CmdsRT pc cs tail →
      parsePipeTail pc fuel (pipeRest cs tail) = some (cs, tail) :=
  listLoop_text (parsePipeTail pc) (pipeRest · tail) (·, tail) (CmdsRT pc · tail) List.length
    (fun d ds => by simp only [pipeRest, List.length_cons, List.length_append]; omega)
    (fun _ _ h => h.2)
    (fun k => by
      obtain ⟨t, r, hl, hb⟩ := endsWithout_tok tail _ ht
      simp [pipeRest, parsePipeTail, hl, hb .bar (by simp)])
    (fun k d ds h ih' => by
      obtain ⟨⟨hh, hd⟩, _⟩ := h
      have hpc := hd true
      simp only [if_true, List.singleton_append] at hpc
      simp only [pipeRest, parsePipeTail, lexToken_bar, Token.isOp]
      simp only [if_true, decide_true, skipNewlines_blank _ hh, hpc, ih'])

/-- ★ layer 1: a pipeline `[!] c₁ | … | cₙ` whose commands read back in their places reads back, provided
    the token after it is not `|` and (for `!`) the command parser finds no command at the `!`. -/
theorem pipeline_roundtrip (pc : CmdParser) (neg : Bool) (c : Command) (cs : List Command)
    (tail : List Char) (ht : EndsWithout tail [.bar]) (h : CmdsRT pc (c :: cs) tail)
    (hbang : neg = true → ∀ x, pc ('!' :: ' ' :: x) = some (none, '!' :: ' ' :: x) ∧
        pc (' ' :: '!' :: ' ' :: x) = some (none, ' ' :: '!' :: ' ' :: x)) (sp : Bool) :
    parsePipeline pc ((if sp then [' '] else []) ++ (printPipeline (.mk (c :: cs) neg) ++ tail)) =
      some (some (.mk (c :: cs) neg), tail) := by
  obtain ⟨⟨hh, hc⟩, hcs⟩ := h
  have htl := pipeTail_rt pc tail ht cs ((pipeRest cs tail).length + 2) (by omega) hcs
  cases neg with
  | false =>
    have := hc sp
    simp only [printPipeline, Bool.false_eq_true, if_false, List.nil_append, printCommands_cons]
    simp only [parsePipeline, this, htl]
  | true =>
    obtain ⟨hb1, hb2⟩ := hbang rfl (printCommand c ++ pipeRest cs tail)
    have hlt := lexToken_kw_exact "!" kw_bang (' ' :: (printCommand c ++ pipeRest cs tail)) (nextOk_blank _) sp
    rw [show "!".toList = ['!'] from rfl] at hlt
    have hc1 := hc true
    simp only [if_true, List.singleton_append] at hc1
    have hin : (if sp then [' '] else []) ++ (printPipeline (.mk (c :: cs) true) ++ tail) =
        (if sp then [' '] else []) ++ (['!'] ++ ' ' :: (printCommand c ++ pipeRest cs tail)) := by
      simp [printPipeline, str, printCommands_cons]
    have hpn : pc ((if sp then [' '] else []) ++ (['!'] ++ ' ' :: (printCommand c ++ pipeRest cs tail))) =
        some (none, (if sp then [' '] else []) ++ (['!'] ++ ' ' :: (printCommand c ++ pipeRest cs tail))) := by
      cases sp
      · simpa using hb1
      · simpa using hb2
    rw [hin]
    simp only [parsePipeline, hpn, hlt, kwTok_isKw, decide_true, if_true, hc1, htl]

/-! ## Layer 2: and-or lists -/

def PipeRT (pc : CmdParser) (p : Pipeline) (tail : List Char) : Prop :=
  HeadOk (printPipeline p ++ tail) ∧
  ∀ sp : Bool, parsePipeline pc ((if sp then [' '] else []) ++ (printPipeline p ++ tail)) = some (some p, tail)

/-- the text after the first pipeline of an and-or list -/
def aoRest : List AndOrRest → List Char → List Char
  | [], tail => tail
  | .mk isAnd p :: rs, tail =>
    ' ' :: (if isAnd then '&' else '|') :: (if isAnd then '&' else '|') :: ' ' ::
      (printPipeline p ++ aoRest rs tail)

theorem printAndOrRest_eq (rs : List AndOrRest) (tail : List Char) :
    printAndOrRest rs ++ tail = aoRest rs tail := by
  induction rs with
  | nil => simp [printAndOrRest, aoRest]
  | cons r rs ih =>
    obtain ⟨isAnd, p⟩ := r
    cases isAnd <;> simp [printAndOrRest, aoRest, str, ← ih]

def PipesRT (pc : CmdParser) : List AndOrRest → List Char → Prop
  | [], _ => True
  | .mk _ p :: rs, tail => PipeRT pc p (aoRest rs tail) ∧ PipesRT pc rs tail

theorem andOrTail_rt (pc : CmdParser) (tail : List Char) (ht : EndsWithout tail [.andAnd, .barBar]) :
    ∀ (rs : List AndOrRest) (fuel : Nat), (aoRest rs tail).length + 1 ≤ fuel → PipesRT pc rs tail →
      parseAndOrTail pc fuel (aoRest rs tail) = some (rs, tail) :=
  listLoop_text (parseAndOrTail pc) (aoRest · tail) (·, tail) (PipesRT pc · tail) List.length
    (fun ⟨_, _⟩ rs => by simp only [aoRest, List.length_cons, List.length_append]; omega)
    (fun ⟨_, _⟩ _ h => h.2)
    (fun k => by
      obtain ⟨t, r, hl, hb⟩ := endsWithout_tok tail _ ht
      simp [aoRest, parseAndOrTail, hl, hb .andAnd (by simp), hb .barBar (by simp)])
    (fun k ⟨isAnd, p⟩ rs h ih' => by
      obtain ⟨⟨hh, hp⟩, _⟩ := h
      have hsn := skipNewlines_blank _ hh
      have hpp := hp true
      simp only [if_true, List.singleton_append] at hpp
      simp only [aoRest, parseAndOrTail, lexToken_andOr, Token.isOp]
      cases isAnd <;> simp [hsn, hpp, ih'])

/-- ★ layer 2: an and-or list `p₀ && p₁ || …` whose pipelines read back in their places reads back,
    provided the token after it is neither `&&` nor `||`. -/
theorem and_or_roundtrip (pc : CmdParser) (p : Pipeline) (rs : List AndOrRest) (tail : List Char)
    (ht : EndsWithout tail [.andAnd, .barBar]) (hp : PipeRT pc p (aoRest rs tail))
    (hrs : PipesRT pc rs tail) (sp : Bool) :
    parseAndOr pc ((if sp then [' '] else []) ++ (printAndOr (.mk p rs) ++ tail)) =
      some (some (.mk p rs), tail) := by
  have htl := andOrTail_rt pc tail ht rs ((aoRest rs tail).length + 2) (by omega) hrs
  have := hp.2 sp
  simp only [printAndOr, List.append_assoc, printAndOrRest_eq]
  simp only [parseAndOr, this, htl]

/-! ## Layer 3: lists -/

def AndOrRT (pc : CmdParser) (a : AndOrList) (tail : List Char) : Prop :=
  HeadOk (printAndOr a ++ tail) ∧
  ∀ sp : Bool, parseAndOr pc ((if sp then [' '] else []) ++ (printAndOr a ++ tail)) = some (some a, tail)

/-- no command starts at `tail`: the and-or parser returns `None` there -/
def NoCmdAt (pc : CmdParser) (tail : List Char) : Prop := parseAndOr pc tail = some (none, tail)

/-- the text of the items after their and-or lists: terminators and separating blanks -/
def listText (alt : Bool) : List Item → List Char → List Char
  | [], tail => tail
  | [.mk a async], tail => printAndOr a ++ ((if async then ['&'] else if alt then [';'] else []) ++ tail)
  | .mk a async :: j :: rest, tail =>
    printAndOr a ++ ((if async then '&' else ';') :: ' ' :: listText alt (j :: rest) tail)

theorem printList_eq (alt : Bool) (l : List Item) (tail : List Char) :
    printList alt l ++ tail = listText alt l tail := by
  induction l with
  | nil => simp [printList, listText]
  | cons i l ih =>
    obtain ⟨a, async⟩ := i
    cases l with
    | nil => cases async <;> cases alt <;> simp [printList, printItem, listText]
    | cons j rest =>
      cases async <;> simp [printList, printItem, listText, ← ih]

/-- every and-or list of the items reads back in its place -/
def ItemsRT (pc : CmdParser) (alt : Bool) : List Item → List Char → Prop
  | [], _ => True
  | [.mk a async], tail => AndOrRT pc a ((if async then ['&'] else if alt then [';'] else []) ++ tail)
  | .mk a async :: j :: rest, tail =>
    AndOrRT pc a ((if async then '&' else ';') :: ' ' :: listText alt (j :: rest) tail) ∧
    ItemsRT pc alt (j :: rest) tail

/-- what follows a list: no further command, terminators read alone, and (when the last item is printed
    without a terminator) the next token is neither `;` nor `&` -/
structure ListEnd (pc : CmdParser) (alt : Bool) (tail : List Char) : Prop where
  noCmd : NoCmdAt pc tail
  sepAmp : lexToken ('&' :: tail) = some (⟨[], .op .and⟩, tail)
  sepSemi : alt = true → lexToken (';' :: tail) = some (⟨[], .op .semicolon⟩, tail)
  notSep : ∀ t r, lexToken tail = some (t, r) → t.isOp .semicolon = false ∧ t.isOp .and = false
  tok : ∃ t r, lexToken tail = some (t, r)

theorem parseList_rt (pc : CmdParser) (alt : Bool) (tail : List Char) (he : ListEnd pc alt tail) :
    ∀ (l : List Item) (fuel : Nat) (sp : Bool),
      ((if sp then [' '] else []) ++ listText alt l tail).length + 2 ≤ fuel → ItemsRT pc alt l tail →
      (l = [] → sp = false) →
      parseList pc fuel ((if sp then [' '] else []) ++ listText alt l tail) = some (l, tail) := by
  have hnone : ∀ k, parseList pc (k + 1) tail = some ([], tail) := by
    intro k
    have := he.noCmd
    unfold NoCmdAt at this
    rw [parseList, this]
  intro l
  induction l with
  | nil =>
    intro fuel sp hf _ hsp
    obtain ⟨k, rfl⟩ := exists_succ_of_le (show 0 + 1 ≤ fuel by omega)
    simpa [hsp rfl, listText] using hnone k
  | cons i l ih =>
    intro fuel sp hf h _
    obtain ⟨k, rfl⟩ : ∃ k, fuel = k + 2 := ⟨fuel - 2, by omega⟩
    obtain ⟨a, async⟩ := i
    rw [parseList]
    cases l with
    | nil =>
      have ha : AndOrRT pc a ((if async then ['&'] else if alt then [';'] else []) ++ tail) := h
      have hp := ha.2 sp
      cases async with
      | true =>
        simp only [if_true, List.singleton_append] at hp
        simp only [listText, if_true, List.singleton_append, hp, he.sepAmp]
        simp [Token.isOp, hnone k]
      | false =>
        cases alt with
        | true =>
          simp only [Bool.false_eq_true, if_false, if_true, List.singleton_append] at hp
          simp only [listText, Bool.false_eq_true, if_false, if_true, List.singleton_append, hp, he.sepSemi rfl]
          simp [Token.isOp, hnone k]
        | false =>
          simp only [Bool.false_eq_true, if_false, List.nil_append] at hp
          obtain ⟨t, r, ht⟩ := he.tok
          obtain ⟨n1, n2⟩ := he.notSep t r ht
          simp only [listText, Bool.false_eq_true, if_false, List.nil_append, hp, ht]
          simp [n1, n2]
    | cons j rest =>
      obtain ⟨ha, hrest⟩ := h
      have hp := ha.2 sp
      -- the separator and its blank are the two characters by which the fuel exceeds what the rest needs
      have ih' := ih (k + 1) true (by
        simp only [listText, List.length_append, List.length_cons] at hf ⊢
        simp only [if_true, List.length_singleton]; omega) hrest (by intro e; cases e)
      simp only [if_true, List.singleton_append] at ih'
      have hsemi : lexToken (';' :: ' ' :: listText alt (j :: rest) tail) = _ :=
        lexToken_opText .semicolon _ (opStops_of_head _ _ _ (by decide) (by decide)) false
      have hamp : lexToken ('&' :: ' ' :: listText alt (j :: rest) tail) = _ :=
        lexToken_opText .and _ (opStops_of_head _ _ _ (by decide) (by decide)) false
      cases async with
      | true =>
        simp only [if_true] at hp
        simp only [listText, if_true, hp, hamp]
        simp [Token.isOp, ih']
      | false =>
        simp only [Bool.false_eq_true, if_false] at hp
        simp only [listText, Bool.false_eq_true, if_false, hp, hsemi]
        simp [Token.isOp, ih']

/-- what follows a compound list: a clause delimiter that is not a newline -/
def CloserAt (tail : List Char) : Prop :=
  ∃ t r, lexToken tail = some (t, r) ∧ t.isOp .newline = false ∧ t.isClauseDelimiter = true

theorem compoundList_rt (pc : CmdParser) (alt : Bool) (l : List Item) (tail : List Char)
    (he : ListEnd pc alt tail) (hc : CloserAt tail) (h : ItemsRT pc alt l tail) (sp : Bool)
    (hsp : l = [] → sp = false) :
    ∀ fuel, 1 ≤ fuel →
      parseCompoundList pc fuel ((if sp then [' '] else []) ++ (printList alt l ++ tail)) = some (l, tail) := by
  intro fuel hf
  obtain ⟨k, rfl⟩ := exists_succ_of_le hf
  rw [printList_eq]
  have hl := parseList_rt pc alt tail he l _ sp (Nat.le_refl _) h hsp
  obtain ⟨t, r, ht, hn, hd⟩ := hc
  simp only [parseCompoundList, hl, ht, hn, hd]
  simp

/-! ## what follows a pipeline, an and-or list -/

/-- the operators that must not follow a pipeline / an and-or list -/
def contOps : List Op := [.bar, .andAnd, .barBar]

theorem endsWithout_of (tail : List Char) (ht : TailOk tail) (o : Op) (r : List Char)
    (hl : lexToken tail = some (⟨[], .op o⟩, r)) (bad : List Op) (ho : o ∉ bad) :
    EndsWithout tail bad := by
  refine ⟨ht, ?_⟩
  intro o' r' h'
  rw [hl] at h'
  cases h'
  exact ho

theorem ends_sep (o : Op) (ho : o = .and ∨ o = .semicolon) (tail : List Char) (h : OpStops o tail) :
    EndsWithout (o.text ++ tail) contOps := by
  have hl := lexToken_opText o tail h false
  rcases ho with rfl | rfl
  · exact endsWithout_of _ (tailOk_cons '&' tail (by decide)) _ _ hl contOps (by decide)
  · exact endsWithout_of _ (tailOk_cons ';' tail (by decide)) _ _ hl contOps (by decide)

theorem ends_rparen (x : List Char) (bad : List Op) (hb : ∀ y ∈ bad, y ∈ contOps) :
    EndsWithout (')' :: x) bad :=
  endsWithout_of _ (tailOk_cons ')' x (by decide)) _ _ (lexToken_rparen x)
    bad (fun hm => absurd (hb _ hm) (by decide))

theorem endsWithout_mono (tail : List Char) (a b : List Op) (h : EndsWithout tail a)
    (hs : ∀ x ∈ b, x ∈ a) : EndsWithout tail b :=
  ⟨h.1, fun o r hl hm => h.2 o r hl (hs o hm)⟩

theorem ends_aoRest (r : AndOrRest) (rs : List AndOrRest) (tail : List Char) :
    EndsWithout (aoRest (r :: rs) tail) [.bar] := by
  obtain ⟨isAnd, p⟩ := r
  refine endsWithout_of _ (Or.inr ⟨true, if isAnd then '&' else '|',
    (if isAnd then '&' else '|') :: ' ' :: (printPipeline p ++ aoRest rs tail), rfl, ?_⟩) _ _
    (lexToken_andOr isAnd (printPipeline p ++ aoRest rs tail)) _ (by cases isAnd <;> decide)
  cases isAnd <;> decide

theorem ends_bar_aoRest (rs : List AndOrRest) (tail : List Char) (he : EndsWithout tail contOps) :
    EndsWithout (aoRest rs tail) [.bar] := by
  cases rs with
  | nil => exact endsWithout_mono _ _ _ he (by decide)
  | cons r' rs' => exact ends_aoRest r' rs' tail

theorem tailOk_pipeRest (d : Command) (ds : List Command) (tail : List Char) :
    TailOk (pipeRest (d :: ds) tail) :=
  Or.inr ⟨true, '|', ' ' :: (printCommand d ++ pipeRest ds tail), by simp [pipeRest], by decide⟩

theorem tailOk_aoRest (r : AndOrRest) (rs : List AndOrRest) (tail : List Char) :
    TailOk (aoRest (r :: rs) tail) := (ends_aoRest r rs tail).1

end YashModel.Syntax
