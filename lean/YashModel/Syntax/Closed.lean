/-
  C06 — the closed fragment of command trees and the composition of the layers: by induction on the nesting depth
  `Parser::command` is the command parser the layers ask for (`parseCommand_pcOk`).
-/
import YashModel.Syntax.Depth
import YashModel.Syntax.Layers
import YashModel.Syntax.Compound
import YashModel.Syntax.Command
namespace YashModel.Syntax

mutual
  /-- commands of the fragment, given the text that follows -/
  def CommandOk : Command → List Char → Prop
    | .simple c, tail => SimpleOk c tail ∧ TailOk tail
    | .compound c rs, tail => CompoundOk c (printRedirsSp rs ++ tail) ∧ RedirsOk rs tail ∧ TailOk tail
    | .function kw name body rs, tail =>
      kw = false ∧
      FnNameOk name ('(' :: ')' :: ' ' :: (printCompound body ++ (printRedirsSp rs ++ tail))) ∧
      CompoundOk body (printRedirsSp rs ++ tail) ∧ RedirsOk rs tail ∧ TailOk tail
  def CompoundOk : CompoundCommand → List Char → Prop
    | .grouping l, t => l ≠ [] ∧ ItemsOk true l (' ' :: ("}".toList ++ t))
    | .subshell l, t => l ≠ [] ∧ ItemsOk false l (')' :: t)
    | .whileLoop c b, t =>
      c ≠ [] ∧ b ≠ [] ∧
      ItemsOk true c (' ' :: ("do".toList ++ ' ' :: (printList true b ++ ' ' :: ("done".toList ++ t)))) ∧
      ItemsOk true b (' ' :: ("done".toList ++ t))
    | .untilLoop c b, t =>
      c ≠ [] ∧ b ≠ [] ∧
      ItemsOk true c (' ' :: ("do".toList ++ ' ' :: (printList true b ++ ' ' :: ("done".toList ++ t)))) ∧
      ItemsOk true b (' ' :: ("done".toList ++ t))
    | .ifCmd c b es hasElse e, t =>
      c ≠ [] ∧ b ≠ [] ∧ (if hasElse then e ≠ [] else e = []) ∧
      ItemsOk true c (' ' :: ("then".toList ++ ' ' :: (printList true b ++ ' ' ::
        elifText es (if hasElse then "else".toList ++ ' ' :: (printList true e ++ ' ' :: ("fi".toList ++ t))
          else "fi".toList ++ t)))) ∧
      ItemsOk true b (' ' :: elifText es (if hasElse then "else".toList ++ ' ' ::
        (printList true e ++ ' ' :: ("fi".toList ++ t)) else "fi".toList ++ t)) ∧
      ElifsOk es (if hasElse then "else".toList ++ ' ' :: (printList true e ++ ' ' :: ("fi".toList ++ t))
        else "fi".toList ++ t) ∧
      ItemsOk true e (' ' :: ("fi".toList ++ t))
    | .forLoop name values b, t =>
      b ≠ [] ∧
      TokWordOk name ((match values with
        | some vs => ' ' :: ("in".toList ++ (printWordsSp vs ++ [';']))
        | none => []) ++ (' ' :: ("do".toList ++ ' ' :: (printList true b ++ ' ' :: ("done".toList ++ t))))) ∧
      (match values with
        | some vs => ForWordsOk vs (';' :: ' ' :: ("do".toList ++ ' ' ::
            (printList true b ++ ' ' :: ("done".toList ++ t))))
        | none => True) ∧
      ItemsOk true b (' ' :: ("done".toList ++ t))
    | .caseCmd subject items, t =>
      TokWordOk subject (' ' :: ("in".toList ++ ' ' :: caseText items ("esac".toList ++ t))) ∧
      CaseItemsOk items ("esac".toList ++ t)
  def CaseItemsOk : List CaseItem → List Char → Prop
    | [], _ => True
    | .mk ps b k :: rest, after =>
      PatsOk ps (')' :: ' ' :: (printList false b ++ (k.str ++ ' ' :: caseText rest after))) ∧
      ItemsOk false b (k.str ++ ' ' :: caseText rest after) ∧ CaseItemsOk rest after
  def ElifsOk : List ElifThen → List Char → Prop
    | [], _ => True
    | .mk c b :: rest, after =>
      c ≠ [] ∧ b ≠ [] ∧
      ItemsOk true c (' ' :: ("then".toList ++ ' ' :: (printList true b ++ ' ' :: elifText rest after))) ∧
      ItemsOk true b (' ' :: elifText rest after) ∧ ElifsOk rest after
  def CommandsOk : List Command → List Char → Prop
    | [], _ => True
    | c :: cs, tail => CommandOk c (pipeRest cs tail) ∧ CommandsOk cs tail
  def PipelineOk : Pipeline → List Char → Prop
    | .mk cs _, tail => cs ≠ [] ∧ CommandsOk cs tail
  def AndOrRestOk : List AndOrRest → List Char → Prop
    | [], _ => True
    | .mk _ p :: rs, tail => PipelineOk p (aoRest rs tail) ∧ AndOrRestOk rs tail
  def AndOrOk : AndOrList → List Char → Prop
    | .mk p rs, tail => PipelineOk p (aoRest rs tail) ∧ AndOrRestOk rs tail
  def ItemsOk (alt : Bool) : List Item → List Char → Prop
    | [], _ => True
    | [.mk a async], tail => AndOrOk a ((if async then ['&'] else if alt then [';'] else []) ++ tail)
    | .mk a async :: j :: rest, tail =>
      AndOrOk a ((if async then '&' else ';') :: ' ' :: listText alt (j :: rest) tail) ∧
      ItemsOk alt (j :: rest) tail
end

theorem noStart_kw (k : String) (hno : ∀ k' ∈ openers, k' ≠ k) : NoStart (kwTok k) :=
  Or.inl ⟨rfl, fun k' hk' => by simp [kwTok_isKw, hno k' hk']⟩

theorem itemsOk_single (c : Command) (tail : List Char) :
    ItemsOk false [.mk (.mk (.mk [c] false) []) false] tail ↔ CommandOk c tail := by
  simp only [ItemsOk, AndOrOk, AndOrRestOk, PipelineOk, CommandsOk, pipeRest, aoRest, List.nil_append, ne_eq,
    not_false_eq_true, List.cons_ne_self, and_true, true_and, Bool.false_eq_true, if_false]

/-- the command parser finds no command at a token at which none starts -/
def PcNone (pc : CmdParser) : Prop := ∀ cs t r, lexToken cs = some (t, r) → NoStart t → pc cs = some (none, cs)

/-- the properties of the command parser used by the composition -/
structure PcOk (pc : CmdParser) (n : Nat) : Prop where
  cmd : ∀ c tail, CommandOk c tail → cdepth c ≤ n → CmdRT pc c tail
  none : PcNone pc

theorem noCmdAt_of (pc : CmdParser) (hnone : PcNone pc) (tail : List Char) (t : Token)
    (r : List Char) (hl : lexToken tail = some (t, r)) (hns : NoStart t) (hb : t.isKw "!" = false) :
    NoCmdAt pc tail := by
  have := hnone tail t r hl hns
  simp [NoCmdAt, parseAndOr, parsePipeline, this, hl, hb]

def closers : List String := ["do", "done", "elif", "else", "esac", "fi", "then", "}"]

theorem closer_facts : ∀ k ∈ closers, (∀ k' ∈ openers, k' ≠ k) ∧ (kwTok k).isKw "!" = false ∧
    (kwTok k).isClauseDelimiter = true := by decide +kernel

/-- what the composition asks of the text after a list.  A `&` may end the last item whatever `alt` is; with `alt` the
    last item prints its `;`, without it the last and-or list meets `tail` itself. -/
structure ClosedTail (pc : CmdParser) (alt : Bool) (tail : List Char) : Prop where
  amp : OpStops .and tail
  semi : alt = true → OpStops .semicolon tail
  ends : alt = false → EndsWithout tail contOps
  listEnd : ListEnd pc alt tail

/-- a `ClosedTail` is read off the token found there: no command starts at it, it is no `;` or `&`, and a `&` (a `;`) printed in
    front of it is read alone -/
theorem closedTail_at (pc : CmdParser) (hnone : PcNone pc) (alt : Bool) (tail : List Char) (t : Token)
    (r : List Char) (hl : lexToken tail = some (t, r)) (hns : NoStart t) (hb : t.isKw "!" = false)
    (hsep : t.isOp .semicolon = false ∧ t.isOp .and = false)
    (hamp : OpStops .and tail) (hsemi : alt = true → OpStops .semicolon tail)
    (he : alt = false → EndsWithout tail contOps) : ClosedTail pc alt tail :=
  ⟨hamp, hsemi, he, noCmdAt_of pc hnone tail t r hl hns hb, lexToken_opText .and tail hamp false,
    fun ha => lexToken_opText .semicolon tail (hsemi ha) false,
    fun t' r' h' => by rw [hl] at h'; cases h'; exact hsep, ⟨t, r, hl⟩⟩

theorem closedTail_kw (pc : CmdParser) (hnone : PcNone pc) (k : String) (hk : Kw k)
    (hc : k ∈ closers) (next : List Char) (hn : NextOk next) :
    ClosedTail pc true (' ' :: (k.toList ++ next)) ∧ CloserAt (' ' :: (k.toList ++ next)) := by
  have hl := lexToken_kw_blank k hk next hn
  obtain ⟨hno, hbang, hcd⟩ := closer_facts k hc
  exact ⟨closedTail_at pc hnone true _ _ _ hl (noStart_kw k hno) hbang ⟨rfl, rfl⟩
    (opStops_of_head _ _ _ (by decide) (by decide)) (fun _ => opStops_of_head _ _ _ (by decide) (by decide))
    (fun e => Bool.noConfusion e), ⟨_, _, hl, kwTok_isOp k _, hcd⟩⟩

theorem closedTail_rparen (pc : CmdParser) (hnone : PcNone pc) (x : List Char) :
    ClosedTail pc false (')' :: x) ∧ CloserAt (')' :: x) :=
  ⟨closedTail_at pc hnone false _ _ _ (lexToken_rparen x) (Or.inr (Or.inr ⟨.closeParen, rfl, by decide⟩)) rfl
    ⟨rfl, rfl⟩ (opStops_of_head _ _ _ (by decide) (by decide)) (fun h => Bool.noConfusion h)
    (fun _ => ends_rparen x contOps (fun _ h => h)),
    ⟨_, _, lexToken_rparen x, by simp [Token.isOp], by simp [Token.isClauseDelimiter]⟩⟩

theorem listEnd_rparen (pc : CmdParser) (n : Nat) (hpc : PcOk pc n) (x : List Char) :
    ListEnd pc false (')' :: x) ∧ CloserAt (')' :: x) :=
  ⟨(closedTail_rparen pc hpc.none x).1.listEnd, (closedTail_rparen pc hpc.none x).2⟩

theorem cmds_rt (pc : CmdParser) (n : Nat) (hpc : PcOk pc n) (tail : List Char) :
    ∀ cs, CommandsOk cs tail → csdepth cs ≤ n → CmdsRT pc cs tail := by
  intro cs
  induction cs with
  | nil => intro _ _; trivial
  | cons c cs ih =>
    intro h hd
    simp only [CommandsOk] at h
    simp only [csdepth] at hd
    exact ⟨hpc.cmd c _ h.1 (by omega), ih h.2 (by omega)⟩

theorem pipe_rt (pc : CmdParser) (n : Nat) (hpc : PcOk pc n) (p : Pipeline) (tail : List Char)
    (h : PipelineOk p tail) (hd : pdepth p ≤ n) (he : EndsWithout tail [.bar]) : PipeRT pc p tail := by
  obtain ⟨cs, neg⟩ := p
  simp only [PipelineOk] at h
  simp only [pdepth] at hd
  cases cs with
  | nil => exact absurd rfl h.1
  | cons c cs =>
    have hcs := cmds_rt pc n hpc tail (c :: cs) h.2 hd
    have hbang : neg = true → ∀ x, pc ('!' :: ' ' :: x) = some (none, '!' :: ' ' :: x) ∧
        pc (' ' :: '!' :: ' ' :: x) = some (none, ' ' :: '!' :: ' ' :: x) := by
      intro _ x
      have hns := noStart_kw "!" (by decide)
      have h1 := lexToken_kw_exact "!" kw_bang (' ' :: x) (nextOk_blank x) false
      have h2 := lexToken_kw_blank "!" kw_bang (' ' :: x) (nextOk_blank x)
      exact ⟨hpc.none _ _ _ (by simpa using h1) hns, hpc.none _ _ _ h2 hns⟩
    refine ⟨?_, fun sp => pipeline_roundtrip pc neg c cs tail he hcs hbang sp⟩
    cases neg with
    | true =>
      simpa [printPipeline, str] using
        headOk_char '!' (' ' :: (printCommands (c :: cs) ++ tail)) ⟨by decide, by decide, by decide, by decide⟩
    | false =>
      have := hcs.1.1
      simpa [printPipeline, printCommands_cons] using this

theorem pipes_rt (pc : CmdParser) (n : Nat) (hpc : PcOk pc n) (tail : List Char)
    (he : EndsWithout tail contOps) :
    ∀ rs, AndOrRestOk rs tail → rdepth rs ≤ n → PipesRT pc rs tail := by
  intro rs
  induction rs with
  | nil => intro _ _; trivial
  | cons r rs ih =>
    intro h hd
    obtain ⟨isAnd, p⟩ := r
    simp only [AndOrRestOk] at h
    simp only [rdepth] at hd
    exact ⟨pipe_rt pc n hpc p _ h.1 (by omega) (ends_bar_aoRest rs tail he), ih h.2 (by omega)⟩

theorem andor_rt (pc : CmdParser) (n : Nat) (hpc : PcOk pc n) (a : AndOrList) (tail : List Char)
    (h : AndOrOk a tail) (hd : adepth a ≤ n) (he : EndsWithout tail contOps) : AndOrRT pc a tail := by
  obtain ⟨p, rs⟩ := a
  simp only [AndOrOk] at h
  simp only [adepth] at hd
  have hp : PipeRT pc p (aoRest rs tail) := pipe_rt pc n hpc p _ h.1 (by omega) (ends_bar_aoRest rs tail he)
  have hrs := pipes_rt pc n hpc tail he rs h.2 (by omega)
  refine ⟨?_, fun sp => and_or_roundtrip pc p rs tail (endsWithout_mono _ _ _ he (by decide)) hp hrs sp⟩
  have := hp.1
  simpa [printAndOr, printAndOrRest_eq] using this

theorem items_rt (pc : CmdParser) (n : Nat) (hpc : PcOk pc n) (alt : Bool) (tail : List Char)
    (hamp : EndsWithout ('&' :: tail) contOps) (hsemi : alt = true → EndsWithout (';' :: tail) contOps)
    (he : alt = false → EndsWithout tail contOps) :
    ∀ l, ItemsOk alt l tail → ldepth l ≤ n → ItemsRT pc alt l tail := by
  intro l
  induction l with
  | nil => intro _ _; trivial
  | cons i l ih =>
    intro h hd
    obtain ⟨a, async⟩ := i
    cases l with
    | nil =>
      simp only [ItemsOk] at h
      simp only [ldepth] at hd
      simp only [ItemsRT]
      apply andor_rt pc n hpc a _ h (by omega)
      cases async with
      | true => simpa using hamp
      | false =>
        cases alt with
        | true => simpa using hsemi rfl
        | false => simpa using he rfl
    | cons j rest =>
      simp only [ItemsOk] at h
      simp only [ldepth] at hd
      simp only [ItemsRT]
      refine ⟨andor_rt pc n hpc a _ h.1 (by omega) ?_, ih h.2 (by omega)⟩
      cases async with
      | true => exact ends_sep .and (Or.inl rfl) _ (opStops_of_head _ _ _ (by decide) (by decide))
      | false => exact ends_sep .semicolon (Or.inr rfl) _ (opStops_of_head _ _ _ (by decide) (by decide))

theorem closed_items_rt (pc : CmdParser) (n : Nat) (hpc : PcOk pc n) (alt : Bool) (tail : List Char)
    (ht : ClosedTail pc alt tail) (l : List Item) (h : ItemsOk alt l tail) (hd : ldepth l ≤ n) :
    ItemsRT pc alt l tail :=
  items_rt pc n hpc alt tail (ends_sep .and (Or.inl rfl) tail ht.amp)
    (fun ha => ends_sep .semicolon (Or.inr rfl) tail (ht.semi ha)) ht.ends l h hd

theorem closed_listRT (pc : CmdParser) (n : Nat) (hpc : PcOk pc n) (alt : Bool) (l : List Item) (tail : List Char)
    (ht : ClosedTail pc alt tail) (hc : CloserAt tail) (h : ItemsOk alt l tail) (hd : ldepth l ≤ n) :
    ListRT pc alt l tail :=
  fun sp hsp fuel hf =>
    compoundList_rt pc alt l tail ht.listEnd hc (closed_items_rt pc n hpc alt tail ht l h hd) sp hsp fuel hf

theorem list_rt' (pc : CmdParser) (n : Nat) (hpc : PcOk pc n) (alt : Bool) (l : List Item) (tail : List Char)
    (hamp : EndsWithout ('&' :: tail) contOps) (hsemi : alt = true → EndsWithout (';' :: tail) contOps)
    (he : alt = false → EndsWithout tail contOps)
    (hend : ListEnd pc alt tail ∧ CloserAt tail) (h : ItemsOk alt l tail) (hd : ldepth l ≤ n) :
    ListRT pc alt l tail :=
  fun sp hsp fuel hf =>
    compoundList_rt pc alt l tail hend.1 hend.2 (items_rt pc n hpc alt tail hamp hsemi he l h hd) sp hsp fuel hf

theorem list_rt_kw (pc : CmdParser) (n : Nat) (hpc : PcOk pc n) (l : List Item) (k : String) (hk : Kw k)
    (hc : k ∈ closers) (next : List Char) (hn : NextOk next)
    (h : ItemsOk true l (' ' :: (k.toList ++ next))) (hd : ldepth l ≤ n) :
    ListRT pc true l (' ' :: (k.toList ++ next)) :=
  closed_listRT pc n hpc true l _ (closedTail_kw pc hpc.none k hk hc next hn).1 (closedTail_kw pc hpc.none k hk hc next hn).2
    h hd

/-- the text after an `if` body / `elif` body starts with a closer -/
def AfterOk (after : List Char) : Prop :=
  ∃ (k : String) (next : List Char), Kw k ∧ k ∈ closers ∧ NextOk next ∧ after = k.toList ++ next

theorem elifText_afterOk (es : List ElifThen) (after : List Char) (h : AfterOk after) :
    AfterOk (elifText es after) := by
  cases es with
  | nil => simpa [elifText] using h
  | cons e es =>
    obtain ⟨c, b⟩ := e
    exact ⟨"elif", _, kw_elif, by decide +kernel, nextOk_blank _, by simp [elifText]; rfl⟩

theorem list_rt_after (pc : CmdParser) (n : Nat) (hpc : PcOk pc n) (l : List Item) (after : List Char)
    (ha : AfterOk after) (h : ItemsOk true l (' ' :: after)) (hd : ldepth l ≤ n) :
    ListRT pc true l (' ' :: after) := by
  obtain ⟨k, next, hk, hc, hn, rfl⟩ := ha
  exact list_rt_kw pc n hpc l k hk hc next hn h hd

theorem elifs_rt (pc : CmdParser) (n : Nat) (hpc : PcOk pc n) (after : List Char) (ha : AfterOk after) :
    ∀ es, ElifsOk es after → edepth es ≤ n → ElifsRT pc es after := by
  intro es
  induction es with
  | nil => intro _ _; trivial
  | cons e es ih =>
    intro h hd
    obtain ⟨c, b⟩ := e
    simp only [ElifsOk] at h
    simp only [edepth] at hd
    obtain ⟨hc, hb, h1, h2, h3⟩ := h
    exact ⟨hc, hb, list_rt_kw pc n hpc c "then" kw_then (by decide +kernel) _ (nextOk_blank _) h1 (by omega),
      list_rt_after pc n hpc b _ (elifText_afterOk es after ha) h2 (by omega), ih h3 (by omega)⟩

theorem tailOk_cont (k : CaseCont) (x : List Char) (sp : Bool) :
    TailOk ((if sp then [' '] else []) ++ (k.str ++ ' ' :: x)) := by
  cases k
  · exact Or.inr ⟨sp, ';', ';' :: ' ' :: x, by simp [CaseCont.str], by decide⟩
  · exact Or.inr ⟨sp, ';', '&' :: ' ' :: x, by simp [CaseCont.str], by decide⟩
  · exact Or.inr ⟨sp, ';', '|' :: ' ' :: x, by simp [CaseCont.str], by decide⟩

theorem contOp_facts (k : CaseCont) :
    (contOp k).plain = true ∧ contOp k ∉ contOps ∧ contOp k ≠ .semicolon ∧ contOp k ≠ .and ∧
      contOp k ≠ .newline ∧ (Token.mk [] (.op (contOp k))).isClauseDelimiter = true := by
  cases k <;> decide

theorem closedTail_cont (pc : CmdParser) (hnone : PcNone pc) (k : CaseCont) (x : List Char) (sp : Bool) :
    ClosedTail pc false ((if sp then [' '] else []) ++ (k.str ++ ' ' :: x)) ∧
      CloserAt ((if sp then [' '] else []) ++ (k.str ++ ' ' :: x)) := by
  have hl := lexToken_cont k x sp
  obtain ⟨f1, f2, f3, f4, f5, f6⟩ := contOp_facts k
  refine ⟨closedTail_at pc hnone false _ _ _ hl (Or.inr (Or.inr ⟨_, rfl, f1⟩)) rfl
    ⟨by simp [Token.isOp, f3], by simp [Token.isOp, f4]⟩ ?_ (fun h => Bool.noConfusion h)
    (fun _ => endsWithout_of _ (tailOk_cont k x sp) _ _ hl _ f2), ⟨_, _, hl, by simp [Token.isOp, f5], f6⟩⟩
  cases sp <;> cases k <;> exact opStops_of_head _ _ _ (by decide) (by decide)

theorem caseItems_rt (pc : CmdParser) (n : Nat) (hpc : PcOk pc n) (after : List Char) :
    ∀ items, CaseItemsOk items after → cidepth items ≤ n → CaseItemsRT pc items after := by
  intro items
  induction items with
  | nil => intro _ _; trivial
  | cons i items ih =>
    intro h hd
    obtain ⟨ps, b, k⟩ := i
    simp only [CaseItemsOk] at h
    simp only [cidepth] at hd
    obtain ⟨hps, hb, hrest⟩ := h
    refine ⟨hps, ?_, ih hrest (by omega)⟩
    cases b with
    | nil =>
      obtain ⟨ht, hc⟩ := closedTail_cont pc hpc.none k (caseText items after) true
      simp only [if_true, List.singleton_append] at ht hc
      refine ⟨' ' :: (k.str ++ ' ' :: caseText items after), ?_, by
        simpa using lexToken_cont k (caseText items after) true⟩
      intro fuel hf
      have := compoundList_rt pc false [] _ ht.listEnd hc trivial false (fun _ => rfl) fuel hf
      simpa [printList] using this
    | cons j rest =>
      obtain ⟨ht, hc⟩ := closedTail_cont pc hpc.none k (caseText items after) false
      simp only [Bool.false_eq_true, if_false, List.nil_append] at ht hc
      have hl := closed_listRT pc n hpc false (j :: rest) _ ht hc hb (by omega)
      refine ⟨k.str ++ ' ' :: caseText items after, ?_, by
        simpa using lexToken_cont k (caseText items after) false⟩
      intro fuel hf
      have := hl true (fun e => by cases e) fuel hf
      simpa using this

theorem compound_rt (pc : CmdParser) (n : Nat) (hpc : PcOk pc n) (c : CompoundCommand) (t : List Char)
    (hn : NextOk t) (h : CompoundOk c t) (hd : cpdepth c ≤ n) (sp : Bool) :
    parseCompound pc ((if sp then [' '] else []) ++ (printCompound c ++ t)) = some (some c, t) := by
  cases c with
  | grouping l =>
    simp only [CompoundOk] at h
    simp only [cpdepth] at hd
    exact grouping_roundtrip pc l h.1 t hn (list_rt_kw pc n hpc l "}" kw_rbrace (by decide +kernel) t hn h.2 hd) sp
  | subshell l =>
    simp only [CompoundOk] at h
    simp only [cpdepth] at hd
    have hl := closed_listRT pc n hpc false l (')' :: t) (closedTail_rparen pc hpc.none t).1
      (closedTail_rparen pc hpc.none t).2 h.2 hd
    apply subshell_roundtrip pc l h.1 t ?_ ?_ hl sp
    · intro sp'
      exact ⟨_, lexToken_lparen _ sp', by simp [Token.isOp], fun k => by simp [Token.isKw]⟩
    · simp [expectOp, lexToken_rparen, Token.isOp]
  | whileLoop c b =>
    simp only [CompoundOk] at h
    simp only [cpdepth] at hd
    obtain ⟨hc, hb, h1, h2⟩ := h
    exact while_until_roundtrip pc true c b hc hb t hn
      (list_rt_kw pc n hpc c "do" kw_do (by decide +kernel) _ (nextOk_blank _) h1 (by omega))
      (list_rt_kw pc n hpc b "done" kw_done (by decide +kernel) t hn h2 (by omega)) sp
  | untilLoop c b =>
    simp only [CompoundOk] at h
    simp only [cpdepth] at hd
    obtain ⟨hc, hb, h1, h2⟩ := h
    exact while_until_roundtrip pc false c b hc hb t hn
      (list_rt_kw pc n hpc c "do" kw_do (by decide +kernel) _ (nextOk_blank _) h1 (by omega))
      (list_rt_kw pc n hpc b "done" kw_done (by decide +kernel) t hn h2 (by omega)) sp
  | ifCmd c b es hasElse e =>
    simp only [CompoundOk] at h
    simp only [cpdepth] at hd
    obtain ⟨hc, hb, he, h1, h2, h3, h4⟩ := h
    have hee : e = if hasElse then e else [] := by
      cases hasElse
      · exact he
      · rfl
    have ha : AfterOk (if hasElse then "else".toList ++ ' ' :: (printList true e ++ ' ' :: ("fi".toList ++ t))
        else "fi".toList ++ t) := by
      cases hasElse with
      | true =>
        exact ⟨"else", ' ' :: (printList true e ++ ' ' :: ("fi".toList ++ t)), kw_else, by decide +kernel,
          nextOk_blank _, by simp⟩
      | false => exact ⟨"fi", t, kw_fi, by decide +kernel, hn, by simp⟩
    rw [hee]
    apply if_roundtrip pc c b es hasElse e hc hb (by intro hh; simpa [hh] using he) t hn _ rfl
      (list_rt_kw pc n hpc c "then" kw_then (by decide +kernel) _ (nextOk_blank _) h1 (by omega))
      (list_rt_after pc n hpc b _ (elifText_afterOk es _ ha) h2 (by omega))
      (elifs_rt pc n hpc _ ha es h3 (by omega))
    intro hh
    subst hh
    simp only [if_true] at hd
    exact list_rt_kw pc n hpc e "fi" kw_fi (by decide +kernel) t hn h4 (by omega)
  | forLoop name values b =>
    simp only [CompoundOk] at h
    simp only [cpdepth] at hd
    obtain ⟨hb, hname, hvals, hbody⟩ := h
    apply for_roundtrip pc name values b hb t hn hname ?_
      (list_rt_kw pc n hpc b "done" kw_done (by decide +kernel) t hn hbody hd) sp
    intro vs e
    subst e
    exact hvals
  | caseCmd subject items =>
    simp only [CompoundOk] at h
    simp only [cpdepth] at hd
    exact case_roundtrip pc subject items t hn h.1 (caseItems_rt pc n hpc _ items h.2 hd) sp

theorem kw_start (k : String) (hk : Kw k) (x : List Char) (sp : Bool) :
    HeadOk (k.toList ++ ' ' :: x) ∧
    ∃ tok r, lexToken ((if sp then [' '] else []) ++ (k.toList ++ ' ' :: x)) = some (tok, r) ∧
      (tok.id = .word true ∨ tok.id = .op .openParen) :=
  ⟨headOk_kw k hk _, _, _, lexToken_kw_exact k hk _ (nextOk_blank _) sp, Or.inl rfl⟩

theorem compound_start (c : CompoundCommand) (t : List Char) (sp : Bool) :
    HeadOk (printCompound c ++ t) ∧
    ∃ tok r, lexToken ((if sp then [' '] else []) ++ (printCompound c ++ t)) = some (tok, r) ∧
      (tok.id = .word true ∨ tok.id = .op .openParen) := by
  cases c with
  | grouping l => rw [printCompound_grouping]; exact kw_start "{" kw_lbrace _ sp
  | subshell l =>
    rw [printCompound_subshell]
    exact ⟨headOk_char _ _ ⟨by decide, by decide, by decide, by decide⟩, _, _, lexToken_lparen _ sp, Or.inr rfl⟩
  | whileLoop c b => rw [printCompound_while]; exact kw_start "while" kw_while _ sp
  | untilLoop c b => rw [printCompound_until]; exact kw_start "until" kw_until _ sp
  | ifCmd c b es hasElse e => rw [printCompound_if]; exact kw_start "if" kw_if _ sp
  | forLoop name values b => rw [printCompound_for]; exact kw_start "for" kw_for _ sp
  | caseCmd subject items => rw [printCompound_case]; exact kw_start "case" kw_case _ sp

theorem cmdRT_simple (n : Nat) (c : SimpleCommand) (tail : List Char) (h : CommandOk (.simple c) tail) :
    CmdRT (parseCommand (n + 1)) (.simple c) tail := by
  simp only [CommandOk] at h
  exact ⟨by simpa [printCommand] using headOk_simple c tail h.1,
    fun sp => by simpa [printCommand] using command_simple_roundtrip n c tail h.2 h.1 sp⟩

/-- the knot: `Parser::command` with nesting budget `n + 1` reads back every command of the closed
    fragment whose nesting depth is at most `n`, and finds no command where none starts -/
theorem parseCommand_pcOk : ∀ n, PcOk (parseCommand (n + 1)) n := by
  intro n
  induction n using Nat.strongRecOn with
  | _ n ih =>
    refine ⟨?_, fun cs t r hl h => parseCommand_none n cs t r hl h⟩
    intro c tail h hd
    cases c with
    | simple c => exact cmdRT_simple n c tail h
    | compound c rs =>
      simp only [CommandOk] at h
      simp only [cdepth] at hd
      obtain ⟨m, rfl⟩ := Common.exists_succ_of_le hd
      obtain ⟨hc, hrs, ht⟩ := h
      have hn := nextOk_redirsSp rs tail ht
      have hin : printCommand (.compound c rs) ++ tail = printCompound c ++ (printRedirsSp rs ++ tail) := by
        simp [printCommand]
      refine ⟨?_, fun sp => ?_⟩
      · rw [hin]; exact (compound_start c _ false).1
      · exact compound_with_redirections_roundtrip (m + 1) c rs tail ht hrs sp (compound_start c _ sp).2
          (compound_rt (parseCommand (m + 1)) m (ih m m.lt_succ_self) c _ hn hc (by omega) sp)
    | function kw name body rs =>
      simp only [CommandOk] at h
      simp only [cdepth] at hd
      obtain ⟨m, rfl⟩ := Common.exists_succ_of_le hd
      obtain ⟨hkw, hname, hc, hrs, ht⟩ := h
      subst hkw
      have hn := nextOk_redirsSp rs tail ht
      refine ⟨?_, fun sp => function_roundtrip (m + 1) name body rs tail ht hrs hname
        (compound_start body _ false).1
        (by simpa using compound_rt (parseCommand (m + 1)) m (ih m m.lt_succ_self) body _ hn hc (by omega) true) sp⟩
      have := headOk_tokWord name _ hname.tok
        ((if endsWithDollar name then [' '] else []) ++ (str "() " ++ (printCompound body ++ printRedirsSp rs)) ++ tail)
      simpa [printCommand] using this

/-- programs of the closed fragment: the items of a list that is followed by `)` -/
def ProgramOk (l : List Item) (rest : List Char) : Prop := ItemsOk false l (')' :: rest)

end YashModel.Syntax
