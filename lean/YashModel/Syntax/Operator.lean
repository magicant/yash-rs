/-
  C06 — the operator lexer on printed text — `lexOperator_text`: a printed operator is read back whenever what follows
  does not extend it (`Op.more`, the edges of its node in the `OPERATORS` trie).
-/
import YashModel.Syntax.Chars
import YashModel.Syntax.TokenNotions
import YashModel.Syntax.Structure
namespace YashModel.Syntax
open YashModel.Generated.QuoteTables

theorem opTail_nil (r : List Char) (ed : List (Char × Op)) (d : Op) (h : skipLC r = []) :
    opTail r ed d = (d, []) := by unfold opTail; rw [h]

theorem opTail_some (r : List Char) (ed : List (Char × Op)) (d : Op) (c : Char) (r' : List Char) (o : Op)
    (h : skipLC r = c :: r') (hl : ed.lookup c = some o) : opTail r ed d = (o, r') := by
  unfold opTail; rw [h]; simp only [hl]

theorem opTail_none (r : List Char) (ed : List (Char × Op)) (d : Op) (c : Char) (r' : List Char)
    (h : skipLC r = c :: r') (hl : ed.lookup c = none) : opTail r ed d = (d, c :: r') := by
  unfold opTail; rw [h]; simp only [hl]

theorem opTail_stop (y : Char) (t : List Char) (edges : List (Char × Op)) (d : Op)
    (hk : skipLC (y :: t) = y :: t) (hl : edges.lookup y = none) :
    opTail (y :: t) edges d = (d, y :: t) :=
  opTail_none _ edges d y t hk hl

theorem opTail_hit (c : Char) (t : List Char) (edges : List (Char × Op)) (d o : Op)
    (hc : c ≠ '\\') (hl : edges.lookup c = some o) :
    opTail (c :: t) edges d = (o, t) :=
  opTail_some _ edges d c t o (skipLC_cons_ne c t hc) hl

theorem notOp_facts (y : Char) (h : NotOpChar y) :
    y ≠ '\n' ∧ y ≠ '&' ∧ y ≠ '(' ∧ y ≠ ')' ∧ y ≠ ';' ∧ y ≠ '<' ∧ y ≠ '>' ∧ y ≠ '|' := by
  unfold NotOpChar isOperatorChar operatorChars at h
  simp at h
  obtain ⟨a1, a2, a3, a4, a5, a6, a7, a8⟩ := h
  refine ⟨?_, ?_, ?_, ?_, ?_, ?_, ?_, ?_⟩ <;> intro e <;> subst e <;> simp_all

theorem lexOperator_none (y : Char) (t : List Char) (hk : skipLC (y :: t) = y :: t)
    (h : NotOpChar y) : lexOperator (y :: t) = none := by
  obtain ⟨a1, a2, a3, a4, a5, a6, a7, a8⟩ := notOp_facts y h
  simp [lexOperator, hk, a1, a2, a3, a4, a5, a6, a7, a8]

theorem redirOpOf_opOf (op : RedirOp) : redirOpOf (opOfRedirOp op) = some op := by
  cases op <;> rfl

theorem opStops_of_head (o : Op) (y : Char) (t : List Char) (hy : y ≠ '\\') (hm : y ∉ o.more) :
    OpStops o (y :: t) :=
  Or.inr ⟨skipLC_cons_ne y t hy, fun _ _ e => by cases e; exact hm⟩

theorem opStops_nil (o : Op) : OpStops o [] := Or.inr ⟨rfl, fun _ _ e => by cases e⟩

theorem lexOperator_text (o : Op) (next : List Char) (h : OpStops o next) :
    lexOperator (o.text ++ next) = some (o, next) := by
  by_cases hm : o.more = []
  · cases o <;> first
      | exact absurd hm (by decide)
      | simp [Op.text, lexOperator, opTail, skipLC_cons_ne, List.lookup]
  · obtain ⟨hk, hy⟩ := h.resolve_left hm
    cases next with
    | nil => cases o <;> simp [Op.text, lexOperator, opTail, skipLC_cons_ne, List.lookup, skipLC]
    | cons y t =>
      have hb : ∀ c ∈ o.more, (y == c) = false := fun c hc => by
        simp only [beq_eq_false_iff_ne, ne_eq]
        intro e
        exact hy y t rfl (e ▸ hc)
      cases o <;> first
        | exact absurd rfl hm
        | (simp only [Op.more, List.mem_cons, List.not_mem_nil, or_false, forall_eq_or_imp, forall_eq] at hb
           simp [Op.text, lexOperator, opTail, skipLC_cons_ne, hk, List.lookup, hb])

theorem lexOperator_text_eof (o : Op) : lexOperator o.text = some (o, []) := by
  simpa using lexOperator_text o [] (opStops_nil o)

theorem RedirOp.str_eq_text (op : RedirOp) : op.str = (opOfRedirOp op).text := by cases op <;> rfl

theorem CaseCont.str_eq_text (k : CaseCont) : k.str = (contOp k).text := by cases k <;> rfl

theorem lexOperator_redirOp (op : RedirOp) (y : Char) (t : List Char)
    (hk : skipLC (y :: t) = y :: t) (h : NotOpChar y) :
    lexOperator (op.str ++ y :: t) = some (opOfRedirOp op, y :: t) := by
  obtain ⟨a1, a2, a3, a4, a5, a6, a7, a8⟩ := notOp_facts y h
  rw [op.str_eq_text]
  refine lexOperator_text _ _ (Or.inr ⟨hk, fun y' t' e => ?_⟩)
  cases e
  cases op <;> simp [opOfRedirOp, Op.more, a2, a3, a6, a7, a8]

theorem lexOperator_heredoc (y : Char) (t : List Char)
    (hk : skipLC (y :: t) = y :: t) (h1 : y ≠ '-') (h2 : y ≠ '<') :
    lexOperator ('<' :: '<' :: y :: t) = some (.lessLess, y :: t) :=
  lexOperator_text .lessLess (y :: t) (Or.inr ⟨hk, fun _ _ e => by cases e; simp [Op.more, h1, h2]⟩)

theorem lexOperator_heredoc_dash (t : List Char) :
    lexOperator ('<' :: '<' :: '-' :: t) = some (.lessLessDash, t) :=
  lexOperator_text .lessLessDash t (Or.inl rfl)

theorem opTail_prop (P : Op → Prop) (r : List Char) (edges : List (Char × Op)) (d : Op) (hd : P d)
    (he : ∀ p ∈ edges, P p.2) : P (opTail r edges d).1 := by
  unfold opTail
  cases skipLC r with
  | nil => simpa using hd
  | cons c r' =>
    cases hl : edges.lookup c with
    | none => simp only [hl]; exact hd
    | some o =>
      have : (c, o) ∈ edges := by
        induction edges with
        | nil => simp at hl
        | cons p ps ih =>
          obtain ⟨a, b⟩ := p
          simp only [List.lookup] at hl
          by_cases hca : c = a
          · subst hca
            simp at hl
            subst hl
            simp
          · have hne : (c == a) = false := by simp [hca]
            simp only [hne] at hl
            exact List.mem_cons_of_mem _ (ih (fun q hq => he q (List.mem_cons_of_mem _ hq)) hl)
      simp only [hl]
      exact he _ this

/-- the operator read starts with the character looked at: one walk through the `if` chain of `lexOperator`, the trie
    levels below by `opTail_prop` -/
theorem lexOperator_head (y : Char) (t : List Char) (hk : skipLC (y :: t) = y :: t) (x : Op × List Char)
    (hx : lexOperator (y :: t) = some x) : x.1.text.head? = some y := by
  have P := fun (c : Char) r e d (hd : d.text.head? = some c) (he : ∀ p ∈ e, p.2.text.head? = some c) =>
    opTail_prop (·.text.head? = some c) r e d hd he
  -- the second level of the trie: either of two walks
  have two : ∀ {c : Prop} [Decidable c] {a b : Op × List Char},
      (if c then some a else some b) = some x → a.1.text.head? = some y → b.1.text.head? = some y →
        x.1.text.head? = some y := by
    intro c _ a b h ha hb
    split at h <;> cases h <;> assumption
  simp only [lexOperator, hk] at hx
  by_cases h : y = '\n'
  · subst h; rw [if_pos rfl] at hx; cases hx; rfl
  rw [if_neg h] at hx
  by_cases h : y = '&'
  · subst h; rw [if_pos rfl] at hx; cases hx; exact P _ _ _ _ (by decide) (by decide)
  rw [if_neg h] at hx
  by_cases h : y = '('
  · subst h; rw [if_pos rfl] at hx; cases hx; rfl
  rw [if_neg h] at hx
  by_cases h : y = ')'
  · subst h; rw [if_pos rfl] at hx; cases hx; rfl
  rw [if_neg h] at hx
  by_cases h : y = ';'
  · subst h; rw [if_pos rfl] at hx
    exact two hx (P _ _ _ _ (by decide) (by decide)) (P _ _ _ _ (by decide) (by decide))
  rw [if_neg h] at hx
  by_cases h : y = '<'
  · subst h; rw [if_pos rfl] at hx
    exact two hx (P _ _ _ _ (by decide) (by decide)) (P _ _ _ _ (by decide) (by decide))
  rw [if_neg h] at hx
  by_cases h : y = '>'
  · subst h; rw [if_pos rfl] at hx
    exact two hx (P _ _ _ _ (by decide) (by decide)) (P _ _ _ _ (by decide) (by decide))
  rw [if_neg h] at hx
  by_cases h : y = '|'
  · subst h; rw [if_pos rfl] at hx; cases hx; exact P _ _ _ _ (by decide) (by decide)
  rw [if_neg h] at hx
  cases hx

theorem term_facts (e : Char) (he : TermOk e) : e ≠ '\\' ∧ isBlank e = false ∧ e ≠ '#' := by
  rcases he with h | h | h | h | h <;> subst h <;> exact ⟨by decide, by decide, by decide⟩

theorem Op.plain_facts (o : Op) (h : o.plain = true) :
    redirOpOf o = none ∧ o ≠ .lessLess ∧ o ≠ .lessLessDash ∧ o ≠ .lessOpenParen ∧ o ≠ .greaterOpenParen ∧
      o ≠ .openParen := by
  simp only [Op.plain, Bool.and_eq_true, Option.isNone_iff_eq_none, bne_iff_ne, ne_eq] at h
  obtain ⟨⟨⟨⟨⟨p1, p2⟩, p3⟩, p4⟩, p5⟩, p6⟩ := h
  exact ⟨p1, p2, p3, p4, p5, p6⟩

theorem plain_of_term_head (o : Op) (e : Char) (ho : o.text.head? = some e) (he : TermOk e) : o.plain = true := by
  cases o <;> simp only [Op.text, List.head?_cons, Option.some.injEq] at ho <;> subst ho <;>
    first | rfl | exact absurd he (by decide)

theorem lexOperator_term (e : Char) (he : TermOk e) (rest : List Char) :
    ∃ x, lexOperator (e :: rest) = some x ∧ x.1.plain = true := by
  have hk := skipLC_cons_ne e rest (term_facts e he).1
  -- the `if` chain has a branch for each of the five terminators
  have hs : (lexOperator (e :: rest)).isSome = true := by
    rcases he with h | h | h | h | h <;> subst h <;> simp only [lexOperator, hk, Char.reduceEq, if_false, if_true] <;>
      first | rfl | (split <;> rfl)
  obtain ⟨x, hx⟩ := Option.isSome_iff_exists.mp hs
  exact ⟨x, hx, plain_of_term_head _ e (lexOperator_head e rest hk x hx) he⟩

theorem lexOperator_not_newline (y : Char) (t : List Char) (hk : skipLC (y :: t) = y :: t)
    (hy : y ≠ '\n') : ∀ x, lexOperator (y :: t) = some x → x.1 ≠ .newline := by
  intro x hx e
  have := lexOperator_head y t hk x hx
  rw [e] at this
  exact hy (Option.some.inj this).symm

theorem caseContOf_contOp (k : CaseCont) : caseContOf (contOp k) = some k := by cases k <;> rfl

end YashModel.Syntax
