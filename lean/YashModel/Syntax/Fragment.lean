/-
  C06 — the full word fragment: the trees the word lexer can produce from their own printed text
  (every modelled word unit), as predicates on the tree and on the text that follows it.
-/
import YashModel.Syntax.Notions
namespace YashModel.Syntax

/-! ## the full word fragment -/

/-- what follows a `$name`: not a line continuation and not a further name character -/
def HeadNotName (rest : List Char) : Prop :=
  skipLC rest = rest ∧ ∀ c r, rest = c :: r → isNameChar c = false

/-- identifiers of `RawParam` as `raw_param` produces them -/
def RawIdOk (id : List Char) (rest : List Char) : Prop :=
  ∃ c n, id = c :: n ∧
    ((n = [] ∧ (isSpecialParamChar c = true ∨ isAsciiDigit c = true)) ∨
     (isSpecialParamChar c = false ∧ isAsciiDigit c = false ∧ isNameChar c = true ∧
       n.all isNameChar = true ∧ HeadNotName rest))

/-- identifiers of `BracedParam` as `braced_param` produces them -/
def BracedIdOk (id : List Char) : Prop :=
  ∃ c n, id = c :: n ∧
    ((isNameChar c = true ∧ n.all isNameChar = true ∧ validId (c :: n) = true) ∨
     (n = [] ∧ isNameChar c = false ∧ isSpecialParamChar c = true))

/-- content of a backquote substitution as `backquote_unit` produces it -/
def BqOk (ctx : Ctx) : List BackquoteUnit → Prop
  | [] => True
  | .literal c :: us => c ≠ '`' ∧ c ≠ '\\' ∧ BqOk ctx us
  | .backslashed c :: us =>
    (c = '$' ∨ c = '`' ∨ c = '\\' ∨ (c = '"' ∧ ctx = .text)) ∧
    (c = '\\' → (printBackquoteUnits us).head? ≠ some '\n') ∧ BqOk ctx us

/-- the word does not start with an unquoted `~` (which `parse_tilde_front` would convert) -/
def NoTildeFront (w : List WordUnit) : Prop := w.head? ≠ some (.unquoted (.literal '~'))

/-- extra conditions on an unquoted text unit at word level: quotes start quoted units -/
def UnquotedOk (ctx : Ctx) : TextUnit → Prop
  | .literal c => c ≠ '"' ∧ (ctx = .word → c ≠ '\'')
  | _ => True

mutual
  /-- text units the parser can produce in context `ctx` with delimiter `d`, given the text that follows -/
  def TextUnit.Ok (ctx : Ctx) (d : Delim) : TextUnit → List Char → Prop
    | .literal c, _ => c ≠ '\\' ∧ c ≠ '$' ∧ c ≠ '`' ∧ d.test c = false
    | .backslashed c, _ => escapable ctx d c = true ∧ c ≠ '\n'
    | .rawParam id, rest => RawIdOk id rest
    | .bracedParam id m, rest => BracedIdOk id ∧ Modifier.Ok ctx id m rest
    | .commandSubst _, _ => False
    | .backquote us, _ => BqOk ctx us
    | .arith _, _ => False
  def Modifier.Ok (ctx : Ctx) (id : List Char) : Modifier → List Char → Prop
    | .none, _ => True
    | .length, _ => True
    | .switch colon a w, rest =>
      WordUnits.Ok ctx .brace w ('}' :: rest) ∧ (ctx = .word → NoTildeFront w) ∧
      (id = ['#'] → colon = false → (a = .default ∨ a = .error) → printWord w ≠ [])
    | .trim side longest w, rest =>
      WordUnits.Ok .word .brace w ('}' :: rest) ∧ NoTildeFront w ∧
      (longest = false → (printWord w).head? ≠ some side.char) ∧
      (id = ['#'] → side = .pfx → longest = false → printWord w ≠ [])
  def TextUnits.Ok (ctx : Ctx) (d : Delim) : List TextUnit → List Char → Prop
    | [], _ => True
    | u :: us, rest => TextUnit.Ok ctx d u (printText us ++ rest) ∧ TextUnits.Ok ctx d us rest
  def WordUnit.Ok (ctx : Ctx) (d : Delim) : WordUnit → List Char → Prop
    | .unquoted u, rest => TextUnit.Ok ctx d u rest ∧ UnquotedOk ctx u
    | .singleQuote s, _ => ctx = .word ∧ '\'' ∉ s
    | .doubleQuote t, rest => TextUnits.Ok .text .dquote t ('"' :: rest)
    | .dollarSingleQuote es, _ => ctx = .word ∧ ∀ u ∈ es, u.Producible ∧ u ≠ .literal '\''
    | .tilde _ _, _ => False
  def WordUnits.Ok (ctx : Ctx) (d : Delim) : List WordUnit → List Char → Prop
    | [], _ => True
    | u :: us, rest => WordUnit.Ok ctx d u (printWord us ++ rest) ∧ WordUnits.Ok ctx d us rest
end

end YashModel.Syntax
