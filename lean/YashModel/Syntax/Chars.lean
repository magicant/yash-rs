/-
  C06 — line continuations and blanks on printed text.
-/
import YashModel.Syntax.Lexer
namespace YashModel.Syntax

theorem skipLC_cons_ne (c : Char) (cs : List Char) (h : c ≠ '\\') : skipLC (c :: cs) = c :: cs := by
  unfold skipLC
  split
  · rename_i heq
    simp at heq
    exact absurd heq.1 h
  · rfl

theorem skipLC_bs_ne (c : Char) (cs : List Char) (h : c ≠ '\n') :
    skipLC ('\\' :: c :: cs) = '\\' :: c :: cs := by
  unfold skipLC
  split
  · rename_i heq
    simp at heq
    exact absurd heq.1 h
  · rfl

theorem skipBlanks_stop (c : Char) (t : List Char) (h1 : skipLC (c :: t) = c :: t)
    (h2 : isBlank c = false) : ∀ fuel, skipBlanks fuel (c :: t) = c :: t := by
  intro fuel
  cases fuel with
  | zero => rfl
  | succ n => simp [skipBlanks, h1, h2]

theorem skipBlanks_pre (sp : Bool) (c : Char) (t : List Char) (h1 : skipLC (c :: t) = c :: t)
    (h2 : isBlank c = false) :
    ∀ fuel, 1 ≤ fuel → skipBlanks fuel ((if sp then [' '] else []) ++ c :: t) = c :: t := by
  intro fuel hf
  cases sp with
  | false => simpa using skipBlanks_stop c t h1 h2 fuel
  | true =>
    obtain ⟨n, rfl⟩ : ∃ n, fuel = n + 1 := ⟨fuel - 1, by omega⟩
    have hb : isBlank ' ' = true := by decide
    simp [skipBlanks, skipLC_cons_ne ' ' _ (by decide), hb, skipBlanks_stop c t h1 h2]

theorem skipBlanks_space (c : Char) (rest : List Char) (h1 : c ≠ '\\') (h2 : isBlank c = false) :
    ∀ fuel, 1 ≤ fuel → skipBlanks fuel (' ' :: c :: rest) = c :: rest :=
  fun fuel hf => skipBlanks_pre true c rest (skipLC_cons_ne c rest h1) h2 fuel hf

end YashModel.Syntax
