/-
  C06 — Spec side of the driver: the statement "the printed text reads back as the same tree", evaluated
  with the model lexer on every token-level word of a tree (command words, redirection operands,
  here-document delimiters, `for` names and values, `case` subjects and patterns, function names).

  A word is checked when it lies in the fragment the model lexer covers: no command substitution or
  arithmetic expansion anywhere inside, and tilde expansions only in first position (the others come from
  `parse_tilde_everywhere`, which belongs to the assignment / declaration-utility rules of the parser).
-/
import YashModel.Syntax.Model
import YashModel.Syntax.Lexer
import YashModel.Syntax.Parser
import YashModel.Syntax.Structure
namespace YashModel.Syntax

mutual
  def modelledTextUnit : TextUnit → Bool
    | .literal _ | .backslashed _ | .rawParam _ | .backquote _ => true
    | .commandSubst _ | .arith _ => false
    | .bracedParam _ m => modelledModifier m
  def modelledModifier : Modifier → Bool
    | .none | .length => true
    | .switch _ _ w => modelledWord w
    | .trim _ _ w => modelledWord w
  def modelledText : List TextUnit → Bool
    | [] => true
    | u :: us => modelledTextUnit u && modelledText us
  def modelledWordUnit : WordUnit → Bool
    | .unquoted u => modelledTextUnit u
    | .singleQuote _ | .dollarSingleQuote _ | .tilde _ _ => true
    | .doubleQuote t => modelledText t
  def modelledWord : List WordUnit → Bool
    | [] => true
    | u :: us => modelledWordUnit u && modelledWord us
end

def hasLaterTilde : List WordUnit → Bool
  | [] => false
  | _ :: us => us.any fun | .tilde _ _ => true | _ => false

mutual
  def eqTextUnit : TextUnit → TextUnit → Bool
    | .literal a, .literal b => a = b
    | .backslashed a, .backslashed b => a = b
    | .rawParam a, .rawParam b => a = b
    | .bracedParam a m, .bracedParam b n => a = b && eqModifier m n
    | .commandSubst a, .commandSubst b => a = b
    | .backquote a, .backquote b => a = b
    | .arith a, .arith b => eqText a b
    | _, _ => false
  def eqModifier : Modifier → Modifier → Bool
    | .none, .none => true
    | .length, .length => true
    | .switch c a w, .switch c' a' w' => c = c' && a = a' && eqWord w w'
    | .trim s l w, .trim s' l' w' => s = s' && l = l' && eqWord w w'
    | _, _ => false
  def eqText : List TextUnit → List TextUnit → Bool
    | [], [] => true
    | a :: as, b :: bs => eqTextUnit a b && eqText as bs
    | _, _ => false
  def eqWordUnit : WordUnit → WordUnit → Bool
    | .unquoted a, .unquoted b => eqTextUnit a b
    | .singleQuote a, .singleQuote b => a = b
    | .doubleQuote a, .doubleQuote b => eqText a b
    | .dollarSingleQuote a, .dollarSingleQuote b => a = b
    | .tilde a s, .tilde b t => a = b && s = t
    | _, _ => false
  def eqWord : List WordUnit → List WordUnit → Bool
    | [], [] => true
    | a :: as, b :: bs => eqWordUnit a b && eqWord as bs
    | _, _ => false
end

/-- verdict on one token-level word: `none` = not in the modelled fragment -/
def checkWord (w : Word) : Option Bool :=
  if !modelledWord w || hasLaterTilde w || w.isEmpty then none else
  match lexWord .token (printWord w ++ [' ']) with
  | some (w', [' ']) => some (eqWord (parseTildeFront w') w)
  | _ => some false

def redirWord : Redir → Word
  | .normal _ _ w => w
  | .hereDoc _ _ w => w

def simpleWords (c : SimpleCommand) : List Word :=
  c.words ++ c.redirs.map redirWord ++
    (c.assigns.flatMap fun a => match a.value with | .scalar _ => [] | .array ws => ws)

mutual
  def compoundWords : CompoundCommand → List Word
    | .grouping l => listWords l
    | .subshell l => listWords l
    | .forLoop n vs b => n :: ((vs.getD []) ++ listWords b)
    | .whileLoop c b => listWords c ++ listWords b
    | .untilLoop c b => listWords c ++ listWords b
    | .ifCmd c b es _ e => listWords c ++ listWords b ++ elifWords es ++ listWords e
    | .caseCmd s items => s :: caseWords items
  def elifWords : List ElifThen → List Word
    | [] => []
    | .mk c b :: rest => listWords c ++ listWords b ++ elifWords rest
  def caseWords : List CaseItem → List Word
    | [] => []
    | .mk ps b _ :: rest => ps ++ listWords b ++ caseWords rest
  def commandWords : Command → List Word
    | .simple c => simpleWords c
    | .compound c rs => compoundWords c ++ rs.map redirWord
    | .function _ n c rs => n :: (compoundWords c ++ rs.map redirWord)
  def commandsWords : List Command → List Word
    | [] => []
    | c :: cs => commandWords c ++ commandsWords cs
  def pipelineWords : Pipeline → List Word
    | .mk cs _ => commandsWords cs
  def andOrRestWords : List AndOrRest → List Word
    | [] => []
    | .mk _ p :: rest => pipelineWords p ++ andOrRestWords rest
  def itemWords : Item → List Word
    | .mk (.mk first rest) _ => pipelineWords first ++ andOrRestWords rest
  def listWords : List Item → List Word
    | [] => []
    | i :: is => itemWords i ++ listWords is
end

/-! ## simple commands read back by the model parser -/

def anyTilde (w : Word) : Bool := w.any fun | .tilde _ _ => true | _ => false

def eqWords : List Word → List Word → Bool
  | [], [] => true
  | a :: as, b :: bs => eqWord a b && eqWords as bs
  | _, _ => false

def eqRedir : Redir → Redir → Bool
  | .normal f o w, .normal f' o' w' => f = f' && o = o' && eqWord w w'
  | .hereDoc f t w, .hereDoc f' t' w' => f = f' && t = t' && eqWord w w'
  | _, _ => false

def eqRedirs : List Redir → List Redir → Bool
  | [], [] => true
  | a :: as, b :: bs => eqRedir a b && eqRedirs as bs
  | _, _ => false

def eqAssigns : List Assign → List Assign → Bool
  | [], [] => true
  | a :: as, b :: bs =>
    a.name = b.name && (match a.value, b.value with
      | .scalar v, .scalar v' => eqWord v v'
      | .array ws, .array ws' => eqWords ws ws'
      | _, _ => false) && eqAssigns as bs
  | _, _ => false

/-- is the simple command inside what `parseSimple` models? -/
def simpleModelled (c : SimpleCommand) : Bool :=
  c.assigns.all (fun a => match a.value with
    | .scalar v => modelledWord v && !anyTilde v && !hasUnquotedTilde v
    | .array ws => ws.all fun w => modelledWord w && !hasLaterTilde w && !w.isEmpty) &&
  c.words.all (fun w => modelledWord w && !hasLaterTilde w && !w.isEmpty &&
    !(hasUnquotedTilde w && (assignOf w).isSome)) &&
  c.redirs.all (fun r => modelledWord (redirWord r) && !hasLaterTilde (redirWord r) && !(redirWord r).isEmpty)

/-- verdict on one simple command: `none` = not in the modelled fragment -/
def checkSimple (c : SimpleCommand) : Option Bool :=
  if !simpleModelled c then none else
  let text := printSimple c ++ [';']
  match parseSimple (text.length + 2) text with
  | some (some c', [';']) =>
    some (eqAssigns c'.assigns c.assigns && eqWords c'.words c.words && eqRedirs c'.redirs c.redirs)
  | _ => some false

mutual
  def compoundSimples : CompoundCommand → List SimpleCommand
    | .grouping l => listSimples l
    | .subshell l => listSimples l
    | .forLoop _ _ b => listSimples b
    | .whileLoop c b => listSimples c ++ listSimples b
    | .untilLoop c b => listSimples c ++ listSimples b
    | .ifCmd c b es _ e => listSimples c ++ listSimples b ++ elifSimples es ++ listSimples e
    | .caseCmd _ items => caseSimples items
  def elifSimples : List ElifThen → List SimpleCommand
    | [] => []
    | .mk c b :: rest => listSimples c ++ listSimples b ++ elifSimples rest
  def caseSimples : List CaseItem → List SimpleCommand
    | [] => []
    | .mk _ b _ :: rest => listSimples b ++ caseSimples rest
  def commandSimples : Command → List SimpleCommand
    | .simple c => [c]
    | .compound c _ => compoundSimples c
    | .function _ _ c _ => compoundSimples c
  def commandsSimples : List Command → List SimpleCommand
    | [] => []
    | c :: cs => commandSimples c ++ commandsSimples cs
  def pipelineSimples : Pipeline → List SimpleCommand
    | .mk cs _ => commandsSimples cs
  def andOrRestSimples : List AndOrRest → List SimpleCommand
    | [] => []
    | .mk _ p :: rest => pipelineSimples p ++ andOrRestSimples rest
  def itemSimples : Item → List SimpleCommand
    | .mk (.mk first rest) _ => pipelineSimples first ++ andOrRestSimples rest
  def listSimples : List Item → List SimpleCommand
    | [] => []
    | i :: is => itemSimples i ++ listSimples is
end

/-! ## whole programs read back by the model parser of the command structure -/

def tokWordModelled (w : Word) : Bool := modelledWord w && !hasLaterTilde w && !w.isEmpty

def redirModelled : Redir → Bool
  | .normal _ _ w => tokWordModelled w
  | .hereDoc _ _ _ => false

def simpleStructModelled (c : SimpleCommand) : Bool :=
  simpleModelled c && c.redirs.all redirModelled

mutual
  def compoundModelled : CompoundCommand → Bool
    | .grouping l => listModelled l
    | .subshell l => listModelled l
    | .forLoop n vs b => tokWordModelled n && (vs.getD []).all tokWordModelled && listModelled b
    | .whileLoop c b => listModelled c && listModelled b
    | .untilLoop c b => listModelled c && listModelled b
    | .ifCmd c b es _ e => listModelled c && listModelled b && elifsModelled es && listModelled e
    | .caseCmd s items => tokWordModelled s && caseItemsModelled items
  def elifsModelled : List ElifThen → Bool
    | [] => true
    | .mk c b :: rest => listModelled c && listModelled b && elifsModelled rest
  def caseItemsModelled : List CaseItem → Bool
    | [] => true
    | .mk ps b _ :: rest => ps.all tokWordModelled && listModelled b && caseItemsModelled rest
  def commandModelled : Command → Bool
    | .simple c => simpleStructModelled c
    | .compound c rs => compoundModelled c && rs.all redirModelled
    | .function kw n c rs => !kw && tokWordModelled n && compoundModelled c && rs.all redirModelled
  def commandsModelled : List Command → Bool
    | [] => true
    | c :: cs => commandModelled c && commandsModelled cs
  def pipelineModelled : Pipeline → Bool
    | .mk cs _ => commandsModelled cs
  def andOrRestModelled : List AndOrRest → Bool
    | [] => true
    | .mk _ p :: rest => pipelineModelled p && andOrRestModelled rest
  def itemModelled : Item → Bool
    | .mk (.mk first rest) _ => pipelineModelled first && andOrRestModelled rest
  def listModelled : List Item → Bool
    | [] => true
    | i :: is => itemModelled i && listModelled is
end

def eqSimple (a b : SimpleCommand) : Bool :=
  eqAssigns a.assigns b.assigns && eqWords a.words b.words && eqRedirs a.redirs b.redirs

mutual
  def eqCompound : CompoundCommand → CompoundCommand → Bool
    | .grouping a, .grouping b => eqItems a b
    | .subshell a, .subshell b => eqItems a b
    | .forLoop n vs b, .forLoop n' vs' b' =>
      eqWord n n' && (match vs, vs' with
        | none, none => true
        | some x, some y => eqWords x y
        | _, _ => false) && eqItems b b'
    | .whileLoop c b, .whileLoop c' b' => eqItems c c' && eqItems b b'
    | .untilLoop c b, .untilLoop c' b' => eqItems c c' && eqItems b b'
    | .ifCmd c b es h e, .ifCmd c' b' es' h' e' =>
      eqItems c c' && eqItems b b' && eqElifs es es' && h = h' && eqItems e e'
    | .caseCmd s is, .caseCmd s' is' => eqWord s s' && eqCaseItems is is'
    | _, _ => false
  def eqElifs : List ElifThen → List ElifThen → Bool
    | [], [] => true
    | .mk c b :: r, .mk c' b' :: r' => eqItems c c' && eqItems b b' && eqElifs r r'
    | _, _ => false
  def eqCaseItems : List CaseItem → List CaseItem → Bool
    | [], [] => true
    | .mk p b k :: r, .mk p' b' k' :: r' => eqWords p p' && eqItems b b' && k = k' && eqCaseItems r r'
    | _, _ => false
  def eqCommand : Command → Command → Bool
    | .simple a, .simple b => eqSimple a b
    | .compound c r, .compound c' r' => eqCompound c c' && eqRedirs r r'
    | .function k n c r, .function k' n' c' r' => k = k' && eqWord n n' && eqCompound c c' && eqRedirs r r'
    | _, _ => false
  def eqCommands : List Command → List Command → Bool
    | [], [] => true
    | a :: r, b :: r' => eqCommand a b && eqCommands r r'
    | _, _ => false
  def eqPipeline : Pipeline → Pipeline → Bool
    | .mk a n, .mk b m => n = m && eqCommands a b
  def eqAndOrRest : List AndOrRest → List AndOrRest → Bool
    | [], [] => true
    | .mk x p :: r, .mk y q :: r' => x = y && eqPipeline p q && eqAndOrRest r r'
    | _, _ => false
  def eqItem : Item → Item → Bool
    | .mk (.mk f r) a, .mk (.mk f' r') a' => a = a' && eqPipeline f f' && eqAndOrRest r r'
  def eqItems : List Item → List Item → Bool
    | [], [] => true
    | a :: r, b :: r' => eqItem a b && eqItems r r'
    | _, _ => false
end

/-- verdict on a whole program: `none` = not in the modelled fragment -/
def checkProgram (l : List Item) : Option Bool :=
  if l.isEmpty || !listModelled l then none else
  -- half of the programs (by the parity of the printed length) are read back in front of `)` (as inside `$(…)` or a
  -- subshell: `structure_roundtrip`), the other half with nothing after them (as `List::from_str(printed)` does:
  -- `structure_roundtrip_at_end_of_input`)
  let printed := printList false l
  if printed.length % 2 = 0 then
    match parseProgram (printed ++ [')']) with
    | some (l', [')']) => some (eqItems l' l)
    | _ => some false
  else
    match parseProgram printed with
    | some (l', []) => some (eqItems l' l)
    | _ => some false


/-! ## shape of the closed fragment of `structure_roundtrip` (for counting) -/

mutual
  def closedCompound : CompoundCommand → Bool
    | .grouping l => closedList l
    | .subshell l => closedList l
    | .whileLoop c b => closedList c && closedList b
    | .untilLoop c b => closedList c && closedList b
    | .ifCmd c b es _ e => closedList c && closedList b && closedElifs es && closedList e
    | .forLoop n vs b => tokWordModelled n && (vs.getD []).all tokWordModelled && closedList b
    | .caseCmd s items => tokWordModelled s && closedCaseItems items
  def closedCaseItems : List CaseItem → Bool
    | [] => true
    | .mk ps b _ :: rest => !ps.isEmpty && ps.all tokWordModelled && closedList b && closedCaseItems rest
  def closedElifs : List ElifThen → Bool
    | [] => true
    | .mk c b :: rest => closedList c && closedList b && closedElifs rest
  def closedCommand : Command → Bool
    | .simple c => simpleStructModelled c
    | .compound c rs => closedCompound c && rs.all redirModelled
    | .function kw n c rs => !kw && tokWordModelled n && closedCompound c && rs.all redirModelled
  def closedCommands : List Command → Bool
    | [] => true
    | c :: cs => closedCommand c && closedCommands cs
  def closedRest : List AndOrRest → Bool
    | [] => true
    | .mk _ (.mk cs _) :: rest => closedCommands cs && closedRest rest
  def closedList : List Item → Bool
    | [] => true
    | .mk (.mk (.mk cs _) rest) _ :: is => closedCommands cs && closedRest rest && closedList is
end

/-- second output column of the driver -/
def specColumn (l : List Item) : String :=
  let rs := (listWords l).filterMap checkWord
  let ss := (listSimples l).filterMap checkSimple
  let ps := (checkProgram l).toList
  if rs.isEmpty && ss.isEmpty && ps.isEmpty then "-"
  else if !rs.all id then "FAIL:a-printed-word-does-not-read-back"
  else if !ss.all id then "FAIL:a-printed-simple-command-does-not-read-back"
  else if !ps.all id then "FAIL:the-printed-program-does-not-read-back"
  else if ps.isEmpty then "ok" else if closedList l then "ok+structure+closed" else "ok+structure"

end YashModel.Syntax
