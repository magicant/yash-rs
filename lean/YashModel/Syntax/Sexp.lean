/-
  C06 — driver side: S-expression reader for syntax trees (format produced by
  `harness/src/bin/c06.rs`).  Characters travel as decimal code points, strings as hex of
  UTF-8 (`-` = empty).
-/
import YashModel.Common.Proto
import YashModel.Syntax.Model
namespace YashModel.Syntax
open YashModel.Proto

inductive Sx where
  | atom (s : String)
  | list (xs : List Sx)
  deriving Inhabited

def tokenize (s : String) : List String :=
  let rec go (cs : List Char) (cur : List Char) (acc : List String) : List String :=
    let flush := if cur.isEmpty then acc else String.ofList cur.reverse :: acc
    match cs with
    | [] => flush.reverse
    | c :: rest =>
      if c = '(' ∨ c = ')' then go rest [] (String.singleton c :: flush)
      else if c = ' ' then go rest [] flush
      else go rest (c :: cur) acc
  go s.toList [] []

partial def parseSx : List String → Option (Sx × List String)
  | [] => none
  | "(" :: rest =>
    let rec items (ts : List String) (acc : List Sx) : Option (Sx × List String) :=
      match ts with
      | [] => none
      | ")" :: rest => some (.list acc.reverse, rest)
      | ts => match parseSx ts with
        | some (x, rest) => items rest (x :: acc)
        | none => none
    items rest []
  | ")" :: _ => none
  | a :: rest => some (.atom a, rest)

def Sx.nat? : Sx → Option Nat
  | .atom a => a.toNat?
  | _ => none

def Sx.bool? : Sx → Option Bool
  | .atom "0" => some false
  | .atom "1" => some true
  | _ => none

def Sx.chars? : Sx → Option (List Char)
  | .atom a => decChars a
  | _ => none

def Sx.char? (s : Sx) : Option Char := do
  let n ← s.nat?
  if n.isValidChar then some (Char.ofNat n) else none

def Sx.u8? (s : Sx) : Option UInt8 := do
  let n ← s.nat?
  if n < 256 then some (UInt8.ofNat n) else none

def toEscapes : List Sx → Option (List EscapeUnit)
  | [] => some []
  | x :: rest => do
    let r ← toEscapes rest
    match x with
    | .list [.atom "L", s] => do pure ((← s.chars?).map EscapeUnit.literal ++ r)
    | .atom "dq" => some (.doubleQuote :: r)
    | .atom "sq" => some (.singleQuote :: r)
    | .atom "bs" => some (.backslash :: r)
    | .atom "qm" => some (.question :: r)
    | .atom "a" => some (.alert :: r)
    | .atom "b" => some (.backspace :: r)
    | .atom "e" => some (.escape :: r)
    | .atom "f" => some (.formFeed :: r)
    | .atom "n" => some (.newline :: r)
    | .atom "r" => some (.carriageReturn :: r)
    | .atom "t" => some (.tab :: r)
    | .atom "v" => some (.verticalTab :: r)
    | .list [.atom "c", n] => do pure (.control (← n.u8?) :: r)
    | .list [.atom "o", n] => do pure (.octal (← n.u8?) :: r)
    | .list [.atom "x", n] => do pure (.hex (← n.u8?) :: r)
    | .list [.atom "u", n] => do pure (.unicode (← n.char?) :: r)
    | _ => none

def toBackquoteUnits : List Sx → Option (List BackquoteUnit)
  | [] => some []
  | x :: rest => do
    let r ← toBackquoteUnits rest
    match x with
    | .list [.atom "L", s] => do pure ((← s.chars?).map BackquoteUnit.literal ++ r)
    | .list [.atom "b", c] => do pure (.backslashed (← c.char?) :: r)
    | _ => none

mutual
  /-- text units; `(L hex)` expands to a run of literals -/
  partial def toTextUnits : List Sx → Option (List TextUnit)
    | [] => some []
    | x :: rest => do
      let r ← toTextUnits rest
      match x with
      | .list [.atom "L", s] => do pure ((← s.chars?).map TextUnit.literal ++ r)
      | .list [.atom "b", c] => do pure (.backslashed (← c.char?) :: r)
      | .list [.atom "rp", id] => do pure (.rawParam (← id.chars?) :: r)
      | .list [.atom "bp", id, m] => do pure (.bracedParam (← id.chars?) (← toModifier m) :: r)
      | .list [.atom "cs", s] => do pure (.commandSubst (← s.chars?) :: r)
      | .list (.atom "bq" :: us) => do pure (.backquote (← toBackquoteUnits us) :: r)
      | .list (.atom "ar" :: us) => do pure (.arith (← toTextUnits us) :: r)
      | _ => none
  partial def toModifier : Sx → Option Modifier
    | .atom "n" => some .none
    | .atom "len" => some .length
    | .list [.atom "sw", c, .atom a, w] => do
      let a ← match a with
        | "+" => some SwitchAction.alter | "-" => some .default | "=" => some .assign
        | "?" => some .error | _ => none
      pure (.switch (← c.bool?) a (← toWord w))
    | .list [.atom "tr", .atom s, l, w] => do
      let s ← match s with | "#" => some TrimSide.pfx | "%" => some .sfx | _ => none
      pure (.trim s (← l.bool?) (← toWord w))
    | _ => none
  partial def toWordUnits : List Sx → Option (List WordUnit)
    | [] => some []
    | x :: rest => do
      let r ← toWordUnits rest
      match x with
      | .list [.atom "sq", s] => do pure (.singleQuote (← s.chars?) :: r)
      | .list (.atom "dq" :: us) => do pure (.doubleQuote (← toTextUnits us) :: r)
      | .list (.atom "dsq" :: us) => do pure (.dollarSingleQuote (← toEscapes us) :: r)
      | .list [.atom "t", n, b] => do pure (.tilde (← n.chars?) (← b.bool?) :: r)
      | x => do pure ((← toTextUnits [x]).map WordUnit.unquoted ++ r)
  partial def toWord : Sx → Option Word
    | .list (.atom "w" :: us) => toWordUnits us
    | _ => none
end

def toFd : Sx → Option (Option Nat)
  | .atom "-" => some none
  | x => do pure (some (← x.nat?))

def toRedirOp : String → Option RedirOp
  | "<" => some .fileIn | "<>" => some .fileInOut | ">" => some .fileOut | ">>" => some .fileAppend
  | ">|" => some .fileClobber | "<&" => some .fdIn | ">&" => some .fdOut | ">>|" => some .pipe
  | "<<<" => some .string | _ => none

def toRedir : Sx → Option Redir
  | .list [.atom "r", fd, .atom op, w] => do pure (.normal (← toFd fd) (← toRedirOp op) (← toWord w))
  | .list [.atom "h", fd, rt, w] => do pure (.hereDoc (← toFd fd) (← rt.bool?) (← toWord w))
  | _ => none

def toAssign : Sx → Option Assign
  | .list [.atom "as", n, w] => do pure ⟨← n.chars?, .scalar (← toWord w)⟩
  | .list (.atom "aa" :: n :: ws) => do pure ⟨← n.chars?, .array (← ws.mapM toWord)⟩
  | _ => none

def toCmdWord : Sx → Option Word
  | .list [.atom "single", w] => toWord w
  | w => toWord w

/-- every simple-command node of a tree with the expansion modes of its words (`true` = `(single w)`,
    i.e. `ExpansionMode::Single`); the words of a tree contain no nested command trees -/
partial def sxSimpleModes : Sx → List (List Word × List Bool)
  | .list [.atom "sc", .list _, .list ws, .list _] =>
    match ws.mapM toCmdWord with
    | some words => [(words, ws.map fun | .list [.atom "single", _] => true | _ => false)]
    | none => []
  | .list xs => (xs.map sxSimpleModes).flatten
  | _ => []

def toSimple : Sx → Option SimpleCommand
  | .list [.atom "sc", .list as, .list ws, .list rs] => do
    pure ⟨← as.mapM toAssign, ← ws.mapM toCmdWord, ← rs.mapM toRedir⟩
  | _ => none

mutual
  partial def toCompound : Sx → Option CompoundCommand
    | .list [.atom "grp", l] => do pure (.grouping (← toList l))
    | .list [.atom "sub", l] => do pure (.subshell (← toList l))
    | .list [.atom "for", n, .atom "-", b] => do pure (.forLoop (← toWord n) none (← toList b))
    | .list [.atom "for", n, .list (.atom "in" :: vs), b] => do
      pure (.forLoop (← toWord n) (some (← vs.mapM toWord)) (← toList b))
    | .list [.atom "while", c, b] => do pure (.whileLoop (← toList c) (← toList b))
    | .list [.atom "until", c, b] => do pure (.untilLoop (← toList c) (← toList b))
    | .list [.atom "if", c, b, .list elifs, .atom "-"] => do
      pure (.ifCmd (← toList c) (← toList b) (← elifs.mapM toElif) false [])
    | .list [.atom "if", c, b, .list elifs, e] => do
      pure (.ifCmd (← toList c) (← toList b) (← elifs.mapM toElif) true (← toList e))
    | .list (.atom "case" :: s :: items) => do pure (.caseCmd (← toWord s) (← items.mapM toCaseItem))
    | _ => none
  partial def toElif : Sx → Option ElifThen
    | .list [.atom "elif", c, b] => do pure (.mk (← toList c) (← toList b))
    | _ => none
  partial def toCaseItem : Sx → Option CaseItem
    | .list [.atom "ci", .list ps, b, .atom k] => do
      let k ← match k with
        | "b" => some CaseCont.break_ | "f" => some .fallThrough | "c" => some .continue_ | _ => none
      pure (.mk (← ps.mapM toWord) (← toList b) k)
    | _ => none
  partial def toCommand : Sx → Option Command
    | .list (.atom "cc" :: c :: rs) => do pure (.compound (← toCompound c) (← rs.mapM toRedir))
    | .list (.atom "fn" :: kw :: n :: c :: rs) => do
      pure (.function (← kw.bool?) (← toWord n) (← toCompound c) (← rs.mapM toRedir))
    | s => do pure (.simple (← toSimple s))
  partial def toPipeline : Sx → Option Pipeline
    | .list (.atom "pl" :: neg :: cmds) => do pure (.mk (← cmds.mapM toCommand) (← neg.bool?))
    | _ => none
  partial def toAndOr : Sx → Option AndOrList
    | .list (.atom "ao" :: first :: rest) => do
      let rest ← rest.mapM fun
        | .list [.atom "and", p] => do pure (AndOrRest.mk true (← toPipeline p))
        | .list [.atom "or", p] => do pure (AndOrRest.mk false (← toPipeline p))
        | _ => none
      pure (.mk (← toPipeline first) rest)
    | _ => none
  partial def toItem : Sx → Option Item
    | .list [.atom "it", a, ao] => do pure (.mk (← toAndOr ao) (← a.bool?))
    | _ => none
  partial def toList : Sx → Option (List Item)
    | .list (.atom "ls" :: items) => items.mapM toItem
    | _ => none
end

end YashModel.Syntax
