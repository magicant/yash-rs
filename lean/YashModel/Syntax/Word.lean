/-
  C06 — the word lexer reads printed words back: one induction on fuel through the five mutually recursive lexer
  functions (`lex_all`), from which ★ `word_self_delimiting` is read off; the flat fragment is a part of the full one.
-/
import YashModel.Syntax.Escape
import YashModel.Syntax.Fragment
import YashModel.Syntax.Chars
namespace YashModel.Syntax
open YashModel.Common

/-! ## quotes -/

theorem takeSingleQuoted_print (s rest : List Char) (h : '\'' ∉ s) :
    takeSingleQuoted (s ++ '\'' :: rest) = some (s, rest) := by
  induction s with
  | nil => simp [takeSingleQuoted]
  | cons c s ih =>
    have hc : c ≠ '\'' := by
      intro e; apply h; simp [e]
    have hs : '\'' ∉ s := by
      intro e; apply h; simp [e]
    simp [takeSingleQuoted, hc, ih hs]

/-! ## printing, tilde expansion -/

theorem printWord_cons (u : WordUnit) (us : List WordUnit) :
    printWord (u :: us) = printWordUnit u ++ printWord us := by
  simp [printWord]

theorem printWord_append (a b : Word) : printWord (a ++ b) = printWord a ++ printWord b := by
  induction a with
  | nil => simp [printWord]
  | cons u us ih => simp [printWord, ih]

theorem parseTildeFront_id (w : Word) (h : w.head? ≠ some (.unquoted (.literal '~'))) :
    parseTildeFront w = w := by
  unfold parseTildeFront
  split
  · simp at h
  · rfl

/-! ## names, backquote content, parameter ids -/

theorem nameChar_ne_bs (c : Char) (h : isNameChar c = true) : c ≠ '\\' := by
  intro e; subst e; revert h; decide

theorem headNotName_of (c : Char) (r : List Char) (h1 : c ≠ '\\') (h2 : isNameChar c = false) :
    HeadNotName (c :: r) :=
  ⟨skipLC_cons_ne c r h1, by intro c' r' e; cases e; exact h2⟩

theorem takeName_print (n rest : List Char) (hn : n.all isNameChar = true) (hr : HeadNotName rest) :
    ∀ fuel, n.length + 1 ≤ fuel → takeName fuel (n ++ rest) = (n, rest) := by
  induction n with
  | nil =>
    intro fuel hf
    obtain ⟨k, rfl⟩ := exists_succ_of_le hf
    obtain ⟨h1, h2⟩ := hr
    cases rest with
    | nil => simp [takeName, skipLC]
    | cons c r =>
      have := h2 c r rfl
      simp only [List.nil_append, takeName, h1, this]
      simp
  | cons c n ih =>
    intro fuel hf
    obtain ⟨k, rfl⟩ := exists_succ_of_le hf
    simp only [List.all_cons, Bool.and_eq_true] at hn
    have hc := nameChar_ne_bs c hn.1
    have := ih hn.2 k (by simp at hf; omega)
    simp [takeName, skipLC_cons_ne c _ hc, hn.1, this]

theorem printBq_cons_lit (c : Char) (us : List BackquoteUnit) :
    printBackquoteUnits (.literal c :: us) = c :: printBackquoteUnits us := by
  simp [printBackquoteUnits, printBackquoteUnit]

theorem printBq_cons_bs (c : Char) (us : List BackquoteUnit) :
    printBackquoteUnits (.backslashed c :: us) = '\\' :: c :: printBackquoteUnits us := by
  simp [printBackquoteUnits, printBackquoteUnit]

/-- The content of a backquote substitution is read back up to the closing backquote.  A printed `\\` must not be
    followed by a newline (the condition of `BqOk` at `.backslashed '\\'`): behind the first backslash the lexer skips
    line continuations and would take the second backslash and the newline for one. -/
theorem lexBackquoteUnits_print (ctx : Ctx) (us : List BackquoteUnit) (h : BqOk ctx us)
    (rest : List Char) :
    ∀ fuel, (printBackquoteUnits us).length + 1 ≤ fuel →
      lexBackquoteUnits ctx fuel (printBackquoteUnits us ++ '`' :: rest) = some (us, rest) := by
  intro fuel hf
  refine listLoop_text (lexBackquoteUnits ctx) (printBackquoteUnits · ++ '`' :: rest) (·, rest) (BqOk ctx)
    (fun s => s.length - (rest.length + 1)) ?_ ?_
    (fun k => by simp [printBackquoteUnits, lexBackquoteUnits, skipLC_cons_ne]) ?_ us fuel
    (by simp only [List.length_append, List.length_cons]; omega) h
  · intro u us
    cases u <;> simp only [printBq_cons_lit, printBq_cons_bs, List.length_append, List.length_cons] <;> omega
  · intro u us h
    cases u <;> exact h.2.2
  · intro k u us h ih
    cases u with
    | literal c =>
      obtain ⟨h1, h2, -⟩ := h
      simp [printBq_cons_lit, lexBackquoteUnits, skipLC_cons_ne c _ h2, h1, h2, ih]
    | backslashed c =>
      obtain ⟨h1, h2, -⟩ := h
      have hsk : skipLC (c :: (printBackquoteUnits us ++ '`' :: rest)) =
          c :: (printBackquoteUnits us ++ '`' :: rest) := by
        by_cases hc : c = '\\'
        · subst hc
          have h2' := h2 rfl
          cases hp : printBackquoteUnits us with
          | nil => simp [skipLC_bs_ne]
          | cons y ys =>
            rw [hp] at h2'
            have : y ≠ '\n' := by intro e; apply h2'; simp [e]
            simp [skipLC_bs_ne y _ this]
        · exact skipLC_cons_ne c _ hc
      have hcn : c ≠ '\n' := by
        rcases h1 with e | e | e | ⟨e, _⟩ <;> subst e <;> decide
      have hesc : (c = '$' || c = '`' || c = '\\' || (c = '"' && ctx = .text)) = true := by
        rcases h1 with e | e | e | ⟨e, e2⟩ <;> subst e <;> simp [*]
      simp only [printBq_cons_bs, List.cons_append, lexBackquoteUnits]
      rw [skipLC_bs_ne c _ hcn]
      simp only [if_true, hsk, hesc, ih]
      simp

theorem special_ne_bs (c : Char) (h : isSpecialParamChar c = true) : c ≠ '\\' := by
  intro e; subst e; revert h; decide

theorem lexParamId_print (id : List Char) (hid : BracedIdOk id) (s : Char) (r : List Char)
    (hs1 : isNameChar s = false) (hs2 : s ≠ '\\') :
    ∀ fuel, id.length + 1 ≤ fuel → lexParamId fuel (id ++ s :: r) = some (id, s :: r) := by
  intro fuel hf
  obtain ⟨c, n, rfl, h⟩ := hid
  have hnn := headNotName_of s r hs2 hs1
  rcases h with ⟨h1, h2, h3⟩ | ⟨rfl, h1, h2⟩
  · have hc := nameChar_ne_bs c h1
    have ht := takeName_print n (s :: r) h2 hnn fuel (by simp at hf; omega)
    simp [lexParamId, skipLC_cons_ne c _ hc, h1, ht, h3]
  · have hc := special_ne_bs c h2
    simp [lexParamId, skipLC_cons_ne c _ hc, h1, h2]

/-! ## the pieces of `lexBraced` -/

theorem skipColon_colon (r : List Char) : skipColon (':' :: r) = (true, r) := by
  simp [skipColon, skipLC_cons_ne]

theorem skipColon_other (s : Char) (r : List Char) (h1 : s ≠ ':') (h2 : s ≠ '\\') :
    skipColon (s :: r) = (false, s :: r) := by
  simp [skipColon, skipLC_cons_ne s r h2, h1]

theorem closeBraced_brace (hasLen : Bool) (id : List Char) (m : Modifier) (r : List Char) :
    closeBraced hasLen id m ('}' :: r) =
      if hasLen then (if m.isNone then .ok (.bracedParam id .length) r else .err)
      else .ok (.bracedParam id m) r := by
  simp [closeBraced, skipLC_cons_ne]

theorem trimLength_same (s : Char) (r : List Char) (h : s ≠ '\\') :
    trimLength s (s :: r) = (true, r) := by
  simp [trimLength, skipLC_cons_ne s r h]

theorem trimLength_other (s y : Char) (r : List Char) (h : y ≠ s)
    (hk : skipLC (y :: r) = y :: r) : trimLength s (y :: r) = (false, y :: r) := by
  simp [trimLength, hk, h]

/-! `has_length_prefix` on printed parameters -/

theorem hasLen_not_hash (c : Char) (t : List Char) (h1 : c ≠ '#') (h2 : c ≠ '\\') :
    hasLengthPrefix (c :: t) = false := by
  simp [hasLengthPrefix, skipLC_cons_ne c t h2, h1]

theorem hasLen_hash_stop (s : Char) (t : List Char)
    (h : s = '}' ∨ s = '+' ∨ s = '=' ∨ s = ':' ∨ s = '%') :
    hasLengthPrefix ('#' :: s :: t) = false := by
  rcases h with e | e | e | e | e <;> subst e <;> simp [hasLengthPrefix, skipLC_cons_ne]

theorem hasLen_hash_amb (s y : Char) (t : List Char) (h : s = '-' ∨ s = '?' ∨ s = '#')
    (hy : y ≠ '}') (hk : skipLC (y :: t) = y :: t) :
    hasLengthPrefix ('#' :: s :: y :: t) = false := by
  rcases h with e | e | e <;> subst e <;> simp [hasLengthPrefix, skipLC_cons_ne, hk, hy]

theorem hasLen_hash_amb_close (s : Char) (t : List Char) (h : s = '-' ∨ s = '?' ∨ s = '#') :
    hasLengthPrefix ('#' :: s :: '}' :: t) = true := by
  rcases h with e | e | e <;> subst e <;> simp [hasLengthPrefix, skipLC_cons_ne]

theorem hasLen_hash_plain (c : Char) (t : List Char) (h1 : c ≠ '\\')
    (h2 : ¬(c = '}' ∨ c = '+' ∨ c = '=' ∨ c = ':' ∨ c = '%' ∨ c = '-' ∨ c = '?' ∨ c = '#')) :
    hasLengthPrefix ('#' :: c :: t) = true := by
  simp only [not_or] at h2
  obtain ⟨a1, a2, a3, a4, a5, a6, a7, a8⟩ := h2
  simp [hasLengthPrefix, skipLC_cons_ne c t h1, skipLC_cons_ne '#' _ (by decide), a1, a2, a3, a4, a5,
    a6, a7, a8]

/-! ## the first printed character of a unit; a unit where the word ends -/

theorem printTextUnit_head (ctx : Ctx) (d : Delim) (u : TextUnit) (rest : List Char)
    (h : TextUnit.Ok ctx d u rest) :
    ∃ y t, printTextUnit u = y :: t ∧ FirstOk d y ∧ (∀ X, skipLC (y :: t ++ X) = y :: t ++ X) ∧
      (u = .literal y ∨ y = '\\' ∨ y = '$' ∨ y = '`') := by
  cases u with
  | literal c =>
    simp only [TextUnit.Ok] at h
    exact ⟨c, [], by simp [printTextUnit], by simp [FirstOk, h.2.2.2],
      fun X => skipLC_cons_ne c _ h.1, Or.inl rfl⟩
  | backslashed c =>
    simp only [TextUnit.Ok] at h
    exact ⟨'\\', [c], by simp [printTextUnit], by simp [FirstOk], fun X => skipLC_bs_ne c _ h.2, by simp⟩
  | rawParam id =>
    exact ⟨'$', id, by simp [printTextUnit], by simp [FirstOk], fun X => skipLC_cons_ne _ _ (by decide),
      by simp⟩
  | bracedParam id m =>
    exact ⟨'$', '{' :: printBraced id m, by simp [printTextUnit], by simp [FirstOk],
      fun X => skipLC_cons_ne _ _ (by decide), by simp⟩
  | commandSubst s => simp [TextUnit.Ok] at h
  | backquote us =>
    exact ⟨'`', printBackquoteUnits us ++ ['`'], by simp [printTextUnit], by simp [FirstOk],
      fun X => skipLC_cons_ne _ _ (by decide), by simp⟩
  | arith t => simp [TextUnit.Ok] at h

theorem isLitDollar_ok (ctx : Ctx) (d : Delim) (u : TextUnit) (rest : List Char)
    (h : TextUnit.Ok ctx d u rest) : isLitDollar u = false := by
  cases u <;> first | rfl | (simp only [TextUnit.Ok] at h; simp [isLitDollar, h.2.1])

theorem printWordUnit_head (ctx : Ctx) (d : Delim) (u : WordUnit) (rest : List Char)
    (h : WordUnit.Ok ctx d u rest) :
    ∃ y t, printWordUnit u = y :: t ∧ FirstOk d y ∧ ∀ X, skipLC (y :: t ++ X) = y :: t ++ X := by
  cases u with
  | unquoted t =>
    simp only [WordUnit.Ok] at h
    obtain ⟨y, tl, e, h1, h2, _⟩ := printTextUnit_head ctx d t rest h.1
    exact ⟨y, tl, by simpa [printWordUnit] using e, h1, h2⟩
  | singleQuote s =>
    exact ⟨'\'', s ++ ['\''], by simp [printWordUnit], by simp [FirstOk],
      fun X => skipLC_cons_ne _ _ (by decide)⟩
  | doubleQuote t =>
    exact ⟨'"', printText t ++ ['"'], by simp [printWordUnit], by simp [FirstOk],
      fun X => skipLC_cons_ne _ _ (by decide)⟩
  | dollarSingleQuote es =>
    exact ⟨'$', '\'' :: (printEscaped es ++ ['\'']), by simp [printWordUnit], by simp [FirstOk],
      fun X => skipLC_cons_ne _ _ (by decide)⟩
  | tilde n s => simp [WordUnit.Ok] at h

theorem printWord_head_ok (ctx : Ctx) (d : Delim) (w : List WordUnit) (rest : List Char)
    (h : WordUnits.Ok ctx d w rest) (hne : printWord w ≠ []) :
    ∃ y t, printWord w = y :: t ∧ FirstOk d y ∧ ∀ X, skipLC (y :: t ++ X) = y :: t ++ X := by
  cases w with
  | nil => simp [printWord] at hne
  | cons u us =>
    simp only [WordUnits.Ok] at h
    obtain ⟨y, t, e, hy, hk⟩ := printWordUnit_head ctx d u _ h.1
    refine ⟨y, t ++ printWord us, by simp [printWord, e], hy, fun X => ?_⟩
    have := hk (printWord us ++ X)
    simpa using this

theorem lexTextUnit_at_end (ctx : Ctx) (d : Delim) (e : Char) (he : d.TextEnds e) (rest : List Char) :
    ∀ fuel, 1 ≤ fuel → lexTextUnit fuel ctx d (e :: rest) = .none (e :: rest) := by
  intro fuel hf
  obtain ⟨n, rfl⟩ := exists_succ_of_le hf
  obtain ⟨h0, h1, h2, h3⟩ := he
  simp [lexTextUnit, skipLC_cons_ne e _ h1, h1, h2, h3, h0]

theorem lexWordUnit_endsAt (ctx : Ctx) (d : Delim) (tail : List Char) (h : d.EndsAt tail) :
    ∀ fuel, 2 ≤ fuel → lexWordUnit fuel ctx d tail = .none tail := by
  intro fuel hf
  rcases h with rfl | ⟨e, r, rfl, he⟩
  · obtain ⟨k, rfl⟩ := exists_succ_of_le (show 0 + 1 ≤ fuel by omega)
    simp [lexWordUnit, skipLC]
  · obtain ⟨n, rfl⟩ : ∃ n, fuel = n + 2 := ⟨fuel - 2, by omega⟩
    obtain ⟨ht, hs⟩ := he
    simp [isWordSpecial] at hs
    obtain ⟨⟨⟨⟨h1, h2⟩, h3⟩, h4⟩, h5⟩ := hs
    simp [lexWordUnit, lexTextUnit, skipLC_cons_ne e _ h1, h1, h2, h3, h4, h5, ht]

/-! ## statements of the induction on fuel

One statement per lexer function (`TU` text unit, `BR` braced parameter after `${`, `TUs` text, `WU` word unit, `WUs`
word): the printed tree is read back when the fuel exceeds the length of the printed text by a slack.  Every function
hands its fuel less one to the functions it calls, so the slacks have to fit along each call.  A list (`+4`) calls the
unit reader (`+3`, for a text `+2`) and itself on the rest, which is shorter by the unit, at least one character.  A
word unit (`+3`) calls a text unit (`+2`) or, between two `"`, a text (`+4`).  A text unit (`+2`) calls `lexBraced`
(`+2`) after the two characters `${`.  `lexBraced` (`+2`) calls the word list (`+4`) on the word of the modifier: the
id (at least one character), the modifier symbol and `}` pay for the difference.  This is why the five statements
close under one induction on the fuel (`lex_all`). -/

def StTU (n : Nat) : Prop :=
  ∀ ctx d u rest, TextUnit.Ok ctx d u rest → (printTextUnit u).length + 2 ≤ n →
    lexTextUnit n ctx d (printTextUnit u ++ rest) = .ok u rest

def StBR (n : Nat) : Prop :=
  ∀ ctx id m rest, BracedIdOk id → Modifier.Ok ctx id m rest → (printBraced id m).length + 2 ≤ n →
    lexBraced n ctx (printBraced id m ++ rest) = .ok (.bracedParam id m) rest

def StTUs (n : Nat) : Prop :=
  ∀ d t e rest, TextUnits.Ok .text d t (e :: rest) → d.TextEnds e → (printText t).length + 4 ≤ n →
    lexTextUnits n d (printText t ++ e :: rest) = some (t, e :: rest)

def StWU (n : Nat) : Prop :=
  ∀ ctx d u rest, WordUnit.Ok ctx d u rest → (printWordUnit u).length + 3 ≤ n →
    lexWordUnit n ctx d (printWordUnit u ++ rest) = .ok u rest

def StWUs (n : Nat) : Prop :=
  ∀ ctx d w tail, WordUnits.Ok ctx d w tail → d.EndsAt tail → (printWord w).length + 4 ≤ n →
    lexWordUnits n ctx d (printWord w ++ tail) = some (w, tail)

theorem step_TU (n : Nat) (ihBR : StBR n) : StTU (n + 1) := by
  intro ctx d u rest h hf
  cases u with
  | literal c =>
    simp only [TextUnit.Ok] at h
    obtain ⟨h1, h2, h3, h4⟩ := h
    simp [printTextUnit, lexTextUnit, skipLC_cons_ne c _ h1, h1, h2, h3, h4]
  | backslashed c =>
    simp only [TextUnit.Ok] at h
    simp [printTextUnit, lexTextUnit, skipLC_bs_ne c _ h.2, h.1]
  | rawParam id =>
    simp only [TextUnit.Ok] at h
    obtain ⟨c, m, rfl, h⟩ := h
    rcases h with ⟨rfl, h⟩ | ⟨h1, h2, h3, h4, h5⟩
    · have hc : c ≠ '\\' := by
        rcases h with h | h
        · exact special_ne_bs c h
        · intro e; subst e; revert h; decide
      rcases h with h | h
      · simp [printTextUnit, lexTextUnit, skipLC_cons_ne, skipLC_cons_ne c _ hc, h]
      · by_cases hs : isSpecialParamChar c = true
        · simp [printTextUnit, lexTextUnit, skipLC_cons_ne, skipLC_cons_ne c _ hc, hs]
        · simp [printTextUnit, lexTextUnit, skipLC_cons_ne, skipLC_cons_ne c _ hc, hs, h]
    · have hc := nameChar_ne_bs c h3
      have ht := takeName_print m rest h4 h5 n (by simp [printTextUnit] at hf; omega)
      simp [printTextUnit, lexTextUnit, skipLC_cons_ne, skipLC_cons_ne c _ hc, h1, h2, h3, ht]
  | bracedParam id m =>
    simp only [TextUnit.Ok] at h
    have hb := ihBR ctx id m rest h.1 h.2 (by simp [printTextUnit] at hf; omega)
    have e1 : isSpecialParamChar '{' = false := by decide
    have e2 : isAsciiDigit '{' = false := by decide
    have e3 : isNameChar '{' = false := by decide
    simp [printTextUnit, lexTextUnit, skipLC_cons_ne, e1, e2, e3, hb]
  | commandSubst s => simp [TextUnit.Ok] at h
  | backquote us =>
    simp only [TextUnit.Ok] at h
    have hb := lexBackquoteUnits_print ctx us h rest n (by simp [printTextUnit] at hf; omega)
    simp [printTextUnit, lexTextUnit, skipLC_cons_ne, hb]
  | arith t => simp [TextUnit.Ok] at h

theorem braced_id_head (id : List Char) (hid : BracedIdOk id) :
    ∃ c n, id = c :: n ∧ c ≠ '\\' ∧ (isNameChar c = true ∨ isSpecialParamChar c = true) ∧
      (isNameChar c = false → n = []) := by
  obtain ⟨c, n, rfl, h⟩ := hid
  rcases h with ⟨h1, _, _⟩ | ⟨rfl, h1, h2⟩
  · exact ⟨c, n, rfl, nameChar_ne_bs c h1, Or.inl h1, fun e => by simp [h1] at e⟩
  · exact ⟨c, [], rfl, special_ne_bs c h2, Or.inr h2, fun _ => rfl⟩

theorem hasLen_length (id : List Char) (hid : BracedIdOk id) (t : List Char) :
    hasLengthPrefix ('#' :: (id ++ '}' :: t)) = true := by
  obtain ⟨c, n, rfl, hc, hk, hn⟩ := braced_id_head id hid
  by_cases h : c = '-' ∨ c = '?' ∨ c = '#'
  · have : n = [] := hn (by rcases h with e | e | e <;> subst e <;> decide)
    subst this
    exact hasLen_hash_amb_close c t h
  · apply hasLen_hash_plain c _ hc
    rintro (e | e | e | e | e | h')
    -- `} + = : %` are neither name characters nor special parameters
    iterate 5 (subst e; rcases hk with hk | hk <;> revert hk <;> decide)
    exact h h'

theorem switchAction_char (a : SwitchAction) : switchAction a.char = a := by
  cases a <;> decide

theorem trimSide_char (s : TrimSide) : (if s.char = '#' then TrimSide.pfx else TrimSide.sfx) = s := by
  cases s <;> decide

theorem firstOk_brace (y : Char) (h : FirstOk .brace y) : y ≠ '}' := by
  intro e; subst e
  rcases h with h | h | h | h | h | h <;> revert h <;> decide

theorem brace_ends : Delim.brace.Ends '}' := ⟨by decide, by decide⟩

theorem brace_endsAt (rest : List Char) : Delim.brace.EndsAt ('}' :: rest) := Or.inr ⟨_, _, rfl, brace_ends⟩

theorem word_then_brace (ctx : Ctx) (w : List WordUnit) (rest : List Char)
    (h : WordUnits.Ok ctx .brace w ('}' :: rest)) :
    ∃ y t, printWord w ++ '}' :: rest = y :: t ∧ skipLC (y :: t) = y :: t ∧
      (printWord w ≠ [] → y ≠ '}') ∧ (printWord w).head?.getD '}' = y := by
  by_cases hne : printWord w = []
  · exact ⟨'}', rest, by simp [hne], skipLC_cons_ne _ _ (by decide), fun e => absurd hne e, by simp [hne]⟩
  · obtain ⟨y, t, e, hy, hk⟩ := printWord_head_ok ctx .brace w _ h hne
    refine ⟨y, t ++ '}' :: rest, by simp [e], ?_, fun _ => firstOk_brace y hy, by simp [e]⟩
    simpa using hk ('}' :: rest)

/-- The two reads of `lexBraced` in front of the modifier, at a printed id that is not taken for a length prefix.
    `has_length_prefix` looks one character past `#` and a following `-`, `?`, `#`: `${#-}`, `${#?}`, `${##}` are the
    lengths of `$-`, `$?`, `$#`, so after the id `#` such a symbol is a modifier only if more than `}` follows
    (the side conditions on `id = ['#']` in `Modifier.Ok`). -/
theorem lexBraced_id (id : List Char) (hid : BracedIdOk id) (s : Char) (r : List Char)
    (hs1 : isNameChar s = false) (hs2 : s ≠ '\\')
    (H : id = ['#'] → hasLengthPrefix ('#' :: s :: r) = false) (n : Nat) (hn : id.length + 1 ≤ n) :
    hasLengthPrefix (id ++ s :: r) = false ∧ lexParamId n (id ++ s :: r) = some (id, s :: r) := by
  refine ⟨?_, lexParamId_print id hid s r hs1 hs2 n hn⟩
  obtain ⟨c, m, rfl, hc, _, hm⟩ := braced_id_head id hid
  by_cases h : c = '#'
  · subst h
    have : m = [] := hm (by decide)
    subst this
    exact H rfl
  · exact hasLen_not_hash c _ h hc

theorem step_BR (n : Nat) (ihWUs : StWUs n) : StBR (n + 1) := by
  intro ctx id m rest hid hm hf
  have hidlen : 1 ≤ id.length := by
    obtain ⟨c, k, rfl, _⟩ := hid
    simp
  have hidn : id.length + 1 ≤ n := by
    cases m <;> simp [printBraced] at hf <;> omega
  cases m with
  | none =>
    have hin : printBraced id .none ++ rest = id ++ '}' :: rest := by simp [printBraced]
    obtain ⟨hl, hp⟩ := lexBraced_id id hid '}' rest (by decide) (by decide)
      (fun _ => hasLen_hash_stop _ _ (Or.inl rfl)) n hidn
    rw [hin]
    simp [lexBraced, hl, hp, skipColon_other, skipLC_cons_ne, closeBraced_brace]
  | length =>
    have hin : printBraced id .length ++ rest = '#' :: (id ++ '}' :: rest) := by simp [printBraced]
    have hl := hasLen_length id hid rest
    have hp := lexParamId_print id hid '}' rest (by decide) (by decide) n hidn
    rw [hin]
    simp [lexBraced, hl, skipLC_cons_ne, hp, skipColon_other, closeBraced_brace, Modifier.isNone]
  | switch colon a w =>
    simp only [Modifier.Ok] at hm
    obtain ⟨hw, htilde, hhash⟩ := hm
    obtain ⟨y, t, eW, hclean, hyne, _⟩ := word_then_brace ctx w rest hw
    have hlenw : (printWord w).length + 4 ≤ n := by
      simp [printBraced] at hf; omega
    have hwl := ihWUs ctx .brace w _ hw (brace_endsAt rest) hlenw
    have hact : a.char ≠ '\\' ∧ a.char ≠ ':' ∧ isNameChar a.char = false ∧
        (a.char = '+' || a.char = '-' || a.char = '=' || a.char = '?') = true := by
      cases a <;> decide
    have htl : (if ctx = .word then parseTildeFront w else w) = w := by
      by_cases hc : ctx = .word
      · simp [hc, parseTildeFront_id w (htilde hc)]
      · simp [hc]
    cases colon with
    | true =>
      have hin : printBraced id (.switch true a w) ++ rest =
          id ++ ':' :: a.char :: (printWord w ++ '}' :: rest) := by simp [printBraced]
      obtain ⟨hl, hp⟩ := lexBraced_id id hid ':' (a.char :: (printWord w ++ '}' :: rest)) (by decide)
        (by decide) (fun _ => hasLen_hash_stop _ _ (by simp)) n hidn
      rw [hin]
      simp [lexBraced, hl, hp, skipColon_colon, skipLC_cons_ne a.char _ hact.1, hact.2.2.2, hwl,
        closeBraced_brace, switchAction_char, htl]
    | false =>
      have hin : printBraced id (.switch false a w) ++ rest =
          id ++ a.char :: (printWord w ++ '}' :: rest) := by simp [printBraced]
      obtain ⟨hl, hp⟩ := lexBraced_id id hid a.char (printWord w ++ '}' :: rest) hact.2.2.1 hact.1
        (fun hidh => by
          cases a with
          | alter => exact hasLen_hash_stop _ _ (by decide)
          | assign => exact hasLen_hash_stop _ _ (by decide)
          | default =>
            rw [eW]
            exact hasLen_hash_amb _ y t (by decide) (hyne (hhash hidh rfl (Or.inl rfl))) hclean
          | error =>
            rw [eW]
            exact hasLen_hash_amb _ y t (by decide) (hyne (hhash hidh rfl (Or.inr rfl))) hclean) n hidn
      rw [hin]
      simp [lexBraced, hl, hp, skipColon_other a.char _ hact.2.1 hact.1,
        skipLC_cons_ne a.char _ hact.1, hact.2.2.2, hwl, closeBraced_brace, switchAction_char, htl]
  | trim side longest w =>
    simp only [Modifier.Ok] at hm
    obtain ⟨hw, htilde, hshort, hhash⟩ := hm
    obtain ⟨y, t, eW, hclean, hyne, hyhead⟩ := word_then_brace .word w rest hw
    have hlenw : (printWord w).length + 4 ≤ n := by
      simp [printBraced] at hf; omega
    have hwl := ihWUs .word .brace w _ hw (brace_endsAt rest) hlenw
    have hsd : side.char ≠ '\\' ∧ side.char ≠ ':' ∧ isNameChar side.char = false ∧
        (side.char = '+' || side.char = '-' || side.char = '=' || side.char = '?') = false ∧
        (side.char = '#' || side.char = '%') = true := by
      cases side <;> decide
    have htl := parseTildeFront_id w htilde
    cases longest with
    | true =>
      have hin : printBraced id (.trim side true w) ++ rest =
          id ++ side.char :: side.char :: (printWord w ++ '}' :: rest) := by simp [printBraced]
      obtain ⟨hl, hp⟩ := lexBraced_id id hid side.char (side.char :: (printWord w ++ '}' :: rest))
        hsd.2.2.1 hsd.1 (fun _ => by
          cases side with
          | sfx => exact hasLen_hash_stop _ _ (by decide)
          | pfx => exact hasLen_hash_amb _ '#' _ (by decide) (by decide) (skipLC_cons_ne _ _ (by decide)))
        n hidn
      rw [hin]
      simp [lexBraced, hl, hp, skipColon_other side.char _ hsd.2.1 hsd.1,
        skipLC_cons_ne side.char _ hsd.1, hsd.2.2.2.1, hsd.2.2.2.2, trimLength_same side.char _ hsd.1,
        hwl, closeBraced_brace, trimSide_char, htl]
    | false =>
      have hin : printBraced id (.trim side false w) ++ rest =
          id ++ side.char :: (printWord w ++ '}' :: rest) := by simp [printBraced]
      have hys : y ≠ side.char := by
        intro e
        by_cases hne : printWord w = []
        · rw [hne] at hyhead
          simp at hyhead
          rw [← hyhead] at e
          cases side <;> revert e <;> decide
        · apply hshort rfl
          cases hp : printWord w with
          | nil => exact absurd hp hne
          | cons z zs =>
            rw [hp] at hyhead
            simp at hyhead
            simp [hyhead, e]
      obtain ⟨hl, hp⟩ := lexBraced_id id hid side.char (printWord w ++ '}' :: rest) hsd.2.2.1 hsd.1
        (fun hidh => by
          cases side with
          | sfx => exact hasLen_hash_stop _ _ (by decide)
          | pfx =>
            rw [eW]
            exact hasLen_hash_amb _ y t (by decide) (hyne (hhash hidh rfl rfl)) hclean) n hidn
      have htr : trimLength side.char (printWord w ++ '}' :: rest) = (false, printWord w ++ '}' :: rest) := by
        rw [eW]
        exact trimLength_other _ y t hys hclean
      rw [hin]
      simp [lexBraced, hl, hp, skipColon_other side.char _ hsd.2.1 hsd.1,
        skipLC_cons_ne side.char _ hsd.1, hsd.2.2.2.1, hsd.2.2.2.2, htr,
        hwl, closeBraced_brace, trimSide_char, htl]

theorem printText_cons (u : TextUnit) (us : List TextUnit) :
    printText (u :: us) = printTextUnit u ++ printText us := by
  simp [printText]

theorem step_TUs (n : Nat) (ihTU : StTU n) (ihTUs : StTUs n) : StTUs (n + 1) := by
  intro d t e rest h he hf
  cases t with
  | nil =>
    have := lexTextUnit_at_end .text d e he rest n (by simp [printText] at hf; omega)
    simp [printText, lexTextUnits, this]
  | cons u us =>
    simp only [TextUnits.Ok] at h
    rw [printText_cons] at hf ⊢
    simp only [List.length_append] at hf
    obtain ⟨y, tl, ey, _, _⟩ := printTextUnit_head .text d u _ h.1
    have hpos : 1 ≤ (printTextUnit u).length := by simp [ey]
    have h1 := ihTU .text d u (printText us ++ e :: rest) h.1 (by omega)
    have h2 := ihTUs d us e rest h.2 he (by omega)
    simp only [List.append_assoc]
    simp only [lexTextUnits, h1, h2]

theorem step_WUs (n : Nat) (ihWU : StWU n) (ihWUs : StWUs n) : StWUs (n + 1) := by
  intro ctx d w tail h he hf
  cases w with
  | nil =>
    have := lexWordUnit_endsAt ctx d tail he n (by simp [printWord] at hf; omega)
    simp [printWord, lexWordUnits, this]
  | cons u us =>
    simp only [WordUnits.Ok] at h
    rw [printWord_cons] at hf ⊢
    simp only [List.length_append] at hf
    obtain ⟨y, tl, ey, _, _⟩ := printWordUnit_head ctx d u _ h.1
    have hpos : 1 ≤ (printWordUnit u).length := by simp [ey]
    have h1 := ihWU ctx d u (printWord us ++ tail) h.1 (by omega)
    have h2 := ihWUs ctx d us tail h.2 he (by omega)
    simp only [List.append_assoc]
    simp only [lexWordUnits, h1, h2]

theorem dquote_textEnds : Delim.dquote.TextEnds '"' := ⟨by decide, by decide, by decide, by decide⟩

theorem step_WU (n : Nat) (ihTU : StTU n) (ihTUs : StTUs n) : StWU (n + 1) := by
  intro ctx d u rest h hf
  cases u with
  | unquoted t =>
    simp only [WordUnit.Ok] at h
    obtain ⟨ht, hu⟩ := h
    obtain ⟨y, tl, ey, _, hk, hy⟩ := printTextUnit_head ctx d t rest ht
    have hy1 : ¬(y = '\'' ∧ ctx = .word) ∧ y ≠ '"' := by
      rcases hy with rfl | rfl | rfl | rfl
      · exact ⟨fun hh => hu.2 hh.2 hh.1, hu.1⟩
      all_goals exact ⟨by simp, by decide⟩
    have hl := ihTU ctx d t rest ht (by simp [printWordUnit] at hf; omega)
    rw [ey] at hl
    have hk' := hk rest
    simp only [printWordUnit]
    rw [ey]
    simp only [List.cons_append] at hl hk' ⊢
    simp [lexWordUnit, hk', hy1.1, hy1.2, hl, isLitDollar_ok ctx d t rest ht]
  | singleQuote s =>
    simp only [WordUnit.Ok] at h
    simp [printWordUnit, lexWordUnit, skipLC_cons_ne, h.1, takeSingleQuoted_print s rest h.2]
  | doubleQuote t =>
    simp only [WordUnit.Ok] at h
    have hl := ihTUs .dquote t '"' rest h dquote_textEnds (by simp [printWordUnit] at hf; omega)
    simp [printWordUnit, lexWordUnit, skipLC_cons_ne, hl]
  | dollarSingleQuote es =>
    simp only [WordUnit.Ok] at h
    obtain ⟨hc, hes⟩ := h
    have hq := lexEscapedQuoted_print es rest hes n (by
      have := printEscaped_length es hes; simp [printWordUnit] at hf; omega)
    have hn1 : 1 ≤ n := by simp [printWordUnit] at hf; omega
    obtain ⟨k, rfl⟩ := exists_succ_of_le hn1
    have hdt : d.test '$' = false := by cases d <;> decide
    have e1 : isSpecialParamChar '\'' = false := by decide
    have e2 : isAsciiDigit '\'' = false := by decide
    have e3 : isNameChar '\'' = false := by decide
    simp [printWordUnit, lexWordUnit, lexTextUnit, skipLC_cons_ne, hc, hdt, e1, e2, e3, isLitDollar, hq]
  | tilde nm s => simp [WordUnit.Ok] at h

theorem lex_all (n : Nat) : StTU n ∧ StBR n ∧ StTUs n ∧ StWU n ∧ StWUs n := by
  induction n with
  | zero =>
    refine ⟨?_, ?_, ?_, ?_, ?_⟩ <;> intro <;> intros <;> omega
  | succ n ih =>
    obtain ⟨i1, i2, i3, i4, i5⟩ := ih
    exact ⟨step_TU n i2, step_BR n i5, step_TUs n i1 i3, step_WU n i1 i3, step_WUs n i4 i5⟩

theorem word_ends (d : Delim) (w : Word) (tail : List Char) (h : WordUnits.Ok .word d w tail) (he : d.EndsAt tail) :
    lexWord d (printWord w ++ tail) = some (w, tail) := by
  unfold lexWord
  apply (lex_all _).2.2.2.2 .word d w tail h he
  simp only [List.length_append]
  omega

/-- ★ Every word of the modelled fragment is self-delimiting.  `WordUnits.Ok .word d w (e :: rest)` says that
    `w` is a tree the word lexer can produce with `(e :: rest)` following it: unquoted literal characters
    (not a delimiter, not one of `\\ $ \`` and not a quote), backslash escapes (any character but newline),
    `$x`/`$1`/`$?` (a name must not be followed by a further name character), `${…}` with every modifier
    (none, length, the eight switches, the four trims) whose words are again in the fragment, backquote
    substitutions, single quotes, double quotes with their text units (the same parameter forms,
    backquotes, the four escapable characters), dollar-single quotes with every producible escape.
    For every such word, every delimiter predicate `d` the lexer uses, every delimiter character `e` and
    every text `rest`: lexing the printed word followed by `e :: rest` returns exactly the word and stops
    in front of `e`.  Outside the fragment: command substitutions and arithmetic expansions (not in the
    model lexer), tilde units (made by `parse_tilde_front` after lexing), and the literal units `$` and
    `\\` that the lexer yields for a dollar or backslash that starts nothing. -/
theorem word_self_delimiting (d : Delim) (w : Word) (e : Char) (rest : List Char)
    (h : WordUnits.Ok .word d w (e :: rest)) (he : d.Ends e) :
    lexWord d (printWord w ++ e :: rest) = some (w, e :: rest) :=
  word_ends d w _ h (Or.inr ⟨e, rest, rfl, he⟩)

/-- ★ a printed word of the fragment followed by the end of input is read back as that word, for every
    delimiter predicate -/
theorem word_self_delimiting_at_end_of_input (d : Delim) (w : Word) (h : WordUnits.Ok .word d w []) :
    lexWord d (printWord w) = some (w, []) := by
  simpa using word_ends d w [] h (Or.inl rfl)

/-! ## the flat fragment lies in the full one -/

theorem flat_ok (d : Delim) (u : WordUnit) (h : u.Flat d) (rest : List Char) : WordUnit.Ok .word d u rest := by
  cases u with
  | unquoted t =>
    cases t with
    | literal c =>
      obtain ⟨hs, hd⟩ := h
      simp only [isWordSpecial, Bool.or_eq_false_iff, decide_eq_false_iff_not] at hs
      obtain ⟨⟨⟨⟨h1, h2⟩, h3⟩, h4⟩, h5⟩ := hs
      exact ⟨⟨h1, h4, h5, hd⟩, h3, fun _ => h2⟩
    | backslashed c => exact ⟨⟨rfl, h⟩, trivial⟩
    | _ => exact absurd h (by simp [WordUnit.Flat])
  | singleQuote s => exact ⟨rfl, h⟩
  | dollarSingleQuote es => exact ⟨rfl, h⟩
  | _ => exact absurd h (by simp [WordUnit.Flat])

theorem flat_word_ok (d : Delim) (w : List WordUnit) (h : ∀ u ∈ w, u.Flat d) (rest : List Char) :
    WordUnits.Ok .word d w rest := by
  induction w with
  | nil => trivial
  | cons u us ih => exact ⟨flat_ok d u (h u (by simp)) _, ih fun v hv => h v (by simp [hv])⟩

theorem lexWordUnits_flat (d : Delim) (w : List WordUnit) (h : ∀ u ∈ w, u.Flat d) (c : Char) (hc : d.Ends c)
    (rest : List Char) :
    ∀ fuel, (printWord w).length + 4 ≤ fuel →
      lexWordUnits fuel .word d (printWord w ++ c :: rest) = some (w, c :: rest) :=
  fun fuel hf => (lex_all fuel).2.2.2.2 .word d w _ (flat_word_ok d w h _) (Or.inr ⟨c, rest, rfl, hc⟩) hf

/-- the flat fragment (a directly checkable special case) -/
theorem word_self_delimiting_partial (w : Word) (h : ∀ u ∈ w, u.Flat .token) (c : Char)
    (hc : Delim.token.Ends c) (rest : List Char) :
    lexWord .token (printWord w ++ c :: rest) = some (w, c :: rest) :=
  word_self_delimiting .token w c rest (flat_word_ok _ w h _) hc

/-! ## words of literal characters -/

theorem printWord_digitsWord (s : List Char) : printWord (digitsWord s) = s := by
  induction s with
  | nil => simp [digitsWord, printWord]
  | cons c s ih =>
    simp only [digitsWord, List.map_cons] at ih ⊢
    simp [printWord, printWordUnit, printTextUnit, ih]

theorem wordLiteral_digitsWord (s : List Char) : wordLiteral (digitsWord s) = some s := by
  induction s with
  | nil => simp [digitsWord, wordLiteral]
  | cons c s ih =>
    simp only [digitsWord, List.map_cons] at ih ⊢
    simp [wordLiteral, ih]

theorem plainTok_facts (c : Char) (h : plainTok c = true) :
    c ≠ '\\' ∧ c ≠ '$' ∧ c ≠ '`' ∧ Delim.token.test c = false ∧ c ≠ '"' ∧ c ≠ '\'' := by
  simp only [plainTok, Bool.and_eq_true, bne_iff_ne, ne_eq, Bool.not_eq_true'] at h
  obtain ⟨⟨⟨⟨⟨a1, a2⟩, a3⟩, a4⟩, a5⟩, a6⟩ := h
  exact ⟨a1, a2, a3, a4, a5, a6⟩

theorem litWord_ok (s : List Char) (h : s.all plainTok = true) (next : List Char) :
    WordUnits.Ok .word .token (digitsWord s) next := by
  refine flat_word_ok .token _ (fun u hu => ?_) next
  obtain ⟨c, hc, rfl⟩ := List.mem_map.mp hu
  obtain ⟨h1, h2, h3, h4, h5, h6⟩ := plainTok_facts c (List.all_eq_true.mp h c hc)
  simp [WordUnit.Flat, isWordSpecial, h1, h2, h3, h4, h5, h6]

end YashModel.Syntax
