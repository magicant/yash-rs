/-
  C06 — the tables of the lexer / parser re-extracted from /repo on every run and their connection to the hand-written
  model: a generic walk of the generated `OPERATORS` trie (`trieOperator`, transcription of `Lexer::operator_tail` over the
  trie as data) and the table statements of the property.
-/
import YashModel.Generated.SyntaxTables
import YashModel.Syntax.Operator
namespace YashModel.Syntax
open YashModel.Generated

/-- the constructors of the model's `Op` in the declaration order of `enum Operator` -/
def Op.all : List Op :=
  [.newline, .and, .andAnd, .openParen, .closeParen, .semicolon, .semicolonAnd, .semicolonSemicolon,
   .semicolonSemicolonAnd, .semicolonBar, .less, .lessAnd, .lessOpenParen, .lessLess, .lessLessDash,
   .lessLessLess, .lessGreater, .greater, .greaterAnd, .greaterOpenParen, .greaterGreater,
   .greaterGreaterBar, .greaterBar, .bar, .barBar]

/-- the Rust name of the variant -/
def Op.name : Op → String
  | .newline => "Newline" | .and => "And" | .andAnd => "AndAnd" | .openParen => "OpenParen"
  | .closeParen => "CloseParen" | .semicolon => "Semicolon" | .semicolonAnd => "SemicolonAnd"
  | .semicolonSemicolon => "SemicolonSemicolon" | .semicolonSemicolonAnd => "SemicolonSemicolonAnd"
  | .semicolonBar => "SemicolonBar" | .less => "Less" | .lessAnd => "LessAnd"
  | .lessOpenParen => "LessOpenParen" | .lessLess => "LessLess" | .lessLessDash => "LessLessDash"
  | .lessLessLess => "LessLessLess" | .lessGreater => "LessGreater" | .greater => "Greater"
  | .greaterAnd => "GreaterAnd" | .greaterOpenParen => "GreaterOpenParen"
  | .greaterGreater => "GreaterGreater" | .greaterGreaterBar => "GreaterGreaterBar"
  | .greaterBar => "GreaterBar" | .bar => "Bar" | .barBar => "BarBar"

def Op.ofIdx (i : Nat) : Option Op := Op.all[i]?

/-- `Operator::as_str` read from the generated table -/
def Op.str (o : Op) : List Char := ((SyntaxTables.operatorAsStr.lookup o.name).getD "").toList

/-- `Lexer::operator_tail` over the generated trie: `(operator found, rest after the characters peeked)`.
    `Trie::edge` is a binary search, which is `find?` on a list sorted by key (`trie_sorted`). -/
def trieTail (nodes : List (List (Char × Option Nat × Nat))) : Nat → Nat → List Char → Option Op × List Char
  | 0, _, cs => (none, cs)
  | fuel + 1, node, cs =>
    let edges := nodes.getD node []
    if edges.isEmpty then (none, cs) else
    match skipLC cs with
    | [] => (none, [])
    | c :: r =>
      match edges.find? (fun e => e.1 == c) with
      | none => (none, c :: r)
      | some e =>
        match trieTail nodes fuel e.2.2 r with
        | (some o, r') => (some o, r')
        | (none, r') =>
          match e.2.1.bind Op.ofIdx with
          | some o => (some o, r')
          | none => (none, cs)                         -- `rewind`

/-- `Lexer::operator` over the generated trie (the longest operator has three characters: fuel 4 reaches the node
    behind it) -/
def trieOperator (cs : List Char) : Option (Op × List Char) :=
  match trieTail SyntaxTables.operatorTrie 4 0 cs with
  | (some o, r) => some (o, r)
  | (none, _) => none


theorem Tbl.op_names : Op.all.map Op.name = SyntaxTables.operatorVariants := by decide +kernel

theorem Tbl.op_all_complete (o : Op) : o ∈ Op.all := by cases o <;> decide +kernel

theorem Op.forall_all {p : Op → Prop} (h : ∀ o ∈ Op.all, p o) (o : Op) : p o := h o (Tbl.op_all_complete o)

example : trieOperator ";;&x".toList = some (.semicolonSemicolonAnd, ['x']) := by decide +kernel
example : trieOperator "<<\\\n-x".toList = some (.lessLessDash, ['x']) := by decide +kernel

theorem Tbl.trie_sorted :
    SyntaxTables.operatorTrie.all (fun edges => (edges.map (·.1.toNat)).Pairwise (· < ·)) = true := by decide +kernel


/-- node 9 of the generated trie is its one node without edges: every operator that no longer one extends ends there -/
theorem trieTail_leaf (fuel : Nat) (cs : List Char) : trieTail SyntaxTables.operatorTrie fuel 9 cs = (none, cs) := by
  cases fuel with
  | zero => rfl
  | succ f => rw [trieTail]; rfl

/-- the edges of a trie node as `opTail` takes them -/
def edgesOf (E : List (Char × Option Nat × Nat)) : List (Char × Op) :=
  E.filterMap fun e => (e.2.1.bind Op.ofIdx).map fun o => (e.1, o)

/-- `Trie::edge` at `c` and the look-up in `edgesOf` agree: both miss, or both find the edge -/
theorem edgesOf_lookup (E : List (Char × Option Nat × Nat)) (hv : ∀ e ∈ E, (e.2.1.bind Op.ofIdx).isSome = true)
    (c : Char) :
    (E.find? (fun e => e.1 == c) = none ∧ (edgesOf E).lookup c = none) ∨
    ∃ e o, E.find? (fun e => e.1 == c) = some e ∧ e ∈ E ∧ e.2.1.bind Op.ofIdx = some o ∧
      (edgesOf E).lookup c = some o := by
  induction E with
  | nil => exact Or.inl ⟨rfl, rfl⟩
  | cons e E ih =>
    have he := hv e (List.mem_cons_self ..)
    cases ho : e.2.1.bind Op.ofIdx with
    | none => rw [ho] at he; cases he
    | some o =>
      have hE : edgesOf (e :: E) = (e.1, o) :: edgesOf E := by
        unfold edgesOf; rw [List.filterMap_cons, ho]; rfl
      rw [hE, List.find?_cons, List.lookup_cons]
      by_cases hc : e.1 = c
      · subst hc
        exact Or.inr ⟨e, o, by simp, List.mem_cons_self .., ho, by simp⟩
      · have h1 : (e.1 == c) = false := by simpa using hc
        have h2 : (c == e.1) = false := by simpa using fun x => hc x.symm
        rw [h1, h2]
        rcases ih (fun x hx => hv x (List.mem_cons_of_mem _ hx)) with h | ⟨e', o', hf, hm, ho', hl⟩
        · exact Or.inl h
        · exact Or.inr ⟨e', o', hf, List.mem_cons_of_mem _ hm, ho', hl⟩

/-- a node all of whose edges lead to the empty trie is one `opTail` step -/
theorem trieTail_flat (fuel node : Nat) (r : List Char) (dflt : Op)
    (E : List (Char × Option Nat × Nat)) (hE : SyntaxTables.operatorTrie.getD node [] = E) (hne : E.isEmpty = false)
    (hleaf : ∀ e ∈ E, e.2.2 = 9) (hv : ∀ e ∈ E, (e.2.1.bind Op.ofIdx).isSome = true) :
    (match trieTail SyntaxTables.operatorTrie (fuel + 1) node r with
      | (some o, r') => (o, r')
      | (none, r') => (dflt, r')) = opTail r (edgesOf E) dflt := by
  rw [trieTail]
  simp only [hE, hne, Bool.false_eq_true, if_false]
  unfold opTail
  cases skipLC r with
  | nil => rfl
  | cons c r' =>
    rcases edgesOf_lookup E hv c with ⟨hf, hl⟩ | ⟨e, o, hf, hm, h, hl⟩
    · simp only [hf, hl]
    · simp only [hf, hl, hleaf e hm, trieTail_leaf, h]

/-- a node with one edge (the one whose operator is `X`) into a flat node, all others into the empty trie -/
theorem trieTail_mid (fuel node : Nat) (r : List Char) (d X : Op) (n2 : Nat)
    (E E2 : List (Char × Option Nat × Nat))
    (hE : SyntaxTables.operatorTrie.getD node [] = E) (hne : E.isEmpty = false)
    (hv : ∀ e ∈ E, (e.2.1.bind Op.ofIdx).isSome = true)
    (hE2 : SyntaxTables.operatorTrie.getD n2 [] = E2) (hne2 : E2.isEmpty = false)
    (hleaf2 : ∀ e ∈ E2, e.2.2 = 9) (hv2 : ∀ e ∈ E2, (e.2.1.bind Op.ofIdx).isSome = true)
    (hmid : ∀ e ∈ E, if e.2.1.bind Op.ofIdx = some X then e.2.2 = n2 else e.2.2 = 9) (hd : d ≠ X) :
    (match trieTail SyntaxTables.operatorTrie (fuel + 2) node r with
      | (some o, r') => (o, r')
      | (none, r') => (d, r')) =
      if (opTail r (edgesOf E) d).1 = X then opTail (opTail r (edgesOf E) d).2 (edgesOf E2) X
      else opTail r (edgesOf E) d := by
  rw [trieTail]
  simp only [hE, hne, Bool.false_eq_true, if_false]
  cases hs : skipLC r with
  | nil => rw [opTail_nil r _ d hs]; simp only [if_neg hd]
  | cons c r' =>
    rcases edgesOf_lookup E hv c with ⟨hf, hl⟩ | ⟨e, o, hf, hm, h, hl⟩
    · rw [opTail_none r _ d c r' hs hl]; simp only [hf, if_neg hd]
    · have hmid' := hmid e hm
      rw [h] at hmid'
      rw [opTail_some r _ d c r' o hs hl]
      simp only [hf, h]
      by_cases hx : o = X
      · subst hx
        simp only [if_true] at hmid' ⊢
        rw [hmid', ← trieTail_flat fuel n2 r' o E2 hE2 hne2 hleaf2 hv2]
        cases trieTail SyntaxTables.operatorTrie (fuel + 1) n2 r' with
        | mk a b => cases a <;> rfl
      · have hx' : ¬ (some o = some X) := fun e => hx (Option.some.inj e)
        simp only [if_neg hx', if_neg hx] at hmid' ⊢
        rw [hmid', trieTail_leaf]

/-- at an edge of the root with value `d`: the answer is that of the node reached, or `d` when it finds nothing; the
    matches of `trieTail` and `trieOperator` around it collapse -/
theorem trieRoot_edge (x : Option Op × List Char) (v : Option Nat) (d : Op) (cs : List Char)
    (hv : v.bind Op.ofIdx = some d) :
    (match (match x with
        | (some o, r') => ((some o : Option Op), r')
        | (none, r') =>
          match v.bind Op.ofIdx with
          | some o => (some o, r')
          | none => (none, cs)) with
      | (some o, r) => some (o, r)
      | (none, _) => none) =
    some (match x with
      | (some o, r') => (o, r')
      | (none, r') => (d, r')) := by
  rw [hv]
  obtain ⟨a, b⟩ := x
  cases a <;> rfl

theorem Tbl.lexOperator_eq_trie (cs : List Char) : lexOperator cs = trieOperator cs := by
  unfold lexOperator trieOperator
  rw [trieTail]
  have hn0 : (SyntaxTables.operatorTrie.getD 0 []).isEmpty = false := rfl
  cases h : skipLC cs with
  | nil => simp only [hn0, Bool.false_eq_true, if_false]
  | cons c r =>
    simp only [hn0, Bool.false_eq_true, if_false]
    by_cases hc : c ∈ ['\n', '&', '(', ')', ';', '<', '>', '|']
    · -- the eight edges of the root: a leaf, a flat node (`&`, `|`) or a node with one deeper edge (`;`, `<`, `>`)
      simp only [List.mem_cons, List.not_mem_nil, or_false] at hc
      rcases hc with rfl | rfl | rfl | rfl | rfl | rfl | rfl | rfl <;> simp only [Char.reduceEq, ↓reduceIte]
      · rw [show List.find? (fun e => e.1 == '\n') (SyntaxTables.operatorTrie.getD 0 []) = some ('\n', some 0, 9) from rfl]
        simp only [trieTail_leaf]; rfl
      · rw [show List.find? (fun e => e.1 == '&') (SyntaxTables.operatorTrie.getD 0 []) = some ('&', some 1, 1) from rfl,
          trieRoot_edge _ _ .and _ rfl, trieTail_flat 2 1 r .and _ rfl rfl (by decide) (by decide)]
        rfl
      · rw [show List.find? (fun e => e.1 == '(') (SyntaxTables.operatorTrie.getD 0 []) = some ('(', some 3, 9) from rfl]
        simp only [trieTail_leaf]; rfl
      · rw [show List.find? (fun e => e.1 == ')') (SyntaxTables.operatorTrie.getD 0 []) = some (')', some 4, 9) from rfl]
        simp only [trieTail_leaf]; rfl
      · rw [show List.find? (fun e => e.1 == ';') (SyntaxTables.operatorTrie.getD 0 []) = some (';', some 5, 2) from rfl,
          trieRoot_edge _ _ .semicolon _ rfl,
          trieTail_mid 1 2 r .semicolon .semicolonSemicolon 6 _ _ rfl rfl (by decide) rfl rfl (by decide) (by decide)
            (by decide) (by decide), apply_ite some]
        rfl
      · rw [show List.find? (fun e => e.1 == '<') (SyntaxTables.operatorTrie.getD 0 []) = some ('<', some 10, 3) from rfl,
          trieRoot_edge _ _ .less _ rfl,
          trieTail_mid 1 3 r .less .lessLess 7 _ _ rfl rfl (by decide) rfl rfl (by decide) (by decide)
            (by decide) (by decide), apply_ite some]
        rfl
      · rw [show List.find? (fun e => e.1 == '>') (SyntaxTables.operatorTrie.getD 0 []) = some ('>', some 17, 4) from rfl,
          trieRoot_edge _ _ .greater _ rfl,
          trieTail_mid 1 4 r .greater .greaterGreater 8 _ _ rfl rfl (by decide) rfl rfl (by decide) (by decide)
            (by decide) (by decide), apply_ite some]
        rfl
      · rw [show List.find? (fun e => e.1 == '|') (SyntaxTables.operatorTrie.getD 0 []) = some ('|', some 23, 5) from rfl,
          trieRoot_edge _ _ .bar _ rfl, trieTail_flat 2 5 r .bar _ rfl rfl (by decide) (by decide)]
        rfl
    · have hf : List.find? (fun e => e.1 == c) (SyntaxTables.operatorTrie.getD 0 []) = none := by
        rw [List.find?_eq_none]
        intro e he
        have : e.1 ∈ ['\n', '&', '(', ')', ';', '<', '>', '|'] := by revert e; decide
        simp only [beq_iff_eq]
        exact fun x => hc (x ▸ this)
      simp only [List.mem_cons, List.not_mem_nil, or_false, not_or] at hc
      simp only [hf, hc, if_false]


/-! ### the other tables -/

def RedirOp.name : RedirOp → String
  | .fileIn => "FileIn" | .fileInOut => "FileInOut" | .fileOut => "FileOut" | .fileAppend => "FileAppend"
  | .fileClobber => "FileClobber" | .fdIn => "FdIn" | .fdOut => "FdOut" | .pipe => "Pipe" | .string => "String"

def CaseCont.name : CaseCont → String
  | .break_ => "Break" | .fallThrough => "FallThrough" | .continue_ => "Continue"

/-- `Operator::from(x).as_str()` through the generated tables -/
def strVia (conv : List (String × String)) (name : String) : List Char :=
  (((List.lookup name conv).bind fun v => List.lookup v SyntaxTables.operatorAsStr).getD "").toList

/-- the operator texts of the round-trip lemmas (`Op.text`) are those of the generated `Operator::as_str` table -/
theorem Tbl.op_text_eq_str : ∀ o ∈ Op.all, o.text = o.str := by decide +kernel

theorem Tbl.operator_texts_read_back : ∀ o ∈ Op.all, lexOperator o.str = some (o, []) := fun o ho => by
  rw [← Tbl.op_text_eq_str o ho]
  exact lexOperator_text_eof o

theorem Tbl.redirOpOf_eq_table (o : Op) :
    (redirOpOf o).map RedirOp.name = SyntaxTables.redirOpOfOperator.lookup o.name := by
  revert o; exact Op.forall_all (by decide +kernel)

theorem Tbl.redirOp_str_eq_table (r : RedirOp) : r.str = strVia SyntaxTables.operatorOfRedirOp r.name := by
  cases r <;> decide +kernel

theorem Tbl.caseContOf_eq_table (o : Op) :
    (caseContOf o).map CaseCont.name = SyntaxTables.caseContinuationOfOperator.lookup o.name := by
  revert o; exact Op.forall_all (by decide +kernel)

theorem Tbl.caseCont_str_eq_table (k : CaseCont) : k.str = strVia SyntaxTables.operatorOfCaseContinuation k.name := by
  cases k <;> decide +kernel

theorem Tbl.andOr_tables :
    strVia SyntaxTables.operatorOfAndOr "AndThen" = "&&".toList ∧
    strVia SyntaxTables.operatorOfAndOr "OrElse" = "||".toList ∧
    SyntaxTables.andOrOfOperator = [(Op.andAnd.name, "AndThen"), (Op.barBar.name, "OrElse")] := by decide +kernel

theorem Tbl.keywords_eq_table : keywords = SyntaxTables.keywordFromStr.map (·.1.toList) := by decide +kernel

/-! ## The table statements

`tools/tables/syntax.py` writes `Generated/SyntaxTables.lean` from `lex/op.rs`, `lex/keyword.rs`, `lex/core.rs`,
`syntax/conversions.rs` and `parser/list.rs`.  An edit of one of these tables in the Rust sources changes the
generated file and breaks the theorem below that mentions it. -/

/-- ★ The hand-written operator lexer is the walk of `Lexer::operator_tail` over the `OPERATORS` trie as the
    sources define it — for every input, with line continuations at every peek. -/
theorem lexOperator_eq_trie (cs : List Char) : lexOperator cs = trieOperator cs := Tbl.lexOperator_eq_trie cs

/-- `Trie::edge` is a binary search: the edges of every node are sorted by key (so it is the `find?` of
    `trieTail`). -/
theorem trie_sorted :
    SyntaxTables.operatorTrie.all (fun edges => (edges.map (·.1.toNat)).Pairwise (· < ·)) = true := Tbl.trie_sorted

/-- the model's `Op` is `enum Operator`, variant by variant in declaration order, and `Op.all` lists them all -/
theorem op_enum_is_operator : Op.all.map Op.name = SyntaxTables.operatorVariants ∧ ∀ o : Op, o ∈ Op.all :=
  ⟨Tbl.op_names, Tbl.op_all_complete⟩

/-- ★ Every operator text of `Operator::as_str` is read by the operator lexer as that operator (the printer
    writes operators through `as_str`; the trie and `as_str` agree on all 25). -/
theorem operator_texts_read_back : ∀ o ∈ Op.all, lexOperator o.str = some (o, []) := Tbl.operator_texts_read_back

/-- `RedirOp::try_from(Operator)`, and the text printed for a redirection operator
    (`Operator::from(op).as_str()`), are the generated tables -/
theorem redirOp_tables (o : Op) (r : RedirOp) :
    (redirOpOf o).map RedirOp.name = SyntaxTables.redirOpOfOperator.lookup o.name ∧
    r.str = strVia SyntaxTables.operatorOfRedirOp r.name :=
  ⟨Tbl.redirOpOf_eq_table o, Tbl.redirOp_str_eq_table r⟩

/-- a printed redirection operator is read back as the operator that converts to it -/
theorem redirOp_reads_back (r : RedirOp) :
    ∃ o, lexOperator r.str = some (o, []) ∧ redirOpOf o = some r := by
  refine ⟨opOfRedirOp r, ?_, redirOpOf_opOf r⟩
  rw [r.str_eq_text]
  exact lexOperator_text_eof _

/-- `CaseContinuation::try_from(Operator)` and the printed terminator are the generated tables -/
theorem caseCont_tables (o : Op) (k : CaseCont) :
    (caseContOf o).map CaseCont.name = SyntaxTables.caseContinuationOfOperator.lookup o.name ∧
    k.str = strVia SyntaxTables.operatorOfCaseContinuation k.name :=
  ⟨Tbl.caseContOf_eq_table o, Tbl.caseCont_str_eq_table k⟩

/-- a printed case terminator is read back as an operator that converts to it (`;;&` also gives `Continue`) -/
theorem caseCont_reads_back (k : CaseCont) :
    ∃ o, lexOperator k.str = some (o, []) ∧ caseContOf o = some k := by
  refine ⟨contOp k, ?_, caseContOf_contOp k⟩
  rw [k.str_eq_text]
  exact lexOperator_text_eof _

/-- `&&` / `||` in the generated tables: the texts of `Operator::from(AndOr)` and the two operators `AndOr::try_from`
    accepts (the literals the model's `printAndOrRest` and `parseAndOrTail` are written with) -/
theorem andOr_tables :
    strVia SyntaxTables.operatorOfAndOr "AndThen" = "&&".toList ∧
    strVia SyntaxTables.operatorOfAndOr "OrElse" = "||".toList ∧
    SyntaxTables.andOrOfOperator = [(Op.andAnd.name, "AndThen"), (Op.barBar.name, "OrElse")] := Tbl.andOr_tables

/-- the model's reserved words are exactly the strings `Keyword::from_str` accepts -/
theorem keywords_eq_table : keywords = SyntaxTables.keywordFromStr.map (·.1.toList) := Tbl.keywords_eq_table

/-- `Keyword::as_str` and `Keyword::from_str` are inverse to each other on all variants -/
theorem keyword_as_str_from_str :
    SyntaxTables.keywordAsStr.map (·.1) = SyntaxTables.keywordVariants ∧
    (∀ p ∈ SyntaxTables.keywordAsStr, SyntaxTables.keywordFromStr.lookup p.2 = some p.1) ∧
    SyntaxTables.keywordFromStr.length = SyntaxTables.keywordAsStr.length := by decide +kernel

/-- the texts of the keywords for which `Keyword::is_clause_delimiter` holds -/
def clauseKeywordTexts : List (List Char) :=
  SyntaxTables.keywordClauseDelimiters.filterMap fun v => (SyntaxTables.keywordAsStr.lookup v).map String.toList

/-- `TokenId::is_clause_delimiter` through the generated tables -/
def isClauseDelimiterGen (t : Token) : Bool :=
  match t.id with
  | .word true => (wordLiteral t.word).any clauseKeywordTexts.contains
  | .word false => SyntaxTables.tokenIdClauseDelimiter.lookup "Token(None)" == some "true"
  | .op o => SyntaxTables.operatorClauseDelimiters.contains o.name
  | .ioNumber => SyntaxTables.tokenIdClauseDelimiter.lookup "IoNumber" == some "true"
  | .ioLocation => SyntaxTables.tokenIdClauseDelimiter.lookup "IoLocation" == some "true"
  | .endOfInput => SyntaxTables.tokenIdClauseDelimiter.lookup "EndOfInput" == some "true"

theorem Tbl.tokenId_clause_dispatch :
    SyntaxTables.tokenIdClauseDelimiter.lookup "Token(Some(_))" = some "keyword" ∧
    SyntaxTables.tokenIdClauseDelimiter.lookup "Operator(_)" = some "operator" := by decide +kernel

theorem Tbl.isClauseDelimiter_eq_table (t : Token) : t.isClauseDelimiter = isClauseDelimiterGen t := by
  obtain ⟨w, id⟩ := t
  cases id with
  | word kw =>
    cases kw with
    | false => simp only [Token.isClauseDelimiter, isClauseDelimiterGen]; decide +kernel
    | true =>
      have e : clauseKeywordTexts = ["}", "do", "done", "elif", "else", "esac", "fi", "then"].map String.toList := by
        decide +kernel
      simp only [Token.isClauseDelimiter, isClauseDelimiterGen, e]
      cases wordLiteral w with
      | none => rfl
      | some s =>
        rw [Bool.eq_iff_iff]
        simp only [List.any_cons, List.any_nil, Option.any_some, List.contains_eq_mem, List.map_cons, List.map_nil,
          List.mem_cons, List.not_mem_nil, Option.some.injEq, Bool.or_eq_true, decide_eq_true_eq, Bool.or_false,
          false_or, or_assoc, or_comm]
  | op o =>
    revert o
    simp only [Token.isClauseDelimiter, isClauseDelimiterGen]
    exact Op.forall_all (by decide +kernel)
  | ioNumber => simp only [Token.isClauseDelimiter, isClauseDelimiterGen]; decide +kernel
  | ioLocation => simp only [Token.isClauseDelimiter, isClauseDelimiterGen]; decide +kernel
  | endOfInput => simp only [Token.isClauseDelimiter, isClauseDelimiterGen]; decide +kernel

/-- ★ the model's `Token.isClauseDelimiter` is `TokenId::is_clause_delimiter` with
    `Keyword::is_clause_delimiter` / `Operator::is_clause_delimiter` as the sources define them, for every
    token -/
theorem isClauseDelimiter_eq_table (t : Token) :
    t.isClauseDelimiter = isClauseDelimiterGen t ∧
    SyntaxTables.tokenIdClauseDelimiter.lookup "Token(Some(_))" = some "keyword" ∧
    SyntaxTables.tokenIdClauseDelimiter.lookup "Operator(_)" = some "operator" :=
  ⟨Tbl.isClauseDelimiter_eq_table t, Tbl.tokenId_clause_dispatch⟩

/-- what `Parser::command_line` accepts after a line that no newline ends: the end of input only -/
theorem commandLine_trailing_table : SyntaxTables.commandLineAcceptedTrailing = ["EndOfInput"] := by decide +kernel

end YashModel.Syntax
