/-
  C06 — compound commands over an abstract command parser (layer 4): `{ }`, `( )`, `while`/`until`, `if`, `for`, `case`,
  each from the round trip of its lists (`ListRT`).
-/
import YashModel.Syntax.Token
namespace YashModel.Syntax
open YashModel.Common

/-- the list, printed in its place, is read back by `maybe_compound_list` -/
def ListRT (pc : CmdParser) (alt : Bool) (l : List Item) (tail : List Char) : Prop :=
  ∀ (sp : Bool), (l = [] → sp = false) → ∀ fuel, 1 ≤ fuel →
    parseCompoundList pc fuel ((if sp then [' '] else []) ++ (printList alt l ++ tail)) = some (l, tail)

/-- a non-empty list after a blank, with the fuel the compound-command parsers give it -/
theorem ListRT.blank {pc : CmdParser} {alt : Bool} {l : List Item} {tail : List Char} (h : ListRT pc alt l tail)
    (hl : l ≠ []) (n : Nat) :
    parseCompoundList pc (n + 2) (' ' :: (printList alt l ++ tail)) = some (l, tail) := by
  simpa using h true (fun e => absurd e hl) (n + 2) (by omega)

theorem listThenKw_rt (pc : CmdParser) (k : String) (hk : Kw k) (l : List Item) (hl : l ≠ [])
    (next : List Char) (hn : NextOk next) (h : ListRT pc true l (' ' :: (k.toList ++ next))) :
    listThenKw pc k (' ' :: (printList true l ++ ' ' :: (k.toList ++ next))) = some (l, next) := by
  have he : l.isEmpty = false := List.isEmpty_eq_false_iff.mpr hl
  simp only [listThenKw, h.blank hl, expectKw_blank k hk next hn, he]
  simp

theorem one_le_add_two (n : Nat) : 1 ≤ n + 2 := by omega

/-- the text of the `elif` clauses, followed by `after` -/
def elifText : List ElifThen → List Char → List Char
  | [], after => after
  | .mk c b :: rest, after =>
    "elif".toList ++ ' ' :: (printList true c ++ ' ' :: ("then".toList ++ ' ' ::
      (printList true b ++ ' ' :: elifText rest after)))

theorem printElifs_eq (es : List ElifThen) (after : List Char) :
    printElifs es ++ after = elifText es after := by
  induction es with
  | nil => simp [printElifs, elifText]
  | cons e es ih =>
    obtain ⟨c, b⟩ := e
    simp [printElifs, elifText, str, ← ih]

/-! The printed compound commands, with what follows them, as the nested text the parser consumes. -/

theorem printCompound_grouping (l : List Item) (t : List Char) :
    printCompound (.grouping l) ++ t = "{".toList ++ ' ' :: (printList true l ++ ' ' :: ("}".toList ++ t)) := by
  simp [printCompound, str]

theorem printCompound_subshell (l : List Item) (t : List Char) :
    printCompound (.subshell l) ++ t = '(' :: (printList false l ++ ')' :: t) := by
  simp [printCompound]

theorem printCompound_while (c b : List Item) (t : List Char) :
    printCompound (.whileLoop c b) ++ t = "while".toList ++ ' ' :: (printList true c ++ ' ' ::
      ("do".toList ++ ' ' :: (printList true b ++ ' ' :: ("done".toList ++ t)))) := by
  simp [printCompound, str]

theorem printCompound_until (c b : List Item) (t : List Char) :
    printCompound (.untilLoop c b) ++ t = "until".toList ++ ' ' :: (printList true c ++ ' ' ::
      ("do".toList ++ ' ' :: (printList true b ++ ' ' :: ("done".toList ++ t)))) := by
  simp [printCompound, str]

theorem printCompound_if (c b : List Item) (es : List ElifThen) (hasElse : Bool) (e : List Item) (t : List Char) :
    printCompound (.ifCmd c b es hasElse e) ++ t =
      "if".toList ++ ' ' :: (printList true c ++ ' ' :: ("then".toList ++ ' ' :: (printList true b ++ ' ' ::
        elifText es (if hasElse then "else".toList ++ ' ' :: (printList true e ++ ' ' :: ("fi".toList ++ t))
          else "fi".toList ++ t)))) := by
  cases hasElse <;> simp [printCompound, str, ← printElifs_eq]

/-- ★ layer 4: `{ list; }` reads back when its list does. -/
theorem grouping_roundtrip (pc : CmdParser) (l : List Item) (hl : l ≠ []) (tail : List Char)
    (hn : NextOk tail) (h : ListRT pc true l (' ' :: ("}".toList ++ tail))) (sp : Bool) :
    parseCompound pc ((if sp then [' '] else []) ++ (printCompound (.grouping l) ++ tail)) =
      some (some (.grouping l), tail) := by
  have ht := lexToken_kw_exact "{" kw_lbrace _ (nextOk_blank (printList true l ++ ' ' :: ("}".toList ++ tail))) sp
  have hl' := listThenKw_rt pc "}" kw_rbrace l hl tail hn h
  rw [printCompound_grouping]
  simp only [parseCompound, ht, kwTok_isKw, decide_true, if_true, hl', Option.map_some]

/-- ★ layer 4: `(list)` reads back when its list does (the `(` and `)` must be read as those operators:
    `hopen`, `hclose`). -/
theorem subshell_roundtrip (pc : CmdParser) (l : List Item) (hl : l ≠ []) (tail : List Char)
    (hopen : ∀ sp : Bool, ∃ t, lexToken ((if sp then [' '] else []) ++ '(' :: (printList false l ++ ')' :: tail)) =
        some (t, printList false l ++ ')' :: tail) ∧ t.isOp .openParen = true ∧ ∀ k, t.isKw k = false)
    (hclose : expectOp .closeParen (')' :: tail) = some tail)
    (h : ListRT pc false l (')' :: tail)) (sp : Bool) :
    parseCompound pc ((if sp then [' '] else []) ++ (printCompound (.subshell l) ++ tail)) =
      some (some (.subshell l), tail) := by
  obtain ⟨t, ht, hop, hkw⟩ := hopen sp
  have h1 := fun f hf => h false (fun _ => rfl) f hf
  simp only [Bool.false_eq_true, if_false, List.nil_append] at h1
  have he : l.isEmpty = false := List.isEmpty_eq_false_iff.mpr hl
  rw [printCompound_subshell]
  simp only [parseCompound, ht, hkw, hop, if_true, Bool.false_eq_true, if_false]
  rw [h1 _ (by omega)]
  simp only [hclose, he, Bool.false_eq_true, if_false]

theorem doClause_rt (pc : CmdParser) (l : List Item) (hl : l ≠ []) (tail : List Char) (hn : NextOk tail)
    (h : ListRT pc true l (' ' :: ("done".toList ++ tail))) :
    parseDoClause pc (' ' :: ("do".toList ++ ' ' :: (printList true l ++ ' ' :: ("done".toList ++ tail)))) =
      some (some l, tail) := by
  have h1 := expectKw_blank "do" kw_do _ (nextOk_blank (printList true l ++ ' ' :: ("done".toList ++ tail)))
  have h2 := listThenKw_rt pc "done" kw_done l hl tail hn h
  simp only [parseDoClause, h1, h2, Option.map_some]

/-- ★ layer 4: `while`/`until` loops read back when their condition and body do. -/
theorem while_until_roundtrip (pc : CmdParser) (isWhile : Bool) (c b : List Item) (hc : c ≠ []) (hb : b ≠ [])
    (tail : List Char) (hn : NextOk tail)
    (h1 : ListRT pc true c (' ' :: ("do".toList ++ ' ' :: (printList true b ++ ' ' :: ("done".toList ++ tail)))))
    (h2 : ListRT pc true b (' ' :: ("done".toList ++ tail))) (sp : Bool) :
    parseCompound pc ((if sp then [' '] else []) ++
        (printCompound (if isWhile then .whileLoop c b else .untilLoop c b) ++ tail)) =
      some (some (if isWhile then .whileLoop c b else .untilLoop c b), tail) := by
  have hnx := nextOk_blank (printList true c ++ ' ' :: ("do".toList ++ ' ' ::
    (printList true b ++ ' ' :: ("done".toList ++ tail))))
  have hd := doClause_rt pc b hb tail hn h2
  have he : c.isEmpty = false := List.isEmpty_eq_false_iff.mpr hc
  -- the two loops differ in the reserved word only
  cases isWhile with
  | true =>
    have ht := lexToken_kw_exact "while" kw_while _ hnx sp
    rw [if_pos rfl, printCompound_while]
    simp only [parseCompound, ht, kwTok_isKw, kwTok_isOp, String.reduceEq, decide_false, decide_true, Bool.false_eq_true, if_false, Bool.true_or, if_true]
    rw [h1.blank hc]
    simp only [he, Bool.false_eq_true, if_false, hd]
  | false =>
    have ht := lexToken_kw_exact "until" kw_until _ hnx sp
    rw [if_neg Bool.false_ne_true, printCompound_until]
    simp only [parseCompound, ht, kwTok_isKw, kwTok_isOp, String.reduceEq, decide_false, decide_true, Bool.false_eq_true, if_false, Bool.or_true, if_true]
    rw [h1.blank hc]
    simp only [he, Bool.false_eq_true, if_false, hd]

def ElifsRT (pc : CmdParser) : List ElifThen → List Char → Prop
  | [], _ => True
  | .mk c b :: rest, after =>
    c ≠ [] ∧ b ≠ [] ∧
    ListRT pc true c (' ' :: ("then".toList ++ ' ' :: (printList true b ++ ' ' :: elifText rest after))) ∧
    ListRT pc true b (' ' :: elifText rest after) ∧ ElifsRT pc rest after

theorem parseElifs_rt (pc : CmdParser) (after : List Char)
    (hafter : expectKw "elif" (' ' :: after) = none) :
    ∀ (es : List ElifThen) (fuel : Nat), (' ' :: elifText es after).length + 1 ≤ fuel → ElifsRT pc es after →
      parseElifs pc fuel (' ' :: elifText es after) = some (es, ' ' :: after) :=
  listLoop_text (parseElifs pc) (' ' :: elifText · after) (·, ' ' :: after) (ElifsRT pc · after) List.length
    (fun ⟨_, _⟩ es => by simp only [elifText, List.length_cons, List.length_append]; omega)
    (fun ⟨_, _⟩ _ h => h.2.2.2.2)
    (fun k => by simp only [elifText, parseElifs, hafter])
    (fun k ⟨c, b⟩ es h ih' => by
      obtain ⟨hc, hb, h1, h2, _⟩ := h
      have e1 := expectKw_blank "elif" kw_elif
        (' ' :: (printList true c ++ ' ' :: ("then".toList ++ ' ' ::
          (printList true b ++ ' ' :: elifText es after)))) (nextOk_blank _)
      have e2 := listThenKw_rt pc "then" kw_then c hc
        (' ' :: (printList true b ++ ' ' :: elifText es after)) (nextOk_blank _) h1
      have he : b.isEmpty = false := List.isEmpty_eq_false_iff.mpr hb
      simp only [elifText, parseElifs, e1, e2]
      rw [h2.blank hb]
      simp only [he, Bool.false_eq_true, if_false, ih'])

/-- ★ layer 4: `if … then … [elif … then …]* [else …] fi` reads back when all its lists do. -/
theorem if_roundtrip (pc : CmdParser) (c b : List Item) (es : List ElifThen) (hasElse : Bool) (e : List Item)
    (hc : c ≠ []) (hb : b ≠ []) (he : hasElse = true → e ≠ []) (tail : List Char) (hn : NextOk tail)
    (after : List Char)
    (hafter : after = if hasElse then "else".toList ++ ' ' :: (printList true e ++ ' ' :: ("fi".toList ++ tail))
      else "fi".toList ++ tail)
    (h1 : ListRT pc true c (' ' :: ("then".toList ++ ' ' :: (printList true b ++ ' ' :: elifText es after))))
    (h2 : ListRT pc true b (' ' :: elifText es after))
    (h3 : ElifsRT pc es after)
    (h4 : hasElse = true → ListRT pc true e (' ' :: ("fi".toList ++ tail))) (sp : Bool) :
    parseCompound pc ((if sp then [' '] else []) ++
        (printCompound (.ifCmd c b es hasElse (if hasElse then e else [])) ++ tail)) =
      some (some (.ifCmd c b es hasElse (if hasElse then e else [])), tail) := by
  have hin : printCompound (.ifCmd c b es hasElse (if hasElse then e else [])) ++ tail =
      "if".toList ++ ' ' :: (printList true c ++ ' ' :: ("then".toList ++ ' ' ::
        (printList true b ++ ' ' :: elifText es after))) := by
    subst hafter
    cases hasElse <;> simp [printCompound_if]
  have ht := lexToken_kw_exact "if" kw_if
    (' ' :: (printList true c ++ ' ' :: ("then".toList ++ ' ' ::
      (printList true b ++ ' ' :: elifText es after)))) (nextOk_blank _) sp
  have e2 := listThenKw_rt pc "then" kw_then c hc
    (' ' :: (printList true b ++ ' ' :: elifText es after)) (nextOk_blank _) h1
  have hbe : b.isEmpty = false := List.isEmpty_eq_false_iff.mpr hb
  have hnoelif : expectKw "elif" (' ' :: after) = none := by
    subst hafter
    cases hasElse with
    | true =>
      have := expectKw_other "else" "elif" kw_else (by decide)
        (' ' :: (printList true e ++ ' ' :: ("fi".toList ++ tail))) (nextOk_blank _) true
      simpa using this
    | false =>
      have := expectKw_other "fi" "elif" kw_fi (by decide) tail hn true
      simpa using this
  have e4 := parseElifs_rt pc after hnoelif es ((' ' :: elifText es after).length + 2) (by omega) h3
  rw [hin]
  simp only [parseCompound, ht, kwTok_isKw, kwTok_isOp, String.reduceEq, decide_false, decide_true, Bool.false_eq_true, if_false, Bool.or_self, if_true, e2]
  rw [h2.blank hb]
  simp only [hbe, Bool.false_eq_true, if_false, e4]
  subst hafter
  cases hasElse with
  | true =>
    have f1 := expectKw_blank "else" kw_else
      (' ' :: (printList true e ++ ' ' :: ("fi".toList ++ tail))) (nextOk_blank _)
    have hene := he rfl
    have f3 := expectKw_blank "fi" kw_fi tail hn
    have hee : e.isEmpty = false := List.isEmpty_eq_false_iff.mpr hene
    simp only [if_true, f1]
    rw [(h4 rfl).blank hene]
    simp only [hee, Bool.false_eq_true, if_false, f3, Option.map_some]
  | false =>
    have f0 := expectKw_other "fi" "else" kw_fi (by decide) tail hn true
    simp only [if_true, List.singleton_append] at f0
    have f3 := expectKw_blank "fi" kw_fi tail hn
    simp only [Bool.false_eq_true, if_false, f0, f3, Option.map_some]

/-! ## Layer 4: `for` -/

/-- the words of `for … in w₁ w₂ …;`, each followed by the rest -/
def ForWordsOk : List Word → List Char → Prop
  | [], _ => True
  | v :: vs, tail => TokWordOk v (printWordsSp vs ++ tail) ∧ ForWordsOk vs tail

theorem nextOk_wordsSp (vs : List Word) (x : List Char) : NextOk (printWordsSp vs ++ ';' :: ' ' :: x) := by
  cases vs with
  | nil =>
    simpa [printWordsSp] using nextOk_term ';' (' ' :: x) (by decide)
  | cons v vs =>
    simpa [printWordsSp] using nextOk_blank (printWord v ++ (printWordsSp vs ++ ';' :: ' ' :: x))

theorem parseForValues_rt (x : List Char) :
    ∀ (vs : List Word) (fuel : Nat), (printWordsSp vs ++ ';' :: ' ' :: x).length + 1 ≤ fuel →
      ForWordsOk vs (';' :: ' ' :: x) →
      parseForValues fuel (printWordsSp vs ++ ';' :: ' ' :: x) = some (vs, ' ' :: x) :=
  listLoop_text parseForValues (printWordsSp · ++ ';' :: ' ' :: x) (·, ' ' :: x) (ForWordsOk · (';' :: ' ' :: x))
    List.length
    (fun v vs => by simp only [printWordsSp, List.cons_append, List.length_cons, List.length_append]; omega)
    (fun _ _ h => h.2)
    (fun k => by
      have : lexToken (';' :: ' ' :: x) = _ :=
        lexToken_opText .semicolon _ (opStops_of_head _ _ _ (by decide) (by decide)) false
      simp [printWordsSp, parseForValues, this])
    (fun k v vs h ih' => by
      have ht := token_blank v _ h.1 (nextOk_wordsSp vs x)
      simp only [printWordsSp, List.cons_append, List.append_assoc, parseForValues, ht, ih', Option.map_some])

def forInText : Option (List Word) → List Char
  | some vs => ' ' :: ("in".toList ++ (printWordsSp vs ++ [';']))
  | none => []

theorem printCompound_for (name : Word) (values : Option (List Word)) (b : List Item) (t : List Char) :
    printCompound (.forLoop name values b) ++ t = "for".toList ++ ' ' :: (printWord name ++
      (forInText values ++ (' ' :: ("do".toList ++ ' ' :: (printList true b ++ ' ' :: ("done".toList ++ t)))))) := by
  cases values <;> simp [printCompound, str, forInText]

/-- the `in` part of a `for` loop: `in words;` is read as the words, a `do` that follows directly as no `in` part -/
theorem parseForIn_rt (values : Option (List Word)) (X : List Char)
    (hvals : ∀ vs, values = some vs → ForWordsOk vs (';' :: ' ' :: ("do".toList ++ ' ' :: X))) (f : Nat) :
    parseForIn (f + 1) true (forInText values ++ (' ' :: ("do".toList ++ ' ' :: X))) =
      some (values, ' ' :: ("do".toList ++ ' ' :: X)) := by
  -- The text behind gets a name, here and wherever a text is named this way (also in `Command.lean`): `simp` must not
  -- work inside it (a string literal unfolds to its characters, appends re-associate), or the hypotheses that speak
  -- of it no longer match.
  obtain ⟨D, hD⟩ : ∃ D, D = "do".toList ++ ' ' :: X := ⟨_, rfl⟩
  rw [← hD] at hvals ⊢
  cases values with
  | none =>
    have hdo := lexToken_kw_blank "do" kw_do (' ' :: X) (nextOk_blank _)
    rw [← hD] at hdo
    simp only [forInText, List.nil_append, parseForIn, hdo, kwTok_isKw, kwTok_isOp, String.reduceEq, decide_false,
      decide_true, Bool.false_and, Bool.false_eq_true, if_false, if_true]
  | some vs =>
    have hinT := lexToken_kw_blank "in" kw_in (printWordsSp vs ++ ';' :: ' ' :: D) (nextOk_wordsSp vs D)
    have hin : forInText (some vs) ++ ' ' :: D =
        ' ' :: ("in".toList ++ (printWordsSp vs ++ ';' :: ' ' :: D)) := by simp [forInText]
    rw [hin]
    simp only [parseForIn, hinT, kwTok_isKw, kwTok_isOp, String.reduceEq, decide_false, decide_true, Bool.false_and, Bool.false_eq_true, if_false, if_true]
    rw [parseForValues_rt D vs _ (by omega) (hvals vs rfl)]
    rfl

/-- ★ layer 4: `for name [in words;] do list; done`. -/
theorem for_roundtrip (pc : CmdParser) (name : Word) (values : Option (List Word)) (b : List Item) (hb : b ≠ [])
    (t : List Char) (hn : NextOk t)
    (hname : TokWordOk name ((match values with
      | some vs => ' ' :: ("in".toList ++ (printWordsSp vs ++ [';']))
      | none => []) ++ (' ' :: ("do".toList ++ ' ' :: (printList true b ++ ' ' :: ("done".toList ++ t))))))
    (hvals : ∀ vs, values = some vs →
      ForWordsOk vs (';' :: ' ' :: ("do".toList ++ ' ' :: (printList true b ++ ' ' :: ("done".toList ++ t)))))
    (h2 : ListRT pc true b (' ' :: ("done".toList ++ t))) (sp : Bool) :
    parseCompound pc ((if sp then [' '] else []) ++ (printCompound (.forLoop name values b) ++ t)) =
      some (some (.forLoop name values b), t) := by
  obtain ⟨X, hX⟩ : ∃ X, X = printList true b ++ ' ' :: ("done".toList ++ t) := ⟨_, rfl⟩
  rw [printCompound_for, ← hX]
  rw [← hX] at hname hvals
  have hname : TokWordOk name (forInText values ++ (' ' :: ("do".toList ++ ' ' :: X))) := by
    cases values <;> exact hname
  have hd : parseDoClause pc (' ' :: ("do".toList ++ ' ' :: X)) = some (some b, t) := by
    rw [hX]; exact doClause_rt pc b hb t hn h2
  have hsn := skipNewlines_blank ("do".toList ++ ' ' :: X) (headOk_kw "do" kw_do _)
  have hfi := parseForIn_rt values X hvals
  -- what follows the name starts with a blank in both forms
  obtain ⟨V, hV⟩ : ∃ V, V = forInText values ++ (' ' :: ("do".toList ++ ' ' :: X)) := ⟨_, rfl⟩
  rw [← hV] at hname hfi ⊢
  have hVn : NextOk V := by
    cases values <;> (rw [hV]; exact nextOk_blank _)
  have ht := lexToken_kw_exact "for" kw_for (' ' :: (printWord name ++ V)) (nextOk_blank _) sp
  have hnm := token_blank name V hname hVn
  simp only [parseCompound, ht, kwTok_isKw, kwTok_isOp, String.reduceEq, decide_false, decide_true, Bool.false_eq_true, if_false, if_true, hnm, Token.isWord,
    Bool.true_or, Bool.not_true, hfi, hsn, hd]

/-! ## Layer 4: `case` -/

/-- the patterns of a case item joined by ` | `, followed by `tail` -/
def patsText : List Word → List Char → List Char
  | [], tail => tail
  | [p], tail => printWord p ++ tail
  | p :: q :: r, tail => printWord p ++ ' ' :: '|' :: ' ' :: patsText (q :: r) tail

theorem joinWith_pats (ps : List Word) (tail : List Char) :
    joinWith (str " | ") (ps.map printWord) ++ tail = patsText ps tail := by
  induction ps with
  | nil => simp [joinWith, patsText]
  | cons p ps ih =>
    cases ps with
    | nil => simp [joinWith, patsText]
    | cons q r =>
      simp only [List.map_cons, joinWith, patsText, List.append_assoc] at ih ⊢
      rw [ih]
      simp [str]

/-- each pattern is a token word in front of what follows it -/
def PatsOk : List Word → List Char → Prop
  | [], _ => False
  | [p], tail => TokWordOk p tail
  | p :: q :: r, tail => TokWordOk p (' ' :: '|' :: ' ' :: patsText (q :: r) tail) ∧ PatsOk (q :: r) tail

/-- the text after the first pattern -/
def patsRest : List Word → List Char → List Char
  | [], tail => tail
  | q :: r, tail => ' ' :: '|' :: ' ' :: patsText (q :: r) tail

theorem patsText_cons (p : Word) (ps : List Word) (tail : List Char) :
    patsText (p :: ps) tail = printWord p ++ patsRest ps tail := by
  cases ps <;> simp [patsText, patsRest]

theorem nextOk_patsRest (ps : List Word) (x : List Char) : NextOk (patsRest ps (')' :: ' ' :: x)) := by
  cases ps with
  | nil => exact nextOk_rparen _
  | cons q r => exact nextOk_blank _

theorem patsOk_first (p : Word) (ps : List Word) (tail : List Char) (h : PatsOk (p :: ps) tail) :
    TokWordOk p (patsRest ps tail) ∧ (ps ≠ [] → PatsOk ps tail) := by
  cases ps with
  | nil => exact ⟨h, fun e => absurd rfl e⟩
  | cons q r => exact ⟨h.1, fun _ => h.2⟩

theorem parsePatterns_rt (x : List Char) :
    ∀ (ps : List Word) (fuel : Nat), (patsRest ps (')' :: ' ' :: x)).length + 1 ≤ fuel →
      (ps ≠ [] → PatsOk ps (')' :: ' ' :: x)) →
      parsePatterns fuel (patsRest ps (')' :: ' ' :: x)) = some (ps, ' ' :: x) :=
  listLoop_text parsePatterns (patsRest · (')' :: ' ' :: x)) (·, ' ' :: x)
    (fun ps => ps ≠ [] → PatsOk ps (')' :: ' ' :: x)) List.length
    (fun q r => by
      rw [patsRest, patsText_cons]
      simp only [List.length_cons, List.length_append]; omega)
    (fun q r h => (patsOk_first q r _ (h (by simp))).2)
    (fun k => by simp [patsRest, parsePatterns, lexToken_rparen, Token.isOp])
    (fun k q r h ih' => by
      have ht := token_blank q _ (patsOk_first q r _ (h (by simp))).1 (nextOk_patsRest r x)
      have e : patsRest (q :: r) (')' :: ' ' :: x) =
          ' ' :: '|' :: ' ' :: (printWord q ++ patsRest r (')' :: ' ' :: x)) := by
        rw [patsRest, patsText_cons]
      rw [e]
      simp only [parsePatterns, lexToken_bar, Token.isOp]
      simp [ht, Token.isWord, ih'])

/-- the text of the case items, followed by `after` (= `esac` and what follows) -/
def caseText : List CaseItem → List Char → List Char
  | [], after => after
  | .mk ps b k :: rest, after =>
    '(' :: patsText ps (')' :: ' ' :: (printList false b ++ (k.str ++ ' ' :: caseText rest after)))

theorem printCaseItems_eq (items : List CaseItem) (after : List Char) :
    printCaseItems items ++ after = caseText items after := by
  induction items with
  | nil => simp [printCaseItems, caseText]
  | cons i items ih =>
    obtain ⟨ps, b, k⟩ := i
    simp only [printCaseItems, caseText, List.cons_append, List.append_assoc]
    rw [joinWith_pats]
    simp [str, ih]

/-- every item reads back in its place: its patterns are token words, and its body (possibly empty) is read
    by `maybe_compound_list` up to the terminator.  The rest `R` is left open: an empty body leaves the blank in front of
    the terminator unread, a non-empty one does not. -/
def CaseItemsRT (pc : CmdParser) : List CaseItem → List Char → Prop
  | [], _ => True
  | .mk ps b k :: rest, after =>
    PatsOk ps (')' :: ' ' :: (printList false b ++ (k.str ++ ' ' :: caseText rest after))) ∧
    (∃ R, (∀ fuel, 1 ≤ fuel → parseCompoundList pc fuel
        (' ' :: (printList false b ++ (k.str ++ ' ' :: caseText rest after))) = some (b, R)) ∧
      lexToken R = some (⟨[], .op (contOp k)⟩, ' ' :: caseText rest after)) ∧
    CaseItemsRT pc rest after

theorem headOk_caseText (items : List CaseItem) (t : List Char) :
    HeadOk (caseText items ("esac".toList ++ t)) := by
  cases items with
  | nil => exact headOk_kw "esac" kw_esac t
  | cons i items =>
    obtain ⟨ps, b, k⟩ := i
    exact headOk_char _ _ ⟨by decide, by decide, by decide, by decide⟩

theorem patsText_length (ps : List Word) (tl : List Char) : tl.length ≤ (patsText ps tl).length := by
  induction ps with
  | nil => simp [patsText]
  | cons p ps ih =>
    rw [patsText_cons]
    cases ps with
    | nil => simp [patsRest]
    | cons q r => simp only [patsRest, List.length_append, List.length_cons] at ih ⊢; omega

theorem parseCaseItems_rt (pc : CmdParser) (t : List Char) (hn : NextOk t) :
    ∀ (items : List CaseItem) (fuel : Nat), (' ' :: caseText items ("esac".toList ++ t)).length + 1 ≤ fuel →
      CaseItemsRT pc items ("esac".toList ++ t) →
      parseCaseItems pc fuel (' ' :: caseText items ("esac".toList ++ t)) =
        some (items, ' ' :: ("esac".toList ++ t)) := by
  obtain ⟨A, hA⟩ : ∃ A, A = "esac".toList ++ t := ⟨_, rfl⟩
  rw [← hA]
  refine listLoop_text (parseCaseItems pc) (' ' :: caseText · A) (·, ' ' :: A) (CaseItemsRT pc · A) List.length
    (fun ⟨ps, b, kk⟩ items => by
      have := patsText_length ps (')' :: ' ' :: (printList false b ++ (kk.str ++ ' ' :: caseText items A)))
      simp only [caseText, List.length_cons, List.length_append] at this ⊢; omega)
    (fun ⟨_, _, _⟩ _ h => h.2.2) ?_ ?_
  · intro k
    have hsn := skipNewlines_blank A (by rw [hA]; exact headOk_kw "esac" kw_esac t)
    have hl := lexToken_kw_blank "esac" kw_esac t hn
    rw [← hA] at hl
    simp only [caseText, parseCaseItems, hsn, hl, kwTok_isKw, decide_true, if_true]
  · intro k ⟨ps, b, kk⟩ items h ih'
    obtain ⟨hps, ⟨R, hbody, hcont⟩, _⟩ := h
    cases ps with
    | nil => exact absurd hps (by simp [PatsOk])
    | cons p ps =>
      obtain ⟨BT, hBT⟩ : ∃ BT, BT = printList false b ++ (kk.str ++ ' ' :: caseText items A) := ⟨_, rfl⟩
      rw [← hBT] at hps hbody
      obtain ⟨hp, hpr⟩ := patsOk_first p ps _ hps
      have e0 : caseText (.mk (p :: ps) b kk :: items) A =
          '(' :: (printWord p ++ patsRest ps (')' :: ' ' :: BT)) := by
        simp only [caseText, patsText_cons, hBT]
      have hsn := skipNewlines_blank _ (headOk_char '(' (printWord p ++ patsRest ps (')' :: ' ' :: BT))
        ⟨by decide, by decide, by decide, by decide⟩)
      have hlp : lexToken (' ' :: '(' :: (printWord p ++ patsRest ps (')' :: ' ' :: BT))) =
          some (⟨[], .op .openParen⟩, printWord p ++ patsRest ps (')' :: ' ' :: BT)) :=
        lexToken_lparen (printWord p ++ patsRest ps (')' :: ' ' :: BT)) true
      have hpt := token_roundtrip p _ hp (nextOk_patsRest ps BT) false
      simp only [Bool.false_eq_true, if_false, List.nil_append] at hpt
      have hpp := parsePatterns_rt BT ps ((patsRest ps (')' :: ' ' :: BT)).length + 2) (by omega) hpr
      rw [e0]
      simp only [parseCaseItems, hsn, hlp]
      simp only [Token.isKw, Token.isWord, Token.isOp, Bool.false_eq_true, if_false, decide_true, if_true, hpt]
      simp only [hpp]
      rw [hbody _ (by omega)]
      simp only [hcont, caseContOf_contOp, ih', Option.map_some]
      simp

theorem printCompound_case (subject : Word) (items : List CaseItem) (t : List Char) :
    printCompound (.caseCmd subject items) ++ t = "case".toList ++ ' ' :: (printWord subject ++
      (' ' :: ("in".toList ++ ' ' :: caseText items ("esac".toList ++ t)))) := by
  simp [printCompound, str, ← printCaseItems_eq]

/-- ★ layer 4: `case word in (p | q) list;; … esac` (every item printed with its leading `(`; bodies may be
    empty; terminators `;;`, `;&`, `;|`). -/
theorem case_roundtrip (pc : CmdParser) (subject : Word) (items : List CaseItem) (t : List Char) (hn : NextOk t)
    (hs : TokWordOk subject (' ' :: ("in".toList ++ ' ' :: caseText items ("esac".toList ++ t))))
    (h : CaseItemsRT pc items ("esac".toList ++ t)) (sp : Bool) :
    parseCompound pc ((if sp then [' '] else []) ++ (printCompound (.caseCmd subject items) ++ t)) =
      some (some (.caseCmd subject items), t) := by
  obtain ⟨C, hC⟩ : ∃ C, C = caseText items ("esac".toList ++ t) := ⟨_, rfl⟩
  rw [← hC] at hs
  have hin : printCompound (.caseCmd subject items) ++ t =
      "case".toList ++ ' ' :: (printWord subject ++ (' ' :: ("in".toList ++ ' ' :: C))) := by
    rw [printCompound_case, hC]
  have ht := lexToken_kw_exact "case" kw_case
    (' ' :: (printWord subject ++ (' ' :: ("in".toList ++ ' ' :: C)))) (nextOk_blank _) sp
  have hsub := token_blank subject _ hs (nextOk_blank _)
  have hsn := skipNewlines_blank _ (headOk_kw "in" kw_in (' ' :: C))
  have hinT := lexToken_kw_blank "in" kw_in (' ' :: C) (nextOk_blank _)
  have hci : ∀ f, parseCaseIn (f + 1) (' ' :: ("in".toList ++ ' ' :: C)) = some (' ' :: C) := by
    intro f
    simp only [parseCaseIn, hsn, hinT, kwTok_isKw, decide_true, if_true]
  have hitems := parseCaseItems_rt pc t hn items ((' ' :: C).length + 2) (by rw [hC]; omega) h
  rw [← hC] at hitems
  have hes := expectKw_blank "esac" kw_esac t hn
  rw [hin]
  simp only [parseCompound, ht, kwTok_isKw, kwTok_isOp, String.reduceEq, decide_false, decide_true, Bool.false_eq_true, if_false, Bool.or_self,
    if_true, hsub, Token.isWord, Bool.not_true, hci, hitems, hes, Option.map_some]

end YashModel.Syntax
