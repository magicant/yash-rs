/-
  C06 — the vocabulary of the word-level statements, on the lexer alone.  Definitions only.
-/
import YashModel.Syntax.Lexer
namespace YashModel.Syntax

/-- the escape units the parser can produce: a literal is never a backslash; a control escape is
    `\c?` (0x7F) or `\c@` … `\c_` (0x00 … 0x1F) -/
def EscapeUnit.Producible : EscapeUnit → Prop
  | .literal c => c ≠ '\\'
  | .control b => b.toNat < 32 ∨ b.toNat = 127
  | _ => True

/-- characters that start something other than a literal inside a word -/
def isWordSpecial (c : Char) : Bool := c = '\\' || c = '\'' || c = '"' || c = '$' || c = '`'

/-- the word units of the flat fragment (a part of the full one, `WordUnit.Ok`), relative to the delimiter predicate in
    force -/
def WordUnit.Flat (d : Delim) : WordUnit → Prop
  | .unquoted (.literal c) => isWordSpecial c = false ∧ d.test c = false
  | .unquoted (.backslashed c) => c ≠ '\n'
  | .singleQuote s => '\'' ∉ s
  | .dollarSingleQuote es => ∀ u ∈ es, u.Producible ∧ u ≠ .literal '\''
  | _ => False

/-- conditions on the character that ends the word -/
def Delim.Ends (d : Delim) (c : Char) : Prop := d.test c = true ∧ isWordSpecial c = false

/-- first printed character of a unit: one of the five special characters or not a delimiter -/
def FirstOk (d : Delim) (y : Char) : Prop :=
  y = '\\' ∨ y = '$' ∨ y = '`' ∨ y = '\'' ∨ y = '"' ∨ d.test y = false

/-- conditions on the character that ends a text (`"` for the content of double quotes) -/
def Delim.TextEnds (d : Delim) (e : Char) : Prop :=
  d.test e = true ∧ e ≠ '\\' ∧ e ≠ '$' ∧ e ≠ '`'

/-- what ends a word: the end of input or a delimiter character (only the outermost list of word units can meet the
    end of input: inner lists end at `}` or `"`) -/
def Delim.EndsAt (d : Delim) (tail : List Char) : Prop := tail = [] ∨ ∃ e r, tail = e :: r ∧ d.Ends e

/-- the word whose units are the literal characters `s` (the digits of a file descriptor, a reserved word, a plain
    argument) -/
def digitsWord (s : List Char) : Word := s.map fun c => .unquoted (.literal c)

/-- a character that is a literal unit of a token word wherever it stands in the word -/
def plainTok (c : Char) : Bool :=
  c != '\\' && c != '$' && c != '`' && !(Delim.token.test c) && c != '"' && c != '\''

/-- `printWord w` joined by single blanks, as `impl Display for SimpleCommand` does for the words -/
def printWords (ws : List Word) : List Char := joinWith [' '] (ws.map printWord)

/-- a word of the flat fragment that is a non-empty plain token (no tilde expansion in front) -/
def Word.FlatArg (w : Word) : Prop :=
  (∀ u ∈ w, u.Flat .token) ∧ w ≠ [] ∧ w.head? ≠ some (.unquoted (.literal '~'))

end YashModel.Syntax
