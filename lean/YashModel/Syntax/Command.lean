/-
  C06 — `Parser::command` on printed text, case by case: a simple command (not taken for a function definition), a
  compound command with its redirections, `name() compound`, and the tokens at which no command starts.  The induction
  on the nesting depth that puts the cases together is in `Closed.lean`.
-/
import YashModel.Syntax.Simple
namespace YashModel.Syntax

/-- ★ command level: a simple command of the fragment is read by `Parser::command` as that simple command
    (it is not mistaken for a function definition `name ( )`). -/
theorem command_simple_roundtrip (n : Nat) (c : SimpleCommand) (tail : List Char) (ht : TailOk tail)
    (h : SimpleOk c tail) (sp : Bool) :
    parseCommand (n + 1) ((if sp then [' '] else []) ++ (printSimple c ++ tail)) =
      some (some (.simple c), tail) := by
  have hp := parseSimple_tail c tail ht h sp
    (((if sp then [' '] else []) ++ (printSimple c ++ tail)).length + 2) (by
      simp only [List.length_append]; omega)
  obtain ⟨t, r, hl, hs⟩ := tail_stops tail ht
  simp only [parseCommand, hp, hl, stops_not_lparen t hs]
  simp

/-- ★ command level: a compound command that reads back, followed by its printed redirections
    (`{ …; } >f 2>&1`), is read by `Parser::command` as the compound command with those redirections.
    `hstart` (the first token is a reserved word or `(`) is what makes `parseSimple` find no simple command there. -/
theorem compound_with_redirections_roundtrip (n : Nat) (c : CompoundCommand) (rs : List Redir)
    (tail : List Char) (ht : TailOk tail) (hrs : RedirsOk rs tail) (sp : Bool)
    (hstart : ∃ t r, lexToken ((if sp then [' '] else []) ++ (printCompound c ++ (printRedirsSp rs ++ tail))) =
      some (t, r) ∧ (t.id = .word true ∨ t.id = .op .openParen))
    (hc : parseCompound (parseCommand n)
        ((if sp then [' '] else []) ++ (printCompound c ++ (printRedirsSp rs ++ tail))) =
      some (some c, printRedirsSp rs ++ tail)) :
    parseCommand (n + 1) ((if sp then [' '] else []) ++ (printCommand (.compound c rs) ++ tail)) =
      some (some (.compound c rs), tail) := by
  obtain ⟨t, r, hl, hk⟩ := hstart
  have hin : printCommand (.compound c rs) ++ tail = printCompound c ++ (printRedirsSp rs ++ tail) := by
    simp [printCommand]
  have hs : parseSimple (((if sp then [' '] else []) ++
      (printCompound c ++ (printRedirsSp rs ++ tail))).length + 2)
      ((if sp then [' '] else []) ++ (printCompound c ++ (printRedirsSp rs ++ tail))) =
      some (none, (if sp then [' '] else []) ++ (printCompound c ++ (printRedirsSp rs ++ tail))) := by
    exact parseSimple_none _ t r hl (Or.inr hk) _ (by omega)
  have hr := parseRedirs_rt tail ht rs ((printRedirsSp rs ++ tail).length + 2)
    (by have := redirsSp_length rs tail; omega) hrs
  rw [hin]
  simp only [parseCommand, hs, parseFullCompound, hc, hr, Option.map_some]

/-- a function name: one plain word that is neither an assignment nor a reserved word -/
structure FnNameOk (name : Word) (next : List Char) : Prop where
  tok : TokWordOk name next
  noAssign : assignOf name = none
  noKw : isKeywordWord name = false
  noDollar : endsWithDollar name = false

theorem simpleOk_name (name : Word) (next : List Char) (h : FnNameOk name next) :
    SimpleOk ⟨[], [name], []⟩ next := by
  refine simpleOk_words [name] (by simp) next ?_
  simp only [wordPieces, List.map_cons, List.map_nil, PiecesOk, PieceOk, and_true]
  exact ⟨h.tok, fun _ => ⟨h.noAssign, fun e => by simp [h.noKw] at e⟩, fun e => by simp at e⟩

/-- ★ command level: `name() compound [redirections]` is read by `Parser::command` as that function definition
    (`FnNameOk`: the name is one plain word, not an assignment, not reserved, not ending in `$` — for such a
    name the printer writes no blank before `()`). -/
theorem function_roundtrip (n : Nat) (name : Word) (body : CompoundCommand) (rs : List Redir)
    (tail : List Char) (ht : TailOk tail) (hrs : RedirsOk rs tail)
    (hname : FnNameOk name ('(' :: ')' :: ' ' :: (printCompound body ++ (printRedirsSp rs ++ tail))))
    (hhead : HeadOk (printCompound body ++ (printRedirsSp rs ++ tail)))
    (hc : parseCompound (parseCommand n) (' ' :: (printCompound body ++ (printRedirsSp rs ++ tail))) =
      some (some body, printRedirsSp rs ++ tail)) (sp : Bool) :
    parseCommand (n + 1) ((if sp then [' '] else []) ++ (printCommand (.function false name body rs) ++ tail)) =
      some (some (.function false name body rs), tail) := by
  obtain ⟨X, hX⟩ : ∃ X, X = printCompound body ++ (printRedirsSp rs ++ tail) := ⟨_, rfl⟩
  rw [← hX] at hname hhead hc
  have hin : printCommand (.function false name body rs) ++ tail =
      printSimple ⟨[], [name], []⟩ ++ '(' :: ')' :: ' ' :: X := by
    have e1 : printSimple ⟨[], [name], []⟩ = printWord name := by
      simp [printSimple, joinWith]
    rw [e1, hX]
    simp [printCommand, hname.noDollar, str]
  have hs := parseSimple_stop ⟨[], [name], []⟩ _ (stopTail_paren (')' :: ' ' :: X)) (simpleOk_name name _ hname) sp
  have hlp : lexToken ('(' :: ')' :: ' ' :: X) = some (⟨[], .op .openParen⟩, ')' :: ' ' :: X) := by
    simpa using lexToken_lparen (')' :: ' ' :: X) false
  have hrp := lexToken_rparen (' ' :: X)
  have hsn := skipNewlines_blank X hhead
  have hr := parseRedirs_rt tail ht rs ((printRedirsSp rs ++ tail).length + 2)
    (by have := redirsSp_length rs tail; omega) hrs
  rw [hin]
  simp only [parseCommand]
  rw [hs _ (by simp only [List.length_append]; omega)]
  simp only [List.isEmpty_nil, List.length_singleton, hlp, Token.isOp, expectOp]
  simp only [decide_true, Bool.and_self, if_true, hrp, hsn, parseFullCompound, hc, hr, Option.map_some,
    List.headD_cons]

/-- the reserved words that open a command (or that the model does not parse) -/
def openers : List String :=
  ["{", "for", "while", "until", "if", "case", "function", "[[", "namespace", "select"]

/-- tokens at which no command starts: a reserved word that opens nothing, or a token that stops everything -/
def NoStart (t : Token) : Prop :=
  (t.id = .word true ∧ ∀ k ∈ openers, t.isKw k = false) ∨ Stops t

theorem parseCommand_none (n : Nat) (cs : List Char) (t : Token) (r : List Char)
    (hl : lexToken cs = some (t, r)) (h : NoStart t) :
    parseCommand (n + 1) cs = some (none, cs) := by
  have hs : parseSimple (cs.length + 2) cs = some (none, cs) :=
    parseSimple_none cs t r hl (h.elim (fun hk => Or.inr (Or.inl hk.1)) Or.inl) _ (by omega)
  have kws : ∀ k ∈ openers, t.isKw k = false := by
    rcases h with ⟨_, h⟩ | hk | ⟨o, hk, _⟩
    · exact h
    · intro k _; simp [Token.isKw, hk]
    · intro k _; simp [Token.isKw, hk]
  have hop : t.isOp .openParen = false := by
    rcases h with ⟨hk, _⟩ | hs
    · simp [Token.isOp, hk]
    · exact stops_not_lparen t hs
  simp only [openers, List.forall_mem_cons] at kws
  obtain ⟨k1, k2, k3, k4, k5, k6, k7, k8, k9, k10, _⟩ := kws
  have hc : parseCompound (parseCommand n) cs = some (none, cs) := by
    simp only [parseCompound, hl, k1, k2, k3, k4, k5, k6, hop, Bool.false_eq_true, if_false, Bool.or_self]
  simp only [parseCommand, hs, parseFullCompound, hc, hl, k7, k8, k9, k10, Bool.or_self, Bool.false_eq_true,
    if_false]

end YashModel.Syntax
