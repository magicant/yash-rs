/-
  C06 — redirections on printed text: the IO_NUMBER in front of the operator, ★ `redirection_roundtrip`, the redirections
  after a compound command.
-/
import YashModel.Syntax.Token
namespace YashModel.Syntax
open YashModel.Common

theorem digitChar_facts (d : Nat) (h : d < 10) :
    isAsciiDigit (Char.ofNat (48 + d)) = true ∧ (Char.ofNat (48 + d)).toNat - 48 = d :=
  (by decide : ∀ d : Fin 10, isAsciiDigit (Char.ofNat (48 + d.val)) = true ∧
    (Char.ofNat (48 + d.val)).toNat - 48 = d.val) ⟨d, h⟩

theorem digitsValue_append (s : List Char) (c : Char) :
    digitsValue (s ++ [c]) = digitsValue s * 10 + (c.toNat - 48) := by
  simp [digitsValue, List.foldl_append]

theorem natDigits_spec : ∀ fuel n, n < fuel →
    (natDigits fuel n).all isAsciiDigit = true ∧ digitsValue (natDigits fuel n) = n ∧
      natDigits fuel n ≠ [] := by
  intro fuel
  induction fuel with
  | zero => intro n h; omega
  | succ f ih =>
    intro n h
    by_cases h10 : n < 10
    · have := digitChar_facts n h10
      simp [natDigits, h10, this.1, digitsValue, this.2]
    · have hq : n / 10 < f := by omega
      obtain ⟨a1, a2, a3⟩ := ih (n / 10) hq
      have := digitChar_facts (n % 10) (Nat.mod_lt _ (by decide))
      simp only [natDigits, h10, if_false]
      refine ⟨by simp [List.all_append, a1, this.1], ?_, by simp⟩
      rw [digitsValue_append, a2, this.2]
      omega

theorem printNat_spec (n : Nat) :
    (printNat n).all isAsciiDigit = true ∧ digitsValue (printNat n) = n ∧ printNat n ≠ [] :=
  natDigits_spec (n + 1) n (Nat.lt_succ_self n)

theorem lexToken_op (c : Char) (body : List Char) (hc : c = '<' ∨ c = '>') (o : Op) (r : List Char)
    (ho : lexOperator (c :: body) = some (o, r)) (sp : Bool) :
    lexToken ((if sp then [' '] else []) ++ c :: body) = some (⟨[], .op o⟩, r) := by
  have hcb : c ≠ '\\' ∧ isBlank c = false ∧ c ≠ '#' := by
    rcases hc with e | e <;> subst e <;> exact ⟨by decide, by decide, by decide⟩
  exact lexToken_operator sp c body (skipLC_cons_ne c body hcb.1) hcb.2.1 hcb.2.2 o r ho

theorem printNat_tokWord (n : Nat) (next : List Char) : TokWordOk (digitsWord (printNat n)) next := by
  obtain ⟨d1, _, d3⟩ := printNat_spec n
  cases hp : printNat n with
  | nil => exact absurd hp d3
  | cons x xs =>
    rw [hp] at d1
    simp only [List.all_cons, Bool.and_eq_true] at d1
    exact litWord_tok x next (digit_plainTok x d1.1) xs (digits_plainTok xs d1.2)

/-- the digits of a file descriptor directly in front of `<` or `>` are an IO_NUMBER token, whose value is read back
    if it fits an `i32` -/
theorem lexToken_ioNumber (n : Nat) (c : Char) (body : List Char) (hc : c = '<' ∨ c = '>') (sp : Bool) :
    lexToken ((if sp then [' '] else []) ++ (printNat n ++ c :: body)) =
      some (⟨digitsWord (printNat n), .ioNumber⟩, c :: body) ∧
    fdOf (digitsWord (printNat n)) = if n ≤ 2147483647 then some n else none := by
  obtain ⟨d1, d2, d3⟩ := printNat_spec n
  have hcE : Delim.token.Ends c := by
    rcases hc with e | e <;> subst e <;> exact ⟨by decide, by decide⟩
  have ht := lexToken_word_gen (digitsWord (printNat n)) (c :: body) (printNat_tokWord n _)
    (Or.inr ⟨c, body, rfl, hcE⟩) sp
  rw [printWord_digitsWord] at ht
  have hna : nextIsAngle (c :: body) = true := by
    rcases hc with e | e <;> subst e <;> simp [nextIsAngle, skipLC_cons_ne]
  have hwe : (digitsWord (printNat n)).isEmpty = false :=
    List.isEmpty_eq_false_iff.mpr (printNat_tokWord n []).nonempty
  have hid : tokenId (digitsWord (printNat n)) (c :: body) = .ioNumber := by
    simp [tokenId, hwe, wordLiteral_digitsWord, isKeyword_digits _ d1, d1, hna]
  rw [ht, hid]
  exact ⟨rfl, by simp [fdOf, wordLiteral_digitsWord, d2]⟩

theorem parseRedir_fd (fd : Option Nat) (hfd : FdOk fd) (c : Char) (body : List Char)
    (hc : c = '<' ∨ c = '>') (o : Op) (r : List Char) (ho : lexOperator (c :: body) = some (o, r))
    (sp : Bool) :
    parseRedir ((if sp then [' '] else []) ++ (printFd fd ++ c :: body)) =
      parseRedirBody fd ((if fd.isSome then [] else if sp then [' '] else []) ++ c :: body) := by
  cases fd with
  | none =>
    simp only [printFd, List.nil_append, Option.isSome_none, Bool.false_eq_true, if_false]
    unfold parseRedir
    rw [lexToken_op c body hc o r ho sp]
  | some n =>
    have hn : n ≤ 2147483647 := hfd
    obtain ⟨ht, hfd⟩ := lexToken_ioNumber n c body hc sp
    simp only [printFd, Option.isSome_some, if_true, List.nil_append]
    unfold parseRedir
    rw [ht]
    simp [hfd, hn]

theorem redirOp_str_head (op : RedirOp) :
    ∃ c tl, op.str = c :: tl ∧ (c = '<' ∨ c = '>') := by
  cases op <;> simp [RedirOp.str]

theorem parseOperand_word (w : Word) (next : List Char) (hw : TokWordOk w next) (hn : NextOk next)
    (sp : Bool) :
    parseOperand ((if sp then [' '] else []) ++ (printWord w ++ next)) = some (w, next) := by
  unfold parseOperand
  rw [token_roundtrip w next hw hn sp]

theorem parseRedirBody_normal (fd : Option Nat) (op : RedirOp) (w : Word) (next : List Char)
    (hw : TokWordOk w next) (hn : NextOk next) (sp : Bool) :
    parseRedirBody fd ((if sp then [' '] else []) ++ (op.str ++ (printWord w ++ next))) =
      some (some (.normal fd op w), next) := by
  obtain ⟨y, t, e, hy, _, _, hk⟩ := tokWord_head w next hw
  obtain ⟨c, tl, ec, hc⟩ := redirOp_str_head op
  have ho : lexOperator (op.str ++ y :: (t ++ next)) = some (opOfRedirOp op, y :: (t ++ next)) :=
    lexOperator_redirOp op y _ (by simpa using hk next) hy
  have hin : op.str ++ (printWord w ++ next) = c :: (tl ++ y :: (t ++ next)) := by simp [ec, e]
  rw [ec] at ho
  have hop := parseOperand_word w next hw hn false
  simp only [Bool.false_eq_true, if_false, List.nil_append, e] at hop
  unfold parseRedirBody
  rw [hin, lexToken_op c _ hc _ _ (by simpa using ho) sp]
  simp only [redirOpOf_opOf]
  simp only [List.cons_append] at hop
  rw [hop]
  rfl

/-- ★ A redirection `[n]op word` (any of the nine operators, with or without a file descriptor number,
    which is recognised as an IO_NUMBER because the operator follows it immediately) prints as text that
    `Parser::redirection` reads back as the same redirection. -/
theorem redirection_roundtrip (fd : Option Nat) (hfd : FdOk fd) (op : RedirOp) (w : Word)
    (next : List Char) (hw : TokWordOk w next) (hn : NextOk next) (sp : Bool) :
    parseRedir ((if sp then [' '] else []) ++ (printRedir (.normal fd op w) ++ next)) =
      some (some (.normal fd op w), next) := by
  obtain ⟨y, t, e, hy, _, _, hk⟩ := tokWord_head w next hw
  obtain ⟨c, tl, ec, hc⟩ := redirOp_str_head op
  have ho : lexOperator (op.str ++ y :: (t ++ next)) = some (opOfRedirOp op, y :: (t ++ next)) :=
    lexOperator_redirOp op y _ (by simpa using hk next) hy
  rw [ec] at ho
  have hin : printRedir (.normal fd op w) ++ next = printFd fd ++ c :: (tl ++ (printWord w ++ next)) := by
    simp [printRedir, ec]
  rw [hin, parseRedir_fd fd hfd c _ hc (opOfRedirOp op) (y :: (t ++ next)) (by simpa [e] using ho) sp]
  have := parseRedirBody_normal fd op w next hw hn (if fd.isSome then false else sp)
  rw [ec] at this
  cases hfs : fd.isSome <;> simp [hfs] at this ⊢ <;> exact this

theorem parseRedirBody_plain (fd : Option Nat) (cs : List Char) (o : Op) (r : List Char)
    (h : lexToken cs = some (⟨[], .op o⟩, r)) (hp : o.plain = true) :
    parseRedirBody fd cs = some (none, cs) := by
  obtain ⟨p1, p2, p3, p4, p5, _⟩ := o.plain_facts hp
  simp [parseRedirBody, h, p1, p2, p3, p4, p5]

theorem parseRedir_stops (cs : List Char) (t : Token) (r : List Char) (hl : lexToken cs = some (t, r))
    (h : Stops t ∨ (∃ kw, t.id = .word kw) ∨ t.id = .op .openParen) : parseRedir cs = some (none, cs) := by
  unfold parseRedir
  rw [hl]
  rcases h with (hk | ⟨o, hk, hp⟩) | ⟨kw, hk⟩ | hk <;> simp only [hk] <;> unfold parseRedirBody <;> rw [hl] <;>
    simp only [hk]
  · obtain ⟨p1, p2, p3, p4, p5, _⟩ := o.plain_facts hp
    simp [p1, p2, p3, p4, p5]
  · simp [redirOpOf]

theorem parseRedir_word (w : Word) (next : List Char) (hw : TokWordOk w next) (hn : NextOk next)
    (sp : Bool) :
    parseRedir ((if sp then [' '] else []) ++ (printWord w ++ next)) =
      some (none, (if sp then [' '] else []) ++ (printWord w ++ next)) :=
  parseRedir_stops _ _ _ (token_roundtrip w next hw hn sp) (.inr (.inl ⟨_, rfl⟩))

theorem parseRedir_tail (tail : List Char) (h : TailOk tail) : parseRedir tail = some (none, tail) := by
  obtain ⟨t, r, hl, hs⟩ := tail_stops tail h
  exact parseRedir_stops tail t r hl (Or.inl hs)

theorem nextOk_redirsSp (rs : List Redir) (tail : List Char) (ht : TailOk tail) :
    NextOk (printRedirsSp rs ++ tail) := by
  cases rs with
  | nil => simpa [printRedirsSp] using nextOk_tail tail ht
  | cons r rs =>
    simpa [printRedirsSp] using nextOk_blank (printRedir r ++ (printRedirsSp rs ++ tail))

theorem parseRedirs_rt (tail : List Char) (ht : TailOk tail) :
    ∀ (rs : List Redir) (fuel : Nat), rs.length + 1 ≤ fuel → RedirsOk rs tail →
      parseRedirs fuel (printRedirsSp rs ++ tail) = some (rs, tail) :=
  listLoop_rt parseRedirs (printRedirsSp · ++ tail) (·, tail) (RedirsOk · tail)
    (fun r rs h => by
      cases r with
      | hereDoc fd rt w => exact absurd h (by simp [RedirsOk])
      | normal fd op w => exact h.2.2)
    (fun k => by simp [printRedirsSp, parseRedirs, parseRedir_tail tail ht])
    (fun k r rs h ih' => by
      cases r with
      | hereDoc fd rt w => exact absurd h (by simp [RedirsOk])
      | normal fd op w =>
        obtain ⟨h1, h2, _⟩ := h
        have hr := redirection_roundtrip fd h1 op w _ h2 (nextOk_redirsSp rs tail ht) true
        simp only [if_true, List.singleton_append] at hr
        simp only [printRedirsSp, List.cons_append, List.append_assoc, parseRedirs, hr, ih'])

theorem redirsSp_length (rs : List Redir) (tail : List Char) :
    rs.length ≤ (printRedirsSp rs ++ tail).length :=
  length_le_text List.length (printRedirsSp · ++ tail)
    (fun r rs => by simp only [printRedirsSp, List.cons_append, List.length_cons, List.length_append]; omega) rs

/-- the boundary of `FdOk` in `redirection_roundtrip`: an IO_NUMBER above `i32::MAX` in front of `<` or `>` is
    the syntax error `FdOutOfRange`, whatever follows -/
theorem redirection_fd_out_of_range (n : Nat) (hn : 2147483647 < n) (c : Char) (body : List Char)
    (hc : c = '<' ∨ c = '>') (sp : Bool) :
    parseRedir ((if sp then [' '] else []) ++ (printNat n ++ c :: body)) = none := by
  obtain ⟨ht, hfd⟩ := lexToken_ioNumber n c body hc sp
  unfold parseRedir
  rw [ht]
  simp only [hfd]
  rw [if_neg (by omega)]

end YashModel.Syntax
