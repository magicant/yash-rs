/-
  C06 — whole programs (★ `structure_roundtrip`), command lines and scripts (★ `script_roundtrip`) up to a newline or the
  end of input, and the fuel of the line loop.
-/
import YashModel.Syntax.Closed
namespace YashModel.Syntax
open YashModel.Common

/-! ## What a list of a program, a line or a script ends at: `)`, a newline, the end of input -/

theorem lexToken_nl (x : List Char) : lexToken ('\n' :: x) = some (⟨[], .op .newline⟩, x) :=
  lexToken_opText .newline x (Or.inl rfl) false

theorem ends_nl (x : List Char) : EndsWithout ('\n' :: x) contOps :=
  endsWithout_of _ (tailOk_cons '\n' x (by decide)) _ _ (lexToken_nl x) contOps
    (by decide)

theorem closedTail_nl (pc : CmdParser) (hnone : PcNone pc) (x : List Char) : ClosedTail pc false ('\n' :: x) :=
  closedTail_at pc hnone false _ _ _ (lexToken_nl x) (Or.inr (Or.inr ⟨.newline, rfl, by decide⟩)) rfl ⟨rfl, rfl⟩
    (opStops_of_head _ _ _ (by decide) (by decide)) (fun h => Bool.noConfusion h) (fun _ => ends_nl x)

theorem ends_eof : EndsWithout [] contOps := by
  refine ⟨Or.inl rfl, ?_⟩
  intro o r h
  rw [lexToken_eof] at h
  cases h

theorem closedTail_eof (n : Nat) : ClosedTail (parseCommand (n + 1)) false [] ∧ CloserAt [] :=
  ⟨closedTail_at _ (parseCommand_none n) false [] _ _ lexToken_eof (Or.inr (Or.inl rfl)) rfl ⟨rfl, rfl⟩
    (opStops_nil _) (fun h => Bool.noConfusion h) (fun _ => ends_eof),
    ⟨_, _, lexToken_eof, by simp [Token.isOp], by simp [Token.isClauseDelimiter]⟩⟩

/-! ## Whole programs -/

/-- `parseProgram` on a printed list of the closed fragment in front of any text at which a list ends (`ClosedTail`) with
    a clause delimiter: the nesting budget taken from the input length covers the depth of the list (`ldepth_le`) -/
theorem program_at (l : List Item) (tail : List Char) (ht : ∀ n, ClosedTail (parseCommand (n + 1)) false tail)
    (hc : CloserAt tail) (h : ItemsOk false l tail) :
    parseProgram (printList false l ++ tail) = some (l, tail) := by
  unfold parseProgram
  have hd := ldepth_le false l
  have hl := closed_listRT _ ((printList false l ++ tail).length + 1) (parseCommand_pcOk _) false l tail (ht _) hc h
    (by simp only [List.length_append]; omega)
  simpa using hl false (fun _ => rfl) ((printList false l ++ tail).length + 2) (by omega)

/-- ★ The round trip of whole programs, for the closed fragment of the modelled grammar.
    `ProgramOk l rest` is the closed fragment predicate on whole command trees (`Closed.lean`): every leaf is a
    simple command of the proved fragment (`SimpleOk`: its words satisfy the word-level side conditions) in
    front of a command tail, every node is a pipeline (with or without `!`), an and-or list, a `;`/`&` list, a
    brace group, a subshell, a `while`/`until` loop, an `if` command with any number of `elif`s and an
    optional `else`, a `for` loop with or without `in words;`, a `case` command (patterns joined by `|`, empty
    or non-empty bodies, the three terminators) or a function definition `name() compound`; compound
    commands and function bodies may carry redirections; nesting is unbounded.  Outside (not in the models):
    here-documents, command substitutions / arithmetic / tildes / stray `$` and `\\` in words
    (so a function name never ends in `$` here), the `function` keyword form.  For every such
    program, printing it and parsing the text with the whole model parser (`parseProgram` =
    `maybe_compound_list` over `Parser::command`, nesting budget taken from the input length) gives the
    program back, unconditionally; the closing `)` stands for whatever ends the list (as inside `$(…)`). -/
theorem structure_roundtrip (l : List Item) (rest : List Char) (h : ProgramOk l rest) :
    parseProgram (printList false l ++ ')' :: rest) = some (l, ')' :: rest) :=
  program_at l _ (fun n => (closedTail_rparen _ (parseCommand_none n) rest).1)
    (closedTail_rparen _ (parseCommand_none 0) rest).2 h

/-- programs of the closed fragment that the end of input follows directly -/
def ProgramEofOk (l : List Item) : Prop := ItemsOk false l []

/-- ★ `structure_roundtrip` with the real end of input: for every program of the closed fragment (with
    the empty tail threaded through every node) `parseProgram (printList l) = some (l, [])` — the printed text,
    WITHOUT a final newline or `)`, is read back as the same tree. -/
theorem structure_roundtrip_at_end_of_input (l : List Item) (h : ProgramEofOk l) :
    parseProgram (printList false l) = some (l, []) := by
  simpa using program_at l [] (fun n => (closedTail_eof n).1) (closedTail_eof 0).2 h

/-! ## Command lines -/

/-- a line of the closed fragment: the items of a list that a newline follows -/
def LineOk (l : List Item) (rest : List Char) : Prop := ItemsOk false l ('\n' :: rest)

/-- `Parser::command_line` on a printed list of the closed fragment: the list is read back up to `tail`, and the token
    found there decides (newline, end of input, or the trailing-token error) -/
theorem commandLine_at (n : Nat) (l : List Item) (tail : List Char)
    (ht : ClosedTail (parseCommand (n + 1)) false tail) (h : ItemsOk false l tail) (hd : ldepth l ≤ n) :
    parseCommandLine (parseCommand (n + 1)) (printList false l ++ tail) =
      match lexToken tail with
      | none => none
      | some (t, r') =>
        if t.isOp .newline then some (some l, r')
        else if t.id = .endOfInput then (if l.isEmpty then some (none, tail) else some (some l, tail))
        else none := by
  have hl := parseList_rt _ false _ ht.listEnd l _ false (Nat.le_refl _)
    (closed_items_rt _ n (parseCommand_pcOk n) false _ ht l h hd) (fun _ => rfl)
  rw [← printList_eq] at hl
  simp only [Bool.false_eq_true, if_false, List.nil_append] at hl
  unfold parseCommandLine
  rw [hl]
  rfl

theorem commandLine_rt (n : Nat) (l : List Item) (rest : List Char) (h : LineOk l rest) (hd : ldepth l ≤ n) :
    parseCommandLine (parseCommand (n + 1)) (printList false l ++ '\n' :: rest) = some (some l, rest) := by
  rw [commandLine_at n l _ (closedTail_nl _ (parseCommand_none n) rest) h hd]
  simp [lexToken_nl, Token.isOp]

theorem commandLine_eof (n : Nat) : parseCommandLine (parseCommand (n + 1)) [] = some (none, []) := by
  rfl

theorem commandLine_eof_rt (n : Nat) (l : List Item) (hne : l ≠ []) (h : ProgramEofOk l) (hd : ldepth l ≤ n) :
    parseCommandLine (parseCommand (n + 1)) (printList false l) = some (some l, []) := by
  have := commandLine_at n l [] (closedTail_eof n).1 h hd
  rw [List.append_nil] at this
  rw [this]
  cases l with
  | nil => exact absurd rfl hne
  | cons _ _ => simp [lexToken_eof, Token.isOp]

/-- a command line must not end in front of a `)`: `UnopenedSubshell` -/
theorem commandLine_rparen (n : Nat) (l : List Item) (rest : List Char) (h : ProgramOk l rest) (hd : ldepth l ≤ n) :
    parseCommandLine (parseCommand (n + 1)) (printList false l ++ ')' :: rest) = none := by
  rw [commandLine_at n l _ (closedTail_rparen _ (parseCommand_none n) rest).1 h hd]
  simp [lexToken_rparen, Token.isOp]

/-! ## Scripts: command lines up to the end of input -/

/-- the text of a script: every line printed and ended by a newline -/
def scriptText : List (List Item) → List Char
  | [] => []
  | l :: ls => printList false l ++ '\n' :: scriptText ls

/-- scripts of the closed fragment -/
def ScriptOk : List (List Item) → Prop
  | [] => True
  | l :: ls => LineOk l (scriptText ls) ∧ ScriptOk ls

/-- the text of a script whose last line `l` is not ended by a newline -/
def scriptTextLast : List (List Item) → List Item → List Char
  | [], l => printList false l
  | x :: ls, l => printList false x ++ '\n' :: scriptTextLast ls l

/-- scripts of the closed fragment whose last line the end of input follows directly -/
def ScriptLastOk : List (List Item) → List Item → Prop
  | [], l => ProgramEofOk l
  | x :: ls, l => LineOk x (scriptTextLast ls l) ∧ ScriptLastOk ls l

theorem scriptLastOk_last (l : List Item) : ∀ ls, ScriptLastOk ls l → ProgramEofOk l
  | [], h => h
  | _ :: ls, h => scriptLastOk_last l ls h.2

/-! A script that ends with the newline of its last line is the script whose last line, the one no newline ends, is
empty: the two script theorems are one statement about the line loop (`lines_last_rt`). -/

theorem scriptTextLast_nil : ∀ ls, scriptTextLast ls [] = scriptText ls
  | [] => rfl
  | x :: ls => by rw [scriptTextLast, scriptText, scriptTextLast_nil ls]

theorem scriptOk_last : ∀ ls, ScriptOk ls → ScriptLastOk ls []
  | [], _ => trivial
  | x :: ls, h => ⟨by rw [scriptTextLast_nil]; exact h.1, scriptOk_last ls h.2⟩

/-- The line loop reads a script back whose last line `l` no newline ends: the lines, and `l` unless it is empty (at the
    end of input `Parser::command_line` answers `Ok(None)` when it has read nothing).  A non-empty last line takes two
    rounds of the loop (the line, then the end of input): the loop with one round in hand. -/
theorem lines_last_rt (n : Nat) (l : List Item) (hdl : ldepth l ≤ n) :
    ∀ ls : List (List Item), ScriptLastOk ls l → (∀ x ∈ ls, ldepth x ≤ n) →
    ∀ fuel, (scriptTextLast ls l).length + 1 ≤ fuel →
      parseLines (parseCommand (n + 1)) (fuel + 1) (scriptTextLast ls l) = some (ls ++ if l = [] then [] else [l]) :=
  fun ls h hd fuel hf =>
  listLoop_text (fun k => parseLines (parseCommand (n + 1)) (k + 1)) (scriptTextLast · l)
    (· ++ if l = [] then [] else [l])
    (fun ls => ScriptLastOk ls l ∧ ∀ x ∈ ls, ldepth x ≤ n) List.length
    (fun x ls => by simp only [scriptTextLast, List.length_cons, List.length_append]; omega)
    (fun _ _ h => ⟨h.1.2, fun x hx => h.2 x (List.mem_cons_of_mem _ hx)⟩)
    (fun k => by
      by_cases hne : l = []
      · subst hne
        simp only [scriptTextLast, printList, parseLines, commandLine_eof, if_true, List.append_nil]
      · have h1 := commandLine_eof_rt n l hne (scriptLastOk_last l ls h) hdl
        simp only [scriptTextLast, parseLines, h1, commandLine_eof, Option.map_some, List.nil_append, if_neg hne])
    (fun k x ls h h2 => by
      have h1 := commandLine_rt n x (scriptTextLast ls l) h.1.1 (h.2 x (List.mem_cons_self ..))
      show parseLines _ (k + 1 + 1) (scriptTextLast (x :: ls) l) = _
      rw [scriptTextLast, parseLines, h1]
      simp only [h2, Option.map_some, List.cons_append])
    ls fuel hf ⟨h, hd⟩

/-- the budgets `parseScript` takes from the length of the text cover the depth of every line -/
theorem scriptTextLast_length (ls : List (List Item)) (l : List Item) :
    (printList false l).length ≤ (scriptTextLast ls l).length ∧
    ∀ x ∈ ls, ldepth x ≤ (scriptTextLast ls l).length := by
  induction ls with
  | nil => simp [scriptTextLast]
  | cons y ls ih =>
    obtain ⟨i2, i3⟩ := ih
    simp only [scriptTextLast, List.length_cons, List.length_append]
    refine ⟨by omega, ?_⟩
    intro x hx
    rcases List.mem_cons.mp hx with rfl | hm
    · have := ldepth_le false x; omega
    · have := i3 x hm; omega

theorem parseScript_last (ls : List (List Item)) (l : List Item) (h : ScriptLastOk ls l) :
    parseScript (scriptTextLast ls l) = some (ls ++ if l = [] then [] else [l]) := by
  unfold parseScript
  obtain ⟨i2, i3⟩ := scriptTextLast_length ls l
  have hl := ldepth_le false l
  exact lines_last_rt _ l (by omega) ls h (fun x hx => by have := i3 x hx; omega) _ (Nat.le_refl _)

/-- ★ a script whose last line is not ended by a newline is read back line by line up to the end of input -/
theorem script_roundtrip_unterminated (ls : List (List Item)) (l : List Item) (hne : l ≠ [])
    (h : ScriptLastOk ls l) : parseScript (scriptTextLast ls l) = some (ls ++ [l]) := by
  rw [parseScript_last ls l h, if_neg hne]

/-- ★ A script — every list printed on its own line — is read back line by line as those lists, up to the real
    end of input, with the nesting budget and the loop fuel taken from the input length as the driver does. -/
theorem script_roundtrip (ls : List (List Item)) (h : ScriptOk ls) : parseScript (scriptText ls) = some ls := by
  rw [← scriptTextLast_nil, parseScript_last ls [] (scriptOk_last ls h), if_pos rfl, List.append_nil]

/-! ## Fuel -/

/-- every accepted command line consumes at least one character -/
def LineProgress (pc : CmdParser) : Prop :=
  ∀ cs l r, parseCommandLine pc cs = some (some l, r) → r.length < cs.length

/-- the line loop never runs out of fuel once the fuel exceeds the input length: more fuel changes nothing -/
theorem parseLines_fuel_stable (pc : CmdParser) (hp : LineProgress pc) :
    ∀ (n : Nat) (cs : List Char) (f1 f2 : Nat), cs.length ≤ n → n + 1 ≤ f1 → n + 1 ≤ f2 →
      parseLines pc f1 cs = parseLines pc f2 cs :=
  fuel_stable (parseLines pc) List.length (fun n m cs ih => by
    simp only [parseLines]
    cases h : parseCommandLine pc cs with
    | none => rfl
    | some p =>
      obtain ⟨o, r⟩ := p
      cases o with
      | none => rfl
      | some l => simp only []; rw [ih r (hp cs l r h)])

end YashModel.Syntax
