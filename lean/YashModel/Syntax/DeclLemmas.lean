/-
  C06 — lemmas about the declaration-utility decision of `simple_command` (`Decl.lean`).
-/
import YashModel.Syntax.Decl
namespace YashModel.Syntax
open YashModel.Generated

theorem declLoop_eq_wordModes (g : Glossary) : ∀ (items : List SItem) (st : Option Bool),
    declLoop g st items = wordModes g st (items.filterMap SItem.word?) := by
  intro items
  induction items with
  | nil => intro st; cases st <;> rfl
  | cons i is ih =>
    intro st
    cases i with
    | redir => cases st <;> simp [declLoop, List.filterMap_cons, SItem.word?, ih]
    | assign => cases st <;> simp [declLoop, List.filterMap_cons, SItem.word?, ih]
    | word w =>
      cases st with
      | none => simp [declLoop, wordModes, SItem.word?, ih]
      | some d => simp [declLoop, wordModes, SItem.word?, ih]

/-- the words among the items of a printed simple command, in either print order (assignments, words, redirections;
    redirections, words), are its words -/
theorem filterMap_printed (k m : Nat) (ws : List Word) :
    ((List.replicate k SItem.assign ++ ws.map SItem.word ++ List.replicate m SItem.redir).filterMap SItem.word?) = ws ∧
    ((List.replicate m SItem.redir ++ ws.map SItem.word).filterMap SItem.word?) = ws := by
  have h1 : ∀ n, (List.replicate n SItem.assign).filterMap SItem.word? = [] := by
    intro n; induction n <;> simp_all [List.replicate_succ, SItem.word?]
  have h2 : ∀ n, (List.replicate n SItem.redir).filterMap SItem.word? = [] := by
    intro n; induction n <;> simp_all [List.replicate_succ, SItem.word?]
  have h3 : (ws.map SItem.word).filterMap SItem.word? = ws := by
    induction ws <;> simp_all [SItem.word?]
  simp [List.filterMap_append, h1, h2, h3]

/-- the glossary of `List::from_str` as the sources define it: `export`, `readonly` are declaration
    utilities, `command` defers to the next word, every other name is none -/
theorem posixGlossary_is_table :
    posixGlossary "export".toList = some true ∧ posixGlossary "readonly".toList = some true ∧
    posixGlossary "command".toList = none ∧
    ∀ s : List Char, s ≠ "export".toList → s ≠ "readonly".toList → s ≠ "command".toList →
      posixGlossary s = some false := by
  refine ⟨by decide +kernel, by decide +kernel, by decide +kernel, ?_⟩
  intro s h1 h2 h3
  have e1 : ("command".toList == s) = false := by simpa using fun e => h3 e.symm
  have e2 : ("export".toList == s) = false := by simpa using fun e => h1 e.symm
  have e3 : ("readonly".toList == s) = false := by simpa using fun e => h2 e.symm
  simp only [posixGlossary, SyntaxTables.posixGlossary, List.find?, e1, e2, e3, SyntaxTables.posixGlossaryDefault]
  decide

end YashModel.Syntax
