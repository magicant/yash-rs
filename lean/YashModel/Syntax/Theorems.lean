/-
  C06 — property theorems (the theorem half of the partial claim; totality of the Rust parser and the
  full grammar are carried by the correspondence run of `harness/src/bin/c06.rs`), the example programs and their
  non-vacuity proofs.
-/
import YashModel.Common.Strings
import YashModel.Syntax.Script
import YashModel.Syntax.Plain
import YashModel.Syntax.Instances
import YashModel.Syntax.Tables
import YashModel.Syntax.DeclLemmas
namespace YashModel.Syntax
open YashModel.Common

example : (EscapeUnit.control 0x1C).Producible := Or.inl (by decide)
example : lexEscape (printEscape (.control 0x1C) ++ ['\\', 'c', '\\', '\\']) =
    some (.control 0x1C, ['\\', 'c', '\\', '\\']) := by decide +kernel
example : lexEscape (printEscape (.unicode '😀') ++ ['A']) = some (.unicode '😀', ['A']) := by decide +kernel

example : lexEscape "\\U0000D800".toList = none := by decide +kernel
example : lexEscape "\\Udfff".toList = none := by decide +kernel
example : lexEscape "\\U0000D7FF'".toList = some (.unicode (Char.ofNat 0xD7FF), ['\'']) := by decide +kernel
example : lexEscape "\\U00110000".toList = none := by decide +kernel

/-- `${x:-"a$y"}$z` followed by a blank -/
example (rest : List Char) : WordUnits.Ok .word .token
    [.unquoted (.bracedParam ['x'] (.switch true .default
        [.doubleQuote [.literal 'a', .rawParam ['y']]])),
     .unquoted (.rawParam ['z'])] (' ' :: rest) := by
  simp only [WordUnits.Ok, WordUnit.Ok, TextUnit.Ok, Modifier.Ok, TextUnits.Ok, UnquotedOk, and_true]
  and_intros
  all_goals first
    | decide
    | trivial
    | exact ⟨'x', [], rfl, Or.inl ⟨by decide, by decide, by decide⟩⟩
    | exact ⟨'y', [], rfl, Or.inr ⟨by decide, by decide, by decide, by decide,
        headNotName_of _ _ (by decide) (by decide)⟩⟩
    | exact ⟨'z', [], rfl, Or.inr ⟨by decide, by decide, by decide, by decide,
        headNotName_of _ _ (by decide) (by decide)⟩⟩
    | (intro _; simp [NoTildeFront])
    | (intro h; simp at h)

/-- the content of double quotes is self-delimiting as words are (`word_self_delimiting` in `Word.lean`): `Lexer::text`
    with `"` as the delimiter reads a printed text back in front of the closing quote -/
theorem text_self_delimiting (t : List TextUnit) (rest : List Char)
    (h : TextUnits.Ok .text .dquote t ('"' :: rest)) :
    lexTextUnits ((printText t).length + 4) .dquote (printText t ++ '"' :: rest) =
      some (t, '"' :: rest) :=
  (lex_all _).2.2.1 .dquote t '"' rest h dquote_textEnds (Nat.le_refl _)

/-- words of the flat fragment are self-delimiting inside `${…}`, where only `}` delimits (the words of switch and trim
    modifiers) -/
theorem word_self_delimiting_in_braces_partial (w : Word) (h : ∀ u ∈ w, u.Flat .brace)
    (rest : List Char) :
    lexWord .brace (printWord w ++ '}' :: rest) = some (w, '}' :: rest) :=
  word_self_delimiting .brace w '}' rest (flat_word_ok _ w h _) brace_ends

example : ∀ u ∈ ([.unquoted (.literal 'a'), .unquoted (.backslashed ' '), .singleQuote ['$', 'x'],
    .dollarSingleQuote [.control 0x1C, .literal 'z', .octal 7]] : Word), u.Flat .token := by
  intro u hu
  simp at hu
  rcases hu with rfl | rfl | rfl | rfl
  · exact ⟨by decide, by decide⟩
  · show ' ' ≠ '\n'; decide
  · show '\'' ∉ ['$', 'x']; decide
  · intro v hv
    simp at hv
    rcases hv with rfl | rfl | rfl
    · exact ⟨Or.inl (by decide), by simp⟩
    · exact ⟨by show 'z' ≠ '\\'; decide, by simp⟩
    · exact ⟨trivial, by simp⟩
example : Delim.token.Ends ';' := ⟨by decide, by decide⟩
example : Delim.token.Ends ' ' := ⟨by decide, by decide⟩

/-- ★ (partial) A simple command made of argument words of the flat fragment prints as its words
    separated by single blanks, and reading word tokens from that text (skip blanks, `word`,
    `parse_tilde_front`) up to the terminating operator character `c` gives exactly the words back. -/
theorem simple_command_roundtrip_partial (ws : List Word) (h : ∀ w ∈ ws, w.FlatArg) (c : Char)
    (hc : Delim.token.Ends c) (hb : isBlank c = false) (rest : List Char) :
    lexWords (ws.length + 1) (printSimple ⟨[], ws, []⟩ ++ c :: rest) = some (ws, c :: rest) := by
  have hp : printSimple ⟨[], ws, []⟩ = printWords ws := by
    simp [printSimple, printWords]
  rw [hp]
  have := lexWords_print c hc hb rest ws h false (ws.length + 1) (Nat.le_refl _)
  simpa using this

example : Word.FlatArg [.unquoted (.literal 'e'), .unquoted (.backslashed '~'), .singleQuote ['a', ' ']] := by
  refine ⟨?_, by simp, by simp⟩
  intro u hu
  simp at hu
  rcases hu with rfl | rfl | rfl
  · exact ⟨by decide, by decide⟩
  · show '~' ≠ '\n'; decide
  · show '\'' ∉ ['a', ' ']; decide
example : Delim.token.Ends ';' ∧ isBlank ';' = false := ⟨⟨by decide, by decide⟩, by decide⟩

/-- `>f if` followed by `;`: the reserved word is printed after the redirection and reads back -/
example (rest : List Char) :
    PiecesOk ⟨[], [], []⟩ (simplePieces [] [digitsWord ['i', 'f']] [(none, .fileOut, digitsWord ['f'])])
      (';' :: rest) := by
  have hp : simplePieces [] [digitsWord ['i', 'f']] [(none, .fileOut, digitsWord ['f'])] =
      [.redir none .fileOut (digitsWord ['f']), .word (digitsWord ['i', 'f'])] := by
    have hk : firstWordIsKeyword (mkSimple [] [digitsWord ['i', 'f']] [(none, .fileOut, digitsWord ['f'])]) = true := by decide
    simp [simplePieces, mkSimple, assignPieces, wordPieces, redirPieces]
    exact hk
  rw [hp]
  refine ⟨⟨trivial, litWord_tok 'f' _ (by decide) [] (by simp)⟩, ⟨litWord_tok 'i' _ (by decide) ['f'] (by decide), ?_, ?_⟩, trivial⟩
  · intro _
    exact ⟨by decide, fun _ => by decide⟩
  · intro h; exact absurd rfl h

example : TermOk ';' := Or.inl rfl
example : FdOk (some 2) := by show 2 ≤ 2147483647; decide

/-! ## The command structure (`structure_roundtrip`, layer by layer)

  The parsers of pipelines, and-or lists and lists are written over an abstract command parser `pc`
  (`Structure.lean`); each layer is proved from the round trip of the layer below (`CmdRT`, `PipeRT`,
  `AndOrRT`: "the sub-tree, printed in its place, is read back as itself"), i.e. assuming the leaves
  round-trip. -/

/-- ★ layer 0: a simple command of the fragment reads back in front of every command tail (an optional
    blank and one of `;` `&` `|` `)` newline — hence also in front of ` | `, ` && `, ` || `, `;;`). -/
theorem simple_command_roundtrip_tail (c : SimpleCommand) (tail : List Char) (ht : TailOk tail)
    (h : SimpleOk c tail) (sp : Bool) (fuel : Nat) (hf : (printSimple c).length + 2 ≤ fuel) :
    parseSimple fuel ((if sp then [' '] else []) ++ (printSimple c ++ tail)) = some (some c, tail) :=
  parseSimple_tail c tail ht h sp fuel hf

/-- ★ layer 3: a list of `;` / `&` items, printed with (`alt`) or without the final terminator, whose
    and-or lists read back in their places reads back through `maybe_compound_list`, when a clause
    delimiter follows at which no command starts. -/
theorem list_roundtrip (pc : CmdParser) (alt : Bool) (l : List Item) (tail : List Char)
    (he : ListEnd pc alt tail) (hc : CloserAt tail) (h : ItemsRT pc alt l tail) (sp : Bool)
    (hsp : l = [] → sp = false) (fuel : Nat) (hf : 1 ≤ fuel) :
    parseCompoundList pc fuel ((if sp then [' '] else []) ++ (printList alt l ++ tail)) = some (l, tail) :=
  compoundList_rt pc alt l tail he hc h sp hsp fuel hf

/-- `Parser::command` with nesting budget `n + 1` reads back every command of the closed
    fragment of depth at most `n` (in front of every tail, with or without a blank) -/
theorem command_roundtrip (n : Nat) (c : Command) (tail : List Char) (h : CommandOk c tail)
    (hd : cdepth c ≤ n) (sp : Bool) :
    parseCommand (n + 1) ((if sp then [' '] else []) ++ (printCommand c ++ tail)) = some (some c, tail) :=
  ((parseCommand_pcOk n).cmd c tail h hd).2 sp

/-- non-vacuity on a nested program (depth 3: group ⊃ while ⊃ subshell, with `|`, `&&`, `!`, `&`, `if`/`elif`/`else`) -/
def nested : List Item :=
  [it1 (.compound (.grouping
    [it1 (.compound (.whileLoop [it1 (leaf "a" [])]
        [.mk (.mk (.mk [.compound (.subshell [it1 (leaf "b" ["x"])]) [], leaf "c" []] false)
          [.mk true (.mk [leaf "d" []] true)]) true]) []),
     it1 (.compound (.ifCmd [it1 (leaf "e" [])] [it1 (leaf "f" [])] [.mk [it1 (leaf "g" [])] [it1 (leaf "h" [])]]
        true [it1 (leaf "i" [])]) [])]) [])]

example : printList false nested =
    "{ while a; do (b x) | c && ! d& done; if e; then f; elif g; then h; else i; fi; }".toList := by
  rw [toList_lit rfl]; decide +kernel

theorem nested_items_ok (tail : List Char) (ht : TailOk tail) : ItemsOk false nested tail := by
  simp only [nested, it1, ItemsOk, AndOrOk, AndOrRestOk, PipelineOk, CommandsOk, CommandOk,
    CompoundOk, ElifsOk, RedirsOk, pipeRest, aoRest, printRedirsSp, List.nil_append, List.singleton_append,
    List.cons_append, ne_eq, reduceCtorEq, not_false_eq_true, List.cons_ne_self, and_true,
    true_and, Bool.false_eq_true, if_false, if_true]
  and_intros
  all_goals first
    | trivial
    | exact ht
    | exact leaf_ok _ _ (by decide +kernel) (by decide +kernel) (by decide +kernel) _ (tailOk_cons _ _ (by decide +kernel))
    | exact leaf_ok _ _ (by decide +kernel) (by decide +kernel) (by decide +kernel) _ (Or.inr ⟨true, _, _, rfl, by decide +kernel⟩)
    | exact tailOk_cons _ _ (by decide +kernel)
    | exact (Or.inr ⟨true, _, _, rfl, by decide +kernel⟩)

theorem nested_ok (rest : List Char) : ProgramOk nested rest :=
  nested_items_ok _ (tailOk_cons _ _ (by decide))

example (rest : List Char) :
    parseProgram (printList false nested ++ ')' :: rest) = some (nested, ')' :: rest) :=
  structure_roundtrip nested rest (nested_ok rest)

/-- non-vacuity with a function definition, `for … in`, `case` (alternatives, empty body, the three
    terminators, an async item) and a redirection after the function body -/

def nested2 : List Item :=
  [it1 (.function false (lw "f")
    (.grouping [it1 (.compound (.forLoop (lw "x") (some [lw "a", lw "b"])
      [it1 (.compound (.caseCmd (lw "y")
        [.mk [lw "p", lw "q"] [it1 (leaf "c" [])] .break_,
         .mk [lw "r"] [] .fallThrough,
         .mk [lw "s"] [it1 (leaf "d" []) true] .continue_]) [])]) [])])
    [.normal none .fileOut (lw "o")])]

example : printList false nested2 =
    "f() { for x in a b; do case y in (p | q) c;; (r) ;& (s) d&;| esac; done; } >o".toList := by
  rw [toList_lit rfl]; decide +kernel

theorem nested2_items_ok (tail : List Char) (ht : TailOk tail) : ItemsOk false nested2 tail := by
  simp only [nested2, it1, lw, ItemsOk, AndOrOk, AndOrRestOk, PipelineOk, CommandsOk, CommandOk,
    CompoundOk, CaseItemsOk, PatsOk, ForWordsOk, ElifsOk, RedirsOk, pipeRest, aoRest, printRedirsSp,
    List.nil_append, List.singleton_append, List.cons_append, ne_eq, reduceCtorEq, not_false_eq_true,
    List.cons_ne_self, and_true, true_and, Bool.false_eq_true, if_false, if_true]
  and_intros
  all_goals first
    | trivial
    | exact ht
    | exact leaf_ok _ _ (by decide +kernel) (by decide +kernel) (by decide +kernel) _ (tailOk_cons _ _ (by decide +kernel))
    | exact tailOk_cons _ _ (by decide +kernel)
    | exact plainArg_tok _ (by decide +kernel) _
    | exact ⟨plainArg_tok _ (by decide +kernel) _, plainArg_noAssign _ (by decide +kernel), by decide +kernel, by decide +kernel⟩

theorem nested2_ok (rest : List Char) : ProgramOk nested2 rest :=
  nested2_items_ok _ (tailOk_cons _ _ (by decide))

example (rest : List Char) :
    parseProgram (printList false nested2 ++ ')' :: rest) = some (nested2, ')' :: rest) :=
  structure_roundtrip nested2 rest (nested2_ok rest)

/-! ## Known non-round-trips, as kernel-checked counter-examples (the boundary of the theorems) -/

/-- Boundary of `word_self_delimiting` (finding K4): the word `[Literal '\\']` (a backslash at the end of
    the input) is printed as a bare `\`, and in front of a blank that reads back as an escaped blank. -/
theorem trailing_backslash_word_does_not_read_back :
    lexWord .token (printWord [.unquoted (.literal '\\')] ++ [' ', ';']) =
      some ([.unquoted (.backslashed ' ')], [';']) := by
  rfl

/-- Boundary of `simple_command_roundtrip` (finding K4): `words = [\], redirs = [>f]` is printed as `\ >f`
    (words before redirections) and reads back as the command with the word `\ ` — a different tree. -/
theorem trailing_backslash_command_does_not_read_back :
    parseSimple 10 (printSimple ⟨[], [[.unquoted (.literal '\\')]],
        [.normal none .fileOut [.unquoted (.literal 'f')]]⟩ ++ [';']) =
      some (some ⟨[], [[.unquoted (.backslashed ' ')]],
        [.normal none .fileOut [.unquoted (.literal 'f')]]⟩, [';']) := by
  rfl

/-! ## Command lines and scripts up to the end of input

`parseCommandLine` transcribes `Parser::command_line`, the entry point of the shell's read-eval loop;
`parseScript` reads command lines until the end of input.  `structure_roundtrip` ends a program with `)`;
the statements here end it the way a script does — with a newline, and the script with the end of input. -/

/-- ★ A printed list of the closed fragment followed by a newline is read back by `Parser::command_line`
    as that list, and the line is consumed up to and including the newline (`l = []` is the blank line). -/
theorem command_line_roundtrip (l : List Item) (rest : List Char) (h : LineOk l rest) :
    parseLine (printList false l ++ '\n' :: rest) = some (some l, rest) := by
  unfold parseLine
  have hd := ldepth_le false l
  exact commandLine_rt _ l rest h (by simp only [List.length_append, List.length_cons]; omega)

/-- at the end of input `Parser::command_line` answers `Ok(None)` -/
theorem command_line_end_of_input : parseLine [] = some (none, []) := commandLine_eof _

theorem nested_line_ok (rest : List Char) : LineOk nested rest :=
  nested_items_ok _ (tailOk_cons _ _ (by decide))

theorem nested2_line_ok (rest : List Char) : LineOk nested2 rest :=
  nested2_items_ok _ (tailOk_cons _ _ (by decide))

/-- non-vacuity: the two nested programs and a blank line as a three-line script, read to the end of input -/
example : parseScript (scriptText [nested, [], nested2]) = some [nested, [], nested2] :=
  script_roundtrip _ ⟨nested_line_ok _, trivial, nested2_line_ok _, trivial⟩

example : scriptText [nested, [], nested2] =
    ("{ while a; do (b x) | c && ! d& done; if e; then f; elif g; then h; else i; fi; }\n\n" ++
     "f() { for x in a b; do case y in (p | q) c;; (r) ;& (s) d&;| esac; done; } >o\n").toList := by
  rw [String.toList_append, toList_lit rfl, toList_lit rfl]; decide +kernel

/-! ## Array assignments

`parseArrayWords` transcribes `Parser::array_values`; `Piece.arrayAssign` is the fourth kind of piece of a
simple command, and `SimpleOk` (the leaves of the closed fragment) is stated over pieces, so commands
with array assignments are leaves of `structure_roundtrip`, `command_line_roundtrip` and `script_roundtrip`. -/

/-- ★ A simple command with at least one assignment — scalar or array, `name=(w₁ … wₙ)` — words and
    redirections prints as text that the model of `Parser::simple_command` (with `array_values`) reads back
    as the same command in front of every command tail. -/
theorem simple_command_with_arrays_roundtrip (as : List Assign) (ws : List Word)
    (rs : List (Option Nat × RedirOp × Word)) (tail : List Char) (ht : TailOk tail) (hne : as ≠ [])
    (hok : PiecesOk ⟨[], [], []⟩ (assignPiecesV as ++ wordPieces ws ++ redirPieces rs) tail)
    (fuel : Nat) (hf : (printSimple (mkSimpleV as ws rs)).length + 2 ≤ fuel) :
    parseSimple fuel (printSimple (mkSimpleV as ws rs) ++ tail) = some (some (mkSimpleV as ws rs), tail) := by
  have := parseSimple_tail _ tail ht (simpleOk_assigns as ws rs tail hne hok) false fuel hf
  simpa using this

/-- `a=(x y) b=1 c >f` -/
def arrCmd : SimpleCommand :=
  mkSimpleV [⟨['a'], .array [digitsWord ['x'], digitsWord ['y']]⟩, ⟨['b'], .scalar (digitsWord ['1'])⟩]
    [digitsWord ['c']] [(none, .fileOut, digitsWord ['f'])]

example : printSimple arrCmd = "a=(x y) b=1 c >f".toList := by rw [toList_lit rfl]; decide +kernel

theorem arrCmd_ok (tail : List Char) :
    PiecesOk ⟨[], [], []⟩ (assignPiecesV arrCmd.assigns ++ wordPieces arrCmd.words ++
      redirPieces [(none, .fileOut, digitsWord ['f'])]) tail := by
  simp only [arrCmd, mkSimpleV, assignPiecesV, wordPieces, redirPieces, List.map_cons, List.map_nil,
    List.cons_append, List.nil_append, PiecesOk, PieceOk, Builder.push, ArrWordsOk, and_true, true_and]
  have ha : assignWord ['a'] [] = digitsWord ['a', '='] := rfl
  have hb : assignWord ['b'] (digitsWord ['1']) = digitsWord ['b', '=', '1'] := rfl
  rw [ha, hb]
  refine ⟨⟨litWord_tok _ _ (by decide) _ (by decide), by decide, by decide, litWord_tok _ _ (by decide) _ (by decide),
    litWord_tok _ _ (by decide) _ (by decide)⟩, ⟨litWord_tok _ _ (by decide) _ (by decide), by decide, by decide, by decide,
    by simp [digitsWord]⟩, ⟨litWord_tok _ _ (by decide) _ (by decide), fun _ => ⟨by decide, fun h => by simp [Builder.isEmpty]⟩,
    fun h => absurd rfl h⟩, trivial, litWord_tok _ _ (by decide) _ (by decide)⟩

/-- non-vacuity: `a=(x y) b=1 c >f` in front of `;` -/
example (rest : List Char) :
    parseSimple 40 (printSimple arrCmd ++ ';' :: rest) = some (some arrCmd, ';' :: rest) :=
  simple_command_with_arrays_roundtrip _ _ _ _ (tailOk_cons _ _ (Or.inl rfl)) (by simp [arrCmd, mkSimpleV]) (arrCmd_ok _) 40
    (by decide +kernel)

/-- the command with the array assignment as a leaf of the closed fragment: a script line -/
theorem arr_line_ok (rest : List Char) : LineOk [it1 (.simple arrCmd)] rest :=
  (itemsOk_single _ _).mpr
    ⟨simpleOk_assigns _ _ _ _ (by simp [arrCmd, mkSimpleV]) (arrCmd_ok _), tailOk_cons _ _ (by decide)⟩

example : parseScript (scriptText [[it1 (.simple arrCmd)], nested]) = some [[it1 (.simple arrCmd)], nested] :=
  script_roundtrip _ ⟨arr_line_ok _, nested_line_ok _, trivial⟩

/-! ## Rejections at the boundaries of the statements above -/

/-- `Parser::command_line` does not accept a line that ends in front of a `)` (`UnopenedSubshell`): the same
    printed list that `structure_roundtrip` reads inside parentheses is a syntax error as a command line. -/
theorem command_line_rejects_close_paren (l : List Item) (rest : List Char) (h : ProgramOk l rest) :
    parseLine (printList false l ++ ')' :: rest) = none := by
  unfold parseLine
  have hd := ldepth_le false l
  exact commandLine_rparen _ l rest h (by simp only [List.length_append, List.length_cons]; omega)

example (rest : List Char) : parseLine (printList false nested ++ ')' :: rest) = none :=
  command_line_rejects_close_paren nested rest (nested_ok rest)

example : parseRedir "2147483648>f;".toList = none := by rw [toList_lit rfl]; decide +kernel
example : (parseRedir "2147483647>f;".toList).isSome = true := by rw [toList_lit rfl]; decide +kernel

/-! ## The consumers named by the property (what the user is shown) -/

/-- ★ What `typeset -fp` shows (`print_one`: the function definition and a newline; the `F` cases compare
    exactly this text with the built-in's output): for a definition of the closed fragment the shown line is
    read back by `Parser::command_line` as that one function definition. -/
theorem typeset_listing_roundtrip (name : Word) (body : CompoundCommand) (rs : List Redir) (rest : List Char)
    (h : CommandOk (.function false name body rs) ('\n' :: rest)) :
    parseLine (printCommand (.function false name body rs) ++ '\n' :: rest) =
      some (some [it1 (.function false name body rs)], rest) := by
  have := command_line_roundtrip _ rest ((itemsOk_single _ _).mpr h)
  simpa [printList, printItem, printAndOr, printPipeline, printCommands, printAndOrRest, it1] using this

/-- ★ What `jobs` shows (the job name is `and_or.to_string()`; the `J` cases compare this text): for an and-or
    list of the closed fragment the name, as a line, is read back as that and-or list. -/
theorem job_name_roundtrip (a : AndOrList) (rest : List Char) (h : AndOrOk a ('\n' :: rest)) :
    parseLine (printAndOr a ++ '\n' :: rest) = some (some [.mk a false], rest) := by
  have hl : LineOk [.mk a false] rest := by
    simp only [LineOk, ItemsOk, Bool.false_eq_true, if_false, List.nil_append]
    exact h
  have := command_line_roundtrip _ rest hl
  simpa [printList, printItem] using this

/-- non-vacuity: the function definition of `nested2` as `typeset -fp` shows it -/
example (rest : List Char) :
    parseLine ("f() { for x in a b; do case y in (p | q) c;; (r) ;& (s) d&;| esac; done; } >o".toList ++ '\n' :: rest) =
      some (some nested2, rest) := by
  have h := nested2_line_ok rest
  have e : printList false nested2 =
      "f() { for x in a b; do case y in (p | q) c;; (r) ;& (s) d&;| esac; done; } >o".toList := by rw [toList_lit rfl]; decide +kernel
  rw [← e]
  exact command_line_roundtrip nested2 rest h

/-- non-vacuity: the and-or list of `nested` as a job name -/
example (rest : List Char) :
    ∃ a, nested = [.mk a false] ∧ parseLine (printAndOr a ++ '\n' :: rest) = some (some [.mk a false], rest) := by
  refine ⟨_, rfl, job_name_roundtrip _ rest ?_⟩
  have h := nested_line_ok rest
  simpa only [LineOk, nested, it1, ItemsOk, Bool.false_eq_true, if_false, List.nil_append] using h

/-! ## Declaration utilities and the placement of redirections

`Display for SimpleCommand` moves every redirection behind the words (or in front of them, keyword-first).
Whether a `name=value` operand is parsed in the single-expansion mode (tilde expansions after `=` and `:`)
depends on the `is_declaration_utility` state of `Parser::simple_command`; `declLoop` transcribes that state
machine over the tokens of the loop, the driver checks on every tree that the modes the real parser assigned
are `wordModes posixGlossary none words`, and the glossary is the extracted `PosixGlossary`. -/

/-- ★ Redirections and assignments never change the declaration-utility decision: the expansion modes of the
    words are those the words alone determine, for every glossary, every state and every placement. -/
theorem decl_modes_ignore_redirections (g : Glossary) (st : Option Bool) (items : List SItem) :
    declLoop g st items = wordModes g st (items.filterMap SItem.word?) :=
  declLoop_eq_wordModes g items st

/-- ★ Hence the printed form — assignments, words, redirections, or redirections first — re-parses with the
    same mode for every word as the source did, wherever the source had its redirections. -/
theorem printed_order_keeps_decl_modes (g : Glossary) (items : List SItem) (k m : Nat) :
    declLoop g none (List.replicate k .assign ++ (items.filterMap SItem.word?).map .word ++ List.replicate m .redir) =
      declLoop g none items ∧
    declLoop g none (List.replicate m .redir ++ (items.filterMap SItem.word?).map .word) = declLoop g none items := by
  obtain ⟨h1, h2⟩ := filterMap_printed k m (items.filterMap SItem.word?)
  rw [declLoop_eq_wordModes, declLoop_eq_wordModes, declLoop_eq_wordModes, h1, h2]
  exact ⟨rfl, rfl⟩

/-- `command >log export PATH=~/bin` and `command export PATH=~/bin >log`: the operand is `Single` in both -/
example : declLoop posixGlossary none [.word (lw "command"), .redir, .word (lw "export"), .word (lw "PATH=x")] =
    [false, false, true] ∧
    declLoop posixGlossary none [.word (lw "command"), .word (lw "export"), .word (lw "PATH=x"), .redir] =
    [false, false, true] ∧
    declLoop posixGlossary none [.word (lw "echo"), .redir, .word (lw "PATH=x")] = [false, false] := by
  decide +kernel

/-! ## Totality — the fuel of the line loop

The model parser is total by construction (structural recursion on fuel).  What has to be shown is that the
fuel it is given — linear in the input length — never runs out.  Full statement (open):
`∀ cs k, 1 ≤ k → parseScriptWith k cs = parseScript cs`.  Proved: the line loop, given that every accepted command
line consumes a character (`LineProgress`; missing: that property for `parseCommand`, i.e. "the rest is a proper
suffix" through all parser layers).  The driver checks the full statement for `k = 2` on every `L` case. -/

/-- with more than `|cs|` fuel the line loop never stops for lack of fuel: any two such budgets agree -/
theorem parseLines_fuel_stable_partial (pc : CmdParser) (hp : LineProgress pc) (cs : List Char) (f1 f2 : Nat)
    (h1 : cs.length + 1 ≤ f1) (h2 : cs.length + 1 ≤ f2) : parseLines pc f1 cs = parseLines pc f2 cs :=
  parseLines_fuel_stable pc hp cs.length cs f1 f2 (Nat.le_refl _) h1 h2

/-! ## End of input directly after the last token — the word, token and simple-command layers

`List::from_str(printed)` ends at the end of input without a newline.  A word ends at a delimiter character or at
the end of input (`Delim.EndsAt`, `word_ends`), a token likewise (`NextOk` admits `[]`). -/

/-- ★ a simple command of the fragment (scalar and array assignments, words, redirections, both print orders)
    printed and followed directly by the end of input is read back by `Parser::simple_command` -/
theorem simple_command_roundtrip_at_end_of_input (c : SimpleCommand) (h : SimpleOk c []) (fuel : Nat)
    (hf : (printSimple c).length + 2 ≤ fuel) : parseSimple fuel (printSimple c) = some (some c, []) := by
  simpa using parseSimple_tail c [] (Or.inl rfl) h false fuel hf

/-- non-vacuity: `a=(x y) b=1 c >f` and then the end of input -/
example : parseSimple 40 (printSimple arrCmd) = some (some arrCmd, []) :=
  simple_command_roundtrip_at_end_of_input arrCmd
    (simpleOk_assigns _ _ _ _ (by simp [arrCmd, mkSimpleV]) (arrCmd_ok _)) 40 (by decide +kernel)

/-! ## The structural layers at the end of input

`TailOk` and `NextOk` admit the empty tail, the end of input is one of the tokens at which words, redirections and
commands stop (`Stops`, `lexToken [] = endOfInput`), and a list ends there (`closedTail_eof`).  So the closed fragment
covers what the oracle does:
`List::from_str(printed)` — the printed program followed directly by the end of input. -/

theorem nested_eof_ok : ProgramEofOk nested := nested_items_ok _ (Or.inl rfl)

theorem nested2_eof_ok : ProgramEofOk nested2 := nested2_items_ok _ (Or.inl rfl)

/-- non-vacuity: both nested programs, printed without anything after them -/
example : parseProgram (printList false nested) = some (nested, []) :=
  structure_roundtrip_at_end_of_input nested nested_eof_ok
example : parseProgram (printList false nested2) = some (nested2, []) :=
  structure_roundtrip_at_end_of_input nested2 nested2_eof_ok
example : parseScript (scriptTextLast [nested, []] nested2) = some [nested, [], nested2] :=
  script_roundtrip_unterminated _ _ (by simp [nested2]) ⟨nested_line_ok _, trivial, nested2_eof_ok⟩

/-! ## The separator between a function name and `()` is decided by the LAST UNIT of the name

`FunctionDefinition::fmt` writes a blank before `()` when the last unit of the name is an unquoted `$` or a tilde
expansion whose name ends in `$` — whatever the units before it are (a quoted part, an escape, a parameter…).  A
printer that asks `to_string_if_literal()` instead agrees on purely literal names only.  The statements below are
for every prefix; the harness family 9 puts a `$` after every kind of unit and compares the model printer with
`to_string()` and the printed text with its re-parse; `Instances.lean` evaluates the model parser on six such names. -/

theorem endsWithDollar_last_unit (p : Word) :
    endsWithDollar (p ++ [.unquoted (.literal '$')]) = true ∧
    (∀ (n : List Char) (s : Bool), endsWithDollar (p ++ [.tilde (n ++ ['$']) s]) = true) ∧
    (∀ c : Char, c ≠ '$' → endsWithDollar (p ++ [.unquoted (.literal c)]) = false) := by
  refine ⟨by simp [endsWithDollar], fun n s => by simp [endsWithDollar], fun c hc => by simp [endsWithDollar, hc]⟩

theorem function_name_dollar_separator (p : Word) (body : CompoundCommand) (rs : List Redir) :
    printCommand (.function false (p ++ [.unquoted (.literal '$')]) body rs) =
      printWord p ++ '$' :: ' ' :: '(' :: ')' :: ' ' :: (printCompound body ++ printRedirsSp rs) := by
  simp [printCommand, (endsWithDollar_last_unit p).1, printWord_append, printWord, printWordUnit, printTextUnit, str]

end YashModel.Syntax
