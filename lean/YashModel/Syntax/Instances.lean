/-
  C06 — the model parser run by the kernel on printed programs; the instances rest on the models alone.
-/
import YashModel.Common.Strings
import YashModel.Syntax.Token
namespace YashModel.Syntax
open YashModel.Common

/-- the word of the literal characters of `s` -/
def lw (s : String) : Word := digitsWord s.toList

/-- the simple command of the literal words `ws` -/
def sc (ws : List String) : Command := .simple ⟨[], ws.map lw, []⟩

/-- the item of one command -/
def it1 (c : Command) (async : Bool := false) : Item := .mk (.mk (.mk [c] false) []) async

/-- the printed program parses back to a program of as many items that prints the same -/
def reads (prog : List Item) : Bool :=
  match parseProgram (printList false prog ++ [')']) with
  | some (l, r) => printList false l ++ r == printList false prog ++ [')'] && l.length == prog.length
  | none => false

/-! The four programs: pipeline with `!`, and-or, async item, brace group with a redirection; subshell,
`if`/`elif`/`else`; `while`, `until`, `for` with and without `in`; `case` with the three terminators, a function
definition, and the function whose name ends in `$` (printed with a blank before `()`). -/

example : reads
    [.mk (.mk (.mk [sc ["a"], sc ["b"]] true) [.mk true (.mk [sc ["c"]] false)]) true,
     it1 (.compound (.grouping [it1 (sc ["d"])]) [.normal none .fileOut (lw "f")])] = true := by
  decide +kernel

example : reads
    [it1 (.compound (.subshell [it1 (sc ["a"]) true, it1 (sc ["b"])]) []),
     it1 (.compound (.ifCmd [it1 (sc ["a"])] [it1 (sc ["b"])] [.mk [it1 (sc ["c"])] [it1 (sc ["d"])]] true
       [it1 (sc ["e"])]) [.normal (some 2) .fdOut (lw "1")])] = true := by
  decide +kernel

example : reads
    [it1 (.compound (.whileLoop [it1 (sc ["a"])] [it1 (sc ["b"])]) []),
     it1 (.compound (.untilLoop [it1 (sc ["a"])] [it1 (sc ["b"]) true]) []),
     it1 (.compound (.forLoop (lw "x") (some [lw "1", lw "2"]) [it1 (sc ["b"])]) []),
     it1 (.compound (.forLoop (lw "x") none [it1 (sc ["b"])]) [])] = true := by
  decide +kernel

example : reads
    [it1 (.compound (.caseCmd (lw "x") [.mk [lw "a", lw "b"] [it1 (sc ["c"])] .break_,
        .mk [lw "d"] [] .fallThrough, .mk [lw "e"] [it1 (sc ["f"]) true] .continue_]) []),
     it1 (.function false (lw "f") (.grouping [it1 (sc ["g"])]) [.normal none .fileIn (lw "h")]),
     it1 (.function false (lw "a$") (.grouping [it1 (sc ["g"])]) [])] = true := by
  decide +kernel

/-- the separator rule: a function name ending in an unquoted `$` is printed with a blank before `()` -/
example : printCommand (.function false (lw "a$") (.grouping [it1 (sc ["g"])]) []) = "a$ () { g; }".toList := by
  rw [toList_lit rfl]; decide +kernel

/-! ## function names ending in `$` after every kind of unit -/

def fnDollar (p : Word) : List Item :=
  [it1 (.function false (p ++ [.unquoted (.literal '$')]) (.grouping [it1 (sc ["g"])]) [])]

example : reads (fnDollar [.singleQuote ['f'], .unquoted (.literal 'x')]) = true := by decide +kernel
example : reads (fnDollar [.doubleQuote [.literal 'a']]) = true := by decide +kernel
example : reads (fnDollar [.unquoted (.backslashed 'a')]) = true := by decide +kernel
example : reads (fnDollar [.dollarSingleQuote [.literal 'x']]) = true := by decide +kernel
example : reads (fnDollar [.unquoted (.rawParam ['x'])]) = true := by decide +kernel
example : reads (fnDollar [.unquoted (.bracedParam ['x'] .none)]) = true := by decide +kernel
example : printList false (fnDollar [.singleQuote ['f'], .unquoted (.literal 'x')]) = "'f'x$ () { g; }".toList := by
  rw [toList_lit rfl]; decide +kernel

/-- the statement `parseScriptWith k cs = parseScript cs` on a script: twice the budgets, same answer -/
example : (parseScriptWith 2 "f() { a | b; }\n(c)\n".toList).map (·.map (printList false)) =
    (parseScript "f() { a | b; }\n(c)\n".toList).map (·.map (printList false)) := by rw [toList_lit rfl]; decide +kernel

end YashModel.Syntax
