/-
  C14 — the chain with head-like stages (HChain.lean), reachable states `HReach` (`HReach1`: read buffers of at
  least one byte): it is the general chain of GChain.lean with an allowance at every stage (`HChain.toG`), so
  conservation in prefix form, the descriptor counts `Cnt`, progress, and what the exited stages leave behind
  (`Fin`, from which a state with every process gone is `settled`) are those of GChainLemmas.lean, carried over here.
-/
import YashModel.Pipe.HChain
import YashModel.Pipe.GChainLemmas
import YashModel.Common.Loop
namespace YashModel.Pipe
open YashModel.Run

variable {α : Type}

def HChain.toG : HChain α → GChain α
  | .sink inp r pc => .sink inp r pc
  | .fwd g m inp h pc rest => .fwd g (some m) inp h pc rest.toG

theorem HChain.toG_inp (s : HChain α) : s.toG.inp = s.inp := by cases s <;> rfl
theorem HChain.toG_headDone (s : HChain α) : s.toG.headDone = s.headDone := by cases s <;> rfl

theorem HChain.toG_mapInp (s : HChain α) (f : Fifo α → Fifo α) : (s.mapInp f).toG = s.toG.mapInp f := by
  cases s <;> rfl

theorem HChain.toG_received (s : HChain α) : s.toG.received = s.received := by
  induction s with
  | sink => rfl
  | fwd g m inp h pc rest ih => exact ih

theorem HChain.toG_procs (s : HChain α) : s.toG.procs = s.procs := by
  induction s with
  | sink => rfl
  | fwd g m inp h pc rest ih => simp only [HChain.toG, GChain.procs, HChain.procs, ih]

theorem HChain.toG_allDone (s : HChain α) : s.toG.allDone = s.allDone := by
  induction s with
  | sink => rfl
  | fwd g m inp h pc rest ih => simp only [HChain.toG, GChain.allDone, HChain.allDone, ih]

theorem HChain.toG_push (s : HChain α) (y : List α) : s.toG.push y = s.push y := by
  induction s generalizing y with
  | sink inp r pc => rfl
  | fwd g m inp h pc rest ih => simp only [HChain.toG, GChain.push, HChain.push, takeO, ih]

theorem HChain.toG_step (c : Cfg) (s : HChain α) (i n k : Nat) :
    s.toG.step c i n k = (s.step c i n k).map HChain.toG := by
  induction s generalizing i with
  | sink inp r pc =>
    cases i with
    | zero =>
      simp only [HChain.toG, GChain.step, HChain.step, gsinkStep, hsinkStep]
      cases pc with
      | run =>
        rcases inp.read n with ⟨_ | bs, p⟩
        · rfl
        · simp only; split <;> rfl
      | wait => simp only; split <;> rfl
      | done => rfl
    | succ j => rfl
  | fwd g m inp h pc rest ih =>
    cases i with
    | zero =>
      simp only [HChain.toG, GChain.step, HChain.step, gfwdStep, hfwdStep, HChain.toG_inp]
      cases pc with
      | rd =>
        simp only [rdSize, Option.elim_some, Option.map_some]
        by_cases hm : m = 0
        · -- allowance used up: the general stage asks for 0 bytes and gets `Ok(0)`
          subst hm
          simp only [Nat.min_zero, Fifo.read, if_true, List.isEmpty_nil, Option.map_some, HChain.toG,
            HChain.toG_mapInp]
        · rw [if_neg hm]
          rcases inp.read (min n m) with ⟨_ | bs, p⟩
          · rfl
          · simp only
            split <;> simp only [Option.map_some, HChain.toG, HChain.toG_mapInp]
      | rwait => simp only; split <;> rfl
      | wr =>
        simp only
        split
        · rfl
        · rcases rest.inp.write c (h.take k) with ⟨_ | _ | w, p⟩
          · simp only [Option.map_some, HChain.toG, HChain.toG_mapInp]
          · rfl
          · simp only; split <;> simp only [Option.map_some, HChain.toG, HChain.toG_mapInp]
      | wwait => simp only; split <;> rfl
      | closed => rfl
      | failed => rfl
    | succ j =>
      simp only [HChain.toG, GChain.step, HChain.step, ih, Option.map_map]
      rfl

theorem HChain.toG_step_some {c : Cfg} {s s' : HChain α} {i n k : Nat} (h : s.step c i n k = some s') :
    s.toG.step c i n k = some s'.toG := by
  rw [HChain.toG_step, h]; rfl

inductive HReach (c : Cfg) (st : List ((α → List α) × Nat × List α)) (x : List α) : HChain α → Prop
  | init : HReach c st x (HChain.init st x)
  | step {s s' : HChain α} (i n k : Nat) :
      HReach c st x s → s.step c i n k = some s' → HReach c st x s'

/-- `GChain.Cnt` of the embedded chain (`toG_cnt`), in the model's terms: the hypothesis of `HChain.progress` -/
def HChain.Cnt : HChain α → Prop
  | .sink inp _ pc => inp.readers = (if pc = .done then 0 else 1)
  | .fwd _ _ inp _ pc rest =>
      inp.readers = (if pc = .closed ∨ pc = .failed then 0 else 1) ∧
      rest.inp.writers = (if pc = .closed ∨ pc = .failed then 0 else 1) ∧ rest.Cnt

theorem HChain.toG_cnt (s : HChain α) : s.toG.Cnt ↔ s.Cnt := by
  induction s with
  | sink => exact Iff.rfl
  | fwd g m inp h pc rest ih => simp only [HChain.toG, GChain.Cnt, HChain.Cnt, HChain.toG_inp, ih]

theorem HChain.inp_sink (inp : Fifo α) (r : List α) (pc : RPc) : (HChain.sink inp r pc).inp = inp := rfl
theorem HChain.inp_fwd (g : α → List α) (m : Nat) (inp : Fifo α) (h : List α) (pc : FPc) (rest : HChain α) :
    (HChain.fwd g m inp h pc rest).inp = inp := rfl

theorem HChain.mapInp_headDone (s : HChain α) (f : Fifo α → Fifo α) : (s.mapInp f).headDone = s.headDone := by
  cases s <;> rfl

theorem HChain.progress (c : Cfg) (hv : c.Valid) (s : HChain α) (hi : s.Cnt) :
    s.allDone = true ∨ (∃ i, i < s.procs ∧ ∀ n k, (s.step c i n k).isSome = true) ∨
      (s.inp.content = [] ∧ 0 < s.inp.writers ∧ s.headDone = false) := by
  have := GChain.progress c hv s.toG ((HChain.toG_cnt s).mpr hi)
  simpa only [HChain.toG_allDone, HChain.toG_procs, HChain.toG_step, Option.isSome_map, HChain.toG_inp,
    HChain.toG_headDone] using this

theorem HChain.stuck_allDone {c : Cfg} (hv : c.Valid) {s : HChain α} (hi : s.Cnt) (hw : s.inp.writers = 0)
    (h : ∀ i, i < s.procs → ∃ n k, s.step c i n k = none) : s.allDone = true := by
  rw [← HChain.toG_allDone]
  refine GChain.stuck_allDone hv ((HChain.toG_cnt s).mpr hi) (by rw [HChain.toG_inp]; exact hw) fun i hil => ?_
  obtain ⟨n, k, e⟩ := h i (by rwa [HChain.toG_procs] at hil)
  exact ⟨n, k, by rw [HChain.toG_step, e]; rfl⟩

mutual
/-- `GChain.absorbing` in the model's terms (`toG_settled`): nothing that enters the first pipe can reach the sink -/
def HChain.absorbing : HChain α → Bool
  | .sink _ _ _ => false
  | .fwd _ m _ hold _ rest => rest.absorbing || (hold.isEmpty && m == 0 && rest.settled)
/-- `GChain.settled` in the model's terms: what `hchain_transfer_conserves` and `hchain_settled_complete` speak of -/
def HChain.settled : HChain α → Bool
  | .sink inp _ _ => inp.content.isEmpty
  | .fwd _ m inp hold _ rest =>
      rest.absorbing || (hold.isEmpty && (m == 0 || inp.content.isEmpty) && rest.settled)
end

theorem HChain.toG_settled (s : HChain α) : s.toG.absorbing = s.absorbing ∧ s.toG.settled = s.settled := by
  induction s with
  | sink => exact ⟨rfl, rfl⟩
  | fwd g m inp h pc rest ih =>
    simp only [HChain.toG, GChain.absorbing, GChain.settled, HChain.absorbing, HChain.settled, ih.1, ih.2,
      Option.some_beq_some, and_self]

theorem HChain.settled_push {s : HChain α} (h : s.settled = true) : s.push [] = s.received := by
  have := (GChain.settled_push s.toG).2 (by rw [(HChain.toG_settled s).2]; exact h)
  rwa [HChain.toG_push, HChain.toG_received] at this

theorem HChain.allDone_settled {s : HChain α} (hf : s.toG.Fin) (hd : s.allDone = true) : s.settled = true := by
  have := (GChain.allDone_settled hf (by rw [HChain.toG_allDone]; exact hd)).1
  rwa [(HChain.toG_settled s).2] at this

theorem HChain.stages_inp (st : List ((α → List α) × Nat × List α)) :
    (HChain.stages st).inp = { content := [], readers := 1, writers := 1 } := by
  cases st with
  | nil => rfl
  | cons a t => obtain ⟨g, m, pre⟩ := a; rfl

theorem HChain.stages_inv (st : List ((α → List α) × Nat × List α)) :
    (HChain.stages st).Cnt ∧ (HChain.stages st).toG.HoldOK ∧ (HChain.stages st).toG.Fin := by
  induction st with
  | nil => simp [HChain.stages, HChain.Cnt, HChain.toG, GChain.HoldOK, GChain.Fin]
  | cons a t ih =>
    obtain ⟨g, m, pre⟩ := a
    exact ⟨⟨by simp, by simp [HChain.stages_inp], ih.1⟩, ⟨by simp, ih.2.1⟩, by simp, by simp, ih.2.2⟩

theorem HChain.stages_push (st : List ((α → List α) × Nat × List α)) (y : List α) :
    (HChain.stages st).push y = stagesFunH st y := by
  induction st generalizing y with
  | nil => simp [HChain.stages, HChain.push, stagesFunH]
  | cons a t ih =>
    obtain ⟨g, m, pre⟩ := a
    simp [HChain.stages, HChain.push, stagesFunH, ih]

theorem HReach.inv {c : Cfg} {st : List ((α → List α) × Nat × List α)} {x : List α} {s : HChain α}
    (hr : HReach c st x s) : s.toG.HoldOK ∧ s.push [] = stagesFunH st x := by
  induction hr with
  | init =>
    refine ⟨⟨by simp, (HChain.stages_inv st).2.1⟩, ?_⟩
    simp [HChain.init, HChain.push, HChain.stages_push]
  | step i n k _ hs ih =>
    have ⟨a, d⟩ := GChain.step_push ih.1 (HChain.toG_step_some hs)
    exact ⟨a, by rw [← HChain.toG_push, d [], HChain.toG_push, ih.2]⟩

theorem HReach.cnt {c : Cfg} {st : List ((α → List α) × Nat × List α)} {x : List α} {s : HChain α}
    (hr : HReach c st x s) : s.Cnt ∧ s.inp.writers = 0 := by
  induction hr with
  | init => exact ⟨⟨by simp, by simp [HChain.stages_inp], (HChain.stages_inv st).1⟩, rfl⟩
  | step i n k _ hs ih =>
    have ⟨a, b⟩ := GChain.step_cnt ((HChain.toG_cnt _).mpr ih.1) (HChain.toG_step_some hs)
    exact ⟨(HChain.toG_cnt _).mp a, by rw [← HChain.toG_inp, b, HChain.toG_inp, ih.2]⟩

theorem hchainScan_step {c : Cfg} {s s' : HChain α} {n k j : Nat}
    (h : hchainScan c s n k j = some s') : ∃ i, s.step c i n k = some s' := by
  induction j with
  | zero => simp [hchainScan] at h
  | succ j ih =>
    unfold hchainScan at h
    split at h
    next s1 hs =>
      simp only [Option.some.injEq] at h
      subst h
      exact ⟨_, hs⟩
    next => exact ih h

theorem hchainRun_loop (c : Cfg) (n k : Nat) :
    Loop (hchainRun (α := α) c n k) (fun s t => ∃ i, s.step c i n k = some t) (fun _ => True) where
  zero _ _ := rfl
  succ fuel x s := by
    cases h1 : s.step c (((x * 1103515245 + 12345) % 2147483648 / 65536) % s.procs) n k with
    | some t => exact .inr ⟨(x * 1103515245 + 12345) % 2147483648, t, ⟨_, h1⟩, by simp only [hchainRun, h1]⟩
    | none =>
      cases h2 : hchainScan c s n k s.procs with
      | some t =>
        exact .inr ⟨(x * 1103515245 + 12345) % 2147483648, t, hchainScan_step h2, by simp only [hchainRun, h1, h2]⟩
      | none => exact .inl ⟨by simp only [hchainRun, h1, h2], trivial⟩

/-- reachable states when every read buffer has at least one byte -/
inductive HReach1 (c : Cfg) (st : List ((α → List α) × Nat × List α)) (x : List α) : HChain α → Prop
  | init : HReach1 c st x (HChain.init st x)
  | step {s s' : HChain α} (i n k : Nat) :
      HReach1 c st x s → 1 ≤ n → s.step c i n k = some s' → HReach1 c st x s'

theorem HReach1.reach {c : Cfg} {st : List ((α → List α) × Nat × List α)} {x : List α} {s : HChain α}
    (h : HReach1 c st x s) : HReach c st x s := by
  induction h with
  | init => exact HReach.init
  | step i n k _ _ hs ih => exact HReach.step i n k ih hs

theorem HReach1.fin {c : Cfg} {st : List ((α → List α) × Nat × List α)} {x : List α} {s : HChain α}
    (h : HReach1 c st x s) : s.toG.Fin := by
  induction h with
  | init => exact ⟨by simp, by simp, (HChain.stages_inv st).2.2⟩
  | step i n k hr hn hs ih =>
    exact GChain.step_fin hn ((HChain.toG_cnt _).mpr hr.reach.cnt.1) hr.reach.inv.1 ih (HChain.toG_step_some hs)

end YashModel.Pipe
