/-
  C14 — termination with wakers (WChain.lean): `WChain.wmeasure` = 6 × the measure of the waker-free chain + a cost
  per waker state; a legitimate poll is a stutter that lowers the waker costs or a step of the data side that
  raises them by at most 4 (`WChain.step_wdrop`), so it lowers the whole (`WChain.legit_progress`).
-/
import YashModel.Pipe.WChainLemmas
import YashModel.Pipe.ChainMeasure
namespace YashModel.Pipe
variable {α : Type}

/-- cost of a process's waker state: parked and not woken 0 (nobody polls it), parked and woken 2, not parked 1 -/
def pcost (x : PWake) : Nat := if x.parked then (if x.woken then 2 else 0) else 1

def WChain.wcost : WChain α → Nat
  | .sink _ _ _ wk => pcost wk
  | .fwd _ _ _ wk rest => pcost wk + rest.wcost

/-- every legitimate poll lowers this number -/
def WChain.wmeasure (c : Cfg) (s : WChain α) : Nat := 6 * s.erase.measure c + s.wcost

theorem pcost_mild {fw : PWake → PWake} (h : Mild fw) (x : PWake) : pcost (fw x) ≤ pcost x + 2 := by
  obtain ⟨a, b⟩ := h x
  unfold pcost
  rcases b with b | b
  · rw [a, b]; cases x.parked <;> cases x.woken <;> simp
  · rw [b]; omega

theorem pcost_fresh : pcost ({} : PWake) = 1 := rfl
theorem pcost_parked : pcost (PWake.pollSelect false) = 0 := rfl

theorem WChain.mapHead_wcost (s : WChain α) (fi : Fifo α → Fifo α) {fw : PWake → PWake} (h : Mild fw) :
    (s.mapHead fi fw).wcost ≤ s.wcost + 2 := by
  cases s with
  | sink inp r pc wk => simpa [WChain.mapHead, WChain.wcost] using pcost_mild h wk
  | fwd inp hold pc wk rest =>
    have := pcost_mild h wk
    simp only [WChain.mapHead, WChain.wcost]
    omega

/-- what a legitimate poll does to the waker costs: a stutter (the process parks) lowers them; a step of the
    data side raises them by at most `b` (2: one neighbour to the right woken; `step_wdrop`: 4, also the one
    to the left), and its effect on the left neighbour is mild -/
def WDropB (b : Nat) (s s' : WChain α) (up : PWake → PWake) (chainStep : Prop) : Prop :=
  Mild up ∧ ((s'.erase = s.erase ∧ s'.wcost + 1 ≤ s.wcost ∧ up = id) ∨ (chainStep ∧ s'.wcost ≤ s.wcost + b))

/-- a process that may legitimately be polled has a waker cost to give up -/
theorem pcost_legit {wk : PWake} (h : wk.pollable false = true) : 1 ≤ pcost wk := by
  unfold pcost
  cases hp : wk.parked <;> cases hw : wk.woken <;> simp_all [PWake.pollable]

theorem wsinkStep_wdrop {c : Cfg} {inp : Fifo α} {r : List α} {pc : RPc} {wk : PWake} {n : Nat}
    {s' : WChain α} {up : PWake → PWake} (hnl : (WChain.sink inp r pc wk).NL c)
    (h : wsinkStep inp r pc wk n false = some (s', up)) :
    WDropB 2 (.sink inp r pc wk) s' up (sinkStep inp r pc n = some s'.erase) := by
  rcases wsinkStep_cases (c := c) h with ⟨_, _, hp, rfl, rfl⟩ | ⟨inp', r', pc', rfl, ht, hp, hm, _⟩
  · refine ⟨mild_id, Or.inl ⟨rfl, ?_, rfl⟩⟩
    have := pcost_legit hp
    simp only [WChain.wcost, pcost_parked]
    omega
  · refine ⟨hm, Or.inr ⟨ht, ?_⟩⟩
    -- a running process is not parked
    have h1 : 1 ≤ pcost wk := by
      by_cases e : pc = .wait
      · exact pcost_legit (hp e)
      · cases hpk : wk.parked with
        | false => simp [pcost, hpk]
        | true => exact absurd (hnl.1 hpk) e
    simp only [WChain.wcost, pcost_fresh]
    omega

theorem wfwdStep_wdrop {c : Cfg} {inp : Fifo α} {hold : List α} {pc : FPc} {wk : PWake} {rest : WChain α}
    {n k : Nat} {s' : WChain α} {up : PWake → PWake} (hnl : (WChain.fwd inp hold pc wk rest).NL c)
    (h : wfwdStep c inp hold pc wk rest n k false = some (s', up)) :
    WDropB 2 (.fwd inp hold pc wk rest) s' up (fwdStep c inp hold pc rest.erase n k = some s'.erase) := by
  rcases wfwdStep_cases h with ⟨_, hp, rfl, rfl⟩ | ⟨inp', hold', pc', rest', rfl, ht, hp, hr, hm, _⟩
  · refine ⟨mild_id, Or.inl ⟨rfl, ?_, rfl⟩⟩
    have := pcost_legit hp
    simp only [WChain.wcost, pcost_parked]
    omega
  · refine ⟨hm, Or.inr ⟨ht, ?_⟩⟩
    have h1 : 1 ≤ pcost wk := by
      by_cases e : pc = .rwait ∨ pc = .wwait
      · exact pcost_legit (hp e)
      · cases hpk : wk.parked with
        | false => simp [pcost, hpk]
        | true => exact absurd (hnl.1 hpk) e
    -- the right neighbour is woken at most
    have h2 : rest'.wcost ≤ rest.wcost + 2 := by
      rcases hr with rfl | ⟨fi, fw, rfl, hs⟩
      · omega
      · exact WChain.mapHead_wcost rest fi hs.1
    simp only [WChain.wcost, pcost_fresh]
    omega

/-- a legitimate poll of any process: stutter with lower waker cost, or a step of the data side with the waker
    costs raised by at most 2 (first process: its right neighbour) or 4 (also its left neighbour), and through `up`
    at most 2 on the process to the left of the chain -/
theorem WChain.step_wdrop {c : Cfg} {s s' : WChain α} {i n k : Nat} {up : PWake → PWake} (hnl : s.NL c)
    (h : s.step c i n k false = some (s', up)) :
    WDropB (if i = 0 then 2 else 4) s s' up (s.erase.step c i n k = some s'.erase) := by
  refine WChain.step_induction
    (P := fun s i s' up => s.NL c → WDropB (if i = 0 then 2 else 4) s s' up (s.erase.step c i n k = some s'.erase))
    (fun h hnl => wsinkStep_wdrop hnl h) (fun h hnl => wfwdStep_wdrop hnl h)
    (fun {inp hold pc wk rest j rest' up'} _ ih hnl => ?_) h hnl
  obtain ⟨hm, hor⟩ := ih hnl.2.2.2
  have hup : pcost (if j = 0 then up' wk else wk) ≤ pcost wk + 2 := by
    split
    · exact pcost_mild hm wk
    · omega
  rcases hor with ⟨e1, e2, e3⟩ | ⟨e1, e2⟩
  · subst e3
    have hid : (if j = 0 then id wk else wk) = wk := by split <;> rfl
    refine ⟨mild_id, Or.inl ⟨by simp [WChain.erase, e1], ?_, rfl⟩⟩
    simp only [WChain.wcost, hid]; omega
  · refine ⟨mild_id, Or.inr ⟨by simp [WChain.erase, Chain.step, e1], ?_⟩⟩
    simp only [WChain.wcost, Nat.succ_ne_zero, if_false]
    by_cases hj : j = 0
    · subst hj; simp only [if_true] at e2 hup ⊢; omega
    · simp only [hj, if_false] at e2 ⊢; omega

theorem WChain.legit_progress {c : Cfg} (hv : c.Valid) {s s' : WChain α} {i n k : Nat} {up : PWake → PWake}
    (hk : 1 ≤ k) (hnl : s.NL c)
    (h : s.step c i n k false = some (s', up)) : s'.wmeasure c < s.wmeasure c := by
  obtain ⟨_, hor⟩ := WChain.step_wdrop hnl h
  unfold WChain.wmeasure
  rcases hor with ⟨e1, e2, _⟩ | ⟨e1, e2⟩
  · rw [e1]; omega
  · have := Chain.step_drop hv hk e1
    split at e2 <;> omega

end YashModel.Pipe
