/-
  C14 — the descriptor choreography (Fds.lean): `PInv`, what the parent of a pipeline knows between two `shift`s;
  the exact tables that `connectStdin` / `connectStdout` produce and, composed, the exact table of a pipeline member
  (`PipeSet.connected`, `moveToStdinStdout_eq`), off which `pipeline_ends_connected` (Theorems.lean) is read;
  `shift` keeps `PInv`; the lowest-unused allocation of the driver.
-/
import YashModel.Pipe.Fds
import YashModel.Common.Fuel
namespace YashModel.Pipe

/-- no descriptor of `t` refers to an end of pipe `p` (what `pipe()` guarantees for a new pipe) -/
def Table.Fresh (t : Table) (p : Nat) : Prop := ∀ fd, t fd ≠ some (.pr p) ∧ t fd ≠ some (.pw p)

/-- what the parent of a pipeline knows between two `shift`s: `p` is the pipe to the previous
    member (only its reading end is still open, at `read_previous`), `q` the pipe to the next member
    (both ends open, at `next`), and no other descriptor refers to either pipe -/
structure PInv (t : Table) (ps : PipeSet) (p q : Nat) : Prop where
  pq : p ≠ q
  prev : ∀ rp, ps.readPrevious = some rp → t rp = some (.pr p)
  prev_only : ∀ fd, (t fd = some (.pr p) → ps.readPrevious = some fd) ∧ t fd ≠ some (.pw p)
  next : ∀ r w, ps.next = some (r, w) → t r = some (.pr q) ∧ t w = some (.pw q)
  next_only : ∀ fd, (t fd = some (.pr q) → ps.next.map Prod.fst = some fd) ∧
                    (t fd = some (.pw q) → ps.next.map Prod.snd = some fd)

theorem set_eq (t : Table) (fd : Fd) (v : Option Ent) : t.set fd v fd = v := by simp [Table.set]
theorem set_ne (t : Table) (fd x : Fd) (v : Option Ent) (h : x ≠ fd) : t.set fd v x = t x := by
  simp [Table.set, h]

theorem connectStdin_eq {t : Table} {a : Fd} {e : Ent} (h : t a = some e) :
    connectStdin t (some a) = some ((t.close a).set 0 (some e)) := by
  unfold connectStdin
  by_cases ha : a = 0
  · subst ha
    simp only [if_true, Option.some.injEq]
    funext fd
    by_cases hf : fd = 0 <;> simp [Table.set, Table.close, hf, h]
  · simp only [ha, if_false, Table.dup2, h, Option.some.injEq, Table.close]
    funext fd
    grind [Table.set]

theorem connectStdout_eq {t : Table} {rp : Option Fd} {r w d : Fd} {e : Ent}
    (hw : t w = some e) (hrw : r ≠ w) (h1 : rp = some 1 → w = 1) :
    PipeSet.connectStdout ⟨rp, some (r, w)⟩ t d = some (((t.close r).close w).set 1 (some e), rp) := by
  unfold PipeSet.connectStdout
  simp only
  by_cases hw1 : w = 1
  · subst hw1
    simp only [if_true, Option.some.injEq, Prod.mk.injEq, and_true]
    funext fd
    simp only [Table.close, Table.set]
    grind
  · have : rp ≠ some 1 := fun h => hw1 (h1 h)
    have e1 : (t.close r) w = some e := by simp [Table.close, Table.set, Ne.symm hrw, hw]
    simp only [hw1, this, if_false, Table.dup2, e1, Option.some.injEq, Prod.mk.injEq, and_true]
    funext fd
    simp only [Table.close, Table.set]
    grind

theorem connectStdout_special {t : Table} {r w d : Fd} {e e1 : Ent}
    (hw : t w = some e) (hrw : r ≠ w) (hw1 : w ≠ 1) (h1 : t 1 = some e1) (hr1 : r ≠ 1) (hdw : d ≠ w) :
    PipeSet.connectStdout ⟨some 1, some (r, w)⟩ t d =
      some (((((t.close r).set d (some e1)).close w).set 1 (some e)), some d) := by
  unfold PipeSet.connectStdout
  have e1' : (t.close r) 1 = some e1 := by simp [Table.close, Table.set, Ne.symm hr1, h1]
  have e2 : ((t.close r).set d (some e1)) w = some e := by
    simp [Table.close, Table.set, Ne.symm hrw, Ne.symm hdw, hw]
  simp only [hw1, if_false, if_true, Table.dupTo, e1', Table.dup2, e2, Option.some.injEq, Prod.mk.injEq, and_true]
  funext fd
  simp only [Table.close, Table.set]
  grind

/-- the table `move_to_stdin_stdout` leaves: 0 is the previous pipe's reading end, 1 the next pipe's writing end
    (where there is such a pipe), the descriptors at which the parent kept the ends are closed, the rest is as it was -/
def PipeSet.connected (ps : PipeSet) (t : Table) (p q : Nat) : Table := fun fd =>
  if fd = 0 ∧ ps.readPrevious.isSome then some (.pr p)
  else if fd = 1 ∧ ps.next.isSome then some (.pw q)
  else if ps.readPrevious = some fd ∨ ps.next.map Prod.fst = some fd ∨ ps.next.map Prod.snd = some fd then none
  else t fd

/-- `PipeSet::move_to_stdin_stdout` succeeds and leaves exactly `connected`, in all its five cases (no next pipe;
    no previous pipe; the writer already at 1; the previous reader at 1, moved out of the way first; the plain case),
    whatever unused descriptor `d` the special case is handed.  (Of `PInv` this takes what the parent holds, not
    that it holds nothing else: that is for reading the hygiene off `connected`.) -/
theorem moveToStdinStdout_eq (t : Table) (ps : PipeSet) (p q : Nat) (d : Fd) (pq : p ≠ q)
    (prev : ∀ rp, ps.readPrevious = some rp → t rp = some (.pr p))
    (next : ∀ r w, ps.next = some (r, w) → t r = some (.pr q) ∧ t w = some (.pw q))
    (hd : ∀ r w, ps.next = some (r, w) → d ≠ r → t d = none) :
    ps.moveToStdinStdout t d = some (ps.connected t p q) := by
  obtain ⟨rp, nx⟩ := ps
  simp only at prev next hd
  -- each half leaves an explicit composition of `Table.set`s (`connectStdout_eq`, `connectStdin_eq`); it agrees with
  -- `connected` at every `fd`, by comparing `fd` with 0, 1 and the descriptors that were closed
  have close : ∀ T : Table, (∀ fd, T fd = PipeSet.connected ⟨rp, nx⟩ t p q fd) →
      some T = some (PipeSet.connected ⟨rp, nx⟩ t p q) := fun T h => congrArg some (funext h)
  unfold PipeSet.moveToStdinStdout
  cases nx with
  | none =>
    simp only [PipeSet.connectStdout]
    cases rp with
    | none => exact close _ fun fd => by simp [PipeSet.connected]
    | some a =>
      rw [connectStdin_eq (prev a rfl)]
      exact close _ fun fd => by simp only [PipeSet.connected, Table.close, Table.set]; grind
  | some rw =>
    obtain ⟨r, w⟩ := rw
    have ⟨hr, hw⟩ := next r w rfl
    have hd := hd r w rfl
    have hrw : r ≠ w := fun e => by rw [e, hw] at hr; cases hr
    cases rp with
    | none =>
      simp only [connectStdout_eq (rp := none) hw hrw nofun, connectStdin]
      exact close _ fun fd => by simp only [PipeSet.connected, Table.close, Table.set]; grind
    | some a =>
      have ha := prev a rfl
      have har : a ≠ r := fun e => by rw [e, hr] at ha; cases ha; exact pq rfl
      have haw : a ≠ w := fun e => by rw [e, hw] at ha; cases ha
      clear prev next
      by_cases hs : a = 1 ∧ w ≠ 1
      · obtain ⟨rfl, hw1⟩ := hs
        have hdw : d ≠ w := fun e => by
          by_cases h : d = r
          · exact hrw (h ▸ e)
          · rw [← e, hd h] at hw; cases hw
        rw [connectStdout_special hw hrw hw1 ha (Ne.symm har) hdw]
        simp only
        rw [connectStdin_eq (e := .pr p) (by simp only [Table.close, Table.set]; grind)]
        exact close _ fun fd => by simp only [PipeSet.connected, Table.close, Table.set]; grind
      · rw [connectStdout_eq hw hrw (by grind)]
        simp only
        rw [connectStdin_eq (e := .pr p) (by simp only [Table.close, Table.set]; grind)]
        exact close _ fun fd => by simp only [PipeSet.connected, Table.close, Table.set]; grind

/- Below the conclusions speak of every descriptor `fd`.  The entry of the new table at `fd` is one of the few entries
   just written or the old entry `t fd`; which old entries refer to the two pipes is what `prev_only fd` and
   `next_only fd` say.  These two instances and the distinctness facts named before each block are all that `grind`
   is given: the ∀-`fd` hypotheses are cleared first, since instantiating them at every term in sight is what makes
   the search slow. -/
theorem shift_close_inv (t : Table) (ps : PipeSet) (p q q' : Nat)
    (hi : PInv t ps p q) (hq' : t.Fresh q') (hqq : q ≠ q') :
    PInv (ps.shiftClose t).2 (ps.shiftClose t).1 q q' := by
  obtain ⟨pq, prev, prev_only, next, next_only⟩ := hi
  obtain ⟨rp, nx⟩ := ps
  simp only at prev prev_only next next_only
  cases nx with
  | none =>
    cases rp <;> simp only [PipeSet.shiftClose, Table.close] <;>
      refine ⟨hqq, nofun, fun fd => ?_, nofun, fun fd => ?_⟩ <;>
      · have B := next_only fd; have C := hq' fd
        clear prev_only next_only prev next hq'
        grind [Table.set]
  | some rw =>
    obtain ⟨r, w⟩ := rw
    have hn := next r w rfl
    cases rp with
    | none =>
      simp only [PipeSet.shiftClose, Table.close]
      refine ⟨hqq, fun a' ha' => ?_, fun fd => ?_, nofun, fun fd => ?_⟩
      · -- the new previous reader `r` survives the close of `w`
        have hrw : r ≠ w := fun e => by rw [e, hn.2] at hn; cases hn.1
        cases ha'
        simp only [Table.set, hrw, if_false]
        exact hn.1
      all_goals
        have B := next_only fd; have C := hq' fd
        clear prev_only next_only prev next hq'
        grind [Table.set]
    | some a =>
      -- the previous reader is not the next one: they read different pipes
      have har : r ≠ a := fun e => by
        have ha := prev a rfl
        rw [← e, hn.1] at ha
        cases ha
        exact pq rfl
      simp only [PipeSet.shiftClose, Table.close]
      refine ⟨hqq, fun a' ha' => ?_, fun fd => ?_, nofun, fun fd => ?_⟩
      · -- the new previous reader `r` survives both closes
        have hrw : r ≠ w := fun e => by rw [e, hn.2] at hn; cases hn.1
        cases ha'
        simp only [Table.set, hrw, har, if_false]
        exact hn.1
      all_goals
        have B := next_only fd; have C := hq' fd
        clear prev_only next_only prev next hq'
        grind [Table.set]

theorem pinv_pipe {t : Table} {ps : PipeSet} {p q : Nat} {r w : Fd} (hi : PInv t ps p q) (hn : ps.next = none)
    (hrw : r ≠ w) (hr : t r = none) (hw : t w = none) :
    PInv (t.pipe q r w) { ps with next := some (r, w) } p q := by
  obtain ⟨pq, prev, prev_only, next, next_only⟩ := hi
  simp only [hn, Option.map_none, reduceCtorEq, imp_false] at next_only
  simp only [Table.pipe]
  refine ⟨pq, fun a ha => ?_, fun fd => ?_, fun r' w' e => ?_, fun fd => ?_⟩
  · have := prev a ha
    grind [Table.set]
  · have A := prev_only fd
    clear prev_only next_only prev next
    grind [Table.set]
  · grind [Table.set]
  · have B := next_only fd
    clear prev_only next_only prev next
    grind [Table.set]

theorem minUnused_spec (t : Table) (fuel lo : Nat) (h : ∃ fd : Nat, lo ≤ fd ∧ fd < lo + fuel ∧ t fd = none) :
    ∃ r : Nat, t.minUnused fuel lo = r ∧ t r = none ∧ lo ≤ r ∧ r < lo + fuel := by
  obtain ⟨fd, h1, h2, h3⟩ := h
  obtain ⟨g1, g2, g3⟩ := Common.lowest_le (fun d => (t d).isNone) t.minUnused (fun _ => rfl) (fun _ _ => rfl)
    h1 h2 (by rw [h3]; rfl)
  exact ⟨_, rfl, Option.isNone_iff_eq_none.1 g1, g2, by omega⟩

theorem alloc2_spec (t : Table) (h : ∃ a b : Nat, a < b ∧ b < 64 ∧ t a = none ∧ t b = none) :
    ∃ r w : Nat, alloc2 t = (r, w) ∧ r ≠ w ∧ t r = none ∧ t w = none := by
  obtain ⟨a, b, hab, hb, ha0, hb0⟩ := h
  unfold alloc2
  simp only
  obtain ⟨r, er, h1, _, _⟩ := minUnused_spec t 64 0 ⟨a, by omega, by omega, ha0⟩
  rw [er]
  have h2 : ∃ fd : Nat, 0 ≤ fd ∧ fd < 0 + 64 ∧ (t.set r (some Ent.file)) fd = none := by
    by_cases e : r = a
    · refine ⟨b, by omega, by omega, ?_⟩
      have : b ≠ r := by omega
      simp [Table.set, hb0, this]
    · refine ⟨a, by omega, by omega, ?_⟩
      have : a ≠ r := fun x => e x.symm
      simp [Table.set, ha0, this]
  obtain ⟨w, ew, h3, _, _⟩ := minUnused_spec (t.set r (some Ent.file)) 64 0 h2
  rw [ew]
  have hwr : w ≠ r := by
    intro e
    subst e
    simp [Table.set] at h3
  exact ⟨r, w, rfl, fun e => hwr e.symm, h1, by simpa [Table.set, hwr] using h3⟩

end YashModel.Pipe
