/-
  C14 — the transforming chain (TChain.lean), reachable states `TReach`: it is the general chain of GChain.lean
  with no allowance anywhere (`TChain.toG`), and its invariant `TChain.Inv` is that chain's `Cnt ∧ HoldOK ∧ Fin`
  (`TChain.inv_iff`: nobody exits early, so nobody dies of EPIPE); conservation as "`push` is constant", progress
  and what holds where every process has finished follow from GChainLemmas.lean.
-/
import YashModel.Pipe.TChain
import YashModel.Pipe.GChainLemmas
namespace YashModel.Pipe

variable {α : Type}

def TChain.toG : TChain α → GChain α
  | .sink inp r pc => .sink inp r pc
  | .fwd g inp h pc rest => .fwd g none inp h pc rest.toG

theorem TChain.toG_inp (s : TChain α) : s.toG.inp = s.inp := by cases s <;> rfl
theorem TChain.toG_headDone (s : TChain α) : s.toG.headDone = s.headDone := by cases s <;> rfl

theorem TChain.toG_mapInp (s : TChain α) (f : Fifo α → Fifo α) : (s.mapInp f).toG = s.toG.mapInp f := by
  cases s <;> rfl

theorem TChain.toG_received (s : TChain α) : s.toG.received = s.received := by
  induction s with
  | sink => rfl
  | fwd g inp h pc rest ih => exact ih

theorem TChain.toG_procs (s : TChain α) : s.toG.procs = s.procs := by
  induction s with
  | sink => rfl
  | fwd g inp h pc rest ih => simp only [TChain.toG, GChain.procs, TChain.procs, ih]

theorem TChain.toG_push (s : TChain α) (y : List α) : s.toG.push y = s.push y := by
  induction s generalizing y with
  | sink inp r pc => rfl
  | fwd g inp h pc rest ih => simp only [TChain.toG, GChain.push, TChain.push, takeO, ih]

theorem TChain.toG_step (c : Cfg) (s : TChain α) (i n k : Nat) :
    s.toG.step c i n k = (s.step c i n k).map TChain.toG := by
  induction s generalizing i with
  | sink inp r pc =>
    cases i with
    | zero =>
      simp only [TChain.toG, GChain.step, TChain.step, gsinkStep, tsinkStep]
      cases pc with
      | run =>
        rcases inp.read n with ⟨_ | bs, p⟩
        · rfl
        · simp only; split <;> rfl
      | wait => simp only; split <;> rfl
      | done => rfl
    | succ j => rfl
  | fwd g inp h pc rest ih =>
    cases i with
    | zero =>
      simp only [TChain.toG, GChain.step, TChain.step, gfwdStep, tfwdStep, TChain.toG_inp]
      cases pc with
      | rd =>
        simp only [rdSize, Option.elim_none, Option.map_none]
        rcases inp.read n with ⟨_ | bs, p⟩
        · rfl
        · simp only
          split <;> simp only [Option.map_some, TChain.toG, TChain.toG_mapInp]
      | rwait => simp only; split <;> rfl
      | wr =>
        simp only
        split
        · rfl
        · rcases rest.inp.write c (h.take k) with ⟨_ | _ | w, p⟩
          · simp only [Option.map_some, TChain.toG, TChain.toG_mapInp]
          · rfl
          · simp only; split <;> simp only [Option.map_some, TChain.toG, TChain.toG_mapInp]
      | wwait => simp only; split <;> rfl
      | closed => rfl
      | failed => rfl
    | succ j =>
      simp only [TChain.toG, GChain.step, TChain.step, ih, Option.map_map]
      rfl

theorem TChain.toG_step_some {c : Cfg} {s s' : TChain α} {i n k : Nat} (h : s.step c i n k = some s') :
    s.toG.step c i n k = some s'.toG := by
  rw [TChain.toG_step, h]; rfl

inductive TReach (c : Cfg) (st : List ((α → List α) × List α)) (x : List α) : TChain α → Prop
  | init : TReach c st x (TChain.init st x)
  | step {s s' : TChain α} (i n k : Nat) :
      TReach c st x s → 1 ≤ n → 1 ≤ k → s.step c i n k = some s' → TReach c st x s'

def TChain.Inv : TChain α → Prop
  | .sink inp _ pc =>
      inp.readers = (if pc = .done then 0 else 1) ∧ (pc = .done → inp.content = [] ∧ inp.writers = 0)
  | .fwd _ inp hold pc rest =>
      inp.readers = (if pc = .closed then 0 else 1) ∧
      rest.inp.writers = (if pc = .closed then 0 else 1) ∧
      pc ≠ .failed ∧
      (pc = .closed → hold = [] ∧ inp.content = [] ∧ inp.writers = 0) ∧
      (pc = .rd ∨ pc = .rwait → hold = []) ∧
      rest.Inv

theorem TChain.Inv.not_gone {s : TChain α} (hi : s.Inv) : s.toG.headGone = false := by
  cases s with
  | sink => rfl
  | fwd g inp h pc rest =>
    have h3 : pc ≠ .failed := hi.2.2.1
    simp [TChain.toG, GChain.headGone, h3]

theorem TChain.inv_iff (s : TChain α) : s.Inv ↔ s.toG.Cnt ∧ s.toG.HoldOK ∧ s.toG.Fin := by
  induction s with
  | sink inp r pc =>
    simp only [TChain.Inv, TChain.toG, GChain.Cnt, GChain.HoldOK, GChain.Fin, true_and]
  | fwd g inp h pc rest ih =>
    simp only [TChain.Inv, TChain.toG, GChain.Cnt, GChain.HoldOK, GChain.Fin, TChain.toG_inp, reduceCtorEq,
      false_or, ih]
    constructor
    · rintro ⟨h1, h2, h3, h4, h5, c, o, f⟩
      simp only [h3, or_false]
      exact ⟨⟨h1, h2, c⟩, ⟨h5, o⟩, h4, False.elim, f⟩
    · rintro ⟨⟨h1, h2, c⟩, ⟨h5, o⟩, h4, hf, f⟩
      -- a stage dies of EPIPE only below one that exited early, and below this one nobody has
      have h3 : pc ≠ .failed := fun e => by
        have := (ih.mpr ⟨c, o, f⟩).not_gone
        rw [hf e] at this
        cases this
      simp only [h3, or_false] at h1 h2
      exact ⟨h1, h2, h3, h4, h5, c, o, f⟩

theorem TChain.toG_allDone {s : TChain α} (hi : s.Inv) : s.toG.allDone = s.allDone := by
  induction s with
  | sink => rfl
  | fwd g inp h pc rest ih =>
    obtain ⟨_, _, h3, _, _, h6⟩ := hi
    simp only [TChain.toG, TChain.allDone, GChain.allDone, ih h6, beq_eq_false_iff_ne.mpr h3, Bool.or_false]

theorem TChain.step_inv {c : Cfg} {s s' : TChain α} {i n k : Nat} (hn : 1 ≤ n) (hi : s.Inv)
    (h : s.step c i n k = some s') :
    s'.Inv ∧ s'.inp.writers = s.inp.writers ∧ ∀ y, s'.push y = s.push y := by
  have hg := TChain.toG_step_some h
  obtain ⟨hc, ho, hf⟩ := (TChain.inv_iff s).mp hi
  have ⟨c', w'⟩ := GChain.step_cnt hc hg
  have ⟨o', p'⟩ := GChain.step_push ho hg
  exact ⟨(TChain.inv_iff s').mpr ⟨c', o', GChain.step_fin hn hc ho hf hg⟩,
    by simpa only [TChain.toG_inp] using w', fun y => by simpa only [TChain.toG_push] using p' y⟩

theorem TChain.stages_inp (st : List ((α → List α) × List α)) :
    (TChain.stages st).inp = { content := [], readers := 1, writers := 1 } := by
  cases st with
  | nil => rfl
  | cons a t => obtain ⟨g, pre⟩ := a; rfl

theorem TChain.stages_inv (st : List ((α → List α) × List α)) : (TChain.stages st).Inv := by
  induction st with
  | nil => simp [TChain.stages, TChain.Inv]
  | cons a t ih =>
    obtain ⟨g, pre⟩ := a
    simp only [TChain.stages, TChain.Inv]
    exact ⟨by simp, by simp [TChain.stages_inp], by simp, by simp, by simp, ih⟩

theorem TChain.stages_push (st : List ((α → List α) × List α)) (y : List α) :
    (TChain.stages st).push y = stagesFun st y := by
  induction st generalizing y with
  | nil => simp [TChain.stages, TChain.push, stagesFun]
  | cons a t ih =>
    obtain ⟨g, pre⟩ := a
    simp [TChain.stages, TChain.push, stagesFun, ih]

theorem TReach.inv {c : Cfg} {st : List ((α → List α) × List α)} {x : List α} {s : TChain α}
    (hr : TReach c st x s) : s.Inv ∧ s.inp.writers = 0 ∧ s.push [] = stagesFun st x := by
  induction hr with
  | init =>
    refine ⟨?_, rfl, ?_⟩
    · simp only [TChain.init, TChain.Inv]
      exact ⟨by simp, by simp [TChain.stages_inp], by simp, by simp, by simp, TChain.stages_inv st⟩
    · simp [TChain.init, TChain.push, TChain.stages_push]
  | step i n k _ hn _ hs ih =>
    obtain ⟨a, b, d⟩ := ih
    have ⟨a', b', d'⟩ := TChain.step_inv hn a hs
    exact ⟨a', by rw [b', b], by rw [d' [], d]⟩

theorem TChain.progress (c : Cfg) (hv : c.Valid) (s : TChain α) (hi : s.Inv) :
    s.allDone = true ∨ (∃ i, i < s.procs ∧ ∀ n k, (s.step c i n k).isSome = true) ∨
      (s.inp.content = [] ∧ 0 < s.inp.writers ∧ s.headDone = false) := by
  have := GChain.progress c hv s.toG ((TChain.inv_iff s).mp hi).1
  simpa only [TChain.toG_allDone hi, TChain.toG_procs, TChain.toG_step, Option.isSome_map, TChain.toG_inp,
    TChain.toG_headDone] using this

theorem TChain.stuck_allDone {c : Cfg} (hv : c.Valid) {s : TChain α} (hi : s.Inv) (hw : s.inp.writers = 0)
    (h : ∀ i, i < s.procs → ∃ n k, s.step c i n k = none) : s.allDone = true := by
  rw [← TChain.toG_allDone hi]
  refine GChain.stuck_allDone hv ((TChain.inv_iff s).mp hi).1 (by rw [TChain.toG_inp]; exact hw) fun i hil => ?_
  obtain ⟨n, k, e⟩ := h i (by rwa [TChain.toG_procs] at hil)
  exact ⟨n, k, by rw [TChain.toG_step, e]; rfl⟩

theorem TChain.allDone_push {s : TChain α} (hi : s.Inv) (h : s.allDone = true) : s.push [] = s.received := by
  have := GChain.allDone_push ((TChain.inv_iff s).mp hi).2.2 (by rw [TChain.toG_allDone hi]; exact h)
  rwa [TChain.toG_push, TChain.toG_received] at this

end YashModel.Pipe
