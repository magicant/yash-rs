/-
  C14 — the wake-up law of the operation-sequence machine (Ops.lean) for ALL operation histories: every transition
  of the FIFO with its waker sets is wake-safe (`WakeSafe`); `OInv` — every parked `select` is accounted for
  (`EntryOK`), its id is below `nextId`, ids are distinct — is preserved by every operation, and under it
  `lostWakeup` is false.
-/
import YashModel.Pipe.Ops
import YashModel.Pipe.Lemmas
namespace YashModel.Pipe

theorem mem_insertId {l : List Nat} {i j : Nat} : j ∈ insertId l i ↔ j ∈ l ∨ j = i := by
  unfold insertId
  split
  next h => exact ⟨Or.inl, fun o => o.elim id (· ▸ List.contains_iff_mem.1 h)⟩
  next => rw [List.mem_append, List.mem_singleton]

theorem mem_foldl_insertId (l f : List Nat) (j : Nat) : j ∈ l.foldl insertId f ↔ j ∈ f ∨ j ∈ l := by
  induction l generalizing f with
  | nil => simp
  | cons a t ih =>
    simp only [List.foldl_cons, ih, mem_insertId, List.mem_cons, or_assoc]

variable {α : Type}

/-- one direction (reading or writing) of `WakeSafe`: a registered waker stays registered or fires, and readiness
    turns true only together with the firing of every registered waker -/
abbrev WakeSide (pd pd' fired' : List Nat) (ry ry' : Bool) : Prop :=
  (∀ i, i ∈ pd → i ∈ pd' ∨ i ∈ fired') ∧ (ry = false → ry' = false ∨ ∀ i, i ∈ pd → i ∈ fired')

theorem WakeSide.trans {pd pd' pd'' fired' fired'' : List Nat} {ry ry' ry'' : Bool}
    (a : WakeSide pd pd' fired' ry ry') (b : WakeSide pd' pd'' fired'' ry' ry'')
    (hf : ∀ i, i ∈ fired' → i ∈ fired'') : WakeSide pd pd'' fired'' ry ry'' := by
  refine ⟨fun i h => ?_, fun h => ?_⟩
  · rcases a.1 i h with h | h
    · exact b.1 i h
    · exact Or.inr (hf i h)
  · rcases a.2 h with h1 | h1
    · rcases b.2 h1 with h2 | h2
      · exact Or.inl h2
      · refine Or.inr fun i hi => ?_
        rcases a.1 i hi with h3 | h3
        · exact h2 i h3
        · exact hf i h3
    · exact Or.inr fun i hi => hf i (h1 i hi)

theorem WakeSide.entry {pd pd' fired' : List Nat} {ry ry' : Bool} (t : WakeSide pd pd' fired' ry ry')
    {i : Nat} (hr : ry = false) (hi : i ∈ pd) (hf : i ∉ fired') : ry' = false ∧ i ∈ pd' :=
  ⟨(t.2 hr).resolve_right fun h => hf (h i hi), (t.1 i hi).resolve_right hf⟩

/-- a transition `(p, w) → (p', w')` of a FIFO with its waker sets is *wake-safe*: fired wakers stay fired, and
    `WakeSide` holds for reading and for writing -/
structure WakeSafe (c : Cfg) (p : Fifo α) (w : Wakers) (p' : Fifo α) (w' : Wakers) : Prop where
  fired : ∀ i, i ∈ w.fired → i ∈ w'.fired
  rd : WakeSide w.pendR w'.pendR w'.fired p.readyR p'.readyR
  wr : WakeSide w.pendW w'.pendW w'.fired (p.readyW c) (p'.readyW c)

theorem WakeSafe.refl (c : Cfg) (p : Fifo α) (w : Wakers) : WakeSafe c p w p w :=
  ⟨fun _ h => h, ⟨fun _ h => Or.inl h, fun h => Or.inl h⟩, fun _ h => Or.inl h, fun h => Or.inl h⟩

theorem WakeSafe.trans {c : Cfg} {p p' p'' : Fifo α} {w w' w'' : Wakers}
    (a : WakeSafe c p w p' w') (b : WakeSafe c p' w' p'' w'') : WakeSafe c p w p'' w'' :=
  ⟨fun i h => b.fired i (a.fired i h), a.rd.trans b.rd b.fired, a.wr.trans b.wr b.fired⟩

theorem wakeR_wakeSafe (c : Cfg) (p p' : Fifo α) (w : Wakers)
    (hw : p.readyW c = false → p'.readyW c = false) : WakeSafe c p w p' w.wakeR := by
  refine ⟨fun i h => ?_, ⟨fun i h => Or.inr ?_, fun _ => Or.inr fun i h => ?_⟩, fun i h => Or.inl h,
    fun h => Or.inl (hw h)⟩ <;>
    simp only [Wakers.wakeR, mem_foldl_insertId] <;> simp [h]

theorem wakeW_wakeSafe (c : Cfg) (p p' : Fifo α) (w : Wakers)
    (hr : p.readyR = false → p'.readyR = false) : WakeSafe c p w p' w.wakeW := by
  refine ⟨fun i h => ?_, ⟨fun i h => Or.inl h, fun h => Or.inl (hr h)⟩, fun i h => Or.inr ?_,
    fun _ => Or.inr fun i h => ?_⟩ <;>
    simp only [Wakers.wakeW, mem_foldl_insertId] <;> simp [h]

theorem wfWrite_wakeSafe (c : Cfg) (p : Fifo α) (w : Wakers) (buf : List α) :
    WakeSafe c p w (wfWrite c p w buf none).2.1 (wfWrite c p w buf none).2.2 := by
  unfold wfWrite
  split
  next p' h => rw [(write_epipe h).2]; exact WakeSafe.refl c p w
  next p' h => rw [(write_block h).1]; exact WakeSafe.refl c p w
  next n p' h =>
    have ⟨_, hp, _, _, _, _⟩ := write_wrote h
    refine wakeR_wakeSafe c p p' w fun hf => ?_
    rw [readyW_false_iff] at hf ⊢
    rw [hp]
    simp only [List.length_append]
    omega

theorem wfRead_wakeSafe (c : Cfg) (p : Fifo α) (w : Wakers) (n : Nat) :
    WakeSafe c p w (wfRead p w n none).2.1 (wfRead p w n none).2.2 := by
  unfold wfRead
  split
  next p' h => rw [(read_block h).1]; exact WakeSafe.refl c p w
  next bs p' h =>
    by_cases hn : n = 0
    · subst hn
      cases h
      exact WakeSafe.refl c p w
    · simp only [hn, if_false]
      have ⟨_, hp, _⟩ := read_data (by omega) h
      refine wakeW_wakeSafe c p p' w fun hf => ?_
      rw [readyR_false_iff] at hf ⊢
      rw [hp]
      simp only [List.length_drop]
      omega

theorem mem_wakeRW (w : Wakers) (i : Nat) :
    i ∈ w.wakeR.wakeW.fired ↔ i ∈ w.fired ∨ i ∈ w.pendR ∨ i ∈ w.pendW := by
  simp only [Wakers.wakeR, Wakers.wakeW, mem_foldl_insertId, or_assoc]

theorem wfClose_wakeSafe (c : Cfg) (p : Fifo α) (w : Wakers) (r wr : Bool) :
    WakeSafe c p w (wfClose p w r wr).1 (wfClose p w r wr).2 := by
  unfold wfClose
  simp only
  split
  next h =>
    refine ⟨fun i h => ?_, ⟨fun i h => Or.inr ?_, fun _ => Or.inr fun i h => ?_⟩, fun i h => Or.inr ?_,
      fun _ => Or.inr fun i h => ?_⟩ <;> rw [mem_wakeRW] <;> simp [h]
  next h =>
    exact ⟨fun _ h => h, ⟨fun _ h => Or.inl h, fun hf => Or.inl (readyR_closeFd hf fun e => h (Or.inr e))⟩,
      fun _ h => Or.inl h, fun hf => Or.inl (readyW_closeFd hf fun e => h (Or.inl e))⟩

theorem pollWriteW_wakeSafe (c : Cfg) (o : Ofd) (p : Fifo α) (w : Wakers) (buf : List α) :
    WakeSafe c p w (o.pollWriteW c p w buf).2.1 (o.pollWriteW c p w buf).2.2 := by
  have t := wfWrite_wakeSafe c p w buf
  unfold Ofd.pollWriteW
  split
  · exact WakeSafe.refl c p w
  · split <;> (rename_i h; rw [h] at t; exact t)

theorem pollWriteFullW_wakeSafe (c : Cfg) (o : Ofd) (fuel : Nat) (p : Fifo α) (w : Wakers) (rem : List α) (bw : Nat) :
    WakeSafe c p w (o.pollWriteFullW c fuel p w rem bw).2.1 (o.pollWriteFullW c fuel p w rem bw).2.2 := by
  induction fuel generalizing p w rem bw with
  | zero => exact WakeSafe.refl c p w
  | succ fuel ih =>
    unfold Ofd.pollWriteFullW
    split
    · exact WakeSafe.refl c p w
    · have t := pollWriteW_wakeSafe c o p w rem
      split
      next n p' w' h =>
        rw [h] at t
        split
        · exact t
        · exact t.trans (ih p' w' _ _)
      next e p' w' h => rw [h] at t; exact t
      next p' w' h => rw [h] at t; exact t

theorem sysWriteW_wakeSafe (c : Cfg) (o : Ofd) (p : Fifo α) (w : Wakers) (buf : List α) :
    WakeSafe c p w (o.sysWriteW c p w buf).2.1 (o.sysWriteW c p w buf).2.2 :=
  pollWriteFullW_wakeSafe c o _ p w buf 0

theorem sysReadW_wakeSafe (c : Cfg) (o : Ofd) (p : Fifo α) (w : Wakers) (n : Nat) :
    WakeSafe c p w (o.sysReadW p w n).2.2.1 (o.sysReadW p w n).2.2.2 := by
  have t := wfRead_wakeSafe c p w n
  unfold Ofd.sysReadW
  split
  · exact WakeSafe.refl c p w
  · split <;> (rename_i h; rw [h] at t; exact t)

theorem openFd_wakeSafe (c : Cfg) (p : Fifo α) (w : Wakers) (r wr : Bool) : WakeSafe c p w (p.openFd r wr) w := by
  refine ⟨fun _ h => h, ⟨fun _ h => Or.inl h, fun hf => Or.inl ?_⟩, fun _ h => Or.inl h, fun hf => Or.inl ?_⟩
  · rw [readyR_false_iff] at hf ⊢
    simp only [Fifo.openFd]
    omega
  · rw [readyW_false_iff] at hf ⊢
    simp only [Fifo.openFd]
    omega

/-- a parked `select` is accounted for: its waker has fired, or its slot is open and for every set it is in the
    descriptor can be read (written), the FIFO is not ready for it, and its waker is registered in the matching
    waker set -/
def EntryOK (slots : List (Option Ofd)) (f : Fifo Byte) (w : Wakers) (e : Nat × Nat × Bool × Bool) : Prop :=
  e.1 ∈ w.fired ∨ ∃ o, slots.getD e.2.1 none = some o ∧
    (e.2.2.1 = true → o.readable = true ∧ f.readyR = false ∧ e.1 ∈ w.pendR) ∧
    (e.2.2.2 = true → o.writable = true ∧ f.readyW cfg = false ∧ e.1 ∈ w.pendW)

theorem EntryOK.trans {slots : List (Option Ofd)} {f f' : Fifo Byte} {w w' : Wakers} {e : Nat × Nat × Bool × Bool}
    (h : EntryOK slots f w e) (t : WakeSafe cfg f w f' w') : EntryOK slots f' w' e := by
  by_cases hf : e.1 ∈ w'.fired
  · exact Or.inl hf
  · rcases h with h | ⟨o, hs, hr, hw⟩
    · exact absurd (t.fired _ h) hf
    · refine Or.inr ⟨o, hs, fun h1 => ?_, fun h1 => ?_⟩
      · obtain ⟨a, b, d⟩ := hr h1
        exact ⟨a, t.rd.entry b d hf⟩
      · obtain ⟨a, b, d⟩ := hw h1
        exact ⟨a, t.wr.entry b d hf⟩

/-- `EntryOK` looks at the waker sets only through the memberships of the entry's own id -/
theorem EntryOK.congr {slots : List (Option Ofd)} {f : Fifo Byte} {w w' : Wakers} {e : Nat × Nat × Bool × Bool}
    (h : EntryOK slots f w e) (hf : e.1 ∈ w.fired → e.1 ∈ w'.fired) (hr : e.1 ∈ w.pendR → e.1 ∈ w'.pendR)
    (hw : e.1 ∈ w.pendW → e.1 ∈ w'.pendW) : EntryOK slots f w' e := by
  rcases h with h | ⟨o, hs, a, b⟩
  · exact Or.inl (hf h)
  · exact Or.inr ⟨o, hs, fun h1 => ⟨(a h1).1, (a h1).2.1, hr (a h1).2.2⟩,
      fun h1 => ⟨(b h1).1, (b h1).2.1, hw (b h1).2.2⟩⟩

/-- … and at the slots only through the readable / writable bits of its own slot -/
theorem EntryOK.slots {slots slots' : List (Option Ofd)} {f : Fifo Byte} {w : Wakers} {e : Nat × Nat × Bool × Bool}
    (h : EntryOK slots f w e)
    (hs : ∀ o, slots.getD e.2.1 none = some o →
      ∃ o', slots'.getD e.2.1 none = some o' ∧ o'.readable = o.readable ∧ o'.writable = o.writable) :
    EntryOK slots' f w e := by
  rcases h with h | ⟨o, ho, a, b⟩
  · exact Or.inl h
  · obtain ⟨o', ho', h1, h2⟩ := hs o ho
    exact Or.inr ⟨o', ho', fun x => by rw [h1]; exact a x, fun x => by rw [h2]; exact b x⟩

structure OInv (st : OpState) : Prop where
  ok : ∀ e, e ∈ st.parked → EntryOK st.slots st.fifo st.wk e
  fresh : ∀ e, e ∈ st.parked → e.1 < st.nextId
  inj : ∀ a, a ∈ st.parked → ∀ b, b ∈ st.parked → a.1 = b.1 → a = b

theorem OInv.init : OInv {} := ⟨by simp, by simp, by simp⟩

theorem OInv.no_lost {st : OpState} (hi : OInv st) : lostWakeup st = false := by
  unfold lostWakeup
  rw [List.any_eq_false]
  rintro ⟨id, k, r, w⟩ hm
  rcases hi.ok _ hm with h | ⟨o, hs, a, b⟩
  · have h' : id ∈ st.wk.fired := h
    simp [h']
  · have hs' : slotGet st k = some o := hs
    have a' : r = true → o.readable = true ∧ st.fifo.readyR = false ∧ id ∈ st.wk.pendR := a
    have b' : w = true → o.writable = true ∧ st.fifo.readyW cfg = false ∧ id ∈ st.wk.pendW := b
    clear hs a b
    simp only [hs']
    cases r <;> cases w <;> simp_all

theorem OInv.of_trans {st : OpState} (hi : OInv st) {f' : Fifo Byte} {w' : Wakers}
    (t : WakeSafe cfg st.fifo st.wk f' w') (a d : List Byte) :
    OInv { st with fifo := f', wk := w', accepted := a, delivered := d } :=
  ⟨fun e he => (hi.ok e he).trans t, hi.fresh, hi.inj⟩

theorem getD_append_some {l : List (Option Ofd)} {k : Nat} {o : Ofd} (x : Option Ofd)
    (h : l.getD k none = some o) : (l ++ [x]).getD k none = some o := by
  rw [List.getD_eq_getElem?_getD] at h ⊢
  have hk : k < l.length := by
    by_cases hk : k < l.length
    · exact hk
    · rw [List.getElem?_eq_none (by omega)] at h
      simp at h
  rw [List.getElem?_append_left hk]
  exact h

theorem getD_set_ne {l : List (Option Ofd)} {k j : Nat} (v : Option Ofd) (h : j ≠ k) :
    (l.set k v).getD j none = l.getD j none := by
  rw [List.getD_eq_getElem?_getD, List.getD_eq_getElem?_getD, List.getElem?_set_ne (Ne.symm h)]

theorem getD_set_same {l : List (Option Ofd)} {k : Nat} {o : Ofd} (v : Ofd)
    (h : l.getD k none = some o) : (l.set k (some v)).getD k none = some v := by
  rw [List.getD_eq_getElem?_getD] at h ⊢
  have hk : k < l.length := by
    by_cases hk : k < l.length
    · exact hk
    · rw [List.getElem?_eq_none (by omega)] at h
      simp at h
  rw [List.getElem?_set_self hk]
  rfl

/-- the waker sets after the harness dropped the `select` futures parked on slot `k` -/
def dropParked (st : OpState) (k : Nat) : Wakers :=
  let gone := (st.parked.filter fun e => e.2.1 == k).map (·.1)
  { pendR := st.wk.pendR.filter (!gone.contains ·), pendW := st.wk.pendW.filter (!gone.contains ·),
    fired := st.wk.fired.filter (!gone.contains ·) }

theorem close_inv (st : OpState) (k : Nat) (hi : OInv st) (f : Fifo Byte) (wk' : Wakers)
    (t : WakeSafe cfg st.fifo (dropParked st k) f wk') :
    OInv { st with fifo := f, wk := wk', parked := st.parked.filter (fun e => e.2.1 != k),
                   slots := st.slots.set k none } := by
  refine ⟨fun e he => ?_, fun e he => hi.fresh e (List.mem_filter.mp he).1,
    fun a ha b hb => hi.inj a (List.mem_filter.mp ha).1 b (List.mem_filter.mp hb).1⟩
  obtain ⟨hep, hek⟩ := List.mem_filter.mp he
  have hek' : e.2.1 ≠ k := by simpa using hek
  have hng : ¬ e.1 ∈ (st.parked.filter fun e => e.2.1 == k).map (·.1) := by
    intro hm
    obtain ⟨e', he', hid⟩ := List.mem_map.mp hm
    obtain ⟨he'p, he'k⟩ := List.mem_filter.mp he'
    have := hi.inj e' he'p e hep hid
    subst this
    exact hek' (by simpa using he'k)
  have hkeep : (!((st.parked.filter fun e => e.2.1 == k).map (·.1)).contains e.1) = true := by
    simpa using hng
  have h0 : EntryOK st.slots st.fifo (dropParked st k) e := by
    refine (hi.ok e hep).congr (fun h => ?_) (fun h => ?_) (fun h => ?_) <;>
      (simp only [dropParked, List.mem_filter]; exact ⟨h, hkeep⟩)
  refine (h0.trans t).slots fun o ho => ⟨o, ?_, rfl, rfl⟩
  show (st.slots.set k none).getD e.2.1 none = some o
  rw [getD_set_ne _ hek']
  exact ho

/-- a `select` that is not ready, seen from its entry: every set it is in is really not ready and after the
    registration its waker is in the matching set -/
theorem select_pending {o : Ofd} {f : Fifo Byte} {w w' : Wakers} {r wr : Bool} {id : Nat}
    (h : wfSelect cfg o f w r wr id = (none, w')) :
    w'.fired = w.fired ∧ (∀ j, j ∈ w.pendR → j ∈ w'.pendR) ∧ (∀ j, j ∈ w.pendW → j ∈ w'.pendW) ∧
    (r = true → o.readable = true ∧ f.readyR = false ∧ id ∈ w'.pendR) ∧
    (wr = true → o.writable = true ∧ f.readyW cfg = false ∧ id ∈ w'.pendW) := by
  unfold wfSelect at h
  simp only at h
  split at h
  · simp at h
  · rename_i hnr
    simp only [Prod.mk.injEq, true_and] at h
    subst h
    simp only [Bool.or_eq_true, not_or, Bool.not_eq_true, Bool.and_eq_false_iff] at hnr
    refine ⟨rfl, fun j hj => ?_, fun j hj => ?_, fun hr => ?_, fun hw => ?_⟩
    · simp only; split
      · exact mem_insertId.mpr (Or.inl hj)
      · exact hj
    · simp only; split
      · exact mem_insertId.mpr (Or.inl hj)
      · exact hj
    · subst hr
      have := hnr.1
      simp only [Bool.true_eq_false, false_or, Bool.or_eq_false_iff, Bool.not_eq_false'] at this
      exact ⟨this.1, this.2, by simp [mem_insertId]⟩
    · subst hw
      have := hnr.2
      simp only [Bool.true_eq_false, false_or, Bool.or_eq_false_iff, Bool.not_eq_false'] at this
      exact ⟨this.1, this.2, by simp [mem_insertId]⟩

theorem opStep_inv (st : OpState) (i : Nat) (op : Op) (hi : OInv st) : OInv (opStep st i op).2.1 := by
  cases op with
  | openFd r w =>
    simp only [opStep]
    split
    · exact hi
    · rename_i f hf
      have hf' : f = st.fifo.openFd r w := by
        unfold Fifo.openNonblock at hf
        split at hf
        · simp at hf
        · simpa using hf.symm
      subst hf'
      refine ⟨fun e he => ?_, hi.fresh, hi.inj⟩
      exact ((hi.ok e he).trans (openFd_wakeSafe cfg st.fifo st.wk r w)).slots
        fun o ho => ⟨o, getD_append_some _ ho, rfl, rfl⟩
  | setNb k b =>
    simp only [opStep]
    split
    · exact hi
    · rename_i o ho
      refine ⟨fun e he => ?_, hi.fresh, hi.inj⟩
      refine (hi.ok e he).slots fun o' ho' => ?_
      by_cases hk : e.2.1 = k
      · rw [hk] at ho' ⊢
        have : o' = o := by
          have := ho'.symm.trans ho
          simpa using this
        subst this
        exact ⟨_, getD_set_same _ ho', rfl, rfl⟩
      · exact ⟨o', by rw [getD_set_ne _ hk]; exact ho', rfl, rfl⟩
  | selBad => exact hi
  | sel => exact hi
  | write k n =>
    simp only [opStep]
    split
    · exact hi
    · rename_i o ho
      have t := sysWriteW_wakeSafe cfg o st.fifo st.wk (opData i n)
      generalize o.sysWriteW cfg st.fifo st.wk (opData i n) = r at t
      obtain ⟨res, f, wk'⟩ := r
      exact hi.of_trans t _ _
  | dwrite k n =>
    simp only [opStep]
    split
    · exact hi
    · rename_i o ho
      have t := pollWriteW_wakeSafe cfg o st.fifo st.wk (opData i n)
      generalize o.pollWriteW cfg st.fifo st.wk (opData i n) = r at t
      obtain ⟨res, f, wk'⟩ := r
      exact hi.of_trans t _ _
  | read k n =>
    simp only [opStep]
    split
    · exact hi
    · rename_i o ho
      have t := sysReadW_wakeSafe cfg o st.fifo st.wk n
      generalize o.sysReadW st.fifo st.wk n = r at t
      obtain ⟨res, bs, f, wk'⟩ := r
      exact hi.of_trans t _ _
  | dread k n =>
    simp only [opStep]
    split
    · exact hi
    · rename_i o ho
      have t := sysReadW_wakeSafe cfg o st.fifo st.wk n
      generalize o.sysReadW st.fifo st.wk n = r at t
      obtain ⟨res, bs, f, wk'⟩ := r
      exact hi.of_trans t _ _
  | close k =>
    simp only [opStep]
    split
    · exact hi
    · rename_i o ho
      have t := wfClose_wakeSafe cfg st.fifo (dropParked st k) o.readable o.writable
      simp only [dropParked] at t
      generalize wfClose st.fifo _ o.readable o.writable = r at t
      obtain ⟨f, wk'⟩ := r
      exact close_inv st k hi f wk' t
  | park k r w =>
    simp only [opStep]
    split
    · exact hi
    · rename_i o ho
      split
      · exact hi
      · rename_i wk' hsel
        obtain ⟨hf, hpr, hpw, hr, hw⟩ := select_pending hsel
        refine ⟨fun e he => ?_, fun e he => ?_, fun a ha b hb hab => ?_⟩
        · rcases List.mem_append.mp he with he | he
          · exact (hi.ok e he).congr (fun h => by rw [hf]; exact h) (hpr _) (hpw _)
          · have : e = (st.nextId, k, r, w) := by simpa using he
            subst this
            exact Or.inr ⟨o, ho, hr, hw⟩
        · rcases List.mem_append.mp he with he | he
          · exact Nat.lt_succ_of_lt (hi.fresh e he)
          · have : e = (st.nextId, k, r, w) := by simpa using he
            subst this
            exact Nat.lt_succ_self _
        · rcases List.mem_append.mp ha with ha | ha <;> rcases List.mem_append.mp hb with hb | hb
          · exact hi.inj a ha b hb hab
          · have : b = (st.nextId, k, r, w) := by simpa using hb
            subst this
            have := hi.fresh a ha
            simp only at hab
            omega
          · have : a = (st.nextId, k, r, w) := by simpa using ha
            subst this
            have := hi.fresh b hb
            simp only at hab
            omega
          · have h1 : a = (st.nextId, k, r, w) := by simpa using ha
            have h2 : b = (st.nextId, k, r, w) := by simpa using hb
            rw [h1, h2]
  | poll j =>
    simp only [opStep]
    split
    · exact hi
    · rename_i j' k r w hfind
      have hmem := List.mem_of_find?_eq_some hfind
      have hj' : j' = j := by simpa using List.find?_some hfind
      subst hj'
      split
      · exact hi
      · rename_i o ho
        split
        · -- completed: the entry is dropped, registrations left behind are dead
          refine ⟨fun e he => ?_, fun e he => hi.fresh e (List.mem_filter.mp he).1,
            fun a ha b hb => hi.inj a (List.mem_filter.mp ha).1 b (List.mem_filter.mp hb).1⟩
          obtain ⟨hep, hne⟩ := List.mem_filter.mp he
          have hne' : e.1 ≠ j' := by simpa using hne
          refine (hi.ok e hep).congr (fun h => ?_) (fun h => ?_) (fun h => ?_) <;>
            (simp only [List.mem_filter]; exact ⟨h, by simpa using hne'⟩)
        · rename_i wk' hsel
          obtain ⟨hf, hpr, hpw, hr, hw⟩ := select_pending hsel
          refine ⟨fun e he => ?_, hi.fresh, hi.inj⟩
          by_cases hej : e.1 = j'
          · have := hi.inj e he _ hmem hej
            subst this
            exact Or.inr ⟨o, ho, hr, hw⟩
          · refine (hi.ok e he).congr (fun h => ?_) (hpr _) (hpw _)
            rw [hf]
            simp only [List.mem_filter]
            exact ⟨h, by simpa using hej⟩

theorem opsFrom_inv (ops : List Op) (st : OpState) (i : Nat) (hi : OInv st) : OInv (opsFrom st i ops) := by
  induction ops generalizing st i with
  | nil => exact hi
  | cons op rest ih => exact ih _ _ (opStep_inv st i op hi)

end YashModel.Pipe
