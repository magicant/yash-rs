/-
  C14 — the two-process system of Model.lean as a chain without forwarding stages (`Sys.embed`): a reachable state
  of the one is a reachable state of the other (`reach_embed`), a process can step in the one exactly when it can in the other (`embed_enabledW`,
  `embed_enabledR`), and so progress of writer ∥ reader is the chain's (`Sys.progress`).
-/
import YashModel.Pipe.ChainLemmas
namespace YashModel.Pipe

variable {α : Type}

/-- the writer's states as states of the chain's source -/
def embedPc : WPc → FPc
  | .run => .wr | .wait => .wwait | .closed => .closed | .failed => .failed

/-- a state of Model.lean's writer ∥ reader system as a state of the chain without forwarding stages: the
    writer is the source (its input has no writer and is empty, and loses its reader when the writer exits, as the
    counts `Cnt` of a chain demand: `Ends.embed_cnt`), the reader is the sink, the pipe is the pipe -/
def Sys.embed (s : Sys α) : Chain α :=
  .fwd { content := [], readers := if s.wpc = .closed ∨ s.wpc = .failed then 0 else 1, writers := 0 }
    s.unsent (embedPc s.wpc) (.sink s.pipe s.received s.rpc)

theorem embed_init (payload : List α) : (Sys.init payload).embed = Chain.init 0 payload [] := by
  simp [Sys.embed, Sys.init, Chain.init, Chain.idle, embedPc]

/-- a step of the writer is the same step of the source, except closing -/
theorem embed_stepW (c : Cfg) {s : Sys α} (h : ¬(s.wpc = .run ∧ s.unsent = [])) (n k : Nat) :
    s.embed.step c 0 n k = (s.stepW c k).map Sys.embed := by
  obtain ⟨pipe, unsent, wpc, received, rpc⟩ := s
  cases wpc with
  | run =>
    cases unsent with
    | nil => exact absurd ⟨rfl, rfl⟩ h
    | cons a u =>
      simp only [Sys.embed, Chain.step, fwdStep, Sys.stepW, Chain.inp, embedPc, List.isEmpty_cons, Bool.false_eq_true,
        if_false]
      rcases pipe.write c ((a :: u).take k) with ⟨_ | _ | w, p⟩
      · rfl
      · rfl
      · by_cases h0 : w = 0 <;> simp only [h0, if_true, if_false] <;> rfl
  | wait =>
    simp only [Sys.embed, Chain.step, fwdStep, Sys.stepW, Chain.inp, embedPc]
    by_cases hy : pipe.readyW c = true <;> simp only [hy, if_true, if_false, Bool.false_eq_true] <;> rfl
  | closed => rfl
  | failed => rfl

/-- … which takes two: `write_all` returns, then the source reads end of file from its input -/
theorem embed_close (c : Cfg) {s : Sys α} (hw : s.wpc = .run) (he : s.unsent = []) (n k : Nat) :
    ∃ t, s.embed.step c 0 n k = some t ∧ t.step c 0 n k = (s.stepW c k).map Sys.embed := by
  obtain ⟨pipe, unsent, wpc, received, rpc⟩ := s
  subst hw he
  exact ⟨_, rfl, by cases n <;> rfl⟩

theorem embed_stepR (c : Cfg) (s : Sys α) (n k : Nat) : s.embed.step c 1 n k = (s.stepR n).map Sys.embed := by
  simp only [Sys.embed, Chain.step, sinkStep, Sys.stepR]
  cases s.rpc with
  | run =>
    rcases s.pipe.read n with ⟨_ | bs, p⟩
    · rfl
    · by_cases he : bs.isEmpty = true <;> simp only [he, if_true, if_false, Bool.false_eq_true] <;> rfl
  | wait => by_cases hy : s.pipe.readyR = true <;> simp only [hy, if_true, if_false, Bool.false_eq_true] <;> rfl
  | done => rfl

theorem reach_embed {c : Cfg} {payload : List α} {s : Sys α} (hr : Reach c payload s) :
    CReach c 0 payload [] s.embed := by
  induction hr with
  | init => rw [embed_init]; exact CReach.init
  | @step s _ a _ hok hs ih =>
    cases a with
    | w k =>
      have hk : 1 ≤ k := by simpa [Act.ok] using hok
      by_cases hc : s.wpc = .run ∧ s.unsent = []
      · obtain ⟨t, h1, h2⟩ := embed_close c hc.1 hc.2 1 k
        exact CReach.step 0 1 k (CReach.step 0 1 k ih (Nat.le_refl _) hk h1) (Nat.le_refl _) hk
          (h2.trans (congrArg (Option.map Sys.embed) hs))
      · exact CReach.step 0 1 k ih (Nat.le_refl _) hk ((embed_stepW c hc 1 k).trans (congrArg (Option.map Sys.embed) hs))
    | r n =>
      have hn : 1 ≤ n := by simpa [Act.ok] using hok
      exact CReach.step 1 n 1 ih hn (Nat.le_refl _) ((embed_stepR c _ n 1).trans (congrArg (Option.map Sys.embed) hs))

/-! ### progress of the two processes: the chain's -/

theorem embedPc_exited (pc : WPc) : (embedPc pc = .closed ∨ embedPc pc = .failed) ↔ (pc = .closed ∨ pc = .failed) := by
  cases pc <;> simp [embedPc]

theorem embed_enabledW (c : Cfg) (s : Sys α) (n k : Nat) :
    (s.embed.step c 0 n k).isSome = (s.stepW c k).isSome := by
  by_cases hc : s.wpc = .run ∧ s.unsent = []
  · simp [Sys.embed, Chain.step, fwdStep, Sys.stepW, hc.1, hc.2, embedPc]
  · rw [embed_stepW c hc, Option.isSome_map]

theorem embed_enabledR (c : Cfg) (s : Sys α) (n k : Nat) :
    (s.embed.step c 1 n k).isSome = (s.stepR n).isSome := by
  rw [embed_stepR, Option.isSome_map]

theorem Ends.embed_cnt {s : Sys α} (he : Ends s) : s.embed.toG.Cnt := by
  simp only [Sys.embed, Chain.toG_fwd, Chain.toG_sink, GChain.Cnt, GChain.inp, embedPc_exited]
  exact ⟨trivial, he.wr, he.rd⟩

/-- ★ progress of writer ∥ reader from the descriptor counts alone — whatever else has happened (EPIPE, a reader that
    stopped early): both have finished, or one of them can step whatever size it is offered.  The two-process
    case of `GChain.progress`. -/
theorem Sys.progress {c : Cfg} (hv : c.Valid) {s : Sys α} (he : Ends s) :
    ((s.wpc = .closed ∨ s.wpc = .failed) ∧ s.rpc = .done) ∨ (∀ k, (s.stepW c k).isSome = true) ∨
      (∀ n, (s.stepR n).isSome = true) := by
  rcases GChain.progress c hv _ he.embed_cnt with h | ⟨i, hi, hs⟩ | ⟨_, h, _⟩
  · simp only [Sys.embed, Chain.toG_fwd, Chain.toG_sink, GChain.allDone, Bool.and_eq_true, Bool.or_eq_true,
      beq_iff_eq, embedPc_exited] at h
    exact Or.inl h
  · simp only [Chain.toG_step, Option.isSome_map] at hs
    have hi : i < 2 := hi
    right
    rcases i with _ | _ | i
    · exact Or.inl fun k => by rw [← embed_enabledW c s 1 k]; exact hs 1 k
    · exact Or.inr fun n => by rw [← embed_enabledR c s n 1]; exact hs n 1
    · omega
  · -- the source's input has no writer
    exact absurd h (Nat.lt_irrefl 0)

theorem Sys.stuck_final {c : Cfg} (hv : c.Valid) {s : Sys α} (he : Ends s) (hw : ∃ k, s.stepW c k = none)
    (hr : ∃ n, s.stepR n = none) : (s.wpc = .closed ∨ s.wpc = .failed) ∧ s.rpc = .done := by
  rcases Sys.progress hv he with h | h | h
  · exact h
  · obtain ⟨k, e⟩ := hw
    have := h k
    rw [e] at this
    cases this
  · obtain ⟨n, e⟩ := hr
    have := h n
    rw [e] at this
    cases this

end YashModel.Pipe
