/-
  C14 — lemmas about the concurrent n-stage chain (Chain.lean): the reachable states `CReach`; the chain is the
  transforming chain in which every stage forwards each byte as it is (`Chain.toT`, `Chain.toT_step`), so that its
  invariant `Chain.Inv`, conservation, progress and capacity (`Chain.CapTail`) are those of TChainLemmas.lean and
  GChainLemmas.lean (`Chain.toG` is the composite embedding); the seeded executor.
-/
import YashModel.Pipe.TChainLemmas
import YashModel.Common.Loop
namespace YashModel.Pipe
open YashModel.Run

variable {α : Type}

/-- reachable states of `source | m × cat | sink`: every interleaving of the `m + 2` processes, every read
    buffer and write request of at least one byte at every step -/
inductive CReach (c : Cfg) (m : Nat) (pre post : List α) : Chain α → Prop
  | init : CReach c m pre post (Chain.init m pre post)
  | step {s s' : Chain α} (i n k : Nat) :
      CReach c m pre post s → 1 ≤ n → 1 ≤ k → s.step c i n k = some s' → CReach c m pre post s'

/-- the invariant, node by node: descriptor counts of every pipe follow the states of its two processes, a
    finished stage has drained its input and holds nothing, a stage that is about to read holds nothing, no
    stage has met EPIPE — `Cnt`, `Fin`, `HoldOK` of the general chain in the model's terms (`Chain.toT_inv`,
    `TChain.inv_iff`) -/
def Chain.Inv : Chain α → Prop
  | .sink inp _ pc =>
      inp.readers = (if pc = .done then 0 else 1) ∧ (pc = .done → inp.content = [] ∧ inp.writers = 0)
  | .fwd inp hold pc rest =>
      inp.readers = (if pc = .closed then 0 else 1) ∧
      rest.inp.writers = (if pc = .closed then 0 else 1) ∧
      pc ≠ .failed ∧
      (pc = .closed → hold = [] ∧ inp.content = [] ∧ inp.writers = 0) ∧
      (pc = .rd ∨ pc = .rwait → hold = []) ∧
      rest.Inv

/-- no forwarding stage (nor the source) is in the `failed` state -/
def Chain.noFail : Chain α → Bool
  | .sink _ _ _ => true
  | .fwd _ _ pc rest => pc != .failed && rest.noFail

/-- every pipe between two processes of the chain holds at most `PIPE_SIZE` bytes (the source's input — a file —
    is not a pipe of the pipeline); `GChain.CapTail` in the model's terms (`Chain.toG_cap`) -/
def Chain.CapTail (c : Cfg) : Chain α → Prop
  | .sink _ _ _ => True
  | .fwd _ _ _ rest => rest.inp.content.length ≤ c.pipeSize ∧ rest.CapTail c

/-- `GChain.enabled` in the model's terms -/
def Chain.enabled (c : Cfg) : Chain α → Bool
  | .sink inp _ pc => pc.enabled inp.readyR
  | .fwd inp _ pc rest => pc.enabled inp.readyR (rest.inp.readyW c)

@[simp] theorem Chain.inp_sink (inp : Fifo α) (r : List α) (pc : RPc) : (Chain.sink inp r pc).inp = inp := rfl
@[simp] theorem Chain.inp_fwd (inp : Fifo α) (h : List α) (pc : FPc) (rest : Chain α) :
    (Chain.fwd inp h pc rest).inp = inp := rfl
/-! ### the chain among the transforming chains, and among the general ones -/

/-- every stage forwards each byte as it is -/
def Chain.toT : Chain α → TChain α
  | .sink inp r pc => .sink inp r pc
  | .fwd inp h pc rest => .fwd (fun b => [b]) inp h pc rest.toT

theorem Chain.toT_inp (s : Chain α) : s.toT.inp = s.inp := by cases s <;> rfl
theorem Chain.toT_headDone (s : Chain α) : s.toT.headDone = s.headDone := by cases s <;> rfl

theorem Chain.toT_mapInp (s : Chain α) (f : Fifo α → Fifo α) : (s.mapInp f).toT = s.toT.mapInp f := by
  cases s <;> rfl

theorem Chain.toT_inv (s : Chain α) : s.toT.Inv ↔ s.Inv := by
  induction s with
  | sink => exact Iff.rfl
  | fwd inp h pc rest ih => simp only [Chain.toT, Chain.Inv, TChain.Inv, Chain.toT_inp, ih]

theorem Chain.toT_received (s : Chain α) : s.toT.received = s.received := by
  induction s with
  | sink => rfl
  | fwd inp h pc rest ih => exact ih

theorem Chain.toT_allDone (s : Chain α) : s.toT.allDone = s.allDone := by
  induction s with
  | sink => rfl
  | fwd inp h pc rest ih => simp only [Chain.toT, Chain.allDone, TChain.allDone, ih]

theorem Chain.toT_procs (s : Chain α) : s.toT.procs = s.procs := by
  induction s with
  | sink => rfl
  | fwd inp h pc rest ih => simp only [Chain.toT, Chain.procs, TChain.procs, ih]

theorem Chain.toT_push (s : Chain α) (y : List α) : s.toT.push y = s.total ++ y := by
  induction s generalizing y with
  | sink inp r pc => rfl
  | fwd inp h pc rest ih =>
    simp only [Chain.toT, TChain.push, Chain.total, ih, List.flatMap_singleton', List.append_assoc]

theorem Chain.toT_step (c : Cfg) (s : Chain α) (i n k : Nat) :
    s.toT.step c i n k = (s.step c i n k).map Chain.toT := by
  induction s generalizing i with
  | sink inp r pc =>
    cases i with
    | zero =>
      simp only [Chain.toT, Chain.step, TChain.step, sinkStep, tsinkStep]
      cases pc with
      | run =>
        rcases inp.read n with ⟨_ | bs, p⟩
        · rfl
        · simp only; split <;> rfl
      | wait => simp only; split <;> rfl
      | done => rfl
    | succ j => rfl
  | fwd inp h pc rest ih =>
    cases i with
    | zero =>
      simp only [Chain.toT, Chain.step, TChain.step, fwdStep, tfwdStep, Chain.toT_inp]
      cases pc with
      | rd =>
        rcases inp.read n with ⟨_ | bs, p⟩
        · rfl
        · simp only
          split
          · simp only [Option.map_some, Chain.toT, Chain.toT_mapInp]
          · simp only [Option.map_some, Chain.toT, List.flatMap_singleton']
      | rwait => simp only; split <;> rfl
      | wr =>
        simp only
        split
        · rfl
        · rcases rest.inp.write c (h.take k) with ⟨_ | _ | w, p⟩
          · simp only [Option.map_some, Chain.toT, Chain.toT_mapInp]
          · rfl
          · simp only; split <;> simp only [Option.map_some, Chain.toT, Chain.toT_mapInp]
      | wwait => simp only; split <;> rfl
      | closed => rfl
      | failed => rfl
    | succ j =>
      simp only [Chain.toT, Chain.step, TChain.step, ih, Option.map_map]
      rfl

def Chain.toG (s : Chain α) : GChain α := s.toT.toG

theorem Chain.toG_sink (inp : Fifo α) (r : List α) (pc : RPc) : (Chain.sink inp r pc).toG = .sink inp r pc := rfl
theorem Chain.toG_fwd (inp : Fifo α) (h : List α) (pc : FPc) (rest : Chain α) :
    (Chain.fwd inp h pc rest).toG = .fwd (fun b => [b]) none inp h pc rest.toG := rfl
theorem Chain.toG_inp (s : Chain α) : s.toG.inp = s.inp := by rw [Chain.toG, TChain.toG_inp, Chain.toT_inp]
theorem Chain.toG_procs (s : Chain α) : s.toG.procs = s.procs := by rw [Chain.toG, TChain.toG_procs, Chain.toT_procs]

theorem Chain.toG_step (c : Cfg) (s : Chain α) (i n k : Nat) :
    s.toG.step c i n k = (s.step c i n k).map Chain.toG := by
  rw [Chain.toG, TChain.toG_step, Chain.toT_step, Option.map_map]; rfl

theorem Chain.toG_step_some {c : Cfg} {s s' : Chain α} {i n k : Nat} (h : s.step c i n k = some s') :
    s.toG.step c i n k = some s'.toG := by
  rw [Chain.toG_step, h]; rfl

/-! ### invariant, conservation, progress, capacity: those of the general chain -/

theorem Chain.step_inv {c : Cfg} {s s' : Chain α} {i n k : Nat} (hn : 1 ≤ n) (hi : s.Inv)
    (h : s.step c i n k = some s') :
    s'.Inv ∧ s'.inp.writers = s.inp.writers ∧ s'.total = s.total ∧ s'.procs = s.procs := by
  have ht : s.toT.step c i n k = some s'.toT := by rw [Chain.toT_step, h]; rfl
  have ⟨a, b, d⟩ := TChain.step_inv hn ((Chain.toT_inv s).mpr hi) ht
  refine ⟨(Chain.toT_inv s').mp a, by simpa only [Chain.toT_inp] using b, ?_, ?_⟩
  · simpa only [Chain.toT_push, List.append_nil] using d []
  · simpa only [Chain.toG_procs] using GChain.step_procs (Chain.toG_step_some h)

theorem Chain.progress (c : Cfg) (hv : c.Valid) (s : Chain α) (hi : s.Inv) :
    s.allDone = true ∨ (∃ i, i < s.procs ∧ ∀ n k, (s.step c i n k).isSome = true) ∨
      (s.inp.content = [] ∧ 0 < s.inp.writers ∧ s.headDone = false) := by
  have := TChain.progress c hv s.toT ((Chain.toT_inv s).mpr hi)
  simpa only [Chain.toT_allDone, Chain.toT_procs, Chain.toT_step, Option.isSome_map, Chain.toT_inp,
    Chain.toT_headDone] using this

theorem Chain.step_zero_isSome (c : Cfg) (s : Chain α) (n k : Nat) : (s.step c 0 n k).isSome = s.enabled c := by
  have := GChain.step_zero_isSome c s.toG n k
  rw [Chain.toG_step, Option.isSome_map] at this
  rw [this]
  cases s with
  | sink => rfl
  | fwd inp h pc rest =>
    simp only [Chain.toG_fwd, GChain.enabled, Chain.enabled, Chain.toG_inp]

theorem Chain.stuck_allDone {c : Cfg} (hv : c.Valid) {s : Chain α} (hi : s.Inv) (hw : s.inp.writers = 0)
    (h : ∀ i, i < s.procs → ∃ n k, s.step c i n k = none) : s.allDone = true := by
  rw [← Chain.toT_allDone]
  refine TChain.stuck_allDone hv ((Chain.toT_inv s).mpr hi) (by rw [Chain.toT_inp]; exact hw) fun i hil => ?_
  obtain ⟨n, k, e⟩ := h i (by rwa [Chain.toT_procs] at hil)
  exact ⟨n, k, by rw [Chain.toT_step, e]; rfl⟩

theorem Chain.received_prefix_total (s : Chain α) : ∃ rest, s.received ++ rest = s.total := by
  induction s with
  | sink inp r pc => exact ⟨inp.content, rfl⟩
  | fwd inp hold pc rest ih =>
    obtain ⟨x, hx⟩ := ih
    exact ⟨x ++ hold ++ inp.content, by simp [Chain.total, Chain.received, ← hx]⟩

theorem Chain.idle_inp (m : Nat) : (Chain.idle m : Chain α).inp = { content := [], readers := 1, writers := 1 } := by
  cases m <;> rfl

theorem Chain.idle_inv (m : Nat) : (Chain.idle m : Chain α).Inv := by
  induction m with
  | zero => simp [Chain.idle, Chain.Inv]
  | succ m ih =>
    simp only [Chain.idle, Chain.Inv]
    refine ⟨by simp, by simp [Chain.idle_inp], by simp, by simp, by simp, ih⟩

theorem Chain.idle_total (m : Nat) : (Chain.idle m : Chain α).total = [] := by
  induction m with
  | zero => simp [Chain.idle, Chain.total]
  | succ m ih => simp [Chain.idle, Chain.total, ih]

theorem Chain.idle_procs (m : Nat) : (Chain.idle m : Chain α).procs = m + 1 := by
  induction m with
  | zero => rfl
  | succ m ih => simp [Chain.idle, Chain.procs, ih]

theorem Chain.init_inv (m : Nat) (pre post : List α) : (Chain.init m pre post).Inv := by
  simp only [Chain.init, Chain.Inv]
  exact ⟨by simp, by simp [Chain.idle_inp], by simp, by simp, by simp, Chain.idle_inv m⟩

theorem CReach.inv {c : Cfg} {m : Nat} {pre post : List α} {s : Chain α} (hr : CReach c m pre post s) :
    s.Inv ∧ s.inp.writers = 0 ∧ s.total = pre ++ post ∧ s.procs = m + 2 := by
  induction hr with
  | init =>
    refine ⟨Chain.init_inv m pre post, rfl, ?_, ?_⟩
    · simp [Chain.init, Chain.total, Chain.idle_total]
    · simp [Chain.init, Chain.procs, Chain.idle_procs]
  | step i n k _ hn _ hs ih =>
    obtain ⟨a, b, d, e⟩ := ih
    have ⟨a', b', d', e'⟩ := Chain.step_inv hn a hs
    exact ⟨a', by rw [b', b], by rw [d', d], by rw [e', e]⟩

theorem Chain.allDone_total {s : Chain α} (hi : s.Inv) (h : s.allDone = true) : s.total = s.received := by
  have := TChain.allDone_push ((Chain.toT_inv s).mpr hi) (by rw [Chain.toT_allDone]; exact h)
  rwa [Chain.toT_push, List.append_nil, Chain.toT_received] at this

theorem chainScan_step {c : Cfg} {s s' : Chain α} {n k j : Nat}
    (h : chainScan c s n k j = some s') : ∃ i, s.step c i n k = some s' := by
  induction j with
  | zero => simp [chainScan] at h
  | succ j ih =>
    unfold chainScan at h
    split at h
    next s1 hs =>
      simp only [Option.some.injEq] at h
      subst h
      exact ⟨_, hs⟩
    next => exact ih h

theorem chainScan_none {c : Cfg} {s : Chain α} {n k j : Nat}
    (h : chainScan c s n k j = none) : ∀ i, i < j → s.step c i n k = none := by
  induction j with
  | zero => intro i hi; omega
  | succ j ih =>
    unfold chainScan at h
    split at h
    next => simp at h
    next hs =>
      intro i hi
      by_cases e : i = j
      · subst e; exact hs
      · exact ih h i (by omega)

theorem chainPick_step {c : Cfg} {s s' : Chain α} {n k i : Nat}
    (h : chainPick c s n k i = some s') : ∃ j, s.step c j n k = some s' := by
  unfold chainPick at h
  split at h
  next s1 hs =>
    simp only [Option.some.injEq] at h
    subst h
    exact ⟨_, hs⟩
  next => exact chainScan_step h

theorem chainPick_none {c : Cfg} {s : Chain α} {n k i : Nat}
    (h : chainPick c s n k i = none) : ∀ j, j < s.procs → s.step c j n k = none := by
  unfold chainPick at h
  split at h
  next => simp at h
  next => exact chainScan_none h

theorem chainRun_loop (c : Cfg) (n k : Nat) :
    Loop (chainRun (α := α) c n k) (fun s t => ∃ i, s.step c i n k = some t)
      (fun s => ∀ j, j < s.procs → s.step c j n k = none) where
  zero _ _ := rfl
  succ fuel x s := by
    cases hs : chainPick c s n k (((x * 1103515245 + 12345) % 2147483648 / 65536) % s.procs) with
    | some t => exact .inr ⟨(x * 1103515245 + 12345) % 2147483648, t, chainPick_step hs, by simp only [chainRun, hs]⟩
    | none => exact .inl ⟨by simp only [chainRun, hs], chainPick_none hs⟩

theorem Chain.Inv.no_fail {s : Chain α} (hi : s.Inv) : s.noFail = true := by
  induction s with
  | sink inp r pc => rfl
  | fwd inp hold pc rest ih =>
    simp only [Chain.Inv] at hi
    simp [Chain.noFail, hi.2.2.1, ih hi.2.2.2.2.2]

theorem Chain.toG_cap (c : Cfg) (s : Chain α) : s.toG.CapTail c ↔ s.CapTail c := by
  induction s with
  | sink => exact Iff.rfl
  | fwd inp h pc rest ih =>
    simp only [Chain.toG_fwd, GChain.CapTail, Chain.CapTail, Chain.toG_inp, ih]

theorem Chain.step_cap {c : Cfg} {s s' : Chain α} {i n k : Nat} (hc : s.CapTail c)
    (h : s.step c i n k = some s') : s'.CapTail c :=
  (Chain.toG_cap c s').mp
    (GChain.step_cap ((Chain.toG_cap c s).mpr hc) (Chain.toG_step_some h)).1

theorem Chain.idle_cap (c : Cfg) (m : Nat) : (Chain.idle m : Chain α).CapTail c := by
  induction m with
  | zero => simp [Chain.idle, Chain.CapTail]
  | succ m ih => simp [Chain.idle, Chain.CapTail, Chain.idle_inp, ih]

theorem CReach.cap {c : Cfg} {m : Nat} {pre post : List α} {s : Chain α} (hr : CReach c m pre post s) :
    s.CapTail c := by
  induction hr with
  | init => simp [Chain.init, Chain.CapTail, Chain.idle_inp, Chain.idle_cap]
  | step i n k _ _ _ hs ih => exact Chain.step_cap ih hs

end YashModel.Pipe
