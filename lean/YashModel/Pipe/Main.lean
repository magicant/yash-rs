/-
  Driver for C14.  stdin: one case per line, stdout: `<model observation>\t<spec>`.

  Ten kinds of cases (see harness/src/bin/c14.rs; `runLine` at the end has them all), the three main ones:
    * `op;op;…`       operation sequence on one FIFO (open/close/read/write/select through the system calls)
    * `xfer k=v …`    `write_all ∥ read` of a payload through one pipe under a seeded scheduler
    * `sh k=v …`      a shell-level data flow (pipeline stages, command substitutions, here-documents)
-/
import YashModel.Common.Proto
import YashModel.Pipe.Model
import YashModel.Pipe.Spec
import YashModel.Pipe.Flow
import YashModel.Pipe.Fds
import YashModel.Pipe.File
import YashModel.Pipe.Wake
import YashModel.Pipe.Chain
import YashModel.Pipe.Ops
import YashModel.Pipe.Lossy
import YashModel.Pipe.HChain
open YashModel YashModel.Pipe YashModel.Proto


def alpha (base i : Nat) (m : Nat) : Byte := base + (i * m + i / 26) % 26

/-- payload of `n` bytes: pattern `pat` (period `per` for pattern 4), the last `nl` bytes newlines -/
def payload (n pat per nl : Nat) : List Byte :=
  (List.range n).map fun i =>
    if n ≤ i + nl then 10
    else match pat with
      | 1 => if i % 7 = 3 then 10 else alpha 97 i 7
      | 2 => if i % 61 = 0 then 10 else alpha 65 i 11
      | 3 => (i * 37 + 13) % 256
      | 4 => alpha 97 (i % (if per = 0 then 1 else per)) 7
      | 6 => if i % 17 = 5 then 255 else if i % 23 = 11 then 0 else alpha 97 i 7
      | 5 => if n = i + nl + 1 ∨ i % 5 = 2 then 32 else if i % 11 = 7 then 9 else if i % 13 = 5 then 10
             else alpha 97 i 7
      | 7 =>
        let body := n - nl
        if body - body % 3 ≤ i then 122
        else if (i / 3) % 10 = 9 then [10, 195, 169].getD (i % 3) 0
        else [230, 157, 177].getD (i % 3) 0
      | 8 =>
        -- wave 3, third pass: ill-formed UTF-8 of every kind, every 31 bytes (so that the sequences straddle the
        -- PIPE_BUF / PIPE_SIZE boundaries): lone continuation, truncated 3- and 4-byte sequences, an overlong
        -- form, a surrogate, a byte that cannot occur, and a well-formed 3-byte character
        let j := i % 31
        if j = 5 then 128 else if j = 9 then 230 else if j = 10 then 157
        else if j = 15 then 192 else if j = 16 then 175
        else if j = 20 then 237 else if j = 21 then 160 else if j = 22 then 128
        else if j = 25 then 245
        else if j = 27 then 240 else if j = 28 then 159 else if j = 29 then 152
        else if j = 0 ∧ 0 < i then 230 else if j = 1 ∧ 1 < i then 157 else if j = 2 ∧ 2 < i then 177
        else alpha 97 i 7
      | _ => alpha 97 i 7

def kv (ws : List String) (k : String) : Option String :=
  (ws.find? fun w => w.startsWith (k ++ "=")).map fun w => (w.drop (k.length + 1)).toString

def kvNat (ws : List String) (k : String) : Nat := ((kv ws k).bind (·.toNat?)).getD 0

/-! ### operation sequences -/


def parseOp (t : String) : Option Op :=
  match words t with
  | ["or"] => some (.openFd true false)
  | ["ow"] => some (.openFd false true)
  | ["orw"] => some (.openFd true true)
  | ["owa"] => some (.openFd false true)
  | ["dw", k, n] => do pure (.dwrite (← k.toNat?) (← n.toNat?))
  | ["dr", k, n] => do pure (.dread (← k.toNat?) (← n.toNat?))
  | ["selbad", _] => some .selBad
  | ["nb", k, b] => do pure (.setNb (← k.toNat?) ((← b.toNat?) != 0))
  | ["c", k] => do pure (.close (← k.toNat?))
  | ["w", k, n] => do pure (.write (← k.toNat?) (← n.toNat?))
  | ["r", k, n] => do pure (.read (← k.toNat?) (← n.toNat?))
  | ["sel"] => some .sel
  | ["park", "r", k] => do pure (.park (← k.toNat?) true false)
  | ["park", "w", k] => do pure (.park (← k.toNat?) false true)
  | ["park", "b", k] => do pure (.park (← k.toNat?) true true)
  | ["poll", j] => do pure (.poll (← j.toNat?))
  | _ => none


def runOps (line : String) : String :=
  let parts := (splitTrim line ";").filter (· ≠ "")
  match parts.mapM parseOp with
  | none => "bad-case\t-"
  | some ops =>
    let rec go (st : OpState) (ops : List Op) (i : Nat) (obs : List String) (verdict : Option String)
        : List String × Option String :=
      match ops with
      | [] => (obs.reverse, verdict)
      | op :: rest =>
        let (txt, st', v) := opStep st i op
        -- stream law: delivered ++ buffered = accepted (complete, once, in order), capacity respected
        let v2 : Option String :=
          if st'.delivered ++ st'.fifo.content != st'.accepted then some "stream"
          else if st'.fifo.content.length > cfg.pipeSize then some "capacity"
          else if lostWakeup st' then some "lost-wakeup"
          else v
        let verdict' := match verdict with
          | some x => some x
          | none => v2.map fun x => s!"FAIL:{x}@{i}"
        let woken := (st'.parked.map (·.1)).filter (st'.wk.fired.contains ·)
        let o := s!"{txt} len={st'.fifo.content.length} sum={hashBytes st'.fifo.content} r={st'.fifo.readers} w={st'.fifo.writers} wk={idList woken}"
        go st' rest (i + 1) (o :: obs) verdict'
    let (obs, verdict) := go {} ops 0 [] none
    " | ".intercalate obs ++ "\t" ++ verdict.getD "ok"

/-! ### transfers under a seeded scheduler -/

def showW : WPc → String
  | .run => "run" | .wait => "wait" | .closed => "closed" | .failed => "failed"
def showR : RPc → String
  | .run => "run" | .wait => "wait" | .done => "done"

def runXfer (ws : List String) : String :=
  if kv ws "mode" == some "rderr" then
    -- `read_all` on the writing end of a fresh pipe: the first `read` fails, nothing was read
    let o : Ofd := { readable := false, writable := true, nonblocking := true }
    let (res, bs, _) := o.sysRead ({ content := [], readers := 1, writers := 1 } : Fifo Byte) 1024
    let txt := match res with
      | .err e => s!"rderr={showErr e} len={bs.length}"
      | _ => s!"rderr=none len={bs.length}"
    txt ++ "\t=rderr=EBADF len=0"
  else if kv ws "mode" == some "proc" then
    -- writer and reader are two virtual processes inside `run_virtual`: explicit wakers (Wake.lean); the
    -- model executor polls a parked process only after its waker fired, so a lost wake-up would be `stuck`
    let p := payload (kvNat ws "n") (kvNat ws "pat") (kvNat ws "per") (kvNat ws "nl")
    let want := specTransfer p
    (match wtransfer cfg (kvNat ws "seed") (kvNat ws "wk") (kvNat ws "rk") p with
      | some x => s!"recv={x.length}:{hashBytes x} w=closed r=done"
      | none => "stuck") ++ "\t" ++ s!"=recv={want.length}:{hashBytes want} w=closed r=done"
  else if kvNat ws "mid" != 0 && kvNat ws "hs" != 0 then
    -- a pipeline whose forwarder number `hs` is head-like: it stops after `hk` bytes (HChain.lean)
    let p := payload (kvNat ws "n") (kvNat ws "pat") (kvNat ws "per") (kvNat ws "nl")
    let hk := kvNat ws "hk"
    let s := hchainTransfer cfg (kvNat ws "seed") (kvNat ws "mid") (kvNat ws "hs") hk (kvNat ws "wk") (kvNat ws "rk") p
    let want := (specTransfer p).take hk
    let stx := s.statuses
    let obs := s!"recv={s.received.length}:{hashBytes s.received} w={stx.headD "?"} f={",".intercalate ((stx.drop 1).dropLast)} r={stx.getLastD "?"}"
    -- Spec: the first `hk` bytes arrive; the head-like stage and everything after it exit normally; everything
    -- before it exits normally when the payload fits the allowance, dies of EPIPE when it is far larger
    let up := if p.length ≤ hk then "closed" else "failed"
    let fs := (List.range (kvNat ws "mid")).map fun i => if i + 1 < kvNat ws "hs" then up else "closed"
    obs ++ "\t" ++ s!"=recv={want.length}:{hashBytes want} w={up} f={",".intercalate fs} r=done"
  else if kvNat ws "mid" != 0 then
    -- a concurrent pipeline `writer | mid × forwarder | reader`: every process scheduled on its own (Chain.lean)
    let p := payload (kvNat ws "n") (kvNat ws "pat") (kvNat ws "per") (kvNat ws "nl")
    let want := specTransfer p
    (match chainTransfer cfg (kvNat ws "seed") (kvNat ws "mid") (kvNat ws "wk") (kvNat ws "rk") p with
      | some x => s!"recv={x.length}:{hashBytes x} w=closed f=closed r=done"
      | none => "stuck") ++ "\t" ++ s!"=recv={want.length}:{hashBytes want} w=closed f=closed r=done"
  else
  let n := kvNat ws "n"
  let p := payload n (kvNat ws "pat") (kvNat ws "per") (kvNat ws "nl")
  let wk := kvNat ws "wk"
  let rk := kvNat ws "rk"
  let stop := (kv ws "stop").bind (·.toNat?)
  let s := runSchedStop cfg n wk rk stop (12 * n + 200) (kvNat ws "seed") (Sys.init p)
  -- the reader stopped early iff it closed before end of file
  let early := match stop with
    | some k => decide (k < n)
    | none => false
  let rTxt := if early && s.rpc == .done then "stopped" else showR s.rpc
  let obs := s!"recv={s.received.length}:{hashBytes s.received} w={showW s.wpc} r={rTxt}"
  let finished := s.rpc == .done && (s.wpc == .closed || s.wpc == .failed)
  let obs := if finished then obs else "stuck " ++ obs
  let want := match stop with
    | some k => (specTransfer p).take k
    | none => specTransfer p
  -- Spec: a prefix arrives; a writer that cannot finish (more than K + capacity to send) gets EPIPE
  let wWant := match stop with
    | some k => if k + cfg.pipeSize < n then "failed" else showW s.wpc
    | none => "closed"
  obs ++ "\t" ++ s!"=recv={want.length}:{hashBytes want} w={wWant} r={if early then "stopped" else "done"}"

/-! ### shell-level data flows -/

def showFlow (x : List Byte) : String :=
  let tail := x.drop (x.length - 4)
  s!"len={x.length} sum={hashBytes x} tail={bytesToHex (tail.map UInt8.ofNat)}"

def emitsNewline (src : String) : Bool := src == "var" || src == "dbl" || src == "here"

def runSh (ws : List String) : String :=
  let n := kvNat ws "n"
  let p := payload n (kvNat ws "pat") (kvNat ws "per") (kvNat ws "nl")
  let src := (kv ws "src").getD "file"
  let shape := ((kv ws "shape").getD "-").toList.filter (· ≠ '-')
  let kind := (kv ws "kind").getD "out"
  let isVar := kind == "var" || kind == "bq"
  -- `st=N`: the flow inside `$( )` ends with a command of exit status N, which becomes `$?`
  let stTxt := match kv ws "st" with
    | some n => s!" st={n}"
    | none =>
      -- `! pipeline`: success becomes 1 (neg=1), failure becomes 0 (neg=2: `! { flow; st 5; }`); neg=3: `set -n`,
      -- nothing is executed, status 0
      match kvNat ws "neg" with
      | 0 => ""
      | 1 => " st=1"
      | _ => " st=0"
  let seed := kvNat ws "seed"
  let emitted := if emitsNewline src then p ++ [10] else p
  -- the decoder of `expand_common`: general `from_utf8_lossy` (Lossy.lean) for the payloads with arbitrary
  -- ill-formed sequences (pat=8, shapes without inner `$( )`), its 0xFF restriction otherwise
  let dec : List Byte → List Byte := if kvNat ws "pat" == 8 then lossyGen else lossyFF
  let model := do
    let x ← flowModel cfg seed shape emitted
    if isVar then pure (trimEnd 10 (dec (← transfer cfg (lcg (seed + 1)) 0 0 x))) else pure x
  let spec :=
    let x := flowSpec shape emitted
    if isVar then specSubst 10 (dec (specTransfer x)) else x
  let noexec := kvNat ws "neg" == 3
  let model := if noexec then some [] else model
  let spec := if noexec then [] else spec
  (match model with
    | some x => showFlow x ++ stTxt
    | none => "stuck") ++ "\t=" ++ showFlow spec ++ stTxt

/-! ### descriptor choreography (`fd` cases) -/

/-- descriptor table of the shell after the prologue: 0 all open, 1 `exec <&-`, 2 `exec >&-`,
    3 both, 4 `exec 2>&-` -/
def initTable (pro : Nat) : Table := fun fd =>
  let closed : List Nat := match pro with
    | 1 => [0] | 2 => [1] | 3 => [0, 1] | 4 => [2] | _ => []
  if fd < 3 && !closed.contains fd then some .file else none

/-- `fdsnap`: open descriptors 0..39, pipes numbered in order of first appearance -/
def snapshot (t : Table) : String :=
  let rec go (fds : List Nat) (seen : List Nat) (acc : List String) : List String :=
    match fds with
    | [] => acc.reverse
    | fd :: rest =>
      match t fd with
      | none => go rest seen acc
      | some .file => go rest seen (s!"{fd}:f" :: acc)
      | some (.pr p) =>
        let seen' := if seen.contains p then seen else seen ++ [p]
        go rest seen' (s!"{fd}:r{(seen'.idxOf p) + 1}" :: acc)
      | some (.pw p) =>
        let seen' := if seen.contains p then seen else seen ++ [p]
        go rest seen' (s!"{fd}:w{(seen'.idxOf p) + 1}" :: acc)
  let l := go (List.range 40) [] []
  if l.isEmpty then "-" else ",".intercalate l

/-- the members of a `k`-stage pipeline started from table `t` (pipes numbered from `p0`):
    each member's table and whether it is connected -/
def pipeRun (t : Table) (k p0 : Nat) : List (Table × Bool) :=
  let rec go (i fuel : Nat) (ps : PipeSet) (t : Table) (acc : List (Table × Bool)) : List (Table × Bool) :=
    match fuel with
    | 0 => acc.reverse
    | fuel + 1 =>
      let hasNext := i + 1 < k
      let (ps', t') :=
        if hasNext then
          let (r, w) := alloc2 (ps.shiftClose t).2
          ps.shiftOpen t (p0 + i) r w
        else ps.shiftClose t
      let d := match ps'.next with
        | some (reader, _) => (t'.close reader).minUnused 64 0
        | none => 0
      let member := match ps'.moveToStdinStdout t' d with
        | none => (t', false)
        | some c =>
          let inOk := i == 0 || (c 0 == some (.pr (p0 + i - 1)) && noStray c (p0 + i - 1) (some 0) none)
          let outOk := !hasNext || (c 1 == some (.pw (p0 + i)) && noStray c (p0 + i) none (some 1))
          (c, inOk && outOk)
      go (i + 1) fuel ps' t' (member :: acc)
  go 0 k {} t []

def runFd (ws : List String) : String :=
  let n := kvNat ws "n"
  let p := payload n (kvNat ws "pat") 0 (kvNat ws "nl")
  let form := (kv ws "form").getD "subst"
  let t0 := initTable (kvNat ws "pro")
  let tr (x : List Byte) : Option (List Byte) := transfer cfg 17 0 0 x
  -- (snapshots by key, all children connected, value if connected)
  let (snaps, ok, value) : List (Nat × Table) × Bool × Option (List Byte) :=
    match form with
    | "subst" =>
      let (c, ok) := substRun t0 1
      ([(0, c)], ok, (tr p).map (trimEnd 10))
    | "nest" =>
      let (c0, ok0) := substRun t0 1
      let (c1, ok1) := substRun c0 2
      ([(0, c0), (1, c1)], ok0 && ok1,
        do let inner ← tr p
           let outer ← tr (trimEnd 10 inner ++ [10])
           pure (trimEnd 10 outer))
    | "pipe2" | "pipe3" | "pipe4" =>
      let k := if form == "pipe2" then 2 else if form == "pipe3" then 3 else 4
      let ms := pipeRun t0 k 1
      ((List.range ms.length).zip (ms.map (·.1)), ms.all (·.2), stages (fun x => (tr x).getD []) (k - 1) p)
    | "substpipe" =>
      let (c, ok) := substRun t0 1
      let ms := pipeRun c 2 2
      ((List.range ms.length).zip (ms.map (·.1)) ++ [(9, c)], ok && ms.all (·.2),
        do let a ← tr p
           let b ← tr a
           pure (trimEnd 10 b))
    | "pipesubst" =>
      let ms := pipeRun t0 2 1
      let m1 := (ms.getD 1 (t0, false)).1
      let (c, ok) := substRun m1 3
      ((List.range ms.length).zip (ms.map (·.1)) ++ [(2, c)], ok && ms.all (·.2),
        do let a ← tr p
           let b ← tr a
           pure (trimEnd 10 b ++ [10]))
    | _ => ([], false, none)
  let snapTxt := " ".intercalate (snaps.map fun (k, t) => s!"{k}={snapshot t}")
  -- a child that is not connected to its pipe delivers nothing
  let value := if ok then value else some []
  let obs := match value with
    | some x => s!"{snapTxt} {showFlow x}"
    | none => "stuck"
  obs ++ "\t" ++ (if ok then "ok" else "FAIL:child-not-connected")

/-! ### here-documents (`hd` cases) -/

def asciiTab : List Char := "abcdefghijklmnopqrstuvwxyzABC 0123456789.,:;+=_/[]".toList

/-- character `i` of a generated text of class `cls` (0 ASCII, 1/2/3 = 2/3/4-byte characters, 4 mixed) -/
def hdChar (cls i : Nat) : Char :=
  let c := if cls = 4 then i % 4 else cls
  match c with
  | 1 => Char.ofNat (0xC0 + (i * 5) % 0x80)
  | 2 => Char.ofNat (0x6771 + (i * 3) % 200)
  | 3 => Char.ofNat (0x1F600 + i % 60)
  | 5 => if i % 5 = 3 then '\\' else asciiTab.getD ((i * 7 + i / 13) % 50) 'a'
  | _ => asciiTab.getD ((i * 7 + i / 13) % 50) 'a'

/-- here-document body of `n` characters in lines of `ll` characters (the last one a newline) -/
def hdBody (n cls ll : Nat) : List Char :=
  (List.range n).map fun i => if i + 1 = n ∨ i % ll = ll - 1 then '\n' else hdChar cls i

def hdValue (vn cls : Nat) : List Char := (List.range vn).map fun i => hdChar cls (i + 1000)

def hashU8 (bs : List UInt8) : Nat := bs.foldl (fun h b => (h * 31 + b.toNat + 1) % 1000003) 7

def showBytes (x : List UInt8) : String :=
  s!"len={x.length} sum={hashU8 x} head={bytesToHex (x.take 8)} tail={bytesToHex (x.drop (x.length - 8))}"

def firstLine (b : List UInt8) : List UInt8 :=
  match b.span (· != 10) with
  | (l, []) => l
  | (l, _ :: _) => l ++ [10]

/-- `while IFS= read l; do echo "$l"; done`: every complete logical line, backslashes processed -/
def nonRawLoop : Nat → List UInt8 → List UInt8
  | 0, _ => []
  | fuel + 1, input =>
    match readBuiltin false input with
    | (0, v, rest) => v ++ [10] ++ nonRawLoop fuel rest
    | _ => []

/-- what the reader writes to /out, given the bytes it found on its standard input -/
def readerOut (rd : String) (k : Nat) (b : List UInt8) : List UInt8 :=
  match rd with
  | "nr" => nonRawLoop (b.length + 1) b
  | "mix" => if b.isEmpty then [10] else b
  | "stop" => if b.isEmpty then [10] else firstLine b
  | "head" => b.take k
  | _ => b

def runHd (ws : List String) : String :=
  let n := kvNat ws "n"
  let cls := kvNat ws "cls"
  let ll := max 1 (kvNat ws "ll")
  let quoted := kvNat ws "q" != 0
  let exp := if n = 0 then 0 else kvNat ws "exp"
  let rd := (kv ws "rd").getD "cat"
  let k := kvNat ws "k"
  let body := hdBody n cls ll
  let value := hdValue (kvNat ws "vn") cls
  let lit1 := body.take (n / 2)
  let lit2 := body.drop (n / 2)
  -- the expanded body: what `fill_content` is given
  let expanded : List Char :=
    match exp, quoted with
    | 0, _ => body
    | 1, true => lit1 ++ "${v}".toList ++ lit2
    | _, true => lit1 ++ "$(hgen)".toList ++ lit2
    | _, false => lit1 ++ value ++ lit2
  let bytes := utf8 expanded
  let bytes2 := utf8 (hdBody (n * 3 / 4 + 5) ((cls + 1) % 5) ll)
  let multi := kvNat ws "multi" != 0
  -- Impl model: temporary file, write, rewind, then the reader's `read` calls
  let chunks (len : Nat) : List Nat :=
    match rd with
    | "cat" => List.replicate (len / 1024 + 2) 1024
    | "head" => [k]
    | "stop" => List.replicate (firstLine bytes).length 1
    | _ => List.replicate (len + 1) 1
  let model : Option (List UInt8) := do
    let o ← heredocFill bytes
    let got := (o.reads (chunks bytes.length)).1
    let out := readerOut rd k got
    if multi then
      let o2 ← heredocFill bytes2
      pure (out ++ (o2.reads (List.replicate (bytes2.length / 1024 + 2) 1024)).1)
    else pure out
  let spec := readerOut rd k bytes ++ (if multi then bytes2 else [])
  (match model with
    | some x => showBytes x
    | none => "seek-error") ++ "\t=" ++ showBytes spec

/-! ### lowered descriptor limit (`lim` cases): EMFILE from `pipe()` / `open_tmpfile()` -/

/-- `pipe()` under the soft limit `lim` (`Process::open_fd`: a descriptor must be below the limit;
    when the second allocation fails the first descriptor is closed again) -/
def alloc2Lim (t : Table) (lim : Nat) : Option (Fd × Fd) :=
  let (r, w) := alloc2 t
  if r < lim && w < lim then some (r, w) else none

/-- a `k`-stage pipeline under the limit: `none` = `shift` failed at some member (exit status 126) -/
def pipeRunLim (t : Table) (k lim : Nat) : Option Unit :=
  let rec go (i fuel : Nat) (ps : PipeSet) (t : Table) : Option Unit :=
    match fuel with
    | 0 => some ()
    | fuel + 1 =>
      if i + 1 < k then
        match alloc2Lim (ps.shiftClose t).2 lim with
        | none => none
        | some (r, w) =>
          let (ps', t') := ps.shiftOpen t (i + 1) r w
          go (i + 1) fuel ps' t'
      else some ()
  go 0 k {} t

def runLim (ws : List String) : String :=
  let n := kvNat ws "n"
  let p := payload n (kvNat ws "pat") 0 (kvNat ws "nl")
  let form := (kv ws "form").getD "subst"
  let lim := kvNat ws "lim"
  -- descriptor 3 is the consumer's file (`exec 3>/out` before the prologue)
  let t0 : Table := (initTable (kvNat ws "pro")).set 3 (some .file)
  let tr (x : List Byte) : List Byte := (transfer cfg 23 0 0 x).getD []
  let (st, value) : Nat × List Byte :=
    match form with
    | "subst" =>
      match alloc2Lim t0 lim with
      | none => (2, [])                       -- CommandSubstError: the shell exits with 2
      | some _ => (0, substValue (tr p))
    | "nest" =>
      match alloc2Lim t0 lim with
      | none => (2, [])
      | some (r, w) =>
        match substChild (t0.pipe 1 r w) r w with
        | none => (2, [])
        | some c =>
          match alloc2Lim c lim with
          | none => (2, [])                   -- the child exits with 2 before `echo` runs
          | some _ => (0, substValue (tr (substValue (tr p) ++ [10])))
    | "pipe2" | "pipe3" | "pipe4" =>
      let k := if form == "pipe2" then 2 else if form == "pipe3" then 3 else 4
      match pipeRunLim t0 k lim with
      | none => (126, [])                     -- "cannot connect pipes": Interrupt(NOEXEC)
      | some _ => (0, stages tr (k - 1) p)
    | "here" =>
      -- a built-in's redirection first saves the target (if open) at a descriptor ≥ 10, then
      -- `here_doc::open_fd` needs a descriptor for the temporary file
      let t1 := if (t0 0).isSome then
          let s := t0.minUnused 64 10
          if s < lim then some (t0.set s (some .file)) else none
        else some t0
      match t1 with
      | none => (2, [])
      | some t1 => if t1.minUnused 64 0 < lim then (0, p ++ [10]) else (2, [])
    | _ => (99, [])
  s!"st={st} {showFlow value}\t-"

/-! ### the `read` built-in on a pipe (`rd` cases) -/

/-- one line of `n` ASCII letters; `bad` = 1: byte 0xFF in the middle, 2: no newline but a lone lead
    byte E6 at the end, 3: a NUL in the middle, 4: a backslash in the middle, 5: no newline at all -/
def rdPayload (n bad : Nat) : List UInt8 :=
  let body : List UInt8 := (List.range n).map fun i =>
    if i = n / 2 ∧ bad = 1 then 255 else if i = n / 2 ∧ bad = 3 then 0 else if i = n / 2 ∧ bad = 4 then 92
    else UInt8.ofNat (alpha 97 i 7)
  if bad = 2 then body ++ [0xE6] else if bad = 5 then body else if bad = 6 then body ++ [92] else body ++ [10]

def runRd (ws : List String) : String :=
  let p := rdPayload (kvNat ws "n") (kvNat ws "bad")
  let raw := kvNat ws "raw" != 0
  -- the bytes reach the built-in through a pipe (as `Nat` bytes in the transfer model)
  let viaPipe := ((transfer cfg 29 0 0 (p.map (·.toNat))).getD []).map UInt8.ofNat
  let (st, v, _) := readBuiltin raw viaPipe
  let out := (toString st).toUTF8.toList ++ [58] ++ v ++ [10]
  let (st', v', _) := readBuiltin raw p
  showBytes out ++ "\t=" ++ showBytes ((toString st').toUTF8.toList ++ [58] ++ v' ++ [10])

/-! ### `read` on a pipe whose data arrives in pieces that cut multi-byte characters (`rp` cases) -/

def rpFiller (k salt : Nat) : List UInt8 := (List.range k).map fun i => UInt8.ofNat (alpha 97 (i + salt) 7)

def rpChar (cs : Nat) : List UInt8 :=
  match cs with
  | 2 => utf8 [Char.ofNat 0xE9]
  | 3 => utf8 [Char.ofNat 0x6771]
  | 5 => [92, 10]
  | 6 => [92, 92]
  | 7 => [92, 120]
  | _ => utf8 [Char.ofNat 0x1F600]

def runRp (ws : List String) : String :=
  let b := kvNat ws "b"
  let d := kvNat ws "d"
  let m := rpChar (kvNat ws "cs")
  let raw := kvNat ws "raw" != 0
  let l1 := rpFiller (b - d) 0 ++ m ++ m ++ m ++ rpFiller 5 3
  let l2 := "two".toUTF8.toList ++ m
  let rest := "rest".toUTF8.toList ++ m ++ [10] ++ "tail".toUTF8.toList
  let data := l1 ++ [10] ++ l2 ++ [10] ++ rest
  -- the writer's pieces are write requests of the transfer model: first piece, then `piece` bytes each
  let first := kvNat ws "first"
  let piece := kvNat ws "piece"
  let head := (transfer cfg 31 0 0 ((data.take first).map (·.toNat))).getD []
  let tailPart := (transfer cfg 37 piece 1 ((data.drop first).map (·.toNat))).getD []
  let stream := (head ++ tailPart).map UInt8.ofNat
  let render (input : List UInt8) : List UInt8 :=
    let (s1, a, r1) := readBuiltin raw input
    let (s2, bv, r2) := readBuiltin raw r1
    (toString s1).toUTF8.toList ++ [58] ++ a ++ [10] ++ (toString s2).toUTF8.toList ++ [58] ++ bv ++ [10] ++ r2
  showBytes (render stream) ++ "\t=" ++ showBytes (render data)

/-! ### two writers on one pipe (`tw` cases) -/

/-- both writers' bytes arrive complete, each in its own order (the interleaving is not predicted) -/
def runTw (ws : List String) : String :=
  let n := kvNat ws "n"
  let m := ((kv ws "m").bind (·.toNat?)).getD n
  let obs := s!"len={n + m} A=ok a=ok atomic=ok"
  obs ++ "\t=" ++ obs

/-! ### a blocking `write` that is resumed (`bwr` cases): `poll_write_full` keeps `bytes_written` across polls -/

def runBwr (ws : List String) : String :=
  let n := kvNat ws "n"
  let pre := min (kvNat ws "pre") cfg.pipeSize
  let k := kvNat ws "k"
  let act := (kv ws "act").getD "close"
  let wr : Ofd := { readable := false, writable := true, nonblocking := false }
  let rd : Ofd := { readable := true, writable := false, nonblocking := false }
  let p0 : Fifo Byte := { content := [], readers := 1, writers := 1 }
  let p0' := (wr.sysWrite cfg p0 (opData 0 pre)).2
  let data := opData 1 n
  let (r1, p1) := wr.sysWrite cfg p0' data
  let showRes (r : Res) : String := match r with
    | .ok m => s!"ok {m}"
    | .pending => "pend"
    | .err e => showErr e
  (match r1 with
    | .pending =>
      -- the future holds `bytes_written`; the second poll continues the loop of `poll_write_full` from there
      let bw := p1.content.length - p0'.content.length
      if act == "close" then
        let p2 := p1.closeFd true false
        let (r2, _) := wr.pollWriteFull cfg (n + 1) p2 (data.drop bw) bw
        s!"p1=pend p2={showRes r2} left=closed"
      else
        let (rr, _, p2) := rd.sysRead p1 k
        let rdTxt := match rr with
          | .ok m => toString m
          | .pending => "pend"
          | .err e => showErr e
        let (r2, p3) := wr.pollWriteFull cfg (n + 1) p2 (data.drop bw) bw
        s!"p1=pend rd={rdTxt} p2={showRes r2} left={p3.content.length}:{hashBytes p3.content}"
    | _ => s!"p1={showRes r1} p2=- left={p1.content.length}:{hashBytes p1.content}") ++ "\t-"

def runLine (line0 : String) : String :=
  -- a two-writer case that hit the known deadlock carries a marker for check.py; it is not part of the case
  let line := (line0.splitOn "; !kf-").headD line0
  match words line with
  | "xfer" :: ws => runXfer ws
  | "sh" :: ws => runSh ws
  | "fd" :: ws => runFd ws
  | "hd" :: ws => runHd ws
  | "lim" :: ws => runLim ws
  | "rd" :: ws => runRd ws
  | "rp" :: ws => runRp ws
  | "tw" :: ws => runTw ws
  | "bwr" :: ws => runBwr ws
  | _ => runOps line

def main : IO Unit := mainLoop runLine
