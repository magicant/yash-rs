/-
  C14 — the driver's scheduler (`Flow.lean`): every move lowers `Sys.measure`, so a run with enough fuel
  ends where neither process can move, and whatever both moves keep holds there.  With a reader that reads
  to end of file that state is final and complete; with a reader that stops after `K` bytes (`SInv`) the
  writer has finished or met EPIPE.  (Last: `lossyFF_id`, about Flow.lean's decoder.)
-/
import YashModel.Pipe.EmbedLemmas
import YashModel.Pipe.Flow
import YashModel.Common.Loop
namespace YashModel.Pipe
open YashModel.Run

variable {α : Type}

theorem wReq_pos (total wk : Nat) (s : Sys α) : 1 ≤ wReq total wk s := by
  unfold wReq
  split
  · omega
  · rename_i h
    have := Nat.mod_lt (total - s.unsent.length) (Nat.pos_of_ne_zero h)
    omega

/-- The reader's move: it has its `K` bytes and closes its end, or it takes a step with a buffer of at least one
    byte — while it runs, at most what is missing to `K`. -/
theorem stepReader_cases {c : Cfg} {rk : Nat} {stop : Option Nat} {s s' : Sys α}
    (h : stepReader c rk stop s = some s') :
    (∃ K, stop = some K ∧ s.rpc = .run ∧ K ≤ s.received.length ∧ s.stepRClose = some s') ∨
    ∃ n, 1 ≤ n ∧ (∀ K, stop = some K → s.rpc = .run → n ≤ K - s.received.length) ∧ s.stepR n = some s' := by
  have hb := rbuf_pos rk
  cases stop with
  | none => exact Or.inr ⟨_, hb, nofun, h⟩
  | some K =>
    by_cases hc : s.rpc = .run ∧ K ≤ s.received.length
    · refine Or.inl ⟨K, rfl, hc.1, hc.2, ?_⟩
      simpa [stepReader, hc.1, hc.2] using h
    · have h' : s.stepR (min (if rk = 0 then 1024 else rk) (K - s.received.length)) = some s' := by
        simpa [stepReader, Sys.step, hc] using h
      cases hr : s.rpc with
      | run =>
        have : ¬K ≤ s.received.length := fun e => hc ⟨hr, e⟩
        exact Or.inr ⟨_, by omega, fun K' e _ => by cases e; exact Nat.min_le_right _ _, h'⟩
      | wait =>
        rw [stepR_wait_size hr _ 1] at h'
        exact Or.inr ⟨1, Nat.le_refl 1, (fun _ _ e => nomatch e), h'⟩
      | done => simp [Sys.stepR, hr] at h'

theorem stepReader_none {c : Cfg} {rk : Nat} {stop : Option Nat} {s : Sys α}
    (h : stepReader c rk stop s = none) : ∃ n, s.stepR n = none := by
  cases stop with
  | none => exact ⟨_, h⟩
  | some K =>
    by_cases hc : s.rpc = .run ∧ K ≤ s.received.length
    · simp [stepReader, hc.1, hc.2, Sys.stepRClose] at h
    · exact ⟨_, by simpa [stepReader, Sys.step, hc] using h⟩

theorem stepReader_measure {c : Cfg} {rk : Nat} {stop : Option Nat} {s s' : Sys α}
    (h : stepReader c rk stop s = some s') : s'.measure c < s.measure c := by
  rcases stepReader_cases h with ⟨_, _, _, _, hcl⟩ | ⟨n, hn, _, hs⟩
  · exact measure_stepRClose hcl
  · exact measure_stepR hn hs

theorem runSchedStop_loop (c : Cfg) (total wk rk : Nat) (stop : Option Nat) :
    Loop (runSchedStop (α := α) c total wk rk stop)
      (fun s t => stepWriter c total wk s = some t ∨ stepReader c rk stop s = some t)
      (fun s => stepWriter c total wk s = none ∧ stepReader c rk stop s = none) where
  zero _ _ := rfl
  succ n x s := by
    cases hw : stepWriter c total wk s <;> cases hr : stepReader c rk stop s
    · exact .inl ⟨by simp only [runSchedStop, hw, hr, ite_self], rfl, rfl⟩
    · exact .inr ⟨lcg x, _, .inr rfl, by simp only [runSchedStop, hw, hr, ite_self]⟩
    · exact .inr ⟨lcg x, _, .inl rfl, by simp only [runSchedStop, hw, hr, ite_self]⟩
    · by_cases hb : lcg x / 65536 % 2 = 0   -- both can move: the generator decides
      · exact .inr ⟨lcg x, _, .inl rfl, by simp only [runSchedStop, hw, hr, if_pos hb]⟩
      · exact .inr ⟨lcg x, _, .inr rfl, by simp only [runSchedStop, hw, hr, if_neg hb]⟩

theorem runSchedStop_end {c : Cfg} (hv : c.Valid) {total wk rk : Nat} {stop : Option Nat} {P : Sys α → Prop}
    (hW : ∀ s s', P s → stepWriter c total wk s = some s' → P s')
    (hR : ∀ s s', P s → stepReader c rk stop s = some s' → P s')
    (fuel x : Nat) (s : Sys α) (hp : P s) (hf : s.measure c ≤ fuel) :
    let t := runSchedStop c total wk rk stop fuel x s
    P t ∧ stepWriter c total wk t = none ∧ stepReader c rk stop t = none :=
  (runSchedStop_loop c total wk rk stop).stops_noMove (Sys.measure c)
    (fun hp h => h.elim (hW _ _ hp) (hR _ _ hp))
    (fun _ h => h.elim (measure_stepW hv (wReq_pos _ _ _)) (stepReader_measure (c := c)))
    (fun _ h => ⟨Option.eq_none_iff_forall_ne_some.2 fun t hs => h t (.inl hs),
      Option.eq_none_iff_forall_ne_some.2 fun t hs => h t (.inr hs)⟩) fuel x s hp hf

theorem runSched_complete (c : Cfg) (hv : c.Valid) (payload : List α) (total wk rk : Nat)
    (fuel x : Nat) (s : Sys α) (hr : Reach c payload s) (hm : s.measure c ≤ fuel) :
    (runSchedStop c total wk rk none fuel x s).final = true ∧
    (runSchedStop c total wk rk none fuel x s).received = payload := by
  have hn := rbuf_pos rk
  obtain ⟨hr', hw, hrd⟩ := runSchedStop_end (P := Reach c payload) (rk := rk) (stop := none) hv
    (fun s s' hp hs => Reach.step _ hp (by simpa [Act.ok] using wReq_pos total wk s) hs)
    (fun s s' hp hs => Reach.step (.r _) hp (by simpa [Act.ok] using hn) (by simpa [stepReader] using hs))
    fuel x s hr hm
  have hi := inv_reach hr'
  have ⟨_, hd⟩ := Sys.stuck_final hv hi.ends ⟨_, hw⟩ (stepReader_none hrd)
  have ⟨e, hwc, _, _⟩ := hi.done_complete hd
  exact ⟨by simp [Sys.final, hwc, hd], e⟩

/-- what holds along a run in which the reader takes at most `K` bytes and then closes its end -/
structure SInv (c : Cfg) (payload : List α) (K : Nat) (s : Sys α) : Prop where
  cons : ConsInv c payload s
  ends : Ends s
  lenK : s.received.length ≤ K
  done_imp : s.rpc = .done → s.received.length = K ∨ (s.wpc = .closed ∧ s.pipe.content = [])
  failed_imp : s.wpc = .failed → s.rpc = .done

theorem sinv_init (c : Cfg) (payload : List α) (K : Nat) : SInv c payload K (Sys.init payload) := by
  refine ⟨⟨?_, ?_⟩, ⟨?_, ?_, ?_⟩, ?_, ?_, ?_⟩ <;> simp [Sys.init]

theorem sinv_stepW {c : Cfg} {payload : List α} {K : Nat} {s s' : Sys α} {k : Nat}
    (hi : SInv c payload K s) (h : s.stepW c k = some s') : SInv c payload K s' := by
  have hs := stepW_spec h
  refine ⟨cons_stepW hi.cons h, ends_stepW hi.ends h, hs.received ▸ hi.lenK, fun hd => ?_, ?_⟩
  · rcases hi.done_imp (hs.rpc ▸ hd) with h1 | ⟨h1, _⟩
    · exact Or.inl (hs.received ▸ h1)
    · rcases hs.active with e | e <;> simp [e] at h1
  · cases hs with
    | epipe _ _ hr => exact fun _ => hi.ends.done_of_no_reader hr
    | _ => simp [*]

theorem sinv_stepReader {c : Cfg} {payload : List α} {K rk : Nat} {s s' : Sys α}
    (hi : SInv c payload K s) (h : stepReader c rk (some K) s = some s') : SInv c payload K s' := by
  obtain ⟨cons, ends, lenK, done_imp, failed_imp⟩ := hi
  rcases stepReader_cases h with ⟨K', hK, hrun, hle, hcl⟩ | ⟨n, hn1, hnK, h⟩
  · -- the reader has its K bytes: it closes its end
    cases hK
    simp only [Sys.stepRClose, hrun, Option.some.injEq] at hcl
    subst hcl
    obtain ⟨rd, wr, closed_imp⟩ := ends
    refine ⟨cons, ⟨?_, ?_, closed_imp⟩, lenK, fun _ => Or.inl (by show s.received.length = K; omega), fun _ => rfl⟩
    · simp [Fifo.closeFd, rd, hrun]
    · simpa [Fifo.closeFd] using wr
  · have hs := stepR_spec hn1 h
    -- a writer that has met EPIPE has no reader, and this reader is still there
    have hnf : s.wpc ≠ .failed := fun hf => by rcases hs.active with e | e <;> simp [failed_imp hf] at e
    refine ⟨cons_stepR hn1 cons h, ends_stepR hn1 ends h, ?_, ?_, fun hf => absurd (hs.wpc ▸ hf) hnf⟩
    · cases hs with
      | data hr =>
        have := hnK K rfl hr
        simp only [List.length_append, List.length_take]
        omega
      | _ => exact lenK
    · cases hs with
      | eof _ hc0 hw =>
        rcases ends.finished_of_no_writer hw with e | e
        · exact fun _ => Or.inr ⟨e, hc0⟩
        · exact absurd e hnf
      | _ => simp [*]

theorem lossyFF_id (bs : List Nat) (h : ∀ b ∈ bs, b ≠ 255) : lossyFF bs = bs := by
  induction bs with
  | nil => rfl
  | cons a t ih =>
    have ha : a ≠ 255 := h a List.mem_cons_self
    have := ih fun b hb => h b (List.mem_cons_of_mem _ hb)
    simp only [lossyFF, List.flatMap_cons, ha, if_false] at this ⊢
    simpa using this

end YashModel.Pipe
