/-
  C14 — property theorems (and non-vacuity examples) ONLY.  Helper lemmas: the `*Lemmas.lean` and `*Measure.lean` files,
  GChain.lean (the general chain) and ReadCompose.lean.

  Property text: "Bytes written to a pipeline or produced inside a command substitution reach the
  reader completely, exactly once and in order, for every payload size - including sizes far beyond
  the pipe capacity - and every interleaving of writer and reader; command substitution then removes
  exactly the trailing newlines and nothing else.  Here-document bodies reach the command's standard
  input byte for byte in the same way."

  This is the THEOREM HALF of a partial claim.  The theorems speak about the model of the virtual
  FIFO (`Fifo.write`/`Fifo.read`), of the `write_all`/`read_all` loops and of a scheduler that may
  pick either process at every step, with request and buffer sizes ≥ 1 chosen afresh at every step.
  In the first model (Model.lean, `Sys`) a suspended process becomes runnable exactly when its
  descriptor is ready (level triggered, atomically).  Waker registration and wake-up are modelled
  separately (Wake.lean, WChain.lean): there a parked process is polled only after its waker fired,
  and `no_lost_wakeup`, `wake_refines_pipe`, `wchain_*` tie that model back to the first.  That the
  real code is that model is what the correspondence run (harness/src/bin/c14.rs: a lost wake-up
  shows as `TIMEOUT`) exhibits; several tasks per process, timers and signal wakers are not modelled.
-/
import YashModel.Pipe.Lemmas
import YashModel.Pipe.FlowLemmas
import YashModel.Pipe.FdLemmas
import YashModel.Pipe.FileLemmas
import YashModel.Pipe.TwoWritersLemmas
import YashModel.Pipe.WakeLemmas
import YashModel.Pipe.ChainLemmas
import YashModel.Pipe.ChainMeasure
import YashModel.Pipe.OpsLemmas
import YashModel.Pipe.WChainLemmas
import YashModel.Pipe.WChainMeasure
import YashModel.Pipe.ReadCompose
import YashModel.Input.ReadTheorems
import YashModel.Pipe.TChainLemmas
import YashModel.Pipe.HChainLemmas
import YashModel.Pipe.Lossy
import YashModel.Common.Lists
namespace YashModel.Pipe

variable {α : Type}

/-- The capacity constants of the code as extracted on this run satisfy the hypothesis of the
    theorems below (`decide` over the generated table of two numbers). -/
theorem real_valid : Cfg.real.Valid := by decide

/-- … and POSIX's lower bound: {PIPE_BUF} is at least `_POSIX_PIPE_BUF` = 512, so every write of at most
    512 bytes is atomic (`write_atomic`), as applications are entitled to assume. -/
theorem real_posix_pipe_buf : posixPipeBuf ≤ Cfg.real.pipeBuf := by decide

/-- The other literals of the code that the model types by hand — descriptor numbers 0/1/2 of
    `move_to_stdin_stdout` / `subshell_body` (Fds.lean), `MIN_INTERNAL_FD` (the `lim` driver), the character
    `expand_common` trims (the `10` of `substValue` / `flowSpec`), the room `read_all_to` offers to each `read`
    (the `1024` of `stepReader`) — are the code's constants as re-extracted on this run (`decide` over the
    generated table): a change of any of them in /repo fails this obligation instead of silently leaving
    the model behind. -/
theorem real_fd_consts :
    Generated.PipeConsts.STDIN = 0 ∧ Generated.PipeConsts.STDOUT = 1 ∧ Generated.PipeConsts.STDERR = 2 ∧
    Generated.PipeConsts.MIN_INTERNAL_FD = 10 ∧ Generated.PipeConsts.SUBST_TRIM_CHAR = 10 ∧
    Generated.PipeConsts.READ_ALL_RESERVE = 1024 := by decide

/-- The standard descriptors that `subshell_body` and `PipeSet::move_to_stdin_stdout` name in their guards,
    `dup2` targets and the `dup(STDOUT, Fd(0))` of the special case, as extracted from the two functions on this
    run, are the literals `1` / `0` that `substChild`, `PipeSet.connectStdout`, `connectStdin` (Fds.lean) and the
    driver's `minUnused 64 0` hard-code (decide over the generated table). -/
theorem real_fd_targets :
    Generated.PipeConsts.SUBST_GUARD_FD = 1 ∧ Generated.PipeConsts.SUBST_DUP2_TARGET = 1 ∧
    Generated.PipeConsts.MOVE_WRITER_GUARD_FD = 1 ∧ Generated.PipeConsts.MOVE_SPECIAL_FD = 1 ∧
    Generated.PipeConsts.MOVE_DUP_SOURCE = 1 ∧ Generated.PipeConsts.MOVE_DUP_MIN = 0 ∧
    Generated.PipeConsts.MOVE_WRITER_TARGET = 1 ∧ Generated.PipeConsts.MOVE_READER_GUARD_FD = 0 ∧
    Generated.PipeConsts.MOVE_READER_TARGET = 0 := by decide

/-- How a here-document reaches the command, as extracted from `here_doc::open_fd` / `fill_content` on this run:
    no `pipe(` call (there is no size threshold: the source carries a `TODO Use a pipe for short content`; bodies
    of every size go to the temporary file), one `open_tmpfile(`, and the rewind is `SeekFrom::Start(0)` — what
    `heredocFill` of File.lean transcribes and `heredoc_delivers_bytes` is about.  A threshold with a pipe, or a
    relative rewind, changes these numbers and breaks this `decide`. -/
theorem real_heredoc_delivery :
    Generated.PipeConsts.HEREDOC_PIPE_CALLS = 0 ∧ Generated.PipeConsts.HEREDOC_TMPFILE_CALLS = 1 ∧
    Generated.PipeConsts.HEREDOC_SEEK_ORIGIN = 0 ∧ Generated.PipeConsts.HEREDOC_SEEK_OFFSET = 0 := by decide

/-- ★ Conservation: in every reachable state — every payload, every capacity with
    `1 ≤ PIPE_BUF ≤ PIPE_SIZE`, every request/buffer size ≥ 1, every interleaving —
    what the reader has received, followed by what is buffered, followed by what the writer has
    still to send, is the payload: complete, exactly once, in order; and the buffer never exceeds
    the capacity. -/
theorem pipe_conservation (c : Cfg) (_hv : c.Valid) (payload : List α) (s : Sys α)
    (hr : Reach c payload s) :
    s.received ++ s.pipe.content ++ s.unsent = payload ∧ s.pipe.content.length ≤ c.pipeSize :=
  ⟨(inv_reach hr).cons, (inv_reach hr).cap⟩

/-- the writer never sees EPIPE: the reader closes only after end of file -/
theorem no_epipe (c : Cfg) (payload : List α) (s : Sys α) (hr : Reach c payload s) : s.wpc ≠ .failed :=
  (inv_reach hr).nofail

/-- ★ No deadlock: in every reachable state that is not final (writer closed, reader at end of
    file) some process can take a step — a suspended process counts only if its descriptor is
    ready (`is_ready_for_writing`: room ≥ PIPE_BUF; `is_ready_for_reading`: data or no writer).
    Uses `PIPE_BUF ≤ PIPE_SIZE` (an empty pipe is ready for writing). -/
theorem pipe_no_deadlock (c : Cfg) (hv : c.Valid) (payload : List α) (s : Sys α)
    (hr : Reach c payload s) (hnf : s.final = false) :
    ∃ a s', a.ok = true ∧ s.step c a = some s' := by
  have hi := inv_reach hr
  rcases Sys.progress hv hi.ends with ⟨_, hd⟩ | h | h
  · simp [Sys.final, (hi.done_imp hd).1, hd] at hnf
  · obtain ⟨s', hs⟩ := Option.isSome_iff_exists.mp (h 1)
    exact ⟨.w 1, s', rfl, hs⟩
  · obtain ⟨s', hs⟩ := Option.isSome_iff_exists.mp (h 1)
    exact ⟨.r 1, s', rfl, hs⟩

/-- ★ End of file exactly when done: for a reader that has not finished, a `read` into a buffer of
    `n ≥ 1` bytes returns 0 if and only if the writer has closed and the buffer has drained. -/
theorem eof_iff_done (c : Cfg) (payload : List α) (s : Sys α) (hr : Reach c payload s)
    (n : Nat) (hn : 1 ≤ n) :
    (∃ p, s.pipe.read n = (.data [], p)) ↔ (s.wpc = .closed ∧ s.pipe.content = []) := by
  have hi := inv_reach hr
  rcases read_cases hn s.pipe with ⟨hc, hw, e⟩ | ⟨hc, hw, e⟩ | ⟨hc, hne, e⟩ <;> rw [e]
  · refine ⟨(fun ⟨_, hp⟩ => nomatch hp), fun ⟨hw', _⟩ => ?_⟩
    rw [hi.wr, if_pos (Or.inl hw')] at hw
    exact absurd hw (Nat.lt_irrefl 0)
  · exact ⟨fun _ => ⟨(hi.ends.finished_of_no_writer hw).resolve_right hi.nofail, hc⟩, fun _ => ⟨_, rfl⟩⟩
  · refine ⟨fun ⟨_, hp⟩ => ?_, fun ⟨_, hc'⟩ => absurd hc' hc⟩
    injection hp with h1 _
    injection h1 with h1
    rw [h1] at hne
    cases hne

/-- … and a reader that has seen end of file has received the whole payload (and the writer had
    nothing left, and nothing is buffered) -/
theorem done_complete (c : Cfg) (payload : List α) (s : Sys α) (hr : Reach c payload s)
    (hd : s.rpc = .done) :
    s.received = payload ∧ s.wpc = .closed ∧ s.pipe.content = [] ∧ s.unsent = [] :=
  (inv_reach hr).done_complete hd

/-- ☆ Progress: every step of either process strictly decreases `Sys.measure` (uses `1 ≤ PIPE_BUF`:
    a writer that suspends is not ready at that moment, so suspend/resume cannot spin). -/
theorem pipe_progress (c : Cfg) (hv : c.Valid) (payload : List α) (s s' : Sys α) (a : Act)
    (hr : Reach c payload s) (ha : a.ok = true) (hs : s.step c a = some s') :
    s'.measure c < s.measure c := by
  cases a with
  | w k => exact measure_stepW hv (by simpa [Act.ok] using ha) hs
  | r n => exact measure_stepR (by simpa [Act.ok] using ha) hs

/-- ☆ Termination: under every scheduler the transfer takes at most `6·|payload| + 6` steps … -/
theorem pipe_terminates (c : Cfg) (hv : c.Valid) (payload : List α) (s : Sys α) (n : Nat)
    (he : Exec c (Sys.init payload) n s) : n ≤ 6 * payload.length + 6 := by
  have := Exec.bound hv he
  rw [Sys.init_measure] at this
  omega

/-- ☆ … and where it stops (no process can step) both have finished and the reader holds exactly
    the payload. -/
theorem pipe_complete (c : Cfg) (hv : c.Valid) (payload : List α) (s : Sys α)
    (hr : Reach c payload s) (hstop : ∀ a, a.ok = true → s.step c a = none) :
    s.final = true ∧ s.received = payload := by
  have ⟨_, hd⟩ := Sys.stuck_final hv (inv_reach hr).ends ⟨1, hstop (.w 1) rfl⟩ ⟨1, hstop (.r 1) rfl⟩
  have ⟨e, hw, _, _⟩ := done_complete c payload s hr hd
  exact ⟨by simp [Sys.final, hw, hd], e⟩

/-- ☆ PIPE_BUF atomicity of `write`: a request of at most PIPE_BUF bytes is written completely or
    not at all (EPIPE / would block); a larger one that does not block writes a non-empty prefix. -/
theorem write_atomic (c : Cfg) (p : Fifo α) (buf : List α) :
    (buf.length ≤ c.pipeBuf →
      (p.write c buf).1 = .epipe ∨ (p.write c buf).1 = .block ∨
        p.write c buf = (.wrote buf.length, { p with content := p.content ++ buf })) ∧
    (∀ n p', p.write c buf = (.wrote n, p') → p'.content = p.content ++ buf.take n ∧ (buf ≠ [] → 1 ≤ n)) := by
  constructor
  · intro hb
    rcases write_cases c p buf with ⟨_, e⟩ | ⟨_, _, _, e⟩ | ⟨n, _, _, _, hn, e⟩
    · exact Or.inl (by rw [e])
    · exact Or.inr (Or.inl (by rw [e]))
    · exact Or.inr (Or.inr (by rw [e, hn hb, List.take_length]))
  · intro n p' h
    have ⟨_, hp, _, _, h1, _⟩ := write_wrote h
    exact ⟨by rw [hp], h1⟩

/-- ★ Command substitution removes exactly the trailing newlines: the result followed by some
    number of newlines is the output, and the result does not end with a newline. -/
theorem trim_exact [DecidableEq α] (nl : α) (s : List α) :
    trimEnd nl s ++ List.replicate (s.length - (trimEnd nl s).length) nl = s ∧
      (trimEnd nl s).getLast? ≠ some nl := by
  obtain ⟨tail, h1, h2, h3⟩ : ∃ tail, s = trimEnd nl s ++ tail ∧ _ ∧ _ := Common.rstrip_spec (· = nl) s
  have ht : tail = List.replicate tail.length nl :=
    List.eq_replicate_iff.2 ⟨rfl, fun x hx => of_decide_eq_true (h2 x hx)⟩
  have hl : s.length - (trimEnd nl s).length = tail.length := by
    have := congrArg List.length h1; rw [List.length_append] at this; omega
  exact ⟨by rw [hl, ← ht]; exact h1.symm, fun h => by simpa using h3 _ h⟩

/-- ☆ … and nothing else: the result is the *only* list with that property. -/
theorem trim_unique [DecidableEq α] (nl : α) (s t : List α) (k : Nat)
    (h : t ++ List.replicate k nl = s) (hl : t.getLast? ≠ some nl) : t = trimEnd nl s := by
  subst h
  refine (Common.rstrip_unique (fun x hx => ?_) (fun x hx => ?_)).symm
  · exact decide_eq_true (List.eq_of_mem_replicate hx)
  · exact decide_eq_false fun e => hl (e ▸ hx)

/-- ☆ the scan from the end (the code) agrees with the recursion from the front (the Spec) -/
theorem trim_eq_spec [DecidableEq α] (nl : α) (s : List α) : trimEnd nl s = specTrim nl s :=
  (Common.rstrip_of_rec (· = nl) (specTrim nl) rfl (fun _ _ => rfl) s).symm

/-- ☆ n-stage composition: if every stage forwards its input unchanged (which `pipe_complete`
    gives for each pipe under every scheduler) the pipeline is the identity. -/
theorem stages_identity (f : List α → List α) (hf : ∀ x, f x = x) (k : Nat) (x : List α) :
    stages f k x = x := by
  induction k generalizing x with
  | zero => rfl
  | succ m ih => simp [stages, hf, ih]

/-! ### end to end: what the driver computes is what the property says -/

/-- ★ The function the model driver runs for one pipe — the seeded scheduler `runSchedStop` started in
    `Sys.init x` with the fuel the driver gives it — returns exactly the payload: for every payload,
    every valid capacity, every schedule seed, every writer piece size and every reader buffer size. -/
theorem transfer_delivers (c : Cfg) (hv : c.Valid) (seed wk rk : Nat) (x : List α) :
    transfer c seed wk rk x = some x := by
  have h := runSched_complete c hv x x.length wk rk (12 * x.length + 200) seed (Sys.init x) Reach.init
    (by rw [Sys.init_measure]; omega)
  unfold transfer
  simp only [h.1, if_true, h.2]

/-- nested command substitution: trimming what an inner `$( )` produced (re-terminated by `echo`'s
    newline) gives the same value as the inner substitution — nothing more is lost on the way out -/
theorem nested_subst_same [DecidableEq α] (nl : α) (s : List α) :
    trimEnd nl (trimEnd nl s ++ [nl]) = trimEnd nl s := by
  have h := trim_exact nl s
  exact (trim_unique nl (trimEnd nl s ++ [nl]) (trimEnd nl s) 1 (by simp) h.2).symm

/-- ★ End to end for a whole shell-level flow: for every shape made of pipeline stages (`c`, `y`),
    groups (`g`), command substitutions (`s`) and here-documents with expansion (`h`) — any number of
    them, nested in any order —, every input and every schedule seed, the Impl model of the flow
    (each pipe a scheduled run of writer ∥ reader, each `$( )` the code's decode-and-trim) yields
    exactly what the Spec of the flow says (pipes are the identity; `$( )` removes exactly the
    trailing newlines, by the recursive `specTrim`). -/
theorem flow_model_eq_spec (c : Cfg) (hv : c.Valid) (shape : List Char)
    (hs : ∀ ch ∈ shape, ch = 'c' ∨ ch = 'y' ∨ ch = 'g' ∨ ch = 's' ∨ ch = 'h') (seed : Nat) (x : List Nat) :
    flowModel c seed shape x = some (flowSpec shape x) := by
  induction shape generalizing seed x with
  | nil => rfl
  | cons ch rest ih =>
    have hrest : ∀ d ∈ rest, d = 'c' ∨ d = 'y' ∨ d = 'g' ∨ d = 's' ∨ d = 'h' :=
      fun d hd => hs d (List.mem_cons_of_mem ch hd)
    have hch := hs ch List.mem_cons_self
    simp only [flowModel, flowSpec, transfer_delivers c hv, Option.bind_some, specTransfer, specSubst, substValue,
      trim_eq_spec]
    rcases hch with h | h | h | h | h <;> subst h <;> simp [ih hrest]

/-- ★ What a command substitution hands to the shell, stated exactly, for the character the code trims (extracted
    from `expand_common` on this run, `SUBST_TRIM_CHAR`): for EVERY output `bs` of the child (any length — far
    beyond PIPE_SIZE —, any bytes; `lossyFF` = the lossy decoding, the identity on output without 0xFF bytes), the
    value is the decoded output minus ALL its trailing newlines and nothing else: value ++ k newlines = decoded
    output for some k; the value does not end in a newline; it is the only list with these two properties; and it
    is a prefix of the decoded output (interior newlines, and every other byte, are kept in place). -/
theorem subst_strips_exactly (bs : List Nat) :
    (∃ k, substValue bs ++ List.replicate k Generated.PipeConsts.SUBST_TRIM_CHAR = lossyFF bs) ∧
    (substValue bs).getLast? ≠ some Generated.PipeConsts.SUBST_TRIM_CHAR ∧
    (∀ t k, t ++ List.replicate k Generated.PipeConsts.SUBST_TRIM_CHAR = lossyFF bs →
      t.getLast? ≠ some Generated.PipeConsts.SUBST_TRIM_CHAR → t = substValue bs) ∧
    substValue bs = (lossyFF bs).take (substValue bs).length ∧
    ((∀ b ∈ bs, b ≠ 255) → lossyFF bs = bs) := by
  have e : Generated.PipeConsts.SUBST_TRIM_CHAR = 10 := rfl
  rw [e]
  have h1 := trim_exact (10 : Nat) (lossyFF bs)
  refine ⟨⟨_, h1.1⟩, h1.2, fun t k ht hl => trim_unique 10 (lossyFF bs) t k ht hl, ?_, lossyFF_id bs⟩
  have h2 : (trimEnd 10 (lossyFF bs) ++
      List.replicate ((lossyFF bs).length - (trimEnd 10 (lossyFF bs)).length) 10).take
        (trimEnd 10 (lossyFF bs)).length = trimEnd 10 (lossyFF bs) := by simp
  rw [h1.1] at h2
  exact h2.symm

/-- on a concrete output with interior and trailing newlines and a multi-byte character -/
example : substValue [230, 157, 177, 10, 10, 97, 10, 195, 169, 10, 10, 10] = [230, 157, 177, 10, 10, 97, 10, 195, 169] := by
  decide +kernel

/-- ★ Command substitution on output that is not UTF-8, stated for the general decoder (`lossyGen` = C18's model of
    `String::from_utf8_lossy`, which is what `expand_common` falls back to; the driver uses it for the payloads with
    ill-formed sequences of every kind): for EVERY child output the value is the lossily decoded output minus all
    its trailing occurrences of the extracted trim character and nothing else — value ++ k such characters = decoded
    output, the value does not end in one, it is the only such list.  (This is `trim_exact` / `trim_unique` at the
    list `lossyGen bs`; nothing about the decoder itself is used or proved here.) -/
theorem subst_lossy_strips_exactly (bs : List Nat) :
    (∃ k, trimEnd Generated.PipeConsts.SUBST_TRIM_CHAR (lossyGen bs) ++
        List.replicate k Generated.PipeConsts.SUBST_TRIM_CHAR = lossyGen bs) ∧
    (trimEnd Generated.PipeConsts.SUBST_TRIM_CHAR (lossyGen bs)).getLast? ≠ some Generated.PipeConsts.SUBST_TRIM_CHAR ∧
    (∀ t k, t ++ List.replicate k Generated.PipeConsts.SUBST_TRIM_CHAR = lossyGen bs →
      t.getLast? ≠ some Generated.PipeConsts.SUBST_TRIM_CHAR →
      t = trimEnd Generated.PipeConsts.SUBST_TRIM_CHAR (lossyGen bs)) := by
  have h1 := trim_exact Generated.PipeConsts.SUBST_TRIM_CHAR (lossyGen bs)
  exact ⟨⟨_, h1.1⟩, h1.2, fun t k ht hl => trim_unique _ (lossyGen bs) t k ht hl⟩

/-- what the decoder does, class by class (each ill-formed maximal prefix becomes EF BF BD, decoding resumes at the
    offending byte): lone continuation; truncated 3-byte sequence before ASCII; overlong C0 AF (two bytes that cannot
    occur); surrogate ED A0 80; F5; truncated 4-byte sequence at the end; 0xFF as `lossyFF`; valid text untouched -/
example :
    lossyGen [97, 128, 98] = [97, 239, 191, 189, 98] ∧
    lossyGen [230, 157, 97] = [239, 191, 189, 97] ∧
    lossyGen [192, 175] = [239, 191, 189, 239, 191, 189] ∧
    lossyGen [237, 160, 128] = [239, 191, 189, 239, 191, 189, 239, 191, 189] ∧
    lossyGen [245, 10] = [239, 191, 189, 10] ∧
    lossyGen [240, 159, 152] = [239, 191, 189] ∧
    lossyGen [97, 255, 0, 10] = lossyFF [97, 255, 0, 10] ∧
    lossyGen [230, 157, 177, 10, 195, 169] = [230, 157, 177, 10, 195, 169] := by
  decide +kernel

/-! ### the Spec's POSIX laws are met by the model operations (Spec column characterised) -/

/-- the model's `write` obeys the POSIX write law of the Spec (`specWriteOk`, incl. the `_POSIX_PIPE_BUF`
    atomicity bound) in every state within capacity, for every request -/
theorem write_meets_spec (c : Cfg) (hp : posixPipeBuf ≤ c.pipeBuf) (p : Fifo α) (buf : List α)
    (hcap : p.content.length ≤ c.pipeSize) :
    specWriteOk c p buf.length (p.write c buf).1 (p.write c buf).2 buf = true := by
  have hor : buf.length ≤ c.pipeBuf ∨ buf.length ≤ posixPipeBuf ↔ buf.length ≤ c.pipeBuf :=
    ⟨fun h => h.elim id (fun h => Nat.le_trans h hp), Or.inl⟩
  rcases write_cases c p buf with ⟨h0, e⟩ | ⟨h0, h1, h2, e⟩ | ⟨n, h0, hn, h3, h4, e⟩
  · simp [e, specWriteOk, h0]
  · unfold Fifo.room at h1 h2
    simp only [e, specWriteOk, hor]
    split <;> simp [h0] <;> omega
  · unfold Fifo.room at hn
    simp only [e, specWriteOk, hor]
    by_cases hb : buf.length ≤ c.pipeBuf
    · have := h4 hb
      simp [h0, hb, List.length_take]
      omega
    · have := h3 fun e => hb (by simp [e])
      simp [h0, hb, List.length_take]
      omega

/-- the model's `read` obeys the POSIX read law of the Spec (`specReadOk`) in every state, for every size -/
theorem read_meets_spec (p : Fifo α) (n : Nat) :
    specReadOk p n (match (p.read n).1 with | .block => true | .data _ => false)
      (match (p.read n).1 with | .block => 0 | .data bs => bs.length) = true := by
  by_cases hn : n = 0
  · simp [Fifo.read, specReadOk, hn]
  · rcases read_cases (Nat.pos_of_ne_zero hn) p with ⟨hc, hw, e⟩ | ⟨hc, hw, e⟩ | ⟨hc, hne, e⟩
    · simp [e, specReadOk, hn, hc]; omega
    · simp [e, specReadOk, hn, hc, hw]
    · have := List.length_pos_iff.mpr hc
      have hm : min n p.content.length ≠ 0 := by omega
      simp [e, specReadOk, hn, List.length_take, hm]

/-! ### a consumer that stops early, EPIPE -/

/-- `write` fails with EPIPE exactly when the pipe has no reader, and then nothing is buffered -/
theorem write_epipe_iff (c : Cfg) (p : Fifo α) (buf : List α) :
    ((p.write c buf).1 = .epipe ↔ p.readers = 0) ∧ (p.readers = 0 → p.write c buf = (.epipe, p)) := by
  rcases write_cases c p buf with ⟨h0, e⟩ | ⟨h0, _, _, e⟩ | ⟨n, h0, _, _, _, e⟩ <;> simp [e, h0]

/-- ☆ Conservation survives a reader that closes early (`Reach2` = `Reach` plus the step "the
    running reader closes its end"): still `received ++ buffered ++ unsent = payload`, so what the
    reader has taken is a prefix of the payload — nothing lost before the point where it stopped,
    nothing duplicated or reordered — and the capacity bound holds. -/
theorem pipe_conservation_early_close (c : Cfg) (payload : List α) (s : Sys α) (hr : Reach2 c payload s) :
    s.received ++ s.pipe.content ++ s.unsent = payload ∧ s.pipe.content.length ≤ c.pipeSize ∧
      ∃ rest, payload = s.received ++ rest := by
  have h := cons_reach2 hr
  exact ⟨h.1, h.2, s.pipe.content ++ s.unsent, by rw [← h.1, List.append_assoc]⟩

/-- ☆ … and a writer that still has data finds out: with no reader left its next `write` is EPIPE,
    `write_all` gives up (`failed`), and no further byte enters the pipe. -/
theorem early_close_epipe (c : Cfg) (s : Sys α) (k : Nat) (_hk : 1 ≤ k)
    (hr : s.pipe.readers = 0) (hw : s.wpc = .run) (hu : s.unsent ≠ []) :
    ∃ s', s.stepW c k = some s' ∧ s'.wpc = .failed ∧ s'.unsent = s.unsent ∧
      s'.pipe.content = s.pipe.content ∧ s'.received = s.received := by
  have he : s.unsent.isEmpty = false := by cases hs : s.unsent <;> simp_all
  have hwr := (write_epipe_iff c s.pipe (s.unsent.take k)).2 hr
  refine ⟨{ s with pipe := s.pipe.closeFd false true, wpc := .failed }, ?_, rfl, rfl, ?_, rfl⟩
  · unfold Sys.stepW
    rw [hw]
    simp only [he, Bool.false_eq_true, if_false, hwr]
  · simp [Fifo.closeFd]

/-- ★ A reader that stops after K bytes gets exactly the first K bytes.  For the function the driver runs for
    `xfer … stop=K` (`runSchedStop … (some K)` with the driver's fuel: the reader asks for at most what is missing
    to K and closes its end once it has K bytes), for every payload, valid capacity, seed, writer piece size,
    reader buffer size and K: the run ends with both processes finished; the reader holds exactly
    `payload.take K` — the first K bytes in order, all of the payload when K exceeds it; the writer has either
    completed (`closed`, nothing left unsent) or met EPIPE (`failed`), and it has met EPIPE whenever more than
    K + PIPE_SIZE bytes were to be sent; nothing is reordered: received ++ buffered ++ unsent is still the
    payload. -/
theorem stop_delivers_exactly (c : Cfg) (hv : c.Valid) (seed wk rk K : Nat) (x : List α) :
    let s := runSchedStop c x.length wk rk (some K) (12 * x.length + 200) seed (Sys.init x)
    s.rpc = .done ∧ s.received = x.take K ∧ (s.wpc = .closed ∨ s.wpc = .failed) ∧
      (s.wpc = .closed → s.unsent = []) ∧ (K + c.pipeSize < x.length → s.wpc = .failed) ∧
      s.received ++ s.pipe.content ++ s.unsent = x := by
  have hm : (Sys.init x).measure c ≤ 12 * x.length + 200 := by rw [Sys.init_measure]; omega
  obtain ⟨hi, hw, hr⟩ := runSchedStop_end (total := x.length) (wk := wk) (rk := rk) hv
    (fun _ _ hp hs => sinv_stepW hp hs) (fun _ _ hp hs => sinv_stepReader hp hs)
    (12 * x.length + 200) seed (Sys.init x) (sinv_init c x K) hm
  simp only
  generalize runSchedStop c x.length wk rk (some K) (12 * x.length + 200) seed (Sys.init x) = s at hi hw hr
  obtain ⟨hwp, hd⟩ := Sys.stuck_final hv hi.ends ⟨_, hw⟩ (stepReader_none hr)
  have hcons := hi.cons.1
  have hcap := hi.cons.2
  have hrecv : s.received = x.take K := by
    rcases hi.done_imp hd with h | ⟨h1, h2⟩
    · rw [← hcons, List.append_assoc, ← h, List.take_left']
      rfl
    · have hu := hi.ends.closed_imp h1
      rw [h2, hu] at hcons
      simp only [List.append_nil] at hcons
      rw [← hcons, List.take_of_length_le hi.lenK]
  refine ⟨hd, hrecv, hwp, hi.ends.closed_imp, fun hlt => ?_, hcons⟩
  rcases hwp with h | h
  · have hu := hi.ends.closed_imp h
    have hl := congrArg List.length hcons
    simp only [hu, List.length_append, List.length_nil] at hl
    have := hi.lenK
    omega
  · exact h

/-- `stop_delivers_exactly` evaluated (PIPE_SIZE 8, PIPE_BUF 4): 30 bytes, the reader stops after 5 — it holds
    bytes 0…4, the writer (more than 5 + 8 bytes to send) ends with EPIPE -/
example :
    let s := runSchedStop ({ pipeSize := 8, pipeBuf := 4 } : Cfg) 30 0 3 (some 5) (12 * 30 + 200) 7 (Sys.init (List.range 30))
    s.received = [0, 1, 2, 3, 4] ∧ s.wpc = .failed ∧ s.rpc = .done := by
  decide +kernel

/-! ### the `read` built-in -/

/-- ★ `IFS= read -r` on a pipe or file holding `utf8 line ++ "\n" ++ rest`, for **every** line of
    characters without a newline (1- to 4-byte characters alike): the value assigned is the line
    byte for byte, the status is 0 (3 = read error if the line contains a NUL), the newline is consumed
    and exactly `rest` is left for the next reader. -/
theorem read_raw_line (cs : List Char) (rest : List UInt8) (h : '\n' ∉ cs) :
    readBuiltin true (utf8 cs ++ 10 :: rest) =
      (if (utf8 cs).contains 0 then 3 else 0, if (utf8 cs).contains 0 then [] else utf8 cs, rest) := by
  unfold readBuiltin
  have hl := utf8_length_ge cs
  rw [utf8, readLine_raw_flatMap String.utf8EncodeChar cs rest []
    (fun c hc => ⟨fun e => h (utf8Encode_eq_nl c e ▸ hc), readCharBytes_utf8 c⟩) _
    (by simp only [List.length_append, List.length_cons, utf8] at hl ⊢; omega)]
  simp only [List.nil_append]
  split <;> simp_all

/-- the ASCII instance of `read_raw_line`, stated on bytes -/
theorem read_raw_line_partial (line rest : List UInt8) (h : ∀ b ∈ line, b < 0x80 ∧ b ≠ 10) :
    readBuiltin true (line ++ 10 :: rest) = (if line.contains 0 then 3 else 0, if line.contains 0 then [] else line, rest) := by
  unfold readBuiltin
  have := readLine_raw_flatMap (fun b => [b]) line rest [] (fun b hb =>
    ⟨by simp [(h b hb).2], b, [], rfl, fun r => readCharBytes_ascii b r (h b hb).1⟩) _
    (by simp only [List.length_append, List.length_cons]; omega : line.length < (line ++ 10 :: rest).length + 1)
  rw [List.flatMap_singleton'] at this
  rw [this]
  simp only [List.nil_append]
  split <;> simp_all

/-- ★ The decoded line does not depend on how many bytes each `read(2)` returned: a reader that takes
    the first byte of a character alone and asks for all remaining bytes at once, adding the count
    each call actually returned (`len += count`), produces — for every input, raw or not, and every
    schedule of short reads (`shorts`: how many bytes the pipe holds at each call, any numbers) —
    exactly the result of the byte-by-byte reader.  (Assuming `len = end`, i.e. that a request is
    always filled, is precisely what fails when a character straddles what the writer has supplied
    so far.) -/
theorem read_line_chunking_irrelevant (raw : Bool) (fuel : Nat) (input acc : List UInt8) (shorts : List Nat) :
    readLineChunked raw fuel input acc shorts = readLine raw fuel input acc := by
  -- each chunked read of a character finds what the byte-by-byte read finds (`readCharChunked_eq`); with that the
  -- two readers are the same text, the chunked one only threading the schedule that is left
  have hcc : ∀ b rest sh, readCharChunked b rest sh = (readCharBytes b rest, (readCharChunked b rest sh).2) :=
    fun b rest sh => by rw [← readCharChunked_eq b rest sh]
  induction fuel generalizing input acc shorts with
  | zero => simp [readLineChunked, readLine]
  | succ f ih =>
    cases input with
    | nil => simp [readLineChunked, readLine]
    | cons b rest =>
      simp only [readLineChunked, readLine]
      rw [hcc b rest shorts]
      cases readCharBytes b rest with
      | none => rfl
      | some p =>
        obtain ⟨ch, rest'⟩ := p
        simp only
        by_cases h10 : ch = [10]
        · simp only [h10, if_true]
        · by_cases hbs : ch = [92] ∧ (!raw) = true
          · -- an unquoted backslash: the next character is read the same way
            simp only [h10, if_false, if_pos hbs]
            cases rest' with
            | nil => rfl
            | cons b2 rest2 =>
              simp only
              rw [hcc b2 rest2]
              cases readCharBytes b2 rest2 with
              | none => rfl
              | some p2 =>
                obtain ⟨ch2, rest3⟩ := p2
                simp only
                by_cases h2 : ch2 = [10] <;> simp only [h2, if_true, if_false, ih]
          · simp only [h10, if_false, if_neg hbs, ih]

/-- … because collecting `need` bytes by short reads consumes exactly the next `need` bytes -/
theorem short_reads_collect_prefix (need : Nat) (input : List UInt8) (shorts : List Nat) :
    (gather need input shorts).1 = input.take need ∧ (gather need input shorts).2.1 = input.drop need :=
  gatherF_spec need need input shorts (Nat.le_refl _)

/-- ★ C14 ∘ C18: the two transcriptions of `read/input.rs` agree.  On every ASCII input, with or without `-r`,
    C14's reader (`readLine`, File.lean) and C18's reader (`Input.readLine`, Input/Model.lean) find a newline or not
    alike and leave the same bytes on the descriptor; neither reports EILSEQ. -/
theorem read_agrees_with_input_model (raw : Bool) (input : List UInt8) (h : ∀ b ∈ input, b < 0x80) :
    convP (readLine raw (input.length + 1) input []) = convIn (Input.readLine 10 raw input []) :=
  (read_agree_aux raw input h).1 _ _ _ (Nat.le_refl _)

/-- ★ Non-raw `read` behind a pipe takes exactly one logical line (C18's Spec, `Input.firstLogicalLine`: the
    shortest prefix that ends in a newline preceded by an even number of backslashes; with `-r`: the first
    newline): for every ASCII input and every schedule of short reads (`shorts`: a backslash may be the last byte
    of a chunk, a backslash-newline continuation may straddle two chunks), if the reader reports a complete line
    then what it consumed is that first logical line and what it leaves is exactly what follows it; if it reports
    end of input then no prefix of the input is a complete logical line and nothing is left; it never fails. -/
theorem read_takes_one_logical_line (raw : Bool) (input : List UInt8) (shorts : List Nat)
    (h : ∀ b ∈ input, b < 0x80) :
    match readLineChunked raw (input.length + 1) input [] shorts with
    | .line _ true rest => ∃ pre, pre ++ rest = input ∧ Input.firstLogicalLine 10 raw input = some (pre, rest)
    | .line _ false rest => rest = [] ∧ Input.firstLogicalLine 10 raw input = none
    | .eilseq => False := by
  rw [read_line_chunking_irrelevant]
  have ha := read_agrees_with_input_model raw input h
  obtain ⟨g1, g2, g3⟩ := Input.read_logical_line 10 (by decide) raw input
  cases hr : readLine raw (input.length + 1) input [] with
  | eilseq =>
    rw [hr] at ha
    simp only [convP, convIn] at ha
    split at ha <;> simp at ha
    rename_i herr
    -- C18's reader fails only on invalid UTF-8; ASCII input is valid
    have hv := (g3 herr).1
    exact absurd hv (by simp [Input.validUtf8_ascii input fun x hx => UInt8.lt_iff_toNat_lt.mp (h x hx)])
  | line v nl rest =>
    rw [hr] at ha
    simp only [convP, convIn] at ha
    split at ha
    · rename_i hf
      simp only [Option.some.injEq, Prod.mk.injEq] at ha
      obtain ⟨rfl, hrest⟩ := ha
      obtain ⟨pre, e1, e2⟩ := g1 hf
      simp only
      rw [hrest]
      exact ⟨pre, e1, e2⟩
    · rename_i hf
      simp only [Option.some.injEq, Prod.mk.injEq] at ha
      obtain ⟨rfl, hrest⟩ := ha
      obtain ⟨e1, e2⟩ := g2 hf
      simp only
      rw [hrest]
      exact ⟨e2, e1⟩
    · simp at ha

/-- on a concrete input `a\⏎b\\⏎rest`: a continuation line, an escaped backslash before the newline, text after
    it; short reads of 1, 1, 2 bytes -/
example :
    readLineChunked false 20 [97, 92, 10, 98, 92, 92, 10, 114, 101, 115, 116] [] [1, 1, 2] =
      .line [97, 98, 92] true [114, 101, 115, 116] := by
  decide +kernel

/-! ### two writers on one pipe -/

/-- ★ Two writers, one reader, one pipe — every pair of payloads, every interleaving of the three
    processes, every accepted-prefix length and read size at every step (so whatever capacity,
    PIPE_BUF atomicity or blocking allow): at every moment the bytes of each writer that the reader
    has received, followed by those still buffered, followed by those still unsent, are that writer's
    payload — complete, once, in that writer's order; and once both writers have nothing left and
    the buffer is empty the reader holds exactly the two payloads, merged. -/
theorem two_writers_conservation (pa pb : List α) (acts : List Act2) :
    let s := (Sys2.init pa pb).run acts
    proj true (s.received ++ s.content) ++ s.unsentA = pa ∧
    proj false (s.received ++ s.content) ++ s.unsentB = pb ∧
    (s.unsentA = [] → s.unsentB = [] → s.content = [] →
      proj true s.received = pa ∧ proj false s.received = pb ∧ s.received.length = pa.length + pb.length) := by
  have h := inv2_run pa pb (Sys2.init pa pb) acts (by simp [Inv2, Sys2.init, proj])
  obtain ⟨ha, hb⟩ := h
  refine ⟨ha, hb, fun ea eb ec => ?_⟩
  rw [ea, ec] at ha
  rw [eb, ec] at hb
  simp only [List.append_nil] at ha hb
  refine ⟨ha, hb, ?_⟩
  have := length_proj ((Sys2.init pa pb).run acts).received
  rw [ha, hb] at this
  omega

/-! ### descriptor choreography: the child really is connected to the pipe, whatever is open -/

/-- ★ Command substitution, child side (`subshell_body`): for every descriptor table of the shell —
    any of 0/1/2 closed, so that the pipe ends may land on them — and whatever unused descriptors
    `pipe()` hands out, after the child's prologue descriptor 1 refers to the writing end of the
    pipe, no other descriptor of the child refers to the writing end, none at all to the reading
    end, and every other descriptor is as it was. -/
theorem cmdsubst_stdout_is_writer (t : Table) (p : Nat) (r w : Fd) (hrw : r ≠ w) (hf : t.Fresh p) :
    ∃ t', substChild (t.pipe p r w) r w = some t' ∧
      t' 1 = some (.pw p) ∧
      (∀ fd, fd ≠ 1 → t' fd ≠ some (.pw p)) ∧ (∀ fd, t' fd ≠ some (.pr p)) ∧
      (∀ fd, fd ≠ 1 → fd ≠ r → fd ≠ w → t' fd = t fd) := by
  unfold Table.Fresh at hf
  unfold substChild Table.pipe Table.dup2 Table.close
  -- the child's table is an explicit composition of `Table.set`s over `t`: every conjunct is a look-up in it, settled
  -- by comparing `fd` with `r`, `w` and 1, and by `hf` where the entry is `t`'s
  by_cases hw1 : w = 1
  · subst hw1
    refine ⟨_, by rw [if_neg (by simp)], ?_, ?_, ?_, ?_⟩ <;> grind [Table.set]
  · have hwr : w ≠ r := fun h => hrw h.symm
    simp only [ne_eq, hw1, not_false_eq_true, if_true]
    have e : ((t.set r (some (Ent.pr p))).set w (some (Ent.pw p))).set r none w = some (.pw p) := by
      simp [Table.set, hwr]
    rw [e]
    refine ⟨_, rfl, ?_, ?_, ?_, ?_⟩ <;> grind [Table.set]

/-- End to end for the descriptor side: the function the driver runs for a command substitution
    (`substRun`: lowest unused descriptors, as `Process::open_fd` allocates, then the child prologue)
    reports `connected` for every table that has two unused descriptors below 64 — descriptor 1 is the
    writing end and none of the descriptors it inspects is a stray end of the pipe. -/
theorem substRun_connected (t : Table) (p : Nat) (hf : t.Fresh p)
    (h : ∃ a b : Nat, a < b ∧ b < 64 ∧ t a = none ∧ t b = none) : (substRun t p).2 = true := by
  obtain ⟨r, w, e, hrw, _, _⟩ := alloc2_spec t h
  unfold substRun
  rw [e]
  simp only
  obtain ⟨t', ht', h1, hw, hr, _⟩ := cmdsubst_stdout_is_writer t p r w hrw hf
  rw [ht']
  simp only [h1, beq_self_eq_true, Bool.true_and, noStray, List.all_eq_true]
  intro fd _
  have a1 := hr fd
  by_cases e : fd = 1
  · subst e; simp [a1]
  · have a2 := hw fd e
    simp [a1, a2]

/-- … parent side (`expand_common`): after closing the writer the shell holds the reading end at
    `r` and nothing else of the pipe, so end of file arrives when the child's copies are closed. -/
theorem cmdsubst_parent_keeps_reader (t : Table) (p : Nat) (r w : Fd) (hrw : r ≠ w) (hf : t.Fresh p) :
    substParent (t.pipe p r w) w r = some (.pr p) ∧
      (∀ fd, fd ≠ r → substParent (t.pipe p r w) w fd ≠ some (.pr p)) ∧
      (∀ fd, substParent (t.pipe p r w) w fd ≠ some (.pw p)) := by
  unfold Table.Fresh at hf
  unfold substParent Table.pipe Table.close
  refine ⟨?_, ?_, ?_⟩ <;> grind [Table.set]

/-- ★ Pipeline member (`PipeSet::move_to_stdin_stdout`): for every descriptor table in which the
    parent's bookkeeping is accurate (`PInv`: `read_previous` is the only descriptor of the pipe `p`
    from the previous member, `next` the only two of the pipe `q` to the next member), and whatever
    unused descriptor `dup(STDOUT, 0)` hands out in the special case `read_previous == STDOUT`, the
    call succeeds and afterwards: descriptor 0 is the previous pipe's reading end (if there is a
    previous member), descriptor 1 the next pipe's writing end (if there is a next member), no other
    descriptor refers to any end of either pipe, and other files at descriptors ≥ 2 are untouched. -/
theorem pipeline_ends_connected (t : Table) (ps : PipeSet) (p q : Nat) (d : Fd)
    (hi : PInv t ps p q) (hd : ∀ r w, ps.next = some (r, w) → d ≠ r → t d = none) :
    ∃ t', ps.moveToStdinStdout t d = some t' ∧
      (∀ rp, ps.readPrevious = some rp → t' 0 = some (.pr p)) ∧
      (∀ r w, ps.next = some (r, w) → t' 1 = some (.pw q)) ∧
      (∀ fd, (t' fd = some (.pr p) → fd = 0) ∧ t' fd ≠ some (.pw p) ∧
             t' fd ≠ some (.pr q) ∧ (t' fd = some (.pw q) → fd = 1)) ∧
      (∀ fd, 2 ≤ fd → t fd = some .file → t' fd = some .file) := by
  refine ⟨_, moveToStdinStdout_eq t ps p q d hi.pq hi.prev hi.next hd, fun rp h => by simp [PipeSet.connected, h],
    fun r w h => by simp [PipeSet.connected, h], fun fd => ?_, fun fd h2 hf => ?_⟩
  · -- an entry of `t` that is kept is no end of either pipe: the parent held the ends only where `ps` says
    have A := hi.prev_only fd; have B := hi.next_only fd
    have := hi.pq
    simp only [PipeSet.connected]
    grind
  · -- a descriptor that was closed held an end of a pipe, not a file
    have A := hi.prev fd
    simp only [PipeSet.connected]
    cases hn : ps.next with
    | none => grind
    | some rw =>
      have B := hi.next rw.1 rw.2 hn
      grind

/-- ☆ … and the parent's bookkeeping *is* accurate: it holds for a fresh `PipeSet` (`pipeline_init_inv` below), and `shift`
    (close `read_previous`, close the old writer, open the next pipe on any unused descriptors, or
    none after the last member) re-establishes it for the next member. -/
theorem pipeline_shift_inv (t : Table) (ps : PipeSet) (p q q' : Nat)
    (hi : PInv t ps p q) (hq' : t.Fresh q') (hqq : q ≠ q') :
    PInv (ps.shiftClose t).2 (ps.shiftClose t).1 q q' ∧
    ∀ r' w', r' ≠ w' → (ps.shiftClose t).2 r' = none → (ps.shiftClose t).2 w' = none →
      PInv (ps.shiftOpen t q' r' w').2 (ps.shiftOpen t q' r' w').1 q q' :=
  have h := shift_close_inv t ps p q q' hi hq' hqq
  ⟨h, fun _ _ hrw hr hw => pinv_pipe h (by cases ps.next <;> rfl) hrw hr hw⟩

theorem pipeline_init_inv (t : Table) (p q : Nat) (hp : t.Fresh p) (hq : t.Fresh q) (hpq : p ≠ q) :
    PInv t {} p q := by
  unfold Table.Fresh at hp hq
  refine ⟨hpq, ?_, ?_, ?_, ?_⟩ <;> grind

/-! ### here-documents: the body reaches standard input byte for byte -/

/-- ★ Here-document delivery (`here_doc::open_fd` / `fill_content`): for every body, writing its
    bytes to the new temporary file and rewinding to offset 0 leaves a description whose file holds
    exactly `utf8 body` at offset 0; whatever buffer sizes the reader uses, what it has received
    after any number of `read`s is the prefix of `utf8 body` of the total size asked for — the same
    bytes, in order, nothing skipped — and therefore all of `utf8 body` as soon as it has asked for
    at least that many, after which `read` returns 0 bytes. -/
theorem heredoc_delivers_bytes (body : List Char) :
    ∃ o, heredocFill (utf8 body) = some o ∧ o.content = utf8 body ∧ o.offset = 0 ∧
      (∀ ns : List Nat, (o.reads ns).1 = (utf8 body).take ns.sum) ∧
      (∀ ns : List Nat, (utf8 body).length ≤ ns.sum →
        (o.reads ns).1 = utf8 body ∧ ∀ n, ((o.reads ns).2.read n).1 = []) := by
  refine ⟨{ content := utf8 body, offset := 0 }, ?_, rfl, rfl, ?_, ?_⟩
  · simp [heredocFill, RegOfd.seek, RegOfd.write, RegOfd.tmpfile]
  · intro ns
    simpa using (reads_spec { content := utf8 body, offset := 0 } ns).1
  · intro ns hs
    have h := reads_spec { content := utf8 body, offset := 0 } ns
    simp only [List.drop_zero, Nat.zero_add] at h
    refine ⟨by rw [h.1, List.take_of_length_le hs], fun n => ?_⟩
    rw [h.2, List.take_of_length_le hs]
    simp [RegOfd.read]

/-- … in particular a `cat`-like reader (buffers of 1024 bytes, `|body|/1024 + 2` calls, as the driver
    runs it) drains exactly `utf8 body` -/
theorem heredoc_cat_drains (body : List Char) :
    (heredocFill (utf8 body)).map (fun o => (o.reads (List.replicate ((utf8 body).length / 1024 + 2) 1024)).1) =
      some (utf8 body) := by
  obtain ⟨o, ho, _, _, _, hall⟩ := heredoc_delivers_bytes body
  rw [ho]
  simp only [Option.map_some, Option.some.injEq]
  refine (hall _ ?_).1
  rw [List.sum_replicate_nat]
  have := Nat.div_add_mod (utf8 body).length 1024
  have := Nat.mod_lt (utf8 body).length (by decide : 0 < 1024)
  omega

/-- Why the rewind must be in *bytes*: rewinding (relative to the end of what was written) by the
    number of *characters* makes the reader see `utf8 body` without its first
    `|utf8 body| − |body|` bytes; that is a different byte string whenever the body contains a
    character outside ASCII (`2 ≤ utf8Size`) … -/
theorem heredoc_char_rewind_differs (body : List Char) (h : ∃ c ∈ body, 2 ≤ c.utf8Size) :
    ∃ o, heredocFillBack (utf8 body) body.length = some o ∧
      ∀ ns : List Nat, (utf8 body).length ≤ ns.sum →
        (o.reads ns).1 = (utf8 body).drop ((utf8 body).length - body.length) ∧
        (o.reads ns).1 ≠ utf8 body := by
  have hlt := utf8_length_gt body h
  have hoff : (0 : Int) ≤ ((utf8 body).length : Int) + -(body.length : Int) := by omega
  refine ⟨{ content := utf8 body, offset := (utf8 body).length - body.length }, ?_, ?_⟩
  · simp only [heredocFillBack, RegOfd.seek, RegOfd.write, RegOfd.tmpfile, List.length_nil, Nat.sub_self,
      List.replicate_zero, List.append_nil, List.take_nil, List.nil_append, List.drop_nil, Nat.zero_add, hoff, if_true]
    congr 2
    omega
  · intro ns hs
    have h1 := (reads_spec { content := utf8 body, offset := (utf8 body).length - body.length } ns).1
    simp only at h1
    have hl : ((utf8 body).drop ((utf8 body).length - body.length)).length ≤ ns.sum := by
      simp only [List.length_drop]; omega
    rw [List.take_of_length_le hl] at h1
    refine ⟨h1, fun he => ?_⟩
    have := congrArg List.length (h1.symm.trans he)
    simp only [List.length_drop] at this
    omega

/-- … and the very same byte string when the body is pure ASCII — which is why only bodies with
    multi-byte characters can tell the two apart. -/
theorem heredoc_char_rewind_ascii_same (body : List Char) (h : ∀ c ∈ body, c.utf8Size = 1) :
    heredocFillBack (utf8 body) body.length = heredocFill (utf8 body) := by
  have hl := utf8_length_ascii body h
  simp only [heredocFillBack, heredocFill, RegOfd.seek, RegOfd.write, RegOfd.tmpfile, List.length_nil,
    Nat.sub_self, List.replicate_zero, List.append_nil, List.take_nil, List.nil_append, List.drop_nil, Nat.zero_add, hl]
  have : (0 : Int) ≤ (body.length : Int) + -(body.length : Int) := by omega
  simp only [this, if_true]
  congr 2
  omega

/-! ### the wake-up half: wakers registered, fired and honoured (Wake.lean) -/

/-- ★ The system with explicit wakers refines the system of Model.lean: whatever the executor does — poll a
    process whose waker fired, poll one spuriously, in any order, with any request and buffer size ≥ 1 —
    the data side of every reachable state is a reachable state of writer ∥ reader, so conservation
    (`pipe_conservation`), the capacity bound, `no_epipe`, `eof_iff_done` and `done_complete` hold there too. -/
theorem wake_refines_pipe (c : Cfg) (payload : List α) (s : WSys α) (hr : WReach c payload s) :
    Reach c payload s.base ∧
      s.base.received ++ s.base.pipe.content ++ s.base.unsent = payload :=
  ⟨wreach_base hr, (inv_reach (wreach_base hr)).cons⟩

/-- ★ No lost wake-up: in every reachable state a process that is parked inside `select` and whose waker
    has not fired still has that waker registered in the FIFO's `pending_write_wakers` (writer) /
    `pending_read_wakers` (reader), and its descriptor is indeed not ready.  Contrapositive: as soon as the
    descriptor of a parked process is ready, its waker has fired — by the `wake_all` in the other side's
    `poll_read` / `poll_write` / `close` — and the executor will poll it. -/
theorem no_lost_wakeup (c : Cfg) (payload : List α) (s : WSys α) (hr : WReach c payload s) :
    (s.base.wpc = .wait → s.w.parked = true → s.w.woken = false →
      s.w.reg = true ∧ s.base.pipe.readyW c = false) ∧
    (s.base.rpc = .wait → s.r.parked = true → s.r.woken = false →
      s.r.reg = true ∧ s.base.pipe.readyR = false) :=
  ⟨(winv_reach hr).hw, (winv_reach hr).hr⟩

/-- ★ No deadlock with real wake-ups: in every reachable state that is not final the executor owes some
    process a poll — a *legitimate* one (`spur = false`: the process is running, or has yielded and not yet
    parked, or is parked and its waker has fired) — and that poll is a step.  Readiness alone does not
    count: a parked process moves only after a wake-up. -/
theorem wake_no_deadlock (c : Cfg) (hv : c.Valid) (payload : List α) (s : WSys α)
    (hr : WReach c payload s) (hnf : s.base.final = false) :
    ∃ a s', a.ok = true ∧ a.legit = true ∧ s.step c a = some s' := by
  obtain ⟨a, b, ha, hs⟩ := pipe_no_deadlock c hv payload s.base (wreach_base hr) hnf
  cases a with
  | w k =>
    obtain ⟨s', hs'⟩ := wstepW_some_of_base (winv_reach hr) (by simpa [Sys.step] using hs)
    exact ⟨.w k false, s', by simpa [WAct.ok, Act.ok] using ha, rfl, hs'⟩
  | r n =>
    obtain ⟨s', hs'⟩ := wstepR_some_of_base (c := c) (winv_reach hr) (by simpa [Sys.step] using hs)
    exact ⟨.r n false, s', by simpa [WAct.ok, Act.ok] using ha, rfl, hs'⟩

/-- ☆ Progress with real wake-ups: every legitimate poll strictly decreases `WSys.measure` — parking,
    being woken while the descriptor is still not ready (room < PIPE_BUF) and parking again included —
    so wake-ups cannot ping-pong for ever. -/
theorem wake_progress (c : Cfg) (hv : c.Valid) (payload : List α) (s s' : WSys α) (a : WAct)
    (hr : WReach c payload s) (ha : a.ok = true) (hl : a.legit = true) (hs : s.step c a = some s') :
    s'.measure c < s.measure c := by
  cases a with
  | w k spur =>
    have : spur = false := by simpa [WAct.legit] using hl
    subst this
    exact wmeasure_stepW hv (by simpa [WAct.ok] using ha) hs
  | r n spur =>
    have : spur = false := by simpa [WAct.legit] using hl
    subst this
    exact wmeasure_stepR (by simpa [WAct.ok] using ha) hs

/-- The operations with wakers that the driver runs on operation sequences (`sysWriteW`, `pollWriteW`,
    `sysReadW`, `wfClose`) are the operations of Model.lean plus bookkeeping: forgetting the waker sets gives
    exactly `sysWrite` / `pollWrite` / `sysRead` / `closeFd`, for every state, request and waker state — so
    `write_meets_spec`, `read_meets_spec`, `write_atomic`, `write_epipe_iff` speak about what the driver runs. -/
theorem waker_ops_project (c : Cfg) (o : Ofd) (p : Fifo α) (w : Wakers) (buf : List α) (n : Nat) (r wr : Bool) :
    ((o.sysWriteW c p w buf).1, (o.sysWriteW c p w buf).2.1) = o.sysWrite c p buf ∧
    ((o.pollWriteW c p w buf).1, (o.pollWriteW c p w buf).2.1) = o.pollWrite c p buf ∧
    ((o.sysReadW p w n).1, (o.sysReadW p w n).2.1, (o.sysReadW p w n).2.2.1) = o.sysRead p n ∧
    (wfClose p w r wr).1 = p.closeFd r wr :=
  ⟨sysWriteW_proj c o p w buf, pollWriteW_proj c o p w buf, sysReadW_proj o p w n, rfl⟩

/-- ★ End to end for two virtual processes: the function the model driver runs for `xfer mode=proc`
    — a seeded executor that polls a parked process only after its waker has fired, with the fuel the driver
    gives it — ends in the final state with exactly the payload, for every payload, valid capacity, seed,
    writer piece size and reader buffer size. -/
theorem wtransfer_delivers (c : Cfg) (hv : c.Valid) (seed wk rk : Nat) (x : List α) :
    wtransfer c seed wk rk x = some x := by
  have hm : (WSys.init x).measure c < 40 * x.length + 200 := by rw [WSys.init_measure]; omega
  have h := runWSched_complete c hv x x.length wk rk (40 * x.length + 200) seed (WSys.init x) WReach.init hm
  unfold wtransfer
  simp only [h.1, if_true, h.2]

/-- ★ The wake-up law of the operation-sequence machine for ALL histories:
    after every operation sequence — any number of open slots on the FIFO, any interleaving of `open`, `fcntl`,
    `close`, `write`, `read` (blocking or not, through the system call or the open file description), `select`,
    `park` (a `select` kept alive while pending, any number of them, in the reader set, the writer set or both)
    and `poll` — no parked `select` whose waker has not fired waits for a descriptor that is ready.  Since the
    driver evaluates `lostWakeup` on `opsFrom {} 0 prefix` after each operation, its Spec column can never say
    `lost-wakeup`: the per-case check is a corollary.  Proof: `OInv` (an unfired parked select is registered in
    the matching waker set of the FIFO and its descriptor is not ready; ids are distinct) is preserved because
    every transition of the FIFO is wake-safe (`WakeSafe`: readiness turns true only together with a `wake_all` of
    the matching set). -/
theorem ops_no_lost_wakeup (ops : List Op) : lostWakeup (opsFrom {} 0 ops) = false :=
  (opsFrom_inv ops {} 0 OInv.init).no_lost

/-- … and every single operation keeps the law from any state that satisfies the invariant -/
theorem op_keeps_wake_invariant (st : OpState) (i : Nat) (op : Op) (hi : OInv st) :
    OInv (opStep st i op).2.1 ∧ lostWakeup (opStep st i op).2.1 = false :=
  ⟨opStep_inv st i op hi, (opStep_inv st i op hi).no_lost⟩

/-- the invariant is not vacuous: a reader and a writer slot, a `select` for reading parked on the empty pipe —
    registered and unfired, the pipe not ready for reading; a write of 3 bytes fires it -/
example :
    let st := opsFrom {} 0 [.openFd true false, .openFd false true, .park 0 true false]
    let st' := opsFrom st 3 [.write 1 3]
    st.parked = [(0, 0, true, false)] ∧ st.wk.pendR = [0] ∧ st.wk.fired = [] ∧ st.fifo.readyR = false ∧
      st'.wk.fired = [0] ∧ st'.wk.pendR = [] ∧ st'.fifo.readyR = true := by
  decide +kernel

/-! ### non-vacuity and necessity of the hypotheses -/

/-- a concrete reachable non-trivial state with the real capacity: 3000 bytes, the writer asks for
    all of them, the reader takes 700, the writer asks again -/
example : Reach Cfg.real (List.replicate 3000 'x')
    ((Sys.init (List.replicate 3000 'x')).run Cfg.real [.w 3000, .r 700, .w 5000]) :=
  reach_run Reach.init _ (by decide)

/-- the same shape in a small capacity (PIPE_SIZE 8, PIPE_BUF 4), evaluated: a partial write fills
    the pipe, the reader takes 3, the next partial write fills it again; 9 bytes remain unsent -/
example :
    let c : Cfg := { pipeSize := 8, pipeBuf := 4 }
    let s := (Sys.init (List.range 20)).run c [.w 20, .r 3, .w 20]
    c.Valid ∧ s.received = [0, 1, 2] ∧ s.pipe.content = [3, 4, 5, 6, 7, 8, 9, 10] ∧ s.unsent.length = 9 ∧
      s.wpc = .run ∧ s.final = false := by
  decide +kernel

/-- `trim_exact` on a concrete string with embedded and trailing newlines -/
example : trimEnd '\n' "a\n\nb\n\n\n".toList = "a\n\nb".toList := by decide +kernel

/-- the hypothesis `PIPE_BUF ≤ PIPE_SIZE` is necessary for `pipe_no_deadlock`: with PIPE_BUF = 5 >
    PIPE_SIZE = 2 a 3-byte atomic request never fits, both processes suspend and nobody is ready -/
example :
    let c : Cfg := { pipeSize := 2, pipeBuf := 5 }
    let s := (Sys.init [1, 2, 3]).run c [.w 3, .r 1]
    s.final = false ∧ s.step c (.w 3) = none ∧ s.step c (.r 1) = none := by
  decide +kernel

/-- the hypothesis "buffer ≥ 1" is necessary for `eof_iff_done`: a read of 0 bytes returns 0 while
    the writer has not even started -/
example : ∃ p, (Sys.init [1, 2, 3]).pipe.read 0 = (.data [], p) := ⟨_, rfl⟩

/-- the hypothesis `1 ≤ PIPE_BUF` is necessary for `pipe_progress`: with PIPE_BUF = 0 a writer that
    found the pipe full is "ready" at once and can suspend and resume for ever -/
example :
    let c : Cfg := { pipeSize := 1, pipeBuf := 0 }
    let s := (Sys.init [1, 2]).run c [.w 2, .w 2, .w 2]
    (s.run c [.w 2, .w 2]).measure c = s.measure c := by
  decide +kernel

/-- the shell with descriptor 1 closed (`exec >&-`): `pipe()` gives the reading end descriptor 1;
    the child ends up with the writing end at 1 and no reading end -/
example :
    let t : Table := fun fd => if fd = 0 ∨ fd = 2 then some .file else none
    (substChild (t.pipe 7 1 3) 1 3).map (fun t' => (t' 0, t' 1, t' 2, t' 3)) =
      some (some .file, some (.pw 7), some .file, none) := by
  decide +kernel

/-- the order in `subshell_body` matters: closing the reader *after* `dup2(writer, 1)` in that
    state closes the new standard output -/
example :
    let t : Table := fun fd => if fd = 0 ∨ fd = 2 then some .file else none
    (((t.pipe 7 1 3).dup2 3 1).map (fun t' => ((t'.close 3).close 1) 1)) = some none := by
  decide +kernel

/-- a middle pipeline member whose `read_previous` is descriptor 1 (standard output was closed in
    the parent, so the previous pipe's reader landed there): the special case moves it out of the
    way first; the member ends up with 0 = previous reader, 1 = next writer, nothing else -/
example :
    let t : Table := fun fd => if fd = 0 ∨ fd = 2 then some .file else if fd = 1 then some (.pr 5)
                       else if fd = 3 then some (.pr 6) else if fd = 4 then some (.pw 6) else none
    let ps : PipeSet := { readPrevious := some 1, next := some (3, 4) }
    (ps.moveToStdinStdout t 3).map (fun t' => (t' 0, t' 1, t' 2, t' 3, t' 4)) =
      some (some (.pr 5), some (.pw 6), some .file, none, none) := by
  decide +kernel

/-- bytes, not characters: `[東京] 😀 ok⏎` is 17 bytes for 10 characters; a character-count
    rewind starts the reader 7 bytes late, at `] 😀 ok⏎` -/
example :
    let body := "[東京] 😀 ok\n".toList
    (utf8 body).length = 17 ∧ body.length = 10 ∧
    ((heredocFill (utf8 body)).map fun o => (o.reads [1024]).1) = some (utf8 body) ∧
    ((heredocFillBack (utf8 body) body.length).map fun o => (o.reads [1024]).1) = some (utf8 "] 😀 ok\n".toList) := by
  decide +kernel

example : ∃ c ∈ "[東京] 😀 ok\n".toList, 2 ≤ c.utf8Size := ⟨'東', by decide +kernel, by decide +kernel⟩

/-- a 3-byte character whose bytes arrive one per `read(2)` (the pipe held only the lead byte and one
    continuation byte when the reader asked): same line as when everything is there -/
example :
    let input := utf8 "a東b\n".toList
    readLineChunked true 10 input [] [1, 1, 1, 1, 1, 1] = readLineChunked true 10 input [] [9, 9, 9] ∧
    readLineChunked true 10 input [] [1, 1, 1, 1, 1, 1] = .line (utf8 "a東b".toList) true [] := by
  decide +kernel

/-- `transfer_delivers` at the real capacity (hypothesis met by `real_valid`) and, evaluated, in a small one -/
example : transfer Cfg.real 7 513 3 (List.range 3000) = some (List.range 3000) :=
  transfer_delivers Cfg.real real_valid 7 513 3 _

example : transfer { pipeSize := 8, pipeBuf := 4 } 5 0 3 (List.range 20) = some (List.range 20) := by decide +kernel

/-- `flow_model_eq_spec` on `… | cat`, `echo "$( … )"`, `| cat` with two trailing newlines: both sides evaluated -/
example :
    flowModel { pipeSize := 8, pipeBuf := 4 } 3 "csc".toList [97, 10, 98, 10, 10] = some [97, 10, 98, 10] ∧
    flowSpec "csc".toList [97, 10, 98, 10, 10] = [97, 10, 98, 10] := by
  decide +kernel

/-- the hypotheses of `write_meets_spec` are met by the real constants and the freshly created pipe -/
example (buf : List Nat) :
    specWriteOk Cfg.real ({ content := [], readers := 1, writers := 1 } : Fifo Nat) buf.length
      (({ content := [], readers := 1, writers := 1 } : Fifo Nat).write Cfg.real buf).1
      (({ content := [], readers := 1, writers := 1 } : Fifo Nat).write Cfg.real buf).2 buf = true :=
  write_meets_spec Cfg.real real_posix_pipe_buf _ buf (by simp)

/-- `substRun_connected` on the `exec >&-` table (descriptor 1 closed, so the reading end lands on 1) -/
example : (substRun (fun fd => if fd = 0 ∨ fd = 2 then some .file else none) 7).2 = true :=
  substRun_connected _ 7 (by intro fd; by_cases h : fd = 0 ∨ fd = 2 <;> simp [h])
    ⟨1, 3, by decide, by decide, by decide, by decide⟩

/-- a reachable state with both kinds of waiting (PIPE_SIZE 8, PIPE_BUF 4): the writer filled the pipe,
    got EAGAIN, polled `select` and is parked with its waker registered; the reader takes 3 bytes — room 3 is
    still below PIPE_BUF — which fires the waker; the writer is polled, finds the descriptor not ready
    and parks again; after 2 more bytes it is woken and runs -/
example :
    let c : Cfg := { pipeSize := 8, pipeBuf := 4 }
    let s1 := (WSys.init (List.range 20)).run c [.w 20 false, .w 20 false, .w 20 false]
    let s2 := s1.run c [.r 3 false]
    let s3 := s2.run c [.w 20 false]
    let s4 := s3.run c [.r 2 false, .w 20 false]
    s1.w = { parked := true, reg := true, woken := false } ∧ s1.step c (.w 20 false) = none ∧
    s2.w = { parked := true, reg := false, woken := true } ∧
    s3.w = { parked := true, reg := true, woken := false } ∧
    s4.base.wpc = .run ∧ s4.w = {} := by
  decide +kernel

example : WReach ({ pipeSize := 8, pipeBuf := 4 } : Cfg) (List.range 20)
    ((WSys.init (List.range 20)).run { pipeSize := 8, pipeBuf := 4 } [.w 20 false, .w 20 false, .w 20 false, .r 3 false]) :=
  wreach_run WReach.init _ (by decide)

/-- the hypotheses of `no_lost_wakeup` (first conjunct) are met in a reachable state: after three polls the
    writer waits, is parked and has not been woken — and indeed it is registered and not ready -/
example :
    let c : Cfg := { pipeSize := 8, pipeBuf := 4 }
    let s1 := (WSys.init (List.range 20)).run c [.w 20 false, .w 20 false, .w 20 false]
    WReach c (List.range 20) s1 ∧ s1.base.wpc = .wait ∧ s1.w.parked = true ∧ s1.w.woken = false ∧
      s1.w.reg = true ∧ s1.base.pipe.readyW c = false :=
  ⟨wreach_run WReach.init _ (by decide), by decide⟩

/-- the registration is necessary: the same state with the writer's registration forgotten (what a `select`
    that does not call `register_writer_waker` leaves behind) — the reader drains the pipe, nobody fires
    the writer's waker, the reader parks: nobody is owed a poll although 12 bytes are still unsent -/
example :
    let c : Cfg := { pipeSize := 8, pipeBuf := 4 }
    let s1 := (WSys.init (List.range 20)).run c [.w 20 false, .w 20 false, .w 20 false]
    let bad : WSys Nat := { s1 with w := { s1.w with reg := false } }
    let s2 := bad.run c [.r 8 false, .r 8 false, .r 8 false]
    s2.base.final = false ∧ s2.base.unsent.length = 12 ∧ s2.base.pipe.readyW c = true ∧
      s2.step c (.w 20 false) = none ∧ s2.step c (.r 8 false) = none := by
  decide +kernel

/-- `wtransfer_delivers` at the real capacity and, evaluated, in a small one -/
example : wtransfer Cfg.real 7 513 3 (List.range 3000) = some (List.range 3000) :=
  wtransfer_delivers Cfg.real real_valid 7 513 3 _

example : wtransfer { pipeSize := 8, pipeBuf := 4 } 5 0 3 (List.range 20) = some (List.range 20) := by decide +kernel

/-! ### a concurrent pipeline of any number of stages (Chain.lean) -/

/-- ★ Conservation for `source | m × cat | sink`, every process scheduled independently: in every reachable
    state — any number `m` of forwarding stages, any interleaving of the `m + 2` processes, any read buffer and
    write request ≥ 1 byte at every step — the bytes the sink holds, followed stage by stage (from the sink
    backwards) by what is buffered in a pipe and what a stage holds between its `read` and its `write_all`, are
    exactly the payload: nothing lost, duplicated or reordered anywhere in the pipeline.  In particular the sink
    always holds a prefix of the payload. -/
theorem chain_conservation (c : Cfg) (m : Nat) (pre post : List α) (s : Chain α)
    (hr : CReach c m pre post s) :
    s.total = pre ++ post ∧ ∃ rest, s.received ++ rest = pre ++ post := by
  have ⟨_, _, ht, _⟩ := hr.inv
  exact ⟨ht, ht ▸ s.received_prefix_total⟩

/-- ★ No deadlock in a pipeline of any length: every reachable state in which some process has not finished
    has a process that can step — whatever buffer and request sizes it is offered.  Needs `PIPE_BUF ≤ PIPE_SIZE`. -/
theorem chain_no_deadlock (c : Cfg) (hv : c.Valid) (m : Nat) (pre post : List α) (s : Chain α)
    (hr : CReach c m pre post s) (hnf : s.allDone = false) :
    ∃ i, i < m + 2 ∧ ∀ n k, (s.step c i n k).isSome = true := by
  have ⟨hi, hw, _, hp⟩ := hr.inv
  rcases Chain.progress c hv s hi with h | ⟨i, hil, hs⟩ | ⟨_, h, _⟩
  · rw [h] at hnf; exact absurd hnf (by simp)
  · exact ⟨i, by omega, hs⟩
  · omega

/-- ★ A schedule can only stop in the final state, where the sink holds exactly the payload: a reachable state
    without an enabled step has every process finished normally and `received = payload`.  (That no stage meets
    EPIPE on the way is `chain_no_epipe`.) -/
theorem chain_complete (c : Cfg) (hv : c.Valid) (m : Nat) (pre post : List α) (s : Chain α)
    (hr : CReach c m pre post s) (hstuck : ∀ i n k, 1 ≤ n → 1 ≤ k → s.step c i n k = none) :
    s.allDone = true ∧ s.received = pre ++ post := by
  have ⟨hi, hw, ht, _⟩ := hr.inv
  have hd := Chain.stuck_allDone hv hi hw fun i _ => ⟨1, 1, hstuck i 1 1 (Nat.le_refl _) (Nat.le_refl _)⟩
  exact ⟨hd, by rw [← Chain.allDone_total hi hd, ht]⟩

/-- whenever every process of a reachable state has finished the sink holds exactly the payload -/
theorem chain_done_complete (c : Cfg) (m : Nat) (pre post : List α) (s : Chain α)
    (hr : CReach c m pre post s) (hd : s.allDone = true) : s.received = pre ++ post := by
  have ⟨hi, _, ht, _⟩ := hr.inv
  rw [← Chain.allDone_total hi hd, ht]

/-- In every reachable state of a pipeline of any length no stage has met EPIPE (every reader reads to end of
    file, so a stage's downstream neighbour outlives it). -/
theorem chain_no_epipe (c : Cfg) (m : Nat) (pre post : List α) (s : Chain α)
    (hr : CReach c m pre post s) : s.noFail = true :=
  hr.inv.1.no_fail

/-- Capacity in a pipeline of any length: in every reachable state every pipe between two processes holds at most
    `PIPE_SIZE` bytes (a `write` never appends more than the room it found, whatever the other stages do). -/
theorem chain_capacity (c : Cfg) (m : Nat) (pre post : List α) (s : Chain α)
    (hr : CReach c m pre post s) : s.CapTail c :=
  hr.cap

/-- ★ The two models are one: every reachable state of the writer ∥ reader system of Model.lean (`Reach`, the
    subject of `pipe_conservation` … `pipe_complete`) is, through `Sys.embed` (writer = source whose input has no
    writer, reader = sink, same pipe), a reachable state of the chain with no forwarding stage — one writer step is
    one or two source steps, one reader step is one sink step — with the same received data and the same bytes in
    the same order.  So the chain theorems specialise to the two-process system, and the chain with `m ≥ 1` is
    its generalisation to a pipeline of `m + 2` concurrent processes. -/
theorem chain_generalises_pipe (c : Cfg) (payload : List α) (s : Sys α) (hr : Reach c payload s) :
    CReach c 0 payload [] s.embed ∧ s.embed.received = s.received ∧
      s.embed.total = s.received ++ s.pipe.content ++ s.unsent :=
  ⟨reach_embed hr, rfl, by simp [Sys.embed, Chain.total]⟩

/-- ★ Progress in a pipeline of any length: every step of every process — any of the `m + 2`, any read buffer and
    write request ≥ 1 byte — strictly lowers `Chain.measure` (each byte weighted by how far it is from the sink:
    3 in the last pipe, 3 more in a stage's hand, 4 more in the pipe before it; plus a readiness-dependent cost per
    process, so that suspend / resume cannot alternate for ever).  Uses `1 ≤ PIPE_BUF ≤ PIPE_SIZE`. -/
theorem chain_progress (c : Cfg) (hv : c.Valid) (m : Nat) (pre post : List α) (s s' : Chain α) (i n k : Nat)
    (hr : CReach c m pre post s) (hn : 1 ≤ n) (hk : 1 ≤ k) (hs : s.step c i n k = some s') :
    s'.measure c < s.measure c :=
  Chain.step_drop hv hk hs

/-- ★ Termination under every scheduler: an execution of `source | m × cat | sink` on `pre ++ post` — whatever
    process runs at each step with whatever sizes — has at most
    `(7m + 10)·|post| + (7m + 6)·|pre| + 5m + 9` steps.  With `chain_complete`: every schedule is finite and
    ends with exactly the payload in the sink. -/
theorem chain_terminates (c : Cfg) (hv : c.Valid) (m : Nat) (pre post : List α) (s : Chain α) (n : Nat)
    (he : CExec c (Chain.init m pre post) n s) :
    n ≤ (7 * m + 10) * post.length + (7 * m + 6) * pre.length + 5 * m + 9 := by
  have := CExec.bound hv he
  rw [Chain.init_measure] at this
  omega

/-- ★ End to end for a concurrent pipeline: the function the driver runs for `xfer … mid=M` (`chainTransfer`: the
    seeded executor over the `M + 2` processes with the fuel the driver gives it) returns exactly the payload,
    for every payload, valid capacity, number of forwarding stages, seed, write bound and buffer size. -/
theorem chain_transfer_delivers (c : Cfg) (hv : c.Valid) (seed m wk rk : Nat) (x : List α) :
    chainTransfer c seed m wk rk x = some x := by
  have hn1 := rbuf_pos rk
  have hk1 : 1 ≤ (if wk = 0 then x.length + 1 else wk) := by split <;> omega
  have hfuel : (Chain.init m x ([] : List α)).measure c ≤ (m + 2) * (12 * x.length + 200) := by
    rw [Chain.init_measure]
    simpa using chain_fuel_enough m x.length
  obtain ⟨hr, hstop⟩ := chainRun_stops hv hn1 hk1 ((m + 2) * (12 * x.length + 200)) seed _
    (CReach.init (c := c) (m := m) (pre := x) (post := [])) hfuel
  unfold chainTransfer
  generalize (if rk = 0 then 1024 else rk) = n at hr hstop
  generalize (if wk = 0 then x.length + 1 else wk) = k at hr hstop
  simp only
  generalize chainRun c n k ((m + 2) * (12 * x.length + 200)) seed (Chain.init m x []) = t at hr hstop
  have ⟨hi, hw, _, hp⟩ := hr.inv
  have hd := Chain.stuck_allDone hv hi hw fun i hil => ⟨n, k, hstop i (hp ▸ hil)⟩
  rw [if_pos hd, chain_done_complete c m x [] t hr hd]
  simp

/-! ### stages that transform and that write before reading (TChain.lean) -/

/-- ★ Conservation generalised: `source | stage₁ | … | stageₘ | sink` where stage `i` first writes a preamble `preᵢ`
    (a stage that writes before it reads) and then emits `gᵢ b` for every byte `b` it reads (`[b]` = `cat`, `[b, b]`
    doubles, `[]` drops, any per-byte filter).  In every reachable state — any stages, any interleaving, any sizes
    ≥ 1 — pushing what is in flight through the remaining stages (`TChain.push`: held bytes as they are, bytes
    still in a stage's input pipe through its `g`) gives exactly `stagesFun st x`, i.e. stage `i`'s output is
    `preᵢ ++ (its input).flatMap gᵢ`, composed along the pipeline: nothing lost, duplicated, reordered or
    transformed twice anywhere. -/
theorem tchain_conservation (c : Cfg) (st : List ((α → List α) × List α)) (x : List α) (s : TChain α)
    (hr : TReach c st x s) : s.push [] = stagesFun st x :=
  hr.inv.2.2

/-- ★ No deadlock with such stages: every reachable state with an unfinished process has a process that can step,
    whatever sizes it is offered (a stage that expands its input fills the next pipe and waits; the argument from
    the sink backwards is unchanged).  Needs `PIPE_BUF ≤ PIPE_SIZE`. -/
theorem tchain_no_deadlock (c : Cfg) (hv : c.Valid) (st : List ((α → List α) × List α)) (x : List α)
    (s : TChain α) (hr : TReach c st x s) (hnf : s.allDone = false) :
    ∃ i, i < s.procs ∧ ∀ n k, (s.step c i n k).isSome = true := by
  have ⟨hi, hw, _⟩ := hr.inv
  rcases TChain.progress c hv s hi with h | h | ⟨_, h, _⟩
  · rw [h] at hnf; exact absurd hnf (by simp)
  · exact h
  · omega

/-- ★ … and a schedule can only stop with every process finished and the sink holding exactly what the pipeline
    computes: `received = stagesFun st x`. -/
theorem tchain_complete (c : Cfg) (hv : c.Valid) (st : List ((α → List α) × List α)) (x : List α)
    (s : TChain α) (hr : TReach c st x s) (hstuck : ∀ i n k, 1 ≤ n → 1 ≤ k → s.step c i n k = none) :
    s.allDone = true ∧ s.received = stagesFun st x := by
  have ⟨hi, hw, hp⟩ := hr.inv
  have hd := TChain.stuck_allDone hv hi hw fun i _ => ⟨1, 1, hstuck i 1 1 (Nat.le_refl _) (Nat.le_refl _)⟩
  exact ⟨hd, by rw [← TChain.allDone_push hi hd, hp]⟩

/-- a doubling stage with a preamble, then a stage that drops the even bytes: evaluated, and a few steps of the
    concurrent system on it (PIPE_SIZE 8, PIPE_BUF 4) keep the pushed-through result -/
example :
    let st : List ((Nat → List Nat) × List Nat) := [(fun b => [b, b], [100]), (fun b => if b % 2 = 0 then [] else [b], [])]
    let c : Cfg := { pipeSize := 8, pipeBuf := 4 }
    let s := [(0, 3, 20), (1, 3, 20), (1, 3, 20), (1, 3, 20), (2, 3, 20), (2, 3, 20)].foldl
      (fun s (a : Nat × Nat × Nat) => (s.step c a.1 a.2.1 a.2.2).getD s) (TChain.init st [1, 2, 3])
    stagesFun st [1, 2, 3] = [1, 1, 3, 3] ∧ s.push [] = [1, 1, 3, 3] ∧ s.allDone = false := by
  decide +kernel

/-! ### head-like stages: a stage in the middle that reads only a prefix and exits (HChain.lean) -/

/-- ★ Conservation in prefix form.  Every stage has an allowance `mᵢ` (how many bytes it reads before it exits,
    `head -c`; larger than anything that can arrive for a stage that reads to end of file), a per-byte function `gᵢ`
    and a preamble.  In every reachable state — any stages, any interleaving, any sizes, upstream stages running,
    blocked or already dead of EPIPE — what is in flight, pushed through the remaining stages with every stage
    taking only what is left of its allowance (`HChain.push`), is exactly `stagesFunH st x`: stage `i`'s output is
    `preᵢ ++ (the first mᵢ bytes of its input).flatMap gᵢ`.  Nothing reordered, nothing duplicated, and the bytes
    beyond a stage's allowance never reach anything downstream. -/
theorem hchain_conservation (c : Cfg) (st : List ((α → List α) × Nat × List α)) (x : List α) (s : HChain α)
    (hr : HReach c st x s) : s.push [] = stagesFunH st x :=
  hr.inv.2

/-- … and once nothing in flight can reach the sink any more (`settled`: below some stage that has used up its
    allowance, or below an input that is drained, everything is empty) the sink holds exactly that. -/
theorem hchain_settled_complete (c : Cfg) (st : List ((α → List α) × Nat × List α)) (x : List α) (s : HChain α)
    (hr : HReach c st x s) (hs : s.settled = true) : s.received = stagesFunH st x := by
  rw [← hr.inv.2, HChain.settled_push hs]

/-- ★ No deadlock with head-like stages: every reachable state in which some process has not exited (normally,
    after its allowance, or after EPIPE) has a process that can step whatever sizes it is offered: upstream of a
    stage that has exited, a writer's next `write` is EPIPE (a step), a writer waiting for room is ready because
    the pipe has no reader; downstream the argument from the sink backwards is unchanged. -/
theorem hchain_no_deadlock (c : Cfg) (hv : c.Valid) (st : List ((α → List α) × Nat × List α)) (x : List α)
    (s : HChain α) (hr : HReach c st x s) (hnf : s.allDone = false) :
    ∃ i, i < s.procs ∧ ∀ n k, (s.step c i n k).isSome = true := by
  have ⟨hi, hw⟩ := hr.cnt
  rcases HChain.progress c hv s hi with h | h | ⟨_, h, _⟩
  · rw [h] at hnf; exact absurd hnf (by simp)
  · exact h
  · omega

/-- ★ Where a schedule stops, with head-like stages anywhere: a reachable state (read buffers ≥ 1 byte) in which
    no process can step has every process exited — normally, after its allowance, or of EPIPE — and the sink holds
    exactly `stagesFunH st x`: downstream of a head-like stage `gᵢ` of the consumed PREFIX (then end of file),
    upstream nothing that matters (`GChain.Fin`: an exited stage holds nothing and has used up its allowance or
    drained its input; a stage dies of EPIPE only below a stage that exited early; `allDone_settled`). -/
theorem hchain_complete (c : Cfg) (hv : c.Valid) (st : List ((α → List α) × Nat × List α)) (x : List α)
    (s : HChain α) (hr : HReach1 c st x s) (hstuck : ∀ i n k, s.step c i n k = none) :
    s.allDone = true ∧ s.received = stagesFunH st x := by
  have ⟨hi, hw⟩ := hr.reach.cnt
  have hd := HChain.stuck_allDone hv hi hw fun i _ => ⟨1, 1, hstuck i 1 1⟩
  exact ⟨hd, hchain_settled_complete c st x s hr.reach (HChain.allDone_settled hr.fin hd)⟩

/-- … and for what the driver runs: whenever `hchainTransfer` ends with every process exited, the sink holds exactly
    the pipeline's function of the payload (for `cat` stages and one head-like stage: the first `hk` bytes). -/
theorem hchain_transfer_done (c : Cfg) (seed m hs hk wk rk : Nat) (x : List α)
    (hd : (hchainTransfer c seed m hs hk wk rk x).allDone = true) :
    (hchainTransfer c seed m hs hk wk rk x).received =
      stagesFunH ((List.range m).map fun i => (fun b => [b], if i + 1 = hs then hk else x.length + 1, [])) x := by
  have hn1 := rbuf_pos rk
  have hr := (hchainRun_loop c (if rk = 0 then 1024 else rk) (if wk = 0 then x.length + 1 else wk)).keeps
    (P := HReach1 c ((List.range m).map fun i =>
      ((fun b => [b] : α → List α), if i + 1 = hs then hk else x.length + 1, ([] : List α))) x)
    (fun h ⟨i, hs⟩ => HReach1.step i _ _ h hn1 hs) ((m + 2) * (12 * x.length + 200)) seed _ HReach1.init
  exact hchain_settled_complete c _ x _ hr.reach (HChain.allDone_settled hr.fin hd)

/-- What the driver computes for `xfer … mid=M hs=J hk=K` (`hchainTransfer`: the seeded executor over the M + 2
    processes, forwarder J stopping after K bytes) is a reachable state, so conservation in prefix form holds of
    it, and whenever it is settled the sink holds exactly the pipeline's function of the payload. -/
theorem hchain_transfer_conserves (c : Cfg) (seed m hs hk wk rk : Nat) (x : List α) :
    let st : List ((α → List α) × Nat × List α) :=
      (List.range m).map fun i => (fun b => [b], if i + 1 = hs then hk else x.length + 1, [])
    let s := hchainTransfer c seed m hs hk wk rk x
    s.push [] = stagesFunH st x ∧ (s.settled = true → s.received = stagesFunH st x) := by
  intro st s
  have hr : HReach c st x s := (hchainRun_loop c _ _).keeps (fun h ⟨i, hs⟩ => HReach.step i _ _ h hs) _ _ _ HReach.init
  exact ⟨hchain_conservation c st x s hr, hchain_settled_complete c st x s hr⟩

/- `cat | head -c 3 | doubling` on 12 bytes through 4-byte pipes under a round-robin schedule: the head-like stage
    exits, its upstream `cat` and the source die of EPIPE, the doubler and the sink finish — every process has
    exited, the state is settled, the sink holds the first 3 bytes doubled (the 80 steps of the schedule are a
    `foldl` that `decide` unfolds: hence the recursion depth) -/
set_option maxRecDepth 20000 in
example :
    let st : List ((Nat → List Nat) × Nat × List Nat) :=
      [(fun b => [b], 1000, []), (fun b => [b], 3, []), (fun b => [b, b], 1000, [])]
    let c : Cfg := { pipeSize := 4, pipeBuf := 2 }
    let sched : List Nat := (List.range 16).flatMap fun _ => [0, 1, 2, 3, 4]
    let s := sched.foldl (fun s i => (s.step c i 3 20).getD s) (HChain.init st (List.range 12))
    stagesFunH st (List.range 12) = [0, 0, 1, 1, 2, 2] ∧ s.allDone = true ∧ s.settled = true ∧
      s.received = [0, 0, 1, 1, 2, 2] := by
  decide +kernel

/-! ### the n-stage chain with explicit wakers (WChain.lean) -/

/-- ★ Refinement, n stages: the data side of every reachable state of the chain with wakers (any interleaving, any
    sizes ≥ 1, spurious polls included) is a reachable state of the waker-free chain — so `chain_conservation`,
    `chain_capacity`, `chain_no_epipe`, `chain_done_complete` hold of the system with wakers. -/
theorem wchain_refines_chain (c : Cfg) (m : Nat) (pre post : List α) (s : WChain α)
    (hr : WCReach c m pre post s) : CReach c m pre post s.erase :=
  hr.erase

/-- ★ No lost wake-up, for every stage of a pipeline of any length: in every reachable state only a waiting
    process is parked, and a parked process whose waker has not fired still has it registered in the waker set of
    the pipe it waits for, and that pipe is really not ready for it (`WChain.NL`, node by node).  So whenever a
    peer makes the pipe ready — a write, a read that returns, a close that leaves no reader or no writer — the
    blocked stage's waker has fired. -/
theorem wchain_no_lost_wakeup (c : Cfg) (m : Nat) (pre post : List α) (s : WChain α)
    (hr : WCReach c m pre post s) : s.NL c :=
  hr.nl

/-- ★ No deadlock with wakers, n stages: every reachable state in which some process has not finished has a
    process that the executor may *legitimately* poll (running, or waiting and not parked, or parked and woken)
    and whose poll is a step, whatever sizes it is offered.  Readiness alone does not enable a parked process;
    the invariant guarantees that a parked process whose descriptor is ready has been woken. -/
theorem wchain_no_deadlock (c : Cfg) (hv : c.Valid) (m : Nat) (pre post : List α) (s : WChain α)
    (hr : WCReach c m pre post s) (hnf : s.erase.allDone = false) :
    ∃ i, i < m + 2 ∧ ∀ n k, (s.step c i n k false).isSome = true := by
  obtain ⟨i, hi, hs⟩ := chain_no_deadlock c hv m pre post s.erase hr.erase hnf
  exact ⟨i, hi, WChain.legit_of_enabled hr.nl hs⟩

/-- ★ Progress with wakers, n stages: every *legitimate* poll of every process (running, waiting and not parked, or
    parked and woken) lowers `WChain.wmeasure` = 6 · the chain's measure + a cost per waker state (parked and not
    woken 0, not parked 1, parked and woken 2).  A poll that only parks the process lowers its own cost; a poll
    that moves data lowers the chain's measure by ≥ 1 (×6) while waking at most the two neighbours (+2 each).  So
    "woken — still not ready — parks again" cannot go on for ever, and with `wchain_no_deadlock`: every schedule of
    legitimate polls is finite and ends with all processes finished and the payload in the sink. -/
theorem wchain_progress (c : Cfg) (hv : c.Valid) (m : Nat) (pre post : List α) (s s' : WChain α)
    (i n k : Nat) (up : PWake → PWake) (hr : WCReach c m pre post s) (hn : 1 ≤ n) (hk : 1 ≤ k)
    (hs : s.step c i n k false = some (s', up)) : s'.wmeasure c < s.wmeasure c :=
  WChain.legit_progress hv hk hr.nl hs

/-- the hypotheses are met and the invariant bites: (PIPE_SIZE 8, PIPE_BUF 4, one `cat`) the sink and `cat` are
    polled on empty pipes and park; the source's write fires `cat`'s waker — `cat` is parked *and woken*, the sink
    parked and not woken, its pipe not ready -/
example :
    let c : Cfg := { pipeSize := 8, pipeBuf := 4 }
    let s0 : WChain Nat := WChain.init 1 (List.range 20) []
    let s := [(2, 3, 20), (2, 3, 20), (1, 3, 20), (1, 3, 20), (0, 3, 20)].foldl
      (fun s (a : Nat × Nat × Nat) => ((s.step c a.1 a.2.1 a.2.2 false).map (·.1)).getD s) s0
    (s.wkAt 1).parked = true ∧ (s.wkAt 1).woken = true ∧ (s.wkAt 2).parked = true ∧ (s.wkAt 2).woken = false ∧
      (s.wkAt 2).reg = true ∧ (s.inpAt 2).readyR = false ∧ (s.inpAt 1).readyR = true := by
  decide +kernel

/-- the first reachable states of a three-process chain evaluated (PIPE_SIZE 8, PIPE_BUF 4, one `cat` in the middle): the source's
    partial write fills pipe 1, `cat` takes 5 bytes and writes them on, the sink takes 2 -/
example :
    let c : Cfg := { pipeSize := 8, pipeBuf := 4 }
    let s0 : Chain Nat := Chain.init 1 (List.range 20) []
    let s := [(0, 1, 20), (1, 5, 20), (1, 5, 20), (2, 2, 20)].foldl
      (fun s (a : Nat × Nat × Nat) => (s.step c a.1 a.2.1 a.2.2).getD s) s0
    s.received = [0, 1] ∧ s.total = List.range 20 ∧ s.allDone = false := by
  decide +kernel

/-- `chain_generalises_pipe` on a concrete reachable state of the two-process system (3000 bytes at the real
    capacity: a partial write, a read of 700, another write) -/
example : CReach Cfg.real 0 (List.replicate 3000 'x') []
    ((Sys.init (List.replicate 3000 'x')).run Cfg.real [.w 3000, .r 700, .w 5000]).embed :=
  (chain_generalises_pipe _ _ _ (reach_run Reach.init _ (by decide))).1

/-- hypotheses of `chain_no_deadlock` met at the real capacity by a reachable non-final state (3000 bytes, two
    forwarding stages) -/
example : ∃ s : Chain Nat, CReach Cfg.real 2 (List.range 3000) [] s ∧ s.allDone = false :=
  ⟨_, CReach.init, by simp [Chain.init, Chain.allDone]⟩

/-- `PIPE_BUF ≤ PIPE_SIZE` is necessary for `chain_no_deadlock` too (PIPE_BUF 5 > PIPE_SIZE 2): the source
    waits for room for an atomic 3-byte write that an empty pipe of 2 bytes never has, `cat` and the sink wait
    for data -/
example :
    let c : Cfg := { pipeSize := 2, pipeBuf := 5 }
    let s0 : Chain Nat := Chain.init 1 [1, 2, 3] []
    let s := [(0, 1, 3), (1, 1, 3), (2, 1, 3), (0, 1, 3), (1, 1, 3), (2, 1, 3)].foldl
      (fun s (a : Nat × Nat × Nat) => (s.step c a.1 a.2.1 a.2.2).getD s) s0
    s.allDone = false ∧ s.step c 0 1 3 = none ∧ s.step c 1 1 3 = none ∧ s.step c 2 1 3 = none := by
  decide +kernel

/-- `chain_terminates` is not vacuous: a 3-step execution of a 3-process chain (PIPE_SIZE 8, PIPE_BUF 4) -/
example : ∃ s, CExec ({ pipeSize := 8, pipeBuf := 4 } : Cfg) (Chain.init 1 (List.range 20) []) 3 s :=
  ⟨_, .step 0 1 20 (by decide) (by decide) rfl
        (.step 1 5 20 (by decide) (by decide) rfl
          (.step 1 5 20 (by decide) (by decide) rfl (.refl _)))⟩

/-- `chain_transfer_delivers` at the real capacity -/
example : chainTransfer Cfg.real 7 3 513 3 (List.range 3000) = some (List.range 3000) :=
  chain_transfer_delivers Cfg.real real_valid 7 3 513 3 _

/-- the executor, evaluated: three forwarding stages (a 5-stage pipeline), 40 bytes through 8-byte pipes,
    read buffers of 3 bytes -/
example : chainTransfer { pipeSize := 8, pipeBuf := 4 } 5 3 0 3 (List.range 40) = some (List.range 40) := by
  decide +kernel

end YashModel.Pipe
