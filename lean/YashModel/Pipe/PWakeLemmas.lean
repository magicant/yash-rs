/-
  C14 — the waker state of one process (`PWake`, Wake.lean) and what a peer may do to it; used for two processes
  (WakeLemmas.lean) and for n (WChainLemmas.lean).
-/
import YashModel.Pipe.Wake
import YashModel.Pipe.Lemmas
namespace YashModel.Pipe

variable {α : Type}

/-- the executor polls the process: it is not parked, or its waker has fired, or the poll is spurious (the guard of
    `pollWaiting` and of a waiting process in `WSys.stepW` / `stepR`) -/
def PWake.pollable (x : PWake) (spur : Bool) : Bool := !(x.parked && !(x.woken || spur))

theorem PWake.pollable_iff {x : PWake} {spur : Bool} :
    x.pollable spur = true ↔ (x.parked && !(x.woken || spur)) = false := by
  rw [PWake.pollable, Bool.not_eq_true']

/-- a sound waker state for a process that waits while `P` holds: parked and not woken ⇒ registered, and `P`
    (`okR`, `okW` are this with `P` = "the pipe is not ready") -/
def PWake.Ok (x : PWake) (P : Prop) : Prop := x.parked = true → x.woken = false → x.reg = true ∧ P

/-- a process waiting to read pipe `p`: parked and not woken ⇒ registered, and the pipe really not ready -/
def okR (wk : PWake) (p : Fifo α) : Prop :=
  wk.parked = true → wk.woken = false → wk.reg = true ∧ p.readyR = false

def okW (c : Cfg) (wk : PWake) (p : Fifo α) : Prop :=
  wk.parked = true → wk.woken = false → wk.reg = true ∧ p.readyW c = false

/-- a waker effect never un-parks and either fires the waker or leaves the process alone -/
def Mild (fw : PWake → PWake) : Prop :=
  ∀ x, (fw x).parked = x.parked ∧ ((fw x).woken = true ∨ fw x = x)

/-- … and is safe for a process waiting to read a pipe that changes from `p` to `p'` -/
def SafeR (fw : PWake → PWake) (p p' : Fifo α) : Prop :=
  Mild fw ∧ ∀ x, okR x p → okR (fw x) p'

def SafeW (c : Cfg) (fw : PWake → PWake) (p p' : Fifo α) : Prop :=
  Mild fw ∧ ∀ x, okW c x p → okW c (fw x) p'

theorem mild_id : Mild (id : PWake → PWake) := fun _ => ⟨rfl, Or.inr rfl⟩

theorem mild_wake : Mild PWake.wake := by
  intro x
  unfold PWake.wake
  split <;> simp

theorem mild_closeWake (p : Fifo α) : Mild (closeWake p) := by
  intro x
  unfold closeWake
  split
  · exact mild_wake x
  · exact ⟨rfl, Or.inr rfl⟩

theorem Mild.comp {f g : PWake → PWake} (hf : Mild f) (hg : Mild g) : Mild (fun x => f (g x)) := by
  intro x
  obtain ⟨a1, a2⟩ := hg x
  obtain ⟨b1, b2⟩ := hf (g x)
  refine ⟨by show (f (g x)).parked = x.parked; rw [b1, a1], ?_⟩
  show (f (g x)).woken = true ∨ f (g x) = x
  rcases b2 with b2 | b2
  · exact Or.inl b2
  · rw [b2]
    exact a2

theorem Mild.ok {fw : PWake → PWake} (h : Mild fw) {x : PWake} {P : Prop}
    (hx : x.Ok P) : (fw x).Ok P := by
  intro hp hw
  obtain ⟨a, b⟩ := h x
  rcases b with b | b
  · rw [b] at hw; exact absurd hw (by simp)
  · rw [b] at hp hw ⊢; exact hx hp hw

/-- firing the waker of a process in a sound state leaves it sound whatever its pipe has become: a registered
    waker is now woken, and a parked process that is not woken was registered -/
theorem wake_ok {x : PWake} {P Q : Prop} (hx : x.Ok P) : x.wake.Ok Q := by
  intro hp hw
  unfold PWake.wake at hp hw ⊢
  split at hw
  · simp at hw
  · rename_i hr
    split at hp
    · contradiction
    · exact absurd (hx hp hw).1 hr

theorem safeR_wake (p p' : Fifo α) : SafeR PWake.wake p p' := ⟨mild_wake, fun _ hx => wake_ok hx⟩
theorem safeW_wake (c : Cfg) (p p' : Fifo α) : SafeW c PWake.wake p p' :=
  ⟨mild_wake, fun _ hx => wake_ok hx⟩

/-- closing the writing end: the read-waiter is woken when no writer is left, else nothing changes for it -/
theorem safeR_closeW (p : Fifo α) : SafeR (closeWake (p.closeFd false true)) p (p.closeFd false true) := by
  refine ⟨mild_closeWake _, fun x hx => ?_⟩
  unfold closeWake
  split
  · exact wake_ok hx
  · rename_i hc
    intro hp hw
    obtain ⟨a, b⟩ := hx hp hw
    exact ⟨a, readyR_closeFd b fun e => hc (Or.inr e)⟩

/-- closing the reading end: the write-waiter is woken when no reader is left, else nothing changes for it -/
theorem safeW_closeR (c : Cfg) (p : Fifo α) : SafeW c (closeWake (p.closeFd true false)) p (p.closeFd true false) := by
  refine ⟨mild_closeWake _, fun x hx => ?_⟩
  unfold closeWake
  split
  · exact wake_ok hx
  · rename_i hc
    intro hp hw
    obtain ⟨a, b⟩ := hx hp hw
    exact ⟨a, readyW_closeFd b fun e => hc (Or.inl e)⟩

/-- a process in a sound state whose pipe is ready may be polled: if it is parked, its waker has fired -/
theorem legit_of_ok {x : PWake} {P : Prop} (hx : x.Ok P) (hP : ¬P) :
    x.pollable false = true := by
  cases hp : x.parked <;> cases hw : x.woken <;> simp [PWake.pollable, hp, hw]
  exact hP (hx hp hw).2

theorem okR_fresh (p : Fifo α) : okR ({} : PWake) p := by intro h; simp at h
theorem okW_fresh (c : Cfg) (p : Fifo α) : okW c ({} : PWake) p := by intro h; simp at h

theorem safeR_id (p : Fifo α) : SafeR id p p := ⟨mild_id, fun _ hx => hx⟩
theorem safeW_id (c : Cfg) (p : Fifo α) : SafeW c id p p := ⟨mild_id, fun _ hx => hx⟩

theorem okR_parked {p : Fifo α} (h : p.readyR = false) : okR (PWake.pollSelect false) p := by
  intro _ _; exact ⟨rfl, h⟩

theorem okW_parked {c : Cfg} {p : Fifo α} (h : p.readyW c = false) : okW c (PWake.pollSelect false) p := by
  intro _ _; exact ⟨rfl, h⟩

/-- the effect of a read that returned (data or end of file, `n ≥ 1`) on the writer of the pipe -/
theorem safeW_read_close (c : Cfg) {n : Nat} (hn : 1 ≤ n) (p p' q : Fifo α) :
    SafeW c (fun x => closeWake q ((if n = 0 then id else PWake.wake) x)) p p' := by
  have hn0 : ¬ n = 0 := by omega
  simp only [hn0, if_false]
  exact ⟨(mild_closeWake q).comp mild_wake, fun _ hx => (mild_closeWake q).ok (wake_ok hx)⟩

theorem safeW_read (c : Cfg) {n : Nat} (hn : 1 ≤ n) (p p' : Fifo α) :
    SafeW c (if n = 0 then id else PWake.wake) p p' := by
  have hn0 : ¬ n = 0 := by omega
  simp only [hn0, if_false]
  exact safeW_wake c p p'

theorem mild_read_close {n : Nat} (q : Fifo α) :
    Mild (fun x => closeWake q ((if n = 0 then id else PWake.wake) x)) := by
  split
  · exact (mild_closeWake q).comp mild_id
  · exact (mild_closeWake q).comp mild_wake

theorem mild_read {n : Nat} : Mild (if n = 0 then id else PWake.wake) := by
  split
  · exact mild_id
  · exact mild_wake
end YashModel.Pipe
