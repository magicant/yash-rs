/-
  C14 — two writers on one pipe (TwoWriters.lean): the projection of the tagged stream onto either writer, and
  `Inv2`: each writer's bytes, in order, are what was received and buffered of them followed by what it still holds.
-/
import YashModel.Pipe.TwoWriters
namespace YashModel.Pipe
variable {α : Type}

theorem proj_append (t : Bool) (l m : List (Bool × α)) : proj t (l ++ m) = proj t l ++ proj t m := by
  simp [proj]

theorem proj_tag_same (t : Bool) (l : List α) : proj t (l.map (fun x => (t, x))) = l := by
  induction l with
  | nil => rfl
  | cons a r ih => simpa [proj] using ih

theorem proj_tag_other (t u : Bool) (h : u ≠ t) (l : List α) : proj t (l.map (fun x => (u, x))) = [] := by
  induction l with
  | nil => rfl
  | cons a r ih =>
    have : (u == t) = false := by cases u <;> cases t <;> simp_all
    simpa [proj, this] using ih

theorem length_proj (l : List (Bool × α)) : (proj true l).length + (proj false l).length = l.length := by
  induction l with
  | nil => rfl
  | cons x r ih =>
    obtain ⟨t, v⟩ := x
    cases t <;> simp [proj] at ih ⊢ <;> omega

def Inv2 (pa pb : List α) (s : Sys2 α) : Prop :=
  proj true (s.received ++ s.content) ++ s.unsentA = pa ∧ proj false (s.received ++ s.content) ++ s.unsentB = pb

theorem inv2_step (pa pb : List α) (s : Sys2 α) (a : Act2) (h : Inv2 pa pb s) : Inv2 pa pb (s.step a) := by
  obtain ⟨ha, hb⟩ := h
  cases a with
  | wa n =>
    simp only [Sys2.step, Inv2]
    refine ⟨?_, ?_⟩
    · rw [← ha, ← List.append_assoc s.received, proj_append, proj_tag_same, List.append_assoc, List.take_append_drop]
    · rw [← hb, ← List.append_assoc s.received, proj_append, proj_tag_other false true (by decide), List.append_nil]
  | wb n =>
    simp only [Sys2.step, Inv2]
    refine ⟨?_, ?_⟩
    · rw [← ha, ← List.append_assoc s.received, proj_append, proj_tag_other true false (by decide), List.append_nil]
    · rw [← hb, ← List.append_assoc s.received, proj_append, proj_tag_same, List.append_assoc, List.take_append_drop]
  | r n =>
    simp only [Sys2.step, Inv2]
    rw [List.append_assoc, List.take_append_drop]
    exact ⟨ha, hb⟩

theorem inv2_run (pa pb : List α) (s : Sys2 α) (acts : List Act2) (h : Inv2 pa pb s) : Inv2 pa pb (s.run acts) := by
  induction acts generalizing s with
  | nil => exact h
  | cons a t ih => exact ih _ (inv2_step pa pb s a h)

end YashModel.Pipe
