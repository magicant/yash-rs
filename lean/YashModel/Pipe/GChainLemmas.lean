/-
  C14 — what holds of every chain, proved of the general one (GChain.lean): conservation as "`push` is constant"
  under the light invariant that a stage about to read holds nothing (`HoldOK`); the descriptor counts (`Cnt`) and,
  from them alone, progress; what a stage that has exited leaves behind (`Fin`: it holds nothing and has used up its
  allowance or drained its input, and a stage dies of EPIPE only below one that exited early), from which a state
  with every process gone is `settled` (nothing in flight can still reach the sink).
-/
import YashModel.Pipe.GChain
namespace YashModel.Pipe

variable {α : Type}

namespace GChain

theorem mapInp_inp (s : GChain α) (f : Fifo α → Fifo α) : (s.mapInp f).inp = f s.inp := by
  cases s <;> rfl

theorem mapInp_procs (s : GChain α) (f : Fifo α → Fifo α) : (s.mapInp f).procs = s.procs := by
  cases s <;> rfl

theorem step_procs {c : Cfg} {s s' : GChain α} {i n k : Nat} (h : s.step c i n k = some s') :
    s'.procs = s.procs :=
  step_induction (P := fun s _ s' => s'.procs = s.procs)
    (fun h => by cases gsinkStep_spec h <;> rfl)
    (fun h => by cases gfwdStep_spec h <;> simp only [procs, mapInp_procs])
    (fun _ ih => by simp only [procs, ih]) h

theorem mapInp_push (s : GChain α) (f : Fifo α → Fifo α) (w y : List α)
    (h : (f s.inp).content = s.inp.content ++ w) : (s.mapInp f).push y = s.push (w ++ y) := by
  cases s with
  | sink inp r pc =>
    simp only [GChain.inp] at h
    simp [mapInp, push, h]
  | fwd g m inp hold pc rest =>
    simp only [GChain.inp] at h
    simp [mapInp, push, h]

/-! ### conservation -/

/-- a stage that is about to read holds nothing (its buffer is overwritten by the next `read`) -/
def HoldOK : GChain α → Prop
  | .sink _ _ _ => True
  | .fwd _ _ _ hold pc rest => (pc = .rd ∨ pc = .rwait → hold = []) ∧ rest.HoldOK

theorem HoldOK.mapInp {s : GChain α} (h : s.HoldOK) (f : Fifo α → Fifo α) : (s.mapInp f).HoldOK := by
  cases s with
  | sink inp r pc => trivial
  | fwd g m inp hold pc rest => exact h

end GChain

/-- what a read of `rdSize m n` bytes takes out of an allowance -/
theorem takeO_split (m : Option Nat) (c y : List α) (n : Nat) :
    takeO m (c ++ y) = c.take (rdSize m n) ++
      takeO (m.map (· - (c.take (rdSize m n)).length)) (c.drop (rdSize m n) ++ y) := by
  cases m with
  | none => simp only [takeO, rdSize, Option.elim_none, Option.map_none, ← List.append_assoc, List.take_append_drop]
  | some m =>
    -- the first `min n m` of the `m` allowed bytes come out of `c`
    simp only [takeO, rdSize, Option.elim_some, Option.map_some]
    conv => lhs; rw [← List.take_append_drop (min n m) c, List.append_assoc]
    rw [List.take_append, List.take_take, Nat.min_eq_right (Nat.min_le_right n m)]

theorem gfwdStep_push {c : Cfg} {g : α → List α} {m : Option Nat} {inp : Fifo α} {hold : List α} {pc : FPc}
    {rest : GChain α} {n k : Nat} {s' : GChain α} (hi : (GChain.fwd g m inp hold pc rest).HoldOK)
    (h : gfwdStep c g m inp hold pc rest n k = some s') :
    s'.HoldOK ∧ ∀ y, s'.push y = rest.push (hold ++ (takeO m (inp.content ++ y)).flatMap g) := by
  obtain ⟨h5, h6⟩ := hi
  have hclose : ∀ z, (rest.mapInp (·.closeFd false true)).push z = rest.push z :=
    fun z => GChain.mapInp_push rest _ [] z (List.append_nil _).symm
  cases gfwdStep_spec h with
  | rblock => exact ⟨⟨fun _ => h5 (Or.inl rfl), h6⟩, fun _ => rfl⟩
  | exit => exact ⟨⟨nofun, h6.mapInp _⟩, fun y => hclose _⟩
  | data =>
    refine ⟨⟨nofun, h6⟩, fun y => ?_⟩
    simp only [GChain.push, h5 (Or.inl rfl), List.nil_append]
    rw [takeO_split m inp.content y n, List.flatMap_append]
  | rresume => exact ⟨⟨fun _ => h5 (Or.inr rfl), h6⟩, fun _ => rfl⟩
  | wdone he => exact ⟨⟨fun _ => he, h6⟩, fun _ => rfl⟩
  | epipe => exact ⟨⟨nofun, h6.mapInp _⟩, fun y => hclose _⟩
  | wblock => exact ⟨⟨nofun, h6⟩, fun _ => rfl⟩
  | wrote w =>
    refine ⟨⟨nofun, h6.mapInp _⟩, fun y => ?_⟩
    simp only [GChain.push]
    rw [GChain.mapInp_push rest _ (hold.take w) _ rfl, ← List.append_assoc, List.take_append_drop]
  | wresume => exact ⟨⟨nofun, h6⟩, fun _ => rfl⟩

namespace GChain

/-- ★ conservation: from any state in which the stages about to read hold nothing, a step of any process with any
    sizes leaves what pushing anything through gives as it was -/
theorem step_push {c : Cfg} {s s' : GChain α} {i n k : Nat} (hi : s.HoldOK)
    (h : s.step c i n k = some s') : s'.HoldOK ∧ ∀ y, s'.push y = s.push y := by
  refine step_induction (P := fun s _ s' => s.HoldOK → s'.HoldOK ∧ ∀ y, s'.push y = s.push y)
    (fun h _ => ?_) (fun h hi => gfwdStep_push hi h)
    (fun _ ih hi => ⟨⟨hi.1, (ih hi.2).1⟩, fun _ => (ih hi.2).2 _⟩) h hi
  cases gsinkStep_spec h with
  | data => exact ⟨trivial, fun y => by simp [GChain.push]⟩
  | _ => exact ⟨trivial, fun _ => rfl⟩

/-! ### capacity -/

def CapTail (c : Cfg) : GChain α → Prop
  | .sink _ _ _ => True
  | .fwd _ _ _ _ _ rest => rest.inp.content.length ≤ c.pipeSize ∧ rest.CapTail c

theorem CapTail.mapInp {c : Cfg} {s : GChain α} (h : s.CapTail c) (f : Fifo α → Fifo α) :
    (s.mapInp f).CapTail c := by
  cases s <;> exact h

/-- a `write` never appends more than the room it found, and nothing else makes a pipe longer -/
theorem step_cap {c : Cfg} {s s' : GChain α} {i n k : Nat} (hc : s.CapTail c)
    (h : s.step c i n k = some s') : s'.CapTail c ∧ s'.inp.content.length ≤ s.inp.content.length := by
  refine step_induction (P := fun s _ s' => s.CapTail c → s'.CapTail c ∧ s'.inp.content.length ≤ s.inp.content.length)
    (fun h _ => ?_) (fun {g m inp hold pc rest s'} h hc => ?_) (fun _ ih hc => ?_) h hc
  · cases gsinkStep_spec h with
    | data => exact ⟨trivial, by simp [GChain.inp]⟩
    | _ => exact ⟨trivial, Nat.le_refl _⟩
  · obtain ⟨h1, h2⟩ := hc
    cases gfwdStep_spec h with
    | exit => exact ⟨⟨by rw [mapInp_inp]; exact h1, h2.mapInp _⟩, Nat.le_refl _⟩
    | epipe => exact ⟨⟨by rw [mapInp_inp]; exact h1, h2.mapInp _⟩, Nat.le_refl _⟩
    | data => exact ⟨⟨h1, h2⟩, by simp [GChain.inp]⟩
    | wrote w _ _ _ _ hroom =>
      refine ⟨⟨?_, h2.mapInp _⟩, Nat.le_refl _⟩
      simp only [mapInp_inp, List.length_append, List.length_take, Fifo.room] at hroom ⊢
      omega
    | _ => exact ⟨⟨h1, h2⟩, Nat.le_refl _⟩
  · have ⟨a, b⟩ := ih hc.2
    exact ⟨⟨by have := hc.1; omega, a⟩, Nat.le_refl _⟩

/-! ### descriptor counts and progress -/

/-- descriptor counts follow the control states (a stage that has exited — normally, after its allowance, or after
    EPIPE — holds neither end) -/
def Cnt : GChain α → Prop
  | .sink inp _ pc => inp.readers = (if pc = .done then 0 else 1)
  | .fwd _ _ inp _ pc rest =>
      inp.readers = (if pc = .closed ∨ pc = .failed then 0 else 1) ∧
      rest.inp.writers = (if pc = .closed ∨ pc = .failed then 0 else 1) ∧ rest.Cnt

theorem Cnt.head {s : GChain α} (h : s.Cnt) : s.inp.readers = (if s.headDone = true then 0 else 1) := by
  cases s with
  | sink inp r pc => simpa [Cnt, GChain.inp, headDone] using h
  | fwd g m inp hold pc rest => simpa [Cnt, GChain.inp, headDone] using h.1

theorem Cnt.mapInp {s : GChain α} (h : s.Cnt) (f : Fifo α → Fifo α)
    (hr : (f s.inp).readers = s.inp.readers) : (s.mapInp f).Cnt := by
  cases s with
  | sink inp r pc =>
    simp only [Cnt, GChain.mapInp, GChain.inp] at *
    rw [hr]; exact h
  | fwd g m inp hold pc rest =>
    simp only [Cnt, GChain.mapInp, GChain.inp] at *
    exact ⟨by rw [hr]; exact h.1, h.2⟩

end GChain

theorem gfwdStep_cnt {c : Cfg} {g : α → List α} {m : Option Nat} {inp : Fifo α} {hold : List α} {pc : FPc}
    {rest : GChain α} {n k : Nat} {s' : GChain α} (hi : (GChain.fwd g m inp hold pc rest).Cnt)
    (h : gfwdStep c g m inp hold pc rest n k = some s') : s'.Cnt ∧ s'.inp.writers = inp.writers := by
  obtain ⟨h1, h2, h3⟩ := hi
  have hclose : (rest.mapInp (·.closeFd false true)).Cnt := h3.mapInp _ rfl
  cases gfwdStep_spec h with
  | exit =>
    exact ⟨⟨by simp [Fifo.closeFd, h1], by simp [GChain.mapInp_inp, Fifo.closeFd, h2], hclose⟩, rfl⟩
  | epipe =>
    exact ⟨⟨by simp [Fifo.closeFd, h1], by simp [GChain.mapInp_inp, Fifo.closeFd, h2], hclose⟩, rfl⟩
  | wrote w =>
    exact ⟨⟨by simpa using h1, by rw [GChain.mapInp_inp]; simpa using h2, h3.mapInp _ rfl⟩, rfl⟩
  | _ => exact ⟨⟨by simpa using h1, by simpa using h2, h3⟩, rfl⟩

namespace GChain

theorem step_cnt {c : Cfg} {s s' : GChain α} {i n k : Nat} (hi : s.Cnt)
    (h : s.step c i n k = some s') : s'.Cnt ∧ s'.inp.writers = s.inp.writers := by
  refine step_induction (P := fun s _ s' => s.Cnt → s'.Cnt ∧ s'.inp.writers = s.inp.writers)
    (fun h hi => ?_) (fun h hi => gfwdStep_cnt hi h)
    (fun _ ih hi => ⟨⟨hi.1, by rw [(ih hi.2.2).2]; exact hi.2.1, (ih hi.2.2).1⟩, rfl⟩) h hi
  simp only [GChain.Cnt] at hi
  cases gsinkStep_spec h with
  | eof => exact ⟨by simp [GChain.Cnt, Fifo.closeFd, hi], rfl⟩
  | _ => exact ⟨by simpa [GChain.Cnt] using hi, rfl⟩

theorem allDone_headDone {s : GChain α} (h : s.allDone = true) : s.headDone = true := by
  cases s with
  | sink inp r pc => simpa [allDone, headDone] using h
  | fwd g m inp hold pc rest =>
    simp only [allDone, Bool.and_eq_true] at h
    simpa [headDone] using h.1

/-- ★ progress, from the descriptor counts alone: every process has exited, or some process can step whatever sizes
    it is offered, or the first process waits for data that a live writer of the first pipe still owes.
    (Induction from the sink backwards: the rightmost blocked reader waits on an empty pipe whose writer is alive;
    that writer is running, or waits for a pipe that is empty or has no reader and therefore is ready for writing,
    or is itself a blocked reader further left.)  Needs `PIPE_BUF ≤ PIPE_SIZE`. -/
theorem progress (c : Cfg) (hv : c.Valid) (s : GChain α) (hi : s.Cnt) :
    s.allDone = true ∨ (∃ i, i < s.procs ∧ ∀ n k, (s.step c i n k).isSome = true) ∨
      (s.inp.content = [] ∧ 0 < s.inp.writers ∧ s.headDone = false) := by
  induction s with
  | sink inp r pc =>
    cases pc with
    | run => exact Or.inr (Or.inl ⟨0, by simp [procs], fun n k => by rw [step_sink, gsinkStep_isSome]; rfl⟩)
    | wait =>
      by_cases hr : inp.readyR = true
      · exact Or.inr (Or.inl ⟨0, by simp [procs], fun n k => by rw [step_sink, gsinkStep_isSome]; exact hr⟩)
      · rw [Bool.not_eq_true, Bool.eq_false_iff, Ne, readyR_iff] at hr
        refine Or.inr (Or.inr ⟨?_, by simp only [GChain.inp]; omega, by simp [headDone]⟩)
        exact List.eq_nil_of_length_eq_zero (by simp only [GChain.inp]; omega)
    | done => exact Or.inl (by simp [allDone])
  | fwd g m inp hold pc rest ih =>
    obtain ⟨h1, h2, h3⟩ := hi
    have h0 : pc.enabled inp.readyR (rest.inp.readyW c) = true →
        ∃ i, i < (fwd g m inp hold pc rest).procs ∧ ∀ n k, ((fwd g m inp hold pc rest).step c i n k).isSome = true :=
      fun hb => ⟨0, by simp [procs], fun n k => by rw [step_fwd, gfwdStep_isSome]; exact hb⟩
    -- a stage waiting to read an unready pipe passes the question to the left
    have hrwait : pc = .rwait → (∃ i, i < (fwd g m inp hold pc rest).procs ∧
          ∀ n k, ((fwd g m inp hold pc rest).step c i n k).isSome = true) ∨
        (inp.content = [] ∧ 0 < inp.writers) := by
      intro hp
      subst hp
      by_cases hr : inp.readyR = true
      · exact Or.inl (h0 hr)
      · rw [Bool.not_eq_true, Bool.eq_false_iff, Ne, readyR_iff] at hr
        exact Or.inr ⟨List.eq_nil_of_length_eq_zero (by omega), by omega⟩
    -- the pipe to the right is ready for writing: it has no reader, or it is empty
    have hready : rest.allDone = true ∨ rest.inp.content = [] → rest.inp.readyW c = true := by
      intro h
      rw [readyW_iff]
      rcases h with hd | he
      · have := h3.head
        rw [allDone_headDone hd] at this
        exact Or.inl (by simpa using this)
      · have := hv.2
        exact Or.inr (Or.inl (by simp [he]; omega))
    have hgo : rest.allDone = true ∨ rest.inp.content = [] → pc ≠ .closed → pc ≠ .failed →
        (∃ i, i < (fwd g m inp hold pc rest).procs ∧
          ∀ n k, ((fwd g m inp hold pc rest).step c i n k).isSome = true) ∨
        (inp.content = [] ∧ 0 < inp.writers ∧ (fwd g m inp hold pc rest).headDone = false) := by
      intro h hc hf
      cases pc with
      | rd => exact Or.inl (h0 rfl)
      | wr => exact Or.inl (h0 rfl)
      | wwait => exact Or.inl (h0 (hready h))
      | rwait => exact (hrwait rfl).imp id fun ⟨a, b⟩ => ⟨a, b, by simp [headDone]⟩
      | closed => exact absurd rfl hc
      | failed => exact absurd rfl hf
    rcases ih h3 with hd | ⟨i, hil, hs⟩ | ⟨he, hw, hl⟩
    · by_cases hx : pc = .closed ∨ pc = .failed
      · exact Or.inl (by rcases hx with e | e <;> simp [allDone, e, hd])
      · exact Or.inr (hgo (Or.inl hd) (fun e => hx (Or.inl e)) (fun e => hx (Or.inr e)))
    · exact Or.inr (Or.inl ⟨i + 1, by simp [procs, hil], fun n k => by
        rw [step_fwd_succ, Option.isSome_map]; exact hs n k⟩)
    · -- the pipe to the right has a live writer: this stage has not exited
      have hx : ¬(pc = .closed ∨ pc = .failed) := fun hx => by simp [hx] at h2; omega
      exact Or.inr (hgo (Or.inr he) (fun e => hx (Or.inl e)) (fun e => hx (Or.inr e)))

theorem stuck_allDone {c : Cfg} (hv : c.Valid) {s : GChain α} (hi : s.Cnt) (hw : s.inp.writers = 0)
    (h : ∀ i, i < s.procs → ∃ n k, s.step c i n k = none) : s.allDone = true := by
  rcases progress c hv s hi with hd | ⟨i, hil, hs⟩ | ⟨_, h0, _⟩
  · exact hd
  · obtain ⟨n, k, e⟩ := h i hil
    have := hs n k
    rw [e] at this
    cases this
  · omega

/-! ### what an exited stage leaves behind -/

/-- the first process has exited because of its allowance or of EPIPE (not at end of file) -/
def headGone : GChain α → Bool
  | .sink _ _ _ => false
  | .fwd _ m _ _ pc _ => (pc == .closed && m == some 0) || pc == .failed

/-- A process that exited normally holds nothing and had used up its allowance or drained an input without writer;
    one that died of EPIPE writes to a process that exited early (`headGone`: early exits spread upstream by EPIPE). -/
def Fin : GChain α → Prop
  | .sink inp _ pc => pc = .done → inp.content = [] ∧ inp.writers = 0
  | .fwd _ m inp hold pc rest =>
      (pc = .closed → hold = [] ∧ (m = some 0 ∨ (inp.content = [] ∧ inp.writers = 0))) ∧
      (pc = .failed → rest.headGone = true) ∧ rest.Fin

/-- `Fin` looks at the first input pipe only once the first process has exited: `f` is constrained only then -/
theorem Fin.mapInp {s : GChain α} (h : s.Fin) (f : Fifo α → Fifo α)
    (hd : s.headDone = true → (f s.inp).content = s.inp.content ∧ (s.inp.writers = 0 → (f s.inp).writers = 0)) :
    (s.mapInp f).Fin := by
  cases s with
  | sink inp r pc =>
    simp only [Fin, GChain.mapInp, GChain.inp, headDone, beq_iff_eq] at *
    intro hp
    obtain ⟨a, b⟩ := hd hp
    exact ⟨by rw [a]; exact (h hp).1, b (h hp).2⟩
  | fwd g m inp hold pc rest =>
    simp only [Fin, GChain.mapInp, GChain.inp, headDone, Bool.or_eq_true, beq_iff_eq] at *
    refine ⟨fun hp => ?_, h.2⟩
    obtain ⟨a, b⟩ := hd (Or.inl hp)
    obtain ⟨c1, c2⟩ := h.1 hp
    refine ⟨c1, c2.imp id fun c2 => ⟨by rw [a]; exact c2.1, b c2.2⟩⟩

theorem mapInp_headGone (s : GChain α) (f : Fifo α → Fifo α) : (s.mapInp f).headGone = s.headGone := by
  cases s <;> rfl

theorem step_headGone {c : Cfg} {s s' : GChain α} {i n k : Nat} (hg : s.headGone = true)
    (h : s.step c i n k = some s') : s'.headGone = true := by
  cases s with
  | sink inp r pc => simp [headGone] at hg
  | fwd g m inp hold pc rest =>
    cases i with
    | zero =>
      have := gfwdStep_isSome c g m inp hold pc rest n k
      rw [← step_fwd, h] at this
      simp only [headGone, Bool.or_eq_true, Bool.and_eq_true, beq_iff_eq] at hg
      rcases hg with ⟨hp, _⟩ | hp <;> (subst hp; cases this)
    | succ j =>
      simp only [step_fwd_succ, Option.map_eq_some_iff] at h
      obtain ⟨r', _, rfl⟩ := h
      exact hg

theorem closeW_fin {rest : GChain α} (h : rest.Fin) : (rest.mapInp (·.closeFd false true)).Fin :=
  h.mapInp _ fun _ => ⟨rfl, fun hw => by simp [Fifo.closeFd, hw]⟩

end GChain

theorem gfwdStep_fin {c : Cfg} {g : α → List α} {m : Option Nat} {inp : Fifo α} {hold : List α} {pc : FPc}
    {rest : GChain α} {n k : Nat} {s' : GChain α} (hn : 1 ≤ n) (hc : (GChain.fwd g m inp hold pc rest).Cnt)
    (ho : (GChain.fwd g m inp hold pc rest).HoldOK) (hf : (GChain.fwd g m inp hold pc rest).Fin)
    (h : gfwdStep c g m inp hold pc rest n k = some s') : s'.Fin := by
  obtain ⟨_, c2, c3⟩ := hc
  obtain ⟨_, _, f3⟩ := hf
  cases gfwdStep_spec h with
  | exit hz =>
    refine ⟨fun _ => ⟨ho.1 (Or.inl rfl), hz.imp_left fun h0 => ?_⟩, nofun, GChain.closeW_fin f3⟩
    -- with a buffer of at least one byte the stage asks for nothing only when its allowance is used up
    cases m with
    | none => exact absurd h0 (by simp only [rdSize, Option.elim_none]; omega)
    | some m => simp only [rdSize, Option.elim_some] at h0; exact congrArg some (by omega)
  | epipe _ hr =>
    -- the process to the right has exited, yet this stage still holds the writing end: not at end of file
    have hdone : rest.headDone = true := by
      have := c3.head
      rw [hr] at this
      by_cases e : rest.headDone = true
      · exact e
      · simp [e] at this
    have hw1 : rest.inp.writers = 1 := by simpa using c2
    have hgone : rest.headGone = true := by
      cases rest with
      | sink ri rr rpc =>
        have := (f3 (by simpa [GChain.headDone] using hdone)).2
        simp only [GChain.inp] at hw1
        omega
      | fwd g2 m2 ri rh rpc rrest =>
        simp only [GChain.headDone, Bool.or_eq_true, beq_iff_eq] at hdone
        simp only [GChain.inp] at hw1
        rcases hdone with hp | hp
        · rcases (f3.1 hp).2 with hm | ⟨_, hw⟩
          · simp [GChain.headGone, hp, hm]
          · omega
        · simp [GChain.headGone, hp]
    exact ⟨nofun, fun _ => by rw [GChain.mapInp_headGone]; exact hgone, GChain.closeW_fin f3⟩
  | wrote w hr =>
    have hlive : rest.headDone = false := by
      have := c3.head
      cases e : rest.headDone with
      | false => rfl
      | true => rw [e] at this; exact absurd (by simpa using this) hr
    exact ⟨nofun, nofun, f3.mapInp _ fun hd => by rw [hlive] at hd; cases hd⟩
  | _ => exact ⟨nofun, nofun, f3⟩

namespace GChain

theorem step_fin {c : Cfg} {s s' : GChain α} {i n k : Nat} (hn : 1 ≤ n) (hc : s.Cnt) (ho : s.HoldOK)
    (hf : s.Fin) (h : s.step c i n k = some s') : s'.Fin := by
  refine step_induction (P := fun s _ s' => s.Cnt → s.HoldOK → s.Fin → s'.Fin)
    (fun h _ _ _ => ?_) (fun h hc ho hf => gfwdStep_fin hn hc ho hf h)
    (fun hr' ih hc ho hf => ⟨hf.1, fun hp => step_headGone (hf.2.1 hp) hr', ih hc.2.2 ho.2 hf.2.2⟩) h hc ho hf
  cases gsinkStep_spec h with
  | eof hz => exact fun _ => hz.resolve_left (by omega)
  | _ => exact nofun

mutual
/-- nothing that enters the first input pipe can reach the sink any more: some stage downstream has used up its
    allowance and holds nothing, and below it everything is drained -/
def absorbing : GChain α → Bool
  | .sink _ _ _ => false
  | .fwd _ m _ hold _ rest => rest.absorbing || (hold.isEmpty && m == some 0 && rest.settled)
/-- nothing in flight can reach the sink: pushing nothing gives what the sink holds -/
def settled : GChain α → Bool
  | .sink inp _ _ => inp.content.isEmpty
  | .fwd _ m inp hold _ rest =>
      rest.absorbing || (hold.isEmpty && (m == some 0 || inp.content.isEmpty) && rest.settled)
end

theorem settled_push (s : GChain α) :
    (s.absorbing = true → ∀ y, s.push y = s.received) ∧ (s.settled = true → s.push [] = s.received) := by
  induction s with
  | sink inp r pc =>
    refine ⟨by simp [absorbing], fun h => ?_⟩
    have : inp.content = [] := by simpa [settled] using h
    simp [push, received, this]
  | fwd g m inp hold pc rest ih =>
    obtain ⟨ia, is⟩ := ih
    refine ⟨fun h y => ?_, fun h => ?_⟩
    · simp only [absorbing, Bool.or_eq_true, Bool.and_eq_true, beq_iff_eq, List.isEmpty_iff] at h
      rcases h with h | ⟨⟨hh, hm⟩, hs⟩
      · exact ia h _
      · subst hm
        simp only [push, received, hh, takeO, List.take_zero, List.flatMap_nil, List.append_nil]
        exact is hs
    · simp only [settled, Bool.or_eq_true, Bool.and_eq_true, beq_iff_eq, List.isEmpty_iff] at h
      rcases h with h | ⟨⟨hh, hm⟩, hs⟩
      · exact ia h _
      · have : takeO m inp.content = [] := by
          rcases hm with hm | hm
          · subst hm; simp [takeO]
          · cases m <;> simp [takeO, hm]
        simp only [push, received, hh, List.append_nil, this, List.flatMap_nil]
        exact is hs

theorem allDone_settled {s : GChain α} (hf : s.Fin) (hd : s.allDone = true) :
    s.settled = true ∧ (s.headGone = true → s.absorbing = true) := by
  induction s with
  | sink inp r pc =>
    simp only [allDone, beq_iff_eq] at hd
    exact ⟨by simp [settled, (hf hd).1], by simp [headGone]⟩
  | fwd g m inp hold pc rest ih =>
    obtain ⟨f1, f2, f3⟩ := hf
    simp only [allDone, Bool.and_eq_true, Bool.or_eq_true, beq_iff_eq] at hd
    obtain ⟨hp, hr⟩ := hd
    obtain ⟨is, ia⟩ := ih f3 hr
    rcases hp with hp | hp
    · obtain ⟨hh, hm⟩ := f1 hp
      refine ⟨?_, fun hg => ?_⟩
      · rcases hm with hm | hm
        · simp [settled, hh, hm, is]
        · simp [settled, hh, hm.1, is]
      · have hm0 : m = some 0 := by simpa [headGone, hp] using hg
        simp [absorbing, hh, hm0, is]
    · have := ia (f2 hp)
      exact ⟨by simp [settled, this], fun _ => by simp [absorbing, this]⟩

theorem allDone_push {s : GChain α} (hf : s.Fin) (hd : s.allDone = true) : s.push [] = s.received :=
  (settled_push s).2 (allDone_settled hf hd).1

end GChain

end YashModel.Pipe
