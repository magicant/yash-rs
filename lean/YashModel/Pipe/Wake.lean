/-
  C14 — Impl model of the *wake-up* half of the transfer: who registers which waker where, who fires it,
  and when the executor polls a process again.  (Up to the extension round this was the "runtime half" of
  the claim: in Model.lean a suspended process is simply enabled when its descriptor is ready.)

  Transcribed from (current /repo):
    yash-env/src/system/concurrency.rs            `yield_once` (task registered in `state.reads/writes`),
                                                  `select_impl` / `wake_tasks_for_ready_fds`
    yash-env/src/system/concurrency/run_virtual.rs `run_virtual`: poll the task; when it is pending poll
                                                  `select`; `while poll!(&mut select).is_pending() { pending!() }`
    yash-env/src/system/virtual/select.rs         `VirtualSystem::select`: ready descriptors → `Ready`;
                                                  otherwise `register_reader_waker` / `register_writer_waker`
                                                  on the open file description and `Pending`; `drop(waker)`
    yash-env/src/system/virtual/file_body.rs      `poll_read` (`pending_write_wakers.wake_all()` on every
                                                  return that is not `Pending`), `poll_write`
                                                  (`pending_read_wakers.wake_all()` after appending), `close`
                                                  (both sets when `readers == 0 || writers == 0`)
    yash-env/src/waker/set.rs                     `WakerSet::{insert, wake_all}` (wake_all drains the set)

  Two layers, both executable and import-free apart from Model.lean and Flow.lean (`wReq`, `lcg`):
    * `Wakers` + `wf*`  : the FIFO's two `WakerSet`s with any number of waiting `select` calls (waker ids) —
                          what the operation sequences of the harness drive (`park` / `poll` operations);
    * `WSys`            : writer ∥ reader of Model.lean, each process inside `run_virtual`: a process that
                          found its descriptor not ready in `select` is *parked* and is polled again only
                          after its waker has fired (or spuriously).
-/
import YashModel.Pipe.Model
import YashModel.Pipe.Flow
namespace YashModel.Pipe

variable {α : Type}

/-! ## the FIFO's waker sets (any number of waiting `select` calls) -/

/-- `pending_read_wakers`, `pending_write_wakers` of `FileBody::Fifo` as lists of waker ids, and the
    wakers that have fired since they were last looked at (the executor's wake flags) -/
structure Wakers where
  pendR : List Nat := []
  pendW : List Nat := []
  fired : List Nat := []
  deriving Repr, DecidableEq

def insertId (l : List Nat) (i : Nat) : List Nat := if l.contains i then l else l ++ [i]

/-- `pending_read_wakers.wake_all()` -/
def Wakers.wakeR (w : Wakers) : Wakers :=
  { w with pendR := [], fired := w.pendR.foldl insertId w.fired }

/-- `pending_write_wakers.wake_all()` -/
def Wakers.wakeW (w : Wakers) : Wakers :=
  { w with pendW := [], fired := w.pendW.foldl insertId w.fired }

/-- `FileBody::poll_write` on a FIFO with its waker side effects: a successful write wakes the
    read-waiters; `Pending` registers the caller's waker (`id = none`: `Weak::new()`, what a non-blocking
    descriptor passes — nothing to wake later) -/
def wfWrite (c : Cfg) (p : Fifo α) (w : Wakers) (buf : List α) (id : Option Nat) : WRes × Fifo α × Wakers :=
  match p.write c buf with
  | (.epipe, p') => (.epipe, p', w)
  | (.block, p') => (.block, p', match id with
      | some i => { w with pendW := insertId w.pendW i }
      | none => w)
  | (.wrote n, p') => (.wrote n, p', w.wakeR)

/-- `FileBody::poll_read` on a FIFO with its waker side effects: a zero-length request returns before
    anything; `Pending` registers; every other return wakes the write-waiters -/
def wfRead (p : Fifo α) (w : Wakers) (n : Nat) (id : Option Nat) : RRes α × Fifo α × Wakers :=
  match p.read n with
  | (.block, p') => (.block, p', match id with
      | some i => { w with pendR := insertId w.pendR i }
      | none => w)
  | (.data bs, p') => (.data bs, p', if n = 0 then w else w.wakeW)

/-- `FileBody::close`: both sets are woken when no reader or no writer is left -/
def wfClose (p : Fifo α) (w : Wakers) (r wr : Bool) : Fifo α × Wakers :=
  let p' := p.closeFd r wr
  (p', if p'.readers = 0 ∨ p'.writers = 0 then w.wakeR.wakeW else w)

/-- one poll of `VirtualSystem::select` on one open file description `o` of the FIFO (`wantR`/`wantW`: in
    the reader / writer set).  `OpenFileDescription::is_ready_for_reading` = `!is_readable || body ready`
    (likewise for writing).  `some (r, w)` = `Ready` with these readiness bits; `none` = `Pending` after
    `register_reader_waker` / `register_writer_waker` with the waker `id` -/
def wfSelect (c : Cfg) (o : Ofd) (p : Fifo α) (w : Wakers) (wantR wantW : Bool) (id : Nat) :
    Option (Bool × Bool) × Wakers :=
  let rr := wantR && (!o.readable || p.readyR)
  let rw := wantW && (!o.writable || p.readyW c)
  if rr || rw then (some (rr, rw), w)
  else (none, { w with pendR := if wantR then insertId w.pendR id else w.pendR,
                       pendW := if wantW then insertId w.pendW id else w.pendW })

/-- `OpenFileDescription::poll_write` with the waker side effects (`Ofd.pollWrite` of Model.lean is its
    projection: `pollWriteW_proj`).  The waker a blocking call would register belongs to the system-call
    future, which the harness drops after one poll: a dead `Weak`, nothing to fire later (`id = none`). -/
def Ofd.pollWriteW (c : Cfg) (o : Ofd) (p : Fifo α) (w : Wakers) (buf : List α) : Res × Fifo α × Wakers :=
  if !o.writable then (.err .EBADF, p, w)
  else match wfWrite c p w buf none with
    | (.epipe, p', w') => (.err .EPIPE, p', w')
    | (.block, p', w') => (if o.nonblocking then .err .EAGAIN else .pending, p', w')
    | (.wrote n, p', w') => (.ok n, p', w')

/-- `OpenFileDescription::poll_write_full` with the waker side effects -/
def Ofd.pollWriteFullW (c : Cfg) (o : Ofd) : Nat → Fifo α → Wakers → List α → Nat → Res × Fifo α × Wakers
  | 0, p, w, _, bw => (.ok bw, p, w)
  | fuel + 1, p, w, rem, bw =>
    if rem.isEmpty then (.ok bw, p, w)
    else match o.pollWriteW c p w rem with
      | (.ok n, p', w') =>
        if o.nonblocking || n == 0 then (.ok (bw + n), p', w')
        else o.pollWriteFullW c fuel p' w' (rem.drop n) (bw + n)
      | (.err e, p', w') => (if bw > 0 then .ok bw else .err e, p', w')
      | (.pending, p', w') => (.pending, p', w')

def Ofd.sysWriteW (c : Cfg) (o : Ofd) (p : Fifo α) (w : Wakers) (buf : List α) : Res × Fifo α × Wakers :=
  o.pollWriteFullW c (buf.length + 1) p w buf 0

/-- `OpenFileDescription::poll_read` with the waker side effects -/
def Ofd.sysReadW (o : Ofd) (p : Fifo α) (w : Wakers) (n : Nat) : Res × List α × Fifo α × Wakers :=
  if !o.readable then (.err .EBADF, [], p, w)
  else match wfRead p w n none with
    | (.block, p', w') => (if o.nonblocking then .err .EAGAIN else .pending, [], p', w')
    | (.data bs, p', w') => (.ok bs.length, bs, p', w')

/-! ## writer ∥ reader, each inside `run_virtual` -/

/-- what the executor and the FIFO's `WakerSet`s know about one virtual process -/
structure PWake where
  /-- the process future returned `Pending` from inside `select` -/
  parked : Bool := false
  /-- its `select` waker is in the FIFO's waker set for the event it waits for -/
  reg : Bool := false
  /-- the waker has fired: the executor will poll the process again -/
  woken : Bool := false
  deriving Repr, DecidableEq

/-- `WakerSet::wake_all` as seen by one process: a registered waker is taken out and fired -/
def PWake.wake (p : PWake) : PWake := if p.reg then { p with reg := false, woken := true } else p

/-- `FileBody::close` wakes only when a count reached zero -/
def closeWake (p : Fifo α) (x : PWake) : PWake := if p.readers = 0 ∨ p.writers = 0 then x.wake else x

/-- one poll of `select` by a process whose task waits for a descriptor: ready → `Ready`, the waker cell
    is dropped (a registration left behind is dead) and the task runs again; not ready → the waker is
    (re-)registered, the wake flag was consumed by this poll, the process future returns `Pending` -/
def PWake.pollSelect (ready : Bool) : PWake :=
  if ready then {} else { parked := true, reg := true, woken := false }

structure WSys (α : Type) where
  base : Sys α
  w : PWake := {}
  r : PWake := {}
  deriving Repr

def WSys.init (payload : List α) : WSys α := { base := Sys.init payload }

/-- The writer process is polled (`spur`: although its waker has not fired — executors may do that).
    * running: one iteration of `write_all` as in `Sys.stepW`; a successful `write` fires the read-waiters,
      the `close` at the end (or after EPIPE) fires both sets if a count reached zero; `EAGAIN` → the task is
      registered in `Concurrent::state.writes` (`wait`), `select` not yet polled;
    * waiting, not parked: first poll of `select`;
    * waiting, parked: the executor polls the process only if its waker fired; `select` is polled again. -/
def WSys.stepW (c : Cfg) (s : WSys α) (k : Nat) (spur : Bool) : Option (WSys α) :=
  match s.base.wpc with
  | .run =>
    match s.base.stepW c k with
    | none => none
    | some b =>
      if s.base.unsent.isEmpty then some { base := b, w := {}, r := closeWake b.pipe s.r }
      else match (s.base.pipe.write c (s.base.unsent.take k)).1 with
        | .epipe => some { base := b, w := {}, r := closeWake b.pipe s.r }
        | .block => some { base := b, w := {}, r := s.r }
        | .wrote _ => some { base := b, w := {}, r := s.r.wake }
  | .wait =>
    if s.w.parked && !(s.w.woken || spur) then none
    else if s.base.pipe.readyW c then (s.base.stepW c k).map fun b => { base := b, w := {}, r := s.r }
    else some { s with w := PWake.pollSelect false }
  | .closed => none
  | .failed => none

/-- The reader process is polled; symmetric (`poll_read` fires the write-waiters on every return that is
    not `Pending`, also on the end-of-file return). -/
def WSys.stepR (s : WSys α) (n : Nat) (spur : Bool) : Option (WSys α) :=
  match s.base.rpc with
  | .run =>
    match s.base.stepR n with
    | none => none
    | some b =>
      match (s.base.pipe.read n).1 with
      | .block => some { base := b, w := s.w, r := {} }
      | .data bs =>
        let w1 := if n = 0 then s.w else s.w.wake
        if bs.isEmpty then some { base := b, w := closeWake b.pipe w1, r := {} }
        else some { base := b, w := w1, r := {} }
  | .wait =>
    if s.r.parked && !(s.r.woken || spur) then none
    else if s.base.pipe.readyR then (s.base.stepR n).map fun b => { base := b, w := s.w, r := {} }
    else some { s with r := PWake.pollSelect false }
  | .done => none

/-- scheduler choice: which process the executor polls, with which request / buffer size, and whether the
    poll is spurious (the process's waker has not fired) -/
inductive WAct where
  | w (k : Nat) (spur : Bool)
  | r (n : Nat) (spur : Bool)
  deriving Repr, DecidableEq

def WAct.ok : WAct → Bool
  | .w k _ => decide (1 ≤ k)
  | .r n _ => decide (1 ≤ n)

/-- a poll the executor really owes the process (its waker fired, or it never parked) -/
def WAct.legit : WAct → Bool
  | .w _ spur => !spur
  | .r _ spur => !spur

def WSys.step (c : Cfg) (s : WSys α) : WAct → Option (WSys α)
  | .w k spur => s.stepW c k spur
  | .r n spur => s.stepR n spur

def WSys.run (c : Cfg) (s : WSys α) : List WAct → WSys α
  | [] => s
  | a :: as => WSys.run c ((s.step c a).getD s) as

/-! ## what the driver runs: a seeded executor that polls a parked process only after its waker fired -/

def wStepWriter (c : Cfg) (total wk : Nat) (s : WSys α) : Option (WSys α) :=
  s.step c (.w (wReq total wk s.base) false)

def wStepReader (c : Cfg) (rk : Nat) (s : WSys α) : Option (WSys α) :=
  s.step c (.r (if rk = 0 then 1024 else rk) false)

/-- like `runSchedStop`, over `WSys` and with legitimate polls only: if a wake-up were lost the run would
    end in a state that is not final -/
def runWSched (c : Cfg) (total wk rk : Nat) : Nat → Nat → WSys α → WSys α
  | 0, _, s => s
  | fuel + 1, x, s =>
    let x' := lcg x
    if (x' / 65536) % 2 = 0 then
      match wStepWriter c total wk s with
      | some s' => runWSched c total wk rk fuel x' s'
      | none =>
        match wStepReader c rk s with
        | some s' => runWSched c total wk rk fuel x' s'
        | none => s
    else
      match wStepReader c rk s with
      | some s' => runWSched c total wk rk fuel x' s'
      | none =>
        match wStepWriter c total wk s with
        | some s' => runWSched c total wk rk fuel x' s'
        | none => s

/-- one pipe transfer between two virtual processes under the schedule `seed`; `none` = stuck -/
def wtransfer (c : Cfg) (seed wk rk : Nat) (x : List α) : Option (List α) :=
  let s := runWSched c x.length wk rk (40 * x.length + 200) seed (WSys.init x)
  if s.base.final then some s.base.received else none

end YashModel.Pipe
