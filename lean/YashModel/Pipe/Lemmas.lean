/-
  C14 — the state spaces of the two-process theorems (`Reach`: every interleaving, sizes ≥ 1; `Exec`: runs of
  exactly n steps; `Reach2`: the reader may also stop early) and what holds on them.
  Outcome characterisations of `Fifo.write` / `Fifo.read`; the two processes' steps case by case
  (`WStep`, `RStep`), through which every preservation proof goes, and when a step is possible
  (`stepW_isSome`, `stepR_isSome`); conservation (`ConsInv`), the counts of the pipe (`Ends`) and the invariant
  `Inv` built from them; the progress measure `Sys.measure`, which every step lowers in every state.
  (That a state where neither process can step is final is the chain's progress: `Sys.progress`, `Sys.stuck_final`
  in EmbedLemmas.lean.)
-/
import YashModel.Pipe.Model
import YashModel.Pipe.Spec
namespace YashModel.Pipe

variable {α : Type}

/-! ### the pipe: `write` and `read` by outcome, readiness -/

theorem write_cases (c : Cfg) (p : Fifo α) (buf : List α) :
    (p.readers = 0 ∧ p.write c buf = (.epipe, p)) ∨
    (p.readers ≠ 0 ∧ p.room c < buf.length ∧ (p.room c = 0 ∨ buf.length ≤ c.pipeBuf) ∧
      p.write c buf = (.block, p)) ∨
    ∃ n, p.readers ≠ 0 ∧ n = min (p.room c) buf.length ∧ (buf ≠ [] → 1 ≤ n) ∧
      (buf.length ≤ c.pipeBuf → n = buf.length) ∧
      p.write c buf = (.wrote n, { p with content := p.content ++ buf.take n }) := by
  unfold Fifo.write
  by_cases hr : p.readers = 0
  · exact Or.inl ⟨hr, by rw [if_pos hr]⟩
  · rw [if_neg hr]
    by_cases h1 : p.room c < buf.length
    · rw [if_pos h1]
      by_cases h2 : p.room c = 0 ∨ buf.length ≤ c.pipeBuf
      · exact Or.inr (Or.inl ⟨hr, h1, h2, by rw [if_pos h2]⟩)
      · refine Or.inr (Or.inr ⟨p.room c, hr, by omega, fun _ => by omega, fun h => (h2 (Or.inr h)).elim,
          by rw [if_neg h2]⟩)
    · refine Or.inr (Or.inr ⟨buf.length, hr, by omega, fun hb => ?_, fun _ => rfl,
        by rw [if_neg h1, List.take_length]⟩)
      exact List.length_pos_iff.mpr hb

theorem write_epipe {c : Cfg} {p p' : Fifo α} {buf : List α} (h : p.write c buf = (.epipe, p')) :
    p.readers = 0 ∧ p' = p := by
  rcases write_cases c p buf with ⟨h0, e⟩ | ⟨_, _, _, e⟩ | ⟨n, _, _, _, _, e⟩ <;> rw [e] at h <;> cases h
  exact ⟨h0, rfl⟩

theorem write_block {c : Cfg} {p p' : Fifo α} {buf : List α} (h : p.write c buf = (.block, p')) :
    p' = p ∧ p.readers ≠ 0 ∧ p.room c < buf.length ∧ (p.room c = 0 ∨ buf.length ≤ c.pipeBuf) := by
  rcases write_cases c p buf with ⟨_, e⟩ | ⟨h0, h1, h2, e⟩ | ⟨n, _, _, _, _, e⟩ <;> rw [e] at h <;> cases h
  exact ⟨rfl, h0, h1, h2⟩

theorem write_wrote {c : Cfg} {p p' : Fifo α} {buf : List α} {n : Nat} (h : p.write c buf = (.wrote n, p')) :
    p.readers ≠ 0 ∧ p' = { p with content := p.content ++ buf.take n } ∧ n ≤ buf.length ∧ n ≤ p.room c ∧
      (buf ≠ [] → 1 ≤ n) ∧ (buf.length ≤ c.pipeBuf → n = buf.length) := by
  rcases write_cases c p buf with ⟨_, e⟩ | ⟨_, _, _, e⟩ | ⟨m, h0, h1, h3, h4, e⟩ <;> rw [e] at h <;> cases h
  exact ⟨h0, rfl, by omega, by omega, h3, h4⟩

theorem take_ne_nil {l : List α} {k : Nat} (hk : 1 ≤ k) (h : l ≠ []) : l.take k ≠ [] :=
  fun e => (List.take_eq_nil_iff.1 e).elim (by omega) h

/-- the `write` of a process that has `hold` to send and asks for at most `k` bytes of it: EPIPE; or nothing goes
    (EAGAIN, or `Ok(0)`), for a non-empty request because it does not fit; or a non-empty prefix of `hold` is taken -/
theorem write_take_cases (c : Cfg) (p : Fifo α) {hold : List α} (he : hold ≠ []) (k : Nat) :
    (p.readers = 0 ∧ p.write c (hold.take k) = (.epipe, p)) ∨
    (p.readers ≠ 0 ∧
      (1 ≤ k → p.room c < (hold.take k).length ∧ (p.room c = 0 ∨ (hold.take k).length ≤ c.pipeBuf)) ∧
      (p.write c (hold.take k) = (.block, p) ∨ p.write c (hold.take k) = (.wrote 0, p))) ∨
    ∃ w, p.readers ≠ 0 ∧ 1 ≤ w ∧ w ≤ k ∧ w ≤ hold.length ∧ w ≤ p.room c ∧
      p.write c (hold.take k) = (.wrote w, { p with content := p.content ++ hold.take w }) := by
  rcases write_cases c p (hold.take k) with ⟨hr, e⟩ | ⟨hr, h1, h2, e⟩ | ⟨w, hr, hw, h1, _, e⟩
  · exact Or.inl ⟨hr, e⟩
  · exact Or.inr (Or.inl ⟨hr, fun _ => ⟨h1, h2⟩, Or.inl e⟩)
  · rw [List.length_take] at hw
    by_cases h0 : w = 0
    · subst h0
      refine Or.inr (Or.inl ⟨hr, fun hk => absurd (h1 (take_ne_nil hk he)) (by omega), Or.inr ?_⟩)
      rw [e, List.take_zero, List.append_nil]
    · refine Or.inr (Or.inr ⟨w, hr, by omega, by omega, by omega, by omega, ?_⟩)
      rw [e, List.take_take, Nat.min_eq_left (by omega)]

theorem write_fst_epipe {c : Cfg} {p : Fifo α} {buf : List α} (h : (p.write c buf).1 = .epipe) :
    p.write c buf = (.epipe, p) := by
  have e : p.write c buf = (.epipe, (p.write c buf).2) := by rw [← h]
  rw [e, (write_epipe e).2]

theorem write_fst_block {c : Cfg} {p : Fifo α} {buf : List α} (h : (p.write c buf).1 = .block) :
    p.write c buf = (.block, p) := by
  have e : p.write c buf = (.block, (p.write c buf).2) := by rw [← h]
  rw [e, (write_block e).1]

/-- a `read` with a buffer of any size: it blocks, or returns nothing (end of file, or a buffer of 0 bytes gets
    `Ok(0)` like end of file), or takes the first `n` bytes -/
theorem read_cases_any (p : Fifo α) (n : Nat) :
    (n ≠ 0 ∧ p.content = [] ∧ 0 < p.writers ∧ p.read n = (.block, p)) ∨
    ((n = 0 ∨ (p.content = [] ∧ p.writers = 0)) ∧ p.read n = (.data [], p)) ∨
    (n ≠ 0 ∧ p.content ≠ [] ∧ (p.content.take n).isEmpty = false ∧
      p.read n = (.data (p.content.take n), { p with content := p.content.drop n })) := by
  unfold Fifo.read
  by_cases hn : n = 0
  · exact Or.inr (Or.inl ⟨Or.inl hn, by rw [if_pos hn]⟩)
  · rw [if_neg hn]
    cases hc : p.content with
    | nil =>
      by_cases hw : 0 < p.writers
      · exact Or.inl ⟨hn, rfl, hw, by simp [hw]⟩
      · refine Or.inr (Or.inl ⟨Or.inr ⟨rfl, by omega⟩, ?_⟩)
        simp only [List.length_nil, hw, and_false, if_false, List.take_nil, List.drop_nil]
        rw [← hc]
    | cons a t =>
      refine Or.inr (Or.inr ⟨hn, by simp, ?_, by simp⟩)
      cases n with
      | zero => exact absurd rfl hn
      | succ m => rfl

theorem read_cases {n : Nat} (hn : 1 ≤ n) (p : Fifo α) :
    (p.content = [] ∧ 0 < p.writers ∧ p.read n = (.block, p)) ∨
    (p.content = [] ∧ p.writers = 0 ∧ p.read n = (.data [], p)) ∨
    (p.content ≠ [] ∧ (p.content.take n).isEmpty = false ∧
      p.read n = (.data (p.content.take n), { p with content := p.content.drop n })) := by
  rcases read_cases_any p n with ⟨_, hc, hw, e⟩ | ⟨hz, e⟩ | ⟨_, hc, hne, e⟩
  · exact Or.inl ⟨hc, hw, e⟩
  · exact Or.inr (Or.inl ⟨(hz.resolve_left (by omega)).1, (hz.resolve_left (by omega)).2, e⟩)
  · exact Or.inr (Or.inr ⟨hc, hne, e⟩)

theorem read_block {p p' : Fifo α} {n : Nat} (h : p.read n = (.block, p')) :
    p' = p ∧ n ≠ 0 ∧ p.content = [] ∧ 0 < p.writers := by
  rcases read_cases_any p n with ⟨hn, hc, hw, e⟩ | ⟨_, e⟩ | ⟨_, _, _, e⟩ <;> rw [e] at h <;> cases h
  exact ⟨rfl, hn, hc, hw⟩

theorem read_fst_block {p : Fifo α} {n : Nat} (h : (p.read n).1 = .block) : p.read n = (.block, p) := by
  have e : p.read n = (.block, (p.read n).2) := by rw [← h]
  rw [e, (read_block e).1]

theorem read_data {p p' : Fifo α} {n : Nat} {bs : List α} (hn : 1 ≤ n) (h : p.read n = (.data bs, p')) :
    bs = p.content.take n ∧ p' = { p with content := p.content.drop n } ∧
      (p.content = [] → p.writers = 0) := by
  rcases read_cases hn p with ⟨_, _, e⟩ | ⟨hc, hw, e⟩ | ⟨hc, _, e⟩ <;> rw [e] at h <;> cases h
  · exact ⟨by rw [hc, List.take_nil], by rw [hc, List.drop_nil, ← hc], fun _ => hw⟩
  · exact ⟨rfl, rfl, fun h => absurd h hc⟩

theorem readyR_iff (p : Fifo α) : p.readyR = true ↔ (p.writers = 0 ∨ p.content.length ≠ 0) := by
  unfold Fifo.readyR
  cases hc : p.content <;> simp

theorem readyW_iff (c : Cfg) (p : Fifo α) :
    p.readyW c = true ↔ (p.readers = 0 ∨ c.pipeBuf + p.content.length ≤ c.pipeSize ∨ c.pipeBuf = 0) := by
  unfold Fifo.readyW Fifo.room
  simp only [Bool.or_eq_true, beq_iff_eq, decide_eq_true_eq]
  omega

theorem readyR_false_iff (p : Fifo α) : p.readyR = false ↔ (p.writers ≠ 0 ∧ p.content.length = 0) := by
  rw [Bool.eq_false_iff, Ne, readyR_iff]
  omega

theorem readyW_false_iff (c : Cfg) (p : Fifo α) :
    p.readyW c = false ↔ (p.readers ≠ 0 ∧ c.pipeSize < c.pipeBuf + p.content.length ∧ c.pipeBuf ≠ 0) := by
  rw [Bool.eq_false_iff, Ne, readyW_iff]
  omega

theorem readyR_closeFd {p : Fifo α} {r w : Bool} (h : p.readyR = false) (hw : (p.closeFd r w).writers ≠ 0) :
    (p.closeFd r w).readyR = false := by
  rw [readyR_false_iff] at h ⊢
  exact ⟨hw, h.2⟩

theorem readyW_closeFd {c : Cfg} {p : Fifo α} {r w : Bool} (h : p.readyW c = false)
    (hr : (p.closeFd r w).readers ≠ 0) : (p.closeFd r w).readyW c = false := by
  rw [readyW_false_iff] at h ⊢
  exact ⟨hr, h.2⟩

theorem not_readyW_of_block {c : Cfg} (hb : 1 ≤ c.pipeBuf) {p : Fifo α} {len : Nat} (hr : p.readers ≠ 0)
    (hroom : p.room c < len) (hor : p.room c = 0 ∨ len ≤ c.pipeBuf) : p.readyW c = false := by
  rw [Bool.eq_false_iff, Ne, readyW_iff]
  unfold Fifo.room at hroom hor
  omega

theorem not_readyR_of_block {p : Fifo α} (hc : p.content = []) (hw : 0 < p.writers) : p.readyR = false := by
  rw [Bool.eq_false_iff, Ne, readyR_iff, hc]
  simp only [List.length_nil]
  omega

/-! ### the two processes: when a step is possible, and what it does -/

/-- a running process can always step, a waiting one when its end of the pipe is ready -/
def WPc.enabled (pc : WPc) (rdy : Bool) : Bool :=
  match pc with | .run => true | .wait => rdy | .closed | .failed => false

/-- likewise for the reader (and for the sink of a chain) -/
def RPc.enabled (pc : RPc) (rdy : Bool) : Bool :=
  match pc with | .run => true | .wait => rdy | .done => false

theorem stepW_isSome (c : Cfg) (s : Sys α) (k : Nat) : (s.stepW c k).isSome = s.wpc.enabled (s.pipe.readyW c) := by
  unfold Sys.stepW
  cases s.wpc with
  | run =>
    simp only
    split
    · rfl
    · rcases s.pipe.write c (s.unsent.take k) with ⟨_ | _ | w, p⟩
      · rfl
      · rfl
      · simp only; split <;> rfl
  | wait => simp only [WPc.enabled]; cases s.pipe.readyW c <;> rfl
  | closed => rfl
  | failed => rfl

theorem stepR_isSome (s : Sys α) (n : Nat) : (s.stepR n).isSome = s.rpc.enabled s.pipe.readyR := by
  unfold Sys.stepR
  cases s.rpc with
  | run =>
    simp only
    rcases s.pipe.read n with ⟨_ | bs, p⟩
    · rfl
    · simp only; split <;> rfl
  | wait => simp only [RPc.enabled]; cases s.pipe.readyR <;> rfl
  | done => rfl

theorem stepW_resume {c : Cfg} {s : Sys α} (k : Nat) (hw : s.wpc = .wait) (hy : s.pipe.readyW c = true) :
    s.stepW c k = some { s with wpc := .run } := by
  simp only [Sys.stepW, hw, hy, if_true]

theorem stepR_resume {s : Sys α} (n : Nat) (hr : s.rpc = .wait) (hy : s.pipe.readyR = true) :
    s.stepR n = some { s with rpc := .run } := by
  simp only [Sys.stepR, hr, hy, if_true]

/-- a waiting reader does not look at its buffer -/
theorem stepR_wait_size {s : Sys α} (hr : s.rpc = .wait) (n m : Nat) : s.stepR n = s.stepR m := by
  simp only [Sys.stepR, hr]

theorem stepW_pipe_closed {c : Cfg} {s b : Sys α} {k : Nat} (hw : s.wpc = .run)
    (h : s.unsent.isEmpty = true ∨ (s.pipe.write c (s.unsent.take k)).1 = .epipe) (hb : s.stepW c k = some b) :
    b.pipe = s.pipe.closeFd false true := by
  simp only [Sys.stepW, hw] at hb
  by_cases he : s.unsent.isEmpty = true
  · simp only [he, if_true, Option.some.injEq] at hb
    subst hb
    rfl
  · simp only [he, write_fst_epipe (h.resolve_left he), Bool.false_eq_true, if_false, Option.some.injEq] at hb
    subst hb
    rfl

theorem stepW_pipe_block {c : Cfg} {s b : Sys α} {k : Nat} (hw : s.wpc = .run) (he : ¬s.unsent.isEmpty = true)
    (h : (s.pipe.write c (s.unsent.take k)).1 = .block) (hb : s.stepW c k = some b) : b.pipe = s.pipe := by
  simp only [Sys.stepW, hw, he, write_fst_block h, Bool.false_eq_true, if_false, Option.some.injEq] at hb
  subst hb
  rfl

theorem stepR_pipe_block {s b : Sys α} {n : Nat} (hr : s.rpc = .run) (h : (s.pipe.read n).1 = .block)
    (hb : s.stepR n = some b) : b.pipe = s.pipe := by
  simp only [Sys.stepR, hr, read_fst_block h, Option.some.injEq] at hb
  subst hb
  rfl

inductive WStep (c : Cfg) (k : Nat) (s : Sys α) : Sys α → Prop
  | close (hw : s.wpc = .run) (he : s.unsent = []) :
      WStep c k s { s with pipe := s.pipe.closeFd false true, wpc := .closed }
  | epipe (hw : s.wpc = .run) (he : s.unsent ≠ []) (hr : s.pipe.readers = 0) :
      WStep c k s { s with pipe := s.pipe.closeFd false true, wpc := .failed }
  /-- EAGAIN; for a non-empty request, because the request does not fit -/
  | block (hw : s.wpc = .run) (he : s.unsent ≠ []) (hr : s.pipe.readers ≠ 0)
      (hb : 1 ≤ k → s.pipe.room c < (s.unsent.take k).length ∧
        (s.pipe.room c = 0 ∨ (s.unsent.take k).length ≤ c.pipeBuf)) :
      WStep c k s { s with wpc := .wait }
  | wrote (n : Nat) (hw : s.wpc = .run) (hr : s.pipe.readers ≠ 0) (hn1 : 1 ≤ n) (hnk : n ≤ k)
      (hn : n ≤ s.unsent.length) (hroom : n ≤ s.pipe.room c) :
      WStep c k s { s with pipe := { s.pipe with content := s.pipe.content ++ s.unsent.take n },
                           unsent := s.unsent.drop n }
  | resume (hw : s.wpc = .wait) (hy : s.pipe.readyW c = true) : WStep c k s { s with wpc := .run }

theorem stepW_spec {c : Cfg} {s s' : Sys α} {k : Nat} (h : s.stepW c k = some s') : WStep c k s s' := by
  unfold Sys.stepW at h
  split at h
  next hw =>
    split at h
    next he => cases h; exact .close hw (by simpa using he)
    next he =>
      have he' : s.unsent ≠ [] := by simpa using he
      rcases write_take_cases c s.pipe he' k with ⟨hr, e⟩ | ⟨hr, hb, e | e⟩ | ⟨w, hr, h1, h2, h3, h4, e⟩
      · simp only [e, Option.some.injEq] at h
        subst h
        exact .epipe hw he' hr
      · simp only [e, Option.some.injEq] at h
        subst h
        exact .block hw he' hr hb
      · simp only [e, if_true, Option.some.injEq] at h
        subst h
        exact .block hw he' hr hb
      · simp only [e, show ¬w = 0 by omega, if_false, Option.some.injEq] at h
        subst h
        exact .wrote w hw hr h1 h2 h3 h4
  next hw =>
    split at h
    next hy => cases h; exact .resume hw hy
    · cases h
  next => cases h
  next => cases h

/-- (for a buffer of at least one byte) -/
inductive RStep (n : Nat) (s : Sys α) : Sys α → Prop
  | block (hr : s.rpc = .run) (hc : s.pipe.content = []) (hw : 0 < s.pipe.writers) :
      RStep n s { s with rpc := .wait }
  | eof (hr : s.rpc = .run) (hc : s.pipe.content = []) (hw : s.pipe.writers = 0) :
      RStep n s { s with pipe := s.pipe.closeFd true false, rpc := .done }
  | data (hr : s.rpc = .run) (hc : s.pipe.content ≠ []) :
      RStep n s { s with pipe := { s.pipe with content := s.pipe.content.drop n },
                         received := s.received ++ s.pipe.content.take n }
  | resume (hr : s.rpc = .wait) (hy : s.pipe.readyR = true) : RStep n s { s with rpc := .run }

theorem stepR_spec {s s' : Sys α} {n : Nat} (hn : 1 ≤ n) (h : s.stepR n = some s') : RStep n s s' := by
  unfold Sys.stepR at h
  split at h
  next hr =>
    rcases read_cases hn s.pipe with ⟨hc, hw, e⟩ | ⟨hc, hw, e⟩ | ⟨hc, hne, e⟩
    · simp only [e, Option.some.injEq] at h
      subst h
      exact .block hr hc hw
    · simp only [e, List.isEmpty_nil, if_true, Option.some.injEq] at h
      subst h
      exact .eof hr hc hw
    · simp only [e, hne, Bool.false_eq_true, if_false, Option.some.injEq] at h
      subst h
      exact .data hr hc
  next hr =>
    split at h
    next hy => cases h; exact .resume hr hy
    · cases h
  next => cases h

theorem WStep.rpc {c : Cfg} {k : Nat} {s s' : Sys α} (h : WStep c k s s') : s'.rpc = s.rpc := by
  cases h <;> rfl

theorem WStep.received {c : Cfg} {k : Nat} {s s' : Sys α} (h : WStep c k s s') : s'.received = s.received := by
  cases h <;> rfl

theorem WStep.active {c : Cfg} {k : Nat} {s s' : Sys α} (h : WStep c k s s') : s.wpc = .run ∨ s.wpc = .wait := by
  cases h <;> simp [*]

theorem RStep.wpc {n : Nat} {s s' : Sys α} (h : RStep n s s') : s'.wpc = s.wpc := by
  cases h <;> rfl

theorem RStep.active {n : Nat} {s s' : Sys α} (h : RStep n s s') : s.rpc = .run ∨ s.rpc = .wait := by
  cases h <;> simp [*]

/-- nothing is lost, duplicated or reordered, and the buffer stays within `PIPE_SIZE` -/
def ConsInv (c : Cfg) (payload : List α) (s : Sys α) : Prop :=
  s.received ++ s.pipe.content ++ s.unsent = payload ∧ s.pipe.content.length ≤ c.pipeSize

theorem cons_stepW {c : Cfg} {payload : List α} {s s' : Sys α} {k : Nat}
    (hi : ConsInv c payload s) (h : s.stepW c k = some s') : ConsInv c payload s' := by
  cases stepW_spec h with
  | wrote n _ _ _ _ _ hroom =>
    refine ⟨?_, ?_⟩
    · simp only [← hi.1, List.append_assoc, List.take_append_drop]
    · have := hi.2
      simp only [List.length_append, List.length_take, Fifo.room] at hroom ⊢
      omega
  | _ => exact hi

theorem cons_stepR {c : Cfg} {payload : List α} {s s' : Sys α} {n : Nat} (hn : 1 ≤ n)
    (hi : ConsInv c payload s) (h : s.stepR n = some s') : ConsInv c payload s' := by
  cases stepR_spec hn h with
  | data =>
    refine ⟨?_, ?_⟩
    · simp only [← hi.1, List.append_assoc]
      rw [← List.append_assoc (List.take n _), List.take_append_drop]
    · have := hi.2
      simp only [List.length_drop]
      omega
  | _ => exact hi

/-- each process holds its end of the pipe exactly until it has finished, and a writer that closed had
    nothing left to send -/
structure Ends (s : Sys α) : Prop where
  rd : s.pipe.readers = if s.rpc = .done then 0 else 1
  wr : s.pipe.writers = if s.wpc = .closed ∨ s.wpc = .failed then 0 else 1
  closed_imp : s.wpc = .closed → s.unsent = []

theorem Ends.done_of_no_reader {s : Sys α} (he : Ends s) (h : s.pipe.readers = 0) : s.rpc = .done := by
  have := he.rd
  split at this
  · assumption
  · omega

theorem Ends.finished_of_no_writer {s : Sys α} (he : Ends s) (h : s.pipe.writers = 0) :
    s.wpc = .closed ∨ s.wpc = .failed := by
  have := he.wr
  split at this
  · assumption
  · omega

theorem ends_stepW {c : Cfg} {s s' : Sys α} {k : Nat} (he : Ends s) (h : s.stepW c k = some s') : Ends s' := by
  obtain ⟨rd, wr, closed_imp⟩ := he
  cases stepW_spec h with
  | close hw he => exact ⟨by simpa [Fifo.closeFd] using rd, by simp [Fifo.closeFd, wr, hw], fun _ => he⟩
  | epipe hw => exact ⟨by simpa [Fifo.closeFd] using rd, by simp [Fifo.closeFd, wr, hw], nofun⟩
  | block hw => exact ⟨rd, by simpa [hw] using wr, nofun⟩
  | wrote n hw => exact ⟨rd, wr, fun e => by rw [hw] at e; cases e⟩
  | resume hw => exact ⟨rd, by simpa [hw] using wr, nofun⟩

theorem ends_stepR {s s' : Sys α} {n : Nat} (hn : 1 ≤ n) (he : Ends s) (h : s.stepR n = some s') : Ends s' := by
  obtain ⟨rd, wr, closed_imp⟩ := he
  cases stepR_spec hn h with
  | block hr => exact ⟨by simpa [hr] using rd, wr, closed_imp⟩
  | eof hr => exact ⟨by simp [Fifo.closeFd, rd, hr], by simpa [Fifo.closeFd] using wr, closed_imp⟩
  | data hr => exact ⟨rd, wr, closed_imp⟩
  | resume hr => exact ⟨by simpa [hr] using rd, wr, closed_imp⟩

/-- reachable states of writer ∥ reader on `payload`, every interleaving, every request/buffer
    size ≥ 1 at every step -/
inductive Reach (c : Cfg) (payload : List α) : Sys α → Prop
  | init : Reach c payload (Sys.init payload)
  | step {s s' : Sys α} (a : Act) :
      Reach c payload s → a.ok = true → s.step c a = some s' → Reach c payload s'

structure Inv (c : Cfg) (payload : List α) (s : Sys α) : Prop where
  cons : s.received ++ s.pipe.content ++ s.unsent = payload
  cap : s.pipe.content.length ≤ c.pipeSize
  rd : s.pipe.readers = if s.rpc = .done then 0 else 1
  wr : s.pipe.writers = if s.wpc = .closed ∨ s.wpc = .failed then 0 else 1
  done_imp : s.rpc = .done → s.wpc = .closed ∧ s.pipe.content = []
  closed_imp : s.wpc = .closed → s.unsent = []
  nofail : s.wpc ≠ .failed

theorem inv_init (c : Cfg) (payload : List α) : Inv c payload (Sys.init payload) := by
  refine ⟨?_, ?_, ?_, ?_, ?_, ?_, ?_⟩ <;> simp [Sys.init]

theorem Inv.consInv {c : Cfg} {payload : List α} {s : Sys α} (hi : Inv c payload s) : ConsInv c payload s :=
  ⟨hi.cons, hi.cap⟩

theorem Inv.ends {c : Cfg} {payload : List α} {s : Sys α} (hi : Inv c payload s) : Ends s :=
  ⟨hi.rd, hi.wr, hi.closed_imp⟩

theorem Inv.done_complete {c : Cfg} {payload : List α} {s : Sys α} (hi : Inv c payload s) (hd : s.rpc = .done) :
    s.received = payload ∧ s.wpc = .closed ∧ s.pipe.content = [] ∧ s.unsent = [] := by
  have ⟨hw, hc⟩ := hi.done_imp hd
  have hu := hi.closed_imp hw
  have := hi.cons
  rw [hc, hu] at this
  exact ⟨by simpa using this, hw, hc, hu⟩

theorem inv_stepW {c : Cfg} {payload : List α} {s s' : Sys α} {k : Nat}
    (hi : Inv c payload s) (h : s.stepW c k = some s') : Inv c payload s' := by
  have hc := cons_stepW hi.consInv h
  have he := ends_stepW hi.ends h
  have hs := stepW_spec h
  -- the writer is still active, so the reader cannot have seen end of file
  have hnd : s.rpc ≠ .done := fun hd => by
    have := (hi.done_imp hd).1
    rcases hs.active with e | e <;> simp [e] at this
  refine ⟨hc.1, hc.2, he.rd, he.wr, fun hd => absurd (hs.rpc ▸ hd) hnd, he.closed_imp, ?_⟩
  cases hs with
  | epipe _ _ hr => exact absurd (hi.ends.done_of_no_reader hr) hnd
  | _ => simp [*]

theorem inv_stepR {c : Cfg} {payload : List α} {s s' : Sys α} {n : Nat} (hn : 1 ≤ n)
    (hi : Inv c payload s) (h : s.stepR n = some s') : Inv c payload s' := by
  have hc := cons_stepR hn hi.consInv h
  have he := ends_stepR hn hi.ends h
  have hs := stepR_spec hn h
  refine ⟨hc.1, hc.2, he.rd, he.wr, ?_, he.closed_imp, hs.wpc ▸ hi.nofail⟩
  cases hs with
  | eof _ hc0 hw =>
    intro _
    rcases hi.ends.finished_of_no_writer hw with e | e
    · exact ⟨e, hc0⟩
    · exact absurd e hi.nofail
  | _ => simp [*]

theorem inv_step {c : Cfg} {payload : List α} {s s' : Sys α} {a : Act}
    (hi : Inv c payload s) (ha : a.ok = true) (h : s.step c a = some s') : Inv c payload s' := by
  cases a with
  | w k => exact inv_stepW hi h
  | r n => exact inv_stepR (by simpa [Act.ok] using ha) hi h

theorem inv_reach {c : Cfg} {payload : List α} {s : Sys α} (h : Reach c payload s) : Inv c payload s := by
  induction h with
  | init => exact inv_init c payload
  | step a _ ha hs ih => exact inv_step ih ha hs

inductive Exec (c : Cfg) : Sys α → Nat → Sys α → Prop
  | refl (s : Sys α) : Exec c s 0 s
  | step {s s' s'' : Sys α} {n : Nat} (a : Act) :
      a.ok = true → s.step c a = some s' → Exec c s' n s'' → Exec c s (n + 1) s''

theorem exec_reach {c : Cfg} {payload : List α} {s s' : Sys α} {n : Nat}
    (hr : Reach c payload s) (he : Exec c s n s') : Reach c payload s' := by
  induction he with
  | refl => exact hr
  | step a ha hs _ ih => exact ih (Reach.step a hr ha hs)

/-- every state produced by `Sys.run` (what the examples of Theorems.lean evaluate) is reachable -/
theorem reach_run {c : Cfg} {payload : List α} {s : Sys α} (hr : Reach c payload s) (acts : List Act)
    (hok : ∀ a ∈ acts, a.ok = true) : Reach c payload (s.run c acts) := by
  induction acts generalizing s with
  | nil => exact hr
  | cons a t ih =>
    have hok' : ∀ b ∈ t, b.ok = true := fun b hb => hok b (List.mem_cons_of_mem a hb)
    simp only [Sys.run]
    cases hs : s.step c a with
    | none => simpa using ih hr hok'
    | some s' => simpa using ih (Reach.step a hr (hok a List.mem_cons_self) hs) hok'

/-- reachable states when the reader may also stop early (close its end while running) -/
inductive Reach2 (c : Cfg) (payload : List α) : Sys α → Prop
  | init : Reach2 c payload (Sys.init payload)
  | step {s s' : Sys α} (a : Act) :
      Reach2 c payload s → a.ok = true → s.step c a = some s' → Reach2 c payload s'
  | close {s s' : Sys α} : Reach2 c payload s → s.stepRClose = some s' → Reach2 c payload s'

theorem cons_reach2 {c : Cfg} {payload : List α} {s : Sys α} (h : Reach2 c payload s) : ConsInv c payload s := by
  induction h with
  | init => exact ⟨by simp [Sys.init], by simp [Sys.init]⟩
  | step a _ ha hs ih =>
    cases a with
    | w k => exact cons_stepW ih hs
    | r n => exact cons_stepR (by simpa [Act.ok] using ha) ih hs
  | close _ hs ih =>
    unfold Sys.stepRClose at hs
    split at hs
    · simp only [Option.some.injEq] at hs; subst hs; exact ih
    · simp at hs

/-! ### the measure

  A byte costs 6 while unsent and 3 in the pipe, so moving one lowers the measure by at least 3.  A process costs 3
  while running, 4 while it waits and its end of the pipe is ready, 2 while it waits and it is not: suspending (on a
  pipe that is not ready) and resuming (on one that is) each lower it by 1, so the two cannot alternate for ever;
  a step of the peer can change the readiness and so raise the cost by at most 2 (`wcostOf_shift`,
  `rcostOf_shift`), which the byte it moved, or the 3 the peer gave up by finishing, pays for. -/

def wcostOf : WPc → Bool → Nat
  | .run, _ => 3
  | .wait, true => 4
  | .wait, false => 2
  | .closed, _ => 0
  | .failed, _ => 0

def rcostOf : RPc → Bool → Nat
  | .run, _ => 3
  | .wait, true => 4
  | .wait, false => 2
  | .done, _ => 0

/-- every step of either process strictly decreases this number -/
def Sys.measure (c : Cfg) (s : Sys α) : Nat :=
  6 * s.unsent.length + 3 * s.pipe.content.length + wcostOf s.wpc (s.pipe.readyW c) + rcostOf s.rpc s.pipe.readyR

theorem wcostOf_shift (pc : WPc) (b b' : Bool) : wcostOf pc b' ≤ wcostOf pc b + 2 := by
  cases pc <;> cases b <;> cases b' <;> simp [wcostOf]

theorem rcostOf_shift (pc : RPc) (b b' : Bool) : rcostOf pc b' ≤ rcostOf pc b + 2 := by
  cases pc <;> cases b <;> cases b' <;> simp [rcostOf]

theorem wcostOf_le (pc : WPc) (b : Bool) : wcostOf pc b ≤ 4 := by
  cases pc <;> cases b <;> simp [wcostOf]

theorem rcostOf_le (pc : RPc) (b : Bool) : rcostOf pc b ≤ 4 := by
  cases pc <;> cases b <;> simp [rcostOf]

theorem measure_stepW {c : Cfg} (hv : c.Valid) {s s' : Sys α} {k : Nat} (hk : 1 ≤ k)
    (h : s.stepW c k = some s') : s'.measure c < s.measure c := by
  have hs := stepW_spec h
  clear h
  cases hs with
  | close hw he =>
    have := rcostOf_shift s.rpc s.pipe.readyR (s.pipe.closeFd false true).readyR
    simp only [Sys.measure, hw, wcostOf, Fifo.closeFd] at this ⊢
    omega
  | epipe hw he hr =>
    have := rcostOf_shift s.rpc s.pipe.readyR (s.pipe.closeFd false true).readyR
    simp only [Sys.measure, hw, wcostOf, Fifo.closeFd] at this ⊢
    omega
  | block hw he hr hb =>
    simp only [Sys.measure, hw, not_readyW_of_block hv.1 hr (hb hk).1 (hb hk).2, wcostOf]
    omega
  | wrote n hw hr hn1 hnk hn hroom =>
    have := rcostOf_shift s.rpc s.pipe.readyR
      (Fifo.readyR { s.pipe with content := s.pipe.content ++ s.unsent.take n })
    simp only [Sys.measure, hw, wcostOf, List.length_drop, List.length_append, List.length_take] at this ⊢
    omega
  | resume hw hy =>
    simp only [Sys.measure, hw, hy, wcostOf]
    omega

theorem measure_stepR {c : Cfg} {s s' : Sys α} {n : Nat} (hn : 1 ≤ n)
    (h : s.stepR n = some s') : s'.measure c < s.measure c := by
  have hs := stepR_spec hn h
  clear h
  cases hs with
  | block hr hc hw =>
    simp only [Sys.measure, hr, not_readyR_of_block hc hw, rcostOf]
    omega
  | eof hr hc hw =>
    have := wcostOf_shift s.wpc (s.pipe.readyW c) ((s.pipe.closeFd true false).readyW c)
    simp only [Sys.measure, hr, rcostOf, Fifo.closeFd] at this ⊢
    omega
  | data hr hc =>
    have := wcostOf_shift s.wpc (s.pipe.readyW c)
      (Fifo.readyW c { s.pipe with content := s.pipe.content.drop n })
    have hpos := List.length_pos_iff.mpr hc
    simp only [Sys.measure, hr, rcostOf, List.length_drop] at this ⊢
    omega
  | resume hr hy =>
    simp only [Sys.measure, hr, hy, rcostOf]
    omega

theorem measure_stepRClose {c : Cfg} {s s' : Sys α} (h : s.stepRClose = some s') :
    s'.measure c < s.measure c := by
  unfold Sys.stepRClose at h
  split at h
  next hr =>
    cases h
    have := wcostOf_shift s.wpc (s.pipe.readyW c) ((s.pipe.closeFd true false).readyW c)
    simp only [Sys.measure, hr, rcostOf, Fifo.closeFd] at this ⊢
    omega
  · cases h

theorem Sys.init_measure (c : Cfg) (payload : List α) : (Sys.init payload).measure c = 6 * payload.length + 6 := by
  simp [Sys.measure, Sys.init, wcostOf, rcostOf]

theorem Exec.bound {c : Cfg} (hv : c.Valid) {s0 s1 : Sys α} {n : Nat} (he : Exec c s0 n s1) :
    n + s1.measure c ≤ s0.measure c := by
  induction he with
  | refl => omega
  | @step s s' _ _ a ha hs _ ih =>
    have : s'.measure c < s.measure c := by
      cases a with
      | w k => exact measure_stepW hv (by simpa [Act.ok] using ha) hs
      | r n => exact measure_stepR (c := c) (by simpa [Act.ok] using ha) hs
    omega

/-- the read buffer of the drivers: `rk` bytes, 1024 for `rk = 0` -/
theorem rbuf_pos (rk : Nat) : 1 ≤ (if rk = 0 then 1024 else rk) := by split <;> omega

end YashModel.Pipe
