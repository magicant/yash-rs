/-
  C14 — the transforming chain of TChain.lean with HEAD-LIKE stages: a stage may stop reading after `rem` bytes
  (`head -c K`): it then exits and closes both its descriptors; its downstream sees end of file after `g` of the
  prefix it consumed, its upstream meets EPIPE on its next `write` (`failed`, both ends closed — which in turn is
  EPIPE for the stage before it).  Same pipes, loops and scheduler as Chain.lean / TChain.lean; `TChain` is the
  instance in which every allowance exceeds what can arrive.  Import-free apart from TChain.lean (and Chain.lean through it), executable.
-/
import YashModel.Pipe.TChain
namespace YashModel.Pipe

variable {α : Type}

inductive HChain (α : Type) where
  /-- the last process: `read_all_to` of Model.lean's reader -/
  | sink (inp : Fifo α) (received : List α) (pc : RPc)
  /-- a forwarding stage: `hold` = `&buffer[..n]` minus what `write_all` has written already -/
  -- `rem` = how many more bytes the stage will read before it exits (`head -c`)
  | fwd (g : α → List α) (rem : Nat) (inp : Fifo α) (hold : List α) (pc : FPc) (rest : HChain α)

/-- the input pipe of the first process of the chain -/
def HChain.inp : HChain α → Fifo α
  | .sink inp _ _ => inp
  | .fwd _ _ inp _ _ _ => inp

def HChain.mapInp (f : Fifo α → Fifo α) : HChain α → HChain α
  | .sink inp r pc => .sink (f inp) r pc
  | .fwd g m inp h pc rest => .fwd g m (f inp) h pc rest

/-- the first process of the chain has finished (its reading end is closed) -/
def HChain.headDone : HChain α → Bool
  | .sink _ _ pc => pc == .done
  | .fwd _ _ _ _ pc _ => pc == .closed || pc == .failed

/-- what the sink has collected -/
def HChain.received : HChain α → List α
  | .sink _ r _ => r
  | .fwd _ _ _ _ _ rest => rest.received

/-- every process has exited (normally, or `failed` after EPIPE) -/
def HChain.allDone : HChain α → Bool
  | .sink _ _ pc => pc == .done
  | .fwd _ _ _ _ pc rest => (pc == .closed || pc == .failed) && rest.allDone

/-- number of processes -/
def HChain.procs : HChain α → Nat
  | .sink _ _ _ => 1
  | .fwd _ _ _ _ _ rest => rest.procs + 1

/-- what the sink will hold once `x` more bytes have entered the first input pipe and everything has been pushed
    through every stage: a stage turns what it reads into `flatMap g` of it, after what it already holds -/
def HChain.push (x : List α) : HChain α → List α
  | .sink inp r _ => r ++ inp.content ++ x
  | .fwd g m inp h _ rest => rest.push (h ++ ((inp.content ++ x).take m).flatMap g)

/-- the sink's step = `Sys.stepR` (buffer of `n` bytes) -/
def hsinkStep (inp : Fifo α) (received : List α) (pc : RPc) (n : Nat) : Option (HChain α) :=
  match pc with
  | .run =>
    match inp.read n with
    | (.block, _) => some (.sink inp received .wait)
    | (.data bs, p) =>
      if bs.isEmpty then some (.sink (p.closeFd true false) received .done)
      else some (.sink p (received ++ bs) .run)
  | .wait => if inp.readyR then some (.sink inp received .run) else none
  | .done => none

/-- one step of a forwarding stage whose output pipe is `rest.inp`; `n` = size of its read buffer, `k` = bound
    of one write request (`cat` asks for the whole `hold`; a source may write in pieces) -/
def hfwdStep (c : Cfg) (g : α → List α) (m : Nat) (inp : Fifo α) (hold : List α) (pc : FPc) (rest : HChain α) (n k : Nat) : Option (HChain α) :=
  match pc with
  | .rd =>
    if m = 0 then
      -- the stage has read all it wanted (`head -c`): it exits, both its descriptors are closed; whatever is
      -- still in its input pipe is never read, and its upstream will meet EPIPE
      some (.fwd g m (inp.closeFd true false) hold .closed (rest.mapInp (·.closeFd false true)))
    else match inp.read (min n m) with
    | (.block, _) => some (.fwd g m inp hold .rwait rest)
    | (.data bs, p) =>
      if bs.isEmpty then
        -- `Ok(0)`: the stage exits, both its descriptors are closed
        some (.fwd g m (p.closeFd true false) hold .closed (rest.mapInp (·.closeFd false true)))
      else some (.fwd g (m - bs.length) p (bs.flatMap g) .wr rest)
  | .rwait => if inp.readyR then some (.fwd g m inp hold .rd rest) else none
  | .wr =>
    if hold.isEmpty then some (.fwd g m inp hold .rd rest)     -- `write_all` returns, back to `read`
    else match rest.inp.write c (hold.take k) with
      | (.epipe, _) =>
        some (.fwd g m (inp.closeFd true false) hold .failed (rest.mapInp (·.closeFd false true)))
      | (.block, _) => some (.fwd g m inp hold .wwait rest)
      | (.wrote w, p) =>
        if w = 0 then some (.fwd g m inp hold .wwait (rest.mapInp fun _ => p))
        else some (.fwd g m inp (hold.drop w) .wr (rest.mapInp fun _ => p))
  | .wwait => if rest.inp.readyW c then some (.fwd g m inp hold .wr rest) else none
  | .closed => none
  | .failed => none

/-- process number `i` (0 = the source) takes its next step with read-buffer size `n` and write bound `k` -/
def HChain.step (c : Cfg) : HChain α → Nat → Nat → Nat → Option (HChain α)
  | .sink inp r pc, 0, n, _ => hsinkStep inp r pc n
  | .sink _ _ _, _ + 1, _, _ => none
  | .fwd g m inp h pc rest, 0, n, k => hfwdStep c g m inp h pc rest n k
  | .fwd g m inp h pc rest, i + 1, n, k => (rest.step c i n k).map fun r => .fwd g m inp h pc r

/-- the stages after the source: per-byte function, how many bytes the stage reads before it exits, preamble -/
def HChain.stages : List ((α → List α) × Nat × List α) → HChain α
  | [] => .sink { content := [], readers := 1, writers := 1 } [] .run
  | (g, m, pre) :: rest => .fwd g m { content := [], readers := 1, writers := 1 } pre .wr (HChain.stages rest)

def HChain.init (st : List ((α → List α) × Nat × List α)) (x : List α) : HChain α :=
  .fwd (fun b => [b]) 0 { content := [], readers := 1, writers := 0 } x .wr (HChain.stages st)

/-- what the pipeline computes: every stage writes its preamble, then `flatMap g` of the PREFIX of its input that
    it consumes -/
def stagesFunH : List ((α → List α) × Nat × List α) → List α → List α
  | [], x => x
  | (g, m, pre) :: rest, x => stagesFunH rest (pre ++ (x.take m).flatMap g)

/-! ### the seeded executor the driver runs (`xfer … mid=M hs=J hk=K`) -/

def hchainScan (c : Cfg) (s : HChain α) (n k : Nat) : Nat → Option (HChain α)
  | 0 => none
  | j + 1 =>
    match s.step c j n k with
    | some s' => some s'
    | none => hchainScan c s n k j

def hchainRun (c : Cfg) (n k : Nat) : Nat → Nat → HChain α → HChain α
  | 0, _, s => s
  | fuel + 1, x, s =>
    let x' := (x * 1103515245 + 12345) % 2147483648
    match (match s.step c ((x' / 65536) % s.procs) n k with
            | some s' => some s'
            | none => hchainScan c s n k s.procs) with
    | some s' => hchainRun c n k fuel x' s'
    | none => s

/-- how each process ended, source first -/
def HChain.statuses : HChain α → List String
  | .sink _ _ pc => [match pc with | .done => "done" | .run => "run" | .wait => "wait"]
  | .fwd _ _ _ _ pc rest =>
    (match pc with
      | .closed => "closed" | .failed => "failed" | .rd => "rd" | .rwait => "rwait" | .wr => "wr"
      | .wwait => "wwait") :: rest.statuses

/-- `source | m × cat | sink` where forwarder number `hs` (1-based) stops after `hk` bytes -/
def hchainTransfer (c : Cfg) (seed m hs hk wk rk : Nat) (x : List α) : HChain α :=
  let n := if rk = 0 then 1024 else rk
  let k := if wk = 0 then x.length + 1 else wk
  let st : List ((α → List α) × Nat × List α) :=
    (List.range m).map fun i => (fun b => [b], if i + 1 = hs then hk else x.length + 1, [])
  hchainRun c n k ((m + 2) * (12 * x.length + 200)) seed (HChain.init st x)

end YashModel.Pipe
