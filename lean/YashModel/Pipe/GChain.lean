/-
  C14 — the chain of which `Chain`, `TChain` and `HChain` are instances: a forwarding stage has a per-byte function
  `g` and an OPTIONAL allowance `lim` (`none`: it reads to end of file; `some m`: it exits after `m` more bytes).
  It exists for the proofs only: whatever holds of every chain (conservation, capacity, descriptor counts, what an
  exited stage leaves behind, progress: GChainLemmas.lean; termination when no stage expands its input:
  GChainMeasure.lean) is proved of this one and carried to the three models of Chain.lean / TChain.lean /
  HChain.lean along embeddings under which the models' step functions are this one:

      Chain --toT (g := fun b => [b])--> TChain --toG (lim := none)--> GChain <--toG (lim := some m)-- HChain
      (f s).step c i n k = (s.step c i n k).map f        for each of the three arrows f
-/
import YashModel.Pipe.Chain
import YashModel.Pipe.Lemmas
namespace YashModel.Pipe

variable {α : Type}

inductive GChain (α : Type) where
  | sink (inp : Fifo α) (received : List α) (pc : RPc)
  | fwd (g : α → List α) (lim : Option Nat) (inp : Fifo α) (hold : List α) (pc : FPc) (rest : GChain α)

namespace GChain

def inp : GChain α → Fifo α
  | .sink inp _ _ => inp
  | .fwd _ _ inp _ _ _ => inp

def mapInp (f : Fifo α → Fifo α) : GChain α → GChain α
  | .sink inp r pc => .sink (f inp) r pc
  | .fwd g m inp h pc rest => .fwd g m (f inp) h pc rest

def headDone : GChain α → Bool
  | .sink _ _ pc => pc == .done
  | .fwd _ _ _ _ pc _ => pc == .closed || pc == .failed

def received : GChain α → List α
  | .sink _ r _ => r
  | .fwd _ _ _ _ _ rest => rest.received

/-- every process has exited: normally, after its allowance, or of EPIPE -/
def allDone : GChain α → Bool
  | .sink _ _ pc => pc == .done
  | .fwd _ _ _ _ pc rest => (pc == .closed || pc == .failed) && rest.allDone

def procs : GChain α → Nat
  | .sink _ _ _ => 1
  | .fwd _ _ _ _ _ rest => rest.procs + 1

end GChain

def takeO : Option Nat → List α → List α
  | none, l => l
  | some m, l => l.take m

/-- how much a stage with allowance `m` asks for when its buffer has `n` bytes -/
def rdSize (m : Option Nat) (n : Nat) : Nat := m.elim n (min n)

/-- what the sink will hold once `x` more bytes have entered the first pipe (cf. `TChain.push`, `HChain.push`) -/
def GChain.push (x : List α) : GChain α → List α
  | .sink inp r _ => r ++ inp.content ++ x
  | .fwd g m inp h _ rest => rest.push (h ++ (takeO m (inp.content ++ x)).flatMap g)

def gsinkStep (inp : Fifo α) (received : List α) (pc : RPc) (n : Nat) : Option (GChain α) :=
  match pc with
  | .run =>
    match inp.read n with
    | (.block, _) => some (.sink inp received .wait)
    | (.data bs, p) =>
      if bs.isEmpty then some (.sink (p.closeFd true false) received .done)
      else some (.sink p (received ++ bs) .run)
  | .wait => if inp.readyR then some (.sink inp received .run) else none
  | .done => none

/-- `tfwdStep` with an optional allowance, which only bounds what a `read` asks for: a stage whose allowance is used
    up asks for 0 bytes, gets `Ok(0)` and exits, which is what `hfwdStep` does with it -/
def gfwdStep (c : Cfg) (g : α → List α) (m : Option Nat) (inp : Fifo α) (hold : List α) (pc : FPc)
    (rest : GChain α) (n k : Nat) : Option (GChain α) :=
  match pc with
  | .rd =>
    match inp.read (rdSize m n) with
    | (.block, _) => some (.fwd g m inp hold .rwait rest)
    | (.data bs, p) =>
      if bs.isEmpty then
        some (.fwd g m (p.closeFd true false) hold .closed (rest.mapInp (·.closeFd false true)))
      else some (.fwd g (m.map (· - bs.length)) p (bs.flatMap g) .wr rest)
  | .rwait => if inp.readyR then some (.fwd g m inp hold .rd rest) else none
  | .wr =>
    if hold.isEmpty then some (.fwd g m inp hold .rd rest)
    else match rest.inp.write c (hold.take k) with
      | (.epipe, _) =>
        some (.fwd g m (inp.closeFd true false) hold .failed (rest.mapInp (·.closeFd false true)))
      | (.block, _) => some (.fwd g m inp hold .wwait rest)
      | (.wrote w, p) =>
        if w = 0 then some (.fwd g m inp hold .wwait (rest.mapInp fun _ => p))
        else some (.fwd g m inp (hold.drop w) .wr (rest.mapInp fun _ => p))
  | .wwait => if rest.inp.readyW c then some (.fwd g m inp hold .wr rest) else none
  | .closed => none
  | .failed => none

def GChain.step (c : Cfg) : GChain α → Nat → Nat → Nat → Option (GChain α)
  | .sink inp r pc, 0, n, _ => gsinkStep inp r pc n
  | .sink _ _ _, _ + 1, _, _ => none
  | .fwd g m inp h pc rest, 0, n, k => gfwdStep c g m inp h pc rest n k
  | .fwd g m inp h pc rest, i + 1, n, k => (rest.step c i n k).map fun r => .fwd g m inp h pc r

theorem GChain.step_sink (c : Cfg) (inp : Fifo α) (r : List α) (pc : RPc) (n k : Nat) :
    (GChain.sink inp r pc).step c 0 n k = gsinkStep inp r pc n := rfl

theorem GChain.step_fwd (c : Cfg) (g : α → List α) (m : Option Nat) (inp : Fifo α) (h : List α) (pc : FPc)
    (rest : GChain α) (n k : Nat) : (GChain.fwd g m inp h pc rest).step c 0 n k = gfwdStep c g m inp h pc rest n k :=
  rfl

theorem GChain.step_fwd_succ (c : Cfg) (g : α → List α) (m : Option Nat) (inp : Fifo α) (h : List α) (pc : FPc)
    (rest : GChain α) (i n k : Nat) :
    (GChain.fwd g m inp h pc rest).step c (i + 1) n k = (rest.step c i n k).map fun r => .fwd g m inp h pc r := rfl

theorem GChain.step_induction {c : Cfg} {n k : Nat} {P : GChain α → Nat → GChain α → Prop}
    (sink : ∀ {inp r pc s'}, gsinkStep inp r pc n = some s' → P (.sink inp r pc) 0 s')
    (head : ∀ {g m inp hold pc rest s'}, gfwdStep c g m inp hold pc rest n k = some s' →
      P (.fwd g m inp hold pc rest) 0 s')
    (lift : ∀ {g m inp hold pc rest j r'}, rest.step c j n k = some r' → P rest j r' →
      P (.fwd g m inp hold pc rest) (j + 1) (.fwd g m inp hold pc r'))
    {s s' : GChain α} {i : Nat} (h : s.step c i n k = some s') : P s i s' := by
  induction s generalizing i s' with
  | sink inp r pc =>
    cases i with
    | zero => exact sink h
    | succ j => cases h
  | fwd g m inp hold pc rest ih =>
    cases i with
    | zero => exact head h
    | succ j =>
      simp only [step_fwd_succ, Option.map_eq_some_iff] at h
      obtain ⟨r', hr', rfl⟩ := h
      exact lift hr' (ih hr')

/-! ### what a step does, case by case -/

inductive GSinkStep (inp : Fifo α) (r : List α) (n : Nat) : RPc → GChain α → Prop
  | block (hn : n ≠ 0) (hc : inp.content = []) (hw : 0 < inp.writers) : GSinkStep inp r n .run (.sink inp r .wait)
  /-- `Ok(0)`: end of file, or a buffer of no bytes -/
  | eof (hz : n = 0 ∨ (inp.content = [] ∧ inp.writers = 0)) :
      GSinkStep inp r n .run (.sink (inp.closeFd true false) r .done)
  | data (hn : n ≠ 0) (hc : inp.content ≠ []) :
      GSinkStep inp r n .run (.sink { inp with content := inp.content.drop n } (r ++ inp.content.take n) .run)
  | resume (hy : inp.readyR = true) : GSinkStep inp r n .wait (.sink inp r .run)

theorem gsinkStep_spec {inp : Fifo α} {r : List α} {pc : RPc} {n : Nat} {s' : GChain α}
    (h : gsinkStep inp r pc n = some s') : GSinkStep inp r n pc s' := by
  cases pc with
  | run =>
    rcases read_cases_any inp n with ⟨hn, hc, hw, e⟩ | ⟨hz, e⟩ | ⟨hn, hc, hne, e⟩
    · simp only [gsinkStep, e, Option.some.injEq] at h
      subst h
      exact .block hn hc hw
    · simp only [gsinkStep, e, List.isEmpty_nil, if_true, Option.some.injEq] at h
      subst h
      exact .eof hz
    · simp only [gsinkStep, e, hne, Bool.false_eq_true, if_false, Option.some.injEq] at h
      subst h
      exact .data hn hc
  | wait =>
    simp only [gsinkStep] at h
    split at h
    next hy => cases h; exact .resume hy
    · cases h
  | done => cases h

inductive GFwdStep (c : Cfg) (g : α → List α) (m : Option Nat) (inp : Fifo α) (hold : List α) (rest : GChain α)
    (n k : Nat) : FPc → GChain α → Prop
  | rblock (hn : rdSize m n ≠ 0) (hc : inp.content = []) (hw : 0 < inp.writers) :
      GFwdStep c g m inp hold rest n k .rd (.fwd g m inp hold .rwait rest)
  /-- the stage exits: end of file, allowance used up (`rdSize (some 0) n = 0`), or a buffer of no bytes -/
  | exit (hz : rdSize m n = 0 ∨ (inp.content = [] ∧ inp.writers = 0)) :
      GFwdStep c g m inp hold rest n k .rd
        (.fwd g m (inp.closeFd true false) hold .closed (rest.mapInp (·.closeFd false true)))
  | data (hn : rdSize m n ≠ 0) (hc : inp.content ≠ []) :
      GFwdStep c g m inp hold rest n k .rd
        (.fwd g (m.map (· - (inp.content.take (rdSize m n)).length))
          { inp with content := inp.content.drop (rdSize m n) } ((inp.content.take (rdSize m n)).flatMap g) .wr rest)
  | rresume (hy : inp.readyR = true) : GFwdStep c g m inp hold rest n k .rwait (.fwd g m inp hold .rd rest)
  | wdone (he : hold = []) : GFwdStep c g m inp hold rest n k .wr (.fwd g m inp hold .rd rest)
  | epipe (he : hold ≠ []) (hr : rest.inp.readers = 0) :
      GFwdStep c g m inp hold rest n k .wr
        (.fwd g m (inp.closeFd true false) hold .failed (rest.mapInp (·.closeFd false true)))
  /-- EAGAIN; for a non-empty request, because the request does not fit -/
  | wblock (he : hold ≠ []) (hr : rest.inp.readers ≠ 0)
      (hb : 1 ≤ k → rest.inp.room c < (hold.take k).length ∧
        (rest.inp.room c = 0 ∨ (hold.take k).length ≤ c.pipeBuf)) :
      GFwdStep c g m inp hold rest n k .wr (.fwd g m inp hold .wwait rest)
  | wrote (w : Nat) (hr : rest.inp.readers ≠ 0) (hw1 : 1 ≤ w) (hwk : w ≤ k) (hw : w ≤ hold.length)
      (hroom : w ≤ rest.inp.room c) :
      GFwdStep c g m inp hold rest n k .wr
        (.fwd g m inp (hold.drop w) .wr
          (rest.mapInp fun _ => { rest.inp with content := rest.inp.content ++ hold.take w }))
  | wresume (hy : rest.inp.readyW c = true) : GFwdStep c g m inp hold rest n k .wwait (.fwd g m inp hold .wr rest)

theorem GChain.mapInp_self (s : GChain α) : (s.mapInp fun _ => s.inp) = s := by
  cases s <;> rfl

theorem gfwdStep_spec {c : Cfg} {g : α → List α} {m : Option Nat} {inp : Fifo α} {hold : List α} {pc : FPc}
    {rest : GChain α} {n k : Nat} {s' : GChain α} (h : gfwdStep c g m inp hold pc rest n k = some s') :
    GFwdStep c g m inp hold rest n k pc s' := by
  cases pc with
  | rd =>
    rcases read_cases_any inp (rdSize m n) with ⟨hn, hc, hw, e⟩ | ⟨hz, e⟩ | ⟨hn, hc, hne, e⟩
    · simp only [gfwdStep, e, Option.some.injEq] at h
      subst h
      exact .rblock hn hc hw
    · simp only [gfwdStep, e, List.isEmpty_nil, if_true, Option.some.injEq] at h
      subst h
      exact .exit hz
    · simp only [gfwdStep, e, hne, Bool.false_eq_true, if_false, Option.some.injEq] at h
      subst h
      exact .data hn hc
  | rwait =>
    simp only [gfwdStep] at h
    split at h
    next hy => cases h; exact .rresume hy
    · cases h
  | wr =>
    simp only [gfwdStep] at h
    split at h
    next he => cases h; exact .wdone (by simpa using he)
    next he =>
      have he' : hold ≠ [] := by simpa using he
      rcases write_take_cases c rest.inp he' k with ⟨hr, e⟩ | ⟨hr, hb, e | e⟩ | ⟨w, hr, h1, h2, h3, h4, e⟩
      · simp only [e, Option.some.injEq] at h
        subst h
        exact .epipe he' hr
      · simp only [e, Option.some.injEq] at h
        subst h
        exact .wblock he' hr hb
      · simp only [e, if_true, Option.some.injEq] at h
        subst h
        rw [GChain.mapInp_self]
        exact .wblock he' hr hb
      · simp only [e, show ¬w = 0 by omega, if_false, Option.some.injEq] at h
        subst h
        exact .wrote w hr h1 h2 h3 h4
  | wwait =>
    simp only [gfwdStep] at h
    split at h
    next hy => cases h; exact .wresume hy
    · cases h
  | closed => cases h
  | failed => cases h

/-! ### when a step is possible -/

/-- a forwarding stage can step: always while it reads or writes; while it waits, when the pipe it waits for is
    ready (`rdy`: its input for reading, `wdy`: its output for writing) -/
def FPc.enabled (pc : FPc) (rdy wdy : Bool) : Bool :=
  match pc with | .rd | .wr => true | .rwait => rdy | .wwait => wdy | .closed | .failed => false

theorem gsinkStep_isSome (inp : Fifo α) (r : List α) (pc : RPc) (n : Nat) :
    (gsinkStep inp r pc n : Option (GChain α)).isSome = pc.enabled inp.readyR := by
  cases pc with
  | run =>
    simp only [gsinkStep]
    rcases inp.read n with ⟨_ | bs, p⟩
    · rfl
    · simp only; split <;> rfl
  | wait => simp only [gsinkStep, RPc.enabled]; cases inp.readyR <;> rfl
  | done => rfl

theorem gfwdStep_isSome (c : Cfg) (g : α → List α) (m : Option Nat) (inp : Fifo α) (hold : List α) (pc : FPc)
    (rest : GChain α) (n k : Nat) :
    (gfwdStep c g m inp hold pc rest n k).isSome = pc.enabled inp.readyR (rest.inp.readyW c) := by
  cases pc with
  | rd =>
    simp only [gfwdStep]
    rcases inp.read (rdSize m n) with ⟨_ | bs, p⟩
    · rfl
    · simp only; split <;> rfl
  | rwait => simp only [gfwdStep, FPc.enabled]; cases inp.readyR <;> rfl
  | wr =>
    simp only [gfwdStep]
    split
    · rfl
    · rcases rest.inp.write c (hold.take k) with ⟨_ | _ | w, p⟩
      · rfl
      · rfl
      · simp only; split <;> rfl
  | wwait => simp only [gfwdStep, FPc.enabled]; cases rest.inp.readyW c <;> rfl
  | closed => rfl
  | failed => rfl

/-- the first process can step -/
def GChain.enabled (c : Cfg) : GChain α → Bool
  | .sink inp _ pc => pc.enabled inp.readyR
  | .fwd _ _ inp _ pc rest => pc.enabled inp.readyR (rest.inp.readyW c)

theorem GChain.step_zero_isSome (c : Cfg) (s : GChain α) (n k : Nat) : (s.step c 0 n k).isSome = s.enabled c := by
  cases s with
  | sink inp r pc => exact gsinkStep_isSome inp r pc n
  | fwd g m inp h pc rest => exact gfwdStep_isSome c g m inp h pc rest n k

end YashModel.Pipe
