/-
  C14 — File.lean: successive reads of a regular file; the `read` built-in on a raw line of complete characters
  (every encoded character is one: `readCharBytes_utf8`); short reads: collecting `need` bytes takes exactly the
  next `need` (`gatherF_spec`), so a character read in chunks is the character (`readCharChunked_eq`).
-/
import YashModel.Pipe.File
namespace YashModel.Pipe

theorem take_add_min {α : Type} (l : List α) (n s : Nat) :
    l.take n ++ (l.drop (min n l.length)).take s = l.take (n + s) := by
  by_cases h : n ≤ l.length
  · rw [Nat.min_eq_left h, List.take_add]
  · have h' : l.length ≤ n := by omega
    rw [Nat.min_eq_right h', List.drop_length, List.take_nil, List.append_nil,
      List.take_of_length_le h', List.take_of_length_le (by omega)]

theorem reads_spec (o : RegOfd) (ns : List Nat) :
    (o.reads ns).1 = (o.content.drop o.offset).take ns.sum ∧
    (o.reads ns).2 = { o with offset := o.offset + ((o.content.drop o.offset).take ns.sum).length } := by
  induction ns generalizing o with
  | nil => simp [RegOfd.reads]
  | cons n ns ih =>
    have h := ih (o.read n).2
    simp only [RegOfd.reads, List.sum_cons]
    rw [h.1, h.2]
    simp only [RegOfd.read, List.length_take, List.length_drop, ← List.drop_drop]
    have key := take_add_min (o.content.drop o.offset) n ns.sum
    simp only [List.length_drop] at key
    constructor
    · exact key
    · congr 1
      have := congrArg List.length key
      simp only [List.length_append, List.length_take, List.length_drop] at this
      omega

theorem utf8_length_ge (cs : List Char) : cs.length ≤ (utf8 cs).length := by
  induction cs with
  | nil => simp [utf8]
  | cons c t ih =>
    have := Char.utf8Size_pos c
    simp only [utf8, List.flatMap_cons, List.length_append, String.length_utf8EncodeChar, List.length_cons] at ih ⊢
    omega

theorem utf8_length_gt (cs : List Char) (h : ∃ c ∈ cs, 2 ≤ c.utf8Size) : cs.length < (utf8 cs).length := by
  induction cs with
  | nil => simp at h
  | cons c t ih =>
    simp only [utf8, List.flatMap_cons, List.length_append, String.length_utf8EncodeChar, List.length_cons]
    obtain ⟨x, hx, h2⟩ := h
    cases hx with
    | head =>
      have := utf8_length_ge t
      simp only [utf8] at this
      omega
    | tail _ hm =>
      have := ih ⟨x, hm, h2⟩
      have := Char.utf8Size_pos c
      simp only [utf8] at *
      omega

theorem utf8_length_ascii (cs : List Char) (h : ∀ c ∈ cs, c.utf8Size = 1) : (utf8 cs).length = cs.length := by
  induction cs with
  | nil => simp [utf8]
  | cons c t ih =>
    have h1 := h c List.mem_cons_self
    have := ih (fun x hx => h x (List.mem_cons_of_mem c hx))
    simp only [utf8, List.flatMap_cons, List.length_append, String.length_utf8EncodeChar, List.length_cons] at this ⊢
    omega

theorem readCharBytes_ascii (b : UInt8) (rest : List UInt8) (h : b < 0x80) :
    readCharBytes b rest = some ([b], rest) := by
  simp [readCharBytes, utf8SeqLen, h]

theorem readLine_raw_flatMap {ι : Type} (f : ι → List UInt8) (xs : List ι) (rest acc : List UInt8)
    (h : ∀ x ∈ xs, f x ≠ [10] ∧ ∃ b tl, f x = b :: tl ∧ ∀ r, readCharBytes b (tl ++ r) = some (b :: tl, r))
    (fuel : Nat) (hf : xs.length < fuel) :
    readLine true fuel (xs.flatMap f ++ 10 :: rest) acc = .line (acc ++ xs.flatMap f) true rest := by
  induction xs generalizing fuel acc with
  | nil =>
    cases fuel with
    | zero => simp at hf
    | succ n => simp [readLine, readCharBytes_ascii 10 rest (by decide)]
  | cons x t ih =>
    cases fuel with
    | zero => simp at hf
    | succ n =>
      obtain ⟨hne, b, tl, he, hr⟩ := h x List.mem_cons_self
      rw [he] at hne
      simp only [List.flatMap_cons, he, List.cons_append, List.append_assoc, readLine, hr]
      simp only [hne, if_false, Bool.not_true, Bool.false_eq_true, and_false]
      rw [ih (acc ++ b :: tl) (fun y hy => h y (List.mem_cons_of_mem x hy)) n (by simp at hf; omega)]
      simp

theorem gatherF_spec (fuel need : Nat) (input : List UInt8) (sh : List Nat) (h : need ≤ fuel) :
    (gatherF fuel need input sh).1 = input.take need ∧ (gatherF fuel need input sh).2.1 = input.drop need := by
  induction fuel generalizing need input sh with
  | zero =>
    have : need = 0 := by omega
    subst this
    simp [gatherF]
  | succ f ih =>
    cases need with
    | zero => simp [gatherF]
    | succ n =>
      cases input with
      | nil => simp [gatherF]
      | cons a t =>
        simp only [gatherF]
        have hc1 : 1 ≤ min (n + 1) (max 1 (sh.headD 1)) := by omega
        have hc2 : min (n + 1) (max 1 (sh.headD 1)) ≤ n + 1 := by omega
        generalize min (n + 1) (max 1 (sh.headD 1)) = c at hc1 hc2
        have := ih (n + 1 - c) ((a :: t).drop c) sh.tail (by omega)
        refine ⟨?_, ?_⟩
        · rw [this.1]
          have e : n + 1 = c + (n + 1 - c) := by omega
          conv => rhs; rw [e, List.take_add]
        · rw [this.2, List.drop_drop]
          congr 1
          omega

theorem readCharChunked_eq (b : UInt8) (rest : List UInt8) (sh : List Nat) :
    (readCharChunked b rest sh).1 = readCharBytes b rest := by
  unfold readCharChunked readCharBytes gather
  have h := gatherF_spec (utf8SeqLen b - 1) (utf8SeqLen b - 1) rest sh (Nat.le_refl _)
  by_cases hk : utf8SeqLen b = 0
  · simp [hk]
  · simp only [hk, if_false]
    rw [← h.1, ← h.2]
    split <;> rfl

theorem u8_lt_lit (n k : Nat) (hn : n < 256) (hk : k < 256) : (UInt8.ofNat n < UInt8.ofNat k) ↔ n < k := by
  rw [UInt8.lt_iff_toNat_lt]
  simp [Nat.mod_eq_of_lt hn, Nat.mod_eq_of_lt hk]

theorem u8_le_lit (n k : Nat) (hn : n < 256) (hk : k < 256) : (UInt8.ofNat k ≤ UInt8.ofNat n) ↔ k ≤ n := by
  rw [UInt8.le_iff_toNat_le]
  simp [Nat.mod_eq_of_lt hn, Nat.mod_eq_of_lt hk]

theorem utf8SeqLen_ofNat (n : Nat) (hn : n < 256) :
    utf8SeqLen (UInt8.ofNat n) =
      if n < 128 then 1 else if n < 194 then 0 else if n < 224 then 2 else if n < 240 then 3 else if n < 245 then 4 else 0 := by
  unfold utf8SeqLen
  have e1 := u8_lt_lit n 0x80 hn (by omega)
  have e2 := u8_lt_lit n 0xC2 hn (by omega)
  have e3 := u8_lt_lit n 0xE0 hn (by omega)
  have e4 := u8_lt_lit n 0xF0 hn (by omega)
  have e5 := u8_lt_lit n 0xF5 hn (by omega)
  rw [show (0x80 : UInt8) = UInt8.ofNat 0x80 from rfl, show (0xC2 : UInt8) = UInt8.ofNat 0xC2 from rfl,
    show (0xE0 : UInt8) = UInt8.ofNat 0xE0 from rfl, show (0xF0 : UInt8) = UInt8.ofNat 0xF0 from rfl,
    show (0xF5 : UInt8) = UInt8.ofNat 0xF5 from rfl]
  simp only [e1, e2, e3, e4, e5]

theorem cont_mod64 (x : Nat) :
    ((0x80 : UInt8) ≤ UInt8.ofNat (x % 64 + 128) && UInt8.ofNat (x % 64 + 128) < (0xC0 : UInt8)) = true := by
  have e1 := u8_le_lit (x % 64 + 128) 0x80 (by omega) (by omega)
  have e2 := u8_lt_lit (x % 64 + 128) 0xC0 (by omega) (by omega)
  rw [show (0x80 : UInt8) = UInt8.ofNat 0x80 from rfl, show (0xC0 : UInt8) = UInt8.ofNat 0xC0 from rfl]
  simp only [e1, e2, Bool.and_eq_true, decide_eq_true_eq]
  omega

/-- a lead byte followed by exactly the continuation bytes it announces is one character -/
theorem readCharBytes_cont (b : UInt8) (tail rest : List UInt8) (hk : utf8SeqLen b = tail.length + 1)
    (hc : tail.all (fun c => 0x80 ≤ c && c < 0xC0) = true) :
    readCharBytes b (tail ++ rest) = some (b :: tail, rest) := by
  simp only [readCharBytes, hk, Nat.add_sub_cancel, List.take_left, List.drop_left, hc, and_self, if_true,
    Nat.add_one_ne_zero, if_false]

theorem readCharBytes_utf8 (c : Char) :
    ∃ b t, String.utf8EncodeChar c = b :: t ∧ ∀ rest, readCharBytes b (t ++ rest) = some (b :: t, rest) := by
  have hv : c.val.toNat < 0x110000 := by
    rcases c.valid with h | h
    · have : c.val.toNat < 0xd800 := h
      omega
    · exact h.2
  unfold String.utf8EncodeChar
  simp only
  generalize c.val.toNat = v at hv
  split
  · exact ⟨_, _, rfl, fun rest => readCharBytes_cont _ [] rest
      (by rw [utf8SeqLen_ofNat _ (by omega), if_pos (by omega)]; rfl) rfl⟩
  · split
    · exact ⟨_, _, rfl, fun rest => readCharBytes_cont _ [_] rest
        (by rw [utf8SeqLen_ofNat _ (by omega), if_neg (by omega), if_neg (by omega), if_pos (by omega)]; rfl)
        (by simp only [List.all_cons, List.all_nil, cont_mod64, Bool.and_self])⟩
    · split
      · exact ⟨_, _, rfl, fun rest => readCharBytes_cont _ [_, _] rest
          (by rw [utf8SeqLen_ofNat _ (by omega), if_neg (by omega), if_neg (by omega), if_neg (by omega),
                if_pos (by omega)]; rfl)
          (by simp only [List.all_cons, List.all_nil, cont_mod64, Bool.and_self])⟩
      · exact ⟨_, _, rfl, fun rest => readCharBytes_cont _ [_, _, _] rest
          (by rw [utf8SeqLen_ofNat _ (by omega), if_neg (by omega), if_neg (by omega), if_neg (by omega),
                if_neg (by omega), if_pos (by omega)]; rfl)
          (by simp only [List.all_cons, List.all_nil, cont_mod64, Bool.and_self])⟩

theorem utf8Encode_eq_nl (c : Char) (h : String.utf8EncodeChar c = [10]) : c = '\n' := by
  unfold String.utf8EncodeChar at h
  simp only at h
  split at h
  · rename_i h1
    simp only [List.cons.injEq, and_true] at h
    have : (UInt8.ofNat c.val.toNat).toNat = (10 : UInt8).toNat := by rw [h]
    simp only [UInt8.toNat_ofNat'] at this
    have hv : c.val.toNat = 10 := by
      have : c.val.toNat % 256 = 10 := by simpa using this
      omega
    apply Char.ext
    apply UInt32.toNat_inj.mp
    simpa using hv
  · split at h
    · simp at h
    · split at h <;> simp at h

end YashModel.Pipe
