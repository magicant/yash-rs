/-
  C14 — termination of the concurrent n-stage chain (Chain.lean): `Chain.measure` is the measure of
  GChainMeasure.lean, which every step of every process strictly lowers (`Chain.step_drop`); `CExec` (runs of exactly
  n steps) is what `chain_terminates` bounds.
-/
import YashModel.Pipe.ChainLemmas
import YashModel.Pipe.GChainMeasure
namespace YashModel.Pipe
open YashModel.Run

variable {α : Type}

/-- `GChain.wt` in the model's terms (`toG_wt`) -/
def Chain.wt : Chain α → Nat
  | .sink _ _ _ => 3
  | .fwd _ _ _ rest => rest.wt + 7

/-- `GChain.cost` in the model's terms -/
def Chain.cost (c : Cfg) : Chain α → Nat
  | .sink inp _ pc => rcostOf pc inp.readyR
  | .fwd inp hold pc rest =>
      fcost pc inp.readyR (rest.inp.readyW c) + (rest.wt + 3) * hold.length +
        rest.wt * rest.inp.content.length + rest.cost c

/-- `GChain.measure` in the model's terms (`toG_measure`): what `chain_progress` and `chain_terminates` speak of -/
def Chain.measure (c : Cfg) (s : Chain α) : Nat := s.wt * s.inp.content.length + s.cost c

theorem Chain.wt_sink (inp : Fifo α) (r : List α) (pc : RPc) : (Chain.sink inp r pc).wt = 3 := rfl
theorem Chain.wt_fwd (inp : Fifo α) (h : List α) (pc : FPc) (rest : Chain α) :
    (Chain.fwd inp h pc rest).wt = rest.wt + 7 := rfl
theorem Chain.cost_sink (c : Cfg) (inp : Fifo α) (r : List α) (pc : RPc) :
    (Chain.sink inp r pc).cost c = rcostOf pc inp.readyR := rfl
theorem Chain.cost_fwd (c : Cfg) (inp : Fifo α) (h : List α) (pc : FPc) (rest : Chain α) :
    (Chain.fwd inp h pc rest).cost c = fcost pc inp.readyR (rest.inp.readyW c) + (rest.wt + 3) * h.length +
        rest.wt * rest.inp.content.length + rest.cost c := rfl

theorem Chain.toG_wt (s : Chain α) : s.toG.wt = s.wt := by
  induction s with
  | sink => rfl
  | fwd inp h pc rest ih => simp only [Chain.toG_fwd, GChain.wt, Chain.wt, ih]

theorem Chain.toG_measure (c : Cfg) (s : Chain α) : s.toG.measure c = s.measure c := by
  have hc : s.toG.cost c = s.cost c := by
    induction s with
    | sink => rfl
    | fwd inp h pc rest ih =>
      simp only [Chain.toG_fwd, GChain.cost, Chain.cost, ih, Chain.toG_wt, Chain.toG_inp]
  simp only [GChain.measure, Chain.measure, hc, Chain.toG_wt, Chain.toG_inp]

theorem Chain.toG_thin (s : Chain α) : s.toG.Thin := by
  induction s with
  | sink => trivial
  | fwd inp h pc rest ih => exact ⟨fun _ => Nat.le_refl 1, ih⟩

theorem Chain.step_drop {c : Cfg} (hv : c.Valid) {s s' : Chain α} {i n k : Nat} (hk : 1 ≤ k)
    (h : s.step c i n k = some s') : s'.measure c < s.measure c := by
  have := (GChain.step_drop hv hk (Chain.toG_thin s) (Chain.toG_step_some h)).2.1
  rw [Chain.toG_measure, Chain.toG_measure] at this
  omega

theorem Chain.idle_wt (m : Nat) : (Chain.idle m : Chain α).wt = 7 * m + 3 := by
  induction m with
  | zero => rfl
  | succ m ih => simp only [Chain.idle, Chain.wt, ih]; omega

theorem Chain.idle_cost (c : Cfg) (m : Nat) : (Chain.idle m : Chain α).cost c = 5 * m + 3 := by
  induction m with
  | zero => simp [Chain.idle, Chain.cost, rcostOf]
  | succ m ih => simp only [Chain.idle, Chain.cost, fcost, ih, Chain.idle_inp, List.length_nil, Nat.mul_zero]; omega

theorem Chain.init_measure (c : Cfg) (m : Nat) (pre post : List α) :
    (Chain.init m pre post).measure c =
      (7 * m + 10) * post.length + (7 * m + 6) * pre.length + 5 * m + 9 := by
  simp only [Chain.init, Chain.measure, Chain.cost_fwd, Chain.wt_fwd, Chain.inp_fwd, fcost, Chain.idle_wt,
    Chain.idle_cost, Chain.idle_inp, List.length_nil, Nat.mul_zero]
  rw [show 7 * m + 3 + 7 = 7 * m + 10 by omega, show 7 * m + 3 + 3 = 7 * m + 6 by omega]
  omega

/-- executions of the chain: `n` steps, any process and any sizes ≥ 1 at each -/
inductive CExec (c : Cfg) : Chain α → Nat → Chain α → Prop
  | refl (s : Chain α) : CExec c s 0 s
  | step {s s' s'' : Chain α} {n : Nat} (i nn k : Nat) :
      1 ≤ nn → 1 ≤ k → s.step c i nn k = some s' → CExec c s' n s'' → CExec c s (n + 1) s''

theorem CExec.bound {c : Cfg} (hv : c.Valid) {s0 s1 : Chain α} {n : Nat}
    (he : CExec c s0 n s1) : n + s1.measure c ≤ s0.measure c := by
  induction he with
  | refl => omega
  | step i nn k hn hk hs _ ih =>
    have h1 := Chain.step_drop hv hk hs
    omega

theorem chainRun_stops {c : Cfg} (hv : c.Valid) {m : Nat} {pre post : List α} {n k : Nat} (hn : 1 ≤ n) (hk : 1 ≤ k)
    (fuel x : Nat) (s : Chain α) (hr : CReach c m pre post s) (hf : s.measure c ≤ fuel) :
    CReach c m pre post (chainRun c n k fuel x s) ∧
      ∀ j, j < m + 2 → (chainRun c n k fuel x s).step c j n k = none := by
  obtain ⟨hr', hstop⟩ := (chainRun_loop c n k).stops_noMove (I := CReach c m pre post) (Chain.measure c)
    (fun hr ⟨i, hs⟩ => CReach.step i n k hr hn hk hs) (fun _ ⟨_, hs⟩ => Chain.step_drop hv hk hs)
    (fun _ h j _ => Option.eq_none_iff_forall_ne_some.2 fun t hs => h t ⟨j, hs⟩) fuel x s hr hf
  exact ⟨hr', fun j hj => hstop j (by rw [hr'.inv.2.2.2]; exact hj)⟩

theorem chain_fuel_enough (m L : Nat) :
    (7 * m + 6) * L + 5 * m + 9 ≤ (m + 2) * (12 * L + 200) := by
  have e1 : (7 * m + 6) * L = 7 * (m * L) + 6 * L := by rw [Nat.add_mul, Nat.mul_assoc]
  have e2 : (m + 2) * (12 * L + 200) = 12 * (m * L) + m * 200 + (2 * (12 * L) + 2 * 200) := by
    rw [Nat.add_mul, Nat.mul_add, Nat.mul_add, Nat.mul_left_comm m 12 L]
  rw [e1, e2]
  omega

end YashModel.Pipe
