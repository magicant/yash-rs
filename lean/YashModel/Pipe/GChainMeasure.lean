/-
  C14 — termination, for every chain whose stages emit at most one byte per byte read (`GChain.Thin`: `cat`, a
  per-byte filter, a stage that drops bytes; allowances are welcome): a position-weighted byte count plus
  readiness-dependent process costs (`GChain.measure`) that every step of every process strictly lowers
  (`GChain.step_drop`).  `Chain.measure` of ChainMeasure.lean is this measure.
-/
import YashModel.Pipe.GChainLemmas
namespace YashModel.Pipe

variable {α : Type}

/-- Cost of a forwarding stage by its state, the readiness of its input for reading and of its output for writing.
    Read → write → read costs 5 → 6 → 5 and is paid by the bytes moved (≥ 3 + 1 each way, see `wt`); a stage that
    waits costs 1 more than the running state it will resume into if its pipe is ready and 1 less than the one it
    left if it is not, so suspending (on an unready pipe) and resuming (on a ready one) each lower the cost by 1; a
    neighbour's step can flip one readiness: at most +2 (`fcost_shiftR`, `fcost_shiftW`), which that step's own
    drop of ≥ 3 pays (`Drop`). -/
def fcost : FPc → Bool → Bool → Nat
  | .rd, _, _ => 5
  | .rwait, true, _ => 6
  | .rwait, false, _ => 4
  | .wr, _, _ => 6
  | .wwait, _, true => 7
  | .wwait, _, false => 5
  | .closed, _, _ => 0
  | .failed, _, _ => 0

theorem fcost_shiftR (pc : FPc) (a a' b : Bool) : fcost pc a' b ≤ fcost pc a b + 2 := by
  cases pc <;> cases a <;> cases a' <;> cases b <;> decide

theorem fcost_shiftW (pc : FPc) (a b b' : Bool) : fcost pc a b' ≤ fcost pc a b + 2 := by
  cases pc <;> cases a <;> cases b <;> cases b' <;> decide

theorem length_flatMap_le {g : α → List α} (hg : ∀ b, (g b).length ≤ 1) (l : List α) :
    (l.flatMap g).length ≤ l.length := by
  induction l with
  | nil => simp
  | cons a t ih =>
    have := hg a
    simp only [List.flatMap_cons, List.length_append, List.length_cons]
    omega

namespace GChain

/-- weight of one byte in the input pipe of the first process of the chain: 3 in front of the sink, 7 more per
    forwarding stage (4 to reach `hold`, 3 to reach the next pipe) -/
def wt : GChain α → Nat
  | .sink _ _ _ => 3
  | .fwd _ _ _ _ _ rest => rest.wt + 7

/-- everything but the bytes of the first input pipe -/
def cost (c : Cfg) : GChain α → Nat
  | .sink inp _ pc => rcostOf pc inp.readyR
  | .fwd _ _ inp hold pc rest =>
      fcost pc inp.readyR (rest.inp.readyW c) + (rest.wt + 3) * hold.length +
        rest.wt * rest.inp.content.length + rest.cost c

def measure (c : Cfg) (s : GChain α) : Nat := s.wt * s.inp.content.length + s.cost c

def Thin : GChain α → Prop
  | .sink _ _ _ => True
  | .fwd g _ _ _ _ rest => (∀ b, (g b).length ≤ 1) ∧ rest.Thin

theorem wt_sink (inp : Fifo α) (r : List α) (pc : RPc) : (sink inp r pc).wt = 3 := rfl
theorem wt_fwd (g : α → List α) (m : Option Nat) (inp : Fifo α) (h : List α) (pc : FPc) (rest : GChain α) :
    (fwd g m inp h pc rest).wt = rest.wt + 7 := rfl
theorem measure_sink (c : Cfg) (inp : Fifo α) (r : List α) (pc : RPc) :
    (sink inp r pc).measure c = 3 * inp.content.length + rcostOf pc inp.readyR := rfl
theorem measure_fwd (c : Cfg) (g : α → List α) (m : Option Nat) (inp : Fifo α) (h : List α) (pc : FPc)
    (rest : GChain α) :
    (fwd g m inp h pc rest).measure c = (rest.wt + 7) * inp.content.length + (fcost pc inp.readyR (rest.inp.readyW c) +
      (rest.wt + 3) * h.length + rest.wt * rest.inp.content.length + rest.cost c) := rfl

theorem mapInp_wt (s : GChain α) (f : Fifo α → Fifo α) : (s.mapInp f).wt = s.wt := by
  cases s <;> rfl

theorem mapInp_cost (c : Cfg) (s : GChain α) (f : Fifo α → Fifo α) :
    (s.mapInp f).cost c ≤ s.cost c + 2 := by
  cases s with
  | sink inp r pc =>
    have := rcostOf_shift pc inp.readyR (f inp).readyR
    simpa [mapInp, cost] using this
  | fwd g m inp hold pc rest =>
    have := fcost_shiftR pc inp.readyR (f inp).readyR (rest.inp.readyW c)
    simp only [mapInp, cost]
    omega

/-- what a step guarantees to the process on its left: the measure drops, and by at least 3 when the first
    input pipe's readiness for writing may have changed -/
def Drop (c : Cfg) (s s' : GChain α) : Prop :=
  s'.wt = s.wt ∧ s'.measure c + 1 ≤ s.measure c ∧
    (s'.inp.readyW c = s.inp.readyW c ∨ s'.measure c + 3 ≤ s.measure c)

theorem Drop.of_three {c : Cfg} {s s' : GChain α} (hw : s'.wt = s.wt) (h : s'.measure c + 3 ≤ s.measure c) :
    Drop c s s' :=
  ⟨hw, by omega, Or.inr h⟩

end GChain

open GChain in
theorem gsinkStep_drop {c : Cfg} {inp : Fifo α} {r : List α} {pc : RPc} {n : Nat} {s' : GChain α}
    (h : gsinkStep inp r pc n = some s') : Drop c (.sink inp r pc) s' := by
  cases gsinkStep_spec h with
  | block hn hc hw =>
    refine ⟨rfl, ?_, Or.inl rfl⟩
    simp [measure_sink, not_readyR_of_block hc hw, rcostOf]
  | eof =>
    refine Drop.of_three rfl ?_
    simp only [measure_sink, rcostOf, Fifo.closeFd]
    omega
  | data hn hc =>
    refine Drop.of_three rfl ?_
    have := List.length_pos_iff.mpr hc
    simp only [measure_sink, rcostOf, List.length_drop]
    omega
  | resume hy =>
    refine ⟨rfl, ?_, Or.inl rfl⟩
    simp [measure_sink, hy, rcostOf]

open GChain in
theorem gfwdStep_drop {c : Cfg} (hv : c.Valid) {g : α → List α} {m : Option Nat} {inp : Fifo α} {hold : List α}
    {pc : FPc} {rest : GChain α} {n k : Nat} {s' : GChain α} (hk : 1 ≤ k) (hg : ∀ b, (g b).length ≤ 1)
    (h : gfwdStep c g m inp hold pc rest n k = some s') : Drop c (.fwd g m inp hold pc rest) s' := by
  -- closing the pipe to the right costs its reader at most 2
  have hclose : ∀ r', r' = rest.mapInp (·.closeFd false true) →
      r'.cost c ≤ rest.cost c + 2 ∧ r'.wt = rest.wt ∧ r'.inp.content = rest.inp.content := fun r' e => by
    subst e
    exact ⟨mapInp_cost c rest _, mapInp_wt rest _, by rw [mapInp_inp]; rfl⟩
  cases gfwdStep_spec h with
  | rblock hn hc hw =>
    refine ⟨rfl, ?_, Or.inl rfl⟩
    simp only [measure_fwd, not_readyR_of_block hc hw, fcost]
    omega
  | exit =>
    obtain ⟨hcost, hwt, hinp⟩ := hclose _ rfl
    generalize rest.mapInp (·.closeFd false true) = r' at hcost hwt hinp ⊢
    refine Drop.of_three (by simp [wt_fwd, hwt]) ?_
    simp only [measure_fwd, hwt, hinp, Fifo.closeFd, fcost]
    have := Nat.zero_le ((rest.wt + 7) * inp.content.length)
    omega
  | data hn hc =>
    -- the bytes taken weigh 7 more each in the pipe than the at most as many bytes they become in the stage's hand
    have hbl : 1 ≤ (inp.content.take (rdSize m n)).length := by
      have := List.length_pos_iff.mpr hc
      rw [List.length_take]
      omega
    have hpl : inp.content.length =
        (inp.content.drop (rdSize m n)).length + (inp.content.take (rdSize m n)).length := by
      rw [List.length_take, List.length_drop]
      omega
    have hfl := Nat.mul_le_mul_left (rest.wt + 3) (length_flatMap_le hg (inp.content.take (rdSize m n)))
    refine Drop.of_three rfl ?_
    simp only [measure_fwd, fcost, hpl, Nat.mul_add, Nat.add_mul] at hfl ⊢
    omega
  | rresume hy =>
    refine ⟨rfl, ?_, Or.inl rfl⟩
    simp only [measure_fwd, hy, fcost]
    omega
  | wdone he =>
    refine ⟨rfl, ?_, Or.inl rfl⟩
    simp only [measure_fwd, fcost]
    omega
  | epipe =>
    obtain ⟨hcost, hwt, hinp⟩ := hclose _ rfl
    generalize rest.mapInp (·.closeFd false true) = r' at hcost hwt hinp ⊢
    refine Drop.of_three (by simp [wt_fwd, hwt]) ?_
    simp only [measure_fwd, hwt, hinp, Fifo.closeFd, fcost]
    omega
  | wblock he hr hb =>
    refine ⟨rfl, ?_, Or.inl rfl⟩
    simp only [measure_fwd, not_readyW_of_block hv.1 hr (hb hk).1 (hb hk).2, fcost]
    omega
  | wrote w hr hw1 hwk hw hroom =>
    have hcost := mapInp_cost c rest (fun _ => { rest.inp with content := rest.inp.content ++ hold.take w })
    have hwt := mapInp_wt rest (fun _ => { rest.inp with content := rest.inp.content ++ hold.take w })
    have hinp := mapInp_inp rest (fun _ => { rest.inp with content := rest.inp.content ++ hold.take w })
    have hhl : hold.length = (hold.drop w).length + w := by
      rw [List.length_drop]
      omega
    refine ⟨by simp [wt_fwd, hwt], ?_, Or.inl rfl⟩
    simp only [measure_fwd, fcost, hwt, hinp, List.length_append,
      List.length_take, Nat.min_eq_left hw] at hcost ⊢
    rw [hhl]
    simp only [Nat.mul_add, Nat.add_mul]
    omega
  | wresume hy =>
    refine ⟨rfl, ?_, Or.inl rfl⟩
    simp only [measure_fwd, hy, fcost]
    omega

namespace GChain

/-- ★ every step of every process strictly lowers the measure, in every state of a chain whose stages do not expand
    their input -/
theorem step_drop {c : Cfg} (hv : c.Valid) {s s' : GChain α} {i n k : Nat} (hk : 1 ≤ k) (ht : s.Thin)
    (h : s.step c i n k = some s') : Drop c s s' := by
  refine step_induction (P := fun s _ s' => s.Thin → Drop c s s')
    (fun h _ => gsinkStep_drop h) (fun h ht => gfwdStep_drop hv hk ht.1 h)
    (fun {g m inp hold pc rest j r'} _ ih ht => ?_) h ht
  -- a step inside `rest` may flip the readiness of this stage's output: at most 2, which `Drop` of `rest` pays
  obtain ⟨hwt, hm, hor⟩ := ih ht.2
  have hsh := fcost_shiftW pc inp.readyR (rest.inp.readyW c) (r'.inp.readyW c)
  refine ⟨by simp [wt_fwd, hwt], ?_, Or.inl rfl⟩
  simp only [GChain.measure, hwt] at hm hor
  simp only [measure_fwd, hwt]
  rcases hor with hsame | h3
  · rw [hsame]
    omega
  · omega

end GChain

end YashModel.Pipe
