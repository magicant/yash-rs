/-
  C14 ∘ C18 — the two transcriptions of `yash-builtin/src/read/input.rs` agree: on ASCII input the reader of
  Pipe/File.lean (`readLine`, look-ahead after a backslash) and the reader of Input/Model.lean (`readLineGo`, escape
  flag, incremental UTF-8 check) find the same newline and leave the same bytes (`read_agree_aux`).
-/
import YashModel.Pipe.FileLemmas
import YashModel.Input.Utf8
namespace YashModel.Pipe

/-- status and rest of C14's reader -/
def convP : ReadLine → Option (Bool × List UInt8)
  | .line _ nl rest => some (nl, rest)
  | .eilseq => none

/-- status and rest of C18's reader -/
def convIn (r : List Input.AChar × Input.RStat × List UInt8) : Option (Bool × List UInt8) :=
  match r.2.1 with
  | .found => some (true, r.2.2)
  | .eof => some (false, r.2.2)
  | .err => none

/-- C14's reader just after an unquoted backslash (the look-ahead inside `readLine`) -/
def readEsc (raw : Bool) (fuel : Nat) (input acc : List UInt8) : ReadLine :=
  match input with
  | [] => .line acc false []
  | b2 :: rest2 =>
    match readCharBytes b2 rest2 with
    | none => .eilseq
    | some (ch2, rest3) =>
      if ch2 = [10] then readLine raw fuel rest3 acc else readLine raw fuel rest3 (acc ++ ch2)

theorem u8_eq_iff (b : UInt8) (n : Nat) (hn : n < 256) : b.toNat = n ↔ b = UInt8.ofNat n := by
  constructor
  · intro h
    apply UInt8.toNat_inj.mp
    simp [h, Nat.mod_eq_of_lt hn]
  · intro h
    subst h
    simp [Nat.mod_eq_of_lt hn]

theorem read_agree_aux (raw : Bool) (input : List UInt8) (h : ∀ b ∈ input, b < 0x80) :
    (∀ fuel acc acc', input.length + 1 ≤ fuel →
      convP (readLine raw fuel input acc) = convIn (Input.readLineGo 10 raw false [] input acc')) ∧
    (∀ fuel acc acc', input.length + 1 ≤ fuel →
      convP (readEsc raw fuel input acc) = convIn (Input.readLineGo 10 raw true [] input acc')) := by
  induction input with
  | nil =>
    refine ⟨fun fuel acc acc' hf => ?_, fun fuel acc acc' hf => ?_⟩
    · cases fuel with
      | zero => omega
      | succ f => simp [readLine, Input.readLineGo, convP, convIn]
    · simp [readEsc, Input.readLineGo, convP, convIn]
  | cons b t ih =>
    have hb : b < 0x80 := h b List.mem_cons_self
    obtain ⟨ihA, ihB⟩ := ih fun x hx => h x (List.mem_cons_of_mem _ hx)
    have hbn : b.toNat < 0x80 := by simpa [UInt8.lt_iff_toNat_lt] using hb
    have e10 : (b.toNat = 10) ↔ (b = 10) := u8_eq_iff b 10 (by omega)
    have e92 : (b.toNat = 92) ↔ (b = 92) := u8_eq_iff b 92 (by omega)
    refine ⟨fun fuel acc acc' hf => ?_, fun fuel acc acc' hf => ?_⟩
    · cases fuel with
      | zero => omega
      | succ f =>
        have hf' : t.length + 1 ≤ f := by simpa using hf
        rw [readLine, readCharBytes_ascii b _ hb, Input.readLineGo, List.nil_append, Input.utf8Check_ascii hbn]
        simp only [Bool.false_eq_true, if_false, List.cons.injEq, and_true]
        by_cases h10 : b = 10
        · simp [h10, convP, convIn]
        · have h10' : ¬ b.toNat = 10 := fun e => h10 (e10.mp e)
          simp only [h10, h10', if_false]
          by_cases hbs : b = 92 ∧ (!raw) = true
          · have hbs' : b.toNat = 92 ∧ (!raw) = true := ⟨e92.mpr hbs.1, hbs.2⟩
            rw [if_pos hbs, if_pos hbs']
            have := ihB f acc acc' hf'
            unfold readEsc at this
            exact this
          · have hbs' : ¬ (b.toNat = 92 ∧ (!raw) = true) := fun e => hbs ⟨e92.mp e.1, e.2⟩
            rw [if_neg hbs, if_neg hbs']
            exact ihA f _ _ hf'
    · have hf' : t.length + 1 ≤ fuel := by simp at hf; omega
      rw [readEsc, readCharBytes_ascii b _ hb, Input.readLineGo, List.nil_append, Input.utf8Check_ascii hbn]
      simp only [if_true, List.cons.injEq, and_true]
      by_cases h10 : b = 10
      · have h10' : b.toNat = 10 := e10.mpr h10
        rw [if_pos h10, if_pos h10']
        exact ihA fuel _ _ hf'
      · have h10' : ¬ b.toNat = 10 := fun e => h10 (e10.mp e)
        rw [if_neg h10, if_neg h10']
        exact ihA fuel _ _ hf'

end YashModel.Pipe
