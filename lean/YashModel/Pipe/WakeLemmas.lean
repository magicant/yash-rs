/-
  C14 — the wake-up model (Wake.lean): a poll of either process against the step of the waker-free system
  (`wstepW_cases`, `wstepR_cases`: the process parks, or the base system steps, the own waker is reset and the
  peer's changes by a safe effect — as for the chain in WChainLemmas.lean); through these the "no lost wake-up"
  invariant, the projection onto the writer ∥ reader system of Model.lean and the progress measure; enabledness
  of a legitimate poll; last, the system calls with wakers (`sysWriteW`, `pollWriteW`, `sysReadW`) project onto
  those of Model.lean (`*_proj`; that they are wake-safe is in OpsLemmas.lean).
-/
import YashModel.Pipe.FlowLemmas
import YashModel.Pipe.Wake
import YashModel.Pipe.PWakeLemmas
namespace YashModel.Pipe
open YashModel.Run

variable {α : Type}

/-- reachable states of the two processes under an executor that may poll either process at every step,
    also spuriously -/
inductive WReach (c : Cfg) (payload : List α) : WSys α → Prop
  | init : WReach c payload (WSys.init payload)
  | step {s s' : WSys α} (a : WAct) :
      WReach c payload s → a.ok = true → s.step c a = some s' → WReach c payload s'

/-- no lost wake-up: a process that is parked in `select` and whose waker has not fired still has its
    waker registered in the FIFO's set, and its descriptor is not ready -/
structure WInv (c : Cfg) (s : WSys α) : Prop where
  hw : s.base.wpc = .wait → okW c s.w s.base.pipe
  hr : s.base.rpc = .wait → okR s.r s.base.pipe

theorem readyW_closeR {c : Cfg} {p : Fifo α} (h : p.readyW c = false) (hr : (p.closeFd true false).readers ≠ 0) :
    (p.closeFd true false).readyW c = false :=
  readyW_closeFd h hr

/-- A poll of the writer process, against the step of the waker-free system: the writer parks (nothing else changes),
    or the data side takes the writer's step `b`, the writer's own waker is reset, and the reader's waker changes by
    an effect that is safe for a reader of the pipe (none while the pipe is unchanged, fired by a write, fired by the
    close if a count reached zero). -/
theorem wstepW_cases {c : Cfg} {s s' : WSys α} {k : Nat} {spur : Bool} (h : s.stepW c k spur = some s') :
    (s.base.wpc = .wait ∧ s.base.pipe.readyW c = false ∧ s.w.pollable spur = true ∧
        s' = { s with w := PWake.pollSelect false }) ∨
    ∃ b fr, s' = { base := b, w := {}, r := fr s.r } ∧ s.base.stepW c k = some b ∧ SafeR fr s.base.pipe b.pipe := by
  unfold WSys.stepW at h
  split at h
  next hw =>
    split at h
    · cases h
    next b hb =>
      right
      split at h
      next he =>
        cases h
        exact ⟨b, closeWake b.pipe, rfl, hb, by rw [stepW_pipe_closed hw (Or.inl he) hb]; exact safeR_closeW _⟩
      next he =>
        split at h
        next hres =>
          cases h
          exact ⟨b, closeWake b.pipe, rfl, hb, by rw [stepW_pipe_closed hw (Or.inr hres) hb]; exact safeR_closeW _⟩
        next hres =>
          cases h
          exact ⟨b, id, rfl, hb, by rw [stepW_pipe_block hw he hres hb]; exact safeR_id _⟩
        next n hres =>
          cases h
          exact ⟨b, PWake.wake, rfl, hb, safeR_wake _ _⟩
  next hw =>
    split at h
    · cases h
    next hp =>
      have hp' := PWake.pollable_iff.2 (Bool.eq_false_iff.mpr hp)
      split at h
      next hy =>
        rw [stepW_resume k hw hy, Option.map_some, Option.some.injEq] at h
        cases h
        exact Or.inr ⟨_, id, rfl, stepW_resume k hw hy, safeR_id _⟩
      next hy =>
        cases h
        exact Or.inl ⟨hw, Bool.eq_false_iff.mpr hy, hp', rfl⟩
  next => cases h
  next => cases h

/-- A poll of the reader process; symmetric (every return of `poll_read` that is not `Pending` fires the
    write-waiters, so the writer's waker is left alone only if the pipe is unchanged). -/
theorem wstepR_cases {s s' : WSys α} {n : Nat} {spur : Bool} (hn : 1 ≤ n) (h : s.stepR n spur = some s') :
    (s.base.rpc = .wait ∧ s.base.pipe.readyR = false ∧ s.r.pollable spur = true ∧
        s' = { s with r := PWake.pollSelect false }) ∨
    ∃ b fw, s' = { base := b, w := fw s.w, r := {} } ∧ s.base.stepR n = some b ∧
      ∀ c, SafeW c fw s.base.pipe b.pipe := by
  have hn0 : n ≠ 0 := by omega
  unfold WSys.stepR at h
  split at h
  next hr =>
    split at h
    · cases h
    next b hb =>
      right
      split at h
      next hres =>
        cases h
        exact ⟨b, id, rfl, hb, fun c => by rw [stepR_pipe_block hr hres hb]; exact safeW_id c _⟩
      next bs hres =>
        simp only [hn0, if_false] at h
        split at h <;> cases h
        · exact ⟨b, fun x => closeWake b.pipe x.wake, rfl, hb, fun _ =>
            ⟨(mild_closeWake _).comp mild_wake, fun _ hx => (mild_closeWake _).ok (wake_ok hx)⟩⟩
        · exact ⟨b, PWake.wake, rfl, hb, fun c => safeW_wake c _ _⟩
  next hr =>
    split at h
    · cases h
    next hp =>
      have hp' := PWake.pollable_iff.2 (Bool.eq_false_iff.mpr hp)
      split at h
      next hy =>
        rw [stepR_resume n hr hy, Option.map_some, Option.some.injEq] at h
        cases h
        exact Or.inr ⟨_, id, rfl, stepR_resume n hr hy, fun c => safeW_id c _⟩
      next hy =>
        cases h
        exact Or.inl ⟨hr, Bool.eq_false_iff.mpr hy, hp', rfl⟩
  next => cases h

theorem winv_stepW {c : Cfg} {s s' : WSys α} {k : Nat} {spur : Bool}
    (hi : WInv c s) (h : s.stepW c k spur = some s') : WInv c s' := by
  rcases wstepW_cases h with ⟨_, hy, _, rfl⟩ | ⟨b, fr, rfl, hb, hs⟩
  · exact ⟨fun _ => okW_parked hy, hi.hr⟩
  · exact ⟨fun _ => okW_fresh c _, fun h1 => hs.2 _ (hi.hr ((stepW_spec hb).rpc ▸ h1))⟩

theorem winv_stepR {c : Cfg} {s s' : WSys α} {n : Nat} {spur : Bool} (hn : 1 ≤ n)
    (hi : WInv c s) (h : s.stepR n spur = some s') : WInv c s' := by
  rcases wstepR_cases hn h with ⟨_, hy, _, rfl⟩ | ⟨b, fw, rfl, hb, hs⟩
  · exact ⟨hi.hw, fun _ => okR_parked hy⟩
  · exact ⟨fun h1 => (hs c).2 _ (hi.hw ((stepR_spec hn hb).wpc ▸ h1)), fun _ => okR_fresh _⟩

theorem winv_init (c : Cfg) (payload : List α) : WInv c (WSys.init payload) :=
  ⟨fun _ => okW_fresh c _, fun _ => okR_fresh _⟩

theorem winv_reach {c : Cfg} {payload : List α} {s : WSys α} (h : WReach c payload s) : WInv c s := by
  induction h with
  | init => exact winv_init c payload
  | step a _ ha hs ih =>
    cases a with
    | w k spur => exact winv_stepW ih hs
    | r n spur => exact winv_stepR (by simpa [WAct.ok] using ha) ih hs

theorem wstepW_base {c : Cfg} {s s' : WSys α} {k : Nat} {spur : Bool} (h : s.stepW c k spur = some s') :
    s'.base = s.base ∨ s.base.stepW c k = some s'.base := by
  rcases wstepW_cases h with ⟨_, _, _, rfl⟩ | ⟨b, _, rfl, hb, _⟩
  · exact Or.inl rfl
  · exact Or.inr hb

theorem wstepR_base {s s' : WSys α} {n : Nat} {spur : Bool} (hn : 1 ≤ n) (h : s.stepR n spur = some s') :
    s'.base = s.base ∨ s.base.stepR n = some s'.base := by
  rcases wstepR_cases hn h with ⟨_, _, _, rfl⟩ | ⟨b, _, rfl, hb, _⟩
  · exact Or.inl rfl
  · exact Or.inr hb

theorem wreach_base {c : Cfg} {payload : List α} {s : WSys α} (h : WReach c payload s) :
    Reach c payload s.base := by
  induction h with
  | init => exact Reach.init
  | step a _ ha hs ih =>
    cases a with
    | w k spur =>
      rcases wstepW_base hs with e | e
      · rw [e]; exact ih
      · exact Reach.step (.w k) ih (by simpa [WAct.ok, Act.ok] using ha) e
    | r n spur =>
      rcases wstepR_base (by simpa [WAct.ok] using ha) hs with e | e
      · rw [e]; exact ih
      · exact Reach.step (.r n) ih (by simpa [WAct.ok, Act.ok] using ha) e

theorem wreach_run {c : Cfg} {payload : List α} {s : WSys α} (hr : WReach c payload s) (acts : List WAct)
    (hok : ∀ a ∈ acts, a.ok = true) : WReach c payload (s.run c acts) := by
  induction acts generalizing s with
  | nil => exact hr
  | cons a t ih =>
    have hok' : ∀ b ∈ t, b.ok = true := fun b hb => hok b (List.mem_cons_of_mem a hb)
    simp only [WSys.run]
    cases hs : s.step c a with
    | none => simpa using ih hr hok'
    | some s' => simpa using ih (WReach.step a hr (hok a List.mem_cons_self) hs) hok'

/-- a process that can step in the base system can be polled legitimately: if it waits, its end of the pipe is ready,
    so by the invariant it is not parked or its waker has fired -/
theorem wstepW_some_of_base {c : Cfg} {s : WSys α} {k : Nat} {b : Sys α} (hi : WInv c s)
    (hb : s.base.stepW c k = some b) : ∃ s', s.stepW c k false = some s' := by
  have he := stepW_isSome c s.base k
  rw [hb] at he
  cases hwpc : s.base.wpc with
  | run =>
    unfold WSys.stepW
    simp only [hwpc, hb]
    split
    · exact ⟨_, rfl⟩
    · split <;> exact ⟨_, rfl⟩
  | wait =>
    have hrdy : s.base.pipe.readyW c = true := by simpa [hwpc, WPc.enabled] using he.symm
    have hp := PWake.pollable_iff.1 (legit_of_ok (hi.hw hwpc) (by simp [hrdy]))
    exact ⟨{ base := b, w := {}, r := s.r }, by
      simp only [WSys.stepW, hwpc, hp, hrdy, hb, Bool.false_eq_true, if_false, if_true, Option.map_some]⟩
  | closed => simp [hwpc, WPc.enabled] at he
  | failed => simp [hwpc, WPc.enabled] at he

theorem wstepR_some_of_base {c : Cfg} {s : WSys α} {n : Nat} {b : Sys α} (hi : WInv c s)
    (hb : s.base.stepR n = some b) : ∃ s', s.stepR n false = some s' := by
  have he := stepR_isSome s.base n
  rw [hb] at he
  cases hrpc : s.base.rpc with
  | run =>
    unfold WSys.stepR
    simp only [hrpc, hb]
    split
    · exact ⟨_, rfl⟩
    · split <;> exact ⟨_, rfl⟩
  | wait =>
    have hrdy : s.base.pipe.readyR = true := by simpa [hrpc, RPc.enabled] using he.symm
    have hp := PWake.pollable_iff.1 (legit_of_ok (hi.hr hrpc) (by simp [hrdy]))
    exact ⟨{ base := b, w := s.w, r := {} }, by
      simp only [WSys.stepR, hrpc, hp, hrdy, hb, Bool.false_eq_true, if_false, if_true, Option.map_some]⟩
  | done => simp [hrpc, RPc.enabled] at he

/-- Waker cost of a process, counted only while it waits (a running process has 0, so a poll that finds the
    descriptor ready drops it to 0): not yet parked 2, parked and woken 1, parked and not woken 0.  `pcost` of
    WChainMeasure.lean counts every process whatever its state, so there "woken" (2) must lie above "not parked" (1). -/
def pcostW (pc : WPc) (x : PWake) : Nat :=
  if pc = .wait then (if x.parked then (if x.woken then 1 else 0) else 2) else 0

def pcostR (pc : RPc) (x : PWake) : Nat :=
  if pc = .wait then (if x.parked then (if x.woken then 1 else 0) else 2) else 0

/-- every legitimate poll strictly decreases this number -/
def WSys.measure (c : Cfg) (s : WSys α) : Nat :=
  6 * s.base.measure c + pcostW s.base.wpc s.w + pcostR s.base.rpc s.r

def PWake.waitCost (x : PWake) : Nat := if x.parked then (if x.woken then 1 else 0) else 2

theorem pcostW_eq (pc : WPc) (x : PWake) : pcostW pc x = if pc = .wait then x.waitCost else 0 := rfl
theorem pcostR_eq (pc : RPc) (x : PWake) : pcostR pc x = if pc = .wait then x.waitCost else 0 := rfl

theorem waitCost_le (x : PWake) : x.waitCost ≤ 2 := by
  unfold PWake.waitCost
  cases x.parked <;> cases x.woken <;> decide

theorem waitCost_mild {fw : PWake → PWake} (h : Mild fw) (x : PWake) : (fw x).waitCost ≤ x.waitCost + 1 := by
  obtain ⟨a, b⟩ := h x
  unfold PWake.waitCost
  rcases b with b | b
  · rw [a, b]; cases x.parked <;> cases x.woken <;> decide
  · rw [b]; omega

theorem pcostW_mild (pc : WPc) {fw : PWake → PWake} (h : Mild fw) (x : PWake) :
    pcostW pc (fw x) ≤ pcostW pc x + 1 := by
  rw [pcostW_eq, pcostW_eq]
  split
  · exact waitCost_mild h x
  · omega

theorem pcostR_mild (pc : RPc) {fw : PWake → PWake} (h : Mild fw) (x : PWake) :
    pcostR pc (fw x) ≤ pcostR pc x + 1 := by
  rw [pcostR_eq, pcostR_eq]
  split
  · exact waitCost_mild h x
  · omega

theorem pcostW_le (pc : WPc) (x : PWake) : pcostW pc x ≤ 2 := by
  rw [pcostW_eq]
  split
  · exact waitCost_le x
  · omega

theorem pcostR_le (pc : RPc) (x : PWake) : pcostR pc x ≤ 2 := by
  rw [pcostR_eq]
  split
  · exact waitCost_le x
  · omega

/-- a legitimate `select` that stays pending: the process was not parked, or its waker had fired -/
theorem pollSelect_cost {x : PWake} (hp : x.pollable false = true) :
    (PWake.pollSelect false).waitCost < x.waitCost := by
  cases x with
  | mk p r w => cases p <;> cases w <;> simp_all [PWake.pollSelect, PWake.pollable, PWake.waitCost]

theorem wmeasure_stepW {c : Cfg} (hv : c.Valid) {s s' : WSys α} {k : Nat} (hk : 1 ≤ k)
    (h : s.stepW c k false = some s') : s'.measure c < s.measure c := by
  rcases wstepW_cases h with ⟨hw, _, hp, rfl⟩ | ⟨b, fr, rfl, hb, hs⟩
  · have := pollSelect_cost hp
    simp only [WSys.measure, pcostW_eq, hw, if_true]
    omega
  · -- the data side pays 6; the fresh waker costs at most 2, the effect on the reader's at most 1
    have hm := measure_stepW hv hk hb
    have hle := pcostW_le b.wpc {}
    have := pcostR_mild s.base.rpc hs.1 s.r
    simp only [WSys.measure, (stepW_spec hb).rpc]
    omega

theorem wmeasure_stepR {c : Cfg} {s s' : WSys α} {n : Nat} (hn : 1 ≤ n)
    (h : s.stepR n false = some s') : s'.measure c < s.measure c := by
  rcases wstepR_cases hn h with ⟨hr, _, hp, rfl⟩ | ⟨b, fw, rfl, hb, hs⟩
  · have := pollSelect_cost hp
    simp only [WSys.measure, pcostR_eq, hr, if_true]
    omega
  · have hm := measure_stepR (c := c) hn hb
    have hle := pcostR_le b.rpc {}
    have := pcostW_mild s.base.wpc (hs c).1 s.w
    simp only [WSys.measure, (stepR_spec hn hb).wpc]
    omega

theorem wstuck_is_complete (c : Cfg) (hv : c.Valid) (payload : List α) (s : WSys α) (total wk rk : Nat)
    (hr : WReach c payload s) (hw : wStepWriter c total wk s = none) (hrd : wStepReader c rk s = none) :
    s.base.final = true ∧ s.base.received = payload := by
  have hi := inv_reach (wreach_base hr)
  have hwi := winv_reach hr
  -- a base step that is possible could be polled legitimately: neither is
  have hbw : s.base.stepW c (wReq total wk s.base) = none := by
    cases hk : s.base.stepW c (wReq total wk s.base) with
    | none => rfl
    | some b =>
      obtain ⟨s', hs'⟩ := wstepW_some_of_base hwi hk
      simp [wStepWriter, WSys.step, hs'] at hw
  have hbr : s.base.stepR (if rk = 0 then 1024 else rk) = none := by
    cases hk : s.base.stepR (if rk = 0 then 1024 else rk) with
    | none => rfl
    | some b =>
      obtain ⟨s', hs'⟩ := wstepR_some_of_base (c := c) hwi hk
      simp [wStepReader, WSys.step, hs'] at hrd
  have ⟨_, hd⟩ := Sys.stuck_final hv hi.ends ⟨_, hbw⟩ ⟨_, hbr⟩
  have ⟨e, hwc, _, _⟩ := hi.done_complete hd
  exact ⟨by simp [Sys.final, hwc, hd], e⟩

theorem WSys.init_measure (c : Cfg) (payload : List α) : (WSys.init payload).measure c = 36 * payload.length + 36 := by
  simp only [WSys.measure, WSys.init, Sys.init_measure, pcostW_eq, pcostR_eq]
  simp [Sys.init]
  omega

theorem runWSched_loop (c : Cfg) (total wk rk : Nat) :
    Loop (runWSched (α := α) c total wk rk)
      (fun s t => wStepWriter c total wk s = some t ∨ wStepReader c rk s = some t)
      (fun s => wStepWriter c total wk s = none ∧ wStepReader c rk s = none) where
  zero _ _ := rfl
  succ n x s := by
    cases hw : wStepWriter c total wk s <;> cases hr : wStepReader c rk s
    · exact .inl ⟨by simp only [runWSched, hw, hr, ite_self], rfl, rfl⟩
    · exact .inr ⟨lcg x, _, .inr rfl, by simp only [runWSched, hw, hr, ite_self]⟩
    · exact .inr ⟨lcg x, _, .inl rfl, by simp only [runWSched, hw, hr, ite_self]⟩
    · by_cases hb : lcg x / 65536 % 2 = 0
      · exact .inr ⟨lcg x, _, .inl rfl, by simp only [runWSched, hw, hr, if_pos hb]⟩
      · exact .inr ⟨lcg x, _, .inr rfl, by simp only [runWSched, hw, hr, if_neg hb]⟩

theorem runWSched_complete (c : Cfg) (hv : c.Valid) (payload : List α) (total wk rk : Nat) :
    ∀ (fuel x : Nat) (s : WSys α), WReach c payload s → s.measure c < fuel →
      (runWSched c total wk rk fuel x s).base.final = true ∧
      (runWSched c total wk rk fuel x s).base.received = payload := by
  intro fuel x s hr hm
  have hn := rbuf_pos rk
  have dropW : ∀ {s t : WSys α}, wStepWriter c total wk s = some t → t.measure c < s.measure c := fun hs =>
    wmeasure_stepW hv (wReq_pos total wk _) (by simpa [wStepWriter, WSys.step] using hs)
  have dropR : ∀ {s t : WSys α}, wStepReader c rk s = some t → t.measure c < s.measure c := fun hs =>
    wmeasure_stepR (c := c) hn (by simpa [wStepReader, WSys.step] using hs)
  obtain ⟨hr', hw, hrd⟩ := (runWSched_loop c total wk rk).stops_noMove (I := WReach c payload) (WSys.measure c)
    (fun hr h => h.elim
      (fun hs => WReach.step _ hr (by simpa [WAct.ok] using wReq_pos total wk _) hs)
      (fun hs => WReach.step (.r (if rk = 0 then 1024 else rk) false) hr (by simpa [WAct.ok] using hn) hs))
    (fun _ h => h.elim dropW dropR)
    (fun _ h => ⟨Option.eq_none_iff_forall_ne_some.2 fun t hs => h t (.inl hs),
      Option.eq_none_iff_forall_ne_some.2 fun t hs => h t (.inr hs)⟩) fuel x s hr (by omega)
  exact wstuck_is_complete c hv payload _ total wk rk hr' hw hrd

theorem wfWrite_proj (c : Cfg) (p : Fifo α) (w : Wakers) (buf : List α) (id : Option Nat) :
    ((wfWrite c p w buf id).1, (wfWrite c p w buf id).2.1) = p.write c buf := by
  unfold wfWrite
  split <;> simp_all

theorem wfRead_proj (p : Fifo α) (w : Wakers) (n : Nat) (id : Option Nat) :
    ((wfRead p w n id).1, (wfRead p w n id).2.1) = p.read n := by
  unfold wfRead
  split <;> simp_all

theorem pollWriteW_proj (c : Cfg) (o : Ofd) (p : Fifo α) (w : Wakers) (buf : List α) :
    ((o.pollWriteW c p w buf).1, (o.pollWriteW c p w buf).2.1) = o.pollWrite c p buf := by
  have h := wfWrite_proj c p w buf none
  unfold Ofd.pollWriteW Ofd.pollWrite
  split
  · rfl
  · split
    all_goals (rename_i heq; rw [heq] at h; simp only at h; rw [← h])

theorem pollWriteFullW_proj (c : Cfg) (o : Ofd) (fuel : Nat) (p : Fifo α) (w : Wakers) (rem : List α) (bw : Nat) :
    ((o.pollWriteFullW c fuel p w rem bw).1, (o.pollWriteFullW c fuel p w rem bw).2.1) =
      o.pollWriteFull c fuel p rem bw := by
  induction fuel generalizing p w rem bw with
  | zero => rfl
  | succ f ih =>
    unfold Ofd.pollWriteFullW Ofd.pollWriteFull
    split
    · rfl
    · have h := pollWriteW_proj c o p w rem
      rw [← h]
      split
      · rename_i n p' w' heq
        simp only [heq]
        split
        · rfl
        · exact ih p' w' _ _
      · rename_i e p' w' heq
        simp only [heq]
      · rename_i p' w' heq
        simp only [heq]

theorem sysWriteW_proj (c : Cfg) (o : Ofd) (p : Fifo α) (w : Wakers) (buf : List α) :
    ((o.sysWriteW c p w buf).1, (o.sysWriteW c p w buf).2.1) = o.sysWrite c p buf :=
  pollWriteFullW_proj c o _ p w buf 0

theorem sysReadW_proj (o : Ofd) (p : Fifo α) (w : Wakers) (n : Nat) :
    ((o.sysReadW p w n).1, (o.sysReadW p w n).2.1, (o.sysReadW p w n).2.2.1) = o.sysRead p n := by
  have h := wfRead_proj p w n none
  unfold Ofd.sysReadW Ofd.sysRead
  split
  · rfl
  · split
    all_goals (rename_i heq; rw [heq] at h; simp only at h; rw [← h])

end YashModel.Pipe
