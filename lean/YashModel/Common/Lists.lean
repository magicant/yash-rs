/-
  Scanning a list with a predicate: what `takeWhile` / `dropWhile` do on `run ++ rest` when every
  element of `run` passes and `rest` is empty or starts with one that does not; `rstrip`, stripping a trailing run;
  `l.dropLast ++ [last]`; the Boolean duplicate test and the de-duplication as the models write them.
-/
namespace YashModel.Common

variable {α : Type}

/-- `rest` is empty or starts with an element that fails `p`: a scan with `p` stops in front of it -/
def StopsAt (p : α → Bool) (rest : List α) : Prop := ∀ x, rest.head? = some x → p x = false

theorem StopsAt.nil (p : α → Bool) : StopsAt p [] := fun _ h => by cases h

theorem StopsAt.cons {p : α → Bool} {x : α} (h : p x = false) (t : List α) : StopsAt p (x :: t) :=
  fun _ e => by cases e; exact h

theorem StopsAt.takeWhile {p : α → Bool} {rest : List α} (h : StopsAt p rest) : rest.takeWhile p = [] := by
  cases rest with
  | nil => rfl
  | cons x t => rw [List.takeWhile_cons, h x rfl]; rfl

theorem StopsAt.dropWhile {p : α → Bool} {rest : List α} (h : StopsAt p rest) : rest.dropWhile p = rest := by
  cases rest with
  | nil => rfl
  | cons x t => rw [List.dropWhile_cons, h x rfl]; rfl

/-- what a scan leaves stops the scan -/
theorem stopsAt_dropWhile (p : α → Bool) (l : List α) : StopsAt p (l.dropWhile p) := fun x h => by
  have := List.head?_dropWhile_not p l
  rw [h] at this
  exact this

theorem takeWhile_run {p : α → Bool} {run rest : List α} (hr : ∀ x ∈ run, p x = true) (hs : StopsAt p rest) :
    (run ++ rest).takeWhile p = run := by
  rw [List.takeWhile_append_of_pos hr, hs.takeWhile, List.append_nil]

theorem dropWhile_run {p : α → Bool} {run rest : List α} (hr : ∀ x ∈ run, p x = true) (hs : StopsAt p rest) :
    (run ++ rest).dropWhile p = rest := by
  rw [List.dropWhile_append_of_pos hr, hs.dropWhile]

theorem takeWhile_all {p : α → Bool} {l : List α} (h : ∀ x ∈ l, p x = true) : l.takeWhile p = l := by
  simpa using takeWhile_run h (StopsAt.nil p)

theorem dropWhile_all {p : α → Bool} {l : List α} (h : ∀ x ∈ l, p x = true) : l.dropWhile p = [] := by
  simpa using dropWhile_run h (StopsAt.nil p)

theorem mem_takeWhile {p : α → Bool} {l : List α} {x : α} (h : x ∈ l.takeWhile p) : p x = true := by
  induction l with
  | nil => cases h
  | cons a l ih =>
    rw [List.takeWhile_cons] at h
    cases ha : p a with
    | false => rw [ha] at h; cases h
    | true =>
      rw [ha] at h
      rcases List.mem_cons.1 h with rfl | h
      · exact ha
      · exact ih h

theorem length_dropWhile_le (p : α → Bool) (l : List α) : (l.dropWhile p).length ≤ l.length :=
  (List.dropWhile_sublist p).length_le

/-- the scan is determined by these two facts: a decomposition `run ++ rest` with them is the one the scan finds -/
theorem span_unique {p : α → Bool} {l run rest : List α} (e : l = run ++ rest) (hr : ∀ x ∈ run, p x = true)
    (hs : StopsAt p rest) : l.takeWhile p = run ∧ l.dropWhile p = rest :=
  e ▸ ⟨takeWhile_run hr hs, dropWhile_run hr hs⟩

/-- the scan for "is not `c`" -/
theorem takeWhile_ne_append [BEq α] [LawfulBEq α] (c : α) (n t : List α) (hn : c ∉ n)
    (ht : t = [] ∨ t.head? = some c) : (n ++ t).takeWhile (· != c) = n ∧ (n ++ t).dropWhile (· != c) = t :=
  span_unique rfl (fun x hx => bne_iff_ne.2 fun e => hn (e ▸ hx))
    (fun x hx => by rcases ht with rfl | ht <;> simp_all)

/-- `l` without its trailing run of elements that pass `p` -/
def rstrip (p : α → Bool) (l : List α) : List α := (l.reverse.dropWhile p).reverse

/-- the strip finds the decomposition `t ++ tail` in which all of `tail` passes `p` and `t` does not end with such an
    element -/
theorem rstrip_unique {p : α → Bool} {t tail : List α} (ht : ∀ x ∈ tail, p x = true)
    (hl : ∀ x, t.getLast? = some x → p x = false) : rstrip p (t ++ tail) = t := by
  rw [rstrip, List.reverse_append, dropWhile_run (fun x hx => ht x (List.mem_reverse.1 hx))
    (fun x hx => hl x (by rwa [List.head?_reverse] at hx)), List.reverse_reverse]

/-- the strip as a recursion from the front: the head goes when nothing is left of the tail and the head passes `p` -/
theorem rstrip_cons (p : α → Bool) (x : α) (l : List α) :
    rstrip p (x :: l) = if (rstrip p l).isEmpty && p x then [] else x :: rstrip p l := by
  unfold rstrip
  rw [List.reverse_cons, List.dropWhile_append]
  cases h : l.reverse.dropWhile p with
  | nil => cases hx : p x <;> simp [List.dropWhile, hx]
  | cons a t => simp

/-- a function with that recursion (the models' specifications write it so) is the strip -/
theorem rstrip_of_rec (p : α → Bool) (f : List α → List α) (nil : f [] = [])
    (cons : ∀ x l, f (x :: l) = if (f l).isEmpty && p x then [] else x :: f l) : ∀ l, f l = rstrip p l
  | [] => nil
  | x :: l => by rw [cons, rstrip_cons, rstrip_of_rec p f nil cons l]

theorem rstrip_spec (p : α → Bool) (l : List α) :
    ∃ tail, l = rstrip p l ++ tail ∧ (∀ c ∈ tail, p c = true) ∧ ∀ c, (rstrip p l).getLast? = some c → p c = false :=
  ⟨(l.reverse.takeWhile p).reverse,
    by rw [rstrip, ← List.reverse_append, List.takeWhile_append_dropWhile, List.reverse_reverse],
    fun _ hc => mem_takeWhile (List.mem_reverse.1 hc),
    fun c hc => stopsAt_dropWhile p l.reverse c (by rwa [rstrip, List.getLast?_reverse] at hc)⟩

theorem dropLast_append_getLast {l : List α} {a : α} (h : l.getLast? = some a) : l.dropLast ++ [a] = l := by
  obtain ⟨ys, rfl⟩ := List.getLast?_eq_some_iff.1 h
  rw [List.dropLast_concat]

/-- a Boolean "no element occurs twice" test written as the models write it decides `List.Nodup` -/
theorem nodupB_iff [BEq α] [LawfulBEq α] (f : List α → Bool) (nil : f [] = true)
    (cons : ∀ a t, f (a :: t) = (!t.contains a && f t)) (l : List α) : f l = true ↔ l.Nodup := by
  induction l with
  | nil => exact ⟨fun _ => List.nodup_nil, fun _ => nil⟩
  | cons a t ih =>
    rw [cons, Bool.and_eq_true, Bool.not_eq_true', List.nodup_cons, ih, ← List.contains_iff_mem,
      Bool.not_eq_true]

/-- "each element once" as the models write it (an element is kept unless it occurs later) keeps the elements -/
theorem mem_dedup [DecidableEq α] (f : List α → List α) (nil : f [] = [])
    (cons : ∀ a t, f (a :: t) = if a ∈ f t then f t else a :: f t) (l : List α) (x : α) : x ∈ f l ↔ x ∈ l := by
  induction l generalizing x with
  | nil => rw [nil]
  | cons a t ih =>
    rw [cons, List.mem_cons]
    by_cases h : a ∈ f t
    · rw [if_pos h, ih]; exact ⟨Or.inr, fun o => o.elim (· ▸ (ih a).1 h) id⟩
    · rw [if_neg h, List.mem_cons, ih]

end YashModel.Common
