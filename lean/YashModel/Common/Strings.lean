/-
  String literals in statements that are checked by evaluation.
-/
namespace YashModel.Common

/-- A string literal is `String.ofList` of its characters by definition (`h` is `rfl`), so its character list
    is had from `String.toList_ofList` instead of running the UTF-8 decoder of `String.toList`, which is dear
    to evaluate (in the elaborator and in the kernel alike). -/
theorem toList_lit {s : String} {l : List Char} (h : s = String.ofList l) : s.toList = l :=
  h ▸ String.toList_ofList

end YashModel.Common
