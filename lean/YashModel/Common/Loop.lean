/-
  Fuel-driven loops.  Every executable driver of a model applies a step until nothing is enabled or its fuel is
  used up.  `Loop run Mv Stuck` says so of a given driver `run` (which may consult a scheduler state: a seed, a
  list of choices); `iter next` is the deterministic loop itself, for drivers that are equal to it.  What is
  proved here once: whatever every move keeps holds where the loop ends; with fuel for a measure that every move
  lowers the loop ends because it is stuck; progress and a measure give a run to a final state; two deterministic
  loops in lock step end in related states; a finished deterministic loop does not depend on its fuel.
-/
namespace YashModel.Run

variable {σ τ X : Type}

/-- With fuel left, `run` either stops at `s`, knowing `Stuck s`, or makes a move `Mv s t` and goes on from `t`
    (with another scheduler state) on one unit less. -/
structure Loop (run : Nat → X → σ → σ) (Mv : σ → σ → Prop) (Stuck : σ → Prop) : Prop where
  zero : ∀ x s, run 0 x s = s
  succ : ∀ n x s, (run (n + 1) x s = s ∧ Stuck s) ∨ ∃ x' t, Mv s t ∧ run (n + 1) x s = run n x' t

section
variable {run : Nat → X → σ → σ} {Mv : σ → σ → Prop} {Stuck : σ → Prop}

/-- what every move keeps holds where the loop ends (`P` a reachability predicate, a run relation from a
    fixed start, an invariant) -/
theorem Loop.keeps (L : Loop run Mv Stuck) {P : σ → Prop} (hP : ∀ {s t}, P s → Mv s t → P t) :
    ∀ (n : Nat) (x : X) (s : σ), P s → P (run n x s)
  | 0, x, s, h => (L.zero x s).symm ▸ h
  | n + 1, x, s, h => by
    rcases L.succ n x s with ⟨e, _⟩ | ⟨x', t, hm, e⟩
    · exact e.symm ▸ h
    · exact e.symm ▸ L.keeps hP n x' t (hP h hm)

/-- with fuel for a measure that every move lowers, the loop ends because it is stuck, not because the fuel
    is out -/
theorem Loop.stops (L : Loop run Mv Stuck) {I : σ → Prop} (μ : σ → Nat) (keep : ∀ {s t}, I s → Mv s t → I t)
    (drop : ∀ {s t}, I s → Mv s t → μ t < μ s) (hz : ∀ s, I s → μ s = 0 → Stuck s) :
    ∀ (n : Nat) (x : X) (s : σ), I s → μ s ≤ n → I (run n x s) ∧ Stuck (run n x s)
  | 0, x, s, hi, hm => (L.zero x s).symm ▸ ⟨hi, hz s hi (by omega)⟩
  | n + 1, x, s, hi, hm => by
    rcases L.succ n x s with ⟨e, hs⟩ | ⟨x', t, hmv, e⟩
    · exact e.symm ▸ ⟨hi, hs⟩
    · exact e.symm ▸ L.stops μ keep drop hz n x' t (keep hi hmv) (by have := drop hi hmv; omega)

/-- `Loop.stops` where being stuck means that no move is possible: a state of measure 0 has none -/
theorem Loop.stops_noMove (L : Loop run Mv Stuck) {I : σ → Prop} (μ : σ → Nat) (keep : ∀ {s t}, I s → Mv s t → I t)
    (drop : ∀ {s t}, I s → Mv s t → μ t < μ s) (hz : ∀ s, (∀ t, ¬ Mv s t) → Stuck s) :
    ∀ (n : Nat) (x : X) (s : σ), I s → μ s ≤ n → I (run n x s) ∧ Stuck (run n x s) :=
  L.stops μ keep drop fun s hi h0 => hz s fun t hm => by have := drop hi hm; omega
end

/-- A system whose states satisfying `I` can move (`S`) unless they are final (`F`), every move keeping `I` and
    lowering the measure `μ`, reaches a final state by a run `R` (any relation with `refl` and `head`). -/
theorem reaches_final {S R : σ → σ → Prop} {I F : σ → Prop} (μ : σ → Nat) (refl : ∀ s, R s s)
    (head : ∀ {s t u}, S s t → R t u → R s u) (next : ∀ s, I s → ¬ F s → ∃ t, S s t)
    (keep : ∀ {s t}, I s → S s t → I t) (drop : ∀ {s t}, I s → S s t → μ t < μ s) :
    ∀ s, I s → ∃ t, R s t ∧ I t ∧ F t := by
  intro s
  induction hm : μ s using Nat.strongRecOn generalizing s with
  | _ n ih =>
    intro hs
    by_cases hf : F s
    · exact ⟨s, refl s, hs, hf⟩
    · obtain ⟨t, hst⟩ := next s hs hf
      obtain ⟨u, hu, hiu, hfu⟩ := ih _ (hm ▸ drop hs hst) t rfl (keep hs hst)
      exact ⟨u, head hst hu, hiu, hfu⟩

/-- … and a state satisfying `I` from which nothing moves is final -/
theorem final_of_stuck {S : σ → σ → Prop} {I F : σ → Prop} (next : ∀ s, I s → ¬ F s → ∃ t, S s t) {s : σ} (hi : I s)
    (h : ∀ t, ¬ S s t) : F s :=
  Classical.byContradiction fun hf => let ⟨t, ht⟩ := next s hi hf; h t ht

/-- `next` applied until it answers `none` or the fuel is used up; the flag says which -/
def iterB (next : σ → Option σ) : Nat → σ → σ × Bool
  | 0, s => (s, false)
  | f + 1, s =>
    match next s with
    | none => (s, true)
    | some s' => iterB next f s'

def iter (next : σ → Option σ) (f : Nat) (s : σ) : σ := (iterB next f s).1

variable {next : σ → Option σ} {next' : τ → Option τ}

theorem iter_none {s : σ} (h : next s = none) (f : Nat) : iter next (f + 1) s = s := by
  simp only [iter, iterB, h]

theorem iter_some {s s' : σ} (h : next s = some s') (f : Nat) : iter next (f + 1) s = iter next f s' := by
  simp only [iter, iterB, h]

theorem iter_loop (next : σ → Option σ) :
    Loop (fun n (_ : Unit) s => iter next n s) (fun s t => next s = some t) (fun s => next s = none) where
  zero _ _ := rfl
  succ n _ s := by
    cases e : next s with
    | none => exact .inl ⟨iter_none e n, rfl⟩
    | some t => exact .inr ⟨(), t, rfl, iter_some e n⟩

theorem iter_inv {P : σ → Prop} (hP : ∀ s s', P s → next s = some s' → P s') (f : Nat) (s : σ) (h : P s) :
    P (iter next f s) :=
  (iter_loop next).keeps (fun h e => hP _ _ h e) f () s h

/-- two loops whose related states stop together or step to related states end in related states -/
theorem iter_sim {R : σ → τ → Prop}
    (hR : ∀ s t, R s t → (next s = none ∧ next' t = none) ∨
      ∃ s' t', next s = some s' ∧ next' t = some t' ∧ R s' t') :
    ∀ (f : Nat) (s : σ) (t : τ), R s t → R (iter next f s) (iter next' f t)
  | 0, _, _, h => h
  | f + 1, s, t, h => by
    rcases hR s t h with ⟨e1, e2⟩ | ⟨s', t', e1, e2, h'⟩
    · rw [iter_none e1, iter_none e2]; exact h
    · rw [iter_some e1, iter_some e2]; exact iter_sim hR f s' t' h'

/-- a driver with the recursion equations of `iter` is `iter` -/
theorem iter_unique {run : Nat → σ → σ} (h0 : ∀ s, run 0 s = s)
    (hs : ∀ n s, run (n + 1) s = match next s with | none => s | some t => run n t) :
    ∀ n s, run n s = iter next n s
  | 0, s => h0 s
  | n + 1, s => by
    rw [hs]
    cases e : next s with
    | none => exact (iter_none e n).symm
    | some t => rw [iter_some e]; exact iter_unique h0 hs n t

theorem iter_stuck {s : σ} (h : next s = none) : ∀ n, iter next n s = s
  | 0 => rfl
  | n + 1 => iter_none h n

theorem iter_add (next : σ → Option σ) : ∀ (a b : Nat) (s : σ), iter next (a + b) s = iter next b (iter next a s)
  | 0, b, s => by rw [Nat.zero_add]; rfl
  | a + 1, b, s => by
    rw [Nat.add_right_comm]
    cases e : next s with
    | none => rw [iter_none e, iter_none e, iter_stuck e]
    | some t => rw [iter_some e, iter_some e]; exact iter_add next a b t

/-- a map that commutes with the step commutes with the loop -/
theorem iter_map {π : σ → τ} (h : ∀ c, (next c).map π = next' (π c)) (f : Nat) (c : σ) :
    π (iter next f c) = iter next' f (π c) :=
  iter_sim (R := fun s t => π s = t) (fun s t e => by
    subst e
    cases hs : next s with
    | none => exact .inl ⟨rfl, by rw [← h, hs]; rfl⟩
    | some s' => exact .inr ⟨s', π s', rfl, by rw [← h, hs]; rfl, rfl⟩) f c (π c) rfl

/-- a measure that every step lowers (on states satisfying a kept invariant) bounds the fuel needed -/
theorem iterB_done {P : σ → Prop} {μ : σ → Nat}
    (hP : ∀ s s', P s → next s = some s' → P s' ∧ μ s' < μ s) :
    ∀ (f : Nat) (s : σ), P s → μ s < f → (iterB next f s).2 = true
  | 0, _, _, hf => by omega
  | f + 1, s, h, hf => by
    unfold iterB
    cases e : next s with
    | none => rfl
    | some s' =>
      obtain ⟨h', hlt⟩ := hP s s' h e
      exact iterB_done hP f s' h' (by omega)

/-- enough fuel is any fuel -/
theorem iterB_mono : ∀ (f g : Nat) (s : σ), (iterB next f s).2 = true → f ≤ g → iterB next g s = iterB next f s
  | 0, _, _, hf, _ => by simp [iterB] at hf
  | f + 1, g, s, hf, hg => by
    obtain ⟨g', rfl⟩ : ∃ g', g = g' + 1 := ⟨g - 1, by omega⟩
    unfold iterB at hf ⊢
    cases e : next s with
    | none => rfl
    | some s' => simp only [e] at hf ⊢; exact iterB_mono f g' s' hf (by omega)

end YashModel.Run
