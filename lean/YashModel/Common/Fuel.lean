/-
  Loops that recurse on a fuel argument.  Two facts every such loop is asked for:
  * it reads a printed list back (`listLoop_rt`): the fuel bookkeeping of the induction, done once;
  * fuel beyond the size of the input changes nothing (`fuel_stable`), when one unfolding calls the loop
    only on smaller inputs;
  and the fuelled search for the lowest free slot (`lowest_spec`).
-/
namespace YashModel.Common

variable {σ ρ α : Type}

theorem exists_succ_of_le {m n : Nat} (h : m + 1 ≤ n) : ∃ k, n = k + 1 := ⟨n - 1, by omega⟩

theorem exists_succ_le {m n : Nat} (h : m + 1 ≤ n) : ∃ k, n = k + 1 ∧ m ≤ k := ⟨n - 1, by omega, by omega⟩

/-- `f` reads the list `xs` back from `text xs`.  `Q` is what is assumed of the list ("every element reads back in
    its place"); `stop` and `step` are one unfolding of `f` at the end of the list and at an element. -/
theorem listLoop_rt (f : Nat → σ → Option ρ) (text : List α → σ) (res : List α → ρ) (Q : List α → Prop)
    (tl : ∀ x xs, Q (x :: xs) → Q xs)
    (stop : ∀ n, f (n + 1) (text []) = some (res []))
    (step : ∀ n x xs, Q (x :: xs) → f n (text xs) = some (res xs) →
      f (n + 1) (text (x :: xs)) = some (res (x :: xs))) :
    ∀ xs fuel, xs.length + 1 ≤ fuel → Q xs → f fuel (text xs) = some (res xs) := by
  intro xs
  induction xs with
  | nil => intro fuel hf _; cases fuel with
    | zero => cases hf
    | succ n => exact stop n
  | cons x xs ih => intro fuel hf h; cases fuel with
    | zero => cases hf
    | succ n => exact step n x xs h (ih n (Nat.le_of_succ_le_succ hf) (tl x xs h))

/-- every element adds to the size of the text, so the size bounds the number of elements: the fuel a caller
    derives from the text suffices -/
theorem length_le_text (size : σ → Nat) (text : List α → σ)
    (grow : ∀ x xs, size (text xs) < size (text (x :: xs))) : ∀ xs, xs.length ≤ size (text xs) := by
  intro xs
  induction xs with
  | nil => exact Nat.zero_le _
  | cons x xs ih => exact Nat.succ_le_of_lt (Nat.lt_of_le_of_lt ih (grow x xs))

/-- `listLoop_rt` with the fuel measured on the text -/
theorem listLoop_text (f : Nat → σ → Option ρ) (text : List α → σ) (res : List α → ρ) (Q : List α → Prop)
    (size : σ → Nat) (grow : ∀ x xs, size (text xs) < size (text (x :: xs)))
    (tl : ∀ x xs, Q (x :: xs) → Q xs) (stop : ∀ n, f (n + 1) (text []) = some (res []))
    (step : ∀ n x xs, Q (x :: xs) → f n (text xs) = some (res xs) →
      f (n + 1) (text (x :: xs)) = some (res (x :: xs))) :
    ∀ xs fuel, size (text xs) + 1 ≤ fuel → Q xs → f fuel (text xs) = some (res xs) :=
  fun xs fuel hf h => listLoop_rt f text res Q tl stop step xs fuel
    (Nat.le_trans (Nat.succ_le_succ (length_le_text size text grow xs)) hf) h

/-- more fuel than the size of the input is as good as any other such amount, provided one unfolding of `f` at `s`
    depends on the recursive calls at smaller inputs only -/
theorem fuel_stable (f : Nat → σ → ρ) (size : σ → Nat)
    (unfold : ∀ n m s, (∀ s', size s' < size s → f n s' = f m s') → f (n + 1) s = f (m + 1) s) :
    ∀ (b : Nat) (s : σ) (n m : Nat), size s ≤ b → b + 1 ≤ n → b + 1 ≤ m → f n s = f m s := by
  intro b
  induction b with
  | zero =>
    intro s n m hs hn hm
    obtain ⟨n, rfl⟩ : ∃ k, n = k + 1 := ⟨n - 1, by omega⟩
    obtain ⟨m, rfl⟩ : ∃ k, m = k + 1 := ⟨m - 1, by omega⟩
    exact unfold n m s (fun s' h => by omega)
  | succ b ih =>
    intro s n m hs hn hm
    obtain ⟨n, rfl⟩ : ∃ k, n = k + 1 := ⟨n - 1, by omega⟩
    obtain ⟨m, rfl⟩ : ∃ k, m = k + 1 := ⟨m - 1, by omega⟩
    exact unfold n m s (fun s' h => ih s' n m (by omega) (by omega) (by omega))


/-- The search for the lowest free slot as the models write it: `f fuel d` looks at `d, d+1, …` for at most `fuel`
    slots; it answers `found r` at the first free slot `r` and `fail (d + fuel)` when all are taken (`found = fail = id`
    for the searches that answer with a number in any case, `found = some`, `fail _ = none` for an optional answer). -/
theorem lowest_spec {ρ : Type} (free : Nat → Bool) (found fail : Nat → ρ) (f : Nat → Nat → ρ) (zero : ∀ d, f 0 d = fail d)
    (succ : ∀ n d, f (n + 1) d = if free d then found d else f n (d + 1)) :
    ∀ fuel d, (∃ r, f fuel d = found r ∧ d ≤ r ∧ r < d + fuel ∧ free r = true ∧ ∀ m, d ≤ m → m < r → free m = false) ∨
      (f fuel d = fail (d + fuel) ∧ ∀ m, d ≤ m → m < d + fuel → free m = false)
  | 0, d => .inr ⟨zero d, fun m h1 h2 => by omega⟩
  | n + 1, d => by
    rw [succ]
    cases h : free d with
    | true => exact .inl ⟨d, if_pos rfl, Nat.le_refl _, by omega, h, fun m h1 h2 => by omega⟩
    | false =>
      have step : ∀ m, d ≤ m → (d + 1 ≤ m → free m = false) → free m = false := fun m hm ih =>
        (Nat.eq_or_lt_of_le hm).elim (fun e => e ▸ h) ih
      rw [if_neg Bool.false_ne_true]
      rcases lowest_spec free found fail f zero succ n (d + 1) with ⟨r, e, h1, h2, h3, h4⟩ | ⟨e, h4⟩
      · exact .inl ⟨r, e, by omega, by omega, h3, fun m hm hr => step m hm fun h' => h4 m h' hr⟩
      · exact .inr ⟨by rw [e, Nat.add_right_comm, Nat.add_assoc], fun m hm hr => step m hm fun h' => h4 m h' (by omega)⟩

/-- for a search that answers with a number: a free slot in the window is found or beaten -/
theorem lowest_le (free : Nat → Bool) (f : Nat → Nat → Nat) (zero : ∀ d, f 0 d = d)
    (succ : ∀ n d, f (n + 1) d = if free d then d else f n (d + 1)) {fuel d k : Nat} (h1 : d ≤ k) (h2 : k < d + fuel)
    (hk : free k = true) : free (f fuel d) = true ∧ d ≤ f fuel d ∧ f fuel d ≤ k := by
  rcases lowest_spec free id id f zero succ fuel d with ⟨r, e, g1, _, g3, g4⟩ | ⟨_, g⟩
  · rw [e]
    exact ⟨g3, g1, Nat.le_of_not_lt fun hlt => by rw [g4 k h1 hlt] at hk; cases hk⟩
  · rw [g k h1 h2] at hk; cases hk

end YashModel.Common
