/-
  Lists of key/value pairs read as finite maps.  The models have several look-ups (first pair with the key) and
  several updates (`BTreeMap::insert` keeping key order; replace in place or append); the map law
  `get (put l k v) q = if q = k then some v else get l q` holds of every combination, and for the same reason:
  an update rebuilds the list pair by pair, changes at most the pair with the key, and adds the pair where the key
  is new.  The lemma takes the model's own `get` and `put` with their defining equations.
-/
namespace YashModel.Common

variable {κ β : Type} [DecidableEq κ]

/-- `get` answers with the first pair that has the key -/
structure IsGet (get : List (κ × β) → κ → Option β) : Prop where
  nil : ∀ q, get [] q = none
  cons : ∀ k v t q, get ((k, v) :: t) q = if q = k then some v else get t q

/-- `put l k v` replaces the first pair with key `k`, or inserts `(k, v)` in front of some pair or at the end;
    `stop k k'` is the model's test for inserting in front of a pair with key `k'` (never, for a list without order) -/
structure IsPut (put : List (κ × β) → κ → β → List (κ × β)) (stop : κ → κ → Prop)
    [∀ a b, Decidable (stop a b)] : Prop where
  nil : ∀ k v, put [] k v = [(k, v)]
  cons : ∀ k' v' t k v, put ((k', v') :: t) k v =
    if k = k' then (k, v) :: t else if stop k k' then (k, v) :: (k', v') :: t else (k', v') :: put t k v

theorem get_put {get : List (κ × β) → κ → Option β} {put : List (κ × β) → κ → β → List (κ × β)} {stop : κ → κ → Prop}
    [∀ a b, Decidable (stop a b)] (G : IsGet get) (P : IsPut put stop) (l : List (κ × β)) (k q : κ) (v : β) :
    get (put l k v) q = if q = k then some v else get l q := by
  induction l with
  | nil => rw [P.nil, G.cons, G.nil]
  | cons hd tl ih =>
    obtain ⟨k', v'⟩ := hd
    rw [P.cons]
    by_cases h1 : k = k'
    · subst h1
      rw [if_pos rfl, G.cons, G.cons]
      by_cases hq : q = k
      · rw [if_pos hq, if_pos hq]
      · rw [if_neg hq, if_neg hq, if_neg hq]
    · rw [if_neg h1]
      by_cases h2 : stop k k'
      · rw [if_pos h2]; exact G.cons ..
      · rw [if_neg h2, G.cons, G.cons, ih]
        by_cases hq : q = k'
        · subst hq; rw [if_pos rfl, if_neg (Ne.symm h1), if_pos rfl]
        · rw [if_neg hq, if_neg hq]

/-- removing every pair with key `k` (the models write `filter`) -/
theorem get_filter_ne {get : List (κ × β) → κ → Option β} (G : IsGet get) (l : List (κ × β)) (k q : κ) :
    get (l.filter fun kv => kv.1 ≠ k) q = if q = k then none else get l q := by
  induction l with
  | nil => rw [List.filter_nil, G.nil, ite_self]
  | cons hd tl ih =>
    obtain ⟨k', v'⟩ := hd
    rw [List.filter_cons, G.cons]
    by_cases h1 : k' = k
    · subst h1
      rw [if_neg (by simp), ih]
      by_cases hq : q = k'
      · rw [if_pos hq, if_pos hq]
      · rw [if_neg hq, if_neg hq, if_neg hq]
    · rw [if_pos (by simpa using h1), G.cons, ih]
      by_cases hq : q = k'
      · rw [if_pos hq, if_pos hq, if_neg (hq ▸ h1)]
      · rw [if_neg hq, if_neg hq]

end YashModel.Common
