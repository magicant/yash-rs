/-
  C11 — single operations, below the level of histories: the order of dispositions, the modelled system, the map and the
  invariant `Inv`; what each `GrandState` operation does to the system (a list of `set_disposition` calls on its own
  signal) and to its entry.
  Names: `…E_…` is about an operation of one entry (`GrandState::…`), `…T_…` about the `TrapSet` operation where both
  exist, `…F_…` about the recording layer (`SyscallLemmas.lean`).
-/
import YashModel.Trap.Model
import YashModel.Trap.Spec
import YashModel.Common.AList
namespace YashModel.Trap

theorem Disp.max_default_left (a : Disp) : Disp.default.max a = a := by cases a <;> rfl
theorem Disp.max_default_right (a : Disp) : a.max .default = a := by cases a <;> rfl
theorem Disp.max_self (a : Disp) : a.max a = a := by cases a <;> rfl
theorem Disp.max_comm (a b : Disp) : a.max b = b.max a := by cases a <;> cases b <;> rfl
theorem Disp.max_assoc (a b c : Disp) : (a.max b).max c = a.max (b.max c) := by
  cases a <;> cases b <;> cases c <;> rfl
theorem Disp.max_catch_left (a : Disp) : Disp.catch.max a = .catch := by cases a <;> rfl
theorem Disp.max_catch_right (a : Disp) : a.max .catch = .catch := by cases a <;> rfl
theorem Disp.max_rank (a b : Disp) : (a.max b).rank = Nat.max a.rank b.rank := by
  cases a <;> cases b <;> rfl
theorem Disp.max_eq_default {a b : Disp} : a.max b = .default ↔ a = .default ∧ b = .default := by
  cases a <;> cases b <;> decide
theorem Disp.max_eq_catch {a b : Disp} : a.max b = .catch ↔ a = .catch ∨ b = .catch := by
  cases a <;> cases b <;> decide

@[simp] theorem upd_same {α : Type} (f : Nat → α) (k : Nat) (v : α) : upd f k v k = v := by simp [upd]
@[simp] theorem upd_other {α : Type} (f : Nat → α) (k s : Nat) (v : α) (h : s ≠ k) : upd f k v s = f s := by
  simp [upd, h]
theorem upd_apply {α : Type} (f : Nat → α) (k s : Nat) (v : α) : upd f k v s = if s = k then v else f s := rfl

@[simp] theorem setDisposition_fst (sys : Sys) (k : Nat) (d : Disp) : (sys.setDisposition k d).1 = sys.disp k := by
  unfold Sys.setDisposition Sys.updateMask; split <;> rfl

theorem setDisposition_disp (sys : Sys) (k s : Nat) (d : Disp) :
    (sys.setDisposition k d).2.disp s = if s = k then d else sys.disp s := by
  unfold Sys.setDisposition Sys.updateMask
  by_cases h : d = .catch <;> simp [h, upd_apply]

theorem setDisposition_blocked (sys : Sys) (k s : Nat) (d : Disp) :
    (sys.setDisposition k d).2.blocked s = if s = k then (d == .catch) else sys.blocked s := by
  unfold Sys.setDisposition Sys.updateMask
  by_cases h : d = .catch <;> by_cases hs : s = k <;> simp [h, hs]

theorem setDisposition_selectMask (sys : Sys) (k : Nat) (d : Disp) :
    (sys.setDisposition k d).2.selectMask = some (upd (sys.selectMask.getD sys.blocked) k false) := by
  unfold Sys.setDisposition Sys.updateMask
  by_cases h : d = .catch <;> simp [h]

@[simp] theorem setDisposition_disp_same (sys : Sys) (k : Nat) (d : Disp) :
    (sys.setDisposition k d).2.disp k = d := by simp [setDisposition_disp]
@[simp] theorem setDisposition_disp_other (sys : Sys) (k s : Nat) (d : Disp) (h : s ≠ k) :
    (sys.setDisposition k d).2.disp s = sys.disp s := by simp [setDisposition_disp, h]

/-- what the blocking mask and the select mask must look like (`mask_iff_catch`):
    blocked exactly when caught; before the first `set_disposition` nothing is blocked, afterwards
    the mask used inside `select` blocks nothing (so a caught signal is deliverable there) -/
structure SysOK (sys : Sys) : Prop where
  mask : ∀ s, sys.blocked s = (sys.disp s == .catch)
  sel : match sys.selectMask with
    | none => ∀ s, sys.blocked s = false
    | some m => ∀ s, m s = false

theorem SysOK.select_open {sys : Sys} (h : SysOK sys) (s : Nat) : (sys.selectMask.getD sys.blocked) s = false := by
  have hsel := h.sel
  cases hm : sys.selectMask with
  | none => rw [hm] at hsel; exact hsel s
  | some m => rw [hm] at hsel; exact hsel s

theorem sysOK_setDisposition (sys : Sys) (k : Nat) (d : Disp) (h : SysOK sys) :
    SysOK (sys.setDisposition k d).2 := by
  refine ⟨?_, ?_⟩
  · intro s
    rw [setDisposition_blocked, setDisposition_disp]
    by_cases hs : s = k <;> simp [hs, h.mask]
  · rw [setDisposition_selectMask]
    intro s
    by_cases hs : s = k
    · simp [hs]
    · rw [upd_other _ _ _ _ hs]; exact h.select_open s

theorem get_set (t : TrapMap) (k s : Nat) (v : GrandState) :
    get (set t k v) s = if s = k then some v else get t s :=
  Common.get_put (stop := (· < ·)) ⟨fun _ => rfl, fun _ _ _ _ => rfl⟩ ⟨fun _ _ => rfl, fun _ _ _ _ _ => rfl⟩ t k s v

theorem get_setOpt (t : TrapMap) (k s : Nat) (e : Option GrandState) :
    get (setOpt t k e) s = if s = k ∧ e.isSome then e else get t s := by
  cases e with
  | none => simp [setOpt]
  | some v => simp only [setOpt, get_set]; by_cases h : s = k <;> simp [h]

theorem get_clearParents (t : TrapMap) (s : Nat) :
    get (clearParents t) s = (get t s).map GrandState.clearParent := by
  induction t with
  | nil => simp [clearParents, get]
  | cons kv t ih =>
    obtain ⟨k', v'⟩ := kv
    simp only [clearParents, List.map_cons, get] at ih ⊢
    by_cases h : s = k' <;> simp [h, ih]

def Lo (k : Nat) (t : TrapMap) : Prop := ∀ s g, get t s = some g → k < s

/-- ascending key order (what `BTreeMap` guarantees) -/
def Sorted : TrapMap → Prop
  | [] => True
  | (k, _) :: t => Lo k t ∧ Sorted t

theorem lo_get_none {k : Nat} {t : TrapMap} (h : Lo k t) : get t k = none := by
  cases hg : get t k with
  | none => rfl
  | some g => exact absurd (h k g hg) (Nat.lt_irrefl k)

theorem sorted_set (t : TrapMap) (k : Nat) (v : GrandState) (h : Sorted t) : Sorted (set t k v) := by
  induction t with
  | nil => simp [set, Sorted, Lo, get]
  | cons kv t ih =>
    obtain ⟨k', v'⟩ := kv
    obtain ⟨hlo, hs⟩ := h
    simp only [set]
    by_cases h1 : k = k'
    · subst h1; simp only [if_true]; exact ⟨hlo, hs⟩
    · by_cases h2 : k < k'
      · simp only [h1, h2, if_false, if_true]
        refine ⟨?_, hlo, hs⟩
        intro s g hg
        simp only [get] at hg
        by_cases h3 : s = k'
        · omega
        · simp only [h3, if_false] at hg
          have := hlo s g hg
          omega
      · simp only [h1, h2, if_false]
        refine ⟨?_, ih hs⟩
        intro s g hg
        rw [get_set] at hg
        by_cases h3 : s = k
        · omega
        · simp only [h3, if_false] at hg
          exact hlo s g hg

theorem sorted_setOpt (t : TrapMap) (k : Nat) (e : Option GrandState) (h : Sorted t) :
    Sorted (setOpt t k e) := by
  cases e with
  | none => exact h
  | some v => exact sorted_set t k v h

theorem lo_of_get_eq {k : Nat} {t t' : TrapMap} (h : ∀ s, (get t' s).isSome = (get t s).isSome)
    (hlo : Lo k t) : Lo k t' := by
  intro s g hg
  have h1 := h s
  rw [hg] at h1
  cases hg' : get t s with
  | none => rw [hg'] at h1; simp at h1
  | some g' => exact hlo s g' hg'

theorem sorted_clearParents (t : TrapMap) (h : Sorted t) : Sorted (clearParents t) := by
  induction t with
  | nil => exact h
  | cons kv t ih =>
    obtain ⟨k', v'⟩ := kv
    obtain ⟨hlo, hs⟩ := h
    refine ⟨?_, ih hs⟩
    apply lo_of_get_eq _ hlo
    intro s
    have := get_clearParents t s
    simp only [clearParents] at this
    rw [this]
    cases get t s <;> rfl

@[simp] theorem expected_none (init : Disp) : expected none init = init := rfl
@[simp] theorem expected_some (g : GrandState) (init : Disp) :
    expected (some g) init = g.internal.max g.current.action.toDisp := rfl

theorem expected_clearParent (e : Option GrandState) (init : Disp) :
    expected (e.map GrandState.clearParent) init = expected e init := by
  cases e <;> rfl

theorem fromInitial_toDisp (d : Disp) (h : d ≠ .catch) : (TrapState.fromInitial d).action.toDisp = d := by
  cases d <;> first | rfl | exact absurd rfl h

theorem fromInitial_not_command (d : Disp) : (TrapState.fromInitial d).action.isCommand = false := by
  cases d <;> rfl

/-- installed = reference merge, for every signal (EXIT, key 0, has no disposition) -/
def DInv (init : Nat → Disp) (st : State) : Prop :=
  ∀ s, s ≠ 0 → st.sys.disp s = expected (get st.traps s) (init s)

structure Inv (init : Nat → Disp) (st : State) : Prop where
  sorted : Sorted st.traps
  disp : DInv init st
  sys : SysOK st.sys

def IsKillStop (k : Nat) : Prop := k = SIGKILL ∨ k = SIGSTOP

instance (k : Nat) : Decidable (IsKillStop k) := inferInstanceAs (Decidable (_ ∨ _))

theorem killStop_ne {k : Nat} (hk : IsKillStop k) :
    k ≠ 0 ∧ k ≠ SIGCHLD ∧ k ≠ SIGINT ∧ k ≠ SIGQUIT ∧ k ≠ SIGTERM ∧ k ≠ SIGTSTP ∧ k ≠ SIGTTIN ∧ k ≠ SIGTTOU := by
  rcases hk with h | h <;> subst h <;> decide

/-- the trap state an accepted `set_action` records -/
def newState (a : Action) (o : Nat) : TrapState := { action := a, origin := .user o, pending := false }

/-- `sys` after successful `set_disposition(s, d)` for each `(s, d)` of the list, in order -/
def sysAfter (sys : Sys) : List (Nat × Disp) → Sys
  | [] => sys
  | (s, d) :: r => sysAfter (sys.setDisposition s d).2 r

theorem sysAfter_append (sys : Sys) (p q : List (Nat × Disp)) :
    sysAfter sys (p ++ q) = sysAfter (sysAfter sys p) q := by
  induction p generalizing sys with
  | nil => rfl
  | cons a p ih => obtain ⟨s, d⟩ := a; simp [sysAfter, ih]

theorem sysOK_sysAfter (sys : Sys) (ps : List (Nat × Disp)) (h : SysOK sys) : SysOK (sysAfter sys ps) := by
  induction ps generalizing sys with
  | nil => exact h
  | cons p ps ih => exact ih _ (sysOK_setDisposition _ _ _ h)

/-- the disposition an entry asks for (`expected` of an occupied entry) -/
abbrev merge (g : GrandState) : Disp := g.internal.max g.current.action.toDisp

theorem Inv.disp_some {init : Nat → Disp} {st : State} (h : Inv init st) {s : Nat} (hs0 : s ≠ 0) {g : GrandState}
    (hg : get st.traps s = some g) : st.sys.disp s = g.internal.max g.current.action.toDisp := by rw [h.disp s hs0, hg]; rfl

theorem Inv.disp_none {init : Nat → Disp} {st : State} (h : Inv init st) {s : Nat} (hs0 : s ≠ 0)
    (hg : get st.traps s = none) : st.sys.disp s = init s := by rw [h.disp s hs0, hg]; rfl

/-- the shape of every guarded call of `trap/state.rs`: `set_disposition(d)` only if `b` -/
def callIf (b : Prop) [Decidable b] (d : Disp) : List Disp := if b then [d] else []

/-- installs on the one signal `k` -/
def atSig (k : Nat) (ds : List Disp) : List (Nat × Disp) := ds.map fun d => (k, d)

theorem sysAfter_atSig_other (sys : Sys) (k s : Nat) (ds : List Disp) (hs : s ≠ k) :
    (sysAfter sys (atSig k ds)).disp s = sys.disp s := by
  induction ds generalizing sys with
  | nil => rfl
  | cons d ds ih =>
    show (sysAfter (sys.setDisposition k d).2 (atSig k ds)).disp s = _
    rw [ih, setDisposition_disp_other _ _ _ _ hs]

theorem sysAfter_atSig_same (sys : Sys) (k : Nat) (ds : List Disp) :
    (sysAfter sys (atSig k ds)).disp k = ds.getLastD (sys.disp k) := by
  induction ds generalizing sys with
  | nil => rfl
  | cons d ds ih =>
    show (sysAfter (sys.setDisposition k d).2 (atSig k ds)).disp k = _
    rw [ih, setDisposition_disp_same, List.getLastD_cons]

/-! What `set_action`, `set_internal_disposition`, `enter_subshell` and `ignore` of the entry of `k` do to the system is
    a list of `set_disposition` calls on `k`: the list as a function of the entry (`…Calls`; `[.ignore]` for `ignore`),
    and the system afterwards as `sysAfter` of it (`…_sys`).  The recording layer makes the same calls, up to
    the first that fails (`SyscallLemmas.lean`, `…F_eq`). -/

/-- the calls of `GrandState::set_action` on the entry `e` while `d0` is installed: the probe and the installation for a
    vacant entry, one guarded call for an occupied one -/
def GrandState.setActionCalls (e : Option GrandState) (d0 : Disp) (k : Nat) (a : Action) (ov : Bool) : List Disp :=
  match e with
  | none =>
    if k = 0 then []
    else if ov = true then [a.toDisp]
    else .ignore :: (if d0 = .ignore then [] else callIf (a.toDisp ≠ .ignore) a.toDisp)
  | some g =>
    if ov = false ∧ g.current.action = .ignore ∧ g.current.origin = .inherited then []
    else callIf (k ≠ 0 ∧ merge g ≠ g.internal.max a.toDisp) (g.internal.max a.toDisp)

def GrandState.setInternalCalls (e : Option GrandState) (d : Disp) : List Disp :=
  match e with
  | none => callIf (d ≠ .default) d
  | some g => callIf (merge g ≠ d.max g.current.action.toDisp) (d.max g.current.action.toDisp)

def GrandState.enterCalls (g : GrandState) (k : Nat) (opt : SubOpt) : List Disp :=
  callIf (merge g ≠ g.enterNewDisp opt ∧ k ≠ 0) (g.enterNewDisp opt)

/-- the calls of the loop of `TrapSet::enter_subshell` -/
def enterAllCalls (ii ks : Bool) : TrapMap → List (Nat × Disp)
  | [] => []
  | (k, g) :: t => atSig k (g.enterCalls k (subshellOption k g ii ks)) ++ enterAllCalls ii ks t

theorem callIf_sys (sys : Sys) (b : Prop) [Decidable b] (k : Nat) (d : Disp) :
    (if b then (sys.setDisposition k d).2 else sys) = sysAfter sys (atSig k (callIf b d)) := by
  unfold callIf atSig; split <;> rfl

theorem callIf_same (sys : Sys) (b : Prop) [Decidable b] (k : Nat) (d : Disp) (h : ¬ b → sys.disp k = d) :
    (sysAfter sys (atSig k (callIf b d))).disp k = d := by
  rw [sysAfter_atSig_same]
  unfold callIf
  split
  · rfl
  · exact h ‹_›

theorem setAction_sys (sys : Sys) (e : Option GrandState) (k : Nat) (a : Action) (o : Nat) (ov : Bool) :
    (GrandState.setAction sys e k a o ov).1
      = sysAfter sys (atSig k (GrandState.setActionCalls e (sys.disp k) k a ov)) := by
  unfold GrandState.setAction GrandState.setActionCalls
  cases e with
  | none =>
    by_cases hk : k = 0 <;> cases ov <;> by_cases hi : sys.disp k = .ignore <;>
      by_cases ha : a.toDisp = .ignore <;> simp [hk, hi, ha, callIf, atSig, sysAfter]
  | some g =>
    simp only
    by_cases hr : ov = false ∧ g.current.action = .ignore ∧ g.current.origin = .inherited
    · rw [if_pos hr, if_pos hr]; rfl
    · rw [if_neg hr, if_neg hr]; exact callIf_sys sys _ k _

theorem setInternal_sys (sys : Sys) (e : Option GrandState) (k : Nat) (d : Disp) :
    (GrandState.setInternal sys e k d).1 = sysAfter sys (atSig k (GrandState.setInternalCalls e d)) := by
  unfold GrandState.setInternal GrandState.setInternalCalls
  cases e with
  | none => simp only [callIf, atSig]; by_cases h : d = .default <;> simp [h, sysAfter]
  | some g => exact callIf_sys sys _ k _

theorem enterSubshell_sys (sys : Sys) (g : GrandState) (k : Nat) (opt : SubOpt) :
    (g.enterSubshell sys k opt).1 = sysAfter sys (atSig k (g.enterCalls k opt)) :=
  callIf_sys sys _ k _

theorem enterAll_sys (ii ks : Bool) (t : TrapMap) (sys : Sys) :
    (enterAll sys ii ks t).1 = sysAfter sys (enterAllCalls ii ks t) := by
  induction t generalizing sys with
  | nil => rfl
  | cons kv t ih => obtain ⟨k, g⟩ := kv; rw [enterAll, ih, enterSubshell_sys, enterAllCalls, sysAfter_append]

theorem setActionE_other (sys : Sys) (e : Option GrandState) (k s : Nat) (a : Action) (o : Nat) (ov : Bool)
    (hs : s ≠ k) : (GrandState.setAction sys e k a o ov).1.disp s = sys.disp s := by
  rw [setAction_sys]; exact sysAfter_atSig_other sys k s _ hs

theorem setActionE_sysOK (sys : Sys) (e : Option GrandState) (k : Nat) (a : Action) (o : Nat) (ov : Bool)
    (h : SysOK sys) : SysOK (GrandState.setAction sys e k a o ov).1 := by
  rw [setAction_sys]; exact sysOK_sysAfter sys _ h

theorem setInternalE_other (sys : Sys) (e : Option GrandState) (k s : Nat) (d : Disp) (hs : s ≠ k) :
    (GrandState.setInternal sys e k d).1.disp s = sys.disp s := by
  rw [setInternal_sys]; exact sysAfter_atSig_other sys k s _ hs

theorem setInternalE_sysOK (sys : Sys) (e : Option GrandState) (k : Nat) (d : Disp) (h : SysOK sys) :
    SysOK (GrandState.setInternal sys e k d).1 := by
  rw [setInternal_sys]; exact sysOK_sysAfter sys _ h

theorem ignoreE_other (sys : Sys) (k s : Nat) (hs : s ≠ k) :
    (GrandState.ignore sys k).1.disp s = sys.disp s :=
  sysAfter_atSig_other sys k s [.ignore] hs

theorem ignoreE_sysOK (sys : Sys) (k : Nat) (h : SysOK sys) : SysOK (GrandState.ignore sys k).1 :=
  sysOK_sysAfter sys (atSig k [.ignore]) h

/-- "ignored on entry" as `GrandState::set_action` sees it, on the entry `e` while `d0` is installed (`Spec.refused`) -/
def refusedE (e : Option GrandState) (d0 : Disp) (k : Nat) (ov : Bool) : Bool :=
  !ov &&
  match e with
  | none => k != 0 && d0 == .ignore
  | some g => g.current.action == .ignore && g.current.origin == .inherited

theorem setAction_entry (sys : Sys) (e : Option GrandState) (k : Nat) (a : Action) (o : Nat) (ov : Bool) :
    (GrandState.setAction sys e k a o ov).2
      = if refusedE e (sys.disp k) k ov then (e.getD { current := .fromInitial .ignore }, some .initiallyIgnored)
        else ({ current := newState a o, parent := e.bind (·.parent),
                internal := (e.map (·.internal)).getD .default }, none) := by
  unfold GrandState.setAction refusedE newState
  cases e with
  | none => by_cases h0 : k = 0 <;> cases ov <;> by_cases hi : sys.disp k = .ignore <;> simp [h0, hi]
  | some g =>
    cases ov <;> by_cases hi : g.current.action = .ignore ∧ g.current.origin = .inherited <;> simp [hi]

theorem refusedE_some {g : GrandState} {d0 : Disp} {k : Nat} {ov : Bool} :
    refusedE (some g) d0 k ov = true ↔ ov = false ∧ g.current.action = .ignore ∧ g.current.origin = .inherited := by
  cases ov <;> simp [refusedE]

theorem setActionE_same (sys : Sys) (e : Option GrandState) (k : Nat) (a : Action) (o : Nat) (ov : Bool)
    (init : Disp) (hk : k ≠ 0) (h : sys.disp k = expected e init) :
    (GrandState.setAction sys e k a o ov).1.disp k
      = expected (some (GrandState.setAction sys e k a o ov).2.1) init := by
  rw [setAction_sys, setAction_entry]
  cases e with
  | none =>
    -- the probe installs `Ignore` (the only way to learn what was inherited); refused iff that was installed already;
    -- otherwise the action's disposition is installed, by a second call unless it is `Ignore` itself
    unfold GrandState.setActionCalls refusedE
    cases ov with
    | true => simp [hk, sysAfter_atSig_same, newState, Disp.max_default_left]
    | false =>
      by_cases hi : sys.disp k = .ignore
      · simp [hk, hi, sysAfter_atSig_same, TrapState.fromInitial, Action.toDisp, Disp.max_default_left]
      · by_cases ha : a.toDisp = .ignore <;>
          simp [hk, hi, ha, sysAfter_atSig_same, callIf, newState, Disp.max_default_left]
  | some g =>
    have h : sys.disp k = merge g := h
    by_cases hr : ov = false ∧ g.current.action = .ignore ∧ g.current.origin = .inherited
    · rw [if_pos (refusedE_some.mpr hr)]
      simp only [GrandState.setActionCalls, if_pos hr]
      exact h
    · rw [if_neg (mt refusedE_some.mp hr)]
      simp only [GrandState.setActionCalls, if_neg hr]
      exact callIf_same sys _ k _ fun hb => by
        rw [h]; exact Decidable.not_not.mp fun hne => hb ⟨hk, hne⟩

/-- an inherited disposition as an entry records it is at most `Ignore`; an internal one other than `Default` at least -/
theorem Disp.max_fromInitial (d init : Disp) (hd : d ≠ .default) :
    d.max (TrapState.fromInitial init).action.toDisp = d := by
  cases d <;> cases init <;> first | rfl | exact absurd rfl hd

theorem setInternalE_same (sys : Sys) (e : Option GrandState) (k : Nat) (d : Disp)
    (init : Disp) (h : sys.disp k = expected e init) :
    (GrandState.setInternal sys e k d).1.disp k
      = expected (GrandState.setInternal sys e k d).2 init := by
  rw [setInternal_sys]
  cases e with
  | none =>
    -- nothing happens for `Default`; otherwise `d` is installed and what was installed is recorded as inherited
    by_cases hd : d = .default
    · subst hd; exact h
    · simp only [GrandState.setInternalCalls, GrandState.setInternal, hd, if_false, expected_some, setDisposition_fst,
        Disp.max_fromInitial _ _ hd]
      exact callIf_same sys _ k _ fun hb => absurd hd hb
  | some g => exact callIf_same sys _ k _ fun hb => by rw [h]; exact Decidable.not_not.mp hb

theorem enterNewDisp_eq (g : GrandState) (opt : SubOpt) : g.enterNewDisp opt = merge (g.enterState opt) := by
  obtain ⟨⟨a, o, p⟩, par, i⟩ := g
  cases opt <;> cases a <;> cases i <;> rfl

theorem enterE_same (sys : Sys) (g : GrandState) (k : Nat) (opt : SubOpt) (hk : k ≠ 0)
    (h : sys.disp k = g.internal.max g.current.action.toDisp) :
    (g.enterSubshell sys k opt).1.disp k
      = (g.enterSubshell sys k opt).2.internal.max (g.enterSubshell sys k opt).2.current.action.toDisp := by
  show _ = merge (g.enterState opt)
  rw [← enterNewDisp_eq, enterSubshell_sys]
  exact callIf_same sys _ k _ fun hb => h.trans (Decidable.not_not.mp fun hne => hb ⟨hne, hk⟩)

theorem enterE_snd (sys : Sys) (g : GrandState) (k : Nat) (opt : SubOpt) :
    (g.enterSubshell sys k opt).2 = g.enterState opt := rfl

theorem ignoreE_same (sys : Sys) (k : Nat) :
    (GrandState.ignore sys k).1.disp k
      = (GrandState.ignore sys k).2.internal.max (GrandState.ignore sys k).2.current.action.toDisp := by
  simp [GrandState.ignore, Action.toDisp, Disp.max_default_left]

theorem enterAll_sysOK (sys : Sys) (ii ks : Bool) (t : TrapMap) (h : SysOK sys) :
    SysOK (enterAll sys ii ks t).1 := by
  rw [enterAll_sys]; exact sysOK_sysAfter sys _ h

theorem get_enterAll (sys : Sys) (ii ks : Bool) (t : TrapMap) (s : Nat) :
    get (enterAll sys ii ks t).2 s
      = (get t s).map fun g => g.enterState (subshellOption s g ii ks) := by
  induction t generalizing sys with
  | nil => simp [enterAll, get]
  | cons kv t ih =>
    obtain ⟨k, g⟩ := kv
    simp only [enterAll, get]
    by_cases h : s = k
    · subst h; simp [enterE_snd]
    · simp [h, ih]

theorem sorted_enterAll (sys : Sys) (ii ks : Bool) (t : TrapMap) (h : Sorted t) :
    Sorted (enterAll sys ii ks t).2 := by
  induction t generalizing sys with
  | nil => exact h
  | cons kv t ih =>
    obtain ⟨k, g⟩ := kv
    obtain ⟨hlo, hs⟩ := h
    simp only [enterAll]
    refine ⟨?_, ih _ hs⟩
    apply lo_of_get_eq _ hlo
    intro s
    rw [get_enterAll]
    cases get t s <;> rfl

theorem enterAll_disp (sys : Sys) (ii ks : Bool) (t : TrapMap) (s : Nat) (hsorted : Sorted t) :
    (enterAll sys ii ks t).1.disp s
      = match get t s with
        | none => sys.disp s
        | some g => (g.enterSubshell sys s (subshellOption s g ii ks)).1.disp s := by
  induction t generalizing sys with
  | nil => simp [enterAll, get]
  | cons kv t ih =>
    obtain ⟨k, g⟩ := kv
    obtain ⟨hlo, hs⟩ := hsorted
    simp only [enterAll, get]
    rw [ih _ hs]
    by_cases h : s = k
    · subst h
      simp [lo_get_none hlo]
    · simp only [h, if_false]
      cases hg : get t s with
      | none => simp [enterSubshell_sys, sysAfter_atSig_other _ _ _ _ h]
      | some g' =>
        -- the calls for `s` do not depend on the system, and the loop has not touched `s` yet
        simp only
        simp only [enterSubshell_sys, sysAfter_atSig_same, sysAfter_atSig_other _ _ _ _ h]

/-- everything in an entry except the `pending` flag -/
def core (g : GrandState) : Action × Origin × Option TrapState × Disp :=
  (g.current.action, g.current.origin, g.parent, g.internal)

theorem expected_of_core {e e' : Option GrandState} (h : e'.map core = e.map core) (init : Disp) :
    expected e' init = expected e init := by
  cases e <;> cases e' <;> simp_all [core, expected]

theorem isSome_of_core {e e' : Option GrandState} (h : e'.map core = e.map core) :
    e'.isSome = e.isSome := by
  cases e <;> cases e' <;> simp_all

theorem core_markAsCaught (g : GrandState) : core g.markAsCaught = core g := rfl
theorem handleIfCaught_fst (g : GrandState) :
    g.handleIfCaught.1 = { g with current := { g.current with pending := false } } := by
  obtain ⟨⟨a, o, p⟩, pa, i⟩ := g; cases p <;> rfl

theorem core_handleIfCaught (g : GrandState) : core g.handleIfCaught.1 = core g := by
  rw [handleIfCaught_fst]; rfl

theorem get_catchSignal (t : TrapMap) (k x : Nat) :
    get (catchSignal t k) x = if x = k then (get t k).map GrandState.markAsCaught else get t x := by
  unfold catchSignal
  cases hg : get t k with
  | none => by_cases h : x = k <;> simp [h, hg]
  | some g => simp only [get_set, Option.map_some]

theorem get_takeIf (t : TrapMap) (k x : Nat) :
    get (takeSignalIfCaught t k).1 x = if x = k then (get t k).map (·.handleIfCaught.1) else get t x := by
  unfold takeSignalIfCaught
  cases hg : get t k with
  | none => by_cases h : x = k <;> simp [h, hg]
  | some g => simp only [get_set, Option.map_some]

theorem catchSignal_core (t : TrapMap) (k s : Nat) :
    (get (catchSignal t k) s).map core = (get t s).map core := by
  rw [get_catchSignal]
  split
  · subst s; cases get t k <;> rfl
  · rfl

theorem sorted_catchSignal (t : TrapMap) (k : Nat) (h : Sorted t) : Sorted (catchSignal t k) := by
  unfold catchSignal
  cases get t k with
  | none => exact h
  | some g => exact sorted_set _ _ _ h

theorem takeIf_core (t : TrapMap) (k s : Nat) :
    (get (takeSignalIfCaught t k).1 s).map core = (get t s).map core := by
  rw [get_takeIf]
  split
  · subst s; cases get t k <;> simp [core_handleIfCaught]
  · rfl

theorem sorted_takeIf (t : TrapMap) (k : Nat) (h : Sorted t) : Sorted (takeSignalIfCaught t k).1 := by
  unfold takeSignalIfCaught
  cases get t k with
  | none => exact h
  | some g => exact sorted_set _ _ _ h

theorem takeCaught_cons_due {k : Nat} {g : GrandState} (t : TrapMap) (hc : k ≠ 0 ∧ g.current.pending = true) :
    takeCaughtSignal ((k, g) :: t) = ((k, g.handleIfCaught.1) :: t, some (k, { g.current with pending := false })) := by
  simp [takeCaughtSignal, hc]

theorem takeCaught_cons_skip {k : Nat} {g : GrandState} (t : TrapMap) (hc : ¬ (k ≠ 0 ∧ g.current.pending = true)) :
    takeCaughtSignal ((k, g) :: t) = ((k, g) :: (takeCaughtSignal t).1, (takeCaughtSignal t).2) := by
  simp only [takeCaughtSignal, hc, if_false]

theorem takeCaught_core (t : TrapMap) (s : Nat) :
    (get (takeCaughtSignal t).1 s).map core = (get t s).map core := by
  induction t with
  | nil => rfl
  | cons kv t ih =>
    obtain ⟨k, g⟩ := kv
    by_cases hc : k ≠ 0 ∧ g.current.pending = true
    · simp only [takeCaught_cons_due t hc, get]
      by_cases h : s = k
      · simp [h, core_handleIfCaught]
      · simp [h]
    · simp only [takeCaught_cons_skip t hc, get]
      by_cases h : s = k
      · simp [h]
      · simp [h, ih]

theorem sorted_takeCaught (t : TrapMap) (h : Sorted t) : Sorted (takeCaughtSignal t).1 := by
  induction t with
  | nil => exact h
  | cons kv t ih =>
    obtain ⟨k, g⟩ := kv
    obtain ⟨hlo, hs⟩ := h
    by_cases hc : k ≠ 0 ∧ g.current.pending = true
    · rw [takeCaught_cons_due t hc]; exact ⟨hlo, hs⟩
    · rw [takeCaught_cons_skip t hc]
      refine ⟨?_, ih hs⟩
      exact lo_of_get_eq (fun s => isSome_of_core (takeCaught_core t s)) hlo

theorem setAction_killStop (st : State) (c : Nat) (a : Action) (o : Nat) (ov : Bool) (h : IsKillStop c) :
    setAction st c a o ov = (st, some (if c = SIGKILL then .sigkill else .sigstop)) := by
  rcases h with h | h <;> subst h <;> rfl

theorem setAction_of_not_killStop (st : State) (c : Nat) (a : Action) (o : Nat) (ov : Bool) (h : ¬ IsKillStop c) :
    setAction st c a o ov
      = (⟨(GrandState.setAction st.sys (get (clearParents st.traps) c) c a o ov).1,
          set (clearParents st.traps) c (GrandState.setAction st.sys (get (clearParents st.traps) c) c a o ov).2.1⟩,
         (GrandState.setAction st.sys (get (clearParents st.traps) c) c a o ov).2.2) := by
  unfold setAction
  rw [if_neg fun e => h (.inl e), if_neg fun e => h (.inr e)]

/-- `set_action` on a condition other than KILL/STOP fails exactly when the condition is ignored on entry
    (`refused`), and then leaves the entry (`{Ignore, Inherited}` if it was vacant); otherwise the entry holds
    exactly the new trap state, no parent state, and the internal disposition it had -/
theorem setAction_spec (st : State) (c : Nat) (a : Action) (o : Nat) (ov : Bool) (h : ¬ IsKillStop c) :
    (setAction st c a o ov).2 = (if refused st c ov then some .initiallyIgnored else none)
    ∧ (setAction st c a o ov).1.traps = set (clearParents st.traps) c
        (if refused st c ov then
          ((get st.traps c).map GrandState.clearParent).getD { current := .fromInitial .ignore }
         else { current := newState a o, parent := none,
                internal := ((get st.traps c).map (·.internal)).getD .default }) := by
  have hr : refusedE (get (clearParents st.traps) c) (st.sys.disp c) c ov = refused st c ov := by
    rw [get_clearParents]; unfold refused refusedE; cases get st.traps c <;> rfl
  rw [setAction_of_not_killStop st c a o ov h]
  simp only [setAction_entry, hr]
  cases refused st c ov <;> simp only [get_clearParents] <;> cases get st.traps c <;> exact ⟨rfl, rfl⟩

theorem get_setAction_ok (st : State) (c : Nat) (a : Action) (o : Nat) (ov : Bool)
    (hok : (setAction st c a o ov).2 = none) :
    get (setAction st c a o ov).1.traps c
      = some { current := newState a o, parent := none,
               internal := ((get st.traps c).map (·.internal)).getD .default } := by
  have hk : ¬ IsKillStop c := fun h => by rw [setAction_killStop st c a o ov h] at hok; cases hok
  obtain ⟨h1, h2⟩ := setAction_spec st c a o ov hk
  rw [hok] at h1
  rw [h2, get_set, if_pos rfl]
  split at h1
  · cases h1
  · rw [if_neg ‹_›]

theorem get_setAction_accepted (st : State) (x : Nat) (a : Action) (o : Nat) (ov : Bool)
    (h : (setAction st x a o ov).2 = none) :
    ∃ g, get (setAction st x a o ov).1.traps x = some g
      ∧ g.current = { action := a, origin := .user o, pending := false } :=
  ⟨_, get_setAction_ok st x a o ov h, rfl⟩

theorem sorted_setAction (st : State) (x : Nat) (a : Action) (o : Nat) (ov : Bool) (h : Sorted st.traps) :
    Sorted (setAction st x a o ov).1.traps := by
  by_cases hk : IsKillStop x
  · rw [setAction_killStop st x a o ov hk]; exact h
  · rw [setAction_of_not_killStop st x a o ov hk]; exact sorted_set _ _ _ (sorted_clearParents _ h)

theorem setInternalE_get (sys : Sys) (t : TrapMap) (k s : Nat) (d : Disp) :
    get (setOpt t k (GrandState.setInternal sys (get t k) k d).2) s
      = if s = k then (GrandState.setInternal sys (get t k) k d).2 else get t s := by
  rw [get_setOpt]
  by_cases h : s = k
  · subst h
    simp only [true_and, if_true]
    unfold GrandState.setInternal
    cases hg : get t s with
    | none => simp only; split <;> simp
    | some g => simp
  · simp [h]

end YashModel.Trap
