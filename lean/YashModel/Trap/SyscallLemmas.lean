/-
  C11 — the system-call layer (`Syscalls.lean`).  Under every fault plan a `GrandState` operation makes the calls of the
  Model's call list, in order, up to the first that fails (`FSys.tryCalls`), and hands back the entry it found if one
  did (`…F_eq`: one equation per operation).  Without faults each operation therefore computes what `Model.lean`
  computes and adds to the record the calls of `stepInstalls` (`…T_faultless`, `stepF_faultless`), whence the refinement
  (`runF_nofault`) and, from `stepInstalls_good`, the Spec predicates of `SyscallSpec.lean` (`calls_clean_of_inv`); under
  any fault plan the record only grows and an operation reports a system error exactly when one of its calls failed
  (`Rec`).
  Names: `X_eq` gives the whole result of `X` under every plan, `X_faultless` without faults; `X_nofault` are the
  projections of the latter (system, plan, entry).
-/
import YashModel.Trap.Economy
import YashModel.Trap.SyscallSpec
namespace YashModel.Trap

/-- the two primitive calls of a successful `set_disposition` -/
def dispCalls (sys : Sys) (sig : Nat) (d : Disp) : List Call :=
  if d = .catch then
    [{ prim := .mask true sig, ok := true }, { prim := .action sig d, ok := true, old := sys.disp sig }]
  else
    [{ prim := .action sig d, ok := true, old := sys.disp sig }, { prim := .mask false sig, ok := true }]

theorem setDispositionF_nofault (s : FSys) (h : s.plan = []) (sig : Nat) (d : Disp) :
    s.setDisposition sig d
      = (some (s.sys.disp sig),
         { sys := (s.sys.setDisposition sig d).2, log := s.log ++ dispCalls s.sys sig d, plan := [] }) := by
  obtain ⟨sys, log, plan⟩ := s
  simp only at h
  subst h
  cases d <;>
    simp [FSys.setDisposition, FSys.sigmask, FSys.sigaction, Sys.setDisposition, Sys.updateMask, dispCalls]

theorem setDispositionF_nofault_sys (s : FSys) (h : s.plan = []) (sig : Nat) (d : Disp) :
    (s.setDisposition sig d).2.sys = (s.sys.setDisposition sig d).2
    ∧ (s.setDisposition sig d).2.plan = []
    ∧ (s.setDisposition sig d).1 = some (s.sys.disp sig)
    ∧ (s.setDisposition sig d).2.log = s.log ++ dispCalls s.sys sig d := by
  rw [setDispositionF_nofault s h]; simp

/-- `fs` stands for `sys` and no fault is planned (the lemmas below say this as `fs.plan = []` and state the system
    afterwards with `FSys.after`) -/
def Sim (fs : FSys) (sys : Sys) : Prop := fs.sys = sys ∧ fs.plan = []

/-- the record of a sequence of successful `set_disposition(sig, d)` calls, starting from `sys` -/
def callsOf (sys : Sys) : List (Nat × Disp) → List Call
  | [] => []
  | (s, d) :: r => dispCalls sys s d ++ callsOf (sys.setDisposition s d).2 r

theorem callsOf_append (sys : Sys) (p q : List (Nat × Disp)) :
    callsOf sys (p ++ q) = callsOf sys p ++ callsOf (sysAfter sys p) q := by
  induction p generalizing sys with
  | nil => rfl
  | cons a p ih => obtain ⟨s, d⟩ := a; simp [callsOf, sysAfter, ih, List.append_assoc]

/-- a faultless recording system after the installs `ps` -/
def FSys.after (fs : FSys) (ps : List (Nat × Disp)) : FSys :=
  { sys := sysAfter fs.sys ps, log := fs.log ++ callsOf fs.sys ps, plan := [] }

theorem FSys.after_after (fs : FSys) (p q : List (Nat × Disp)) : (fs.after p).after q = fs.after (p ++ q) := by
  simp [FSys.after, sysAfter_append, callsOf_append, List.append_assoc]

theorem FSys.after_nil (fs : FSys) (hp : fs.plan = []) : fs.after [] = fs := by
  obtain ⟨sys, log, plan⟩ := fs; subst hp; simp [FSys.after, sysAfter, callsOf]

theorem callIf_record (sys : Sys) (b : Prop) [Decidable b] (c : Nat) (d : Disp) (h : b → d ≠ sys.disp c) :
    wellBracketed (callsOf sys (atSig c (callIf b d))) = true ∧ (callsOf sys (atSig c (callIf b d))).length ≤ 2
    ∧ ∀ x ∈ callsOf sys (atSig c (callIf b d)), x.needless = false := by
  unfold callIf atSig
  split
  · have hd : ¬ sys.disp c = d := fun e => h ‹_› e.symm
    by_cases hc : d = .catch
    · subst hc; simp [callsOf, dispCalls, wellBracketed, Call.needless, hd]
    · simp [callsOf, dispCalls, wellBracketed, Call.needless, hc, hd]
  · simp [callsOf, wellBracketed]

theorem sigmask_disp (s : FSys) (add : Bool) (sig : Nat) : (s.sigmask add sig).2.sys.disp = s.sys.disp := by
  unfold FSys.sigmask; split <;> rfl

theorem sigaction_fst (s : FSys) (sig : Nat) (d : Disp) : ∀ x ∈ (s.sigaction sig d).1, x = s.sys.disp sig := by
  unfold FSys.sigaction; split <;> simp

/-- a `set_disposition` that succeeds returns what was installed, under every plan -/
theorem setDispositionF_fst (s : FSys) (sig : Nat) (d : Disp) : ∀ x ∈ (s.setDisposition sig d).1, x = s.sys.disp sig := by
  intro x
  unfold FSys.setDisposition
  by_cases hd : d = .catch
  · simp only [hd, if_true, ne_eq, not_true_eq_false, if_false]
    have := sigaction_fst (s.sigmask true sig).2 sig .catch
    cases (s.sigmask true sig).1 <;> cases ha : ((s.sigmask true sig).2.sigaction sig .catch).1 <;> simp
    rw [ha] at this
    exact fun h => h ▸ (this _ rfl).trans (congrFun (sigmask_disp s true sig) sig)
  · simp only [hd, if_false, ne_eq, not_false_eq_true, if_true, Bool.true_eq_false]
    have := sigaction_fst s sig d
    cases ha : (s.sigaction sig d).1 <;> simp
    rw [ha] at this
    cases ((s.sigaction sig d).2.sigmask false sig).1 <;> simp
    exact fun h => h ▸ this _ rfl

/-- `set_disposition(k, d)` for each `d` of the list, in order, up to the first that fails (every `?` of `trap/state.rs`
    returns at once); the flag says that none did -/
def FSys.tryCalls (fs : FSys) (k : Nat) : List Disp → FSys × Bool
  | [] => (fs, true)
  | d :: ds =>
    match (fs.setDisposition k d).1 with
    | none => ((fs.setDisposition k d).2, false)
    | some _ => (fs.setDisposition k d).2.tryCalls k ds

/-- the shape of every guarded call in `Syscalls.lean` -/
theorem tryCalls_callIf (fs : FSys) (b : Prop) [Decidable b] (k : Nat) (d : Disp) :
    fs.tryCalls k (callIf b d)
      = ((if b then fs.setDisposition k d else (some .default, fs)).2,
         (if b then fs.setDisposition k d else (some .default, fs)).1.isSome) := by
  unfold callIf
  split
  · simp only [FSys.tryCalls]; cases (fs.setDisposition k d).1 <;> rfl
  · rfl

theorem tryCalls_faultless (fs : FSys) (hp : fs.plan = []) (k : Nat) (ds : List Disp) :
    fs.tryCalls k ds = (fs.after (atSig k ds), true) := by
  induction ds generalizing fs with
  | nil => rw [FSys.tryCalls]; simp [atSig, FSys.after_nil fs hp]
  | cons d ds ih =>
    rw [FSys.tryCalls, setDispositionF_nofault fs hp]
    simp only
    rw [ih _ rfl]
    simp [FSys.after, atSig, sysAfter, callsOf, List.append_assoc]

/-! ### each `GrandState` operation under every fault plan: the Model's calls up to the first failure; if none fails
    the Model's entry and verdict, otherwise the entry as it was found (`enter_subshell`: with `current_state` already
    rewritten) -/

theorem setActionF_eq (fs : FSys) (e : Option GrandState) (k : Nat) (a : Action) (o : Nat) (ov : Bool) :
    GrandState.setActionF fs e k a o ov
      = ((fs.tryCalls k (GrandState.setActionCalls e (fs.sys.disp k) k a ov)).1,
         if (fs.tryCalls k (GrandState.setActionCalls e (fs.sys.disp k) k a ov)).2
           then some (GrandState.setAction fs.sys e k a o ov).2.1 else e,
         if (fs.tryCalls k (GrandState.setActionCalls e (fs.sys.disp k) k a ov)).2
           then (GrandState.setAction fs.sys e k a o ov).2.2.map SetActionErrorF.base else some .systemError) := by
  unfold GrandState.setActionF GrandState.setAction GrandState.setActionCalls
  cases e with
  | none =>
    by_cases hk : k = 0
    · simp [hk, FSys.tryCalls]
    · cases ov with
      | true =>
        simp only [hk, FSys.tryCalls, ne_eq, not_false_eq_true, if_true, if_false, Bool.true_eq_false, false_and, true_or]
        cases (fs.setDisposition k a.toDisp).1 <;> rfl
      | false =>
        -- the probe returns what was installed, so the Model's list (made from `fs.sys.disp k`) is the one walked
        have hfst := setDispositionF_fst fs k .ignore
        simp only [hk, FSys.tryCalls, setDisposition_fst, ne_eq, not_false_eq_true, if_true, if_false, true_and,
          Bool.false_eq_true, false_or]
        cases hp : (fs.setDisposition k .ignore).1 with
        | none => rfl
        | some initial =>
          obtain rfl := hfst initial (hp ▸ rfl)
          by_cases hi : fs.sys.disp k = .ignore
          · simp [hi, FSys.tryCalls]
          · simp only [hi, if_false, tryCalls_callIf]
            generalize (if ¬ a.toDisp = .ignore then (fs.setDisposition k .ignore).2.setDisposition k a.toDisp
              else (some Disp.default, (fs.setDisposition k .ignore).2)) = q
            cases q.1 <;> rfl
  | some g =>
    simp only
    by_cases hr : ov = false ∧ g.current.action = .ignore ∧ g.current.origin = .inherited
    · simp [hr, FSys.tryCalls]
    · simp only [hr, if_false, tryCalls_callIf]
      generalize (if k ≠ 0 ∧ g.internal.max g.current.action.toDisp ≠ g.internal.max a.toDisp
        then fs.setDisposition k (g.internal.max a.toDisp) else (some Disp.default, fs)) = q
      cases q.1 <;> rfl

theorem setInternalF_eq (fs : FSys) (e : Option GrandState) (k : Nat) (d : Disp) :
    GrandState.setInternalF fs e k d
      = ((fs.tryCalls k (GrandState.setInternalCalls e d)).1,
         if (fs.tryCalls k (GrandState.setInternalCalls e d)).2 then (GrandState.setInternal fs.sys e k d).2 else e,
         (fs.tryCalls k (GrandState.setInternalCalls e d)).2) := by
  unfold GrandState.setInternalF GrandState.setInternal GrandState.setInternalCalls
  cases e with
  | none =>
    by_cases h : d = .default
    · simp [h, callIf, FSys.tryCalls]
    · simp only [h, callIf, if_false, ne_eq, not_false_eq_true, if_true, FSys.tryCalls, setDisposition_fst]
      have := setDispositionF_fst fs k d
      cases h1 : (fs.setDisposition k d).1 with
      | none => rfl
      | some x => simp [this x (h1 ▸ rfl)]
  | some g =>
    simp only [tryCalls_callIf]
    generalize (if g.internal.max g.current.action.toDisp ≠ d.max g.current.action.toDisp
      then fs.setDisposition k (d.max g.current.action.toDisp) else (some Disp.default, fs)) = q
    cases q.1 <;> rfl

theorem enterSubshellF_eq (fs : FSys) (g : GrandState) (k : Nat) (opt : SubOpt) :
    g.enterSubshellF fs k opt
      = ((fs.tryCalls k (g.enterCalls k opt)).1,
         if (fs.tryCalls k (g.enterCalls k opt)).2 then g.enterState opt
         else { (g.enterState opt) with internal := g.internal }) := by
  unfold GrandState.enterSubshellF GrandState.enterCalls
  simp only [tryCalls_callIf]
  generalize (if g.internal.max g.current.action.toDisp ≠ g.enterNewDisp opt ∧ k ≠ 0
    then fs.setDisposition k (g.enterNewDisp opt) else (some Disp.default, fs)) = q
  cases q.1 <;> rfl

theorem ignoreF_eq (fs : FSys) (k : Nat) :
    GrandState.ignoreF fs k
      = ((fs.tryCalls k [.ignore]).1, if (fs.tryCalls k [.ignore]).2 then some (GrandState.ignore fs.sys k).2 else none) := by
  unfold GrandState.ignoreF GrandState.ignore
  have := setDispositionF_fst fs k .ignore
  simp only [FSys.tryCalls, setDisposition_fst]
  cases h : (fs.setDisposition k .ignore).1 with
  | none => rfl
  | some x => obtain rfl := this x (h ▸ rfl); rfl

theorem enterAllF_faultless (ii ks : Bool) (t : TrapMap) (fs : FSys) (hp : fs.plan = []) :
    enterAllF fs ii ks t = (fs.after (enterAllCalls ii ks t), (enterAll fs.sys ii ks t).2) := by
  induction t generalizing fs with
  | nil => simp [enterAllF, enterAll, enterAllCalls, FSys.after_nil fs hp]
  | cons kv t ih =>
    obtain ⟨k, g⟩ := kv
    simp only [enterAllF, enterAll, enterAllCalls, enterSubshellF_eq, tryCalls_faultless fs hp, if_true]
    rw [ih (fs.after _) rfl, FSys.after_after, enterSubshell_sys]
    rfl

theorem enterAllF_nofault (ii ks : Bool) (t : TrapMap) (fs : FSys) (h : fs.plan = []) :
    (enterAllF fs ii ks t).1.sys = (enterAll fs.sys ii ks t).1
    ∧ (enterAllF fs ii ks t).1.plan = []
    ∧ (enterAllF fs ii ks t).2 = (enterAll fs.sys ii ks t).2 := by
  rw [enterAllF_faultless ii ks t fs h, enterAll_sys]; exact ⟨rfl, rfl, rfl⟩

theorem setActionF_killStop (st : FState) (c : Nat) (a : Action) (o : Nat) (ov : Bool) (h : IsKillStop c) :
    setActionF st c a o ov = (st, some (.base (if c = SIGKILL then .sigkill else .sigstop))) := by
  rcases h with h | h <;> subst h <;> rfl

theorem setActionF_of_not_killStop (st : FState) (c : Nat) (a : Action) (o : Nat) (ov : Bool) (h : ¬ IsKillStop c) :
    setActionF st c a o ov
      = (⟨(GrandState.setActionF st.sys (get (clearParents st.traps) c) c a o ov).1,
          setOpt (clearParents st.traps) c (GrandState.setActionF st.sys (get (clearParents st.traps) c) c a o ov).2.1⟩,
         (GrandState.setActionF st.sys (get (clearParents st.traps) c) c a o ov).2.2) := by
  unfold setActionF
  rw [if_neg fun e => h (.inl e), if_neg fun e => h (.inr e)]

theorem setActionT_faultless (st : FState) (hp : st.sys.plan = []) (c : Nat) (a : Action) (o : Nat) (ov : Bool) :
    setActionF st c a o ov
      = (⟨st.sys.after (setActionInstalls st.toState c a ov), (setAction st.toState c a o ov).1.traps⟩,
         (setAction st.toState c a o ov).2.map SetActionErrorF.base) := by
  unfold setActionInstalls
  by_cases hk : IsKillStop c
  · rw [setActionF_killStop st c a o ov hk, setAction_killStop st.toState c a o ov hk, if_pos hk, FSys.after_nil _ hp]
    rfl
  · rw [setActionF_of_not_killStop st c a o ov hk, setAction_of_not_killStop st.toState c a o ov hk, if_neg hk,
      setActionF_eq, tryCalls_faultless st.sys hp]
    rfl

theorem setInternalT_faultless (st : FState) (hp : st.sys.plan = []) (s : Nat) (d : Disp) :
    setInternalF st s d
      = (⟨st.sys.after (atSig s (GrandState.setInternalCalls (get st.traps s) d)), (setInternal st.toState s d).traps⟩,
         true) := by
  unfold setInternalF
  rw [setInternalF_eq, tryCalls_faultless st.sys hp]
  rfl

theorem toState_after (fs : FSys) (ps : List (Nat × Disp)) (t : TrapMap) (st' : State)
    (hs : st'.sys = sysAfter fs.sys ps) (ht : st'.traps = t) : FState.toState ⟨fs.after ps, t⟩ = st' := by
  obtain ⟨sys', t'⟩ := st'
  simp only at hs ht
  subst hs ht
  rfl

theorem setInternalT_nofault (st : FState) (h : st.sys.plan = []) (s : Nat) (d : Disp) :
    (setInternalF st s d).1.toState = setInternal st.toState s d
    ∧ (setInternalF st s d).1.sys.plan = []
    ∧ (setInternalF st s d).2 = true := by
  rw [setInternalT_faultless st h]
  exact ⟨toState_after _ _ _ _ (setInternal_sys _ _ _ _) rfl, rfl, rfl⟩

theorem seqInternalF_faultless (l : List (Nat × Disp)) (st : FState) (hp : st.sys.plan = []) :
    seqInternalF st l
      = (⟨st.sys.after (seqInstalls st.toState l), (seqInternal st.toState l).traps⟩, true) := by
  induction l generalizing st with
  | nil => obtain ⟨fs, t⟩ := st; simp [seqInternalF, seqInstalls, seqInternal, FSys.after_nil fs hp, FState.toState]
  | cons p l ih =>
    obtain ⟨s, d⟩ := p
    obtain ⟨e1, e2, e3⟩ := setInternalT_nofault st hp s d
    simp only [seqInternalF, e3, if_true]
    rw [ih _ e2, e1, setInternalT_faultless st hp, FSys.after_after]
    rfl

theorem ignoreIfVacantF_faultless (st : FState) (hp : st.sys.plan = []) (k : Nat) :
    ignoreIfVacantF st k
      = ⟨st.sys.after (ignoreIfVacantInstalls st.toState k), (ignoreIfVacant st.toState k).traps⟩ := by
  obtain ⟨fs, t⟩ := st
  unfold ignoreIfVacantF ignoreIfVacant ignoreIfVacantInstalls
  simp only [FState.toState]
  by_cases hg : get t k = none
  · simp [hg, ignoreF_eq, tryCalls_faultless fs hp, setOpt, atSig]
  · obtain ⟨g, hg'⟩ := Option.ne_none_iff_exists'.mp hg
    simp [hg', FSys.after_nil fs hp]

theorem ignoreBothF_faultless (f1 : FState) (hp : f1.sys.plan = []) :
    ignoreIfVacantF (ignoreIfVacantF f1 SIGINT) SIGQUIT
      = ⟨f1.sys.after (ignoreIfVacantInstalls f1.toState SIGINT
            ++ ignoreIfVacantInstalls (ignoreIfVacant f1.toState SIGINT) SIGQUIT),
         (ignoreIfVacant (ignoreIfVacant f1.toState SIGINT) SIGQUIT).traps⟩ := by
  rw [ignoreIfVacantF_faultless f1 hp SIGINT, ignoreIfVacantF_faultless _ rfl SIGQUIT,
    toState_after _ _ _ _ (ignoreIfVacant_sys f1.toState SIGINT) rfl, FSys.after_after]

theorem enterSubshellT_faultless (st : FState) (hp : st.sys.plan = []) (ii ks : Bool) :
    enterSubshellF st ii ks
      = ⟨st.sys.after (enterSubshellInstalls st.toState ii ks), (enterSubshell st.toState ii ks).traps⟩ := by
  obtain ⟨fs, t⟩ := st
  unfold enterSubshellF enterSubshell enterSubshellInstalls
  simp only [FState.toState, enterAllF_faultless ii ks _ fs hp]
  cases ii with
  | false => simp
  | true =>
    simp only [if_true]
    rw [ignoreBothF_faultless ⟨_, _⟩ rfl,
      toState_after _ _ _ ⟨(enterAll fs.sys true ks (clearParents t)).1, (enterAll fs.sys true ks (clearParents t)).2⟩
        (enterAll_sys _ _ _ _) rfl]
    simp only [FSys.after_after]

theorem getDisposition_sys (fs : FSys) (c : Nat) : (fs.getDisposition c).2.sys = fs.sys := by
  unfold FSys.getDisposition; split <;> rfl

theorem getDisposition_faultless (fs : FSys) (hp : fs.plan = []) (c : Nat) :
    fs.getDisposition c
      = (some (fs.sys.disp c),
         { fs with log := fs.log ++ [{ prim := .get c, ok := true, old := fs.sys.disp c }], plan := [] }) := by
  simp [FSys.getDisposition, hp]

/-- `insert_from_system_if_vacant` by its one call: `get_disposition` for a vacant signal, nothing otherwise -/
theorem insertF_eq (fs : FSys) (e : Option GrandState) (c : Nat) :
    GrandState.insertFromSystemIfVacantF fs e c
      = if e = none ∧ c ≠ 0 then
          ((fs.getDisposition c).2,
           (fs.getDisposition c).1.map fun d => { current := .fromInitial d, parent := none, internal := .default })
        else (fs, some (GrandState.insertFromSystemIfVacant fs.sys e c)) := by
  unfold GrandState.insertFromSystemIfVacantF GrandState.insertFromSystemIfVacant
  cases e with
  | some g => simp
  | none => by_cases hc : c ≠ 0 <;> simp [hc] <;> cases (fs.getDisposition c).1 <;> rfl

theorem peekStateF_nofault (st : FState) (h : st.sys.plan = []) (c : Nat) :
    (peekStateF st c).1.toState = (peekState st.toState c).1
    ∧ (peekStateF st c).1.sys.plan = []
    ∧ (peekStateF st c).2 = some (peekState st.toState c).2 := by
  unfold peekStateF peekState
  rw [insertF_eq]
  by_cases hv : get st.traps c = none ∧ c ≠ 0
  · rw [if_pos hv, getDisposition_faultless _ h]
    simp [FState.toState, hv.1, insert_vacant _ hv.2]
  · rw [if_neg hv]; exact ⟨rfl, h, rfl⟩

theorem stepF_internal {op : Op} {l : List (Nat × Disp)} (h : op.internalOps = some l) (st : FState) :
    stepF st op = (seqInternalF st l).1 ∧ resultF st op = .ok (seqInternalF st l).2 := by
  cases op <;> cases h <;> exact ⟨rfl, rfl⟩

theorem stepF_flags {op : Op} (h : op.flagsOnly = true) (st : FState) :
    stepF st op = ⟨st.sys, (step st.toState op).traps⟩ ∧ resultF st op = .none := by
  cases op <;> first | exact ⟨rfl, rfl⟩ | cases h

/-- ★ an operation of a faultless history: the Model's trap set, the Model's installs recorded (`peek` records its
    `get_sigaction` instead: `peekStateF_nofault`) -/
theorem stepF_faultless (st : FState) (hp : st.sys.plan = []) (op : Op) (hpeek : ∀ c, op ≠ .peek c) :
    stepF st op = ⟨st.sys.after (stepInstalls st.toState op), (step st.toState op).traps⟩ := by
  induction op using Op.shapes with
  | setAction c a o ov => simp only [stepF, setActionT_faultless st hp]; rfl
  | internal op l h =>
    rw [(stepF_internal h st).1, step_internal h, stepInstalls_internal h, seqInternalF_faultless l st hp]
  | enterSubshell ii ks => exact enterSubshellT_faultless st hp ii ks
  | peek c => exact absurd rfl (hpeek c)
  | flags op h => rw [(stepF_flags h st).1, stepInstalls_flags h, FSys.after_nil _ hp]

theorem stepF_nofault (st : FState) (h : st.sys.plan = []) (op : Op) :
    (stepF st op).toState = step st.toState op ∧ (stepF st op).sys.plan = [] := by
  by_cases hpeek : ∀ c, op ≠ .peek c
  · rw [stepF_faultless st h op hpeek]
    exact ⟨toState_after _ _ _ _ (step_sys _ _) rfl, rfl⟩
  · cases op with
    | peek c => obtain ⟨e1, e2, _⟩ := peekStateF_nofault st h c; exact ⟨e1, e2⟩
    | _ => exact absurd nofun hpeek

theorem runF_nofault (ops : List Op) (st : FState) (h : st.sys.plan = []) :
    (runF st ops).toState = run st.toState ops ∧ (runF st ops).sys.plan = [] := by
  induction ops generalizing st with
  | nil => exact ⟨rfl, h⟩
  | cons op ops ih =>
    obtain ⟨e1, e2⟩ := stepF_nofault st h op
    simp only [runF, run]
    rw [← e1]
    exact ih _ e2

/-- `after` is `before` plus the record `L` of further calls, of which one failed iff `failed` -/
def Rec (before after : FSys) (failed : Bool) : Prop :=
  ∃ L, after.log = before.log ++ L ∧ anyFailed L = failed

theorem Rec.refl (s : FSys) : Rec s s false := ⟨[], by simp, rfl⟩

theorem Rec.trans {a b c : FSys} {f1 f2 : Bool} (h1 : Rec a b f1) (h2 : Rec b c f2) : Rec a c (f1 || f2) := by
  obtain ⟨L1, e1, g1⟩ := h1
  obtain ⟨L2, e2, g2⟩ := h2
  refine ⟨L1 ++ L2, by rw [e2, e1, List.append_assoc], ?_⟩
  simp only [anyFailed, List.any_append] at g1 g2 ⊢
  rw [g1, g2]

theorem sigmask_rec (s : FSys) (add : Bool) (sig : Nat) :
    Rec s (s.sigmask add sig).2 (!(s.sigmask add sig).1) := by
  unfold FSys.sigmask
  split
  · exact ⟨_, rfl, by simp [anyFailed]⟩
  · exact ⟨_, rfl, by simp [anyFailed]⟩

theorem sigaction_rec (s : FSys) (sig : Nat) (d : Disp) :
    Rec s (s.sigaction sig d).2 ((s.sigaction sig d).1.isNone) := by
  unfold FSys.sigaction
  split
  · exact ⟨_, rfl, by simp [anyFailed]⟩
  · exact ⟨_, rfl, by simp [anyFailed]⟩

theorem setDisposition_rec (s : FSys) (sig : Nat) (d : Disp) :
    Rec s (s.setDisposition sig d).2 ((s.setDisposition sig d).1.isNone) := by
  unfold FSys.setDisposition
  simp only
  by_cases hd : d = .catch
  · simp only [hd, if_true, ne_eq, not_true_eq_false, if_false]
    have h1 := sigmask_rec s true sig
    cases hm : (s.sigmask true sig).1 with
    | false => simpa [hm] using h1
    | true =>
      simp only [hm, Bool.not_true] at h1
      have h2 := sigaction_rec (s.sigmask true sig).2 sig .catch
      simp only [Bool.true_eq_false, if_false]
      cases ha : ((s.sigmask true sig).2.sigaction sig .catch).1 with
      | none => simpa [ha] using h1.trans h2
      | some old => simpa [ha] using h1.trans h2
  · simp only [hd, if_false, ne_eq, not_false_eq_true, if_true, Bool.true_eq_false]
    have h2 := sigaction_rec s sig d
    cases ha : (s.sigaction sig d).1 with
    | none => simpa [ha] using h2
    | some old =>
      simp only [ha, Option.isNone_some] at h2
      have h3 := sigmask_rec (s.sigaction sig d).2 false sig
      simp only
      cases hm : ((s.sigaction sig d).2.sigmask false sig).1 with
      | false => simpa [hm] using h2.trans h3
      | true => simpa [hm] using h2.trans h3

theorem tryCalls_rec (fs : FSys) (k : Nat) (ds : List Disp) :
    Rec fs (fs.tryCalls k ds).1 (!(fs.tryCalls k ds).2) := by
  induction ds generalizing fs with
  | nil => exact Rec.refl fs
  | cons d ds ih =>
    have h := setDisposition_rec fs k d
    rw [FSys.tryCalls]
    cases h1 : (fs.setDisposition k d).1 with
    | none => simpa [h1] using h
    | some x => simpa [h1] using h.trans (ih _)

/-- used by the `simpa`s of `setActionF_rec` and the `simp`s of `stepF_record`, where the reported error is a `.base` one -/
@[simp] theorem base_beq_systemError (e : SetActionError) :
    (SetActionErrorF.base e == SetActionErrorF.systemError) = false := by cases e <;> decide

/-- the record grew by calls of which one failed iff `SystemError` is reported, and then the entry is handed back -/
theorem setActionF_rec (fs : FSys) (e : Option GrandState) (c : Nat) (a : Action) (o : Nat) (ov : Bool) :
    Rec fs (GrandState.setActionF fs e c a o ov).1
      ((GrandState.setActionF fs e c a o ov).2.2 == some .systemError)
    ∧ ((GrandState.setActionF fs e c a o ov).2.2 = some .systemError →
        (GrandState.setActionF fs e c a o ov).2.1 = e) := by
  rw [setActionF_eq]
  have h := tryCalls_rec fs c (GrandState.setActionCalls e (fs.sys.disp c) c a ov)
  cases hb : (fs.tryCalls c (GrandState.setActionCalls e (fs.sys.disp c) c a ov)).2 with
  | false => exact ⟨by simpa [hb] using h, fun _ => rfl⟩
  | true => cases hx : (GrandState.setAction fs.sys e c a o ov).2.2 <;> exact ⟨by simpa [hb, hx] using h, by simp⟩

theorem setInternalF_rec (fs : FSys) (e : Option GrandState) (s : Nat) (d : Disp) :
    Rec fs (GrandState.setInternalF fs e s d).1 (!(GrandState.setInternalF fs e s d).2.2)
    ∧ ((GrandState.setInternalF fs e s d).2.2 = false → (GrandState.setInternalF fs e s d).2.1 = e) := by
  rw [setInternalF_eq]
  exact ⟨tryCalls_rec fs s _, fun (h : (fs.tryCalls s _).2 = false) => if_neg (by simp [h])⟩

theorem seqInternalF_rec (l : List (Nat × Disp)) (st : FState) :
    Rec st.sys (seqInternalF st l).1.sys (!(seqInternalF st l).2) := by
  induction l generalizing st with
  | nil => simpa [seqInternalF] using Rec.refl st.sys
  | cons p l ih =>
    obtain ⟨s, d⟩ := p
    have h1 : Rec st.sys (setInternalF st s d).1.sys (!(setInternalF st s d).2) := by
      unfold setInternalF; exact (setInternalF_rec st.sys (get st.traps s) s d).1
    simp only [seqInternalF]
    cases hx : (setInternalF st s d).2 with
    | false => simpa [hx] using h1
    | true =>
      simp only [hx, Bool.not_true] at h1
      simpa using h1.trans (ih (setInternalF st s d).1)

theorem getDisposition_rec (s : FSys) (sig : Nat) :
    Rec s (s.getDisposition sig).2 ((s.getDisposition sig).1.isNone) := by
  unfold FSys.getDisposition
  split
  · exact ⟨_, rfl, by simp [anyFailed]⟩
  · exact ⟨_, rfl, by simp [anyFailed]⟩

theorem insertF_rec (fs : FSys) (e : Option GrandState) (c : Nat) :
    Rec fs (GrandState.insertFromSystemIfVacantF fs e c).1
      ((GrandState.insertFromSystemIfVacantF fs e c).2.isNone) := by
  rw [insertF_eq]
  split
  · simpa using getDisposition_rec fs c
  · simpa using Rec.refl fs

theorem peekStateF_rec (st : FState) (c : Nat) :
    Rec st.sys (peekStateF st c).1.sys ((peekStateF st c).2.isNone) := by
  have h := insertF_rec st.sys (get st.traps c) c
  unfold peekStateF
  simp only
  cases h2 : (GrandState.insertFromSystemIfVacantF st.sys (get st.traps c) c).2 with
  | none => simpa [h2] using h
  | some g => simpa [h2] using h

/-- `enter_subshell` drops its errors: the record grows, by calls of which some may have failed -/
theorem enterAllF_rec (ii ks : Bool) (t : TrapMap) (fs : FSys) : ∃ f, Rec fs (enterAllF fs ii ks t).1 f := by
  induction t generalizing fs with
  | nil => exact ⟨_, Rec.refl fs⟩
  | cons kv t ih =>
    obtain ⟨k, g⟩ := kv
    have h1 := tryCalls_rec fs k (g.enterCalls k (subshellOption k g ii ks))
    rw [← show (g.enterSubshellF fs k _).1 = _ from congrArg Prod.fst (enterSubshellF_eq fs g k _)] at h1
    obtain ⟨f2, h2⟩ := ih (g.enterSubshellF fs k (subshellOption k g ii ks)).1
    exact ⟨_, h1.trans h2⟩

theorem ignoreIfVacantF_rec (st : FState) (s : Nat) : ∃ f, Rec st.sys (ignoreIfVacantF st s).sys f := by
  unfold ignoreIfVacantF
  cases hg : get st.traps s with
  | some g => exact ⟨_, Rec.refl _⟩
  | none => simp only [ignoreF_eq]; exact ⟨_, tryCalls_rec st.sys s _⟩

theorem enterSubshellT_rec (st : FState) (ii ks : Bool) : ∃ f, Rec st.sys (enterSubshellF st ii ks).sys f := by
  unfold enterSubshellF
  obtain ⟨f0, h0⟩ := enterAllF_rec ii ks (clearParents st.traps) st.sys
  cases ii with
  | false => exact ⟨f0, by simpa using h0⟩
  | true =>
    simp only [if_true]
    obtain ⟨f1, h1⟩ := ignoreIfVacantF_rec ⟨_, _⟩ SIGINT
    obtain ⟨f2, h2⟩ := ignoreIfVacantF_rec (ignoreIfVacantF ⟨_, _⟩ SIGINT) SIGQUIT
    exact ⟨_, (h0.trans h1).trans h2⟩

/-- ★ for every state, fault plan and operation: the record only grows, and what the operation reports is `honest`
    about the calls it added (`set_action` reports `SystemError`, an enable/disable function or `peek_state` returns `Err`,
    exactly when one of them failed; `enter_subshell` drops its errors and reports nothing) -/
theorem stepF_record (st : FState) (op : Op) :
    ∃ L, (stepF st op).sys.log = st.sys.log ++ L ∧ honest (resultF st op) L = true := by
  have hrec : ∀ {st' : FState} {f : Bool} (r : OpResult), Rec st.sys st'.sys f →
      (∀ L, anyFailed L = f → honest r L = true) → ∃ L, st'.sys.log = st.sys.log ++ L ∧ honest r L = true :=
    fun r ⟨L, e, g⟩ hr => ⟨L, e, hr L g⟩
  induction op using Op.shapes with
  | setAction c a o ov =>
    have : Rec st.sys (setActionF st c a o ov).1.sys ((setActionF st c a o ov).2 == some .systemError) := by
      by_cases hk : IsKillStop c
      · rw [setActionF_killStop st c a o ov hk]; simpa using Rec.refl st.sys
      · rw [setActionF_of_not_killStop st c a o ov hk]; exact (setActionF_rec st.sys _ c a o ov).1
    exact hrec _ this fun L g => by simp [resultF, honest, g]
  | internal op l h =>
    rw [(stepF_internal h st).1, (stepF_internal h st).2]
    exact hrec _ (seqInternalF_rec l st) fun L g => by simp [honest, g]
  | enterSubshell ii ks =>
    obtain ⟨f, h⟩ := enterSubshellT_rec st ii ks
    exact hrec .none h fun _ _ => rfl
  | peek c =>
    exact hrec _ (peekStateF_rec st c) fun L g => by
      simp only [resultF, honest, g]; cases (peekStateF st c).2 <;> rfl
  | flags op h => rw [(stepF_flags h st).1, (stepF_flags h st).2]; exact ⟨[], by simp, rfl⟩

theorem honest_step (st : FState) (op : Op) :
    honest (resultF st op) (newCalls st (stepF st op)) = true := by
  obtain ⟨L, e, h⟩ := stepF_record st op
  unfold newCalls; rw [e, List.drop_left]; exact h

theorem log_grows (st : FState) (op : Op) : ∃ L, (stepF st op).sys.log = st.sys.log ++ L :=
  (stepF_record st op).imp fun _ h => h.1

/-- the two calls of a good install: they come as `mask+, sigaction(Catch)` or `sigaction(d), mask-`, both succeed, neither
    concerns KILL or STOP, and the `sigaction` re-installs what is installed only if the trap set does not know the signal -/
theorem dispCalls_verdict (traps : TrapMap) (sys : Sys) (s : Nat) (d : Disp) (hk : ¬ IsKillStop s)
    (hd : (get traps s).isSome → d ≠ sys.disp s) :
    economical traps (dispCalls sys s d) = true ∧ sparesKillStop (dispCalls sys s d) = true
    ∧ (∀ L, wellBracketed (writes (dispCalls sys s d ++ L)) = wellBracketed (writes L))
    ∧ anyFailed (dispCalls sys s d) = false := by
  have h1 : s ≠ SIGKILL := fun e => hk (.inl e)
  have h2 : s ≠ SIGSTOP := fun e => hk (.inr e)
  have hn : ¬ sys.disp s = d ∨ get traps s = none := by
    cases hs : get traps s with
    | none => exact .inr rfl
    | some g => exact .inl fun e => hd (by rw [hs]; rfl) e.symm
  unfold dispCalls
  by_cases hc : d = .catch
  · subst hc
    simp [economical, sparesKillStop, writes, wellBracketed, anyFailed, Call.needless, Call.sig, h1, h2, hn]
  · simp [economical, sparesKillStop, writes, wellBracketed, anyFailed, Call.needless, Call.sig, h1, h2, hn, hc]

theorem good_verdict (traps : TrapMap) (sys : Sys) (ps : List (Nat × Disp)) (h : Good traps sys ps) :
    economical traps (callsOf sys ps) = true ∧ sparesKillStop (callsOf sys ps) = true
    ∧ wellBracketed (writes (callsOf sys ps)) = true ∧ anyFailed (callsOf sys ps) = false := by
  induction ps generalizing sys with
  | nil => exact ⟨rfl, rfl, rfl, rfl⟩
  | cons a ps ih =>
    obtain ⟨s, d⟩ := a
    obtain ⟨hk, hd, hrest⟩ := h
    obtain ⟨f1, f2, f3, f4⟩ := dispCalls_verdict traps sys s d hk hd
    obtain ⟨i1, i2, i3, i4⟩ := ih _ hrest
    unfold economical at f1 i1 ⊢
    unfold sparesKillStop at f2 i2 ⊢
    unfold anyFailed at f4 i4 ⊢
    rw [callsOf, List.all_append, List.all_append, List.any_append, f1, f2, f3, f4, i1, i2, i3, i4]
    exact ⟨rfl, rfl, rfl, rfl⟩

theorem newCalls_after (st : FState) (ps : List (Nat × Disp)) (t : TrapMap) :
    newCalls st ⟨st.sys.after ps, t⟩ = callsOf st.sys.sys ps := by
  unfold newCalls; exact List.drop_left

/-- ★ the Spec predicates of the `sc` leg hold of every operation from every state without pending faults that satisfies
    `Inv` with the entries of KILL/STOP untouched (`faultless_calls_clean`: such are the states of faultless histories) -/
theorem calls_clean_of_inv (init : Nat → Disp) (hinit : ∀ s, init s ≠ .catch) (st : FState) (hp : st.sys.plan = [])
    (hinv : Inv init st.toState) (hU : ∀ k, IsKillStop k → Untouched (init k) (get st.traps k)) (op : Op) :
    economical st.traps (newCalls st (stepF st op)) = true
    ∧ sparesKillStop (newCalls st (stepF st op)) = true
    ∧ wellBracketed (writes (newCalls st (stepF st op))) = true
    ∧ anyFailed (newCalls st (stepF st op)) = false := by
  by_cases hpeek : ∀ c, op ≠ .peek c
  · rw [stepF_faultless st hp op hpeek, newCalls_after]
    exact good_verdict _ _ _ (stepInstalls_good init hinit st.toState hinv hU op)
  · cases op with
    | peek c =>
      simp only [stepF]
      unfold peekStateF newCalls
      rw [insertF_eq]
      by_cases hv : get st.traps c = none ∧ c ≠ 0
      · rw [if_pos hv, getDisposition_faultless _ hp]
        simp [economical, Call.needless, sparesKillStop, writes, wellBracketed, anyFailed]
      · rw [if_neg hv]; simp [economical, sparesKillStop, writes, wellBracketed, anyFailed]
    | _ => exact absurd nofun hpeek

theorem runF_snoc (st : FState) (ops : List Op) (op : Op) : runF st (ops ++ [op]) = stepF (runF st ops) op := by
  induction ops generalizing st with
  | nil => rfl
  | cons o ops ih => exact ih _

end YashModel.Trap
