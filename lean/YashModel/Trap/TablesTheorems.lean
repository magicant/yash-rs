/-
  C11 — the model's hand-typed constants agree with the tables re-extracted from /repo on every run
  (`Generated/TrapTables.lean`, put in the model's form by `Tables.lean`): an edit of a signal number, a signal name, a
  default effect, the declaration order of `Disposition` / `Divert`, the signals an enable/disable function touches, the
  option selection of `enter_subshell`, the variants of `Frame` or the walk of `in_trap` breaks these proofs (or leaves
  them true because nothing the model relies on changed).
-/
import YashModel.Trap.Tables
namespace YashModel.Trap
open YashModel.Generated

/-- the ten signal numbers the model names are the `pub const SIG…` of `system/virtual/signal.rs` -/
theorem tables_signal_numbers :
    genNumber "SIGINT" = some SIGINT ∧ genNumber "SIGQUIT" = some SIGQUIT ∧ genNumber "SIGKILL" = some SIGKILL
    ∧ genNumber "SIGTERM" = some SIGTERM ∧ genNumber "SIGCHLD" = some SIGCHLD ∧ genNumber "SIGSTOP" = some SIGSTOP
    ∧ genNumber "SIGTSTP" = some SIGTSTP ∧ genNumber "SIGTTIN" = some SIGTTIN ∧ genNumber "SIGTTOU" = some SIGTTOU
    ∧ genNumber "SIGUSR1" = some SIGUSR1 := by decide +kernel

/-- `Builtin.signalTable` (every valid signal with its `sig2str` name, ascending) is what the code's
    constants, `Name::try_from_raw_virtual` (first arm wins, real-time rule) and `Name::as_string` give -/
theorem tables_signal_table : signalTable = genSignalTable := by decide +kernel

/-- `Builtin.defaultEffect` is `SignalEffect::of` on every valid signal -/
theorem tables_default_effect : ∀ p ∈ signalTable, genEffect p.1 = some (defaultEffect p.1).code := by decide +kernel

/-- `Disp.rank` is the declaration order of `Disposition` (whose `Ord` is derived), and `Divert.rank`
    respects the declaration order of `Divert` -/
theorem tables_orders :
    (∀ a b : Disp, a.rank ≤ b.rank ↔
        TrapTables.dispositionOrder.idxOf a.name ≤ TrapTables.dispositionOrder.idxOf b.name)
    ∧ (∀ a : Disp, a.name ∈ TrapTables.dispositionOrder) ∧ TrapTables.dispositionOrder.length = 3
    ∧ (∀ n ∈ ["Continue", "Break", "Return", "Interrupt", "Exit"], n ∈ TrapTables.divertOrder)
    ∧ TrapTables.divertOrder.idxOf "Continue" < TrapTables.divertOrder.idxOf "Return"
    ∧ TrapTables.divertOrder.idxOf "Break" < TrapTables.divertOrder.idxOf "Return"
    ∧ TrapTables.divertOrder.idxOf "Return" < TrapTables.divertOrder.idxOf "Interrupt"
    ∧ TrapTables.divertOrder.idxOf "Interrupt" < TrapTables.divertOrder.idxOf "Exit"
    ∧ (Divert.ret none).rank < (Divert.interrupt none).rank
    ∧ (Divert.interrupt none).rank < (Divert.exit none).rank ∧ Divert.other.rank < (Divert.ret none).rank
    ∧ TrapTables.divertOrder.idxOf "Exit" < TrapTables.divertOrder.idxOf "Abort" ∧ "Abort" ∈ TrapTables.divertOrder
    ∧ (Divert.exit none).rank < (Divert.abort none).rank
    ∧ (∀ d : Divert, ∀ n ∈ d.variantName, n ∈ TrapTables.divertOrder) := by
  -- the three quantified clauses (first, second, last) by cases; the twelve closed ones in between by `decide`
  refine ⟨fun a b => ?_, fun a => ?_, by decide, by decide, by decide, by decide, by decide, by decide, by decide,
    by decide, by decide, by decide, by decide, by decide, fun d => ?_⟩
  · cases a <;> cases b <;> decide
  · cases a <;> decide
  · cases d <;> simp [Divert.variantName, TrapTables.divertOrder]

/-- the six enable/disable operations install, for the signals and in the order of the code
    (`trap.rs`, calls of one another expanded), the internal dispositions the code names -/
theorem tables_internal_ops (st : State) :
    enableChld st = genInternal "enable_internal_disposition_for_sigchld" st
    ∧ enableTerminators st = genInternal "enable_internal_dispositions_for_terminators" st
    ∧ enableStoppers st = genInternal "enable_internal_dispositions_for_stoppers" st
    ∧ disableTerminators st = genInternal "disable_internal_dispositions_for_terminators" st
    ∧ disableStoppers st = genInternal "disable_internal_dispositions_for_stoppers" st
    ∧ disableAll st = genInternal "disable_internal_dispositions" st :=
  ⟨rfl, rfl, rfl, rfl, rfl, rfl⟩

/-- the per-condition option of `TrapSet::enter_subshell` that the model types by hand (`subshellOption`:
    EXIT clears, SIGCHLD keeps, SIGINT/SIGQUIT under the first flag and enabled SIGTSTP/SIGTTIN/SIGTTOU under
    the second are ignored, everything else clears) is the `if`-chain re-extracted from yash-env/src/trap.rs on
    every run — for every condition number, entry and flag pair; and the trailing loop of the model is the
    generated one.  (The extractor refuses a loop body with any statement besides the option selection and
    the `enter_subshell` call, so the chain is all that decides the option.) -/
theorem tables_subshell_rules (cond : Nat) (g : GrandState) (ii ks : Bool) (st : State) :
    subshellOption cond g ii ks = genSubshellOption cond g ii ks
    ∧ enterSubshell st ii ks
        = genSubshellTrailing ⟨(enterAll st.sys ii ks (clearParents st.traps)).1,
                               (enterAll st.sys ii ks (clearParents st.traps)).2⟩ ii ks := by
  have hrows : genSubshellRows
      = [([102], [], .keep), ([2, 3], [0], .ignore), ([120, 121, 122], [1, 2], .ignore)] := by decide +kernel
  have hexit : parseSubOpt TrapTables.subshellExit = .clear := by decide +kernel
  have helse : parseSubOpt TrapTables.subshellElse = .clear := by decide +kernel
  constructor
  · -- both sides are the same `if` chain once `contains` / `all` over the rows are spelt out
    unfold subshellOption genSubshellOption
    rw [hrows, hexit, helse]
    simp only [genSubshellChain, subFlag, SIGCHLD, SIGINT, SIGQUIT, SIGTSTP, SIGTTIN, SIGTTOU,
      List.contains_cons, List.contains_nil, List.all_cons, List.all_nil, Bool.and_true, Bool.or_false,
      Bool.and_eq_true, Bool.or_eq_true, beq_iff_eq, ne_eq, and_comm]
    simp [and_assoc]
  · unfold enterSubshell genSubshellTrailing
    cases ii <;> simp [TrapTables.subshellTrailing, SIGINT, SIGQUIT]

/-- `Frame` has exactly the variants of `pub enum Frame` (yash-env/src/stack.rs), and `inTrap` walks as the
    extracted `in_trap` does: from the innermost frame, up to the first `Subshell`, looking for
    `Trap(Signal(_))` -/
theorem tables_frames_and_in_trap :
    Frame.samples.map Frame.variant = TrapTables.frameVariants
    ∧ TrapTables.inTrapWalk = (true, Frame.subshell.variant, "Trap.Signal")
    ∧ (∀ f : Frame, f.variant ∈ TrapTables.frameVariants)
    ∧ (∀ f : Frame, f.isSignalTrap = true → f.variant = "Trap") := by
  refine ⟨by decide +kernel, rfl, ?_, ?_⟩
  · intro f; cases f <;> simp [Frame.variant, TrapTables.frameVariants]
  · intro f; cases f <;> simp [Frame.isSignalTrap, Frame.variant]

end YashModel.Trap
