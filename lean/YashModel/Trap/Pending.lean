/-
  C11 — the `pending` flag: catch, take, and the trap runner at a command boundary.  One signal's view is `pendingAt`
  (the flag), `actionAt` / `isCmd` (its action) and `owed` (the run it is owed); `pendingCommands` (Spec) is the
  concatenation of `owed` over the map (`pendingCommands_cons`, `pendingCommands_spec`); `npend` counts the flags
  `take_caught_signal` can take and is the measure of the runner's loop.  `drain_conserve` is the one induction over the
  loop here: what ran followed by what is still pending is what was pending.
-/
import YashModel.Trap.Steps
namespace YashModel.Trap

/-- `n` deliveries of the same signal before the next take -/
def catchN (t : TrapMap) (s : Nat) : Nat → TrapMap
  | 0 => t
  | n + 1 => catchN (catchSignal t s) s n

theorem catchN_get (t : TrapMap) (s : Nat) (g : GrandState) (n : Nat) (h : get t s = some g) :
    get (catchN t s (n + 1)) s = some g.markAsCaught := by
  induction n generalizing t g with
  | zero => simp [catchN, get_catchSignal, h]
  | succ n ih => exact ih (catchSignal t s) g.markAsCaught (by simp [get_catchSignal, h])

theorem sorted_catchN (t : TrapMap) (s n : Nat) (h : Sorted t) : Sorted (catchN t s n) := by
  induction n generalizing t with
  | zero => exact h
  | succ n ih => exact ih _ (sorted_catchSignal _ _ h)

theorem catchN_get_other (t : TrapMap) (s s' n : Nat) (h : s' ≠ s) :
    get (catchN t s n) s' = get t s' := by
  induction n generalizing t with
  | zero => rfl
  | succ n ih => rw [catchN, ih, get_catchSignal, if_neg h]

def pendingAt (t : TrapMap) (s : Nat) : Bool :=
  match get t s with
  | some g => g.current.pending
  | none => false

def actionAt (t : TrapMap) (s : Nat) : Option Action := (get t s).map (·.current.action)

/-- `x` has a command trap -/
def isCmd (t : TrapMap) (x : Nat) : Bool :=
  match get t x with
  | some g => g.current.action.isCommand
  | none => false

theorem cmd_pending_cases (t : TrapMap) (s : Nat) :
    (isCmd t s = false ∨ pendingAt t s = false)
    ∨ ∃ g c, get t s = some g ∧ g.current.pending = true ∧ g.current.action = .command c := by
  unfold isCmd pendingAt
  cases get t s with
  | none => exact .inl (.inl rfl)
  | some g =>
    cases hp : g.current.pending with
    | false => exact .inl (.inr hp)
    | true =>
      cases ha : g.current.action <;>
        first | exact .inr ⟨g, _, rfl, hp, ha⟩ | exact .inl (.inl (by simp [ha, Action.isCommand]))

theorem actionAt_of_core (t t' : TrapMap) (s : Nat) (hc : (get t' s).map core = (get t s).map core) :
    actionAt t' s = actionAt t s := by
  unfold actionAt
  cases h1 : get t' s <;> cases h2 : get t s <;> simp_all [core]

theorem isCmd_of_core (t t' : TrapMap) (x : Nat) (h : (get t' x).map core = (get t x).map core) :
    isCmd t' x = isCmd t x := by
  unfold isCmd
  cases h1 : get t' x <;> cases h2 : get t x <;> simp_all [core]

theorem pendingAt_catchSignal (t : TrapMap) (s x : Nat) :
    pendingAt (catchSignal t s) x = if x = s ∧ (get t s).isSome then true else pendingAt t x := by
  unfold pendingAt
  rw [get_catchSignal]
  by_cases hx : x = s
  · subst hx; cases get t x <;> simp [GrandState.markAsCaught]
  · simp [hx]

theorem pendingAt_takeIf (t : TrapMap) (k x : Nat) :
    pendingAt (takeSignalIfCaught t k).1 x = if x = k then false else pendingAt t x := by
  unfold pendingAt
  rw [get_takeIf]
  by_cases h : x = k
  · subst h
    cases get t x with
    | none => simp
    | some g => simp [handleIfCaught_fst]
  · simp only [if_neg h]

theorem pendingAt_clearParents (t : TrapMap) (s : Nat) : pendingAt (clearParents t) s = pendingAt t s := by
  unfold pendingAt
  rw [get_clearParents]
  cases get t s <;> rfl

theorem pendingAt_setAction (st : State) (x : Nat) (a : Action) (o : Nat) (ov : Bool) (s : Nat) :
    pendingAt (setAction st x a o ov).1.traps s
      = if x = s ∧ (setAction st x a o ov).2 = none then false else pendingAt st.traps s := by
  by_cases hks : IsKillStop x
  · rw [setAction_killStop st x a o ov hks]; exact (if_neg fun h => Option.some_ne_none _ h.2).symm
  · obtain ⟨h1, h2⟩ := setAction_spec st x a o ov hks
    unfold pendingAt
    rw [h1, h2, get_set, get_clearParents]
    by_cases hx : s = x
    · subst hx
      cases refused st s ov <;> cases get st.traps s <;>
        simp [TrapState.fromInitial, GrandState.clearParent, newState]
    · rw [if_neg hx, if_neg (fun h => hx h.1.symm)]
      cases get st.traps s <;> rfl

/-- the number of entries `take_caught_signal` can take: pending signals (EXIT, key 0, is no signal) -/
def npend : TrapMap → Nat
  | [] => 0
  | (k, g) :: t => (if k ≠ 0 ∧ g.current.pending = true then 1 else 0) + npend t

theorem npend_le_length (t : TrapMap) : npend t ≤ t.length := by
  induction t with
  | nil => exact Nat.le_refl 0
  | cons kv t ih =>
    obtain ⟨k, g⟩ := kv
    simp only [npend, List.length_cons]
    split <;> omega

theorem npend_set_le (t : TrapMap) (x : Nat) (v : GrandState) : npend (set t x v) ≤ npend t + 1 := by
  have h1 : ∀ (k : Nat) (g : GrandState), (if k ≠ 0 ∧ g.current.pending = true then 1 else 0) ≤ 1 := by
    intros; split <;> omega
  induction t with
  | nil => have := h1 x v; simp only [set, npend]; omega
  | cons kv t ih =>
    obtain ⟨k, g'⟩ := kv
    have := h1 x v; have := h1 k g'
    simp only [set]
    split
    · simp only [npend]; omega
    · split <;> simp only [npend] <;> omega

theorem npend_catchSignal_le (t : TrapMap) (x : Nat) : npend (catchSignal t x) ≤ npend t + 1 := by
  unfold catchSignal
  cases hg : get t x with
  | none => simp only; omega
  | some g => simp only; exact npend_set_le t x _

theorem npend_foldl_catch_le (l : List Nat) (t : TrapMap) : npend (l.foldl catchSignal t) ≤ npend t + l.length := by
  induction l generalizing t with
  | nil => simp
  | cons x l ih =>
    simp only [List.foldl_cons, List.length_cons]
    have := ih (catchSignal t x)
    have := npend_catchSignal_le t x
    omega

/-- the run owed to signal `s` by its entry `e`: `(s, c)` if it is pending with command `c`, else nothing -/
def owed (e : Option GrandState) (s : Nat) : List (Nat × Nat) :=
  match e with
  | none => []
  | some g =>
    match g.current.action with
    | .command c => if s ≠ 0 ∧ g.current.pending = true then [(s, c)] else []
    | _ => []

theorem pendingCommands_cons (k : Nat) (g : GrandState) (t : TrapMap) :
    pendingCommands ((k, g) :: t) = owed (some g) k ++ pendingCommands t := by
  simp only [pendingCommands, owed]
  cases g.current.action with
  | command c => simp only; split <;> rfl
  | default => rfl
  | ignore => rfl

theorem owed_of_not_due {g : GrandState} {k : Nat} (h : ¬ (k ≠ 0 ∧ g.current.pending = true)) :
    owed (some g) k = [] := by
  cases ha : g.current.action <;> simp [owed, ha, h]

theorem owed_due {g : GrandState} {k : Nat} (h : k ≠ 0 ∧ g.current.pending = true) :
    owed (some g) k = match g.current.action with
      | .command c => [(k, c)]
      | _ => [] := by
  cases ha : g.current.action <;> simp [owed, ha, h]

theorem mem_owed {p : Nat × Nat} {e : Option GrandState} {k : Nat} (h : p ∈ owed e k) : p.1 = k := by
  cases e with
  | none => cases h
  | some g =>
    by_cases hd : k ≠ 0 ∧ g.current.pending = true
    · rw [owed_due hd] at h
      split at h
      · rw [List.mem_singleton.mp h]
      · cases h
    · rw [owed_of_not_due hd] at h; cases h

theorem owed_filter (e : Option GrandState) (k s : Nat) :
    (owed e k).filter (fun p => p.1 == s) = if k = s then owed e k else [] := by
  by_cases hk : k = s
  · rw [if_pos hk]; exact List.filter_eq_self.mpr fun p hp => by simp [mem_owed hp, hk]
  · rw [if_neg hk]; exact List.filter_eq_nil_iff.mpr fun p hp => by simp [mem_owed hp, hk]

theorem npend_zero_pendingCommands (t : TrapMap) (h : npend t = 0) : pendingCommands t = [] := by
  induction t with
  | nil => rfl
  | cons kv t ih =>
    obtain ⟨k, g⟩ := kv
    simp only [npend] at h
    have h1 : ¬ (k ≠ 0 ∧ g.current.pending = true) := by
      intro hc; simp [hc] at h
    rw [pendingCommands_cons, owed_of_not_due h1, ih (by simp only [h1, if_false] at h; omega)]; rfl

theorem takeCaught_none (t : TrapMap) (h : (takeCaughtSignal t).2 = none) :
    pendingCommands t = [] ∧ npend t = 0 := by
  have : npend t = 0 := by
    induction t with
    | nil => rfl
    | cons kv t ih =>
      obtain ⟨k, g⟩ := kv
      by_cases hc : k ≠ 0 ∧ g.current.pending = true
      · simp [takeCaught_cons_due t hc] at h
      · rw [takeCaught_cons_skip t hc] at h
        simp only [npend, hc, if_false, ih h]
  exact ⟨npend_zero_pendingCommands t this, this⟩

theorem takeCaught_some (t : TrapMap) (k : Nat) (ts : TrapState)
    (h : (takeCaughtSignal t).2 = some (k, ts)) :
    pendingCommands t
      = (match ts.action with
         | .command c => [(k, c)]
         | _ => []) ++ pendingCommands (takeCaughtSignal t).1
    ∧ npend t = npend (takeCaughtSignal t).1 + 1 := by
  induction t with
  | nil => simp [takeCaughtSignal] at h
  | cons kv t ih =>
    obtain ⟨k', g⟩ := kv
    by_cases hc : k' ≠ 0 ∧ g.current.pending = true
    · -- the head is taken: it was owed its command and is owed nothing afterwards
      rw [takeCaught_cons_due t hc] at h ⊢
      simp only [Option.some.injEq, Prod.mk.injEq] at h
      obtain ⟨rfl, rfl⟩ := h
      rw [handleIfCaught_fst g]
      constructor
      · rw [pendingCommands_cons, pendingCommands_cons, owed_due hc, owed_of_not_due (by simp), List.nil_append]
      · have hk0 : k' ≠ 0 := hc.1
        simp only [npend, hc]
        simp [hk0]
        omega
    · -- the head is not due: owed nothing, passed over
      rw [takeCaught_cons_skip t hc] at h ⊢
      have := ih h
      constructor
      · rw [pendingCommands_cons, pendingCommands_cons, this.1, owed_of_not_due hc]; simp
      · simp only [npend, hc, if_false, this.2]; omega

theorem takeCaught_some_skip (t : TrapMap) (k : Nat) (ts : TrapState) (h : (takeCaughtSignal t).2 = some (k, ts))
    (ha : ∀ c, ts.action ≠ .command c) :
    pendingCommands t = pendingCommands (takeCaughtSignal t).1 ∧ npend t = npend (takeCaughtSignal t).1 + 1 := by
  have hs := takeCaught_some t k ts h
  cases hx : ts.action with
  | command c => exact absurd hx (ha c)
  | _ => simpa only [hx, List.nil_append] using hs

/-- an action that leaves the trap set as it found it: no `trap` command, no signal while it runs (`Arrivals` of
    Interleave allows the signals) -/
def MapPreserving (body : Body) : Prop := ∀ c e t, (body c e t).2 = t

/-- an action that never ends in a divert (`return`, `exit`, `break`, interrupt, abort) -/
def NoDivert (body : Body) : Prop := ∀ c e t, (body c e t).1.divert = none

theorem runTrap_traps_eq (body : Body) (c : Nat) (e : Int) (t : TrapMap) :
    (runTrap body c e t).2.2 = (body c e t).2 := by
  unfold runTrap
  simp only
  split <;> rfl

theorem runTrap_traps (body : Body) (hm : MapPreserving body) (c : Nat) (e : Int) (t : TrapMap) :
    (runTrap body c e t).2.2 = t :=
  (runTrap_traps_eq body c e t).trans (hm c e t)

theorem runTrap_divert (body : Body) (c : Nat) (e : Int) (t : TrapMap) :
    (runTrap body c e t).2.1 = (body c e t).1.divert := by
  unfold runTrap
  simp only
  split
  · rename_i st hd; rw [hd]
  · rfl

/-- ☆ `run_trap` restores `$?` unless the body ends in `Divert::Interrupt` -/
theorem run_trap_restores_status (body : Body) (c : Nat) (exit : Int) (t : TrapMap)
    (h : ∀ st, (body c exit t).1.divert ≠ some (.interrupt st)) :
    (runTrap body c exit t).1 = exit := by
  unfold runTrap
  dsimp only
  split
  · rename_i st hd; exact absurd hd (h st)
  · rfl

theorem runTrap_exit_of_none (body : Body) (c : Nat) (e : Int) (t : TrapMap)
    (h : (runTrap body c e t).2.1 = none) : (runTrap body c e t).1 = e :=
  run_trap_restores_status body c e t fun st hd => by rw [runTrap_divert, hd] at h; cases h

theorem drain_conserve (body : Body) (hm : MapPreserving body)
    (fuel : Nat) (t : TrapMap) (exit : Int) (runs : List (Nat × Nat)) (hf : npend t < fuel) :
    (drain body fuel t exit runs).runs ++ pendingCommands (drain body fuel t exit runs).traps
        = runs ++ pendingCommands t
    ∧ ((drain body fuel t exit runs).divert = none →
        npend (drain body fuel t exit runs).traps = 0 ∧ (drain body fuel t exit runs).exit = exit)
    ∧ (pendingCommands t ≠ [] → runs.length < (drain body fuel t exit runs).runs.length)
    ∧ runs.length ≤ (drain body fuel t exit runs).runs.length := by
  fun_induction drain body fuel t exit runs
  case case1 => omega
  case case2 h => simp [takeCaught_none _ h]
  case case3 sig ts h t' c ha r d hd =>
    have hs := takeCaught_some _ sig ts h
    simp [hs.1, ha, r, t', runTrap_traps body hm]
  case case4 sig ts h t' c ha r hd ih =>
    have hs := takeCaught_some _ sig ts h
    simp only [r, t', runTrap_traps body hm, runTrap_exit_of_none body c _ _ hd] at ih ⊢
    have := ih (by omega)
    simp only [hs.1, ha, List.length_append, List.length_cons, List.length_nil, List.append_assoc] at this ⊢
    exact ⟨this.1, this.2.1, fun _ => by omega, by omega⟩
  case case5 sig ts h t' ha ih =>
    have hs := takeCaught_some_skip _ sig ts h ha
    simp only [t'] at ih ⊢
    simpa [hs.1] using ih (by omega)

theorem drain_nodivert (body : Body) (hb : NoDivert body) (fuel : Nat) (t : TrapMap) (exit : Int)
    (runs : List (Nat × Nat)) : (drain body fuel t exit runs).divert = none := by
  -- what survives is the branch where the action just run diverted
  fun_induction drain body fuel t exit runs <;> simp_all
  case case3 hd => rw [runTrap_divert, hb] at hd; cases hd

theorem drain_spec (body : Body) (hm : MapPreserving body) (hb : NoDivert body)
    (fuel : Nat) (t : TrapMap) (exit : Int) (runs : List (Nat × Nat)) (hf : npend t < fuel) :
    (drain body fuel t exit runs).runs = runs ++ pendingCommands t
    ∧ (drain body fuel t exit runs).exit = exit
    ∧ npend (drain body fuel t exit runs).traps = 0
    ∧ (drain body fuel t exit runs).divert = none := by
  have hnd := drain_nodivert body hb fuel t exit runs
  have hc := drain_conserve body hm fuel t exit runs hf
  have h0 := hc.2.1 hnd
  have hpc := npend_zero_pendingCommands _ h0.1
  refine ⟨?_, h0.2, h0.1, hnd⟩
  have := hc.1
  rw [hpc, List.append_nil] at this
  exact this

theorem runTrap_interrupt (body : Body) (c : Nat) (e : Int) (t : TrapMap) (x : Int)
    (h : (runTrap body c e t).2.1 = some (.interrupt (some x))) : (runTrap body c e t).1 = x := by
  unfold runTrap at h ⊢
  simp only at h ⊢
  split
  · rename_i st hd
    simp only [hd, Option.some.injEq, Divert.interrupt.injEq] at h
    subst h; rfl
  · rename_i d hne
    simp only at h
    exact absurd h (hne (some x))

theorem drain_interrupt_exit (body : Body) (fuel : Nat) (t : TrapMap) (exit : Int)
    (runs : List (Nat × Nat)) (x : Int)
    (h : (drain body fuel t exit runs).divert = some (.interrupt (some x))) :
    (drain body fuel t exit runs).exit = x := by
  -- what survives is the branch where the action just run diverted
  fun_induction drain body fuel t exit runs <;> simp_all
  exact runTrap_interrupt body _ _ _ x (by assumption)

theorem runTraps_conserve (body : Body) (hm : MapPreserving body) (t : TrapMap) (exit : Int) :
    (runTrapsForCaughtSignals body false t exit).runs
        ++ pendingCommands (runTrapsForCaughtSignals body false t exit).traps = pendingCommands t
    ∧ ((runTrapsForCaughtSignals body false t exit).divert = none →
        npend (runTrapsForCaughtSignals body false t exit).traps = 0
        ∧ (runTrapsForCaughtSignals body false t exit).exit = exit)
    ∧ (pendingCommands t ≠ [] → 0 < (runTrapsForCaughtSignals body false t exit).runs.length) := by
  have hf : npend t < t.length + 1 := Nat.lt_succ_of_le (npend_le_length t)
  have := drain_conserve body hm (t.length + 1) t exit [] hf
  simp only [runTrapsForCaughtSignals, Bool.false_eq_true, if_false]
  refine ⟨by simpa using this.1, this.2.1, ?_⟩
  intro hne
  simpa using this.2.2.1 hne

theorem runTraps_nodivert (body : Body) (hb : NoDivert body) (inTrap : Bool) (t : TrapMap) (exit : Int) :
    (runTrapsForCaughtSignals body inTrap t exit).divert = none := by
  unfold runTrapsForCaughtSignals
  split
  · rfl
  · exact drain_nodivert body hb _ t exit []

theorem runTraps_complete (body : Body) (hm : MapPreserving body) (t : TrapMap) (exit : Int)
    (hnd : (runTrapsForCaughtSignals body false t exit).divert = none) :
    (runTrapsForCaughtSignals body false t exit).runs = pendingCommands t
    ∧ pendingCommands (runTrapsForCaughtSignals body false t exit).traps = []
    ∧ (runTrapsForCaughtSignals body false t exit).exit = exit := by
  obtain ⟨h1, h2, _⟩ := runTraps_conserve body hm t exit
  have hpc := npend_zero_pendingCommands _ (h2 hnd).1
  rw [hpc, List.append_nil] at h1
  exact ⟨h1, hpc, (h2 hnd).2⟩

theorem boundaries_conserve (body : Body) (hm : MapPreserving body) (es : List Int) (t : TrapMap)
    (runs : List (Nat × Nat)) :
    (boundaries body es t runs).2 ++ pendingCommands (boundaries body es t runs).1
      = runs ++ pendingCommands t := by
  induction es generalizing t runs with
  | nil => rfl
  | cons e es ih =>
    simp only [boundaries]
    rw [ih, List.append_assoc, (runTraps_conserve body hm t e).1]

theorem boundaries_complete (body : Body) (hm : MapPreserving body) (es : List Int) (t : TrapMap)
    (runs : List (Nat × Nat)) (hlen : (pendingCommands t).length ≤ es.length) :
    pendingCommands (boundaries body es t runs).1 = [] := by
  induction es generalizing t runs with
  | nil =>
    simp only [List.length_nil, Nat.le_zero, List.length_eq_zero_iff] at hlen
    exact hlen
  | cons e es ih =>
    simp only [boundaries]
    apply ih
    have hc := runTraps_conserve body hm t e
    have hl := congrArg List.length hc.1
    simp only [List.length_append, List.length_cons] at hl hlen
    by_cases hne : pendingCommands t = []
    · rw [hne] at hl; simp only [List.length_nil] at hl; omega
    · have := hc.2.2 hne
      omega

theorem pendingCommands_mem_get (t : TrapMap) (s c : Nat) (h : (s, c) ∈ pendingCommands t) :
    (get t s).isSome = true := by
  induction t with
  | nil => simp [pendingCommands] at h
  | cons kv t ih =>
    obtain ⟨k, g⟩ := kv
    simp only [get]
    rw [pendingCommands_cons] at h
    rcases List.mem_append.mp h with h | h
    · rw [if_pos (mem_owed h)]; rfl
    · by_cases hk : s = k
      · rw [if_pos hk]; rfl
      · rw [if_neg hk]; exact ih h

theorem owed_pending (e : Option GrandState) (s c : Nat) (hs0 : s ≠ 0) (g : GrandState)
    (he : e = some g) (hact : g.current.action = .command c) :
    owed e s = if g.current.pending then [(s, c)] else [] := by
  subst he
  simp only [owed, hact, hs0, ne_eq, not_false_eq_true, true_and]

theorem owed_eq (t : TrapMap) (s c : Nat) (hs0 : s ≠ 0) (hact : actionAt t s = some (.command c)) :
    owed (get t s) s = if pendingAt t s then [(s, c)] else [] := by
  unfold actionAt at hact
  unfold pendingAt
  cases hg : get t s with
  | none => rw [hg] at hact; cases hact
  | some g =>
    rw [hg] at hact
    exact owed_pending _ s c hs0 g rfl (Option.some.inj hact)

/-- ★ the Spec function `pendingCommands` meets its description signal by signal: in a key-ordered map the entries of
    `pendingCommands t` for `s` are `owed (get t s) s` — `(s, c)` once if `s` is a signal whose entry is pending with
    command `c`, nothing otherwise.  (That the whole list is in ascending signal order is the shape of the definition on
    such a map; it is not part of this statement.) -/
theorem pendingCommands_spec (t : TrapMap) (hsorted : Sorted t) (s : Nat) :
    (pendingCommands t).filter (fun p => p.1 == s) = owed (get t s) s := by
  induction t with
  | nil => rfl
  | cons kv t ih =>
    obtain ⟨k, g⟩ := kv
    obtain ⟨hlo, hs⟩ := hsorted
    rw [pendingCommands_cons, List.filter_append, owed_filter, ih hs]
    simp only [get]
    by_cases hk : s = k
    · -- nothing in the tail belongs to `s`
      subst hk; rw [if_pos rfl, if_pos rfl, lo_get_none hlo]; exact List.append_nil _
    · rw [if_neg (Ne.symm hk), if_neg hk]; rfl

end YashModel.Trap
