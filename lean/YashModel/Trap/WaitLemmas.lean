/-
  C11 — the `wait` built-in interrupted by trapped signals (`run_trap_if_caught`, `wait_for_any_job_or_trap`): what ran
  for a signal followed by what is still owed to it is what was owed (`wait_interrupt_conserves`); the loop runs the
  action of the first caught signal that has one (`waitTrapLoop_first`).
-/
import YashModel.Trap.Builtin
import YashModel.Trap.Pending
namespace YashModel.Trap

/-- the run that interrupted the wait, as owed to signal `x` -/
def ranFor (r : Option (Nat × Nat × Int × Option Divert)) (x : Nat) : List (Nat × Nat) :=
  match r with
  | some (s, c, _, _) => if s = x then [(x, c)] else []
  | none => []

theorem owed_takeIf (t : TrapMap) (s x : Nat) :
    owed (get (takeSignalIfCaught t s).1 x) x = if x = s then [] else owed (get t x) x := by
  rw [get_takeIf]
  by_cases hx : x = s
  · subst hx
    rw [if_pos rfl, if_pos rfl]
    cases get t x with
    | none => rfl
    | some g =>
      exact owed_of_not_due (by simp [handleIfCaught_fst])
  · rw [if_neg hx, if_neg hx]

theorem owed_of_not_cmd_pending (t : TrapMap) (s : Nat) (h : isCmd t s = false ∨ pendingAt t s = false) :
    owed (get t s) s = [] := by
  unfold isCmd pendingAt at h
  cases hg : get t s with
  | none => rfl
  | some g =>
    rw [hg] at h
    rcases h with h | h
    · unfold owed; cases ha : g.current.action <;> simp_all [Action.isCommand]
    · exact owed_of_not_due (by simp [h])

theorem runTrapIfCaught_not_due (body : Body) (t : TrapMap) (s : Nat) (exit : Int)
    (h : isCmd t s = false ∨ pendingAt t s = false) :
    runTrapIfCaught body t s exit = ((takeSignalIfCaught t s).1, none) := by
  unfold isCmd pendingAt at h
  unfold runTrapIfCaught takeSignalIfCaught
  cases hg : get t s with
  | none => rfl
  | some g =>
    rw [hg] at h
    by_cases hp : g.current.pending = true
    · cases ha : g.current.action <;> simp_all [GrandState.handleIfCaught, Action.isCommand]
    · simp [GrandState.handleIfCaught, hp]

theorem runTrapIfCaught_cmd (body : Body) (t : TrapMap) (s : Nat) (exit : Int) (g : GrandState) (c : Nat)
    (hg : get t s = some g) (hp : g.current.pending = true) (ha : g.current.action = .command c) :
    runTrapIfCaught body t s exit
      = ((runTrap body c exit (takeSignalIfCaught t s).1).2.2,
         some (c, (runTrap body c exit (takeSignalIfCaught t s).1).1,
           (runTrap body c exit (takeSignalIfCaught t s).1).2.1)) := by
  simp only [runTrapIfCaught, takeSignalIfCaught, hg, GrandState.handleIfCaught, hp, if_true, ha]

/-- ★ `wait` interrupted by trapped signals (`wait_for_any_job_or_trap` + `run_trap_if_caught`):
    for the signals reported by the system in any order and every signal `x`, the run made for `x` followed by what
    is still owed to `x` is what was owed to `x` — the other caught signals keep their pending flag
    for the next command boundary, and none runs twice.  (That the action run is that of the first caught signal with a
    command trap is `waitTrapLoop_first`.) -/
theorem wait_interrupt_conserves (body : Body) (hm : MapPreserving body) (sigs : List Nat)
    (h0 : ¬ (0 ∈ sigs)) (t : TrapMap) (exit : Int) (x : Nat) :
    ranFor (waitTrapLoop body sigs t exit).2 x ++ owed (get (waitTrapLoop body sigs t exit).1 x) x
      = owed (get t x) x := by
  induction sigs generalizing t with
  | nil => simp [waitTrapLoop, ranFor]
  | cons s rest ih =>
    have hs0 : s ≠ 0 := fun h => h0 (h ▸ List.mem_cons_self ..)
    rw [waitTrapLoop]
    rcases cmd_pending_cases t s with hd | ⟨g, c, hg, hp, ha⟩
    · -- the flag of `s` is taken, nothing was owed to it, and the loop goes on
      rw [runTrapIfCaught_not_due body t s exit hd]
      simp only
      rw [ih (fun h => h0 (List.mem_cons_of_mem _ h)), owed_takeIf]
      by_cases hx : x = s
      · subst hx; rw [if_pos rfl, owed_of_not_cmd_pending t x hd]
      · rw [if_neg hx]
    · -- `s` is pending with a command trap: its action runs, which is what `s` was owed; the loop ends
      rw [runTrapIfCaught_cmd body t s exit g c hg hp ha]
      simp only [runTrap_traps body hm, ranFor]
      rw [owed_takeIf]
      by_cases hx : x = s
      · subst hx; rw [if_pos rfl, if_pos rfl, hg, owed_due ⟨hs0, hp⟩, ha]; rfl
      · rw [if_neg hx, if_neg (Ne.symm hx)]; rfl

theorem waitTrapLoop_first (body : Body) (sigs : List Nat) (t : TrapMap) (exit : Int)
    (hP : ∀ x ∈ sigs, isCmd t x = true → pendingAt t x = true) :
    ((waitTrapLoop body sigs t exit).2.map (·.1)) = sigs.find? (isCmd t)
    ∧ ∀ s c e d, (waitTrapLoop body sigs t exit).2 = some (s, c, e, d) → actionAt t s = some (.command c) := by
  induction sigs generalizing t with
  | nil => exact ⟨rfl, nofun⟩
  | cons s rest ih =>
    rw [waitTrapLoop, List.find?_cons]
    cases hc : isCmd t s with
    | true =>
      have hp := hP s (List.mem_cons_self ..) hc
      rcases cmd_pending_cases t s with hd | ⟨g, c, hg, hp', ha⟩
      · rcases hd with hd | hd
        · rw [hd] at hc; cases hc
        · rw [hd] at hp; cases hp
      · rw [runTrapIfCaught_cmd body t s exit g c hg hp' ha]
        refine ⟨rfl, ?_⟩
        intro s' c' e d h; cases h
        simp [actionAt, hg, ha]
    | false =>
      rw [runTrapIfCaught_not_due body t s exit (.inl hc)]
      have hcmd : isCmd (takeSignalIfCaught t s).1 = isCmd t :=
        funext fun x => isCmd_of_core _ _ x (takeIf_core t s x)
      have := ih (takeSignalIfCaught t s).1 (by
        intro x hx hcx
        rw [hcmd] at hcx
        rw [pendingAt_takeIf, if_neg (fun h => by rw [h, hc] at hcx; cases hcx)]
        exact hP x (List.mem_cons_of_mem _ hx) hcx)
      rw [hcmd] at this
      refine ⟨this.1, fun s' c e d h => ?_⟩
      rw [← actionAt_of_core _ _ s' (takeIf_core t s s')]
      exact this.2 s' c e d h

end YashModel.Trap
