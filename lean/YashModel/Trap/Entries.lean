/-
  C11 — one signal's view of the operations.  `EntryStep s` lists what an operation can do to the entry of `s` and to
  the disposition installed for `s`; an operation has one of five shapes (`Op.shapes`), and `step_at` shows that each is
  a chain of such steps, so a fact about one signal that the entry-level steps keep holds along every history
  (`run_at`): installed = reference merge (`merged`, whence `disposition_step`), ignored on entry stays so without
  override (`sticky`), the entries of SIGKILL / SIGSTOP are never written (`untouched`).  What an operation does to the
  system is a list of installs (`stepInstalls`, `step_sys`).  Last, `enter_subshell` signal by signal.
-/
import YashModel.Trap.Steps
import YashModel.Trap.Syscalls  -- for the six lists `enableChldOps` … `disableAllOps`
namespace YashModel.Trap

/-- a fact about the action, the origin and the internal disposition of an entry, if there is one: what changes only
    the pending flag or the parent state keeps it -/
def OnEntry (P : Action → Origin → Disp → Prop) (e : Option GrandState) : Prop :=
  ∀ g, e = some g → P g.current.action g.current.origin g.internal

theorem OnEntry.none {P : Action → Origin → Disp → Prop} : OnEntry P none := fun _ h => nomatch h

theorem OnEntry.of_core {P : Action → Origin → Disp → Prop} {e e' : Option GrandState}
    (h : e'.map core = e.map core) (he : OnEntry P e) : OnEntry P e' := by
  intro g' hg'
  subst hg'
  cases e with
  | none => simp at h
  | some g =>
    simp only [Option.map_some, Option.some.injEq, core, Prod.mk.injEq] at h
    rw [h.1, h.2.1, h.2.2.2]; exact he g rfl

theorem OnEntry.clearParent {P : Action → Origin → Disp → Prop} {e : Option GrandState} (he : OnEntry P e) :
    OnEntry P (e.map GrandState.clearParent) := by
  intro g' hg'
  cases e with
  | none => simp at hg'
  | some g =>
    simp only [Option.map_some, Option.some.injEq] at hg'
    subst hg'
    exact he g rfl

/-- the entry, if any, still says "ignored since start-up" -/
def IgnInh : Option GrandState → Prop := OnEntry fun a o _ => a = .ignore ∧ o = .inherited

def opNoOverride (s : Nat) : Op → Prop
  | .setAction c _ _ ov => ¬ (c = s ∧ ov = true)
  | _ => True

/-- histories without `set_action(…, override_ignore = true)` on `s` (a non-interactive shell) -/
def NoOverride (s : Nat) (ops : List Op) : Prop := ∀ op ∈ ops, opNoOverride s op

theorem ignInh_none : IgnInh none := OnEntry.none

theorem ignInh_clearParent {e : Option GrandState} (he : IgnInh e) :
    IgnInh (e.map GrandState.clearParent) := OnEntry.clearParent he

theorem setActionE_sticky (sys : Sys) (e : Option GrandState) (k : Nat) (a : Action) (o : Nat)
    (hk : k ≠ 0) (hd : e = none → sys.disp k = .ignore) (he : IgnInh e) :
    (GrandState.setAction sys e k a o false).2.2 = some .initiallyIgnored
    ∧ IgnInh (some (GrandState.setAction sys e k a o false).2.1)
    ∧ (GrandState.setAction sys e k a o false).1.disp k = sys.disp k := by
  have hr : refusedE e (sys.disp k) k false = true := by
    cases e with
    | none => simp [refusedE, hk, hd rfl]
    | some g => exact refusedE_some.mpr ⟨rfl, he g rfl⟩
  rw [setAction_entry, if_pos hr, setAction_sys]
  refine ⟨rfl, ?_, ?_⟩
  · cases e with
    | none => intro g hg; cases hg; exact ⟨rfl, rfl⟩
    | some g => exact he
  · -- refused: at most the probe, which installs the `Ignore` it finds
    cases e with
    | none => simp [GrandState.setActionCalls, hk, hd rfl, sysAfter_atSig_same]
    | some g => simp [GrandState.setActionCalls, he g rfl, sysAfter, atSig]

theorem setInternalE_sticky (sys : Sys) (e : Option GrandState) (k : Nat) (d : Disp)
    (hd : e = none → sys.disp k = .ignore) (he : IgnInh e) :
    IgnInh (GrandState.setInternal sys e k d).2 := by
  unfold GrandState.setInternal
  cases e with
  | none =>
    simp only
    split
    · exact ignInh_none
    · intro g hg
      simp only [Option.some.injEq, setDisposition_fst, hd rfl] at hg
      subst hg
      exact ⟨rfl, rfl⟩
  | some g =>
    intro g' hg'
    simp only [Option.some.injEq] at hg'
    subst hg'
    exact he g rfl

theorem enterState_sticky (g : GrandState) (opt : SubOpt) (he : IgnInh (some g)) :
    IgnInh (some (g.enterState opt)) := by
  have h := he g rfl
  intro g' hg'
  simp only [Option.some.injEq] at hg'
  subst hg'
  unfold GrandState.enterState
  simp only [h.1, Action.isCommand, Bool.false_eq_true, if_false]
  split <;> simp [h.1, h.2]

/-- the entry, if any, is just the record of the inherited disposition -/
def Untouched (init : Disp) : Option GrandState → Prop :=
  OnEntry fun a o i => i = .default ∧ a = (TrapState.fromInitial init).action ∧ o = .inherited

theorem untouched_none (init : Disp) : Untouched init none := OnEntry.none

theorem subshellOption_killStop {k : Nat} (hk : IsKillStop k) (g : GrandState) (ii ks : Bool) :
    subshellOption k g ii ks = .clear := by
  have := killStop_ne hk
  simp [subshellOption, this]

/-- what concerns signal `s`: its entry and the disposition installed for it -/
def State.at (st : State) (s : Nat) : Option GrandState × Disp := (get st.traps s, st.sys.disp s)

/-- What one `TrapSet` operation can do to the entry of signal `s` and to the disposition installed for `s` (`ovr`:
    `set_action` may be called with `override_ignore`).  The hypotheses are what the callers guarantee: `set_action`
    rejects KILL and STOP, internal dispositions exist for seven other signals only, the trailing loop of `enter_subshell`
    is for INT and QUIT, and `peek_state` finds `Catch` installed only for a signal the trap set knows.  The relation is
    closed under chaining (`refl`, `trans`), so what follows about it is by induction with those two structural cases. -/
inductive EntryStep (s : Nat) (ovr : Bool) : Option GrandState × Disp → Option GrandState × Disp → Prop
  | refl (c) : EntryStep s ovr c c
  | trans {x y z} : EntryStep s ovr x y → EntryStep s ovr y z → EntryStep s ovr x z
  | flags {e e' : Option GrandState} (d : Disp) : e'.map core = e.map core → EntryStep s ovr (e, d) (e', d)
  | clearParent (e : Option GrandState) (d : Disp) : EntryStep s ovr (e, d) (e.map GrandState.clearParent, d)
  | setAction (sys : Sys) (e : Option GrandState) (a : Action) (o : Nat) (ov : Bool) :
      ¬ IsKillStop s → (ov = true → ovr = true) →
      EntryStep s ovr (e, sys.disp s)
        (some (GrandState.setAction sys e s a o ov).2.1, (GrandState.setAction sys e s a o ov).1.disp s)
  | setInternal (sys : Sys) (e : Option GrandState) (d : Disp) : ¬ IsKillStop s →
      EntryStep s ovr (e, sys.disp s)
        ((GrandState.setInternal sys e s d).2, (GrandState.setInternal sys e s d).1.disp s)
  | enter (sys : Sys) (g : GrandState) (ii ks : Bool) :
      EntryStep s ovr (some g, sys.disp s)
        (some (g.enterState (subshellOption s g ii ks)), (g.enterSubshell sys s (subshellOption s g ii ks)).1.disp s)
  | ignore (sys : Sys) : ¬ IsKillStop s →
      EntryStep s ovr (none, sys.disp s) (some (GrandState.ignore sys s).2, (GrandState.ignore sys s).1.disp s)
  | peek (sys : Sys) (e : Option GrandState) : (e = none → s ≠ 0 → sys.disp s ≠ .catch) →
      EntryStep s ovr (e, sys.disp s) (some (GrandState.insertFromSystemIfVacant sys e s), sys.disp s)

theorem insert_vacant (sys : Sys) {s : Nat} (hs0 : s ≠ 0) :
    GrandState.insertFromSystemIfVacant sys none s = ⟨.fromInitial (sys.disp s), none, .default⟩ := by
  simp [GrandState.insertFromSystemIfVacant, hs0, Sys.getDisposition]

/-- installed = reference merge -/
theorem EntryStep.merged {s : Nat} {ovr : Bool} {c c'} (h : EntryStep s ovr c c') (init : Disp) (hs0 : s ≠ 0)
    (hc : c.2 = expected c.1 init) : c'.2 = expected c'.1 init := by
  induction h with
  | refl => exact hc
  | trans _ _ ih1 ih2 => exact ih2 (ih1 hc)
  | flags d hcore => rw [expected_of_core hcore]; exact hc
  | clearParent e d => rw [expected_clearParent]; exact hc
  | setAction sys e a o ov _ _ => exact setActionE_same sys e s a o ov init hs0 hc
  | setInternal sys e d _ => exact setInternalE_same sys e s d init hc
  | enter sys g ii ks => exact enterE_same sys g s _ hs0 hc
  | ignore sys _ => exact ignoreE_same sys s
  | peek sys e hv =>
    cases e with
    | some g => exact hc
    | none =>
      rw [insert_vacant sys hs0, expected_some, Disp.max_default_left, fromInitial_toDisp _ (hv rfl hs0)]

/-- ignored on entry, no override: still `{Ignore, Inherited}` -/
theorem EntryStep.sticky {s : Nat} {c c'} (h : EntryStep s false c c') (hs0 : s ≠ 0)
    (hc : c.2 = expected c.1 .ignore) (he : IgnInh c.1) : IgnInh c'.1 := by
  induction h with
  | refl => exact he
  | trans h1 _ ih1 ih2 => exact ih2 (h1.merged .ignore hs0 hc) (ih1 hc he)
  | flags d hcore => exact OnEntry.of_core hcore he
  | clearParent e d => exact ignInh_clearParent he
  | setAction sys e a o ov _ hov =>
    cases ov with
    | true => exact absurd (hov rfl) (by decide)
    | false => exact (setActionE_sticky sys e s a o hs0 (fun hn => by subst hn; exact hc) he).2.1
  | setInternal sys e d _ => exact setInternalE_sticky sys e s d (fun hn => by subst hn; exact hc) he
  | enter sys g ii ks => exact enterState_sticky g _ he
  | ignore sys _ =>
    intro g hg; cases hg
    have : sys.disp s = .ignore := hc
    simp [GrandState.ignore, this]
  | peek sys e _ =>
    cases e with
    | some g => exact he
    | none =>
      intro g hg; cases hg
      simp [insert_vacant sys hs0, show sys.disp s = .ignore from hc, TrapState.fromInitial]

/-- KILL / STOP: the entry, if any, is the record of the inherited disposition -/
theorem EntryStep.untouched {s : Nat} {ovr : Bool} {c c'} (h : EntryStep s ovr c c') (init : Disp) (hk : IsKillStop s)
    (hc : c.2 = expected c.1 init) (he : Untouched init c.1) : Untouched init c'.1 := by
  have hs0 := (killStop_ne hk).1
  induction h with
  | refl => exact he
  | trans h1 _ ih1 ih2 => exact ih2 (h1.merged init hs0 hc) (ih1 hc he)
  | flags d hcore => exact OnEntry.of_core hcore he
  | clearParent e d => exact OnEntry.clearParent he
  | setAction _ _ _ _ _ hn _ => exact absurd hk hn
  | setInternal _ _ _ hn => exact absurd hk hn
  | ignore _ hn => exact absurd hk hn
  | enter sys g ii ks =>
    obtain ⟨_, h2, h3⟩ := he g rfl
    intro g' hg'; cases hg'
    rw [subshellOption_killStop hk]
    have hnc := fromInitial_not_command init
    unfold GrandState.enterState
    simp [h2, h3, hnc]
  | peek sys e _ =>
    cases e with
    | some g => exact he
    | none =>
      intro g hg; cases hg
      simp [insert_vacant sys hs0, show sys.disp s = init from hc, TrapState.fromInitial]

theorem setAction_at (st : State) (c : Nat) (a : Action) (o : Nat) (ov : Bool) (s : Nat) (ovr : Bool)
    (hov : c = s → ov = true → ovr = true) :
    EntryStep s ovr (st.at s) ((setAction st c a o ov).1.at s) := by
  by_cases hk : IsKillStop c
  · rw [setAction_killStop st c a o ov hk]; exact .refl _
  · rw [setAction_of_not_killStop st c a o ov hk]
    refine .trans (.clearParent _ _) ?_
    simp only [State.at, get_set]
    by_cases hs : s = c
    · subst hs
      rw [if_pos rfl, ← get_clearParents]
      exact .setAction st.sys _ a o ov hk (hov rfl)
    · rw [if_neg hs, setActionE_other _ _ _ _ _ _ _ hs, get_clearParents]
      exact .refl _

theorem setInternal_at (st : State) (k : Nat) (d : Disp) (s : Nat) (ovr : Bool) (hk : ¬ IsKillStop k) :
    EntryStep s ovr (st.at s) ((setInternal st k d).at s) := by
  unfold setInternal
  simp only [State.at, setInternalE_get]
  by_cases hs : s = k
  · subst hs; rw [if_pos rfl]; exact .setInternal st.sys _ d hk
  · rw [if_neg hs, setInternalE_other _ _ _ _ _ hs]; exact .refl _

/-- the `set_internal_disposition` calls of an enable/disable function, in order (in this layer none can fail) -/
def seqInternal (st : State) (l : List (Nat × Disp)) : State := l.foldl (fun st p => setInternal st p.1 p.2) st

/-! ### the five shapes of an operation

An operation is `set_action`, one of six sequences of `set_internal_disposition` calls, `enter_subshell`, `peek_state`,
or touches nothing but pending flags.  The thirteen constructors are looked at here; what is proved about all operations
afterwards goes by these five cases (`Op.shapes`). -/

/-- the `set_internal_disposition` calls of an enable/disable operation (the lists are those of `Syscalls.lean`) -/
def Op.internalOps : Op → Option (List (Nat × Disp))
  | .enableChld => some enableChldOps
  | .enableTerminators => some enableTerminatorsOps
  | .enableStoppers => some enableStoppersOps
  | .disableTerminators => some disableTerminatorsOps
  | .disableStoppers => some disableStoppersOps
  | .disableAll => some disableAllOps
  | _ => none

/-- `catch_signal`, `take_caught_signal`, `take_signal_if_caught` and a delivery: pending flags only -/
def Op.flagsOnly : Op → Bool
  | .catchSignal _ | .takeCaught | .takeIfCaught _ | .deliver _ => true
  | _ => false

theorem Op.shapes {P : Op → Prop} (setAction : ∀ c a o ov, P (.setAction c a o ov))
    (internal : ∀ op l, op.internalOps = some l → P op) (enterSubshell : ∀ ii ks, P (.enterSubshell ii ks))
    (peek : ∀ c, P (.peek c)) (flags : ∀ op, op.flagsOnly = true → P op) : ∀ op, P op
  | .setAction c a o ov => setAction c a o ov
  | .enableChld => internal _ _ rfl
  | .enableTerminators => internal _ _ rfl
  | .enableStoppers => internal _ _ rfl
  | .disableTerminators => internal _ _ rfl
  | .disableStoppers => internal _ _ rfl
  | .disableAll => internal _ _ rfl
  | .enterSubshell ii ks => enterSubshell ii ks
  | .peek c => peek c
  | .catchSignal _ => flags _ rfl
  | .takeCaught => flags _ rfl
  | .takeIfCaught _ => flags _ rfl
  | .deliver _ => flags _ rfl

theorem step_internal {op : Op} {l : List (Nat × Disp)} (h : op.internalOps = some l) (st : State) :
    step st op = seqInternal st l := by
  cases op <;> cases h <;> rfl

theorem internalOps_ok {op : Op} {l : List (Nat × Disp)} (h : op.internalOps = some l) :
    (l.map (·.1)).Nodup ∧ ∀ p ∈ l, ¬ IsKillStop p.1 ∧ p.1 ≠ 0 := by
  cases op <;> cases h <;> exact ⟨by decide, by decide⟩

theorem step_flags {op : Op} (h : op.flagsOnly = true) (st : State) :
    (step st op).sys = st.sys ∧ (Sorted st.traps → Sorted (step st op).traps)
    ∧ ∀ s, (get (step st op).traps s).map core = (get st.traps s).map core := by
  cases op <;> first | cases h | skip
  · exact ⟨rfl, sorted_catchSignal _ _, catchSignal_core _ _⟩
  · exact ⟨rfl, sorted_takeCaught _, takeCaught_core _⟩
  · exact ⟨rfl, sorted_takeIf _ _, takeIf_core _ _⟩
  · simp only [step, deliver]
    split
    · exact ⟨rfl, sorted_catchSignal _ _, catchSignal_core _ _⟩
    · exact ⟨rfl, id, fun _ => rfl⟩

theorem seqInternal_at (l : List (Nat × Disp)) (hl : ∀ p ∈ l, ¬ IsKillStop p.1) (st : State) (s : Nat) (ovr : Bool) :
    EntryStep s ovr (st.at s) ((seqInternal st l).at s) := by
  induction l generalizing st with
  | nil => exact .refl _
  | cons p l ih =>
    exact .trans (setInternal_at st p.1 p.2 s ovr (hl p (List.mem_cons_self ..)))
      (ih (fun q hq => hl q (List.mem_cons_of_mem _ hq)) _)

theorem ignoreIfVacant_at (st : State) (k : Nat) (s : Nat) (ovr : Bool) (hk : ¬ IsKillStop k) :
    EntryStep s ovr (st.at s) ((ignoreIfVacant st k).at s) := by
  unfold ignoreIfVacant
  cases hg : get st.traps k with
  | some g => exact .refl _
  | none =>
    simp only [State.at, get_set]
    by_cases hs : s = k
    · subst hs; rw [if_pos rfl, hg]; exact .ignore st.sys hk
    · rw [if_neg hs, ignoreE_other _ _ _ hs]; exact .refl _

theorem enterAll_at (st : State) (ii ks : Bool) (s : Nat) (ovr : Bool) (hsorted : Sorted st.traps) :
    EntryStep s ovr (st.at s)
      (State.at ⟨(enterAll st.sys ii ks (clearParents st.traps)).1, (enterAll st.sys ii ks (clearParents st.traps)).2⟩ s) := by
  refine .trans (.clearParent _ _) ?_
  simp only [State.at]
  rw [enterAll_disp _ _ _ _ _ (sorted_clearParents _ hsorted), get_enterAll, get_clearParents]
  cases get st.traps s with
  | none => exact .refl _
  | some g => exact .enter st.sys _ ii ks

theorem enterSubshell_at (st : State) (ii ks : Bool) (s : Nat) (ovr : Bool) (hsorted : Sorted st.traps) :
    EntryStep s ovr (st.at s) ((enterSubshell st ii ks).at s) := by
  have h1 := enterAll_at st ii ks s ovr hsorted
  cases ii with
  | false => exact h1
  | true =>
    exact .trans (.trans h1 (ignoreIfVacant_at ⟨_, _⟩ SIGINT s ovr (by decide))) (ignoreIfVacant_at _ SIGQUIT s ovr (by decide))

/-- ★ a `TrapSet` operation, seen from signal `s` (`hv`: a vacant entry never has `Catch` installed) -/
theorem step_at (st : State) (op : Op) (s : Nat) (ovr : Bool) (hsorted : Sorted st.traps)
    (hov : ovr = false → opNoOverride s op) (hv : get st.traps s = none → s ≠ 0 → st.sys.disp s ≠ .catch) :
    EntryStep s ovr (st.at s) ((step st op).at s) := by
  induction op using Op.shapes with
  | setAction c a o ov =>
    refine setAction_at st c a o ov s ovr fun hc hv => ?_
    cases ovr with
    | true => rfl
    | false => exact absurd ⟨hc, hv⟩ (hov rfl)
  | internal op l h =>
    rw [step_internal h]; exact seqInternal_at l (fun p hp => ((internalOps_ok h).2 p hp).1) st s ovr
  | enterSubshell ii ks => exact enterSubshell_at st ii ks s ovr hsorted
  | peek c =>
    simp only [step, peekState, State.at, get_set]
    by_cases hs : s = c
    · subst hs; rw [if_pos rfl]; exact .peek st.sys _ hv
    · rw [if_neg hs]; exact .refl _
  | flags op h =>
    obtain ⟨h1, _, h3⟩ := step_flags h st
    unfold State.at; rw [h1]; exact .flags _ (h3 s)

/-! ### the system after an operation

The `set_disposition` calls of each `TrapSet` operation, in order, as a function of the state before (`…Installs`: the
`…Calls` of the entries concerned), and the system afterwards as `sysAfter` of them (`…_sys`).  `Economy.lean` shows that none of them is needless. -/

def setActionInstalls (st : State) (c : Nat) (a : Action) (ov : Bool) : List (Nat × Disp) :=
  if IsKillStop c then []
  else atSig c (GrandState.setActionCalls (get (clearParents st.traps) c) (st.sys.disp c) c a ov)

def seqInstalls : State → List (Nat × Disp) → List (Nat × Disp)
  | _, [] => []
  | st, (s, d) :: r => atSig s (GrandState.setInternalCalls (get st.traps s) d) ++ seqInstalls (setInternal st s d) r

def ignoreIfVacantInstalls (st : State) (k : Nat) : List (Nat × Disp) :=
  if get st.traps k = none then [(k, .ignore)] else []

def enterSubshellInstalls (st : State) (ii ks : Bool) : List (Nat × Disp) :=
  let st1 : State := ⟨(enterAll st.sys ii ks (clearParents st.traps)).1, (enterAll st.sys ii ks (clearParents st.traps)).2⟩
  enterAllCalls ii ks (clearParents st.traps)
    ++ if ii then ignoreIfVacantInstalls st1 SIGINT ++ ignoreIfVacantInstalls (ignoreIfVacant st1 SIGINT) SIGQUIT else []

theorem setActionT_sys (st : State) (c : Nat) (a : Action) (o : Nat) (ov : Bool) :
    (setAction st c a o ov).1.sys = sysAfter st.sys (setActionInstalls st c a ov) := by
  unfold setActionInstalls
  by_cases hk : IsKillStop c
  · rw [setAction_killStop st c a o ov hk, if_pos hk]; rfl
  · rw [setAction_of_not_killStop st c a o ov hk, if_neg hk]; exact setAction_sys _ _ _ _ _ _

theorem seqInternal_sys (l : List (Nat × Disp)) (st : State) :
    (seqInternal st l).sys = sysAfter st.sys (seqInstalls st l) := by
  induction l generalizing st with
  | nil => rfl
  | cons p l ih =>
    obtain ⟨s, d⟩ := p
    show (seqInternal (setInternal st s d) l).sys = _
    rw [ih, seqInstalls, sysAfter_append, ← setInternal_sys]; rfl

theorem ignoreIfVacant_sys (st : State) (k : Nat) :
    (ignoreIfVacant st k).sys = sysAfter st.sys (ignoreIfVacantInstalls st k) := by
  unfold ignoreIfVacant ignoreIfVacantInstalls
  cases get st.traps k <;> rfl

theorem enterSubshellT_sys (st : State) (ii ks : Bool) :
    (enterSubshell st ii ks).sys = sysAfter st.sys (enterSubshellInstalls st ii ks) := by
  unfold enterSubshell enterSubshellInstalls
  cases ii with
  | false => simp [enterAll_sys]
  | true =>
    simp only [if_true]
    rw [ignoreIfVacant_sys, ignoreIfVacant_sys, sysAfter_append, sysAfter_append, ← enterAll_sys]

def stepInstalls (st : State) : Op → List (Nat × Disp)
  | .setAction c a _ ov => setActionInstalls st c a ov
  | .enableChld => seqInstalls st enableChldOps
  | .enableTerminators => seqInstalls st enableTerminatorsOps
  | .enableStoppers => seqInstalls st enableStoppersOps
  | .disableTerminators => seqInstalls st disableTerminatorsOps
  | .disableStoppers => seqInstalls st disableStoppersOps
  | .disableAll => seqInstalls st disableAllOps
  | .enterSubshell ii ks => enterSubshellInstalls st ii ks
  | _ => []

theorem stepInstalls_internal {op : Op} {l : List (Nat × Disp)} (h : op.internalOps = some l) (st : State) :
    stepInstalls st op = seqInstalls st l := by
  cases op <;> cases h <;> rfl

theorem stepInstalls_flags {op : Op} (h : op.flagsOnly = true) (st : State) : stepInstalls st op = [] := by
  cases op <;> first | rfl | cases h

theorem step_sys (st : State) (op : Op) : (step st op).sys = sysAfter st.sys (stepInstalls st op) := by
  induction op using Op.shapes with
  | setAction c a o ov => exact setActionT_sys st c a o ov
  | internal op l h => rw [step_internal h, stepInstalls_internal h]; exact seqInternal_sys l st
  | enterSubshell ii ks => exact enterSubshellT_sys st ii ks
  | peek c => rfl
  | flags op h => rw [stepInstalls_flags h, (step_flags h st).1]; rfl

theorem sorted_seqInternal (l : List (Nat × Disp)) (st : State) (h : Sorted st.traps) :
    Sorted (seqInternal st l).traps := by
  induction l generalizing st with
  | nil => exact h
  | cons p l ih => exact ih _ (sorted_setOpt _ _ _ h)

theorem sorted_ignoreIfVacant (st : State) (k : Nat) (h : Sorted st.traps) : Sorted (ignoreIfVacant st k).traps := by
  unfold ignoreIfVacant
  cases get st.traps k with
  | some g => exact h
  | none => exact sorted_set _ _ _ h

theorem sorted_enterSubshell (st : State) (ii ks : Bool) (h : Sorted st.traps) :
    Sorted (enterSubshell st ii ks).traps := by
  have h1 := sorted_enterAll st.sys ii ks _ (sorted_clearParents _ h)
  cases ii with
  | false => exact h1
  | true => exact sorted_ignoreIfVacant _ _ (sorted_ignoreIfVacant ⟨_, _⟩ _ h1)

theorem sorted_step (st : State) (op : Op) (h : Sorted st.traps) : Sorted (step st op).traps := by
  induction op using Op.shapes with
  | setAction c a o ov => exact sorted_setAction st c a o ov h
  | internal op l hl => rw [step_internal hl]; exact sorted_seqInternal l st h
  | enterSubshell ii ks => exact sorted_enterSubshell st ii ks h
  | peek c => exact sorted_set _ _ _ h
  | flags op hf => exact (step_flags hf st).2.1 h

theorem Inv.vacant {init : Nat → Disp} {st : State} (h : Inv init st) (hinit : ∀ s, init s ≠ .catch) (s : Nat)
    (hn : get st.traps s = none) (hs0 : s ≠ 0) : st.sys.disp s ≠ .catch := by
  rw [h.disp_none hs0 hn]; exact hinit s

/-- ★ per-operation preservation: every operation keeps "installed = expected" for every signal
    (together with the side conditions it needs: map in key order, mask consistent) -/
theorem disposition_step (init : Nat → Disp) (hinit : ∀ s, init s ≠ .catch) (st : State) (op : Op)
    (h : Inv init st) : Inv init (step st op) :=
  ⟨sorted_step st op h.sorted,
   fun s hs0 => (step_at st op s true h.sorted nofun (h.vacant hinit s)).merged (init s) hs0 (h.disp s hs0),
   by rw [step_sys]; exact sysOK_sysAfter _ _ h.sys⟩

theorem inv_setAction (init : Nat → Disp) (hinit : ∀ s, init s ≠ .catch) (st : State)
    (c : Nat) (a : Action) (o : Nat) (ov : Bool) (h : Inv init st) :
    Inv init (setAction st c a o ov).1 :=
  disposition_step init hinit st (.setAction c a o ov) h

theorem inv_peek (init : Nat → Disp) (hinit : ∀ s, init s ≠ .catch) (st : State) (c : Nat)
    (h : Inv init st) : Inv init (peekState st c).1 :=
  disposition_step init hinit st (.peek c) h

theorem inv_enterAll (init : Nat → Disp) (st : State) (ii ks : Bool) (h : Inv init st) :
    Inv init { sys := (enterAll st.sys ii ks (clearParents st.traps)).1,
               traps := (enterAll st.sys ii ks (clearParents st.traps)).2 } :=
  ⟨sorted_enterAll _ _ _ _ (sorted_clearParents _ h.sorted),
   fun s hs0 => (enterAll_at st ii ks s true h.sorted).merged (init s) hs0 (h.disp s hs0),
   enterAll_sysOK _ _ _ _ h.sys⟩

theorem inv_enterSubshell (init : Nat → Disp) (st : State) (ii ks : Bool) (h : Inv init st) :
    Inv init (enterSubshell st ii ks) :=
  ⟨sorted_enterSubshell st ii ks h.sorted,
   fun s hs0 => (enterSubshell_at st ii ks s true h.sorted).merged (init s) hs0 (h.disp s hs0),
   by rw [enterSubshellT_sys]; exact sysOK_sysAfter _ _ h.sys⟩

/-- for every signal, KILL and STOP included (no operation calls it for those) -/
theorem inv_setInternal (init : Nat → Disp) (hinit : ∀ s, init s ≠ .catch) (st : State)
    (k : Nat) (d : Disp) (h : Inv init st) : Inv init (setInternal st k d) := by
  refine ⟨sorted_setOpt _ _ _ h.sorted, fun s hs0 => ?_, setInternalE_sysOK _ _ _ _ h.sys⟩
  show (GrandState.setInternal _ _ _ _).1.disp s = expected (get (setOpt _ _ _) s) _
  rw [setInternalE_get]
  by_cases hs : s = k
  · subst hs; rw [if_pos rfl]; exact setInternalE_same _ _ _ _ (init s) (h.disp s hs0)
  · rw [if_neg hs, setInternalE_other _ _ _ _ _ hs]; exact h.disp s hs0

theorem inv_ignoreIfVacant (init : Nat → Disp) (st : State) (k : Nat) (h : Inv init st) :
    Inv init (ignoreIfVacant st k) := by
  refine ⟨sorted_ignoreIfVacant st k h.sorted, fun s hs0 => ?_,
    by rw [ignoreIfVacant_sys]; exact sysOK_sysAfter _ _ h.sys⟩
  unfold ignoreIfVacant
  cases hg : get st.traps k with
  | some g => exact h.disp s hs0
  | none =>
    simp only [get_set]
    by_cases hs : s = k
    · subst hs; rw [if_pos rfl]; exact ignoreE_same _ _
    · rw [if_neg hs, ignoreE_other _ _ _ hs]; exact h.disp s hs0

theorem inv_init_state (init : Nat → Disp) (hinit : ∀ s, init s ≠ .catch) : Inv init (State.init init) := by
  refine ⟨trivial, fun s _ => rfl, ?_, ?_⟩
  · intro s
    have := hinit s
    show false = (init s == Disp.catch)
    cases hi : init s <;> simp_all
  · intro s; rfl

theorem inv_run (init : Nat → Disp) (hinit : ∀ s, init s ≠ .catch) (ops : List Op) (st : State)
    (h : Inv init st) : Inv init (run st ops) := by
  induction ops generalizing st with
  | nil => exact h
  | cons op ops ih => exact ih _ (disposition_step init hinit st op h)

theorem inv_reachable (init : Nat → Disp) (hinit : ∀ s, init s ≠ .catch) (ops : List Op) :
    Inv init (run (State.init init) ops) :=
  inv_run init hinit ops _ (inv_init_state init hinit)

/-- ★ along any history from a state that satisfies `Inv`, the entry of `s` and the disposition installed for `s` move
    by `EntryStep`: a fact about them that the entry-level steps keep holds of every reachable state -/
theorem run_at (init : Nat → Disp) (hinit : ∀ s, init s ≠ .catch) (ops : List Op) (st : State) (h : Inv init st)
    (s : Nat) (ovr : Bool) (hov : ovr = false → NoOverride s ops) :
    EntryStep s ovr (st.at s) ((run st ops).at s) := by
  induction ops generalizing st with
  | nil => exact .refl _
  | cons op ops ih =>
    exact .trans (step_at st op s ovr h.sorted (fun hf => hov hf op (List.mem_cons_self ..)) (h.vacant hinit s))
      (ih _ (disposition_step init hinit st op h) fun hf o ho => hov hf o (List.mem_cons_of_mem _ ho))

theorem sticky_step (init : Nat → Disp) (hinit : ∀ s, init s ≠ .catch) (st : State) (s : Nat) (op : Op)
    (hs0 : s ≠ 0) (hign : init s = .ignore) (h : Inv init st) (he : IgnInh (get st.traps s))
    (hno : opNoOverride s op) : IgnInh (get (step st op).traps s) :=
  (step_at st op s false h.sorted (fun _ => hno) (h.vacant hinit s)).sticky hs0 (hign ▸ h.disp s hs0) he

theorem untouched_run (init : Nat → Disp) (hinit : ∀ s, init s ≠ .catch) (k : Nat) (hk : IsKillStop k)
    (ops : List Op) (st : State) (h : Inv init st) (he : Untouched (init k) (get st.traps k)) :
    Untouched (init k) (get (run st ops).traps k) :=
  (run_at init hinit ops st h k true nofun).untouched (init k) hk (h.disp k (killStop_ne hk).1) he

/-- what `enter_subshell` makes of an action it does not ignore; the Spec's `posixReset` (`posixReset_eq`) -/
def resetAction : Action → Action
  | .command _ => .default
  | a => a

theorem posixReset_eq (a : Action) : posixReset a = resetAction a := by cases a <;> rfl

theorem enterState_fields (g : GrandState) (opt : SubOpt) :
    (g.enterState opt).internal = (if opt = .keep then g.internal else .default)
    ∧ (g.enterState opt).current.action = (if opt = .ignore then .ignore else resetAction g.current.action)
    ∧ (g.enterState opt).parent = (if g.current.action.isCommand then some g.current else g.parent) := by
  obtain ⟨⟨a, o, p⟩, par, i⟩ := g
  cases opt <;> cases a <;> simp [GrandState.enterState, Action.isCommand, resetAction]

theorem get_ignoreIfVacant (st : State) (k x : Nat) :
    get (ignoreIfVacant st k).traps x
      = if x = k ∧ get st.traps k = none then some (GrandState.ignore st.sys k).2 else get st.traps x := by
  unfold ignoreIfVacant
  cases hg : get st.traps k with
  | some g => simp
  | none =>
    simp only [get_set]
    by_cases hx : x = k <;> simp [hx]

theorem get_ignoreBoth (st1 : State) (s : Nat) :
    get (ignoreIfVacant (ignoreIfVacant st1 SIGINT) SIGQUIT).traps s
      = if s = SIGQUIT ∧ get st1.traps SIGQUIT = none
          then some (GrandState.ignore (ignoreIfVacant st1 SIGINT).sys SIGQUIT).2
        else if s = SIGINT ∧ get st1.traps SIGINT = none then some (GrandState.ignore st1.sys SIGINT).2
        else get st1.traps s := by
  have hne : ¬ SIGQUIT = SIGINT := by decide
  have hq : get (ignoreIfVacant st1 SIGINT).traps SIGQUIT = get st1.traps SIGQUIT := by
    rw [get_ignoreIfVacant]; simp [hne]
  rw [get_ignoreIfVacant (ignoreIfVacant st1 SIGINT) SIGQUIT s, hq, get_ignoreIfVacant st1 SIGINT s]

theorem get_enterSubshell_some (st : State) (ii ks : Bool) (s : Nat) (g : GrandState)
    (hg : get st.traps s = some g) :
    get (enterSubshell st ii ks).traps s
      = some (g.clearParent.enterState (subshellOption s g.clearParent ii ks)) := by
  have h1 : get (enterAll st.sys ii ks (clearParents st.traps)).2 s
      = some (g.clearParent.enterState (subshellOption s g.clearParent ii ks)) := by
    rw [get_enterAll, get_clearParents, hg]; rfl
  unfold enterSubshell
  simp only
  split
  · rw [get_ignoreBoth, if_neg, if_neg]
    · exact h1
    all_goals rintro ⟨rfl, hn⟩; cases hn.symm.trans h1
  · exact h1

theorem get_enterSubshell_none (st : State) (ii ks : Bool) (s : Nat)
    (hg : get st.traps s = none) :
    (ii = true ∧ (s = SIGINT ∨ s = SIGQUIT) →
        ∃ g', get (enterSubshell st ii ks).traps s = some g'
          ∧ g'.current.action = .ignore ∧ g'.internal = .default)
    ∧ (¬ (ii = true ∧ (s = SIGINT ∨ s = SIGQUIT)) → get (enterSubshell st ii ks).traps s = none) := by
  have h1 : get (enterAll st.sys ii ks (clearParents st.traps)).2 s = none := by
    rw [get_enterAll, get_clearParents, hg]; rfl
  have hne : ¬ SIGINT = SIGQUIT := by decide
  unfold enterSubshell
  simp only
  constructor
  · rintro ⟨hii, hs⟩
    subst hii
    simp only [if_true]
    rw [get_ignoreBoth]
    rcases hs with hs | hs
    · subst hs
      rw [if_neg (by simp [hne]), if_pos ⟨rfl, h1⟩]
      exact ⟨_, rfl, rfl, rfl⟩
    · subst hs
      rw [if_pos ⟨rfl, h1⟩]
      exact ⟨_, rfl, rfl, rfl⟩
  · intro hn
    split
    · rename_i hii
      have hs : ¬ s = SIGINT ∧ ¬ s = SIGQUIT := by
        constructor <;> intro h <;> exact hn ⟨hii, by simp [h]⟩
      rw [get_ignoreBoth]
      simp [hs.1, hs.2, h1]
    · exact h1

theorem enterState_not_command (g : GrandState) (opt : SubOpt) :
    (g.enterState opt).current.action.isCommand = false := by
  rw [(enterState_fields g opt).2.1]
  split
  · rfl
  · cases g.current.action <;> rfl

theorem enterSubshell_entry (st : State) (ii ks : Bool) (s : Nat) (g : GrandState) (hg : get st.traps s = some g) :
    ∃ g', get (enterSubshell st ii ks).traps s = some g'
      ∧ g'.current.action = (if subshellOption s g ii ks = .ignore then .ignore else resetAction g.current.action)
      ∧ g'.parent = (if g.current.action.isCommand then some g.current else none) := by
  have hf := enterState_fields g.clearParent (subshellOption s g ii ks)
  exact ⟨_, get_enterSubshell_some st ii ks s g hg, hf.2.1, hf.2.2⟩

theorem subshellOption_ne_keep (s : Nat) (g : GrandState) (ii ks : Bool) (hs0 : s ≠ 0) (hchld : s ≠ SIGCHLD) :
    subshellOption s g ii ks ≠ .keep := by
  unfold subshellOption
  simp only [hs0, hchld, if_false]
  split
  · simp
  · split <;> simp

/-- ★ `subshell_dispositions` — what `enter_subshell` leaves for a signal that has an entry, for
    each of the three per-signal options (`subshellOption`: SIGCHLD keeps, INT/QUIT of an
    asynchronous command and the job-control stoppers are ignored, everything else is cleared):
    the internal disposition survives only under `keep`; the action becomes `Ignore` under `ignore`
    and otherwise the POSIX reset (a command trap becomes default and is remembered as the parent
    state, ignore and default stay); and the installed disposition is accordingly
    `Ignore` / `max internal reset` / `reset` — never a handler that is no longer needed. -/
theorem subshell_dispositions (init : Nat → Disp) (st : State)
    (h : Inv init st) (ii ks : Bool) (s : Nat) (hs0 : s ≠ 0) (g : GrandState)
    (hg : get st.traps s = some g) :
    ∃ g', get (enterSubshell st ii ks).traps s = some g'
      ∧ g'.internal = (if subshellOption s g ii ks = .keep then g.internal else .default)
      ∧ g'.current.action
          = (if subshellOption s g ii ks = .ignore then .ignore else resetAction g.current.action)
      ∧ g'.parent = (if g.current.action.isCommand then some g.current else none)
      ∧ (enterSubshell st ii ks).sys.disp s
          = (match subshellOption s g ii ks with
             | .ignore => .ignore
             | .keep => g.internal.max (resetAction g.current.action).toDisp
             | .clear => (resetAction g.current.action).toDisp) := by
  have hopt : subshellOption s g.clearParent ii ks = subshellOption s g ii ks := rfl
  have hget := get_enterSubshell_some st ii ks s g hg
  rw [hopt] at hget
  have hf := enterState_fields g.clearParent (subshellOption s g ii ks)
  have hinv := (inv_enterSubshell init st ii ks h).disp s hs0
  rw [hget, expected_some, hf.1, hf.2.1] at hinv
  refine ⟨_, hget, hf.1, hf.2.1, ?_, ?_⟩
  · rw [hf.2.2]; rfl
  · rw [hinv]
    show (if subshellOption s g ii ks = .keep then g.internal else .default).max
        (if subshellOption s g ii ks = .ignore then Action.ignore else resetAction g.current.action).toDisp = _
    cases subshellOption s g ii ks <;>
      simp [Action.toDisp, Disp.max_default_left]

/-- ★ vacant entries on `enter_subshell`: SIGINT/SIGQUIT of an asynchronous command get an
    `Ignore` entry and the `Ignore` disposition; every other untouched signal stays untouched. -/
theorem subshell_vacant (init : Nat → Disp) (st : State)
    (h : Inv init st) (ii ks : Bool) (s : Nat) (hs0 : s ≠ 0) (hg : get st.traps s = none) :
    (ii = true ∧ (s = SIGINT ∨ s = SIGQUIT) → (enterSubshell st ii ks).sys.disp s = .ignore)
    ∧ (¬ (ii = true ∧ (s = SIGINT ∨ s = SIGQUIT)) →
        get (enterSubshell st ii ks).traps s = none
        ∧ (enterSubshell st ii ks).sys.disp s = st.sys.disp s) := by
  have hn := get_enterSubshell_none st ii ks s hg
  have hinv := (inv_enterSubshell init st ii ks h).disp s hs0
  constructor
  · intro hc
    obtain ⟨g', hg', ha, hi⟩ := hn.1 hc
    rw [hinv, hg', expected_some, ha, hi]; rfl
  · intro hc
    have := hn.2 hc
    refine ⟨this, ?_⟩
    rw [hinv, this, expected_none, h.disp_none hs0 hg]

theorem enterSubshell_disp (init : Nat → Disp) (st : State) (h : Inv init st) (ii ks : Bool) (s : Nat) (hs0 : s ≠ 0)
    (g : GrandState) (hg : get st.traps s = some g) (hk : subshellOption s g ii ks ≠ .keep) :
    (enterSubshell st ii ks).sys.disp s
      = if subshellOption s g ii ks = .ignore then .ignore else (resetAction g.current.action).toDisp := by
  obtain ⟨g', _, _, _, _, hd⟩ := subshell_dispositions init st h ii ks s hs0 g hg
  rw [hd]
  cases ho : subshellOption s g ii ks with
  | keep => exact absurd ho hk
  | ignore => rfl
  | clear => rfl

theorem enterSubshell_no_handler (init : Nat → Disp) (hinit : ∀ s, init s ≠ .catch) (st : State) (h : Inv init st)
    (ii ks : Bool) (s : Nat) (hs0 : s ≠ 0) (hchld : s ≠ SIGCHLD) : (enterSubshell st ii ks).sys.disp s ≠ .catch := by
  cases hg : get st.traps s with
  | some g =>
    rw [enterSubshell_disp init st h ii ks s hs0 g hg (subshellOption_ne_keep s g ii ks hs0 hchld)]
    split
    · simp
    · cases g.current.action <;> simp [resetAction, Action.toDisp]
  | none =>
    have hv := subshell_vacant init st h ii ks s hs0 hg
    by_cases hc : ii = true ∧ (s = SIGINT ∨ s = SIGQUIT)
    · rw [hv.1 hc]; simp
    · rw [(hv.2 hc).2]; exact h.vacant hinit s hg hs0

theorem enterSubshell_ignored_stays (init : Nat → Disp) (st : State) (h : Inv init st) (ii ks : Bool) (s : Nat)
    (hs0 : s ≠ 0) (hchld : s ≠ SIGCHLD) (g : GrandState) (hg : get st.traps s = some g)
    (ha : g.current.action = .ignore) : (enterSubshell st ii ks).sys.disp s = .ignore := by
  rw [enterSubshell_disp init st h ii ks s hs0 g hg (subshellOption_ne_keep s g ii ks hs0 hchld), ha]
  split <;> rfl

end YashModel.Trap
