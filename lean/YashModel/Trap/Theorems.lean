/-
  C11 — property theorems about the dispositions (and non-vacuity examples): what histories of `TrapSet` operations and
  `trap` commands keep true of the installed dispositions, the blocking mask, ignored-on-entry signals, KILL/STOP and
  `enter_subshell`, and the `trap` built-in.

  Property text: "After any sequence of `trap` commands, shell-internal handler changes and subshell
  entries, the disposition actually installed for each signal is the one implied by the user's trap
  action combined with the shell's own needs - never dropping a handler still needed, never
  catching what should be ignored or defaulted - and in a non-interactive shell a signal that was
  ignored on entry can be neither trapped nor reset; KILL and STOP can never be trapped.  Each
  delivery of a trapped signal makes its action run exactly once, at the next command boundary (or
  on interrupting `wait`), with `$?` preserved, regardless of when the signal arrives."

  Histories are lists of `Op` (the public `TrapSet` API: `set_action` with/without override, the six
  enable/disable operations for internal dispositions, `enter_subshell` with both flags,
  `peek_state`, `catch_signal`, `take_caught_signal`, `take_signal_if_caught`, and the delivery of
  a signal through the blocked-mask / `select` path), of any length, from any inherited
  dispositions `init` that are `Default` or `Ignore` (a freshly exec'ed process cannot inherit a
  handler), over all signal numbers.  Running the pending traps at a command boundary is, on the
  trap set, a run of `take_caught_signal` steps interleaved with whatever the bodies do, so it is
  covered by these histories; its once-only / `$?` law is `pending_exactly_once`.
-/
import YashModel.Trap.BuiltinLemmas
namespace YashModel.Trap

/-- ★ `disposition_invariant`: after every operation history, from any inherited dispositions, the
    disposition installed in the system for every signal is
    `if vacant then inherited else max internal (disposition of the current action)`. -/
theorem disposition_invariant (init : Nat → Disp) (hinit : ∀ s, init s ≠ .catch) (ops : List Op)
    (s : Nat) (hs : s ≠ 0) :
    (run (State.init init) ops).sys.disp s
      = expected (get (run (State.init init) ops).traps s) (init s) :=
  (inv_reachable init hinit ops).disp s hs

/-- the reading of the property text: a handler still needed is never dropped (`Catch` is installed
    whenever the user action is a command or the shell needs to catch), nothing is caught that
    should be ignored or defaulted (`Catch` is installed only then), and `Default` is installed
    only if neither side needs anything -/
theorem disposition_meaning (init : Nat → Disp) (hinit : ∀ s, init s ≠ .catch) (ops : List Op)
    (s : Nat) (hs : s ≠ 0) (g : GrandState) (hg : get (run (State.init init) ops).traps s = some g) :
    ((run (State.init init) ops).sys.disp s = .catch
        ↔ (g.internal = .catch ∨ g.current.action.isCommand = true))
    ∧ ((run (State.init init) ops).sys.disp s = .default
        ↔ (g.internal = .default ∧ g.current.action = .default)) := by
  rw [disposition_invariant init hinit ops s hs, hg, expected_some]
  constructor
  · rw [Disp.max_eq_catch]
    cases g.current.action <;> simp [Action.toDisp, Action.isCommand]
  · rw [Disp.max_eq_default]
    cases g.current.action <;> simp [Action.toDisp]

example : ∀ s, (fun s => if s = SIGQUIT then Disp.ignore else Disp.default) s ≠ .catch := by
  intro s; by_cases h : s = SIGQUIT <;> simp [h]

/-- non-vacuity: a history in which the merge matters (user ignores SIGCHLD, the shell must catch it;
    then a subshell is entered) -/
example :
    let st := run (State.init fun _ => .default)
      [.setAction SIGCHLD .ignore 0 false, .enableChld, .setAction SIGINT (.command 1) 2 false,
       .enterSubshell true false]
    st.sys.disp SIGCHLD = .catch ∧ st.sys.disp SIGINT = .ignore
      ∧ (getState st.traps SIGINT).2 = some { action := .command 1, origin := .user 2, pending := false } := by
  decide +kernel

/-- ★ `mask_iff_catch`: over all histories a signal is blocked exactly when `Catch` is installed for
    it (so a trapped signal is delivered only inside `select`, i.e. at command boundaries and in
    `wait`, and an untrapped one is never left blocked). -/
theorem mask_iff_catch (init : Nat → Disp) (hinit : ∀ s, init s ≠ .catch) (ops : List Op) (s : Nat) :
    (run (State.init init) ops).sys.blocked s = true
      ↔ (run (State.init init) ops).sys.disp s = .catch := by
  have := (inv_reachable init hinit ops).sys.mask s
  rw [this]
  simp

/-- ☆ the mask used inside `select` never blocks a signal, so a caught (blocked) signal is
    deliverable there -/
theorem select_mask_open (init : Nat → Disp) (hinit : ∀ s, init s ≠ .catch) (ops : List Op)
    (m : Nat → Bool) (hm : (run (State.init init) ops).sys.selectMask = some m) (s : Nat) :
    m s = false := by
  have := (inv_reachable init hinit ops).sys.sel
  rw [hm] at this
  exact this s

/-- ☆ hence a signal sent while `Catch` is installed is recorded as pending by the next poll -/
theorem delivery_reaches_trap_set (init : Nat → Disp) (hinit : ∀ s, init s ≠ .catch) (ops : List Op)
    (s : Nat) (hc : (run (State.init init) ops).sys.disp s = .catch) :
    (deliver (run (State.init init) ops) s).traps = catchSignal (run (State.init init) ops).traps s := by
  unfold deliver
  simp [hc, (inv_reachable init hinit ops).sys.select_open s]

/-- ★ `kill_stop_untrappable`: `set_action` on SIGKILL / SIGSTOP returns the error and touches
    neither the trap set nor the system, whatever the action and the override flag. -/
theorem kill_stop_untrappable (st : State) (a : Action) (o : Nat) (ov : Bool) :
    setAction st SIGKILL a o ov = (st, some .sigkill)
    ∧ setAction st SIGSTOP a o ov = (st, some .sigstop) :=
  ⟨setAction_killStop st _ a o ov (.inl rfl), setAction_killStop st _ a o ov (.inr rfl)⟩

/-- ★ over whole histories: whatever is attempted, SIGKILL and SIGSTOP keep the inherited
    disposition, are never blocked, and their entries (created only by `peek_state`) never hold a
    user action or an internal disposition. -/
theorem kill_stop_never_caught (init : Nat → Disp) (hinit : ∀ s, init s ≠ .catch) (ops : List Op)
    (k : Nat) (hk : k = SIGKILL ∨ k = SIGSTOP) :
    let st := run (State.init init) ops
    st.sys.disp k = init k ∧ st.sys.blocked k = false
    ∧ ∀ g, get st.traps k = some g →
        g.current.action.isCommand = false ∧ g.current.origin = .inherited ∧ g.internal = .default := by
  intro st
  have hi : Inv init st := inv_reachable init hinit ops
  have hu : Untouched (init k) (get st.traps k) :=
    untouched_run init hinit k hk ops _ (inv_init_state init hinit) (untouched_none _)
  have hk0 : k ≠ 0 := (killStop_ne hk).1
  have hd : st.sys.disp k = init k := by
    cases hg : get st.traps k with
    | none => exact hi.disp_none hk0 hg
    | some g =>
      rw [hi.disp_some hk0 hg, (hu g hg).1, (hu g hg).2.1, Disp.max_default_left]
      exact fromInitial_toDisp _ (hinit k)
  refine ⟨hd, ?_, ?_⟩
  · rw [hi.sys.mask k, hd]
    have := hinit k
    cases hik : init k <;> simp_all
  · intro g hg
    have := hu g hg
    refine ⟨?_, this.2.2, this.1⟩
    rw [this.2.1]; exact fromInitial_not_command _

example : (setAction (State.init fun _ => .default) SIGKILL (.command 1) 0 true).2 = some .sigkill := by
  decide +kernel

theorem sticky_run (init : Nat → Disp) (hinit : ∀ s, init s ≠ .catch) (s : Nat) (hs0 : s ≠ 0)
    (hign : init s = .ignore) (ops : List Op) (st : State) (h : Inv init st)
    (he : IgnInh (get st.traps s)) (hno : NoOverride s ops) :
    IgnInh (get (run st ops).traps s) :=
  (run_at init hinit ops st h s false fun _ => hno).sticky hs0 (hign ▸ h.disp s hs0) he

/-- ★ `initially_ignored_sticky`: for a signal ignored on entry, after any history without override
    (i) the trap set still records `{Ignore, Inherited}` for it (or nothing),
    (ii) the installed disposition is never `Default`, and is `Ignore` unless the shell itself
         needs to catch the signal,
    (iii) a further `set_action` without override fails with `InitiallyIgnored`, leaves the recorded
         action `{Ignore, Inherited}` and leaves the installed disposition as it was — the signal
         can be neither trapped nor reset. -/
theorem initially_ignored_sticky (init : Nat → Disp) (hinit : ∀ s, init s ≠ .catch) (s : Nat)
    (hs0 : s ≠ 0) (hign : init s = .ignore) (ops : List Op) (hno : NoOverride s ops) :
    let st := run (State.init init) ops
    (∀ g, get st.traps s = some g → g.current.action = .ignore ∧ g.current.origin = .inherited)
    ∧ st.sys.disp s ≠ .default
    ∧ (st.sys.disp s = .ignore ∨ ∃ g, get st.traps s = some g ∧ g.internal = .catch)
    ∧ (∀ a o, s ≠ SIGKILL → s ≠ SIGSTOP →
        (setAction st s a o false).2 = some .initiallyIgnored
        ∧ (∀ g, get (setAction st s a o false).1.traps s = some g →
              g.current.action = .ignore ∧ g.current.origin = .inherited)
        ∧ (setAction st s a o false).1.sys.disp s = st.sys.disp s) := by
  intro st
  have hi : Inv init st := inv_reachable init hinit ops
  have he : IgnInh (get st.traps s) :=
    sticky_run init hinit s hs0 hign ops _ (inv_init_state init hinit) ignInh_none hno
  refine ⟨he, ?_, ?_, ?_⟩
  · cases hg : get st.traps s with
    | none => simp [hi.disp_none hs0 hg, hign]
    | some g =>
      simp only [hi.disp_some hs0 hg, (he g hg).1, Action.toDisp, ne_eq, Disp.max_eq_default]
      simp
  · cases hg : get st.traps s with
    | none => left; rw [hi.disp_none hs0 hg, hign]
    | some g =>
      simp only [hi.disp_some hs0 hg, (he g hg).1, Action.toDisp]
      cases hint : g.internal
      · left; rfl
      · left; rfl
      · right; exact ⟨g, rfl, hint⟩
  · intro a o hk hst
    have hvac : get (clearParents st.traps) s = none → st.sys.disp s = .ignore := by
      intro hn
      rw [get_clearParents, Option.map_eq_none_iff] at hn
      rw [hi.disp_none hs0 hn, hign]
    have hcp : IgnInh (get (clearParents st.traps) s) := by
      rw [get_clearParents]; exact ignInh_clearParent he
    have := setActionE_sticky st.sys (get (clearParents st.traps) s) s a o hs0 hvac hcp
    rw [setAction_of_not_killStop st s a o false fun h => h.elim hk hst]
    simp only [get_set, if_true]
    exact ⟨this.1, this.2.1, this.2.2⟩

/-- non-vacuity: SIGQUIT ignored on entry, a history that tries to trap and reset it, enables the
    interactive dispositions and enters a subshell -/
example :
    let init : Nat → Disp := fun s => if s = SIGQUIT then .ignore else .default
    let ops : List Op := [.setAction SIGQUIT (.command 1) 0 false, .enableTerminators,
      .setAction SIGQUIT .default 2 false, .enterSubshell true true, .peek SIGQUIT]
    NoOverride SIGQUIT ops ∧ (run (State.init init) ops).sys.disp SIGQUIT = .ignore := by
  refine ⟨?_, by decide⟩
  intro op hop
  simp only [List.mem_cons, List.mem_nil_iff, or_false] at hop
  rcases hop with h | h | h | h | h <;> subst h <;> simp [opNoOverride]

/-- non-vacuity of `subshell_dispositions` (an interactive shell's
    SIGINT, internal `Catch`, asynchronous command → `Ignore` installed, internal disposition gone) -/
example :
    let st := run (State.init fun _ => .default) [.enableTerminators, .enableChld]
    subshellOption SIGINT ((get st.traps SIGINT).getD default) true false = .ignore
    ∧ (enterSubshell st true false).sys.disp SIGINT = .ignore
    ∧ ((get (enterSubshell st true false).traps SIGINT).map (·.internal)) = some .default
    ∧ (enterSubshell st true false).sys.disp SIGCHLD = .catch := by
  decide +kernel

/-- ★ `trap ACTION … KILL …` / `… STOP …` always fails the built-in (an error other than
    `InitiallyIgnored` is reported), whatever else is in the list -/
theorem trap_builtin_kill_stop_fails (a : Action) (origin : Nat) (ov : Bool) (conds : List Nat)
    (st : State) (k : Nat) (hk : k = SIGKILL ∨ k = SIGSTOP) (hm : k ∈ conds) :
    ∃ e, e ∈ (setActions a origin ov conds st).2 ∧ e ≠ .initiallyIgnored := by
  induction conds generalizing st with
  | nil => cases hm
  | cons c conds ih =>
    simp only [setActions]
    rcases List.mem_cons.mp hm with h | h
    · subst h
      rw [setAction_killStop st k a origin ov hk]
      exact ⟨_, List.mem_append_left _ (List.mem_singleton_self _), by split <;> decide⟩
    · obtain ⟨e, he, hne⟩ := ih (setAction st c a origin ov).1 h
      exact ⟨e, List.mem_append_right _ he, hne⟩

/-- ★ `trap -p COND` right after a successful `trap ACTION COND` prints exactly that action
    (default as `-`, ignore as `''`, a command as itself) -/
theorem trap_print_reads_back (st : State) (c : Nat) (a : Action) (origin : Nat) (ov : Bool)
    (hok : (setAction st c a origin ov).2 = none) :
    (displayTrap (setAction st c a origin ov).1 c true).2 = [{ action := a, cond := c }] := by
  have hg := get_setAction_ok st c a origin ov hok
  unfold displayTrap peekState
  simp only [hg, GrandState.insertFromSystemIfVacant, Option.getD_none]
  cases a <;> rfl

/-- ★ every form of the `trap` built-in (print all, `-p`, `-p COND…`, set / reset / ignore for any
    list of named or numeric conditions, with its syntax errors and with KILL/STOP/initially-ignored
    failures) keeps the invariant: the built-in only composes `peek_state` and `set_action`. -/
theorem trap_builtin_preserves_invariant (init : Nat → Disp) (hinit : ∀ s, init s ≠ .catch)
    (cmdOf : String → Nat) (st : State) (origin : Nat) (interactive print : Bool) (operands : List String)
    (h : Inv init st) : Inv init (trapMain cmdOf st origin interactive print operands).st := by
  rw [trapMain_run]
  exact inv_run init hinit _ st h

/-- ★ `trap_command_sets_every_condition` — the per-condition loop of the built-in
    (`Command::execute`, `SetAction`): for every action, origin, override flag, list of conditions
    (in any order, with repetitions, with KILL/STOP or ignored-on-entry signals anywhere in it) and
    every listed condition `c` other than KILL/STOP that is not ignored on entry (`refused`), the
    command leaves `c` with exactly that action — whatever stands before or after `c` in the list:
    an ignored-on-entry or failing condition never makes the loop skip the others — and, in a
    reachable state, with the disposition `max internal action` installed.  (An ignored-on-entry
    condition itself stays `{Ignore, Inherited}`: `initially_ignored_sticky`.) -/
theorem trap_command_sets_every_condition (init : Nat → Disp) (hinit : ∀ s, init s ≠ .catch)
    (st : State) (h : Inv init st) (a : Action) (origin : Nat) (ov : Bool) (conds : List Nat) (c : Nat)
    (hm : c ∈ conds) (hk : c ≠ SIGKILL) (hs : c ≠ SIGSTOP) (hr : refused st c ov = false) :
    ∃ g, get (setActions a origin ov conds st).1.traps c = some g
      ∧ g.current = { action := a, origin := .user origin, pending := false }
      ∧ (c ≠ 0 → (setActions a origin ov conds st).1.sys.disp c = g.internal.max a.toDisp) := by
  obtain ⟨g, hg, hn⟩ := setActions_sets_each a origin ov conds st c hm hk hs hr
  refine ⟨g, hg, hn, ?_⟩
  intro h0
  have hi : Inv init (setActions a origin ov conds st).1 := setActions_run a origin ov conds st ▸ inv_run init hinit _ st h
  rw [hi.disp_some h0 hg, hn]; rfl

/-- non-vacuity: `trap 'cmd' HUP INT TERM EXIT` with HUP ignored on
    entry: HUP stays ignored, INT, TERM and EXIT get the action -/
example :
    let init : Nat → Disp := fun s => if s = 1 then .ignore else .default
    let st := (setActions (.command 7) 0 false [1, SIGINT, SIGTERM, 0] (State.init init)).1
    refused (State.init init) 1 false = true ∧ refused (State.init init) SIGTERM false = false
    ∧ st.sys.disp 1 = .ignore ∧ st.sys.disp SIGINT = .catch ∧ st.sys.disp SIGTERM = .catch
    ∧ (getState st.traps 0).1 = some { action := .command 7, origin := .user 0, pending := false } := by
  decide +kernel

/-- what a shell does to its trap set: a `TrapSet` operation, or a whole `trap` command -/
inductive ShOp where
  | op (o : Op)
  | trap (origin : Nat) (interactive print : Bool) (operands : List String)

def stepSh (cmdOf : String → Nat) (st : State) : ShOp → State
  | .op o => step st o
  | .trap origin i p operands => (trapMain cmdOf st origin i p operands).st

def runSh (cmdOf : String → Nat) (st : State) : List ShOp → State
  | [] => st
  | o :: os => runSh cmdOf (stepSh cmdOf st o) os

def flattenSh (cmdOf : String → Nat) : List ShOp → List Op
  | [] => []
  | .op o :: os => o :: flattenSh cmdOf os
  | .trap origin i p operands :: os => trapMainOps cmdOf origin i p operands ++ flattenSh cmdOf os

/-- ★ connecting theorem: every `trap` command (any options, any operands, accepted or rejected)
    is a finite history of `peek_state` / `set_action` operations, so a shell-level history is a
    `TrapSet` history and every theorem over all `Op` histories applies to it. -/
theorem shell_history_is_op_history (cmdOf : String → Nat) (st : State) (ops : List ShOp) :
    runSh cmdOf st ops = run st (flattenSh cmdOf ops) := by
  induction ops generalizing st with
  | nil => rfl
  | cons o os ih =>
    cases o with
    | op o => simp only [runSh, stepSh, flattenSh, run]; exact ih _
    | trap origin i p operands =>
      simp only [runSh, stepSh, flattenSh]
      rw [ih, trapMain_run, run_append]

/-- in a non-interactive shell no `trap` command overrides an ignored-on-entry signal -/
theorem trapMainOps_noOverride (cmdOf : String → Nat) (origin : Nat) (print : Bool)
    (operands : List String) (s : Nat) : NoOverride s (trapMainOps cmdOf origin false print operands) := by
  intro op hop
  unfold trapMainOps at hop
  cases hi : interpret cmdOf print operands with
  | error e => rw [hi] at hop; cases hop
  | ok cmd =>
    rw [hi] at hop
    cases cmd with
    | printAll incl =>
      simp only [trapCmdOps, List.mem_map] at hop
      obtain ⟨c, _, rfl⟩ := hop; trivial
    | print cs =>
      simp only [trapCmdOps, List.mem_map] at hop
      obtain ⟨c, _, rfl⟩ := hop; trivial
    | setAction a cs =>
      simp only [trapCmdOps, List.mem_map] at hop
      obtain ⟨c, _, rfl⟩ := hop
      simp [opNoOverride]

/-- ★ `disposition_invariant`, `mask_iff_catch` and `initially_ignored_sticky` for shell-level
    histories: any mix of `TrapSet` operations and `trap` commands (non-interactive for the
    stickiness clause), from any inherited dispositions, for every signal. -/
theorem shell_level_invariants (init : Nat → Disp) (hinit : ∀ s, init s ≠ .catch)
    (cmdOf : String → Nat) (ops : List ShOp) (s : Nat) (hs0 : s ≠ 0) :
    let st := runSh cmdOf (State.init init) ops
    st.sys.disp s = expected (get st.traps s) (init s)
    ∧ (st.sys.blocked s = true ↔ st.sys.disp s = .catch)
    ∧ (init s = .ignore → NoOverride s (flattenSh cmdOf ops) →
        (∀ g, get st.traps s = some g → g.current.action = .ignore ∧ g.current.origin = .inherited)
        ∧ st.sys.disp s ≠ .default) := by
  intro st
  have hst : st = run (State.init init) (flattenSh cmdOf ops) := shell_history_is_op_history _ _ _
  rw [hst]
  refine ⟨disposition_invariant init hinit _ s hs0, mask_iff_catch init hinit _ s, ?_⟩
  intro hign hno
  have := initially_ignored_sticky init hinit s hs0 hign _ hno
  exact ⟨this.1, this.2.1⟩

/-- non-vacuity: `set_action`, then a plain `trap` (which peeks at every condition), then an
    asynchronous subshell, in a shell that inherited QUIT ignored: 46 `TrapSet` operations in all -/
example :
    let init : Nat → Disp := fun s => if s = SIGQUIT then .ignore else .default
    let cmdOf : String → Nat := fun _ => 1
    let ops : List ShOp := [.op (.setAction SIGUSR1 (.command 1) 0 false), .trap 1 false false [],
      .op (.enterSubshell true false)]
    let st := runSh cmdOf (State.init init) ops
    st.sys.disp SIGINT = .ignore ∧ st.sys.disp SIGQUIT = .ignore ∧ st.sys.disp SIGUSR1 = .default
    ∧ (flattenSh cmdOf ops).length = 46 := by
  decide +kernel

/-- ★ `subshell_meets_documentation` — the Spec function `subshellExpect` (Spec.lean: what the
    documentation of `TrapSet::enter_subshell` and POSIX say, computed from the state BEFORE the call
    without looking at the per-signal option of the code) is what the model does, in every reachable
    state, for every signal and both flags: SIGINT and SIGQUIT of an asynchronous list are ignored —
    installed disposition AND recorded action — whether the trap set knew them or not and whatever it
    held for them (vacant, `{Default}` left by `trap - INT` / `trap -p`, a command, an internal `Catch`);
    enabled stoppers stay ignored under `keep_stoppers`; every other signal gets the POSIX reset of its
    action merged with SIGCHLD's internal disposition only; unknown signals are not touched.
    (`subshell_dispositions` says the same through `subshellOption`; this statement does not mention it,
    so a loop that skips entries "with nothing to reset" cannot satisfy it.) -/
theorem subshell_meets_documentation (init : Nat → Disp) (st : State) (h : Inv init st) (ii ks : Bool)
    (s : Nat) (hs0 : s ≠ 0) :
    (enterSubshell st ii ks).sys.disp s = (subshellExpect st ii ks s).1
    ∧ (get (enterSubshell st ii ks).traps s).map (·.current.action) = (subshellExpect st ii ks s).2 := by
  have hci : ¬ SIGCHLD = SIGINT := by decide +kernel
  have hcq : ¬ SIGCHLD = SIGQUIT := by decide +kernel
  cases hg : get st.traps s with
  | none =>
    have hv := subshell_vacant init st h ii ks s hs0 hg
    have hn := get_enterSubshell_none st ii ks s hg
    unfold subshellExpect
    by_cases hc : ii = true ∧ (s = SIGINT ∨ s = SIGQUIT)
    · obtain ⟨g', hg', ha, _⟩ := hn.1 hc
      rw [if_pos hc]
      exact ⟨hv.1 hc, by rw [hg']; simp [ha]⟩
    · rw [if_neg hc, hg]
      exact ⟨(hv.2 hc).2, by rw [(hv.2 hc).1]; rfl⟩
  | some g =>
    obtain ⟨g', hg', _, hact, _, hdisp⟩ := subshell_dispositions init st h ii ks s hs0 g hg
    unfold subshellExpect
    rw [hg', hdisp, Option.map_some, hact]
    unfold subshellOption
    simp only [hs0, if_false, hg, posixReset_eq]
    by_cases hchld : s = SIGCHLD
    · subst hchld
      have hst : ¬ (SIGCHLD = SIGTSTP ∨ SIGCHLD = SIGTTIN ∨ SIGCHLD = SIGTTOU) := by decide +kernel
      simp [hci, hcq, hst]
    · simp only [hchld, if_false]
      by_cases hc : ii = true ∧ (s = SIGINT ∨ s = SIGQUIT)
      · simp [hc]
      · simp only [hc, if_false]
        by_cases hk : ks = true ∧ (s = SIGTSTP ∨ s = SIGTTIN ∨ s = SIGTTOU) ∧ g.internal ≠ .default
        · simp [hk]
        · simp [hk, Disp.max_default_left]

/-- … for every history: the state reached by any operation sequence from any inherited dispositions -/
theorem subshell_meets_documentation_all_histories (init : Nat → Disp) (hinit : ∀ s, init s ≠ .catch)
    (ops : List Op) (ii ks : Bool) (s : Nat) (hs0 : s ≠ 0) :
    let st := run (State.init init) ops
    (enterSubshell st ii ks).sys.disp s = (subshellExpect st ii ks s).1
    ∧ (get (enterSubshell st ii ks).traps s).map (·.current.action) = (subshellExpect st ii ks s).2 :=
  subshell_meets_documentation init _ (inv_reachable init hinit ops) ii ks s hs0

/-- non-vacuity: `trap - INT` (or `trap -p INT`) leaves an entry `{Default}`;
    the asynchronous list must still get SIGINT ignored, and SIGQUIT (unknown to the trap set) too -/
example :
    let st := run (State.init fun _ => .default) [.setAction SIGINT .default 0 false, .peek SIGTERM]
    (get st.traps SIGINT).map (·.current.action) = some .default
    ∧ subshellExpect st true false SIGINT = (.ignore, some .ignore)
    ∧ (enterSubshell st true false).sys.disp SIGINT = .ignore
    ∧ (enterSubshell st true false).sys.disp SIGQUIT = .ignore
    ∧ (enterSubshell st true false).sys.disp SIGTERM = .default := by decide +kernel

/-- `specCheck` — the executable verdict the driver prints in the Spec column after every operation of an ops
    / `tb` case (installed = merge, blocked ⇔ caught, KILL/STOP untouched, for the ten watched signals) — is
    `none` for EVERY history from every inherited dispositions ∈ {Default, Ignore}: the per-case evaluation can
    only ever fire when the model itself is changed (it is a consequence of `disposition_invariant`,
    `mask_iff_catch`, `kill_stop_never_caught`). -/
theorem spec_check_never_fires (init : Nat → Disp) (hinit : ∀ s, init s ≠ .catch) (ops : List Op) :
    specCheck init (run (State.init init) ops) = none := by
  unfold specCheck
  rw [List.findSome?_eq_none_iff]
  intro sig hsig
  have hs0 : sig ≠ 0 := by
    intro h; subst h; revert hsig; decide
  have h1 := disposition_invariant init hinit ops sig hs0
  have hb := (inv_reachable init hinit ops).sys.mask sig
  have h3 := fun hk => (kill_stop_never_caught init hinit ops sig hk).1
  simp only [Option.map_eq_none_iff]
  unfold specViolation
  rw [if_neg (by simpa using h1)]
  rw [if_neg (by simpa using hb)]
  rw [if_neg]
  rintro ⟨hk, hne⟩
  exact hne (h3 hk)

end YashModel.Trap
