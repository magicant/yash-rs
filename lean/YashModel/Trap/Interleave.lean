/-
  C11 — every way the runner is driven (single takes `Ev`, whole command boundaries `BEv`, signals arriving while an
  action runs `Arrivals`, `trap` commands in between `TEv`) is replayed as small steps, and the acceptor `account` of one
  signal's deliveries and runs is checked on those; the model's fuel against the code's unbounded `while let` loop.
-/
import YashModel.Trap.Pending
namespace YashModel.Trap

/-- ★ run order: `take_caught_signal` returns the pending signal with the LEAST number, clears
    exactly its flag, and returns nothing only when no signal is pending. -/
theorem least_pending_first (t : TrapMap) (hsorted : Sorted t) :
    match (takeCaughtSignal t).2 with
    | none => ∀ x, x ≠ 0 → pendingAt t x = false
    | some (k, ts) =>
      k ≠ 0 ∧ pendingAt t k = true
      ∧ (∃ g, get t k = some g ∧ ts = { g.current with pending := false }
          ∧ ∀ x, get (takeCaughtSignal t).1 x = if x = k then some g.handleIfCaught.1 else get t x)
      ∧ ∀ x, x ≠ 0 → x < k → pendingAt t x = false := by
  induction t with
  | nil => simp [takeCaughtSignal, pendingAt, get]
  | cons kv t ih =>
    obtain ⟨k', g⟩ := kv
    obtain ⟨hlo, hs'⟩ := hsorted
    have ih := ih hs'
    by_cases hc : k' ≠ 0 ∧ g.current.pending = true
    · rw [takeCaught_cons_due t hc]
      refine ⟨hc.1, by simp [pendingAt, get, hc.2], ⟨g, by simp [get], rfl, ?_⟩, ?_⟩
      · intro x
        simp only [get]
        by_cases hx : x = k' <;> simp [hx]
      · intro x hx0 hlt
        simp only [pendingAt, get]
        have hne : x ≠ k' := Nat.ne_of_lt hlt
        simp only [hne, if_false]
        cases hg : get t x with
        | none => rfl
        | some g' => exact absurd (hlo x g' hg) (by omega)
    · rw [takeCaught_cons_skip t hc]
      have hhead : k' ≠ 0 → g.current.pending = false := by
        intro h0
        cases hp : g.current.pending with
        | false => rfl
        | true => exact absurd ⟨h0, hp⟩ hc
      cases hr : (takeCaughtSignal t).2 with
      | none =>
        rw [hr] at ih
        simp only at ih ⊢
        intro x hx0
        simp only [pendingAt, get]
        by_cases hx : x = k'
        · subst hx; simp [hhead hx0]
        · simp only [hx, if_false]; exact ih x hx0
      | some p =>
        obtain ⟨k, ts⟩ := p
        rw [hr] at ih
        simp only at ih ⊢
        obtain ⟨hk0, hpk, ⟨g0, hg0, hts, hget⟩, hleast⟩ := ih
        have hkk : k' < k := hlo k g0 hg0
        have hne : k ≠ k' := by omega
        refine ⟨hk0, ?_, ⟨g0, by simp [get, hne, hg0], hts, ?_⟩, ?_⟩
        · simpa [pendingAt, get, hne] using hpk
        · intro x
          simp only [get]
          by_cases hx : x = k'
          · subst hx
            have : ¬ x = k := fun h => hne h.symm
            simp [this]
          · simp only [hx, if_false]; exact hget x
        · intro x hx0 hlt
          simp only [pendingAt, get]
          by_cases hx : x = k'
          · subst hx; simp [hhead hx0]
          · simp only [hx, if_false]; exact hleast x hx0 hlt

theorem takeCaught_fst_of_none (t : TrapMap) (h : (takeCaughtSignal t).2 = none) : (takeCaughtSignal t).1 = t := by
  induction t with
  | nil => rfl
  | cons kv t ih =>
    obtain ⟨k, g⟩ := kv
    by_cases hc : k ≠ 0 ∧ g.current.pending = true
    · simp [takeCaught_cons_due t hc] at h
    · rw [takeCaught_cons_skip t hc] at h ⊢; rw [ih h]

theorem pendingAt_takeCaught (t : TrapMap) (hs : Sorted t) (x : Nat) :
    pendingAt (takeCaughtSignal t).1 x
      = (match (takeCaughtSignal t).2 with
         | some (k, _) => if x = k then false else pendingAt t x
         | none => pendingAt t x) := by
  have h := least_pending_first t hs
  cases hr : (takeCaughtSignal t).2 with
  | none => rw [takeCaught_fst_of_none t hr]
  | some p =>
    obtain ⟨k, ts⟩ := p
    rw [hr] at h
    obtain ⟨_, hpk, ⟨g, hg, _, hget⟩, _⟩ := h
    simp only [pendingAt, hget x]
    by_cases hx : x = k
    · subst hx
      simp [handleIfCaught_fst]
    · simp [hx]

/-- what happened to one signal, in order: `true` = it was delivered (handed to `catch_signal`),
    `false` = its action was taken to be run -/
abbrev STrace := List Bool

/-- The POSIX pending-signal discipline as an acceptor: a delivery arms the signal (a delivery
    while already armed coalesces with it); a run is legal only when armed and disarms.  Returns
    `none` on an illegal run, otherwise the final armed flag, the number of runs and the number of
    *coalesced deliveries* (deliveries that found the signal not armed). -/
def account : Bool → STrace → Option (Bool × Nat × Nat)
  | armed, [] => some (armed, 0, 0)
  | armed, true :: rest =>
    (account true rest).map fun (a, r, e) => (a, r, if armed then e else e + 1)
  | armed, false :: rest =>
    if armed then (account false rest).map fun (a, r, e) => (a, r + 1, e) else none

theorem account_cons_true {armed : Bool} {rest : STrace} {a : Bool} {r e : Nat}
    (h : account armed (true :: rest) = some (a, r, e)) :
    ∃ e', account true rest = some (a, r, e') ∧ e = if armed then e' else e' + 1 := by
  rw [account] at h
  cases hacc : account true rest with
  | none => rw [hacc] at h; cases h
  | some p => rw [hacc] at h; cases h; exact ⟨_, rfl, rfl⟩

theorem account_cons_false {armed : Bool} {rest : STrace} {a : Bool} {r e : Nat}
    (h : account armed (false :: rest) = some (a, r, e)) :
    armed = true ∧ ∃ r', account false rest = some (a, r', e) ∧ r = r' + 1 := by
  rw [account] at h
  cases armed
  · cases h
  · cases hacc : account false rest with
    | none => rw [hacc] at h; cases h
    | some p => rw [hacc] at h; cases h; exact ⟨rfl, _, rfl, rfl⟩

theorem account_conserve (armed : Bool) (tr : STrace) (a : Bool) (r e : Nat)
    (h : account armed tr = some (a, r, e)) :
    r + (if a then 1 else 0) = e + (if armed then 1 else 0) := by
  induction tr generalizing armed a r e with
  | nil => cases h; rfl
  | cons b rest ih =>
    cases b
    · obtain ⟨rfl, r', h', rfl⟩ := account_cons_false h
      have := ih _ _ _ _ h'
      simp only [Bool.false_eq_true, ↓reduceIte] at this ⊢; omega
    · obtain ⟨e', h', rfl⟩ := account_cons_true h
      have := ih _ _ _ _ h'
      cases armed <;> simp only [Bool.false_eq_true, ↓reduceIte] at this ⊢ <;> omega

theorem account_runs (armed : Bool) (tr : STrace) (a : Bool) (r e : Nat)
    (h : account armed tr = some (a, r, e)) : r = tr.count false := by
  induction tr generalizing armed a r e with
  | nil => cases h; rfl
  | cons b rest ih =>
    cases b
    · obtain ⟨_, r', h', rfl⟩ := account_cons_false h
      rw [ih _ _ _ _ h', List.count_cons_self]
    · obtain ⟨e', h', _⟩ := account_cons_true h
      rw [ih _ _ _ _ h']; rfl

theorem account_accepted {armed : Bool} {tr : STrace} {a : Bool}
    (h : (account armed tr).map (·.1) = some a) :
    ∃ r e, account armed tr = some (a, r, e)
      ∧ r + (if a then 1 else 0) = e + (if armed then 1 else 0) ∧ r = tr.count false := by
  cases hacc : account armed tr with
  | none => rw [hacc] at h; cases h
  | some p =>
    obtain ⟨a', r, e⟩ := p
    rw [hacc] at h; cases h
    exact ⟨r, e, rfl, account_conserve _ _ _ _ _ hacc, account_runs _ _ _ _ _ hacc⟩

theorem account_append (armed : Bool) (tr1 tr2 : STrace) :
    account armed (tr1 ++ tr2)
      = (account armed tr1).bind fun (a, r, e) =>
          (account a tr2).map fun (a', r', e') => (a', r + r', e + e') := by
  induction tr1 generalizing armed with
  | nil =>
    simp only [List.nil_append, account, Option.bind_some]
    cases account armed tr2 with
    | none => rfl
    | some p => obtain ⟨a, r, e⟩ := p; simp
  | cons b rest ih =>
    cases b with
    | true =>
      simp only [List.cons_append, account, ih]
      cases account true rest with
      | none => rfl
      | some p =>
        obtain ⟨a, r, e⟩ := p
        simp only [Option.map_some, Option.bind_some]
        cases account a tr2 with
        | none => rfl
        | some q => obtain ⟨a', r', e'⟩ := q; cases armed <;> simp <;> omega
    | false =>
      cases armed with
      | false => simp [account]
      | true =>
        simp only [List.cons_append, account, if_true, ih]
        cases account false rest with
        | none => rfl
        | some p =>
          obtain ⟨a, r, e⟩ := p
          simp only [Option.map_some, Option.bind_some]
          cases account a tr2 with
          | none => rfl
          | some q => obtain ⟨a', r', e'⟩ := q; simp; omega

theorem account_snoc_ok (armed : Bool) (tr step : STrace) (a a' : Bool)
    (h1 : (account armed tr).map (·.1) = some a)
    (h2 : (account a step).map (·.1) = some a') :
    (account armed (tr ++ step)).map (·.1) = some a' := by
  rw [account_append]
  cases hacc : account armed tr with
  | none => rw [hacc] at h1; simp at h1
  | some p =>
    obtain ⟨a0, r, e⟩ := p
    rw [hacc] at h1
    simp only [Option.map_some, Option.some.injEq] at h1
    subst h1
    simp only [Option.bind_some]
    cases hs : account a0 step with
    | none => rw [hs] at h2; simp at h2
    | some q =>
      obtain ⟨a1, r1, e1⟩ := q
      rw [hs] at h2
      simpa using h2

inductive Ev where
  /-- `catch_signal(s)` (a signal collected by a poll, at any moment: also while an action runs) -/
  | deliver (s : Nat)
  /-- one iteration of the runner's loop: `take_caught_signal` and run what it returns -/
  | take
  deriving Repr

/-- one small step on the trap set; the second component is what happened to signal `s` -/
def stepEv (s : Nat) (t : TrapMap) : Ev → TrapMap × STrace
  | .deliver x => (catchSignal t x, if x = s ∧ (get t s).isSome then [true] else [])
  | .take =>
    match (takeCaughtSignal t).2 with
    | some (k, _) => ((takeCaughtSignal t).1, if k = s then [false] else [])
    | none => ((takeCaughtSignal t).1, [])

def runEvs (s : Nat) : TrapMap → List Ev → STrace → TrapMap × STrace
  | t, [], tr => (t, tr)
  | t, ev :: evs, tr =>
    let r := stepEv s t ev
    runEvs s r.1 evs (tr ++ r.2)

theorem sorted_stepEv (s : Nat) (t : TrapMap) (ev : Ev) (h : Sorted t) : Sorted (stepEv s t ev).1 := by
  cases ev with
  | deliver x => exact sorted_catchSignal _ _ h
  | take =>
    simp only [stepEv]
    split <;> exact sorted_takeCaught _ h

theorem stepEv_account (s : Nat) (t : TrapMap) (ev : Ev) (h : Sorted t) :
    (account (pendingAt t s) (stepEv s t ev).2).map (·.1) = some (pendingAt (stepEv s t ev).1 s) := by
  cases ev with
  | deliver x =>
    simp only [stepEv]
    rw [pendingAt_catchSignal]
    by_cases hx : x = s
    · subst hx
      cases hg : get t x with
      | none => simp [account, pendingAt, hg]
      | some g => simp [account]
    · have : ¬ s = x := fun h => hx h.symm
      simp [hx, this, account]
  | take =>
    have hp := pendingAt_takeCaught t h s
    have hspec := least_pending_first t h
    simp only [stepEv]
    cases hr : (takeCaughtSignal t).2 with
    | none =>
      rw [hr] at hp
      simp only at hp ⊢
      simp [account, hp]
    | some p =>
      obtain ⟨k, ts⟩ := p
      rw [hr] at hp hspec
      simp only at hp hspec ⊢
      by_cases hk : k = s
      · subst hk
        simp only [if_true] at hp ⊢
        simp [account, hspec.2.1, hp]
      · have : ¬ s = k := fun h => hk h.symm
        simp only [this, if_false] at hp
        simp [hk, account, hp]

theorem runEvs_account (s : Nat) (evs : List Ev) (t : TrapMap) (h : Sorted t)
    (armed0 : Bool) (tr : STrace)
    (htr : (account armed0 tr).map (·.1) = some (pendingAt t s)) :
    (account armed0 (runEvs s t evs tr).2).map (·.1) = some (pendingAt (runEvs s t evs tr).1 s) := by
  induction evs generalizing t tr with
  | nil => exact htr
  | cons ev evs ih =>
    simp only [runEvs]
    apply ih _ (sorted_stepEv s t ev h)
    exact account_snoc_ok armed0 tr _ _ _ htr (stepEv_account s t ev h)

/-- the signals the system reported up to and including the first batch that contains SIGINT -/
def deliveredBatches : List (List Nat) → List Nat
  | [] => []
  | b :: rest => if b.contains SIGINT then b else b ++ deliveredBatches rest

theorem sigintLoop_spec (batches : List (List Nat)) (caught : List Nat) :
    (sigintLoop batches caught).1 = caught ++ deliveredBatches batches
    ∧ (sigintLoop batches caught).2 = batches.any (·.contains SIGINT) := by
  induction batches generalizing caught with
  | nil => simp [sigintLoop, deliveredBatches]
  | cons b rest ih =>
    simp only [sigintLoop, deliveredBatches, List.any_cons, List.contains_iff_mem]
    by_cases hb : SIGINT ∈ b
    · simp [hb]
    · have := ih (caught ++ b)
      have hc : b.contains SIGINT = false := by simpa using hb
      simp only [hb, if_false, hc, Bool.false_or]
      exact ⟨by rw [this.1, List.append_assoc], this.2⟩

theorem pendingAt_foldl_catch (l : List Nat) (t : TrapMap) (x : Nat) :
    pendingAt (l.foldl catchSignal t) x = ((l.contains x && (get t x).isSome) || pendingAt t x) := by
  induction l generalizing t with
  | nil => simp
  | cons k l ih =>
    simp only [List.foldl_cons]
    rw [ih, isSome_of_core (catchSignal_core t k x), pendingAt_catchSignal]
    by_cases hx : x = k
    · subst hx
      cases hg : (get t x).isSome <;> cases hp : pendingAt t x <;> simp
    · have hne : ¬ k = x := fun h => hx h.symm
      by_cases hl : x ∈ l <;> cases hg : (get t x).isSome <;> cases hp : pendingAt t x <;>
        simp [hx, hl]

theorem core_foldl_catch (l : List Nat) (t : TrapMap) (x : Nat) :
    (get (l.foldl catchSignal t) x).map core = (get t x).map core := by
  induction l generalizing t with
  | nil => rfl
  | cons k l ih => simp only [List.foldl_cons]; rw [ih, catchSignal_core]

theorem sorted_foldl_catch (l : List Nat) (t : TrapMap) (h : Sorted t) : Sorted (l.foldl catchSignal t) := by
  induction l generalizing t with
  | nil => exact h
  | cons k l ih => exact ih _ (sorted_catchSignal _ _ h)

/-- bodies whose only effect on the trap set is that the signals `arr c e t` are delivered
    (`TrapSet::catch_signal`, in that order) while they run -/
def Arrivals (body : Body) (arr : Nat → Int → TrapMap → List Nat) : Prop :=
  ∀ c e t, (body c e t).2 = (arr c e t).foldl catchSignal t

theorem arrivals_generalises_mapPreserving (body : Body) (hm : MapPreserving body) :
    Arrivals body (fun _ _ _ => []) := fun c e t => hm c e t

/-- the small steps of one `drain`: `take`, then the arrivals of the action just run, and so on,
    following the recursion of `drain` -/
def drainEvs (body : Body) (arr : Nat → Int → TrapMap → List Nat) : Nat → TrapMap → Int → List Ev
  | 0, _, _ => []
  | fuel + 1, t, exit =>
    match (takeCaughtSignal t).2 with
    | none => []
    | some (_, ts) =>
      match ts.action with
      | .command c =>
        match (runTrap body c exit (takeCaughtSignal t).1).2.1 with
        | some _ => Ev.take :: (arr c exit (takeCaughtSignal t).1).map Ev.deliver
        | none =>
          (Ev.take :: (arr c exit (takeCaughtSignal t).1).map Ev.deliver)
            ++ drainEvs body arr fuel (runTrap body c exit (takeCaughtSignal t).1).2.2
                 (runTrap body c exit (takeCaughtSignal t).1).1
      | _ => Ev.take :: drainEvs body arr fuel (takeCaughtSignal t).1 exit

theorem drainEvs_skip (body : Body) (arr : Nat → Int → TrapMap → List Nat) (fuel : Nat) (t : TrapMap) (exit : Int)
    (sig : Nat) (ts : TrapState) (h : (takeCaughtSignal t).2 = some (sig, ts)) (ha : ∀ c, ts.action ≠ .command c) :
    drainEvs body arr (fuel + 1) t exit = Ev.take :: drainEvs body arr fuel (takeCaughtSignal t).1 exit := by
  cases hx : ts.action with
  | command c => exact absurd hx (ha c)
  | _ => simp only [drainEvs, h, hx]

theorem runEvs_trace (s : Nat) (evs : List Ev) (t : TrapMap) (tr : STrace) :
    runEvs s t evs tr = ((runEvs s t evs []).1, tr ++ (runEvs s t evs []).2) := by
  induction evs generalizing t tr with
  | nil => simp [runEvs]
  | cons ev evs ih =>
    simp only [runEvs, List.nil_append]
    rw [ih _ (tr ++ _), ih _ (stepEv s t ev).2]
    simp [List.append_assoc]

theorem runEvs_append (s : Nat) (a b : List Ev) (t : TrapMap) (tr : STrace) :
    runEvs s t (a ++ b) tr = runEvs s (runEvs s t a tr).1 b (runEvs s t a tr).2 := by
  induction a generalizing t tr with
  | nil => rfl
  | cons ev a ih => simp only [List.cons_append, runEvs]; exact ih _ _

theorem runEvs_delivers (s : Nat) (l : List Nat) (t : TrapMap) (tr : STrace) :
    (runEvs s t (l.map Ev.deliver) tr).1 = l.foldl catchSignal t
    ∧ (runEvs s t (l.map Ev.deliver) tr).2.count false = tr.count false := by
  induction l generalizing t tr with
  | nil => exact ⟨rfl, rfl⟩
  | cons x l ih =>
    simp only [List.map_cons, runEvs, List.foldl_cons, stepEv]
    refine ⟨(ih _ _).1, ?_⟩
    rw [(ih _ _).2, List.count_append]
    split <;> simp

theorem runTrap_traps_arr (body : Body) (arr : Nat → Int → TrapMap → List Nat) (hA : Arrivals body arr)
    (c : Nat) (e : Int) (t : TrapMap) : (runTrap body c e t).2.2 = (arr c e t).foldl catchSignal t :=
  (runTrap_traps_eq body c e t).trans (hA c e t)

/-- one runner invocation IS the small-step run of its events, as far as the trap set goes -/
theorem drain_small_steps_traps (body : Body) (arr : Nat → Int → TrapMap → List Nat) (hA : Arrivals body arr)
    (s : Nat) (fuel : Nat) (t : TrapMap) (exit : Int) (runs : List (Nat × Nat)) (tr : STrace) :
    (runEvs s t (drainEvs body arr fuel t exit) tr).1 = (drain body fuel t exit runs).traps := by
  fun_induction drain body fuel t exit runs generalizing tr
  case case1 => rfl
  case case2 h => simp [drainEvs, h, runEvs]
  case case3 sig ts h t' c ha r d hd =>
    simp only [drainEvs, h, ha, r, t'] at hd ⊢
    simp [hd, runEvs, stepEv, h, (runEvs_delivers s _ _ _).1, runTrap_traps_arr body arr hA]
  case case4 sig ts h t' c ha r hd ih =>
    simp only [drainEvs, h, ha, r, t'] at hd ih ⊢
    simp only [hd, List.cons_append, runEvs, stepEv, h, runEvs_append, (runEvs_delivers s _ _ _).1]
    rw [← runTrap_traps_arr body arr hA]; exact ih _
  case case5 sig ts h t' ha ih =>
    simp only [drainEvs_skip body arr _ _ _ sig ts h ha, runEvs, stepEv, h]; exact ih _

theorem takeCaught_action (t : TrapMap) (hs : Sorted t) (k : Nat) (ts : TrapState)
    (h : (takeCaughtSignal t).2 = some (k, ts)) : actionAt t k = some ts.action := by
  have := least_pending_first t hs
  rw [h] at this
  obtain ⟨_, _, ⟨g, hg, rfl, _⟩, _⟩ := this
  simp [actionAt, hg]

theorem stepEv_take (s : Nat) (t : TrapMap) (k : Nat) (ts : TrapState)
    (h : (takeCaughtSignal t).2 = some (k, ts)) :
    stepEv s t .take = ((takeCaughtSignal t).1, if k = s then [false] else []) := by
  simp [stepEv, h]

/-- … and as far as the actions run for `s` go: with a command trap `c` on `s`, the runs of `s` this
    invocation adds are `(s, c)`, one per `false` of the small-step trace -/
theorem drain_small_steps_runs (body : Body) (arr : Nat → Int → TrapMap → List Nat) (hA : Arrivals body arr)
    (s c : Nat) (fuel : Nat) (t : TrapMap) (hsorted : Sorted t) (hact : actionAt t s = some (.command c))
    (exit : Int) (runs : List (Nat × Nat)) :
    (drain body fuel t exit runs).runs.filter (fun p => p.1 == s)
      = runs.filter (fun p => p.1 == s)
        ++ List.replicate ((runEvs s t (drainEvs body arr fuel t exit) []).2.count false) (s, c) := by
  fun_induction drain body fuel t exit runs
  case case1 => simp [drainEvs, runEvs]
  case case2 h => simp [drainEvs, h, runEvs]
  case case3 sig ts h t' c' ha r d hd =>
    simp only [r, t'] at hd ⊢
    have hkc : sig = s → c' = c := fun e => by
      have := takeCaught_action _ hsorted sig ts h
      rw [e, hact, ha] at this; cases this; rfl
    simp only [drainEvs, h, ha, hd, runEvs, stepEv_take s _ sig ts h, List.nil_append]
    rw [runEvs_trace, List.count_append, (runEvs_delivers s _ _ []).2]
    by_cases hks : sig = s
    · obtain rfl := hkc hks; subst hks; simp [List.filter_append]
    · simp [List.filter_append, hks]
  case case4 sig ts h t' c' ha r hd ih =>
    simp only [r, t'] at hd ih ⊢
    have hkc : sig = s → c' = c := fun e => by
      have := takeCaught_action _ hsorted sig ts h
      rw [e, hact, ha] at this; cases this; rfl
    have hs1 := sorted_takeCaught _ hsorted
    have ha1 : actionAt (takeCaughtSignal _).1 s = some (.command c) :=
      (actionAt_of_core _ _ s (takeCaught_core _ s)).trans hact
    simp only [drainEvs, h, ha, hd, List.cons_append, runEvs, stepEv_take s _ sig ts h, List.nil_append,
      runEvs_append]
    rw [runEvs_trace, List.count_append, (runEvs_delivers s _ _ _).2, (runEvs_delivers s _ _ _).1]
    rw [runTrap_traps_arr body arr hA] at ih ⊢
    rw [ih (sorted_foldl_catch _ _ hs1) ((actionAt_of_core _ _ s (core_foldl_catch _ _ s)).trans ha1)]
    by_cases hks : sig = s
    · obtain rfl := hkc hks; subst hks
      simp only [List.filter_append, if_true, List.count_cons_self, List.count_nil, List.filter_cons,
        List.filter_nil, beq_self_eq_true, List.append_assoc, List.cons_append, List.nil_append]
      rw [Nat.add_comm, List.replicate_succ]
    · simp [List.filter_append, hks]
  case case5 sig ts h t' ha ih =>
    simp only [t'] at ih ⊢
    have hks : sig ≠ s := fun e => by
      have := takeCaught_action _ hsorted sig ts h
      rw [e, hact] at this; injection this with e'; exact ha c e'.symm
    have ha1 : actionAt (takeCaughtSignal _).1 s = some (.command c) :=
      (actionAt_of_core _ _ s (takeCaught_core _ s)).trans hact
    rw [ih (sorted_takeCaught _ hsorted) ha1]
    simp only [drainEvs_skip body arr _ _ _ sig ts h ha, runEvs, stepEv_take s _ sig ts h, List.nil_append, if_neg hks]

theorem core_stepEv (s : Nat) (t : TrapMap) (ev : Ev) (x : Nat) :
    (get (stepEv s t ev).1 x).map core = (get t x).map core := by
  cases ev with
  | deliver y => exact catchSignal_core t y x
  | take =>
    simp only [stepEv]
    split <;> exact takeCaught_core t x

theorem runEvs_sorted_core (s : Nat) (evs : List Ev) (t : TrapMap) (tr : STrace) (h : Sorted t) :
    Sorted (runEvs s t evs tr).1 ∧ ∀ x, (get (runEvs s t evs tr).1 x).map core = (get t x).map core := by
  induction evs generalizing t tr with
  | nil => exact ⟨h, fun _ => rfl⟩
  | cons ev evs ih =>
    simp only [runEvs]
    have := ih (stepEv s t ev).1 (tr ++ (stepEv s t ev).2) (sorted_stepEv s t ev h)
    exact ⟨this.1, fun x => (this.2 x).trans (core_stepEv s t ev x)⟩

inductive BEv where
  | deliver (s : Nat)
  /-- the boundary after a command: `main` is what the command itself resulted in (possibly a
      divert), `exit` is `$?` there -/
  | boundary (main : Option Divert) (exit : Int)

def stepBig (body : Body) (s : Nat) (t : TrapMap) : BEv → TrapMap × STrace
  | .deliver x => (catchSignal t x, if x = s ∧ (get t s).isSome then [true] else [])
  | .boundary main exit =>
    let r := afterCommand body false main t exit
    (r.traps, (r.runs.filter fun p => p.1 == s).map fun _ => false)

def runBig (body : Body) (s : Nat) : TrapMap → List BEv → STrace → TrapMap × STrace
  | t, [], tr => (t, tr)
  | t, ev :: evs, tr =>
    let r := stepBig body s t ev
    runBig body s r.1 evs (tr ++ r.2)

/-- state of a history seen for signal `s`: the trap set, what happened to `s` in order (`true` = a
    delivery — outside or inside an action —, `false` = its action was taken to be run), and every
    action run so far -/
structure BigA where
  traps : TrapMap
  trace : STrace := []
  runs : List (Nat × Nat) := []

def stepBigA (body : Body) (arr : Nat → Int → TrapMap → List Nat) (s : Nat) (st : BigA) : BEv → BigA
  | .deliver x =>
    { st with traps := catchSignal st.traps x,
              trace := st.trace ++ (if x = s ∧ (get st.traps s).isSome then [true] else []) }
  | .boundary main exit =>
    let r := afterCommand body false main st.traps exit
    { traps := r.traps,
      trace := st.trace ++ (runEvs s st.traps (drainEvs body arr (st.traps.length + 1) st.traps exit) []).2,
      runs := st.runs ++ r.runs }

def runBigA (body : Body) (arr : Nat → Int → TrapMap → List Nat) (s : Nat) : BigA → List BEv → BigA
  | st, [] => st
  | st, ev :: evs => runBigA body arr s (stepBigA body arr s st ev) evs

/-- `traps` and `runs` of a `BigA` come from the real `afterCommand`, `trace` from the small steps `drainEvs` lists for
    the same boundary (same fuel as `runTrapsForCaughtSignals`); `invA_step` is what ties the two -/
structure InvA (s c : Nat) (armed0 : Bool) (st : BigA) : Prop where
  sorted : Sorted st.traps
  action : actionAt st.traps s = some (.command c)
  acc : (account armed0 st.trace).map (·.1) = some (pendingAt st.traps s)
  runs : st.runs.filter (fun p => p.1 == s) = List.replicate (st.trace.count false) (s, c)

theorem invA_step (body : Body) (arr : Nat → Int → TrapMap → List Nat) (hA : Arrivals body arr)
    (s c : Nat) (armed0 : Bool) (st : BigA) (ev : BEv) (h : InvA s c armed0 st) :
    InvA s c armed0 (stepBigA body arr s st ev) := by
  cases ev with
  | deliver x =>
    have hstep : stepEv s st.traps (.deliver x)
        = (catchSignal st.traps x, if x = s ∧ (get st.traps s).isSome then [true] else []) := rfl
    refine ⟨sorted_catchSignal _ _ h.sorted, ?_, ?_, ?_⟩
    · simp only [stepBigA]
      rw [actionAt_of_core st.traps _ s (catchSignal_core st.traps x s)]; exact h.action
    · have := account_snoc_ok armed0 st.trace _ _ _ h.acc
        (stepEv_account s st.traps (.deliver x) h.sorted)
      simpa [stepBigA, hstep] using this
    · simp only [stepBigA, List.count_append]
      rw [h.runs]
      split <;> simp
  | boundary main exit =>
    have htraps := drain_small_steps_traps body arr hA s (st.traps.length + 1) st.traps exit [] st.trace
    have hsc := runEvs_sorted_core s (drainEvs body arr (st.traps.length + 1) st.traps exit) st.traps st.trace
      h.sorted
    have hacc := runEvs_account s (drainEvs body arr (st.traps.length + 1) st.traps exit) st.traps
      h.sorted armed0 st.trace h.acc
    have hruns := drain_small_steps_runs body arr hA s c (st.traps.length + 1) st.traps h.sorted h.action exit []
    rw [runEvs_trace] at hacc hsc htraps
    simp only at hacc hsc htraps
    have hT : (stepBigA body arr s st (.boundary main exit)).traps
        = (runEvs s st.traps (drainEvs body arr (st.traps.length + 1) st.traps exit) []).1 := by
      simp only [stepBigA, afterCommand, runTrapsForCaughtSignals, Bool.false_eq_true, if_false]
      exact htraps.symm
    refine ⟨?_, ?_, ?_, ?_⟩
    · rw [hT]; exact hsc.1
    · rw [hT, actionAt_of_core st.traps _ s (hsc.2 s)]; exact h.action
    · rw [hT]; exact hacc
    · simp only [stepBigA, afterCommand, runTrapsForCaughtSignals, Bool.false_eq_true, if_false,
        List.filter_append, List.count_append, ← List.replicate_append_replicate]
      rw [h.runs, hruns]
      simp

theorem invA_run (body : Body) (arr : Nat → Int → TrapMap → List Nat) (hA : Arrivals body arr)
    (s c : Nat) (armed0 : Bool) (evs : List BEv) (st : BigA) (h : InvA s c armed0 st) :
    InvA s c armed0 (runBigA body arr s st evs) := by
  induction evs generalizing st with
  | nil => exact h
  | cons ev evs ih => exact ih _ (invA_step body arr hA s c armed0 st ev h)

theorem runEvs_takes (s : Nat) (evs : List Ev) (hev : ∀ ev ∈ evs, ev = .take) (t : TrapMap) (tr : STrace) :
    ∀ b ∈ (runEvs s t evs tr).2, b ∈ tr ∨ b = false := by
  induction evs generalizing t tr with
  | nil => exact fun b hb => .inl hb
  | cons ev evs ih =>
    obtain rfl := hev ev (List.mem_cons_self ..)
    intro b hb
    rcases ih (fun e he => hev e (List.mem_cons_of_mem _ he)) _ _ b hb with h | h
    · rcases List.mem_append.mp h with h | h
      · exact .inl h
      · right
        cases hr : (takeCaughtSignal t).2 with
        | none => simp [stepEv, hr] at h
        | some p =>
          rw [stepEv_take s t p.1 p.2 hr] at h
          split at h
          · exact List.mem_singleton.mp h
          · cases h
    · exact .inr h

theorem drainEvs_quiet (body : Body) (fuel : Nat) (t : TrapMap) (exit : Int) :
    ∀ ev ∈ drainEvs body (fun _ _ _ => []) fuel t exit, ev = .take := by
  -- with no arrivals every branch is `take :: (recursive call)`; the recursive branches close by their hypothesis
  fun_induction drainEvs body (fun _ _ _ => []) fuel t exit <;> simp_all <;> assumption

theorem quiet_trace (body : Body) (hm : MapPreserving body) (s c : Nat) (fuel : Nat) (t : TrapMap)
    (hsorted : Sorted t) (hact : actionAt t s = some (.command c)) (exit : Int) :
    (runEvs s t (drainEvs body (fun _ _ _ => []) fuel t exit) []).2
      = ((drain body fuel t exit []).runs.filter fun p => p.1 == s).map fun _ => false := by
  rw [drain_small_steps_runs body _ (arrivals_generalises_mapPreserving body hm) s c fuel t hsorted hact exit []]
  have hall := runEvs_takes s _ (drainEvs_quiet body fuel t exit) t []
  generalize (runEvs s t (drainEvs body (fun _ _ _ => []) fuel t exit) []).2 = tr at hall
  have hf : ∀ b ∈ tr, b = false := fun b hb => (hall b hb).resolve_left (by simp)
  rw [List.filter_nil, List.nil_append, List.map_replicate, List.count_eq_length.mpr (fun b hb => (hf b hb).symm)]
  exact List.eq_replicate_iff.mpr ⟨rfl, hf⟩

theorem runBig_eq_runBigA (body : Body) (hm : MapPreserving body) (s c : Nat) (armed0 : Bool)
    (evs : List BEv) (st : BigA) (h : InvA s c armed0 st) :
    runBig body s st.traps evs st.trace
      = ((runBigA body (fun _ _ _ => []) s st evs).traps, (runBigA body (fun _ _ _ => []) s st evs).trace) := by
  induction evs generalizing st with
  | nil => rfl
  | cons ev evs ih =>
    rw [runBigA, ← ih _ (invA_step body _ (arrivals_generalises_mapPreserving body hm) s c armed0 st ev h), runBig]
    cases ev with
    | deliver x => rfl
    | boundary main exit =>
      simp only [stepBig, stepBigA, afterCommand, runTrapsForCaughtSignals, Bool.false_eq_true, if_false]
      rw [quiet_trace body hm s c _ _ h.sorted h.action]

theorem runBig_account (body : Body) (hm : MapPreserving body) (s c : Nat) (hs0 : s ≠ 0)
    (evs : List BEv) (t : TrapMap) (h : Sorted t) (hact : actionAt t s = some (.command c))
    (armed0 : Bool) (tr : STrace)
    (htr : (account armed0 tr).map (·.1) = some (pendingAt t s)) :
    (account armed0 (runBig body s t evs tr).2).map (·.1)
      = some (pendingAt (runBig body s t evs tr).1 s) := by
  have h0 : InvA s c armed0 ⟨t, tr, List.replicate (tr.count false) (s, c)⟩ := ⟨h, hact, htr, by simp⟩
  rw [show runBig body s t evs tr = _ from runBig_eq_runBigA body hm s c armed0 evs _ h0]
  exact (invA_run body _ (arrivals_generalises_mapPreserving body hm) s c armed0 evs _ h0).acc

/-- the small events of a shell whose trap actions may run `trap` themselves -/
inductive TEv where
  | deliver (x : Nat)
  | take
  /-- a `trap` command (anywhere: in the script, inside an action — on the signal being handled or another one) -/
  | trapCmd (x : Nat) (a : Action) (origin : Nat) (ov : Bool)

/-- what happened to signal `s`: delivered, its action taken to be run, or its pending delivery discarded by an
    accepted `trap` command on `s` -/
inductive TMark where
  | delivered | ran | discarded
  deriving DecidableEq, Repr

def TMark.toS : TMark → Bool
  | .delivered => true
  | _ => false

def stepTEv (s : Nat) (st : State) : TEv → State × List TMark
  | .deliver x => ({ st with traps := catchSignal st.traps x }, if x = s ∧ (get st.traps s).isSome then [.delivered] else [])
  | .take =>
    match (takeCaughtSignal st.traps).2 with
    | some (k, _) => ({ st with traps := (takeCaughtSignal st.traps).1 }, if k = s then [.ran] else [])
    | none => ({ st with traps := (takeCaughtSignal st.traps).1 }, [])
  | .trapCmd x a o ov =>
    ((setAction st x a o ov).1,
     if x = s ∧ (setAction st x a o ov).2 = none ∧ pendingAt st.traps s = true then [.discarded] else [])

def runTEvs (s : Nat) : State → List TEv → List TMark → State × List TMark
  | st, [], tr => (st, tr)
  | st, ev :: evs, tr => runTEvs s (stepTEv s st ev).1 evs (tr ++ (stepTEv s st ev).2)

theorem sorted_stepTEv (s : Nat) (st : State) (ev : TEv) (h : Sorted st.traps) : Sorted (stepTEv s st ev).1.traps := by
  cases ev with
  | deliver x => exact sorted_catchSignal _ _ h
  | take => simp only [stepTEv]; split <;> exact sorted_takeCaught _ h
  | trapCmd x a o ov => exact sorted_setAction st x a o ov h

theorem stepTEv_ev (s : Nat) (st : State) :
    (∀ x, (stepTEv s st (.deliver x)).1.traps = (stepEv s st.traps (.deliver x)).1
      ∧ (stepTEv s st (.deliver x)).2.map TMark.toS = (stepEv s st.traps (.deliver x)).2)
    ∧ (stepTEv s st .take).1.traps = (stepEv s st.traps .take).1
      ∧ (stepTEv s st .take).2.map TMark.toS = (stepEv s st.traps .take).2 := by
  refine ⟨fun x => ?_, ?_⟩
  · simp only [stepTEv, stepEv]; split <;> simp [TMark.toS]
  · simp only [stepTEv, stepEv]; split <;> (try split) <;> simp [TMark.toS]

theorem stepTEv_account (s : Nat) (st : State) (ev : TEv) (h : Sorted st.traps) :
    (account (pendingAt st.traps s) ((stepTEv s st ev).2.map TMark.toS)).map (·.1)
      = some (pendingAt (stepTEv s st ev).1.traps s) := by
  cases ev with
  | deliver x =>
    rw [((stepTEv_ev s st).1 x).1, ((stepTEv_ev s st).1 x).2]
    exact stepEv_account s st.traps _ h
  | take =>
    rw [(stepTEv_ev s st).2.1, (stepTEv_ev s st).2.2]
    exact stepEv_account s st.traps _ h
  | trapCmd x a o ov =>
    simp only [stepTEv]
    rw [pendingAt_setAction]
    by_cases hc : x = s ∧ (setAction st x a o ov).2 = none
    · obtain ⟨rfl, hc⟩ := hc
      cases hp : pendingAt st.traps x <;> simp [hc, TMark.toS, account]
    · rw [if_neg hc, if_neg (fun h => hc ⟨h.1, h.2.1⟩)]
      cases pendingAt st.traps s <;> rfl

theorem runTEvs_account (s : Nat) (evs : List TEv) (st : State) (h : Sorted st.traps)
    (armed0 : Bool) (tr : List TMark)
    (htr : (account armed0 (tr.map TMark.toS)).map (·.1) = some (pendingAt st.traps s)) :
    (account armed0 ((runTEvs s st evs tr).2.map TMark.toS)).map (·.1)
      = some (pendingAt (runTEvs s st evs tr).1.traps s) := by
  induction evs generalizing st tr with
  | nil => exact htr
  | cons ev evs ih =>
    simp only [runTEvs]
    apply ih _ (sorted_stepTEv s st ev h)
    rw [List.map_append]
    exact account_snoc_ok armed0 _ _ _ _ htr (stepTEv_account s st ev h)

/-- did `drain` end because the loop ended (nothing left to take, or a divert) rather than because the
    model's fuel ran out?  (follows the recursion of `drain`) -/
def drainCompleted (body : Body) : Nat → TrapMap → Int → Bool
  | 0, t, _ => (takeCaughtSignal t).2.isNone
  | fuel + 1, t, exit =>
    match (takeCaughtSignal t).2 with
    | none => true
    | some (_, ts) =>
      match ts.action with
      | .command c =>
        match (runTrap body c exit (takeCaughtSignal t).1).2.1 with
        | some _ => true
        | none => drainCompleted body fuel (runTrap body c exit (takeCaughtSignal t).1).2.2
                    (runTrap body c exit (takeCaughtSignal t).1).1
      | _ => drainCompleted body fuel (takeCaughtSignal t).1 exit

theorem drainCompleted_skip (body : Body) (fuel : Nat) (t : TrapMap) (exit : Int) (sig : Nat) (ts : TrapState)
    (h : (takeCaughtSignal t).2 = some (sig, ts)) (ha : ∀ c, ts.action ≠ .command c) :
    drainCompleted body (fuel + 1) t exit = drainCompleted body fuel (takeCaughtSignal t).1 exit := by
  cases hx : ts.action with
  | command c => exact absurd hx (ha c)
  | _ => simp only [drainCompleted, h, hx]

/-- a completed run does not depend on the fuel: more fuel gives the same result — the result of the
    code's unbounded `while let` loop -/
theorem drain_fuel_irrelevant (body : Body) (fuel : Nat) (t : TrapMap) (exit : Int) (runs : List (Nat × Nat))
    (h : drainCompleted body fuel t exit = true) (k : Nat) :
    drain body (fuel + k) t exit runs = drain body fuel t exit runs := by
  fun_induction drain body fuel t exit runs generalizing k
  case case1 =>
    simp only [drainCompleted, Option.isNone_iff_eq_none] at h
    cases k <;> simp [drain, h]
  all_goals rw [show ∀ f : Nat, f.succ + k = (f + k) + 1 by omega, drain]
  case case2 h' => simp [h']
  case case3 h' t' _ ha r _ hd => simp only [r, t'] at hd ⊢; simp [h', ha, hd]
  case case4 h' t' c ha r hd ih =>
    simp only [r, t'] at hd ih
    simp only [drainCompleted, h', ha, hd] at h
    simp only [h', ha, hd]; exact ih h k
  case case5 sig ts h' _ ha ih =>
    rw [drainCompleted_skip body _ _ _ sig ts h' ha] at h
    cases hx : ts.action with
    | command c => exact absurd hx (ha c)
    | _ => simp only [h', hx]; exact ih h k

def Ev.isDeliver : Ev → Bool
  | .deliver _ => true
  | .take => false

theorem filter_isDeliver_map (l : List Nat) : (l.map Ev.deliver).filter Ev.isDeliver = l.map Ev.deliver :=
  List.filter_eq_self.mpr fun a ha => by obtain ⟨x, _, rfl⟩ := List.mem_map.mp ha; rfl

/-- the fuel needed: every take lowers `npend` by one (`takeCaught_some`), every arrival raises it by one at most
    (`npend_foldl_catch_le`), so `npend t` plus the number of arrivals bounds the number of iterations -/
theorem drain_completes (body : Body) (arr : Nat → Int → TrapMap → List Nat) (hA : Arrivals body arr)
    (fuel n : Nat) (t : TrapMap) (exit : Int)
    (hn : ∀ f, ((drainEvs body arr f t exit).filter Ev.isDeliver).length ≤ n)
    (hf : npend t + n < fuel) : drainCompleted body fuel t exit = true := by
  fun_induction drainCompleted body fuel t exit generalizing n
  case case1 => omega
  case case2 => rfl
  case case3 => rfl
  case case4 fuel t exit sig ts h c ha hd ih =>
    have hs := (takeCaught_some t sig ts h).2
    have hle := npend_foldl_catch_le (arr c exit (takeCaughtSignal t).1) (takeCaughtSignal t).1
    rw [runTrap_traps_arr body arr hA] at ih ⊢
    -- the arrivals of this action are part of the budget
    have hn' : ∀ f, (arr c exit (takeCaughtSignal t).1).length
        + ((drainEvs body arr f ((arr c exit (takeCaughtSignal t).1).foldl catchSignal (takeCaughtSignal t).1)
            (runTrap body c exit (takeCaughtSignal t).1).1).filter Ev.isDeliver).length ≤ n := fun f => by
      have := hn (f + 1)
      simpa [drainEvs, h, ha, hd, Ev.isDeliver, List.filter_append, filter_isDeliver_map,
        runTrap_traps_arr body arr hA] using this
    exact ih (n - (arr c exit (takeCaughtSignal t).1).length) (fun f => by have := hn' f; omega)
      (by have := hn' 0; omega)
  case case5 fuel t exit sig ts h ha ih =>
    have hs := (takeCaught_some t sig ts h).2
    refine ih n (fun f => ?_) (by omega)
    have := hn (f + 1)
    simpa [drainEvs_skip body arr _ _ _ sig ts h ha, Ev.isDeliver] using this

theorem drain_completed_nothing_left (body : Body) (fuel : Nat) (t : TrapMap) (exit : Int) (runs : List (Nat × Nat))
    (h : drainCompleted body fuel t exit = true) (hd : (drain body fuel t exit runs).divert = none) :
    (takeCaughtSignal (drain body fuel t exit runs).traps).2 = none := by
  fun_induction drain body fuel t exit runs
  case case1 => simpa [drainCompleted] using h
  case case2 h' => exact h'
  case case3 => simp at hd
  case case4 h' t' c ha r hd' ih =>
    simp only [r, t'] at hd' ih
    simp only [drainCompleted, h', ha, hd'] at h; exact ih h hd
  case case5 sig ts h' _ ha ih => exact ih (drainCompleted_skip body _ _ _ sig ts h' ha ▸ h) hd

end YashModel.Trap
