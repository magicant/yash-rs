/-
  Impl model, second layer: the same `TrapSet` / `GrandState` operations as `Model.lean`, but over a
  system whose primitive calls are *recorded* and *may fail with an errno*.

  `Model.lean` drops `Result<_, Errno>` ("the signal system calls do not fail").  Here nothing is dropped:
  * `Concurrent::set_disposition` (`system/concurrency/signal.rs`) is the sequence it is in the code —
    `sigmask(Add)` before installing `Catch`, `sigaction`, `sigmask(Remove)` after installing anything
    else — each with its `?`;
  * every `system.set_disposition(..).await?` of `trap/state.rs` keeps its `?`, so the position of each
    state write relative to the call that may fail is the code's (e.g. `enter_subshell` rewrites
    `current_state` *before* the call and `internal_disposition` *after* it);
  * `TrapSet::enter_subshell` ignores the errors (`.ok()`, `unwrap_or_default()`), the enable/disable
    functions stop at the first one, `set_action` reports `SystemError`.
  The record (`log`) is what a system-call tracer would see: it is compared call by call with the real
  code running on a fault-injecting `Sigmask + Sigaction` system under the real `Concurrent`.

  `plan` = outcome of the coming primitive calls (`true` = fails), exhausted = all succeed.
  With an empty plan this layer is `Model.lean` plus the record (`SyscallTheorems.faultless_refines`).
  Import-free apart from `Model.lean`; executable.
-/
import YashModel.Trap.Model
namespace YashModel.Trap

/-- a primitive system call under `Concurrent::set_disposition` -/
inductive Prim where
  /-- `sigmask(Some((Add | Remove, {sig})), Some(&mut old))` -/
  | mask (add : Bool) (sig : Nat)
  /-- `sigaction(sig, d)` -/
  | action (sig : Nat) (d : Disp)
  /-- `get_sigaction(sig)` (`SignalSystem::get_disposition`; wave 3) -/
  | get (sig : Nat)
  deriving DecidableEq, Repr

/-- one recorded call: what was asked, whether it succeeded, and (for `sigaction`) the old
    disposition it returned -/
structure Call where
  prim : Prim
  ok : Bool
  old : Disp := .default
  deriving DecidableEq, Repr

structure FSys where
  sys : Sys
  /-- calls made so far, oldest first -/
  log : List Call := []
  /-- outcomes of the coming calls: `true` = fails with an errno; exhausted = all succeed -/
  plan : List Bool := []

/-- `Sigmask::sigmask` through `update_sigmask_and_select_mask`: on an error nothing is touched
    (`.await?` comes before the `select_mask` update) -/
def FSys.sigmask (s : FSys) (add : Bool) (sig : Nat) : Bool × FSys :=
  if s.plan.headD false then
    (false, { s with log := s.log ++ [{ prim := .mask add sig, ok := false }], plan := s.plan.tail })
  else
    (true, { sys := s.sys.updateMask add sig,
             log := s.log ++ [{ prim := .mask add sig, ok := true }], plan := s.plan.tail })

/-- `Sigaction::sigaction`: installs and returns the old disposition, or fails without effect -/
def FSys.sigaction (s : FSys) (sig : Nat) (d : Disp) : Option Disp × FSys :=
  if s.plan.headD false then
    (none, { s with log := s.log ++ [{ prim := .action sig d, ok := false }], plan := s.plan.tail })
  else
    (some (s.sys.disp sig),
     { sys := { s.sys with disp := upd s.sys.disp sig d },
       log := s.log ++ [{ prim := .action sig d, ok := true, old := s.sys.disp sig }],
       plan := s.plan.tail })

/-- `impl SignalSystem for Rc<Concurrent<S>>::get_disposition` = `GetSigaction::get_sigaction`: reads the
    installed disposition, or fails; changes nothing -/
def FSys.getDisposition (s : FSys) (sig : Nat) : Option Disp × FSys :=
  if s.plan.headD false then
    (none, { s with log := s.log ++ [{ prim := .get sig, ok := false }], plan := s.plan.tail })
  else
    (some (s.sys.disp sig),
     { s with log := s.log ++ [{ prim := .get sig, ok := true, old := s.sys.disp sig }], plan := s.plan.tail })

/-- `impl SignalSystem for Rc<Concurrent<S>>::set_disposition` with its three `?` -/
def FSys.setDisposition (s : FSys) (sig : Nat) (d : Disp) : Option Disp × FSys :=
  let m1 := if d = .catch then s.sigmask true sig else (true, s)
  if m1.1 = false then (none, m1.2)
  else
    let a := m1.2.sigaction sig d
    match a.1 with
    | none => (none, a.2)
    | some old =>
      let m2 := if d ≠ .catch then a.2.sigmask false sig else (true, a.2)
      if m2.1 = false then (none, m2.2) else (some old, m2.2)

/-- `trap::SetActionError` in full -/
inductive SetActionErrorF where
  | base (e : SetActionError)
  | systemError
  deriving DecidableEq, Repr

/-- `GrandState::set_action` with its `?`s: the system, the entry afterwards (`none` = still vacant)
    and the error if any -/
def GrandState.setActionF (sys : FSys) (e : Option GrandState) (cond : Nat) (a : Action) (origin : Nat)
    (overrideIgnore : Bool) : FSys × Option GrandState × Option SetActionErrorF :=
  let d := a.toDisp
  let new : TrapState := { action := a, origin := .user origin, pending := false }
  match e with
  | none =>
    if cond ≠ 0 then
      -- probe: learn the initial disposition by installing `Ignore`
      let p := if overrideIgnore = false then sys.setDisposition cond .ignore else (some .default, sys)
      match p.1 with
      | none => (p.2, none, some .systemError)
      | some initial =>
        if overrideIgnore = false ∧ initial = .ignore then
          (p.2, some { current := .fromInitial .ignore, parent := none, internal := .default },
           some (.base .initiallyIgnored))
        else
          let q := if overrideIgnore = true ∨ d ≠ .ignore then p.2.setDisposition cond d
                   else (some .default, p.2)
          match q.1 with
          | none => (q.2, none, some .systemError)
          | some _ => (q.2, some { current := new, parent := none, internal := .default }, none)
    else
      (sys, some { current := new, parent := none, internal := .default }, none)
  | some g =>
    if overrideIgnore = false ∧ g.current.action = .ignore ∧ g.current.origin = .inherited then
      (sys, some g, some (.base .initiallyIgnored))
    else
      let oldD := g.internal.max g.current.action.toDisp
      let newD := g.internal.max d
      let q := if cond ≠ 0 ∧ oldD ≠ newD then sys.setDisposition cond newD else (some .default, sys)
      match q.1 with
      | none => (q.2, some g, some .systemError)
      | some _ => (q.2, some { g with current := new }, none)

/-- `GrandState::set_internal_disposition` with its `?`s; the flag is `Ok(())` -/
def GrandState.setInternalF (sys : FSys) (e : Option GrandState) (sig : Nat) (d : Disp)
    : FSys × Option GrandState × Bool :=
  match e with
  | none =>
    if d = .default then (sys, none, true)
    else
      let r := sys.setDisposition sig d
      match r.1 with
      | none => (r.2, none, false)
      | some initial => (r.2, some { current := .fromInitial initial, parent := none, internal := d }, true)
  | some g =>
    let setting := g.current.action.toDisp
    let oldD := g.internal.max setting
    let newD := d.max setting
    let q := if oldD ≠ newD then sys.setDisposition sig newD else (some .default, sys)
    match q.1 with
    | none => (q.2, some g, false)
    | some _ => (q.2, some { g with internal := d }, true)

/-- `GrandState::enter_subshell` with its `?`: `current_state` / `parent_state` are rewritten before
    the call, `internal_disposition` only after it -/
def GrandState.enterSubshellF (sys : FSys) (g : GrandState) (cond : Nat) (opt : SubOpt) : FSys × GrandState :=
  let oldD := g.internal.max g.current.action.toDisp
  let newD := g.enterNewDisp opt
  let q := if oldD ≠ newD ∧ cond ≠ 0 then sys.setDisposition cond newD else (some .default, sys)
  match q.1 with
  | none => (q.2, { (g.enterState opt) with internal := g.internal })
  | some _ => (q.2, g.enterState opt)

/-- `GrandState::ignore` with its `?` (`none` = the entry stays vacant) -/
def GrandState.ignoreF (sys : FSys) (sig : Nat) : FSys × Option GrandState :=
  let r := sys.setDisposition sig .ignore
  match r.1 with
  | none => (r.2, none)
  | some initial =>
    let origin : Origin := match initial with
      | .default => .subshell
      | .ignore => .inherited
      | .catch => .subshell
    (r.2, some { current := { action := .ignore, origin := origin, pending := false },
                 parent := none, internal := .default })

/-! ## `TrapSet` over the recording system -/

structure FState where
  sys : FSys
  traps : TrapMap := []

/-- forgetting the record -/
def FState.toState (st : FState) : State := { sys := st.sys.sys, traps := st.traps }

/-- `GrandState::insert_from_system_if_vacant` with its `?` (`none` = `Err`, the entry stays vacant) -/
def GrandState.insertFromSystemIfVacantF (fs : FSys) (e : Option GrandState) (cond : Nat)
    : FSys × Option GrandState :=
  match e with
  | none =>
    if cond ≠ 0 then
      let r := fs.getDisposition cond
      match r.1 with
      | none => (r.2, none)
      | some d => (r.2, some { current := .fromInitial d, parent := none, internal := .default })
    else (fs, some { current := .fromInitial .default, parent := none, internal := .default })
  | some g => (fs, some g)

/-- `TrapSet::peek_state` with its `?` (`none` = `Err(errno)`: nothing inserted) -/
def peekStateF (st : FState) (cond : Nat) : FState × Option TrapState :=
  let r := GrandState.insertFromSystemIfVacantF st.sys (get st.traps cond) cond
  match r.2 with
  | none => ({ st with sys := r.1 }, none)
  | some g => ({ sys := r.1, traps := set st.traps cond g }, some (g.parent.getD g.current))

/-- `TrapSet::set_action` -/
def setActionF (st : FState) (cond : Nat) (a : Action) (origin : Nat) (overrideIgnore : Bool)
    : FState × Option SetActionErrorF :=
  if cond = SIGKILL then (st, some (.base .sigkill))
  else if cond = SIGSTOP then (st, some (.base .sigstop))
  else
    let t1 := clearParents st.traps
    let r := GrandState.setActionF st.sys (get t1 cond) cond a origin overrideIgnore
    ({ sys := r.1, traps := setOpt t1 cond r.2.1 }, r.2.2)

/-- the private `TrapSet::set_internal_disposition` -/
def setInternalF (st : FState) (sig : Nat) (d : Disp) : FState × Bool :=
  let r := GrandState.setInternalF st.sys (get st.traps sig) sig d
  ({ sys := r.1, traps := setOpt st.traps sig r.2.1 }, r.2.2)

/-- `a.await?; b.await?; c.await`: the calls in order, stopping at the first error -/
def seqInternalF (st : FState) : List (Nat × Disp) → FState × Bool
  | [] => (st, true)
  | (s, d) :: rest =>
    let x := setInternalF st s d
    if x.2 then seqInternalF x.1 rest else (x.1, false)

def enableChldOps : List (Nat × Disp) := [(SIGCHLD, .catch)]
def enableTerminatorsOps : List (Nat × Disp) := [(SIGINT, .catch), (SIGTERM, .ignore), (SIGQUIT, .ignore)]
def enableStoppersOps : List (Nat × Disp) := [(SIGTSTP, .ignore), (SIGTTIN, .ignore), (SIGTTOU, .ignore)]
def disableTerminatorsOps : List (Nat × Disp) := [(SIGINT, .default), (SIGTERM, .default), (SIGQUIT, .default)]
def disableStoppersOps : List (Nat × Disp) := [(SIGTSTP, .default), (SIGTTIN, .default), (SIGTTOU, .default)]
/-- `disable_internal_dispositions`: SIGCHLD, then the terminators, then the stoppers, each with `?` -/
def disableAllOps : List (Nat × Disp) := (SIGCHLD, .default) :: disableTerminatorsOps ++ disableStoppersOps

/-- the loop of `TrapSet::enter_subshell`; errors are dropped (`.await.ok()`) -/
def enterAllF (sys : FSys) (ii ks : Bool) : TrapMap → FSys × TrapMap
  | [] => (sys, [])
  | (k, g) :: t =>
    let r := g.enterSubshellF sys k (subshellOption k g ii ks)
    let r' := enterAllF r.1 ii ks t
    (r'.1, (k, r.2) :: r'.2)

/-- one round of the trailing `for signal in [SIGINT, SIGQUIT]` (`unwrap_or_default()`) -/
def ignoreIfVacantF (st : FState) (sig : Nat) : FState :=
  match get st.traps sig with
  | none =>
    let r := GrandState.ignoreF st.sys sig
    { sys := r.1, traps := setOpt st.traps sig r.2 }
  | some _ => st

/-- `TrapSet::enter_subshell` -/
def enterSubshellF (st : FState) (ii ks : Bool) : FState :=
  let r := enterAllF st.sys ii ks (clearParents st.traps)
  let st1 : FState := { sys := r.1, traps := r.2 }
  if ii then ignoreIfVacantF (ignoreIfVacantF st1 SIGINT) SIGQUIT else st1

/-- a history step over the recording system (the operations that make no system call act on the
    trap set exactly as in `step`) -/
def stepF (st : FState) : Op → FState
  | .setAction c a o ov => (setActionF st c a o ov).1
  | .enableChld => (seqInternalF st enableChldOps).1
  | .enableTerminators => (seqInternalF st enableTerminatorsOps).1
  | .enableStoppers => (seqInternalF st enableStoppersOps).1
  | .disableTerminators => (seqInternalF st disableTerminatorsOps).1
  | .disableStoppers => (seqInternalF st disableStoppersOps).1
  | .disableAll => (seqInternalF st disableAllOps).1
  | .enterSubshell ii ks => enterSubshellF st ii ks
  | .peek c => (peekStateF st c).1
  | op => { st with traps := (step st.toState op).traps }

def runF (st : FState) : List Op → FState
  | [] => st
  | op :: ops => runF (stepF st op) ops

/-- the shell at start-up over the recording system, with a plan of faults -/
def FState.init (init : Nat → Disp) (plan : List Bool) : FState :=
  { sys := { sys := (State.init init).sys, log := [], plan := plan }, traps := [] }

/-- the result an operation reports: `set_action`'s error, or whether an enable/disable returned `Ok` -/
inductive OpResult where
  | none
  | setAction (e : Option SetActionErrorF)
  | ok (b : Bool)
  deriving DecidableEq, Repr

def resultF (st : FState) : Op → OpResult
  | .setAction c a o ov => .setAction (setActionF st c a o ov).2
  | .enableChld => .ok (seqInternalF st enableChldOps).2
  | .enableTerminators => .ok (seqInternalF st enableTerminatorsOps).2
  | .enableStoppers => .ok (seqInternalF st enableStoppersOps).2
  | .disableTerminators => .ok (seqInternalF st disableTerminatorsOps).2
  | .disableStoppers => .ok (seqInternalF st disableStoppersOps).2
  | .disableAll => .ok (seqInternalF st disableAllOps).2
  | .peek c => .ok (peekStateF st c).2.isSome
  | _ => .none

/-- a recorded `sigaction` that installed what was installed already -/
def Call.needless (c : Call) : Bool :=
  match c.prim with
  | .action _ d => c.ok && c.old == d
  | .mask _ _ => false
  | .get _ => false

def Call.sig (c : Call) : Nat :=
  match c.prim with
  | .action s _ => s
  | .mask _ s => s
  | .get s => s

end YashModel.Trap
