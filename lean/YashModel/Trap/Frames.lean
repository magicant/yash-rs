/-
  C11 — the frame walk of `in_trap`, and where C02's Exec model calls the runner
  (`Exec/Model.lean`: `pollWith` after the single command of `execCommands` = `Command::execute`, and before every
  line of `runScript` = `runner::run_command`).
-/
import YashModel.Trap.Spec
import YashModel.Exec.Model
namespace YashModel.Trap

theorem inTrap_push (stack : List Frame) (f : Frame) :
    inTrap (stack ++ [f])
      = (match f with
         | .subshell => false
         | .trap c => c != 0 || inTrap stack
         | _ => inTrap stack) := by
  unfold inTrap
  rw [List.reverse_append]
  cases f <;> simp [Frame.isSignalTrap]

/-- the walk of `in_trap`, on the stack listed innermost frame first -/
theorem inTrapFrom_iff (l : List Frame) :
    (l.takeWhile (· != Frame.subshell)).any Frame.isSignalTrap = true ↔
      ∃ inner c outer, l = inner ++ Frame.trap c :: outer ∧ c ≠ 0 ∧ Frame.subshell ∉ inner := by
  induction l with
  | nil => simp
  | cons f l ih =>
    by_cases hf : f = .subshell
    · subst hf
      simp only [List.takeWhile, bne_self_eq_false, List.any_nil, Bool.false_eq_true, false_iff]
      rintro ⟨inner, c, outer, e, _, hp⟩
      cases inner with
      | nil => simp at e
      | cons a inner => simp at e; exact hp (by simp [e.1])
    · have hne : (f != Frame.subshell) = true := by simpa using hf
      simp only [List.takeWhile, hne, List.any_cons, Bool.or_eq_true]
      constructor
      · rintro (h | h)
        · cases f <;> simp [Frame.isSignalTrap] at h
          rename_i c
          exact ⟨[], c, l, rfl, h, by simp⟩
        · obtain ⟨inner, c, outer, e, hc, hp⟩ := ih.mp h
          refine ⟨f :: inner, c, outer, by simp [e], hc, ?_⟩
          simp only [List.mem_cons, not_or]
          exact ⟨fun h => hf h.symm, hp⟩
      · rintro ⟨inner, c, outer, e, hc, hp⟩
        cases inner with
        | nil =>
          simp only [List.nil_append, List.cons.injEq] at e
          left; rw [e.1]; simpa [Frame.isSignalTrap] using hc
        | cons a inner =>
          simp only [List.cons_append, List.cons.injEq] at e
          right
          exact ih.mpr ⟨inner, c, outer, e.2, hc, fun h => hp (by simp [h])⟩

theorem inTrap_iff (stack : List Frame) :
    inTrap stack = true ↔
      ∃ outer c inner, stack = outer ++ Frame.trap c :: inner ∧ c ≠ 0 ∧ Frame.subshell ∉ inner := by
  unfold inTrap
  rw [inTrapFrom_iff]
  constructor
  · rintro ⟨inner, c, outer, e, hc, hp⟩
    refine ⟨outer.reverse, c, inner.reverse, ?_, hc, by simpa using hp⟩
    have := congrArg List.reverse e
    simpa using this
  · rintro ⟨outer, c, inner, e, hc, hp⟩
    exact ⟨inner.reverse, c, outer.reverse, by simp [e], hc, by simpa using hp⟩

/-- `in_trap` is a fold over the stack from the outermost frame (`inTrap_push` is its step); the Spec function
    `signalTrapRunning` (a `Subshell` frame forgets, a signal trap frame is remembered) is that fold with the accumulator
    written out -/
theorem signalTrapRunning_fold (pre l : List Frame) : signalTrapRunning l (inTrap pre) = inTrap (pre ++ l) := by
  induction l generalizing pre with
  | nil => simp [signalTrapRunning]
  | cons f l ih =>
    have := ih (pre ++ [f])
    rw [inTrap_push, List.append_assoc, List.singleton_append] at this
    rw [← this]
    cases f <;> simp [signalTrapRunning, Bool.or_comm]

theorem inTrap_append_subshell (pre rest : List Frame) : inTrap (pre ++ .subshell :: rest) = inTrap rest := by
  rw [← signalTrapRunning_fold pre]; exact signalTrapRunning_fold [] rest

theorem inTrap_eq_false {l : List Frame} (h : ∀ f ∈ l, f.isSignalTrap = false) : inTrap l = false := by
  unfold inTrap
  exact List.any_eq_false.mpr fun f hf =>
    by rw [h f (List.mem_reverse.mp ((List.takeWhile_sublist _).mem hf))]; exact Bool.false_ne_true

theorem signal_trap_running_is_in_trap (stack : List Frame) : signalTrapRunning stack false = inTrap stack :=
  signalTrapRunning_fold [] stack

/-- C02's execution stack (head = innermost; its `Trap` frames are signal-trap frames: the EXIT trap runs under
    its own function there) as this area's stack (last = innermost); C02 has one signal, here SIGUSR1 as in `ofExecTraps` -/
def ofExecStack (st : List Exec.Frame) : List Frame :=
  st.reverse.map fun f => match f with
    | .loop => .loop | .subshell => .subshell | .condition => .condition | .builtin _ => .builtin
    | .dotScript => .dotScript | .trap => .trap SIGUSR1 | .initFile => .initFile

/-- C02's one-signal stand-in as a one-entry trap set -/
def ofExecTraps (s : Exec.St) : TrapMap :=
  [(SIGUSR1, { current := { action := if s.sigTrap.isSome then .command 0 else .default, origin := .user 0,
                            pending := s.pending } })]

theorem inTrap_ofExecStack (st : List Exec.Frame) (h : st.contains .subshell = false) :
    inTrap (ofExecStack st) = st.contains .trap := by
  unfold inTrap ofExecStack
  rw [← List.map_reverse, List.reverse_reverse]
  induction st with
  | nil => rfl
  | cons f st ih =>
    simp only [List.contains_cons, Bool.or_eq_false_iff] at h
    have := ih h.2
    cases f
    case subshell => simp at h
    all_goals simpa [List.takeWhile, Frame.isSignalTrap, SIGUSR1] using this

theorem exec_trapDue_is_runner_condition (s : Exec.St) (h : s.stack.contains .subshell = false) :
    s.trapDue.isSome
      = (!inTrap (ofExecStack s.stack) && !(pendingCommands (ofExecTraps s)).isEmpty) := by
  rw [inTrap_ofExecStack _ h]
  unfold Exec.St.trapDue ofExecTraps
  rw [h]
  cases hp : s.pending <;> cases ht : s.stack.contains .trap <;> cases hs : s.sigTrap <;>
    simp [pendingCommands, SIGUSR1]

theorem exec_poll_after_every_command (fuel : Nat) (s : Exec.St) (c : Exec.Cmd) :
    Exec.execCommands (fuel + 1) s [c]
      = Exec.pollWith (Exec.execList fuel) (Exec.execCmd fuel s c).1 (Exec.execCmd fuel s c).2 := by
  simp [Exec.execCommands]

theorem exec_poll_before_every_line (fuel : Nat) (s : Exec.St) (line : List Exec.Item) (rest : List Exec.Line)
    (h : (Exec.pollWith (Exec.execList fuel) s .continue_).2 = .continue_) :
    Exec.runScript (fuel + 1) s (.cmds line :: rest)
      = (match (Exec.execList fuel (Exec.pollWith (Exec.execList fuel) s .continue_).1 line).2 with
         | .continue_ => Exec.runScript fuel (Exec.execList fuel (Exec.pollWith (Exec.execList fuel) s .continue_).1 line).1 rest
         | r => ((Exec.execList fuel (Exec.pollWith (Exec.execList fuel) s .continue_).1 line).1.applyResult r, r)) := by
  simp only [Exec.runScript, h]
  rcases hx : Exec.execList fuel (Exec.pollWith (Exec.execList fuel) s .continue_).1 line with ⟨s1, r⟩
  cases r <;> rfl

end YashModel.Trap
