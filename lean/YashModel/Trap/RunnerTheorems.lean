/-
  C11 — property theorems about running the trap actions (and non-vacuity examples): "each delivery of a trapped signal
  makes its action run exactly once, at the next command boundary (or on interrupting `wait`), with `$?` preserved,
  regardless of when the signal arrives".  The pending flag between catches and takes; the runner at a boundary, also
  when an action diverts, when signals arrive or `trap` commands run while an action runs, and inside a trap action (the
  frame walk of `in_trap`); the model's fuel against the code's unbounded loop; the interrupted built-in and the `wait`
  path, composed with C13; where the boundaries fall in C02's interpreter.
-/
import YashModel.Trap.Interleave
import YashModel.Trap.WaitLemmas
import YashModel.Trap.Frames
import YashModel.Proc.Theorems
import YashModel.Generated.TrapTables
namespace YashModel.Trap

/-- ★ `pending_exactly_once`, trap-set level: between two takes, any number ≥ 1 of catches of a
    signal yields exactly one pending trap state (the one set), zero catches yield none, and after
    the take nothing is pending. -/
theorem pending_exactly_once_take (t : TrapMap) (s : Nat) (g : GrandState) (n : Nat)
    (hg : get t s = some g) (hp : g.current.pending = false) :
    (takeSignalIfCaught (catchN t s n) s).2 = (if n = 0 then none else some g.current)
    ∧ (takeSignalIfCaught (takeSignalIfCaught (catchN t s n) s).1 s).2 = none := by
  cases n with
  | zero =>
    simp [catchN, takeSignalIfCaught, hg, GrandState.handleIfCaught, hp, get_set]
  | succ n =>
    have h1 := catchN_get t s g n hg
    have hcur : ({ g.current with pending := false } : TrapState) = g.current := by
      cases hc : g.current with
      | mk a o p => rw [hc] at hp; simp only at hp; subst hp; rfl
    simp [takeSignalIfCaught, h1, GrandState.handleIfCaught, GrandState.markAsCaught, get_set, hcur, hp]

/-- ★ `pending_exactly_once`, command-boundary level: a signal `s` with command trap `c`, nothing
    pending for it; it is then caught `n` times (any other signals may be pending too).  The next
    `run_traps_for_caught_signals` outside a trap runs the body of `s` exactly once if `n ≥ 1` and
    not at all if `n = 0`; `$?` after the run is `$?` before; a second run right after runs
    nothing.  (Bodies that do not end in a divert; for diverting bodies see
    `pending_survives_divert`.) -/
theorem pending_exactly_once (body : Body) (hm : MapPreserving body) (hb : NoDivert body)
    (t : TrapMap) (hsorted : Sorted t) (s c : Nat) (hs0 : s ≠ 0) (g : GrandState)
    (hg : get t s = some g) (hact : g.current.action = .command c) (hp : g.current.pending = false)
    (n : Nat) (exit : Int) :
    let r := runTrapsForCaughtSignals body false (catchN t s n) exit
    r.runs.filter (fun p => p.1 == s) = (if n = 0 then [] else [(s, c)])
    ∧ r.exit = exit
    ∧ (runTrapsForCaughtSignals body false r.traps exit).runs = [] := by
  intro r
  have hnd := fun t' => runTraps_nodivert body hb false t' exit
  obtain ⟨h1, h2, h3⟩ := runTraps_complete body hm (catchN t s n) exit (hnd _)
  refine ⟨?_, h3, ?_⟩
  · rw [show r.runs = _ from h1, pendingCommands_spec _ (sorted_catchN _ _ _ hsorted) _]
    cases n with
    | zero => simp [catchN, hg, owed, hact, hp]
    | succ n =>
      rw [catchN_get t s g n hg]
      simp [owed, GrandState.markAsCaught, hact, hs0]
  · rw [(runTraps_complete body hm r.traps exit (hnd _)).1]; exact h2

/-- ★ `pending_survives_divert`: the runner takes ONE caught signal, runs its action and, if the
    action ends in a divert (`return`, `exit`, interrupt, …), leaves at once.  For every set of
    pending signals and every outcome of every action:
    (i) at one boundary, the actions run followed by the actions still pending are exactly the
        actions that were pending (as lists: in the order of `pendingCommands`) — so after a run cut short by a divert every
        signal not yet run is still pending, and none is run twice;
    (ii) a run that is not cut short leaves nothing pending and keeps `$?`;
    (iii) over any sequence of later boundaries (whatever `$?` is there) the same conservation
        holds, and once there have been as many boundaries as pending actions, every one of them
        has run exactly once: the total run list *is* the list that was pending;
    (iv) per signal: the runs of `s` so far plus what is still owed to `s` is what was owed to `s`
        (at most one run, and exactly one in the end). -/
theorem pending_survives_divert (body : Body) (hm : MapPreserving body) (t : TrapMap)
    (hsorted : Sorted t) (exit : Int) (es : List Int) :
    ((runTrapsForCaughtSignals body false t exit).runs
        ++ pendingCommands (runTrapsForCaughtSignals body false t exit).traps = pendingCommands t)
    ∧ ((runTrapsForCaughtSignals body false t exit).divert = none →
        pendingCommands (runTrapsForCaughtSignals body false t exit).traps = []
        ∧ (runTrapsForCaughtSignals body false t exit).exit = exit)
    ∧ ((boundaries body es t []).2 ++ pendingCommands (boundaries body es t []).1 = pendingCommands t)
    ∧ ((pendingCommands t).length ≤ es.length → (boundaries body es t []).2 = pendingCommands t)
    ∧ (∀ s, ((boundaries body es t []).2 ++ pendingCommands (boundaries body es t []).1).filter
              (fun p => p.1 == s) = owed (get t s) s) := by
  have hc := runTraps_conserve body hm t exit
  have hb := boundaries_conserve body hm es t []
  simp only [List.nil_append] at hb
  refine ⟨hc.1, ?_, hb, ?_, ?_⟩
  · intro hd
    exact (runTraps_complete body hm t exit hd).2
  · intro hlen
    have := boundaries_complete body hm es t [] hlen
    rw [this, List.append_nil] at hb
    exact hb
  · intro s
    rw [hb]
    exact pendingCommands_spec t hsorted s

/-- ★ the runner including its poll and the SIGINT shortcut of interactive shells (a caught SIGINT
    without a user trap interrupts at once, even inside a trap): whatever was collected, what ran
    plus what is still pending is what was pending after the poll — the shortcut loses nothing. -/
theorem poll_shortcut_loses_nothing (body : Body) (hm : MapPreserving body) (polled : List Nat)
    (t : TrapMap) (exit : Int) :
    (runTrapsAfterPoll body false polled t exit).runs
        ++ pendingCommands (runTrapsAfterPoll body false polled t exit).traps
      = pendingCommands (polled.foldl catchSignal t) := by
  unfold runTrapsAfterPoll
  simp only
  split
  · rfl
  · exact (runTraps_conserve body hm _ exit).1

/-- ★ `trap_error_status_propagates`: when a trap action is interrupted by an error
    (`Divert::Interrupt(Some(x))`, e.g. an expansion error, `x` = 2), `run_trap` leaves `$?` = `x` and
    passes `Interrupt(Some(x))` on unchanged; hence a run of the pending traps that ends in
    `Interrupt(Some(x))` leaves `$?` = `x` (the non-interactive shell then exits with it) — never the
    `$?` of before the action. -/
theorem trap_error_status_propagates (body : Body) (c : Nat) (exit : Int) (t : TrapMap) (x : Int)
    (hb : (body c exit t).1.divert = some (.interrupt (some x))) :
    (runTrap body c exit t).1 = x ∧ (runTrap body c exit t).2.1 = some (.interrupt (some x))
    ∧ ∀ (inTrap : Bool) (t' : TrapMap) (e' : Int) (y : Int),
        (runTrapsForCaughtSignals body inTrap t' e').divert = some (.interrupt (some y)) →
        (runTrapsForCaughtSignals body inTrap t' e').exit = y := by
  refine ⟨?_, ?_, ?_⟩
  · exact runTrap_interrupt body c exit t x (by rw [runTrap_divert, hb])
  · rw [runTrap_divert, hb]
  · intro inTrap t' e' y h
    unfold runTrapsForCaughtSignals at h ⊢
    cases inTrap with
    | true => simp at h
    | false =>
      simp only [Bool.false_eq_true, if_false] at h ⊢
      exact drain_interrupt_exit body _ t' e' [] y h

/-- non-vacuity: the action of SIGINT fails with status 2 while `$?` = 5: the run ends in
    `Interrupt(Some(2))` with `$?` = 2, and SIGUSR1 is still pending -/
example :
    let t : TrapMap := catchSignal (catchSignal
      (set (set [] SIGUSR1 { current := { action := .command 1, origin := .user 0 } })
        SIGINT { current := { action := .command 2, origin := .user 1 } }) SIGINT) SIGUSR1
    let body : Body := fun c e t => ({ exit := e, divert := if c = 2 then some (.interrupt (some 2)) else none }, t)
    let r := runTrapsForCaughtSignals body false t 5
    (r.exit, r.divert, pendingCommands r.traps) = (2, some (.interrupt (some 2)), [(SIGUSR1, 1)]) := by
  decide +kernel

/-- ☆ while a signal trap is running (`in_trap`), nothing is run and nothing is lost: the pending
    flags stay for the next boundary -/
theorem no_nested_trap (body : Body) (t : TrapMap) (exit : Int) :
    runTrapsForCaughtSignals body true t exit = { traps := t, exit := exit, runs := [] } := rfl

/-- non-vacuity: two signals pending (one caught three times), one command each; both bodies run
    once, in signal order, with `$?` = 5 kept although every body sets `$?` to 7 -/
example :
    let t : TrapMap := catchN (catchSignal
      (set (set [] SIGUSR1 { current := { action := .command 1, origin := .user 0 } })
        SIGINT { current := { action := .command 2, origin := .user 1 } }) SIGINT) SIGUSR1 3
    let r := runTrapsForCaughtSignals (fun _ _ t => ({ exit := 7 }, t)) false t 5
    (r.exit, r.runs, r.divert) = (5, [(SIGINT, 2), (SIGUSR1, 1)], none) := by
  decide +kernel

/-- non-vacuity of `pending_survives_divert`: the action of SIGINT ends in `return 3`; SIGUSR1 stays
    pending at that boundary and runs, once, at the next one -/
example :
    let t : TrapMap := catchSignal (catchSignal
      (set (set [] SIGUSR1 { current := { action := .command 1, origin := .user 0 } })
        SIGINT { current := { action := .command 2, origin := .user 1 } }) SIGINT) SIGUSR1
    let body : Body := fun c _ t => ({ exit := 3, divert := if c = 2 then some (.ret (some 3)) else none }, t)
    let r := runTrapsForCaughtSignals body false t 5
    (r.runs, r.divert, pendingCommands r.traps) = ([(SIGINT, 2)], some (.ret (some 3)), [(SIGUSR1, 1)])
    ∧ (boundaries body [5, 3] t []).2 = [(SIGINT, 2), (SIGUSR1, 1)] := by
  decide +kernel

example : (setAction (State.init fun _ => .default) SIGINT (.command 1) 0 false).2 = none := by decide +kernel

/-- non-vacuity: USR1 and INT both caught while waiting, reported in that order: USR1's action
    interrupts the wait, INT's is still pending afterwards -/
example :
    let t : TrapMap := catchSignal (catchSignal
      (set (set [] SIGUSR1 { current := { action := .command 1, origin := .user 0 } })
        SIGINT { current := { action := .command 2, origin := .user 1 } }) SIGINT) SIGUSR1
    let r := waitTrapLoop (fun _ _ t => ({ exit := 0 }, t)) [SIGUSR1, SIGINT] t 0
    (r.2.map fun x => (x.1, x.2.1)) = some (SIGUSR1, 1) ∧ pendingCommands r.1 = [(SIGINT, 2)] := by
  decide +kernel

/-- ★ `exactly_once_any_interleaving` — "each delivery of a trapped signal makes its action run
    exactly once, at the next command boundary, regardless of when the signal arrives".
    ONE statement over every sequence of events `deliver x` (any signal, any number of times, at any
    point) and `boundary main exit` (the boundary after a command whose own result `main` may be a
    divert — `Command::execute` calls the runner in any case), for every trap set in key order,
    every signal `s` with a command trap `c`, and actions that end in ANY way (normally, `return`,
    `exit`, interrupted by an error …; they only must leave the trap set alone):
    the history of `s` — deliveries (`true`) and runs (`false`) in order — is accepted by the POSIX
    pending discipline `account` (a run only after a delivery not yet run: never spurious, never
    twice), the signal is pending at the end exactly if its last delivery has not run yet, and
      #runs + [still pending] = #coalesced deliveries,
    where the coalescing is exactly the pending *flag*: a delivery that finds the signal already
    pending merges with the earlier one (as the process's pending set and `catch_signal` do). -/
theorem exactly_once_any_interleaving (body : Body) (hm : MapPreserving body) (s c : Nat)
    (hs0 : s ≠ 0) (t : TrapMap) (hsorted : Sorted t) (hact : actionAt t s = some (.command c))
    (hp : pendingAt t s = false) (evs : List BEv) :
    ∃ runs deliveries,
      account false (runBig body s t evs []).2
        = some (pendingAt (runBig body s t evs []).1 s, runs, deliveries)
      ∧ runs + (if pendingAt (runBig body s t evs []).1 s then 1 else 0) = deliveries := by
  have h0 : InvA s c false { traps := t } := ⟨hsorted, hact, by simp [account, hp], by simp⟩
  rw [show runBig body s t evs [] = _ from runBig_eq_runBigA body hm s c false evs { traps := t } h0]
  obtain ⟨r, e, hacc, hc, _⟩ :=
    account_accepted (invA_run body _ (arrivals_generalises_mapPreserving body hm) s c false evs _ h0).acc
  exact ⟨r, e, hacc, by simpa using hc⟩

/-- ★ "at the next command boundary": at a boundary where no action diverts, every pending command
    trap has run (nothing stays pending), whatever the command itself resulted in; if an action
    diverts, `pending_survives_divert` says the rest stays pending, and after as many boundaries as
    pending actions all have run. -/
theorem runs_at_next_boundary (body : Body) (hm : MapPreserving body) (main : Option Divert)
    (t : TrapMap) (exit : Int)
    (hnd : (runTrapsForCaughtSignals body false t exit).divert = none) :
    (afterCommand body false main t exit).runs = pendingCommands t
    ∧ pendingCommands (afterCommand body false main t exit).traps = [] := by
  obtain ⟨h1, h2, _⟩ := runTraps_complete body hm t exit hnd
  exact ⟨h1, h2⟩

/-- ★ the runner is called after EVERY command, also one that itself ends in a divert (`return`,
    `exit`, …): what runs and what stays pending does not depend on the command's own result, a due
    action does run there, and neither divert is dropped by the merge. -/
theorem boundary_after_diverting_command (body : Body) (hm : MapPreserving body)
    (main : Option Divert) (t : TrapMap) (exit : Int) :
    (afterCommand body false main t exit).runs = (runTrapsForCaughtSignals body false t exit).runs
    ∧ (afterCommand body false main t exit).traps = (runTrapsForCaughtSignals body false t exit).traps
    ∧ (pendingCommands t ≠ [] → (afterCommand body false main t exit).runs ≠ [])
    ∧ (main.isSome → (afterCommand body false main t exit).divert.isSome)
    ∧ ((runTrapsForCaughtSignals body false t exit).divert.isSome →
        (afterCommand body false main t exit).divert.isSome) := by
  refine ⟨rfl, rfl, ?_, ?_, ?_⟩
  · intro hne hnil
    have := (runTraps_conserve body hm t exit).2.2 hne
    simp only [afterCommand] at hnil
    rw [hnil] at this
    simp at this
  · intro hmain
    simp only [afterCommand]
    cases main with
    | none => simp at hmain
    | some d => cases (runTrapsForCaughtSignals body false t exit).divert <;> simp [mergeDivert]
  · intro htrap
    simp only [afterCommand]
    cases hd : (runTrapsForCaughtSignals body false t exit).divert with
    | none => rw [hd] at htrap; simp at htrap
    | some d => cases main <;> simp [mergeDivert]

/-- ★ flags only: over every interleaving of `catch_signal` calls (at any moment, also while an
    action is running) and single iterations of the runner's loop, for every trap set in key order
    and every signal — no assumption on the actions at all — the history of the signal is accepted
    by the pending discipline and `#takes + [still pending] = #coalesced deliveries + [pending at the
    start]`. -/
theorem exactly_once_small_steps (s : Nat) (hs0 : s ≠ 0) (t : TrapMap) (hsorted : Sorted t)
    (evs : List Ev) :
    ∃ runs deliveries,
      account (pendingAt t s) (runEvs s t evs []).2
        = some (pendingAt (runEvs s t evs []).1 s, runs, deliveries)
      ∧ runs + (if pendingAt (runEvs s t evs []).1 s then 1 else 0)
          = deliveries + (if pendingAt t s then 1 else 0) := by
  obtain ⟨r, e, hacc, hc, _⟩ :=
    account_accepted (runEvs_account s evs t hsorted (pendingAt t s) [] (by simp [account]))
  exact ⟨r, e, hacc, hc⟩

/-- non-vacuity of `exactly_once_any_interleaving`: SIGINT (`return 3`) and SIGUSR1 trapped; USR1
    delivered twice, INT once, a boundary after a command that itself diverted, USR1 again, two
    more boundaries: USR1's history is D D R D R — two runs for two coalesced deliveries. -/
example :
    let t : TrapMap := set (set [] SIGUSR1 { current := { action := .command 1, origin := .user 0 } })
        SIGINT { current := { action := .command 2, origin := .user 1 } }
    let body : Body := fun c _ t => ({ exit := 3, divert := if c = 2 then some (.ret (some 3)) else none }, t)
    let evs : List BEv := [.deliver SIGUSR1, .deliver SIGUSR1, .deliver SIGINT,
      .boundary (some (.ret none)) 5, .boundary none 3, .deliver SIGUSR1, .boundary none 0]
    (runBig body SIGUSR1 t evs []).2 = [true, true, false, true, false]
    ∧ account false (runBig body SIGUSR1 t evs []).2 = some (false, 2, 2) := by
  decide +kernel

/-- ★ `interrupted_builtin_drops_nothing` — an interactive shell runs a built-in that does not handle
    signals itself (`read` waiting for input, …); the system reports batches of caught signals until
    one contains SIGINT, which interrupts the built-in (`execute_builtin`).  For every trap set and
    every sequence of batches: the built-in is interrupted iff some batch contains SIGINT, and
    afterwards EVERY signal reported up to and including that batch — also the ones reported in the
    same batch as SIGINT — is pending in the trap set (if it has an entry at all), no other flag
    changes, and no action, origin or internal disposition changes.  So none of them is dropped:
    with a command trap `c` the run `(s, c)` is owed, and the next command boundary where no action
    diverts runs it (`runs_at_next_boundary`). -/
theorem interrupted_builtin_drops_nothing (t : TrapMap) (hsorted : Sorted t) (batches : List (List Nat)) :
    (interruptedBuiltin t batches).2 = batches.any (·.contains SIGINT)
    ∧ (∀ s, pendingAt (interruptedBuiltin t batches).1 s
          = (((deliveredBatches batches).contains s && (get t s).isSome) || pendingAt t s))
    ∧ (∀ s, (get (interruptedBuiltin t batches).1 s).map core = (get t s).map core)
    ∧ (∀ s c, s ≠ 0 → (deliveredBatches batches).contains s = true →
          actionAt t s = some (.command c) →
          (pendingCommands (interruptedBuiltin t batches).1).filter (fun p => p.1 == s) = [(s, c)]) := by
  have hspec := sigintLoop_spec batches []
  simp only [List.nil_append] at hspec
  have hp : ∀ s, pendingAt (interruptedBuiltin t batches).1 s
      = (((deliveredBatches batches).contains s && (get t s).isSome) || pendingAt t s) := by
    intro s
    simp only [interruptedBuiltin, hspec.1]
    exact pendingAt_foldl_catch _ t s
  have hc : ∀ s, (get (interruptedBuiltin t batches).1 s).map core = (get t s).map core := by
    intro s
    simp only [interruptedBuiltin]
    exact core_foldl_catch _ t s
  refine ⟨by simp only [interruptedBuiltin]; exact hspec.2, hp, hc, ?_⟩
  intro s c hs0 hdel hact
  have hsorted' : Sorted (interruptedBuiltin t batches).1 := by
    simp only [interruptedBuiltin]; exact sorted_foldl_catch _ t hsorted
  have hsome : (get t s).isSome = true := by
    unfold actionAt at hact
    cases hg : get t s with
    | none => rw [hg] at hact; cases hact
    | some g => rfl
  rw [pendingCommands_spec _ hsorted' s, owed_eq _ s c hs0 ((actionAt_of_core _ _ s (hc s)).trans hact), hp s,
    hdel, hsome]
  rfl

/-- non-vacuity: USR1 (command trap) and SIGINT reported in the
    same batch; USR1 is pending afterwards and its action runs at the next boundary -/
example :
    let t : TrapMap := set (set [] SIGUSR1 { current := { action := .command 1, origin := .user 0 } })
        SIGINT { current := { action := .default, origin := .inherited }, internal := .catch }
    let r := interruptedBuiltin t [[SIGUSR1, SIGINT]]
    r.2 = true ∧ pendingAt r.1 SIGUSR1 = true
    ∧ (afterCommand (fun _ _ t => ({ exit := 0 }, t)) false (some (.interrupt (some 386))) r.1 386).runs
        = [(SIGUSR1, 1)] := by
  decide +kernel

/-- ★ The `wait` path takes the pending flag BEFORE it runs the action, and touches the trap set no more
    afterwards (`run_trap_if_caught`): for every action, the trap set after the call is exactly what the
    action left.  So whatever was delivered while the action ran — the same signal again, another one —
    is still pending afterwards.  A model that cleared the flag after the action would not satisfy the
    first clause (it would be `takeSignalIfCaught` of what the action left). -/
theorem wait_trap_keeps_what_the_action_left (body : Body) (t : TrapMap) (sig : Nat) (exit : Int)
    (g : GrandState) (c : Nat) (hg : get t sig = some g) (hp : g.current.pending = true)
    (ha : g.current.action = .command c) :
    (runTrapIfCaught body t sig exit).1 = (body c exit (takeSignalIfCaught t sig).1).2
    ∧ (∃ e d, (runTrapIfCaught body t sig exit).2 = some (c, e, d))
    ∧ (get (takeSignalIfCaught t sig).1 sig).map (·.current.pending) = some false := by
  rw [runTrapIfCaught_cmd body t sig exit g c hg hp ha]
  refine ⟨runTrap_traps_eq _ _ _ _, ⟨_, _, rfl⟩, ?_⟩
  simp [get_takeIf, hg, handleIfCaught_fst]

/-- ★ exactly-once for a delivery made during an action, `wait` path: if the action of `sig` delivers
    `sig` again while it runs (its effect on the trap set ends in `catch_signal(sig)`, whatever else it did
    before — e.g. redefining its own trap), then after `run_trap_if_caught` the action has run once
    and `sig` is pending again: the second delivery is owed its run (which `runs_at_next_boundary` /
    `pending_exactly_once` then give at the next command boundary). -/
theorem redelivery_during_wait_action_stays_pending (body : Body) (t : TrapMap) (sig : Nat) (exit : Int)
    (g : GrandState) (c : Nat) (hg : get t sig = some g) (hp : g.current.pending = true)
    (ha : g.current.action = .command c)
    (hbody : ∀ e t0, ∃ t1, (body c e t0).2 = catchSignal t1 sig ∧ (get t1 sig).isSome = true) :
    (∃ e d, (runTrapIfCaught body t sig exit).2 = some (c, e, d))
    ∧ (get (runTrapIfCaught body t sig exit).1 sig).map (·.current.pending) = some true := by
  obtain ⟨h1, h2, _⟩ := wait_trap_keeps_what_the_action_left body t sig exit g c hg hp ha
  refine ⟨h2, ?_⟩
  obtain ⟨t1, e1, e2⟩ := hbody exit (takeSignalIfCaught t sig).1
  rw [h1, e1, get_catchSignal, if_pos rfl]
  cases h : get t1 sig with
  | none => rw [h] at e2; simp at e2
  | some g1 => simp [GrandState.markAsCaught]

/-- non-vacuity: `trap 'probe 5; trap "probe 505" USR1; kill -s USR1 $$' USR1`,
    USR1 arrives during `wait`: the action runs once, and USR1 is pending again with the new action -/
example :
    let body : Body := fun c _ t0 =>
      ({ exit := 0 },
       catchSignal (set t0 SIGUSR1 { current := { action := .command (c + 500), origin := .user 0 } }) SIGUSR1)
    let t : TrapMap := [(SIGUSR1, { current := { action := .command 5, origin := .user 0, pending := true } })]
    let r := runTrapIfCaught body t SIGUSR1 0
    r.2 = some (5, 0, none) ∧ pendingCommands r.1 = [(SIGUSR1, 505)] := by decide +kernel

/-- ★ the same at a command boundary: the loop of `run_traps_for_caught_signals` takes the flag, runs
    the action and goes on with exactly the trap set the action left (first clause), so a signal the
    action delivered — the same one again or another — is taken by the same loop: here, for an action
    that ends without divert and leaves `sig` pending with command `c'`, the next iteration is not the end
    of the loop. -/
theorem boundary_loop_keeps_what_the_action_left (body : Body) (fuel : Nat) (t : TrapMap) (exit : Int)
    (runs : List (Nat × Nat)) (sig c : Nat) (ts : TrapState)
    (htake : (takeCaughtSignal t).2 = some (sig, ts)) (ha : ts.action = .command c)
    (hnd : (body c exit (takeCaughtSignal t).1).1.divert = none) :
    drain body (fuel + 1) t exit runs
      = drain body fuel (body c exit (takeCaughtSignal t).1).2 exit (runs ++ [(sig, c)]) := by
  rw [drain]
  simp only [htake, ha]
  have h1 : (runTrap body c exit (takeCaughtSignal t).1).2.1 = none := by rw [runTrap_divert, hnd]
  have h2 : (runTrap body c exit (takeCaughtSignal t).1).1 = exit := runTrap_exit_of_none _ _ _ _ h1
  simp only [h1, h2, runTrap_traps_eq]

/-- non-vacuity + the count: at ONE boundary the re-sending action and then the action of the delivery it
    made both run, each once, and nothing is left pending -/
example :
    let body : Body := fun c _ t0 =>
      if c = 5 then
        ({ exit := 0 },
         catchSignal (set t0 SIGUSR1 { current := { action := .command 505, origin := .user 0 } }) SIGUSR1)
      else ({ exit := 0 }, t0)
    let t : TrapMap := [(SIGUSR1, { current := { action := .command 5, origin := .user 0, pending := true } })]
    let r := drain body 4 t 0 []
    r.runs = [(SIGUSR1, 5), (SIGUSR1, 505)] ∧ pendingCommands r.traps = [] ∧ r.exit = 0 := by decide +kernel

/-- ★ `exactly_once_arrivals_during_actions` — `exactly_once_any_interleaving` without `MapPreserving`.
    Signals may arrive at ANY moment: between commands (`deliver x`) and also WHILE a trap action runs —
    the hypothesis on actions is only `Arrivals body arr`: what an action does to the trap set is that the
    signals `arr c e t` (any signals, any number, its own included, depending on anything) are handed to
    `catch_signal` while it runs; actions may end in any way (normally, `return`, `exit`, an error …).
    For every trap set in key order, every signal `s` with a command trap `c`, every sequence of
    `deliver` / `boundary main exit` events: the history of `s` — deliveries outside and inside actions
    (`true`) and takes of its action (`false`), in the order they happen (`drainEvs` follows the
    recursion of the runner's loop) — is accepted by the POSIX pending discipline `account` (never a run
    without a delivery not yet run, never two runs for one), `s` is pending at the end exactly if its
    last delivery has not run yet,  #runs + [still pending] = #coalesced deliveries,  and the actions
    actually run for `s` over the whole history (`RunResult.runs` of every boundary) are `(s, c)`,
    exactly #runs times.  A runner that cleared the flag after the action, or drained the
    flags first, does not satisfy this. -/
theorem exactly_once_arrivals_during_actions (body : Body) (arr : Nat → Int → TrapMap → List Nat)
    (hA : Arrivals body arr) (s c : Nat) (hs0 : s ≠ 0) (t : TrapMap) (hsorted : Sorted t)
    (hact : actionAt t s = some (.command c)) (hp : pendingAt t s = false) (evs : List BEv) :
    let r := runBigA body arr s { traps := t } evs
    ∃ runs deliveries,
      account false r.trace = some (pendingAt r.traps s, runs, deliveries)
      ∧ runs + (if pendingAt r.traps s then 1 else 0) = deliveries
      ∧ r.runs.filter (fun p => p.1 == s) = List.replicate runs (s, c) := by
  intro r
  have h := invA_run body arr hA s c false evs { traps := t }
    ⟨hsorted, hact, by simp [account, hp], by simp⟩
  obtain ⟨n, e, hq, hc, hn⟩ := account_accepted h.acc
  exact ⟨n, e, hq, by simpa using hc, by rw [h.runs, hn]⟩

/-- non-vacuity: the action of USR1 (`c = 5`) re-sends USR1 and sends INT while it runs; INT's action
    (`c = 7`) ends in `return`.  USR1 is delivered twice before the first boundary (coalesced), runs,
    is delivered again by its own action, runs again at the same boundary … the fuel of one boundary is
    the map size + 1, the rest runs at the next boundary: 3 coalesced deliveries, 3 runs. -/
example :
    let body : Body := fun c _ t =>
      if c = 5 then ({ exit := 0 }, [SIGUSR1, SIGINT].foldl catchSignal t)
      else ({ exit := 0, divert := some (.ret (some 3)) }, t)
    let arr : Nat → Int → TrapMap → List Nat := fun c _ _ => if c = 5 then [SIGUSR1, SIGINT] else []
    let t : TrapMap := set (set [] SIGUSR1 { current := { action := .command 5, origin := .user 0 } })
      SIGINT { current := { action := .command 7, origin := .user 1 } }
    let r := runBigA body arr SIGUSR1 { traps := t }
      [.deliver SIGUSR1, .deliver SIGUSR1, .boundary none 0, .boundary none 1]
    Arrivals body arr
    ∧ r.trace = [true, true, false, true, false, true]
    ∧ r.runs = [(SIGUSR1, 5), (SIGINT, 7), (SIGUSR1, 5), (SIGINT, 7)]
    ∧ pendingAt r.traps SIGUSR1 = true := by
  refine ⟨?_, by decide, by decide, by decide⟩
  intro c e t
  by_cases h : c = 5 <;> simp [h]

/-- ★ `in_trap_is_signal_trap_above_nearest_subshell` — `in_trap` (transcribed as the iterator chain of the
    code) says `true` exactly when the stack is `outer ++ [Trap(Signal c)] ++ inner` with no `Subshell` frame
    in `inner`: some signal trap action is running in THIS shell process.  Per frame pushed: a signal trap
    frame sets it, an EXIT trap frame (`c = 0`) and every other frame leave it as it was, a `Subshell` frame
    clears it ("this function does run traps in a subshell executed in a trap"). -/
theorem in_trap_is_signal_trap_above_nearest_subshell (stack : List Frame) :
    (inTrap stack = true ↔
      ∃ outer c inner, stack = outer ++ Frame.trap c :: inner ∧ c ≠ 0 ∧ Frame.subshell ∉ inner)
    ∧ (∀ c, inTrap (stack ++ [.trap c]) = (c != 0 || inTrap stack))
    ∧ inTrap (stack ++ [.subshell]) = false
    ∧ (∀ f, f ≠ .subshell → (∀ c, f ≠ .trap c) → inTrap (stack ++ [f]) = inTrap stack) := by
  refine ⟨inTrap_iff stack, fun c => by rw [inTrap_push], by rw [inTrap_push], ?_⟩
  intro f h1 h2
  rw [inTrap_push]
  cases f <;> simp_all

/-- ★ `no_trap_action_inside_a_trap_action` — `no_nested_trap` on the real stack: while the action of a
    signal trap runs (its `Frame::Trap` is pushed by `run_trap`), every command boundary inside it — under
    any further loop / condition / dot-script / built-in / EXIT-trap frames — runs nothing, loses nothing
    (the trap set, with every pending flag, and `$?` are untouched; no divert); in a subshell started inside
    the action, and in an EXIT trap action, the runner behaves as at top level. -/
theorem no_trap_action_inside_a_trap_action (body : Body) (outer inner : List Frame) (c : Nat) (hc : c ≠ 0)
    (hin : Frame.subshell ∉ inner) (t : TrapMap) (exit : Int) :
    (runTrapsOnStack body (outer ++ Frame.trap c :: inner) t exit).runs = []
    ∧ (runTrapsOnStack body (outer ++ Frame.trap c :: inner) t exit).traps = t
    ∧ (runTrapsOnStack body (outer ++ Frame.trap c :: inner) t exit).exit = exit
    ∧ (runTrapsOnStack body (outer ++ Frame.trap c :: inner) t exit).divert = none
    ∧ (∀ rest, (∀ f ∈ rest, Frame.isSignalTrap f = false) →
        runTrapsOnStack body (outer ++ Frame.trap c :: inner ++ Frame.subshell :: rest) t exit
          = runTrapsForCaughtSignals body false t exit)
    ∧ runTrapsOnStack body [Frame.trap 0] t exit = runTrapsForCaughtSignals body false t exit := by
  have h : inTrap (outer ++ Frame.trap c :: inner) = true :=
    (inTrap_iff _).mpr ⟨outer, c, inner, rfl, hc, hin⟩
  have hno : runTrapsOnStack body (outer ++ Frame.trap c :: inner) t exit = { traps := t, exit := exit, runs := [] } := by
    unfold runTrapsOnStack; rw [h]; exact no_nested_trap body t exit
  refine ⟨by rw [hno], by rw [hno], by rw [hno], by rw [hno], ?_, rfl⟩
  intro rest hrest
  unfold runTrapsOnStack
  rw [inTrap_append_subshell, inTrap_eq_false hrest]

/-- non-vacuity: inside the action of USR1, under a loop in a dot script, nothing runs and INT stays
    pending; in a subshell of that action INT's action runs -/
example :
    let body : Body := fun _ _ t => ({ exit := 0 }, t)
    let t : TrapMap := [(SIGINT, { current := { action := .command 7, origin := .user 0, pending := true } })]
    (runTrapsOnStack body [.dotScript, .trap SIGUSR1, .loop, .condition] t 0).runs = []
    ∧ pendingCommands (runTrapsOnStack body [.dotScript, .trap SIGUSR1, .loop, .condition] t 0).traps = [(SIGINT, 7)]
    ∧ (runTrapsOnStack body [.trap SIGUSR1, .loop, .subshell, .trap 0] t 0).runs = [(SIGINT, 7)] := by decide +kernel

/-- ★ what a `trap` command does to a delivery that is still pending (the code: `GrandState::set_action` replaces
    the whole `TrapState`, `pending: false`; POSIX says nothing about it): for every state, condition, action,
    flags and every signal `s` — a command for ANOTHER condition, or one that is rejected (KILL/STOP, ignored on
    entry), leaves the pending flag of `s` as it was; an accepted one on `s` itself clears it (that delivery
    will run neither the old nor the new action) and records exactly the new action, not pending: the new
    action applies to the NEXT delivery (`catch_signal` then `take_signal_if_caught` hands out the new action). -/
theorem trap_command_and_pending_delivery (st : State) (x : Nat) (a : Action) (o : Nat) (ov : Bool) (s : Nat) :
    pendingAt (setAction st x a o ov).1.traps s
        = (if x = s ∧ (setAction st x a o ov).2 = none then false else pendingAt st.traps s)
    ∧ ((setAction st x a o ov).2 = none →
        (takeSignalIfCaught (catchSignal (setAction st x a o ov).1.traps x) x).2
          = some { action := a, origin := .user o, pending := false }) := by
  refine ⟨pendingAt_setAction st x a o ov s, ?_⟩
  intro h
  unfold takeSignalIfCaught catchSignal
  simp only [get_setAction_ok st x a o ov h, get_set, if_true, GrandState.handleIfCaught, GrandState.markAsCaught,
    newState]

theorem count_toS (l : List TMark) :
    (l.map TMark.toS).count false = l.count .ran + l.count .discarded := by
  induction l with
  | nil => rfl
  | cons m l ih => cases m <;> simp [TMark.toS, List.count_cons, ih] <;> omega

/-- ★ `at_most_once_with_trap_commands` — the end-to-end statement WITHOUT any hypothesis on what actions do to
    the trap set (the hole behind `MapPreserving` / `Arrivals`): every sequence of the small events `deliver x`,
    `take` (one iteration of the runner's loop) and `trapCmd x a o ov` (a `trap` command, wherever it is run: in
    the script, inside an action, on the signal being handled or on another pending one), from every state in
    key order, every signal `s`: the history of `s` is accepted by the pending discipline (an action is taken
    only for a delivery not yet run: AT MOST once per coalesced delivery), and
      #runs + #discarded + [still pending] = #coalesced deliveries,
    where a delivery is discarded exactly by an accepted `trap` command on `s` while `s` is pending.  So each
    delivery runs its action exactly once unless the script itself replaced the trap of that signal in between. -/
theorem at_most_once_with_trap_commands (s : Nat) (hs0 : s ≠ 0) (st : State) (hsorted : Sorted st.traps)
    (hp : pendingAt st.traps s = false) (evs : List TEv) :
    let r := runTEvs s st evs []
    ∃ e, (account false (r.2.map TMark.toS)).map (fun x => (x.1, x.2.2)) = some (pendingAt r.1.traps s, e)
      ∧ r.2.count .ran + r.2.count .discarded + (if pendingAt r.1.traps s then 1 else 0) = e
      ∧ r.2.count .ran ≤ e := by
  intro r
  obtain ⟨n, e, hq, hc, hn⟩ :=
    account_accepted (runTEvs_account s evs st hsorted false [] (by simp [account, hp]))
  rw [count_toS] at hn
  simp only [Bool.false_eq_true, if_false, Nat.add_zero] at hc
  simp only [r]
  exact ⟨e, by simp [hq], by omega, by omega⟩

/-- non-vacuity: INT and USR1 delivered, both taken (INT first: lower number); then USR1 is re-trapped (nothing
    pending: no discard), INT is delivered again and, while pending, reset by `trap - INT` (discarded), and
    delivered once more (recorded: the entry exists) -/
example :
    let sys : Sys := { disp := fun _ => .catch, blocked := fun _ => true }
    let t : TrapMap := set (set [] SIGUSR1 { current := { action := .command 5, origin := .user 0 } })
        SIGINT { current := { action := .command 7, origin := .user 1 } }
    let st : State := { sys := sys, traps := t }
    let evs : List TEv := [.deliver SIGINT, .deliver SIGUSR1, .take, .take,
      .trapCmd SIGUSR1 (.command 6) 2 false, .deliver SIGINT, .trapCmd SIGINT .default 3 false, .deliver SIGINT]
    (runTEvs SIGINT st evs []).2 = [.delivered, .ran, .delivered, .discarded, .delivered]
    ∧ (runTEvs SIGUSR1 st evs []).2 = [.delivered, .ran] := by decide +kernel

/-- ★ `runner_loop_terminates_with_finite_arrivals` — the `while let Some(..) = take_caught_signal()` loop has no
    bound in the code; the model's `drain` has fuel.  If the actions of one invocation receive at most `n`
    signals in all (whatever the fuel: `drainEvs` lists them), then every fuel above `npend t + n` completes the
    loop (`drainCompleted`: it ended because nothing was left or an action diverted), every larger fuel gives
    the SAME result (so that result is the code's), and without a divert nothing is left to take: everything
    pending, the arrivals included, has run at this boundary.  With `n = 0` this is the model's own fuel
    (`map size + 1 > npend t`). -/
theorem runner_loop_terminates_with_finite_arrivals (body : Body) (arr : Nat → Int → TrapMap → List Nat)
    (hA : Arrivals body arr) (n : Nat) (t : TrapMap) (exit : Int) (runs : List (Nat × Nat))
    (hn : ∀ f, ((drainEvs body arr f t exit).filter Ev.isDeliver).length ≤ n)
    (fuel : Nat) (hf : npend t + n < fuel) :
    drainCompleted body fuel t exit = true
    ∧ (∀ k, drain body (fuel + k) t exit runs = drain body fuel t exit runs)
    ∧ ((drain body fuel t exit runs).divert = none →
        (takeCaughtSignal (drain body fuel t exit runs).traps).2 = none) := by
  have hc := drain_completes body arr hA fuel n t exit hn hf
  exact ⟨hc, drain_fuel_irrelevant body fuel t exit runs hc, drain_completed_nothing_left body fuel t exit runs hc⟩

/-- non-vacuity: USR1 is pending and its action (`c = 5`) sends SIGINT once, while SIGINT is not pending. One pending
    signal and one arrival: fuel 3, the bound of the theorem, completes and runs both actions; fuel 1 does not complete -/
example :
    let body : Body := fun c _ t => if c = 5 ∧ pendingAt t SIGINT = false then ({ exit := 0 }, catchSignal t SIGINT) else ({ exit := 0 }, t)
    let t : TrapMap := [(SIGINT, { current := { action := .command 7, origin := .user 0 } }),
                        (SIGUSR1, { current := { action := .command 5, origin := .user 0, pending := true } })]
    drainCompleted body 3 t 0 = true ∧ (drain body 3 t 0 []).runs = [(SIGUSR1, 5), (SIGINT, 7)]
    ∧ drainCompleted body 1 t 0 = false := by decide +kernel

open YashModel.Proc in
/-- C13's `trap_interrupts_wait` beside `waitTrapLoop_first`: the signal the blocked `wait` reports is the one whose
    action the loop runs -/
theorem wait_compose (body : Body) (m : TrapMap) (t : TSys) (σ : Nat) (exit : Int)
    (hout : t.out = none) (hpc : t.sys.pc = .await)
    (hσ : firstTrapped t.traps t.sigPending = some σ)
    (habs : ∀ x, t.traps.contains x = isCmd m x) :
    (∃ t', tstep t .parent = some t' ∧ t'.out = some (.trapped σ))
    ∧ (∀ u o, TSteps t u → u.out = some o → o = .trapped σ)
    ∧ ∃ c e d, (waitTrapLoop body t.sigPending (t.sigPending.foldl catchSignal m) exit).2 = some (σ, c, e, d)
        ∧ actionAt m σ = some (.command c) := by
  obtain ⟨h1, h2⟩ := trap_interrupts_wait hout hpc hσ
  refine ⟨h1, fun u o hs ho => (h2 u o hs ho).1, ?_⟩
  have hcmd : isCmd (t.sigPending.foldl catchSignal m) = fun x => t.traps.contains x :=
    funext fun x => (isCmd_of_core m _ x (core_foldl_catch _ _ x)).trans (habs x).symm
  obtain ⟨f1, f2⟩ := waitTrapLoop_first body t.sigPending (t.sigPending.foldl catchSignal m) exit (by
    intro x hx hc
    have hs : (get m x).isSome = true := by
      rw [isCmd_of_core m _ x (core_foldl_catch _ _ x)] at hc
      unfold isCmd at hc
      cases h : get m x <;> simp_all
    simp [pendingAt_foldl_catch, hx, hs])
  rw [hcmd, show List.find? _ _ = some σ from hσ] at f1
  cases hr : (waitTrapLoop body t.sigPending (t.sigPending.foldl catchSignal m) exit).2 with
  | none => rw [hr] at f1; cases f1
  | some p =>
    obtain ⟨s, c, e, d⟩ := p
    rw [hr] at f1; cases f1
    refine ⟨c, e, d, rfl, ?_⟩
    rw [← actionAt_of_core m _ s (core_foldl_catch t.sigPending m s)]
    exact f2 _ c e d hr

open YashModel.Proc in
/-- ★ `wait_trap_runs_once_then_boundary` — "… or on interrupting `wait`": C13's `TSys` is the `wait` built-in
    blocked in `wait_for_signals` with trapped signals pending in the process (`sigPending`, delivery order), this
    area's trap set `m` is abstracted by `traps` = the signals with a command trap.  With `σ` the first trapped
    signal: (a) [C13, `trap_interrupts_wait`] the shell can move at once and, under EVERY schedule of children
    and senders, the built-in ends with `Trapped(σ)` (exit status 384+σ, `ExitStatus::from(σ)`); (b) in this
    area's model of that same step — `wait_for_signals` hands every reported signal to `catch_signal`, then the
    loop of `wait_for_any_job_or_trap` — exactly ONE action runs and it is the command trap of that same `σ`;
    (c) for every signal `x`, what ran for `x` followed by what is still owed to `x` is what was owed after the
    deliveries: nothing twice, the other caught signals keep their flag; (d) at the next command boundary where
    no action diverts, exactly those still-owed actions run and nothing is left — before the next command. -/
theorem wait_trap_runs_once_then_boundary (body : Body) (hm : MapPreserving body) (m : TrapMap) (t : TSys)
    (σ : Nat) (exit : Int) (hout : t.out = none) (hpc : t.sys.pc = .await)
    (hσ : firstTrapped t.traps t.sigPending = some σ) (habs : ∀ x, t.traps.contains x = isCmd m x)
    (h0 : ¬ (0 ∈ t.sigPending)) :
    let m1 := t.sigPending.foldl catchSignal m
    let r := waitTrapLoop body t.sigPending m1 exit
    (∃ t', tstep t .parent = some t' ∧ t'.out = some (.trapped σ))
    ∧ (∀ u o, TSteps t u → u.out = some o → o = .trapped σ)
    ∧ (∃ c e d, r.2 = some (σ, c, e, d) ∧ actionAt m σ = some (.command c))
    ∧ (∀ x, ranFor r.2 x ++ owed (get r.1 x) x = owed (get m1 x) x)
    ∧ (∀ main e', (runTrapsForCaughtSignals body false r.1 e').divert = none →
        (afterCommand body false main r.1 e').runs = pendingCommands r.1
        ∧ pendingCommands (afterCommand body false main r.1 e').traps = []) := by
  intro m1 r
  obtain ⟨a, b, c⟩ := wait_compose body m t σ exit hout hpc hσ habs
  exact ⟨a, b, c, fun x => wait_interrupt_conserves body hm t.sigPending h0 m1 exit x,
    fun main e' hnd => runs_at_next_boundary body hm main r.1 e' hnd⟩

open YashModel.Generated in
/-- ★ `poll_sites_are_the_boundaries` — (i) `run_traps_for_caught_signals` is called, outside tests, at exactly two
    places (re-extracted from /repo on every run): at the tail of `impl Command for syntax::Command::execute`
    (AFTER the command) and in `runner::run_command` (BEFORE a command line); `run_trap_if_caught` only from the
    `wait` built-in (and its injection at start-up).  (ii) C02's Exec model polls at those two places:
    after the single command of `execCommands`, and before a line of `runScript` (stated here for a poll that ends the
    script; the case where the script goes on is `exec_poll_before_every_line`; that it polls nowhere else is not stated).  (iii) Its poll condition
    `St.trapDue` is this area's runner condition on the corresponding one-entry trap set and stack (outside
    subshells): not inside a signal-trap action, and a command trap pending.  (iv) This area's `afterCommand` is
    the first site: the runner's result does not depend on the command's own result.  So the boundaries of C02's
    script interpreter are the boundaries the exactly-once theorems speak about. -/
theorem poll_sites_are_the_boundaries :
    TrapTables.trapPollSites
        = [("yash-semantics/src/command.rs", "execute", "after"), ("yash-semantics/src/runner.rs", "run_command", "before")]
    ∧ TrapTables.trapIfCaughtSites
        = [("yash-builtin/src/wait/core.rs", "wait_for_any_job_or_trap"), ("yash-cli/src/startup.rs", "inject_dependencies")]
    ∧ (∀ fuel s c, Exec.execCommands (fuel + 1) s [c]
        = Exec.pollWith (Exec.execList fuel) (Exec.execCmd fuel s c).1 (Exec.execCmd fuel s c).2)
    ∧ (∀ fuel s line rest r0, (Exec.pollWith (Exec.execList fuel) s .continue_).2 = r0 → r0 ≠ .continue_ →
        Exec.runScript (fuel + 1) s (.cmds line :: rest)
          = ((Exec.pollWith (Exec.execList fuel) s .continue_).1.applyResult r0, r0))
    ∧ (∀ s : Exec.St, s.stack.contains .subshell = false →
        s.trapDue.isSome = (!inTrap (ofExecStack s.stack) && !(pendingCommands (ofExecTraps s)).isEmpty))
    ∧ (∀ (body : Body) main t e, (afterCommand body false main t e).runs = (runTrapsForCaughtSignals body false t e).runs
        ∧ (afterCommand body false main t e).traps = (runTrapsForCaughtSignals body false t e).traps) := by
  refine ⟨rfl, rfl, exec_poll_after_every_command, ?_, exec_trapDue_is_runner_condition,
    fun _ _ _ _ => ⟨rfl, rfl⟩⟩
  intro fuel s line rest r0 h hne
  cases r0 with
  | continue_ => exact absurd rfl hne
  | break_ d => simp only [Exec.runScript, h]
  | outOfFuel => simp only [Exec.runScript, h]

/-- `wait` interrupted by SIGINT in an interactive shell (`wait/core.rs`: the check before the loop): the built-in
    ends with `Interrupt(Some(384 + SIGINT))`, NO action runs inside `wait` and no pending flag is touched — so
    every other signal caught in the same batch is still pending and (`runs_at_next_boundary`) runs at the hook
    right after the `wait` command; when the shortcut does not apply the loop is `waitTrapLoop`. -/
theorem wait_sigint_shortcut_loses_nothing (body : Body) (sigs : List Nat) (t : TrapMap) (exit : Int) :
    (waitSigintShortcut sigs t = true →
        (waitAfterSignals body sigs t exit).1 = t
        ∧ (waitAfterSignals body sigs t exit).2 = some (SIGINT, none, exit, some (.interrupt (some (384 + SIGINT))))
        ∧ pendingCommands (waitAfterSignals body sigs t exit).1 = pendingCommands t)
    ∧ (waitSigintShortcut sigs t = false →
        (waitAfterSignals body sigs t exit).1 = (waitTrapLoop body sigs t exit).1) := by
  unfold waitAfterSignals
  constructor
  · intro h; simp [h]
  · intro h
    simp only [h, Bool.false_eq_true, if_false]
    rcases hx : waitTrapLoop body sigs t exit with ⟨t', r⟩
    cases r with
    | none => rfl
    | some p => obtain ⟨s, c, e, d⟩ := p; rfl

/-- non-vacuity: interactive shell (`term+`), USR1 trapped; USR1 and INT arrive during `wait`: the shortcut
    applies, USR1's action is still owed -/
example :
    let st := step (step (State.init fun _ => .default) .enableTerminators) (.setAction SIGUSR1 (.command 1) 0 false)
    let t := [SIGUSR1, SIGINT].foldl catchSignal st.traps
    waitSigintShortcut [SIGUSR1, SIGINT] t = true ∧ pendingCommands t = [(SIGUSR1, 1)] := by decide +kernel

/-- `run_trap` restores `$?` on EVERY way the action can end except `Interrupt`: whatever `$?` the action left
    (`false; return`, `! :; return`, `(exit 7); break` …) and whatever divert it ends in — `Return`, `Exit`,
    `Break`/`Continue` (`other`), `Abort`, with or without a status — the caller's `$?` is back and the divert is
    passed on unchanged; the status the receiver of the divert then assigns is the divert's own (`return N` → N)
    or, without one, that restored `$?` (`return` → the `$?` of before the trap). -/
theorem run_trap_restores_status_on_every_divert (body : Body) (c : Nat) (exit : Int) (t : TrapMap) (d : Divert)
    (hd : (body c exit t).1.divert = some d) (hni : ∀ st, d ≠ .interrupt st) :
    (runTrap body c exit t).1 = exit
    ∧ (runTrap body c exit t).2.1 = some d
    ∧ d.payload.getD (runTrap body c exit t).1 = d.payload.getD exit := by
  have h1 := run_trap_restores_status body c exit t (fun st h => hni st (by rw [hd] at h; exact (Option.some.inj h)))
  exact ⟨h1, by rw [runTrap_divert, hd], by rw [h1]⟩

/-- non-vacuity: `false; return` at `$?` = 4 -/
example :
    let body : Body := fun _ _ t => ({ exit := 1, divert := some (.ret none) }, t)
    (runTrap body 0 4 []).1 = 4 ∧ (Divert.ret none).payload.getD (runTrap body 0 4 []).1 = 4 := by decide +kernel

end YashModel.Trap
