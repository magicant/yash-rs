/-
  C11 — the `trap` built-in: it only composes `peek_state` and `set_action`, so an invocation is a history of `TrapSet`
  operations (`trapMain_run`); one command sets every listed condition (`setActions_sets_each`).
-/
import YashModel.Trap.Builtin
import YashModel.Trap.Entries
namespace YashModel.Trap

/-- the `TrapSet` operations one `trap` command performs -/
def trapCmdOps (origin : Nat) (interactive : Bool) : TrapCmd → List Op
  | .printAll _ => (allConditions.filter fun c => !(c == SIGKILL || c == SIGSTOP)).map Op.peek
  | .print conds => conds.map Op.peek
  | .setAction a conds => conds.map fun c => Op.setAction c a origin interactive

/-- the operations of a whole invocation (none if the operands are rejected) -/
def trapMainOps (cmdOf : String → Nat) (origin : Nat) (interactive print : Bool) (operands : List String)
    : List Op :=
  match interpret cmdOf print operands with
  | .error _ => []
  | .ok cmd => trapCmdOps origin interactive cmd

theorem run_append (st : State) (a b : List Op) : run st (a ++ b) = run (run st a) b := by
  induction a generalizing st with
  | nil => rfl
  | cons op a ih => exact ih _

theorem displayTrap_fst (st : State) (c : Nat) (incl : Bool) :
    (displayTrap st c incl).1 = step st (.peek c) := by
  unfold displayTrap
  simp only
  split <;> rfl

theorem displayAll_run (incl : Bool) (cs : List Nat) (st : State) :
    (displayAll incl cs st).1
      = run st ((cs.filter fun c => !(c == SIGKILL || c == SIGSTOP)).map Op.peek) := by
  induction cs generalizing st with
  | nil => rfl
  | cons c cs ih =>
    simp only [displayAll]
    by_cases hk : c = SIGKILL ∨ c = SIGSTOP
    · have : (!(c == SIGKILL || c == SIGSTOP)) = false := by
        rcases hk with h | h <;> simp [h]
      simp only [hk, if_true, List.filter_cons, this, Bool.false_eq_true, if_false]
      exact ih st
    · have : (!(c == SIGKILL || c == SIGSTOP)) = true := by
        simp only [not_or] at hk
        simp [hk.1, hk.2]
      simp only [hk, if_false, List.filter_cons, this, if_true, List.map_cons, run]
      rw [ih, displayTrap_fst]

theorem displayEach_run (cs : List Nat) (st : State) :
    (displayEach cs st).1 = run st (cs.map Op.peek) := by
  induction cs generalizing st with
  | nil => rfl
  | cons c cs ih =>
    simp only [displayEach, List.map_cons, run]
    rw [ih, displayTrap_fst]

theorem setActions_run (a : Action) (o : Nat) (ov : Bool) (cs : List Nat) (st : State) :
    (setActions a o ov cs st).1 = run st (cs.map fun c => Op.setAction c a o ov) := by
  induction cs generalizing st with
  | nil => rfl
  | cons c cs ih =>
    simp only [setActions, List.map_cons, run]
    rw [ih]; rfl

theorem inv_setActions (init : Nat → Disp) (hinit : ∀ s, init s ≠ .catch) (a : Action) (o : Nat)
    (ov : Bool) (cs : List Nat) (st : State) (h : Inv init st) :
    Inv init (setActions a o ov cs st).1 :=
  setActions_run a o ov cs st ▸ inv_run init hinit _ st h

theorem trapMain_run (cmdOf : String → Nat) (st : State) (o : Nat) (i p : Bool) (ops : List String) :
    (trapMain cmdOf st o i p ops).st = run st (trapMainOps cmdOf o i p ops) := by
  unfold trapMain trapMainOps
  cases hi : interpret cmdOf p ops with
  | error e => cases e <;> rfl
  | ok cmd =>
    have hx : (cmd.execute st o i).1 = run st (trapCmdOps o i cmd) := by
      cases cmd with
      | printAll incl => simp only [TrapCmd.execute, trapCmdOps]; exact displayAll_run incl _ st
      | print cs => simp only [TrapCmd.execute, trapCmdOps]; exact displayEach_run cs st
      | setAction a cs => simp only [TrapCmd.execute, trapCmdOps]; exact setActions_run a o i cs st
    simp only
    split <;> exact hx

theorem setAction_ok_of_not_refused (st : State) (c : Nat) (a : Action) (o : Nat) (ov : Bool)
    (hk : ¬ IsKillStop c) (hr : refused st c ov = false) : (setAction st c a o ov).2 = none := by
  rw [(setAction_spec st c a o ov hk).1, hr]; rfl

theorem setAction_get_other (st : State) (c c' : Nat) (a : Action) (o : Nat) (ov : Bool) (h : c ≠ c') :
    get (setAction st c' a o ov).1.traps c = (get st.traps c).map GrandState.clearParent
    ∨ get (setAction st c' a o ov).1.traps c = get st.traps c := by
  by_cases hk : IsKillStop c'
  · right; rw [setAction_killStop st c' a o ov hk]
  · left; rw [setAction_of_not_killStop st c' a o ov hk]; simp only [get_set, h, if_false, get_clearParents]

theorem setAction_disp_other (st : State) (c c' : Nat) (a : Action) (o : Nat) (ov : Bool) (h : c ≠ c') :
    (setAction st c' a o ov).1.sys.disp c = st.sys.disp c := by
  rw [setActionT_sys]
  unfold setActionInstalls
  split
  · rfl
  · exact sysAfter_atSig_other _ _ _ _ h

theorem refused_setAction_other (st : State) (c c' : Nat) (a : Action) (o : Nat) (ov ov' : Bool)
    (h : c ≠ c') : refused (setAction st c' a o ov).1 c ov' = refused st c ov' := by
  unfold refused
  rw [setAction_disp_other st c c' a o ov h]
  rcases setAction_get_other st c c' a o ov h with hg | hg
  · rw [hg]; cases get st.traps c <;> rfl
  · rw [hg]

theorem newState_preserved (st : State) (c c' : Nat) (a : Action) (o : Nat) (ov : Bool) (g : GrandState)
    (hg : get st.traps c = some g) (hn : g.current = newState a o) :
    ∃ g', get (setAction st c' a o ov).1.traps c = some g' ∧ g'.current = newState a o := by
  by_cases h : c = c'
  · subst h
    by_cases hk : IsKillStop c
    · rw [setAction_killStop st c a o ov hk]; exact ⟨g, hg, hn⟩
    · -- an entry written by `trap` is not "ignored on entry": the command is accepted again
      have hr : refused st c ov = false := by simp [refused, hg, hn, newState]
      exact ⟨_, get_setAction_ok st c a o ov (setAction_ok_of_not_refused st c a o ov hk hr), rfl⟩
  · rcases setAction_get_other st c c' a o ov h with hg' | hg'
    · exact ⟨g.clearParent, by rw [hg', hg]; rfl, hn⟩
    · exact ⟨g, by rw [hg', hg], hn⟩

theorem setActions_keeps_new (a : Action) (o : Nat) (ov : Bool) (cs : List Nat) (st : State) (c : Nat)
    (g : GrandState) (hg : get st.traps c = some g) (hn : g.current = newState a o) :
    ∃ g', get (setActions a o ov cs st).1.traps c = some g' ∧ g'.current = newState a o := by
  induction cs generalizing st g with
  | nil => exact ⟨g, hg, hn⟩
  | cons c' cs ih =>
    simp only [setActions]
    obtain ⟨g1, hg1, hn1⟩ := newState_preserved st c c' a o ov g hg hn
    exact ih _ g1 hg1 hn1

theorem setActions_sets_each (a : Action) (o : Nat) (ov : Bool) (cs : List Nat) (st : State) (c : Nat)
    (hm : c ∈ cs) (hk : c ≠ SIGKILL) (hs : c ≠ SIGSTOP) (hr : refused st c ov = false) :
    ∃ g, get (setActions a o ov cs st).1.traps c = some g ∧ g.current = newState a o := by
  induction cs generalizing st with
  | nil => cases hm
  | cons c' cs ih =>
    simp only [setActions]
    by_cases h : c = c'
    · subst h
      have hok := setAction_ok_of_not_refused st c a o ov (fun h => h.elim hk hs) hr
      exact setActions_keeps_new a o ov cs _ c _ (get_setAction_ok st c a o ov hok) rfl
    · have hm' : c ∈ cs := by
        rcases List.mem_cons.mp hm with h1 | h1
        · exact absurd h1 h
        · exact h1
      apply ih _ hm'
      rw [refused_setAction_other st c c' a o ov ov h]; exact hr

end YashModel.Trap
