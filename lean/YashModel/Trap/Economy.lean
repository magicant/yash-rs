/-
  C11 — the economy of the system calls, as a fact about the Model: in a state that satisfies `Inv`, with the entries of
  KILL/STOP untouched, every install an operation makes (`stepInstalls`) spares KILL and STOP and, on a signal the trap
  set knows, changes the installed disposition (`stepInstalls_good`).
-/
import YashModel.Trap.Entries
namespace YashModel.Trap

/-- every install spares KILL/STOP and, on a signal the trap set `traps` knows, changes the disposition -/
def Good (traps : TrapMap) : Sys → List (Nat × Disp) → Prop
  | _, [] => True
  | sys, (s, d) :: r =>
    ¬ IsKillStop s ∧ ((get traps s).isSome → d ≠ sys.disp s) ∧ Good traps (sys.setDisposition s d).2 r

theorem good_append (traps : TrapMap) (sys : Sys) (p q : List (Nat × Disp))
    (h1 : Good traps sys p) (h2 : Good traps (sysAfter sys p) q) : Good traps sys (p ++ q) := by
  induction p generalizing sys with
  | nil => exact h2
  | cons a p ih =>
    obtain ⟨s, d⟩ := a
    obtain ⟨a1, a2, a3⟩ := h1
    exact ⟨a1, a2, ih _ a3 h2⟩

theorem good_unknown (traps : TrapMap) (sys : Sys) (s : Nat) (hs : get traps s = none)
    (hk : ¬ IsKillStop s) (ds : List Disp) : Good traps sys (atSig s ds) := by
  induction ds generalizing sys with
  | nil => trivial
  | cons d ds ih => exact ⟨hk, by simp [hs], ih _⟩

theorem good_callIf (traps : TrapMap) (sys : Sys) (b : Prop) [Decidable b] (k : Nat) (d : Disp)
    (hk : b → ¬ IsKillStop k) (h : b → d ≠ sys.disp k) : Good traps sys (atSig k (callIf b d)) := by
  unfold callIf atSig
  split
  · exact ⟨hk ‹_›, fun _ => h ‹_›, trivial⟩
  · trivial

theorem setActionCalls_good (traps : TrapMap) (sys : Sys) (g : GrandState) (k : Nat) (a : Action) (ov : Bool) (hk : ¬ IsKillStop k)
    (hinst : k ≠ 0 → sys.disp k = merge g) :
    Good traps sys (atSig k (GrandState.setActionCalls (some g) (sys.disp k) k a ov)) := by
  unfold GrandState.setActionCalls
  simp only
  split
  · trivial
  · exact good_callIf traps sys _ k _ (fun _ => hk) fun h => by rw [hinst h.1]; exact fun e => h.2 e.symm

theorem setInternalCalls_good (traps : TrapMap) (sys : Sys) (g : GrandState) (k : Nat) (d : Disp)
    (hk : ¬ IsKillStop k) (hinst : sys.disp k = merge g) :
    Good traps sys (atSig k (GrandState.setInternalCalls (some g) d)) :=
  good_callIf traps sys _ k _ (fun _ => hk) fun h => by rw [hinst]; exact fun e => h e.symm

/-- in a key-ordered map whose known signals have their merge installed, the loop of `enter_subshell` only makes calls
    that change something (`HK`: an untouched KILL/STOP entry asks for no call) -/
theorem enterAllCalls_good (traps : TrapMap) (ii ks : Bool) (t : TrapMap) (hs : Sorted t) (sys : Sys)
    (H : ∀ k g, get t k = some g → k ≠ 0 → sys.disp k = merge g)
    (HK : ∀ k g, get t k = some g → IsKillStop k → merge g = g.enterNewDisp (subshellOption k g ii ks)) :
    Good traps sys (enterAllCalls ii ks t) := by
  induction t generalizing sys with
  | nil => trivial
  | cons kv rest ih =>
    obtain ⟨k, g⟩ := kv
    obtain ⟨hlo, hs'⟩ := hs
    have hgk : get ((k, g) :: rest) k = some g := by simp [get]
    have hrest : ∀ k' g', get rest k' = some g' → k' ≠ k ∧ get ((k, g) :: rest) k' = some g' := fun k' g' h =>
      have hne : k' ≠ k := Nat.ne_of_gt (hlo k' g' h)
      ⟨hne, by simp [get, hne, h]⟩
    refine good_append _ _ _ _
      (good_callIf traps sys (merge g ≠ g.enterNewDisp (subshellOption k g ii ks) ∧ k ≠ 0) k _
        (fun hc hk => hc.1 (HK k g hgk hk)) fun hc => by rw [H k g hgk hc.2]; exact fun e => hc.1 e.symm)
      (ih hs' _ (fun k' g' h h0 => ?_) fun k' g' h hk => HK k' g' (hrest k' g' h).2 hk)
    rw [sysAfter_atSig_other _ _ _ _ (hrest k' g' h).1]
    exact H k' g' (hrest k' g' h).2 h0

theorem untouched_no_call (init : Disp) (g : GrandState) (hU : Untouched init (some g)) :
    merge g.clearParent = g.clearParent.enterNewDisp .clear := by
  obtain ⟨h1, h2, _⟩ := hU g rfl
  obtain ⟨⟨a, o, p⟩, par, i⟩ := g
  simp only at h1 h2
  subst h1
  have hnc := fromInitial_not_command init
  cases a with
  | command c => rw [← h2] at hnc; cases hnc
  | default => rfl
  | ignore => rfl

theorem setActionInstalls_good (st : State) (c : Nat) (a : Action) (ov : Bool)
    (hdisp : ∀ k g, get st.traps k = some g → k ≠ 0 → st.sys.disp k = merge g) :
    Good st.traps st.sys (setActionInstalls st c a ov) := by
  unfold setActionInstalls
  by_cases hk : IsKillStop c
  · rw [if_pos hk]; trivial
  · rw [if_neg hk, get_clearParents]
    cases hg : get st.traps c with
    | none => exact good_unknown _ _ c hg hk _
    | some g =>
      exact setActionCalls_good _ st.sys g.clearParent c a ov hk fun h0 => hdisp c g hg h0

/-- `T0` is the trap set before the sequence: a signal is touched once, so its entry is still the one of `T0` -/
theorem seqInstalls_good (init : Nat → Disp) (hinit : ∀ s, init s ≠ .catch) (T0 : TrapMap)
    (l : List (Nat × Disp)) (hnd : (l.map (·.1)).Nodup)
    (hks : ∀ p ∈ l, ¬ IsKillStop p.1 ∧ p.1 ≠ 0)
    (st : State) (hinv : Inv init st) (hT : ∀ p ∈ l, get st.traps p.1 = get T0 p.1) :
    Good T0 st.sys (seqInstalls st l) := by
  induction l generalizing st with
  | nil => trivial
  | cons p l ih =>
    obtain ⟨s, d⟩ := p
    have hs := hks (s, d) (List.mem_cons_self ..)
    have hget := hT (s, d) (List.mem_cons_self ..)
    simp only at hs hget
    simp only [List.map_cons, List.nodup_cons] at hnd
    refine good_append _ _ _ _ ?_ ?_
    · cases hg : get st.traps s with
      | some g =>
        exact setInternalCalls_good _ st.sys g s d hs.1 (hinv.disp_some hs.2 hg)
      | none => exact good_unknown T0 _ s (by rw [← hget, hg]) hs.1 _
    · rw [← setInternal_sys]
      refine ih hnd.2 (fun p hp => hks p (List.mem_cons_of_mem _ hp)) (setInternal st s d)
        (inv_setInternal init hinit st s d hinv) fun p hp => ?_
      have hne : p.1 ≠ s := fun h => hnd.1 (h ▸ List.mem_map_of_mem hp)
      rw [← hT p (List.mem_cons_of_mem _ hp)]
      show get (setOpt st.traps s _) p.1 = _
      rw [get_setOpt]; simp [hne]

theorem ignoreIfVacantInstalls_good (T0 : TrapMap) (st : State) (k : Nat) (hk : ¬ IsKillStop k)
    (hT : get st.traps k = none → get T0 k = none) : Good T0 st.sys (ignoreIfVacantInstalls st k) := by
  unfold ignoreIfVacantInstalls
  split
  · exact good_unknown T0 _ k (hT ‹_›) hk [.ignore]
  · trivial

theorem enterSubshellInstalls_good (init : Nat → Disp) (st : State) (hinv : Inv init st)
    (hU : ∀ k, IsKillStop k → Untouched (init k) (get st.traps k)) (ii ks : Bool) :
    Good st.traps st.sys (enterSubshellInstalls st ii ks) := by
  have H : ∀ k g, get (clearParents st.traps) k = some g → k ≠ 0 → st.sys.disp k = merge g := by
    intro k g hg h0
    obtain ⟨g0, hg0, rfl⟩ := Option.map_eq_some_iff.mp ((get_clearParents _ _).symm.trans hg)
    exact (hinv.disp_some h0 hg0 :)
  have HK : ∀ k g, get (clearParents st.traps) k = some g → IsKillStop k →
      merge g = g.enterNewDisp (subshellOption k g ii ks) := by
    intro k g hg hk
    obtain ⟨g0, hg0, rfl⟩ := Option.map_eq_some_iff.mp ((get_clearParents _ _).symm.trans hg)
    rw [subshellOption_killStop hk]
    exact untouched_no_call (init k) g0 (hg0 ▸ hU k hk)
  have hg := enterAllCalls_good st.traps ii ks _ (sorted_clearParents _ hinv.sorted) st.sys H HK
  have hvac : ∀ s, get (enterAll st.sys ii ks (clearParents st.traps)).2 s = none → get st.traps s = none := by
    intro s h
    rw [get_enterAll, get_clearParents] at h
    cases hs : get st.traps s with
    | none => rfl
    | some g => rw [hs] at h; simp at h
  unfold enterSubshellInstalls
  cases ii with
  | false => simpa using hg
  | true =>
    simp only [if_true]
    refine good_append _ _ _ _ hg ?_
    rw [← enterAll_sys]
    refine good_append _ _ _ _
      (ignoreIfVacantInstalls_good st.traps ⟨_, _⟩ SIGINT (by decide) (hvac SIGINT)) ?_
    rw [← ignoreIfVacant_sys ⟨_, _⟩ SIGINT]
    refine ignoreIfVacantInstalls_good st.traps _ SIGQUIT (by decide) fun h => hvac SIGQUIT ?_
    rwa [get_ignoreIfVacant, if_neg (fun h => absurd h.1 (by decide))] at h

/-- ★ the economy of a faultless history: in a state that satisfies `Inv`, with the entries of KILL/STOP untouched, no
    operation — also the multi-signal ones — re-installs what is installed for a signal the trap set knows, or touches
    KILL or STOP -/
theorem stepInstalls_good (init : Nat → Disp) (hinit : ∀ s, init s ≠ .catch) (st : State) (hinv : Inv init st)
    (hU : ∀ k, IsKillStop k → Untouched (init k) (get st.traps k)) (op : Op) :
    Good st.traps st.sys (stepInstalls st op) := by
  induction op using Op.shapes with
  | setAction c a o ov =>
    exact setActionInstalls_good st c a ov fun k g hg h0 => hinv.disp_some h0 hg
  | internal op l h =>
    rw [stepInstalls_internal h]
    exact seqInstalls_good init hinit st.traps l (internalOps_ok h).1 (internalOps_ok h).2 st hinv (fun _ _ => rfl)
  | enterSubshell ii ks => exact enterSubshellInstalls_good init st hinv hU ii ks
  | peek c => trivial
  | flags op h => rw [stepInstalls_flags h]; trivial

end YashModel.Trap
