/-
  C11 — property theorems about the system-call layer (and non-vacuity examples).  `Model.lean` assumes that the signal
  system calls never fail and does not say which calls are made; `Syscalls.lean` keeps every `?` of the code and records
  every primitive call.  Here: without faults it *is* `Model.lean` (so every theorem of `Theorems.lean` speaks about
  it), an occupied entry never causes a needless call, a reported system error leaves the entry untouched, an error is
  reported exactly when a call failed, what a fault can and cannot break, and the Spec verdicts of the `sc` leg never
  fire.
-/
import YashModel.Trap.SyscallLemmas
import YashModel.Trap.Theorems
namespace YashModel.Trap

/-- ★ Without faults the recording layer is `Model.lean`: for every history, from every inherited
    dispositions, the state reached over the recording system (with every `?` of the code in place)
    projects to the state `run` reaches, and no fault is pending afterwards.  Hence every theorem about
    `run` (`disposition_invariant`, `mask_iff_catch`, `initially_ignored_sticky`, …) holds of the layer the
    harness traces call by call. -/
theorem faultless_refines (init : Nat → Disp) (ops : List Op) :
    (runF (FState.init init []) ops).toState = run (State.init init) ops
    ∧ (runF (FState.init init []) ops).sys.plan = [] :=
  runF_nofault ops (FState.init init []) rfl

/-- … in particular the installed disposition over the recording system is the reference merge -/
theorem faultless_disposition_invariant (init : Nat → Disp) (hinit : ∀ s, init s ≠ .catch) (ops : List Op)
    (s : Nat) (hs : s ≠ 0) :
    let st := runF (FState.init init []) ops
    st.sys.sys.disp s = expected (get st.traps s) (init s)
    ∧ (st.sys.sys.blocked s = true ↔ st.sys.sys.disp s = .catch) := by
  intro st
  have h := (faultless_refines init ops).1
  have h1 := (inv_reachable init hinit ops)
  rw [← h] at h1
  refine ⟨h1.disp s hs, ?_⟩
  have := h1.sys.mask s
  simp only [FState.toState] at this
  rw [this]; simp only [beq_iff_eq]; exact Iff.rfl

/-- non-vacuity: a history with sixteen primitive system calls -/
example :
    let st := runF (FState.init (fun _ => .default) [])
      [.setAction SIGUSR1 (.command 1) 0 false, .enableTerminators, .enterSubshell true false]
    st.sys.log.length = 16 ∧ st.sys.sys.disp SIGINT = .ignore ∧ st.sys.sys.disp SIGUSR1 = .default := by
  decide +kernel

/-- ☆ `occupied_no_needless_syscall` (DESIGN.md; "system call issued only when the effective maximum
    changes"): for an entry the trap set knows (`some g`) whose installed disposition is the reference
    merge, `set_action`, `set_internal_disposition` and `enter_subshell` either make no call at all or
    exactly one `set_disposition`, and that one installs a disposition different from the installed one;
    the recorded calls are `mask+, sigaction(Catch)` or `sigaction(d), mask-`. -/
theorem occupied_no_needless_syscall (fs : FSys) (hp : fs.plan = []) (g : GrandState) (c : Nat)
    (hinst : fs.sys.disp c = g.internal.max g.current.action.toDisp) :
    (∀ a o ov, ∃ L, (GrandState.setActionF fs (some g) c a o ov).1.log = fs.log ++ L
        ∧ economical [(c, g)] L = true ∧ wellBracketed L = true ∧ L.length ≤ 2 ∧ ∀ x ∈ L, x.needless = false)
    ∧ (∀ d, ∃ L, (GrandState.setInternalF fs (some g) c d).1.log = fs.log ++ L
        ∧ wellBracketed L = true ∧ L.length ≤ 2 ∧ ∀ x ∈ L, x.needless = false)
    ∧ (∀ opt, ∃ L, (g.enterSubshellF fs c opt).1.log = fs.log ++ L
        ∧ wellBracketed L = true ∧ L.length ≤ 2 ∧ ∀ x ∈ L, x.needless = false) := by
  have hne : ∀ {d : Disp}, merge g ≠ d → d ≠ fs.sys.disp c := fun h e => h (by rw [e, hinst])
  refine ⟨fun a o ov => ?_, fun d => ?_, fun opt => ?_⟩
  · refine ⟨_, by rw [setActionF_eq, tryCalls_faultless fs hp]; rfl, ?_⟩
    unfold GrandState.setActionCalls
    simp only
    split
    · simp [atSig, callsOf, economical, wellBracketed]
    · obtain ⟨k1, k2, k3⟩ := callIf_record fs.sys (c ≠ 0 ∧ merge g ≠ g.internal.max a.toDisp) c _ (fun h => hne h.2)
      refine ⟨?_, k1, k2, k3⟩
      simp only [economical, List.all_eq_true, Bool.not_eq_true', Bool.and_eq_false_iff]
      exact fun x hx => .inl (k3 x hx)
  · exact ⟨_, by rw [setInternalF_eq, tryCalls_faultless fs hp]; rfl, callIf_record fs.sys _ c _ hne⟩
  · exact ⟨_, by rw [enterSubshellF_eq, tryCalls_faultless fs hp]; rfl,
      callIf_record fs.sys (merge g ≠ g.enterNewDisp opt ∧ c ≠ 0) c _ (fun h => hne h.1)⟩

/-- non-vacuity: replacing a command trap by `ignore` makes exactly the two calls `sigaction(Ignore)`,
    `mask-`; replacing it by another command makes none -/
example :
    let fs : FSys := { sys := { disp := fun _ => .catch, blocked := fun _ => true } }
    let g : GrandState := { current := { action := .command 1, origin := .user 0 } }
    (GrandState.setActionF fs (some g) SIGINT .ignore 1 false).1.log.length = 2
    ∧ (GrandState.setActionF fs (some g) SIGINT (.command 2) 1 false).1.log.length = 0 := by decide +kernel

/-- A system error is never recorded as success, whatever fails and whenever: if `set_action` reports
    `SystemError`, or `set_internal_disposition` returns `Err`, the entry is exactly what it was (a vacant
    one stays vacant) — for every fault plan and every state.  (`enter_subshell` is different by design of
    the code: it rewrites `current_state` before the call, see `fault_in_subshell_keeps_catch`.) -/
theorem system_error_leaves_entry (fs : FSys) (e : Option GrandState) (c : Nat) :
    (∀ a o ov, (GrandState.setActionF fs e c a o ov).2.2 = some .systemError →
        (GrandState.setActionF fs e c a o ov).2.1 = e)
    ∧ (∀ d, (GrandState.setInternalF fs e c d).2.2 = false → (GrandState.setInternalF fs e c d).2.1 = e)
    ∧ (∀ a o ov, (setActionF ⟨fs, []⟩ c a o ov).2 = some .systemError →
        (setActionF ⟨fs, []⟩ c a o ov).1.traps = []) := by
  refine ⟨fun a o ov => (setActionF_rec fs e c a o ov).2, fun d => (setInternalF_rec fs e c d).2, fun a o ov => ?_⟩
  by_cases hk : IsKillStop c
  · rw [setActionF_killStop _ c a o ov hk]; exact nofun
  · rw [setActionF_of_not_killStop _ c a o ov hk]
    intro h
    show setOpt [] c (GrandState.setActionF fs none c a o ov).2.1 = []
    rw [(setActionF_rec fs none c a o ov).2 h]; rfl

/-- non-vacuity: the second primitive call of `trap 'cmd' INT` fails -/
example :
    (setActionF (FState.init (fun _ => .default) [false, true]) SIGINT (.command 1) 0 false).2
      = some .systemError := by decide +kernel

/-- What a fault CAN break (a limit of the property, kept as a checked fact): in a shell that did NOT
    inherit SIGINT ignored, if the unblocking `sigmask` after the probing `sigaction(INT, Ignore)` of the
    first `trap 'cmd' INT` fails, the command reports a system error, the entry stays vacant, `Ignore`
    stays installed — and the *next* `trap 'cmd' INT` is refused as "ignored on entry", although it was
    not.  (Errno faults are outside the property's quantifier; the real code behaves the same: harness
    case `sc 01; set INT c1 0; set INT c1 0`.) -/
theorem fault_after_probe_strands_ignore :
    let st0 := FState.init (fun _ => .default) [false, true]
    let r1 := setActionF st0 SIGINT (.command 1) 0 false
    let r2 := setActionF r1.1 SIGINT (.command 1) 1 false
    r1.2 = some .systemError ∧ get r1.1.traps SIGINT = none ∧ r1.1.sys.sys.disp SIGINT = .ignore
    ∧ r2.2 = some (.base .initiallyIgnored) ∧ r2.1.sys.sys.disp SIGINT = .ignore := by decide +kernel

/-- … and in `enter_subshell`, whose errors are dropped by the code: if the `sigaction` that should reset
    a command trap fails, the subshell's entry says `Default` (origin `Subshell`) while `Catch` stays
    installed and the signal stays blocked — the internal disposition, not yet cleared, is kept too. -/
theorem fault_in_subshell_keeps_catch :
    let st0 := FState.init (fun _ => .default) [false, false, false, false, true]
    let st1 := stepF st0 (.setAction SIGUSR1 (.command 1) 0 false)
    let st2 := stepF st1 (.enterSubshell false false)
    (get st2.traps SIGUSR1).map (·.current.action) = some .default
    ∧ st2.sys.sys.disp SIGUSR1 = .catch ∧ st2.sys.sys.blocked SIGUSR1 = true := by decide +kernel

/-- ★ `faultless_calls_clean`.  For EVERY history without faults, from every inherited dispositions ∈ {Default, Ignore}, and
    every next operation — also the multi-signal ones: the six enable/disable sequences, `enter_subshell` with
    its loop over the whole trap set and the trailing SIGINT/SIGQUIT loop —: the calls the operation makes
    never re-install the installed disposition of a signal the trap set knows (`economical`), never touch KILL
    or STOP (`sparesKillStop`), come as `mask+, sigaction(Catch)` / `sigaction(d), mask-` (`wellBracketed`; a
    `get_sigaction` of `peek` apart), and none fails. -/
theorem faultless_calls_clean (init : Nat → Disp) (hinit : ∀ s, init s ≠ .catch) (ops : List Op) (op : Op) :
    let st := runF (FState.init init []) ops
    economical st.traps (newCalls st (stepF st op)) = true
    ∧ sparesKillStop (newCalls st (stepF st op)) = true
    ∧ wellBracketed (writes (newCalls st (stepF st op))) = true
    ∧ anyFailed (newCalls st (stepF st op)) = false := by
  intro st
  have href := faultless_refines init ops
  refine calls_clean_of_inv init hinit st href.2 (href.1 ▸ inv_reachable init hinit ops) (fun k hk => ?_) op
  have := untouched_run init hinit k hk ops _ (inv_init_state init hinit) (untouched_none _)
  rw [← href.1] at this; exact this

/-- ★ `system_error_reported_iff_call_failed`.  For EVERY state of the recording layer — any trap set, any system, any
    fault plan — and every operation of the history alphabet: the record only grows, and `set_action`
    reports `SystemError` / an enable-disable function returns `Err` exactly when one of the primitive
    calls (`sigmask`, `sigaction`) the operation made has failed.  In particular no failed call is
    swallowed by these operations (`enter_subshell` drops errors by design and reports nothing), and an
    error is never reported without a failed call. -/
theorem system_error_reported_iff_call_failed (st : FState) (op : Op) :
    honest (resultF st op) (newCalls st (stepF st op)) = true
    ∧ ∃ L, (stepF st op).sys.log = st.sys.log ++ L := by
  exact ⟨honest_step st op, log_grows st op⟩

/-- `peek_state` (`trap -p`) whose `get_disposition` fails: the error is
    returned, no entry is inserted, and neither the trap set nor the system changes — for every state and
    fault plan; a successful peek never changes the system either (it only reads). -/
theorem peek_error_changes_nothing (st : FState) (c : Nat) :
    ((peekStateF st c).2 = none →
        (peekStateF st c).1.traps = st.traps ∧ get st.traps c = none ∧ c ≠ 0)
    ∧ (peekStateF st c).1.sys.sys = st.sys.sys := by
  have hins : ∀ (fs : FSys) (e : Option GrandState),
      ((GrandState.insertFromSystemIfVacantF fs e c).2 = none → e = none ∧ c ≠ 0)
      ∧ (GrandState.insertFromSystemIfVacantF fs e c).1.sys = fs.sys := by
    intro fs e
    rw [insertF_eq]
    split
    · rename_i hv; cases (fs.getDisposition c).1 <;> simp [getDisposition_sys, hv]
    · simp
  have h := hins st.sys (get st.traps c)
  unfold peekStateF
  simp only
  cases h2 : (GrandState.insertFromSystemIfVacantF st.sys (get st.traps c) c).2 with
  | none => exact ⟨fun _ => ⟨rfl, h.1 h2⟩, h.2⟩
  | some g => exact ⟨fun hh => by simp at hh, h.2⟩

/-- non-vacuity: the first `trap -p INT` fails, the second succeeds and records the inherited `Ignore` -/
example :
    let st := FState.init (fun s => if s = SIGINT then .ignore else .default) [true]
    (peekStateF st SIGINT).2 = none
    ∧ ((peekStateF (peekStateF st SIGINT).1 SIGINT).2.map (·.action)) = some .ignore := by decide +kernel

/-- non-vacuity: `enable_internal_dispositions_for_terminators` whose fourth primitive call (the
    `sigaction(TERM, Ignore)`) fails: three calls succeeded, the fourth is recorded as failed, no fifth
    is made, and `Err` is returned -/
example :
    let st := FState.init (fun _ => .default) [false, false, true]
    (newCalls st (stepF st .enableTerminators)).map (·.ok) = [true, true, false]
    ∧ resultF st .enableTerminators = .ok false := by decide +kernel

/-- … and over the recording layer when no call fails (the `state:` clause of `scViolation`) -/
theorem spec_check_never_fires_faultless (init : Nat → Disp) (hinit : ∀ s, init s ≠ .catch) (ops : List Op) :
    specCheck init (runF (FState.init init []) ops).toState = none := by
  rw [(faultless_refines init ops).1]
  exact spec_check_never_fires init hinit ops

/-- ★ `sc_verdict_never_fires` — the whole Spec verdict of the `sc` leg (`scViolation`: KILL/STOP spared,
    error reported iff a call failed, no needless call, bracket order, state predicate) is `none` for every
    operation after every faultless history: all five clauses are theorems about the model, the per-case
    evaluation can only fire when the model is changed (or a fault is injected: then only `honest` and
    `sparesKillStop` are demanded, and `honest` is proved for every fault plan). -/
theorem sc_verdict_never_fires (init : Nat → Disp) (hinit : ∀ s, init s ≠ .catch) (ops : List Op) (op : Op) :
    let st := runF (FState.init init []) ops
    scViolation init false st (stepF st op) (resultF st op) = none := by
  intro st
  obtain ⟨h1, h2, h3, h4⟩ :
      economical st.traps (newCalls st (stepF st op)) = true
      ∧ sparesKillStop (newCalls st (stepF st op)) = true
      ∧ wellBracketed (writes (newCalls st (stepF st op))) = true
      ∧ anyFailed (newCalls st (stepF st op)) = false := faultless_calls_clean init hinit ops op
  have h5 := honest_step st op
  have h6 : specCheck init (stepF st op).toState = none := by
    have := spec_check_never_fires_faultless init hinit (ops ++ [op])
    rwa [runF_snoc] at this
  unfold scViolation
  simp only [h2, h5, h4, h1, h3, h6, Bool.not_true, Bool.false_eq_true, if_false, Bool.or_false, Option.map_none]

/-- non-vacuity: an asynchronous list entered from an interactive shell with a command trap and a peeked
    signal — six calls, verdict clean -/
example :
    let ops : List Op := [.enableTerminators, .setAction SIGUSR1 (.command 1) 0 false, .peek SIGKILL, .enableChld]
    let st := runF (FState.init (fun _ => .default) []) ops
    (newCalls st (stepF st (.enterSubshell true false))).length = 6
    ∧ scViolation (fun _ => .default) false st (stepF st (.enterSubshell true false))
        (resultF st (.enterSubshell true false)) = none := by decide +kernel

end YashModel.Trap
