/-
  The constants and tables of the signal code as re-extracted from /repo on every run
  (`YashModel.Generated.TrapTables`, written by tools/tables/trap.py) put in the form in which the
  hand-transcribed model uses them.  The `tables_*` theorems of TablesTheorems.lean state that the model's
  hand-typed constants (`SIGINT … SIGUSR1`, `Builtin.signalTable`, `Builtin.defaultEffect`,
  `Disp.rank`, `Divert.rank`, the six enable/disable operations) agree with them.
  Import-free apart from the model and the generated file; executable.
-/
import YashModel.Trap.Builtin
import YashModel.Generated.TrapTables
namespace YashModel.Trap
open YashModel.Generated

/-- number of `pub const <name>: Number` in `system/virtual/signal.rs` -/
def genNumber (name : String) : Option Nat :=
  (TrapTables.signalConsts.find? (·.1 == name)).map (·.2)

/-- decimal digits of a one- or two-digit offset (real-time ranges are short) -/
def smallNat (n : Nat) : String :=
  let d (k : Nat) : String := String.singleton (Char.ofNat (48 + k))
  if n < 10 then d n else d (n / 10 % 10) ++ d (n % 10)

/-- the real-time arm of `Name::try_from_raw_virtual` (`incr <= -decr` chooses `Rtmin(incr)`, else
    `Rtmax(decr)`) followed by `Name::as_string` (`RTMIN`, `RTMAX`, `RTMIN+n`, `RTMAX-n`) -/
def rtName (lo hi n : Nat) : String :=
  let incr := n - lo
  let decr := hi - n
  if incr ≤ decr then (if incr = 0 then "RTMIN" else "RTMIN+" ++ smallNat incr)
  else (if decr = 0 then "RTMAX" else "RTMAX-" ++ smallNat decr)

/-- `Name` variant of a signal number (`try_from_raw_virtual`) -/
def genVariant (n : Nat) : Option String :=
  match TrapTables.numberToVariant.find? (·.1 == n) with
  | some p => some p.2
  | none =>
    if TrapTables.rtMin ≤ n ∧ n ≤ TrapTables.rtMax then
      some (if n - TrapTables.rtMin ≤ TrapTables.rtMax - n then "Rtmin" else "Rtmax")
    else none

/-- `sig2str`: the name of a valid signal number -/
def genName (n : Nat) : Option String :=
  match TrapTables.numberToVariant.find? (·.1 == n) with
  | some p => (TrapTables.variantString.find? (·.1 == p.2)).map (·.2)
  | none =>
    if TrapTables.rtMin ≤ n ∧ n ≤ TrapTables.rtMax then some (rtName TrapTables.rtMin TrapTables.rtMax n)
    else none

/-- every valid signal number with its name, in ascending order (= `Condition::iter` without `Exit`) -/
def genSignalTable : List (Nat × String) :=
  (List.range (TrapTables.rtMax + 1)).filterMap fun n => (genName n).map fun s => (n, s)

def Effect.code : Effect → Nat
  | .none => 0 | .terminate => 1 | .suspend => 2 | .resume => 3

/-- `SignalEffect::of(name of n)` as a code -/
def genEffect (n : Nat) : Option Nat :=
  (genVariant n).bind fun v => (TrapTables.variantEffect.find? (·.1 == v)).map (·.2)

def Disp.name : Disp → String
  | .default => "Default" | .ignore => "Ignore" | .catch => "Catch"

def parseDispName (s : String) : Disp :=
  if s == "Catch" then .catch else if s == "Ignore" then .ignore else .default

def Divert.variantName : Divert → List String
  | .other => ["Continue", "Break"]
  | .ret _ => ["Return"]
  | .interrupt _ => ["Interrupt"]
  | .exit _ => ["Exit"]
  | .abort _ => ["Abort"]

/-- the `set_internal_disposition` calls of one of the six enable/disable functions of `trap.rs`,
    applied in order -/
def genInternal (fn : String) (st : State) : State :=
  match TrapTables.internalOps.find? (·.1 == fn) with
  | some p => p.2.foldl (fun st q => setInternal st q.1 (parseDispName q.2)) st
  | none => st

/-! ## wave 3: the option selection of `TrapSet::enter_subshell`, `stack::Frame`, `in_trap` -/

def parseSubOpt (s : String) : SubOpt :=
  if s == "KeepInternalDisposition" then .keep else if s == "Ignore" then .ignore else .clear

/-- a flag of a generated row: 0 / 1 = the first / second `bool` parameter of `enter_subshell`,
    2 = `state.internal_disposition() != Disposition::Default` -/
def subFlag (g : GrandState) (ii ks : Bool) (k : Nat) : Bool :=
  if k = 0 then ii else if k = 1 then ks else g.internal != .default

/-- the generated rows with their option parsed -/
def genSubshellRows : List (List Nat × List Nat × SubOpt) :=
  TrapTables.subshellRules.map fun r => (r.1, r.2.1, parseSubOpt r.2.2)

/-- the `if … else if … else` chain of the `Condition::Signal` arm, row by row -/
def genSubshellChain (cond : Nat) (g : GrandState) (ii ks : Bool) (els : SubOpt) :
    List (List Nat × List Nat × SubOpt) → SubOpt
  | [] => els
  | (sigs, flags, opt) :: rest =>
    if sigs.contains cond && flags.all (subFlag g ii ks) then opt
    else genSubshellChain cond g ii ks els rest

/-- `let option = match cond { Exit => …, Signal(signal) => if … }` as the generated tables say -/
def genSubshellOption (cond : Nat) (g : GrandState) (ii ks : Bool) : SubOpt :=
  if cond = 0 then parseSubOpt TrapTables.subshellExit
  else genSubshellChain cond g ii ks (parseSubOpt TrapTables.subshellElse) genSubshellRows

/-- the trailing `if <flag> { for signal in [..] { Vacant => GrandState::ignore } }` -/
def genSubshellTrailing (st : State) (ii ks : Bool) : State :=
  if (if TrapTables.subshellTrailing.2 = 0 then ii else ks) then
    TrapTables.subshellTrailing.1.foldl ignoreIfVacant st
  else st

def Frame.variant : Frame → String
  | .loop => "Loop" | .subshell => "Subshell" | .condition => "Condition" | .builtin => "Builtin"
  | .dotScript => "DotScript" | .trap _ => "Trap" | .initFile => "InitFile"

/-- one frame of every variant, in the model's declaration order -/
def Frame.samples : List Frame := [.loop, .subshell, .condition, .builtin, .dotScript, .trap 0, .initFile]

end YashModel.Trap
