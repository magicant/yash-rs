/-
  What a successful `perform` left on its target, for every oracle: the description `Overwrote` (Perform.lean) names
  (`perform_file_opened`, `perform_heredoc_world`), hence — forgetting the worlds — the declarative `Meaning` of
  Spec.lean (`perform_target_meaning`).
-/
import YashModel.Redir.Spec
import YashModel.Redir.Perform
namespace YashModel.Redir
open YashModel.Generated.RedirConsts

variable {W : Type}

theorem plainArgs_posix (op : FileOp) : plainArgs op = posixOpenArgs op := by cases op <;> rfl

theorem perform_target_meaning (o : Oracle W) (w : W) (t : FdTable) (r : Redir) (s : SavedFd)
    (h : (perform o w t r).r = .ok s) : Meaning o t r ((perform o w t r).t.get r.fd) := by
  obtain ⟨tfd, body⟩ := r
  obtain ⟨w', t', hsave, tp, spec, hh, hent⟩ := perform_ok_overwrote h
  simp only at hh hent ⊢
  rw [hent]
  have file : ∀ {w0 op path}, (∃ ofd fd, spec = .owned fd ∧ t'.get fd = none ∧ t'.inLimit fd = true ∧
        tp = t'.put fd (some ⟨ofd, false⟩) ∧ OpenedBy o w0 op path (perform o w t ⟨tfd, body⟩).w ofd) →
      ∃ w1 w2 args ofd, o.resolve w1 ⟨path, args⟩ = (w2, .ok ofd) ∧ spec.asFd.bind tp.get = some ⟨ofd, false⟩ ∧
        (args = posixOpenArgs op ∨ (op = .fileOut ∧ (∃ w0, o.noclobber w0 = true) ∧ NoclobberOpen o w2 args ofd)) := by
    rintro w0 op path ⟨ofd, fd, rfl, _, _, rfl, hob⟩
    have he : (FdSpec.owned fd).asFd.bind (t'.put fd (some ⟨ofd, false⟩)).get = some ⟨ofd, false⟩ := by simp [FdSpec.asFd]
    rcases hob with ⟨_, hres⟩ | ⟨hop, hn, hres | ⟨w1, h1, hres, hreg⟩⟩
    · exact ⟨_, _, _, ofd, hres, he, .inl (plainArgs_posix op)⟩
    · exact ⟨_, _, _, ofd, hres, he, .inr ⟨hop, ⟨w0, hn⟩, .inl rfl⟩⟩
    · exact ⟨_, _, _, ofd, hres, he, .inr ⟨hop, ⟨w0, hn⟩, .inr ⟨rfl, hreg⟩⟩⟩
  unfold Meaning
  cases body with
  | file op path => exact file hh
  | fileCs op path st => exact file hh
  | hereDoc content =>
    obtain ⟨fd, rfl, _, _, rfl, _⟩ := hh
    exact ⟨w', by simp [FdSpec.asFd]⟩
  | dup input src =>
    cases src with
    | closeIt => obtain ⟨rfl, rfl, _⟩ := hh; rfl
    | fd n =>
      obtain ⟨e, hg, hc, hacc, rfl, rfl, _⟩ := hh
      obtain ⟨ofd, _⟩ := e; cases hc
      exact ⟨_, hsave.get_plain hg rfl, hg, w', hacc⟩
    | _ => exact hh
  | _ => exact hh

theorem perform_file_opened (o : Oracle W) (w : W) (t : FdTable) (fd : Fd) (op : FileOp) (path : Nat) (s : SavedFd)
    (b : Body) (hb : b = .file op path ∨ ∃ st, b = .fileCs op path st) (h : (perform o w t ⟨fd, b⟩).r = .ok s) :
    ∃ w' w0 ofd, (w' = w ∨ w' = (o.deny w).1) ∧ (w0 = w' ∨ (b ≠ .file op path ∧ w0 = (o.deny w').1)) ∧
      OpenedBy o w0 op path (perform o w t ⟨fd, b⟩).w ofd ∧ (perform o w t ⟨fd, b⟩).t.get fd = some ⟨ofd, false⟩ := by
  obtain ⟨w', t', hsave, tp, spec, hh, hent⟩ := perform_ok_overwrote h
  have hw' := hsave.world
  simp only at hh hent
  rw [hent]
  rcases hb with rfl | ⟨st, rfl⟩ <;> obtain ⟨ofd, fd0, rfl, _, _, rfl, hob⟩ := hh
  · exact ⟨w', w', ofd, hw', .inl rfl, hob, by simp [FdSpec.asFd]⟩
  · exact ⟨w', _, ofd, hw', .inr ⟨nofun, rfl⟩, hob, by simp [FdSpec.asFd]⟩

theorem perform_heredoc_world (o : Oracle W) (w : W) (t : FdTable) (fd : Fd) (content : List Nat)
    (s : SavedFd) (h : (perform o w t ⟨fd, .hereDoc content⟩).r = .ok s) :
    ∃ w', (w' = w ∨ w' = (o.deny w).1) ∧
      (perform o w t ⟨fd, .hereDoc content⟩).w = (o.fill (o.deny (o.tmpfile w').1).1 (o.tmpfile w').2 content).1 ∧
      (o.fill (o.deny (o.tmpfile w').1).1 (o.tmpfile w').2 content).2 = true ∧
      (perform o w t ⟨fd, .hereDoc content⟩).t.get fd = some ⟨(o.tmpfile w').2, false⟩ := by
  obtain ⟨w', t', hsave, tp, spec, hh, hent⟩ := perform_ok_overwrote h
  obtain ⟨fd0, rfl, _, _, rfl, hwf, hfill⟩ := hh
  exact ⟨w', hsave.world, hwf, hfill, hent.trans (by simp [FdSpec.asFd])⟩

end YashModel.Redir
