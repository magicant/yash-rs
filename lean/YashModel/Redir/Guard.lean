/-
  C09: the guard's loops (`perform_redirs`, `undo_redirs`, `preserve_redirs`), for every oracle.  First what one
  `undoOne` / `undo_redirs` / `preserve_redirs` does to any table (same finite map, `WF`, CLOEXEC, which slots);
  then `perform_redirs`: what it does to the table is the relation `Guarded` (a chain of `PerformOK` steps;
  `performRedirs_guarded`), and frames, CLOEXEC, the saved copies and `undo_redirs` run on a table the command body has
  changed (`Guarded.undo`) are proved of the relation; last `performSteps`, the states after each `perform_redir`.
-/
import YashModel.Redir.Perform
namespace YashModel.Redir
open YashModel.Generated.RedirConsts

variable {W : Type}

theorem Equiv.undoOne {a b : FdTable} (h : Equiv a b) (s : SavedFd) : Equiv (undoOne a s) (undoOne b s) := by
  unfold YashModel.Redir.undoOne
  cases s.save with
  | none => exact h.put _ _
  | some sv =>
    simp only
    rw [FdTable.dup2_getD, FdTable.dup2_getD, h.2 sv, inLimit_congr h.1]
    cases b.get sv with
    | none => exact h.put _ _
    | some e =>
      simp only
      split
      · exact (h.put _ _).put _ _
      · exact h.put _ _

theorem WF.undoOne {t : FdTable} (h : WF t) (s : SavedFd) : WF (undoOne t s) := by
  unfold YashModel.Redir.undoOne
  cases s.save with
  | none => exact h.put_none _
  | some sv =>
    simp only
    rw [FdTable.dup2_getD]
    apply WF.put_none
    cases t.get sv with
    | none => exact h
    | some e =>
      simp only
      split
      · next hc => exact h.put_some _ _ hc.2
      · exact h

theorem dup2_cloexec (t : FdTable) (src dst fd : Fd) (h : ((t.dup2 src dst).getD t).isCloexec fd = true) :
    t.isCloexec fd = true := by
  rw [FdTable.dup2_getD] at h
  cases hg : t.get src with
  | none => rw [hg] at h; exact h
  | some e =>
    rw [hg] at h
    simp only at h
    split at h
    · by_cases hfd : fd = dst
      · rw [hfd, isCloexec_of_get (e := ⟨e.ofd, false⟩) (by simp)] at h; cases h
      · rwa [isCloexec_put_ne _ _ _ _ hfd] at h
    · exact h

theorem undoOne_cloexec (t : FdTable) (s : SavedFd) (fd : Fd) (h : (undoOne t s).isCloexec fd = true) :
    t.isCloexec fd = true ∧ s.save ≠ some fd := by
  unfold undoOne at h
  cases hs : s.save with
  | none =>
    rw [hs] at h
    exact ⟨((isCloexec_close ..).mp h).2, nofun⟩
  | some sv =>
    rw [hs] at h
    obtain ⟨h1, h2⟩ := (isCloexec_close ..).mp h
    exact ⟨dup2_cloexec t sv s.original fd h2, fun e => h1 (Option.some.inj e).symm⟩

theorem undoRedirs_nil (t : FdTable) : undoRedirs t [] = t := rfl

/-- reverse order: the later records are undone first -/
theorem undoRedirs_cons (t : FdTable) (s : SavedFd) (ss : List SavedFd) :
    undoRedirs t (s :: ss) = undoOne (undoRedirs t ss) s := by
  simp [undoRedirs, List.foldl_append]

theorem Equiv.undoRedirs {a b : FdTable} (h : Equiv a b) (ss : List SavedFd) :
    Equiv (undoRedirs a ss) (undoRedirs b ss) := by
  induction ss with
  | nil => exact h
  | cons s ss ih => rw [undoRedirs_cons, undoRedirs_cons]; exact ih.undoOne s

theorem WF.undoRedirs {t : FdTable} (h : WF t) (ss : List SavedFd) : WF (undoRedirs t ss) := by
  induction ss with
  | nil => exact h
  | cons s ss ih => rw [undoRedirs_cons]; exact ih.undoOne s

theorem undoRedirs_cloexec (t : FdTable) (ss : List SavedFd) (fd : Fd) (h : (undoRedirs t ss).isCloexec fd = true) :
    t.isCloexec fd = true ∧ ∀ s ∈ ss, s.save ≠ some fd := by
  induction ss with
  | nil => exact ⟨h, fun _ hs => by cases hs⟩
  | cons s ss ih =>
    rw [undoRedirs_cons] at h
    obtain ⟨h1, h2⟩ := undoOne_cloexec _ s fd h
    obtain ⟨h3, h4⟩ := ih h1
    exact ⟨h3, fun s' hs' => (List.mem_cons.mp hs').elim (fun e => e ▸ h2) (h4 s')⟩

theorem preserveRedirs_cons (t : FdTable) (s : SavedFd) (ss : List SavedFd) :
    preserveRedirs t (s :: ss) = preserveRedirs (preserveOne t s) ss := rfl

theorem preserveOne_get (t : FdTable) (s : SavedFd) (fd : Fd) :
    (preserveOne t s).get fd = if s.save = some fd then none else t.get fd := by
  unfold preserveOne
  cases hs : s.save with
  | none => simp
  | some sv =>
    simp only [FdTable.get_close, FdTable.get_put, Option.some.injEq]
    by_cases h : fd = sv
    · simp [h]
    · simp [h, Ne.symm h]

theorem preserveRedirs_limit (t : FdTable) (ss : List SavedFd) : (preserveRedirs t ss).limit = t.limit := by
  induction ss generalizing t with
  | nil => rfl
  | cons s ss ih =>
    rw [preserveRedirs_cons, ih]
    unfold preserveOne
    cases s.save <;> rfl

theorem preserveRedirs_none (t : FdTable) (ss : List SavedFd) (fd : Fd) (h : t.get fd = none) :
    (preserveRedirs t ss).get fd = none := by
  induction ss generalizing t with
  | nil => exact h
  | cons s ss ih =>
    rw [preserveRedirs_cons]
    apply ih
    rw [preserveOne_get]; split <;> simp [h]

theorem preserveRedirs_not_save (t : FdTable) (ss : List SavedFd) (fd : Fd)
    (h : ∀ s ∈ ss, s.save ≠ some fd) : (preserveRedirs t ss).get fd = t.get fd := by
  induction ss generalizing t with
  | nil => rfl
  | cons s ss ih =>
    rw [preserveRedirs_cons, ih _ (fun s' hs' => h s' (List.mem_cons_of_mem _ hs')), preserveOne_get]
    simp [h s (List.mem_cons_self ..)]

theorem preserveRedirs_save (t : FdTable) (ss : List SavedFd) (fd : Fd)
    (h : ∃ s ∈ ss, s.save = some fd) : (preserveRedirs t ss).get fd = none := by
  induction ss generalizing t with
  | nil => obtain ⟨s, hs, _⟩ := h; cases hs
  | cons s ss ih =>
    rw [preserveRedirs_cons]
    by_cases hs : s.save = some fd
    · apply preserveRedirs_none
      rw [preserveOne_get]; simp [hs]
    · obtain ⟨s', hs', hsv⟩ := h
      rcases List.mem_cons.mp hs' with heq | hmem
      · subst heq; exact absurd hsv hs
      · exact ih _ ⟨s', hmem, hsv⟩

theorem preserveRedirs_get (t : FdTable) (ss : List SavedFd) (fd : Fd) :
    (preserveRedirs t ss).get fd = none ∨
      ((∀ s ∈ ss, s.save ≠ some fd) ∧ (preserveRedirs t ss).get fd = t.get fd) := by
  by_cases hs : ∃ s ∈ ss, s.save = some fd
  · exact .inl (preserveRedirs_save _ _ _ hs)
  · have hns : ∀ s ∈ ss, s.save ≠ some fd := fun s hs' he => hs ⟨s, hs', he⟩
    exact .inr ⟨hns, preserveRedirs_not_save _ _ _ hns⟩

theorem WF.preserveOne {t : FdTable} (h : WF t) (s : SavedFd) : WF (preserveOne t s) := by
  unfold YashModel.Redir.preserveOne
  cases s.save with
  | none => exact h
  | some sv => exact h.put_none _

theorem WF.preserveRedirs {t : FdTable} (h : WF t) (ss : List SavedFd) : WF (preserveRedirs t ss) := by
  induction ss generalizing t with
  | nil => exact h
  | cons s ss ih => rw [preserveRedirs_cons]; exact ih (h.preserveOne s)

theorem performRedirs_nil (o : Oracle W) (w : W) (t : FdTable) :
    performRedirs o w t [] = { w := w, t := t, saved := [], err := none } := rfl

theorem performRedirs_cons_err (o : Oracle W) (w : W) (t : FdTable) (r : Redir) (rs : List Redir) (e : ErrCause)
    (h : (perform o w t r).r = .error e) :
    performRedirs o w t (r :: rs) =
      { w := (perform o w t r).w, t := (perform o w t r).t, saved := [], err := some e } := by
  simp [performRedirs, h]

theorem performRedirs_cons_ok (o : Oracle W) (w : W) (t : FdTable) (r : Redir) (rs : List Redir) (s : SavedFd)
    (h : (perform o w t r).r = .ok s) :
    performRedirs o w t (r :: rs) =
      { w := (performRedirs o (perform o w t r).w (perform o w t r).t rs).w,
        t := (performRedirs o (perform o w t r).w (perform o w t r).t rs).t,
        saved := s :: (performRedirs o (perform o w t r).w (perform o w t r).t rs).saved,
        err := (performRedirs o (perform o w t r).w (perform o w t r).t rs).err } := by
  simp [performRedirs, h]

/-- a reflexive and transitive relation between states that every `perform` respects — failing or not — holds
    between the state a list starts from and the state it ends in -/
theorem performRedirs_rel {Rel : W → FdTable → W → FdTable → Prop} (o : Oracle W)
    (refl : ∀ w t, Rel w t w t) (trans : ∀ {w t w1 t1 w2 t2}, Rel w t w1 t1 → Rel w1 t1 w2 t2 → Rel w t w2 t2)
    (step : ∀ w t r, Rel w t (perform o w t r).w (perform o w t r).t) (w : W) (t : FdTable) (rs : List Redir) :
    Rel w t (performRedirs o w t rs).w (performRedirs o w t rs).t := by
  induction rs generalizing w t with
  | nil => exact refl w t
  | cons r rs ih =>
    cases hp : (perform o w t r).r with
    | error e => rw [performRedirs_cons_err o w t r rs e hp]; exact step w t r
    | ok s => rw [performRedirs_cons_ok o w t r rs s hp]; exact trans (step w t r) (ih _ _)

/-- descriptors a guard's `saved_fds` speak of: the targets it changed and the slots of its saved copies -/
def Touched (ss : List SavedFd) (fd : Fd) : Prop := ∃ s ∈ ss, s.original = fd ∨ s.save = some fd

/-- `ss` are the records of a guard that started at table `t`, went through a prefix of `rs`, and stands at
    `t'`: each record is that of a successful `perform` (`PerformOK`), and what came after the last of them
    (nothing, or a `perform` that failed) left the same finite map.  Neither oracle nor world occurs: what
    the guard does to the table is proved of this relation. -/
inductive Guarded : FdTable → List Redir → List SavedFd → FdTable → Prop
  | stop {t t' : FdTable} (rs : List Redir) : Equiv t' t → Guarded t rs [] t'
  | step {t t1 t' : FdTable} {r : Redir} {s : SavedFd} {rs : List Redir} {ss : List SavedFd} :
      PerformOK t t1 r s → Guarded t1 rs ss t' → Guarded t (r :: rs) (s :: ss) t'

theorem performRedirs_guarded (o : Oracle W) (w : W) (t : FdTable) (rs : List Redir) :
    Guarded t rs (performRedirs o w t rs).saved (performRedirs o w t rs).t := by
  induction rs generalizing w t with
  | nil => exact .stop [] (Equiv.refl t)
  | cons r rs ih =>
    cases hp : (perform o w t r).r with
    | error e => rw [performRedirs_cons_err o w t r rs e hp]; exact .stop _ (perform_err_equiv hp)
    | ok s => rw [performRedirs_cons_ok o w t r rs s hp]; exact .step (perform_ok_spec hp) (ih _ _)

theorem not_touched_nil (fd : Fd) : ¬ Touched [] fd := fun ⟨_, hs, _⟩ => by cases hs

theorem touched_cons {s : SavedFd} {ss : List SavedFd} {fd : Fd} :
    Touched (s :: ss) fd ↔ (s.original = fd ∨ s.save = some fd) ∨ Touched ss fd := by
  simp [Touched]

/-- `Guarded.undo` for one record -/
theorem undoOne_perform {t t1 U : FdTable} {r : Redir} {s : SavedFd} (hp : PerformOK t t1 r s) (hw : WF t)
    (hl : U.limit = t.limit) (hU : ∀ sv, s.save = some sv → U.get sv = t1.get sv) :
    (undoOne U s).limit = t.limit ∧
    ∀ fd, (undoOne U s).get fd = if fd = r.fd ∨ s.save = some fd then t.get fd else U.get fd := by
  cases hsv : s.save with
  | none =>
    have hone : undoOne U s = U.close r.fd := by simp [undoOne, hsv, hp.original]
    rw [hone]
    refine ⟨hl, fun fd => ?_⟩
    simp only [FdTable.get_close, reduceCtorEq, or_false]
    split
    · next h => rw [h, (hp.none_case hsv).1]
    · rfl
  | some sv =>
    obtain ⟨e, hg, hcl, _, hne, hfree, ht1sv, _⟩ := hp.saved_copy hsv
    have hlim : U.inLimit r.fd = true := by rw [inLimit_congr hl]; exact hw r.fd e hg
    have hone : undoOne U s = (U.put r.fd (some ⟨e.ofd, false⟩)).close sv := by
      simp [undoOne, hsv, hp.original, FdTable.dup2_of_get ((hU sv hsv).trans ht1sv) hne, hlim]
    rw [hone]
    refine ⟨hl, fun fd => ?_⟩
    simp only [FdTable.get_close, FdTable.get_put, Option.some.injEq]
    by_cases h1 : fd = sv
    · subst h1; simp [hfree]
    · by_cases h2 : fd = r.fd
      · subst h2; rw [if_neg h1, if_pos rfl, if_pos (.inl rfl), hg]; cases e; cases hcl; rfl
      · rw [if_neg h1, if_neg h2, if_neg (by rintro (h | h); exact h2 h; exact h1 h.symm)]

namespace Guarded
variable {t t' : FdTable} {rs : List Redir} {ss : List SavedFd}

theorem limit (h : Guarded t rs ss t') : t'.limit = t.limit := by
  induction h with
  | stop _ he => exact he.1
  | step hp _ ih => exact ih.trans hp.limit

theorem wf (h : Guarded t rs ss t') (hw : WF t) : WF t' := by
  induction h with
  | stop _ he => exact WF.congr he hw
  | step hp _ ih => exact ih (hp.wf hw)

theorem frame (h : Guarded t rs ss t') {fd : Fd} (hnt : ¬ Touched ss fd) : t'.get fd = t.get fd := by
  induction h with
  | stop _ he => exact he.2 fd
  | step hp _ ih =>
    rw [touched_cons, hp.original, not_or, not_or] at hnt
    rw [ih hnt.2]; exact hp.frame (Ne.symm hnt.1.1) hnt.1.2

theorem targets (h : Guarded t rs ss t') : ∀ s ∈ ss, ∃ r ∈ rs, r.fd = s.original := by
  induction h with
  | stop _ _ => intro s hs; cases hs
  | step hp _ ih =>
    intro s hs
    rcases List.mem_cons.mp hs with rfl | hm
    · exact ⟨_, List.mem_cons_self .., hp.original.symm⟩
    · obtain ⟨r, hr, e⟩ := ih s hm; exact ⟨r, List.mem_cons_of_mem _ hr, e⟩

theorem frame_unnamed (h : Guarded t rs ss t') {fd : Fd} (hnt : ∀ r ∈ rs, r.fd ≠ fd) (hns : ∀ s ∈ ss, s.save ≠ some fd) :
    t'.get fd = t.get fd :=
  h.frame fun ⟨s, hs, hor⟩ => hor.elim
    (fun e => by obtain ⟨r, hr, e'⟩ := h.targets s hs; exact hnt r hr (e'.trans e)) (hns s hs)

theorem keeps_cloexec (h : Guarded t rs ss t') {x : Fd} (hx : t.isCloexec x = true) :
    ¬ Touched ss x ∧ t'.get x = t.get x := by
  induction h with
  | stop _ he => exact ⟨not_touched_nil x, he.2 x⟩
  | @step t t1 t' r s rs ss hp _ ih =>
    have h1 : x ≠ r.fd := fun e => by rw [e, hp.target_plain] at hx; cases hx
    have h2 : s.save ≠ some x := fun e => by
      obtain ⟨_, _, _, _, _, hfree, _⟩ := hp.saved_copy e
      rw [isCloexec_of_none hfree] at hx; cases hx
    have hfr := hp.frame h1 h2
    obtain ⟨h3, h4⟩ := ih (by rw [isCloexec_congr hfr]; exact hx)
    refine ⟨fun ht => ?_, h4.trans hfr⟩
    rw [touched_cons, hp.original] at ht
    exact ht.elim (fun e => e.elim (fun e => h1 e.symm) h2) h3

theorem saved_copies (h : Guarded t rs ss t') : ∀ s ∈ ss, ∀ sv, s.save = some sv →
    minInternalFd ≤ sv ∧ t'.isCloexec sv = true := by
  induction h with
  | stop _ _ => intro s hs; cases hs
  | step hp hg ih =>
    intro s hs sv hsv
    rcases List.mem_cons.mp hs with rfl | hm
    · obtain ⟨_, _, _, hmin, _, _, _, h1⟩ := hp.saved_copy hsv
      exact ⟨hmin, by rw [isCloexec_congr (hg.keeps_cloexec h1).2]; exact h1⟩
    · exact ih s hm sv hsv

theorem cloexec_origin (h : Guarded t rs ss t') {fd : Fd} (hc : t'.isCloexec fd = true) :
    t.isCloexec fd = true ∨ ∃ s ∈ ss, s.save = some fd := by
  induction h with
  | stop _ he => exact .inl (by rw [← isCloexec_congr (he.2 fd)]; exact hc)
  | @step t t1 t' r s rs ss hp _ ih =>
    rcases ih hc with h1 | ⟨s', hs', hsv⟩
    · by_cases hsv : s.save = some fd
      · exact .inr ⟨s, List.mem_cons_self .., hsv⟩
      · have hfd : fd ≠ r.fd := fun e => by rw [e, hp.plain] at h1; cases h1
        exact .inl (by rw [← isCloexec_congr (hp.frame hfd hsv)]; exact h1)
    · exact .inr ⟨s', List.mem_cons_of_mem _ hs', hsv⟩

theorem occupied (h : Guarded t rs ss t') {fd : Fd} (hocc : t.get fd ≠ none) (hnt : ∀ r ∈ rs, r.fd ≠ fd) :
    (∀ s ∈ ss, s.save ≠ some fd) ∧ t'.get fd = t.get fd := by
  induction h with
  | stop _ he => exact ⟨fun s hs => (by cases hs), he.2 fd⟩
  | @step t t1 t' r s rs ss hp _ ih =>
    have h2 : s.save ≠ some fd := fun e => by
      obtain ⟨_, _, _, _, _, hfree, _⟩ := hp.saved_copy e
      exact hocc hfree
    have hfr := hp.frame (Ne.symm (hnt r (List.mem_cons_self ..))) h2
    obtain ⟨h3, h4⟩ := ih (by rw [hfr]; exact hocc) (fun r' hr' => hnt r' (List.mem_cons_of_mem _ hr'))
    exact ⟨fun s' hs' => (List.mem_cons.mp hs').elim (fun e => e ▸ h2) (h3 s'), h4.trans hfr⟩

/-- the bracket `perform_redirs`; body; `undo_redirs`: `A` is whatever table the body left; only the guard's saved copies
    must still be where the guard put them (`hA`).  The induction goes through because a copy is CLOEXEC and
    `keeps_cloexec` shields its slot from the rest of the list. -/
theorem undo (h : Guarded t rs ss t') (hw : WF t) (A : FdTable) (hl : A.limit = t.limit)
    (hA : ∀ s ∈ ss, ∀ sv, s.save = some sv → A.get sv = t'.get sv) :
    (undoRedirs A ss).limit = t.limit ∧
    ∀ fd, (Touched ss fd → (undoRedirs A ss).get fd = t.get fd) ∧
      (¬ Touched ss fd → (undoRedirs A ss).get fd = A.get fd) := by
  induction h with
  | stop _ _ => exact ⟨hl, fun fd => ⟨fun ht => absurd ht (not_touched_nil fd), fun _ => rfl⟩⟩
  | @step t t1 t' r s rs ss hp hg ih =>
    obtain ⟨hUl, hU⟩ := ih (hp.wf hw) (hl.trans hp.limit.symm) (fun s hs => hA s (List.mem_cons_of_mem _ hs))
    rw [undoRedirs_cons]
    have hcopy : ∀ sv, s.save = some sv → (undoRedirs A ss).get sv = t1.get sv := fun sv hsv => by
      obtain ⟨_, _, _, _, _, _, _, hc⟩ := hp.saved_copy hsv
      obtain ⟨hnt, hk⟩ := hg.keeps_cloexec hc
      rw [(hU sv).2 hnt, hA s (List.mem_cons_self ..) sv hsv, hk]
    obtain ⟨hol, hone⟩ := undoOne_perform hp hw (hUl.trans hp.limit) hcopy
    refine ⟨hol, fun fd => ?_⟩
    rw [hone fd, touched_cons, hp.original]
    by_cases hfd : r.fd = fd ∨ s.save = some fd
    · rw [if_pos (hfd.imp_left Eq.symm)]; exact ⟨fun _ => rfl, fun hn => absurd (.inl hfd) hn⟩
    · rw [if_neg (fun h => hfd (h.imp_left Eq.symm))]
      refine ⟨fun ht => ?_, fun hn => (hU fd).2 (fun h => hn (.inr h))⟩
      rw [(hU fd).1 (ht.resolve_left hfd)]
      exact hp.frame (fun e => hfd (.inl e.symm)) (fun e => hfd (.inr e))

end Guarded

/-- nothing the shell holds for itself is disturbed by any redirection list -/
theorem cloexec_untouched (o : Oracle W) (w : W) (t : FdTable) (rs : List Redir) (fd : Fd)
    (h : t.isCloexec fd = true) : (performRedirs o w t rs).t.get fd = t.get fd :=
  ((performRedirs_guarded o w t rs).keeps_cloexec h).2

/-- ★ `undo_restores` for a body that does not leave the table alone (an `exec` in the body, a nested
    command whose `exec` persists, anything): for every oracle, WF table and list, `undo_redirs` run on
    ANY table `A` with the same limit that still has the guard's saved copies where the guard put them
    gives back every descriptor the guard speaks of — each target it changed, each slot of a saved copy —
    exactly as it was before the list was performed, and leaves every other descriptor as `A` has it.
    (`A` = the redirected table itself is `undo_restores`.) -/
theorem undo_restores_after_body (o : Oracle W) (w : W) (t : FdTable) (rs : List Redir) (hw : WF t) (A : FdTable)
    (hl : A.limit = t.limit)
    (hA : ∀ s ∈ (performRedirs o w t rs).saved, ∀ sv, s.save = some sv → A.get sv = (performRedirs o w t rs).t.get sv) :
    (undoRedirs A (performRedirs o w t rs).saved).limit = t.limit ∧
    ∀ fd, (Touched (performRedirs o w t rs).saved fd → (undoRedirs A (performRedirs o w t rs).saved).get fd = t.get fd) ∧
      (¬ Touched (performRedirs o w t rs).saved fd → (undoRedirs A (performRedirs o w t rs).saved).get fd = A.get fd) :=
  (performRedirs_guarded o w t rs).undo hw A hl hA

theorem performRedirs_originals (o : Oracle W) (w : W) (t : FdTable) (rs : List Redir)
    (h : (performRedirs o w t rs).err = none) :
    (performRedirs o w t rs).saved.map (·.original) = rs.map (·.fd) := by
  induction rs generalizing w t with
  | nil => rfl
  | cons r rs ih =>
    cases hp : (perform o w t r).r with
    | error e => rw [performRedirs_cons_err o w t r rs e hp] at h; cases h
    | ok s =>
      rw [performRedirs_cons_ok o w t r rs s hp] at h ⊢
      simp only at h ⊢
      have horig : s.original = r.fd := (perform_ok_spec hp).original
      simp [horig, ih _ _ h]

/-- when the whole list succeeded, the descriptors the guard speaks of are the targets the list names and
    the slots of the saved copies -/
theorem touched_iff_target_or_save (o : Oracle W) (w : W) (t : FdTable) (rs : List Redir)
    (h : (performRedirs o w t rs).err = none) (fd : Fd) :
    Touched (performRedirs o w t rs).saved fd ↔
      (∃ r ∈ rs, r.fd = fd) ∨ ∃ s ∈ (performRedirs o w t rs).saved, s.save = some fd := by
  constructor
  · rintro ⟨s, hs, h1 | h2⟩
    · obtain ⟨r, hr, e⟩ := (performRedirs_guarded o w t rs).targets s hs
      exact .inl ⟨r, hr, e.trans h1⟩
    · exact .inr ⟨s, hs, h2⟩
  · rintro (⟨r, hr, rfl⟩ | ⟨s, hs, hsv⟩)
    · have hm : r.fd ∈ (performRedirs o w t rs).saved.map (·.original) := by
        rw [performRedirs_originals o w t rs h]; exact List.mem_map.mpr ⟨r, hr, rfl⟩
      obtain ⟨s, hs, heq⟩ := List.mem_map.mp hm
      exact ⟨s, hs, .inl heq⟩
    · exact ⟨s, hs, .inr hsv⟩

theorem performSteps_prefix (o : Oracle W) (w : W) (t : FdTable) (rs : List Redir) (i : Nat) (p : W × FdTable)
    (h : (performSteps o w t rs)[i]? = some p) :
    i < rs.length ∧
    p = ((performRedirs o w t (rs.take (i+1))).w, (performRedirs o w t (rs.take (i+1))).t) := by
  induction rs generalizing w t i with
  | nil => simp [performSteps] at h
  | cons r rs ih =>
    cases hp : (perform o w t r).r with
    | error e =>
      simp only [performSteps, hp] at h
      cases i with
      | zero =>
        simp only [List.getElem?_cons_zero, Option.some.injEq] at h
        refine ⟨by simp, ?_⟩
        rw [← h]
        simp only [Nat.zero_add, List.take_succ_cons, List.take_zero]
        rw [performRedirs_cons_err o w t r [] e hp]
      | succ j => simp at h
    | ok s =>
      simp only [performSteps, hp] at h
      cases i with
      | zero =>
        simp only [List.getElem?_cons_zero, Option.some.injEq] at h
        refine ⟨by simp, ?_⟩
        rw [← h]
        simp only [Nat.zero_add, List.take_succ_cons, List.take_zero]
        rw [performRedirs_cons_ok o w t r [] s hp]
        rfl
      | succ j =>
        simp only [List.getElem?_cons_succ] at h
        obtain ⟨hlt, hpe⟩ := ih _ _ j h
        refine ⟨by simpa using hlt, ?_⟩
        rw [hpe]
        simp only [List.take_succ_cons]
        rw [performRedirs_cons_ok o w t r (rs.take (j+1)) s hp]

theorem performSteps_length (o : Oracle W) (w : W) (t : FdTable) (rs : List Redir) :
    (performSteps o w t rs).length =
      (performRedirs o w t rs).saved.length + (if (performRedirs o w t rs).err.isSome then 1 else 0) := by
  induction rs generalizing w t with
  | nil => rfl
  | cons r rs ih =>
    cases hp : (perform o w t r).r with
    | error e => rw [performRedirs_cons_err o w t r rs e hp]; simp [performSteps, hp]
    | ok s =>
      rw [performRedirs_cons_ok o w t r rs s hp]
      simp only [performSteps, hp, List.length_cons, ih]
      omega

theorem performSteps_last (o : Oracle W) (w : W) (t : FdTable) (rs : List Redir) (hne : rs ≠ []) :
    (performSteps o w t rs).getLast? = some ((performRedirs o w t rs).w, (performRedirs o w t rs).t) := by
  induction rs generalizing w t with
  | nil => exact absurd rfl hne
  | cons r rs ih =>
    cases hp : (perform o w t r).r with
    | error e => rw [performRedirs_cons_err o w t r rs e hp]; simp [performSteps, hp]
    | ok s =>
      rw [performRedirs_cons_ok o w t r rs s hp]
      simp only [performSteps, hp]
      cases rs with
      | nil => simp [performSteps, performRedirs]
      | cons r2 rs2 =>
        have := ih (perform o w t r).w (perform o w t r).t (by simp)
        rw [List.getLast?_cons_of_ne_nil]
        · exact this
        · cases hp2 : (perform o (perform o w t r).w (perform o w t r).t r2).r <;> simp [performSteps, hp2]

end YashModel.Redir
