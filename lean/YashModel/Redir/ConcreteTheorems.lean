/-
  C09 — property theorems about the concrete world of World.lean: what `resolve` does to the file system, the file
  operators and here-documents, `>` under `noclobber`, the sharing rule of open file descriptions (offsets), file
  contents when a redirection fails, a pathname with a trailing slash, the exit status of a command substitution in
  an operand.
-/
import YashModel.Redir.EndToEnd
namespace YashModel.Redir
open YashModel.Generated.RedirConsts

/-- ★ what the operators' `open` arguments do to the file system of the concrete world (every world,
    every path the world has a slot for — `setFile` beyond the list changes nothing — that is not below a regular
    file and has no trailing slash): O_EXCL on an existing file fails with EEXIST and
    changes nothing; an existing regular file is emptied exactly when O_TRUNC is given, and the new
    description has the requested access, the append flag and offset 0; a missing file is created
    empty exactly when O_CREAT is given, otherwise ENOENT and nothing changes -/
theorem resolve_posix (w : World) (path : Nat) (args : OpenArgs) (hp : path ≠ pathEnotdir) (hp2 : path ≠ pathSlash)
    (hlen : path < w.files.length) :
    ((fileAt w path).present = true → args.excl = true → w.resolve ⟨path, args⟩ = (w, .error .EEXIST)) ∧
    ((fileAt w path).present = true → (fileAt w path).kind = .reg → args.excl = false →
      (w.resolve ⟨path, args⟩).2 = .ok w.ofds.length ∧
      (fileAt (w.resolve ⟨path, args⟩).1 path).content = (if args.trunc then [] else (fileAt w path).content) ∧
      ofdAt (w.resolve ⟨path, args⟩).1 w.ofds.length = ⟨path, args.acc != .wo, args.acc != .ro, args.append, 0⟩) ∧
    ((fileAt w path).present = false → args.create = true →
      (w.resolve ⟨path, args⟩).2 = .ok w.ofds.length ∧
      fileAt (w.resolve ⟨path, args⟩).1 path = ⟨true, .reg, [], false⟩) ∧
    ((fileAt w path).present = false → args.create = false → w.resolve ⟨path, args⟩ = (w, .error .ENOENT)) := by
  refine ⟨fun h1 h2 => ?_, fun h1 h2 h3 => ?_, fun h1 h2 => ?_, fun h1 h2 => ?_⟩
  · simp only [World.resolve, hp, hp2, ↓reduceIte, h1, h2]
  · have hk : ((fileAt w path).kind == FKind.dir) = false := by rw [h2]; rfl
    have hk' : ((fileAt w path).kind == FKind.reg) = true := by rw [h2]; rfl
    -- an existing regular file, no O_EXCL: the open goes through, in the world with the file emptied iff O_TRUNC
    have hres : w.resolve ⟨path, args⟩ =
        ({ (if args.trunc = true then setFile w path { fileAt w path with content := [] } else w) with
            ofds := (if args.trunc = true then setFile w path { fileAt w path with content := [] } else w).ofds ++
              [⟨path, args.acc != .wo, args.acc != .ro, args.append, 0⟩] }, .ok w.ofds.length) := by
      cases ht : args.trunc <;>
        simp only [World.resolve, hp, hp2, ↓reduceIte, h1, h3, hk, hk', ht, Bool.false_and, Bool.and_true,
          Bool.false_eq_true] <;> rfl
    rw [hres]
    cases args.trunc <;> simp [fileAt, ofdAt, setFile, hlen]
  · simp only [World.resolve, hp, hp2, ↓reduceIte, h1, h2, Bool.false_eq_true]
    simp [fileAt, setFile, hlen]
  · simp only [World.resolve, hp, hp2, ↓reduceIte, h1, h2, Bool.false_eq_true]

/-- `perform_file_opened` in the concrete world: the description is numbered `w.ofds.length`, returned by one `resolve`
    in a world with the files and descriptions of `w` -/
theorem perform_file_concrete (w : World) (t : FdTable) (fd : Fd) (op : FileOp) (path : Nat) (s : SavedFd) (b : Body)
    (hb : b = .file op path ∨ ∃ st, b = .fileCs op path st) (h : (perform worldOracle w t ⟨fd, b⟩).r = .ok s) :
    ∃ (w1 : World) (args : OpenArgs), w1.files = w.files ∧ w1.ofds = w.ofds ∧
      w1.resolve ⟨path, args⟩ = ((perform worldOracle w t ⟨fd, b⟩).w, .ok w.ofds.length) ∧
      (perform worldOracle w t ⟨fd, b⟩).t.get fd = some ⟨w.ofds.length, false⟩ ∧
      (if op = .fileOut ∧ w.noclobber = true then
        args = flagsExcl ∨ (args = flagsPlainWrite ∧ (fileAt w path).present = true ∧
          worldOracle.isRegular (perform worldOracle w t ⟨fd, b⟩).w w.ofds.length = false)
      else args = posixOpenArgs op) := by
  obtain ⟨w', w0, ofd, hw', hw0, hob, hget⟩ := perform_file_opened worldOracle w t fd op path s b hb h
  have h0 : w0.files = w.files ∧ w0.ofds = w.ofds ∧ w0.noclobber = w.noclobber := by
    rcases hw' with rfl | rfl <;> rcases hw0 with rfl | ⟨_, rfl⟩ <;> exact ⟨rfl, rfl, rfl⟩
  -- the successful `open`, in a world `w1` that differs from `w0` in the allocation count only
  have fin : ∀ (w1 : World) args, w1.files = w0.files → w1.ofds = w0.ofds →
      w1.resolve ⟨path, args⟩ = ((perform worldOracle w t ⟨fd, b⟩).w, .ok ofd) →
      ofd = w.ofds.length ∧ w1.files = w.files ∧ w1.ofds = w.ofds ∧
      w1.resolve ⟨path, args⟩ = ((perform worldOracle w t ⟨fd, b⟩).w, .ok w.ofds.length) ∧
      (perform worldOracle w t ⟨fd, b⟩).t.get fd = some ⟨w.ofds.length, false⟩ := by
    intro w1 args hf ho hres
    have hofd : ofd = w.ofds.length := by rw [(World.resolve_ok hres).1, ho, h0.2.1]
    rw [hofd] at hres hget
    exact ⟨hofd, hf.trans h0.1, ho.trans h0.2.1, hres, hget⟩
  rcases hob with ⟨hnc, hres⟩ | ⟨hop, hn, hres | ⟨w2, h1, hres, hreg⟩⟩
  · obtain ⟨hofd, a, b', c, d⟩ := fin (World.deny w0).1 _ rfl rfl hres
    refine ⟨_, _, a, b', c, d, ?_⟩
    rw [if_neg (fun hc => by have := hnc hc.1; rw [show worldOracle.noclobber w0 = w.noclobber from h0.2.2, hc.2] at this; cases this)]
    exact plainArgs_posix op
  · obtain ⟨hofd, a, b', c, d⟩ := fin (World.deny w0).1 _ rfl rfl hres
    exact ⟨_, _, a, b', c, d, by rw [if_pos ⟨hop, h0.2.2 ▸ hn⟩]; exact .inl rfl⟩
  · obtain ⟨rfl, hpres⟩ := World.resolve_err (w := (World.deny w0).1) h1
    obtain ⟨hofd, a, b', c, d⟩ := fin (World.deny (World.deny w0).1).1 _ rfl rfl hres
    refine ⟨_, _, a, b', c, d, ?_⟩
    rw [if_pos ⟨hop, h0.2.2 ▸ hn⟩]
    refine .inr ⟨rfl, ?_, ?_⟩
    · rw [← fileAt_congr (a := (World.deny w0).1) (b := w) h0.1 path]; exact hpres rfl
    · rw [← hofd]; exact hreg

/-- ★ `perform_file_world` in the concrete world the driver runs, composed with `resolve_posix`: after a
    successful `n<f`, `n>f`, `n>|f`, `n>>f`, `n<>f` (`noclobber` off for `>`) descriptor `n` is a new,
    non-CLOEXEC descriptor on a new open file description of `f` with the access mode and append flag
    POSIX prescribes and offset 0; an existing regular file has been emptied exactly for `>` / `>|`;
    a missing file has been created empty (which only the creating operators can do) -/
theorem file_redirection_concrete (w : World) (t : FdTable) (fd : Fd) (op : FileOp) (path : Nat) (s : SavedFd)
    (hnc : op = .fileOut → w.noclobber = false) (hp : path ≠ pathEnotdir) (hp2 : path ≠ pathSlash)
    (hlen : path < w.files.length)
    (h : (perform worldOracle w t ⟨fd, .file op path⟩).r = .ok s) :
    (perform worldOracle w t ⟨fd, .file op path⟩).t.get fd = some ⟨w.ofds.length, false⟩ ∧
    ((fileAt w path).present = true → (fileAt w path).kind = .reg →
      (fileAt (perform worldOracle w t ⟨fd, .file op path⟩).w path).content =
        (if (posixOpenArgs op).trunc then [] else (fileAt w path).content) ∧
      ofdAt (perform worldOracle w t ⟨fd, .file op path⟩).w w.ofds.length =
        ⟨path, (posixOpenArgs op).acc != .wo, (posixOpenArgs op).acc != .ro, (posixOpenArgs op).append, 0⟩) ∧
    ((fileAt w path).present = false → (posixOpenArgs op).create = true ∧
      fileAt (perform worldOracle w t ⟨fd, .file op path⟩).w path = ⟨true, .reg, [], false⟩) := by
  obtain ⟨w1, args, hfiles, hofds, hres, hget, hargs⟩ := perform_file_concrete w t fd op path s _ (.inl rfl) h
  rw [if_neg (fun hc => by rw [hnc hc.1] at hc; cases hc.2)] at hargs
  subst hargs
  have hex : (posixOpenArgs op).excl = false := by cases op <;> rfl
  obtain ⟨_, h2, h3, h4⟩ := resolve_posix w1 path (posixOpenArgs op) hp hp2 (by rw [hfiles]; exact hlen)
  rw [fileAt_congr hfiles path] at h2 h3 h4
  rw [hres, hofds] at h2 h3
  refine ⟨hget, fun hpres hreg => ?_, fun hmiss => ?_⟩
  · obtain ⟨_, hc, ho⟩ := h2 hpres hreg hex
    exact ⟨hc, ho⟩
  · cases hcr : (posixOpenArgs op).create with
    | true => exact ⟨rfl, (h3 hmiss hcr).2⟩
    | false => rw [h4 hmiss hcr] at hres; exact absurd (congrArg Prod.snd hres) (by simp)

-- non-vacuity: `>>b` on the standard table
example : (perform worldOracle (stdWorld false) stdTable ⟨1, .file .fileAppend 4⟩).r = .ok ⟨1, some 10⟩ ∧
    (fileAt (stdWorld false) 4).present = true ∧ (fileAt (stdWorld false) 4).kind = .reg :=
  ⟨rfl, by decide, by decide⟩

/-- ★ here-documents in the concrete world (where `fill` is `World.fill`, not an oracle's answer): after a
    successful `n<<E` descriptor `n` is a new, non-CLOEXEC descriptor on a new read-write description,
    at offset 0, of a new regular file, appended to the world's files (index `w.files.length`: anonymous in every
    world that has the thirteen named paths), that holds exactly the
    content; reading `k` bytes through it yields the first `k` bytes of the content -/
theorem heredoc_concrete (w : World) (t : FdTable) (fd : Fd) (content : List Nat) (s : SavedFd)
    (h : (perform worldOracle w t ⟨fd, .hereDoc content⟩).r = .ok s) :
    (perform worldOracle w t ⟨fd, .hereDoc content⟩).t.get fd = some ⟨w.ofds.length, false⟩ ∧
    ofdAt (perform worldOracle w t ⟨fd, .hereDoc content⟩).w w.ofds.length = ⟨w.files.length, true, true, false, 0⟩ ∧
    fileAt (perform worldOracle w t ⟨fd, .hereDoc content⟩).w w.files.length = ⟨true, .reg, content, false⟩ ∧
    ∀ k, ((perform worldOracle w t ⟨fd, .hereDoc content⟩).w.read w.ofds.length k).map (·.2) = some (content.take k) := by
  obtain ⟨w', hw', hpw, _, hget⟩ := perform_heredoc_world worldOracle w t fd content s h
  have hfiles : w'.files = w.files := by rcases hw' with rfl | rfl <;> rfl
  have hofds : w'.ofds = w.ofds := by rcases hw' with rfl | rfl <;> rfl
  -- the world `fill` runs in: the temporary file and its description appended, one more allocation counted
  have hw0 : (World.deny (World.tmpfile w').1).1.files = w.files ++ [⟨true, .reg, [], false⟩] ∧
      (World.deny (World.tmpfile w').1).1.ofds = w.ofds ++ [⟨w.files.length, true, true, false, 0⟩] ∧
      (World.tmpfile w').2 = w.ofds.length := by
    simp [World.deny, World.tmpfile, hfiles, hofds]
  obtain ⟨hf0, ho0, hid⟩ := hw0
  have hd : ofdAt (World.deny (World.tmpfile w').1).1 w.ofds.length = ⟨w.files.length, true, true, false, 0⟩ := by
    simp [ofdAt, ho0]
  have hf : fileAt (World.deny (World.tmpfile w').1).1 w.files.length = ⟨true, .reg, [], false⟩ := by
    simp [fileAt, hf0]
  obtain ⟨_, hod, hfd⟩ := World.fill_fresh (World.deny (World.tmpfile w').1).1 w.ofds.length w.files.length content
    hd hf (by simp [ho0]) (by simp [hf0])
  have hpw' : (perform worldOracle w t ⟨fd, .hereDoc content⟩).w =
      ((World.deny (World.tmpfile w').1).1.fill w.ofds.length content).1 := by
    rw [hpw]; show (World.fill _ (World.tmpfile w').2 content).1 = _; rw [hid]; rfl
  have hget' : (perform worldOracle w t ⟨fd, .hereDoc content⟩).t.get fd = some ⟨w.ofds.length, false⟩ := by
    rw [hget]; show some (FdEntry.mk (World.tmpfile w').2 false) = _; rw [hid]
  rw [hpw']
  refine ⟨hget', hod, hfd, fun k => ?_⟩
  simp [World.read, hod, hfd]

-- non-vacuity: `0<<E` with three bytes
example : (perform worldOracle (stdWorld false) stdTable ⟨0, .hereDoc [5, 6, 10]⟩).r = .ok ⟨0, some 10⟩ := rfl

/-- ★ what "append" means for the description `>>` opens (and "write" for the others): a write
    through an appending description on a regular file lands at the end of the file whatever the
    offset; through any other writable description it overwrites at the offset -/
theorem append_writes_at_end (w w1 : World) (ofd : Nat) (bytes : List Nat)
    (hk : (fileAt w (ofdAt w ofd).file).kind = .reg) (h : w.write ofd bytes = some w1)
    (hlen : (ofdAt w ofd).file < w.files.length) :
    (fileAt w1 (ofdAt w ofd).file).content =
      if (ofdAt w ofd).app then (fileAt w (ofdAt w ofd).file).content ++ bytes
      else writeAt (fileAt w (ofdAt w ofd).file).content (ofdAt w ofd).off bytes := by
  rw [(World.write_some h).2, fileAt_setOfd, fileAt_setFile_same _ _ _ hlen]
  have hreg : ((fileAt w (ofdAt w ofd).file).kind == FKind.reg) = true := by rw [hk]; rfl
  cases happ : (ofdAt w ofd).app <;> simp [hreg, writeAt_end]

-- non-vacuity: a write through `>>b`'s description (offset 0) on b = [3,4] appends
example : let r := perform worldOracle (stdWorld false) stdTable ⟨1, .file .fileAppend 4⟩
    (r.w.write 3 [9]).map (fun w1 => (fileAt w1 4).content) = some [3, 4, 9] := by decide +kernel

/-- ★ `>` under `noclobber` in the concrete world, when it succeeds: the target is a new, non-CLOEXEC
    descriptor on a new write-only, non-appending description of the path at offset 0, and EITHER the
    path named nothing and now names a new empty regular file (the race-free O_CREAT|O_EXCL creation)
    OR it named something that is not a regular file and no file of the world changed (nothing is ever
    truncated) -/
theorem noclobber_redirection_concrete (w : World) (t : FdTable) (fd : Fd) (path : Nat) (s : SavedFd)
    (hn : w.noclobber = true) (hp : path ≠ pathEnotdir) (hp2 : path ≠ pathSlash) (hlen : path < w.files.length)
    (h : (perform worldOracle w t ⟨fd, .file .fileOut path⟩).r = .ok s) :
    (perform worldOracle w t ⟨fd, .file .fileOut path⟩).t.get fd = some ⟨w.ofds.length, false⟩ ∧
    ofdAt (perform worldOracle w t ⟨fd, .file .fileOut path⟩).w w.ofds.length = ⟨path, false, true, false, 0⟩ ∧
    (((fileAt w path).present = false ∧
        fileAt (perform worldOracle w t ⟨fd, .file .fileOut path⟩).w path = ⟨true, .reg, [], false⟩) ∨
     ((fileAt w path).present = true ∧ (fileAt w path).kind ≠ .reg ∧
        (perform worldOracle w t ⟨fd, .file .fileOut path⟩).w.files = w.files)) := by
  obtain ⟨w1, args, hfiles, hofds, hres, hget, hargs⟩ := perform_file_concrete w t fd .fileOut path s _ (.inl rfl) h
  rw [if_pos ⟨rfl, hn⟩] at hargs
  obtain ⟨_, hnew, hff⟩ := World.resolve_ok hres
  rw [hofds] at hnew
  rcases hargs with rfl | ⟨rfl, hpres, hreg⟩
  · -- the exclusive creation went through: the path named nothing
    obtain ⟨c1, _, c3, _⟩ := resolve_posix w1 path flagsExcl hp hp2 (by rw [hfiles]; exact hlen)
    rw [fileAt_congr hfiles path] at c1 c3
    have hmiss : (fileAt w path).present = false := by
      cases hpr : (fileAt w path).present with
      | false => rfl
      | true =>
        have := c1 hpr (by decide)
        rw [hres] at this
        exact absurd (congrArg Prod.snd this) (by simp)
    refine ⟨hget, ?_, .inl ⟨hmiss, ?_⟩⟩
    · unfold ofdAt; rw [hnew]; simp; decide
    · have := (c3 hmiss (by decide)).2
      rw [hres] at this; exact this
  · -- the plain open, without O_TRUNC, of what exists and is not a regular file
    have hff := hff (by rw [fileAt_congr hfiles path]; exact hpres) (by show flagsPlainWrite.trunc = false; decide)
    rw [hfiles] at hff
    have hod : ofdAt (perform worldOracle w t ⟨fd, .file .fileOut path⟩).w w.ofds.length = ⟨path, false, true, false, 0⟩ := by
      unfold ofdAt; rw [hnew]; simp; decide
    refine ⟨hget, hod, .inr ⟨hpres, ?_, hff⟩⟩
    intro hk
    have hreg' : ((fileAt (perform worldOracle w t ⟨fd, .file .fileOut path⟩).w
        (ofdAt (perform worldOracle w t ⟨fd, .file .fileOut path⟩).w w.ofds.length).file).kind == FKind.reg) = false := hreg
    rw [hod, fileAt_congr hff path, hk] at hreg'
    exact absurd hreg' (by decide)

/-- ★ … hence on an existing regular file `>` under `noclobber` never succeeds — whatever the table, the
    limit and the allocation failures — and the descriptor table is left as it was; `>|` is not affected
    by the option at all (it is `file_redirection_concrete` with `op = .fileClobber`, whose hypothesis
    about `noclobber` is vacuous) -/
theorem noclobber_refuses_regular (w : World) (t : FdTable) (fd : Fd) (path : Nat)
    (hn : w.noclobber = true) (hp : path ≠ pathEnotdir) (hp2 : path ≠ pathSlash) (hlen : path < w.files.length)
    (hpres : (fileAt w path).present = true) (hreg : (fileAt w path).kind = .reg) :
    (∃ e, (perform worldOracle w t ⟨fd, .file .fileOut path⟩).r = .error e) ∧
    (perform worldOracle w t ⟨fd, .file .fileOut path⟩).t.limit = t.limit ∧
    ∀ fd', (perform worldOracle w t ⟨fd, .file .fileOut path⟩).t.get fd' = t.get fd' := by
  cases hr : (perform worldOracle w t ⟨fd, .file .fileOut path⟩).r with
  | ok s =>
    obtain ⟨_, _, h3⟩ := noclobber_redirection_concrete w t fd path s hn hp hp2 hlen hr
    rcases h3 with ⟨hm, _⟩ | ⟨_, hk, _⟩
    · rw [hpres] at hm; cases hm
    · exact absurd hreg hk
  | error e => exact ⟨⟨e, rfl⟩, failed_perform_leaves_table worldOracle w t _ e hr⟩

-- non-vacuity: `>t` (a terminal device) under noclobber goes through; `>a` (regular) is refused with EEXIST
example : (perform worldOracle (stdWorld true) stdTable ⟨1, .file .fileOut 11⟩).r = .ok ⟨1, some 10⟩ ∧
    (match (perform worldOracle (stdWorld true) stdTable ⟨1, .file .fileOut 3⟩).r with
      | .error (.openFile .EEXIST) => true | _ => false) = true ∧
    (perform worldOracle (stdWorld true) stdTable ⟨1, .file .fileOut 5⟩).r = .ok ⟨1, some 10⟩ := by
  refine ⟨rfl, by decide, rfl⟩

/-- ★ the offset belongs to the open file description: a write through description `i` moves the offset of
    `i` — to the end of what it wrote, which for an appending description on a regular file starts at the
    end of the file at *every* write — and of no other description -/
theorem write_moves_only_its_description (w w1 : World) (i : Nat) (bytes : List Nat) (h : w.write i bytes = some w1) :
    (∀ j, j ≠ i → ofdAt w1 j = ofdAt w j) ∧
    (ofdAt w1 i).off =
      (if (ofdAt w i).app then (if (fileAt w (ofdAt w i).file).kind == .reg then (fileAt w (ofdAt w i).file).content.length else 0)
       else (ofdAt w i).off) + bytes.length := by
  have hi : i < w.ofds.length := by
    apply Nat.lt_of_not_le
    intro hi
    have := (World.write_some h).1
    simp [ofdAt, hi] at this
  rw [(World.write_some h).2]
  exact ⟨fun j hj => by simp [ofdAt, setOfd, setFile, Ne.symm hj],
    by rw [ofdAt_setOfd_same _ _ _ (by simpa [setFile] using hi)]⟩

/-- ★ `n>&m` / `n<&m` (m ≠ n) makes `n` a second descriptor on the very open file description `m` has —
    `m` keeps it — so by `write_moves_only_its_description` the two share one offset (`exec 3>f 4>&3`) -/
theorem dup_shares_description {W : Type} (o : Oracle W) (w : W) (t : FdTable) (n m : Fd) (input : Bool) (s : SavedFd)
    (hne : m ≠ n) (h : (perform o w t ⟨n, .dup input (.fd m)⟩).r = .ok s) :
    ∃ e0, t.get m = some e0 ∧ (perform o w t ⟨n, .dup input (.fd m)⟩).t.get m = some e0 ∧
      (perform o w t ⟨n, .dup input (.fd m)⟩).t.get n = some ⟨e0.ofd, false⟩ := by
  have hm := perform_target_meaning o w t ⟨n, .dup input (.fd m)⟩ s h
  simp only [Meaning] at hm
  obtain ⟨e0, hg0, hafter, _⟩ := hm
  refine ⟨e0, hg0, ?_, hafter⟩
  rw [perform_frame o w t _ s h m hne]
  · exact hg0
  · intro hsv
    obtain ⟨_, _, _, hfree, _, _⟩ := (perform_ok_spec h).some_case m hsv
    rw [hg0] at hfree; cases hfree

/-- ★ … whereas opening a file gives a description no other descriptor has: after a successful file
    redirection (any operator, `noclobber` or not) in a world/table pair that is `Bounded`, no other
    descriptor of the table refers to the target's description — a file opened twice (`3>f 4>f`) has two
    independent offsets -/
theorem open_gives_fresh_description (w : World) (t : FdTable) (fd : Fd) (op : FileOp) (path : Nat) (s : SavedFd)
    (hb : Bounded w t) (h : (perform worldOracle w t ⟨fd, .file op path⟩).r = .ok s) :
    ∃ ofd, (perform worldOracle w t ⟨fd, .file op path⟩).t.get fd = some ⟨ofd, false⟩ ∧
      ∀ fd' e', fd' ≠ fd → (perform worldOracle w t ⟨fd, .file op path⟩).t.get fd' = some e' → e'.ofd ≠ ofd := by
  obtain ⟨_, _, _, _, _, hget, _⟩ := perform_file_concrete w t fd op path s _ (.inl rfl) h
  refine ⟨_, hget, fun fd' e' hne hg' heq => ?_⟩
  have hold : ∃ fd0 e0, t.get fd0 = some e0 ∧ e0.ofd = e'.ofd := by
    have hok := perform_ok_spec h
    by_cases hsv : s.save = some fd'
    · obtain ⟨e0, hg0, _, _, _, _, hget, _⟩ := hok.saved_copy hsv
      rw [hget] at hg'; cases hg'
      exact ⟨fd, e0, hg0, rfl⟩
    · rw [hok.frame hne hsv] at hg'
      exact ⟨fd', e', hg', rfl⟩
  obtain ⟨fd0, e0, hg0, he0⟩ := hold
  have := hb fd0 e0 hg0
  omega

-- non-vacuity: `3>b 4>&3 5>b`: 3 and 4 share a description, 5 has its own
example :
    let g := performRedirs worldOracle (stdWorld false) stdTable
      [⟨3, .file .fileOut 4⟩, ⟨4, .dup false (.fd 3)⟩, ⟨5, .file .fileOut 4⟩];
    g.err = none ∧ (g.t.get 3).map (·.ofd) = (g.t.get 4).map (·.ofd) ∧ (g.t.get 3).map (·.ofd) ≠ (g.t.get 5).map (·.ofd) := by
  decide +kernel

theorem FailedBy.files {w0 wf : World} {path : Nat} (h : FailedBy worldOracle w0 path wf) : wf.files = w0.files := by
  rcases h with rfl | ⟨args, e, hr⟩ | ⟨w1, hr1, h2⟩
  · rfl
  · exact (World.resolve_err (w := (World.deny w0).1) hr).1 ▸ rfl
  · -- EEXIST: the file is there, and the plain open that follows has neither O_CREAT nor O_TRUNC
    obtain ⟨rfl, hp⟩ := World.resolve_err (w := (World.deny w0).1) hr1
    rcases h2 with rfl | ⟨r, hr2⟩
    · rfl
    · cases r with
      | error e => exact (World.resolve_err (w := (World.deny (World.deny w0).1).1) hr2).1 ▸ rfl
      | ok ofd =>
        exact (World.resolve_ok (w := (World.deny (World.deny w0).1).1) hr2).2.2 (hp rfl)
          (by show flagsPlainWrite.trunc = false; decide)

/-- ★ a redirection whose *opening step* fails has changed no file: every file-system effect of a
    redirection (creation, truncation) happens in the `open` that succeeds — a failing `open` (ENOENT,
    EISDIR, ENOTDIR, EMFILE, the EEXIST of `noclobber` incl. its second open of a regular file), a refused
    `<&`/`>&`, an unsupported operator, a failing expansion leave every named file as it was; a
    here-document that cannot get its descriptor leaves only its (unnamed) temporary file behind -/
theorem failing_open_changes_no_file (w : World) (t : FdTable) (b : Body) (e : ErrCause)
    (h : (prepare worldOracle w t b).r = .error e) :
    ∀ i, i < w.files.length → fileAt (prepare worldOracle w t b).w i = fileAt w i := by
  intro i hi
  obtain ⟨_, ⟨spec, hs, _⟩ | ⟨_, _, _, hg⟩⟩ := prepare_prepared worldOracle w t b
  · rw [h] at hs; cases hs
  generalize (prepare worldOracle w t b).w = wf at hg ⊢
  -- the here-document's temporary file is appended: the named files keep their places
  have tmp : ∀ w2 : World, w2.files = w.files ++ [⟨true, .reg, [], false⟩] → fileAt w2 i = fileAt w i := by
    intro w2 h2; simp [fileAt, h2, List.getElem?_append_left hi]
  cases b with
  | file op path => exact fileAt_congr (FailedBy.files hg) i
  | fileCs op path st =>
    rcases hg with rfl | hf
    · rfl
    · exact fileAt_congr (FailedBy.files hf) i
  | hereDoc c =>
    rcases hg with rfl | ⟨rfl, hf⟩
    · exact tmp _ rfl
    · -- a `fill` that answers `false` has written nothing
      have : (World.fill (World.deny (World.tmpfile w).1).1 (World.tmpfile w).2 c).1 = (World.deny (World.tmpfile w).1).1 := by
        have hf' : (World.fill (World.deny (World.tmpfile w).1).1 (World.tmpfile w).2 c).2 = false := hf
        unfold World.fill at hf' ⊢
        split
        · next w1 hw => rw [hw] at hf'; cases hf'
        · rfl
      exact (congrArg (fileAt · i) this).trans (tmp _ rfl)
  | _ => exact hg ▸ rfl

/-- the general claim "a failing redirection changes no file" is FALSE, in the model as in the code (and in
    every shell that opens before it duplicates): `12>a` under a soft limit of 11 opens — and truncates —
    `a` on descriptor 3, then `dup2(3, 12)` is refused (EBADF), descriptor 3 is closed, the redirection fails
    with `FdNotOverwritten`, the table is what it was, and `a` is empty -/
theorem failed_dup2_after_open_has_truncated :
    let t : FdTable := { stdTable with limit := some 11 }
    let r := perform worldOracle (stdWorld false) t ⟨12, .file .fileOut 3⟩
    (match r.r with | .error (.fdNotOverwritten 12 .EBADF) => true | _ => false) = true ∧
    (fileAt r.w 3).content = [] ∧ (fileAt (stdWorld false) 3).content = [1, 2] ∧ r.t.openFds = t.openFds := by decide +kernel

/-- ★ `resolve_file` on a pathname with a trailing slash whose last component does not exist: EISDIR when
    asked to create it (`>q/`, `>|q/`, `>>q/`, `<>q/`, and the exclusive creation of `noclobber`), ENOENT
    otherwise (`<q/`) — never a descriptor, never a change of the world; hence no redirection to it
    succeeds, whatever the operator, the table, the limit and the `noclobber` option -/
theorem trailing_slash_never_opens (w : World) (t : FdTable) (fd : Fd) (op : FileOp) (args : OpenArgs) :
    w.resolve ⟨pathSlash, args⟩ = (w, .error (if args.create then .EISDIR else .ENOENT)) ∧
    ∃ e, (perform worldOracle w t ⟨fd, .file op pathSlash⟩).r = .error e := by
  have slash : ∀ (w : World) (args : OpenArgs),
      w.resolve ⟨pathSlash, args⟩ = (w, .error (if args.create then .EISDIR else .ENOENT)) := by
    intro w args; simp [World.resolve, pathSlash, pathEnotdir]
  refine ⟨slash w args, ?_⟩
  cases hr : (perform worldOracle w t ⟨fd, .file op pathSlash⟩).r with
  | error e => exact ⟨e, rfl⟩
  | ok s =>
    obtain ⟨w1, a, _, _, hres, _⟩ := perform_file_concrete w t fd op pathSlash s _ (.inl rfl) hr
    rw [slash] at hres
    exact absurd (congrArg Prod.snd hres) (by simp)

-- the error classes: `>q/` EISDIR, `<q/` ENOENT, `>q/` under noclobber EISDIR (from the exclusive open)
example :
    (match (perform worldOracle (stdWorld false) stdTable ⟨1, .file .fileOut 12⟩).r with | .error (.openFile .EISDIR) => true | _ => false) = true ∧
    (match (perform worldOracle (stdWorld false) stdTable ⟨0, .file .fileIn 12⟩).r with | .error (.openFile .ENOENT) => true | _ => false) = true ∧
    (match (perform worldOracle (stdWorld true) stdTable ⟨1, .file .fileOut 12⟩).r with | .error (.openFile .EISDIR) => true | _ => false) = true := by
  decide +kernel

/-- `perform_redirs`' `Option<ExitStatus>` on a list that went through is that of the LAST item whose
    operand contains a command substitution (an item without one leaves it alone) -/
theorem csStatus_snoc (rs : List Redir) (r : Redir) : csStatus (rs ++ [r]) = r.body.csStatus.or (csStatus rs) := by
  induction rs with
  | nil => simp [csStatus]
  | cons a rs ih =>
    simp only [List.cons_append, csStatus, ih]
    cases r.body.csStatus <;> cases csStatus rs <;> cases a.body.csStatus <;> rfl

/-- ★ a command without a command word (`>$(exit 3; echo f)`, `v=2 >$(…)`) whose redirections all succeed
    exits with the status of the last command substitution in its operands — 0 when there is none —
    and, like every such command, leaves the table alone (`command_restores`) -/
theorem absent_command_status (w : World) (t : FdTable) (k : Kind) (rs : List Redir) (prev : Nat)
    (hk : k = .empty ∨ k = .assign) (hne : rs ≠ []) (he : (performRedirs worldOracle w t rs).err = none) :
    (runCommand w t k rs prev).status = some ((csStatus rs).getD 0) ∧ (runCommand w t k rs prev).exited = none := by
  have hemp : rs.isEmpty = false := by cases rs with | nil => exact absurd rfl hne | cons _ _ => rfl
  rcases hk with rfl | rfl <;> simp [runCommand_eq, Kind.shape, runShape, hemp, he]

-- non-vacuity: `>$(echo /tmp/a; exit 3) 2>$(echo /tmp/m; exit 5)` exits with 5; with a plain third item still 5
example : (runCommand (stdWorld false) stdTable .empty [⟨1, .fileCs .fileOut 3 3⟩, ⟨2, .fileCs .fileOut 5 5⟩]).status = some 5 ∧
    csStatus [⟨1, .fileCs .fileOut 3 3⟩, ⟨2, .fileCs .fileOut 5 5⟩, ⟨0, .file .fileIn 3⟩] = some 5 := by decide +kernel

end YashModel.Redir
