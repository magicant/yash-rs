/-
  C09 — the driver's start state meets the hypotheses of the Spec-column theorems, so for driver runs they
  have no hypothesis left but the decidable `wfCheck` of the case header.
-/
import YashModel.Redir.Init
import YashModel.Redir.NestedTheorems
namespace YashModel.Redir
open YashModel.Generated.RedirConsts

theorem preopen_bounded (ps : List String) : ∀ (w : World) (t : FdTable) (w' : World) (t' : FdTable),
    Bounded w t → preopen w t ps = some (w', t') → Bounded w' t' := by
  induction ps with
  | nil => intro w t w' t' hb h; simp only [preopen, Option.some.injEq, Prod.mk.injEq] at h; obtain ⟨rfl, rfl⟩ := h; exact hb
  | cons p ps ih =>
    intro w t w' t' hb h
    unfold preopen at h
    split at h
    · split at h
      · refine ih _ _ _ _ ?_ h
        intro fd e hg
        simp only [FdTable.get_close] at hg
        split at hg
        · cases hg
        · exact hb fd e hg
      · refine ih _ _ _ _ ?_ h
        intro fd e hg
        simp only [FdTable.get_put] at hg
        simp only [List.length_append, List.length_singleton]
        split at hg
        · cases hg; simp
        · exact Nat.lt_succ_of_lt (hb fd e hg)
      · cases h
    · cases h

/-- ★ the start state of every driver run is `Bounded`: every descriptor refers to an existing description -/
theorem initState_bounded (nc : Bool) (lim : Option Nat) (pre : List String) (inter : Bool) (w : World) (t : FdTable)
    (h : initState nc lim pre inter = some (w, t)) : Bounded w t := by
  unfold initState at h
  split at h
  · rename_i w0 t0 hp
    simp only [Option.some.injEq, Prod.mk.injEq] at h
    obtain ⟨rfl, rfl⟩ := h
    exact fun fd e hg => (preopen_bounded pre _ _ _ _ (bounded_std nc inter) hp) fd e hg
  · cases h

/-- ★ `wfCheck` decides the hypothesis `WF` -/
theorem wfCheck_iff (t : FdTable) : wfCheck t = true ↔ WF t := by
  exact all_openFds t _

/-- ★ closed corollary for driver runs: for every case header whose limit is above every open descriptor
    (`wfCheck`, decidable — the generator never produces another) and every script of plain and nested
    commands, every Spec verdict the driver prints is `ok`; `WF` and `Bounded` hold of `initState` and are
    re-established by every command (`runCmd_wf`, `runCmd_bounded`) -/
theorem driver_spec_ok (nc : Bool) (lim : Option Nat) (pre : List String) (inter : Bool) (w : World) (t : FdTable)
    (cmds : List Cmd) (h : initState nc lim pre inter = some (w, t)) (hwf : wfCheck t = true) :
    ∀ p ∈ (runScript2 w t 0 cmds).zip cmds, specVerdictCmd p.1.1 p.2 p.1.2 = "ok" :=
  script2_spec_ok w t 0 cmds ((wfCheck_iff t).mp hwf) (initState_bounded nc lim pre inter w t h)

-- non-vacuity: the limit just above / at the highest open descriptor
example : wfCheck { stdTable with limit := some 3 } = true ∧ wfCheck { stdTable with limit := some 2 } = false ∧
    wfCheck ((stdTable.put 11 (some ⟨3, true⟩)).close 1) = true := by decide +kernel

end YashModel.Redir
