/-
  Spec for C09: what the property text says about one command, as a decidable check on the run
  (no mechanism: only the tables before / during / after are compared).

  * afterwards the descriptor table is exactly what it was before — whether the command succeeded,
    failed, or a redirection failed — except for a successful `exec`;
  * descriptors the shell holds for its own use while the command runs are ≥ 10 and CLOEXEC;
  * no descriptor ≥ 10 that was not open before is left open (also after `exec`);
  * no CLOEXEC descriptor below 10 is ever visible or left that was not there before.
-/
import YashModel.Redir.World
namespace YashModel.Redir

/-! ### the POSIX meaning of the operators (XCU 2.7 Redirection), declaratively -/

/-- `open(2)` arguments POSIX prescribes per file operator: `<` O_RDONLY; `>` and `>|`
    O_WRONLY|O_CREAT|O_TRUNC; `>>` O_WRONLY|O_CREAT|O_APPEND; `<>` O_RDWR|O_CREAT -/
def posixOpenArgs : FileOp → Generated.RedirConsts.OpenArgs
  | .fileIn => ⟨.ro, false, false, false, false⟩
  | .fileOut => ⟨.wo, true, true, false, false⟩
  | .fileClobber => ⟨.wo, true, true, false, false⟩
  | .fileAppend => ⟨.wo, true, false, true, false⟩
  | .fileInOut => ⟨.rw, true, false, false, false⟩

/-- the two ways `>` may open its file under `noclobber` without ever truncating an existing regular
    file: create it exclusively (O_CREAT|O_EXCL), or open what exists without O_TRUNC provided it
    turns out not to be a regular file -/
def NoclobberOpen {W : Type} (o : Oracle W) (w2 : W) (args : Generated.RedirConsts.OpenArgs) (ofd : Nat) : Prop :=
  args = ⟨.wo, true, false, false, true⟩ ∨ (args = ⟨.wo, false, false, false, false⟩ ∧ o.isRegular w2 ofd = false)

/-- What descriptor `r.fd` is after redirection `r` has been applied, in terms of the table `t`
    before it: a new, non-CLOEXEC descriptor on the open file description an `open` with the POSIX
    arguments of the operator returned; a non-CLOEXEC duplicate of descriptor `n`; closed; a
    descriptor on the here-document's temporary file.  Nothing else can succeed. -/
def Meaning {W : Type} (o : Oracle W) (t : FdTable) (r : Redir) (after : Option FdEntry) : Prop :=
  match r.body with
  | .file op path | .fileCs op path _ =>
    ∃ w1 w2 args ofd, o.resolve w1 { path := path, args := args } = (w2, .ok ofd) ∧
      after = some { ofd := ofd, cloexec := false } ∧
      (args = posixOpenArgs op ∨ (op = .fileOut ∧ (∃ w0, o.noclobber w0 = true) ∧ NoclobberOpen o w2 args ofd))
  | .dup input (.fd n) =>
    ∃ e0, t.get n = some e0 ∧ after = some { ofd := e0.ofd, cloexec := false } ∧
      (∃ w1, (if input then (o.access w1 e0.ofd).1 else (o.access w1 e0.ofd).2) = true)
  | .dup _ .closeIt => after = none
  | .hereDoc _ => ∃ w1, after = some { ofd := (o.tmpfile w1).2, cloexec := false }
  | _ => False

/-- same finite map (trailing empty slots do not count): every descriptor up to the longer slot list
    has the same entry (`sameTable_iff` in SpecTheorems.lean: this is `∀ fd, a.get fd = b.get fd`) -/
def sameTable (a b : FdTable) : Bool :=
  (List.range (max a.slots.length b.slots.length)).all fun fd => decide (a.get fd = b.get fd)

def internalOk (t : FdTable) (saved : List SavedFd) : Bool :=
  saved.all fun s => match s.save with
    | none => true
    | some sv => decide (10 ≤ sv) && t.isCloexec sv

def noExtraInternal (before after : FdTable) (allowed : List Fd) : Bool :=
  after.openFds.all fun (fd, _) => decide (fd < 10) || (before.get fd).isSome || allowed.contains fd

/-- no CLOEXEC descriptor below 10 appears that was not there before -/
def noLowCloexec (before t : FdTable) : Bool :=
  t.openFds.all fun (fd, e) => !(decide (fd < 10) && e.cloexec) || before.get fd == some e

/-- "redirections on `exec` persist": what the last redirection of the list asked for is there
    afterwards (a file on that descriptor, not CLOEXEC; a here-document; a closed descriptor) -/
def lastPersisted (before : FdTable) (rs : List Redir) (tr : Trace) : Bool :=
  match rs.getLast? with
  | none => true
  | some r =>
    match r.body with
    | .file _ p =>
      if p == 3 || p == 4 || p == 5 || p == 6 then
        match tr.t.get r.fd with
        | some e => (ofdAt tr.w e.ofd).file == p && !e.cloexec && before.get r.fd != some e
        | none => false
      else true
    | .hereDoc _ => (tr.t.get r.fd).isSome && tr.t.get r.fd != before.get r.fd
    | .dup _ .closeIt => (tr.t.get r.fd).isNone
    | _ => true

def specVerdict (before : FdTable) (k : Kind) (rs : List Redir) (tr : Trace) : String :=
  -- all redirections succeeded (a redirection error gives 2): on `exec` they persist whether or not
  -- an operand could be invoked
  let persists := k.isExec && tr.status != some 2 && tr.exited != some 2
  if !persists && !sameTable before tr.t then "FAIL:table-not-restored"
  else if !noExtraInternal before tr.t (if persists then rs.map (·.fd) else []) then "FAIL:descriptor-left-open"
  else if persists && !lastPersisted before rs tr then "FAIL:exec-redirection-did-not-persist"
  else if !noLowCloexec before tr.t then "FAIL:cloexec-below-10-left"
  else if !(match tr.steps with
      | some (steps, _) => steps.all fun (_, td) => noLowCloexec before td
      | none => true) then "FAIL:cloexec-below-10-after-a-step"
  else if !(match tr.steps with
      | some (steps, none) => (match steps.getLast? with
          | some (_, td) => internalOk td tr.saved
          | none => true)
      | _ => true) then "FAIL:internal-descriptor-of-the-guard"
  else match tr.during with
    | some (_, td) =>
      if !internalOk td (tr.saved ++ [⟨0, tr.script⟩]) then "FAIL:internal-descriptor"
      else if !noLowCloexec before td then "FAIL:cloexec-below-10-visible"
      else "ok"
    | none => "ok"

end YashModel.Redir
