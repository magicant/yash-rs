/-
  Descriptor table of one process, as the virtual system has it
  (`yash-env/src/system/virtual/process.rs`: `Process::fds : BTreeMap<Fd, FdBody>`, `set_fd`,
  `open_fd_ge`, `open_fd`, `close_fd`, `min_unused_fd`; `yash-env/src/system/virtual.rs`: `dup`, `dup2`,
  `close`, `fcntl_getfd`).

  Import-free and executable.  The finite map `Fd → (open file description id × CLOEXEC)` is a list of
  slots indexed by the descriptor number; two tables are the same finite map when `get` agrees
  everywhere (`Equiv` in Table.lean) — trailing empty slots carry no meaning.  `limit` is the soft
  `RLIMIT_NOFILE` of the process (`none` = `INFINITY`): `set_fd` refuses a descriptor ≥ limit.

  (DESIGN.md names this file `Common/FdTable.lean`; it lives in the Redir area because builders do
  not write into `Common/`.)
-/
namespace YashModel.Redir

abbrev Fd := Nat

/-- `FdBody`: the open file description (by identity) and the descriptor flag -/
structure FdEntry where
  ofd : Nat
  cloexec : Bool
  deriving DecidableEq, Repr, Inhabited

def getAt {α : Type} : List (Option α) → Nat → Option α
  | [], _ => none
  | a :: _, 0 => a
  | _ :: t, n+1 => getAt t n

def setAt {α : Type} : List (Option α) → Nat → Option α → List (Option α)
  | [], 0, v => [v]
  | [], n+1, v => none :: setAt [] n v
  | _ :: t, 0, v => v :: t
  | a :: t, n+1, v => a :: setAt t n v

structure FdTable where
  slots : List (Option FdEntry) := []
  limit : Option Nat := none
  deriving DecidableEq, Repr, Inhabited

namespace FdTable

/-- `Process::get_fd` -/
def get (t : FdTable) (fd : Fd) : Option FdEntry := getAt t.slots fd

/-- the test in `Process::set_fd`: `limit == INFINITY || fd < limit` -/
def inLimit (t : FdTable) (fd : Fd) : Bool :=
  match t.limit with
  | none => true
  | some l => decide (fd < l)

/-- unconditional slot update (the `BTreeMap::insert` / `remove` underneath) -/
def put (t : FdTable) (fd : Fd) (v : Option FdEntry) : FdTable := { t with slots := setAt t.slots fd v }

/-- `Process::set_fd`: `none` = `Err(body)` (descriptor not below the soft limit) -/
def setFd (t : FdTable) (fd : Fd) (e : FdEntry) : Option FdTable :=
  if t.inLimit fd then some (t.put fd (some e)) else none

/-- `Process::close_fd` (`Close::close` never fails in the virtual system) -/
def close (t : FdTable) (fd : Fd) : FdTable := t.put fd none

/-- search of `min_unused_fd`: the first free slot at or after `fd`, looking at `fuel` slots -/
def minUnusedFrom (slots : List (Option FdEntry)) : Nat → Nat → Fd
  | fd, 0 => fd
  | fd, fuel+1 => if (getAt slots fd).isNone then fd else minUnusedFrom slots (fd+1) fuel

/-- `min_unused_fd(min, fds.keys())` -/
def minUnused (t : FdTable) (min : Fd) : Fd := minUnusedFrom t.slots min (t.slots.length - min)

/-- `Process::open_fd_ge`; `denied` is an allocation failure decided outside the table
    (system-wide ENFILE or whatever else the oracle strikes with). `none` = no descriptor. -/
def openFdGe (t : FdTable) (min : Fd) (e : FdEntry) (denied : Bool) : Option (Fd × FdTable) :=
  if !denied && t.inLimit (t.minUnused min) then some (t.minUnused min, t.put (t.minUnused min) (some e))
  else none

/-- `fcntl_getfd(fd)` contains `CloseOnExec` (an unopened descriptor has no flag: EBADF) -/
def isCloexec (t : FdTable) (fd : Fd) : Bool :=
  match t.get fd with
  | some e => e.cloexec
  | none => false

inductive DupErr where
  | EBADF | EMFILE
  deriving DecidableEq, Repr

/-- `Dup::dup(from, to_min, flags)` -/
def dup (t : FdTable) (src min : Fd) (cloexec : Bool) (denied : Bool) : Except DupErr (Fd × FdTable) :=
  match t.get src with
  | none => .error .EBADF
  | some e =>
    match t.openFdGe min { ofd := e.ofd, cloexec := cloexec } denied with
    | none => .error .EMFILE
    | some r => .ok r

/-- `Dup::dup2(from, to)`: `from == to` changes nothing (the flag stays); otherwise the new
    descriptor has no flags; `none` = EBADF (source not open, or target not below the limit) -/
def dup2 (t : FdTable) (src dst : Fd) : Option FdTable :=
  match t.get src with
  | none => none
  | some e => if src = dst then some t else t.setFd dst { ofd := e.ofd, cloexec := false }

/-- open descriptors in increasing order -/
def openFds (t : FdTable) : List (Fd × FdEntry) :=
  let rec go : List (Option FdEntry) → Nat → List (Fd × FdEntry)
    | [], _ => []
    | none :: r, i => go r (i+1)
    | some e :: r, i => (i, e) :: go r (i+1)
  go t.slots 0

end FdTable
end YashModel.Redir
