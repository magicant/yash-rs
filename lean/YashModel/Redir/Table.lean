/-
  C09: the descriptor table as a finite map: `get` after `put` / `close` / `dup2`, the lowest-free search, `openFds`,
  the CLOEXEC flag; `Equiv` (same finite map), `WF` (every open descriptor is below the soft limit).
-/
import YashModel.Common.Fuel
import YashModel.Redir.FdTable
namespace YashModel.Redir

theorem getAt_nil {α : Type} (j : Nat) : getAt ([] : List (Option α)) j = none := by
  cases j <;> rfl

theorem getAt_setAt {α : Type} (l : List (Option α)) (i j : Nat) (v : Option α) :
    getAt (setAt l i v) j = if j = i then v else getAt l j := by
  induction l generalizing i j with
  | nil =>
    induction i generalizing j with
    | zero => cases j <;> simp [setAt, getAt]
    | succ n ih =>
      cases j with
      | zero => simp [setAt, getAt]
      | succ m => simp [setAt, getAt, ih]
  | cons a t ih =>
    cases i with
    | zero => cases j <;> simp [setAt, getAt]
    | succ n =>
      cases j with
      | zero => simp [setAt, getAt]
      | succ m => simp [setAt, getAt, ih]

theorem getAt_ge_length {α : Type} (l : List (Option α)) (j : Nat) (h : l.length ≤ j) : getAt l j = none := by
  induction l generalizing j with
  | nil => exact getAt_nil j
  | cons a t ih =>
    cases j with
    | zero => simp at h
    | succ m => simp [getAt]; exact ih m (by simpa using h)

namespace FdTable

@[simp] theorem get_put (t : FdTable) (fd fd' : Fd) (v : Option FdEntry) :
    (t.put fd v).get fd' = if fd' = fd then v else t.get fd' := by
  simp [put, get, getAt_setAt]

@[simp] theorem limit_put (t : FdTable) (fd : Fd) (v : Option FdEntry) : (t.put fd v).limit = t.limit := rfl

@[simp] theorem inLimit_put (t : FdTable) (fd fd' : Fd) (v : Option FdEntry) :
    (t.put fd v).inLimit fd' = t.inLimit fd' := rfl

@[simp] theorem get_close (t : FdTable) (fd fd' : Fd) : (t.close fd).get fd' = if fd' = fd then none else t.get fd' :=
  get_put t fd fd' none

theorem close_of_frame {t t' : FdTable} {n : Fd} (hfree : t.get n = none) (hfr : ∀ fd, fd ≠ n → t'.get fd = t.get fd)
    (fd : Fd) : (t'.close n).get fd = t.get fd := by
  rw [get_close]
  split
  · next h => rw [h, hfree]
  · next h => exact hfr fd h

theorem minUnusedFrom_spec (slots : List (Option FdEntry)) (fd fuel : Nat) (h : slots.length ≤ fd + fuel) :
    fd ≤ minUnusedFrom slots fd fuel ∧ getAt slots (minUnusedFrom slots fd fuel) = none := by
  rcases Common.lowest_spec (fun d => (getAt slots d).isNone) id id (fun n d => minUnusedFrom slots d n) (fun _ => rfl)
    (fun _ _ => rfl) fuel fd with ⟨r, e, h1, _, h3, _⟩ | ⟨e, _⟩
  · exact e ▸ ⟨h1, Option.isNone_iff_eq_none.1 h3⟩
  · exact e ▸ ⟨Nat.le_add_right _ _, getAt_ge_length _ _ h⟩

theorem minUnused_ge (t : FdTable) (min : Fd) : min ≤ t.minUnused min := (minUnusedFrom_spec _ _ _ (by omega)).1

theorem minUnused_free (t : FdTable) (min : Fd) : t.get (t.minUnused min) = none :=
  (minUnusedFrom_spec _ _ _ (by omega)).2

theorem openFdGe_some {t : FdTable} {min : Fd} {e : FdEntry} {denied : Bool} {fd : Fd} {t' : FdTable}
    (h : t.openFdGe min e denied = some (fd, t')) :
    min ≤ fd ∧ t.get fd = none ∧ t.inLimit fd = true ∧ t' = t.put fd (some e) := by
  unfold openFdGe at h
  split at h
  · rename_i hc
    simp only [Option.some.injEq, Prod.mk.injEq] at h
    obtain ⟨h1, h2⟩ := h
    subst h1
    refine ⟨minUnused_ge t min, minUnused_free t min, ?_, h2.symm⟩
    simp only [Bool.and_eq_true] at hc
    exact hc.2
  · cases h

theorem dup2_of_get {t : FdTable} {src dst : Fd} {e : FdEntry} (h : t.get src = some e) (hne : src ≠ dst) :
    t.dup2 src dst = if t.inLimit dst then some (t.put dst (some { ofd := e.ofd, cloexec := false })) else none := by
  simp only [FdTable.dup2, h, hne, ↓reduceIte, FdTable.setFd]

/-- `dup2` with its result discarded, as `undo_redirs` calls it: a non-CLOEXEC entry on the source's description at the
    target, or — source closed, source = target, target not below the limit — nothing -/
theorem dup2_getD (t : FdTable) (s d : Fd) : (t.dup2 s d).getD t =
    match t.get s with
    | some e => if s ≠ d ∧ t.inLimit d = true then t.put d (some ⟨e.ofd, false⟩) else t
    | none => t := by
  unfold dup2 setFd
  cases t.get s with
  | none => rfl
  | some e =>
    by_cases hsd : s = d
    · simp [hsd]
    · by_cases hl : t.inLimit d = true <;> simp [hsd, hl]

end FdTable

theorem isCloexec_of_get {t : FdTable} {fd : Fd} {e : FdEntry} (h : t.get fd = some e) :
    t.isCloexec fd = e.cloexec := by simp [FdTable.isCloexec, h]

theorem isCloexec_of_none {t : FdTable} {fd : Fd} (h : t.get fd = none) :
    t.isCloexec fd = false := by simp [FdTable.isCloexec, h]

theorem isCloexec_congr {a b : FdTable} {fd : Fd} (h : a.get fd = b.get fd) : a.isCloexec fd = b.isCloexec fd := by
  simp [FdTable.isCloexec, h]

theorem isCloexec_put_ne (t : FdTable) (x fd : Fd) (v : Option FdEntry) (h : fd ≠ x) :
    (t.put x v).isCloexec fd = t.isCloexec fd :=
  isCloexec_congr (by simp [h])

theorem isCloexec_close (t : FdTable) (x fd : Fd) :
    (t.close x).isCloexec fd = true ↔ fd ≠ x ∧ t.isCloexec fd = true := by
  by_cases h : fd = x
  · rw [h, isCloexec_of_none (by simp)]; simp
  · rw [FdTable.close, isCloexec_put_ne _ _ _ _ h]; simp [h]

theorem openFds_go_mem (l : List (Option FdEntry)) (i : Nat) (fd : Nat) (e : FdEntry) :
    (fd, e) ∈ FdTable.openFds.go l i ↔ ∃ j, fd = i + j ∧ getAt l j = some e := by
  induction l generalizing i with
  | nil => simp [FdTable.openFds.go, getAt_nil]
  | cons a r ih =>
    cases a with
    | none =>
      simp only [FdTable.openFds.go, ih]
      constructor
      · rintro ⟨j, h1, h2⟩; exact ⟨j+1, by omega, by simpa [getAt] using h2⟩
      · rintro ⟨j, h1, h2⟩
        cases j with
        | zero => simp [getAt] at h2
        | succ j => exact ⟨j, by omega, by simpa [getAt] using h2⟩
    | some e0 =>
      simp only [FdTable.openFds.go, List.mem_cons, ih]
      constructor
      · rintro (h | ⟨j, h1, h2⟩)
        · cases h; exact ⟨0, rfl, rfl⟩
        · exact ⟨j+1, by omega, by simpa [getAt] using h2⟩
      · rintro ⟨j, h1, h2⟩
        cases j with
        | zero => left; simp only [getAt, Option.some.injEq] at h2; simp [h1, h2]
        | succ j => right; exact ⟨j, by omega, by simpa [getAt] using h2⟩

theorem mem_openFds (t : FdTable) (fd : Fd) (e : FdEntry) : (fd, e) ∈ t.openFds ↔ t.get fd = some e := by
  unfold FdTable.openFds FdTable.get
  rw [openFds_go_mem]
  constructor
  · rintro ⟨j, h1, h2⟩; rw [h1, Nat.zero_add]; exact h2
  · intro h; exact ⟨fd, by omega, h⟩

theorem all_openFds (t : FdTable) (p : Fd × FdEntry → Bool) :
    t.openFds.all p = true ↔ ∀ fd e, t.get fd = some e → p (fd, e) = true := by
  rw [List.all_eq_true]
  exact ⟨fun h fd e hg => h _ ((mem_openFds t fd e).mpr hg), fun h ⟨fd, e⟩ hm => h fd e ((mem_openFds t fd e).mp hm)⟩

def Equiv (a b : FdTable) : Prop := a.limit = b.limit ∧ ∀ fd, a.get fd = b.get fd

theorem Equiv.refl (a : FdTable) : Equiv a a := ⟨rfl, fun _ => rfl⟩
theorem Equiv.symm {a b : FdTable} (h : Equiv a b) : Equiv b a := ⟨h.1.symm, fun fd => (h.2 fd).symm⟩
theorem Equiv.trans {a b c : FdTable} (h1 : Equiv a b) (h2 : Equiv b c) : Equiv a c :=
  ⟨h1.1.trans h2.1, fun fd => (h1.2 fd).trans (h2.2 fd)⟩

/-- every open descriptor is below the soft limit (true of any process that has not lowered its
    limit under a descriptor it already holds) -/
def WF (t : FdTable) : Prop := ∀ fd e, t.get fd = some e → t.inLimit fd = true

theorem inLimit_congr {a b : FdTable} (h : a.limit = b.limit) (fd : Fd) : a.inLimit fd = b.inLimit fd := by
  simp [FdTable.inLimit, h]

theorem WF.congr {a b : FdTable} (h : Equiv a b) (hb : WF b) : WF a := by
  intro fd e he
  rw [inLimit_congr h.1]
  exact hb fd e (by rw [← h.2 fd]; exact he)

theorem WF.put_none {t : FdTable} (h : WF t) (fd : Fd) : WF (t.put fd none) := by
  intro fd' e he
  simp only [FdTable.get_put] at he
  split at he
  · cases he
  · exact h fd' e he

theorem WF.put_some {t : FdTable} (h : WF t) (fd : Fd) (e : FdEntry) (hl : t.inLimit fd = true) :
    WF (t.put fd (some e)) := by
  intro fd' e' he
  simp only [FdTable.get_put] at he
  split at he
  · rename_i heq; subst heq; exact hl
  · exact h fd' e' he

theorem Equiv.put {a b : FdTable} (h : Equiv a b) (fd : Fd) (v : Option FdEntry) :
    Equiv (a.put fd v) (b.put fd v) :=
  ⟨h.1, fun fd' => by simp [h.2 fd']⟩

end YashModel.Redir
