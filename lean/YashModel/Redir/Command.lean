/-
  `runCommand` (World.lean) case by case: the twenty-one command kinds use their guard in five ways
  (`Shape`); `runCommand_eq` says so, and what a trace carries and what the command does to the world are read off
  the five shapes.
-/
import YashModel.Redir.WorldInv
namespace YashModel.Redir
open YashModel.Generated.RedirConsts

@[simp] theorem endOrGoOn_w (w : World) (t : FdTable) (st : Nat) (saved : List SavedFd) : (endOrGoOn w t st saved).w = w := by
  unfold endOrGoOn; split <;> rfl

@[simp] theorem endOrGoOn_during (w : World) (t : FdTable) (st : Nat) (saved : List SavedFd) :
    (endOrGoOn w t st saved).during = none := by
  unfold endOrGoOn; split <;> rfl

@[simp] theorem endOrGoOn_steps (w : World) (t : FdTable) (st : Nat) (saved : List SavedFd) :
    (endOrGoOn w t st saved).steps = none := by
  unfold endOrGoOn; split <;> rfl

/-- the ways a command kind uses its guard -/
inductive Shape where
  /-- no command word: the list is performed in a subshell -/
  | absent (assign : Bool)
  /-- the harness's guard driver, ending with `preserve_redirs` (`keep`, when every item succeeded) or
      `undo_redirs` -/
  | guard (keep : Bool)
  /-- a body that looks at the redirected table and ends with status `st` -/
  | body (st : Nat)
  /-- `.` reading the script at `path` -/
  | script (path : Nat)
  /-- nothing looks at the table: an optional message, the guard preserved (`retain`) or undone, status
      `st`, diverting or not -/
  | bare (retain msg divert : Bool) (st : Nat)

def Kind.shape : Kind → Shape
  | .empty => .absent false
  | .assign => .absent true
  | .guardUndo => .guard false
  | .guardKeep => .guard true
  | .exec | .commandExec => .bare true false false 0
  | .execNotFound | .commandExecNotFound => .bare true true true 127
  | .execNoExec => .bare true true true 126
  | .colon => .bare false false false 0
  | .notFound => .bare false true false 127
  | .external => .bare false true false 126
  | .execBadOption => .bare false true true 2
  | .dot => .script 10
  | .dotMissing => .script pathEnotdir
  | .funcRet => .body 3
  | _ => .body 0

def Shape.retains : Shape → Bool
  | .guard keep => keep
  | .bare retain _ _ _ => retain
  | _ => false

theorem Kind.retains_shape (k : Kind) : k.shape.retains = k.isExec := by cases k <;> rfl

/-- a guarded command: `ok` when the whole list went through, otherwise the message, the list undone and
    status 2 (a special built-in and a failed expansion divert) -/
def GuardRun.orFail (g : GuardRun World) (special : Bool) (ok : Trace) : Trace :=
  match g.err with
  | some e =>
    if special || e == .expansion then endOrGoOn (g.w.message g.t) (undoRedirs g.t g.saved) 2 []
    else { w := g.w.message g.t, t := undoRedirs g.t g.saved, status := some 2 }
  | none => ok

def runShape (w : World) (t : FdTable) (special : Bool) (rs : List Redir) (prev : Nat) (s : Shape) : Trace :=
  let g := performRedirs worldOracle w t rs
  match s with
  | .absent a =>
    if rs.isEmpty then { w := w, t := t, status := some (if a then 0 else prev) } else
    match g.err with
    | some _ => { w := g.w.message g.t, t := t, status := some 2 }
    | none => { w := g.w, t := t, status := some ((csStatus rs).getD 0) }
  | .guard keep =>
    { w := g.w,
      t := if keep && g.err.isNone then preserveRedirs g.t g.saved else undoRedirs g.t g.saved,
      status := some (if g.err.isSome then 2 else 0), saved := g.saved,
      steps := some (performSteps worldOracle w t rs, g.err), cs := csStatus (rs.take g.saved.length) }
  | .bare retain msg divert st => g.orFail special <|
    let w' := if msg then g.w.message g.t else g.w
    let t' := if retain then preserveRedirs g.t g.saved else undoRedirs g.t g.saved
    if divert then endOrGoOn w' t' st g.saved else { w := w', t := t', status := some st, saved := g.saved }
  | .script path => g.orFail special <|
    let r := openScript worldOracle g.w g.t path
    match r.2.2 with
    | none => endOrGoOn (r.1.message r.2.1) (undoRedirs r.2.1 g.saved) 1 g.saved
    | some fd =>
      { w := (probeIO r.1 r.2.1).1, t := undoRedirs (r.2.1.close fd) g.saved, during := some (r.1, r.2.1),
        wrote := some (probeIO r.1 r.2.1).2.1, readRes := some (probeIO r.1 r.2.1).2.2, status := some 0,
        saved := g.saved, script := some fd }
  | .body st => g.orFail special
    { w := (probeIO g.w g.t).1, t := undoRedirs g.t g.saved, during := some (g.w, g.t),
      wrote := some (probeIO g.w g.t).2.1, readRes := some (probeIO g.w g.t).2.2, status := some st, saved := g.saved }

theorem runCommand_eq (w : World) (t : FdTable) (k : Kind) (rs : List Redir) (prev : Nat) :
    runCommand w t k rs prev = runShape w t k.isSpecial rs prev k.shape := by
  cases k <;> rfl

theorem GuardRun.orFail_err {g : GuardRun World} {e : ErrCause} (he : g.err = some e) (special : Bool) (ok : Trace) :
    g.orFail special ok = endOrGoOn (g.w.message g.t) (undoRedirs g.t g.saved) 2 [] ∨
    g.orFail special ok = { w := g.w.message g.t, t := undoRedirs g.t g.saved, status := some 2 } := by
  unfold GuardRun.orFail; rw [he]; simp only; split
  · exact .inl rfl
  · exact .inr rfl

theorem GuardRun.orFail_ok {g : GuardRun World} (he : g.err = none) (special : Bool) (ok : Trace) :
    g.orFail special ok = ok := by
  unfold GuardRun.orFail; rw [he]

theorem GuardRun.orFail_during {g : GuardRun World} {special : Bool} {ok : Trace} {x : World × FdTable}
    (h : (g.orFail special ok).during = some x) : g.err = none ∧ ok.during = some x := by
  cases he : g.err with
  | none => rw [GuardRun.orFail_ok he] at h; exact ⟨rfl, h⟩
  | some e =>
    rcases GuardRun.orFail_err he special ok with h' | h' <;> rw [h'] at h
    · rw [endOrGoOn_during] at h; cases h
    · cases h

theorem GuardRun.orFail_steps {g : GuardRun World} {special : Bool} {ok : Trace}
    {x : List (World × FdTable) × Option ErrCause} (h : (g.orFail special ok).steps = some x) :
    g.err = none ∧ ok.steps = some x := by
  cases he : g.err with
  | none => rw [GuardRun.orFail_ok he] at h; exact ⟨rfl, h⟩
  | some e =>
    rcases GuardRun.orFail_err he special ok with h' | h' <;> rw [h'] at h
    · rw [endOrGoOn_steps] at h; cases h
    · cases h

theorem GuardRun.orFail_expansion {g : GuardRun World} (he : g.err = some .expansion) (special : Bool) (ok : Trace) :
    g.orFail special ok = endOrGoOn (g.w.message g.t) (undoRedirs g.t g.saved) 2 [] := by
  unfold GuardRun.orFail; rw [he]; cases special <;> rfl

theorem GuardRun.orFail_of {g : GuardRun World} {P : World → FdTable → Prop} (special : Bool) (ok : Trace)
    (hfail : g.err ≠ none → P (g.w.message g.t) (undoRedirs g.t g.saved)) (hok : g.err = none → P ok.w ok.t) :
    P (g.orFail special ok).w (g.orFail special ok).t := by
  cases he : g.err with
  | none => rw [GuardRun.orFail_ok he]; exact hok he
  | some e =>
    have hf := hfail (by rw [he]; nofun)
    rcases GuardRun.orFail_err he special ok with h' | h' <;> rw [h']
    · rw [endOrGoOn_w, endOrGoOn_t]; exact hf
    · exact hf

theorem runCommand_guarded (w : World) (t : FdTable) (k : Kind) (rs : List Redir) (prev : Nat)
    (hk : k ≠ .empty ∧ k ≠ .assign ∧ k ≠ .guardUndo ∧ k ≠ .guardKeep) :
    ∃ ok, runCommand w t k rs prev = (performRedirs worldOracle w t rs).orFail k.isSpecial ok := by
  obtain ⟨h1, h2, h3, h4⟩ := hk
  -- each of the seventeen other kinds unfolds to `orFail` applied to its own `ok` trace; the four excluded ones contradict `hk`
  cases k <;> first | exact ⟨_, rfl⟩ | contradiction

/-- the table a body sees is the one its guard stands at, but for the descriptor `.` reads its script from (if any):
    free where the guard stands, at or above `MIN_INTERNAL_FD`, CLOEXEC -/
theorem runCommand_during (w : World) (t : FdTable) (k : Kind) (rs : List Redir) (prev : Nat)
    (wd : World) (td : FdTable) (h : (runCommand w t k rs prev).during = some (wd, td)) :
    (performRedirs worldOracle w t rs).err = none ∧
    (runCommand w t k rs prev).saved = (performRedirs worldOracle w t rs).saved ∧
    (∀ fd, (runCommand w t k rs prev).script ≠ some fd → td.get fd = (performRedirs worldOracle w t rs).t.get fd) ∧
    ∀ n, (runCommand w t k rs prev).script = some n →
      minInternalFd ≤ n ∧ (performRedirs worldOracle w t rs).t.get n = none ∧ td.isCloexec n = true := by
  rw [runCommand_eq] at h ⊢
  generalize k.shape = s at h ⊢
  cases s with
  | absent a => simp only [runShape] at h; split at h; cases h; split at h <;> cases h
  | guard keep => cases h
  | bare retain msg divert st =>
    simp only [runShape] at h
    obtain ⟨_, h⟩ := GuardRun.orFail_during h
    split at h
    · rw [endOrGoOn_during] at h; cases h
    · cases h
  | script p =>
    simp only [runShape] at h ⊢
    obtain ⟨he, h⟩ := GuardRun.orFail_during h
    rw [GuardRun.orFail_ok he]
    split at h
    · rw [endOrGoOn_during] at h; cases h
    · next n hn =>
      cases h
      obtain ⟨h1, h2, h3, h4⟩ := (openScript_spec worldOracle _ _ p).2.2 n hn
      exact ⟨he, rfl, fun fd hfd => h4 fd fun e => hfd (e ▸ rfl), fun m hm => by cases hm; exact ⟨h1, h2, h3⟩⟩
  | body st =>
    simp only [runShape] at h ⊢
    obtain ⟨he, h⟩ := GuardRun.orFail_during h
    rw [GuardRun.orFail_ok he]
    cases h
    exact ⟨he, rfl, fun _ _ => rfl, nofun⟩

theorem runCommand_steps (w : World) (t : FdTable) (k : Kind) (rs : List Redir) (prev : Nat)
    (steps : List (World × FdTable)) (cause : Option ErrCause)
    (h : (runCommand w t k rs prev).steps = some (steps, cause)) :
    steps = performSteps worldOracle w t rs ∧ cause = (performRedirs worldOracle w t rs).err ∧
    (runCommand w t k rs prev).saved = (performRedirs worldOracle w t rs).saved := by
  rw [runCommand_eq] at h ⊢
  generalize k.shape = s at h ⊢
  cases s with
  | guard keep => cases h; exact ⟨rfl, rfl, rfl⟩
  | absent a => simp only [runShape] at h; split at h; cases h; split at h <;> cases h
  | body st => obtain ⟨_, h⟩ := GuardRun.orFail_steps h; cases h
  | bare retain msg divert st =>
    simp only [runShape] at h
    obtain ⟨_, h⟩ := GuardRun.orFail_steps h
    split at h
    · rw [endOrGoOn_steps] at h; cases h
    · cases h
  | script p =>
    simp only [runShape] at h
    obtain ⟨_, h⟩ := GuardRun.orFail_steps h
    split at h
    · rw [endOrGoOn_steps] at h; cases h
    · cases h

theorem endOrGoOn_persists (w : World) (t : FdTable) (st : Nat) (saved : List SavedFd) :
    ((endOrGoOn w t st saved).status != some 2 && (endOrGoOn w t st saved).exited != some 2) = (some st != some 2) := by
  unfold endOrGoOn; split
  · exact Bool.and_true _
  · exact Bool.true_and _

/-- the Spec column's "persists" test (exec family and neither `$?` nor the exit status is 2) holds
    exactly when the kind retains its redirections and every one of them succeeded -/
theorem persists_iff (w : World) (t : FdTable) (k : Kind) (rs : List Redir) (prev : Nat) :
    (k.isExec && (runCommand w t k rs prev).status != some 2 && (runCommand w t k rs prev).exited != some 2) =
      (k.isExec && (performRedirs worldOracle w t rs).err.isNone) := by
  rw [runCommand_eq, ← Kind.retains_shape]
  generalize hs : k.shape = s
  cases s with
  | guard keep =>
    cases keep
    · rfl
    · simp only [runShape, Shape.retains]; cases (performRedirs worldOracle w t rs).err <;> rfl
  | absent | script | body => rfl
  | bare retain msg divert st =>
    cases retain
    · rfl
    · have hst : (some st != some 2) = true := by cases k <;> cases hs <;> rfl
      simp only [runShape, Shape.retains, Bool.true_and]
      cases he : (performRedirs worldOracle w t rs).err with
      | some e =>
        rcases GuardRun.orFail_err he k.isSpecial _ with h' | h' <;> rw [h']
        · rw [endOrGoOn_persists]; rfl
        · rfl
      | none =>
        rw [GuardRun.orFail_ok he]
        cases divert
        · exact (Bool.and_true _).trans hst
        · simp only [↓reduceIte]; rw [endOrGoOn_persists]; exact hst

theorem runCommand_stable (w : World) (t : FdTable) (k : Kind) (rs : List Redir) (prev : Nat) :
    World.Stable w (runCommand w t k rs prev).w := by
  have hg : World.Stable w (performRedirs worldOracle w t rs).w := performRedirs_inv worldOracle_stable w t rs
  have hm : World.Stable w ((performRedirs worldOracle w t rs).w.message (performRedirs worldOracle w t rs).t) :=
    hg.trans (World.message_stable _ _)
  have guarded : ∀ ok : Trace, ((performRedirs worldOracle w t rs).err = none → World.Stable w ok.w) →
      World.Stable w ((performRedirs worldOracle w t rs).orFail k.isSpecial ok).w :=
    fun ok hok => GuardRun.orFail_of (P := fun w' _ => World.Stable w w') _ ok (fun _ => hm) hok
  rw [runCommand_eq]
  generalize k.shape = s
  cases s with
  | absent a =>
    simp only [runShape]
    split
    · exact .refl w
    · split
      · exact hm
      · exact hg
  | guard keep => exact hg
  | body st => exact guarded _ (fun _ => hg.trans (probeIO_stable _ _))
  | bare retain msg divert st =>
    refine guarded _ (fun _ => ?_)
    have hw : World.Stable w (if msg = true then (performRedirs worldOracle w t rs).w.message
        (performRedirs worldOracle w t rs).t else (performRedirs worldOracle w t rs).w) := by
      split
      · exact hm
      · exact hg
    simp only
    split
    · rw [endOrGoOn_w]; exact hw
    · exact hw
  | script p =>
    refine guarded _ (fun _ => ?_)
    have hs := hg.trans ((openScript_reach worldOracle (performRedirs worldOracle w t rs).w
      (performRedirs worldOracle w t rs).t p).inv worldOracle_stable)
    simp only
    split
    · rw [endOrGoOn_w]; exact hs.trans (World.message_stable _ _)
    · exact hs.trans (probeIO_stable _ _)

theorem ite_message_ofds (c : Bool) (w : World) (t : FdTable) : (if c = true then w.message t else w).ofds = w.ofds := by
  split
  · exact message_ofds ..
  · rfl

theorem runCommand_exec_ofds (w : World) (t : FdTable) (k : Kind) (rs : List Redir) (prev : Nat)
    (hk : k.isExec = true) (h : (performRedirs worldOracle w t rs).err = none) :
    (runCommand w t k rs prev).w.ofds = (performRedirs worldOracle w t rs).w.ofds := by
  rw [runCommand_eq]
  rw [← Kind.retains_shape] at hk
  generalize k.shape = s at hk ⊢
  cases s with
  | absent | script | body => cases hk
  | guard keep => rfl
  | bare retain msg divert st =>
    simp only [runShape, GuardRun.orFail_ok h]
    split
    · rw [endOrGoOn_w]; exact ite_message_ofds ..
    · exact ite_message_ofds ..

end YashModel.Redir
