/-
  C09 — end-to-end property theorems: every command the driver runs leaves the table restored or, for the `exec`
  family, preserved, and meets `CommandSound` (whole scripts: NestedTheorems.lean); counter-models of three wrong
  readings of the code; and, for every oracle (not only the driver's), the POSIX meaning of each operator.
-/
import YashModel.Redir.Theorems
import YashModel.Redir.Meaning
namespace YashModel.Redir
open YashModel.Generated.RedirConsts

theorem runCommand_table (w : World) (t : FdTable) (k : Kind) (rs : List Redir) (prev : Nat) (hw : WF t) :
    Equiv (runCommand w t k rs prev).t t ∨
    (k.isExec = true ∧ (performRedirs worldOracle w t rs).err = none ∧
      (runCommand w t k rs prev).t =
        preserveRedirs (performRedirs worldOracle w t rs).t (performRedirs worldOracle w t rs).saved) := by
  by_cases hx : k.isExec = true ∧ (performRedirs worldOracle w t rs).err = none
  · exact .inr ⟨hx.1, hx.2, exec_persists w t k rs prev hx.1 hx.2⟩
  · exact .inl (command_restores w t k rs prev hw (fun hk he => hx ⟨hk, he⟩))

theorem runCommand_wf (w : World) (t : FdTable) (k : Kind) (rs : List Redir) (prev : Nat) (hw : WF t) :
    WF (runCommand w t k rs prev).t := by
  rcases runCommand_table w t k rs prev hw with hr | ⟨_, _, ht⟩
  · exact WF.congr hr hw
  · rw [ht]; exact (performRedirs_wf _ _ _ _ hw).preserveRedirs _

theorem runCommand_none_left (w : World) (t : FdTable) (k : Kind) (rs : List Redir) (prev : Nat) (hw : WF t)
    (fd : Fd) (h : (runCommand w t k rs prev).t.isCloexec fd = true) : t.isCloexec fd = true := by
  rcases runCommand_table w t k rs prev hw with hr | ⟨_, _, ht⟩
  · rw [← isCloexec_congr (hr.2 fd)]; exact h
  · -- what `preserve_redirs` leaves CLOEXEC is no saved copy: by `internal_only` it was CLOEXEC before
    rw [ht] at h
    rcases preserveRedirs_get (performRedirs worldOracle w t rs).t (performRedirs worldOracle w t rs).saved fd with
      hn | ⟨hns, hg⟩
    · rw [isCloexec_of_none hn] at h; cases h
    · rw [isCloexec_congr hg] at h
      exact (internal_only worldOracle w t rs fd h).resolve_right fun ⟨s, hs, he⟩ => hns s hs he

theorem runCommand_keeps_cloexec (w : World) (t : FdTable) (k : Kind) (rs : List Redir) (prev : Nat) (hw : WF t) :
    (runCommand w t k rs prev).t.limit = t.limit ∧
    ∀ x, t.isCloexec x = true → (runCommand w t k rs prev).t.get x = t.get x := by
  rcases runCommand_table w t k rs prev hw with hr | ⟨_, _, ht⟩
  · exact ⟨hr.1, fun x _ => hr.2 x⟩
  · rw [ht]
    refine ⟨by rw [preserveRedirs_limit, (performRedirs_guarded worldOracle w t rs).limit], fun x hc => ?_⟩
    have hnt := ((performRedirs_guarded worldOracle w t rs).keeps_cloexec hc).1
    rw [preserveRedirs_not_save _ _ _ (fun s hs hsv => hnt ⟨s, hs, .inr hsv⟩)]
    exact cloexec_untouched worldOracle w t rs x hc

theorem runCommand_during_internal (w : World) (t : FdTable) (k : Kind) (rs : List Redir) (prev : Nat)
    (wd : World) (td : FdTable) (h : (runCommand w t k rs prev).during = some (wd, td)) (fd : Fd)
    (hc : td.isCloexec fd = true) : t.isCloexec fd = true ∨ minInternalFd ≤ fd := by
  obtain ⟨_, _, hframe, hscr⟩ := runCommand_during w t k rs prev wd td h
  by_cases hfd : (runCommand w t k rs prev).script = some fd
  · exact .inr (hscr fd hfd).1
  · rw [isCloexec_congr (hframe fd hfd)] at hc; exact cloexec_old_or_internal worldOracle w t rs fd hc

/-- What the property says about one command `k rs` that started from table `tb` and left trace `tr`,
    in a script that started from table `t0`. -/
structure CommandSound (t0 tb : FdTable) (k : Kind) (rs : List Redir) (wb : World) (tr : Trace) : Prop where
  /-- the hypothesis of the restoration theorems holds again at every command -/
  wf : WF tb
  /-- nothing the shell opened for itself has accumulated before this command -/
  clean_before : ∀ fd, tb.isCloexec fd = true → t0.isCloexec fd = true
  /-- afterwards the table is exactly what it was before — whether the command ran, failed, was not
      found, or a redirection failed at any position — except for the `exec` family with all
      redirections successful, where it is the redirected table minus the saved copies -/
  restored_or_persisted :
    (tr.t.limit = tb.limit ∧ ∀ fd, tr.t.get fd = tb.get fd) ∨
    (k.isExec = true ∧ (performRedirs worldOracle wb tb rs).err = none ∧
      tr.t = preserveRedirs (performRedirs worldOracle wb tb rs).t (performRedirs worldOracle wb tb rs).saved)
  /-- no command leaves a descriptor of the shell's own behind: whatever is CLOEXEC afterwards was
      CLOEXEC when the script started -/
  none_left : ∀ fd, tr.t.isCloexec fd = true → t0.isCloexec fd = true
  /-- while the command runs, the descriptors the shell holds for itself (CLOEXEC ones that were not
      there when the script started) are at 10 or above -/
  internal_during : ∀ wd td, tr.during = some (wd, td) → ∀ fd, td.isCloexec fd = true →
    t0.isCloexec fd = true ∨ 10 ≤ fd
  /-- the same at every intermediate state of the guard's loop that the harness looks at (the table
      after each `perform_redir`, the failing one included) -/
  internal_steps : ∀ steps cause, tr.steps = some (steps, cause) → ∀ p ∈ steps, ∀ fd,
    p.2.isCloexec fd = true → t0.isCloexec fd = true ∨ 10 ≤ fd

/-- ★ one command, any kind (`runCommand` is what the driver runs for it) -/
theorem command_sound (t0 : FdTable) (w : World) (t : FdTable) (k : Kind) (rs : List Redir) (prev : Nat)
    (hw : WF t) (hsub : ∀ fd, t.isCloexec fd = true → t0.isCloexec fd = true) :
    CommandSound t0 t k rs w (runCommand w t k rs prev) := by
  refine ⟨hw, hsub, ?_, fun fd h => hsub fd (runCommand_none_left w t k rs prev hw fd h), ?_, ?_⟩
  · exact runCommand_table w t k rs prev hw
  · intro wd td h fd hc
    rcases runCommand_during_internal w t k rs prev wd td h fd hc with h1 | h2
    · exact .inl (hsub fd h1)
    · exact .inr h2
  · intro steps cause h p hp fd hc
    obtain ⟨hs, _, _⟩ := runCommand_steps w t k rs prev steps cause h
    rw [hs] at hp
    rcases steps_internal worldOracle w t rs p hp fd hc with h1 | h2
    · exact .inl (hsub fd h1)
    · exact .inr h2

-- non-vacuity of `internal_steps`: the guard driven directly records a state per item
example : ((runCommand (stdWorld false) stdTable .guardKeep
    [⟨1, .file .fileOut 3⟩, ⟨2, .dup false (.fd 1)⟩]).steps.map (·.1.length)) = some 2 := by decide +kernel

/-- undoing in the order the copies were saved: with the same target named twice the forward
    order does not give the table back, so `undo_restores` cannot be proved of a model that undoes
    forwards -/
theorem forward_undo_does_not_restore :
    let g := performRedirs worldOracle (stdWorld false) stdTable [⟨1, .file .fileOut 3⟩, ⟨1, .file .fileAppend 4⟩]
    g.err = none ∧ (g.saved.foldl undoOne g.t).get 1 ≠ stdTable.get 1 ∧
    (undoRedirs g.t g.saved).get 1 = stdTable.get 1 := by decide +kernel

/-- `move_fd_internal` keeping the original when the dup fails: then the low descriptor
    stays open, contradicting `move_internal_never_leaks` -/
theorem leaky_move_is_excluded :
    let t : FdTable := { (stdTable.put 3 (some ⟨7, true⟩)) with limit := some 10 }
    (moveFdInternal worldOracle (stdWorld false) t 3).2.2 = none ∧
    (moveFdInternal worldOracle (stdWorld false) t 3).2.1.get 3 = none ∧
    t.get 3 ≠ none := by decide +kernel

/-- `exec` with an operand that cannot be invoked undoing its redirections: the table after
    is the redirected one (`exec_persists`), which differs from the restored one -/
theorem exec_operand_keeps_redirections :
    let tr := runCommand (stdWorld false true) stdTable .execNotFound [⟨4, .file .fileOut 4⟩]
    tr.status = some 127 ∧ tr.t.get 4 ≠ stdTable.get 4 := by decide +kernel

variable {W : Type}

/-- ★ the access mode and flags the code passes to `open` for each file operator (re-extracted from
    `open_normal` in yash-semantics/src/redir.rs on every run) are the ones POSIX prescribes -/
theorem open_mode_table :
    fileIn = posixOpenArgs .fileIn ∧ fileOut = posixOpenArgs .fileOut ∧ fileOut = posixOpenArgs .fileClobber ∧
    fileAppend = posixOpenArgs .fileAppend ∧ fileInOut = posixOpenArgs .fileInOut := by decide +kernel

/-- ★ the other tables re-extracted from the Rust sources on every run have the values the model is written to.
    `noclobberFirst` / `noclobberSecond`, `dotOpenArgs`, `dotOpenCloexec`, the built-in types and the two
    here-document constants occur in the model: a change of one of them re-checks — and, where the property depends
    on it, breaks — the proofs.  `dupInAcc`, `dupOutAcc`, `noclobberRetryErrno`, `unsupportedOps`,
    `overwriteDup2BeforeClose` occur here only (`copyFd`, `openFileNoclobber`, `Body.unsupported`, `overwrite`
    hard-code what they say): a change of one of those stops the build at this theorem and nowhere else.
    Under `noclobber` neither `open` of `open_file_noclobber` truncates (the first creates
    exclusively, the second opens what exists without O_CREAT/O_TRUNC, tried on EEXIST only), both for
    writing; `<&` requires a readable, `>&` a writable descriptor; `>>|` and `<<<` are the operators
    rejected as unsupported; the `.` built-in opens its script read-only with O_CLOEXEC and no other
    flag; `exec`, `:` and `.` are special built-ins (a redirection error ends a non-interactive shell),
    `command` is not; `here_doc::open_fd` sets no descriptor flag and closes the descriptor on failure -/
theorem code_tables_posix :
    noclobberFirst.acc = .wo ∧ noclobberFirst.create = true ∧ noclobberFirst.excl = true ∧
      noclobberFirst.trunc = false ∧
    noclobberSecond.acc = .wo ∧ noclobberSecond.create = false ∧ noclobberSecond.trunc = false ∧
      noclobberSecond.excl = false ∧ noclobberRetryErrno = "EEXIST" ∧
    dupInAcc = .ro ∧ dupOutAcc = .wo ∧ unsupportedOps = ["Pipe", "String"] ∧
    dotOpenArgs = ⟨.ro, false, false, false, false⟩ ∧ dotOpenCloexec = true ∧
    typeOfExec = .special ∧ typeOfColon = .special ∧ typeOfDot = .special ∧ typeOfCommand = .mandatory ∧
    Kind.isSpecial .exec = true ∧ Kind.isSpecial .colon = true ∧ Kind.isSpecial .dot = true ∧
    Kind.isSpecial .commandExec = false ∧
    -- the here-document's descriptor is handed back without CLOEXEC (it can be the target itself, a user
    -- descriptor 0–9, with no `dup2` in between) and is closed when its content cannot be written
    hereDocCloexec = false ∧ hereDocClosesOnFailure = true ∧
    -- `open_and_overwrite` duplicates onto the target first and closes the prepared descriptor afterwards
    -- (the order `Model.overwrite` transcribes)
    overwriteDup2BeforeClose = true := by decide +kernel

/-- ★ for every oracle, table and redirection: when `perform` succeeds, the target descriptor is what
    POSIX says the operator makes of it (`Meaning`: a new non-CLOEXEC descriptor on a description
    opened with the operator's POSIX arguments — under noclobber only in one of the two ways that never
    truncate an existing regular file —, a non-CLOEXEC duplicate of the named descriptor as it was
    before, closed, or the here-document's file), and no other descriptor changes except the slot of
    the saved copy -/
theorem perform_meaning (o : Oracle W) (w : W) (t : FdTable) (r : Redir) (s : SavedFd)
    (h : (perform o w t r).r = .ok s) :
    Meaning o t r ((perform o w t r).t.get r.fd) ∧
    ∀ fd, fd ≠ r.fd → s.save ≠ some fd → (perform o w t r).t.get fd = t.get fd :=
  ⟨perform_target_meaning o w t r s h, fun fd hne hns => perform_frame o w t r s h fd hne hns⟩

/-- `>>|`, `<<<`, a failing expansion, a NUL byte in the pathname, a malformed descriptor operand always fail
    (`Meaning` is `False` of them; so it is of the operand `-1`, which this statement does not list) -/
theorem perform_only_meaningful (o : Oracle W) (w : W) (t : FdTable) (fd : Fd) (b : Body)
    (hb : b = .unsupported ∨ b = .expErr ∨ b = .nulPath ∨ ∃ i, b = .dup i .malformed) :
    ∃ e, (perform o w t ⟨fd, b⟩).r = .error e := by
  cases hr : (perform o w t ⟨fd, b⟩).r with
  | error e => exact ⟨e, rfl⟩
  | ok s =>
    have hm := (perform_meaning o w t ⟨fd, b⟩ s hr).1
    rcases hb with rfl | rfl | rfl | ⟨i, rfl⟩ <;> simp [Meaning] at hm

example : Meaning worldOracle stdTable ⟨1, .file .fileAppend 4⟩
    ((perform worldOracle (stdWorld false) stdTable ⟨1, .file .fileAppend 4⟩).t.get 1) :=
  (perform_meaning worldOracle (stdWorld false) stdTable ⟨1, .file .fileAppend 4⟩ ⟨1, some 10⟩ rfl).1

/-- ★ for every oracle: a file redirection that succeeds (`noclobber` not interfering) leaves on its
    target a non-CLOEXEC descriptor on the very description one `open` with the operator's POSIX
    arguments returned, called in the world right after the allocation check (itself preceded by the
    allocation of the saved copy when there was something to save), and the world afterwards is the
    one that call left — no other file-system operation took place -/
theorem perform_file_world (o : Oracle W) (w : W) (t : FdTable) (fd : Fd) (op : FileOp) (path : Nat)
    (s : SavedFd) (hnc : op = .fileOut → o.noclobber w = false ∧ o.noclobber (o.deny w).1 = false)
    (h : (perform o w t ⟨fd, .file op path⟩).r = .ok s) :
    ∃ w', (w' = w ∨ w' = (o.deny w).1) ∧ ∃ ofd,
      o.resolve (o.deny w').1 ⟨path, posixOpenArgs op⟩ = ((perform o w t ⟨fd, .file op path⟩).w, .ok ofd) ∧
      (perform o w t ⟨fd, .file op path⟩).t.get fd = some ⟨ofd, false⟩ := by
  obtain ⟨w', w0, ofd, hw', hw0, hob, hget⟩ := perform_file_opened o w t fd op path s _ (.inl rfl) h
  obtain rfl : w0 = w' := by rcases hw0 with h0 | ⟨h0, _⟩; exact h0; exact absurd rfl h0
  refine ⟨w0, hw', ofd, ?_, hget⟩
  rcases hob with ⟨_, hres⟩ | ⟨hop, hn, _⟩
  · rw [← plainArgs_posix]; exact hres
  · rcases hw' with rfl | rfl
    · rw [(hnc hop).1] at hn; cases hn
    · rw [(hnc hop).2] at hn; cases hn

end YashModel.Redir
