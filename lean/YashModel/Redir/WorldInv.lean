/-
  C09: what `perform` / `performRedirs` do to the *world* — an invariant of the oracle's operations (`OracleInv`)
  holds along `Reach` (`Reach.inv`), hence of `perform` and of the whole list (used for the `interactive` flag, the
  `noclobber` option and the growth of the table of open file descriptions of the concrete world).
  Then the concrete world's algebra, `World.Stable` for its operations, and `Bounded`.
-/
import YashModel.Redir.Guard
import YashModel.Redir.World
namespace YashModel.Redir
open YashModel.Generated.RedirConsts

variable {W : Type}

/-- a relation between the world before and after that every operation of the oracle respects -/
structure OracleInv (o : Oracle W) (Q : W → W → Prop) : Prop where
  refl : ∀ w, Q w w
  trans : ∀ a b c, Q a b → Q b c → Q a c
  resolve : ∀ w req, Q w (o.resolve w req).1
  tmpfile : ∀ w, Q w (o.tmpfile w).1
  fill : ∀ w ofd c, Q w (o.fill w ofd c).1
  deny : ∀ w, Q w (o.deny w).1

theorem Reach.inv {o : Oracle W} {Q : W → W → Prop} (hq : OracleInv o Q) {w w' : W} (h : Reach o w w') : Q w w' := by
  induction h with
  | refl => exact hq.refl w
  | resolve req _ ih => exact hq.trans _ _ _ ih (hq.resolve _ req)
  | tmpfile _ ih => exact hq.trans _ _ _ ih (hq.tmpfile _)
  | fill ofd c _ ih => exact hq.trans _ _ _ ih (hq.fill _ ofd c)
  | deny _ ih => exact hq.trans _ _ _ ih (hq.deny _)

theorem perform_inv {o : Oracle W} {Q : W → W → Prop} (hq : OracleInv o Q) (w : W) (t : FdTable) (r : Redir) :
    Q w (perform o w t r).w :=
  (perform_spec_world o w t r).1.inv hq

theorem performRedirs_inv {o : Oracle W} {Q : W → W → Prop} (hq : OracleInv o Q) (w : W) (t : FdTable)
    (rs : List Redir) : Q w (performRedirs o w t rs).w :=
  performRedirs_rel (Rel := fun w _ w' _ => Q w w') o (fun w _ => hq.refl w) (fun h1 h2 => hq.trans _ _ _ h1 h2)
    (perform_inv hq) w t rs

/-- what no operation of the concrete oracle changes (option settings, the planned allocation
    failure), and what only grows (the table of open file descriptions) -/
structure World.Stable (a b : World) : Prop where
  noclobber : b.noclobber = a.noclobber
  interactive : b.interactive = a.interactive
  denyAt : b.denyAt = a.denyAt
  ofds_le : a.ofds.length ≤ b.ofds.length
  files_le : a.files.length ≤ b.files.length

theorem World.Stable.refl (w : World) : World.Stable w w := ⟨rfl, rfl, rfl, Nat.le_refl _, Nat.le_refl _⟩

theorem World.Stable.trans {a b c : World} (h1 : World.Stable a b) (h2 : World.Stable b c) : World.Stable a c :=
  ⟨h2.noclobber.trans h1.noclobber, h2.interactive.trans h1.interactive, h2.denyAt.trans h1.denyAt,
   Nat.le_trans h1.ofds_le h2.ofds_le, Nat.le_trans h1.files_le h2.files_le⟩

theorem setFile_ofds (w : World) (i : Nat) (f : File) : (setFile w i f).ofds = w.ofds := rfl
theorem setOfd_length (w : World) (i : Nat) (d : Ofd) : (setOfd w i d).ofds.length = w.ofds.length := by
  simp [setOfd]
theorem setFile_length (w : World) (i : Nat) (f : File) : (setFile w i f).files.length = w.files.length := by
  simp [setFile]

/-- every outcome of `resolve`: an errno and the world untouched, or a new description appended to the
    table of the world itself or of the world with the file at the path replaced (emptied by O_TRUNC,
    created by O_CREAT) -/
theorem World.resolve_cases (w : World) (req : OpenReq) :
    (∃ e, w.resolve req = (w, .error e) ∧ (e = .EEXIST → (fileAt w req.path).present = true)) ∨
    (∃ w0, (w0 = w ∨ ∃ f, w0 = setFile w req.path f ∧
              (req.args.trunc = true ∨ (fileAt w req.path).present = false)) ∧
        w.resolve req =
          ({ w0 with ofds := w.ofds ++ [⟨req.path, req.args.acc != .wo, req.args.acc != .ro, req.args.append, 0⟩] },
           .ok w.ofds.length)) := by
  unfold World.resolve
  by_cases h1 : req.path = pathEnotdir
  · exact .inl ⟨.ENOTDIR, by simp only [*, ↓reduceIte], nofun⟩
  by_cases h2 : req.path = pathSlash
  · exact .inl ⟨_, by simp only [*, ↓reduceIte]; rfl, by split <;> nofun⟩
  cases hp : (fileAt w req.path).present
  · cases hc : req.args.create
    · exact .inl ⟨.ENOENT, by simp only [*, ↓reduceIte, Bool.false_eq_true], nofun⟩
    · exact .inr ⟨_, .inr ⟨_, rfl, .inr rfl⟩, by simp only [*, ↓reduceIte, Bool.false_eq_true]; rfl⟩
  · cases he : req.args.excl
    · by_cases hd : ((fileAt w req.path).kind == .dir && (req.args.acc != .ro || req.args.create || req.args.trunc)) = true
      · exact .inl ⟨.EISDIR, by simp only [*, ↓reduceIte, Bool.false_eq_true], nofun⟩
      · by_cases ht : (req.args.trunc && (fileAt w req.path).kind == .reg) = true
        · exact .inr ⟨_, .inr ⟨_, rfl, .inl (Bool.and_eq_true_iff.mp ht).1⟩,
            by simp only [*, ↓reduceIte, Bool.false_eq_true]; rfl⟩
        · exact .inr ⟨_, .inl rfl, by simp only [*, ↓reduceIte, Bool.false_eq_true]⟩
    · exact .inl ⟨.EEXIST, by simp only [*, ↓reduceIte], fun _ => rfl⟩

theorem World.resolve_err {w w2 : World} {req : OpenReq} {e : Errno} (h : w.resolve req = (w2, .error e)) :
    w2 = w ∧ (e = .EEXIST → (fileAt w req.path).present = true) := by
  rcases World.resolve_cases w req with ⟨e', he, hp⟩ | ⟨w0, _, h0⟩
  · rw [he] at h; cases h; exact ⟨rfl, hp⟩
  · rw [h0] at h; cases h

theorem World.resolve_ok {w w2 : World} {req : OpenReq} {ofd : Nat} (h : w.resolve req = (w2, .ok ofd)) :
    ofd = w.ofds.length ∧
    w2.ofds = w.ofds ++ [⟨req.path, req.args.acc != .wo, req.args.acc != .ro, req.args.append, 0⟩] ∧
    ((fileAt w req.path).present = true → req.args.trunc = false → w2.files = w.files) := by
  rcases World.resolve_cases w req with ⟨e', he, _⟩ | ⟨w0, hw0, h0⟩
  · rw [he] at h; cases h
  · rw [h0] at h; cases h
    refine ⟨rfl, rfl, fun hp ht => ?_⟩
    rcases hw0 with rfl | ⟨f, rfl, ht' | hp'⟩
    · rfl
    · rw [ht] at ht'; cases ht'
    · rw [hp] at hp'; cases hp'

theorem World.resolve_stable (w : World) (req : OpenReq) : World.Stable w (w.resolve req).1 := by
  rcases World.resolve_cases w req with ⟨e, h, _⟩ | ⟨w0, hw0, h⟩ <;> rw [h]
  · exact .refl w
  · rcases hw0 with rfl | ⟨f, rfl, _⟩ <;> exact ⟨rfl, rfl, rfl, by simp, by simp [setFile]⟩

theorem World.write_some {w w1 : World} {ofd : Nat} {bytes : List Nat} (h : w.write ofd bytes = some w1) :
    (ofdAt w ofd).wr = true ∧
    w1 = (let off := if (ofdAt w ofd).app then
            (if (fileAt w (ofdAt w ofd).file).kind == .reg then (fileAt w (ofdAt w ofd).file).content.length else 0)
          else (ofdAt w ofd).off
      setOfd (setFile w (ofdAt w ofd).file
            { fileAt w (ofdAt w ofd).file with content := writeAt (fileAt w (ofdAt w ofd).file).content off bytes })
          ofd { ofdAt w ofd with off := off + bytes.length }) := by
  unfold World.write at h
  simp only at h
  by_cases hwr : (!(ofdAt w ofd).wr) = true
  · rw [if_pos hwr] at h; cases h
  · rw [if_neg hwr] at h
    split at h
    · cases h
    · exact ⟨by simpa using hwr, (Option.some.inj h).symm⟩

theorem World.write_stable (w w1 : World) (ofd : Nat) (bytes : List Nat) (h : w.write ofd bytes = some w1) :
    World.Stable w w1 := by
  rw [(World.write_some h).2]; exact ⟨rfl, rfl, rfl, by simp [setOfd, setFile], by simp [setOfd, setFile]⟩

theorem World.fill_stable (w : World) (ofd : Nat) (c : List Nat) : World.Stable w (w.fill ofd c).1 := by
  unfold World.fill
  split
  · next w1 h =>
    obtain ⟨h1, h2, h3, h4, h5⟩ := World.write_stable w w1 ofd c h
    exact ⟨h1, h2, h3, by simpa [setOfd] using h4, h5⟩
  · exact .refl w

theorem worldOracle_stable : OracleInv worldOracle World.Stable where
  refl := World.Stable.refl
  trans := fun _ _ _ => World.Stable.trans
  resolve := World.resolve_stable
  tmpfile := fun w => ⟨rfl, rfl, rfl, by simp [worldOracle, World.tmpfile], by simp [worldOracle, World.tmpfile]⟩
  fill := World.fill_stable
  deny := fun w => ⟨rfl, rfl, rfl, Nat.le_refl _, Nat.le_refl _⟩

theorem World.read_stable {w w1 : World} {ofd n : Nat} {bs : List Nat} (h : w.read ofd n = some (w1, bs)) :
    World.Stable w w1 := by
  unfold World.read at h
  simp only at h
  split at h
  · cases h
  · split at h
    · cases h
    · cases h; exact ⟨rfl, rfl, rfl, by simp [setOfd], Nat.le_refl _⟩

theorem World.message_stable (w : World) (t : FdTable) : World.Stable w (w.message t) := by
  unfold World.message
  split
  · exact .refl w
  · simp only; split
    · exact ⟨rfl, rfl, rfl, Nat.le_refl _, by simp [setFile]⟩
    · exact .refl w

theorem probeIO_stable (w : World) (t : FdTable) : World.Stable w (probeIO w t).1 := by
  have rd : ∀ (w1 : World) (wrote : Bool), World.Stable w w1 → World.Stable w
      (match t.get 0 with
        | none => (w1, wrote, ((none : Option (List Nat)), false))
        | some e =>
          match w1.read e.ofd 2 with
          | some (w2, bs) => (w2, wrote, (some bs, (fileAt w1 (ofdAt w1 e.ofd).file).tainted))
          | none => (w1, wrote, (none, (fileAt w1 (ofdAt w1 e.ofd).file).tainted))).1 := by
    intro w1 wrote h1
    cases t.get 0 with
    | none => exact h1
    | some e =>
      simp only
      cases hr : w1.read e.ofd 2 with
      | none => exact h1
      | some p => exact h1.trans (World.read_stable hr)
  unfold probeIO
  simp only
  cases t.get 1 with
  | none => exact rd w false (.refl w)
  | some e =>
    simp only
    cases hw : w.write e.ofd [8] with
    | none => exact rd w false (.refl w)
    | some w1 => exact rd w1 true (World.write_stable w w1 _ _ hw)

theorem message_ofds (w : World) (t : FdTable) : (w.message t).ofds = w.ofds := by
  unfold World.message
  split
  · rfl
  · simp only; split <;> rfl

theorem deny_files (w : World) : (World.deny w).1.files = w.files := rfl
theorem deny_ofds (w : World) : (World.deny w).1.ofds = w.ofds := rfl
theorem deny_noclobber (w : World) : (World.deny w).1.noclobber = w.noclobber := rfl

theorem fileAt_congr {a b : World} (h : a.files = b.files) (i : Nat) : fileAt a i = fileAt b i := by
  simp [fileAt, h]

theorem ofdAt_congr {a b : World} (h : a.ofds = b.ofds) (i : Nat) : ofdAt a i = ofdAt b i := by
  simp [ofdAt, h]

theorem writeAt_empty (bytes : List Nat) : writeAt [] 0 bytes = bytes := by
  simp [writeAt]

theorem writeAt_end (content bytes : List Nat) : writeAt content content.length bytes = content ++ bytes := by
  simp [writeAt]

theorem fileAt_setFile_same (w : World) (i : Nat) (f : File) (h : i < w.files.length) :
    fileAt (setFile w i f) i = f := by
  simp [fileAt, setFile, h]

theorem ofdAt_setOfd_same (w : World) (i : Nat) (d : Ofd) (h : i < w.ofds.length) :
    ofdAt (setOfd w i d) i = d := by
  simp [ofdAt, setOfd, h]

theorem fileAt_setOfd (w : World) (i j : Nat) (d : Ofd) : fileAt (setOfd w i d) j = fileAt w j := rfl
theorem ofdAt_setFile (w : World) (i j : Nat) (f : File) : ofdAt (setFile w i f) j = ofdAt w j := rfl

theorem World.fill_fresh (w0 : World) (i fi : Nat) (content : List Nat)
    (hd : ofdAt w0 i = ⟨fi, true, true, false, 0⟩) (hf : fileAt w0 fi = ⟨true, .reg, [], false⟩)
    (hi : i < w0.ofds.length) (hfi : fi < w0.files.length) :
    (w0.fill i content).2 = true ∧ ofdAt (w0.fill i content).1 i = ⟨fi, true, true, false, 0⟩ ∧
    fileAt (w0.fill i content).1 fi = ⟨true, .reg, content, false⟩ := by
  have hw : w0.write i content =
      some (setOfd (setFile w0 fi ⟨true, .reg, content, false⟩) i ⟨fi, true, true, false, content.length⟩) := by
    simp [World.write, hd, hf, writeAt_empty]
  unfold World.fill
  rw [hw]
  simp only
  have hi' : i < (setFile w0 fi ⟨true, .reg, content, false⟩).ofds.length := hi
  have hi'' : i < (setOfd (setFile w0 fi ⟨true, .reg, content, false⟩) i ⟨fi, true, true, false, content.length⟩).ofds.length := by
    rw [setOfd_length]; exact hi'
  refine ⟨trivial, ?_, ?_⟩
  · rw [ofdAt_setOfd_same _ _ _ hi'', ofdAt_setOfd_same _ _ _ hi']
  · rw [fileAt_setOfd, fileAt_setOfd, fileAt_setFile_same _ _ _ hfi]

/-- every descriptor of the table refers to an open file description that exists in the world -/
def Bounded (w : World) (t : FdTable) : Prop := ∀ fd e, t.get fd = some e → e.ofd < w.ofds.length

theorem Bounded.mono {w w' : World} {t : FdTable} (h : Bounded w t) (hs : World.Stable w w') : Bounded w' t :=
  fun fd e hg => Nat.lt_of_lt_of_le (h fd e hg) hs.ofds_le

theorem Bounded.congr {w : World} {t t' : FdTable} (h : Bounded w t) (he : ∀ fd, t'.get fd = t.get fd) :
    Bounded w t' := fun fd e hg => h fd e (by rw [← he fd]; exact hg)

end YashModel.Redir
