/-
  C09 — the property theorems about the guard, with their non-vacuity examples, a few corollaries they share
  (`failed_perform_leaves_table`, `performRedirs_wf`, `cloexec_old_or_internal`) and the noclobber table
  (`Target`, `targetWorld`, `noclobberRow`).

  Property text: "A command's redirections are applied left to right with the POSIX meaning of each
  operator (… `noclobber` refusal to overwrite an existing regular file, `>|` override, descriptor
  duplication and closing, here-documents), are in effect exactly while that command runs, and
  afterwards the shell's descriptor table is exactly what it was before - whether the command
  succeeded, failed, or a redirection itself failed - except for redirections on `exec`, which
  persist.  Descriptors the shell opens for its own use stay at 10 or above with close-on-exec set,
  and no command ever leaves an extra descriptor open, even when descriptor allocation fails
  part-way."

  The theorems about `perform` / `performRedirs` / `undoRedirs` / `preserveRedirs` / `moveFdInternal` /
  `openScript` quantify over all world types `W`, all oracles (outcome of every `open`, `fstat`, access mode,
  here-document write, and the allocations at which EMFILE strikes), all tables (any descriptors open, any
  limit) and all redirection lists.  Those about `runCommand` (`command_restores`, `exec_persists`,
  `exec_persists_targets`, `expansion_error_abandons_command`) and the noclobber / EMFILE tables are about
  the concrete world of World.lean and its `worldOracle`.
-/
import YashModel.Redir.Command
namespace YashModel.Redir
open YashModel.Generated.RedirConsts

variable {W : Type}

/-- ★ `undo_redirs` after `perform_redirs` gives back the table the command started with — the same
    finite map under the same limit — whether every redirection succeeded or one failed part-way
    (`(performRedirs …).err` is unconstrained), for every oracle, i.e. also when descriptor
    allocation fails at any position.  Hypothesis `WF`: no descriptor is open at or above the
    soft limit (see `undo_restores_needs_wf`). -/
theorem undo_restores (o : Oracle W) (w : W) (t : FdTable) (rs : List Redir) (hw : WF t) :
    (undoRedirs (performRedirs o w t rs).t (performRedirs o w t rs).saved).limit = t.limit ∧
    ∀ fd, (undoRedirs (performRedirs o w t rs).t (performRedirs o w t rs).saved).get fd = t.get fd := by
  have hg := performRedirs_guarded o w t rs
  obtain ⟨hl, h⟩ := hg.undo hw _ hg.limit (fun _ _ _ _ => rfl)
  refine ⟨hl, fun fd => ?_⟩
  by_cases hT : Touched (performRedirs o w t rs).saved fd
  · exact (h fd).1 hT
  · rw [(h fd).2 hT]; exact hg.frame hT

/-- the failing half spelled out: a redirection that fails has already given back everything it
    took (its saved copy is closed, its temporary descriptor is closed, the target is untouched) -/
theorem failed_perform_leaves_table (o : Oracle W) (w : W) (t : FdTable) (r : Redir) (e : ErrCause)
    (h : (perform o w t r).r = .error e) :
    (perform o w t r).t.limit = t.limit ∧ ∀ fd, (perform o w t r).t.get fd = t.get fd :=
  perform_err_equiv h

/-- `WF` is preserved by the whole list, so the theorems apply command after command -/
theorem performRedirs_wf (o : Oracle W) (w : W) (t : FdTable) (rs : List Redir) (hw : WF t) :
    WF (performRedirs o w t rs).t :=
  (performRedirs_guarded o w t rs).wf hw

/-- ★ the `.` built-in's descriptor: when the script cannot be opened — `open` fails, or the move to
    ≥ 10 fails with EMFILE — the table is what it was; when it can, exactly one descriptor is
    added, at or above 10 and CLOEXEC, and the `close` that follows the script gives back the table
    it started from -/
theorem dot_restores (o : Oracle W) (w : W) (t : FdTable) (path : Nat) :
    ((openScript o w t path).2.2 = none →
      (openScript o w t path).2.1.limit = t.limit ∧ ∀ fd, (openScript o w t path).2.1.get fd = t.get fd) ∧
    (∀ n, (openScript o w t path).2.2 = some n →
      10 ≤ n ∧ (openScript o w t path).2.1.isCloexec n = true ∧
      (∀ fd, fd ≠ n → (openScript o w t path).2.1.get fd = t.get fd) ∧
      ((openScript o w t path).2.1.close n).limit = t.limit ∧
      ∀ fd, ((openScript o w t path).2.1.close n).get fd = t.get fd) := by
  obtain ⟨hl, hN, hS⟩ := openScript_spec o w t path
  refine ⟨fun h => ⟨hl, hN h⟩, fun n hn => ?_⟩
  obtain ⟨a, b, c, d⟩ := hS n hn
  exact ⟨a, c, d, hl, FdTable.close_of_frame b d⟩

-- non-vacuity: limit 10 makes the move fail after the open succeeded on descriptor 3; limit 11 lets it through
example : (openScript worldOracle (stdWorld false) { stdTable with limit := some 10 } 10).2.2 = none ∧
    (openScript worldOracle (stdWorld false) { stdTable with limit := some 10 } 10).2.1.openFds = stdTable.openFds ∧
    (openScript worldOracle (stdWorld false) { stdTable with limit := some 11 } 10).2.2 = some 10 := by decide +kernel

/-- ★ the same at the level of a command, for the way each command kind uses the guard
    (`execute_builtin`, `execute_function`, `execute_external_utility`, `FullCompoundCommand::execute`,
    `execute_absent_target`), in an interactive or a non-interactive shell: afterwards the table is
    what it was before, whether the command ran, was not found, or a redirection failed — except for
    the `exec` family when its redirections all succeeded (`exec_persists`) -/
theorem command_restores (w : World) (t : FdTable) (k : Kind) (rs : List Redir) (prev : Nat) (hw : WF t)
    (h : k.isExec = true → (performRedirs worldOracle w t rs).err ≠ none) :
    (runCommand w t k rs prev).t.limit = t.limit ∧ ∀ fd, (runCommand w t k rs prev).t.get fd = t.get fd := by
  have hu := undo_restores worldOracle w t rs hw
  rw [runCommand_eq]
  rw [← Kind.retains_shape] at h
  generalize k.shape = s at h ⊢
  -- a guarded shape: the failure trace carries the undone table; `ok` is looked at when the list went through
  have guarded : ∀ ok : Trace, ((performRedirs worldOracle w t rs).err = none → Equiv ok.t t) →
      Equiv ((performRedirs worldOracle w t rs).orFail k.isSpecial ok).t t :=
    fun ok hok => GuardRun.orFail_of (P := fun _ t' => Equiv t' t) _ ok (fun _ => hu) hok
  cases s with
  | absent a =>
    simp only [runShape]
    split
    · exact ⟨rfl, fun _ => rfl⟩
    · split <;> exact ⟨rfl, fun _ => rfl⟩
  | guard keep =>
    simp only [runShape]
    cases keep
    · exact hu
    · cases he : (performRedirs worldOracle w t rs).err with
      | none => exact absurd he (h rfl)
      | some e => exact hu
  | body st => exact guarded _ (fun _ => hu)
  | bare retain msg divert st =>
    refine guarded _ (fun he => ?_)
    cases retain
    · simp only [Bool.false_eq_true, ↓reduceIte]
      split
      · rw [endOrGoOn_t]; exact hu
      · exact hu
    · exact absurd he (h rfl)
  | script p =>
    -- `dot_restores`: the table after a failed open, and after the `close` that follows the script, is `g.t` again
    refine guarded _ (fun _ => ?_)
    obtain ⟨hN, hS⟩ := dot_restores worldOracle (performRedirs worldOracle w t rs).w (performRedirs worldOracle w t rs).t p
    simp only
    split
    · next hnone => rw [endOrGoOn_t]; exact (Equiv.undoRedirs (hN hnone) _).trans hu
    · next fd hsome => exact (Equiv.undoRedirs (hS fd hsome).2.2.2 _).trans hu

/-- ★ "redirections on `exec` persist": for `exec` and `command exec`, without operand or with an
    operand that is not found (127) or cannot be executed (126), in an interactive shell (which goes
    on) and in a non-interactive one (which ends there) alike: when the redirections all succeeded the
    table the command leaves is the redirected table with exactly the saved copies closed
    (`preserve_redirs`) — `should_retain_redirs` is set on every path of the built-in -/
theorem exec_persists (w : World) (t : FdTable) (k : Kind) (rs : List Redir) (prev : Nat)
    (hk : k.isExec = true) (h : (performRedirs worldOracle w t rs).err = none) :
    (runCommand w t k rs prev).t =
      preserveRedirs (performRedirs worldOracle w t rs).t (performRedirs worldOracle w t rs).saved := by
  rw [runCommand_eq]
  rw [← Kind.retains_shape] at hk
  generalize k.shape = s at hk ⊢
  cases s with
  | absent | script | body => cases hk
  | guard keep => cases hk; simp only [runShape, h]; rfl
  | bare retain msg divert st =>
    cases hk
    simp only [runShape, GuardRun.orFail_ok h, ↓reduceIte]
    split
    · exact endOrGoOn_t ..
    · rfl

-- non-vacuity: interactive `exec nosuchcmd 4>b` keeps descriptor 4 on b and goes on with 127;
-- the non-interactive shell ends there with the same table
example : ((runCommand (stdWorld false true) stdTable .execNotFound [⟨4, .file .fileOut 4⟩]).t.get 4).isSome = true ∧
    (runCommand (stdWorld false true) stdTable .execNotFound [⟨4, .file .fileOut 4⟩]).status = some 127 ∧
    (runCommand (stdWorld false false) stdTable .execNotFound [⟨4, .file .fileOut 4⟩]).exited = some 127 ∧
    ((runCommand (stdWorld false false) stdTable .execNotFound [⟨4, .file .fileOut 4⟩]).t.get 4).isSome = true := by
  decide +kernel

-- non-vacuity: a table meeting `WF`, a list that succeeds, a list that fails part-way
example : WF stdTable := by
  intro fd e _; rfl
example : (performRedirs worldOracle (stdWorld false) stdTable
    [⟨1, .file .fileOut 3⟩, ⟨2, .dup false (.fd 1)⟩]).err = none ∧
    (performRedirs worldOracle (stdWorld false) stdTable
    [⟨1, .file .fileOut 3⟩, ⟨2, .dup false (.fd 1)⟩]).saved = [⟨1, some 10⟩, ⟨2, some 11⟩] := by decide +kernel
example : (performRedirs worldOracle (stdWorld false) stdTable
    [⟨1, .file .fileOut 3⟩, ⟨0, .file .fileIn 5⟩]).err = some (.openFile .ENOENT) ∧
    (performRedirs worldOracle (stdWorld false) stdTable
    [⟨1, .file .fileOut 3⟩, ⟨0, .file .fileIn 5⟩]).saved = [⟨1, some 10⟩] := by decide +kernel

/-- the hypothesis `WF` is needed: with descriptor 12 open above a limit of 11, `12>&-` cannot be
    undone (`dup2` onto 12 is refused), exactly as on a real kernel -/
theorem undo_restores_needs_wf :
    let t : FdTable := { (stdTable.put 12 (some ⟨0, false⟩)) with limit := some 11 }
    let g := performRedirs worldOracle (stdWorld false) t [⟨12, .dup false .closeIt⟩]
    g.err = none ∧ (undoRedirs g.t g.saved).get 12 ≠ t.get 12 := by decide +kernel

/-- ★ left to right: the effect of a list is the effect of its first part followed, from the state
    that part left, by the effect of the rest; a failure stops everything after it -/
theorem left_to_right (o : Oracle W) (w : W) (t : FdTable) (rs1 rs2 : List Redir) :
    performRedirs o w t (rs1 ++ rs2) =
      match (performRedirs o w t rs1).err with
      | some _ => performRedirs o w t rs1
      | none =>
        { w := (performRedirs o (performRedirs o w t rs1).w (performRedirs o w t rs1).t rs2).w,
          t := (performRedirs o (performRedirs o w t rs1).w (performRedirs o w t rs1).t rs2).t,
          saved := (performRedirs o w t rs1).saved ++
                   (performRedirs o (performRedirs o w t rs1).w (performRedirs o w t rs1).t rs2).saved,
          err := (performRedirs o (performRedirs o w t rs1).w (performRedirs o w t rs1).t rs2).err } := by
  induction rs1 generalizing w t with
  | nil => simp [performRedirs_nil]
  | cons r rs ih =>
    cases hp : (perform o w t r).r with
    | error e =>
      rw [List.cons_append, performRedirs_cons_err o w t r (rs ++ rs2) e hp,
        performRedirs_cons_err o w t r rs e hp]
    | ok s =>
      rw [List.cons_append, performRedirs_cons_ok o w t r (rs ++ rs2) s hp,
        performRedirs_cons_ok o w t r rs s hp, ih]
      simp only
      cases herr : (performRedirs o (perform o w t r).w (perform o w t r).t rs).err with
      | none => simp
      | some v => simp [herr]

theorem performRedirs_snoc_ok (o : Oracle W) (w : W) (t : FdTable) (rs1 : List Redir) (r : Redir)
    (h : (performRedirs o w t (rs1 ++ [r])).err = none) :
    (performRedirs o w t rs1).err = none ∧
    ∃ s, (perform o (performRedirs o w t rs1).w (performRedirs o w t rs1).t r).r = .ok s ∧
      (performRedirs o w t (rs1 ++ [r])).t = (perform o (performRedirs o w t rs1).w (performRedirs o w t rs1).t r).t ∧
      (performRedirs o w t (rs1 ++ [r])).w = (perform o (performRedirs o w t rs1).w (performRedirs o w t rs1).t r).w := by
  rw [left_to_right] at h ⊢
  cases h1 : (performRedirs o w t rs1).err with
  | some e => simp only [h1] at h; cases h
  | none =>
    simp only [h1] at h ⊢
    refine ⟨trivial, ?_⟩
    cases hp : (perform o (performRedirs o w t rs1).w (performRedirs o w t rs1).t r).r with
    | error e =>
      rw [performRedirs_cons_err o _ _ r [] e hp] at h; cases h
    | ok s =>
      rw [performRedirs_cons_ok o _ _ r [] s hp]
      exact ⟨s, rfl, rfl, rfl⟩

/-- the order matters: `2>&1 >m` leaves descriptor 2 on the old standard output,
    `>m 2>&1` puts both on the file -/
theorem order_matters :
    let a := performRedirs worldOracle (stdWorld false) stdTable [⟨2, .dup false (.fd 1)⟩, ⟨1, .file .fileOut 5⟩]
    let b := performRedirs worldOracle (stdWorld false) stdTable [⟨1, .file .fileOut 5⟩, ⟨2, .dup false (.fd 1)⟩]
    a.err = none ∧ b.err = none ∧
    (a.t.get 2).map (·.ofd) = (stdTable.get 1).map (·.ofd) ∧
    (a.t.get 2).map (·.ofd) ≠ (a.t.get 1).map (·.ofd) ∧
    (b.t.get 2).map (·.ofd) = (b.t.get 1).map (·.ofd) := by decide +kernel

/-- ★ every descriptor the guard holds while the command runs is at or above `MIN_INTERNAL_FD`
    (generated from yash-env/src/io.rs; the `10 ≤` below re-checks its value) and is CLOEXEC in the
    table the command sees — later redirections of the same list do not disturb it -/
theorem internal_fds (o : Oracle W) (w : W) (t : FdTable) (rs : List Redir) :
    ∀ s ∈ (performRedirs o w t rs).saved, ∀ sv, s.save = some sv →
      10 ≤ sv ∧ minInternalFd ≤ sv ∧ (performRedirs o w t rs).t.isCloexec sv = true := fun s hs sv hsv =>
  have h := (performRedirs_guarded o w t rs).saved_copies s hs sv hsv
  ⟨h.1, h.1, h.2⟩

/-- ☆ conversely the guard adds no other CLOEXEC descriptor: whatever is CLOEXEC in the table the
    command sees was CLOEXEC before or is one of the guard's saved copies (so descriptors 0–9 that
    redirections create are never CLOEXEC) -/
theorem internal_only (o : Oracle W) (w : W) (t : FdTable) (rs : List Redir) (fd : Fd)
    (h : (performRedirs o w t rs).t.isCloexec fd = true) :
    t.isCloexec fd = true ∨ ∃ s ∈ (performRedirs o w t rs).saved, s.save = some fd :=
  (performRedirs_guarded o w t rs).cloexec_origin h

/-- ★ `perform` refuses to touch a CLOEXEC target (`ReservedFd`), leaving the table as it is -/
theorem perform_refuses_cloexec_target (o : Oracle W) (w : W) (t : FdTable) (r : Redir)
    (h : t.isCloexec r.fd = true) :
    (perform o w t r).r = .error (.reservedFd r.fd) ∧ (perform o w t r).t = t := by
  simp [perform, h]

/-- … and `<&` / `>&` refuse a CLOEXEC source (it is never handed to the command) -/
theorem copy_refuses_cloexec_source (o : Oracle W) (w : W) (t : FdTable) (n : Fd) (input : Bool)
    (h : t.isCloexec n = true) :
    ∃ e, (copyFd o w t (.fd n) input).r = .error e ∧ (copyFd o w t (.fd n) input).t = t := by
  unfold copyFd
  simp only
  cases hg : t.get n with
  | none => rw [isCloexec_of_none hg] at h; cases h
  | some e =>
    have hc : e.cloexec = true := by rwa [isCloexec_of_get hg] at h
    simp only
    by_cases hacc : (if input = true then (o.access w e.ofd).1 else (o.access w e.ofd).2) = true
    · rw [if_neg (by simp [hacc]), if_pos hc]; exact ⟨_, rfl, rfl⟩
    · rw [if_pos (by simpa using hacc)]; exact ⟨_, rfl, rfl⟩

/-- the order of `copy_fd`'s checks: the access mode comes first — a source that lacks the access the
    operator needs is reported as unreadable / unwritable whether or not it is CLOEXEC (`ReservedFd` is
    only said of a descriptor that could otherwise have been copied); the table is untouched -/
theorem copy_checks_access_before_cloexec (o : Oracle W) (w : W) (t : FdTable) (n : Fd) (input : Bool) (e : FdEntry)
    (hg : t.get n = some e)
    (hacc : (if input then (o.access w e.ofd).1 else (o.access w e.ofd).2) = false) :
    (copyFd o w t (.fd n) input).r = .error (if input then .unreadableFd n else .unwritableFd n) ∧
    (copyFd o w t (.fd n) input).t = t := by
  unfold copyFd
  simp only [hg, hacc]
  exact ⟨rfl, rfl⟩

-- non-vacuity: descriptor 11 read-only and CLOEXEC: `>&11` says "unwritable", `<&11` says "reserved"
example :
    let w : World := { stdWorld false with ofds := (stdWorld false).ofds ++ [⟨9, true, false, false, 0⟩] }
    let t := stdTable.put 11 (some ⟨3, true⟩)
    (match (copyFd worldOracle w t (.fd 11) false).r with | .error (.unwritableFd 11) => true | _ => false) = true ∧
    (match (copyFd worldOracle w t (.fd 11) true).r with | .error (.reservedFd 11) => true | _ => false) = true := by
  decide +kernel

example : stdTable.isCloexec 1 = false ∧
    ((stdTable.put 10 (some ⟨0, true⟩)).isCloexec 10 = true) := by decide +kernel

/-- ★ a redirection list — successful or stopped part-way, for every oracle — changes no descriptor
    other than the targets it names and the slots (≥ 10, `internal_fds`) of the saved copies the guard
    holds; in particular every descriptor below 10 that is not named keeps its entry, and the limit
    is never touched -/
theorem only_targets_change (o : Oracle W) (w : W) (t : FdTable) (rs : List Redir) :
    (performRedirs o w t rs).t.limit = t.limit ∧
    (∀ fd, (∀ r ∈ rs, r.fd ≠ fd) → (∀ s ∈ (performRedirs o w t rs).saved, s.save ≠ some fd) →
      (performRedirs o w t rs).t.get fd = t.get fd) ∧
    (∀ fd, (∀ r ∈ rs, r.fd ≠ fd) → fd < minInternalFd → (performRedirs o w t rs).t.get fd = t.get fd) := by
  have hg := performRedirs_guarded o w t rs
  refine ⟨hg.limit, fun fd h1 h2 => hg.frame_unnamed h1 h2, fun fd h1 hlt => hg.frame_unnamed h1 ?_⟩
  intro s hs hsv
  exact absurd (internal_fds o w t rs s hs fd hsv).2.1 (Nat.not_le.mpr hlt)

-- non-vacuity: `>a 2>&1` leaves descriptor 0 alone and changes 1 and 2
example : let g := performRedirs worldOracle (stdWorld false) stdTable [⟨1, .file .fileOut 3⟩, ⟨2, .dup false (.fd 1)⟩]
    g.t.get 0 = stdTable.get 0 ∧ g.t.get 1 ≠ stdTable.get 1 ∧ g.t.get 2 ≠ stdTable.get 2 := by decide +kernel

/-- ★ what the harness sees when it looks at the process table after every `perform_redir` call:
    one state per item tried (the successful ones and the failing one), state `i` being exactly what
    `performRedirs` makes of the first `i+1` items (so `left_to_right` applies to every prefix), and
    the last one being the state the guard is undone / preserved from -/
theorem steps_are_prefixes (o : Oracle W) (w : W) (t : FdTable) (rs : List Redir) :
    (performSteps o w t rs).length =
      (performRedirs o w t rs).saved.length + (if (performRedirs o w t rs).err.isSome then 1 else 0) ∧
    (∀ i p, (performSteps o w t rs)[i]? = some p → i < rs.length ∧
      p = ((performRedirs o w t (rs.take (i+1))).w, (performRedirs o w t (rs.take (i+1))).t)) ∧
    (rs ≠ [] → (performSteps o w t rs).getLast? =
      some ((performRedirs o w t rs).w, (performRedirs o w t rs).t)) :=
  ⟨performSteps_length o w t rs, fun i p h => performSteps_prefix o w t rs i p h, performSteps_last o w t rs⟩

-- non-vacuity: three items, the third fails: three states are recorded, two copies are held
example : (performSteps worldOracle (stdWorld false) stdTable
      [⟨1, .file .fileOut 3⟩, ⟨2, .dup false (.fd 1)⟩, ⟨0, .file .fileIn 5⟩]).length = 3 ∧
    (performRedirs worldOracle (stdWorld false) stdTable
      [⟨1, .file .fileOut 3⟩, ⟨2, .dup false (.fd 1)⟩, ⟨0, .file .fileIn 5⟩]).saved.length = 2 := by decide +kernel

theorem cloexec_old_or_internal (o : Oracle W) (w : W) (t : FdTable) (rs : List Redir) (fd : Fd)
    (h : (performRedirs o w t rs).t.isCloexec fd = true) : t.isCloexec fd = true ∨ minInternalFd ≤ fd := by
  rcases internal_only o w t rs fd h with h1 | ⟨s, hs, hsv⟩
  · exact .inl h1
  · exact .inr (internal_fds o w t rs s hs fd hsv).2.1

/-- ★ at every one of these intermediate states (not only in the table the command finally sees)
    whatever is CLOEXEC was CLOEXEC before the list started or is at or above `MIN_INTERNAL_FD` -/
theorem steps_internal (o : Oracle W) (w : W) (t : FdTable) (rs : List Redir) :
    ∀ p ∈ performSteps o w t rs, ∀ fd, p.2.isCloexec fd = true → t.isCloexec fd = true ∨ minInternalFd ≤ fd := by
  intro p hp fd hc
  obtain ⟨i, hi⟩ := List.getElem?_of_mem hp
  obtain ⟨_, hpe⟩ := performSteps_prefix o w t rs i p hi
  rw [hpe] at hc
  exact cloexec_old_or_internal o w t (rs.take (i+1)) fd hc

/-- ★ an expansion error in a redirection operand (`<${u?}`, or a command substitution that cannot get
    its pipe) abandons the command whatever its kind — `Handle for redir::Error` delegates the
    `Expansion` cause to the handler of expansion errors: the non-interactive shell ends there with 2,
    the interactive one goes on with `$?` = 2, the body does not run — and the table is the one the
    command found (the guard is dropped on the way out).  The two kinds that perform their
    redirections in a subshell (`empty`, `assign`) and the harness's own guard driver are the
    exceptions: the error stays in the child / in the built-in. -/
theorem expansion_error_abandons_command (w : World) (t : FdTable) (k : Kind) (rs : List Redir) (prev : Nat)
    (hw : WF t) (hk : k ≠ .empty ∧ k ≠ .assign ∧ k ≠ .guardUndo ∧ k ≠ .guardKeep)
    (he : (performRedirs worldOracle w t rs).err = some .expansion) :
    (runCommand w t k rs prev).during = none ∧
    (w.interactive = false → (runCommand w t k rs prev).exited = some 2) ∧
    (w.interactive = true → (runCommand w t k rs prev).status = some 2 ∧ (runCommand w t k rs prev).exited = none) ∧
    (runCommand w t k rs prev).t.limit = t.limit ∧ ∀ fd, (runCommand w t k rs prev).t.get fd = t.get fd := by
  have hr := command_restores w t k rs prev hw (fun _ h => by rw [he] at h; cases h)
  obtain ⟨ok, hok⟩ := runCommand_guarded w t k rs prev hk
  have htr := hok.trans (GuardRun.orFail_expansion he k.isSpecial ok)
  have hi : ((performRedirs worldOracle w t rs).w.message (performRedirs worldOracle w t rs).t).interactive =
      w.interactive :=
    ((performRedirs_inv worldOracle_stable w t rs).trans (World.message_stable _ _)).interactive
  rw [htr] at hr ⊢
  refine ⟨endOrGoOn_during .., fun hf => ?_, fun ht => ?_, hr⟩
  · simp [endOrGoOn, hi, hf]
  · simp [endOrGoOn, hi, ht]

-- non-vacuity: `fds >a <${u?}` in a non-interactive shell
example : (performRedirs worldOracle (stdWorld false) stdTable [⟨1, .file .fileOut 3⟩, ⟨0, .expErr⟩]).err = some .expansion ∧
    (runCommand (stdWorld false) stdTable .regular [⟨1, .file .fileOut 3⟩, ⟨0, .expErr⟩]).exited = some 2 := by decide +kernel

/-- ★ `move_fd_internal` on a descriptor below `MIN_INTERNAL_FD` never leaks: the original is closed
    whether or not the dup to ≥ 10 succeeded (EMFILE included), nothing else changes, and a
    successful move lands on a free slot at or above 10 with CLOEXEC -/
theorem move_internal_never_leaks (o : Oracle W) (w : W) (t : FdTable) (src : Fd) (e : FdEntry)
    (hsrc : t.get src = some e) (hlow : src < minInternalFd) :
    (moveFdInternal o w t src).2.1.get src = none ∧
    (moveFdInternal o w t src).2.1.limit = t.limit ∧
    ((moveFdInternal o w t src).2.2 = none →
      ∀ fd, fd ≠ src → (moveFdInternal o w t src).2.1.get fd = t.get fd) ∧
    (∀ n, (moveFdInternal o w t src).2.2 = some n →
      10 ≤ n ∧ t.get n = none ∧ (moveFdInternal o w t src).2.1.isCloexec n = true ∧
      ∀ fd, fd ≠ src → fd ≠ n → (moveFdInternal o w t src).2.1.get fd = t.get fd) := by
  obtain ⟨hl, _, hB⟩ := moveFdInternal_spec o w t src e hsrc
  obtain ⟨h0, h1, h2⟩ := hB hlow
  refine ⟨h0, hl, h1, fun n hn => ?_⟩
  obtain ⟨a, b, c, d⟩ := h2 n hn
  exact ⟨a, b, isCloexec_of_get c, d⟩

/-- ★ `preserve_redirs` closes every saved copy and nothing else: all descriptors that are not
    saved copies — in particular every descriptor below 10, hence every user-visible target — stay
    as the redirections left them -/
theorem preserve_keeps_targets (o : Oracle W) (w : W) (t : FdTable) (rs : List Redir) :
    (∀ s ∈ (performRedirs o w t rs).saved, ∀ sv, s.save = some sv →
        (preserveRedirs (performRedirs o w t rs).t (performRedirs o w t rs).saved).get sv = none) ∧
    (∀ fd, (∀ s ∈ (performRedirs o w t rs).saved, s.save ≠ some fd) →
        (preserveRedirs (performRedirs o w t rs).t (performRedirs o w t rs).saved).get fd =
          (performRedirs o w t rs).t.get fd) ∧
    (∀ fd, fd < minInternalFd →
        (preserveRedirs (performRedirs o w t rs).t (performRedirs o w t rs).saved).get fd =
          (performRedirs o w t rs).t.get fd) ∧
    (preserveRedirs (performRedirs o w t rs).t (performRedirs o w t rs).saved).limit = t.limit := by
  refine ⟨fun s hs sv hsv => preserveRedirs_save _ _ _ ⟨s, hs, hsv⟩,
    fun fd h => preserveRedirs_not_save _ _ _ h, fun fd hlt => ?_, ?_⟩
  · apply preserveRedirs_not_save
    intro s hs hsv
    have := (internal_fds o w t rs s hs fd hsv).2.1
    omega
  · rw [preserveRedirs_limit, (performRedirs_guarded o w t rs).limit]

/-- … hence (with `preserve_keeps_targets`) every descriptor below 10 is afterwards what the
    redirections made of it, and no saved copy is left -/
theorem exec_persists_targets (w : World) (t : FdTable) (k : Kind) (rs : List Redir) (prev : Nat)
    (hk : k.isExec = true) (h : (performRedirs worldOracle w t rs).err = none) :
    (∀ fd, fd < minInternalFd →
      (runCommand w t k rs prev).t.get fd = (performRedirs worldOracle w t rs).t.get fd) ∧
    (∀ s ∈ (performRedirs worldOracle w t rs).saved, ∀ sv, s.save = some sv →
      (runCommand w t k rs prev).t.get sv = none) := by
  rw [exec_persists w t k rs prev hk h]
  obtain ⟨h1, _, h3, _⟩ := preserve_keeps_targets worldOracle w t rs
  exact ⟨h3, h1⟩

example : (preserveRedirs (performRedirs worldOracle (stdWorld false) stdTable [⟨1, .file .fileOut 3⟩]).t
    (performRedirs worldOracle (stdWorld false) stdTable [⟨1, .file .fileOut 3⟩]).saved).openFds
    = [(0, ⟨0, false⟩), (1, ⟨3, false⟩), (2, ⟨2, false⟩)] := by decide +kernel

/-- the four kinds of thing a path can name in the table -/
inductive Target where
  | missing | regular | directory | device
  deriving DecidableEq, Repr

def targetWorld (k : Target) (noclobber : Bool) : World :=
  setFile (stdWorld noclobber) 3
    (match k with
     | .missing => ⟨false, .reg, [], false⟩
     | .regular => ⟨true, .reg, [1, 2], false⟩
     | .directory => ⟨true, .dir, [], false⟩
     | .device => ⟨true, .tty, [7], false⟩)

/-- one row of the table: what `>`/`>|` on path 3 do in that world -/
def noclobberRow (k : Target) (noclobber : Bool) (clobberOp : Bool) : Bool :=
  let w := targetWorld k noclobber
  let res := openNormalFile worldOracle w stdTable (if clobberOp then .fileClobber else .fileOut) 3
  let refused := noclobber && !clobberOp && k == .regular
  if k == .directory then
    -- a directory cannot be opened for writing (EISDIR, also through noclobber's second, plain open);
    -- no descriptor is left
    (match res.r with | .error (.openFile .EISDIR) => true | _ => false) &&
      res.t.openFds == stdTable.openFds
  else if k == .device then
    -- an existing file that is not regular goes through, noclobber or not (`open_file_noclobber`'s
    -- second, plain open + `fstat`), and is not truncated
    (match res.r with | .ok (.owned 3) => true | _ => false) && (fileAt res.w 3).content == [7]
  else if refused then
    -- fails with EEXIST, the file keeps its content, no descriptor is left
    (match res.r with | .error (.openFile .EEXIST) => true | _ => false) &&
      (fileAt res.w 3).content == [1, 2] && res.t.openFds == stdTable.openFds
  else
    -- succeeds on the lowest free descriptor; a regular file is truncated; a missing one is created
    (match res.r with | .ok (.owned 3) => true | _ => false) &&
      (fileAt res.w 3).present && (fileAt res.w 3).content == []

/-- ★ `>` under noclobber on an existing regular file fails without truncating it; `>|` and a missing
    file go through; an existing non-regular file (a terminal device) goes through under noclobber
    too; a directory is refused with EISDIR either way (all 4 × 2 × 2 rows) -/
theorem noclobber_table : ∀ (k : Target) (noclobber clobberOp : Bool), noclobberRow k noclobber clobberOp = true := by
  intro k nc c
  cases k <;> cases nc <;> cases c <;> decide +kernel

/-- a failing allocation has no effect on the file system: with no free descriptor below the limit
    `>a` fails with EMFILE and `a` keeps its content, `>m` does not create `m` -/
theorem emfile_has_no_side_effect :
    let t : FdTable := { stdTable with limit := some 3 }
    let ra := openNormalFile worldOracle (stdWorld false) t .fileOut 3
    let rm := openNormalFile worldOracle (stdWorld false) t .fileOut 5
    (match ra.r with | .error (.openFile .EMFILE) => true | _ => false) = true ∧
    (fileAt ra.w 3).content = [1, 2] ∧
    (match rm.r with | .error (.openFile .EMFILE) => true | _ => false) = true ∧
    (fileAt rm.w 5).present = false := by decide +kernel

end YashModel.Redir
