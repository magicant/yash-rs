/-
  C09: what each function of the model does, for every oracle — one specification per function, saying all of it:
  the world moved by calls of the oracle only (`Reach`); a success, with the free slot the new descriptor took and the
  `open` calls behind its description (`OpenedBy`, `Handed`, `Overwrote`) and what it did to the table (`PrepOK`,
  `Changed`, `PerformOK`); a failure, which left the same finite map, in the world `FailedBy` / `GaveUp` name.
-/
import YashModel.Redir.Model
import YashModel.Redir.Table
namespace YashModel.Redir
open YashModel.Generated.RedirConsts

variable {W : Type}

theorem put_then_close_equiv {t : FdTable} {fd : Fd} (v : Option FdEntry) (h : t.get fd = none) :
    Equiv ((t.put fd v).close fd) t :=
  ⟨rfl, FdTable.close_of_frame h (fun fd' hne => by simp [hne])⟩

theorem sysOpen_cases (o : Oracle W) (w : W) (t : FdTable) (req : OpenReq) :
    sysOpen o w t req = ((o.deny w).1, t, .error .EMFILE) ∨
    (∃ w' e, o.resolve (o.deny w).1 req = (w', .error e) ∧ sysOpen o w t req = (w', t, .error e)) ∨
    (∃ w' ofd fd, o.resolve (o.deny w).1 req = (w', .ok ofd) ∧ t.get fd = none ∧ t.inLimit fd = true ∧
      sysOpen o w t req = (w', t.put fd (some ⟨ofd, false⟩), .ok fd)) := by
  unfold sysOpen
  by_cases hd : ((o.deny w).2 || !t.inLimit (t.minUnused 0)) = true
  · rw [if_pos hd]; exact .inl rfl
  · rw [if_neg hd]
    have hl : t.inLimit (t.minUnused 0) = true := by
      cases h : t.inLimit (t.minUnused 0) <;> simp_all
    cases hr : o.resolve (o.deny w).1 req with
    | mk w1 r =>
      cases r with
      | error e => exact .inr (.inl ⟨w1, e, rfl, rfl⟩)
      | ok ofd => exact .inr (.inr ⟨w1, ofd, _, rfl, FdTable.minUnused_free t 0, hl, rfl⟩)

/-- the world moved by operations of the oracle only -/
inductive Reach (o : Oracle W) (w : W) : W → Prop
  | refl : Reach o w w
  | resolve {w'} (req : OpenReq) : Reach o w w' → Reach o w (o.resolve w' req).1
  | tmpfile {w'} : Reach o w w' → Reach o w (o.tmpfile w').1
  | fill {w'} (ofd : Nat) (c : List Nat) : Reach o w w' → Reach o w (o.fill w' ofd c).1
  | deny {w'} : Reach o w w' → Reach o w (o.deny w').1

theorem Reach.trans {o : Oracle W} {a b c : W} (h1 : Reach o a b) (h2 : Reach o b c) : Reach o a c := by
  induction h2 with
  | refl => exact h1
  | resolve req _ ih => exact ih.resolve req
  | tmpfile _ ih => exact ih.tmpfile
  | fill a c _ ih => exact ih.fill a c
  | deny _ ih => exact ih.deny

theorem Reach.resolved {o : Oracle W} {w w1 w2 : W} {req : OpenReq} {r : Except Errno Nat} (h : Reach o w w1)
    (hr : o.resolve w1 req = (w2, r)) : Reach o w w2 := by
  have := h.resolve req; rwa [hr] at this

/-- what a successful `prepare` did to the table `t`, and the `FdSpec` it handed over -/
inductive PrepOK (t : FdTable) : FdTable → FdSpec → Prop
  | owned (fd : Fd) (e : FdEntry) : t.get fd = none → t.inLimit fd = true → e.cloexec = false →
      PrepOK t (t.put fd (some e)) (.owned fd)
  | borrowed (fd : Fd) (e : FdEntry) : t.get fd = some e → e.cloexec = false → PrepOK t t (.borrowed fd)
  | closed : PrepOK t t .closed

/-- what the proofs need of `here_doc::open_fd` as extracted from the code: the descriptor it hands
    back is not CLOEXEC (it may become a user descriptor 0–9 without any `dup2`), and it is closed when
    the content cannot be written.  A different extracted value stops the build here. -/
theorem hereDocCloexec_false : hereDocCloexec = false := rfl
theorem hereDocClosesOnFailure_true : hereDocClosesOnFailure = true := rfl

/-- the arguments `open_normal` passes for an operator when `noclobber` does not interfere -/
def plainArgs : FileOp → OpenArgs
  | .fileIn => fileIn | .fileOut => fileOut | .fileClobber => fileOut
  | .fileAppend => fileAppend | .fileInOut => fileInOut

theorem openNormalFile_cases (o : Oracle W) (w : W) (t : FdTable) (op : FileOp) (path : Nat) :
    (op = .fileOut ∧ o.noclobber w = true ∧ openNormalFile o w t op path = openFileNoclobber o w t path) ∨
    ((op = .fileOut → o.noclobber w = false) ∧
      openNormalFile o w t op path = openFile o w t (plainArgs op) path) := by
  cases hn : o.noclobber w with
  | true =>
    by_cases hop : op = .fileOut
    · subst hop; exact .inl ⟨rfl, rfl, by simp [openNormalFile, hn]⟩
    · exact .inr ⟨fun h => absurd h hop, by cases op <;> first | rfl | exact absurd rfl hop⟩
  | false => exact .inr ⟨fun _ => rfl, by cases op <;> simp [openNormalFile, plainArgs, hn]⟩

/-- the `open` calls behind the description `ofd` that `open_normal`, called in world `w0`, came back with
    in world `wf`: one `open` with the operator's own arguments; or, for `>` with `noclobber` on in `w0`,
    the exclusive creation, or — after that said EEXIST — the plain open (no O_CREAT, no O_TRUNC) in the
    world the first one left, of what `fstat` does not call a regular file -/
def OpenedBy (o : Oracle W) (w0 : W) (op : FileOp) (path : Nat) (wf : W) (ofd : Nat) : Prop :=
  ((op = .fileOut → o.noclobber w0 = false) ∧ o.resolve (o.deny w0).1 ⟨path, plainArgs op⟩ = (wf, .ok ofd)) ∨
  (op = .fileOut ∧ o.noclobber w0 = true ∧
    (o.resolve (o.deny w0).1 ⟨path, flagsExcl⟩ = (wf, .ok ofd) ∨
     ∃ w1, o.resolve (o.deny w0).1 ⟨path, flagsExcl⟩ = (w1, .error .EEXIST) ∧
       o.resolve (o.deny w1).1 ⟨path, flagsPlainWrite⟩ = (wf, .ok ofd) ∧ o.isRegular wf ofd = false))

/-- the world `wf` in which `open_normal`, called in `w0`, gave up: after an allocation check, after an `open` that
    failed, or — the exclusive creation under `noclobber` having said EEXIST in `w1` — after the second allocation
    check or the plain open, whatever that returned -/
def FailedBy (o : Oracle W) (w0 : W) (path : Nat) (wf : W) : Prop :=
  wf = (o.deny w0).1 ∨ (∃ args e, o.resolve (o.deny w0).1 ⟨path, args⟩ = (wf, .error e)) ∨
  ∃ w1, o.resolve (o.deny w0).1 ⟨path, flagsExcl⟩ = (w1, .error .EEXIST) ∧
    (wf = (o.deny w1).1 ∨ ∃ r, o.resolve (o.deny w1).1 ⟨path, flagsPlainWrite⟩ = (wf, r))

def OpenSpec (o : Oracle W) (w0 : W) (t : FdTable) (op : FileOp) (path : Nat) (res : R W FdSpec) : Prop :=
  Reach o w0 res.w ∧
  ((∃ ofd fd, res.r = .ok (.owned fd) ∧ t.get fd = none ∧ t.inLimit fd = true ∧
      res.t = t.put fd (some ⟨ofd, false⟩) ∧ OpenedBy o w0 op path res.w ofd) ∨
   (∃ e, res.r = .error e ∧ Equiv res.t t ∧ FailedBy o w0 path res.w))

theorem openNormalFile_spec (o : Oracle W) (w : W) (t : FdTable) (op : FileOp) (path : Nat) :
    OpenSpec o w t op path (openNormalFile o w t op path) := by
  have hd : Reach o w (o.deny w).1 := .deny .refl
  rcases openNormalFile_cases o w t op path with ⟨rfl, hn, heq⟩ | ⟨hnc, heq⟩ <;> rw [heq]
  · unfold openFileNoclobber
    rcases sysOpen_cases o w t ⟨path, flagsExcl⟩ with h | ⟨w1, e, hr, h⟩ | ⟨w1, ofd, fd, hr, h2, h3, h⟩ <;> rw [h]
    · exact ⟨hd, .inr ⟨_, rfl, Equiv.refl _, .inl rfl⟩⟩
    · have hd1 : Reach o w (o.deny w1).1 := (hd.resolved hr).deny
      by_cases he : e = .EEXIST
      · subst he
        simp only [ne_eq, not_true_eq_false, ↓reduceIte]
        rcases sysOpen_cases o w1 t ⟨path, flagsPlainWrite⟩ with
          h' | ⟨w2, e2, hr2, h'⟩ | ⟨w2, ofd, fd, hr2, h2, h3, h'⟩ <;> rw [h'] <;> simp only
        · exact ⟨hd1, .inr ⟨_, rfl, Equiv.refl _, .inr (.inr ⟨w1, hr, .inl rfl⟩)⟩⟩
        · split <;> exact ⟨hd1.resolved hr2, .inr ⟨_, rfl, Equiv.refl _, .inr (.inr ⟨w1, hr, .inr ⟨_, hr2⟩⟩)⟩⟩
        · by_cases hreg : isRegularFd o w2 (t.put fd (some ⟨ofd, false⟩)) fd = true
          · rw [if_pos hreg]
            exact ⟨hd1.resolved hr2, .inr ⟨_, rfl, put_then_close_equiv _ h2, .inr (.inr ⟨w1, hr, .inr ⟨_, hr2⟩⟩)⟩⟩
          · rw [if_neg hreg]
            exact ⟨hd1.resolved hr2, .inl ⟨ofd, fd, rfl, h2, h3, rfl,
              .inr ⟨rfl, hn, .inr ⟨w1, hr, hr2, by simpa [isRegularFd] using hreg⟩⟩⟩⟩
      · simp only [ne_eq, he, not_false_eq_true, ↓reduceIte]
        exact ⟨hd.resolved hr, .inr ⟨_, rfl, Equiv.refl _, .inr (.inl ⟨_, _, hr⟩)⟩⟩
    · exact ⟨hd.resolved hr, .inl ⟨ofd, fd, rfl, h2, h3, rfl, .inr ⟨rfl, hn, .inl hr⟩⟩⟩
  · unfold openFile
    rcases sysOpen_cases o w t ⟨path, plainArgs op⟩ with h | ⟨w1, e, hr, h⟩ | ⟨w1, ofd, fd, hr, h2, h3, h⟩ <;> rw [h]
    · exact ⟨hd, .inr ⟨_, rfl, Equiv.refl _, .inl rfl⟩⟩
    · exact ⟨hd.resolved hr, .inr ⟨_, rfl, Equiv.refl _, .inr (.inl ⟨_, _, hr⟩)⟩⟩
    · exact ⟨hd.resolved hr, .inl ⟨ofd, fd, rfl, h2, h3, rfl, .inl ⟨hnc, hr⟩⟩⟩

/-- what a successful `prepare`, called in world `w` on table `t`, handed over in world `wf` and table `tf` -/
def Handed (o : Oracle W) (w : W) (t : FdTable) (b : Body) (wf : W) (tf : FdTable) (spec : FdSpec) : Prop :=
  match b with
  | .file op path => ∃ ofd fd, spec = .owned fd ∧ t.get fd = none ∧ t.inLimit fd = true ∧
      tf = t.put fd (some ⟨ofd, false⟩) ∧ OpenedBy o w op path wf ofd
  | .fileCs op path _ => ∃ ofd fd, spec = .owned fd ∧ t.get fd = none ∧ t.inLimit fd = true ∧
      tf = t.put fd (some ⟨ofd, false⟩) ∧ OpenedBy o (o.deny w).1 op path wf ofd
  | .dup input (.fd n) => ∃ e, t.get n = some e ∧ e.cloexec = false ∧
      (if input then (o.access w e.ofd).1 else (o.access w e.ofd).2) = true ∧ spec = .borrowed n ∧ tf = t ∧ wf = w
  | .dup _ .closeIt => spec = .closed ∧ tf = t ∧ wf = w
  | .hereDoc content => ∃ fd, spec = .owned fd ∧ t.get fd = none ∧ t.inLimit fd = true ∧
      tf = t.put fd (some ⟨(o.tmpfile w).2, false⟩) ∧
      wf = (o.fill (o.deny (o.tmpfile w).1).1 (o.tmpfile w).2 content).1 ∧
      (o.fill (o.deny (o.tmpfile w).1).1 (o.tmpfile w).2 content).2 = true
  | _ => False

theorem Handed.prepOK {o : Oracle W} {w wf : W} {t tf : FdTable} {b : Body} {spec : FdSpec}
    (h : Handed o w t b wf tf spec) : PrepOK t tf spec := by
  unfold Handed at h
  split at h
  · obtain ⟨ofd, fd, rfl, h1, h2, rfl, _⟩ := h; exact .owned fd _ h1 h2 rfl
  · obtain ⟨ofd, fd, rfl, h1, h2, rfl, _⟩ := h; exact .owned fd _ h1 h2 rfl
  · obtain ⟨e, h1, h2, _, rfl, rfl, _⟩ := h; exact .borrowed _ e h1 h2
  · obtain ⟨rfl, rfl, _⟩ := h; exact .closed
  · obtain ⟨fd, rfl, h1, h2, rfl, _⟩ := h; exact .owned fd _ h1 h2 rfl
  · exact h.elim

/-- the world `wf` in which a failing `prepare`, called in `w`, stopped -/
def GaveUp (o : Oracle W) (w : W) (b : Body) (wf : W) : Prop :=
  match b with
  | .file _ path => FailedBy o w path wf
  | .fileCs _ path _ => wf = (o.deny w).1 ∨ FailedBy o (o.deny w).1 path wf
  | .hereDoc content => wf = (o.deny (o.tmpfile w).1).1 ∨
      (wf = (o.fill (o.deny (o.tmpfile w).1).1 (o.tmpfile w).2 content).1 ∧
        (o.fill (o.deny (o.tmpfile w).1).1 (o.tmpfile w).2 content).2 = false)
  | _ => wf = w

def Prepared (o : Oracle W) (w : W) (t : FdTable) (b : Body) (res : R W FdSpec) : Prop :=
  Reach o w res.w ∧
  ((∃ spec, res.r = .ok spec ∧ Handed o w t b res.w res.t spec) ∨
   (∃ e, res.r = .error e ∧ Equiv res.t t ∧ GaveUp o w b res.w))

theorem prepare_prepared (o : Oracle W) (w : W) (t : FdTable) (b : Body) : Prepared o w t b (prepare o w t b) := by
  have fail : ∀ (w' : W) (e : ErrCause), Reach o w w' → GaveUp o w b w' → Prepared o w t b ⟨w', t, .error e⟩ :=
    fun w' e h hg => ⟨h, .inr ⟨e, rfl, Equiv.refl t, hg⟩⟩
  cases b with
  | file op path =>
    obtain ⟨hr, ⟨ofd, fd, h⟩ | ⟨e, he, heq, hf⟩⟩ := openNormalFile_spec o w t op path
    · exact ⟨hr, .inl ⟨_, h.1, ofd, fd, rfl, h.2⟩⟩
    · exact ⟨hr, .inr ⟨e, he, heq, hf⟩⟩
  | fileCs op path st =>
    simp only [prepare]
    by_cases hc : (pipeAvailable o w t).2 = true
    · rw [if_pos hc]
      obtain ⟨hr, ⟨ofd, fd, h⟩ | ⟨e, he, heq, hf⟩⟩ := openNormalFile_spec o (o.deny w).1 t op path
      · exact ⟨(Reach.deny .refl).trans hr, .inl ⟨_, h.1, ofd, fd, rfl, h.2⟩⟩
      · exact ⟨(Reach.deny .refl).trans hr, .inr ⟨e, he, heq, .inr hf⟩⟩
    · rw [if_neg hc]; exact fail _ _ (.deny .refl) (.inl rfl)
  | dup input src =>
    cases src with
    | closeIt => exact ⟨.refl, .inl ⟨_, rfl, rfl, rfl, rfl⟩⟩
    | fd n =>
      simp only [prepare, copyFd]
      cases hg : t.get n with
      | none => exact fail _ _ .refl rfl
      | some e =>
        simp only
        by_cases hacc : (if input = true then (o.access w e.ofd).1 else (o.access w e.ofd).2) = true
        · by_cases hcl : e.cloexec = true
          · rw [if_neg (by simp [hacc]), if_pos hcl]; exact fail _ _ .refl rfl
          · rw [if_neg (by simp [hacc]), if_neg hcl]
            exact ⟨.refl, .inl ⟨_, rfl, e, hg, by simpa using hcl, hacc, rfl, rfl, rfl⟩⟩
        · rw [if_pos (by simpa using hacc)]; exact fail _ _ .refl rfl
    | _ => exact fail _ _ .refl rfl
  | hereDoc content =>
    have hr : Reach o w (o.deny (o.tmpfile w).1).1 := .deny (.tmpfile .refl)
    simp only [prepare, hereDocFd, allocLowest, hereDocCloexec_false, hereDocClosesOnFailure_true, if_true]
    cases ha : t.openFdGe 0 { ofd := (o.tmpfile w).2, cloexec := false } (o.deny (o.tmpfile w).1).2 with
    | none => exact fail _ _ hr (.inl rfl)
    | some p =>
      obtain ⟨fd, t'⟩ := p
      obtain ⟨_, h2, h3, rfl⟩ := FdTable.openFdGe_some ha
      simp only
      by_cases hf : (o.fill (o.deny (o.tmpfile w).1).1 (o.tmpfile w).2 content).2 = true
      · rw [if_pos hf]; exact ⟨hr.fill _ _, .inl ⟨_, rfl, fd, rfl, h2, h3, rfl, rfl, hf⟩⟩
      · rw [if_neg hf]
        exact ⟨hr.fill _ _, .inr ⟨_, rfl, put_then_close_equiv _ h2, .inr ⟨rfl, by simpa using hf⟩⟩⟩
  | unsupported => exact fail _ _ .refl rfl
  | expErr => exact fail _ _ .refl rfl
  | nulPath => exact fail _ _ .refl rfl

/-- what a successful `open_and_overwrite` did to the table: only the target changed, and what is
    there now is not CLOEXEC -/
structure Changed (t tb : FdTable) (target : Fd) : Prop where
  limit : tb.limit = t.limit
  frame : ∀ fd, fd ≠ target → tb.get fd = t.get fd
  plain : tb.isCloexec target = false
  wf : WF t → WF tb

theorem overwrite_of_get {t : FdTable} {spec : FdSpec} {fd target : Fd} {e : FdEntry} (hs : spec.asFd = some fd)
    (h : t.get fd = some e) (hne : fd ≠ target) :
    overwrite t spec target = if t.inLimit target then
        (spec.close (t.put target (some { ofd := e.ofd, cloexec := false })), .ok ())
      else (spec.close t, .error (.fdNotOverwritten target .EBADF)) := by
  simp only [overwrite, hs, hne, ↓reduceIte, FdTable.dup2_of_get h hne]
  cases t.inLimit target <;> rfl

theorem overwrite_same {t : FdTable} {spec : FdSpec} {target : Fd} (hs : spec.asFd = some target) :
    overwrite t spec target = (t, .ok ()) := by
  simp only [overwrite, hs, ↓reduceIte]

/-- a successful `overwrite` leaves on the target the entry of the descriptor handed over (which is not CLOEXEC: `PrepOK`),
    nothing for `-` -/
theorem overwrite_spec {t ta : FdTable} {spec : FdSpec} (target : Fd) (hp : PrepOK t ta spec) :
    ((overwrite ta spec target).2 = .ok () ∧ Changed t (overwrite ta spec target).1 target ∧
      (overwrite ta spec target).1.get target = spec.asFd.bind ta.get) ∨
    ((∃ e, (overwrite ta spec target).2 = .error e) ∧ Equiv (overwrite ta spec target).1 t) := by
  cases hp with
  | owned fd e h1 h2 h3 =>
    obtain ⟨ofd, _⟩ := e; cases h3
    by_cases hft : fd = target
    · subst hft
      rw [overwrite_same rfl]
      refine .inl ⟨rfl, ⟨rfl, fun fd' hne => by simp [hne], ?_, fun hw => hw.put_some _ _ h2⟩, rfl⟩
      rw [isCloexec_of_get (e := ⟨ofd, false⟩) (by simp)]
    · rw [overwrite_of_get (e := ⟨ofd, false⟩) rfl (by simp) hft, FdTable.inLimit_put]
      by_cases hl : t.inLimit target = true
      · rw [if_pos hl]
        have hget : (FdSpec.close (.owned fd) ((t.put fd (some ⟨ofd, false⟩)).put target (some ⟨ofd, false⟩))).get target =
            some ⟨ofd, false⟩ := by simp [FdSpec.close, Ne.symm hft]
        refine .inl ⟨rfl, ⟨rfl, fun fd' hne => ?_, by rw [isCloexec_of_get hget], fun hw => ?_⟩,
          hget.trans (by simp [FdSpec.asFd])⟩
        · exact (FdTable.close_of_frame (t := t.put target (some ⟨ofd, false⟩)) (by simp [hft, h1])
            (fun x hx => by simp [hx]) fd').trans (by simp [hne])
        · exact ((hw.put_some _ _ h2).put_some _ _ (by simpa using hl)).put_none _
      · rw [if_neg hl]
        exact .inr ⟨⟨_, rfl⟩, put_then_close_equiv _ h1⟩
  | borrowed fd e h1 h2 =>
    obtain ⟨ofd, _⟩ := e; cases h2
    by_cases hft : fd = target
    · subst hft
      rw [overwrite_same rfl]
      exact .inl ⟨rfl, ⟨rfl, fun _ _ => rfl, by rw [isCloexec_of_get h1], fun hw => hw⟩, rfl⟩
    · rw [overwrite_of_get rfl h1 hft]
      by_cases hl : t.inLimit target = true
      · rw [if_pos hl]
        have hget : (FdSpec.close (.borrowed fd) (t.put target (some ⟨ofd, false⟩))).get target = some ⟨ofd, false⟩ := by
          simp [FdSpec.close]
        exact .inl ⟨rfl, ⟨rfl, fun fd' hne => by simp [FdSpec.close, hne], by rw [isCloexec_of_get hget],
          fun hw => hw.put_some _ _ hl⟩, hget.trans h1.symm⟩
      · rw [if_neg hl]
        exact .inr ⟨⟨_, rfl⟩, Equiv.refl _⟩
  | closed =>
    have h : overwrite t .closed target = (t.close target, .ok ()) := rfl
    rw [h]
    refine .inl ⟨rfl, ⟨rfl, fun fd' hne => by simp [hne], ?_, fun hw => hw.put_none _⟩, by simp [FdSpec.asFd]⟩
    exact isCloexec_of_none (by simp)

theorem Changed.of_equiv {t t0 tb : FdTable} {target : Fd} (h : Changed t tb target) (he : Equiv t t0) :
    Changed t0 tb target :=
  ⟨h.limit.trans he.1, fun fd hne => (h.frame fd hne).trans (he.2 fd), h.plain,
   fun hw => h.wf (WF.congr he hw)⟩

/-- what a successful `open_and_overwrite` left on the target, and where it came from: `prepare` handed it over -/
def Overwrote (o : Oracle W) (w : W) (t : FdTable) (r : Redir) (wf : W) (tf : FdTable) : Prop :=
  ∃ tp spec, Handed o w t r.body wf tp spec ∧ tf.get r.fd = spec.asFd.bind tp.get

theorem openAndOverwrite_spec (o : Oracle W) (w : W) (t : FdTable) (r : Redir) :
    Reach o w (openAndOverwrite o w t r).w ∧
    (((openAndOverwrite o w t r).r = .ok () ∧ Changed t (openAndOverwrite o w t r).t r.fd ∧
        Overwrote o w t r (openAndOverwrite o w t r).w (openAndOverwrite o w t r).t) ∨
     ((∃ e, (openAndOverwrite o w t r).r = .error e) ∧ Equiv (openAndOverwrite o w t r).t t)) := by
  unfold openAndOverwrite
  obtain ⟨hr, ⟨spec, hs, hh⟩ | ⟨e, he, heq, _⟩⟩ := prepare_prepared o w t r.body
  · rw [hs]
    simp only
    rcases overwrite_spec r.fd hh.prepOK with ⟨hok, hch, hent⟩ | h
    · exact ⟨hr, .inl ⟨hok, hch, _, spec, hh, hent⟩⟩
    · exact ⟨hr, .inr h⟩
  · rw [he]; exact ⟨hr, .inr ⟨⟨_, rfl⟩, heq⟩⟩

/-- what a successful `perform` did, as a relation between the table before and the table after: no oracle and no
    world occur, so that a list of them (`Guarded`, Guard.lean) can be reasoned about on tables alone -/
structure PerformOK (t t1 : FdTable) (r : Redir) (s : SavedFd) : Prop where
  original : s.original = r.fd
  target_plain : t.isCloexec r.fd = false
  none_case : s.save = none → t.get r.fd = none ∧ Changed t t1 r.fd
  some_case : ∀ sv, s.save = some sv → ∃ e, t.get r.fd = some e ∧ saveMin ≤ sv ∧ t.get sv = none ∧
      t.inLimit sv = true ∧ Changed (t.put sv (some { ofd := e.ofd, cloexec := saveCloexec })) t1 r.fd

theorem finishPerform_spec (o : Oracle W) (w : W) (t : FdTable) (r : Redir) (save : Option Fd) :
    Reach o w (finishPerform o w t r save).w ∧
    (((finishPerform o w t r save).r = .ok { original := r.fd, save := save } ∧
        Changed t (finishPerform o w t r save).t r.fd ∧
        Overwrote o w t r (finishPerform o w t r save).w (finishPerform o w t r save).t) ∨
     ((∃ e, (finishPerform o w t r save).r = .error e) ∧
        Equiv (finishPerform o w t r save).t (match save with | some s => t.close s | none => t))) := by
  unfold finishPerform
  obtain ⟨hr, ⟨hok, hch, hov⟩ | ⟨⟨e, he⟩, heq⟩⟩ := openAndOverwrite_spec o w t r
  · rw [hok]; exact ⟨hr, .inl ⟨rfl, hch, hov⟩⟩
  · rw [he]
    refine ⟨hr, .inr ⟨⟨_, rfl⟩, ?_⟩⟩
    cases save with
    | none => exact heq
    | some s => exact heq.put _ _

/-- the world `w'` and table `t'` in which `perform`, with record `s`, runs `open_and_overwrite` -/
def AfterSave (o : Oracle W) (w : W) (t : FdTable) (r : Redir) (s : SavedFd) (w' : W) (t' : FdTable) : Prop :=
  match s.save with
  | none => w' = w ∧ t' = t
  | some sv => ∃ e, t.get r.fd = some e ∧ w' = (o.deny w).1 ∧ t' = t.put sv (some ⟨e.ofd, saveCloexec⟩)

theorem AfterSave.world {o : Oracle W} {w w' : W} {t t' : FdTable} {r : Redir} {s : SavedFd}
    (h : AfterSave o w t r s w' t') : w' = w ∨ w' = (o.deny w).1 := by
  unfold AfterSave at h
  split at h
  · exact .inl h.1
  · obtain ⟨_, _, h, _⟩ := h; exact .inr h

/-- what is not CLOEXEC after the save was there before it (the copy is CLOEXEC) -/
theorem AfterSave.get_plain {o : Oracle W} {w w' : W} {t t' : FdTable} {r : Redir} {s : SavedFd}
    (h : AfterSave o w t r s w' t') {n : Fd} {e : FdEntry} (hg : t'.get n = some e) (hc : e.cloexec = false) :
    t.get n = some e := by
  unfold AfterSave at h
  split at h
  · rw [← h.2]; exact hg
  · obtain ⟨e', _, _, rfl⟩ := h
    rw [FdTable.get_put] at hg
    split at hg
    · cases hg; cases hc
    · exact hg

theorem perform_spec_world (o : Oracle W) (w : W) (t : FdTable) (r : Redir) :
    Reach o w (perform o w t r).w ∧
    ((∃ s, (perform o w t r).r = .ok s ∧ PerformOK t (perform o w t r).t r s ∧
        ∃ w' t', AfterSave o w t r s w' t' ∧ Overwrote o w' t' r (perform o w t r).w (perform o w t r).t) ∨
     (∃ e, (perform o w t r).r = .error e ∧ Equiv (perform o w t r).t t)) := by
  unfold perform
  by_cases hc : t.isCloexec r.fd = true
  · rw [if_pos hc]; exact ⟨.refl, .inr ⟨_, rfl, Equiv.refl _⟩⟩
  · rw [if_neg hc]
    have hplain : t.isCloexec r.fd = false := by simpa using hc
    unfold FdTable.dup
    cases hg : t.get r.fd with
    | none =>
      simp only
      obtain ⟨hr, ⟨hok, hch, hov⟩ | ⟨⟨e, he⟩, heq⟩⟩ := finishPerform_spec o w t r none
      · exact ⟨hr, .inl ⟨_, hok, ⟨rfl, hplain, fun _ => ⟨hg, hch⟩, fun sv h => (by cases h)⟩,
          w, t, ⟨rfl, rfl⟩, hov⟩⟩
      · exact ⟨hr, .inr ⟨e, he, heq⟩⟩
    | some e =>
      simp only
      cases ha : t.openFdGe saveMin { ofd := e.ofd, cloexec := saveCloexec } (o.deny w).2 with
      | none => exact ⟨.deny .refl, .inr ⟨_, rfl, Equiv.refl _⟩⟩
      | some p =>
        obtain ⟨sv, t1⟩ := p
        obtain ⟨h1, h2, h3, rfl⟩ := FdTable.openFdGe_some ha
        simp only
        obtain ⟨hr, ⟨hok, hch, hov⟩ | ⟨⟨e', he'⟩, heq⟩⟩ :=
          finishPerform_spec o (o.deny w).1 (t.put sv (some { ofd := e.ofd, cloexec := saveCloexec })) r (some sv)
        · refine ⟨(Reach.deny .refl).trans hr, .inl ⟨_, hok, ⟨rfl, hplain, fun h => (by cases h), fun sv' h => ?_⟩,
            _, _, ⟨e, hg, rfl, rfl⟩, hov⟩⟩
          cases h
          exact ⟨e, hg, h1, h2, h3, hch⟩
        · exact ⟨(Reach.deny .refl).trans hr, .inr ⟨e', he', heq.trans (put_then_close_equiv _ h2)⟩⟩

theorem perform_spec (o : Oracle W) (w : W) (t : FdTable) (r : Redir) :
    (∃ s, (perform o w t r).r = .ok s ∧ PerformOK t (perform o w t r).t r s) ∨
    (∃ e, (perform o w t r).r = .error e ∧ Equiv (perform o w t r).t t) :=
  (perform_spec_world o w t r).2.imp (fun ⟨s, h1, h2, _⟩ => ⟨s, h1, h2⟩) id

theorem PerformOK.effect {t t1 : FdTable} {r : Redir} {s : SavedFd} (h : PerformOK t t1 r s) :
    t1.limit = t.limit ∧ (WF t → WF t1) ∧ t1.isCloexec r.fd = false ∧
    ∀ fd, fd ≠ r.fd → s.save ≠ some fd → t1.get fd = t.get fd := by
  cases hs : s.save with
  | none =>
    obtain ⟨_, hch⟩ := h.none_case hs
    exact ⟨hch.limit, hch.wf, hch.plain, fun fd hne _ => hch.frame fd hne⟩
  | some sv =>
    obtain ⟨e, _, _, _, hl, hch⟩ := h.some_case sv hs
    refine ⟨hch.limit, fun hw => hch.wf (hw.put_some _ _ hl), hch.plain, fun fd hne hns => ?_⟩
    rw [hch.frame fd hne]
    have : fd ≠ sv := fun heq => hns (by rw [heq])
    simp [this]

theorem PerformOK.limit {t t1 : FdTable} {r : Redir} {s : SavedFd} (h : PerformOK t t1 r s) : t1.limit = t.limit :=
  h.effect.1
theorem PerformOK.wf {t t1 : FdTable} {r : Redir} {s : SavedFd} (h : PerformOK t t1 r s) (hw : WF t) : WF t1 :=
  h.effect.2.1 hw
theorem PerformOK.plain {t t1 : FdTable} {r : Redir} {s : SavedFd} (h : PerformOK t t1 r s) :
    t1.isCloexec r.fd = false := h.effect.2.2.1
theorem PerformOK.frame {t t1 : FdTable} {r : Redir} {s : SavedFd} (h : PerformOK t t1 r s) {fd : Fd}
    (hne : fd ≠ r.fd) (hns : s.save ≠ some fd) : t1.get fd = t.get fd := h.effect.2.2.2 fd hne hns

theorem PerformOK.saved_copy {t t1 : FdTable} {r : Redir} {s : SavedFd} {sv : Fd} (h : PerformOK t t1 r s)
    (hsv : s.save = some sv) :
    ∃ e, t.get r.fd = some e ∧ e.cloexec = false ∧ saveMin ≤ sv ∧ sv ≠ r.fd ∧ t.get sv = none ∧
      t1.get sv = some { ofd := e.ofd, cloexec := saveCloexec } ∧ t1.isCloexec sv = true := by
  obtain ⟨e, hg, hmin, hfree, _, hch⟩ := h.some_case sv hsv
  have hne : sv ≠ r.fd := by intro heq; rw [heq, hg] at hfree; cases hfree
  have hget : t1.get sv = some { ofd := e.ofd, cloexec := saveCloexec } := by rw [hch.frame sv hne]; simp
  have hcl := h.target_plain
  rw [isCloexec_of_get hg] at hcl
  exact ⟨e, hg, hcl, hmin, hne, hfree, hget, by rw [isCloexec_of_get hget]; rfl⟩

theorem perform_ok_spec {o : Oracle W} {w : W} {t : FdTable} {r : Redir} {s : SavedFd}
    (h : (perform o w t r).r = .ok s) : PerformOK t (perform o w t r).t r s := by
  rcases perform_spec o w t r with ⟨s', hs', hp⟩ | ⟨e, he, _⟩
  · rw [h] at hs'; cases hs'; exact hp
  · rw [h] at he; cases he

theorem perform_frame (o : Oracle W) (w : W) (t : FdTable) (r : Redir) (s : SavedFd)
    (h : (perform o w t r).r = .ok s) (fd : Fd) (hne : fd ≠ r.fd) (hns : s.save ≠ some fd) :
    (perform o w t r).t.get fd = t.get fd :=
  (perform_ok_spec h).frame hne hns

theorem perform_ok_overwrote {o : Oracle W} {w : W} {t : FdTable} {r : Redir} {s : SavedFd}
    (h : (perform o w t r).r = .ok s) :
    ∃ w' t', AfterSave o w t r s w' t' ∧ Overwrote o w' t' r (perform o w t r).w (perform o w t r).t := by
  rcases (perform_spec_world o w t r).2 with ⟨s', hs', _, hov⟩ | ⟨e, he, _⟩
  · rw [h] at hs'; cases hs'; exact hov
  · rw [h] at he; cases he

theorem perform_err_equiv {o : Oracle W} {w : W} {t : FdTable} {r : Redir} {e : ErrCause}
    (h : (perform o w t r).r = .error e) : Equiv (perform o w t r).t t := by
  rcases perform_spec o w t r with ⟨s, hs, _⟩ | ⟨e', _, heq⟩
  · rw [h] at hs; cases hs
  · exact heq

theorem moveFdInternal_spec (o : Oracle W) (w : W) (t : FdTable) (src : Fd) (e : FdEntry)
    (hsrc : t.get src = some e) :
    (moveFdInternal o w t src).2.1.limit = t.limit ∧
    (minInternalFd ≤ src → (moveFdInternal o w t src).2.1 = t ∧ (moveFdInternal o w t src).2.2 = some src) ∧
    (src < minInternalFd →
      (moveFdInternal o w t src).2.1.get src = none ∧
      ((moveFdInternal o w t src).2.2 = none →
        ∀ fd, fd ≠ src → (moveFdInternal o w t src).2.1.get fd = t.get fd) ∧
      (∀ n, (moveFdInternal o w t src).2.2 = some n →
        minInternalFd ≤ n ∧ t.get n = none ∧
        (moveFdInternal o w t src).2.1.get n = some { ofd := e.ofd, cloexec := true } ∧
        ∀ fd, fd ≠ src → fd ≠ n → (moveFdInternal o w t src).2.1.get fd = t.get fd)) := by
  unfold moveFdInternal
  -- the facts about `move_fd_internal` the property needs; re-extracted from yash-env/src/io.rs
  rw [show moveThreshold = minInternalFd from rfl, show moveMin = minInternalFd from rfl,
    show moveCloexec = true from rfl, show moveClosesOnFailure = true from rfl]
  simp only [↓reduceIte]
  by_cases hge : minInternalFd ≤ src
  · rw [if_pos hge]
    exact ⟨rfl, fun _ => ⟨rfl, rfl⟩, fun hlt => absurd hge (Nat.not_le.mpr hlt)⟩
  · rw [if_neg hge]
    unfold FdTable.dup
    rw [hsrc]
    simp only
    cases ha : t.openFdGe minInternalFd { ofd := e.ofd, cloexec := true } (o.deny w).2 with
    | none =>
      simp only
      refine ⟨rfl, fun h => absurd h hge, fun _ => ⟨by simp, fun _ fd hne => by simp [hne],
        fun n h => by cases h⟩⟩
    | some p =>
      obtain ⟨n, t1⟩ := p
      obtain ⟨h1, h2, _, h4⟩ := FdTable.openFdGe_some ha
      subst h4
      simp only
      have hne : n ≠ src := fun h => hge (h ▸ h1)
      refine ⟨rfl, fun h => absurd h hge, fun _ => ⟨by simp, fun h => (by cases h), fun n' h => ?_⟩⟩
      cases h
      refine ⟨h1, h2, by simp [hne], fun fd hs hn => by simp [hs, hn]⟩

theorem openScript_spec (o : Oracle W) (w : W) (t : FdTable) (path : Nat) :
    (openScript o w t path).2.1.limit = t.limit ∧
    ((openScript o w t path).2.2 = none → ∀ fd, (openScript o w t path).2.1.get fd = t.get fd) ∧
    (∀ n, (openScript o w t path).2.2 = some n →
      minInternalFd ≤ n ∧ t.get n = none ∧ (openScript o w t path).2.1.isCloexec n = true ∧
      ∀ fd, fd ≠ n → (openScript o w t path).2.1.get fd = t.get fd) := by
  unfold openScript
  by_cases hd : ((o.deny w).2 || !t.inLimit (t.minUnused 0)) = true
  · rw [if_pos hd]; exact ⟨rfl, fun _ _ => rfl, fun n h => by cases h⟩
  rw [if_neg hd]
  rw [show dotOpenCloexec = true from rfl]
  cases hr : o.resolve (o.deny w).1 { path := path, args := dotOpenArgs } with
  | mk w1 r =>
    cases r with
    | error e => exact ⟨rfl, fun _ _ => rfl, fun n h => by cases h⟩
    | ok ofd =>
      simp only
      have h2 : t.get (t.minUnused 0) = none := FdTable.minUnused_free t 0
      generalize t.minUnused 0 = fd0 at h2 ⊢
      have hget : (t.put fd0 (some { ofd := ofd, cloexec := true })).get fd0 = some { ofd := ofd, cloexec := true } := by simp
      obtain ⟨hl, hA, hB⟩ := moveFdInternal_spec o w1 _ fd0 _ hget
      refine ⟨hl, fun hnone fd => ?_, fun n hn => ?_⟩
      · by_cases hge : minInternalFd ≤ fd0
        · rw [(hA hge).2] at hnone; cases hnone
        · obtain ⟨h0, h1, _⟩ := hB (Nat.lt_of_not_le hge)
          by_cases hfd : fd = fd0
          · rw [hfd, h0, h2]
          · rw [h1 hnone fd hfd]; simp [hfd]
      · by_cases hge : minInternalFd ≤ fd0
        · obtain ⟨ht, hr2⟩ := hA hge
          rw [hr2] at hn; cases hn
          rw [ht]
          refine ⟨hge, h2, isCloexec_of_get hget, fun fd hne => by simp [hne]⟩
        · obtain ⟨h0, _, h3⟩ := hB (Nat.lt_of_not_le hge)
          obtain ⟨hn1, hn2, hn3, hn4⟩ := h3 n hn
          have hne : n ≠ fd0 := fun h => hge (h ▸ hn1)
          refine ⟨hn1, by simpa [hne] using hn2, isCloexec_of_get hn3, fun fd hfd => ?_⟩
          by_cases hfd0 : fd = fd0
          · rw [hfd0, h0, h2]
          · rw [hn4 fd hfd0 hfd]; simp [hfd0]

theorem moveFdInternal_reach (o : Oracle W) (w : W) (t : FdTable) (src : Fd) : Reach o w (moveFdInternal o w t src).1 := by
  unfold moveFdInternal
  split
  · exact .refl
  · split <;> exact .deny .refl

theorem openScript_reach (o : Oracle W) (w : W) (t : FdTable) (path : Nat) : Reach o w (openScript o w t path).1 := by
  unfold openScript
  split
  · exact .deny .refl
  · have h : Reach o w (o.resolve (o.deny w).1 ⟨path, dotOpenArgs⟩).1 := .resolve _ (.deny .refl)
    split
    · next heq => rw [heq] at h; exact h
    · next heq => rw [heq] at h; exact h.trans (moveFdInternal_reach ..)

end YashModel.Redir

