/-
  C09 — the Spec column (Spec.lean `specVerdict`): each executable check is the declarative statement about
  the finite maps, and the model's own run passes every one of them — "redirections on `exec` persist"
  (`lastPersisted`) in the concrete world, for a table whose descriptors all refer to existing open file
  descriptions (`Bounded`, kept by everything the driver runs).
-/
import YashModel.Common.Lists
import YashModel.Redir.ConcreteTheorems
namespace YashModel.Redir
open YashModel.Generated.RedirConsts

/-- the restoration check printed in the Spec column decides equality of the finite maps -/
theorem sameTable_iff (a b : FdTable) : sameTable a b = true ↔ ∀ fd, a.get fd = b.get fd := by
  unfold sameTable
  rw [List.all_eq_true]
  constructor
  · intro h fd
    by_cases hfd : fd < max a.slots.length b.slots.length
    · simpa using h fd (List.mem_range.mpr hfd)
    · have hge : max a.slots.length b.slots.length ≤ fd := Nat.le_of_not_lt hfd
      have ha : a.slots.length ≤ fd := Nat.le_trans (Nat.le_max_left _ _) hge
      have hb : b.slots.length ≤ fd := Nat.le_trans (Nat.le_max_right _ _) hge
      simp [FdTable.get, getAt_ge_length _ _ ha, getAt_ge_length _ _ hb]
  · intro h fd _
    simp [h fd]

/-- … and it passes on every command the model runs (so a `FAIL:table-not-restored` in the Spec
    column can only come from a driver that is not this model) -/
theorem spec_restoration_check_passes (w : World) (t : FdTable) (k : Kind) (rs : List Redir) (prev : Nat)
    (hw : WF t) (h : k.isExec = true → (performRedirs worldOracle w t rs).err ≠ none) :
    sameTable t (runCommand w t k rs prev).t = true :=
  (sameTable_iff _ _).mpr fun fd => ((command_restores w t k rs prev hw h).2 fd).symm

/-- ★ `noLowCloexec before t` decides: every CLOEXEC descriptor below 10 of `t` is, unchanged, a
    descriptor of `before` ("no CLOEXEC descriptor below 10 appears that was not there") -/
theorem noLowCloexec_iff (before t : FdTable) :
    noLowCloexec before t = true ↔
      ∀ fd e, t.get fd = some e → fd < 10 → e.cloexec = true → before.get fd = some e := by
  unfold noLowCloexec
  rw [all_openFds]
  constructor
  · intro h fd e hg hlt hc
    simpa [hlt, hc] using h fd e hg
  · intro h fd e hg
    by_cases hlt : fd < 10
    · cases hc : e.cloexec with
      | false => simp [hc]
      | true => simp [h fd e hg hlt hc]
    · simp [hlt]

/-- ★ `internalOk t saved` decides: every saved copy the guard holds is at or above 10 and CLOEXEC in `t` -/
theorem internalOk_iff (t : FdTable) (saved : List SavedFd) :
    internalOk t saved = true ↔ ∀ s ∈ saved, ∀ sv, s.save = some sv → 10 ≤ sv ∧ t.isCloexec sv = true := by
  unfold internalOk
  rw [List.all_eq_true]
  constructor
  · intro h s hs sv hsv
    have := h s hs
    simpa [hsv] using this
  · intro h s hs
    cases hsv : s.save with
    | none => rfl
    | some sv => simpa using h s hs sv hsv

/-- ★ `noExtraInternal before after allowed` decides: every open descriptor of `after` is below 10, or
    was open in `before`, or is one of the allowed (persisting) targets -/
theorem noExtraInternal_iff (before after : FdTable) (allowed : List Fd) :
    noExtraInternal before after allowed = true ↔
      ∀ fd e, after.get fd = some e → fd < 10 ∨ (before.get fd).isSome = true ∨ fd ∈ allowed := by
  unfold noExtraInternal
  rw [all_openFds]
  constructor <;> intro h fd e hg <;> simpa [or_assoc] using h fd e hg

/-- the chain of tests of `specVerdict` walked once; `persists` is its `let`, whatever `hp` says it equals -/
theorem specVerdict_ok_of (before : FdTable) (k : Kind) (rs : List Redir) (tr : Trace) (persists : Bool)
    (hp : (k.isExec && tr.status != some 2 && tr.exited != some 2) = persists)
    (h1 : persists = false → sameTable before tr.t = true)
    (h2 : noExtraInternal before tr.t (if persists then rs.map (·.fd) else []) = true)
    (h3 : persists = true → lastPersisted before rs tr = true)
    (h4 : noLowCloexec before tr.t = true)
    (h5 : ∀ steps c, tr.steps = some (steps, c) → ∀ p ∈ steps, noLowCloexec before p.2 = true)
    (h6 : ∀ steps p, tr.steps = some (steps, none) → steps.getLast? = some p → internalOk p.2 tr.saved = true)
    (h7 : ∀ wd td, tr.during = some (wd, td) →
      internalOk td (tr.saved ++ [⟨0, tr.script⟩]) = true ∧ noLowCloexec before td = true) :
    specVerdict before k rs tr = "ok" := by
  have e5 : ∀ steps c, tr.steps = some (steps, c) → (steps.all fun x => noLowCloexec before x.2) = true :=
    fun steps c hs => List.all_eq_true.mpr (h5 steps c hs)
  have tail : (match tr.during with
      | some (_, td) =>
        if (!internalOk td (tr.saved ++ [⟨0, tr.script⟩])) = true then "FAIL:internal-descriptor"
        else if (!noLowCloexec before td) = true then "FAIL:cloexec-below-10-visible"
        else "ok"
      | none => "ok") = "ok" := by
    cases hd : tr.during with
    | none => rfl
    | some q => obtain ⟨wd, td⟩ := q; simp [(h7 wd td hd).1, (h7 wd td hd).2]
  unfold specVerdict
  simp only [hp, h2, h4, Bool.not_true, Bool.false_eq_true, ↓reduceIte]
  have front : (!persists && !sameTable before tr.t) = false ∧ (persists && !lastPersisted before rs tr) = false := by
    cases persists with
    | false => simp [h1 rfl]
    | true => simp [h3 rfl]
  simp only [front.1, front.2, Bool.false_eq_true, ↓reduceIte]
  cases hs : tr.steps with
  | none => exact tail
  | some q =>
    obtain ⟨steps, c⟩ := q
    simp only [e5 steps c hs, Bool.not_true, Bool.false_eq_true, ↓reduceIte]
    cases c with
    | some _ => exact tail
    | none =>
      simp only
      split
      · next hc =>
        split at hc
        · next w0 td hl => rw [h6 steps (w0, td) hs hl] at hc; cases hc
        · cases hc
      · exact tail

section
variable {W : Type}

theorem low_cloexec_performRedirs (o : Oracle W) (w : W) (t : FdTable) (rs : List Redir) (fd : Fd) (e : FdEntry)
    (hg : (performRedirs o w t rs).t.get fd = some e) (hlt : fd < 10) (hc : e.cloexec = true) :
    t.get fd = some e := by
  have hcl : (performRedirs o w t rs).t.isCloexec fd = true := by rw [isCloexec_of_get hg]; exact hc
  rcases internal_only o w t rs fd hcl with h1 | ⟨s, hs, hsv⟩
  · rw [← cloexec_untouched o w t rs fd h1]; exact hg
  · exact absurd (internal_fds o w t rs s hs fd hsv).1 (Nat.not_le.mpr hlt)

theorem guard_checks (o : Oracle W) (w : W) (t : FdTable) (rs : List Redir) :
    internalOk (performRedirs o w t rs).t (performRedirs o w t rs).saved = true ∧
    noLowCloexec t (performRedirs o w t rs).t = true := by
  rw [internalOk_iff, noLowCloexec_iff]
  exact ⟨fun s hs sv hsv => have h := internal_fds o w t rs s hs sv hsv; ⟨h.1, h.2.2⟩,
    fun fd e => low_cloexec_performRedirs o w t rs fd e⟩

end

theorem check_noLowCloexec_after (w : World) (t : FdTable) (k : Kind) (rs : List Redir) (prev : Nat) (hw : WF t) :
    noLowCloexec t (runCommand w t k rs prev).t = true := by
  rw [noLowCloexec_iff]
  intro fd e hg hlt hc
  rcases runCommand_table w t k rs prev hw with hr | ⟨_, _, ht⟩
  · rw [← hr.2 fd]; exact hg
  · rw [ht, (preserve_keeps_targets worldOracle w t rs).2.2.1 fd (by show fd < 10; exact hlt)] at hg
    exact low_cloexec_performRedirs worldOracle w t rs fd e hg hlt hc

theorem check_noExtraInternal (w : World) (t : FdTable) (k : Kind) (rs : List Redir) (prev : Nat) (hw : WF t) :
    noExtraInternal t (runCommand w t k rs prev).t
      (if (k.isExec && (performRedirs worldOracle w t rs).err.isNone) = true then rs.map (·.fd) else []) = true := by
  rw [noExtraInternal_iff]
  intro fd e hg
  rcases runCommand_table w t k rs prev hw with hr | ⟨hk, he, ht⟩
  · rw [hr.2 fd] at hg
    exact .inr (.inl (by rw [hg]; rfl))
  · rw [if_pos (by simp [hk, he])]
    rw [ht] at hg
    -- open after `preserve_redirs`: no saved copy; a target is allowed; anything else the list left alone
    by_cases htar : ∃ r ∈ rs, r.fd = fd
    · obtain ⟨r, hr, hrf⟩ := htar
      exact .inr (.inr (List.mem_map.mpr ⟨r, hr, hrf⟩))
    · rcases preserveRedirs_get (performRedirs worldOracle w t rs).t (performRedirs worldOracle w t rs).saved fd with
        hn | ⟨hns, hp⟩
      · rw [hn] at hg; cases hg
      · rw [hp, (performRedirs_guarded worldOracle w t rs).frame_unnamed (fun r hr he => htar ⟨r, hr, he⟩) hns] at hg
        exact .inr (.inl (by rw [hg]; rfl))

theorem check_steps_noLowCloexec (w : World) (t : FdTable) (k : Kind) (rs : List Redir) (prev : Nat)
    (steps : List (World × FdTable)) (c : Option ErrCause) (h : (runCommand w t k rs prev).steps = some (steps, c)) :
    ∀ p ∈ steps, noLowCloexec t p.2 = true := by
  intro p hp
  rw [(runCommand_steps w t k rs prev steps c h).1] at hp
  obtain ⟨i, hi⟩ := List.getElem?_of_mem hp
  rw [(performSteps_prefix worldOracle w t rs i p hi).2]
  exact (guard_checks worldOracle w t _).2

theorem check_steps_internalOk (w : World) (t : FdTable) (k : Kind) (rs : List Redir) (prev : Nat)
    (steps : List (World × FdTable)) (p : World × FdTable) (h : (runCommand w t k rs prev).steps = some (steps, none))
    (hl : steps.getLast? = some p) : internalOk p.2 (runCommand w t k rs prev).saved = true := by
  obtain ⟨hs, _, hsv⟩ := runCommand_steps w t k rs prev steps none h
  have hne : rs ≠ [] := by
    rintro rfl
    rw [hs] at hl; cases hl
  rw [hs, performSteps_last worldOracle w t rs hne] at hl
  cases hl
  rw [hsv]
  exact (guard_checks worldOracle w t rs).1

theorem check_during (w : World) (t : FdTable) (k : Kind) (rs : List Redir) (prev : Nat)
    (wd : World) (td : FdTable) (h : (runCommand w t k rs prev).during = some (wd, td)) :
    internalOk td ((runCommand w t k rs prev).saved ++ [⟨0, (runCommand w t k rs prev).script⟩]) = true ∧
    noLowCloexec t td = true := by
  obtain ⟨_, hsaved, hframe, hscr⟩ := runCommand_during w t k rs prev wd td h
  rw [hsaved, internalOk_iff, noLowCloexec_iff]
  refine ⟨fun s hs sv hsv => ?_, fun fd e hg hlt hc => ?_⟩
  · rcases List.mem_append.mp hs with hs | hs
    · -- a copy of the guard: CLOEXEC where the guard stands, so not the slot the script's descriptor took
      obtain ⟨h1, _, h3⟩ := internal_fds worldOracle w t rs s hs sv hsv
      have hne : (runCommand w t k rs prev).script ≠ some sv := fun hn => by
        rw [isCloexec_of_none (hscr sv hn).2.1] at h3; cases h3
      exact ⟨h1, by rw [isCloexec_congr (hframe sv hne)]; exact h3⟩
    · simp only [List.mem_singleton] at hs; subst hs
      exact ⟨(hscr sv hsv).1, (hscr sv hsv).2.2⟩
  · have hne : (runCommand w t k rs prev).script ≠ some fd := fun hn =>
      absurd (show 10 ≤ fd from (hscr fd hn).1) (Nat.not_le.mpr hlt)
    rw [hframe fd hne] at hg
    exact low_cloexec_performRedirs worldOracle w t rs fd e hg hlt hc

theorem lastPersisted_ok (w : World) (t : FdTable) (k : Kind) (rs : List Redir) (prev : Nat)
    (hb : Bounded w t) (hk : k.isExec = true) (he : (performRedirs worldOracle w t rs).err = none) :
    lastPersisted t rs (runCommand w t k rs prev) = true := by
  unfold lastPersisted
  cases hl : rs.getLast? with
  | none => rfl
  | some r =>
    have hrs : rs.dropLast ++ [r] = rs := Common.dropLast_append_getLast hl
    have he' := he
    rw [← hrs] at he'
    obtain ⟨_, s, hok, hgt, hgw⟩ := performRedirs_snoc_ok worldOracle w t rs.dropLast r he'
    rw [hrs] at hgt hgw
    -- The last item ran in the state the rest of the list left.  The description it opens is numbered by the count
    -- of descriptions there, which is at least `w`'s; `Bounded` puts every entry of `t` below that count: the
    -- target's entry is new (`fresh`).  It is not CLOEXEC, so it is no saved copy and `preserve_redirs` keeps it
    -- (`hkeep`).
    have hst : World.Stable w (performRedirs worldOracle w t rs.dropLast).w :=
      performRedirs_inv worldOracle_stable w t rs.dropLast
    have fresh : ∀ fd ofd, w.ofds.length ≤ ofd → t.get fd ≠ some ⟨ofd, false⟩ := fun fd ofd hge hcontra =>
      Nat.lt_irrefl _ (Nat.lt_of_lt_of_le (hb fd _ hcontra) hge)
    have htr : (runCommand w t k rs prev).t =
        preserveRedirs (performRedirs worldOracle w t rs).t (performRedirs worldOracle w t rs).saved :=
      exec_persists w t k rs prev hk he
    have hkeep : (performRedirs worldOracle w t rs).t.isCloexec r.fd = false →
        (runCommand w t k rs prev).t.get r.fd = (performRedirs worldOracle w t rs).t.get r.fd := by
      intro hc
      rw [htr]
      apply preserveRedirs_not_save
      intro s' hs' hsv
      have := (internal_fds worldOracle w t rs s' hs' r.fd hsv).2.2
      rw [hc] at this; cases this
    have hofds := runCommand_exec_ofds w t k rs prev hk he
    obtain ⟨rfd, body⟩ := r
    simp only at hok hgt hgw hkeep ⊢
    cases body with
    | file op p =>
      simp only
      by_cases hp : (p == 3 || p == 4 || p == 5 || p == 6) = true
      · rw [if_pos hp]
        obtain ⟨w1, args, _, hw1, hres, hget, _⟩ := perform_file_concrete _ _ rfd op p s _ (.inl rfl) hok
        obtain ⟨_, hnew, _⟩ := World.resolve_ok hres
        generalize hofd : (performRedirs worldOracle w t rs.dropLast).w.ofds.length = ofd at hres hget
        have hge : w.ofds.length ≤ ofd := hofd ▸ hst.ofds_le
        rw [← hgt] at hget
        rw [hkeep (by rw [isCloexec_of_get hget]), hget]
        simp only
        have hwo : (runCommand w t k rs prev).w.ofds = w1.ofds ++ [⟨p, args.acc != .wo, args.acc != .ro, args.append, 0⟩] := by
          rw [hofds, hgw]; exact hnew
        have h1 : (ofdAt (runCommand w t k rs prev).w ofd).file = p := by
          unfold ofdAt
          rw [hwo, ← hofd, ← hw1]
          simp
        simp [h1, fresh rfd ofd hge]
      · rw [if_neg hp]
    | hereDoc c =>
      simp only
      obtain ⟨w', hw', _, _, hget⟩ := perform_heredoc_world worldOracle _ _ rfd c s hok
      have hid : (worldOracle.tmpfile w').2 = (performRedirs worldOracle w t rs.dropLast).w.ofds.length := by
        rcases hw' with rfl | rfl <;> rfl
      rw [← hgt] at hget
      rw [hkeep (by rw [isCloexec_of_get hget]), hget]
      simp [Ne.symm (fresh rfd _ (hid ▸ hst.ofds_le))]
    | dup input src =>
      cases src with
      | closeIt =>
        simp only
        have hm := perform_target_meaning worldOracle _ _ ⟨rfd, .dup input .closeIt⟩ s hok
        simp only [Meaning] at hm
        rw [← hgt] at hm
        rw [htr, preserveRedirs_none _ _ _ hm]; rfl
      | _ => rfl
    | _ => rfl

theorem perform_bounded (w : World) (t : FdTable) (r : Redir) (hb : Bounded w t) :
    Bounded (perform worldOracle w t r).w (perform worldOracle w t r).t := by
  have hst : World.Stable w (perform worldOracle w t r).w := perform_inv worldOracle_stable w t r
  have hold : Bounded (perform worldOracle w t r).w t := hb.mono hst
  rcases perform_spec worldOracle w t r with ⟨s, hs, hok⟩ | ⟨e, _, heq⟩
  · intro fd e hg
    by_cases hfd : fd = r.fd
    · subst hfd
      obtain ⟨rfd, body⟩ := r
      simp only at hg hs hst hold ⊢
      have hm := perform_target_meaning worldOracle w t ⟨rfd, body⟩ s hs
      cases body with
      | file op p =>
        obtain ⟨w1, args, _, hw1, hres, hget, _⟩ := perform_file_concrete w t rfd op p s _ (.inl rfl) hs
        rw [hget] at hg; cases hg
        simp only [(World.resolve_ok hres).2.1, hw1, List.length_append, List.length_singleton]; omega
      | fileCs op p st =>
        obtain ⟨w1, args, _, hw1, hres, hget, _⟩ := perform_file_concrete w t rfd op p s _ (.inr ⟨st, rfl⟩) hs
        rw [hget] at hg; cases hg
        simp only [(World.resolve_ok hres).2.1, hw1, List.length_append, List.length_singleton]; omega
      | hereDoc c =>
        obtain ⟨w', hw', hpw, _, hget⟩ := perform_heredoc_world worldOracle w t rfd c s hs
        rw [hget] at hg; cases hg
        have h1 : World.Stable (World.deny (World.tmpfile w').1).1 (perform worldOracle w t ⟨rfd, .hereDoc c⟩).w := by
          rw [hpw]; exact World.fill_stable _ _ _
        have h2 : (World.deny (World.tmpfile w').1).1.ofds.length = w'.ofds.length + 1 := by
          simp [World.deny, World.tmpfile]
        have := h1.ofds_le
        show w'.ofds.length < _
        omega
      | dup input src =>
        cases src with
        | fd n =>
          simp only [Meaning] at hm
          obtain ⟨e0, hg0, hafter, _⟩ := hm
          rw [hafter] at hg; cases hg
          exact hold n e0 hg0
        | closeIt => simp only [Meaning] at hm; rw [hm] at hg; cases hg
        | _ => simp [Meaning] at hm
      | _ => simp [Meaning] at hm
    · by_cases hsv : s.save = some fd
      · obtain ⟨e0, hg0, _, _, _, _, hget, _⟩ := hok.saved_copy hsv
        rw [hget] at hg; cases hg
        exact hold _ e0 hg0
      · rw [hok.frame hfd hsv] at hg
        exact hold fd e hg
  · exact hold.congr heq.2

theorem performRedirs_bounded (w : World) (t : FdTable) (rs : List Redir) (hb : Bounded w t) :
    Bounded (performRedirs worldOracle w t rs).w (performRedirs worldOracle w t rs).t :=
  performRedirs_rel (Rel := fun w t w' t' => Bounded w t → Bounded w' t') worldOracle (fun _ _ h => h)
    (fun h1 h2 h => h2 (h1 h)) perform_bounded w t rs hb

theorem runCommand_bounded (w : World) (t : FdTable) (k : Kind) (rs : List Redir) (prev : Nat) (hw : WF t)
    (hb : Bounded w t) : Bounded (runCommand w t k rs prev).w (runCommand w t k rs prev).t := by
  rcases runCommand_table w t k rs prev hw with hr | ⟨hk, he, ht⟩
  · exact (hb.mono (runCommand_stable w t k rs prev)).congr hr.2
  · intro fd e hget
    rw [ht] at hget
    rw [runCommand_exec_ofds w t k rs prev hk he]
    rcases preserveRedirs_get (performRedirs worldOracle w t rs).t (performRedirs worldOracle w t rs).saved fd with
      hn | ⟨_, hp⟩
    · rw [hn] at hget; cases hget
    · exact performRedirs_bounded w t rs hb fd e (hp ▸ hget)

example : noLowCloexec stdTable (stdTable.put 3 (some ⟨0, true⟩)) = false ∧
    noExtraInternal stdTable (stdTable.put 12 (some ⟨0, false⟩)) [] = false ∧
    internalOk (stdTable.put 10 (some ⟨1, false⟩)) [⟨1, some 10⟩] = false := by decide +kernel

/-- the Spec column on the model's own run, given "what the last redirection asked for is there" where the
    redirections persist: every other check needs `WF` alone -/
theorem spec_verdict_of (w : World) (t : FdTable) (k : Kind) (rs : List Redir) (prev : Nat) (hw : WF t)
    (hlp : k.isExec = true → (performRedirs worldOracle w t rs).err = none →
      lastPersisted t rs (runCommand w t k rs prev) = true) :
    specVerdict t k rs (runCommand w t k rs prev) = "ok" :=
  specVerdict_ok_of t k rs _ _ (persists_iff w t k rs prev)
    (fun hx => spec_restoration_check_passes w t k rs prev hw (fun hk he => by rw [hk, he] at hx; cases hx))
    (check_noExtraInternal w t k rs prev hw)
    (fun hx => hlp (Bool.and_eq_true_iff.mp hx).1 (Option.isNone_iff_eq_none.mp (Bool.and_eq_true_iff.mp hx).2))
    (check_noLowCloexec_after w t k rs prev hw) (check_steps_noLowCloexec w t k rs prev)
    (check_steps_internalOk w t k rs prev) (check_during w t k rs prev)

/-- ★ the Spec column on the model's own run, every check of it: for every world, every table that meets
    `WF` and whose descriptors refer to existing open file descriptions (`Bounded`), every command kind and
    every redirection list, the verdict `specVerdict` prints for what `runCommand` did is `ok` —
    restoration (`sameTable`), nothing at or above 10 left (`noExtraInternal`), no CLOEXEC descriptor below
    10 left, visible to the body, or present after any single `perform_redir` (`noLowCloexec`), saved
    copies at or above 10 and CLOEXEC (`internalOk`), and for the `exec` family "what the last redirection
    asked for is there afterwards" (`lastPersisted`: the target carries a *new* description of that very
    path, not CLOEXEC / a new here-document description / is closed; `lastPersisted_ok`). -/
theorem spec_verdict_ok (w : World) (t : FdTable) (k : Kind) (rs : List Redir) (prev : Nat) (hw : WF t)
    (hb : Bounded w t) :
    specVerdict t k rs (runCommand w t k rs prev) = "ok" :=
  spec_verdict_of w t k rs prev hw (lastPersisted_ok w t k rs prev hb)

theorem bounded_std (nc inter : Bool) : Bounded (stdWorld nc inter) stdTable := by
  intro fd e h
  match fd, h with
  | 0, h => cases h; simp [stdWorld]
  | 1, h => cases h; simp [stdWorld]
  | 2, h => cases h; simp [stdWorld]
  | n+3, h => simp [stdTable, FdTable.get, getAt] at h

-- non-vacuity: the start state of every harness run
example : WF stdTable ∧ Bounded (stdWorld false) stdTable :=
  ⟨fun fd e _ => rfl, bounded_std false false⟩

/-- ★ the Spec column on the model's own run, without exception, for every kind that does not retain its
    redirections (all kinds but the `exec` family and `guardkeep`): the verdict is `ok` for every world,
    every table meeting `WF` and every list — restoration, nothing at or above 10 left, no CLOEXEC
    descriptor below 10 left / visible / present after a step, saved copies at or above 10 and CLOEXEC -/
theorem spec_verdict_ok_nonexec (w : World) (t : FdTable) (k : Kind) (rs : List Redir) (prev : Nat) (hw : WF t)
    (hk : k.isExec = false) :
    specVerdict t k rs (runCommand w t k rs prev) = "ok" :=
  spec_verdict_of w t k rs prev hw (fun h => by rw [hk] at h; cases h)

example : Kind.isExec .dot = false ∧ Kind.isExec .special = false ∧ Kind.isExec .guardUndo = false := by decide +kernel

-- non-vacuity: a guard run whose second item fails, and a successful `exec 4>b`
example : specVerdict stdTable .guardUndo [⟨1, .file .fileOut 3⟩, ⟨0, .file .fileIn 5⟩]
      (runCommand (stdWorld false) stdTable .guardUndo [⟨1, .file .fileOut 3⟩, ⟨0, .file .fileIn 5⟩]) = "ok" ∧
    specVerdict stdTable .exec [⟨4, .file .fileOut 4⟩]
      (runCommand (stdWorld false) stdTable .exec [⟨4, .file .fileOut 4⟩]) = "ok" := by decide +kernel

end YashModel.Redir
