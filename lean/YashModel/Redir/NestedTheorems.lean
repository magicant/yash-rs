/-
  C09 — nested guards (a command with redirections inside a command with redirections; model: Nested.lean): two guards
  deep, restoration, the shell's own descriptors, an inner `exec` that persists; what every `Cmd` keeps; the Spec
  column of a `Cmd`; whole scripts, of `Cmd`s and (their case) of plain commands.
-/
import YashModel.Redir.Nested
import YashModel.Redir.SpecTheorems
namespace YashModel.Redir
open YashModel.Generated.RedirConsts

theorem runNested_cases (w : World) (t : FdTable) (outer : List Redir) (ki : Kind) (inner : List Redir) (prev : Nat) :
    ((performRedirs worldOracle w t outer).err ≠ none ∧ (runNested w t outer ki inner prev).inner = none ∧
      (runNested w t outer ki inner prev).tr = runCommand w t .brace outer prev) ∨
    ((performRedirs worldOracle w t outer).err = none ∧
      (runNested w t outer ki inner prev).inner = some ((performRedirs worldOracle w t outer).w,
        (performRedirs worldOracle w t outer).t,
        runCommand (performRedirs worldOracle w t outer).w (performRedirs worldOracle w t outer).t ki inner prev) ∧
      (runNested w t outer ki inner prev).tr.t =
        undoRedirs (runCommand (performRedirs worldOracle w t outer).w (performRedirs worldOracle w t outer).t ki inner prev).t
          (performRedirs worldOracle w t outer).saved ∧
      (runNested w t outer ki inner prev).tr.saved = (performRedirs worldOracle w t outer).saved ∧
      (runNested w t outer ki inner prev).tr.w =
        (runCommand (performRedirs worldOracle w t outer).w (performRedirs worldOracle w t outer).t ki inner prev).w) := by
  unfold runNested
  cases he : (performRedirs worldOracle w t outer).err with
  | some e => exact .inl ⟨nofun, rfl, rfl⟩
  | none => exact .inr ⟨rfl, rfl, rfl, rfl, rfl⟩

theorem runNested_inner_some (w : World) (t : FdTable) (outer : List Redir) (ki : Kind) (inner : List Redir) (prev : Nat)
    (wi : World) (ti : FdTable) (tri : Trace) (hin : (runNested w t outer ki inner prev).inner = some (wi, ti, tri)) :
    (performRedirs worldOracle w t outer).err = none ∧
    wi = (performRedirs worldOracle w t outer).w ∧ ti = (performRedirs worldOracle w t outer).t ∧
    tri = runCommand wi ti ki inner prev ∧
    (runNested w t outer ki inner prev).tr.t = undoRedirs tri.t (performRedirs worldOracle w t outer).saved ∧
    (runNested w t outer ki inner prev).tr.saved = (performRedirs worldOracle w t outer).saved ∧
    (runNested w t outer ki inner prev).tr.w = tri.w := by
  rcases runNested_cases w t outer ki inner prev with ⟨_, hn, _⟩ | ⟨he, hi, ht, hs, hw⟩
  · rw [hn] at hin; cases hin
  · rw [hi] at hin; cases hin; exact ⟨he, rfl, rfl, rfl, ht, hs, hw⟩

theorem runIO_cases (w : World) (t : FdTable) (wr : Bool) (fd : Fd) (arg : Nat) (rs : List Redir) (prev : Nat) :
    ((runIO w t wr fd arg rs prev).io = none ∧ (runIO w t wr fd arg rs prev).tr = runCommand w t .regular rs prev) ∨
    ((runIO w t wr fd arg rs prev).io.isSome = true ∧
      (runIO w t wr fd arg rs prev).tr.t =
        undoRedirs (performRedirs worldOracle w t rs).t (performRedirs worldOracle w t rs).saved ∧
      (runIO w t wr fd arg rs prev).tr.w =
        (ioBody (performRedirs worldOracle w t rs).w (performRedirs worldOracle w t rs).t wr fd arg).1) := by
  unfold runIO
  by_cases he : (performRedirs worldOracle w t rs).err.isSome = true
  · rw [if_pos he]; exact .inl ⟨rfl, rfl⟩
  · rw [if_neg he]; exact .inr ⟨rfl, rfl, rfl⟩

theorem ioBody_stable (w : World) (t : FdTable) (wr : Bool) (fd : Fd) (arg : Nat) :
    World.Stable w (ioBody w t wr fd arg).1 := by
  unfold ioBody
  cases t.get fd with
  | none => exact .refl w
  | some e =>
    simp only
    cases wr with
    | true =>
      simp only [if_true]
      cases hw : w.write e.ofd [arg] with
      | none => exact .refl w
      | some w1 => exact World.write_stable w w1 _ _ hw
    | false =>
      simp only [Bool.false_eq_true, if_false]
      cases hr : w.read e.ofd arg with
      | none => exact .refl w
      | some p => exact World.read_stable hr

/-- ★ "in effect exactly while that command runs", two guards deep: for every world, every table meeting
    `WF`, every outer and inner list (failures at any position of either, shared targets, any limit) and
    every kind of inner command other than a successful `exec`: when the inner command is done the table
    is again the one it found — the table with the *outer* list applied — and when the outer command is
    done the table is the one the shell had before it.  Also when the shell ends inside the inner
    command (the outer guard is dropped on the way out). -/
theorem nested_restores (w : World) (t : FdTable) (outer : List Redir) (ki : Kind) (inner : List Redir) (prev : Nat)
    (hw : WF t)
    (h : ki.isExec = true → (performRedirs worldOracle (performRedirs worldOracle w t outer).w
        (performRedirs worldOracle w t outer).t inner).err ≠ none) :
    ((runNested w t outer ki inner prev).tr.t.limit = t.limit ∧
      ∀ fd, (runNested w t outer ki inner prev).tr.t.get fd = t.get fd) ∧
    ∀ wi ti tri, (runNested w t outer ki inner prev).inner = some (wi, ti, tri) →
      (performRedirs worldOracle w t outer).err = none ∧
      wi = (performRedirs worldOracle w t outer).w ∧ ti = (performRedirs worldOracle w t outer).t ∧
      tri = runCommand wi ti ki inner prev ∧
      tri.t.limit = ti.limit ∧ ∀ fd, tri.t.get fd = ti.get fd := by
  have hwg := performRedirs_wf worldOracle w t outer hw
  have hi : Equiv (runCommand (performRedirs worldOracle w t outer).w (performRedirs worldOracle w t outer).t ki inner prev).t
      (performRedirs worldOracle w t outer).t :=
    command_restores _ _ ki inner prev hwg h
  refine ⟨?_, fun wi ti tri hin => ?_⟩
  · rcases runNested_cases w t outer ki inner prev with ⟨_, _, htr⟩ | ⟨_, _, ht, _⟩
    · rw [htr]; exact command_restores w t .brace outer prev hw (fun hk => by cases hk)
    · rw [ht]; exact (Equiv.undoRedirs hi _).trans (undo_restores worldOracle w t outer hw)
  · obtain ⟨he, rfl, rfl, rfl, _⟩ := runNested_inner_some w t outer ki inner prev wi ti tri hin
    exact ⟨he, rfl, rfl, rfl, hi.1, hi.2⟩

/-- ★ the shell's own descriptors, two guards deep: whatever is CLOEXEC in the table the inner command
    finds, and in the table its body sees, was CLOEXEC before the outer command or is at or above
    `MIN_INTERNAL_FD`; every saved copy of the *outer* guard is at or above `MIN_INTERNAL_FD`, CLOEXEC, and
    left alone by the whole inner list (which is refused on it: `perform_refuses_cloexec_target`,
    `copy_refuses_cloexec_source`) -/
theorem nested_internal (w : World) (t : FdTable) (outer : List Redir) (ki : Kind) (inner : List Redir) (prev : Nat)
    (wi : World) (ti : FdTable) (tri : Trace) (hin : (runNested w t outer ki inner prev).inner = some (wi, ti, tri)) :
    (∀ fd, ti.isCloexec fd = true → t.isCloexec fd = true ∨ minInternalFd ≤ fd) ∧
    (∀ wd td, tri.during = some (wd, td) → ∀ fd, td.isCloexec fd = true → t.isCloexec fd = true ∨ minInternalFd ≤ fd) ∧
    (∀ s ∈ (runNested w t outer ki inner prev).tr.saved, ∀ sv, s.save = some sv →
      minInternalFd ≤ sv ∧ ti.isCloexec sv = true ∧ (performRedirs worldOracle wi ti inner).t.get sv = ti.get sv) := by
  obtain ⟨_, rfl, rfl, rfl, _, hsaved, _⟩ := runNested_inner_some w t outer ki inner prev wi ti tri hin
  have hguard := cloexec_old_or_internal worldOracle w t outer
  refine ⟨hguard, fun wd td hd fd hc => ?_, fun s hs sv hsv => ?_⟩
  · rcases runCommand_during_internal _ _ ki inner prev wd td hd fd hc with h1 | h2
    · exact hguard fd h1
    · exact .inr h2
  · rw [hsaved] at hs
    obtain ⟨_, h2, h3⟩ := internal_fds worldOracle w t outer s hs sv hsv
    exact ⟨h2, h3, cloexec_untouched worldOracle _ _ inner sv h3⟩

/-- ★ no nested command leaves a CLOEXEC descriptor that was not CLOEXEC before it — for every inner
    kind, a successful inner `exec` included (its redirections persist, the saved copies of both guards
    do not) -/
theorem nested_none_left (w : World) (t : FdTable) (outer : List Redir) (ki : Kind) (inner : List Redir) (prev : Nat)
    (hw : WF t) (fd : Fd) (h : (runNested w t outer ki inner prev).tr.t.isCloexec fd = true) :
    t.isCloexec fd = true := by
  rcases runNested_cases w t outer ki inner prev with ⟨_, _, htr⟩ | ⟨_, _, ht, _⟩
  · rw [htr] at h; exact runCommand_none_left w t .brace outer prev hw fd h
  · -- CLOEXEC after the outer undo: CLOEXEC where the inner command stopped, hence where it started, and no copy of
    -- the outer guard: CLOEXEC before the outer list
    rw [ht] at h
    obtain ⟨h1, h2⟩ := undoRedirs_cloexec _ _ fd h
    have h3 := runCommand_none_left _ _ ki inner prev (performRedirs_wf worldOracle w t outer hw) fd h1
    exact (internal_only worldOracle w t outer fd h3).resolve_right fun ⟨s, hs, hsv⟩ => h2 s hs hsv

/-- ★ a nested command whatever its inner command is and did — a successful `exec` included: when the
    outer command is done, every descriptor the outer guard speaks of (its targets, the slots of its
    saved copies) is what it was before the outer command, and every other descriptor is what the inner
    command left -/
theorem nested_any_inner (w : World) (t : FdTable) (outer : List Redir) (ki : Kind) (inner : List Redir) (prev : Nat)
    (hw : WF t) (wi : World) (ti : FdTable) (tri : Trace)
    (hin : (runNested w t outer ki inner prev).inner = some (wi, ti, tri)) :
    (runNested w t outer ki inner prev).tr.t.limit = t.limit ∧
    ∀ fd, (Touched (performRedirs worldOracle w t outer).saved fd →
            (runNested w t outer ki inner prev).tr.t.get fd = t.get fd) ∧
          (¬ Touched (performRedirs worldOracle w t outer).saved fd →
            (runNested w t outer ki inner prev).tr.t.get fd = tri.t.get fd) := by
  obtain ⟨_, rfl, rfl, rfl, ht, _⟩ := runNested_inner_some w t outer ki inner prev wi ti tri hin
  rw [ht]
  have hwg := performRedirs_wf worldOracle w t outer hw
  obtain ⟨hl, hk⟩ := runCommand_keeps_cloexec (performRedirs worldOracle w t outer).w
    (performRedirs worldOracle w t outer).t ki inner prev hwg
  apply undo_restores_after_body worldOracle w t outer hw
  · rw [hl, (performRedirs_guarded worldOracle w t outer).limit]
  · intro s hs sv hsv
    exact hk sv (internal_fds worldOracle w t outer s hs sv hsv).2.2

-- non-vacuity: `{ fds 0<a 1>&2; } 1>m 2>&1`: the inner command runs, sees both lists, and everything is given back
example :
    let r := runNested (stdWorld false) stdTable [⟨1, .file .fileOut 5⟩, ⟨2, .dup false (.fd 1)⟩] .regular
      [⟨0, .file .fileIn 3⟩, ⟨1, .dup false (.fd 2)⟩]
    r.inner.isSome = true ∧ r.tr.t.openFds = stdTable.openFds ∧ r.tr.saved = [⟨1, some 10⟩, ⟨2, some 11⟩] ∧
    (r.inner.map fun p => p.2.2.saved) = some [⟨0, some 12⟩, ⟨1, some 13⟩] := by decide +kernel

-- an inner `exec` persists where the outer list does not reach: `{ exec 3>b 1>b; } 1>a` leaves 3 on b and
-- gives 1 back; no saved copy of either guard is left
example :
    let r := runNested (stdWorld false) stdTable [⟨1, .file .fileOut 3⟩] .exec
      [⟨3, .file .fileOut 4⟩, ⟨1, .file .fileOut 4⟩]
    (r.tr.t.get 3).isSome = true ∧ r.tr.t.get 1 = stdTable.get 1 ∧ r.tr.t.get 10 = none ∧ r.tr.t.get 11 = none := by
  decide +kernel

/-- ★ "except for redirections on `exec`, which persist", two guards deep: after `{ exec inner…; } outer…`
    with both lists successful, a descriptor the outer list names (or a slot of its saved copies) is what
    it was before the outer command — whatever `exec` made of it goes away with the outer list —; every
    other descriptor is what `exec`'s list made of it with `exec`'s own saved copies closed
    (`preserve_redirs`); in particular a descriptor below 10 that `exec` names and the outer list does not
    keeps its new meaning, and one that neither names is untouched -/
theorem nested_exec_persists (w : World) (t : FdTable) (outer : List Redir) (ki : Kind) (inner : List Redir) (prev : Nat)
    (hw : WF t) (hk : ki.isExec = true) (ho : (performRedirs worldOracle w t outer).err = none)
    (hi : (performRedirs worldOracle (performRedirs worldOracle w t outer).w
            (performRedirs worldOracle w t outer).t inner).err = none) :
    let g := performRedirs worldOracle w t outer
    let g2 := performRedirs worldOracle g.w g.t inner
    ∀ fd, (Touched g.saved fd → (runNested w t outer ki inner prev).tr.t.get fd = t.get fd) ∧
      (¬ Touched g.saved fd →
        (runNested w t outer ki inner prev).tr.t.get fd = (preserveRedirs g2.t g2.saved).get fd ∧
        (fd < minInternalFd → (runNested w t outer ki inner prev).tr.t.get fd = g2.t.get fd) ∧
        ((∀ r ∈ inner, r.fd ≠ fd) → fd < minInternalFd → (runNested w t outer ki inner prev).tr.t.get fd = t.get fd)) := by
  intro g g2 fd
  obtain ⟨_, hF⟩ := nested_any_inner w t outer ki inner prev hw _ _ _ ((runNested_cases w t outer ki inner prev).resolve_left fun h => h.1 ho).2.1
  refine ⟨(hF fd).1, fun hnt => ?_⟩
  have h1 := (hF fd).2 hnt
  rw [exec_persists g.w g.t ki inner prev hk hi] at h1
  obtain ⟨_, _, hlow, _⟩ := preserve_keeps_targets worldOracle g.w g.t inner
  refine ⟨h1, fun hlt => by rw [h1]; exact hlow fd hlt, fun hni hlt => ?_⟩
  rw [h1, hlow fd hlt, (only_targets_change worldOracle g.w g.t inner).2.2 fd hni hlt]
  exact (performRedirs_guarded worldOracle w t outer).frame hnt

-- non-vacuity: `{ exec 3>b 1>b; } 1>a`: 1 (named by both) comes back, 3 (named by `exec` only) stays on b
example : (performRedirs worldOracle (stdWorld false) stdTable [⟨1, .file .fileOut 3⟩]).err = none ∧
    (performRedirs worldOracle
      (performRedirs worldOracle (stdWorld false) stdTable [⟨1, .file .fileOut 3⟩]).w
      (performRedirs worldOracle (stdWorld false) stdTable [⟨1, .file .fileOut 3⟩]).t
      [⟨3, .file .fileOut 4⟩, ⟨1, .file .fileOut 4⟩]).err = none := by decide +kernel

theorem runCmd_wf (w : World) (t : FdTable) (prev : Nat) (c : Cmd) (hw : WF t) : WF (runCmd w t prev c).tr.t := by
  cases c with
  | plain k rs => exact runCommand_wf w t k rs prev hw
  | io wr fd arg rs =>
    simp only [runCmd]
    rcases runIO_cases w t wr fd arg rs prev with ⟨_, h⟩ | ⟨_, h, _⟩
    · rw [h]; exact runCommand_wf w t .regular rs prev hw
    · rw [h]; exact (performRedirs_wf worldOracle w t rs hw).undoRedirs _
  | nested outer ki inner =>
    simp only [runCmd]
    rcases runNested_cases w t outer ki inner prev with ⟨_, _, htr⟩ | ⟨_, _, ht, _⟩
    · rw [htr]; exact runCommand_wf w t .brace outer prev hw
    · rw [ht]; exact (runCommand_wf _ _ ki inner prev (performRedirs_wf worldOracle w t outer hw)).undoRedirs _

theorem runCmd_none_left (w : World) (t : FdTable) (prev : Nat) (c : Cmd) (hw : WF t) (fd : Fd)
    (h : (runCmd w t prev c).tr.t.isCloexec fd = true) : t.isCloexec fd = true := by
  cases c with
  | plain k rs => exact runCommand_none_left w t k rs prev hw fd h
  | io wr fd0 arg rs =>
    simp only [runCmd] at h
    rcases runIO_cases w t wr fd0 arg rs prev with ⟨_, h1⟩ | ⟨_, h1, _⟩
    · rw [h1] at h; exact runCommand_none_left w t .regular rs prev hw fd h
    · rw [h1, isCloexec_congr ((undo_restores worldOracle w t rs hw).2 fd)] at h; exact h
  | nested outer ki inner => exact nested_none_left w t outer ki inner prev hw fd h

theorem runCmd_bounded (w : World) (t : FdTable) (prev : Nat) (c : Cmd) (hw : WF t) (hb : Bounded w t) :
    Bounded (runCmd w t prev c).tr.w (runCmd w t prev c).tr.t := by
  cases c with
  | plain k rs => exact runCommand_bounded w t k rs prev hw hb
  | io wr fd arg rs =>
    simp only [runCmd]
    rcases runIO_cases w t wr fd arg rs prev with ⟨_, h⟩ | ⟨_, h1, h2⟩
    · rw [h]; exact runCommand_bounded w t .regular rs prev hw hb
    · rw [h1, h2]
      exact (hb.mono ((performRedirs_inv worldOracle_stable w t rs).trans (ioBody_stable ..))).congr
        (undo_restores worldOracle w t rs hw).2
  | nested outer ki inner =>
    simp only [runCmd]
    rcases runNested_cases w t outer ki inner prev with ⟨_, _, htr⟩ | ⟨_, hin, _, _, hww⟩
    · rw [htr]; exact runCommand_bounded w t .brace outer prev hw hb
    · -- a descriptor the outer guard speaks of is as in `t`, in a world that only grew; the others are the inner
      -- command's, which keeps `Bounded`
      obtain ⟨_, hF⟩ := nested_any_inner w t outer ki inner prev hw _ _ _ hin
      have hbtri := runCommand_bounded _ _ ki inner prev (performRedirs_wf worldOracle w t outer hw)
        (performRedirs_bounded w t outer hb)
      have hst := (performRedirs_inv worldOracle_stable w t outer).trans
        (runCommand_stable _ (performRedirs worldOracle w t outer).t ki inner prev)
      rw [hww]
      intro fd e hg
      by_cases hT : Touched (performRedirs worldOracle w t outer).saved fd
      · rw [(hF fd).1 hT] at hg; exact hb.mono hst fd e hg
      · rw [(hF fd).2 hT] at hg; exact hbtri fd e hg

/-- `c0` … `c5` are the six tests of the nested arm of `specVerdictCmd` in order; a descriptor the outer guard speaks of
    is read off `t`, any other off the inner command's table (`nested_any_inner`) -/
theorem spec_verdict_nested_ok (w : World) (t : FdTable) (outer : List Redir) (ki : Kind) (inner : List Redir)
    (prev : Nat) (hw : WF t) (hb : Bounded w t) :
    specVerdictCmd t (.nested outer ki inner) (runNested w t outer ki inner prev) = "ok" := by
  unfold specVerdictCmd
  simp only
  rcases runNested_cases w t outer ki inner prev with ⟨_, hn, htr⟩ | ⟨herr, hin, _, hsaved, _⟩
  · rw [hn]
    simp only
    rw [htr]
    exact spec_verdict_ok w t .brace outer prev hw hb
  · rw [hin]
    simp only
    obtain ⟨hlim, hF⟩ := nested_any_inner w t outer ki inner prev hw _ _ _ hin
    generalize hwi : (performRedirs worldOracle w t outer).w = wi at hF ⊢
    generalize hti : (performRedirs worldOracle w t outer).t = ti at hF ⊢
    generalize htri : runCommand wi ti ki inner prev = tri at hF ⊢
    replace hwi := hwi.symm; replace hti := hti.symm; replace htri := htri.symm
    have hwti : WF ti := by rw [hti]; exact performRedirs_wf worldOracle w t outer hw
    have hbti : Bounded wi ti := by rw [hwi, hti]; exact performRedirs_bounded w t outer hb
    have c0 : specVerdict ti ki inner tri = "ok" := by rw [htri]; exact spec_verdict_ok wi ti ki inner prev hwti hbti
    have hP : (ki.isExec && tri.status != some 2 && tri.exited != some 2) =
        (ki.isExec && (performRedirs worldOracle wi ti inner).err.isNone) := by
      rw [htri]; exact persists_iff wi ti ki inner prev
    have hfr : ∀ fd, ¬ Touched (performRedirs worldOracle w t outer).saved fd → ti.get fd = t.get fd := by
      intro fd hnt; rw [hti]; exact (performRedirs_guarded worldOracle w t outer).frame hnt
    have c2 : noExtraInternal t (runNested w t outer ki inner prev).tr.t
        (if (ki.isExec && (performRedirs worldOracle wi ti inner).err.isNone) = true then inner.map (·.fd) else []) = true := by
      rw [noExtraInternal_iff]
      intro fd e hg
      by_cases hT : Touched (performRedirs worldOracle w t outer).saved fd
      · rw [(hF fd).1 hT] at hg
        exact .inr (.inl (by rw [hg]; rfl))
      · rw [(hF fd).2 hT] at hg
        have := check_noExtraInternal wi ti ki inner prev hwti
        rw [noExtraInternal_iff] at this
        rw [htri] at hg
        rcases this fd e hg with h1 | h2 | h3
        · exact .inl h1
        · exact .inr (.inl (by rw [← hfr fd hT]; exact h2))
        · exact .inr (.inr h3)
    have c3 : noLowCloexec t (runNested w t outer ki inner prev).tr.t = true := by
      rw [noLowCloexec_iff]
      intro fd e hg hlt hc
      by_cases hT : Touched (performRedirs worldOracle w t outer).saved fd
      · rw [(hF fd).1 hT] at hg; exact hg
      · rw [(hF fd).2 hT, htri] at hg
        have := check_noLowCloexec_after wi ti ki inner prev hwti
        rw [noLowCloexec_iff] at this
        rw [← hfr fd hT]; exact this fd e hg hlt hc
    have c4 : internalOk ti (runNested w t outer ki inner prev).tr.saved = true := by
      rw [hsaved, hti]; exact (guard_checks worldOracle w t outer).1
    have c5 : noLowCloexec t ti = true := by
      rw [hti]; exact (guard_checks worldOracle w t outer).2
    simp only [c0, bne_self_eq_false, Bool.false_eq_true, ↓reduceIte, hP]
    cases hx : (ki.isExec && (performRedirs worldOracle wi ti inner).err.isNone) with
    | true =>
      simp only [hx, if_true] at c2 ⊢
      simp only [Bool.not_true, Bool.false_and, Bool.false_eq_true, ↓reduceIte, c2, c3, c4, c5]
    | false =>
      have hne : ki.isExec = true → (performRedirs worldOracle (performRedirs worldOracle w t outer).w
          (performRedirs worldOracle w t outer).t inner).err ≠ none := by
        intro hk he; rw [hwi, hti, hk, he] at hx; cases hx
      have c1 : sameTable t (runNested w t outer ki inner prev).tr.t = true :=
        (sameTable_iff _ _).mpr fun fd => ((nested_restores w t outer ki inner prev hw hne).1.2 fd).symm
      simp only [hx, Bool.false_eq_true, if_false] at c2 ⊢
      simp only [Bool.not_false, Bool.true_and, c1, Bool.not_true, Bool.false_eq_true, ↓reduceIte, c2, c3, c4, c5]

/-- ★ the Spec column on the model's own run for every `Cmd` — plain or nested, any inner kind, a
    persisting inner `exec` included: `specVerdictCmd` is `ok` for every world and table meeting `WF` and
    `Bounded` (restoration at both levels or persistence, nothing at or above 10 left but what a
    persisting `exec` named, no CLOEXEC descriptor below 10 left or shown, saved copies of both guards
    at or above 10 and CLOEXEC) -/
theorem spec_verdict_cmd_ok (w : World) (t : FdTable) (prev : Nat) (c : Cmd) (hw : WF t) (hb : Bounded w t) :
    specVerdictCmd t c (runCmd w t prev c) = "ok" := by
  cases c with
  | plain k rs => exact spec_verdict_ok w t k rs prev hw hb
  | io wr fd arg rs =>
    simp only [runCmd, specVerdictCmd]
    rcases runIO_cases w t wr fd arg rs prev with ⟨h0, h⟩ | ⟨h0, h1, _⟩
    · have hn : (runIO w t wr fd arg rs prev).io.isNone = true := by rw [h0]; rfl
      simp only [hn, if_true]
      rw [h]
      exact spec_verdict_ok w t .regular rs prev hw hb
    · have hn : (runIO w t wr fd arg rs prev).io.isNone = false := by
        cases hio : (runIO w t wr fd arg rs prev).io with
        | none => rw [hio] at h0; cases h0
        | some _ => rfl
      have hs : sameTable t (runIO w t wr fd arg rs prev).tr.t = true := by
        rw [sameTable_iff, h1]; exact fun fd' => ((undo_restores worldOracle w t rs hw).2 fd').symm
      simp [hn, hs]
  | nested outer ki inner => exact spec_verdict_nested_ok w t outer ki inner prev hw hb

/-- the driver's `runScript2` on plain commands is `runScript`: everything proved of `runScript`
    (`script_sound`) is about what the driver runs -/
theorem runScript2_plain (w : World) (t : FdTable) (prev : Nat) (cmds : List (Kind × List Redir)) :
    runScript2 w t prev (cmds.map fun p => .plain p.1 p.2) =
      (runScript w t prev cmds).map fun p => (p.1, { tr := p.2 }) := by
  induction cmds generalizing w t prev with
  | nil => rfl
  | cons c rest ih =>
    obtain ⟨k, rs⟩ := c
    simp only [List.map_cons, runScript2, runScript, runCmd]
    by_cases hx : (runCommand w t k rs prev).exited.isSome = true
    · simp [hx]
    · simp [hx, ih]

/-- the one induction over a script: entry `i` of the run is `runCmd` of command `i` of the script, started in a state
    with whatever every command of the script keeps (`Inv`: the hypotheses of the per-command theorems) -/
theorem runScript2_at {Inv : World → FdTable → Prop} (cmds : List Cmd)
    (step : ∀ c ∈ cmds, ∀ w t prev, Inv w t → Inv (runCmd w t prev c).tr.w (runCmd w t prev c).tr.t)
    (w : World) (t : FdTable) (prev : Nat) (h0 : Inv w t) (i : Nat) (p : FdTable × CmdTrace)
    (h : (runScript2 w t prev cmds)[i]? = some p) :
    ∃ c wb pv, cmds[i]? = some c ∧ Inv wb p.1 ∧ p.2 = runCmd wb p.1 pv c := by
  induction cmds generalizing w t prev i with
  | nil => simp [runScript2] at h
  | cons c rest ih =>
    simp only [runScript2] at h
    cases i with
    | zero =>
      have : p = (t, runCmd w t prev c) := by split at h <;> simpa using h.symm
      subst this; exact ⟨c, w, prev, rfl, h0, rfl⟩
    | succ j =>
      split at h
      · simp at h
      · exact ih (fun c' hc' => step c' (List.mem_cons_of_mem _ hc')) _ _ _
          (step c (List.mem_cons_self ..) w t prev h0) j (by simpa using h)

/-- ★ whole scripts of plain and nested commands: every command the driver runs is `runCmd` of a command
    of the script on a table that meets `WF` again (so `command_restores` / `exec_persists` /
    `nested_restores` / `nested_internal` apply to it), and neither the table it finds nor the table it
    leaves has a CLOEXEC descriptor that was not CLOEXEC when the script started -/
theorem script2_sound (w : World) (t : FdTable) (prev : Nat) (cmds : List Cmd) (hw : WF t) :
    ∀ p ∈ runScript2 w t prev cmds, ∃ c ∈ cmds, ∃ wb prev', WF p.1 ∧ p.2 = runCmd wb p.1 prev' c ∧
      (∀ fd, p.1.isCloexec fd = true → t.isCloexec fd = true) ∧
      (∀ fd, p.2.tr.t.isCloexec fd = true → t.isCloexec fd = true) := by
  intro p hp
  obtain ⟨i, hi⟩ := List.getElem?_of_mem hp
  obtain ⟨c, wb, pv, hc, ⟨hwf, hcl⟩, he⟩ :=
    runScript2_at (Inv := fun _ t' => WF t' ∧ ∀ fd, t'.isCloexec fd = true → t.isCloexec fd = true) cmds
      (fun c _ w' t' pv h => ⟨runCmd_wf w' t' pv c h.1, fun fd hfd => h.2 fd (runCmd_none_left w' t' pv c h.1 fd hfd)⟩)
      w t prev ⟨hw, fun _ h => h⟩ i p hi
  exact ⟨c, List.mem_of_getElem? hc, wb, pv, hwf, he, hcl,
    fun fd h => hcl fd (runCmd_none_left wb p.1 pv c hwf fd (he ▸ h))⟩

example : (runScript2 (stdWorld false) stdTable 0
    [.nested [⟨1, .file .fileOut 3⟩] .regular [⟨0, .file .fileIn 5⟩], .plain .regular [⟨1, .file .fileOut 5⟩]]).length = 2 := by
  decide +kernel

/-- ★ END TO END.  For every world (file system, option settings, interactive or not), every starting
    table that meets `WF` (any descriptors open, any limit) and every script — any number of commands of
    any of the kinds, each with an arbitrary redirection list (the same target named any number of
    times, failures at any position, allocation failing anywhere under the limit): every command the
    driver's `runScript` executes satisfies `CommandSound` relative to the table the script started
    with. -/
theorem script_sound (w : World) (t : FdTable) (prev : Nat) (cmds : List (Kind × List Redir)) (hw : WF t) :
    ∀ (i : Nat) (tb : FdTable) (tr : Trace), (runScript w t prev cmds)[i]? = some (tb, tr) →
      ∃ k rs wb pv, cmds[i]? = some (k, rs) ∧ tr = runCommand wb tb k rs pv ∧ CommandSound t tb k rs wb tr := by
  intro i tb tr h
  -- `runScript` is `runScript2` on plain commands; `CommandSound` follows from what `runScript2_at` hands back
  have h2 : (runScript2 w t prev (cmds.map fun p => .plain p.1 p.2))[i]? = some (tb, { tr := tr }) := by
    rw [runScript2_plain, List.getElem?_map, h]; rfl
  obtain ⟨c, wb, pv, hc, ⟨hwf, hcl⟩, he⟩ :=
    runScript2_at (Inv := fun _ t' => WF t' ∧ ∀ fd, t'.isCloexec fd = true → t.isCloexec fd = true) _
      (fun c hc w' t' pv h => by
        obtain ⟨q, _, rfl⟩ := List.mem_map.mp hc
        exact ⟨runCommand_wf w' t' q.1 q.2 pv h.1, fun fd hfd => h.2 fd (runCommand_none_left w' t' q.1 q.2 pv h.1 fd hfd)⟩)
      w t prev ⟨hw, fun _ h => h⟩ i _ h2
  rw [List.getElem?_map] at hc
  cases hq : cmds[i]? with
  | none => rw [hq] at hc; cases hc
  | some q =>
    rw [hq] at hc; cases hc
    simp only [runCmd, CmdTrace.mk.injEq, and_true] at he
    subst he
    exact ⟨q.1, q.2, wb, pv, rfl, rfl, command_sound t wb tb q.1 q.2 pv hwf hcl⟩

-- non-vacuity: a three-command script (exec with redirections, a command whose second redirection
-- fails, a command naming descriptor 1 twice) runs all three commands from a table meeting `WF`
example : (runScript (stdWorld false) stdTable 0
    [(.exec, [⟨3, .file .fileOut 5⟩]), (.regular, [⟨1, .file .fileOut 3⟩, ⟨0, .file .fileIn 8⟩]),
     (.regular, [⟨1, .file .fileOut 3⟩, ⟨1, .file .fileAppend 4⟩])]).length = 3 := by decide +kernel

/-- the Spec column over whole scripts: every verdict the driver prints for a command of `runScript2` is `ok`
    (`runCmd_wf`, `runCmd_bounded` re-establish the hypotheses command after command) -/
theorem script2_spec_ok (w : World) (t : FdTable) (prev : Nat) (cmds : List Cmd) (hw : WF t) (hb : Bounded w t) :
    ∀ p ∈ (runScript2 w t prev cmds).zip cmds, specVerdictCmd p.1.1 p.2 p.1.2 = "ok" := by
  intro p hp
  obtain ⟨i, hi⟩ := List.getElem?_of_mem hp
  obtain ⟨h1, h2⟩ := List.getElem?_zip_eq_some.mp hi
  obtain ⟨c, wb, pv, hc, ⟨hwf, hbd⟩, he⟩ := runScript2_at (Inv := fun w t => WF t ∧ Bounded w t) cmds
    (fun c _ w t pv h => ⟨runCmd_wf w t pv c h.1, runCmd_bounded w t pv c h.1 h.2⟩) w t prev ⟨hw, hb⟩ i p.1 h1
  obtain rfl : c = p.2 := Option.some.inj (hc.symm.trans h2)
  rw [he]; exact spec_verdict_cmd_ok wb p.1.1 pv _ hwf hbd

/-- the same over a whole script of plain commands: every verdict the driver prints for a command of `runScript`
    is `ok` — `runScript` is `runScript2` on plain commands (`runScript2_plain`), so this is `script2_spec_ok` -/
theorem script_spec_ok (cmds : List (Kind × List Redir)) :
    ∀ (w : World) (t : FdTable) (prev : Nat), WF t → Bounded w t →
    ∀ p ∈ (runScript w t prev cmds).zip cmds, specVerdict p.1.1 p.2.1 p.2.2 p.1.2 = "ok" := by
  intro w t prev hw hb p hp
  exact script2_spec_ok w t prev (cmds.map fun c => .plain c.1 c.2) hw hb
    (Prod.map (fun q => (q.1, { tr := q.2 })) (fun c => .plain c.1 c.2) p)
    (by rw [runScript2_plain, List.zip_map]; exact List.mem_map_of_mem hp)

end YashModel.Redir
