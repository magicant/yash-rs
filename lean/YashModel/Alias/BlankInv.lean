/-
  C17 — the invariant of the model's buffer behind the blank rule, kept by every step of the model whatever the alias
  table of that step is (`modelinvE_step`): constant, or changed by `alias` / `unalias` between command lines.  The Spec
  does not occur here.

  The invariant does not mention a table.  `E m` is the `ends_with_blank` of the value of the region named `m` that
  is OPEN (has unconsumed characters) — well defined because the chains of the unconsumed text are nested (`Mono`:
  the names on a later character's chain are on every earlier character's chain) and duplicate-free.  `ModelInvE`:
  a blank-ending value ends on a blank, a delimiter follows the end of a replacement, `eb` flags are those of `E`.
  A substitution updates `E` at the new name only (`modelinvE_step`) and does not change the walk's answer for the
  token put in place of the word (`blank_stable`).
-/
import YashModel.Alias.Blank
import YashModel.Alias.Lex
namespace YashModel.Alias

/-- `R c next` for every character of `l` and the character after it (`nxt` after the last one) -/
def AdjN (R : SChar → Option SChar → Prop) : List SChar → Option SChar → Prop
  | [], _ => True
  | c :: t, nxt => R c (headOr t nxt) ∧ AdjN R t nxt

/-- `RED` (Replacement End, Delimiter): after the end of a replacement comes a token delimiter -/
def RED (c : SChar) (nx : Option SChar) : Prop :=
  ∀ x, nx = some x → (∃ m ∈ c.chain, m ∉ x.chain) → isDelim x.c = true

/-- `RLBE` (Replacement's Last character is a Blank, by `E`): where a blank-ending value ends (the next character is no
    longer from it) there is a blank; `E m` = the value of the open region `m` ends with a blank -/
def RLBE (E : String → Bool) (c : SChar) (nx : Option SChar) : Prop :=
  ∀ m ∈ c.chain, (∀ x, nx = some x → m ∉ x.chain) → E m = true → isBlank c.c = true

/-- regions are nested: a name on the next character's chain is on this character's chain -/
def Mono (c : SChar) (nx : Option SChar) : Prop := ∀ x, nx = some x → ∀ m ∈ x.chain, m ∈ c.chain

/-- `lb`, `ed`, `mono`: `RLBE`, `RED`, `Mono` between neighbours of the unconsumed text; `ebt`: the `eb` flags there are those of
    `E`; `edb`, `ebb`: `ed` and `ebt` across the seam between `pre` and `rest`; `nolc`: unconsumed characters carry no mark yet. -/
structure ModelInvE (E : String → Bool) (s : MState) : Prop where
  lb : AdjN (RLBE E) s.rest none
  ed : AdjN RED s.rest none
  edb : ∀ p, s.pre.head? = some p → RED p s.rest.head?
  mono : AdjN Mono s.rest none
  ebt : ∀ c ∈ s.rest, ∀ m tl, c.chain = m :: tl → c.eb = E m
  ebb : ∀ p, s.pre.head? = some p → ∀ x, s.rest.head? = some x → ∀ m tl, p.chain = m :: tl → m ∈ x.chain →
    p.eb = E m
  nolc : ∀ c ∈ s.rest, c.lc = false

theorem headOr_append (l1 l2 : List SChar) (nxt : Option SChar) :
    headOr (l1 ++ l2) nxt = headOr l1 (headOr l2 nxt) := by
  cases l1 <;> rfl

theorem adjN_append {R : SChar → Option SChar → Prop} (l1 l2 : List SChar) (nxt : Option SChar) :
    AdjN R (l1 ++ l2) nxt ↔ AdjN R l1 (headOr l2 nxt) ∧ AdjN R l2 nxt := by
  induction l1 with
  | nil => simp [AdjN]
  | cons c t ih =>
    simp only [List.cons_append, AdjN, ih, headOr_append]
    exact ⟨fun ⟨a, b, c⟩ => ⟨⟨a, b⟩, c⟩, fun ⟨⟨a, b⟩, c⟩ => ⟨a, b, c⟩⟩

theorem adjN_drop {R : SChar → Option SChar → Prop} {l : List SChar} {nxt : Option SChar} (k : Nat)
    (h : AdjN R l nxt) : AdjN R (l.drop k) nxt := by
  have := (adjN_append (R := R) (l.take k) (l.drop k) nxt).mp (by rw [List.take_append_drop]; exact h)
  exact this.2

theorem adjN_boundary {R : SChar → Option SChar → Prop} : ∀ {l1 l2 : List SChar} {nxt : Option SChar} {u : SChar},
    AdjN R (l1 ++ l2) nxt → l1.getLast? = some u → R u (headOr l2 nxt)
  | [], _, _, _, _, hl => by simp at hl
  | [c], _, _, _, h, hl => by
    simp only [List.getLast?_singleton, Option.some.injEq] at hl
    subst hl
    exact h.1
  | c :: d :: t, _, _, _, h, hl => by
    rw [List.getLast?_cons_cons] at hl
    exact adjN_boundary (l1 := d :: t) h.2 hl

theorem model_token_facts {s : MState} {c0 : SChar} {tl : List SChar} {name : String} {asg : Bool}
    (hdrop : s.rest.drop (skipLen s.rest) = c0 :: tl)
    (hk : (lexTok (c0 :: tl)).kind = .word (some name) asg) :
    isDelim c0.c = false ∧
    (∀ d, (tl.drop ((lexTok (c0 :: tl)).len - 1)).head? = some d → isDelim d.c = true) ∧
    (∀ x ∈ c0 :: tl.take ((lexTok (c0 :: tl)).len - 1), isBlank x.c = false) ∧
    1 ≤ (lexTok (c0 :: tl)).len := by
  have hd : (chars s.rest).drop (skipLenC (chars s.rest)) = c0.c :: chars tl := by
    have := congrArg chars hdrop
    rw [chars_drop] at this
    exact this
  obtain ⟨h1, h2, h3⟩ := word_token_facts (l := chars s.rest) hd hk
  have hlen : 1 ≤ (lexTokC (c0.c :: chars tl)).len := by
    cases hl : (lexTokC (c0.c :: chars tl)).len with
    | zero =>
      have := h2 c0.c (by rw [hl]; rfl)
      rw [h1] at this; cases this
    | succ n => omega
  have hlt : (lexTok (c0 :: tl)).len = (lexTokC (c0.c :: chars tl)).len := rfl
  obtain ⟨n, hn⟩ : ∃ n, (lexTokC (c0.c :: chars tl)).len = n + 1 := ⟨_, (Nat.sub_add_cancel hlen).symm⟩
  refine ⟨h1, ?_, ?_, hlen⟩
  · intro d hd'
    apply h2 d.c
    rw [hlt, hn] at hd'
    rw [hn]
    simp only [Nat.add_sub_cancel, List.head?_drop] at hd'
    simp only [List.getElem?_cons_succ, chars_getElem?, hd', Option.map_some]
  · intro x hx
    have := h3 name rfl x.c
    apply this
    rw [hlt, hn] at hx
    rw [hn]
    simp only [Nat.add_sub_cancel] at hx
    simp only [List.take_succ_cons, List.mem_cons] at hx ⊢
    rcases hx with rfl | hx
    · exact Or.inl rfl
    · right
      have : x.c ∈ chars (tl.take n) := List.mem_map.mpr ⟨x, hx, rfl⟩
      rwa [chars_take] at this

theorem adjN_same {R : SChar → Option SChar → Prop}
    (hR : ∀ u v : SChar, u.chain = v.chain → R u (some v)) :
    ∀ (l : List SChar) (ch : List String) (nx : Option SChar), (∀ c ∈ l, c.chain = ch) →
      (∀ u, l.getLast? = some u → R u nx) → AdjN R l nx
  | [], _, _, _, _ => trivial
  | [c], _, nx, _, hl => ⟨hl c rfl, trivial⟩
  | c :: d :: t, ch, nx, hc, hl =>
    ⟨hR c d ((hc c (List.mem_cons_self ..)).trans (hc d (List.mem_cons_of_mem _ (List.mem_cons_self ..))).symm),
     adjN_same hR (d :: t) ch nx (fun x hx => hc x (List.mem_cons_of_mem _ hx))
       (fun u hu => hl u (by rw [List.getLast?_cons_cons]; exact hu))⟩

theorem red_same (u v : SChar) (h : u.chain = v.chain) : RED u (some v) := by
  intro x hx ⟨m, hm, hn⟩
  cases hx
  exact absurd (h ▸ hm) hn

theorem headOr_none (l : List SChar) : headOr l none = l.head? := by cases l <;> rfl

/-- adjacency over a run of characters with one chain followed by `l`: only the run's last character has to be
    checked against what follows -/
theorem adjN_splice {R : SChar → Option SChar → Prop} (hR : ∀ u v : SChar, u.chain = v.chain → R u (some v))
    {run l : List SChar} {ch : List String} (hch : ∀ c ∈ run, c.chain = ch)
    (hlast : ∀ w, run.getLast? = some w → R w l.head?) (h : AdjN R l none) : AdjN R (run ++ l) none :=
  (adjN_append _ _ _).mpr ⟨adjN_same hR _ _ _ hch (by rwa [headOr_none]), h⟩

theorem red_congr {p q : SChar} (h : p.chain = q.chain) {nx : Option SChar} (hr : RED q nx) : RED p nx := by
  intro x hx ⟨m, hm, hn⟩
  exact hr x hx ⟨m, h ▸ hm, hn⟩

theorem splice_ends_blank (a : Alias) (c0 : SChar) (h : endsBlank a.value = true) :
    ∃ front b, spliceChars a c0 = front ++ [b] ∧ isBlank b.c = true ∧ b.chain = a.name :: c0.chain ∧
      b.eb = true ∧ b.lc = false := by
  obtain ⟨front, c, hv, hb⟩ := endsBlank_iff.mp h
  refine ⟨front.map (fun ch => { c := ch, chain := a.name :: c0.chain, lc := false, eb := endsBlank a.value }),
    { c := c, chain := a.name :: c0.chain, lc := false, eb := endsBlank a.value }, ?_, hb, rfl, h, rfl⟩
  simp [spliceChars, hv]

theorem adjN_imp {R R' : SChar → Option SChar → Prop} : ∀ (l : List SChar) (nxt : Option SChar),
    (∀ c ∈ l, ∀ nx, R c nx → R' c nx) → AdjN R l nxt → AdjN R' l nxt
  | [], _, _, _ => trivial
  | c :: t, nxt, hi, h =>
    ⟨hi c (List.mem_cons_self ..) _ h.1, adjN_imp t nxt (fun x hx => hi x (List.mem_cons_of_mem _ hx)) h.2⟩

theorem mono_all : ∀ (c : SChar) (t : List SChar), AdjN Mono (c :: t) none → ∀ x ∈ t, ∀ m ∈ x.chain, m ∈ c.chain
  | _, [], _, x, hx, _, _ => by cases hx
  | c, d :: t, h, x, hx, m, hm => by
    have hcd : ∀ m ∈ d.chain, m ∈ c.chain := h.1 d rfl
    rcases List.mem_cons.mp hx with rfl | hx'
    · exact hcd m hm
    · exact hcd m (mono_all d t h.2 x hx' m hm)

/-- if a name is on the chain of `u` and gone right after `u :: seg`, a blank-ending value ends inside — on a blank -/
theorem ends_within {E : String → Bool} {m : String} : ∀ (u : SChar) (seg rest2 : List SChar),
    AdjN (RLBE E) (u :: (seg ++ rest2)) none → m ∈ u.chain →
    (∀ x, rest2.head? = some x → m ∉ x.chain) → E m = true → ∃ w ∈ u :: seg, isBlank w.c = true
  | u, [], rest2, h, hm, hr, he =>
    ⟨u, List.mem_cons_self .., h.1 m hm (fun x hx => hr x (by rw [← headOr_none]; exact hx)) he⟩
  | u, v :: seg, rest2, h, hm, hr, he => by
    by_cases hv : m ∈ v.chain
    · obtain ⟨w, hw, hb⟩ := ends_within v seg rest2 h.2 hv hr he
      exact ⟨w, List.mem_cons_of_mem _ hw, hb⟩
    · exact ⟨u, List.mem_cons_self .., h.1 m hm (fun x hx => by cases hx; exact hv) he⟩

theorem rlbE_same (E : String → Bool) (u v : SChar) (h : u.chain = v.chain) : RLBE E u (some v) := by
  intro m hm hn _
  exact absurd (h ▸ hm) (hn v rfl)

theorem mono_same (u v : SChar) (h : u.chain = v.chain) : Mono u (some v) := by
  intro x hx m hm
  cases hx
  exact h ▸ hm

/-- the character right before the token is the last skipped one (up to the line-continuation mark), or, if nothing
    was skipped, the last consumed one -/
theorem before_head_cases {s : MState} {c0 : SChar} {tl : List SChar}
    (hdrop : s.rest.drop (skipLen s.rest) = c0 :: tl) {p : SChar}
    (hp : s.before.head? = some p) :
    (s.rest = c0 :: tl ∧ s.pre.head? = some p) ∨
    ∃ u, (s.rest.take (skipLen s.rest)).getLast? = some u ∧ u.chain = p.chain ∧ u.eb = p.eb := by
  unfold MState.before at hp
  have hce := congrArg List.getLast?
    (markLc_map (fun c => (c.chain, c.eb)) (fun _ _ => rfl) (s.rest.take (skipLen s.rest)))
  rw [List.getLast?_map, List.getLast?_map] at hce
  cases hsk : (markLc (s.rest.take (skipLen s.rest))).reverse with
  | nil =>
    left
    rw [hsk] at hp
    have hm : markLc (s.rest.take (skipLen s.rest)) = [] := by simpa using hsk
    have hnil : s.rest.take (skipLen s.rest) = [] :=
      List.eq_nil_of_length_eq_zero (by rw [← markLc_length, hm]; rfl)
    refine ⟨?_, hp⟩
    rw [← List.take_append_drop (skipLen s.rest) s.rest, hnil, hdrop]; rfl
  | cons q qs =>
    right
    rw [hsk] at hp
    obtain rfl : q = p := by simpa using hp
    have hq : (markLc (s.rest.take (skipLen s.rest))).getLast? = some q := by
      rw [← List.head?_reverse, hsk]; rfl
    rw [hq] at hce
    cases hu : (s.rest.take (skipLen s.rest)).getLast? with
    | none => rw [hu] at hce; cases hce
    | some u =>
      rw [hu] at hce
      have := Option.some.inj hce
      exact ⟨u, rfl, (Prod.mk.inj this).1.symm, (Prod.mk.inj this).2.symm⟩

theorem before_head_red {E : String → Bool} {s : MState} (hi : ModelInvE E s) {c0 : SChar} {tl : List SChar}
    (hdrop : s.rest.drop (skipLen s.rest) = c0 :: tl) {p : SChar}
    (hp : s.before.head? = some p) :
    RED p (some c0) := by
  rcases before_head_cases hdrop hp with ⟨hrest, hp'⟩ | ⟨u, hu, hch, _⟩
  · have := hi.edb p hp'
    rwa [hrest] at this
  · have h2 := adjN_boundary ((List.take_append_drop (skipLen s.rest) s.rest).symm ▸ hi.ed) hu
    rw [hdrop] at h2
    exact red_congr hch.symm h2

theorem before_eb {E : String → Bool} {s : MState} (hi : ModelInvE E s) {c0 : SChar} {tl : List SChar}
    (hdrop : s.rest.drop (skipLen s.rest) = c0 :: tl) {p : SChar}
    (hp : s.before.head? = some p)
    {m : String} {tlp : List String} (hm : p.chain = m :: tlp) (hc : m ∈ c0.chain) : p.eb = E m := by
  rcases before_head_cases hdrop hp with ⟨hrest, hp'⟩ | ⟨u, hu, hch, heb⟩
  · exact hi.ebb p hp' c0 (by rw [hrest]; rfl) m tlp hm hc
  · rw [← heb]
    exact hi.ebt u (List.mem_of_mem_take (List.mem_of_mem_getLast? hu)) m tlp (hch.trans hm)

theorem ModelInvE.atToken {E : String → Bool} {s : MState} (hi : ModelInvE E s) {k : Nat} {c0 : SChar}
    {tl : List SChar} (hdrop : s.rest.drop k = c0 :: tl) :
    AdjN (RLBE E) (c0 :: tl) none ∧ AdjN RED (c0 :: tl) none ∧ AdjN Mono (c0 :: tl) none :=
  ⟨hdrop ▸ adjN_drop k hi.lb, hdrop ▸ adjN_drop k hi.ed, hdrop ▸ adjN_drop k hi.mono⟩

/-- A token that starts with a non-delimiter lies inside every value the character before it belongs to: no
    replacement ends right before it (`RED`). -/
theorem before_inside {E : String → Bool} {s : MState} (hi : ModelInvE E s) {c0 : SChar} {tl : List SChar}
    (hdrop : s.rest.drop (skipLen s.rest) = c0 :: tl) (hnd : isDelim c0.c = false) {p : SChar}
    (hp : s.before.head? = some p) :
    ∀ m ∈ p.chain, m ∈ c0.chain := fun m hm => Classical.byContradiction fun hn => by
  have := before_head_red hi hdrop hp c0 rfl ⟨m, hm, hn⟩
  rw [hnd] at this; cases this

/-- An enclosing blank-ending value cannot end inside a blank-free token: where it ended there would be a blank (`RLBE`). -/
theorem no_end_inside {E : String → Bool} {m : String} {c0 : SChar} {tl : List SChar} {n : Nat}
    (hlb : AdjN (RLBE E) (c0 :: tl) none) (hnb : ∀ x ∈ c0 :: tl.take n, isBlank x.c = false)
    (hm : m ∈ c0.chain) (hn : ∀ x, (tl.drop n).head? = some x → m ∉ x.chain) (he : E m = true) : False := by
  obtain ⟨u, hu, hb⟩ := ends_within c0 _ _ ((List.take_append_drop n tl).symm ▸ hlb) hm hn he
  rw [hnb u hu] at hb; cases hb

theorem modelinvE_step {E : String → Bool} {T : Table} {s s' : MState} (hi : ModelInvE E s)
    (h : step T s = some s') : ∃ E', ModelInvE E' s' := by
  cases step_rel h with
  | subst c0 tl a cmd name asg hdrop hkind hsub hnot hlook hwhy hpre hrest =>
    obtain ⟨hc0, htl⟩ := mem_of_drop hdrop
    obtain ⟨hnd, hdel, hnb, _⟩ := model_token_facts hdrop hkind
    have hanot : a.name ∉ c0.chain := guard_not_mem hlook hnot
    obtain ⟨hlb0, hed0, hmo0⟩ := hi.atToken hdrop
    have hsub0 : ∀ x ∈ tl, ∀ m ∈ x.chain, m ∈ c0.chain := mono_all c0 tl hmo0
    have hchain : ∀ c ∈ spliceChars a c0, c.chain = a.name :: c0.chain := fun _ => splice_chain
    have hinside := fun p hp => before_inside hi hdrop hnd (p := p) hp
    let E' : String → Bool := fun m => if m = a.name then endsBlank a.value else E m
    have hE'a : E' a.name = endsBlank a.value := by simp [E']
    have hE'o : ∀ m, m ∈ c0.chain → E' m = E m := by
      intro m hm
      have : m ≠ a.name := fun e => hanot (e ▸ hm)
      simp [E', this]
    obtain ⟨pre', rest', _, _, _, _⟩ := s'
    subst hpre hrest
    refine ⟨E', { lb := ?lb, ed := ?ed, edb := ?edb, mono := ?mono, ebt := ?ebt, ebb := ?ebb, nolc := ?nolc }⟩
    case lb =>
      refine adjN_splice (rlbE_same E') hchain ?_ (adjN_imp _ _ ?_ (adjN_drop _ hlb0.2))
      · intro w hw m hm hn he
        rw [hchain w (List.mem_of_mem_getLast? hw)] at hm
        rcases List.mem_cons.mp hm with rfl | hm'
        · -- the replacement itself ends here: its last character is a blank
          rw [hE'a] at he
          obtain ⟨front, b, hs, hbl, _⟩ := splice_ends_blank a c0 he
          rw [hs, List.getLast?_concat] at hw
          cases hw; exact hbl
        · -- an enclosing value would end inside the token
          exact (no_end_inside hlb0 hnb hm' hn (hE'o m hm' ▸ he)).elim
      · intro c hc nx hr m hm hn he
        exact hr m hm hn (by rw [← hE'o m (hsub0 c (List.mem_of_mem_drop hc) m hm)]; exact he)
    case ed => exact adjN_splice red_same hchain (fun w _ x hx _ => hdel x hx) (adjN_drop _ hed0.2)
    case edb =>
      intro p hp x hx ⟨m, hm, hn⟩
      rw [List.head?_append, Option.or_eq_some_iff] at hx
      rcases hx.imp List.mem_of_head? (·.2) with h1 | h1
      · exact absurd (by rw [hchain x h1]; exact List.mem_cons_of_mem _ (hinside p hp m hm)) hn
      · exact hdel x h1
    case mono =>
      refine adjN_splice mono_same hchain (fun w hw x hx m hm => ?_) (adjN_drop _ hmo0.2)
      rw [hchain w (List.mem_of_mem_getLast? hw)]
      exact List.mem_cons_of_mem _ (hsub0 x (List.mem_of_mem_drop (List.mem_of_mem_head? hx)) m hm)
    case ebt =>
      intro c hc m tl' hm
      rcases List.mem_append.mp hc with h3 | h4
      · rw [hchain c h3] at hm
        obtain ⟨rfl, _⟩ := List.cons.inj hm
        rw [(mem_splice h3).2.1, hE'a]
      · have hcin : c ∈ tl := List.mem_of_mem_drop h4
        rw [hE'o m (hsub0 c hcin m (by rw [hm]; exact List.mem_cons_self ..))]
        exact hi.ebt c (htl c hcin) m tl' hm
    case ebb =>
      intro p hp x hx m tlp hm hmx
      have hmc : m ∈ c0.chain := hinside p hp m (by rw [hm]; exact List.mem_cons_self ..)
      rw [hE'o m hmc]
      exact before_eb hi hdrop hp hm hmc
    case nolc =>
      intro c hc
      rcases List.mem_append.mp hc with h3 | h4
      · exact (mem_splice h3).2.2
      · exact hi.nolc c (htl c (List.mem_of_mem_drop h4))
  | take c0 tl hdrop hel hpre hrest =>
    obtain ⟨hc0, htl⟩ := mem_of_drop hdrop
    obtain ⟨hlb0, hed0, hmo0⟩ := hi.atToken hdrop
    -- the last consumed character is the last one of the segment taken
    have hlast : ∀ p, s'.pre.head? = some p → (c0 :: tl.take (spanLen s c0 tl)).getLast? = some p := fun p hp => by
      rw [hpre] at hp
      rw [← List.head?_reverse]
      simpa using hp
    refine ⟨E, { lb := ?lb, ed := ?ed, edb := ?edb, mono := ?mono, ebt := ?ebt, ebb := ?ebb, nolc := ?nolc }⟩
    case lb => rw [hrest]; exact adjN_drop _ hlb0.2
    case ed => rw [hrest]; exact adjN_drop _ hed0.2
    case edb =>
      intro p hp
      rw [hrest, ← headOr_none]
      exact adjN_boundary (l1 := c0 :: tl.take (spanLen s c0 tl))
        (by rw [List.cons_append, List.take_append_drop]; exact hed0) (hlast p hp)
    case mono => rw [hrest]; exact adjN_drop _ hmo0.2
    case ebt =>
      intro c hc m tl' hm
      rw [hrest] at hc
      exact hi.ebt c (htl c (List.mem_of_mem_drop hc)) m tl' hm
    case ebb =>
      intro p hp x _ m tlp hm _
      have hps : p ∈ s.rest := by
        rcases List.mem_cons.mp (List.mem_of_mem_getLast? (hlast p hp)) with rfl | h5
        · exact hc0
        · exact htl p (List.mem_of_mem_take h5)
      exact hi.ebt p hps m tlp hm
    case nolc =>
      intro c hc
      rw [hrest] at hc
      exact hi.nolc c (htl c (List.mem_of_mem_drop hc))

theorem blank_stable {E : String → Bool} {s : MState} (hi : ModelInvE E s) {c0 : SChar} {tl : List SChar}
    {a : Alias} {name : String} {asg : Bool}
    (hdrop : s.rest.drop (skipLen s.rest) = c0 :: tl)
    (hkind : (lexTok (c0 :: tl)).kind = .word (some name) asg) :
    afterBlank s.before (some c0) =
    afterBlank s.before
      (spliceChars a c0 ++ tl.drop ((lexTok (c0 :: tl)).len - 1)).head? := by
  obtain ⟨hnd, hdel, hnb, _⟩ := model_token_facts hdrop hkind
  cases hb : s.before with
  | nil => rfl
  | cons p ps =>
    rw [afterBlank_cons, afterBlank_cons]
    congr 2
    -- only the test on the nearest character could change
    unfold bcond
    cases hpc : p.chain with
    | nil => rfl
    | cons m tlp =>
      cases hpe : p.eb with
      | false => simp
      | true =>
        have hphead : s.before.head? = some p := by
          rw [hb]; rfl
        -- the token lies inside the value the nearest character belongs to
        have hc : m ∈ c0.chain := before_inside hi hdrop hnd hphead m (by rw [hpc]; exact List.mem_cons_self ..)
        have heb : E m = true := by rw [← before_eb hi hdrop hphead hpc hc]; exact hpe
        -- … and so does what is put in its place: that value does not end inside the token
        have h2 : ∃ x, (spliceChars a c0 ++ tl.drop ((lexTok (c0 :: tl)).len - 1)).head? = some x ∧ m ∈ x.chain :=
          Classical.byContradiction fun hno => by
            have hD : ∀ x, (tl.drop ((lexTok (c0 :: tl)).len - 1)).head? = some x → m ∉ x.chain := by
              intro x hx hm
              cases hsp : spliceChars a c0 with
              | nil => exact hno ⟨x, by rw [hsp]; exact hx, hm⟩
              | cons y ys =>
                exact hno ⟨y, by rw [hsp]; rfl, by
                  rw [splice_chain (hsp ▸ List.mem_cons_self ..)]; exact List.mem_cons_of_mem _ hc⟩
            exact no_end_inside (hi.atToken hdrop).1 hnb hc hD heb
        obtain ⟨x, hx, hmx⟩ := h2
        rw [sameAlias_cons hpc, sameAlias_cons hpc, hx]
        simp [hc, hmx]

theorem bcond_blank {E : String → Bool} {c : SChar} {nx : Option SChar} (hr : RLBE E c nx)
    (he : ∀ m tl, c.chain = m :: tl → c.eb = E m) (hb : bcond c nx = true) : isBlank c.c = true := by
  unfold bcond at hb
  simp only [Bool.and_eq_true, Bool.not_eq_true', List.isEmpty_eq_false_iff] at hb
  obtain ⟨⟨hne, heb⟩, hsa⟩ := hb
  cases hch : c.chain with
  | nil => exact absurd hch hne
  | cons m tl =>
    apply hr m (by rw [hch]; exact List.mem_cons_self ..) _ (by rw [← he m tl hch]; exact heb)
    intro x hx
    rw [sameAlias_cons hch, hx] at hsa
    simpa using hsa

theorem modelinvE_init (line : List Char) : ModelInvE (fun _ => false) (init line) := by
  have hch : ∀ c ∈ plain line, c.chain = [] := fun _ hc => (mem_plain hc).1
  -- typed characters have no origin, so every clause about a name on a chain holds for want of a name
  have hlast : ∀ u, (plain line).getLast? = some u → ∀ m, m ∉ u.chain := fun u hu m hm => by
    rw [hch u (List.mem_of_mem_getLast? hu)] at hm; cases hm
  refine { lb := ?lb, ed := ?ed, edb := ?edb, mono := ?mono, ebt := ?ebt, ebb := ?ebb, nolc := ?nolc }
  case lb => exact adjN_same (rlbE_same _) _ [] none hch fun u hu m hm => absurd hm (hlast u hu m)
  case ed => exact adjN_same red_same _ [] none hch fun u _ x hx => by cases hx
  case edb => intro p hp; cases hp
  case mono => exact adjN_same mono_same _ [] none hch fun u _ x hx => by cases hx
  case ebt => intro c hc m tl hm; rw [hch c hc] at hm; cases hm
  case ebb => intro p hp; cases hp
  case nolc => exact fun c hc => (mem_plain hc).2.2

end YashModel.Alias
