/-
  C17 — Spec: alias substitution "by hand", the way POSIX XCU 2.3.1 words it and traditional shells
  implement it — NOT the way yash-rs stores it.

  * The text is plain characters (no per-character origins).
  * An alias is "being processed" from the moment its value is put in front of the remaining text until that
    value has been read completely: a stack of regions `(name, endRem)`, `endRem` = number of characters of
    the remaining text that lie behind the region.  A word is not replaced by an alias that is being
    processed (innermost or enclosing).
  * "If the value of the alias replacing the word ends in a blank, the shell shall check the next command
    word for alias substitution": the run of blank characters (and line continuations between tokens) that
    immediately precedes the word contains the final blank of a value that ends in a blank.  This is one
    flag (`tb`), updated character by character as text is read; replacing a word reads nothing, so the word
    put in its place inherits the flag.
  * A word is a candidate only where the grammar reads a command name (`trans … = some true`), or the alias
    is global, or by the blank rule.  Which grammar position the next token is in is the same automaton
    `trans` as the model uses (it transcribes the parser, not the alias mechanism).
  * The parser then reads the TOKENS that come out (`toks`), i.e. a replaced word is always a token
    boundary.

  `substLine T line` is the substituted text.  The driver prints its Spec column from the line-by-line wrapper below
  (`hlrunC`, `hlrunB`); the implementation must agree (checked on every run).
-/
import YashModel.Alias.Model
namespace YashModel.Alias

structure Region where
  name : String
  endRem : Nat
  eb : Bool
  deriving Repr

structure HState where
  out : List Char := []        -- text already read, most recent first
  rest : List Char
  active : List Region := []   -- aliases being processed, innermost first
  st : PState := .cmd0
  toks : List Kind := []
  hd : Pending := []
  tb : Bool := false           -- the trailing run of blanks read so far holds the end of a blank-ending value
  deriving Repr

/-- regions that contain the character which has `rem` characters (itself included) up to the end -/
def activeAt (rs : List Region) (rem : Nat) : List Region := rs.filter (fun r => r.endRem < rem)

/-- Is the character with `rem` characters (itself included) up to the end the last character of the
    innermost value it belongs to, and does that value end with a blank? -/
def endsValue (rs : List Region) (rem : Nat) : Bool :=
  match activeAt rs rem with
  | r :: _ => r.eb && r.endRem + 1 == rem
  | [] => false

/-- `\`+newline pairs (line continuations between tokens) in a stretch of text -/
def markC : List Char → List (Char × Bool)
  | a :: b :: t => if a == '\\' && b == '\n' then (a, true) :: (b, true) :: markC t else (a, false) :: markC (b :: t)
  | l => l.map (·, false)

/-- Reads characters (with their line-continuation mark; `rem` = characters up to the end of the text,
    the first one included) and updates the flag: a line continuation keeps it, a blank keeps it and sets it
    when it ends a blank-ending value, anything else clears it. -/
def flagGo (rs : List Region) : Bool → List (Char × Bool) → Nat → Bool
  | b, [], _ => b
  | b, (c, lc) :: t, rem =>
    flagGo rs (if lc then b else if isBlank c then b || endsValue rs rem else false) t (rem - 1)

/-- Reads the first `k` characters of the remaining text `l` and updates the flag; line continuations are
    recognised only between tokens (`lcOk`). -/
def flagRun (rs : List Region) (lcOk : Bool) (k : Nat) (b : Bool) (l : List Char) : Bool :=
  flagGo rs b (if lcOk then markC (l.take k) else (l.take k).map (·, false)) l.length

/-- The alias (if any) that replaces the next word. -/
def hcand (T : Table) (s : HState) : Option Alias :=
  let k := skipLenC s.rest
  let r := s.rest.drop k
  let tok := lexTokC r
  let here := activeAt s.active r.length
  let blank := flagRun s.active true k s.tb s.rest
  match (trans s.st tok.kind).sub, tok.kind with
  | some cmd, .word (some name) _ =>
    if here.any (fun x => x.name == name) then none else
    match T.lookup name with
    | some a => if cmd || a.global || blank then some a else none
    | none => none
  | _, _ => none

def hstep (T : Table) (s : HState) : Option HState :=
  let k := skipLenC s.rest
  let skipped := s.rest.take k
  match s.rest.drop k with
  | [] => none
  | c0 :: tl =>
    let tok := lexTokC (c0 :: tl)
    let n := tok.len - 1
    let d := trans s.st tok.kind
    let blank := flagRun s.active true k s.tb s.rest
    match hcand T s with
    | some a =>
      let after := tl.drop n
      let here := activeAt s.active (tl.length + 1)
      let enclosing := here.map fun x => { x with endRem := min x.endRem after.length }
      some { out := skipped.reverse ++ s.out, rest := a.value ++ after,
             active := { name := a.name, endRem := after.length, eb := endsBlank a.value } :: enclosing,
             st := d.onSub, toks := s.toks, hd := s.hd, tb := blank }
    | none =>
      let m := spanLenC s.hd s.st (c0 :: tl)
      let after := tl.drop m
      some { out := (tl.take m).reverse ++ c0 :: (skipped.reverse ++ s.out), rest := after,
             active := activeAt s.active after.length, st := d.onTake,
             toks := tokOutC s.hd s.st (c0 :: tl) ++ s.toks, hd := hdNextC s.hd s.st (c0 :: tl),
             tb := flagRun s.active false (m + 1) blank (c0 :: tl) }

def hrun (T : Table) : Nat → HState → HState
  | 0, s => s
  | f + 1, s =>
    match hstep T s with
    | none => s
    | some s' => hrun T f s'

def substHand (T : Table) (line : List Char) : HState := hrun T (fuelFor T line) { rest := line }

/-- Textual substitution by hand. -/
def substLine (T : Table) (line : List Char) : List Char :=
  let s := substHand T line
  s.out.reverse ++ s.rest

/-! ### by hand, line by line: the table is updated after every complete command line -/

structure HLState where
  T : Table
  h : HState
  tr : Track := {}

def hlstep (l : HLState) : Option HLState :=
  match hstep l.T l.h with
  | none => none
  | some h' =>
    if h'.toks.length == l.h.toks.length then some { l with h := h' } else
    let r := l.h.rest.drop (skipLenC l.h.rest)
    let tok := lexTokC r
    let (tr', cmds) := trackTok l.h.st tok.kind (trans l.h.st tok.kind).sub (r.take tok.len) l.tr
    some { T := cmds.foldl applyCmd l.T, h := h', tr := tr' }

def hlrun : Nat → HLState → HLState
  | 0, l => l
  | f + 1, l =>
    match hlstep l with
    | none => l
    | some l' => hlrun f l'

def HLState.finalTable (l : HLState) : Table :=
  if l.tr.depth == 0 && !l.tr.cont && lineEndState l.h.st then
    (endItem l.h.st l.tr).pending.reverse.foldl applyCmd l.T
  else l.T

/-! ### where every character comes from, by hand

  The implementation tags every character with its origin (`Source::Alias{original, alias}` nesting).  By hand
  the same information is "which aliases were being processed where this character stands": the names of the
  regions that contain it, innermost first.  A character keeps that list once it has been read.  The log is an
  observer: it does not influence `hstep` (`origin_log_is_observer`, `line_origin_log_is_observer` in Theorems.lean). -/

/-- for every character of the remaining text `l`: names of the aliases being processed at it, innermost first -/
def regionNames (rs : List Region) : List Char → List (List String)
  | [] => []
  | _ :: t => (activeAt rs (t.length + 1)).map (·.name) :: regionNames rs t

/-- the characters read by the step `h → h'` are filed (most recent first) under the aliases that were being
    processed when they were read -/
def hlog (h h' : HState) (log : List (List String)) : List (List String) :=
  ((regionNames h.active h.rest).take (h'.out.length - h.out.length)).reverse ++ log

/-- by-hand state + origin log (constant table) -/
structure HCState where
  h : HState
  log : List (List String) := []

def hstepC (T : Table) (c : HCState) : Option HCState :=
  match hstep T c.h with
  | none => none
  | some h' => some { h := h', log := hlog c.h h' c.log }

def hrunC (T : Table) : Nat → HCState → HCState
  | 0, c => c
  | f + 1, c =>
    match hstepC T c with
    | none => c
    | some c' => hrunC T f c'

/-- origins of all characters of the text (read ones first, then the remaining ones) -/
def HCState.origins (c : HCState) : List (List String) := c.log.reverse ++ regionNames c.h.active c.h.rest

/-- by-hand line machine + origin log -/
structure HLCState where
  l : HLState
  log : List (List String) := []

def hlstepC (c : HLCState) : Option HLCState :=
  match hlstep c.l with
  | none => none
  | some l' => some { l := l', log := hlog c.l.h l'.h c.log }

def hlrunC : Nat → HLCState → HLCState
  | 0, c => c
  | f + 1, c =>
    match hlstepC c with
    | none => c
    | some c' => hlrunC f c'

def HLCState.origins (c : HLCState) : List (List String) :=
  c.log.reverse ++ regionNames c.l.h.active c.l.h.rest

/-! ### the blank-rule flag at every character, by hand

  `Lexer::is_after_blank_ending_alias(i)` can be asked at every index `i` of the buffer, not only where the parser
  asks.  By hand the answer is the flag `tb` BEFORE character `i` is read.  An observer like the origin log: it does
  not influence `hstep`. -/

/-- the flag before each of the characters read -/
def flagsBefore (rs : List Region) : Bool → List (Char × Bool) → Nat → List Bool
  | _, [], _ => []
  | b, (c, lc) :: t, rem =>
    b :: flagsBefore rs (if lc then b else if isBlank c then b || endsValue rs rem else false) t (rem - 1)

/-- flags before the characters that the step `hstep T s` reads (skipped blanks, then the token if it is taken) -/
def hstepBits (T : Table) (s : HState) : List Bool :=
  let k := skipLenC s.rest
  let sk := flagsBefore s.active s.tb (markC (s.rest.take k)) s.rest.length
  match s.rest.drop k with
  | [] => sk
  | c0 :: tl =>
    match hcand T s with
    | some _ => sk
    | none =>
      let blank := flagRun s.active true k s.tb s.rest
      let m := spanLenC s.hd s.st (c0 :: tl)
      sk ++ flagsBefore s.active blank (((c0 :: tl).take (m + 1)).map (·, false)) (c0 :: tl).length

/-- the by-hand line machine with the flag log; at the end of input the remaining blanks / comment are read too -/
def hlrunB : Nat → HLState → List Bool → List Bool
  | 0, _, acc => acc
  | f + 1, l, acc =>
    match hlstep l with
    | none => acc ++ hstepBits l.T l.h
    | some l' => hlrunB f l' (acc ++ hstepBits l.T l.h)

/-! ### command position, as XCU 2.3.1 / 2.9.1 define it -/

/-- XCU 2.3.1 / 2.9.1, written out: after which ACCEPTED token the next word is looked at as a command name.
    Reserved words and operators that begin a (compound-)list, separators and pipeline / and-or operators: -/
def Spec.startsCommandWord : List String := ["!", "{", "if", "then", "elif", "else", "while", "until", "do"]
def Spec.startsCommandOp : List String := [";", "&", "&&", "||", "|", "\n", "("]
/-- … and NOT after: `for` (a name follows), `case` (the subject), `in` (words / patterns), the name of a function
    definition (`(` follows), a redirection operator (its operand follows), a command name or an argument. -/
def Spec.noCommandAfter : List String := ["for", "case", "in"]

/-- the states in which the next word is tested as a command name (`is_command_name = true`) -/
def cmdPos (st : PState) : Bool := st == .cmd0 || st == .pre

end YashModel.Alias
