/-
  C17 — what one step of each machine does.  `choose` is the decision shared by the model's `eligible` and the Spec's
  `hcand`; `StepRel` is what a step does to the buffer; `step` and `hstep` are unfolded here, in their equations.
-/
import YashModel.Alias.Spec
import YashModel.Common.Loop
namespace YashModel.Alias
open YashModel.Run

def HState.text (h : HState) : List Char := h.out.reverse ++ h.rest

/-- the consumed side of the buffer once the blanks before the next token are skipped and marked: `step`'s `before` -/
abbrev MState.before (s : MState) : List SChar := (markLc (s.rest.take (skipLen s.rest))).reverse ++ s.pre

/-- shortening the enclosing regions to the end of the new value -/
def clamp (L : Nat) (x : Region) : Region := { x with endRem := min x.endRem L }

theorem markLc_map {β : Type} (f : SChar → β) (hf : ∀ (c : SChar) (b : Bool), f { c with lc := b } = f c)
    (l : List SChar) : (markLc l).map f = l.map f := by
  fun_induction markLc l with
  | case1 a b t _ ih => simp only [List.map_cons, hf, ih]
  | case2 a b t _ ih => simp only [List.map_cons] at ih ⊢; rw [ih]
  | case3 => rfl

theorem markLc_chains (l : List SChar) : (markLc l).map (·.chain) = l.map (·.chain) :=
  markLc_map _ (fun _ _ => rfl) l

theorem markLc_length (l : List SChar) : (markLc l).length = l.length := by
  simpa using congrArg List.length (markLc_chains l)

theorem markLc_pred {P : List String → Prop} {l : List SChar} (h : ∀ c ∈ l, P c.chain) :
    ∀ c ∈ markLc l, P c.chain := by
  intro c hc
  have : c.chain ∈ (markLc l).map (·.chain) := List.mem_map.mpr ⟨c, hc, rfl⟩
  rw [markLc_chains] at this
  obtain ⟨c', hc', he⟩ := List.mem_map.mp this
  rw [← he]; exact h c' hc'

theorem chars_splice (a : Alias) (c0 : SChar) : chars (spliceChars a c0) = a.value := by
  simp only [chars, spliceChars, List.map_map]
  exact List.map_id' _

theorem chars_plain (cs : List Char) : chars (plain cs) = cs := by
  simp only [chars, plain, List.map_map]
  exact List.map_id' _

theorem chars_cons (c : SChar) (l : List SChar) : chars (c :: l) = c.c :: chars l := rfl

theorem chars_append (l₁ l₂ : List SChar) : chars (l₁ ++ l₂) = chars l₁ ++ chars l₂ := by
  simp [chars]

theorem chars_reverse (l : List SChar) : chars l.reverse = (chars l).reverse := by
  simp [chars]

theorem chars_markLc (l : List SChar) : chars (markLc l) = chars l := markLc_map _ (fun _ _ => rfl) l

theorem chars_take (l : List SChar) (k : Nat) : chars (l.take k) = (chars l).take k := by
  simp [chars, List.map_take]

theorem chars_drop (l : List SChar) (k : Nat) : chars (l.drop k) = (chars l).drop k := by
  simp [chars, List.map_drop]

theorem chars_length (l : List SChar) : (chars l).length = l.length := by simp [chars]

theorem chars_getElem? (l : List SChar) (n : Nat) : (chars l)[n]? = l[n]?.map (·.c) := by
  simp [chars]

theorem MState.text_eq (s : MState) : s.text = (chars s.pre).reverse ++ chars s.rest := by
  rw [MState.text, ← chars_reverse, ← chars_append]; rfl

theorem split_of_drop {α : Type} {l : List α} {k : Nat} {a : α} {t : List α} (h : l.drop k = a :: t) (m : Nat) :
    l = l.take k ++ a :: t.take m ++ t.drop m := by
  rw [List.append_assoc, List.cons_append, List.take_append_drop, ← h, List.take_append_drop]

theorem endsBlank_iff {v : List Char} : endsBlank v = true ↔ ∃ front c, v = front ++ [c] ∧ isBlank c = true := by
  unfold endsBlank
  constructor
  · intro h
    split at h
    · rename_i c hc
      obtain ⟨front, hv⟩ : ∃ front, v = front ++ [c] := List.getLast?_eq_some_iff.mp hc
      exact ⟨front, c, hv, h⟩
    · cases h
  · rintro ⟨front, c, rfl, hc⟩
    simpa only [List.getLast?_append, List.getLast?_singleton, Option.some_or] using hc

theorem lookup_spec {T : Table} {n : String} {a : Alias} (h : T.lookup n = some a) : a ∈ T ∧ a.name = n := by
  unfold Table.lookup at h
  refine ⟨List.mem_of_find?_eq_some h, ?_⟩
  have := List.find?_some h
  simpa using this

/-- `Parser::substitute_alias` with its three inputs left open: is an alias of that name being processed at the word
    (`guard`), does the blank rule apply (`blank`), how is the token taken (`sub`).  The model's `eligible` (guard: the
    name is on the chain of the word's first character; blank: the backward walk) and the Spec's `hcand` (guard: a region
    of that name contains the word; blank: the forward flag) are this function. -/
def choose (T : Table) (guard : String → Bool) (blank : Bool) : Option Bool → Kind → Option Alias
  | some cmd, .word (some name) _ =>
    if guard name then none else
    match T.lookup name with
    | some a => if cmd || a.global || blank then some a else none
    | none => none
  | _, _ => none

theorem eligible_eq_choose (T : Table) (before : List SChar) (c0 : SChar) (k : Kind) (sub : Option Bool) :
    eligible T before c0 k sub = choose T c0.isAliasFor (afterBlank before (some c0)) sub k := rfl

theorem hcand_eq_choose (T : Table) (s : HState) :
    hcand T s = choose T
      (fun n => (activeAt s.active (s.rest.drop (skipLenC s.rest)).length).any (fun x => x.name == n))
      (flagRun s.active true (skipLenC s.rest) s.tb s.rest)
      (trans s.st (lexTokC (s.rest.drop (skipLenC s.rest))).kind).sub
      (lexTokC (s.rest.drop (skipLenC s.rest))).kind := rfl

theorem choose_eq_some {T : Table} {guard : String → Bool} {blank : Bool} {sub : Option Bool} {k : Kind} {a : Alias} :
    choose T guard blank sub k = some a ↔
      ∃ cmd name asg, sub = some cmd ∧ k = .word (some name) asg ∧ guard name = false ∧
        T.lookup name = some a ∧ (cmd = true ∨ a.global = true ∨ blank = true) := by
  constructor
  · intro h
    unfold choose at h
    split at h
    · rename_i cmd name asg
      by_cases hg : guard name = true
      · simp [hg] at h
      · simp only [hg, Bool.false_eq_true, ↓reduceIte] at h
        cases hl : T.lookup name with
        | none => simp [hl] at h
        | some a' =>
          simp only [hl] at h
          by_cases hc : (cmd || a'.global || blank) = true
          · simp only [hc, ↓reduceIte, Option.some.injEq] at h
            subst h
            exact ⟨cmd, name, asg, rfl, rfl, by simpa using hg, hl, by simpa [or_assoc] using hc⟩
          · simp [hc] at h
    · cases h
  · rintro ⟨cmd, name, asg, rfl, rfl, hg, hl, hw⟩
    have : (cmd || a.global || blank) = true := by simpa [or_assoc] using hw
    simp [choose, hg, hl, this]

theorem choose_congr {T : Table} {g g' : String → Bool} {b b' : Bool} (hg : ∀ n, g n = g' n) (hb : b = b')
    (sub : Option Bool) (k : Kind) : choose T g b sub k = choose T g' b' sub k := by
  rw [show g = g' from funext hg, hb]

theorem eligible_eq_some {T : Table} {before : List SChar} {c0 : SChar} {k : Kind} {sub : Option Bool} {a : Alias} :
    eligible T before c0 k sub = some a ↔
    ∃ cmd name asg, sub = some cmd ∧ k = .word (some name) asg ∧ c0.isAliasFor name = false ∧
      T.lookup name = some a ∧ (cmd = true ∨ a.global = true ∨ afterBlank before (some c0) = true) := by
  rw [eligible_eq_choose]; exact choose_eq_some

theorem guard_not_mem {T : Table} {name : String} {a : Alias} {c0 : SChar} (hl : T.lookup name = some a)
    (hn : c0.isAliasFor name = false) : a.name ∉ c0.chain := by
  rw [(lookup_spec hl).2]; simpa [SChar.isAliasFor] using hn

theorem mem_splice {a : Alias} {c0 c : SChar} (hc : c ∈ spliceChars a c0) :
    c.chain = a.name :: c0.chain ∧ c.eb = endsBlank a.value ∧ c.lc = false := by
  simp only [spliceChars, List.mem_map] at hc
  obtain ⟨_, _, rfl⟩ := hc
  exact ⟨rfl, rfl, rfl⟩

theorem splice_chain {a : Alias} {c0 c : SChar} (hc : c ∈ spliceChars a c0) : c.chain = a.name :: c0.chain :=
  (mem_splice hc).1

theorem mem_plain {cs : List Char} {c : SChar} (hc : c ∈ plain cs) : c.chain = [] ∧ c.eb = false ∧ c.lc = false := by
  simp only [plain, List.mem_map] at hc
  obtain ⟨_, _, rfl⟩ := hc
  exact ⟨rfl, rfl, rfl⟩

/-- What `step` does to the buffer and to `subs`: a substitution (with all the eligibility facts) or the consumption
    of one token.  (Grammar state, tokens and pending here-documents of `s'` are in `step_subst` / `step_take`.) -/
inductive StepRel (T : Table) (s s' : MState) : Prop
  | subst (c0 : SChar) (tl : List SChar) (a : Alias) (cmd : Bool) (name : String) (asg : Bool)
      (hdrop : s.rest.drop (skipLen s.rest) = c0 :: tl)
      (hkind : (lexTok (c0 :: tl)).kind = .word (some name) asg)
      (hsub : (trans s.st (lexTok (c0 :: tl)).kind).sub = some cmd)
      (hnot : c0.isAliasFor name = false)
      (hlook : T.lookup name = some a)
      (hwhy : cmd = true ∨ a.global = true ∨
        afterBlank s.before (some c0) = true)
      (hpre : s'.pre = s.before)
      (hrest : s'.rest = spliceChars a c0 ++ tl.drop ((lexTok (c0 :: tl)).len - 1))
      (hsubs : s'.subs = s.subs + 1)
  | take (c0 : SChar) (tl : List SChar)
      (hdrop : s.rest.drop (skipLen s.rest) = c0 :: tl)
      (hel : eligible T s.before c0 (lexTok (c0 :: tl)).kind
              (trans s.st (lexTok (c0 :: tl)).kind).sub = none)
      (hpre : s'.pre = (tl.take (spanLen s c0 tl)).reverse ++ c0 ::
                s.before)
      (hrest : s'.rest = tl.drop (spanLen s c0 tl))
      (hsubs : s'.subs = s.subs)

theorem step_none {T : Table} {s : MState} (hdrop : s.rest.drop (skipLen s.rest) = []) : step T s = none := by
  unfold step; simp only [hdrop]

theorem step_take {T : Table} {s : MState} {c0 : SChar} {tl : List SChar}
    (hdrop : s.rest.drop (skipLen s.rest) = c0 :: tl)
    (hel : eligible T s.before c0
      (lexTok (c0 :: tl)).kind (trans s.st (lexTok (c0 :: tl)).kind).sub = none) :
    step T s = some
      { pre := (tl.take (spanLen s c0 tl)).reverse ++ c0 ::
                 s.before,
        rest := tl.drop (spanLen s c0 tl),
        st := (trans s.st (lexTok (c0 :: tl)).kind).onTake, subs := s.subs,
        toks := tokOutC s.hd s.st (chars (c0 :: tl)) ++ s.toks,
        hd := hdNextC s.hd s.st (chars (c0 :: tl)) } := by
  unfold step; simp only [hdrop, hel]

theorem step_subst {T : Table} {s : MState} {c0 : SChar} {tl : List SChar} {a : Alias}
    (hdrop : s.rest.drop (skipLen s.rest) = c0 :: tl)
    (hel : eligible T s.before c0
      (lexTok (c0 :: tl)).kind (trans s.st (lexTok (c0 :: tl)).kind).sub = some a) :
    step T s = some
      { pre := s.before,
        rest := spliceChars a c0 ++ tl.drop ((lexTok (c0 :: tl)).len - 1),
        st := (trans s.st (lexTok (c0 :: tl)).kind).onSub, subs := s.subs + 1, toks := s.toks,
        hd := s.hd } := by
  unfold step; simp only [hdrop, hel]

theorem step_rel {T : Table} {s s' : MState} (h : step T s = some s') : StepRel T s s' := by
  cases hdrop : s.rest.drop (skipLen s.rest) with
  | nil => rw [step_none hdrop] at h; cases h
  | cons c0 tl =>
    cases hel : eligible T s.before c0 (lexTok (c0 :: tl)).kind (trans s.st (lexTok (c0 :: tl)).kind).sub with
    | some a =>
      rw [step_subst hdrop hel] at h; cases h
      obtain ⟨cmd, name, asg, hsub, hkind, hnot, hlook, hwhy⟩ := eligible_eq_some.mp hel
      exact .subst c0 tl a cmd name asg hdrop hkind hsub hnot hlook hwhy rfl rfl rfl
    | none =>
      rw [step_take hdrop hel] at h; cases h
      exact .take c0 tl hdrop hel rfl rfl rfl

theorem mem_of_drop {α : Type} {l : List α} {k : Nat} {a : α} {t : List α} (h : l.drop k = a :: t) :
    a ∈ l ∧ ∀ x ∈ t, x ∈ l :=
  ⟨List.mem_of_mem_drop (h ▸ List.mem_cons_self ..), fun _ hx => List.mem_of_mem_drop (h ▸ List.mem_cons_of_mem _ hx)⟩

theorem take_text {s s' : MState} {c0 : SChar} {tl : List SChar} {m : Nat}
    (hdrop : s.rest.drop (skipLen s.rest) = c0 :: tl)
    (hpre : s'.pre = (tl.take m).reverse ++ c0 :: s.before)
    (hrest : s'.rest = tl.drop m) : s'.text = s.text := by
  rw [MState.text_eq, MState.text_eq, hpre, hrest]
  conv => rhs; rw [split_of_drop hdrop m]
  simp only [chars_append, chars_cons, chars_reverse, chars_markLc, List.reverse_append, List.reverse_cons,
    List.reverse_reverse, List.append_assoc, List.cons_append, List.nil_append]

theorem hstep_none {T : Table} {h : HState} (hd : h.rest.drop (skipLenC h.rest) = []) : hstep T h = none := by
  unfold hstep; simp only [hd]

theorem hstep_subst {T : Table} {h : HState} {c : Char} {t : List Char} {a : Alias}
    (hd : h.rest.drop (skipLenC h.rest) = c :: t) (hc : hcand T h = some a) :
    hstep T h = some
      { out := (h.rest.take (skipLenC h.rest)).reverse ++ h.out,
        rest := a.value ++ t.drop ((lexTokC (c :: t)).len - 1),
        active := { name := a.name, endRem := (t.drop ((lexTokC (c :: t)).len - 1)).length,
                    eb := endsBlank a.value } ::
          (activeAt h.active (t.length + 1)).map (clamp (t.drop ((lexTokC (c :: t)).len - 1)).length),
        st := (trans h.st (lexTokC (c :: t)).kind).onSub, toks := h.toks, hd := h.hd,
        tb := flagRun h.active true (skipLenC h.rest) h.tb h.rest } := by
  unfold hstep; simp only [hd, hc]; rfl

theorem hstep_take {T : Table} {h : HState} {c : Char} {t : List Char}
    (hd : h.rest.drop (skipLenC h.rest) = c :: t) (hc : hcand T h = none) :
    hstep T h = some
      { out := (t.take (spanLenC h.hd h.st (c :: t))).reverse ++ c ::
                 ((h.rest.take (skipLenC h.rest)).reverse ++ h.out),
        rest := t.drop (spanLenC h.hd h.st (c :: t)),
        active := activeAt h.active (t.drop (spanLenC h.hd h.st (c :: t))).length,
        st := (trans h.st (lexTokC (c :: t)).kind).onTake,
        toks := tokOutC h.hd h.st (c :: t) ++ h.toks,
        hd := hdNextC h.hd h.st (c :: t),
        tb := flagRun h.active false (spanLenC h.hd h.st (c :: t) + 1)
                (flagRun h.active true (skipLenC h.rest) h.tb h.rest) (c :: t) } := by
  unfold hstep; simp only [hd, hc]

theorem tokOutC_ne_nil (hd : Pending) (st : PState) (r : List Char) : tokOutC hd st r ≠ [] := by
  unfold tokOutC
  simp only
  split <;> simp

/-- Every step of the driver's machine IS a `step` of the model with the table current at that moment: all
    step theorems (`only_eligible`, `guard_by_name`, `argument_words_only_global`, `blank_chain`,
    `subst_measure_decreases`, …) speak about what the driver computes. -/
theorem lstep_step {l l' : LState} (h : lstep l = some l') : step l.T l.m = some l'.m := by
  unfold lstep at h
  split at h
  · cases h
  · rename_i m' hm
    rw [hm]
    split at h <;> (cases h; rfl)

theorem run_iterB (T : Table) : ∀ (f : Nat) (s : MState), run T f s = iterB (step T) f s
  | 0, _ => rfl
  | f + 1, s => by unfold run iterB; cases step T s <;> simp only [run_iterB T f]

theorem lrun_iterB : ∀ (f : Nat) (l : LState), lrun f l = iterB lstep f l
  | 0, _ => rfl
  | f + 1, l => by unfold lrun iterB; cases lstep l <;> simp only [lrun_iterB f]

theorem run_iter (T : Table) (f : Nat) (s : MState) : (run T f s).1 = iter (step T) f s := by
  rw [run_iterB]; rfl

theorem lrun_iter (f : Nat) (l : LState) : (lrun f l).1 = iter lstep f l := by
  rw [lrun_iterB]; rfl

theorem hrun_iter (T : Table) (f : Nat) (h : HState) : hrun T f h = iter (hstep T) f h :=
  iter_unique (fun _ => rfl) (fun _ h => by simp only [hrun]; cases hstep T h <;> rfl) f h

theorem hlrun_iter (f : Nat) (g : HLState) : hlrun f g = iter hlstep f g :=
  iter_unique (fun _ => rfl) (fun _ g => by simp only [hlrun]; cases hlstep g <;> rfl) f g

theorem hrunC_iter (T : Table) (f : Nat) (c : HCState) : hrunC T f c = iter (hstepC T) f c :=
  iter_unique (fun _ => rfl) (fun _ c => by simp only [hrunC]; cases hstepC T c <;> rfl) f c

theorem hlrunC_iter (f : Nat) (c : HLCState) : hlrunC f c = iter hlstepC f c :=
  iter_unique (fun _ => rfl) (fun _ c => by simp only [hlrunC]; cases hlstepC c <;> rfl) f c

end YashModel.Alias
