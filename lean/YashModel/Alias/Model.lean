/-
  C17 — Impl model of alias substitution as the yash-rs lexer/parser performs it.

  Rust sources mirrored (all under /repo):
  * yash-syntax/src/parser/lex/core.rs   `LexerCore::{substitute_alias, is_after_blank_ending_alias}`,
                                          `SourceCharEx` (character + origin + line-continuation flag)
  * yash-env/src/source.rs               `Source::is_alias_for` (walks the whole origin chain)
  * yash-syntax/src/parser/core.rs       `Parser::{substitute_alias, take_token_manual, take_token_auto}`
  * yash-syntax/src/parser/{simple_command,command,pipeline,and_or,list,compound_command,grouping,if,
    while_loop,for_loop,case,function,redir}.rs — *which* of raw / manual(is_command_name) / auto(keywords)
    is used for the next token: the position automaton `trans`.
  * yash-syntax/src/parser/lex/{token,op,word,misc,keyword}.rs — the tokeniser `lexTok`.

  Data layout: the lexer's `source: Vec<SourceCharEx>` is the pair (`pre` = consumed characters, most
  recent first; `rest` = characters from `index` on).  Every character carries its origin chain: the names
  of the aliases whose replacement produced it, innermost first (`Source::Alias{original, alias}` nesting).
  Imports only other areas' models (C20 `Args.parseArguments` for the option parsing of the built-ins, C07
  `Quote.quote` for the printed form of an alias); total, executable.
-/
import YashModel.Args.Model
import YashModel.Quote.Model
namespace YashModel.Alias

/-- `yash_env::alias::Alias` (name, replacement, global). -/
structure Alias where
  name : String
  value : List Char
  global : Bool := false
  deriving Repr, DecidableEq

/-- `AliasSet` (a hash set keyed by name): the first entry of a name is the definition. -/
abbrev Table := List Alias

def Table.lookup (T : Table) (n : String) : Option Alias := T.find? (fun a => a.name == n)

def Table.names (T : Table) : List String := T.map (·.name)

/-- `is_blank` (lex/core.rs): `c != '\n' && c.is_whitespace()`.  `char::is_whitespace` is the Unicode
    `White_Space` property: U+0009–U+000D, U+0020, U+0085, U+00A0, U+1680, U+2000–U+200A, U+2028, U+2029,
    U+202F, U+205F, U+3000 (the table is re-read by `tools/tables/alias.py` into
    `Generated/AliasTables.isWhiteSpace`; `blank_is_the_code_predicate` ties this definition to it). -/
def isBlank (c : Char) : Bool :=
  c == ' ' || c == '\t' || c == '\r' || c == '\x0b' || c == '\x0c' ||
  c == '\u0085' || c == '\u00a0' || c == '\u1680' || (0x2000 ≤ c.val && c.val ≤ 0x200a) ||
  c == '\u2028' || c == '\u2029' || c == '\u202f' || c == '\u205f' || c == '\u3000'

/-- `is_operator_char`: first characters of `OPERATORS`. -/
def isOpChar (c : Char) : Bool :=
  c == '\n' || c == '&' || c == '(' || c == ')' || c == ';' || c == '<' || c == '>' || c == '|'

/-- `is_token_delimiter_char` -/
def isDelim (c : Char) : Bool := isOpChar c || isBlank c

def endsBlank (v : List Char) : Bool :=
  match v.getLast? with
  | some c => isBlank c
  | none => false

/-- `SourceCharEx`: value, origin chain (innermost alias first), `is_line_continuation`; `eb` caches
    "the replacement of the innermost alias ends with a blank" (`ends_with_blank(&alias.replacement)`). -/
structure SChar where
  c : Char
  chain : List String := []
  lc : Bool := false
  eb : Bool := false
  deriving Repr, DecidableEq

def plain (cs : List Char) : List SChar := cs.map fun c => { c := c }

/-! ### Tokeniser -/

/-- Operators (`OPERATORS` trie; every prefix of an operator is an operator). -/
def operators : List (List Char) :=
  ["\n", "&", "&&", "(", ")", ";", ";&", ";;", ";;&", ";|", "<", "<&", "<(", "<<", "<<-", "<<<", "<>",
   ">", ">&", ">(", ">>", ">>|", ">|", "|", "||"].map String.toList

def isOperator (s : List Char) : Bool := operators.contains s

/-- Keywords (`Keyword::from_str`). -/
def keywords : List String :=
  ["!", "[[", "]]", "case", "do", "done", "elif", "else", "esac", "fi", "for", "function", "if", "in",
   "namespace", "select", "then", "until", "while", "{", "}"]

/-- Skips line continuations (`Lexer::peek_char`) and returns the next character, the number of
    characters up to and including it, and what follows. -/
def peel : List Char → Option (Char × Nat × List Char)
  | [] => none
  | [a] => some (a, 1, [])
  | a :: b :: t =>
    if a == '\\' && b == '\n' then
      match peel t with
      | some (c, n, r) => some (c, n + 2, r)
      | none => none
    else some (a, 1, b :: t)

/-- `Lexer::operator`: longest operator at the head (at most three characters), with its length in
    buffer characters (line continuations inside count). -/
def lexOp (l : List Char) : Option (List Char × Nat) :=
  match peel l with
  | none => none
  | some (c1, n1, r1) =>
    if !isOpChar c1 then none else
    match peel r1 with
    | none => some ([c1], n1)
    | some (c2, n2, r2) =>
      if !isOperator [c1, c2] then some ([c1], n1) else
      match peel r2 with
      | none => some ([c1, c2], n1 + n2)
      | some (c3, n3, _) =>
        if isOperator [c1, c2, c3] then some ([c1, c2, c3], n1 + n2 + n3) else some ([c1, c2], n1 + n2)

/-- lexical mode inside a word: unquoted, single / double quotes, inside `$( … )` at paren depth `d` (begun
    in double quotes or not; with its own single / double quotes), inside backquotes -/
inductive QMode
  | un | sq | dq
  | cs (d : Nat) (dq : Bool) | csq (d : Nat) (dq : Bool) | csd (d : Nat) (dq : Bool)
  | bq (dq : Bool)
  deriving DecidableEq

/-- Length of the word at the head (`WordLexer::word` with `is_token_delimiter_char`): unquoted text,
    backslash escapes, single and double quotes, line continuations. -/
def wordLen : QMode → List Char → Nat
  | _, [] => 0
  | .un, a :: t =>
    if a == '\\' then
      match t with
      | [] => 1
      | _ :: t' => 2 + wordLen .un t'
    else if isDelim a then 0
    else if a == '\'' then 1 + wordLen .sq t
    else if a == '"' then 1 + wordLen .dq t
    else if a == '`' then 1 + wordLen (.bq false) t
    else if a == '$' then
      match t with
      | b :: t' => if b == '(' then 2 + wordLen (.cs 1 false) t' else 1 + wordLen .un (b :: t')
      | [] => 1
    else 1 + wordLen .un t
  | .sq, a :: t => if a == '\'' then 1 + wordLen .un t else 1 + wordLen .sq t
  | .dq, a :: t =>
    if a == '"' then 1 + wordLen .un t
    else if a == '\\' then
      match t with
      | [] => 1
      | _ :: t' => 2 + wordLen .dq t'
    else if a == '`' then 1 + wordLen (.bq true) t
    else if a == '$' then
      match t with
      | b :: t' => if b == '(' then 2 + wordLen (.cs 1 true) t' else 1 + wordLen .dq (b :: t')
      | [] => 1
    else 1 + wordLen .dq t
  -- `$( … )`: the lexer parses a whole program up to the matching `)`; no alias is substituted inside
  | .cs d q, a :: t =>
    if a == '\\' then
      match t with
      | [] => 1
      | _ :: t' => 2 + wordLen (.cs d q) t'
    else if a == '\'' then 1 + wordLen (.csq d q) t
    else if a == '"' then 1 + wordLen (.csd d q) t
    else if a == '(' then 1 + wordLen (.cs (d + 1) q) t
    else if a == ')' then
      (if d ≤ 1 then 1 + wordLen (if q then .dq else .un) t else 1 + wordLen (.cs (d - 1) q) t)
    else 1 + wordLen (.cs d q) t
  | .csq d q, a :: t => if a == '\'' then 1 + wordLen (.cs d q) t else 1 + wordLen (.csq d q) t
  | .csd d q, a :: t =>
    if a == '"' then 1 + wordLen (.cs d q) t
    else if a == '\\' then
      match t with
      | [] => 1
      | _ :: t' => 2 + wordLen (.csd d q) t'
    else 1 + wordLen (.csd d q) t
  | .bq q, a :: t =>
    if a == '`' then 1 + wordLen (if q then .dq else .un) t
    else if a == '\\' then
      match t with
      | [] => 1
      | _ :: t' => 2 + wordLen (.bq q) t'
    else 1 + wordLen (.bq q) t

/-- Is the word closed (no unterminated quote)?  An unterminated quote is a lexer error. -/
def wordClosed : QMode → List Char → Bool
  | m, [] => m == .un
  | .un, a :: t =>
    if a == '\\' then
      match t with
      | [] => true
      | _ :: t' => wordClosed .un t'
    else if isDelim a then true
    else if a == '\'' then wordClosed .sq t
    else if a == '"' then wordClosed .dq t
    else if a == '`' then wordClosed (.bq false) t
    else if a == '$' then
      match t with
      | b :: t' => if b == '(' then wordClosed (.cs 1 false) t' else wordClosed .un (b :: t')
      | [] => true
    else wordClosed .un t
  | .sq, a :: t => if a == '\'' then wordClosed .un t else wordClosed .sq t
  | .dq, a :: t =>
    if a == '"' then wordClosed .un t
    else if a == '\\' then
      match t with
      | [] => false
      | _ :: t' => wordClosed .dq t'
    else if a == '`' then wordClosed (.bq true) t
    else if a == '$' then
      match t with
      | b :: t' => if b == '(' then wordClosed (.cs 1 true) t' else wordClosed .dq (b :: t')
      | [] => false
    else wordClosed .dq t
  | .cs d q, a :: t =>
    if a == '\\' then
      match t with
      | [] => false
      | _ :: t' => wordClosed (.cs d q) t'
    else if a == '\'' then wordClosed (.csq d q) t
    else if a == '"' then wordClosed (.csd d q) t
    else if a == '(' then wordClosed (.cs (d + 1) q) t
    else if a == ')' then
      (if d ≤ 1 then wordClosed (if q then .dq else .un) t else wordClosed (.cs (d - 1) q) t)
    else wordClosed (.cs d q) t
  | .csq d q, a :: t => if a == '\'' then wordClosed (.cs d q) t else wordClosed (.csq d q) t
  | .csd d q, a :: t =>
    if a == '"' then wordClosed (.cs d q) t
    else if a == '\\' then
      match t with
      | [] => false
      | _ :: t' => wordClosed (.csd d q) t'
    else wordClosed (.csd d q) t
  | .bq q, a :: t =>
    if a == '`' then wordClosed (if q then .dq else .un) t
    else if a == '\\' then
      match t with
      | [] => false
      | _ :: t' => wordClosed (.bq q) t'
    else wordClosed (.bq q) t

/-- Characters that make `$` start an expansion (so that the word is not a literal). -/
def dollarStarts (c : Char) : Bool :=
  c.isAlphanum || c == '_' || c == '@' || c == '*' || c == '#' || c == '?' || c == '$' || c == '!' ||
  c == '-' || c == '{' || c == '(' || c == '\''

/-- `Word::to_string_if_literal` on the word at the head: `some s` iff every unit is an unquoted literal
    character (line continuations vanish). -/
def wordLit : List Char → Option (List Char)
  | [] => some []
  | a :: t =>
    if a == '\\' then
      match t with
      | [] => some ['\\']
      | b :: t' => if b == '\n' then wordLit t' else none
    else if isDelim a then some []
    else if a == '\'' || a == '"' || a == '`' then none
    else if a == '$' then
      match t with
      | [] => some ['$']
      | b :: _ => if dollarStarts b then none else (wordLit t).map ('$' :: ·)
    else (wordLit t).map (a :: ·)

/-- `Assign::try_from`: a non-empty literal prefix followed by an unquoted `=`. -/
def isAssignAux : Bool → List Char → Bool
  | _, [] => false
  | seen, a :: t =>
    if a == '\\' then
      match t with
      | [] => false
      | b :: t' => if b == '\n' then isAssignAux seen t' else false
    else if isDelim a then false
    else if a == '=' then seen
    else if a == '\'' || a == '"' || a == '`' then false
    else if a == '$' then
      match t with
      | [] => false
      | b :: _ => if dollarStarts b then false else isAssignAux true t
    else isAssignAux true t

/-- `name=` with an empty value: the first unquoted `=` ends the word -/
def isAssignEmptyAux : Bool → List Char → Bool
  | _, [] => false
  | seen, a :: t =>
    if isDelim a then false
    else if a == '=' then
      seen && (match t with
        | [] => true
        | b :: _ => isDelim b)
    else if a == '\\' || a == '\'' || a == '"' || a == '`' || a == '$' then false
    else isAssignEmptyAux true t

def isAssign (l : List Char) : Bool :=
  match l with
  | a :: _ => if a == '~' then false else isAssignAux false l
  | [] => false

inductive Kind
  | eof
  | op (s : String)
  | io                       -- IO_NUMBER
  | word (lit : Option String) (assign : Bool)
  | assignArr                -- `name=` immediately followed by `(`: start of an array assignment
  | bad                      -- unterminated quote
  deriving Repr, DecidableEq

structure Tok where
  kind : Kind
  len : Nat
  deriving Repr

/-- `Lexer::token` at the head of `l` (blanks and comments already skipped), on plain characters. -/
def lexTokC (l : List Char) : Tok :=
  match l with
  | [] => { kind := .eof, len := 0 }
  | _ =>
    match lexOp l with
    | some (s, n) => { kind := .op (String.ofList s), len := n }
    | none =>
      let n := wordLen .un l
      if !wordClosed .un l then { kind := .bad, len := n } else
      -- `parse_tilde_front`: a leading `~` makes a tilde expansion, not a literal
      let lit := match l with
        | a :: _ => if a == '~' then none else wordLit l
        | [] => none
      match lit with
      | some s =>
        let next := (peel (l.drop n)).map (·.1)
        if !s.isEmpty && s.all Char.isDigit && (next == some '<' || next == some '>') then
          { kind := .io, len := n }
        else if isAssign l && isAssignEmptyAux false l && next == some '(' then { kind := .assignArr, len := n }
        else { kind := .word (some (String.ofList s)) (isAssign l), len := n }
      | none => { kind := .word none (isAssign l), len := n }

/-- Marks `\`+newline pairs (`mark_line_continuation`); used on the blanks skipped before a token. -/
def markLc : List SChar → List SChar
  | a :: b :: t =>
    if a.c == '\\' && b.c == '\n' then { a with lc := true } :: { b with lc := true } :: markLc t
    else a :: markLc (b :: t)
  | l => l

/-- Length of a comment body (up to, not including, the newline). -/
def commentLen : List Char → Nat
  | [] => 0
  | a :: t => if a == '\n' then 0 else 1 + commentLen t

/-- `skip_blanks_and_comment`: number of characters skipped (blanks, line continuations, then a comment). -/
def skipLenC : List Char → Nat
  | [] => 0
  | [a] => if isBlank a then 1 else if a == '#' then 1 else 0
  | a :: b :: t =>
    if isBlank a then 1 + skipLenC (b :: t)
    else if a == '\\' && b == '\n' then 2 + skipLenC t
    else if a == '#' then 1 + commentLen (b :: t)
    else 0

/-- the characters of a buffer segment (origins dropped) -/
def chars (l : List SChar) : List Char := l.map (·.c)

/-- `Lexer::token` on buffer characters: tokenisation looks at the character values only. -/
def lexTok (l : List SChar) : Tok := lexTokC (chars l)

/-- `skip_blanks_and_comment` on buffer characters. -/
def skipLen (l : List SChar) : Nat := skipLenC (chars l)

/-- quote removal for the words of an `alias` command (no expansions are generated) -/
def unquote : QMode → List Char → List Char
  | _, [] => []
  | .un, c :: t =>
    if c == '\\' then
      match t with
      | [] => ['\\']
      | d :: t' => if d == '\n' then unquote .un t' else d :: unquote .un t'
    else if c == '\'' then unquote .sq t
    else if c == '"' then unquote .dq t
    else c :: unquote .un t
  | .sq, c :: t => if c == '\'' then unquote .un t else c :: unquote .sq t
  | .dq, c :: t =>
    if c == '"' then unquote .un t
    else if c == '\\' then
      match t with
      | [] => ['\\']
      | d :: t' =>
        if d == '\n' then unquote .dq t'
        else if d == '$' || d == '`' || d == '"' || d == '\\' then d :: unquote .dq t'
        else c :: d :: unquote .dq t'
    else c :: unquote .dq t
  | _, l => l

/-! ### Here-documents: the delimiter is a redirection operand (alias substitution applies to it), the body
    is read raw when the next newline token is consumed -/

/-- pending here-documents: delimiter after quote removal, and whether the operator was `<<-` -/
abbrev Pending := List (List Char × Bool)

def stripTabs : List Char → List Char
  | c :: t => if c == '\t' then stripTabs t else c :: t
  | [] => []

/-- `Lexer::here_doc_content` for one delimiter: number of characters up to and including the delimiter
    line (which must end with a newline); `none` = `UnclosedHereDocContent`. -/
def hereLen1 : Nat → List Char → Bool → List Char → Option Nat
  | 0, _, _, _ => none
  | f + 1, d, dash, l =>
    let line := l.takeWhile (· != '\n')
    match l.drop line.length with
    | [] => none
    | _ :: rest =>
      if (if dash then stripTabs line else line) == d then some (line.length + 1)
      else (hereLen1 f d dash rest).map (· + (line.length + 1))

def hereLen : Pending → List Char → Option Nat
  | [], _ => some 0
  | (d, dash) :: ps, l =>
    match hereLen1 (l.length + 1) d dash l with
    | none => none
    | some n => (hereLen ps (l.drop n)).map (· + n)

/-! ### Position automaton: which `take_token_*` the parser uses next -/

inductive PState
  | cmd0                 -- `simple_command` with an empty builder / start of a command
  | pre                  -- assignments or redirections seen, no word yet (`words.is_empty()`)
  | one                  -- exactly one word, nothing else (`is_one_word`: function definition possible)
  | args                 -- words present
  | redirH (ret : Nat) (dash : Bool)  -- delimiter of a here-document (`<<`, `<<-`): `take_token_auto(&[])` too
  | redir (ret : Nat)    -- operand of a redirection (`take_token_auto(&[])`); 0 → pre, 1 → args, 2 → afterComp
  | afterComp            -- after `}` `fi` `done` `esac` `)`: redirections, then a separator
  | arrOpen | arr        -- `name=(` … `)`: array values are taken with `take_token_auto(&[])`
  | fnClose              -- after `name (`: `take_token_auto(&[])` must give `)`
  | fnBody               -- function body: a compound command, else `take_token_manual(false)`
  | forName | forIn (firstLine : Bool) | forWords | forBody
  | caseSubj | caseIn | casePat0 | casePat1 | caseSep | casePatN
  | err                  -- the parser has reported a syntax error: nothing is substituted any more
  deriving Repr, DecidableEq

/-- Decision for the next token. `sub = none`: taken raw (no substitution). `sub = some cmd`:
    `Parser::substitute_alias(token, is_command_name = cmd)` is attempted. -/
structure Dec where
  sub : Option Bool := none
  onSub : PState := .err
  onTake : PState := .err
  deriving Repr

def retState : Nat → PState
  | 0 => .pre
  | 1 => .args
  | _ => .afterComp

def isRedirOp (s : String) : Bool :=
  s == "<" || s == "<>" || s == ">" || s == ">>" || s == ">|" || s == "<&" || s == ">&" || s == ">>|" ||
  s == "<<<"

def isHereOp (s : String) : Bool := s == "<<" || s == "<<-"

/-- Separators and closers after a complete command (list.rs, and_or.rs, pipeline.rs, case.rs). -/
def afterCommandOp (s : String) : PState :=
  if s == ";" || s == "&" || s == "\n" || s == "|" || s == "&&" || s == "||" then .cmd0
  else if s == ")" then .afterComp
  else if s == ";;" || s == ";&" || s == ";;&" || s == ";|" then .casePat0
  else .err

/-- A keyword met where a command may start (`Token(Some(_keyword)) if result.is_empty() => break` in
    simple_command.rs; then compound_command.rs / pipeline.rs / the enclosing clause take it raw). -/
def keywordAtStart (k : String) : PState :=
  if k == "{" || k == "if" || k == "while" || k == "until" || k == "!" ||
     k == "then" || k == "else" || k == "elif" || k == "do" then .cmd0
  else if k == "}" || k == "fi" || k == "done" || k == "esac" then .afterComp
  else if k == "for" then .forName
  else if k == "case" then .caseSubj
  else .err

def isKeyword (lit : Option String) : Bool :=
  match lit with
  | some s => keywords.contains s
  | none => false

def transCore (st : PState) (k : Kind) : Dec :=
  match st, k with
  | .err, _ => {}
  | _, .bad => {}
  | _, .eof => {}
  -- array assignment (simple_command.rs `array_values`)
  | .cmd0, .assignArr => { onTake := .arrOpen }
  | .pre, .assignArr => { onTake := .arrOpen }
  | _, .assignArr => {}
  | .arrOpen, .op s => if s == "(" then { onTake := .arr } else {}
  | .arrOpen, _ => {}
  | .arr, .word _ _ => { sub := some false, onSub := .arr, onTake := .arr }
  | .arr, .op s => if s == "\n" then { onTake := .arr } else if s == ")" then { onTake := .pre } else {}
  | .arr, .io => {}
  -- start of a command
  | .cmd0, .io => { onTake := .pre }
  | .cmd0, .op s =>
    if isRedirOp s then { onTake := .redir 0 }
    else if isHereOp s then { onTake := .redirH 0 (s == "<<-") }
    else if s == "(" then { onTake := .cmd0 }
    else { onTake := afterCommandOp s }
  | .cmd0, .word lit asg =>
    if isKeyword lit then { onTake := keywordAtStart (lit.getD "") }
    else { sub := some true,
           onSub := .cmd0,
           onTake := if asg then .pre else .one }
  -- simple command under construction
  | .pre, .io => { onTake := .pre }
  | .pre, .op s => if isRedirOp s then { onTake := .redir 0 } else if isHereOp s then { onTake := .redirH 0 (s == "<<-") } else if s == "(" then {} else { onTake := afterCommandOp s }
  | .pre, .word _ asg => { sub := some true, onSub := .pre, onTake := if asg then .pre else .args }
  | .one, .io => { onTake := .args }
  | .one, .op s =>
    if isRedirOp s then { onTake := .redir 1 } else if isHereOp s then { onTake := .redirH 1 (s == "<<-") }
    else if s == "(" then { onTake := .fnClose }
    else { onTake := afterCommandOp s }
  | .one, .word _ _ => { sub := some false, onSub := .one, onTake := .args }
  | .args, .io => { onTake := .args }
  | .args, .op s => if isRedirOp s then { onTake := .redir 1 } else if isHereOp s then { onTake := .redirH 1 (s == "<<-") } else if s == "(" then {} else { onTake := afterCommandOp s }
  | .args, .word _ _ => { sub := some false, onSub := .args, onTake := .args }
  -- redirection operand: take_token_auto(&[])
  | .redir r, .word _ _ => { sub := some false, onSub := .redir r, onTake := retState r }
  | .redir r, .io => { onTake := retState r }
  | .redir _, .op _ => {}
  | .redirH r d, .word _ _ => { sub := some false, onSub := .redirH r d, onTake := retState r }
  | .redirH r _, .io => { onTake := retState r }
  | .redirH _ _, .op _ => {}
  -- after a compound command
  | .afterComp, .io => { onTake := .afterComp }
  | .afterComp, .op s => if isRedirOp s then { onTake := .redir 2 } else if isHereOp s then { onTake := .redirH 2 (s == "<<-") } else if s == "(" then {} else { onTake := afterCommandOp s }
  | .afterComp, .word lit _ =>
    match lit with
    | some k =>
      if k == "then" || k == "else" || k == "elif" || k == "do" then { onTake := .cmd0 }
      else if k == "}" || k == "fi" || k == "done" || k == "esac" then { onTake := .afterComp }
      else {}
    | none => {}
  -- function definition
  | .fnClose, .word _ _ => { sub := some false, onSub := .fnClose, onTake := .err }
  | .fnClose, .op s => if s == ")" then { onTake := .fnBody } else {}
  | .fnClose, .io => {}
  | .fnBody, .op s => if s == "\n" then { onTake := .fnBody } else if s == "(" then { onTake := .cmd0 } else {}
  | .fnBody, .word lit _ =>
    match lit with
    | some k =>
      if k == "{" || k == "if" || k == "while" || k == "until" then { onTake := .cmd0 }
      else if k == "for" then { onTake := .forName }
      else if k == "case" then { onTake := .caseSubj }
      else { sub := some false, onSub := .fnBody, onTake := .err }
    | none => { sub := some false, onSub := .fnBody, onTake := .err }
  | .fnBody, .io => {}
  -- for loop
  | .forName, .word _ _ => { sub := some false, onSub := .forName, onTake := .forIn true }
  | .forName, .io => { onTake := .forIn true }
  | .forName, .op _ => {}
  | .forIn fl, .op s =>
    if s == ";" && fl then { onTake := .forBody }
    else if s == "\n" then { onTake := .forIn false }
    else { sub := some false, onSub := .forIn fl, onTake := .err }
  | .forIn fl, .word lit _ =>
    if lit == some "do" then { onTake := .cmd0 }
    else if lit == some "in" then { onTake := .forWords }
    else { sub := some false, onSub := .forIn fl, onTake := .err }
  | .forIn _, .io => {}
  | .forWords, .word _ _ => { sub := some false, onSub := .forWords, onTake := .forWords }
  | .forWords, .io => { onTake := .forWords }
  | .forWords, .op s => if s == ";" || s == "\n" then { onTake := .forBody } else {}
  | .forBody, .op s => if s == "\n" then { onTake := .forBody } else {}
  | .forBody, .word lit _ =>
    if lit == some "do" then { onTake := .cmd0 }
    else { sub := some false, onSub := .forBody, onTake := .err }
  | .forBody, .io => {}
  -- case
  | .caseSubj, .word _ _ => { sub := some false, onSub := .caseSubj, onTake := .caseIn }
  | .caseSubj, _ => {}
  | .caseIn, .op s => if s == "\n" then { onTake := .caseIn } else {}
  | .caseIn, .word lit _ =>
    if lit == some "in" then { onTake := .casePat0 }
    else { sub := some false, onSub := .caseIn, onTake := .err }
  | .caseIn, .io => {}
  | .casePat0, .op s => if s == "\n" then { onTake := .casePat0 } else if s == "(" then { onTake := .casePat1 } else {}
  | .casePat0, .word lit _ =>
    if lit == some "esac" then { onTake := .afterComp }
    else { sub := some false, onSub := .casePat0, onTake := .caseSep }
  | .casePat0, .io => {}
  | .casePat1, .word lit _ =>
    if lit == some "esac" then { onTake := .caseSep }
    else { sub := some false, onSub := .casePat1, onTake := .caseSep }
  | .casePat1, _ => {}
  | .caseSep, .word _ _ => { sub := some false, onSub := .caseSep, onTake := .err }
  | .caseSep, .op s => if s == ")" then { onTake := .cmd0 } else if s == "|" then { onTake := .casePatN } else {}
  | .caseSep, .io => {}
  | .casePatN, .word _ _ => { sub := some false, onSub := .casePatN, onTake := .caseSep }
  | .casePatN, _ => {}

/-- Which `take_token_*` comes next.  Outside the two places where an array assignment can start, a word
    of the shape `name=` followed by `(` is an ordinary (assignment-shaped) word. -/
def trans (st : PState) (k : Kind) : Dec :=
  match k with
  | .assignArr => if st == .cmd0 || st == .pre then transCore st k else transCore st (.word none true)
  | _ => transCore st k

/-! ### Eligibility and the substitution step -/

/-- `Source::is_alias_for(name)` on a character: the name is anywhere on its origin chain. -/
def SChar.isAliasFor (sc : SChar) (n : String) : Bool := sc.chain.contains n

/-- `is_same_alias(alias, sc)` for the alias that is innermost on `p`'s chain. -/
def sameAlias (p : SChar) (nxt : Option SChar) : Bool :=
  match p.chain, nxt with
  | n :: _, some x => x.isAliasFor n
  | _, _ => false

/-- `LexerCore::is_after_blank_ending_alias(index)`: `before` are the characters before `index`, nearest
    first; `nxt` is the character at `index` (the one after the character being looked at). -/
def afterBlank : List SChar → Option SChar → Bool
  | [], _ => false
  | p :: ps, nxt =>
    if !p.lc && !isBlank p.c then false
    else if !p.chain.isEmpty && p.eb && !sameAlias p nxt then true
    else afterBlank ps (some p)

/-- `Parser::substitute_alias`: the alias to substitute for the token, if any.
    `lit` = `to_string_if_literal` of a `Token(_)`; `c0` = first character of the token (its code's source
    is `token.word.location.code.source`); `before` = buffer before the token. -/
def eligible (T : Table) (before : List SChar) (c0 : SChar) (k : Kind) (sub : Option Bool) : Option Alias :=
  match sub, k with
  | some cmd, .word (some name) _ =>
    if c0.isAliasFor name then none else
    match T.lookup name with
    | some a => if cmd || a.global || afterBlank before (some c0) then some a else none
    | none => none
  | _, _ => none

/-- `LexerCore::substitute_alias`: the replacement characters, all with origin `alias` inside the origin
    of the token's first character. -/
def spliceChars (a : Alias) (c0 : SChar) : List SChar :=
  a.value.map fun ch => { c := ch, chain := a.name :: c0.chain, lc := false, eb := endsBlank a.value }

structure MState where
  pre : List SChar := []      -- consumed characters, most recent first
  rest : List SChar           -- characters from the lexer's `index` on
  st : PState := .cmd0
  subs : Nat := 0             -- number of substitutions performed (observation only)
  toks : List Kind := []      -- tokens consumed, most recent first (observation only)
  hd : Pending := []          -- here-documents whose body has not been read yet
  deriving Repr

/-- Does a newline taken in this state read the pending here-document bodies
    (`newline_and_here_doc_contents`)?  Not inside array values / `for` words (`take_token_auto`). -/
def readsBody (st : PState) : Bool := st != .arr && st != .forWords

/-- Number of characters consumed AFTER the first one when the token at the head of `r` is taken in state `st`:
    the rest of the token, plus the bodies of the pending here-documents if it is a newline. -/
def spanLenC (hd : Pending) (st : PState) (r : List Char) : Nat :=
  let tok := lexTokC r
  tok.len - 1 +
    (if tok.kind == .op "\n" && readsBody st then (hereLen hd (r.drop tok.len)).getD (r.length - tok.len) else 0)

/-- tokens reported for it (a here-document without its delimiter line is a syntax error) -/
def tokOutC (hd : Pending) (st : PState) (r : List Char) : List Kind :=
  let tok := lexTokC r
  if tok.kind == .op "\n" && readsBody st && (hereLen hd (r.drop tok.len)).isNone then [.bad, tok.kind]
  else [tok.kind]

/-- pending here-documents after the token was taken -/
def hdNextC (hd : Pending) (st : PState) (r : List Char) : Pending :=
  let tok := lexTokC r
  match st, tok.kind with
  | .redirH _ dash, .word _ _ => hd ++ [(unquote .un (r.take tok.len), dash)]
  | .redirH _ dash, .io => hd ++ [(r.take tok.len, dash)]
  | _, .op s => if s == "\n" && readsBody st then [] else hd
  | _, _ => hd

def spanLen (s : MState) (c0 : SChar) (tl : List SChar) : Nat := spanLenC s.hd s.st (chars (c0 :: tl))

/-- One `require_token` + `take_token_*`: skip blanks/comment, lex a token, substitute or consume. -/
def step (T : Table) (s : MState) : Option MState :=
  let k := skipLen s.rest
  let before := (markLc (s.rest.take k)).reverse ++ s.pre
  match s.rest.drop k with
  | [] => none
  | c0 :: tl =>
    let tok := lexTok (c0 :: tl)
    let d := trans s.st tok.kind
    match eligible T before c0 tok.kind d.sub with
    | some a =>
      some { pre := before, rest := spliceChars a c0 ++ tl.drop (tok.len - 1), st := d.onSub,
             subs := s.subs + 1, toks := s.toks, hd := s.hd }
    | none =>
      some { pre := (tl.take (spanLen s c0 tl)).reverse ++ c0 :: before, rest := tl.drop (spanLen s c0 tl),
             st := d.onTake, subs := s.subs, toks := tokOutC s.hd s.st (chars (c0 :: tl)) ++ s.toks,
             hd := hdNextC s.hd s.st (chars (c0 :: tl)) }

/-- Runs `step` until the end of input; the flag is `true` iff the end was reached within the fuel. -/
def run (T : Table) : Nat → MState → MState × Bool
  | 0, s => (s, false)
  | f + 1, s =>
    match step T s with
    | none => (s, true)
    | some s' => run T f s'

def maxValueLen : Table → Nat
  | [] => 0
  | a :: t => max a.value.length (maxValueLen t)

/-- Weight of a character: `(L+1)^(N - chain length)`. -/
def weight (T : Table) (sc : SChar) : Nat := (maxValueLen T + 1) ^ (T.length - sc.chain.length)

def mu (T : Table) : List SChar → Nat
  | [] => 0
  | a :: t => weight T a + mu T t

def init (line : List Char) : MState := { rest := plain line }

/-- Fuel that is always enough (theorem `subst_terminates`). -/
def fuelFor (T : Table) (line : List Char) : Nat := mu T (plain line) + 1

def MState.text (s : MState) : List Char := (s.pre.reverse ++ s.rest).map (·.c)

/-- The origin chain of every character of the buffer (`sc.value.location.code.source` followed through
    `Source::Alias{original, alias}`, innermost alias first), in buffer order.  The harness reads the same list
    from the real lexer with `Lexer::location_range(i..i+1)`. -/
def MState.origins (s : MState) : List (List String) := (s.pre.reverse ++ s.rest).map (·.chain)

/-- The model's result: final state for a table and a line. -/
def substState (T : Table) (line : List Char) : MState := (run T (fuelFor T line) (init line)).1

/-- The substituted text. -/
def substText (T : Table) (line : List Char) : List Char := (substState T line).text

/-! ### Line-by-line machine: the alias table changes while a replacement is still being read

  `yash_semantics::read_eval_loop` parses ONE command line (`Parser::command_line`), executes it, and only then
  parses the next one — also when the next line is the rest of a multi-line alias value.  The `alias` / `unalias`
  built-ins executed in between change the table; the characters still waiting in the buffer keep their
  origin chains.  `Track` follows the token stream to know when a command line is complete and which of its
  items are bare `alias …` / `unalias …` simple commands (the harness executes exactly those with the real
  built-ins). -/

structure Track where
  depth : Nat := 0                          -- open compound commands
  cont : Bool := false                      -- the last token was `|` `&&` `||` (a newline does not end the line)
  plain : Bool := true                      -- the current item is so far a bare simple command
  words : List (List Char) := []            -- its words (raw text), most recent first
  pending : List (List (List Char)) := []   -- `alias`/`unalias` commands of this line, most recent first
  deriving Repr

/-- `alias name=value` (`alias/semantics.rs` `define`): split at the FIRST `=` (`value.find('=')`); an operand
    without `=` defines nothing (it is printed); the name may be empty (`alias =x` defines the alias `""`,
    which no word can ever name); then `AliasSet::replace`. -/
def defineAlias (T : Table) (arg : List Char) : Table :=
  let name := arg.takeWhile (· != '=')
  if name.length == arg.length then T
  else
    let n := String.ofList name
    { name := n, value := arg.drop (name.length + 1), global := false } :: T.filter (fun a => a.name != n)

/-- leading option of a built-in's argument list (`parse_arguments`: options end at the first operand):
    `none` = no option, operands as given; `some (opt, rest)`.  (Not used: the built-ins below use C20's model of
    `parse_arguments`.) -/
def leadingOption (args : List (List Char)) : Option (List Char × List (List Char)) :=
  match args with
  | a :: rest => if a.head? == some '-' && a.length > 1 then some (a, rest) else none
  | [] => none

/-- what one `alias` / `unalias` command does: the table afterwards, the exit status (`ExitStatus::SUCCESS` 0,
    `FAILURE` 1, `ERROR` 2), what it writes to standard output -/
structure CmdResult where
  T : Table
  status : Nat := 0
  out : List Char := []
  deriving Repr

/-- `print` (alias/semantics.rs): `quoted(name)=quoted(replacement)` and a newline; `yash_quote::quoted` is C07's
    `Quote.quote` -/
def printAliasLine (a : Alias) : List Char :=
  Quote.quote a.name.toList ++ '=' :: (Quote.quote a.value ++ ['\n'])

def insertByName (a : Alias) : List Alias → List Alias
  | [] => [a]
  | b :: t => if a.name < b.name then a :: b :: t else b :: insertByName a t

/-- the definitions in force (first entry of a name), sorted by name (`sort_unstable_by_key(name)`) -/
def Table.sortedUnique (T : Table) : List Alias :=
  (T.foldl (fun (acc : List Alias) a => if acc.any (·.name == a.name) then acc else acc ++ [a]) []).foldr insertByName []

/-- one operand of `alias` (`Command::execute`): `name=value` defines; an operand without `=` prints the
    definition of that name, or is an error (`NonExistentAlias`: the other operands are still processed) -/
def aliasOperand (r : CmdResult) (arg : List Char) : CmdResult :=
  if (arg.takeWhile (· != '=')).length == arg.length then
    match r.T.lookup (String.ofList arg) with
    | some a => { r with out := r.out ++ printAliasLine a }
    | none => { r with status := 1 }
  else { r with T := defineAlias r.T arg }

/-- `alias::main`: `parse_arguments(&[], Mode::with_env(env), args)` (no option at all: every `-x` / `--x` before the
    first operand is an error, exit status 2, nothing defined), no operand = print every definition -/
def runAlias (T : Table) (args : List (List Char)) : CmdResult :=
  match Args.parseArguments [] Args.Mode.withExtensions args with
  | .error _ => { T := T, status := 2 }
  | .ok (_, operands) =>
    if operands.isEmpty then { T := T, out := (T.sortedUnique.map printAliasLine).flatten }
    else operands.foldl aliasOperand { T := T }

/-- one operand of `unalias` (`Command::Remove`): remove the definition, an undefined name is an error -/
def unaliasOperand (r : CmdResult) (arg : List Char) : CmdResult :=
  if (r.T.lookup (String.ofList arg)).isSome then { r with T := r.T.filter (fun a => a.name.toList != arg) }
  else { r with status := 1 }

/-- `unalias::main` / `syntax::parse`: option `-a` (any number of times, also grouped), `-a` with operands and no
    argument at all are errors (exit status 2, nothing removed) -/
def runUnalias (T : Table) (args : List (List Char)) : CmdResult :=
  match Args.parseArguments [{ short := some 'a' }] Args.Mode.withExtensions args with
  | .error _ => { T := T, status := 2 }
  | .ok (opts, operands) =>
    if opts.isEmpty then
      (if operands.isEmpty then { T := T, status := 2 } else operands.foldl unaliasOperand { T := T })
    else if operands.isEmpty then { T := [] }
    else { T := T, status := 2 }

/-- `is_portable_alias_name` (yash-env alias.rs; what `define` tests when the `portable` option is on): a non-empty
    string of ASCII letters, digits and `! % , - @ _` -/
def isPortableAliasName (s : List Char) : Bool :=
  !s.isEmpty && s.all fun c => c.isAlphanum || c == '!' || c == '%' || c == ',' || c == '-' || c == '@' || c == '_'

/-- one `alias …` / `unalias …` command (words as written: quote removal first) -/
def runCmd (T : Table) (ws : List (List Char)) : CmdResult :=
  match ws.map (unquote .un) with
  | cmd :: args =>
    if cmd == "alias".toList then runAlias T args
    else if cmd == "unalias".toList then runUnalias T args
    else { T := T }
  | [] => { T := T }

/-- the effect of one `alias …` / `unalias …` command on the table -/
def applyCmd (T : Table) (ws : List (List Char)) : Table := (runCmd T ws).T

def isOpener (w : String) : Bool :=
  w == "{" || w == "if" || w == "while" || w == "until" || w == "for" || w == "case"

def isCloser (w : String) : Bool := w == "}" || w == "fi" || w == "done" || w == "esac"

/-- a bare `alias`/`unalias` command whose words need quote removal only (the harness executes exactly these):
    the command word is a LITERAL (`to_string_if_literal`, so a line continuation inside `al\<newline>ias` vanishes
    and a quoted `'alias'` does not count) equal to `alias` / `unalias` -/
def isAliasCmd (ws : List (List Char)) : Bool :=
  (match ws.getLast? with
   | some w => wordLit w == some "alias".toList || wordLit w == some "unalias".toList
   | none => false) &&
  ws.all (fun w => !w.any (fun c => c == '$' || c == '`' || c == '~' || c == '*' || c == '?' || c == '['))

/-- end of an item (`;`, newline, end of input) at depth 0 -/
def endItem (st : PState) (tr : Track) : Track :=
  let keep := tr.plain && (st == .one || st == .args) && tr.depth == 0 && isAliasCmd tr.words
  { tr with plain := true, words := [], cont := false,
            pending := if keep then tr.words.reverse :: tr.pending else tr.pending }

def lineEndState (st : PState) : Bool :=
  st == .cmd0 || st == .pre || st == .one || st == .args || st == .afterComp

/-- Follows one consumed token (`st` = state before it, `sub` = `(trans st k).sub`, `raw` = its text).
    Returns the new tracking state and the commands to execute now (a command line was completed). -/
def trackTok (st : PState) (k : Kind) (sub : Option Bool) (raw : List Char) (tr : Track) :
    Track × List (List (List Char)) :=
  match k with
  | .word lit asg =>
    if sub.isNone then
      match lit with
      | some w =>
        if isOpener w then ({ tr with depth := tr.depth + 1, plain := false, cont := false }, [])
        else if isCloser w then ({ tr with depth := tr.depth - 1, plain := false, cont := false }, [])
        else ({ tr with plain := false, cont := false }, [])
      | none => ({ tr with plain := false, cont := false }, [])
    else if st == .cmd0 && !asg then ({ tr with words := [raw], cont := false }, [])
    else if st == .one || st == .args then ({ tr with words := raw :: tr.words, cont := false }, [])
    else ({ tr with plain := false, cont := false }, [])
  | .io => ({ tr with plain := false, cont := false }, [])
  | .op s =>
    if s == "\n" then
      if tr.depth == 0 && !tr.cont && lineEndState st then
        let tr' := endItem st tr
        ({ tr' with pending := [] }, tr'.pending.reverse)
      else (tr, [])
    else if s == ";" then
      if tr.depth == 0 && lineEndState st then (endItem st tr, [])
      else ({ tr with plain := false, cont := false }, [])
    else if s == "&" then
      if tr.depth == 0 then ({ tr with plain := true, words := [], cont := false }, [])
      else ({ tr with cont := false }, [])
    else if s == "|" || s == "&&" || s == "||" then ({ tr with plain := false, cont := true }, [])
    else if s == "(" then
      if st == .cmd0 || st == .fnBody then ({ tr with depth := tr.depth + 1, plain := false, cont := false }, [])
      else ({ tr with plain := false, cont := false }, [])
    else if s == ")" then
      if st == .caseSep then ({ tr with plain := false, cont := false }, [])
      else ({ tr with depth := tr.depth - 1, plain := false, cont := false }, [])
    else ({ tr with plain := false, cont := false }, [])
  | _ => ({ tr with plain := false, cont := false }, [])

structure LState where
  T : Table
  m : MState
  tr : Track := {}

/-- One step of the line machine: `step` with the current table; a consumed token may complete a command
    line, whose `alias`/`unalias` commands then update the table. -/
def lstep (l : LState) : Option LState :=
  match step l.T l.m with
  | none => none
  | some m' =>
    if m'.subs != l.m.subs then some { l with m := m' } else
    let r := l.m.rest.drop (skipLen l.m.rest)
    let tok := lexTok r
    let (tr', cmds) := trackTok l.m.st tok.kind (trans l.m.st tok.kind).sub (chars (r.take tok.len)) l.tr
    some { T := cmds.foldl applyCmd l.T, m := m', tr := tr' }

def lrun : Nat → LState → LState × Bool
  | 0, l => (l, false)
  | f + 1, l =>
    match lstep l with
    | none => (l, true)
    | some l' => lrun f l'

/-- the table after the last command line (which may end without a newline) has been executed -/
def LState.finalTable (l : LState) : Table :=
  if l.tr.depth == 0 && !l.tr.cont && lineEndState l.m.st then
    (endItem l.m.st l.tr).pending.reverse.foldl applyCmd l.T
  else l.T

end YashModel.Alias
