/-
  C17 — the one relation between a state of the model and a state of the by-hand Spec, and what it gives for runs.

  `Tied s h`: same text and grammar position (`Sim`), origin chains = names of the regions (`Corr`), the blank-rule
  invariant (`BlankInvL`).  No table occurs in it: tied states choose the same alias for ANY table (`Tied.cand`) and a
  step of both with ANY common table keeps them tied (`Tied.lockStep`), so they stop together or step to tied states
  (`Tied.lock`).  The constant-table machines (`run` / `hrun`), the line machines whose table changes between command
  lines (`lrun` / `hlrun`, relation `LTied`) and both with the origin log (`TiedC`, `LTiedC`) are instances of that
  one diagram, lifted to the loops by `Run.iter_sim`.
-/
import YashModel.Alias.BlankAgree
import YashModel.Alias.Origins
namespace YashModel.Alias
open YashModel.Run

structure Tied (s : MState) (h : HState) : Prop where
  sim : Sim s h
  corr : Corr h.active s.rest
  blank : BlankInvL s h

theorem Tied.init (line : List Char) : Tied (init line) ({ rest := line } : HState) :=
  ⟨sim_init line, corr_init line, blankinvL_init line⟩

theorem Tied.same_blank {s : MState} {h : HState} (t : Tied s h) : mblank s = hblank h := by
  obtain ⟨E, hE⟩ := t.blank
  exact blank_agree t.sim t.corr hE

theorem Tied.cand (T : Table) {s : MState} {h : HState} (t : Tied s h) : mcand T s = hcand T h :=
  cand_agree t.sim t.corr t.same_blank

theorem Tied.lockStep {T : Table} {s s' : MState} {h h' : HState} (t : Tied s h) (hl : LockStep T s h s' h') :
    Tied s' h' := by
  obtain ⟨E, hE⟩ := t.blank
  exact ⟨hl.sim t.sim, corr_step hl t.corr, blankinvE_step t.sim t.corr hE hl⟩

theorem Tied.lock (T : Table) (s : MState) (h : HState) (t : Tied s h) :
    (step T s = none ∧ hstep T h = none) ∨ ∃ s' h', step T s = some s' ∧ hstep T h = some h' ∧ Tied s' h' :=
  (lock_step t.sim (t.cand T)).imp id fun ⟨s', h', e1, e2, hl⟩ => ⟨s', h', e1, e2, t.lockStep hl⟩

theorem Tied.next {T : Table} {s s' : MState} {h h' : HState} (t : Tied s h)
    (h1 : step T s = some s') (h2 : hstep T h = some h') : Tied s' h' := by
  rcases t.lock T s h with ⟨e1, _⟩ | ⟨_, _, e1, e2, t'⟩
  · rw [e1] at h1; cases h1
  · rw [e1] at h1; rw [e2] at h2; cases h1; cases h2; exact t'

theorem tied_run (T : Table) (line : List Char) (f : Nat) :
    Tied (run T f (init line)).1 (hrun T f { rest := line }) := by
  rw [run_iter, hrun_iter]; exact iter_sim (Tied.lock T) f _ _ (Tied.init line)

theorem Tied.agreeBlank (T : Table) : ∀ (f : Nat) {s : MState} {h : HState}, Tied s h → AgreeBlank T f s h
  | 0, _, _, _ => trivial
  | f + 1, _, _, t => ⟨t.same_blank, fun _ _ e1 e2 => Tied.agreeBlank T f (t.next e1 e2)⟩

def TiedC (s : MState) (c : HCState) : Prop := Tied s c.h ∧ c.log = s.pre.map (·.chain)

theorem TiedC.lock (T : Table) (s : MState) (c : HCState) (t : TiedC s c) :
    (step T s = none ∧ hstepC T c = none) ∨ ∃ s' c', step T s = some s' ∧ hstepC T c = some c' ∧ TiedC s' c' := by
  unfold hstepC
  rcases t.1.lock T s c.h with ⟨e1, e2⟩ | ⟨s', h', e1, e2, t'⟩
  · exact Or.inl ⟨e1, by rw [e2]⟩
  · refine Or.inr ⟨s', _, e1, by rw [e2], t', ?_⟩
    show hlog c.h h' c.log = _
    rw [t.2]; exact origins_step t.1.sim t'.sim t.1.corr e1

theorem tiedC_run (T : Table) (line : List Char) (f : Nat) :
    TiedC (run T f (init line)).1 (hrunC T f { h := { rest := line } }) := by
  rw [run_iter, hrunC_iter]; exact iter_sim (TiedC.lock T) f _ _ ⟨Tied.init line, rfl⟩

/-! ### the line machines: the table changes between command lines -/

/-- same table, same line tracker, `Sim` of the two machine states -/
def LSim (l : LState) (g : HLState) : Prop := g.T = l.T ∧ g.tr = l.tr ∧ Sim l.m g.h

theorem lsim_step {l : LState} {g : HLState} (hs : LSim l g) (hc : mcand l.T l.m = hcand g.T g.h) :
    (lstep l = none ∧ hlstep g = none) ∨
    ∃ l' g', lstep l = some l' ∧ hlstep g = some g' ∧ LSim l' g' ∧ LockStep l.T l.m g.h l'.m g'.h := by
  obtain ⟨hT, htr, hsim⟩ := hs
  rw [hT] at hc
  rcases lock_step hsim hc with ⟨e1, e2⟩ | ⟨s', h', e1, e2, hl⟩
  · exact Or.inl ⟨by unfold lstep; rw [e1], by unfold hlstep; rw [hT, e2]⟩
  · right
    have hsim' := hl.sim hsim
    -- a replacement counts in `subs` and reports no token; a consumed token is reported and leaves `subs`
    have hcond : (s'.subs != l.m.subs) = (h'.toks.length == g.h.toks.length) := by
      cases hl with
      | subst c0 tl a name asg hdrop hel hkind hnot hlook => simp
      | take c0 tl hdrop hel =>
        have := List.length_pos_iff.mpr (tokOutC_ne_nil l.m.hd l.m.st (chars (c0 :: tl)))
        simp only [bne_self_eq_false, List.length_append, Bool.false_eq, beq_eq_false_iff_ne]
        omega
    -- both line trackers are fed the same token
    obtain ⟨hr, _, hst, _, _⟩ := hsim
    have htt : trackTok g.h.st (lexTokC (g.h.rest.drop (skipLenC g.h.rest))).kind
          (trans g.h.st (lexTokC (g.h.rest.drop (skipLenC g.h.rest))).kind).sub
          ((g.h.rest.drop (skipLenC g.h.rest)).take (lexTokC (g.h.rest.drop (skipLenC g.h.rest))).len) g.tr
        = trackTok l.m.st (lexTok (l.m.rest.drop (skipLen l.m.rest))).kind
          (trans l.m.st (lexTok (l.m.rest.drop (skipLen l.m.rest))).kind).sub
          (chars ((l.m.rest.drop (skipLen l.m.rest)).take (lexTok (l.m.rest.drop (skipLen l.m.rest))).len))
          l.tr := by
      rw [hr, hst, htr, ← chars_drop, ← chars_take]; rfl
    unfold lstep hlstep
    rw [e1, hT, e2]
    simp only [hcond, htt]
    by_cases hb : (h'.toks.length == g.h.toks.length) = true
    · simp only [hb, ↓reduceIte]
      exact ⟨_, _, rfl, rfl, ⟨rfl, htr, hsim'⟩, hl⟩
    · simp only [hb]
      exact ⟨_, _, rfl, rfl, ⟨rfl, rfl, hsim'⟩, hl⟩

/-- both machines use the same table and the same line tracker, and their states are tied -/
def LTied (l : LState) (g : HLState) : Prop := LSim l g ∧ Tied l.m g.h

theorem LTied.init (T : Table) (line : List Char) :
    LTied { T := T, m := init line } { T := T, h := { rest := line } } :=
  ⟨⟨rfl, rfl, sim_init line⟩, Tied.init line⟩

theorem LTied.cand {l : LState} {g : HLState} (t : LTied l g) : mcand l.T l.m = hcand g.T g.h := by
  rw [t.1.1]; exact t.2.cand l.T

theorem LTied.lock (l : LState) (g : HLState) (t : LTied l g) :
    (lstep l = none ∧ hlstep g = none) ∨ ∃ l' g', lstep l = some l' ∧ hlstep g = some g' ∧ LTied l' g' :=
  (lsim_step t.1 t.cand).imp id fun ⟨l', g', e1, e2, hs, hl⟩ => ⟨l', g', e1, e2, hs, t.2.lockStep hl⟩

theorem ltied_run (T : Table) (line : List Char) (f : Nat) :
    LTied (lrun f { T := T, m := init line }).1 (hlrun f { T := T, h := { rest := line } }) := by
  rw [lrun_iter, hlrun_iter]; exact iter_sim LTied.lock f _ _ (LTied.init T line)

theorem LTied.certificate : ∀ (f : Nat) {l : LState} {g : HLState}, LTied l g → lagreeB f l g = true
  | 0, _, _, _ => rfl
  | f + 1, l, g, t => by
    unfold lagreeB
    simp only [Bool.and_eq_true, decide_eq_true_eq]
    refine ⟨t.cand, ?_⟩
    rcases t.lock with ⟨e1, e2⟩ | ⟨l', g', e1, e2, t'⟩
    · rw [e1, e2]
    · rw [e1, e2]; exact LTied.certificate f t'

def LTiedC (l : LState) (c : HLCState) : Prop := LTied l c.l ∧ c.log = l.m.pre.map (·.chain)

theorem LTiedC.lock (l : LState) (c : HLCState) (t : LTiedC l c) :
    (lstep l = none ∧ hlstepC c = none) ∨ ∃ l' c', lstep l = some l' ∧ hlstepC c = some c' ∧ LTiedC l' c' := by
  unfold hlstepC
  rcases t.1.lock l c.l with ⟨e1, e2⟩ | ⟨l', g', e1, e2, t'⟩
  · exact Or.inl ⟨e1, by rw [e2]⟩
  · refine Or.inr ⟨l', _, e1, by rw [e2], t', ?_⟩
    show hlog c.l.h g'.h c.log = _
    rw [t.2]; exact origins_step t.1.2.sim t'.2.sim t.1.2.corr (lstep_step e1)

theorem ltiedC_run (T : Table) (line : List Char) (f : Nat) :
    LTiedC (lrun f { T := T, m := init line }).1 (hlrunC f { l := { T := T, h := { rest := line } } }) := by
  rw [lrun_iter, hlrunC_iter]; exact iter_sim LTiedC.lock f _ _ ⟨LTied.init T line, rfl⟩

end YashModel.Alias
