/-
  C17 — the executable lock-step certificate the driver evaluates on every case, and what it certifies.
  Declarations only.
-/
import YashModel.Alias.Spec
namespace YashModel.Alias

/-- The alias the model substitutes for the next token (the `eligible` call of `step`). -/
def mcand (T : Table) (s : MState) : Option Alias :=
  match s.rest.drop (skipLen s.rest) with
  | [] => none
  | c0 :: tl =>
    eligible T ((markLc (s.rest.take (skipLen s.rest))).reverse ++ s.pre) c0 (lexTok (c0 :: tl)).kind
      (trans s.st (lexTok (c0 :: tl)).kind).sub

/-- the model's answer to `is_after_blank_ending_alias` for the next token -/
def mblank (s : MState) : Bool :=
  afterBlank ((markLc (s.rest.take (skipLen s.rest))).reverse ++ s.pre) (s.rest.drop (skipLen s.rest)).head?

/-- the Spec's answer: the flag after the blanks before the next token have been read -/
def hblank (h : HState) : Bool := flagRun h.active true (skipLenC h.rest) h.tb h.rest

/-- The two sides choose the same alias at every step of a lock-step run of `f` steps. -/
def Agree (T : Table) : Nat → MState → HState → Prop
  | 0, _, _ => True
  | f + 1, s, h =>
    mcand T s = hcand T h ∧ ∀ s' h', step T s = some s' → hstep T h = some h' → Agree T f s' h'

/-- the two blank rules give the same answer at every step of a lock-step run of `f` steps -/
def AgreeBlank (T : Table) : Nat → MState → HState → Prop
  | 0, _, _ => True
  | f + 1, s, h =>
    mblank s = hblank h ∧ ∀ s' h', step T s = some s' → hstep T h = some h' → AgreeBlank T f s' h'

/-- executable lock-step check of `Agree` (a certificate for one table and line) -/
def agreeB (T : Table) : Nat → MState → HState → Bool
  | 0, _, _ => true
  | f + 1, s, h =>
    decide (mcand T s = hcand T h) &&
      match step T s, hstep T h with
      | some s', some h' => agreeB T f s' h'
      | _, _ => true

def LAgree : Nat → LState → HLState → Prop
  | 0, _, _ => True
  | f + 1, l, g =>
    mcand l.T l.m = hcand g.T g.h ∧ ∀ l' g', lstep l = some l' → hlstep g = some g' → LAgree f l' g'

/-- executable lock-step check of `LAgree` (a kernel-checkable certificate for one table and script) -/
def lagreeB : Nat → LState → HLState → Bool
  | 0, _, _ => true
  | f + 1, l, g =>
    decide (mcand l.T l.m = hcand g.T g.h) &&
      match lstep l, hlstep g with
      | some l', some g' => lagreeB f l' g'
      | _, _ => true

end YashModel.Alias
