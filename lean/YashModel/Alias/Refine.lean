/-
  C17 — the Impl model (origin chains) and the by-hand Spec (region stack) run in lock step as long as they choose
  the same alias for every word: `Sim`, `LockStep` (the two shapes of a joint step, the Spec's new state written in terms
  of the model's buffer), `lock_step`.  At the end: what the certificates of `Certificate.lean` certify.
-/
import YashModel.Alias.Step
import YashModel.Alias.Certificate
namespace YashModel.Alias

/-- Same text, same grammar position, same tokens read, same pending here-documents. -/
def Sim (s : MState) (h : HState) : Prop :=
  h.rest = chars s.rest ∧ h.out = chars s.pre ∧ h.st = s.st ∧ h.toks = s.toks ∧ h.hd = s.hd

/-- The two shapes of a step that model and Spec make together: the word at the head is replaced by the alias both
    chose (`hkind`, `hnot`, `hlook`: what `hel` says of that word), or the token is consumed.  The Spec's new state is
    written in terms of the model's buffer. -/
inductive LockStep (T : Table) (s : MState) (h : HState) : MState → HState → Prop
  | subst (c0 : SChar) (tl : List SChar) (a : Alias) (name : String) (asg : Bool)
      (hdrop : s.rest.drop (skipLen s.rest) = c0 :: tl)
      (hel : eligible T s.before c0 (lexTok (c0 :: tl)).kind
        (trans s.st (lexTok (c0 :: tl)).kind).sub = some a)
      (hkind : (lexTok (c0 :: tl)).kind = .word (some name) asg)
      (hnot : c0.isAliasFor name = false)
      (hlook : T.lookup name = some a) :
      LockStep T s h
        { pre := s.before,
          rest := spliceChars a c0 ++ tl.drop ((lexTok (c0 :: tl)).len - 1),
          st := (trans s.st (lexTok (c0 :: tl)).kind).onSub, subs := s.subs + 1, toks := s.toks, hd := s.hd }
        { out := (h.rest.take (skipLen s.rest)).reverse ++ h.out,
          rest := a.value ++ chars (tl.drop ((lexTok (c0 :: tl)).len - 1)),
          active := { name := a.name, endRem := (tl.drop ((lexTok (c0 :: tl)).len - 1)).length,
                      eb := endsBlank a.value } ::
            (activeAt h.active (tl.length + 1)).map (clamp (tl.drop ((lexTok (c0 :: tl)).len - 1)).length),
          st := (trans s.st (lexTok (c0 :: tl)).kind).onSub, toks := h.toks, hd := h.hd,
          tb := flagRun h.active true (skipLenC h.rest) h.tb h.rest }
  | take (c0 : SChar) (tl : List SChar)
      (hdrop : s.rest.drop (skipLen s.rest) = c0 :: tl)
      (hel : eligible T s.before c0 (lexTok (c0 :: tl)).kind
        (trans s.st (lexTok (c0 :: tl)).kind).sub = none) :
      LockStep T s h
        { pre := (tl.take (spanLen s c0 tl)).reverse ++ c0 ::
                   s.before,
          rest := tl.drop (spanLen s c0 tl),
          st := (trans s.st (lexTok (c0 :: tl)).kind).onTake, subs := s.subs,
          toks := tokOutC s.hd s.st (chars (c0 :: tl)) ++ s.toks,
          hd := hdNextC s.hd s.st (chars (c0 :: tl)) }
        { out := (chars (tl.take (spanLen s c0 tl))).reverse ++ c0.c ::
                   ((h.rest.take (skipLen s.rest)).reverse ++ h.out),
          rest := chars (tl.drop (spanLen s c0 tl)),
          active := activeAt h.active (tl.drop (spanLen s c0 tl)).length,
          st := (trans s.st (lexTok (c0 :: tl)).kind).onTake,
          toks := tokOutC s.hd s.st (chars (c0 :: tl)) ++ h.toks,
          hd := hdNextC s.hd s.st (chars (c0 :: tl)),
          tb := flagRun h.active false (spanLen s c0 tl + 1)
                  (flagRun h.active true (skipLenC h.rest) h.tb h.rest) (chars (c0 :: tl)) }

theorem mcand_at {T : Table} {s : MState} {c0 : SChar} {tl : List SChar}
    (hdrop : s.rest.drop (skipLen s.rest) = c0 :: tl) :
    mcand T s = eligible T s.before c0 (lexTok (c0 :: tl)).kind
      (trans s.st (lexTok (c0 :: tl)).kind).sub := by
  unfold mcand; rw [hdrop]

theorem mcand_nil {T : Table} {s : MState} (hdrop : s.rest.drop (skipLen s.rest) = []) : mcand T s = none := by
  unfold mcand; rw [hdrop]

theorem mblank_at {s : MState} {c0 : SChar} {tl : List SChar} (hdrop : s.rest.drop (skipLen s.rest) = c0 :: tl) :
    mblank s = afterBlank s.before (some c0) := by
  unfold mblank; rw [hdrop]; rfl

theorem lock_step {T : Table} {s : MState} {h : HState} (hs : Sim s h) (hc : mcand T s = hcand T h) :
    (step T s = none ∧ hstep T h = none) ∨
    ∃ s' h', step T s = some s' ∧ hstep T h = some h' ∧ LockStep T s h s' h' := by
  obtain ⟨hr, ho, hst, htk, hhd⟩ := hs
  have hk : skipLenC h.rest = skipLen s.rest := by rw [hr]; rfl
  cases hdrop : s.rest.drop (skipLen s.rest) with
  | nil => exact .inl ⟨step_none hdrop, hstep_none (by rw [hk, hr, ← chars_drop, hdrop]; rfl)⟩
  | cons c0 tl =>
    right
    have hd : h.rest.drop (skipLenC h.rest) = c0.c :: chars tl := by rw [hk, hr, ← chars_drop, hdrop]; rfl
    have htok : lexTokC (c0.c :: chars tl) = lexTok (c0 :: tl) := rfl
    rw [mcand_at hdrop] at hc
    -- both take the step their equations give; what is left is to write the Spec's new state over the model's buffer
    cases hel : eligible T s.before c0
        (lexTok (c0 :: tl)).kind (trans s.st (lexTok (c0 :: tl)).kind).sub with
    | some a =>
      obtain ⟨_, name, asg, _, hkind, hnot, hlook, _⟩ := eligible_eq_some.mp hel
      refine ⟨_, _, step_subst hdrop hel, ?_, .subst c0 tl a name asg hdrop hel hkind hnot hlook⟩
      rw [hstep_subst hd (by rw [← hc, hel])]
      simp only [hk, htok, hst, chars_drop, chars_length, List.length_drop]
    | none =>
      refine ⟨_, _, step_take hdrop hel, ?_, .take c0 tl hdrop hel⟩
      rw [hstep_take hd (by rw [← hc, hel])]
      simp only [hk, htok, hst, hhd, chars_drop, chars_take, chars_length, List.length_drop]; rfl

theorem LockStep.sim {T : Table} {s s' : MState} {h h' : HState} (hs : Sim s h) (hl : LockStep T s h s' h') :
    Sim s' h' := by
  obtain ⟨hr, ho, hst, htk, hhd⟩ := hs
  have htake : h.rest.take (skipLen s.rest) = chars (s.rest.take (skipLen s.rest)) := by rw [hr, chars_take]
  cases hl with
  | subst c0 tl a name asg hdrop hel hkind hnot hlook =>
    exact ⟨by simp only [chars_append, chars_splice],
      by simp only [chars_append, chars_reverse, chars_markLc, htake, ho], rfl, htk, hhd⟩
  | take c0 tl hdrop hel =>
    refine ⟨rfl, ?_, rfl, by rw [htk], rfl⟩
    rw [htake, ho]
    simp only [chars_append, chars_cons, chars_reverse, chars_markLc]

theorem LockStep.step {T : Table} {s s' : MState} {h h' : HState} (hl : LockStep T s h s' h') :
    step T s = some s' := by
  cases hl with
  | subst c0 tl a name asg hdrop hel hkind hnot hlook => exact step_subst hdrop hel
  | take c0 tl hdrop hel => exact step_take hdrop hel

theorem Sim.text {s : MState} {h : HState} (hs : Sim s h) : s.text = h.text := by
  rw [MState.text_eq, HState.text, hs.1, hs.2.1]

theorem sim_init (line : List Char) : Sim (init line) ({ rest := line } : HState) :=
  ⟨(chars_plain line).symm, rfl, rfl, rfl, rfl⟩

/-! ### the certificates are sound -/

theorem agree_of_agreeB {T : Table} (f : Nat) {s : MState} {h : HState} (hb : agreeB T f s h = true) :
    Agree T f s h := by
  induction f generalizing s h with
  | zero => trivial
  | succ f ih =>
    unfold agreeB at hb
    simp only [Bool.and_eq_true, decide_eq_true_eq] at hb
    refine ⟨hb.1, ?_⟩
    intro s' h' h1 h2
    have := hb.2
    simp only [h1, h2] at this
    exact ih this

theorem lagree_of_lagreeB (f : Nat) {l : LState} {g : HLState} (hb : lagreeB f l g = true) : LAgree f l g := by
  induction f generalizing l g with
  | zero => trivial
  | succ f ih =>
    unfold lagreeB at hb
    simp only [Bool.and_eq_true, decide_eq_true_eq] at hb
    refine ⟨hb.1, ?_⟩
    intro l' g' h1 h2
    have := hb.2
    simp only [h1, h2] at this
    exact ih this

end YashModel.Alias
