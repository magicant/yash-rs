/-
  C17 — origins of the characters: the model's per-character origin chains (what the real lexer stores as
  `Source::Alias{original, alias}` nesting and the harness prints) equal the by-hand Spec's "aliases being
  processed where the character stands" (`regionNames`, `hlog`).
-/
import YashModel.Alias.Guard
namespace YashModel.Alias

theorem corr_regionNames {rs : List Region} : ∀ (l : List SChar), Corr rs l →
    l.map (·.chain) = regionNames rs (chars l)
  | [], _ => rfl
  | c :: t, h => by
    show c.chain :: t.map (·.chain) = (activeAt rs ((chars t).length + 1)).map (·.name) :: regionNames rs (chars t)
    rw [h.1, corr_regionNames t h.2, chars_length]; rfl

theorem chains_of_split {rest A B : List SChar} (h : rest = A ++ B) :
    (rest.map (·.chain)).take A.length = A.map (·.chain) := by
  subst h
  simp

/-- what a step of the model adds to the consumed buffer: a prefix of the unconsumed one, chains unchanged -/
theorem step_pre_chains {T : Table} {s s' : MState} (h : step T s = some s') :
    ∃ n, s'.pre.map (·.chain) = ((s.rest.map (·.chain)).take n).reverse ++ s.pre.map (·.chain) ∧
      s'.pre.length = n + s.pre.length := by
  cases step_rel h with
  | subst c0 tl a cmd name asg hdrop hkind hsub hnot hlook hwhy hpre hrest =>
    refine ⟨(s.rest.take (skipLen s.rest)).length, ?_, ?_⟩
    · rw [chains_of_split (List.take_append_drop (skipLen s.rest) s.rest).symm, hpre]
      simp only [List.map_append, List.map_reverse, markLc_chains]
    · rw [hpre]; simp only [List.length_append, List.length_reverse, markLc_length]
  | take c0 tl hdrop hel hpre hrest =>
    have hsplit : s.rest = (s.rest.take (skipLen s.rest) ++ c0 :: tl.take (spanLen s c0 tl)) ++
        tl.drop (spanLen s c0 tl) := by
      conv => lhs; rw [← List.take_append_drop (skipLen s.rest) s.rest, hdrop,
        ← List.take_append_drop (spanLen s c0 tl) tl]
      simp
    refine ⟨(s.rest.take (skipLen s.rest) ++ c0 :: tl.take (spanLen s c0 tl)).length, ?_, ?_⟩
    · rw [chains_of_split hsplit, hpre]
      simp only [List.map_append, List.map_reverse, List.map_cons, markLc_chains, List.reverse_append,
        List.reverse_cons, List.append_assoc, List.cons_append, List.nil_append]
    · rw [hpre]; simp only [List.length_append, List.length_reverse, List.length_cons, markLc_length]
      omega

/-- one lock step: the Spec's log of "aliases being processed where the character was read" stays equal to
    the origin chains of the model's consumed characters -/
theorem origins_step {T : Table} {s s' : MState} {h h' : HState}
    (hs : Sim s h) (hs' : Sim s' h') (hco : Corr h.active s.rest) (h1 : step T s = some s') :
    hlog h h' (s.pre.map (·.chain)) = s'.pre.map (·.chain) := by
  obtain ⟨n, hn, hlen⟩ := step_pre_chains h1
  unfold hlog
  have e1 : h'.out.length - h.out.length = n := by
    rw [hs'.2.1, hs.2.1, chars_length, chars_length, hlen]; omega
  rw [e1, hs.1, ← corr_regionNames _ hco, hn]

theorem origins_final {s : MState} {h : HState} {log : List (List String)}
    (hs : Sim s h) (hco : Corr h.active s.rest) (hl : log = s.pre.map (·.chain)) :
    s.origins = log.reverse ++ regionNames h.active h.rest := by
  unfold MState.origins
  rw [hl, hs.1, ← corr_regionNames _ hco]
  simp

end YashModel.Alias
