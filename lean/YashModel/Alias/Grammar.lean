/-
  C17 — recogniser for the token grammar accepted by yash-syntax's parser (`Parser::command_line` repeated
  to the end of input), used ONLY to turn a substituted text into the observation `ok` / `syntax-error`.
  It is not part of any theorem.  Mirrors list.rs, and_or.rs, pipeline.rs, command.rs, simple_command.rs,
  function.rs, compound_command.rs, grouping.rs, if.rs, while_loop.rs, for_loop.rs, case.rs, redir.rs
  (non-portable mode; with array assignments and here-document operators).
-/
import YashModel.Alias.Model
namespace YashModel.Alias

abbrev Toks := List Kind

/-- The token sequence of a text (`skip_blanks_and_comment` + `Lexer::token` repeatedly). -/
def tokenize : Nat → List SChar → Toks
  | 0, _ => []
  | f + 1, l =>
    match l.drop (skipLen l) with
    | [] => []
    | r =>
      let t := lexTok r
      t.kind :: tokenize f (r.drop (max t.len 1))

def isWordTok : Kind → Bool
  | .word _ _ => true
  | .assignArr => true
  | _ => false

def isOperand : Kind → Bool
  | .word _ _ => true
  | .assignArr => true
  | .io => true
  | _ => false

def isKw (k : Kind) (s : String) : Bool :=
  match k with
  | .word (some t) _ => t == s
  | _ => false

def headIsKw (ts : Toks) (s : String) : Bool :=
  match ts with
  | k :: _ => isKw k s
  | [] => false

def headIsOp (ts : Toks) (s : String) : Bool :=
  match ts with
  | .op t :: _ => t == s
  | _ => false

def skipNl : Toks → Toks
  | .op s :: t => if s == "\n" then skipNl t else .op s :: t
  | ts => ts

/-- redirection operators that take a word (here-documents included; the body is not a token) -/
def isRedirOrHere (s : String) : Bool := isRedirOp s || isHereOp s

def isCaseCont (s : String) : Bool := s == ";;" || s == ";&" || s == ";;&" || s == ";|"

/-- `TokenId::is_clause_delimiter` (end of input counts). -/
def isClauseDelim : Toks → Bool
  | [] => true
  | .op s :: _ => s == ")" || isCaseCont s
  | .word (some k) _ :: _ =>
    k == "do" || k == "done" || k == "elif" || k == "else" || k == "esac" || k == "fi" || k == "then" || k == "}"
  | _ => false

/-- `Parser::redirections` -/
def gRedirs : Toks → Option Toks
  | .io :: .op s :: o :: t => if isRedirOrHere s && isOperand o then gRedirs t else none
  | .io :: _ => none
  | .op s :: t =>
    if isRedirOrHere s then
      match t with
      | o :: t' => if isOperand o then gRedirs t' else none
      | [] => none
    else if s == "<(" || s == ">(" then none
    else some (.op s :: t)
  | ts => some ts

/-- `Parser::simple_command`: returns ((assignments or redirections seen, number of words), rest).
    `inArr`: inside the parentheses of an array assignment (`Parser::array_values`). -/
def gSimple : Bool → Bool → Nat → Toks → Option ((Bool × Nat) × Toks)
  | true, _, _, [] => none
  | true, ar, w, .word _ _ :: t => gSimple true ar w t
  | true, ar, w, .assignArr :: t => gSimple true ar w t
  | true, ar, w, .op s :: t =>
    if s == "\n" then gSimple true ar w t else if s == ")" then gSimple false ar w t else none
  | true, _, _, _ :: _ => none
  | false, ar, w, [] => some ((ar, w), [])
  | false, _, w, .io :: t =>
    match t with
    | .op s :: o :: t' => if isRedirOrHere s && isOperand o then gSimple false true w t' else none
    | _ => none
  | false, ar, w, .op s :: t =>
    if isRedirOrHere s then
      match t with
      | o :: t' => if isOperand o then gSimple false true w t' else none
      | [] => none
    else if s == "<(" || s == ">(" then none
    else some ((ar, w), .op s :: t)
  | false, ar, w, .word lit asg :: t =>
    if !ar && w == 0 && isKeyword lit then some ((ar, w), .word lit asg :: t)
    else if w == 0 && asg then gSimple false true w t
    else gSimple false ar (w + 1) t
  | false, ar, w, .assignArr :: .op s :: t' =>
    if w == 0 then (if s == "(" then gSimple true true w t' else gSimple false true w (.op s :: t'))
    else gSimple false ar (w + 1) (.op s :: t')
  | false, ar, w, .assignArr :: t =>
    if w == 0 then gSimple false true w t else gSimple false ar (w + 1) t
  | false, _, _, .bad :: _ => none
  | false, ar, w, .eof :: t => some ((ar, w), .eof :: t)

/-- `for_loop_values` after `in` -/
def gForWords : Toks → Option Toks
  | [] => some []
  | .word _ _ :: t => gForWords t
  | .io :: t => gForWords t
  | .op s :: t => if s == ";" || s == "\n" then some t else none
  | _ => none

/-- `for_loop_values` -/
def gForValues : Bool → Toks → Option Toks
  | fl, .op s :: t =>
    if s == ";" then (if fl then some t else none)
    else if s == "\n" then gForValues false t
    else none
  | _, .word lit asg :: t =>
    if lit == some "do" then some (.word lit asg :: t)
    else if lit == some "in" then gForWords t
    else none
  | _, _ => none

/-- pattern list of a case item after its first pattern -/
def gPatRest : Toks → Option Toks
  | .op s :: t =>
    if s == ")" then some t
    else if s == "|" then
      match t with
      | .word _ _ :: t' => gPatRest t'
      | _ => none
    else none
  | _ => none

mutual

/-- `Parser::list`: (number of items, rest) -/
def gList : Nat → Toks → Option (Nat × Toks)
  | 0, _ => none
  | f + 1, ts =>
    match gAndOr f ts with
    | none => none
    | some (false, r) => some (0, r)
    | some (true, r) =>
      if headIsOp r ";" || headIsOp r "&" then
        match gList f (r.drop 1) with
        | none => none
        | some (n, r') => some (n + 1, r')
      else some (1, r)

def gAndOr : Nat → Toks → Option (Bool × Toks)
  | 0, _ => none
  | f + 1, ts =>
    match gPipeline f ts with
    | none => none
    | some (false, r) => some (false, r)
    | some (true, r) => (gAndOrRest f r).map fun r' => (true, r')

def gAndOrRest : Nat → Toks → Option Toks
  | 0, _ => none
  | f + 1, r =>
    if headIsOp r "&&" || headIsOp r "||" then
      match gPipeline f (skipNl (r.drop 1)) with
      | some (true, r') => gAndOrRest f r'
      | _ => none
    else some r

def gPipeline : Nat → Toks → Option (Bool × Toks)
  | 0, _ => none
  | f + 1, ts =>
    match gCommand f ts with
    | none => none
    | some (true, r) => (gPipeRest f r).map fun r' => (true, r')
    | some (false, r) =>
      if headIsKw r "!" then
        match gCommand f (r.drop 1) with
        | some (true, r') => (gPipeRest f r').map fun r'' => (true, r'')
        | _ => none
      else some (false, r)

def gPipeRest : Nat → Toks → Option Toks
  | 0, _ => none
  | f + 1, r =>
    if headIsOp r "|" then
      match gCommand f (skipNl (r.drop 1)) with
      | some (true, r') => gPipeRest f r'
      | _ => none
    else some r

/-- `Parser::command` (+ `short_function_definition`) -/
def gCommand : Nat → Toks → Option (Bool × Toks)
  | 0, _ => none
  | f + 1, ts =>
    match gSimple false false 0 ts with
    | none => none
    | some ((ar, w), r) =>
      if ar || w > 0 then
        if !ar && w == 1 && headIsOp r "(" then
          match r.drop 1 with
          | .op s :: r2 =>
            if s == ")" then
              match gCompound f (skipNl r2) with
              | some (true, r3) => some (true, r3)
              | _ => none
            else none
          | _ => none
        else some (true, r)
      else
        match gCompound f ts with
        | none => none
        | some (true, r') => some (true, r')
        | some (false, r') =>
          if headIsKw r' "function" || headIsKw r' "[[" || headIsKw r' "namespace" || headIsKw r' "select"
          then none else some (false, r')

/-- `Parser::maybe_compound_list`: (number of items, rest); fails unless a clause delimiter follows. -/
def gMcl : Nat → Toks → Option (Nat × Toks)
  | 0, _ => none
  | f + 1, ts =>
    match gList f ts with
    | none => none
    | some (n, r) =>
      if headIsOp r "\n" then
        match gMcl f (r.drop 1) with
        | none => none
        | some (m, r') => some (n + m, r')
      else if isClauseDelim r then some (n, r) else none

/-- a non-empty compound list followed by the keyword `kw` -/
def gBlock : Nat → String → Toks → Option Toks
  | 0, _, _ => none
  | f + 1, kw, ts =>
    match gMcl f ts with
    | some (n, r) => if n > 0 && headIsKw r kw then some (r.drop 1) else none
    | none => none

def gIfRest : Nat → Toks → Option Toks
  | 0, _ => none
  | f + 1, r =>
    if headIsKw r "elif" then
      match gBlock f "then" (r.drop 1) with
      | none => none
      | some r1 =>
        match gMcl f r1 with
        | some (n, r2) => if n > 0 then gIfRest f r2 else none
        | none => none
    else if headIsKw r "else" then gBlock f "fi" (r.drop 1)
    else if headIsKw r "fi" then some (r.drop 1)
    else none

def gCaseItems : Nat → Toks → Option Toks
  | 0, _ => none
  | f + 1, ts0 =>
    let ts := skipNl ts0
    if headIsKw ts "esac" then some ts else
    let afterFirst : Option Toks :=
      match ts with
      | .word _ _ :: t => some t
      | .op s :: .word _ _ :: t => if s == "(" then some t else none
      | _ => none
    match afterFirst.bind gPatRest with
    | none => none
    | some body =>
      match gMcl f body with
      | none => none
      | some (_, r) =>
        match r with
        | .op s :: r' => if isCaseCont s then gCaseItems f r' else some r
        | _ => some r

/-- `Parser::full_compound_command` -/
def gCompound : Nat → Toks → Option (Bool × Toks)
  | 0, _ => none
  | f + 1, ts =>
    match ts with
    | .op s :: t =>
      if s == "(" then
        match gMcl f t with
        | some (n, r) => if n > 0 && headIsOp r ")" then (gRedirs (r.drop 1)).map fun x => (true, x) else none
        | none => none
      else some (false, ts)
    | .word (some k) _ :: t =>
      if k == "{" then (gBlock f "}" t).bind fun r => (gRedirs r).map fun x => (true, x)
      else if k == "while" || k == "until" then
        match gMcl f t with
        | some (n, r) =>
          if n > 0 && headIsKw r "do" then
            (gBlock f "done" (r.drop 1)).bind fun r' => (gRedirs r').map fun x => (true, x)
          else none
        | none => none
      else if k == "if" then
        match gBlock f "then" t with
        | none => none
        | some r1 =>
          match gMcl f r1 with
          | some (n, r2) =>
            if n > 0 then (gIfRest f r2).bind fun r' => (gRedirs r').map fun x => (true, x) else none
          | none => none
      else if k == "for" then
        match t with
        | name :: t' =>
          if isOperand name then
            match gForValues true t' with
            | none => none
            | some r =>
              let r := skipNl r
              if headIsKw r "do" then
                (gBlock f "done" (r.drop 1)).bind fun r' => (gRedirs r').map fun x => (true, x)
              else none
          else none
        | [] => none
      else if k == "case" then
        match t with
        | .word _ _ :: t' =>
          let r := skipNl t'
          if headIsKw r "in" then
            match gCaseItems f (r.drop 1) with
            | some r' =>
              if headIsKw r' "esac" then (gRedirs (r'.drop 1)).map fun x => (true, x) else none
            | none => none
          else none
        | _ => none
      else some (false, ts)
    | _ => some (false, ts)

end

/-- `Parser::command_line` repeated to the end of input. -/
def gProgram : Nat → Toks → Bool
  | 0, _ => false
  | f + 1, ts =>
    match ts with
    | [] => true
    | _ =>
      match gList f ts with
      | none => false
      | some (_, r) =>
        match r with
        | [] => true
        | .op s :: r' => if s == "\n" then gProgram f r' else false
        | _ => false

/-- Is the token sequence accepted by the parser? -/
def validToks (ts : Toks) : Bool :=
  !ts.contains .bad && gProgram (12 * ts.length + 40) ts

/-- Is the text accepted by the parser (without aliases)? -/
def validText (cs : List Char) : Bool := validToks (tokenize (cs.length + 1) (plain cs))

end YashModel.Alias
