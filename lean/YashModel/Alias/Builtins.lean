/-
  C17 — equations of `runCmd` / `runAlias` / `runUnalias` and the table component of the operand folds, for the
  theorems about the built-ins.
-/
import YashModel.Alias.Model
import YashModel.Args.ParseRefine
import YashModel.Common.Lists
namespace YashModel.Alias

theorem takeWhile_ne_all (arg : List Char) (h : '=' ∉ arg) : arg.takeWhile (· != '=') = arg :=
  Common.takeWhile_all fun x hx => bne_iff_ne.2 fun e => h (e ▸ hx)

theorem defineAlias_eq (T : Table) (n v : List Char) (hn : '=' ∉ n) :
    defineAlias T (n ++ '=' :: v) =
      { name := String.ofList n, value := v, global := false } ::
        T.filter (fun a => a.name != String.ofList n) := by
  unfold defineAlias
  simp only [(Common.takeWhile_ne_append '=' n ('=' :: v) hn (Or.inr rfl)).1]
  have h2 : (n ++ '=' :: v).drop (n.length + 1) = v := by
    rw [show n ++ '=' :: v = (n ++ ['=']) ++ v by simp]
    exact List.drop_left' (by simp)
  simp [h2]

theorem lookup_filter (T : Table) (p : String → Bool) (m : String) :
    Table.lookup (T.filter (fun a => p a.name)) m = if p m then Table.lookup T m else none := by
  unfold Table.lookup
  induction T with
  | nil => simp
  | cons a t ih =>
    rw [List.filter_cons, List.find?_cons]
    cases hm : a.name == m
    · cases p a.name
      · exact ih
      · simp only [↓reduceIte, List.find?_cons, hm]; exact ih
    · obtain rfl : a.name = m := by simpa using hm
      cases hp : p a.name
      · simp only [Bool.false_eq_true, ↓reduceIte]; rw [ih, hp]; rfl
      · simp only [↓reduceIte, List.find?_cons, beq_self_eq_true]

/-- a word without quoting characters is its own quote removal -/
theorem unquote_plain (w : List Char) (h : ∀ c ∈ w, c ≠ '\\' ∧ c ≠ '\'' ∧ c ≠ '"') : unquote .un w = w := by
  induction w with
  | nil => rfl
  | cons c t ih =>
    obtain ⟨h1, h2, h3⟩ := h c (List.mem_cons_self ..)
    unfold unquote
    simp [h1, h2, h3, ih (fun x hx => h x (List.mem_cons_of_mem _ hx))]

/-- `parse_arguments` (C20's model) on an argument list whose first argument is not option-like: the loop stops at it, no
    option, every argument is an operand (C20's `first_operand_ends` with nothing in front) -/
theorem parse_operands_first (specs : List Args.OptionSpec) (mode : Args.Mode) (a : List Char)
    (rest : List (List Char)) (h : a.head? ≠ some '-') :
    Args.parseArguments specs mode (a :: rest) = .ok ([], a :: rest) := by
  have hk := Args.argKind_operand (.inl h)
  rw [Args.parseArguments, Args.optLoop_cons, Args.step_by_kind, hk.1]
  simp [Args.finish, Args.skipSeparator, Args.dashdash, hk.2]

theorem aliasOperand_T (r : CmdResult) (arg : List Char) : (aliasOperand r arg).T = defineAlias r.T arg := by
  unfold aliasOperand defineAlias
  by_cases hc : ((arg.takeWhile (· != '=')).length == arg.length) = true
  · simp only [hc, ↓reduceIte]
    split <;> rfl
  · simp only [hc, Bool.false_eq_true, ↓reduceIte]

theorem foldl_aliasOperand_T (ops : List (List Char)) (r : CmdResult) :
    (ops.foldl aliasOperand r).T = ops.foldl defineAlias r.T := by
  induction ops generalizing r with
  | nil => rfl
  | cons a t ih => simp only [List.foldl_cons]; rw [ih, aliasOperand_T]

theorem unaliasOperand_T (r : CmdResult) (arg : List Char) :
    (unaliasOperand r arg).T = r.T.filter (fun a => a.name.toList != arg) := by
  unfold unaliasOperand
  split
  · rfl
  · rename_i hno
    symm
    apply List.filter_eq_self.mpr
    intro a ha
    simp only [bne_iff_ne, ne_eq]
    intro e
    apply hno
    have : r.T.lookup (String.ofList arg) ≠ none := by
      unfold Table.lookup
      intro hn
      have := List.find?_eq_none.mp hn a ha
      apply this
      simp [← e]
    cases hl : r.T.lookup (String.ofList arg) with
    | none => exact absurd hl this
    | some _ => rfl

theorem foldl_unaliasOperand_T (ops : List (List Char)) (r : CmdResult) :
    (ops.foldl unaliasOperand r).T = r.T.filter (fun a => !ops.contains a.name.toList) := by
  induction ops generalizing r with
  | nil =>
    simp only [List.foldl_nil, List.contains_nil, Bool.not_false]
    exact (List.filter_eq_self.mpr (fun _ _ => rfl)).symm
  | cons x t ih =>
    simp only [List.foldl_cons]
    rw [ih, unaliasOperand_T, List.filter_filter]
    apply List.filter_congr
    intro a _
    simp only [List.contains_cons, Bool.not_or, bne, Bool.and_comm]

theorem runCmd_alias (T : Table) (ws : List (List Char)) :
    runCmd T ("alias".toList :: ws) = runAlias T (ws.map (unquote .un)) := by
  have h0 : unquote .un "alias".toList = "alias".toList := by decide +kernel
  unfold runCmd
  simp only [List.map_cons, h0, beq_self_eq_true, ↓reduceIte]

theorem runCmd_unalias (T : Table) (ws : List (List Char)) :
    runCmd T ("unalias".toList :: ws) = runUnalias T (ws.map (unquote .un)) := by
  have h0 : unquote .un "unalias".toList = "unalias".toList := by decide +kernel
  have hne : ("unalias".toList == "alias".toList) = false := by decide +kernel
  unfold runCmd
  simp only [List.map_cons, h0, hne, Bool.false_eq_true, ↓reduceIte, beq_self_eq_true]

theorem runAlias_operands (T : Table) (a : List Char) (rest : List (List Char)) (h : a.head? ≠ some '-') :
    runAlias T (a :: rest) = (a :: rest).foldl aliasOperand { T := T } := by
  unfold runAlias
  rw [parse_operands_first _ _ _ _ h]
  simp only [List.isEmpty_cons, Bool.false_eq_true, ↓reduceIte]

theorem runUnalias_operands (T : Table) (a : List Char) (rest : List (List Char)) (h : a.head? ≠ some '-') :
    runUnalias T (a :: rest) = (a :: rest).foldl unaliasOperand { T := T } := by
  unfold runUnalias
  rw [parse_operands_first _ _ _ _ h]
  simp only [List.isEmpty_nil, ↓reduceIte, List.isEmpty_cons, Bool.false_eq_true]

end YashModel.Alias
