/-
  C17 — the recursion guards of model and Spec agree: "the name is on the origin chain of the token's first
  character" ⇔ "a region of that name contains the token's first character".  Invariant `Corr`: the chain of
  every unconsumed character is the list of names of the regions that contain it.  With it the lock-step
  hypothesis of `Refine.lean` shrinks from "same alias chosen" to "same answer of the blank rule" (`cand_agree`).
  `Corr` is an instance of `Tags` (a field of each character = a view of the regions active there); `tags_lock` is the
  one reason such a tag survives a lock step (`corr_step` here, the `corrE_step` in BlankAgree.lean).
-/
import YashModel.Alias.Refine
namespace YashModel.Alias

def namesAt (rs : List Region) (rem : Nat) : List String := (activeAt rs rem).map (·.name)

/-- chain of every character = names of the regions containing it (innermost first) -/
def Corr (rs : List Region) : List SChar → Prop
  | [] => True
  | c :: t => c.chain = namesAt rs (t.length + 1) ∧ Corr rs t

/-- a field `f` of every character of `l` is `g n`, `n` = number of characters from that one to the end of `l`
    (`Corr`: the chain is the names of the regions at `n`; `CorrE` of BlankAgree.lean: `eb` is the flag of the innermost region) -/
def Tags {α : Type} (f : SChar → α) (g : Nat → α) : List SChar → Prop
  | [] => True
  | c :: t => f c = g (t.length + 1) ∧ Tags f g t

section
variable {α : Type} {f : SChar → α} {g g' : Nat → α}

theorem Tags.drop : ∀ {l : List SChar} (k : Nat), Tags f g l → Tags f g (l.drop k)
  | _, 0, h => h
  | [], _ + 1, _ => trivial
  | _ :: _, k + 1, h => Tags.drop k h.2

theorem Tags.at_drop {l : List SChar} {k : Nat} {c0 : SChar} {tl : List SChar} (hdrop : l.drop k = c0 :: tl)
    (h : Tags f g l) : Tags f g (c0 :: tl) :=
  hdrop ▸ h.drop k

theorem Tags.congr : ∀ {l : List SChar}, (∀ n, 0 < n → n ≤ l.length → g' n = g n) → Tags f g l → Tags f g' l
  | [], _, _ => trivial
  | _ :: t, hn, h =>
    ⟨h.1.trans (hn (t.length + 1) (by omega) (by simp)).symm,
     Tags.congr (fun n h1 h2 => hn n h1 (by simp only [List.length_cons]; omega)) h.2⟩

theorem Tags.append_const {a : α} : ∀ {l1 : List SChar} {l2 : List SChar}, (∀ c ∈ l1, f c = a) →
    (∀ n, l2.length < n → n ≤ l2.length + l1.length → g n = a) → Tags f g l2 → Tags f g (l1 ++ l2)
  | [], _, _, _, h => h
  | c :: t, l2, hc, hn, h =>
    ⟨(hc c (List.mem_cons_self ..)).trans
        (hn _ (by simp only [List.append_eq, List.length_append]; omega)
          (by simp only [List.append_eq, List.length_append, List.length_cons]; omega)).symm,
     Tags.append_const (fun x hx => hc x (List.mem_cons_of_mem _ hx))
       (fun n h1 h2 => hn n h1 (by simp only [List.length_cons]; omega)) h⟩
end

theorem corr_tags {rs : List Region} : ∀ {l : List SChar}, Corr rs l ↔ Tags (·.chain) (namesAt rs) l
  | [] => Iff.rfl
  | _ :: _ => and_congr_right fun _ => corr_tags

theorem corr_at {rs : List Region} {l : List SChar} {k : Nat} {c0 : SChar} {tl : List SChar}
    (hdrop : l.drop k = c0 :: tl) (h : Corr rs l) : Corr rs (c0 :: tl) :=
  corr_tags.mpr ((corr_tags.mp h).at_drop hdrop)

theorem corr_init (line : List Char) : Corr [] (plain line) :=
  corr_tags.mpr (List.append_nil (plain line) ▸
    Tags.append_const (fun _ hc => (mem_plain hc).1) (fun _ _ _ => rfl) trivial)

theorem activeAt_activeAt (rs : List Region) (m rem : Nat) (h : rem ≤ m) :
    activeAt (activeAt rs m) rem = activeAt rs rem := by
  unfold activeAt
  rw [List.filter_filter]
  apply List.filter_congr
  intro r _
  by_cases h1 : r.endRem < rem
  · have : r.endRem < m := by omega
    simp [h1, this]
  · simp [h1]

theorem activeAt_clamp_le (l : List Region) (L rem : Nat) (h : rem ≤ L) :
    activeAt (l.map (clamp L)) rem = (activeAt l rem).map (clamp L) := by
  induction l with
  | nil => rfl
  | cons x t ih =>
    unfold activeAt at *
    simp only [List.map_cons, List.filter_cons, clamp]
    by_cases h1 : x.endRem < rem
    · have : min x.endRem L < rem := by omega
      simp [h1, this, ih, clamp]
    · have : ¬ min x.endRem L < rem := by omega
      simp [h1, this, ih]

theorem activeAt_clamp_gt (l : List Region) (L rem : Nat) (h : L < rem) :
    activeAt (l.map (clamp L)) rem = l.map (clamp L) := by
  induction l with
  | nil => rfl
  | cons x t ih =>
    unfold activeAt at *
    simp only [List.map_cons, List.filter_cons, clamp]
    have : min x.endRem L < rem := by omega
    simp [this, ih]

theorem activeAt_cons (r : Region) (l : List Region) (rem : Nat) :
    activeAt (r :: l) rem = if r.endRem < rem then r :: activeAt l rem else activeAt l rem := by
  unfold activeAt
  simp only [List.filter_cons]
  split <;> simp_all

theorem map_name_clamp (l : List Region) (L : Nat) : (l.map (clamp L)).map (·.name) = l.map (·.name) := by
  rw [List.map_map]; rfl

/-- The region stack after a substitution, seen through `activeAt`: inside the remaining text the active regions are
    the old ones (clamped), inside the new value they are the new region on top of those active at the replaced word. -/
theorem activeAt_subst (rs : List Region) (r : Region) (m L : Nat) (hL : L ≤ m) (hr : r.endRem = L) (n : Nat) :
    activeAt (r :: (activeAt rs (m + 1)).map (clamp L)) n =
      if L < n then r :: (activeAt rs (m + 1)).map (clamp L) else (activeAt rs n).map (clamp L) := by
  rw [activeAt_cons, hr]
  by_cases h : L < n
  · rw [if_pos h, if_pos h, activeAt_clamp_gt _ _ _ h]
  · rw [if_neg h, if_neg h, activeAt_clamp_le _ _ _ (by omega), activeAt_activeAt _ _ _ (by omega)]

/-- A tag that is a view `v` of the active regions which `clamp` does not change survives a lock step, provided the
    spliced characters carry the view of the new region on top of the regions at the replaced word.  (`Corr`: `v` = the
    names; `CorrE`: `v` = `topEb`.)  `hnew` is asked for every stack `rs` and clamp length `L`, not only for the regions
    active at the word and the length after the token with which it is used: the two instances then need no arithmetic. -/
theorem tags_lock {α : Type} {f : SChar → α} {v : List Region → α}
    (hv : ∀ (l : List Region) (L : Nat), v (l.map (clamp L)) = v l)
    {T : Table} {s s' : MState} {h h' : HState} (hl : LockStep T s h s' h')
    (ht : Tags f (fun n => v (activeAt h.active n)) s.rest)
    (hnew : ∀ (c0 : SChar) (a : Alias) (rs : List Region) (L : Nat), f c0 = v rs → ∀ c ∈ spliceChars a c0,
      f c = v ({ name := a.name, endRem := L, eb := endsBlank a.value } :: rs.map (clamp L))) :
    Tags f (fun n => v (activeAt h'.active n)) s'.rest := by
  cases hl with
  | subst c0 tl a name asg hdrop hel hkind hnot hlook =>
    have ht' := ht.at_drop hdrop
    have hLle : (tl.drop ((lexTok (c0 :: tl)).len - 1)).length ≤ tl.length := by
      simp only [List.length_drop]; omega
    refine Tags.append_const (hnew c0 a _ (tl.drop ((lexTok (c0 :: tl)).len - 1)).length ht'.1)
      (fun n h1 _ => ?_) ((ht'.2.drop _).congr fun n _ h2 => ?_)
    · show v (activeAt (_ :: _) n) = _
      rw [activeAt_subst _ _ _ _ hLle rfl, if_pos h1]
    · show v (activeAt (_ :: _) n) = _
      rw [activeAt_subst _ _ _ _ hLle rfl, if_neg (by omega), hv]
  | take c0 tl hdrop hel =>
    have ht' := ht.at_drop hdrop
    refine (ht'.2.drop _).congr fun n _ h2 => ?_
    show v (activeAt (activeAt _ _) n) = _
    rw [activeAt_activeAt _ _ _ h2]

theorem corr_step {T : Table} {s s' : MState} {h h' : HState} (hl : LockStep T s h s' h')
    (hco : Corr h.active s.rest) : Corr h'.active s'.rest :=
  corr_tags.mpr (tags_lock (v := fun l => l.map (·.name)) map_name_clamp hl (corr_tags.mp hco)
    (fun c0 a rs L h0 c hc => by rw [splice_chain hc, h0, List.map_cons, map_name_clamp]))

theorem contains_map_name (l : List Region) (n : String) :
    (l.map (·.name)).contains n = l.any (fun x => x.name == n) := by
  induction l with
  | nil => rfl
  | cons x t ih =>
    simp only [List.map_cons, List.contains_cons, List.any_cons, ih]
    congr 1
    exact Bool.beq_comm ..

/-- both sides take the decision `choose` on the same token; the guards agree by `Corr`, the blank rules by hypothesis -/
theorem cand_agree {T : Table} {s : MState} {h : HState}
    (hs : Sim s h) (hco : Corr h.active s.rest) (hb : mblank s = hblank h) : mcand T s = hcand T h := by
  obtain ⟨hr, _, hst, _⟩ := hs
  have hk : skipLenC h.rest = skipLen s.rest := by rw [hr]; rfl
  have hd : h.rest.drop (skipLenC h.rest) = chars (s.rest.drop (skipLen s.rest)) := by rw [hk, hr, chars_drop]
  rw [hcand_eq_choose, hd]
  cases hdrop : s.rest.drop (skipLen s.rest) with
  | nil =>
    rw [mcand_nil hdrop]
    cases (trans h.st (lexTokC (chars [])).kind).sub <;> rfl
  | cons c0 tl =>
    rw [mcand_at hdrop, eligible_eq_choose, ← mblank_at hdrop, hst]
    refine choose_congr (fun name => ?_) hb _ _
    unfold SChar.isAliasFor
    rw [(corr_at hdrop hco).1, namesAt, contains_map_name, chars_length]; rfl

end YashModel.Alias
