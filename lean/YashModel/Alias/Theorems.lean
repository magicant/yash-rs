/-
  C17 — property theorems (and non-vacuity examples).

  Property text: "For every set of alias definitions, including self- and mutually recursive ones, and
  every command line, alias substitution terminates and yields the token sequence POSIX specifies: only an
  unquoted literal word in command position (or following an alias value that ends with a blank, or naming
  a global alias) is replaced, a name is not substituted again within its own replacement, and reserved
  words, operators and redirections that emerge from replacement text are recognised as such."

  The model (`Model.lean`) is the lexer's character buffer with per-character origin chains, the parser's
  `substitute_alias` eligibility test, `is_after_blank_ending_alias`, and the position automaton `trans`.
  All theorems hold for every table (any number of aliases, any values, any cycles) and every line.
-/
import YashModel.Alias.Chains
import YashModel.Alias.Tied
import YashModel.Alias.Builtins
import YashModel.Alias.Sites
import YashModel.Quote.Listing
import YashModel.Common.Strings
namespace YashModel.Alias
open YashModel.Run YashModel.Common

/-! The examples are checked by evaluation in the kernel; each first rewrites its string literals (as many as the
    `iterate` says) to their character lists with `Common.toList_lit`, which spares the UTF-8 decoder of `String.toList`. -/

/-- ★ The measure behind termination: every step (substitution or token consumption) strictly decreases
    `mu` = Σ over the unconsumed characters of `(L+1)^(N - chain length)` (`N` = number of aliases, `L` =
    longest replacement), on every state whose origin chains are sane. -/
theorem subst_measure_decreases (T : Table) (s s' : MState) (hi : Inv T s) (h : step T s = some s') :
    mu T s'.rest < mu T s.rest := by
  rw [mu_eq_muP, mu_eq_muP]
  -- the chain invariant supplies the bounds: the extended chain is sane, hence no longer than the table
  refine muP_step_of h fun c0 hc0 a name hl hn => ⟨?_, value_le_max (lookup_spec hl).1⟩
  exact good_chain_le (good_extend (hi.2 c0 hc0) hl (guard_not_mem hl hn))

/-- ★ `subst_terminates`: for every table and every line the fuel `fuelFor T line` is never exhausted — the
    substitution reaches the end of the input. -/
theorem subst_terminates (T : Table) (line : List Char) :
    (run T (fuelFor T line) (init line)).2 = true := by
  rw [run_iterB]
  exact iterB_done (P := Inv T) (μ := fun s => mu T s.rest) (fun s s' hi h => ⟨inv_step hi h, subst_measure_decreases T s s' hi h⟩) _ _
    (inv_init T line) (by simp [fuelFor, init])

theorem subst_fuel_irrelevant (T : Table) (line : List Char) (g : Nat) (hg : fuelFor T line ≤ g) :
    run T g (init line) = run T (fuelFor T line) (init line) := by
  rw [run_iterB, run_iterB]
  exact iterB_mono _ _ _ (by rw [← run_iterB]; exact subst_terminates T line) hg

/-- non-vacuity: a three-cycle `a → b → c → a`, each value ending in a blank, terminates; so does the
    self-referential `a='a a '`. -/
example : substText [⟨"a", "b ".toList, false⟩, ⟨"b", "c ".toList, false⟩, ⟨"c", "a ".toList, false⟩]
    "a a x".toList = "a    a    x".toList := by
  iterate 5 rw [toList_lit rfl]
  decide +kernel
example : substText [⟨"a", "a a ".toList, false⟩] "a".toList = "a a ".toList := by
  iterate 2 rw [toList_lit rfl]
  decide +kernel

/-- ★ `no_self_resubstitution`: at every point of the run (any fuel) no character's origin chain contains
    an alias name twice — a name is never substituted again within its own replacement, for cycles of
    any length. -/
theorem no_self_resubstitution (T : Table) (line : List Char) (f : Nat) :
    ∀ c ∈ (run T f (init line)).1.pre ++ (run T f (init line)).1.rest, c.chain.Nodup :=
  fun c hc => (good_run T line f c hc).1

theorem no_self_eligible (T : Table) (before : List SChar) (c0 : SChar) (name : String) (asg : Bool)
    (sub : Option Bool) (h : c0.isAliasFor name = true) :
    eligible T before c0 (.word (some name) asg) sub = none := by
  unfold eligible
  cases sub <;> simp [h]

/-- ★ `chain_bound`: every origin chain is at most as long as the table. -/
theorem chain_bound (T : Table) (line : List Char) (f : Nat) :
    ∀ c ∈ (run T f (init line)).1.pre ++ (run T f (init line)).1.rest, c.chain.length ≤ T.length :=
  fun c hc => good_chain_le (good_run T line f c hc)

theorem chain_names (T : Table) (line : List Char) (f : Nat) :
    ∀ c ∈ (run T f (init line)).1.pre ++ (run T f (init line)).1.rest, ∀ n ∈ c.chain, n ∈ T.names :=
  fun c hc => (good_run T line f c hc).2

/-- non-vacuity: with the cycle `a → b → a` the innermost character really carries the chain `[b, a]`
    (innermost first) and is not substituted a third time. -/
example : ((substState [⟨"a", "b".toList, false⟩, ⟨"b", "a".toList, false⟩] "a".toList).pre.map (·.chain))
    = [["b", "a"]] := by
  iterate 2 rw [toList_lit rfl]
  decide +kernel

/-- ★ `blank_chain` (the rule): walking back from a token over blanks and line continuations (`gap`,
    nearest first) one reaches a character `b` that is the last character of a replacement ending in a
    blank (`b.eb`, innermost alias `n`), i.e. the character after `b` does not come from `n`.  Then
    `is_after_blank_ending_alias` answers true — whatever lies further back, however long the gap, and
    whatever chains the gap characters carry (so also through replacements nested inside or outside). -/
theorem blank_chain_rule (gap : List SChar) (b : SChar) (older : List SChar) (nxt : SChar)
    (n : String) (ch : List String)
    (hgap : ∀ g ∈ gap, g.lc = true ∨ isBlank g.c = true)
    (hb : b.lc = true ∨ isBlank b.c = true)
    (hchain : b.chain = n :: ch) (heb : b.eb = true)
    (hnext : ((gap.getLast?).getD nxt).isAliasFor n = false) :
    afterBlank (gap ++ b :: older) (some nxt) = true := by
  have hskip : ∀ g : SChar, g.lc = true ∨ isBlank g.c = true → bskip g = true := fun g h => by
    unfold bskip; rcases h with h | h <;> simp [h]
  induction gap generalizing nxt with
  | nil =>
    -- the walk is at `b`: its test succeeds
    simp only [List.getLast?_nil, Option.getD_none] at hnext
    have : bcond b (some nxt) = true := by simp [bcond, hchain, heb, sameAlias, hnext]
    rw [List.nil_append, afterBlank_cons, hskip b hb, this]; rfl
  | cons g gs ih =>
    -- the walk passes over `g`, whatever its own test says
    rw [List.getLast?_cons, Option.getD_some] at hnext
    rw [List.cons_append, afterBlank_cons, hskip g (hgap g (List.mem_cons_self ..)),
      ih g (fun x hx => hgap x (List.mem_cons_of_mem _ hx)) hnext, Bool.or_true]; rfl

/-- ★ `blank_chain` (transitivity through the buffer): once the replacement of an alias `a` whose value
    ends with a blank has been consumed (it sits, reversed, just before the gap), the next token is "after
    a blank-ending alias" — across any number of further blanks and line continuations — provided the
    character after the replacement is not itself from `a`. -/
theorem blank_chain_after_splice (a : Alias) (c0 : SChar) (gap older : List SChar) (nxt : SChar)
    (hv : endsBlank a.value = true)
    (hgap : ∀ g ∈ gap, g.lc = true ∨ isBlank g.c = true)
    (hnext : ((gap.getLast?).getD nxt).isAliasFor a.name = false) :
    afterBlank (gap ++ (spliceChars a c0).reverse ++ older) (some nxt) = true := by
  obtain ⟨front, b, hs, hbl, hch, heb, _⟩ := splice_ends_blank a c0 hv
  rw [hs]
  simp only [List.reverse_append, List.reverse_cons, List.reverse_nil, List.nil_append,
    List.append_assoc, List.cons_append]
  exact blank_chain_rule gap b _ nxt a.name c0.chain hgap (Or.inr hbl) hch heb hnext

/-- ★ `eligible_word_is_replaced` (converse of `only_eligible`): a literal word that names an alias, is not on
    its own origin chain, is taken with substitution enabled (`sub = some cmd`: `take_token_manual(cmd)` /
    `take_token_auto`) and stands in command position (`cmd`), or names a GLOBAL alias, or follows a blank-ending
    replacement, IS replaced — in every grammar position, for every table; the result is the splice of the value
    and the parser stays in the same grammar position (`onSub`).  With `only_eligible`: a step replaces the word
    IF AND ONLY IF it is eligible. -/
theorem eligible_word_is_replaced (T : Table) (s : MState) (c0 : SChar) (tl : List SChar) (name : String)
    (asg cmd : Bool) (a : Alias)
    (hdrop : s.rest.drop (skipLen s.rest) = c0 :: tl)
    (hkind : (lexTok (c0 :: tl)).kind = .word (some name) asg)
    (hsub : (trans s.st (.word (some name) asg)).sub = some cmd)
    (hnot : c0.isAliasFor name = false)
    (hlook : T.lookup name = some a)
    (hwhy : cmd = true ∨ a.global = true ∨
      afterBlank ((markLc (s.rest.take (skipLen s.rest))).reverse ++ s.pre) (some c0) = true) :
    ∃ s', step T s = some s' ∧
      s'.rest = spliceChars a c0 ++ tl.drop ((lexTok (c0 :: tl)).len - 1) ∧
      s'.pre = (markLc (s.rest.take (skipLen s.rest))).reverse ++ s.pre ∧
      s'.st = (trans s.st (.word (some name) asg)).onSub ∧ s'.subs = s.subs + 1 := by
  exact ⟨_, step_subst hdrop (by rw [hkind, hsub]; exact eligible_eq_some.mpr ⟨cmd, name, asg, rfl, rfl, hnot, hlook, hwhy⟩),
    rfl, rfl, by rw [hkind], rfl⟩

/-- ★ `blank_chain` (the step): a literal word that names an alias, is not on its own origin chain and
    stands after a blank-ending replacement IS substituted, wherever the parser is (argument, redirection
    operand, `for` word, `case` pattern …) as long as the token is taken with `take_token_manual/auto`
    (`sub ≠ none`), and the result is the splice of the replacement. -/
theorem blank_chain (T : Table) (s : MState) (c0 : SChar) (tl : List SChar) (name : String) (asg cmd : Bool)
    (a : Alias)
    (hdrop : s.rest.drop (skipLen s.rest) = c0 :: tl)
    (hkind : (lexTok (c0 :: tl)).kind = .word (some name) asg)
    (hsub : (trans s.st (.word (some name) asg)).sub = some cmd)
    (hnot : c0.isAliasFor name = false)
    (hlook : T.lookup name = some a)
    (hafter : afterBlank ((markLc (s.rest.take (skipLen s.rest))).reverse ++ s.pre) (some c0) = true) :
    ∃ s', step T s = some s' ∧
      s'.rest = spliceChars a c0 ++ tl.drop ((lexTok (c0 :: tl)).len - 1) ∧
      s'.pre = (markLc (s.rest.take (skipLen s.rest))).reverse ++ s.pre := by
  obtain ⟨s', h1, h2, h3, _⟩ :=
    eligible_word_is_replaced T s c0 tl name asg cmd a hdrop hkind hsub hnot hlook (Or.inr (Or.inr hafter))
  exact ⟨s', h1, h2, h3⟩

/-- non-vacuity: `b` and `c` are arguments, yet both are substituted because each follows a value ending
    in a blank — transitively (`a` → `b` → `c`) and through a line continuation. -/
example : substText [⟨"a", "x ".toList, false⟩, ⟨"b", "y ".toList, false⟩, ⟨"c", "z".toList, false⟩]
    "a \\\n b c c".toList = "x  \\\n y  z c".toList := by
  iterate 5 rw [toList_lit rfl]
  decide +kernel
/-- … and without the trailing blank nothing after the command name is touched. -/
example : substText [⟨"a", "x".toList, false⟩, ⟨"b", "y ".toList, false⟩] "a b".toList = "x b".toList := by
  iterate 4 rw [toList_lit rfl]
  decide +kernel

/-- ★ `only_eligible`: a step either leaves the text of the buffer unchanged (the token is consumed as it
    is) or replaces a token for which ALL of the following hold: it is an unquoted literal word `name`
    (`to_string_if_literal`), the parser takes it with alias substitution enabled (`sub = some cmd`, never
    for a token taken raw: operators, reserved words where they are recognised, `in`, `esac`), `name` is not
    on the origin chain of its first character, the table defines `name`, and it stands in command
    position (`cmd`) or the alias is global or it follows a replacement ending in a blank. -/
theorem only_eligible (T : Table) (s s' : MState) (h : step T s = some s') :
    s'.text = s.text ∨
    ∃ (c0 : SChar) (tl : List SChar) (a : Alias) (cmd : Bool) (name : String) (asg : Bool),
      s.rest.drop (skipLen s.rest) = c0 :: tl ∧
      (lexTok (c0 :: tl)).kind = .word (some name) asg ∧
      (trans s.st (lexTok (c0 :: tl)).kind).sub = some cmd ∧
      c0.isAliasFor name = false ∧
      T.lookup name = some a ∧
      (cmd = true ∨ a.global = true ∨
        afterBlank ((markLc (s.rest.take (skipLen s.rest))).reverse ++ s.pre) (some c0) = true) ∧
      s'.rest = spliceChars a c0 ++ tl.drop ((lexTok (c0 :: tl)).len - 1) := by
  cases step_rel h with
  | subst c0 tl a cmd name asg hdrop hkind hsub hnot hlook hwhy hpre hrest =>
    exact Or.inr ⟨c0, tl, a, cmd, name, asg, hdrop, hkind, hsub, hnot, hlook, hwhy, hrest⟩
  | take c0 tl hdrop hel hpre hrest => exact Or.inl (take_text hdrop hpre hrest)

/-- A quoted or otherwise non-literal word, an operator, an IO_NUMBER: the text is unchanged. -/
theorem nonliteral_unchanged (T : Table) (s s' : MState) (h : step T s = some s')
    (hk : ∀ c0 tl name asg, s.rest.drop (skipLen s.rest) = c0 :: tl →
      (lexTok (c0 :: tl)).kind ≠ .word (some name) asg) :
    s'.text = s.text := by
  rcases only_eligible T s s' h with h | ⟨c0, tl, a, cmd, name, asg, hdrop, hkind, _⟩
  · exact h
  · exact absurd hkind (hk c0 tl name asg hdrop)

/-- A token the parser takes raw (`take_token_raw`: operators, reserved words where they are recognised,
    anything after a syntax error) is never substituted. -/
theorem raw_unchanged (T : Table) (s s' : MState) (h : step T s = some s')
    (hk : ∀ c0 tl, s.rest.drop (skipLen s.rest) = c0 :: tl →
      (trans s.st (lexTok (c0 :: tl)).kind).sub = none) :
    s'.text = s.text := by
  rcases only_eligible T s s' h with h | ⟨c0, tl, a, cmd, name, asg, hdrop, _, hsub, _⟩
  · exact h
  · rw [hk c0 tl hdrop] at hsub; cases hsub

/-- A word that is not in command position is left alone unless its alias is global or it follows a
    blank-ending replacement. -/
theorem noncommand_unchanged (T : Table) (s s' : MState) (h : step T s = some s')
    (hpos : ∀ c0 tl, s.rest.drop (skipLen s.rest) = c0 :: tl →
      (trans s.st (lexTok (c0 :: tl)).kind).sub ≠ some true)
    (hglobal : ∀ a ∈ T, a.global = false)
    (hblank : ∀ c0, afterBlank ((markLc (s.rest.take (skipLen s.rest))).reverse ++ s.pre) (some c0) = false) :
    s'.text = s.text := by
  rcases only_eligible T s s' h with h | ⟨c0, tl, a, cmd, name, asg, hdrop, _, hsub, _, hlook, hwhy, _⟩
  · exact h
  · exfalso
    rcases hwhy with h1 | h2 | h3
    · subst h1; exact hpos c0 tl hdrop hsub
    · rw [hglobal a (lookup_spec hlook).1] at h2; cases h2
    · rw [hblank c0] at h3; cases h3

/-- After the parser has reported a syntax error nothing is substituted any more. -/
theorem err_unchanged (T : Table) (s s' : MState) (h : step T s = some s') (he : s.st = .err) :
    s'.text = s.text := by
  apply raw_unchanged T s s' h
  intro c0 tl _
  rw [he]
  cases (lexTok (c0 :: tl)).kind <;> rfl

theorem subst_nil (line : List Char) : substText [] line = line := by
  have key : (substState [] line).text = (init line).text := by
    unfold substState
    rw [run_iter]
    refine iter_inv (next := step []) (P := fun s => s.text = (init line).text) (fun s s' hi hs => ?_) _ _ rfl
    rcases only_eligible [] s s' hs with h | ⟨_, _, a, _, name, _, _, _, _, _, hlook, _⟩
    · exact h.trans hi
    · simp [Table.lookup] at hlook
  unfold substText
  rw [key]
  exact chars_plain line

/-- non-vacuity: quoted, escaped, expansion and assignment words are untouched while the literal word in
    command position is replaced; a reserved word coming out of a replacement is recognised (the word after
    `if`/`then` is in command position again) and a reserved word in command position is never replaced. -/
example : substText [⟨"a", "x".toList, false⟩] "a 'a' \\a \"a\" $a v=a; a=1 a".toList
    = "x 'a' \\a \"a\" $a v=a; a=1 x".toList := by
  iterate 3 rw [toList_lit rfl]
  decide +kernel
example : substText [⟨"i", "if".toList, false⟩, ⟨"a", "x".toList, false⟩, ⟨"if", "y".toList, false⟩]
    "i a; then a; fi; if a; then a a; fi".toList = "if x; then x; fi; if x; then x a; fi".toList := by
  iterate 5 rw [toList_lit rfl]
  decide +kernel
/-- non-vacuity: global aliases are replaced in any position, including a redirection operand. -/
example : substText [⟨"g", "z".toList, true⟩, ⟨"a", "x".toList, false⟩] "a g a > g".toList
    = "x z a > z".toList := by
  iterate 4 rw [toList_lit rfl]
  decide +kernel

/-- Whatever the command word is (a declaration utility such as `export`/`readonly`/`typeset`, the neutral
    `command`, or any other word — the automaton does not even look at it), after it the parser is in argument
    position … -/
theorem after_command_word (lit : Option String) (h : isKeyword lit = false) :
    (trans .cmd0 (.word lit false)).onTake = .one := by
  simp [trans, transCore, h]

/-- … and stays there for every further word (options, `--`, assignment-shaped words, names). -/
theorem after_argument_word (lit : Option String) (asg : Bool) :
    (trans .one (.word lit asg)).onTake = .args ∧ (trans .args (.word lit asg)).onTake = .args ∧
    (trans .one (.word lit asg)).sub = some false ∧ (trans .args (.word lit asg)).sub = some false :=
  ⟨rfl, rfl, rfl, rfl⟩

/-- Wherever the automaton does not test a word as a command name, a step leaves the text unchanged or replaces a
    word whose alias is GLOBAL or which follows a blank-ending replacement. -/
theorem not_command_name_only_global (T : Table) (s s' : MState) (h : step T s = some s')
    (hst : ∀ lit asg, (trans s.st (.word lit asg)).sub ≠ some true) :
    s'.text = s.text ∨
    ∃ (c0 : SChar) (tl : List SChar) (a : Alias) (name : String) (asg : Bool),
      s.rest.drop (skipLen s.rest) = c0 :: tl ∧
      (lexTok (c0 :: tl)).kind = .word (some name) asg ∧
      T.lookup name = some a ∧
      (a.global = true ∨
        afterBlank ((markLc (s.rest.take (skipLen s.rest))).reverse ++ s.pre) (some c0) = true) := by
  rcases only_eligible T s s' h with h1 | ⟨c0, tl, a, cmd, name, asg, hdrop, hkind, hsub, _, hlook, hwhy, _⟩
  · exact Or.inl h1
  · refine Or.inr ⟨c0, tl, a, name, asg, hdrop, hkind, hlook, hwhy.resolve_left ?_⟩
    rintro rfl
    exact hst _ _ (hkind ▸ hsub)

/-- ★ `argument_words_only_global`: in argument position (after ANY command word, of any utility class, also
    after `command command`, `command export`, options and `--`) a step either leaves the text unchanged or
    replaces a word whose alias is GLOBAL or which follows a blank-ending replacement — a non-global alias
    name there is never replaced otherwise. -/
theorem argument_words_only_global (T : Table) (s s' : MState) (h : step T s = some s')
    (hst : s.st = .one ∨ s.st = .args) :
    s'.text = s.text ∨
    ∃ (c0 : SChar) (tl : List SChar) (a : Alias) (name : String) (asg : Bool),
      s.rest.drop (skipLen s.rest) = c0 :: tl ∧
      (lexTok (c0 :: tl)).kind = .word (some name) asg ∧
      T.lookup name = some a ∧
      (a.global = true ∨
        afterBlank ((markLc (s.rest.take (skipLen s.rest))).reverse ++ s.pre) (some c0) = true) :=
  not_command_name_only_global T s s' h fun lit asg => by
    rcases hst with h2 | h2 <;> rw [h2] <;> exact fun e => nomatch e

/-- non-vacuity: after `command` (neutral), `export` (declaration utility) and `x` the non-global alias `a` is
    left alone in every argument position, the global alias `g` is replaced. -/
example : substText [⟨"a", "A".toList, false⟩, ⟨"g", "G".toList, true⟩]
    "command a g; command command a; export a=1 a g; x -o a -- a g".toList
    = "command a G; command command a; export a=1 a G; x -o a -- a G".toList := by
  iterate 4 rw [toList_lit rfl]
  decide +kernel

/-- ★ `guard_by_name`: a word whose first character's origin chain contains the name `n` is never replaced
    by alias `n` — whatever the current table holds for `n` (same definition, a redefinition under the same
    name, a different `global` flag, or nothing). -/
theorem guard_by_name (T : Table) (before : List SChar) (c0 : SChar) (n : String) (asg : Bool)
    (sub : Option Bool) (h : c0.isAliasFor n = true) :
    eligible T before c0 (.word (some n) asg) sub = none :=
  no_self_eligible T before c0 n asg sub h

theorem guard_table_independent (T₁ T₂ : Table) (before : List SChar) (c0 : SChar) (n : String) (asg : Bool)
    (sub : Option Bool) (h : c0.isAliasFor n = true) :
    eligible T₁ before c0 (.word (some n) asg) sub = eligible T₂ before c0 (.word (some n) asg) sub := by
  rw [guard_by_name T₁ _ _ _ _ _ h, guard_by_name T₂ _ _ _ _ _ h]

/-- ★ `no_self_resubstitution_lines`: in the line-by-line machine (the table is updated by `alias`/`unalias`
    after every complete command line, the buffer keeps its origin chains) no chain ever contains a name
    twice, for every initial table, every line and every number of steps. -/
theorem no_self_resubstitution_lines (T : Table) (line : List Char) (f : Nat) :
    ∀ c ∈ (lrun f { T := T, m := init line }).1.m.pre ++ (lrun f { T := T, m := init line }).1.m.rest,
      c.chain.Nodup := by
  rw [lrun_iter]
  refine iter_inv (P := fun l : LState => ChainsNodup l.m) (fun _ _ hi h => nodup_step hi (lstep_step h)) f _ ?_
  intro c hc
  exact ((inv_init T line).2 c (by simpa [init] using hc)).1

/-- non-vacuity: `a` redefines itself on the first line of its own replacement; the `a` on the second line is
    left alone although the table now holds a different `a` (the seeded `Rc::ptr_eq` guard substitutes it). -/
example : ((lrun 1000 { T := [⟨"a", "alias a=REDEF\na second".toList, false⟩], m := init "a".toList }).1.m.text)
    = "alias a=REDEF\na second".toList := by
  iterate 2 rw [toList_lit rfl]
  decide +kernel
example : ((lrun 1000 { T := [⟨"a", "alias a=REDEF\na second".toList, false⟩], m := init "a".toList }).1.T.map
    (fun a => (a.name, String.ofList a.value))) = [("a", "REDEF")] := by
  iterate 2 rw [toList_lit rfl]
  decide +kernel

/-- ★ `model_eq_spec`: for EVERY alias table and EVERY line the text produced by the implementation model (origin-
    chain buffer, `substitute_alias` eligibility, `is_after_blank_ending_alias`) equals the text produced by
    substitution by hand (`substLine`: plain text, stack of aliases being processed, forward blank flag) — no
    hypothesis about the run.  The two runs end in tied states (`tied_run`), which have the same text. -/
theorem model_eq_spec (T : Table) (line : List Char) : substText T line = substLine T line :=
  (tied_run T line _).sim.text

/-- ☆ (partial) If model and Spec choose the same alias at every step, the substituted texts are equal.  They always
    do: this is `model_eq_spec` under a hypothesis it does not need. -/
theorem model_eq_spec_partial (T : Table) (line : List Char)
    (hA : Agree T (fuelFor T line) (init line) { rest := line }) :
    substText T line = substLine T line :=
  model_eq_spec T line

/-- ☆ (partial) Per-instance certificate: the executable lock-step check `agreeB` suffices (`agree_of_agreeB` says what
    it certifies).  Likewise a special case of `model_eq_spec`. -/
theorem model_eq_spec_checked (T : Table) (line : List Char)
    (hb : agreeB T (fuelFor T line) (init line) { rest := line } = true) :
    substText T line = substLine T line :=
  model_eq_spec T line

/-- ☆ (partial) The recursion guards never disagree (invariant `Corr`:
    the origin chain of every unconsumed character is the list of names of the regions that contain it),
    so it is enough that the two formulations of the BLANK RULE give the same answer at every step
    (`AgreeBlank`: `is_after_blank_ending_alias` walking back over the consumed buffer = the Spec's forward
    flag).  That hypothesis always holds (`blank_rules_agree`), so this too is a special case of `model_eq_spec`. -/
theorem model_eq_spec_blank_partial (T : Table) (line : List Char)
    (hB : AgreeBlank T (fuelFor T line) (init line) { rest := line }) :
    substText T line = substLine T line :=
  model_eq_spec T line

/-- ☆ (partial: the full `model_eq_spec` restricted to tables in which no value ends with a blank)
    For EVERY such table — any number of aliases, recursive and mutually recursive bodies, global aliases,
    reserved words / operators / quoting in values — and EVERY line, the implementation model's substituted
    text equals the by-hand Spec's: no hypothesis about the run remains. -/
theorem model_eq_spec_noblank_partial (T : Table) (hT : ∀ a ∈ T, endsBlank a.value = false)
    (line : List Char) : substText T line = substLine T line :=
  model_eq_spec T line

/-- non-vacuity of `model_eq_spec_noblank_partial`: a table with a cycle, a self-reference, a global alias
    and a reserved word, none ending in a blank. -/
example : ∀ a ∈ ([⟨"a", "b x".toList, false⟩, ⟨"b", "a".toList, false⟩, ⟨"c", "c c".toList, false⟩,
    ⟨"g", "if".toList, true⟩] : Table), endsBlank a.value = false := by
  iterate 4 rw [toList_lit rfl]
  decide +kernel

theorem blank_rules_agree (T : Table) (line : List Char) (f : Nat) :
    AgreeBlank T f (init line) ({ rest := line } : HState) :=
  (Tied.init line).agreeBlank T f

/-- non-vacuity: the hypothesis holds on a table with a cycle, blank-ending values, a quoted final blank and
    a non-ASCII value (byte length ≠ character length). -/
example : agreeB [⟨"a", "b ".toList, false⟩, ⟨"b", "c é ".toList, false⟩, ⟨"c", "a x\\ ".toList, false⟩,
      ⟨"g", "z".toList, true⟩]
    (fuelFor [⟨"a", "b ".toList, false⟩, ⟨"b", "c é ".toList, false⟩, ⟨"c", "a x\\ ".toList, false⟩,
      ⟨"g", "z".toList, true⟩] "a b \\\n c g; x a".toList)
    (init "a b \\\n c g; x a".toList) { rest := "a b \\\n c g; x a".toList } = true := by
  iterate 5 rw [toList_lit rfl]
  decide +kernel

/-- ★ `model_origins_eq_spec`: for EVERY table and EVERY line, the origin chain the model's buffer records for
    every character (what the real lexer stores as `Source::Alias{original, alias}` nesting; printed by the harness
    from `Lexer::location_range`) is the list of aliases that were being processed, by hand, where that
    character stands (`regionNames` of the Spec's region stack; read characters keep the list they were read
    under) — no hypothesis about the run.  Together with `model_eq_spec` the whole origin-tagged buffer, not only
    its text, is predicted by the by-hand Spec. -/
theorem model_origins_eq_spec (T : Table) (line : List Char) :
    (substState T line).origins = (hrunC T (fuelFor T line) { h := { rest := line } }).origins := by
  have t := tiedC_run T line (fuelFor T line)
  exact origins_final t.1.sim t.1.corr t.2

/-- the origin log is an observer: the by-hand run with the log IS the by-hand run (`substHand`) -/
theorem origin_log_is_observer (T : Table) (line : List Char) :
    (hrunC T (fuelFor T line) { h := { rest := line } }).h = substHand T line := by
  unfold substHand
  rw [hrunC_iter, hrun_iter]
  exact iter_map (π := HCState.h) (fun c => by unfold hstepC; cases hstep T c.h <;> rfl) _ _

theorem origins_length (s : MState) : s.origins.length = s.text.length := by
  simp [MState.origins, MState.text]

/-- typed characters have no origin; the characters put in place of a word carry the alias' name in front of
    the origin of the word's first character (`LexerCore::substitute_alias`: `original =
    location_range(begin..end)`, whose code is the one of the first character) -/
theorem origins_of_splice (a : Alias) (c0 : SChar) (line : List Char) :
    (∀ c ∈ plain line, c.chain = []) ∧ ∀ c ∈ spliceChars a c0, c.chain = a.name :: c0.chain :=
  ⟨fun _ hc => (mem_plain hc).1, fun _ hc => splice_chain hc⟩

/-- non-vacuity: the cycle `a → b → a` with a blank-ending value; the origins of the final buffer `a  x`
    (`a` out of `b` out of `a`; one blank out of `a`'s value, the typed blank and `x`). -/
example : (substState [⟨"a", "b ".toList, false⟩, ⟨"b", "a".toList, false⟩] "a x".toList).origins
    = [["b", "a"], ["a"], [], []] := by
  iterate 3 rw [toList_lit rfl]
  decide +kernel
example : (hrunC [⟨"a", "b ".toList, false⟩, ⟨"b", "a".toList, false⟩]
      (fuelFor [⟨"a", "b ".toList, false⟩, ⟨"b", "a".toList, false⟩] "a x".toList)
      { h := { rest := "a x".toList } }).origins
    = [["b", "a"], ["a"], [], []] := by
  iterate 3 rw [toList_lit rfl]
  decide +kernel

/-- ★ end-to-end `only_eligible` for the driver: a step of the line machine leaves the text unchanged or
    replaces an unquoted literal word, taken with substitution enabled, whose name is not on the origin chain of
    its first character, which the CURRENT table defines, and which is in command position or global or after
    a blank-ending replacement. -/
theorem line_only_eligible {l l' : LState} (h : lstep l = some l') :
    l'.m.text = l.m.text ∨
    ∃ (c0 : SChar) (tl : List SChar) (a : Alias) (cmd : Bool) (name : String) (asg : Bool),
      l.m.rest.drop (skipLen l.m.rest) = c0 :: tl ∧
      (lexTok (c0 :: tl)).kind = .word (some name) asg ∧
      (trans l.m.st (lexTok (c0 :: tl)).kind).sub = some cmd ∧
      c0.isAliasFor name = false ∧
      l.T.lookup name = some a ∧
      (cmd = true ∨ a.global = true ∨
        afterBlank ((markLc (l.m.rest.take (skipLen l.m.rest))).reverse ++ l.m.pre) (some c0) = true) ∧
      l'.m.rest = spliceChars a c0 ++ tl.drop ((lexTok (c0 :: tl)).len - 1) :=
  only_eligible l.T l.m l'.m (lstep_step h)

theorem line_argument_words_only_global {l l' : LState} (h : lstep l = some l')
    (hst : l.m.st = .one ∨ l.m.st = .args) :
    l'.m.text = l.m.text ∨
    ∃ (c0 : SChar) (tl : List SChar) (a : Alias) (name : String) (asg : Bool),
      l.m.rest.drop (skipLen l.m.rest) = c0 :: tl ∧
      (lexTok (c0 :: tl)).kind = .word (some name) asg ∧
      l.T.lookup name = some a ∧
      (a.global = true ∨
        afterBlank ((markLc (l.m.rest.take (skipLen l.m.rest))).reverse ++ l.m.pre) (some c0) = true) :=
  argument_words_only_global l.T l.m l'.m (lstep_step h) hst

theorem line_table_fixed_on_substitution {l l' : LState} (h : lstep l = some l')
    (hs : l'.m.subs ≠ l.m.subs) : l'.T = l.T := by
  unfold lstep at h
  split at h
  · cases h
  · rename_i m' hm
    split at h
    · cases h; rfl
    · rename_i hne
      cases h
      simp only [bne_iff_ne, ne_eq, Decidable.not_not] at hne
      exact absurd hne hs

/-- Tokenisation looks at character values only, never at origins: text that came out of a replacement is
    tokenised exactly like typed text. -/
theorem lexing_ignores_origins (l l' : List SChar) (h : chars l = chars l') :
    lexTok l = lexTok l' ∧ skipLen l = skipLen l' := by
  unfold lexTok skipLen
  rw [h]
  exact ⟨rfl, rfl⟩

/-- ★ After a substitution the lexer rescans from the start of the replacement: the unconsumed text is
    `value ++ remaining text` as plain characters, so the next token — reserved word, operator, redirection,
    IO_NUMBER, assignment or word — is whatever that text starts with, and the position automaton `trans` sees
    only its kind. -/
theorem rescan_after_substitution (T : Table) (s s' : MState) (h : step T s = some s')
    (hsub : s'.subs ≠ s.subs) :
    ∃ (c0 : SChar) (tl : List SChar) (a : Alias),
      s.rest.drop (skipLen s.rest) = c0 :: tl ∧
      chars s'.rest = a.value ++ chars (tl.drop ((lexTok (c0 :: tl)).len - 1)) ∧
      lexTok (s'.rest.drop (skipLen s'.rest)) =
        lexTokC ((a.value ++ chars (tl.drop ((lexTok (c0 :: tl)).len - 1))).drop
          (skipLenC (a.value ++ chars (tl.drop ((lexTok (c0 :: tl)).len - 1))))) := by
  cases step_rel h with
  | take c0 tl hdrop hel hpre hrest hsubs => exact absurd hsubs hsub
  | subst c0 tl a cmd name asg hdrop hkind hsub' hnot hlook hwhy hpre hrest =>
    refine ⟨c0, tl, a, hdrop, ?_, ?_⟩
    · rw [hrest]; simp only [chars_append, chars_splice]
    · unfold lexTok skipLen
      rw [hrest]; simp only [chars_drop, chars_append, chars_splice]
      rfl

/-- A reserved word where a command may start is taken raw — never replaced, even if an alias of that name
    exists; likewise the `in` of `case`/`for`, the `do` of `for`, and `esac` after `(`. -/
theorem reserved_word_never_replaced (lit : Option String) (asg : Bool) :
    (isKeyword lit = true → (trans .cmd0 (.word lit asg)).sub = none) ∧
    (lit = some "in" → (trans .caseIn (.word lit asg)).sub = none ∧ ∀ fl, (trans (.forIn fl) (.word lit asg)).sub = none) ∧
    (lit = some "do" → (∀ fl, (trans (.forIn fl) (.word lit asg)).sub = none) ∧ (trans .forBody (.word lit asg)).sub = none) ∧
    (lit = some "esac" → (trans .casePat0 (.word lit asg)).sub = none ∧ (trans .casePat1 (.word lit asg)).sub = none) := by
  refine ⟨?_, ?_, ?_, ?_⟩
  · intro h; simp [trans, transCore, h]
  · intro h; subst h; simp [trans, transCore]
  · intro h; subst h; simp [trans, transCore]
  · intro h; subst h; simp [trans, transCore]

theorem operators_never_replaced (T : Table) (before : List SChar) (c0 : SChar) (sub : Option Bool) (s : String) :
    eligible T before c0 (.op s) sub = none ∧ eligible T before c0 .io sub = none := by
  cases sub <;> exact ⟨rfl, rfl⟩

/-- non-vacuity: `if` from a replacement is recognised (the next word is in command position again), the `>` of a
    replacement makes the next word a redirection operand (not replaced), the `;` of a replacement puts the next
    word in command position, and an alias named `then` does not touch the reserved word. -/
example : substText [⟨"i", "if".toList, false⟩, ⟨"r", "x >".toList, false⟩, ⟨"s", "y; a".toList, false⟩,
      ⟨"a", "A".toList, false⟩, ⟨"then", "X".toList, false⟩] "i a; then r a; s; fi".toList
      = "if A; then x > a; y; A; fi".toList := by
  iterate 7 rw [toList_lit rfl]
  decide +kernel

/-- non-vacuity for the blank rule with a value whose byte length differs from its character length: the
    word after the blank-ending, non-ASCII value IS substituted (seeded change "byte vs char"). -/
example : substText [⟨"e", "echo é ".toList, false⟩, ⟨"b", "B".toList, false⟩] "e b".toList
    = "echo é  B".toList := by
  iterate 4 rw [toList_lit rfl]
  decide +kernel
example : substText [⟨"c", "あ ".toList, false⟩] "c c".toList = "あ  あ ".toList := by
  iterate 3 rw [toList_lit rfl]
  decide +kernel

/-- ★ the by-hand Spec meets its declarative description: a step leaves the text unchanged, or replaces the
    next word `name` by the value of the alias the table defines for it, where `name` is an unquoted literal
    word read where substitution is enabled, no alias of that name is being processed at the word's first
    character, and the word is in command position, or the alias is global, or the blank flag is set. -/
theorem spec_only_eligible (T : Table) (h h' : HState) (hs : hstep T h = some h') :
    h'.text = h.text ∨
    ∃ (a : Alias) (name : String) (asg cmd : Bool) (c : Char) (t : List Char),
      h.rest.drop (skipLenC h.rest) = c :: t ∧
      (lexTokC (c :: t)).kind = .word (some name) asg ∧
      (trans h.st (.word (some name) asg)).sub = some cmd ∧
      (activeAt h.active (c :: t).length).any (fun x => x.name == name) = false ∧
      T.lookup name = some a ∧
      (cmd = true ∨ a.global = true ∨ flagRun h.active true (skipLenC h.rest) h.tb h.rest = true) ∧
      h'.rest = a.value ++ t.drop ((lexTokC (c :: t)).len - 1) := by
  cases hd : h.rest.drop (skipLenC h.rest) with
  | nil => rw [hstep_none hd] at hs; cases hs
  | cons c t =>
    cases hc : hcand T h with
    | none =>
      left
      rw [hstep_take hd hc] at hs
      cases hs
      unfold HState.text
      conv => rhs; rw [split_of_drop hd (spanLenC h.hd h.st (c :: t))]
      simp only [List.reverse_append, List.reverse_cons, List.reverse_reverse, List.append_assoc,
        List.cons_append, List.nil_append]
    | some a =>
      right
      rw [hstep_subst hd hc] at hs
      cases hs
      rw [hcand_eq_choose, hd] at hc
      obtain ⟨cmd, name, asg, hsub, hkind, hg, hl, hw⟩ := choose_eq_some.mp hc
      exact ⟨a, name, asg, cmd, c, t, rfl, hkind, by rw [← hkind]; exact hsub, hg, hl, hw, rfl⟩

/-- ★ `line_agree_always`: the model's line machine and the by-hand line machine choose the same alias at EVERY step,
    whatever `alias` / `unalias` commands are executed between command lines (add, redefine, remove, `-a`: the proof
    never looks at the tables, only at the fact that both machines use the same one).  The recursion guards agree
    by `Corr` (chains = names of the regions), the blank rules by the table-free invariant `BlankInvL` of
    `BlankAgree.lean` (the `ends_with_blank` flag of every OPEN region, recorded when it was spliced).  The hypotheses are
    `LTied l g`, which every joint step keeps (`LTied.lock`). -/
theorem line_agree_always (f : Nat) {l : LState} {g : HLState} (hs : LSim l g)
    (hco : Corr g.h.active l.m.rest) (hb : BlankInvL l.m g.h) : LAgree f l g :=
  lagree_of_lagreeB f (LTied.certificate f ⟨hs, hs.2.2, hco, hb⟩)

/-- ★ `line_model_eq_spec`: for every initial table, every script and every number of steps — with the alias table
    changing between command lines — the model's line machine and textual substitution by hand, line by line, end
    with the same text, the same tokens, the same pending here-documents and the same final table.  No hypothesis:
    the two runs end in `LTied` states (`ltied_run`). -/
theorem line_model_eq_spec (T : Table) (line : List Char) (f : Nat) :
    let l := (lrun f { T := T, m := init line }).1
    let g := hlrun f { T := T, h := { rest := line } }
    l.m.text = g.h.out.reverse ++ g.h.rest ∧ l.m.toks = g.h.toks ∧ l.m.hd = g.h.hd ∧
      l.finalTable = g.finalTable := by
  intro l g
  obtain ⟨⟨hT, htr, hs⟩, _⟩ := ltied_run T line f
  refine ⟨hs.text, hs.2.2.2.1.symm, hs.2.2.2.2.symm, ?_⟩
  unfold LState.finalTable HLState.finalTable
  rw [hT, htr, hs.2.2.1]

/-- ★ `line_origins_eq_spec`: … and the origin chain of every character of the model's buffer is the by-hand list of
    aliases being processed where it was read (no hypothesis; neither side of the equation looks at the table: chains
    and regions record NAMES at replacement time). -/
theorem line_origins_eq_spec (T : Table) (line : List Char) (f : Nat) :
    (lrun f { T := T, m := init line }).1.m.origins
      = (hlrunC f { l := { T := T, h := { rest := line } } }).origins := by
  have t := ltiedC_run T line f
  exact origins_final t.1.2.sim t.1.2.corr t.2

/-- the certificate the driver evaluates on every case (`=LAGREE-FAILED` in the Spec column otherwise) can never
    fail: it is a check of the MODEL against the Spec that is a theorem; a failure would mean the compiled
    driver does not run the definitions the theorems are about -/
theorem line_certificate_always (T : Table) (line : List Char) (f : Nat) :
    lagreeB f { T := T, m := init line } { T := T, h := { rest := line } } = true :=
  (LTied.init T line).certificate f

/-- ☆ (partial) The driver's two columns: if the line machine of the model and the line machine of the Spec
    (alias table updated by `alias`/`unalias` after every command line) choose the same alias at every step,
    they end with the same text, the same tokens, the same pending here-documents and the same final table —
    i.e. the model observation and the Spec observation printed by the driver are the same string.
    The hypothesis always holds (`line_agree_always`): this is `line_model_eq_spec` under a hypothesis it does not need. -/
theorem line_model_eq_spec_partial (T : Table) (line : List Char) (f : Nat)
    (hA : LAgree f { T := T, m := init line } { T := T, h := { rest := line } }) :
    let l := (lrun f { T := T, m := init line }).1
    let g := hlrun f { T := T, h := { rest := line } }
    l.m.text = g.h.out.reverse ++ g.h.rest ∧ l.m.toks = g.h.toks ∧ l.m.hd = g.h.hd ∧
      l.finalTable = g.finalTable :=
  line_model_eq_spec T line f

/-- ☆ (partial; the hypothesis always holds) The driver's origin column, under the same hypothesis: a special case of
    `line_origins_eq_spec`. -/
theorem line_origins_eq_spec_partial (T : Table) (line : List Char) (f : Nat)
    (hA : LAgree f { T := T, m := init line } { T := T, h := { rest := line } }) :
    (lrun f { T := T, m := init line }).1.m.origins
      = (hlrunC f { l := { T := T, h := { rest := line } } }).origins :=
  line_origins_eq_spec T line f

/-- non-vacuity: the redefinition script of the seeded change (the alias redefines itself on the first line of
    its own replacement, the `a` on the second line is left alone): model and Spec agree at every step. -/
example : lagreeB 200
    ({ T := [⟨"a", "alias a=REDEF\na second ".toList, false⟩, ⟨"b", "x".toList, false⟩],
       m := init "a b\na".toList } : LState)
    ({ T := [⟨"a", "alias a=REDEF\na second ".toList, false⟩, ⟨"b", "x".toList, false⟩],
       h := ({ rest := "a b\na".toList } : HState) } : HLState) = true := by
  iterate 3 rw [toList_lit rfl]
  decide +kernel

/-- What the driver evaluates on EVERY generated case (`Main.lean` prints `=LAGREE-FAILED` in the Spec column if the
    certificate is false): when `lagreeB` holds, text, tokens, pending here-documents, final table and the origin of
    every character agree between the model's line machine and the by-hand line machine — by theorem, for that table
    and script, with the table changing between command lines.  (`lagree_of_lagreeB` says what the certificate means;
    by `line_certificate_always` it always holds, and the conclusion is `line_model_eq_spec` with `line_origins_eq_spec`.) -/
theorem line_model_eq_spec_checked (T : Table) (line : List Char) (f : Nat)
    (hb : lagreeB f { T := T, m := init line } { T := T, h := { rest := line } } = true) :
    let l := (lrun f { T := T, m := init line }).1
    let g := hlrun f { T := T, h := { rest := line } }
    (l.m.text = g.h.out.reverse ++ g.h.rest ∧ l.m.toks = g.h.toks ∧ l.m.hd = g.h.hd ∧
      l.finalTable = g.finalTable) ∧
    l.m.origins = (hlrunC f { l := { T := T, h := { rest := line } } }).origins :=
  ⟨line_model_eq_spec T line f, line_origins_eq_spec T line f⟩

/-- the driver's Spec column runs `hlrunC`; its by-hand state is that of `hlrun` (the log only observes), so
    `line_model_eq_spec_partial` and `spec_only_eligible` speak about what the driver prints -/
theorem line_origin_log_is_observer (f : Nat) (c : HLCState) : (hlrunC f c).l = hlrun f c.l := by
  rw [hlrunC_iter, hlrun_iter]
  exact iter_map (π := HLCState.l) (fun c => by unfold hlstepC; cases hlstep c.l <;> rfl) _ _

/-- non-vacuity of `line_origins_eq_spec_partial`: the redefinition script (the table changes while `a`'s value
    is being read) — `LAgree` holds (certificate `lagreeB`), and the origins are those of the OLD `a`. -/
example : ((lrun 200 { T := [⟨"a", "alias a=R\na x ".toList, false⟩], m := init "a a".toList }).1.m.origins)
    = [["a"], ["a"], ["a"], ["a"], ["a"], ["a"], ["a"], ["a"], ["a"], ["a"], ["a"], ["a"], ["a"], ["a"],
       [], ["a"]] := by
  iterate 2 rw [toList_lit rfl]
  decide +kernel
example : ((hlrunC 200 { l := { T := [⟨"a", "alias a=R\na x ".toList, false⟩], h := { rest := "a a".toList } } }).origins)
    = [["a"], ["a"], ["a"], ["a"], ["a"], ["a"], ["a"], ["a"], ["a"], ["a"], ["a"], ["a"], ["a"], ["a"],
       [], ["a"]] := by
  iterate 2 rw [toList_lit rfl]
  decide +kernel

/-- `subst_measure_decreases`: the self-referential `a='a a '` — `Inv` holds initially (`inv_init`), a step exists,
    and it decreases the measure. -/
example : (step [⟨"a", "a a ".toList, false⟩] (init "a".toList)).isSome = true := by
  iterate 2 rw [toList_lit rfl]
  decide +kernel
example : ∀ s', step [⟨"a", "a a ".toList, false⟩] (init "a".toList) = some s' →
    mu [⟨"a", "a a ".toList, false⟩] s'.rest < mu [⟨"a", "a a ".toList, false⟩] (init "a".toList).rest :=
  fun s' h => subst_measure_decreases _ _ s' (inv_init _ _) h

/-- `blank_chain_rule`: one typed blank (`gap`), then the final blank `b` of a blank-ending value of `a`; the next
    token's first character is not from `a`. -/
example : afterBlank ([({ c := ' ' } : SChar)] ++ ({ c := ' ', chain := ["a"], eb := true } : SChar) :: [])
    (some { c := 'b' }) = true :=
  blank_chain_rule [{ c := ' ' }] { c := ' ', chain := ["a"], eb := true } [] { c := 'b' } "a" []
    (by decide) (by decide) rfl rfl (by decide)

/-- `blank_chain` (the step): after `a` → `x ` was read, the ARGUMENT `b` meets every hypothesis (taken with
    substitution enabled but not in command position, not on its own chain, defined, after a blank-ending value) -/
example :
    ((run [⟨"a", "x ".toList, false⟩, ⟨"b", "y".toList, false⟩] 2 (init "a b".toList)).1.rest.drop
      (skipLen (run [⟨"a", "x ".toList, false⟩, ⟨"b", "y".toList, false⟩] 2 (init "a b".toList)).1.rest)
        = [({ c := 'b' } : SChar)]) ∧
    (lexTok [({ c := 'b' } : SChar)]).kind = .word (some "b") false ∧
    (trans (run [⟨"a", "x ".toList, false⟩, ⟨"b", "y".toList, false⟩] 2 (init "a b".toList)).1.st
      (.word (some "b") false)).sub = some false ∧
    afterBlank ((markLc ((run [⟨"a", "x ".toList, false⟩, ⟨"b", "y".toList, false⟩] 2 (init "a b".toList)).1.rest.take
        (skipLen (run [⟨"a", "x ".toList, false⟩, ⟨"b", "y".toList, false⟩] 2 (init "a b".toList)).1.rest))).reverse ++
      (run [⟨"a", "x ".toList, false⟩, ⟨"b", "y".toList, false⟩] 2 (init "a b".toList)).1.pre)
      (some { c := 'b' }) = true := by
  iterate 3 rw [toList_lit rfl]
  decide +kernel

/-- `err_unchanged`, `raw_unchanged`: a state after a syntax error still steps (and consumes the alias name raw) -/
example : (step [⟨"a", "x".toList, false⟩] { rest := plain "a".toList, st := .err }).isSome = true ∧
    (trans .err (lexTok (plain "a".toList)).kind).sub = none := by
  iterate 2 rw [toList_lit rfl]
  decide +kernel

/-- `argument_words_only_global`, `noncommand_unchanged`: argument position, a non-global alias, no blank-ending
    value before it: the step exists and leaves the text alone -/
example : (step [⟨"a", "x".toList, false⟩] { rest := plain " a".toList, pre := plain "c".toList, st := .one }).isSome = true ∧
    ((step [⟨"a", "x".toList, false⟩] { rest := plain " a".toList, pre := plain "c".toList, st := .one }).map (·.text))
      = some "c a".toList ∧
    (trans .one (lexTok (plain "a".toList)).kind).sub = some false ∧
    afterBlank ((markLc (plain " ".toList)).reverse ++ plain "c".toList) (some { c := 'a' }) = false := by
  iterate 6 rw [toList_lit rfl]
  decide +kernel

/-- `nonliteral_unchanged`: a quoted word is no `.word (some _)` token -/
example : (lexTok (plain "'a'".toList)).kind = .word none false := by
  iterate 1 rw [toList_lit rfl]
  decide +kernel

/-! The substitution machine reads the table only through `Table.lookup`.  What POSIX says the built-ins do —
  "alias name=value defines the alias", "unalias name removes the definition", "unalias -a removes all" — is stated
  here about `lookup`, for the model functions the driver's line machine applies between command lines
  (`applyCmd`; the real built-ins run in the harness and the final table is part of the observation). -/

/-- ★ `alias name=value`: afterwards `name` is defined with exactly `value` (non-global, the built-in has no `-g`),
    every other name is looked up as before — whatever was defined before (redefinition replaces). The name is
    everything before the FIRST `=` (so the value may contain `=`, and the name may be empty). -/
theorem alias_defines (T : Table) (n v : List Char) (hn : '=' ∉ n) :
    (defineAlias T (n ++ '=' :: v)).lookup (String.ofList n)
      = some { name := String.ofList n, value := v, global := false } ∧
    ∀ m, m ≠ String.ofList n → (defineAlias T (n ++ '=' :: v)).lookup m = T.lookup m := by
  rw [defineAlias_eq T n v hn]
  refine ⟨by simp [Table.lookup], ?_⟩
  intro m hm
  have e : ((String.ofList n) == m) = false := by simpa using fun h : String.ofList n = m => hm h.symm
  show List.find? _ (_ :: _) = _
  rw [List.find?_cons]
  simp only [e]
  exact (lookup_filter T (· != String.ofList n) m).trans (if_pos (by simpa using hm))

/-- an operand without `=` defines nothing (the built-in prints that alias or reports an error) -/
theorem alias_without_eq (T : Table) (arg : List Char) (h : '=' ∉ arg) : defineAlias T arg = T := by
  unfold defineAlias
  simp [takeWhile_ne_all arg h]

/-- ★ the whole `alias` command with one operand, quoting included: after quote removal the word is `name=value`
    (name not option-like); the table then answers `value` for `name` and is unchanged elsewhere. -/
theorem alias_command_defines (T : Table) (w n v : List Char)
    (hw : unquote .un w = n ++ '=' :: v) (hn : '=' ∉ n) (hdash : n.head? ≠ some '-') :
    (applyCmd T ["alias".toList, w]).lookup (String.ofList n)
      = some { name := String.ofList n, value := v, global := false } ∧
    ∀ m, m ≠ String.ofList n → (applyCmd T ["alias".toList, w]).lookup m = T.lookup m := by
  have hhead : (n ++ '=' :: v).head? ≠ some '-' := by
    cases n with
    | nil => simp
    | cons c t => simpa using hdash
  have : applyCmd T ["alias".toList, w] = defineAlias T (n ++ '=' :: v) := by
    rw [applyCmd, runCmd_alias, List.map_cons, hw, List.map_nil, runAlias_operands _ _ _ hhead, foldl_aliasOperand_T]
    rfl
  rw [this]
  exact alias_defines T n v hn

/-- ★ `unalias name…` (operands only, the first one not option-like): exactly the named aliases are gone,
    every other name is looked up as before; naming an alias twice or naming an undefined one changes nothing
    else. -/
theorem unalias_command_removes (T : Table) (ws : List (List Char))
    (hfirst : ∀ a, (ws.map (unquote .un)).head? = some a → a.head? ≠ some '-') (m : String) :
    (applyCmd T ("unalias".toList :: ws)).lookup m
      = if (ws.map (unquote .un)).contains m.toList then none else T.lookup m := by
  rw [applyCmd, runCmd_unalias]
  cases h : ws.map (unquote .un) with
  | nil => rfl
  | cons a rest =>
    rw [runUnalias_operands _ _ _ (hfirst a (by rw [h]; rfl)), foldl_unaliasOperand_T]
    rw [lookup_filter T (fun x => !(a :: rest).contains x.toList) m]
    cases (a :: rest).contains m.toList <;> rfl

theorem unalias_all (T : Table) : applyCmd T ["unalias".toList, "-a".toList] = [] := by
  rw [applyCmd, runCmd_unalias]; rfl

/-- non-vacuity: quoting in the operand (`alias 'a b'=\"x y\"` is not generated, but `alias a='x y '` is):
    the hypotheses of `alias_command_defines` hold for a quoted value with a final blank, and the result is
    what the blank rule then reads. -/
example : unquote .un "a='x y '".toList = "a".toList ++ '=' :: "x y ".toList := by
  iterate 3 rw [toList_lit rfl]
  decide +kernel
example : ((applyCmd [⟨"a", "old".toList, true⟩] ["alias".toList, "a='x y '".toList]).lookup "a")
    = some ⟨"a", "x y ".toList, false⟩ := by
  iterate 4 rw [toList_lit rfl]
  decide +kernel
example : ((applyCmd [⟨"a", "A".toList, false⟩, ⟨"b", "B".toList, true⟩] ["unalias".toList, "a".toList, "zz".toList]).map
    (·.name)) = ["b"] := by
  iterate 5 rw [toList_lit rfl]
  decide +kernel
/-- the name is everything before the first `=`: `alias a==b` defines `a` as `=b`; `alias =x` defines the empty
    name -/
example : ((applyCmd [] ["alias".toList, "a==b".toList]).map fun a => (a.name, a.value)) = [("a", "=b".toList)] := by
  iterate 3 rw [toList_lit rfl]
  decide +kernel
example : ((applyCmd [] ["alias".toList, "=x".toList]).map fun a => (a.name, a.value)) = [("", "x".toList)] := by
  iterate 3 rw [toList_lit rfl]
  decide +kernel

/-! The hand-written constants of `Model.lean` agree with the tables `tools/tables/alias.py` re-extracts from /repo on every
  run (`Generated/AliasTables.lean`): an edit of a Rust table changes the generated file and breaks one of these proofs. -/

/-- the operator table: `operators` is the set of key paths of the `OPERATORS` trie (op.rs); every operator has at
    most three characters and each of its proper prefixes is an operator (what the staged `lexOp` relies on);
    `isOpChar` is membership in the root node's keys, which are the operators' first characters. -/
theorem operators_are_the_code_table :
    operators = YashModel.Generated.AliasTables.operators.map String.toList ∧
    (∀ s ∈ YashModel.Generated.AliasTables.operators, s.toList.length ≤ 3 ∧
      ∀ k, k < s.toList.length → 0 < k → isOperator (s.toList.take k) = true) ∧
    (∀ c, isOpChar c = YashModel.Generated.AliasTables.operatorFirstChars.contains c) ∧
    (∀ c, c ∈ YashModel.Generated.AliasTables.operatorFirstChars ↔
      ∃ s ∈ YashModel.Generated.AliasTables.operators, s.toList.head? = some c) := by
  refine ⟨by decide +kernel, by decide +kernel, fun c => ?_, fun c => ⟨fun h => ?_, ?_⟩⟩
  · simp only [isOpChar, YashModel.Generated.AliasTables.operatorFirstChars, List.contains_cons, List.contains_nil,
      Bool.or_false, Bool.or_assoc]
  · have : ∀ d ∈ YashModel.Generated.AliasTables.operatorFirstChars,
        (YashModel.Generated.AliasTables.operators.any fun s => s.toList.head? == some d) = true := by decide +kernel
    simpa only [List.any_eq_true, beq_iff_eq] using this c h
  · rintro ⟨s, hs, hc⟩
    have : ∀ s ∈ YashModel.Generated.AliasTables.operators, ∀ d, s.toList.head? = some d →
        d ∈ YashModel.Generated.AliasTables.operatorFirstChars := by decide +kernel
    exact this s hs c hc

/-- the reserved words are the texts `Keyword::from_str` accepts (keyword.rs) -/
theorem keywords_are_the_code_table : keywords = YashModel.Generated.AliasTables.keywords := by decide +kernel

/-- which operators start a redirection whose operand is taken with `take_token_auto` (`TryFrom<Operator> for
    RedirOp`), which start a here-document, and the `remove_tabs` flag of `<<-` (redir.rs) -/
theorem redirection_operators_are_the_code_table :
    ∀ s ∈ YashModel.Generated.AliasTables.operators,
      isRedirOp s = YashModel.Generated.AliasTables.redirOps.contains s ∧
      isHereOp s = (YashModel.Generated.AliasTables.hereDocOps.map (·.1)).contains s ∧
      (isHereOp s = true → YashModel.Generated.AliasTables.hereDocOps.lookup s = some (s == "<<-")) := by
  decide +kernel

/-- ★ `isBlank` IS `is_blank` of lex/core.rs — `c != '\n' && c.is_whitespace()` — for every character, the Unicode
    `White_Space` characters included (so the blank rule, the token delimiters and `endsBlank` treat NBSP, EM
    SPACE, IDEOGRAPHIC SPACE … as the code does; these are generated). -/
theorem blank_is_the_code_predicate (c : Char) : isBlank c = YashModel.Generated.AliasTables.isBlankGen c := by
  have char_eq_iff_val : ∀ c d : Char, (c == d) = (c.val == d.val) := fun c d => by
    rw [Bool.eq_iff_iff]
    simp only [beq_iff_eq]
    exact ⟨fun h => by rw [h], fun h => Char.ext h⟩
  unfold isBlank YashModel.Generated.AliasTables.isBlankGen YashModel.Generated.AliasTables.isWhiteSpace
  simp only [bne, char_eq_iff_val]
  rw [Bool.eq_iff_iff]
  simp only [Bool.or_eq_true, Bool.and_eq_true, beq_iff_eq, decide_eq_true_eq, Bool.not_eq_true',
    beq_eq_false_iff_ne, ne_eq, UInt32.le_iff_toNat_le, ← UInt32.toNat_inj]
  simp only [Char.reduceVal, UInt32.toNat_ofNat]
  omega

/-- `endsBlank` = `ends_with_blank`: the LAST character of the value is a blank (so a value ending in a multi-byte
    blank, or consisting of one, is blank-ending; an empty value is not) -/
theorem endsBlank_spec (v : List Char) :
    endsBlank v = true ↔ ∃ front c, v = front ++ [c] ∧ YashModel.Generated.AliasTables.isBlankGen c = true := by
  simp only [endsBlank_iff, blank_is_the_code_predicate]

example : endsBlank "x\u3000".toList = true ∧ endsBlank "\u00a0".toList = true ∧ endsBlank "x\n".toList = false ∧
    endsBlank [] = false := by decide

/-- the option tables of the built-ins: `unalias` knows exactly `-a`, `alias` no option; `define` splits at `=` and
    defines non-global aliases -/
theorem builtin_tables_are_the_code :
    YashModel.Generated.AliasTables.unaliasShortOptions = ['a'] ∧
    YashModel.Generated.AliasTables.unaliasLongOptions = [] ∧
    YashModel.Generated.AliasTables.aliasShortOptions = [] ∧
    YashModel.Generated.AliasTables.aliasLongOptions = [] ∧
    YashModel.Generated.AliasTables.aliasSplitChar = '=' ∧
    YashModel.Generated.AliasTables.aliasDefinesGlobal = false ∧
    YashModel.Generated.AliasTables.endsWithBlankLooksAt = "last" := by decide +kernel

/-- states in which the parser accepts a redirection (`Parser::redirection` is tried first by `simple_command`,
    and after a compound command) -/
def acceptsRedir (st : PState) : Bool :=
  st == .cmd0 || st == .pre || st == .one || st == .args || st == .afterComp

/-- A redirection or here-document operator — typed or out of a replacement, the automaton sees only the token —
    puts the parser in operand position, from every state that accepts a redirection; there, EVERY word (reserved
    words included: `take_token_auto(&[])`) is checked with `is_command_name = false`, a replacement leaves the
    parser in operand position (the operand is what comes out in the end), and the operand returns to where the
    redirection started. -/
theorem redirection_operand_position (st : PState) (h : acceptsRedir st = true) (s : String)
    (lit : Option String) (asg : Bool) :
    (isRedirOp s = true → ∃ r, trans st (.op s) = { onTake := .redir r } ∧
        (trans (.redir r) (.word lit asg)) = { sub := some false, onSub := .redir r, onTake := retState r }) ∧
    (isRedirOp s = false → isHereOp s = true → ∃ r, trans st (.op s) = { onTake := .redirH r (s == "<<-") } ∧
        (trans (.redirH r (s == "<<-")) (.word lit asg)) =
          { sub := some false, onSub := .redirH r (s == "<<-"), onTake := retState r }) := by
  cases st <;> cases h <;>
    exact ⟨fun h1 => ⟨_, if_pos h1, rfl⟩, fun h1 h2 => ⟨_, (if_neg (by simp [h1])).trans (if_pos h2), rfl⟩⟩

/-- ★ `redirection_operand_replaced`: the operand of a redirection (also the delimiter of a here-document) that
    names a GLOBAL alias or follows a blank-ending replacement (e.g. `a='b ' b='>' c=out`, line `a c`) is replaced
    by the value — the command redirects to the value, not to a file named after the alias — and the parser is
    still in operand position for what comes out. -/
theorem redirection_operand_replaced (T : Table) (s : MState) (c0 : SChar) (tl : List SChar) (name : String)
    (asg : Bool) (a : Alias)
    (hst : (∃ r, s.st = .redir r) ∨ (∃ r d, s.st = .redirH r d))
    (hdrop : s.rest.drop (skipLen s.rest) = c0 :: tl)
    (hkind : (lexTok (c0 :: tl)).kind = .word (some name) asg)
    (hnot : c0.isAliasFor name = false)
    (hlook : T.lookup name = some a)
    (hwhy : a.global = true ∨
      afterBlank ((markLc (s.rest.take (skipLen s.rest))).reverse ++ s.pre) (some c0) = true) :
    ∃ s', step T s = some s' ∧
      s'.rest = spliceChars a c0 ++ tl.drop ((lexTok (c0 :: tl)).len - 1) ∧ s'.st = s.st := by
  have hsub : (trans s.st (.word (some name) asg)).sub = some false ∧
      (trans s.st (.word (some name) asg)).onSub = s.st := by
    rcases hst with ⟨r, h⟩ | ⟨r, d, h⟩ <;> rw [h] <;> exact ⟨rfl, rfl⟩
  obtain ⟨s', h1, h2, _, h4, _⟩ :=
    eligible_word_is_replaced T s c0 tl name asg false a hdrop hkind hsub.1 hnot hlook (Or.inr hwhy)
  exact ⟨s', h1, h2, h4.trans hsub.2⟩

/-- … and a NON-global alias name that does not follow a blank-ending replacement is left alone there. -/
theorem redirection_operand_unchanged (T : Table) (s s' : MState) (h : step T s = some s')
    (hst : (∃ r, s.st = .redir r) ∨ (∃ r d, s.st = .redirH r d)) :
    s'.text = s.text ∨
    ∃ (c0 : SChar) (tl : List SChar) (a : Alias) (name : String) (asg : Bool),
      s.rest.drop (skipLen s.rest) = c0 :: tl ∧ (lexTok (c0 :: tl)).kind = .word (some name) asg ∧
      T.lookup name = some a ∧
      (a.global = true ∨
        afterBlank ((markLc (s.rest.take (skipLen s.rest))).reverse ++ s.pre) (some c0) = true) :=
  not_command_name_only_global T s s' h fun lit asg => by
    rcases hst with ⟨r, h2⟩ | ⟨r, d, h2⟩ <;> rw [h2] <;> exact fun e => nomatch e

/-- non-vacuity (the inputs of the seeded change `C17-redir-operand-taken-raw`): the operator comes out of replacement text and the operand is
    eligible through the chained blank rule; a value ending in `> `; a global alias after `<` / `>` and as a
    here-document delimiter; an ordinary alias name as operand is left alone. -/
example : substText [⟨"a", "b ".toList, false⟩, ⟨"b", ">".toList, false⟩, ⟨"c", "out".toList, false⟩] "a c".toList
    = ">  out".toList := by
  iterate 5 rw [toList_lit rfl]
  decide +kernel
example : substText [⟨"r", "x > ".toList, false⟩, ⟨"c", "out".toList, false⟩] "r c; x > c".toList
    = "x >  out; x > c".toList := by
  iterate 4 rw [toList_lit rfl]
  decide +kernel
example : substText [⟨"g", "f".toList, true⟩] "x <g >g 2>>g; { y; } >g".toList
    = "x <f >f 2>>f; { y; } >f".toList := by
  iterate 3 rw [toList_lit rfl]
  decide +kernel
example : substText [⟨"g", "E".toList, true⟩] "cat <<g\nx\nE\n".toList = "cat <<E\nx\nE\n".toList := by
  iterate 3 rw [toList_lit rfl]
  decide +kernel
/-- hypotheses of `redirection_operand_replaced` on a reachable state (after `x >` with a global alias `g`) -/
example : ∃ s', step [⟨"g", "f".toList, true⟩] { rest := plain " g".toList, pre := plain ">x".toList, st := .redir 1 } = some s'
    ∧ s'.text = "x> f".toList ∧ s'.st = .redir 1 := by
  iterate 4 rw [toList_lit rfl]
  decide +kernel

/-- ★ `call_sites_are_the_code`: the model's list of call sites (which automaton states stand for which
    `take_token_auto(&[…])` / `take_token_manual(flag)` call of the parser) holds exactly the calls the extractor
    finds in yash-syntax/src/parser/*.rs on this run — same number, same reserved-word lists, same flags — and
    `take_token_auto` passes `is_command_name = false`.  A call site turned into `take_token_raw`, a changed flag or
    reserved-word list, or a new call site breaks this proof.  An entry of `substTakes` is (file, function, kind,
    arguments); file and function are dropped on purpose, so renaming or moving a function is silent. -/
theorem call_sites_are_the_code :
    (sites.map fun s => s.take.key).Perm (YashModel.Generated.AliasTables.substTakes.map fun x => (x.2.2.1, x.2.2.2)) ∧
    YashModel.Generated.AliasTables.autoCommandFlag = false :=
  ⟨List.isPerm_iff.mp (by decide +kernel), autoFlag_generated⟩

/-- ★ `trans_follows_call_sites`: for every state and every word, the automaton's decision "substitute or not,
    with which `is_command_name`" is the one the covering call site makes (`Take.sub`: `auto` returns its reserved
    words raw and otherwise checks with `false`, `manual(f)` checks with `f`, `words.is_empty()` = no command word
    yet); reserved words the caller peeks at first are taken raw; in states no call site covers every word is
    taken raw; and no state is covered twice. -/
theorem trans_follows_call_sites (st : PState) (lit : Option String) (asg : Bool) :
    (∀ s ∈ sites, s.covers st = true → s.filtered st lit = false →
      (trans st (.word lit asg)).sub = s.take.sub st lit) ∧
    (∀ s ∈ sites, s.covers st = true → s.filtered st lit = true → (trans st (.word lit asg)).sub = none) ∧
    ((∀ s ∈ sites, s.covers st = false) → (trans st (.word lit asg)).sub = none) ∧
    (sites.filter fun s => s.covers st).length ≤ 1 :=
  ⟨fun s hs hc hf => by rw [trans_sub_site st lit asg s hs hc, hf]; rfl,
   fun s hs hc hf => by rw [trans_sub_site st lit asg s hs hc, hf]; rfl,
   trans_sub_uncovered st lit asg, sites_disjoint st⟩

/-- non-vacuity: the redirection operand site, the command-name flag of `simple_command`, a filtered reserved word -/
example : (sites.filter fun s => s.covers (.redir 1)).map (·.fn) = ["redirection_operand"] := by decide +kernel
example : (trans (.redir 1) (.word (some "x") false)).sub = some false ∧
    (trans .pre (.word (some "x") false)).sub = some true ∧ (trans .args (.word (some "x") false)).sub = some false ∧
    (trans .cmd0 (.word (some "if") false)).sub = none ∧ (trans .afterComp (.word (some "x") false)).sub = none := by
  decide +kernel

/-- ★ `substitution_replaces_whole_word`: a substituting step is the textual replacement `A ++ w ++ B ↦ A ++ value ++ B`
    of ONE WHOLE WORD — stated without the model's index arithmetic (`tok.len - 1`, `drop`): `A` is everything
    consumed so far plus the blanks/comment skipped, `w` is non-empty, starts with a non-delimiter, contains no blank,
    is exactly the token the lexer finds at `w ++ B` (a literal word naming the alias), and `B` is empty or starts
    with a token delimiter.  An off-by-one in the splice (a character of the word kept, or a character after it
    eaten) contradicts this statement. -/
theorem substitution_replaces_whole_word (T : Table) (s s' : MState) (h : step T s = some s')
    (hsub : s'.subs ≠ s.subs) :
    ∃ (A w B : List Char) (a : Alias) (name : String) (asg : Bool),
      s.text = A ++ w ++ B ∧ s'.text = A ++ a.value ++ B ∧
      A = chars s.pre.reverse ++ (chars s.rest).take (skipLenC (chars s.rest)) ∧
      w ≠ [] ∧ (∀ c, w.head? = some c → isDelim c = false) ∧ (∀ c ∈ w, isBlank c = false) ∧
      (∀ d, B.head? = some d → isDelim d = true) ∧
      (lexTokC (w ++ B)).kind = .word (some name) asg ∧ w = (w ++ B).take (lexTokC (w ++ B)).len ∧
      T.lookup name = some a := by
  cases step_rel h with
  | take c0 tl hdrop hel hpre hrest hsubs => exact absurd hsubs hsub
  | subst c0 tl a cmd name asg hdrop hkind hsub' hnot hlook hwhy hpre hrest =>
    obtain ⟨hnd, hdel, hnb, hlen⟩ := model_token_facts hdrop hkind
    obtain ⟨n, hn⟩ : ∃ n, (lexTok (c0 :: tl)).len = n + 1 := ⟨_, (Nat.sub_add_cancel hlen).symm⟩
    have hn1 : (lexTok (c0 :: tl)).len - 1 = n := by omega
    rw [hn1] at hdel hnb hrest
    have hwB : chars (c0 :: tl.take n) ++ chars (tl.drop n) = chars (c0 :: tl) := by
      rw [← chars_append, List.cons_append, List.take_append_drop]
    refine ⟨chars s.pre.reverse ++ (chars s.rest).take (skipLenC (chars s.rest)), chars (c0 :: tl.take n),
      chars (tl.drop n), a, name, asg, ?_, ?_, rfl, ?_, ?_, ?_, ?_, ?_, ?_, hlook⟩
    · rw [MState.text_eq]
      conv => lhs; rw [split_of_drop hdrop n]
      simp only [chars_append, chars_cons, chars_reverse, chars_take, List.append_assoc, List.cons_append]
      rfl
    · rw [MState.text_eq, hpre, hrest]
      simp only [chars_append, chars_reverse, chars_markLc, chars_splice, chars_take, List.reverse_append,
        List.reverse_reverse, List.append_assoc]
      rfl
    · simp [chars]
    · intro c hc
      simp only [chars, List.map_cons, List.head?_cons, Option.some.injEq] at hc
      rw [← hc]; exact hnd
    · intro c hc
      obtain ⟨x, hx, rfl⟩ := List.mem_map.mp hc
      exact hnb x hx
    · intro d hd
      rw [chars, List.head?_map] at hd
      cases hh : (tl.drop n).head? with
      | none => rw [hh] at hd; cases hd
      | some x =>
        rw [hh] at hd
        simp only [Option.map_some, Option.some.injEq] at hd
        rw [← hd]; exact hdel x hh
    · rw [hwB]; exact hkind
    · rw [hwB]
      have : (lexTokC (chars (c0 :: tl))).len = n + 1 := hn
      rw [this]
      simp [chars, List.map_take]

/-- non-vacuity: `x&a` with `a='& y'` — the word `a` (and only it) is replaced; it stays a token boundary on its left -/
example : substText [⟨"a", "& y".toList, true⟩] "x&a b".toList = "x&& y b".toList := by
  iterate 3 rw [toList_lit rfl]
  decide +kernel
example : ∃ s', step [⟨"a", "& y".toList, true⟩] { rest := plain "a b".toList, pre := plain "&x".toList, st := .cmd0 } = some s' ∧
    s'.subs ≠ 0 ∧ s'.text = "x&& y b".toList := by
  iterate 4 rw [toList_lit rfl]
  decide +kernel

/-- non-vacuity: the table really changes while a blank-ending replacement is being read — `a` (value ending in a
    blank, two lines) redefines `a` WITHOUT the blank and defines `b`; the rest of the OLD value is still read under
    the old flag (the `b` after it is replaced through the blank rule although the table now says `a='z'`), and a
    later `a b` uses the new value (no blank rule) -/
example : ((lrun 300 { T := [⟨"a", "alias a=z b=B\nx ".toList, false⟩], m := init "a b\na b".toList }).1.m.text)
    = "alias a=z b=B\nx  B\nz b".toList := by
  iterate 3 rw [toList_lit rfl]
  decide +kernel
example : ((hlrun 300 { T := [⟨"a", "alias a=z b=B\nx ".toList, false⟩], h := { rest := "a b\na b".toList } }).h.out.reverse)
    = "alias a=z b=B\nx  B\nz b".toList := by
  iterate 3 rw [toList_lit rfl]
  decide +kernel

/-- ★ `call_order_is_the_code`: the order and nesting of the token-taking calls (`take_token_raw` / `auto` / `manual` and
    calls of other token-taking parser functions) of every parser function, as the extractor reads it from
    yash-syntax/src/parser/*.rs on this run, is the one `trans` was transcribed from (`modelFlows`, 24 functions; compared
    as a multiset of canonical forms, so renaming or moving a function is silent, while an added / removed / reordered
    token-taking call or a changed loop / branch nesting breaks this proof and forces a look at `trans`). -/
theorem call_order_is_the_code :
    (modelFlows.map (·.2)).Perm YashModel.Generated.AliasTables.takeFlows :=
  List.isPerm_iff.mp (by decide +kernel)

/-- `trans_successors`: the successor function of the automaton, transition by transition, as named beside the entries
    of `modelFlows` (which token-taking call follows which): array values, `case` (subject, `in`, patterns, `(`, `|`,
    `)`, `;;`, `esac`), `do`/`done`, groupings, `if`/`while`/`until`, `for` (name, `in`, words, body), separators,
    redirections (IO_NUMBER, operand → back to where the redirection started), function definitions, simple commands. -/
theorem trans_successors (lit : Option String) (asg : Bool) :
    -- array_values
    (trans .arrOpen (.op "(")).onTake = .arr ∧ (trans .arr (.word lit asg)).onTake = .arr ∧
    (trans .arr (.op "\n")).onTake = .arr ∧ (trans .arr (.op ")")).onTake = .pre ∧
    -- case_command
    (trans .cmd0 (.word (some "case") false)).onTake = .caseSubj ∧ (trans .caseSubj (.word lit asg)).onTake = .caseIn ∧
    (trans .caseIn (.op "\n")).onTake = .caseIn ∧ (trans .caseIn (.word (some "in") false)).onTake = .casePat0 ∧
    (trans .casePat0 (.word (some "esac") false)).onTake = .afterComp ∧
    -- case_item
    (lit ≠ some "esac" → (trans .casePat0 (.word lit asg)).onTake = .caseSep) ∧
    (trans .casePat0 (.op "(")).onTake = .casePat1 ∧ (trans .casePat1 (.word lit asg)).onTake = .caseSep ∧
    (trans .caseSep (.op ")")).onTake = .cmd0 ∧ (trans .caseSep (.op "|")).onTake = .casePatN ∧
    (trans .casePatN (.word lit asg)).onTake = .caseSep ∧ (trans .args (.op ";;")).onTake = .casePat0 ∧
    -- do_clause, grouping, subshell, if / while / until
    (trans .cmd0 (.word (some "do") false)).onTake = .cmd0 ∧ (trans .cmd0 (.word (some "done") false)).onTake = .afterComp ∧
    (trans .cmd0 (.word (some "{") false)).onTake = .cmd0 ∧ (trans .cmd0 (.word (some "}") false)).onTake = .afterComp ∧
    (trans .cmd0 (.op "(")).onTake = .cmd0 ∧ (trans .args (.op ")")).onTake = .afterComp ∧
    (trans .cmd0 (.word (some "if") false)).onTake = .cmd0 ∧ (trans .cmd0 (.word (some "then") false)).onTake = .cmd0 ∧
    (trans .cmd0 (.word (some "elif") false)).onTake = .cmd0 ∧ (trans .cmd0 (.word (some "else") false)).onTake = .cmd0 ∧
    (trans .cmd0 (.word (some "fi") false)).onTake = .afterComp ∧
    (trans .cmd0 (.word (some "while") false)).onTake = .cmd0 ∧ (trans .cmd0 (.word (some "until") false)).onTake = .cmd0 ∧
    -- for_loop, for_loop_name, for_loop_values, for_loop_body
    (trans .cmd0 (.word (some "for") false)).onTake = .forName ∧ (trans .forName (.word lit asg)).onTake = .forIn true ∧
    (trans (.forIn true) (.op ";")).onTake = .forBody ∧ (∀ fl, (trans (.forIn fl) (.op "\n")).onTake = .forIn false) ∧
    (∀ fl, (trans (.forIn fl) (.word (some "in") false)).onTake = .forWords) ∧
    (∀ fl, (trans (.forIn fl) (.word (some "do") false)).onTake = .cmd0) ∧
    (trans .forWords (.word lit asg)).onTake = .forWords ∧ (trans .forWords (.op ";")).onTake = .forBody ∧
    (trans .forWords (.op "\n")).onTake = .forBody ∧ (trans .forBody (.op "\n")).onTake = .forBody ∧
    (trans .forBody (.word (some "do") false)).onTake = .cmd0 ∧
    -- and_or_list, list, pipeline, newline
    (∀ s, s ∈ ["&&", "||", "|", ";", "&", "\n"] → (trans .args (.op s)).onTake = .cmd0 ∧ (trans .afterComp (.op s)).onTake = .cmd0) ∧
    (trans .cmd0 (.word (some "!") false)).onTake = .cmd0 ∧
    -- redirection: IO_NUMBER, operator, operand
    (trans .cmd0 .io).onTake = .pre ∧ (trans .pre .io).onTake = .pre ∧ (trans .one .io).onTake = .args ∧
    (trans .args .io).onTake = .args ∧ (trans .afterComp .io).onTake = .afterComp ∧
    (∀ r, (trans (.redir r) (.word lit asg)).onTake = retState r) ∧
    (∀ r d, (trans (.redirH r d) (.word lit asg)).onTake = retState r) ∧
    -- short_function_definition
    (trans .one (.op "(")).onTake = .fnClose ∧ (trans .fnClose (.op ")")).onTake = .fnBody ∧
    (trans .fnBody (.op "\n")).onTake = .fnBody ∧
    -- simple_command
    (isKeyword lit = false → (trans .cmd0 (.word lit asg)).onTake = (if asg then .pre else .one)) ∧
    (trans .pre (.word lit asg)).onTake = (if asg then .pre else .args) ∧
    (trans .one (.word lit asg)).onTake = .args ∧ (trans .args (.word lit asg)).onTake = .args ∧
    (trans .cmd0 .assignArr).onTake = .arrOpen ∧ (trans .pre .assignArr).onTake = .arrOpen := by
  -- the conjuncts about a variable word that need a case split or a hypothesis
  have casePat0 : lit ≠ some "esac" → (trans .casePat0 (.word lit asg)).onTake = .caseSep := by
    intro h; cases lit <;> simp_all [trans, transCore]
  have casePat1 : (trans .casePat1 (.word lit asg)).onTake = .caseSep := by
    cases lit <;> simp [trans, transCore] <;> split <;> rfl
  have redir : ∀ r, (trans (.redir r) (.word lit asg)).onTake = retState r := fun _ => rfl
  have redirH : ∀ r d, (trans (.redirH r d) (.word lit asg)).onTake = retState r := fun _ _ => rfl
  have cmd0 : isKeyword lit = false → (trans .cmd0 (.word lit asg)).onTake = (if asg then .pre else .one) := by
    intro h; simp [trans, transCore, h]
  -- the others are closed instances, evaluated, or the matching branch of `transCore` as it stands
  and_intros
  all_goals first | decide +kernel | rfl | assumption

/-- the table part of `runCmd` is `applyCmd` (what the line machine uses), by definition; stated so that the theorems
    about `applyCmd` are theorems about the built-in that also yields the status and the output -/
theorem builtin_table (T : Table) (ws : List (List Char)) : (runCmd T ws).T = applyCmd T ws := rfl

/-- composition with C07: the line `alias` prints for a definition is C07's `printAlias` (the form whose re-reading
    C07 proves: `alias_line_recreates`) -/
theorem printed_form_is_C07 (a : Alias) :
    printAliasLine a = YashModel.Quote.Listing.printAlias (a.name.toList, a.value) := by
  simp [printAliasLine, YashModel.Quote.Listing.printAlias]

/-- `alias name` for a defined name (no `=`, not option-like): prints exactly that definition, exit status 0, table
    unchanged; for an undefined name: prints nothing, exit status 1, table unchanged -/
theorem alias_prints_definition (T : Table) (n : List Char) (hn : '=' ∉ n) (hd : n.head? ≠ some '-') :
    runAlias T [n] =
      match T.lookup (String.ofList n) with
      | some a => { T := T, status := 0, out := printAliasLine a }
      | none => { T := T, status := 1, out := [] } := by
  rw [runAlias_operands _ _ _ hd, List.foldl_cons, List.foldl_nil]
  unfold aliasOperand
  simp only [takeWhile_ne_all n hn, beq_self_eq_true, ↓reduceIte]
  cases T.lookup (String.ofList n) <;> simp

/-- `alias` has no option: an argument `-x…` before the first operand is an error — exit status 2, nothing printed,
    nothing defined (also `alias -g name=value`, `alias -p`) -/
theorem alias_option_is_error (T : Table) (c : Char) (t : List Char) (rest : List (List Char)) (hc : c ≠ '-') :
    runAlias T (('-' :: c :: t) :: rest) = { T := T, status := 2, out := [] } := by
  unfold runAlias
  have : Args.parseArguments [] Args.Mode.withExtensions (('-' :: c :: t) :: rest) = .error (.unknownShort c) := by
    have h1 : Args.startsWithSingleHyphen ('-' :: c :: t) = true := by simp [Args.startsWithSingleHyphen, hc]
    rw [Args.parseArguments, Args.optLoop_cons, Args.step_short _ _ _ _ h1]
    rw [show ('-' :: c :: t).drop 1 = c :: t from rfl, Args.shortLoop_cons_unknown _ _ _ 1 t rfl]; rfl
  rw [this]

/-- `unalias name` for an undefined name: exit status 1, table unchanged; for a defined one: status 0 and the name is gone -/
theorem unalias_status (T : Table) (n : List Char) (hd : n.head? ≠ some '-') :
    (runUnalias T [n]).status = (if (T.lookup (String.ofList n)).isSome then 0 else 1) ∧
    ((T.lookup (String.ofList n)).isNone → (runUnalias T [n]).T = T) := by
  rw [runUnalias_operands _ _ _ hd, List.foldl_cons, List.foldl_nil]
  unfold unaliasOperand
  cases h : T.lookup (String.ofList n) <;> simp

/-- `unalias` without any argument and `unalias -a name`: exit status 2, nothing removed; `-a` may be repeated or
    grouped and may be followed by `--` -/
theorem unalias_argument_errors (T : Table) :
    runUnalias T [] = { T := T, status := 2 } ∧
    runUnalias T ["-a".toList, "x".toList] = { T := T, status := 2 } ∧
    runUnalias T ["-aa".toList] = { T := [] } ∧ runUnalias T ["-a".toList, "-a".toList] = { T := [] } ∧
    runUnalias T ["-a".toList, "--".toList] = { T := [] } := by
  refine ⟨rfl, rfl, rfl, rfl, rfl⟩

/-- non-vacuity / examples: mixed operands are processed in order (define, print, error), the status is 1 as soon as one
    name is unknown, the output needs C07's quoting -/
example : runCmd [⟨"a", "x y".toList, false⟩, ⟨"b", "it's".toList, true⟩] ["alias".toList, "a".toList, "b".toList, "zz".toList, "c=1".toList, "c".toList]
    |> fun r => (r.T, r.status, r.out)
    = ([⟨"c", "1".toList, false⟩, ⟨"a", "x y".toList, false⟩, ⟨"b", "it's".toList, true⟩], 1,
        "a='x y'\nb=\"it's\"\nc=1\n".toList) := by
  iterate 10 rw [toList_lit rfl]
  decide +kernel
example : (runCmd [⟨"b", "B".toList, false⟩, ⟨"a", "A".toList, false⟩] ["alias".toList]).out = "a=A\nb=B\n".toList := by
  iterate 4 rw [toList_lit rfl]
  decide +kernel

/-- ★ `command_name_test_iff`: the automaton tests a word as a command name exactly in the command-start state (for a
    word that is not a reserved word there) and while only assignments / redirections have been seen — and this is
    the `take_token_manual(result.words.is_empty())` call site of `simple_command` in the extracted table. -/
theorem command_name_test_iff (st : PState) (lit : Option String) (asg : Bool) :
    ((trans st (.word lit asg)).sub = some true ↔ (st = .cmd0 ∧ isKeyword lit = false) ∨ st = .pre) ∧
    ((trans st (.word lit asg)).sub = some true →
      ∃ s ∈ sites, s.covers st = true ∧ s.take = .manual "words.is_empty()" ∧ wordsEmpty st = true) := by
  have key : (trans st (.word lit asg)).sub = some true ↔ (st = .cmd0 ∧ isKeyword lit = false) ∨ st = .pre := by
    rw [trans_word_sub]
    cases st <;> simp
  refine ⟨key, fun h => ⟨_, List.getLast_mem (l := sites) (by decide), ?_⟩⟩
  rcases key.mp h with ⟨rfl, _⟩ | rfl <;> exact ⟨rfl, rfl, rfl⟩

/-- ★ `nonglobal_substituted_iff_command_position`: a word that names a NON-global alias, is not on its own origin
    chain and does not follow a blank-ending replacement is replaced IF AND ONLY IF it stands in command position:
    at the start of a command (and is not a reserved word there) or after only assignments / redirections of a simple
    command.  Everywhere else — after `for`, `case`, `in`, a function name, a redirection operator, a command name,
    an argument, a case pattern — it is left alone. -/
theorem nonglobal_substituted_iff_command_position (T : Table) (s : MState) (c0 : SChar) (tl : List SChar)
    (name : String) (asg : Bool) (a : Alias)
    (hdrop : s.rest.drop (skipLen s.rest) = c0 :: tl)
    (hkind : (lexTok (c0 :: tl)).kind = .word (some name) asg)
    (hnot : c0.isAliasFor name = false) (hlook : T.lookup name = some a) (hng : a.global = false)
    (hnb : afterBlank ((markLc (s.rest.take (skipLen s.rest))).reverse ++ s.pre) (some c0) = false) :
    (∃ s', step T s = some s' ∧ s'.subs = s.subs + 1) ↔
      ((s.st = .cmd0 ∧ isKeyword (some name) = false) ∨ s.st = .pre) := by
  rw [← (command_name_test_iff s.st (some name) asg).1]
  constructor
  · rintro ⟨s', h1, h2⟩
    cases step_rel h1 with
    | take c0' tl' hdrop' hel hpre hrest hsubs => omega
    | subst c0' tl' a' cmd name' asg' hdrop' hkind' hsub hnot' hlook' hwhy hpre hrest hsubs =>
      -- the step replaced this very word by this very alias: not global, no blank rule, so as a command name
      rw [hdrop] at hdrop'; cases hdrop'
      rw [hkind] at hkind' hsub; cases hkind'
      rw [hlook] at hlook'; cases hlook'
      rcases hwhy with rfl | h | h
      · exact hsub
      · rw [hng] at h; cases h
      · rw [hnb] at h; cases h
  · intro hc
    exact ⟨_, step_subst hdrop (by
      rw [hkind, hc]; exact eligible_eq_some.mpr ⟨true, name, asg, rfl, rfl, hnot, hlook, Or.inl rfl⟩), rfl⟩

/-- ★ `command_position_posix`: WHICH accepted tokens lead to the command-start state — exactly the POSIX list
    (`Spec.startsCommandWord` where the word is recognised as reserved, `Spec.startsCommandOp` where the operator ends or
    begins a command, the `)` that closes a case pattern list) — and after `for` / `case` / `in` / a function name's `(` /
    a redirection operator the next word is NOT in command position. -/
theorem command_position_posix :
    (∀ w ∈ Spec.startsCommandWord, (trans .cmd0 (.word (some w) false)).onTake = .cmd0) ∧
    (∀ s ∈ Spec.startsCommandOp, (trans .cmd0 (.op s)).onTake = .cmd0) ∧
    (∀ s ∈ [";", "&", "&&", "||", "|", "\n"], ∀ st ∈ [PState.pre, .one, .args, .afterComp], (trans st (.op s)).onTake = .cmd0) ∧
    (trans .caseSep (.op ")")).onTake = .cmd0 ∧
    (∀ w ∈ ["then", "else", "elif", "do"], (trans .afterComp (.word (some w) false)).onTake = .cmd0) ∧
    -- and not after:
    cmdPos (trans .cmd0 (.word (some "for") false)).onTake = false ∧
    cmdPos (trans .cmd0 (.word (some "case") false)).onTake = false ∧
    cmdPos (trans .caseIn (.word (some "in") false)).onTake = false ∧
    (∀ fl, cmdPos (trans (.forIn fl) (.word (some "in") false)).onTake = false) ∧
    cmdPos (trans .one (.op "(")).onTake = false ∧ cmdPos (trans .fnClose (.op ")")).onTake = false ∧
    (∀ s ∈ YashModel.Generated.AliasTables.redirOps ++ YashModel.Generated.AliasTables.hereDocOps.map (·.1), ∀ st ∈ [PState.cmd0, .pre, .one, .args, .afterComp],
      cmdPos (trans st (.op s)).onTake = false) ∧
    (∀ lit asg, cmdPos (trans .one (.word lit asg)).onTake = false ∧ cmdPos (trans .args (.word lit asg)).onTake = false) ∧
    -- assignments and redirections keep the command position inside a simple command
    (∀ lit, isKeyword lit = false → (trans .cmd0 (.word lit true)).onTake = .pre) ∧ (∀ lit, (trans .pre (.word lit true)).onTake = .pre) ∧
    retState 0 = .pre := by
  -- the three conjuncts that quantify over the word
  have afterWord : ∀ lit asg, cmdPos (trans .one (.word lit asg)).onTake = false ∧
      cmdPos (trans .args (.word lit asg)).onTake = false := fun _ _ => ⟨rfl, rfl⟩
  have asgCmd0 : ∀ lit, isKeyword lit = false → (trans .cmd0 (.word lit true)).onTake = .pre := by
    intro lit h; simp [trans, transCore, h]
  have asgPre : ∀ lit, (trans .pre (.word lit true)).onTake = .pre := fun _ => rfl
  -- the others are closed instances, evaluated
  and_intros
  all_goals first | decide +kernel | rfl | assumption

/-- non-vacuity: the same non-global alias in and out of command position -/
example : substText [⟨"a", "A".toList, false⟩]
    "a; ! a | a && { a; } ; if a; then a; else a; fi; while a; do a; done; ( a ); v=1 a; >f a; for a in a; do :; done; case a in a) a;; esac; x a; a() { a; }".toList
    = "A; ! A | A && { A; } ; if A; then A; else A; fi; while A; do A; done; ( A ); v=1 A; >f A; for a in a; do :; done; case a in a) A;; esac; x a; A() { A; }".toList := by
  iterate 3 rw [toList_lit rfl]
  decide +kernel

/-- ★ `Sites.pairing` (machine-readable, in
    the Lean source) is read by the extractor on every run and zipped with the take_token_* calls it finds in the parser
    (`flowPairs`; a function or call without a partner is a loud extractor failure, a renamed function is found through
    its flow).  Checked here: every substituting call (`a[..]` / `m(..)`) of a function is paired with exactly the
    states the `sites` of that function with that call cover; every site is the partner of some pair; every automaton
    state except `err` is paired with some call; every paired name is a state; there are as many pairs as calls (53). -/
theorem pairing_is_checked : pairsChecked = true := by decide +kernel

/-- ☆ `line_terminates_partial`: the line machine — alias table changing between command lines — reaches the end of
    the input within `muP N L + 1` steps whenever nesting depth and value length stay below `N` and `L` along the run.
    MISSING for the unconditional statement: `BoundedRun` for `N` = 1 + the number of distinct names and `L` = the
    longest text the scripts' `alias` commands can define (every name and value is, after quote removal, a subsequence
    of one initial text because a word never spans the end of a replacement; chains are duplicate-free by
    `no_self_resubstitution_lines`, hence no longer than the number of names). -/
theorem line_terminates_partial (N L : Nat) (l : LState) (hb : BoundedRun N L l) (f : Nat)
    (hf : muP N L l.m.rest < f) : (lrun f l).2 = true := by
  rw [lrun_iterB]
  refine iterB_done (P := BoundedRun N L) (μ := fun l => muP N L l.m.rest) ?_ f l hb hf
  intro l l' hb hs
  refine ⟨fun k => ?_, ?_⟩
  · have := hb (k + 1); rwa [lrun_iter, iter_some hs, ← lrun_iter] at this
  · have h0 := hb 0
    exact muP_step (lstep_step hs) h0.2 h0.1

/-- the conclusion on a run whose table changes (redefinition inside the value being read); the hypothesis `BoundedRun` is
    not exhibited for it -/
example : (lrun 2000 { T := [⟨"a", "alias a=z b=B\nx ".toList, false⟩], m := init "a b\na b".toList }).2 = true := by
  iterate 2 rw [toList_lit rfl]
  decide +kernel

end YashModel.Alias
