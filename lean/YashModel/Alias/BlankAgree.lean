/-
  C17 — the blank rule of the model and of the by-hand Spec give the same answer (`blank_agree`).  On a pair of states
  with the same text whose chains are region names (`Corr`), whose `eb` flags are those of the innermost region (`CorrE`),
  whose region names are distinct (`NodupNames`) and whose model state satisfies `ModelInvE`, the per-character tests of the
  two rules agree (`bcond_endsValue`, `walkOK_of_inv`), so the model's walk is the Spec's flag run (Blank.lean).  The pair
  invariant `BlankInvE` is kept by a joint step whatever the alias table of that step is (`blankinvE_step`).
-/
import YashModel.Alias.Guard
import YashModel.Alias.BlankInv
namespace YashModel.Alias

def ebAt (rs : List Region) (rem : Nat) : Bool :=
  match activeAt rs rem with
  | r :: _ => r.eb
  | [] => false

/-- the `eb` flag of every unconsumed character is the one of the innermost region containing it -/
def CorrE (rs : List Region) : List SChar → Prop
  | [] => True
  | c :: t => c.eb = ebAt rs (t.length + 1) ∧ CorrE rs t

/-- the flag of the innermost region: the view of the active regions that `CorrE` tags the characters with -/
def topEb : List Region → Bool
  | r :: _ => r.eb
  | [] => false

def NodupNames (h : HState) : Prop := (h.active.map (·.name)).Nodup

theorem topEb_clamp (l : List Region) (L : Nat) : topEb (l.map (clamp L)) = topEb l := by
  cases l <;> rfl

theorem corrE_tags {rs : List Region} :
    ∀ {l : List SChar}, CorrE rs l ↔ Tags (·.eb) (fun n => topEb (activeAt rs n)) l
  | [] => Iff.rfl
  | _ :: _ => and_congr_right fun _ => corrE_tags

theorem corrE_plain (cs : List Char) : CorrE [] (plain cs) :=
  corrE_tags.mpr (List.append_nil (plain cs) ▸
    Tags.append_const (fun _ hc => (mem_plain hc).2.1) (fun _ _ _ => rfl) trivial)

theorem activeAt_sublist (rs : List Region) (rem : Nat) : (activeAt rs rem).Sublist rs :=
  List.filter_sublist

theorem corrE_step {T : Table} {s s' : MState} {h h' : HState} (hl : LockStep T s h s' h')
    (hce : CorrE h.active s.rest) : CorrE h'.active s'.rest :=
  corrE_tags.mpr (tags_lock topEb_clamp hl (corrE_tags.mp hce) fun _ _ _ _ _ _ hc => (mem_splice hc).2.1)

/-- names stay distinct: a region is dropped, or the new name is not on the chain of the token's first character, which
    by `Corr` is the list of names of the regions around it -/
theorem nodupNames_step {T : Table} {s s' : MState} {h h' : HState} (hl : LockStep T s h s' h')
    (hco : Corr h.active s.rest) (hnn : NodupNames h) : NodupNames h' := by
  have hsub : ∀ n, ((activeAt h.active n).map (·.name)).Nodup := fun n =>
    List.Nodup.sublist ((activeAt_sublist _ _).map _) hnn
  cases hl with
  | subst c0 tl a name asg hdrop hel hkind hnot hlook =>
    unfold NodupNames
    rw [List.map_cons, map_name_clamp, List.nodup_cons]
    refine ⟨?_, hsub _⟩
    show a.name ∉ namesAt h.active (tl.length + 1)
    rw [← (corr_at hdrop hco).1]; exact guard_not_mem hlook hnot
  | take c0 tl hdrop hel => exact hsub _

theorem mem_activeAt {rs : List Region} {rem : Nat} {r : Region} :
    r ∈ activeAt rs rem ↔ r ∈ rs ∧ r.endRem < rem := by
  unfold activeAt; simp

theorem eq_of_name_eq {rs : List Region} (hn : (rs.map (·.name)).Nodup) {r r' : Region}
    (h1 : r ∈ rs) (h2 : r' ∈ rs) (h : r.name = r'.name) : r = r' := by
  induction rs with
  | nil => cases h1
  | cons x t ih =>
    simp only [List.map_cons, List.nodup_cons, List.mem_map, not_exists, not_and] at hn
    rcases List.mem_cons.mp h1 with rfl | h1' <;> rcases List.mem_cons.mp h2 with rfl | h2'
    · rfl
    · exact absurd h.symm (hn.1 r' h2')
    · exact absurd h (hn.1 r h1')
    · exact ih hn.2 h1' h2'

theorem name_mem_namesAt {rs : List Region} (hn : (rs.map (·.name)).Nodup) {r : Region} (hr : r ∈ rs) (rem : Nat) :
    r.name ∈ namesAt rs rem ↔ r.endRem < rem := by
  unfold namesAt
  constructor
  · intro h
    obtain ⟨r', hr', hnm⟩ := List.mem_map.mp h
    obtain ⟨hr'm, hr'l⟩ := mem_activeAt.mp hr'
    rw [← eq_of_name_eq hn hr'm hr hnm]; exact hr'l
  · exact fun h => List.mem_map.mpr ⟨r, mem_activeAt.mpr ⟨hr, h⟩, rfl⟩

/-- the model's test on a character (origin chain, `eb`, chain of the next character) = the Spec's test
    (the innermost region ends here and its value ends with a blank) -/
theorem bcond_endsValue {rs : List Region} (hn : (rs.map (·.name)).Nodup) {c : SChar} {t : List SChar}
    (hco : Corr rs (c :: t)) (hce : CorrE rs (c :: t)) :
    bcond c (headOr t none) = endsValue rs (t.length + 1) := by
  unfold bcond endsValue
  have hch := hco.1
  have heb := hce.1
  unfold namesAt at hch
  unfold ebAt at heb
  cases hA : activeAt rs (t.length + 1) with
  | nil =>
    -- in no region: no chain, both tests fail
    rw [hA] at hch
    simp [hch]
  | cons r A =>
    -- `r` is the innermost region around `c`: both tests ask whether its value ends with a blank and ends HERE
    rw [hA] at hch heb
    simp only [List.map_cons] at hch
    have hr : r ∈ activeAt rs (t.length + 1) := by rw [hA]; exact List.mem_cons_self ..
    obtain ⟨hrm, hrl⟩ := mem_activeAt.mp hr
    have heb' : c.eb = r.eb := heb
    rw [heb']
    cases hre : r.eb with
    | false => simp [hre]
    | true =>
      have hne : c.chain.isEmpty = false := by rw [hch]; rfl
      rw [hne, sameAlias_cons hch]
      cases t with
      | nil =>
        -- `c` is the last character of the text: nothing follows, `r` ends here
        simp only [List.length_nil, Nat.zero_add] at hrl
        have : r.endRem = 0 := by omega
        simp [headOr, this, hre]
      | cons x t' =>
        have hx := hco.2.1
        -- the model asks whether the next character `x` still carries `r`'s name; region names being distinct, that
        -- is whether `x` still lies in `r`
        have hsa : x.chain.contains r.name = decide (r.endRem < t'.length + 1) := by
          rw [hx, Bool.eq_iff_iff]
          simp only [List.contains_iff_mem, decide_eq_true_eq]
          exact name_mem_namesAt hn hrm _
        simp only [headOr, hre, hsa]
        simp only [List.length_cons] at hrl ⊢
        by_cases hin : r.endRem < t'.length + 1
        · -- `r` goes on: neither test fires
          have h2 : ¬ (r.endRem = t'.length + 1) := by omega
          simp [hin, h2]
        · -- `r` ends at `c`: both fire
          have h2 : r.endRem = t'.length + 1 := by omega
          simp [h2]

/-- the table-free invariant of a lock-step pair -/
structure BlankInvE (E : String → Bool) (s : MState) (h : HState) : Prop where
  mi : ModelInvE E s
  ce : CorrE h.active s.rest
  nn : NodupNames h
  j : afterBlank s.pre s.rest.head? = h.tb

/-- … for SOME record of the open regions' flags: what a run maintains, whatever the tables were -/
def BlankInvL (s : MState) (h : HState) : Prop := ∃ E, BlankInvE E s h

theorem walkOK_of_inv {E : String → Bool} {rs : List Region} (hn : (rs.map (·.name)).Nodup) : ∀ (l : List SChar),
    Corr rs l → CorrE rs l → AdjN (RLBE E) l none → (∀ c ∈ l, ∀ m tl, c.chain = m :: tl → c.eb = E m) →
    (∀ c ∈ l, c.lc = false) → WalkOK rs l
  | [], _, _, _, _, _ => trivial
  | c :: t, hco, hce, hlb, heb, hlc =>
    ⟨⟨bcond_endsValue hn hco hce,
      fun hb => bcond_blank hlb.1 (fun m tl hm => heb c (List.mem_cons_self ..) m tl hm) hb,
      hlc c (List.mem_cons_self ..)⟩,
     walkOK_of_inv hn t hco.2 hce.2 hlb.2 (fun x hx => heb x (List.mem_cons_of_mem _ hx))
       (fun x hx => hlc x (List.mem_cons_of_mem _ hx))⟩

theorem walkOK_rest {E : String → Bool} {s : MState} {h : HState} (hco : Corr h.active s.rest)
    (hb : BlankInvE E s h) : WalkOK h.active s.rest :=
  walkOK_of_inv hb.nn s.rest hco hb.ce hb.mi.lb hb.mi.ebt hb.mi.nolc

theorem blank_agree {E : String → Bool} {s : MState} {h : HState} (hs : Sim s h)
    (hco : Corr h.active s.rest) (hb : BlankInvE E s h) : mblank s = hblank h := by
  obtain ⟨hr, _, _, _, _⟩ := hs
  unfold mblank hblank flagRun
  have hpc : WalkOK h.active (s.rest.take (skipLen s.rest) ++ s.rest.drop (skipLen s.rest)) := by
    rw [List.take_append_drop]; exact walkOK_rest hco hb
  rw [walk_flagGo_marked _ _ _ hpc, List.take_append_drop]
  simp only [↓reduceIte, hr, ← chars_take, chars_length]
  congr 1
  rw [← hb.j]
  apply afterBlank_congr
  rw [headOr_markLc, headOr_append_none, List.take_append_drop]
  cases s.rest <;> rfl

theorem blankinvE_step {E : String → Bool} {T : Table} {s s' : MState} {h h' : HState}
    (hs : Sim s h) (hco : Corr h.active s.rest) (hb : BlankInvE E s h) (hl : LockStep T s h s' h') :
    BlankInvL s' h' := by
  obtain ⟨E', hmi'⟩ := modelinvE_step hb.mi hl.step
  refine ⟨E', hmi', corrE_step hl hb.ce, nodupNames_step hl hco hb.nn, ?_⟩
  have hagree := blank_agree hs hco hb
  cases hl with
  | subst c0 tl a name asg hdrop hel hkind hnot hlook =>
    -- nothing is read: the walk's answer for the word put in place is the one for the word (`blank_stable`)
    show afterBlank _ (spliceChars a c0 ++ tl.drop ((lexTok (c0 :: tl)).len - 1)).head? = hblank h
    rw [← blank_stable hb.mi hdrop hkind, ← mblank_at hdrop, hagree]
  | take c0 tl hdrop hel =>
    -- the consumed segment: the token (and here-document bodies)
    show afterBlank ((tl.take (spanLen s c0 tl)).reverse ++ c0 :: _) (tl.drop (spanLen s c0 tl)).head?
      = flagRun h.active false (spanLen s c0 tl + 1) (hblank h) (chars (c0 :: tl))
    have hpre : (tl.take (spanLen s c0 tl)).reverse ++ c0 ::
          s.before
        = (c0 :: tl.take (spanLen s c0 tl)).reverse ++
          s.before := by simp
    rw [hpre]
    have hsplit : (c0 :: tl.take (spanLen s c0 tl)) ++ tl.drop (spanLen s c0 tl) = c0 :: tl := by
      simp [List.take_append_drop]
    have hpc : WalkOK h.active ((c0 :: tl.take (spanLen s c0 tl)) ++ tl.drop (spanLen s c0 tl)) := by
      rw [hsplit, ← hdrop]
      exact walkOK_drop _ _ (walkOK_rest hco hb)
    rw [walk_flagGo_plain _ _ _ hpc, hsplit]
    unfold flagRun
    have hch : chars (c0 :: tl.take (spanLen s c0 tl)) = (chars (c0 :: tl)).take (spanLen s c0 tl + 1) := by
      simp [chars, List.map_take]
    rw [hch, chars_length]
    simp only [Bool.false_eq_true, ↓reduceIte]
    congr 1
    show afterBlank _ (some c0) = hblank h
    rw [← mblank_at hdrop, hagree]

theorem blankinvL_init (line : List Char) : BlankInvL (init line) ({ rest := line } : HState) :=
  ⟨_, modelinvE_init line, corrE_plain line, List.nodup_nil, rfl⟩

end YashModel.Alias
