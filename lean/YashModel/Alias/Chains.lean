/-
  C17 — origin chains and the termination measure.  `chains_step`: a property of chains that survives the extension a
  substitution makes holds of every character after a step (`Good` / `Inv`: duplicate-free, names of the table;
  `ChainsNodup` for any table).  `muP N L`: Σ over the unconsumed characters of `(L+1)^(N − chain length)`, decreased by
  every step (`muP_step_of`); for a table, `mu T` is `muP` with `N` = number of aliases, `L` = longest value, and `Inv`
  supplies the bounds (`subst_measure_decreases`); for the line machine the bounds are a hypothesis (`BoundedRun`).
-/
import YashModel.Alias.Step
namespace YashModel.Alias
open YashModel.Run

/-- Origin chain of a character is sane: no name twice, only names of the table. -/
def Good (T : Table) (sc : SChar) : Prop :=
  sc.chain.Nodup ∧ ∀ n ∈ sc.chain, n ∈ T.names

def GoodChain (T : Table) (ch : List String) : Prop := ch.Nodup ∧ ∀ n ∈ ch, n ∈ T.names

def Inv (T : Table) (s : MState) : Prop :=
  (∀ c ∈ s.pre, Good T c) ∧ (∀ c ∈ s.rest, Good T c)

def ChainsNodup (s : MState) : Prop := ∀ c ∈ s.pre ++ s.rest, c.chain.Nodup

def weightP (N L : Nat) (sc : SChar) : Nat := (L + 1) ^ (N - sc.chain.length)

/-- the measure with the bounds as parameters: it survives a change of table -/
def muP (N L : Nat) : List SChar → Nat
  | [] => 0
  | a :: t => weightP N L a + muP N L t

/-- the bounds hold along the run of the line machine: every table in force has values no longer than `L`, every
    unconsumed character is nested less than `N` deep -/
def BoundedRun (N L : Nat) (l : LState) : Prop :=
  ∀ k, (∀ a ∈ (lrun k l).1.T, a.value.length ≤ L) ∧ ∀ c ∈ (lrun k l).1.m.rest, c.chain.length < N

theorem inv_init (T : Table) (line : List Char) : Inv T (init line) :=
  ⟨(fun _ hc => nomatch hc), fun c hc => by
    unfold Good; rw [(mem_plain hc).1]; exact ⟨List.nodup_nil, fun _ hn => nomatch hn⟩⟩

theorem value_le_max {T : Table} {a : Alias} (h : a ∈ T) : a.value.length ≤ maxValueLen T := by
  induction T with
  | nil => cases h
  | cons b t ih =>
    simp only [maxValueLen]
    rcases List.mem_cons.mp h with rfl | h'
    · exact Nat.le_max_left ..
    · exact Nat.le_trans (ih h') (Nat.le_max_right ..)

theorem name_mem_names {T : Table} {a : Alias} (h : a ∈ T) : a.name ∈ T.names :=
  List.mem_map.mpr ⟨a, h, rfl⟩

theorem good_chain_le {T : Table} {ch : List String} (h : GoodChain T ch) : ch.length ≤ T.length := by
  have := List.Nodup.length_le_of_subset h.1 (fun n hn => h.2 n hn)
  simpa [Table.names] using this

theorem good_extend {T : Table} {a : Alias} {name : String} {ch : List String}
    (h : GoodChain T ch) (hl : T.lookup name = some a) (hn : a.name ∉ ch) : GoodChain T (a.name :: ch) :=
  ⟨List.nodup_cons.mpr ⟨hn, h.1⟩, fun n hn' => (List.mem_cons.mp hn').elim
    (fun e => e ▸ name_mem_names (lookup_spec hl).1) (h.2 n)⟩

theorem mu_eq_muP (T : Table) : ∀ l, mu T l = muP T.length (maxValueLen T) l
  | [] => rfl
  | a :: t => congrArg (weight T a + ·) (mu_eq_muP T t)

theorem muP_append (N L : Nat) (l₁ l₂ : List SChar) : muP N L (l₁ ++ l₂) = muP N L l₁ + muP N L l₂ := by
  induction l₁ with
  | nil => simp [muP]
  | cons a t ih => simp [muP, ih, Nat.add_assoc]

theorem muP_take_drop (N L : Nat) (l : List SChar) (k : Nat) :
    muP N L l = muP N L (l.take k) + muP N L (l.drop k) := by
  rw [← muP_append, List.take_append_drop]

theorem muP_map_const (N L : Nat) (g : Char → SChar) (W : Nat) (h : ∀ ch, weightP N L (g ch) = W)
    (l : List Char) : muP N L (l.map g) = l.length * W := by
  induction l with
  | nil => simp [muP]
  | cons ch t ih =>
    simp only [List.map_cons, muP, ih, h, List.length_cons]
    rw [Nat.succ_mul, Nat.add_comm]

theorem muP_splice_lt {N L : Nat} {a : Alias} {c0 : SChar} (hk : c0.chain.length < N) (hv : a.value.length ≤ L) :
    muP N L (spliceChars a c0) < weightP N L c0 := by
  have e : muP N L (spliceChars a c0) = a.value.length * (L + 1) ^ (N - (c0.chain.length + 1)) :=
    muP_map_const N L _ _ (fun ch => by simp [weightP]) a.value
  rw [e]
  unfold weightP
  have hsplit : N - c0.chain.length = (N - (c0.chain.length + 1)) + 1 := by omega
  rw [hsplit, Nat.pow_succ]
  have hp : 0 < (L + 1) ^ (N - (c0.chain.length + 1)) := Nat.pow_pos (Nat.succ_pos _)
  calc a.value.length * (L + 1) ^ (N - (c0.chain.length + 1))
      ≤ L * (L + 1) ^ (N - (c0.chain.length + 1)) := Nat.mul_le_mul_right _ hv
    _ < (L + 1) * (L + 1) ^ (N - (c0.chain.length + 1)) := Nat.mul_lt_mul_of_pos_right (Nat.lt_succ_self _) hp
    _ = (L + 1) ^ (N - (c0.chain.length + 1)) * (L + 1) := Nat.mul_comm ..

/-- A property of origin chains that survives the extension a substitution makes holds of every character after
    a step if it did before: a step moves characters, marks line continuations, and splices in characters whose
    chain is that of the token's first character extended by the alias name. -/
theorem chains_step {P : List String → Prop} {T : Table} {s s' : MState} (h : step T s = some s')
    (hext : ∀ c0 ∈ s.rest, ∀ a name, T.lookup name = some a → c0.isAliasFor name = false → P c0.chain →
      P (a.name :: c0.chain))
    (hi : ∀ c ∈ s.pre ++ s.rest, P c.chain) : ∀ c ∈ s'.pre ++ s'.rest, P c.chain := by
  have hp : ∀ c ∈ s.pre, P c.chain := fun c hc => hi c (List.mem_append_left _ hc)
  have hr : ∀ c ∈ s.rest, P c.chain := fun c hc => hi c (List.mem_append_right _ hc)
  have hbefore : ∀ c ∈ s.before, P c.chain := by
    intro c hc
    rcases List.mem_append.mp hc with h1 | h2
    · exact markLc_pred (fun c hc => hr c (List.mem_of_mem_take hc)) c (List.mem_reverse.mp h1)
    · exact hp c h2
  intro c hc
  cases step_rel h with
  | subst c0 tl a cmd name asg hdrop hkind hsub hnot hlook hwhy hpre hrest =>
    obtain ⟨hc0, htl⟩ := mem_of_drop hdrop
    rw [hpre, hrest] at hc
    rcases List.mem_append.mp hc with h1 | h2
    · exact hbefore c h1
    · rcases List.mem_append.mp h2 with h3 | h4
      · rw [splice_chain h3]; exact hext c0 hc0 a name hlook hnot (hr c0 hc0)
      · exact hr c (htl c (List.mem_of_mem_drop h4))
  | take c0 tl hdrop hel hpre hrest =>
    obtain ⟨hc0, htl⟩ := mem_of_drop hdrop
    rw [hpre, hrest] at hc
    rcases List.mem_append.mp hc with h1 | h2
    · rcases List.mem_append.mp h1 with h3 | h4
      · exact hr c (htl c (List.mem_of_mem_take (List.mem_reverse.mp h3)))
      · rcases List.mem_cons.mp h4 with rfl | h5
        · exact hr _ hc0
        · exact hbefore c h5
    · exact hr c (htl c (List.mem_of_mem_drop h2))

theorem inv_step {T : Table} {s s' : MState} (hi : Inv T s) (h : step T s = some s') : Inv T s' := by
  have := chains_step (P := GoodChain T) h
    (fun c0 _ a name hl hn hp => good_extend hp hl (guard_not_mem hl hn))
    (fun c hc => (List.mem_append.mp hc).elim (hi.1 c) (hi.2 c))
  exact ⟨fun c hc => this c (List.mem_append_left _ hc), fun c hc => this c (List.mem_append_right _ hc)⟩

/-- Every step decreases `muP N L` of the unconsumed text, provided that where a word is replaced its chain is
    shorter than `N` and the value no longer than `L`: a consumed token loses at least its first character, a
    replaced one trades that character for the lighter replacement. -/
theorem muP_step_of {N L : Nat} {T : Table} {s s' : MState} (h : step T s = some s')
    (hsub : ∀ c0 ∈ s.rest, ∀ a name, T.lookup name = some a → c0.isAliasFor name = false →
      c0.chain.length < N ∧ a.value.length ≤ L) :
    muP N L s'.rest < muP N L s.rest := by
  cases step_rel h with
  | subst c0 tl a cmd name asg hdrop hkind hsub' hnot hlook hwhy hpre hrest =>
    have h1 := muP_take_drop N L s.rest (skipLen s.rest)
    rw [hdrop] at h1
    have h2 := muP_take_drop N L tl ((lexTok (c0 :: tl)).len - 1)
    obtain ⟨hk, hv⟩ := hsub c0 (mem_of_drop hdrop).1 a name hlook hnot
    have h3 := muP_splice_lt (N := N) hk hv
    rw [hrest, muP_append]
    simp only [muP] at h1
    omega
  | take c0 tl hdrop hel hpre hrest =>
    have h1 := muP_take_drop N L s.rest (skipLen s.rest)
    rw [hdrop] at h1
    have h2 := muP_take_drop N L tl (spanLen s c0 tl)
    have h3 : 0 < weightP N L c0 := Nat.pow_pos (Nat.succ_pos _)
    rw [hrest]
    simp only [muP] at h1
    omega

/-- the measure step for ANY table: a step strictly decreases `muP N L` of the unconsumed text as soon as the token's
    chain is shorter than `N` and the value spliced is no longer than `L` — no invariant about the table -/
theorem muP_step {N L : Nat} {T : Table} {s s' : MState} (h : step T s = some s')
    (hN : ∀ c ∈ s.rest, c.chain.length < N) (hL : ∀ a ∈ T, a.value.length ≤ L) :
    muP N L s'.rest < muP N L s.rest :=
  muP_step_of h fun c0 hc0 a _ hl _ => ⟨hN c0 hc0, hL a (lookup_spec hl).1⟩

theorem inv_run {T : Table} (f : Nat) {s : MState} (hi : Inv T s) : Inv T (run T f s).1 := by
  rw [run_iter]; exact iter_inv (fun _ _ => inv_step) f s hi

theorem good_run (T : Table) (line : List Char) (f : Nat) :
    ∀ c ∈ (run T f (init line)).1.pre ++ (run T f (init line)).1.rest, Good T c := fun c hc =>
  have hi := inv_run f (inv_init T line)
  (List.mem_append.mp hc).elim (hi.1 c) (hi.2 c)

theorem nodup_step {T : Table} {s s' : MState} (hi : ChainsNodup s) (h : step T s = some s') :
    ChainsNodup s' :=
  chains_step h (fun c0 _ a name hl hn hp => List.nodup_cons.mpr ⟨guard_not_mem hl hn, hp⟩) hi

end YashModel.Alias
