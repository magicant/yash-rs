/-
  C17 — lexical lemmas about the tokeniser of `Model.lean` used by the Model = Spec proof (`model_token_facts` of `BlankInv.lean`):
  a closed word ends at a delimiter or at the end of the text (`wordLen_stop`), what follows the skipped blanks is
  neither a blank nor a line continuation (`skip_head`), a literal word contains no blank (`wordLit_noblank`);
  together: `word_token_facts`.
-/
import YashModel.Alias.Model
namespace YashModel.Alias

theorem get_cons_1 {α} (a : α) (t : List α) (n : Nat) : (a :: t)[1 + n]? = t[n]? := by
  rw [Nat.add_comm]; rfl
theorem get_cons_2 {α} (a b : α) (t : List α) (n : Nat) : (a :: b :: t)[2 + n]? = t[n]? := by
  rw [Nat.add_comm]; rfl

theorem wordLen_stop (m : QMode) (l : List Char) (hc : wordClosed m l = true) :
    ∀ d, l[wordLen m l]? = some d → isDelim d = true := by
  revert hc
  -- `wordLen` and `wordClosed` recurse alike: the claim for `a :: t` is the induction hypothesis for the tail;
  -- left over are the ends of the recursion (the delimiter itself, or an index behind the text)
  fun_induction wordLen m l <;> unfold wordClosed <;>
    (try simp only [get_cons_1, get_cons_2, Bool.false_eq_true, ↓reduceIte, *]) <;> (try assumption)
  all_goals (intro _ d hd; cases hd; try assumption)

theorem take_1_add {α} (a : α) (t : List α) (n : Nat) : (a :: t).take (1 + n) = a :: t.take n := by
  rw [Nat.add_comm]; rfl
theorem take_2_add {α} (a b : α) (t : List α) (n : Nat) : (a :: b :: t).take (2 + n) = a :: b :: t.take n := by
  rw [Nat.add_comm]; rfl

theorem commentLen_stop (l : List Char) : ∀ c, l[commentLen l]? = some c → c = '\n' := by
  fun_induction commentLen l <;> simp_all [get_cons_1]

theorem skip_head (l : List Char) : ∀ c, l[skipLenC l]? = some c →
    isBlank c = false ∧ ¬ (c = '\\' ∧ l[skipLenC l + 1]? = some '\n') := by
  -- with the indices normalised, every case of `skipLenC` is immediate:
  fun_induction skipLenC l <;> intro c hc <;>
    simp only [get_cons_1, get_cons_2, Nat.add_assoc, List.getElem?_cons_zero, Option.some.injEq,
      List.getElem?_nil, reduceCtorEq] at hc ⊢
  all_goals first
    | (cases hc; done)                  -- the index is behind the text
    | (subst hc; simp_all; done)        -- `c` is the head, which the case says is no blank / no continuation
    | (apply_assumption; exact hc)      -- a blank or a continuation was skipped: induction hypothesis
    | (obtain rfl := commentLen_stop _ c hc; simp +decide)  -- a comment ends at a newline

theorem wordLit_noblank (l : List Char) : ∀ s, wordLit l = some s →
    ∀ x ∈ l.take (wordLen .un l), isBlank x = false := by
  -- A literal word is made of `\`-newline pairs and of characters that are no delimiters, hence no blanks, and
  -- `wordLen` walks over exactly these without leaving the unquoted mode.  The cases are those of `wordLit`; where it
  -- answers `none` (a quote, an escape, an expansion) or the word is over (end of text, a delimiter) nothing is to show.
  fun_induction wordLit l
  all_goals intro s hs x hx
  all_goals unfold wordLen at hx
  case case2 => clear hs; simp_all +decide                -- a lone `\` at the end of the text
  case case7 => clear hs; simp_all +decide [isDelim]      -- a lone `$` at the end of the text
  case case3 ih =>                                        -- a line continuation, then the rest of the word
    simp_all +decide [take_2_add]
    rcases hx with rfl | rfl | h
    · decide
    · decide
    · exact ih x h
  case case9 =>                                           -- `$` before a character that starts no expansion
    rename_i a h1 h2 h3 h4 b t hds ih
    have ha : a = '$' := by simpa using h4
    subst ha
    have hb : ¬ b = '(' := by intro h; subst h; simp +decide at hds
    simp only [Option.map_eq_some_iff] at hs
    obtain ⟨s', hs', _⟩ := hs
    simp +decide [hb, take_1_add] at hx
    rcases hx with rfl | h
    · decide
    · exact ih s' hs' x h
  case case10 a t h1 h2 h3 h4 ih =>                       -- an ordinary character: no delimiter (`h2`)
    simp only [Option.map_eq_some_iff] at hs
    obtain ⟨s', hs', _⟩ := hs
    simp_all +decide [take_1_add, isDelim]
    rcases hx with rfl | h
    · exact h2.2
    · exact ih x h
  all_goals simp_all +decide [isDelim]

theorem lexTok_word {r : List Char} {lit : Option String} {asg : Bool}
    (h : (lexTokC r).kind = .word lit asg) :
    lexOp r = none ∧ wordClosed .un r = true ∧ (lexTokC r).len = wordLen .un r ∧
    (∀ name, lit = some name → ∃ s, wordLit r = some s) := by
  unfold lexTokC at h ⊢
  split at h
  · simp at h
  · split at h
    · simp at h
    · rename_i hop
      simp only [hop]
      by_cases hc : wordClosed .un r = true
      · simp only [hc, Bool.not_true, Bool.false_eq_true, ↓reduceIte] at h ⊢
        refine ⟨trivial, trivial, ?_, ?_⟩
        · split <;> (try split) <;> (try split) <;> rfl
        · intro name hn
          subst hn
          split at h
          · rename_i s hs
            split at hs
            · split at hs
              · cases hs
              · exact ⟨s, hs⟩
            · cases hs
          · simp at h
      · simp [hc] at h

theorem lexOp_none_head {c : Char} {t : List Char} (h : lexOp (c :: t) = none)
    (hlc : ¬ (c = '\\' ∧ t.head? = some '\n')) : isOpChar c = false := by
  unfold lexOp at h
  cases t with
  | nil =>
    simp only [peel] at h
    by_cases ho : isOpChar c = true
    · simp [ho] at h
    · simpa using ho
  | cons b t' =>
    have hp : peel (c :: b :: t') = some (c, 1, b :: t') := by
      unfold peel
      have : ¬ (c == '\\' && b == '\n') = true := by
        intro hh
        simp only [Bool.and_eq_true, beq_iff_eq] at hh
        exact hlc ⟨hh.1, by simp [hh.2]⟩
      simp [this]
    rw [hp] at h
    simp only at h
    by_cases ho : isOpChar c = true
    · simp only [ho, Bool.not_true, Bool.false_eq_true, ↓reduceIte] at h
      split at h <;> (try split at h) <;> (try split at h) <;> (try split at h) <;> simp at h
    · simpa using ho

theorem word_token_facts {l : List Char} {c : Char} {t : List Char} {lit : Option String} {asg : Bool}
    (hd : l.drop (skipLenC l) = c :: t) (hk : (lexTokC (c :: t)).kind = .word lit asg) :
    isDelim c = false ∧
    (∀ d, (c :: t)[(lexTokC (c :: t)).len]? = some d → isDelim d = true) ∧
    (∀ name, lit = some name → ∀ x ∈ (c :: t).take (lexTokC (c :: t)).len, isBlank x = false) := by
  obtain ⟨hop, hcl, hlen, hlit⟩ := lexTok_word hk
  have h0 : l[skipLenC l]? = some c := by
    have := congrArg (fun x => x[0]?) hd
    simpa [List.getElem?_drop] using this
  have h1 : l[skipLenC l + 1]? = t.head? := by
    have := congrArg (fun x => x[1]?) hd
    simp only [List.getElem?_drop] at this
    rw [this]
    cases t <;> rfl
  obtain ⟨hb, hlc⟩ := skip_head l c h0
  rw [h1] at hlc
  have hoc := lexOp_none_head hop hlc
  refine ⟨by simp [isDelim, hoc, hb], ?_, ?_⟩
  · rw [hlen]; exact wordLen_stop .un _ hcl
  · intro name hn x hx
    obtain ⟨s, hs⟩ := hlit name hn
    rw [hlen] at hx
    exact wordLit_noblank _ s hs x hx

end YashModel.Alias
