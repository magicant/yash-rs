/-
  C17 — the two formulations of the blank rule, character by character.  One step of the model's backward walk
  `is_after_blank_ending_alias` is `afterBlank_cons`; the walk over a stretch of the buffer, read forwards, is the by-hand
  Spec's flag run over the same characters (`walk_flagGo_plain` for token characters, `walk_flagGo_marked` for skipped
  ones with their line-continuation marks) wherever the per-character tests agree (`WalkOK`).  No state of either machine
  occurs here; that the tests do agree along a joint run is `BlankAgree.lean`.
-/
import YashModel.Alias.Step
namespace YashModel.Alias

/-- the per-character test of `is_after_blank_ending_alias` -/
def bcond (p : SChar) (nx : Option SChar) : Bool := !p.chain.isEmpty && p.eb && !sameAlias p nx

/-- characters the walk passes over -/
def bskip (p : SChar) : Bool := p.lc || isBlank p.c

def headOr (l : List SChar) (nxt : Option SChar) : Option SChar :=
  match l with
  | [] => nxt
  | q :: _ => some q

/-- What the walk needs of every unconsumed character to be the Spec's flag run (`walk_flagGo_*`): its test is the
    Spec's `endsValue`, a positive test sits on a blank, and it carries no mark yet. -/
def WalkOK (rs : List Region) : List SChar → Prop
  | [] => True
  | c :: t => (bcond c (headOr t none) = endsValue rs (t.length + 1) ∧
      (bcond c (headOr t none) = true → isBlank c.c = true) ∧ c.lc = false) ∧ WalkOK rs t

theorem afterBlank_cons (p : SChar) (ps : List SChar) (nxt : Option SChar) :
    afterBlank (p :: ps) nxt = (bskip p && (bcond p nxt || afterBlank ps (some p))) := by
  rw [afterBlank]
  unfold bskip bcond
  cases h1 : p.lc <;> cases h2 : isBlank p.c <;>
    cases (!p.chain.isEmpty && p.eb && !sameAlias p nxt) <;> simp

theorem afterBlank_nil (nxt : Option SChar) : afterBlank [] nxt = false := rfl

theorem sameAlias_cons {p : SChar} {m : String} {tlp : List String} (hp : p.chain = m :: tlp)
    (nx : Option SChar) :
    sameAlias p nx = (match nx with | some x => x.chain.contains m | none => false) := by
  unfold sameAlias
  rw [hp]
  cases nx <;> rfl

theorem walkOK_drop {rs : List Region} : ∀ (l : List SChar) (k : Nat), WalkOK rs l → WalkOK rs (l.drop k)
  | l, 0, h => by simpa using h
  | [], _ + 1, _ => by simp [WalkOK]
  | _ :: t, k + 1, h => by simpa using walkOK_drop t k h.2

theorem bcond_congr {c c' : SChar} {nx nx' : Option SChar} (h1 : c.chain = c'.chain) (h2 : c.eb = c'.eb)
    (h3 : nx.map (·.chain) = nx'.map (·.chain)) : bcond c nx = bcond c' nx' := by
  unfold bcond sameAlias
  rw [h1, h2]
  cases c'.chain with
  | nil => rfl
  | cons n tl =>
    cases nx <;> cases nx' <;> simp_all [SChar.isAliasFor]

theorem headOr_map_chain (l : List SChar) (nxt : Option SChar) :
    (headOr l nxt).map (·.chain) = ((l.map (·.chain)).head?).or (nxt.map (·.chain)) := by
  cases l <;> simp [headOr]

theorem headOr_markLc (l : List SChar) (nxt : Option SChar) :
    (headOr (markLc l) nxt).map (·.chain) = (headOr l nxt).map (·.chain) := by
  rw [headOr_map_chain, headOr_map_chain, markLc_chains]

theorem headOr_append_none (l1 l2 : List SChar) : headOr l1 l2.head? = headOr (l1 ++ l2) none := by
  cases l1 <;> cases l2 <;> rfl

theorem bskip_unmarked {c : SChar} (h : c.lc = false) (x b : Bool) :
    (bskip c && (x || b)) = if isBlank c.c = true then b || x else false := by
  unfold bskip; rw [h]; cases isBlank c.c <;> simp [Bool.or_comm]

/-- The backward walk over a stretch `seg` of the buffer (in front of `pre`), read forwards, is the Spec's flag run over
    the same characters — here token characters, which carry no line-continuation marks. -/
theorem walk_flagGo_plain {rs : List Region} : ∀ (seg rest2 pre : List SChar), WalkOK rs (seg ++ rest2) →
    afterBlank (seg.reverse ++ pre) rest2.head? =
      flagGo rs (afterBlank pre (headOr seg rest2.head?)) ((chars seg).map (·, false)) (seg ++ rest2).length
  | [], _, _, _ => rfl
  | c :: t, rest2, pre, h => by
    obtain ⟨⟨h1, h2, h3⟩, h4⟩ := h
    have e : chars (c :: t) = c.c :: chars t := rfl
    rw [List.reverse_cons, List.append_assoc, List.singleton_append, walk_flagGo_plain t rest2 (c :: pre) h4,
      afterBlank_cons, e, show headOr (c :: t) rest2.head? = some c from rfl]
    have h1' : bcond c (headOr (t ++ rest2) none) = endsValue rs ((t ++ rest2).length + 1) := h1
    simp only [List.map_cons, flagGo, Bool.false_eq_true, ↓reduceIte, List.cons_append, List.length_cons,
      Nat.add_sub_cancel]
    rw [headOr_append_none, bskip_unmarked h3, h1']

theorem bcond_false_of_nonblank {c : SChar} {nx : Option SChar} (h : bcond c nx = true → isBlank c.c = true)
    (hc : isBlank c.c = false) : bcond c nx = false := by
  cases hb : bcond c nx with
  | false => rfl
  | true => rw [h hb] at hc; cases hc

/-- … and over skipped characters, whose line continuations `markLc` has marked (the Spec marks the same ones: `markC`) -/
theorem walk_flagGo_marked {rs : List Region} (seg : List SChar) : ∀ (rest2 pre : List SChar),
    WalkOK rs (seg ++ rest2) →
    afterBlank ((markLc seg).reverse ++ pre) rest2.head? =
      flagGo rs (afterBlank pre (headOr (markLc seg) rest2.head?)) (markC (chars seg)) (seg ++ rest2).length := by
  fun_induction markLc seg with
  | case1 a b' t hcond ih =>
    intro rest2 pre h
    obtain ⟨⟨_, ha2, _⟩, ⟨_, hb2, _⟩, h4⟩ := h
    simp only [Bool.and_eq_true, beq_iff_eq] at hcond
    have e : chars (a :: b' :: t) = a.c :: b'.c :: chars t := rfl
    have hm : markC (a.c :: b'.c :: chars t) = (a.c, true) :: (b'.c, true) :: markC (chars t) := by
      simp [markC, hcond.1, hcond.2]
    -- a marked pair is passed over: neither of its characters is a blank, so neither ends a value
    have h1 : bcond { a with lc := true } (some { b' with lc := true }) = false :=
      (bcond_congr (c := { a with lc := true }) (nx := some { b' with lc := true }) (c' := a)
        (nx' := headOr ((b' :: t).append rest2) none) rfl rfl rfl).trans
        (bcond_false_of_nonblank ha2 (by rw [hcond.1]; decide))
    have h2 : bcond { b' with lc := true } (headOr (markLc t) rest2.head?) = false :=
      (bcond_congr (c := { b' with lc := true }) (c' := b') (nx' := headOr (t.append rest2) none) rfl rfl
        (by rw [headOr_markLc, headOr_append_none]; rfl)).trans
        (bcond_false_of_nonblank hb2 (by rw [hcond.2]; decide))
    rw [e, hm, List.reverse_cons, List.reverse_cons, List.append_assoc, List.append_assoc, List.singleton_append,
      List.singleton_append, ih rest2 _ h4, afterBlank_cons, afterBlank_cons, h1, h2]
    simp only [flagGo, ↓reduceIte, List.cons_append, List.length_cons, Nat.add_sub_cancel, bskip,
      Bool.true_or, Bool.true_and, Bool.false_or]
    rfl
  | case2 a b' t hcond ih =>
    intro rest2 pre h
    obtain ⟨⟨h1, _, h3⟩, h4⟩ := h
    have e : chars (a :: b' :: t) = a.c :: chars (b' :: t) := rfl
    have hm : markC (a.c :: chars (b' :: t)) = (a.c, false) :: markC (chars (b' :: t)) := by
      have : chars (b' :: t) = b'.c :: chars t := rfl
      rw [this]
      have hc : ¬ (a.c == '\\' && b'.c == '\n') = true := hcond
      simp [markC, hc]
    have hb : bcond a (headOr (markLc (b' :: t)) rest2.head?) = bcond a (headOr ((b' :: t).append rest2) none) := by
      apply bcond_congr rfl rfl
      rw [headOr_markLc, headOr_append_none]; rfl
    rw [e, hm, List.reverse_cons, List.append_assoc, List.singleton_append, ih rest2 _ h4, afterBlank_cons, hb, h1,
      show headOr (a :: markLc (b' :: t)) rest2.head? = some a from rfl]
    simp only [flagGo, Bool.false_eq_true, ↓reduceIte, List.cons_append, List.length_cons, Nat.add_sub_cancel]
    rw [bskip_unmarked h3]; rfl
  | case3 l hl =>
    intro rest2 pre h
    have hm : markC (chars l) = (chars l).map (·, false) := by
      match l, hl with
      | [], _ => rfl
      | [x], _ => rfl
      | x :: y :: t, hl => exact absurd rfl (hl x y t)
    rw [hm]
    exact walk_flagGo_plain l rest2 pre h

theorem afterBlank_congr (l : List SChar) {nxt nxt' : Option SChar}
    (h : nxt.map (·.chain) = nxt'.map (·.chain)) : afterBlank l nxt = afterBlank l nxt' := by
  cases l with
  | nil => rfl
  | cons p ps => rw [afterBlank_cons, afterBlank_cons, bcond_congr rfl rfl h]

end YashModel.Alias
