/-
  C19 — what every operation of the case language preserves (`Kernel/Step.lean`): descriptors stay below the
  limit and refer to open file descriptions, the directories of the tree stay the same, the working directory
  stays a canonical path of one of them.  The three are consequences of one description of what an operation
  may do to a state (`Eff`), established once per operation.
-/
import YashModel.Kernel.Step
import YashModel.Kernel.Theorems
namespace YashModel.Kernel

/-- the bookkeeping entries (`..std/<name>`: the standard files, pipe buffers, anonymous files) are no
    directories -/
def NoBk (t : Tree) : Prop := ∀ name, existing t ["..std", name] ≠ .dir

/-! ## well-formed descriptor tables -/

def WF (k : K) : Prop :=
  ∀ fd e, k.fds fd = some e → fd < k.limit ∧ e.ofd < k.ofds.length

theorem wf_updOfd {k : K} (h : WF k) (i : Nat) (o : Ofd) : WF (updOfd k i o) := by
  intro fd e he
  have := h fd e he
  simpa [updOfd] using this

theorem wf_setFd {k : K} (h : WF k) (fd : Nat) (e : FdEntry) (ofds : List Ofd) (t : Tree)
    (hfd : fd < k.limit) (he : e.ofd < ofds.length) (hlen : k.ofds.length ≤ ofds.length) :
    WF { k with tree := t, ofds := ofds, fds := setFd k.fds fd (some e) } := by
  intro n x hx
  simp only [setFd] at hx
  split at hx
  · rename_i hn
    injection hx with hx; subst hx hn
    exact ⟨hfd, he⟩
  · have := h n x hx
    exact ⟨this.1, Nat.lt_of_lt_of_le this.2 hlen⟩

theorem wf_installFd {k : K} (h : WF k) (t : Tree) (fd : Nat) (p : Path) (acc : Access) (f : Flags)
    (hfd : fd < k.limit) : WF (installFd k t fd p acc f) :=
  wf_setFd h fd _ _ t hfd (by simp) (by simp)

/-! ## what an operation may do to a state -/

/-- What a successful operation may do: it keeps the descriptor table well-formed; the working directory stays,
    or moves to an existing directory whose path is canonical if the old one was; the tree stays, or gets one
    regular-file binding at a place that is not a directory (given that the bookkeeping entries are none). -/
structure Eff (k k' : K) : Prop where
  wf : WF k → WF k'
  cwd : k'.cwd = k.cwd ∨ existing k.tree k'.cwd = .dir ∧ (Canon k.cwd → Canon k'.cwd)
  tree : NoBk k.tree →
    k'.tree = k.tree ∨ ∃ q m c, k'.tree = insert k.tree q (.reg m c) ∧ existing k.tree q ≠ .dir

theorem Eff.refl (k : K) : Eff k k := ⟨id, .inl rfl, fun _ => .inl rfl⟩

theorem Eff.sameDirs {k k' : K} (h : Eff k k') (hb : NoBk k.tree) : SameDirs k.tree k'.tree := by
  rcases h.tree hb with h | ⟨q, m, c, h, hq⟩
  · rw [h]; exact sameDirs_refl _
  · rw [h]; exact sameDirs_insert_reg _ _ _ _ hq

theorem eff_updOfd (k : K) (i : Nat) (o : Ofd) : Eff k (updOfd k i o) :=
  ⟨fun h => wf_updOfd h i o, .inl rfl, fun _ => .inl rfl⟩

theorem eff_updOfd_insert (k : K) (i : Nat) (o : Ofd) {q : Path} {m : Nat} {c : Bytes} (c' : Bytes)
    (h : lookup k.tree q = some (.reg m c)) :
    Eff k { (updOfd k i o) with tree := insert k.tree q (.reg m c') } :=
  ⟨fun h => wf_updOfd h i o, .inl rfl, fun _ => .inr ⟨_, _, _, rfl, existing_of_lookup_reg h⟩⟩

theorem eff_setFd (k : K) (fd : Nat) (e : FdEntry) (hfd : WF k → fd < k.limit)
    (he : WF k → e.ofd < k.ofds.length) : Eff k { k with fds := setFd k.fds fd (some e) } :=
  ⟨fun h => wf_setFd h fd e k.ofds k.tree (hfd h) (he h) (Nat.le_refl _), .inl rfl, fun _ => .inl rfl⟩

theorem eff_open {k k' : K} {comps : List String} {acc : Access} {f : Flags} {mode fd : Nat}
    (h : open' k comps acc f mode = .ok fd k') : Eff k k' := by
  obtain ⟨p, t, ha, _, rfl, ht⟩ := open_ok h
  exact ⟨fun hw => wf_installFd hw _ _ _ _ _ (allocFd_lt_limit ha), .inl rfl,
    fun _ => ht.imp id fun ⟨m, c, e, hd⟩ => ⟨p, m, c, e, hd⟩⟩

theorem eff_tmpfile {k k' : K} {fd : Nat} (h : tmpfile k = .ok fd k') : Eff k k' := by
  obtain ⟨ha, name, rfl⟩ := tmpfile_ok h
  exact ⟨fun hw => wf_installFd hw _ _ _ _ _ (allocFd_lt_limit ha), .inl rfl,
    fun hb => .inr ⟨_, _, _, rfl, hb name⟩⟩

theorem eff_pipe {k k' : K} {r w : Nat} (h : pipe' k = .ok (r, w) k') : Eff k k' := by
  obtain ⟨name, rd, wr, hr, hw', rfl⟩ := pipe_ok h
  refine ⟨fun hw => ?_, .inl rfl, fun hb => .inr ⟨_, _, _, rfl, hb name⟩⟩
  have h1 := wf_setFd hw r ⟨k.ofds.length, false⟩ (k.ofds ++ [rd, wr]) k.tree (allocFd_lt_limit hr) (by simp) (by simp)
  exact wf_setFd h1 w _ _ _ (allocFd_lt_limit hw') (by simp) (Nat.le_refl _)

theorem eff_read {k k' : K} {fd n : Nat} {bs : Bytes} (h : read k fd n = .ok bs k') : Eff k k' := by
  revert h
  unfold read
  repeat' split
  all_goals intro h; cases h
  exact eff_updOfd k _ _

theorem eff_write {k k' : K} {fd n : Nat} {bs : Bytes} (h : write k fd bs = .ok n k') : Eff k k' := by
  revert h
  unfold write
  repeat' split
  all_goals intro h; cases h
  · exact Eff.refl k
  · exact eff_updOfd_insert k _ _ _ ‹_›

theorem eff_seek {k k' : K} {fd : Nat} {w : Whence} {d : Int} {r : Option Nat}
    (h : seek k fd w d = .ok r k') : Eff k k' := by
  revert h
  unfold seek
  split
  · nofun
  · split
    · dsimp only
      repeat' split
      all_goals intro h; cases h
      all_goals exact eff_updOfd k _ _
    · intro h; cases h; exact Eff.refl k

theorem eff_readAny {k k' : K} {fd n : Nat} {bs : Bytes} (h : readAny k fd n = .ok bs k') : Eff k k' := by
  revert h
  unfold readAny
  repeat' split
  all_goals intro h; first | exact eff_read h | cases h
  exact Eff.refl k

theorem eff_writeAny {k k' : K} {fd n : Nat} {bs : Bytes} (h : writeAny k fd bs = .ok n k') : Eff k k' := by
  revert h
  unfold writeAny
  repeat' split
  all_goals intro h; first | exact eff_write h | cases h

theorem eff_seekAny {k k' : K} {fd : Nat} {w : Whence} {d : Int} {r : Option Nat}
    (h : seekAny k fd w d = .ok r k') : Eff k k' := by
  revert h
  unfold seekAny
  repeat' split
  all_goals intro h; first | exact eff_seek h | cases h

theorem eff_dup {k k' : K} {fd min n : Nat} {c : Bool} (h : dup k fd min c = .ok n k') : Eff k k' := by
  obtain ⟨e, he, hn, rfl⟩ := dup_ok h
  exact eff_setFd k n _ (fun _ => (allocFd_lt_limit hn)) (fun hw => (hw fd e he).2)

theorem eff_dup2 {k k' : K} {a b n : Nat} (h : dup2 k a b = .ok n k') : Eff k k' := by
  obtain ⟨_, e, he, h | h⟩ := dup2_ok h
  · rw [h.2]; exact Eff.refl k
  · rw [h.2.2]; exact eff_setFd k b _ (fun _ => h.2.1) (fun hw => (hw a e he).2)

theorem eff_setfd {k k' : K} {fd : Nat} {c : Bool} {u : Unit} (h : setfd k fd c = .ok u k') : Eff k k' := by
  unfold setfd at h
  cases he : k.fds fd with
  | none => rw [he] at h; cases h
  | some e =>
    rw [he] at h; cases h
    exact eff_setFd k fd _ (fun hw => (hw fd e he).1) (fun hw => (hw fd e he).2)

theorem eff_setUmask (k : K) (m : Nat) : Eff k (setUmask k m).2 := ⟨id, .inl rfl, fun _ => .inl rfl⟩

theorem eff_close (k : K) (fd : Nat) : Eff k (close k fd) := by
  refine ⟨fun hw n x hx => ?_, .inl rfl, fun _ => .inl rfl⟩
  simp only [close, setFd] at hx
  split at hx
  · cases hx
  · exact hw n x hx

theorem eff_chdir {k k' : K} {comps : List String} {u : Unit} (h : chdir k comps = .ok u k') : Eff k k' := by
  obtain ⟨p, hr, hd, rfl⟩ := chdir_ok h
  exact ⟨id, .inr ⟨hd, fun hc => canon_resolve _ _ _ _ hc hr⟩, fun _ => .inl rfl⟩

theorem eff_setNonblock {k k' : K} {fd : Nat} {b r : Bool} (h : setNonblock k fd b = .ok r k') :
    Eff k k' := by
  unfold setNonblock at h
  cases hg : getOfd k fd with
  | none => rw [hg] at h; cases h
  | some io => rw [hg] at h; cases h; exact eff_updOfd k _ _

theorem eff_fillPipe {k k' : K} {fd : Nat} {u : Unit} (h : fillPipe k fd = .ok u k') : Eff k k' := by
  revert h
  unfold fillPipe
  repeat' split
  all_goals intro h; cases h
  exact eff_updOfd_insert k _ _ _ ‹_›

theorem step_cases (k : K) (op : Op) :
    (step k op).1 = k ∨ ((∀ e, (step k op).2 ≠ .err e) ∧ Eff k (step k op).1) := by
  cases op <;> dsimp only [step]
  case «open» => split; exact .inl rfl; split; exact .inr ⟨(fun _ h => nomatch h), eff_open (openT_ok ‹_›)⟩; exact .inl rfl
  case read => split; exact .inr ⟨(fun _ h => nomatch h), eff_readAny ‹_›⟩; exact .inl rfl
  case write => split; exact .inr ⟨(fun _ h => nomatch h), eff_writeAny ‹_›⟩; exact .inl rfl
  case seek =>
    split
    · exact .inr ⟨(fun _ h => nomatch h), eff_seekAny ‹_›⟩
    · exact .inr ⟨(fun _ h => nomatch h), eff_seekAny ‹_›⟩
    · exact .inl rfl
  case dup => split; exact .inr ⟨(fun _ h => nomatch h), eff_dup ‹_›⟩; exact .inl rfl
  case dup2 => split; exact .inr ⟨(fun _ h => nomatch h), eff_dup2 ‹_›⟩; exact .inl rfl
  case close => exact .inr ⟨(fun _ h => nomatch h), eff_close k _⟩
  case setfd => split; exact .inr ⟨(fun _ h => nomatch h), eff_setfd ‹_›⟩; exact .inl rfl
  case chdir => split; exact .inl rfl; split; exact .inr ⟨(fun _ h => nomatch h), eff_chdir ‹_›⟩; exact .inl rfl
  case umask => exact .inr ⟨(fun _ h => nomatch h), eff_setUmask k _⟩
  case pipe => split; exact .inr ⟨(fun _ h => nomatch h), eff_pipe ‹_›⟩; exact .inl rfl
  case nb => split; exact .inr ⟨(fun _ h => nomatch h), eff_setNonblock ‹_›⟩; exact .inl rfl
  case fill => split; exact .inr ⟨(fun _ h => nomatch h), eff_fillPipe ‹_›⟩; exact .inl rfl
  case tmp => split; exact .inr ⟨(fun _ h => nomatch h), eff_tmpfile ‹_›⟩; exact .inl rfl
  -- getfd, fstat, stat, ls, cwd, acc, rlim, sel, isx only answer
  all_goals (repeat' split) <;> exact .inl rfl

theorem step_eff (k : K) (op : Op) : Eff k (step k op).1 := by
  rcases step_cases k op with h | h
  · rw [h]; exact Eff.refl k
  · exact h.2

theorem run_inv {I : K → Prop} {Q : Obs → Prop} (h : ∀ k op, I k → I (step k op).1 ∧ Q (step k op).2) :
    ∀ (ops : List Op) (k : K), I k → I (run k ops).2 ∧ ∀ o, o ∈ (run k ops).1 → Q o := by
  intro ops
  induction ops with
  | nil => intro k hk; exact ⟨hk, fun o ho => by cases ho⟩
  | cons op ops ih =>
    intro k hk
    obtain ⟨h1, q1⟩ := h k op hk
    obtain ⟨h2, q2⟩ := ih _ h1
    refine ⟨h2, fun o ho => ?_⟩
    rcases List.mem_cons.mp ho with rfl | ho
    · exact q1
    · exact q2 o ho

end YashModel.Kernel
