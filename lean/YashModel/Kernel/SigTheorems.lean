/-
  C19 — property theorems about the process/signal half of the pivot (`Kernel/Signal.lean`): what a
  forked child inherits and what it must not, the life of a blocked signal, and what the parent learns of a
  child's end (exit statuses have 8 bits, a killing signal, ESRCH once reaped).  As in
  `Kernel/Theorems.lean` these are theorems about the pivot; the ties to `VirtualSystem` and to the real
  kernel are the correspondence run (`P` cases of harness/src/bin/c19.rs).
-/
import YashModel.Kernel.Signal
import YashModel.Kernel.SigStep
namespace YashModel.Kernel.Signal

/-! ## vocabulary -/

/-- nothing is deliverable: every pending signal is blocked -/
def Idle (p : Proc) : Prop := ∀ t, p.pending t = true → p.mask t = true

/-- the steps that neither unblock `s` nor change its disposition -/
inductive Quiet (s : Sig) : Proc → Proc → Prop where
  | gen (p : Proc) (t : Sig) : Quiet s p (generate p t)
  | block (p : Proc) (l : List Sig) : Quiet s p (block p l)
  | unblock (p : Proc) (l : List Sig) (h : l.contains s = false) : Quiet s p (unblock p l)
  | act (p : Proc) (t : Sig) (d : Disp) (h : t ≠ s) : Quiet s p (act p t d).2
  | take (p : Proc) : Quiet s p (takeCaught p).2

/-- the status of the process, if it is "exited", fits into 8 bits -/
def Ok8 (p : Proc) : Prop := ∀ n, p.status = .exited n → n < 256

theorem Sig.mem_all (s : Sig) : s ∈ Sig.all := by cases s <;> decide +kernel

/-! ## delivery of pending signals -/

/-- all a delivery can do: nothing (ignored, or caught and recorded already), record the signal, or terminate -/
theorem deliver_cases (p : Proc) (s : Sig) :
    deliver p s = p ∨ deliver p s = { p with caught := p.caught ++ [s] } ∨ deliver p s = { p with status := .signaled s } := by
  unfold deliver
  cases p.disp s with
  | «catch» =>
    by_cases h : p.caught.contains s = true
    · exact .inl (by simp only [h, if_true])
    · exact .inr (.inl (by simp only [h, if_false]; rfl))
  | ign => exact .inl rfl
  | dfl =>
    by_cases h : defaultIgnored s = true
    · exact .inl (by simp only [h, if_true])
    · exact .inr (.inr (by simp only [h, if_false]; rfl))

/-- all a generated signal can do: nothing (the process is gone), SIGKILL, become pending, or be delivered -/
theorem generate_cases (p : Proc) (s : Sig) :
    generate p s = p ∨ generate p s = { p with status := .signaled .KILL } ∨
    generate p s = { p with pending := p.pending.insert s } ∨ generate p s = deliver p s := by
  unfold generate
  by_cases ha : (!p.alive) = true
  · exact .inl (if_pos ha)
  rw [if_neg ha]
  by_cases hk : s = .KILL
  · exact .inr (.inl (if_pos hk))
  rw [if_neg hk]
  by_cases hm : p.mask s = true
  · exact .inr (.inr (.inl (if_pos hm)))
  · exact .inr (.inr (.inr (if_neg hm)))

theorem deliver_frame (p : Proc) (s : Sig) :
    (deliver p s).mask = p.mask ∧ (deliver p s).pending = p.pending ∧ (deliver p s).disp = p.disp := by
  rcases deliver_cases p s with e | e | e <;> rw [e] <;> exact ⟨rfl, rfl, rfl⟩

theorem generate_mask_disp (p : Proc) (s : Sig) : (generate p s).mask = p.mask ∧ (generate p s).disp = p.disp := by
  rcases generate_cases p s with e | e | e | e <;> rw [e]
  · exact ⟨rfl, rfl⟩
  · exact ⟨rfl, rfl⟩
  · exact ⟨rfl, rfl⟩
  · exact ⟨(deliver_frame p s).1, (deliver_frame p s).2.2⟩

theorem flushList_inv {I : Proc → Prop}
    (hd : ∀ p s, I p → p.pending s = true → p.mask s = false → I (deliver { p with pending := p.pending.erase s } s)) :
    ∀ (r : List Sig) (p : Proc), I p → I (flushList p r) := by
  intro r
  induction r with
  | nil => intro p h; exact h
  | cons s r ih =>
    intro p h
    rw [flushList]
    split
    · rename_i hc
      simp only [Bool.and_eq_true, Bool.not_eq_true'] at hc
      exact ih _ (hd p s h hc.1.2 hc.2)
    · exact ih p h

theorem flushList_idle {p : Proc} (h : Idle p) (r : List Sig) : flushList p r = p :=
  flushList_inv (I := (· = p)) (fun q s hq hp hm => by subst hq; rw [h s hp] at hm; cases hm) r p rfl

/-- once the only deliverable signal has fired, nothing is deliverable: delivery leaves mask and pending set alone -/
theorem idle_fired {p : Proc} {s : Sig} (ho : ∀ t, t ≠ s → p.pending t = true → p.mask t = true) :
    Idle (deliver { p with pending := p.pending.erase s } s) := by
  intro u hu
  have hk := deliver_frame { p with pending := p.pending.erase s } s
  rw [hk.2.1] at hu
  rw [hk.1]
  by_cases hus : u = s
  · simp [SigSet.erase, hus] at hu
  · exact ho u hus (by simpa [SigSet.erase, hus] using hu)

/-- a flush in which only `s` is deliverable: the signals before `s` do not fire, `s` does, and then the process is idle -/
theorem flushList_single {p : Proc} {s : Sig} (ha : p.alive = true) (hp : p.pending s = true)
    (hm : p.mask s = false) (ho : ∀ t, t ≠ s → p.pending t = true → p.mask t = true) :
    ∀ r : List Sig, s ∈ r → flushList p r = deliver { p with pending := p.pending.erase s } s := by
  intro r
  induction r with
  | nil => intro h; cases h
  | cons t r ih =>
    intro hmem
    rw [flushList]
    by_cases hts : t = s
    · subst hts
      rw [if_pos (by simp [ha, hp, hm])]
      exact flushList_idle (idle_fired ho) r
    · rw [if_neg, ih ((List.mem_cons.mp hmem).resolve_left (Ne.symm hts))]
      intro hc
      simp only [Bool.and_eq_true, Bool.not_eq_true'] at hc
      rw [ho t hts hc.1.2] at hc
      exact absurd hc.2 (by decide)

theorem unblock_single (p : Proc) (s : Sig) (ha : p.alive = true) (hp : p.pending s = true)
    (ho : ∀ t, t ≠ s → p.pending t = true → p.mask t = true) :
    unblock p [s] =
      deliver { p with mask := fun x => p.mask x && ![s].contains x, pending := p.pending.erase s } s :=
  flushList_single (p := { p with mask := fun x => p.mask x && ![s].contains x }) ha hp (by simp)
    (fun t ht h => by simpa [ht] using ho t ht h) _ (Sig.mem_all s)

/-! ## fork -/

/-- ★ The child of `fork` starts with an EMPTY set of pending signals, whatever was pending (blocked,
    already sent) in the parent, and with nothing recorded as caught; it is running. -/
theorem fork_child_pending_empty (p : Proc) :
    (∀ s, (fork p).pending s = false) ∧ (fork p).caught = [] ∧ (fork p).status = .running := by
  refine ⟨fun s => rfl, rfl, rfl⟩

/-- ★ The child inherits the signal mask and every signal disposition of the parent unchanged. -/
theorem fork_child_mask_dispositions_inherited (p : Proc) :
    (∀ s, (fork p).mask s = p.mask s) ∧ (∀ s, (fork p).disp s = p.disp s) := by
  exact ⟨fun _ => rfl, fun _ => rfl⟩

/-- A signal that was pending in the parent is not delivered to the child when the child unblocks it:
    unblocking anything in a fresh child changes nothing but the mask. -/
theorem fork_child_unblock_delivers_nothing (p : Proc) (l : List Sig) :
    (unblock (fork p) l).caught = [] ∧ (unblock (fork p) l).status = .running ∧
    (∀ s, (unblock (fork p) l).pending s = false) := by
  have : unblock (fork p) l = { fork p with mask := fun x => (fork p).mask x && !l.contains x } :=
    flushList_idle (fun t ht => by cases ht) _
  rw [this]
  exact ⟨rfl, rfl, fun _ => rfl⟩

/-- the parent keeps its own pending signals across `fork` (the model's `fork` does not touch the parent) -/
example : (fork { Proc.init with pending := SigSet.insert SigSet.empty .USR1 }).pending .USR1 = false ∧
    ({ Proc.init with pending := SigSet.insert SigSet.empty .USR1 } : Proc).pending .USR1 = true := by decide

/-! ## blocked signals -/

/-- ★ (1) A signal generated while it is blocked becomes pending and has no other effect: nothing is
    caught, the process keeps running, mask and dispositions are unchanged. -/
theorem blocked_signal_becomes_pending (p : Proc) (s : Sig) (ha : p.alive = true) (hm : p.mask s = true)
    (hk : s ≠ .KILL) :
    (generate p s).pending s = true ∧ (generate p s).caught = p.caught ∧
    (generate p s).status = p.status ∧ (generate p s).mask = p.mask ∧ (generate p s).disp = p.disp := by
  simp [generate, ha, hm, hk, SigSet.insert]

theorem flushList_keeps (s : Sig) (r : List Sig) (p : Proc) (hm : p.mask s = true) (hp : p.pending s = true) :
    (flushList p r).mask s = true ∧ (flushList p r).pending s = true := by
  refine flushList_inv (I := fun q => q.mask s = true ∧ q.pending s = true) ?_ r p ⟨hm, hp⟩
  intro q t ⟨hm, hp⟩ _ hmt
  have hk := deliver_frame { q with pending := q.pending.erase t } t
  have hts : t ≠ s := by intro e; subst e; rw [hm] at hmt; cases hmt
  refine ⟨by rw [hk.1]; exact hm, ?_⟩
  rw [hk.2.1]; simp [SigSet.erase, hp]; exact fun h => absurd h.symm hts

/-- ★ (2) A blocked, pending signal stays pending (and blocked) through every step that does not unblock
    it and does not change its disposition: other signals being generated, delivered, blocked, unblocked,
    caught, collected, given new dispositions. -/
theorem blocked_signal_stays_pending_until_unblocked (s : Sig) (p q : Proc)
    (hm : p.mask s = true) (hp : p.pending s = true) (hq : Quiet s p q) :
    q.mask s = true ∧ q.pending s = true := by
  cases hq with
  | gen t =>
    rcases generate_cases p t with e | e | e | e <;> rw [e]
    · exact ⟨hm, hp⟩
    · exact ⟨hm, hp⟩
    · exact ⟨hm, by simp [SigSet.insert, hp]⟩
    · exact ⟨(deliver_frame p t).1 ▸ hm, (deliver_frame p t).2.1 ▸ hp⟩
  | block l =>
    unfold block setMask flush
    exact flushList_keeps s _ _ (by simp [hm]) hp
  | unblock l h =>
    unfold unblock setMask flush
    have hnm : ¬ s ∈ l := by simpa using h
    exact flushList_keeps s _ _ (by simp [hm, hnm]) hp
  | act t d h =>
    have hst : s ≠ t := fun e => h e.symm
    unfold act
    simp only
    split
    · exact ⟨hm, by simp [SigSet.erase, hst, hp]⟩
    · exact ⟨hm, hp⟩
  | take => exact ⟨hm, hp⟩

/-- ★ (3) When the signal is unblocked it is delivered exactly then: with a catching disposition it is
    recorded as caught and is no longer pending. -/
theorem blocked_signal_delivered_on_unblock (p : Proc) (s : Sig) (ha : p.alive = true)
    (hp : p.pending s = true) (hd : p.disp s = .catch)
    (honly : ∀ t, t ≠ s → p.pending t = false) :
    (unblock p [s]).pending s = false ∧ (unblock p [s]).caught.contains s = true ∧
    (unblock p [s]).status = .running := by
  have hs : p.status = .running := by simpa [Proc.alive] using ha
  rw [unblock_single p s ha hp (fun t ht h => by simp [honly t ht] at h)]
  simp only [deliver, hd]
  refine ⟨by simp [SigSet.erase], ?_, hs⟩
  by_cases hc : p.caught.contains s = true
  · rw [if_pos hc]; exact hc
  · rw [if_neg hc]; simp

example : (generate (block Proc.init [.USR1]) .USR1).pending .USR1 = true := by decide
example : (unblock (act (generate (block Proc.init [.USR1]) .USR1) .USR1 .catch).2 [.USR1]).caught = [.USR1] := by
  decide

/-! ## what the driver shows for a forked child (`runChild`, SigStep.lean) -/

theorem listOf_empty : listOf SigSet.empty = [] := by
  simp [listOf, SigSet.empty]

theorem childOps_dead {c : Proc} (p : Proc) (ops : List SOp) (h : c.alive = false) :
    childOps c p ops = (c, p, []) := by
  cases ops <;> simp [childOps, h]

theorem childOps_cons {c : Proc} (p : Proc) (op : SOp) (ops : List SOp) (h : c.alive = true) :
    childOps c p (op :: ops) =
      ((childOps (sstep c (some p) op).1 ((sstep c (some p) op).2.1.getD p) ops).1,
       (childOps (sstep c (some p) op).1 ((sstep c (some p) op).2.1.getD p) ops).2.1,
       match (sstep c (some p) op).2.2 with
       | some o => o :: (childOps (sstep c (some p) op).1 ((sstep c (some p) op).2.1.getD p) ops).2.2
       | none => (childOps (sstep c (some p) op).1 ((sstep c (some p) op).2.1.getD p) ops).2.2) := by
  rw [childOps, h]; rfl

theorem exit_dead {p : Proc} (n : Nat) (h : p.alive = false) : exit p n = p := by simp [exit, h]

/-- ★ End to end: whatever the parent's state (pending signals included) and whatever follows, a child
    that first asks for its pending signals, its mask and a disposition is shown the EMPTY pending set, the
    parent's mask and the parent's disposition — these are the tokens the model column prints. -/
theorem child_first_observations (par : Proc) (s : Sig) (rest : List SOp) :
    ∃ more, (runChild par (.pend :: .mask :: .get s :: .caught :: rest)).2.1 =
      .sigs [] :: .sigs (listOf par.mask) :: .disp (par.disp s) :: .sigs [] :: more := by
  have hl : listOf (fork par).pending = [] := listOf_empty
  have hc : listOf (SigSet.ofList (takeCaught (fork par)).1) = [] := listOf_empty
  refine ⟨(childOps (takeCaught (fork par)).2 par rest).2.2, ?_⟩
  rw [runChild, childOps_cons _ _ _ rfl]
  simp only [sstep, Option.getD]
  rw [childOps_cons _ _ _ rfl]
  simp only [sstep, Option.getD]
  rw [childOps_cons _ _ _ rfl]
  simp only [sstep, Option.getD]
  rw [childOps_cons _ _ _ rfl]
  simp only [sstep, Option.getD]
  rw [hl, hc]
  rfl

/-- the parent's own pending set is untouched by the child's inspection (the parent gets SIGCHLD
    according to its own mask and disposition afterwards, and has one more reaped child) -/
theorem parent_after_inspecting_child (par : Proc) :
    (runChild par [.pend, .mask]).1 = { generate par .CHLD with reaped := par.reaped + 1 } ∧
    (runChild par [.pend, .mask]).2.2 = .exited 0 := by
  simp [runChild, childOps, sstep, Proc.alive, fork, exit]

example : ∃ more, (runChild (generate (block Proc.init [.USR1]) .USR1) [.pend, .mask, .get .USR1, .caught]).2.1 =
    .sigs [] :: .sigs [.USR1] :: .disp .dfl :: .sigs [] :: more := ⟨[], by decide⟩

/-! ## exit statuses have 8 bits; a reaped child is gone -/

theorem ok8_deliver {p : Proc} (h : Ok8 p) (s : Sig) : Ok8 (deliver p s) := by
  rcases deliver_cases p s with e | e | e <;> rw [e]
  · exact h
  · exact h
  · exact fun n hn => nomatch hn

theorem ok8_generate {p : Proc} (h : Ok8 p) (s : Sig) : Ok8 (generate p s) := by
  rcases generate_cases p s with e | e | e | e <;> rw [e]
  · exact h
  · exact fun n hn => nomatch hn
  · exact h
  · exact ok8_deliver h s

theorem ok8_flushList (r : List Sig) {p : Proc} (h : Ok8 p) : Ok8 (flushList p r) :=
  flushList_inv (fun q s hq _ _ => ok8_deliver (p := { q with pending := q.pending.erase s }) hq s) r p h

theorem ok8_fork (p : Proc) : Ok8 (fork p) := fun _ h => nomatch h

theorem ok8_exit (p : Proc) (h : Ok8 p) (n : Nat) : Ok8 (exit p n) := by
  unfold exit
  split
  · intro m hm
    cases hm
    exact Nat.mod_lt _ (by decide)
  · exact h

theorem ok8_sstep {me : Proc} (h : Ok8 me) (par : Option Proc) (op : SOp) : Ok8 (sstep me par op).1 := by
  cases op <;> dsimp only [sstep]
  case blk | unb | set => exact ok8_flushList _ h
  case raise | kgrp => exact ok8_generate h _
  case exit => exact ok8_exit me h _
  case act => unfold act; dsimp only; split <;> exact h
  all_goals exact h

theorem ok8_childOps (ops : List SOp) : ∀ {c : Proc} (p : Proc), Ok8 c → Ok8 (childOps c p ops).1 := by
  induction ops with
  | nil => intro c p h; exact h
  | cons op ops ih =>
    intro c p h
    unfold childOps
    split
    · exact h
    · exact ih _ (ok8_sstep h (some p) op)

/-- ★ Whatever a forked child does — any operations, any `exit N` with N as large as one likes — the
    status the parent's `wait` reports for it, if it is an exit status, is below 256 … -/
theorem child_exit_status_8bit (par : Proc) (ops : List SOp) (n : Nat)
    (h : (runChild par ops).2.2 = .exited n) : n < 256 := by
  have h1 := ok8_childOps ops par (ok8_fork par)
  exact ok8_exit _ h1 0 n h

/-- ★ … namely the low 8 bits of what the child passed to `exit`: a child whose first operation is
    `exit n` is reported as exited with `n % 256` (`exit 300` → 44, `exit 256` → 0: success), whatever the
    parent's state and whatever follows the `exit` in the child's list of operations. -/
theorem child_exit_truncates (par : Proc) (n : Nat) (rest : List SOp) :
    (runChild par (.exit n :: rest)).2.2 = .exited (n % 256) := by
  have hd : (exit (fork par) n).alive = false := rfl
  rw [runChild, childOps_cons _ _ _ rfl]
  simp only [sstep]
  rw [childOps_dead _ _ hd, exit_dead _ hd]
  rfl

example : (runChild Proc.init [.exit 300]).2.2 = .exited 44 ∧ (runChild Proc.init [.exit 256, .exit 1]).2.2 = .exited 0 ∧
    (runChild Proc.init [.pend, .exit 65535]).2.2 = .exited 255 := by decide

/-- ★ Once `wait` has reported a child's termination its process id names nothing: a signal sent to it —
    also the null signal of `kill -0` — is answered ESRCH, and nothing else happens (no signal reaches the
    parent or anyone else, no further SIGCHLD). -/
theorem signal_to_reaped_child_esrch (par : Proc) (ops : List SOp) (s : Option Sig) (other : Option Proc) :
    sstep (runChild par ops).1 other (.klast s) = ((runChild par ops).1, other, some .esrch) := by
  simp [sstep, runChild]

example : (sstep (runChild Proc.init [.exit 3]).1 none (.klast (some .TERM))).2.2 = some .esrch := by decide

/-- ★ What `wait` reports for a child that a signal terminates: a child whose first operation sends itself a
    signal that it neither blocks nor handles and whose default action is to terminate is reported as killed by
    exactly that signal; SIGKILL does so whatever the inherited mask and dispositions are.  Nothing that
    follows in the child's list of operations runs. -/
theorem child_killed_status (par : Proc) (s : Sig) (rest : List SOp) :
    (s = .KILL ∨ (par.mask s = false ∧ par.disp s = .dfl ∧ defaultIgnored s = false)) →
    (runChild par (.raise s :: rest)).2.2 = .signaled s ∧ (runChild par (.raise s :: rest)).2.1 = [] := by
  intro h
  have hg : generate (fork par) s = { fork par with status := .signaled s } := by
    have ha : (fork par).alive = true := rfl
    by_cases hk : s = .KILL
    · subst hk; simp [generate, ha]
    · obtain ⟨hm, hd, hi⟩ := h.resolve_left hk
      have hm' : (fork par).mask s = false := hm
      have hd' : (fork par).disp s = .dfl := hd
      simp [generate, ha, hk, hm', deliver, hd', hi]
  have hdead : (generate (fork par) s).alive = false := by rw [hg]; rfl
  rw [runChild, childOps_cons _ _ _ rfl]
  simp only [sstep]
  rw [childOps_dead _ _ hdead, exit_dead _ hdead, hg]
  exact ⟨rfl, rfl⟩

example : (runChild (block Proc.init [.KILL, .TERM]) [.raise .KILL, .exit 3]).2.2 = .signaled .KILL ∧
    (runChild Proc.init [.raise .TERM, .pend]).2.2 = .signaled .TERM ∧
    (runChild Proc.init [.raise .URG, .exit 7]).2.2 = .exited 7 := by decide

end YashModel.Kernel.Signal
