/-
  Path resolution on a bare tree (`resolve`, `stepDir`, `finalStep` of `Kernel/Model.lean`; no process state).
-/
import YashModel.Kernel.Model
import YashModel.Common.Lists
namespace YashModel.Kernel

/-! ## vocabulary -/

/-- all components are intermediate (each must name an existing directory) -/
def walkDirs (t : Tree) : Path → List String → Except Errno Path
  | cur, [] => .ok cur
  | cur, c :: cs =>
    match stepDir t cur c with
    | .error e => .error e
    | .ok cur' => walkDirs t cur' cs

/-- every component is an ordinary name: not empty, not `.`, not `..` -/
def Canon (p : Path) : Prop := ∀ c, c ∈ p → c ≠ "" ∧ c ≠ "." ∧ c ≠ ".."

/-- `t'` (the later tree) has exactly the directories of `t`; note the direction of the `↔`: `.mp` goes back to `t` -/
def SameDirs (t t' : Tree) : Prop := ∀ p, existing t' p = .dir ↔ existing t p = .dir

def dirCheck (t : Tree) (p : Path) : Except Errno Path :=
  match existing t p with
  | .missing => .error .ENOENT
  | .reg => .error .ENOTDIR
  | .dir => .ok p

/-- Specification of the target of `chdir`: every component is treated alike, and the place reached at the end
    must be a directory. -/
def walkTo (t : Tree) : Path → List String → Except Errno Path
  | cur, [] => dirCheck t cur
  | cur, c :: cs =>
    if c = "" ∨ c = "." then walkTo t cur cs
    else if c = ".." then walkTo t cur.dropLast cs
    else match existing t (cur ++ [c]) with
      | .missing => .error .ENOENT
      | .reg => .error .ENOTDIR
      | .dir => walkTo t (cur ++ [c]) cs

/-- the operand without its empty and `.` components: `d1//dd/./` ↦ `d1/dd` -/
def dropDots (comps : List String) : List String := comps.filter fun c => !(c == "" || c == ".")

/-! ## tree -/

theorem lookup_insert_self (t : Tree) (p : Path) (n : Node) : lookup (insert t p n) p = some n := by
  simp [insert, lookup]

theorem lookup_insert_ne (t : Tree) (p q : Path) (n : Node) (h : p ≠ q) :
    lookup (insert t p n) q = lookup t q := by
  simp [insert, lookup, h]

theorem mem_of_lookup {t : Tree} {p : Path} {n : Node} (h : lookup t p = some n) : (p, n) ∈ t := by
  induction t with
  | nil => cases h
  | cons hd tl ih =>
    rw [lookup] at h
    split at h
    · rename_i hq; cases h; cases hq; exact List.mem_cons_self
    · exact List.mem_cons_of_mem _ (ih h)

theorem mem_of_existing_dir {t : Tree} {p : Path} (h : existing t p = .dir) : ∃ m, (p, .dir m) ∈ t := by
  unfold existing at h
  split at h
  · cases h
  · cases h
  · exact ⟨_, mem_of_lookup ‹_›⟩

theorem existing_insert_reg (t : Tree) (q p : Path) (m : Nat) (c : Bytes) :
    existing (insert t q (.reg m c)) p = if q = p then .reg else existing t p := by
  by_cases h : q = p
  · subst h; simp [existing, lookup_insert_self]
  · simp [existing, lookup_insert_ne _ _ _ _ h, h]

theorem lookup_ne_none_iff (t : Tree) (q : Path) : lookup t q ≠ none ↔ ∃ n, (q, n) ∈ t := by
  induction t with
  | nil => simp [lookup]
  | cons hd tl ih =>
    obtain ⟨q', n'⟩ := hd
    by_cases h : q' = q
    · subst h; simp [lookup]
    · simp only [lookup, h, if_false, List.mem_cons, Prod.mk.injEq]
      rw [ih]
      constructor
      · rintro ⟨n, hn⟩; exact ⟨n, Or.inr hn⟩
      · rintro ⟨n, hn | hn⟩
        · exact absurd hn.1.symm h
        · exact ⟨n, hn⟩

theorem existing_of_lookup_reg {t : Tree} {p : Path} {m : Nat} {c : Bytes} (h : lookup t p = some (.reg m c)) :
    existing t p ≠ .dir := by simp [existing, h]

/-! ## canonical paths, trees with the same directories -/

theorem canon_nil : Canon [] := by intro c h; simp at h

theorem canon_dropLast {p : Path} (h : Canon p) : Canon p.dropLast :=
  fun c hc => h c ((List.dropLast_sublist p).subset hc)

theorem canon_snoc {p : Path} {c : String} (h : Canon p) (h1 : ¬(c = "" ∨ c = ".")) (h3 : c ≠ "..") :
    Canon (p ++ [c]) := by
  intro x hx
  rcases List.mem_append.mp hx with hx | hx
  · exact h x hx
  · cases List.mem_singleton.mp hx
    exact ⟨fun e => h1 (.inl e), fun e => h1 (.inr e), h3⟩

theorem sameDirs_refl (t : Tree) : SameDirs t t := fun _ => Iff.rfl

theorem sameDirs_trans {a b c : Tree} (h1 : SameDirs a b) (h2 : SameDirs b c) : SameDirs a c :=
  fun p => (h2 p).trans (h1 p)

theorem sameDirs_insert_reg (t : Tree) (q : Path) (m : Nat) (c : Bytes) (h : existing t q ≠ .dir) :
    SameDirs t (insert t q (.reg m c)) := by
  intro p
  rw [existing_insert_reg]
  by_cases hq : q = p
  · subst hq; simp [h]
  · simp [hq]

/-! ## one component -/

theorem dirCheck_ok {t : Tree} {p q : Path} (h : dirCheck t p = .ok q) : q = p ∧ existing t p = .dir := by
  unfold dirCheck at h
  cases he : existing t p <;> rw [he] at h <;> cases h
  exact ⟨rfl, rfl⟩

/-- The one place where a component is told apart: it stays (`""`, `.`), goes up (`..`) or is an ordinary name, which
    as the final component is taken as it stands and as an intermediate one must be a directory. -/
theorem comp_cases (cur : Path) (c : String) :
    (c = "" ∨ c = ".") ∧ finalStep cur c = cur ∧ (∀ t, stepDir t cur c = .ok cur) ∨
    c = ".." ∧ finalStep cur c = cur.dropLast ∧ (∀ t, stepDir t cur c = .ok cur.dropLast) ∨
    (¬(c = "" ∨ c = ".") ∧ c ≠ "..") ∧ finalStep cur c = cur ++ [c] ∧ (∀ t, stepDir t cur c = dirCheck t (cur ++ [c])) := by
  unfold stepDir finalStep dirCheck
  by_cases h1 : c = "" ∨ c = "."
  · exact .inl ⟨h1, if_pos h1, fun _ => if_pos h1⟩
  by_cases h2 : c = ".."
  · exact .inr (.inl ⟨h2, by rw [if_neg h1, if_pos h2], fun _ => by rw [if_neg h1, if_pos h2]⟩)
  · exact .inr (.inr ⟨⟨h1, h2⟩, by rw [if_neg h1, if_neg h2],
      fun t => by rw [if_neg h1, if_neg h2]; cases existing t (cur ++ [c]) <;> rfl⟩)

theorem stepDir_ok {t : Tree} {cur d : Path} {c : String} (hs : stepDir t cur c = .ok d) : d = finalStep cur c := by
  rcases comp_cases cur c with ⟨_, f, e⟩ | ⟨_, f, e⟩ | ⟨_, f, e⟩ <;> rw [e] at hs <;> rw [f]
  · cases hs; rfl
  · cases hs; rfl
  · exact (dirCheck_ok hs).1

theorem finalStep_canon {cur : Path} (h : Canon cur) (c : String) : Canon (finalStep cur c) := by
  rcases comp_cases cur c with ⟨_, e, _⟩ | ⟨_, e, _⟩ | ⟨hc, e, _⟩ <;> rw [e]
  · exact h
  · exact canon_dropLast h
  · exact canon_snoc h hc.1 hc.2

theorem stepDir_sameDirs {t t' : Tree} (hs : SameDirs t t') {cur d : Path} {c : String}
    (h : stepDir t cur c = .ok d) : stepDir t' cur c = .ok d := by
  rcases comp_cases cur c with ⟨_, _, e⟩ | ⟨_, _, e⟩ | ⟨_, _, e⟩ <;> rw [e] at h ⊢
  · exact h
  · exact h
  · obtain ⟨rfl, hd⟩ := dirCheck_ok h
    rw [dirCheck, (hs _).mpr hd]

/-- an intermediate component is a final component that must name a directory -/
theorem dirCheck_finalStep (t : Tree) (cur : Path) (c : String) :
    (match stepDir t cur c with
     | .error e => .error e
     | .ok d => dirCheck t d) = dirCheck t (finalStep cur c) := by
  rcases comp_cases cur c with ⟨_, f, e⟩ | ⟨_, f, e⟩ | ⟨_, f, e⟩ <;> rw [e, f]
  cases h : dirCheck t (cur ++ [c]) with
  | error e => rfl
  | ok d => obtain ⟨rfl, _⟩ := dirCheck_ok h; exact h

/-! ## `resolve`: from its head, along a prefix -/

theorem resolve_cons (t : Tree) (cur : Path) (c : String) (rest : List String) :
    resolve t cur (c :: rest) =
      if c = "" ∨ c = "." then resolve t cur rest
      else if c = ".." then resolve t cur.dropLast rest
      else if rest.isEmpty then .ok (cur ++ [c])
      else match existing t (cur ++ [c]) with
        | .missing => .error .ENOENT
        | .reg => .error .ENOTDIR
        | .dir => resolve t (cur ++ [c]) rest := by
  by_cases h1 : c = "" ∨ c = "."
  · cases rest <;> simp only [resolve, finalStep, stepDir, h1, if_true]
  · by_cases h2 : c = ".."
    · subst h2
      cases rest <;> simp only [resolve, finalStep, stepDir, h1, if_true, if_false]
    · cases rest with
      | nil => simp only [resolve, finalStep, h1, h2, if_false, List.isEmpty_nil, if_true]
      | cons c' cs =>
        simp only [resolve, stepDir, h1, h2, if_false, List.isEmpty_cons, Bool.false_eq_true]
        cases existing t (cur ++ [c]) <;> rfl

theorem resolve_append (t : Tree) {rest : List String} (hne : rest ≠ []) : ∀ (pre : List String) (cur : Path),
    resolve t cur (pre ++ rest) =
      match walkDirs t cur pre with
      | .error e => .error e
      | .ok d => resolve t d rest
  | [], _ => rfl
  | c :: cs, cur => by
    obtain ⟨x, xs, e⟩ := List.exists_cons_of_ne_nil (l := cs ++ rest) (by simp [hne])
    rw [List.cons_append, e, resolve, ← e, walkDirs]
    cases stepDir t cur c with
    | error e => rfl
    | ok d => exact resolve_append t hne cs d

theorem resolve_empties (t : Tree) (cur : Path) : ∀ m : Nat, resolve t cur (List.replicate m "") = .ok cur := by
  intro m
  induction m with
  | zero => rfl
  | succ m ih => rw [List.replicate_succ, resolve_cons, if_pos (.inl rfl)]; exact ih

theorem canon_resolve (t : Tree) : ∀ (comps : List String) (cur p : Path), Canon cur →
    resolve t cur comps = .ok p → Canon p
  | [], _, _, h, hr => by cases hr; exact h
  | [c], _, _, h, hr => by cases hr; exact finalStep_canon h c
  | c :: c' :: cs, cur, p, h, hr => by
    rw [resolve] at hr
    cases hs : stepDir t cur c with
    | error e => rw [hs] at hr; cases hr
    | ok d => rw [hs] at hr; exact canon_resolve t (c' :: cs) d p (stepDir_ok hs ▸ finalStep_canon h c) hr

theorem resolve_sameDirs {t t' : Tree} (hs : SameDirs t t') : ∀ (comps : List String) (cur p : Path),
    resolve t cur comps = .ok p → resolve t' cur comps = .ok p
  | [], _, _, h => h
  | [_], _, _, h => h
  | c :: c' :: cs, cur, p, h => by
    rw [resolve] at h ⊢
    cases hd : stepDir t cur c with
    | error e => rw [hd] at h; cases h
    | ok d => rw [hd] at h; rw [stepDir_sameDirs hs hd]; exact resolve_sameDirs hs (c' :: cs) d p h

/-! ## trailing slashes -/

theorem dropTrailingEmpty_eq (l : List String) : dropTrailingEmpty l = Common.rstrip (· = "") l :=
  Common.rstrip_of_rec (· = "") dropTrailingEmpty rfl (fun c cs => by
    rw [dropTrailingEmpty]; cases dropTrailingEmpty cs <;> simp) l

theorem dropTrailingEmpty_unique (a : List String) (n : Nat) (h : a.getLast? ≠ some "") :
    dropTrailingEmpty (a ++ List.replicate n "") = a := by
  rw [dropTrailingEmpty_eq]
  exact Common.rstrip_unique (fun x hx => decide_eq_true (List.eq_of_mem_replicate hx))
    (fun x hx => decide_eq_false fun e => h (e ▸ hx))

theorem slashAfterName_shape (pre : List String) (name : String) (n : Nat)
    (h1 : name ≠ "") (h2 : name ≠ ".") (h3 : name ≠ "..") :
    dropTrailingEmpty (pre ++ name :: List.replicate (n + 1) "") = pre ++ [name] ∧
    slashAfterName (pre ++ name :: List.replicate (n + 1) "") = true := by
  have hd : dropTrailingEmpty (pre ++ name :: List.replicate (n + 1) "") = pre ++ [name] := by
    rw [← List.singleton_append, ← List.append_assoc]
    exact dropTrailingEmpty_unique _ _ (by simp [h1])
  refine ⟨hd, ?_⟩
  unfold slashAfterName
  rw [hd]
  have hl : (pre ++ name :: List.replicate (n + 1) "").getLast? = some "" := by
    rw [List.replicate_succ', ← List.cons_append, ← List.append_assoc, List.getLast?_append]
    simp
  simp [hl, h2, h3]

theorem dropTrailingEmpty_split (l : List String) :
    ∃ n, l = dropTrailingEmpty l ++ List.replicate n "" ∧ (dropTrailingEmpty l).getLast? ≠ some "" := by
  obtain ⟨tail, h1, h2, h3⟩ := Common.rstrip_spec (· = "") l
  rw [← dropTrailingEmpty_eq] at h1 h3
  refine ⟨tail.length, ?_, fun h => by simpa using h3 _ h⟩
  rw [← List.eq_replicate_iff.2 ⟨rfl, fun x hx => of_decide_eq_true (h2 x hx)⟩]
  exact h1

theorem slashAfterName_decompose (comps : List String) (h : slashAfterName comps = true) :
    ∃ pre name n, comps = pre ++ name :: List.replicate (n + 1) "" ∧ name ≠ "" ∧ name ≠ "." ∧ name ≠ ".." := by
  unfold slashAfterName at h
  simp only [Bool.and_eq_true, decide_eq_true_eq] at h
  obtain ⟨hl, hm⟩ := h
  obtain ⟨n, h1, h2⟩ := dropTrailingEmpty_split comps
  cases hg : (dropTrailingEmpty comps).getLast? with
  | none => rw [hg] at hm; simp at hm
  | some name =>
    rw [hg] at hm h2
    simp only [Bool.and_eq_true, ne_eq] at hm
    obtain ⟨pre, hpre⟩ := List.getLast?_eq_some_iff.mp hg
    have hne : name ≠ "" := fun e => h2 (by rw [e])
    cases n with
    | zero =>
      exfalso
      rw [hpre] at h1
      simp only [List.replicate_zero, List.append_nil] at h1
      rw [h1, List.getLast?_append] at hl
      simp at hl
      exact hne hl
    | succ n =>
      refine ⟨pre, name, n, ?_, hne, ?_, ?_⟩
      · rw [h1, hpre, List.append_assoc]; rfl
      · simpa using hm.1
      · simpa using hm.2

/-! ## the uniform walk -/

theorem walkTo_cons (t : Tree) (cur : Path) (c : String) (cs : List String) :
    walkTo t cur (c :: cs) =
      match stepDir t cur c with
      | .error e => .error e
      | .ok d => walkTo t d cs := by
  rw [walkTo]
  rcases comp_cases cur c with ⟨h, _, e⟩ | ⟨h, _, e⟩ | ⟨h, _, e⟩ <;> rw [e]
  · rw [if_pos h]
  · rw [if_neg (by rw [h]; decide), if_pos h]
  · rw [if_neg h.1, if_neg h.2, dirCheck]
    cases existing t (cur ++ [c]) <;> rfl

theorem resolve_check_walkTo (t : Tree) : ∀ (comps : List String) (cur : Path),
    (match resolve t cur comps with
     | .error e => .error e
     | .ok p => dirCheck t p) = walkTo t cur comps
  | [], _ => rfl
  | [c], cur => by rw [walkTo_cons]; exact (dirCheck_finalStep t cur c).symm
  | c :: c' :: cs, cur => by
    rw [resolve, walkTo_cons]
    cases stepDir t cur c with
    | error e => rfl
    | ok d => exact resolve_check_walkTo t (c' :: cs) d

theorem dropDots_cons (c : String) (cs : List String) :
    dropDots (c :: cs) = if c = "" ∨ c = "." then dropDots cs else c :: dropDots cs := by
  unfold dropDots
  rw [List.filter_cons]
  by_cases h1 : c = "" <;> by_cases h2 : c = "." <;> simp [h1, h2]

theorem walkTo_dropDots (t : Tree) : ∀ (comps : List String) (cur : Path),
    walkTo t cur (dropDots comps) = walkTo t cur comps
  | [], _ => rfl
  | c :: cs, cur => by
    rw [walkTo_cons t cur c cs, dropDots_cons]
    by_cases h : c = "" ∨ c = "."
    · rw [if_pos h, stepDir, if_pos h]; exact walkTo_dropDots t cs cur
    · rw [if_neg h, walkTo_cons]
      cases stepDir t cur c with
      | error e => rfl
      | ok d => exact walkTo_dropDots t cs d

theorem walkTo_append (t : Tree) (b : List String) : ∀ (a : List String) (cur p : Path),
    walkTo t cur a = .ok p → walkTo t cur (a ++ b) = walkTo t p b
  | [], cur, p, h => by rw [(dirCheck_ok h).1]; rfl
  | c :: cs, cur, p, h => by
    rw [walkTo_cons] at h
    rw [List.cons_append, walkTo_cons]
    cases hs : stepDir t cur c with
    | error e => rw [hs] at h; cases h
    | ok d => rw [hs] at h; exact walkTo_append t b cs d p h

end YashModel.Kernel
