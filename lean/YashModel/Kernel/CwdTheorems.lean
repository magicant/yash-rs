/-
  C19 — the working directory and the directories of the tree, end to end over `step` / `run`
  (`Kernel/Step.lean`): in every state the driver can reach the working directory is the canonical path of an
  existing directory, whatever the operands of the `chdir`s that led there looked like (`d1/`, `./d1`,
  `d1//dd`, `d1/dd/..`), and `chdir` is a uniform walk over the components.  Last, the file creation mask as
  `open` with O_CREAT applies it and `stat` reports it (it needs that a new file leaves resolution alone).
-/
import YashModel.Kernel.Invariants
namespace YashModel.Kernel

structure CwdInv (k : K) : Prop where
  noBk : NoBk k.tree
  isDir : existing k.tree k.cwd = .dir
  canon : Canon k.cwd

theorem inv_of_eff {k k' : K} (h : CwdInv k) (he : Eff k k') : CwdInv k' ∧ SameDirs k.tree k'.tree := by
  have sd := he.sameDirs h.noBk
  refine ⟨⟨fun name hd => h.noBk name ((sd _).mp hd), (sd _).mpr ?_, ?_⟩, sd⟩
  · rcases he.cwd with hc | hc
    · rw [hc]; exact h.isDir
    · exact hc.1
  · rcases he.cwd with hc | hc
    · rw [hc]; exact h.canon
    · exact hc.2 h.canon

theorem inv_step (k : K) (op : Op) (h : CwdInv k) :
    CwdInv (step k op).1 ∧ SameDirs k.tree (step k op).1.tree :=
  inv_of_eff h (step_eff k op)

theorem path_obs_is_cwd (k : K) (op : Op) (p : Path) (h : (step k op).2 = .path p) : p = k.cwd := by
  revert h
  -- every answer but that of `.cwd` is another constructor of `Obs`
  cases op <;> dsimp only [step] <;> (repeat' split) <;> intro h <;> cases h
  rfl

theorem cwd_run (k0 : K) (h0 : CwdInv k0) (ops : List Op) :
    (CwdInv (run k0 ops).2 ∧ SameDirs k0.tree (run k0 ops).2.tree) ∧
    ∀ o, o ∈ (run k0 ops).1 → ∀ p, o = .path p → Canon p ∧ existing k0.tree p = .dir := by
  refine run_inv (I := fun k => CwdInv k ∧ SameDirs k0.tree k.tree) ?_ ops k0 ⟨h0, sameDirs_refl _⟩
  intro k op ⟨hk, sk⟩
  obtain ⟨h1, s1⟩ := inv_step k op hk
  refine ⟨⟨h1, sameDirs_trans sk s1⟩, fun p hp => ?_⟩
  cases path_obs_is_cwd k op p hp
  exact ⟨hk.canon, (sk _).mp hk.isDir⟩

/-- ★ No operation sequence of the case language adds or removes a directory: in every reachable state the
    directories are exactly those of the initial state (the System traits offer no mkdir/rmdir/rename, and no
    `open` — with whatever flags, through whatever path — turns a directory into a file or creates one). -/
theorem dirs_never_change (k0 : K) (h0 : CwdInv k0) (ops : List Op) (p : Path) :
    existing (run k0 ops).2.tree p = .dir ↔ existing k0.tree p = .dir :=
  (cwd_run k0 h0 ops).1.2 p

/-- ★ The working directory is canonical in every reachable state: after any sequence of operations —
    `chdir`s with operands through `.`, `..`, doubled and trailing slashes included, failed ones included —
    it is a list of ordinary names (no empty component, no `.`, no `..`) that names a directory, and that
    directory already existed in the initial state. -/
theorem cwd_canonical_run (k0 : K) (h0 : CwdInv k0) (ops : List Op) :
    Canon (run k0 ops).2.cwd ∧ existing (run k0 ops).2.tree (run k0 ops).2.cwd = .dir ∧
    existing k0.tree (run k0 ops).2.cwd = .dir := by
  obtain ⟨⟨h, s⟩, _⟩ := cwd_run k0 h0 ops
  exact ⟨h.canon, h.isDir, (s _).mp h.isDir⟩

/-- ★ … and so is every answer `getcwd` gives anywhere in a case: each `.path p` among the observations of a
    run is a canonical path of a directory of the initial tree. -/
theorem cwd_answers_canonical (ops : List Op) : ∀ (k0 : K), CwdInv k0 → ∀ o, o ∈ (run k0 ops).1 →
    ∀ p, o = .path p → Canon p ∧ existing k0.tree p = .dir :=
  fun k0 h0 => (cwd_run k0 h0 ops).2

/-! ## `chdir` as a uniform walk -/

/-- ★ `chdir` is the uniform walk `walkTo`: it fails with the walk's errno and changes nothing,
    or moves the working directory to where the walk ends — never to the operand as written. -/
theorem chdir_is_walk (k : K) (comps : List String) :
    chdir k comps = match walkTo k.tree k.cwd comps with
      | .error e => .err e
      | .ok p => .ok () { k with cwd := p } := by
  rw [← resolve_check_walkTo]
  unfold chdir
  cases resolve k.tree k.cwd comps with
  | error e => rfl
  | ok p => simp only [dirCheck]; cases existing k.tree p <;> rfl

/-- ★ Trailing slashes, doubled slashes and `.` components of the operand make no difference at all to
    `chdir`: same errno, or the very same resulting state — `chdir d1/`, `chdir ./d1`, `chdir d1/.//` all do
    what `chdir d1` does.  (A `chdir` that stores the operand as written in these cases is what the seeded change of the check does.) -/
theorem chdir_ignores_dot_and_slash (k : K) (comps : List String) :
    chdir k (dropDots comps) = chdir k comps := by
  rw [chdir_is_walk, chdir_is_walk, walkTo_dropDots]

/-- ★ Two directory changes in a row are one change to the concatenated operand: if `chdir a` succeeds, then
    `chdir b` afterwards answers and ends exactly as `chdir a/b` from the start would have. -/
theorem chdir_compose (k k1 : K) (a b : List String) (h : chdir k a = .ok () k1) :
    (match chdir k1 b with | .ok _ k2 => some k2.cwd | .err _ => none) =
    (match chdir k (a ++ b) with | .ok _ k2 => some k2.cwd | .err _ => none) ∧
    (∀ e, chdir k1 b = .err e ↔ chdir k (a ++ b) = .err e) := by
  rw [chdir_is_walk] at h
  cases hw : walkTo k.tree k.cwd a with
  | error e => rw [hw] at h; simp at h
  | ok p =>
    rw [hw] at h
    injection h with _ h; subst h
    rw [chdir_is_walk, chdir_is_walk, walkTo_append _ b a _ _ hw]
    cases walkTo k.tree p b with
    | error e => exact ⟨rfl, fun e' => by simp⟩
    | ok q => exact ⟨rfl, fun e' => by simp⟩

/-- ★ Down and up again: from a state whose working directory is a directory, `chdir name` followed by
    `chdir ..` is back where it started (storing `cwd/name/..` instead is divergence D5). -/
theorem chdir_parent_returns (k k1 : K) (name : String) (hd : existing k.tree k.cwd = .dir)
    (h1 : name ≠ "") (h2 : name ≠ ".") (h3 : name ≠ "..")
    (h : chdir k [name] = .ok () k1) : chdir k1 [".."] = .ok () k := by
  obtain ⟨p, hr, _, rfl⟩ := chdir_ok h
  simp only [resolve, finalStep, h1, h2, h3, false_or, if_false] at hr
  cases hr
  simp [chdir, resolve, finalStep, hd]

/-- the root, `d`, `d/e` are directories, `f` a regular file; the working directory is `d` -/
def exKd : K :=
  { tree := [([], .dir 493), (["d"], .dir 493), (["d", "e"], .dir 493), (["f"], .reg 420 []),
             (["..std", "0"], .reg 420 [])],
    ofds := [], fds := fun _ => none, limit := 8, umask := 18, cwd := ["d"] }

theorem exKd_inv : CwdInv exKd := by
  refine ⟨?_, by decide, ?_⟩
  · intro name h
    obtain ⟨m, hm⟩ := mem_of_existing_dir h
    simp [exKd] at hm
  · intro c hc
    cases List.mem_singleton.mp hc; decide

example : (run exKd [.chdir ["e", ""], .cwd, .chdir [".", "..", "", "e", "."], .cwd, .chdir ["..", "..", "f"], .cwd]).1 =
    [.ok, .path ["d", "e"], .ok, .path ["d", "e"], .err .ENOTDIR, .path ["d", "e"]] := by decide +kernel

example : ∃ k1, chdir exKd ["e"] = .ok () k1 ∧ chdir k1 [".."] = .ok () exKd := ⟨_, rfl, rfl⟩

example : dropDots ["d1", "", "dd", ".", ""] = ["d1", "dd"] := by decide

/-! ## the file creation mask, end to end -/

/-- ★ The file creation mask end to end, as the driver computes it: `open` with O_CREAT of a path that
    resolves to a missing name (a free descriptor, no trailing slash) succeeds, and `stat` of the same path
    right afterwards reports an empty regular file whose mode is `mode & ~umask & 0777` — with the mask in force
    at that moment, whatever earlier `umask` calls set it to; `umask` itself answers the previous mask and
    keeps the nine low bits of its argument. -/
theorem umask_applies_to_created_file (k : K) (p : List String) (q : Path) (a : Access) (f : Flags) (m : Nat)
    (hg : guarded k p = false) (hfd : allocFd k 0 ≠ none) (hr : resolve k.tree k.cwd p = .ok q)
    (hm : existing k.tree q = .missing) (hc : f.create = true) (hs : slashAfterName p = false) :
    (∃ fd k', step k (.open p a f m) = (k', .num fd) ∧
      (step k' (.stat p)).2 = .node (.reg (createMode m k.umask) []) ∧ k'.umask = k.umask) ∧
    (∀ u, step k (.umask u) = ({ k with umask := u % 512 }, .num k.umask)) := by
  refine ⟨?_, fun u => rfl⟩
  obtain ⟨fd, ha⟩ := Option.ne_none_iff_exists'.mp hfd
  have ho : open' k p a f m = .ok fd (installFd k (insert k.tree q (.reg (createMode m k.umask) [])) fd q a f) := by
    rw [open'_resolved a f m ha hr, hm, openOutcome, hc]; rfl
  have hr' : resolve (insert k.tree q (.reg (createMode m k.umask) [])) k.cwd p = .ok q :=
    resolve_sameDirs (sameDirs_insert_reg _ _ _ _ (by simp [hm])) p k.cwd q hr
  have hg' : guarded (installFd k (insert k.tree q (.reg (createMode m k.umask) [])) fd q a f) p = false := hg
  refine ⟨fd, installFd k (insert k.tree q (.reg (createMode m k.umask) [])) fd q a f,
    by simp [step, hg, openT_agrees_with_open k p a f m (by simp [hs]), ho], ?_, rfl⟩
  simp only [step, hg']
  simp [statPath, installFd, hr', lookup_insert_self]

example : (run exKd [.umask 0o27, .open ["new"] .w { create := true } 0o666, .stat ["new"], .umask 0o1777,
    .open ["e", "..", "x"] .w { create := true, excl := true } 0o7777, .stat ["x"]]).1 =
    [.num 18, .num 0, .node (.reg 0o640 []), .num 0o27, .num 1, .node (.reg 0 [])] := by decide +kernel

example : guarded exKd ["new"] = false ∧ allocFd exKd 0 ≠ none ∧ resolve exKd.tree exKd.cwd ["new"] = .ok ["d", "new"] ∧
    existing exKd.tree ["d", "new"] = .missing ∧ slashAfterName ["new"] = false :=
  ⟨by decide, by decide, rfl, by decide, by decide⟩

end YashModel.Kernel
