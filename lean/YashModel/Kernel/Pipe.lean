/-
  C19 pivot: anonymous pipes on top of `Kernel/Model.lean` (`Pipe::pipe`, `Read`, `Write`, `Seek`,
  `Fcntl::get_and_set_nonblocking` of yash-env on a pipe).

  A pipe is kept as a bookkeeping entry `["..std", "pipe<n>"]` of the tree (never reachable by a path
  operation, never shown in the final tree): its content is every byte ever written, the read end is an
  open file description whose offset counts the bytes consumed, the write end appends.  Both ends are
  used in non-blocking mode by the harness (a blocking read on a real kernel would hang the run), so an
  empty pipe answers EAGAIN while a write end is open and end-of-file (0 bytes) when none is; a write
  without a read end answers EPIPE (SIGPIPE is ignored by the harness).  Capacity is not modelled: plain
  writes of the generator stay far below `PIPE_BUF`, and `fill` (below) only records that the pipe is full.

  Import-free and executable.
-/
import YashModel.Kernel.Model
namespace YashModel.Kernel

/-- is some descriptor below the limit open on an end of the pipe `p` (`wr` selects the end)? -/
def pipeEndOpen (k : K) (p : Path) (wr : Bool) : Bool :=
  (List.range k.limit).any fun fd =>
    match getOfd k fd with
    | some (_, o) => o.pipe && o.path == p && (if wr then o.wr else o.rd)
    | none => false

/-- `pipe()`: two descriptors (lowest free, then next lowest), or EMFILE and nothing changes -/
def pipe' (k : K) : Res (Nat × Nat) :=
  match allocFd k 0 with
  | none => .err .EMFILE
  | some r =>
    let p : Path := ["..std", s!"pipe{k.ofds.length}"]
    let rdEnd : Ofd := { path := p, rd := true, wr := false, app := false, off := 0, pipe := true, nonblock := true }
    let wrEnd : Ofd := { path := p, rd := false, wr := true, app := true, off := 0, pipe := true, nonblock := true }
    let k1 : K := { k with tree := insert k.tree p (.reg 384 []), ofds := k.ofds ++ [rdEnd, wrEnd],
                           fds := setFd k.fds r (some { ofd := k.ofds.length, cloexec := false }) }
    match allocFd k1 0 with
    | none => .err .EMFILE
    | some w => .ok (r, w) { k1 with fds := setFd k1.fds w (some { ofd := k.ofds.length + 1, cloexec := false }) }

/-- `read` on any descriptor -/
def readAny (k : K) (fd n : Nat) : Res Bytes :=
  match getOfd k fd with
  | some (_, o) =>
    if o.pipe && o.rd then
      match lookup k.tree o.path with
      | some (.reg _ c) =>
        if n = 0 then .ok [] k
        else if (readAt c o.off n).isEmpty && pipeEndOpen k o.path true then .err .EAGAIN
        else read k fd n
      | _ => read k fd n
    else read k fd n
  | none => read k fd n

/-- `write` on any descriptor -/
def writeAny (k : K) (fd : Nat) (bs : Bytes) : Res Nat :=
  match getOfd k fd with
  | some (_, o) =>
    if o.pipe && o.wr && !pipeEndOpen k o.path false then .err .EPIPE
    else if o.pipe && o.wr && o.full then .err .EAGAIN
    else write k fd bs
  | none => write k fd bs

/-- what `fill` leaves in the pipe for later reads (`x` bytes; the real amount is not modelled) -/
def fillBytes : Bytes := List.replicate 1024 120

/-- the harness's `fill`: non-blocking writes until the kernel refuses even one byte.  The capacity is
    not modelled (it differs between the two implementations); what is kept is the fact "full" on the
    write end's open file description, and some bytes to read. -/
def fillPipe (k : K) (fd : Nat) : Res Unit :=
  match getOfd k fd with
  | none => .err .EBADF
  | some (i, o) =>
    if !o.wr then .err .EBADF
    else if !o.pipe then .err .EINVAL
    else if !pipeEndOpen k o.path false then .err .EPIPE
    else
      match lookup k.tree o.path with
      | some (.reg m c) =>
        .ok () { (updOfd k i { o with full := true }) with
                 tree := insert k.tree o.path (.reg m (c ++ fillBytes)) }
      | _ => .err .EINVAL

/-- `select` for writing with a zero timeout.  A pipe's write end is ready when a write would not block:
    there is room — or there is no reader left, in which case the write fails at once with EPIPE.  The
    second half is what releases a writer that is blocked on a full pipe when the last reader goes away. -/
def writeReady (k : K) (fd : Nat) : Except Errno Bool :=
  match getOfd k fd with
  | none => .error .EBADF
  | some (_, o) => .ok (if o.pipe && o.wr then !pipeEndOpen k o.path false || !o.full else true)

/-- `select` for reading with a zero timeout: data, or end-of-file (no writer left) -/
def readReady (k : K) (fd : Nat) : Except Errno Bool :=
  match getOfd k fd with
  | none => .error .EBADF
  | some (_, o) =>
    if o.pipe && o.rd then
      match lookup k.tree o.path with
      | some (.reg _ c) => .ok (!(readAt c o.off 1).isEmpty || !pipeEndOpen k o.path true)
      | _ => .ok true
    else .ok true

/-- `lseek` on any descriptor -/
def seekAny (k : K) (fd : Nat) (w : Whence) (d : Int) : Res (Option Nat) :=
  match getOfd k fd with
  | some (_, o) => if o.pipe then .err .ESPIPE else seek k fd w d
  | none => seek k fd w d

/-- `get_and_set_nonblocking(fd, b)`: previous value of O_NONBLOCK of the open file description -/
def setNonblock (k : K) (fd : Nat) (b : Bool) : Res Bool :=
  match getOfd k fd with
  | none => .err .EBADF
  | some (i, o) => .ok o.nonblock (updOfd k i { o with nonblock := b })

/-- `open_tmpfile()` (here-documents): an anonymous read-write file on the lowest free descriptor.  The
    descriptor does NOT have FD_CLOEXEC (`RealSystem` clears the flag the `tempfile` crate sets); the file
    is a bookkeeping entry of the tree that no path reaches, mode 0600. -/
def tmpfile (k : K) : Res Nat :=
  match allocFd k 0 with
  | none => .err .EMFILE
  | some fd =>
    let p : Path := ["..std", s!"tmp{k.ofds.length}"]
    .ok fd { k with tree := insert k.tree p (.reg 384 []),
                    ofds := k.ofds ++ [{ path := p, rd := true, wr := true, app := false, off := 0 }],
                    fds := setFd k.fds fd (some { ofd := k.ofds.length, cloexec := false }) }

end YashModel.Kernel
