/-
  C19 — the laws of single calls of the pivot kernel model (`Kernel/Model.lean`, `Kernel/Pipe.lean`).

  The pivot is the third party of the three-way comparison VirtualSystem / RealSystem / pivot
  (harness/src/bin/c19.rs); these theorems say that the pivot itself obeys the POSIX laws the shell
  relies on, for all states, descriptors, contents and paths.  They are theorems about the pivot, not
  about the Linux kernel and not about `VirtualSystem`: the ties to both are the correspondence run.
-/
import YashModel.Kernel.Lemmas
namespace YashModel.Kernel

/-! ## descriptor allocation -/

/-- ★ A descriptor handed out by `allocFd` (used by `open`, `dup`, `opendir`) is the lowest free one
    at or above the requested minimum, and is below the soft limit. -/
theorem lowest_fd (k : K) (min n : Nat) (h : allocFd k min = some n) :
    min ≤ n ∧ n < k.limit ∧ k.fds n = none ∧ ∀ m, min ≤ m → m < n → k.fds m ≠ none := by
  rcases findFree_spec k.fds (k.limit - min) min with ⟨r, e, h1, h2, h3, h4⟩ | ⟨e, _⟩
  · cases e.symm.trans h
    exact ⟨h1, by omega, Option.isNone_iff_eq_none.1 h3, fun m a b c => by have := h4 m a b; rw [c] at this; cases this⟩
  · cases e.symm.trans h

/-- … and it fails only when every descriptor in `[min, limit)` is taken. -/
theorem lowest_fd_full (k : K) (min : Nat) (h : allocFd k min = none) :
    ∀ m, min ≤ m → m < k.limit → k.fds m ≠ none := by
  rcases findFree_spec k.fds (k.limit - min) min with ⟨r, e, _⟩ | ⟨_, h4⟩
  · cases e.symm.trans h
  · exact fun m a b c => by have := h4 m a (by omega); rw [c] at this; cases this

theorem allocFd_lt_limit {k : K} {min n : Nat} (h : allocFd k min = some n) : n < k.limit :=
  (lowest_fd k min n h).2.1

theorem installFd_lowest {k : K} {fd : Nat} (ha : allocFd k 0 = some fd) (t : Tree) (p : Path) (acc : Access) (f : Flags) :
    k.fds fd = none ∧ (∀ m, m < fd → k.fds m ≠ none) ∧ fd < k.limit ∧
    (installFd k t fd p acc f).fds fd = some { ofd := k.ofds.length, cloexec := f.cloexec } ∧
    (∀ n, n ≠ fd → (installFd k t fd p acc f).fds n = k.fds n) := by
  obtain ⟨_, h2, h3, h4⟩ := lowest_fd k 0 fd ha
  refine ⟨h3, fun m hm => h4 m (Nat.zero_le _) hm, h2, by simp [installFd, setFd], ?_⟩
  intro m hm; simp [installFd, setFd, hm]

/-- `open` returns the lowest free descriptor and binds it to a fresh open file description at offset 0. -/
theorem open_lowest_fd (k k' : K) (comps : List String) (acc : Access) (f : Flags) (mode fd : Nat)
    (h : open' k comps acc f mode = .ok fd k') :
    k.fds fd = none ∧ (∀ m, m < fd → k.fds m ≠ none) ∧ fd < k.limit ∧
    k'.fds fd = some { ofd := k.ofds.length, cloexec := f.cloexec } ∧
    (∀ n, n ≠ fd → k'.fds n = k.fds n) ∧
    ∃ o, k'.ofds[k.ofds.length]? = some o ∧ o.off = 0 ∧ o.app = f.append ∧
      o.rd = acc.readable ∧ o.wr = acc.writable := by
  obtain ⟨p, t, ha, _, rfl, _⟩ := open_ok h
  obtain ⟨h1, h2, h3, h4, h5⟩ := installFd_lowest ha t p acc f
  exact ⟨h1, h2, h3, h4, h5, { path := p, rd := acc.readable, wr := acc.writable, app := f.append, off := 0 },
    by simp [installFd], rfl, rfl, rfl, rfl⟩

/-- descriptors 0 and 2 open, 1 free -/
def exK1 : K where
  tree := [([], .dir 493), (["f"], .reg 420 [])]
  ofds := [{ path := ["f"], rd := true, wr := false, app := false, off := 0 }]
  fds := fun n => if n = 0 ∨ n = 2 then some ⟨0, false⟩ else none
  limit := 8
  umask := 18
  cwd := []

example : ∃ k', open' exK1 ["f"] .r {} 0 = .ok 1 k' := ⟨_, rfl⟩

/-! ## `dup2` -/

/-- ★ `dup2`: (1) a closed source is EBADF; (2) a target other than the source at or above the limit is EBADF;
    (3) `dup2(a, a)` on an open descriptor returns `a` and changes nothing (FD_CLOEXEC included) — whatever the limit;
    (4) otherwise the target shares the source's open file description, has FD_CLOEXEC clear, every
    other descriptor, every open file description and the file tree are untouched. -/
theorem dup2_laws (k : K) (a b : Nat) :
    (k.fds a = none → dup2 k a b = .err .EBADF) ∧
    (∀ e, k.fds a = some e → a ≠ b → k.limit ≤ b → dup2 k a b = .err .EBADF) ∧
    (∀ e, k.fds a = some e → dup2 k a a = .ok a k) ∧
    (∀ e, k.fds a = some e → b < k.limit → a ≠ b →
      ∃ k', dup2 k a b = .ok b k' ∧ k'.fds b = some { ofd := e.ofd, cloexec := false } ∧
        (∀ n, n ≠ b → k'.fds n = k.fds n) ∧ k'.ofds = k.ofds ∧ k'.tree = k.tree ∧
        k'.cwd = k.cwd ∧ k'.umask = k.umask ∧ k'.limit = k.limit) := by
  refine ⟨?_, ?_, ?_, ?_⟩
  · intro h; simp [dup2, h]
  · intro e h hne hb; simp [dup2, h, hb, hne]
  · intro e h
    simp [dup2, h]
  · intro e h hb hne
    have : ¬ b ≥ k.limit := by omega
    refine ⟨{ k with fds := setFd k.fds b (some { ofd := e.ofd, cloexec := false }) },
      by simp [dup2, h, this, hne], by simp [setFd], ?_, rfl, rfl, rfl, rfl, rfl⟩
    intro n hn; simp [setFd, hn]

/-- a consequence the shell depends on: after `dup2(a, b)` both descriptors see one offset -/
theorem dup2_shares_offset (k : K) (a b i : Nat) (o : Ofd) (hb : b < k.limit) (hne : a ≠ b)
    (hg : getOfd k a = some (i, o)) :
    ∃ k', dup2 k a b = .ok b k' ∧ getOfd k' b = some (i, o) ∧ getOfd k' a = some (i, o) := by
  obtain ⟨e, he, hi, ho⟩ := getOfd_some hg
  obtain ⟨k', h1, h2, h3, h4, _⟩ := (dup2_laws k a b).2.2.2 e he hb hne
  refine ⟨k', h1, ?_, ?_⟩
  · simp [getOfd, h2, h4, hi, ho]
  · simp [getOfd, h3 a hne, he, h4, hi, ho]

/-- plain evaluation, no call of the model: in the table `n ↦ if n = 3 then some ⟨0, true⟩ else none` descriptor 3 is
    open, and 3 is below a limit of 8 (the shape of the hypotheses `k.fds a = some e`, `b < k.limit` of the fourth law) -/
example : (fun n => if n = 3 then some (⟨0, true⟩ : FdEntry) else none) 3 = some ⟨0, true⟩ ∧ (3 : Nat) < 8 := by decide

/-! ## append mode -/

/-- ★ A write through an O_APPEND description lands at the end of the file whatever the current offset
    is, extends the file by exactly the bytes written, and leaves the offset at the new end. -/
theorem append_writes_at_end (k : K) (fd i m : Nat) (o : Ofd) (c bs : Bytes)
    (hg : getOfd k fd = some (i, o)) (hw : o.wr = true) (happ : o.app = true)
    (hl : lookup k.tree o.path = some (.reg m c)) (hne : bs ≠ []) :
    ∃ k', write k fd bs = .ok bs.length k' ∧
      lookup k'.tree o.path = some (.reg m (c ++ bs)) ∧
      getOfd k' fd = some (i, { o with off := c.length + bs.length }) := by
  have hpos : writePos o c = c.length := by simp [writePos, happ]
  refine ⟨_, write_reg hg hw hl hne, ?_, ?_⟩
  · rw [hpos, writeAt_end]; exact lookup_insert_self _ _ _
  · rw [hpos]; exact getOfd_updOfd _ hg

/-- an append-mode description at offset 1 on a three-byte file -/
def exK2 : K where
  tree := [(["f"], .reg 420 [1, 2, 3])]
  ofds := [{ path := ["f"], rd := false, wr := true, app := true, off := 1 }]
  fds := fun _ => some ⟨0, false⟩
  limit := 8
  umask := 0
  cwd := []

example : ∃ k', write exK2 0 [9] = .ok 1 k' ∧ lookup k'.tree ["f"] = some (.reg 420 [1, 2, 3, 9]) :=
  ⟨_, rfl, rfl⟩

/-! ## the decision table of `open` -/

/-- ★ The decision table of `open` over (missing | regular | directory) × access × flags:
    O_CREAT|O_EXCL on anything existing is EEXIST; a missing file is created iff O_CREAT, else ENOENT;
    an existing regular file is opened, truncated iff O_TRUNC (ENOTDIR under O_DIRECTORY); a directory
    opens only read-only without O_CREAT/O_TRUNC, else EISDIR; only a missing file gives "create", only a regular
    file under O_TRUNC gives "truncate".  (A statement about `openOutcome`; that a failing `open` changes nothing is
    `failed_step_changes_nothing`.) -/
theorem trunc_excl_table :
    ∀ (ex : Existing) (w c x t a e d : Bool),
      let f : Flags := { create := c, excl := x, trunc := t, append := a, cloexec := e, directory := d }
      (ex ≠ .missing → c = true → x = true → openOutcome ex w f = .eexist) ∧
      (ex = .missing → openOutcome ex w f = if c then .create else .enoent) ∧
      (ex = .reg → (c && x) = false →
        openOutcome ex w f = if d then .enotdir else if t then .openTrunc else .openKeep) ∧
      (ex = .dir → (c && x) = false →
        openOutcome ex w f = if w || c || t then .eisdir else .openKeep) ∧
      (openOutcome ex w f = .create → ex = .missing) ∧
      (openOutcome ex w f = .openTrunc → ex = .reg ∧ t = true) := by
  intro ex w c x t a e d f
  refine ⟨?_, ?_, ?_, ?_, openOutcome_create, openOutcome_openTrunc⟩
  · intro h hc hx
    subst hc hx
    cases ex
    · exact absurd rfl h
    · rfl
    · rfl
  · intro h; subst h; rfl
  · intro h hcx; subst h; simp [openOutcome, f, hcx]
  · intro h hcx; subst h; simp [openOutcome, f, hcx]

/-- the table is what `open` executes: O_CREAT|O_EXCL on an existing file fails with EEXIST … -/
theorem open_excl_existing (k : K) (comps : List String) (acc : Access) (f : Flags) (mode : Nat) (p : Path)
    (hfd : allocFd k 0 ≠ none) (hr : resolve k.tree k.cwd comps = .ok p)
    (hex : existing k.tree p ≠ .missing) (hc : f.create = true) (hx : f.excl = true) :
    open' k comps acc f mode = .err .EEXIST := by
  obtain ⟨fd, ha⟩ := Option.ne_none_iff_exists'.mp hfd
  rw [open'_resolved acc f mode ha hr,
    (trunc_excl_table _ _ f.create f.excl f.trunc f.append f.cloexec f.directory).1 hex hc hx]

/-- … and O_TRUNC empties an existing regular file, keeping its mode. -/
theorem open_trunc (k : K) (comps : List String) (acc : Access) (f : Flags) (mode m : Nat) (p : Path) (c : Bytes)
    (hfd : allocFd k 0 ≠ none) (hr : resolve k.tree k.cwd comps = .ok p)
    (hl : lookup k.tree p = some (.reg m c)) (hcx : (f.create && f.excl) = false)
    (hd : f.directory = false) (ht : f.trunc = true) :
    ∃ fd k', open' k comps acc f mode = .ok fd k' ∧ lookup k'.tree p = some (.reg m []) := by
  obtain ⟨fd, ha⟩ := Option.ne_none_iff_exists'.mp hfd
  have ho : openOutcome (existing k.tree p) acc.writable f = .openTrunc := by
    simp [existing, hl, openOutcome, hcx, hd, ht]
  rw [open'_resolved acc f mode ha hr, ho]
  simp only [hl]
  exact ⟨_, _, rfl, lookup_insert_self _ _ _⟩

/-! ## `openT`: `open'`, except for O_CREAT through a trailing slash -/

theorem openT_ok {k k' : K} {comps : List String} {acc : Access} {f : Flags} {mode fd : Nat}
    (h : openT k comps acc f mode = .ok fd k') : open' k comps acc f mode = .ok fd k' := by
  unfold openT at h
  by_cases hc : (f.create && slashAfterName comps) = true
  · rw [if_pos hc] at h; split at h; cases h; split at h <;> cases h
  · rw [if_neg hc] at h; exact h

/-- away from O_CREAT through a trailing slash `openT` is `open'`: every law about `open'` is a law about what the
    driver computes -/
theorem openT_agrees_with_open (k : K) (comps : List String) (acc : Access) (f : Flags) (mode : Nat)
    (h : (f.create && slashAfterName comps) = false) : openT k comps acc f mode = open' k comps acc f mode := by
  simp [openT, h]

theorem openT_slash (k : K) {comps : List String} (acc : Access) {f : Flags} (mode : Nat)
    (hc : f.create = true) (hs : slashAfterName comps = true) :
    openT k comps acc f mode =
      match allocFd k 0 with
      | none => .err .EMFILE
      | some _ =>
        match resolve k.tree k.cwd (dropTrailingEmpty comps) with
        | .error e => .err e
        | .ok _ => .err .EISDIR := by
  simp only [openT, hc, hs, Bool.and_self, if_true]
  rfl

/-! ## read after write -/

/-- ★ What was written is what is read back: write `bs` at the description's offset (not O_APPEND),
    seek back to that offset, read `|bs|` bytes — the result is `bs` (also when the write started
    beyond the end of the file). -/
theorem read_after_write (k : K) (fd i m : Nat) (o : Ofd) (c bs : Bytes)
    (hg : getOfd k fd = some (i, o)) (hw : o.wr = true) (hr : o.rd = true) (happ : o.app = false)
    (hl : lookup k.tree o.path = some (.reg m c)) (hne : bs ≠ []) :
    ∃ k1 k2 k3, write k fd bs = .ok bs.length k1 ∧
      seek k1 fd .set o.off = .ok (some o.off) k2 ∧
      read k2 fd bs.length = .ok bs k3 := by
  have hpos : writePos o c = o.off := by simp [writePos, happ]
  have h1 := write_reg hg hw hl hne
  rw [hpos] at h1
  have hg1 := getOfd_updOfd (o' := { o with off := o.off + bs.length })
    (insert k.tree o.path (.reg m (writeAt c o.off bs))) hg
  have hl1 := lookup_insert_self k.tree o.path (.reg m (writeAt c o.off bs))
  refine ⟨_, updOfd _ i { o with off := o.off }, _, h1, ?_,
    (read_reg _ (getOfd_updOfd_bare hg1) hr hl1).trans (by rw [readAt_writeAt])⟩
  have hnn : ¬ ((0 : Int) + (o.off : Int) < 0) := by omega
  simp only [seek, hg1, hl1, hnn]
  simp

/-- a read-write description at offset 5, beyond the end of a three-byte file -/
def exK3 : K where
  tree := [(["f"], .reg 420 [1, 2, 3])]
  ofds := [{ path := ["f"], rd := true, wr := true, app := false, off := 5 }]
  fds := fun _ => some ⟨0, false⟩
  limit := 8
  umask := 0
  cwd := []

example : ∃ k1 k2 k3, write exK3 0 [7, 8] = .ok 2 k1 ∧
    seek k1 0 .set 5 = .ok (some 5) k2 ∧ read k2 0 2 = .ok [7, 8] k3 := ⟨_, _, _, rfl, rfl, rfl⟩

/-! ## missing parent directories -/

/-- ★ `open` never creates missing parent directories: if, after the existing directories `pre`, the
    next component `c` of the path is not there and is not the last component, `open` fails — with
    ENOENT when a descriptor was available (EMFILE otherwise) — whatever the flags (O_CREAT included),
    so no file and no directory comes into being. -/
theorem open_missing_parent_enoent (k : K) (pre : List String) (d : Path) (c c' : String) (rest : List String)
    (acc : Access) (f : Flags) (mode : Nat)
    (hpre : walkDirs k.tree k.cwd pre = .ok d)
    (h1 : c ≠ "") (h2 : c ≠ ".") (h3 : c ≠ "..") (hm : lookup k.tree (d ++ [c]) = none) :
    open' k (pre ++ c :: c' :: rest) acc f mode =
      .err (if allocFd k 0 = none then .EMFILE else .ENOENT) := by
  have hres : resolve k.tree k.cwd (pre ++ c :: c' :: rest) = .error .ENOENT := by
    rw [resolve_append _ (by simp), hpre]
    simp [resolve, stepDir, existing, h1, h2, h3, hm]
  unfold open'
  cases hfd : allocFd k 0 with
  | none => simp
  | some fd => simp [hres]

example : walkDirs [([], .dir 493), (["d1"], .dir 493)] [] ["d1"] = .ok ["d1"] ∧
    lookup [([], .dir 493), (["d1"], .dir 493)] (["d1"] ++ ["nd"]) = none := ⟨rfl, rfl⟩

/-! ## pipes -/

/-- ★ `pipe()` hands out the two lowest free descriptors, in increasing order, both below the limit, or
    fails with EMFILE without leaving a descriptor behind. -/
theorem pipe_two_lowest (k : K) :
    (∀ r w k', pipe' k = .ok (r, w) k' →
      k.fds r = none ∧ (∀ m, m < r → k.fds m ≠ none) ∧ r < w ∧ w < k.limit ∧ k.fds w = none ∧
      (∀ m, r < m → m < w → k.fds m ≠ none) ∧
      k'.fds r = some { ofd := k.ofds.length, cloexec := false } ∧
      k'.fds w = some { ofd := k.ofds.length + 1, cloexec := false } ∧
      (∀ n, n ≠ r → n ≠ w → k'.fds n = k.fds n)) ∧
    (∀ e, pipe' k = .err e → e = .EMFILE) := by
  constructor
  · intro r w k' h
    obtain ⟨name, rd, wr, hr, hw, rfl⟩ := pipe_ok h
    obtain ⟨_, _, hfree, hlow⟩ := lowest_fd k 0 r hr
    obtain ⟨_, hwlt, hwfree, hwlow⟩ := lowest_fd _ 0 w hw
    simp only [setFd] at hwfree hwlow
    have hne : w ≠ r := by
      intro e; subst e; simp at hwfree
    have hwfree' : k.fds w = none := by simpa [hne] using hwfree
    have hrw : r < w := by
      rcases Nat.lt_or_ge r w with h | h
      · exact h
      · exact absurd hwfree' (hlow w (Nat.zero_le _) (Nat.lt_of_le_of_ne h hne))
    refine ⟨hfree, fun m hm => hlow m (Nat.zero_le _) hm, hrw, by omega, hwfree', ?_, ?_, ?_, ?_⟩
    · intro m h1 h2
      have := hwlow m (Nat.zero_le _) h2
      have hmne : m ≠ r := by omega
      simpa [hmne] using this
    · simp [setFd, Ne.symm hne]
    · simp [setFd]
    · intro n hn1 hn2
      simp [setFd, hn1, hn2]
  · intro e
    unfold pipe'
    split
    · intro h; cases h; rfl
    · dsimp only
      split <;> intro h <;> cases h
      rfl

example : ∃ k', pipe' exK1 = .ok (1, 3) k' := ⟨_, rfl⟩

/-! ## readiness of a full pipe -/

theorem close_last_reader (k : K) (p : Path) (r : Nat)
    (honly : ∀ fd i o, fd ≠ r → getOfd k fd = some (i, o) → (o.pipe && o.path == p && o.rd) = false) :
    pipeEndOpen (close k r) p false = false := by
  unfold pipeEndOpen
  rw [List.any_eq_false]
  intro fd _
  rw [getOfd_close]
  by_cases h : fd = r
  · simp [h]
  · simp only [h, if_false]
    cases hg : getOfd k fd with
    | none => simp
    | some io =>
      obtain ⟨i, o⟩ := io
      have := honly fd i o h hg
      simpa using this

/-- ★ A writer blocked on a full pipe becomes ready when the last reader closes.
    While a reader exists, the full pipe is not ready for writing and a write answers EAGAIN (the writer
    waits in `select`); once the only read descriptor is closed, `select` reports the write end ready and
    the write answers EPIPE at once — the pipe being still full does not matter. -/
theorem blocked_writer_released_when_last_reader_closes (k : K) (w r i : Nat) (o : Ofd) (bs : Bytes)
    (hg : getOfd k w = some (i, o)) (hp : o.pipe = true) (hw : o.wr = true) (hfull : o.full = true)
    (hwr : w ≠ r) (hrd : pipeEndOpen k o.path false = true)
    (honly : ∀ fd i' o', fd ≠ r → getOfd k fd = some (i', o') → (o'.pipe && o'.path == o.path && o'.rd) = false) :
    writeReady k w = .ok false ∧ writeAny k w bs = .err .EAGAIN ∧
    writeReady (close k r) w = .ok true ∧ writeAny (close k r) w bs = .err .EPIPE := by
  have hclosed := close_last_reader k o.path r honly
  have hg' : getOfd (close k r) w = some (i, o) := by rw [getOfd_close]; simp [hwr, hg]
  refine ⟨?_, ?_, ?_, ?_⟩
  · simp [writeReady, hg, hp, hw, hfull, hrd]
  · simp [writeAny_pipe bs hg hp hw, hfull, hrd]
  · simp [writeReady, hg', hp, hw, hclosed]
  · simp [writeAny_pipe bs hg' hp hw, hclosed]

/-- `pipe; fill` on descriptors 3 (read end) and 4 (write end) -/
example : ∃ k1 k2, pipe' { exK1 with fds := fun n => if n < 3 then some ⟨0, false⟩ else none } = .ok (3, 4) k1 ∧
    fillPipe k1 4 = .ok () k2 ∧ writeReady k2 4 = .ok false ∧ writeReady (close k2 3) 4 = .ok true ∧
    writeAny (close k2 3) 4 [65] = .err .EPIPE := ⟨_, _, rfl, rfl, rfl, rfl, rfl⟩

/-! ## the file creation mask -/

/-- ★ The mode of a created file, bit by bit: bit `i` is set exactly when it is one of the nine permission
    bits, the caller asked for it and the file creation mask does not have it.  (Higher bits of the request
    — set-id, sticky, file type — and higher bits of the mask play no role.) -/
theorem create_mode_bits (mode umask i : Nat) :
    (createMode mode umask).testBit i = (decide (i < 9) && mode.testBit i && !umask.testBit i) := by
  unfold createMode
  have h : umask % 512 < 2 ^ 9 := Nat.mod_lt _ (by decide)
  have e : 511 - umask % 512 = 2 ^ 9 - (umask % 512 + 1) := by omega
  rw [Nat.testBit_and, e, Nat.testBit_two_pow_sub_succ h, show (512 : Nat) = 2 ^ 9 from rfl,
    Nat.testBit_mod_two_pow, Nat.testBit_mod_two_pow]
  cases decide (i < 9) <;> simp

/-- no bit of the mask survives in a created file's mode, and nothing is added to the request -/
theorem create_mode_masked (mode umask : Nat) :
    createMode mode umask &&& umask = 0 ∧ createMode mode umask &&& mode = createMode mode umask ∧
    createMode mode umask < 512 := by
  refine ⟨?_, ?_, ?_⟩
  · apply Nat.eq_of_testBit_eq; intro i
    rw [Nat.testBit_and, create_mode_bits]
    cases umask.testBit i <;> simp
  · apply Nat.eq_of_testBit_eq; intro i
    rw [Nat.testBit_and, create_mode_bits]
    cases mode.testBit i <;> simp
  · unfold createMode
    exact Nat.lt_of_le_of_lt Nat.and_le_left (Nat.mod_lt _ (by decide))

/-! ## command search: only regular files with an execute bit -/

/-- ★ `is_executable_file` is true only for a path that resolves to a regular file with an execute bit: never
    for a directory (although directories carry `x` bits), never for a missing file or a path that does not
    resolve. -/
theorem isExec_regular_only (k : K) (comps : List String) (h : isExec k comps = true) :
    ∃ p m c, resolve k.tree k.cwd comps = .ok p ∧ lookup k.tree p = some (.reg m c) ∧ (m % 512) &&& 73 ≠ 0 := by
  unfold isExec at h
  split at h
  · rename_i hs
    unfold statPath at hs
    repeat' split at hs
    all_goals cases hs
    exact ⟨_, _, _, ‹_›, ‹_›, by simpa using h⟩
  · cases h

theorem isExec_directory_false (k : K) (comps : List String) (p : Path) (m : Nat)
    (hr : resolve k.tree k.cwd comps = .ok p) (hl : lookup k.tree p = some (.dir m)) : isExec k comps = false := by
  simp [isExec, statPath, hr, hl]

/-- ★ Command search skips everything that is not an executable regular file — in particular a DIRECTORY named
    like the command in an earlier `$PATH` entry: if no candidate `e/name` for the entries `e` before `d` is an
    executable file and `d/name` is one, the search answers `d/name`; if no candidate is one, it finds nothing
    (status 127, not 126). -/
theorem search_skips_non_executables (k : K) (pre : List (List String)) (d : List String)
    (rest : List (List String)) (name : String)
    (hpre : ∀ e, e ∈ pre → isExec k (e ++ [name]) = false) :
    (isExec k (d ++ [name]) = true → searchPath k (pre ++ d :: rest) name = some (d ++ [name])) ∧
    searchPath k pre name = none := by
  induction pre with
  | nil => exact ⟨fun h => by simp [searchPath, h], rfl⟩
  | cons e es ih =>
    have he : isExec k (e ++ [name]) = false := hpre e (by simp)
    have ih' := ih (fun x hx => hpre x (by simp [hx]))
    exact ⟨fun h => by simp [searchPath, he, ih'.1 h], by simp [searchPath, he, ih'.2]⟩

/-- ★ The empty command name is never found: `dir/` names the directory `dir` itself (or nothing), never a
    regular file — for every `$PATH` entry that does not itself resolve to a regular file. -/
theorem search_empty_name (k : K) (dirs : List (List String))
    (hd : ∀ d, d ∈ dirs → ∀ p, walkDirs k.tree k.cwd d = .ok p → existing k.tree p ≠ .reg) :
    searchPath k dirs "" = none := by
  induction dirs with
  | nil => rfl
  | cons d ds ih =>
    have hf : isExec k (d ++ [""]) = false := by
      unfold isExec statPath
      rw [resolve_append _ (by simp)]
      cases hw : walkDirs k.tree k.cwd d with
      | error e => rfl
      | ok q =>
        have hq := hd d (by simp) q hw
        simp only [resolve, finalStep, true_or, if_true]
        cases hl : lookup k.tree q with
        | none => rfl
        | some n =>
          cases n with
          | reg m c => exact absurd (by simp [existing, hl]) hq
          | dir m => rfl
    simp [searchPath, hf, ih (fun x hx => hd x (by simp [hx]))]

/-- `a/foo` is a directory, `c/foo` a regular file without execute bits, `b/foo` an executable regular file -/
def exKpath : K :=
  { tree := [([], .dir 493), (["a"], .dir 493), (["a", "foo"], .dir 493), (["b"], .dir 493),
             (["b", "foo"], .reg 493 []), (["c"], .dir 493), (["c", "foo"], .reg 420 [])],
    ofds := [], fds := fun _ => none, limit := 8, umask := 18, cwd := [] }

example :
    searchPath exKpath [["a"], ["c"], ["b"]] "foo" = some ["b", "foo"] ∧ searchPath exKpath [["a"], ["c"]] "foo" = none ∧
    searchPath exKpath [["a"], ["b"]] "" = none ∧ isExec exKpath ["a", "foo"] = false ∧ isExec exKpath [""] = false := by
  decide

/-- the hypotheses of `search_skips_non_executables` / `search_empty_name` on that state -/
example : (∀ e, e ∈ [["a"], ["c"]] → isExec exKpath (e ++ ["foo"]) = false) ∧ isExec exKpath (["b"] ++ ["foo"]) = true ∧
    (∀ d, d ∈ [["a"], ["b"]] → ∀ p, walkDirs exKpath.tree exKpath.cwd d = .ok p → existing exKpath.tree p ≠ .reg) := by
  refine ⟨by decide, by decide, ?_⟩
  intro d hd p hp
  simp at hd
  rcases hd with h | h <;> subst h <;> (simp [walkDirs, stepDir, existing, lookup, exKpath] at hp; subst hp; decide)

end YashModel.Kernel
