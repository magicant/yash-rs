/-
  Lemmas about the calls of the C19 pivot on a process state (`Kernel/Model.lean`, `Kernel/Pipe.lean`): backward, what
  a call that succeeded found and left behind (`*_ok`); forward, what `open'`, `write`, `read` return once what they
  look at is given.
-/
import YashModel.Kernel.Paths
import YashModel.Kernel.Pipe
import YashModel.Common.Fuel
namespace YashModel.Kernel

/-! ## directory listing -/

theorem mem_dedup (a : String) (l : List String) : a ∈ dedup l ↔ a ∈ l :=
  Common.mem_dedup dedup rfl (fun _ _ => rfl) l a

theorem nodup_dedup : ∀ l : List String, (dedup l).Nodup := by
  intro l
  induction l with
  | nil => simp [dedup]
  | cons b l ih =>
    unfold dedup
    split
    · exact ih
    · rename_i hb
      exact List.nodup_cons.mpr ⟨hb, ih⟩

theorem mem_children (t : Tree) (p : Path) (name : String) :
    name ∈ children t p ↔ ∃ n, (p ++ [name], n) ∈ t := by
  unfold children
  rw [mem_dedup, List.mem_filterMap]
  constructor
  · rintro ⟨⟨q, n⟩, hmem, hq⟩
    simp only at hq
    split at hq
    · rename_i hc
      obtain ⟨ys, hys⟩ := List.getLast?_eq_some_iff.mp hq
      subst hys
      have hl : ys.length = p.length := by simpa using hc.1
      have ht : ys = p := by
        have := hc.2
        rwa [← hl, List.take_left'] at this
        rfl
      subst ht
      exact ⟨n, hmem⟩
    · simp at hq
  · rintro ⟨n, hmem⟩
    refine ⟨(p ++ [name], n), hmem, ?_⟩
    simp

/-! ## descriptor search -/

theorem findFree_spec (fds : Nat → Option FdEntry) (fuel fd : Nat) :
    (∃ r, findFree fds fd fuel = some r ∧ fd ≤ r ∧ r < fd + fuel ∧ (fds r).isNone = true ∧
      ∀ m, fd ≤ m → m < r → (fds m).isNone = false) ∨
    (findFree fds fd fuel = none ∧ ∀ m, fd ≤ m → m < fd + fuel → (fds m).isNone = false) :=
  Common.lowest_spec (fun d => (fds d).isNone) some (fun _ => none) (fun n d => findFree fds d n) (fun _ => rfl)
    (fun _ _ => rfl) fuel fd

/-! ## content -/

theorem writeAt_end (c bs : Bytes) : writeAt c c.length bs = c ++ bs := by
  simp [writeAt]

theorem readAt_writeAt (c : Bytes) (off : Nat) (bs : Bytes) :
    readAt (writeAt c off bs) off bs.length = bs := by
  unfold readAt writeAt
  have hlen : (List.take off c ++ List.replicate (off - c.length) (0 : UInt8)).length = off := by
    simp [List.length_take]; omega
  rw [List.append_assoc (List.take off c ++ List.replicate (off - c.length) 0)]
  rw [List.drop_append_of_le_length (by omega)]
  have hd : List.drop off (List.take off c ++ List.replicate (off - c.length) (0 : UInt8)) = [] := by
    apply List.drop_eq_nil_of_le; omega
  rw [hd, List.nil_append, List.take_left']
  rfl

/-! ## the decision of `open` -/

theorem openOutcome_create {ex : Existing} {w : Bool} {f : Flags} (h : openOutcome ex w f = .create) :
    ex = .missing := by
  cases ex
  · rfl
  all_goals (simp only [openOutcome] at h; repeat' split at h) <;> cases h

theorem openOutcome_openTrunc {ex : Existing} {w : Bool} {f : Flags} (h : openOutcome ex w f = .openTrunc) :
    ex = .reg ∧ f.trunc = true := by
  cases ex <;> simp only [openOutcome] at h <;> (repeat' split at h) <;> first | exact ⟨rfl, ‹_›⟩ | cases h

/-! ## open file descriptions -/

theorem getOfd_some {k : K} {fd i : Nat} {o : Ofd} (h : getOfd k fd = some (i, o)) :
    ∃ e, k.fds fd = some e ∧ e.ofd = i ∧ k.ofds[i]? = some o := by
  revert h
  unfold getOfd
  repeat' split
  all_goals intro h; cases h
  exact ⟨_, ‹_›, rfl, ‹_›⟩

theorem getOfd_updOfd {k : K} {fd i : Nat} {o o' : Ofd} (t : Tree) (h : getOfd k fd = some (i, o)) :
    getOfd { (updOfd k i o') with tree := t } fd = some (i, o') := by
  obtain ⟨e, he, hi, ho⟩ := getOfd_some h
  have hlt : i < k.ofds.length := (List.getElem?_eq_some_iff.mp ho).1
  subst hi
  simp [getOfd, updOfd, he, hlt]

theorem getOfd_updOfd_bare {k : K} {fd i : Nat} {o o' : Ofd} (h : getOfd k fd = some (i, o)) :
    getOfd (updOfd k i o') fd = some (i, o') :=
  getOfd_updOfd k.tree h

theorem getOfd_updOfd_ne {k : K} {fd i j : Nat} {o o' : Ofd} (t : Tree) (h : getOfd k fd = some (i, o)) (hij : i ≠ j) :
    getOfd { (updOfd k j o') with tree := t } fd = some (i, o) := by
  obtain ⟨e, he, hi, ho⟩ := getOfd_some h
  subst hi
  simp [getOfd, updOfd, he, List.getElem?_set_ne (Ne.symm hij), ho]

theorem getOfd_close (k : K) (r fd : Nat) :
    getOfd (close k r) fd = if fd = r then none else getOfd k fd := by
  by_cases h : fd = r
  · subst h; simp [getOfd, close, setFd]
  · simp [getOfd, close, setFd, h]

theorem getOfd_installFd {k : K} {a i fd : Nat} {o : Ofd} (t : Tree) (p : Path) (acc : Access) (f : Flags)
    (hg : getOfd k a = some (i, o)) (hfree : k.fds fd = none) :
    getOfd (installFd k t fd p acc f) a = some (i, o) := by
  obtain ⟨e, he, hi, ho⟩ := getOfd_some hg
  have hne : a ≠ fd := by intro h; subst h; simp [hfree] at he
  have hlt : i < k.ofds.length := (List.getElem?_eq_some_iff.mp ho).1
  subst hi
  simp [getOfd, installFd, setFd, hne, he, List.getElem?_append_left hlt, ho]

theorem pipeEndOpen_of (k : K) (p : Path) (wr : Bool) (fd i : Nat) (o : Ofd) (hlt : fd < k.limit)
    (hg : getOfd k fd = some (i, o)) (hp : o.pipe = true) (hpath : o.path = p)
    (hdir : (if wr then o.wr else o.rd) = true) : pipeEndOpen k p wr = true := by
  unfold pipeEndOpen
  rw [List.any_eq_true]
  refine ⟨fd, List.mem_range.mpr hlt, ?_⟩
  simp [hg, hp, hpath, hdir]

/-! ## what a successful call leaves behind -/

theorem open_ok {k k' : K} {comps : List String} {acc : Access} {f : Flags} {mode fd : Nat}
    (h : open' k comps acc f mode = .ok fd k') :
    ∃ p t, allocFd k 0 = some fd ∧ resolve k.tree k.cwd comps = .ok p ∧ k' = installFd k t fd p acc f ∧
      (t = k.tree ∨ ∃ m c, t = insert k.tree p (.reg m c) ∧ existing k.tree p ≠ .dir) := by
  revert h
  unfold open'
  repeat' split
  all_goals intro h; cases h
  -- the successful outcomes are left: create, openKeep, openTrunc of a regular file, openTrunc of anything else
  · have hm := openOutcome_create ‹_›
    exact ⟨_, _, ‹_›, ‹_›, rfl, .inr ⟨_, _, rfl, by rw [hm]; nofun⟩⟩
  · exact ⟨_, _, ‹_›, ‹_›, rfl, .inl rfl⟩
  · exact ⟨_, _, ‹_›, ‹_›, rfl, .inr ⟨_, _, rfl, existing_of_lookup_reg ‹_›⟩⟩
  · exact ⟨_, _, ‹_›, ‹_›, rfl, .inl rfl⟩

theorem tmpfile_ok {k k' : K} {fd : Nat} (h : tmpfile k = .ok fd k') :
    allocFd k 0 = some fd ∧
    ∃ name, k' = installFd k (insert k.tree ["..std", name] (.reg 384 [])) fd ["..std", name] .rw {} := by
  unfold tmpfile at h
  cases ha : allocFd k 0 with
  | none => rw [ha] at h; cases h
  | some fd' => rw [ha] at h; cases h; exact ⟨rfl, _, rfl⟩

theorem dup_ok {k k' : K} {fd min n : Nat} {c : Bool} (h : dup k fd min c = .ok n k') :
    ∃ e, k.fds fd = some e ∧ allocFd k min = some n ∧
      k' = { k with fds := setFd k.fds n (some { ofd := e.ofd, cloexec := c }) } := by
  revert h
  unfold dup
  repeat' split
  all_goals intro h; cases h
  exact ⟨_, ‹_›, ‹_›, rfl⟩

theorem dup2_ok {k k' : K} {a b n : Nat} (h : dup2 k a b = .ok n k') :
    n = b ∧ ∃ e, k.fds a = some e ∧
      (a = b ∧ k' = k ∨
       a ≠ b ∧ b < k.limit ∧ k' = { k with fds := setFd k.fds b (some { ofd := e.ofd, cloexec := false }) }) := by
  unfold dup2 at h
  cases he : k.fds a with
  | none => rw [he] at h; cases h
  | some e =>
    simp only [he] at h
    by_cases hab : a = b
    · rw [if_pos hab] at h; cases h; exact ⟨rfl, e, rfl, .inl ⟨hab, rfl⟩⟩
    · rw [if_neg hab] at h
      by_cases hb : b ≥ k.limit
      · rw [if_pos hb] at h; cases h
      · rw [if_neg hb] at h; cases h; exact ⟨rfl, e, rfl, .inr ⟨hab, by omega, rfl⟩⟩

theorem chdir_ok {k k' : K} {comps : List String} {u : Unit} (h : chdir k comps = .ok u k') :
    ∃ p, resolve k.tree k.cwd comps = .ok p ∧ existing k.tree p = .dir ∧ k' = { k with cwd := p } := by
  revert h
  unfold chdir
  repeat' split
  all_goals intro h; cases h
  exact ⟨_, ‹_›, ‹_›, rfl⟩

theorem pipe_ok {k k' : K} {r w : Nat} (h : pipe' k = .ok (r, w) k') :
    ∃ name rd wr, allocFd k 0 = some r ∧
      allocFd { k with fds := setFd k.fds r (some { ofd := k.ofds.length, cloexec := false }) } 0 = some w ∧
      k' = { k with tree := insert k.tree ["..std", name] (.reg 384 []), ofds := k.ofds ++ [rd, wr],
                    fds := setFd (setFd k.fds r (some { ofd := k.ofds.length, cloexec := false })) w
                      (some { ofd := k.ofds.length + 1, cloexec := false }) } := by
  revert h
  unfold pipe'
  split
  · nofun
  · dsimp only
    split
    · nofun
    · intro h; cases h; exact ⟨_, _, _, ‹_›, ‹_›, rfl⟩

/-! ## `open'`, forward -/

theorem open'_resolved {k : K} {comps : List String} {fd : Nat} {p : Path} (acc : Access) (f : Flags) (mode : Nat)
    (ha : allocFd k 0 = some fd) (hr : resolve k.tree k.cwd comps = .ok p) :
    open' k comps acc f mode =
      match openOutcome (existing k.tree p) acc.writable f with
      | .eexist => .err .EEXIST
      | .eisdir => .err .EISDIR
      | .enotdir => .err .ENOTDIR
      | .enoent => .err .ENOENT
      | .create => .ok fd (installFd k (insert k.tree p (.reg (createMode mode k.umask) [])) fd p acc f)
      | .openKeep => .ok fd (installFd k k.tree fd p acc f)
      | .openTrunc =>
        match lookup k.tree p with
        | some (.reg m _) => .ok fd (installFd k (insert k.tree p (.reg m [])) fd p acc f)
        | _ => .ok fd (installFd k k.tree fd p acc f) := by
  simp only [open', ha, hr]
  rfl

/-! ## what `write` and `read` of a regular file return -/

theorem write_reg {k : K} {fd i m : Nat} {o : Ofd} {c bs : Bytes} (hg : getOfd k fd = some (i, o))
    (hw : o.wr = true) (hl : lookup k.tree o.path = some (.reg m c)) (hne : bs ≠ []) :
    write k fd bs = .ok bs.length
      { (updOfd k i { o with off := writePos o c + bs.length }) with
        tree := insert k.tree o.path (.reg m (writeAt c (writePos o c) bs)) } := by
  have hemp : bs.isEmpty = false := by cases bs <;> simp_all
  simp [write, hg, hw, hl, hemp]

theorem read_reg {k : K} {fd i m : Nat} {o : Ofd} {c : Bytes} (n : Nat) (hg : getOfd k fd = some (i, o))
    (hr : o.rd = true) (hl : lookup k.tree o.path = some (.reg m c)) :
    read k fd n = .ok (readAt c o.off n) (updOfd k i { o with off := o.off + (readAt c o.off n).length }) := by
  simp [read, hg, hr, hl]

/-! ## `writeAny` and `readAny` on an end of a pipe -/

theorem writeAny_pipe {k : K} {fd i : Nat} {o : Ofd} (bs : Bytes) (hg : getOfd k fd = some (i, o))
    (hp : o.pipe = true) (hw : o.wr = true) :
    writeAny k fd bs =
      if pipeEndOpen k o.path false = false then .err .EPIPE else if o.full then .err .EAGAIN else write k fd bs := by
  simp [writeAny, hg, hp, hw]

theorem readAny_pipe {k : K} {fd i m n : Nat} {o : Ofd} {c : Bytes} (hg : getOfd k fd = some (i, o))
    (hp : o.pipe = true) (hr : o.rd = true) (hl : lookup k.tree o.path = some (.reg m c)) (hn : 0 < n) :
    readAny k fd n =
      if (readAt c o.off n).isEmpty && pipeEndOpen k o.path true then .err .EAGAIN else read k fd n := by
  have hn0 : n ≠ 0 := by omega
  simp [readAny, hg, hp, hr, hl, hn0]

end YashModel.Kernel
