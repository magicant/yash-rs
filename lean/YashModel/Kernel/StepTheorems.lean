/-
  C19 — theorems about `step` / `run` (`Kernel/Step.lean`), i.e. about exactly what the driver computes for the
  model column of a system-call case.
-/
import YashModel.Kernel.Invariants
namespace YashModel.Kernel

/-- ★ Whatever the operation and the state: if the answer is an errno (ENOENT, EISDIR, EEXIST, EMFILE,
    EBADF, EPIPE, …, or the harness's ESCAPE) the state is exactly the state before.  In particular a
    failed `open` creates and truncates nothing, and a `pipe()` that fails with EMFILE after its first
    descriptor could have been allocated leaves no descriptor behind. -/
theorem failed_step_changes_nothing (k : K) (op : Op) (e : Errno) (h : (step k op).2 = .err e) :
    (step k op).1 = k := by
  rcases step_cases k op with h' | h'
  · exact h'
  · exact absurd h (h'.1 e)

/-- `pipe()` answers no errno but EMFILE, and then leaves the descriptor table alone (what the seeded pipe change
    of the check breaks) -/
theorem failed_pipe_leaves_no_descriptor (k : K) (e : Errno) (h : (step k .pipe).2 = .err e) :
    e = .EMFILE ∧ ∀ fd, (step k .pipe).1.fds fd = k.fds fd := by
  have h1 := failed_step_changes_nothing k .pipe e h
  refine ⟨?_, fun fd => by rw [h1]⟩
  simp only [step] at h
  split at h <;> cases h
  exact (pipe_two_lowest k).2 _ ‹_›

example : (step { exK1 with limit := 2 } .pipe).2 = .err .EMFILE := rfl

/-! ## what a path that ends in a slash resolves to -/

/-- ★ A trailing slash demands a directory: for `pre/name/` (one or more slashes, `name` an ordinary name,
    the directories `pre` existing) path resolution answers ENOENT when `name` is missing, ENOTDIR when it is
    a regular file, and the directory itself when it is one — this is what `open` without O_CREAT, `stat`,
    `chdir` and `opendir` see for such a path. -/
theorem trailing_slash_demands_directory (t : Tree) (cwd d : Path) (pre : List String) (name : String) (n : Nat)
    (hw : walkDirs t cwd pre = .ok d) (h1 : name ≠ "") (h2 : name ≠ ".") (h3 : name ≠ "..") :
    resolve t cwd (pre ++ name :: List.replicate (n + 1) "") =
      match existing t (d ++ [name]) with
      | .missing => .error .ENOENT
      | .reg => .error .ENOTDIR
      | .dir => .ok (d ++ [name]) := by
  rw [resolve_append _ (by simp), hw]
  show resolve t d _ = _
  rw [resolve_cons, if_neg (by simp [h1, h2]), if_neg h3, if_neg (by simp)]
  cases existing t (d ++ [name]) with
  | missing => rfl
  | reg => rfl
  | dir => exact resolve_empties t _ (n + 1)

example : resolve [([], .dir 493), (["f"], .reg 420 []), (["d"], .dir 493)] [] ["f", ""] = .error .ENOTDIR ∧
    resolve [([], .dir 493), (["f"], .reg 420 []), (["d"], .dir 493)] [] ["d", "", ""] = .ok ["d"] ∧
    resolve [([], .dir 493), (["f"], .reg 420 []), (["d"], .dir 493)] [] ["new", ""] = .error .ENOENT := ⟨rfl, rfl, rfl⟩

/-- ★ A path that ends in a slash after an ordinary name resolves — if it resolves at all — to a directory:
    never to a regular file, never to a missing name. -/
theorem slash_resolves_to_directory (t : Tree) (cwd p : Path) (comps : List String)
    (hs : slashAfterName comps = true) (hr : resolve t cwd comps = .ok p) : existing t p = .dir := by
  obtain ⟨pre, name, n, rfl, h1, h2, h3⟩ := slashAfterName_decompose comps hs
  have hr' := hr
  rw [resolve_append _ (by simp)] at hr'
  cases hw : walkDirs t cwd pre with
  | error e => rw [hw] at hr'; cases hr'
  | ok d =>
    rw [trailing_slash_demands_directory t cwd d pre name n hw h1 h2 h3] at hr
    cases he : existing t (d ++ [name]) <;> rw [he] at hr <;> simp at hr
    subst hr; exact he

example : slashAfterName ["d", "e", "", ""] = true ∧
    resolve exKpath.tree [] ["a", "foo", ""] = .ok ["a", "foo"] ∧ existing exKpath.tree ["a", "foo"] = .dir ∧
    resolve exKpath.tree [] ["b", "foo", ""] = .error .ENOTDIR := ⟨by decide, rfl, by decide, rfl⟩

/-! ## append mode, end to end (also after another descriptor truncated the file) -/

theorem open_keeps_other_descriptors {k k' : K} {comps : List String} {acc : Access} {f : Flags}
    {mode fd a i : Nat} {o : Ofd} (ho : open' k comps acc f mode = .ok fd k')
    (hg : getOfd k a = some (i, o)) : getOfd k' a = some (i, o) := by
  obtain ⟨p, t, ha, _, rfl, _⟩ := open_ok ho
  exact getOfd_installFd _ _ _ _ hg (lowest_fd k 0 fd ha).2.2.1

/-- ★ What the driver computes for a write through an O_APPEND descriptor: all bytes are accepted and the
    file becomes `c ++ bs`, whatever offset the description had — it may be far beyond the end, e.g. because
    another descriptor truncated the file in between. -/
theorem step_append_write (k : K) (a i m : Nat) (o : Ofd) (c bs : Bytes)
    (hg : getOfd k a = some (i, o)) (hw : o.wr = true) (happ : o.app = true) (hp : o.pipe = false)
    (hl : lookup k.tree o.path = some (.reg m c)) (hne : bs ≠ []) :
    ∃ k', step k (.write a bs) = (k', .num bs.length) ∧
      lookup k'.tree o.path = some (.reg m (c ++ bs)) ∧
      getOfd k' a = some (i, { o with off := c.length + bs.length }) := by
  obtain ⟨k', h1, h2, h3⟩ := append_writes_at_end k a i m o c bs hg hw happ hl hne
  exact ⟨k', by simp [step, writeAny, hg, hp, h1], h2, h3⟩

/-- ★ The stale-offset scenario as one statement about two driver steps: a second `open` with O_TRUNC
    empties the file; the next write through the older O_APPEND descriptor — whose offset still is where
    it was — lands at offset 0: the file is exactly the bytes just written.  (That the operand of the second
    `open` resolves to the regular file behind the descriptor excludes a slash after its last name, so `openT`
    is `open'` here.) -/
theorem append_after_truncate_any_path (k : K) (a i m : Nat) (o : Ofd) (c bs : Bytes)
    (comps : List String) (acc : Access) (f : Flags) (mode : Nat)
    (hg : getOfd k a = some (i, o)) (hw : o.wr = true) (happ : o.app = true) (hp : o.pipe = false)
    (hl : lookup k.tree o.path = some (.reg m c)) (hne : bs ≠ [])
    (hesc : guarded k comps = false) (hfd : allocFd k 0 ≠ none)
    (hr : resolve k.tree k.cwd comps = .ok o.path)
    (hcx : (f.create && f.excl) = false) (hd : f.directory = false) (ht : f.trunc = true) :
    ∃ fd k1 k2, step k (.open comps acc f mode) = (k1, .num fd) ∧
      step k1 (.write a bs) = (k2, .num bs.length) ∧
      lookup k2.tree o.path = some (.reg m bs) := by
  have hsl : (f.create && slashAfterName comps) = false := by
    cases hs : slashAfterName comps with
    | false => simp
    | true =>
      have := slash_resolves_to_directory k.tree k.cwd o.path comps hs hr
      simp [existing, hl] at this
  obtain ⟨fd, k1, ho, hl1⟩ := open_trunc k comps acc f mode m o.path c hfd hr hl hcx hd ht
  have hg1 := open_keeps_other_descriptors ho hg
  obtain ⟨k2, hs, hl2, _⟩ := step_append_write k1 a i m o [] bs hg1 hw happ hp hl1 hne
  exact ⟨fd, k1, k2, by simp [step, hesc, openT_agrees_with_open k comps acc f mode hsl, ho], hs, by simpa using hl2⟩

/-- ★ The same statement with one more hypothesis, `hsl` (no O_CREAT through a slash after the last name), which
    `hr` and `hl` already imply. -/
theorem append_after_truncate (k : K) (a i m : Nat) (o : Ofd) (c bs : Bytes)
    (comps : List String) (acc : Access) (f : Flags) (mode : Nat)
    (hg : getOfd k a = some (i, o)) (hw : o.wr = true) (happ : o.app = true) (hp : o.pipe = false)
    (hl : lookup k.tree o.path = some (.reg m c)) (hne : bs ≠ [])
    (hesc : guarded k comps = false) (hfd : allocFd k 0 ≠ none)
    (hr : resolve k.tree k.cwd comps = .ok o.path)
    (hcx : (f.create && f.excl) = false) (hd : f.directory = false) (ht : f.trunc = true)
    (hsl : (f.create && slashAfterName comps) = false) :
    ∃ fd k1 k2, step k (.open comps acc f mode) = (k1, .num fd) ∧
      step k1 (.write a bs) = (k2, .num bs.length) ∧
      lookup k2.tree o.path = some (.reg m bs) := by
  exact append_after_truncate_any_path k a i m o c bs comps acc f mode hg hw happ hp hl hne hesc hfd hr hcx hd ht

/-- descriptor 0 only: an append-mode description whose offset (7) is beyond the end of its 3-byte file -/
def exK4 : K where
  tree := [([], .dir 493), (["f"], .reg 420 [1, 2, 3])]
  ofds := [{ path := ["f"], rd := false, wr := true, app := true, off := 7 }]
  fds := fun n => if n = 0 then some ⟨0, false⟩ else none
  limit := 8
  umask := 0
  cwd := []

example : ∃ fd k1 k2, step exK4 (.open ["f"] .w { trunc := true } 0) = (k1, .num fd) ∧
    step k1 (.write 0 [9]) = (k2, .num 1) ∧ lookup k2.tree ["f"] = some (.reg 420 [9]) :=
  ⟨_, _, _, rfl, rfl, rfl⟩

example : (({} : Flags).create && slashAfterName ["f"]) = false ∧
    (({ create := true } : Flags).create && slashAfterName ["d1", "new"]) = false ∧
    (({ create := true } : Flags).create && slashAfterName ["new", ""]) = true := by decide

/-! ## O_CREAT through a trailing slash -/

/-- ★ O_CREAT never creates through a trailing slash: for a path `pre/name/` (one or more slashes, `name`
    an ordinary name) `open` with O_CREAT fails whatever `name` is — missing, a regular file or a directory —
    and whatever the other flags are (O_EXCL included); when a descriptor is free and the directories `pre`
    exist the error is EISDIR; and the driver's state is unchanged: no file `name` comes into being. -/
theorem create_trailing_slash_never_creates (k : K) (pre : List String) (name : String) (n : Nat)
    (acc : Access) (f : Flags) (mode : Nat) (hc : f.create = true)
    (h1 : name ≠ "") (h2 : name ≠ ".") (h3 : name ≠ "..") :
    (∃ e, openT k (pre ++ name :: List.replicate (n + 1) "") acc f mode = .err e) ∧
    (∀ d, allocFd k 0 ≠ none → walkDirs k.tree k.cwd pre = .ok d →
      openT k (pre ++ name :: List.replicate (n + 1) "") acc f mode = .err .EISDIR) ∧
    (step k (.open (pre ++ name :: List.replicate (n + 1) "") acc f mode)).1 = k := by
  obtain ⟨hd, hs⟩ := slashAfterName_shape pre name n h1 h2 h3
  have hT := openT_slash k acc mode hc hs
  rw [hd] at hT
  have hex : ∃ e, openT k (pre ++ name :: List.replicate (n + 1) "") acc f mode = .err e := by
    rw [hT]
    split
    · exact ⟨_, rfl⟩
    · split <;> exact ⟨_, rfl⟩
  refine ⟨hex, ?_, ?_⟩
  · intro d hfd hw
    obtain ⟨fd, ha⟩ := Option.ne_none_iff_exists'.mp hfd
    rw [hT, ha, resolve_append _ (by simp), hw]
    rfl
  · obtain ⟨e, he⟩ := hex
    simp only [step]
    split
    · rfl
    · simp [he]

example : (step exK1 (.open ["new", ""] .w { create := true } 420)).2 = .err .EISDIR ∧
    (step exK1 (.open ["f", ""] .w { create := true, excl := true } 420)).2 = .err .EISDIR ∧
    (step exK1 (.open ["new", ""] .w {} 420)).2 = .err .ENOENT ∧
    (step exK1 (.open ["f", ""] .r {} 0)).2 = .err .ENOTDIR := ⟨rfl, rfl, rfl, rfl⟩

/-! ## the close-on-exec flag of every new descriptor -/

theorem tmpfile_no_cloexec (k k' : K) (fd : Nat) (h : tmpfile k = .ok fd k') :
    k.fds fd = none ∧ (∀ m, m < fd → k.fds m ≠ none) ∧ fd < k.limit ∧
    k'.fds fd = some { ofd := k.ofds.length, cloexec := false } ∧ (∀ n, n ≠ fd → k'.fds n = k.fds n) := by
  obtain ⟨ha, name, rfl⟩ := tmpfile_ok h
  exact installFd_lowest ha _ _ _ _

theorem dup_sets_flag (k k' : K) (fd min n : Nat) (c : Bool) (h : dup k fd min c = .ok n k') :
    ∃ e, k.fds fd = some e ∧ k'.fds n = some { ofd := e.ofd, cloexec := c } ∧ min ≤ n ∧ k.fds n = none := by
  obtain ⟨e, he, hn, rfl⟩ := dup_ok h
  obtain ⟨h1, _, h3, _⟩ := lowest_fd k min n hn
  exact ⟨e, he, by simp [setFd], h1, h3⟩

theorem getfd_of_entry (k : K) (fd : Nat) (e : FdEntry) (h : k.fds fd = some e) :
    (step k (.getfd fd)).2 = .flag e.cloexec := by
  simp [step, getfd, h]

/-- ★ What `fcntl(F_GETFD)` answers right after each call that creates a descriptor, as the driver computes
    it: `open` — the O_CLOEXEC it was given; `open_tmpfile` (here-documents) — NOT set; `pipe` — not set on
    either end; `dup` (F_DUPFD / F_DUPFD_CLOEXEC) — as requested; `dup2` onto another descriptor — cleared. -/
theorem descriptor_creation_flags (k k' : K) :
    (∀ p a f m fd, step k (.open p a f m) = (k', .num fd) → (step k' (.getfd fd)).2 = .flag f.cloexec) ∧
    (∀ fd, step k .tmp = (k', .num fd) → (step k' (.getfd fd)).2 = .flag false) ∧
    (∀ r w, step k .pipe = (k', .pair r w) →
      (step k' (.getfd r)).2 = .flag false ∧ (step k' (.getfd w)).2 = .flag false) ∧
    (∀ src min c n, step k (.dup src min c) = (k', .num n) → (step k' (.getfd n)).2 = .flag c) ∧
    (∀ a b n, a ≠ b → step k (.dup2 a b) = (k', .num n) → (step k' (.getfd n)).2 = .flag false) := by
  refine ⟨?_, ?_, ?_, ?_, ?_⟩
  · intro p a f m fd h
    simp only [step] at h
    repeat' split at h
    all_goals cases h
    obtain ⟨_, _, _, hfd, _⟩ := open_lowest_fd k _ p a f m _ (openT_ok ‹_›)
    exact getfd_of_entry _ _ _ hfd
  · intro fd h
    simp only [step] at h
    split at h <;> cases h
    obtain ⟨_, _, _, hfd, _⟩ := tmpfile_no_cloexec k _ _ ‹_›
    exact getfd_of_entry _ _ _ hfd
  · intro r w h
    simp only [step] at h
    split at h <;> cases h
    obtain ⟨_, _, _, _, _, _, hr, hw, _⟩ := (pipe_two_lowest k).1 _ _ _ ‹_›
    exact ⟨getfd_of_entry _ _ _ hr, getfd_of_entry _ _ _ hw⟩
  · intro src min c n h
    simp only [step] at h
    split at h <;> cases h
    obtain ⟨e, _, he, _⟩ := dup_sets_flag k _ src min _ c ‹_›
    exact getfd_of_entry _ _ _ he
  · intro a b n hab h
    simp only [step] at h
    split at h <;> cases h
    obtain ⟨rfl, e, _, ⟨h, _⟩ | ⟨_, _, rfl⟩⟩ := dup2_ok ‹_›
    · exact absurd h hab
    · simp [step, getfd, setFd]

example : ∃ k', step exK1 .tmp = (k', .num 1) ∧ (step k' (.getfd 1)).2 = .flag false := ⟨_, rfl, rfl⟩

/-! ## no dangling descriptors, in every reachable state -/

theorem wf_step (k : K) (op : Op) (h : WF k) : WF (step k op).1 := (step_eff k op).wf h

theorem wf_run (ops : List Op) (k : K) (h : WF k) : WF (run k ops).2 :=
  (run_inv (Q := fun _ => True) (fun k op hk => ⟨wf_step k op hk, trivial⟩) ops k h).1

/-- ★ In every state the driver can reach from a well-formed initial state, by any sequence of operations,
    every open descriptor resolves to an open file description (that it is below the limit is `wf_run`): the hypotheses
    `getOfd k fd = some …` of the laws in `Theorems.lean` hold for every open descriptor of every reachable
    state. -/
theorem no_dangling_descriptor (k0 : K) (h0 : WF k0) (ops : List Op) (fd : Nat) (e : FdEntry)
    (h : (run k0 ops).2.fds fd = some e) :
    ∃ o, getOfd (run k0 ops).2 fd = some (e.ofd, o) := by
  have hw := wf_run ops k0 h0 fd e h
  have hlt := hw.2
  refine ⟨(run k0 ops).2.ofds[e.ofd], ?_⟩
  simp [getOfd, h, hlt]

example : WF exK1 := by
  intro fd e h
  simp only [exK1] at h
  split at h
  · rename_i hc
    injection h with h; subst h
    rcases hc with h | h <;> subst h <;> decide
  · simp at h

/-! ## pipes: first-in first-out, and when an end blocks -/

/-- ★ Pipes are first-in first-out, end to end over the driver's `step`: a write of `bs` to the write end of a
    pipe that still holds the unread bytes `c.drop off` is accepted in full, and the next read of up to `n` bytes
    from the read end returns the first `n` bytes of `c.drop off ++ bs` — the older bytes first, then the new
    ones, in the order written — and advances the read position by what it returned. -/
theorem pipe_fifo (k : K) (r w ir iw m n : Nat) (ro wo : Ofd) (c bs : Bytes)
    (hr : getOfd k r = some (ir, ro)) (hw : getOfd k w = some (iw, wo)) (hrl : r < k.limit)
    (hrp : ro.pipe = true) (hrr : ro.rd = true) (hwp : wo.pipe = true) (hww : wo.wr = true) (hwa : wo.app = true)
    (hsame : ro.path = wo.path) (hne : ir ≠ iw) (hfull : wo.full = false)
    (hl : lookup k.tree wo.path = some (.reg m c)) (hoff : ro.off ≤ c.length) (hbs : bs ≠ []) (hn : 0 < n) :
    ∃ k1 k2, step k (.write w bs) = (k1, .num bs.length) ∧
      step k1 (.read r n) = (k2, .bytes ((c.drop ro.off ++ bs).take n)) ∧
      getOfd k2 r = some (ir, { ro with off := ro.off + ((c.drop ro.off ++ bs).take n).length }) := by
  have hopen : pipeEndOpen k wo.path false = true :=
    pipeEndOpen_of k wo.path false r ir ro hrl hr hrp hsame (by simpa using hrr)
  have hw1 : writeAny k w bs = .ok bs.length
      { (updOfd k iw { wo with off := c.length + bs.length }) with tree := insert k.tree wo.path (.reg m (c ++ bs)) } := by
    rw [writeAny_pipe bs hw hwp hww, write_reg hw hww hl hbs, show writePos wo c = c.length by simp [writePos, hwa],
      writeAt_end]
    simp [hopen, hfull]
  -- the state after the write gets a name, so that the `simp`s about the read do not take it apart
  generalize hk1 : ({ (updOfd k iw { wo with off := c.length + bs.length }) with
      tree := insert k.tree wo.path (.reg m (c ++ bs)) } : K) = k1 at hw1
  have hr1 : getOfd k1 r = some (ir, ro) := by subst hk1; exact getOfd_updOfd_ne _ hr hne
  have hl1 : lookup k1.tree ro.path = some (.reg m (c ++ bs)) := by
    subst hk1; rw [hsame]; exact lookup_insert_self _ _ _
  have hrd : readAt (c ++ bs) ro.off n = (c.drop ro.off ++ bs).take n := by
    simp [readAt, List.drop_append_of_le_length hoff]
  have hnonempty : ((c.drop ro.off ++ bs).take n).isEmpty = false := by
    cases bs with
    | nil => exact absurd rfl hbs
    | cons b bs' =>
      cases n with
      | zero => omega
      | succ n' => cases c.drop ro.off <;> simp
  have hr2 : readAny k1 r n = .ok ((c.drop ro.off ++ bs).take n)
      (updOfd k1 ir { ro with off := ro.off + ((c.drop ro.off ++ bs).take n).length }) := by
    rw [readAny_pipe hr1 hrp hrr hl1 hn, read_reg n hr1 hrr hl1, hrd]
    simp [hnonempty]
  exact ⟨k1, _, by simp [step, hw1], by simp [step, hr2], getOfd_updOfd_bare hr1⟩

/-- descriptors 3/4 = a fresh pipe on top of `exK1`-like state -/
example : (run { exK1 with fds := fun n => if n < 3 then some ⟨0, false⟩ else none }
    [.pipe, .write 4 [1, 2, 3], .read 3 2, .write 4 [4, 5], .read 3 8, .read 3 1, .close 4, .read 3 1]).1 =
    [.pair 3 4, .num 3, .bytes [1, 2], .num 2, .bytes [3, 4, 5], .err .EAGAIN, .ok, .bytes []] := by decide +kernel

/-- ★ The remaining readiness rules of a pipe, over the driver's `step`.  Reading an EMPTY pipe (nothing unread
    at the read position, a request for at least one byte): EAGAIN exactly while some descriptor is open on the
    write end, end-of-file (zero bytes) exactly when none is — never end-of-file while a writer exists.  Writing:
    EPIPE exactly when no descriptor is open on the read end (a full pipe included); with a reader, a full pipe
    answers EAGAIN. -/
theorem pipe_blocking_rules (k : K) (fd i m n : Nat) (o : Ofd) (c bs : Bytes)
    (hg : getOfd k fd = some (i, o)) (hp : o.pipe = true)
    (hl : lookup k.tree o.path = some (.reg m c)) :
    (o.rd = true → 0 < n → readAt c o.off n = [] →
      ((step k (.read fd n)).2 = .err .EAGAIN ↔ pipeEndOpen k o.path true = true) ∧
      ((step k (.read fd n)).2 = .bytes [] ↔ pipeEndOpen k o.path true = false)) ∧
    (o.wr = true →
      ((step k (.write fd bs)).2 = .err .EPIPE ↔ pipeEndOpen k o.path false = false) ∧
      (pipeEndOpen k o.path false = true → o.full = true → (step k (.write fd bs)).2 = .err .EAGAIN)) := by
  refine ⟨?_, ?_⟩
  · intro hr hn he
    simp only [step, readAny_pipe hg hp hr hl hn, he, read_reg n hg hr hl]
    cases pipeEndOpen k o.path true <;> simp
  · intro hw
    simp only [step, writeAny_pipe bs hg hp hw]
    cases pipeEndOpen k o.path false
    · simp
    · refine ⟨?_, fun _ hf => by simp [hf]⟩
      cases o.full
      · simp only [write, hg, hw, hl]
        by_cases hb : bs.isEmpty <;> simp [hb]
      · simp

example : (run { exK1 with fds := fun n => if n < 3 then some ⟨0, false⟩ else none }
    [.pipe, .read 3 1, .close 4, .read 3 1, .pipe, .close 4, .write 5 [1]]).1 =
    [.pair 3 4, .err .EAGAIN, .ok, .bytes [], .pair 4 5, .ok, .err .EPIPE] := by decide +kernel

/-- ★ `opendir` + `readdir` to the end + `closedir` (F14's statement): a listing that succeeds names exactly
    the entries of the directory the path resolves to — every name bound directly below it, nothing else, each name once (no
    entry of a subdirectory, no `.`/`..` pseudo-entries to filter) —; it needs a free descriptor while it runs
    (EMFILE before any path error when the table is full) and leaves none behind: the state after the
    operation, descriptor table included, is the state before, whether it succeeded or failed. -/
theorem ls_lists_exactly_the_children (k : K) (comps : List String) :
    (∀ names, listDir k comps = .ok names →
      ∃ p, resolve k.tree k.cwd comps = .ok p ∧ existing k.tree p = .dir ∧
        (∀ name, name ∈ names ↔ lookup k.tree (p ++ [name]) ≠ none) ∧ names.Nodup) ∧
    (allocFd k 0 = none → listDir k comps = .error .EMFILE) ∧
    (step k (.ls comps)).1 = k := by
  refine ⟨?_, ?_, ?_⟩
  · intro names
    unfold listDir
    repeat' split
    all_goals intro h; cases h
    exact ⟨_, ‹_›, ‹_›, fun name => by rw [mem_children, lookup_ne_none_iff], nodup_dedup _⟩
  · intro h; simp [listDir, h]
  · simp only [step]
    split
    · rfl
    · split <;> rfl

example : listDir exKpath ["a"] = .ok ["foo"] ∧ listDir exKpath [] = .ok ["a", "b", "c"] ∧
    listDir exKpath ["b", "foo"] = .error .ENOTDIR ∧ listDir { exKpath with limit := 0 } ["nodir"] = .error .EMFILE :=
  ⟨rfl, rfl, rfl, rfl⟩

end YashModel.Kernel
