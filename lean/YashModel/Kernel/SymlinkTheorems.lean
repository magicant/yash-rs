/-
  C19 — symbolic links in path resolution (`Kernel/Symlink.lean`): the walk with links against `resolve`, loops,
  and which calls follow a link in the final component.
-/
import YashModel.Kernel.Symlink
import YashModel.Kernel.Paths
namespace YashModel.Kernel

/-- ★ Conservative extension: without links the walk is `resolve` — every law of the link-free pivot is a law of
    the walk on a tree without links (given fuel beyond the number of components; the budget plays no role). -/
theorem lwalk_without_links (t : Tree) (ff : Bool) : ∀ (comps : List String) (cur : Path) (fuel budget : Nat),
    comps.length < fuel → lwalk t [] ff fuel budget cur comps = resolve t cur comps := by
  intro comps
  induction comps with
  | nil =>
    intro cur fuel budget h
    cases fuel with
    | zero => cases h
    | succ f => rfl
  | cons c rest ih =>
    intro cur fuel budget h
    cases fuel with
    | zero => cases h
    | succ f =>
      have hf : rest.length < f := Nat.lt_of_succ_lt_succ h
      rw [resolve_cons, lwalk]
      simp only [linkAt, ih _ f budget hf]
      rfl

/-- ★ A link that points to itself is ELOOP for every call that follows it, whatever the budget — never a hang,
    never success. -/
theorem link_loop_is_eloop (t : Tree) (ls : Links) (cur : Path) (c : String)
    (h1 : c ≠ "") (h2 : c ≠ ".") (h3 : c ≠ "..") (hl : linkAt ls (cur ++ [c]) = some [c]) :
    ∀ fuel budget, lwalk t ls true fuel budget cur [c] = .error .ELOOP := by
  intro fuel
  induction fuel with
  | zero => intro budget; rfl
  | succ f ih =>
    intro budget
    simp only [lwalk, h1, h2, h3, false_or, if_false, hl, List.isEmpty_nil, Bool.not_true, Bool.and_false,
      Bool.false_eq_true]
    by_cases hb : budget = 0
    · simp [hb]
    · simp only [hb, if_false, List.append_nil]; exact ih _

/-- ★ Which calls follow a link in the final component.  `lstat` (`fstatat` without follow) reports the link
    itself; `open` with O_CREAT|O_EXCL answers EEXIST on a link whatever it points to — a dangling link included;
    but with a trailing slash, or as a non-final component, the link is followed by everybody. -/
theorem final_link_rules (t : Tree) (ls : Links) (cur : Path) (c : String) (tgt : List String) (fuel budget : Nat)
    (h1 : c ≠ "") (h2 : c ≠ ".") (h3 : c ≠ "..") (hl : linkAt ls (cur ++ [c]) = some tgt) :
    lstatKind t ls false (fuel + 1) budget cur [c] = .ok .lnk ∧
    (∀ f : Flags, f.create = true → f.excl = true → lopenTarget t ls f (fuel + 1) budget cur [c] = .error .EEXIST) ∧
    (∀ ff rest, rest ≠ [] → budget ≠ 0 →
      lwalk t ls ff (fuel + 1) budget cur (c :: rest) = lwalk t ls ff fuel (budget - 1) cur (tgt ++ rest)) := by
  have hw : lwalk t ls false (fuel + 1) budget cur [c] = .ok (cur ++ [c]) := by
    simp [lwalk, h1, h2, h3, hl]
  refine ⟨?_, ?_, ?_⟩
  · simp [lstatKind, hw, kindAt, hl]
  · intro f hc hx
    simp [lopenTarget, hc, hx, hw, hl]
  · intro ff rest hr hb
    have : rest.isEmpty = false := by cases rest <;> simp_all
    simp [lwalk, h1, h2, h3, hl, this, hb]

/-- the tree and the links of the shell leg's link fragments: `lnkf -> f1`, `lnkd -> d1`, `lnkloop -> lnkloop`,
    `lnkbad -> nofile` -/
def exLinks : Links := [(["lnkf"], ["f1"]), (["lnkd"], ["d1"]), (["lnkloop"], ["lnkloop"]), (["lnkbad"], ["nofile"])]
def exLTree : Tree := [([], .dir 493), (["f1"], .reg 420 []), (["d1"], .dir 493), (["d1", "dd"], .dir 493)]

example :
    lstatKind exLTree exLinks true 50 40 [] ["lnkf"] = .ok .reg ∧ lstatKind exLTree exLinks false 50 40 [] ["lnkf"] = .ok .lnk ∧
    lwalk exLTree exLinks true 50 40 [] ["lnkd", "dd"] = .ok ["d1", "dd"] ∧
    lwalk exLTree exLinks false 50 40 [] ["lnkd", ""] = .ok ["d1"] ∧
    lwalk exLTree exLinks true 50 40 [] ["lnkf", ""] = .error .ENOTDIR ∧
    lwalk exLTree exLinks true 50 40 [] ["lnkloop"] = .error .ELOOP ∧
    lstatKind exLTree exLinks true 50 40 [] ["lnkbad"] = .error .ENOENT ∧
    lstatKind exLTree exLinks false 50 40 [] ["lnkbad"] = .ok .lnk ∧
    lopenTarget exLTree exLinks { create := true } 50 40 [] ["lnkbad"] = .ok ["nofile"] ∧
    lopenTarget exLTree exLinks { create := true, excl := true } 50 40 [] ["lnkbad"] = .error .EEXIST ∧
    lopenTarget exLTree exLinks {} 50 40 [] ["lnkf"] = .ok ["f1"] := by
  refine ⟨rfl, rfl, rfl, rfl, rfl, rfl, rfl, rfl, rfl, rfl, rfl⟩

example : linkAt exLinks ([] ++ ["lnkloop"]) = some ["lnkloop"] ∧ linkAt exLinks ([] ++ ["lnkbad"]) = some ["nofile"] :=
  ⟨rfl, rfl⟩

end YashModel.Kernel
