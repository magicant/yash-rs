/-
  C19 — the tie between the hand-written pivot and the *tables* of the two implementations of the system
  traits, re-extracted from /repo on every run into `Generated/KernelTables.lean`
  (tools/tables/kernel.py): the simulator's table of default signal actions (`SignalEffect::of`), the
  O_* constant the real side passes for each `OpenFlag` / `OfdAccess`, and the mask the simulator's
  `Exit::exit` applies to an exit status, and the fields of `struct Process` with those `Process::fork_from` copies
  (against `forkPolicy`, what the pivots say a child inherits).  The quantifiers range over genuinely finite tables
  (24 signals, 6 flags, 3 access modes, the fields of one struct), so evaluation is the proof; an edit of a Rust
  table re-checks it.
-/
import YashModel.Kernel.SigTheorems
import YashModel.Generated.KernelTables
namespace YashModel.Kernel

open YashModel.Generated.KernelTables

def lookupS : List (String × String) → String → Option String
  | [], _ => none
  | (k, v) :: r, x => if k = x then some v else lookupS r x

namespace Signal

/-- the variant of `yash_env::signal::Name` that names the pivot's signal -/
def Sig.rustName : Sig → String
  | .HUP => "Hup" | .INT => "Int" | .QUIT => "Quit" | .ILL => "Ill" | .TRAP => "Trap" | .ABRT => "Abrt"
  | .BUS => "Bus" | .FPE => "Fpe" | .KILL => "Kill" | .USR1 => "Usr1" | .SEGV => "Segv" | .USR2 => "Usr2"
  | .PIPE => "Pipe" | .ALRM => "Alrm" | .TERM => "Term" | .CHLD => "Chld" | .URG => "Urg" | .XCPU => "Xcpu"
  | .XFSZ => "Xfsz" | .VTALRM => "Vtalrm" | .PROF => "Prof" | .WINCH => "Winch" | .IO => "Io" | .SYS => "Sys"

/-- the row of `s` in a table of default actions says what `defaultIgnored s` says -/
def rowOk (tbl : List (String × String)) (s : Sig) : Bool :=
  match lookupS tbl s.rustName with
  | some e => if defaultIgnored s then e == "none" else (e == "terminate" || e == "core")
  | none => false

theorem rowOk_sound {tbl : List (String × String)} {s : Sig} (h : rowOk tbl s = true) :
    ∃ e, lookupS tbl s.rustName = some e ∧
      (defaultIgnored s = true ↔ e = "none") ∧
      (defaultIgnored s = false ↔ (e = "terminate" ∨ e = "core")) := by
  unfold rowOk at h
  cases hl : lookupS tbl s.rustName with
  | none => rw [hl] at h; cases h
  | some e =>
    rw [hl] at h
    refine ⟨e, rfl, ?_⟩
    cases hd : defaultIgnored s <;> simp only [hd, if_true, if_false, Bool.false_eq_true] at h
    · have h' : e = "terminate" ∨ e = "core" := by simpa using h
      refine ⟨⟨nofun, ?_⟩, ⟨fun _ => h', fun _ => rfl⟩⟩
      rintro rfl; revert h'; decide
    · have h' : e = "none" := by simpa using h
      subst h'
      exact ⟨⟨fun _ => rfl, fun _ => rfl⟩, ⟨nofun, by decide⟩⟩

theorem signalEffect_rows : Sig.all.all (rowOk signalEffect) = true := by decide +kernel

/-- ★ For every signal of the pivot the simulator's `SignalEffect::of` has a row; the row says "none" exactly
    for the signals the pivot discards by default (CHLD, URG, WINCH), and otherwise "terminate" (with or
    without core dump) — never stop or continue, which the pivot does not model. -/
theorem default_actions_match_code (s : Sig) :
    ∃ e, lookupS signalEffect s.rustName = some e ∧
      (defaultIgnored s = true ↔ e = "none") ∧
      (defaultIgnored s = false ↔ (e = "terminate" ∨ e = "core")) :=
  rowOk_sound (List.all_eq_true.mp signalEffect_rows s (Sig.mem_all s))

/-- the "suspend"/"resume" rows of the simulator's table are exactly CONT STOP TSTP TTIN TTOU — stop/continue
    signals, which the pivot leaves out -/
theorem job_control_rows_outside_pivot :
    (signalEffect.filter (fun r => r.2 = "suspend" ∨ r.2 = "resume")).map (·.1) =
      ["Cont", "Stop", "Tstp", "Ttin", "Ttou"] := by decide +kernel

end Signal

/-- ★ The O_* constant `RealSystem` hands to the kernel for each flag the pivot models is its namesake (the
    pivot's `create` is O_CREAT, `excl` O_EXCL, `trunc` O_TRUNC, `append` O_APPEND, `cloexec` O_CLOEXEC,
    `directory` O_DIRECTORY), and the three access modes are O_RDONLY / O_WRONLY / O_RDWR. -/
theorem open_flags_match_code :
    lookupS openFlagReal "Create" = some "O_CREAT" ∧ lookupS openFlagReal "Exclusive" = some "O_EXCL" ∧
    lookupS openFlagReal "Truncate" = some "O_TRUNC" ∧ lookupS openFlagReal "Append" = some "O_APPEND" ∧
    lookupS openFlagReal "CloseOnExec" = some "O_CLOEXEC" ∧ lookupS openFlagReal "Directory" = some "O_DIRECTORY" ∧
    lookupS accessReal "ReadOnly" = some "O_RDONLY" ∧ lookupS accessReal "WriteOnly" = some "O_WRONLY" ∧
    lookupS accessReal "ReadWrite" = some "O_RDWR" := by decide +kernel

/-- no two flags of the traits are translated to the same constant (a swapped or duplicated row would make
    two different requests indistinguishable to the kernel) -/
theorem open_flags_injective : (openFlagReal.map (·.2)).Nodup := by decide +kernel

/-- The mask of the simulator's `Exit::exit` is none at all (`none`: the status stored as given, divergence D18) or
    the low 8 bits that the pivot's `Signal.exit` and a real kernel keep (`some 255`); any other mask fails here.
    Which of the two it is: `exit_status_mask_is_8bit`. -/
theorem exit_status_mask_known : exitStatusMask = none ∨ exitStatusMask = some 255 := by decide

/-- ★ The simulator's `Exit::exit` keeps exactly the bits the pivot's `Signal.exit` keeps — `status & 0xFF` =
    `n % 256` for every status (storing the status unmasked is divergence D18). -/
theorem exit_status_mask_is_8bit :
    exitStatusMask = some 255 ∧
    ∀ (p : Signal.Proc) (n : Nat), p.alive = true → (Signal.exit p n).status = .exited (n &&& 255) := by
  refine ⟨by decide, ?_⟩
  intro p n h
  have : n &&& 255 = n % 256 := Nat.and_two_pow_sub_one_eq_mod n 8
  simp [Signal.exit, h, this]

/-! ## what a forked child takes from its parent -/

/-- How the pivots treat each field of the simulator's `struct Process` at a fork.  `inherit`: the child has
    the parent's value (`Signal.fork`: mask and dispositions; working directory, file creation mask, limits and
    descriptors are what the subshell fragments of the shell leg compare); `fresh`: the child starts with the
    value of a new process (`Signal.fork`: no pending signal, nothing recorded as caught, running);
    `unobserved`: nothing C19 compares depends on it. -/
def forkPolicy : List (String × String) :=
  [("blocked_signals", "inherit"), ("dispositions", "inherit"), ("fds", "inherit"), ("umask", "inherit"),
   ("cwd", "inherit"), ("resource_limits", "inherit"), ("pgid", "inherit"),
   ("pending_signals", "fresh"), ("caught_signals", "fresh"), ("caught_signals_count", "fresh"),
   ("state", "fresh"), ("state_has_changed", "fresh"), ("ppid", "fresh"),
   ("uid", "unobserved"), ("euid", "unobserved"), ("gid", "unobserved"), ("egid", "unobserved"),
   ("resumption_awaiters", "unobserved"), ("signal_wakers", "unobserved"), ("last_exec", "unobserved")]

/-- ★ `Process::fork_from`, as re-read from /repo on every run, copies exactly what the pivots say a child
    inherits: every field of `struct Process` is classified (a new field must be classified before the check
    passes), every `inherit` field is taken from the parent — signal mask, dispositions, descriptors, working
    directory, file creation mask, resource limits (divergences D8-D10 are each a missing one of these) — and no
    `fresh` field is: in particular not the pending signals and not the record of caught signals (the seeded
    change `..parent.clone()` makes the child inherit both). -/
theorem fork_inheritance_matches_code :
    (∀ f, f ∈ processFields → (lookupS forkPolicy f).isSome = true) ∧
    (∀ f, f ∈ processFields → lookupS forkPolicy f = some "inherit" → f ∈ forkInherited) ∧
    (∀ f, f ∈ processFields → lookupS forkPolicy f = some "fresh" → f ∉ forkInherited) ∧
    (∀ f, f ∈ forkInherited → f ∈ processFields) ∧
    (∀ r, r ∈ forkPolicy → r.1 ∈ processFields) := by decide +kernel

/-- the rows of the policy that `Signal.fork` implements, stated of the pivot itself -/
theorem fork_policy_is_what_the_pivot_does (p : Signal.Proc) :
    lookupS forkPolicy "blocked_signals" = some "inherit" ∧ (Signal.fork p).mask = p.mask ∧
    lookupS forkPolicy "dispositions" = some "inherit" ∧ (Signal.fork p).disp = p.disp ∧
    lookupS forkPolicy "pending_signals" = some "fresh" ∧ (Signal.fork p).pending = Signal.Proc.init.pending ∧
    lookupS forkPolicy "caught_signals" = some "fresh" ∧ (Signal.fork p).caught = Signal.Proc.init.caught ∧
    lookupS forkPolicy "state" = some "fresh" ∧ (Signal.fork p).status = Signal.Proc.init.status :=
  ⟨by decide +kernel, rfl, by decide +kernel, rfl, by decide +kernel, rfl, by decide +kernel, rfl, by decide +kernel, rfl⟩

end YashModel.Kernel
