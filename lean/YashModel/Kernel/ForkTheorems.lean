/-
  C19 — `fork`, `exit`, `wait` and zombies at system-call level (`Kernel/Fork.lean`): theorems about `xstep`,
  the function the driver runs for every operation of an `X` case.
-/
import YashModel.Kernel.Fork
import YashModel.Kernel.SigTheorems
namespace YashModel.Kernel
open Signal

/-! ## what a child can do to its parent's signal state -/

theorem sstep_parent_mask_disp (me par : Proc) (op : SOp) :
    ((sstep me (some par) op).2.1.getD par).mask = par.mask ∧ ((sstep me (some par) op).2.1.getD par).disp = par.disp := by
  cases op
  case kgrp s => exact generate_mask_disp par s
  case kpar s => exact generate_mask_disp par s
  all_goals exact ⟨rfl, rfl⟩

theorem cstep_parent_mask_disp (me : XProc) (par : Proc) (op : COp) :
    ((cstep me (some par) op).2.1.getD par).mask = par.mask ∧ ((cstep me (some par) op).2.1.getD par).disp = par.disp := by
  cases op
  case sig op => exact sstep_parent_mask_disp me.p par op
  all_goals exact ⟨rfl, rfl⟩

theorem ok8_cstep {me : XProc} (h : Ok8 me.p) (par : Option Proc) (op : COp) : Ok8 (cstep me par op).1.p := by
  cases op
  case sig op => exact ok8_sstep h par op
  case exit n => exact ok8_exit me.p h n
  all_goals exact h

theorem childRun_inv {I : XProc → Prop} {J : Proc → Prop} (hI : ∀ c p op, I c → I (cstep c (some p) op).1)
    (hJ : ∀ c p op, J p → J ((cstep c (some p) op).2.1.getD p)) :
    ∀ (ops : List COp) (c : XProc) (p : Proc), I c → J p → I (childRun c p ops).1 ∧ J (childRun c p ops).2.1 := by
  intro ops
  induction ops with
  | nil => intro c p hc hp; exact ⟨hc, hp⟩
  | cons op ops ih =>
    intro c p hc hp
    unfold childRun
    split
    · exact ⟨hc, hp⟩
    · exact ih _ _ (hI c p op hc) (hJ c p op hp)

theorem childRun_parent_mask_disp (ops : List COp) (c : XProc) (p : Proc) :
    (childRun c p ops).2.1.mask = p.mask ∧ (childRun c p ops).2.1.disp = p.disp :=
  (childRun_inv (I := fun _ => True) (J := fun q => q.mask = p.mask ∧ q.disp = p.disp) (fun _ _ _ _ => trivial)
    (fun c q op h => ⟨(cstep_parent_mask_disp c q op).1.trans h.1, (cstep_parent_mask_disp c q op).2.trans h.2⟩)
    ops c p trivial ⟨rfl, rfl⟩).2

theorem ok8_childRun (ops : List COp) {c : XProc} (p : Proc) (h : Ok8 c.p) : Ok8 (childRun c p ops).1.p :=
  (childRun_inv (I := fun c => Ok8 c.p) (J := fun _ => True) (fun _ p op h => ok8_cstep h (some p) op)
    (fun _ _ _ _ => trivial) ops c p h trivial).1

theorem childRun_head {c : XProc} {p : Proc} {op : COp} {o : CObs} (ops : List COp) (ha : c.p.alive = true)
    (ho : (cstep c (some p) op).2.2 = some o) : (childRun c p (op :: ops)).2.2.head? = some o := by
  rw [childRun, ha]
  simp [ho]

/-! ## inheritance -/

/-- ★ What a forked child starts with, as the driver computes it: its first operation — whatever file-level
    operation it is: `getcwd`, `umask`, `getrlimit`, `fcntl(F_GETFD)`, `read` at the inherited offset, `open`
    relative to the inherited working directory under the inherited mask and limit … — answers exactly what the
    same operation would have answered in the parent at the moment of the fork; and `sigpending` as first
    operation answers the empty set whatever was pending in the parent, the signal mask is the parent's. -/
theorem child_starts_as_parent (s : XS) (rest : List COp) :
    (∀ op, ∃ r st, (xstep s (.fork (.file op :: rest))).2 = .forked r st ∧
      r.obs.head? = some (.file (step s.me.k op).2)) ∧
    (∃ r st, (xstep s (.fork (.sig .pend :: rest))).2 = .forked r st ∧ r.obs.head? = some (.sig (.sigs []))) ∧
    (∃ r st, (xstep s (.fork (.sig .mask :: rest))).2 = .forked r st ∧
      r.obs.head? = some (.sig (.sigs (listOf s.me.p.mask)))) := by
  refine ⟨fun op => ⟨_, _, rfl, ?_⟩, ⟨_, _, rfl, ?_⟩, ⟨_, _, rfl, ?_⟩⟩
  · exact childRun_head rest rfl rfl
  · exact childRun_head rest rfl (congrArg (fun l => some (CObs.sig (.sigs l))) listOf_empty)
  · exact childRun_head rest rfl rfl

/-- ★ Whatever a child does — `chdir`, `umask`, `setrlimit`, `close`, `dup2`, `open`, `sigprocmask`, `sigaction`,
    signals to its parent — the parent afterwards has the working directory, file creation mask, limit and
    descriptor table (FD_CLOEXEC flags included) it had before, and the signal mask and dispositions it had
    before; what it does see is the files and the shared open file descriptions (offsets) as the child left
    them.  The same holds when the parent does not wait (`spawn`). -/
theorem child_cannot_change_parent (s : XS) (body : List COp) (wait : Bool) :
    let s' := (xstep s (if wait then .fork body else .spawn body)).1
    let c := (childRun (forkX s.me) s.me.p body).1
    s'.me.k.cwd = s.me.k.cwd ∧ s'.me.k.umask = s.me.k.umask ∧ s'.me.k.limit = s.me.k.limit ∧
    s'.me.k.fds = s.me.k.fds ∧ s'.me.p.mask = s.me.p.mask ∧ s'.me.p.disp = s.me.p.disp ∧
    s'.me.k.tree = c.k.tree ∧ s'.me.k.ofds = c.k.ofds := by
  have h := childRun_parent_mask_disp body (forkX s.me) s.me.p
  have g := generate_mask_disp (childRun (forkX s.me) s.me.p body).2.1 .CHLD
  cases wait
  · exact ⟨rfl, rfl, rfl, rfl, g.1.trans h.1, g.2.trans h.2, rfl, rfl⟩
  · exact ⟨rfl, rfl, rfl, rfl, g.1.trans h.1, g.2.trans h.2, rfl, rfl⟩

/-! ## zombies -/

/-- ★ A terminated child stays waitable exactly once (F28's statement).  After `spawn[body]` — the child has
    terminated, the parent has not waited — a signal to the child's pid, the null signal included, succeeds
    and changes nothing; `wait` answers the child's status (an exit status below 256); after that `wait`
    answers ECHILD and `kill` — any signal, the null signal included — ESRCH, neither changing anything; and
    `fork[body]` is `spawn[body]` followed by that one `wait`. -/
theorem zombie_waitable_exactly_once (s : XS) (body : List COp) (sig : Option Sig) :
    let s1 := (xstep s (.spawn body)).1
    let st := (runChildX s.me body).2.2
    let s2 := (xstep s1 .waitz).1
    xstep s1 (.killz sig) = (s1, .ok) ∧
    (xstep s1 .waitz).2 = .status st ∧
    (∀ n, st = .exited n → n < 256) ∧
    xstep s2 .waitz = (s2, .echild) ∧
    xstep s2 (.killz sig) = (s2, .esrch) ∧
    (xstep s (.fork body)).1 = s2 := by
  refine ⟨rfl, rfl, ?_, rfl, rfl, rfl⟩
  intro n hn
  have h1 := ok8_exit _ (ok8_childRun body s.me.p (c := forkX s.me) (ok8_fork s.me.p)) 0
  exact h1 n hn

/-- a reaped child stays reaped through every operation that creates no child; `wait` for it then answers
    ECHILD and `kill` ESRCH, neither changing anything -/
theorem reaped_stays_reaped (s : XS) (st : Status) (h : s.child = some (st, true)) (op : COp) (sig : Option Sig) :
    (xstep s (.c op)).1.child = some (st, true) ∧ (xstep s .waitz) = (s, .echild) ∧ (xstep s (.killz sig)) = (s, .esrch) := by
  refine ⟨by simp [xstep, h], by simp [xstep, h], by simp [xstep, h]⟩

/-- cwd `d`, mask 0o22, descriptor 0 open close-on-exec on `f` ("ab") at offset 0, USR1 blocked and pending -/
def exX : XS :=
  { me := { k := { tree := [([], .dir 493), (["d"], .dir 493), (["d", "e"], .dir 493), (["f"], .reg 420 [97, 98])],
                   ofds := [{ path := ["f"], rd := true, wr := false, app := false, off := 0 }],
                   fds := fun n => if n = 0 then some ⟨0, true⟩ else none, limit := 8, umask := 18, cwd := ["d"] },
            p := { Proc.init with mask := SigSet.ofList [.USR1], pending := SigSet.ofList [.USR1] } },
    child := none }

def exBody : List COp :=
  [.sig .pend, .file .cwd, .file (.getfd 0), .file (.read 0 1), .file (.chdir ["e"]), .file (.umask 0), .setlim 3,
   .file (.close 0), .sig (.unb [.USR1]), .exit 300]

example : (xrun exX [.fork exBody, .c (.file .cwd), .c (.file (.read 0 5)), .c (.file (.getfd 0)), .c (.sig .pend),
    .spawn [.exit 3], .killz none, .waitz, .waitz, .killz (some .TERM)]).1.map
      (fun o => match o with
        | .forked r st => (r.obs, some st)
        | .spawned r => (r.obs, none)
        | .c (some o) => ([o], none)
        | .status st => ([], some st)
        | .ok => ([.ok], none)
        | .echild => ([], some (.exited 1000))
        | .esrch => ([], some (.exited 1001))
        | _ => ([], none)) =
    [([.sig (.sigs []), .file (.path ["d"]), .file (.flag true), .file (.bytes [97]), .file .ok, .file (.num 18), .ok,
       .file .ok, .sig .ok], some (.exited 44)),
     ([.file (.path ["d"])], none), ([.file (.bytes [98])], none), ([.file (.flag true)], none),
     ([.sig (.sigs [.USR1])], none),
     ([], none), ([.ok], none), ([], some (.exited 3)), ([], some (.exited 1000)), ([], some (.exited 1001))] := by
  decide +kernel

end YashModel.Kernel
