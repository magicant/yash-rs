/-
  C07 — reading a whole text (`Script.lean`).  The token reader agrees with the word lexer `lex` on everything `lex`
  accepts, and a line that `lex` reads followed by a newline (or `)`) is read as the same words followed by that
  token: every read-back result about a LINE lifts to a multi-line TEXT.  `Block`: a text that is a run of complete
  commands; the four kinds of block a listing is made of.
-/
import YashModel.Common.Lists
import YashModel.Quote.Lines

namespace YashModel.Quote
open YashModel.Generated.QuoteTables

/-- `skipLC` drops backslash-newline pairs in front; a text that does not end in a backslash has no such pair across
    the seam, and `d ≠ '\\'` starts none -/
theorem skipLC_append (d : Char) (hd : d ≠ '\\') (rest r : List Char) (h : r.getLast? ≠ some '\\') :
    skipLC (r ++ d :: rest) = skipLC r ++ d :: rest := by
  fun_induction skipLC r
  · rename_i r ih
    simp only [List.cons_append]
    rw [skipLC]
    apply ih
    cases r with
    | nil => simp
    | cons a t => simpa using h
  · rename_i cs hcs
    cases cs with
    | nil => simp [skipLC, hd]
    | cons a t =>
      cases t with
      | nil =>
        have : a ≠ '\\' := by simpa using h
        simp only [List.cons_append, List.nil_append]
        rw [skipLC.eq_def]
        simp [this]
      | cons b t2 =>
        simp only [List.cons_append]
        rw [skipLC.eq_def]
        split
        · next heq =>
          injection heq with e1 e2
          injection e2 with e2 e3
          exact (hcs _ (by rw [e1, e2])).elim
        · rfl

/-- what may follow a text that `lex` has read, for the token reader to go on as `lex` did: nothing, or — when
    the text does not end in a backslash — a newline or a `)`: the two tokens after which `lexToks` is between words
    again and at which `lex` would have stopped (not `(`: its token records whether it was glued to a word) -/
def Ends (t tail : List Char) : Prop :=
  tail = [] ∨ (t.getLast? ≠ some '\\' ∧ ∃ d rest, tail = d :: rest ∧ (d = '\n' ∨ d = ')'))

theorem Ends.tail {c : Char} {r tail : List Char} (h : Ends (c :: r) tail) : Ends r tail :=
  h.imp_right fun ⟨hl, ht⟩ => ⟨by cases r with | nil => simp | cons a t => simpa using hl, ht⟩

theorem dollarStarts_append (b : Bool) {c : Char} {r tail : List Char} (h : Ends (c :: r) tail) :
    dollarStarts b (r ++ tail) = dollarStarts b r := by
  rcases h.tail with rfl | ⟨hl, d, rest, rfl, hd⟩
  · rw [List.append_nil]
  · have hd' : d ≠ '\\' := by rcases hd with h | h <;> simp [h]
    unfold dollarStarts
    rw [skipLC_append d hd' rest r hl]
    cases skipLC r with
    | nil => rcases hd with h | h <;> subst h <;> simp <;> decide
    | cons a t => simp

theorem lexToks_end (us : List WUnit) {t tail : List Char} (h : Ends t tail) :
    lexToks (.word us) tail = (lexToks (.word []) tail).map (endTok us ++ ·) := by
  rcases h with rfl | ⟨-, d, rest, rfl, rfl | rfl⟩
  · simp [lexToks_word_nil, endTok]
  · simp [lexToks_nl, endTok, Option.map_map, Function.comp_def]
  · simp [lexToks_close, endTok, Option.map_map, Function.comp_def]

theorem Ends.of_step {m m' : Mode} {t t' tail : List Char} (h : Step m t m' t') (he : Ends t tail) :
    Ends t' tail := by
  cases h <;> first | exact he.tail.tail | exact he.tail

/-- a common step looks at the head of the text only (after a `$`: `dollarStarts_append`) -/
theorem Step.append {m m' : Mode} {t t' tail : List Char} (h : Step m t m' t') (he : Ends t tail) :
    Step m (t ++ tail) m' (t' ++ tail) := by
  cases h with
  | dollar us r hd => exact .dollar us _ fun e => hd ((dollarStarts_append _ he).symm.trans e)
  | dqDollar us acc r hd => exact .dqDollar us acc _ fun e => hd ((dollarStarts_append _ he).symm.trans e)
  | _ => constructor <;> assumption

theorem endTok_eq (us : List WUnit) :
    endTok us = (if us.isEmpty then [] else [us.reverse]).map Tok.w := by
  cases us <;> rfl

/-- The lemma every whole-text theorem rests on.  Induction on the length of `t`, one case per alternative of
    `lex_cases`; the tail is only ever seen through `Ends`. -/
theorem lexToks_of_lex_append (m : Mode) (t : List Char) (tail : List Char) (ws : List (List WUnit))
    (h : lex m t = some ws) (he : Ends t tail) :
    lexToks (SMode.ofMode m) (t ++ tail) = (lexToks (.word []) tail).map (ws.map Tok.w ++ ·) := by
  induction hn : t.length using Nat.strongRecOn generalizing m t ws with
  | _ n ih =>
  subst hn
  rcases lex_cases h with ⟨us, rfl, rfl⟩ | ⟨us, rfl, rfl⟩ | ⟨us, c, r, rfl, rfl, hb, ho⟩ | ⟨m', t', hs, h'⟩
  · -- the end of the text: the token reader goes on with `tail`, which ends the word under construction
    rw [lex_word_nil] at h
    cases h
    rw [List.nil_append, SMode.ofMode, lexToks_end _ he, endTok_eq]
  · -- a lone backslash is a literal only at the very end
    rw [lex_bs_end] at h
    cases h
    rcases he with rfl | ⟨hl, -⟩
    · simp [SMode.ofMode, lexToks_bs_end, lexToks_word_nil, endTok]
    · simp at hl
  · -- a blank: both readers end the word and go on between words
    rw [lex_blank _ _ hb ho] at h
    cases hr : lex (.word []) r with
    | none => rw [hr] at h; cases h
    | some ws' =>
      rw [hr] at h
      cases h
      have ih' := ih r.length (by simp) (.word []) r ws' hr he.tail rfl
      rw [SMode.ofMode] at ih' ⊢
      rw [List.cons_append, lexToks_blank _ _ hb ho, ih', Option.map_map, endTok_eq]
      cases us <;> simp [Function.comp_def]
  · -- a common step: `lexToks` makes it too
    exact (lexToks_steps (hs.append he)).trans (ih _ (Step.length_lt hs) m' t' ws h' (Ends.of_step hs he) rfl)

open Listing

theorem parseToks_words (d : Bool) (ws : List (List WUnit)) (ts : List Tok) :
    ∀ st : PState, st.arr = none → st.decl = some d → st.words ≠ [] → st.emptyAssign = false →
      parseToks (ws.map Tok.w ++ ts) st = parseToks ts { st with words := st.words ++ ws.map (·, d) } := by
  induction ws with
  | nil => intro st _ _ _ _; simp
  | cons w r ih =>
    intro st ha hd hw he
    have hwe : st.words.isEmpty = false := by cases h : st.words with | nil => exact absurd h hw | cons _ _ => rfl
    simp only [List.map_cons, List.cons_append, parseToks, ha, hd, hwe, Bool.and_false, Bool.false_eq_true, if_false]
    refine (ih _ rfl rfl (by simp) rfl).trans ?_
    simp [he]

theorem parseToks_nl (st : PState) (ts : List Tok) (ha : st.arr = none) :
    parseToks (.nl :: ts) st = (parseToks ts {}).map fun cs => st.cmds ++ cs := by
  simp [parseToks, ha]

theorem parseToks_cmd_line (w0 : List WUnit) (ws : List (List WUnit)) (d : Bool) (ts : List Tok)
    (hk : isKeywordWord w0 = false) (ha : assignSplit w0 = none) (hd : declLookup w0 = some d) :
    parseToks (Tok.w w0 :: (ws.map Tok.w ++ Tok.nl :: ts)) {}
      = (parseToks ts {}).map fun cs => ⟨[], (w0, false) :: ws.map (·, d)⟩ :: cs := by
  have h1 : parseToks (.w w0 :: (ws.map Tok.w ++ Tok.nl :: ts)) {}
      = parseToks (ws.map Tok.w ++ Tok.nl :: ts) { words := [(w0, false)], decl := declLookup w0 } := by
    simp [parseToks, hk, ha]
  rw [h1, parseToks_words d ws _ _ rfl hd (by simp) rfl, parseToks_nl _ _ rfl]
  simp [PState.cmds]

/-- ★ (composition) a line that `lex` reads as the words `ws` and that does not end in a backslash, followed
    by a newline and ANY further text, is read as those words, a newline token, and the tokens of the rest:
    nothing in the line (quotes, `#`, backslashes) leaks into the text after it. -/
theorem script_line_then_text (l rest : List Char) (ws : List (List WUnit))
    (h : lex (.word []) l = some ws) (hl : l.getLast? ≠ some '\\') :
    lexToks (.word []) (l ++ '\n' :: rest)
      = (lexToks (.word []) rest).map fun ts => ws.map Tok.w ++ Tok.nl :: ts := by
  have := lexToks_of_lex_append (.word []) l ('\n' :: rest) ws h (Or.inr ⟨hl, _, _, rfl, Or.inl rfl⟩)
  simp only [SMode.ofMode] at this
  rw [this, lexToks_nl, Option.map_map]
  rfl

theorem evalScript_nil : evalScript [] = some [] := by
  simp [evalScript, scriptCmds, lexToks, parseToks, PState.cmds, endTok]

/-- one command in front of a text: its tokens (then those of the rest), the simple command they parse to, the
    command it expands to and that command's effects -/
theorem evalScript_one_cmd (text rest : List Char) (k : List Tok → List Tok) (sc : SimpleCmd) (c : Cmd)
    (es : List Effect) (hlex : lexToks (.word []) text = (lexToks (.word []) rest).map k)
    (hparse : ∀ ts, parseToks (k ts) {} = (parseToks ts {}).map (sc :: ·))
    (hexp : expandCmd sc = some c) (hev : evalCmd c = some es) :
    evalScript text = (evalScript rest).map (es ++ ·) := by
  unfold evalScript scriptCmds
  rw [hlex]
  cases lexToks (.word []) rest with
  | none => rfl
  | some ts =>
    simp only [Option.map_some, Option.bind_some, hparse]
    cases parseToks ts {} with
    | none => rfl
    | some cs =>
      simp only [Option.map_some, Option.bind_some, List.mapM_cons, hexp]
      cases cs.mapM expandCmd with
      | none => rfl
      | some cmds =>
        cases h : cmds.mapM evalCmd <;> simp [List.mapM_cons, hev, h]

theorem assignSplit_lits_none (b : List Char) (he : '=' ∉ b) : assignSplit (b.map WUnit.lit) = none := by
  unfold assignSplit
  split
  · rfl
  · simp [assignValue_lits_none b he false]

/-- `text` is a run of complete commands: in front of ANY further text it contributes exactly the effects `es`,
    and what follows is read independently — nothing in `text` (quotes, `#`, backslashes) leaks into it.
    (A structure, so that no unifier unfolds it: under it are the printers with their string literals.) -/
structure Block (text : List Char) (es : List Effect) : Prop where
  frame : ∀ rest, evalScript (text ++ rest) = (evalScript rest).map (es ++ ·)

namespace Block

theorem nil : Block [] [] := ⟨fun rest => by rw [List.nil_append]; cases evalScript rest <;> rfl⟩

theorem append {a b : List Char} {ea eb : List Effect} (ha : Block a ea) (hb : Block b eb) :
    Block (a ++ b) (ea ++ eb) := ⟨fun rest => by
  rw [List.append_assoc, ha.frame, hb.frame, Option.map_map]
  cases evalScript rest <;> simp⟩

theorem eval {t : List Char} {es : List Effect} (h : Block t es) : evalScript t = some es := by
  have := h.frame []
  rwa [List.append_nil, evalScript_nil, Option.map_some, List.append_nil] at this

theorem flatten {α : Type} (p : α → List Char) (e : α → List Effect) (xs : List α)
    (h : ∀ x ∈ xs, Block (p x) (e x)) : Block (xs.map p).flatten (xs.flatMap e) := by
  induction xs with
  | nil => exact nil
  | cons x r ih => simpa using (h x (by simp)).append (ih fun y hy => h y (by simp [hy]))

theorem flatten_one {α : Type} (p : α → List Char) (e : α → Effect) (xs : List α)
    (h : ∀ x ∈ xs, Block (p x) [e x]) : Block (xs.map p).flatten (xs.map e) := by
  have := flatten p (fun x => [e x]) xs h
  rwa [← List.map_eq_flatMap] at this

end Block

theorem line_block {b : List Char} {d : Bool} (hu : IsUtil b d) (is : List Item)
    (hp : (d || is.all Item.noPattern) = true) (es : List Effect)
    (hev : evalCmd ⟨[], b :: is.map Item.field⟩ = some es) : Block (line (.word b :: is)) es := by
  refine ⟨fun rest => ?_⟩
  obtain ⟨hb, hk, hd⟩ := hu
  have hlex : lex (.word []) (joinSp ((Item.word b :: is).map Item.text))
      = some (b.map WUnit.lit :: is.map Item.units) := by
    rw [lex_items]; simp [Item.units, unitsOf_bare hb]
  have hf0 : fieldOf (b.map WUnit.lit) = some b := by
    have := fieldOf_unitsOf b
    rwa [unitsOf_bare hb] at this
  have hexp : ∀ (ws : List (List WUnit)) (fs : List (List Char)), (ws.map (·, d)).mapM expandWord = some fs →
      expandCmd ⟨[], (b.map WUnit.lit, false) :: ws.map (·, d)⟩ = some ⟨[], b :: fs⟩ := by
    intro ws fs h2
    simp [expandCmd, List.mapM_cons, expandWord, hf0, h2]
  rw [line, List.append_assoc]
  exact evalScript_one_cmd _ rest _ _ _ es (script_line_then_text _ rest _ hlex (items_last _))
    (fun ts => parseToks_cmd_line _ _ d ts hk (assignSplit_lits_none b (not_needs_no_eq hb)) hd)
    (hexp _ _ (by rw [List.mapM_map]; exact Item.expand_all d is hp)) hev

theorem takeWhile_lits_eq (n : List Char) (r : List WUnit) (hne : '=' ∉ n) :
    (n.map WUnit.lit ++ WUnit.lit '=' :: r).takeWhile (· ≠ WUnit.lit '=') = n.map WUnit.lit :=
  Common.takeWhile_run (fun u hu => by
      obtain ⟨c, hc, rfl⟩ := List.mem_map.1 hu
      exact decide_eq_true (fun e => hne (by cases e; exact hc)))
    (Common.StopsAt.cons (by simp) r)

theorem assignSplit_bare (n : List Char) (r : List WUnit) (hn : strNeedsQuoting n = false) :
    assignSplit (n.map WUnit.lit ++ WUnit.lit '=' :: r) = some (n, r)
    ∧ isKeywordWord (n.map WUnit.lit ++ WUnit.lit '=' :: r) = false := by
  have hb := bare_of_not_needs hn
  have hne := not_needs_no_eq hn
  constructor
  · unfold assignSplit
    rw [(hb.no_tilde _).2, assignValue_lits n _ false (Or.inr hb.nonempty) hne, takeWhile_lits_eq n _ hne,
      removeQuotes_lits]
    simp
  · have : keywords.contains (removeQuotes (n.map WUnit.lit ++ WUnit.lit '=' :: r)) = false := by
      rw [Bool.eq_false_iff]
      intro hc
      apply keywords_no_eq _ (List.contains_iff_mem.mp hc)
      rw [removeQuotes_append]
      simp [removeQuotes, WUnit.chars]
    rw [isKeywordWord, this, Bool.and_false]

theorem parseToks_assign_line (name : List Char) (w0 v : List WUnit) (ts : List Tok)
    (hsplit : assignSplit w0 = some (name, v)) (hkw : isKeywordWord w0 = false) :
    parseToks (Tok.w w0 :: Tok.nl :: ts) {}
      = (parseToks ts {}).map fun cs => (⟨[(name, .scalar v)], []⟩ : SimpleCmd) :: cs := by
  simp only [parseToks, hkw, hsplit, Bool.false_and, Bool.false_eq_true, if_false, List.isEmpty_nil,
    Option.isSome_none, List.nil_append]
  cases parseToks ts {} <;> simp [PState.cmds]

theorem assign_block (n v : List Char) (hn : strNeedsQuoting n = false) :
    Block (n ++ '=' :: (quote v ++ ['\n'])) [Effect.assign n (.scalar v)] := by
  refine ⟨fun rest => ?_⟩
  have hlex := lex_item (.assign n v)
  have hl := (Item.assign n v).text_last.2
  rw [Item.text, quote_bare_is_identity _ hn] at hlex hl
  rw [Item.units, unitsOf_bare hn] at hlex
  obtain ⟨hsplit, hkw⟩ := assignSplit_bare n (unitsOf v) hn
  have e : n ++ '=' :: (quote v ++ ['\n']) ++ rest = (n ++ '=' :: quote v) ++ '\n' :: rest := by simp
  rw [e]
  refine evalScript_one_cmd _ rest _ _ ⟨[(n, .scalar v)], []⟩ _
    (script_line_then_text _ rest _ hlex hl) (fun ts => parseToks_assign_line n _ _ ts hsplit hkw) ?_ rfl
  simp [expandCmd, expandAssign, (triggers_unitsOf v).1, removeQuotes_unitsOf]

theorem lexToks_assign_open (n r : List Char) :
    lexToks (.word []) (quote n ++ '=' :: '(' :: r)
      = (lexToks (.word []) r).map fun ts => Tok.w (unitsOf n ++ [WUnit.lit '=']) :: Tok.op true :: ts := by
  have h1 := lexToks_steps.quote_append n [] ('=' :: '(' :: r)
  have h2 := lexToks_steps (Step.ordinary ((unitsOf n).reverse ++ []) ('(' :: r) not_special_eq
    fun e => absurd e (by decide))
  simp only [SMode.ofMode] at h1 h2
  rw [h1, h2, lexToks_open]
  simp [endTok]

theorem lexToks_array_line (n : List Char) (vs : List (List Char)) (rest : List Char)
    (hn : strNeedsQuoting n = false) :
    lexToks (.word []) (n ++ '=' :: (quoteArray vs ++ '\n' :: rest))
      = (lexToks (.word []) rest).map fun ts =>
          Tok.w (n.map WUnit.lit ++ [WUnit.lit '=']) :: Tok.op true
            :: ((vs.map unitsOf).map Tok.w ++ Tok.cl :: Tok.nl :: ts) := by
  have e : n ++ '=' :: (quoteArray vs ++ '\n' :: rest)
      = quote n ++ '=' :: '(' :: (joinSp (vs.map quote) ++ ')' :: '\n' :: rest) := by
    simp [quoteArray, quote_bare_is_identity _ hn]
  rw [e, lexToks_assign_open, unitsOf_bare hn]
  have hlast : (joinSp (vs.map quote)).getLast? ≠ some '\\' := by simpa using items_last (vs.map Item.word)
  have := lexToks_of_lex_append (.word []) _ (')' :: '\n' :: rest) _ (lex_args vs) (Or.inr ⟨hlast, _, _, rfl, Or.inr rfl⟩)
  simp only [SMode.ofMode] at this
  rw [this, lexToks_close, lexToks_nl]
  simp [endTok, Option.map_map, Function.comp_def]

/-- `array_values`: every word up to the `)` is pushed -/
theorem parseToks_array_words (ws : List (List WUnit)) (ts : List Tok) :
    ∀ (st : PState) (vs : List (List WUnit)), st.arr = some vs →
      parseToks (ws.map Tok.w ++ ts) st = parseToks ts { st with arr := some (vs ++ ws) } := by
  induction ws with
  | nil => intro st vs h; cases st; simp_all
  | cons w r ih =>
    intro st vs h
    simp only [List.map_cons, List.cons_append, parseToks, h, arrayAcceptsKeywords_eq, Bool.not_true, Bool.and_false,
      Bool.false_eq_true, if_false]
    rw [ih _ (vs ++ [w]) rfl]
    simp

theorem parseToks_array_line (name : List Char) (w0 : List WUnit) (ws : List (List WUnit)) (ts : List Tok)
    (hsplit : assignSplit w0 = some (name, [])) (hkw : isKeywordWord w0 = false) :
    parseToks (Tok.w w0 :: Tok.op true :: (ws.map Tok.w ++ Tok.cl :: Tok.nl :: ts)) {}
      = (parseToks ts {}).map fun cs => (⟨[(name, .array ws)], []⟩ : SimpleCmd) :: cs := by
  simp only [parseToks, hkw, hsplit, Bool.false_and, Bool.false_eq_true, if_false, List.isEmpty_nil,
    Option.isNone_none, List.nil_append, Bool.and_self, if_true]
  rw [parseToks_array_words ws _ _ [] rfl]
  simp only [parseToks, List.nil_append, setLastArray, Option.isSome_none, Bool.false_eq_true, if_false]
  cases parseToks ts {} <;> simp [PState.cmds]

theorem array_block (n : List Char) (vs : List (List Char)) (hn : strNeedsQuoting n = false) :
    Block (n ++ '=' :: (quoteArray vs ++ ['\n'])) [Effect.assign n (.array vs)] := by
  refine ⟨fun rest => ?_⟩
  obtain ⟨hsplit, hkw⟩ := assignSplit_bare n [] hn
  have e : n ++ '=' :: (quoteArray vs ++ ['\n']) ++ rest = n ++ '=' :: (quoteArray vs ++ '\n' :: rest) := by simp
  rw [e]
  refine evalScript_one_cmd _ rest _ ⟨[(n, .array (vs.map unitsOf))], []⟩ ⟨[(n, .array vs)], []⟩ _
    (lexToks_array_line n vs rest hn) (fun ts => parseToks_array_line n _ _ ts hsplit hkw) ?_ rfl
  simp only [expandCmd, expandAssign, List.mapM_cons, List.mapM_nil, mapM_fieldOf_units vs]
  rfl

/-- a name that the quoter quotes: `<quoted name>=(` is NOT the start of an array assignment — whatever follows,
    the text is not a sequence of simple commands (the real parser: syntax error at the `(`) -/
theorem evalScript_quoted_name_paren (n : List Char) (hn : strNeedsQuoting n = true) (rest : List Char) :
    evalScript (quote n ++ '=' :: '(' :: rest) = none := by
  rcases unitsOf_cases n with ⟨_, h, _⟩ | ⟨_, u, hu, hq, _⟩
  · rw [h] at hn; cases hn
  unfold evalScript scriptCmds
  rw [lexToks_assign_open, hu]
  cases lexToks (.word []) rest with
  | none => rfl
  | some ts =>
    have hsp : assignSplit [u, .lit '='] = none := by
      simp [assignSplit, (tildeAt_quoted hq _).2, assignValue_quoted hq]
    simp [parseToks, isKeywordWord_quoted hq, hsp]

theorem comment_block (body : List Char) (h : '\n' ∉ body) : Block ('#' :: (body ++ ['\n'])) [] := by
  refine ⟨fun rest => ?_⟩
  have hl : lexToks (.word []) ('#' :: (body ++ '\n' :: rest)) = (lexToks (.word []) rest).map (Tok.nl :: ·) := by
    rw [lexToks_hash, lexToks_comment_body body rest h]
  have e : evalScript ('#' :: (body ++ '\n' :: rest)) = evalScript rest := by
    unfold evalScript scriptCmds
    rw [hl]
    cases lexToks (.word []) rest with
    | none => rfl
    | some ts =>
      have hp : parseToks (Tok.nl :: ts) {} = parseToks ts {} := by
        rw [parseToks_nl ({} : PState) ts rfl]
        cases parseToks ts {} <;> simp [PState.cmds]
      simp only [Option.map_some, Option.bind_some, hp]
  simp only [List.cons_append, List.append_assoc, List.nil_append]
  rw [e]
  cases evalScript rest <;> rfl

end YashModel.Quote
