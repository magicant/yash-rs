/-
  C07 — the Spec column's naive POSIX reading (XCU 2.2.2 / 2.2.3) accepts the quoter's output and denotes the original string.
-/
import YashModel.Quote.Spec
import YashModel.Quote.Units

namespace YashModel.Quote
open YashModel.Generated.QuoteTables

theorem specDqBody_escape (s : List Char) : specDqBody (escapeDq s ++ ['"']) = some s := by
  induction s with
  | nil => simp [escapeDq, specDqBody]
  | cons c cs ih =>
    by_cases he : c ∈ quoteEscaped
    · rw [escapeDq_cons_esc cs he]
      have h4 := quoteEscaped_four c he
      simp only [List.cons_append]
      rw [specDqBody]
      · have hc : (c = '$' || c = '`' || c = '"' || c = '\\') = true := by
          rcases h4 with h | h | h | h <;> simp [h]
        simp only [hc, if_true, ih, Option.map_some]
    · rw [escapeDq_cons_plain cs he]
      obtain ⟨h1, h2, h3, h4⟩ := not_escaped_ne he
      simp only [List.cons_append]
      unfold specDqBody
      split
      · next heq => cases heq
      · next heq => injection heq with e1 _; exact absurd e1 h2
      · next heq => injection heq with e1 _; exact absurd e1 h2
      · next heq => injection heq with e1 _; exact absurd e1 h1
      · next c' r' _ _ _ heq =>
        injection heq with e1 e2
        subst e1; subst e2
        simp [h3, h4, ih]

/-- ★ (Spec characterised) For EVERY string the independent, naive POSIX reading (XCU 2.2.2 / 2.2.3) used
    in the Spec column accepts the quoter's output and denotes the original string — or, for a bare word
    with conditionally special characters, leaves it to `quote_roundtrip`. -/
theorem spec_posix_reading_agrees (s : List Char) : specAgrees s = true := by
  unfold specAgrees
  rcases shapes s with ⟨hn, hq, _⟩ | ⟨_, hb, hq, _⟩ | ⟨_, hq, _⟩
  · rw [hq]
    have hb := bare_of_not_needs hn
    cases s with
    | nil => exact absurd rfl hb.nonempty
    | cons c cs =>
      have hs := hb.special c (by simp)
      have h1 : c ≠ '\'' := fun h => hs (Or.inr (Or.inl h))
      have h2 : c ≠ '"' := fun h => hs (Or.inr (Or.inr (Or.inl h)))
      have hd : specDenotes (c :: cs)
          = if ((c :: cs).isEmpty || (c :: cs).any posixSpecial) = true then none else some (c :: cs) := by
        unfold specDenotes
        split
        · next heq => injection heq with e1 _; exact absurd e1 h1
        · next heq => injection heq with e1 _; exact absurd e1 h2
        · rfl
      rw [hd]
      by_cases hp : ((c :: cs).isEmpty || (c :: cs).any posixSpecial) = true
      · rw [if_pos hp]; simp
      · rw [if_neg hp]; simp
  · rw [hq]
    have : specDenotes ('\'' :: (s ++ ['\''])) = some s := by
      simp [specDenotes, hb]
    simp [this]
  · rw [hq]
    have : specDenotes ('"' :: (escapeDq s ++ ['"'])) = some s := by
      simp [specDenotes, specDqBody_escape]
    simp [this]

end YashModel.Quote
