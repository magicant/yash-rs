/-
  C07 — the block of each printed line and of one variable of any kind printed by `print_one` or by `set`; what the
  listings of a whole state must recreate, in that form.
-/
import YashModel.Quote.Text
import YashModel.Generated.ListingTables

namespace YashModel.Quote
open YashModel.Generated.QuoteTables

open Listing
open YashModel.Generated.ListingTables

/-- what evaluating the line(s) `print_one` prints for one variable must define: nothing for a name containing
    `=` (skipped by the printer); an array is an assignment, followed by the attribute line when one is printed.
    `v` is the variable, `m` the variable whose attributes are printed as option letters (`typeset -p`: `v` itself;
    `export -p` / `readonly -p`: `v` without attributes) -/
def varEffects (b : String) (showAttr : Bool) (m v : Var) : List Effect :=
  if v.name.contains '=' then []
  else match v.value with
    | .array vs =>
      Effect.assign v.name (.array vs) :: (if showAttr then [Effect.declare b (declared b m .none)] else [])
    | val => [Effect.declare b (declared b m val)]

def setEffects (v : Var) : List Effect :=
  match v.value with
  | .none => []
  | val => [Effect.assign v.name val]

/-- the arrays of the state have names the quoter prints bare (`a`, `a.b`, `-a`, `]` …; not `a*`, `a:~`, `{a}`):
    exactly the condition under which the listed line `name=(…)` is an assignment again -/
def arraysBare (s : State) : Bool :=
  s.vars.all fun v => match v.value with
    | .array _ => !strNeedsQuoting v.name
    | _ => true

theorem flatMap_filter {α β} (p : α → Bool) (f : α → List β) (l : List α) :
    (l.filter p).flatMap f = l.flatMap fun x => if p x then f x else [] := by
  induction l with
  | nil => rfl
  | cons a t ih =>
    by_cases h : p a = true
    · simp [h, ih]
    · simp [h, ih]

theorem mem_insertBy {α} (key : α → List Char) (x y : α) (l : List α) :
    y ∈ insertBy key x l ↔ y = x ∨ y ∈ l := by
  induction l with
  | nil => simp [insertBy]
  | cons a t ih =>
    simp only [insertBy]
    split
    · simp
    · simp only [List.mem_cons, ih]
      constructor
      · rintro (h | h | h) <;> simp [h]
      · rintro (h | h | h) <;> simp [h]

theorem mem_sortBy {α} (key : α → List Char) (l : List α) (y : α) : y ∈ sortBy key l ↔ y ∈ l := by
  induction l with
  | nil => simp [sortBy]
  | cons a t ih =>
    have : sortBy key (a :: t) = insertBy key a (sortBy key t) := rfl
    rw [this, mem_insertBy, ih]
    simp

theorem trapShown_key (s : State) (c : String) (t : String × List Char) (h : s.trapShown c = some t) : t.1 = c := by
  unfold State.trapShown at h
  split at h
  · next t' hf =>
    cases h
    simpa using List.find?_some hf
  · simpa using List.find?_some h

theorem typesetOpts_isEmpty (v : Var) : (!(typesetOpts v).isEmpty) = (v.readonly || v.exported) := by
  unfold typesetOpts
  cases v.readonly <;> cases v.exported <;> decide

theorem typesetOpts_noAttr (v : Var) :
    typesetOpts { v with exported := false, readonly := false } = [] := by
  simp [typesetOpts]

theorem trap_block (t : String × List Char) (hq : quote t.1.toList = t.1.toList) :
    Block (printTrap t) [Effect.trap t.1 t.2] := by
  rw [printTrap_line t.1 t.2 hq]
  refine line_block trap_util _ rfl _ ?_
  rw [show evalCmd _ = some [Effect.trap (String.ofList t.1.toList) t.2] from rfl, String.ofList_toList]

theorem attrLetters_ne_fr (m : Var) : (attrLetters m = ['f', 'r']) = False := by
  unfold attrLetters; cases m.readonly <;> cases m.exported <;> simp

theorem evalCmd_decl (b : String) (hb : b ∈ declBuiltins) (m : Var) (val : VarVal) (hne : '=' ∉ m.name)
    (hv : ∀ vs, val ≠ .array vs) :
    evalCmd ⟨[], b.toList :: (typesetOptWords m ++ [(operandItem m.name val).field])⟩
      = some [Effect.declare b (declared b m val)] := by
  unfold evalCmd
  simp only [List.isEmpty_nil, Bool.not_true, Bool.false_eq_true, if_false, (decl_util b hb).2,
    parse_typesetOptWords m val, attrLetters_ne_fr, Bool.false_and, decide_false,
    declArgs_operand b m val hne hv, Option.map_some]

/-- a line with a declaration utility's name: the line of a scalar or valueless variable, the attribute line of an array -/
theorem decl_block (b : String) (hb : b ∈ declBuiltins) (m : Var) (val : VarVal) (hne : '=' ∉ m.name)
    (hv : ∀ vs, val ≠ .array vs) :
    Block (b.toList ++ [' '] ++ typesetOpts m ++ sepOf m.name ++ (operandItem m.name val).text ++ ['\n'])
      [Effect.declare b (declared b m val)] := by
  rw [declLine b (decl_util b hb).1.quote]
  refine line_block (decl_util b hb).1 _ rfl _ ?_
  simpa using evalCmd_decl b hb m val hne hv

theorem evalCmd_set (name : List Char) (on : Bool) :
    evalCmd ⟨[], "set".toList :: [[if on then '-' else '+', 'o'], name]⟩ = some [Effect.setopt name on] := by
  cases on <;> rfl

theorem seto_block (name : List Char) (hb : strNeedsQuoting name = false) (modifiable on : Bool) :
    Block (printOpt name modifiable on) (if modifiable then [Effect.setopt name on] else []) := by
  cases modifiable with
  | true =>
    rw [printOpt_line name (quote_bare_is_identity _ hb)]
    exact line_block set_util _ rfl _ (evalCmd_set name on)
  | false =>
    have hnl : '\n' ∉ "set ".toList ++ [if on then '-' else '+'] ++ "o ".toList ++ name := by
      have hn : '\n' ∉ name := fun hm =>
        (bare_of_not_needs hb).special _ hm (Or.inr (Or.inr (Or.inr (Or.inr (Or.inr (Or.inl (by decide)))))))
      cases on <;> simp [hn]
    simpa [printOpt] using comment_block _ hnl

theorem seto_rows_block (f : List Char × Bool × Bool → Bool) (rows : List (List Char × Bool × Bool))
    (hq : ∀ o ∈ rows, strNeedsQuoting o.1 = false) :
    Block (rows.map fun o => printOpt o.1 o.2.1 (f o)).flatten
      ((rows.filter (·.2.1)).map fun o => Effect.setopt o.1 (f o)) := by
  rw [List.map_eq_flatMap (l := rows.filter _), flatMap_filter]
  exact Block.flatten _ _ rows fun o ho => seto_block o.1 (hq o ho) o.2.1 (f o)

theorem evalCmd_fnattr (name : List Char) :
    evalCmd ⟨[], "typeset".toList :: "-fr".toList :: (sepWords (fsepOf name) ++ [name])⟩
      = some [Effect.fnattr name] := by
  have hp : parseDeclArgs ("-fr".toList :: (sepWords (fsepOf name) ++ [name])) [] = some (['f', 'r'], [name]) := by
    rw [show "-fr".toList = '-' :: 'f' :: ['r'] by decide, parseDeclArgs_cluster _ _ _ _ (by decide)]
    exact parseDeclArgs_sepWords (fsepOf_cases name) name
      (fun hs => by simpa using headOk_of_sepWith functionSeparatorPrefixes (by decide) name [] hs headOk_nil) _
  unfold evalCmd
  simp only [List.isEmpty_nil, Bool.not_true, Bool.false_eq_true, if_false, (decl_util "typeset" (by decide)).2, hp,
    decide_true, Bool.and_self, if_true]

theorem fnattr_block (name : List Char) : Block (printFnAttr name) [Effect.fnattr name] := by
  rw [printFnAttr_line]
  refine line_block typeset_util _ rfl _ ?_
  simpa [Item.field] using evalCmd_fnattr name

/-- the line `alias [-- ]<quoted name>=<quoted value>`, when the `--` is there or the name does not start with `-`
    (as `command -v` prints it) -/
theorem alias_block (dd : Bool) (n v : List Char) (hn : '=' ∉ n)
    (hd : dd = true ∨ n.head? ≠ some '-') (h : crossBracket n v = false) :
    Block ("alias ".toList ++ (if dd then "-- ".toList else []) ++ printAlias (n, v)) [Effect.alias n v] := by
  rw [aliasCmd_line]
  refine line_block alias_util _ (by cases dd <;> simp [Item.noPattern, h]) _ ?_
  have hs : (splitEq (n ++ '=' :: v)).map (fun p => [Effect.alias p.1 p.2]) = some [Effect.alias n v] := by
    rw [splitEq_append n v hn]; rfl
  cases dd with
  | true => exact hs
  | false =>
    have hh : (n ++ '=' :: v).head? ≠ some '-' := by
      cases n with
      | nil => simp
      | cons c t => simpa using hd
    show (if (n ++ '=' :: v).head? = some '-' then none
      else (splitEq (n ++ '=' :: v)).map fun p => [Effect.alias p.1 p.2]) = _
    rw [if_neg hh, hs]

theorem varEffects_skip {b : String} {sa : Bool} {m v : Var} (hn : '=' ∈ v.name) : varEffects b sa m v = [] := by
  simp [varEffects, hn]

theorem varEffects_eq {b : String} {sa : Bool} {m v : Var} (hn : '=' ∉ v.name) (hv : ∀ vs, v.value ≠ .array vs) :
    varEffects b sa m v = [Effect.declare b (declared b m v.value)] := by
  unfold varEffects
  cases hval : v.value with
  | array vs => exact absurd hval (hv vs)
  | _ => simp [hn]

theorem varEffects_array {b : String} {sa : Bool} {m v : Var} {vs : List (List Char)} (hn : '=' ∉ v.name)
    (hv : v.value = .array vs) :
    varEffects b sa m v
      = Effect.assign v.name (.array vs) :: (if sa then [Effect.declare b (declared b m .none)] else []) := by
  simp [varEffects, hn, hv]

/-- the line(s) `print_one` prints for one variable of any kind; `m` carries the attributes shown as option letters
    (`typeset -p`: the variable's own; `export -p`, `readonly -p`: none) -/
theorem printVar_block (b : String) (hb : b ∈ declBuiltins) (opts : Var → List Char) (sig : Bool) (v m : Var)
    (hopts : opts v = typesetOpts m) (hm : m.name = v.name)
    (harr : ∀ vs, v.value = .array vs → strNeedsQuoting v.name = false) :
    Block (printVar b opts sig v) (varEffects b (!(opts v).isEmpty || sig) m v) := by
  by_cases hn : '=' ∈ v.name
  · rw [printVar_skip _ _ _ v hn, varEffects_skip hn]; exact Block.nil
  have hline : ∀ val, (∀ vs, val ≠ .array vs) →
      Block (b.toList ++ [' '] ++ opts v ++ sepOf v.name ++ (operandItem v.name val).text ++ ['\n'])
        [Effect.declare b (declared b m val)] := fun val hv => by
    rw [hopts, ← hm]
    exact decl_block b hb m val (hm ▸ hn) hv
  by_cases hv : ∃ vs, v.value = .array vs
  · obtain ⟨vs, hvs⟩ := hv
    have ha := array_block v.name vs (harr vs hvs)
    rw [printVar_array _ _ _ v vs hn hvs, varEffects_array hn hvs, quote_bare_is_identity _ (harr vs hvs)]
    by_cases hs : (!(opts v).isEmpty || sig) = true
    · rw [if_pos hs, if_pos hs]
      simpa [List.append_assoc] using ha.append (hline .none fun vs h => by cases h)
    · rw [if_neg hs, if_neg hs]
      simpa [List.append_assoc] using ha
  · have hv' : ∀ vs, v.value ≠ .array vs := fun vs h => hv ⟨vs, h⟩
    rw [printVar_eq _ _ _ v hn hv', varEffects_eq hn hv']
    exact hline _ hv'

theorem printVars_effects (b : String) (hb : b ∈ declBuiltins) (opts : Var → List Char) (sig : Bool)
    (mOf : Var → Var) (hopts : ∀ v, opts v = typesetOpts (mOf v)) (hm : ∀ v, (mOf v).name = v.name)
    (vars : List Var) (harr : ∀ v ∈ vars, ∀ vs, v.value = .array vs → strNeedsQuoting v.name = false) :
    evalScript ((vars.map (printVar b opts sig)).flatten)
      = some (vars.flatMap fun v => varEffects b (!(opts v).isEmpty || sig) (mOf v) v) :=
  (Block.flatten _ _ vars fun v hv => printVar_block b hb opts sig v (mOf v) (hopts v) (hm v) (harr v hv)).eval

theorem noArray_arrays {vars : List Var} {P : Var → Prop}
    (h : ∀ v ∈ vars, v.name.contains '=' = false ∧ ((∃ s, v.value = .scalar s) ∨ v.value = .none)) :
    ∀ v ∈ vars, ∀ vs, v.value = .array vs → P v :=
  fun v hv vs hvs => absurd hvs (not_array_of_scalar_or_none (h v hv).2 vs)

theorem varEffects_noArray (b : String) (sa : Var → Bool) (mOf : Var → Var) (vars : List Var)
    (h : ∀ v ∈ vars, v.name.contains '=' = false ∧ ((∃ s, v.value = .scalar s) ∨ v.value = .none)) :
    (vars.flatMap fun v => varEffects b (sa v) (mOf v) v)
      = vars.map fun v => Effect.declare b (declared b (mOf v) v.value) := by
  induction vars with
  | nil => rfl
  | cons v r ih =>
    rw [List.flatMap_cons, List.map_cons, ih fun x hx => h x (by simp [hx]),
      varEffects_eq (not_mem_of_contains (h v (by simp)).1) (not_array_of_scalar_or_none (h v (by simp)).2)]
    rfl

/-- `export -p` / `readonly -p` print no option letters, and the attribute line of an array always -/
theorem attrVars_effects (b : String) (hb : b ∈ declBuiltins) (vars : List Var)
    (harr : ∀ v ∈ vars, ∀ vs, v.value = .array vs → strNeedsQuoting v.name = false) :
    evalScript ((vars.map (printVar b (fun _ => []) true)).flatten)
      = some (vars.flatMap fun v => varEffects b true { v with exported := false, readonly := false } v) :=
  printVars_effects b hb (fun _ => []) true (fun v => { v with exported := false, readonly := false })
    (fun v => (typesetOpts_noAttr v).symm) (fun _ => rfl) vars harr

theorem printSet_block (v : Var) (hn : isName v.name = true) : Block (printSet v) (setEffects v) := by
  have hb := isName_bare v.name hn
  unfold printSet setEffects
  cases hval : v.value with
  | none => exact Block.nil
  | scalar s => simpa using assign_block v.name s hb
  | array vs => simpa using array_block v.name vs hb

theorem expectedSet_eq (s : State) :
    expectedSet s = (sortBy (·.name) (s.vars.filter (isName ·.name))).flatMap setEffects := by
  unfold expectedSet
  generalize sortBy (·.name) (s.vars.filter (isName ·.name)) = l
  induction l with
  | nil => rfl
  | cons v t ih =>
    cases hval : v.value <;> simp [setEffects, hval] <;> simpa using ih

theorem expectedTypeset_eq (s : State) :
    expectedTypeset s = (sortBy (·.name) s.vars).flatMap
      fun v => varEffects "typeset" (!(typesetOpts v).isEmpty || false) v v := by
  unfold expectedTypeset
  rw [flatMap_filter]
  congr 1
  funext v
  rw [typesetOpts_isEmpty]
  by_cases hn : '=' ∈ v.name
  · simp [varEffects_skip hn, hn]
  have hd : declared "typeset" v v.value = v := by simp [declared]
  cases hval : v.value with
  | array vs =>
    rw [varEffects_array hn hval]
    cases h : (v.readonly || v.exported) <;> simp [hn, h, declared]
  | _ => rw [varEffects_eq hn (by simp [hval]), hd]; simp [hn]

theorem expectedAttr_eq (b : String) (hb : b = "export" ∨ b = "readonly") (vars : List Var) :
    expectedAttrListing b vars = (sortBy (·.name) vars).flatMap
      fun v => varEffects b true { v with exported := false, readonly := false } v := by
  unfold expectedAttrListing
  rw [flatMap_filter]
  congr 1
  funext v
  by_cases hn : '=' ∈ v.name
  · simp [varEffects_skip hn, hn]
  cases hval : v.value with
  | array vs =>
    rw [varEffects_array hn hval]
    rcases hb with rfl | rfl <;> simp [hn, declared]
  | _ => rw [varEffects_eq hn (by simp [hval]), hval]; rcases hb with rfl | rfl <;> simp [hn, declared]

theorem arraysBare_spec (s : State) (h : arraysBare s = true) :
    ∀ v ∈ s.vars, ∀ vs, v.value = .array vs → strNeedsQuoting v.name = false := by
  intro v hv vs hval
  have := List.all_eq_true.mp h v hv
  simpa [hval] using this

end YashModel.Quote
