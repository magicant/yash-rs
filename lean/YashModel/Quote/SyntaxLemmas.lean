/-
  C07 ∘ C06 — lemmas: the syntax tree (C06 `Word`) that the quoter's output spells is the units of C07's own reader,
  unit by unit; it is in C06's proved fragment (`WordUnits.Ok`) whatever follows, and prints as `quote s`; the same for
  an item.
-/
import YashModel.Syntax.Word
import YashModel.Quote.Units
namespace YashModel.Quote
open YashModel.Generated.QuoteTables

/-- text units of the content of `"…"` that the quoter writes: a backslash before the escaped characters -/
def synText (s : List Char) : List Syntax.TextUnit :=
  s.map fun c => if quoteEscaped.contains c then .backslashed c else .literal c

/-- the word (C06's syntax tree: `Word` = list of `WordUnit`) that `quote s` spells -/
def synUnits (s : List Char) : Syntax.Word :=
  if !strNeedsQuoting s then s.map fun c => .unquoted (.literal c)
  else if !s.contains singleQuoteBlocker then [.singleQuote s]
  else [.doubleQuote (synText s)]

/-- characters denoted by the content of `"…"` when it has no expansion -/
def textChars : List Syntax.TextUnit → Option (List Char)
  | [] => some []
  | .literal c :: r => (textChars r).map (c :: ·)
  | .backslashed c :: r => (textChars r).map (c :: ·)
  | _ :: _ => none

/-- the literal-only fragment of C06's word units as the units of C07's reader -/
def toWUnit : Syntax.WordUnit → Option WUnit
  | .unquoted (.literal c) => some (.lit c)
  | .unquoted (.backslashed c) => some (.bs c)
  | .singleQuote s => some (.sq s)
  | .doubleQuote t => (textChars t).map WUnit.dq
  | _ => none

def toWUnits : Syntax.Word → Option (List WUnit)
  | [] => some []
  | u :: r =>
    match toWUnit u, toWUnits r with
    | some a, some b => some (a :: b)
    | _, _ => none

/-- a unit of C07's reader as the unit of C06's syntax tree the quoter writes for it -/
def WUnit.syn : WUnit → Syntax.WordUnit
  | .lit c => .unquoted (.literal c)
  | .bs c => .unquoted (.backslashed c)
  | .sq s => .singleQuote s
  | .dq s => .doubleQuote (synText s)

def Item.syn (i : Item) : Syntax.Word := i.units.map WUnit.syn

theorem synUnits_eq (s : List Char) : synUnits s = (unitsOf s).map WUnit.syn := by
  unfold synUnits unitsOf
  cases strNeedsQuoting s
  · simp [WUnit.syn]
  · cases s.contains singleQuoteBlocker <;> rfl

theorem Item.syn_assign (n v : List Char) :
    (Item.assign n v).syn = synUnits n ++ .unquoted (.literal '=') :: synUnits v := by
  simp [Item.syn, Item.units, synUnits_eq, WUnit.syn]

theorem textChars_synText (s : List Char) : textChars (synText s) = some s := by
  induction s with
  | nil => rfl
  | cons c cs ih =>
    unfold synText at ih ⊢
    rw [List.map_cons]
    cases h : quoteEscaped.contains c
    · simp only [Bool.false_eq_true, if_false, textChars, ih, Option.map_some]
    · simp only [if_true, textChars, ih, Option.map_some]

theorem toWUnits_map_syn (w : List WUnit) : toWUnits (w.map WUnit.syn) = some w := by
  induction w with
  | nil => rfl
  | cons u r ih => cases u <;> simp [toWUnits, toWUnit, WUnit.syn, ih, textChars_synText]

theorem toWUnits_synUnits (s : List Char) : toWUnits (synUnits s) = some (unitsOf s) := by
  rw [synUnits_eq, toWUnits_map_syn]

theorem printText_synText (s : List Char) : Syntax.printText (synText s) = escapeDq s := by
  induction s with
  | nil => simp [synText, Syntax.printText, escapeDq]
  | cons c cs ih =>
    simp only [synText, List.map_cons] at ih ⊢
    by_cases h : quoteEscaped.contains c = true
    · simp only [Syntax.printText, Syntax.printTextUnit, escapeDq, h, if_true, ih]
      rfl
    · simp only [Syntax.printText, Syntax.printTextUnit, escapeDq, h, Bool.false_eq_true, if_false, ih]
      rfl

theorem map_syn_lits (s : List Char) : (s.map WUnit.lit).map WUnit.syn = Syntax.digitsWord s := by
  simp [Syntax.digitsWord, WUnit.syn]

theorem printWord_synUnits (s : List Char) : Syntax.printWord (synUnits s) = quote s := by
  rw [synUnits_eq]
  rcases shapes s with ⟨_, hq, hu⟩ | ⟨_, _, hq, hu⟩ | ⟨_, hq, hu⟩ <;> rw [hq, hu]
  · rw [map_syn_lits]; exact Syntax.printWord_digitsWord s
  · simp [WUnit.syn, Syntax.printWord, Syntax.printWordUnit]
  · simp [WUnit.syn, Syntax.printWord, Syntax.printWordUnit, printText_synText]

theorem plainTok_of_not_special {c : Char} (h : ¬ lexerSpecial c) : Syntax.plainTok c = true := by
  simp only [lexerSpecial, not_or] at h
  obtain ⟨h1, h2, h3, h4, h5, h6, h7⟩ := h
  have hd : Syntax.Delim.token.test c = false := by
    show isTokenDelimiter c = false
    simp only [isTokenDelimiter, Bool.or_eq_false_iff]
    exact ⟨by simpa using h6, by simpa using h7⟩
  simp [Syntax.plainTok, h1, h2, h3, h4, h5, hd]

theorem ok_lits (s : List Char) (hs : ∀ c ∈ s, ¬ lexerSpecial c) (tail : List Char) :
    Syntax.WordUnits.Ok .word .token (Syntax.digitsWord s) tail :=
  Syntax.litWord_ok s (List.all_eq_true.mpr fun c hc => plainTok_of_not_special (hs c hc)) tail

theorem ok_text (s : List Char) (tail : List Char) :
    Syntax.TextUnits.Ok .text .dquote (synText s) tail := by
  induction s with
  | nil => simp [synText, Syntax.TextUnits.Ok]
  | cons c cs ih =>
    simp only [synText, List.map_cons, Syntax.TextUnits.Ok] at ih ⊢
    refine ⟨?_, ih⟩
    by_cases he : c ∈ quoteEscaped
    · have hx := escaped_escapable c he
      simp only [he, List.contains_iff_mem, if_true, Syntax.TextUnit.Ok]
      exact ⟨by simp [Syntax.escapable, List.contains_iff_mem, hx.1], hx.2⟩
    · obtain ⟨h1, h2, h3, h4⟩ := not_escaped_ne he
      simp only [he, List.contains_iff_mem, if_false, Syntax.TextUnit.Ok]
      exact ⟨h1, h3, h4, by simp [Syntax.Delim.test, h2]⟩

theorem ok_synUnits (s : List Char) (tail : List Char) :
    Syntax.WordUnits.Ok .word .token (synUnits s) tail := by
  rw [synUnits_eq]
  rcases shapes s with ⟨hn, _, hu⟩ | ⟨_, hb, _, hu⟩ | ⟨_, _, hu⟩ <;> rw [hu]
  · rw [map_syn_lits]; exact ok_lits s (bare_of_not_needs hn).special tail
  · simp [WUnit.syn, Syntax.WordUnits.Ok, Syntax.WordUnit.Ok, hb]
  · simpa [WUnit.syn, Syntax.WordUnits.Ok, Syntax.WordUnit.Ok] using ok_text s _

theorem ok_append (a b : Syntax.Word) (tail : List Char)
    (ha : ∀ t, Syntax.WordUnits.Ok .word .token a t) (hb : Syntax.WordUnits.Ok .word .token b tail) :
    Syntax.WordUnits.Ok .word .token (a ++ b) tail := by
  induction a with
  | nil => simpa using hb
  | cons u us ih =>
    have h1 := ha (Syntax.printWord b ++ tail)
    simp only [Syntax.WordUnits.Ok] at h1
    simp only [List.cons_append, Syntax.WordUnits.Ok, Syntax.printWord_append, List.append_assoc]
    refine ⟨h1.1, ih ?_⟩
    intro t
    have := ha t
    simp only [Syntax.WordUnits.Ok] at this
    exact this.2

theorem Item.printWord_syn (i : Item) : Syntax.printWord i.syn = i.text := by
  cases i with
  | word s => rw [Item.syn, Item.units, ← synUnits_eq]; exact printWord_synUnits s
  | assign n v =>
    rw [Item.syn_assign, Syntax.printWord_append, Syntax.printWord_cons, printWord_synUnits, printWord_synUnits]
    simp [Item.text, Syntax.printWordUnit, Syntax.printTextUnit]

theorem Item.ok_syn (i : Item) (tail : List Char) : Syntax.WordUnits.Ok .word .token i.syn tail := by
  cases i with
  | word s => rw [Item.syn, Item.units, ← synUnits_eq]; exact ok_synUnits s tail
  | assign n v =>
    rw [Item.syn_assign]
    apply ok_append _ _ _ (ok_synUnits n)
    have h1 := ok_lits ['='] (by intro c hc; simp at hc; subst hc; exact not_special_eq)
      (Syntax.printWord (synUnits v) ++ tail)
    simp only [Syntax.digitsWord, List.map_cons, List.map_nil, Syntax.WordUnits.Ok] at h1
    simp only [Syntax.WordUnits.Ok]
    exact ⟨h1.1, ok_synUnits v _⟩

/-- no tilde unit is made from the quoter's output (`parse_tilde_front` in `Lexer::token`) -/
theorem parseTildeFront_synUnits (s : List Char) : Syntax.parseTildeFront (synUnits s) = synUnits s := by
  rw [synUnits_eq]
  rcases unitsOf_cases s with ⟨hb, _, hu⟩ | ⟨_, u, hu, hq, _⟩ <;> rw [hu]
  · cases s with
    | nil => rfl
    | cons c cs =>
      have hc : c ≠ '~' := (firstChar_ne hb.first).2
      simp only [List.map_cons, WUnit.syn, Syntax.parseTildeFront]
      split
      · next h => injection h with h1 _; injection h1 with h1; injection h1 with h1; exact absurd h1 hc
      · rfl
  · cases u with
    | lit c => exact absurd rfl (hq c)
    | _ => rfl

end YashModel.Quote
