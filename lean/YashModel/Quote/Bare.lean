/-
  C07 — when a string needs no quoting: what the lexer makes of a run of literals, what needing no quoting gives
  (`Bare`), and that name characters need none.
-/
import YashModel.Quote.Reader
import YashModel.Quote.Listing

namespace YashModel.Quote
open YashModel.Generated.QuoteTables

/-- facts that `strNeedsQuoting s = false` gives about `s` -/
structure Bare (s : List Char) : Prop where
  nonempty : s ≠ []
  first : firstCharNeeds s = false
  special : ∀ c ∈ s, ¬ lexerSpecial c
  star : ∀ c ∈ s, c ≠ '*' ∧ c ≠ '?'
  noColonTilde : hasInfix [':', '~'] s = false
  noBracket : openThenClose '[' ']' s = false

theorem removeQuotes_lits (s : List Char) : removeQuotes (s.map WUnit.lit) = s := by
  induction s with
  | nil => rfl
  | cons c cs ih => simp [removeQuotes, WUnit.chars] at ih ⊢; exact ih

theorem any_lit_lits (a : Char) (s : List Char) : (s.map WUnit.lit).any (fun u => u = .lit a) = s.contains a := by
  induction s with
  | nil => rfl
  | cons c cs ih =>
    simp only [List.map_cons, List.any_cons] at ih ⊢
    rw [ih]
    by_cases h : c = a <;> simp [h, eq_comm]

theorem bracket_none (s : List Char) (h : ']' ∉ s) : bracketTriggered (s.map WUnit.lit) = false := by
  induction s with
  | nil => rfl
  | cons c cs ih =>
    have h2 : ']' ∉ cs := fun hh => h (by simp [hh])
    simp only [List.map_cons, bracketTriggered, hasLitClose, any_lit_lits, Bool.or_eq_false_iff]
    exact ⟨by simp [h2], ih h2⟩

theorem bracket_lits (s : List Char) (h : openThenClose '[' ']' s = false) :
    bracketTriggered (s.map WUnit.lit) = false := by
  induction s with
  | nil => rfl
  | cons c cs ih =>
    simp only [openThenClose] at h
    simp only [List.map_cons, bracketTriggered, hasLitClose, any_lit_lits, Bool.or_eq_false_iff]
    by_cases hc : c = '['
    · simp only [hc, if_true] at h
      have h2 : ']' ∉ cs := by simpa [List.contains_iff_mem] using h
      exact ⟨by simp [h2], bracket_none cs h2⟩
    · simp only [if_neg hc] at h
      exact ⟨by simp [hc], ih h⟩

theorem star_lits (s : List Char) (h : ∀ c ∈ s, c ≠ '*' ∧ c ≠ '?') :
    (s.map WUnit.lit).any (fun u => decide (u = .lit '*') || decide (u = .lit '?')) = false := by
  induction s with
  | nil => rfl
  | cons c cs ih =>
    have := h c (by simp)
    simp only [List.map_cons, List.any_cons, Bool.or_eq_false_iff]
    exact ⟨by simp [this.1, this.2], ih (fun d hd => h d (by simp [hd]))⟩

theorem tildeAfterColon_lits_append (s : List Char) (b : List WUnit)
    (h : hasInfix [':', '~'] s = false) (hb : tildeAt b = false) :
    tildeAfterColon (s.map WUnit.lit ++ b) = tildeAfterColon b := by
  induction s with
  | nil => rfl
  | cons c cs ih =>
    simp only [hasInfix, Bool.or_eq_false_iff] at h
    simp only [List.map_cons, List.cons_append, tildeAfterColon]
    rw [ih h.2]
    have : (decide (WUnit.lit c = WUnit.lit ':') && tildeAt (cs.map WUnit.lit ++ b)) = false := by
      cases cs with
      | nil => simp [hb]
      | cons d ds =>
        by_cases h1 : c = ':'
        · by_cases h2 : d = '~'
          · have := h.1
            simp [h1, h2, List.isPrefixOf] at this
          · simp [tildeAt, h2]
        · simp [h1]
    rw [this, Bool.false_or]

theorem assignValue_lits (s : List Char) (r : List WUnit) :
    ∀ seen : Bool, (seen = true ∨ s ≠ []) → '=' ∉ s →
      assignValue (s.map WUnit.lit ++ WUnit.lit '=' :: r) seen = some r := by
  induction s with
  | nil =>
    intro seen hs _
    have : seen = true := by rcases hs with h | h; exact h; exact absurd rfl h
    simp [assignValue, this]
  | cons c cs ih =>
    intro seen _ hne
    have hc : c ≠ '=' := fun h => hne (by simp [h])
    have hcs : '=' ∉ cs := fun h => hne (by simp [h])
    simp only [List.map_cons, List.cons_append, assignValue]
    rw [if_neg (by simp [hc])]
    exact ih true (Or.inl rfl) hcs

theorem assignValue_lits_none (s : List Char) (hne : '=' ∉ s) :
    ∀ seen : Bool, assignValue (s.map WUnit.lit) seen = none := by
  induction s with
  | nil => intro seen; rfl
  | cons c cs ih =>
    intro seen
    have hc : c ≠ '=' := fun h => hne (by simp [h])
    simp only [List.map_cons, assignValue]
    rw [if_neg (by simp [hc])]
    exact ih (fun h => hne (by simp [h])) true

theorem quote_bare_is_identity (s : List Char) (h : strNeedsQuoting s = false) : quote s = s := by
  rw [quote, h]; rfl

/-- `str_needs_quoting` answers `false` exactly when none of its five tests fires -/
theorem strNeedsQuoting_eq_false_iff (s : List Char) :
    strNeedsQuoting s = false ↔ s ≠ [] ∧ firstCharNeeds s = false ∧ (∀ c ∈ s, charNeedsQuoting c = false)
      ∧ (∀ p ∈ infixStrings, hasInfix p s = false) ∧ ∀ p ∈ bracketPairs, openThenClose p.1 p.2 s = false := by
  simp only [strNeedsQuoting, Bool.or_eq_false_iff, List.isEmpty_eq_false_iff, List.any_eq_false, Bool.not_eq_true,
    and_assoc]

theorem not_needs_chars {s : List Char} (hn : strNeedsQuoting s = false) : ∀ c ∈ s, charNeedsQuoting c = false :=
  ((strNeedsQuoting_eq_false_iff s).mp hn).2.2.1

theorem bare_of_not_needs {s : List Char} (hn : strNeedsQuoting s = false) : Bare s := by
  obtain ⟨hne, hfirst, hchars, hinf, hbr⟩ := (strNeedsQuoting_eq_false_iff s).mp hn
  have harm : ∀ c ∈ s, c ∉ ['\\', '\'', '"', '$', '`', '*', '?'] := fun c hc hm =>
    Bool.false_ne_true ((hchars c hc).symm.trans (charNeedsQuoting_of_mem (arms_special c hm)))
  exact ⟨hne, hfirst,
    fun c hc hsp => Bool.false_ne_true ((hchars c hc).symm.trans (lexerSpecial_charNeedsQuoting _ hsp)),
    fun c hc => ⟨fun h => harm c hc (by simp [h]), fun h => harm c hc (by simp [h])⟩,
    hinf _ infix_colon_tilde, hbr _ pair_bracket⟩

theorem not_needs_no_eq {s : List Char} (hn : strNeedsQuoting s = false) : '=' ∉ s := fun h =>
  Bool.false_ne_true ((not_needs_chars hn '=' h).symm.trans eq_needs_quoting)

theorem Bare.no_tilde {s : List Char} (hb : Bare s) (r : List WUnit) :
    tildeAt (s.map WUnit.lit ++ r) = false ∧ tildeFront (s.map WUnit.lit ++ r) = false := by
  cases s with
  | nil => exact absurd rfl hb.nonempty
  | cons c cs => simp [tildeAt, tildeFront, (firstChar_ne hb.first).2]

theorem nameChar_range {c : Char} (h : isNameChar c = true) : 48 ≤ c.toNat ∧ c.toNat ≤ 122 := by
  simp only [isNameChar, Char.isAlphanum, Char.isAlpha, Char.isUpper, Char.isLower, Char.isDigit,
    Bool.or_eq_true, Bool.and_eq_true, decide_eq_true_eq] at h
  have e : c.toNat = c.val.toNat := rfl
  rcases h with ((⟨h1, h2⟩ | ⟨h1, h2⟩) | ⟨h1, h2⟩) | h
  · have := UInt32.le_iff_toNat_le.mp h1; have := UInt32.le_iff_toNat_le.mp h2
    simp at *; omega
  · have := UInt32.le_iff_toNat_le.mp h1; have := UInt32.le_iff_toNat_le.mp h2
    simp at *; omega
  · have := UInt32.le_iff_toNat_le.mp h1; have := UInt32.le_iff_toNat_le.mp h2
    simp at *; omega
  · subst h; decide

theorem arms_not_name : ∀ c ∈ needsQuotingArms, isNameChar c = false := by decide
theorem firstArms_not_name : ∀ c ∈ firstCharArms, isNameChar c = false := by decide
theorem infix_not_name : ∀ p ∈ infixStrings, ∃ c ∈ p, isNameChar c = false := by decide
theorem pairs_not_name : ∀ p ∈ bracketPairs, isNameChar p.1 = false := by decide
theorem ws_not_name : ∀ r ∈ whitespaceRanges, r.2 < 48 ∨ 122 < r.1 := by decide

theorem nameChar_not_needs {c : Char} (h : isNameChar c = true) : charNeedsQuoting c = false := by
  unfold charNeedsQuoting
  rw [Bool.or_eq_false_iff]
  constructor
  · rw [Bool.eq_false_iff]
    intro hc
    have := arms_not_name c (List.contains_iff_mem.mp hc)
    rw [h] at this; cases this
  · rw [Bool.and_eq_false_iff]; right
    rw [Bool.eq_false_iff]
    intro hw
    unfold isWhitespace at hw
    obtain ⟨r, hr, hin⟩ := List.any_eq_true.mp hw
    simp only [Bool.and_eq_true, decide_eq_true_eq] at hin
    have := ws_not_name r hr
    have := nameChar_range h
    omega

theorem hasInfix_mem (p : List Char) : ∀ s, hasInfix p s = true → ∀ c ∈ p, c ∈ s := by
  intro s
  induction s with
  | nil =>
    intro h c hc
    simp only [hasInfix, List.isEmpty_iff] at h
    subst h; cases hc
  | cons a t ih =>
    intro h c hc
    simp only [hasInfix, Bool.or_eq_true] at h
    rcases h with h | h
    · have := List.isPrefixOf_iff_prefix.mp h
      exact this.subset hc
    · exact List.mem_cons_of_mem _ (ih h c hc)

theorem openThenClose_mem (o c : Char) : ∀ s, openThenClose o c s = true → o ∈ s := by
  intro s
  induction s with
  | nil => intro h; simp [openThenClose] at h
  | cons a t ih =>
    intro h
    simp only [openThenClose] at h
    by_cases ha : a = o
    · simp [ha]
    · rw [if_neg ha] at h
      exact List.mem_cons_of_mem _ (ih h)

theorem nameChars_bare (n : List Char) (hne : n ≠ []) (h : ∀ c ∈ n, isNameChar c = true) :
    strNeedsQuoting n = false := by
  refine (strNeedsQuoting_eq_false_iff n).mpr ⟨hne, ?_, fun c hc => nameChar_not_needs (h c hc), ?_, ?_⟩
  · cases n with
    | nil => rfl
    | cons c t =>
      rw [firstCharNeeds, Bool.eq_false_iff]
      intro hc
      have := firstArms_not_name c (List.contains_iff_mem.mp hc)
      rw [h c (by simp)] at this; cases this
  · intro p hp
    rw [Bool.eq_false_iff]
    intro hi
    obtain ⟨c, hc, hn⟩ := infix_not_name p hp
    have := h c (hasInfix_mem p n hi c hc)
    rw [hn] at this; cases this
  · intro p hp
    rw [Bool.eq_false_iff]
    intro hi
    have := h p.1 (openThenClose_mem p.1 p.2 n hi)
    rw [pairs_not_name p hp] at this; cases this

theorem isName_bare (n : List Char) (h : Listing.isName n = true) : strNeedsQuoting n = false := by
  cases n with
  | nil => simp [Listing.isName] at h
  | cons c t =>
    simp only [Listing.isName, Bool.and_eq_true, List.all_eq_true] at h
    exact nameChars_bare _ (by simp) h.2

end YashModel.Quote
