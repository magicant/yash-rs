/-
  C07 ∘ C06 — composition theorems, with non-vacuity examples: the quoter's output is read by C06's model
  of the REAL word lexer (`yash-syntax` `WordLexer::word` with every expansion form, transcribed and proved
  self-delimiting in `YashModel/Syntax`) as exactly one word whose quote removal is the original string — not
  only by C07's own reader `lex`, which is restricted to literal-only words.
-/
import YashModel.Quote.SyntaxLemmas
namespace YashModel.Quote
open YashModel.Generated.QuoteTables

theorem item_lexes_as_one_word (i : Item) (e : Char) (rest : List Char) (he : Syntax.Delim.token.Ends e) :
    Syntax.lexWord .token (i.text ++ e :: rest) = some (i.syn, e :: rest) := by
  rw [← i.printWord_syn]
  exact Syntax.word_self_delimiting .token i.syn e rest (i.ok_syn _) he

/-- ★ C06's model of the REAL word lexer (`WordLexer::word(is_token_delimiter_char)`: every expansion form,
    line continuations, `$'…'`, `${…}` — not a reader restricted to literal words) reads the quoter's output,
    followed by any delimiter character and any text, as exactly the one word `synUnits s` and stops in front
    of the delimiter. -/
theorem quote_lexes_as_one_word (s : List Char) (e : Char) (rest : List Char) (he : Syntax.Delim.token.Ends e) :
    Syntax.lexWord .token (quote s ++ e :: rest) = some (synUnits s, e :: rest) := by
  rw [synUnits_eq]
  exact item_lexes_as_one_word (.word s) e rest he

/-- ★ the same for `name=value` words (two quoted halves glued by `=`): one word, in every position the
    listings put it (argument of `alias`, operand of a declaration utility, assignment) -/
theorem quote_assign_lexes_as_one_word (n v : List Char) (e : Char) (rest : List Char)
    (he : Syntax.Delim.token.Ends e) :
    Syntax.lexWord .token (quote n ++ '=' :: (quote v ++ e :: rest))
      = some (synUnits n ++ .unquoted (.literal '=') :: synUnits v, e :: rest) := by
  simpa only [Item.text, Item.syn_assign, List.append_assoc, List.cons_append] using
    item_lexes_as_one_word (.assign n v) e rest he

/-- ★ the round trip through C06's lexer: for EVERY string, the word that the real-lexer model reads from the
    quoter's output (in front of any delimiter and any text) is unchanged by `parse_tilde_front`, consists of
    literal / quoted units only (no expansion), denotes exactly `s` after quote removal, and is the word C07's
    own reader `lex` yields for `quote s`.  (For a `name=value` item: `item_lexes_as_one_word` with
    `toWUnits_map_syn`; nothing is stated here about a line of several items.) -/
theorem quote_roundtrip_real_lexer (s : List Char) (e : Char) (rest : List Char)
    (he : Syntax.Delim.token.Ends e) :
    ∃ w, Syntax.lexWord .token (quote s ++ e :: rest) = some (w, e :: rest)
      ∧ Syntax.parseTildeFront w = w
      ∧ (toWUnits w).map removeQuotes = some s
      ∧ lex (.word []) (quote s) = (toWUnits w).map fun us => [us] := by
  refine ⟨synUnits s, quote_lexes_as_one_word s e rest he, parseTildeFront_synUnits s, ?_, ?_⟩
  · rw [toWUnits_synUnits]; simp [removeQuotes_unitsOf]
  · rw [toWUnits_synUnits]; exact lex_item (.word s)

/-! Non-vacuity: delimiters that end a word (blank, newline, `)`), the three shapes -/
example : Syntax.Delim.token.Ends ' ' := ⟨by decide, by decide⟩
example : Syntax.Delim.token.Ends '\n' := ⟨by decide, by decide⟩
example : Syntax.Delim.token.Ends ')' := ⟨by decide, by decide⟩
example : synUnits "a:b".toList = [.unquoted (.literal 'a'), .unquoted (.literal ':'), .unquoted (.literal 'b')] := by rfl
example : synUnits "a b".toList = [.singleQuote "a b".toList] := by rfl
example : synUnits "it's $x".toList = [.doubleQuote [.literal 'i', .literal 't', .literal '\'', .literal 's',
    .literal ' ', .backslashed '$', .literal 'x']] := by rfl
example (rest : List Char) : Syntax.lexWord .token (quote "it's `x`".toList ++ '\n' :: rest)
    = some (synUnits "it's `x`".toList, '\n' :: rest) :=
  quote_lexes_as_one_word _ _ _ ⟨by decide, by decide⟩

end YashModel.Quote
