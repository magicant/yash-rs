/-
  C07 — the lines the listing built-ins print, in normal form: each command line is `line` of a list of items (utility
  and option words are printed bare; the separator `--`), and what the declaration utilities' argument parser makes of
  such a line.
-/
import YashModel.Quote.Units

namespace YashModel.Quote
open YashModel.Generated.QuoteTables
open Listing

/-- what reading a command line needs to know of a utility name: it is printed bare, is not a reserved word, and
    the built-in table says whether it is a declaration utility -/
def IsUtil (b : List Char) (d : Bool) : Prop :=
  strNeedsQuoting b = false ∧ isKeywordWord (b.map WUnit.lit) = false ∧ declLookup (b.map WUnit.lit) = some d

/-- `separator` of the two `print_one` functions: `-- ` in front of a name that starts with a character of the
    table (`Listing.sepOf = sepWith separatorPrefixes` and `Listing.fsepOf = sepWith functionSeparatorPrefixes` hold by
    unfolding, and are used so without a lemma) -/
def sepWith (table : List Char) : List Char → List Char
  | c :: _ => if table.contains c then "-- ".toList else []
  | [] => []

def sepWords (sep : List Char) : List (List Char) := if sep.isEmpty then [] else ["--".toList]

def typesetOptWords (v : Listing.Var) : List (List Char) :=
  (if v.readonly then ["-r".toList] else []) ++ (if v.exported then ["-x".toList] else [])
    ++ sepWords (Listing.sepOf v.name)

def operandItem (name : List Char) : Listing.VarVal → Item
  | .scalar s => .assign name s
  | .none => .word name
  | .array _ => .word name

/-- a word that the option parser takes for the first operand: it begins with neither `-` (an option cluster) nor
    `+` (the model's `parseDeclArgs` gives up on a `+x` word) -/
def headOk (w : List Char) : Prop := ∀ c r, w = c :: r → c ≠ '-' ∧ c ≠ '+'

def attrLetters (v : Var) : List Char :=
  (if v.readonly then ['r'] else []) ++ (if v.exported then ['x'] else [])

/-- the variable that evaluating `b [-r] [-x] [--] operand` declares -/
def declared (b : String) (m : Var) (value : VarVal) : Var :=
  { name := m.name, value := value, exported := m.exported || b = "export", readonly := m.readonly || b = "readonly" }

/-- the utilities the listings name (tables: keywords, `declUtils`) -/
theorem listing_utils : ∀ p ∈ [("trap".toList, false), ("set".toList, false), ("alias".toList, false),
    ("typeset".toList, true), ("export".toList, true), ("readonly".toList, true)], IsUtil p.1 p.2 := by
  have h : ∀ p ∈ [("trap".toList, false), ("set".toList, false), ("alias".toList, false),
      ("typeset".toList, true), ("export".toList, true), ("readonly".toList, true)],
      (p.1 ≠ [] ∧ ∀ c ∈ p.1, isNameChar c = true) ∧ isKeywordWord (p.1.map WUnit.lit) = false
        ∧ declLookup (p.1.map WUnit.lit) = some p.2 := by decide +kernel
  exact fun p hp => ⟨nameChars_bare _ (h p hp).1.1 (h p hp).1.2, (h p hp).2⟩

theorem trap_util : IsUtil "trap".toList false := listing_utils ("trap".toList, false) (by decide)
theorem set_util : IsUtil "set".toList false := listing_utils ("set".toList, false) (by decide)
theorem alias_util : IsUtil "alias".toList false := listing_utils ("alias".toList, false) (by decide)
theorem typeset_util : IsUtil "typeset".toList true := listing_utils ("typeset".toList, true) (by decide)

/-- the three declaration built-ins (tables: keywords, `declUtils`) -/
theorem decl_util (b : String) (hb : b ∈ Listing.declBuiltins) :
    IsUtil b.toList true ∧ Listing.declBuiltins.find? (fun x => decide (x.toList = b.toList)) = some b := by
  simp only [Listing.declBuiltins, List.mem_cons, List.not_mem_nil, or_false] at hb
  rcases hb with rfl | rfl | rfl
  · exact ⟨typeset_util, by decide⟩
  · exact ⟨listing_utils ("export".toList, true) (by decide), by decide⟩
  · exact ⟨listing_utils ("readonly".toList, true) (by decide), by decide⟩

theorem IsUtil.quote {b : List Char} {d : Bool} (h : IsUtil b d) : quote b = b := quote_bare_is_identity _ h.1

theorem flagWords_unquoted : ∀ w ∈ ["--".toList, "-r".toList, "-x".toList, "-fr".toList, ['-', 'o'], ['+', 'o']],
    quote w = w := by decide +kernel

theorem dd_blank : "-- ".toList = "--".toList ++ [' '] := by decide +kernel
theorem typeset_blank : "typeset ".toList = "typeset".toList ++ [' '] := by decide
theorem alias_dd : "alias -- ".toList = "alias ".toList ++ (if true then "-- ".toList else []) := by decide +kernel

theorem Item.map_text_unquoted (ws : List (List Char)) (hq : ∀ w ∈ ws, quote w = w) :
    (ws.map Item.word).map Item.text = ws := by
  rw [List.map_map, Item.text_comp_word, (List.map_congr_left hq).trans (List.map_id _)]

/-- the signal names of the virtual system (table extracted from `virtual/signal.rs`) and `EXIT` are printed
    bare: letters and digits only -/
theorem condition_names_unquoted (c : String)
    (h : c = "EXIT" ∨ c ∈ Generated.ListingTables.virtualSignals.map (·.1)) : quote c.toList = c.toList := by
  have ht : ∀ p ∈ Generated.ListingTables.virtualSignals,
      p.1.toList ≠ [] ∧ ∀ ch ∈ p.1.toList, isNameChar ch = true := by decide +kernel
  rcases h with rfl | hm
  · exact quote_bare_is_identity _ (nameChars_bare _ (by decide) (by decide))
  · obtain ⟨p, hp, rfl⟩ := List.mem_map.mp hm
    exact quote_bare_is_identity _ (nameChars_bare _ (ht p hp).1 (ht p hp).2)

theorem condOrder_known : ∀ c ∈ Listing.condOrder,
    c = "EXIT" ∨ c ∈ Generated.ListingTables.virtualSignals.map (·.1) := by decide +kernel

theorem printTrap_line (c : String) (a : List Char) (hq : quote c.toList = c.toList) :
    Listing.printTrap (c, a) = line [.word "trap".toList, .word "--".toList, .word a, .word c.toList] := by
  have hp : "trap -- ".toList = "trap".toList ++ ' ' :: ("--".toList ++ [' ']) := by decide +kernel
  -- (`simp` must not unfold a printer itself: it would put the string literals into `whnf`)
  unfold Listing.printTrap line
  simp only [List.map, joinSp, Item.text]
  rw [trap_util.quote, flagWords_unquoted "--".toList (by decide), hq, hp]
  simp only [List.append_assoc, List.cons_append, List.nil_append]

/-- the command `alias [-- ]<entry>`: as the harness gives an entry of `alias` back (`--`), and as `command -v`
    prints an alias -/
theorem aliasCmd_line (dd : Bool) (n v : List Char) :
    "alias ".toList ++ (if dd then "-- ".toList else []) ++ Listing.printAlias (n, v)
      = line (.word "alias".toList :: ((if dd then [Item.word "--".toList] else []) ++ [.assign n v])) := by
  have hp : "alias ".toList = "alias".toList ++ [' '] := by decide +kernel
  unfold Listing.printAlias line
  cases dd <;> simp only [List.map, joinSp, Item.text, if_true, if_false, Bool.false_eq_true, List.cons_append,
    List.nil_append]
  · rw [alias_util.quote, hp]
    simp only [List.append_assoc, List.cons_append, List.nil_append, List.append_nil]
  · rw [alias_util.quote, flagWords_unquoted "--".toList (by decide), hp, dd_blank]
    simp only [List.append_assoc, List.cons_append, List.nil_append]

theorem sepWith_cases (table : List Char) (n : List Char) :
    sepWith table n = [] ∨ sepWith table n = "-- ".toList := by
  cases n with
  | nil => exact Or.inl rfl
  | cons c cs =>
    simp only [sepWith]
    split
    · exact Or.inr rfl
    · exact Or.inl rfl

theorem sepWith_operand_safe (table : List Char) (ht : ∀ c ∈ Listing.optionPrefixChars, c ∈ table)
    (name : List Char) :
    (!(sepWith table name).isEmpty ||
      !(match name with | c :: _ => Listing.optionPrefixChars.contains c | [] => false)) = true := by
  cases name with
  | nil => rfl
  | cons c cs =>
    by_cases h : c ∈ Listing.optionPrefixChars
    · simp only [sepWith, List.contains_iff_mem.mpr (ht c h), if_true]; rfl
    · simp [h]

theorem sepOf_cases (n : List Char) : Listing.sepOf n = [] ∨ Listing.sepOf n = "-- ".toList :=
  sepWith_cases Generated.QuoteTables.separatorPrefixes n

theorem fsepOf_cases (n : List Char) : Listing.fsepOf n = [] ∨ Listing.fsepOf n = "-- ".toList :=
  sepWith_cases Generated.QuoteTables.functionSeparatorPrefixes n

theorem sepWords_dd : sepWords "-- ".toList = ["--".toList] := by decide +kernel

theorem sepWords_unquoted (sep : List Char) : ∀ w ∈ sepWords sep, quote w = w := by
  intro w hw
  unfold sepWords at hw
  split at hw
  · cases hw
  · exact flagWords_unquoted w (by simp_all)

theorem sep_text {sep : List Char} (h : sep = [] ∨ sep = "-- ".toList) (t : List Char) :
    sep ++ t = joinSp (sepWords sep ++ [t]) := by
  rcases h with h | h <;> rw [h]
  · rfl
  · rw [sepWords_dd, dd_blank]
    simp [joinSp]

theorem line_cons (i : Item) (is : List Item) (h : is ≠ []) : line (i :: is) = i.text ++ ' ' :: line is := by
  rw [line, line, List.map_cons, joinSp_cons_ne _ _ (by simpa using h)]
  simp

theorem printFnAttr_line (name : List Char) :
    Listing.printFnAttr name
      = line (.word "typeset".toList :: .word "-fr".toList
          :: ((sepWords (Listing.fsepOf name)).map Item.word ++ [.word name])) := by
  have hp : "typeset -fr ".toList = "typeset".toList ++ ' ' :: ("-fr".toList ++ [' ']) := by decide +kernel
  rw [line_cons _ _ (by simp), line_cons _ _ (by simp), line, List.map_append, Item.map_text_unquoted _ (sepWords_unquoted _),
    List.map, List.map, ← sep_text (fsepOf_cases name)]
  unfold Listing.printFnAttr
  simp only [Item.text]
  rw [typeset_util.quote, flagWords_unquoted "-fr".toList (by decide), hp]
  simp only [List.append_assoc, List.cons_append, List.nil_append]

theorem typesetOptWords_unquoted (m : Listing.Var) : ∀ w ∈ typesetOptWords m, quote w = w := by
  intro w hw
  unfold typesetOptWords at hw
  simp only [List.mem_append] at hw
  rcases hw with (hw | hw) | hw
  · exact flagWords_unquoted w (by split at hw <;> simp_all)
  · exact flagWords_unquoted w (by split at hw <;> simp_all)
  · exact sepWords_unquoted _ w hw

/-- what `print_one` prints after the utility name: `[-r ][-x ][-- ]<item>`, the item being `name=value` (a scalar)
    or `name` (no value; the attribute line of an array) -/
theorem declArgs_text (m : Listing.Var) (i : Item) :
    Listing.typesetOpts m ++ Listing.sepOf m.name ++ i.text
      = joinSp (((typesetOptWords m).map Item.word ++ [i]).map Item.text) := by
  have h1 : "-r ".toList = "-r".toList ++ [' '] := by decide +kernel
  have h2 : "-x ".toList = "-x".toList ++ [' '] := by decide +kernel
  rw [List.map_append, Item.map_text_unquoted _ (typesetOptWords_unquoted m), List.append_assoc, sep_text (sepOf_cases m.name)]
  show _ = joinSp (typesetOptWords m ++ [i.text])
  unfold Listing.typesetOpts typesetOptWords
  rw [h1, h2]
  cases m.readonly <;> cases m.exported <;> simp [joinSp_cons_ne]

theorem declLine (b : String) (hb : quote b.toList = b.toList) (m : Listing.Var) (i : Item) :
    b.toList ++ [' '] ++ Listing.typesetOpts m ++ Listing.sepOf m.name ++ i.text ++ ['\n']
      = line (.word b.toList :: ((typesetOptWords m).map Item.word ++ [i])) := by
  rw [line_cons _ _ (by simp), line, ← declArgs_text, Item.text, hb]
  simp

theorem decl_line_reparse (m : Listing.Var) (i : Item) :
    readBackDecl (Listing.typesetOpts m ++ Listing.sepOf m.name ++ i.text)
      = some (typesetOptWords m ++ [i.field]) := by
  rw [declArgs_text, readBackDecl_eq_readAs, readAs_items true _ rfl]
  simp

/-- every option name of the table extracted from yash-env/src/option.rs needs no quoting: letters only -/
theorem option_names_needNoQuoting : ∀ o ∈ Generated.OptionTable.options, strNeedsQuoting o.1 = false := by
  have ht : ∀ o ∈ Generated.OptionTable.options, o.1 ≠ [] ∧ ∀ c ∈ o.1, isNameChar c = true := by decide +kernel
  exact fun o ho => nameChars_bare o.1 (ht o ho).1 (ht o ho).2

theorem printOpt_line (name : List Char) (hb : quote name = name) (on : Bool) :
    Listing.printOpt name true on = line [.word "set".toList, .word [if on then '-' else '+', 'o'], .word name] := by
  have h3 : "set ".toList = "set".toList ++ [' '] := by decide +kernel
  have h4 : "o ".toList = ['o', ' '] := by decide +kernel
  unfold Listing.printOpt line
  cases on <;> simp only [List.map, joinSp, Item.text, if_true, if_false, Bool.false_eq_true]
  · rw [set_util.quote, flagWords_unquoted ['+', 'o'] (by decide), hb, h3, h4]
    simp only [List.append_assoc, List.cons_append, List.nil_append]
  · rw [set_util.quote, flagWords_unquoted ['-', 'o'] (by decide), hb, h3, h4]
    simp only [List.append_assoc, List.cons_append, List.nil_append]

theorem splitEq_append (n v : List Char) (h : '=' ∉ n) : splitEq (n ++ '=' :: v) = some (n, v) := by
  induction n with
  | nil => simp [splitEq]
  | cons c cs ih =>
    have hc : c ≠ '=' := fun e => h (by simp [e])
    have := ih (fun e => h (by simp [e]))
    simp [splitEq, hc, this]

theorem splitEq_none (w : List Char) (h : '=' ∉ w) : splitEq w = none := by
  induction w with
  | nil => rfl
  | cons c cs ih =>
    have hc : c ≠ '=' := fun e => h (by simp [e])
    simp [splitEq, hc, ih (fun e => h (by simp [e]))]

theorem stripPrefix_append (p l : List Char) : stripPrefix p (p ++ l) = some l := by
  induction p with
  | nil => cases l <;> rfl
  | cons c cs ih => simp [stripPrefix, ih]

theorem parseDeclArgs_operand (w : List Char) (ws : List (List Char)) (o : List Char) (h : headOk w) :
    parseDeclArgs (w :: ws) o = some (o, w :: ws) := by
  cases w with
  | nil => simp [parseDeclArgs]
  | cons c r =>
    have hc := h c r rfl
    have h1 : (c :: r) ≠ ['-', '-'] := by
      intro e; injection e with e1 _; exact hc.1 e1
    unfold parseDeclArgs
    rw [if_neg h1]
    split
    · next heq => injection heq with e1 _; exact absurd e1 hc.1
    · next heq => injection heq with e1 _; exact absurd e1 hc.2
    · rfl

theorem parseDeclArgs_cluster (c : Char) (cs : List Char) (ws : List (List Char)) (o : List Char)
    (h : c :: cs ≠ ['-']) : parseDeclArgs (('-' :: c :: cs) :: ws) o = parseDeclArgs ws (o ++ c :: cs) := by
  have h1 : ('-' :: c :: cs) ≠ ['-', '-'] := fun e => h (List.cons.inj e).2
  simp [parseDeclArgs, h1]

theorem parse_dd (ws : List (List Char)) (o : List Char) :
    parseDeclArgs (['-', '-'] :: ws) o = some (o, ws) := by
  simp [parseDeclArgs]

theorem headOk_of_sepWith (table : List Char) (ht : ∀ c ∈ optionPrefixChars, c ∈ table) (name rest : List Char)
    (hs : sepWith table name = []) (hr : headOk rest) : headOk (name ++ rest) := by
  cases name with
  | nil => simpa using hr
  | cons c cs =>
    have h := sepWith_operand_safe table ht (c :: cs)
    rw [hs] at h
    have hc : c ∉ optionPrefixChars := by simpa using h
    intro d r e
    cases e
    exact ⟨fun e2 => hc (by simp [optionPrefixChars, e2]), fun e2 => hc (by simp [optionPrefixChars, e2])⟩

theorem parseDeclArgs_sepWords {sep : List Char} (h : sep = [] ∨ sep = "-- ".toList) (w : List Char)
    (hw : sep = [] → headOk w) (o : List Char) : parseDeclArgs (sepWords sep ++ [w]) o = some (o, [w]) := by
  rcases h with h | h
  · rw [h]; exact parseDeclArgs_operand w [] o (hw h)
  · rw [h, sepWords_dd]; exact parse_dd [w] o

theorem headOk_eq (s : List Char) : headOk ('=' :: s) := by
  intro c r e; injection e with e1 _; subst e1; exact ⟨by decide, by decide⟩

theorem headOk_nil : headOk [] := by intro c r e; cases e

theorem operandItem_headOk (n : List Char) (val : VarVal) (h : sepOf n = []) : headOk (operandItem n val).field := by
  cases val with
  | scalar s => exact headOk_of_sepWith separatorPrefixes (by decide) n ('=' :: s) h (headOk_eq s)
  | _ => simpa [operandItem, Item.field] using headOk_of_sepWith separatorPrefixes (by decide) n [] h headOk_nil

theorem parse_typesetOptWords (v : Var) (val : VarVal) :
    parseDeclArgs (typesetOptWords v ++ [(operandItem v.name val).field]) []
      = some (attrLetters v, [(operandItem v.name val).field]) := by
  have hs := fun o => parseDeclArgs_sepWords (sepOf_cases v.name) _ (operandItem_headOk v.name val) o
  unfold typesetOptWords attrLetters
  have hr : "-r".toList = ['-', 'r'] := by decide
  have hx : "-x".toList = ['-', 'x'] := by decide
  rw [hr, hx]
  cases v.readonly <;> cases v.exported <;>
    simp [parseDeclArgs_cluster, hs]

theorem attrLetters_ok (v : Var) : (attrLetters v).all (fun c => c = 'r' || c = 'x') = true := by
  unfold attrLetters; cases v.readonly <;> cases v.exported <;> decide

theorem attrLetters_x (v : Var) : (attrLetters v).contains 'x' = v.exported := by
  unfold attrLetters; cases v.readonly <;> cases v.exported <;> decide

theorem attrLetters_r (v : Var) : (attrLetters v).contains 'r' = v.readonly := by
  unfold attrLetters; cases v.readonly <;> cases v.exported <;> decide

/-- the words `print_one` prints after the utility's name, for the attributes and name of `m` and a value that is no
    array, declare `declared b m val`: option letters, `--` and the operand are found again, the operand splits at
    its first `=` (none in the name) -/
theorem declArgs_operand (b : String) (m : Var) (val : VarVal) (hne : '=' ∉ m.name) (hv : ∀ vs, val ≠ .array vs) :
    evalDeclArgs b (typesetOptWords m ++ [(operandItem m.name val).field]) = some (declared b m val) := by
  simp only [evalDeclArgs, parse_typesetOptWords m val, Option.bind_some, attrLetters_ok,
    Bool.not_true, Bool.false_eq_true, if_false, attrLetters_x, attrLetters_r]
  cases val with
  | scalar s => rw [operandItem, Item.field, splitEq_append m.name s hne]; rfl
  | none => rw [operandItem, Item.field, splitEq_none m.name hne]; rfl
  | array vs => exact absurd rfl (hv vs)

theorem not_mem_of_contains {n : List Char} (h : n.contains '=' = false) : '=' ∉ n := by
  simpa [List.contains_iff_mem] using h

theorem not_array_of_scalar_or_none {val : VarVal} (h : (∃ s, val = .scalar s) ∨ val = .none) : ∀ vs, val ≠ .array vs := by
  rintro vs rfl
  rcases h with ⟨s, h⟩ | h <;> cases h

theorem printVar_skip (b : String) (opts : Var → List Char) (sig : Bool) (v : Var) (hn : '=' ∈ v.name) :
    printVar b opts sig v = [] := by
  simp [printVar, hn]

theorem printVar_eq (b : String) (opts : Var → List Char) (sig : Bool) (v : Var) (hn : '=' ∉ v.name)
    (hv : ∀ vs, v.value ≠ .array vs) :
    printVar b opts sig v
      = b.toList ++ [' '] ++ opts v ++ sepOf v.name ++ (operandItem v.name v.value).text ++ ['\n'] := by
  unfold printVar
  cases hval : v.value with
  | array vs => exact absurd hval (hv vs)
  | _ => simp [hn, operandItem, Item.text]

theorem printVar_array (b : String) (opts : Var → List Char) (sig : Bool) (v : Var) (vs : List (List Char))
    (hn : '=' ∉ v.name) (hv : v.value = .array vs) :
    printVar b opts sig v
      = quote v.name ++ ['='] ++ quoteArray vs ++ ['\n']
        ++ (if !(opts v).isEmpty || sig
            then b.toList ++ [' '] ++ opts v ++ sepOf v.name ++ (operandItem v.name .none).text ++ ['\n'] else []) := by
  simp [printVar, hn, hv, operandItem, Item.text]

end YashModel.Quote
