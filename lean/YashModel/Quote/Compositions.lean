/-
  C07 composed with C02's model of `command -v` (`Exec/Identify.lean`) and C20's model of the `set` built-in's own
  argument parser (`Args/Bespoke.lean`).
-/
import YashModel.Quote.Blocks
import YashModel.Exec.Identify
import YashModel.Args.Bespoke

namespace YashModel.Quote
open YashModel.Generated.QuoteTables
open Listing

/-- ★ composition with C02's model of `command -v` (`Exec/Identify.lean`: `categorize` decides WHICH form is
    printed — keyword before alias before the command search — and `describeShort` prints alias definitions for
    names / replacements that need no quoting): the two keyword tables (extracted separately by the two plugins)
    are the same set, and for every alias (not a keyword) whose name and replacement the quoter prints bare,
    C02's text is C07's line. -/
theorem commandv_agrees_with_identify :
    Generated.ExecTables.keywords.map String.toList = keywords
    ∧ ∀ (name r : List Char), keywords.contains name = false →
        strNeedsQuoting name = false → strNeedsQuoting r = false →
        Exec.Identify.describeShort name (.alias name r) ++ ['\n'] = printCommandV (name, r) := by
  refine ⟨by rfl, ?_⟩
  intro name r hk hn hr
  show "alias ".toList ++ (if name.head? = some '-' then "-- ".toList else []) ++ name ++ '=' :: r ++ ['\n']
    = (if keywords.contains name then name ++ ['\n'] else "alias ".toList
        ++ (if name.head? = some '-' then "-- ".toList else []) ++ quote name ++ ['='] ++ quote r ++ ['\n'])
  rw [hk, quote_bare_is_identity _ hn, quote_bare_is_identity _ hr]
  simp only [Bool.false_eq_true, if_false, List.append_assoc, List.cons_append, List.nil_append]

/-- ★ composition with C20's model of the `set` built-in's own argument parser (`Args/Bespoke.lean` `setParse`:
    `try_parse_short` with the `-o name` arm, modifiability check, portable mode): the command `set -o name` /
    `set +o name` that `set +o` prints for a modifiable option, whenever the option-name module resolves the
    printed name to that option (`parse_long(name) = Ok(name, On)` — the canonical name is a full name), is
    parsed outside portable mode as exactly "modify [(name, on)], positional parameters untouched": the reading
    `evalCmd` gives the line (`Effect.setopt name on`).  For EVERY name table, option and state. -/
theorem seto_command_parsed_by_set (nm : Args.Bespoke.Names) (name : List Char) (on : Bool)
    (hl : nm.parseLong name = .ok name true) (hm : (nm.infoOf name).modifiable = true) :
    Args.Bespoke.setParse nm false [[if on then '-' else '+', 'o'], name] = .ok (.modify [(name, on)] none)
    ∧ evalCmd ⟨[], "set".toList :: [[if on then '-' else '+', 'o'], name]⟩ = some [Effect.setopt name on] := by
  refine ⟨?_, evalCmd_set name on⟩
  cases on <;>
    simp [Args.Bespoke.setParse, Args.Bespoke.setLoop, Args.Bespoke.setStep, Args.Bespoke.shortSign, Args.Bespoke.setShortLoop, Args.Bespoke.oArm, hl, hm,
      Args.Bespoke.Step.ofShort, Args.Bespoke.prependO, Args.Bespoke.finishSet]

end YashModel.Quote
