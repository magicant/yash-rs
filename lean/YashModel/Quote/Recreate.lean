/-
  C07 — evaluating ONE printed line defines exactly the entry it was printed for (`eval…Line` of Listing.lean: strip the
  utility name, read the words back, parse options / `--` / operands, split `name=value`); the values of an array.
-/
import YashModel.Quote.ReadBack

namespace YashModel.Quote
open YashModel.Generated.QuoteTables
open Listing

/-- ★ `typeset -p`, scalar and valueless variables: for EVERY variable (any name without `=`, whatever
    characters it contains — blanks, quotes, a leading `-` or `+`, option-like names such as `-x` —, any
    value, any combination of the export / read-only attributes), evaluating the line that `typeset -p`
    prints for it (utility name stripped, words read back by the lexer model in declaration-utility mode,
    options / `--` / operand parsed, operand split at the first `=`) defines exactly that variable: same
    name, same value (or no value), same attributes. -/
theorem typeset_line_recreates (v : Var) (hn : v.name.contains '=' = false)
    (hv : (∃ s, v.value = .scalar s) ∨ v.value = .none) :
    evalDeclLine "typeset" (printVar "typeset" typesetOpts false v) = some v := by
  have hd : declared "typeset" v v.value = v := by simp [declared]
  obtain ⟨args, hp, hr⟩ := typeset_noArray_listing_reparse v hn hv
  show (stripPrefix ("typeset".toList ++ [' ']) (dropNl (printVar "typeset" typesetOpts false v))).bind
      (fun rest => (readBackDecl rest).bind (evalDeclArgs "typeset")) = some v
  rw [hp, dropNl_append_nl, ← typeset_blank, stripPrefix_append]
  simp only [Option.bind_some, hr]
  rw [declArgs_operand "typeset" v _ (not_mem_of_contains hn) (not_array_of_scalar_or_none hv), hd]

/-- ★ the same for a whole listing taken line by line: evaluating, in order, the lines `typeset -p` prints
    for any list of scalar / valueless variables yields exactly those variables.  (That the printed TEXT
    splits into these lines at its unquoted newlines is `typeset_listing_text_recreates`.) -/
theorem typeset_listing_lines_recreate (vars : List Var)
    (h : ∀ v ∈ vars, v.name.contains '=' = false ∧ ((∃ s, v.value = .scalar s) ∨ v.value = .none)) :
    vars.mapM (fun v => evalDeclLine "typeset" (printVar "typeset" typesetOpts false v)) = some vars := by
  induction vars with
  | nil => rfl
  | cons v t ih =>
    have hv := h v (by simp)
    simp [List.mapM_cons, typeset_line_recreates v hv.1 hv.2, ih (fun w hw => h w (by simp [hw]))]

/-- ★ `alias`: for every name without `=` and every value, unless the printed word is a cross-bracket
    pattern (known finding K1, marker `lg:`; `alias_entry_cross_bracket`), evaluating `alias -- <printed entry>` defines
    exactly the alias `name` ↦ `value`. -/
theorem alias_line_recreates (n v : List Char) (hn : '=' ∉ n) (h : crossBracket n v = false) :
    evalAliasEntry (printAlias (n, v)) = some (n, v) := by
  unfold evalAliasEntry
  rw [alias_listing_reparse n v h]
  exact splitEq_append n v hn

/-- ★ `trap`: evaluating a printed line sets exactly the listed action for the listed condition, whatever
    the action contains. -/
theorem trap_line_recreates (cond : String) (hc : cond ∈ condOrder) (action : List Char) :
    evalTrapLine (printTrap (cond, action)) = some (cond, action) := by
  unfold evalTrapLine
  rw [trap_listing_reparse cond hc action]
  simp only [Option.bind_some, decide_true, Bool.and_self, if_true, String.ofList_toList]

/-- ★ array values: for EVERY list of strings — including elements that spell reserved words (`if`, `}`,
    `!`, …), which `array_values` must accept — the text `(v1 v2 …)` printed for an array value is read
    back by `array_values` as exactly that list. -/
theorem array_values_reparse (vs : List (List Char)) : readArrayValues (quoteArray vs) = some vs := by
  unfold readArrayValues quoteArray
  simp only [List.getLast?_append, List.getLast?_singleton, Option.or_some, if_true,
    List.dropLast_concat, lex_args, Option.bind_some, arrayAcceptsKeywords_eq, Bool.not_true, Bool.and_false,
    Bool.false_eq_true, if_false]
  have := mapM_fieldOf_units vs
  simpa using this

example : evalDeclLine "typeset" "typeset -r -x -- '-a b'='c d'\n".toList
    = some { name := "-a b".toList, value := .scalar "c d".toList, exported := true, readonly := true } := by
  decide +kernel
/-- without the `--` the same operand is taken for options: the statement excludes printing the separator
    from the quoted spelling of the name (seeded change `typeset-separator-from-quoted-name`) -/
example : parseDeclArgs ["-x".toList, "-a b=c d".toList] [] ≠ some (['x'], ["-a b=c d".toList]) := by decide +kernel
example : isKeywordToken ("if".toList.map WUnit.lit) = true := by decide +kernel
example : readArrayValues (quoteArray ["if".toList, "}".toList, "a b".toList])
    = some ["if".toList, "}".toList, "a b".toList] := array_values_reparse _

end YashModel.Quote
