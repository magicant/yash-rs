/-
  C07 — the two readers, equation by equation.  The steps the word lexer `lex` and the token reader `lexToks` have in
  common are a relation `Step`; what reading the quoter's output takes is proved once, for any reader that makes them.
  Where the readers differ there is one equation per reader and case.
-/
import YashModel.Quote.Model
import YashModel.Quote.Script

namespace YashModel.Quote
open YashModel.Generated.QuoteTables

theorem arms_operator : ∀ c ∈ operatorChars, c ∈ needsQuotingArms := by decide
theorem arms_special : ∀ c ∈ ['\\', '\'', '"', '$', '`', '*', '?'], c ∈ needsQuotingArms := by decide
theorem fallback_ws : needsQuotingFallbackWhitespace = true := by decide
theorem blocker_eq : singleQuoteBlocker = '\'' := by decide
theorem escaped_escapable : ∀ c ∈ quoteEscaped, c ∈ dqEscapable ∧ c ≠ '\n' := by decide
theorem dq_special_escaped : ∀ c ∈ ['\\', '"', '$', '`'], c ∈ quoteEscaped := by decide
theorem quoteEscaped_four : ∀ c ∈ quoteEscaped, c = '$' ∨ c = '`' ∨ c = '"' ∨ c = '\\' := by decide
theorem first_arms : ∀ c ∈ ['#', '~'], c ∈ firstCharArms := by decide
theorem infix_colon_tilde : [':', '~'] ∈ infixStrings := by decide
theorem pair_bracket : ('[', ']') ∈ bracketPairs := by decide
theorem eq_needs_quoting : charNeedsQuoting '=' = true := by decide
theorem keywords_no_eq : ∀ k ∈ keywords, '=' ∉ k := by decide +kernel
theorem arrayAcceptsKeywords_eq : arrayAcceptsKeywords = true := by decide
theorem commentChar_eq : Generated.ScriptTables.commentChar = '#' := by decide
theorem opchar_nl_paren : ∀ c ∈ ['\n', '(', ')'], isOperatorChar c = true := by decide +kernel
theorem special_not_blank : ∀ c ∈ ['\\', '\'', '"', '$', '`', '#', '='], isBlank c = false := by decide +kernel
theorem hash_eq_not_operator : ∀ c ∈ ['#', '='], isOperatorChar c = false := by decide +kernel
theorem space_blank : isBlank ' ' = true ∧ isOperatorChar ' ' = false := by decide

theorem not_escaped_ne {c : Char} (h : c ∉ quoteEscaped) : c ≠ '\\' ∧ c ≠ '"' ∧ c ≠ '$' ∧ c ≠ '`' :=
  ⟨fun e => h (dq_special_escaped c (by simp [e])), fun e => h (dq_special_escaped c (by simp [e])),
    fun e => h (dq_special_escaped c (by simp [e])), fun e => h (dq_special_escaped c (by simp [e]))⟩

theorem not_operator_ne {c : Char} (h : ¬ isOperatorChar c = true) : c ≠ '\n' ∧ c ≠ '(' ∧ c ≠ ')' :=
  ⟨fun e => h (opchar_nl_paren c (by simp [e])), fun e => h (opchar_nl_paren c (by simp [e])),
    fun e => h (opchar_nl_paren c (by simp [e]))⟩

theorem blank_ne {c : Char} (h : isBlank c = true) : c ≠ '\\' ∧ c ≠ '\'' ∧ c ≠ '"' ∧ c ≠ '$' ∧ c ≠ '`' := by
  have hn : ∀ x ∈ ['\\', '\'', '"', '$', '`', '#', '='], c ≠ x := fun x hx e => by
    rw [e, special_not_blank x hx] at h; cases h
  exact ⟨hn _ (by simp), hn _ (by simp), hn _ (by simp), hn _ (by simp), hn _ (by simp)⟩

/-- A character the lexer does not take as an ordinary literal of an unquoted word. -/
def lexerSpecial (c : Char) : Prop :=
  c = '\\' ∨ c = '\'' ∨ c = '"' ∨ c = '$' ∨ c = '`' ∨ isOperatorChar c = true ∨ isBlank c = true

theorem charNeedsQuoting_of_mem {c : Char} (h : c ∈ needsQuotingArms) : charNeedsQuoting c = true := by
  simp [charNeedsQuoting, h]

/-- ★ (table obligation of the bare case) Over the tables extracted from the Rust sources: every character
    that the lexer treats specially in an unquoted word — backslash, quotes, `$`, backquote, the first
    character of any operator, any blank (Rust Unicode whitespace other than newline) — is a character
    for which `char_needs_quoting` answers `true`. -/
theorem lexerSpecial_charNeedsQuoting : ∀ c : Char, lexerSpecial c → charNeedsQuoting c = true := by
  intro c h
  rcases h with h | h | h | h | h | h | h
  · exact charNeedsQuoting_of_mem (arms_special c (by simp [h]))
  · exact charNeedsQuoting_of_mem (arms_special c (by simp [h]))
  · exact charNeedsQuoting_of_mem (arms_special c (by simp [h]))
  · exact charNeedsQuoting_of_mem (arms_special c (by simp [h]))
  · exact charNeedsQuoting_of_mem (arms_special c (by simp [h]))
  · exact charNeedsQuoting_of_mem (arms_operator c (by simpa [isOperatorChar] using h))
  · have hw : isWhitespace c = true := by
      simp only [isBlank, Bool.and_eq_true] at h
      exact h.2
    simp [charNeedsQuoting, fallback_ws, hw]

theorem not_special_eq : ¬ lexerSpecial '=' := by
  simp only [lexerSpecial, not_or]
  exact ⟨by decide, by decide, by decide, by decide, by decide, by simp [hash_eq_not_operator],
    by simp [special_not_blank]⟩

theorem escapeDq_cons_esc {c : Char} (cs : List Char) (h : c ∈ quoteEscaped) :
    escapeDq (c :: cs) = '\\' :: c :: escapeDq cs := by
  simp [escapeDq, h]

theorem escapeDq_cons_plain {c : Char} (cs : List Char) (h : c ∉ quoteEscaped) :
    escapeDq (c :: cs) = c :: escapeDq cs := by
  simp [escapeDq, h]

theorem firstChar_ne {c : Char} {cs : List Char} (h : firstCharNeeds (c :: cs) = false) : c ≠ '#' ∧ c ≠ '~' := by
  have hm : c ∉ firstCharArms := by simpa [firstCharNeeds] using h
  exact ⟨fun e => hm (first_arms c (by simp [e])), fun e => hm (first_arms c (by simp [e]))⟩

/-- The steps the word lexer `lex` and the token reader `lexToks` (Script.lean) have in common: input is consumed, the
    mode changes, nothing is emitted.  The premises are the tests of `lex`, as it makes them.  `dollar` stands before
    `plain`, `dqDollar` before `dqChar`, so that `constructor` finds them for a `$`. -/
inductive Step : Mode → List Char → Mode → List Char → Prop
  | dollar (us r) : ¬ dollarStarts true r = true → Step (.word us) ('$' :: r) (.word (.lit '$' :: us)) r
  | plain (us c r) : ¬ c = '\\' → ¬ c = '\'' → ¬ c = '"' → ¬ c = '$' → ¬ c = '`' → ¬ isOperatorChar c = true →
      ¬ isBlank c = true → ¬ (c = '#' && us.isEmpty) = true → Step (.word us) (c :: r) (.word (.lit c :: us)) r
  | bsNl (us r) : Step (.word us) ('\\' :: '\n' :: r) (.word us) r
  | bs (us d r) : ¬ d = '\n' → Step (.word us) ('\\' :: d :: r) (.word (.bs d :: us)) r
  | sqOpen (us r) : Step (.word us) ('\'' :: r) (.sq us []) r
  | sqClose (us acc r) : Step (.sq us acc) ('\'' :: r) (.word (.sq acc.reverse :: us)) r
  | sqChar (us acc c r) : ¬ c = '\'' → Step (.sq us acc) (c :: r) (.sq us (c :: acc)) r
  | dqOpen (us r) : Step (.word us) ('"' :: r) (.dq us []) r
  | dqClose (us acc r) : Step (.dq us acc) ('"' :: r) (.word (.dq acc.reverse :: us)) r
  | dqNl (us acc r) : Step (.dq us acc) ('\\' :: '\n' :: r) (.dq us acc) r
  | dqEsc (us acc d r) : ¬ d = '\n' → dqEscapable.contains d = true →
      Step (.dq us acc) ('\\' :: d :: r) (.dq us (d :: acc)) r
  | dqBs (us acc d r) : ¬ d = '\n' → ¬ dqEscapable.contains d = true →
      Step (.dq us acc) ('\\' :: d :: r) (.dq us ('\\' :: acc)) (d :: r)
  | dqDollar (us acc r) : ¬ dollarStarts false r = true → Step (.dq us acc) ('$' :: r) (.dq us ('$' :: acc)) r
  | dqChar (us acc c r) : ¬ c = '\\' → ¬ c = '"' → ¬ c = '$' → ¬ c = '`' → Step (.dq us acc) (c :: r) (.dq us (c :: acc)) r

theorem Step.ordinary (us : List WUnit) {c : Char} (r : List Char) (hs : ¬ lexerSpecial c) (hc : c = '#' → us ≠ []) :
    Step (.word us) (c :: r) (.word (.lit c :: us)) r := by
  simp only [lexerSpecial, not_or] at hs
  obtain ⟨h1, h2, h3, h4, h5, h6, h7⟩ := hs
  refine .plain us c r h1 h2 h3 h4 h5 h6 h7 ?_
  cases us with
  | nil => simpa using fun e => hc e rfl
  | cons _ _ => simp

theorem Step.length_lt {m m' : Mode} {t t' : List Char} (h : Step m t m' t') : t'.length < t.length := by
  cases h <;> simp <;> omega

/-- A reader that makes the common steps; all that reading the quoter's output takes, so the reading lemmas are
    proved once, for both readers. -/
def Steps {α : Type} (f : Mode → List Char → α) : Prop := ∀ {m t m' t'}, Step m t m' t' → f m t = f m' t'

theorem lex_steps : Steps lex := fun h => by
  cases h <;> (conv => lhs; rw [lex.eq_def]) <;> simp_all

theorem lexToks_steps : Steps fun m => lexToks (SMode.ofMode m) := fun h => by
  show lexToks (SMode.ofMode _) _ = lexToks (SMode.ofMode _) _
  cases h with
  | plain us c r h1 h2 h3 h4 h5 h6 h7 h8 =>
    obtain ⟨n1, n2, n3⟩ := not_operator_ne h6
    conv => lhs; rw [SMode.ofMode, lexToks.eq_def]
    simp [h1, h2, h3, h4, h5, h6, h7, h8, n1, n2, n3, commentChar_eq, SMode.ofMode]
  | _ => (conv => lhs; rw [SMode.ofMode, lexToks.eq_def]); simp_all [SMode.ofMode]

namespace Steps
variable {α : Type} {f : Mode → List Char → α} (h : Steps f)
include h

theorem sq_body (body : List Char) (hb : '\'' ∉ body) :
    ∀ (us : List WUnit) (acc r : List Char),
      f (.sq us acc) (body ++ '\'' :: r) = f (.word (.sq (acc.reverse ++ body) :: us)) r := by
  induction body with
  | nil => intro us acc r; simpa using h (.sqClose us acc r)
  | cons c cs ih =>
    intro us acc r
    have hc : c ≠ '\'' := fun e => hb (by simp [e])
    rw [List.cons_append, h (.sqChar us acc c _ hc), ih (fun e => hb (by simp [e]))]
    simp

theorem dq_body (body : List Char) :
    ∀ (us : List WUnit) (acc r : List Char),
      f (.dq us acc) (escapeDq body ++ '"' :: r) = f (.word (.dq (acc.reverse ++ body) :: us)) r := by
  induction body with
  | nil => intro us acc r; simpa [escapeDq] using h (.dqClose us acc r)
  | cons c cs ih =>
    intro us acc r
    by_cases he : c ∈ quoteEscaped
    · have hx := escaped_escapable c he
      rw [escapeDq_cons_esc cs he]
      simp only [List.cons_append]
      rw [h (.dqEsc us acc c _ hx.2 (List.contains_iff_mem.mpr hx.1)), ih]
      simp
    · obtain ⟨h1, h2, h3, h4⟩ := not_escaped_ne he
      rw [escapeDq_cons_plain cs he]
      simp only [List.cons_append]
      rw [h (.dqChar us acc c _ h1 h2 h3 h4), ih]
      simp

theorem bare_append (s : List Char) :
    ∀ (us : List WUnit) (r : List Char), (∀ c ∈ s, ¬ lexerSpecial c) →
      (us ≠ [] ∨ firstCharNeeds s = false) →
      f (.word us) (s ++ r) = f (.word ((s.map WUnit.lit).reverse ++ us)) r := by
  induction s with
  | nil => intro us r _ _; simp
  | cons c cs ih =>
    intro us r hs hf
    have hc : c = '#' → us ≠ [] := fun e => hf.elim id fun h => absurd e (firstChar_ne h).1
    simp only [List.cons_append]
    rw [h (.ordinary us (cs ++ r) (hs c (by simp)) hc)]
    rw [ih (.lit c :: us) r (fun d hd => hs d (by simp [hd])) (Or.inl (by simp))]
    simp

end Steps

theorem lex_word_nil (us : List WUnit) :
    lex (.word us) [] = some (if us.isEmpty then [] else [us.reverse]) := by
  rw [lex]

theorem lexToks_word_nil (us : List WUnit) : lexToks (.word us) [] = some (endTok us) := by
  rw [lexToks]

theorem lex_bs_end (us : List WUnit) : lex (.word us) ['\\'] = some [(WUnit.lit '\\' :: us).reverse] := by
  rw [lex.eq_def]; simp

theorem lexToks_bs_end (us : List WUnit) : lexToks (.word us) ['\\'] = some [.w (WUnit.lit '\\' :: us).reverse] := by
  rw [lexToks.eq_def]; simp

theorem lex_blank (us : List WUnit) {c : Char} (r : List Char) (hb : isBlank c = true)
    (ho : ¬ isOperatorChar c = true) :
    lex (.word us) (c :: r) = (lex (.word []) r).map fun ws => if us.isEmpty then ws else us.reverse :: ws := by
  obtain ⟨h1, h2, h3, h4, h5⟩ := blank_ne hb
  conv => lhs; rw [lex.eq_def]
  simp [h1, h2, h3, h4, h5, ho, hb]

theorem lexToks_blank (us : List WUnit) {c : Char} (r : List Char) (hb : isBlank c = true)
    (ho : ¬ isOperatorChar c = true) :
    lexToks (.word us) (c :: r) = (lexToks (.word []) r).map (endTok us ++ ·) := by
  obtain ⟨h1, h2, h3, h4, h5⟩ := blank_ne hb
  obtain ⟨n1, n2, n3⟩ := not_operator_ne ho
  conv => lhs; rw [lexToks.eq_def]
  simp [h1, h2, h3, h4, h5, n1, n2, n3, ho, hb]

theorem lexToks_nl (us : List WUnit) (r : List Char) :
    lexToks (.word us) ('\n' :: r) = (lexToks (.word []) r).map fun ts => endTok us ++ Tok.nl :: ts := by
  conv => lhs; rw [lexToks.eq_def]
  simp

theorem lexToks_open (us : List WUnit) (r : List Char) :
    lexToks (.word us) ('(' :: r)
      = (lexToks (.word []) r).map fun ts => endTok us ++ Tok.op (!us.isEmpty) :: ts := by
  conv => lhs; rw [lexToks.eq_def]
  simp

theorem lexToks_close (us : List WUnit) (r : List Char) :
    lexToks (.word us) (')' :: r) = (lexToks (.word []) r).map fun ts => endTok us ++ Tok.cl :: ts := by
  conv => lhs; rw [lexToks.eq_def]
  simp

theorem lex_hash (r : List Char) : lex (.word []) ('#' :: r) = none := by
  conv => lhs; rw [lex.eq_def]
  simp [special_not_blank, hash_eq_not_operator]

theorem lexToks_hash (r : List Char) : lexToks (.word []) ('#' :: r) = lexToks .comment r := by
  conv => lhs; rw [lexToks.eq_def]
  simp [special_not_blank, hash_eq_not_operator, commentChar_eq]

theorem lexToks_comment_body (body rest : List Char) (h : '\n' ∉ body) :
    lexToks .comment (body ++ '\n' :: rest) = (lexToks (.word []) rest).map (Tok.nl :: ·) := by
  induction body with
  | nil => rw [List.nil_append, lexToks.eq_def]; simp
  | cons c cs ih =>
    have hc : c ≠ '\n' := fun e => h (by simp [e])
    rw [List.cons_append, lexToks.eq_def]
    simp only [hc, if_false]
    exact ih (fun e => h (by simp [e]))

theorem lex_cases {m : Mode} {t : List Char} {ws : List (List WUnit)} (h : lex m t = some ws) :
    (∃ us, m = .word us ∧ t = []) ∨ (∃ us, m = .word us ∧ t = ['\\'])
      ∨ (∃ us c r, m = .word us ∧ t = c :: r ∧ isBlank c = true ∧ ¬ isOperatorChar c = true)
      ∨ ∃ m' t', Step m t m' t' ∧ lex m' t' = some ws := by
  revert h
  fun_cases lex m t
  all_goals intro h
  -- the branches in which `lex` answers `none`
  all_goals try (cases h; done)
  -- the branches in which it goes on with `lex m' t'`: common steps
  all_goals try (refine Or.inr (Or.inr (Or.inr ⟨_, _, ?_, h⟩)); subst_vars; constructor <;> assumption)
  -- what is left: the three branches in which `lex` emits
  · exact Or.inl ⟨_, rfl, rfl⟩
  · exact Or.inr (Or.inl ⟨_, rfl, rfl⟩)
  · exact Or.inr (Or.inr (Or.inl ⟨_, _, _, rfl, rfl, by assumption, by assumption⟩))

end YashModel.Quote
