/-
  C07 — `umask`: the text `umask -S` prints, parsed clause by clause, gives back the mask, for every number; the three
  octal digits of plain `umask` likewise; `format_symbolic` from the pieces extracted from the source.
-/
import YashModel.Quote.Listing
import YashModel.Generated.ListingTables

namespace YashModel.Quote
open Listing
open YashModel.Generated.ListingTables

/-- the letters `format_symbolic` pushes for one class of users -/
def permText (r w x : Bool) : List Char :=
  (if r then ['r'] else []) ++ (if w then ['w'] else []) ++ (if x then ['x'] else [])

/-- the bits `Permission::parse` reads from those letters, as `Permission::Literal` -/
def permMask (r w x : Bool) : Nat :=
  (if r then 0o444 else 0) ||| (if w then 0o222 else 0) ||| (if x then 0o111 else 0)

/-- letters and bits of one class, `g` = the allowed bits shifted down to that class -/
def clauseText (g : Nat) : List Char := permText (g &&& 4 != 0) (g &&& 2 != 0) (g &&& 1 != 0)
def clauseMask (g : Nat) : Nat := permMask (g &&& 4 != 0) (g &&& 2 != 0) (g &&& 1 != 0)

/-- the clauses `u=…,g=…,o=…` -/
def symbolicShape (a : Nat) : List (Nat × List (Nat × Perm)) :=
  [(0o700, [(2, .lit (clauseMask (a >>> 6)) false)]), (0o070, [(2, .lit (clauseMask (a >>> 3)) false)]),
   (0o007, [(2, .lit (clauseMask a) false)])]

/-- `format_symbolic` from the extracted pieces -/
def formatPieces (allowed : Nat) : List Char :=
  (symbolicPieces.map fun p => if p.1 = 0 ∨ allowed &&& p.1 ≠ 0 then p.2 else []).flatten

theorem formatSymbolic_eq (a : Nat) :
    formatSymbolic a = 'u' :: '=' :: (clauseText (a >>> 6) ++ ',' :: 'g' :: '=' :: (clauseText (a >>> 3)
      ++ ',' :: 'o' :: '=' :: clauseText a)) := by
  simp [formatSymbolic, clauseText, permText]

/-- `Permission::parse` on a run of `r`/`w`/`x`/`X`/`s` letters followed by something else -/
theorem parsePerm_append (p rest : List Char) (hp : ∀ c ∈ p, isPermChar c = true)
    (hc : p.any (fun c => c = 'u' || c = 'g' || c = 'o') = false)
    (hr : rest.takeWhile isPermChar = []) :
    parsePerm (p ++ rest) = some (.lit (p.foldl (fun m c =>
      if c = 'r' then m ||| 0o444 else if c = 'w' then m ||| 0o222 else if c = 'x' then m ||| 0o111 else m) 0)
        (p.contains 'X'), rest) := by
  simp only [parsePerm, List.takeWhile_append_of_pos hp, hr, List.append_nil, hc, List.drop_left]
  simp

theorem permText_facts : ∀ r w x : Bool,
    (∀ c ∈ permText r w x, isPermChar c = true)
    ∧ (permText r w x).any (fun c => c = 'u' || c = 'g' || c = 'o') = false
    ∧ (permText r w x).foldl (fun m c =>
        if c = 'r' then m ||| 0o444 else if c = 'w' then m ||| 0o222 else if c = 'x' then m ||| 0o111 else m) 0
      = permMask r w x
    ∧ (permText r w x).contains 'X' = false := by decide +kernel

theorem parseWho_letter (c : Char) (who : Nat) (h : (c, who) ∈ [('u', 0o700), ('g', 0o070), ('o', 0o007)])
    (r : List Char) : parseWho (c :: '=' :: r) 0 = (who, '=' :: r) := by
  simp only [List.mem_cons, List.not_mem_nil, or_false, Prod.mk.injEq] at h
  rcases h with ⟨rfl, rfl⟩ | ⟨rfl, rfl⟩ | ⟨rfl, rfl⟩ <;> simp [parseWho]

/-- one clause `<who>=<letters>` of the text `format_symbolic` prints, at the end or before a comma -/
theorem parseClauses_clause (fuel : Nat) (c : Char) (who : Nat)
    (h : (c, who) ∈ [('u', 0o700), ('g', 0o070), ('o', 0o007)]) (g : Nat) (rest : List Char) :
    parseClauses (fuel + 1) (c :: '=' :: clauseText g) = some [(who, [(2, .lit (clauseMask g) false)])]
    ∧ parseClauses (fuel + 1) (c :: '=' :: (clauseText g ++ ',' :: rest))
        = (parseClauses fuel rest).map ((who, [(2, .lit (clauseMask g) false)]) :: ·) := by
  obtain ⟨h1, h2, h3, h4⟩ := permText_facts (g &&& 4 != 0) (g &&& 2 != 0) (g &&& 1 != 0)
  have hp : ∀ rest, rest.takeWhile isPermChar = [] →
      parsePerm (clauseText g ++ rest) = some (.lit (clauseMask g) false, rest) := fun rest hr => by
    rw [clauseText, parsePerm_append _ rest h1 h2 hr, h3, h4, clauseMask]
  constructor
  · have := hp [] rfl
    rw [List.append_nil] at this
    simp [parseClauses, parseWho_letter c who h, parseActions, parseOp, this]
  · simp [parseClauses, parseWho_letter c who h, parseActions, parseOp,
      hp (',' :: rest) (List.takeWhile_cons_of_neg (by decide))]

/-- the text printed by `umask -S` parses (`parse_clauses`) to three `who=literal` clauses, for every mask
    and any fuel that allows three clauses -/
theorem parse_formatSymbolic (a fuel : Nat) :
    parseClauses (fuel + 3) (formatSymbolic a) = some (symbolicShape a) := by
  rw [formatSymbolic_eq, (parseClauses_clause _ 'u' 0o700 (by decide) _ _).2,
    (parseClauses_clause _ 'g' 0o070 (by decide) _ _).2, (parseClauses_clause _ 'o' 0o007 (by decide) _ []).1]
  rfl

theorem clauseMask_mod (g : Nat) : clauseMask g = clauseMask (g % 8) := by
  have hm : ∀ k, 7 &&& k = k → g % 8 &&& k = g &&& k := fun k hk => by
    rw [← Nat.and_two_pow_sub_one_eq_mod g 3, Nat.and_assoc]
    exact congrArg _ hk
  unfold clauseMask
  rw [hm 4 rfl, hm 2 rfl, hm 1 rfl]

theorem clauseMask_small : ∀ g : Fin 8,
    clauseMask g.val &&& 7 = g.val ∧ clauseMask g.val &&& 56 = g.val * 8 ∧ clauseMask g.val &&& 448 = g.val * 64 := by
  decide

theorem octal_digits (a : Nat) : a % 8 + a / 8 % 8 * 8 + a / 64 % 8 * 64 = a % 512 := by
  rw [show (512 : Nat) = 8 * (8 * 8) from rfl, Nat.mod_mul, Nat.mod_mul, Nat.div_div_eq_div_mul]
  generalize a % 8 = x, a / 8 % 8 = y, a / 64 % 8 = z
  omega

theorem or_digits (x y z : Nat) (hx : x < 8) (hy : y < 8) : x ||| (y * 8 ||| z * 64) = x + y * 8 + z * 64 := by
  have h1 : z * 64 + y * 8 = z * 64 ||| y * 8 := by
    have := Nat.shiftLeft_add_eq_or_of_lt (b := y * 8) (i := 6) (by omega) z
    simpa [Nat.shiftLeft_eq] using this
  have h2 : (z * 8 + y) * 8 + x = (z * 8 + y) * 8 ||| x := by
    have := Nat.shiftLeft_add_eq_or_of_lt (b := x) (i := 3) (by omega) (z * 8 + y)
    simpa [Nat.shiftLeft_eq] using this
  rw [Nat.or_comm (y * 8), ← h1, Nat.or_comm x, show z * 64 + y * 8 = (z * 8 + y) * 8 by omega, ← h2]
  omega

/-- the three literals put back together are the mask: its octal digits, each in its place -/
theorem clauseMask_recombine (a : Nat) :
    (clauseMask a &&& 7) ||| ((clauseMask (a >>> 3) &&& 56) ||| (clauseMask (a >>> 6) &&& 448)) = a % 512 := by
  have h0 := clauseMask_small ⟨a % 8, Nat.mod_lt _ (by decide)⟩
  have h3 := clauseMask_small ⟨(a >>> 3) % 8, Nat.mod_lt _ (by decide)⟩
  have h6 := clauseMask_small ⟨(a >>> 6) % 8, Nat.mod_lt _ (by decide)⟩
  simp only at h0 h3 h6
  rw [clauseMask_mod a, clauseMask_mod (a >>> 3), clauseMask_mod (a >>> 6), h0.1, h3.2.1, h6.2.2,
    or_digits _ _ _ (Nat.mod_lt _ (by decide)) (Nat.mod_lt _ (by decide)),
    Nat.shiftRight_eq_div_pow, Nat.shiftRight_eq_div_pow]
  exact octal_digits a

/-- the bits above the ninth are not printed: `a % 512` -/
theorem umask_symbolic_reread_nat (a cur : Nat) :
    Listing.applySymbolic (Listing.formatSymbolic a) cur = some (a % 512) := by
  -- each clause `who=…` overwrites the three bits of its class and keeps the others (`&&& 63`, `455`, `504`: the
  -- complements of 448, 56, 7), so after the three clauses nothing of `cur` is left
  have hn : ∀ x y z : Nat,
      ((z &&& 7) ||| ((((y &&& 56) ||| (((x &&& 448) ||| (cur &&& 63)) &&& 455))) &&& 504))
        = (z &&& 7) ||| ((y &&& 56) ||| (x &&& 448)) := by
    intro x y z
    simp only [Nat.and_or_distrib_right, Nat.and_assoc]
    simp
  have hl : (Listing.formatSymbolic a).length + 1 = ((Listing.formatSymbolic a).length - 2) + 3 := by
    rw [formatSymbolic_eq]; simp only [List.length_cons]; omega
  unfold Listing.applySymbolic
  rw [hl, parse_formatSymbolic]
  have h63 : Listing.notBits 448 = 63 := by decide +kernel
  have h455 : Listing.notBits 56 = 455 := by decide +kernel
  have h504 : Listing.notBits 7 = 504 := by decide +kernel
  simp only [Option.map_some, symbolicShape, Listing.evalClauses, List.foldl_cons, List.foldl_nil,
    h63, h455, h504]
  simp only [show (2 : Nat) = 0 ↔ False by decide, show (2 : Nat) = 1 ↔ False by decide, if_false,
    Bool.false_and, Bool.false_eq_true, Nat.or_zero]
  rw [hn, clauseMask_recombine a]

theorem umask_octal_reread_nat (m : Nat) : Listing.parseOctal3 (Listing.octal3 m) = some (m % 512) := by
  have digit : ∀ d : Fin 8, (Char.ofNat (48 + d.val)).toNat - 48 = d.val := by decide +kernel
  have h2 := digit ⟨m / 64 % 8, Nat.mod_lt _ (by decide)⟩
  have h1 := digit ⟨m / 8 % 8, Nat.mod_lt _ (by decide)⟩
  have h0 := digit ⟨m % 8, Nat.mod_lt _ (by decide)⟩
  simp only at h2 h1 h0
  simp only [Listing.octal3, Listing.parseOctal3, List.map_cons, List.map_nil, h2, h1, h0, Option.some.injEq]
  rw [← octal_digits m]
  ac_rfl

theorem and_two_pow_ne (x j : Nat) : (x &&& 2 ^ j != 0) = x.testBit j := by
  have h : x &&& 2 ^ j = if x.testBit j then 2 ^ j else 0 := by
    apply Nat.eq_of_testBit_eq
    intro i
    rw [Nat.testBit_and, Nat.testBit_two_pow]
    by_cases hji : j = i
    · subst hji; cases x.testBit j <;> simp
    · cases x.testBit j <;> simp [hji]
  rw [h]
  cases x.testBit j <;> simp

/-- `format_symbolic` tests the bits of the mask where the model tests the shifted class: the same bit -/
theorem formatSymbolic_eq_pieces (m : Nat) : formatSymbolic m = formatPieces m := by
  have e : ∀ s k, (m >>> s &&& 2 ^ k != 0) = (m &&& 2 ^ (s + k) != 0) := fun s k => by
    rw [and_two_pow_ne, and_two_pow_ne, Nat.testBit_shiftRight]
  have e62 := e 6 2; have e61 := e 6 1; have e60 := e 6 0
  have e32 := e 3 2; have e31 := e 3 1; have e30 := e 3 0
  simp only [Nat.reducePow, Nat.reduceAdd] at e62 e61 e60 e32 e31 e30
  simp [formatSymbolic_eq, formatPieces, symbolicPieces, clauseText, permText, e62, e61, e60, e32, e31, e30,
    -Nat.and_one_is_mod]

end YashModel.Quote
