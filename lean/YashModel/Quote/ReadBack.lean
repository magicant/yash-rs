/-
  C07 — words and lines read back: the round trip of the quoter; the read-back of each printed line; the cross-bracket
  case of `alias` (known finding K1) and the comment lines of `set +o`, which do not read back; the separator `--`; `umask`.
  (The `…_reparse` theorems are what DESIGN §5 plans as "listing_reparse".)
-/
import YashModel.Quote.Lines
import YashModel.Quote.Umask

namespace YashModel.Quote
open YashModel.Generated.QuoteTables

/-- ★ for EVERY string `s`, the text `quote s` (bare, `'…'` or `"…"` with escapes),
    read back by the shell's lexer as command arguments, is exactly the one field `s`: no operator,
    comment, expansion, tilde expansion, pathname pattern or extra/missing field arises. -/
theorem quote_roundtrip (s : List Char) : readBack (quote s) = some [s] :=
  readAs_items false [.word s] rfl

theorem quote_roundtrip_string (s : String) :
    readBack (quote s.toList) = some [s.toList] := quote_roundtrip s.toList

/-- ★ argument lists: for EVERY list of strings, the blank-separated quoted forms read
    back as exactly that list.  Instances: the elements of an array value `(v1 v2 …)` printed by `typeset -p`,
    `export -p`, `readonly -p`, `set`; the words `trap -- <action> <COND>`; `typeset -r -x -- <name>`. -/
theorem quote_args_roundtrip (args : List (List Char)) :
    readBack (joinSp (args.map quote)) = some args := by
  rw [readBack_eq_readAs]
  simpa using readAs_items false (args.map .word) (by simp)

theorem trap_line_reparse (cond : String) (hq : quote cond.toList = cond.toList) (action : List Char) :
    readBack (Listing.dropNl (Listing.printTrap (cond, action)))
      = some ["trap".toList, "--".toList, action, cond.toList] := by
  rw [printTrap_line cond action hq]
  exact readAs_line false _ rfl

/-- ★ `trap`: every line printed by `trap` (for the conditions of `condOrder`) reads
    back as the words `trap -- <action> <COND>` that recreate the trap, whatever the action contains. -/
theorem trap_listing_reparse (cond : String) (hc : cond ∈ Listing.condOrder) (action : List Char) :
    readBack (Listing.dropNl (Listing.printTrap (cond, action)))
      = some ["trap".toList, "--".toList, action, cond.toList] :=
  trap_line_reparse cond (condition_names_unquoted cond (condOrder_known cond hc)) action

/-- ★ valueless variables: the line `typeset [-r ][-x ][-- ]<name>` (also `export`,
    `readonly`: no option letters) reads back as the utility name, the option words and the name. -/
theorem attr_line_reparse (builtin : List Char) (optws : List (List Char)) (name : List Char)
    (hb : quote builtin = builtin) (ho : ∀ o ∈ optws, quote o = o) :
    readBack (joinSp (builtin :: (optws ++ [quote name]))) = some (builtin :: (optws ++ [name])) := by
  have h := quote_args_roundtrip (builtin :: (optws ++ [name]))
  rwa [List.map_cons, List.map_append, hb, (List.map_congr_left ho).trans (List.map_id _)] at h

/-- ★ `name=value` words read as ordinary arguments (`alias`): FULL statement, with the
    exact side condition.  For all names and values, unless the printed word is a cross-bracket pattern
    (`crossBracket`: name and value both printed bare, `[` in the name, `]` in the value), the word
    `quote n ++ "=" ++ quote v` reads back as exactly the one field `n=v`: no tilde or pattern trigger
    arises across the two separately quoted halves. -/
theorem alias_entry_reparse (n v : List Char) (h : crossBracket n v = false) :
    readBack (quote n ++ '=' :: quote v) = some [n ++ '=' :: v] :=
  readAs_items false [.assign n v] (by simp [Item.noPattern, h])

/-- … and the side condition is exact: in the cross-bracket case the printed word is NOT read back
    verbatim (it is a pathname-expansion pattern) — known finding K1 (marker `lg:` of KNOWN_FINDINGS.txt), for every
    such name/value. -/
theorem alias_entry_cross_bracket (n v : List Char) (h : crossBracket n v = true) :
    readBack (quote n ++ '=' :: quote v) = none := by
  have hl : lex (.word []) (quote n ++ '=' :: quote v) = some [unitsOf n ++ WUnit.lit '=' :: unitsOf v] :=
    lex_item (.assign n v)
  simp [readBack, hl, fieldOf_assign_cross n v h]

/-- ★ `name=value` words as arguments of a declaration utility (`typeset -p`,
    `export -p`, `readonly -p`; the same reading applies to the assignments printed by `set`): the FULL
    statement, no side condition — for ALL names and values the printed word reads back as the one field
    `n=v` (a bare name puts the word in `Single` mode: no pathname expansion, tilde looked for after `=`
    and colons; a quoted name hides its `[`). -/
theorem decl_entry_reparse (n v : List Char) :
    readBackDecl (quote n ++ '=' :: quote v) = some [n ++ '=' :: v] :=
  readAs_items true [.assign n v] rfl

/-- ★ `alias`: every entry printed by `alias`, given back as `alias -- <entry>`, reads
    as the words that recreate the alias — unless it is a cross-bracket pattern. -/
theorem alias_listing_reparse (n v : List Char) (h : crossBracket n v = false) :
    readBack ("alias -- ".toList ++ Listing.dropNl (Listing.printAlias (n, v)))
      = some ["alias".toList, "--".toList, n ++ '=' :: v] := by
  rw [← dropNl_append _ _ (by simp [Listing.printAlias]), alias_dd, aliasCmd_line]
  exact readAs_line false _ (by simp [Item.noPattern, h])

/-- ★ `listing_operand_safe`: over the separator characters extracted from `print_one`, for EVERY name the
    operand printed by `typeset -p` / `export -p` / `readonly -p` cannot be taken for an option by the
    argument parser: a name beginning with `-` or `+` is always preceded by `--`. -/
theorem listing_operand_safe (name : List Char) : Listing.operandSafe name = true :=
  sepWith_operand_safe Generated.QuoteTables.separatorPrefixes (by decide) name

/-- ★ the same for the attribute line of `typeset -fp` (`typeset -fr [-- ]<name>`), over the separator
    characters extracted from print_functions.rs: for EVERY function name the operand cannot be taken
    for an option. -/
theorem function_attr_operand_safe (name : List Char) : Listing.fnOperandSafe name = true :=
  sepWith_operand_safe Generated.QuoteTables.functionSeparatorPrefixes (by decide) name

/-- ★ function attribute lines: for EVERY function name the line
    `typeset -fr [-- ]<name>` printed by `typeset -fp` reads back as the words `typeset -fr [--] name`. -/
theorem function_attr_line_reparse (name : List Char) :
    readBack (Listing.dropNl (Listing.printFnAttr name))
      = some (["typeset".toList, "-fr".toList]
          ++ (if (Listing.fsepOf name).isEmpty then [] else ["--".toList]) ++ [name]) := by
  rw [printFnAttr_line, readBack_eq_readAs, readAs_line false _ (by simp [Item.noPattern])]
  simp [Item.field, sepWords]

theorem typeset_noArray_listing_reparse (v : Listing.Var) (hn : v.name.contains '=' = false)
    (hv : (∃ s, v.value = .scalar s) ∨ v.value = .none) :
    ∃ args, Listing.printVar "typeset" Listing.typesetOpts false v = "typeset ".toList ++ args ++ ['\n']
      ∧ readBackDecl args = some (typesetOptWords v ++ [(operandItem v.name v.value).field]) := by
  refine ⟨_, ?_, decl_line_reparse v (operandItem v.name v.value)⟩
  rw [printVar_eq _ _ _ v (not_mem_of_contains hn) (not_array_of_scalar_or_none hv), typeset_blank]
  simp only [List.append_assoc]

/-- ★ `typeset -p` scalar lines: for every variable with a scalar value (any name
    without `=`, any value, any attributes) the printed line is `typeset ` + arguments + newline, and the
    arguments read back (declaration-utility reading) as the option words followed by `name=value`. -/
theorem typeset_scalar_listing_reparse (v : Listing.Var) (s : List Char)
    (hv : v.value = .scalar s) (hn : v.name.contains '=' = false) :
    ∃ args, Listing.printVar "typeset" Listing.typesetOpts false v = "typeset ".toList ++ args ++ ['\n']
      ∧ readBackDecl args = some (typesetOptWords v ++ [v.name ++ '=' :: s]) := by
  have := typeset_noArray_listing_reparse v hn (Or.inl ⟨s, hv⟩)
  rwa [hv] at this

theorem option_names_bare : ∀ o ∈ Generated.OptionTable.options, quote o.1 = o.1 :=
  fun o ho => quote_bare_is_identity _ (option_names_needNoQuoting o ho)

/-- ★ `set +o`: for every option of the extracted table and either state, the line
    printed for a modifiable option reads back as `set -o <name>` / `set +o <name>`. -/
theorem seto_line_reparse (o : List Char × Bool × Bool) (ho : o ∈ Generated.OptionTable.options) (on : Bool) :
    readBack (Listing.dropNl (Listing.printOpt o.1 true on))
      = some ["set".toList, [if on then '-' else '+', 'o'], o.1] := by
  rw [printOpt_line o.1 (option_names_bare o ho)]
  exact readAs_line false _ rfl

/-- ★ … and the line of a non-modifiable option (`#set ±o <name>`) is a comment: it contributes no
    command when the listing is evaluated. -/
theorem seto_comment_line (name : List Char) (on : Bool) :
    readBack (Listing.dropNl (Listing.printOpt name false on)) = none := by
  have e : Listing.printOpt name false on
      = ('#' :: ("set ".toList ++ [if on then '-' else '+'] ++ "o ".toList ++ name)) ++ ['\n'] := by
    simp [Listing.printOpt]
  rw [e, dropNl_append_nl]
  rw [readBack, lex_hash]
  rfl

/-- ★ `umask -S`: for every mask and EVERY current mask of the shell that evaluates it,
    `umask <output of umask -S>` sets exactly the listed mask (allowed bits `a`). -/
theorem umask_symbolic_reread (a : Fin 512) (cur : Nat) :
    Listing.applySymbolic (Listing.formatSymbolic a.val) cur = some a.val := by
  rw [umask_symbolic_reread_nat, Nat.mod_eq_of_lt a.isLt]

/-- ★ `umask`: the three octal digits printed by `umask` denote the mask (all 512). -/
theorem umask_octal_reread : ∀ m : Fin 512, Listing.parseOctal3 (Listing.octal3 m.val) = some m.val := by
  intro m
  rw [umask_octal_reread_nat, Nat.mod_eq_of_lt m.isLt]

/-! Non-vacuity: the three cases are all inhabited, and unquoted text really is mangled by the lexer.
    (`lex` is defined by well-founded recursion, which only the kernel unfolds: `decide +kernel`.) -/
example : quote "a:b{".toList = "a:b{".toList := by decide +kernel
example : quote "a b".toList = "'a b'".toList := by decide +kernel
example : quote "it's $x".toList = "\"it's \\$x\"".toList := by decide +kernel
example : readBack "'a'\\''b' \"c d\"".toList = some ["a'b".toList, "c d".toList] := by decide +kernel
/-- the hypothesis of the table obligation is met by, e.g., U+3000 (a non-ASCII blank) -/
example : lexerSpecial (Char.ofNat 0x3000) := by
  refine Or.inr (Or.inr (Or.inr (Or.inr (Or.inr (Or.inr ?_)))))
  decide
/-- unquoted text that needs quoting does NOT read back as itself (the quoting is not idle) -/
example : readBack "a b".toList = some ["a".toList, "b".toList] := by decide +kernel
example : readBack "~".toList = none := by decide +kernel
example : readBack "a:~".toList = none := by decide +kernel
example : readBack "[a]".toList = none := by decide +kernel
example : readBack "#x".toList = none := by decide +kernel
example : readBack "$x".toList = none := by decide +kernel
example : readBack "a;b".toList = none := by decide +kernel

/-- Witness of known finding K1: alias name `[`, value `]` is printed `[=]`, which the reader does NOT
    accept as a literal-only word (it is a bracket pattern for pathname expansion). -/
theorem alias_cross_bracket_witness :
    Listing.printAlias ("[".toList, "]".toList) = "[=]\n".toList ∧ readBack "[=]".toList = none := by
  constructor <;> decide +kernel
/-- while as the argument of a declaration utility the same word is harmless (`Single` mode) -/
example : readBackDecl "[=]".toList = some ["[=]".toList] := by decide +kernel
example : Listing.printTrap ("INT", "echo 'a b'".toList) = "trap -- \"echo 'a b'\" INT\n".toList := by decide +kernel
example : Listing.printVar "typeset" Listing.typesetOpts false
    { name := "-n".toList, value := .scalar "a b".toList, exported := true, readonly := true }
    = "typeset -r -x -- -n='a b'\n".toList := by decide +kernel

example : crossBracket "a".toList "x y".toList = false := by decide +kernel
/-- a `:~` after a SECOND colon must be quoted too (seeded change `colon-tilde-first-colon-only`): the
    quoter model quotes it, and `quote_roundtrip` / `decl_entry_reparse` could not be proved otherwise,
    because the reader looks for a tilde after EVERY unquoted colon -/
example : quote "a:b:~c".toList = "'a:b:~c'".toList := by decide +kernel
example : tildeAfterColon ("a:b:~c".toList.map WUnit.lit) = true := by decide +kernel
example : readBackDecl (quote "x".toList ++ '=' :: quote "a:b:~c".toList) = some ["x=a:b:~c".toList] :=
  decl_entry_reparse _ _

end YashModel.Quote
