/-
  C07 — the quoter's output as word units: all literals of a `Bare` string, or ONE quoted unit.  Followed by ANY text it
  is read as those units, so quoted pieces compose: an `Item` is a quoted string or `name=value` of two (side condition
  for an ordinary argument: `crossBracket`), a `line` a blank-separated list of items, and any such list reads back as
  its fields, for both argument readers at once.
-/
import YashModel.Quote.Bare

namespace YashModel.Quote
open YashModel.Generated.QuoteTables

/-- the word units the lexer produces for `quote s` -/
def unitsOf (s : List Char) : List WUnit :=
  if !strNeedsQuoting s then s.map WUnit.lit
  else if !s.contains singleQuoteBlocker then [.sq s]
  else [.dq s]

def hasLitOpen (w : List WUnit) : Bool := w.any fun u => u = .lit '['

/-- name and value are both printed bare, the name has a `[` and the value a `]`: the printed word
    `name=value` is then a bracket pattern (the one case in which gluing the two quoted halves goes wrong) -/
def crossBracket (n v : List Char) : Bool :=
  (!strNeedsQuoting n && n.contains '[') && (!strNeedsQuoting v && v.contains ']')

/-- a blank-separated piece of a printed line: a quoted string, or two quoted strings glued by `=` -/
inductive Item
  | word (s : List Char)
  | assign (n v : List Char)

namespace Item

def text : Item → List Char
  | word s => quote s
  | assign n v => quote n ++ '=' :: quote v

def units : Item → List WUnit
  | word s => unitsOf s
  | assign n v => unitsOf n ++ WUnit.lit '=' :: unitsOf v

def field : Item → List Char
  | word s => s
  | assign n v => n ++ '=' :: v

def noPattern : Item → Bool
  | word _ => true
  | assign n v => !crossBracket n v

end Item

/-- a text read as the arguments of an ordinary (`false`) or a declaration (`true`) utility: `readBack` and
    `readBackDecl` at once -/
def readAs (d : Bool) (s : List Char) : Option (List (List Char)) :=
  (lex (.word []) s).bind fun ws => ws.mapM fun w => expandWord (w, d)

def line (is : List Item) : List Char := joinSp (is.map Item.text) ++ ['\n']

theorem unitsOf_shapes (s : List Char) :
    (strNeedsQuoting s = false ∧ unitsOf s = s.map WUnit.lit)
    ∨ (strNeedsQuoting s = true ∧ s.contains singleQuoteBlocker = false ∧ unitsOf s = [.sq s])
    ∨ (strNeedsQuoting s = true ∧ s.contains singleQuoteBlocker = true ∧ unitsOf s = [.dq s]) := by
  unfold unitsOf
  cases hn : strNeedsQuoting s
  · left; exact ⟨rfl, rfl⟩
  · cases hc : s.contains singleQuoteBlocker
    · right; left; exact ⟨rfl, rfl, rfl⟩
    · right; right; exact ⟨rfl, rfl, rfl⟩

theorem shapes (s : List Char) :
    (strNeedsQuoting s = false ∧ quote s = s ∧ unitsOf s = s.map WUnit.lit)
    ∨ (strNeedsQuoting s = true ∧ '\'' ∉ s ∧ quote s = '\'' :: (s ++ ['\'']) ∧ unitsOf s = [.sq s])
    ∨ (strNeedsQuoting s = true ∧ quote s = '"' :: (escapeDq s ++ ['"']) ∧ unitsOf s = [.dq s]) := by
  rcases unitsOf_shapes s with ⟨hn, hu⟩ | ⟨hn, hq, hu⟩ | ⟨hn, hq, hu⟩
  · exact Or.inl ⟨hn, by rw [quote, hn]; rfl, hu⟩
  · exact Or.inr (Or.inl ⟨hn, by rw [blocker_eq] at hq; simpa using hq, by rw [quote, hn, hq]; rfl, hu⟩)
  · exact Or.inr (Or.inr ⟨hn, by rw [quote, hn, hq]; rfl, hu⟩)

theorem unitsOf_cases (s : List Char) :
    (Bare s ∧ strNeedsQuoting s = false ∧ unitsOf s = s.map WUnit.lit)
    ∨ (strNeedsQuoting s = true ∧ ∃ u, unitsOf s = [u] ∧ (∀ c, u ≠ .lit c) ∧ u.chars = s) := by
  rcases shapes s with ⟨hn, _, hu⟩ | ⟨hn, _, _, hu⟩ | ⟨hn, _, hu⟩
  · exact Or.inl ⟨bare_of_not_needs hn, hn, hu⟩
  · exact Or.inr ⟨hn, _, hu, fun c h => WUnit.noConfusion h, rfl⟩
  · exact Or.inr ⟨hn, _, hu, fun c h => WUnit.noConfusion h, rfl⟩

theorem unitsOf_bare {b : List Char} (hb : strNeedsQuoting b = false) : unitsOf b = b.map WUnit.lit := by
  rw [unitsOf, hb]; rfl

/-! A single quoted unit in front: it starts no tilde expansion, is no colon, no pattern character, no name, no reserved word. -/

theorem tildeAt_quoted {u : WUnit} (hu : ∀ c, u ≠ .lit c) (b : List WUnit) :
    tildeAt (u :: b) = false ∧ tildeFront (u :: b) = false := by
  cases u with
  | lit c => exact absurd rfl (hu c)
  | _ => exact ⟨rfl, rfl⟩

theorem any_lit_quoted {u : WUnit} (hu : ∀ c, u ≠ .lit c) (a : Char) : decide (u = .lit a) = false :=
  decide_eq_false (hu a)

theorem assignValue_quoted {u : WUnit} (hu : ∀ c, u ≠ .lit c) (r : List WUnit) (seen : Bool) :
    assignValue (u :: r) seen = none := by
  cases u with
  | lit c => exact absurd rfl (hu c)
  | _ => simp [assignValue]

theorem isKeywordWord_quoted {u : WUnit} (hu : ∀ c, u ≠ .lit c) (r : List WUnit) : isKeywordWord (u :: r) = false := by
  cases u with
  | lit c => exact absurd rfl (hu c)
  | _ => simp [isKeywordWord]

theorem unitsOf_ne_nil (s : List Char) : unitsOf s ≠ [] := by
  rcases unitsOf_cases s with ⟨hb, _, hu⟩ | ⟨_, u, hu, _⟩
  · rw [hu]; exact fun h => hb.nonempty (by simpa using h)
  · rw [hu]; simp

theorem removeQuotes_unitsOf (s : List Char) : removeQuotes (unitsOf s) = s := by
  rcases unitsOf_cases s with ⟨_, _, hu⟩ | ⟨_, u, hu, _, hc⟩
  · rw [hu]; exact removeQuotes_lits s
  · rw [hu]; simpa [removeQuotes] using hc

theorem removeQuotes_append (a b : List WUnit) : removeQuotes (a ++ b) = removeQuotes a ++ removeQuotes b := by
  simp [removeQuotes]

theorem tildeAt_unitsOf_append (s : List Char) (b : List WUnit) :
    tildeAt (unitsOf s ++ b) = false ∧ tildeFront (unitsOf s ++ b) = false := by
  rcases unitsOf_cases s with ⟨hb, _, hu⟩ | ⟨_, u, hu, hq, _⟩
  · rw [hu]; exact hb.no_tilde b
  · rw [hu]; exact tildeAt_quoted hq b

theorem tildeAfterColon_unitsOf_append (s : List Char) (b : List WUnit) (hb : tildeAt b = false) :
    tildeAfterColon (unitsOf s ++ b) = tildeAfterColon b := by
  rcases unitsOf_cases s with ⟨hs, _, hu⟩ | ⟨_, u, hu, hq, _⟩
  · rw [hu]; exact tildeAfterColon_lits_append s b hs.noColonTilde hb
  · rw [hu]; simp [tildeAfterColon, any_lit_quoted hq]

theorem any_lit_unitsOf (a : Char) (s : List Char) :
    (unitsOf s).any (fun u => u = .lit a) = (!strNeedsQuoting s && s.contains a) := by
  rcases unitsOf_cases s with ⟨_, hn, hu⟩ | ⟨hn, u, hu, hq, _⟩
  · rw [hu, any_lit_lits, hn]; simp
  · rw [hu, hn]; simp [any_lit_quoted hq]

theorem anyStar_unitsOf (s : List Char) :
    (unitsOf s).any (fun u => decide (u = .lit '*') || decide (u = .lit '?')) = false := by
  rcases unitsOf_cases s with ⟨hb, _, hu⟩ | ⟨_, u, hu, hq, _⟩
  · rw [hu]; exact star_lits s hb.star
  · rw [hu]; simp [any_lit_quoted hq]

theorem bracketTriggered_unitsOf (s : List Char) : bracketTriggered (unitsOf s) = false := by
  rcases unitsOf_cases s with ⟨hb, _, hu⟩ | ⟨_, u, hu, hq, _⟩
  · rw [hu]; exact bracket_lits s hb.noBracket
  · rw [hu]; simp [bracketTriggered, any_lit_quoted hq]

theorem assignValue_unitsOf (s : List Char) : assignValue (unitsOf s) false = none := by
  rcases unitsOf_cases s with ⟨_, hn, hu⟩ | ⟨_, u, hu, hq, _⟩
  · rw [hu]; exact assignValue_lits_none s (not_needs_no_eq hn) false
  · rw [hu]; exact assignValue_quoted hq [] false

theorem triggers_unitsOf (s : List Char) :
    tildeTriggered (unitsOf s) = false ∧ globTriggered (unitsOf s) = false := by
  have h1 := (tildeAt_unitsOf_append s []).1
  have h2 := tildeAfterColon_unitsOf_append s [] rfl
  rw [List.append_nil] at h1 h2
  simp [tildeTriggered, globTriggered, h1, h2, tildeAfterColon, anyStar_unitsOf, bracketTriggered_unitsOf]

theorem fieldOf_unitsOf (s : List Char) : fieldOf (unitsOf s) = some s := by
  simp [fieldOf, triggers_unitsOf, removeQuotes_unitsOf]

theorem mapM_fieldOf_units (args : List (List Char)) :
    (args.map unitsOf).mapM fieldOf = some args := by
  induction args with
  | nil => rfl
  | cons a rest ih => simp [List.mapM_cons, fieldOf_unitsOf, ih]

theorem fieldOfDecl_unitsOf (s : List Char) : fieldOfDecl (unitsOf s) = some s := by
  rw [fieldOfDecl, assignValue_unitsOf]
  exact fieldOf_unitsOf s

theorem hasLitClose_append (a b : List WUnit) : hasLitClose (a ++ b) = (hasLitClose a || hasLitClose b) := by
  simp [hasLitClose]

theorem bracketTriggered_append_false (a b : List WUnit)
    (ha : bracketTriggered a = false) (hb : bracketTriggered b = false)
    (hx : hasLitOpen a = false ∨ hasLitClose b = false) : bracketTriggered (a ++ b) = false := by
  induction a with
  | nil => simpa using hb
  | cons u t ih =>
    simp only [bracketTriggered, Bool.or_eq_false_iff] at ha
    simp only [List.cons_append, bracketTriggered, hasLitClose_append, Bool.or_eq_false_iff]
    rcases hx with hx | hx
    · simp only [hasLitOpen, List.any_cons, Bool.or_eq_false_iff] at hx
      have hu : decide (u = WUnit.lit '[') = false := hx.1
      exact ⟨by simp [hu], ih ha.2 (Or.inl (by simpa [hasLitOpen] using hx.2))⟩
    · refine ⟨?_, ih ha.2 (Or.inr hx)⟩
      rw [hx, Bool.or_false]
      exact ha.1

theorem bracketTriggered_append_true (a b : List WUnit)
    (ho : hasLitOpen a = true) (hc : hasLitClose b = true) : bracketTriggered (a ++ b) = true := by
  induction a with
  | nil => simp [hasLitOpen] at ho
  | cons u t ih =>
    simp only [hasLitOpen, List.any_cons, Bool.or_eq_true] at ho
    simp only [List.cons_append, bracketTriggered, hasLitClose_append, Bool.or_eq_true]
    rcases ho with ho | ho
    · left; simp [ho, hc]
    · right; exact ih (by simpa [hasLitOpen] using ho)

theorem removeQuotes_assign (n v : List Char) :
    removeQuotes (unitsOf n ++ WUnit.lit '=' :: unitsOf v) = n ++ '=' :: v := by
  rw [removeQuotes_append, show WUnit.lit '=' :: unitsOf v = [WUnit.lit '='] ++ unitsOf v from rfl,
    removeQuotes_append, removeQuotes_unitsOf, removeQuotes_unitsOf]
  rfl

theorem fieldOf_assign (n v : List Char) (h : crossBracket n v = false) :
    fieldOf (unitsOf n ++ WUnit.lit '=' :: unitsOf v) = some (n ++ '=' :: v) := by
  have hv := triggers_unitsOf v
  simp only [tildeTriggered, globTriggered, Bool.or_eq_false_iff] at hv
  -- the `=` is no colon and no pattern character: it changes no trigger of what follows it
  have hcolon : tildeAfterColon (unitsOf n ++ WUnit.lit '=' :: unitsOf v) = false := by
    rw [tildeAfterColon_unitsOf_append n _ (by simp [tildeAt])]
    simp [tildeAfterColon, hv.1.2]
  have hstar : (unitsOf n ++ WUnit.lit '=' :: unitsOf v).any
      (fun u => decide (u = WUnit.lit '*') || decide (u = WUnit.lit '?')) = false := by
    simp [anyStar_unitsOf]
  have hbracket : bracketTriggered (unitsOf n ++ WUnit.lit '=' :: unitsOf v) = false := by
    apply bracketTriggered_append_false _ _ (bracketTriggered_unitsOf n) (by simp [bracketTriggered, hv.2.2])
    -- … except across the two halves: a bare `[` before, a bare `]` after
    rw [hasLitOpen, any_lit_unitsOf, show hasLitClose (WUnit.lit '=' :: unitsOf v) = hasLitClose (unitsOf v) by
      simp [hasLitClose], hasLitClose, any_lit_unitsOf]
    exact Bool.and_eq_false_iff.mp h
  simp [fieldOf, tildeTriggered, globTriggered, tildeAt_unitsOf_append, hcolon, hstar, hbracket, removeQuotes_assign]

theorem fieldOf_assign_cross (n v : List Char) (h : crossBracket n v = true) :
    fieldOf (unitsOf n ++ WUnit.lit '=' :: unitsOf v) = none := by
  simp only [crossBracket, Bool.and_eq_true] at h
  have ho : hasLitOpen (unitsOf n) = true := by rw [hasLitOpen, any_lit_unitsOf, h.1.1, h.1.2]; rfl
  have hc : hasLitClose (WUnit.lit '=' :: unitsOf v) = true := by
    rw [hasLitClose, List.any_cons, any_lit_unitsOf, h.2.1, h.2.2]; rfl
  simp [fieldOf, globTriggered, bracketTriggered_append_true _ _ ho hc]

/-- the printed word `name=value` as the argument of a declaration utility: a bare name puts the word in `Single`
    mode (no pathname expansion, tilde looked for after `=` and colons), a quoted name hides its `[` -/
theorem fieldOfDecl_assign (n v : List Char) :
    fieldOfDecl (unitsOf n ++ WUnit.lit '=' :: unitsOf v) = some (n ++ '=' :: v) := by
  rcases unitsOf_cases n with ⟨hb, hn, hu⟩ | ⟨hn, u, hu, hq, _⟩
  · have hav : assignValue (unitsOf n ++ WUnit.lit '=' :: unitsOf v) false = some (unitsOf v) := by
      rw [hu]; exact assignValue_lits n _ false (Or.inr hb.nonempty) (not_needs_no_eq hn)
    simp [fieldOfDecl, hav, (tildeAt_unitsOf_append n _).2, (triggers_unitsOf v).1, removeQuotes_assign]
  · have hav : assignValue (unitsOf n ++ WUnit.lit '=' :: unitsOf v) false = none := by
      rw [hu]; exact assignValue_quoted hq _ false
    rw [fieldOfDecl, hav]
    exact fieldOf_assign n v (by simp [crossBracket, hn])

/-- `quote_compose` for every reader that makes the common steps (so for the token reader too) -/
theorem Steps.quote_append {α : Type} {f : Mode → List Char → α} (h : Steps f)
    (s : List Char) (us : List WUnit) (r : List Char) :
    f (.word us) (quote s ++ r) = f (.word ((unitsOf s).reverse ++ us)) r := by
  rcases shapes s with ⟨hn, hq, hu⟩ | ⟨_, hb, hq, hu⟩ | ⟨_, hq, hu⟩
  · rw [hq, hu]
    have hb := bare_of_not_needs hn
    exact h.bare_append s us r hb.special (Or.inr hb.first)
  · rw [hq, hu]
    simp only [List.cons_append, List.append_assoc, List.nil_append]
    rw [h (.sqOpen us _), h.sq_body s hb us [] r]
    simp
  · rw [hq, hu]
    simp only [List.cons_append, List.append_assoc, List.nil_append]
    rw [h (.dqOpen us _), h.dq_body s us [] r]
    simp

/-- ★ (composition) `quote s` followed by ANY text `r` is read as the units of `s` and the lexer goes on
    with `r` in the same word: separately quoted pieces can be glued (`name=value`, `(v1 v2)`). -/
theorem quote_compose (s : List Char) (us : List WUnit) (r : List Char) :
    lex (.word us) (quote s ++ r) = lex (.word ((unitsOf s).reverse ++ us)) r :=
  lex_steps.quote_append s us r

theorem quote_last (s : List Char) : quote s ≠ [] ∧ (quote s).getLast? ≠ some '\\' := by
  rcases shapes s with ⟨hn, hq, _⟩ | ⟨_, _, hq, _⟩ | ⟨_, hq, _⟩
  · have hb := bare_of_not_needs hn
    rw [hq]
    refine ⟨hb.nonempty, ?_⟩
    intro h
    have hm : '\\' ∈ s := List.mem_of_getLast? h
    exact hb.special _ hm (Or.inl rfl)
  · rw [hq]
    refine ⟨by simp, ?_⟩
    rw [show '\'' :: (s ++ ['\'']) = ('\'' :: s) ++ ['\''] by simp, List.getLast?_concat]
    simp
  · rw [hq]
    refine ⟨by simp, ?_⟩
    rw [show '"' :: (escapeDq s ++ ['"']) = ('"' :: escapeDq s) ++ ['"'] by simp, List.getLast?_concat]
    simp

theorem getLast_append_ne_nil (pre l : List Char) (h : l ≠ []) : (pre ++ l).getLast? = l.getLast? := by
  rw [List.getLast?_append]
  cases hl : l.getLast? with
  | none => exact absurd (List.getLast?_eq_none_iff.mp hl) h
  | some x => rfl

theorem dropNl_append_nl (l : List Char) : Listing.dropNl (l ++ ['\n']) = l := by
  simp [Listing.dropNl]

theorem dropNl_append (a l : List Char) (h : l ≠ []) : Listing.dropNl (a ++ l) = a ++ Listing.dropNl l := by
  unfold Listing.dropNl
  rw [getLast_append_ne_nil a l h, List.dropLast_append_of_ne_nil h]
  split <;> rfl

namespace Item

@[simp] theorem text_comp_word : text ∘ word = quote := rfl
@[simp] theorem units_comp_word : units ∘ word = unitsOf := rfl
@[simp] theorem field_comp_word : field ∘ word = id := rfl
@[simp] theorem noPattern_word (s : List Char) : (word s).noPattern = true := rfl

theorem units_ne_nil (i : Item) : i.units ≠ [] := by
  cases i <;> simp [units, unitsOf_ne_nil]

theorem text_last (i : Item) : i.text ≠ [] ∧ i.text.getLast? ≠ some '\\' := by
  cases i with
  | word s => exact quote_last s
  | assign n v =>
    refine ⟨by simp [text], ?_⟩
    rw [text, show quote n ++ '=' :: quote v = (quote n ++ ['=']) ++ quote v by simp,
      getLast_append_ne_nil _ _ (quote_last v).1]
    exact (quote_last v).2

end Item

theorem Steps.item_append {α : Type} {f : Mode → List Char → α} (h : Steps f)
    (i : Item) (us : List WUnit) (r : List Char) :
    f (.word us) (i.text ++ r) = f (.word (i.units.reverse ++ us)) r := by
  cases i with
  | word s => exact h.quote_append s us r
  | assign n v =>
    simp only [Item.text, Item.units, List.append_assoc, List.cons_append]
    rw [h.quote_append, h (.ordinary _ _ not_special_eq (fun e => absurd e (by decide))), h.quote_append]
    simp

theorem lex_item (i : Item) : lex (.word []) i.text = some [i.units] := by
  have := lex_steps.item_append i [] []
  rw [List.append_nil, List.append_nil, lex_word_nil] at this
  simpa [i.units_ne_nil] using this

theorem lex_item_space (i : Item) (t : List Char) :
    lex (.word []) (i.text ++ ' ' :: t) = (lex (.word []) t).map fun ws => i.units :: ws := by
  rw [lex_steps.item_append i [] _, lex_blank _ _ space_blank.1 (by simp [space_blank.2])]
  simp [i.units_ne_nil]

theorem lex_items (is : List Item) :
    lex (.word []) (joinSp (is.map Item.text)) = some (is.map Item.units) := by
  induction is with
  | nil => simp [joinSp, lex_word_nil]
  | cons a rest ih =>
    cases rest with
    | nil => exact lex_item a
    | cons b rest' =>
      simp only [List.map_cons, joinSp] at ih ⊢
      rw [lex_item_space, ih]
      rfl

theorem lex_args (args : List (List Char)) :
    lex (.word []) (joinSp (args.map quote)) = some (args.map unitsOf) := by
  simpa using lex_items (args.map Item.word)

theorem Item.expand (i : Item) (d : Bool) (h : (d || i.noPattern) = true) : expandWord (i.units, d) = some i.field := by
  cases i with
  | word s => cases d <;> simp [expandWord, Item.units, Item.field, fieldOf_unitsOf, fieldOfDecl_unitsOf]
  | assign n v =>
    cases d with
    | true => simp [expandWord, Item.units, Item.field, fieldOfDecl_assign]
    | false =>
      have hc : crossBracket n v = false := by simpa [Item.noPattern] using h
      simp [expandWord, Item.units, Item.field, fieldOf_assign n v hc]

theorem Item.expand_all (d : Bool) (is : List Item) (h : (d || is.all Item.noPattern) = true) :
    (is.map Item.units).mapM (fun w => expandWord (w, d)) = some (is.map Item.field) := by
  induction is with
  | nil => rfl
  | cons i r ih =>
    have h1 : (d || i.noPattern) = true := by cases d <;> simp_all
    have h2 : (d || r.all Item.noPattern) = true := by cases d <;> simp_all
    simp only [List.map_cons, List.mapM_cons]
    rw [i.expand d h1, ih h2]
    rfl

theorem readBack_eq_readAs (s : List Char) : readBack s = readAs false s := rfl

theorem readBackDecl_eq_readAs (s : List Char) : readBackDecl s = readAs true s := rfl

theorem readAs_items (d : Bool) (is : List Item) (h : (d || is.all Item.noPattern) = true) :
    readAs d (joinSp (is.map Item.text)) = some (is.map Item.field) := by
  rw [readAs, lex_items]
  exact Item.expand_all d is h

theorem joinSp_cons_ne (a : List Char) (ws : List (List Char)) (h : ws ≠ []) :
    joinSp (a :: ws) = a ++ ' ' :: joinSp ws := by
  cases ws with
  | nil => exact absurd rfl h
  | cons b r => rfl

theorem joinSp_last (ws : List (List Char)) (h : ∀ w ∈ ws, w ≠ [] ∧ w.getLast? ≠ some '\\') :
    (joinSp ws).getLast? ≠ some '\\' := by
  induction ws with
  | nil => simp [joinSp]
  | cons a t ih =>
    cases t with
    | nil => simpa [joinSp] using (h a (by simp)).2
    | cons b t' =>
      have hne : joinSp (b :: t') ≠ [] := by
        cases t' with
        | nil => simpa [joinSp] using (h b (by simp)).1
        | cons _ _ => simp [joinSp, (h b (by simp)).1]
      rw [joinSp, show a ++ ' ' :: joinSp (b :: t') = (a ++ [' ']) ++ joinSp (b :: t') by simp,
        getLast_append_ne_nil _ _ hne]
      exact ih fun w hw => h w (by simp [hw])

theorem items_last (is : List Item) : (joinSp (is.map Item.text)).getLast? ≠ some '\\' :=
  joinSp_last _ fun w hw => by
    obtain ⟨i, -, rfl⟩ := List.mem_map.mp hw
    exact i.text_last

theorem readAs_line (d : Bool) (is : List Item) (h : (d || is.all Item.noPattern) = true) :
    readAs d (Listing.dropNl (line is)) = some (is.map Item.field) := by
  rw [line, dropNl_append_nl, readAs_items d is h]

end YashModel.Quote
