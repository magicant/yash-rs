/-
  C07 — the model's printers and constants ARE those of the sources: the format strings, the order of conditions, the
  umask letters and masks, the option prefixes (tables re-extracted on every run: `Generated/ListingTables`), and every
  caller of the quoter that prints a re-readable listing is a printer the model transcribes.
-/
import YashModel.Quote.Umask
import YashModel.Generated.ListingTables

namespace YashModel.Quote
open YashModel.Generated.QuoteTables
open Listing
open YashModel.Generated.ListingTables

/-- Rust `format!` restricted to `{}` placeholders: each is replaced by the next argument -/
def fmtFill : List Char → List (List Char) → List Char
  | [], _ => []
  | '{' :: '}' :: r, a :: as => a ++ fmtFill r as
  | c :: r, as => c :: fmtFill r as

/-- insertion sort of (name, number) by number (`conditions.sort()` on `Condition::Signal(number)`) -/
def insertNum (x : String × Nat) : List (String × Nat) → List (String × Nat)
  | [] => [x]
  | y :: ys => if x.2 < y.2 then x :: y :: ys else y :: insertNum x ys
def sortNum (l : List (String × Nat)) : List (String × Nat) := l.foldr insertNum []

/-- the source files whose printers `Quote/Listing.lean` transcribes (`printAlias`, `printSet`, `printTrap`,
    `printVar`, `printFnAttr`, `printCommandV`) -/
def modelledPrinters : List String :=
  ["yash-builtin/src/alias/semantics.rs", "yash-builtin/src/set.rs", "yash-builtin/src/trap.rs",
   "yash-builtin/src/typeset/print_variables.rs", "yash-builtin/src/typeset/print_functions.rs",
   "yash-builtin/src/command/identify.rs"]

/-- ★ the model's printers ARE the format strings of the source (re-extracted on every run) filled with the
    quoted pieces. -/
theorem printers_follow_source_formats :
    (∀ t : String × List Char, printTrap t = fmtFill trapFormat [quote t.2, t.1.toList] ++ ['\n'])
    ∧ (∀ a : List Char × List Char, printAlias a = fmtFill aliasFormat [quote a.1, quote a.2] ++ ['\n'])
    ∧ (∀ (v : Var) (s : List Char), v.value = .scalar s →
        printSet v = fmtFill setFormat [v.name, quote s] ++ ['\n'])
    ∧ (∀ (v : Var) (vs : List (List Char)), v.value = .array vs →
        printSet v = fmtFill setFormat [v.name, quoteArray vs] ++ ['\n'])
    ∧ (∀ (b : String) (opts : Var → List Char) (sig : Bool) (v : Var) (s : List Char),
        v.name.contains '=' = false → v.value = .scalar s →
        printVar b opts sig v
          = fmtFill varScalarFormat [b.toList, opts v, sepOf v.name, quote v.name, quote s] ++ ['\n'])
    ∧ (∀ (b : String) (opts : Var → List Char) (sig : Bool) (v : Var),
        v.name.contains '=' = false → v.value = .none →
        printVar b opts sig v = fmtFill varAttrFormat [b.toList, opts v, sepOf v.name, quote v.name] ++ ['\n'])
    ∧ (∀ (b : String) (opts : Var → List Char) (sig : Bool) (v : Var) (vs : List (List Char)),
        v.name.contains '=' = false → v.value = .array vs →
        printVar b opts sig v
          = fmtFill varArrayFormat [quote v.name, quoteArray vs] ++ ['\n']
            ++ (if !(opts v).isEmpty || sig
                then fmtFill varAttrFormat [b.toList, opts v, sepOf v.name, quote v.name] ++ ['\n'] else []))
    ∧ (∀ v : Var, typesetOpts v
        = (if v.readonly then fmtFill attrOptionFormat [['r']] else [])
          ++ (if v.exported then fmtFill attrOptionFormat [['x']] else [])) := by
  have f1 : trapFormat = ['t', 'r', 'a', 'p', ' ', '-', '-', ' ', '{', '}', ' ', '{', '}'] := by decide +kernel
  have f2 : aliasFormat = ['{', '}', '=', '{', '}'] := by decide +kernel
  have f3 : setFormat = ['{', '}', '=', '{', '}'] := by decide +kernel
  have f4 : varScalarFormat = ['{', '}', ' ', '{', '}', '{', '}', '{', '}', '=', '{', '}'] := by decide +kernel
  have f5 : varArrayFormat = ['{', '}', '=', '{', '}'] := by decide +kernel
  have f6 : varAttrFormat = ['{', '}', ' ', '{', '}', '{', '}', '{', '}'] := by decide +kernel
  have f7 : attrOptionFormat = ['-', '{', '}', ' '] := by decide +kernel
  have hp : "trap -- ".toList = ['t', 'r', 'a', 'p', ' ', '-', '-', ' '] := by decide +kernel
  have hm : ∀ {v : Var}, v.name.contains '=' = false → '=' ∉ v.name := fun hn => by
    simpa [List.contains_iff_mem] using hn
  refine ⟨?_, ?_, ?_, ?_, ?_, ?_, ?_, ?_⟩
  · intro t; unfold printTrap; rw [f1, hp]; simp [fmtFill]
  · intro a; rw [f2]; simp [fmtFill, printAlias]
  · intro v s h; rw [f3]; simp [fmtFill, printSet, h]
  · intro v vs h; rw [f3]; simp [fmtFill, printSet, h]
  · intro b opts sig v s hn h
    rw [f4]; simp [fmtFill, printVar, hm hn, h]
  · intro b opts sig v hn h
    rw [f6]; simp [fmtFill, printVar, hm hn, h]
  · intro b opts sig v vs hn h
    rw [f5, f6]; simp [fmtFill, printVar, hm hn, h]
  · intro v
    rw [f7]
    rcases v with ⟨n, val, x, r⟩
    cases x <;> cases r <;> simp [fmtFill, typesetOpts] <;> decide

/-- ★ the constants of the state model are the constants of the sources (re-extracted on every run):
    the order of `trap` lines = `Condition::iter` on the virtual system, restricted to the seven conditions of
    `condOrder` (the model lists only those the generator uses: hence the filter) (EXIT first — derived `Ord` of the enum,
    shape-checked by the plugin —, then the signals by number, `virtual/signal.rs`); the initial umask =
    `Mode::default()`; the option-prefix characters = those `typeset`'s `try_parse_short` tests; the
    symbolic-umask letters, operators, masks, separator = `Who::parse` / `Operator::parse` /
    `Permission::parse` / `parse_clauses` (over all ASCII characters); the `umask -S` text = the pushes of
    `format_symbolic`, for all 512 masks. -/
theorem state_constants_match_sources :
    condOrder = "EXIT" :: (sortNum (virtualSignals.filter fun p => condOrder.contains p.1)).map (·.1)
    ∧ Listing.initialUmask = YashModel.Generated.ListingTables.initialUmask
    ∧ optionPrefixChars = typesetOptionPrefixes
    ∧ (∀ p ∈ whoChars, ∀ m, (parseWho [p.1, '='] m).2 = ['='] ∧ (parseWho [p.1, '='] 0).1 = p.2)
    ∧ (∀ p ∈ umaskOperators, parseOp p.1 = some p.2)
    ∧ (List.range 128).all (fun n =>
        (parseOp (Char.ofNat n)).isSome == (umaskOperators.map (·.1)).contains (Char.ofNat n)) = true
    ∧ (List.range 128).all (fun n => isPermChar (Char.ofNat n) == permChars.contains (Char.ofNat n)) = true
    ∧ (∀ p ∈ permMasks, parsePerm [p.1] = some (.lit p.2 false, []))
    ∧ (∀ c ∈ permCopyChars, parsePerm [c] ∈ [some (Perm.copyU, []), some (Perm.copyG, []), some (Perm.copyO, [])])
    ∧ clauseSeparator = ','
    ∧ (List.range 512).all (fun m => formatSymbolic m == formatPieces m) = true := by
  refine ⟨by decide +kernel, by decide, by decide, ?_, by decide +kernel, by decide +kernel, by decide +kernel,
    by decide +kernel, by decide +kernel, by decide, ?_⟩
  · intro p hp m
    simp only [whoChars, List.mem_cons, List.not_mem_nil, or_false] at hp
    rcases hp with rfl | rfl | rfl | rfl <;> simp [parseWho]
  · exact List.all_eq_true.mpr fun m _ => by rw [formatSymbolic_eq_pieces, beq_self_eq_true]

/-- ★ every file that calls the quoter (list re-extracted from yash-builtin / yash-semantics / yash-cli /
    yash-prompt on every run; the extractor fails on an unclassified file) and is classified as a re-readable
    listing is one of the printers the model transcribes (`command -v`'s alias form included); no re-readable
    producer is left unmodelled. -/
theorem listing_producers_modelled :
    (∀ p ∈ quoteProducers, p.2 = "listing" → p.1 ∈ modelledPrinters)
    ∧ (∀ f ∈ modelledPrinters, (f, "listing") ∈ quoteProducers)
    ∧ (quoteProducers.filter (·.2 = "listing-unmodelled")).map (·.1) = [] := by
  decide +kernel

end YashModel.Quote
