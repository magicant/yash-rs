/-
  C16 — the property theorems with their non-vacuity examples.

  Property text: "For every history of assignments, temporary assignments, function calls and
  returns, local declarations, exports, read-only marks and unsets, looking up a variable returns
  the value from the innermost visible scope: […] locals and a function's positional parameters
  vanish at return while globals assigned inside persist, a read-only variable is never modified or
  unset by any means, and the environment handed to executed programs is exactly the exported
  variables with their current values."
-/
import YashModel.Variable.Prefix
import YashModel.Variable.Lifetime
import YashModel.Variable.Observe
import YashModel.Variable.Frame
import YashModel.Variable.Quirks
import YashModel.Variable.RoPaths
import YashModel.Variable.TypesetBridge
namespace YashModel.Variable

/-- ★ the initial set is normalised -/
theorem norm_init : Norm VariableSet.new :=
  ⟨fun _ => List.Pairwise.nil, fun _ _ h => (by cases h), ⟨[], [], rfl⟩⟩

theorem good_reachable (ops : List Op) : Good (VariableSet.new.run ops) :=
  run_good norm_init (fun _ => trivial) ops

/-- ★ hence every reachable set is normalised -/
theorem norm_reachable (ops : List Op) : Norm (VariableSet.new.run ops) :=
  (good_reachable ops).1

/-- ★ … and it is *exactly* the exported visible variables with their current values: `name=x` is
    in the environment iff the variable visible under `name` (topmost defining context) is
    exported, has a value whose text is `x`, and the pair can be passed at all (no `=` in the name,
    no NUL) -/
theorem env_exact (s : VariableSet) (h : Norm s) (names : List Name) (n : Name) (x : String) :
    (n, x) ∈ s.env names ↔
      n ∈ names ∧ ∃ v, lookup (abs s) n = some v ∧ v.exported = true ∧
        (∃ val, v.value = some val ∧ x = valueString val) ∧
        n.toList.any (· == '=') = false ∧ hasNul n = false ∧ hasNul x = false := by
  rw [env_refines s h]
  unfold SSet.env
  simp only [List.mem_filterMap]
  constructor
  · rintro ⟨m, hm, he⟩
    cases hl : lookup (abs s) m with
    | none => simp [hl] at he
    | some v =>
      simp only [hl, Option.bind_some] at he
      have := envEntry_some he
      obtain ⟨rfl, rest⟩ := this
      exact ⟨hm, v, hl, rest⟩
  · rintro ⟨hn, v, hl, he, ⟨val, hv, hx⟩, h1, h2, h3⟩
    refine ⟨n, hn, ?_⟩
    simp only [hl, Option.bind_some]
    exact envEntry_of he hv hx h1 h2 h3

theorem extendEnv_refines (ps : List (Name × String)) (s : VariableSet) (h : Norm s) :
    abs (s.extendEnv ps) = (abs s).extendEnv ps ∧ Norm (s.extendEnv ps) := by
  induction ps generalizing s with
  | nil => exact ⟨rfl, h⟩
  | cons p t ih =>
    obtain ⟨n, v⟩ := p
    have key := extendRound_sim simM.noPop n v s (abs s) ⟨h, rfl⟩
    rw [← VariableSet.extendEnv1_eq, ← SSet.extendEnv1_eq] at key
    simp only [VariableSet.extendEnv, SSet.extendEnv]
    rw [← key.2]
    exact ih _ key.1

theorem push_refines (s : VariableSet) (h : Norm s) (c : Context) :
    abs (s.pushContext c) = (abs s).push c :=
  (push_abs h c).1

/-- ★ `pop_refines`: popping forgets exactly the variables of the popped context; everything that
    was hidden by them is visible again -/
theorem pop_refines (s : VariableSet) (h : Norm s) : abs s.popContext = (abs s).pop :=
  (pop_abs h).1

/-- ★ `getOrNew_refines` (all three scopes, including the migration of volatile variables to the
    target regular context and the documented panic of `Volatile` without a volatile context) -/
theorem getOrNew_refines (s : VariableSet) (h : Norm s) (n : Name) (scope : Scope) :
    (s.getOrNew n scope).map abs = (abs s).getOrNew n scope :=
  (getOrNew_abs h n scope).1

/-- ★ `assign_refines`: `get_or_new` in any scope followed by assignment (with read-only refusal),
    export or read-only marking, including the value returned to the caller -/
theorem assign_refines (s : VariableSet) (h : Norm s) (n : Name) (scope : Scope) (v : Value) (loc : Option Nat) :
    abs (s.step (.assign n scope v loc)).1 = ((abs s).step (.assign n scope v loc)).1 ∧
    (s.step (.assign n scope v loc)).2 = ((abs s).step (.assign n scope v loc)).2 :=
  ⟨(step_abs h _).1, (step_abs h _).2.1⟩

/-- ★ `unset_refines`, full strength for `Global`, `Local` and `Volatile`: same state, same result
    (the removed variable or the read-only refusal) -/
theorem unset_refines (s : VariableSet) (h : Norm s) (n : Name) (scope : Scope) :
    abs (s.unset n scope).1 = ((abs s).unset n scope).1 ∧
    (s.unset n scope).2 = ((abs s).unset n scope).2 :=
  ⟨(unset_abs h n scope).1, (unset_abs h n scope).2.1⟩

/-- ★ every operation: same abstract state, same result -/
theorem step_refines (s : VariableSet) (h : Norm s) (op : Op) :
    abs (s.step op).1 = ((abs s).step op).1 ∧ (s.step op).2 = ((abs s).step op).2 :=
  ⟨(step_abs h op).1, (step_abs h op).2.1⟩

/-- ★ every history, of any length: the Rust structure and the stack of maps stay in step -/
theorem run_refines (ops : List Op) : abs (VariableSet.new.run ops) = SSet.run SSet.new ops := by
  rw [← abs_new]; exact (run_abs_from norm_init ops).1

/-- the auxiliary invariant (a volatile variable directly above a read-only instance of the same
    name is a copy of it) holds in every reachable set -/
theorem shadow_reachable (ops : List Op) : ShadowInv (VariableSet.new.run ops) :=
  (good_reachable ops).2

/-- ★ `readonly_immutable` (persistence): in every reachable set, for every operation other than
    popping a context, every read-only instance `(name, value)` — visible or hidden — has a read-only
    instance `(name, value)` with the same mark afterwards (it may have moved from a volatile to a
    regular context; nothing else can happen to it) -/
theorem readonly_immutable (ops : List Op) (op : Op) (hop : op ≠ .pop) (n : Name) (e : VIC)
    (he : e ∈ (VariableSet.new.run ops).all n) (hro : e.var.isReadOnly = true) :
    ∃ e' ∈ ((VariableSet.new.run ops).step op).1.all n,
      e'.var.isReadOnly = true ∧ e'.var.value = e.var.value ∧ e'.var.readOnly = e.var.readOnly := by
  obtain ⟨e', he', h1, h2, _⟩ := step_keeps (good_reachable ops) op hop n e he hro
  exact ⟨e', he', h1, h2.1, h2.2⟩

/-- ★ `readonly_immutable` (assignment): when the variable `get_or_new` hands out is read-only, the
    assignment is refused with its location and changes nothing -/
theorem readonly_assign_refused (s s1 : VariableSet) (n : Name) (sc : Scope) (v : Value) (loc : Option Nat)
    (hg : s.getOrNew n sc = some s1) (x : Variable) (l : Nat) (hx : s1.get n = some x)
    (hl : x.readOnly = some l) :
    (s.step (.assign n sc v loc)).2 = .readOnly l ∧
    ∀ m, (s.step (.assign n sc v loc)).1.all m = s1.all m := by
  simp only [VariableSet.step, hg, hx, Option.getD_some]
  refine ⟨by simp [assignRes, hl], fun m => ?_⟩
  -- writing the variable itself back through the reference leaves the set as it is
  rw [get_top] at hx
  rw [modifyLast_top]
  cases hr : s1.top n with
  | nil => simp [hr] at hx
  | cons u r =>
    simp only [hr, List.head?_cons, Option.map_some, Option.some.injEq] at hx
    have hu : u.var.assign v loc = u.var := by simp [Variable.assign, Variable.isReadOnly, hx, hl]
    rw [modifyHead, hu, ← hr, setTop_top]

/-- ★ `readonly_immutable` (unset): an `unset` that is refused removes nothing; and (through
    `unset_refines`) it is refused exactly when the Spec finds a read-only variable of the name in
    one of the contexts of the scope -/
theorem readonly_unset_refused (s : VariableSet) (n : Name) (scope : Scope) (l : Nat)
    (h : (s.unset n scope).2 = .readOnly l) : (s.unset n scope).1 = s := by
  simp only [VariableSet.unset] at h ⊢
  cases hf : ((s.all n).drop (partitionPoint (fun vic => decide (vic.ctx < indexOfContext scope s.contexts))
      (s.all n))).reverse.find? (fun vic => vic.var.isReadOnly) with
  | some vic => rfl
  | none => rw [hf] at h; cases h

/-- the Spec side of that: a read-only variable in any context of the scope makes `unset` fail -/
theorem spec_unset_touching_readonly_fails (X : SSet) (n : Name) (k j : Nat) (c : SCtx) (v : Variable)
    (hj : j < k) (hc : X[j]? = some c) (hv : c.vars n = some v) (hro : v.isReadOnly = true) :
    (firstReadOnly n k X).isSome = true := by
  induction X generalizing k j with
  | nil => simp at hc
  | cons d X ih =>
    cases k with
    | zero => omega
    | succ k =>
      cases j with
      | zero =>
        simp only [List.getElem?_cons_zero, Option.some.injEq] at hc; subst hc
        simp only [firstReadOnly, hv, hro, if_true]
        exact hro
      | succ j =>
        simp only [List.getElem?_cons_succ] at hc
        have := ih k j (by omega) hc
        simp only [firstReadOnly]
        cases hd : d.vars n with
        | none => exact this
        | some w =>
          by_cases hw : w.isReadOnly = true
          · simp only [hw, if_true]; exact hw
          · simp only [hw]; exact this

/-- ★ `readonly_immutable` for the whole `typeset` option family: whatever the
    scope (`-g` or local), the attribute options (`-r -x -X +x +r`, in any order and number) and
    the operands (`m` or `m=v`, any number), running `typeset` in a reachable set keeps every
    read-only instance with its value and mark; in particular `+r` never cancels read-only-ness
    and a refused `m=v` changes nothing -/
theorem typeset_readonly_immutable (ops : List Op) (sc : Scope) (attrs operands : List String)
    (n : Name) (e : VIC) (he : e ∈ (VariableSet.new.run ops).all n) (hro : e.var.isReadOnly = true) :
    ∃ e' ∈ (operands.foldl (typesetField ifaceM sc attrs) (VariableSet.new.run ops)).all n,
      e'.var.isReadOnly = true ∧ e'.var.value = e.var.value ∧ e'.var.readOnly = e.var.readOnly := by
  obtain ⟨e', he', h1, h2⟩ := (typesetFold_simNoPop (keeps_sim _) sc attrs operands _ _
    (keepsFrom_diag (good_reachable ops))).2.1 n e he hro
  exact ⟨e', he', h1, h2.1, h2.2⟩

/-- `typeset +r -X x` on a read-only exported `x`: `+r` is an error and `-X` is skipped;
    `typeset -X +r x`: unexported, still read-only -/
example : ((applyAttrs ifaceM "x" .global ["+r", "-X"]
      (VariableSet.new.run [.assign "x" .global (.scalar "1") none, .export "x" .global true,
        .readonly "x" .global 7])).get "x")
    = some { value := some (.scalar "1"), exported := true, readOnly := some 7 } := by decide +kernel
example : ((applyAttrs ifaceM "x" .global ["-X", "+r"]
      (VariableSet.new.run [.assign "x" .global (.scalar "1") none, .export "x" .global true,
        .readonly "x" .global 7])).get "x")
    = some { value := some (.scalar "1"), exported := false, readOnly := some 7 } := by decide +kernel

/-! ### lifetime of temporary assignments, locals and positional parameters (Exec level)

  Commands are compiled to operations by `Exec.lean` (the scope choice of `perform_assignments` and
  the contexts pushed by `execute_builtin` / `execute_function` / `execute_external_utility`). -/

/-- ★ `temporary_assignment_lifetime` (regular built-in, external utility, command not found):
    assignments prefixed to such a command live in a volatile context and do not outlive it —
    whatever the command does through `Volatile`-scope accesses, afterwards the whole variable set
    is what it was before: every variable (visible or hidden), the environment, the positional
    parameters -/
theorem temporary_assignment_lifetime (s : VariableSet) (h : Norm s) (as : List (Name × Value))
    (body : List Op) (hb : ∀ op ∈ body, isTopVolOp op = true) :
    abs (s.run (regularCmd as body)) = abs s ∧
    (∀ n, (s.run (regularCmd as body)).get n = s.get n) ∧
    (∀ names, (s.run (regularCmd as body)).env names = s.env names) := by
  rw [eq_of_top_contexts (regular_frame s h as body (fun _ => True)
    (frameOK_top _ false body fun op ho => Or.inl (hb op ho)))]
  exact ⟨rfl, fun _ => rfl, fun _ => rfl⟩

/-- ★ `temporary_assignment_lifetime` (function call): the assignments prefixed to the call, the
    locals declared in the body (`typeset`), local unsets and the function's positional parameters
    (`set --` included) all vanish at return -/
theorem function_call_lifetime (s : VariableSet) (h : Norm s) (as : List (Name × Value))
    (ps : List String) (body : List Op) (hb : ∀ op ∈ body, isTopRegOp op = true) :
    abs (s.run (functionCmd as ps body)) = abs s ∧
    (∀ n, (s.run (functionCmd as ps body)).get n = s.get n) ∧
    (s.run (functionCmd as ps body)).positionalParams = s.positionalParams := by
  rw [eq_of_top_contexts (function_frame s h as ps body (fun _ => True)
    (frameOK_top _ true body fun op ho => Or.inr ⟨rfl, hb op ho⟩))]
  exact ⟨rfl, fun _ => rfl, rfl⟩

/-- ★ `temporary_assignment_lifetime` (special built-in / assignment-only command): the assignment
    is made at `Global` scope in the current contexts, no context is popped afterwards, and the
    variable is visible with the new value unless it is read-only (what happens to a read-only one:
    `readonly_assign_refused`) -/
theorem special_assignment_persists (s : VariableSet) (h : Norm s) (n : Name) (v : Value) (loc : Option Nat) :
    ∃ u, (s.step (.assign n .global v loc)).1.get n = some u ∧
      (u.isReadOnly = false → u.value = some v) := by
  obtain ⟨w, hw⟩ := step_assign_get h n .global v loc rfl
  exact ⟨_, hw, assign_value w v loc⟩

/-- ★ `temporary_assignment_lifetime` (globals assigned inside a function persist): a `Global`-scope
    assignment executed in a function body — even to a variable that also has a temporary
    assignment prefixed to the call — is visible with the new value after the function returned, unless
    the variable is read-only -/
theorem function_global_assignment_persists (s : VariableSet) (h : Norm s) (as : List (Name × Value))
    (ps : List String) (n : Name) (v : Value) (loc : Option Nat) :
    ∃ u, (s.run (functionCmd as ps [.assign n .global v loc])).get n = some u ∧
      (u.isReadOnly = false → u.value = some v) := by
  obtain ⟨w, hw⟩ := spec_modify_in_function (abs s) (baseReg_abs h) as ps n [] (.assign n .global v loc)
    (·.assign v loc) _ (fun _ ho => nomatch ho) rfl rfl
  exact ⟨_, by rw [get_run h]; exact hw, assign_value w v loc⟩

theorem observeT_refines (s : VariableSet) (h : Norm s) (rs : String) (names : List Name) :
    observeMT s rs names = observeST (abs s) rs names := by
  unfold observeMT observeST
  have e1 : s.getScalar = (abs s).getScalar := funext fun n => getScalar_refines s h n
  have e2 : s.get = lookup (abs s) := funext fun n => get_refines _ h n
  have e3 : s.getScoped = (abs s).getScoped := funext fun n => funext fun sc => getScoped_refines _ h n sc
  have e4 : (fun sc => s.iter sc names) = fun sc => (abs s).iter sc names :=
    funext fun sc => iter_refines s h sc names
  rw [e1, e2, e3, e4, env_refines s h, positionalParams_refines]

theorem observe_refines (s : VariableSet) (h : Norm s) (r : Res) (names : List Name) :
    observeM s r names = observeS (abs s) r names :=
  observeT_refines s h (showRes r) names

theorem init_refines (s : VariableSet) (h : Norm s) : abs s.init = (abs s).init ∧ Norm s.init :=
  run_abs_from h theInitOps

theorem unwind_trace_refines (names : List Name) (k : Nat) (s : VariableSet) (h : Norm s) :
    (unwindGo names k s (abs s)).1 = (unwindGo names k s (abs s)).2 := by
  induction k generalizing s with
  | zero => rfl
  | succ k ih =>
    have h1 := step_abs h .pop
    simp only [unwindGo]
    rw [← h1.1, ← observeT_refines _ h1.2.2, ih _ h1.2.2]

/-- ★ end to end, API leg: for every history of the case language (any length, any names;
    operations, `extend_env`, `init`, `expand` at any location, and the final unwinding of the
    contexts) the driver's model column and Spec column are the same text — so `impl = model` on a
    case is `impl = stack of maps` on that case -/
theorem history_trace_refines (names : List Name) (items : List Item) :
    (historyGo names VariableSet.new SSet.new items [] []).1 =
    (historyGo names VariableSet.new SSet.new items [] []).2 := by
  have : ∀ (items : List Item) (s : VariableSet) (acc : List String), Norm s →
      (historyGo names s (abs s) items acc acc).1 = (historyGo names s (abs s) items acc acc).2 := by
    intro items
    induction items with
    | nil =>
      intro s acc hs
      simp only [historyGo]
      rw [unwind_trace_refines names _ s hs]
    | cons it rest ih =>
      intro s acc hs
      cases it with
      | op op =>
        have h1 := step_abs hs op
        simp only [historyGo]
        rw [← h1.1, ← h1.2.1, ← observe_refines _ h1.2.2]
        exact ih _ _ h1.2.2
      | ee n v =>
        have h1 := extendEnv_refines [(n, v)] s hs
        simp only [VariableSet.extendEnv, SSet.extendEnv] at h1
        simp only [historyGo]
        rw [← h1.1, ← observe_refines _ h1.2]
        exact ih _ _ h1.2
      | init =>
        have h1 := init_refines s hs
        simp only [historyGo]
        rw [← h1.1, ← observe_refines _ h1.2]
        exact ih _ _ h1.2
      | xp n l =>
        simp only [historyGo]
        rw [← observeT_refines _ hs, get_refines _ hs n]
        exact ih _ _ hs
  rw [← abs_new]
  exact this items _ _ norm_init

/-- ★ end to end, script leg: for every program of the statement language (any functions, any
    nesting, any fuel) the interpreter prints the same lines and ends the same way on the Rust
    model as on the stack of maps, and the final states correspond -/
theorem script_trace_refines (funs : List (String × List Stmt)) (fuel : Nat) (stmts : List Stmt) :
    (execStmts ifaceM funs fuel VariableSet.new stmts []).2 = (execStmts ifaceS funs fuel SSet.new stmts []).2 ∧
    abs (execStmts ifaceM funs fuel VariableSet.new stmts []).1 = (execStmts ifaceS funs fuel SSet.new stmts []).1 := by
  have := execStmts_sim simM funs fuel VariableSet.new SSet.new stmts [] ⟨norm_init, abs_new⟩
  exact ⟨this.2, this.1.2⟩

/-- `lookup` is "the topmost context that defines the name": it returns `v` iff some context holds
    `v` for the name and no context above it defines the name -/
theorem lookup_spec (X : SSet) (n : Name) (v : Variable) :
    lookup X n = some v ↔
      ∃ (i : Nat) (c : SCtx), X[i]? = some c ∧ c.vars n = some v ∧
        ∀ (j : Nat) (d : SCtx), j < i → X[j]? = some d → d.vars n = none := by
  induction X with
  | nil => simp [lookup]
  | cons c X ih =>
    simp only [lookup]
    cases hc : c.vars n with
    | some w =>
      constructor
      · intro h; cases h
        exact ⟨0, c, rfl, hc, fun j d hj => by omega⟩
      · rintro ⟨i, d, hi, hv, hab⟩
        cases i with
        | zero => simp at hi; subst hi; rw [hc] at hv; exact hv
        | succ i => have := hab 0 c (by omega) rfl; rw [hc] at this; cases this
    | none =>
      rw [ih]
      constructor
      · rintro ⟨i, d, hi, hv, hab⟩
        refine ⟨i + 1, d, by simpa using hi, hv, ?_⟩
        intro j e hj he
        cases j with
        | zero => simp at he; subst he; exact hc
        | succ j => exact hab j e (by omega) (by simpa using he)
      · rintro ⟨i, d, hi, hv, hab⟩
        cases i with
        | zero => simp at hi; subst hi; rw [hc] at hv; cases hv
        | succ i =>
          exact ⟨i, d, by simpa using hi, hv, fun j e hj he => hab (j + 1) e (by omega) (by simpa using he)⟩

/-- `eraseTop n k` removes the name from exactly the first `k` contexts and nothing else -/
theorem eraseTop_spec (n : Name) (k : Nat) (X : SSet) (i : Nat) (c : SCtx) (hi : X[i]? = some c) :
    ∃ d, (eraseTop n k X)[i]? = some d ∧ d.kind = c.kind ∧
      ∀ m, d.vars m = if m = n ∧ i < k then none else c.vars m := by
  induction X generalizing k i with
  | nil => simp at hi
  | cons e X ih =>
    cases k with
    | zero => exact ⟨c, by simpa [eraseTop] using hi, rfl, fun m => by simp⟩
    | succ k =>
      cases i with
      | zero =>
        simp at hi; subst hi
        exact ⟨e.set n none, by simp [eraseTop], rfl, fun m => by by_cases hm : m = n <;> simp [SCtx.set, hm]⟩
      | succ i =>
        obtain ⟨d, hd, hk, hv⟩ := ih k i (by simpa using hi)
        exact ⟨d, by simpa [eraseTop] using hd, hk, fun m => by rw [hv m]; simp⟩

/-- ★ a local declared in a function (`typeset NAME`, i.e. `get_or_new(NAME, Local)`) is a fresh
    variable — no value, not exported, not read-only — whatever temporary assignments the call
    carried and whatever the outer contexts hold; the temporary variable stays where it is and is
    visible again once the local's context is popped.  (A `get_or_new(Local)` that re-homed
    the temporary into the local would contradict this.) -/
theorem local_declaration_is_fresh (s : VariableSet) (h : Norm s) (as : List (Name × Value))
    (ps : List String) (n : Name) :
    let inside := s.run (enterFunction as ps)
    (inside.step (.getOrNew n .loc)).1.get n = some {} ∧
    ((inside.step (.getOrNew n .loc)).1.step .pop).1.get n = (inside.step .pop).1.get n := by
  intro inside
  obtain ⟨ha, hN⟩ := run_abs_from h (enterFunction as ps)
  obtain ⟨cV, hin, hk, _⟩ := spec_enter_function (abs s) as ps
  have habs : abs inside = ⟨.regular ps, fun _ => none⟩ :: cV :: abs s := by rw [ha]; exact hin
  have h1 := step_abs hN (.getOrNew n .loc)
  have hstep : ((abs inside).step (.getOrNew n .loc)).1
      = (⟨.regular ps, fun _ => none⟩ : SCtx).set n (some {}) :: cV :: abs s := by
    rw [habs]; simp [SSet.step, SSet.getOrNew, lower, Context.isRegular]
  refine ⟨?_, ?_⟩
  · rw [get_refines _ h1.2.2, h1.1, hstep]; simp [lookup, SCtx.set]
  · have h2 := step_abs h1.2.2 .pop
    have h3 := step_abs hN .pop
    rw [get_refines _ h2.2.2, h2.1, h1.1, hstep, get_refines _ h3.2.2, h3.1, habs]
    rfl

/-- ★ `readonly_builtin_is_global`: `readonly NAME` / `readonly NAME=VALUE` executed in a function
    body (called with any temporary assignments and arguments, from any normalised set — i.e. at any
    nesting depth) acts at `Global` scope: after the function has returned, the variable visible
    under NAME is read-only.  (With `Local` scope the mark would be put on a
    fresh local and vanish with it.) -/
theorem readonly_builtin_is_global (s : VariableSet) (h : Norm s) (as : List (Name × Value))
    (ps : List String) (n : Name) (ov : Option Value) (loc : Nat) :
    ∃ u, (s.run (functionCmd as ps (readonlyOps n ov loc))).get n = some u ∧ u.isReadOnly = true := by
  have : ∃ w : Variable, lookup (SSet.run (abs s) (functionCmd as ps (readonlyOps n ov loc))) n
      = some (w.makeReadOnly loc) := by
    -- what precedes the mark is one `Global`-scope access to `n`
    have hpre : ∀ pre : List Op, (pre = [.getOrNew n .global] ∨ ∃ v, pre = [.assign n .global v none]) →
        ∀ o ∈ pre, o.name? = some n ∧ ∃ g r, o.write? = some (.global, g, r) := by
      rintro _ (rfl | ⟨v, rfl⟩) o ho <;> (simp only [List.mem_singleton] at ho; subst ho; exact ⟨rfl, _, _, rfl⟩)
    cases ov with
    | none =>
      exact spec_modify_in_function _ (baseReg_abs h) as ps n [.getOrNew n .global] (.readonly n .global loc) _ _
        (hpre _ (Or.inl rfl)) rfl rfl
    | some v =>
      exact spec_modify_in_function _ (baseReg_abs h) as ps n [.assign n .global v none] (.readonly n .global loc) _ _
        (hpre _ (Or.inr ⟨v, rfl⟩)) rfl rfl
  obtain ⟨w, hw⟩ := this
  exact ⟨_, by rw [get_run h]; exact hw, by simp [Variable.makeReadOnly, Variable.isReadOnly]⟩

theorem pops_keep_nil (s : VariableSet) (n : Name) (hs : s.top n = []) (k : Nat) :
    ((s.run (List.replicate k Op.pop)).top n) = [] := by
  induction k generalizing s with
  | zero => exact hs
  | succ k ih => exact ih s.popContext (by rw [(pop_top_length s n).1, hs]; split <;> rfl)

/-- ★ `unset_builtin_removes_all_visible`: when `unset NAME` (`Global` scope, as the built-in uses)
    succeeds, no context holds NAME any more — whichever contexts defined it (temporary, local,
    outer locals, global): NAME is not found now, nor after returning from any number of enclosing
    functions / commands -/
theorem unset_builtin_removes_all_visible (s : VariableSet) (n : Name) (old : Option Variable)
    (h : (s.step (.unset n .global)).2 = .unset old) (k : Nat) :
    (s.step (.unset n .global)).1.all n = [] ∧
    (((s.step (.unset n .global)).1.run (List.replicate k Op.pop)).get n) = none := by
  have hnil : (s.step (.unset n .global)).1.all n = [] := by
    have hp : partitionPoint (fun vic : VIC => decide (vic.ctx < indexOfContext .global s.contexts)) (s.all n) = 0 := by
      unfold partitionPoint; cases s.all n <;> simp [indexOfContext]
    simp only [VariableSet.step, VariableSet.unset, hp, List.drop_zero, List.take_zero] at h ⊢
    cases hf : (s.all n).reverse.find? (fun vic => vic.var.isReadOnly) with
    | some vic => rw [hf] at h; cases h
    | none => simp [VariableSet.setStack]
  refine ⟨hnil, ?_⟩
  rw [get_top, pops_keep_nil _ n (by simp [VariableSet.top, hnil]) k]; rfl

/-- ★ `unset` (any scope) is refused as soon as one instance within the scope is read-only, and then
    changes nothing (the model-level form of `spec_unset_touching_readonly_fails`) -/
theorem unset_touching_readonly_refused (s : VariableSet) (h : Norm s) (n : Name) (scope : Scope) (e : VIC)
    (he : e ∈ s.all n) (hin : indexOfContext scope s.contexts ≤ e.ctx) (hro : e.var.isReadOnly = true) :
    ∃ l, s.unset n scope = (s, .readOnly l) := by
  have hmem : e ∈ (s.top n).takeWhile (fun v => decide (indexOfContext scope s.contexts ≤ v.ctx)) :=
    mem_takeWhile_of_dec _ _ _ (h.dec n) e (mem_top.2 he) hin
  rw [unset_top h n scope]
  cases hf : ((s.top n).takeWhile _).find? (fun v => v.var.isReadOnly) with
  | some vic => exact ⟨_, rfl⟩
  | none => exact absurd hro (by simpa using List.find?_eq_none.mp hf e hmem)

/-- ★ `temporary_assignment_scope`: for a call `others… NAME=VALUE f args…` from any normalised set,
    inside the function (1) NAME is visible, exported, and has VALUE unless it was read-only;
    (2) it is in the environment of every command the function runs (a further volatile context on
    top does not hide it); and (3), by `function_call_lifetime`, it is gone after the return even if
    the body declares a local of the same name (`get_or_new(Local)` does not touch the volatile
    context *below* the function's regular context) -/
theorem temporary_assignment_scope (s : VariableSet) (h : Norm s) (others : List (Name × Value))
    (n : Name) (v : Value) (ps : List String) :
    let inside := s.run (enterFunction (others ++ [(n, v)]) ps)
    (∃ u, inside.get n = some u ∧ u.exported = true ∧ (u.isReadOnly = false → u.value = some v)) ∧
    (∀ names, n ∈ names → (∀ u, inside.get n = some u → u.isReadOnly = false) →
      n.toList.any (· == '=') = false → hasNul n = false → hasNul (valueString v) = false →
      (n, valueString v) ∈ (inside.pushContext .volatile).env names) ∧
    (s.run (functionCmd (others ++ [(n, v)]) ps [.getOrNew n .loc])).get n = s.get n := by
  intro inside
  obtain ⟨ha, hN⟩ := run_abs_from h (enterFunction (others ++ [(n, v)]) ps)
  obtain ⟨u, hu, hx, hv⟩ := spec_temp_visible (abs s) others n v ps
  have hget : inside.get n = some u := by rw [get_refines _ hN, ha]; exact hu
  refine ⟨⟨u, hget, hx, hv⟩, ?_, ?_⟩
  · intro names hn hnro h1 h2 h3
    have hNp := (push_abs hN .volatile).2
    rw [env_exact _ hNp]
    refine ⟨hn, u, ?_, hx, ⟨v, hv (hnro u hget), rfl⟩, h1, h2, h3⟩
    rw [(push_abs hN .volatile).1, lookup_push, ← get_refines _ hN]; exact hget
  · exact (function_call_lifetime s h _ ps [.getOrNew n .loc] (by intro op hop; simp at hop; subst hop; rfl)).2.1 n

/-- the set after `x=1` -/
def lt0 : VariableSet := VariableSet.new.run [.assign "x" .global (.scalar "1") none]

-- non-vacuity: inside the command the temporary assignment *is* visible and exported; after a regular
-- command it is gone, after a special one it stays; a function's local and positional parameters vanish
-- while its global assignment stays (and, having passed through the exported temporary variable, stays
-- exported)
example : (lt0.run ([Op.push .volatile] ++ tempOps [("x", .scalar "T")])).env ["x"] = [("x", "T")] := by decide +kernel
example : (lt0.run (regularCmd [("x", .scalar "T")] [])).get "x" = some { value := some (.scalar "1") } := by decide +kernel
example : ((lt0.run (specialCmd [("x", .scalar "T")] [])).get "x").map (·.value) = some (some (.scalar "T")) := by
  decide +kernel
example : (lt0.run (functionCmd [("x", .scalar "T")] ["a"]
    [.assign "y" .loc (.scalar "5") none, .setParams ["b", "c"]])).get "y" = none := by decide +kernel
example : (lt0.run (functionCmd [("x", .scalar "T")] ["a"] [.assign "x" .global (.scalar "3") none])).get "x"
    = some { value := some (.scalar "3"), exported := true } := by decide +kernel

example : ((lt0.run (enterFunction [("x", .scalar "T")] ["a"])).step (.getOrNew "x" .loc)).1.get "x" = some {} := by
  decide +kernel
example : (((lt0.run (enterFunction [("x", .scalar "T")] ["a"])).step (.getOrNew "x" .loc)).1.step .pop).1.get "x"
    = some { value := some (.scalar "T"), exported := true } := by decide +kernel

/-- non-vacuity of the built-in level clauses: `f() { readonly x; }`, `f() { unset x; }` and a
    temporary `x=T` seen from inside `f` -/
example : ((lt0.run (functionCmd [] [] (readonlyOps "x" none 7))).get "x")
    = some { value := some (.scalar "1"), readOnly := some 7 } := by decide +kernel
example : ((lt0.run (functionCmd [("x", .scalar "T")] [] [.getOrNew "x" .loc, .unset "x" .global])).get "x") = none := by
  decide +kernel
example : ((lt0.run (enterFunction [("x", .scalar "T")] ["a"])).env ["x"]) = [("x", "T")] := by decide +kernel
example : ((lt0.run (functionCmd [("x", .scalar "T")] ["a"] [.getOrNew "x" .loc])).get "x")
    = some { value := some (.scalar "1") } := by decide +kernel

/-- ★ `prefix_left_to_right`: the value of assignment i+1 of a prefix is expanded in the state the
    assignments 1…i have produced (and the first refusal ends the prefix) — for every state
    implementation, scope and export flag -/
theorem prefix_left_to_right {σ : Type} (I : Iface σ) (sc : Scope) (ex : Bool) (s : σ)
    (as : List (Name × AVal)) (n : Name) (e : AVal) :
    runAssigns I sc ex s (as ++ [(n, e)]) =
      match runAssigns I sc ex s as with
      | (s', true) => (s', true)
      | (s', false) => runOps I s' (assignOps sc ex n (evalA I s' e)) := by
  induction as generalizing s with
  | nil =>
    simp only [List.nil_append, runAssigns]
    cases runOps I s (assignOps sc ex n (evalA I s e)) with
    | mk s' b => cases b <;> rfl
  | cons p rest ih =>
    obtain ⟨m, f⟩ := p
    simp only [List.cons_append, runAssigns]
    cases runOps I s (assignOps sc ex m (evalA I s f)) with
    | mk s' b =>
      cases b
      · exact ih s'
      · rfl

theorem valueOfVar_scalar (u : Variable) (x : String) (h : u.value = some (.scalar x)) :
    valueOfVar (some u) = .scalar x := by
  cases u with
  | mk value la exp ro qk => simp only at h; subst h; rfl

/-- ★ `prefix_sees_earlier_assignment`: in `a=X b=$a cmd` the lookup of `$a` is answered by the
    `a=X` just assigned — `b` ends up with the value `X` — both for a command-less command or special
    built-in (`Global` scope) and for a regular built-in / function / external (`Volatile` scope with
    export, in the command's volatile context).  An "expand all values first, then assign"
    implementation gives `b` the old value of `a` and contradicts this. -/
theorem prefix_sees_earlier_assignment (s : VariableSet) (h : Norm s) (sc : Scope) (ex : Bool)
    (hsc : sc = .global ∨ (sc = .volatile ∧ TopVol s)) (a b : Name) (x : String) (s2 : VariableSet)
    (hrun : runAssigns ifaceM sc ex s [(a, .lit (.scalar x)), (b, .ref a)] = (s2, false)) :
    ∃ u, s2.get b = some u ∧ u.value = some (.scalar x) := by
  have hgo : ∀ s' : VariableSet, s'.contexts = s.contexts → ∀ m, (s'.getOrNew m sc).isSome = true := fun s' hc m => by
    rw [getOrNew_isSome, hc]
    rcases hsc with rfl | ⟨rfl, ht⟩
    · rfl
    · simp [topVol_isVolatileAt ht]
  simp only [runAssigns, evalA] at hrun
  have hv1 := assignOps_value h sc ex a (.scalar x) (hgo s rfl a)
  have hI := runOps_inv (P := fun s' => Norm s' ∧ s'.contexts = s.contexts) (assignOps sc ex a (.scalar x))
    (fun s' op hop ⟨hN, hc⟩ => ⟨norm_preserved _ op hN, ((step_frame s' op a (assignOps_mem hop).1).2).trans hc⟩) s ⟨h, rfl⟩
  cases h1 : runOps ifaceM s (assignOps sc ex a (.scalar x)) with
  | mk s1 b1 =>
    rw [h1] at hrun hv1 hI
    cases b1 with
    | true => simp at hrun
    | false =>
      simp only at hrun hv1 hI
      obtain ⟨u, hu, huv⟩ := hv1 trivial
      have hev : valueOfVar (ifaceM.get s1 a) = .scalar x := by
        show valueOfVar (s1.get a) = _
        rw [hu]; exact valueOfVar_scalar u x huv
      rw [hev] at hrun
      have hv2 := assignOps_value hI.1 sc ex b (.scalar x) (hgo s1 hI.2 b)
      cases h2 : runOps ifaceM s1 (assignOps sc ex b (.scalar x)) with
      | mk s3 b3 =>
        rw [h2] at hrun hv2
        cases b3 with
        | true => simp at hrun
        | false =>
          simp only [Prod.mk.injEq, and_true] at hrun
          subst hrun
          exact hv2 rfl

/-- ★ `temporary_assignment_lifetime` for prefixes whose values refer to variables (`a=1 b=$a cmd`):
    whatever the prefix — references to earlier assignments included, refused half-way or not —
    the set is what it was before once the command's volatile context is popped -/
theorem temporary_prefix_lifetime (s : VariableSet) (h : Norm s) (temps : List (Name × AVal)) :
    abs ((runAssigns ifaceM .volatile true (s.step (.push .volatile)).1 temps).1.step .pop).1 = abs s ∧
    ∀ n, ((runAssigns ifaceM .volatile true (s.step (.push .volatile)).1 temps).1.step .pop).1.get n = s.get n := by
  have hA := runAssigns_inv (P := Above (fun _ => True) s [.volatile]) .volatile true
    (fun s' n v op hop hA => above_named hA (by simp) op n (assignOps_mem hop).1
      (fun _ => by rw [(topOp_noEscape _ op (Or.inl ((assignOps_mem hop).2 rfl)) []).2.1]; exact fun e => nomatch e))
    temps _ (above_push h .volatile)
  rw [eq_of_top_contexts (above_pop h hA)]
  exact ⟨rfl, fun _ => rfl⟩

/-- non-vacuity: `a=1; a=2 b=$a cmd` — inside the command `b` is 2 (not the outer 1), exported -/
example : ((runAssigns ifaceM .volatile true (lt0.step (.push .volatile)).1
      [("x", .lit (.scalar "2")), ("y", .ref "x")]).1.env ["x", "y"]) = [("x", "2"), ("y", "2")] := by decide +kernel
example : ((runAssigns ifaceM .global false lt0 [("x", .lit (.scalar "2")), ("y", .ref "x")]).1.get "y")
    = some { value := some (.scalar "2") } := by decide +kernel

open YashModel.Generated in
/-- the operations `VariableSet.init` runs are exactly those the tables extracted from `fn init`
    describe (scope of the loop, name / scope / quirk of the `set_quirk` call) -/
theorem init_tables_match : initOpsOfTables = some theInitOps := by rfl

open YashModel.Generated in
/-- the `VARIABLES` table of `fn init` (re-extracted from /repo on every run) is the list of
    initial values POSIX prescribes, and the variable that gets the line-number quirk is `LINENO` -/
theorem init_table_is_posix :
    VariableTables.initVariables = posixInitialValues ∧
    VariableTables.initQuirkName = posixLineNumberVariable := by decide +kernel

open YashModel.Generated in
theorem initNames_nodup :
    (VariableTables.initVariables.map (·.1) ++ [VariableTables.initQuirkName]).Nodup := by decide +kernel

/-- ★ `init_spec`: after `VariableSet::init` on any normalised set (1) every variable POSIX gives an
    initial value has it, unless it was read-only ("ignores any assignment errors"); (2) the stack of
    every other name, and the contexts, are untouched; (3) started with only the base context (as the
    shell does), `LINENO` is a single instance in the base context carrying the line-number quirk -/
theorem init_spec (s : VariableSet) (h : Norm s) :
    (∀ n v, (n, v) ∈ posixInitialValues →
      ∃ u, s.init.get n = some u ∧ (u.isReadOnly = false → u.value = some (.scalar v))) ∧
    (∀ n, n ∉ initNames → s.init.all n = s.all n) ∧
    s.init.contexts = s.contexts ∧
    (s.contexts.length = 1 →
      ∃ u, s.init.all posixLineNumberVariable = [⟨u, 0⟩] ∧ u.quirk = some .lineNumber) := by
  refine ⟨?_, ?_, ?_, ?_⟩
  · intro n v hin
    rw [← init_table_is_posix.1] at hin
    exact initOps_values _ _ initNames_nodup s h n v hin
  · intro n hn
    exact (initOps_frame _ _ s n hn).1
  · exact initOps_contexts _ _ s
  · intro h1
    rw [← init_table_is_posix.2]
    exact initOps_lineno _ _ s h h1

/-- ★ `lineno_expands_to_line`: start the shell's variable set (`init` on a set with only the base
    context), then run *any* history that does not name `LINENO` — other variables in any scope,
    function calls, temporary assignments, `set --`: expanding `$LINENO` at a location yields the
    decimal line number of that location -/
theorem lineno_expands_to_line (s : VariableSet) (h : Norm s) (h1 : s.contexts.length = 1) (ops : List Op)
    (hops : ∀ op ∈ ops, op.name? ≠ some posixLineNumberVariable) (loc : Loc) :
    ((s.init.run ops).get posixLineNumberVariable).map (·.expand loc) =
      some (.scalar (toString loc.line)) := by
  have h0 : LinenoOK s.init posixLineNumberVariable := by
    have := initOps_lineno YashModel.Generated.VariableTables.initVariables
      YashModel.Generated.VariableTables.initQuirkName s h h1
    rw [init_table_is_posix.2] at this
    exact this
  obtain ⟨u, hu, hq⟩ := linenoOK_run ops _ _ h0 hops
  simp [VariableSet.get, hu, Variable.expand, hq]

/-- ★ which line that is: for a variable with the line-number quirk, expanded at the position that
    follows the text `pre` in a code whose first line has number `start` — directly or through any
    chain of alias substitutions — the result is `start` plus the number of newlines in `pre`,
    whatever value the variable holds -/
theorem expand_line_spec (v : Variable) (hq : v.quirk = some .lineNumber) (start : Nat) (pre post : List Char)
    (segs : List (Nat × String × Nat)) :
    v.expand ((Loc.plain start (String.ofList (pre ++ post)) pre.length).wrap segs) =
      .scalar (toString (start + (pre.filter (· == '\n')).length)) := by
  simp only [Variable.expand, hq, line_wrap, Loc.line, lineNumber_append]

/-- … and a variable without a quirk expands to its value (unset → `Unset`) -/
theorem expand_plain (v : Variable) (hq : v.quirk = none) (loc : Loc) :
    v.expand loc = Expansion.ofValue v.value := by
  simp [Variable.expand, hq]

/-- non-vacuity and the interplay of the quirk with scoping, as the code has it: after `init`
    `$LINENO` at (line 3, after two newlines) is `5`; `LINENO=7` keeps the quirk (the `TODO Apply quirk`
    of `assign_impl`): the expansion is still the line number while an exported `LINENO` passes `7`
    to programs; a temporary assignment clones the quirk into the volatile context; `typeset LINENO`
    in a function declares a fresh local without quirk and without value; `unset LINENO` removes it -/
example : ((VariableSet.new.init.get "LINENO").map (·.expand obsLoc)) = some (.scalar "5") := by decide +kernel
example : (VariableSet.new.init.get "IFS") = some { value := some (.scalar " \t\n") } := by decide +kernel
example : (((VariableSet.new.init.run [.assign "LINENO" .global (.scalar "7") none,
      .export "LINENO" .global true]).get "LINENO").map (·.expand obsLoc)) = some (.scalar "5") := by decide +kernel
example : ((VariableSet.new.init.run [.assign "LINENO" .global (.scalar "7") none,
      .export "LINENO" .global true]).env ["LINENO"]) = [("LINENO", "7")] := by decide +kernel
example : (((VariableSet.new.init.run [.push .volatile, .assign "LINENO" .volatile (.scalar "7") none]).get
      "LINENO").map (·.quirk)) = some (some .lineNumber) := by decide +kernel
example : (((VariableSet.new.init.run (enterFunction [] [] ++ [.getOrNew "LINENO" .loc])).get
      "LINENO").map (·.expand obsLoc)) = some .unset := by decide +kernel
example : ((VariableSet.new.init.run [.unset "LINENO" .global]).get "LINENO") = none := by decide +kernel
example : ∀ op ∈ [Op.assign "x" .global (.scalar "1") none, .push .volatile, .pop], op.name? ≠ some "LINENO" := by
  decide +kernel

/-- ★ audit of the totalised definitions: in a normalised set none of the defaults that stand in for
    a Rust panic is ever taken — `index_of_topmost_regular_context` finds a regular context (the
    `.expect`), so do `positional_params`; every context index stored in a stack is in range (the
    indexing `self.contexts[var.context_index]` of `get_or_new_impl`); and the variable `get_or_new`
    hands out exists (`stack.last_mut().unwrap()`), so `assignRes`'s default variable is never used.
    Not among the four: the `getD 0` of a refused `unset` (the instance `find?` returned is read-only, so
    it has a location), and `popContext` with only the base context — a no-op here, `assert_ne!` in Rust,
    where only the guards of `push_context` pop; a history of `Op`s may contain it -/
theorem defaults_unreachable (s : VariableSet) (h : Norm s) :
    (rposition Context.isRegular s.contexts).isSome = true ∧
    (∃ ps, (s.contexts.reverse.findSome? fun c => match c with
      | .regular ps => some ps
      | .volatile => none) = some ps) ∧
    (∀ n v, v ∈ s.all n → (s.contexts[v.ctx]?).isSome = true) ∧
    (∀ n sc s1, s.getOrNew n sc = some s1 → (s1.get n).isSome = true) := by
  obtain ⟨ps, t, hc⟩ := h.base
  refine ⟨?_, ?_, ?_, ?_⟩
  · rw [hc]; exact rposition_isSome_of_head _ _ _ rfl
  · rw [hc, List.reverse_cons, List.findSome?_append]
    cases List.findSome? _ t.reverse <;> exact ⟨_, rfl⟩
  · intro n v hv
    have := h.bounded n v hv
    simp [this]
  · intro n sc s1 hg
    obtain ⟨w, st, rfl, _⟩ := getOrNew_setTop hg
    rw [get_setTop_cons]; rfl

theorem assignOps_flatMap (as : List (Name × Value)) :
    as.flatMap (fun p => assignOps .volatile true p.1 p.2) = tempOps as ∧
    as.flatMap (fun p => assignOps .global false p.1 p.2) = globalOps as := by
  induction as with
  | nil => exact ⟨rfl, rfl⟩
  | cons p as ih => obtain ⟨n, v⟩ := p; simp_all [tempOps, globalOps, assignOps, List.flatMap_cons]

theorem commandTable_rows :
    (∀ k ∈ ["execute_builtin_special", "execute_absent_target"],
      Generated.VariableTables.commandTable.lookup k = some (false, false)) ∧
    (∀ k ∈ ["execute_builtin_other", "execute_external_utility", "execute_function"],
      Generated.VariableTables.commandTable.lookup k = some (true, true)) := by decide +kernel

/-- ★ `exec_tables_match`: the command table re-extracted on every run from yash-semantics
    (`perform_assignments`: `export → Volatile`, else `Global`; `execute_builtin`: special → no
    context, `export = false`, any other type → volatile context, `export = true`;
    `execute_function` / `execute_external_utility`: volatile context, `true`;
    `execute_absent_target`: no context, `false`) yields exactly the compilation of `Exec.lean`
    over which the lifetime theorems are stated -/
theorem exec_tables_match (as : List (Name × Value)) (ps : List String) (body : List Op) :
    (∀ k ∈ ["execute_builtin_special", "execute_absent_target"], ∃ pre post,
      prefixOfKind k as = some pre ∧ popsOfKind k = some post ∧ pre ++ body ++ post = specialCmd as body) ∧
    (∀ k ∈ ["execute_builtin_other", "execute_external_utility"], ∃ pre post,
      prefixOfKind k as = some pre ∧ popsOfKind k = some post ∧ pre ++ body ++ post = regularCmd as body) ∧
    (∃ pre post, prefixOfKind "execute_function" as = some pre ∧ popsOfKind "execute_function" = some post ∧
      pre ++ [Op.push (.regular ps)] ++ body ++ [Op.pop] ++ post = functionCmd as ps body) := by
  obtain ⟨hS, hR⟩ := commandTable_rows
  have hs : ∀ k ∈ ["execute_builtin_special", "execute_absent_target"],
      prefixOfKind k as = some ([] ++ as.flatMap (fun p => assignOps .global false p.1 p.2)) ∧
      popsOfKind k = some [] := fun k hk => by
    simp only [prefixOfKind, popsOfKind, hS k hk]; exact ⟨rfl, rfl⟩
  have hr : ∀ k ∈ ["execute_builtin_other", "execute_external_utility", "execute_function"],
      prefixOfKind k as = some ([Op.push .volatile] ++ as.flatMap (fun p => assignOps .volatile true p.1 p.2)) ∧
      popsOfKind k = some [Op.pop] := fun k hk => by
    simp only [prefixOfKind, popsOfKind, hR k hk]; exact ⟨rfl, rfl⟩
  refine ⟨?_, ?_, ?_⟩
  · intro k hk
    obtain ⟨h1, h2⟩ := hs k hk
    exact ⟨_, _, h1, h2, by simp [(assignOps_flatMap as).2, specialCmd]⟩
  · intro k hk
    obtain ⟨h1, h2⟩ := hr k (by
      simp only [List.mem_cons, List.not_mem_nil, or_false] at hk ⊢
      rcases hk with rfl | rfl <;> simp)
    exact ⟨_, _, h1, h2, by simp [(assignOps_flatMap as).1, regularCmd]⟩
  · obtain ⟨h1, h2⟩ := hr "execute_function" (by simp)
    exact ⟨_, _, h1, h2, by simp [(assignOps_flatMap as).1, functionCmd]⟩

/-- ★ `function_call_frame`: a function call with
    *any* body — accesses in every scope mixed at will, nested commands and function calls (any
    pushes, as long as every pushed context is popped again, which the RAII guards guarantee),
    `set --`, refused operations — and any temporary assignments and arguments, from any normalised
    set.  For every name the body never accesses at `Global` scope (a semantic condition on the
    body, not a syntactic class of bodies): after the call the variable is what it was — the visible
    one, the one each scope sees, its environment entry, and every hidden instance (whatever is
    visible after returning from any number of enclosing contexts); the contexts and all positional
    parameters are what they were.  Temporaries and locals of such names vanish at return. -/
theorem function_call_frame (s : VariableSet) (h : Norm s) (as : List (Name × Value)) (ps : List String)
    (body : List Op) (hbal : balanced 0 body = true) (N : Name → Prop)
    (hN : ∀ op ∈ body, ∀ m, op.globalName? = some m → ¬ N m) :
    (∀ n, N n → (s.run (functionCmd as ps body)).get n = s.get n ∧
      (∀ sc, (s.run (functionCmd as ps body)).getScoped n sc = s.getScoped n sc) ∧
      (s.run (functionCmd as ps body)).env [n] = s.env [n] ∧
      ∀ k, ((s.run (functionCmd as ps body)).run (List.replicate k Op.pop)).get n =
        (s.run (List.replicate k Op.pop)).get n) ∧
    (s.run (functionCmd as ps body)).contexts = s.contexts ∧
    (s.run (functionCmd as ps body)).positionalParams = s.positionalParams :=
  frame_clauses (function_frame s h as ps body N (frameOK_of_balanced N body [] hbal hN))

/-- ★ `getOrNew_spec`: the Spec's `get_or_new` walk (`lower`), declaratively, for `Global` and `Local`:
    (1) the variable handed out is exactly the one that was visible within the scope — wherever it
    was, a volatile context included — or a fresh default one if there was none; (2) no other name is
    touched in any context and no context changes kind (so positional parameters stay); with
    `getOrNew_refines` the same holds for the Rust structure's `get_or_new_impl` loop -/
theorem getOrNew_spec (X : SSet) (hB : BaseReg X) (n : Name) :
    lookup (lower n true X none) n = some ((lookup X n).getD {}) ∧
    lookup (lower n false X none) n = some ((X.getScoped n .loc).getD {}) ∧
    (∀ tb, Agree (· ≠ n) X (lower n tb X none)) := by
  exact ⟨lookup_lower_global n X hB none, lookup_lower n false X hB none, fun tb => lower_agree n tb X none⟩

/-- non-vacuity: a temporary `x=T` above a function's regular context above a global `x=1`:
    `Global` hands out the temporary (carried down), `Local` a fresh local -/
example : lookup (lower "x" true (SSet.run SSet.new
      (Op.assign "x" .global (.scalar "1") none :: enterFunction [("x", .scalar "T")] [])) none) "x"
    = some { value := some (.scalar "T"), exported := true } := by decide +kernel
example : lookup (lower "x" false (SSet.run SSet.new
      (Op.assign "x" .global (.scalar "1") none :: enterFunction [("x", .scalar "T")] [])) none) "x"
    = some {} := by decide +kernel

/-- non-vacuity: `x=T f a` with `f() { typeset y=5; z=9; x=3 cmd; set -- b; unset -v y; }` — the body
    mixes Local, Global and Volatile accesses and a nested command; `x` and `y` are never accessed at
    Global scope, `z` is -/
def mixedBody : List Op :=
  [.assign "y" .loc (.scalar "5") none, .assign "z" .global (.scalar "9") none,
   .push .volatile, .assign "x" .volatile (.scalar "3") none, .export "x" .volatile true, .pop,
   .setParams ["b"], .unset "y" .loc]

example : balanced 0 mixedBody = true := by decide +kernel
example : ∀ op ∈ mixedBody, ∀ m, op.globalName? = some m → ¬ (fun n => n = "x" ∨ n = "y") m := by decide +kernel
example : (lt0.run (functionCmd [("x", .scalar "T")] ["a"] mixedBody)).get "x" = lt0.get "x" := by decide +kernel
example : ((lt0.run (functionCmd [("x", .scalar "T")] ["a"] mixedBody)).get "z").map (·.value)
    = some (some (.scalar "9")) := by decide +kernel

/-- ★ `regular_command_frame`:
    a regular built-in, an external utility or a command that is not found, with *any* temporary
    assignments and *any* body admissible for the names `N` (`frameOK N false []`: every context the
    body pushes is popped again; no operation of the body reaches below the command's volatile
    context for a name of `N` — that is, outside a regular context pushed by the body itself, no
    access at `Global` or `Local` scope and no `unset` at `Volatile` scope names it — and `set --`
    happens only inside such a regular context), from any normalised set.  For every name of `N` —
    **whether or not it is among the temporary assignments** — the variable is afterwards what it was:
    the visible one, the one each scope sees, its environment entry and every hidden instance; the
    contexts and all positional parameters are what they were.  The condition is sharp: see the
    examples below (`x=T typeset x` keeps `T`: `get_or_new(Local)` carries the temporary down). -/
theorem regular_command_frame (s : VariableSet) (h : Norm s) (as : List (Name × Value))
    (body : List Op) (N : Name → Prop) (hok : frameOK N false [] body) :
    (∀ n, N n → (s.run (regularCmd as body)).get n = s.get n ∧
      (∀ sc, (s.run (regularCmd as body)).getScoped n sc = s.getScoped n sc) ∧
      (s.run (regularCmd as body)).env [n] = s.env [n] ∧
      ∀ k, ((s.run (regularCmd as body)).run (List.replicate k Op.pop)).get n =
        (s.run (List.replicate k Op.pop)).get n) ∧
    (s.run (regularCmd as body)).contexts = s.contexts ∧
    (s.run (regularCmd as body)).positionalParams = s.positionalParams :=
  frame_clauses (regular_frame s h as body N hok)

/-- ★ `command_frame`: one statement for both kinds of commands that set up a context
    (`base = true`: function call with arguments `ps`; `base = false`: regular built-in / external /
    not found), under the one admissibility condition `frameOK N base []`.  For `base = true` the
    condition is implied by the hypotheses of `function_call_frame` (`frameOK_of_balanced`), so this
    theorem contains that one. -/
theorem command_frame (s : VariableSet) (h : Norm s) (as : List (Name × Value)) (ps : List String)
    (base : Bool) (body : List Op) (N : Name → Prop) (hok : frameOK N base [] body) :
    let cmd := if base then functionCmd as ps body else regularCmd as body
    (∀ n, N n → (s.run cmd).get n = s.get n ∧
      (∀ sc, (s.run cmd).getScoped n sc = s.getScoped n sc) ∧
      (s.run cmd).env [n] = s.env [n] ∧
      ∀ k, ((s.run cmd).run (List.replicate k Op.pop)).get n = (s.run (List.replicate k Op.pop)).get n) ∧
    (s.run cmd).contexts = s.contexts ∧ (s.run cmd).positionalParams = s.positionalParams := by
  cases base with
  | true => exact frame_clauses (function_frame s h as ps body N hok)
  | false => exact frame_clauses (regular_frame s h as body N hok)

/-- ★ `temporary_never_outlives_unless_lowered`: the clause of the statement for one name, in the
    form a user reads it: `n=v cmd` where the running command (whatever it is and does otherwise, to
    other names in any scope, nested commands and function calls included) names `n` only through
    `Volatile`-scope accesses or inside function calls it makes: afterwards `n` is exactly what it was
    before — value, attributes, or absence. -/
theorem temporary_never_outlives_unless_lowered (s : VariableSet) (h : Norm s) (n : Name) (v : Value)
    (others : List (Name × Value)) (body : List Op) (hok : frameOK (· = n) false [] body) :
    (s.run (regularCmd (others ++ [(n, v)]) body)).get n = s.get n ∧
    (s.run (regularCmd (others ++ [(n, v)]) body)).env [n] = s.env [n] :=
  let r := (regular_command_frame s h (others ++ [(n, v)]) body (· = n) hok).1 n rfl
  ⟨r.1, r.2.2.1⟩

/-- non-vacuity: `x=T cmd` whose body declares a local `y` (`Local` scope reaches the context below:
    `y` is not in `N`), assigns the global `z`, exports the temporary again, runs a nested function
    call that has a local `x`, unsets it and does `set --` there -/
def regBody : List Op :=
  [.assign "y" .loc (.scalar "5") none, .assign "z" .global (.scalar "9") none,
   .export "x" .volatile false,
   .push .volatile, .push (.regular ["a"]), .assign "x" .loc (.scalar "3") none, .unset "x" .loc,
   .setParams ["b"], .pop, .pop]

example : frameOK (· = "x") false [] regBody := by
  simp [frameOK, regBody, nextStack, Op.escName, Op.escParams, Context.isRegular]
example : (lt0.run (regularCmd [("x", .scalar "T")] regBody)).get "x" = lt0.get "x" := by decide +kernel
example : ((lt0.run (regularCmd [("x", .scalar "T")] regBody)).get "y").map (·.value)
    = some (some (.scalar "5")) := by decide +kernel

/-- the condition is sharp: each kind of access it excludes does change what is below.
    `x=T typeset x` (a `Local`-scope access from the command's volatile context carries the temporary
    down — the real shell prints `T` for `x=1; x=T typeset -g x; echo $x`), `x=T unset x` at `Volatile`
    scope with a volatile context below, `set --` outside a regular context of the body -/
example : (lt0.run (regularCmd [("x", .scalar "T")] [.getOrNew "x" .loc])).get "x"
    = some { value := some (.scalar "T"), exported := true } := by decide +kernel
example : ((lt0.run [.push .volatile, .assign "x" .volatile (.scalar "V") none]).run
      (regularCmd [] [.unset "x" .volatile])).get "x" = some { value := some (.scalar "1") } := by decide +kernel
example : (lt0.run (regularCmd [] [.setParams ["b"]])).positionalParams = ["b"] := by decide +kernel
example : ¬ frameOK (· = "x") false [] [.getOrNew "x" .loc] := by simp [frameOK, Op.escName]

/-- ★ `global_access_keeps_temporary`: the other side of `regular_command_frame`, for the case it
    excludes.  `n=v cmd` where the regular built-in itself accesses `n` at `Global` scope
    (`n=v typeset -g n`; `read`, `getopts`, `cd` assign this way too): `get_or_new(Global)` takes the
    temporary variable out of the command's volatile context and lowers it, so after the command `n`
    is visible with the temporary value `v` (unless it was read-only) and stays exported.  The real
    shell prints `T` for `x=1; x=T typeset -g x; echo $x`; the script leg generates the family (`TP`). -/
theorem global_access_keeps_temporary (s : VariableSet) (h : Norm s) (n : Name) (v : Value) :
    ∃ u, (s.run (regularCmd [(n, v)] [.getOrNew n .global])).get n = some u ∧ u.exported = true ∧
      (u.isReadOnly = false → u.value = some v) := by
  obtain ⟨w, hw⟩ := spec_global_access_carries_temporary (abs s) (baseReg_abs h) n v
  exact ⟨(w.assign v none).setExport true, by rw [get_run h]; exact hw, rfl, assign_value w v none⟩

example : ((lt0.run (regularCmd [("x", .scalar "T")] [.getOrNew "x" .global])).get "x")
    = some { value := some (.scalar "T"), exported := true } := by decide +kernel

/-- ★ `builtin_tables_match`: the tables re-extracted from yash-builtin on every run — role of every
    option of `ALL_OPTIONS` in `interpret`, its scope choice, `From<Scope>`, the arms of the attribute
    loop of `SetVariables::execute`, the attribute and scope `export`/`readonly` force, the scope of
    `unset_variables`, the types of the built-ins — are exactly what `BuiltinModel.lean` implements
    (a genuinely finite table: `decide`) -/
theorem builtin_tables_match : builtinTablesOk = true := by decide +kernel

def builtinOfStmt : String → Option String
  | "S" => some ":" | "E" | "EX" => some "export" | "R" => some "readonly" | "U" | "UV" => some "unset"
  | "SP" => some "set" | "T" | "L" | "G" => some "typeset" | _ => none

def Action.isSpecial : Action → Bool
  | .special _ _ | .decl _ _ _ | .unsetv _ => true
  | _ => false

/-- ★ `script_builtin_kinds_match`: a statement of the script language is interpreted as a special
    built-in (assignments at `Global` scope, no volatile context, a refusal ends the shell) exactly
    when `BUILTINS` of yash-builtin gives its built-in the type `Special`; `typeset` (`Elective`) is
    interpreted with the volatile context of `execute_builtin`'s other branch -/
theorem script_builtin_kinds_match :
    ["S", "E", "EX", "R", "U", "UV", "SP", "T", "L", "G"].all (fun k =>
      match builtinOfStmt k with
      | none => false
      | some b => (stmtAction ⟨k, ["x"], ["x"]⟩).isSpecial ==
          (Generated.VariableTables.builtinTypes.lookup b == some "Special")) = true := by decide +kernel

/-- ★ `script_typeset_is_execute`: the statement `T` of the script language runs the
    transcribed built-in (`typesetMain` = `interpret` + `SetVariables::execute`) on the option
    occurrences its option strings stand for (`L`, `G`: the two examples below); and the description of `typeset` in `Script.lean` in
    its own words (`typesetField` over option strings, which the theorems `typeset_readonly_immutable`
    etc. are about) is that same function: attributes in option order, `-X` = export off, scope from
    `-g`, split at `=`, `get_or_create_variable` in the converted scope, assignment whose refusal skips
    the attributes, `+r` on a read-only variable an error that skips the rest — for every option
    sequence over -g -r -x -X +x +r, every operand list, on the Rust model and on the Spec alike -/
theorem script_typeset_is_execute {σ} (I : Iface σ) (hI : NoRefusal I) (occs : List OptOcc)
    (hfam : ∀ o ∈ occs, o ∈ typesetFamily) (operands : List String) (s : σ) :
    stmtAction ⟨"T", occs.map optString, operands⟩ = .typeset [] occs operands ∧
    (if (occs.map optString).contains "-g" then Scope.global else Scope.loc)
      = (interpretScope (interpretLoop occs)).toScope ∧
    operands.foldl (typesetField I (interpretScope (interpretLoop occs)).toScope (occs.map optString)) s
      = (typesetMain I occs operands s).1 := by
  refine ⟨?_, typeset_scope_eq occs hfam, ?_⟩
  · simp only [stmtAction]; rw [optOccOf_optString occs hfam]
  · simp only [typesetMain, SetVariables.execute, foldErrors_fst]
    congr 1
    funext s t
    exact typesetField_eq_executeField I hI _ occs hfam operands s t

/-- `L m…` is `typeset m…`, `G m…` is `typeset -g m…` -/
example : stmtAction ⟨"L", ["x=1"], []⟩ = .typeset [] [] ["x=1"] := rfl
example : stmtAction ⟨"G", ["x=1"], []⟩ = .typeset [] [⟨'g', true⟩] ["x=1"] := rfl
example : NoRefusal ifaceM ∧ NoRefusal ifaceS := ⟨noRefusal_M, noRefusal_S⟩
/-- non-vacuity (the operand text is split with `String.splitOn`, which the kernel does not unfold, so
    the examples start after the split): `typeset -x +r -r x` in a function where `x` is a read-only
    global — the local `x` is new, `+r` passes, `-r` marks it -/
example : ((attrLoop ifaceM "x" .loc (interpretLoop [⟨'x', true⟩, ⟨'r', false⟩, ⟨'r', true⟩]).attrs
    ((VariableSet.new.run [.assign "x" .global (.scalar "1") none, .readonly "x" .global 3,
      .push (.regular []), .assign "x" .loc (.scalar "2") none]))).1.get "x")
    = some { value := some (.scalar "2"), exported := true, readOnly := some 1 } := by decide +kernel
/-- … and `typeset -g +r -x x`: `+r` on the read-only variable itself is the error that skips `-x` -/
example : (attrLoop ifaceM "x" (interpretScope (interpretLoop [⟨'g', true⟩, ⟨'r', false⟩, ⟨'x', true⟩])).toScope
    (interpretLoop [⟨'g', true⟩, ⟨'r', false⟩, ⟨'x', true⟩]).attrs
    (VariableSet.new.run [.assign "x" .global (.scalar "1") none, .readonly "x" .global 3])).2 = true := by decide +kernel
example : (interpretLoop [⟨'X', true⟩, ⟨'g', true⟩, ⟨'x', false⟩, ⟨'r', true⟩]).attrs
    = [(.export, false), (.export, false), (.readOnly, true)] := by decide +kernel

/-- ★ `script_declaration_is_execute`: `export m…` / `readonly m…` as `Exec.lean` compiles them
    (`exportOps` / `readonlyOps`, run until the first refusal) against the transcribed `export::main` /
    `readonly::main` that the statements `E`, `EX`, `R` run (`declMain`: `interpret`, push
    `(Export|ReadOnly, On)`, scope `Global`, `SetVariables::execute`, which goes on after an error and reports
    them all): the operations are refused exactly when the built-in reports an error, and otherwise both end in
    the same state -/
theorem script_declaration_is_execute {σ} (I : Iface σ) (hI : NoRefusal I) (operands : List String) (s : σ) :
    (((runOps I s (operands.flatMap fun t => exportOps (operandOf t).1 (operandOf t).2)).2 = true ↔
        0 < (declMain I .export [] operands s).2) ∧
      ((declMain I .export [] operands s).2 = 0 →
        runOps I s (operands.flatMap fun t => exportOps (operandOf t).1 (operandOf t).2)
          = ((declMain I .export [] operands s).1, false))) ∧
    (((runOps I s (operands.flatMap fun t => readonlyOps (operandOf t).1 (operandOf t).2 1)).2 = true ↔
        0 < (declMain I .readOnly [] operands s).2) ∧
      ((declMain I .readOnly [] operands s).2 = 0 →
        runOps I s (operands.flatMap fun t => readonlyOps (operandOf t).1 (operandOf t).2 1)
          = ((declMain I .readOnly [] operands s).1, false))) :=
  ⟨runOps_flatMap_fold I _ _ (fun s t => (declField_eq I hI operands s t).1) operands s 0,
   runOps_flatMap_fold I _ _ (fun s t => (declField_eq I hI operands s t).2) operands s 0⟩

/-- ★ `script_unset_is_unset_variables`: `unset m…` as `Exec.lean` compiles it (`unsetOps`, stopped at
    the first refusal) against the transcribed `unset_variables` that the statements `U`, `UV` run (every
    operand at `Global` scope, the loop goes on and collects the errors): refused exactly when an error is
    reported, same state otherwise -/
theorem script_unset_is_unset_variables {σ} (I : Iface σ) (names : List Name) (s : σ) :
    ((runOps I s (unsetOps names)).2 = true ↔ 0 < (unsetVariables I names s).2) ∧
    ((unsetVariables I names s).2 = 0 → runOps I s (unsetOps names) = ((unsetVariables I names s).1, false)) := by
  have h : unsetOps names = names.flatMap (fun n => [Op.unset n .global]) := by
    unfold unsetOps; induction names <;> simp_all
  rw [h]
  exact runOps_flatMap_fold I _ _ (unsetField_eq I) names s 0

/-- non-vacuity: `unset x y` where `x` is read-only: `unsetOps` run to the first refusal stops at `x` (`y` is
    still set), the built-in reports one error and has gone on to `y` -/
def roX : VariableSet :=
  VariableSet.new.run [.assign "x" .global (.scalar "0") none, .readonly "x" .global 3,
    .assign "y" .global (.scalar "1") none]
example : (unsetVariables ifaceM ["x", "y"] roX).2 = 1 := by decide +kernel
example : (unsetVariables ifaceM ["x", "y"] roX).1.get "y" = none := by decide +kernel
example : (runOps ifaceM roX (unsetOps ["x", "y"])).2 = true ∧
    ((runOps ifaceM roX (unsetOps ["x", "y"])).1.get "y").isSome = true := by decide +kernel
example : (unsetVariables ifaceM ["y"] roX).2 = 0 := by decide +kernel

/-- ★ `entry_points_freeze_readonly` (`Variable` / `VariableRefMut`): every mutating method applied to
    a read-only variable — `assign` leaves the *whole* variable as it is (value, last assignment
    location, attributes, quirk); `make_read_only` again leaves it as it is (the first location
    stays); `export` changes nothing but the export flag; `set_quirk` nothing but the quirk -/
theorem entry_points_freeze_readonly (u : Variable) (hro : u.isReadOnly = true) :
    (∀ v l, u.assign v l = u) ∧ (∀ l, u.makeReadOnly l = u) ∧
    (∀ b, (u.setExport b).value = u.value ∧ (u.setExport b).readOnly = u.readOnly ∧
      (u.setExport b).lastAssigned = u.lastAssigned ∧ (u.setExport b).quirk = u.quirk) ∧
    (∀ q, (u.setQuirk q).value = u.value ∧ (u.setQuirk q).readOnly = u.readOnly ∧
      (u.setQuirk q).lastAssigned = u.lastAssigned ∧ (u.setQuirk q).exported = u.exported) := by
  refine ⟨fun v l => by simp [Variable.assign, hro], fun l => ?_, fun b => ⟨rfl, rfl, rfl, rfl⟩,
    fun q => ⟨rfl, rfl, rfl, rfl⟩⟩
  obtain ⟨k, hr⟩ := isReadOnly_iff.1 hro
  cases u; simp_all [Variable.makeReadOnly]

/-- ★ `readonly_kept_on_every_path`: in every reachable set, every path that writes variables keeps
    every read-only instance — visible or hidden — with its value and mark (`KeepsAll s s'`: for every
    name and every read-only instance of it in `s` there is a read-only instance in `s'` with the same
    value and read-only location), **also when the path goes on after a refusal**:
    `export`/`readonly` (`declMain`: all operands, with or without values), `unset` (`unset_variables`),
    `typeset` with any options and operands (`typesetMain`, incl. `+r`), `read`/`getopts` (`readAssign`
    over any targets), any sequence of operations other than `pop` stopped at its first refusal
    (assignment-only commands, prefix assignments of every command kind, `for`, `$((x=…))`, `${x=…}`),
    and the multi-step entry points of `VariableSet`: `extend_env`, `init` -/
theorem readonly_kept_on_every_path (ops : List Op) :
    let s := VariableSet.new.run ops
    (∀ attr occs operands, KeepsAll s (declMain ifaceM attr occs operands s).1) ∧
    (∀ names, KeepsAll s (unsetVariables ifaceM names s).1) ∧
    (∀ occs operands, KeepsAll s (typesetMain ifaceM occs operands s).1) ∧
    (∀ targets, KeepsAll s (foldErrors (readAssign ifaceM) targets (s, 0)).1) ∧
    (∀ ops', (∀ op ∈ ops', op ≠ Op.pop) → KeepsAll s (runOps ifaceM s ops').1 ∧ KeepsAll s (s.run ops')) ∧
    (∀ vars, KeepsAll s (s.extendEnv vars)) ∧
    KeepsAll s s.init := by
  intro s
  have hG : Good s := good_reachable ops
  have h0 := keepsFrom_diag hG
  refine ⟨fun attr occs operands => (declMain_sim (keeps_sim s) attr occs operands s s h0).1.2.1,
    fun names => (unsetVariables_sim (keeps_sim s) names s s h0).1.2.1,
    fun occs operands => (typesetMain_sim (keeps_sim s) occs operands s s h0).1.2.1,
    fun targets => (foldErrors_sim _ _ (fun s t x hr => readAssign_sim (keeps_sim _) s t x hr) targets s s 0 h0).1.2.1,
    fun ops' hp => ⟨(runOps_sim (keeps_sim s).step ops' hp s s h0).1.2.1, (run_keepsAll ops' s hG hp).1⟩,
    fun vars => (extendEnv_keeps vars s hG).1, ?_⟩
  refine (run_keepsAll theInitOps s hG ?_).1
  intro op hop
  simp only [theInitOps, initOps, List.mem_append, List.mem_map, List.mem_singleton] at hop
  rcases hop with ⟨p, _, rfl⟩ | rfl <;> simp

/-- non-vacuity: `read x y` with the words `a b` where `x` is read-only: one error, the built-in goes on,
    `y` is assigned, `x` untouched -/
example : (foldErrors (readAssign ifaceM) [("x", .scalar "a"), ("y", .scalar "b")] (roX, 0)).2 = 1 ∧
    ((foldErrors (readAssign ifaceM) [("x", .scalar "a"), ("y", .scalar "b")] (roX, 0)).1.get "x").map (·.value)
      = some (some (.scalar "0")) ∧
    ((foldErrors (readAssign ifaceM) [("x", .scalar "a"), ("y", .scalar "b")] (roX, 0)).1.get "y").map (·.value)
      = some (some (.scalar "b")) := by decide +kernel

def exOps : List Op :=
  [.assign "x" .global (.scalar "1") none, .export "x" .global true, .push (.regular ["a"]),
   .assign "x" .loc (.scalar "2") none, .push .volatile, .assign "x" .volatile (.scalar "3") none]

example : (VariableSet.new.run exOps).get "x" = some { value := some (.scalar "3") } := by decide +kernel
example : ((VariableSet.new.run exOps).all "x").map (·.ctx) = [0, 1, 2] := by decide +kernel
example : ((VariableSet.new.run exOps).popContext.popContext).get "x"
    = some { value := some (.scalar "1"), exported := true } := by decide +kernel
example : (VariableSet.new.run exOps).env ["x"] = [] := by decide +kernel
example : ((VariableSet.new.run exOps).popContext.popContext).env ["x"] = [("x", "1")] := by decide +kernel

/-- a read-only global, copied into a volatile context, exported there, then lowered back -/
def roOps : List Op :=
  [.assign "x" .global (.scalar "1") none, .readonly "x" .global 7, .push .volatile,
   .export "x" .volatile true]

example : ((VariableSet.new.run roOps).all "x").map (fun e => (e.ctx, e.var.isReadOnly)) = [(0, true), (1, true)] := by
  decide +kernel
example : (((VariableSet.new.run roOps).step (.assign "x" .global (.scalar "2") none)).2) = .readOnly 7 := by decide +kernel
example : (((VariableSet.new.run roOps).step (.assign "x" .global (.scalar "2") none)).1.get "x")
    = some { value := some (.scalar "1"), exported := true, readOnly := some 7 } := by decide +kernel
example : ((VariableSet.new.run roOps).unset "x" .global).2 = .readOnly 7 := by decide +kernel

/-- ★ `readonly_instance_lifetime` — the single all-histories statement (one induction over the
    operation list, `run_keepsReg`).  Take any reachable set, any read-only instance `e` of any name in
    a *regular* context of it (base context, a function's context), visible or hidden, and any history
    over the whole operation alphabet (push regular/volatile, pop, get-or-create in each scope followed
    by assign / export / make read-only / set quirk, unset in each scope, `set --`):
    (1) if the history does not pop the context that holds `e` (`survives`, a function of the pushes
    and pops only), then at the end there is a read-only instance of the name **in that same context**
    with the same value and the same read-only location — it was never modified, removed or moved;
    (2) the exception is exact: the pop of the context that holds it does remove it (nothing of that
    context is left).  (A read-only instance in a *volatile* context is a copy of the one below it and
    may be merged back into it by `get_or_new`: `readonly_immutable`.) -/
theorem readonly_instance_lifetime (ops0 ops : List Op) (n : Name) (e : VIC)
    (he : e ∈ (VariableSet.new.run ops0).all n) (hro : e.var.isReadOnly = true)
    (hreg : isVolatileAt (VariableSet.new.run ops0).contexts e.ctx = false) :
    (survives e.ctx (VariableSet.new.run ops0).contexts.length ops = true →
      ∃ e' ∈ ((VariableSet.new.run ops0).run ops).all n,
        e'.ctx = e.ctx ∧ e'.var.isReadOnly = true ∧ e'.var.value = e.var.value ∧ e'.var.readOnly = e.var.readOnly) ∧
    ((VariableSet.new.run ops0).contexts.length = e.ctx + 1 → 0 < e.ctx →
      ∀ e' ∈ ((VariableSet.new.run ops0).step .pop).1.all n, e'.ctx < e.ctx) := by
  have hG : Good (VariableSet.new.run ops0) := good_reachable ops0
  constructor
  · intro hsv
    obtain ⟨e', he', h1, h2, h3, _⟩ := run_keepsReg ops _ hG n e he hro hreg hsv
    exact ⟨e', he', h1, h2, h3.1, h3.2⟩
  · intro hlen hpos e' he'
    have hN := norm_preserved _ Op.pop hG.1
    have hb := hN.bounded n e' he'
    have hl : ((VariableSet.new.run ops0).step .pop).1.contexts.length = e.ctx := by
      show (VariableSet.popContext _).contexts.length = _
      rw [pop_contexts _ (by omega), List.length_dropLast, hlen]; rfl
    omega

/-- ★ `readonly_global_survives_every_history`: a read-only variable in the base context survives
    **every** history — whatever is pushed, popped, assigned, exported, unset, declared in whatever
    scope afterwards, the base context still holds a read-only instance of the name with the same
    value and the same read-only location -/
theorem readonly_global_survives_every_history (ops0 ops : List Op) (n : Name) (e : VIC)
    (he : e ∈ (VariableSet.new.run ops0).all n) (hro : e.var.isReadOnly = true) (h0 : e.ctx = 0) :
    ∃ e' ∈ ((VariableSet.new.run ops0).run ops).all n,
      e'.ctx = 0 ∧ e'.var.isReadOnly = true ∧ e'.var.value = e.var.value ∧ e'.var.readOnly = e.var.readOnly := by
  have hG : Good (VariableSet.new.run ops0) := good_reachable ops0
  have hreg : isVolatileAt (VariableSet.new.run ops0).contexts e.ctx = false := by
    rw [h0]; exact isVolatileAt_zero hG.1
  obtain ⟨e', he', h1, h2, h3⟩ :=
    (readonly_instance_lifetime ops0 ops n e he hro hreg).1 (by rw [h0]; exact survives_base _ _)
  exact ⟨e', he', h1.trans h0, h2, h3⟩

/-- non-vacuity: `readonly x=1` at top level, then a function call with a temporary `x`, a local `x`,
    an attempt to assign, unset and re-declare it, a nested command, and the returns -/
example : ∃ e' ∈ ((VariableSet.new.run [.assign "x" .global (.scalar "1") none, .readonly "x" .global 7]).run
      (functionCmd [("x", .scalar "T")] ["a"]
        [.assign "x" .loc (.scalar "2") none, .assign "x" .global (.scalar "3") none, .unset "x" .global,
         .push .volatile, .export "x" .volatile true, .readonly "x" .loc 9, .pop])).all "x",
    e'.ctx = 0 ∧ e'.var.value = some (.scalar "1") ∧ e'.var.readOnly = some 7 := by decide +kernel

/-- ★ `lookup_over_histories`: "looking up a variable returns the value from the innermost visible
    scope", over whole histories: after every history of the operation alphabet from the initial set,
    `get` (and `get_scoped` in every scope) of the Rust structure is the lookup — topmost context that
    defines the name — in the stack of maps the same history builds -/
theorem lookup_over_histories (ops : List Op) (n : Name) :
    (VariableSet.new.run ops).get n = lookup (SSet.run SSet.new ops) n ∧
    ∀ sc, (VariableSet.new.run ops).getScoped n sc = (SSet.run SSet.new ops).getScoped n sc := by
  obtain ⟨ha, hN⟩ := run_abs_from norm_init ops
  rw [abs_new] at ha
  exact ⟨by rw [get_refines _ hN, ha], fun sc => by rw [getScoped_refines _ hN, ha]⟩

/-- ★ `cd_getopts_tables_match`: the variable writes of `cd` (OLDPWD then PWD, `Global` scope, both always
    attempted, exit status of a refusal) and of `getopts` (option variable, OPTARG assigned or unset,
    OPTIND, `Global` scope, in that order) as extracted from cd.rs, cd/assign.rs and getopts/report.rs
    on every run are what the transcriptions `cdAssign` / `cdStatus` / `getoptsReportOps` do -/
theorem cd_getopts_tables_match : cdGetoptsTablesOk = true := by decide +kernel

/-- ★ `cd_getopts_keep_readonly`: in every reachable set `cd` and `getopts` keep every read-only
    instance (value and mark); when `PWD` (`OLDPWD`) is read-only `cd` still writes the other one and
    reports the error; `getopts` stops at the first refused variable -/
theorem cd_getopts_keep_readonly (ops : List Op) :
    let s := VariableSet.new.run ops
    (∀ newPwd, KeepsAll s (cdAssign ifaceM s newPwd).1) ∧
    (∀ name value optarg optind, KeepsAll s (runOps ifaceM s (getoptsReportOps name value optarg optind)).1) := by
  intro s
  have h0 := keepsFrom_diag (good_reachable ops : Good s)
  refine ⟨fun newPwd => (foldErrors_sim _ _ (fun s t p hr => cdSetVariable_sim (keeps_sim _) s t p hr) _ s s 0 h0).1.2.1,
    fun name value optarg optind => (runOps_sim (keeps_sim s).step _ ?_ s s h0).1.2.1⟩
  intro op hop
  simp only [getoptsReportOps, List.mem_cons, List.not_mem_nil, or_false] at hop
  rcases hop with rfl | rfl | rfl
  · simp
  · cases optarg <;> simp
  · simp

/-- non-vacuity: `cd /` with a read-only `PWD=0`: one error, `OLDPWD` is still written (and exported) -/
example : (cdAssign ifaceM (VariableSet.new.run [.assign "PWD" .global (.scalar "0") none, .readonly "PWD" .global 1]) "/").2 = 1 ∧
    ((cdAssign ifaceM (VariableSet.new.run [.assign "PWD" .global (.scalar "0") none, .readonly "PWD" .global 1]) "/").1.get "OLDPWD")
      = some { value := some (.scalar "0"), exported := true } := by decide +kernel

/-- ★ `c20_parse_feeds_builtin_model`: the connection to C20's transcription of typeset's own `parse` and
    `interpret` (`YashModel.Args.Typeset`, theorem `typeset_parse_is_read_of_canonical` there says what
    `parse` yields for every spelling — clusters `-gx`, long options, `+x`).  Whenever C20's `parse` yields
    occurrences `os` of the set-variable options (`-g -r -x -X`, any number, any order, any spelling) and
    operands: (1) C20's `run` (parse + interpret, `portable` off) is the command `SetVariables` with the
    attribute list and the scope flag of its scan; (2) that attribute list and flag are exactly what
    `BuiltinModel.interpretLoop` computes from the same occurrences; hence (3) `typesetMain` — what the
    statements `T`/`L`/`G`/`TP` run and what `script_typeset_is_execute`, `readonly_kept_on_every_path`
    speak about — is `SetVariables::execute` on precisely the record C20's `interpret` hands over. -/
theorem c20_parse_feeds_builtin_model (specs : List Args.Typeset.TSpec) (ln : Bool) (args : List Args.Typeset.Str)
    (os : List Args.Typeset.Occ) (operands : List Args.Typeset.Str)
    (hp : Args.Typeset.parse specs ln args = .ok (os, operands)) (hos : ∀ o ∈ os, SetSpec o.spec)
    (hne : operands ≠ []) :
    Args.Typeset.run specs ln false args
      = .cmd (.setVariables operands ((Args.Typeset.scan os).attrs.map (fun e => (e.2.1, e.2.2)))
          (Args.Typeset.scan os).global.isSome) ∧
    (interpretLoop (os.map occOf)).attrs = (Args.Typeset.scan os).attrs.map (fun e => (attrOf e.2.1, e.2.2)) ∧
    (interpretLoop (os.map occOf)).global = (Args.Typeset.scan os).global.isSome ∧
    ∀ {σ} (I : Iface σ) (s : σ), typesetMain I (os.map occOf) (operands.map String.ofList) s
      = SetVariables.execute I ⟨operands.map String.ofList,
          (Args.Typeset.scan os).attrs.map (fun e => (attrOf e.2.1, e.2.2)),
          if (Args.Typeset.scan os).global.isSome then .global else .loc⟩ s := by
  obtain ⟨h1, h2, h3, h4, h5⟩ := scanFrom_interpret os hos {} {} 0 rfl rfl rfl rfl rfl
  have hne' : operands.isEmpty = false := by cases operands <;> simp_all
  refine ⟨?_, h4, h5, ?_⟩
  · have e1 : (Args.Typeset.scan os).foreign = none := h3
    have e2 : (Args.Typeset.scan os).print = none := h2
    have e3 : (Args.Typeset.scan os).functions = none := h1
    simp [Args.Typeset.run, hp, Args.Typeset.interpret, e1, e2, e3, hne']
  · intro σ I s
    have a4 : (interpretLoop (os.map occOf)).attrs = _ := h4
    have a5 : (interpretLoop (os.map occOf)).global = _ := h5
    simp only [typesetMain, interpretScope, a4, a5]
    rfl

/-- non-vacuity: the occurrences C20's parser yields for `-gx +r -X` -/
example : ∀ o ∈ [(⟨⟨'g', ['g'], none⟩, true⟩ : Args.Typeset.Occ), ⟨⟨'x', ['e'], some .export⟩, true⟩,
    ⟨⟨'r', ['r'], some .readOnly⟩, false⟩, ⟨⟨'X', ['u'], none⟩, true⟩], SetSpec o.spec := by
  intro o ho; simp at ho; rcases ho with rfl | rfl | rfl | rfl <;> simp [SetSpec]

/-- ★ `portable_off_is_execute`: the `Portable`-aware field step of `SetVariables::execute`
    (`executeFieldP`: non-portable names refused before anything is created; for PWD / OLDPWD / OPTIND /
    OPTARG / LINENO — the generated `nonPortableReadonlyNames`, tied in `cd_getopts_tables_match` — the
    attribute loop is cut where it would make the variable read-only) is `executeField` when the option
    is off, so everything proved about `executeField` is about the built-in as the shell normally runs
    it; with the option on, a portable name other than those five is processed as before -/
theorem portable_off_is_execute {σ} (I : Iface σ) (sv : SetVariables) (s : σ) (field : String) :
    executeFieldP I sv false s field = executeField I sv s field ∧
    (isPortableName (splitAssign field).1 = true → nonPortableReadonly.contains (splitAssign field).1 = false →
      executeFieldP I sv true s field = executeField I sv s field) := by
  constructor
  · simp [executeFieldP]
  · intro h1 h2
    unfold executeFieldP
    simp only [h1, h2, Bool.not_true, Bool.and_false, Bool.false_eq_true, if_false]

example : isPortableName "o" = true ∧ isPortableName "1a" = false ∧ isPortableName "" = false ∧
    isPortableName "a_1" = true ∧ isPortableName "a-b" = false := by decide +kernel

/-- ★ `nested_calls_params`: "a function's positional parameters vanish at return", for nested calls
    of any depth.  (1) Whatever the set a call starts in — hence at every nesting depth — the body
    sees exactly the call's own arguments.  (2) After a chain of nested calls (`nestCalls`: each level
    has its temporaries, its arguments and any balanced operations before and after the inner call,
    `set --` at any level included) the positional parameters and the contexts are those before the
    outermost call. -/
theorem nested_calls_params (s : VariableSet) (h : Norm s) :
    (∀ as ps, (s.run (enterFunction as ps)).positionalParams = ps) ∧
    (∀ levels : List (List (Name × Value) × List String × List Op × List Op),
      (∀ l ∈ levels, balanced 0 l.2.2.1 = true ∧ balanced 0 l.2.2.2 = true) →
      (s.run (nestCalls levels)).positionalParams = s.positionalParams ∧
      (s.run (nestCalls levels)).contexts = s.contexts) := by
  constructor
  · intro as ps
    obtain ⟨ha, _⟩ := run_abs_from h (enterFunction as ps)
    obtain ⟨cV, hin, _, _⟩ := spec_enter_function (abs s) as ps
    rw [positionalParams_refines, ha, hin]; rfl
  · intro levels hl
    cases levels with
    | nil => exact ⟨rfl, rfl⟩
    | cons l rest =>
      obtain ⟨as, ps, pre, post⟩ := l
      have hb : balanced 0 (pre ++ nestCalls rest ++ post) = true := by
        have h1 := hl _ (List.mem_cons_self)
        have h2 := balanced_nestCalls rest (fun l hm => hl l (List.mem_cons_of_mem _ hm))
        exact balanced_append0 _ _ (balanced_append0 _ _ h1.1 h2) h1.2
      have := function_call_frame s h as ps (pre ++ nestCalls rest ++ post) hb (fun _ => False)
        (fun _ _ _ _ hf => hf)
      exact ⟨this.2.2, this.2.1⟩

/-- non-vacuity: `f a` calls `set -- q` and `g b c` (which does `set --` itself) and then `set -- r` -/
example : (lt0.run (nestCalls [([], ["a"], [.setParams ["q"]], [.setParams ["r"]]),
    ([("x", .scalar "T")], ["b", "c"], [.setParams []], [])])).positionalParams = [] := by decide +kernel
example : (lt0.run (enterFunction [] ["a"] ++ [.setParams ["q"]] ++ enterFunction [("x", .scalar "T")] ["b", "c"])).positionalParams
    = ["b", "c"] := by decide +kernel

/-- ★ `env_ignores_hidden_instances`: the environment is built from the innermost visible view only.
    When the visible variable of a name is not exported (a function's local shadowing an exported
    global, say) the name has **no** entry, whatever exported instances are hidden below; with
    `env_exact` (iff for the visible variable) and `temporary_assignment_scope` (2) (a temporary is
    exported for the command's duration) this is the whole clause -/
theorem env_ignores_hidden_instances (s : VariableSet) (names : List Name) (n : Name) (u : Variable)
    (hv : s.get n = some u) (hx : u.exported = false) : ∀ x, (n, x) ∉ s.env names := by
  intro x hmem
  simp only [VariableSet.env, List.mem_filterMap] at hmem
  obtain ⟨m, _, hm⟩ := hmem
  cases hg : s.get m with
  | none => simp [hg] at hm
  | some w =>
    simp only [hg, Option.bind_some] at hm
    have hmn : m = n := (envEntry_some hm).1
    subst hmn
    rw [hv] at hg
    cases hg
    simp [envEntry, hx] at hm

/-- non-vacuity: `exOps` — exported global `x=1`, a function's local `x=2`, a temporary `x=3` -/
example : ∀ v, ("x", v) ∉ ((VariableSet.new.run exOps).popContext).env ["x"] :=
  env_ignores_hidden_instances _ _ "x" { value := some (.scalar "2") } (by decide) rfl

/-- ★ `getOrNew_idempotent`: `SetVariables::execute` (and `perform_assignment`) call `get_or_new` once
    and then assign / export / mark through the returned reference, while every operation of the model
    looks the variable up again.  Both are the same: on every normalised set a second
    `get_or_new(name, scope)` succeeds and returns **the very same set** — the same per-name stacks
    (representation, not only the abstract state) and the same contexts; in particular also the same
    stack of maps (second clause, from the first through `getOrNew_refines`) -/
theorem getOrNew_idempotent (s s1 : VariableSet) (h : Norm s) (n : Name) (sc : Scope)
    (h1 : s.getOrNew n sc = some s1) :
    s1.getOrNew n sc = some s1 ∧ (abs s1).getOrNew n sc = some (abs s1) := by
  have h2 : s1.getOrNew n sc = some s1 := by
    obtain ⟨w, rest, rfl, hfix⟩ := getOrNew_head h h1
    exact hfix w.var
  refine ⟨h2, ?_⟩
  rw [← (getOrNew_abs ((getOrNew_abs h n sc).2 s1 h1) n sc).1, h2]; rfl

example : ∃ s1, (VariableSet.new.run exOps).getOrNew "x" .global = some s1 ∧
    (s1.getOrNew "x" .global).map (·.all "x") = some (s1.all "x") := ⟨_, rfl, by decide⟩

end YashModel.Variable
