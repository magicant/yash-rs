/-
  C16 — read-only variables.

  `get_or_new(Global | Local)` may *overwrite* a regular instance with the variable it took out of a
  volatile context above it.  That this never changes a read-only variable needs an invariant
  (`Shadow`): a variable in a volatile context that sits directly above a read-only instance of the
  same name is a copy of it (same value, same read-only mark) — it was cloned from it by
  `get_or_new(Volatile)` and could not be assigned afterwards.  `step_ro`: every operation keeps the
  invariant, and every operation but `pop` keeps every read-only instance.
-/
import YashModel.Variable.Refine
namespace YashModel.Variable

/-- the stack (read from the top) keeps a read-only instance with the value and mark of `w` — in the
    context of `w`, unless that context is volatile (a read-only variable there is a copy and may be
    merged into the instance it was copied from) -/
def Keeps (cs : List Context) (r : List VIC) (w : VIC) : Prop :=
  ∃ e ∈ r, e.var.isReadOnly = true ∧ SameRO e.var w.var ∧ (isVolatileAt cs w.ctx = false → e.ctx = w.ctx)

theorem keeps_self (cs : List Context) {r : List VIC} {w : VIC} (hw : w ∈ r) (hro : w.var.isReadOnly = true) :
    Keeps cs r w :=
  ⟨w, hw, hro, ⟨rfl, rfl⟩, fun _ => rfl⟩

theorem sameRO_ro {a b : Variable} (h : SameRO a b) (hb : b.isReadOnly = true) : a.isReadOnly = true := by
  unfold Variable.isReadOnly at hb ⊢; rw [h.2]; exact hb

theorem shadow_tail {cs : List Context} {u : VIC} {r : List VIC} (h : Shadow cs (u :: r)) : Shadow cs r := by
  cases r with
  | nil => trivial
  | cons w rest => exact h.2

theorem shadow_congr {cs cs' : List Context} {r : List VIC}
    (hc : ∀ u ∈ r, isVolatileAt cs' u.ctx = isVolatileAt cs u.ctx) (h : Shadow cs r) : Shadow cs' r := by
  induction r with
  | nil => trivial
  | cons u r ih =>
    cases r with
    | nil => trivial
    | cons w rest =>
      refine ⟨?_, ih (fun x hx => hc x (by simp [hx])) h.2⟩
      rw [hc u (by simp)]; exact h.1

theorem shadow_dropWhile {cs : List Context} (p : VIC → Bool) {r : List VIC} (h : Shadow cs r) :
    Shadow cs (r.dropWhile p) := by
  induction r with
  | nil => trivial
  | cons u r ih =>
    simp only [List.dropWhile_cons]
    split
    · exact ih (shadow_tail h)
    · exact h

/-- The induction invariant `hc` is why `Shadow` exists: whatever is carried down matches the next instance below if
    that one is read-only — so overwriting a regular read-only instance with the carried variable changes neither its value
    nor its mark. -/
theorem lowerLoop_keeps (cs : List Context) (target : Nat) (r : List VIC) (carried : Option Variable)
    (hs : Shadow cs r)
    (hc : ∀ c, carried = some c → ∀ v, r.head? = some v → v.var.isReadOnly = true → SameRO c v.var)
    (w : VIC) (hw : w ∈ r) (hro : w.var.isReadOnly = true) :
    Keeps cs (lowerLoop cs target r carried) w := by
  induction r generalizing carried with
  | nil => cases hw
  | cons v r ih =>
    -- if `w` is the top instance, what is carried (or `w` itself) matches it
    have hm : w = v → SameRO (carried.getD w.var) w.var := by
      rintro rfl
      cases carried with
      | none => exact ⟨rfl, rfl⟩
      | some c0 => exact hc c0 rfl w rfl hro
    simp only [lowerLoop]
    split
    · exact keeps_self cs (List.mem_cons_of_mem _ hw) hro
    · split
      · rename_i hvol
        -- `v` is taken out of its volatile context; what is carried on matches the instance below
        have hc' : ∀ c, some (carried.getD v.var) = some c → ∀ x, r.head? = some x →
            x.var.isReadOnly = true → SameRO c x.var := by
          intro c hce x hx hxro
          cases r with
          | nil => cases hx
          | cons y rest =>
            simp only [List.head?_cons, Option.some.injEq] at hx; subst hx
            have hvy := hs.1 hvol hxro
            cases carried with
            | none => simp at hce; subst hce; exact hvy
            | some c0 =>
              simp at hce; subst hce
              have := hc c0 rfl v rfl (sameRO_ro hvy hxro)
              exact ⟨this.1.trans hvy.1, this.2.trans hvy.2⟩
        rcases List.mem_cons.mp hw with rfl | hw'
        · -- the popped instance itself: the carried variable is put back and matches it
          have hm := hm rfl
          obtain ⟨e, rest, hres, _, hev, _⟩ := lowerLoop_head cs target r (some (carried.getD w.var))
          have he : e ∈ lowerLoop cs target r (some (carried.getD w.var)) := hres ▸ List.mem_cons_self
          have hev := hev _ rfl
          exact ⟨e, he, by rw [hev]; exact sameRO_ro hm hro, by rw [hev]; exact hm,
            fun hreg => by rw [hreg] at hvol; cases hvol⟩
        · exact ih _ (shadow_tail hs) hc' hw'
      · -- a regular instance: overwritten by the carried variable, if any
        rcases List.mem_cons.mp hw with rfl | hw'
        · exact ⟨⟨carried.getD w.var, w.ctx⟩, by simp, sameRO_ro (hm rfl) hro, hm rfl, fun _ => rfl⟩
        · exact keeps_self cs (by simp [hw']) hro

theorem lowerLoop_shadow (cs : List Context) (target : Nat) (r : List VIC) (carried : Option Variable)
    (ht : isVolatileAt cs target = false) (hs : Shadow cs r) : Shadow cs (lowerLoop cs target r carried) := by
  induction r generalizing carried with
  | nil => trivial
  | cons v r ih =>
    simp only [lowerLoop]
    split
    · exact ⟨fun h => by simp [ht] at h, hs⟩
    · split
      · exact ih _ (shadow_tail hs)
      · rename_i hnv
        cases r with
        | nil => trivial
        | cons y rest => exact ⟨fun h => by simp [h] at hnv, hs.2⟩

def Frozen (f : Variable → Variable) : Prop := ∀ u, u.isReadOnly = true → SameRO (f u) u

theorem write_frozen {op : Op} {sc : Scope} {f : Variable → Variable} {res : Option Variable → Res}
    (hw : op.write? = some (sc, f, res)) : Frozen f := by
  cases op <;> cases hw
  · exact fun _ _ => ⟨rfl, rfl⟩
  · intro u hu; simp [Variable.assign, hu, SameRO]
  · intro u _; simp [Variable.setExport, SameRO]
  · intro u hu
    obtain ⟨x, h⟩ := isReadOnly_iff.1 hu
    simp [Variable.makeReadOnly, SameRO, h]
  · intro u _; simp [Variable.setQuirk, SameRO]

theorem modifyHead_keeps (cs : List Context) (f : Variable → Variable) (hf : Frozen f) (r : List VIC) (w : VIC)
    (hw : w ∈ r) (hro : w.var.isReadOnly = true) : Keeps cs (modifyHead f r) w := by
  cases r with
  | nil => cases hw
  | cons u r =>
    rcases List.mem_cons.mp hw with rfl | hw'
    · exact ⟨⟨f w.var, w.ctx⟩, by simp [modifyHead], sameRO_ro (hf _ hro) hro, hf _ hro, fun _ => rfl⟩
    · exact keeps_self cs (by simp [modifyHead, hw']) hro

theorem modifyHead_shadow (cs : List Context) (f : Variable → Variable) (hf : Frozen f) (r : List VIC)
    (hs : Shadow cs r) : Shadow cs (modifyHead f r) := by
  cases r with
  | nil => trivial
  | cons u r =>
    cases r with
    | nil => trivial
    | cons w rest =>
      refine ⟨fun hv hw => ?_, hs.2⟩
      have huw := hs.1 hv hw
      have := hf u.var (sameRO_ro huw hw)
      exact ⟨this.1.trans huw.1, this.2.trans huw.2⟩

theorem volatileBranch_shadow (cs : List Context) (ci : Nat) (r : List VIC) (hs : Shadow cs r) :
    Shadow cs (volatileBranch ci r) := by
  cases r with
  | nil => trivial
  | cons v r =>
    simp only [volatileBranch]
    split
    · exact ⟨fun _ _ => ⟨rfl, rfl⟩, hs⟩
    · exact hs

theorem volatileBranch_keeps (cs : List Context) (ci : Nat) (r : List VIC) (w : VIC) (hw : w ∈ r)
    (hro : w.var.isReadOnly = true) : Keeps cs (volatileBranch ci r) w := by
  cases r with
  | nil => cases hw
  | cons v r =>
    simp only [volatileBranch]
    split
    · exact keeps_self cs (List.mem_cons_of_mem _ hw) hro
    · exact keeps_self cs hw hro

theorem keepsAll_refl (s : VariableSet) : KeepsAll s s := fun _ e he hro => ⟨e, he, hro, rfl, rfl⟩

theorem keepsAll_trans {a b c : VariableSet} (h1 : KeepsAll a b) (h2 : KeepsAll b c) : KeepsAll a c := by
  intro n e he hro
  obtain ⟨e1, he1, hro1, hs1⟩ := h1 n e he hro
  obtain ⟨e2, he2, hro2, hs2⟩ := h2 n e1 he1 hro1
  exact ⟨e2, he2, hro2, hs2.1.trans hs1.1, hs2.2.trans hs1.2⟩

/-- `KeepsAll`, and the instance is in the same context when that context is regular: what one operation
    other than `pop` guarantees -/
def KeepsPos (s s' : VariableSet) : Prop :=
  ∀ n e, e ∈ s.all n → e.var.isReadOnly = true →
    ∃ e' ∈ s'.all n, e'.var.isReadOnly = true ∧ SameRO e'.var e.var ∧
      (isVolatileAt s.contexts e.ctx = false → e'.ctx = e.ctx)

theorem KeepsPos.keepsAll {s s' : VariableSet} (h : KeepsPos s s') : KeepsAll s s' := fun n e he hro =>
  let ⟨e', he', h1, h2, _⟩ := h n e he hro
  ⟨e', he', h1, h2⟩

theorem keepsPos_of_all {s s' : VariableSet} (ha : s'.all = s.all) : KeepsPos s s' := fun n e he hro =>
  ⟨e, by rw [ha]; exact he, hro, ⟨rfl, rfl⟩, fun _ => rfl⟩

theorem keepsPos_trans {a b c : VariableSet} (hcx : b.contexts = a.contexts) (h1 : KeepsPos a b)
    (h2 : KeepsPos b c) : KeepsPos a c := by
  intro n e he hro
  obtain ⟨e1, he1, hro1, hs1, hp1⟩ := h1 n e he hro
  obtain ⟨e2, he2, hro2, hs2, hp2⟩ := h2 n e1 he1 hro1
  exact ⟨e2, he2, hro2, ⟨hs2.1.trans hs1.1, hs2.2.trans hs1.2⟩,
    fun hreg => (hp2 (by rw [hcx, hp1 hreg]; exact hreg)).trans (hp1 hreg)⟩

theorem keepsPos_setTop (s : VariableSet) (n : Name) (r : List VIC)
    (h : ∀ e ∈ s.top n, e.var.isReadOnly = true → Keeps s.contexts r e) : KeepsPos s (s.setTop n r) := by
  intro m e he hro
  by_cases hm : m = n
  · subst hm
    obtain ⟨e', he', h⟩ := h e (mem_top.2 he) hro
    exact ⟨e', mem_top.1 (by rw [top_setTop, if_pos rfl]; exact he'), h⟩
  · rw [all_setTop_ne s r hm]; exact ⟨e, he, hro, ⟨rfl, rfl⟩, fun _ => rfl⟩

theorem shadowInv_setTop {s : VariableSet} (hS : ShadowInv s) (n : Name) (r : List VIC)
    (h : Shadow s.contexts r) : ShadowInv (s.setTop n r) := by
  intro m
  show Shadow s.contexts ((s.setTop n r).top m)
  rw [top_setTop]
  split
  · exact h
  · exact hS m

theorem getOrNew_ro {s : VariableSet} (h : Norm s) (hS : ShadowInv s) (n : Name) (scope : Scope)
    (s' : VariableSet) (hg : s.getOrNew n scope = some s') : KeepsPos s s' ∧ ShadowInv s' := by
  rcases getOrNew_top hg with ⟨hsc, rfl⟩ | ⟨_, _, rfl⟩
  · exact ⟨keepsPos_setTop s n _ (lowerLoop_keeps _ _ _ _ (hS n) (fun c hc => by cases hc)),
      shadowInv_setTop hS n _ (lowerLoop_shadow _ _ _ _ (isVolatileAt_index h hsc) (hS n))⟩
  · exact ⟨keepsPos_setTop s n _ (volatileBranch_keeps _ _ _), shadowInv_setTop hS n _ (volatileBranch_shadow _ _ _ (hS n))⟩

theorem modifyLast_ro {s : VariableSet} (hS : ShadowInv s) (n : Name) (f : Variable → Variable) (hf : Frozen f) :
    KeepsPos s (s.modifyLast n f) ∧ ShadowInv (s.modifyLast n f) :=
  ⟨keepsPos_setTop s n _ (modifyHead_keeps _ f hf _), shadowInv_setTop hS n _ (modifyHead_shadow _ f hf _ (hS n))⟩

theorem stepM_ro {s : VariableSet} (h : Norm s) (hS : ShadowInv s) (n : Name) (sc : Scope)
    (f : Variable → Variable) (hf : Frozen f) (resM : VariableSet → Res) :
    KeepsPos s (stepM s n sc f resM).1 ∧ ShadowInv (stepM s n sc f resM).1 := by
  cases hg : s.getOrNew n sc with
  | none => rw [stepM_none hg]; exact ⟨keepsPos_of_all rfl, hS⟩
  | some s1 =>
    rw [stepM_some hg]
    obtain ⟨hk, hS1⟩ := getOrNew_ro h hS n sc s1 hg
    obtain ⟨hk2, hS2⟩ := modifyLast_ro hS1 n f hf
    exact ⟨keepsPos_trans (getOrNew_contexts hg) hk hk2, hS2⟩

theorem unset_ro {s : VariableSet} (h : Norm s) (hS : ShadowInv s) (n : Name) (scope : Scope) :
    KeepsPos s (s.unset n scope).1 ∧ ShadowInv (s.unset n scope).1 := by
  rw [unset_top h n scope]
  cases hf : ((s.top n).takeWhile _).find? (fun v => v.var.isReadOnly) with
  | some vic => exact ⟨keepsPos_of_all rfl, hS⟩
  | none =>
    refine ⟨keepsPos_setTop s n _ fun e he hro => keeps_self _ ?_ hro, shadowInv_setTop hS n _ (shadow_dropWhile _ (hS n))⟩
    -- a read-only instance is not in the part that is removed, where `find?` found none
    rw [← List.takeWhile_append_dropWhile (p := fun v : VIC => decide (indexOfContext scope s.contexts ≤ v.ctx))
      (l := s.top n)] at he
    exact (List.mem_append.mp he).resolve_left fun h1 => absurd hro (by simpa using List.find?_eq_none.mp hf e h1)

theorem push_shadow {s : VariableSet} (h : Norm s) (hS : ShadowInv s) (c : Context) :
    ShadowInv (s.pushContext c) :=
  fun n => shadow_congr (fun u hu => isVolatileAt_push s.contexts c (h.bounded n u (mem_top.1 hu))) (hS n)

theorem popIfR_shadow {cs : List Context} (k : Nat) {r : List VIC} (h : Shadow cs r) : Shadow cs (popIfR k r) := by
  cases r with
  | nil => trivial
  | cons v r =>
    simp only [popIfR]
    split
    · exact shadow_tail h
    · exact h

theorem pop_shadow {s : VariableSet} (h : Norm s) (hS : ShadowInv s) : ShadowInv s.popContext := by
  by_cases hle : s.contexts.length ≤ 1
  · rw [popContext_of_le s hle]; exact hS
  · have hgt : 1 < s.contexts.length := by omega
    intro n
    show Shadow s.popContext.contexts (s.popContext.top n)
    rw [pop_top s hgt, pop_contexts s hgt]
    have hd : Dec (s.contexts.length - 1) (popIfR (s.contexts.length - 1) (s.top n)) :=
      popIfR_dec _ _ (by rw [Nat.sub_add_cancel (Nat.le_of_lt hgt)]; exact h.dec n)
    -- what is left lives below the popped context, whose kinds `dropLast` keeps
    exact shadow_congr (fun u hu => isVolatileAt_dropLast s.contexts (dec_lt hd u hu)) (popIfR_shadow _ (hS n))

theorem setParams_shadow {s : VariableSet} (hS : ShadowInv s) (ps : List String) :
    ShadowInv (s.setPositionalParams ps) := by
  refine fun n => shadow_congr (fun u _ => ?_) (hS n)
  exact isVolatileAt_of_kinds (setPositionalParams_kinds s ps) _

theorem step_ro {s : VariableSet} (h : Norm s) (hS : ShadowInv s) (op : Op) :
    ShadowInv (s.step op).1 ∧ (op ≠ .pop → KeepsPos s (s.step op).1) := by
  have both : ∀ {s' : VariableSet} {P : Prop}, KeepsPos s s' ∧ ShadowInv s' → ShadowInv s' ∧ (P → KeepsPos s s') :=
    fun h => ⟨h.2, fun _ => h.1⟩
  cases hn : op.name? with
  | none =>
    rcases Op.unnamed_cases hn with ⟨c, rfl⟩ | rfl | ⟨ps, rfl⟩
    · exact ⟨push_shadow h hS c, fun _ => keepsPos_of_all rfl⟩
    · exact ⟨pop_shadow h hS, fun hp => absurd rfl hp⟩
    · exact ⟨setParams_shadow hS ps, fun _ => keepsPos_of_all rfl⟩
  | some n =>
    rcases Op.named_cases hn with ⟨sc, rfl⟩ | ⟨sc, f, res, hw⟩
    · rw [step_unset]; exact both (unset_ro h hS n sc)
    · rw [step_write s hn hw]; exact both (stepM_ro h hS n sc f (write_frozen hw) _)

theorem step_good {s : VariableSet} (h : Good s) (op : Op) : Good (s.step op).1 :=
  ⟨norm_preserved _ op h.1, (step_ro h.1 h.2 op).1⟩

theorem step_keeps {s : VariableSet} (h : Good s) (op : Op) (hop : op ≠ .pop) : KeepsPos s (s.step op).1 :=
  (step_ro h.1 h.2 op).2 hop

theorem run_good {s : VariableSet} (h : Norm s) (hS : ShadowInv s) (ops : List Op) : Good (s.run ops) :=
  VariableSet.run_inv (P := Good) ops (fun _ op _ hG => step_good hG op) s ⟨h, hS⟩

end YashModel.Variable
