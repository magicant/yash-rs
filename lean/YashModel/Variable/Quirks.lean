/-
  C16 — `VariableSet::init` (`initOps_*`), the `LINENO` quirk (`LinenoOK`: a single instance in the base context,
  kept by every operation that does not name it) and line numbers.
-/
import YashModel.Variable.Refine
namespace YashModel.Variable

theorem initOps_cons (p : Name × String) (tbl : List (Name × String)) (ln : Name) :
    initOps (p :: tbl) ln = Op.assign p.1 .global (.scalar p.2) none :: initOps tbl ln := rfl

theorem initOps_names (tbl : List (Name × String)) (ln : Name) (op : Op) (h : op ∈ initOps tbl ln) :
    ∃ m, op.name? = some m ∧ m ∈ tbl.map (·.1) ++ [ln] := by
  simp only [initOps, List.mem_append, List.mem_map, List.mem_singleton] at h
  rcases h with ⟨p, hp, rfl⟩ | rfl
  · exact ⟨p.1, rfl, by simp only [List.mem_append, List.mem_map]; exact Or.inl ⟨p, hp, rfl⟩⟩
  · exact ⟨ln, rfl, by simp⟩

theorem initOps_values (tbl : List (Name × String)) (ln : Name) (hnd : (tbl.map (·.1) ++ [ln]).Nodup)
    (s : VariableSet) (h : Norm s) (n : Name) (v : String) (hin : (n, v) ∈ tbl) :
    ∃ u, (s.run (initOps tbl ln)).get n = some u ∧ (u.isReadOnly = false → u.value = some (.scalar v)) := by
  induction tbl generalizing s with
  | nil => cases hin
  | cons p rest ih =>
    rw [initOps_cons]
    simp only [VariableSet.run]
    have hN1 := norm_preserved _ (.assign p.1 .global (.scalar p.2) none) h
    simp only [List.map_cons, List.cons_append, List.nodup_cons] at hnd
    rcases List.mem_cons.mp hin with heq | hin'
    · -- this row: the value is there right after the assignment, and nobody touches the name later
      cases heq
      obtain ⟨w, hw⟩ := step_assign_get h n .global (.scalar v) none rfl
      refine ⟨_, ?_, assign_value w _ none⟩
      rw [← hw]
      simp only [VariableSet.get]
      refine congrArg (fun st => st.getLast?.map (·.var)) (run_all_other _ _ n ?_).1
      intro op hop
      obtain ⟨m, hm, hmem⟩ := initOps_names rest ln op hop
      exact ⟨m, hm, fun e => hnd.1 (e ▸ hmem)⟩
    · exact ih hnd.2 _ hN1 hin'

theorem initOps_frame (tbl : List (Name × String)) (ln : Name) (s : VariableSet) (n : Name)
    (hn : n ∉ tbl.map (·.1) ++ [ln]) :
    (s.run (initOps tbl ln)).all n = s.all n ∧ (s.run (initOps tbl ln)).contexts = s.contexts := by
  apply run_all_other
  intro op hop
  obtain ⟨m, hm, hmem⟩ := initOps_names tbl ln op hop
  exact ⟨m, hm, fun e => hn (e ▸ hmem)⟩

theorem initOps_contexts (tbl : List (Name × String)) (ln : Name) (s : VariableSet) :
    (s.run (initOps tbl ln)).contexts = s.contexts :=
  run_contexts _ s (fun op hop => by obtain ⟨m, hm, _⟩ := initOps_names tbl ln op hop; exact ⟨m, hm⟩)

def LinenoOK (s : VariableSet) (ln : Name) : Prop :=
  ∃ u, s.all ln = [⟨u, 0⟩] ∧ u.quirk = some .lineNumber

theorem dec_one (r : List VIC) (h : Dec 1 r) : r = [] ∨ ∃ v, r = [⟨v, 0⟩] := by
  cases r with
  | nil => exact Or.inl rfl
  | cons a r =>
    right
    have ha : a.ctx = 0 := by have := h.1; omega
    cases r with
    | nil => exact ⟨a.var, by cases a; simp_all⟩
    | cons b r => have := h.2.1; omega

theorem quirk_global_base (s : VariableSet) (h : Norm s) (h1 : s.contexts.length = 1) (ln : Name)
    (q : Option Quirk) : ∃ u, (s.step (.quirk ln .global q)).1.all ln = [⟨u, 0⟩] ∧ u.quirk = q := by
  -- the result is normalised and has one context, so the instance the quirk was written to is the only one
  have hN := norm_preserved _ (.quirk ln .global q) h
  have hd := hN.dec ln
  obtain ⟨w, rest, hst, _⟩ := stepM_head h ln .global rfl
  rw [step_write s (n := ln) rfl rfl, hst] at hd ⊢
  rw [top_setTop, if_pos rfl, show (s.setTop ln _).contexts.length = 1 from h1] at hd
  rcases dec_one _ hd with hr | ⟨v, hr⟩
  · cases hr
  · have hv : w.var.setQuirk q = v := congrArg VIC.var (List.cons.inj hr).1
    exact ⟨v, by rw [all_setTop_self, hr]; rfl, by rw [← hv]; rfl⟩

theorem popIf_base (len : Nat) (u : Variable) (h : 0 < len) : popIf len [⟨u, 0⟩] = [⟨u, 0⟩] := by
  simp only [popIf, List.getLast?_singleton]
  split
  · omega
  · rfl

theorem linenoOK_step (s : VariableSet) (ln : Name) (h : LinenoOK s ln) (op : Op) (hop : op.name? ≠ some ln) :
    LinenoOK (s.step op).1 ln := by
  obtain ⟨u, hu, hq⟩ := h
  cases hn : op.name? with
  | some m =>
    have hne : ln ≠ m := fun e => hop (e ▸ hn)
    exact ⟨u, by rw [(step_frame s op m hn).1 ln hne]; exact hu, hq⟩
  | none =>
    rcases Op.unnamed_cases hn with ⟨c, rfl⟩ | rfl | ⟨ps, rfl⟩
    · exact ⟨u, hu, hq⟩
    · show LinenoOK s.popContext ln
      by_cases hle : s.contexts.length ≤ 1
      · rw [popContext_of_le s hle]; exact ⟨u, hu, hq⟩
      · rw [popContext_eq s (by omega)]
        exact ⟨u, by simp only []; rw [hu]; exact popIf_base _ u (by omega), hq⟩
    · exact ⟨u, hu, hq⟩

theorem linenoOK_run (ops : List Op) (s : VariableSet) (ln : Name) (h : LinenoOK s ln)
    (hops : ∀ op ∈ ops, op.name? ≠ some ln) : LinenoOK (s.run ops) ln :=
  VariableSet.run_inv ops (fun t op ho ht => linenoOK_step t ln ht op (hops op ho)) s h

theorem initOps_lineno (tbl : List (Name × String)) (ln : Name) (s : VariableSet) (h : Norm s)
    (h1 : s.contexts.length = 1) : LinenoOK (s.run (initOps tbl ln)) ln := by
  obtain ⟨as, has⟩ : ∃ as, as = tbl.map (fun p => Op.assign p.1 .global (.scalar p.2) none) := ⟨_, rfl⟩
  have hrun : s.run (initOps tbl ln) = ((s.run as).step (.quirk ln .global (some .lineNumber))).1 := by
    simp only [initOps, ← has, VariableSet.run_append, VariableSet.run]
  have hc : (s.run as).contexts.length = 1 := by
    rw [run_contexts _ s (fun op hop => by
      rw [has, List.mem_map] at hop
      obtain ⟨p, _, rfl⟩ := hop
      exact ⟨p.1, rfl⟩)]
    exact h1
  rw [hrun]
  exact quirk_global_base _ (run_abs_from h as).2 hc ln (some .lineNumber)

theorem lineNumber_append (start : Nat) (pre post : List Char) :
    lineNumber start (String.ofList (pre ++ post)) pre.length = start + (pre.filter (· == '\n')).length := by
  simp [lineNumber, List.take_left']

theorem line_wrap (l : Loc) (segs : List (Nat × String × Nat)) : (l.wrap segs).line = l.line := by
  induction segs with
  | nil => rfl
  | cons p rest ih => obtain ⟨a, b, c⟩ := p; simpa [Loc.wrap, Loc.line] using ih

end YashModel.Variable
