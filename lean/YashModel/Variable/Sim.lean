/-
  C16 — the script interpreter (`Script.lean`) and the transcribed built-in glue (`BuiltinModel.lean`)
  run on two state implementations related by a simulation end in related states with the same
  output.  Everything below the statement level only issues operations other than `pop`, so it is
  proved for a relation that `pop` may break (`SimNoPop`); a unary invariant that every operation but
  `pop` preserves is the instance "both sides are the same state" (`Diag`; `RoPaths.lean`, `Prefix.lean`).  At the end the
  instance everything else uses: the Rust model and the Spec (`simM`).
-/
import YashModel.Variable.Script
import YashModel.Variable.Refine
namespace YashModel.Variable

structure Sim {σ τ : Type} (R : σ → τ → Prop) (I : Iface σ) (J : Iface τ) : Prop where
  step : ∀ s t op, R s t → R (I.step s op).1 (J.step t op).1 ∧ (I.step s op).2 = (J.step t op).2
  get : ∀ s t n, R s t → I.get s n = J.get t n
  getIn : ∀ s t n sc, R s t → I.getIn s n sc = J.getIn t n sc
  env : ∀ s t ns, R s t → I.env s ns = J.env t ns
  params : ∀ s t, R s t → I.params s = J.params t

abbrev RelOut {σ τ β : Type} (R : σ → τ → Prop) (p : σ × β) (q : τ × β) : Prop := R p.1 q.1 ∧ p.2 = q.2

structure SimNoPop {σ τ : Type} (R : σ → τ → Prop) (I : Iface σ) (J : Iface τ) : Prop where
  step : ∀ s t op, op ≠ .pop → R s t → RelOut R (I.step s op) (J.step t op)
  get : ∀ s t n, R s t → I.get s n = J.get t n

variable {σ τ : Type} {R : σ → τ → Prop} {I : Iface σ} {J : Iface τ}

theorem Sim.noPop (h : Sim R I J) : SimNoPop R I J := ⟨fun s t op _ => h.step s t op, h.get⟩

/-- a unary invariant as a relation of a state with itself: what the operations `ok` keep, the `_sim` lemmas carry
    through whatever is built from such operations -/
def Diag {σ : Type} (P : σ → Prop) (s t : σ) : Prop := s = t ∧ P t

theorem diag_step {P : σ → Prop} {ok : Op → Prop} (h : ∀ s op, ok op → P s → P (I.step s op).1) :
    ∀ s t op, ok op → Diag P s t → RelOut (Diag P) (I.step s op) (I.step t op) := by
  rintro s _ op ho ⟨rfl, hp⟩; exact ⟨⟨rfl, h s op ho hp⟩, rfl⟩

theorem diag_noPop {P : σ → Prop} (h : ∀ s op, op ≠ .pop → P s → P (I.step s op).1) : SimNoPop (Diag P) I I :=
  ⟨diag_step h, by rintro s _ n ⟨rfl, _⟩; rfl⟩

theorem rel_cases {β : Type} {p : σ × β} {q : τ × β} (h : RelOut R p q) :
    ∃ s t b, p = (s, b) ∧ q = (t, b) ∧ R s t :=
  ⟨p.1, q.1, p.2, rfl, by rw [h.2], h.1⟩

theorem ite_rel {α β : Type} {R : α → β → Prop} {c : Prop} [Decidable c] {a b : α} {a' b' : β}
    (h1 : R a a') (h2 : R b b') : R (if c then a else b) (if c then a' else b') := by
  split <;> assumption

/-! ### a refused step

  `runOps`, `readAssign`, `unsetVariable`, `cdSetVariable`, `executeField` and `extend_env` all look at the result of a
  step in one way: was it refused because of a read-only variable, or not. -/

def Res.refused : Res → Bool
  | .readOnly _ => true
  | _ => false

theorem Res.refused_eq_false {r : Res} : r.refused = false ↔ ∀ l, r ≠ .readOnly l := by
  cases r <;> simp [Res.refused]

def refusedOr {σ β : Type} (p : σ × Res) (A B : σ → β) : β := if p.2.refused then A p.1 else B p.1

theorem refusedOr_rel {β γ : Type} {Q : β → γ → Prop} {p : σ × Res} {q : τ × Res} (h : RelOut R p q)
    {A B : σ → β} {A' B' : τ → γ} (hA : ∀ s t, R s t → Q (A s) (A' t)) (hB : ∀ s t, R s t → Q (B s) (B' t)) :
    Q (refusedOr p A B) (refusedOr q A' B') := by
  unfold refusedOr
  rw [h.2]
  split
  · exact hA _ _ h.1
  · exact hB _ _ h.1

theorem runOps_cons (I : Iface σ) (s : σ) (op : Op) (ops : List Op) :
    runOps I s (op :: ops) = refusedOr (I.step s op) (·, true) (runOps I · ops) := by
  simp only [runOps, refusedOr]
  rcases I.step s op with ⟨s1, r⟩
  cases r <;> rfl

theorem readAssign_eq (I : Iface σ) (s : σ) (x : Name × Value) :
    readAssign I s x = refusedOr (I.step s (.assign x.1 .global x.2 none)) (·, true) (·, false) := by
  simp only [readAssign, refusedOr]
  rcases I.step s (.assign x.1 .global x.2 none) with ⟨s1, r⟩
  cases r <;> rfl

theorem unsetVariable_eq (I : Iface σ) (s : σ) (n : Name) :
    unsetVariable I s n = refusedOr (I.step s (.unset n .global)) (·, true) (·, false) := by
  simp only [unsetVariable, refusedOr]
  rcases I.step s (.unset n .global) with ⟨s1, r⟩
  cases r <;> rfl

theorem cdSetVariable_eq (I : Iface σ) (s : σ) (p : Name × String) :
    cdSetVariable I s p = refusedOr (I.step s (.assign p.1 .global (.scalar p.2) none)) (·, true)
      (fun s1 => ((I.step s1 (.export p.1 .global true)).1, false)) := by
  simp only [cdSetVariable, refusedOr]
  rcases I.step s (.assign p.1 .global (.scalar p.2) none) with ⟨s1, r⟩
  cases r <;> rfl

/-- one round of `extend_env` (`VariableSet.extendEnv1`, `SSet.extendEnv1`) over a state implementation -/
def extendRound (I : Iface σ) (s : σ) (n : Name) (v : String) : σ :=
  refusedOr (I.step s (.assign n .global (.scalar v) none)) id (fun s1 => (I.step s1 (.export n .global true)).1)

theorem VariableSet.extendEnv1_eq (s : VariableSet) (n : Name) (v : String) :
    s.extendEnv1 n v = extendRound ifaceM s n v := by
  cases hst : s.step (.assign n .global (.scalar v) none) with
  | mk s1 r => simp only [VariableSet.extendEnv1, extendRound, refusedOr, ifaceM, hst]; cases r <;> rfl

theorem SSet.extendEnv1_eq (X : SSet) (n : Name) (v : String) : X.extendEnv1 n v = extendRound ifaceS X n v := by
  cases hst : X.step (.assign n .global (.scalar v) none) with
  | mk X1 r => simp only [SSet.extendEnv1, extendRound, refusedOr, ifaceS, hst]; cases r <;> rfl

theorem extendRound_sim (h : SimNoPop R I J) (n : Name) (v : String) (s : σ) (t : τ) (hR : R s t) :
    R (extendRound I s n v) (extendRound J t n v) :=
  refusedOr_rel (Q := R) (h.step s t _ (by simp) hR) (fun _ _ hr => hr) (fun s1 t1 hr => (h.step s1 t1 _ (by simp) hr).1)

theorem executeField_eq (I : Iface σ) (sv : SetVariables) (s : σ) (x : String) :
    executeField I sv s x = match splitAssign x with
      | (n, none) => attrLoop I n sv.scope.toScope sv.attrs (I.step s (.getOrNew n sv.scope.toScope)).1
      | (n, some v) => refusedOr (I.step s (.assign n sv.scope.toScope (.scalar v) none)) (·, true)
          (attrLoop I n sv.scope.toScope sv.attrs ·) := by
  unfold executeField refusedOr
  rcases splitAssign x with ⟨n, ov⟩
  cases ov with
  | none => rfl
  | some v =>
    simp only []
    rcases I.step s (.assign n sv.scope.toScope (.scalar v) none) with ⟨s1, r⟩
    cases r <;> rfl

theorem runOps_sim {ok : Op → Prop}
    (hstep : ∀ s t op, ok op → R s t → RelOut R (I.step s op) (J.step t op))
    (ops : List Op) (hops : ∀ op ∈ ops, ok op) (s : σ) (t : τ) (hR : R s t) :
    RelOut R (runOps I s ops) (runOps J t ops) := by
  induction ops generalizing s t with
  | nil => exact ⟨hR, rfl⟩
  | cons op ops ih =>
    rw [runOps_cons, runOps_cons]
    exact refusedOr_rel (hstep s t op (hops op (by simp)) hR) (fun _ _ hr => ⟨hr, rfl⟩)
      (fun s' t' hr => ih (fun o ho => hops o (by simp [ho])) s' t' hr)

theorem assignOps_noPop (sc : Scope) (ex : Bool) (n : Name) (v : Value) : ∀ op ∈ assignOps sc ex n v, op ≠ .pop := by
  intro op hop
  cases ex <;> simp [assignOps] at hop <;> rcases hop with rfl | rfl <;> simp

theorem runAssigns_simOn {ok : Op → Prop}
    (hstep : ∀ s t op, ok op → R s t → RelOut R (I.step s op) (J.step t op))
    (hget : ∀ s t n, R s t → I.get s n = J.get t n) (sc : Scope) (ex : Bool)
    (hok : ∀ n v, ∀ op ∈ assignOps sc ex n v, ok op) (as : List (Name × AVal)) (s : σ) (t : τ) (hR : R s t) :
    RelOut R (runAssigns I sc ex s as) (runAssigns J sc ex t as) := by
  induction as generalizing s t with
  | nil => exact ⟨hR, rfl⟩
  | cons p rest ih =>
    obtain ⟨n, e⟩ := p
    have he : evalA I s e = evalA J t e := by cases e <;> simp [evalA, hget s t _ hR]
    obtain ⟨s1, t1, b, hI, hJ, hr⟩ :=
      rel_cases (runOps_sim hstep (assignOps sc ex n (evalA J t e)) (hok _ _) s t hR)
    simp only [runAssigns, he, hI, hJ]
    cases b
    · exact ih s1 t1 hr
    · exact ⟨hr, rfl⟩

theorem runAssigns_sim (h : SimNoPop R I J) (sc : Scope) (ex : Bool) (as : List (Name × AVal)) (s : σ) (t : τ)
    (hR : R s t) : RelOut R (runAssigns I sc ex s as) (runAssigns J sc ex t as) :=
  runAssigns_simOn h.step h.get sc ex (assignOps_noPop sc ex) as s t hR

theorem applyAttrs_sim (h : SimNoPop R I J) (n : Name) (sc : Scope) (attrs : List String) (s : σ) (t : τ)
    (hR : R s t) : R (applyAttrs I n sc attrs s) (applyAttrs J n sc attrs t) := by
  induction attrs generalizing s t with
  | nil => exact hR
  | cons a rest ih =>
    have one : ∀ op, op ≠ .pop →
        R (applyAttrs I n sc rest (I.step s op).1) (applyAttrs J n sc rest (J.step t op).1) :=
      fun op hop => ih _ _ (h.step s t op hop hR).1
    simp only [applyAttrs, h.get s t n hR]
    -- the `if`s of `applyAttrs`: `-r`; `+r` (refused on a read-only variable, else on); `-x`; `+x` / `-X`; other
    exact ite_rel (one _ (by simp)) (ite_rel (ite_rel hR (ih _ _ hR))
      (ite_rel (one _ (by simp)) (ite_rel (one _ (by simp)) (ih _ _ hR))))

theorem operandOps_noPop (sc : Scope) (x : String) : ∀ op ∈ operandOps sc x, op ≠ .pop := by
  intro op hop
  unfold operandOps at hop
  split at hop <;> simp at hop <;> subst hop <;> simp

theorem typesetField_sim (h : SimNoPop R I J) (sc : Scope) (attrs : List String) (x : String) (s : σ) (t : τ)
    (hR : R s t) : R (typesetField I sc attrs s x) (typesetField J sc attrs t x) := by
  obtain ⟨s1, t1, b, hI, hJ, hr⟩ := rel_cases (runOps_sim h.step (operandOps sc x) (operandOps_noPop sc x) s t hR)
  simp only [typesetField, hI, hJ]
  cases b
  · exact applyAttrs_sim h _ sc attrs s1 t1 hr
  · exact hr

theorem typesetFold_simNoPop (h : SimNoPop R I J) (sc : Scope) (attrs operands : List String) (s : σ) (t : τ)
    (hR : R s t) :
    R (operands.foldl (typesetField I sc attrs) s) (operands.foldl (typesetField J sc attrs) t) := by
  induction operands generalizing s t with
  | nil => exact hR
  | cons x rest ih => exact ih _ _ (typesetField_sim h sc attrs x s t hR)

theorem typesetFold_sim (h : Sim R I J) (sc : Scope) (attrs operands : List String) (s : σ) (t : τ)
    (hR : R s t) :
    R (operands.foldl (typesetField I sc attrs) s) (operands.foldl (typesetField J sc attrs) t) :=
  typesetFold_simNoPop h.noPop sc attrs operands s t hR

theorem foldErrors_sim {ι : Type} (f : σ → ι → σ × Bool) (g : τ → ι → τ × Bool)
    (hfg : ∀ s t i, R s t → RelOut R (f s i) (g t i)) (items : List ι) (s : σ) (t : τ)
    (e : Nat) (hR : R s t) :
    RelOut R (foldErrors f items (s, e)) (foldErrors g items (t, e)) := by
  induction items generalizing s t e with
  | nil => exact ⟨hR, rfl⟩
  | cons i rest ih =>
    obtain ⟨s1, t1, b, hI, hJ, hr⟩ := rel_cases (hfg s t i hR)
    simp only [foldErrors, hI, hJ]
    exact ih s1 t1 _ hr

theorem attrLoop_sim (h : SimNoPop R I J) (n : Name) (sc : Scope) (attrs : List (VAttr × Bool)) (s : σ) (t : τ)
    (hR : R s t) :
    RelOut R (attrLoop I n sc attrs s) (attrLoop J n sc attrs t) := by
  induction attrs generalizing s t with
  | nil => exact ⟨hR, rfl⟩
  | cons a rest ih =>
    obtain ⟨a, st⟩ := a
    simp only [attrLoop, h.get s t n hR]
    cases armAction a st with
    | makeReadOnly | exportTrue | exportFalse => exact ih _ _ (h.step s t _ (by simp) hR).1
    | refuseIfReadOnly => exact ite_rel (R := RelOut R) ⟨hR, rfl⟩ (ih _ _ hR)

theorem executeField_sim (h : SimNoPop R I J) (sv : SetVariables) (s : σ) (t : τ) (x : String) (hR : R s t) :
    RelOut R (executeField I sv s x) (executeField J sv t x) := by
  rw [executeField_eq, executeField_eq]
  rcases splitAssign x with ⟨n, ov⟩
  cases ov with
  | none => exact attrLoop_sim h n _ sv.attrs _ _ (h.step s t _ (by simp) hR).1
  | some v =>
    exact refusedOr_rel (h.step s t _ (by simp) hR) (fun _ _ hr => ⟨hr, rfl⟩)
      (fun s1 t1 hr => attrLoop_sim h n _ sv.attrs s1 t1 hr)

theorem execute_sim (h : SimNoPop R I J) (sv : SetVariables) (s : σ) (t : τ) (hR : R s t) :
    RelOut R (sv.execute I s) (sv.execute J t) :=
  foldErrors_sim _ _ (fun s t x hr => executeField_sim h sv s t x hr) sv.variables s t 0 hR

theorem typesetMain_sim (h : SimNoPop R I J) (occs : List OptOcc) (operands : List String) (s : σ) (t : τ)
    (hR : R s t) :
    RelOut R (typesetMain I occs operands s) (typesetMain J occs operands t) :=
  execute_sim h _ s t hR

theorem declMain_sim (h : SimNoPop R I J) (attr : VAttr) (occs : List OptOcc) (operands : List String) (s : σ)
    (t : τ) (hR : R s t) :
    RelOut R (declMain I attr occs operands s) (declMain J attr occs operands t) :=
  execute_sim h _ s t hR

theorem readAssign_sim (h : SimNoPop R I J) (s : σ) (t : τ) (x : Name × Value) (hR : R s t) :
    RelOut R (readAssign I s x) (readAssign J t x) := by
  rw [readAssign_eq, readAssign_eq]
  exact refusedOr_rel (h.step s t _ (by simp) hR) (fun _ _ hr => ⟨hr, rfl⟩) (fun _ _ hr => ⟨hr, rfl⟩)

theorem unsetVariable_sim (h : SimNoPop R I J) (s : σ) (t : τ) (n : Name) (hR : R s t) :
    RelOut R (unsetVariable I s n) (unsetVariable J t n) := by
  rw [unsetVariable_eq, unsetVariable_eq]
  exact refusedOr_rel (h.step s t _ (by simp) hR) (fun _ _ hr => ⟨hr, rfl⟩) (fun _ _ hr => ⟨hr, rfl⟩)

theorem unsetVariables_sim (h : SimNoPop R I J) (names : List Name) (s : σ) (t : τ) (hR : R s t) :
    RelOut R (unsetVariables I names s) (unsetVariables J names t) :=
  foldErrors_sim _ _ (fun s t x hr => unsetVariable_sim h s t x hr) names s t 0 hR

theorem cdSetVariable_sim (h : SimNoPop R I J) (s : σ) (t : τ) (p : Name × String) (hR : R s t) :
    RelOut R (cdSetVariable I s p) (cdSetVariable J t p) := by
  rw [cdSetVariable_eq, cdSetVariable_eq]
  exact refusedOr_rel (h.step s t _ (by simp) hR) (fun _ _ hr => ⟨hr, rfl⟩)
    (fun s1 t1 hr => ⟨(h.step s1 t1 _ (by simp) hr).1, rfl⟩)

theorem expOf_sim (h : Sim R I J) (s : σ) (t : τ) (hR : R s t) : expOf I s = expOf J t := by
  unfold expOf
  simp only [h.get s t _ hR, h.params s t hR]

theorem vline_sim (h : Sim R I J) (e : String) (s : σ) (t : τ) (hR : R s t) : vline I e s = vline J e t := by
  unfold vline showState
  simp only [h.get s t _ hR, h.params s t hR]

theorem unwindAll_sim (h : Sim R I J) (s : σ) (t : τ) (hR : R s t) : R (unwindAll I s) (unwindAll J t) := by
  unfold unwindAll
  generalize List.replicate 8 Op.pop = ops
  induction ops generalizing s t with
  | nil => exact hR
  | cons op ops ih => exact ih _ _ (h.step s t op hR).1

theorem endLine_sim (h : Sim R I J) (s : σ) (t : τ) (st : Status) (hR : R s t) : endLine I s st = endLine J t st := by
  have hu := unwindAll_sim h s t hR
  unfold endLine showState
  simp only [h.get _ _ _ hu, h.params _ _ hu]

theorem printLines_sim (h : Sim R I J) (b : String) (opts names : List String) (s : σ) (t : τ) (hR : R s t) :
    printLines I s b opts names = printLines J t b opts names := by
  unfold printLines
  simp only [h.getIn s t _ _ hR]

theorem execStmts_sim (h : Sim R I J) (funs : List (String × List Stmt)) :
    ∀ (fuel : Nat) (s : σ) (t : τ) (stmts : List Stmt) (out : List String), R s t →
      R (execStmts I funs fuel s stmts out).1 (execStmts J funs fuel t stmts out).1 ∧
      (execStmts I funs fuel s stmts out).2 = (execStmts J funs fuel t stmts out).2 := by
  have h' := h.noPop
  intro fuel
  induction fuel with
  | zero =>
    intro s t stmts out hR
    cases stmts <;> exact ⟨hR, rfl⟩
  | succ fuel ih =>
    intro s t stmts out hR
    cases stmts with
    | nil => exact ⟨hR, rfl⟩
    | cons st rest =>
      unfold execStmts
      have fin : ∀ (s' : σ) (t' : τ) (o : List String), R s' t' →
          R (execStmts I funs fuel s' rest (vline I (expOf I s') s' :: o)).1
            (execStmts J funs fuel t' rest (vline J (expOf J t') t' :: o)).1 ∧
          (execStmts I funs fuel s' rest (vline I (expOf I s') s' :: o)).2 =
            (execStmts J funs fuel t' rest (vline J (expOf J t') t' :: o)).2 := by
        intro s' t' o hr
        rw [expOf_sim h s' t' hr, vline_sim h _ s' t' hr]
        exact ih s' t' rest _ hr
      -- the assignment prefix of a command that runs in a volatile context of its own
      have temps : ∀ tmps, ∃ s1 t1 b,
          runAssigns I .volatile true (I.step s (.push .volatile)).1 tmps = (s1, b) ∧
          runAssigns J .volatile true (J.step t (.push .volatile)).1 tmps = (t1, b) ∧ R s1 t1 :=
        fun tmps => rel_cases (runAssigns_sim h' .volatile true tmps _ _ (h.step s t (.push .volatile) hR).1)
      cases hact : stmtAction st with
      | special as ops =>
        obtain ⟨s0, t0, b0, hI0, hJ0, hr0⟩ := rel_cases (runAssigns_sim h' .global false as s t hR)
        simp only [hI0, hJ0]
        cases b0
        · obtain ⟨s1, t1, b, hI, hJ, hr⟩ := rel_cases
            (runOps_sim (ok := fun _ => True) (fun s t op _ => h.step s t op) ops (fun _ _ => trivial) s0 t0 hr0)
          simp only [hI, hJ]
          cases b
          · exact fin s1 t1 _ hr
          · exact ⟨hr, rfl⟩
        · exact ⟨hr0, rfl⟩
      | ret | bad => exact ⟨hR, rfl⟩
      | decl as attr operands =>
        obtain ⟨s0, t0, b0, hI0, hJ0, hr0⟩ := rel_cases (runAssigns_sim h' .global false as s t hR)
        simp only [hI0, hJ0]
        cases b0
        · obtain ⟨s1, t1, e, hI, hJ, hr⟩ := rel_cases (declMain_sim h' attr [] operands s0 t0 hr0)
          simp only [hI, hJ]
          cases e
          · exact fin s1 t1 _ hr
          · exact ⟨hr, rfl⟩
        · exact ⟨hr0, rfl⟩
      | unsetv names =>
        obtain ⟨s1, t1, e, hI, hJ, hr⟩ := rel_cases (unsetVariables_sim h' names s t hR)
        simp only [hI, hJ]
        cases e
        · exact fin s1 t1 _ hr
        · exact ⟨hr, rfl⟩
      | write kind targets =>
        simp only []
        split
        · obtain ⟨s1, t1, e, hI, hJ, hr⟩ :=
            rel_cases (foldErrors_sim _ _ (fun s t x hr => readAssign_sim h' s t x hr) targets s t 0 hR)
          simp only [hI, hJ]
          exact fin s1 t1 _ hr
        · simp only [h.get s t _ hR]
          generalize (if kind = "def" then targets.filter (fun x => ((J.get t x.1).bind (·.value)).isNone) else targets) = tg
          obtain ⟨s1, t1, b, hI, hJ, hr⟩ := rel_cases
            (runOps_sim h'.step (tg.map fun x => Op.assign x.1 .global x.2 none)
              (fun op hop => by simp only [List.mem_map] at hop; obtain ⟨x, _, rfl⟩ := hop; simp) s t hR)
          simp only [hI, hJ]
          cases b
          · exact fin s1 t1 _ hr
          · exact ⟨hr, rfl⟩
      | typeset tmps occs operands =>
        obtain ⟨s1, t1, b, hI, hJ, hr⟩ := temps tmps
        simp only [hI, hJ]
        cases b
        · obtain ⟨s2, t2, e, hI2, hJ2, hr2⟩ := rel_cases (typesetMain_sim h' occs operands s1 t1 hr)
          simp only [hI2, hJ2]
          exact fin _ _ _ (h.step _ _ _ hr2).1
        · exact ⟨hr, rfl⟩
      | print b opts names =>
        simp only [h.getIn s t _ _ hR]
        split
        · exact ⟨hR, rfl⟩
        · have hs1 : R (if b = "t" then (I.step s (.push .volatile)).1 else s)
              (if b = "t" then (J.step t (.push .volatile)).1 else t) := by
            split
            · exact (h.step s t _ hR).1
            · exact hR
          rw [printLines_sim h b opts names _ _ hs1]
          exact fin s t _ hR
      | regular kind tmps =>
        obtain ⟨s1, t1, b, hI, hJ, hr⟩ := temps tmps
        simp only [hI, hJ]
        cases b
        · simp only []
          rw [expOf_sim h s t hR, vline_sim h _ s1 t1 hr, h.env s1 t1 _ hr]
          exact fin _ _ _ (h.step s1 t1 _ hr).1
        · exact ⟨hr, rfl⟩
      | call f tmps args =>
        simp only []
        cases funs.lookup f with
        | none => exact ⟨hR, rfl⟩
        | some body =>
          obtain ⟨s1, t1, b, hI, hJ, hr⟩ := temps tmps
          simp only [hI, hJ]
          cases b
          · obtain ⟨s3, t3, p, hbI, hbJ, hr3⟩ := rel_cases
              (ih (I.step s1 (.push (.regular args))).1 (J.step t1 (.push (.regular args))).1 body
                (s!"@{st.kind}" :: out) (h.step s1 t1 _ hr).1)
            simp only [hbI, hbJ]
            obtain ⟨o, stt⟩ := p
            cases stt
            · exact fin _ _ _ (h.step _ _ _ (h.step s3 t3 _ hr3).1).1
            · exact ⟨hr3, rfl⟩
            · exact fin _ _ _ (h.step _ _ _ (h.step s3 t3 _ hr3).1).1
          · exact ⟨hr, rfl⟩

theorem simM : Sim (fun (s : VariableSet) (X : SSet) => Norm s ∧ abs s = X) ifaceM ifaceS where
  step := by
    rintro s X op ⟨hN, rfl⟩
    exact ⟨⟨(step_abs hN op).2.2, (step_abs hN op).1⟩, (step_abs hN op).2.1⟩
  get := by rintro s X n ⟨hN, rfl⟩; exact get_refines _ hN n
  getIn := by rintro s X n sc ⟨hN, rfl⟩; exact getScoped_refines _ hN n sc
  env := by rintro s X ns ⟨hN, rfl⟩; exact env_refines _ hN ns
  params := by rintro s X ⟨_, rfl⟩; exact positionalParams_refines s

end YashModel.Variable
