/-
  C16 — `Script.lean`'s own description of `typeset` (`typesetField`, `applyAttrs` over option strings) and
  `Exec.lean`'s operation lists for `export`, `readonly`, `unset` (`exportOps`, `readonlyOps`, `unsetOps`, run to
  the first refusal) against the transcribed built-in glue of `BuiltinModel.lean` (`executeField`, `unsetVariable`).
-/
import YashModel.Variable.BuiltinModel
import YashModel.Variable.Sim
namespace YashModel.Variable

/-- the operations that go through `get_or_new` and then change an attribute are never refused -/
structure NoRefusal {σ} (I : Iface σ) : Prop where
  getOrNew : ∀ s n sc l, (I.step s (.getOrNew n sc)).2 ≠ .readOnly l
  «export» : ∀ s n sc b l, (I.step s (.export n sc b)).2 ≠ .readOnly l
  readonly : ∀ s n sc k l, (I.step s (.readonly n sc k)).2 ≠ .readOnly l

theorem noRefusal_M : NoRefusal ifaceM := by
  refine ⟨?_, ?_, ?_⟩ <;> intros <;> simp only [ifaceM, VariableSet.step] <;> split <;> simp

theorem noRefusal_S : NoRefusal ifaceS := by
  refine ⟨?_, ?_, ?_⟩ <;> intros <;> simp only [ifaceS, SSet.step] <;> split <;> simp

theorem runOps_append {σ} (I : Iface σ) (a b : List Op) (s : σ) :
    runOps I s (a ++ b) = match runOps I s a with
      | (s', true) => (s', true)
      | (s', false) => runOps I s' b := by
  induction a generalizing s with
  | nil => simp [runOps]
  | cons op a ih =>
    rw [List.cons_append, runOps_cons, runOps_cons]
    unfold refusedOr
    split
    · rfl
    · exact ih _

theorem runOps_cons_ok {σ} (I : Iface σ) (op : Op) (t : List Op) (s : σ)
    (h : ∀ l, (I.step s op).2 ≠ .readOnly l) : runOps I s (op :: t) = runOps I (I.step s op).1 t := by
  rw [runOps_cons, refusedOr, Res.refused_eq_false.2 h]; rfl

theorem runOps_one {σ} (I : Iface σ) (op : Op) (s : σ) (h : ∀ l, (I.step s op).2 ≠ .readOnly l) :
    runOps I s [op] = ((I.step s op).1, false) :=
  runOps_cons_ok I op [] s h

theorem foldErrors_ge {σ ι} (f : σ → ι → σ × Bool) (items : List ι) (s : σ) (e : Nat) :
    e ≤ (foldErrors f items (s, e)).2 := by
  induction items generalizing s e with
  | nil => exact Nat.le_refl _
  | cons i t ih =>
    simp only [foldErrors]
    exact Nat.le_trans (Nat.le_add_right _ _) (ih _ _)

theorem runOps_flatMap_fold {σ ι} (I : Iface σ) (ops : ι → List Op) (f : σ → ι → σ × Bool)
    (hitem : ∀ s i, runOps I s (ops i) = f s i) (items : List ι) (s : σ) (e : Nat) :
    ((runOps I s (items.flatMap ops)).2 = true ↔ e < (foldErrors f items (s, e)).2) ∧
    ((foldErrors f items (s, e)).2 = e → runOps I s (items.flatMap ops) = ((foldErrors f items (s, e)).1, false)) := by
  induction items generalizing s e with
  | nil => simp [runOps, foldErrors]
  | cons i t ih =>
    simp only [List.flatMap_cons, runOps_append, hitem, foldErrors]
    rcases hf : f s i with ⟨s1, b⟩
    cases b with
    | true =>
      have hge := foldErrors_ge f t s1 (e + 1)
      simp only [Bool.toNat_true]
      exact ⟨⟨fun _ => by omega, fun _ => trivial⟩, fun h => by omega⟩
    | false => simpa using ih s1 e

/-- how the harness writes an option occurrence -/
def optString (o : OptOcc) : String := (if o.state then "-" else "+") ++ String.singleton o.short

/-- the option occurrences of the `typeset` family the script leg generates: -g -r -x -X +x +r -/
def typesetFamily : List OptOcc :=
  [⟨'g', true⟩, ⟨'r', true⟩, ⟨'x', true⟩, ⟨'X', true⟩, ⟨'x', false⟩, ⟨'r', false⟩]

theorem interpret_foldl_attrs (os : List OptOcc) (r : Interp) :
    (os.foldl interpretStep r).attrs = r.attrs ++ (os.foldl interpretStep {}).attrs ∧
    (os.foldl interpretStep r).global = (r.global || (os.foldl interpretStep {}).global) := by
  induction os generalizing r with
  | nil => simp
  | cons o os ih =>
    simp only [List.foldl_cons]
    rw [(ih (interpretStep r o)).1, (ih (interpretStep {} o)).1, (ih (interpretStep r o)).2,
      (ih (interpretStep {} o)).2]
    unfold interpretStep
    cases optionRole o.short <;> simp

theorem interpretLoop_cons (o : OptOcc) (os : List OptOcc) :
    (interpretLoop (o :: os)).attrs = (interpretStep {} o).attrs ++ (interpretLoop os).attrs ∧
    (interpretLoop (o :: os)).global = ((interpretStep {} o).global || (interpretLoop os).global) := by
  simp only [interpretLoop, List.foldl_cons]
  exact interpret_foldl_attrs os _

theorem typesetFamily_induction {motive : List OptOcc → Prop} (nil : motive [])
    (g : ∀ os, motive os → motive (⟨'g', true⟩ :: os)) (r : ∀ os, motive os → motive (⟨'r', true⟩ :: os))
    (x : ∀ os, motive os → motive (⟨'x', true⟩ :: os)) (X : ∀ os, motive os → motive (⟨'X', true⟩ :: os))
    (px : ∀ os, motive os → motive (⟨'x', false⟩ :: os)) (pr : ∀ os, motive os → motive (⟨'r', false⟩ :: os)) :
    ∀ occs : List OptOcc, (∀ o ∈ occs, o ∈ typesetFamily) → motive occs := by
  intro occs hfam
  induction occs with
  | nil => exact nil
  | cons o occs ih =>
    have ih := ih fun o' h => hfam o' (by simp [h])
    have ho := hfam o (by simp)
    simp only [typesetFamily, List.mem_cons, List.not_mem_nil, or_false] at ho
    rcases ho with rfl | rfl | rfl | rfl | rfl | rfl
    · exact g _ ih
    · exact r _ ih
    · exact x _ ih
    · exact X _ ih
    · exact px _ ih
    · exact pr _ ih

/-- Script.lean's `applyAttrs` over the option strings = the attribute loop of
    `SetVariables::execute` over the attributes `interpret` collects -/
theorem applyAttrs_eq_attrLoop {σ} (I : Iface σ) (n : Name) (sc : Scope) (occs : List OptOcc)
    (hfam : ∀ o ∈ occs, o ∈ typesetFamily) (s : σ) :
    applyAttrs I n sc (occs.map optString) s = (attrLoop I n sc (interpretLoop occs).attrs s).1 := by
  revert s
  refine typesetFamily_induction (motive := fun occs => ∀ s, applyAttrs I n sc (occs.map optString) s =
    (attrLoop I n sc (interpretLoop occs).attrs s).1) (fun _ => rfl) ?g ?r ?x ?X ?px ?pr occs hfam
  all_goals intro os ih s; rw [(interpretLoop_cons _ os).1]
  -- -g is no attribute; -r -x -X +x are one round of both loops
  case g => exact ih s
  case r => exact ih _
  case x => exact ih _
  case X => exact ih _
  case px => exact ih _
  case pr =>
    -- +r is the check: refused on a read-only variable, which skips the rest
    show (if ((I.get s n).map (·.isReadOnly)).getD false then s else _) = _
    show _ = (if ((I.get s n).map (·.isReadOnly)).getD false then (s, true) else _).1
    split
    · rfl
    · exact ih s

/-- the scope `Script.lean` derives from the option strings is the one `interpret` derives -/
theorem typeset_scope_eq (occs : List OptOcc) (hfam : ∀ o ∈ occs, o ∈ typesetFamily) :
    (if (occs.map optString).contains "-g" then Scope.global else Scope.loc)
      = (interpretScope (interpretLoop occs)).toScope := by
  refine typesetFamily_induction (motive := fun occs =>
    (if (occs.map optString).contains "-g" then Scope.global else Scope.loc)
      = (interpretScope (interpretLoop occs)).toScope) rfl ?g ?r ?x ?X ?px ?pr occs hfam
  case g => intro os _; simp only [interpretScope, (interpretLoop_cons _ os).2]; rfl
  -- no other option string is "-g", no other occurrence sets the flag
  all_goals
    intro os ih
    simp only [interpretScope, (interpretLoop_cons _ os).2] at ih ⊢
    simp only [List.map_cons, List.contains_cons] at ih ⊢
    exact ih

theorem optOccOf_optString_mem : ∀ o ∈ typesetFamily, optOccOf (optString o) = some o := by decide

theorem optOccOf_optString (occs : List OptOcc) (hfam : ∀ o ∈ occs, o ∈ typesetFamily) :
    (occs.map optString).filterMap optOccOf = occs := by
  induction occs with
  | nil => rfl
  | cons o occs ih =>
    rw [List.map_cons, List.filterMap_cons, optOccOf_optString_mem o (hfam o (by simp)),
      ih fun o' h => hfam o' (by simp [h])]

theorem typesetField_eq_executeField {σ} (I : Iface σ) (hI : NoRefusal I) (tsc : TScope) (occs : List OptOcc)
    (hfam : ∀ o ∈ occs, o ∈ typesetFamily) (operands : List String) (s : σ) (t : String) :
    typesetField I tsc.toScope (occs.map optString) s t
      = (executeField I ⟨operands, (interpretLoop occs).attrs, tsc⟩ s t).1 := by
  rw [executeField_eq]
  unfold typesetField operandOps operandName
  rcases hsp : splitAssign t with ⟨n, ov⟩
  cases ov with
  | none =>
    simp only [runOps_one I _ s (hI.getOrNew s n _)]
    exact applyAttrs_eq_attrLoop I n _ occs hfam _
  | some v =>
    -- a refused assignment skips the attributes on both sides
    rw [runOps_cons]
    by_cases hr : (I.step s (.assign n tsc.toScope (.scalar v) none)).2.refused = true
    · simp only [refusedOr, hr, if_true]
    · simp only [refusedOr, hr, runOps]
      exact applyAttrs_eq_attrLoop I n _ occs hfam _

theorem foldErrors_fst {σ ι} (f : σ → ι → σ × Bool) (items : List ι) (s : σ) (e : Nat) :
    (foldErrors f items (s, e)).1 = items.foldl (fun s i => (f s i).1) s := by
  induction items generalizing s e with
  | nil => rfl
  | cons i t ih => simp only [foldErrors, List.foldl_cons]; exact ih _ _

theorem declField_eq {σ} (I : Iface σ) (hI : NoRefusal I) (operands : List String) (s : σ) (t : String) :
    runOps I s (exportOps (operandOf t).1 (operandOf t).2)
      = executeField I ⟨operands, [(.export, true)], .global⟩ s t ∧
    runOps I s (readonlyOps (operandOf t).1 (operandOf t).2 1)
      = executeField I ⟨operands, [(.readOnly, true)], .global⟩ s t := by
  rw [executeField_eq, executeField_eq]
  unfold operandOf
  rcases hsp : splitAssign t with ⟨n, ov⟩
  cases ov with
  | none =>
    simp only [Option.map_none, exportOps, readonlyOps, TScope.toScope, attrLoop, armAction]
    rw [runOps_cons_ok I _ _ s (hI.getOrNew s n _), runOps_cons_ok I _ _ s (hI.getOrNew s n _),
      runOps_one I _ _ (hI.export _ n _ _), runOps_one I _ _ (hI.readonly _ n _ _)]
    exact ⟨rfl, rfl⟩
  | some v =>
    -- refused: both stop; otherwise the one attribute operation is never refused
    simp only [Option.map_some, exportOps, readonlyOps, TScope.toScope, attrLoop, armAction]
    rw [runOps_cons, runOps_cons]
    by_cases hr : (I.step s (.assign n .global (.scalar v) none)).2.refused = true
    · simp only [refusedOr, hr, if_true, and_self]
    · simp only [refusedOr, hr]
      exact ⟨runOps_one I _ _ (hI.export _ n _ _), runOps_one I _ _ (hI.readonly _ n _ _)⟩

theorem unsetField_eq {σ} (I : Iface σ) (s : σ) (n : Name) :
    runOps I s [Op.unset n .global] = unsetVariable I s n := by
  rw [runOps_cons, unsetVariable_eq]; rfl

end YashModel.Variable
