/-
  C16 — what the driver prints for an operation history: the observation after every operation,
  computed from the Rust model and from the Spec (kept apart from `Main.lean` so that theorems can
  speak about it).  Import-free apart from `YashModel.*`, executable.
-/
import YashModel.Common.Proto
import YashModel.Variable.Model
import YashModel.Variable.Spec
import YashModel.Variable.Init
namespace YashModel.Variable
open YashModel.Proto

def showOptNat : Option Nat → String
  | some n => toString n
  | none => "-"

def showValue : Option Value → String
  | none => "~"
  | some (.scalar s) => "s:" ++ encStr s
  | some (.array vs) => "a:" ++ ",".intercalate (vs.map encStr)

def showQuirk : Option Quirk → String
  | none => "-"
  | some .lineNumber => "L"

def showVar (v : Variable) : String :=
  s!"{showValue v.value}/{if v.exported then 1 else 0}/{showOptNat v.readOnly}/{showOptNat v.lastAssigned}/{showQuirk v.quirk}"

/-- text of an `Expansion` (the result of `Variable::expand`) -/
def showExpansion : Expansion → String
  | .unset => "~"
  | .scalar x => "s:" ++ encStr x
  | .array vs => "a:" ++ ",".intercalate (vs.map encStr)

def showOptExpansion : Option Expansion → String
  | some e => showExpansion e
  | none => "-"

/-- the result of an `xp` item: the expansion, then `Expansion::len`, `is_empty`, `split`, `Value::split`
    of the variable's own value (`-` without a value), and `cok`: the conversions of `Expansion`
    (`as_ref`, `From<Option<Value>>`, `From<Value>`, `From<&Expansion>`, `into_owned`, `Default`) and
    `QuotedValue::as_ref` agree with the expansion — the harness checks them on the real code and
    prints what failed instead -/
def showExpansionFull (v : Variable) (e : Expansion) : String :=
  showExpansion e ++ s!";l{e.len};e{if e.isEmpty then 1 else 0};p" ++ ",".intercalate (e.split.map encStr) ++
    ";v" ++ (match v.value with
      | some val => ",".intercalate (val.split.map encStr)
      | none => "-") ++ ";cok"

def showOptExpansionFull (o : Option Variable) (l : Loc) : String :=
  match o with
  | some v => showExpansionFull v (v.expand l)
  | none => "-"

/-- the location at which every observation expands the visible variable: character 4 of the code
    `a⏎b⏎c` that starts on line 3 (hence line 5), reached through one alias substitution -/
def obsLoc : Loc := .alias 1 "a" 0 (.plain 3 "a\nb\nc" 4)

def showOptVar : Option Variable → String
  | some v => showVar v
  | none => "-"

def showRes : Res → String
  | .done => "done"
  | .noVolatile => "novol"
  | .assigned v l => s!"as({showValue v},{showOptNat l})"
  | .readOnly l => s!"ro({l})"
  | .unset v => s!"un({showOptVar v})"

def showScalar : Option String → String
  | none => "~"
  | some x => encStr x

/-- everything observed after an operation, from the lookups a state offers -/
def observeWith (rs : String) (names : List Name) (gs : Name → Option String)
    (get : Name → Option Variable) (scopedF : Name → Scope → Option Variable)
    (iter : Scope → List (Name × Variable)) (env : List (Name × String)) (pp : List String) : String :=
  let vs := names.map fun n =>
    s!"{encStr n}={showOptVar (get n)}|{showOptVar (scopedF n .global)}|{showOptVar (scopedF n .loc)}|{showOptVar (scopedF n .volatile)}|{showScalar (gs n)}|{showOptExpansion ((get n).map (·.expand obsLoc))}"
  let it (sc : Scope) := ",".intercalate ((iter sc).map fun (n, v) => s!"{encStr n}={showVar v}")
  let ev := ",".intercalate (env.map fun (n, x) => s!"{encStr n}={encStr x}")
  " ".intercalate ([s!"r={rs}"] ++ vs ++
    [s!"ig={it .global}", s!"il={it .loc}", s!"iv={it .volatile}", s!"env={ev}",
     s!"pp={",".intercalate (pp.map encStr)}"])

/-- the observation with an arbitrary result text -/
def observeMT (s : VariableSet) (rs : String) (names : List Name) : String :=
  observeWith rs names s.getScalar s.get s.getScoped (fun sc => s.iter sc names) (s.env names) s.positionalParams

def observeST (X : SSet) (rs : String) (names : List Name) : String :=
  observeWith rs names X.getScalar (lookup X) X.getScoped (fun sc => X.iter sc names) (X.env names) X.positionalParams

def observeM (s : VariableSet) (r : Res) (names : List Name) : String := observeMT s (showRes r) names

def observeS (X : SSet) (r : Res) (names : List Name) : String := observeST X (showRes r) names

/-- an item of the case language: an operation, `ee N V` (`extend_env` of one pair), `init`
    (`VariableSet::init`), `xp N LOC` (`Variable::expand` of the visible variable at a location) -/
inductive Item where
  | op (o : Op)
  | ee (n : Name) (v : String)
  | init
  | xp (n : Name) (l : Loc)

/-- when the case ends the guards of all contexts still pushed are dropped, innermost first: one
    observation after every pop, so that every instance hidden at the end of the history is seen -/
def unwindGo (names : List Name) : Nat → VariableSet → SSet → List String × List String
  | 0, _, _ => ([], [])
  | k + 1, s, X =>
    let r := unwindGo names k (s.step .pop).1 (X.step .pop).1
    (observeMT (s.step .pop).1 "unwind" names :: r.1, observeST (X.step .pop).1 "unwind" names :: r.2)


/-- runs the items of a history on both sides, collecting the observations (reversed accumulators),
    then unwinds the contexts that are still pushed -/
def historyGo (names : List Name) (s : VariableSet) (X : SSet) :
    List Item → List String → List String → List String × List String
  | [], om, os =>
    (om.reverse ++ (unwindGo names (s.contexts.length - 1) s X).1,
     os.reverse ++ (unwindGo names (s.contexts.length - 1) s X).2)
  | .op op :: rest, om, os =>
    historyGo names (s.step op).1 (X.step op).1 rest
      (observeM (s.step op).1 (s.step op).2 names :: om) (observeS (X.step op).1 (X.step op).2 names :: os)
  | .ee n v :: rest, om, os =>
    historyGo names (s.extendEnv1 n v) (X.extendEnv1 n v) rest
      (observeM (s.extendEnv1 n v) .done names :: om) (observeS (X.extendEnv1 n v) .done names :: os)
  | .init :: rest, om, os =>
    historyGo names s.init X.init rest (observeM s.init .done names :: om) (observeS X.init .done names :: os)
  | .xp n l :: rest, om, os =>
    historyGo names s X rest
      (observeMT s ("xp(" ++ showOptExpansionFull (s.get n) l ++ ")") names :: om)
      (observeST X ("xp(" ++ showOptExpansionFull (lookup X n) l ++ ")") names :: os)

end YashModel.Variable
