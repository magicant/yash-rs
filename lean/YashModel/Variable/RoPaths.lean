/-
  C16 — every path of the language and every built-in that writes variables keeps every read-only
  instance (value and mark), also when it goes on after a refusal: the invariant `Good` together with
  `KeepsAll s₀` is a simulation of the Rust model by itself for every operation but `pop`, so the
  `_sim` lemmas of `Sim.lean` apply to whatever is built from such operations.  Also here: what `pop`
  removes, and whole histories: a read-only instance in a *regular* context stays in place — same context
  index, same value, same read-only location — as long as its context is not popped.
-/
import YashModel.Variable.Sim
import YashModel.Variable.ReadOnly
namespace YashModel.Variable

/-- every read-only instance of `s0` is still there, and the invariant holds: kept by every operation but `pop` -/
def KeepsFrom (s0 t : VariableSet) : Prop := KeepsAll s0 t ∧ Good t

theorem keepsFrom_refl {s : VariableSet} (h : Good s) : KeepsFrom s s := ⟨keepsAll_refl s, h⟩

theorem keepsFrom_step {s0 t : VariableSet} (op : Op) (hop : op ≠ .pop) (h : KeepsFrom s0 t) : KeepsFrom s0 (t.step op).1 :=
  ⟨keepsAll_trans h.1 (step_keeps h.2 op hop).keepsAll, step_good h.2 op⟩

theorem run_keepsAll (ops : List Op) (s : VariableSet) (h : Good s) (hp : ∀ op ∈ ops, op ≠ Op.pop) :
    KeepsFrom s (s.run ops) :=
  VariableSet.run_inv ops (fun _ op ho => keepsFrom_step op (hp op ho)) s (keepsFrom_refl h)

theorem keeps_sim (s0 : VariableSet) : SimNoPop (Diag (KeepsFrom s0)) ifaceM ifaceM :=
  diag_noPop fun _ op hop => keepsFrom_step op hop

theorem keepsFrom_diag {s : VariableSet} (h : Good s) : Diag (KeepsFrom s) s s := ⟨rfl, keepsFrom_refl h⟩

theorem oneStep_keeps (op : Op) (hop : op ≠ .pop) (s : VariableSet) (h : Good s)
    (f : VariableSet × Res → VariableSet × Bool) (hf : ∀ p, (f p).1 = p.1) :
    KeepsAll s (f (s.step op)).1 ∧ Good (f (s.step op)).1 := by
  rw [hf]; exact keepsFrom_step op hop (keepsFrom_refl h)

theorem extendEnv_keeps (vars : List (Name × String)) (s : VariableSet) (h : Good s) :
    KeepsAll s (s.extendEnv vars) ∧ Good (s.extendEnv vars) := by
  induction vars generalizing s with
  | nil => exact ⟨keepsAll_refl s, h⟩
  | cons p t ih =>
    obtain ⟨n, v⟩ := p
    have h1 : KeepsAll s (s.extendEnv1 n v) ∧ Good (s.extendEnv1 n v) := by
      have := extendRound_sim (keeps_sim s) n v s s (keepsFrom_diag h)
      rw [← VariableSet.extendEnv1_eq] at this
      exact this.2
    obtain ⟨h3, h4⟩ := ih (s.extendEnv1 n v) h1.2
    exact ⟨keepsAll_trans h1.1 h3, h4⟩

/-- ★ `pop_removes_only_its_context`: the one operation `readonly_immutable` excludes.  Popping a
    context keeps every instance — read-only or not — of every lower context; so with
    `readonly_immutable` a read-only instance can disappear in one way only: its own context ends -/
theorem pop_removes_only_its_context (s : VariableSet) (n : Name) (e : VIC) (he : e ∈ s.all n)
    (hc : e.ctx + 1 < s.contexts.length) : e ∈ (s.step .pop).1.all n := by
  show e ∈ s.popContext.all n
  have hgt : 1 < s.contexts.length := by omega
  rw [← mem_top, pop_top s hgt]
  have he' := mem_top.2 he
  cases hr : s.top n with
  | nil => rw [hr] at he'; cases he'
  | cons v r =>
    rw [hr] at he'
    simp only [popIfR]
    split
    · -- the instance that goes is in the top context, `e` is not
      rename_i hv
      exact (List.mem_cons.mp he').resolve_left fun e0 => by subst e0; omega
    · exact he'

theorem survives_base (len : Nat) (ops : List Op) : survives 0 len ops = true := by
  induction ops generalizing len with
  | nil => rfl
  | cons op r ih =>
    cases op <;> simp only [survives, ih]
    split
    · rfl
    · rename_i h; simp; omega

theorem run_keepsReg (ops : List Op) (s : VariableSet) (h : Good s) (n : Name) (e : VIC)
    (he : e ∈ s.all n) (hro : e.var.isReadOnly = true) (hreg : isVolatileAt s.contexts e.ctx = false)
    (hsv : survives e.ctx s.contexts.length ops = true) :
    ∃ e' ∈ (s.run ops).all n, e'.ctx = e.ctx ∧ e'.var.isReadOnly = true ∧ SameRO e'.var e.var ∧
      isVolatileAt (s.run ops).contexts e.ctx = false := by
  induction ops generalizing s e with
  | nil => exact ⟨e, he, rfl, hro, ⟨rfl, rfl⟩, hreg⟩
  | cons op r ih =>
    have hb := h.1.bounded n e he
    simp only [VariableSet.run]
    have key : ∃ e1 ∈ (s.step op).1.all n, e1.ctx = e.ctx ∧ e1.var.isReadOnly = true ∧ SameRO e1.var e.var ∧
        isVolatileAt (s.step op).1.contexts e.ctx = false ∧
        survives e.ctx (s.step op).1.contexts.length r = true := by
      by_cases hpush : ∃ c, op = .push c
      · obtain ⟨c, rfl⟩ := hpush
        refine ⟨e, he, rfl, hro, ⟨rfl, rfl⟩, ?_, ?_⟩
        · exact (isVolatileAt_push s.contexts c hb).trans hreg
        · simpa [VariableSet.step, VariableSet.pushContext, survives] using hsv
      by_cases hpop : op = .pop
      · subst hpop
        simp only [survives] at hsv
        show ∃ e1 ∈ s.popContext.all n, _ ∧ _ ∧ _ ∧ isVolatileAt s.popContext.contexts e.ctx = false ∧
          survives e.ctx s.popContext.contexts.length r = true
        by_cases hl : s.contexts.length ≤ 1
        · rw [popContext_of_le s hl]
          exact ⟨e, he, rfl, hro, ⟨rfl, rfl⟩, hreg, by simpa [hl] using hsv⟩
        · simp only [hl, if_false, Bool.and_eq_true, decide_eq_true_eq] at hsv
          rw [pop_contexts s (by omega)]
          exact ⟨e, pop_removes_only_its_context s n e he (by omega), rfl, hro, ⟨rfl, rfl⟩,
            (isVolatileAt_dropLast s.contexts hsv.1).trans hreg, by simpa using hsv.2⟩
      · -- any other operation keeps the instance where it is and the contexts of their kinds
        obtain ⟨e1, he1, hro1, hs1, hc1⟩ := step_keeps h op hpop n e he hro
        have hkinds := step_kinds s op (fun c hc => hpush ⟨c, hc⟩) hpop
        have hlen : (s.step op).1.contexts.length = s.contexts.length := by
          simpa using congrArg List.length hkinds
        refine ⟨e1, he1, hc1 hreg, hro1, hs1, by rw [isVolatileAt_of_kinds hkinds]; exact hreg, ?_⟩
        rw [hlen]
        -- `survives` steps over every operation but `push` and `pop`, which are excluded here
        cases op <;> first | exact hsv | exact absurd rfl hpop | exact absurd ⟨_, rfl⟩ hpush
    obtain ⟨e1, he1, hc1, hro1, hs1, hreg1, hsv1⟩ := key
    obtain ⟨e2, he2, hc2, hro2, hs2, hreg2⟩ := ih (s.step op).1 (step_good h op) e1 he1 hro1 (by rw [hc1]; exact hreg1)
      (by rw [hc1]; exact hsv1)
    exact ⟨e2, he2, hc2.trans hc1, hro2, ⟨hs2.1.trans hs1.1, hs2.2.trans hs1.2⟩, by rw [← hc1]; exact hreg2⟩

end YashModel.Variable
