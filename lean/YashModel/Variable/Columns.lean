/-
  C16 — the column view used to compare both sides name by name: the column of a normalised stack under `abs` is the
  merge `dense` of the sparse stack (read from the top, `Stack.lean`) into the context list (`col_abs`), every Spec
  operation on a name acts on that name's column only (`*_col`), and on a merged column it does what the Rust code does
  to the per-name stack (`*_dense`).
-/
import YashModel.Variable.Stack
namespace YashModel.Variable

/-! ### the Spec alone: updating one context, and `get_or_new(Volatile)` -/

theorem SCtx.set_self {c : SCtx} {n : Name} {o : Option Variable} (h : c.vars n = o) : c.set n o = c := by
  cases c
  simp only [SCtx.set, SCtx.mk.injEq, true_and]
  funext m; split <;> simp_all

theorem SCtx.set_set (c : SCtx) (n : Name) (a b : Option Variable) : (c.set n a).set n b = c.set n b := by
  simp only [SCtx.set, SCtx.mk.injEq, true_and]
  funext m; split <;> rfl

theorem getOrNew_vol (c : SCtx) (t : SSet) (n : Name) (hc : c.kind.isRegular = false) :
    SSet.getOrNew (c :: t) n .volatile = some (c.set n (some ((lookup (c :: t) n).getD {})) :: t) := by
  simp only [SSet.getOrNew, hc, lookup]
  cases hv : c.vars n with
  | some v => simp only [Bool.false_eq_true, if_false, Option.getD_some, SCtx.set_self hv]
  | none => simp only [Bool.false_eq_true, if_false]

@[simp] theorem col_nil (n : Name) : col [] n = [] := rfl
@[simp] theorem col_cons (c : SCtx) (X : SSet) (n : Name) : col (c :: X) n = (c.kind, c.vars n) :: col X n := rfl

theorem sset_ext {X Y : SSet} (h : ∀ n, col X n = col Y n) : X = Y := by
  induction X generalizing Y with
  | nil =>
    cases Y with
    | nil => rfl
    | cons d Y => have := h ""; simp at this
  | cons c X ih =>
    cases Y with
    | nil => have := h ""; simp at this
    | cons d Y =>
      have hX : X = Y := ih (fun n => by have := h n; simp only [col_cons, List.cons.injEq] at this; exact this.2)
      have hk : c.kind = d.kind := by have := h ""; simp only [col_cons, List.cons.injEq, Prod.mk.injEq] at this; exact this.1.1
      have hv : c.vars = d.vars := by
        funext n; have := h n; simp only [col_cons, List.cons.injEq, Prod.mk.injEq] at this; exact this.1.2
      cases c; cases d; simp_all

/-- the column of a sorted stack: merge the sparse stack (top first) into the dense context list -/
def dense : List Context → List VIC → Col
  | [], _ => []
  | c :: t, [] => (c, none) :: dense t []
  | c :: t, v :: r => if v.ctx = t.length then (c, some v.var) :: dense t r else (c, none) :: dense t (v :: r)

def cells (f : Nat → Option Variable) : List Context → Col
  | [] => []
  | c :: t => (c, f t.length) :: cells f t

theorem col_absRev (all : Name → List VIC) (rcs : List Context) (n : Name) :
    col (absRev all rcs) n = cells (cellAt (all n)) rcs := by
  induction rcs with
  | nil => rfl
  | cons c t ih => simp [absRev, cells, ih]

theorem cells_congr {f g : Nat → Option Variable} (rcs : List Context)
    (h : ∀ i, i < rcs.length → f i = g i) : cells f rcs = cells g rcs := by
  induction rcs with
  | nil => rfl
  | cons c t ih =>
    simp only [cells]
    rw [h t.length (by simp), ih (fun i hi => h i (by simp; omega))]

theorem find_reverse_unique (st : List VIC) (i : Nat) (h : st.Pairwise (fun a b => a.ctx < b.ctx)) :
    st.reverse.find? (fun v => v.ctx == i) = st.find? (fun v => v.ctx == i) := by
  induction st with
  | nil => rfl
  | cons v t ih =>
    rw [List.pairwise_cons] at h
    simp only [List.reverse_cons, List.find?_append, List.find?_cons, ih h.2]
    by_cases hv : v.ctx = i
    · have : t.find? (fun v => v.ctx == i) = none := by
        rw [List.find?_eq_none]
        intro u hu
        have := h.1 u hu
        simp; omega
      have hb : (v.ctx == i) = true := by simp [hv]
      simp [hb, this]
    · have hb : (v.ctx == i) = false := by simp [hv]
      simp [hb]

theorem dense_of_dec (c : Context) (t : List Context) (r : List VIC) (h : Dec t.length r) :
    dense (c :: t) r = (c, none) :: dense t r := by
  cases r with
  | nil => rfl
  | cons v r => simp only [dense]; rw [if_neg (by have := h.1; omega)]

theorem dense_cons_eq (c : Context) (t : List Context) (v : VIC) (r : List VIC) (hv : v.ctx = t.length) :
    dense (c :: t) (v :: r) = (c, some v.var) :: dense t r := by
  simp only [dense, if_pos hv]

theorem cells_dense (rcs : List Context) (r : List VIC) (h : Dec rcs.length r) :
    cells (fun i => (r.find? (fun v => v.ctx == i)).map (·.var)) rcs = dense rcs r := by
  induction rcs generalizing r with
  | nil => simp [cells, dense]
  | cons c t ih =>
    cases r with
    | nil => simpa [cells, dense] using ih [] trivial
    | cons v r' =>
      simp only [List.length_cons, dec_cons] at h
      by_cases hv : v.ctx = t.length
      · simp only [cells, dense, hv, if_true, List.find?_cons, beq_self_eq_true, Option.map_some]
        congr 1
        rw [← ih r' (hv ▸ h.2)]
        apply cells_congr
        intro i hi
        have : (t.length == i) = false := by simp; omega
        simp [this]
      · have hlt : v.ctx < t.length := by omega
        have hd : Dec t.length (v :: r') := ⟨hlt, h.2⟩
        rw [dense_of_dec c t _ hd, ← ih _ hd]
        simp only [cells, List.cons.injEq, Prod.mk.injEq, true_and, and_true]
        have : (v :: r').find? (fun u => u.ctx == t.length) = none := by
          rw [List.find?_eq_none]
          intro u hu
          have := dec_lt hd u hu
          simp; omega
        simp [this]

theorem col_abs {s : VariableSet} (h : Norm s) (n : Name) :
    col (abs s) n = dense s.contexts.reverse (s.top n) := by
  unfold abs
  rw [col_absRev]
  have hd := h.dec n
  rw [← cells_dense _ _ (by simpa using hd)]
  apply cells_congr
  intro i _
  unfold cellAt
  rw [← find_reverse_unique _ _ (h.sorted n)]; rfl

theorem dense_kinds (rcs : List Context) (r : List VIC) : (dense rcs r).map (·.1) = rcs := by
  induction rcs generalizing r with
  | nil => rfl
  | cons c t ih =>
    cases r with
    | nil => simp [dense, ih]
    | cons v r => simp only [dense]; split <;> simp [ih]

theorem dense_length (rcs : List Context) (r : List VIC) : (dense rcs r).length = rcs.length := by
  have := congrArg List.length (dense_kinds rcs r); simpa using this

theorem abs_kinds (s : VariableSet) : (abs s).map (·.kind) = s.contexts.reverse := by
  unfold abs
  generalize s.contexts.reverse = rcs
  induction rcs with
  | nil => rfl
  | cons c t ih => simp [absRev, ih]

theorem abs_length (s : VariableSet) : (abs s).length = s.contexts.length := by
  simpa using congrArg List.length (abs_kinds s)

theorem abs_setTop {s : VariableSet} (hN : Norm s) (n : Name) (r : List VIC) (Y : SSet)
    (hd : Dec s.contexts.length r)
    (hY : ∀ m, col Y m = if m = n then dense s.contexts.reverse r else col (abs s) m) :
    abs (s.setTop n r) = Y ∧ Norm (s.setTop n r) := by
  refine ⟨sset_ext fun m => ?_, norm_setTop hN n r hd⟩
  rw [col_abs (norm_setTop hN n r hd), hY m, top_setTop]
  split
  · rfl
  · rw [col_abs hN]; rfl

/-- `lookup` on one column -/
def cLookup : Col → Option Variable
  | [] => none
  | (_, some v) :: _ => some v
  | (_, none) :: t => cLookup t

theorem lookup_col (X : SSet) (n : Name) : lookup X n = cLookup (col X n) := by
  induction X with
  | nil => rfl
  | cons c X ih => simp only [lookup, col_cons]; cases h : c.vars n <;> simp [cLookup, ih]

theorem col_take (X : SSet) (k : Nat) (n : Name) : col (X.take k) n = (col X n).take k := by
  simp [col, List.map_take]

/-- walking down the first `k` contexts of a merged column, `idx` the number of contexts below them: at each step the top
    context holds no instance of the name, or the top of the stack; after `k` steps the stack is below `idx` -/
theorem dense_walk {motive : Nat → List Context → List VIC → Prop} (idx : Nat)
    (stop : ∀ rcs r, rcs.length = idx → Dec idx r → motive 0 rcs r)
    (skip : ∀ k c t r, idx + k = t.length → Dec t.length r → motive k t r → motive (k + 1) (c :: t) r)
    (take : ∀ k c t v r, idx + k = t.length → v.ctx = t.length → Dec t.length r → motive k t r →
      motive (k + 1) (c :: t) (v :: r)) :
    ∀ k rcs r, idx + k = rcs.length → Dec rcs.length r → motive k rcs r := by
  intro k
  induction k with
  | zero => intro rcs r hk h; have hl : rcs.length = idx := hk.symm; exact stop rcs r hl (hl ▸ h)
  | succ k ih =>
    intro rcs r hk h
    cases rcs with
    | nil => simp at hk
    | cons c t =>
      have hk' : idx + k = t.length := by simp at hk; omega
      rcases dec_succ_cases h with hr | ⟨v, r', rfl, hv, hr'⟩
      · exact skip k c t r hk' hr (ih t r hk' hr)
      · exact take k c t v r' hk' hv hr' (ih t r' hk' hr')

theorem head_lt_of_dec {idx : Nat} {v : VIC} {r : List VIC} (h : Dec idx (v :: r)) : decide (idx ≤ v.ctx) = false := by
  have := h.1; simp; omega

theorem cLookup_dense_take (idx k : Nat) (rcs : List Context) (r : List VIC) (hk : idx + k = rcs.length)
    (h : Dec rcs.length r) :
    cLookup ((dense rcs r).take k) = (r.head?.filter (fun v => decide (idx ≤ v.ctx))).map (·.var) := by
  refine dense_walk (motive := fun k rcs r => cLookup ((dense rcs r).take k) =
    (r.head?.filter (fun v => decide (idx ≤ v.ctx))).map (·.var)) idx ?_ ?_ ?_ k rcs r hk h
  · intro rcs r _ hd
    cases r with
    | nil => simp [cLookup]
    | cons v r' => simp [cLookup, Option.filter, head_lt_of_dec hd]
  · intro k c t r _ hd ih; rw [dense_of_dec c t r hd]; exact ih
  · intro k c t v r hi hv _ _
    rw [dense_cons_eq c t v r hv]
    have : idx ≤ v.ctx := by omega
    simp [cLookup, Option.filter, this]

theorem cLookup_dense (rcs : List Context) (r : List VIC) (h : Dec rcs.length r) :
    cLookup (dense rcs r) = r.head?.map (·.var) := by
  have := cLookup_dense_take 0 rcs.length rcs r (Nat.zero_add _) h
  rw [← dense_length rcs r, List.take_length] at this
  rw [this]
  cases r <;> simp [Option.filter]

theorem volPrefix_eq (X : SSet) : volPrefix X = volK (X.map (·.kind)) := by
  induction X with
  | nil => rfl
  | cons c X ih => simp [volPrefix, volK, ih]

theorem index_depth {s : VariableSet} (h : Norm s) (scope : Scope) :
    indexOfContext scope s.contexts + scopeDepth scope (abs s) = s.contexts.reverse.length := by
  have hl := h.volK_lt
  have ht := topRegular_eq h
  cases scope <;>
    simp only [scopeDepth, indexOfContext, abs_length, volPrefix_eq, abs_kinds, List.length_reverse] <;> omega

theorem col_set (c : SCtx) (n m : Name) (v : Option Variable) :
    (c.set n v).vars m = if m = n then v else c.vars m := rfl

/-- the Spec's `lower` (`get_or_new` for `Global` / `Local`) on the column of the name, the stop given as a context
    index: the regular context `target` takes the variable if none above it defines the name -/
def cLowerAt (target : Nat) : Col → Option Variable → Col
  | [], _ => []
  | (k, o) :: t, carried =>
    if k.isRegular then
      match o with
      | some v => (k, some (carried.getD v)) :: t
      | none =>
        if t.length = target then (k, some (carried.getD {})) :: t
        else (k, none) :: cLowerAt target t carried
    else
      match o with
      | some v => (k, none) :: cLowerAt target t (some (carried.getD v))
      | none => (k, none) :: cLowerAt target t carried

theorem col_length (X : SSet) (n : Name) : (col X n).length = X.length := by simp [col]

theorem lower_col_ne (n : Name) (tb : Bool) (X : SSet) (c : Option Variable) {m : Name} (hm : m ≠ n) :
    col (lower n tb X c) m = col X m := by
  induction X generalizing c with
  | nil => rfl
  | cons d X ih =>
    simp only [lower]
    split <;> split <;> (try split) <;> simp [SCtx.set, hm, ih]

/-- on its own column the walk of `lower` is `cLowerAt`: `Global` stops at the base context (index 0), `Local` at the
    topmost regular context -/
theorem lower_col_self (n : Name) (tb : Bool) (target : Nat) (X : SSet) (carried : Option Variable)
    (htb : tb = true → target = 0) (hloc : tb = false → target + volPrefix X + 1 = X.length) :
    col (lower n tb X carried) n = cLowerAt target (col X n) carried := by
  induction X generalizing carried with
  | nil => rfl
  | cons c X ih =>
    by_cases hr : c.kind.isRegular = true
    · -- a regular context: the walk ends here if it holds the name or is the target
      have hstop : (!tb || X.isEmpty) = decide (X.length = target) := by
        cases tb with
        | true => rw [htb rfl]; cases X <;> simp
        | false => have := hloc rfl; simp only [volPrefix, hr, if_true, List.length_cons] at this; simp; omega
      cases hv : c.vars n with
      | some v => simp [lower, cLowerAt, hr, hv, SCtx.set]
      | none =>
        by_cases ht : X.length = target
        · simp [lower, cLowerAt, hr, hv, hstop, ht, SCtx.set, col_length]
        · have hrec := ih carried (fun hb => by cases tb <;> simp_all)
          simp [lower, cLowerAt, hr, hv, hstop, ht, col_length, hrec]
    · -- a volatile context gives up its variable and the walk goes on
      have hrec : ∀ c', col (lower n tb X c') n = cLowerAt target (col X n) c' :=
        fun c' => ih c' (fun hb => by
          have := hloc hb; simp only [volPrefix, hr, List.length_cons] at this; simp at this; omega)
      cases hv : c.vars n <;> simp [lower, cLowerAt, hr, hv, hrec, SCtx.set]

theorem lower_col (n : Name) (tb : Bool) (target : Nat) (X : SSet) (carried : Option Variable) (m : Name)
    (htb : tb = true → target = 0) (hloc : tb = false → target + volPrefix X + 1 = X.length) :
    col (lower n tb X carried) m = if m = n then cLowerAt target (col X n) carried else col X m := by
  by_cases hm : m = n
  · subst hm; rw [if_pos rfl]; exact lower_col_self m tb target X carried htb hloc
  · rw [if_neg hm]; exact lower_col_ne n tb X carried hm

theorem lowerLoop_of_dec (cs : List Context) (target : Nat) (r : List VIC) (carried : Option Variable)
    (h : Dec target r) : lowerLoop cs target r carried = ⟨carried.getD {}, target⟩ :: r := by
  cases r with
  | nil => rfl
  | cons v r => simp only [lowerLoop, if_pos h.1]

/-- the walk of `get_or_new(Global | Local)` down the per-name stack is the documented walk down the
    contexts, whenever the target context is regular.  The induction peels contexts off the *top* (`rcs`) while the
    loop reads kinds from the whole, fixed context list `cs`: `pre` is what has been peeled off. -/
theorem cLowerAt_dense (cs : List Context) (target : Nat) (rcs : List Context) (r : List VIC)
    (carried : Option Variable) (pre : List Context) (hcs : cs = rcs.reverse ++ pre)
    (hd : Dec rcs.length r) (hreg : isVolatileAt cs target = false) (htl : target < rcs.length) :
    cLowerAt target (dense rcs r) carried = dense rcs (lowerLoop cs target r carried) := by
  induction rcs generalizing r carried pre with
  | nil => cases htl
  | cons c t ih =>
    have hvol : isVolatileAt cs t.length = !c.isRegular := by
      rw [hcs, List.reverse_cons, List.append_assoc]; exact isVolatileAt_append t c pre
    -- below `c`, when the walk goes on
    have below : ∀ r carried, Dec t.length r → target ≠ t.length →
        (c, none) :: cLowerAt target (dense t r) carried = dense (c :: t) (lowerLoop cs target r carried) := by
      intro r carried hr hne
      have hlt : target < t.length := by simp only [List.length_cons] at htl; omega
      rw [ih r carried (c :: pre) (by simp [hcs]) hr hlt, dense_of_dec c t _ (lowerLoop_dec cs target t.length r _ hr hlt)]
    have hne_vol : c.isRegular = false → target ≠ t.length := fun hc e => by
      rw [e, hvol, hc] at hreg; cases hreg
    rcases dec_succ_cases hd with hr | ⟨v, r', rfl, hv, hr'⟩
    · rw [dense_of_dec c t r hr]
      by_cases hstop : c.isRegular = true ∧ t.length = target
      · obtain ⟨hc, ht⟩ := hstop
        rw [lowerLoop_of_dec cs target r carried (ht ▸ hr), dense_cons_eq c t _ r ht.symm]
        simp [cLowerAt, hc, ht, dense_length]
      · have hne : target ≠ t.length := fun e => by
          cases hc : c.isRegular with
          | true => exact hstop ⟨hc, e.symm⟩
          | false => exact hne_vol hc e
        rw [← below r carried hr hne]
        cases hc : c.isRegular <;> simp [cLowerAt, hc, Ne.symm hne, dense_length]
    · have hnlt : ¬ v.ctx < target := by simp only [List.length_cons] at htl; omega
      rw [dense_cons_eq c t v r' hv]
      cases hc : c.isRegular with
      | true =>
        have hnv : isVolatileAt cs v.ctx = false := by rw [hv, hvol, hc]; rfl
        simp only [cLowerAt, hc, if_true, lowerLoop, if_neg hnlt, hnv]
        exact (dense_cons_eq c t ⟨carried.getD v.var, v.ctx⟩ r' hv).symm
      | false =>
        have hyv : isVolatileAt cs v.ctx = true := by rw [hv, hvol, hc]; rfl
        simp only [cLowerAt, hc, lowerLoop, if_neg hnlt, hyv, if_true]
        exact below r' _ hr' (hne_vol hc)

/-- `modifyVisible` on one column -/
def cModify (f : Variable → Variable) : Col → Col
  | [] => []
  | (k, some v) :: t => (k, some (f v)) :: t
  | (k, none) :: t => (k, none) :: cModify f t

theorem modifyVisible_col (n : Name) (f : Variable → Variable) (X : SSet) (m : Name) :
    col (modifyVisible n f X) m = if m = n then cModify f (col X n) else col X m := by
  induction X with
  | nil => simp [modifyVisible, cModify]
  | cons c X ih =>
    by_cases hm : m = n
    · subst hm
      cases hv : c.vars m <;> simp [modifyVisible, cModify, hv, ih, SCtx.set]
    · cases hv : c.vars n <;> simp [modifyVisible, hv, ih, hm, SCtx.set]

theorem cModify_dense (f : Variable → Variable) (rcs : List Context) (r : List VIC) :
    cModify f (dense rcs r) = dense rcs (modifyHead f r) := by
  induction rcs generalizing r with
  | nil => simp [dense, cModify]
  | cons c t ih =>
    cases r with
    | nil => simpa [dense, cModify, modifyHead] using ih []
    | cons v r' =>
      by_cases hv : v.ctx = t.length
      · simp [dense, hv, cModify, modifyHead]
      · have := ih (v :: r')
        simp only [modifyHead] at this
        simp [dense, hv, cModify, modifyHead, this]

/-- the Spec's `get_or_new(Volatile)` on the column of the name, the top context being volatile: the top cell holds
    what is visible -/
def cVol : Col → Col
  | [] => []
  | (k, o) :: t => (k, some ((cLookup ((k, o) :: t)).getD {})) :: t

theorem cVol_dense (c : Context) (t : List Context) (r : List VIC) (h : Dec (t.length + 1) r) :
    cVol (dense (c :: t) r) = dense (c :: t) (volatileBranch t.length r) := by
  cases r with
  | nil =>
    have := cLookup_dense t [] trivial
    simp [dense, cVol, cLookup, volatileBranch, this]
  | cons v r' =>
    by_cases hv : v.ctx = t.length
    · simp [dense, hv, cVol, cLookup, volatileBranch]
    · have hd : Dec t.length (v :: r') := ⟨by have := h.1; omega, h.2⟩
      have := cLookup_dense t (v :: r') hd
      simp [dense, hv, cVol, cLookup, volatileBranch, this]

/-- `firstReadOnly` on one column -/
def cFirstRO : Nat → Col → Option Nat
  | 0, _ => none
  | _, [] => none
  | k+1, (_, some v) :: t => if v.isReadOnly then v.readOnly else cFirstRO k t
  | k+1, (_, none) :: t => cFirstRO k t

/-- `eraseTop` on one column -/
def cErase : Nat → Col → Col
  | 0, X => X
  | _, [] => []
  | k+1, (c, _) :: t => (c, none) :: cErase k t

theorem firstReadOnly_col (n : Name) (k : Nat) (X : SSet) : firstReadOnly n k X = cFirstRO k (col X n) := by
  induction X generalizing k with
  | nil => cases k <;> simp [firstReadOnly, cFirstRO]
  | cons c X ih =>
    cases k with
    | zero => simp [firstReadOnly, cFirstRO]
    | succ k => cases hv : c.vars n <;> simp [firstReadOnly, cFirstRO, hv, ih]

theorem eraseTop_col (n : Name) (k : Nat) (X : SSet) (m : Name) :
    col (eraseTop n k X) m = if m = n then cErase k (col X n) else col X m := by
  induction X generalizing k with
  | nil => cases k <;> simp [eraseTop, cErase]
  | cons c X ih =>
    cases k with
    | zero => by_cases hm : m = n <;> simp [eraseTop, cErase, hm]
    | succ k =>
      by_cases hm : m = n
      · subst hm; simp [eraseTop, cErase, ih, SCtx.set]
      · simp [eraseTop, ih, hm, SCtx.set]

theorem cErase_dense (idx k : Nat) (rcs : List Context) (r : List VIC) (hk : idx + k = rcs.length)
    (h : Dec rcs.length r) :
    cErase k (dense rcs r) = dense rcs (r.dropWhile (fun v => decide (idx ≤ v.ctx))) := by
  refine dense_walk (motive := fun k rcs r => cErase k (dense rcs r) =
    dense rcs (r.dropWhile (fun v => decide (idx ≤ v.ctx)))) idx ?_ ?_ ?_ k rcs r hk h
  · intro rcs r _ hd
    cases r with
    | nil => rfl
    | cons v r' => rw [List.dropWhile_cons, head_lt_of_dec hd]; rfl
  · intro k c t r _ hd ih
    rw [dense_of_dec c t r hd, dense_of_dec c t _ (dec_dropWhile _ hd), ← ih]; rfl
  · intro k c t v r hi hv hd ih
    have ht : decide (idx ≤ v.ctx) = true := by simp; omega
    rw [dense_cons_eq c t v r hv, List.dropWhile_cons, if_pos ht, dense_of_dec c t _ (dec_dropWhile _ hd), ← ih]; rfl

theorem cFirstRO_dense (idx k : Nat) (rcs : List Context) (r : List VIC) (hk : idx + k = rcs.length)
    (h : Dec rcs.length r) :
    cFirstRO k (dense rcs r) =
      ((r.takeWhile (fun v => decide (idx ≤ v.ctx))).find? (fun v => v.var.isReadOnly)).bind (·.var.readOnly) := by
  refine dense_walk (motive := fun k rcs r => cFirstRO k (dense rcs r) =
    ((r.takeWhile (fun v => decide (idx ≤ v.ctx))).find? (fun v => v.var.isReadOnly)).bind (·.var.readOnly))
    idx ?_ ?_ ?_ k rcs r hk h
  · intro rcs r _ hd
    cases r with
    | nil => simp [cFirstRO]
    | cons v r' => simp [cFirstRO, head_lt_of_dec hd]
  · intro k c t r _ hd ih; rw [dense_of_dec c t r hd, ← ih]; rfl
  · intro k c t v r hi hv _ ih
    have ht : decide (idx ≤ v.ctx) = true := by simp; omega
    rw [dense_cons_eq c t v r hv, List.takeWhile_cons, if_pos ht, List.find?_cons]
    cases hro : v.var.isReadOnly <;> simp [cFirstRO, hro, ih]

theorem dense_tail (c : Context) (t : List Context) (r : List VIC) (h : Dec (t.length + 1) r) :
    (dense (c :: t) r).tail = dense t (popIfR t.length r) := by
  cases r with
  | nil => simp [dense, popIfR]
  | cons v r' =>
    have := h.1
    by_cases hv : v.ctx = t.length
    · simp [dense, hv, popIfR]
    · have : ¬ t.length ≤ v.ctx := by omega
      simp [dense, hv, popIfR, this]

end YashModel.Variable
