/-
  C16 — the bridge to C20's model of typeset's own argument parser
  (`lean/YashModel/Args/Typeset.lean`: `parse`, `interpret`, `run`, `exportAdjust`, `readonlyAdjust`):
  what C20's `parse` + `interpret` produce for a set-variables invocation is what `BuiltinModel.lean`
  consumes.
-/
import YashModel.Variable.BuiltinGlue
import YashModel.Args.Typeset
namespace YashModel.Variable
open YashModel.Args

def attrOf : Typeset.Attr → VAttr
  | .readOnly => .readOnly
  | .export => .export

/-- C20's `OptionOccurrence` (spec + state) as the occurrence `BuiltinModel.lean` reads (short + state) -/
def occOf (o : Typeset.Occ) : OptOcc := ⟨o.spec.short, o.state⟩

/-- the spec is one of the options of `ALL_OPTIONS` that a set-variables invocation can carry
    (`-g -r -x -X`), with the attribute `ALL_OPTIONS` gives it -/
def SetSpec (sp : Typeset.TSpec) : Prop :=
  (sp.short = 'g' ∧ sp.attr = none) ∨ (sp.short = 'r' ∧ sp.attr = some .readOnly) ∨
  (sp.short = 'x' ∧ sp.attr = some .export) ∨ (sp.short = 'X' ∧ sp.attr = none)

/-- the two scans in step: nothing but attributes and the `-g` flag collected so far, and those the same -/
def ScanRel (sc : Typeset.Scan) (r : Interp) : Prop :=
  sc.functions = none ∧ sc.print = none ∧ sc.foreign = none ∧
  r.attrs = sc.attrs.map (fun e => (attrOf e.2.1, e.2.2)) ∧ r.global = sc.global.isSome

theorem scanStep_interpretStep {sc : Typeset.Scan} {r : Interp} (h : ScanRel sc r) (i : Nat) (o : Typeset.Occ)
    (ho : SetSpec o.spec) : ScanRel (Typeset.scanStep sc i o) (interpretStep r (occOf o)) := by
  obtain ⟨h1, h2, h3, h4, h5⟩ := h
  -- -g sets the flag; -r, -x push their attribute with the state; -X pushes `export` negated
  rcases ho with ⟨hs, ha⟩ | ⟨hs, ha⟩ | ⟨hs, ha⟩ | ⟨hs, ha⟩ <;>
    simp [ScanRel, Typeset.scanStep, hs, ha, interpretStep, optionRole, specAttr, occOf, attrOf, h1, h2, h3, h4, h5]

/-- the loop of C20's `interpret` (`scanFrom`) and the loop of `BuiltinModel.interpretLoop` walk in
    lock-step -/
theorem scanFrom_interpret (os : List Typeset.Occ) (hos : ∀ o ∈ os, SetSpec o.spec) (sc : Typeset.Scan) (r : Interp)
    (i : Nat) (h1 : sc.functions = none) (h2 : sc.print = none) (h3 : sc.foreign = none)
    (h4 : r.attrs = sc.attrs.map (fun e => (attrOf e.2.1, e.2.2))) (h5 : r.global = sc.global.isSome) :
    (Typeset.scanFrom sc i os).functions = none ∧ (Typeset.scanFrom sc i os).print = none ∧
    (Typeset.scanFrom sc i os).foreign = none ∧
    ((os.map occOf).foldl interpretStep r).attrs
      = (Typeset.scanFrom sc i os).attrs.map (fun e => (attrOf e.2.1, e.2.2)) ∧
    ((os.map occOf).foldl interpretStep r).global = (Typeset.scanFrom sc i os).global.isSome := by
  have h : ScanRel sc r := ⟨h1, h2, h3, h4, h5⟩
  clear h1 h2 h3 h4 h5
  induction os generalizing sc r i with
  | nil => exact h
  | cons o os ih =>
    exact ih (fun o' ho' => hos o' (by simp [ho'])) _ _ _ (scanStep_interpretStep h i o (hos o (by simp)))

end YashModel.Variable
