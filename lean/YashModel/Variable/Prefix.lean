/-
  C16 — the assignments of one command prefix, on the Rust structure: `get_or_new`, `assign` and `export` through the
  reference it returned leave the variable visible with the value, in any scope; whatever holds before and is kept
  by every operation of a prefix holds after it, refused half-way or not.
-/
import YashModel.Variable.Sim
namespace YashModel.Variable

theorem topVol_push {s : VariableSet} (h : Norm s) : TopVol (s.step (.push .volatile)).1 :=
  ⟨⟨.volatile, fun _ => none⟩, abs s, (push_abs h .volatile).1, rfl⟩

theorem assignOps_value {s : VariableSet} (h : Norm s) (sc : Scope) (ex : Bool) (n : Name) (v : Value)
    (hg : (s.getOrNew n sc).isSome = true) (hok : (runOps ifaceM s (assignOps sc ex n v)).2 = false) :
    ∃ u, (runOps ifaceM s (assignOps sc ex n v)).1.get n = some u ∧ u.value = some v := by
  obtain ⟨w, rest, h1, h2⟩ := stepM_head h n sc hg
  have ha : s.step (.assign n sc v none) = _ := h1 (·.assign v none) (fun s1 => assignRes ((s1.get n).getD {}))
  have he : ∀ x, (s.setTop n (⟨x, w.ctx⟩ :: rest)).step (.export n sc true) = _ :=
    fun x => h2 x (·.setExport true) (fun _ => .done)
  rw [get_setTop_cons] at ha
  simp only [assignOps, runOps, ifaceM, ha] at hok ⊢
  cases hw : w.var.readOnly with
  | some l => simp [assignRes, hw] at hok
  | none =>
    have hv : (w.var.assign v none).value = some v := by simp [Variable.assign, Variable.isReadOnly, hw]
    simp only [Option.getD_some, assignRes, hw]
    cases ex with
    | false => exact ⟨_, get_setTop_cons _ _ _ _, hv⟩
    | true => simp only [if_true, runOps, he]; exact ⟨_, get_setTop_cons _ _ _ _, hv⟩

theorem runOps_inv {P : VariableSet → Prop} (ops : List Op) (hstep : ∀ s, ∀ op ∈ ops, P s → P (s.step op).1)
    (s : VariableSet) (hP : P s) : P (runOps ifaceM s ops).1 :=
  (runOps_sim (I := ifaceM) (J := ifaceM) (diag_step (ok := (· ∈ ops)) fun s op ho => hstep s op ho) ops (fun _ h => h)
    s s ⟨rfl, hP⟩).1.2

theorem runAssigns_inv {P : VariableSet → Prop} (sc : Scope) (ex : Bool)
    (hstep : ∀ s n v, ∀ op ∈ assignOps sc ex n v, P s → P (s.step op).1) (as : List (Name × AVal))
    (s : VariableSet) (hP : P s) : P (runAssigns ifaceM sc ex s as).1 :=
  (runAssigns_simOn (I := ifaceM) (J := ifaceM)
    (diag_step (ok := fun op => ∃ n v, op ∈ assignOps sc ex n v) fun s op ⟨n, v, ho⟩ => hstep s n v op ho)
    (by rintro s _ n ⟨rfl, _⟩; rfl) sc ex (fun n v op ho => ⟨n, v, ho⟩) as s s ⟨rfl, hP⟩).1.2

theorem assignOps_mem {sc : Scope} {ex : Bool} {n : Name} {v : Value} {op : Op} (h : op ∈ assignOps sc ex n v) :
    op.name? = some n ∧ (sc = .volatile → isTopVolOp op = true) := by
  cases ex <;> simp [assignOps] at h <;> rcases h with rfl | rfl <;> exact ⟨rfl, fun e => by subst e; rfl⟩

theorem topVol_isVolatileAt {s : VariableSet} (h : TopVol s) : isVolatileAt s.contexts (s.contexts.length - 1) = true := by
  obtain ⟨c, t, hc, hk⟩ := h
  have := abs_kinds s
  rw [hc] at this
  have hr : s.contexts = (t.map (·.kind)).reverse ++ [c.kind] := by
    have := congrArg List.reverse this; simpa using this.symm
  rw [hr]
  cases hck : c.kind with
  | regular ps => rw [hck] at hk; cases hk
  | volatile => simp [isVolatileAt]

end YashModel.Variable
