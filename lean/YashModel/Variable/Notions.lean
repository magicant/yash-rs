/-
  C16 — the notions the property theorems are stated in: the normal form `Norm` and the abstraction function `abs`
  (DESIGN: **S**), the classes of operations and the admissibility condition of the frame rule, agreement of stacks of
  maps, what it means that read-only instances are kept.  Definitions only.
-/
import YashModel.Variable.Model
import YashModel.Variable.Spec
import YashModel.Variable.Exec
namespace YashModel.Variable

/-! ### the normal form of the Rust structure -/

/-- `assert_normalized` of the Rust tests (indices strictly increasing, below the number of
    contexts) plus "the base context is regular" -/
structure Norm (s : VariableSet) : Prop where
  sorted : ∀ n, (s.all n).Pairwise (fun a b => a.ctx < b.ctx)
  bounded : ∀ n v, v ∈ s.all n → v.ctx < s.contexts.length
  base : ∃ ps t, s.contexts = Context.regular ps :: t

/-- `Norm` for one stack read from the top: context indices strictly decreasing and below `k` -/
def Dec : Nat → List VIC → Prop
  | _, [] => True
  | k, v :: r => v.ctx < k ∧ Dec v.ctx r

/-- the variable an operation works on (none for context and positional-parameter operations) -/
def Op.name? : Op → Option Name
  | .getOrNew n _ | .assign n _ _ _ | .export n _ _ | .readonly n _ _ | .unset n _ | .quirk n _ _ => some n
  | .push _ | .pop | .setParams _ => none

/-! ### the abstraction function: transpose to a stack of maps; the column of a name -/

def cellAt (st : List VIC) (i : Nat) : Option Variable := (st.find? (fun v => v.ctx == i)).map (·.var)

/-- contexts given top first; the context at the head has index `t.length` -/
def absRev (all : Name → List VIC) : List Context → SSet
  | [] => []
  | c :: t => ⟨c, fun n => cellAt (all n) t.length⟩ :: absRev all t

def abs (s : VariableSet) : SSet := absRev s.all s.contexts.reverse

/-- what each context, from the top, holds for one name -/
abbrev Col := List (Context × Option Variable)

def col (X : SSet) (n : Name) : Col := X.map (fun c => (c.kind, c.vars n))

/-! ### classes of operations; agreement of two stacks of maps -/

/-- what happens inside a volatile context set up for a command: `Volatile`-scope accesses -/
def isTopVolOp : Op → Bool
  | .getOrNew _ .volatile | .assign _ .volatile _ _ | .export _ .volatile _ | .readonly _ .volatile _
  | .quirk _ .volatile _ => true
  | _ => false

/-- what `typeset` (local), `unset` of a local and `set --` do inside a function: `Local`-scope
    accesses and the positional parameters -/
def isTopRegOp : Op → Bool
  | .getOrNew _ .loc | .assign _ .loc _ _ | .export _ .loc _ | .readonly _ .loc _ | .unset _ .loc
  | .setParams _ | .quirk _ .loc _ => true
  | _ => false

/-- same kinds (hence positional parameters) context by context, same variables for the names in `P` -/
def Agree (P : Name → Prop) : SSet → SSet → Prop
  | [], [] => True
  | c :: X, d :: Y => c.kind = d.kind ∧ (∀ n, P n → c.vars n = d.vars n) ∧ Agree P X Y
  | [], _ :: _ => False
  | _ :: _, [] => False

def BaseReg (X : SSet) : Prop := ∃ c, X.getLast? = some c ∧ c.kind.isRegular = true

/-! ### the admissibility condition of the frame rule -/

/-- the name whose instances *below* the contexts of the running command an operation may reach.
    `inReg` = a regular context lies among the contexts pushed since the command began (including the
    command's own one).  `Global` scope always reaches down; `Local` scope and an `unset` at
    `Volatile` scope do unless a regular context shields what is below; `get_or_new(Volatile)` only
    ever writes the top context. -/
def Op.escName (inReg : Bool) : Op → Option Name
  | .getOrNew n sc | .assign n sc _ _ | .export n sc _ | .readonly n sc _ | .quirk n sc _ =>
    match sc with
    | .global => some n
    | .loc => if inReg then none else some n
    | .volatile => none
  | .unset n sc =>
    match sc with
    | .global => some n
    | _ => if inReg then none else some n
  | _ => none

/-- `set --` changes the positional parameters of a context below the command's own contexts -/
def Op.escParams (inReg : Bool) : Op → Bool
  | .setParams _ => !inReg
  | _ => false

/-- the kinds (`true` = regular) of the contexts pushed by the body so far, top first -/
def nextStack (st : List Bool) : Op → Option (List Bool)
  | .push c => some (c.isRegular :: st)
  | .pop => match st with
    | [] => none
    | _ :: st' => some st'
  | _ => some st

/-- a body is balanced (every context it pushes is popped again, none of the outer ones is), never
    does `set --` outside a regular context of its own, and no operation of it reaches below the
    command's contexts for a name in `N`.  `base` = the command's own bottom context is regular (a
    function call) or volatile (a regular built-in, an external utility, a command not found); the `List Bool`
    = the kinds of the contexts the body has pushed and not yet popped, top first (`nextStack`). -/
def frameOK (N : Name → Prop) (base : Bool) : List Bool → List Op → Prop
  | st, [] => st = []
  | st, op :: r =>
    op.escParams (base || st.any id) = false ∧
    (∀ m, op.escName (base || st.any id) = some m → ¬ N m) ∧
    match nextStack st op with
    | none => False
    | some st' => frameOK N base st' r

def Op.globalName? : Op → Option Name
  | .getOrNew n .global | .assign n .global _ _ | .export n .global _ | .readonly n .global _
  | .unset n .global | .quirk n .global _ => some n
  | _ => none

/-- every context the operations push is popped again, none of the outer ones is (what the RAII
    guards of `push_context` guarantee), starting `d` contexts deep -/
def balanced : Nat → List Op → Bool
  | d, [] => d == 0
  | d, .push _ :: r => balanced (d + 1) r
  | 0, .pop :: _ => false
  | d + 1, .pop :: r => balanced d r
  | d, _ :: r => balanced d r

/-- nested function calls: level `i` = (temporaries, arguments, what the body does before and after
    calling level `i + 1`) -/
def nestCalls : List (List (Name × Value) × List String × List Op × List Op) → List Op
  | [] => []
  | (as, ps, pre, post) :: rest => functionCmd as ps (pre ++ nestCalls rest ++ post)

/-! ### read-only instances -/

def SameRO (a b : Variable) : Prop := a.value = b.value ∧ a.readOnly = b.readOnly

/-- on a stack read from the top: an instance in a volatile context directly above a read-only one is
    a copy of it -/
def Shadow (cs : List Context) : List VIC → Prop
  | u :: w :: rest =>
    (isVolatileAt cs u.ctx = true → w.var.isReadOnly = true → SameRO u.var w.var) ∧ Shadow cs (w :: rest)
  | _ => True

def ShadowInv (s : VariableSet) : Prop := ∀ n, Shadow s.contexts (s.all n).reverse

/-- every read-only instance of `s` has a read-only instance with the same value and mark in `s'` -/
def KeepsAll (s s' : VariableSet) : Prop :=
  ∀ n e, e ∈ s.all n → e.var.isReadOnly = true →
    ∃ e' ∈ s'.all n, e'.var.isReadOnly = true ∧ SameRO e'.var e.var

/-- normalised and with the read-only invariant: what every reachable set is (`run_good`) -/
def Good (s : VariableSet) : Prop := Norm s ∧ ShadowInv s

/-- the context with index `k` is not popped by the history (`len` = number of contexts at its
    start; popping the base context is not possible) -/
def survives (k : Nat) : Nat → List Op → Bool
  | _, [] => true
  | len, .push _ :: r => survives k (len + 1) r
  | len, .pop :: r => if len ≤ 1 then survives k len r else decide (k < len - 1) && survives k (len - 1) r
  | len, _ :: r => survives k len r

/-- the top context is volatile (the state a regular command's prefix is assigned in) -/
def TopVol (s : VariableSet) : Prop := ∃ c t, abs s = c :: t ∧ c.kind.isRegular = false

/-! ### values as text, locations -/

/-- text of a value in the environment (arrays joined with `:`) -/
def valueString : Value → String
  | .scalar x => x
  | .array xs => joinColon xs

/-- a location reached through any number of alias substitutions is on the line of the innermost
    original -/
def Loc.wrap (l : Loc) : List (Nat × String × Nat) → Loc
  | [] => l
  | (a, b, c) :: rest => .alias a b c (l.wrap rest)

end YashModel.Variable
