/-
  C16 — the Spec side of the Exec-level clauses, where the question is what is *visible*: what the contexts a
  command sets up (`Exec.lean`) look like from inside, which variable `get_or_new` hands out, and what a
  `Global`-scope access from inside a command leaves behind after the command's contexts are popped.
  `Theorems.lean` carries these to the Rust model by refinement.  What a command *cannot reach* is proved on the
  Rust structure (`Frame.lean`).
-/
import YashModel.Variable.Refine
namespace YashModel.Variable

theorem SSet.run_append (X : SSet) (a b : List Op) : SSet.run X (a ++ b) = SSet.run (SSet.run X a) b := by
  induction a generalizing X with
  | nil => rfl
  | cons op a ih => simp only [List.cons_append, SSet.run, ih]

theorem agree_kinds {P : Name → Prop} {X Y : SSet} (h : Agree P X Y) : Y.map (·.kind) = X.map (·.kind) := by
  induction X generalizing Y with
  | nil => cases Y with
    | nil => rfl
    | cons _ _ => exact h.elim
  | cons c X ih => cases Y with
    | nil => exact h.elim
    | cons d Y => simp only [List.map_cons, h.1, ih h.2.2]

theorem exists_name_ne (n : Name) : ∃ m : Name, m ≠ n :=
  ⟨n ++ "_", fun e => by have := congrArg String.length e; simp at this⟩

theorem agree_of_col_ne {n : Name} {X Y : SSet} (h : ∀ m, m ≠ n → col Y m = col X m) : Agree (· ≠ n) X Y := by
  obtain ⟨m0, hm0⟩ := exists_name_ne n
  induction X generalizing Y with
  | nil =>
    cases Y with
    | nil => trivial
    | cons d Y => have := h m0 hm0; simp at this
  | cons c X ih =>
    cases Y with
    | nil => have := h m0 hm0; simp at this
    | cons d Y =>
      have h0 := h m0 hm0
      simp only [col_cons, List.cons.injEq, Prod.mk.injEq] at h0
      refine ⟨h0.1.1.symm, fun m hm => ?_, ih fun m hm => ?_⟩
      · have := h m hm; simp only [col_cons, List.cons.injEq, Prod.mk.injEq] at this; exact this.1.2.symm
      · have := h m hm; simp only [col_cons, List.cons.injEq] at this; exact this.2

theorem lower_agree (m : Name) (tb : Bool) (X : SSet) (c : Option Variable) :
    Agree (· ≠ m) X (lower m tb X c) :=
  agree_of_col_ne fun _ hm => lower_col_ne m tb X c hm

theorem lower_kinds (n : Name) (tb : Bool) (X : SSet) (c : Option Variable) :
    (lower n tb X c).map (·.kind) = X.map (·.kind) :=
  agree_kinds (lower_agree n tb X c)

theorem modifyVisible_kinds (n : Name) (f : Variable → Variable) (X : SSet) :
    (modifyVisible n f X).map (·.kind) = X.map (·.kind) :=
  agree_kinds (agree_of_col_ne fun m hm => by rw [modifyVisible_col, if_neg hm])

theorem baseReg_iff (X : SSet) : BaseReg X ↔ ((X.map (·.kind)).getLast?.map Context.isRegular) = some true := by
  rw [List.getLast?_map]
  cases hl : X.getLast? with
  | none => simp [BaseReg, hl]
  | some c => simp [BaseReg, hl]

theorem baseReg_step_kinds {X Y : SSet} (h : Y.map (·.kind) = X.map (·.kind)) (hB : BaseReg X) : BaseReg Y := by
  rw [baseReg_iff] at hB ⊢; rw [h]; exact hB

theorem baseReg_abs {s : VariableSet} (h : Norm s) : BaseReg (abs s) := by
  obtain ⟨ps, t, ht⟩ := h.base
  rw [baseReg_iff, abs_kinds, ht]; simp [Context.isRegular]

theorem BaseReg.ne_nil {X : SSet} (h : BaseReg X) : X ≠ [] := by
  obtain ⟨c, hc, _⟩ := h
  intro e; subst e; cases hc

theorem BaseReg.tail {c : SCtx} {t : SSet} (h : BaseReg (c :: t)) (ht : t ≠ []) : BaseReg t := by
  obtain ⟨d, hd, hr⟩ := h
  exact ⟨d, by rw [List.getLast?_cons_of_ne_nil ht] at hd; exact hd, hr⟩

theorem pop_cons (c : SCtx) (X : SSet) (h : X ≠ []) : SSet.pop (c :: X) = X := by
  cases X with
  | nil => exact absurd rfl h
  | cons b t => rfl

theorem lookup_modifyVisible (n : Name) (f : Variable → Variable) (X : SSet) :
    lookup (modifyVisible n f X) n = (lookup X n).map f := by
  induction X with
  | nil => rfl
  | cons c X ih => cases hv : c.vars n <;> simp [modifyVisible, lookup, hv, ih, SCtx.set]

theorem lookup_push (X : SSet) (k : Context) (n : Name) : lookup (X.push k) n = lookup X n := rfl

/-- the variable `get_or_new` hands out is the carried one, else the one that was visible within the scope (`Global`:
    anywhere; `Local`: down to the topmost regular context), else a fresh default one -/
theorem lookup_lower (n : Name) (tb : Bool) (X : SSet) (hB : BaseReg X) (carried : Option Variable) :
    lookup (lower n tb X carried) n =
      some (carried.getD ((lookup (X.take (if tb then X.length else volPrefix X + 1)) n).getD {})) := by
  induction X generalizing carried with
  | nil => exact absurd rfl hB.ne_nil
  | cons c t ih =>
    by_cases hc : c.kind.isRegular = true
    · cases hv : c.vars n with
      | some v => cases tb <;> simp [lower, hc, hv, lookup, SCtx.set, volPrefix]
      | none =>
        by_cases ht : t = []
        · subst ht; cases tb <;> simp [lower, hc, hv, lookup, SCtx.set, volPrefix]
        · have : t.isEmpty = false := by simpa using ht
          -- `Local` stops at this context, `Global` goes on below it
          cases tb
          · simp [lower, hc, hv, lookup, SCtx.set, volPrefix]
          · simp [lower, hc, hv, this, lookup, ih (hB.tail ht) carried]
    · have hne : t ≠ [] := by
        intro e; subst e
        obtain ⟨d, hd, hr⟩ := hB
        simp at hd; subst hd; exact hc hr
      have hk : (if tb then (c :: t).length else volPrefix (c :: t) + 1)
          = (if tb then t.length else volPrefix t + 1) + 1 := by cases tb <;> simp [volPrefix, hc]
      rw [hk, List.take_succ_cons]
      cases hv : c.vars n with
      | some v => simp [lower, hc, hv, lookup, SCtx.set, ih (hB.tail hne)]
      | none => simp [lower, hc, hv, lookup, ih (hB.tail hne) carried]

theorem lookup_lower_global (n : Name) (X : SSet) (hB : BaseReg X) (carried : Option Variable) :
    lookup (lower n true X carried) n = some (carried.getD ((lookup X n).getD {})) := by
  simpa using lookup_lower n true X hB carried

theorem topVolOp_write {op : Op} (h : isTopVolOp op = true) :
    ∃ n f res, op.name? = some n ∧ op.write? = some (.volatile, f, res) := by
  cases op with
  | push _ | pop | setParams _ | unset _ _ => cases h
  | getOrNew _ sc | assign _ sc _ _ | «export» _ sc _ | readonly _ sc _ | quirk _ sc _ =>
    cases sc <;> first | (cases h; done) | exact ⟨_, _, _, rfl, rfl⟩

theorem stepS_vol (c : SCtx) (t : SSet) (n : Name) (f : Variable → Variable) (r : SSet → Res)
    (hc : c.kind.isRegular = false) :
    stepS (c :: t) n .volatile f r =
      (c.set n (some (f ((lookup (c :: t) n).getD {}))) :: t, r (c.set n (some ((lookup (c :: t) n).getD {})) :: t)) := by
  have hv : (c.set n (some ((lookup (c :: t) n).getD {}))).vars n = some ((lookup (c :: t) n).getD {}) := by
    simp [SCtx.set]
  simp only [stepS, getOrNew_vol c t n hc, modifyVisible, hv, SCtx.set_set]

theorem step_volTop (c : SCtx) (X : SSet) (op : Op) (hop : isTopVolOp op = true) :
    ∃ c', (SSet.step (c :: X) op).1 = c' :: X ∧ c'.kind = c.kind := by
  obtain ⟨n, f, res, hn, hw⟩ := topVolOp_write hop
  rw [SSet.step_write _ hn hw]
  by_cases hc : c.kind.isRegular = true
  · exact ⟨c, by simp [stepS, SSet.getOrNew, hc], rfl⟩
  · rw [stepS_vol c X n f _ (by simpa using hc)]; exact ⟨_, rfl, rfl⟩

theorem run_topVol (c : SCtx) (t : SSet) (ops : List Op) (h : ∀ op ∈ ops, isTopVolOp op = true) :
    ∃ c', SSet.run (c :: t) ops = c' :: t ∧ c'.kind = c.kind := by
  induction ops generalizing c with
  | nil => exact ⟨c, rfl, rfl⟩
  | cons op ops ih =>
    obtain ⟨c1, h1, hk1⟩ := step_volTop c t op (h op (by simp))
    obtain ⟨c2, h2, hk2⟩ := ih c1 (fun o ho => h o (by simp [ho]))
    exact ⟨c2, by simp only [SSet.run, h1, h2], hk2.trans hk1⟩

theorem run_temp_vol (c : SCtx) (t : SSet) (hc : c.kind.isRegular = false) (n : Name) (v : Value) :
    SSet.run (c :: t) (tempOps [(n, v)]) =
      c.set n (some ((((lookup (c :: t) n).getD {}).assign v none).setExport true)) :: t := by
  have h1 : (SSet.step (c :: t) (.assign n .volatile v none)).1
      = c.set n (some (((lookup (c :: t) n).getD {}).assign v none)) :: t := by
    rw [SSet.step_write _ (n := n) rfl rfl, stepS_vol c t n _ _ hc]
  simp only [tempOps, List.flatMap_cons, List.flatMap_nil, List.append_nil, SSet.run]
  have hl : ∀ w, lookup (c.set n (some w) :: t) n = some w := fun w => by simp [lookup, SCtx.set]
  rw [h1, SSet.step_write _ (n := n) rfl rfl, stepS_vol (c.set n _) t n _ _ hc, hl, SCtx.set_set]
  rfl

theorem spec_enter_function (X : SSet) (as : List (Name × Value)) (ps : List String) :
    ∃ cV, SSet.run X (enterFunction as ps)
        = ⟨.regular ps, fun _ => none⟩ :: cV :: X ∧ cV.kind.isRegular = false ∧
      SSet.run X ([Op.push .volatile] ++ tempOps as) = cV :: X := by
  obtain ⟨cV, h1, hk⟩ := run_topVol ⟨.volatile, fun _ => none⟩ X (tempOps as) (tempOps_topVol as)
  have h2 : SSet.run X ([Op.push .volatile] ++ tempOps as) = cV :: X := h1
  exact ⟨cV, by rw [enterFunction, SSet.run_append, h2]; rfl, by rw [hk]; rfl, h2⟩

theorem spec_temp_visible (X : SSet) (others : List (Name × Value)) (n : Name) (v : Value) (ps : List String) :
    ∃ u, lookup (SSet.run X (enterFunction (others ++ [(n, v)]) ps)) n
        = some u ∧ u.exported = true ∧ (u.isReadOnly = false → u.value = some v) := by
  obtain ⟨cV, _, hk, h1⟩ := spec_enter_function X others ps
  refine ⟨(((lookup (cV :: X) n).getD {}).assign v none).setExport true, ?_, rfl, assign_value _ v none⟩
  rw [enterFunction, tempOps_append, ← List.append_assoc, SSet.run_append, SSet.run_append, h1, run_temp_vol cV X hk]
  simp [SSet.run, SSet.step, SSet.push, lookup, SCtx.set]

/-! ### a `Global`-scope access from inside a function call whose own context does not define the
    name: the function's context and the (emptied) volatile context stay on top, the variable lives
    below them -/

structure InCall (n : Name) (cR cV : SCtx) (Y : SSet) : Prop where
  reg : cR.kind.isRegular = true
  noLocal : cR.vars n = none
  vol : cV.kind.isRegular = false
  base : BaseReg Y

theorem inCall_getOrNew (n : Name) (cR cV : SCtx) (Y : SSet) (h : InCall n cR cV Y) :
    ∃ cV2 Y2 w, SSet.getOrNew (cR :: cV :: Y) n .global = some (cR :: cV2 :: Y2) ∧
      InCall n cR cV2 Y2 ∧ cV2.vars n = none ∧ lookup Y2 n = some w := by
  have hlow : ∃ cV2 carried, lower n true (cR :: cV :: Y) none = cR :: cV2 :: lower n true Y carried ∧
      cV2.vars n = none ∧ cV2.kind = cV.kind := by
    cases hv : cV.vars n with
    | some w => exact ⟨cV.set n none, some w, by simp [lower, h.reg, h.noLocal, h.vol, hv], by simp [SCtx.set], rfl⟩
    | none => exact ⟨cV, none, by simp [lower, h.reg, h.noLocal, h.vol, hv], hv, rfl⟩
  obtain ⟨cV2, carried, hl, hn2, hk⟩ := hlow
  refine ⟨cV2, lower n true Y carried, _, by simp [SSet.getOrNew, hl], ?_, hn2, lookup_lower_global n Y h.base carried⟩
  exact ⟨h.reg, h.noLocal, by rw [hk]; exact h.vol, baseReg_step_kinds (lower_kinds n true Y carried) h.base⟩

theorem inCall_step (n : Name) (cR cV : SCtx) (Y : SSet) (h : InCall n cR cV Y) {op : Op} {f : Variable → Variable}
    {res : Option Variable → Res} (hn : op.name? = some n) (hw : op.write? = some (.global, f, res)) :
    ∃ cV2 Y2 w, (SSet.step (cR :: cV :: Y) op).1 = cR :: cV2 :: Y2 ∧ InCall n cR cV2 Y2 ∧ lookup Y2 n = some (f w) := by
  obtain ⟨cV2, Y2, w, hg, hF, hn2, hw2⟩ := inCall_getOrNew n cR cV Y h
  refine ⟨cV2, modifyVisible n f Y2, w, ?_, ?_, by rw [lookup_modifyVisible, hw2]; rfl⟩
  · rw [SSet.step_write _ hn hw]; simp [stepS, hg, modifyVisible, h.noLocal, hn2]
  · exact ⟨hF.reg, hF.noLocal, hF.vol, baseReg_step_kinds (modifyVisible_kinds n f Y2) hF.base⟩

theorem inCall_run (n : Name) (cR cV : SCtx) (Y : SSet) (h : InCall n cR cV Y) (ops : List Op)
    (hops : ∀ o ∈ ops, o.name? = some n ∧ ∃ g r, o.write? = some (.global, g, r)) :
    ∃ cV2 Y2, SSet.run (cR :: cV :: Y) ops = cR :: cV2 :: Y2 ∧ InCall n cR cV2 Y2 := by
  induction ops generalizing cV Y with
  | nil => exact ⟨cV, Y, rfl, h⟩
  | cons o ops ih =>
    obtain ⟨hn, g, r, hw⟩ := hops o (by simp)
    obtain ⟨cV1, Y1, _, hs, hF, _⟩ := inCall_step n cR cV Y h hn hw
    obtain ⟨cV2, Y2, hr, hF2⟩ := ih cV1 Y1 hF (fun o' ho' => hops o' (by simp [ho']))
    exact ⟨cV2, Y2, by simp only [SSet.run, hs, hr], hF2⟩

/-- a function body of `Global`-scope operations on `n`, the last one writing `f` through the reference: after the
    return the visible `n` is `f` of something -/
theorem spec_modify_in_function (X : SSet) (hB : BaseReg X) (as : List (Name × Value)) (ps : List String)
    (n : Name) (pre : List Op) (op : Op) (f : Variable → Variable) (res : Option Variable → Res)
    (hpre : ∀ o ∈ pre, o.name? = some n ∧ ∃ g r, o.write? = some (.global, g, r))
    (hn : op.name? = some n) (hw : op.write? = some (.global, f, res)) :
    ∃ w, lookup (SSet.run X (functionCmd as ps (pre ++ [op]))) n = some (f w) := by
  obtain ⟨cV, hin, hk, _⟩ := spec_enter_function X as ps
  rw [functionCmd_eq, SSet.run_append, SSet.run_append, hin, SSet.run_append]
  obtain ⟨cV1, Y1, hs1, hF1⟩ := inCall_run n ⟨.regular ps, fun _ => none⟩ cV X ⟨rfl, rfl, hk, hB⟩ pre hpre
  obtain ⟨cV2, Y2, w, hs2, _, hl⟩ := inCall_step n _ cV1 Y1 hF1 hn hw
  refine ⟨w, ?_⟩
  simp only [hs1, SSet.run, hs2]
  show lookup (SSet.pop (SSet.pop ((⟨.regular ps, fun _ => none⟩ : SCtx) :: cV2 :: Y2))) n = _
  rw [show SSet.pop ((⟨.regular ps, fun _ => none⟩ : SCtx) :: cV2 :: Y2) = cV2 :: Y2 from rfl,
    pop_cons _ _ (by intro e; rw [e] at hl; cases hl)]
  exact hl

/-- `n=v typeset -g n`: the `Global`-scope access of the built-in takes the temporary variable
    out of the command's volatile context and puts it into the regular context that defines `n` (or
    the base context), so after the command `n` is the temporary one -/
theorem spec_global_access_carries_temporary (X : SSet) (hB : BaseReg X) (n : Name) (v : Value) :
    ∃ w : Variable, lookup (SSet.run X (regularCmd [(n, v)] [.getOrNew n .global])) n
      = some ((w.assign v none).setExport true) := by
  let cV : SCtx := ⟨.volatile, fun _ => none⟩
  refine ⟨(lookup (cV :: X) n).getD {}, ?_⟩
  rw [regularCmd_cons]
  simp only [SSet.run]
  rw [show (SSet.step X (.push .volatile)).1 = cV :: X from rfl, SSet.run_append, SSet.run_append,
    run_temp_vol cV X rfl]
  -- the `Global`-scope walk takes the variable out of the volatile context and carries it down
  generalize hu : (((lookup (cV :: X) n).getD {}).assign v none).setExport true = u
  have hlow : (SSet.step (cV.set n (some u) :: X) (.getOrNew n .global)).1
      = (cV.set n (some u)).set n none :: lower n true X (some u) := by
    simp [SSet.step, SSet.getOrNew, lower, SCtx.set, cV, Context.isRegular]
  simp only [SSet.run]
  rw [hlow]
  show lookup (SSet.pop (_ :: _)) n = _
  rw [pop_cons _ _ (baseReg_step_kinds (lower_kinds n true X _) hB).ne_nil, lookup_lower_global n X hB]
  rfl

end YashModel.Variable
