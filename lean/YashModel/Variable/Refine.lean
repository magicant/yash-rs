/-
  C16 — each operation of the Rust model, on a normalised set, commutes with the abstraction function
  and keeps the set normalised; so do whole histories.
-/
import YashModel.Variable.Columns
namespace YashModel.Variable

theorem Norm.decR {s : VariableSet} (h : Norm s) (n : Name) : Dec s.contexts.reverse.length (s.top n) := by
  simpa using h.dec n

/-- ★ `get_refines`: `get` returns the variable of the topmost context that defines the name -/
theorem get_refines (s : VariableSet) (h : Norm s) (n : Name) : s.get n = lookup (abs s) n := by
  rw [lookup_col, col_abs h, cLookup_dense _ _ (h.decR n), get_top]

/-- ★ `get_scoped` is the same lookup restricted to the contexts of the scope -/
theorem getScoped_refines (s : VariableSet) (h : Norm s) (n : Name) (scope : Scope) :
    s.getScoped n scope = (abs s).getScoped n scope := by
  have hk := index_depth h scope
  rw [getScoped_top]
  unfold SSet.getScoped
  rw [lookup_col, col_take, col_abs h, cLookup_dense_take _ _ _ _ hk (h.decR n)]

/-- ★ `env_refines`: the environment is computed from the visible variables -/
theorem env_refines (s : VariableSet) (h : Norm s) (names : List Name) :
    s.env names = (abs s).env names := by
  unfold VariableSet.env SSet.env
  congr 1
  funext n
  rw [get_refines _ h n]

/-- ★ `iter_refines`: iteration yields exactly the visible variables defined within the scope
    (for whatever finite set of keys the hash map holds) -/
theorem iter_refines (s : VariableSet) (h : Norm s) (scope : Scope) (names : List Name) :
    s.iter scope names = (abs s).iter scope names := by
  unfold VariableSet.iter SSet.iter
  congr 1
  funext n
  rw [← getScoped_refines _ h n scope]
  unfold VariableSet.getScoped
  cases (s.all n).getLast? with
  | none => rfl
  | some v => by_cases hv : indexOfContext scope s.contexts ≤ v.ctx <;> simp [Option.filter, hv]

theorem getScalar_refines (s : VariableSet) (h : Norm s) (n : Name) : s.getScalar n = (abs s).getScalar n := by
  unfold VariableSet.getScalar SSet.getScalar; rw [get_refines _ h n]

theorem getOrNew_lower_abs {s : VariableSet} (h : Norm s) (n : Name) {sc : Scope} (hsc : sc ≠ .volatile) :
    abs (s.setTop n (lowerLoop s.contexts (indexOfContext sc s.contexts) (s.top n) none))
      = lower n (sc == .global) (abs s) none ∧
    Norm (s.setTop n (lowerLoop s.contexts (indexOfContext sc s.contexts) (s.top n) none)) := by
  -- the target of the scope as the Spec's walk needs it: index 0 for `Global`, just below the volatile prefix for `Local`
  have hid := index_depth h sc
  rw [List.length_reverse] at hid
  have hpos := h.pos
  have htgt : ((sc == .global) = true → indexOfContext sc s.contexts = 0) ∧
      ((sc == .global) = false → indexOfContext sc s.contexts + volPrefix (abs s) + 1 = (abs s).length) ∧
      indexOfContext sc s.contexts < s.contexts.length := by
    cases sc with
    | global => exact ⟨fun _ => rfl, (by intro hb; simp at hb), hpos⟩
    | loc =>
      simp only [scopeDepth] at hid
      exact ⟨(by intro hb; simp at hb), (fun _ => by rw [abs_length]; omega), by omega⟩
    | volatile => exact absurd rfl hsc
  have hd := lowerLoop_dec s.contexts _ _ _ none (h.dec n) htgt.2.2
  refine abs_setTop h n _ _ hd fun m => ?_
  rw [lower_col n _ (indexOfContext sc s.contexts) _ none m htgt.1 htgt.2.1, col_abs h n,
    cLowerAt_dense s.contexts _ s.contexts.reverse (s.top n) none [] (by simp) (h.decR n)
      (isVolatileAt_index h hsc) (by simpa using htgt.2.2)]

theorem getOrNew_vol_col (c : SCtx) (t : SSet) (n : Name) (hc : c.kind.isRegular = false) :
    ∃ Y, SSet.getOrNew (c :: t) n .volatile = some Y ∧
      ∀ m, col Y m = if m = n then cVol (col (c :: t) n) else col (c :: t) m := by
  refine ⟨_, getOrNew_vol c t n hc, fun m => ?_⟩
  by_cases hm : m = n
  · subst hm; simp only [col_cons, cVol, SCtx.set, if_true, lookup_col (c :: t) m]
  · simp [hm, SCtx.set]

theorem getOrNew_abs {s : VariableSet} (h : Norm s) (n : Name) (scope : Scope) :
    (s.getOrNew n scope).map abs = (abs s).getOrNew n scope ∧
    ∀ s', s.getOrNew n scope = some s' → Norm s' := by
  by_cases hsc : scope ≠ .volatile
  · have := getOrNew_lower_abs h n hsc
    rw [getOrNew_of_ne_volatile s n hsc]
    refine ⟨?_, fun s' hs => by cases hs; exact this.2⟩
    cases scope <;> first | exact congrArg some this.1 | exact absurd rfl hsc
  have hv : scope = .volatile := by simpa using hsc
  subst hv
  rw [getOrNew_volatile]
  cases hr : s.contexts.reverse with
  | nil => have := h.pos; have : s.contexts = [] := by simpa using hr
           simp_all
  | cons c t =>
    have hlen : s.contexts.length = t.length + 1 := by
      have := congrArg List.length hr; simpa using this
    have habs : abs s = ⟨c, fun m => cellAt (s.all m) t.length⟩ :: absRev s.all t := by
      unfold abs; rw [hr]; rfl
    have hcs : s.contexts = t.reverse ++ [c] := by
      have := congrArg List.reverse hr; simpa using this
    have hvol : isVolatileAt s.contexts (s.contexts.length - 1) = !c.isRegular := by
      rw [hlen, hcs]; exact isVolatileAt_append t c []
    by_cases hc : c.isRegular = true
    · simp [hvol, hc, habs, SSet.getOrNew]
    · have hc' : c.isRegular = false := by simpa using hc
      obtain ⟨Y, hY, hcol⟩ := getOrNew_vol_col ⟨c, fun m => cellAt (s.all m) t.length⟩ (absRev s.all t) n hc'
      have hd0 : Dec (t.length + 1) (s.top n) := hlen ▸ h.dec n
      have hd : Dec s.contexts.length (volatileBranch (s.contexts.length - 1) (s.top n)) := by
        rw [hlen]; exact volatileBranch_dec _ _ hd0
      simp only [hvol, hc', Bool.not_false, if_true, Option.map_some, habs, hY]
      have := abs_setTop h n _ Y hd fun m => by
        rw [hcol m, ← habs, col_abs h n, hr, hlen]
        split
        · exact cVol_dense c t _ hd0
        · rw [col_abs h m, hr]
      exact ⟨congrArg some this.1, fun s' hs => by cases hs; exact this.2⟩

theorem modifyLast_abs {s : VariableSet} (h : Norm s) (n : Name) (f : Variable → Variable) :
    abs (s.modifyLast n f) = modifyVisible n f (abs s) ∧ Norm (s.modifyLast n f) := by
  have hd := modifyHead_dec f (h.dec n)
  rw [modifyLast_top]
  refine abs_setTop h n _ _ hd fun m => ?_
  rw [modifyVisible_col, col_abs h n, cModify_dense]

theorem unset_abs {s : VariableSet} (h : Norm s) (n : Name) (scope : Scope) :
    abs (s.unset n scope).1 = ((abs s).unset n scope).1 ∧
    (s.unset n scope).2 = ((abs s).unset n scope).2 ∧ Norm (s.unset n scope).1 := by
  have hk := index_depth h scope
  rw [unset_top h n scope]
  simp only [SSet.unset, firstReadOnly_col, col_abs h n, cFirstRO_dense _ _ _ _ hk (h.decR n)]
  cases hf : ((s.top n).takeWhile (fun v => decide (indexOfContext scope s.contexts ≤ v.ctx))).find?
      (fun v => v.var.isReadOnly) with
  | some vic =>
    obtain ⟨l, hl⟩ := isReadOnly_iff.1 (by simpa using List.find?_some hf : vic.var.isReadOnly = true)
    simp [hl, h]
  | none =>
    have hd := dec_dropWhile (fun v => decide (indexOfContext scope s.contexts ≤ v.ctx)) (h.dec n)
    simp only [Option.bind_none]
    have := abs_setTop h n _ _ hd fun m => by
      rw [eraseTop_col, col_abs h n, cErase_dense _ _ _ _ hk (h.decR n)]
    refine ⟨this.1, ?_, this.2⟩
    rw [lookup_col, col_take, col_abs h n, cLookup_dense_take _ _ _ _ hk (h.decR n), List.head?_takeWhile]

theorem push_abs {s : VariableSet} (h : Norm s) (c : Context) :
    abs (s.pushContext c) = (abs s).push c ∧ Norm (s.pushContext c) := by
  have hN : Norm (s.pushContext c) := by
    apply norm_of_dec
    · intro n; simp only [VariableSet.pushContext, List.length_append, List.length_singleton]
      exact dec_mono (h.dec n) (Nat.le_succ _)
    · obtain ⟨ps, t, ht⟩ := h.base
      exact ⟨ps, t ++ [c], by simp [VariableSet.pushContext, ht]⟩
  refine ⟨sset_ext fun m => ?_, hN⟩
  rw [col_abs hN, show (s.pushContext c).top m = s.top m from rfl]
  simp only [VariableSet.pushContext, List.reverse_append, List.reverse_cons, List.reverse_nil,
    List.nil_append, List.cons_append, SSet.push, col_cons]
  rw [dense_of_dec c _ _ (h.decR m), col_abs h]

theorem pop_col (X : SSet) (m : Name) (h : 2 ≤ X.length) : col X.pop m = (col X m).tail := by
  match X, h with
  | _ :: _ :: _, _ => rfl

theorem pop_abs {s : VariableSet} (h : Norm s) :
    abs s.popContext = (abs s).pop ∧ Norm s.popContext := by
  by_cases hle : s.contexts.length ≤ 1
  · rw [popContext_of_le s hle]
    refine ⟨?_, h⟩
    have := abs_length s
    match habs : abs s, this with
    | [], _ => rfl
    | [_], _ => rfl
    | _ :: _ :: _, hl => simp at hl; omega
  · have hgt : 1 < s.contexts.length := by omega
    have hc := pop_contexts s hgt
    cases hr : s.contexts.reverse with
    | nil => have : s.contexts = [] := by simpa using hr
             simp [this] at hgt
    | cons c t =>
      have hlen : s.contexts.length = t.length + 1 := by
        have := congrArg List.length hr; simpa using this
      have hrev' : s.contexts.dropLast.reverse = t := by
        have : s.contexts.dropLast.reverse = s.contexts.reverse.tail := by simp
        rw [this, hr]; rfl
      have htop : ∀ n, s.popContext.top n = popIfR t.length (s.top n) := fun n => by
        rw [pop_top s hgt, hlen, Nat.add_sub_cancel]
      have hN : Norm s.popContext := by
        apply norm_of_dec
        · intro n
          rw [htop, hc, List.length_dropLast, hlen, Nat.add_sub_cancel]
          exact popIfR_dec _ _ (hlen ▸ h.dec n)
        · obtain ⟨ps, u, hu⟩ := h.base
          cases u with
          | nil => simp [hu] at hgt
          | cons d u => exact ⟨ps, (d :: u).dropLast, by simp [hc, hu]⟩
      refine ⟨sset_ext fun m => ?_, hN⟩
      rw [col_abs hN, pop_col _ _ (by rw [abs_length]; omega), col_abs h, htop, hc, hrev', hr,
        dense_tail c t _ (hlen ▸ h.dec m)]

/-- `setParams` on one column -/
def cSetP (ps : List String) : Col → Col
  | [] => []
  | (k, o) :: t => if k.isRegular then (.regular ps, o) :: t else (k, o) :: cSetP ps t

theorem setParams_col (ps : List String) (X : SSet) (m : Name) : col (setParams ps X) m = cSetP ps (col X m) := by
  induction X with
  | nil => rfl
  | cons c X ih => simp only [setParams, col_cons, cSetP]; split <;> simp [ih]

theorem dense_setFirstRegular (ps : List String) (rcs : List Context) (r : List VIC) :
    dense (setFirstRegular ps rcs) r = cSetP ps (dense rcs r) := by
  induction rcs generalizing r with
  | nil => rfl
  | cons c t ih =>
    by_cases hc : c.isRegular = true
    · cases r with
      | nil => simp [setFirstRegular, hc, dense, cSetP]
      | cons v r' => simp only [setFirstRegular, hc, if_true, dense]; split <;> simp [cSetP, hc]
    · cases r with
      | nil => simp [setFirstRegular, hc, dense, cSetP, ih]
      | cons v r' => by_cases hv : v.ctx = t.length <;> simp [setFirstRegular, hc, dense, setFirstRegular_length, hv, cSetP, ih]

theorem setParams_abs {s : VariableSet} (h : Norm s) (ps : List String) :
    abs (s.setPositionalParams ps) = setParams ps (abs s) ∧ Norm (s.setPositionalParams ps) := by
  have hlen : (s.setPositionalParams ps).contexts.length = s.contexts.length := by
    simp [VariableSet.setPositionalParams, setFirstRegular_length]
  have hN : Norm (s.setPositionalParams ps) := by
    apply norm_of_dec
    · intro n; rw [hlen]; exact h.dec n
    · have hk := setPositionalParams_kinds s ps
      obtain ⟨qs, t, ht⟩ := h.base
      rw [ht] at hk
      cases hc : (s.setPositionalParams ps).contexts with
      | nil => rw [hc] at hk; cases hk
      | cons d u =>
        rw [hc] at hk
        cases d with
        | regular rs => exact ⟨rs, u, rfl⟩
        | volatile => cases (List.cons.inj hk).1
  refine ⟨sset_ext fun m => ?_, hN⟩
  rw [col_abs hN, setParams_col, col_abs h]
  simp only [VariableSet.setPositionalParams, List.reverse_reverse]
  exact dense_setFirstRegular ps _ _

theorem positionalParams_of_kinds (Z : SSet) :
    Z.positionalParams = ((Z.map (·.kind)).findSome? fun k => match k with
      | .regular ps => some ps
      | .volatile => none).getD [] := by
  rw [List.findSome?_map]; rfl

theorem positionalParams_refines (s : VariableSet) : s.positionalParams = (abs s).positionalParams := by
  rw [positionalParams_of_kinds, abs_kinds]; rfl

/-- the Spec's `stepM` -/
def stepS (X : SSet) (n : Name) (sc : Scope) (f : Variable → Variable) (resS : SSet → Res) : SSet × Res :=
  match X.getOrNew n sc with
  | none => (X, Res.noVolatile)
  | some X1 => (modifyVisible n f X1, resS X1)

theorem modifyVisible_id (n : Name) (X : SSet) : modifyVisible n id X = X := by
  induction X with
  | nil => rfl
  | cons c X ih =>
    simp only [modifyVisible]
    cases hv : c.vars n with
    | none => simp only [ih]
    | some v =>
      simp only [id, SCtx.set_self hv]

theorem SSet.step_write (X : SSet) {op : Op} {n : Name} {sc : Scope} {f : Variable → Variable}
    {res : Option Variable → Res} (hn : op.name? = some n) (hw : op.write? = some (sc, f, res)) :
    X.step op = stepS X n sc f (fun X1 => res (lookup X1 n)) := by
  cases op <;> cases hw <;> cases hn <;> first | rfl | skip
  simp only [SSet.step, stepS]
  cases X.getOrNew n sc <;> simp only [modifyVisible_id]

theorem getOrNew_modify_abs {s : VariableSet} (h : Norm s) (n : Name) (sc : Scope) (f : Variable → Variable)
    (resM : VariableSet → Res) (resS : SSet → Res) (hres : ∀ s1, Norm s1 → resM s1 = resS (abs s1)) :
    abs (stepM s n sc f resM).1 = (stepS (abs s) n sc f resS).1 ∧
    (stepM s n sc f resM).2 = (stepS (abs s) n sc f resS).2 ∧ Norm (stepM s n sc f resM).1 := by
  obtain ⟨he, hn⟩ := getOrNew_abs h n sc
  unfold stepS
  cases hg : s.getOrNew n sc with
  | none =>
    rw [hg] at he
    rw [stepM_none hg, ← he]
    exact ⟨rfl, rfl, h⟩
  | some s1 =>
    rw [hg] at he
    have hN1 := hn s1 hg
    rw [stepM_some hg, ← he]
    exact ⟨(modifyLast_abs hN1 n f).1, hres s1 hN1, (modifyLast_abs hN1 n f).2⟩

theorem SSet.step_unset (X : SSet) (n : Name) (sc : Scope) :
    X.step (.unset n sc) = ((X.unset n sc).1, unsetRes (X.unset n sc).2) := by
  simp only [SSet.step]
  cases X.unset n sc with
  | mk X1 r => cases r <;> rfl

theorem step_abs {s : VariableSet} (h : Norm s) (op : Op) :
    abs (s.step op).1 = ((abs s).step op).1 ∧ (s.step op).2 = ((abs s).step op).2 ∧ Norm (s.step op).1 := by
  cases hn : op.name? with
  | none =>
    rcases Op.unnamed_cases hn with ⟨c, rfl⟩ | rfl | ⟨ps, rfl⟩
    · exact ⟨(push_abs h c).1, rfl, (push_abs h c).2⟩
    · exact ⟨(pop_abs h).1, rfl, (pop_abs h).2⟩
    · exact ⟨(setParams_abs h ps).1, rfl, (setParams_abs h ps).2⟩
  | some n =>
    rcases Op.named_cases hn with ⟨sc, rfl⟩ | ⟨sc, f, res, hw⟩
    · obtain ⟨h1, h2, h3⟩ := unset_abs h n sc
      rw [step_unset, SSet.step_unset]
      exact ⟨h1, congrArg unsetRes h2, h3⟩
    · rw [step_write s hn hw, SSet.step_write _ hn hw]
      exact getOrNew_modify_abs h n sc f _ _ (fun s1 h1 => by rw [get_refines _ h1])

/-- ★ `norm_preserved`: every operation keeps the per-name context indices strictly increasing and
    below the number of contexts (`assert_normalized` of the Rust tests), and the base regular -/
theorem norm_preserved (s : VariableSet) (op : Op) (h : Norm s) : Norm (s.step op).1 :=
  (step_abs h op).2.2

theorem run_abs_from {s : VariableSet} (h : Norm s) (ops : List Op) :
    abs (s.run ops) = SSet.run (abs s) ops ∧ Norm (s.run ops) := by
  induction ops generalizing s with
  | nil => exact ⟨rfl, h⟩
  | cons op ops ih =>
    simp only [VariableSet.run, SSet.run]
    rw [← (step_abs h op).1]
    exact ih (norm_preserved _ op h)

theorem get_run {s : VariableSet} (h : Norm s) (ops : List Op) (n : Name) :
    (s.run ops).get n = lookup (SSet.run (abs s) ops) n := by
  obtain ⟨ha, hN⟩ := run_abs_from h ops
  rw [get_refines _ hN, ha]

theorem abs_new : abs VariableSet.new = SSet.new := by
  simp [abs, VariableSet.new, absRev, SSet.new, cellAt]

theorem envEntry_of {n : Name} {v : Variable} {val : Value} {x : String} (he : v.exported = true)
    (hv : v.value = some val) (hx : x = valueString val) (h1 : n.toList.any (· == '=') = false)
    (h2 : hasNul n = false) (h3 : hasNul x = false) : envEntry n v = some (n, x) := by
  subst hx
  cases val <;> simp_all [envEntry, valueString] <;> exact fun hm => h1 _ hm rfl

theorem envEntry_some {n : Name} {v : Variable} {p : Name × String} (h : envEntry n v = some p) :
    n = p.1 ∧ v.exported = true ∧ (∃ val, v.value = some val ∧ p.2 = valueString val) ∧
      n.toList.any (· == '=') = false ∧ hasNul n = false ∧ hasNul p.2 = false := by
  unfold envEntry at h
  split at h
  · cases h
  · rename_i hc
    simp only [Bool.or_eq_true, Bool.not_eq_true', not_or, Bool.not_eq_false, Bool.not_eq_true] at hc
    cases hv : v.value with
    | none => simp [hv] at h
    | some val =>
      cases val with
      | scalar _ | array _ =>
        simp only [hv] at h
        split at h
        · cases h
        · rename_i hn
          simp only [Bool.or_eq_true, not_or, Bool.not_eq_true] at hn
          cases h
          exact ⟨rfl, hc.1, ⟨_, rfl, rfl⟩, hc.2, hn.1, hn.2⟩

end YashModel.Variable
