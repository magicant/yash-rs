/-
  C16 — the frame rule for every kind of command with an arbitrary body, on the Rust structure.  Every instance
  stores the index of its context, so what lies below the contexts of a running command is a filter on the stack of
  a name (`low k`), and how far one operation reaches is read off the code: `get_or_new` towards a context stops at
  the first instance below it, `unset` slices at the context of its scope, `pop` drops an instance of the top
  context.  A function call runs in a regular context of its own, so only `Global`-scope accesses reach
  below it.  A regular built-in, an external utility and a command that is not found run in a *volatile* context: a
  `Local`-scope access, an `unset` at `Volatile` scope and `set --` reach below it as well (unless the body is inside
  a regular context it pushed itself).
-/
import YashModel.Variable.Refine
namespace YashModel.Variable

theorem nextStack_named (st : List Bool) (op : Op) (m : Name) (hm : op.name? = some m) :
    nextStack st op = some st := by
  cases op <;> first | (cases hm; done) | rfl

theorem frameOK_of_balanced (N : Name → Prop) (ops : List Op) (st : List Bool)
    (hbal : balanced st.length ops = true)
    (hops : ∀ op ∈ ops, ∀ m, op.globalName? = some m → ¬ N m) : frameOK N true st ops := by
  induction ops generalizing st with
  | nil => simpa [balanced, frameOK] using hbal
  | cons op ops ih =>
    have hops' : ∀ o ∈ ops, ∀ m, o.globalName? = some m → ¬ N m := fun o ho => hops o (by simp [ho])
    have hesc : ∀ m, op.escName true = some m → op.globalName? = some m := by
      intro m
      cases op with
      | push _ | pop | setParams _ => exact fun h => nomatch h
      | getOrNew _ sc | assign _ sc _ _ | «export» _ sc _ | readonly _ sc _ | quirk _ sc _ | unset _ sc =>
        cases sc <;> first | exact id | exact fun h => nomatch h
    refine ⟨by cases op <;> rfl, fun m hm => hops op (by simp) m (hesc m (by simpa using hm)), ?_⟩
    cases op with
    | push c => exact ih (c.isRegular :: st) (by simpa [balanced] using hbal) hops'
    | pop =>
      cases st with
      | nil => simp [balanced] at hbal
      | cons b st' => exact ih st' (by simpa [balanced] using hbal) hops'
    | setParams _ | getOrNew _ _ | assign _ _ _ _ | «export» _ _ _ | readonly _ _ _ | quirk _ _ _ | unset _ _ =>
      exact ih st (by simpa [balanced] using hbal) hops'

theorem topOp_noEscape (b : Bool) (op : Op) (hop : isTopVolOp op = true ∨ (b = true ∧ isTopRegOp op = true))
    (st : List Bool) : op.escParams b = false ∧ op.escName b = none ∧ nextStack st op = some st := by
  rcases hop with h | ⟨rfl, h⟩
  · cases op with
    | push _ | pop | setParams _ | unset _ _ => cases h
    | getOrNew _ sc | assign _ sc _ _ | «export» _ sc _ | readonly _ sc _ | quirk _ sc _ =>
      cases sc <;> first | exact ⟨rfl, rfl, rfl⟩ | cases h
  · cases op with
    | push _ | pop => cases h
    | setParams _ => exact ⟨rfl, rfl, rfl⟩
    | getOrNew _ sc | assign _ sc _ _ | «export» _ sc _ | readonly _ sc _ | quirk _ sc _ | unset _ sc =>
      cases sc <;> first | exact ⟨rfl, rfl, rfl⟩ | cases h

theorem frameOK_append_top (N : Name → Prop) (base : Bool) (st : List Bool) (a b : List Op)
    (ha : ∀ op ∈ a, isTopVolOp op = true ∨ (base = true ∧ isTopRegOp op = true)) (hb : frameOK N base st b) :
    frameOK N base st (a ++ b) := by
  induction a with
  | nil => exact hb
  | cons op a ih =>
    obtain ⟨h1, h2, h3⟩ := topOp_noEscape (base || st.any id) op
      ((ha op (by simp)).imp_right fun ⟨hb, ht⟩ => ⟨by simp [hb], ht⟩) st
    simp only [List.cons_append, frameOK, h1, h2, h3]
    exact ⟨trivial, (fun _ h => nomatch h), ih fun o ho => ha o (by simp [ho])⟩

theorem frameOK_top (N : Name → Prop) (base : Bool) (body : List Op)
    (hb : ∀ op ∈ body, isTopVolOp op = true ∨ (base = true ∧ isTopRegOp op = true)) : frameOK N base [] body := by
  simpa using frameOK_append_top N base [] body [] hb rfl

/-! ### what lies below a context index -/

/-- the instances of a stack below context index `k` -/
def low (k : Nat) (r : List VIC) : List VIC := r.filter (fun v => decide (v.ctx < k))

theorem low_cons_ge {k : Nat} {v : VIC} (r : List VIC) (h : k ≤ v.ctx) : low k (v :: r) = low k r := by
  have : ¬ v.ctx < k := by omega
  simp [low, this]

theorem low_of_dec {k : Nat} {r : List VIC} (h : Dec k r) : low k r = r := by
  simp only [low, List.filter_eq_self]
  intro v hv; simpa using dec_lt h v hv

theorem lowerLoop_low (cs : List Context) (target k : Nat) (hk : k ≤ target) (r : List VIC) (c : Option Variable) :
    low k (lowerLoop cs target r c) = low k r := by
  induction r generalizing c with
  | nil => exact low_cons_ge _ hk
  | cons v r ih =>
    simp only [lowerLoop]
    by_cases h1 : v.ctx < target
    · rw [if_pos h1]; exact low_cons_ge _ hk
    · rw [if_neg h1]
      have hv : k ≤ v.ctx := by omega
      by_cases h2 : isVolatileAt cs v.ctx = true
      · rw [if_pos h2, low_cons_ge r hv]; exact ih _
      · rw [if_neg h2, low_cons_ge r hv]; exact low_cons_ge (v := ⟨c.getD v.var, v.ctx⟩) r hv

theorem volatileBranch_low (ci k : Nat) (hk : k ≤ ci) (r : List VIC) : low k (volatileBranch ci r) = low k r := by
  cases r with
  | nil => exact low_cons_ge _ hk
  | cons v r =>
    simp only [volatileBranch]
    by_cases h : v.ctx ≠ ci
    · rw [if_pos h]; exact low_cons_ge _ hk
    · rw [if_neg h]

theorem modifyHead_low (f : Variable → Variable) (k : Nat) (r : List VIC)
    (hh : ∀ v, r.head? = some v → k ≤ v.ctx) : low k (modifyHead f r) = low k r := by
  cases r with
  | nil => rfl
  | cons v r => rw [modifyHead, low_cons_ge r (hh v rfl), low_cons_ge (v := ⟨f v.var, v.ctx⟩) r (hh v rfl)]

theorem dropWhile_low (k idx : Nat) (hk : k ≤ idx) (r : List VIC) :
    low k (r.dropWhile (fun v => decide (idx ≤ v.ctx))) = low k r := by
  induction r with
  | nil => rfl
  | cons v r ih =>
    simp only [List.dropWhile_cons]
    by_cases h : idx ≤ v.ctx
    · simp only [h, decide_true, if_true]; rw [ih, low_cons_ge r (by omega)]
    · simp [h]

theorem popIfR_low (k len : Nat) (hk : k ≤ len) (r : List VIC) : low k (popIfR len r) = low k r := by
  cases r with
  | nil => rfl
  | cons v r =>
    simp only [popIfR]
    by_cases h : len ≤ v.ctx
    · rw [if_pos h, low_cons_ge r (by omega)]
    · rw [if_neg h]

theorem topRegular_append (A T : List Context) (h : T.any Context.isRegular = true) :
    A.length ≤ topRegular (A ++ T) := by
  unfold topRegular rposition
  rw [List.reverse_append]
  have hT : ∃ j, T.reverse.findIdx? Context.isRegular = some j ∧ j < T.length := by
    cases hf : T.reverse.findIdx? Context.isRegular with
    | none =>
      rw [List.findIdx?_eq_none_iff] at hf
      obtain ⟨c, hc, hr⟩ := List.any_eq_true.mp h
      exact absurd hr (by simpa using hf c (by simpa using hc))
    | some j =>
      obtain ⟨hj, _⟩ := List.findIdx?_eq_some_iff_getElem.mp hf
      exact ⟨j, rfl, by simpa using hj⟩
  obtain ⟨j, hj, hlt⟩ := hT
  rw [List.findIdx?_append, hj]
  simp
  omega

theorem getOrNew_low {s s1 : VariableSet} {n : Name} {sc : Scope} (hg : s.getOrNew n sc = some s1) (k : Nat)
    (hk : k ≤ newFloor s.contexts sc) : low k (s1.top n) = low k (s.top n) := by
  rcases getOrNew_top hg with ⟨hsc, rfl⟩ | ⟨rfl, _, rfl⟩
  · rw [top_setTop, if_pos rfl]
    exact lowerLoop_low s.contexts _ k (newFloor_of_ne_volatile _ hsc ▸ hk) _ none
  · rw [top_setTop, if_pos rfl]
    exact volatileBranch_low _ k hk _

theorem stepM_low (s : VariableSet) (n : Name) (sc : Scope) (f : Variable → Variable) (r : VariableSet → Res) (k : Nat)
    (hk : k ≤ newFloor s.contexts sc) : low k ((stepM s n sc f r).1.top n) = low k (s.top n) := by
  cases hg : s.getOrNew n sc with
  | none => rw [stepM_none hg]
  | some s1 =>
    rw [stepM_some hg]
    have h1 := getOrNew_low hg k hk
    obtain ⟨w, rest, rfl, hw⟩ := getOrNew_setTop hg
    rw [modifyLast_top, top_setTop, if_pos rfl, top_setTop, if_pos rfl,
      modifyHead_low f k _ (fun v hv => by cases hv; exact Nat.le_trans hk hw), ← h1, top_setTop, if_pos rfl]

theorem unset_low {s : VariableSet} (h : Norm s) (n : Name) (sc : Scope) (k : Nat)
    (hk : k ≤ indexOfContext sc s.contexts) : low k ((s.unset n sc).1.top n) = low k (s.top n) := by
  rw [unset_top h n sc]
  cases ((s.top n).takeWhile _).find? (fun v => v.var.isReadOnly) with
  | some vic => rfl
  | none => simp only []; rw [top_setTop, if_pos rfl, dropWhile_low k _ hk]

/-- the lowest context index an operation on a variable touches -/
def Op.floor (cs : List Context) : Op → Nat
  | .getOrNew _ sc | .assign _ sc _ _ | .export _ sc _ | .readonly _ sc _ | .quirk _ sc _ => newFloor cs sc
  | .unset _ sc => indexOfContext sc cs
  | _ => cs.length

theorem floor_write {op : Op} {sc : Scope} {f : Variable → Variable} {res : Option Variable → Res}
    (hw : op.write? = some (sc, f, res)) (cs : List Context) : op.floor cs = newFloor cs sc := by
  cases op <;> cases hw <;> rfl

theorem step_low {s : VariableSet} (h : Norm s) (op : Op) (m : Name) (hm : op.name? = some m) (k : Nat)
    (hk : k ≤ op.floor s.contexts) : low k ((s.step op).1.top m) = low k (s.top m) := by
  rcases Op.named_cases hm with ⟨sc, rfl⟩ | ⟨sc, f, res, hw⟩
  · rw [step_unset]; exact unset_low h m sc k hk
  · rw [step_write s hm hw]; exact stepM_low s m sc f _ k (floor_write hw _ ▸ hk)

/-! ### a command body, on the Rust structure -/

/-- the state of a running command: its own contexts `T` (top first) above those of `s0`, and for the names
    of `N` every stack below them as it is in `s0` -/
structure Above (N : Name → Prop) (s0 : VariableSet) (T : List Context) (s : VariableSet) : Prop where
  norm : Norm s
  ctxs : s.contexts = s0.contexts ++ T.reverse
  below : ∀ n, N n → low s0.contexts.length (s.top n) = s0.top n

theorem floor_of_esc (A T : List Context) (hT : T ≠ []) (op : Op) (m : Name) (hm : op.name? = some m)
    (hesc : op.escName (T.any Context.isRegular) ≠ some m) : A.length ≤ op.floor (A ++ T.reverse) := by
  have hlen : A.length ≤ (A ++ T.reverse).length - 1 := by
    cases T with
    | nil => exact absurd rfl hT
    | cons c T => simp
  have htop : T.any Context.isRegular = true → A.length ≤ topRegular (A ++ T.reverse) := fun h =>
    topRegular_append A T.reverse (by simpa using h)
  have hin : ∀ {n : Name}, (if T.any Context.isRegular = true then none else some n) ≠ some n →
      T.any Context.isRegular = true := fun h => by cases hr : T.any Context.isRegular <;> simp_all
  cases op with
  | push _ | pop | setParams _ => cases hm
  | getOrNew _ sc | assign _ sc _ _ | «export» _ sc _ | readonly _ sc _ | quirk _ sc _ =>
    cases hm
    cases sc with
    | global => exact absurd rfl hesc
    | loc => exact htop (hin hesc)
    | volatile => exact hlen
  | unset _ sc =>
    cases hm
    cases sc with
    | global => exact absurd rfl hesc
    | loc => exact htop (hin hesc)
    | volatile => exact Nat.le_succ_of_le (htop (hin hesc))

theorem setFirstRegular_append (ps : List String) (T A : List Context) (h : T.any Context.isRegular = true) :
    setFirstRegular ps (T ++ A) = setFirstRegular ps T ++ A := by
  induction T with
  | nil => simp at h
  | cons c T ih =>
    by_cases hc : c.isRegular = true
    · simp [setFirstRegular, hc]
    · simp only [List.cons_append, setFirstRegular, hc]
      rw [ih (by simpa [hc] using h)]; rfl

theorem above_named {N : Name → Prop} {s0 s : VariableSet} {T : List Context} (hA : Above N s0 T s) (hT : T ≠ [])
    (op : Op) (m : Name) (hm : op.name? = some m)
    (hesc : N m → op.escName (T.any Context.isRegular) ≠ some m) : Above N s0 T (s.step op).1 := by
  obtain ⟨hf, hc⟩ := step_frame s op m hm
  refine ⟨norm_preserved _ op hA.norm, by rw [hc, hA.ctxs], fun n hn => ?_⟩
  by_cases hnm : n = m
  · subst hnm
    rw [step_low hA.norm op n hm _ (by rw [hA.ctxs]; exact floor_of_esc _ T hT op n hm (hesc hn))]
    exact hA.below n hn
  · rw [show (s.step op).1.top n = s.top n from congrArg List.reverse (hf n hnm)]; exact hA.below n hn

theorem above_push {N : Name → Prop} {s : VariableSet} (h : Norm s) (c : Context) :
    Above N s [c] (s.step (.push c)).1 :=
  ⟨norm_preserved _ _ h, by simp [VariableSet.step, VariableSet.pushContext], fun n _ => low_of_dec (h.dec n)⟩

theorem above_pop_step {N : Name → Prop} {s0 s : VariableSet} {c : Context} {T : List Context}
    (hA : Above N s0 (c :: T) s) (hpos : 0 < (s0.contexts ++ T.reverse).length) :
    s.popContext.contexts = s0.contexts ++ T.reverse ∧
    ∀ n, N n → low s0.contexts.length (s.popContext.top n) = s0.top n := by
  have hlen : s.contexts.length = (s0.contexts ++ T.reverse).length + 1 := by
    rw [hA.ctxs]; simp [← List.append_assoc]
  have hgt : 1 < s.contexts.length := by omega
  refine ⟨by rw [pop_contexts s hgt, hA.ctxs]; simp [← List.append_assoc], fun n hn => ?_⟩
  rw [pop_top s hgt, popIfR_low _ _ (by rw [hlen]; simp)]
  exact hA.below n hn

/-- the induction over a command body: the body runs in the command's own contexts `T` (bottom context
    regular for a function call, volatile otherwise, plus whatever the body has pushed); afterwards `T` is
    back to one context of that kind and nothing below it has changed for the names of `N`.  `hT` is the link
    between the decidable condition and the state: the stack of kinds `st` that `frameOK` keeps from the pushes and
    pops it has read mirrors the real contexts `T`, so "a regular context shields what is below" means the same on both
    sides. -/
theorem run_above (N : Name → Prop) (base : Bool) (ops : List Op) (st : List Bool) (s0 s : VariableSet)
    (T : List Context) (hT : T.map Context.isRegular = st ++ [base]) (hA : Above N s0 T s)
    (hok : frameOK N base st ops) : ∃ c, Above N s0 [c] (s.run ops) ∧ c.isRegular = base := by
  induction ops generalizing st T s with
  | nil =>
    have hst : st = [] := hok
    subst hst
    match T, hT with
    | [c], hT => exact ⟨c, hA, by simpa using hT⟩
  | cons op ops ih =>
    obtain ⟨hpar, hesc, hnext⟩ := hok
    have hne : T ≠ [] := by intro e; subst e; simp at hT
    have hR : T.any Context.isRegular = (base || st.any id) := by
      have : T.any Context.isRegular = (T.map Context.isRegular).any id := by simp [List.any_map, Function.comp_def]
      rw [this, hT]; simp [Bool.or_comm]
    simp only [VariableSet.run]
    cases hn : op.name? with
    | some m =>
      rw [nextStack_named st op m hn] at hnext
      exact ih st _ T hT (above_named hA hne op m hn (fun hNm e => hesc m (hR ▸ e) hNm)) hnext
    | none =>
      rcases Op.unnamed_cases hn with ⟨c, rfl⟩ | rfl | ⟨ps, rfl⟩
      · refine ih (c.isRegular :: st) _ (c :: T) (by simp [hT]) ⟨norm_preserved _ _ hA.norm, ?_, hA.below⟩ hnext
        simp [VariableSet.step, VariableSet.pushContext, hA.ctxs]
      · cases st with
        | nil => exact hnext.elim
        | cons b st' =>
          cases T with
          | nil => simp at hT
          | cons c T =>
            cases T with
            | nil => simp at hT
            | cons c2 T' =>
              have := above_pop_step hA (by simp; omega)
              exact ih st' _ (c2 :: T') (by simp at hT; simpa using hT.2)
                ⟨norm_preserved _ _ hA.norm, this.1, this.2⟩ hnext
      · have hin : T.any Context.isRegular = true := by
          rw [hR]
          cases hb : (base || st.any id) with
          | true => rfl
          | false => rw [hb] at hpar; simp [Op.escParams] at hpar
        refine ih st _ ((setFirstRegular ps T)) ?_ ⟨norm_preserved _ _ hA.norm, ?_, hA.below⟩ hnext
        · rw [setFirstRegular_isRegular, hT]
        · simp only [VariableSet.step, VariableSet.setPositionalParams, hA.ctxs, List.reverse_append, List.reverse_reverse]
          rw [setFirstRegular_append ps T _ hin]; simp

theorem above_pop {N : Name → Prop} {s0 s : VariableSet} {c : Context} (h0 : Norm s0) (hA : Above N s0 [c] s) :
    (∀ n, N n → (s.step .pop).1.top n = s0.top n) ∧ (s.step .pop).1.contexts = s0.contexts := by
  obtain ⟨hc, hl⟩ := above_pop_step hA (by simpa using h0.pos)
  have hc : s.popContext.contexts = s0.contexts := by simpa using hc
  have hN' : Norm s.popContext := norm_preserved _ .pop hA.norm
  refine ⟨fun n hn => ?_, hc⟩
  show s.popContext.top n = _
  rw [← low_of_dec (hN'.dec n), hc]
  exact hl n hn

theorem regular_frame (s : VariableSet) (h : Norm s) (as : List (Name × Value)) (body : List Op) (N : Name → Prop)
    (hok : frameOK N false [] body) :
    (∀ n, N n → (s.run (regularCmd as body)).top n = s.top n) ∧ (s.run (regularCmd as body)).contexts = s.contexts := by
  rw [regularCmd_cons]
  simp only [VariableSet.run, VariableSet.run_append (b := [Op.pop])]
  obtain ⟨c, hA, _⟩ := run_above N false _ [] s _ [.volatile] rfl (above_push h .volatile)
    (frameOK_append_top N false [] _ _ (fun op ho => Or.inl (tempOps_topVol as op ho)) hok)
  exact above_pop h hA

/-- the body runs above the regular context of the call, which sits on the volatile context of the temporary
    assignments: `run_above` twice -/
theorem function_frame (s : VariableSet) (h : Norm s) (as : List (Name × Value)) (ps : List String) (body : List Op)
    (N : Name → Prop) (hok : frameOK N true [] body) :
    (∀ n, N n → (s.run (functionCmd as ps body)).top n = s.top n) ∧
      (s.run (functionCmd as ps body)).contexts = s.contexts := by
  rw [functionCmd_cons]
  simp only [VariableSet.run, VariableSet.run_append]
  obtain ⟨cV, hV, _⟩ := run_above N false _ [] s _ [.volatile] rfl (above_push h .volatile)
    (frameOK_append_top N false [] _ [] (fun op ho => Or.inl (tempOps_topVol as op ho)) rfl)
  rw [List.append_nil] at hV
  obtain ⟨cR, hR, _⟩ := run_above N true body [] _ _ [.regular ps] rfl (above_push hV.norm (.regular ps)) hok
  obtain ⟨h1, h2⟩ := above_pop hV.norm hR
  exact above_pop h ⟨norm_preserved _ .pop hR.norm, h2.trans hV.ctxs, fun n hn => by rw [h1 n hn]; exact hV.below n hn⟩

/-! ### what the API shows of one name is read off its stack and the contexts -/

theorem pops_congr (k : Nat) (s s' : VariableSet) (n : Name) (hc : s'.contexts.length = s.contexts.length)
    (hn : s'.top n = s.top n) :
    ((s'.run (List.replicate k Op.pop)).get n) = ((s.run (List.replicate k Op.pop)).get n) := by
  induction k generalizing s s' with
  | zero => simp only [List.replicate_zero, VariableSet.run, get_top, hn]
  | succ k ih =>
    exact ih s.popContext s'.popContext (by rw [(pop_top_length s' n).2, (pop_top_length s n).2, hc])
      (by rw [(pop_top_length s' n).1, (pop_top_length s n).1, hc, hn])

theorem frame_clauses {N : Name → Prop} {s s' : VariableSet}
    (hf : (∀ n, N n → s'.top n = s.top n) ∧ s'.contexts = s.contexts) :
    (∀ n, N n → s'.get n = s.get n ∧ (∀ sc, s'.getScoped n sc = s.getScoped n sc) ∧ s'.env [n] = s.env [n] ∧
      ∀ k, ((s'.run (List.replicate k Op.pop)).get n) = ((s.run (List.replicate k Op.pop)).get n)) ∧
    s'.contexts = s.contexts ∧ s'.positionalParams = s.positionalParams := by
  refine ⟨fun n hn => ?_, hf.2, by simp only [VariableSet.positionalParams, hf.2]⟩
  have hg : s'.get n = s.get n := by simp only [get_top, hf.1 n hn]
  exact ⟨hg, fun sc => by simp only [getScoped_top, hf.1 n hn, hf.2],
    by simp only [VariableSet.env, List.filterMap_cons, List.filterMap_nil, hg], fun k => pops_congr k s s' n (congrArg List.length hf.2) (hf.1 n hn)⟩

/-- the hypothesis has the shape of what `regular_frame` / `function_frame` conclude at `N := fun _ => True` -/
theorem eq_of_top_contexts {s s' : VariableSet} (hf : (∀ n, True → s'.top n = s.top n) ∧ s'.contexts = s.contexts) : s' = s := by
  obtain ⟨h1, h2⟩ := hf
  cases s; cases s'
  simp only [VariableSet.top] at h1 h2
  subst h2
  rw [show _ = _ from funext fun n => List.reverse_inj.mp (h1 n trivial)]

/-! ### balanced bodies and nested calls -/

theorem balanced_append (a b : List Op) (k d : Nat) (h : balanced k a = true) :
    balanced (d + k) (a ++ b) = balanced d b := by
  induction a generalizing k with
  | nil =>
    have : k = 0 := by simpa [balanced] using h
    subst this; rfl
  | cons op a ih =>
    cases op with
    | push c => simpa [balanced, Nat.add_assoc] using ih (k + 1) (by simpa [balanced] using h)
    | pop =>
      cases k with
      | zero => simp [balanced] at h
      | succ k =>
        have := ih k (by simpa [balanced] using h)
        simpa [balanced, ← Nat.add_assoc] using this
    | getOrNew _ _ | assign _ _ _ _ | «export» _ _ _ | readonly _ _ _ | unset _ _ | setParams _ | quirk _ _ _ =>
      simpa [balanced] using ih k (by simpa [balanced] using h)

theorem balanced_append0 (a b : List Op) (ha : balanced 0 a = true) (hb : balanced 0 b = true) :
    balanced 0 (a ++ b) = true := by
  have := balanced_append a b 0 0 ha
  simpa [hb] using this

theorem balanced_tempOps (as : List (Name × Value)) (d : Nat) (r : List Op) :
    balanced d (tempOps as ++ r) = balanced d r := by
  induction as with
  | nil => rfl
  | cons p t ih =>
    obtain ⟨n, v⟩ := p
    simpa [tempOps, balanced] using ih

theorem balanced_functionCmd (as : List (Name × Value)) (ps : List String) (body : List Op)
    (hb : balanced 0 body = true) : balanced 0 (functionCmd as ps body) = true := by
  have h2 : balanced 2 (body ++ [Op.pop, Op.pop]) = true := by
    have := balanced_append body [Op.pop, Op.pop] 0 2 hb
    simpa [balanced] using this
  rw [functionCmd_cons]
  show balanced 1 (tempOps as ++ _) = true
  rw [balanced_tempOps]
  exact h2

theorem balanced_nestCalls (levels : List (List (Name × Value) × List String × List Op × List Op))
    (h : ∀ l ∈ levels, balanced 0 l.2.2.1 = true ∧ balanced 0 l.2.2.2 = true) :
    balanced 0 (nestCalls levels) = true := by
  induction levels with
  | nil => rfl
  | cons l rest ih =>
    obtain ⟨as, ps, pre, post⟩ := l
    have hl := h _ (List.mem_cons_self)
    have hr := ih (fun l hl => h l (List.mem_cons_of_mem _ hl))
    exact balanced_functionCmd as ps _
      (balanced_append0 _ _ (balanced_append0 _ _ hl.1 hr) hl.2)

end YashModel.Variable
