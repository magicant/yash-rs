/-
  C16 — the Rust model by itself: every operation as a function on the stack of its name read from the top, what an
  operation on one name leaves alone, and the reference `get_or_new` returns.
-/
import YashModel.Variable.Notions
import YashModel.Common.Lists
namespace YashModel.Variable

@[simp] theorem dec_nil (k : Nat) : Dec k [] = True := rfl

@[simp] theorem dec_cons (k : Nat) (v : VIC) (r : List VIC) : Dec k (v :: r) = (v.ctx < k ∧ Dec v.ctx r) := rfl

theorem dec_mono {k k' : Nat} {r : List VIC} (h : Dec k r) (hk : k ≤ k') : Dec k' r := by
  cases r with
  | nil => trivial
  | cons v r => exact ⟨Nat.lt_of_lt_of_le h.1 hk, h.2⟩

theorem dec_lt {k : Nat} {r : List VIC} (h : Dec k r) : ∀ u ∈ r, u.ctx < k := by
  induction r generalizing k with
  | nil => intro u hu; cases hu
  | cons v r ih =>
    intro u hu
    cases hu with
    | head => exact h.1
    | tail _ hu => exact Nat.lt_trans (ih h.2 u hu) h.1

theorem mem_takeWhile_of_dec (idx k : Nat) (r : List VIC) (hd : Dec k r) (e : VIC) (he : e ∈ r)
    (hin : idx ≤ e.ctx) : e ∈ r.takeWhile (fun v => decide (idx ≤ v.ctx)) := by
  induction r generalizing k with
  | nil => cases he
  | cons v r ih =>
    rcases List.mem_cons.mp he with rfl | he'
    · simp [hin]
    · have hlt := dec_lt hd.2 e he'
      have hv : idx ≤ v.ctx := by omega
      simp only [List.takeWhile_cons, hv, decide_true, if_true, List.mem_cons]
      exact Or.inr (ih _ hd.2 he')

theorem dec_append_single (k : Nat) (r : List VIC) (v : VIC) :
    Dec k (r ++ [v]) ↔ Dec k r ∧ (∀ u ∈ r, v.ctx < u.ctx) ∧ v.ctx < k := by
  induction r generalizing k with
  | nil => simp
  | cons a r ih =>
    simp only [List.cons_append, dec_cons, ih, List.mem_cons, forall_eq_or_imp]
    constructor
    · rintro ⟨h1, h2, h3, h4⟩; exact ⟨⟨h1, h2⟩, ⟨h4, h3⟩, Nat.lt_trans h4 h1⟩
    · rintro ⟨⟨h1, h2⟩, ⟨h4, h3⟩, _⟩; exact ⟨h1, h2, h3, h4⟩

theorem dec_reverse_iff (k : Nat) (st : List VIC) :
    Dec k st.reverse ↔ st.Pairwise (fun a b => a.ctx < b.ctx) ∧ ∀ v ∈ st, v.ctx < k := by
  induction st with
  | nil => simp
  | cons v t ih =>
    simp only [List.reverse_cons, dec_append_single, ih, List.pairwise_cons, List.mem_cons,
      forall_eq_or_imp, List.mem_reverse]
    constructor
    · rintro ⟨⟨h1, h2⟩, h3, h4⟩; exact ⟨⟨h3, h1⟩, h4, h2⟩
    · rintro ⟨⟨h3, h1⟩, h4, h2⟩; exact ⟨⟨h1, h2⟩, h3, h4⟩

theorem dec_dropWhile {k : Nat} {r : List VIC} (p : VIC → Bool) (h : Dec k r) : Dec k (r.dropWhile p) := by
  induction r generalizing k with
  | nil => trivial
  | cons v r ih =>
    simp only [List.dropWhile_cons]
    split
    · exact dec_mono (ih h.2) (Nat.le_of_lt h.1)
    · exact h

theorem dec_succ_cases {k : Nat} {r : List VIC} (h : Dec (k + 1) r) :
    Dec k r ∨ ∃ v r', r = v :: r' ∧ v.ctx = k ∧ Dec k r' := by
  cases r with
  | nil => exact Or.inl trivial
  | cons v r' =>
    by_cases hv : v.ctx = k
    · exact Or.inr ⟨v, r', rfl, hv, hv ▸ h.2⟩
    · exact Or.inl ⟨by have := h.1; omega, h.2⟩

theorem Norm.pos {s : VariableSet} (h : Norm s) : 0 < s.contexts.length := by
  obtain ⟨ps, t, ht⟩ := h.base; simp [ht]

/-! ### the stack of a name read from the top

  `get_or_new_impl` (`stack.last_mut()`, `stack.pop()`), `pop_if` and `last()` read a stack from its end; `lowerLoop`,
  `volatileBranch`, `modifyHead` of Model.lean are written on the reversed `Vec` for that reason.  Every operation is stated
  once in that view. -/

def VariableSet.top (s : VariableSet) (n : Name) : List VIC := (s.all n).reverse

def VariableSet.setTop (s : VariableSet) (n : Name) (r : List VIC) : VariableSet := s.setStack n r.reverse

theorem top_setTop (s : VariableSet) (n m : Name) (r : List VIC) :
    (s.setTop n r).top m = if m = n then r else s.top m := by
  simp only [VariableSet.top, VariableSet.setTop, VariableSet.setStack]; split <;> simp

theorem all_setTop_ne (s : VariableSet) {n m : Name} (r : List VIC) (h : m ≠ n) : (s.setTop n r).all m = s.all m := by
  simp [VariableSet.setTop, VariableSet.setStack, h]

theorem all_setTop_self (s : VariableSet) (n : Name) (r : List VIC) : (s.setTop n r).all n = r.reverse := by
  simp [VariableSet.setTop, VariableSet.setStack]

theorem mem_top {s : VariableSet} {n : Name} {e : VIC} : e ∈ s.top n ↔ e ∈ s.all n := List.mem_reverse

theorem setTop_top (s : VariableSet) (n : Name) : s.setTop n (s.top n) = s := by
  cases s
  simp only [VariableSet.setTop, VariableSet.top, VariableSet.setStack, List.reverse_reverse]
  congr 1; funext m; split <;> simp_all

theorem setTop_setTop (s : VariableSet) (n : Name) (a b : List VIC) : (s.setTop n a).setTop n b = s.setTop n b := by
  simp only [VariableSet.setTop, VariableSet.setStack]
  congr 1
  funext m
  split <;> rfl

theorem Norm.dec {s : VariableSet} (h : Norm s) (n : Name) : Dec s.contexts.length (s.top n) :=
  (dec_reverse_iff _ _).2 ⟨h.sorted n, h.bounded n⟩

theorem norm_of_dec {s : VariableSet} (h : ∀ n, Dec s.contexts.length (s.top n))
    (hb : ∃ ps t, s.contexts = Context.regular ps :: t) : Norm s :=
  ⟨fun n => ((dec_reverse_iff _ _).1 (h n)).1, fun n => ((dec_reverse_iff _ _).1 (h n)).2, hb⟩

theorem norm_setTop {s : VariableSet} (h : Norm s) (n : Name) (r : List VIC) (hd : Dec s.contexts.length r) :
    Norm (s.setTop n r) := by
  apply norm_of_dec
  · intro m
    rw [top_setTop]
    split
    · exact hd
    · exact h.dec m
  · exact h.base

/-! ### `Dec` is kept; slicing and popping, read from the top -/

theorem lowerLoop_dec (cs : List Context) (target k : Nat) (r : List VIC) (carried : Option Variable)
    (h : Dec k r) (ht : target < k) : Dec k (lowerLoop cs target r carried) := by
  induction r generalizing carried k with
  | nil => simp [lowerLoop, ht]
  | cons v r ih =>
    simp only [lowerLoop]
    split
    · simp_all
    · split
      · exact ih _ _ (dec_mono h.2 (Nat.le_of_lt h.1)) ht
      · exact h

theorem modifyHead_dec (f : Variable → Variable) {k : Nat} {r : List VIC} (h : Dec k r) :
    Dec k (modifyHead f r) := by
  cases r with
  | nil => trivial
  | cons v r => exact h

theorem volatileBranch_dec (k : Nat) (r : List VIC) (h : Dec (k + 1) r) : Dec (k + 1) (volatileBranch k r) := by
  cases r with
  | nil => simp [volatileBranch]
  | cons v r' =>
    simp only [volatileBranch]
    split
    · have := h.1
      show k < k + 1 ∧ v.ctx < k ∧ Dec v.ctx r'
      exact ⟨by omega, by omega, h.2⟩
    · exact h

theorem takeWhile_snoc_neg {α} (q : α → Bool) (l : List α) (v : α) (h : q v = false) :
    (l ++ [v]).takeWhile q = l.takeWhile q := by
  induction l with
  | nil => simp [List.takeWhile, h]
  | cons a l ih => simp only [List.cons_append, List.takeWhile_cons, ih]

theorem dropWhile_snoc_neg {α} (q : α → Bool) (l : List α) (v : α) (h : q v = false) :
    (l ++ [v]).dropWhile q = l.dropWhile q ++ [v] := by
  induction l with
  | nil => simp [List.dropWhile, h]
  | cons a l ih =>
    simp only [List.cons_append, List.dropWhile_cons, ih]
    split <;> simp

/-- the Rust side of `unset`: slicing the sorted stack at `partition_point` is `takeWhile` / `dropWhile` on
    the stack read from the top -/
theorem slice_reverse (st : List VIC) (idx : Nat) (h : st.Pairwise (fun a b => a.ctx < b.ctx)) :
    (st.drop (partitionPoint (fun v => decide (v.ctx < idx)) st)).reverse
        = st.reverse.takeWhile (fun v => decide (idx ≤ v.ctx)) ∧
    (st.take (partitionPoint (fun v => decide (v.ctx < idx)) st)).reverse
        = st.reverse.dropWhile (fun v => decide (idx ≤ v.ctx)) := by
  induction st with
  | nil => simp [partitionPoint]
  | cons v t ih =>
    rw [List.pairwise_cons] at h
    by_cases hv : v.ctx < idx
    · have hq : decide (idx ≤ v.ctx) = false := by simp; omega
      have ih := ih h.2
      simp only [partitionPoint] at ih ⊢
      simp only [List.takeWhile_cons, hv, decide_true, if_true, List.length_cons, List.drop_succ_cons,
        List.take_succ_cons, List.reverse_cons]
      rw [takeWhile_snoc_neg (fun v : VIC => decide (idx ≤ v.ctx)) _ _ hq,
        dropWhile_snoc_neg (fun v : VIC => decide (idx ≤ v.ctx)) _ _ hq, ih.1, ih.2]
      exact ⟨rfl, rfl⟩
    · have hall : ∀ x ∈ (v :: t).reverse, (fun v : VIC => decide (idx ≤ v.ctx)) x = true := by
        intro x hx
        simp only [List.mem_reverse, List.mem_cons] at hx
        rcases hx with rfl | hx
        · simp; omega
        · have := h.1 x hx; simp; omega
      simp only [partitionPoint, List.takeWhile_cons, hv, decide_false,
        ]
      rw [Common.takeWhile_all hall, Common.dropWhile_all hall]
      simp

/-- `popIf` on the stack read from the top -/
def popIfR (k : Nat) : List VIC → List VIC
  | [] => []
  | v :: r => if k ≤ v.ctx then r else v :: r

theorem popIf_reverse (k : Nat) (st : List VIC) : (popIf k st).reverse = popIfR k st.reverse := by
  unfold popIf
  rw [← List.head?_reverse]
  cases h : st.reverse with
  | nil =>
    have : st = [] := by simpa using h
    simp [this, popIfR]
  | cons v r =>
    simp only [List.head?_cons, popIfR]
    split
    · have : st.dropLast.reverse = st.reverse.tail := by simp
      rw [this, h]; rfl
    · exact h

theorem popIfR_dec (k : Nat) (r : List VIC) (h : Dec (k + 1) r) : Dec k (popIfR k r) := by
  cases r with
  | nil => trivial
  | cons v r' =>
    simp only [popIfR]
    split
    · have := h.1
      have : v.ctx = k := by omega
      exact this ▸ h.2
    · exact ⟨by omega, h.2⟩

/-! ### one equation per operation -/

theorem get_top (s : VariableSet) (n : Name) : s.get n = (s.top n).head?.map (·.var) := by
  simp [VariableSet.get, VariableSet.top, List.head?_reverse]

theorem getScoped_top (s : VariableSet) (n : Name) (sc : Scope) :
    s.getScoped n sc = ((s.top n).head?.filter (fun v => decide (indexOfContext sc s.contexts ≤ v.ctx))).map (·.var) := by
  simp [VariableSet.getScoped, VariableSet.top, List.head?_reverse]

theorem modifyLast_top (s : VariableSet) (n : Name) (f : Variable → Variable) :
    s.modifyLast n f = s.setTop n (modifyHead f (s.top n)) := rfl

theorem unset_top {s : VariableSet} (h : Norm s) (n : Name) (sc : Scope) :
    let inScope := fun v : VIC => decide (indexOfContext sc s.contexts ≤ v.ctx)
    s.unset n sc =
      match ((s.top n).takeWhile inScope).find? (fun v => v.var.isReadOnly) with
      | some vic => (s, .readOnly (vic.var.readOnly.getD 0))
      | none => (s.setTop n ((s.top n).dropWhile inScope), .ok (((s.top n).takeWhile inScope).head?.map (·.var))) := by
  obtain ⟨hB, hA⟩ := slice_reverse (s.all n) (indexOfContext sc s.contexts) (h.sorted n)
  simp only [VariableSet.unset, VariableSet.top, VariableSet.setTop, hB, ← hA, List.reverse_reverse]
  cases ((s.all n).reverse.takeWhile _).find? _ with
  | some vic => rfl
  | none => simp only [← hB, List.head?_reverse]

theorem popContext_of_le (s : VariableSet) (h : s.contexts.length ≤ 1) : s.popContext = s := by
  simp only [VariableSet.popContext, if_pos h]

theorem popContext_eq (s : VariableSet) (h : 1 < s.contexts.length) :
    s.popContext = { all := fun n => popIf (s.contexts.length - 1) (s.all n), contexts := s.contexts.dropLast } := by
  simp only [VariableSet.popContext, if_neg (Nat.not_le.mpr h)]

theorem pop_contexts (s : VariableSet) (h : 1 < s.contexts.length) : s.popContext.contexts = s.contexts.dropLast := by
  rw [popContext_eq s h]

theorem pop_top (s : VariableSet) (h : 1 < s.contexts.length) (n : Name) :
    s.popContext.top n = popIfR (s.contexts.length - 1) (s.top n) := by
  simp only [popContext_eq s h, VariableSet.top, popIf_reverse]

theorem pop_top_length (s : VariableSet) (n : Name) :
    s.popContext.top n = (if s.contexts.length ≤ 1 then s.top n else popIfR (s.contexts.length - 1) (s.top n)) ∧
    s.popContext.contexts.length = if s.contexts.length ≤ 1 then s.contexts.length else s.contexts.length - 1 := by
  by_cases h : s.contexts.length ≤ 1
  · rw [popContext_of_le s h, if_pos h, if_pos h]; exact ⟨rfl, rfl⟩
  · rw [pop_top s (by omega), pop_contexts s (by omega), if_neg h, if_neg h, List.length_dropLast]; exact ⟨rfl, rfl⟩

/-- `get_or_new` replaces the stack of the one name: by the result of the `while let` loop towards the
    context of the scope (`Global`, `Local`), or by that of the clone-on-write branch (`Volatile`) -/
theorem getOrNew_of_ne_volatile (s : VariableSet) (n : Name) {sc : Scope} (h : sc ≠ .volatile) :
    s.getOrNew n sc = some (s.setTop n (lowerLoop s.contexts (indexOfContext sc s.contexts) (s.top n) none)) := by
  cases sc <;> first | rfl | exact absurd rfl h

theorem getOrNew_volatile (s : VariableSet) (n : Name) :
    s.getOrNew n .volatile = if isVolatileAt s.contexts (s.contexts.length - 1) then
      some (s.setTop n (volatileBranch (s.contexts.length - 1) (s.top n))) else none := rfl

theorem getOrNew_top {s s1 : VariableSet} {n : Name} {sc : Scope} (hg : s.getOrNew n sc = some s1) :
    (sc ≠ .volatile ∧ s1 = s.setTop n (lowerLoop s.contexts (indexOfContext sc s.contexts) (s.top n) none)) ∨
    (sc = .volatile ∧ isVolatileAt s.contexts (s.contexts.length - 1) = true ∧
      s1 = s.setTop n (volatileBranch (s.contexts.length - 1) (s.top n))) := by
  by_cases hsc : sc = .volatile
  · subst hsc
    rw [getOrNew_volatile] at hg
    split at hg
    · exact Or.inr ⟨rfl, by assumption, (Option.some.inj hg).symm⟩
    · cases hg
  · rw [getOrNew_of_ne_volatile s n hsc] at hg
    exact Or.inl ⟨hsc, (Option.some.inj hg).symm⟩

theorem lowerLoop_head (cs : List Context) (target : Nat) (r : List VIC) (c : Option Variable) :
    ∃ w rest, lowerLoop cs target r c = w :: rest ∧ target ≤ w.ctx ∧ (∀ x, c = some x → w.var = x) ∧
      (isVolatileAt cs target = false → isVolatileAt cs w.ctx = false) := by
  induction r generalizing c with
  | nil => exact ⟨_, _, rfl, Nat.le_refl _, fun x hx => by subst hx; rfl, id⟩
  | cons v r ih =>
    simp only [lowerLoop]
    by_cases h1 : v.ctx < target
    · rw [if_pos h1]; exact ⟨_, _, rfl, Nat.le_refl _, fun x hx => by subst hx; rfl, id⟩
    · rw [if_neg h1]
      by_cases h2 : isVolatileAt cs v.ctx = true
      · rw [if_pos h2]
        obtain ⟨w, rest, hw, h3, h4, h5⟩ := ih (some (c.getD v.var))
        exact ⟨w, rest, hw, h3, fun x hx => by subst hx; exact h4 _ rfl, h5⟩
      · rw [if_neg h2]
        exact ⟨_, _, rfl, Nat.le_of_not_lt h1, fun x hx => by subst hx; rfl, fun _ => by simpa using h2⟩

theorem volatileBranch_head (ci : Nat) (r : List VIC) : ∃ w rest, volatileBranch ci r = w :: rest ∧ w.ctx = ci := by
  cases r with
  | nil => exact ⟨_, _, rfl, rfl⟩
  | cons v r =>
    simp only [volatileBranch]
    by_cases h : v.ctx ≠ ci
    · rw [if_pos h]; exact ⟨_, _, rfl, rfl⟩
    · rw [if_neg h]; exact ⟨_, _, rfl, by simpa using h⟩

/-- the lowest context index `get_or_new` writes to: the context of the scope; the top context for `Volatile` -/
def newFloor (cs : List Context) : Scope → Nat
  | .volatile => cs.length - 1
  | sc => indexOfContext sc cs

theorem newFloor_of_ne_volatile (cs : List Context) {sc : Scope} (h : sc ≠ .volatile) :
    newFloor cs sc = indexOfContext sc cs := by
  cases sc <;> first | rfl | exact absurd rfl h

theorem getOrNew_setTop {s s1 : VariableSet} {n : Name} {sc : Scope} (hg : s.getOrNew n sc = some s1) :
    ∃ w rest, s1 = s.setTop n (w :: rest) ∧ newFloor s.contexts sc ≤ w.ctx := by
  rcases getOrNew_top hg with ⟨hsc, h⟩ | ⟨rfl, _, h⟩
  · obtain ⟨w, rest, hw, h1, _⟩ := lowerLoop_head s.contexts (indexOfContext sc s.contexts) (s.top n) none
    exact ⟨w, rest, hw ▸ h, newFloor_of_ne_volatile _ hsc ▸ h1⟩
  · obtain ⟨w, rest, hw, h1⟩ := volatileBranch_head (s.contexts.length - 1) (s.top n)
    exact ⟨w, rest, hw ▸ h, Nat.le_of_eq h1.symm⟩

/-! ### histories, and the operations that work on one name -/

theorem VariableSet.run_append (s : VariableSet) (a b : List Op) : s.run (a ++ b) = (s.run a).run b := by
  induction a generalizing s with
  | nil => rfl
  | cons x a ih => simp only [List.cons_append, VariableSet.run]; exact ih _

theorem VariableSet.run_inv {P : VariableSet → Prop} (ops : List Op)
    (h : ∀ s, ∀ op ∈ ops, P s → P (s.step op).1) (s : VariableSet) (hP : P s) : P (s.run ops) := by
  induction ops generalizing s with
  | nil => exact hP
  | cons op ops ih => exact ih (fun s o ho => h s o (by simp [ho])) _ (h s op (by simp) hP)

theorem setFirstRegular_length (ps : List String) (rcs : List Context) :
    (setFirstRegular ps rcs).length = rcs.length := by
  induction rcs with
  | nil => rfl
  | cons c t ih => simp only [setFirstRegular]; split <;> simp [ih]

theorem setFirstRegular_isRegular (ps : List String) (rcs : List Context) :
    (setFirstRegular ps rcs).map Context.isRegular = rcs.map Context.isRegular := by
  induction rcs with
  | nil => rfl
  | cons c t ih =>
    simp only [setFirstRegular]
    split
    · rename_i hc; simp only [List.map_cons, hc]; rfl
    · simp [ih]

theorem setPositionalParams_kinds (s : VariableSet) (ps : List String) :
    (s.setPositionalParams ps).contexts.map Context.isRegular = s.contexts.map Context.isRegular := by
  simp only [VariableSet.setPositionalParams]
  rw [List.map_reverse, setFirstRegular_isRegular, ← List.map_reverse, List.reverse_reverse]

/-- `get_or_new` followed by a modification through the reference -/
def stepM (s : VariableSet) (n : Name) (sc : Scope) (f : Variable → Variable) (resM : VariableSet → Res) :
    VariableSet × Res :=
  match s.getOrNew n sc with
  | none => (s, Res.noVolatile)
  | some s1 => (s1.modifyLast n f, resM s1)

theorem stepM_none {s : VariableSet} {n : Name} {sc : Scope} (hg : s.getOrNew n sc = none) (f : Variable → Variable)
    (r : VariableSet → Res) : stepM s n sc f r = (s, .noVolatile) := by
  simp only [stepM, hg]

theorem stepM_some {s s1 : VariableSet} {n : Name} {sc : Scope} (hg : s.getOrNew n sc = some s1)
    (f : Variable → Variable) (r : VariableSet → Res) : stepM s n sc f r = (s1.modifyLast n f, r s1) := by
  simp only [stepM, hg]

/-- five of the six operations on a variable are a `stepM`: the scope, what is written through the reference
    (nothing, for `get_or_new` itself), what is reported from the variable handed out -/
def Op.write? : Op → Option (Scope × (Variable → Variable) × (Option Variable → Res))
  | .getOrNew _ sc => some (sc, id, fun _ => .done)
  | .assign _ sc v loc => some (sc, (·.assign v loc), fun o => assignRes (o.getD {}))
  | .export _ sc b => some (sc, (·.setExport b), fun _ => .done)
  | .readonly _ sc l => some (sc, (·.makeReadOnly l), fun _ => .done)
  | .quirk _ sc q => some (sc, (·.setQuirk q), fun _ => .done)
  | _ => none

theorem Op.named_cases {op : Op} {n : Name} (hn : op.name? = some n) :
    (∃ sc, op = .unset n sc) ∨ ∃ sc f res, op.write? = some (sc, f, res) := by
  cases op <;> cases hn <;> first | exact Or.inl ⟨_, rfl⟩ | exact Or.inr ⟨_, _, _, rfl⟩

theorem Op.unnamed_cases {op : Op} (hn : op.name? = none) :
    (∃ c, op = .push c) ∨ op = .pop ∨ ∃ ps, op = .setParams ps := by
  cases op <;> cases hn <;> simp

theorem modifyLast_id (s : VariableSet) (n : Name) : s.modifyLast n id = s := by
  rw [modifyLast_top, show modifyHead id (s.top n) = s.top n by cases s.top n <;> rfl, setTop_top]

theorem step_write (s : VariableSet) {op : Op} {n : Name} {sc : Scope} {f : Variable → Variable}
    {res : Option Variable → Res} (hn : op.name? = some n) (hw : op.write? = some (sc, f, res)) :
    s.step op = stepM s n sc f (fun s1 => res (s1.get n)) := by
  cases op <;> cases hw <;> cases hn <;> first | rfl | skip
  -- `get_or_new` itself: nothing is written
  simp only [VariableSet.step, stepM]
  cases s.getOrNew n sc <;> simp only [modifyLast_id]

/-! ### the operations a command is compiled to (`Exec.lean`) -/

theorem tempOps_topVol (as : List (Name × Value)) : ∀ op ∈ tempOps as, isTopVolOp op = true := by
  intro op hop
  simp only [tempOps, List.mem_flatMap] at hop
  obtain ⟨⟨n, v⟩, _, hm⟩ := hop
  simp at hm
  rcases hm with rfl | rfl <;> rfl

theorem tempOps_append (a b : List (Name × Value)) : tempOps (a ++ b) = tempOps a ++ tempOps b := by
  simp [tempOps]

theorem regularCmd_cons (as : List (Name × Value)) (body : List Op) :
    regularCmd as body = Op.push .volatile :: (tempOps as ++ body ++ [Op.pop]) := by simp [regularCmd]

theorem functionCmd_cons (as : List (Name × Value)) (ps : List String) (body : List Op) :
    functionCmd as ps body = Op.push .volatile :: (tempOps as ++ Op.push (.regular ps) :: (body ++ [Op.pop, Op.pop])) := by
  simp [functionCmd]

theorem functionCmd_eq (as : List (Name × Value)) (ps : List String) (body : List Op) :
    functionCmd as ps body = enterFunction as ps ++ body ++ [.pop, .pop] := rfl

/-! ### the context a scope stands for is regular -/

/-- number of volatile contexts above the topmost regular one, the contexts given top first (the Spec's `volPrefix`) -/
def volK : List Context → Nat
  | [] => 0
  | c :: t => if c.isRegular then 0 else volK t + 1

theorem volK_lt (rcs : List Context) (h : ∃ c ∈ rcs, c.isRegular = true) : volK rcs < rcs.length := by
  induction rcs with
  | nil => obtain ⟨c, hc, _⟩ := h; cases hc
  | cons c t ih =>
    simp only [volK]
    by_cases hc : c.isRegular = true
    · simp [hc]
    · simp only [hc, List.length_cons]
      obtain ⟨d, hd, hr⟩ := h
      have : d ∈ t := by
        cases hd with
        | head => exact absurd hr hc
        | tail _ h => exact h
      have := ih ⟨d, this, hr⟩
      simp; omega

theorem findIdx_volK (rcs : List Context) (h : volK rcs < rcs.length) :
    rcs.findIdx? Context.isRegular = some (volK rcs) := by
  induction rcs with
  | nil => simp at h
  | cons c t ih =>
    simp only [List.findIdx?_cons, volK]
    by_cases hc : c.isRegular = true
    · simp [hc]
    · simp only [hc, volK, List.length_cons] at h ⊢
      have := ih (by simpa using h)
      simp [this]

theorem Norm.volK_lt {s : VariableSet} (h : Norm s) : volK s.contexts.reverse < s.contexts.length := by
  have := Variable.volK_lt s.contexts.reverse (by
    obtain ⟨ps, t, ht⟩ := h.base
    exact ⟨.regular ps, by simp [ht], rfl⟩)
  simpa using this

theorem topRegular_eq {s : VariableSet} (h : Norm s) :
    topRegular s.contexts = s.contexts.length - 1 - volK s.contexts.reverse := by
  have hl := h.volK_lt
  unfold topRegular rposition
  rw [findIdx_volK _ (by simpa using hl)]
  simp

theorem volK_regular (rcs : List Context) (h : volK rcs < rcs.length) :
    ∃ c, rcs[volK rcs]? = some c ∧ c.isRegular = true := by
  induction rcs with
  | nil => simp at h
  | cons c t ih =>
    by_cases hc : c.isRegular = true
    · exact ⟨c, by simp [volK, hc], hc⟩
    · simp only [volK, hc, List.length_cons] at h ⊢
      obtain ⟨d, hd, hr⟩ := ih (by simpa using h)
      exact ⟨d, by simpa using hd, hr⟩

theorem isVolatileAt_append (t : List Context) (c : Context) (pre : List Context) :
    isVolatileAt (t.reverse ++ c :: pre) t.length = !c.isRegular := by
  unfold isVolatileAt
  rw [List.getElem?_append_right (by simp)]
  cases c <;> simp [Context.isRegular]

theorem isVolatileAt_push (cs : List Context) (c : Context) {i : Nat} (h : i < cs.length) :
    isVolatileAt (cs ++ [c]) i = isVolatileAt cs i := by
  simp only [isVolatileAt, List.getElem?_append_left h]

theorem isVolatileAt_dropLast (cs : List Context) {i : Nat} (h : i < cs.length - 1) :
    isVolatileAt cs.dropLast i = isVolatileAt cs i := by
  simp only [isVolatileAt, List.getElem?_dropLast, h, if_true]

theorem isVolatileAt_map (cs : List Context) (i : Nat) :
    isVolatileAt cs i = ((cs.map Context.isRegular)[i]? == some false) := by
  unfold isVolatileAt
  rw [List.getElem?_map]
  cases h : cs[i]? with
  | none => rfl
  | some c => cases c <;> simp [Context.isRegular]

theorem isVolatileAt_of_kinds {cs cs' : List Context} (h : cs'.map Context.isRegular = cs.map Context.isRegular)
    (k : Nat) : isVolatileAt cs' k = isVolatileAt cs k := by
  rw [isVolatileAt_map, isVolatileAt_map, h]

theorem isVolatileAt_topRegular {s : VariableSet} (h : Norm s) : isVolatileAt s.contexts (topRegular s.contexts) = false := by
  have hl := h.volK_lt
  obtain ⟨c, hc, hr⟩ := volK_regular s.contexts.reverse (by simpa using hl)
  rw [List.getElem?_reverse (by simpa using hl)] at hc
  unfold isVolatileAt
  rw [topRegular_eq h, hc]
  cases c <;> simp_all [Context.isRegular]

theorem isVolatileAt_zero {s : VariableSet} (h : Norm s) : isVolatileAt s.contexts 0 = false := by
  obtain ⟨ps, t, ht⟩ := h.base
  simp [isVolatileAt, ht]

theorem isVolatileAt_index {s : VariableSet} (h : Norm s) {sc : Scope} (hsc : sc ≠ .volatile) :
    isVolatileAt s.contexts (indexOfContext sc s.contexts) = false := by
  cases sc with
  | global => exact isVolatileAt_zero h
  | loc => exact isVolatileAt_topRegular h
  | volatile => exact absurd rfl hsc

def unsetRes : UnsetResult → Res
  | .ok old => .unset old
  | .readOnly l => .readOnly l

theorem step_unset (s : VariableSet) (n : Name) (sc : Scope) :
    s.step (.unset n sc) = ((s.unset n sc).1, unsetRes (s.unset n sc).2) := by
  simp only [VariableSet.step]
  cases s.unset n sc with
  | mk s1 r => cases r <;> rfl

theorem step_named (s : VariableSet) (op : Op) (m : Name) (hm : op.name? = some m) :
    ∃ r, (s.step op).1 = s.setTop m r := by
  rcases Op.named_cases hm with ⟨sc, rfl⟩ | ⟨sc, f, res, hw⟩
  · rw [step_unset]
    simp only [VariableSet.unset]
    split
    · exact ⟨_, (setTop_top s m).symm⟩
    · exact ⟨_, (congrArg (s.setStack m) (List.reverse_reverse _)).symm⟩
  · rw [step_write s hm hw]
    cases hg : s.getOrNew m sc with
    | none => rw [stepM_none hg]; exact ⟨_, (setTop_top s m).symm⟩
    | some s1 =>
      rw [stepM_some hg]
      obtain ⟨w, st, rfl, _⟩ := getOrNew_setTop hg
      exact ⟨_, (modifyLast_top _ m f).trans (setTop_setTop s m _ _)⟩

theorem step_frame (s : VariableSet) (op : Op) (m : Name) (hm : op.name? = some m) :
    (∀ n, n ≠ m → (s.step op).1.all n = s.all n) ∧ (s.step op).1.contexts = s.contexts := by
  obtain ⟨r, hr⟩ := step_named s op m hm
  rw [hr]; exact ⟨fun n h => all_setTop_ne s r h, rfl⟩

theorem run_all_other (ops : List Op) (s : VariableSet) (n : Name)
    (h : ∀ op ∈ ops, ∃ m, op.name? = some m ∧ n ≠ m) :
    (s.run ops).all n = s.all n ∧ (s.run ops).contexts = s.contexts :=
  VariableSet.run_inv (P := fun t => t.all n = s.all n ∧ t.contexts = s.contexts) ops (fun t op ho ⟨h1, h2⟩ => by
    obtain ⟨m, hm, hne⟩ := h op ho
    exact ⟨((step_frame t op m hm).1 n hne).trans h1, ((step_frame t op m hm).2).trans h2⟩) s ⟨rfl, rfl⟩

theorem run_contexts (ops : List Op) (s : VariableSet) (h : ∀ op ∈ ops, ∃ m, op.name? = some m) :
    (s.run ops).contexts = s.contexts :=
  VariableSet.run_inv (P := fun t => t.contexts = s.contexts) ops (fun t op ho h2 => by
    obtain ⟨m, hm⟩ := h op ho
    exact ((step_frame t op m hm).2).trans h2) s rfl

theorem rposition_isSome_of_head {α} (p : α → Bool) (a : α) (t : List α) (h : p a = true) :
    (rposition p (a :: t)).isSome = true := by
  simp only [rposition, Option.isSome_map, List.reverse_cons]
  rw [List.findIdx?_isSome]
  simp [h]

theorem getOrNew_contexts {s s1 : VariableSet} {n : Name} {sc : Scope} (hg : s.getOrNew n sc = some s1) :
    s1.contexts = s.contexts := by
  obtain ⟨w, r, rfl, _⟩ := getOrNew_setTop hg; rfl

theorem step_kinds (s : VariableSet) (op : Op) (hpush : ∀ c, op ≠ .push c) (hpop : op ≠ .pop) :
    (s.step op).1.contexts.map Context.isRegular = s.contexts.map Context.isRegular := by
  cases hn : op.name? with
  | some m => rw [(step_frame s op m hn).2]
  | none =>
    rcases Op.unnamed_cases hn with ⟨c, rfl⟩ | rfl | ⟨ps, rfl⟩
    · exact absurd rfl (hpush c)
    · exact absurd rfl hpop
    · exact setPositionalParams_kinds s ps

/-! ### the reference `get_or_new` returns

  `perform_assignment` and `SetVariables::execute` call `get_or_new` once and then write through the reference, every
  operation of the model looks the variable up again: the instance handed out is on top of the stack, in a context from
  which the same `get_or_new` takes it again unchanged. -/

theorem getOrNew_head {s s1 : VariableSet} (h : Norm s) {n : Name} {sc : Scope} (hg : s.getOrNew n sc = some s1) :
    ∃ w rest, s1 = s.setTop n (w :: rest) ∧
      ∀ x, (s.setTop n (⟨x, w.ctx⟩ :: rest)).getOrNew n sc = some (s.setTop n (⟨x, w.ctx⟩ :: rest)) := by
  rcases getOrNew_top hg with ⟨hsc, rfl⟩ | ⟨rfl, hv, rfl⟩
  · obtain ⟨w, rest, hw, h1, _, h2⟩ := lowerLoop_head s.contexts (indexOfContext sc s.contexts) (s.top n) none
    refine ⟨w, rest, by rw [hw], fun x => ?_⟩
    rw [getOrNew_of_ne_volatile _ n hsc, top_setTop, if_pos rfl, setTop_setTop]
    -- at or above the target and in a regular context: the loop takes this instance and gives it back
    show some (s.setTop n (lowerLoop s.contexts (indexOfContext sc s.contexts) (⟨x, w.ctx⟩ :: rest) none)) = _
    simp [lowerLoop, Nat.not_lt.mpr h1, h2 (isVolatileAt_index h hsc)]
  · obtain ⟨w, rest, hw, h1⟩ := volatileBranch_head (s.contexts.length - 1) (s.top n)
    refine ⟨w, rest, by rw [hw], fun x => ?_⟩
    rw [getOrNew_volatile, show (s.setTop n _).contexts = s.contexts from rfl, if_pos hv, top_setTop, if_pos rfl,
      setTop_setTop]
    simp [volatileBranch, h1]

theorem get_setTop_cons (s : VariableSet) (n : Name) (w : VIC) (rest : List VIC) :
    (s.setTop n (w :: rest)).get n = some w.var := by
  rw [get_top, top_setTop, if_pos rfl]; rfl

/-- `get_or_new` followed by a write through the reference, when `get_or_new` does not panic: the instance on top
    of the stack holds what was written, and the next operation on the name in the same scope finds it again -/
theorem stepM_head {s : VariableSet} (h : Norm s) (n : Name) (sc : Scope) (hg : (s.getOrNew n sc).isSome = true) :
    ∃ w rest, (∀ f r, stepM s n sc f r = (s.setTop n (⟨f w.var, w.ctx⟩ :: rest), r (s.setTop n (w :: rest)))) ∧
      ∀ x f r, stepM (s.setTop n (⟨x, w.ctx⟩ :: rest)) n sc f r =
        (s.setTop n (⟨f x, w.ctx⟩ :: rest), r (s.setTop n (⟨x, w.ctx⟩ :: rest))) := by
  cases hs : s.getOrNew n sc with
  | none => rw [hs] at hg; cases hg
  | some s1 =>
    obtain ⟨w, rest, rfl, hfix⟩ := getOrNew_head h hs
    refine ⟨w, rest, fun f r => ?_, fun x f r => ?_⟩
    · simp only [stepM, hs, modifyLast_top, top_setTop, if_true, setTop_setTop]; rfl
    · simp only [stepM, hfix x, modifyLast_top, top_setTop, if_true, setTop_setTop]; rfl

theorem isReadOnly_iff {v : Variable} : v.isReadOnly = true ↔ ∃ l, v.readOnly = some l := by
  unfold Variable.isReadOnly; cases v.readOnly <;> simp

theorem assign_value (w : Variable) (v : Value) (loc : Option Nat) :
    (w.assign v loc).isReadOnly = false → (w.assign v loc).value = some v := by
  unfold Variable.assign
  split
  · rename_i h; intro h'; rw [h] at h'; cases h'
  · intro _; rfl

theorem step_assign_get {s : VariableSet} (h : Norm s) (n : Name) (sc : Scope) (v : Value) (loc : Option Nat)
    (hg : (s.getOrNew n sc).isSome = true) :
    ∃ w : Variable, (s.step (.assign n sc v loc)).1.get n = some (w.assign v loc) := by
  obtain ⟨w, rest, h1, _⟩ := stepM_head h n sc hg
  exact ⟨w.var, by rw [show s.step (.assign n sc v loc) = _ from h1 _ _]; exact get_setTop_cons _ _ _ _⟩

/-- whether `get_or_new` panics depends on the contexts only -/
theorem getOrNew_isSome (s : VariableSet) (n : Name) (sc : Scope) :
    (s.getOrNew n sc).isSome = (sc != .volatile || isVolatileAt s.contexts (s.contexts.length - 1)) := by
  cases sc with
  | global | loc => rfl
  | volatile => rw [getOrNew_volatile]; cases isVolatileAt s.contexts (s.contexts.length - 1) <;> rfl

end YashModel.Variable
