/-
  The forwarder alone (`fstep`/`frun`: a `Sender`/`Receiver` pair under any order of send, drop, `try_receive`,
  `poll`): the invariant `FInv` — nothing sent while the sender exists, at most the one value handed out and then
  the relay is `Done`, at most one wake-up and none before the send — and its preservation by every operation.
-/
import YashModel.Executor.Queue
namespace YashModel.Executor

/-- `7` is the one value of this model: what `fstep .send` passes to `relaySend` -/
structure FInv (f : FState) : Prop where
  unsent : f.tx = true → f.relay.sent = false
  nobad : f.bad = false
  got : f.got = if f.relay = .done then [7] else []
  val : ∀ v, f.relay = .computed v → v = 7
  wakes : f.nwakes ≤ 1
  nowake : f.tx = true → f.nwakes = 0
  each : ∀ w, f.woken w ≤ f.nwakes

theorem finv_init : FInv {} :=
  ⟨fun _ => rfl, rfl, rfl, fun v h => (by cases h), (by decide), fun _ => rfl, fun _ => Nat.le_refl _⟩

theorem FInv.got_nil {f : FState} (h : FInv f) (hr : f.relay ≠ .done) : f.got = [] := by
  rw [h.got, if_neg hr]

/-- the receiver takes the value out: the sender is gone by then, and the value is the one sent -/
theorem FInv.receive {f : FState} (h : FInv f) {v : Nat} (hr : f.relay = .computed v) :
    FInv { f with relay := .done, got := f.got ++ [v] } := by
  have ht : f.tx = true → False := fun e => by have := h.unsent e; rw [hr] at this; cases this
  refine ⟨fun e => (ht e).elim, h.nobad, ?_, nofun, h.wakes, fun e => (ht e).elim, h.each⟩
  show f.got ++ [v] = [7]
  rw [h.got_nil (by rw [hr]; nofun), h.val v hr]; rfl

theorem FInv.register {f : FState} (h : FInv f) (hr : f.relay.sent = false) (w : Nat) :
    FInv { f with relay := .polled w } :=
  ⟨fun _ => rfl, h.nobad, h.got_nil (fun e => by rw [e] at hr; cases hr), nofun, h.wakes, h.nowake, h.each⟩

theorem finv_step (f : FState) (op : FOp) (h : FInv f) : FInv (fstep f op).1 := by
  have noTx : FInv { f with tx := false } := ⟨nofun, h.nobad, h.got, h.val, h.wakes, nofun, h.each⟩
  cases op with
  | dropSender =>
    simp only [fstep]; split
    · exact noTx
    · exact h
  | dropReceiver =>
    simp only [fstep]; split
    · exact ⟨h.unsent, h.nobad, h.got, h.val, h.wakes, h.nowake, h.each⟩
    · exact h
  | send =>
    simp only [fstep]
    split
    · exact h
    split
    · exact noTx
    rename_i htx _
    have htx : f.tx = true := by simpa using htx
    have hg : f.got = [] := h.got_nil (fun e => by have := h.unsent htx; rw [e] at this; cases this)
    have hb : (f.bad || false) = false := by rw [h.nobad]; rfl
    -- the sender still exists, so nothing has been sent: the relay is `Pending` or holds a waker
    rcases Relay.unsent_iff.mp (h.unsent htx) with hr | ⟨w, hr⟩ <;> rw [hr] <;> simp only [relaySend]
    · exact ⟨nofun, hb, hg, fun v e => by cases e; rfl, h.wakes, nofun, h.each⟩
    · have h0 := h.nowake htx
      refine ⟨nofun, hb, hg, fun v e => by cases e; rfl, by show f.nwakes + 1 ≤ 1; omega, nofun, fun w' => ?_⟩
      have := h.each w'
      have := h.each w
      show upd f.woken w (f.woken w + 1) w' ≤ f.nwakes + 1
      rw [upd_apply]; split <;> omega
  | try_ =>
    simp only [fstep]
    split
    · exact h
    cases hr : f.relay <;> simp only [tryReceive]
    · cases f.tx <;> exact h
    · cases f.tx <;> exact h
    · exact h.receive hr
    · exact h
  | poll w =>
    simp only [fstep]
    split
    · exact h
    cases hr : f.relay <;> simp only [recvPoll]
    · exact h.register (by rw [hr]; rfl) w
    · exact h.register (by rw [hr]; rfl) w
    · exact h.receive hr
    · exact h

theorem finv_run (ops : List FOp) (f : FState) (h : FInv f) : FInv (frun f ops) := by
  induction ops generalizing f with
  | nil => exact h
  | cons op ops ih => exact ih _ (finv_step f op h)

end YashModel.Executor
