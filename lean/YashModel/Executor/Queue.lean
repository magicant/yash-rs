/-
  The wake queue as a list: `enq` (`Task::wake`) and folds of it, "the queue only grows at the back" (`QExt`);
  point updates of the state's functions (`upd`), sums over `List.range` under a point update, and the arithmetic of
  the termination measures of both run loops.
-/
import YashModel.Executor.Model
namespace YashModel.Executor

@[simp] theorem upd_apply {α : Type} (f : Nat → α) (k : Nat) (v : α) (j : Nat) :
    upd f k v j = if j = k then v else f j := rfl

theorem upd_same {α : Type} (f : Nat → α) (k : Nat) (v : α) : upd f k v k = v := by simp

theorem upd_other {α : Type} (f : Nat → α) (k : Nat) (v : α) (j : Nat) (h : j ≠ k) :
    upd f k v j = f j := by simp [h]

theorem Relay.unsent_iff {r : Relay} : r.sent = false ↔ r = .pending ∨ ∃ w, r = .polled w := by
  cases r <;> simp [Relay.sent]

theorem Relay.sent_iff {r : Relay} : r.sent = true ↔ (∃ v, r = .computed v) ∨ r = .done := by
  cases r <;> simp [Relay.sent]

theorem Relay.ne_done_of_unsent {r : Relay} (h : r.sent = false) : r ≠ .done := by
  rintro rfl; cases h

theorem mem_enq_iff (q : List Nat) (t x : Nat) : x ∈ enq q t ↔ x ∈ q ∨ x = t := by
  unfold enq
  by_cases h : t ∈ q
  · rw [if_pos h]; exact ⟨Or.inl, fun o => o.elim id (· ▸ h)⟩
  · rw [if_neg h, List.mem_append, List.mem_singleton]

theorem mem_enq_self (q : List Nat) (t : Nat) : t ∈ enq q t := (mem_enq_iff q t t).mpr (Or.inr rfl)

theorem mem_enq_of_mem (q : List Nat) (t x : Nat) (h : x ∈ q) : x ∈ enq q t :=
  (mem_enq_iff q t x).mpr (Or.inl h)

theorem enq_of_mem {q : List Nat} {t : Nat} (h : t ∈ q) : enq q t = q := if_pos h

theorem enq_idem (q : List Nat) (t : Nat) : enq (enq q t) t = enq q t := enq_of_mem (mem_enq_self q t)

theorem wake_of_mem (s : State) (t : Nat) (h : t ∈ s.queue) : wake s t = s := by
  simp [wake, enq_of_mem h]

theorem takeValue_queue (s : State) (c : Nat) : (takeValue s c).queue = s.queue := by
  unfold takeValue; split <;> rfl

theorem takeValue_ntasks (s : State) (c : Nat) : (takeValue s c).ntasks = s.ntasks := by
  unfold takeValue; split <;> rfl

theorem pairwise_snoc {α : Type} {R : α → α → Prop} {l : List α} {e : α} (h : l.Pairwise R)
    (he : ∀ a, a ∈ l → R a e) : (l ++ [e]).Pairwise R :=
  List.pairwise_append.mpr ⟨h, List.pairwise_singleton _ _,
    fun a ha b hb => by rw [List.mem_singleton.mp hb]; exact he a ha⟩

theorem nodup_enq (q : List Nat) (t : Nat) (h : q.Nodup) : (enq q t).Nodup := by
  unfold enq
  by_cases ht : t ∈ q
  · simp [ht, h]
  · simp only [ht, if_false]
    exact pairwise_snoc h fun a ha e => ht (e ▸ ha)

theorem enq_ext (q : List Nat) (t : Nat) : ∃ l, enq q t = q ++ l := by
  unfold enq
  by_cases ht : t ∈ q
  · exact ⟨[], by simp [ht]⟩
  · exact ⟨[t], by simp [ht]⟩

theorem mem_foldl_enq (ws q : List Nat) (x : Nat) : x ∈ ws.foldl enq q ↔ x ∈ q ∨ x ∈ ws := by
  induction ws generalizing q with
  | nil => simp
  | cons w ws ih => simp only [List.foldl_cons, ih, mem_enq_iff, List.mem_cons, or_assoc]

theorem nodup_foldl_enq (ws q : List Nat) (h : q.Nodup) : (ws.foldl enq q).Nodup := by
  induction ws generalizing q with
  | nil => exact h
  | cons w ws ih => exact ih _ (nodup_enq q w h)

theorem foldl_enq_ext (ws q : List Nat) : ∃ l, ws.foldl enq q = q ++ l := by
  induction ws generalizing q with
  | nil => exact ⟨[], by simp⟩
  | cons w ws ih =>
    obtain ⟨l1, h1⟩ := enq_ext q w
    obtain ⟨l2, h2⟩ := ih (enq q w)
    exact ⟨l1 ++ l2, by rw [List.foldl_cons, h2, h1, List.append_assoc]⟩

theorem getElem?_append_of_some {q l : List Nat} {k t : Nat} (h : q[k]? = some t) : (q ++ l)[k]? = some t := by
  obtain ⟨hlt, _⟩ := List.getElem?_eq_some_iff.mp h
  rw [List.getElem?_append_left hlt]; exact h

def QExt (s s' : State) : Prop := ∃ l, s'.queue = s.queue ++ l

theorem QExt.refl (s : State) : QExt s s := ⟨[], by simp⟩

theorem QExt.trans {a b c : State} (h1 : QExt a b) (h2 : QExt b c) : QExt a c := by
  obtain ⟨l1, e1⟩ := h1
  obtain ⟨l2, e2⟩ := h2
  exact ⟨l1 ++ l2, by rw [e2, e1, List.append_assoc]⟩

theorem qext_wake (s : State) (t : Nat) : QExt s (wake s t) := enq_ext s.queue t

theorem qext_wakeAll (s : State) (ws : List Nat) : QExt s (wakeAll s ws) := foldl_enq_ext ws s.queue

theorem le_sum_of_mem (l : List Nat) (x : Nat) (h : x ∈ l) : x ≤ l.sum := by
  induction l with
  | nil => cases h
  | cons a t ih =>
    rcases List.mem_cons.mp h with rfl | h'
    · simp
    · have := ih h'; simp; omega

theorem sum_range_congr (g h : Nat → Nat) (n : Nat) (e : ∀ u, u < n → g u = h u) :
    ((List.range n).map g).sum = ((List.range n).map h).sum :=
  congrArg List.sum (List.map_congr_left fun u hu => e u (List.mem_range.mp hu))

theorem sum_map_upd (n k : Nat) (hk : k < n) (f g : Nat → Nat) (hfg : ∀ j, j ≠ k → g j = f j) :
    ((List.range n).map g).sum + f k = ((List.range n).map f).sum + g k := by
  induction n with
  | zero => omega
  | succ n ih =>
    simp only [List.range_succ, List.map_append, List.sum_append, List.map_cons, List.map_nil, List.sum_cons,
      List.sum_nil, Nat.add_zero]
    by_cases e : k = n
    · subst e
      have : (List.range k).map g = (List.range k).map f := by
        apply List.map_congr_left
        intro j hj
        exact hfg j (by have := List.mem_range.mp hj; omega)
      rw [this]; omega
    · have := ih (by omega)
      have hn := hfg n (fun h => e h.symm)
      omega

theorem nodup_length_le (l : List Nat) (n : Nat) (hn : l.Nodup) (hl : ∀ x, x ∈ l → x < n) : l.length ≤ n := by
  have := hn.length_le_of_subset (l₂ := List.range n) (fun x hx => List.mem_range.2 (hl x hx))
  rwa [List.length_range] at this

/-- the pair (work left, queue length), the queue bounded by `c`, packed into one number: it goes down when the
    work does, whatever the queue does -/
theorem packed_lt {w w' c q q' : Nat} (hw : w' < w) (hq : q' ≤ c) : w' * (c + 1) + q' < w * (c + 1) + q := by
  have := Nat.mul_le_mul_right (c + 1) (Nat.succ_le_of_lt hw)
  rw [Nat.succ_mul] at this
  omega

end YashModel.Executor
