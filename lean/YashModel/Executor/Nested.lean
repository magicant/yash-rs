/-
  `Executor::step` called from inside a poll (`NestedModel.lean`).  The invariant `NInv` — queue duplicate-free,
  the stack of polls in progress duplicate-free and equal to what a replay of the trace leaves open, borrowed
  slots occupied, finished tasks never entered again, depth budget never exhausted — is kept by every event of a
  poll.  `Runs` is a poll with its nested polls as a derivation, without the depth budget; what `nRun` computes is
  such a derivation, a top-level step being one `nest` action, and the facts about nested polls — the invariant
  here, the rest in NestedFifo, NestedLive, NestedTerm — are inductions on derivations.  Then `NTop`, what holds
  between top-level steps, and the run loop.
-/
import YashModel.Executor.NestedModel
import YashModel.Executor.Queue
import YashModel.Common.Loop
namespace YashModel.Executor.Nested

/-- the state in which `Task::poll` enters the future of `t` -/
def nEnter (s : NState) (t : Nat) : NState :=
  { nlog s (.enter t) with stack := t :: s.stack, known := upd s.known t true }

/-- … and the one in which it returns, the future having left `o` to do -/
def nExit (s : NState) (t : Nat) (o : Option NScript) : NState :=
  nlog { s with stack := s.stack.tail, fut := upd s.fut t o } (.exit t o.isNone)

structure NInv (s : NState) : Prop where
  qn : s.queue.Nodup
  qlt : ∀ x, x ∈ s.queue → x < s.ntasks
  sn : s.stack.Nodup
  slt : ∀ x, x ∈ s.stack → x < s.ntasks
  klt : ∀ x, s.known x = true → x < s.ntasks
  /-- the trace is well nested and the polls it leaves open are exactly the stack -/
  rp : replay s.log [] = some s.stack
  /-- a borrowed slot is occupied -/
  occ : ∀ x, x ∈ s.stack → (s.fut x).isSome = true
  fin : ∀ t, NEv.exit t true ∈ s.log → s.fut t = none
  nef : s.log.Pairwise fun e e' => ∀ t, e = .exit t true → e' ≠ .enter t
  ns : s.starved = false

theorem replay_append (l l' : List NEv) (st : List Nat) :
    replay (l ++ l') st = (replay l st).bind fun st' => replay l' st' := by
  induction l generalizing st with
  | nil => simp [replay]
  | cons e l ih =>
    cases e with
    | enter t =>
      simp only [List.cons_append, replay]
      split
      · simp
      · exact ih _
    | exit t b =>
      cases st with
      | nil => simp [replay]
      | cons t' st' =>
        simp only [List.cons_append, replay]
        split
        · exact ih _
        · simp
    | noop t => simpa [replay] using ih st
    | guard t => simpa [replay] using ih st
    | idle => simpa [replay] using ih st

theorem ninv_pop {s : NState} (h : NInv s) {u : Nat} {q : List Nat} (hq : s.queue = u :: q) :
    NInv { s with queue := q } :=
  ⟨(List.nodup_cons.mp (hq ▸ h.qn)).2, fun x hx => h.qlt x (by rw [hq]; exact List.mem_cons_of_mem _ hx),
   h.sn, h.slt, h.klt, h.rp, h.occ, h.fin, h.nef, h.ns⟩

/-- an event that neither opens nor closes a poll (`noop`, `guard`, `idle`) -/
theorem ninv_event {s : NState} (h : NInv s) (e : NEv) (h1 : ∀ t, e ≠ .enter t) (h2 : ∀ t b, e ≠ .exit t b) :
    NInv (nlog s e) := by
  have hr : ∀ st, replay [e] st = some st := by
    intro st
    cases e with
    | enter t => exact absurd rfl (h1 t)
    | exit t b => exact absurd rfl (h2 t b)
    | noop t => rfl
    | guard t => rfl
    | idle => rfl
  refine ⟨h.qn, h.qlt, h.sn, h.slt, h.klt, ?_, h.occ, ?_, ?_, h.ns⟩
  · show replay (s.log ++ [e]) [] = some s.stack
    rw [replay_append, h.rp]; exact hr _
  · intro t ht
    have ht' : NEv.exit t true ∈ s.log ++ [e] := ht
    rcases List.mem_append.mp ht' with hm | hm
    · exact h.fin t hm
    · simp only [List.mem_singleton] at hm
      exact absurd hm.symm (h2 t true)
  · exact pairwise_snoc h.nef fun _ _ t _ => h1 t

theorem ninv_wake {s : NState} (h : NInv s) (t : Nat) (ht : t < s.ntasks) : NInv (nwake s t) := by
  refine ⟨nodup_enq _ _ h.qn, ?_, h.sn, h.slt, h.klt, h.rp, h.occ, h.fin, h.nef, h.ns⟩
  intro x hx
  rcases (mem_enq_iff _ _ _).mp hx with hx | rfl
  · exact h.qlt x hx
  · exact ht

/-- `Task::poll` borrows the slot of a task that is not being polled and enters its future -/
theorem ninv_enter {s : NState} (h : NInv s) (t : Nat) (acts : NScript) (ht : t < s.ntasks)
    (hns : t ∉ s.stack) (hf : s.fut t = some acts) :
    NInv { nlog s (.enter t) with stack := t :: s.stack, known := upd s.known t true } := by
  refine ⟨h.qn, h.qlt, List.nodup_cons.mpr ⟨hns, h.sn⟩, ?_, ?_, ?_, ?_, ?_, ?_, h.ns⟩
  · intro x hx
    rcases List.mem_cons.mp hx with rfl | hx
    · exact ht
    · exact h.slt x hx
  · intro x hx
    have hx' : upd s.known t true x = true := hx
    by_cases e : x = t
    · rw [e]; exact ht
    · simp only [upd_apply, e, if_false] at hx'; exact h.klt x hx'
  · show replay (s.log ++ [.enter t]) [] = some (t :: s.stack)
    rw [replay_append, h.rp]
    simp [replay, hns]
  · intro x hx
    rcases List.mem_cons.mp hx with rfl | hx
    · show (s.fut x).isSome = true
      rw [hf]; rfl
    · exact h.occ x hx
  · intro x hx
    have hx' : NEv.exit x true ∈ s.log ++ [.enter t] := hx
    rcases List.mem_append.mp hx' with hm | hm
    · exact h.fin x hm
    · simp at hm
  · -- a task that returned `Ready` has an empty slot, and the slot of `t` is occupied
    refine pairwise_snoc h.nef fun a ha x hax e => ?_
    injection e with e
    have := h.fin x (hax ▸ ha)
    rw [← e, hf] at this; cases this

/-- the poll of the innermost task returns: the borrow is released, the slot rewritten -/
theorem ninv_exit {s : NState} (h : NInv s) {t : Nat} {st : List Nat} (hst : s.stack = t :: st)
    (o : Option NScript) : NInv (nExit s t o) := by
  have hnd : (t :: st).Nodup := hst ▸ h.sn
  have htn : t ∉ st := (List.nodup_cons.mp hnd).1
  refine ⟨h.qn, h.qlt, ?_, ?_, h.klt, ?_, ?_, ?_, ?_, h.ns⟩
  · show s.stack.tail.Nodup
    rw [hst]; exact (List.nodup_cons.mp hnd).2
  · intro x hx
    have hx' : x ∈ s.stack.tail := hx
    rw [hst] at hx'
    exact h.slt x (by rw [hst]; exact List.mem_cons_of_mem _ hx')
  · show replay (s.log ++ [.exit t o.isNone]) [] = some s.stack.tail
    rw [replay_append, h.rp, hst]
    simp [replay]
  · intro x hx
    have hx' : x ∈ s.stack.tail := hx
    rw [hst] at hx'
    have hxt : x ≠ t := fun e => htn (e ▸ hx')
    show (upd s.fut t o x).isSome = true
    simp only [upd_apply, hxt, if_false]
    exact h.occ x (by rw [hst]; exact List.mem_cons_of_mem _ hx')
  · intro x hx
    have hx' : NEv.exit x true ∈ s.log ++ [.exit t o.isNone] := hx
    show upd s.fut t o x = none
    rcases List.mem_append.mp hx' with hm | hm
    · have hfx := h.fin x hm
      by_cases e : x = t
      · subst e
        have := h.occ x (by rw [hst]; simp)
        rw [hfx] at this; cases this
      · simp only [upd_apply, e, if_false]; exact hfx
    · simp only [List.mem_singleton, NEv.exit.injEq] at hm
      -- the event just logged says `Ready`: the slot has been emptied
      obtain ⟨rfl, hb⟩ := hm
      cases o with
      | none => simp [upd_apply]
      | some _ => cases hb
  · exact pairwise_snoc h.nef fun _ _ _ _ => nofun

/-- `Runs t acts s r`: the future of `t`, running `acts` from `s`, ends in `r` — `nRun` with every nested
    `Task::poll` spelled out (recursion guard, emptied slot, a whole poll that panics or returns) and the depth
    budget gone -/
inductive Runs : Nat → NScript → NState → NState × Option NScript → Prop
  | nil {t s} : Runs t [] s (s, none)
  | complete {t rest s} : Runs t (.complete :: rest) s (s, none)
  | yield {t rest s} : Runs t (.yield :: rest) s (nwake s t, some rest)
  | wake {t u rest s r} : Runs t rest (if s.known u then nwake s u else s) r → Runs t (.wake u :: rest) s r
  | idle {t rest s r} : s.queue = [] → Runs t rest (nlog s .idle) r → Runs t (.nest :: rest) s r
  | guard {t rest s u q} : s.queue = u :: q → u ∈ s.stack →
      Runs t (.nest :: rest) s ({ nlog { s with queue := q } (.guard u) with panicked := true }, some rest)
  | noop {t rest s u q r} : s.queue = u :: q → u ∉ s.stack → s.fut u = none →
      Runs t rest (nlog { s with queue := q } (.noop u)) r → Runs t (.nest :: rest) s r
  | panic {t rest s u q acts r1} : s.queue = u :: q → u < s.ntasks → u ∉ s.stack → s.fut u = some acts →
      Runs u acts (nEnter { s with queue := q } u) r1 → r1.1.panicked = true →
      Runs t (.nest :: rest) s (r1.1, some rest)
  | poll {t rest s u q acts r1 r} : s.queue = u :: q → u < s.ntasks → u ∉ s.stack → s.fut u = some acts →
      Runs u acts (nEnter { s with queue := q } u) r1 → r1.1.panicked = false →
      Runs t rest (nExit r1.1 u r1.2) r → Runs t (.nest :: rest) s r

theorem nExit_eq (s : NState) (t : Nat) (o : Option NScript) :
    nExit s t o = match o with
      | some rest => nlog { s with stack := s.stack.tail, fut := upd s.fut t (some rest) } (.exit t false)
      | none => nlog { s with stack := s.stack.tail, fut := upd s.fut t none } (.exit t true) := by
  cases o <;> rfl

theorem nPoll_succ (d : Nat) (s : NState) (t : Nat) :
    nPoll (d + 1) s t =
      if t ∈ s.stack then { nlog s (.guard t) with panicked := true }
      else match s.fut t with
        | none => nlog s (.noop t)
        | some acts =>
          if (nRun (nPoll d) t acts (nEnter s t)).1.panicked then (nRun (nPoll d) t acts (nEnter s t)).1
          else nExit (nRun (nPoll d) t acts (nEnter s t)).1 t (nRun (nPoll d) t acts (nEnter s t)).2 := by
  simp only [nPoll]
  by_cases hm : t ∈ s.stack
  · simp only [hm, if_true]
  · simp only [hm, if_false]
    cases s.fut t with
    | none => rfl
    | some acts =>
      simp only [nEnter]
      split
      · rename_i hp; simp only [hp, if_true]
      · rename_i hp; simp only [hp, nExit_eq]; rfl

theorem Runs.stack {t : Nat} {acts : NScript} {s : NState} {r : NState × Option NScript} (h : Runs t acts s r)
    (hp : r.1.panicked = false) : r.1.stack = s.stack := by
  induction h with
  | nil => rfl
  | complete => rfl
  | yield => rfl
  | wake _ ih => rw [ih hp]; split <;> rfl
  | idle _ _ ih => exact ih hp
  | guard => cases hp
  | noop _ _ _ _ ih => exact ih hp
  | panic _ _ _ _ _ hpr => rw [hpr] at hp; cases hp
  | poll _ _ _ _ _ hpr _ ih1 ih2 =>
    rw [ih2 hp]
    show List.tail _ = _
    rw [ih1 hpr]; rfl

theorem Runs.ntasks {t : Nat} {acts : NScript} {s : NState} {r : NState × Option NScript} (h : Runs t acts s r) :
    r.1.ntasks = s.ntasks := by
  induction h with
  | nil => rfl
  | complete => rfl
  | yield => rfl
  | wake _ ih => rw [ih]; split <;> rfl
  | idle _ _ ih => exact ih
  | guard => rfl
  | noop _ _ _ _ ih => exact ih
  | panic _ _ _ _ _ _ ih1 => exact ih1
  | poll _ _ _ _ _ _ _ ih1 ih2 => exact ih2.trans ih1

theorem Runs.inv {t : Nat} {acts : NScript} {s : NState} {r : NState × Option NScript} (h : Runs t acts s r)
    (hi : NInv s) (ht : t < s.ntasks) : NInv r.1 := by
  induction h with
  | nil => exact hi
  | complete => exact hi
  | yield => exact ninv_wake hi _ ht
  | @wake _ u _ s _ _ ih =>
    refine ih ?_ (by split <;> exact ht)
    split
    · rename_i hk; exact ninv_wake hi u (hi.klt u hk)
    · exact hi
  | idle _ _ ih => exact ih (ninv_event hi .idle (fun _ => by simp) (fun _ _ => by simp)) ht
  | @guard _ _ _ u _ hq _ =>
    have h := ninv_event (ninv_pop hi hq) (.guard u) (fun _ => by simp) (fun _ _ => by simp)
    exact ⟨h.qn, h.qlt, h.sn, h.slt, h.klt, h.rp, h.occ, h.fin, h.nef, h.ns⟩
  | noop hq _ _ _ ih => exact ih (ninv_event (ninv_pop hi hq) (.noop _) (fun _ => by simp) (fun _ _ => by simp)) ht
  | panic hq hu hm hf _ _ ih1 => exact ih1 (ninv_enter (ninv_pop hi hq) _ _ hu hm hf) hu
  | poll hq hu hm hf hr hpr _ ih1 ih2 =>
    exact ih2 (ninv_exit (ih1 (ninv_enter (ninv_pop hi hq) _ _ hu hm hf) hu) (hr.stack hpr) _)
      (Nat.lt_of_lt_of_eq ht hr.ntasks.symm)

/-- What `nRun` computes is a derivation.  The depth budget suffices because the polls in progress are distinct
    tasks; what a nested poll left behind is read off its derivation (the induction hypothesis). -/
theorem runs_nRun (d : Nat) : ∀ (t : Nat) (acts : NScript) (s : NState), NInv s → t < s.ntasks →
    s.stack.length + d = s.ntasks + 1 → s.panicked = false → Runs t acts s (nRun (nPoll d) t acts s) := by
  induction d with
  | zero =>
    intro t acts s h _ hd
    have := nodup_length_le s.stack s.ntasks h.sn h.slt
    omega
  | succ d ihd =>
    intro t acts
    induction acts with
    | nil => intro s _ _ _ _; exact .nil
    | cons a rest ih =>
      intro s h ht hd hp
      cases a with
      | complete => exact .complete
      | yield => exact .yield
      | wake u =>
        simp only [nRun]
        refine .wake ?_
        split
        · rename_i hk; exact ih _ (ninv_wake h u (h.klt u hk)) ht hd hp
        · exact ih s h ht hd hp
      | nest =>
        simp only [nRun]
        cases hq : s.queue with
        | nil =>
          exact .idle hq (ih _ (ninv_event h .idle (fun _ => by simp) (fun _ _ => by simp)) ht hd hp)
        | cons u q =>
          simp only []  -- the `match` on `u :: q`
          have h1 : NInv { s with queue := q } := ninv_pop h hq
          have hu : u < s.ntasks := h.qlt u (by rw [hq]; simp)
          rw [nPoll_succ]
          by_cases hm : u ∈ s.stack
          · have hm' : u ∈ ({ s with queue := q } : NState).stack := hm
            simp only [hm', if_true]
            exact .guard hq hm
          · have hm' : u ∉ ({ s with queue := q } : NState).stack := hm
            simp only [hm', if_false]
            cases hf : s.fut u with
            | none =>
              have hp' : (nlog { s with queue := q } (.noop u)).panicked = false := hp
              simp only [hp', Bool.false_eq_true, if_false]
              exact .noop hq hm hf
                (ih _ (ninv_event h1 (.noop u) (fun _ => by simp) (fun _ _ => by simp)) ht hd hp')
            | some acts =>
              simp only []  -- the `match` on `some acts`
              have h0 := ninv_enter h1 u acts hu hm' hf
              have hr := ihd u acts (nEnter { s with queue := q } u) h0 hu
                (by show (u :: s.stack).length + d = s.ntasks + 1; simp only [List.length_cons]; omega) hp
              generalize nRun (nPoll d) u acts (nEnter { s with queue := q } u) = r1 at hr ⊢
              cases hpr : r1.1.panicked with
              | true => simp only [hpr, if_true]; exact .panic hq hu hm hf hr hpr
              | false =>
                have hpe : (nExit r1.1 u r1.2).panicked = false := hpr
                simp only [hpe, Bool.false_eq_true, if_false]
                have hst : r1.1.stack = u :: s.stack := hr.stack hpr
                have hn : r1.1.ntasks = s.ntasks := hr.ntasks
                refine .poll hq hu hm hf hr hpr (ih _ (ninv_exit (hr.inv h0 hu) hst _)
                  (Nat.lt_of_lt_of_eq ht hn.symm) ?_ hpe)
                show r1.1.stack.tail.length + (d + 1) = r1.1.ntasks + 1
                rw [hst, hn]; exact hd

/-- what holds between two top-level steps: no poll is in progress unless the guard has panicked -/
structure NTop (s : NState) : Prop where
  inv : NInv s
  idle : s.panicked = false → s.stack = []

theorem nStep_some {s s' : NState} (hs : nStep s = some s') :
    s.panicked = false ∧ ∃ t q, s.queue = t :: q ∧ s' = nPoll (s.ntasks + 1) { s with queue := q } t := by
  unfold nStep at hs
  split at hs
  · cases hs
  · rename_i hp
    cases hq : s.queue with
    | nil => simp [hq] at hs
    | cons t q =>
      simp only [hq, Option.some.injEq] at hs
      exact ⟨by simpa using hp, t, q, rfl, hs.symm⟩

theorem nStep_none {s : NState} (h : nStep s = none) : s.queue = [] ∨ s.panicked = true := by
  unfold nStep at h
  by_cases hp : s.panicked = true
  · exact Or.inr hp
  · rw [if_neg hp] at h
    cases hq : s.queue with
    | nil => exact Or.inl rfl
    | cons t q => rw [hq] at h; cases h

/-- A top-level `Executor::step` is the `nest` action of a poll of nobody: `Runs` reads its task only at `yield`,
    and the script `[.nest]` has none, so any existing task serves (`0`: the queue is not empty).  After the inner
    poll `nRun` tests `panicked` and stops or goes on with the empty rest; either way it returns the state `nStep`
    returns. -/
theorem runs_nStep {s s' : NState} (h : NTop s) (hs : nStep s = some s') :
    0 < s.ntasks ∧ ∃ o, Runs 0 [.nest] s (s', o) := by
  obtain ⟨hp, t, q, hq, rfl⟩ := nStep_some hs
  have ht : 0 < s.ntasks := Nat.lt_of_le_of_lt (Nat.zero_le _) (h.inv.qlt t (by rw [hq]; simp))
  have := runs_nRun (s.ntasks + 1) 0 [.nest] s h.inv ht (by rw [h.idle hp]; simp) hp
  simp only [nRun, hq] at this
  by_cases hpp : (nPoll (s.ntasks + 1) { s with queue := q } t).panicked = true
  · rw [if_pos hpp] at this; exact ⟨ht, _, this⟩
  · rw [if_neg hpp] at this; exact ⟨ht, _, this⟩

theorem ntop_step {s s' : NState} (h : NTop s) (hs : nStep s = some s') : NTop s' := by
  obtain ⟨ht, _, hr⟩ := runs_nStep h hs
  exact ⟨hr.inv h.inv ht, fun hnp => (hr.stack hnp).trans (h.idle (nStep_some hs).1)⟩

open YashModel.Run in
theorem nStepN_loop : Loop (fun n (_ : Unit) s => nStepN n s) (fun s t => nStep s = some t)
    (fun s => nStep s = none) where
  zero _ _ := rfl
  succ n _ s := by
    cases e : nStep s with
    | none => exact .inl ⟨by simp only [nStepN, e], rfl⟩
    | some t => exact .inr ⟨(), t, rfl, by simp only [nStepN, e]⟩

open YashModel.Run in
theorem nStepN_iter (n : Nat) (s : NState) : nStepN n s = iter nStep n s :=
  iter_unique (fun _ => rfl) (fun n s => by simp only [nStepN]; cases nStep s <;> rfl) n s

theorem ntop_stepN (n : Nat) {s : NState} (h : NTop s) : NTop (nStepN n s) :=
  nStepN_loop.keeps (fun h hs => ntop_step h hs) n () s h

theorem nStepN_keeps {P : NState → Prop} (hP : ∀ s s', NTop s → P s → nStep s = some s' → P s') (n : Nat)
    {s : NState} (h : NTop s) (hp : P s) : P (nStepN n s) :=
  (nStepN_loop.keeps (P := fun s => NTop s ∧ P s)
    (fun h hs => ⟨ntop_step h.1 hs, hP _ _ h.1 h.2 hs⟩) n () s ⟨h, hp⟩).2

theorem nStepN_ntasks (n : Nat) {s : NState} (h : NTop s) : (nStepN n s).ntasks = s.ntasks :=
  nStepN_keeps (P := fun s' => s'.ntasks = s.ntasks)
    (fun _ _ h e hs => (runs_nStep h hs).2.elim fun _ hr => hr.ntasks.trans e) n h rfl

theorem ntop_init (scripts : List NScript) : NTop (nInit scripts) := by
  refine ⟨⟨List.nodup_range, fun x hx => List.mem_range.mp hx, List.nodup_nil, ?_, ?_, rfl, ?_, ?_,
    List.Pairwise.nil, rfl⟩, fun _ => rfl⟩
  · intro x hx; cases hx
  · intro x hx; cases hx
  · intro x hx; cases hx
  · intro t ht; cases ht

end YashModel.Executor.Nested
