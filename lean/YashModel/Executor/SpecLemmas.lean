/-
  The decidable checks of `Spec.lean` (what the driver evaluates on the model's own run): each means what it
  says (`…_iff`), and so follows from the proved invariants.
-/
import YashModel.Executor.Steps
import YashModel.Executor.Spec
import YashModel.Common.Lists
namespace YashModel.Executor

theorem nodupB_iff (q : List Nat) : nodupB q = true ↔ q.Nodup := Common.nodupB_iff nodupB rfl (fun _ _ => rfl) q

theorem fifoB_iff (a b : List Nat) : fifoB a b = true ↔ ∃ l, b = a.tail ++ l := by
  unfold fifoB
  rw [List.isPrefixOf_iff_prefix]
  constructor
  · rintro ⟨l, hl⟩; exact ⟨l, hl.symm⟩
  · rintro ⟨l, hl⟩; exact ⟨l, hl.symm⟩

theorem fifoB_of_step (s : State) (r : State × Bool) (h : step s = some r) :
    fifoB s.queue r.1.queue = true :=
  (fifoB_iff _ _).mpr (step_queue s r h)

theorem blockedB_iff (s : State) (t : Nat) (acts : Script) :
    blockedB s t acts = true ↔
      (∃ k rest, acts = .wait k :: rest ∧ t ∈ s.waiters k ∧ s.tokens k = 0) ∨
      (∃ c cs rest, acts = .join :: rest ∧ s.kids t = c :: cs ∧ s.relay c = .polled t ∧ (s.fut c).isSome = true) := by
  cases acts with
  | nil => simp [blockedB]
  | cons a rest =>
    cases a with
    | wait k => simp [blockedB]
    | join =>
      cases hk : s.kids t with
      | nil => simp [blockedB, hk]
      | cons c cs => simp [blockedB, hk]
    | yield => simp [blockedB]
    | signal k => simp [blockedB]
    | spawn => simp [blockedB]
    | complete => simp [blockedB]

theorem blockedB_of_blocked {s : State} (hi : InvX false none s) (t : Nat) (acts : Script)
    (hb : Blocked s t acts) : blockedB s t acts = true :=
  (blockedB_iff s t acts).mpr ((Blocked.child hi hb).imp id
    fun ⟨c, cs, rest, e, hk, hr, _, ho⟩ => ⟨c, cs, rest, e, hk, hr, ho⟩)

theorem all_fut_iff (s : State) (P : Nat → Script → Bool) :
    ((List.range s.ntasks).all fun t => match s.fut t with | none => true | some acts => P t acts) = true ↔
      ∀ t acts, t < s.ntasks → s.fut t = some acts → P t acts = true := by
  rw [List.all_eq_true]
  constructor
  · intro h t acts ht hf
    have := h t (List.mem_range.mpr ht)
    rwa [hf] at this
  · intro h t ht
    cases hf : s.fut t with
    | none => rfl
    | some acts => exact h t acts (List.mem_range.mp ht) hf

theorem noLostB_iff (s : State) :
    noLostB s = true ↔
      ∀ t acts, t < s.ntasks → s.fut t = some acts → t ∈ s.queue ∨ blockedB s t acts = true := by
  refine (all_fut_iff s fun t acts => s.queue.contains t || blockedB s t acts).trans ?_
  simp only [Bool.or_eq_true, List.contains_iff_mem]

theorem noLostB_of_inv {s : State} (hi : InvX false none s) : noLostB s = true :=
  (noLostB_iff s).mpr fun t acts ht hf =>
    (hi.live t acts rfl ht (by simp) hf).imp id (blockedB_of_blocked hi t acts)

theorem bracketedB_of (log : List Ev) (h : Bracketed log) : bracketedB log = true := by
  obtain ⟨segs, rfl⟩ := h
  induction segs with
  | nil => rfl
  | cons sg rest ih =>
    cases sg with
    | noop t => simpa [List.flatMap_cons, Seg.events, bracketedB] using ih
    | polled t b => simpa [List.flatMap_cons, Seg.events, bracketedB] using ih

theorem bracketedB_iff (log : List Ev) : bracketedB log = true ↔ Bracketed log := by
  constructor
  · intro h
    fun_induction bracketedB log with
    | case1 => exact ⟨[], rfl⟩
    | case2 t rest ih =>
      obtain ⟨segs, e⟩ := ih h
      exact ⟨.noop t :: segs, by simp [List.flatMap_cons, Seg.events, e]⟩
    | case3 t t' b rest ih =>
      simp only [Bool.and_eq_true, beq_iff_eq] at h
      obtain ⟨segs, e⟩ := ih h.2
      exact ⟨.polled t b :: segs, by simp [List.flatMap_cons, Seg.events, e, h.1]⟩
    | case4 => cases h
  · exact bracketedB_of log

theorem noPollAfterFinB_iff (log : List Ev) :
    noPollAfterFinB log = true ↔ log.Pairwise fun e e' => ∀ t, e = .ret t true → e' ≠ .poll t := by
  induction log with
  | nil => simp [noPollAfterFinB]
  | cons e rest ih =>
    rw [List.pairwise_cons, ← ih]
    cases e with
    | poll t => simp [noPollAfterFinB]
    | noop t => simp [noPollAfterFinB]
    | ret t b =>
      cases b with
      | false => simp [noPollAfterFinB]
      | true =>
        simp only [noPollAfterFinB, Bool.and_eq_true, Bool.not_eq_true']
        constructor
        · rintro ⟨h1, h2⟩
          refine ⟨?_, h2⟩
          intro e' he' t' ht'
          injection ht' with ht' _
          subst ht'
          intro e''
          subst e''
          have := List.contains_iff_mem.mpr he'
          rw [h1] at this; cases this
        · rintro ⟨h1, h2⟩
          refine ⟨?_, h2⟩
          cases hc : rest.contains (Ev.poll t) with
          | false => rfl
          | true => exact absurd rfl (h1 _ (List.contains_iff_mem.mp hc) t rfl)

theorem noPollAfterFinB_of (log : List Ev) (h : NoPollAfterFin log) : noPollAfterFinB log = true :=
  (noPollAfterFinB_iff log).mpr (h.imp fun h t e => (h t e).1)

theorem stallB_iff (s : State) :
    stallB s = true ↔
      (s.queue = [] → ∀ t acts, t < s.ntasks → s.fut t = some acts → blockedB s t acts = true) := by
  unfold stallB
  cases hq : s.queue with
  | cons a q => simp
  | nil =>
    simp only [List.isEmpty_nil, Bool.not_true, Bool.false_or, forall_const]
    exact all_fut_iff s _

theorem stallB_of_inv {s : State} (hi : InvX false none s) : stallB s = true :=
  (stallB_iff s).mpr fun hq t acts ht hf =>
    (hi.live t acts rfl ht (by simp) hf).elim (fun hm => by rw [hq] at hm; cases hm)
      (blockedB_of_blocked hi t acts)

theorem relayB_iff (s : State) :
    relayB s = true ↔
      ∀ c, c < s.ntasks → s.delivered c = (if s.relay c = .done then 1 else 0) ∧
        (s.fut c = none ↔ (s.relay c).sent = true) := by
  unfold relayB
  rw [List.all_eq_true]
  have key : ∀ c, (s.delivered c == (if s.relay c == .done then 1 else 0) &&
        ((s.fut c).isNone == (s.relay c).sent)) = true ↔
      (s.delivered c = (if s.relay c = .done then 1 else 0) ∧ (s.fut c = none ↔ (s.relay c).sent = true)) := by
    intro c
    simp only [Bool.and_eq_true, beq_iff_eq]
    constructor
    · rintro ⟨h1, h2⟩
      refine ⟨h1, ?_⟩
      cases hf : s.fut c with
      | none => rw [hf] at h2; simp at h2; simp [← h2]
      | some a => rw [hf] at h2; simp at h2; simp [← h2]
    · rintro ⟨h1, h2⟩
      refine ⟨h1, ?_⟩
      cases hf : s.fut c with
      | none => simp [h2.mp hf]
      | some a =>
        cases hs : (s.relay c).sent with
        | false => rfl
        | true => rw [h2.mpr hs] at hf; cases hf
  constructor
  · intro h c hc; exact (key c).mp (h c (List.mem_range.mpr hc))
  · intro h c hc; exact (key c).mpr (h c (List.mem_range.mp hc))

theorem relayB_of_inv {s : State} (hi : InvX false none s) : relayB s = true :=
  (relayB_iff s).mpr fun c hc => ⟨hi.deliv c, hi.sync c hc⟩

theorem checkB_of_inv {s : State} (hi : InvX false none s) (ht : TraceInv s) : checkB s = none := by
  have h2 : s.queue.all (· < s.ntasks) = true := by
    rw [List.all_eq_true]; intro x hx; simpa using hi.qlt x hx
  simp [checkB, (nodupB_iff _).2 hi.nodup, h2, noLostB_of_inv hi, stallB_of_inv hi,
    noPollAfterFinB_of _ ht.npaf, bracketedB_of _ ht.brack, relayB_of_inv hi, hi.nobad]

end YashModel.Executor
