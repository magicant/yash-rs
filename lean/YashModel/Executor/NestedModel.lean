/-
  Impl model of `Executor::step` called from INSIDE a poll (the `n` cases of `harness/src/bin/c15.rs`):
  the part of `yash-executor` the other legs leave out — nested polling of other tasks and the recursion
  guard of `Task::poll` (`self.future.try_borrow_mut().expect("`Future` should not be polled recursively")`).

  Imports only `Model.lean` (for `upd` and `enq` = `Task::wake` on the queue); executable.  Same data layout as `Model.lean` for what is shared (`queue` =
  `ExecutorState::wake_queue`, `fut t` = `Task::future`, `none` = slot emptied); new: `stack` = the tasks whose
  `RefCell<Option<future>>` is mutably borrowed right now, i.e. whose `Task::poll` is in progress, innermost
  first.  `Executor::step` (executor.rs) releases its borrow of the executor state before it calls
  `Task::poll`, so a future may call `step` again; that pops the next task and polls it *inside* the running
  poll.  If the popped task is itself on the stack (it was woken while running), `try_borrow_mut` fails and
  `Task::poll` panics instead of entering the future a second time.

  Test futures: `Y` wake the own waker, return `Pending`; `w<u>` wake task `u` (through the waker `u` stored
  when it was first polled; no-op if `u` has never been polled), go on; `N` call `Executor::step`, go on; `C`
  / end of script return `Ready`.
-/
import YashModel.Executor.Model
namespace YashModel.Executor.Nested

inductive NAct where
  | yield
  | wake (u : Nat)
  | nest
  | complete
  deriving DecidableEq, Repr, Inhabited

abbrev NScript := List NAct

inductive NEv where
  /-- `Task::poll` borrowed the slot of `t` and polls its future -/
  | enter (t : Nat)
  /-- that poll returned (`ready` = `Poll::Ready`), the borrow is released -/
  | exit (t : Nat) (ready : Bool)
  /-- `Task::poll` on an emptied slot -/
  | noop (t : Nat)
  /-- the recursion guard fired for the popped task `t`: panic -/
  | guard (t : Nat)
  /-- a nested `Executor::step` found the queue empty (`None`) -/
  | idle
  deriving DecidableEq, Repr

structure NState where
  queue : List Nat := []
  ntasks : Nat := 0
  fut : Nat → Option NScript := fun _ => none
  /-- tasks whose slot is borrowed (`Task::poll` in progress), innermost first -/
  stack : List Nat := []
  /-- the task has been polled at least once, so the harness holds a clone of its waker -/
  known : Nat → Bool := fun _ => false
  log : List NEv := []
  /-- the recursion guard panicked; the panic unwinds through every poll in progress -/
  panicked : Bool := false
  /-- ghost: the depth budget of the definition ran out (never happens: `NInv.ns`, stated in `nested_step_safe`) -/
  starved : Bool := false

/-- `Task::wake` (`enq` of Model.lean: no-op if the task is already enqueued, else `push_back`) -/
def nwake (s : NState) (t : Nat) : NState := { s with queue := enq s.queue t }

def nlog (s : NState) (e : NEv) : NState := { s with log := s.log ++ [e] }

/-- The future of task `t` executing the rest of its script inside one `poll`; `inner` is `Task::poll` as a
    nested `Executor::step` reaches it.  Result: `none` = `Ready`, `some rest` = `Pending` (also used for "a
    panic is unwinding": then `panicked` is set and the caller stops). -/
def nRun (inner : NState → Nat → NState) (t : Nat) : NScript → NState → NState × Option NScript
  | [], s => (s, none)
  | .complete :: _, s => (s, none)
  | .yield :: rest, s => (nwake s t, some rest)
  | .wake u :: rest, s => nRun inner t rest (if s.known u then nwake s u else s)
  | .nest :: rest, s =>
    -- `Executor::step`: `let task = self.state.borrow_mut().wake_queue.pop_front()?; Some(task.poll())`
    match s.queue with
    | [] => nRun inner t rest (nlog s .idle)
    | u :: q =>
      let s1 := inner { s with queue := q } u
      if s1.panicked then (s1, some rest) else nRun inner t rest s1

/-- `Task::poll` at nesting depth budget `d` -/
def nPoll : Nat → NState → Nat → NState
  | 0, s, _ => { s with starved := true, panicked := true }
  | d + 1, s, t =>
    -- `try_borrow_mut().expect("`Future` should not be polled recursively")`
    if t ∈ s.stack then { nlog s (.guard t) with panicked := true }
    else
      match s.fut t with
      | none => nlog s (.noop t)
      | some acts =>
        let s0 := { nlog s (.enter t) with stack := t :: s.stack, known := upd s.known t true }
        let r := nRun (nPoll d) t acts s0
        if r.1.panicked then r.1
        else
          match r.2 with
          | some rest => nlog { r.1 with stack := r.1.stack.tail, fut := upd r.1.fut t (some rest) } (.exit t false)
          | none => nlog { r.1 with stack := r.1.stack.tail, fut := upd r.1.fut t none } (.exit t true)

/-- `Executor::step` from outside any poll (a panicked executor is not stepped again) -/
def nStep (s : NState) : Option NState :=
  if s.panicked then none else
  match s.queue with
  | [] => none
  | t :: q => some (nPoll (s.ntasks + 1) { s with queue := q } t)

def nStepN : Nat → NState → NState
  | 0, s => s
  | n + 1, s =>
    match nStep s with
    | none => s
    | some s' => nStepN n s'

/-- all scripts are roots, spawned in order -/
def nInit (scripts : List NScript) : NState :=
  { queue := List.range scripts.length
    ntasks := scripts.length
    fut := fun t => scripts[t]? }

/-! ### Spec: the clauses of the property on the trace, with nesting -/

/-- replay the trace with a stack: `enter t` needs `t` not open, `exit t` needs `t` innermost;
    result = the polls still open -/
def replay : List NEv → List Nat → Option (List Nat)
  | [], st => some st
  | .enter t :: rest, st => if st.contains t then none else replay rest (t :: st)
  | .exit t _ :: rest, st =>
    match st with
    | t' :: st' => if t == t' then replay rest st' else none
    | [] => none
  | _ :: rest, st => replay rest st

/-- "never polls … re-entrantly", with nesting: the trace is well nested and never enters a task that is open -/
def wellNestedB (log : List NEv) : Bool := (replay log []).isSome

/-- "never polls a task after it completed" -/
def noEnterAfterFinB : List NEv → Bool
  | [] => true
  | .exit t true :: rest => !rest.contains (.enter t) && noEnterAfterFinB rest
  | _ :: rest => noEnterAfterFinB rest

def nodupB : List Nat → Bool
  | [] => true
  | a :: t => !t.contains a && nodupB t

def nCheck (s : NState) : Option String :=
  if !nodupB s.queue then some "queue-dup"
  else if !wellNestedB s.log then some "reentrant-poll"
  else if !noEnterAfterFinB s.log then some "poll-after-complete"
  else if s.starved then some "depth-budget"
  else if !s.panicked && !s.stack.isEmpty then some "borrow-left"
  else none

/-! ### Spec: FIFO discipline of the wake queue with nesting (wave 3) -/

/-- the task a trace event pops from the wake queue: every `Task::poll` call — entering the future, the no-op
    on an emptied slot, the recursion guard — is preceded by exactly one `pop_front` of `Executor::step` -/
def popOf : NEv → Option Nat
  | .enter t => some t
  | .noop t => some t
  | .guard t => some t
  | _ => none

/-- the tasks popped by a piece of trace, in order (top-level and nested steps alike) -/
def popsOf (evs : List NEv) : List Nat := evs.filterMap popOf

/-- "lets no woken task be starved", decidable form printed by the driver for every top-level step: the queue
    before the step is a prefix of (tasks popped during the step, nested pops included) ++ (queue after it) —
    nothing was taken from anywhere but the front, nothing was put anywhere but the back -/
def nFifoB (s s' : NState) : Bool :=
  s.queue.isPrefixOf (popsOf (s'.log.drop s.log.length) ++ s'.queue)

/-- "never loses a wake-up", decidable form printed by the driver after every top-level step: unless the guard has
    panicked, every unfinished task is in the wake queue (so a stalled run loop means every task completed) -/
def nLiveB (s : NState) : Bool :=
  s.panicked || (List.range s.ntasks).all fun x => (s.fut x).isNone || s.queue.contains x

/-! ### termination measure (wave 3) -/

/-- what slot `t` still has to do: the actions left plus one for returning `Ready` -/
def slotWork (f : Nat → Option NScript) (t : Nat) : Nat :=
  match f t with
  | none => 0
  | some sc => sc.length + 1

/-- work left in all slots -/
def nWork (s : NState) : Nat := ((List.range s.ntasks).map (slotWork s.fut)).sum

/-- bound on the number of top-level steps until the run loop stalls (or the guard panics) -/
def nStallBound (s : NState) : Nat := nWork s * (s.ntasks + 1) + s.queue.length

/-- the frozen state after the guard panic (and every other boundary): no unfinished task is outside queue ∪ polls in
    progress, nothing is held twice -/
def nFrozenB (s : NState) : Bool :=
  nodupB s.queue && nodupB s.stack &&
  (List.range s.ntasks).all fun x => (s.fut x).isNone || s.queue.contains x || s.stack.contains x

end YashModel.Executor.Nested
