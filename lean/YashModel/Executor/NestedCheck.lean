/-
  The nested-step model against its Spec column.  The checks the driver prints (`nCheck`: queue without duplicates,
  trace well nested, no entry after `Ready`, budget, no borrow left) follow from the invariant between top-level
  steps; and what `wellNestedB` says of a trace in its own terms.
-/
import YashModel.Executor.Nested
import YashModel.Common.Lists
namespace YashModel.Executor.Nested

theorem n_nodupB_of (q : List Nat) (h : q.Nodup) : nodupB q = true :=
  (Common.nodupB_iff nodupB rfl (fun _ _ => rfl) q).2 h

theorem noEnterAfterFinB_of (log : List NEv)
    (h : log.Pairwise fun e e' => ∀ t, e = .exit t true → e' ≠ .enter t) : noEnterAfterFinB log = true := by
  induction log with
  | nil => rfl
  | cons e rest ih =>
    have hp := List.pairwise_cons.mp h
    have ih' := ih hp.2
    cases e with
    | exit t b =>
      cases b with
      | false => simpa [noEnterAfterFinB] using ih'
      | true =>
        simp only [noEnterAfterFinB, Bool.and_eq_true, Bool.not_eq_true']
        refine ⟨?_, ih'⟩
        cases hc : rest.contains (.enter t) with
        | false => rfl
        | true => exact absurd rfl (hp.1 _ (List.contains_iff_mem.mp hc) t rfl)
    | enter t => simpa [noEnterAfterFinB] using ih'
    | noop t => simpa [noEnterAfterFinB] using ih'
    | guard t => simpa [noEnterAfterFinB] using ih'
    | idle => simpa [noEnterAfterFinB] using ih'

theorem nCheck_of {s : NState} (h : NTop s) : nCheck s = none := by
  have h1 := n_nodupB_of _ h.inv.qn
  have h2 : wellNestedB s.log = true := by unfold wellNestedB; rw [h.inv.rp]; rfl
  have h3 := noEnterAfterFinB_of _ h.inv.nef
  have h4 := h.inv.ns
  unfold nCheck
  simp only [h1, h2, h3, h4, Bool.not_true, Bool.false_eq_true, if_false]
  cases hp : s.panicked with
  | true => simp
  | false => simp [h.idle hp]

theorem replay_keeps (l : List NEv) (st st' : List Nat) (t : Nat) (h : replay l st = some st') (ht : t ∈ st)
    (hn : ∀ b, NEv.exit t b ∉ l) : t ∈ st' := by
  induction l generalizing st with
  | nil => simp [replay] at h; exact h ▸ ht
  | cons e l ih =>
    have hn' : ∀ b, NEv.exit t b ∉ l := fun b hb => hn b (List.mem_cons_of_mem _ hb)
    cases e with
    | enter u =>
      simp only [replay] at h
      split at h
      · cases h
      · exact ih _ h (List.mem_cons_of_mem _ ht) hn'
    | exit u b =>
      cases st with
      | nil => cases ht
      | cons u' st0 =>
        simp only [replay] at h
        split at h
        · rename_i hu
          have hu' : u = u' := by simpa using hu
          have hne : t ≠ u' := by
            intro e; subst e; subst hu'
            exact hn b (by simp)
          rcases List.mem_cons.mp ht with e | hm
          · exact absurd e hne
          · exact ih _ h hm hn'
        · cases h
    | noop u => exact ih _ (by simpa [replay] using h) ht hn'
    | guard u => exact ih _ (by simpa [replay] using h) ht hn'
    | idle => exact ih _ (by simpa [replay] using h) ht hn'

theorem replay_prefix (l l' : List NEv) (st : List Nat) (h : (replay (l ++ l') st).isSome = true) :
    ∃ st', replay l st = some st' ∧ (replay l' st').isSome = true := by
  rw [replay_append] at h
  cases hr : replay l st with
  | none => rw [hr] at h; simp at h
  | some st' => rw [hr] at h; exact ⟨st', rfl, by simpa using h⟩

/-- What `wellNestedB` says: between two entries of the future of the same task its earlier poll has returned. -/
theorem wellNested_no_reentry (l1 l2 l3 : List NEv) (t : Nat)
    (h : wellNestedB (l1 ++ [.enter t] ++ l2 ++ [.enter t] ++ l3) = true) : ∃ b, NEv.exit t b ∈ l2 := by
  unfold wellNestedB at h
  have e : l1 ++ [NEv.enter t] ++ l2 ++ [NEv.enter t] ++ l3 = (l1 ++ [.enter t]) ++ (l2 ++ ([.enter t] ++ l3)) := by
    simp
  rw [e] at h
  obtain ⟨st1, h1, h1'⟩ := replay_prefix _ _ _ h
  obtain ⟨st2, h2, h2'⟩ := replay_prefix _ _ _ h1'
  have ht1 : t ∈ st1 := by
    rw [replay_append] at h1
    cases hr : replay l1 [] with
    | none => rw [hr] at h1; simp at h1
    | some st0 =>
      rw [hr] at h1
      simp only [Option.bind_some, replay] at h1
      split at h1
      · cases h1
      · simp only [Option.some.injEq] at h1
        rw [← h1]; simp
  by_cases ha : NEv.exit t true ∈ l2
  · exact ⟨true, ha⟩
  by_cases hb : NEv.exit t false ∈ l2
  · exact ⟨false, hb⟩
  exfalso
  have hn : ∀ b, NEv.exit t b ∉ l2 := fun b => by cases b <;> assumption
  have ht2 := replay_keeps l2 st1 st2 t h2 ht1 hn
  simp [replay, ht2] at h2'

end YashModel.Executor.Nested
