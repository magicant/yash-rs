/-
  Termination of the run loop of the nested-step model.  `nWork` (actions left in all slots + one per unfinished
  task) never grows during a poll — nested polls included — and every entered poll strictly lowers it
  (`Runs.mono`, `mono_exit`); a pop of an emptied slot shortens the queue; the queue never exceeds the number of
  tasks: `nStallBound` strictly decreases with every top-level step that does not end in the guard panic.
-/
import YashModel.Executor.NestedLive
namespace YashModel.Executor.Nested

theorem nWork_upd (s : NState) (t : Nat) (ht : t < s.ntasks) (v : Option NScript) :
    ((List.range s.ntasks).map (slotWork (upd s.fut t v))).sum + slotWork s.fut t =
      nWork s + slotWork (upd s.fut t v) t := by
  unfold nWork
  exact sum_map_upd s.ntasks t ht (slotWork s.fut) (slotWork (upd s.fut t v))
    (fun j hj => by simp [slotWork, upd_apply, hj])

/-- a poll that was entered with `acts` to do and returns: the slot is rewritten with less to do, so the work
    left has gone down, whatever the nested polls did (`w1`–`w3`: what `Runs.mono` says of the run inside) -/
theorem mono_exit {s r : NState} {u : Nat} {acts : NScript} {o : Option NScript} (hu : u < s.ntasks)
    (hf : s.fut u = some acts) (hn : r.ntasks = s.ntasks) (w1 : nWork r ≤ nWork s)
    (w2 : ∀ x, x ∈ u :: s.stack → r.fut x = s.fut x) (w3 : ∀ rest, o = some rest → rest.length < acts.length) :
    nWork (nExit r u o) < nWork s ∧ ∀ x, x ∈ s.stack → u ∉ s.stack → (nExit r u o).fut x = s.fut x := by
  refine ⟨?_, fun x hx hm => ?_⟩
  · have hw := nWork_upd r u (by rw [hn]; exact hu) o
    have hsl : slotWork r.fut u = acts.length + 1 := by
      simp [slotWork, w2 u List.mem_cons_self, hf]
    have hsl' : slotWork (upd r.fut u o) u ≤ acts.length := by
      cases o with
      | none => simp [slotWork, upd_apply]
      | some rest => have := w3 rest rfl; simp [slotWork, upd_apply]; omega
    show ((List.range r.ntasks).map (slotWork (upd r.fut u o))).sum < nWork s
    omega
  · have hxu : x ≠ u := fun e => hm (e ▸ hx)
    show upd r.fut u o x = s.fut x
    simp only [upd_apply, hxu, if_false]
    exact w2 x (List.mem_cons_of_mem _ hx)

/-- a run that does not panic: the work left does not grow, the slots of the polls in progress are not
    written, and a future that returns `Pending` has done at least one action -/
theorem Runs.mono {t : Nat} {acts : NScript} {s : NState} {r : NState × Option NScript} (h : Runs t acts s r)
    (hp : r.1.panicked = false) :
    nWork r.1 ≤ nWork s ∧ (∀ x, x ∈ s.stack → r.1.fut x = s.fut x) ∧
    (∀ rest, r.2 = some rest → rest.length < acts.length) := by
  induction h with
  | nil => exact ⟨Nat.le_refl _, fun _ _ => rfl, fun _ h => by cases h⟩
  | complete => exact ⟨Nat.le_refl _, fun _ _ => rfl, fun _ h => by cases h⟩
  | yield => exact ⟨Nat.le_refl _, fun _ _ => rfl, fun _ h => by cases h; simp⟩
  | wake _ ih =>
    obtain ⟨a1, a2, a3⟩ := ih hp
    refine ⟨?_, ?_, fun r hr => Nat.lt_succ_of_lt (a3 r hr)⟩
    · split at a1 <;> exact a1
    · split at a2 <;> exact a2
  | idle _ _ ih =>
    obtain ⟨a1, a2, a3⟩ := ih hp
    exact ⟨a1, a2, fun r hr => Nat.lt_succ_of_lt (a3 r hr)⟩
  | guard => cases hp
  | noop _ _ _ _ ih =>
    obtain ⟨a1, a2, a3⟩ := ih hp
    exact ⟨a1, a2, fun r hr => Nat.lt_succ_of_lt (a3 r hr)⟩
  | panic _ _ _ _ _ hpr => rw [hpr] at hp; cases hp
  | poll _ hu hm hf hr hpr _ ih1 ih2 =>
    obtain ⟨w1, w2, w3⟩ := ih1 hpr
    obtain ⟨a1, a2, a3⟩ := ih2 hp
    obtain ⟨m1, m2⟩ := mono_exit hu hf hr.ntasks w1 w2 w3
    refine ⟨Nat.le_trans a1 (Nat.le_of_lt m1), fun x hx => ?_, fun r hr => Nat.lt_succ_of_lt (a3 r hr)⟩
    rw [a2 x (by show x ∈ List.tail _; rw [hr.stack hpr]; exact hx)]
    exact m2 x hx hm

theorem nStallBound_step {s s' : NState} (h : NTop s) (hs : nStep s = some s') (hnp : s'.panicked = false) :
    nStallBound s' < nStallBound s := by
  have hql : s'.queue.length ≤ s'.ntasks :=
    nodup_length_le _ _ (ntop_step h hs).inv.qn (ntop_step h hs).inv.qlt
  obtain ⟨_, o, hr⟩ := runs_nStep h hs
  obtain ⟨_, t, q, hq, _⟩ := nStep_some hs
  have hn : s'.ntasks = s.ntasks := hr.ntasks
  unfold nStallBound
  rw [hn] at hql ⊢
  cases hr with
  | idle hq0 => rw [hq] at hq0; cases hq0
  | guard => cases hnp
  | panic _ _ _ _ _ hpr => rw [hpr] at hnp; cases hnp
  | noop hq _ _ hr' =>
    -- the popped slot was empty: nothing else happened
    cases hr'
    rw [hq]
    show nWork s * (s.ntasks + 1) + _ < _
    simp [nlog]
  | poll hq hu _ hf hr1 hpr hr' =>
    cases hr'
    obtain ⟨w1, w2, w3⟩ := hr1.mono hpr
    exact packed_lt (mono_exit hu hf hr1.ntasks w1 w2 w3).1 hql

theorem nStepN_panicked (n : Nat) (s : NState) (h : s.panicked = true) : nStepN n s = s := by
  rw [nStepN_iter]; exact YashModel.Run.iter_stuck (by simp [nStep, h]) n

/-- the run loop of the nested-step model ends within the bound: the queue runs empty or the guard panics.  A
    step into the guard panic ends the loop; it counts as lowering the bound to zero, which it does, since a step
    starts with a task in the queue. -/
theorem nStepN_stalls (n : Nat) {s : NState} (h : NTop s) (hn : nStallBound s ≤ n) :
    (nStepN n s).queue = [] ∨ (nStepN n s).panicked = true :=
  nStep_none (nStepN_loop.stops_noMove (I := NTop) (fun s => if s.panicked = true then 0 else nStallBound s)
    (fun h hs => ntop_step h hs)
    (fun {s t} h hs => by
      obtain ⟨hp, u, q, hq, _⟩ := nStep_some hs
      show (if t.panicked = true then 0 else nStallBound t) < if s.panicked = true then 0 else nStallBound s
      rw [if_neg (c := s.panicked = true) (by rw [hp]; nofun)]
      by_cases hpt : t.panicked = true
      · rw [if_pos hpt]; unfold nStallBound; rw [hq, List.length_cons]; omega
      · rw [if_neg hpt]; exact nStallBound_step h hs (by simpa using hpt))
    (fun s hno => by
      cases e : nStep s with
      | none => rfl
      | some t => exact absurd e (hno t))
    n () s h (by split <;> omega)).2

end YashModel.Executor.Nested
