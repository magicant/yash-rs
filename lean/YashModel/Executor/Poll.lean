/-
  One poll, one `Executor::step`, the run loop — decoded once.  `Polls t acts s r` is `runActs` as a derivation:
  one constructor per branch, the branch condition as a hypothesis (`polls_runActs`); `poll_cases` and `step_cases`
  do the same for `Task::poll` and `Executor::step`, `send_cases` for `Sender::send`, `stepN_loop` for the run loop.
  The facts about polls of the main model in the other files are inductions on `Polls` or cases on these; only the
  projection of the counted model (RcProj.lean) sets the two transcriptions side by side again.
-/
import YashModel.Executor.Queue
import YashModel.Executor.Spec
import YashModel.Common.Loop
namespace YashModel.Executor

/-- events that make `Task::poll` return `true` -/
def Ev.isDone : Ev → Bool
  | .ret _ true => true
  | .noop _ => true
  | _ => false

theorem poll_none {s : State} {t : Nat} (h : s.fut t = none) : poll s t = (logEv s (.noop t), true) := by
  simp only [poll, h]

theorem poll_some {s : State} {t : Nat} {acts : Script} (h : s.fut t = some acts) :
    poll s t = pollDone (runActs t acts (logEv s (.poll t))) t := by
  simp only [poll, h]

theorem pollDone_pending {r : State × Option Script} {t : Nat} {rest : Script} (h : r.2 = some rest) :
    pollDone r t = (logEv { r.1 with fut := upd r.1.fut t (some rest) } (.ret t false), false) := by
  simp only [pollDone, h]

theorem pollDone_ready {r : State × Option Script} {t : Nat} (h : r.2 = none) :
    pollDone r t = (logEv (complete r.1 t) (.ret t true), true) := by
  simp only [pollDone, h]

/-- what `TraceInv` reads is kept (`trace_frame`): the trace as it is, the slots of the tasks that existed -/
structure Frame (s s' : State) : Prop where
  log : s'.log = s.log
  ntasks : s.ntasks ≤ s'.ntasks
  fut : ∀ x, x < s.ntasks → s'.fut x = s.fut x

theorem Frame.of_eq {s s' : State} (e1 : s'.log = s.log := by rfl) (e2 : s'.ntasks = s.ntasks := by rfl)
    (e3 : s'.fut = s.fut := by rfl) : Frame s s' :=
  ⟨e1, Nat.le_of_eq e2.symm, fun _ _ => by rw [e3]⟩

theorem Frame.refl (s : State) : Frame s s := .of_eq

theorem Frame.trans {a b c : State} (h1 : Frame a b) (h2 : Frame b c) : Frame a c :=
  ⟨h2.log.trans h1.log, Nat.le_trans h1.ntasks h2.ntasks,
   fun x hx => (h2.fut x (Nat.lt_of_lt_of_le hx h1.ntasks)).trans (h1.fut x hx)⟩

/-- the two quantities `stallBound` is made of besides the length of the queue, unchanged -/
def WC (s s' : State) : Prop := work s' = work s ∧ cap s' = cap s

theorem WC.refl (s : State) : WC s s := ⟨rfl, rfl⟩

theorem WC.trans {a b c : State} (h1 : WC a b) (h2 : WC b c) : WC a c :=
  ⟨h2.1.trans h1.1, h2.2.trans h1.2⟩

/-- what a piece of a poll may do to what the queue discipline, the trace and the termination measure read -/
structure Grow (s s' : State) : Prop where
  queue : QExt s s'
  frame : Frame s s'
  wc : WC s s'

theorem Grow.refl (s : State) : Grow s s := ⟨QExt.refl s, Frame.refl s, WC.refl s⟩

theorem Grow.trans {a b c : State} (h1 : Grow a b) (h2 : Grow b c) : Grow a c :=
  ⟨h1.queue.trans h2.queue, h1.frame.trans h2.frame, h1.wc.trans h2.wc⟩

theorem Grow.of_queue {s s' : State} (l : List Nat) (e1 : s'.queue = s.queue ++ l) (e2 : s'.log = s.log)
    (e3 : s'.ntasks = s.ntasks) (e4 : s'.fut = s.fut) (e5 : s'.pool = s.pool) : Grow s s' :=
  ⟨⟨l, e1⟩, .of_eq e2 e3 e4,
   ⟨by unfold work futW poolW; rw [e3, e4, e5], by unfold cap; rw [e3, e5]⟩⟩

theorem Grow.of_eq {s s' : State} (e1 : s'.queue = s.queue) (e2 : s'.log = s.log) (e3 : s'.ntasks = s.ntasks)
    (e4 : s'.fut = s.fut) (e5 : s'.pool = s.pool) : Grow s s' :=
  .of_queue [] (by rw [e1, List.append_nil]) e2 e3 e4 e5

theorem grow_wake (s : State) (t : Nat) : Grow s (wake s t) :=
  (qext_wake s t).elim fun l e => .of_queue l e rfl rfl rfl rfl

theorem grow_signal (s : State) (k : Nat) : Grow s (signal s k) := by
  obtain ⟨l, e⟩ := foldl_enq_ext (s.waiters k) s.queue
  unfold signal
  split <;> exact .of_queue l e rfl rfl rfl rfl

/-- `Sender::send` on every relay; the second case (a relay sent already: `unreachable!()`) is what the invariant
    excludes -/
theorem send_cases (s : State) (t v : Nat) :
    (∃ q, send s t v = { s with queue := q, relay := upd s.relay t (.computed v) } ∧
      ((s.relay t = .pending ∧ q = s.queue) ∨ ∃ w, s.relay t = .polled w ∧ q = enq s.queue w)) ∨
    ((s.relay t).sent = true ∧ send s t v = { s with bad := true }) := by
  unfold send
  cases s.relay t with
  | pending => exact .inl ⟨_, rfl, .inl ⟨rfl, rfl⟩⟩
  | polled w => exact .inl ⟨_, rfl, .inr ⟨w, rfl, rfl⟩⟩
  | computed _ => exact .inr ⟨rfl, rfl⟩
  | done => exact .inr ⟨rfl, rfl⟩

theorem send_fields (s : State) (t v : Nat) :
    (∃ l, (send s t v).queue = s.queue ++ l) ∧ (send s t v).log = s.log ∧ (send s t v).ntasks = s.ntasks ∧
    (send s t v).fut = s.fut ∧ (send s t v).pool = s.pool := by
  rcases send_cases s t v with ⟨q, e, hq⟩ | ⟨_, e⟩
  · rw [e]
    refine ⟨?_, rfl, rfl, rfl, rfl⟩
    rcases hq with ⟨_, rfl⟩ | ⟨w, _, rfl⟩
    · exact ⟨[], (List.append_nil _).symm⟩
    · exact enq_ext _ w
  · rw [e]; exact ⟨⟨[], (List.append_nil _).symm⟩, rfl, rfl, rfl, rfl⟩

/-- the end of a poll that returned `Ready`, the relay not sent yet (as it is for a running task) -/
theorem complete_unsent {s : State} {t : Nat} (h : (s.relay t).sent = false) :
    ∃ q, complete s t = { s with queue := q, relay := upd s.relay t (.computed (value s t)),
                                 fut := upd s.fut t none, ret := upd s.ret t (some (value s t)) } ∧
      ((s.relay t = .pending ∧ q = s.queue) ∨ ∃ w, s.relay t = .polled w ∧ q = enq s.queue w) := by
  rcases send_cases s t (value s t) with ⟨q, e, hq⟩ | ⟨hs, _⟩
  · exact ⟨q, by unfold complete; rw [e], hq⟩
  · rw [h] at hs; cases hs

theorem complete_quiet {s : State} {t : Nat} (h : ∀ x w, s.relay x ≠ .polled w) :
    (complete s t).queue = s.queue ∧ ∀ x w, (complete s t).relay x ≠ .polled w := by
  unfold complete
  rcases send_cases s t (value s t) with ⟨q, e, hq⟩ | ⟨_, e⟩
  · rw [e]
    rcases hq with ⟨_, rfl⟩ | ⟨w, hw, _⟩
    · refine ⟨rfl, fun x w => ?_⟩
      show upd s.relay t (.computed (value s t)) x ≠ .polled w
      by_cases ex : x = t
      · simp [upd_apply, ex]
      · rw [upd_other _ _ _ _ ex]; exact h x w
    · exact absurd hw (h t w)
  · rw [e]; exact ⟨rfl, h⟩

theorem grow_send (s : State) (t v : Nat) : Grow s (send s t v) :=
  let ⟨⟨l, e⟩, e2, e3, e4, e5⟩ := send_fields s t v
  .of_queue l e e2 e3 e4 e5

theorem wc_send (s : State) (t v : Nat) : WC s (send s t v) := (grow_send s t v).wc

theorem grow_takeValue (s : State) (c : Nat) : Grow s (takeValue s c) := by
  unfold takeValue
  split <;> exact .of_eq rfl rfl rfl rfl rfl

theorem futW_spawnNew (s : State) (own : Nat) (sc : Script) :
    futW (spawnNew s own sc) = futW s + (sc.length + 1) := by
  unfold futW
  show ((List.range (s.ntasks + 1)).map fun u => wtOpt (upd s.fut s.ntasks (some sc) u)).sum = _
  simp only [List.range_succ, List.map_append, List.sum_append, List.map_cons, List.map_nil,
    List.sum_cons, List.sum_nil, upd_apply, if_true, Nat.add_zero]
  have h0 : wtOpt (some sc) = sc.length + 1 := rfl
  have h1 := sum_range_congr (fun u => wtOpt (if u = s.ntasks then some sc else s.fut u))
    (fun u => wtOpt (s.fut u)) s.ntasks (by
      intro u hu
      have : u ≠ s.ntasks := by omega
      simp [this])
  omega

/-- a task is spawned, the pool being left with `p` (the pool itself for a root spawned by the harness) -/
theorem frame_spawnNew (s : State) (p : List Script) (own : Nat) (sc : Script) :
    Frame s (spawnNew { s with pool := p } own sc) := by
  refine ⟨rfl, Nat.le_succ _, fun x hx => ?_⟩
  show upd s.fut s.ntasks (some sc) x = s.fut x
  have : x ≠ s.ntasks := by omega
  simp [upd_apply, this]

/-- the script moves from the pool into a new slot: the work left is the same -/
theorem grow_spawnChild (s : State) (t : Nat) : Grow s (spawnChild s t) := by
  unfold spawnChild
  cases hp : s.pool with
  | nil => exact .refl s
  | cons sc rest =>
    have f := frame_spawnNew s rest t sc
    refine ⟨⟨[s.ntasks], rfl⟩, ⟨f.log, f.ntasks, f.fut⟩, ?_, ?_⟩
    · have h1 := futW_spawnNew { s with pool := rest } t sc
      have h2 : futW { s with pool := rest } = futW s := rfl
      have h3 : poolW s = (sc.length + 1) + poolW { s with pool := rest } := by simp [poolW, hp]
      show futW (spawnNew { s with pool := rest } t sc) + poolW { s with pool := rest } = futW s + poolW s
      omega
    · show s.ntasks + 1 + rest.length = s.ntasks + s.pool.length
      rw [hp, List.length_cons]
      omega

/-- `Polls t acts s r`: the future of `t`, running `acts` from `s`, ends in `r` — `runActs` with every branch
    spelled out and its condition named -/
inductive Polls (t : Nat) : Script → State → State × Option Script → Prop
  | nil {s : State} : Polls t [] s (s, none)
  | complete {rest : Script} {s : State} : Polls t (.complete :: rest) s (s, none)
  | yield {rest : Script} {s : State} : Polls t (.yield :: rest) s (wake (wake s t) t, some rest)
  | consume {k : Nat} {rest : Script} {s : State} {r : State × Option Script} : 0 < s.tokens k →
      Polls t rest { s with tokens := upd s.tokens k (s.tokens k - 1) } r → Polls t (.wait k :: rest) s r
  | register {k : Nat} {rest : Script} {s : State} : s.tokens k = 0 →
      Polls t (.wait k :: rest) s
        ({ s with waiters := upd s.waiters k (s.waiters k ++ [t]) }, some (.wait k :: rest))
  | signal {k : Nat} {rest : Script} {s : State} {r : State × Option Script} :
      Polls t rest (signal s k) r → Polls t (.signal k :: rest) s r
  | spawn {rest : Script} {s : State} {r : State × Option Script} :
      Polls t rest (spawnChild s t) r → Polls t (.spawn :: rest) s r
  | joinNone {rest : Script} {s : State} {r : State × Option Script} : s.kids t = [] →
      Polls t rest s r → Polls t (.join :: rest) s r
  | joinRecv {rest : Script} {s : State} {r : State × Option Script} {c v : Nat} {cs : List Nat} :
      s.kids t = c :: cs → s.relay c = .computed v →
      Polls t rest { s with
        relay := upd s.relay c .done
        kids := upd s.kids t cs
        acc := upd s.acc t (s.acc t + v)
        delivered := upd s.delivered c (s.delivered c + 1)
        recv := upd s.recv c (s.recv c ++ [v]) } r →
      Polls t (.join :: rest) s r
  | joinDone {rest : Script} {s : State} {c : Nat} {cs : List Nat} : s.kids t = c :: cs → s.relay c = .done →
      Polls t (.join :: rest) s ({ s with bad := true }, some (.join :: rest))
  | joinPend {rest : Script} {s : State} {c : Nat} {cs : List Nat} : s.kids t = c :: cs →
      (s.relay c).sent = false →
      Polls t (.join :: rest) s ({ s with relay := upd s.relay c (.polled t) }, some (.join :: rest))

theorem polls_runActs (t : Nat) (acts : Script) (s : State) : Polls t acts s (runActs t acts s) := by
  induction acts generalizing s with
  | nil => exact .nil
  | cons a rest ih =>
    cases a with
    | complete => exact .complete
    | yield => exact .yield
    | wait k =>
      simp only [runActs]
      by_cases hk : 0 < s.tokens k
      · rw [if_pos hk]; exact .consume hk (ih _)
      · rw [if_neg hk]; exact .register (by omega)
    | signal k => exact .signal (ih _)
    | spawn => exact .spawn (ih _)
    | join =>
      cases hk : s.kids t with
      | nil => simp only [runActs, hk]; exact .joinNone hk (ih _)
      | cons c cs =>
        cases hr : s.relay c with
        | computed v => simp only [runActs, hk, hr]; exact .joinRecv hk hr (ih _)
        | done => simp only [runActs, hk, hr]; exact .joinDone hk hr
        | pending => simp only [runActs, hk, hr]; exact .joinPend hk (by rw [hr]; rfl)
        | polled w => simp only [runActs, hk, hr]; exact .joinPend hk (by rw [hr]; rfl)

theorem Polls.grow {t : Nat} {acts : Script} {s : State} {r : State × Option Script} (h : Polls t acts s r) :
    Grow s r.1 := by
  induction h with
  | nil => exact .refl _
  | complete => exact .refl _
  | yield => exact (grow_wake _ t).trans (grow_wake _ t)
  | consume _ _ ih => refine Grow.trans ?_ ih; exact .of_eq rfl rfl rfl rfl rfl
  | register _ => exact .of_eq rfl rfl rfl rfl rfl
  | signal _ ih => exact (grow_signal _ _).trans ih
  | spawn _ ih => exact (grow_spawnChild _ t).trans ih
  | joinNone _ _ ih => exact ih
  | joinRecv _ _ _ ih => refine Grow.trans ?_ ih; exact .of_eq rfl rfl rfl rfl rfl
  | joinDone _ _ => exact .of_eq rfl rfl rfl rfl rfl
  | joinPend _ _ => exact .of_eq rfl rfl rfl rfl rfl

/-- What a poll that returns `Pending` leaves to do: strictly less than before, or — when the very first
    action could not proceed (`wait` without token, `join` on an unfinished child) — the same script, and then
    nobody has been woken. -/
theorem Polls.rest {t : Nat} {acts : Script} {s : State} {r : State × Option Script} (h : Polls t acts s r)
    (rest : Script) (hr : r.2 = some rest) :
    rest.length < acts.length ∨ (rest = acts ∧ r.1.queue = s.queue) := by
  have sub : ∀ {tl : Script} {P : Prop} (a : Action),
      rest.length < tl.length ∨ (rest = tl ∧ P) → rest.length < (a :: tl).length := by
    intro tl P a h
    rcases h with h | ⟨rfl, _⟩ <;> simp <;> omega
  induction h with
  | nil => cases hr
  | complete => cases hr
  | yield => cases hr; exact Or.inl (by simp)
  | consume _ _ ih => exact Or.inl (sub _ (ih hr))
  | register _ => cases hr; exact Or.inr ⟨rfl, rfl⟩
  | signal _ ih => exact Or.inl (sub _ (ih hr))
  | spawn _ ih => exact Or.inl (sub _ (ih hr))
  | joinNone _ _ ih => exact Or.inl (sub _ (ih hr))
  | joinRecv _ _ _ ih => exact Or.inl (sub _ (ih hr))
  | joinDone _ _ => cases hr; exact Or.inr ⟨rfl, rfl⟩
  | joinPend _ _ => cases hr; exact Or.inr ⟨rfl, rfl⟩

theorem poll_cases (s : State) (t : Nat) :
    (s.fut t = none ∧ poll s t = (logEv s (.noop t), true)) ∨
    (∃ acts r, s.fut t = some acts ∧ Polls t acts (logEv s (.poll t)) r ∧ poll s t = pollDone r t) := by
  cases hf : s.fut t with
  | none => exact Or.inl ⟨rfl, poll_none hf⟩
  | some acts => exact Or.inr ⟨acts, _, rfl, polls_runActs t acts _, poll_some hf⟩

/-- what `pollDone` makes of the result `r` of the script's run: `Ready` iff no script is left, the slot of `t` set
    to what is left, the return logged; a `Pending` poll leaves queue and relays as they are -/
structure PollEnd (r : State × Option Script) (t : Nat) (x : State × Bool) : Prop where
  result : x.2 = r.2.isNone
  ntasks : x.1.ntasks = r.1.ntasks
  fut : x.1.fut = upd r.1.fut t r.2
  pool : x.1.pool = r.1.pool
  log : x.1.log = r.1.log ++ [.ret t r.2.isNone]
  queue : QExt r.1 x.1
  pending : ∀ rest, r.2 = some rest → x.1.queue = r.1.queue ∧ x.1.relay = r.1.relay

theorem pollDone_eff (r : State × Option Script) (t : Nat) : PollEnd r t (pollDone r t) := by
  obtain ⟨s, o⟩ := r
  cases o with
  | some rest =>
    rw [pollDone_pending rfl]
    exact ⟨rfl, rfl, rfl, rfl, rfl, QExt.refl _, fun _ _ => ⟨rfl, rfl⟩⟩
  | none =>
    rw [pollDone_ready rfl]
    obtain ⟨hq, e2, e3, e4, e5⟩ := send_fields s t (value s t)
    refine ⟨rfl, e3, ?_, e5, ?_, hq, nofun⟩
    · show upd (send s t (value s t)).fut t none = _
      rw [e4]
    · show (send s t (value s t)).log ++ _ = _
      rw [e2]; rfl

theorem qext_poll (s : State) (t : Nat) : QExt s (poll s t).1 := by
  rcases poll_cases s t with ⟨_, e⟩ | ⟨acts, r, _, hp, e⟩
  · rw [e]; exact QExt.refl s
  · rw [e]; exact (QExt.trans (QExt.refl s) hp.grow.queue).trans (pollDone_eff r t).queue

theorem poll_trace (s : State) (t : Nat) :
    (s.fut t = none ∧ (poll s t).1.log = s.log ++ [.noop t] ∧ (poll s t).2 = true ∧
      (poll s t).1.ntasks = s.ntasks ∧ ∀ x, (poll s t).1.fut x = s.fut x) ∨
    (∃ acts, s.fut t = some acts ∧ (poll s t).1.log = s.log ++ [.poll t, .ret t (poll s t).2] ∧
      s.ntasks ≤ (poll s t).1.ntasks ∧
      (∀ x, x < s.ntasks → x ≠ t → (poll s t).1.fut x = s.fut x) ∧
      ((poll s t).2 = true ↔ (poll s t).1.fut t = none)) := by
  rcases poll_cases s t with ⟨hf, e⟩ | ⟨acts, r, hf, hp, e⟩
  · rw [e]; exact Or.inl ⟨hf, rfl, rfl, rfl, fun _ => rfl⟩
  · rw [e]
    have hfr := hp.grow.frame
    have pe := pollDone_eff r t
    refine Or.inr ⟨acts, hf, ?_, pe.ntasks ▸ hfr.ntasks, fun x hx hne => ?_, ?_⟩
    · rw [pe.log, pe.result, hfr.log]; simp [logEv]
    · rw [pe.fut]; simp only [upd_apply, hne, if_false]; exact hfr.fut x hx
    · rw [pe.result, pe.fut]; simp only [upd_apply, if_true]; cases r.2 <;> simp

theorem step_cases {s : State} {r : State × Bool} (h : step s = some r) :
    ∃ t q, s.queue = t :: q ∧ r = poll { s with queue := q } t := by
  unfold step at h
  cases hq : s.queue with
  | nil => simp [hq] at h
  | cons t q => simp only [hq, Option.some.injEq] at h; exact ⟨t, q, rfl, h.symm⟩

theorem step_none {s : State} : step s = none ↔ s.queue = [] := by unfold step; cases s.queue <;> simp

theorem step_cons {s : State} {t : Nat} {q : List Nat} (h : s.queue = t :: q) :
    step s = some (poll { s with queue := q } t) := by simp [step, h]

theorem step_queue (s : State) (r : State × Bool) (h : step s = some r) :
    ∃ l, r.1.queue = s.queue.tail ++ l := by
  obtain ⟨t, q, hq, rfl⟩ := step_cases h
  obtain ⟨l, hl⟩ := qext_poll { s with queue := q } t
  exact ⟨l, by rw [hq]; exact hl⟩

open YashModel.Run in
theorem stepN_loop : Loop (fun n (_ : Unit) s => stepN n s) (fun s t => ∃ b, step s = some (t, b))
    (fun s => s.queue = []) where
  zero _ _ := rfl
  succ n _ s := by
    cases hs : step s with
    | none => exact .inl ⟨by simp only [stepN, hs], step_none.1 hs⟩
    | some r => exact .inr ⟨(), r.1, ⟨r.2, rfl⟩, by simp only [stepN, hs]⟩

theorem stepN_one (s : State) : stepN 1 s = match step s with | none => s | some r => r.1 := by
  simp only [stepN]
  cases step s <;> rfl

theorem step_log (s : State) (r : State × Bool) (h : step s = some r) :
    ∃ evs, r.1.log = s.log ++ evs ∧ evs.countP Ev.isDone = (if r.2 then 1 else 0) := by
  obtain ⟨t, q, _, rfl⟩ := step_cases h
  rcases poll_trace { s with queue := q } t with ⟨_, hl, hb, _, _⟩ | ⟨acts, _, hl, _, _, _⟩
  · exact ⟨[.noop t], hl, by rw [hb]; rfl⟩
  · refine ⟨[.poll t, .ret t (poll { s with queue := q } t).2], hl, ?_⟩
    cases (poll { s with queue := q } t).2 <;> rfl

theorem runUntilStalled_eq (n : Nat) (s : State) (c : Nat) :
    ∃ evs, (stepN n s).log = s.log ++ evs ∧
      runUntilStalled n s c = (stepN n s, c + evs.countP Ev.isDone, (stepN n s).queue.isEmpty) := by
  induction n generalizing s c with
  | zero => exact ⟨[], by simp [stepN], by simp [runUntilStalled, stepN]⟩
  | succ n ih =>
    simp only [runUntilStalled, stepN]
    cases hs : step s with
    | none => exact ⟨[], by simp, by simp [step_none.1 hs]⟩
    | some r =>
      obtain ⟨e1, hl1, hc1⟩ := step_log s r hs
      obtain ⟨e2, hl2, h2⟩ := ih r.1 (if r.2 then c + 1 else c)
      refine ⟨e1 ++ e2, by rw [hl2, hl1, List.append_assoc], ?_⟩
      show runUntilStalled n r.1 (if r.2 then c + 1 else c) = (stepN n r.1, _, (stepN n r.1).queue.isEmpty)
      rw [h2, List.countP_append, hc1]
      cases r.2 <;> simp <;> omega

theorem runUntilStalled_state (n : Nat) (s : State) (c : Nat) : (runUntilStalled n s c).1 = stepN n s := by
  obtain ⟨_, _, e⟩ := runUntilStalled_eq n s c
  rw [e]

open YashModel.Run in
theorem stepN_iter (n : Nat) (s : State) : stepN n s = iter (fun s => (step s).map (·.1)) n s :=
  iter_unique (fun _ => rfl) (fun n s => by simp only [stepN]; cases step s <;> rfl) n s

theorem stepN_stalled (n : Nat) (s : State) (h : s.queue = []) : stepN n s = s := by
  rw [stepN_iter]; exact YashModel.Run.iter_stuck (by simp [step_none.2 h]) n

theorem stepN_add (a b : Nat) (s : State) : stepN (a + b) s = stepN b (stepN a s) := by
  simp only [stepN_iter]; exact YashModel.Run.iter_add _ a b s

theorem spawnRoots_ind {P : State → Prop} (h : ∀ s sc, P s → P (spawnNew s s.ntasks sc)) (scs : List Script)
    {s : State} (h0 : P s) : P (spawnRoots scs s) := by
  induction scs generalizing s with
  | nil => exact h0
  | cons sc rest ih => exact ih (h s sc h0)

theorem spawnRoots_log (scs : List Script) (s : State) : (spawnRoots scs s).log = s.log :=
  spawnRoots_ind (P := fun s' => s'.log = s.log) (fun _ _ h => h) scs rfl

theorem spawnRoots_queue (scs : List Script) (s : State) :
    (spawnRoots scs s).queue = s.queue ++ List.range' s.ntasks scs.length ∧
    (spawnRoots scs s).ntasks = s.ntasks + scs.length := by
  induction scs generalizing s with
  | nil => simp [spawnRoots]
  | cons sc rest ih =>
    simp only [spawnRoots]
    obtain ⟨h1, h2⟩ := ih (spawnNew s s.ntasks sc)
    rw [h1, h2]
    simp only [spawnNew, List.length_cons, List.range'_succ, List.append_assoc, List.singleton_append]
    exact ⟨trivial, by omega⟩

theorem spawnRoots_pool (scs : List Script) (s : State) : (spawnRoots scs s).pool = s.pool :=
  spawnRoots_ind (P := fun s' => s'.pool = s.pool) (fun _ _ h => h) scs rfl

theorem spawnRoots_futW (scs : List Script) (s : State) :
    futW (spawnRoots scs s) = futW s + (scs.map fun sc => sc.length + 1).sum := by
  induction scs generalizing s with
  | nil => simp [spawnRoots]
  | cons sc rest ih =>
    simp only [spawnRoots, List.map_cons, List.sum_cons]
    rw [ih, futW_spawnNew]; omega

theorem spawnRoots_fut (scs : List Script) (s : State) (hfresh : ∀ t, s.ntasks ≤ t → s.fut t = none) (t : Nat) :
    (spawnRoots scs s).fut t = if t < s.ntasks then s.fut t else scs[t - s.ntasks]? := by
  induction scs generalizing s with
  | nil =>
    simp only [spawnRoots, List.getElem?_nil]
    split
    · rfl
    · exact hfresh t (by omega)
  | cons sc rest ih =>
    simp only [spawnRoots]
    have hf1 : ∀ x, (spawnNew s s.ntasks sc).ntasks ≤ x → (spawnNew s s.ntasks sc).fut x = none := by
      intro x hx
      have hx' : s.ntasks + 1 ≤ x := hx
      show upd s.fut s.ntasks (some sc) x = none
      have : x ≠ s.ntasks := by omega
      simp only [upd_apply, this, if_false]; exact hfresh x (by omega)
    rw [ih (spawnNew s s.ntasks sc) hf1]
    show (if t < s.ntasks + 1 then upd s.fut s.ntasks (some sc) t else rest[t - (s.ntasks + 1)]?) = _
    by_cases h1 : t < s.ntasks
    · have : t ≠ s.ntasks := by omega
      simp [h1, upd_apply, this, show t < s.ntasks + 1 by omega]
    · by_cases h2 : t = s.ntasks
      · subst h2; simp [upd_apply]
      · have h3 : ¬ t < s.ntasks + 1 := by omega
        have e : t - s.ntasks = (t - (s.ntasks + 1)) + 1 := by omega
        simp only [h1, h3, if_false]
        rw [e, List.getElem?_cons_succ]

theorem spawnRoots_nopoll (scs : List Script) (s : State) (h : ∀ t w, s.relay t ≠ .polled w) :
    ∀ t w, (spawnRoots scs s).relay t ≠ .polled w := by
  refine spawnRoots_ind (P := fun s => ∀ t w, s.relay t ≠ .polled w) (fun s sc h t w => ?_) scs h
  show upd s.relay s.ntasks .pending t ≠ _
  by_cases e : t = s.ntasks
  · simp [upd_apply, e]
  · simp only [upd_apply, e, if_false]; exact h t w

end YashModel.Executor
