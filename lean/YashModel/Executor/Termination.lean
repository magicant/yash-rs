/-
  Termination of the run loop.  `work` (actions left in all slots and in the
  pool, plus one per unfinished task) never grows under `Executor::step`; a step that leaves it unchanged
  (poll of an emptied slot, a `wait` without token, a `join` on an unfinished child) leaves the queue one
  entry shorter.  With the queue bounded by the number of tasks (no duplicates), `stallBound` steps empty
  the queue.
-/
import YashModel.Executor.Steps
namespace YashModel.Executor

variable {ab : Bool}

theorem futW_congr (s s' : State) (hn : s'.ntasks = s.ntasks) (hf : ∀ u, u < s.ntasks → s'.fut u = s.fut u) :
    futW s' = futW s := by
  unfold futW
  rw [hn]
  exact sum_range_congr _ _ _ fun u hu => by rw [hf u hu]

theorem futW_upd (s s' : State) (t : Nat) (v : Option Script) (hn : s'.ntasks = s.ntasks)
    (hf : s'.fut = upd s.fut t v) (ht : t < s.ntasks) :
    futW s' + wtOpt (s.fut t) = futW s + wtOpt v := by
  unfold futW
  rw [hn, hf]
  have := sum_map_upd s.ntasks t ht (fun u => wtOpt (s.fut u)) (fun u => wtOpt (upd s.fut t v u))
    (fun j hj => by simp [upd_apply, hj])
  simpa [upd_apply] using this

/-- `Task::poll` of a known task: the bound on the number of tasks stays, and either work has been done, or
    nothing at all happened to the queue (the popped task is gone from it, nobody has been pushed). -/
theorem poll_measure (s : State) (t : Nat) (ht : t < s.ntasks) :
    cap (poll s t).1 = cap s ∧
    (work (poll s t).1 < work s ∨ (work (poll s t).1 = work s ∧ (poll s t).1.queue = s.queue)) := by
  rcases poll_cases s t with ⟨_, e⟩ | ⟨acts, r, hf, hp, e⟩
  · rw [e]; exact ⟨rfl, Or.inr ⟨rfl, rfl⟩⟩
  · rw [e]
    have hg := hp.grow
    have pe := pollDone_eff r t
    -- the slot of `t` is rewritten; everything else that counts is as the future left it
    have hu := futW_upd r.1 (pollDone r t).1 t r.2 pe.ntasks pe.fut (Nat.lt_of_lt_of_le ht hg.frame.ntasks)
    rw [hg.frame.fut t ht, show (logEv s (.poll t)).fut t = some acts from hf] at hu
    have hw1 : wtOpt (some acts) = acts.length + 1 := rfl
    have hpw : poolW (pollDone r t).1 = poolW r.1 := by unfold poolW; rw [pe.pool]
    have hwc : WC s r.1 := hg.wc
    have hw : work (pollDone r t).1 + (acts.length + 1) = work s + wtOpt r.2 := by
      have := hwc.1; unfold work at this ⊢; omega
    refine ⟨by have := hwc.2; unfold cap at this ⊢; rw [pe.ntasks, pe.pool]; exact this, ?_⟩
    cases hr2 : r.2 with
    | some rest =>
      rw [hr2] at hw
      have hw2 : wtOpt (some rest) = rest.length + 1 := rfl
      rcases hp.rest rest hr2 with hlt | ⟨e', hq⟩
      · left; omega
      · right; subst e'; exact ⟨by omega, (pe.pending rest hr2).1.trans hq⟩
    | none =>
      rw [hr2] at hw
      have hw2 : wtOpt none = 0 := rfl
      left; omega

theorem step_measure {s : State} (hq : ∀ x, x ∈ s.queue → x < s.ntasks) (r : State × Bool) (h : step s = some r) :
    cap r.1 = cap s ∧
    (work r.1 < work s ∨ (work r.1 = work s ∧ r.1.queue.length + 1 = s.queue.length)) := by
  obtain ⟨t, q, hs, rfl⟩ := step_cases h
  obtain ⟨hc, hm⟩ := poll_measure { s with queue := q } t (hq t (by rw [hs]; simp))
  exact ⟨hc, hm.imp id fun ⟨he, hqq⟩ => ⟨he, by rw [hqq, hs]; simp⟩⟩

theorem queue_le_cap {s : State} (h : InvX ab none s) : s.queue.length ≤ cap s := by
  have := nodup_length_le s.queue s.ntasks h.nodup h.qlt
  unfold cap
  omega

theorem stallBound_step {s : State} (h : InvX ab none s) (r : State × Bool) (hs : step s = some r) :
    stallBound r.1 < stallBound s := by
  obtain ⟨hc, hm⟩ := step_measure h.qlt r hs
  have hq' := queue_le_cap (inv_step h r hs)
  unfold stallBound
  rw [hc] at hq' ⊢
  rcases hm with hlt | ⟨he, hq⟩
  · exact packed_lt hlt hq'
  · rw [he]; omega

theorem stepN_stalls (n : Nat) {s : State} (h : InvX ab none s) (hn : stallBound s ≤ n) : (stepN n s).queue = [] :=
  (stepN_loop.stops (I := InvX ab none) stallBound (fun h ⟨_, hs⟩ => inv_step h _ hs)
    -- the pair is given: left to find it through `(t, b).1 =?= t`, Lean unfolds `stallBound`
    (fun h ⟨b, hs⟩ => stallBound_step h (_, b) hs)
    (fun s _ h0 => List.eq_nil_of_length_eq_zero (by unfold stallBound at h0; omega)) n () s h hn).2

theorem runUntilStalled_budget (n : Nat) {s : State} (h : InvX ab none s) (hn : stallBound s ≤ n) (c : Nat) :
    runUntilStalled n s c = runUntilStalled (stallBound s) s c := by
  have hst : stepN n s = stepN (stallBound s) s := by
    obtain ⟨d, rfl⟩ := Nat.exists_eq_add_of_le hn
    rw [stepN_add, stepN_stalled d _ (stepN_stalls _ h (Nat.le_refl _))]
  obtain ⟨e1, hl1, h1⟩ := runUntilStalled_eq n s c
  obtain ⟨e2, hl2, h2⟩ := runUntilStalled_eq (stallBound s) s c
  have he : e1 = e2 := by
    rw [hst, hl2] at hl1
    exact (List.append_cancel_left hl1).symm
  rw [h1, h2, hst, he]

/-- the bound of a task system, read off the case text: (number of actions + number of scripts) ×
    (number of scripts + 1) + number of roots -/
theorem stallBound_init (sticky : Bool) (scripts : List Script) (roots : Nat) :
    stallBound (init sticky scripts roots) =
      (scripts.map fun sc => sc.length + 1).sum * (scripts.length + 1) + min roots scripts.length := by
  have k1 := spawnRoots_futW (scripts.take roots) { pool := scripts.drop roots, sticky := sticky }
  obtain ⟨kq, k2⟩ := spawnRoots_queue (scripts.take roots) { pool := scripts.drop roots, sticky := sticky }
  have k3 := spawnRoots_pool (scripts.take roots) { pool := scripts.drop roots, sticky := sticky }
  have k4 := congrArg List.length kq
  simp only [List.length_append, List.length_range'] at k4
  have hsum : (scripts.map fun sc => sc.length + 1).sum =
      ((scripts.take roots).map fun sc => sc.length + 1).sum + ((scripts.drop roots).map fun sc => sc.length + 1).sum := by
    rw [← List.sum_append, ← List.map_append, List.take_append_drop]
  have hlen : scripts.length = (scripts.take roots).length + (scripts.drop roots).length := by
    rw [← List.length_append, List.take_append_drop]
  have hmin : (scripts.take roots).length = min roots scripts.length := List.length_take
  unfold stallBound work cap poolW init
  rw [k1, k2, k3, k4]
  have z : futW { pool := scripts.drop roots, sticky := sticky } = 0 := rfl
  rw [z, hsum, ← hmin, hlen]
  simp

end YashModel.Executor
