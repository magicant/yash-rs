/-
  The operation language of the `v` cases.  `XStep x op x'` is `xRun` decoded: nothing, a step, a
  `run_until_stalled` batch, an `Outside` change followed by `settle`, a spawn, a waker thrown away, the executor
  dropped.  Over it: the invariant `XInv` of all operation sequences, which operations abandon tasks, and the FIFO
  discipline of the queue under arbitrary interleavings.
-/
import YashModel.Executor.Values
namespace YashModel.Executor

variable {ab : Bool}

/-- operations that do not throw anything away -/
def XOp.keeps : XOp → Bool
  | .drop _ _ => false
  | .dropExec => false
  | _ => true

/-- operations after which the executor is still there and which are not a whole batch of steps -/
def XOp.plain : XOp → Bool
  | .rus => false
  | .dropExec => false
  | _ => true

theorem inv_weaken {r : Option Nat} {s : State} (h : InvX ab r s) : InvX true r s :=
  ⟨h.nodup, h.qlt, h.wlt, h.plt, h.kid, h.knodup, h.kdone, h.sync, h.fresh, h.deliv,
   fun _ _ hab => (by cases hab), h.run, h.nobad⟩

theorem inv_dropWaker {s : State} (h : InvX ab none s) (k i : Nat) :
    InvX true none { s with waiters := upd s.waiters k ((s.waiters k).eraseIdx i) } :=
  inv_waiters h k _ (fun x hx => h.wlt k x (List.mem_of_mem_eraseIdx hx)) nofun nofun

theorem inv_clearQueue {s : State} (h : InvX ab none s) : InvX true none { s with queue := [] } :=
  ⟨List.nodup_nil, fun _ hx => (by cases hx), h.wlt, h.plt, h.kid, h.knodup, h.kdone, h.sync, h.fresh,
   h.deliv, fun _ _ hab => (by cases hab), h.run, h.nobad⟩

/-- `XStep x op x'`: what the operation `op` makes of `x` — `xRun` with the waker, the pool and "the executor is
    gone" looked up once.  An outside change is followed by `settle`; that only matters for the wake-ups of a
    dead executor. -/
inductive XStep : XState → XOp → XState → Prop
  | noop {x : XState} {op : XOp} : XStep x op x
  | step {x : XState} : x.dead = false → XStep x .step { x with s := stepN 1 x.s }
  | rus {x : XState} : x.dead = false → XStep x .rus { x with s := stepN maxSteps x.s }
  | outside {x : XState} {op : XOp} {s' : State} : Outside x.s s' → XStep x op (XState.settle { x with s := s' })
  | spawn {x : XState} {sc : Script} {rest : List Script} : x.dead = false → x.s.pool = sc :: rest →
      XStep x .spawn { x with s := spawnNew { x.s with pool := rest } x.s.ntasks sc }
  | drop {x : XState} {k i t : Nat} : (x.s.waiters k)[i]? = some t →
      XStep x (.drop k i)
        { x with s := { x.s with waiters := upd x.s.waiters k ((x.s.waiters k).eraseIdx i) }, abandoned := true }
  | dropExec {x : XState} : XStep x .dropExec (XState.settle { x with dead := true, abandoned := true })

theorem settle_alive {x : XState} (h : x.dead = false) : x.settle = x := by simp [XState.settle, h]

/-- `settle` after a change that leaves the queue alone does nothing: the queue of a dead executor is empty -/
theorem settle_quiet {x : XState} {s' : State} (hq : x.dead = true → x.s.queue = []) (e : s'.queue = x.s.queue) :
    XState.settle { x with s := s' } = { x with s := s' } := by
  unfold XState.settle
  by_cases hd : x.dead = true
  · -- the queue that `settle` empties is empty already: `{ s' with queue := s'.queue }` is `s'`
    have e' : s'.queue = [] := e.trans (hq hd)
    rw [if_pos (show ({ x with s := s' } : XState).dead = true from hd)]
    show ({ x with s := { s' with queue := [] } } : XState) = { x with s := s' }
    rw [← e']
  · simp only [hd]; rfl

theorem XStep.quiet {x : XState} {op : XOp} {s' : State} (hq : x.dead = true → x.s.queue = [])
    (ho : Outside x.s s') (e : s'.queue = x.s.queue) : XStep x op { x with s := s' } := by
  have := XStep.outside (op := op) ho
  rwa [settle_quiet (s' := s') hq e] at this

theorem xRun_step {x : XState} (hd : x.dead = false) : xRun x .step = { x with s := stepN 1 x.s } := by
  simp only [xRun, hd, Bool.false_eq_true, if_false]

theorem xRun_rus {x : XState} (hd : x.dead = false) : xRun x .rus = { x with s := stepN maxSteps x.s } := by
  simp only [xRun, hd, Bool.false_eq_true, if_false, runUntilStalled_state]

theorem xRun_spawn {x : XState} {sc : Script} {rest : List Script} (hd : x.dead = false) (hp : x.s.pool = sc :: rest) :
    xRun x .spawn = { x with s := spawnNew { x.s with pool := rest } x.s.ntasks sc } := by
  simp only [xRun, xApply, hp, hd, Bool.false_eq_true, if_false, spawnWeak, Option.map_some]

theorem xRun_dead {x : XState} (hd : x.dead = true) : xRun x .step = x ∧ xRun x .rus = x := by
  simp only [xRun, hd, if_true, and_self]

/-- `xRun` decoded; `hq` holds at every operation boundary (`XInv.dead`) -/
theorem xStep_xRun (x : XState) (op : XOp) (hq : x.dead = true → x.s.queue = []) : XStep x op (xRun x op) := by
  cases op with
  | step =>
    cases hd : x.dead with
    | true => rw [(xRun_dead hd).1]; exact .noop
    | false => rw [xRun_step hd]; exact .step hd
  | rus =>
    cases hd : x.dead with
    | true => rw [(xRun_dead hd).2]; exact .noop
    | false => rw [xRun_rus hd]; exact .rus hd
  | wake k i =>
    simp only [xRun, xApply]
    cases hg : (x.s.waiters k)[i]? with
    | none => exact .noop
    | some t => exact .outside (.take hg)
  | byRef k i =>
    simp only [xRun, xApply]
    cases hg : (x.s.waiters k)[i]? with
    | none => exact .noop
    | some t => exact .outside (.byRef hg)
  | clone k i =>
    simp only [xRun, xApply]
    cases hg : (x.s.waiters k)[i]? with
    | none => exact .noop
    | some t => exact .quiet hq (.clone (List.mem_of_getElem? hg)) rfl
  | drop k i =>
    simp only [xRun, xApply]
    cases hg : (x.s.waiters k)[i]? with
    | none => exact .noop
    | some t => exact .drop hg
  | signal k => exact .outside (.signal k)
  | dropExec => exact .dropExec
  | try_ c =>
    simp only [xRun, xApply]
    split
    · rename_i hc
      simp only [Bool.and_eq_true, decide_eq_true_eq, Bool.not_eq_true'] at hc
      exact .quiet hq (.try_ hc.1 hc.2) (takeValue_queue x.s c)
    · exact .noop
  | spawn =>
    cases hp : x.s.pool with
    | nil => simp only [xRun, xApply, hp]; exact .noop
    | cons sc rest =>
      cases hd : x.dead with
      | true => simp only [xRun, xApply, hp, hd, if_true, spawnWeak, Option.map_none]; exact .noop
      | false => rw [xRun_spawn hd hp]; exact .spawn hd hp

/-- what holds of a `v` case at every operation boundary -/
structure XInv (x : XState) : Prop where
  inv : InvX x.abandoned none x.s
  trace : TraceInv x.s
  val : ValInv x.s
  dead : x.dead = true → x.s.queue = [] ∧ x.abandoned = true

theorem xinv_settle {x : XState} (hi : InvX x.abandoned none x.s) (ht : TraceInv x.s) (hv : ValInv x.s)
    (hd : x.dead = true → x.abandoned = true) : XInv x.settle := by
  unfold XState.settle
  by_cases h : x.dead = true
  · simp only [h, if_true]
    have ha := hd h
    refine ⟨?_, trace_frame ht .of_eq, val_congr hv, fun _ => ⟨rfl, ha⟩⟩
    show InvX x.abandoned none { x.s with queue := [] }
    rw [ha]
    exact inv_clearQueue hi
  · simp only [h]
    exact ⟨hi, ht, hv, fun h' => absurd h' h⟩

theorem xinv_xRun (x : XState) (op : XOp) (h : XInv x) : XInv (xRun x op) := by
  obtain ⟨hi, ht, hv, hd⟩ := h
  have hda : x.dead = true → x.abandoned = true := fun h => (hd h).2
  -- while the executor is there, the clause about a dropped one claims nothing
  have alive : ∀ {y : XState}, x.dead = false → y.dead = x.dead → y.dead = true → y.s.queue = [] ∧ y.abandoned = true :=
    fun h e h' => by rw [e, h] at h'; cases h'
  have hs := xStep_xRun x op (fun h => (hd h).1)
  generalize xRun x op = x' at hs ⊢
  cases hs with
  | noop => exact ⟨hi, ht, hv, hd⟩
  | step hdead => exact ⟨inv_stepN 1 hi, trace_stepN 1 hi ht, val_stepN 1 hi hv, alive hdead rfl⟩
  | rus hdead => exact ⟨inv_stepN _ hi, trace_stepN _ hi ht, val_stepN _ hi hv, alive hdead rfl⟩
  | outside ho => exact xinv_settle (x := { x with s := _ }) (ho.inv hi) (trace_frame ht ho.grow.frame) (ho.val hv) hda
  | spawn hdead hp =>
    rename_i sc rest
    exact ⟨inv_spawnNew (inv_pool hi rest) _ sc, trace_frame ht (frame_spawnNew x.s rest x.s.ntasks sc),
      val_spawnNew (s := { x.s with pool := rest }) (val_congr hv) _ sc, alive hdead rfl⟩
  | drop hg =>
    exact ⟨inv_dropWaker hi _ _, trace_frame ht .of_eq, val_congr hv, fun h => ⟨(hd h).1, rfl⟩⟩
  | dropExec =>
    exact xinv_settle (x := { x with dead := true, abandoned := true }) (inv_weaken hi) ht hv (fun _ => rfl)

theorem xinv_init (sticky : Bool) (scripts : List Script) (roots : Nat) :
    XInv { s := init sticky scripts roots } :=
  ⟨inv_init _ _ _, trace_init _ _ _, val_init _ _ _, fun h => by cases h⟩

theorem xinv_xRunAll (x : XState) (ops : List XOp) (h : XInv x) : XInv (xRunAll x ops) := by
  unfold xRunAll
  induction ops generalizing x with
  | nil => exact h
  | cons op ops ih => exact ih _ (xinv_xRun x op h)

@[simp] theorem settle_abandoned (x : XState) : x.settle.abandoned = x.abandoned := by
  unfold XState.settle; split <;> rfl
@[simp] theorem settle_dead (x : XState) : x.settle.dead = x.dead := by
  unfold XState.settle; split <;> rfl

theorem xRun_keeps (x : XState) (op : XOp) (hq : x.dead = true → x.s.queue = []) (hk : op.keeps = true) :
    (xRun x op).abandoned = x.abandoned ∧ (xRun x op).dead = x.dead := by
  have hs := xStep_xRun x op hq
  generalize xRun x op = x' at hs ⊢
  cases hs with
  | drop _ => cases hk
  | dropExec => cases hk
  | outside _ => simp
  | _ => exact ⟨rfl, rfl⟩

theorem xRunAll_keeps (x : XState) (ops : List XOp) (hk : ∀ op, op ∈ ops → op.keeps = true)
    (ha : x.abandoned = false) (hdd : x.dead = false) :
    (xRunAll x ops).abandoned = false ∧ (xRunAll x ops).dead = false := by
  unfold xRunAll
  induction ops generalizing x with
  | nil => exact ⟨ha, hdd⟩
  | cons op ops ih =>
    have h1 := xRun_keeps x op (fun h => by rw [hdd] at h; cases h) (hk op (by simp))
    exact ih _ (fun o ho => hk o (by simp [ho])) (h1.1.trans ha) (h1.2.trans hdd)

theorem xRun_queue_step (x : XState) (hd : x.dead = false) :
    (xRun x .step).dead = false ∧ ∃ l, (xRun x .step).s.queue = x.s.queue.tail ++ l := by
  rw [xRun_step hd]
  refine ⟨hd, ?_⟩
  show ∃ l, (stepN 1 x.s).queue = x.s.queue.tail ++ l
  rw [stepN_one]
  cases hs : step x.s with
  | none => exact ⟨[], by simp [step_none.1 hs]⟩
  | some r => exact step_queue x.s r hs

theorem xRun_queue_other (x : XState) (op : XOp) (hd : x.dead = false) (hp : op.plain = true)
    (hs : op ≠ .step) : (xRun x op).dead = false ∧ ∃ l, (xRun x op).s.queue = x.s.queue ++ l := by
  have hx := xStep_xRun x op (fun h => by rw [hd] at h; cases h)
  generalize xRun x op = x' at hx ⊢
  cases hx with
  | noop => exact ⟨hd, [], by simp⟩
  | step _ => exact absurd rfl hs
  | rus _ => cases hp
  | outside ho =>
    rename_i s'
    rw [settle_alive (x := { x with s := s' }) hd]; exact ⟨hd, ho.grow.queue⟩
  | spawn _ _ => exact ⟨hd, [x.s.ntasks], rfl⟩
  | drop _ => exact ⟨hd, [], by simp⟩
  | dropExec => cases hp

/-- The task at position `k` of the queue keeps its place in the order: after any interleaving of
    operations containing `j ≤ k` steps it is at position `k - j`. -/
theorem fifo_position (ops : List XOp) (x : XState) (hd : x.dead = false)
    (hp : ∀ op, op ∈ ops → op.plain = true) (k t : Nat) (hk : x.s.queue[k]? = some t)
    (hc : ops.count .step ≤ k) :
    (xRunAll x ops).dead = false ∧ (xRunAll x ops).s.queue[k - ops.count .step]? = some t := by
  induction ops generalizing x k with
  | nil => exact ⟨hd, by simpa [xRunAll] using hk⟩
  | cons op ops ih =>
    have hp' : ∀ o, o ∈ ops → o.plain = true := fun o ho => hp o (by simp [ho])
    by_cases hs : op = .step
    · subst hs
      obtain ⟨hd', l, hl⟩ := xRun_queue_step x hd
      rw [List.count_cons_self] at hc ⊢
      have hk' : (xRun x .step).s.queue[k - 1]? = some t := by
        rw [hl]
        exact getElem?_append_of_some (by rw [List.getElem?_tail, Nat.sub_add_cancel (by omega)]; exact hk)
      rw [Nat.sub_add_eq, Nat.sub_right_comm]
      exact ih (xRun x .step) hd' hp' (k - 1) hk' (by omega)
    · obtain ⟨hd', l, hl⟩ := xRun_queue_other x op hd (hp op (by simp)) hs
      rw [List.count_cons_of_ne hs] at hc ⊢
      exact ih (xRun x op) hd' hp' k (by rw [hl]; exact getElem?_append_of_some hk) hc

theorem xRunAll_steps (n : Nat) (x : XState) (hd : x.dead = false) :
    xRunAll x (List.replicate n .step) = { x with s := stepN n x.s } := by
  induction n generalizing x with
  | zero => rfl
  | succ n ih =>
    show xRunAll (xRun x .step) (List.replicate n .step) = _
    rw [xRun_step hd, ih { x with s := stepN 1 x.s } hd]
    show ({ x with s := stepN n (stepN 1 x.s) } : XState) = _
    rw [← stepN_add 1 n, Nat.add_comm]

end YashModel.Executor
