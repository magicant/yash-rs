/-
  The trace of `Task::poll` calls.  The vocabulary the trace clauses of the property are stated in (`Bracketed`: a
  sequence of complete polls; `NoPollAfterFin`: nothing of a task after its `ret t true`) and the invariant
  `TraceInv`, which also ties the trace to the slots and reads nothing but `log`, `fut`, `ntasks` (`trace_frame`);
  kept by `Task::poll` of an existing task (`trace_poll`, from `poll_trace`).
-/
import YashModel.Executor.Poll
namespace YashModel.Executor

def Ev.task : Ev → Nat
  | .poll t => t
  | .ret t _ => t
  | .noop t => t

/-- one call of `Task::poll` as it appears in the trace -/
inductive Seg where
  | noop (t : Nat)
  | polled (t : Nat) (ready : Bool)

def Seg.events : Seg → List Ev
  | .noop t => [.noop t]
  | .polled t b => [.poll t, .ret t b]

/-- The trace is a sequence of complete `Task::poll` calls: every `poll t` is immediately followed by
    its `ret t _` — no poll starts while another one is in progress. -/
def Bracketed (log : List Ev) : Prop := ∃ segs : List Seg, log = segs.flatMap Seg.events

/-- `e'` may follow `e` in the trace: after `ret t true` there is no further `poll t` / `ret t _` -/
def After (e e' : Ev) : Prop := ∀ t, e = .ret t true → e' ≠ .poll t ∧ ∀ b, e' ≠ .ret t b

/-- for every two positions `i < j` of the trace: if `log[i]` is the completion of task `t`, then
    `log[j]` is not a poll (nor a second return) of `t` -/
def NoPollAfterFin (log : List Ev) : Prop := log.Pairwise After

structure TraceInv (s : State) : Prop where
  brack : Bracketed s.log
  npaf : NoPollAfterFin s.log
  fin : ∀ t, Ev.ret t true ∈ s.log → s.fut t = none
  lt : ∀ e, e ∈ s.log → e.task < s.ntasks

theorem trace_frame {s s' : State} (h : TraceInv s) (f : Frame s s') : TraceInv s' := by
  refine ⟨f.log ▸ h.brack, f.log ▸ h.npaf, ?_, ?_⟩
  · intro t hm
    rw [f.log] at hm
    rw [f.fut t (h.lt _ hm)]
    exact h.fin t hm
  · intro e he
    rw [f.log] at he
    exact Nat.lt_of_lt_of_le (h.lt e he) f.ntasks

theorem bracketed_append (log : List Ev) (seg : Seg) (h : Bracketed log) : Bracketed (log ++ seg.events) := by
  obtain ⟨segs, e⟩ := h
  exact ⟨segs ++ [seg], by simp [e, List.flatMap_append]⟩

theorem trace_poll {s : State} (h : TraceInv s) (t : Nat) (ht : t < s.ntasks) : TraceInv (poll s t).1 := by
  rcases poll_trace s t with ⟨hf, hl, _, hn, hfu⟩ | ⟨acts, hf, hl, hn, hfu, hfin⟩
  · refine ⟨?_, ?_, ?_, ?_⟩
    · rw [hl]; exact bracketed_append _ (.noop t) h.brack
    · rw [hl]
      exact pairwise_snoc h.npaf fun _ _ _ _ => ⟨nofun, fun _ => nofun⟩
    · intro t' hm
      rw [hl] at hm
      simp at hm
      rw [hfu]; exact h.fin t' hm
    · intro e he
      rw [hl] at he
      rw [hn]
      rcases List.mem_append.mp he with he | he
      · exact h.lt e he
      · simp at he; subst he; exact ht
  · have hnot : ∀ t', Ev.ret t' true ∈ s.log → t' ≠ t := by
      intro t' hm e'
      subst e'
      have := h.fin t' hm
      rw [hf] at this; cases this
    refine ⟨?_, ?_, ?_, ?_⟩
    · rw [hl]; exact bracketed_append _ (.polled t _) h.brack
    · rw [hl]
      refine List.pairwise_append.mpr ⟨h.npaf, ?_, ?_⟩
      · refine List.pairwise_cons.mpr ⟨?_, by simp⟩
        intro b hb t' e'
        cases e'
      · intro a ha b hb t' e'
        subst e'
        have hne := hnot t' ha
        simp at hb
        rcases hb with rfl | rfl
        · exact ⟨by simp; exact fun e => hne e.symm, by simp⟩
        · exact ⟨by simp, by simp; exact fun e => hne e.symm⟩
    · intro t' hm
      rw [hl] at hm
      rcases List.mem_append.mp hm with hm | hm
      · have hne := hnot t' hm
        have hlt : t' < s.ntasks := h.lt _ hm
        rw [hfu t' hlt hne]; exact h.fin t' hm
      · simp at hm
        obtain ⟨e1, e2⟩ := hm
        subst e1
        exact hfin.mp e2
    · intro e he
      rw [hl] at he
      rcases List.mem_append.mp he with he | he
      · exact Nat.lt_of_lt_of_le (h.lt e he) hn
      · simp at he
        rcases he with rfl | rfl
        · exact Nat.lt_of_lt_of_le ht hn
        · exact Nat.lt_of_lt_of_le ht hn

theorem trace_init (sticky : Bool) (scripts : List Script) (roots : Nat) :
    TraceInv (init sticky scripts roots) := by
  have hl : (init sticky scripts roots).log = [] := by
    unfold init; rw [spawnRoots_log]
  refine ⟨?_, ?_, ?_, ?_⟩
  · rw [hl]; exact ⟨[], rfl⟩
  · rw [hl]; exact List.Pairwise.nil
  · intro t hm; rw [hl] at hm; cases hm
  · intro e he; rw [hl] at he; cases he

end YashModel.Executor
