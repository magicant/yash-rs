/-
  The count the code maintains IS the derived count `refs`.  `Cnt`: the live `Waker`s of the counted run
  (`RcModel.lean`) are exactly those the task system shows — registered with a channel or stored in a relay
  (`held`), plus the waker `Task::poll` made for the task being polled — and the local handles are exactly the
  one `Executor::step` popped; the ghost flag never rises.  A piece of the counted run is summed up as `St`: its
  effect on the wakers of each task and the fact that only the queue of the task system moved; `cnt_move` carries
  `Cnt` over any step under which `held` moves by the same amounts.  Carried through every vtable entry, every
  action of the test futures, `Task::poll`, `Executor::step`, every outside operation (`atBoundary_rRun`), so with the
  accounting identity of `RcBalance.lean`: strong count = `refs` at every boundary.
-/
import YashModel.Executor.RcProj
namespace YashModel.Executor.Rc

/-- wakers of `t` registered with the channels `< nch` -/
def heldWf (w : Nat → List Nat) (nch t : Nat) : Nat := ((List.range nch).map fun k => (w k).count t).sum

/-- wakers of `t` stored in the relays of the tasks `< n` -/
def heldRf (relay : Nat → Relay) (n t : Nat) : Nat := ((List.range n).filter fun c => relay c == .polled t).length

theorem heldWf_upd (w : Nat → List Nat) (nch k : Nat) (hk : k < nch) (l : List Nat) (t : Nat) :
    heldWf (upd w k l) nch t + (w k).count t = heldWf w nch t + l.count t := by
  unfold heldWf
  have := sum_map_upd nch k hk (fun j => (w j).count t) (fun j => ((upd w k l) j).count t)
    (fun j hj => by simp [upd_apply, hj])
  simpa [upd_apply] using this

theorem filter_length_sum (l : List Nat) (p : Nat → Bool) :
    (l.filter p).length = (l.map fun c => if p c then 1 else 0).sum := by
  induction l with
  | nil => rfl
  | cons a l ih =>
    simp only [List.filter_cons, List.map_cons, List.sum_cons]
    cases h : p a <;> simp [ih] <;> omega

theorem heldRf_upd (relay : Nat → Relay) (n c : Nat) (hc : c < n) (v : Relay) (t : Nat) :
    heldRf (upd relay c v) n t + (if relay c = .polled t then 1 else 0) =
      heldRf relay n t + (if v = .polled t then 1 else 0) := by
  unfold heldRf
  rw [filter_length_sum, filter_length_sum]
  have := sum_map_upd n c hc (fun j => if relay j == .polled t then 1 else 0)
    (fun j => if (upd relay c v) j == .polled t then 1 else 0) (fun j hj => by simp [upd_apply, hj])
  simpa [upd_apply] using this

/-- the ghost part of a piece of the counted run: `r'` has the flag and the local handles of `r`, and `dwk u` more
    wakers of `u` -/
structure GEff (r r' : RState) (dwk : Nat → Int) : Prop where
  g : r'.gunder = r.gunder
  wk : ∀ u, (r'.wk u : Int) = r.wk u + dwk u
  loc : ∀ u, r'.loc u = r.loc u

/-- only the queue (and ghost/trace fields) may differ -/
structure QEq (s s' : State) : Prop where
  waiters : s'.waiters = s.waiters
  relay : s'.relay = s.relay
  ntasks : s'.ntasks = s.ntasks
  pool : s'.pool = s.pool
  fut : s'.fut = s.fut

theorem QEq.refl (s : State) : QEq s s := ⟨rfl, rfl, rfl, rfl, rfl⟩
theorem QEq.trans {a b c : State} (h1 : QEq a b) (h2 : QEq b c) : QEq a c :=
  ⟨h2.waiters.trans h1.waiters, h2.relay.trans h1.relay, h2.ntasks.trans h1.ntasks, h2.pool.trans h1.pool,
   h2.fut.trans h1.fut⟩

theorem qeq_wake (s : State) (d : Bool) (t : Nat) : QEq s (keepQ d s (wake s t)) := by
  cases d <;> exact ⟨rfl, rfl, rfl, rfl, rfl⟩

/-- a piece of the counted run: ghost effect `d` on the wakers, only the queue of the task system moved -/
structure St (r r' : RState) (d : Nat → Int) : Prop where
  eff : GEff r r' d
  q : QEq r.s r'.s

theorem St.refl (r : RState) : St r r (fun _ => 0) :=
  ⟨⟨rfl, fun _ => (Int.add_zero _).symm, fun _ => rfl⟩, QEq.refl _⟩

theorem St.trans {a b c : RState} {d1 d2 : Nat → Int} (h1 : St a b d1) (h2 : St b c d2) :
    St a c (fun u => d1 u + d2 u) :=
  ⟨⟨h2.eff.g.trans h1.eff.g, fun u => by have := h1.eff.wk u; have := h2.eff.wk u; omega,
    fun u => (h2.eff.loc u).trans (h1.eff.loc u)⟩, h1.q.trans h2.q⟩

theorem St.congr {r r' : RState} {d d' : Nat → Int} (h : St r r' d) (e : ∀ u, d u = d' u) : St r r' d' :=
  ⟨⟨h.eff.g, fun u => e u ▸ h.eff.wk u, h.eff.loc⟩, h.q⟩

theorem st_lg {r x : RState} {d : Nat → Int} (h : St r x d) (cs : List Nat) : St r (lg x cs) d :=
  ⟨⟨h.eff.g, h.eff.wk, h.eff.loc⟩, h.q⟩

theorem st_vtClone (r : RState) (t : Nat) (ht : t < r.s.ntasks) :
    St r (vtClone r t) (fun u => if u = t then 1 else 0) := by
  refine ⟨?_, by rw [vtClone_s]; exact QEq.refl _⟩
  rw [vtClone_eq ht]
  exact ⟨rfl, fun u => by by_cases e : u = t <;> simp [upd, e], fun _ => rfl⟩

theorem st_vtDrop (r : RState) (t : Nat) (hw : r.wk t ≠ 0) :
    St r (vtDrop r t) (fun u => if u = t then -1 else 0) := by
  refine ⟨?_, by rw [vtDrop_s]; exact QEq.refl _⟩
  rw [vtDrop, wkDown_eq (by simpa using hw)]
  refine ⟨by simp, fun u => ?_, fun u => by simp⟩
  by_cases e : u = t <;> simp [upd, e]; omega

/-- `Task::wake` consuming a local handle: only `loc t` goes down by one (and the task system moves) -/
theorem taskWake_ghost (r : RState) (t : Nat) (hl : r.loc t ≠ 0) :
    (taskWake r t).gunder = r.gunder ∧ (taskWake r t).wk = r.wk ∧ (taskWake r t).loc = upd r.loc t (r.loc t - 1) := by
  have h1 : locDown (decStrong r t) t = { decStrong r t with loc := upd r.loc t (r.loc t - 1) } := by
    rw [locDown_eq (by simpa using hl)]; simp
  have h2 := locDown_eq (r := { r with s := wake r.s t }) (t := t) hl
  unfold taskWake
  split
  · rw [h1]; simp
  · split
    · rw [h1]; simp
    · rw [h2]; exact ⟨rfl, rfl, rfl⟩

theorem st_vtWake (r : RState) (t : Nat) (ht : t < r.s.ntasks) (hw : r.wk t ≠ 0) :
    St r (vtWake r t) (fun u => if u = t then -1 else 0) := by
  refine ⟨?_, by rw [vtWake_s]; exact qeq_wake _ _ _⟩
  rw [vtWake, fromRaw_eq ht hw]
  obtain ⟨g1, g2, g3⟩ := taskWake_ghost
    { r with wk := upd r.wk t (r.wk t - 1), loc := upd r.loc t (r.loc t + 1) } t (by simp [upd])
  refine ⟨g1, fun u => ?_, fun u => ?_⟩
  · rw [g2]; by_cases e : u = t <;> simp [upd, e]; omega
  · rw [g3]; by_cases e : u = t <;> simp [upd, e]

theorem st_vtWakeByRef (r : RState) (t : Nat) (ht : t < r.s.ntasks) : St r (vtWakeByRef r t) (fun _ => 0) := by
  refine ⟨?_, by rw [vtWakeByRef_s]; exact qeq_wake _ _ _⟩
  rw [vtWakeByRef, ← rcClone, rcClone_eq ht]
  obtain ⟨g1, g2, g3⟩ := taskWake_ghost
    { r with strong := upd r.strong t (r.strong t + 1), loc := upd r.loc t (r.loc t + 1) } t (by simp [upd])
  refine ⟨g1, fun u => by rw [g2]; simp, fun u => ?_⟩
  rw [g3]; by_cases e : u = t <;> simp [upd, e]

/-- `cx.waker().wake_by_ref(); cx.waker().clone().wake()` -/
theorem st_yield (r : RState) (t : Nat) (ht : t < r.s.ntasks) :
    St r (vtWake (vtClone (vtWakeByRef r t) t) t) (fun _ => 0) := by
  have s1 := st_vtWakeByRef r t ht
  have s2 := st_vtClone (vtWakeByRef r t) t (by rw [s1.q.ntasks]; exact ht)
  have s3 := st_vtWake (vtClone (vtWakeByRef r t) t) t (by rw [s2.q.ntasks, s1.q.ntasks]; exact ht) (by
    have := s2.eff.wk t; simp at this; omega)
  exact ((s1.trans s2).trans s3).congr (fun u => by by_cases e : u = t <;> simp [e])

theorem st_wakeAllRef (ws : List Nat) (r : RState) (hw : ∀ w, w ∈ ws → w < r.s.ntasks) :
    St r (wakeAllRef r ws) (fun _ => 0) := by
  induction ws generalizing r with
  | nil => exact St.refl r
  | cons w ws ih =>
    unfold wakeAllRef at ih ⊢
    rw [List.foldl_cons]
    have hwl : w < r.s.ntasks := hw w (by simp)
    have s1 := st_vtClone r w hwl
    have s2 := st_vtWakeByRef (vtClone r w) w (by rw [s1.q.ntasks]; exact hwl)
    have s3 := st_vtDrop (vtWakeByRef (vtClone r w) w) w (by
      have a := s1.eff.wk w; have b := s2.eff.wk w; simp at a b; omega)
    have s123 := st_lg ((s1.trans s2).trans s3) [cClone w, cRef w, cDrop w]
    have s4 := ih (lg (vtDrop (vtWakeByRef (vtClone r w) w) w) [cClone w, cRef w, cDrop w])
      (fun x hx => Nat.lt_of_lt_of_eq (hw x (List.mem_cons_of_mem _ hx)) s123.q.ntasks.symm)
    exact (s123.trans s4).congr (fun u => by by_cases e : u = w <;> simp [e])

theorem st_wakeAllVal (ws : List Nat) (r : RState) (hw : ∀ w, w ∈ ws → w < r.s.ntasks)
    (hc : ∀ u, ws.count u ≤ r.wk u) :
    St r (wakeAllVal r ws) (fun u => -(ws.count u : Int)) := by
  induction ws generalizing r with
  | nil => exact St.refl r
  | cons w ws ih =>
    unfold wakeAllVal at ih ⊢
    rw [List.foldl_cons]
    have hwl : w < r.s.ntasks := hw w (by simp)
    have s1 := st_lg (st_vtWake r w hwl (by have := hc w; simp at this; omega)) [cWake w]
    have s2 := ih _ (fun x hx => by rw [s1.q.ntasks]; exact hw x (List.mem_cons_of_mem _ hx)) (fun u => by
      have a := s1.eff.wk u
      have b := hc u
      by_cases e : u = w
      · simp [e] at a b ⊢; omega
      · simp [e, Ne.symm e] at a b ⊢; omega)
    refine (s1.trans s2).congr (fun u => ?_)
    by_cases e : u = w
    · simp [e]; omega
    · simp [e, Ne.symm e]

/-- wakers of `t` the task system holds: registered with a channel `< nch`, or stored in a relay -/
def held (s : State) (nch t : Nat) : Nat := heldWf s.waiters nch t + heldRf s.relay s.ntasks t

theorem refs_eq (s : State) (nch t : Nat) : refs s nch t = s.queue.count t + held s nch t :=
  Nat.add_assoc _ _ _

theorem held_congr {s s' : State} (nch u : Nat) (h1 : s'.waiters = s.waiters) (h2 : s'.relay = s.relay)
    (h3 : s'.ntasks = s.ntasks) : held s' nch u = held s nch u := by
  unfold held; rw [h1, h2, h3]

theorem held_qeq {s s' : State} (nch u : Nat) (q : QEq s s') : held s' nch u = held s nch u :=
  held_congr nch u q.waiters q.relay q.ntasks

theorem held_waiters (s : State) (nch k : Nat) (hk : k < nch) (l : List Nat) (u : Nat) :
    held { s with waiters := upd s.waiters k l } nch u + (s.waiters k).count u = held s nch u + l.count u := by
  have := heldWf_upd s.waiters nch k hk l u
  show heldWf (upd s.waiters k l) nch u + heldRf s.relay s.ntasks u + _ = heldWf s.waiters nch u + _ + _
  omega

theorem held_relay (s : State) (nch c : Nat) (hc : c < s.ntasks) (v : Relay) (u : Nat) :
    held { s with relay := upd s.relay c v } nch u + (if s.relay c = .polled u then 1 else 0) =
      held s nch u + (if v = .polled u then 1 else 0) := by
  have := heldRf_upd s.relay s.ntasks c hc v u
  show heldWf s.waiters nch u + heldRf (upd s.relay c v) s.ntasks u + _ = heldWf s.waiters nch u + _ + _
  omega

theorem held_spawnNew (s : State) (own : Nat) (sc : Script) (nch u : Nat) :
    held (spawnNew s own sc) nch u = held s nch u := by
  show heldWf s.waiters nch u + heldRf (upd s.relay s.ntasks .pending) (s.ntasks + 1) u = _
  unfold held heldRf
  rw [filter_length_sum, filter_length_sum]
  simp only [List.range_succ, List.map_append, List.sum_append, List.map_cons, List.map_nil, List.sum_cons,
    List.sum_nil]
  have : (List.range s.ntasks).map (fun c => if (upd s.relay s.ntasks .pending) c == .polled u then 1 else 0) =
      (List.range s.ntasks).map (fun c => if s.relay c == .polled u then 1 else 0) := by
    apply List.map_congr_left
    intro j hj
    have : j ≠ s.ntasks := by have := List.mem_range.mp hj; omega
    simp [upd_apply, this]
  rw [this]
  simp [upd_apply]

/-- `wrun` = the task being polled (the waker `Task::poll` made exists), `lrun` = the task `Executor::step` popped
    (its handle exists).  Stated of every `t`, not only of existing tasks: so `cnt_move` need not know `ntasks`. -/
structure Cnt (nch : Nat) (lrun wrun : Option Nat) (r : RState) : Prop where
  g : r.gunder = false
  wk : ∀ t, r.wk t = held r.s nch t + (if wrun = some t then 1 else 0)
  loc : ∀ t, r.loc t = (if lrun = some t then 1 else 0)

/-- counted operations with effect `d` on the wakers, then a change of the task system under which the held
    wakers move by `d` as well -/
theorem cnt_move {nch : Nat} {lrun wrun : Option Nat} {r r' : RState} {d : Nat → Int}
    (h : Cnt nch lrun wrun r) (e : GEff r r' d)
    (hh : ∀ u, (held r'.s nch u : Int) = held r.s nch u + d u) : Cnt nch lrun wrun r' := by
  refine ⟨e.g.trans h.g, fun u => ?_, fun u => (e.loc u).trans (h.loc u)⟩
  have h1 := e.wk u
  have h2 := h.wk u
  have h3 := hh u
  omega

theorem cnt_step {nch : Nat} {lrun wrun : Option Nat} {r x : RState} {d : Nat → Int}
    (h : Cnt nch lrun wrun r) (st : St r x d) (s' : State)
    (hh : ∀ u, (held s' nch u : Int) = held r.s nch u + d u) : Cnt nch lrun wrun { x with s := s' } :=
  cnt_move h ⟨st.eff.g, st.eff.wk, st.eff.loc⟩ hh

theorem cnt_st {nch : Nat} {lrun wrun : Option Nat} {r r' : RState}
    (h : Cnt nch lrun wrun r) (st : St r r' (fun _ => 0)) : Cnt nch lrun wrun r' :=
  cnt_step h st r'.s (fun u => by rw [held_qeq nch u st.q]; simp)

theorem cnt_sfield {nch : Nat} {lrun wrun : Option Nat} {r : RState} (h : Cnt nch lrun wrun r) (s' : State)
    (h1 : s'.waiters = r.s.waiters := by rfl) (h2 : s'.relay = r.s.relay := by rfl)
    (h3 : s'.ntasks = r.s.ntasks := by rfl) : Cnt nch lrun wrun { r with s := s' } :=
  cnt_step h (St.refl r) s' (fun u => by rw [held_congr nch u h1 h2 h3]; simp)

theorem cnt_lg {nch : Nat} {lrun wrun : Option Nat} {x : RState} (h : Cnt nch lrun wrun x) (cs : List Nat) :
    Cnt nch lrun wrun (lg x cs) := ⟨h.g, h.wk, h.loc⟩

/-- what the channel numbers of the scripts and the registered wakers are bounded by -/
structure ChanBound (nch : Nat) (s : State) : Prop where
  chan : ∀ k, nch ≤ k → s.waiters k = []
  poolch : ∀ sc, sc ∈ s.pool → ∀ k, Action.wait k ∈ sc → k < nch
  futch : ∀ t acts, s.fut t = some acts → ∀ k, Action.wait k ∈ acts → k < nch

theorem ChanBound.congr {nch : Nat} {s s' : State} (h : ChanBound nch s) (e1 : s'.waiters = s.waiters := by rfl)
    (e2 : s'.pool = s.pool := by rfl) (e3 : s'.fut = s.fut := by rfl) : ChanBound nch s' :=
  ⟨fun k hk => by rw [e1]; exact h.chan k hk, fun sc hs => h.poolch sc (by rw [← e2]; exact hs),
   fun t acts hf => h.futch t acts (by rw [← e3]; exact hf)⟩

theorem chanBound_q {nch : Nat} {s s' : State} (h : ChanBound nch s) (q : QEq s s') : ChanBound nch s' :=
  h.congr q.waiters q.pool q.fut

theorem chanBound_waiters {nch : Nat} {s : State} (hc : ChanBound nch s) (k : Nat) (hk : k < nch) (l : List Nat) :
    ChanBound nch { s with waiters := upd s.waiters k l } := by
  refine ⟨fun j hj => ?_, hc.poolch, hc.futch⟩
  have : j ≠ k := by omega
  show upd s.waiters k l j = []
  simp only [upd_apply, this, if_false]; exact hc.chan j hj

theorem chanBound_fut {nch : Nat} {s : State} (hc : ChanBound nch s) (t : Nat) (o : Option Script)
    (ho : ∀ acts, o = some acts → ∀ k, Action.wait k ∈ acts → k < nch) :
    ∀ x acts, upd s.fut t o x = some acts → ∀ k, Action.wait k ∈ acts → k < nch := by
  intro x acts hf
  by_cases e : x = t
  · simp only [upd_apply, e, if_true] at hf; exact ho acts hf
  · simp only [upd_apply, e, if_false] at hf; exact hc.futch x acts hf

theorem count_le_heldWf (w : Nat → List Nat) (nch k : Nat) (hk : k < nch) (u : Nat) :
    (w k).count u ≤ heldWf w nch u :=
  le_sum_of_mem _ _ (List.mem_map.mpr ⟨k, List.mem_range.mpr hk, rfl⟩)

theorem cnt_rSignal {ab : Bool} {run : Option Nat} {nch : Nat} {lrun wrun : Option Nat} {r : RState}
    (hi : InvX ab run r.s) (hc : ChanBound nch r.s) (h : Cnt nch lrun wrun r) (k : Nat) :
    Cnt nch lrun wrun (rSignal r k) ∧ ChanBound nch (rSignal r k).s := by
  have hws : ∀ w, w ∈ r.s.waiters k → w < r.s.ntasks := fun w hw => hi.wlt k w hw
  have h1 : Cnt nch lrun wrun { r with s := { r.s with tokens := upd r.s.tokens k (r.s.tokens k + 1) } } :=
    cnt_sfield h _
  have hc1 : ChanBound nch { r.s with tokens := upd r.s.tokens k (r.s.tokens k + 1) } := hc.congr
  unfold rSignal
  split
  · have sd := st_wakeAllRef (r.s.waiters k)
      { r with s := { r.s with tokens := upd r.s.tokens k (r.s.tokens k + 1) } } hws
    exact ⟨cnt_st h1 sd, chanBound_q hc1 sd.q⟩
  · dsimp only
    by_cases hk : k < nch
    · have sd := st_wakeAllVal (r.s.waiters k)
        { r with s := { r.s with tokens := upd r.s.tokens k (r.s.tokens k + 1) } } hws (fun u => by
          have := count_le_heldWf r.s.waiters nch k hk u
          have := h.wk u
          show _ ≤ r.wk u
          unfold held at this; omega)
      generalize wakeAllVal { r with s := { r.s with tokens := upd r.s.tokens k (r.s.tokens k + 1) } }
        (r.s.waiters k) = W at sd ⊢
      refine ⟨cnt_step h1 sd _ (fun u => ?_), chanBound_waiters (chanBound_q hc1 sd.q) k hk []⟩
      have a : held { W.s with waiters := upd W.s.waiters k [] } nch u + (r.s.waiters k).count u =
          held { r.s with tokens := upd r.s.tokens k (r.s.tokens k + 1) } nch u + 0 := by
        have a := held_waiters W.s nch k hk [] u
        rw [held_qeq nch u sd.q, congrFun sd.q.waiters k] at a
        exact a
      show ((held { W.s with waiters := upd W.s.waiters k [] } nch u : Nat) : Int) =
        (held { r.s with tokens := upd r.s.tokens k (r.s.tokens k + 1) } nch u : Nat) + _
      omega
    · -- no waker is registered with a channel out of range: nothing is woken, nothing changes
      have e : r.s.waiters k = [] := hc.chan k (by omega)
      rw [e]
      refine ⟨cnt_sfield h1 _ ?_, ⟨fun j hj => ?_, hc.poolch, hc.futch⟩⟩
      · show upd r.s.waiters k [] = r.s.waiters
        funext j; by_cases ej : j = k <;> simp [upd, ej, e]
      · show upd r.s.waiters k [] j = []
        by_cases ej : j = k <;> simp [upd, ej, hc.chan j hj]

/-- `waiters[k].push(cx.waker().clone())` -/
theorem cnt_register {nch : Nat} {lrun wrun : Option Nat} {r : RState} (hc : ChanBound nch r.s)
    (h : Cnt nch lrun wrun r) (t k : Nat) (ht : t < r.s.ntasks) (hk : k < nch) :
    Cnt nch lrun wrun { vtClone r t with s := { (vtClone r t).s with
      waiters := upd (vtClone r t).s.waiters k ((vtClone r t).s.waiters k ++ [t]) } } ∧
    ChanBound nch { (vtClone r t).s with waiters := upd (vtClone r t).s.waiters k ((vtClone r t).s.waiters k ++ [t]) } := by
  rw [vtClone_s]
  refine ⟨cnt_step h (st_vtClone r t ht) _ (fun u => ?_), chanBound_waiters hc k hk _⟩
  have := held_waiters r.s nch k hk (r.s.waiters k ++ [t]) u
  by_cases e : u = t
  · simp [e] at this ⊢; omega
  · simp [e, Ne.symm e] at this ⊢; omega

/-- `push_back(Rc::new(task))` makes no waker and no local handle, and the new task is held by none -/
theorem cnt_rNew {nch : Nat} {lrun wrun : Option Nat} {r : RState} (h : Cnt nch lrun wrun r) (own : Nat)
    (sc : Script) : Cnt nch lrun wrun (rNew r own sc) :=
  ⟨h.g, fun u => (h.wk u).trans (by rw [← held_spawnNew r.s own sc nch u]; rfl), h.loc⟩

theorem chanBound_spawnNew {nch : Nat} {s : State} (hc : ChanBound nch s) (own : Nat) (sc : Script)
    (hsc : ∀ k, Action.wait k ∈ sc → k < nch) : ChanBound nch (spawnNew s own sc) :=
  ⟨hc.chan, hc.poolch, chanBound_fut hc _ _ (fun _ e => by cases e; exact hsc)⟩

theorem chanBound_spawnPool {nch : Nat} {s : State} (hc : ChanBound nch s) (own : Nat) {sc : Script}
    {rest : List Script} (hp : s.pool = sc :: rest) : ChanBound nch (spawnNew { s with pool := rest } own sc) :=
  chanBound_spawnNew (s := { s with pool := rest }) ⟨hc.chan, fun sc' hs' => hc.poolch sc' (hp ▸ .tail _ hs'), hc.futch⟩
    own sc (hc.poolch sc (hp ▸ .head _))

theorem cnt_rSpawnChild {nch : Nat} {lrun wrun : Option Nat} {r : RState}
    (hc : ChanBound nch r.s) (h : Cnt nch lrun wrun r) (t : Nat) :
    Cnt nch lrun wrun (rSpawnChild r t) ∧ ChanBound nch (rSpawnChild r t).s := by
  unfold rSpawnChild
  cases hp : r.s.pool with
  | nil => exact ⟨h, hc⟩
  | cons sc rest =>
    exact ⟨cnt_sfield (cnt_rNew (cnt_sfield h { r.s with pool := rest }) t sc) _, (chanBound_spawnPool hc t hp).congr⟩

theorem heldRf_pos (relay : Nat → Relay) (n c w : Nat) (hc : c < n) (h : relay c = .polled w) :
    0 < heldRf relay n w := by
  have := heldRf_upd relay n c hc .pending w
  simp [h] at this
  omega

/-- under the invariant, an unfinished task is referenced: by the queue, by a waker registered with a
    channel, or by the waker stored in a relay -/
theorem _root_.YashModel.Executor.refs_pos {s : State} (hi : InvX false none s) (nch t : Nat) (acts : Script)
    (ht : t < s.ntasks) (hf : s.fut t = some acts) (hch : ∀ k, t ∈ s.waiters k → k < nch) : 0 < refs s nch t := by
  rw [refs_eq]
  unfold held
  rcases hi.live t acts rfl ht (by simp) hf with hq | ⟨k, _, _, hm, _⟩ | ⟨c, cs, _, _, hk, hr⟩
  · have := List.count_pos_iff.mpr hq; omega
  · have := count_le_heldWf s.waiters nch k (hch k hm) t
    have := List.count_pos_iff.mpr hm; omega
  · have := heldRf_pos s.relay s.ntasks c t (hi.kid t c (by rw [hk]; simp)).1 hr; omega

theorem cnt_rSend {ab : Bool} {run : Option Nat} {nch : Nat} {lrun wrun : Option Nat} {r : RState}
    (hi : InvX ab run r.s) (hc : ChanBound nch r.s) (h : Cnt nch lrun wrun r) (t v : Nat) (ht : t < r.s.ntasks) :
    Cnt nch lrun wrun (rSend r t v) ∧ ChanBound nch (rSend r t v).s := by
  have hc1 : ChanBound nch { r.s with relay := upd r.s.relay t (.computed v) } := hc.congr
  have hr := held_relay r.s nch t ht (.computed v)
  unfold rSend
  split
  · rename_i e
    refine ⟨cnt_step h (St.refl r) _ (fun u => ?_), hc1⟩
    have := hr u; simp [e] at this ⊢; omega
  · rename_i w e
    have hw0 : r.wk w ≠ 0 := by
      have := h.wk w; have := heldRf_pos r.s.relay r.s.ntasks t w ht e; unfold held at *; omega
    have s1 := st_vtWake { r with s := { r.s with relay := upd r.s.relay t (.computed v) } } w (hi.plt t w e) hw0
    refine ⟨cnt_move h ⟨s1.eff.g, s1.eff.wk, s1.eff.loc⟩ (fun u => ?_), chanBound_q hc1 s1.q⟩
    rw [held_qeq nch u s1.q]
    have := hr u
    by_cases eu : u = w
    · simp [e, eu] at this ⊢; omega
    · simp [e, eu, Ne.symm eu] at this ⊢; omega
  · exact ⟨cnt_sfield h _, hc.congr⟩

/-- a receiver takes the value out of the relay of task `c` (`join`, `try_receive`) -/
theorem cnt_take {nch : Nat} {lrun wrun : Option Nat} {r : RState} (h : Cnt nch lrun wrun r) (c v : Nat)
    (hc : c < r.s.ntasks) (hr : r.s.relay c = .computed v) (s' : State)
    (h1 : s'.waiters = r.s.waiters := by rfl) (h2 : s'.relay = upd r.s.relay c .done := by rfl)
    (h3 : s'.ntasks = r.s.ntasks := by rfl) : Cnt nch lrun wrun { r with s := s' } := by
  refine cnt_step h (St.refl r) s' (fun u => ?_)
  have := held_relay r.s nch c hc .done u
  rw [held_congr (s := { r.s with relay := upd r.s.relay c .done }) nch u h1 h2 h3]
  simp [hr] at this ⊢; omega

theorem ite_polled (a u : Nat) : (if Relay.polled a = Relay.polled u then 1 else 0 : Nat) = if u = a then 1 else 0 := by
  by_cases e : u = a
  · simp [e]
  · simp [e, Ne.symm e]

theorem cnt_rRunActs {ab : Bool} {nch : Nat} {lrun wrun : Option Nat} (t : Nat) (acts : Script) (r : RState)
    (hi : InvX ab (some t) r.s) (hc : ChanBound nch r.s) (ha : ∀ k, Action.wait k ∈ acts → k < nch)
    (hd : r.dead = false) (h : Cnt nch lrun wrun r) :
    Cnt nch lrun wrun (rRunActs t acts r).1 ∧ ChanBound nch (rRunActs t acts r).1.s ∧
    (∀ rest, (rRunActs t acts r).2 = some rest → ∀ k, Action.wait k ∈ rest → k < nch) := by
  have tl : ∀ {a : Action} {rest : Script}, (∀ k, Action.wait k ∈ a :: rest → k < nch) →
      ∀ k, Action.wait k ∈ rest → k < nch := fun ha k hk => ha k (List.mem_cons_of_mem _ hk)
  fun_induction rRunActs t acts r with
  -- end of script
  | case1 r => exact ⟨h, hc, nofun⟩
  -- `complete`
  | case2 _ r => exact ⟨h, hc, nofun⟩
  -- `yield`
  | case3 rest r =>
    have s1 := st_lg (st_yield r t (hi.run t rfl).1) [cRef t, cClone t, cWake t]
    exact ⟨cnt_st h s1, chanBound_q hc s1.q, fun _ e => by cases e; exact tl ha⟩
  -- `wait`, a token
  | case4 k rest r hk ih =>
    exact ih (inv_consume hi k hk) hc.congr (tl ha) hd (cnt_sfield h _)
  -- `wait`, no token: the waker is registered
  | case5 k rest r hk r1 =>
    obtain ⟨c1, b1⟩ := cnt_register hc h t k (hi.run t rfl).1 (ha k (by simp))
    exact ⟨cnt_lg c1 _, b1, fun _ e => by cases e; exact ha⟩
  -- `signal`
  | case6 k rest r ih =>
    obtain ⟨c1, b1⟩ := cnt_rSignal hi hc h k
    exact ih (by simp [hd]; exact inv_signal hi k) b1 (tl ha) (by simp [hd]) c1
  -- `spawn`
  | case7 rest r ih =>
    obtain ⟨c1, b1⟩ := cnt_rSpawnChild hc h t
    exact ih (by rw [rSpawnChild_s]; exact inv_spawnChild hi) b1 (tl ha) (by simp [hd]) c1
  -- `join` without a child
  | case8 rest r hk ih => exact ih hi hc (tl ha) hd h
  -- `join`, the value is there
  | case9 rest r c cs hk v hr ih =>
    exact ih (inv_joinRecv hi c cs v hk hr) hc.congr (tl ha) hd
      (cnt_take h c v (hi.kid t c (by rw [hk]; simp)).1 hr _)
  -- `join` on a relay that is `Done` (the `bad` branch)
  | case10 rest r c cs hk hr =>
    exact ⟨cnt_sfield h _, hc.congr, fun _ e => by cases e; exact ha⟩
  -- `join`, relay `Pending`: the waker is stored
  | case11 rest r c cs hk hr r1 =>
    have s1 := st_vtClone r t (hi.run t rfl).1
    refine ⟨cnt_step h s1 _ (fun u => ?_), ?_, fun _ e => by cases e; exact ha⟩
    · have := held_relay r.s nch c (hi.kid t c (by rw [hk]; simp)).1 (.polled t) u
      show ((held { r1.s with relay := upd r1.s.relay c (.polled t) } nch u : Nat) : Int) = _
      rw [show r1.s = r.s from vtClone_s r t]
      by_cases e : u = t
      · simp [hr, e] at this ⊢; omega
      · simp [hr, e, Ne.symm e] at this ⊢; omega
    · show ChanBound nch { r1.s with relay := upd r1.s.relay c (.polled t) }
      rw [show r1.s = r.s from vtClone_s r t]; exact hc.congr
  -- `join`, relay holds a waker: it is replaced
  | case12 rest r c cs hk w hr r1 =>
    have hcl : c < r.s.ntasks := (hi.kid t c (by rw [hk]; simp)).1
    have s1 := st_vtClone r t (hi.run t rfl).1
    have s2 := st_vtDrop (vtClone r t) w (by
      have a := s1.eff.wk w
      have b := h.wk w
      have := heldRf_pos r.s.relay r.s.ntasks c w hcl hr
      unfold held at b
      by_cases e : w = t
      · simp only [if_pos e] at a; omega
      · simp only [if_neg e] at a; omega)
    have es : r1.s = r.s := (vtDrop_s _ w).trans (vtClone_s r t)
    refine ⟨cnt_step h (s1.trans s2) _ (fun u => ?_), ?_, fun _ e => by cases e; exact ha⟩
    · have := held_relay r.s nch c hcl (.polled t) u
      show ((held { r1.s with relay := upd r1.s.relay c (.polled t) } nch u : Nat) : Int) = _
      rw [es]
      rw [hr, ite_polled, ite_polled] at this
      by_cases e1 : u = t <;> by_cases e2 : u = w
      · simp only [if_pos e1, if_pos e2] at this ⊢; omega
      · simp only [if_pos e1, if_neg e2] at this ⊢; omega
      · simp only [if_neg e1, if_pos e2] at this ⊢; omega
      · simp only [if_neg e1, if_neg e2] at this ⊢; omega
    · show ChanBound nch { r1.s with relay := upd r1.s.relay c (.polled t) }
      rw [es]; exact hc.congr

/-- `let waker = into_waker(Rc::clone(self))`: one more waker of `t`, the local handle made on the way is gone -/
theorem rEnter_ghost (r : RState) (t : Nat) (ht : t < r.s.ntasks) :
    (rEnter r t).gunder = r.gunder ∧ (rEnter r t).wk = upd r.wk t (r.wk t + 1) ∧
    (∀ u, (rEnter r t).loc u = r.loc u) := by
  have e2 : intoWaker (rcClone r t) t =
      { r with strong := upd r.strong t (r.strong t + 1), wk := upd r.wk t (r.wk t + 1),
               loc := upd (upd r.loc t (r.loc t + 1)) t (r.loc t + 1 - 1) } := by
    rw [rcClone_eq ht, intoWaker, locDown_eq (by simp [upd]), wkUp_eq (by exact ht)]; simp [upd]
  rw [show rEnter r t = { intoWaker (rcClone r t) t with s := logEv (intoWaker (rcClone r t) t).s (.poll t) } from rfl, e2]
  refine ⟨rfl, rfl, fun u => ?_⟩
  show upd (upd r.loc t (r.loc t + 1)) t (r.loc t + 1 - 1) u = _
  by_cases e : u = t <;> simp [upd, e]

theorem cnt_rEnter {nch : Nat} {lrun : Option Nat} {r : RState} (h : Cnt nch lrun none r) (t : Nat)
    (ht : t < r.s.ntasks) : Cnt nch lrun (some t) (rEnter r t) := by
  obtain ⟨g1, g2, g3⟩ := rEnter_ghost r t ht
  refine ⟨g1.trans h.g, fun u => ?_, fun u => (g3 u).trans (h.loc u)⟩
  rw [g2, rEnter_s]
  have := h.wk u
  show _ = held r.s nch u + _
  by_cases e : u = t
  · simp [upd, e] at this ⊢; omega
  · simp [upd, e, Ne.symm e] at this ⊢; omega

/-- the waker `Task::poll` made is dropped when it returns -/
theorem cnt_pollEnd {nch : Nat} {lrun : Option Nat} {r : RState} (t : Nat) (h : Cnt nch lrun (some t) r) :
    Cnt nch lrun none (vtDrop r t) := by
  have s1 := st_vtDrop r t (by have := h.wk t; simp at this; omega)
  refine ⟨s1.eff.g.trans h.g, fun u => ?_, fun u => (s1.eff.loc u).trans (h.loc u)⟩
  have a := s1.eff.wk u
  have b := h.wk u
  rw [vtDrop_s]
  by_cases e : u = t
  · simp [e] at a b ⊢; omega
  · simp [e, Ne.symm e] at a b ⊢; omega

theorem cnt_rPoll {ab : Bool} {nch : Nat} {r : RState} (t : Nat) (q : List Nat) (s0 : State)
    (hi : InvX ab none s0) (hq : s0.queue = t :: q) (hs : r.s = { s0 with queue := q })
    (hc : ChanBound nch r.s) (hd : r.dead = false) (h : Cnt nch (some t) none r) :
    Cnt nch (some t) none (rPoll r t).1 ∧ ChanBound nch (rPoll r t).1.s := by
  have htl : t < r.s.ntasks := by rw [hs]; exact hi.qlt t (by rw [hq]; simp)
  unfold rPoll
  cases hf : r.s.fut t with
  | none => exact ⟨cnt_sfield h _, hc.congr⟩
  | some acts =>
    dsimp only
    have hi1 : InvX ab (some t) (rEnter r t).s := by
      rw [rEnter_s, hs]; exact (inv_pop hi t q hq acts (by rw [hs] at hf; exact hf)).congr
    have hd1 : (rEnter r t).dead = false := by simp [hd]
    obtain ⟨c2, b2, a2⟩ := cnt_rRunActs t acts (rEnter r t) hi1
      (by rw [rEnter_s]; exact hc.congr) (hc.futch t acts hf) hd1 (cnt_rEnter h t htl)
    have hi2 : InvX ab (some t) (rRunActs t acts (rEnter r t)).1.s := by
      rw [(rRunActs_p t acts (rEnter r t) hd1).1]; exact ((polls_runActs t acts _).inv hi1).1
    generalize rRunActs t acts (rEnter r t) = x at c2 b2 a2 hi2 ⊢
    have c3 : Cnt nch (some t) (some t) (rPollDone x t).1 ∧ ChanBound nch (rPollDone x t).1.s := by
      unfold rPollDone
      cases h2 : x.2 with
      | some rest =>
        exact ⟨cnt_sfield c2 _, ⟨b2.chan, b2.poolch, chanBound_fut b2 t _ (fun _ e => by cases e; exact a2 rest h2)⟩⟩
      | none =>
        obtain ⟨c4, b4⟩ := cnt_rSend hi2 b2 c2 t (value x.1.s t) (hi2.run t rfl).1
        exact ⟨cnt_sfield (cnt_sfield c4 _) _, ⟨b4.chan, b4.poolch, chanBound_fut b4 t none nofun⟩⟩
    exact ⟨cnt_pollEnd t c3.1, by rw [vtDrop_s]; exact c3.2⟩

/-- between two operations: no poll in progress (no waker of `Task::poll`, no popped handle), the wakers are the
    held ones, and the channel numbers are within `nch` -/
structure AtBoundary (nch : Nat) (r : RState) : Prop where
  cnt : Cnt nch none none r
  ch : ChanBound nch r.s

theorem atBoundary_lg {nch : Nat} {x : RState} (h : AtBoundary nch x) (cs : List Nat) : AtBoundary nch (lg x cs) :=
  ⟨cnt_lg h.cnt cs, h.ch⟩

theorem atBoundary_rStep {ab : Bool} {nch : Nat} {r : RState} (hi : InvX ab none r.s) (hd : r.dead = false)
    (h : AtBoundary nch r) (x : RState × Bool) (hs : rStep r = some x) : AtBoundary nch x.1 := by
  unfold rStep at hs
  cases hq : r.s.queue with
  | nil => simp [hq] at hs
  | cons t q =>
    simp only [hq, Option.some.injEq] at hs
    subst hs
    have htl : t < r.s.ntasks := hi.qlt t (by rw [hq]; simp)
    -- the popped handle is the one local handle while the task is polled …
    have c1 : Cnt nch (some t) none (locUp { r with s := { r.s with queue := q } } t) := by
      rw [locUp_eq (by exact htl)]
      refine ⟨h.cnt.g, h.cnt.wk, fun u => ?_⟩
      have := h.cnt.loc u
      show upd r.loc t (r.loc t + 1) u = _
      by_cases e : u = t
      · simp [upd, e] at this ⊢; omega
      · simp [upd, e, Ne.symm e] at this ⊢; exact this
    obtain ⟨c2, b2⟩ := cnt_rPoll t q r.s hi hq (locUp_s _ t)
      (by rw [locUp_s]; exact h.ch.congr) (by simp [hd]) c1
    generalize (rPoll (locUp { r with s := { r.s with queue := q } } t) t).1 = y at c2 b2 ⊢
    -- … and is dropped when `step` returns
    have hl : y.loc t ≠ 0 := by have := c2.loc t; simp at this; omega
    rw [locDown_eq (by simpa using hl)]
    refine ⟨⟨by simpa using c2.g, fun u => by simpa using c2.wk u, fun u => ?_⟩, by simpa using b2⟩
    have := c2.loc u
    show upd (decStrong y t).loc t ((decStrong y t).loc t - 1) u = _
    by_cases e : u = t
    · simp [upd, e] at this ⊢; omega
    · simp [upd, e, Ne.symm e] at this ⊢; exact this

theorem atBoundary_rStepN {ab : Bool} {nch : Nat} (n : Nat) (r : RState) (hi : InvX ab none r.s) (hd : r.dead = false)
    (h : AtBoundary nch r) : AtBoundary nch (rStepN n r) :=
  (rStepN_loop.keeps (P := fun r => InvX ab none r.s ∧ r.dead = false ∧ AtBoundary nch r)
    (fun ⟨hi, hd, h⟩ ⟨b, hs⟩ =>
      have p := rStep_p _ hd
      ⟨inv_step hi (_, b) (by rw [← p.1, hs]; rfl), p.2 _ hs, atBoundary_rStep hi hd h _ hs⟩) n () r ⟨hi, hd, h⟩).2.2

theorem count_eraseIdx_add (l : List Nat) (i t : Nat) (h : l[i]? = some t) (u : Nat) :
    (l.eraseIdx i).count u + (if u = t then 1 else 0) = l.count u := by
  induction l generalizing i with
  | nil => simp at h
  | cons a l ih =>
    cases i with
    | zero =>
      simp only [List.getElem?_cons_zero, Option.some.injEq] at h
      subst h
      simp only [List.eraseIdx_cons_zero, List.count_cons]
      by_cases e : u = a
      · subst e; simp
      · have : ¬ (a = u) := fun hh => e hh.symm
        simp [e, this]
    | succ i =>
      simp only [List.getElem?_cons_succ] at h
      have := ih i h
      simp only [List.eraseIdx_cons_succ, List.count_cons]
      omega

theorem held_take {nch : Nat} {r : RState} (hc : ChanBound nch r.s) (k i t : Nat) (h : (r.s.waiters k)[i]? = some t) :
    k < nch ∧ ∀ u, held { r.s with waiters := upd r.s.waiters k ((r.s.waiters k).eraseIdx i) } nch u +
      (if u = t then 1 else 0) = held r.s nch u := by
  have hk : k < nch := by
    rcases Nat.lt_or_ge k nch with hk | hk
    · exact hk
    · have := hc.chan k hk; rw [this] at h; simp at h
  refine ⟨hk, fun u => ?_⟩
  have a := held_waiters r.s nch k hk ((r.s.waiters k).eraseIdx i) u
  have b := count_eraseIdx_add (r.s.waiters k) i t h u
  dsimp only
  omega

/-- a registered waker is taken out and consumed by `wake` or `drop` -/
theorem atBoundary_take {nch : Nat} {r x : RState} (h : AtBoundary nch r) (k i t : Nat) (hw : (r.s.waiters k)[i]? = some t)
    (st : r.wk t ≠ 0 → St { r with s := { r.s with waiters := upd r.s.waiters k ((r.s.waiters k).eraseIdx i) } } x
      (fun u => if u = t then -1 else 0)) : AtBoundary nch x := by
  obtain ⟨hk, hh⟩ := held_take h.ch k i t hw
  have s1 := st (by have a := h.cnt.wk t; have b := hh t; simp at b; omega)
  refine ⟨cnt_move h.cnt ⟨s1.eff.g, s1.eff.wk, s1.eff.loc⟩ (fun u => ?_), chanBound_q (chanBound_waiters h.ch k hk _) s1.q⟩
  rw [held_qeq nch u s1.q]
  have := hh u
  by_cases e : u = t
  · simp only [if_pos e] at this ⊢; omega
  · simp only [if_neg e] at this ⊢; omega

theorem atBoundary_rRun {ab : Bool} {nch : Nat} (r : RState) (op : XOp) (hi : InvX ab none r.s) (h : AtBoundary nch r) :
    AtBoundary nch (rRun r op) := by
  cases op with
  | step =>
    simp only [rRun]
    split
    · exact h
    · exact atBoundary_rStepN 1 r hi (by simpa using ‹¬ r.dead = true›) h
  | rus =>
    simp only [rRun]
    split
    · exact h
    · exact atBoundary_rStepN _ r hi (by simpa using ‹¬ r.dead = true›) h
  | wake k i =>
    simp only [rRun]
    cases hw : (r.s.waiters k)[i]? with
    | none => exact h
    | some t =>
      exact atBoundary_lg (atBoundary_take h k i t hw (fun h0 => st_vtWake _ t (hi.wlt k t (List.mem_of_getElem? hw)) h0)) _
  | byRef k i =>
    simp only [rRun]
    cases hw : (r.s.waiters k)[i]? with
    | none => exact h
    | some t =>
      have s1 := st_vtWakeByRef r t (hi.wlt k t (List.mem_of_getElem? hw))
      exact atBoundary_lg ⟨cnt_st h.cnt s1, chanBound_q h.ch s1.q⟩ _
  | clone k i =>
    simp only [rRun]
    cases hw : (r.s.waiters k)[i]? with
    | none => exact h
    | some t =>
      obtain ⟨c1, b1⟩ := cnt_register h.ch h.cnt t k (hi.wlt k t (List.mem_of_getElem? hw)) (held_take h.ch k i t hw).1
      exact atBoundary_lg ⟨c1, b1⟩ _
  | drop k i =>
    simp only [rRun]
    cases hw : (r.s.waiters k)[i]? with
    | none => exact h
    | some t => exact atBoundary_lg (atBoundary_take h k i t hw (fun h0 => st_vtDrop _ t h0)) _
  | signal k =>
    obtain ⟨c1, b1⟩ := cnt_rSignal hi h.ch h.cnt k
    exact ⟨c1, b1⟩
  | dropExec =>
    simp only [rRun]
    split
    · exact h
    · have c : Cnt nch none none (r.s.queue.foldl decStrong r) :=
        ⟨by simpa using h.cnt.g, fun u => by simpa using h.cnt.wk u, fun u => by simpa using h.cnt.loc u⟩
      have c' := cnt_sfield c { (r.s.queue.foldl decStrong r).s with queue := [] }
      refine ⟨⟨c'.g, c'.wk, c'.loc⟩, ?_⟩
      show ChanBound nch { (r.s.queue.foldl decStrong r).s with queue := [] }
      rw [foldl_decStrong_s]; exact h.ch.congr
  | try_ c =>
    simp only [rRun]
    split
    · rename_i hcond
      have hcl : c < r.s.ntasks := by
        simp only [Bool.and_eq_true, decide_eq_true_eq] at hcond; exact hcond.1
      unfold takeValue
      split
      · exact ⟨cnt_take h.cnt c _ hcl ‹_› _, h.ch.congr⟩
      · exact h
    · exact h
  | spawn =>
    simp only [rRun]
    cases hp : r.s.pool with
    | nil => exact h
    | cons sc rest =>
      dsimp only
      split
      · exact h
      · exact ⟨cnt_rNew (cnt_sfield h.cnt { r.s with pool := rest }) _ sc, chanBound_spawnPool h.ch _ hp⟩

theorem atBoundary_rSpawnRoots {nch : Nat} (scs : List Script) (r : RState) (h : AtBoundary nch r)
    (hsc : ∀ sc, sc ∈ scs → ∀ k, Action.wait k ∈ sc → k < nch) : AtBoundary nch (rSpawnRoots scs r) := by
  induction scs generalizing r with
  | nil => exact h
  | cons sc rest ih =>
    exact ih (rNew r r.s.ntasks sc) ⟨cnt_rNew h.cnt _ sc, chanBound_spawnNew h.ch _ sc (hsc sc (by simp))⟩
      (fun sc' hs' => hsc sc' (List.mem_cons_of_mem _ hs'))

theorem heldWf_empty (nch t : Nat) : heldWf (fun _ => []) nch t = 0 := by
  unfold heldWf
  induction nch with
  | zero => rfl
  | succ n ih =>
    simp only [List.range_succ, List.map_append, List.sum_append, List.map_cons, List.map_nil, List.sum_cons,
      List.sum_nil, List.count_nil, Nat.add_zero]
    exact ih

theorem atBoundary_rInit {nch : Nat} (sticky : Bool) (scripts : List Script) (roots : Nat)
    (hsc : ∀ sc, sc ∈ scripts → ∀ k, Action.wait k ∈ sc → k < nch) : AtBoundary nch (rInit sticky scripts roots) := by
  unfold rInit
  refine atBoundary_rSpawnRoots _ _ ⟨⟨rfl, fun u => ?_, fun _ => rfl⟩, fun _ _ => rfl, ?_, nofun⟩
    (fun sc hs => hsc sc (List.mem_of_mem_take hs))
  · show (0 : Nat) = heldWf (fun _ => []) nch u + heldRf (fun _ => Relay.pending) 0 u + 0
    rw [heldWf_empty]; rfl
  · intro sc hs
    exact hsc sc (List.mem_of_mem_drop hs)

theorem atBoundary_rRunAll {nch : Nat} (ops : List XOp) (r : RState) (x : XState) (hs : Same r x) (hx : XInv x)
    (h : AtBoundary nch r) : AtBoundary nch (rRunAll r ops) := by
  induction ops generalizing r x with
  | nil => exact h
  | cons op ops ih =>
    have hi : InvX x.abandoned none r.s := by rw [hs.1]; exact hx.inv
    exact ih (rRun r op) (xRun x op) (same_rRun r x op hs (fun hd => (hx.dead hd).1)) (xinv_xRun x op hx)
      (atBoundary_rRun r op hi h)

/-- the identity of `RcBalance.lean` and the counting invariant together -/
theorem refs_of_atB {nch : Nat} (r : RState) (hb : AtBoundary nch r)
    (hbal : ∀ t, r.strong t = r.s.queue.count t + r.wk t + r.loc t) (hun : r.under = false) :
    r.gunder = false ∧ r.under = false ∧
    (∀ t, r.strong t = refs r.s nch t ∧ r.loc t = 0) ∧
    (∀ t, (r.s.fut t).isSome = true → (r.strong t = 0 ↔ lostB r.s nch t = true)) ∧
    rcCheck r nch = none := by
  have hg := hb.cnt.g
  have hloc : ∀ t, r.loc t = 0 := fun t => by have := hb.cnt.loc t; simpa using this
  have hrefs : ∀ t, r.strong t = refs r.s nch t := by
    intro t
    have a := hbal t
    have b := hb.cnt.wk t
    have c := hloc t
    rw [refs_eq]
    simp at b
    omega
  refine ⟨hg, hun, fun t => ⟨hrefs t, hloc t⟩, ?_, ?_⟩
  · intro t hf
    unfold lostB
    rw [hf, hrefs t]
    simp
  · unfold rcCheck
    have hbalB : balB r = true := by
      unfold balB
      simp only [List.all_eq_true, List.mem_range, beq_iff_eq]
      intro t _
      exact hbal t
    have hl : (List.range r.s.ntasks).all (fun t => r.loc t == 0) = true := by
      simp only [List.all_eq_true, List.mem_range, beq_iff_eq]
      intro t _; exact hloc t
    have hr : (List.range r.s.ntasks).all (fun t => r.strong t == refs r.s nch t) = true := by
      simp only [List.all_eq_true, List.mem_range, beq_iff_eq]
      intro t _; exact hrefs t
    simp [hun, hg, hbalB, hl, hr]

end YashModel.Executor.Rc
