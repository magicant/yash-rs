/-
  Impl model of the reference counting of `Rc<Task>` that `yash-executor/src/waker.rs` implements by hand (the
  raw waker vtable: `clone`, `wake`, `wake_by_ref`, `drop`, `into_waker`), together with the places of
  task.rs / executor.rs that create, move and drop `Rc<Task>` handles (`Task::wake(self: Rc<Self>)`,
  `Task::poll`'s `into_waker(Rc::clone(self))`, `Executor::step`'s local `task`, `ExecutorState::enqueue*`'s
  `Rc::new`).  Wave 3: until now the model only had the *derived* count `refs` (queue entries + registered
  wakers + relay-held wakers); here the count is the one the code maintains, operation by operation.

  Imports only `Model.lean`; executable.  `RState` = the task system of Model.lean plus
  * `strong t` — `Rc::strong_count` of the task, changed ONLY by `incStrong` (`Rc::increment_strong_count`,
    `Rc::clone`), `decStrong` (`Rc::decrement_strong_count`, dropping an `Rc`) and `Rc::new`,
  * ghost `wk t` — how many `Waker`s (raw pointers with this vtable) of task `t` exist,
  * ghost `loc t` — how many `Rc<Task>` handles of `t` are in local variables right now,
  * `under` — a count that was zero has been decremented (= a freed task was touched: use after free / double free),
  * ghost `gunder` — the instrumentation consumed a `Waker` / local handle that does not exist, or made one for a
    task id that does not exist (Rust's ownership rules exclude both statically; the driver checks the flag on
    every case).
  Every function below runs the corresponding function of Model.lean on the `s` component (`RcProj.lean`:
  projection theorems) and the counting beside it.
-/
import YashModel.Executor.Model
namespace YashModel.Executor.Rc

structure RState where
  s : State
  strong : Nat → Nat := fun _ => 0
  wk : Nat → Nat := fun _ => 0
  loc : Nat → Nat := fun _ => 0
  under : Bool := false
  gunder : Bool := false
  /-- `Weak::upgrade` of `Task::executor` fails: the executor has been dropped -/
  dead : Bool := false
  /-- ghost: the vtable calls the TEST FUTURES and the outside operations make (not those of yash-executor itself),
      in order, as `4·task + kind` (kind 0 `clone`, 1 `wake`, 2 `wake_by_ref`, 3 `drop`); the harness logs the same
      calls where it makes them and both sides print length and a hash, so which entry is called where is observed -/
  vlog : List Nat := []

/-- ghost: the caller (a test future, an outside operation) made these vtable calls -/
def lg (r : RState) (cs : List Nat) : RState := { r with vlog := r.vlog ++ cs }

/-- codes of the four vtable entries for task `t` -/
def cClone (t : Nat) : Nat := 4 * t
def cWake (t : Nat) : Nat := 4 * t + 1
def cRef (t : Nat) : Nat := 4 * t + 2
def cDrop (t : Nat) : Nat := 4 * t + 3

/-- `Rc::increment_strong_count` / `Rc::clone` -/
def incStrong (r : RState) (t : Nat) : RState := { r with strong := upd r.strong t (r.strong t + 1) }

/-- `Rc::decrement_strong_count` / dropping an `Rc<Task>` -/
def decStrong (r : RState) (t : Nat) : RState :=
  if r.strong t = 0 then { r with under := true } else { r with strong := upd r.strong t (r.strong t - 1) }

/-- ghost: a `Waker` of `t` comes into existence / is consumed -/
def wkUp (r : RState) (t : Nat) : RState :=
  if t < r.s.ntasks then { r with wk := upd r.wk t (r.wk t + 1) } else { r with gunder := true }
def wkDown (r : RState) (t : Nat) : RState :=
  if r.wk t = 0 then { r with gunder := true } else { r with wk := upd r.wk t (r.wk t - 1) }

/-- ghost: a local `Rc<Task>` handle of `t` comes into existence / is moved away or dropped -/
def locUp (r : RState) (t : Nat) : RState :=
  if t < r.s.ntasks then { r with loc := upd r.loc t (r.loc t + 1) } else { r with gunder := true }
def locDown (r : RState) (t : Nat) : RState :=
  if r.loc t = 0 then { r with gunder := true } else { r with loc := upd r.loc t (r.loc t - 1) }

/-- waker.rs `clone`: `Rc::increment_strong_count(data)`, a new `RawWaker` on the same pointer -/
def vtClone (r : RState) (t : Nat) : RState := wkUp (incStrong r t) t

/-- task.rs `Task::wake(self: Rc<Self>)`: executor gone → return (drops `self`); already queued → return
    (drops `self`); else `push_back(self)` (the handle moves into the queue) -/
def taskWake (r : RState) (t : Nat) : RState :=
  if r.dead then locDown (decStrong r t) t
  else if t ∈ r.s.queue then locDown (decStrong r t) t
  else locDown { r with s := wake r.s t } t

/-- waker.rs `wake`: `Rc::from_raw(data).wake()` — the waker's own count becomes the handle -/
def vtWake (r : RState) (t : Nat) : RState := taskWake (locUp (wkDown r t) t) t

/-- waker.rs `wake_by_ref`: `Rc::increment_strong_count(data); Rc::from_raw(data).wake()` -/
def vtWakeByRef (r : RState) (t : Nat) : RState := taskWake (locUp (incStrong r t) t) t

/-- waker.rs `drop`: `Rc::decrement_strong_count(data)` -/
def vtDrop (r : RState) (t : Nat) : RState := wkDown (decStrong r t) t

/-- waker.rs `into_waker(task: Rc<Task>)`: `Rc::into_raw` — the handle becomes the waker, no count changes -/
def intoWaker (r : RState) (t : Nat) : RState := wkUp (locDown r t) t

/-- `Rc::clone(self)` into a local -/
def rcClone (r : RState) (t : Nat) : RState := locUp (incStrong r t) t

/-- executor.rs `ExecutorState::enqueue_forwarding` / `enqueue`: `push_back(Rc::new(task))` -/
def rNew (r : RState) (own : Nat) (sc : Script) : RState :=
  { r with s := spawnNew r.s own sc, strong := upd r.strong r.s.ntasks 1 }

/-! ### the test futures' side (what `harness/src/bin/c15.rs` does with the wakers it is given) -/

/-- a `Waker` held by a channel is woken by value (`signal`, drain mode: `std::mem::take` + `wk.wake()`) -/
def wakeAllVal (r : RState) (ws : List Nat) : RState := ws.foldl (fun r w => lg (vtWake r w) [cWake w]) r

/-- sticky mode: `waiters.clone()` (every waker cloned), `wake_by_ref` on each clone, clones dropped -/
def wakeAllRef (r : RState) (ws : List Nat) : RState :=
  ws.foldl (fun r t => lg (vtDrop (vtWakeByRef (vtClone r t) t) t) [cClone t, cRef t, cDrop t]) r

/-- action `signal k` -/
def rSignal (r : RState) (k : Nat) : RState :=
  let r1 : RState := { r with s := { r.s with tokens := upd r.s.tokens k (r.s.tokens k + 1) } }
  if r.s.sticky then wakeAllRef r1 (r.s.waiters k)
  else
    let r2 := wakeAllVal r1 (r.s.waiters k)
    { r2 with s := { r2.s with waiters := upd r2.s.waiters k [] } }

/-- action `spawn` of task `t` -/
def rSpawnChild (r : RState) (t : Nat) : RState :=
  match r.s.pool with
  | [] => r
  | sc :: rest =>
    let r1 := rNew { r with s := { r.s with pool := rest } } t sc
    { r1 with s := { r1.s with kids := upd r1.s.kids t (r1.s.kids t ++ [r.s.ntasks]) } }

/-- forwarder.rs `Sender::send` into the relay of `t`: a stored waker is taken out and woken by value -/
def rSend (r : RState) (t v : Nat) : RState :=
  match r.s.relay t with
  | .pending => { r with s := { r.s with relay := upd r.s.relay t (.computed v) } }
  | .polled w => vtWake { r with s := { r.s with relay := upd r.s.relay t (.computed v) } } w
  | _ => { r with s := { r.s with bad := true } }

/-- The future of task `t` inside one poll, with the counting: `runActs` of Model.lean plus what happens to
    the wakers (`cx.waker()` is the waker `Task::poll` made). -/
def rRunActs (t : Nat) : Script → RState → RState × Option Script
  | [], r => (r, none)
  | .complete :: _, r => (r, none)
  | .yield :: rest, r =>
    -- `cx.waker().wake_by_ref(); cx.waker().clone().wake()`
    (lg (vtWake (vtClone (vtWakeByRef r t) t) t) [cRef t, cClone t, cWake t], some rest)
  | .wait k :: rest, r =>
    if 0 < r.s.tokens k then
      rRunActs t rest { r with s := { r.s with tokens := upd r.s.tokens k (r.s.tokens k - 1) } }
    else
      -- `waiters[k].push(cx.waker().clone())`
      let r1 := vtClone r t
      (lg { r1 with s := { r1.s with waiters := upd r1.s.waiters k (r1.s.waiters k ++ [t]) } } [cClone t],
       some (.wait k :: rest))
  | .signal k :: rest, r => rRunActs t rest (rSignal r k)
  | .spawn :: rest, r => rRunActs t rest (rSpawnChild r t)
  | .join :: rest, r =>
    match r.s.kids t with
    | [] => rRunActs t rest r
    | c :: cs =>
      match r.s.relay c with
      | .computed v =>
        rRunActs t rest { r with s := { r.s with
          relay := upd r.s.relay c .done
          kids := upd r.s.kids t cs
          acc := upd r.s.acc t (r.s.acc t + v)
          delivered := upd r.s.delivered c (r.s.delivered c + 1)
          recv := upd r.s.recv c (r.s.recv c ++ [v]) } }
      | .done => ({ r with s := { r.s with bad := true } }, some (.join :: rest))
      | .pending =>
        -- `*relay = Relay::Polled(context.waker().clone())`
        let r1 := vtClone r t
        ({ r1 with s := { r1.s with relay := upd r1.s.relay c (.polled t) } }, some (.join :: rest))
      | .polled w =>
        -- the same assignment drops the waker stored before
        let r1 := vtDrop (vtClone r t) w
        ({ r1 with s := { r1.s with relay := upd r1.s.relay c (.polled t) } }, some (.join :: rest))

/-- the wrapper future of `enqueue_forwarding` after `Ready` -/
def rComplete (r : RState) (t : Nat) : RState :=
  let r1 := rSend r t (value r.s t)
  { r1 with s := { r1.s with fut := upd r1.s.fut t none, ret := upd r1.s.ret t (some (value r.s t)) } }

def rPollDone (x : RState × Option Script) (t : Nat) : RState × Bool :=
  match x.2 with
  | some rest => ({ x.1 with s := logEv { x.1.s with fut := upd x.1.s.fut t (some rest) } (.ret t false) }, false)
  | none => let r1 := rComplete x.1 t; ({ r1 with s := logEv r1.s (.ret t true) }, true)

/-- `let waker = into_waker(Rc::clone(self));` (and the ghost trace event of Model.lean `poll`) -/
def rEnter (r : RState) (t : Nat) : RState :=
  let r0 := intoWaker (rcClone r t) t
  { r0 with s := logEv r0.s (.poll t) }

/-- task.rs `Task::poll(self: &Rc<Self>)`: `let waker = into_waker(Rc::clone(self));` … the waker is dropped
    when `poll` returns -/
def rPoll (r : RState) (t : Nat) : RState × Bool :=
  match r.s.fut t with
  | none => ({ r with s := logEv r.s (.noop t) }, true)
  | some acts =>
    let x := rPollDone (rRunActs t acts (rEnter r t)) t
    (vtDrop x.1 t, x.2)

/-- executor.rs `Executor::step`: `let task = …pop_front()?; Some(task.poll())` — the popped handle is a local
    of `step` and is dropped when `step` returns -/
def rStep (r : RState) : Option (RState × Bool) :=
  match r.s.queue with
  | [] => none
  | t :: q =>
    let x := rPoll (locUp { r with s := { r.s with queue := q } } t) t
    some (locDown (decStrong x.1 t) t, x.2)

def rStepN : Nat → RState → RState
  | 0, r => r
  | n + 1, r =>
    match rStep r with
    | none => r
    | some x => rStepN n x.1

def rSpawnRoots : List Script → RState → RState
  | [], r => r
  | sc :: rest, r => rSpawnRoots rest (rNew r r.s.ntasks sc)

def rInit (sticky : Bool) (scripts : List Script) (roots : Nat) : RState :=
  rSpawnRoots (scripts.take roots) { s := { pool := scripts.drop roots, sticky := sticky } }

/-- dropping the executor drops the queue: every entry is an `Rc<Task>` -/
def rDropExec (r : RState) : RState :=
  let r1 := r.s.queue.foldl decStrong r
  { r1 with s := { r1.s with queue := [] }, dead := true }

/-- one operation of a `v` case (Model.lean `xRun`), with the counting -/
def rRun (r : RState) : XOp → RState
  | .step => if r.dead then r else rStepN 1 r
  | .rus => if r.dead then r else rStepN maxSteps r
  | .wake k i =>
    match (r.s.waiters k)[i]? with
    | none => r
    | some t => lg (vtWake { r with s := { r.s with waiters := upd r.s.waiters k ((r.s.waiters k).eraseIdx i) } } t) [cWake t]
  | .byRef k i =>
    match (r.s.waiters k)[i]? with
    | none => r
    | some t => lg (vtWakeByRef r t) [cRef t]
  | .clone k i =>
    match (r.s.waiters k)[i]? with
    | none => r
    | some t =>
      let r1 := vtClone r t
      lg { r1 with s := { r1.s with waiters := upd r1.s.waiters k (r1.s.waiters k ++ [t]) } } [cClone t]
  | .drop k i =>
    match (r.s.waiters k)[i]? with
    | none => r
    | some t => lg (vtDrop { r with s := { r.s with waiters := upd r.s.waiters k ((r.s.waiters k).eraseIdx i) } } t) [cDrop t]
  | .signal k => rSignal r k
  | .dropExec => if r.dead then r else rDropExec r
  | .try_ c => if c < r.s.ntasks && !heldByParent r.s c then { r with s := takeValue r.s c } else r
  | .spawn =>
    match r.s.pool with
    | [] => r
    | sc :: rest => if r.dead then r else rNew { r with s := { r.s with pool := rest } } r.s.ntasks sc

def rRunAll (r : RState) (ops : List XOp) : RState := ops.foldl rRun r

/-- the accounting identity: every unit of the strong count is a queue entry, a live `Waker`, or a local handle -/
def balB (r : RState) : Bool :=
  (List.range r.s.ntasks).all fun t => r.strong t == r.s.queue.count t + r.wk t + r.loc t

/-- length and hash of the logged vtable calls, as the harness prints them -/
def vlogDigest (l : List Nat) : String :=
  s!"{l.length}#{l.foldl (fun h c => (h * 131 + c + 1) % 1000000007) 7}"

/-- at an operation boundary: the count the code maintains is the derived count `refs` of Model.lean (so the
    task is freed exactly when `lostB` says), no local handle is left, nothing was decremented at zero -/
def rcCheck (r : RState) (nch : Nat) : Option String :=
  if r.under then some "rc-decrement-at-zero"
  else if r.gunder then some "rc-ghost-underflow"
  else if !balB r then some "rc-unbalanced"
  else if !(List.range r.s.ntasks).all (fun t => r.loc t == 0) then some "rc-local-left"
  else if !(List.range r.s.ntasks).all (fun t => r.strong t == refs r.s nch t) then some "rc-not-refs"
  else none

end YashModel.Executor.Rc
