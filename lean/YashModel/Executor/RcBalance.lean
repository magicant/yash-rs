/-
  The reference counting of `Rc<Task>` (`RcModel.lean`, a transcription of waker.rs and of the handle moves in
  task.rs / executor.rs).  `BalU`: every unit of the strong count is a queue entry, a live `Waker` or a local
  handle; nothing was decremented at zero; ids not yet allocated have nothing.  `Pres r r'`: the step from `r`
  to `r'` keeps that (as long as the ghost flag `gunder` stays clear).  The vtable entries, `into_waker`,
  `Rc::from_raw`, dropping a handle, `push_back` and `pop_front` each move units of one task (`BalU.move`);
  `Task::wake`, `Task::poll`, `Executor::step`, the actions of the test futures and the outside operations of
  the `v` leg are compositions of those.  The `@[simp]` lemmas at the head (`…_s`, `…_dead`, …: what the six
  counter operations leave alone) are never cited by name: every `simp` of RcProj / RcRefs about the task system
  or the `dead` flag of a counted state runs on them.
-/
import YashModel.Executor.RcModel
import YashModel.Executor.Queue
import YashModel.Common.Loop
namespace YashModel.Executor.Rc

/-- the accounting identity (`bal`), together with "no count was decremented at zero" (`nounder`: the `U`) and
    "tasks not created yet have nothing" -/
structure BalU (r : RState) : Prop where
  bal : ∀ t, r.strong t = r.s.queue.count t + r.wk t + r.loc t
  nounder : r.under = false
  fresh : ∀ t, r.s.ntasks ≤ t → r.wk t = 0 ∧ r.loc t = 0 ∧ t ∉ r.s.queue

@[simp] theorem lg_s (r : RState) (cs : List Nat) : (lg r cs).s = r.s := rfl
@[simp] theorem lg_dead (r : RState) (cs : List Nat) : (lg r cs).dead = r.dead := rfl
@[simp] theorem incStrong_s (r : RState) (t : Nat) : (incStrong r t).s = r.s := rfl
@[simp] theorem incStrong_dead (r : RState) (t : Nat) : (incStrong r t).dead = r.dead := rfl
@[simp] theorem decStrong_s (r : RState) (t : Nat) : (decStrong r t).s = r.s := by unfold decStrong; split <;> rfl
@[simp] theorem decStrong_dead (r : RState) (t : Nat) : (decStrong r t).dead = r.dead := by
  unfold decStrong; split <;> rfl
@[simp] theorem decStrong_gunder (r : RState) (t : Nat) : (decStrong r t).gunder = r.gunder := by
  unfold decStrong; split <;> rfl
@[simp] theorem decStrong_wk (r : RState) (t : Nat) : (decStrong r t).wk = r.wk := by unfold decStrong; split <;> rfl
@[simp] theorem decStrong_loc (r : RState) (t : Nat) : (decStrong r t).loc = r.loc := by
  unfold decStrong; split <;> rfl
@[simp] theorem wkUp_s (r : RState) (t : Nat) : (wkUp r t).s = r.s := by unfold wkUp; split <;> rfl
@[simp] theorem wkUp_dead (r : RState) (t : Nat) : (wkUp r t).dead = r.dead := by unfold wkUp; split <;> rfl
@[simp] theorem wkDown_s (r : RState) (t : Nat) : (wkDown r t).s = r.s := by unfold wkDown; split <;> rfl
@[simp] theorem wkDown_dead (r : RState) (t : Nat) : (wkDown r t).dead = r.dead := by unfold wkDown; split <;> rfl
@[simp] theorem locUp_s (r : RState) (t : Nat) : (locUp r t).s = r.s := by unfold locUp; split <;> rfl
@[simp] theorem locUp_dead (r : RState) (t : Nat) : (locUp r t).dead = r.dead := by unfold locUp; split <;> rfl
@[simp] theorem locDown_s (r : RState) (t : Nat) : (locDown r t).s = r.s := by unfold locDown; split <;> rfl
@[simp] theorem locDown_dead (r : RState) (t : Nat) : (locDown r t).dead = r.dead := by
  unfold locDown; split <;> rfl

theorem decStrong_eq {r : RState} {t : Nat} (hs : r.strong t ≠ 0) :
    decStrong r t = { r with strong := upd r.strong t (r.strong t - 1) } := if_neg hs
theorem wkUp_eq {r : RState} {t : Nat} (ht : t < r.s.ntasks) :
    wkUp r t = { r with wk := upd r.wk t (r.wk t + 1) } := if_pos ht
theorem wkDown_eq {r : RState} {t : Nat} (hw : r.wk t ≠ 0) :
    wkDown r t = { r with wk := upd r.wk t (r.wk t - 1) } := if_neg hw
theorem locUp_eq {r : RState} {t : Nat} (ht : t < r.s.ntasks) :
    locUp r t = { r with loc := upd r.loc t (r.loc t + 1) } := if_pos ht
theorem locDown_eq {r : RState} {t : Nat} (hl : r.loc t ≠ 0) :
    locDown r t = { r with loc := upd r.loc t (r.loc t - 1) } := if_neg hl

theorem vtClone_eq {r : RState} {t : Nat} (ht : t < r.s.ntasks) :
    vtClone r t = { r with strong := upd r.strong t (r.strong t + 1), wk := upd r.wk t (r.wk t + 1) } := by
  rw [vtClone, wkUp_eq (by exact ht)]; rfl

theorem rcClone_eq {r : RState} {t : Nat} (ht : t < r.s.ntasks) :
    rcClone r t = { r with strong := upd r.strong t (r.strong t + 1), loc := upd r.loc t (r.loc t + 1) } :=
  locUp_eq (r := incStrong r t) ht

theorem vtDrop_eq {r : RState} {t : Nat} (hs : r.strong t ≠ 0) (hw : r.wk t ≠ 0) :
    vtDrop r t = { r with strong := upd r.strong t (r.strong t - 1), wk := upd r.wk t (r.wk t - 1) } := by
  rw [vtDrop, decStrong_eq hs, wkDown_eq (by exact hw)]

theorem fromRaw_eq {r : RState} {t : Nat} (ht : t < r.s.ntasks) (hw : r.wk t ≠ 0) :
    locUp (wkDown r t) t = { r with wk := upd r.wk t (r.wk t - 1), loc := upd r.loc t (r.loc t + 1) } := by
  rw [wkDown_eq hw, locUp_eq (by exact ht)]

/-- `Task::wake(self)` with a handle in hand: either the handle moves into the queue, or it is dropped -/
theorem taskWake_eq {r : RState} {t : Nat} (hs : r.strong t ≠ 0) (hl : r.loc t ≠ 0) :
    taskWake r t =
      if r.dead = false ∧ t ∉ r.s.queue then { r with loc := upd r.loc t (r.loc t - 1), s := wake r.s t }
      else { r with strong := upd r.strong t (r.strong t - 1), loc := upd r.loc t (r.loc t - 1) } := by
  have e : locDown (decStrong r t) t =
      { r with strong := upd r.strong t (r.strong t - 1), loc := upd r.loc t (r.loc t - 1) } := by
    rw [decStrong_eq hs, locDown_eq (by exact hl)]
  have e' : locDown { r with s := wake r.s t } t = { r with loc := upd r.loc t (r.loc t - 1), s := wake r.s t } :=
    locDown_eq (by exact hl)
  rw [taskWake, e, e']
  by_cases hd : r.dead = true <;> by_cases hq : t ∈ r.s.queue <;> simp [hd, hq]

/-- the ghost flag stays clear only if the waker / handle made is of an existing task, the one consumed exists -/
theorem wkUp_flag {r : RState} {t : Nat} (h : (wkUp r t).gunder = false) : r.gunder = false ∧ t < r.s.ntasks := by
  unfold wkUp at h; split at h
  · exact ⟨h, ‹_›⟩
  · cases h
theorem wkDown_flag {r : RState} {t : Nat} (h : (wkDown r t).gunder = false) : r.gunder = false ∧ r.wk t ≠ 0 := by
  unfold wkDown at h; split at h
  · cases h
  · exact ⟨h, ‹_›⟩
theorem locUp_flag {r : RState} {t : Nat} (h : (locUp r t).gunder = false) : r.gunder = false ∧ t < r.s.ntasks := by
  unfold locUp at h; split at h
  · exact ⟨h, ‹_›⟩
  · cases h
theorem locDown_flag {r : RState} {t : Nat} (h : (locDown r t).gunder = false) :
    r.gunder = false ∧ r.loc t ≠ 0 := by
  unfold locDown at h; split at h
  · cases h
  · exact ⟨h, ‹_›⟩

theorem BalU.lt {r : RState} (h : BalU r) {t : Nat} (hp : r.wk t ≠ 0 ∨ r.loc t ≠ 0) : t < r.s.ntasks := by
  rcases Nat.lt_or_ge t r.s.ntasks with h' | h'
  · exact h'
  · have := h.fresh t h'; omega

/-- units of one existing task `t` move between its count, the queue, its wakers and its local handles, and
    the identity holds for `t` afterwards: it holds everywhere -/
theorem BalU.move {r r' : RState} (h : BalU r) (t : Nat) (ht : t < r.s.ntasks) (hn : r'.s.ntasks = r.s.ntasks)
    (hu : r'.under = false)
    (ho : ∀ u, u ≠ t → r'.strong u = r.strong u ∧ r'.wk u = r.wk u ∧ r'.loc u = r.loc u ∧
      r'.s.queue.count u = r.s.queue.count u)
    (hb : r'.strong t = r'.s.queue.count t + r'.wk t + r'.loc t) : BalU r' := by
  refine ⟨fun u => ?_, hu, fun u hu => ?_⟩
  · by_cases e : u = t
    · rw [e]; exact hb
    · obtain ⟨o1, o2, o3, o4⟩ := ho u e
      rw [o1, o2, o3, o4]; exact h.bal u
  · rw [hn] at hu
    obtain ⟨_, o2, o3, o4⟩ := ho u (by omega)
    obtain ⟨f1, f2, f3⟩ := h.fresh u hu
    exact ⟨o2.trans f1, o3.trans f2, List.count_eq_zero.mp (o4.trans (List.count_eq_zero.mpr f3))⟩

/-- `r'` comes from `r` by operations that keep the accounting: if the ghost flag is still clear afterwards it
    was clear before, and the identity carries over.  The implication runs backwards from `r'` because the flag is
    sticky: clear at the end means clear throughout, so no operation needs to know that its guard holds — a guard
    that failed would have raised the flag.  This is what lets `Pres` compose without any invariant of the task
    system. -/
def Pres (r r' : RState) : Prop :=
  r'.gunder = false → r.gunder = false ∧ r.s.ntasks ≤ r'.s.ntasks ∧ (BalU r → BalU r')

theorem Pres.refl (r : RState) : Pres r r := fun h => ⟨h, Nat.le_refl _, id⟩

theorem Pres.trans {a b c : RState} (h1 : Pres a b) (h2 : Pres b c) : Pres a c := by
  intro hc
  obtain ⟨hb, n2, f2⟩ := h2 hc
  obtain ⟨ha, n1, f1⟩ := h1 hb
  exact ⟨ha, Nat.le_trans n1 n2, fun h => f2 (f1 h)⟩

theorem pres_vtClone (r : RState) (t : Nat) : Pres r (vtClone r t) := by
  intro hg
  obtain ⟨hg0, ht⟩ := wkUp_flag hg
  refine ⟨hg0, Nat.le_of_eq (by simp [vtClone]), fun h => ?_⟩
  rw [vtClone_eq (r := r) ht]
  exact h.move t ht rfl h.nounder (fun u hu => by simp [upd, hu]) (by have := h.bal t; simp [upd]; omega)

theorem pres_rcClone (r : RState) (t : Nat) : Pres r (rcClone r t) := by
  intro hg
  obtain ⟨hg0, ht⟩ := locUp_flag hg
  refine ⟨hg0, Nat.le_of_eq (by simp [rcClone]), fun h => ?_⟩
  rw [rcClone_eq (r := r) ht]
  exact h.move t ht rfl h.nounder (fun u hu => by simp [upd, hu]) (by have := h.bal t; simp [upd]; omega)

theorem pres_vtDrop (r : RState) (t : Nat) : Pres r (vtDrop r t) := by
  intro hg
  obtain ⟨hg0, hw⟩ := wkDown_flag hg
  simp only [decStrong_gunder, decStrong_wk] at hg0 hw
  refine ⟨hg0, Nat.le_of_eq (by simp [vtDrop]), fun h => ?_⟩
  have hb := h.bal t
  rw [vtDrop_eq (by omega) hw]
  exact h.move t (h.lt (.inl hw)) rfl h.nounder (fun u hu => by simp [upd, hu]) (by simp [upd]; omega)

theorem pres_intoWaker (r : RState) (t : Nat) : Pres r (intoWaker r t) := by
  intro hg
  obtain ⟨hg1, ht⟩ := wkUp_flag hg
  obtain ⟨hg0, hl⟩ := locDown_flag hg1
  refine ⟨hg0, Nat.le_of_eq (by simp [intoWaker]), fun h => ?_⟩
  have hb := h.bal t
  rw [intoWaker, locDown_eq hl, wkUp_eq (by exact h.lt (.inr hl))]
  exact h.move t (h.lt (.inr hl)) rfl h.nounder (fun u hu => by simp [upd, hu]) (by simp [upd]; omega)

/-- `Rc::from_raw` of a waker's pointer: the waker's count becomes a local handle -/
theorem pres_fromRaw (r : RState) (t : Nat) : Pres r (locUp (wkDown r t) t) := by
  intro hg
  obtain ⟨hg1, ht⟩ := locUp_flag hg
  obtain ⟨hg0, hw⟩ := wkDown_flag hg1
  refine ⟨hg0, Nat.le_of_eq (by simp), fun h => ?_⟩
  have hb := h.bal t
  rw [fromRaw_eq (h.lt (.inl hw)) hw]
  exact h.move t (h.lt (.inl hw)) rfl h.nounder (fun u hu => by simp [upd, hu]) (by simp [upd]; omega)

theorem pres_dropLocal (r : RState) (t : Nat) : Pres r (locDown (decStrong r t) t) := by
  intro hg
  obtain ⟨hg0, hl⟩ := locDown_flag hg
  simp only [decStrong_gunder, decStrong_loc] at hg0 hl
  refine ⟨hg0, Nat.le_of_eq (by simp), fun h => ?_⟩
  have hb := h.bal t
  rw [decStrong_eq (by omega), locDown_eq (by exact hl)]
  exact h.move t (h.lt (.inr hl)) rfl h.nounder (fun u hu => by simp [upd, hu]) (by simp [upd]; omega)

/-- `push_back(self)`: the local handle moves into the queue -/
theorem pres_push (r : RState) (t : Nat) (hq : t ∉ r.s.queue) :
    Pres r (locDown { r with s := wake r.s t } t) := by
  intro hg
  obtain ⟨hg0, hl⟩ := locDown_flag hg
  refine ⟨hg0, Nat.le_of_eq (by simp [wake]), fun h => ?_⟩
  have hb := h.bal t
  rw [locDown_eq (by exact hl)]
  exact h.move t (h.lt (.inr hl)) rfl h.nounder (fun u hu => by simp [upd, hu, wake, enq, hq, Ne.symm hu])
    (by simp [upd, wake, enq, hq]; simp at hl; omega)

/-- `pop_front` into the local `task` -/
theorem pres_pop (r : RState) (t : Nat) (q : List Nat) (hq : r.s.queue = t :: q) :
    Pres r (locUp { r with s := { r.s with queue := q } } t) := by
  intro hg
  obtain ⟨hg0, ht⟩ := locUp_flag hg
  refine ⟨hg0, Nat.le_of_eq (by simp), fun h => ?_⟩
  have hb := h.bal t
  rw [locUp_eq (by exact ht)]
  exact h.move t ht rfl h.nounder (fun u hu => by simp [upd, hu, hq, Ne.symm hu])
    (by simp [upd, hq] at hb ⊢; omega)

theorem pres_s (r : RState) (s' : State) (hq : s'.queue = r.s.queue := by rfl)
    (hn : s'.ntasks = r.s.ntasks := by rfl) : Pres r { r with s := s' } := fun hg =>
  ⟨hg, Nat.le_of_eq hn.symm, fun h =>
    ⟨fun t => by rw [show ({ r with s := s' } : RState).s.queue = r.s.queue from hq]; exact h.bal t, h.nounder,
     fun t ht => by
      rw [show ({ r with s := s' } : RState).s.queue = r.s.queue from hq]
      exact h.fresh t (by rw [← hn]; exact ht)⟩⟩

theorem pres_lg (r : RState) (cs : List Nat) : Pres r (lg r cs) := fun hg => ⟨hg, Nat.le_refl _, fun h => ⟨h.bal, h.nounder, h.fresh⟩⟩

theorem pres_taskWake (r : RState) (t : Nat) : Pres r (taskWake r t) := by
  unfold taskWake
  split
  · exact pres_dropLocal r t
  · split
    · exact pres_dropLocal r t
    · rename_i _ hq; exact pres_push r t hq

theorem pres_vtWake (r : RState) (t : Nat) : Pres r (vtWake r t) :=
  (pres_fromRaw r t).trans (pres_taskWake _ t)

theorem pres_vtWakeByRef (r : RState) (t : Nat) : Pres r (vtWakeByRef r t) :=
  (pres_rcClone r t).trans (pres_taskWake _ t)

theorem pres_foldl {α : Type} (g : RState → α → RState) (hg : ∀ r w, Pres r (g r w)) (ws : List α) (r : RState) :
    Pres r (ws.foldl g r) := by
  induction ws generalizing r with
  | nil => exact Pres.refl r
  | cons w ws ih => exact (hg r w).trans (ih _)

theorem pres_wakeAllVal (ws : List Nat) (r : RState) : Pres r (wakeAllVal r ws) :=
  pres_foldl _ (fun r w => (pres_vtWake r w).trans (pres_lg _ _)) ws r

theorem pres_wakeAllRef (ws : List Nat) (r : RState) : Pres r (wakeAllRef r ws) :=
  pres_foldl _ (fun r w =>
    (((pres_vtClone r w).trans (pres_vtWakeByRef _ w)).trans (pres_vtDrop _ w)).trans (pres_lg _ _)) ws r

theorem pres_rSignal (r : RState) (k : Nat) : Pres r (rSignal r k) := by
  unfold rSignal
  have h1 : Pres r { r with s := { r.s with tokens := upd r.s.tokens k (r.s.tokens k + 1) } } :=
    pres_s r _
  split
  · exact h1.trans (pres_wakeAllRef _ _)
  · exact (h1.trans (pres_wakeAllVal _ _)).trans (pres_s _ _)

/-- `push_back(Rc::new(task))`: the new task's one unit is the handle in the queue -/
theorem pres_rNew (r : RState) (own : Nat) (sc : Script) : Pres r (rNew r own sc) := by
  intro hg
  refine ⟨hg, Nat.le_succ _, fun h => ⟨fun u => ?_, h.nounder, fun u hu => ?_⟩⟩
  · show upd r.strong r.s.ntasks 1 u = (r.s.queue ++ [r.s.ntasks]).count u + r.wk u + r.loc u
    have hb := h.bal u
    by_cases e : u = r.s.ntasks
    · obtain ⟨f1, f2, f3⟩ := h.fresh _ (Nat.le_refl r.s.ntasks)
      rw [e]; simp [upd, f1, f2, List.count_eq_zero.mpr f3]
    · simp [upd, e, Ne.symm e]; exact hb
  · have hu' : r.s.ntasks + 1 ≤ u := hu
    obtain ⟨f1, f2, f3⟩ := h.fresh u (by omega)
    refine ⟨f1, f2, ?_⟩
    show u ∉ r.s.queue ++ [r.s.ntasks]
    simp [f3]; omega

theorem pres_rSpawnChild (r : RState) (t : Nat) : Pres r (rSpawnChild r t) := by
  unfold rSpawnChild
  split
  · exact Pres.refl r
  · rename_i sc rest _
    exact ((pres_s r _).trans (pres_rNew _ t sc)).trans (pres_s _ _)

theorem pres_rSend (r : RState) (t v : Nat) : Pres r (rSend r t v) := by
  unfold rSend
  split
  · exact pres_s r _
  · rename_i w _
    exact (pres_s r _).trans (pres_vtWake _ w)
  · exact pres_s r _

theorem pres_rRunActs (t : Nat) (acts : Script) (r : RState) : Pres r (rRunActs t acts r).1 := by
  fun_induction rRunActs t acts r with
  -- end of script
  | case1 r => exact Pres.refl r
  -- `complete`
  | case2 _ r => exact Pres.refl r
  -- `yield`
  | case3 rest r =>
    exact (((pres_vtWakeByRef r t).trans (pres_vtClone _ t)).trans (pres_vtWake _ t)).trans (pres_lg _ _)
  -- `wait`, a token
  | case4 k rest r hk ih => exact (pres_s r _).trans ih
  -- `wait`, no token: the waker is registered
  | case5 k rest r hk r1 => exact ((pres_vtClone r t).trans (pres_s _ _)).trans (pres_lg _ _)
  -- `signal`
  | case6 k rest r ih => exact (pres_rSignal r k).trans ih
  -- `spawn`
  | case7 rest r ih => exact (pres_rSpawnChild r t).trans ih
  -- `join` without a child
  | case8 rest r hk ih => exact ih
  -- `join`, the value is there
  | case9 rest r c cs hk v hr ih => exact (pres_s r _).trans ih
  -- `join` on a relay that is `Done` (the `bad` branch)
  | case10 rest r c cs hk hr => exact pres_s r _
  -- `join`, relay `Pending`: the waker is stored
  | case11 rest r c cs hk hr r1 => exact (pres_vtClone r t).trans (pres_s _ _)
  -- `join`, relay holds a waker: it is replaced
  | case12 rest r c cs hk w hr r1 =>
    exact ((pres_vtClone r t).trans (pres_vtDrop _ w)).trans (pres_s _ _)

theorem pres_rComplete (r : RState) (t : Nat) : Pres r (rComplete r t) :=
  (pres_rSend r t _).trans (pres_s _ _)

theorem pres_rPollDone (x : RState × Option Script) (t : Nat) : Pres x.1 (rPollDone x t).1 := by
  unfold rPollDone
  split
  · exact pres_s _ _
  · exact (pres_rComplete x.1 t).trans (pres_s _ _)

theorem pres_rEnter (r : RState) (t : Nat) : Pres r (rEnter r t) := by
  -- for a variable `x`: the `rfl`s of `pres_s` are slow to check through `intoWaker (rcClone r t) t`
  have h : ∀ x : RState, Pres x { x with s := logEv x.s (.poll t) } := fun x => pres_s x _
  exact ((pres_rcClone r t).trans (pres_intoWaker _ t)).trans (h _)

theorem pres_rPoll (r : RState) (t : Nat) : Pres r (rPoll r t).1 := by
  unfold rPoll
  split
  · exact pres_s r _
  · rename_i acts _
    exact (((pres_rEnter r t).trans (pres_rRunActs t acts _)).trans (pres_rPollDone _ t)).trans (pres_vtDrop _ t)

theorem pres_rStep (r : RState) (x : RState × Bool) (h : rStep r = some x) : Pres r x.1 := by
  unfold rStep at h
  split at h
  · cases h
  · rename_i t q hq
    cases h
    exact ((pres_pop r t q hq).trans (pres_rPoll _ t)).trans (pres_dropLocal _ t)

open YashModel.Run in
theorem rStepN_loop : Loop (fun n (_ : Unit) r => rStepN n r) (fun r x => ∃ b, rStep r = some (x, b))
    (fun r => rStep r = none) where
  zero _ _ := rfl
  succ n _ r := by
    cases hs : rStep r with
    | none => exact .inl ⟨by simp only [rStepN, hs], rfl⟩
    | some x => exact .inr ⟨(), x.1, ⟨x.2, rfl⟩, by simp only [rStepN, hs]⟩

theorem pres_rStepN (n : Nat) (r : RState) : Pres r (rStepN n r) :=
  rStepN_loop.keeps (P := Pres r) (fun h ⟨_, hs⟩ => h.trans (pres_rStep _ _ hs)) n () r (Pres.refl r)

theorem pres_rSpawnRoots (scs : List Script) (r : RState) : Pres r (rSpawnRoots scs r) := by
  induction scs generalizing r with
  | nil => exact Pres.refl r
  | cons sc rest ih => exact (pres_rNew r _ sc).trans (ih _)

theorem balU_start (sticky : Bool) (pool : List Script) :
    BalU ({ s := { pool := pool, sticky := sticky } } : RState) :=
  ⟨fun _ => rfl, rfl, fun _ _ => ⟨rfl, rfl, by simp⟩⟩

@[simp] theorem foldl_decStrong_s (l : List Nat) (r : RState) : (l.foldl decStrong r).s = r.s := by
  induction l generalizing r <;> simp [*]
@[simp] theorem foldl_decStrong_gunder (l : List Nat) (r : RState) : (l.foldl decStrong r).gunder = r.gunder := by
  induction l generalizing r <;> simp [*]
@[simp] theorem foldl_decStrong_wk (l : List Nat) (r : RState) : (l.foldl decStrong r).wk = r.wk := by
  induction l generalizing r <;> simp [*]
@[simp] theorem foldl_decStrong_loc (l : List Nat) (r : RState) : (l.foldl decStrong r).loc = r.loc := by
  induction l generalizing r <;> simp [*]

/-- dropping a list of `Rc` handles the count accounts for -/
theorem dropAll (l : List Nat) (r : RState) (c : Nat → Nat) (hb : ∀ t, r.strong t = l.count t + c t)
    (hu : r.under = false) :
    (∀ t, (l.foldl decStrong r).strong t = c t) ∧ (l.foldl decStrong r).under = false := by
  induction l generalizing r with
  | nil => exact ⟨fun t => by simpa using hb t, hu⟩
  | cons a l ih =>
    have ha := hb a
    simp only [List.count_cons_self] at ha
    rw [List.foldl_cons, decStrong_eq (by omega)]
    refine ih _ (fun t => ?_) hu
    have := hb t
    by_cases e : t = a
    · subst e; simp [upd]; omega
    · simp [upd, e, Ne.symm e] at this ⊢; exact this

theorem pres_rDropExec (r : RState) : Pres r (rDropExec r) := by
  intro hg
  refine ⟨by simpa [rDropExec] using hg, Nat.le_of_eq (by simp [rDropExec]), fun h => ?_⟩
  obtain ⟨d1, d2⟩ := dropAll r.s.queue r (fun t => r.wk t + r.loc t) (fun t => by rw [h.bal t]; omega) h.nounder
  refine ⟨fun t => by simp [rDropExec, d1], d2, fun t ht => ?_⟩
  have := h.fresh t (by simpa [rDropExec] using ht)
  simp [rDropExec, this]

theorem pres_rRun (r : RState) (op : XOp) : Pres r (rRun r op) := by
  cases op with
  | step => simp only [rRun]; split; exact Pres.refl r; exact pres_rStepN 1 r
  | rus => simp only [rRun]; split; exact Pres.refl r; exact pres_rStepN _ r
  | wake k i =>
    simp only [rRun]; split
    · exact Pres.refl r
    · rename_i t _
      exact ((pres_s r _).trans (pres_vtWake _ t)).trans (pres_lg _ _)
  | byRef k i =>
    simp only [rRun]; split
    · exact Pres.refl r
    · exact (pres_vtWakeByRef r _).trans (pres_lg _ _)
  | clone k i =>
    simp only [rRun]; split
    · exact Pres.refl r
    · exact ((pres_vtClone r _).trans (pres_s _ _)).trans (pres_lg _ _)
  | drop k i =>
    simp only [rRun]; split
    · exact Pres.refl r
    · rename_i t _
      exact ((pres_s r _).trans (pres_vtDrop _ t)).trans (pres_lg _ _)
  | signal k => exact pres_rSignal r k
  | dropExec => simp only [rRun]; split; exact Pres.refl r; exact pres_rDropExec r
  | try_ c =>
    simp only [rRun]; split
    · exact pres_s r _ (takeValue_queue r.s c) (takeValue_ntasks r.s c)
    · exact Pres.refl r
  | spawn =>
    simp only [rRun]; split
    · exact Pres.refl r
    · split
      · exact Pres.refl r
      · exact (pres_s r _).trans (pres_rNew _ _ _)

theorem pres_rRunAll (ops : List XOp) (r : RState) : Pres r (rRunAll r ops) :=
  pres_foldl rRun pres_rRun ops r

end YashModel.Executor.Rc
