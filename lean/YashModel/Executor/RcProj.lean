/-
  The counted run of `RcModel.lean` IS the run of Model.lean: every instrumented function computes, on its `s`
  component, what the function of Model.lean it is named after computes, and leaves `dead` alone — stated as
  `simp` lemmas `…_s` / `…_dead` for the functions that cannot fail, as `…_p` lemmas (executor alive) from
  `Sender::send` upwards, up to whole operation sequences of the `v` leg (`same_rRunAll`).  So every theorem about
  `xRunAll` / `stepN` is a theorem about the counted run, and the counts are about the same executor.  This is the
  one place where the two transcriptions are unfolded side by side (`rPoll`/`poll`, `rStep`/`step`, `rRun`/`xRun`).
-/
import YashModel.Executor.RcBalance
import YashModel.Executor.Ops
namespace YashModel.Executor.Rc

/-- the counted state `r'` has the task system `s'` and `dead = d`: `Same` below with the two components of the
    `XState` written apart (the lemmas of this file are stated with `Same` or with the two equations directly) -/
def Proj (r' : RState) (s' : State) (d : Bool) : Prop := r'.s = s' ∧ r'.dead = d

/-- what `Task::wake` makes of a step `s0 → s1` of the task system: with the executor gone
    (`self.executor.upgrade()` fails) nothing is enqueued -/
def keepQ (d : Bool) (s0 s1 : State) : State := if d then { s1 with queue := s0.queue } else s1

@[simp] theorem keepQ_false (s0 s1 : State) : keepQ false s0 s1 = s1 := rfl
@[simp] theorem keepQ_self (d : Bool) (s : State) : keepQ d s s = s := by cases d <;> rfl

@[simp] theorem vtClone_s (r : RState) (t : Nat) : (vtClone r t).s = r.s := by simp [vtClone]
@[simp] theorem vtClone_dead (r : RState) (t : Nat) : (vtClone r t).dead = r.dead := by simp [vtClone]
@[simp] theorem vtDrop_s (r : RState) (t : Nat) : (vtDrop r t).s = r.s := by simp [vtDrop]
@[simp] theorem vtDrop_dead (r : RState) (t : Nat) : (vtDrop r t).dead = r.dead := by simp [vtDrop]

@[simp] theorem taskWake_s (r : RState) (t : Nat) : (taskWake r t).s = keepQ r.dead r.s (wake r.s t) := by
  unfold taskWake
  split
  · rename_i hd; simp [hd, keepQ, wake]
  · rename_i hd
    rw [Bool.not_eq_true] at hd
    split
    · rename_i hq; simp [hd, wake_of_mem _ _ hq]
    · simp [hd]

@[simp] theorem taskWake_dead (r : RState) (t : Nat) : (taskWake r t).dead = r.dead := by
  unfold taskWake; split
  · simp
  · split <;> simp

@[simp] theorem vtWake_s (r : RState) (t : Nat) : (vtWake r t).s = keepQ r.dead r.s (wake r.s t) := by
  simp [vtWake]
@[simp] theorem vtWake_dead (r : RState) (t : Nat) : (vtWake r t).dead = r.dead := by simp [vtWake]
@[simp] theorem vtWakeByRef_s (r : RState) (t : Nat) : (vtWakeByRef r t).s = keepQ r.dead r.s (wake r.s t) := by
  simp [vtWakeByRef]
@[simp] theorem vtWakeByRef_dead (r : RState) (t : Nat) : (vtWakeByRef r t).dead = r.dead := by
  simp [vtWakeByRef]

theorem wakeAll_cons (s : State) (w : Nat) (ws : List Nat) : wakeAll s (w :: ws) = wakeAll (wake s w) ws := rfl

/-- waking a list of wakers one by one, however each single wake-up is counted -/
theorem foldl_wake (g : RState → Nat → RState) (hs : ∀ r w, (g r w).s = keepQ r.dead r.s (wake r.s w))
    (hd : ∀ r w, (g r w).dead = r.dead) (ws : List Nat) (r : RState) :
    (ws.foldl g r).s = keepQ r.dead r.s (wakeAll r.s ws) ∧ (ws.foldl g r).dead = r.dead := by
  induction ws generalizing r with
  | nil => exact ⟨(keepQ_self _ _).symm, rfl⟩
  | cons w ws ih =>
    rw [List.foldl_cons, (ih _).1, (ih _).2, hs, hd]
    cases r.dead <;> exact ⟨rfl, rfl⟩

@[simp] theorem wakeAllVal_s (r : RState) (ws : List Nat) :
    (wakeAllVal r ws).s = keepQ r.dead r.s (wakeAll r.s ws) :=
  (foldl_wake _ (fun _ _ => by simp) (fun _ _ => by simp) ws r).1
@[simp] theorem wakeAllVal_dead (r : RState) (ws : List Nat) : (wakeAllVal r ws).dead = r.dead :=
  (foldl_wake _ (fun _ _ => by simp) (fun _ _ => by simp) ws r).2
@[simp] theorem wakeAllRef_s (r : RState) (ws : List Nat) :
    (wakeAllRef r ws).s = keepQ r.dead r.s (wakeAll r.s ws) :=
  (foldl_wake _ (fun _ _ => by simp) (fun _ _ => by simp) ws r).1
@[simp] theorem wakeAllRef_dead (r : RState) (ws : List Nat) : (wakeAllRef r ws).dead = r.dead :=
  (foldl_wake _ (fun _ _ => by simp) (fun _ _ => by simp) ws r).2

@[simp] theorem rSignal_s (r : RState) (k : Nat) : (rSignal r k).s = keepQ r.dead r.s (signal r.s k) := by
  unfold rSignal signal
  cases r.dead <;> cases hs : r.s.sticky <;> simp [keepQ, wakeAll, hs]

@[simp] theorem rSignal_dead (r : RState) (k : Nat) : (rSignal r k).dead = r.dead := by
  unfold rSignal; split <;> simp

@[simp] theorem rSpawnChild_s (r : RState) (t : Nat) : (rSpawnChild r t).s = spawnChild r.s t := by
  unfold rSpawnChild spawnChild; cases r.s.pool <;> rfl
@[simp] theorem rSpawnChild_dead (r : RState) (t : Nat) : (rSpawnChild r t).dead = r.dead := by
  unfold rSpawnChild; cases r.s.pool <;> rfl

theorem rSend_p (r : RState) (t v : Nat) (hd : r.dead = false) :
    (rSend r t v).s = send r.s t v ∧ (rSend r t v).dead = false := by
  unfold rSend send
  cases r.s.relay t <;> simp [hd]

theorem rRunActs_p (t : Nat) (acts : Script) (r : RState) (hd : r.dead = false) :
    (rRunActs t acts r).1.s = (runActs t acts r.s).1 ∧ (rRunActs t acts r).2 = (runActs t acts r.s).2 ∧
    (rRunActs t acts r).1.dead = false := by
  -- branch by branch the counted future does to `.s` what `runActs` does: the `@[simp]` projections above
  -- (`vtClone_s`, `vtWake_s`, `rSignal_s`, `rSpawnChild_s`, …) reduce each counted operation to its plain one, and
  -- `keepQ false` (the executor is alive: `hd`) is the identity
  fun_induction rRunActs t acts r <;> simp_all +zetaDelta [runActs]

theorem rComplete_p (r : RState) (t : Nat) (hd : r.dead = false) :
    (rComplete r t).s = complete r.s t ∧ (rComplete r t).dead = false := by
  have h := rSend_p r t (value r.s t) hd
  unfold rComplete complete
  exact ⟨by simp only [h.1], h.2⟩

theorem rPollDone_p (x : RState × Option Script) (t : Nat) (hd : x.1.dead = false) :
    (rPollDone x t).1.s = (pollDone (x.1.s, x.2) t).1 ∧ (rPollDone x t).2 = (pollDone (x.1.s, x.2) t).2 ∧
    (rPollDone x t).1.dead = false := by
  unfold rPollDone pollDone
  cases x.2 with
  | some rest => exact ⟨rfl, rfl, hd⟩
  | none =>
    have h := rComplete_p x.1 t hd
    exact ⟨by simp only [h.1], rfl, h.2⟩

@[simp] theorem rEnter_s (r : RState) (t : Nat) : (rEnter r t).s = logEv r.s (.poll t) := by
  simp [rEnter, intoWaker, rcClone]
@[simp] theorem rEnter_dead (r : RState) (t : Nat) : (rEnter r t).dead = r.dead := by
  simp [rEnter, intoWaker, rcClone]

theorem rPoll_p (r : RState) (t : Nat) (hd : r.dead = false) :
    (rPoll r t).1.s = (poll r.s t).1 ∧ (rPoll r t).2 = (poll r.s t).2 ∧ (rPoll r t).1.dead = false := by
  unfold rPoll poll
  cases r.s.fut t with
  | none => exact ⟨rfl, rfl, hd⟩
  | some acts =>
    have h1 := rRunActs_p t acts (rEnter r t) (by simp [hd])
    have h2 := rPollDone_p (rRunActs t acts (rEnter r t)) t h1.2.2
    rw [h1.1, h1.2.1, rEnter_s] at h2
    simpa using h2

theorem rStep_p (r : RState) (hd : r.dead = false) :
    (rStep r).map (fun x => (x.1.s, x.2)) = step r.s ∧ ∀ x, rStep r = some x → x.1.dead = false := by
  unfold rStep step
  cases r.s.queue with
  | nil => exact ⟨rfl, nofun⟩
  | cons t q =>
    have hp := rPoll_p (locUp { r with s := { r.s with queue := q } } t) t (by simp [hd])
    simp only [locUp_s] at hp
    refine ⟨?_, fun x hx => ?_⟩
    · simp [hp.1, hp.2.1]
    · cases hx; simp [hp.2.2]

theorem rStepN_p (n : Nat) (r : RState) (hd : r.dead = false) :
    (rStepN n r).s = stepN n r.s ∧ (rStepN n r).dead = false := by
  induction n generalizing r with
  | zero => exact ⟨rfl, hd⟩
  | succ n ih =>
    obtain ⟨h1, h2⟩ := rStep_p r hd
    simp only [rStepN, stepN, ← h1]
    cases hs : rStep r with
    | none => exact ⟨rfl, hd⟩
    | some x => exact ih x.1 (h2 x hs)

theorem rSpawnRoots_p (scs : List Script) (r : RState) :
    (rSpawnRoots scs r).s = spawnRoots scs r.s ∧ (rSpawnRoots scs r).dead = r.dead := by
  induction scs generalizing r with
  | nil => exact ⟨rfl, rfl⟩
  | cons sc rest ih => exact ih (rNew r r.s.ntasks sc)

/-- the counted state and the state of the operation language are the same executor: the same task system, and
    dropped or not alike.  Kept by every operation (`same_rRun`), hence by the whole run (`same_rRunAll`). -/
def Same (r : RState) (x : XState) : Prop := r.s = x.s ∧ r.dead = x.dead

theorem same_rInit (sticky : Bool) (scripts : List Script) (roots : Nat) :
    Same (rInit sticky scripts roots) { s := init sticky scripts roots } :=
  rSpawnRoots_p _ _

/-- `XState.settle` empties the queue of a dead executor; it was empty before, so that is `keepQ` -/
theorem same_settle {r' : RState} {y : XState} {s0 : State} (hq : y.dead = true → s0.queue = [])
    (hs : r'.s = keepQ y.dead s0 y.s) (hd : r'.dead = y.dead) : Same r' y.settle := by
  unfold XState.settle
  split
  · rename_i hy
    rw [hy] at hs
    exact ⟨hs.trans (by simp [keepQ, hq hy]), hd⟩
  · rename_i hy
    rw [Bool.not_eq_true] at hy
    rw [hy] at hs
    exact ⟨hs, hd⟩

theorem same_rRun (r : RState) (x : XState) (op : XOp) (h : Same r x) (hq : x.dead = true → x.s.queue = []) :
    Same (rRun r op) (xRun x op) := by
  obtain ⟨hs, hd⟩ := h
  have alive : ¬ x.dead = true → r.dead = false := fun hx => by rw [hd]; simpa using hx
  cases op with
  | step =>
    simp only [rRun, xRun, hd]
    split
    · exact ⟨hs, hd⟩
    · rename_i hx
      have := rStepN_p 1 r (alive hx)
      exact ⟨by rw [this.1, hs], by rw [this.2]; simpa using hx⟩
  | rus =>
    simp only [rRun, xRun, hd]
    split
    · exact ⟨hs, hd⟩
    · rename_i hx
      have := rStepN_p maxSteps r (alive hx)
      exact ⟨by rw [this.1, hs, runUntilStalled_state], by rw [this.2]; simpa using hx⟩
  | wake k i =>
    simp only [rRun, xRun, xApply, hs]
    cases (x.s.waiters k)[i]? with
    | none => exact ⟨hs, hd⟩
    | some t =>
      exact same_settle (s0 := { x.s with waiters := upd x.s.waiters k ((x.s.waiters k).eraseIdx i) }) hq
        (by simp [hd]) (by simp [hd])
  | byRef k i =>
    simp only [rRun, xRun, xApply, hs]
    cases (x.s.waiters k)[i]? with
    | none => exact ⟨hs, hd⟩
    | some t => exact same_settle hq (by simp [hd, hs]) (by simp [hd])
  | clone k i =>
    simp only [rRun, xRun, xApply, hs]
    cases (x.s.waiters k)[i]? with
    | none => exact ⟨hs, hd⟩
    | some t => exact ⟨by simp [hs], by simp [hd]⟩
  | drop k i =>
    simp only [rRun, xRun, xApply, hs]
    cases (x.s.waiters k)[i]? with
    | none => exact ⟨hs, hd⟩
    | some t => exact ⟨by simp, by simp [hd]⟩
  | signal k =>
    simp only [rRun, xRun, xApply]
    exact same_settle hq (by simp [hd, hs]) (by simp [hd])
  | dropExec =>
    simp only [rRun, xRun, xApply, hd]
    split
    · exact same_settle (y := { x with dead := true, abandoned := true }) (fun _ => hq ‹_›) (by simp [hs]) (hd.trans ‹_›)
    · exact same_settle (s0 := { x.s with queue := [] }) (fun _ => rfl) (by simp [rDropExec, keepQ, hs]) rfl
  | try_ c =>
    simp only [rRun, xRun, xApply, hs]
    split
    · exact ⟨rfl, hd⟩
    · exact ⟨hs, hd⟩
  | spawn =>
    simp only [rRun, xRun, xApply, hs, hd]
    cases x.s.pool with
    | nil => exact ⟨hs, hd⟩
    | cons sc rest => cases hx : x.dead <;> exact ⟨by simp [spawnWeak, rNew, hs], by simp [spawnWeak, rNew, hd, hx]⟩

theorem same_rRunAll (ops : List XOp) (r : RState) (x : XState) (h : Same r x) (hx : XInv x) :
    Same (rRunAll r ops) (xRunAll x ops) := by
  induction ops generalizing r x with
  | nil => exact h
  | cons op ops ih =>
    exact ih (rRun r op) (xRun x op) (same_rRun r x op h (fun hd => (hx.dead hd).1)) (xinv_xRun x op hx)

end YashModel.Executor.Rc
