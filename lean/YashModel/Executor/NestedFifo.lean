/-
  The FIFO discipline of the wake queue when `Executor::step` is also called from inside polls: `Fifo`, a preorder
  that every event of a run respects (`Runs.fifo`).
-/
import YashModel.Executor.Nested
namespace YashModel.Executor.Nested

/-- FIFO discipline between two states: the trace grew by `evs`, and the tasks popped meanwhile followed by
    the queue now are the queue then followed by what was pushed (`L`) — nothing was taken from anywhere but
    the front, nothing was put anywhere but the back -/
def Fifo (s s' : NState) : Prop :=
  ∃ evs L, s'.log = s.log ++ evs ∧ s.queue ++ L = popsOf evs ++ s'.queue

theorem popsOf_append (a b : List NEv) : popsOf (a ++ b) = popsOf a ++ popsOf b := by
  simp [popsOf, List.filterMap_append]

theorem fifo_refl (s : NState) : Fifo s s := ⟨[], [], by simp, by simp [popsOf]⟩

theorem fifo_trans {a b c : NState} (h1 : Fifo a b) (h2 : Fifo b c) : Fifo a c := by
  obtain ⟨e1, l1, hl1, hq1⟩ := h1
  obtain ⟨e2, l2, hl2, hq2⟩ := h2
  refine ⟨e1 ++ e2, l1 ++ l2, by rw [hl2, hl1, List.append_assoc], ?_⟩
  rw [popsOf_append, ← List.append_assoc, hq1, List.append_assoc, hq2, List.append_assoc]

theorem fifo_wake (s : NState) (t : Nat) : Fifo s (nwake s t) := by
  unfold nwake enq
  by_cases h : t ∈ s.queue
  · exact ⟨[], [], by simp, by simp [popsOf, h]⟩
  · exact ⟨[], [t], by simp, by simp [popsOf, h]⟩

theorem fifo_congr_right {s a b : NState} (h : Fifo s a) (e1 : b.queue = a.queue) (e2 : b.log = a.log) :
    Fifo s b := by
  obtain ⟨evs, L, hl, hq⟩ := h
  exact ⟨evs, L, by rw [e2, hl], by rw [e1, hq]⟩

/-- one more trace event, which pops the front of the queue if it is the start of a `Task::poll` -/
theorem fifo_event {s s' : NState} (e : NEv) (hl : s'.log = s.log ++ [e]) (hq : s.queue = popsOf [e] ++ s'.queue) :
    Fifo s s' := ⟨[e], [], hl, by simpa using hq⟩

theorem Runs.fifo {t : Nat} {acts : NScript} {s : NState} {r : NState × Option NScript} (h : Runs t acts s r) :
    Fifo s r.1 := by
  induction h with
  | nil => exact fifo_refl _
  | complete => exact fifo_refl _
  | yield => exact fifo_wake _ _
  | @wake _ u _ s _ _ ih =>
    refine fifo_trans ?_ ih
    split
    · exact fifo_wake s u
    · exact fifo_refl s
  | idle _ _ ih =>
    refine fifo_trans ?_ ih
    exact fifo_event .idle rfl rfl
  | guard hq _ => exact fifo_event (.guard _) rfl hq
  | noop hq _ _ _ ih =>
    refine fifo_trans ?_ ih
    exact fifo_event (.noop _) rfl hq
  | panic hq _ _ _ _ _ ih1 =>
    refine fifo_trans ?_ ih1
    exact fifo_event (.enter _) rfl hq
  | poll hq _ _ _ _ _ _ ih1 ih2 =>
    refine fifo_trans (fifo_trans ?_ ih1) (fifo_trans ?_ ih2)
    · exact fifo_event (.enter _) rfl hq
    · exact fifo_event (.exit _ _) rfl rfl

theorem fifo_step {s s' : NState} (h : NTop s) (hs : nStep s = some s') : Fifo s s' :=
  (runs_nStep h hs).2.elim fun _ hr => hr.fifo

theorem fifo_stepN (n : Nat) {s : NState} (h : NTop s) : Fifo s (nStepN n s) :=
  nStepN_keeps (P := Fifo s) (fun _ _ h f hs => fifo_trans f (fifo_step h hs)) n h (fifo_refl s)

/-- what the relation says about one queued task: it is the `k+1`-th task popped, or still `k - pops` from the front -/
theorem nfifo_position {s s' : NState} (h : Fifo s s') (k t : Nat) (hk : s.queue[k]? = some t) :
    ∃ evs, s'.log = s.log ++ evs ∧
      ((popsOf evs)[k]? = some t ∨
       ((popsOf evs).length ≤ k ∧ s'.queue[k - (popsOf evs).length]? = some t)) := by
  obtain ⟨evs, L, hl, hq⟩ := h
  refine ⟨evs, hl, ?_⟩
  have h1 : (s.queue ++ L)[k]? = some t := getElem?_append_of_some hk
  rw [hq] at h1
  rcases Nat.lt_or_ge k (popsOf evs).length with hlt | hge
  · left; rw [List.getElem?_append_left hlt] at h1; exact h1
  · right; rw [List.getElem?_append_right hge] at h1; exact ⟨hge, h1⟩

theorem nFifoB_of {s s' : NState} (h : Fifo s s') : nFifoB s s' = true := by
  obtain ⟨evs, L, hl, hq⟩ := h
  unfold nFifoB
  rw [hl, List.drop_left, ← hq]
  simp

end YashModel.Executor.Nested
