/-
  What is done to the task system from outside any poll: `Outside s s'`, each of whose changes keeps the invariant,
  the trace invariant and the frame `Grow`; `ReachableX`, the states reachable when anybody may also wake any task or
  spawn a root between steps, satisfies both invariants.
-/
import YashModel.Executor.Steps
namespace YashModel.Executor

variable {ab : Bool}

/-- States reachable when, between the steps of the executor, anybody holding a waker or the executor may
    wake a task, signal a channel, spawn a new root, clone a registered waker, or take a registered
    waker and wake it. -/
inductive ReachableX : State → Prop
  | init (sticky : Bool) (scripts : List Script) (roots : Nat) : ReachableX (init sticky scripts roots)
  | step {s : State} {r : State × Bool} : ReachableX s → step s = some r → ReachableX r.1
  | wake {s : State} (t : Nat) : ReachableX s → t < s.ntasks → ReachableX (wake s t)
  | signal {s : State} (k : Nat) : ReachableX s → ReachableX (signal s k)
  | spawn {s : State} (sc : Script) : ReachableX s → ReachableX (spawnNew s s.ntasks sc)
  | clone {s : State} (k t : Nat) : ReachableX s → t ∈ s.waiters k →
      ReachableX { s with waiters := upd s.waiters k (s.waiters k ++ [t]) }
  | take {s : State} (k i t : Nat) : ReachableX s → (s.waiters k)[i]? = some t →
      ReachableX (wake { s with waiters := upd s.waiters k ((s.waiters k).eraseIdx i) } t)

/-- One change from outside as a relation `s → s'`, for `XStep` (`Ops.lean`), which adds the steps, the spawn and the
    drops; `ReachableX` above is the closure `outside_wakes_safe` is stated with, steps included.
    What is done to the task system from outside a poll, apart from running the executor, spawning, or throwing
    something away: the registered waker `(k, i)` woken by reference, or by value (taken out), or cloned; a
    signal; the value of a task nobody will join taken out of its relay. -/
inductive Outside : State → State → Prop
  | byRef {s : State} {k i t : Nat} : (s.waiters k)[i]? = some t → Outside s (wake s t)
  | take {s : State} {k i t : Nat} : (s.waiters k)[i]? = some t →
      Outside s (wake { s with waiters := upd s.waiters k ((s.waiters k).eraseIdx i) } t)
  | clone {s : State} {k t : Nat} : t ∈ s.waiters k →
      Outside s { s with waiters := upd s.waiters k (s.waiters k ++ [t]) }
  | signal {s : State} (k : Nat) : Outside s (signal s k)
  | try_ {s : State} {c : Nat} : c < s.ntasks → heldByParent s c = false → Outside s (takeValue s c)

theorem inv_takeWaker {s : State} (h : InvX ab none s) (k i t : Nat) (ht : (s.waiters k)[i]? = some t) :
    InvX ab none (wake { s with waiters := upd s.waiters k ((s.waiters k).eraseIdx i) } t) := by
  have htl : t < s.ntasks := h.wlt k t (List.mem_of_getElem? ht)
  refine inv_waiters (inv_wake h t htl) k _ (fun x hx => h.wlt k x (List.mem_of_mem_eraseIdx hx)) id
    (fun _ x hm => ?_)
  -- the waker taken is woken; every other entry stays
  have hm : x ∈ s.waiters k := hm
  by_cases et : x = t
  · exact Or.inr (et ▸ mem_enq_self _ _)
  · left
    obtain ⟨j, hj, hjt⟩ := List.getElem_of_mem hm
    rw [List.mem_eraseIdx_iff_getElem?]
    refine ⟨j, fun eji => ?_, by rw [List.getElem?_eq_getElem hj, hjt]⟩
    subst eji
    rw [List.getElem?_eq_getElem hj, hjt] at ht
    exact et (Option.some.inj ht)

theorem not_heldByParent {s : State} (c : Nat) (hh : heldByParent s c = false) (h : InvX ab none s) :
    ∀ t, c ∉ s.kids t := by
  intro t hm
  have ho : s.owner c = t := (h.kid t c hm).2
  unfold heldByParent at hh
  rw [ho] at hh
  have := List.contains_iff_mem.mpr hm
  rw [hh] at this
  cases this

/-- `try_receive` from outside taking a computed value out of the relay of a task nobody will join -/
theorem inv_takeValue {s : State} (h : InvX ab none s) (c : Nat) (hh : heldByParent s c = false) :
    InvX ab none (takeValue s c) := by
  unfold takeValue
  cases hr : s.relay c with
  | computed v =>
    exact inv_take h c v hr s.kids s.acc (fun t x hx => ⟨hx, fun e => not_heldByParent c hh h t (e ▸ hx)⟩)
      h.knodup (fun _ _ => rfl)
  | _ => exact h

theorem Outside.grow {s s' : State} (h : Outside s s') : Grow s s' := by
  cases h with
  | byRef _ => exact grow_wake _ _
  | take _ => exact (enq_ext _ _).elim fun l e => .of_queue l e rfl rfl rfl rfl
  | clone _ => exact .of_eq rfl rfl rfl rfl rfl
  | signal k => exact grow_signal _ k
  | try_ _ _ => exact grow_takeValue s _

theorem Outside.inv {s s' : State} (h : Outside s s') (hi : InvX ab none s) : InvX ab none s' := by
  cases h with
  | byRef hg => exact inv_wake hi _ (hi.wlt _ _ (List.mem_of_getElem? hg))
  | take hg => exact inv_takeWaker hi _ _ _ hg
  | clone ht => exact inv_pushWaiter hi _ _ (hi.wlt _ _ ht)
  | signal k => exact inv_signal hi k
  | try_ _ hh => exact inv_takeValue hi _ hh

theorem reachableX_inv {s : State} (h : ReachableX s) : InvX false none s ∧ TraceInv s := by
  have outside : ∀ {s s' : State}, Outside s s' → InvX false none s ∧ TraceInv s → InvX false none s' ∧ TraceInv s' :=
    fun ho ih => ⟨ho.inv ih.1, trace_frame ih.2 ho.grow.frame⟩
  induction h with
  | init sticky scripts roots => exact ⟨inv_init _ _ _, trace_init _ _ _⟩
  | step _ hs ih => exact ⟨inv_step ih.1 _ hs, trace_step ih.1 ih.2 _ hs⟩
  | wake t _ ht ih => exact ⟨inv_wake ih.1 t ht, trace_frame ih.2 (grow_wake _ t).frame⟩
  | signal k _ ih => exact outside (.signal k) ih
  | @spawn s sc _ ih =>
    exact ⟨inv_spawnNew ih.1 _ sc, trace_frame ih.2 (frame_spawnNew s s.pool s.ntasks sc)⟩
  | clone k t _ ht ih => exact outside (.clone ht) ih
  | take k i t _ ht ih => exact outside (.take ht) ih

theorem stepN_reachableX (n : Nat) {s : State} (h : ReachableX s) : ReachableX (stepN n s) :=
  stepN_loop.keeps (fun h ⟨_, hs⟩ => .step h hs) n () s h

end YashModel.Executor
