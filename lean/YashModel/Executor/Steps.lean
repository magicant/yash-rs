/-
  The invariant (`Inv.lean`: one lemma per transformer of the model) put together: through one poll (`Polls.inv`,
  an induction on the derivation of `Poll.lean`), one `Executor::step`, any number of steps (`stepN_keeps`), and from
  the initial state of any task system; the trace invariant of `Trace.lean` through a step.
-/
import YashModel.Executor.Inv
import YashModel.Executor.Trace
namespace YashModel.Executor

variable {ab : Bool}

/-- One poll of the future of task `t`: the invariant "while `t` runs" is kept, and if the future
    returns `Pending` the task has been woken already or is blocked on something that will wake it. -/
theorem Polls.inv {t : Nat} {acts : Script} {s : State} {r : State × Option Script} (h : Polls t acts s r)
    (hi : InvX ab (some t) s) :
    InvX ab (some t) r.1 ∧ ∀ rest, r.2 = some rest → t ∈ r.1.queue ∨ Blocked r.1 t rest := by
  induction h with
  | nil => exact ⟨hi, nofun⟩
  | complete => exact ⟨hi, nofun⟩
  | yield =>
    have htl := (hi.run t rfl).1
    exact ⟨inv_wake (inv_wake hi t htl) t htl, fun _ _ => Or.inl (mem_enq_self _ _)⟩
  | consume hk _ ih => exact ih (inv_consume hi _ hk)
  | @register k rest s hk =>
    refine ⟨inv_pushWaiter hi k t (hi.run t rfl).1, fun _ e => ?_⟩
    cases e
    exact Or.inr (Or.inl ⟨k, rest, rfl, by simp [upd_apply], hk⟩)
  | signal _ ih => exact ih (inv_signal hi _)
  | spawn _ ih => exact ih (inv_spawnChild hi)
  | joinNone _ _ ih => exact ih hi
  | joinRecv hk hr _ ih => exact ih (inv_joinRecv hi _ _ _ hk hr)
  | joinDone hk hr => exact absurd hr (hi.kdone t _ (by rw [hk]; simp))
  | @joinPend rest s c cs hk hr =>
    refine ⟨inv_joinPend hi c cs hk hr, fun _ e => ?_⟩
    cases e
    exact Or.inr (Or.inr ⟨c, cs, rest, rfl, hk, by simp [upd_apply]⟩)

/-- the invariant is inductive over `Executor::step` -/
theorem inv_step {s : State} (h : InvX ab none s) (r : State × Bool) (hs : step s = some r) : InvX ab none r.1 := by
  obtain ⟨t, q, hq, rfl⟩ := step_cases hs
  rcases poll_cases { s with queue := q } t with ⟨hf, e⟩ | ⟨acts, r, hf, hp, e⟩
  · rw [e]; exact (inv_popFront (r' := none) h hq (fun _ e => by rw [hf] at e; cases e) nofun).congr
  · rw [e]
    obtain ⟨h2, hpost⟩ := hp.inv (inv_pop h t q hq acts hf).congr
    cases hr : r.2 with
    | some rest => rw [pollDone_pending hr]; exact (inv_pending h2 rest (hpost rest hr)).congr
    | none => rw [pollDone_ready hr]; exact (inv_complete h2).congr

theorem inv_stepN (n : Nat) {s : State} (h : InvX ab none s) : InvX ab none (stepN n s) :=
  stepN_loop.keeps (fun h ⟨_, hs⟩ => inv_step h _ hs) n () s h

theorem stepN_keeps {P : State → Prop} (hP : ∀ s r, InvX ab none s → P s → step s = some r → P r.1) (n : Nat)
    {s : State} (hi : InvX ab none s) (h : P s) : P (stepN n s) :=
  (stepN_loop.keeps (P := fun s => InvX ab none s ∧ P s)
    (fun h ⟨_, hs⟩ => ⟨inv_step h.1 _ hs, hP _ _ h.1 h.2 hs⟩) n () s ⟨hi, h⟩).2

theorem inv_empty (pool : List Script) (sticky : Bool) : InvX ab none { pool := pool, sticky := sticky } := by
  refine ⟨by simp, by simp, by simp, ?_, by simp, by simp, by simp, by simp, by simp, ?_, ?_, ?_, rfl⟩
  · intro c w hw; simp at hw
  · intro c; simp
  · intro t acts hab ht; simp at ht
  · intro t hr; cases hr

theorem inv_spawnRoots (scs : List Script) {s : State} (h : InvX ab none s) : InvX ab none (spawnRoots scs s) :=
  spawnRoots_ind (P := InvX ab none) (fun _ sc h => inv_spawnNew h _ sc) scs h

theorem inv_init (sticky : Bool) (scripts : List Script) (roots : Nat) :
    InvX ab none (init sticky scripts roots) :=
  inv_spawnRoots _ (inv_empty _ _)

theorem trace_step {s : State} (hi : InvX ab none s) (h : TraceInv s) (r : State × Bool) (hs : step s = some r) :
    TraceInv r.1 := by
  obtain ⟨t, q, hq, rfl⟩ := step_cases hs
  exact trace_poll (s := { s with queue := q }) (trace_frame h .of_eq) t (hi.qlt t (by rw [hq]; simp))

theorem trace_stepN (n : Nat) {s : State} (hi : InvX ab none s) (h : TraceInv s) : TraceInv (stepN n s) :=
  stepN_keeps (fun _ r hi h hs => trace_step hi h r hs) n hi h

end YashModel.Executor
