/-
  The connection between the two models.  On the fragment they share —
  root tasks whose scripts use only `Y` (self-wake, `Pending`) and `C` / end of script (`Ready`) — the nested-step
  model (`NestedModel.lean`) and the main model (`Model.lean`) are the same executor: step for step the same
  queue, the same slots, the same trace (`Sim`, `sim_stepN`).
-/
import YashModel.Executor.NestedLive
import YashModel.Executor.Poll
namespace YashModel.Executor.Nested

/-- the actions the two models share -/
def ycOnly (sc : NScript) : Prop := ∀ a, a ∈ sc → a = .yield ∨ a = .complete

def toAct : NAct → Action
  | .yield => .yield
  | _ => .complete

def toScript (sc : NScript) : Script := sc.map toAct

def toEv : NEv → Ev
  | .enter t => .poll t
  | .exit t b => .ret t b
  | .noop t => .noop t
  | .guard t => .noop t
  | .idle => .noop 0

/-- the nested-step model and the main model are in the same executor state -/
structure Sim (ns : NState) (s : State) : Prop where
  q : ns.queue = s.queue
  n : ns.ntasks = s.ntasks
  fut : ∀ t, s.fut t = (ns.fut t).map toScript
  idle : ns.stack = [] ∧ ns.panicked = false
  yc : ∀ t sc, ns.fut t = some sc → ycOnly sc
  log : s.log = ns.log.map toEv
  nopoll : ∀ t w, s.relay t ≠ .polled w

/-- what a poll of a shared script leaves to do: the rest after a `yield`, or nothing (`Ready`) -/
def ycRest : NScript → Option NScript
  | .yield :: rest => some rest
  | _ => none

theorem ycRest_yc {sc rest : NScript} (h : ycOnly sc) (e : ycRest sc = some rest) : ycOnly rest := by
  cases sc with
  | nil => cases e
  | cons a tl =>
    cases a with
    | yield => cases e; exact fun b hb => h b (List.mem_cons_of_mem _ hb)
    | _ => cases e

theorem nRun_yc (inner : NState → Nat → NState) (t : Nat) {sc : NScript} (h : ycOnly sc) (s : NState) :
    nRun inner t sc s = (if (ycRest sc).isSome then nwake s t else s, ycRest sc) := by
  cases sc with
  | nil => rfl
  | cons a rest => rcases h a (by simp) with rfl | rfl <;> rfl

theorem polls_yc {t : Nat} {sc : NScript} (h : ycOnly sc) {s : State} {r : State × Option Script}
    (hp : Polls t (toScript sc) s r) :
    r = (if (ycRest sc).isSome then wake (wake s t) t else s, (ycRest sc).map toScript) := by
  cases sc with
  | nil => cases hp; rfl
  | cons a rest =>
    rcases h a (by simp) with rfl | rfl
    · have hp' : Polls t (.yield :: toScript rest) s r := hp
      cases hp'; rfl
    · have hp' : Polls t (.complete :: toScript rest) s r := hp
      cases hp'; rfl

/-- both models have polled `t`: the queue is `q'`, the slot of `t` holds what the poll left, the trace has the poll -/
theorem Sim.write {ns : NState} {s s' : State} (h : Sim ns s) (t : Nat) (q' : List Nat) (o : Option NScript)
    (ho : ∀ sc, o = some sc → ycOnly sc) (e1 : s'.queue = q') (e2 : s'.ntasks = s.ntasks)
    (e3 : s'.fut = upd s.fut t (o.map toScript)) (e4 : s'.log = s.log ++ [.poll t] ++ [.ret t o.isNone])
    (e5 : ∀ x w, s'.relay x ≠ .polled w) : Sim (nExit { nEnter ns t with queue := q' } t o) s' := by
  refine ⟨e1.symm, h.n.trans e2.symm, fun x => ?_, ⟨h.idle.1, h.idle.2⟩, fun x sc' hx => ?_, ?_, e5⟩
  · rw [e3]
    show upd s.fut t (o.map toScript) x = (upd ns.fut t o x).map toScript
    by_cases e : x = t
    · simp [upd_apply, e]
    · simp only [upd_apply, e, if_false]; exact h.fut x
  · have hx' : upd ns.fut t o x = some sc' := hx
    by_cases e : x = t
    · simp only [upd_apply, e, if_true] at hx'; exact ho sc' hx'
    · simp only [upd_apply, e, if_false] at hx'; exact h.yc x sc' hx'
  · rw [e4]
    show _ = (ns.log ++ [NEv.enter t] ++ [NEv.exit t o.isNone]).map toEv
    simp [h.log, toEv]

/-- `Task::poll` of the nested model on a shared script, outside any poll -/
theorem nPoll_yc {ns : NState} {t : Nat} {sc : NScript} (d : Nat) (hst : ns.stack = []) (hp : ns.panicked = false)
    (hf : ns.fut t = some sc) (hyc : ycOnly sc) :
    nPoll (d + 1) ns t =
      nExit { nEnter ns t with queue := if (ycRest sc).isSome then enq ns.queue t else ns.queue } t (ycRest sc) := by
  rw [nPoll_succ, if_neg (by rw [hst]; nofun), hf]
  simp only [nRun_yc _ _ hyc]
  cases ycRest sc with
  | none =>
    have hpan : ¬ (nEnter ns t).panicked = true := by show ¬ ns.panicked = true; rw [hp]; nofun
    simp only [Option.isSome_none, Bool.false_eq_true, if_false]
    rw [if_neg hpan]
    rfl
  | some rest =>
    have hpan : ¬ (nwake (nEnter ns t) t).panicked = true := by show ¬ ns.panicked = true; rw [hp]; nofun
    simp only [Option.isSome_some, if_true]
    rw [if_neg hpan]
    rfl

/-- `Task::poll` of the main model on the translation of a shared script, no relay holding a waker -/
theorem poll_yc {s : State} {t : Nat} {sc : NScript} (hf : s.fut t = some (toScript sc)) (hyc : ycOnly sc)
    (hr : ∀ x w, s.relay x ≠ .polled w) :
    (poll s t).1.queue = (if (ycRest sc).isSome then enq s.queue t else s.queue) ∧
    (poll s t).1.ntasks = s.ntasks ∧ (poll s t).1.fut = upd s.fut t ((ycRest sc).map toScript) ∧
    (poll s t).1.log = s.log ++ [.poll t] ++ [.ret t (ycRest sc).isNone] ∧
    ∀ x w, (poll s t).1.relay x ≠ .polled w := by
  rcases poll_cases s t with ⟨hn, _⟩ | ⟨acts, r, hf', hp, e⟩
  · rw [hf] at hn; cases hn
  · obtain rfl : acts = toScript sc := Option.some.inj (hf'.symm.trans hf)
    obtain rfl := polls_yc hyc hp
    rw [e]
    cases ycRest sc with
    | none =>
      -- `Ready`: nobody is woken, since no relay holds a waker
      have pe := pollDone_eff (logEv s (.poll t), none) t
      have hc := complete_quiet (s := logEv s (.poll t)) (t := t) hr
      simp only [Option.isSome_none, Bool.false_eq_true, if_false, Option.map_none]
      refine ⟨?_, pe.ntasks, pe.fut, by rw [pe.log]; rfl, ?_⟩
      · rw [pollDone_ready rfl]; exact hc.1
      · rw [pollDone_ready rfl]; exact hc.2
    | some rest =>
      -- `Pending` after a self-wake: the second wake-up finds the task queued
      have pe := pollDone_eff (wake (wake (logEv s (.poll t)) t) t, some (toScript rest)) t
      obtain ⟨pq, pr⟩ := pe.pending _ rfl
      simp only [Option.isSome_some, if_true, Option.map_some]
      exact ⟨pq.trans (enq_idem s.queue t), pe.ntasks, pe.fut, by rw [pe.log]; rfl,
        fun x w => by rw [pr]; exact hr x w⟩

theorem sim_step (ns : NState) (s : State) (h : Sim ns s) :
    (nStep ns = none ∧ step s = none) ∨
    (∃ ns' r, nStep ns = some ns' ∧ step s = some r ∧ Sim ns' r.1) := by
  cases hq : ns.queue with
  | nil =>
    left
    have hq' : s.queue = [] := by rw [← h.q, hq]
    exact ⟨by simp [nStep, h.idle.2, hq], step_none.2 hq'⟩
  | cons t q =>
    right
    have hq' : s.queue = t :: q := by rw [← h.q, hq]
    refine ⟨nPoll (ns.ntasks + 1) { ns with queue := q } t, poll { s with queue := q } t,
      by simp [nStep, h.idle.2, hq], step_cons hq', ?_⟩
    have hfut : s.fut t = (ns.fut t).map toScript := h.fut t
    cases hnf : ns.fut t with
    | none =>
      rw [hnf] at hfut
      rw [nPoll_succ, if_neg (by show t ∉ ns.stack; rw [h.idle.1]; nofun),
        show ({ ns with queue := q } : NState).fut t = none from hnf,
        poll_none (s := { s with queue := q }) hfut]
      exact ⟨rfl, h.n, h.fut, h.idle, h.yc, by simp [logEv, nlog, h.log, toEv], h.nopoll⟩
    | some sc =>
      rw [hnf] at hfut
      have hyc := h.yc t sc hnf
      obtain ⟨p1, p2, p3, p4, p5⟩ := poll_yc (s := { s with queue := q }) hfut hyc h.nopoll
      rw [nPoll_yc (ns := { ns with queue := q }) _ h.idle.1 h.idle.2 hnf hyc]
      exact h.write t _ (ycRest sc) (fun _ e => ycRest_yc hyc e) p1 p2 p3 p4 p5

theorem sim_stepN (n : Nat) (ns : NState) (s : State) (h : Sim ns s) : Sim (nStepN n ns) (stepN n s) := by
  rw [nStepN_iter, stepN_iter]
  refine YashModel.Run.iter_sim (fun ns s h => (sim_step ns s h).imp ?_ ?_) n ns s h
  · exact fun ⟨a, b⟩ => ⟨a, by rw [b]; rfl⟩
  · exact fun ⟨ns', r, a, b, c⟩ => ⟨ns', r.1, a, by rw [b]; rfl, c⟩

theorem sim_init (sticky : Bool) (scripts : List NScript) (hyc : ∀ sc, sc ∈ scripts → ycOnly sc) :
    Sim (nInit scripts) (init sticky (scripts.map toScript) scripts.length) := by
  have hlen : (scripts.map toScript).length = scripts.length := List.length_map _
  have htake : (scripts.map toScript).take scripts.length = scripts.map toScript := by
    rw [← hlen]; exact List.take_length
  have hq := spawnRoots_queue (scripts.map toScript)
    { pool := (scripts.map toScript).drop scripts.length, sticky := sticky }
  refine ⟨?_, ?_, ?_, ⟨rfl, rfl⟩, ?_, ?_, ?_⟩
  · show List.range scripts.length = (init sticky _ _).queue
    unfold init
    rw [htake, hq.1, hlen]
    simp [List.range_eq_range']
  · show scripts.length = (init sticky _ _).ntasks
    unfold init
    rw [htake, hq.2, hlen]
    simp
  · intro t
    unfold init
    rw [htake, spawnRoots_fut _ _ (fun _ _ => rfl)]
    show (if t < 0 then none else (scripts.map toScript)[t - 0]?) = (scripts[t]?).map toScript
    simp
  · intro t sc hf
    have : scripts[t]? = some sc := hf
    exact hyc sc (List.mem_of_getElem? this)
  · unfold init
    rw [spawnRoots_log]
    rfl
  · unfold init
    exact spawnRoots_nopoll _ _ (fun _ _ => by simp)

end YashModel.Executor.Nested
