/-
  "No lost wake-up" when `Executor::step` is also called from inside polls.  `Live`: every unfinished task is in
  the wake queue or is one of the polls in progress.  A run keeps it (`Runs.live`) WITHOUT the hypothesis "the
  guard has not panicked": the panic freezes the state at the moment of the guard (`nStep` refuses to go on),
  and in that state no task has been lost.  So between top-level steps every unfinished task is queued, and a
  stalled run loop means all tasks completed.
-/
import YashModel.Executor.NestedFifo
namespace YashModel.Executor.Nested

def Live (s : NState) : Prop := ∀ x, x < s.ntasks → (s.fut x).isSome = true → x ∈ s.queue ∨ x ∈ s.stack

theorem Live.wake {s : NState} (hb : Live s) (u : Nat) : Live (nwake s u) :=
  fun x hx hf => (hb x hx hf).imp (mem_enq_of_mem _ _ _) id

/-- the front of the queue is popped: until its poll is entered, `u` is in neither list -/
theorem Live.pop {s : NState} (hb : Live s) {u : Nat} {q : List Nat} (hq : s.queue = u :: q) :
    ∀ x, x < s.ntasks → (s.fut x).isSome = true → x ∈ q ∨ x ∈ s.stack ∨ x = u := by
  intro x hx hf
  rcases hb x hx hf with h1 | h1
  · rw [hq] at h1
    exact (List.mem_cons.mp h1).elim (fun e => Or.inr (Or.inr e)) Or.inl
  · exact Or.inr (Or.inl h1)

theorem Live.enter {s : NState} (hb : Live s) {u : Nat} {q : List Nat} (hq : s.queue = u :: q) :
    Live (nEnter { s with queue := q } u) := by
  intro x hx hf
  rcases hb.pop hq x hx hf with h1 | h1 | h1
  · exact Or.inl h1
  · exact Or.inr (List.mem_cons_of_mem _ h1)
  · exact Or.inr (by rw [h1]; exact List.mem_cons_self)

/-- a poll of `u` returns: `u` leaves the stack; if it is not finished it has woken itself -/
theorem Live.exit {s : NState} (hb : Live s) {u : Nat} {st : List Nat} (hst : s.stack = u :: st)
    (o : Option NScript) (hq : ∀ rest, o = some rest → u ∈ s.queue) : Live (nExit s u o) := by
  intro x hx hfx
  have hfx' : (upd s.fut u o x).isSome = true := hfx
  by_cases e : x = u
  · subst e
    cases o with
    | none => simp [upd_apply] at hfx'
    | some rest => exact Or.inl (hq rest rfl)
  · simp only [upd_apply, e, if_false] at hfx'
    refine (hb x hx hfx').imp id fun h1 => ?_
    rw [hst] at h1
    show x ∈ s.stack.tail
    rw [hst]
    exact (List.mem_cons.mp h1).resolve_left e

/-- no task is lost by a run, whether it ends in the guard panic or not; a future that returns `Pending`
    without a panic has woken its own task -/
theorem Runs.live {t : Nat} {acts : NScript} {s : NState} {r : NState × Option NScript} (h : Runs t acts s r)
    (hb : Live s) :
    Live r.1 ∧ (r.1.panicked = false → ∀ rest, r.2 = some rest → t ∈ r.1.queue) := by
  induction h with
  | nil => exact ⟨hb, fun _ _ h => by cases h⟩
  | complete => exact ⟨hb, fun _ _ h => by cases h⟩
  | yield => exact ⟨hb.wake _, fun _ _ _ => mem_enq_self _ _⟩
  | @wake _ u _ s _ _ ih =>
    refine ih ?_
    split
    · exact hb.wake u
    · exact hb
  | idle _ _ ih => exact ih hb
  | guard hq hm =>
    refine ⟨fun x hx hf => ?_, fun hp => by cases hp⟩
    rcases hb.pop hq x hx hf with h1 | h1 | h1
    · exact Or.inl h1
    · exact Or.inr h1
    · exact Or.inr (by rw [h1]; exact hm)
  | @noop _ _ s _ _ _ hq _ hf _ ih =>
    refine ih fun x hx hfx => ?_
    rcases hb.pop hq x hx hfx with h1 | h1 | h1
    · exact Or.inl h1
    · exact Or.inr h1
    · have hfx' : (s.fut x).isSome = true := hfx
      rw [h1, hf] at hfx'; cases hfx'
  | panic hq _ _ _ _ hpr ih1 =>
    exact ⟨(ih1 (hb.enter hq)).1, fun hp => by rw [hpr] at hp; cases hp⟩
  | poll hq _ _ _ hr hpr _ ih1 ih2 =>
    obtain ⟨hlv, hq1⟩ := ih1 (hb.enter hq)
    exact ih2 (hlv.exit (hr.stack hpr) _ (hq1 hpr))

/-- at every top-level boundary, the guard panic included: the frozen state loses no task -/
theorem live_step {s s' : NState} (h : NTop s) (hl : Live s) (hs : nStep s = some s') : Live s' :=
  (runs_nStep h hs).2.elim fun _ hr => (hr.live hl).1

theorem live_stepN (n : Nat) {s : NState} (h : NTop s) (hl : Live s) : Live (nStepN n s) :=
  nStepN_keeps (fun _ _ h hl hs => live_step h hl hs) n h hl

theorem live_init (scripts : List NScript) : Live (nInit scripts) :=
  fun _ hx _ => Or.inl (List.mem_range.mpr hx)

end YashModel.Executor.Nested
