/-
  WHAT is delivered.  The ghost field `ret t` records the value the future of
  task `t` returned (set by the wrapper future of `enqueue_forwarding` when it calls `Sender::send`), the
  ghost field `recv t` the values the relay of `t` handed to a receiver.  `ValInv` ties them: the relay
  holds exactly the returned value, and what has been handed out is that value, once, exactly when the
  relay is `Done` — of every task the same five clauses (`ValAt`).
-/
import YashModel.Executor.Outside
namespace YashModel.Executor

variable {ab : Bool}

/-- what the ghost fields say of one task `c` -/
structure ValAt (s : State) (c : Nat) : Prop where
  /-- a value has been returned exactly if the task is finished -/
  retfin : c < s.ntasks → ((s.ret c).isSome = true ↔ s.fut c = none)
  /-- … and it is the value computed from what the task received from its children -/
  retval : ∀ v, s.ret c = some v → v = value s c
  /-- the relay holds nothing but the value its task returned -/
  comp : ∀ v, s.relay c = .computed v → s.ret c = some v
  /-- a receiver has been handed the returned value, once, iff the relay is `Done`; nothing otherwise -/
  recvd : s.recv c = if s.relay c = .done then (s.ret c).toList else []
  fresh : s.ntasks ≤ c → s.ret c = none ∧ s.recv c = []

/-- Every clause speaks of one task, so a transformer that rewrites the fields of one task `c` is checked at `c`
    (`ValAt` of the new state) and leaves the others to `ValAt.congr`. -/
def ValInv (s : State) : Prop := ∀ c, ValAt s c

theorem ValAt.congr {s s' : State} {c : Nat} (h : ValAt s c) (e1 : c < s'.ntasks ↔ c < s.ntasks)
    (e2 : s'.fut c = s.fut c) (e3 : s'.relay c = s.relay c) (e4 : s'.ret c = s.ret c)
    (e5 : s'.recv c = s.recv c) (e6 : s'.acc c = s.acc c) : ValAt s' c := by
  have hv : value s' c = value s c := by unfold value; rw [e6]
  refine ⟨?_, ?_, ?_, ?_, ?_⟩
  · intro hc; rw [e4, e2]; exact h.retfin (e1.mp hc)
  · intro v hr; rw [hv]; rw [e4] at hr; exact h.retval v hr
  · intro v hr; rw [e3] at hr; rw [e4]; exact h.comp v hr
  · rw [e5, e3, e4]; exact h.recvd
  · intro hc; rw [e4, e5]; exact h.fresh (Nat.le_of_not_lt fun hlt => absurd (e1.mpr hlt) (Nat.not_lt_of_le hc))

theorem val_congr {s s' : State} (h : ValInv s) (e1 : s'.ntasks = s.ntasks := by rfl) (e2 : s'.fut = s.fut := by rfl)
    (e3 : s'.relay = s.relay := by rfl) (e4 : s'.ret = s.ret := by rfl) (e5 : s'.recv = s.recv := by rfl)
    (e6 : s'.acc = s.acc := by rfl) : ValInv s' := fun c =>
  (h c).congr (by rw [e1]) (congrFun e2 c) (congrFun e3 c) (congrFun e4 c) (congrFun e5 c) (congrFun e6 c)

theorem val_signal {s : State} (h : ValInv s) (k : Nat) : ValInv (signal s k) := by
  unfold signal
  split <;> exact val_congr h

theorem val_spawnNew {s : State} (h : ValInv s) (own : Nat) (sc : Script) : ValInv (spawnNew s own sc) := by
  intro c
  by_cases e : c = s.ntasks
  · subst e
    obtain ⟨f1, f2⟩ := (h s.ntasks).fresh (Nat.le_refl _)
    refine ⟨fun _ => ?_, fun v hr => ?_, fun v hr => ?_, ?_, fun hc => absurd (show s.ntasks + 1 ≤ s.ntasks from hc) (by omega)⟩
    · show (s.ret _).isSome = true ↔ upd s.fut s.ntasks (some sc) s.ntasks = none
      simp [upd_apply, f1]
    · rw [show (spawnNew s own sc).ret = s.ret from rfl, f1] at hr; cases hr
    · have hr' : upd s.relay s.ntasks .pending s.ntasks = .computed v := hr
      simp [upd_apply] at hr'
    · show s.recv _ = if upd s.relay s.ntasks .pending s.ntasks = .done then _ else []
      simp [upd_apply, f2]
  · exact (h c).congr (show c < s.ntasks + 1 ↔ c < s.ntasks by omega) (upd_other _ _ _ _ e) (upd_other _ _ _ _ e)
      rfl rfl rfl

theorem val_spawnChild {s : State} (h : ValInv s) (t : Nat) : ValInv (spawnChild s t) := by
  unfold spawnChild
  cases s.pool with
  | nil => exact h
  | cons sc rest =>
    have h1 : ValInv { s with pool := rest } := val_congr h
    exact val_congr (val_spawnNew h1 t sc)

/-- a receiver takes the value out of the relay of `c` (a parent's `join`, which adds it to its sum `acc'`; or
    `try_receive` from outside) -/
theorem val_take {s : State} (h : ValInv s) (c v : Nat) (hc : c < s.ntasks) (hr : s.relay c = .computed v)
    (acc' : Nat → Nat) (hacc : ∀ u, s.ret u ≠ none → acc' u = s.acc u) (kids' : Nat → List Nat) :
    ValInv { s with
      relay := upd s.relay c .done
      kids := kids'
      acc := acc'
      delivered := upd s.delivered c (s.delivered c + 1)
      recv := upd s.recv c (s.recv c ++ [v]) } := by
  -- the sum of a task that has returned does not move, so its value stands
  have hval : ∀ c' v', s.ret c' = some v' → v' = (c' + 1 + 7 * acc' c') % 1000 := fun c' v' hr' => by
    rw [hacc c' (by rw [hr']; simp)]; exact (h c').retval v' hr'
  intro c'
  by_cases e : c' = c
  · subst e
    have hrc := (h c').comp v hr
    have h0 := (h c').recvd
    rw [hr] at h0
    refine ⟨(h c').retfin, hval c', fun v' hr' => ?_, ?_, fun hge => absurd hc (Nat.not_lt_of_le hge)⟩
    · have hr'' : upd s.relay c' .done c' = .computed v' := hr'
      simp [upd_apply] at hr''
    · show upd s.recv c' (s.recv c' ++ [v]) c' = if upd s.relay c' .done c' = .done then (s.ret c').toList else []
      simp only [upd_apply, if_true, hrc, Option.toList]
      rw [h0]; simp
  · refine ⟨(h c').retfin, hval c', fun v' hr' => ?_, ?_, fun hge => ?_⟩
    · exact (h c').comp v' ((upd_other s.relay c .done c' e).symm.trans hr')
    · show upd s.recv c (s.recv c ++ [v]) c' = if upd s.relay c .done c' = .done then _ else []
      rw [upd_other _ _ _ _ e, upd_other _ _ _ _ e]; exact (h c').recvd
    · show s.ret c' = none ∧ upd s.recv c (s.recv c ++ [v]) c' = []
      rw [upd_other _ _ _ _ e]; exact (h c').fresh hge

theorem val_polled {s : State} (h : ValInv s) (c w : Nat) (hs : (s.relay c).sent = false) :
    ValInv { s with relay := upd s.relay c (.polled w) } := by
  have hnd := Relay.ne_done_of_unsent hs
  intro c'
  by_cases e : c' = c
  · subst e
    have h0 := (h c').recvd
    simp only [hnd, if_false] at h0
    exact ⟨(h c').retfin, (h c').retval,
      fun v' hr' => by
        have hr'' : upd s.relay c' (.polled w) c' = .computed v' := hr'
        simp [upd_apply] at hr'',
      by show s.recv c' = if upd s.relay c' (.polled w) c' = .done then _ else []; simp [upd_apply, h0],
      (h c').fresh⟩
  · exact (h c').congr Iff.rfl rfl (upd_other _ _ _ _ e) rfl rfl rfl

theorem val_complete {s : State} (h : ValInv s) (t : Nat) (ht : t < s.ntasks)
    (hs : (s.relay t).sent = false) : ValInv (complete s t) := by
  have hnd := Relay.ne_done_of_unsent hs
  obtain ⟨q, e, _⟩ := complete_unsent hs
  rw [e]
  intro c
  by_cases e : c = t
  · subst e
    have h0 := (h c).recvd
    simp only [hnd, if_false] at h0
    refine ⟨fun _ => ?_, fun v' hr' => ?_, fun v' hr' => ?_, ?_, fun hge => absurd ht (Nat.not_lt_of_le hge)⟩
    · show (upd s.ret c (some (value s c)) c).isSome = true ↔ upd s.fut c none c = none
      simp [upd_apply]
    · have hr'' : upd s.ret c (some (value s c)) c = some v' := hr'
      simp only [upd_apply, if_true, Option.some.injEq] at hr''
      exact hr''.symm
    · have hr'' : upd s.relay c (.computed (value s c)) c = .computed v' := hr'
      show upd s.ret c (some (value s c)) c = some v'
      simp only [upd_apply, if_true, Relay.computed.injEq] at hr'' ⊢
      rw [hr'']
    · show s.recv c = if upd s.relay c (.computed (value s c)) c = .done then _ else []
      simp [upd_apply, h0]
  · exact (h c).congr Iff.rfl (upd_other _ _ _ _ e) (upd_other _ _ _ _ e) (upd_other _ _ _ _ e) rfl rfl

theorem val_pending {s : State} (h : ValInv s) (t : Nat) (acts rest : Script) (hf : s.fut t = some acts) :
    ValInv { s with fut := upd s.fut t (some rest) } := by
  intro c
  by_cases e : c = t
  · subst e
    refine ⟨fun hc => ?_, (h c).retval, (h c).comp, (h c).recvd, (h c).fresh⟩
    have := (h c).retfin hc
    rw [hf] at this
    show (s.ret c).isSome = true ↔ upd s.fut c (some rest) c = none
    simp only [upd_apply, if_true]
    exact ⟨fun hh => absurd (this.mp hh) (by simp), fun hh => by cases hh⟩
  · exact (h c).congr Iff.rfl (upd_other _ _ _ _ e) rfl rfl rfl rfl

theorem ret_running {s : State} (h : ValInv s) (hi : InvX ab (some t) s) : s.ret t = none := by
  obtain ⟨htl, acts, hf⟩ := hi.run t rfl
  have := (h t).retfin htl
  rw [hf] at this
  cases hr : s.ret t with
  | none => rfl
  | some v => rw [hr] at this; exact absurd (this.mp rfl) (by simp)

theorem Polls.val {t : Nat} {acts : Script} {s : State} {r : State × Option Script} (h : Polls t acts s r)
    (hi : InvX ab (some t) s) (hv : ValInv s) : ValInv r.1 := by
  induction h with
  | nil => exact hv
  | complete => exact hv
  | yield => exact val_congr hv
  | consume hk _ ih => exact ih (inv_consume hi _ hk) (val_congr hv)
  | register _ => exact val_congr hv
  | signal _ ih => exact ih (inv_signal hi _) (val_signal hv _)
  | spawn _ ih => exact ih (inv_spawnChild hi) (val_spawnChild hv t)
  | joinNone _ _ ih => exact ih hi hv
  | @joinRecv _ s _ c v cs hk hr _ ih =>
    refine ih (inv_joinRecv hi c cs v hk hr) (val_take hv c v (hi.kid t c (by rw [hk]; simp)).1 hr _ ?_ _)
    -- the parent's sum changes, and the parent has not returned yet
    intro u hu
    have : u ≠ t := by intro e; subst e; exact hu (ret_running hv hi)
    simp [upd_apply, this]
  | joinDone hk hr => exact absurd hr (hi.kdone t _ (by rw [hk]; simp))
  | joinPend _ hr => exact val_polled hv _ t hr

theorem val_step {s : State} (hi : InvX ab none s) (h : ValInv s) (r : State × Bool) (hs : step s = some r) :
    ValInv r.1 := by
  obtain ⟨t, q, hq, rfl⟩ := step_cases hs
  have h0 : ValInv { s with queue := q } := val_congr h
  rcases poll_cases { s with queue := q } t with ⟨_, e⟩ | ⟨acts, r, hf, hp, e⟩
  · rw [e]; exact val_congr h0
  · rw [e]
    have h1 : InvX ab (some t) (logEv { s with queue := q } (.poll t)) := (inv_pop hi t q hq acts hf).congr
    have h2 := (hp.inv h1).1
    have v2 := hp.val h1 (val_congr h0)
    obtain ⟨htl, acts', hf'⟩ := h2.run t rfl
    cases hr : r.2 with
    | some rest => rw [pollDone_pending hr]; exact val_congr (val_pending v2 t acts' rest hf')
    | none => rw [pollDone_ready hr]; exact val_congr (val_complete v2 t htl (h2.unsent htl hf'))

theorem val_stepN (n : Nat) {s : State} (hi : InvX ab none s) (h : ValInv s) : ValInv (stepN n s) :=
  stepN_keeps (fun _ r hi h hs => val_step hi h r hs) n hi h

theorem val_init (sticky : Bool) (scripts : List Script) (roots : Nat) : ValInv (init sticky scripts roots) := by
  have h0 : ValInv { pool := scripts.drop roots, sticky := sticky } := fun c =>
    ⟨fun hc => absurd hc (Nat.not_lt_zero _), nofun, nofun, rfl, fun _ => ⟨rfl, rfl⟩⟩
  exact spawnRoots_ind (P := ValInv) (fun _ sc h => val_spawnNew h _ sc) _ h0

theorem val_takeValue {s : State} (h : ValInv s) (c : Nat) (hc : c < s.ntasks) : ValInv (takeValue s c) := by
  unfold takeValue
  cases hr : s.relay c with
  | computed v => exact val_take h c v hc hr s.acc (fun _ _ => rfl) s.kids
  | _ => exact h

theorem Outside.val {s s' : State} (h : Outside s s') (hv : ValInv s) : ValInv s' := by
  cases h with
  | byRef _ => exact val_congr hv
  | take _ => exact val_congr hv
  | clone _ => exact val_congr hv
  | signal k => exact val_signal hv k
  | try_ hc _ => exact val_takeValue hv _ hc

end YashModel.Executor
