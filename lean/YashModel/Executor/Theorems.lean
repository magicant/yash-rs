/-
  C15 — the property theorems with their non-vacuity examples, and the two notions they are stated with
  (`Reachable`, `run`).

  Property text: "For every set of cooperating tasks and every order of wake-ups, the single-threaded
  executor polls a task again whenever it has been woken since it last returned pending - including
  wakes issued while it is being polled, by itself or by another task - never polls a task after it
  completed or re-entrantly, queues a task at most once however often it is woken, lets no woken task be
  starved by others that keep re-waking themselves, and delivers each spawned task's result to its
  receiver exactly once.  When the run loop stalls, every unfinished task is genuinely waiting for a
  wake-up that has not happened."

  "Every task system" = every list of scripts, every number of roots, both channel modes
  (`init sticky scripts roots`); "every step count" = `stepN n` for every `n`.  Nothing bounds the number
  of tasks, the script lengths, the channels or the steps.
-/
import YashModel.Executor.Steps
import YashModel.Executor.SpecLemmas
import YashModel.Executor.Outside
import YashModel.Executor.Forwarder
import YashModel.Executor.Ops
import YashModel.Executor.Termination
import YashModel.Executor.Values
import YashModel.Executor.Tables
import YashModel.Executor.Nested
import YashModel.Executor.NestedCheck
import YashModel.Executor.NestedFifo
import YashModel.Executor.NestedLive
import YashModel.Executor.NestedSim
import YashModel.Executor.NestedTerm
import YashModel.Executor.RcProj
import YashModel.Executor.RcRefs
namespace YashModel.Executor

/-- a state the executor can be in: `n` steps into the run of some task system -/
def Reachable (s : State) : Prop :=
  ∃ (sticky : Bool) (scripts : List Script) (roots n : Nat), s = stepN n (init sticky scripts roots)

/-- the infinite run of a task system: the state after `i` calls of `Executor::step` -/
def run (sticky : Bool) (scripts : List Script) (roots : Nat) (i : Nat) : State :=
  stepN i (init sticky scripts roots)

/-- steps alone are a case of "steps and anything from outside in between" -/
theorem Reachable.x {s : State} (h : Reachable s) : ReachableX s := by
  obtain ⟨sticky, scripts, roots, n, rfl⟩ := h
  exact stepN_reachableX n (.init sticky scripts roots)

theorem reachable_inv {s : State} (h : Reachable s) : InvX false none s := (reachableX_inv h.x).1

theorem reachable_trace {s : State} (h : Reachable s) : TraceInv s := (reachableX_inv h.x).2

example : Reachable (stepN 4 (init false [[.yield, .wait 0], [.signal 0, .spawn, .join], [.yield]] 2)) :=
  ⟨_, _, _, _, rfl⟩

/-- ★ The whole invariant is inductive over `Executor::step` from *any* state that satisfies it (not
    only from initial states), and holds initially for every task system. -/
theorem inv_inductive :
    (∀ sticky scripts roots, InvX false none (init sticky scripts roots)) ∧
    (∀ s r, InvX false none s → step s = some r → InvX false none r.1) :=
  ⟨inv_init, fun _ r h hs => inv_step h r hs⟩

/-- ★ "queues a task at most once however often it is woken": the wake queue never holds a task
    twice, at any step of any task system. -/
theorem queue_nodup (s : State) (h : Reachable s) : s.queue.Nodup := (reachable_inv h).nodup

/-- ★ `Task::wake`, in every state (reachable or not): afterwards the task is in the queue; it is a
    no-op if the task was queued already and a push to the back otherwise. -/
theorem wake_enqueues (s : State) (t : Nat) :
    t ∈ (wake s t).queue ∧
    (t ∈ s.queue → (wake s t).queue = s.queue) ∧
    (t ∉ s.queue → (wake s t).queue = s.queue ++ [t]) := by
  refine ⟨mem_enq_self _ _, fun h => by rw [wake_of_mem s t h], ?_⟩
  intro h; simp [wake, enq, h]

/-- ★ … "including wakes issued while it is being polled, by itself": a task whose future wakes its
    own waker and returns `Pending` is in the queue when `Task::poll` returns — although it was not in
    the queue during the poll. -/
theorem self_wake_during_poll (s : State) (t : Nat) (rest : Script) (h : s.fut t = some (.yield :: rest)) :
    t ∈ (poll s t).1.queue ∧ (poll s t).2 = false := by
  rw [poll_some h]
  have hr : (runActs t (.yield :: rest) (logEv s (.poll t))).2 = some rest := rfl
  rw [pollDone_pending hr]
  exact ⟨mem_enq_self _ _, rfl⟩

example : (0 : Nat) ∈ (poll { (init false [[.yield]] 1) with queue := [] } 0).1.queue := by decide

/-- … "or by another task": a task registered with a channel is in the queue after any `signal` on
    that channel, whatever else is queued (also in the middle of the signaller's poll). -/
theorem signal_wakes_waiters (s : State) (k t : Nat) (h : t ∈ s.waiters k) : t ∈ (signal s k).queue := by
  unfold signal
  split <;> exact (mem_foldl_enq _ _ _).mpr (Or.inr h)

/-- ★ No lost wake-up: at every step boundary of every run, every unfinished task is in the queue, or
    is registered with a channel that has no token, or has its waker stored in the relay of the child
    it awaits. -/
theorem no_lost_wakeup (s : State) (h : Reachable s) (t : Nat) (acts : Script)
    (ht : t < s.ntasks) (hf : s.fut t = some acts) :
    t ∈ s.queue ∨ Blocked s t acts :=
  (reachable_inv h).live t acts rfl ht (by simp) hf

/-- ★ "When the run loop stalls, every unfinished task is genuinely waiting for a wake-up that has not
    happened": with an empty queue, an unfinished task is at a `wait k` with its waker registered and
    no token in channel `k`, or at a `join` with its waker stored in the relay of an *unfinished* child. -/
theorem stall_genuine (s : State) (h : Reachable s) (hq : s.queue = []) (t : Nat) (acts : Script)
    (ht : t < s.ntasks) (hf : s.fut t = some acts) :
    (∃ k rest, acts = .wait k :: rest ∧ t ∈ s.waiters k ∧ s.tokens k = 0) ∨
    (∃ c cs rest, acts = .join :: rest ∧ s.kids t = c :: cs ∧ s.relay c = .polled t ∧
      c < s.ntasks ∧ (s.fut c).isSome = true) := by
  exact (reachable_inv h).stalled hq t acts ht hf

example : ∃ s, Reachable s ∧ s.queue = [] ∧ s.fut 0 = some [.wait 0] :=
  ⟨stepN 1 (init false [[.wait 0]] 1), ⟨_, _, _, _, rfl⟩, by decide, by decide⟩

/-- ★ FIFO bound ("lets no woken task be starved by others that keep re-waking themselves"): in any
    state, the task at position `k` of the queue is at the front after exactly `k` steps — whatever the
    polled tasks do, they only push behind it — so step `k+1` pops and polls it. -/
theorem fifo_bound (s : State) (k t : Nat) (h : s.queue[k]? = some t) :
    ∃ q, (stepN k s).queue = t :: q ∧
      step (stepN k s) = some (poll { stepN k s with queue := q } t) := by
  -- `k` steps are an interleaving with no other operation
  have key : (stepN k s).queue.head? = some t := by
    have := (fifo_position (List.replicate k .step) { s := s } rfl
      (fun op ho => by rw [List.eq_of_mem_replicate ho]; rfl) k t h (by simp)).2
    rw [xRunAll_steps k _ rfl] at this
    simpa [List.head?_eq_getElem?] using this
  cases hq : (stepN k s).queue with
  | nil => rw [hq] at key; cases key
  | cons x q =>
    rw [hq] at key
    simp only [List.head?_cons, Option.some.injEq] at key
    subst key
    exact ⟨q, rfl, step_cons hq⟩

/-- "polls a task again whenever it has been woken since it last returned pending": after a wake-up of
    `t` in any state, one of the next `|queue|` steps pops `t`. -/
theorem woken_is_polled (s : State) (t : Nat) :
    ∃ k q, k < (wake s t).queue.length ∧ (stepN k (wake s t)).queue = t :: q ∧
      step (stepN k (wake s t)) = some (poll { stepN k (wake s t) with queue := q } t) := by
  have hm : t ∈ (wake s t).queue := mem_enq_self _ _
  obtain ⟨k, hk, hkt⟩ := List.getElem_of_mem hm
  obtain ⟨q, h1, h2⟩ := fifo_bound (wake s t) k t (by rw [List.getElem?_eq_getElem hk, hkt])
  exact ⟨k, q, hk, h1, h2⟩

example : (init true [[.yield], [.yield], [.yield]] 3).queue[2]? = some 2 := by decide

/-- ★ "never polls a task after it completed": in the trace of every run, for any two positions
    `i < j`, if `log[i]` is the return of `Ready` by task `t` then `log[j]` is neither a poll of `t`'s
    future nor another return of it (so a task also completes at most once). -/
theorem no_poll_after_complete (s : State) (h : Reachable s) (i j t : Nat) (hij : i < j)
    (hi : s.log[i]? = some (.ret t true)) :
    s.log[j]? ≠ some (.poll t) ∧ ∀ b, s.log[j]? ≠ some (.ret t b) := by
  have hp : s.log.Pairwise After := (reachable_trace h).npaf
  cases hj : s.log[j]? with
  | none => exact ⟨by simp, by simp⟩
  | some e =>
    have hjl : j < s.log.length := by
      rcases Nat.lt_or_ge j s.log.length with hk | hk
      · exact hk
      · rw [List.getElem?_eq_none hk] at hj; cases hj
    have hil : i < s.log.length := Nat.lt_trans hij hjl
    have ha := List.pairwise_iff_getElem.mp hp i j hil hjl hij
    rw [List.getElem?_eq_getElem hil] at hi
    rw [List.getElem?_eq_getElem hjl] at hj
    injection hi with hi
    injection hj with hj
    have := ha t hi
    rw [hj] at this
    exact ⟨by simpa using this.1, fun b => by simpa using this.2 b⟩

/-- … and a finished task's slot stays empty: `Task::poll` on it does nothing (`noop`). -/
theorem finished_stays_finished (s : State) (h : Reachable s) (t : Nat) (hm : Ev.ret t true ∈ s.log) :
    s.fut t = none := (reachable_trace h).fin t hm

example : (stepN 4 (init true [[.wait 0, .signal 0], [.signal 0]] 2)).log =
    [.poll 0, .ret 0 false, .poll 1, .ret 1 true, .poll 0, .ret 0 true, .noop 0] := by decide

/-- ★ "never polls … re-entrantly": the trace of every run is a sequence of complete `Task::poll`
    calls — each `poll t` is immediately followed by its own `ret t _`, so no poll starts while another
    is in progress — and the task `Executor::step` pops is not in the queue it leaves behind (the
    `RefCell` of the slot is never borrowed twice). -/
theorem no_reentrant_poll (s : State) (h : Reachable s) :
    Bracketed s.log ∧ ∀ t q, s.queue = t :: q → t ∉ q := by
  refine ⟨(reachable_trace h).brack, ?_⟩
  intro t q hq
  have := queue_nodup s h
  rw [hq] at this
  exact (List.nodup_cons.mp this).1

/-- ★ The relay is one-shot: once a receive (`try_receive` or the receiver's `poll`) has returned the
    value, the relay is `Done`, and every later `try_receive` answers `AlreadyReceived`. -/
theorem relay_once (r : Relay) (alive : Bool) (w v : Nat) :
    ((tryReceive r alive).2 = .ok v → (tryReceive r alive).1 = .done) ∧
    ((recvPoll r w).2.1 = some v → (recvPoll r w).1 = .done) ∧
    (∀ alive', tryReceive .done alive' = (.done, .error .alreadyReceived)) := by
  refine ⟨?_, ?_, fun _ => rfl⟩
  · cases r <;> simp [tryReceive]
  · cases r <;> simp [recvPoll]

example : (tryReceive (.computed 7) true).2 = .ok 7 := rfl

/-- ★ "delivers each spawned task's result to its receiver exactly once": in every reachable state the
    value of task `c` has been handed to a receiver at most once, exactly when its relay is `Done`;
    the relay of a finished task holds the value or is `Done`, that of an unfinished task has not been
    sent; and the branches that panic in Rust (`unreachable!()` in `Sender::send`, "Receiver polled
    after receiving the value") are never taken.  Hence for a finished task: deliveries so far plus
    successful results of any two further `try_receive` calls = 1. -/
theorem result_delivered_once (s : State) (h : Reachable s) (c : Nat) (hc : c < s.ntasks) :
    s.delivered c = (if s.relay c = .done then 1 else 0) ∧
    (s.fut c = none ↔ (s.relay c).sent = true) ∧
    s.bad = false ∧
    (s.fut c = none →
      let r1 := tryReceive (s.relay c) false
      let r2 := tryReceive r1.1 false
      s.delivered c + (if r1.2.isOk then 1 else 0) + (if r2.2.isOk then 1 else 0) = 1 ∧
      r2.2 = .error .alreadyReceived) := by
  have hi := reachable_inv h
  refine ⟨hi.deliv c, hi.sync c hc, hi.nobad, ?_⟩
  intro hf
  have hs := (hi.sync c hc).mp hf
  have hd := hi.deliv c
  -- a finished task has sent: the relay holds the value (one `try_receive` takes it) or it has been taken
  rcases Relay.sent_iff.mp hs with ⟨v, hr⟩ | hr <;>
    · rw [hr] at hd; simp [hr, tryReceive, hd, Except.isOk, Except.toBool]

example : (stepN 6 (init false [[.yield, .wait 0], [.signal 0, .spawn, .join], [.yield]] 2)).relay 2 = .done := by
  decide

/-- The executable Spec (`Spec.lean`: the clauses of the property text as decidable checks, which the
    driver evaluates after every step of the model's run and prints as its verdict) holds in every
    reachable state, and its FIFO check holds across every step: the model never earns a `FAIL`. -/
theorem spec_holds (s : State) (h : Reachable s) :
    checkB s = none ∧ ∀ r, step s = some r → fifoB s.queue r.1.queue = true :=
  ⟨checkB_of_inv (reachable_inv h) (reachable_trace h), fun r hs => fifoB_of_step s r hs⟩

example : checkB (stepN 3 (init true [[.wait 0, .signal 0], [.signal 0]] 2)) = none := by decide

/-- ★ "every order of wake-ups", also from outside the tasks: if between any two steps of the executor
    anybody wakes any task (any number of times), signals a channel, spawns a root through
    `Executor::spawn`, clones a registered waker, or takes a registered waker and wakes it
    (`ReachableX`), every clause above still holds — the queue has no duplicate, no unfinished task is
    lost, no task is polled after completion or re-entrantly, results are delivered once, the panic
    branches are not taken, and the executable Spec holds. -/
theorem outside_wakes_safe (s : State) (h : ReachableX s) :
    s.queue.Nodup ∧
    (∀ t acts, t < s.ntasks → s.fut t = some acts → t ∈ s.queue ∨ Blocked s t acts) ∧
    NoPollAfterFin s.log ∧ Bracketed s.log ∧
    (∀ c, s.delivered c = if s.relay c = .done then 1 else 0) ∧
    s.bad = false ∧ checkB s = none := by
  obtain ⟨hi, ht⟩ := reachableX_inv h
  exact ⟨hi.nodup, fun t acts htl hf => hi.live t acts rfl htl (by simp) hf, ht.npaf, ht.brack, hi.deliv,
    hi.nobad, checkB_of_inv hi ht⟩

/-- a run with a wake-up of a queued task from outside, a wake-up of a finished task, a cloned waker -/
example : ReachableX
    (wake (stepN 2 (wake (wake (stepN 1 (init false [[.wait 0], [.signal 0]] 2)) 1) 1)) 1) :=
  .wake 1 (stepN_reachableX 2 (.wake 1 (.wake 1 (stepN_reachableX 1 (.init _ _ _)) (by decide)) (by decide)))
    (by decide)

/-- The reference count of an unfinished task (`Rc<Task>` held by the queue, by registered wakers, by
    relays — what `waker.rs` maintains) never drops to zero as long as nobody throws a waker away or
    drops the executor: its future and its `Sender` stay alive, so its receiver never reports
    `SenderDropped`. -/
theorem never_lost (s : State) (h : ReachableX s) (nch t : Nat) (acts : Script) (ht : t < s.ntasks)
    (hf : s.fut t = some acts) (hch : ∀ k, t ∈ s.waiters k → k < nch) :
    lostB s nch t = false ∧
    (tryReceive (s.relay t) ((s.fut t).isSome && !lostB s nch t)).2 = .error .notSent := by
  have hi := (reachableX_inv h).1
  have hp := refs_pos hi nch t acts ht hf hch
  have hl : lostB s nch t = false := by
    unfold lostB
    have : (refs s nch t == 0) = false := by
      cases hb : refs s nch t == 0 with
      | false => rfl
      | true => have := beq_iff_eq.mp hb; omega
    simp [this]
  refine ⟨hl, ?_⟩
  have hns : (s.relay t).sent = false := hi.unsent ht hf
  rw [hl, hf]
  rcases Relay.unsent_iff.mp hns with hr | ⟨w, hr⟩ <;> rw [hr] <;> rfl

/-- ★ The forwarder under every sequence of `send` / drop sender / drop receiver / `try_receive` /
    `poll` with any wakers: at most one value is ever handed out and it is the value sent; the relay
    is `Done` exactly when it has been handed out, and `try_receive` then answers `AlreadyReceived`;
    `Sender::send` issues at most one wake-up in total; its `unreachable!()` is never reached. -/
theorem forwarder_protocol (ops : List FOp) :
    let f := frun {} ops
    f.got.length ≤ 1 ∧ (∀ v, v ∈ f.got → v = 7) ∧
    (f.got.length = 1 ↔ f.relay = .done) ∧
    (f.relay = .done → ∀ alive, (tryReceive f.relay alive).2 = .error .alreadyReceived) ∧
    f.nwakes ≤ 1 ∧ (∀ w, f.woken w ≤ 1) ∧ f.bad = false := by
  intro f
  have h : FInv f := finv_run ops {} finv_init
  have hg := h.got
  refine ⟨?_, ?_, ?_, ?_, h.wakes, fun w => Nat.le_trans (h.each w) h.wakes, h.nobad⟩
  · rw [hg]; split <;> simp
  · intro v hv; rw [hg] at hv; split at hv <;> simp at hv; exact hv
  · rw [hg]; split <;> simp [*]
  · intro hd alive; rw [hd]; rfl

/-- ★ "second poll overwriting the waker": `Sender::send` wakes exactly the waker stored by the *last*
    pending poll of the receiver, and nobody else. -/
theorem send_wakes_last_poller (f : FState) (w w' : Nat) (htx : f.tx = true) (hrx : f.rx = true)
    (hs : f.relay.sent = false) :
    let f1 := (fstep f (.poll w)).1
    let f2 := (fstep f1 (.poll w')).1
    let f3 := (fstep f2 .send).1
    f3.relay = .computed 7 ∧ f3.woken w' = f.woken w' + 1 ∧ (w ≠ w' → f3.woken w = f.woken w) := by
  -- from either unsent shape the two polls leave `Polled w'`, and the send wakes exactly `w'`
  rcases Relay.unsent_iff.mp hs with hr | ⟨w0, hr⟩ <;>
    · simp only [fstep, recvPoll, relaySend, htx, hrx, hr, Bool.not_true, Bool.false_eq_true, if_false]
      exact ⟨trivial, upd_same _ _ _, fun hne => upd_other _ _ _ _ hne⟩

example : (frun {} [.poll 0, .poll 1, .send, .try_, .try_]).got = [7] := by decide

/-- ★ At-most-once queuing, never-polled-after-completion, no re-entrant poll and exactly-once delivery as
    ONE invariant over ALL operation sequences of the `v` cases (`xRunAll` is the function the driver
    runs): `Executor::step`, whole `run_until_stalled` batches, wake-ups by value / by reference / through
    clones from outside, signals, `Spawner::spawn` from outside, `try_receive`, throwing wakers away,
    dropping the executor — in any order, from every task system.  As long as nothing has been thrown
    away (`abandoned = false`, guaranteed when no `drop`/`dropExec` occurs) also "no lost wake-up" and the
    whole executable Spec hold. -/
theorem ops_invariant (sticky : Bool) (scripts : List Script) (roots : Nat) (ops : List XOp) :
    let x := xRunAll { s := init sticky scripts roots } ops
    x.s.queue.Nodup ∧ NoPollAfterFin x.s.log ∧ Bracketed x.s.log ∧
    (∀ c, x.s.delivered c = if x.s.relay c = .done then 1 else 0) ∧ x.s.bad = false ∧
    (x.dead = true → x.s.queue = []) ∧
    ((∀ op, op ∈ ops → op.keeps = true) → x.abandoned = false ∧ x.dead = false) ∧
    (x.abandoned = false →
      (∀ t acts, t < x.s.ntasks → x.s.fut t = some acts → t ∈ x.s.queue ∨ Blocked x.s t acts) ∧
      checkB x.s = none) := by
  intro x
  have h : XInv x := xinv_xRunAll _ ops (xinv_init sticky scripts roots)
  refine ⟨h.inv.nodup, h.trace.npaf, h.trace.brack, h.inv.deliv, h.inv.nobad, fun hd => (h.dead hd).1,
    fun hk => xRunAll_keeps _ ops hk rfl rfl, ?_⟩
  intro ha
  have hi : InvX false none x.s := ha ▸ h.inv
  exact ⟨fun t acts ht hf => hi.live t acts rfl ht (by simp) hf, checkB_of_inv hi h.trace⟩

example : (xRunAll { s := init true [[.wait 0, .yield], [.wait 0]] 2 }
    [.step, .step, .byRef 0 0, .byRef 0 0, .clone 0 1, .wake 0 2, .rus, .drop 0 0, .dropExec, .wake 0 0]).s.log
    = [.poll 0, .ret 0 false, .poll 1, .ret 1 false, .poll 0, .ret 0 false, .poll 1, .ret 1 false] := by decide

/-- "When the run loop stalls …" after ANY operation sequence that threw nothing away: with an empty queue,
    every unfinished task is registered with a token-less channel or has its waker in the relay of an
    unfinished child. -/
theorem stall_genuine_ops (sticky : Bool) (scripts : List Script) (roots : Nat) (ops : List XOp)
    (hk : ∀ op, op ∈ ops → op.keeps = true) :
    let x := xRunAll { s := init sticky scripts roots } ops
    x.s.queue = [] → ∀ t acts, t < x.s.ntasks → x.s.fut t = some acts →
      (∃ k rest, acts = .wait k :: rest ∧ t ∈ x.s.waiters k ∧ x.s.tokens k = 0) ∨
      (∃ c cs rest, acts = .join :: rest ∧ x.s.kids t = c :: cs ∧ x.s.relay c = .polled t ∧
        c < x.s.ntasks ∧ (x.s.fut c).isSome = true) := by
  intro x hq t acts ht hf
  have h : XInv x := xinv_xRunAll _ ops (xinv_init sticky scripts roots)
  have ha := (xRunAll_keeps { s := init sticky scripts roots } ops hk rfl rfl).1
  exact (show InvX false none x.s from ha ▸ h.inv).stalled hq t acts ht hf

/-- What popping a task does (`Task::poll`): an unfinished task's future IS polled (trace `poll t`,
    `ret t b`, result `b`), and if it returns `Ready` the slot is emptied; a finished task's slot is not
    touched and `true` is returned (trace `noop t`). -/
theorem poll_runs_future (s : State) (t : Nat) :
    (s.fut t = none → (poll s t).1.log = s.log ++ [.noop t] ∧ (poll s t).2 = true ∧
      ∀ y, (poll s t).1.fut y = s.fut y) ∧
    (∀ acts, s.fut t = some acts →
      (poll s t).1.log = s.log ++ [.poll t, .ret t (poll s t).2] ∧
      ((poll s t).2 = true → (poll s t).1.fut t = none)) := by
  rcases poll_trace s t with ⟨hf, hl, hb, _, hfu⟩ | ⟨acts, hf, hl, _, _, hfin⟩
  · exact ⟨fun _ => ⟨hl, hb, hfu⟩, fun a ha => (by rw [hf] at ha; cases ha)⟩
  · exact ⟨fun hn => (by rw [hf] at hn; cases hn), fun _ _ => ⟨hl, hfin.mp⟩⟩

example : (poll { (init false [[.yield]] 1) with queue := [] } 0).1.log = [.poll 0, .ret 0 false] := by decide

/-- ★ `run_until_stalled` is iterated `step`: its final state is `stepN`, its result counts exactly the
    polls that returned `true` (`Ready`, and polls of emptied slots), and when it reports a stall the queue
    is empty — so by `stall_genuine` every unfinished task is then genuinely waiting.  A batch inside an
    operation sequence is the same as that many `step` operations. -/
theorem run_until_stalled_spec (n : Nat) (s : State) (c : Nat) :
    (runUntilStalled n s c).1 = stepN n s ∧
    (∃ evs, (stepN n s).log = s.log ++ evs ∧ (runUntilStalled n s c).2.1 = c + evs.countP Ev.isDone) ∧
    ((runUntilStalled n s c).2.2 = true → (stepN n s).queue = []) ∧
    (∀ x : XState, x.dead = false → xRun x .rus = xRunAll x (List.replicate maxSteps .step)) := by
  obtain ⟨evs, hl, e⟩ := runUntilStalled_eq n s c
  refine ⟨by rw [e], ⟨evs, hl, by rw [e]⟩, fun h => by rw [e] at h; exact List.isEmpty_iff.mp h, ?_⟩
  intro x hd
  rw [xRunAll_steps maxSteps x hd, xRun_rus hd]

example : (runUntilStalled 100 (init true [[.wait 0, .signal 0], [.signal 0]] 2) 0).2 = (3, true) := by decide

/-- ★ FIFO order of the wake queue under ARBITRARY interleavings ("lets no woken task be starved by others
    that keep re-waking themselves"; also not by outside wake-ups, signals or spawns through `Executor::spawn`
    / `Spawner::spawn`, which all push behind): if `t` is at position `k` of the queue, then after any
    sequence of operations (steps, outside wakes in every form, signals, spawns, `try_receive`, waker
    clones/drops — everything but dropping the executor; batches are covered by `run_until_stalled_spec`)
    that contains `j ≤ k` steps, `t` is at position `k - j`; so after exactly `k` steps it is at the front
    and the next step polls it. -/
theorem fifo_interleaved (x : XState) (hd : x.dead = false) (ops : List XOp)
    (hp : ∀ op, op ∈ ops → op.plain = true) (k t : Nat) (hk : x.s.queue[k]? = some t) :
    (ops.count .step ≤ k → (xRunAll x ops).s.queue[k - ops.count .step]? = some t) ∧
    (ops.count .step = k → ∃ q, (xRunAll x ops).s.queue = t :: q ∧
      (xRun (xRunAll x ops) .step).s = (poll { (xRunAll x ops).s with queue := q } t).1) := by
  refine ⟨fun hc => (fifo_position ops x hd hp k t hk hc).2, ?_⟩
  intro hc
  obtain ⟨hd', hpos⟩ := fifo_position ops x hd hp k t hk (Nat.le_of_eq hc)
  rw [hc, Nat.sub_self] at hpos
  cases hq : (xRunAll x ops).s.queue with
  | nil => rw [hq] at hpos; cases hpos
  | cons a q =>
    rw [hq] at hpos
    simp only [List.getElem?_cons_zero, Option.some.injEq] at hpos
    subst hpos
    refine ⟨q, rfl, ?_⟩
    rw [xRun_step hd', stepN_one, step_cons hq]

/-- ★ "a task woken before another is polled before it": if `a` is ahead of `b` in the queue (positions
    `i < j`), then under any interleaving, at the moment `a` reaches the front (after `i` steps) `b` is
    still queued behind it (position `j - i > 0`) — `b` is never polled before `a`. -/
theorem fifo_order (x : XState) (hd : x.dead = false) (ops : List XOp)
    (hp : ∀ op, op ∈ ops → op.plain = true) (i j a b : Nat) (hij : i < j)
    (ha : x.s.queue[i]? = some a) (hb : x.s.queue[j]? = some b) (hc : ops.count .step = i) :
    (xRunAll x ops).s.queue[0]? = some a ∧ (xRunAll x ops).s.queue[j - i]? = some b ∧ 0 < j - i := by
  have h1 := (fifo_position ops x hd hp i a ha (Nat.le_of_eq hc)).2
  have h2 := (fifo_position ops x hd hp j b hb (by omega)).2
  rw [hc] at h1 h2
  rw [Nat.sub_self] at h1
  exact ⟨h1, h2, by omega⟩

/-- ★ "a task queued at step t is polled within |queue at t| steps", under any interleaving: after a
    wake-up, the task sits at a position `k < |queue|`, and whatever else happens it is at the front after
    exactly `k` further steps. -/
theorem woken_polled_interleaved (x : XState) (hd : x.dead = false) (t : Nat) :
    ∃ k, k < (wake x.s t).queue.length ∧
      ∀ ops : List XOp, (∀ op, op ∈ ops → op.plain = true) → ops.count .step = k →
        ∃ q, (xRunAll { x with s := wake x.s t } ops).s.queue = t :: q := by
  have hm : t ∈ (wake x.s t).queue := mem_enq_self _ _
  obtain ⟨k, hk, hkt⟩ := List.getElem_of_mem hm
  refine ⟨k, hk, fun ops hp hc => ?_⟩
  obtain ⟨q, hq, _⟩ := (fifo_interleaved { x with s := wake x.s t } hd ops hp k t
    (by show (wake x.s t).queue[k]? = some t; rw [List.getElem?_eq_getElem hk, hkt])).2 hc
  exact ⟨q, hq⟩

example : (xRunAll { s := init false [[.yield, .yield, .yield], [.wait 0], [.signal 0]] 3 }
    [.step, .spawn, .step, .signal 0]).s.queue[2 - 2]? = some 2 := by decide

/-- ★ Every way of spawning pushes the new task to the BACK of the queue (never in front of a task that
    is already waiting to be polled): `Executor::spawn` of the roots (queued in order `0,1,…`),
    `Spawner::spawn` from outside any poll, and `Spawner::spawn` by a task during its poll. -/
theorem spawn_goes_to_back :
    (∀ sticky scripts roots, (init sticky scripts roots).queue = List.range' 0 (scripts.take roots).length) ∧
    (∀ (x : XState) sc rest, x.dead = false → x.s.pool = sc :: rest →
      (xRun x .spawn).s.queue = x.s.queue ++ [x.s.ntasks] ∧ (xRun x .spawn).s.fut x.s.ntasks = some sc) ∧
    (∀ (s : State) t sc rest, s.pool = sc :: rest →
      (spawnChild s t).queue = s.queue ++ [s.ntasks] ∧ (spawnChild s t).fut s.ntasks = some sc) := by
  refine ⟨?_, ?_, ?_⟩
  · intro sticky scripts roots
    unfold init
    rw [(spawnRoots_queue _ _).1]
    rfl
  · intro x sc rest hd hp
    rw [xRun_spawn hd hp]
    exact ⟨rfl, by simp [spawnNew, upd_apply]⟩
  · intro s t sc rest hp
    simp only [spawnChild, hp]
    exact ⟨rfl, by simp [spawnNew, upd_apply]⟩

example : (spawnChild (init false [[.spawn], [.yield]] 1) 0).queue = [0, 1] := by decide

/-- The decidable checks of the Spec (the driver's verdict column) mean exactly the clauses they are
    named after: both directions. -/
theorem spec_checks_meaning (s : State) (a b : List Nat) (log : List Ev) :
    (nodupB a = true ↔ a.Nodup) ∧
    (fifoB a b = true ↔ ∃ l, b = a.tail ++ l) ∧
    (noLostB s = true ↔
      ∀ t acts, t < s.ntasks → s.fut t = some acts → t ∈ s.queue ∨ blockedB s t acts = true) ∧
    (∀ t acts, blockedB s t acts = true ↔
      (∃ k rest, acts = .wait k :: rest ∧ t ∈ s.waiters k ∧ s.tokens k = 0) ∨
      (∃ c cs rest, acts = .join :: rest ∧ s.kids t = c :: cs ∧ s.relay c = .polled t ∧ (s.fut c).isSome = true)) ∧
    (bracketedB log = true ↔ Bracketed log) ∧
    (noPollAfterFinB log = true ↔ log.Pairwise fun e e' => ∀ t, e = .ret t true → e' ≠ .poll t) :=
  ⟨nodupB_iff a, fifoB_iff a b, noLostB_iff s, fun t acts => blockedB_iff s t acts, bracketedB_iff log,
   noPollAfterFinB_iff log⟩

example : nodupB [1, 2, 1] = false ∧ bracketedB [.poll 0, .poll 1] = false := by decide

/-- ★ Every `Executor::step` makes progress towards the stall: the work left (`work`: actions not yet
    executed in all slots and in the pool, plus one per unfinished task) never grows, and a step that leaves
    it unchanged — the poll of an emptied slot, of a `wait` without token, of a `join` on an unfinished child
    — leaves the queue exactly one entry shorter; the queue never holds more than `cap` (the number of tasks
    that can ever exist) entries.  So `stallBound` strictly decreases. -/
theorem step_makes_progress (s : State) (h : Reachable s) (r : State × Bool) (hs : step s = some r) :
    cap r.1 = cap s ∧
    (work r.1 < work s ∨ (work r.1 = work s ∧ r.1.queue.length + 1 = s.queue.length)) ∧
    r.1.queue.length ≤ cap s ∧ stallBound r.1 < stallBound s := by
  have hi := reachable_inv h
  obtain ⟨hc, hm⟩ := step_measure hi.qlt r hs
  exact ⟨hc, hm, hc ▸ queue_le_cap (inv_step hi r hs), stallBound_step hi r hs⟩

example : step (init true [[.yield, .wait 0], [.signal 0]] 2) ≠ none := by decide

/-- ★ `Executor::run_until_stalled` terminates, with an explicit bound (the model's loop has a step budget; this
    shows that the budget is never what ends it): from every
    reachable state, after `stallBound s` calls of `step` the queue is empty; any larger budget gives the same
    final state, the same count and the flag "stalled" — the budget is not observable. -/
theorem run_until_stalled_terminates (s : State) (h : Reachable s) (n c : Nat) (hn : stallBound s ≤ n) :
    (stepN n s).queue = [] ∧ (runUntilStalled n s c).2.2 = true ∧
    runUntilStalled n s c = runUntilStalled (stallBound s) s c := by
  have hi := reachable_inv h
  have hq := stepN_stalls n hi hn
  refine ⟨hq, ?_, runUntilStalled_budget n hi hn c⟩
  obtain ⟨_, _, e⟩ := runUntilStalled_eq n s c
  rw [e, hq]; rfl

example : stallBound (stepN 2 (init true [[.yield, .wait 0], [.signal 0]] 2)) ≤ 9 := by decide

/-- ★ … for every task system, with the bound read off the case text: (number of actions + number of
    scripts) × (number of scripts + 1) + number of roots `step` calls always reach the stall.  (The driver
    checks `stallBound ≤ maxSteps` for every case it runs, so "end=cut" can never be printed.) -/
theorem stall_bound_of_system (sticky : Bool) (scripts : List Script) (roots : Nat) :
    stallBound (init sticky scripts roots) =
      (scripts.map fun sc => sc.length + 1).sum * (scripts.length + 1) + min roots scripts.length ∧
    ∀ n c, stallBound (init sticky scripts roots) ≤ n →
      (runUntilStalled n (init sticky scripts roots) c).2.2 = true :=
  ⟨stallBound_init sticky scripts roots,
   fun n c hn => (run_until_stalled_terminates _ ⟨sticky, scripts, roots, 0, rfl⟩ n c hn).2.1⟩

/-- … and inside ANY operation sequence (outside wake-ups, signals, spawns, dropped wakers, …): a
    `run_until_stalled` batch started within the bound ends with an empty queue. -/
theorem batch_reaches_stall (sticky : Bool) (scripts : List Script) (roots : Nat) (ops : List XOp) :
    let x := xRunAll { s := init sticky scripts roots } ops
    stallBound x.s ≤ maxSteps → (xRun x .rus).s.queue = [] := by
  intro x hb
  have h : XInv x := xinv_xRunAll _ ops (xinv_init sticky scripts roots)
  cases hd : x.dead with
  | true => rw [(xRun_dead hd).2]; exact (h.dead hd).1
  | false => rw [xRun_rus hd]; exact stepN_stalls maxSteps h.inv hb

example : stallBound (xRunAll { s := init true [[.wait 0, .yield], [.wait 0]] 2 }
    [.step, .step, .byRef 0 0, .clone 0 1, .wake 0 2]).s ≤ maxSteps := by decide

/-- The `bool` of `Executor::step`: `Some(true)` exactly when the popped
    task is finished afterwards (its future returned `Ready` now, or its slot was empty already); the slots
    of all other existing tasks are untouched by the step. -/
theorem step_result (s : State) (h : Reachable s) (r : State × Bool) (hs : step s = some r) :
    ∃ t q, s.queue = t :: q ∧ (r.2 = true ↔ r.1.fut t = none) ∧
      ∀ u, u < s.ntasks → u ≠ t → r.1.fut u = s.fut u := by
  obtain ⟨t, q, hq, rfl⟩ := step_cases hs
  refine ⟨t, q, hq, ?_⟩
  rcases poll_trace { s with queue := q } t with ⟨hf, _, hb, _, hfu⟩ | ⟨_, _, _, _, hfu, hfin⟩
  · exact ⟨⟨fun _ => (hfu t).trans hf, fun _ => hb⟩, fun u _ _ => hfu u⟩
  · exact ⟨hfin, hfu⟩

/-- ★ "delivers each spawned task's result to its receiver": WHAT is delivered (`result_delivered_once` says
    "once").  After every
    operation sequence of every task system, for every task `c`: a value has been returned (`ret c`) exactly
    if `c` is finished; it is `value c` — computed from the values `c` itself received from its children, so
    values travel through chains of relays unchanged; a relay in state `Computed v` holds exactly the returned
    value; and the list of values the relay has handed to a receiver (`recv c`: the parent's `join`, or
    `try_receive`) is `[that value]` if the relay is `Done` and empty otherwise. -/
theorem value_delivered (sticky : Bool) (scripts : List Script) (roots : Nat) (ops : List XOp) :
    let s := (xRunAll { s := init sticky scripts roots } ops).s
    ∀ c, c < s.ntasks →
      ((s.ret c).isSome = true ↔ s.fut c = none) ∧
      (∀ v, s.ret c = some v → v = value s c) ∧
      (∀ v, s.relay c = .computed v → s.ret c = some v) ∧
      s.recv c = (if s.relay c = .done then (s.ret c).toList else []) ∧
      (s.relay c = .done → s.recv c = [value s c]) := by
  intro s c hc
  have hi : XInv (xRunAll { s := init sticky scripts roots } ops) := xinv_xRunAll _ ops (xinv_init sticky scripts roots)
  have hv : ValInv s := hi.val
  refine ⟨(hv c).retfin hc, (hv c).retval, (hv c).comp, (hv c).recvd, ?_⟩
  intro hd
  have hfin : s.fut c = none := (hi.inv.sync c hc).mpr (by rw [hd]; rfl)
  have hsome := ((hv c).retfin hc).mpr hfin
  cases hr : s.ret c with
  | none => rw [hr] at hsome; cases hsome
  | some v =>
    have := (hv c).recvd
    rw [hd, hr] at this
    rw [this, ← (hv c).retval v hr]
    rfl

/-- a chain: task 2 returns 3, task 1 joins it and returns 2 + 7·3 = 23, task 0 joins that: 1 + 7·23 = 162 -/
example : let s := (xRunAll { s := init false [[.spawn, .join], [.spawn, .join], []] 1 } [.rus, .try_ 0]).s
    s.recv 2 = [3] ∧ s.recv 1 = [23] ∧ s.recv 0 = [162] := by decide

/-- `stallB` and `relayB`, the two checks of the Spec column that `spec_checks_meaning` does not speak of, mean
    exactly the clauses they are named after: both directions. -/
theorem spec_checks_meaning_rest (s : State) :
    (stallB s = true ↔
      (s.queue = [] → ∀ t acts, t < s.ntasks → s.fut t = some acts → blockedB s t acts = true)) ∧
    (relayB s = true ↔
      ∀ c, c < s.ntasks → s.delivered c = (if s.relay c = .done then 1 else 0) ∧
        (s.fut c = none ↔ (s.relay c).sent = true)) :=
  ⟨stallB_iff s, relayB_iff s⟩

example : stallB { (init false [[.wait 0]] 1) with queue := [] } = false := by decide

open YashModel.Generated.ExecutorTables in
/-- ★ The relay protocol of the model IS the table re-extracted from forwarder.rs on every run
    (`tools/tables/executor.py`): for every relay, `relaySend` / `tryReceive` / `recvPoll` of Model.lean are
    the interpretation (`sendBy` / `tryBy` / `pollBy`, Tables.lean) of the arm the Rust `match` takes for that
    variant — so an edited arm of `Sender::send`, `Receiver::try_receive` or `Receiver::poll` breaks this
    theorem, not only the differential run. -/
theorem forwarder_tables_agree (r : Relay) (v w : Nat) (alive : Bool) :
    sendBy sendStores (sendArm r.tag) r v = some (relaySend r v) ∧
    tryBy (tryReceiveArm r.tag) r alive = some (tryReceive r alive) ∧
    pollBy (pollArm r.tag) r w = some (recvPoll r w) ∧
    hasPayload r.tag = (match r with | .polled _ => true | .computed _ => true | _ => false) := by
  cases r <;> cases alive <;> exact ⟨rfl, rfl, rfl, rfl⟩

open YashModel.Generated.ExecutorTables in
/-- ★ The queue discipline of the model IS the one re-extracted from task.rs / executor.rs on every run:
    `Task::wake` = `enq` (duplicate check, then push to the extracted end), `Executor::step` pops the
    extracted end and polls that task, `enqueue` / `enqueue_forwarding` (all spawn paths) push the new task
    to the extracted end. -/
theorem queue_tables_agree :
    (∀ q t, enq q t = enqBy wakeDedup wakePush q t) ∧
    (∀ s, step s = (popAt stepPop s.queue).map fun p => poll { s with queue := p.2 } p.1) ∧
    (∀ s own sc, (spawnNew s own sc).queue = pushAt enqueueForwardingPush s.queue s.ntasks) ∧
    enqueuePush = enqueueForwardingPush := by
  refine ⟨?_, ?_, fun _ _ _ => rfl, rfl⟩
  · intro q t
    unfold enq enqBy
    by_cases h : t ∈ q
    · simp [h, wakeDedup]
    · simp [h, wakeDedup, wakePush, pushAt]
  · intro s
    unfold step
    cases s.queue <;> rfl

open Nested in
/-- ★ With futures that call `Executor::step` from inside their own poll (nested polling of other tasks, any
    depth, any self- and cross-wake-ups in between), for every system of scripts and every number of top-level
    steps: the queue never holds a task twice; the trace is well nested and the polls it leaves open are
    exactly the borrowed slots, without repetition — no future is ever entered while its poll is in progress;
    no future is entered after it returned `Ready`, its slot stays empty; between top-level steps no slot is
    borrowed unless the recursion guard has panicked; the depth budget of the definition is never exhausted;
    and the executable Spec check printed by the driver holds. -/
theorem nested_step_safe (scripts : List NScript) (n : Nat) :
    let s := nStepN n (nInit scripts)
    s.queue.Nodup ∧
    (replay s.log [] = some s.stack ∧ s.stack.Nodup) ∧
    (s.log.Pairwise fun e e' => ∀ t, e = .exit t true → e' ≠ .enter t) ∧
    (∀ t, NEv.exit t true ∈ s.log → s.fut t = none) ∧
    (s.panicked = false → s.stack = []) ∧ s.starved = false ∧ nCheck s = none := by
  intro s
  have h : NTop s := ntop_stepN n (ntop_init scripts)
  exact ⟨h.inv.qn, ⟨h.inv.rp, h.inv.sn⟩, h.inv.nef, h.inv.fin, h.idle, h.inv.ns, nCheck_of h⟩

open Nested in
/-- three levels of nesting, then the guard: task 2 wakes task 0 (whose poll is in progress) and steps -/
example : (nStepN 5 (nInit [[.nest, .nest], [.nest], [.wake 0, .nest]])).log =
    [.enter 0, .enter 1, .enter 2, .guard 0] := by decide

open Nested in
/-- ★ The recursion guard of `Task::poll` ("never polls … re-entrantly" when a task whose poll is in progress
    has been woken and a nested `step` pops it): the future is NOT entered — the only effect is the guard
    event and the panic, every slot is as before; a task whose poll is not in progress and whose slot is empty
    gets the no-op (`noop t`); and in a well-nested trace a second `enter t` comes only after an `exit t _`. -/
theorem recursion_guard (d : Nat) (s : NState) (t : Nat) :
    (t ∈ s.stack → nPoll (d + 1) s t = { nlog s (.guard t) with panicked := true }) ∧
    (t ∉ s.stack → s.fut t = none → nPoll (d + 1) s t = nlog s (.noop t)) ∧
    (∀ log', wellNestedB log' = true → ∀ l1 l2 l3, log' = l1 ++ [.enter t] ++ l2 ++ [.enter t] ++ l3 →
      ∃ b, NEv.exit t b ∈ l2) := by
  refine ⟨fun h => by simp [nPoll, h], fun h hf => by simp [nPoll, h, hf], ?_⟩
  intro log' hw l1 l2 l3 e
  exact wellNested_no_reentry l1 l2 l3 t (e ▸ hw)

open Nested in
example : (1 : Nat) ∈ ({ stack := [2, 1, 0] } : NState).stack := by decide

open Nested in
/-- ★ "lets no woken task be starved by others that keep re-waking themselves", with `Executor::step` also called
    from INSIDE polls (`fifo_bound` is about futures that do not nest): between any
    two step boundaries of any nested-step system, the tasks popped meanwhile — by top-level and by nested steps
    alike, each `Task::poll` call (future entered, no-op on an emptied slot, recursion guard) being one pop —
    followed by the queue now, are the queue then followed by what was pushed.  So the task at position `k` of
    the queue is exactly the `k+1`-th task popped from then on, whoever pops and whatever the futures do in
    between; until then it sits at position `k - pops`; and the check the driver prints per step holds. -/
theorem nested_fifo (scripts : List NScript) (n m : Nat) :
    let s := nStepN n (nInit scripts)
    let s' := nStepN m s
    (∃ evs L, s'.log = s.log ++ evs ∧ s.queue ++ L = popsOf evs ++ s'.queue) ∧
    (∀ k t, s.queue[k]? = some t → ∃ evs, s'.log = s.log ++ evs ∧
      ((popsOf evs)[k]? = some t ∨
       ((popsOf evs).length ≤ k ∧ s'.queue[k - (popsOf evs).length]? = some t))) ∧
    nFifoB s s' = true := by
  intro s s'
  have h : Fifo s s' := fifo_stepN m (ntop_stepN n (ntop_init scripts))
  exact ⟨h, fun k t hk => nfifo_position h k t hk, nFifoB_of h⟩

open Nested in
/-- task 0 steps twice from inside its poll and yields: tasks 1, 2 are popped in queue order inside that poll,
    task 3 (position 3) is the 4th task popped -/
example : let s := nInit [[.nest, .nest, .yield], [.yield], [.yield], []]
    popsOf ((nStepN 2 s).log.drop s.log.length) = [0, 1, 2, 3] ∧ (nStepN 2 s).queue = [1, 2, 0] := by decide

open Rc in
/-- ★ The reference counting of `Rc<Task>` that waker.rs implements by hand (mechanism "reference-counted raw
    waker vtable"): `RcModel.lean`
    transcribes the four vtable entries, `into_waker`, `Task::wake(self: Rc<Self>)`, the `Rc::clone` of
    `Task::poll`, the local handle of `Executor::step` and `Rc::new` of `enqueue*`, and runs them beside the task
    system.  (1) The counted run IS the run of Model.lean: after every operation sequence of the `v` leg its task
    system and "executor dropped" flag are those of `xRunAll` — so all theorems above are about it.  (2) After
    every operation sequence, as long as the ghost flag of the instrumentation is clear (no `Waker` that does not
    exist was consumed — Rust's ownership rules; the driver checks the flag on every case): the strong count of
    every task is exactly (its entries in the wake queue) + (live `Waker`s of it) + (local handles), and no count
    was ever decremented at zero — no use after free, no double free, no leak of a unit. -/
theorem rc_counting (sticky : Bool) (scripts : List Script) (roots : Nat) (ops : List XOp) :
    let r := rRunAll (rInit sticky scripts roots) ops
    let x := xRunAll { s := init sticky scripts roots } ops
    (r.s = x.s ∧ r.dead = x.dead) ∧
    (r.gunder = false →
      (∀ t, r.strong t = r.s.queue.count t + r.wk t + r.loc t) ∧ r.under = false ∧
      (∀ t, r.s.ntasks ≤ t → r.wk t = 0 ∧ r.loc t = 0)) := by
  intro r x
  refine ⟨?_, ?_⟩
  · exact same_rRunAll ops _ _ (same_rInit sticky scripts roots) (xinv_init sticky scripts roots)
  · intro hg
    have h1 : Pres (rInit sticky scripts roots) r := pres_rRunAll ops _
    have h0 : Pres ({ s := { pool := scripts.drop roots, sticky := sticky } } : RState) (rInit sticky scripts roots) :=
      pres_rSpawnRoots _ _
    obtain ⟨_, _, f⟩ := (h0.trans h1) hg
    have hb := f (balU_start sticky (scripts.drop roots))
    exact ⟨hb.bal, hb.nounder, fun t ht => ⟨(hb.fresh t ht).1, (hb.fresh t ht).2.1⟩⟩

open Rc in
/-- a run with by-reference wakes of a queued task, a cloned waker woken by value, a dropped waker, the executor
    dropped and a wake-up afterwards: flag clear, task 0 still has one unit (the waker left in the channel) -/
example : let r := rRunAll (rInit true [[.wait 0, .yield], [.wait 0]] 2) [.step, .step, .byRef 0 0, .byRef 0 0, .clone 0 1, .wake 0 2, .rus, .drop 0 0, .dropExec, .wake 0 0]
    r.gunder = false ∧ r.under = false ∧ r.strong 0 = 1 ∧ r.wk 0 = 1 ∧ r.s.queue = [] := by decide

open Rc in
/-- ★ The vtable entries one by one, from ANY state in which the caller really holds what it passes (a live
    `Waker` of `t`: `wk t > 0`) and the accounting identity holds: `clone` adds one unit and one waker; `drop`
    removes one of each; `wake` consumes the waker and either moves its unit into the queue (not queued, executor
    alive: queue grows by `t` at the back, count unchanged) or gives it back (already queued or executor gone:
    count - 1, queue unchanged); `wake_by_ref` leaves the waker alive and adds a unit exactly when the task gets
    queued.  In all four the identity still holds afterwards and nothing was decremented at zero. -/
theorem vtable_accounting (r : RState) (t : Nat) (hb : BalU r) (hg : r.gunder = false) (hw : 0 < r.wk t) :
    (BalU (vtClone r t) ∧ (vtClone r t).strong t = r.strong t + 1 ∧ (vtClone r t).wk t = r.wk t + 1) ∧
    (BalU (vtDrop r t) ∧ (vtDrop r t).strong t + 1 = r.strong t ∧ (vtDrop r t).wk t + 1 = r.wk t) ∧
    (BalU (vtWake r t) ∧ (vtWake r t).wk t + 1 = r.wk t ∧
      (vtWake r t).strong t + (if r.dead = false ∧ t ∉ r.s.queue then 0 else 1) = r.strong t ∧
      (vtWake r t).s.queue = (if r.dead = false then enq r.s.queue t else r.s.queue)) ∧
    (BalU (vtWakeByRef r t) ∧ (vtWakeByRef r t).wk t = r.wk t ∧
      (vtWakeByRef r t).strong t = r.strong t + (if r.dead = false ∧ t ∉ r.s.queue then 1 else 0) ∧
      (vtWakeByRef r t).s.queue = (if r.dead = false then enq r.s.queue t else r.s.queue)) := by
  have hwn : r.wk t ≠ 0 := by omega
  have ht := hb.lt (.inl hwn)
  have hs : r.strong t ≠ 0 := by have := hb.bal t; omega
  have keep : ∀ {r'}, Pres r r' → r'.gunder = false → BalU r' := fun p g => (p g).2.2 hb
  have hq : ∀ s : State, (keepQ r.dead r.s (wake s t)).queue = if r.dead = false then enq s.queue t else r.s.queue := by
    intro s; cases r.dead <;> rfl
  refine ⟨?_, ?_, ?_, ?_⟩
  · have e := vtClone_eq (r := r) ht
    exact ⟨keep (pres_vtClone r t) (by rw [e]; exact hg), by simp [e, upd], by simp [e, upd]⟩
  · have e := vtDrop_eq (r := r) hs hwn
    refine ⟨keep (pres_vtDrop r t) (by rw [e]; exact hg), ?_, ?_⟩ <;> simp [e, upd] <;> omega
  · have e : vtWake r t =
        taskWake { r with wk := upd r.wk t (r.wk t - 1), loc := upd r.loc t (r.loc t + 1) } t := by
      rw [vtWake, fromRaw_eq ht hwn]
    rw [taskWake_eq (by exact hs) (by simp [upd])] at e
    refine ⟨keep (pres_vtWake r t) (by rw [e]; split <;> exact hg), ?_, ?_, by rw [vtWake_s, hq]⟩
    · rw [e]; split <;> simp [upd] <;> omega
    · rw [e]; split <;> simp [upd] <;> omega
  · have e : vtWakeByRef r t =
        taskWake { r with strong := upd r.strong t (r.strong t + 1), loc := upd r.loc t (r.loc t + 1) } t := by
      rw [vtWakeByRef, ← rcClone, rcClone_eq ht]
    rw [taskWake_eq (by simp [upd]) (by simp [upd])] at e
    refine ⟨keep (pres_vtWakeByRef r t) (by rw [e]; split <;> exact hg), ?_, ?_, by rw [vtWakeByRef_s, hq]⟩
    · rw [e]; split <;> rfl
    · rw [e]; split <;> simp [upd]

open Rc in
example : BalU (rStepN 1 (rInit false [[.wait 0]] 1)) ∧ 0 < (rStepN 1 (rInit false [[.wait 0]] 1)).wk 0 := by
  have h := rc_counting false [[.wait 0]] 1 [.step]
  obtain ⟨_, h2⟩ := h
  obtain ⟨a, b, c⟩ := h2 (by decide)
  refine ⟨⟨a, b, fun t ht => ⟨(c t ht).1, (c t ht).2, ?_⟩⟩, by decide⟩
  show t ∉ (rStepN 1 (rInit false [[.wait 0]] 1)).s.queue
  have : (rStepN 1 (rInit false [[.wait 0]] 1)).s.queue = [] := by decide
  rw [this]; simp

open YashModel.Generated.ExecutorTables Rc in
/-- ★ The vtable entries of `RcModel.lean` ARE the operations re-extracted from waker.rs on every run
    (`tools/tables/executor.py`: per slot of `RawWakerVTable::new(clone, wake, wake_by_ref, drop)` the sequence
    of `Rc::increment_strong_count` / `decrement_strong_count` / `Rc::from_raw(data).wake()` / `RawWaker::new`
    of the function sitting in that slot) — a missing or doubled increment, a decrement in `wake_by_ref`, two
    functions swapped in the table break this theorem, not only the Drop probes of the run. -/
theorem vtable_tables_agree (r : RState) (t : Nat) :
    vtBy false vtCloneOps r t = vtClone r t ∧ vtBy true vtWakeOps r t = vtWake r t ∧
    vtBy false vtWakeByRefOps r t = vtWakeByRef r t ∧ vtBy true vtDropOps r t = vtDrop r t := by
  refine ⟨rfl, rfl, rfl, ?_⟩
  show decStrong (wkDown r t) t = wkDown (decStrong r t) t
  unfold decStrong wkDown
  by_cases h1 : r.wk t = 0 <;> by_cases h2 : r.strong t = 0 <;> simp [h1, h2]

open YashModel.Generated.ExecutorTables in
/-- ★ `Task::poll` and `run_until_stalled` of the model rest on facts re-extracted from task.rs / executor.rs on
    every run (mechanism "future slot emptied on completion so later polls are no-ops"): an emptied slot
    returns the extracted value without polling, the slot is emptied exactly on `Ready` and that readiness is
    returned (`poll` = `pollWith` at the extracted values), the slot is borrowed with
    `try_borrow_mut().expect(..)` (the recursion guard `nPoll` models), and `run_until_stalled` counts exactly
    the `Some(true)` steps until `None`. -/
theorem poll_tables_agree :
    (∀ s t, poll s t = pollWith pollEmptyReturns pollEmptiesOnReady s t) ∧
    pollGuards = true ∧
    (∀ n s c, runUntilStalled n s c = rusWith rusCountsTrue n s c) := by
  refine ⟨?_, rfl, ?_⟩
  · intro s t
    unfold poll pollWith pollDone
    cases s.fut t with
    | none => rfl
    | some acts =>
      simp only []
      cases (runActs t acts (logEv s (.poll t))).2 <;> rfl
  · intro n
    induction n with
    | zero => intro s c; rfl
    | succ n ih =>
      intro s c
      simp only [runUntilStalled, rusWith]
      cases step s with
      | none => rfl
      | some r => simp only [rusCountsTrue, Bool.and_true]; exact ih _ _

open Nested in
/-- ★ "polls a task again whenever it has been woken … never loses a wake-up … when the run loop stalls every
    unfinished task is genuinely waiting", with `Executor::step` also called from inside polls (any depth, any
    cross-wake-ups): as long as the recursion guard has not panicked, at every top-level step boundary every
    unfinished task is in the wake queue (these test futures return `Pending` only after waking themselves, so
    nothing else can be waited for) — hence when the run loop stalls (`step` = `None`: empty queue) EVERY task
    has completed.  (What holds during a poll — queued or one of the polls in progress — is `Runs.live`, and at
    the boundaries clause 4 of `guard_panic_frozen`.) -/
theorem nested_no_lost (scripts : List NScript) (n : Nat) :
    let s := nStepN n (nInit scripts)
    s.panicked = false →
      (∀ x, x < s.ntasks → (s.fut x).isSome = true → x ∈ s.queue) ∧
      (s.queue = [] → ∀ x, x < s.ntasks → s.fut x = none) ∧
      s.ntasks = scripts.length ∧ nLiveB s = true := by
  intro s hp
  have h : NTop s := ntop_stepN n (ntop_init scripts)
  have hst : s.stack = [] := h.idle hp
  have hl : ∀ x, x < s.ntasks → (s.fut x).isSome = true → x ∈ s.queue := by
    intro x hx hf
    rcases live_stepN n (ntop_init scripts) (live_init scripts) x hx hf with h1 | h1
    · exact h1
    · rw [hst] at h1; cases h1
  refine ⟨hl, ?_, nStepN_ntasks n (ntop_init scripts), ?_⟩
  · intro hq x hx
    cases hf : s.fut x with
    | none => rfl
    | some a =>
      have := hl x hx (by rw [hf]; rfl)
      rw [hq] at this; cases this
  · unfold nLiveB
    rw [hp]
    simp only [Bool.false_or, List.all_eq_true, List.mem_range, Bool.or_eq_true]
    intro x hx
    cases hf : s.fut x with
    | none => left; rfl
    | some a => right; exact List.contains_iff_mem.mpr (hl x hx (by rw [hf]; rfl))

open Nested in
/-- three tasks, nested steps and cross-wake-ups, no guard panic: the run stalls after 4 top-level steps with all done -/
example : let s := nStepN 10 (nInit [[.nest, .yield, .nest], [.wake 0, .yield], [.nest]])
    s.panicked = false ∧ s.queue = [] ∧ s.fut 0 = none ∧ s.fut 1 = none ∧ s.fut 2 = none := by decide

open Rc in
/-- ★ The strong count that waker.rs / task.rs / executor.rs maintain operation by operation IS the derived count
    `refs` of Model.lean, unconditionally: for every task system whose `wait` channels are below `nch` and every
    operation sequence of the `v` leg (steps, batches, outside wakes by value / by reference / through clones,
    dropped wakers, signals, spawns, `try_receive`, the executor dropped), after every operation — the ghost flag of
    the instrumentation is clear (it never consumed a `Waker` or handle that does not exist), no count was ever
    decremented at zero (no use after free, no double free), no local handle is left, and for every task
    `Rc::strong_count` = queue entries + wakers registered with channels + wakers stored in relays.  Hence a
    task's future is freed (count 0) exactly when the model says it is lost (`lostB`) or it has completed and
    nobody refers to it — what the harness observes through its Drop probes (`!t`) is proved of the transcribed
    count, not only compared.  (Closes the condition `gunder = false` of `rc_counting`.) -/
theorem rc_is_refs (sticky : Bool) (scripts : List Script) (roots : Nat) (ops : List XOp) (nch : Nat)
    (hsc : ∀ sc, sc ∈ scripts → ∀ k, Action.wait k ∈ sc → k < nch) :
    let r := rRunAll (rInit sticky scripts roots) ops
    r.gunder = false ∧ r.under = false ∧
    (∀ t, r.strong t = refs r.s nch t ∧ r.loc t = 0) ∧
    (∀ t, (r.s.fut t).isSome = true → (r.strong t = 0 ↔ lostB r.s nch t = true)) ∧
    rcCheck r nch = none := by
  have hb : AtBoundary nch (rRunAll (rInit sticky scripts roots) ops) :=
    atBoundary_rRunAll ops _ _ (same_rInit sticky scripts roots) (xinv_init sticky scripts roots) (atBoundary_rInit sticky scripts roots hsc)
  obtain ⟨hbal, hun, _⟩ := (rc_counting sticky scripts roots ops).2 hb.cnt.g
  exact refs_of_atB _ hb hbal hun

/-- the hypothesis is met by the systems of the other examples (channels 0 … nch-1) -/
example : ∀ sc, sc ∈ [[Action.wait 0, .yield], [.wait 0]] → ∀ k, Action.wait k ∈ sc → k < 1 := by
  intro sc hs k hk
  simp at hs
  rcases hs with rfl | rfl <;> simp at hk <;> omega

open Nested in
/-- ★ The two models are the same executor where they overlap: for every system of root tasks whose scripts
    use only the actions both models have — `Y` (wake the own waker, `Pending`) and `C` / end of script — and
    every number of `Executor::step` calls, the nested-step model and the main model have the same wake queue,
    the same number of tasks, the same future slots (script by script), and the same trace (`enter`/`exit`/`noop`
    = `poll`/`ret`/`noop`); so on this fragment every theorem about `stepN` above (the 13-clause invariant, the
    FIFO bound, termination, delivery) is a theorem about the nested-step model, and `nested_fifo` /
    `nested_no_lost` / `nested_step_safe` extend them to nesting and cross-wake-ups. -/
theorem nested_agrees_with_main (sticky : Bool) (scripts : List NScript) (hyc : ∀ sc, sc ∈ scripts → ycOnly sc)
    (n : Nat) :
    let ns := nStepN n (nInit scripts)
    let s := stepN n (init sticky (scripts.map toScript) scripts.length)
    ns.queue = s.queue ∧ ns.ntasks = s.ntasks ∧ (∀ t, s.fut t = (ns.fut t).map toScript) ∧
    s.log = ns.log.map toEv ∧ ns.panicked = false ∧ ns.stack = [] := by
  intro ns s
  have h : Sim ns s := sim_stepN n _ _ (sim_init sticky scripts hyc)
  exact ⟨h.q, h.n, h.fut, h.log, h.idle.2, h.idle.1⟩

open Nested in
example : ∀ sc, sc ∈ [[NAct.yield, .yield], [.yield, .complete, .yield], []] → ycOnly sc := by
  intro sc hs a ha
  simp at hs
  rcases hs with rfl | rfl | rfl <;> simp at ha <;> rcases ha with rfl | rfl | rfl <;> simp

open Nested in
example : (nStepN 3 (nInit [[.yield, .yield], [.yield, .complete, .yield], []])).queue = [0, 1] ∧
    (stepN 3 (init false [[.yield, .yield], [.yield, .complete, .yield], []] 3)).queue = [0, 1] := by decide

open Nested in
/-- ★ The run loop terminates also when futures call `Executor::step` from inside their polls:
    `nStallBound = nWork·(ntasks+1) + |queue|` strictly decreases with every top-level step that does not end in
    the guard panic.  (Why, in the proof: `nWork` — the actions left in all slots plus one per unfinished task —
    never grows during a step, whatever is polled inside whatever; a step that enters a future lowers it, `Runs.mono`;
    a step that pops an emptied slot shortens the queue by one; and the queue never holds more than `ntasks`
    entries.)  So from every state of every nested-step system, `nStallBound` top-level steps reach the stall
    (empty queue) or the guard panic; the driver checks `nStallBound ≤` its budget for every case, so `end=cut` is
    never printed. -/
theorem nested_run_terminates (scripts : List NScript) (n : Nat) :
    let s := nStepN n (nInit scripts)
    (∀ s', nStep s = some s' → s'.panicked = false → nStallBound s' < nStallBound s) ∧
    (∀ m, nStallBound s ≤ m → (nStepN m s).queue = [] ∨ (nStepN m s).panicked = true) := by
  intro s
  have h : NTop s := ntop_stepN n (ntop_init scripts)
  exact ⟨fun s' hs hp => nStallBound_step h hs hp, fun m hm => nStepN_stalls m h hm⟩

open Nested in
example : nStallBound (nInit [[.nest, .yield, .nest], [.wake 0, .yield], [.nest]]) = 39 := by decide

/-- ★ Bounded bypass = FIFO fairness, in the form "for every history": in the infinite run of ANY task system, if
    task `t` is woken-and-not-yet-polled at step boundary `i` (it is in the wake queue: spawned, woken by itself
    during its poll, by another task, by a relay — whatever happened in steps `1 … i`), then there is a
    `j < |queue at i|` such that the steps `i+1 … i+j` pop other tasks (each of the `j` tasks that were ahead of it,
    in order, and none of them `t`) and step `i+j+1` pops `t` and runs `Task::poll` on it (trace `poll t … ` or
    `noop t` for an emptied slot): at most `|queue at i| - 1` other polls overtake it, however often the others
    re-wake themselves.  `j` is the position of `t` in the queue at `i`. -/
theorem bounded_bypass (sticky : Bool) (scripts : List Script) (roots : Nat) (i t : Nat)
    (hw : t ∈ (run sticky scripts roots i).queue) :
    ∃ j, j < (run sticky scripts roots i).queue.length ∧ (run sticky scripts roots i).queue[j]? = some t ∧
      (∀ j', j' < j → ∃ u q, u ≠ t ∧ (run sticky scripts roots (i + j')).queue = u :: q ∧
        (run sticky scripts roots i).queue[j']? = some u) ∧
      (∃ q, (run sticky scripts roots (i + j)).queue = t :: q ∧
        run sticky scripts roots (i + j + 1) = (poll { run sticky scripts roots (i + j) with queue := q } t).1 ∧
        ((run sticky scripts roots (i + j + 1)).log = (run sticky scripts roots (i + j)).log ++ [.noop t] ∨
         ∃ b, (run sticky scripts roots (i + j + 1)).log = (run sticky scripts roots (i + j)).log ++ [.poll t, .ret t b])) := by
  have hreach : Reachable (run sticky scripts roots i) := ⟨sticky, scripts, roots, i, rfl⟩
  have hnd := queue_nodup _ hreach
  obtain ⟨j, hj, hjt⟩ := List.getElem_of_mem hw
  have hjq : (run sticky scripts roots i).queue[j]? = some t := by rw [List.getElem?_eq_getElem hj, hjt]
  have hadd : ∀ k, run sticky scripts roots (i + k) = stepN k (run sticky scripts roots i) := fun k => stepN_add i k _
  refine ⟨j, hj, hjq, ?_, ?_⟩
  · intro j' hj'
    have hj'l : j' < (run sticky scripts roots i).queue.length := Nat.lt_trans hj' hj
    obtain ⟨q, h1, _⟩ := fifo_bound (run sticky scripts roots i) j' _ (List.getElem?_eq_getElem hj'l)
    refine ⟨_, q, ?_, by rw [hadd]; exact h1, List.getElem?_eq_getElem hj'l⟩
    intro e
    have hne := List.pairwise_iff_getElem.mp hnd j' j hj'l hj hj'
    exact hne (e.trans hjt.symm)
  · obtain ⟨q, h1, h2⟩ := fifo_bound (run sticky scripts roots i) j t hjq
    have hnext : run sticky scripts roots (i + j + 1) =
        (poll { run sticky scripts roots (i + j) with queue := q } t).1 := by
      show stepN (i + j + 1) _ = _
      rw [stepN_add (i + j) 1, stepN_one]
      show (match step (run sticky scripts roots (i + j)) with | none => _ | some r => r.1) = _
      rw [hadd, h2]
    refine ⟨q, by rw [hadd]; exact h1, hnext, ?_⟩
    rw [hnext]
    rcases poll_trace { run sticky scripts roots (i + j) with queue := q } t with ⟨_, hl, _⟩ | ⟨acts, _, hl, _⟩
    · exact Or.inl hl
    · exact Or.inr ⟨_, hl⟩

example : (2 : Nat) ∈ (run true [[.yield, .yield, .yield], [.yield, .yield, .yield], [.yield]] 3 5).queue := by decide

open Nested in
/-- ★ What the executor is left in when the recursion guard panics.  The model's outcome `panic` freezes the state at the guard (`nStep` of a panicked state is
    `none`: any number of further steps changes nothing).  In EVERY state at a top-level boundary — the frozen one
    included — the wake queue holds no task twice, no task is in progress twice, every task in progress still has
    its future in its slot, and no task has been lost: every unfinished task is in the wake queue or is one of the
    polls that were in progress when the guard fired (those are exactly the tasks the unwinding takes out of the
    queue without finishing them: the harness observes them as `act=` after `catch_unwind`). -/
theorem guard_panic_frozen (scripts : List NScript) (n : Nat) :
    let s := nStepN n (nInit scripts)
    s.queue.Nodup ∧ s.stack.Nodup ∧ (∀ x, x ∈ s.stack → (s.fut x).isSome = true) ∧
    (∀ x, x < s.ntasks → (s.fut x).isSome = true → x ∈ s.queue ∨ x ∈ s.stack) ∧
    (s.panicked = true → ∀ m, nStepN m s = s) ∧
    (s.panicked = false → s.stack = []) ∧ nFrozenB s = true := by
  intro s
  have h : NTop s := ntop_stepN n (ntop_init scripts)
  have hl : Live s := live_stepN n (ntop_init scripts) (live_init scripts)
  refine ⟨h.inv.qn, h.inv.sn, h.inv.occ, hl, fun hp m => nStepN_panicked m s hp, h.idle, ?_⟩
  unfold nFrozenB
  rw [n_nodupB_of _ h.inv.qn, n_nodupB_of _ h.inv.sn]
  simp only [Bool.and_self, Bool.true_and, List.all_eq_true, List.mem_range, Bool.or_eq_true]
  intro x hx
  cases hf : s.fut x with
  | none => left; left; rfl
  | some a =>
    rcases hl x hx (by rw [hf]; rfl) with h1 | h1
    · left; right; exact List.contains_iff_mem.mpr h1
    · right; exact List.contains_iff_mem.mpr h1

open Nested in
/-- three polls in progress when the guard fires for task 0; task 1 and 2 are taken out of the queue unfinished -/
example : let s := nStepN 5 (nInit [[.nest, .nest], [.nest], [.wake 0, .nest]])
    s.panicked = true ∧ s.stack = [2, 1, 0] ∧ s.queue = [] := by decide

end YashModel.Executor
