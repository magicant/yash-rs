/-
  C04 — the `case` command.  A pattern that does not compile is skipped; one pattern counts when it compiles and its
  syntax tree denotes the subject (`caseFirst_go_cons`, `itemMatches_cons`: the only place `isMatch_correct` is needed);
  hence the first matching pattern, items with `|`-alternatives and the whole run against the Spec; `case` with failing
  expansions against the error-free reading; and the loop of `case.rs execute` with `exit_status_updated`.
-/
import YashModel.Fnmatch.Search
import YashModel.Fnmatch.Compiles

namespace YashModel.Fnmatch

namespace Proofs

theorem invalid_pattern_fallbacks (pcs : List PatternChar) :
    (∀ side len e v, Pattern.parse pcs (trimConfig side len) = .error e → trimApply side len pcs v = v) ∧
    (∀ e i rest subj, Pattern.parse pcs caseConfig = .error e →
      caseFirst.go subj i (pcs :: rest) = caseFirst.go subj (i + 1) rest) := by
  constructor
  · intro side len e v h; simp [trimApply, h]
  · intro e i rest subj h; simp [caseFirst.go, h]

theorem compilesB_ok {p : List PatternChar} {pat : Pattern} (h : Pattern.parse p caseConfig = .ok pat) :
    compilesB p = true ∧ ∀ s, pat.isMatch s = globMatch (parseAtoms p) s :=
  ⟨by simp [compilesB, h], isMatch_correct (parseAtoms p) caseConfig rfl rfl rfl pat h⟩

theorem compilesB_error {p : List PatternChar} {e : Err} (h : Pattern.parse p caseConfig = .error e) :
    compilesB p = false := by
  simp [compilesB, h]

theorem caseFirst_go_cons (subj : List Char) (i : Nat) (p : List PatternChar) (rest : List (List PatternChar)) :
    caseFirst.go subj i (p :: rest) =
      if compilesB p && globMatch (parseAtoms p) subj then some i else caseFirst.go subj (i + 1) rest := by
  cases hp : Pattern.parse p caseConfig with
  | error e => simp [caseFirst.go, hp, compilesB_error hp]
  | ok pat => simp [caseFirst.go, hp, (compilesB_ok hp).1, (compilesB_ok hp).2]

theorem itemMatches_cons (subj : List Char) (p : List PatternChar) (r : List (List PatternChar)) :
    itemMatches subj (p :: r) = ((compilesB p && globMatch (parseAtoms p) subj) || itemMatches subj r) := by
  cases hp : Pattern.parse p caseConfig with
  | error e => simp [itemMatches, hp, compilesB_error hp]
  | ok pat =>
    simp only [itemMatches, hp, (compilesB_ok hp).1, (compilesB_ok hp).2, Bool.true_and]
    cases globMatch (parseAtoms p) subj <;> rfl

theorem itemMatches_error {p : List PatternChar} {e : Err} (h : Pattern.parse p caseConfig = .error e)
    (subj : List Char) (r : List (List PatternChar)) :
    itemMatches subj (p :: r) = itemMatches subj r := by
  rw [itemMatches_cons, compilesB_error h]; rfl

theorem itemMatches_literal (cs subj : List Char) : itemMatches subj [cs.map .literal] = decide (subj = cs) := by
  obtain ⟨pat, hp, hm⟩ := (literal_is_literal cs caseConfig rfl rfl).2
  simp only [itemMatches, hp, hm subj]
  cases decide (subj = cs) <;> rfl

theorem itemMatches_spec (subj : List Char) (alts : List (List PatternChar)) :
    itemMatches subj alts = alts.any (fun p => compilesB p && globMatch (parseAtoms p) subj) := by
  induction alts with
  | nil => rfl
  | cons p r ih => rw [itemMatches_cons, ih, List.any_cons]

theorem go_eq_findIdx? {α : Type} (q : α → Bool) (f : Nat → List α → Option Nat) (h0 : ∀ i, f i [] = none)
    (h1 : ∀ i a r, f i (a :: r) = if q a then some i else f (i + 1) r) (l : List α) (i : Nat) :
    f i l = (l.findIdx? q).map (· + i) := by
  induction l generalizing i with
  | nil => rw [h0]; rfl
  | cons a r ih =>
    rw [h1, List.findIdx?_cons, ih (i + 1)]
    cases q a with
    | true => simp
    | false =>
      simp only [Bool.false_eq_true, if_false]
      cases List.findIdx? q r <;> simp; omega

theorem caseFirst_go (subj : List Char) (pats : List (List PatternChar)) (i : Nat) :
    caseFirst.go subj i pats =
      (pats.findIdx? (fun p => compilesB p && globMatch (parseAtoms p) subj)).map (· + i) :=
  go_eq_findIdx? _ (caseFirst.go subj) (fun _ => by simp [caseFirst.go]) (caseFirst_go_cons subj) pats i

theorem findIdx?_ext {α : Type} (p q : α → Bool) (l : List α) (h : ∀ x ∈ l, p x = q x) :
    l.findIdx? p = l.findIdx? q := by
  induction l with
  | nil => rfl
  | cons a t ih =>
    rw [List.findIdx?_cons, List.findIdx?_cons, h a (by simp), ih (fun x hx => h x (by simp [hx]))]

theorem case_first_match (pats : List (List PatternChar)) (subj : List Char) :
    caseFirst pats subj = pats.findIdx? (fun p => compilesB p && globMatch (parseAtoms p) subj) ∧
    ((∀ p ∈ pats, compilesB p = true) → caseFirst pats subj = specCase (pats.map parseAtoms) subj) := by
  have h1 : caseFirst pats subj = pats.findIdx? (fun p => compilesB p && globMatch (parseAtoms p) subj) := by
    unfold caseFirst
    rw [caseFirst_go]
    cases List.findIdx? _ pats <;> simp
  refine ⟨h1, ?_⟩
  intro hall
  rw [h1]
  unfold specCase
  rw [List.findIdx?_map]
  apply findIdx?_ext
  intro p hp
  simp [hall p hp, Function.comp]

theorem caseSelect_go (subj : List Char) (items : List (List (List PatternChar))) (i : Nat) :
    caseSelect.go subj i items = (items.findIdx? (itemMatches subj)).map (· + i) := 
  go_eq_findIdx? _ (caseSelect.go subj) (fun _ => rfl) (fun _ _ _ => rfl) items i

theorem caseSelect_first (items : List (List (List PatternChar))) (subj : List Char) :
    caseSelect items subj =
      items.findIdx? (fun alts => alts.any (fun p => compilesB p && globMatch (parseAtoms p) subj)) := by
  unfold caseSelect
  rw [caseSelect_go]
  have : itemMatches subj = fun alts => alts.any (fun p => compilesB p && globMatch (parseAtoms p) subj) :=
    funext (itemMatches_spec subj)
  rw [this]
  cases List.findIdx? _ items <;> simp

theorem caseExecGo_head (subj : List Char) (items : List (List (List PatternChar) × CaseCont)) (i : Nat) :
    (caseExecGo subj false i items).head? = caseSelect.go subj i (items.map Prod.fst) := by
  rw [caseSelect_go, List.findIdx?_map]
  exact go_eq_findIdx? _ (fun i l => (caseExecGo subj false i l).head?) (fun _ => rfl)
    (fun i a r => by obtain ⟨alts, c⟩ := a; simp only [caseExecGo, Bool.false_or, Function.comp]; split <;> rfl) items i

theorem compilesB_of_defined {p : List PatternChar} (h : astDefined (parseAtoms p) = true) :
    compilesB p = true := by
  obtain ⟨pat, hp⟩ := defined_compiles (parseAtoms p) h caseConfig
  unfold compilesB Pattern.parse
  rw [hp]

theorem any_defined (subj : List Char) (r : List (List PatternChar))
    (h : ∀ q ∈ r, astDefined (parseAtoms q) = true) :
    (r.any fun p => compilesB p && globMatch (parseAtoms p) subj) =
      r.any ((altMatches subj) ∘ parseAtoms) := by
  induction r with
  | nil => rfl
  | cons q r2 ih =>
    simp only [List.any_cons, Function.comp]
    rw [compilesB_of_defined (h q (by simp)), ih (fun x hx => h x (by simp [hx]))]
    simp [altMatches, h q (by simp)]

theorem caseSelect_spec (items : List (List (List PatternChar))) (subj : List Char)
    (hd : ∀ alts ∈ items, ∀ p ∈ alts, astDefined (parseAtoms p) = true) :
    caseSelect items subj = specCaseSelect (items.map (fun alts => alts.map parseAtoms)) subj := by
  rw [caseSelect_first]
  unfold specCaseSelect
  rw [List.findIdx?_map]
  apply findIdx?_ext
  intro alts ha
  simp only [Function.comp, List.any_map]
  exact any_defined subj alts (hd alts ha)

theorem caseExecGo_spec (subj : List Char) (items : List (List (List PatternChar) × CaseCont))
    (hd : ∀ it ∈ items, ∀ p ∈ it.1, astDefined (parseAtoms p) = true) (falling : Bool) (i : Nat) :
    caseExecGo subj falling i items =
      specCaseExec subj falling i (items.map fun it => (it.1.map parseAtoms, it.2)) := by
  induction items generalizing falling i with
  | nil => rfl
  | cons it r ih =>
    obtain ⟨alts, c⟩ := it
    have hr : ∀ it ∈ r, ∀ p ∈ it.1, astDefined (parseAtoms p) = true :=
      fun it hi => hd it (List.mem_cons_of_mem _ hi)
    have hm : itemMatches subj alts = (alts.map parseAtoms).any (altMatches subj) := by
      rw [itemMatches_spec, any_defined subj alts (hd (alts, c) (by simp)), List.any_map]
    simp only [caseExecGo, specCaseExec, List.map_cons, hm, ih hr]
    cases c <;> rfl

theorem specCaseExec_head (subj : List Char) (items : List (List Ast × CaseCont)) (i : Nat) :
    (specCaseExec subj false i items).head? =
      ((items.map Prod.fst).findIdx? (fun alts => alts.any (altMatches subj))).map (· + i) := by
  rw [List.findIdx?_map]
  exact go_eq_findIdx? _ (fun i l => (specCaseExec subj false i l).head?) (fun _ => rfl)
    (fun i a r => by obtain ⟨alts, c⟩ := a; simp only [specCaseExec, Bool.false_or, Function.comp]; split <;> rfl) items i

theorem reachedAlts_map_some (alts : List (List PatternChar)) : reachedAlts (alts.map some) = alts := by
  induction alts with
  | nil => rfl
  | cons p r ih => simp [reachedAlts, ih]

theorem itemMatchesE_spec (subj : List Char) (alts : List (Option (List PatternChar))) :
    itemMatchesE subj alts =
      if itemMatches subj (reachedAlts alts) then some true
      else if alts.any Option.isNone then none else some false := by
  induction alts with
  | nil => simp [itemMatchesE, reachedAlts, itemMatches]
  | cons a r ih =>
    cases a with
    | none => simp [itemMatchesE, reachedAlts, itemMatches]
    | some p =>
      have e1 : itemMatches subj [p] = (compilesB p && globMatch (parseAtoms p) subj) := by
        rw [itemMatches_cons]; simp [itemMatches]
      simp only [itemMatchesE, reachedAlts, itemMatches_cons subj p (reachedAlts r), e1]
      cases compilesB p && globMatch (parseAtoms p) subj with
      | true => simp
      | false => simp [ih]

theorem itemMatchesE_map_some (subj : List Char) (alts : List (List PatternChar)) :
    itemMatchesE subj (alts.map some) = some (itemMatches subj alts) := by
  rw [itemMatchesE_spec, reachedAlts_map_some]
  have : (alts.map some).any Option.isNone = false := by simp
  rw [this]
  cases itemMatches subj alts <;> rfl

/-! The three loops over the items, by hit and continuation.  `;;` ends the run; `;&` and `;;&` go on with the next item, falling through or testing again: in each loop the
    two differ only in the flag passed on, `decide (c = .fallThrough)`. -/

theorem caseExecGo_miss {subj : List Char} {falling : Bool} {alts : List (List PatternChar)}
    (h : (falling || itemMatches subj alts) = false) (i : Nat) (c : CaseCont)
    (rest : List (List (List PatternChar) × CaseCont)) :
    caseExecGo subj falling i ((alts, c) :: rest) = caseExecGo subj false (i + 1) rest := by
  simp [caseExecGo, h]

theorem caseExecGo_brk {subj : List Char} {falling : Bool} {alts : List (List PatternChar)}
    (h : (falling || itemMatches subj alts) = true) (i : Nat) (rest : List (List (List PatternChar) × CaseCont)) :
    caseExecGo subj falling i ((alts, .brk) :: rest) = [i] := by
  simp [caseExecGo, h]

theorem caseExecGo_next {subj : List Char} {falling : Bool} {alts : List (List PatternChar)}
    (h : (falling || itemMatches subj alts) = true) (i : Nat) {c : CaseCont} (hc : c ≠ .brk)
    (rest : List (List (List PatternChar) × CaseCont)) :
    caseExecGo subj falling i ((alts, c) :: rest) =
      i :: caseExecGo subj (decide (c = .fallThrough)) (i + 1) rest := by
  cases c <;> first | exact absurd rfl hc | simp [caseExecGo, h]

/-- one item of the loop with failing expansions, by the outcome of its test: `some true` when fallen into, else what
    `matches` says -/
theorem caseExecEGo_cons (subj : List Char) (falling : Bool) (i : Nat) (alts : List (Option (List PatternChar)))
    (c : CaseCont) (r : List (List (Option (List PatternChar)) × CaseCont)) :
    caseExecEGo subj falling i ((alts, c) :: r) =
      match (if falling then some true else itemMatchesE subj alts) with
      | none => ([], true)
      | some false => caseExecEGo subj false (i + 1) r
      | some true =>
        if c = .brk then ([i], false)
        else (i :: (caseExecEGo subj (decide (c = .fallThrough)) (i + 1) r).1,
          (caseExecEGo subj (decide (c = .fallThrough)) (i + 1) r).2) := by
  simp only [caseExecEGo]
  cases (if falling then some true else itemMatchesE subj alts) with
  | none => rfl
  | some b => cases b <;> cases c <;> rfl

theorem caseExecEGo_no_error (subj : List Char) (items : List (List (List PatternChar) × CaseCont))
    (falling : Bool) (i : Nat) :
    caseExecEGo subj falling i (items.map fun it => (it.1.map some, it.2)) =
      (caseExecGo subj falling i items, false) := by
  induction items generalizing falling i with
  | nil => rfl
  | cons it r ih =>
    obtain ⟨alts, c⟩ := it
    have ht : (if falling then some true else itemMatchesE subj (alts.map some)) =
        some (falling || itemMatches subj alts) := by
      rw [itemMatchesE_map_some]; cases falling <;> rfl
    rw [List.map_cons, caseExecEGo_cons, ht]
    cases hb : (falling || itemMatches subj alts) with
    | false => rw [caseExecGo_miss hb]; exact ih false (i + 1)
    | true =>
      by_cases hc : c = .brk
      · subst hc; rw [caseExecGo_brk hb]; rfl
      · rw [caseExecGo_next hb i hc]
        simp only [if_neg hc, ih]

theorem caseExecEGo_spec (subj : List Char) (items : List (List (Option (List PatternChar)) × CaseCont)) :
    ∀ (falling : Bool) (i : Nat),
      (caseExecEGo subj falling i items).1 <+:
        caseExecGo subj falling i (items.map fun it => (reachedAlts it.1, it.2)) ∧
      ((caseExecEGo subj falling i items).2 = false →
        (caseExecEGo subj falling i items).1 =
          caseExecGo subj falling i (items.map fun it => (reachedAlts it.1, it.2))) := by
  induction items with
  | nil => intro falling i; simp [caseExecEGo, caseExecGo]
  | cons it r ih =>
    intro falling i
    obtain ⟨alts, c⟩ := it
    rw [caseExecEGo_cons, List.map_cons]
    cases ht : (if falling then some true else itemMatchesE subj alts) with
    | none => simp
    | some b =>
      -- the error-free reading takes the same decision
      have hb : (falling || itemMatches subj (reachedAlts alts)) = b := by
        cases falling with
        | true => simp at ht; simp [ht]
        | false =>
          simp only [Bool.false_eq_true, if_false, itemMatchesE_spec] at ht
          cases hm : itemMatches subj (reachedAlts alts) with
          | true => rw [hm] at ht; simp at ht; simp [ht]
          | false =>
            rw [hm] at ht
            cases hn : alts.any Option.isNone <;> rw [hn] at ht <;> simp at ht
            simp [ht]
      cases b with
      | false => rw [caseExecGo_miss hb]; exact ih false (i + 1)
      | true =>
        by_cases hc : c = .brk
        · subst hc; rw [caseExecGo_brk hb]; simp
        · rw [caseExecGo_next hb i hc, if_neg hc]
          obtain ⟨h1, h2⟩ := ih (decide (c = .fallThrough)) (i + 1)
          exact ⟨by simpa using h1, fun h => by simp only []; rw [h2 h]⟩

theorem getLast?_cons_of_ne {α : Type} (a : α) (l : List α) (h : l ≠ []) : (a :: l).getLast? = l.getLast? :=
  List.getLast?_cons_of_ne_nil h

/-- the loop, from any position `pre.length` of the full item list `pre ++ items` -/
theorem caseExecuteGo_spec (subj : List Char) : ∀ (items pre : List CaseItemM) (falling upd : Bool) (st : Nat),
    let full := pre ++ items
    let ex := caseExecGo subj falling pre.length (items.map fun it => (it.alts, it.cont))
    let r := caseExecuteGo subj falling upd st pre.length items
    r.1 = ex ∧
    r.2.1 = statusAfter (full.map (·.body)) st ex ∧
    r.2.2 = (match ex.getLast? with
      | none => upd
      | some j => !((full.map (·.bodyEmpty))[j]?.getD true)) := by
  intro items
  induction items with
  | nil => intro pre falling upd st; simp [caseExecuteGo, caseExecGo, statusAfter]
  | cons it rest ih =>
    intro pre falling upd st
    have hfull : pre ++ it :: rest = (pre ++ [it]) ++ rest := by simp
    have hlen : (pre ++ [it]).length = pre.length + 1 := by simp
    have hb : ((pre ++ it :: rest).map (·.body))[pre.length]? = some it.body := by simp
    have he : ((pre ++ it :: rest).map (·.bodyEmpty))[pre.length]? = some it.bodyEmpty := by simp
    simp only [List.map_cons]
    by_cases hhit : (falling || itemMatches subj it.alts) = true
    · by_cases hc : it.cont = .brk
      · -- `;;`: this body is the last one
        rw [hc, caseExecGo_brk hhit]
        simp only [caseExecuteGo, hhit, if_true, hc, statusAfter, List.foldl_cons, List.foldl_nil, hb,
          List.getLast?_singleton, he, Option.getD_some]
        exact ⟨trivial, trivial, trivial⟩
      · -- `;&` / `;;&`: the body runs, `$?` and `exit_status_updated` are handed on
        have hstep : caseExecuteGo subj falling upd st pre.length (it :: rest) =
            (pre.length :: (caseExecuteGo subj (decide (it.cont = .fallThrough)) (!it.bodyEmpty) (it.body st)
              (pre.length + 1) rest).1,
             (caseExecuteGo subj (decide (it.cont = .fallThrough)) (!it.bodyEmpty) (it.body st)
              (pre.length + 1) rest).2) := by
          simp only [caseExecuteGo, hhit, if_true]
          cases hcc : it.cont <;> first | exact absurd hcc hc | rfl
        have := ih (pre ++ [it]) (decide (it.cont = .fallThrough)) (!it.bodyEmpty) (it.body st)
        rw [hlen, ← hfull] at this
        obtain ⟨h1, h2, h3⟩ := this
        rw [hstep, caseExecGo_next hhit _ hc]
        refine ⟨by rw [h1], ?_, ?_⟩
        · simp only []; rw [h2]; simp only [statusAfter, List.foldl_cons, hb]
        · simp only []; rw [h3]
          -- the last body run: that of the rest if it runs any, else this one
          cases hex : caseExecGo subj (decide (it.cont = .fallThrough)) (pre.length + 1)
              (rest.map fun it => (it.alts, it.cont)) with
          | nil => simp [he]
          | cons a l =>
            rw [List.getLast?_cons_cons]
            cases hgl : (a :: l).getLast? with
            | none => simp at hgl
            | some j => rfl
    · have hmiss : (falling || itemMatches subj it.alts) = false := by simpa using hhit
      rw [caseExecGo_miss hmiss]
      simp only [caseExecuteGo, hmiss, Bool.false_eq_true, if_false]
      have := ih (pre ++ [it]) false upd st
      rw [hlen, ← hfull] at this
      exact this

theorem caseExecute_spec (items : List CaseItemM) (subj : List Char) (st0 : Nat) :
    (caseExecute items subj st0).1 = caseExec (items.map fun it => (it.alts, it.cont)) subj ∧
    (caseExecute items subj st0).2 =
      specCaseStatus (items.map (·.body)) (items.map (·.bodyEmpty)) st0
        (caseExec (items.map fun it => (it.alts, it.cont)) subj) := by
  have := caseExecuteGo_spec subj items [] false false st0
  simp only [List.nil_append, List.length_nil] at this
  obtain ⟨h1, h2, h3⟩ := this
  unfold caseExecute caseExec specCaseStatus
  refine ⟨h1, ?_⟩
  simp only [h2, h3]
  -- `exit_status_updated` at the end = some body ran and the last one run is not empty
  cases caseExecGo subj false 0 (items.map fun it => (it.alts, it.cont)) |>.getLast? with
  | none => rfl
  | some j =>
    simp only []
    by_cases hb : (items.map (·.bodyEmpty))[j]?.getD true = true
    · rw [if_neg (by rw [hb]; decide), if_pos hb]
    · rw [if_pos (by rw [Bool.not_eq_true] at hb; rw [hb]; rfl), if_neg hb]

end Proofs

end YashModel.Fnmatch
