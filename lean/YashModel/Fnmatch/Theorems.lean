/-
  C04 — the property theorems (★), each with its non-vacuity examples.  Those proved in the lemma files (namespace
  `Proofs`) are restated here; those that combine them, and the comparisons with the tables re-extracted from /repo
  and the regex crates on every run, are proved here.  `specialChars` / `bracketSpecialChars` are GENERATED from
  yash-fnmatch/src/ast/regex.rs on every run, so editing either constant re-checks (and can break)
  `meta_subset`, `escape_roundtrip` and `toRegex_correct`.
-/
import YashModel.Fnmatch.Trim
import YashModel.Fnmatch.Case
import YashModel.Fnmatch.TableLemmas
import YashModel.Fnmatch.WordLemmas
import YashModel.Fnmatch.DecisionLemmas
import YashModel.Generated.FnmatchDecisions

namespace YashModel.Fnmatch
open YashModel.Generated.FnmatchTables

/-! ## ★ escaping -/

/-- Every character with a meaning of its own in the regex syntax is in the escaping tables (outside a
    class: `SPECIAL_CHARS`; inside a class: `BRACKET_SPECIAL_CHARS ∪ SPECIAL_CHARS`), and every character
    the tables escape is one the regex crate lets a backslash precede. -/
theorem meta_subset :
    (∀ c ∈ reMeta, c ∈ specialChars) ∧
    (∀ c ∈ classMeta, c ∈ bracketSpecialChars ∨ c ∈ specialChars) ∧
    (∀ c ∈ specialChars, c ∈ escapable) ∧ (∀ c ∈ bracketSpecialChars, c ∈ escapable) :=
  Proofs.meta_subset

/-- ★ Every character escapes to itself: outside brackets the emitted text of a pattern character is
    the regex "literal c"; as a bracket member, inside `[. .]` and inside `[= =]` it is the class `{c}`. -/
theorem escape_roundtrip (c : Char) :
    parseRe (fmtTopChar c) = some [.one (.lit c)] ∧
    (∀ r, toRegex [.bracket ⟨false, [.atom (.char c)]⟩] {} = .ok r →
      parseRe r = some [.one (.cls ⟨false, [.single c]⟩)]) ∧
    (∀ r, toRegex [.bracket ⟨false, [.atom (.collating [c])]⟩] {} = .ok r →
      parseRe r = some [.one (.cls ⟨false, [.single c]⟩)]) ∧
    (∀ r, toRegex [.bracket ⟨false, [.atom (.equiv [c])]⟩] {} = .ok r →
      parseRe r = some [.one (.cls ⟨false, [.single c]⟩)]) ∧
    (∀ d, (ClassItem.single c).mem d = (d == c)) :=
  Proofs.escape_roundtrip c

/-- non-vacuity of the bracket clauses: the translation succeeds for every `c` -/
example (c : Char) :
    toRegex [.bracket ⟨false, [.atom (.char c)]⟩] {} = .ok ('[' :: fmtRegexChar c ++ [']']) ∧
    toRegex [.bracket ⟨false, [.atom (.collating [c])]⟩] {} = .ok ('[' :: fmtRegexChar c ++ [']']) :=
  Proofs.escape_roundtrip_nonvacuous c

/-! ## ★ the regex text denotes the glob language -/

/-- ★ Whenever the translation succeeds and the regex compiles, the compiled regex — fully anchored,
    greedy or lazy — accepts exactly the strings the pattern denotes.  Full strength: every syntax tree
    (any characters incl. all regex-special ones, ranges, complements, classes, collating symbols and
    equivalence classes, multi-character collating elements). -/
theorem toRegex_correct (ast : Ast) (cfg : Config) (hb : cfg.anchorBegin = true) (he : cfg.anchorEnd = true)
    (r : List Char) (h : toRegex ast cfg = .ok r) (re : List ReAtom) (hp : parseRe r = some re)
    (g : Bool) (s : List Char) :
    (findAt g re s 0).isSome = globMatch ast s :=
  Proofs.toRegex_correct ast cfg hb he r h re hp g s

/-- non-vacuity: `a[!b-d[.-.]]*` translates to `\Aa[^b-d\-].*\z`, which compiles -/
example :
    let ast : Ast := [.char 'a', .bracket ⟨true, [.range (.char 'b') (.char 'd'), .atom (.collating ['-'])]⟩,
      .anyString]
    (toRegex ast { anchorBegin := true, anchorEnd := true }).toOption = some "\\Aa[^b-d\\-].*\\z".toList ∧
    (parseRe "\\Aa[^b-d\\-].*\\z".toList).isSome = true := by decide +kernel

/-- ★ `Pattern::is_match` under the `case` configuration (both anchors), including the literal fast
    path: a pattern that compiles matches exactly the strings its syntax tree denotes. -/
theorem isMatch_correct (ast : Ast) (cfg : Config) (hb : cfg.anchorBegin = true) (he : cfg.anchorEnd = true)
    (hl : cfg.literalPeriod = false) (p : Pattern) (h : Pattern.fromAst ast cfg = .ok p) (s : List Char) :
    p.isMatch s = globMatch ast s :=
  Proofs.isMatch_correct ast cfg hb he hl p h s

/-- non-vacuity: `[a\-z]*` (quoted hyphen) compiles, matches `-x` and not `bx` -/
example :
    let ast : Ast := [.bracket ⟨false, [.atom (.char 'a'), .atom (.char '-'), .atom (.char 'z')]⟩, .anyString]
    (match Pattern.fromAst ast caseConfig with
     | .ok p => some (p.isMatch "-x".toList, p.isMatch "bx".toList)
     | .error _ => none) = some (true, false) := by decide +kernel

/-- non-vacuity: `[![.ch.]]` (all items multi-character, F8) compiles, matches `q` and not `ch` -/
example :
    (match Pattern.fromAst [.bracket ⟨true, [.atom (.collating ['c', 'h'])]⟩] caseConfig with
     | .ok p => some (p.isMatch "q".toList, p.isMatch "ch".toList)
     | .error _ => none) = some (true, false) := by decide +kernel

/-! ## ★ quoted characters match only themselves -/

/-- ★ A pattern made of quoted (`Literal`) characters only is the literal string: it always compiles (fast
    path) and, fully anchored, matches exactly that string — whatever the characters are. -/
theorem literal_is_literal (cs : List Char) (cfg : Config) (hb : cfg.anchorBegin = true)
    (he : cfg.anchorEnd = true) :
    parseAtoms (cs.map .literal) = cs.map .char ∧
    ∃ p, Pattern.parse (cs.map .literal) cfg = .ok p ∧ ∀ s, p.isMatch s = decide (s = cs) :=
  Proofs.literal_is_literal cs cfg hb he

/-- ★ Inside a bracket expression a quoted character is always a plain member: it never closes the
    bracket, never complements it, never opens `[. .]`, and its hyphen flag is `false` … -/
theorem literal_in_bracket_is_member (compl : Bool) (st : ItemStack) (c : Char) (t : List PatternChar) :
    bracketLoop compl st (.literal c :: t) =
      bracketLoop compl (makeRange ((.atom (.char c), false) :: st)) t :=
  Proofs.literal_in_bracket_is_member compl st c t

/-- … and an item whose hyphen flag is `false` is never taken as the range operator (so `[a\-z]` is the
    set {a, -, z}). -/
theorem quoted_hyphen_no_range (x y : BracketItem) (f : Bool) (rest : ItemStack) :
    makeRange ((x, f) :: (y, false) :: rest) = (x, f) :: (y, false) :: rest :=
  Proofs.quoted_hyphen_no_range x y f rest

/-- non-vacuity: the stack after `a`, quoted `-`, `z` stays three members; with an unquoted `-` it folds -/
example : makeRange [(.atom (.char 'z'), false), (.atom (.char '-'), false), (.atom (.char 'a'), false)]
      = [(.atom (.char 'z'), false), (.atom (.char '-'), false), (.atom (.char 'a'), false)] ∧
    makeRange [(.atom (.char 'z'), false), (.atom (.char '-'), true), (.atom (.char 'a'), false)]
      = [(.range (.char 'a') (.char 'z'), false)] := by decide +kernel

/-! ## ★ an unclosed `[` is literal -/

/-- ★ A `[` that no unquoted `]` follows is an ordinary character, and the characters after it are
    parsed as if the `[` were not special. -/
theorem unclosed_bracket_literal (t : List PatternChar) (h : ∀ pc ∈ t, pc ≠ .normal ']') :
    parseAtoms (.normal '[' :: t) = .char '[' :: parseAtoms t :=
  Proofs.unclosed_bracket_literal t h

/-- non-vacuity: `[b\]` (the `]` is quoted) meets the hypothesis -/
example : ∀ pc ∈ [PatternChar.normal 'b', .literal ']'], pc ≠ .normal ']' := by decide

/-! ## ★ patterns that do not compile -/

/-- ★ A pattern outside the defined notation (undefined class name, class as range bound, inverted range,
    empty symbol — whatever makes `parse_with_config` fail) makes a trim a no-op and makes `case` skip
    that pattern and go on with the next. -/
theorem invalid_pattern_fallbacks (pcs : List PatternChar) :
    (∀ side len e v, Pattern.parse pcs (trimConfig side len) = .error e → trimApply side len pcs v = v) ∧
    (∀ e i rest subj, Pattern.parse pcs caseConfig = .error e →
      caseFirst.go subj i (pcs :: rest) = caseFirst.go subj (i + 1) rest) :=
  Proofs.invalid_pattern_fallbacks pcs

/-- non-vacuity: `[[:nothing:]]`, `[z-a]`, `[[:digit:]-9]`, `[[..]]` do not compile -/
example :
    (Pattern.fromAst [.bracket ⟨false, [.atom (.cls "nothing".toList)]⟩] caseConfig).toOption.isNone ∧
    (Pattern.fromAst [.bracket ⟨false, [.range (.char 'z') (.char 'a')]⟩] caseConfig).toOption.isNone ∧
    (Pattern.fromAst [.bracket ⟨false, [.range (.cls "digit".toList) (.char '9')]⟩] caseConfig).toOption.isNone ∧
    (Pattern.fromAst [.bracket ⟨false, [.atom (.collating [])]⟩] caseConfig).toOption.isNone := by
  decide +kernel

/-! ## ★ prefix and suffix removal delete exactly the shortest / longest matching prefix / suffix -/

/-- `find_is_extremal` (about `trimSearch`, the search a trim runs; `find_end_extremal` below is about `find` under
    any configuration).  Hypothesis `noMulti ast`: no bracket contains a
    multi-character collating element (`[.ab.]`) — the patterns POSIX defines for the POSIX locale; with such
    elements the alternation order, not the length, decides (second example below).
    For a compiled pattern of trim form `#`/`##`/`%`/`%%` the search `trim_value` runs (`rfind` for `%`, `find`
    otherwise; greedy or `swap_greed`; regex or literal fast path) returns exactly the range `0..k` with `k`
    the least/greatest matching prefix length, resp. `a..len` with `a` the greatest/least matching suffix
    start, and `none` when nothing matches. -/
theorem find_is_extremal (ast : Ast) (hn : noMulti ast = true) (side : TrimSide) (len : TrimLength)
    (p : Pattern) (h : Pattern.fromAst ast (trimConfig side len) = .ok p) (v : List Char) :
    trimSearch p v = specRange side len ast v :=
  Proofs.find_is_extremal ast hn side len p h v

/-- ★ hence `trim_value` = the Spec's shortest/longest prefix/suffix removal -/
theorem trim_correct (ast : Ast) (hn : noMulti ast = true) (side : TrimSide) (len : TrimLength)
    (p : Pattern) (h : Pattern.fromAst ast (trimConfig side len) = .ok p) (v : List Char) :
    trimValue p v = specTrim side len ast v :=
  Proofs.trim_correct ast hn side len p h v

/-- non-vacuity: `*a` against `banana`: `%` removes `a`, `%%` everything, `#` `ba`, `##` everything -/
example :
    let ast : Ast := [.anyString, .char 'a']
    noMulti ast = true ∧
    ([(TrimSide.prefix, TrimLength.shortest), (.prefix, .longest), (.suffix, .shortest), (.suffix, .longest)].all
      (fun x => (Pattern.fromAst ast (trimConfig x.1 x.2)).toOption.isSome) = true) ∧
    [specTrim .suffix .shortest ast "banana".toList, specTrim .suffix .longest ast "banana".toList,
     specTrim .prefix .shortest ast "banana".toList, specTrim .prefix .longest ast "banana".toList]
      = ["banan".toList, [], "nana".toList, []] := by decide +kernel

/-- the hypothesis is necessary: for `[a[.ab.]]` (alternation `(?:[a]|ab)`) `##` on `ab` removes only `a` -/
example :
    let ast : Ast := [.bracket ⟨false, [.atom (.char 'a'), .atom (.collating ['a', 'b'])]⟩]
    noMulti ast = false ∧
    (match Pattern.fromAst ast (trimConfig .prefix .longest) with
     | .ok p => some (trimValue p "ab".toList)
     | .error _ => none) = some "b".toList ∧
    specTrim .prefix .longest ast "ab".toList = [] := by decide +kernel

/-- ★ Suffix removal needs NO hypothesis on the pattern: for every syntax tree — including brackets with
    multi-character collating symbols / equivalence classes, whose matches have different lengths although the
    pattern has no `*` — `find` with `\z` returns the longest and the `rfind` loop the shortest matching suffix,
    so `%%` / `%` remove exactly those (the leftmost / rightmost matching start does not depend on which
    alternative of `(?:ch|[h])` is tried first). -/
theorem suffix_trim_correct (ast : Ast) (len : TrimLength)
    (p : Pattern) (h : Pattern.fromAst ast (trimConfig .suffix len) = .ok p) (v : List Char) :
    trimSearch p v = specRange .suffix len ast v ∧ trimValue p v = specTrim .suffix len ast v :=
  ⟨Proofs.find_is_extremal_suffix ast len p h v, Proofs.trim_correct_suffix ast len p h v⟩

/-- ★ `%` spelled out: either no suffix matches and nothing is removed, or what is removed is a matching
    suffix and no proper shorter suffix matches. -/
theorem percent_removes_shortest (ast : Ast) (p : Pattern)
    (h : Pattern.fromAst ast (trimConfig .suffix .shortest) = .ok p) (v : List Char) :
    (trimValue p v = v ∧ ∀ j, j ≤ v.length → globMatch ast (v.drop j) = false) ∨
    (∃ k, k ≤ v.length ∧ trimValue p v = v.take k ∧ globMatch ast (v.drop k) = true ∧
      ∀ j, k < j → j ≤ v.length → globMatch ast (v.drop j) = false) :=
  Proofs.percent_removes_shortest ast p h v

/-- non-vacuity with a bracket of variable match length: `[[.ch.]h]` has no `*`, is outside `noMulti`, and
    matches both `h` and `ch`; on `ach` `%` removes `h`, `%%` removes `ch`; `?[[.ch.]h]` on `bach`: `ch`→`ba`. -/
example :
    let b : Atom := .bracket ⟨false, [.atom (.collating ['c', 'h']), .atom (.char 'h')]⟩
    noMulti [b] = false ∧
    globMatch [b] "h".toList = true ∧ globMatch [b] "ch".toList = true ∧
    (match Pattern.fromAst [b] (trimConfig .suffix .shortest), Pattern.fromAst [b] (trimConfig .suffix .longest),
        Pattern.fromAst [.anyChar, b] (trimConfig .suffix .shortest) with
     | .ok p, .ok q, .ok r => some (trimValue p "ach".toList, trimValue q "ach".toList, trimValue r "bach".toList)
     | _, _, _ => none) = some ("ac".toList, "a".toList, "ba".toList) ∧
    specTrim .suffix .shortest [b] "ach".toList = "ac".toList := by decide +kernel

/-- ★ Converse of `invalid_pattern_fallbacks`: a syntax tree with defined class names, no class as range
    bound, no empty symbol, no inverted range (and no empty bracket, which the parser never produces) compiles
    under every configuration — the fallbacks can only ever hit patterns outside the defined notation. -/
theorem defined_compiles (ast : Ast) (h : astDefined ast = true) (cfg : Config) :
    ∃ p, Pattern.fromAst ast cfg = .ok p :=
  Proofs.defined_compiles ast h cfg

/-- ★ so for defined patterns without multi-character elements the shell-level trim is the Spec's -/
theorem trimApply_correct (pcs : List PatternChar) (hd : astDefined (parseAtoms pcs) = true)
    (hn : noMulti (parseAtoms pcs) = true) (side : TrimSide) (len : TrimLength) (v : List Char) :
    trimApply side len pcs v = specTrim side len (parseAtoms pcs) v :=
  Proofs.trimApply_correct pcs hd hn side len v

/-- ★ and the Array arm of `trim::apply` (`"${@#pat}"`): every element is trimmed, each exactly as the Spec says -/
theorem trimArray_correct (pcs : List PatternChar) (hd : astDefined (parseAtoms pcs) = true)
    (hn : noMulti (parseAtoms pcs) = true) (side : TrimSide) (len : TrimLength) (vs : List (List Char)) :
    trimArray side len pcs vs = vs.map (specTrim side len (parseAtoms pcs)) := by
  unfold trimArray
  exact List.map_congr_left (fun v _ => trimApply_correct pcs hd hn side len v)

/-- non-vacuity on pattern characters (the form `trimApply_correct` / `trimArray_correct` quantify over): the
    pattern text `a*\?` read with escapes meets both hypotheses; `#` removes `ab?`, `##` everything -/
example :
    astDefined (parseAtoms (withEscape ['a', '*', '\\', '?'])) = true ∧
    noMulti (parseAtoms (withEscape ['a', '*', '\\', '?'])) = true ∧
    trimApply .prefix .shortest (withEscape ['a', '*', '\\', '?']) "ab?x?".toList = "x?".toList ∧
    trimApply .prefix .longest (withEscape ['a', '*', '\\', '?']) "ab?x?".toList = [] := by decide +kernel

/-- non-vacuity: `[![:digit:]x-z]*[[.-.]]` is defined and has no multi-character element -/
example :
    let ast : Ast := [.bracket ⟨true, [.atom (.cls "digit".toList), .range (.char 'x') (.char 'z')]⟩, .anyString,
      .bracket ⟨false, [.atom (.collating ['-'])]⟩]
    astDefined ast = true ∧ noMulti ast = true := by decide +kernel

/-- ★ The implementation's parser — item stack, hyphen flags, `make_range` after every push, `]`/`!`/`^`/`[`
    special only when unquoted and in position — computes exactly the grammar of the Spec (`specBracket`,
    `specParse`: member := elem `-` elem | elem, written without any stack), for every pattern-character string. -/
theorem parser_is_grammar (cs : List PatternChar) :
    parseBracket cs = specBracket cs ∧ parseAtoms cs = specParse cs :=
  ⟨parseBracket_eq_spec cs, parseAtoms_eq_spec cs.length cs (Nat.le_refl _)⟩

/-- ★★ `match_correct`: for EVERY pattern-character string (quoted and unquoted characters, any characters)
    and every subject: if the pattern compiles under the `case` configuration, `is_match` is exactly POSIX
    pattern matching as defined by the Spec from the characters up (`posixMatch` = grammar + `globMatch`), and
    every pattern inside the defined notation does compile.  The chain parser → regex text → regex-crate parse
    → leftmost-first search (or the literal fast path) is kernel-checked end to end. -/
theorem match_correct (pcs : List PatternChar) (cfg : Config) (hb : cfg.anchorBegin = true)
    (he : cfg.anchorEnd = true) (hl : cfg.literalPeriod = false) :
    (∀ p, Pattern.parse pcs cfg = .ok p → ∀ s, p.isMatch s = posixMatch pcs s) ∧
    (astDefined (specParse pcs) = true → ∃ p, Pattern.parse pcs cfg = .ok p) := by
  have hp := (parser_is_grammar pcs).2
  constructor
  · intro p h s
    unfold posixMatch
    rw [← hp]
    exact isMatch_correct (parseAtoms pcs) cfg hb he hl p h s
  · intro hd
    rw [← hp] at hd
    exact defined_compiles (parseAtoms pcs) hd cfg

/-- non-vacuity: the quoted pattern `a*` is inside the defined notation (so it compiles and `match_correct`
    speaks about it) -/
example : astDefined (specParse (List.map PatternChar.literal ['a', '*'])) = true := by
  rw [← (parser_is_grammar _).2, Proofs.parseAtoms_literals]; decide

/-- ★ Prefix removal for EVERY pattern (also with multi-character collating elements, where `noMulti` fails):
    what `#`/`##` remove is a matching prefix (possibly the empty one, as for `#*`), and the search finds nothing —
    the first disjunct — only when no prefix matches.  Which
    matching prefix: the first in the matcher's priority order (alternatives of a bracket in the order written,
    `*` lazy/greedy) — the least/greatest one exactly when `noMulti` (`trim_correct`). -/
theorem prefix_trim_sound (ast : Ast) (len : TrimLength) (p : Pattern)
    (h : Pattern.fromAst ast (trimConfig .prefix len) = .ok p) (v : List Char) :
    (trimValue p v = v ∧ ∀ k, k ≤ v.length → globMatch ast (v.take k) = false) ∨
    (∃ k, k ≤ v.length ∧ trimValue p v = v.drop k ∧ globMatch ast (v.take k) = true) :=
  Proofs.prefix_trim_sound ast len p h v

/-- non-vacuity outside `noMulti`: `[a[.ab.]]` compiles for `##` and removes the matching prefix `a` of `ab` -/
example :
    let ast : Ast := [.bracket ⟨false, [.atom (.char 'a'), .atom (.collating ['a', 'b'])]⟩]
    (match Pattern.fromAst ast (trimConfig .prefix .longest) with
     | .ok p => some (trimValue p "ab".toList)
     | .error _ => none) = some ("ab".toList.drop 1) ∧ globMatch ast ("ab".toList.take 1) = true := by decide +kernel

/-- ★ The shell-level suffix trims for every defined pattern, with no hypothesis on multi-character elements
    (the statement a wrong `shortest_match` in `trim::apply`'s configuration breaks). -/
theorem trimApply_suffix_correct (pcs : List PatternChar) (hd : astDefined (parseAtoms pcs) = true)
    (len : TrimLength) (v : List Char) :
    trimApply .suffix len pcs v = specTrim .suffix len (parseAtoms pcs) v :=
  Proofs.trimApply_suffix_correct pcs hd len v

/-- ★ The Spec's searches meet their description: `leastUpTo` / `greatestUpTo` return the least / greatest
    `k ≤ n` with `p k`, and `none` exactly when there is none (so `specTrim` removes the shortest / longest
    matching prefix / suffix in the literal sense). -/
theorem specTrim_declarative (p : Nat → Bool) (n : Nat) :
    ((leastUpTo p n = none ∧ ∀ j, j ≤ n → p j = false) ∨
     (∃ k, leastUpTo p n = some k ∧ k ≤ n ∧ p k = true ∧ ∀ j, j < k → p j = false)) ∧
    ((greatestUpTo p n = none ∧ ∀ j, j ≤ n → p j = false) ∨
     (∃ k, greatestUpTo p n = some k ∧ k ≤ n ∧ p k = true ∧ ∀ j, k < j → j ≤ n → p j = false)) :=
  ⟨Proofs.leastUpTo_spec, Proofs.greatestUpTo_spec⟩

/-- ★ `rfind` steps by characters, not bytes: from the match starting at character `i` the
    byte-wise probe `(start+1..=len).find(is_char_boundary)` lands exactly on character `i+1` — whatever the
    encoded length (1–4 bytes) of character `i` — and on nothing only at the end of the text; hence one round
    of the loop is "search again from the next character". -/
theorem rfind_step_is_next_char (text : List Char) (i : Nat) (g : Bool) (re : List ReAtom) (fuel : Nat)
    (cur : Nat × Nat) :
    (nextBoundary text (byteOffset text i)).map (·.1) = (if i + 1 ≤ text.length then some (i + 1) else none) ∧
    rfindLoop g re text (fuel + 1) cur =
      (if cur.1 + 1 ≤ text.length then
        (match findAt g re text (cur.1 + 1) with
         | some r => rfindLoop g re text fuel r
         | none => cur)
       else cur) :=
  ⟨nextBoundary_index text i, rfindLoop_unfold g re text fuel cur⟩

/-- non-vacuity: after the 4-byte character `𝄞` (bytes 0..4) the next boundary is byte 4 = character 1 -/
example : nextBoundary "𝄞a".toList (byteOffset "𝄞a".toList 0) = some (1, 4) := by decide +kernel

/-- ★ The whole `case` command (`case.rs execute` + `matches`: every item, every `|`-alternative, `;;` `;&`
    `;;&`): with all alternatives inside the defined notation, the bodies that run, in order, are the Spec's
    (`specCaseExec` over the grammar-parsed alternatives); the error-aware run the driver uses for failing
    expansions is the same run when nothing fails; and the Spec's run starts at the Spec's selected item. -/
theorem caseExec_spec (subj : List Char) (items : List (List (List PatternChar) × CaseCont))
    (hd : ∀ it ∈ items, ∀ p ∈ it.1, astDefined (parseAtoms p) = true) :
    caseExec items subj = specCaseExec subj false 0 (items.map fun it => (it.1.map specParse, it.2)) ∧
    caseExecEGo subj false 0 (items.map fun it => (it.1.map some, it.2)) = (caseExec items subj, false) ∧
    (specCaseExec subj false 0 (items.map fun it => (it.1.map specParse, it.2))).head? =
      specCaseSelect (items.map fun it => it.1.map specParse) subj := by
  have hfun : parseAtoms = specParse := funext fun cs => (parser_is_grammar cs).2
  refine ⟨?_, Proofs.caseExecEGo_no_error subj items false 0, ?_⟩
  · rw [← hfun]; exact Proofs.caseExecGo_spec subj items hd false 0
  · rw [Proofs.specCaseExec_head]
    unfold specCaseSelect
    simp only [List.map_map, List.findIdx?_map]
    have : ∀ o : Option Nat, Option.map (fun x => x + 0) o = o := by intro o; cases o <;> rfl
    rw [this]
    rfl

/-- non-vacuity: an item list whose alternatives are quoted patterns meets the hypothesis -/
example : ∀ it ∈ [([List.map PatternChar.literal ['a']], CaseCont.brk)], ∀ p ∈ it.1,
    astDefined (parseAtoms p) = true := by
  intro it hi p hp
  simp at hi; subst hi
  simp at hp; subst hp
  have := Proofs.parseAtoms_literals ['a']
  simp only [List.map] at this
  rw [this]; decide

/-- ★ `case` selects the first pattern that compiles and whose syntax tree denotes the subject; when all
    patterns compile this is the Spec's "first item with a matching pattern". -/
theorem case_first_match (pats : List (List PatternChar)) (subj : List Char) :
    caseFirst pats subj = pats.findIdx? (fun p => compilesB p && globMatch (parseAtoms p) subj) ∧
    ((∀ p ∈ pats, compilesB p = true) → caseFirst pats subj = specCase (pats.map parseAtoms) subj) :=
  Proofs.case_first_match pats subj

/-- ★ `case` with `|`-alternatives (`case.rs matches` + the item loop): the item selected is the FIRST item
    having an alternative that compiles and denotes the subject — an alternative that does not compile is
    skipped and the remaining alternatives of the same item still count — and `none` if there is no such
    item; the first body `case` executes is that item's; and when every alternative is inside the defined
    notation this is the Spec's selection. -/
theorem caseSelect_first (items : List (List (List PatternChar))) (subj : List Char) :
    caseSelect items subj =
      items.findIdx? (fun alts => alts.any (fun p => compilesB p && globMatch (parseAtoms p) subj)) ∧
    (∀ its : List (List (List PatternChar) × CaseCont),
      (caseExec its subj).head? = caseSelect (its.map Prod.fst) subj) ∧
    ((∀ alts ∈ items, ∀ p ∈ alts, astDefined (parseAtoms p) = true) →
      caseSelect items subj = specCaseSelect (items.map (fun alts => alts.map parseAtoms)) subj) :=
  ⟨Proofs.caseSelect_first items subj, fun its => Proofs.caseExecGo_head subj its 0,
   Proofs.caseSelect_spec items subj⟩

/-- non-vacuity of the third clause: quoted patterns are inside the defined notation -/
example : astDefined (parseAtoms (List.map PatternChar.literal ['[', 'b', '-', 'a', ']'])) = true := by
  rw [Proofs.parseAtoms_literals]; decide

/-- non-vacuity of the second clause: literal patterns always compile -/
example : compilesB (List.map PatternChar.literal ['a', '*']) = true := by
  obtain ⟨p, hp, _⟩ := (literal_is_literal ['a', '*'] caseConfig rfl rfl).2
  unfold compilesB
  rw [hp]

/-- ★ `Pattern::find` under EVERY configuration (four anchorings × greedy/lazy × `literal_period`, regex path and
    literal fast path, every syntax tree incl. multi-character elements): what it returns is an occurrence of the
    pattern (`occurs`: that part of the text is in the glob language and respects the anchors), it starts at the
    LEFTMOST position at or after the search start where any occurrence starts, and `None` means there is no
    occurrence at or after the search start.  (`searchStart` = 1 when `literal_period` rejects an initial dot on
    the regex path, else 0.)  Which end it takes at that start is the matcher's priority order — the shortest /
    longest one for patterns without multi-character elements (`find_is_extremal`). -/
theorem find_leftmost (ast : Ast) (cfg : Config) (p : Pattern) (h : Pattern.fromAst ast cfg = .ok p)
    (s : List Char) :
    match p.find s with
    | none => ∀ i j, searchStart ast cfg s ≤ i → ¬ occurs cfg.anchorBegin cfg.anchorEnd ast s i j
    | some (a, e) => searchStart ast cfg s ≤ a ∧ occurs cfg.anchorBegin cfg.anchorEnd ast s a e ∧
        ∀ i j, searchStart ast cfg s ≤ i → i < a → ¬ occurs cfg.anchorBegin cfg.anchorEnd ast s i j :=
  Proofs.find_leftmost ast cfg p h s

/-- ★ `Pattern::rfind` under every configuration: an occurrence that starts at the RIGHTMOST position where any
    occurrence starts (the byte-wise `while let` loop, with `rfind_step_is_next_char`), and `None` only when there is
    no occurrence at or after the search start (as for `find`: `find_leftmost`). -/
theorem rfind_rightmost (ast : Ast) (cfg : Config) (p : Pattern) (h : Pattern.fromAst ast cfg = .ok p)
    (s : List Char) :
    match p.rfind s with
    | none => ∀ i j, searchStart ast cfg s ≤ i → ¬ occurs cfg.anchorBegin cfg.anchorEnd ast s i j
    | some (a, e) => searchStart ast cfg s ≤ a ∧ occurs cfg.anchorBegin cfg.anchorEnd ast s a e ∧
        ∀ i j, a < i → ¬ occurs cfg.anchorBegin cfg.anchorEnd ast s i j :=
  Proofs.rfind_rightmost ast cfg p h s

/-- ★ `Pattern::is_match` under every configuration = the Spec's "some part of the text admitted by the anchors is
    in the glob language" (`specIsMatchFrom`, the executable form of `∃ i j, occurs …`); `is_match` is
    `find(..).is_some()` on both paths. -/
theorem isMatch_any_config (ast : Ast) (cfg : Config) (p : Pattern) (h : Pattern.fromAst ast cfg = .ok p)
    (s : List Char) :
    p.isMatch s = specIsMatchFrom cfg.anchorBegin cfg.anchorEnd ast s (searchStart ast cfg s) ∧
    p.isMatch s = (p.find s).isSome ∧
    (p.isMatch s = true ↔ ∃ i j, searchStart ast cfg s ≤ i ∧ occurs cfg.anchorBegin cfg.anchorEnd ast s i j) :=
  ⟨Proofs.isMatch_any_config ast cfg p h s, isMatch_eq_find p s, Proofs.isMatch_iff ast cfg p h s⟩

/-- non-vacuity: `*a` unanchored and lazy (`swap_greed`) on `banana` compiles; `find` gives `0..2` (`ba`: leftmost
    start, shortest end), `rfind` `5..6`; with `literal_period` `?x` on `.x.x` is searched from index 1: `2..4`. -/
example :
    (match Pattern.fromAst [.anyString, .char 'a'] { shortest := true } with
     | .ok p => some (p.find "banana".toList, p.rfind "banana".toList, p.isMatch "bnn".toList)
     | .error _ => none) = some (some (0, 2), some (5, 6), false) ∧
    (match Pattern.fromAst [.anyChar, .char 'x'] { literalPeriod := true } with
     | .ok p => some (p.find ".x.x".toList)
     | .error _ => none) = some (some (2, 4)) ∧
    searchStart [.anyChar, .char 'x'] { literalPeriod := true } ".x.x".toList = 1 := by decide +kernel

/-- ★ glob's configuration (both anchors + `literal_period`): `is_match` is POSIX matching with the leading-period
    rule of XCU 2.13.3 — a leading period of the text is matched only by a period written as the first character of
    the pattern, never by `?`, `*` or a bracket expression. -/
theorem literal_period_correct (ast : Ast) (cfg : Config) (hb : cfg.anchorBegin = true)
    (he : cfg.anchorEnd = true) (hl : cfg.literalPeriod = true) (p : Pattern)
    (h : Pattern.fromAst ast cfg = .ok p) (s : List Char) :
    p.isMatch s = specPeriodMatch ast s :=
  Proofs.literal_period_correct ast cfg hb he hl p h s

/-- non-vacuity: under glob's configuration `*`, `?x`, `[.]x` do not match `.x`, `.*` and the literal `.x` do -/
example :
    let cfg : Config := { anchorBegin := true, anchorEnd := true, literalPeriod := true }
    let dotSet : Atom := .bracket ⟨false, [.atom (.char '.')]⟩
    ([[Atom.anyString], [.anyChar, .char 'x'], [dotSet, .char 'x'], [.char '.', .anyString],
      [.char '.', .char 'x']].map fun ast =>
      match Pattern.fromAst ast cfg with
      | .ok p => some (p.isMatch ".x".toList)
      | .error _ => none) = [some false, some false, some false, some true, some true] := by decide +kernel

/-- ★ The hand-written tables of the regex-crate model are the tables of the regex-syntax crate the harness links
    (re-extracted from its source on every run): the characters a backslash may precede
    (`is_meta_character`), the class names of `ClassAsciiKind::from_name` (same names, same order), and for every
    class and EVERY character membership by the byte ranges of `hir::translate::ascii_class`. -/
theorem regex_tables_agree :
    ((∀ c ∈ escapable, c ∈ Generated.FnmatchRegexSyntax.metaChars) ∧
     (∀ c ∈ Generated.FnmatchRegexSyntax.metaChars, c ∈ escapable)) ∧
    Generated.FnmatchRegexSyntax.asciiClasses.map (·.1.toList) = AsciiKind.all.map AsciiKind.name ∧
    ∀ (k : AsciiKind) (c : Char), k.mem c = inRanges (rangesOfKind k) c :=
  ⟨by decide +kernel, Proofs.names_agree, Proofs.kinds_mem_ranges⟩

/-- ★ The constants of /repo the model is built on, re-extracted on every run: `Config` has exactly the five flags
    (four modelled + `case_insensitive`), `Error` the five classes of `Err`, `from_ast_and_config` sets exactly
    `dot_matches_new_line(true)`, `swap_greed(shortest_match)`, `case_insensitive(case_insensitive)`; ast/regex.rs
    writes exactly the fourteen literals the model's `fmt` functions write; `trim::apply` sets for each side / length
    exactly the flags of `trimConfig`, and `case`'s `config()` exactly those of `caseConfig`; the only files of /repo
    that use yash-fnmatch are case.rs, trim.rs, glob.rs (C05) and attr_fnmatch.rs, and none of them touches
    `case_insensitive` (the one flag outside the model — the assumption is re-checked on every run). -/
theorem config_tables_agree :
    (Generated.FnmatchConfig.configFields =
        ["anchor_begin", "anchor_end", "case_insensitive", "literal_period", "shortest_match"] ∧
      Generated.FnmatchConfig.errorVariants =
        ["CharClassInRange", "EmptyBracket", "EmptyCollatingSymbol", "RegexError", "UndefinedCharClass"] ∧
      Generated.FnmatchConfig.regexBuilderFlags =
        [("case_insensitive", "config.case_insensitive"), ("dot_matches_new_line", "true"),
         ("swap_greed", "config.shortest_match")] ∧
      Generated.FnmatchConfig.emittedLiterals =
        ["(?:", ")", "-", ".", ".*", "[", "[^", "\\", "\\A", "\\z", "]", "^", "fmt:[:{class}:]", "|"]) ∧
    (∀ side len, trimConfig side len = cfgOfFlags (sideFlags side ++ lengthFlags len) ∧
      ∀ f ∈ sideFlags side ++ lengthFlags len, f ∈ modelledFlags) ∧
    (caseConfig = cfgOfFlags Generated.FnmatchConfig.caseConfigFlags ∧
      ∀ f ∈ Generated.FnmatchConfig.caseConfigFlags, f ∈ modelledFlags) ∧
    (Generated.FnmatchConfig.fnmatchCallers =
        ["yash-semantics/src/command/compound_command/case.rs", "yash-semantics/src/expansion/attr_fnmatch.rs",
         "yash-semantics/src/expansion/glob.rs", "yash-semantics/src/expansion/initial/param/trim.rs"] ∧
      Generated.FnmatchConfig.caseInsensitiveUsers = []) :=
  ⟨⟨rfl, rfl, rfl, rfl⟩, fun side len => by cases side <;> cases len <;> decide, by decide, rfl, rfl⟩

/-! The five table lemmas of namespace `Proofs` run the other way round from the rest of that namespace: they are the
    conjuncts OF `regex_tables_agree` / `config_tables_agree` above, by name. -/

namespace Proofs
open YashModel.Generated

theorem escapable_agree :
    (∀ c ∈ escapable, c ∈ FnmatchRegexSyntax.metaChars) ∧ (∀ c ∈ FnmatchRegexSyntax.metaChars, c ∈ escapable) :=
  regex_tables_agree.1

theorem config_tables :
    FnmatchConfig.configFields =
      ["anchor_begin", "anchor_end", "case_insensitive", "literal_period", "shortest_match"] ∧
    FnmatchConfig.errorVariants =
      ["CharClassInRange", "EmptyBracket", "EmptyCollatingSymbol", "RegexError", "UndefinedCharClass"] ∧
    FnmatchConfig.regexBuilderFlags =
      [("case_insensitive", "config.case_insensitive"), ("dot_matches_new_line", "true"),
       ("swap_greed", "config.shortest_match")] ∧
    FnmatchConfig.emittedLiterals =
      ["(?:", ")", "-", ".", ".*", "[", "[^", "\\", "\\A", "\\z", "]", "^", "fmt:[:{class}:]", "|"] :=
  config_tables_agree.1

theorem callers_table :
    FnmatchConfig.fnmatchCallers =
      ["yash-semantics/src/command/compound_command/case.rs", "yash-semantics/src/expansion/attr_fnmatch.rs",
       "yash-semantics/src/expansion/glob.rs", "yash-semantics/src/expansion/initial/param/trim.rs"] ∧
    FnmatchConfig.caseInsensitiveUsers = [] :=
  config_tables_agree.2.2.2

theorem trimConfig_table (side : TrimSide) (len : TrimLength) :
    trimConfig side len = cfgOfFlags (sideFlags side ++ lengthFlags len) ∧
    ∀ f ∈ sideFlags side ++ lengthFlags len, f ∈ modelledFlags :=
  config_tables_agree.2.1 side len

theorem caseConfig_table :
    caseConfig = cfgOfFlags FnmatchConfig.caseConfigFlags ∧
    ∀ f ∈ FnmatchConfig.caseConfigFlags, f ∈ modelledFlags :=
  config_tables_agree.2.2.1

end Proofs

/-- ★ The Spec's meaning of `[:name:]` is the POSIX locale's: for each of the twelve class names of XBD 9.3.5 a
    bracket member `[:name:]` contains exactly the characters the POSIX locale definition (XBD 7.3.1) lists for
    that class — for every character, not only ASCII — and such a class is inside the defined notation.  (So the
    range tables `AsciiKind.mem` are not an assumption shared by model and Spec.) -/
theorem posix_classes_agree (name members : List Char) (h : posixClass name = some members) (c : Char) :
    atomHas (.cls name) c = decide (c ∈ members) ∧ atomDefined (.cls name) = true := by
  obtain ⟨k, hk, hm⟩ := Proofs.posix_class_mem name members h
  simp only [atomHas, atomDefined, hk, hm c]
  exact ⟨trivial, rfl⟩

/-- non-vacuity: `punct` is one of the twelve, with the 32 characters of the POSIX locale -/
example : posixClass "punct".toList = some posixPunct ∧ posixPunct.length = 32 := by decide +kernel

/-- ★ The pattern characters of the shell word `"$q"$p` (`apply_escapes` then `to_pattern_chars` on what
    `expand_word_attr` yields): every character of the quoted part is a `Literal`, the quotation marks vanish, and
    in the unquoted part a backslash makes the next character a `Literal` (a last lone backslash stays itself). -/
theorem shell_word_chars (q p : List Char) :
    toPatternChars (applyEscapes (shellWord q p)) = q.map .literal ++ escapeChars p :=
  Proofs.shell_word_chars q p

/-- ★ "quoted characters match only themselves" at the level of the shell: the `case` pattern `"$q"` — whatever
    characters `q` consists of — compiles and matches exactly the subject `q`; so does the trim pattern. -/
theorem quoted_word_matches_only_itself (q : List Char) :
    (∀ subj, itemMatches subj [toPatternChars (applyEscapes (shellWord q []))] = decide (subj = q)) ∧
    (∃ pat, Pattern.parse (toPatternChars (applyEscapes (shellWord q []))) caseConfig = .ok pat ∧
      ∀ s, pat.isMatch s = decide (s = q)) := by
  have e : toPatternChars (applyEscapes (shellWord q [])) = q.map .literal := by
    rw [shell_word_chars]; simp [escapeChars]
  rw [e]
  exact ⟨fun subj => Proofs.itemMatches_literal q subj, (literal_is_literal q caseConfig rfl rfl).2⟩

/-- ★ `Ast::to_literal` / `is_literal` (the switch to the literal fast path, and what `glob` asks): a pattern is a
    literal exactly when all its atoms are ordinary characters, and the literal is those characters. -/
theorem toLiteral_spec (ast : Ast) (l : List Char) : toLiteral ast = some l ↔ ast = l.map Atom.char :=
  Proofs.toLiteral_spec ast l

/-- ★ The scan of `parse_inner` that model and Spec grammar share, characterised without recursion: the value of
    `[.`…`.]` / `[=`…`=]` / `[:`…`:]` ends at the FIRST adjacent pair of an unquoted `d` and an unquoted `]` (quoted
    ones do not count), and there is no value when there is no such pair. -/
theorem scanClose_first (d : Char) (cs v r : List PatternChar) :
    (scanClose d cs = some (v, r) ↔
      (cs = v ++ .normal d :: .normal ']' :: r ∧
       ∀ v' r', cs = v' ++ .normal d :: .normal ']' :: r' → v.length ≤ v'.length)) ∧
    (scanClose d cs = none ↔ ¬ ∃ v' r', cs = v' ++ .normal d :: .normal ']' :: r') :=
  ⟨Proofs.scanClose_spec d cs v r, Proofs.scanClose_none d cs⟩

/-- non-vacuity: in `a\.].]x` the quoted `.` does not end the value: value `a.]`, rest `x` -/
example : scanClose '.' [.normal 'a', .literal '.', .normal ']', .normal '.', .normal ']', .normal 'x']
    = some ([.normal 'a', .literal '.', .normal ']'], [.normal 'x']) := by decide

/-- ★ A syntax tree compiles — under whatever configuration — EXACTLY when it is inside the defined notation
    (non-empty brackets, defined class names, no class as range bound, no empty symbol, no inverted range).  So
    "the pattern is outside the defined notation" and "`Pattern::parse_with_config` returns an error" are the same
    thing.  For pattern-character strings (through the grammar `specParse`), with the consequences — the trim is a
    no-op, `case` skips the alternative — see `undefined_pattern_is_error` below. -/
theorem compiles_iff_defined (ast : Ast) (cfg : Config) :
    ((∃ p, Pattern.fromAst ast cfg = .ok p) ↔ astDefined ast = true) ∧
    (astDefined ast = false → ∃ e, Pattern.fromAst ast cfg = .error e) :=
  ⟨Proofs.compiles_iff_defined ast cfg, Proofs.undefined_error ast cfg⟩

theorem undefined_pattern_is_error (pcs : List PatternChar) (h : astDefined (specParse pcs) = false) :
    (∀ cfg, ∃ e, Pattern.parse pcs cfg = .error e) ∧
    (∀ side len v, trimApply side len pcs v = v) ∧
    (∀ subj rest, itemMatches subj (pcs :: rest) = itemMatches subj rest) := by
  rw [← (parser_is_grammar pcs).2] at h
  have herr : ∀ cfg, ∃ e, Pattern.parse pcs cfg = .error e := fun cfg => Proofs.undefined_error _ cfg h
  refine ⟨herr, ?_, ?_⟩
  · intro side len v
    obtain ⟨e, he⟩ := herr (trimConfig side len)
    exact (invalid_pattern_fallbacks pcs).1 side len e v he
  · intro subj rest
    obtain ⟨e, he⟩ := herr caseConfig
    exact Proofs.itemMatches_error he subj rest

/-- non-vacuity: `[[:foo:]]`, `[b-a]`, `[[..]]x` (as pattern characters, through the grammar) are outside the
    defined notation; the tree with an empty bracket (only buildable through `from_ast`) too -/
example :
    astDefined [.bracket ⟨false, [.atom (.cls "foo".toList)]⟩] = false ∧
    astDefined [.bracket ⟨false, [.range (.char 'b') (.char 'a')]⟩] = false ∧
    astDefined [.bracket ⟨true, [.atom (.collating [])]⟩, .char 'x'] = false ∧
    astDefined [.bracket ⟨false, []⟩] = false := by decide +kernel

/-- ★ The regex-crate model IS textbook semantics on the fragment `to_regex` emits.  (What `to_regex` emits parses to
    anchors only at the two ends around an anchor-free body: `emitted_fragment` below.)  (1) The
    backtracking matcher returns the FIRST entry of the priority-ordered enumeration `reEnum` (greedy `.*`: longest
    continuation first, lazy: shortest first; alternatives in the order written) — the definition of leftmost-first
    semantics.  (2) That enumeration lists exactly the rests of the order-free denotation `reDenotes` (clause by
    clause: `.` one character, `.*` any suffix, a class one member, `(?:…|…)` some branch, `\A` / `\z` the two
    ends), whatever the greed; hence the matcher is sound and complete for the denotation — for EVERY regex of the
    fragment, anchors anywhere.  (`find_at` returns the leftmost start at which the denotation is non-empty:
    `findAt_is_leftmost` below.) -/
theorem regex_model_is_textbook (g : Bool) (n : Nat) (re : List ReAtom) (s : List Char) :
    matchHere g n re s = (reEnum g n re s).head? ∧
    (∀ ρ, ρ ∈ reEnum g n re s ↔ reDenotes n re s ρ) ∧
    (∀ ρ, matchHere g n re s = some ρ → reDenotes n re s ρ) ∧
    (∀ ρ, reDenotes n re s ρ → (matchHere g n re s).isSome = true) :=
  ⟨Proofs.matchHere_head g n re s, Proofs.mem_reEnum g n re s, Proofs.matchHere_sound g n re s,
   Proofs.matchHere_complete g n re s⟩

theorem emitted_fragment (ast : Ast) (cfg : Config) (r : List Char) (h : toRegex ast cfg = .ok r)
    (re : List ReAtom) (hp : parseRe r = some re) :
    ∃ res, cAtoms ast = some res ∧ re = cfgRe cfg.anchorBegin cfg.anchorEnd res ∧ res.all noAnchor = true := by
  obtain ⟨res, hc, hre⟩ := toRegex_compiles ast cfg r h re hp
  exact ⟨res, hc, hre, cAtoms_noAnchor ast res hc⟩

theorem findAt_is_leftmost (g : Bool) (re : List ReAtom) (text : List Char) (a0 : Nat) (h0 : a0 ≤ text.length) :
    match findAt g re text a0 with
    | none => ∀ i, a0 ≤ i → i ≤ text.length → ∀ ρ, ¬ reDenotes text.length re (text.drop i) ρ
    | some (a, e) => a0 ≤ a ∧ a ≤ text.length ∧
        (∃ ρ, (reEnum g text.length re (text.drop a)).head? = some ρ ∧ e = text.length - ρ.length) ∧
        ∀ i, a0 ≤ i → i < a → ∀ ρ, ¬ reDenotes text.length re (text.drop i) ρ :=
  Proofs.findAt_is_leftmost g re text a0 h0

/-- non-vacuity: `(?:ab|[a]).*\z` on `abc`: greedy and lazy take the first branch first; the enumeration of the
    anchored regex has one entry per branch that can be completed -/
example :
    let re : List ReAtom := [.alt [[.lit 'a', .lit 'b'], [.cls ⟨false, [.single 'a']⟩]], .star, .eos]
    reEnum true 3 re "abc".toList = [[], []] ∧ matchHere false 3 re "abc".toList = some [] ∧
    reEnum true 3 [.alt [[.lit 'a', .lit 'b'], [.cls ⟨false, [.single 'a']⟩]], .star] "abc".toList
      = [[], ['c'], [], ['c'], ['b', 'c']] := by decide +kernel

/-- ★ The whole loop of `case.rs execute`, exit status included (`falling_through`, `exit_status_updated`, the final
    "`if !exit_status_updated { $? = 0 }`"): the bodies run are those of `caseExec` (hence, by `caseExec_spec`, the
    Spec's), and `$?` afterwards is XCU 2.9.4.3's: zero if no body ran, zero if the LAST body run is empty, otherwise
    what running those bodies in order leaves — whatever `$?` was on entry and whatever the bodies do to it. -/
theorem caseExecute_spec (items : List CaseItemM) (subj : List Char) (st0 : Nat) :
    (caseExecute items subj st0).1 = caseExec (items.map fun it => (it.alts, it.cont)) subj ∧
    (caseExecute items subj st0).2 =
      specCaseStatus (items.map (·.body)) (items.map (·.bodyEmpty)) st0
        (caseExec (items.map fun it => (it.alts, it.cont)) subj) :=
  Proofs.caseExecute_spec items subj st0

/-- non-vacuity: `case a in (a) st 5 ;& (b) ;; (*) echo ;; esac` entered with `$?` = 7: bodies 0 and 1 run, the
    last one is empty, so `$?` = 0; with `;;&` instead of `;&` bodies 0 and 2 run and `$?` is what `echo` leaves -/
example :
    let a : List PatternChar := [.normal 'a']
    let b : List PatternChar := [.normal 'b']
    let star : List PatternChar := [.normal '*']
    caseExecute [⟨[a], .fallThrough, false, fun _ => 5⟩, ⟨[b], .brk, true, id⟩, ⟨[star], .brk, false, fun _ => 0⟩]
      ['a'] 7 = ([0, 1], 0) ∧
    caseExecute [⟨[a], .cont, false, fun _ => 5⟩, ⟨[b], .brk, true, id⟩, ⟨[star], .brk, false, fun s => s + 1⟩]
      ['a'] 7 = ([0, 2], 6) := by decide +kernel

/-- ★ Where `literal_period` can be observed at all: the table of every function of /repo (outside the crate) that
    sets it, with ALL the flags it sets, is re-extracted on every run; each such configuration has both anchors, so
    `literal_period_correct` applies to it on both paths — in particular the literal fast path, which does not look
    at `literal_period`, cannot be told apart there (`text == s` with a leading period in `text` forces one in `s`).
    The one place where the fast path differs from the regex path (no anchor: the empty pattern finds `0..0` in `.x`,
    the regex path would search from index 1) is not a reachable configuration. -/
theorem literal_period_reachable :
    (∀ e ∈ Generated.FnmatchConfig.literalPeriodConfigs,
      (cfgOfFlags e.2).anchorBegin = true ∧ (cfgOfFlags e.2).anchorEnd = true ∧
      (cfgOfFlags e.2).literalPeriod = true ∧ ∀ f ∈ e.2, f ∈ modelledFlags) ∧
    (∀ e ∈ Generated.FnmatchConfig.literalPeriodConfigs, ∀ ast p,
      Pattern.fromAst ast (cfgOfFlags e.2) = .ok p → ∀ s, p.isMatch s = specPeriodMatch ast s) := by
  have h1 : ∀ e ∈ Generated.FnmatchConfig.literalPeriodConfigs,
      (cfgOfFlags e.2).anchorBegin = true ∧ (cfgOfFlags e.2).anchorEnd = true ∧
      (cfgOfFlags e.2).literalPeriod = true ∧ ∀ f ∈ e.2, f ∈ modelledFlags := by decide +kernel
  refine ⟨h1, ?_⟩
  intro e he ast p hp s
  obtain ⟨hb, hE, hl, _⟩ := h1 e he
  exact literal_period_correct ast _ hb hE hl p hp s

/-- the table is not empty (glob's `to_pattern`), and the unreachable difference is real -/
example :
    Generated.FnmatchConfig.literalPeriodConfigs.length = 1 ∧
    (match Pattern.fromAst [] { literalPeriod := true }, Pattern.fromAst [.anyString] { literalPeriod := true, shortest := true } with
     | .ok p, .ok q => some (p.find ".x".toList, q.find ".x".toList)
     | _, _ => none) = some (some (0, 0), some (1, 1)) := by decide +kernel

/-- ★ `trim::apply` end to end for the pattern word `"$q"$p` (after expansion): escapes applied, configuration chosen
    by side and length, pattern parsed, value trimmed — scalar or every array element.  With `pcs` the pattern
    characters the Spec assigns to the word (`q` literal, then `p` with backslash escapes): outside the defined
    notation the value is unchanged; inside it the result is the Spec's shortest / longest prefix / suffix removal —
    on the suffix side for every pattern, on the prefix side without multi-character collating elements. -/
theorem trimApplyValue_correct (q p : List Char) (side : TrimSide) (len : TrimLength) (value : Value) :
    (astDefined (specParse (q.map PatternChar.literal ++ escapeChars p)) = false →
      trimApplyValue side len (shellWord q p) value = value) ∧
    (astDefined (specParse (q.map PatternChar.literal ++ escapeChars p)) = true →
      (side = .suffix ∨ noMulti (specParse (q.map PatternChar.literal ++ escapeChars p)) = true) →
      trimApplyValue side len (shellWord q p) value =
        value.map (specTrim side len (specParse (q.map PatternChar.literal ++ escapeChars p)))) := by
  have hg := (parser_is_grammar (q.map PatternChar.literal ++ escapeChars p)).2
  rw [Proofs.trimApplyValue_map, shell_word_chars]
  constructor
  · intro hu
    rw [funext ((undefined_pattern_is_error _ hu).2.1 side len)]
    cases value <;> simp [Value.map]
  · intro hd hside
    rw [← hg] at hd hside ⊢
    congr 1
    funext v
    rcases hside with rfl | hn
    · exact trimApply_suffix_correct _ hd len v
    · exact trimApply_correct _ hd hn side len v

/-- non-vacuity: the word `"*"\*` — a quoted star then an escaped star: the pattern is the two literal characters `**` -/
example : (List.map PatternChar.literal ['*'] ++ escapeChars ['\\', '*']) = [.literal '*', .literal '*'] := by
  decide +kernel

/-- ★ WHICH end `find` takes at its (leftmost) start, for EVERY configuration — completing `find_leftmost`: for a
    pattern without multi-character collating elements the end is the greatest one any occurrence at that start has
    when greedy, and the least one under `shortest_match` (regex path: greedy / `swap_greed` star; literal path and
    `anchor_end`: there is only one).  `find_is_extremal` is this for the four trim configurations.  With
    multi-character elements the alternation order decides instead (example below: `[a[.ab.]]` greedy finds `0..1`
    in `ab` although `0..2` is an occurrence). -/
theorem find_end_extremal (ast : Ast) (hn : noMulti ast = true) (cfg : Config) (p : Pattern)
    (h : Pattern.fromAst ast cfg = .ok p) (s : List Char) (a e : Nat) (hf : p.find s = some (a, e)) :
    ∀ j, occurs cfg.anchorBegin cfg.anchorEnd ast s a j → if cfg.shortest then e ≤ j else j ≤ e :=
  Proofs.find_end_extremal ast hn cfg p h s a e hf

/-- non-vacuity: `a*` unanchored on `xaab`: greedy `1..4`, lazy `1..2`; and the hypothesis is necessary -/
example :
    (match Pattern.fromAst [.char 'a', .anyString] {}, Pattern.fromAst [.char 'a', .anyString] { shortest := true } with
     | .ok p, .ok q => some (p.find "xaab".toList, q.find "xaab".toList)
     | _, _ => none) = some (some (1, 4), some (1, 2)) ∧
    (let ast : Ast := [.bracket ⟨false, [.atom (.char 'a'), .atom (.collating ['a', 'b'])]⟩]
     noMulti ast = false ∧
     (match Pattern.fromAst ast {} with
      | .ok p => some (p.find "ab".toList)
      | .error _ => none) = some (some (0, 1)) ∧ occursB false false ast "ab".toList 0 2 = true) := by decide +kernel

/-- ★ The error class `RegexError` has exactly one source: a range whose end lies before its start.  Everything else
    outside the defined notation (empty bracket, empty symbol, undefined class, class as range bound) is refused by
    the translation itself with its own error class, and a text the translation does emit can fail in the regex
    compiler ONLY because of an inverted range — in particular never because a special character was left
    unescaped.  (The harness checks the same on the real crate: every `RegexError` observed must carry the regex
    crate's "invalid character class range" complaint, anything else is reported as its own class.) -/
theorem regex_error_is_inverted_range (ast : Ast) (cfg : Config) (h : Pattern.fromAst ast cfg = .error .regex) :
    hasInvertedRange ast = true ∧ astDefined ast = false := by
  refine ⟨Proofs.regex_error_inverted ast cfg h, ?_⟩
  cases hd : astDefined ast with
  | false => rfl
  | true =>
    obtain ⟨p, hp⟩ := defined_compiles ast hd cfg
    rw [hp] at h; cases h

/-- non-vacuity: `[z-a]` and `[![.ch.]b-a]` (complement with a multi-character element) give the class `regex` -/
example :
    [Pattern.fromAst [.bracket ⟨false, [.range (.char 'z') (.char 'a')]⟩] caseConfig,
     Pattern.fromAst [.bracket ⟨true, [.atom (.collating ['c', 'h']), .range (.char 'b') (.char 'a')]⟩] caseConfig].map
      (fun r => match r with | .error e => some e | .ok _ => none) = [some .regex, some .regex] := by decide +kernel

/-- ★ `to_pattern_chars` after `apply_escapes`, for EVERY sequence of attributed characters: the result is what XCU 2.13.1 says about the
    sequence after
    quote removal — a QUOTING character contributes nothing (also one that is quoted at the same time: the backslash of
    `"\$"`, the inner quotes of `"${x+"a"}"`), a quoted character is `Literal` whatever it is, an unquoted one keeps its
    meaning, an unquoted backslash quotes its successor.  So no more pattern characters come out than non-quoting
    characters went in.  (Letting "quoted" win over "quoting" would emit the backslash of `"\$"`.) -/
theorem attr_pattern_chars (cs : List AttrChar) :
    toPatternChars (applyEscapes cs) = escapeMarked (attrMarks cs) ∧
    (toPatternChars (applyEscapes cs)).length ≤ (cs.filter fun c => !c.isQuoting).length := by
  have e := toPatternChars_applyEscapes cs
  refine ⟨e, ?_⟩
  rw [e]
  have := escapeMarked_length_le (attrMarks cs)
  simpa [attrMarks] using this

/-- non-vacuity, and the two characters that are quoting AND quoted: `"\$"` is the one literal `$`; in `"${1+"a"}"`
    the inner quotes vanish -/
example :
    let w1 : PWord := .cons (.dq (.cons (.bs '$') .nil)) .nil
    let w2 : PWord := .cons (.dq (.cons (.alt (.cons (.dq (.cons (.lit 'a') .nil)) .nil)) .nil)) .nil
    (wordAttrs w1).map (fun c => (c.isQuoted, c.isQuoting)) = [(false, true), (true, true), (true, false), (false, true)] ∧
    noEscapedMark (wordAttrs w1) = true ∧ patternOfWord w1 = [.literal '$'] ∧
    noEscapedMark (wordAttrs w2) = true ∧ patternOfWord w2 = [.literal 'a'] := by decide +kernel

/-- ★ The pattern characters of a pattern WORD — unquoted text, `\c`, `'…'`, `"…"` with `\c` and parameters inside,
    `${N+word}` nested either way — are the Spec's: quote removal on what the expansion yields gives exactly the
    characters the word denotes, each marked quoted iff some quoting mechanism of the word covers it (`PWord.marks`, a
    recursion on the word with one flag); then XCU 2.13.1 — for every word, no hypothesis.  When
    no UNQUOTED backslash is left after quote removal the pattern is the marked characters one for one; and the corner
    case: a word whose last character after quote removal is an unquoted backslash (`$p""` with `p` = `\`,
    however many quotation marks follow it) keeps that backslash as an ordinary trailing character. -/
theorem word_pattern_chars (w : PWord) :
    attrMarks (wordAttrs w) = w.marks false ∧
    patternOfWord w = specWordChars w ∧
    ((w.marks false).all (fun m => !rawBackslash m) = true → patternOfWord w = (w.marks false).map markChar) ∧
    (∀ ms, w.marks false = ms ++ [('\\', false)] → (ms.all (fun m => !rawBackslash m) = true) →
      patternOfWord w = ms.map markChar ++ [.normal '\\']) := by
  have hm := attrMarks_wordAttrs w
  have h1 : patternOfWord w = specWordChars w := by
    unfold patternOfWord specWordChars
    rw [toPatternChars_applyEscapes, hm]
  refine ⟨hm, h1, ?_, ?_⟩
  · intro hr
    rw [h1]; exact escapeMarked_no_raw _ hr
  · intro ms he hr
    rw [h1]; unfold specWordChars
    rw [he, escapeMarked_append_no_raw ms _ hr]
    rfl

/-- non-vacuity: `\*"a"$p` with `p` = `?` — literal `*`, literal `a`, and the `?` of the value keeps its meaning;
    and a word outside the hypothesis: `$p""x` with `p` = `\` -/
example :
    let w : PWord := .cons (.unq (.bs '*')) (.cons (.dq (.cons (.lit 'a') .nil)) (.cons (.unq (.param ['?'])) .nil))
    (w.marks false).all (fun m => !rawBackslash m) = true ∧
    patternOfWord w = [.literal '*', .literal 'a', .normal '?'] ∧
    patternOfWord (.cons (.unq (.param ['\\'])) (.cons (.dq .nil) (.cons (.unq (.lit 'x')) .nil))) = [.literal 'x'] ∧
    patternOfWord (.cons (.unq (.param ['a', '\\'])) (.cons (.dq .nil) (.cons (.sq []) .nil))) =
      [.normal 'a', .normal '\\'] := by
  decide +kernel

/-- ★ "quoted or backslash-escaped characters match only themselves", for every quoting mechanism: a word all of whose
    characters are covered by some quoting (`"\$"`, `'*'`, `\[`, `"$v"`, `"${1+"a"}"`, any concatenation) is the
    literal string it denotes after quote removal — as a `case` pattern it matches exactly that subject, as a trim
    pattern it removes exactly that prefix / suffix. -/
theorem quoted_word_only_itself (w : PWord) (h : ∀ m ∈ w.marks false, m.2 = true) :
    patternOfWord w = (wordValue w).map .literal ∧
    (∀ subj, itemMatches subj [patternOfWord w] = decide (subj = wordValue w)) ∧
    (∀ side len v, trimApplyValue side len (wordAttrs w) (.scalar v) =
      .scalar (specTrim side len ((wordValue w).map Atom.char) v)) := by
  have hr : (w.marks false).all (fun m => !rawBackslash m) = true := by
    rw [List.all_eq_true]; intro m hm; simp [rawBackslash, h m hm]
  have e : patternOfWord w = (wordValue w).map .literal := by
    rw [(word_pattern_chars w).2.2.1 hr, markChar_quoted _ h]; rfl
  refine ⟨e, ?_, ?_⟩
  · intro subj
    rw [e]
    exact Proofs.itemMatches_literal (wordValue w) subj
  · intro side len v
    have hpa := Proofs.parseAtoms_literals (wordValue w)
    have hd : astDefined (parseAtoms ((wordValue w).map PatternChar.literal)) = true := by
      rw [hpa]; exact Proofs.astDefined_chars _
    have hn : noMulti (parseAtoms ((wordValue w).map PatternChar.literal)) = true := by
      rw [hpa]; exact Proofs.noMulti_chars _
    rw [Proofs.trimApplyValue_map]
    show Value.scalar (trimApply side len (patternOfWord w) v) = _
    rw [e, trimApply_correct _ hd hn side len v, hpa]

/-- non-vacuity: `"\$"'*'` is covered, denotes `$*` -/
example :
    let w : PWord := .cons (.dq (.cons (.bs '$') .nil)) (.cons (.sq ['*']) .nil)
    (∀ m ∈ w.marks false, m.2 = true) ∧ wordValue w = ['$', '*'] := by decide +kernel

/-- ★ The three small decisions of yash-semantics the model transcribes, re-derived from the source on every run by
    EVALUATING the Rust expression on every combination of the flags it reads (`tools/tables/fnmatch.py`
    `fnmatch_decisions`; an if-chain, a `match` on a tuple, reordered or nested forms read the same, anything else is
    refused): (1) `to_pattern_chars` on one character — quoting ↦ nothing (also when quoted), quoted ↦ `Literal`,
    otherwise `Normal` — is `toPatternChars`; (2) the body of the `apply_escapes` loop runs exactly for a backslash that
    is neither quoting nor quoted and has a non-quoting character somewhere after it, and sets `is_quoting` on it and
    `is_quoted` on the NEXT NON-QUOTING character — `applyEscapes` on two and three characters, incl. the
    corner "only a quoting character follows: nothing changes"; (3) `trim_value` searches with `rfind` exactly under `anchor_end ∧ shortest_match`, for all sixteen
    combinations of the modelled flags, as `trimValue` does.  (A change to `to_pattern_chars` alters table (1): this
    theorem then fails before any case runs.) -/
theorem decision_tables_agree :
    (∀ (v : Char) (q g : Bool),
      Generated.FnmatchDecisions.patternCharTable.lookup (q, g) =
        some (match toPatternChars [⟨v, q, g⟩] with
              | [] => "None" | [.literal _] => "Literal" | [.normal _] => "Normal" | _ => "?")) ∧
    (∀ (a b c : AttrChar), c.isQuoting = false →
      (applyEscapes [a, c] =
        if (a.value == '\\', a.isQuoting, a.isQuoted) ∈ Generated.FnmatchDecisions.escapeWhen
        then [{ a with isQuoting := true }, { c with isQuoted := true }] else [a, c]) ∧
      (b.isQuoting = true → a.isQuoting = false →
        (applyEscapes [a, b, c] =
          if (a.value == '\\', a.isQuoting, a.isQuoted) ∈ Generated.FnmatchDecisions.escapeWhen
          then [{ a with isQuoting := true }, b, { c with isQuoted := true }] else [a, b, c]) ∧
        applyEscapes [a, b] = [a, b])) ∧
    Generated.FnmatchDecisions.escapeTarget = "chars[i+1..].iter().position(|c|!c.is_quoting)" ∧
    Generated.FnmatchDecisions.escapeEffects = ["chars[i+1+offset].is_quoted=true", "chars[i].is_quoting=true"] ∧
    (Generated.FnmatchDecisions.trimValueSearch.length = 16 ∧ (Generated.FnmatchDecisions.trimValueSearch.map (·.1)).Nodup ∧
      ∀ row ∈ Generated.FnmatchDecisions.trimValueSearch, (∀ f ∈ row.1, f ∈ modelledFlags) ∧
        (if (cfgOfFlags row.1).anchorEnd && (cfgOfFlags row.1).shortest then "rfind" else "find") = row.2) := by
  refine ⟨?_, ?_, rfl, rfl, rfl, by decide +kernel, by decide +kernel⟩
  · intro v q g
    cases q <;> cases g <;> rfl
  · intro a b c hc
    rcases a with ⟨av, aq, ag⟩
    rcases b with ⟨bv, bq, bg⟩
    rcases c with ⟨cv, cq, cg⟩
    simp only at hc; subst hc
    refine ⟨?_, ?_⟩
    · by_cases hv : av = '\\' <;> cases aq <;> cases ag <;>
        simp [applyEscapes, applyEscapesAux, Generated.FnmatchDecisions.escapeWhen, hv]
    · intro hb ha
      simp only at hb ha; subst hb; subst ha
      by_cases hv : av = '\\' <;> cases aq <;>
        simp [applyEscapes, applyEscapesAux, Generated.FnmatchDecisions.escapeWhen, hv]

/-- ★ lib.rs, re-derived on every run by evaluating the source: on the literal fast path `is_match` / `find` / `rfind`
    apply, for each of the four anchorings, the `str` operation the model applies (`contains` / `find` / `rfind` without
    anchor, `starts_with`, `ends_with`, `==`); on the regex path `is_match` and `find` start at index 1 exactly when
    `literal_period` is set, the pattern does not start with a literal period and the text does (`Pattern.at0`). -/
theorem literal_path_tables_agree :
    (∀ (cfg : Config) (s text : List Char),
      (∃ op, Generated.FnmatchDecisions.literalArms.lookup ("is_match", cfg.anchorBegin, cfg.anchorEnd) = some op ∧
        strOpMatch op s text = some ((⟨.literal s, cfg⟩ : Pattern).isMatch text)) ∧
      (∃ op, Generated.FnmatchDecisions.literalArms.lookup ("find", cfg.anchorBegin, cfg.anchorEnd) = some op ∧
        strOpFind op s text = some ((⟨.literal s, cfg⟩ : Pattern).find text)) ∧
      (∃ op, Generated.FnmatchDecisions.literalArms.lookup ("rfind", cfg.anchorBegin, cfg.anchorEnd) = some op ∧
        strOpFind op s text = some ((⟨.literal s, cfg⟩ : Pattern).rfind text))) ∧
    (∀ fn ∈ ["is_match", "find"], ∃ l, Generated.FnmatchDecisions.rejectInitialDotWhen.lookup fn = some l ∧
      ∀ (cfg : Config) (dot : Bool) (text : List Char),
        Pattern.at0 cfg dot text = if (cfg.literalPeriod, dot, text.head? == some '.') ∈ l then 1 else 0) := by
  constructor
  · intro cfg s text
    rcases cfg with ⟨ab, ae, lp, sh⟩
    cases ab <;> cases ae <;>
      exact ⟨⟨_, rfl, rfl⟩, ⟨_, rfl, rfl⟩, ⟨_, rfl, rfl⟩⟩
  · intro fn hfn
    simp only [List.mem_cons, List.not_mem_nil, or_false] at hfn
    rcases hfn with rfl | rfl <;>
    · refine ⟨_, rfl, ?_⟩
      intro cfg dot text
      rcases cfg with ⟨ab, ae, lp, sh⟩
      cases lp <;> cases dot <;> cases h : (text.head? == some '.') <;> simp [Pattern.at0, h]

/-- ★ `BracketAtom::parse_inner`, the function model parser and Spec grammar share, characterised without recursion:
    after a `[` inside a bracket expression an inner element is
    read exactly when an unquoted `.`, `=` or `:` follows, and somewhere after it the SAME delimiter, unquoted,
    directly before an unquoted `]`; its value is everything up to the FIRST such pair (quoted characters included,
    as characters), the rest is what follows the pair, and the delimiter alone decides between collating symbol,
    equivalence class and character class. -/
theorem parseInner_spec (cs : List PatternChar) (a : BracketAtom) (r : List PatternChar) :
    parseInner cs = some (a, r) ↔
      ∃ d v, cs = .normal d :: (v ++ .normal d :: .normal ']' :: r) ∧
        (∀ v' r', v ++ .normal d :: .normal ']' :: r = v' ++ .normal d :: .normal ']' :: r' → v.length ≤ v'.length) ∧
        innerKind d (v.map PatternChar.charValue) = some a :=
  Proofs.parseInner_spec cs a r

/-- non-vacuity: `=a\=]=]x` — the quoted `=` does not close: the equivalence class `a=]`, rest `x`; `.a:]` is nothing -/
example :
    parseInner [.normal '=', .normal 'a', .literal '=', .normal ']', .normal '=', .normal ']', .normal 'x']
      = some (.equiv ['a', '=', ']'], [.normal 'x']) ∧
    parseInner [.normal '.', .normal 'a', .normal ':', .normal ']'] = none := by decide

/-- ★ ast/parse.rs gives a meaning to exactly the unquoted characters the model's parser tests for (re-extracted per
    function on every run): outside that list an unquoted character is an ordinary character at the top level, and
    cannot open an inner bracket element. -/
theorem parser_specials_agree :
    Generated.FnmatchDecisions.parserSpecials =
      [("parse", ['!', '*', '-', '?', '[', ']', '^']), ("parse_inner", ['.', ':', '=', ']'])] ∧
    (∀ l, Generated.FnmatchDecisions.parserSpecials.lookup "parse" = some l → ∀ c, c ∉ l → ∀ t,
      parseAtoms (.normal c :: t) = .char c :: parseAtoms t) ∧
    (∀ l, Generated.FnmatchDecisions.parserSpecials.lookup "parse_inner" = some l → ∀ c, c ∉ l → ∀ t,
      parseInner (.normal c :: t) = none) := by
  refine ⟨by decide, ?_, ?_⟩
  · intro l hl c hc t
    have : l = ['!', '*', '-', '?', '[', ']', '^'] := by
      have h : Generated.FnmatchDecisions.parserSpecials.lookup "parse" = some ['!', '*', '-', '?', '[', ']', '^'] := by decide
      rw [h] at hl; exact (Option.some.inj hl).symm
    subst this
    simp only [List.mem_cons, List.not_mem_nil, or_false, not_or] at hc
    rw [parseAtoms]
    simp [hc.2.1, hc.2.2.2.1, hc.2.2.2.2.1, PatternChar.charValue]
  · intro l hl c hc t
    have : l = ['.', ':', '=', ']'] := by
      have h : Generated.FnmatchDecisions.parserSpecials.lookup "parse_inner" = some ['.', ':', '=', ']'] := by decide
      rw [h] at hl; exact (Option.some.inj hl).symm
    subst this
    simp only [List.mem_cons, List.not_mem_nil, or_false, not_or] at hc
    simp [parseInner, hc.1, hc.2.1, hc.2.2.1]

/-- ★ `apply_escapes` is modelled twice: `applyEscapesIdx` is the Rust loop as written
    (`for i in 0..chars.len()`, the test on `chars[i]`, `chars[i + 1..].iter().position(|c| !c.is_quoting)`, the two
    assignments under `if let Some(offset)`; header, test, target and assignments are re-extracted:
    `decision_tables_agree`), `applyEscapes` the left-to-right recursion every other theorem speaks about.  They are
    the same function on every sequence — in particular a backslash followed by quoting characters only stays what it
    was, and a character quoted by a backslash before it does not escape its successor. -/
theorem applyEscapes_is_index_loop (cs : List AttrChar) : applyEscapesIdx cs = applyEscapes cs :=
  applyEscapesIdx_eq cs

/-- non-vacuity: `\\\\\\` + `x` (three unquoted backslashes from an expansion, then `x`): the first quotes the second,
    the third quotes `x` -/
example :
    let c (v : Char) : AttrChar := { value := v, isQuoted := false, isQuoting := false }
    (applyEscapesIdx [c '\\', c '\\', c '\\', c 'x']).map (fun a => (a.isQuoted, a.isQuoting)) =
      [(false, true), (true, false), (false, true), (true, false)] ∧
    (applyEscapesIdx [c 'a', c '\\']).map (fun a => (a.isQuoted, a.isQuoting)) = [(false, false), (false, false)] ∧
    (applyEscapesIdx [c '\\', quoteMark, quoteMark, c '*']).map (fun a => (a.isQuoted, a.isQuoting)) =
      [(false, true), (false, true), (false, true), (true, false)] ∧
    (applyEscapesIdx [c '\\', quoteMark, quoteMark]).map (fun a => (a.isQuoted, a.isQuoting)) =
      [(false, false), (false, true), (false, true)] := by
  decide +kernel

/-- ★ `case` when expansions of alternatives can fail (case.rs: `expand_word_attr(..).await?` inside `matches`,
    `Err(error) => return error.handle(env)` in `execute`).  (1) `matches`: a match
    among the alternatives BEFORE the first failing one wins (later alternatives are not expanded); otherwise the
    failure propagates if there is one; otherwise no match.  (2) `execute`: the bodies run before an abort are the first
    bodies of the error-free reading over the alternatives actually reached (`reachedAlts`), and a run that does not
    abort IS that reading — in particular an item entered by `;&` expands none of its patterns.  (A `continue` in place
    of the `?`, or a `return Ok(false)`, breaks (1).) -/
theorem caseExecE_spec (subj : List Char) :
    (∀ alts : List (Option (List PatternChar)),
      itemMatchesE subj alts =
        if itemMatches subj (reachedAlts alts) then some true
        else if alts.any Option.isNone then none else some false) ∧
    (∀ (items : List (List (Option (List PatternChar)) × CaseCont)) (falling : Bool) (i : Nat),
      (caseExecEGo subj falling i items).1 <+:
        caseExecGo subj falling i (items.map fun it => (reachedAlts it.1, it.2)) ∧
      ((caseExecEGo subj falling i items).2 = false →
        (caseExecEGo subj falling i items).1 =
          caseExecGo subj falling i (items.map fun it => (reachedAlts it.1, it.2)))) :=
  ⟨Proofs.itemMatchesE_spec subj, fun items => Proofs.caseExecEGo_spec subj items⟩

/-- non-vacuity: `case a in (a|${u?}) 1 ;& (${u?}) 2 ;; esac` runs both bodies without an abort; with the failing
    alternative first it aborts before any body; `(b|${u?}) 1 ;; (a) 2` aborts too, the error-free reading would run 2 -/
example :
    let a : List PatternChar := [.normal 'a']
    let b : List PatternChar := [.normal 'b']
    caseExecEGo ['a'] false 0 [([some a, none], .fallThrough), ([none], .brk)] = ([0, 1], false) ∧
    caseExecEGo ['a'] false 0 [([none, some a], .brk)] = ([], true) ∧
    caseExecEGo ['a'] false 0 [([some b, none], .brk), ([some a], .brk)] = ([], true) ∧
    caseExecGo ['a'] false 0 [(reachedAlts [some b, none], .brk), (reachedAlts [some a], .brk)] = [1] := by
  decide +kernel

/-- ★ The stand-in `shellWord` is an instance of the word model: `shellWord q p` — the attributed characters
    assumed for `"$q"$p` — is what `PWord.expand` yields for the word `"${N}"${M}` with the parameters set to `q` and
    `p`; so `shell_word_chars`, `quoted_word_matches_only_itself`, `trimApplyValue_correct` speak about a word of the
    transcribed expansion, not about a separately assumed list. -/
theorem shellWord_is_word (q p : List Char) :
    shellWord q p = wordAttrs (.cons (.dq (.cons (.param q) .nil)) (.cons (.unq (.param p)) .nil)) ∧
    specWordChars (.cons (.dq (.cons (.param q) .nil)) (.cons (.unq (.param p)) .nil)) =
      q.map .literal ++ escapeChars p := by
  constructor
  · simp [shellWord, wordAttrs, PWord.expand, PWordUnit.expand, PText.expand, PTextUnit.expand, quoteMark,
      pQuoteChar, pSetQuoted, PAttrChar.reduce, Function.comp_def]
    rfl
  · simp only [specWordChars, PWord.marks, PWordUnit.marks, PText.marks, PTextUnit.marks, List.append_nil]
    rw [escapeMarked_quoted_prefix, escapeMarked_unquoted]

/-- ★ Prefix removal for EVERY pattern, exactly (where `find_is_extremal` / `trim_correct` need `noMulti` on the
    prefix side, a characterisation): with `re` the regex the pattern compiles to under the
    configuration of `#` / `##` (`\A` followed by the translation of the atoms: `emitted_fragment`), what `${v#p}` /
    `${v##p}` leave is the FIRST rest in the priority-ordered enumeration `reEnum` of the matches at the beginning of
    `v` — atoms left to right; a `*` offers its longest continuation first for `##` and its shortest first for `#`; a
    bracket with multi-character collating elements offers its members in the ORDER THEY ARE WRITTEN (neither the
    longest nor the shortest: the `decide` examples) — and `v` itself if the enumeration is empty, i.e. if no prefix
    matches (`regex_model_is_textbook`; not only then: for `${v#*}` the first rest is `v`, the empty prefix is
    removed).  Without multi-character elements the first entry is the extremal one (`find_is_extremal`). -/
theorem prefix_trim_exact (ast : Ast) (len : TrimLength) (p : Pattern) (re : List ReAtom) (dot : Bool)
    (h : Pattern.fromAst ast (trimConfig .prefix len) = .ok p) (hb : p.body = .regex re dot) (v : List Char) :
    (∃ res, cAtoms ast = some res ∧ re = .bos :: res) ∧
    trimValue p v =
      match (reEnum (len == .longest) v.length re v).head? with
      | some ρ => v.drop (v.length - ρ.length)
      | none => v := by
  rcases fromAst_cases ast _ p h with ⟨l, -, rfl⟩ | ⟨-, res, hres, rfl⟩
  · cases hb
  · obtain ⟨rfl, -⟩ := Body.regex.inj hb
    have hre : cfgRe (trimConfig .prefix len).anchorBegin (trimConfig .prefix len).anchorEnd res = .bos :: res := by
      cases len <;> simp [cfgRe, trimConfig]
    refine ⟨⟨res, hres, hre⟩, ?_⟩
    rw [Proofs.prefix_trimValue_regex, hre, ← Proofs.matchHere_head]
    simp only [matchHere, if_true]
    rfl

/-- the order in which the members are written decides, not their length: `[a[.ab.]]` vs `[[.ab.]a]`, `##` on `abc` -/
example :
    let t (ast : Ast) : Option (List Char) := match Pattern.fromAst ast (trimConfig .prefix .longest) with
      | .ok p => some (trimValue p "abc".toList)
      | .error _ => none
    t [.bracket ⟨false, [.atom (.char 'a'), .atom (.collating ['a', 'b'])]⟩] = some "bc".toList ∧
    t [.bracket ⟨false, [.atom (.collating ['a', 'b']), .atom (.char 'a')]⟩] = some "c".toList := by decide +kernel

/-- ★ The three users of this model inside the shell — `case` (case.rs `config()`), pathname expansion (glob.rs
    `to_pattern`, C05 imports this area) and the trims (trim.rs `apply`) — build their configurations from flag
    lists re-extracted on every run, and these differ ONLY there: glob's flags are `case`'s plus `literal_period`, a
    trim sets one anchor (and `shortest_match` for `#` / `%`).  On a FULL match they agree, for every pattern (brackets
    included): whenever the tree compiles, `case` accepts `s` iff the glob language contains `s`; pathname expansion
    accepts `s` iff `case` does and the leading-period rule allows it — so they coincide on every `s` that does not
    start with a period and for every pattern that starts with an explicit one; and `%%` removes the whole of `s`
    whenever `case` accepts it. -/
theorem callers_agree :
    (caseConfig = cfgOfFlags Generated.FnmatchConfig.caseConfigFlags ∧
     ∀ e ∈ Generated.FnmatchConfig.literalPeriodConfigs,
       e.2.filter (· != "literal_period") = Generated.FnmatchConfig.caseConfigFlags ∧ "literal_period" ∈ e.2) ∧
    (∀ (ast : Ast) (pc : Pattern), Pattern.fromAst ast caseConfig = .ok pc →
      (∀ s, pc.isMatch s = globMatch ast s) ∧
      (∀ e ∈ Generated.FnmatchConfig.literalPeriodConfigs, ∀ pg, Pattern.fromAst ast (cfgOfFlags e.2) = .ok pg →
        ∀ s, pg.isMatch s = (pc.isMatch s && (s.head? != some '.' || explicitDot ast))) ∧
      (∀ pt, Pattern.fromAst ast (trimConfig .suffix .longest) = .ok pt →
        ∀ s, pc.isMatch s = true → trimValue pt s = [])) := by
  refine ⟨⟨by decide +kernel, by decide +kernel⟩, ?_⟩
  intro ast pc hpc
  have hc : ∀ s, pc.isMatch s = globMatch ast s := isMatch_correct ast caseConfig rfl rfl rfl pc hpc
  refine ⟨hc, ?_, ?_⟩
  · intro e he pg hpg s
    rw [(literal_period_reachable.2 e he ast pg hpg s), hc s]; rfl
  · intro pt hpt s hm
    rw [(suffix_trim_correct ast .longest pt hpt s).2]
    rw [hc s] at hm
    unfold specTrim
    simp only []
    rw [leastUpTo_some (k := 0) hm (Nat.zero_le _) (fun j _ _ => Nat.zero_le j)]
    rfl

/-- ★ What the model of the regex crate ASSUMES, read on every run from the sources of the crates the harness links
    (versions from harness/Cargo.lock): `Regex` is built with match kind `LeftmostFirst`; `\A` / `\z` are the
    assertions `StartText` / `EndText`, translated to `Look::Start` / `Look::End`, which hold exactly at offset 0 / at
    the end of the haystack (so `find_at(text, k)` with `\A` fails for k > 0: the model's `bos`); `swap_greed` negates
    the greediness of every repetition (flag letter `U`); `.` under `dot_matches_new_line` is any character.  A new
    version of any of the three crates, or a changed line, fails HERE — the facts have to be read again. -/
theorem regex_crate_facts :
    Generated.FnmatchRegexSyntax.crateVersions =
      [("regex", "1.13.1"), ("regex-automata", "0.4.18"), ("regex-syntax", "0.8.11")] ∧
    Generated.FnmatchRegexSyntax.regexFacts =
      [("Regex is built with match kind", "LeftmostFirst"),
       ("escape A is the assertion", "StartText"), ("escape z is the assertion", "EndText"),
       ("StartText translates to", "Look::Start"), ("EndText translates to", "Look::End"),
       ("Look::Start holds when", "at == 0"), ("Look::End holds when", "at == haystack.len()"),
       ("greediness of a repetition", "if self.flags().swap_greed() { !rep.greedy } else { rep.greedy }"),
       ("flag letter of swap_greed", "U"),
       ("dot with dot_matches_new_line and unicode", "Dot::AnyChar")] := ⟨rfl, rfl⟩

/-- in `$p""*` with `p` = `\` the backslash quotes the `*`, not the quotation mark (witnesses `w … P5c/D/L2a` in
    corpus/C04/words.txt); model and Spec agree, although `noEscapedMark` — the description of the class — is false -/
example :
    let w : PWord := .cons (.unq (.param ['\\'])) (.cons (.dq .nil) (.cons (.unq (.lit '*')) .nil))
    patternOfWord w = [.literal '*'] ∧ specWordChars w = [.literal '*'] ∧ noEscapedMark (wordAttrs w) = false := by
  decide +kernel

/-- ★ ast/parse.rs `parse_inner`, read per form from the source (three loops, or one helper parameterised by the
    delimiter — same table): each inner element closes on ITS OWN delimiter directly before `]`, and the delimiter
    picks the constructor the model's `parseInner` / `innerKind` picks (`parseInner_spec`).  (Calling the helper with
    `'.'` for the `=` form changes the table.) -/
theorem inner_forms_agree :
    Generated.FnmatchDecisions.innerForms =
      [('.', '.', "CollatingSymbol"), (':', ':', "CharClass"), ('=', '=', "EquivalenceClass")] ∧
    ∀ row ∈ Generated.FnmatchDecisions.innerForms,
      row.1 = row.2.1 ∧ (innerKind row.1 ['x']).map atomCtorName = some row.2.2 := by decide +kernel

end YashModel.Fnmatch
