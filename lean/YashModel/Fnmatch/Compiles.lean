/-
  C04 — which syntax trees compile.  Three facts: `fromAst_forms` (Emit.lean: the four outcomes of `from_ast_and_config`
  in terms of the direct compiler), `cAtoms_isSome` (the compiler succeeds exactly inside the defined notation) and `fmtAtoms_status` (the
  translation writes a tree out exactly when every item is defined or an inverted range, and otherwise fails with an
  error class of its own).  Hence: compiles ⇔ defined, and `RegexError` ⇒ an inverted range is all that is wrong.
-/
import YashModel.Fnmatch.Emit
import YashModel.Fnmatch.LiteralPath

namespace YashModel.Fnmatch

theorem multi_defined {it : BracketItem} (h : it.multi = true) : itemDefined it = true := by
  obtain ⟨_, _, _, _, _, hd, _⟩ := multi_item h
  exact hd

theorem cItem_isSome (it : BracketItem) : (cItem it).isSome = (itemDefined it && !it.multi) := by
  cases it with
  | atom a =>
    show (cAtom1 a).isSome = (atomDefined a && !a.multi)
    rcases atom_forms a with ⟨_, _, _, hm, _, hd, hc, _⟩ | ⟨_, _, _, _, _, hm, _, hd, hc, _⟩ |
      ⟨_, _, hm, _, hd, hc, _⟩ | ⟨name, rfl⟩
    · rw [hc, hd, hm]; rfl
    · rw [hc, hd, hm]; rfl
    · rw [hc, hd, hm]; rfl
    · simp [cAtom1, atomDefined, BracketAtom.multi]
  | range s e =>
    simp only [cItem, itemDefined, BracketItem.multi, Bool.not_false, Bool.and_true]
    cases atomBound s <;> cases atomBound e <;> simp
    split <;> simp [*]

theorem cAlt_isSome (it : BracketItem) : (cAlt it).isSome = itemDefined it := by
  unfold cAlt
  by_cases hm : it.multi = true
  · rw [if_pos hm, multi_defined hm]
    cases it with
    | atom a => cases a <;> first | rfl | cases hm
    | range s e => cases hm
  · rw [if_neg hm, Option.isSome_map, cItem_isSome]; simp [hm]

theorem cItems_isSome (items : List BracketItem) :
    (cItems items).isSome = items.all (fun it => itemDefined it && !it.multi) := by
  induction items with
  | nil => rfl
  | cons it r ih =>
    rw [List.all_cons, ← ih, ← cItem_isSome]
    simp only [cItems]
    cases cItem it <;> cases cItems r <;> rfl

theorem cAlts_isSome (items : List BracketItem) : (cAlts items).isSome = items.all itemDefined := by
  induction items with
  | nil => rfl
  | cons it r ih =>
    rw [List.all_cons, ← ih, ← cAlt_isSome, cAlts_cons]
    cases cAlt it <;> cases cAlts r <;> rfl

/-- multi-character elements are always defined, so dropping them from a complemented bracket loses nothing -/
theorem all_filter_defined (items : List BracketItem) :
    (items.filter (fun it => !it.multi)).all (fun it => itemDefined it && !it.multi) = items.all itemDefined := by
  induction items with
  | nil => rfl
  | cons it r ih =>
    cases hm : it.multi with
    | true => simp [List.filter, hm, ih, multi_defined hm]
    | false => simp [List.filter, hm, ih]

theorem cBracket_isSome (b : Bracket) : (cBracket b).isSome = atomOk (.bracket b) := by
  show (cBracket b).isSome = (b.items != [] && b.items.all itemDefined)
  rcases bracket_forms b with ⟨hne, _, hc⟩ | ⟨hne, hm, _, hc⟩ | ⟨hne, _, _, _, hc⟩ | ⟨hne, _, _, hall, _, hc⟩ |
    ⟨hne, _, _, _, _, hc⟩ <;> rw [hc]
  · simp [hne]
  all_goals rw [show (b.items != []) = true by simpa using hne, Bool.true_and]
  · rw [Option.isSome_map, cItems_isSome, ← all_filter_defined,
      List.filter_eq_self.mpr fun it hi => by simp [not_multi_items hm it hi]]
  · rw [Option.isSome_map, cAlts_isSome]
  · exact (List.all_eq_true.mpr fun it hi => multi_defined (List.all_eq_true.mp hall it hi)).symm
  · rw [Option.isSome_map, cItems_isSome, all_filter_defined]

theorem cAtoms_isSome (ast : Ast) : (cAtoms ast).isSome = astDefined ast := by
  induction ast with
  | nil => rfl
  | cons a r ih =>
    have ha : (cAtom a).isSome = atomOk a := by
      cases a with
      | bracket b => exact cBracket_isSome b
      | _ => rfl
    simp only [astDefined, List.all_cons] at ih ⊢
    rw [← ih, ← ha]
    simp only [cAtoms]
    cases cAtom a <;> cases cAtoms r <;> rfl

/-- an item the translation writes out: inside the notation, or an inverted range (left to the regex compiler) -/
def itemFmtOk (it : BracketItem) : Bool := itemDefined it || itemInverted it

def atomFmtOk : Atom → Bool
  | .bracket b => b.items != [] && b.items.all itemFmtOk
  | _ => true

/-- a step of the translation yields text when `ok` holds, and otherwise an error class of the translation's own -/
def FmtStatus (r : Except Err (List Char)) (ok : Bool) : Prop :=
  match r with
  | .ok _ => ok = true
  | .error e => e ≠ .regex ∧ ok = false

theorem FmtStatus.map {r : Except Err (List Char)} {ok : Bool} (f : List Char → List Char) (h : FmtStatus r ok) :
    FmtStatus (r.map f) ok := by
  cases r <;> exact h

/-- a loop that stops at the first error has the conjunction of the steps' conditions as its condition -/
theorem FmtStatus.seq {r1 r2 : Except Err (List Char)} {ok1 ok2 : Bool} (f : List Char → List Char → List Char) :
    FmtStatus r1 ok1 → FmtStatus r2 ok2 →
    FmtStatus (match r1 with
      | .error x => .error x
      | .ok a => match r2 with
        | .error x => .error x
        | .ok b => .ok (f a b)) (ok1 && ok2) := by
  intro h1 h2
  cases r1 with
  | error e => exact ⟨h1.1, by rw [h1.2]; rfl⟩
  | ok a =>
    rw [show ok1 = true from h1, Bool.true_and]
    cases r2 <;> exact h2

theorem fmtSingle_status (a : BracketAtom) : FmtStatus a.fmtSingle (atomBound a).isSome := by
  rcases atom_forms a with ⟨_, _, hs, _, hb, _⟩ | ⟨_, _, _, _, hs, _, hb, _⟩ | ⟨_, hs, _, hb, _⟩ | ⟨name, rfl⟩
  · rw [hs, hb]; rfl
  · rw [hs, hb]; rfl
  · rw [hs, hb]; exact ⟨by decide, rfl⟩
  · exact ⟨by decide, rfl⟩

theorem item_fmt_status (it : BracketItem) : FmtStatus it.fmt (itemFmtOk it) := by
  cases it with
  | atom a =>
    show FmtStatus a.fmt (atomDefined a || false)
    rcases atom_forms a with ⟨_, hf, _, _, _, hd, _⟩ | ⟨_, _, _, hf, _, _, _, hd, _⟩ | ⟨hf, _, _, _, hd, _⟩ |
      ⟨name, rfl⟩
    · rw [hf, hd]; rfl
    · rw [hf, hd]; rfl
    · rw [hf, hd]; exact ⟨by decide, rfl⟩
    · cases hk : (asciiKind name).isSome <;> simp [FmtStatus, BracketAtom.fmt, atomDefined, hk]
  | range s e =>
    -- with both bounds present the range is defined or inverted, whichever way the bounds compare
    have h := FmtStatus.seq (fun a b => a ++ '-' :: b) (fmtSingle_status s) (fmtSingle_status e)
    have e : itemFmtOk (.range s e) = ((atomBound s).isSome && (atomBound e).isSome) := by
      simp only [itemFmtOk, itemDefined, itemInverted]
      cases atomBound s <;> cases atomBound e <;> simp
      omega
    rw [e]
    exact h

theorem fmtItems_status (items : List BracketItem) : FmtStatus (fmtItems items) (items.all itemFmtOk) := by
  induction items with
  | nil => rfl
  | cons it r ih => exact FmtStatus.seq _ (item_fmt_status it) ih

theorem fmtAltItem_status (it : BracketItem) : FmtStatus (fmtAltItem it) (itemFmtOk it) := by
  unfold fmtAltItem
  split
  · exact item_fmt_status it
  · have h := item_fmt_status it
    cases hf : it.fmt <;> rw [hf] at h <;> exact h

theorem fmtAltItems_status : ∀ items : List BracketItem, FmtStatus (fmtAltItems items) (items.all itemFmtOk)
  | [] => rfl
  | [it] => by simpa [fmtAltItems] using fmtAltItem_status it
  | it :: it2 :: r => FmtStatus.seq _ (fmtAltItem_status it) (fmtAltItems_status (it2 :: r))

theorem all_filter_fmtOk (items : List BracketItem) :
    (items.filter (fun it => !it.multi)).all itemFmtOk = items.all itemFmtOk := by
  induction items with
  | nil => rfl
  | cons it r ih =>
    cases hm : it.multi with
    | true => simp [List.filter, hm, ih, itemFmtOk, multi_defined hm]
    | false => simp [List.filter, hm, ih]

theorem bracket_fmt_status (b : Bracket) : FmtStatus b.fmt (atomFmtOk (.bracket b)) := by
  show FmtStatus b.fmt (b.items != [] && b.items.all itemFmtOk)
  rcases bracket_forms b with ⟨hne, hf, _⟩ | ⟨hne, _, hf, _⟩ | ⟨hne, _, _, hf, _⟩ | ⟨hne, _, _, hall, hf, _⟩ |
    ⟨hne, _, _, _, hf, _⟩ <;> rw [hf]
  · exact ⟨by decide, by simp [hne]⟩
  all_goals rw [show (b.items != []) = true by simpa using hne, Bool.true_and]
  · exact (fmtItems_status b.items).map _
  · exact (fmtAltItems_status b.items).map _
  · exact List.all_eq_true.mpr fun it hi => by simp [itemFmtOk, multi_defined (List.all_eq_true.mp hall it hi)]
  · rw [← all_filter_fmtOk]; exact (fmtItems_status _).map _

theorem fmtAtoms_status (ast : Ast) : FmtStatus (fmtAtoms ast) (ast.all atomFmtOk) := by
  induction ast with
  | nil => rfl
  | cons a r ih =>
    have h : FmtStatus a.fmt (atomFmtOk a) := by
      cases a with
      | bracket b => exact bracket_fmt_status b
      | _ => rfl
    exact FmtStatus.seq _ h ih

theorem all_and_not {α : Type} (p q : α → Bool) (l : List α) :
    l.all (fun x => p x && !q x) = (l.all p && !l.any q) := by
  induction l with
  | nil => rfl
  | cons a t ih =>
    simp only [List.all_cons, List.any_cons, ih]
    cases p a <;> cases q a <;> cases t.all p <;> cases t.any q <;> rfl

theorem itemDefined_eq (it : BracketItem) : itemDefined it = (itemFmtOk it && !itemInverted it) := by
  cases it with
  | atom a => simp [itemFmtOk, itemInverted]
  | range s e =>
    simp only [itemFmtOk, itemDefined, itemInverted]
    cases atomBound s <;> cases atomBound e <;> simp
    rename_i lo hi
    by_cases h : lo.toNat ≤ hi.toNat <;> simp [h]

theorem astDefined_eq (ast : Ast) : astDefined ast = (ast.all atomFmtOk && !hasInvertedRange ast) := by
  unfold astDefined hasInvertedRange
  rw [← all_and_not]
  congr 1
  funext a
  cases a with
  | bracket b =>
    show (b.items != [] && b.items.all itemDefined) =
      ((b.items != [] && b.items.all itemFmtOk) && !b.items.any itemInverted)
    rw [funext itemDefined_eq, all_and_not, Bool.and_assoc]
  | _ => rfl

theorem atoms_ok (ast : Ast) (h : astDefined ast = true) :
    (∃ x, fmtAtoms ast = .ok x) ∧ (∃ res, cAtoms ast = some res) := by
  refine ⟨?_, Option.isSome_iff_exists.mp (by rw [cAtoms_isSome, h])⟩
  have hs := fmtAtoms_status ast
  rw [astDefined_eq, Bool.and_eq_true] at h
  cases hf : fmtAtoms ast with
  | ok x => exact ⟨x, rfl⟩
  | error e => rw [hf] at hs; rw [hs.2] at h; cases h.1

namespace Proofs

theorem compiles_iff_defined (ast : Ast) (cfg : Config) :
    (∃ p, Pattern.fromAst ast cfg = .ok p) ↔ astDefined ast = true := by
  rcases fromAst_forms ast cfg with ⟨l, hl, e⟩ | ⟨_, ⟨_, hf, e⟩ | ⟨_, ⟨hc, e⟩ | ⟨res, hc, e⟩⟩⟩ <;> rw [e]
  · rw [(toLiteral_spec ast l).mp hl, astDefined_chars]; simp
  · have hs := fmtAtoms_status ast
    rw [hf] at hs
    rw [astDefined_eq, hs.2]; simp
  · rw [← cAtoms_isSome, hc]; simp
  · rw [← cAtoms_isSome, hc]; simp

theorem defined_compiles (ast : Ast) (h : astDefined ast = true) (cfg : Config) :
    ∃ p, Pattern.fromAst ast cfg = .ok p :=
  (compiles_iff_defined ast cfg).mpr h

theorem undefined_error (ast : Ast) (cfg : Config) (h : astDefined ast = false) :
    ∃ e, Pattern.fromAst ast cfg = .error e := by
  cases hf : Pattern.fromAst ast cfg with
  | error e => exact ⟨e, rfl⟩
  | ok p => rw [(compiles_iff_defined ast cfg).mp ⟨p, hf⟩] at h; cases h

theorem regex_error_inverted (ast : Ast) (cfg : Config) (h : Pattern.fromAst ast cfg = .error .regex) :
    hasInvertedRange ast = true := by
  have hs := fmtAtoms_status ast
  rcases fromAst_forms ast cfg with ⟨_, _, e⟩ | ⟨_, ⟨_, hf, e⟩ | ⟨⟨x, hf⟩, ⟨hc, _⟩ | ⟨_, _, e⟩⟩⟩
  · rw [e] at h; cases h
  · rw [e] at h; rw [hf] at hs
    exact absurd (Except.error.inj h) hs.1
  · -- the translation wrote the tree out, the compiler refused it: not defined, so some range is inverted
    have hcs := cAtoms_isSome ast
    rw [hf] at hs
    rw [hc, astDefined_eq, show ast.all atomFmtOk = true from hs] at hcs
    simpa using hcs.symm
  · rw [e] at h; cases h

end Proofs

end YashModel.Fnmatch
