/-
  C04 — Impl model of yash-fnmatch (pattern characters, parser, translation to regex text, the subset
  of the regex crate's syntax that the translation can emit, `Pattern::{is_match, find, rfind}`) and of
  `trim_value` / `apply_escapes` / `to_pattern_chars` of yash-semantics.

  Strings are `List Char`; positions are character indices (the driver converts to byte offsets).
  Import-free apart from the generated escaping tables.
-/
import YashModel.Generated.FnmatchTables

namespace YashModel.Fnmatch
open YashModel.Generated.FnmatchTables

/-! ## char_iter.rs -/

/-- `PatternChar` -/
inductive PatternChar where
  | normal (c : Char)
  | literal (c : Char)
  deriving DecidableEq, Repr

/-- `PatternChar::char_value` -/
def PatternChar.charValue : PatternChar → Char
  | .normal c => c
  | .literal c => c

/-- `with_escape`: a backslash makes the next character `Literal`; a trailing backslash yields nothing. -/
def withEscape : List Char → List PatternChar
  | [] => []
  | [c] => if c = '\\' then [] else [.normal c]
  | c :: d :: t => if c = '\\' then .literal d :: withEscape t else .normal c :: withEscape (d :: t)

/-- `without_escape` -/
def withoutEscape (s : List Char) : List PatternChar := s.map .normal

/-! ## ast.rs -/

inductive BracketAtom where
  | char (c : Char)
  | collating (v : List Char)
  | equiv (v : List Char)
  | cls (name : List Char)
  deriving DecidableEq, Repr

inductive BracketItem where
  | atom (a : BracketAtom)
  | range (s e : BracketAtom)
  deriving DecidableEq, Repr

structure Bracket where
  complement : Bool
  items : List BracketItem
  deriving DecidableEq, Repr

inductive Atom where
  | char (c : Char)
  | anyChar
  | anyString
  | bracket (b : Bracket)
  deriving DecidableEq, Repr

/-- `Ast { atoms }` -/
abbrev Ast := List Atom

/-! ## ast/parse.rs -/

/-- The scanning loop of `parse_inner`: the value ends just before the first adjacent pair
    `Normal d, Normal ']'` (the Rust loop pushes a character and then checks `ends_with`, so the pair can be the
    first two characters: `[..]` has the empty value). -/
def scanClose (d : Char) : List PatternChar → Option (List PatternChar × List PatternChar)
  | [] => none
  | [_] => none
  | a :: b :: t =>
    if a = .normal d ∧ b = .normal ']' then some ([], t)
    else match scanClose d (b :: t) with
      | some (v, r) => some (a :: v, r)
      | none => none

/-- `BracketAtom::parse_inner` (input: what follows the `[`) -/
def parseInner : List PatternChar → Option (BracketAtom × List PatternChar)
  | [] => none
  | pc :: t =>
    if pc = .normal '.' then
      match scanClose '.' t with
      | some (v, r) => some (.collating (v.map PatternChar.charValue), r)
      | none => none
    else if pc = .normal '=' then
      match scanClose '=' t with
      | some (v, r) => some (.equiv (v.map PatternChar.charValue), r)
      | none => none
    else if pc = .normal ':' then
      match scanClose ':' t with
      | some (v, r) => some (.cls (v.map PatternChar.charValue), r)
      | none => none
    else none

theorem scanClose_length (d : Char) (cs : List PatternChar) (v r : List PatternChar)
    (h : scanClose d cs = some (v, r)) : r.length < cs.length := by
  fun_induction scanClose d cs generalizing v r
  all_goals (simp_all <;> try omega)
  all_goals (rename_i ih; obtain ⟨_, rfl⟩ := h; have := ih _ _ rfl; omega)

theorem parseInner_length (cs : List PatternChar) (a : BracketAtom) (r : List PatternChar)
    (h : parseInner cs = some (a, r)) : r.length < cs.length := by
  cases cs with
  | nil => cases h
  | cons pc t =>
    have key : ∀ (d : Char) (mk : List Char → BracketAtom),
        (match scanClose d t with
          | some (v, r) => some (mk (v.map PatternChar.charValue), r)
          | none => none) = some (a, r) → r.length < (pc :: t).length := by
      intro d mk hm
      cases hs : scanClose d t with
      | none => rw [hs] at hm; cases hm
      | some vr =>
        obtain ⟨v, r'⟩ := vr
        rw [hs] at hm
        cases hm
        have := scanClose_length d t v r hs
        simp only [List.length_cons]; omega
    simp only [parseInner] at h
    by_cases h1 : pc = .normal '.'
    · rw [if_pos h1] at h; exact key _ _ h
    · rw [if_neg h1] at h
      by_cases h2 : pc = .normal '='
      · rw [if_pos h2] at h; exact key _ _ h
      · rw [if_neg h2] at h
        by_cases h3 : pc = .normal ':'
        · rw [if_pos h3] at h; exact key _ _ h
        · rw [if_neg h3] at h; cases h

/-- The item stack of `Bracket::parse`, last item first; the second component is the parallel
    `hyphens: Vec<bool>` ("this item is an unquoted hyphen"). -/
abbrev ItemStack := List (BracketItem × Bool)

/-- `make_range`: `[.., start, '-', end]` with an *unquoted* hyphen in the middle and atoms at both ends
    becomes one range item (whose hyphen flag is `false`). -/
def makeRange : ItemStack → ItemStack
  | (.atom e, _) :: (_, true) :: (.atom s, _) :: rest => (.range s e, false) :: rest
  | st => st

/-- `Bracket::parse` (input: what follows the `[`).  `compl` = `bracket.complement`, `st` = items. -/
def bracketLoop (compl : Bool) (st : ItemStack) (cs : List PatternChar) :
    Option (Bracket × List PatternChar) :=
  match cs with
  | [] => none
  | pc :: t =>
    if pc = .normal ']' ∧ st ≠ [] then
      some ({ complement := compl, items := (st.reverse.map Prod.fst) }, t)
    else if (pc = .normal '!' ∨ pc = .normal '^') ∧ compl = false ∧ st = [] then
      bracketLoop true st t
    else if pc = .normal '[' then
      match h : parseInner t with
      | some (a, j) =>
        have : j.length < (pc :: t).length := by
          have := parseInner_length t a j h; simp; omega
        bracketLoop compl (makeRange ((.atom a, false) :: st)) j
      | none => bracketLoop compl (makeRange ((.atom (.char '['), false) :: st)) t
    else
      bracketLoop compl (makeRange ((.atom (.char pc.charValue), decide (pc = .normal '-')) :: st)) t
termination_by cs.length

def parseBracket (cs : List PatternChar) : Option (Bracket × List PatternChar) :=
  bracketLoop false [] cs

theorem bracketLoop_length (compl : Bool) (st : ItemStack) (cs : List PatternChar)
    (b : Bracket) (r : List PatternChar) (h : bracketLoop compl st cs = some (b, r)) :
    r.length < cs.length := by
  fun_induction bracketLoop compl st cs
  all_goals first
    | (simp at h; done)
    | (simp at h; obtain ⟨_, rfl⟩ := h; simp; done)
    | (rename_i ih; have := ih h; simp at *; omega)

/-- `Ast::new` / `Atom::parse` -/
def parseAtoms (cs : List PatternChar) : Ast :=
  match cs with
  | [] => []
  | pc :: t =>
    if pc = .normal '?' then .anyChar :: parseAtoms t
    else if pc = .normal '*' then .anyString :: parseAtoms t
    else if pc = .normal '[' then
      match h : parseBracket t with
      | some (b, j) =>
        have : j.length < (pc :: t).length := by
          have := bracketLoop_length _ _ _ _ _ h; simp; omega
        .bracket b :: parseAtoms j
      | none => .char '[' :: parseAtoms t
    else .char pc.charValue :: parseAtoms t
termination_by cs.length

/-- `Ast::to_literal` -/
def toLiteral : Ast → Option (List Char)
  | [] => some []
  | .char c :: r => match toLiteral r with
    | some l => some (c :: l)
    | none => none
  | _ :: _ => none

/-- `Ast::starts_with_literal_dot` -/
def startsWithLiteralDot : Ast → Bool
  | .char c :: _ => c == '.'
  | _ => false

/-! ## ASCII character classes (`regex_syntax::ast::ClassAsciiKind`, also the POSIX-locale classes) -/

inductive AsciiKind where
  | alnum | alpha | ascii | blank | cntrl | digit | graph | lower | print | punct | space | upper
  | word | xdigit
  deriving DecidableEq, Repr

def inR (lo hi : Nat) (c : Char) : Bool := lo ≤ c.toNat && c.toNat ≤ hi

def AsciiKind.mem : AsciiKind → Char → Bool
  | .alnum, c => inR 48 57 c || inR 65 90 c || inR 97 122 c
  | .alpha, c => inR 65 90 c || inR 97 122 c
  | .ascii, c => inR 0 127 c
  | .blank, c => c.toNat == 32 || c.toNat == 9
  | .cntrl, c => inR 0 31 c || c.toNat == 127
  | .digit, c => inR 48 57 c
  | .graph, c => inR 33 126 c
  | .lower, c => inR 97 122 c
  | .print, c => inR 32 126 c
  | .punct, c => inR 33 47 c || inR 58 64 c || inR 91 96 c || inR 123 126 c
  | .space, c => inR 9 13 c || c.toNat == 32
  | .upper, c => inR 65 90 c
  | .word, c => inR 48 57 c || inR 65 90 c || inR 97 122 c || c.toNat == 95
  | .xdigit, c => inR 48 57 c || inR 65 70 c || inR 97 102 c

def AsciiKind.name : AsciiKind → List Char
  | .alnum => ['a', 'l', 'n', 'u', 'm'] | .alpha => ['a', 'l', 'p', 'h', 'a'] | .ascii => ['a', 's', 'c', 'i', 'i']
  | .blank => ['b', 'l', 'a', 'n', 'k'] | .cntrl => ['c', 'n', 't', 'r', 'l'] | .digit => ['d', 'i', 'g', 'i', 't']
  | .graph => ['g', 'r', 'a', 'p', 'h'] | .lower => ['l', 'o', 'w', 'e', 'r'] | .print => ['p', 'r', 'i', 'n', 't']
  | .punct => ['p', 'u', 'n', 'c', 't'] | .space => ['s', 'p', 'a', 'c', 'e'] | .upper => ['u', 'p', 'p', 'e', 'r']
  | .word => ['w', 'o', 'r', 'd'] | .xdigit => ['x', 'd', 'i', 'g', 'i', 't']

def AsciiKind.all : List AsciiKind :=
  [.alnum, .alpha, .ascii, .blank, .cntrl, .digit, .graph, .lower, .print, .punct, .space, .upper,
   .word, .xdigit]

/-- `ClassAsciiKind::from_name` -/
def asciiKind (name : List Char) : Option AsciiKind :=
  AsciiKind.all.find? (fun k => k.name == name)

/-! ## ast/regex.rs — translation to regex text -/

/-- error classes of `yash_fnmatch::Error` -/
inductive Err where
  | emptyBracket | emptyCollating | undefinedClass | classInRange | regex
  deriving DecidableEq, Repr

/-- `BracketAtom::fmt_regex_char` -/
def fmtRegexChar (c : Char) : List Char :=
  if c ∈ bracketSpecialChars ∨ c ∈ specialChars then ['\\', c] else [c]

/-- `Atom::Char` arm of `Atom::fmt_regex` -/
def fmtTopChar (c : Char) : List Char :=
  if c ∈ specialChars then ['\\', c] else [c]

/-- `str::len` (UTF-8 bytes) -/
def utf8Len (v : List Char) : Nat := (v.map Char.utf8Size).sum

/-- `BracketAtom::matches_multi_character`: `value.chars().nth(1).is_some()` (two or more characters) -/
def BracketAtom.multi : BracketAtom → Bool
  | .collating v => decide (1 < v.length)
  | .equiv v => decide (1 < v.length)
  | _ => false

def BracketItem.multi : BracketItem → Bool
  | .atom a => a.multi
  | .range _ _ => false

def Bracket.multi (b : Bracket) : Bool := b.items.any BracketItem.multi

/-- `BracketAtom::fmt_regex` -/
def BracketAtom.fmt : BracketAtom → Except Err (List Char)
  | .char c => .ok (fmtRegexChar c)
  | .collating v => if v = [] then .error .emptyCollating else .ok (v.flatMap fmtRegexChar)
  | .equiv v => if v = [] then .error .emptyCollating else .ok (v.flatMap fmtRegexChar)
  | .cls name =>
    if (asciiKind name).isSome then .ok ('[' :: ':' :: name ++ [':', ']']) else .error .undefinedClass

/-- `BracketAtom::fmt_regex_single` -/
def BracketAtom.fmtSingle : BracketAtom → Except Err (List Char)
  | .char c => .ok (fmtRegexChar c)
  | .collating [] => .error .emptyCollating
  | .collating (c :: _) => .ok (fmtRegexChar c)
  | .equiv [] => .error .emptyCollating
  | .equiv (c :: _) => .ok (fmtRegexChar c)
  | .cls _ => .error .classInRange

/-- `BracketItem::fmt_regex` -/
def BracketItem.fmt : BracketItem → Except Err (List Char)
  | .atom a => a.fmt
  | .range s e =>
    match s.fmtSingle with
    | .error x => .error x
    | .ok a => match e.fmtSingle with
      | .error x => .error x
      | .ok b => .ok (a ++ '-' :: b)

/-- the plain loop `for item in &self.items { item.fmt_regex(regex)?; }` -/
def fmtItems : List BracketItem → Except Err (List Char)
  | [] => .ok []
  | it :: r =>
    match it.fmt with
    | .error x => .error x
    | .ok a => match fmtItems r with
      | .error x => .error x
      | .ok b => .ok (a ++ b)

/-- one alternative of the `(?: | )` form -/
def fmtAltItem (it : BracketItem) : Except Err (List Char) :=
  if it.multi then it.fmt
  else match it.fmt with
    | .error x => .error x
    | .ok a => .ok ('[' :: a ++ [']'])

/-- the loop of the `(?:` arm: alternatives separated by `|` -/
def fmtAltItems : List BracketItem → Except Err (List Char)
  | [] => .ok []
  | [it] => fmtAltItem it
  | it :: r =>
    match fmtAltItem it with
    | .error x => .error x
    | .ok a => match fmtAltItems r with
      | .error x => .error x
      | .ok b => .ok (a ++ '|' :: b)

/-- `Bracket::fmt_regex` -/
def Bracket.fmt (b : Bracket) : Except Err (List Char) :=
  if b.items = [] then .error .emptyBracket
  else if !b.multi then
    match fmtItems b.items with
    | .error x => .error x
    | .ok a => .ok ('[' :: (if b.complement then ['^'] else []) ++ a ++ [']'])
  else if !b.complement then
    match fmtAltItems b.items with
    | .error x => .error x
    | .ok a => .ok ('(' :: '?' :: ':' :: a ++ [')'])
  else if b.items.all BracketItem.multi then
    -- no single character is excluded, so any character matches (`[^]` would not be an empty complement)
    .ok ['.']
  else
    match fmtItems (b.items.filter (fun it => !it.multi)) with
    | .error x => .error x
    | .ok a => .ok ('[' :: '^' :: a ++ [']'])

/-- `Atom::fmt_regex` -/
def Atom.fmt : Atom → Except Err (List Char)
  | .char c => .ok (fmtTopChar c)
  | .anyChar => .ok ['.']
  | .anyString => .ok ['.', '*']
  | .bracket b => b.fmt

def fmtAtoms : List Atom → Except Err (List Char)
  | [] => .ok []
  | a :: r =>
    match a.fmt with
    | .error x => .error x
    | .ok x => match fmtAtoms r with
      | .error e => .error e
      | .ok y => .ok (x ++ y)

/-- `Config` (without `case_insensitive`, which is outside this model) -/
structure Config where
  anchorBegin : Bool := false
  anchorEnd : Bool := false
  literalPeriod : Bool := false
  shortest : Bool := false
  deriving DecidableEq, Repr

/-- `Ast::to_regex` -/
def toRegex (ast : Ast) (cfg : Config) : Except Err (List Char) :=
  match fmtAtoms ast with
  | .error e => .error e
  | .ok body =>
    .ok ((if cfg.anchorBegin then ['\\', 'A'] else []) ++ body ++ (if cfg.anchorEnd then ['\\', 'z'] else []))

/-! ## The regex crate: the syntax subset `toRegex` can emit, and its leftmost-first semantics -/

inductive ClassItem where
  | single (c : Char)
  | range (a b : Char)
  | ascii (k : AsciiKind)
  deriving DecidableEq, Repr

structure Cls where
  neg : Bool
  items : List ClassItem
  deriving DecidableEq, Repr

/-- an element that consumes exactly one character -/
inductive Simple where
  | lit (c : Char)
  | cls (k : Cls)
  deriving DecidableEq, Repr

inductive ReAtom where
  | bos                         -- `\A`
  | eos                         -- `\z`
  | any                         -- `.` (with `dot_matches_new_line`)
  | star                        -- `.*` (greedy unless `swap_greed`)
  | one (s : Simple)
  | alt (bs : List (List Simple))   -- `(?:b1|b2|…)`, each branch a sequence of one-character elements
  deriving Repr

/-- `regex_syntax::is_meta_character`: the characters a backslash may precede to denote themselves -/
def escapable : List Char :=
  ['\\', '.', '+', '*', '?', '(', ')', '|', '[', ']', '{', '}', '^', '$', '#', '&', '-', '~']

/-- characters with a meaning of their own outside a class (a raw occurrence is not a literal) -/
def reMeta : List Char :=
  ['\\', '.', '+', '*', '?', '(', ')', '|', '[', ']', '{', '}', '^', '$']

/-- characters with a meaning of their own inside a class: `[` nests / opens `[:name:]`, `]` closes,
    `\` escapes, `^` negates (first), `-` is the range operator, `&&` `--` `~~` are the set operators -/
def classMeta : List Char := ['\\', '[', ']', '^', '-', '&', '~']

/-- `[:name:]` right after a `[` inside a class: finds the kind whose `name:]` is a prefix -/
def parseAsciiName (s : List Char) : Option (AsciiKind × List Char) :=
  match AsciiKind.all.find? (fun k => (k.name ++ [':', ']']).isPrefixOf s) with
  | some k => some (k, s.drop (k.name.length + 2))
  | none => none

inductive ClassTok where
  | chr (c : Char)
  | kind (k : AsciiKind)

/-- one class atom: `\c` (c escapable), `[:name:]`, or a raw character that is not class-special.
    Anything else (nested class, raw `& - ~ ^`, unknown escape) is outside the modelled subset: `none`. -/
def classTok : List Char → Option (ClassTok × List Char)
  | [] => none
  | c :: t =>
    if c = '\\' then
      match t with
      | [] => none
      | d :: t' => if d ∈ escapable then some (.chr d, t') else none
    else if c = '[' then
      match t with
      | [] => none
      | d :: t' =>
        if d = ':' then
          match parseAsciiName t' with
          | some (k, r) => some (.kind k, r)
          | none => none
        else none
    else if c ∈ classMeta then none
    else some (.chr c, t)

/-- items of a class up to the closing `]`.  A `]` where an item is expected with no item yet, an
    inverted range, or a class as range bound is an error of the regex compiler (`none`).
    (In the regex crate a `]` right after `[` / `[^` is a literal and the class goes on; `toRegex` never emits
    that shape — an all-multi complemented bracket is `.` since fix 8f1328d — so the model answers `none`:
    outside the modelled subset.)
    `fuel`: one unit per item; the text length always suffices. -/
def classItems : Nat → List ClassItem → List Char → Option (List ClassItem × List Char)
  | 0, _, _ => none
  | fuel + 1, acc, s =>
    match s with
    | [] => none
    | c :: t =>
      if c = ']' then (if acc = [] then none else some (acc.reverse, t))
      else
        match classTok (c :: t) with
        | none => none
        | some (.kind k, r) => classItems fuel (.ascii k :: acc) r
        | some (.chr a, r) =>
          if r.head? = some '-' then
            match classTok r.tail with
            | some (.chr b, r'') =>
              if a.toNat ≤ b.toNat then classItems fuel (.range a b :: acc) r'' else none
            | _ => none
          else classItems fuel (.single a :: acc) r

/-- a class, after its `[` -/
def parseClass (fuel : Nat) (s : List Char) : Option (Cls × List Char) :=
  if s.head? = some '^' then
    match classItems fuel [] s.tail with
    | some (items, r) => some ({ neg := true, items := items }, r)
    | none => none
  else
    match classItems fuel [] s with
    | some (items, r) => some ({ neg := false, items := items }, r)
    | none => none

/-- one branch of `(?: | )`: one-character elements up to `|` or `)` (the delimiter is left in place) -/
def parseBranch : Nat → List Simple → List Char → Option (List Simple × List Char)
  | 0, _, _ => none
  | fuel + 1, acc, s =>
    match s with
    | [] => none
    | c :: t =>
      if c = '|' ∨ c = ')' then some (acc.reverse, c :: t)
      else if c = '\\' then
        match t with
        | [] => none
        | d :: t' => if d ∈ escapable then parseBranch fuel (.lit d :: acc) t' else none
      else if c = '[' then
        match parseClass fuel t with
        | some (k, r) => parseBranch fuel (.cls k :: acc) r
        | none => none
      else if c ∈ reMeta then none
      else parseBranch fuel (.lit c :: acc) t

/-- the branches of `(?: | )` after the `(?:`, up to and including the `)` -/
def parseBranches : Nat → List (List Simple) → List Char → Option (List (List Simple) × List Char)
  | 0, _, _ => none
  | fuel + 1, acc, s =>
    match parseBranch (fuel + 1) [] s with
    | none => none
    | some (_, []) => none
    | some (b, d :: r) =>
      if d = ')' then some ((b :: acc).reverse, r)
      else parseBranches fuel (b :: acc) r

/-- top level of the regex text -/
def parseTop : Nat → List Char → Option (List ReAtom)
  | 0, _ => none
  | fuel + 1, s =>
    match s with
    | [] => some []
    | c :: t =>
      if c = '\\' then
        match t with
        | [] => none
        | d :: t' =>
          if d ∈ escapable then (parseTop fuel t').map (.one (.lit d) :: ·)
          else if d = 'A' then (parseTop fuel t').map (.bos :: ·)
          else if d = 'z' then (parseTop fuel t').map (.eos :: ·)
          else none
      else if c = '.' then
        if t.head? = some '*' then (parseTop fuel t.tail).map (.star :: ·)
        else (parseTop fuel t).map (.any :: ·)
      else if c = '[' then
        match parseClass fuel t with
        | some (k, r) => (parseTop fuel r).map (.one (.cls k) :: ·)
        | none => none
      else if c = '(' then
        if t.head? = some '?' ∧ t.tail.head? = some ':' then
          match parseBranches fuel [] t.tail.tail with
          | some (bs, r) => (parseTop fuel r).map (.alt bs :: ·)
          | none => none
        else none
      else if c ∈ reMeta then none
      else (parseTop fuel t).map (.one (.lit c) :: ·)

/-- the regex compiler on the emitted subset (`none` = `regex::Error`) -/
def parseRe (s : List Char) : Option (List ReAtom) := parseTop (s.length + 1) s

def ClassItem.mem : ClassItem → Char → Bool
  | .single a, c => c == a
  | .range a b, c => a.toNat ≤ c.toNat && c.toNat ≤ b.toNat
  | .ascii k, c => k.mem c

def Cls.mem (k : Cls) (c : Char) : Bool := (k.items.any (·.mem c)) != k.neg

def Simple.mem : Simple → Char → Bool
  | .lit a, c => c == a
  | .cls k, c => k.mem c

/-- a sequence of one-character elements against a prefix; result: the rest -/
def matchSimples : List Simple → List Char → Option (List Char)
  | [], s => some s
  | _ :: _, [] => none
  | x :: r, c :: t => if x.mem c then matchSimples r t else none

/-- `.*`: greedy tries the longest first, lazy (`swap_greed`) the shortest first -/
def starLoop (g : Bool) (k : List Char → Option (List Char)) : List Char → Option (List Char)
  | [] => k []
  | c :: t =>
    if g then (match starLoop g k t with | some r => some r | none => k (c :: t))
    else (match k (c :: t) with | some r => some r | none => starLoop g k t)

/-- `(?:b1|b2|…)`: the first branch (in order) after which the continuation succeeds -/
def altLoop (k : List Char → Option (List Char)) (s : List Char) : List (List Simple) → Option (List Char)
  | [] => none
  | b :: bs =>
    match (match matchSimples b s with | some s' => k s' | none => none) with
    | some r => some r
    | none => altLoop k s bs

/-- Backtracking match of `re` at the suffix `s` of a text of `n` characters; the first success in
    priority order (= leftmost-first semantics of the regex crate); result: the unmatched rest. -/
def matchHere (g : Bool) (n : Nat) : List ReAtom → List Char → Option (List Char)
  | [], s => some s
  | .bos :: r, s => if s.length = n then matchHere g n r s else none
  | .eos :: r, s => if s = [] then matchHere g n r s else none
  | .any :: r, s => match s with
    | [] => none
    | _ :: t => matchHere g n r t
  | .one x :: r, s => match s with
    | [] => none
    | c :: t => if x.mem c then matchHere g n r t else none
  | .star :: r, s => starLoop g (matchHere g n r) s
  | .alt bs :: r, s => altLoop (matchHere g n r) s bs

/-- leftmost match starting at or after the suffix `s` (which begins at position `pos`) -/
def findFrom (g : Bool) (n : Nat) (re : List ReAtom) : Nat → List Char → Option (Nat × Nat)
  | pos, [] => match matchHere g n re [] with
    | some rest => some (pos, n - rest.length)
    | none => none
  | pos, c :: t => match matchHere g n re (c :: t) with
    | some rest => some (pos, n - rest.length)
    | none => findFrom g n re (pos + 1) t

/-- `Regex::find_at(text, at)` (`g` = greedy, i.e. not `swap_greed`) -/
def findAt (g : Bool) (re : List ReAtom) (text : List Char) (at_ : Nat) : Option (Nat × Nat) :=
  if at_ ≤ text.length then findFrom g text.length re at_ (text.drop at_) else none

/-! ## lib.rs — `Pattern` -/

inductive Body where
  | literal (s : List Char)
  | regex (re : List ReAtom) (startsWithLiteralDot : Bool)
  deriving Repr

structure Pattern where
  body : Body
  config : Config
  deriving Repr

/-- `Pattern::from_ast_and_config` -/
def Pattern.fromAst (ast : Ast) (cfg : Config) : Except Err Pattern :=
  match toLiteral ast with
  | some l => .ok { body := .literal l, config := cfg }
  | none =>
    match toRegex ast cfg with
    | .error e => .error e
    | .ok r =>
      match parseRe r with
      | none => .error .regex
      | some re => .ok { body := .regex re (startsWithLiteralDot ast), config := cfg }

/-- `Pattern::parse_with_config` -/
def Pattern.parse (pcs : List PatternChar) (cfg : Config) : Except Err Pattern :=
  Pattern.fromAst (parseAtoms pcs) cfg

/-- `str::find` of a substring: first index -/
def strFind (p : List Char) : Nat → List Char → Option Nat
  | pos, [] => if p = [] then some pos else none
  | pos, c :: t => if p.isPrefixOf (c :: t) then some pos else strFind p (pos + 1) t

/-- `str::rfind` of a substring: last index -/
def strRFind (p : List Char) : Nat → List Char → Option Nat
  | pos, [] => if p = [] then some pos else none
  | pos, c :: t => match strRFind p (pos + 1) t with
    | some i => some i
    | none => if p.isPrefixOf (c :: t) then some pos else none

def endsWith (text p : List Char) : Bool := p.reverse.isPrefixOf text.reverse

def Pattern.at0 (cfg : Config) (dot : Bool) (text : List Char) : Nat :=
  if cfg.literalPeriod && !dot && text.head? == some '.' then 1 else 0

/-- `Pattern::find` -/
def Pattern.find (p : Pattern) (text : List Char) : Option (Nat × Nat) :=
  match p.body with
  | .literal s =>
    match p.config.anchorBegin, p.config.anchorEnd with
    | false, false => (strFind s 0 text).map (fun i => (i, i + s.length))
    | true, false => if s.isPrefixOf text then some (0, s.length) else none
    | false, true => if endsWith text s then some (text.length - s.length, text.length) else none
    | true, true => if text = s then some (0, s.length) else none
  | .regex re dot => findAt (!p.config.shortest) re text (Pattern.at0 p.config dot text)

/-- `Pattern::is_match` -/
def Pattern.isMatch (p : Pattern) (text : List Char) : Bool :=
  match p.body with
  | .literal s =>
    match p.config.anchorBegin, p.config.anchorEnd with
    | false, false => (strFind s 0 text).isSome
    | true, false => s.isPrefixOf text
    | false, true => endsWith text s
    | true, true => decide (text = s)
  | .regex re dot => (findAt (!p.config.shortest) re text (Pattern.at0 p.config dot text)).isSome

/-- byte offset (in the UTF-8 encoding) of the character index `i` -/
def byteOffset (text : List Char) (i : Nat) : Nat := utf8Len (text.take i)

/-- `(start + 1 ..= text.len()).find(|&index| text.is_char_boundary(index))`, by walking the encoded
    characters (1–4 bytes each): the first char boundary strictly after byte offset `start`, as
    (character index, byte offset); `idx`/`off` = index and offset of the head of the remaining text. -/
def nextBoundaryFrom (idx off start : Nat) : List Char → Option (Nat × Nat)
  | [] => none
  | c :: t =>
    if start < off + c.utf8Size then some (idx + 1, off + c.utf8Size)
    else nextBoundaryFrom (idx + 1) (off + c.utf8Size) start t

def nextBoundary (text : List Char) (start : Nat) : Option (Nat × Nat) := nextBoundaryFrom 0 0 start text

/-- the `while let` loop of `Pattern::rfind`: from the start of the current match, step to the next char
    boundary (byte-wise, see `nextBoundary`) and search again -/
def rfindLoop (g : Bool) (re : List ReAtom) (text : List Char) : Nat → Nat × Nat → Nat × Nat
  | 0, cur => cur
  | fuel + 1, cur =>
    match nextBoundary text (byteOffset text cur.1) with
    | some (i, _) =>
      match findAt g re text i with
      | some r => rfindLoop g re text fuel r
      | none => cur
    | none => cur

/-- `Pattern::rfind` -/
def Pattern.rfind (p : Pattern) (text : List Char) : Option (Nat × Nat) :=
  match p.body with
  | .literal s =>
    match p.config.anchorBegin, p.config.anchorEnd with
    | false, false => (strRFind s 0 text).map (fun i => (i, i + s.length))
    | true, false => if s.isPrefixOf text then some (0, s.length) else none
    | false, true => if endsWith text s then some (text.length - s.length, text.length) else none
    | true, true => if text = s then some (0, s.length) else none
  | .regex re _ =>
    match p.find text with
    | none => none
    | some r => some (rfindLoop (!p.config.shortest) re text (text.length + 1) r)

/-! ## yash-semantics: trim.rs, attr_fnmatch.rs, case.rs -/

/-- `trim_value` -/
def trimValue (p : Pattern) (v : List Char) : List Char :=
  let r := if p.config.anchorEnd && p.config.shortest then p.rfind v else p.find v
  match r with
  | some (a, b) => v.take a ++ v.drop b
  | none => v

inductive TrimSide where | prefix | suffix deriving DecidableEq, Repr
inductive TrimLength where | shortest | longest deriving DecidableEq, Repr

def trimConfig (side : TrimSide) (len : TrimLength) : Config :=
  { anchorBegin := side == .prefix, anchorEnd := side == .suffix, shortest := len == .shortest }

/-- `trim::apply` on a scalar: a pattern that fails to compile leaves the value unchanged -/
def trimApply (side : TrimSide) (len : TrimLength) (pcs : List PatternChar) (v : List Char) : List Char :=
  match Pattern.parse pcs (trimConfig side len) with
  | .ok p => trimValue p v
  | .error _ => v

/-- `trim::apply` on an array value (`"${@#pat}"`): every element is trimmed by the same pattern -/
def trimArray (side : TrimSide) (len : TrimLength) (pcs : List PatternChar) (vs : List (List Char)) :
    List (List Char) :=
  vs.map (trimApply side len pcs)

/-- `case.rs config()` -/
def caseConfig : Config := { anchorBegin := true, anchorEnd := true }

/-- the pattern loop of `case`: index of the first pattern that compiles and matches -/
def caseFirst (pats : List (List PatternChar)) (subject : List Char) : Option Nat :=
  let rec go : Nat → List (List PatternChar) → Option Nat
    | _, [] => none
    | i, p :: r =>
      match Pattern.parse p caseConfig with
      | .ok pat => if pat.isMatch subject then some i else go (i + 1) r
      | .error _ => go (i + 1) r
  go 0 pats

/-- `case.rs matches`: does any `|`-alternative of one case item compile and match?  A pattern that
    does not compile is skipped (`continue`), the remaining alternatives are still tried. -/
def itemMatches (subject : List Char) : List (List PatternChar) → Bool
  | [] => false
  | p :: r =>
    match Pattern.parse p caseConfig with
    | .ok pat => if pat.isMatch subject then true else itemMatches subject r
    | .error _ => itemMatches subject r

/-- the item whose body `case` runs first: the first item one of whose alternatives compiles and matches -/
def caseSelect (items : List (List (List PatternChar))) (subject : List Char) : Option Nat :=
  let rec go : Nat → List (List (List PatternChar)) → Option Nat
    | _, [] => none
    | i, alts :: r => if itemMatches subject alts then some i else go (i + 1) r
  go 0 items

/-- `CaseContinuation`: `;;` / `;&` / `;;&` -/
inductive CaseCont where
  | brk | fallThrough | cont
  deriving DecidableEq, Repr

/-- `case.rs execute`: the indices of the items whose bodies run, in order (`falling` = `falling_through`) -/
def caseExecGo (subject : List Char) : Bool → Nat → List (List (List PatternChar) × CaseCont) → List Nat
  | _, _, [] => []
  | falling, i, (alts, c) :: rest =>
    if falling || itemMatches subject alts then
      i :: (match c with
        | .brk => []
        | .fallThrough => caseExecGo subject true (i + 1) rest
        | .cont => caseExecGo subject false (i + 1) rest)
    else caseExecGo subject false (i + 1) rest

def caseExec (items : List (List (List PatternChar) × CaseCont)) (subject : List Char) : List Nat :=
  caseExecGo subject false 0 items

/-- `matches` when the expansion of an alternative can fail (`expand_word_attr(env, pattern).await?`):
    `none` in the list = that alternative's expansion is an error; result `none` = the error propagates.
    Alternatives after a match are not expanded. -/
def itemMatchesE (subject : List Char) : List (Option (List PatternChar)) → Option Bool
  | [] => some false
  | none :: _ => none
  | some p :: r => if itemMatches subject [p] then some true else itemMatchesE subject r

/-- `execute` with failing expansions: (bodies run, aborted).  An item reached by `;&` is not tested, so its
    patterns are not expanded. -/
def caseExecEGo (subject : List Char) :
    Bool → Nat → List (List (Option (List PatternChar)) × CaseCont) → List Nat × Bool
  | _, _, [] => ([], false)
  | falling, i, (alts, c) :: rest =>
    let hit : Option Bool := if falling then some true else itemMatchesE subject alts
    match hit with
    | none => ([], true)
    | some false => caseExecEGo subject false (i + 1) rest
    | some true =>
      match c with
      | .brk => ([i], false)
      | .fallThrough => let r := caseExecEGo subject true (i + 1) rest; (i :: r.1, r.2)
      | .cont => let r := caseExecEGo subject false (i + 1) rest; (i :: r.1, r.2)

/-- `AttrChar` reduced to what `attr_fnmatch.rs` reads -/
structure AttrChar where
  value : Char
  isQuoted : Bool
  isQuoting : Bool
  deriving DecidableEq, Repr

/-- `apply_escapes` (after fix 9da0f0e), left to right: an unquoted non-quoting backslash that some NON-QUOTING
    character follows becomes quoting, and the NEXT non-quoting character becomes quoted (quoting characters in
    between are stepped over untouched; `quoteThis` = a backslash before is waiting for its character).  A backslash
    followed by quoting characters only, up to the end, stays what it was. -/
def applyEscapesAux (quoteThis : Bool) : List AttrChar → List AttrChar
  | [] => []
  | a :: t =>
    if a.isQuoting then a :: applyEscapesAux quoteThis t
    else
      let a' : AttrChar := if quoteThis then { a with isQuoted := true } else a
      if a'.value = '\\' ∧ a'.isQuoted = false ∧ t.any (fun c => !c.isQuoting) = true then
        { a' with isQuoting := true } :: applyEscapesAux true t
      else a' :: applyEscapesAux false t

def applyEscapes (cs : List AttrChar) : List AttrChar := applyEscapesAux false cs

/-- `to_pattern_chars` -/
def toPatternChars (cs : List AttrChar) : List PatternChar :=
  cs.filterMap fun c =>
    if c.isQuoting then none else if c.isQuoted then some (.literal c.value) else some (.normal c.value)

/-! ### the attributed characters of a shell word (used by the driver's shell legs) -/

/-- an ordinary character of an expansion result: quoted (from inside `"…"`) or not -/
def attrOf (quoted : Bool) (c : Char) : AttrChar := { value := c, isQuoted := quoted, isQuoting := false }

/-- the `"` of a double-quoted part: a quoting character, not part of the value -/
def quoteMark : AttrChar := { value := '"', isQuoted := false, isQuoting := true }

/-- what `expand_word_attr` yields for the word `"$q"$p` (no field splitting): quote, the characters of `q`
    quoted, quote, the characters of `p` unquoted -/
def shellWord (q p : List Char) : List AttrChar :=
  [quoteMark] ++ q.map (attrOf true) ++ [quoteMark] ++ p.map (attrOf false)

/-! ### `case.rs execute` with the exit status -/

/-- a case item as `execute` sees it: patterns, continuation, `item.body.0.is_empty()`, and what executing the
    body does to `$?` -/
structure CaseItemM where
  alts : List (List PatternChar)
  cont : CaseCont
  bodyEmpty : Bool
  body : Nat → Nat

/-- the `for item in items` loop of `execute`: state = (`falling_through`, `exit_status_updated`, `env.exit_status`);
    result = (indices of the bodies run, `env.exit_status`, `exit_status_updated`) -/
def caseExecuteGo (subject : List Char) : Bool → Bool → Nat → Nat → List CaseItemM → List Nat × Nat × Bool
  | _, upd, st, _, [] => ([], st, upd)
  | falling, upd, st, i, it :: rest =>
    if falling || itemMatches subject it.alts then
      match it.cont with
      | .brk => ([i], it.body st, !it.bodyEmpty)
      | .fallThrough =>
        let r := caseExecuteGo subject true (!it.bodyEmpty) (it.body st) (i + 1) rest
        (i :: r.1, r.2)
      | .cont =>
        let r := caseExecuteGo subject false (!it.bodyEmpty) (it.body st) (i + 1) rest
        (i :: r.1, r.2)
    else caseExecuteGo subject false upd st (i + 1) rest

/-- `execute` after the subject has been expanded: the bodies run and `$?` afterwards
    (`if !exit_status_updated { env.exit_status = ExitStatus::SUCCESS }`) -/
def caseExecute (items : List CaseItemM) (subject : List Char) (st0 : Nat) : List Nat × Nat :=
  let r := caseExecuteGo subject false false st0 0 items
  (r.1, if r.2.2 then r.2.1 else 0)

/-! ### `trim::apply` on a value -/

/-- `yash_env::variable::Value` as far as `trim::apply` reads it -/
inductive Value where
  | scalar (v : List Char)
  | array (vs : List (List Char))
  deriving DecidableEq, Repr

/-- `trim::apply` after `trim.pattern.expand(env)` and `ifs_join`: `apply_escapes`, the configuration by side and
    length, `parse_with_config(to_pattern_chars(..))` — on `Err` the value is left as it is — then `trim_value` on
    the scalar or on every element of the array -/
def trimApplyValue (side : TrimSide) (len : TrimLength) (pattern : List AttrChar) (value : Value) : Value :=
  match Pattern.parse (toPatternChars (applyEscapes pattern)) (trimConfig side len) with
  | .error _ => value
  | .ok p =>
    match value with
    | .scalar v => .scalar (trimValue p v)
    | .array vs => .array (vs.map (trimValue p))

end YashModel.Fnmatch
