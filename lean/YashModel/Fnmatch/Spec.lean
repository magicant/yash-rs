/-
  C04 — Spec: what POSIX pattern-matching notation (XCU 2.13, XBD 9.3.5) denotes, by direct recursion on
  the syntax tree.  `?` one character, `*` any string, a bracket expression one character of its set
  (ranges by code point = POSIX-locale collation, `!`/`^` complement, classes by the ASCII tables,
  collating symbols / equivalence classes = their literal characters), other characters themselves.

  Choices where POSIX leaves the POSIX locale undefined, taken from the yash-fnmatch crate documentation
  ("collating symbols and equivalence classes only match the specified character sequence itself"):
  a symbol of two or more characters matches that character sequence (and, matching no single character,
  is irrelevant to a complemented bracket); as a range bound it stands for its first character.
-/
import YashModel.Fnmatch.Model

namespace YashModel.Fnmatch

/-- does a bracket atom, as a set member, contain the single character `c`? -/
def atomHas : BracketAtom → Char → Bool
  | .char a, c => c == a
  | .collating v, c => v == [c]
  | .equiv v, c => v == [c]
  | .cls name, c => match asciiKind name with
    | some k => k.mem c
    | none => false

/-- a range bound -/
def atomBound : BracketAtom → Option Char
  | .char a => some a
  | .collating v => v.head?
  | .equiv v => v.head?
  | .cls _ => none

def itemHas : BracketItem → Char → Bool
  | .atom a, c => atomHas a c
  | .range s e, c => match atomBound s, atomBound e with
    | some lo, some hi => lo.toNat ≤ c.toNat && c.toNat ≤ hi.toNat
    | _, _ => false

/-- the character sequence of a multi-character collating element -/
def itemSeq : BracketItem → Option (List Char)
  | .atom (.collating v) => if 2 ≤ v.length then some v else none
  | .atom (.equiv v) => if 2 ≤ v.length then some v else none
  | _ => none

/-- all ways a bracket expression can match at the head of `s`: the possible rests -/
def bracketRests (b : Bracket) (s : List Char) : List (List Char) :=
  (match s with
   | [] => []
   | c :: t => if b.items.any (itemHas · c) != b.complement then [t] else [])
  ++ (if b.complement then []
      else b.items.filterMap fun it =>
        match itemSeq it with
        | some v => if v.isPrefixOf s then some (s.drop v.length) else none
        | none => none)

/-- does the whole of `s` match the atoms? -/
def globAtoms : List Atom → List Char → Bool
  | [], s => s.isEmpty
  | .char a :: r, s => match s with
    | [] => false
    | c :: t => c == a && globAtoms r t
  | .anyChar :: r, s => match s with
    | [] => false
    | _ :: t => globAtoms r t
  | .anyString :: r, s => (List.range (s.length + 1)).any fun k => globAtoms r (s.drop k)
  | .bracket b :: r, s => (bracketRests b s).any (globAtoms r)

/-- the glob language -/
def globMatch (ast : Ast) (s : List Char) : Bool := globAtoms ast s

/-- patterns inside the notation POSIX defines (for the POSIX locale): class names are defined, no class
    as range bound, no empty symbol, ranges not inverted (and no empty bracket, which the parser never
    produces) -/
def atomDefined : BracketAtom → Bool
  | .char _ => true
  | .collating v => v != []
  | .equiv v => v != []
  | .cls name => (asciiKind name).isSome

def itemDefined : BracketItem → Bool
  | .atom a => atomDefined a
  | .range s e => match atomBound s, atomBound e with
    | some lo, some hi => decide (lo.toNat ≤ hi.toNat)
    | _, _ => false

def atomOk : Atom → Bool
  | .bracket b => b.items != [] && b.items.all itemDefined
  | _ => true

def astDefined (ast : Ast) : Bool := ast.all atomOk

/-! ## The notation itself: from pattern characters to the syntax tree, by the grammar of XBD 9.3.5 / XCU 2.13.1
    (independent of the implementation's item stack and `make_range`)

    bracket  := `[` [`!`|`^`] member+ `]`          — the first member may be `]`
    member   := elem `-` elem   (a range; the second elem is not the closing `]`)
              | elem
    elem     := `[.`…`.]` | `[=`…`=]` | `[:`…`:]` | any other character (quoted or not)
    Only unquoted `]` closes, only an unquoted `-` is the range operator, only unquoted `!`/`^` right after
    the `[` complement, only an unquoted `[` opens an inner element (`parseInner`, shared with the model, scans
    to the first adjacent unquoted `.]` / `=]` / `:]`). -/

/-- one element at the head of `pc :: t`, and what follows it -/
def specElem (pc : PatternChar) (t : List PatternChar) : BracketAtom × List PatternChar :=
  if pc = .normal '[' then
    match parseInner t with
    | some (a, j) => (a, j)
    | none => (.char '[', t)
  else (.char pc.charValue, t)

theorem specElem_length (pc : PatternChar) (t : List PatternChar) : (specElem pc t).2.length ≤ t.length := by
  unfold specElem
  split
  · split
    · rename_i a j h
      have := parseInner_length t a j h
      simp; omega
    · simp
  · simp

/-- the members up to the closing bracket (`acc`: members read so far, last first) -/
def specItems (acc : List BracketItem) (cs : List PatternChar) :
    Option (List BracketItem × List PatternChar) :=
  match cs with
  | [] => none
  | pc :: t =>
    if pc = .normal ']' ∧ acc ≠ [] then some (acc.reverse, t)
    else
      match hr : (specElem pc t).2 with
      | [] => none
      | h :: r1 =>
        if h = .normal '-' then
          match hr1 : r1 with
          | [] => none
          | x :: r2 =>
            if x = .normal ']' then
              -- a `-` right before the closing bracket is a member
              some ((BracketItem.atom (.char '-') :: .atom (specElem pc t).1 :: acc).reverse, r2)
            else
              have : (specElem x r2).2.length < t.length + 1 := by
                have h1 := specElem_length pc t
                have h2 := specElem_length x r2
                rw [hr] at h1
                subst hr1
                simp at h1; omega
              specItems (.range (specElem pc t).1 (specElem x r2).1 :: acc) (specElem x r2).2
        else
          have : r1.length < t.length := by
            have h1 := specElem_length pc t
            rw [hr] at h1
            simp at h1; omega
          specItems (.atom (specElem pc t).1 :: acc) (h :: r1)
termination_by cs.length

/-- a bracket expression, after its `[` -/
def specBracket (cs : List PatternChar) : Option (Bracket × List PatternChar) :=
  match cs with
  | [] => none
  | pc :: t =>
    if pc = .normal '!' ∨ pc = .normal '^' then
      (specItems [] t).map fun x => ({ complement := true, items := x.1 }, x.2)
    else (specItems [] (pc :: t)).map fun x => ({ complement := false, items := x.1 }, x.2)

theorem specElem_length' {pc : PatternChar} {t l : List PatternChar} (h : (specElem pc t).2 = l) :
    l.length ≤ t.length := h ▸ specElem_length pc t

theorem specItems_length (acc : List BracketItem) (cs : List PatternChar) (is : List BracketItem)
    (r : List PatternChar) (h : specItems acc cs = some (is, r)) : r.length < cs.length := by
  fun_induction specItems acc cs
  all_goals first
    | (simp at h; done)
    | (simp at h; obtain ⟨_, rfl⟩ := h; simp; done)
    | (rename_i hr
       simp at h; obtain ⟨_, rfl⟩ := h
       have h1 := specElem_length' hr
       simp at h1 ⊢; omega)
    | (rename_i hthis ih
       have h2 := ih h
       simp at hthis h2 ⊢; omega)

theorem specBracket_length (cs : List PatternChar) (b : Bracket) (r : List PatternChar)
    (h : specBracket cs = some (b, r)) : r.length < cs.length := by
  unfold specBracket at h
  split at h
  · simp at h
  · rename_i pc t
    split at h
    · cases hs : specItems [] t with
      | none => rw [hs] at h; simp at h
      | some x =>
        rw [hs] at h; simp at h
        obtain ⟨_, rfl⟩ := h
        have := specItems_length [] t x.1 x.2 hs
        simp; omega
    · cases hs : specItems [] (pc :: t) with
      | none => rw [hs] at h; simp at h
      | some x =>
        rw [hs] at h; simp at h
        obtain ⟨_, rfl⟩ := h
        exact specItems_length [] (pc :: t) x.1 x.2 hs

/-- the whole pattern: unquoted `?` `*` and a closed bracket expression are special, everything else — quoted
    characters, an unquoted `[` that no bracket expression follows — is an ordinary character -/
def specParse (cs : List PatternChar) : Ast :=
  match cs with
  | [] => []
  | pc :: t =>
    if pc = .normal '?' then .anyChar :: specParse t
    else if pc = .normal '*' then .anyString :: specParse t
    else if pc = .normal '[' then
      match h : specBracket t with
      | some (b, j) =>
        have : j.length < (pc :: t).length := by
          have := specBracket_length _ _ _ h; simp; omega
        .bracket b :: specParse j
      | none => .char '[' :: specParse t
    else .char pc.charValue :: specParse t
termination_by cs.length

/-- POSIX pattern matching on pattern characters: the declarative top of the Spec -/
def posixMatch (pcs : List PatternChar) (s : List Char) : Bool := globMatch (specParse pcs) s

/-- no bracket expression contains a multi-character collating element (`[.ab.]`, `[=ab=]`): the
    patterns inside POSIX's defined notation for the POSIX locale, which has no such elements -/
def noMultiAtom : Atom → Bool
  | .bracket b => !b.multi
  | _ => true

def noMulti (ast : Ast) : Bool := ast.all noMultiAtom

/-- the least `k ≤ n` with `p k` -/
def leastUpTo (p : Nat → Bool) : Nat → Option Nat
  | 0 => if p 0 then some 0 else none
  | n + 1 => match leastUpTo p n with
    | some k => some k
    | none => if p (n + 1) then some (n + 1) else none

/-- the greatest `k ≤ n` with `p k` -/
def greatestUpTo (p : Nat → Bool) : Nat → Option Nat
  | 0 => if p 0 then some 0 else none
  | n + 1 => if p (n + 1) then some (n + 1) else greatestUpTo p n

/-- prefix / suffix removal: `#` `##` `%` `%%` delete the shortest / longest matching prefix / suffix:
    the least / greatest prefix length `k` with `v.take k` matching, the greatest / least suffix start `k`
    with `v.drop k` matching; nothing is removed when there is none -/
def specTrim (side : TrimSide) (len : TrimLength) (ast : Ast) (v : List Char) : List Char :=
  match side, len with
  | .prefix, .shortest => match leastUpTo (fun k => globMatch ast (v.take k)) v.length with
    | some k => v.drop k
    | none => v
  | .prefix, .longest => match greatestUpTo (fun k => globMatch ast (v.take k)) v.length with
    | some k => v.drop k
    | none => v
  | .suffix, .shortest => match greatestUpTo (fun k => globMatch ast (v.drop k)) v.length with
    | some k => v.take k
    | none => v
  | .suffix, .longest => match leastUpTo (fun k => globMatch ast (v.drop k)) v.length with
    | some k => v.take k
    | none => v

/-- `case`: the first item one of whose patterns matches -/
def specCase (asts : List Ast) (subject : List Char) : Option Nat :=
  asts.findIdx? (fun a => globMatch a subject)

/-- `case` with `|`-alternatives: an alternative counts when it is inside the defined notation and denotes
    the subject; the first item with such an alternative is selected -/
def altMatches (subject : List Char) (a : Ast) : Bool := astDefined a && globMatch a subject

def specCaseSelect (items : List (List Ast)) (subject : List Char) : Option Nat :=
  items.findIdx? (fun alts => alts.any (altMatches subject))

/-- which bodies run: from the selected item on, `;&` runs the next body unconditionally, `;;&` goes on
    testing, `;;` stops -/
def specCaseExec (subject : List Char) : Bool → Nat → List (List Ast × CaseCont) → List Nat
  | _, _, [] => []
  | falling, i, (alts, c) :: rest =>
    if falling || alts.any (altMatches subject) then
      i :: (match c with
        | .brk => []
        | .fallThrough => specCaseExec subject true (i + 1) rest
        | .cont => specCaseExec subject false (i + 1) rest)
    else specCaseExec subject false (i + 1) rest

/-! ## every configuration: which parts of the text a configuration lets the pattern match,
    and the leading-period rule of XCU 2.13.3 -/

/-- `s[i..j]` is an occurrence of the pattern under the anchoring `(ab, ae)`: that part of the text is in the
    glob language; it starts at 0 if the pattern is anchored at the beginning and ends at the end of `s` if it
    is anchored at the end -/
def occurs (ab ae : Bool) (ast : Ast) (s : List Char) (i j : Nat) : Prop :=
  i ≤ j ∧ j ≤ s.length ∧ (ab = true → i = 0) ∧ (ae = true → j = s.length) ∧
    globMatch ast ((s.take j).drop i) = true

/-- executable form of `occurs` -/
def occursB (ab ae : Bool) (ast : Ast) (s : List Char) (i j : Nat) : Bool :=
  decide (i ≤ j) && decide (j ≤ s.length) && (!ab || i == 0) && (!ae || j == s.length) &&
    globMatch ast ((s.take j).drop i)

/-- `is_match` under a configuration: some occurrence starting at or after `from` -/
def specIsMatchFrom (ab ae : Bool) (ast : Ast) (s : List Char) (start : Nat) : Bool :=
  (List.range (s.length + 1)).any fun i => decide (start ≤ i) &&
    (List.range (s.length + 1)).any fun j => occursB ab ae ast s i j

def specIsMatch (ab ae : Bool) (ast : Ast) (s : List Char) : Bool := specIsMatchFrom ab ae ast s 0

/-- the pattern begins with an explicit period -/
def explicitDot : Ast → Bool
  | .char c :: _ => c == '.'
  | _ => false

/-- XCU 2.13.3, first rule for file names: a leading period of the name is matched only by a period written as the
    first character of the pattern (not by `?`, `*` or a bracket expression) -/
def specPeriodMatch (ast : Ast) (s : List Char) : Bool :=
  globMatch ast s && (s.head? != some '.' || explicitDot ast)

/-! ## the character classes of the POSIX locale (XBD 7.3.1 "LC_CTYPE" of the POSIX locale definition), written as
    the standard lists them — independent of the range tables `AsciiKind.mem` that the model shares with the regex
    crate.  `posix_classes_agree` (Theorems.lean) shows that `atomHas` on `[:name:]` is membership in these lists. -/

def posixUpper : List Char := "ABCDEFGHIJKLMNOPQRSTUVWXYZ".toList
def posixLower : List Char := "abcdefghijklmnopqrstuvwxyz".toList
def posixDigit : List Char := "0123456789".toList
/-- `<space> <form-feed> <newline> <carriage-return> <tab> <vertical-tab>` -/
def posixSpace : List Char := [' ', Char.ofNat 12, '\n', '\r', '\t', Char.ofNat 11]
/-- `<space> <tab>` -/
def posixBlank : List Char := [' ', '\t']
/-- `<NUL>` … `<US>` (the 32 C0 controls) and `<DEL>` -/
def posixCntrl : List Char := (List.range 32).map Char.ofNat ++ [Char.ofNat 127]
def posixPunct : List Char := "!\"#$%&'()*+,-./:;<=>?@[\\]^_`{|}~".toList
def posixXdigit : List Char := posixDigit ++ "ABCDEFabcdef".toList
def posixAlpha : List Char := posixUpper ++ posixLower
def posixAlnum : List Char := posixAlpha ++ posixDigit
def posixGraph : List Char := posixAlnum ++ posixPunct
def posixPrint : List Char := posixGraph ++ [' ']

/-- the twelve class names XBD 9.3.5 requires, with their members in the POSIX locale -/
def posixClass (name : List Char) : Option (List Char) :=
  if name = "alnum".toList then some posixAlnum
  else if name = "alpha".toList then some posixAlpha
  else if name = "blank".toList then some posixBlank
  else if name = "cntrl".toList then some posixCntrl
  else if name = "digit".toList then some posixDigit
  else if name = "graph".toList then some posixGraph
  else if name = "lower".toList then some posixLower
  else if name = "print".toList then some posixPrint
  else if name = "punct".toList then some posixPunct
  else if name = "space".toList then some posixSpace
  else if name = "upper".toList then some posixUpper
  else if name = "xdigit".toList then some posixXdigit
  else none

/-! ## backslash in a pattern that results from an expansion (XCU 2.13.1): a backslash quotes the next character;
    a backslash with nothing after it stands for itself (POSIX leaves that case unspecified; yash's choice) -/

def escapeChars : List Char → List PatternChar
  | [] => []
  | [c] => [.normal c]
  | c :: d :: t => if c = '\\' then .literal d :: escapeChars t else .normal c :: escapeChars (d :: t)

/-! ## textbook semantics of the regex fragment `to_regex` can emit

    The fragment: `\A`, `\z`, `.`, `.*`, one-character elements (a literal or a class) and `(?:b1|b2|…)` whose
    branches are sequences of one-character elements.  `reDenotes n re s ρ`: the regex, applied at the suffix `s` of
    a text of `n` characters, can consume a prefix of `s` and leave `ρ` — the usual denotation, clause by clause,
    with no reference to any search order.  `reEnum g n re s`: the same rests listed in PRIORITY order (a greedy
    `.*` offers the longest continuation first, a lazy one the shortest; alternatives in the order written) —
    "leftmost-first" (Perl-style) semantics says: the match is the first entry. -/

def reDenotes (n : Nat) : List ReAtom → List Char → List Char → Prop
  | [], s, ρ => ρ = s
  | .bos :: r, s, ρ => s.length = n ∧ reDenotes n r s ρ
  | .eos :: r, s, ρ => s = [] ∧ reDenotes n r s ρ
  | .any :: r, s, ρ => ∃ c t, s = c :: t ∧ reDenotes n r t ρ
  | .one x :: r, s, ρ => ∃ c t, s = c :: t ∧ x.mem c = true ∧ reDenotes n r t ρ
  | .star :: r, s, ρ => ∃ u, u <:+ s ∧ reDenotes n r u ρ
  | .alt bs :: r, s, ρ => ∃ b ∈ bs, ∃ s', matchSimples b s = some s' ∧ reDenotes n r s' ρ

/-- where a `.*` may stop, in priority order: the suffixes of `s`, shortest first when greedy -/
def starChoices (g : Bool) : List Char → List (List Char)
  | [] => [[]]
  | c :: t => if g then starChoices g t ++ [c :: t] else (c :: t) :: starChoices g t

def reEnum (g : Bool) (n : Nat) : List ReAtom → List Char → List (List Char)
  | [], s => [s]
  | .bos :: r, s => if s.length = n then reEnum g n r s else []
  | .eos :: r, s => if s = [] then reEnum g n r s else []
  | .any :: r, s => match s with
    | [] => []
    | _ :: t => reEnum g n r t
  | .one x :: r, s => match s with
    | [] => []
    | c :: t => if x.mem c then reEnum g n r t else []
  | .star :: r, s => (starChoices g s).flatMap (reEnum g n r)
  | .alt bs :: r, s => (bs.filterMap (fun b => matchSimples b s)).flatMap (reEnum g n r)

/-! ## exit status of `case` (XCU 2.9.4.3): zero if no body was executed, otherwise the exit status of the last
    body executed — zero if that body is empty -/

/-- `$?` after running the bodies with the given indices one after the other, starting from `st` -/
def statusAfter (bodies : List (Nat → Nat)) (st : Nat) (executed : List Nat) : Nat :=
  executed.foldl (fun st j => match bodies[j]? with | some f => f st | none => st) st

def specCaseStatus (bodies : List (Nat → Nat)) (empties : List Bool) (st0 : Nat) (executed : List Nat) : Nat :=
  match executed.getLast? with
  | none => 0
  | some j => if empties[j]?.getD true then 0 else statusAfter bodies st0 executed

/-- a trim acts on a scalar value, or on every element of an array value (XCU 2.6.2 with `$@` / `$*`) -/
def Value.map (f : List Char → List Char) : Value → Value
  | .scalar v => .scalar (f v)
  | .array vs => .array (vs.map f)

/-- a range whose end collates before its start (`[z-a]`) -/
def itemInverted : BracketItem → Bool
  | .range s e => match atomBound s, atomBound e with
    | some lo, some hi => decide (hi.toNat < lo.toNat)
    | _, _ => false
  | .atom _ => false

def hasInvertedRange (ast : Ast) : Bool :=
  ast.any fun
    | .bracket b => b.items.any itemInverted
    | _ => false

end YashModel.Fnmatch
