/-
  C04 — the hand-written class tables of the model against
  (a) the table re-extracted on every run from the regex-syntax crate the harness links
      (`ClassAsciiKind::from_name`, `hir::translate::ascii_class`), and
  (b) the POSIX-locale class lists of the Spec;
  and the definitions (`cfgOfFlags`, `sideFlags`, …) with which Theorems.lean states the comparison with the
  constants extracted from /repo (Config fields, trim / case configurations).
-/
import YashModel.Fnmatch.Spec
import YashModel.Generated.FnmatchConfig
import YashModel.Generated.FnmatchRegexSyntax
import YashModel.Common.Strings

namespace YashModel.Fnmatch
open YashModel.Generated
open YashModel.Common (toList_lit)

/-- byte ranges the regex crate gives the class `k` (by its name) -/
def rangesOfKind (k : AsciiKind) : List (Nat × Nat) :=
  ((FnmatchRegexSyntax.asciiClasses.find? (fun x => x.1.toList == k.name)).map (·.2)).getD []

def inRanges (rs : List (Nat × Nat)) (c : Char) : Bool := rs.any fun r => r.1 ≤ c.toNat && c.toNat ≤ r.2

/-- the `Config` with exactly the named flags set -/
def cfgOfFlags (fs : List String) : Config :=
  { anchorBegin := fs.contains "anchor_begin", anchorEnd := fs.contains "anchor_end",
    literalPeriod := fs.contains "literal_period", shortest := fs.contains "shortest_match" }

/-- the flags the model's `Config` has -/
def modelledFlags : List String := ["anchor_begin", "anchor_end", "literal_period", "shortest_match"]

def sideFlags : TrimSide → List String
  | .prefix => FnmatchConfig.trimPrefixFlags
  | .suffix => FnmatchConfig.trimSuffixFlags

def lengthFlags : TrimLength → List String
  | .shortest => FnmatchConfig.trimShortestFlags
  | .longest => FnmatchConfig.trimLongestFlags

namespace Proofs

/-- `rangesOfKind`, evaluated -/
def crateRanges : AsciiKind → List (Nat × Nat)
  | .alnum => [(48, 57), (65, 90), (97, 122)]
  | .alpha => [(65, 90), (97, 122)]
  | .ascii => [(0, 127)]
  | .blank => [(9, 9), (32, 32)]
  | .cntrl => [(0, 31), (127, 127)]
  | .digit => [(48, 57)]
  | .graph => [(33, 126)]
  | .lower => [(97, 122)]
  | .print => [(32, 126)]
  | .punct => [(33, 47), (58, 64), (91, 96), (123, 126)]
  | .space => [(9, 9), (10, 10), (11, 11), (12, 12), (13, 13), (32, 32)]
  | .upper => [(65, 90)]
  | .word => [(48, 57), (65, 90), (95, 95), (97, 122)]
  | .xdigit => [(48, 57), (65, 70), (97, 102)]

/-- the crate's table, its names (strings) decoded once, is the model's: same names, same order -/
theorem asciiClasses_eq : FnmatchRegexSyntax.asciiClasses.map (fun x => (x.1.toList, x.2)) =
    AsciiKind.all.map fun k => (k.name, crateRanges k) := by decide +kernel

theorem names_agree :
    FnmatchRegexSyntax.asciiClasses.map (·.1.toList) = AsciiKind.all.map AsciiKind.name := by
  simpa only [List.map_map, Function.comp_def] using congrArg (List.map Prod.fst) asciiClasses_eq

theorem rangesOfKind_eq (k : AsciiKind) : rangesOfKind k = crateRanges k := by
  have e : rangesOfKind k = (((FnmatchRegexSyntax.asciiClasses.map (fun x => (x.1.toList, x.2))).find?
      (·.1 == k.name)).map (·.2)).getD [] := by
    simp only [rangesOfKind, List.find?_map, Option.map_map]; rfl
  rw [e, asciiClasses_eq]
  cases k <;> rfl

/-- for `blank`, `cntrl`, `space`, `word` the crate's ranges are those of `AsciiKind.mem` only up to order and to
    writing `9 ≤ n ≤ 13` as five singletons; for the other classes they are the same ranges -/
theorem kinds_mem_ranges (k : AsciiKind) (c : Char) : k.mem c = inRanges (rangesOfKind k) c := by
  rw [rangesOfKind_eq, Bool.eq_iff_iff]
  cases k
  all_goals simp only [crateRanges, AsciiKind.mem, inR, inRanges, List.any_cons, List.any_nil, Bool.or_false,
    Bool.or_eq_true, Bool.and_eq_true, decide_eq_true_eq, beq_iff_eq, or_assoc]
  all_goals omega

theorem mem_iff_toNat_mem (c : Char) (l : List Char) : c ∈ l ↔ c.toNat ∈ l.map Char.toNat := by
  rw [List.mem_map]
  exact ⟨fun h => ⟨c, h, rfl⟩, fun ⟨d, hd, e⟩ => Char.toNat_inj.mp e ▸ hd⟩

/-! The code points of the Spec's POSIX-locale lists, by evaluation (the string literals read by `toList_lit`: running
    the UTF-8 decoder is dear); the composite lists (`posixAlpha`, … ) are appends of these. -/

theorem codes_upper : posixUpper.map Char.toNat = List.range' 65 26 := by
  unfold posixUpper; rw [toList_lit rfl]; decide +kernel
theorem codes_lower : posixLower.map Char.toNat = List.range' 97 26 := by
  unfold posixLower; rw [toList_lit rfl]; decide +kernel
theorem codes_digit : posixDigit.map Char.toNat = List.range' 48 10 := by
  unfold posixDigit; rw [toList_lit rfl]; decide +kernel
theorem codes_space : posixSpace.map Char.toNat = [32, 12, 10, 13, 9, 11] := by decide +kernel
theorem codes_blank : posixBlank.map Char.toNat = [32, 9] := by decide +kernel
theorem codes_cntrl : posixCntrl.map Char.toNat = List.range' 0 32 ++ [127] := by decide +kernel
theorem codes_punct : posixPunct.map Char.toNat =
    List.range' 33 15 ++ List.range' 58 7 ++ List.range' 91 6 ++ List.range' 123 4 := by
  unfold posixPunct; rw [toList_lit rfl]; decide +kernel
theorem codes_xdigit :
    posixXdigit.map Char.toNat = List.range' 48 10 ++ List.range' 65 6 ++ List.range' 97 6 := by
  unfold posixXdigit; rw [List.map_append, codes_digit, toList_lit rfl]; decide +kernel

/-- one line of the table `posixClass` -/
theorem posixClass_line {name members n l : List Char} {rest : Option (List Char)} {P : Prop}
    (hit : name = n → l = members → P) (miss : rest = some members → P)
    (h : (if name = n then some l else rest) = some members) : P := by
  split at h
  · exact hit ‹_› (Option.some.inj h)
  · exact miss h

theorem posix_class_mem (name members : List Char) (h : posixClass name = some members) :
    ∃ k, asciiKind name = some k ∧ ∀ c, k.mem c = decide (c ∈ members) := by
  -- a line is right when the class's ranges describe the code points of the line's list
  have line (k : AsciiKind) {n l : List Char} (hm : ∀ c : Char, k.mem c = true ↔ c.toNat ∈ l.map Char.toNat)
      (hk : asciiKind n = some k := by decide +kernel) :
      name = n → l = members → ∃ k, asciiKind name = some k ∧ ∀ c, k.mem c = decide (c ∈ members) := by
    rintro rfl rfl
    refine ⟨k, hk, fun c => ?_⟩
    rw [Bool.eq_iff_iff, decide_eq_true_eq, mem_iff_toNat_mem, hm]
  unfold posixClass at h
  simp only [toList_lit rfl] at h
  revert h
  refine
    posixClass_line (line .alnum ?_) <|
    posixClass_line (line .alpha ?_) <|
    posixClass_line (line .blank ?_) <|
    posixClass_line (line .cntrl ?_) <|
    posixClass_line (line .digit ?_) <|
    posixClass_line (line .graph ?_) <|
    posixClass_line (line .lower ?_) <|
    posixClass_line (line .print ?_) <|
    posixClass_line (line .punct ?_) <|
    posixClass_line (line .space ?_) <|
    posixClass_line (line .upper ?_) <|
    posixClass_line (line .xdigit ?_) <|
    nofun
  -- with the code points above, both sides are linear arithmetic on `c.toNat`
  all_goals
    intro c
    simp only [posixAlnum, posixAlpha, posixGraph, posixPrint, List.map_append, List.mem_append, codes_upper,
      codes_lower, codes_digit, codes_space, codes_blank, codes_cntrl, codes_punct, codes_xdigit, List.mem_range'_1,
      List.map_cons, List.map_nil, Char.reduceToNat, List.mem_cons, List.not_mem_nil, or_false, AsciiKind.mem, inR,
      Bool.or_eq_true, Bool.and_eq_true, decide_eq_true_eq, beq_iff_eq]
  all_goals omega

end Proofs

end YashModel.Fnmatch
