/-
  C04 — the words of the property theorems that belong neither to the model nor to the Spec.  Definitions only.
  (The direct compiler is Compiler.lean; the words of the table comparisons are at the head of TableLemmas.lean and in
  DecisionLemmas.lean.)
-/
import YashModel.Fnmatch.Spec

namespace YashModel.Fnmatch

/-- where `find` starts: index 1 when `literal_period` rejects an initial dot (regex path only — the literal fast
    path of lib.rs does not look at `literal_period`), else 0 -/
def searchStart (ast : Ast) (cfg : Config) (s : List Char) : Nat :=
  if (toLiteral ast).isSome then 0 else Pattern.at0 cfg (startsWithLiteralDot ast) s

/-- what `trim_value` does with the range it gets -/
def cut (v : List Char) : Option (Nat × Nat) → List Char
  | some (a, b) => v.take a ++ v.drop b
  | none => v

/-- remove the suffix that starts at the given index, if any -/
def takeAt (v : List Char) : Option Nat → List Char
  | some k => v.take k
  | none => v

/-- the range `find`/`rfind` must return for each trim form: prefix `0..k` with `k` the least (`#`) / greatest
    (`##`) matching prefix length; suffix `a..len` with `a` the greatest (`%`) / least (`%%`) matching start -/
def specRange (side : TrimSide) (len : TrimLength) (ast : Ast) (v : List Char) : Option (Nat × Nat) :=
  match side, len with
  | .prefix, .shortest => (leastUpTo (fun k => globMatch ast (v.take k)) v.length).map (fun k => (0, k))
  | .prefix, .longest => (greatestUpTo (fun k => globMatch ast (v.take k)) v.length).map (fun k => (0, k))
  | .suffix, .shortest => (greatestUpTo (fun k => globMatch ast (v.drop k)) v.length).map (fun a => (a, v.length))
  | .suffix, .longest => (leastUpTo (fun k => globMatch ast (v.drop k)) v.length).map (fun a => (a, v.length))

/-- the search `trim_value` runs: `rfind` for `%`, `find` otherwise -/
def trimSearch (p : Pattern) (v : List Char) : Option (Nat × Nat) :=
  if p.config.anchorEnd && p.config.shortest then p.rfind v else p.find v

/-- does the pattern compile under the `case` configuration? -/
def compilesB (p : List PatternChar) : Bool :=
  match Pattern.parse p caseConfig with
  | .ok _ => true
  | .error _ => false

/-- the alternatives `matches` gets to before the first one whose expansion fails -/
def reachedAlts : List (Option (List PatternChar)) → List (List PatternChar)
  | [] => []
  | none :: _ => []
  | some p :: r => p :: reachedAlts r

/-- the three inner elements of a bracket expression: delimiter ↦ what `[d … d]` is -/
def innerKind (d : Char) (v : List Char) : Option BracketAtom :=
  if d = '.' then some (.collating v) else if d = '=' then some (.equiv v) else if d = ':' then some (.cls v) else none

end YashModel.Fnmatch
