/-
  C04 — the Spec's two searches, `leastUpTo` and `greatestUpTo`, meet their description (`leastUpTo_spec`,
  `greatestUpTo_spec`; as rewriting rules `…_none`, `…_some`), and peel at the front (`…_front`) — the form in which a
  scan over a list (`str::find`, `str::rfind`, `find_at`) is recognised as one of them.
-/
import YashModel.Fnmatch.Spec

namespace YashModel.Fnmatch

namespace Proofs

theorem leastUpTo_spec {p : Nat → Bool} {n : Nat} :
    (leastUpTo p n = none ∧ ∀ j, j ≤ n → p j = false) ∨
    (∃ k, leastUpTo p n = some k ∧ k ≤ n ∧ p k = true ∧ ∀ j, j < k → p j = false) := by
  induction n with
  | zero =>
    simp only [leastUpTo]
    by_cases h : p 0 = true
    · exact Or.inr ⟨0, by simp [h], Nat.le_refl _, h, by intro j hj; omega⟩
    · have hf : p 0 = false := by simpa using h
      refine Or.inl ⟨by simp [hf], ?_⟩
      intro j hj
      have hj0 : j = 0 := by omega
      rw [hj0]; exact hf
  | succ n ih =>
    simp only [leastUpTo]
    rcases ih with ⟨h1, h2⟩ | ⟨k, h1, h2, h3, h4⟩
    · rw [h1]
      simp only []
      by_cases h : p (n + 1) = true
      · refine Or.inr ⟨n + 1, by simp [h], Nat.le_refl _, h, ?_⟩
        intro j hj; exact h2 j (by omega)
      · have hf : p (n + 1) = false := by simpa using h
        refine Or.inl ⟨by simp [hf], ?_⟩
        intro j hj
        by_cases hj' : j = n + 1
        · rw [hj']; exact hf
        · exact h2 j (by omega)
    · rw [h1]
      exact Or.inr ⟨k, rfl, by omega, h3, h4⟩

theorem greatestUpTo_spec {p : Nat → Bool} {n : Nat} :
    (greatestUpTo p n = none ∧ ∀ j, j ≤ n → p j = false) ∨
    (∃ k, greatestUpTo p n = some k ∧ k ≤ n ∧ p k = true ∧ ∀ j, k < j → j ≤ n → p j = false) := by
  induction n with
  | zero =>
    simp only [greatestUpTo]
    by_cases h : p 0 = true
    · exact Or.inr ⟨0, by simp [h], Nat.le_refl _, h, by intro j h1 h2; omega⟩
    · have hf : p 0 = false := by simpa using h
      refine Or.inl ⟨by simp [hf], ?_⟩
      intro j hj
      have hj0 : j = 0 := by omega
      rw [hj0]; exact hf
  | succ n ih =>
    simp only [greatestUpTo]
    by_cases h : p (n + 1) = true
    · exact Or.inr ⟨n + 1, by simp [h], Nat.le_refl _, h, by intro j h1 h2; omega⟩
    · have hf : p (n + 1) = false := by simpa using h
      simp only [hf, Bool.false_eq_true, if_false]
      rcases ih with ⟨h1, h2⟩ | ⟨k, h1, h2, h3, h4⟩
      · refine Or.inl ⟨h1, ?_⟩
        intro j hj
        by_cases hj' : j = n + 1
        · subst hj'; exact hf
        · exact h2 j (by omega)
      · refine Or.inr ⟨k, h1, by omega, h3, ?_⟩
        intro j hj1 hj2
        by_cases hj' : j = n + 1
        · subst hj'; exact hf
        · exact h4 j hj1 (by omega)

end Proofs

theorem leastUpTo_none {p : Nat → Bool} {n : Nat} (h : ∀ j, j ≤ n → p j = false) : leastUpTo p n = none := by
  rcases @Proofs.leastUpTo_spec p n with ⟨h1, -⟩ | ⟨k, -, hk, hpk, -⟩
  · exact h1
  · rw [h k hk] at hpk; cases hpk

theorem leastUpTo_some {p : Nat → Bool} {n k : Nat} (hk : p k = true) (hkn : k ≤ n)
    (hmin : ∀ j, j ≤ n → p j = true → k ≤ j) : leastUpTo p n = some k := by
  rcases @Proofs.leastUpTo_spec p n with ⟨-, h2⟩ | ⟨k', h1, hk', hpk', hlt⟩
  · rw [h2 k hkn] at hk; cases hk
  · have := hmin k' hk' hpk'
    have : ¬ k < k' := fun h => by rw [hlt k h] at hk; cases hk
    rw [h1, show k' = k by omega]

theorem greatestUpTo_none {p : Nat → Bool} {n : Nat} (h : ∀ j, j ≤ n → p j = false) :
    greatestUpTo p n = none := by
  rcases @Proofs.greatestUpTo_spec p n with ⟨h1, -⟩ | ⟨k, -, hk, hpk, -⟩
  · exact h1
  · rw [h k hk] at hpk; cases hpk

theorem greatestUpTo_some {p : Nat → Bool} {n k : Nat} (hk : p k = true) (hkn : k ≤ n)
    (hmax : ∀ j, j ≤ n → p j = true → j ≤ k) : greatestUpTo p n = some k := by
  rcases @Proofs.greatestUpTo_spec p n with ⟨-, h2⟩ | ⟨k', h1, hk', hpk', hgt⟩
  · rw [h2 k hkn] at hk; cases hk
  · have := hmax k' hk' hpk'
    have : ¬ k' < k := fun h => by rw [hgt k h hkn] at hk; cases hk
    rw [h1, show k' = k by omega]

theorem leastUpTo_front (q : Nat → Bool) (n : Nat) :
    leastUpTo q (n + 1) = if q 0 then some 0 else (leastUpTo (fun k => q (k + 1)) n).map (· + 1) := by
  induction n with
  | zero => by_cases h0 : q 0 = true <;> by_cases h1 : q 1 = true <;> simp [leastUpTo, h0, h1]
  | succ n ih =>
    rw [leastUpTo, ih]
    simp only [leastUpTo]
    by_cases h0 : q 0 = true <;> simp only [h0, if_true, if_false, Bool.false_eq_true]
    cases leastUpTo (fun k => q (k + 1)) n with
    | some k => rfl
    | none => by_cases h1 : q (n + 1 + 1) = true <;> simp [h1]

theorem greatestUpTo_front (q : Nat → Bool) (n : Nat) :
    greatestUpTo q (n + 1) =
      match greatestUpTo (fun k => q (k + 1)) n with
      | some k => some (k + 1)
      | none => if q 0 then some 0 else none := by
  induction n with
  | zero => by_cases h0 : q 0 = true <;> by_cases h1 : q 1 = true <;> simp [greatestUpTo, h0, h1]
  | succ n ih =>
    rw [greatestUpTo, ih]
    simp only [greatestUpTo]
    by_cases h1 : q (n + 1 + 1) = true <;> simp [h1]

end YashModel.Fnmatch
