/-
  C04 — the printer/parser round trip inside a bracket expression: the escaping tables against the regex crate's meta
  characters; a bracket without multi-character elements is written as a regex class that parses back to `cItems`, one
  with them as a non-capturing alternation that parses back to `cAlts`.  Every statement covers the failing case: where
  the compiler says `none` (an inverted range) the regex parser fails.
-/
import YashModel.Fnmatch.Compiler
import YashModel.Common.Fuel

namespace YashModel.Fnmatch
open YashModel.Generated.FnmatchTables

theorem reMeta_sub_special : ∀ c ∈ reMeta, c ∈ specialChars := by decide

theorem classMeta_sub_special : ∀ c ∈ classMeta, c ∈ bracketSpecialChars ∨ c ∈ specialChars := by decide

theorem special_sub_escapable : ∀ c ∈ specialChars, c ∈ escapable := by decide

theorem bracketSpecial_sub_escapable : ∀ c ∈ bracketSpecialChars, c ∈ escapable := by decide

theorem not_special_not_meta {c : Char} (h : c ∉ specialChars) : c ∉ reMeta :=
  fun hm => h (reMeta_sub_special c hm)

theorem bs_mem : '\\' ∈ reMeta := by decide

theorem dot_mem : '.' ∈ reMeta := by decide

theorem lb_mem : '[' ∈ reMeta := by decide

theorem lp_mem : '(' ∈ reMeta := by decide

theorem star_mem : '*' ∈ reMeta := by decide

theorem rb_mem : ']' ∈ reMeta := by decide

theorem bar_mem : '|' ∈ reMeta := by decide

theorem rp_mem : ')' ∈ reMeta := by decide

theorem caret_mem : '^' ∈ reMeta := by decide

theorem cm_bs : '\\' ∈ classMeta := by decide

theorem cm_lb : '[' ∈ classMeta := by decide

theorem cm_rb : ']' ∈ classMeta := by decide

theorem cm_caret : '^' ∈ classMeta := by decide

theorem cm_dash : '-' ∈ classMeta := by decide

theorem ne_of_not_mem {l : List Char} {c d : Char} (h : c ∉ l) (hd : d ∈ l) : c ≠ d :=
  fun e => h (e ▸ hd)

/-- how a character is written inside a bracket: escaped, and then the regex crate accepts the escape; or raw, and
    then it has no meaning of its own, inside a class or outside -/
theorem fmtRegexChar_cases (c : Char) :
    (fmtRegexChar c = ['\\', c] ∧ c ∈ escapable) ∨ (fmtRegexChar c = [c] ∧ c ∉ classMeta ∧ c ∉ reMeta) := by
  unfold fmtRegexChar
  split
  · rename_i h
    exact .inl ⟨rfl, h.elim (bracketSpecial_sub_escapable c) (special_sub_escapable c)⟩
  · rename_i h
    exact .inr ⟨rfl, fun hm => h (classMeta_sub_special c hm), not_special_not_meta fun x => h (Or.inr x)⟩

/-- the same outside a bracket -/
theorem fmtTopChar_cases (c : Char) :
    (fmtTopChar c = ['\\', c] ∧ c ∈ escapable) ∨ (fmtTopChar c = [c] ∧ c ∉ reMeta) := by
  unfold fmtTopChar
  split
  · rename_i h; exact .inl ⟨rfl, special_sub_escapable c h⟩
  · rename_i h; exact .inr ⟨rfl, not_special_not_meta h⟩

/-- the first character of an emitted bracket item: never a raw `-`, `^`, `]` -/
def GoodHead (l : List Char) : Prop := ∃ c t, l = c :: t ∧ c ≠ '-' ∧ c ≠ '^' ∧ c ≠ ']'

theorem goodHead_fmtRegexChar (c : Char) (r : List Char) : GoodHead (fmtRegexChar c ++ r) := by
  rcases fmtRegexChar_cases c with ⟨e, _⟩ | ⟨e, hm, _⟩ <;> rw [e]
  · exact ⟨'\\', c :: r, rfl, by decide, by decide, by decide⟩
  · exact ⟨c, r, rfl, ne_of_not_mem hm cm_dash, ne_of_not_mem hm cm_caret, ne_of_not_mem hm cm_rb⟩

theorem fmtRegexChar_length_pos (c : Char) : 0 < (fmtRegexChar c).length := by
  rcases fmtRegexChar_cases c with ⟨e, _⟩ | ⟨e, _⟩ <;> rw [e] <;> simp

theorem classTok_char (c : Char) (r : List Char) : classTok (fmtRegexChar c ++ r) = some (.chr c, r) := by
  rcases fmtRegexChar_cases c with ⟨e, he⟩ | ⟨e, hm, _⟩ <;> rw [e]
  · simp [classTok, he]
  · simp [classTok, ne_of_not_mem hm cm_bs, ne_of_not_mem hm cm_lb, hm]

theorem parseAsciiName_name (k : AsciiKind) (r : List Char) :
    parseAsciiName (k.name ++ ':' :: ']' :: r) = some (k, r) := by
  cases k <;> rfl

theorem asciiKind_name {name : List Char} {k : AsciiKind} (h : asciiKind name = some k) : k.name = name := by
  unfold asciiKind at h
  have := List.find?_some h
  simpa using this

theorem classTok_class {name : List Char} {k : AsciiKind} (h : asciiKind name = some k) (r : List Char) :
    classTok ('[' :: ':' :: name ++ [':', ']'] ++ r) = some (.kind k, r) := by
  have hn := asciiKind_name h
  subst hn
  have := parseAsciiName_name k r
  simp [classTok, List.append_assoc, this]

theorem parseTop_char (c : Char) (r : List Char) (fuel : Nat) :
    parseTop (fuel + 1) (fmtTopChar c ++ r) = (parseTop fuel r).map (.one (.lit c) :: ·) := by
  rcases fmtTopChar_cases c with ⟨e, he⟩ | ⟨e, hm⟩ <;> rw [e]
  · simp [parseTop, he]
  · simp [parseTop, ne_of_not_mem hm bs_mem, ne_of_not_mem hm dot_mem, ne_of_not_mem hm lb_mem,
      ne_of_not_mem hm lp_mem, hm]

/-- the four kinds of a bracket atom, with what every function of model, Spec and compiler makes of each: a single
    character (`c`, `[.c.]`, `[=c=]`), a multi-character element, an empty symbol, a class.  (The model treats
    collating symbols and equivalence classes alike everywhere; this is the one place that says so.) -/
theorem atom_forms (a : BracketAtom) :
    (∃ c, a.fmt = .ok (fmtRegexChar c) ∧ a.fmtSingle = .ok (fmtRegexChar c) ∧ a.multi = false ∧
      atomBound a = some c ∧ atomDefined a = true ∧ cAtom1 a = some (.single c) ∧ itemSeq (.atom a) = none ∧
      ∀ d, atomHas a d = (d == c)) ∨
    (∃ c v, v ≠ [] ∧ a.fmt = .ok ((c :: v).flatMap fmtRegexChar) ∧ a.fmtSingle = .ok (fmtRegexChar c) ∧
      a.multi = true ∧ atomBound a = some c ∧ atomDefined a = true ∧ cAtom1 a = none ∧
      itemSeq (.atom a) = some (c :: v) ∧ cAlt (.atom a) = some ((c :: v).map .lit) ∧ ∀ d, atomHas a d = false) ∨
    (a.fmt = .error .emptyCollating ∧ a.fmtSingle = .error .emptyCollating ∧ a.multi = false ∧
      atomBound a = none ∧ atomDefined a = false ∧ cAtom1 a = none ∧ itemSeq (.atom a) = none) ∨
    (∃ name, a = .cls name) := by
  cases a with
  | char c => exact .inl ⟨c, rfl, rfl, rfl, rfl, rfl, rfl, rfl, fun _ => rfl⟩
  | cls name => exact .inr (.inr (.inr ⟨name, rfl⟩))
  | collating v | equiv v =>
    match v with
    | [] => exact .inr (.inr (.inl ⟨rfl, rfl, rfl, rfl, rfl, rfl, rfl⟩))
    | [c] => exact .inl ⟨c, by simp [BracketAtom.fmt], rfl, rfl, rfl, rfl, rfl, rfl,
        fun d => by simp [atomHas]; exact BEq.comm⟩
    | c :: d :: t => exact .inr (.inl ⟨c, d :: t, by simp, by simp [BracketAtom.fmt], rfl,
        by simp [BracketAtom.multi], rfl, rfl, rfl, by simp [itemSeq],
        by simp [cAlt, BracketItem.multi, BracketAtom.multi], fun d' => by simp [atomHas]⟩)

theorem multi_item {it : BracketItem} (h : it.multi = true) :
    ∃ w, 1 < w.length ∧ itemSeq it = some w ∧ it.fmt = .ok (w.flatMap fmtRegexChar) ∧
      cAlt it = some (w.map .lit) ∧ itemDefined it = true ∧ ∀ d, itemHas it d = false := by
  cases it with
  | range s e => cases h
  | atom a =>
    rcases atom_forms a with ⟨_, _, _, hm, _⟩ | ⟨c, v, hv, hf, _, _, _, hd, _, hs, ha, hh⟩ | ⟨_, _, hm, _⟩ | ⟨n, rfl⟩
    · rw [show a.multi = true from h] at hm; cases hm
    · exact ⟨c :: v, by cases v with | nil => exact absurd rfl hv | cons _ _ => simp, hs, hf, ha, hd, hh⟩
    · rw [show a.multi = true from h] at hm; cases hm
    · cases h

/-- two steps of a translation that stops at the first error, when the whole succeeds -/
theorem seq_ok {r1 r2 : Except Err (List Char)} {f : List Char → List Char → List Char} {x : List Char} :
    (match r1 with
      | .error e => .error e
      | .ok a => match r2 with
        | .error e => .error e
        | .ok b => .ok (f a b)) = Except.ok x → ∃ a b, r1 = .ok a ∧ r2 = .ok b ∧ x = f a b := by
  intro h
  cases r1 with
  | error e => cases h
  | ok a =>
    cases r2 with
    | error e => cases h
    | ok b => exact ⟨a, b, rfl, rfl, (Except.ok.inj h).symm⟩

theorem single_of_not_multi {v : List Char} (hne : v ≠ []) (h : ¬ 1 < v.length) : ∃ c, v = [c] := by
  match v with
  | [] => exact absurd rfl hne
  | [c] => exact ⟨c, rfl⟩
  | a :: b :: t => simp at h

theorem fmtSingle_ok {a : BracketAtom} {x : List Char} (h : a.fmtSingle = .ok x) :
    ∃ c, atomBound a = some c ∧ x = fmtRegexChar c := by
  rcases atom_forms a with ⟨c, _, hs, _, hb, _⟩ | ⟨c, _, _, _, hs, _, hb, _⟩ | ⟨_, hs, _⟩ | ⟨n, rfl⟩
  · rw [hs] at h; exact ⟨c, hb, (Except.ok.inj h).symm⟩
  · rw [hs] at h; exact ⟨c, hb, (Except.ok.inj h).symm⟩
  · rw [hs] at h; cases h
  · cases h

theorem classItems_close (fuel : Nat) (acc : List ClassItem) (r : List Char) :
    classItems (fuel + 1) acc (']' :: r) = if acc = [] then none else some (acc.reverse, r) := by
  simp [classItems]

theorem classItems_step_kind (fuel : Nat) (acc : List ClassItem) (s r : List Char) (k : AsciiKind)
    (h : GoodHead s) (ht : classTok s = some (.kind k, r)) :
    classItems (fuel + 1) acc s = classItems fuel (.ascii k :: acc) r := by
  obtain ⟨c, t, rfl, _, _, hne⟩ := h
  simp [classItems, hne, ht]

theorem classItems_step_single (fuel : Nat) (acc : List ClassItem) (s r : List Char) (a : Char)
    (h : GoodHead s) (ht : classTok s = some (.chr a, r)) (hr : r.head? ≠ some '-') :
    classItems (fuel + 1) acc s = classItems fuel (.single a :: acc) r := by
  obtain ⟨c, t, rfl, _, _, hne⟩ := h
  simp [classItems, hne, ht, hr]

theorem classItems_step_range (fuel : Nat) (acc : List ClassItem) (s r' r'' : List Char) (a b : Char)
    (h : GoodHead s) (ht : classTok s = some (.chr a, '-' :: r')) (ht2 : classTok r' = some (.chr b, r'')) :
    classItems (fuel + 1) acc s =
      if a.toNat ≤ b.toNat then classItems fuel (.range a b :: acc) r'' else none := by
  obtain ⟨c, t, rfl, _, _, hne⟩ := h
  simp [classItems, hne, ht, ht2]

/-- what a non-multi item contributes; no raw `-` may follow, since `classItems` looks one character ahead for a
    range -/
theorem item_emit {it : BracketItem} {x : List Char} (hm : it.multi = false) (hf : it.fmt = .ok x) :
    (∀ r, GoodHead (x ++ r)) ∧
    (∀ acc r fuel, r.head? ≠ some '-' →
      classItems (fuel + 1) acc (x ++ r) =
        match cItem it with
        | some ci => classItems fuel (ci :: acc) r
        | none => none) := by
  cases it with
  | atom a =>
    rcases atom_forms a with ⟨c, hfa, _, _, _, _, hc, _⟩ | ⟨_, _, _, _, _, hma, _⟩ | ⟨hfa, _⟩ | ⟨name, rfl⟩
    · -- a single character, however it is written
      rw [show (BracketItem.atom a).fmt = a.fmt from rfl, hfa] at hf
      obtain rfl := (Except.ok.inj hf).symm
      refine ⟨goodHead_fmtRegexChar c, ?_⟩
      intro acc r fuel hr
      rw [classItems_step_single _ _ _ _ _ (goodHead_fmtRegexChar c r) (classTok_char c r) hr,
        show cItem (.atom a) = cAtom1 a from rfl, hc]
    · rw [show (BracketItem.atom a).multi = a.multi from rfl, hma] at hm; cases hm
    · rw [show (BracketItem.atom a).fmt = a.fmt from rfl, hfa] at hf; cases hf
    · simp only [BracketItem.fmt, BracketAtom.fmt] at hf
      split at hf
      · rename_i hk
        simp at hf
        subst hf
        obtain ⟨k, hk'⟩ := Option.isSome_iff_exists.mp hk
        have hg : ∀ r, GoodHead (('[' :: ':' :: name ++ [':', ']']) ++ r) :=
          fun r => ⟨'[', _, rfl, by decide, by decide, by decide⟩
        refine ⟨hg, ?_⟩
        intro acc r fuel hr
        have e : ('[' :: ':' :: (name ++ [':', ']'])) ++ r = ('[' :: ':' :: name ++ [':', ']']) ++ r := by simp
        rw [e, classItems_step_kind _ _ _ _ _ (hg r) (classTok_class hk' r)]
        simp [cItem, cAtom1, hk']
      · simp at hf
  | range s e =>
    obtain ⟨a, b, ha, hb, rfl⟩ := seq_ok (f := fun a b => a ++ '-' :: b) hf
    obtain ⟨lo, hlo, rfl⟩ := fmtSingle_ok ha
    obtain ⟨hi, hhi, rfl⟩ := fmtSingle_ok hb
    refine ⟨fun r => by rw [List.append_assoc]; exact goodHead_fmtRegexChar lo _, ?_⟩
    intro acc r fuel hr
    have e1 : (fmtRegexChar lo ++ '-' :: fmtRegexChar hi) ++ r
        = fmtRegexChar lo ++ ('-' :: (fmtRegexChar hi ++ r)) := by simp
    rw [e1, classItems_step_range _ _ _ _ _ _ _ (goodHead_fmtRegexChar lo _)
      (classTok_char lo _) (classTok_char hi r)]
    by_cases hle : lo.toNat ≤ hi.toNat <;> simp [cItem, hlo, hhi, hle]

theorem fmtItems_cons_ok {it : BracketItem} {r : List BracketItem} {x : List Char}
    (h : fmtItems (it :: r) = .ok x) : ∃ a b, it.fmt = .ok a ∧ fmtItems r = .ok b ∧ x = a ++ b :=
  seq_ok (f := fun a b => a ++ b) h

theorem fmtItems_head {items : List BracketItem} {x : List Char}
    (hm : ∀ it ∈ items, it.multi = false) (hf : fmtItems items = .ok x) (r : List Char) :
    (x ++ ']' :: r).head? ≠ some '-' ∧ (x ++ ']' :: r).head? ≠ some '^' := by
  cases items with
  | nil => simp [fmtItems] at hf; subst hf; simp
  | cons it rest =>
    obtain ⟨a, b, ha, hb, rfl⟩ := fmtItems_cons_ok hf
    have hg := (item_emit (hm it (by simp)) ha).1 (b ++ ']' :: r)
    obtain ⟨c, t, hc, h1, h2, _⟩ := hg
    rw [List.append_assoc, hc]
    simp [h1, h2]

/-- `classItems` spends one unit of fuel per item and one on the `]`, hence `items.length < fuel`; it refuses a `]` with
    nothing read, hence the test `acc.reverse ++ ci = []` -/
theorem classItems_emit (items : List BracketItem) :
    ∀ (x : List Char), (∀ it ∈ items, it.multi = false) → fmtItems items = .ok x →
    ∀ (acc : List ClassItem) (r : List Char) (fuel : Nat), items.length < fuel →
      classItems fuel acc (x ++ ']' :: r) =
        match cItems items with
        | some ci => if acc.reverse ++ ci = [] then none else some (acc.reverse ++ ci, r)
        | none => none := by
  induction items with
  | nil =>
    intro x _ hf acc r fuel hfuel
    simp [fmtItems] at hf
    subst hf
    obtain ⟨f, rfl⟩ := Common.exists_succ_of_le hfuel
    simp [classItems_close, cItems]
  | cons it rest ih =>
    intro x hm hf acc r fuel hfuel
    obtain ⟨a, b, ha, hb, rfl⟩ := fmtItems_cons_ok hf
    obtain ⟨f, rfl⟩ := Common.exists_succ_of_le hfuel
    have hm' : ∀ it ∈ rest, it.multi = false := fun i hi => hm i (by simp [hi])
    have hh := (fmtItems_head hm' hb r).1
    rw [List.append_assoc, (item_emit (hm it (by simp)) ha).2 acc _ f hh]
    cases hci : cItem it with
    | none => simp [cItems, hci]
    | some ci =>
      simp only []
      rw [ih b hm' hb (ci :: acc) r f (by simp at hfuel; omega)]
      cases hcr : cItems rest with
      | none => simp [cItems, hci, hcr]
      | some cr => simp [cItems, hci, hcr]

theorem cItems_ne_nil {items : List BracketItem} {ci : List ClassItem} (hne : items ≠ [])
    (h : cItems items = some ci) : ci ≠ [] := by
  cases items with
  | nil => exact absurd rfl hne
  | cons it rest =>
    simp only [cItems] at h
    split at h
    · simp at h; subst h; simp
    · simp at h

theorem parseClass_emit (compl : Bool) (items : List BracketItem) (x : List Char)
    (hm : ∀ it ∈ items, it.multi = false) (hf : fmtItems items = .ok x) (hne : items ≠ [])
    (r : List Char) (fuel : Nat) (hfuel : items.length < fuel) :
    parseClass fuel ((if compl then ['^'] else []) ++ x ++ ']' :: r) =
      (cItems items).map (fun ci => ({ neg := compl, items := ci }, r)) := by
  have hci := classItems_emit items x hm hf [] r fuel hfuel
  cases compl with
  | true =>
    have e : ((if true = true then ['^'] else []) ++ x ++ ']' :: r) = '^' :: (x ++ ']' :: r) := by simp
    rw [e]
    unfold parseClass
    rw [if_pos (by simp)]
    simp only [List.tail_cons]
    rw [hci]
    cases hc : cItems items with
    | none => simp
    | some ci => simp [cItems_ne_nil hne hc]
  | false =>
    have hh := (fmtItems_head hm hf r).2
    have e : ((if false = true then ['^'] else []) ++ x ++ ']' :: r) = x ++ ']' :: r := by simp
    rw [e]
    unfold parseClass
    rw [if_neg hh, hci]
    cases hc : cItems items with
    | none => simp
    | some ci => simp [cItems_ne_nil hne hc]

theorem parseBranch_delim (fuel : Nat) (acc : List Simple) (d : Char) (r : List Char)
    (hd : d = '|' ∨ d = ')') : parseBranch (fuel + 1) acc (d :: r) = some (acc.reverse, d :: r) := by
  simp [parseBranch, hd]

theorem parseBranch_char (fuel : Nat) (acc : List Simple) (c : Char) (r : List Char) :
    parseBranch (fuel + 1) acc (fmtRegexChar c ++ r) = parseBranch fuel (.lit c :: acc) r := by
  rcases fmtRegexChar_cases c with ⟨e, he⟩ | ⟨e, _, hm⟩ <;> rw [e]
  · simp [parseBranch, he]
  · simp [parseBranch, ne_of_not_mem hm bs_mem, ne_of_not_mem hm lb_mem, ne_of_not_mem hm bar_mem,
      ne_of_not_mem hm rp_mem, hm]

theorem parseBranch_lits (v : List Char) :
    ∀ (acc : List Simple) (d : Char) (r : List Char) (fuel : Nat), (d = '|' ∨ d = ')') → v.length < fuel →
      parseBranch fuel acc (v.flatMap fmtRegexChar ++ d :: r) = some (acc.reverse ++ v.map .lit, d :: r) := by
  induction v with
  | nil =>
    intro acc d r fuel hd hf
    obtain ⟨f, rfl⟩ := Common.exists_succ_of_le hf
    simp [parseBranch_delim _ _ _ _ hd]
  | cons c t ih =>
    intro acc d r fuel hd hf
    obtain ⟨f, rfl⟩ := Common.exists_succ_of_le hf
    simp only [List.flatMap_cons, List.append_assoc]
    rw [parseBranch_char, ih (.lit c :: acc) d r f hd (by simp at hf; omega)]
    simp

theorem flatMap_fmt_length (v : List Char) : v.length ≤ (v.flatMap fmtRegexChar).length :=
  Common.length_le_text List.length (·.flatMap fmtRegexChar)
    (fun c t => by have := fmtRegexChar_length_pos c; simp only [List.flatMap_cons, List.length_append]; omega) v

theorem cItems_single (it : BracketItem) : cItems [it] = (cItem it).map ([·]) := by
  simp only [cItems]
  cases cItem it <;> simp

theorem branch_emit {it : BracketItem} {x : List Char} (h : fmtAltItem it = .ok x) (d : Char)
    (r : List Char) (hd : d = '|' ∨ d = ')') (fuel : Nat) (hf : (x ++ d :: r).length < fuel) :
    parseBranch fuel [] (x ++ d :: r) = (cAlt it).map (fun b => (b, d :: r)) := by
  unfold fmtAltItem at h
  split at h
  · rename_i hm
    obtain ⟨w, _, _, hfw, haw, _⟩ := multi_item hm
    rw [hfw] at h
    obtain rfl := (Except.ok.inj h).symm
    have hl : w.length < fuel := by
      have := flatMap_fmt_length w
      rw [List.length_append] at hf; omega
    rw [parseBranch_lits w [] d r fuel hd hl, haw]
    rfl
  · rename_i hm
    have hm' : it.multi = false := by simpa using hm
    split at h
    · simp at h
    · rename_i a ha
      simp at h
      subst h
      have hmi : ∀ i ∈ [it], i.multi = false := by simp [hm']
      have e : ('[' :: (a ++ [']'])) ++ d :: r = '[' :: (a ++ ']' :: (d :: r)) := by simp
      obtain ⟨f, rfl⟩ := Common.exists_succ_of_le hf
      obtain ⟨c0, t0, hc0, _⟩ := (item_emit hm' ha).1 []
      have hapos : 0 < a.length := by
        have := congrArg List.length hc0; simp at this; omega
      have hf1 : [it].length < f := by
        rw [e] at hf; simp at hf ⊢; omega
      have hpc := parseClass_emit false [it] a hmi (by simp [fmtItems, ha]) (by simp) (d :: r) f hf1
      simp only [Bool.false_eq_true, if_false, List.nil_append] at hpc
      rw [e]
      simp only [parseBranch]
      simp only [show ('[' : Char) ≠ '|' by decide, show ('[' : Char) ≠ ')' by decide,
        show ('[' : Char) ≠ '\\' by decide, or_self, if_false, if_true]
      rw [hpc, cItems_single]
      obtain ⟨f', rfl⟩ := Common.exists_succ_of_le hf1
      cases hci : cItem it with
      | none => simp [cAlt, hm', hci]
      | some ci => simp [cAlt, hm', hci, parseBranch_delim _ _ _ _ hd]

theorem fmtAltItems_cons_ok {it it2 : BracketItem} {r : List BracketItem} {x : List Char}
    (h : fmtAltItems (it :: it2 :: r) = .ok x) :
    ∃ a b, fmtAltItem it = .ok a ∧ fmtAltItems (it2 :: r) = .ok b ∧ x = a ++ '|' :: b :=
  seq_ok (f := fun a b => a ++ '|' :: b) h

theorem parseBranches_step (fuel : Nat) (acc : List (List Simple)) (s : List Char) (b : List Simple)
    (d : Char) (r : List Char) (h : parseBranch (fuel + 1) [] s = some (b, d :: r)) :
    parseBranches (fuel + 1) acc s =
      if d = ')' then some ((b :: acc).reverse, r) else parseBranches fuel (b :: acc) r := by
  simp [parseBranches, h]

theorem parseBranches_emit_acc (items : List BracketItem) :
    items ≠ [] → ∀ (a : List Char), fmtAltItems items = .ok a →
    ∀ (acc : List (List Simple)) (r : List Char) (fuel : Nat), (a ++ ')' :: r).length < fuel →
      parseBranches fuel acc (a ++ ')' :: r) = (cAlts items).map (fun bs => (acc.reverse ++ bs, r)) := by
  induction items with
  | nil => intro h; exact absurd rfl h
  | cons it rest ih =>
    intro _ a ha acc r fuel hf
    obtain ⟨f, rfl⟩ := Common.exists_succ_of_le hf
    cases rest with
    | nil =>
      simp only [fmtAltItems] at ha
      have hb := branch_emit ha ')' r (Or.inr rfl) (f + 1) hf
      cases hca : cAlt it with
      | none =>
        rw [hca] at hb
        simp only [Option.map_none] at hb
        simp [parseBranches, hb, cAlts, hca]
      | some b =>
        rw [hca] at hb
        simp only [Option.map_some] at hb
        rw [parseBranches_step _ _ _ _ _ _ hb]
        simp [cAlts, hca]
    | cons it2 rest2 =>
      obtain ⟨x, y, hx, hy, rfl⟩ := fmtAltItems_cons_ok ha
      have e : (x ++ '|' :: y) ++ ')' :: r = x ++ '|' :: (y ++ ')' :: r) := by simp
      rw [e] at hf ⊢
      have hb := branch_emit hx '|' (y ++ ')' :: r) (Or.inl rfl) (f + 1) hf
      cases hca : cAlt it with
      | none =>
        rw [hca] at hb
        simp only [Option.map_none] at hb
        simp [parseBranches, hb, cAlts, hca]
      | some b =>
        rw [hca] at hb
        simp only [Option.map_some] at hb
        rw [parseBranches_step _ _ _ _ _ _ hb]
        simp only [show ('|' : Char) ≠ ')' by decide, if_false]
        rw [ih (by simp) y hy (b :: acc) r f (by simp at hf ⊢; omega)]
        rw [cAlts_cons it (it2 :: rest2), hca]
        cases hcr : cAlts (it2 :: rest2) with
        | none => simp
        | some bs => simp

theorem parseBranches_emit (items : List BracketItem) (hne : items ≠ []) (a : List Char)
    (ha : fmtAltItems items = .ok a) (r : List Char) (fuel : Nat) (hf : (a ++ ')' :: r).length < fuel) :
    parseBranches fuel [] (a ++ ')' :: r) = (cAlts items).map (fun bs => (bs, r)) := by
  have := parseBranches_emit_acc items hne a ha [] r fuel hf
  simpa using this

end YashModel.Fnmatch
