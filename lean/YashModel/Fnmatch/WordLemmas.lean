/-
  C04 — pattern words.  `to_pattern_chars ∘ apply_escapes` on attributed characters = quote removal + XCU 2.13.1
  (`toPatternChars_applyEscapes`; `shell_word_chars` is the instance `"$q"$p`); quote removal on what `expand` yields
  for a word = the Spec's marked characters (`attrMarks_wordAttrs`, mutual induction over the four syntactic
  categories); the index loop of `apply_escapes` as written in Rust is the recursion (`applyEscapesIdx_eq`).
  `pMarks`, `setTrue` are words of this file's statements only.
-/
import YashModel.Fnmatch.WordSpec

namespace YashModel.Fnmatch

/-- quote removal on the full attributed characters -/
def pMarks (cs : List PAttrChar) : List (Char × Bool) := attrMarks (cs.map PAttrChar.reduce)

def setTrue (m : Char × Bool) : Char × Bool := (m.1, true)

theorem attrMarks_cons (a : AttrChar) (t : List AttrChar) :
    attrMarks (a :: t) = if a.isQuoting then attrMarks t else (a.value, a.isQuoted) :: attrMarks t := by
  unfold attrMarks
  cases h : a.isQuoting <;> simp [h]

theorem toPatternChars_cons (a : AttrChar) (t : List AttrChar) :
    toPatternChars (a :: t) =
      if a.isQuoting then toPatternChars t
      else (if a.isQuoted then PatternChar.literal a.value else .normal a.value) :: toPatternChars t := by
  unfold toPatternChars
  cases h1 : a.isQuoting <;> cases h2 : a.isQuoted <;> simp [h1, h2]

theorem attrMarks_nil_iff (t : List AttrChar) : attrMarks t = [] ↔ t.any (fun c => !c.isQuoting) = false := by
  induction t with
  | nil => simp [attrMarks]
  | cons a r ih =>
    rw [attrMarks_cons, List.any_cons]
    cases h : a.isQuoting <;> simp [h, ih]

/-- the recursion with its flag: with `qt` set (an escaping backslash is waiting) the first character that quote
    removal keeps is forced literal and XCU 2.13.1 goes on after it; without it, XCU 2.13.1 from the start -/
theorem toPatternChars_aux (cs : List AttrChar) : ∀ (qt : Bool),
    toPatternChars (applyEscapesAux qt cs) =
      if qt then (match attrMarks cs with
        | [] => []
        | m :: t => .literal m.1 :: escapeMarked t)
      else escapeMarked (attrMarks cs) := by
  induction cs with
  | nil => intro qt; cases qt <;> simp [applyEscapesAux, toPatternChars, attrMarks, escapeMarked]
  | cons a t ih =>
    intro qt
    have ihf := ih false
    simp only [Bool.false_eq_true, if_false] at ihf
    rw [applyEscapesAux]
    by_cases haq : a.isQuoting = true
    · simp only [haq, if_true, toPatternChars_cons, attrMarks_cons]
      exact ih qt
    · have haq : a.isQuoting = false := Bool.eq_false_iff.mpr haq
      simp only [haq, Bool.false_eq_true, if_false]
      cases qt with
      | true =>
        simp [toPatternChars_cons, attrMarks_cons, haq, ihf]
      | false =>
        simp only [Bool.false_eq_true, if_false]
        by_cases hesc : a.value = '\\' ∧ a.isQuoted = false ∧ t.any (fun c => !c.isQuoting) = true
        · obtain ⟨hv, hqd, hany⟩ := hesc
          have iht := ih true
          simp only [if_true] at iht
          have hne : attrMarks t ≠ [] := by
            intro h; rw [(attrMarks_nil_iff t).1 h] at hany; cases hany
          rw [if_pos ⟨hv, hqd, hany⟩]
          simp only [toPatternChars_cons, if_true, iht, attrMarks_cons, haq, Bool.false_eq_true, if_false]
          cases hm : attrMarks t with
          | nil => exact absurd hm hne
          | cons m r => simp [escapeMarked, hv, hqd]
        · rw [if_neg hesc]
          simp only [toPatternChars_cons, haq, attrMarks_cons, Bool.false_eq_true, if_false, ihf]
          cases hm : attrMarks t with
          | nil => simp [escapeMarked, markChar]
          | cons d r =>
            have hany : t.any (fun c => !c.isQuoting) = true := by
              cases h : t.any (fun c => !c.isQuoting) with
              | true => rfl
              | false => rw [(attrMarks_nil_iff t).2 h] at hm; cases hm
            by_cases hv : a.value = '\\'
            · by_cases hq2 : a.isQuoted = true
              · simp [escapeMarked, markChar, hq2]
              · have hq2 : a.isQuoted = false := Bool.eq_false_iff.mpr hq2
                exact absurd ⟨hv, hq2, hany⟩ hesc
            · simp [escapeMarked, markChar, hv]

theorem toPatternChars_applyEscapes (cs : List AttrChar) :
    toPatternChars (applyEscapes cs) = escapeMarked (attrMarks cs) := by
  have := toPatternChars_aux cs false
  simpa [applyEscapes] using this

theorem attrMarks_append (a b : List AttrChar) : attrMarks (a ++ b) = attrMarks a ++ attrMarks b := by
  simp [attrMarks]

theorem escapeMarked_unquoted : ∀ p : List Char, escapeMarked (p.map fun c => (c, false)) = escapeChars p
  | [] => rfl
  | [c] => by simp [escapeMarked, escapeChars, markChar]
  | c :: d :: t => by
    have ih1 := escapeMarked_unquoted t
    have ih2 := escapeMarked_unquoted (d :: t)
    by_cases hc : c = '\\'
    · simp [escapeMarked, escapeChars, hc, ih1]
    · simp only [List.map_cons] at ih2 ⊢
      rw [escapeMarked]
      simp [escapeChars, hc, markChar, ih2]

/-- a stretch without an unquoted backslash passes through XCU 2.13.1 character by character, whatever follows -/
theorem escapeMarked_append_no_raw (ms tail : List (Char × Bool)) (h : ms.all (fun m => !rawBackslash m) = true) :
    escapeMarked (ms ++ tail) = ms.map markChar ++ escapeMarked tail := by
  induction ms with
  | nil => rfl
  | cons m t ih =>
    simp only [List.all_cons, Bool.and_eq_true] at h
    have hm : ¬ (m.1 = '\\' ∧ m.2 = false) := by
      intro hh; have := h.1; simp [rawBackslash, hh.1, hh.2] at this
    cases ht : t ++ tail with
    | nil =>
      obtain ⟨rfl, rfl⟩ : t = [] ∧ tail = [] := by simpa using ht
      rfl
    | cons d r =>
      rw [List.cons_append, ht, escapeMarked, if_neg hm, ← ht, ih h.2]
      rfl

theorem escapeMarked_quoted_prefix (q : List Char) (ms : List (Char × Bool)) :
    escapeMarked ((q.map fun c => (c, true)) ++ ms) = q.map .literal ++ escapeMarked ms := by
  rw [escapeMarked_append_no_raw _ _ (by simp [rawBackslash]), List.map_map]
  rfl

theorem escapeMarked_length_le (ms : List (Char × Bool)) : (escapeMarked ms).length ≤ ms.length := by
  induction ms using escapeMarked.induct with
  | case1 => simp [escapeMarked]
  | case2 m => simp [escapeMarked]
  | case3 m d t hc ih => rw [escapeMarked, if_pos hc]; simp only [List.length_cons]; omega
  | case4 m d t hc ih => rw [escapeMarked, if_neg hc]; simp only [List.length_cons] at ih ⊢; omega

theorem attrMarks_attrOf (b : Bool) (l : List Char) : attrMarks (l.map (attrOf b)) = l.map fun c => (c, b) := by
  induction l with
  | nil => rfl
  | cons c t ih => rw [List.map_cons, attrMarks_cons, ih]; rfl

theorem attrMarks_shellWord (q p : List Char) :
    attrMarks (shellWord q p) = (q.map fun c => (c, true)) ++ (p.map fun c => (c, false)) := by
  have hm : attrMarks [quoteMark] = [] := rfl
  simp only [shellWord, attrMarks_append, attrMarks_attrOf, hm, List.nil_append, List.append_nil]

namespace Proofs

theorem shell_word_chars (q p : List Char) :
    toPatternChars (applyEscapes (shellWord q p)) = q.map .literal ++ escapeChars p := by
  rw [toPatternChars_applyEscapes, attrMarks_shellWord, escapeMarked_quoted_prefix, escapeMarked_unquoted]

end Proofs

theorem pMarks_append (a b : List PAttrChar) : pMarks (a ++ b) = pMarks a ++ pMarks b := by
  simp [pMarks, attrMarks_append]

theorem pMarks_attribute (cs : List PAttrChar) : pMarks (cs.map pAttribute) = pMarks cs := by
  unfold pMarks
  congr 1
  simp only [List.map_map]
  apply List.map_congr_left
  intro c _
  simp only [Function.comp, pAttribute, PAttrChar.reduce]
  cases c.origin <;> rfl

theorem pMarks_setQuoted (cs : List PAttrChar) : pMarks (cs.map pSetQuoted) = (pMarks cs).map setTrue := by
  induction cs with
  | nil => rfl
  | cons c t ih =>
    simp only [pMarks, List.map_cons, attrMarks_cons] at ih ⊢
    simp only [PAttrChar.reduce, pSetQuoted]
    by_cases h : c.isQuoting = true
    · simp only [h, if_true]; exact ih
    · simp only [h, ih]; simp [setTrue]

theorem pMarks_quote (c : Char) : pMarks [pQuoteChar c] = [] := by
  simp [pMarks, attrMarks, pQuoteChar, PAttrChar.reduce]

theorem pMarks_quotedLits (s : List Char) : pMarks (s.map pQuotedLit) = s.map fun c => (c, true) := by
  rw [pMarks, List.map_map]; exact attrMarks_attrOf true s

theorem pMarks_param (v : List Char) :
    pMarks (v.map fun c => { value := c, origin := .softExpansion, isQuoted := false, isQuoting := false })
      = v.map fun c => (c, false) := by
  rw [pMarks, List.map_map]; exact attrMarks_attrOf false v

/-! Setting the mark on the reading with flag `q` gives the reading inside double quotes: at `q = false` this is what
    `double_quote` does to a phrase (`marks_quoted`), at `q = true` it says that inside double quotes every mark is set
    already (`marks_true`). -/

mutual
  theorem PTextUnit.marks_setTrue : ∀ (u : PTextUnit) (q : Bool), (u.marks q).map setTrue = u.marks true
    | .lit c, _ => by simp [PTextUnit.marks, setTrue]
    | .bs c, _ => by simp [PTextUnit.marks, setTrue]
    | .param v, _ => by simp [PTextUnit.marks, setTrue, Function.comp_def]
    | .alt w, q => by simpa [PTextUnit.marks] using PWord.marks_setTrue w q
  theorem PText.marks_setTrue : ∀ (t : PText) (q : Bool), (t.marks q).map setTrue = t.marks true
    | .nil, _ => by simp [PText.marks]
    | .cons u t, q => by simp [PText.marks, PTextUnit.marks_setTrue u q, PText.marks_setTrue t q]
  theorem PWordUnit.marks_setTrue : ∀ (u : PWordUnit) (q : Bool), (u.marks q).map setTrue = u.marks true
    | .unq u, q => by simpa [PWordUnit.marks] using PTextUnit.marks_setTrue u q
    | .sq s, _ => by simp [PWordUnit.marks, setTrue, Function.comp_def]
    | .dq t, _ => by simpa [PWordUnit.marks] using PText.marks_setTrue t true
  theorem PWord.marks_setTrue : ∀ (w : PWord) (q : Bool), (w.marks q).map setTrue = w.marks true
    | .nil, _ => by simp [PWord.marks]
    | .cons u w, q => by simp [PWord.marks, PWordUnit.marks_setTrue u q, PWord.marks_setTrue w q]
end

theorem all_true_of_map_setTrue {l : List (Char × Bool)} (h : l.map setTrue = l) : ∀ m ∈ l, m.2 = true := by
  intro m hm
  rw [← h] at hm
  obtain ⟨_, -, rfl⟩ := List.mem_map.mp hm
  rfl

theorem PTextUnit.marks_true : ∀ (u : PTextUnit), ∀ m ∈ u.marks true, m.2 = true :=
  fun u => all_true_of_map_setTrue (u.marks_setTrue true)

theorem PWordUnit.marks_true : ∀ (u : PWordUnit), ∀ m ∈ u.marks true, m.2 = true :=
  fun u => all_true_of_map_setTrue (u.marks_setTrue true)

theorem PWord.marks_true : ∀ (w : PWord), ∀ m ∈ w.marks true, m.2 = true :=
  fun w => all_true_of_map_setTrue (w.marks_setTrue true)

theorem PWordUnit.marks_quoted : ∀ (u : PWordUnit), (u.marks false).map setTrue = u.marks true :=
  fun u => u.marks_setTrue false

theorem PWord.marks_quoted : ∀ (w : PWord), (w.marks false).map setTrue = w.marks true :=
  fun w => w.marks_setTrue false

mutual
  theorem PTextUnit.expand_marks : ∀ (u : PTextUnit), pMarks u.expand = u.marks false
    | .lit c => by simp [PTextUnit.expand, PTextUnit.marks, pMarks, attrMarks, PAttrChar.reduce]
    | .bs c => by
      simp [PTextUnit.expand, PTextUnit.marks, pMarks, attrMarks, PAttrChar.reduce, pQuoteChar, pQuotedLit]
    | .param v => by
      simp only [PTextUnit.expand, PTextUnit.marks, pMarks_param]
    | .alt w => by
      simp only [PTextUnit.expand, PTextUnit.marks, pMarks_attribute]
      exact PWord.expand_marks w
  theorem PText.expand_marks : ∀ (t : PText), pMarks t.expand = t.marks false
    | .nil => by simp [PText.expand, PText.marks, pMarks, attrMarks]
    | .cons u t => by
      simp only [PText.expand, PText.marks, pMarks_append, PTextUnit.expand_marks u, PText.expand_marks t]
  theorem PWordUnit.expand_marks : ∀ (u : PWordUnit), pMarks u.expand = u.marks false
    | .unq u => by simpa [PWordUnit.expand, PWordUnit.marks] using PTextUnit.expand_marks u
    | .sq s => by
      simp only [PWordUnit.expand, PWordUnit.marks, pMarks_append, pMarks_quote, pMarks_quotedLits]
      simp
    | .dq t => by
      simp only [PWordUnit.expand, PWordUnit.marks, pMarks_append, pMarks_quote, pMarks_setQuoted,
        PText.expand_marks t, PText.marks_setTrue t false]
      simp
  theorem PWord.expand_marks : ∀ (w : PWord), pMarks w.expand = w.marks false
    | .nil => by simp [PWord.expand, PWord.marks, pMarks, attrMarks]
    | .cons u w => by
      simp only [PWord.expand, PWord.marks, pMarks_append, PWordUnit.expand_marks u, PWord.expand_marks w]
end

theorem attrMarks_wordAttrs (w : PWord) : attrMarks (wordAttrs w) = w.marks false :=
  PWord.expand_marks w

theorem noEscapedMark_of_marks (cs : List AttrChar) (h : (attrMarks cs).all (fun m => !rawBackslash m) = true) :
    noEscapedMark cs = true := by
  induction cs with
  | nil => rfl
  | cons a t ih =>
    rw [attrMarks_cons] at h
    cases t with
    | nil => rfl
    | cons b t' =>
      cases haq : a.isQuoting with
      | true =>
        rw [haq] at h; simp only [if_true] at h
        simp [noEscapedMark, haq, ih h]
      | false =>
        rw [haq] at h; simp only [Bool.false_eq_true, if_false, List.all_cons, Bool.and_eq_true] at h
        have h1 := h.1
        simp only [rawBackslash] at h1
        simp only [noEscapedMark, ih h.2, Bool.and_true]
        -- not an unquoted backslash at all, so not one before a quoting character
        rw [haq]
        cases hv : (a.value == '\\') <;> cases hq : a.isQuoted <;> simp [hv, hq] at h1 ⊢

theorem escapeMarked_no_raw (ms : List (Char × Bool)) (h : ms.all (fun m => !rawBackslash m) = true) :
    escapeMarked ms = ms.map markChar := by
  have := escapeMarked_append_no_raw ms [] h
  simpa [escapeMarked] using this

theorem markChar_quoted (ms : List (Char × Bool)) (h : ∀ m ∈ ms, m.2 = true) :
    ms.map markChar = (ms.map Prod.fst).map PatternChar.literal := by
  induction ms with
  | nil => rfl
  | cons m t ih =>
    simp only [List.map_cons, ih (fun x hx => h x (by simp [hx]))]
    simp [markChar, h m (by simp)]

theorem markFirst_length (t : List AttrChar) : (markFirst t).length = t.length := by
  induction t with
  | nil => rfl
  | cons c r ih => unfold markFirst; split <;> simp [ih]

/-- the index loop marks the next non-quoting character at once (`markFirst`) where the recursion carries a flag to
    it: this equation reconciles the two, and is what the induction below turns on -/
theorem applyEscapesAux_true (t : List AttrChar) :
    applyEscapesAux true t = applyEscapesAux false (markFirst t) := by
  induction t with
  | nil => rfl
  | cons c r ih =>
    by_cases hq : c.isQuoting = true
    · simp [applyEscapesAux, markFirst, hq, ih]
    · have hq : c.isQuoting = false := Bool.eq_false_iff.mpr hq
      simp [applyEscapesAux, markFirst, hq]

/-- the Rust loop from index `pre.length` on: the part `pre` already passed stays, the rest is the recursion -/
theorem applyEscapesIdx_loop : ∀ (n : Nat) (t : List AttrChar), t.length = n → ∀ (pre : List AttrChar),
    (List.range' pre.length t.length).foldl escStep (pre ++ t) = pre ++ applyEscapesAux false t := by
  intro n
  induction n with
  | zero =>
    intro t ht pre
    have : t = [] := List.eq_nil_of_length_eq_zero ht
    subst this; simp [applyEscapesAux]
  | succ n ih =>
    intro t ht pre
    cases t with
    | nil => simp at ht
    | cons a t' =>
    have hlen : t'.length = n := by simpa using ht
    have hr : List.range' pre.length (a :: t').length = pre.length :: List.range' (pre.length + 1) t'.length := by
      simp [List.range'_succ]
    rw [hr, List.foldl_cons]
    have ha : (pre ++ a :: t')[pre.length]? = some a := by simp
    have hd : (pre ++ a :: t').drop (pre.length + 1) = t' := by simp
    have htk : (pre ++ a :: t').take pre.length = pre := by simp
    by_cases hc : a.value = '\\' ∧ a.isQuoting = false ∧ a.isQuoted = false ∧ t'.any (fun c => !c.isQuoting) = true
    · have hs : escStep (pre ++ a :: t') pre.length = (pre ++ [{ a with isQuoting := true }]) ++ markFirst t' := by
        unfold escStep
        rw [ha]; simp only [hd, htk, if_pos hc]; simp
      have h2 := ih (markFirst t') (by rw [markFirst_length, hlen]) (pre ++ [{ a with isQuoting := true }])
      simp only [List.length_append, List.length_cons, List.length_nil, markFirst_length] at h2
      rw [hs, h2, ← applyEscapesAux_true]
      have e : applyEscapesAux false (a :: t') = { a with isQuoting := true } :: applyEscapesAux true t' := by
        rw [applyEscapesAux]
        simp only [hc.2.1, Bool.false_eq_true, if_false]
        rw [if_pos ⟨hc.1, hc.2.2.1, hc.2.2.2⟩]
      rw [e]; simp
    · have hs : escStep (pre ++ a :: t') pre.length = (pre ++ [a]) ++ t' := by
        unfold escStep
        rw [ha]; simp only [hd, htk, if_neg hc]; simp
      have h2 := ih t' hlen (pre ++ [a])
      simp only [List.length_append, List.length_cons, List.length_nil] at h2
      rw [hs, h2]
      have e : applyEscapesAux false (a :: t') = a :: applyEscapesAux false t' := by
        rw [applyEscapesAux]
        by_cases hq : a.isQuoting = true
        · simp [hq]
        · have hq : a.isQuoting = false := Bool.eq_false_iff.mpr hq
          simp only [hq, Bool.false_eq_true, if_false]
          rw [if_neg (fun h => hc ⟨h.1, hq, h.2.1, h.2.2⟩)]
      rw [e]; simp

theorem applyEscapesIdx_eq (cs : List AttrChar) : applyEscapesIdx cs = applyEscapes cs := by
  have := applyEscapesIdx_loop cs.length cs rfl []
  simpa [applyEscapesIdx, applyEscapes] using this


end YashModel.Fnmatch
