/-
  C04 — prefix and suffix removal.  The searches of the four trim forms return the Spec's ranges, as a corollary of
  the theorems about `find` / `rfind` under every configuration (`trimSearch_extremal`), hence `trim_correct`; prefix
  removal is sound for every pattern (`prefix_trim_sound`); the shell-level trims.
-/
import YashModel.Fnmatch.Search
import YashModel.Fnmatch.Compiles

namespace YashModel.Fnmatch

theorem take_length_of_append (pre ρ : List Char) : (pre ++ ρ).take pre.length = pre := List.take_left' rfl

namespace Proofs

theorem trimValue_eq (p : Pattern) (v : List Char) : trimValue p v = cut v (trimSearch p v) := by
  unfold trimValue cut trimSearch
  rfl

/-- the four trim searches from the theorems about every configuration: under `\A` the
    occurrences are the matching prefixes, all starting at 0, and `find_end_extremal` picks the end; under `\z` they
    are the matching suffixes, one per start, and `find` / `rfind` take the leftmost / rightmost start.  The
    hypothesis is needed on the prefix side only: which start is found does not depend on which alternative of a
    multi-character element is tried first, which end is found at a start does. -/
theorem trimSearch_extremal (ast : Ast) (side : TrimSide) (len : TrimLength)
    (hn : side = .suffix ∨ noMulti ast = true)
    (p : Pattern) (h : Pattern.fromAst ast (trimConfig side len) = .ok p) (v : List Char) :
    trimSearch p v = specRange side len ast v := by
  have hcfg : p.config = trimConfig side len := fromAst_config h
  have hs := searchStart_no_period ast (trimConfig side len) rfl v
  have hfl := find_leftmost ast _ p h v
  have hrr := rfind_rightmost ast _ p h v
  rw [hs] at hfl hrr
  unfold trimSearch
  rw [hcfg]
  cases side with
  | «prefix» =>
    have hn := hn.resolve_left nofun
    have hend := find_end_extremal ast hn _ p h v
    have e : specRange .prefix len ast v =
        (if (trimConfig .prefix len).shortest then leastUpTo (fun k => globMatch ast (v.take k)) v.length
         else greatestUpTo (fun k => globMatch ast (v.take k)) v.length).map (fun k => (0, k)) := by
      cases len <;> rfl
    rw [e, show ((trimConfig .prefix len).anchorEnd && (trimConfig .prefix len).shortest) = false from rfl]
    simp only [Bool.false_eq_true, if_false]
    cases hf : p.find v with
    | none =>
      rw [hf] at hfl
      have hnone : ∀ j, j ≤ v.length → globMatch ast (v.take j) = false := fun j hj =>
        Bool.eq_false_iff.mpr fun hg => hfl 0 j (Nat.zero_le _) ((occurs_prefix ast v 0 j).mpr ⟨rfl, hj, hg⟩)
      rw [leastUpTo_none hnone, greatestUpTo_none hnone]; simp
    | some ae =>
      obtain ⟨a, e⟩ := ae
      rw [hf] at hfl
      obtain ⟨rfl, he, hg⟩ := (occurs_prefix ast v a e).mp hfl.2.1
      have hext := fun j hj hgj => hend 0 e hf j ((occurs_prefix ast v 0 j).mpr ⟨rfl, hj, hgj⟩)
      cases hsh : (trimConfig .prefix len).shortest with
      | true =>
        simp only [hsh, if_true] at hext ⊢
        rw [leastUpTo_some hg he hext]; rfl
      | false =>
        simp only [hsh, Bool.false_eq_true, if_false] at hext ⊢
        rw [greatestUpTo_some hg he hext]; rfl
  | suffix =>
    cases len with
    | shortest =>
      -- `%`: `rfind`, the rightmost start
      simp only [show ((trimConfig .suffix .shortest).anchorEnd && (trimConfig .suffix .shortest).shortest) = true
        from rfl, if_true, specRange]
      cases hf : p.rfind v with
      | none =>
        rw [hf] at hrr
        rw [greatestUpTo_none fun j hj => Bool.eq_false_iff.mpr fun hg =>
          hrr j v.length (Nat.zero_le _) ((occurs_suffix ast v j _).mpr ⟨hj, rfl, hg⟩)]
        rfl
      | some ae =>
        obtain ⟨a, e⟩ := ae
        rw [hf] at hrr
        obtain ⟨ha, rfl, hg⟩ := (occurs_suffix ast v a e).mp hrr.2.1
        rw [greatestUpTo_some hg ha fun j hj hgj => Nat.le_of_not_lt fun hlt =>
          hrr.2.2 j v.length hlt ((occurs_suffix ast v j _).mpr ⟨hj, rfl, hgj⟩)]
        rfl
    | longest =>
      -- `%%`: `find`, the leftmost start
      simp only [show ((trimConfig .suffix .longest).anchorEnd && (trimConfig .suffix .longest).shortest) = false
        from rfl, Bool.false_eq_true, if_false, specRange]
      cases hf : p.find v with
      | none =>
        rw [hf] at hfl
        rw [leastUpTo_none fun j hj => Bool.eq_false_iff.mpr fun hg =>
          hfl j v.length (Nat.zero_le _) ((occurs_suffix ast v j _).mpr ⟨hj, rfl, hg⟩)]
        rfl
      | some ae =>
        obtain ⟨a, e⟩ := ae
        rw [hf] at hfl
        obtain ⟨ha, rfl, hg⟩ := (occurs_suffix ast v a e).mp hfl.2.1
        rw [leastUpTo_some hg ha fun j hj hgj => Nat.le_of_not_lt fun hlt =>
          hfl.2.2 j v.length (Nat.zero_le _) hlt ((occurs_suffix ast v j _).mpr ⟨hj, rfl, hgj⟩)]
        rfl

theorem cut_specRange (side : TrimSide) (len : TrimLength) (ast : Ast) (v : List Char) :
    cut v (specRange side len ast v) = specTrim side len ast v := by
  cases side <;> cases len <;> simp only [specRange, specTrim]
  · cases leastUpTo (fun k => globMatch ast (v.take k)) v.length <;> simp [cut]
  · cases greatestUpTo (fun k => globMatch ast (v.take k)) v.length <;> simp [cut]
  · cases greatestUpTo (fun k => globMatch ast (v.drop k)) v.length <;> simp [cut]
  · cases leastUpTo (fun k => globMatch ast (v.drop k)) v.length <;> simp [cut]

theorem trimValue_extremal (ast : Ast) (side : TrimSide) (len : TrimLength)
    (hn : side = .suffix ∨ noMulti ast = true)
    (p : Pattern) (h : Pattern.fromAst ast (trimConfig side len) = .ok p) (v : List Char) :
    trimValue p v = specTrim side len ast v := by
  rw [trimValue_eq, trimSearch_extremal ast side len hn p h v, cut_specRange]

theorem find_is_extremal (ast : Ast) (hn : noMulti ast = true) (side : TrimSide) (len : TrimLength)
    (p : Pattern) (h : Pattern.fromAst ast (trimConfig side len) = .ok p) (v : List Char) :
    trimSearch p v = specRange side len ast v :=
  trimSearch_extremal ast side len (.inr hn) p h v

theorem find_is_extremal_suffix (ast : Ast) (len : TrimLength)
    (p : Pattern) (h : Pattern.fromAst ast (trimConfig .suffix len) = .ok p) (v : List Char) :
    trimSearch p v = specRange .suffix len ast v :=
  trimSearch_extremal ast .suffix len (.inl rfl) p h v

theorem trim_correct (ast : Ast) (hn : noMulti ast = true) (side : TrimSide) (len : TrimLength)
    (p : Pattern) (h : Pattern.fromAst ast (trimConfig side len) = .ok p) (v : List Char) :
    trimValue p v = specTrim side len ast v :=
  trimValue_extremal ast side len (.inr hn) p h v

theorem trim_correct_suffix (ast : Ast) (len : TrimLength)
    (p : Pattern) (h : Pattern.fromAst ast (trimConfig .suffix len) = .ok p) (v : List Char) :
    trimValue p v = specTrim .suffix len ast v :=
  trimValue_extremal ast .suffix len (.inl rfl) p h v

/-- the regex path of `#` / `##`, whatever the pattern: what is left is the first rest the matcher finds at the
    beginning of `v` -/
theorem prefix_trimValue_regex (len : TrimLength) (res : List ReAtom) (dot : Bool) (v : List Char) :
    trimValue ⟨.regex (cfgRe (trimConfig .prefix len).anchorBegin (trimConfig .prefix len).anchorEnd res) dot,
      trimConfig .prefix len⟩ v =
      match matchHere (len == .longest) v.length res v with
      | some ρ => v.drop (v.length - ρ.length)
      | none => v := by
  have e : trimValue ⟨.regex (cfgRe (trimConfig .prefix len).anchorBegin (trimConfig .prefix len).anchorEnd res)
      dot, trimConfig .prefix len⟩ v = cut v (findAt (len == .longest) (.bos :: res) v 0) := by
    cases len <;> simp [trimValue_eq, trimSearch, trimConfig, cfgRe, Pattern.find, Pattern.at0] <;> rfl
  rw [e, findAt_bos]
  cases matchHere (len == .longest) v.length res v <;> simp [cut]

theorem percent_removes_shortest (ast : Ast) (p : Pattern)
    (h : Pattern.fromAst ast (trimConfig .suffix .shortest) = .ok p) (v : List Char) :
    (trimValue p v = v ∧ ∀ j, j ≤ v.length → globMatch ast (v.drop j) = false) ∨
    (∃ k, k ≤ v.length ∧ trimValue p v = v.take k ∧ globMatch ast (v.drop k) = true ∧
      ∀ j, k < j → j ≤ v.length → globMatch ast (v.drop j) = false) := by
  rw [trim_correct_suffix ast .shortest p h v]
  simp only [specTrim]
  rcases @greatestUpTo_spec (fun k => globMatch ast (v.drop k)) v.length with ⟨h1, h2⟩ | ⟨k, h1, h2, h3, h4⟩
  · rw [h1]; exact Or.inl ⟨rfl, h2⟩
  · rw [h1]; exact Or.inr ⟨k, h2, rfl, h3, h4⟩

/-- `find` under `\A`: the occurrences are the matching prefixes -/
theorem prefix_trim_sound (ast : Ast) (len : TrimLength) (p : Pattern)
    (h : Pattern.fromAst ast (trimConfig .prefix len) = .ok p) (v : List Char) :
    (trimValue p v = v ∧ ∀ k, k ≤ v.length → globMatch ast (v.take k) = false) ∨
    (∃ k, k ≤ v.length ∧ trimValue p v = v.drop k ∧ globMatch ast (v.take k) = true) := by
  have hcfg : p.config = trimConfig .prefix len := fromAst_config h
  have hfl := find_leftmost ast _ p h v
  rw [searchStart_no_period ast _ rfl v] at hfl
  have hs : trimSearch p v = p.find v := by
    unfold trimSearch; rw [hcfg]; rfl
  rw [trimValue_eq, hs]
  cases hf : p.find v with
  | none =>
    rw [hf] at hfl
    exact Or.inl ⟨rfl, fun k hk => Bool.eq_false_iff.mpr fun hg =>
      hfl 0 k (Nat.zero_le _) ((occurs_prefix ast v 0 k).mpr ⟨rfl, hk, hg⟩)⟩
  | some ae =>
    obtain ⟨a, e⟩ := ae
    rw [hf] at hfl
    obtain ⟨rfl, he, hg⟩ := (occurs_prefix ast v a e).mp hfl.2.1
    exact Or.inr ⟨e, he, by simp [cut], hg⟩

theorem trimApply_correct (pcs : List PatternChar) (hd : astDefined (parseAtoms pcs) = true)
    (hn : noMulti (parseAtoms pcs) = true) (side : TrimSide) (len : TrimLength) (v : List Char) :
    trimApply side len pcs v = specTrim side len (parseAtoms pcs) v := by
  obtain ⟨p, hp⟩ := defined_compiles (parseAtoms pcs) hd (trimConfig side len)
  unfold trimApply Pattern.parse
  rw [hp]
  exact trim_correct (parseAtoms pcs) hn side len p hp v

theorem trimApply_suffix_correct (pcs : List PatternChar) (hd : astDefined (parseAtoms pcs) = true)
    (len : TrimLength) (v : List Char) :
    trimApply .suffix len pcs v = specTrim .suffix len (parseAtoms pcs) v := by
  obtain ⟨p, hp⟩ := defined_compiles (parseAtoms pcs) hd (trimConfig .suffix len)
  unfold trimApply Pattern.parse
  rw [hp]
  exact trim_correct_suffix (parseAtoms pcs) len p hp v

end Proofs

theorem literal_prefix_find (ast : Ast) (l : List Char) (hl : toLiteral ast = some l) (v : List Char) :
    (if l.isPrefixOf v then some (0, l.length) else none : Option (Nat × Nat)) =
      (leastUpTo (fun k => globAtoms ast (v.take k)) v.length).map (fun k => (0, k)) ∧
    (if l.isPrefixOf v then some (0, l.length) else none : Option (Nat × Nat)) =
      (greatestUpTo (fun k => globAtoms ast (v.take k)) v.length).map (fun k => (0, k)) :=
  have hn := Proofs.noMulti_of_literal ast l hl
  ⟨Proofs.trimSearch_extremal ast .prefix .shortest (.inr hn) _ (Proofs.fromAst_literal ast l hl _) v,
    Proofs.trimSearch_extremal ast .prefix .longest (.inr hn) _ (Proofs.fromAst_literal ast l hl _) v⟩

theorem literal_suffix_find (ast : Ast) (l : List Char) (hl : toLiteral ast = some l) (v : List Char) :
    (if endsWith v l then some (v.length - l.length, v.length) else none : Option (Nat × Nat)) =
      (leastUpTo (fun k => globAtoms ast (v.drop k)) v.length).map (fun a => (a, v.length)) ∧
    (if endsWith v l then some (v.length - l.length, v.length) else none : Option (Nat × Nat)) =
      (greatestUpTo (fun k => globAtoms ast (v.drop k)) v.length).map (fun a => (a, v.length)) :=
  ⟨Proofs.trimSearch_extremal ast .suffix .longest (.inl rfl) _ (Proofs.fromAst_literal ast l hl _) v,
    Proofs.trimSearch_extremal ast .suffix .shortest (.inl rfl) _ (Proofs.fromAst_literal ast l hl _) v⟩

namespace Proofs

/-- `trim::apply` on a value is the scalar trim on the scalar or on every element of the array -/
theorem trimApplyValue_map (side : TrimSide) (len : TrimLength) (pattern : List AttrChar) (value : Value) :
    trimApplyValue side len pattern value =
      value.map (trimApply side len (toPatternChars (applyEscapes pattern))) := by
  unfold trimApplyValue trimApply
  cases Pattern.parse (toPatternChars (applyEscapes pattern)) (trimConfig side len) with
  | ok p => cases value <;> rfl
  | error e => cases value <;> simp [Value.map]

theorem trimApplyValue_eq (side : TrimSide) (len : TrimLength) (pattern : List AttrChar) :
    (∀ v, trimApplyValue side len pattern (.scalar v) =
      .scalar (trimApply side len (toPatternChars (applyEscapes pattern)) v)) ∧
    (∀ vs, trimApplyValue side len pattern (.array vs) =
      .array (trimArray side len (toPatternChars (applyEscapes pattern)) vs)) :=
  ⟨fun _ => trimApplyValue_map .., fun _ => trimApplyValue_map ..⟩

end Proofs

end YashModel.Fnmatch
