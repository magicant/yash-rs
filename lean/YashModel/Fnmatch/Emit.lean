/-
  C04 — the round trip for whole patterns: the five forms of a bracket (`bracket_forms`), one atom (`atom_emit`), all
  atoms (`atoms_emit`), the anchors (`toRegex_parse_cfg`: the regex text parses back to what the direct compiler says,
  failure included), and
  therefore the four outcomes of `from_ast_and_config` in terms of the compiler (`fromAst_forms`, `fromAst_cases`).  `escape_roundtrip` is
  the instance "one character".
-/
import YashModel.Fnmatch.EmitBracket

namespace YashModel.Fnmatch
open YashModel.Generated.FnmatchTables

theorem fmtItems_length {items : List BracketItem} {x : List Char}
    (hm : ∀ it ∈ items, it.multi = false) (h : fmtItems items = .ok x) : items.length ≤ x.length := by
  induction items generalizing x with
  | nil => simp
  | cons it rest ih =>
    obtain ⟨a, b, ha, hb, rfl⟩ := fmtItems_cons_ok h
    have := ih (fun i hi => hm i (by simp [hi])) hb
    obtain ⟨c, t, hc, _⟩ := (item_emit (hm it (by simp)) ha).1 []
    have hl : 0 < a.length := by
      have := congrArg List.length hc; simp at this; omega
    simp; omega

theorem fmtAtoms_cons_ok {a : Atom} {r : List Atom} {x : List Char}
    (h : fmtAtoms (a :: r) = .ok x) : ∃ p q, a.fmt = .ok p ∧ fmtAtoms r = .ok q ∧ x = p ++ q :=
  seq_ok (f := fun p q => p ++ q) h

theorem map_ok {f : List Char → List Char} {r : Except Err (List Char)} {x : List Char}
    (h : r.map f = .ok x) : ∃ a, r = .ok a ∧ x = f a := by
  cases r with
  | error e => cases h
  | ok a => exact ⟨a, rfl, (Except.ok.inj h).symm⟩

/-- the five forms of a bracket expression: the tests that select the form, what `Bracket::fmt_regex` writes and what
    that text compiles to -/
theorem bracket_forms (b : Bracket) :
    (b.items = [] ∧ b.fmt = .error .emptyBracket ∧ cBracket b = none) ∨
    (b.items ≠ [] ∧ b.multi = false ∧
      b.fmt = (fmtItems b.items).map (fun a => '[' :: (if b.complement then ['^'] else []) ++ a ++ [']']) ∧
      cBracket b = (cItems b.items).map (fun ci => .one (.cls { neg := b.complement, items := ci }))) ∨
    (b.items ≠ [] ∧ b.multi = true ∧ b.complement = false ∧
      b.fmt = (fmtAltItems b.items).map (fun a => '(' :: '?' :: ':' :: a ++ [')']) ∧
      cBracket b = (cAlts b.items).map .alt) ∨
    (b.items ≠ [] ∧ b.multi = true ∧ b.complement = true ∧ b.items.all BracketItem.multi = true ∧
      b.fmt = .ok ['.'] ∧ cBracket b = some .any) ∨
    (b.items ≠ [] ∧ b.multi = true ∧ b.complement = true ∧ b.items.all BracketItem.multi = false ∧
      b.fmt = (fmtItems (b.items.filter (fun it => !it.multi))).map (fun a => '[' :: '^' :: a ++ [']']) ∧
      cBracket b = (cItems (b.items.filter (fun it => !it.multi))).map
        (fun ci => .one (.cls { neg := true, items := ci }))) := by
  unfold Bracket.fmt cBracket
  by_cases hne : b.items = []
  · exact .inl ⟨hne, if_pos hne, if_pos hne⟩
  · rw [if_neg hne, if_neg hne]
    cases hm : b.multi with
    | false =>
      refine .inr (.inl ⟨hne, rfl, ?_, rfl⟩)
      cases fmtItems b.items <;> rfl
    | true =>
      cases hc : b.complement with
      | false =>
        refine .inr (.inr (.inl ⟨hne, rfl, rfl, ?_, rfl⟩))
        cases fmtAltItems b.items <;> rfl
      | true =>
        cases hall : b.items.all BracketItem.multi with
        | true => exact .inr (.inr (.inr (.inl ⟨hne, rfl, rfl, rfl, rfl, rfl⟩)))
        | false =>
          refine .inr (.inr (.inr (.inr ⟨hne, rfl, rfl, rfl, ?_, rfl⟩)))
          cases fmtItems (b.items.filter (fun it => !it.multi)) <;> rfl

theorem bracket_fmt_cases {b : Bracket} {x : List Char} (h : b.fmt = .ok x) :
    b.items ≠ [] ∧
    ((b.multi = false ∧ ∃ a, fmtItems b.items = .ok a ∧
        x = '[' :: ((if b.complement then ['^'] else []) ++ a ++ ']' :: [])) ∨
     (b.multi = true ∧ b.complement = false ∧ ∃ a, fmtAltItems b.items = .ok a ∧
        x = '(' :: '?' :: ':' :: (a ++ [')'])) ∨
     (b.multi = true ∧ b.complement = true ∧ b.items.all BracketItem.multi = true ∧ x = ['.']) ∨
     (b.multi = true ∧ b.complement = true ∧ b.items.all BracketItem.multi = false ∧ ∃ a,
        fmtItems (b.items.filter (fun it => !it.multi)) = .ok a ∧ x = '[' :: '^' :: (a ++ [']']))) := by
  rcases bracket_forms b with ⟨_, hf, _⟩ | ⟨hne, hm, hf, _⟩ | ⟨hne, hm, hc, hf, _⟩ | ⟨hne, hm, hc, hall, hf, _⟩ |
    ⟨hne, hm, hc, hall, hf, _⟩ <;> rw [hf] at h
  · cases h
  · obtain ⟨a, ha, rfl⟩ := map_ok h
    exact ⟨hne, .inl ⟨hm, a, ha, by simp⟩⟩
  · obtain ⟨a, ha, rfl⟩ := map_ok h
    exact ⟨hne, .inr (.inl ⟨hm, hc, a, ha, rfl⟩)⟩
  · exact ⟨hne, .inr (.inr (.inl ⟨hm, hc, hall, (Except.ok.inj h).symm⟩))⟩
  · obtain ⟨a, ha, rfl⟩ := map_ok h
    exact ⟨hne, .inr (.inr (.inr ⟨hm, hc, hall, a, ha, rfl⟩))⟩

theorem cBracket_kind {b : Bracket} {ra : ReAtom} (h : cBracket b = some ra) :
    (∃ k, ra = .one (.cls k)) ∨ (b.multi = true ∧ ((∃ bs, ra = .alt bs) ∨ ra = .any)) := by
  rcases bracket_forms b with ⟨_, _, hc⟩ | ⟨_, _, _, hc⟩ | ⟨_, hm, _, _, hc⟩ | ⟨_, hm, _, _, _, hc⟩ | ⟨_, _, _, _, _, hc⟩ <;>
    rw [hc] at h
  · cases h
  · obtain ⟨ci, _, rfl⟩ := Option.map_eq_some_iff.mp h; exact .inl ⟨_, rfl⟩
  · obtain ⟨bs, _, rfl⟩ := Option.map_eq_some_iff.mp h; exact .inr ⟨hm, .inl ⟨_, rfl⟩⟩
  · cases h; exact .inr ⟨hm, .inr rfl⟩
  · obtain ⟨ci, _, rfl⟩ := Option.map_eq_some_iff.mp h; exact .inl ⟨_, rfl⟩

theorem atom_fmt_head {a : Atom} {x : List Char} (h : a.fmt = .ok x) (r : List Char) :
    ∃ c t, x ++ r = c :: t ∧ c ≠ '*' := by
  cases a with
  | char c =>
    simp [Atom.fmt] at h; subst h
    rcases fmtTopChar_cases c with ⟨e, _⟩ | ⟨e, hm⟩ <;> rw [e]
    · exact ⟨'\\', _, rfl, by decide⟩
    · exact ⟨c, r, rfl, ne_of_not_mem hm star_mem⟩
  | anyChar => simp [Atom.fmt] at h; subst h; exact ⟨'.', _, rfl, by decide⟩
  | anyString => simp [Atom.fmt] at h; subst h; exact ⟨'.', _, rfl, by decide⟩
  | bracket b =>
    simp only [Atom.fmt] at h
    obtain ⟨_, h1 | h2 | h3 | h4⟩ := bracket_fmt_cases h
    · obtain ⟨_, a, _, rfl⟩ := h1; exact ⟨'[', _, rfl, by decide⟩
    · obtain ⟨_, _, a, _, rfl⟩ := h2; exact ⟨'(', _, rfl, by decide⟩
    · obtain ⟨_, _, _, rfl⟩ := h3; exact ⟨'.', _, rfl, by decide⟩
    · obtain ⟨_, _, _, a, _, rfl⟩ := h4; exact ⟨'[', _, rfl, by decide⟩

theorem atoms_fmt_head {ast : List Atom} {x : List Char} (h : fmtAtoms ast = .ok x) (tail : List Char)
    (ht : tail.head? ≠ some '*') : (x ++ tail).head? ≠ some '*' := by
  cases ast with
  | nil => simp [fmtAtoms] at h; subst h; simpa using ht
  | cons a r =>
    obtain ⟨p, q, hp, _, rfl⟩ := fmtAtoms_cons_ok h
    obtain ⟨c, t, hc, hne⟩ := atom_fmt_head hp (q ++ tail)
    rw [List.append_assoc, hc]
    simp [hne]

theorem not_multi_items {b : Bracket} (h : b.multi = false) : ∀ it ∈ b.items, it.multi = false := by
  intro it hi
  have : b.items.any BracketItem.multi = false := h
  rw [List.any_eq_false] at this
  simpa using this it hi

theorem filter_not_multi (items : List BracketItem) :
    ∀ it ∈ items.filter (fun it => !it.multi), it.multi = false := by
  intro it hi
  have := (List.mem_filter.mp hi).2
  simpa using this

theorem parseTop_dot (f : Nat) (t : List Char) (h : t.head? ≠ some '*') :
    parseTop (f + 1) ('.' :: t) = (parseTop f t).map (.any :: ·) := by
  simp [parseTop, h]

theorem parseTop_dot_star (f : Nat) (t : List Char) :
    parseTop (f + 1) ('.' :: '*' :: t) = (parseTop f t).map (.star :: ·) := by
  simp [parseTop]

theorem parseTop_class (f : Nat) (t : List Char) :
    parseTop (f + 1) ('[' :: t) =
      match parseClass f t with
      | some (k, r) => (parseTop f r).map (.one (.cls k) :: ·)
      | none => none := by
  simp [parseTop]; rfl

theorem parseTop_group (f : Nat) (t : List Char) :
    parseTop (f + 1) ('(' :: '?' :: ':' :: t) =
      match parseBranches f [] t with
      | some (bs, r) => (parseTop f r).map (.alt bs :: ·)
      | none => none := by
  simp [parseTop]; rfl

/-- `hr`: a `.` written directly before a `*` would be read back as `.*`; no emitted atom begins with a raw `*`
    (`atoms_fmt_head`) -/
theorem atom_emit {a : Atom} {x : List Char} (h : a.fmt = .ok x) (r : List Char) (fuel : Nat)
    (hfuel : (x ++ r).length ≤ fuel) (hr : r.head? ≠ some '*') :
    parseTop (fuel + 1) (x ++ r) =
      match cAtom a with
      | some ra => (parseTop fuel r).map (ra :: ·)
      | none => none := by
  cases a with
  | char c => simp [Atom.fmt] at h; subst h; simp [parseTop_char, cAtom]
  | anyChar => simp [Atom.fmt] at h; subst h; simp [parseTop_dot _ _ hr, cAtom]
  | anyString => simp [Atom.fmt] at h; subst h; simp [parseTop_dot_star, cAtom]
  | bracket b =>
    simp only [Atom.fmt] at h
    simp only [cAtom]
    rcases bracket_forms b with ⟨_, hf, hcb⟩ | ⟨hne, hm, hf, hcb⟩ | ⟨hne, _, _, hf, hcb⟩ | ⟨_, _, _, _, hf, hcb⟩ |
      ⟨_, _, _, hall, hf, hcb⟩ <;> rw [hf] at h <;> rw [hcb]
    · cases h
    · obtain ⟨a, ha, rfl⟩ := map_ok h
      have hmi := not_multi_items hm
      have hl := fmtItems_length hmi ha
      have e : ('[' :: (if b.complement then ['^'] else []) ++ a ++ [']']) ++ r
          = '[' :: ((if b.complement then ['^'] else []) ++ a ++ ']' :: r) := by simp
      have hfl : b.items.length < fuel := by
        rw [e] at hfuel; simp at hfuel; omega
      rw [e, parseTop_class, parseClass_emit b.complement b.items a hmi ha hne r fuel hfl]
      cases cItems b.items <;> rfl
    · obtain ⟨a, ha, rfl⟩ := map_ok h
      have e : ('(' :: '?' :: ':' :: a ++ [')']) ++ r = '(' :: '?' :: ':' :: (a ++ ')' :: r) := by simp
      rw [e, parseTop_group]
      have hfl : (a ++ ')' :: r).length < fuel := by rw [e] at hfuel; simp at hfuel ⊢; omega
      rw [parseBranches_emit b.items hne a ha r fuel hfl]
      cases cAlts b.items <;> rfl
    · obtain rfl := (Except.ok.inj h).symm
      exact parseTop_dot _ _ hr
    · obtain ⟨a, ha, rfl⟩ := map_ok h
      have hmi := filter_not_multi b.items
      have hl := fmtItems_length hmi ha
      have e : ('[' :: '^' :: a ++ [']']) ++ r = '[' :: (['^'] ++ a ++ ']' :: r) := by simp
      have hfl : (b.items.filter (fun it => !it.multi)).length < fuel := by
        rw [e] at hfuel; simp at hfuel; omega
      have hf : b.items.filter (fun it => !it.multi) ≠ [] := by
        intro hnil
        rw [List.filter_eq_nil_iff] at hnil
        rw [List.all_eq_true.mpr fun it hi => by simpa using hnil it hi] at hall
        cases hall
      rw [e, parseTop_class, show ['^'] = (if true = true then ['^'] else []) from rfl,
        parseClass_emit true _ a hmi ha hf r fuel hfl]
      cases cItems (b.items.filter (fun it => !it.multi)) <;> rfl

theorem atom_fmt_length_pos {a : Atom} {x : List Char} (h : a.fmt = .ok x) : 0 < x.length := by
  obtain ⟨c, t, hc, _⟩ := atom_fmt_head h []
  have := congrArg List.length hc
  simp at this; omega

/-- `tail` is what stands after the atoms, `\z` or nothing (`toRegex_parse_cfg`), and `tailRe` what it parses to -/
theorem atoms_emit (ast : List Atom) :
    ∀ (x : List Char), fmtAtoms ast = .ok x →
    ∀ (tail : List Char) (tailRe : List ReAtom), tail.head? ≠ some '*' →
      (∀ f, tail.length < f → parseTop f tail = some tailRe) →
    ∀ fuel, (x ++ tail).length < fuel →
      parseTop fuel (x ++ tail) = (cAtoms ast).map (· ++ tailRe) := by
  induction ast with
  | nil =>
    intro x h tail tailRe _ htail fuel hfuel
    simp [fmtAtoms] at h; subst h
    simp at hfuel
    simp [cAtoms, htail fuel hfuel]
  | cons a r ih =>
    intro x h tail tailRe ht htail fuel hfuel
    obtain ⟨p, q, hp, hq, rfl⟩ := fmtAtoms_cons_ok h
    obtain ⟨f, rfl⟩ := Common.exists_succ_of_le hfuel
    have hpos := atom_fmt_length_pos hp
    rw [List.append_assoc]
    rw [atom_emit hp (q ++ tail) f (by simp at hfuel ⊢; omega) (atoms_fmt_head hq tail ht)]
    have ihq := ih q hq tail tailRe ht htail f (by simp at hfuel ⊢; omega)
    cases hca : cAtom a with
    | none => simp [cAtoms, hca]
    | some ra =>
      simp only []
      rw [ihq]
      cases hcr : cAtoms r with
      | none => simp [cAtoms, hca, hcr]
      | some rr => simp [cAtoms, hca, hcr]

theorem parseTop_nil (f : Nat) (h : 0 < f) : parseTop f [] = some [] := by
  obtain ⟨k, rfl⟩ := Common.exists_succ_of_le h
  simp [parseTop]

theorem parseTop_eos (f : Nat) (h : 2 < f) : parseTop f ['\\', 'z'] = some [.eos] := by
  obtain ⟨k, rfl⟩ : ∃ k, f = k + 2 := ⟨f - 2, by omega⟩
  have : ('z' : Char) ∉ escapable := by decide
  simp [parseTop, this]

theorem parseTop_bos (f : Nat) (rest : List Char) :
    parseTop (f + 1) ('\\' :: 'A' :: rest) = (parseTop f rest).map (.bos :: ·) := by
  have hA : ('A' : Char) ∉ escapable := by decide
  simp [parseTop, hA]

theorem toRegex_parse_cfg (ast : Ast) (cfg : Config) (r : List Char) (h : toRegex ast cfg = .ok r) :
    parseRe r = (cAtoms ast).map (cfgRe cfg.anchorBegin cfg.anchorEnd) := by
  unfold cfgRe
  unfold toRegex at h
  split at h
  · simp at h
  · rename_i body hb
    simp at h
    subst h
    unfold parseRe
    have tailLemma : ∀ fuel, ((body ++ if cfg.anchorEnd = true then ['\\', 'z'] else []).length < fuel) →
        parseTop fuel (body ++ if cfg.anchorEnd = true then ['\\', 'z'] else []) =
          (cAtoms ast).map (· ++ (if cfg.anchorEnd then [ReAtom.eos] else [])) := by
      intro fuel hfuel
      cases he : cfg.anchorEnd with
      | true =>
        simp only [he, if_true] at hfuel ⊢
        exact atoms_emit ast body hb ['\\', 'z'] [.eos] (by simp)
          (fun f hf => parseTop_eos f (by simpa using hf)) fuel hfuel
      | false =>
        simp only [he] at hfuel ⊢
        exact atoms_emit ast body hb [] [] (by simp)
          (fun f hf => parseTop_nil f (by omega)) fuel (by simpa using hfuel)
    cases hab : cfg.anchorBegin with
    | true =>
      simp only [if_true, List.cons_append, List.nil_append, List.length_cons]
      rw [parseTop_bos, tailLemma _ (by omega)]
      cases cAtoms ast <;> simp
    | false =>
      simp only [Bool.false_eq_true, if_false, List.nil_append]
      rw [tailLemma _ (by omega)]

theorem toRegex_parse (ast : Ast) (cfg : Config) (r : List Char) (h : toRegex ast cfg = .ok r) :
    parseRe r = (cAtoms ast).map (fun res =>
      (if cfg.anchorBegin then [ReAtom.bos] else []) ++ res ++ (if cfg.anchorEnd then [ReAtom.eos] else [])) :=
  toRegex_parse_cfg ast cfg r h

theorem toRegex_compiles (ast : Ast) (cfg : Config) (r : List Char) (h : toRegex ast cfg = .ok r)
    (re : List ReAtom) (hp : parseRe r = some re) :
    ∃ res, cAtoms ast = some res ∧ re = cfgRe cfg.anchorBegin cfg.anchorEnd res := by
  rw [toRegex_parse_cfg ast cfg r h] at hp
  obtain ⟨res, hres, rfl⟩ := Option.map_eq_some_iff.mp hp
  exact ⟨res, hres, rfl⟩

theorem fromAst_forms (ast : Ast) (cfg : Config) :
    (∃ l, toLiteral ast = some l ∧ Pattern.fromAst ast cfg = .ok ⟨.literal l, cfg⟩) ∨
    toLiteral ast = none ∧
      ((∃ e, fmtAtoms ast = .error e ∧ Pattern.fromAst ast cfg = .error e) ∨
       (∃ x, fmtAtoms ast = .ok x) ∧
        (cAtoms ast = none ∧ Pattern.fromAst ast cfg = .error .regex ∨
         ∃ res, cAtoms ast = some res ∧ Pattern.fromAst ast cfg =
           .ok ⟨.regex (cfgRe cfg.anchorBegin cfg.anchorEnd res) (startsWithLiteralDot ast), cfg⟩)) := by
  unfold Pattern.fromAst
  cases toLiteral ast with
  | some l => exact .inl ⟨l, rfl, rfl⟩
  | none =>
    refine .inr ⟨rfl, ?_⟩
    simp only []
    cases hf : fmtAtoms ast with
    | error e => exact .inl ⟨e, rfl, by simp [toRegex, hf]⟩
    | ok body =>
      refine .inr ⟨⟨body, rfl⟩, ?_⟩
      have hr : toRegex ast cfg = .ok ((if cfg.anchorBegin then ['\\', 'A'] else []) ++ body ++
          (if cfg.anchorEnd then ['\\', 'z'] else [])) := by simp [toRegex, hf]
      rw [hr]
      simp only []
      rw [toRegex_parse_cfg ast cfg _ hr]
      cases cAtoms ast with
      | none => exact .inl ⟨rfl, rfl⟩
      | some res => exact .inr ⟨res, rfl, rfl⟩

theorem fromAst_cases (ast : Ast) (cfg : Config) (p : Pattern) (h : Pattern.fromAst ast cfg = .ok p) :
    (∃ l, toLiteral ast = some l ∧ p = ⟨.literal l, cfg⟩) ∨
    (toLiteral ast = none ∧ ∃ res, cAtoms ast = some res ∧
      p = ⟨.regex (cfgRe cfg.anchorBegin cfg.anchorEnd res) (startsWithLiteralDot ast), cfg⟩) := by
  rcases fromAst_forms ast cfg with ⟨l, hl, e⟩ | ⟨hl, ⟨_, _, e⟩ | ⟨_, ⟨_, e⟩ | ⟨res, hc, e⟩⟩⟩ <;> rw [e] at h
  · exact .inl ⟨l, hl, (Except.ok.inj h).symm⟩
  · cases h
  · cases h
  · exact .inr ⟨hl, res, hc, (Except.ok.inj h).symm⟩

theorem fromAst_config {ast : Ast} {cfg : Config} {p : Pattern} (h : Pattern.fromAst ast cfg = .ok p) :
    p.config = cfg := by
  rcases fromAst_cases ast cfg p h with ⟨_, _, rfl⟩ | ⟨_, _, _, rfl⟩ <;> rfl

theorem cAtoms_noAnchor (ast : List Atom) : ∀ res, cAtoms ast = some res → res.all noAnchor = true := by
  induction ast with
  | nil => intro res h; cases h; rfl
  | cons a r ih =>
    intro res h
    obtain ⟨ra, rr, hra, hrr, rfl⟩ := cAtoms_cons_some h
    simp only [List.all_cons, Bool.and_eq_true]
    refine ⟨?_, ih rr hrr⟩
    cases a with
    | bracket b => rcases cBracket_kind hra with ⟨k, rfl⟩ | ⟨_, ⟨bs, rfl⟩ | rfl⟩ <;> rfl
    | _ => cases hra; rfl

namespace Proofs

theorem meta_subset :
    (∀ c ∈ reMeta, c ∈ specialChars) ∧
    (∀ c ∈ classMeta, c ∈ bracketSpecialChars ∨ c ∈ specialChars) ∧
    (∀ c ∈ specialChars, c ∈ escapable) ∧ (∀ c ∈ bracketSpecialChars, c ∈ escapable) :=
  ⟨reMeta_sub_special, classMeta_sub_special, special_sub_escapable, bracketSpecial_sub_escapable⟩

theorem escape_roundtrip (c : Char) :
    parseRe (fmtTopChar c) = some [.one (.lit c)] ∧
    (∀ r, toRegex [.bracket ⟨false, [.atom (.char c)]⟩] {} = .ok r →
      parseRe r = some [.one (.cls ⟨false, [.single c]⟩)]) ∧
    (∀ r, toRegex [.bracket ⟨false, [.atom (.collating [c])]⟩] {} = .ok r →
      parseRe r = some [.one (.cls ⟨false, [.single c]⟩)]) ∧
    (∀ r, toRegex [.bracket ⟨false, [.atom (.equiv [c])]⟩] {} = .ok r →
      parseRe r = some [.one (.cls ⟨false, [.single c]⟩)]) ∧
    (∀ d, (ClassItem.single c).mem d = (d == c)) := by
  refine ⟨?_, ?_, ?_, ?_, fun d => rfl⟩
  · have h := parseTop_char c [] (fmtTopChar c).length
    rw [List.append_nil] at h
    unfold parseRe
    rw [h, parseTop_nil _ (by unfold fmtTopChar; split <;> simp)]
    rfl
  all_goals
    intro r h
    rw [toRegex_parse _ _ _ h]
    simp [cAtoms, cAtom, cBracket, Bracket.multi, BracketItem.multi, BracketAtom.multi, cItems, cItem, cAtom1]

theorem escape_roundtrip_nonvacuous (c : Char) :
    toRegex [.bracket ⟨false, [.atom (.char c)]⟩] {} = .ok ('[' :: fmtRegexChar c ++ [']']) ∧
    toRegex [.bracket ⟨false, [.atom (.collating [c])]⟩] {} = .ok ('[' :: fmtRegexChar c ++ [']']) := by
  constructor <;>
    simp [toRegex, fmtAtoms, Atom.fmt, Bracket.fmt, Bracket.multi, BracketItem.multi, BracketAtom.multi,
      fmtItems, BracketItem.fmt, BracketAtom.fmt]

end Proofs

end YashModel.Fnmatch
