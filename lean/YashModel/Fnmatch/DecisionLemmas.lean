/-
  C04 — the `str` operations of the literal fast path of lib.rs by NAME (the names are what
  tools/tables/fnmatch.py reads out of the source; `literal_path_tables_agree` in Theorems.lean ties them to
  `Pattern.isMatch` / `find` / `rfind`).
-/
import YashModel.Fnmatch.Model

namespace YashModel.Fnmatch

/-- the `str` operations of the literal fast path, as the model has them (`contains` = `find(..).is_some()`) -/
def strOpMatch (op : String) (s text : List Char) : Option Bool :=
  if op = "contains" then some (strFind s 0 text).isSome
  else if op = "starts_with" then some (s.isPrefixOf text)
  else if op = "ends_with" then some (endsWith text s)
  else if op = "==" then some (decide (text = s))
  else none

def strOpFind (op : String) (s text : List Char) : Option (Option (Nat × Nat)) :=
  if op = "find" then some ((strFind s 0 text).map fun i => (i, i + s.length))
  else if op = "rfind" then some ((strRFind s 0 text).map fun i => (i, i + s.length))
  else if op = "starts_with" then some (if s.isPrefixOf text then some (0, s.length) else none)
  else if op = "ends_with" then some (if endsWith text s then some (text.length - s.length, text.length) else none)
  else if op = "==" then some (if text = s then some (0, s.length) else none)
  else none

/-- the Rust name of the constructor of a bracket atom (`parse_inner` picks it by the delimiter) -/
def atomCtorName : BracketAtom → String
  | .char _ => "Char"
  | .collating _ => "CollatingSymbol"
  | .equiv _ => "EquivalenceClass"
  | .cls _ => "CharClass"

end YashModel.Fnmatch
