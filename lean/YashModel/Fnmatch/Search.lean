/-
  C04 — `find` / `rfind` / `is_match` under EVERY configuration (the four anchorings, greedy or lazy, `literal_period`,
  regex path and literal fast path).  The denotation of the compiled regex in positions of the text is `occurs`
  (`denotes_occurs`); so what `find_at` finds is the leftmost occurrence at or after the search start (`findAt_cfg`, from
  `findAt_is_leftmost`), the `while let` loop of `rfind` ends at the rightmost (`rfindLoop_cfg`; it steps by characters:
  `nextBoundary_index`, `rfindLoop_unfold`), and nothing is found only when there is no occurrence: `find_leftmost`,
  `rfind_rightmost`, `isMatch_iff`; hence, with both anchors, `isMatch_full`, `isMatch_correct`, `literal_period_correct`.
  `find_end_extremal`: which end `find` takes at the leftmost start.
-/
import YashModel.Fnmatch.Denote
import YashModel.Fnmatch.LiteralPath

namespace YashModel.Fnmatch

theorem mid_of_drop {s pre ρ : List Char} {i : Nat} (hi : i ≤ s.length) (h : s.drop i = pre ++ ρ) :
    s.length - ρ.length = i + pre.length ∧ (s.take (i + pre.length)).drop i = pre := by
  obtain ⟨a, ha, hal⟩ : ∃ a, s = a ++ (pre ++ ρ) ∧ a.length = i :=
    ⟨s.take i, by rw [← h, List.take_append_drop], by simp; omega⟩
  subst ha
  subst hal
  constructor
  · simp; omega
  · rw [← List.append_assoc]
    have : a.length + pre.length = (a ++ pre).length := by simp
    rw [this, List.take_left']
    · simp
    · rfl

/-- the denotation in positions of the text: the rests at position `i` are the ends `j` of the occurrences that start
    at `i` -/
theorem denotes_occurs (ast : Ast) (res : List ReAtom) (hres : cAtoms ast = some res) (ab ae : Bool)
    (s : List Char) (i : Nat) (hi : i ≤ s.length) (ρ : List Char) :
    reDenotes s.length (cfgRe ab ae res) (s.drop i) ρ ↔ ∃ j, occurs ab ae ast s i j ∧ ρ = s.drop j := by
  rw [denotes_cfg ast res hres]
  constructor
  · rintro ⟨hab, hae, pre, hu, hg⟩
    obtain ⟨h1, h2⟩ := mid_of_drop hi hu
    refine ⟨i + pre.length, ⟨by omega, by omega, ?_, ?_, by rw [h2]; exact hg⟩, ?_⟩
    · intro h; have := hab h; simp at this; omega
    · intro h; rw [hae h] at h1; simpa using h1.symm
    · have := congrArg (List.drop pre.length) hu
      rw [List.drop_drop, List.drop_left] at this
      exact this.symm
  · rintro ⟨j, ⟨hij, hj, hab, hae, hg⟩, rfl⟩
    exact ⟨fun h => by rw [hab h]; simp, fun h => by rw [hae h]; simp, (s.take j).drop i, drop_split hij hj, hg⟩

theorem occurs_start_le {ab ae : Bool} {ast : Ast} {s : List Char} {i j : Nat} (h : occurs ab ae ast s i j) :
    i ≤ s.length :=
  Nat.le_trans h.1 h.2.1

/-! `occurs` under the three anchorings the shell uses: both anchors (`case`, pathname expansion), `\A` (`#`, `##`),
    `\z` (`%`, `%%`) -/

theorem occurs_full (ast : Ast) (s : List Char) (i j : Nat) :
    occurs true true ast s i j ↔ (i = 0 ∧ j = s.length ∧ globMatch ast s = true) := by
  unfold occurs
  constructor
  · rintro ⟨_, _, h1, h2, h3⟩
    have := h1 rfl
    have := h2 rfl
    subst_vars
    simp at h3
    exact ⟨rfl, rfl, h3⟩
  · rintro ⟨rfl, rfl, h⟩
    simp [h]

theorem occurs_prefix (ast : Ast) (v : List Char) (i j : Nat) :
    occurs true false ast v i j ↔ i = 0 ∧ j ≤ v.length ∧ globMatch ast (v.take j) = true := by
  unfold occurs
  constructor
  · rintro ⟨-, hj, hi, -, hg⟩
    obtain rfl := hi rfl
    exact ⟨rfl, hj, by simpa using hg⟩
  · rintro ⟨rfl, hj, hg⟩
    exact ⟨Nat.zero_le _, hj, fun _ => rfl, nofun, by simpa using hg⟩

theorem occurs_suffix (ast : Ast) (v : List Char) (i j : Nat) :
    occurs false true ast v i j ↔ i ≤ v.length ∧ j = v.length ∧ globMatch ast (v.drop i) = true := by
  unfold occurs
  constructor
  · rintro ⟨hij, -, -, he, hg⟩
    obtain rfl := he rfl
    exact ⟨hij, rfl, by simpa using hg⟩
  · rintro ⟨hi, rfl, hg⟩
    exact ⟨hi, Nat.le_refl _, nofun, fun _ => rfl, by simpa using hg⟩

theorem findAt_cfg (ast : Ast) (res : List ReAtom) (hres : cAtoms ast = some res) (g : Bool)
    (ab ae : Bool) (s : List Char) (a0 : Nat) (h0 : a0 ≤ s.length) :
    match findAt g (cfgRe ab ae res) s a0 with
    | none => ∀ i j, a0 ≤ i → ¬ occurs ab ae ast s i j
    | some (a, e) => a0 ≤ a ∧ occurs ab ae ast s a e ∧
        ∀ i j, a0 ≤ i → i < a → ¬ occurs ab ae ast s i j := by
  have hl := Proofs.findAt_is_leftmost g (cfgRe ab ae res) s a0 h0
  have hocc : ∀ i j, occurs ab ae ast s i j → i ≤ s.length ∧ reDenotes s.length (cfgRe ab ae res) (s.drop i) (s.drop j) :=
    fun i j h => have hi := occurs_start_le h
      ⟨hi, (denotes_occurs ast res hres ab ae s i hi _).mpr ⟨j, h, rfl⟩⟩
  cases hf : findAt g (cfgRe ab ae res) s a0 with
  | none =>
    rw [hf] at hl
    exact fun i j hi h => hl i hi (hocc i j h).1 _ (hocc i j h).2
  | some r =>
    obtain ⟨a, e⟩ := r
    rw [hf] at hl
    obtain ⟨h1, h2, ⟨ρ, hρ, rfl⟩, h3⟩ := hl
    rw [← Proofs.matchHere_head] at hρ
    obtain ⟨j, hj, rfl⟩ := (denotes_occurs ast res hres ab ae s a h2 ρ).mp (Proofs.matchHere_sound _ _ _ _ _ hρ)
    have : s.length - (s.drop j).length = j := by have := hj.2.1; simp; omega
    rw [this]
    exact ⟨h1, hj, fun i j' hi hlt h => h3 i hi hlt _ (hocc i j' h).2⟩

theorem utf8Len_append (a b : List Char) : utf8Len (a ++ b) = utf8Len a + utf8Len b := by
  simp [utf8Len]

theorem nextBoundaryFrom_spec (mid : List Char) :
    ∀ (pre rest : List Char),
      nextBoundaryFrom pre.length (utf8Len pre) (utf8Len (pre ++ mid)) (mid ++ rest) =
        match rest with
        | [] => none
        | c :: _ => some (pre.length + mid.length + 1, utf8Len (pre ++ mid) + c.utf8Size) := by
  induction mid with
  | nil =>
    intro pre rest
    cases rest with
    | nil => simp [nextBoundaryFrom]
    | cons c t =>
      have := Char.utf8Size_pos c
      simp only [List.append_nil, List.nil_append, nextBoundaryFrom, List.length_nil, Nat.add_zero]
      rw [if_pos (by omega)]
  | cons m mid' ih =>
    intro pre rest
    have hlen : utf8Len (pre ++ m :: mid') = utf8Len pre + m.utf8Size + utf8Len mid' := by
      simp [utf8Len]; omega
    have hnot : ¬ utf8Len (pre ++ m :: mid') < utf8Len pre + m.utf8Size := by omega
    simp only [List.cons_append, nextBoundaryFrom]
    rw [if_neg hnot]
    have := ih (pre ++ [m]) rest
    have e1 : (pre ++ [m]).length = pre.length + 1 := by simp
    have e2 : utf8Len (pre ++ [m]) = utf8Len pre + m.utf8Size := by simp [utf8Len]
    have e3 : pre ++ [m] ++ mid' = pre ++ m :: mid' := by simp
    rw [e1, e2, e3] at this
    rw [this]
    cases rest with
    | nil => rfl
    | cons c t => simp; omega

theorem nextBoundary_index (text : List Char) (i : Nat) :
    (nextBoundary text (byteOffset text i)).map (·.1) = if i + 1 ≤ text.length then some (i + 1) else none := by
  unfold nextBoundary byteOffset
  have := nextBoundaryFrom_spec (text.take i) [] (text.drop i)
  simp only [List.length_nil, List.nil_append, List.take_append_drop] at this
  have h0 : utf8Len ([] : List Char) = 0 := rfl
  rw [h0] at this
  rw [this]
  by_cases h : i + 1 ≤ text.length
  · rw [if_pos h]
    have hne : text.drop i ≠ [] := by
      intro e
      have := congrArg List.length e
      simp at this; omega
    cases hd : text.drop i with
    | nil => exact absurd hd hne
    | cons c t =>
      simp only [Option.map_some, List.length_take]
      congr 1
      omega
  · rw [if_neg h]
    have : text.drop i = [] := by
      apply List.drop_eq_nil_of_le; omega
    rw [this]
    rfl

theorem rfindLoop_unfold (g : Bool) (re : List ReAtom) (text : List Char) (fuel : Nat) (cur : Nat × Nat) :
    rfindLoop g re text (fuel + 1) cur =
      if cur.1 + 1 ≤ text.length then
        (match findAt g re text (cur.1 + 1) with
         | some r => rfindLoop g re text fuel r
         | none => cur)
      else cur := by
  have h := nextBoundary_index text cur.1
  simp only [rfindLoop]
  cases hn : nextBoundary text (byteOffset text cur.1) with
  | none =>
    rw [hn] at h
    by_cases hle : cur.1 + 1 ≤ text.length
    · rw [if_pos hle] at h; simp at h
    · rw [if_neg hle]
  | some ib =>
    obtain ⟨i, b⟩ := ib
    rw [hn] at h
    by_cases hle : cur.1 + 1 ≤ text.length
    · rw [if_pos hle] at h
      simp only [Option.map_some, Option.some.injEq] at h
      subst h
      rw [if_pos hle]
      simp only []
      cases findAt g re text (cur.1 + 1) <;> rfl
    · rw [if_neg hle] at h; simp at h

/-- the invariant of the `while let` loop: the current range `(i, e)` is an occurrence and the fuel exceeds the number of
    characters from its start on; the loop ends at an occurrence after whose start no occurrence starts -/
theorem rfindLoop_cfg (ast : Ast) (res : List ReAtom) (hres : cAtoms ast = some res) (g : Bool)
    (ab ae : Bool) (s : List Char) :
    ∀ fuel i e, s.length - i < fuel → occurs ab ae ast s i e →
      i ≤ (rfindLoop g (cfgRe ab ae res) s fuel (i, e)).1 ∧
      occurs ab ae ast s (rfindLoop g (cfgRe ab ae res) s fuel (i, e)).1
        (rfindLoop g (cfgRe ab ae res) s fuel (i, e)).2 ∧
      ∀ i' j', (rfindLoop g (cfgRe ab ae res) s fuel (i, e)).1 < i' → ¬ occurs ab ae ast s i' j' := by
  intro fuel
  induction fuel with
  | zero => intro i e h; omega
  | succ f ih =>
    intro i e hf hocc
    rw [rfindLoop_unfold]
    simp only []
    by_cases hlt : i + 1 ≤ s.length
    · rw [if_pos hlt]
      have hspec := findAt_cfg ast res hres g ab ae s (i + 1) hlt
      cases hfa : findAt g (cfgRe ab ae res) s (i + 1) with
      | none =>
        rw [hfa] at hspec
        exact ⟨Nat.le_refl _, hocc, fun i' j' hi' => hspec i' j' hi'⟩
      | some r =>
        obtain ⟨a, e'⟩ := r
        rw [hfa] at hspec
        obtain ⟨h1, h2, _⟩ := hspec
        simp only []
        have hal : a ≤ s.length := occurs_start_le h2
        obtain ⟨k1, k2, k3⟩ := ih a e' (by omega) h2
        exact ⟨by omega, k2, k3⟩
    · rw [if_neg hlt]
      refine ⟨Nat.le_refl _, hocc, ?_⟩
      intro i' j' hi' h
      have := occurs_start_le h
      simp only [] at hi'
      omega

theorem isMatch_eq_find (p : Pattern) (s : List Char) : p.isMatch s = (p.find s).isSome := by
  unfold Pattern.isMatch Pattern.find
  cases p.body with
  | regex re dot => rfl
  | literal l =>
    cases p.config.anchorBegin <;> cases p.config.anchorEnd <;> simp only []
    · cases strFind l 0 s <;> rfl
    · cases endsWith s l <;> simp
    · cases l.isPrefixOf s <;> simp
    · by_cases h : s = l <;> simp [h]

theorem at0_le (cfg : Config) (dot : Bool) (s : List Char) : Pattern.at0 cfg dot s ≤ s.length := by
  unfold Pattern.at0
  split
  · rename_i h
    cases s with
    | nil => simp at h
    | cons c t => simp
  · omega

theorem searchStart_literal {ast : Ast} {l : List Char} (hl : toLiteral ast = some l) (cfg : Config) (s : List Char) :
    searchStart ast cfg s = 0 := by
  simp [searchStart, hl]

theorem searchStart_regex {ast : Ast} (hn : toLiteral ast = none) (cfg : Config) (s : List Char) :
    searchStart ast cfg s = Pattern.at0 cfg (startsWithLiteralDot ast) s := by
  simp [searchStart, hn]

namespace Proofs

theorem toRegex_correct (ast : Ast) (cfg : Config) (hb : cfg.anchorBegin = true) (he : cfg.anchorEnd = true)
    (r : List Char) (h : toRegex ast cfg = .ok r) (re : List ReAtom) (hp : parseRe r = some re)
    (g : Bool) (s : List Char) :
    (findAt g re s 0).isSome = globMatch ast s := by
  obtain ⟨res, hc, rfl⟩ := toRegex_compiles ast cfg r h re hp
  rw [hb, he]
  exact (findAt_anchored_isSome g _ s).trans (matchHere_glob g s.length ast res hc s)

theorem rfind_regex_eq (re : List ReAtom) (dot : Bool) (cfg : Config) (v : List Char) :
    Pattern.rfind ⟨.regex re dot, cfg⟩ v =
      (Pattern.find ⟨.regex re dot, cfg⟩ v).map (rfindLoop (!cfg.shortest) re v (v.length + 1)) := by
  simp only [Pattern.rfind]
  cases Pattern.find ⟨.regex re dot, cfg⟩ v <;> rfl

theorem find_leftmost (ast : Ast) (cfg : Config) (p : Pattern) (h : Pattern.fromAst ast cfg = .ok p)
    (s : List Char) :
    match p.find s with
    | none => ∀ i j, searchStart ast cfg s ≤ i → ¬ occurs cfg.anchorBegin cfg.anchorEnd ast s i j
    | some (a, e) => searchStart ast cfg s ≤ a ∧ occurs cfg.anchorBegin cfg.anchorEnd ast s a e ∧
        ∀ i j, searchStart ast cfg s ≤ i → i < a → ¬ occurs cfg.anchorBegin cfg.anchorEnd ast s i j := by
  rcases fromAst_cases ast cfg p h with ⟨l, hl, rfl⟩ | ⟨hnone, res, hres, rfl⟩
  · have := find_literal ast l hl cfg s
    rw [searchStart_literal hl]
    cases hf : Pattern.find ⟨.literal l, cfg⟩ s with
    | none => rw [hf] at this; exact fun i j _ => this i j
    | some ae =>
      obtain ⟨a, e⟩ := ae
      rw [hf] at this
      exact ⟨Nat.zero_le _, this.1, fun i j _ hi => this.2 i j hi⟩
  · rw [searchStart_regex hnone]
    simp only [Pattern.find]
    exact findAt_cfg ast res hres _ cfg.anchorBegin cfg.anchorEnd s _ (at0_le _ _ _)

theorem rfind_rightmost (ast : Ast) (cfg : Config) (p : Pattern) (h : Pattern.fromAst ast cfg = .ok p)
    (s : List Char) :
    match p.rfind s with
    | none => ∀ i j, searchStart ast cfg s ≤ i → ¬ occurs cfg.anchorBegin cfg.anchorEnd ast s i j
    | some (a, e) => searchStart ast cfg s ≤ a ∧ occurs cfg.anchorBegin cfg.anchorEnd ast s a e ∧
        ∀ i j, a < i → ¬ occurs cfg.anchorBegin cfg.anchorEnd ast s i j := by
  rcases fromAst_cases ast cfg p h with ⟨l, hl, rfl⟩ | ⟨hnone, res, hres, rfl⟩
  · have := rfind_literal ast l hl cfg s
    rw [searchStart_literal hl]
    cases hf : Pattern.rfind ⟨.literal l, cfg⟩ s with
    | none => rw [hf] at this; exact fun i j _ => this i j
    | some ae =>
      obtain ⟨a, e⟩ := ae
      rw [hf] at this
      exact ⟨Nat.zero_le _, this.1, this.2⟩
  · have hfind := find_leftmost ast cfg _ h s
    rw [rfind_regex_eq]
    cases hf : Pattern.find ⟨.regex (cfgRe cfg.anchorBegin cfg.anchorEnd res) (startsWithLiteralDot ast), cfg⟩ s with
    | none => rw [hf] at hfind; exact hfind
    | some r =>
      obtain ⟨a, e⟩ := r
      rw [hf] at hfind
      obtain ⟨h1, h2, _⟩ := hfind
      simp only [Option.map_some]
      have hal : a ≤ s.length := occurs_start_le h2
      obtain ⟨k1, k2, k3⟩ := rfindLoop_cfg ast res hres (!cfg.shortest) cfg.anchorBegin cfg.anchorEnd s
        (s.length + 1) a e (by omega) h2
      exact ⟨by omega, k2, k3⟩

theorem isMatch_iff (ast : Ast) (cfg : Config) (p : Pattern) (h : Pattern.fromAst ast cfg = .ok p)
    (s : List Char) :
    p.isMatch s = true ↔
      ∃ i j, searchStart ast cfg s ≤ i ∧ occurs cfg.anchorBegin cfg.anchorEnd ast s i j := by
  rw [isMatch_eq_find]
  have := find_leftmost ast cfg p h s
  cases hf : p.find s with
  | none =>
    rw [hf] at this
    simp only [Option.isSome_none, Bool.false_eq_true, false_iff]
    rintro ⟨i, j, hi, hocc⟩
    exact this i j hi hocc
  | some ae =>
    obtain ⟨a, e⟩ := ae
    rw [hf] at this
    simp only [Option.isSome_some, true_iff]
    exact ⟨a, e, this.1, this.2.1⟩

theorem occursB_iff (ab ae : Bool) (ast : Ast) (s : List Char) (i j : Nat) :
    occursB ab ae ast s i j = true ↔ occurs ab ae ast s i j := by
  unfold occursB occurs
  cases ab <;> cases ae <;> simp [and_assoc]

theorem specIsMatchFrom_iff (ab ae : Bool) (ast : Ast) (s : List Char) (start : Nat) :
    specIsMatchFrom ab ae ast s start = true ↔ ∃ i j, start ≤ i ∧ occurs ab ae ast s i j := by
  unfold specIsMatchFrom
  simp only [List.any_eq_true, List.mem_range, Bool.and_eq_true, decide_eq_true_eq, occursB_iff]
  constructor
  · rintro ⟨i, _, hi, j, _, hocc⟩
    exact ⟨i, j, hi, hocc⟩
  · rintro ⟨i, j, hi, hocc⟩
    have h1 := hocc.1
    have h2 := hocc.2.1
    exact ⟨i, by omega, hi, j, by omega, hocc⟩

theorem isMatch_any_config (ast : Ast) (cfg : Config) (p : Pattern) (h : Pattern.fromAst ast cfg = .ok p)
    (s : List Char) :
    p.isMatch s = specIsMatchFrom cfg.anchorBegin cfg.anchorEnd ast s (searchStart ast cfg s) := by
  rw [Bool.eq_iff_iff, isMatch_iff ast cfg p h s, specIsMatchFrom_iff]

theorem explicitDot_eq (ast : Ast) : explicitDot ast = startsWithLiteralDot ast := by
  cases ast with
  | nil => rfl
  | cons a r => cases a <;> rfl

theorem searchStart_no_period (ast : Ast) (cfg : Config) (hl : cfg.literalPeriod = false) (s : List Char) :
    searchStart ast cfg s = 0 := by
  simp [searchStart, Pattern.at0, hl]

theorem isMatch_full (ast : Ast) (cfg : Config) (hb : cfg.anchorBegin = true) (he : cfg.anchorEnd = true)
    (p : Pattern) (h : Pattern.fromAst ast cfg = .ok p) (s : List Char) :
    p.isMatch s = true ↔ searchStart ast cfg s = 0 ∧ globMatch ast s = true := by
  rw [isMatch_iff ast cfg p h s, hb, he]
  simp only [occurs_full]
  exact ⟨fun ⟨i, _, hi, hi0, _, hg⟩ => ⟨by omega, hg⟩,
    fun ⟨h0, hg⟩ => ⟨0, s.length, by omega, rfl, rfl, hg⟩⟩

/-- under `literal_period` the search starts at 0 exactly when XCU 2.13.3 lets the text match: on the regex path by
    `Pattern.at0`; on the literal fast path always — but a literal that matches a text with a leading period begins
    with that period -/
theorem searchStart_period (ast : Ast) (cfg : Config) (hl : cfg.literalPeriod = true) (s : List Char)
    (hg : globMatch ast s = true) :
    searchStart ast cfg s = 0 ↔ (s.head? ≠ some '.' ∨ explicitDot ast = true) := by
  cases hlit : toLiteral ast with
  | some l =>
    rw [searchStart_literal hlit]
    obtain rfl : s = l := by
      have := toLiteral_glob ast l hlit s
      rw [show globAtoms ast s = true from hg] at this
      simpa using this.symm
    refine ⟨fun _ => ?_, fun _ => rfl⟩
    match s, hlit with
    | [], _ => exact .inl (by simp)
    | c :: t, hlit =>
      by_cases hc : c = '.'
      · subst hc; exact .inr (literal_head_dot ast t hlit)
      · exact .inl (by simp [hc])
  | none =>
    rw [searchStart_regex hlit, explicitDot_eq]
    simp only [Pattern.at0, hl, Bool.true_and]
    by_cases hd : startsWithLiteralDot ast = true
    · simp [hd]
    · by_cases hh : s.head? = some '.' <;> simp [hd, hh]

theorem isMatch_correct (ast : Ast) (cfg : Config) (hb : cfg.anchorBegin = true) (he : cfg.anchorEnd = true)
    (hl : cfg.literalPeriod = false) (p : Pattern) (h : Pattern.fromAst ast cfg = .ok p) (s : List Char) :
    p.isMatch s = globMatch ast s := by
  rw [Bool.eq_iff_iff, isMatch_full ast cfg hb he p h s, searchStart_no_period ast cfg hl]
  simp

theorem literal_period_correct (ast : Ast) (cfg : Config) (hb : cfg.anchorBegin = true)
    (he : cfg.anchorEnd = true) (hl : cfg.literalPeriod = true) (p : Pattern)
    (h : Pattern.fromAst ast cfg = .ok p) (s : List Char) :
    p.isMatch s = specPeriodMatch ast s := by
  rw [Bool.eq_iff_iff, isMatch_full ast cfg hb he p h s]
  unfold specPeriodMatch
  simp only [Bool.and_eq_true, Bool.or_eq_true, bne_iff_ne, ne_eq]
  exact ⟨fun ⟨h0, hg⟩ => ⟨hg, (searchStart_period ast cfg hl s hg).mp h0⟩,
    fun ⟨hg, hd⟩ => ⟨(searchStart_period ast cfg hl s hg).mpr hd, hg⟩⟩

theorem find_end_extremal (ast : Ast) (hn : noMulti ast = true) (cfg : Config) (p : Pattern)
    (h : Pattern.fromAst ast cfg = .ok p) (s : List Char) (a e : Nat) (hf : p.find s = some (a, e)) :
    ∀ j, occurs cfg.anchorBegin cfg.anchorEnd ast s a j → if cfg.shortest then e ≤ j else j ≤ e := by
  intro j hocc
  rcases fromAst_cases ast cfg p h with ⟨l, hl, rfl⟩ | ⟨hnone, res, hres, rfl⟩
  · -- literal: every occurrence at `a` has the length of the literal
    have hfl := find_leftmost ast cfg _ h s
    rw [hf] at hfl
    obtain ⟨_, _, e1, _, _⟩ := (occurs_literal_prefix ast l hl _ _ s a j).mp hocc
    obtain ⟨_, _, e2, _, _⟩ := (occurs_literal_prefix ast l hl _ _ s a e).mp hfl.2.1
    split <;> omega
  · -- regex: `e` comes from the rest the matcher took at `a`, `j` from the rest `s.drop j` of the denotation
    simp only [Pattern.find] at hf
    have hl := findAt_is_leftmost (!cfg.shortest) (cfgRe cfg.anchorBegin cfg.anchorEnd res) s _
      (at0_le cfg (startsWithLiteralDot ast) s)
    rw [hf] at hl
    obtain ⟨-, hal, ⟨ρ, hm, he⟩, -⟩ := hl
    rw [← matchHere_head] at hm
    have hden := (denotes_occurs ast res hres _ _ s a hal (s.drop j)).mpr ⟨j, hocc, rfl⟩
    have := matchHere_cfg_extremal ast res hres hn _ _ _ _ _ ρ hm _ hden
    obtain ⟨k, hk, rfl⟩ := (denotes_occurs ast res hres _ _ s a hal ρ).mp (matchHere_sound _ _ _ _ _ hm)
    have h1 := hocc.2.1
    have h2 := hk.2.1
    simp only [List.length_drop] at this he
    cases hsh : cfg.shortest <;> simp only [hsh, Bool.not_true, Bool.not_false, if_true, Bool.false_eq_true,
      if_false] at this ⊢ <;> omega

end Proofs

end YashModel.Fnmatch
