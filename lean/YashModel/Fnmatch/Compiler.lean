/-
  C04 — the direct compiler from syntax trees to regexes: what the text `to_regex` writes parses back to
  (`toRegex_parse_cfg`, Emit.lean), without the text.  `none` = the regex compiler refuses the text (an inverted
  range) or the translation does (`cAtoms_isSome`, Compiles.lean).
-/
import YashModel.Fnmatch.Spec

namespace YashModel.Fnmatch

def cAtom1 : BracketAtom → Option ClassItem
  | .char c => some (.single c)
  | .collating [c] => some (.single c)
  | .collating _ => none
  | .equiv [c] => some (.single c)
  | .equiv _ => none
  | .cls name => (asciiKind name).map .ascii

def cItem : BracketItem → Option ClassItem
  | .atom a => cAtom1 a
  | .range s e =>
    match atomBound s, atomBound e with
    | some lo, some hi => if lo.toNat ≤ hi.toNat then some (.range lo hi) else none
    | _, _ => none

def cItems : List BracketItem → Option (List ClassItem)
  | [] => some []
  | it :: r =>
    match cItem it, cItems r with
    | some a, some b => some (a :: b)
    | _, _ => none

/-- the branch an item of an alternation stands for -/
def cAlt (it : BracketItem) : Option (List Simple) :=
  if it.multi then
    match it with
    | .atom (.collating v) => some (v.map .lit)
    | .atom (.equiv v) => some (v.map .lit)
    | _ => none
  else (cItem it).map (fun ci => [.cls { neg := false, items := [ci] }])

def cAlts : List BracketItem → Option (List (List Simple))
  | [] => some []
  | it :: r =>
    match cAlt it, cAlts r with
    | some a, some b => some (a :: b)
    | _, _ => none

theorem cAlts_cons (it : BracketItem) (r : List BracketItem) :
    cAlts (it :: r) = match cAlt it, cAlts r with
      | some a, some b => some (a :: b)
      | _, _ => none := rfl

def cBracket (b : Bracket) : Option ReAtom :=
  if b.items = [] then none
  else if !b.multi then (cItems b.items).map (fun ci => .one (.cls { neg := b.complement, items := ci }))
  else if !b.complement then (cAlts b.items).map .alt
  else if b.items.all BracketItem.multi then some .any
  else (cItems (b.items.filter (fun it => !it.multi))).map
    (fun ci => .one (.cls { neg := true, items := ci }))

def cAtom : Atom → Option ReAtom
  | .char c => some (.one (.lit c))
  | .anyChar => some .any
  | .anyString => some .star
  | .bracket b => cBracket b

def cAtoms : List Atom → Option (List ReAtom)
  | [] => some []
  | a :: r =>
    match cAtom a, cAtoms r with
    | some x, some y => some (x :: y)
    | _, _ => none

theorem cAtoms_cons_some {a : Atom} {r : List Atom} {res : List ReAtom} (h : cAtoms (a :: r) = some res) :
    ∃ ra rr, cAtom a = some ra ∧ cAtoms r = some rr ∧ res = ra :: rr := by
  simp only [cAtoms] at h
  split at h
  · rename_i ra rr hra hrr
    exact ⟨ra, rr, hra, hrr, (Option.some.inj h).symm⟩
  · cases h

/-- the regex a configuration compiles to: `\A` / `\z` around the atoms of the pattern -/
def cfgRe (ab ae : Bool) (res : List ReAtom) : List ReAtom :=
  (if ab then [ReAtom.bos] else []) ++ res ++ (if ae then [ReAtom.eos] else [])

def noAnchor : ReAtom → Bool
  | .bos => false
  | .eos => false
  | _ => true

/-- atoms that consume characters without alternatives or anchors -/
def plainAtom : ReAtom → Bool
  | .any => true
  | .star => true
  | .one _ => true
  | _ => false

end YashModel.Fnmatch
