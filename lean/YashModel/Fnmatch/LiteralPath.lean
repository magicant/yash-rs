/-
  C04 — patterns that are literal strings, and the literal fast path of lib.rs.  `to_literal` characterised
  (`toLiteral_spec`, `toLiteral_glob`: the glob language of a literal is the string itself); on the fast path an
  occurrence is a place where the literal stands (`occurs_literal_prefix`), `str::find` / `str::rfind` take the
  first / last: they are the Spec's least / greatest search (`strFind_eq`, `strRFind_eq`), which meets its description
  (`leastUpTo_spec`, `greatestUpTo_spec`, UpTo.lean), and so `Pattern::find` / `rfind` return the leftmost / rightmost
  occurrence under each of the four anchorings (`find_literal`, `rfind_literal`).
-/
import YashModel.Fnmatch.Parser
import YashModel.Fnmatch.UpTo

namespace YashModel.Fnmatch

theorem drop_split {s : List Char} {i j : Nat} (hij : i ≤ j) (hj : j ≤ s.length) :
    s.drop i = (s.take j).drop i ++ s.drop j := by
  have h1 : s = s.take j ++ s.drop j := (List.take_append_drop j s).symm
  have h2 : i ≤ (s.take j).length := by simp; omega
  conv => lhs; rw [h1]
  rw [List.drop_append_of_le_length h2]

namespace Proofs

theorem toLiteral_spec (ast : Ast) (l : List Char) : toLiteral ast = some l ↔ ast = l.map Atom.char := by
  induction ast generalizing l with
  | nil => cases l <;> simp [toLiteral]
  | cons a r ih =>
    cases a with
    | char c =>
      simp only [toLiteral]
      cases hr : toLiteral r with
      | none =>
        simp only []
        constructor
        · intro h; cases h
        · intro h
          cases l with
          | nil => simp at h
          | cons d t =>
            simp at h
            have := (ih t).mpr h.2
            rw [hr] at this; cases this
      | some l' =>
        simp only [Option.some.injEq]
        have := (ih l').mp hr
        constructor
        · intro h; subst h; simp [this]
        · intro h
          cases l with
          | nil => simp at h
          | cons d t =>
            simp at h
            have h2 := (ih t).mpr h.2
            rw [hr] at h2
            simp at h2
            rw [h.1, h2]
    | anyChar => cases l <;> simp [toLiteral]
    | anyString => cases l <;> simp [toLiteral]
    | bracket b => cases l <;> simp [toLiteral]

theorem toLiteral_chars (cs : List Char) : toLiteral (cs.map Atom.char) = some cs :=
  (toLiteral_spec _ cs).mpr rfl

theorem globAtoms_chars (l s : List Char) : globAtoms (l.map Atom.char) s = decide (s = l) := by
  induction l generalizing s with
  | nil => cases s <;> simp [globAtoms]
  | cons c t ih =>
    cases s with
    | nil => simp [globAtoms]
    | cons c' t' =>
      simp only [List.map_cons, globAtoms, ih t']
      by_cases hcc : c' = c <;> simp [hcc]

theorem toLiteral_glob (ast : Ast) (l : List Char) (h : toLiteral ast = some l) (s : List Char) :
    globAtoms ast s = decide (s = l) := by
  obtain rfl := (toLiteral_spec ast l).mp h
  exact globAtoms_chars l s

theorem astDefined_chars (l : List Char) : astDefined (l.map Atom.char) = true := by
  simp [astDefined, atomOk]

theorem noMulti_chars (l : List Char) : noMulti (l.map Atom.char) = true := by
  simp [noMulti, noMultiAtom]

theorem literal_is_literal (cs : List Char) (cfg : Config) (hb : cfg.anchorBegin = true)
    (he : cfg.anchorEnd = true) :
    parseAtoms (cs.map .literal) = cs.map .char ∧
    ∃ p, Pattern.parse (cs.map .literal) cfg = .ok p ∧ ∀ s, p.isMatch s = decide (s = cs) := by
  have h1 := parseAtoms_literals cs
  have h2 := toLiteral_chars cs
  refine ⟨h1, ⟨.literal cs, cfg⟩, ?_, ?_⟩
  · simp [Pattern.parse, Pattern.fromAst, h1, h2]
  · intro s; simp [Pattern.isMatch, hb, he]

theorem noMulti_of_literal (ast : Ast) (l : List Char) (h : toLiteral ast = some l) : noMulti ast = true := by
  obtain rfl := (toLiteral_spec ast l).mp h
  exact noMulti_chars l

theorem fromAst_literal (ast : Ast) (l : List Char) (hl : toLiteral ast = some l) (cfg : Config) :
    Pattern.fromAst ast cfg = .ok ⟨.literal l, cfg⟩ := by
  simp only [Pattern.fromAst, hl]

theorem literal_head_dot (ast : Ast) (t : List Char) (h : toLiteral ast = some ('.' :: t)) :
    explicitDot ast = true := by
  obtain rfl := (toLiteral_spec ast _).mp h
  rfl

end Proofs

theorem occurs_literal (ast : Ast) (l : List Char) (hl : toLiteral ast = some l) (ab ae : Bool)
    (s : List Char) (i j : Nat) :
    occurs ab ae ast s i j ↔
      (i ≤ j ∧ j ≤ s.length ∧ (ab = true → i = 0) ∧ (ae = true → j = s.length) ∧ (s.take j).drop i = l) := by
  unfold occurs globMatch
  rw [Proofs.toLiteral_glob ast l hl]
  simp

theorem mid_eq_iff (s l : List Char) (i j : Nat) (hij : i ≤ j) (hj : j ≤ s.length) :
    (s.take j).drop i = l ↔ (l <+: s.drop i ∧ j = i + l.length) := by
  constructor
  · intro h
    refine ⟨⟨s.drop j, ?_⟩, ?_⟩
    · rw [← h]; exact (drop_split hij hj).symm
    · have := congrArg List.length h
      simp at this; omega
  · rintro ⟨⟨t, ht⟩, hjl⟩
    rw [List.drop_take, ← ht, hjl]
    simp

theorem occurs_literal_prefix (ast : Ast) (l : List Char) (hl : toLiteral ast = some l) (ab ae : Bool)
    (s : List Char) (i j : Nat) :
    occurs ab ae ast s i j ↔
      (i ≤ s.length ∧ l <+: s.drop i ∧ j = i + l.length ∧ (ab = true → i = 0) ∧ (ae = true → j = s.length)) := by
  rw [occurs_literal ast l hl]
  constructor
  · rintro ⟨hij, hj, h0, he, hm⟩
    obtain ⟨hpre, hjl⟩ := (mid_eq_iff s l i j hij hj).mp hm
    exact ⟨by omega, hpre, hjl, h0, he⟩
  · rintro ⟨hi, hpre, rfl, h0, he⟩
    have hle : i + l.length ≤ s.length := by have := hpre.length_le; simp at this; omega
    exact ⟨by omega, hle, h0, he, (mid_eq_iff s l i _ (by omega) hle).mpr ⟨hpre, rfl⟩⟩

/-- `str::find` is the Spec's least search for a place where the literal stands. -/
theorem strFind_eq (p : List Char) (t : List Char) (pos : Nat) :
    strFind p pos t = (leastUpTo (fun k => decide (p <+: t.drop k)) t.length).map (pos + ·) := by
  induction t generalizing pos with
  | nil => cases p <;> simp [strFind, leastUpTo]
  | cons c t ih =>
    rw [strFind, ih, List.length_cons, leastUpTo_front]
    simp only [List.drop_zero, List.drop_succ_cons, List.isPrefixOf_iff_prefix, decide_eq_true_eq]
    split
    · simp
    · cases leastUpTo _ t.length <;> simp; omega

theorem strRFind_eq (p : List Char) (t : List Char) (pos : Nat) :
    strRFind p pos t = (greatestUpTo (fun k => decide (p <+: t.drop k)) t.length).map (pos + ·) := by
  induction t generalizing pos with
  | nil => cases p <;> simp [strRFind, greatestUpTo]
  | cons c t ih =>
    rw [strRFind, ih, List.length_cons, greatestUpTo_front]
    simp only [List.drop_zero, List.drop_succ_cons, List.isPrefixOf_iff_prefix, decide_eq_true_eq]
    cases greatestUpTo _ t.length with
    | some k => simp; omega
    | none => simp only [Option.map_none]; split <;> simp

theorem endsWith_iff (v l : List Char) : endsWith v l = true ↔ l <:+ v := by
  unfold endsWith
  rw [List.isPrefixOf_iff_prefix, List.reverse_prefix]

theorem find_literal (ast : Ast) (l : List Char) (hl : toLiteral ast = some l) (cfg : Config) (s : List Char) :
    match Pattern.find ⟨.literal l, cfg⟩ s with
    | none => ∀ i j, ¬ occurs cfg.anchorBegin cfg.anchorEnd ast s i j
    | some (a, e) => occurs cfg.anchorBegin cfg.anchorEnd ast s a e ∧
        ∀ i j, i < a → ¬ occurs cfg.anchorBegin cfg.anchorEnd ast s i j := by
  have hocc := occurs_literal_prefix ast l hl
  cases hab : cfg.anchorBegin <;> cases hae : cfg.anchorEnd <;> simp only [Pattern.find, hab, hae]
  · -- unanchored: `str::find`
    rw [strFind_eq]
    rcases @Proofs.leastUpTo_spec (fun k => decide (l <+: s.drop k)) s.length with
      ⟨h1, h2⟩ | ⟨a, h1, hk, hpre, hmin⟩ <;> rw [h1]
    · exact fun i j h => of_decide_eq_false (h2 i ((hocc _ _ s i j).mp h).1) ((hocc _ _ s i j).mp h).2.1
    · rw [Option.map_some, Nat.zero_add]
      exact ⟨(hocc false false s a _).mpr ⟨hk, of_decide_eq_true hpre, rfl, nofun, nofun⟩,
        fun i j hi h => of_decide_eq_false (hmin i hi) ((hocc _ _ s i j).mp h).2.1⟩
  · -- anchored at the end: `ends_with`; the start is determined
    by_cases he : endsWith s l = true
    · rw [if_pos he]
      have hsuf := (endsWith_iff s l).mp he
      have hle : l.length ≤ s.length := hsuf.length_le
      have hdrop : s.drop (s.length - l.length) = l := (List.suffix_iff_eq_drop.mp hsuf).symm
      refine ⟨(hocc false true s _ _).mpr ⟨by omega, by rw [hdrop]; exact List.prefix_refl _, by omega, nofun,
        fun _ => rfl⟩, ?_⟩
      intro i j hi h
      obtain ⟨_, _, hj, _, hje⟩ := (hocc _ _ s i j).mp h
      have := hje rfl
      omega
    · rw [if_neg he]
      intro i j h
      obtain ⟨hi, hpre, hj, _, hje⟩ := (hocc _ _ s i j).mp h
      have hlen : l.length = (s.drop i).length := by have := hje rfl; simp; omega
      apply he
      rw [endsWith_iff, hpre.eq_of_length hlen]
      exact List.drop_suffix i s
  · -- anchored at the beginning: `starts_with`
    by_cases hp : l.isPrefixOf s = true
    · rw [if_pos hp]
      exact ⟨(hocc true false s 0 _).mpr ⟨Nat.zero_le _, by simpa using List.isPrefixOf_iff_prefix.mp hp, by simp,
        fun _ => rfl, nofun⟩, fun i j hi => by omega⟩
    · rw [if_neg hp]
      intro i j h
      obtain ⟨_, hpre, _, hi0, _⟩ := (hocc _ _ s i j).mp h
      rw [hi0 rfl] at hpre
      exact hp (List.isPrefixOf_iff_prefix.mpr (by simpa using hpre))
  · -- both anchors: equality
    by_cases hs : s = l
    · rw [if_pos hs]
      subst hs
      exact ⟨(hocc true true s 0 _).mpr ⟨Nat.zero_le _, by simp, by simp, fun _ => rfl, fun _ => by simp⟩,
        fun i j hi => by omega⟩
    · rw [if_neg hs]
      intro i j h
      obtain ⟨_, hpre, hj, hi0, hje⟩ := (hocc _ _ s i j).mp h
      obtain rfl := hi0 rfl
      have hlen : l.length = s.length := by have := hje rfl; omega
      exact hs (by simpa using (hpre.eq_of_length (by simpa using hlen)).symm)

theorem occurs_literal_unique (ast : Ast) (l : List Char) (hl : toLiteral ast = some l) (ab ae : Bool)
    (hanch : ab = true ∨ ae = true) (s : List Char) (i j i' j' : Nat)
    (h : occurs ab ae ast s i j) (h' : occurs ab ae ast s i' j') : i = i' := by
  obtain ⟨_, _, hj, h0, he⟩ := (occurs_literal_prefix ast l hl ab ae s i j).mp h
  obtain ⟨_, _, hj', h0', he'⟩ := (occurs_literal_prefix ast l hl ab ae s i' j').mp h'
  rcases hanch with ha | ha
  · rw [h0 ha, h0' ha]
  · have := he ha
    have := he' ha
    omega

theorem rfind_literal (ast : Ast) (l : List Char) (hl : toLiteral ast = some l) (cfg : Config) (s : List Char) :
    match Pattern.rfind ⟨.literal l, cfg⟩ s with
    | none => ∀ i j, ¬ occurs cfg.anchorBegin cfg.anchorEnd ast s i j
    | some (a, e) => occurs cfg.anchorBegin cfg.anchorEnd ast s a e ∧
        ∀ i j, a < i → ¬ occurs cfg.anchorBegin cfg.anchorEnd ast s i j := by
  by_cases hanch : cfg.anchorBegin = true ∨ cfg.anchorEnd = true
  · -- anchored: the three arms of `rfind` are those of `find`, word for word
    have hrf : Pattern.rfind ⟨.literal l, cfg⟩ s = Pattern.find ⟨.literal l, cfg⟩ s := by
      simp only [Pattern.rfind, Pattern.find]
      cases hab : cfg.anchorBegin <;> cases hae : cfg.anchorEnd
      · rw [hab, hae] at hanch; exact absurd hanch (by decide)
      all_goals rfl
    rw [hrf]
    have := find_literal ast l hl cfg s
    cases hf : Pattern.find ⟨.literal l, cfg⟩ s with
    | none => rw [hf] at this; exact this
    | some r =>
      obtain ⟨a, e⟩ := r
      rw [hf] at this
      refine ⟨this.1, ?_⟩
      intro i j hi h
      have := occurs_literal_unique ast l hl _ _ hanch s a e i j this.1 h
      omega
  · have hab : cfg.anchorBegin = false := Bool.eq_false_iff.mpr fun h => hanch (.inl h)
    have hae : cfg.anchorEnd = false := Bool.eq_false_iff.mpr fun h => hanch (.inr h)
    have hocc := occurs_literal_prefix ast l hl false false s
    simp only [Pattern.rfind, hab, hae]
    rw [strRFind_eq]
    rcases @Proofs.greatestUpTo_spec (fun k => decide (l <+: s.drop k)) s.length with
      ⟨h1, h2⟩ | ⟨a, h1, hk, hpre, hmax⟩ <;> rw [h1]
    · exact fun i j h => of_decide_eq_false (h2 i ((hocc i j).mp h).1) ((hocc i j).mp h).2.1
    · rw [Option.map_some, Nat.zero_add]
      exact ⟨(hocc a _).mpr ⟨hk, of_decide_eq_true hpre, rfl, nofun, nofun⟩,
        fun i j hi h => of_decide_eq_false (hmax i hi ((hocc i j).mp h).1) ((hocc i j).mp h).2.1⟩

end YashModel.Fnmatch
