/-
  C04 — what a compiled pattern denotes.  For EVERY compiled pattern (also with multi-character collating elements):
  the emitted atom of a bracket leaves the rests the Spec's `bracketRests` lists (`bracket_denotes`: a class denotes the
  same set, `cItems_mem`; a branch of the alternation matches what its item matches, `cAlt_match`); the rests the regex
  of the atoms leaves of `s` are exactly the decompositions `s = pre ++ ρ` with `pre` in the glob language
  (`denotes_atoms`); the anchors of a configuration add "at the beginning of the text" / "nothing left" (`denotes_cfg`).
-/
import YashModel.Fnmatch.Emit
import YashModel.Fnmatch.RegexSem

namespace YashModel.Fnmatch

theorem cItem_mem {it : BracketItem} {ci : ClassItem} (h : cItem it = some ci) (c : Char) :
    ci.mem c = itemHas it c := by
  cases it with
  | atom a =>
    change cAtom1 a = some ci at h
    show ci.mem c = atomHas a c
    rcases atom_forms a with ⟨c', _, _, _, _, _, hc, _, hh⟩ | ⟨_, _, _, _, _, _, _, _, hc, _⟩ |
      ⟨_, _, _, _, _, hc, _⟩ | ⟨name, rfl⟩
    · rw [hc] at h; obtain rfl := Option.some.inj h
      rw [hh]; rfl
    · rw [hc] at h; cases h
    · rw [hc] at h; cases h
    · simp [cAtom1] at h
      obtain ⟨k, hk, rfl⟩ := h
      simp [ClassItem.mem, atomHas, hk]
  | range s e =>
    simp only [cItem] at h
    split at h
    · rename_i lo hi hlo hhi
      split at h
      · simp at h; subst h; simp [ClassItem.mem, itemHas, hlo, hhi]
      · simp at h
    · simp at h

theorem cItems_mem {items : List BracketItem} {ci : List ClassItem} (h : cItems items = some ci)
    (c : Char) : ci.any (·.mem c) = items.any (itemHas · c) := by
  induction items generalizing ci with
  | nil => simp [cItems] at h; subst h; simp
  | cons it rest ih =>
    simp only [cItems] at h
    split at h
    · rename_i a b ha hb
      simp at h; subst h
      simp [cItem_mem ha, ih hb]
    · simp at h

theorem matchSimples_lits (v s s' : List Char) : matchSimples (v.map .lit) s = some s' ↔ s = v ++ s' := by
  induction v generalizing s with
  | nil => simp [matchSimples, eq_comm]
  | cons a t ih =>
    cases s with
    | nil => simp [matchSimples]
    | cons c r =>
      simp only [List.map_cons, matchSimples, Simple.mem, List.cons_append, List.cons.injEq]
      by_cases hca : c = a
      · subst hca; simp [ih]
      · simp [hca]

theorem noSeq_of_not_multi {it : BracketItem} (h : it.multi = false) : itemSeq it = none := by
  cases it with
  | range s e => rfl
  | atom a =>
    rcases atom_forms a with ⟨_, _, _, _, _, _, _, hs, _⟩ | ⟨_, _, _, _, _, hm, _⟩ | ⟨_, _, _, _, _, _, hs⟩ | ⟨name, rfl⟩
    · exact hs
    · rw [show (BracketItem.atom a).multi = a.multi from rfl, hm] at h; cases h
    · exact hs
    · rfl

theorem itemHas_of_multi {it : BracketItem} (h : it.multi = true) (c : Char) : itemHas it c = false := by
  obtain ⟨_, _, _, _, _, _, hh⟩ := multi_item h
  exact hh c

/-- `h` is something the bracket can match at the head of a string: one character of (or, complemented, not
    of) its set, or the character sequence of one of its multi-character elements -/
def bracketHead (b : Bracket) (h : List Char) : Prop :=
  (∃ c, h = [c] ∧ (b.items.any (itemHas · c) != b.complement) = true) ∨
  (b.complement = false ∧ ∃ it ∈ b.items, itemSeq it = some h)

theorem mem_bracketRests (b : Bracket) (x x' : List Char) :
    x' ∈ bracketRests b x ↔ ∃ h, x = h ++ x' ∧ bracketHead b h := by
  unfold bracketRests bracketHead
  rw [List.mem_append]
  constructor
  · rintro (h | h)
    · cases x with
      | nil => simp at h
      | cons c t =>
        simp only [] at h
        split at h
        · rename_i hc
          simp at h; subst h
          exact ⟨[c], rfl, Or.inl ⟨c, rfl, hc⟩⟩
        · simp at h
    · split at h
      · simp at h
      · rename_i hc
        rw [List.mem_filterMap] at h
        obtain ⟨it, hit, hx⟩ := h
        cases hs : itemSeq it with
        | none => rw [hs] at hx; simp at hx
        | some v =>
          rw [hs] at hx
          simp only [] at hx
          split at hx
          · rename_i hp
            simp at hx; subst hx
            obtain ⟨t, ht⟩ := List.isPrefixOf_iff_prefix.mp hp
            refine ⟨v, ?_, Or.inr ⟨by simpa using hc, it, hit, hs⟩⟩
            rw [← ht]; simp
          · simp at hx
  · rintro ⟨h, hx, hh | ⟨hc, it, hit, hs⟩⟩
    · obtain ⟨c, rfl, hc⟩ := hh
      left
      subst hx
      simp [hc]
    · right
      rw [hc]
      simp only [Bool.false_eq_true, if_false]
      rw [List.mem_filterMap]
      refine ⟨it, hit, ?_⟩
      rw [hs]
      subst hx
      simp

/-- what one alternative of the emitted `(?: | )` matches: one character of the item, or its character sequence -/
theorem cAlt_match {it : BracketItem} {b : List Simple} (h : cAlt it = some b) (s s' : List Char) :
    matchSimples b s = some s' ↔
      (∃ c, s = c :: s' ∧ itemHas it c = true) ∨ (∃ v, itemSeq it = some v ∧ s = v ++ s') := by
  by_cases hm : it.multi = true
  · obtain ⟨w, _, hs, _, ha, _, hno⟩ := multi_item hm
    rw [ha] at h
    obtain rfl := Option.some.inj h
    rw [matchSimples_lits, hs]
    simp [hno]
  · unfold cAlt at h
    rw [if_neg hm] at h
    have hm' : it.multi = false := by simpa using hm
    simp only [Option.map_eq_some_iff] at h
    obtain ⟨ci, hci, rfl⟩ := h
    rw [noSeq_of_not_multi hm']
    cases s with
    | nil => simp [matchSimples]
    | cons c t =>
      simp only [matchSimples, Simple.mem, Cls.mem, List.any_cons, List.any_nil, Bool.or_false, Bool.bne_false,
        cItem_mem hci c, reduceCtorEq, false_and, exists_false, or_false]
      by_cases hh : itemHas it c = true
      · simp only [hh, if_true, matchSimples, Option.some.injEq]
        exact ⟨fun h => ⟨c, by rw [h], hh⟩, fun ⟨c1, h, _⟩ => (List.cons.inj h).2⟩
      · simp only [hh, Bool.false_eq_true, if_false, reduceCtorEq, false_iff]
        rintro ⟨c1, h, h1⟩
        rw [(List.cons.inj h).1] at hh; exact hh h1

theorem cAlts_map {items : List BracketItem} {bs : List (List Simple)} (h : cAlts items = some bs) :
    items.map cAlt = bs.map some := by
  induction items generalizing bs with
  | nil => cases h; rfl
  | cons it r ih =>
    rw [cAlts_cons] at h
    split at h
    · rename_i a bs' ha hb
      cases h
      rw [List.map_cons, List.map_cons, ha, ih hb]
    · cases h

theorem mem_cAlts {items : List BracketItem} {bs : List (List Simple)} (h : cAlts items = some bs) (b : List Simple) :
    b ∈ bs ↔ ∃ it ∈ items, cAlt it = some b := by
  have : b ∈ bs ↔ some b ∈ bs.map some := by simp
  rw [this, ← cAlts_map h, List.mem_map]

theorem mem_bracketRests_pos {b : Bracket} (hc : b.complement = false) (s s' : List Char) :
    s' ∈ bracketRests b s ↔ ∃ it ∈ b.items,
      (∃ c, s = c :: s' ∧ itemHas it c = true) ∨ (∃ v, itemSeq it = some v ∧ s = v ++ s') := by
  rw [mem_bracketRests]
  unfold bracketHead
  rw [hc]
  simp only [Bool.bne_false, List.any_eq_true, true_and]
  constructor
  · rintro ⟨h, rfl, ⟨c, rfl, it, hi, hh⟩ | ⟨it, hi, hs⟩⟩
    · exact ⟨it, hi, Or.inl ⟨c, rfl, hh⟩⟩
    · exact ⟨it, hi, Or.inr ⟨h, hs, rfl⟩⟩
  · rintro ⟨it, hi, ⟨c, rfl, hh⟩ | ⟨v, hs, rfl⟩⟩
    · exact ⟨[c], rfl, Or.inl ⟨c, rfl, it, hi, hh⟩⟩
    · exact ⟨v, rfl, Or.inr ⟨it, hi, hs⟩⟩

theorem any_filter_not_multi (items : List BracketItem) (c : Char) :
    (items.filter (fun it => !it.multi)).any (itemHas · c) = items.any (itemHas · c) := by
  induction items with
  | nil => rfl
  | cons it rest ih =>
    cases hm : it.multi with
    | true => simp [List.filter, hm, ih, itemHas_of_multi hm]
    | false => simp [List.filter, hm, ih]

theorem seq_filterMap_nil {b : Bracket} (hmi : ∀ it ∈ b.items, it.multi = false) (s : List Char) :
    (if b.complement = true then []
     else b.items.filterMap fun it =>
        match itemSeq it with
        | some v => if v.isPrefixOf s then some (s.drop v.length) else none
        | none => none) = [] := by
  split
  · rfl
  · rw [List.filterMap_eq_nil_iff]
    intro it hi
    simp [noSeq_of_not_multi (hmi it hi)]

theorem bracketRests_plain_nil {b : Bracket} (hmi : ∀ it ∈ b.items, it.multi = false) :
    bracketRests b [] = [] := by
  simp only [bracketRests, List.nil_append]
  exact seq_filterMap_nil hmi []

theorem bracketRests_plain_cons {b : Bracket} (hmi : ∀ it ∈ b.items, it.multi = false) (c : Char)
    (t : List Char) :
    bracketRests b (c :: t) = if (b.items.any (itemHas · c) != b.complement) then [t] else [] := by
  simp only [bracketRests]
  rw [List.append_right_eq_self]
  exact seq_filterMap_nil hmi (c :: t)

/-- an atom that consumes one character (an ordinary character, `?`): if what follows denotes "a prefix in `G'`, then
    the rest", the whole denotes "a prefix in `G`, then the rest" -/
theorem one_char_step (m : Char → Bool) (G G' : List Char → Bool) (D D' : List Char → List Char → Prop)
    (hD0 : ∀ ρ, ¬ D [] ρ) (hD1 : ∀ c t ρ, D (c :: t) ρ ↔ m c = true ∧ D' t ρ)
    (hG0 : G [] = false) (hG1 : ∀ c p, G (c :: p) = (m c && G' p))
    (ih : ∀ s ρ, D' s ρ ↔ ∃ pre, s = pre ++ ρ ∧ G' pre = true) :
    ∀ s ρ, D s ρ ↔ ∃ pre, s = pre ++ ρ ∧ G pre = true := by
  intro s ρ
  cases s with
  | nil =>
    refine ⟨fun h => absurd h (hD0 ρ), ?_⟩
    rintro ⟨pre, hs, hg⟩
    cases pre with
    | nil => rw [hG0] at hg; cases hg
    | cons a b => cases hs
  | cons c t =>
    rw [hD1, ih]
    constructor
    · rintro ⟨hm, p', ht, hg⟩
      exact ⟨c :: p', by rw [ht]; rfl, by rw [hG1, hm, hg]; rfl⟩
    · rintro ⟨pre, hs, hg⟩
      cases pre with
      | nil => rw [hG0] at hg; cases hg
      | cons a p' =>
        injection hs with h1 h2
        subst h1
        rw [hG1, Bool.and_eq_true] at hg
        exact ⟨hg.1, p', h2, hg.2⟩

theorem one_step_iff (m : Char → Bool) (G G' : List Char → Bool)
    (R R' : List Char → List (List Char))
    (hR0 : R [] = []) (hR1 : ∀ c t, R (c :: t) = if m c then R' t else [])
    (hG0 : G [] = false) (hG1 : ∀ c p, G (c :: p) = (m c && G' p))
    (ih : ∀ s ρ, ρ ∈ R' s ↔ ∃ pre, s = pre ++ ρ ∧ G' pre = true) :
    ∀ s ρ, ρ ∈ R s ↔ ∃ pre, s = pre ++ ρ ∧ G pre = true :=
  one_char_step m G G' (fun s ρ => ρ ∈ R s) (fun s ρ => ρ ∈ R' s) (by simp [hR0])
    (by intro c t ρ; rw [hR1]; by_cases h : m c = true <;> simp [h]) hG0 hG1 ih

theorem cAtoms_plain (ast : List Atom) : ∀ res, cAtoms ast = some res → noMulti ast = true →
    res.all plainAtom = true := by
  induction ast with
  | nil => intro res h _; cases h; rfl
  | cons a r ih =>
    intro res h hn
    simp only [noMulti, List.all_cons, Bool.and_eq_true] at hn
    obtain ⟨ra, rr, hra, hrr, rfl⟩ := cAtoms_cons_some h
    simp only [List.all_cons, Bool.and_eq_true]
    refine ⟨?_, ih rr hrr hn.2⟩
    cases a with
    | bracket b =>
      rcases cBracket_kind hra with ⟨k, rfl⟩ | ⟨hm, _⟩
      · rfl
      · simp [noMultiAtom, hm] at hn
    | _ => cases hra; rfl

theorem bracket_denotes {b : Bracket} {ra : ReAtom} (h : cBracket b = some ra) (n : Nat) (rr : List ReAtom)
    (s ρ : List Char) :
    reDenotes n (ra :: rr) s ρ ↔ ∃ s', s' ∈ bracketRests b s ∧ reDenotes n rr s' ρ := by
  rcases bracket_forms b with ⟨_, _, hc⟩ | ⟨_, hm, _, hc⟩ | ⟨_, _, hcf, _, hc⟩ | ⟨_, _, hct, hall, _, hc⟩ |
    ⟨_, _, hct, _, _, hc⟩ <;> rw [hc] at h
  · cases h
  · obtain ⟨ci, hci, rfl⟩ := Option.map_eq_some_iff.mp h
    have hmi := not_multi_items hm
    cases s with
    | nil => rw [bracketRests_plain_nil hmi]; simp [den_one_nil]
    | cons c t =>
      rw [bracketRests_plain_cons hmi, den_one_cons]
      simp only [Simple.mem, Cls.mem, cItems_mem hci c]
      cases hx : (b.items.any (itemHas · c) != b.complement) <;> simp
  · -- an alternation: branch by branch
    obtain ⟨bs, hca, rfl⟩ := Option.map_eq_some_iff.mp h
    simp only [reDenotes, mem_bracketRests_pos hcf, mem_cAlts hca]
    constructor
    · rintro ⟨bb, ⟨it, hi, hcb⟩, s', hm, hd⟩
      exact ⟨s', ⟨it, hi, (cAlt_match hcb s s').mp hm⟩, hd⟩
    · rintro ⟨s', ⟨it, hi, hh⟩, hd⟩
      obtain ⟨bb, -, hcb⟩ := List.mem_map.mp (cAlts_map hca ▸ List.mem_map_of_mem (f := cAlt) hi)
      exact ⟨bb, ⟨it, hi, hcb.symm⟩, s', (cAlt_match hcb.symm s s').mpr hh, hd⟩
  · -- complemented, all items multi-character: `.`
    cases h
    have hnone : ∀ c, b.items.any (itemHas · c) = false := fun c =>
      List.any_eq_false.mpr fun it hi => by simp [itemHas_of_multi (List.all_eq_true.mp hall it hi) c]
    cases s with
    | nil => simp [den_any_nil, bracketRests, hct]
    | cons c t => simp [den_any_cons, bracketRests, hct, hnone c]
  · -- complemented, the multi-character items dropped
    obtain ⟨ci, hci, rfl⟩ := Option.map_eq_some_iff.mp h
    cases s with
    | nil => simp [den_one_nil, bracketRests, hct]
    | cons c t =>
      rw [den_one_cons]
      simp only [bracketRests, Simple.mem, Cls.mem, hct, cItems_mem hci c, any_filter_not_multi]
      cases hx : (b.items.any (itemHas · c) != true) <;> simp

theorem denotes_atoms (n : Nat) (ast : List Atom) : ∀ res, cAtoms ast = some res →
    ∀ s ρ, reDenotes n res s ρ ↔ ∃ pre, s = pre ++ ρ ∧ globAtoms ast pre = true := by
  induction ast with
  | nil =>
    intro res h s ρ
    cases h
    simp only [reDenotes, globAtoms]
    constructor
    · intro h; exact ⟨[], by simp [h], rfl⟩
    · rintro ⟨pre, hs, hg⟩
      have : pre = [] := by simpa using hg
      subst this; simpa using hs.symm
  | cons a r ih =>
    intro res h
    obtain ⟨ra, rr, hra, hrr, rfl⟩ := cAtoms_cons_some h
    have ihr := ih rr hrr
    cases a with
    | char c =>
      cases hra
      exact one_char_step (fun c' => c' == c) _ (globAtoms r) _ (reDenotes n rr)
        (den_one_nil n _ rr) (fun c' t ρ => den_one_cons n _ rr c' t ρ)
        (by simp [globAtoms]) (by intro c' p; simp [globAtoms]) ihr
    | anyChar =>
      cases hra
      exact one_char_step (fun _ => true) _ (globAtoms r) _ (reDenotes n rr)
        (den_any_nil n rr) (fun c' t ρ => by simp [den_any_cons])
        (by simp [globAtoms]) (by intro c' p; simp [globAtoms]) ihr
    | anyString =>
      cases hra
      intro s ρ
      simp only [reDenotes, globAtoms]
      constructor
      · rintro ⟨u, ⟨p0, hp0⟩, hu⟩
        obtain ⟨p1, hu1, hg⟩ := (ihr u ρ).mp hu
        refine ⟨p0 ++ p1, by rw [← hp0, hu1, List.append_assoc], ?_⟩
        rw [List.any_eq_true]
        exact ⟨p0.length, by simp [List.mem_range]; omega, by simpa using hg⟩
      · rintro ⟨pre, hs, hg⟩
        rw [List.any_eq_true] at hg
        obtain ⟨k, _, hgk⟩ := hg
        refine ⟨pre.drop k ++ ρ, ⟨pre.take k, ?_⟩, (ihr _ ρ).mpr ⟨pre.drop k, rfl, hgk⟩⟩
        rw [hs, ← List.append_assoc, List.take_append_drop]
    | bracket b =>
      intro s ρ
      rw [bracket_denotes hra n rr s ρ]
      simp only [globAtoms, List.any_eq_true]
      constructor
      · rintro ⟨s', hs', hρ⟩
        obtain ⟨hd, hs, hh⟩ := (mem_bracketRests b s s').mp hs'
        obtain ⟨p', hp', hg⟩ := (ihr s' ρ).mp hρ
        refine ⟨hd ++ p', by rw [hs, hp', List.append_assoc], p', ?_, hg⟩
        exact (mem_bracketRests b _ p').mpr ⟨hd, rfl, hh⟩
      · rintro ⟨pre, hs, p', hp', hg⟩
        obtain ⟨hd, hpre, hh⟩ := (mem_bracketRests b pre p').mp hp'
        refine ⟨p' ++ ρ, ?_, (ihr _ ρ).mpr ⟨p', rfl, hg⟩⟩
        exact (mem_bracketRests b s _).mpr ⟨hd, by rw [hs, hpre, List.append_assoc], hh⟩

/-- the regex of a configuration: the anchors say where, the atoms say what -/
theorem denotes_cfg (ast : Ast) (res : List ReAtom) (hres : cAtoms ast = some res) (ab ae : Bool) (n : Nat)
    (u ρ : List Char) :
    reDenotes n (cfgRe ab ae res) u ρ ↔
      (ab = true → u.length = n) ∧ (ae = true → ρ = []) ∧ ∃ pre, u = pre ++ ρ ∧ globAtoms ast pre = true := by
  unfold cfgRe
  rw [List.append_assoc, den_append, ← denotes_atoms n ast res hres]
  simp only [den_append]
  cases ab <;> cases ae <;> simp [reDenotes, and_assoc, and_comm]

theorem matchHere_glob (g : Bool) (n : Nat) (atoms : List Atom) :
    ∀ res, cAtoms atoms = some res →
    ∀ s, (matchHere g n (res ++ [.eos]) s).isSome = globAtoms atoms s := by
  intro res hres s
  rw [Bool.eq_iff_iff, matchHere_isSome_iff]
  simp only [den_append, den_eos, denotes_atoms n atoms res hres]
  constructor
  · rintro ⟨ρ, m, ⟨pre, rfl, hg⟩, rfl, rfl⟩
    simpa using hg
  · intro hg
    exact ⟨[], [], ⟨s, by simp, hg⟩, rfl, rfl⟩

/-- which rest the matcher takes on the regex of a configuration, for a pattern without multi-character elements: under
    `\z` there is only the empty one, and `\A` does not change what follows it -/
theorem matchHere_cfg_extremal (ast : Ast) (res : List ReAtom) (hres : cAtoms ast = some res) (hn : noMulti ast = true)
    (g : Bool) (n : Nat) (ab ae : Bool) (u ρ : List Char) (h : matchHere g n (cfgRe ab ae res) u = some ρ) :
    ∀ ρ', reDenotes n (cfgRe ab ae res) u ρ' → if g then ρ.length ≤ ρ'.length else ρ'.length ≤ ρ.length := by
  intro ρ' h'
  have hd := (denotes_cfg ast res hres ab ae n u ρ).mp (Proofs.matchHere_sound _ _ _ _ _ h)
  have hd' := (denotes_cfg ast res hres ab ae n u ρ').mp h'
  cases ae with
  | true => rw [hd.2.1 rfl, hd'.2.1 rfl]; split <;> exact Nat.le_refl _
  | false =>
    have hm : matchHere g n res u = some ρ := by
      cases ab
      · simpa [cfgRe] using h
      · simp only [cfgRe, if_true, Bool.false_eq_true, if_false, List.append_nil, List.singleton_append,
          matchHere] at h
        split at h
        · exact h
        · cases h
    have hρ' : reDenotes n res u ρ' := (denotes_atoms n ast res hres u ρ').mpr hd'.2.2
    obtain ⟨hC, hD⟩ := matchHere_extremal n res (cAtoms_plain ast res hres hn)
    cases g
    · exact hD u ρ hm ρ' hρ'
    · exact hC u ρ hm ρ' hρ'

end YashModel.Fnmatch
