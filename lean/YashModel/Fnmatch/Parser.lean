/-
  C04 — the pattern parser.  The implementation's bracket parser (item stack + `make_range` after every push) computes
  exactly the grammar of Spec.lean (`bracketLoop_spec`, `parseBracket_eq_spec`, `parseAtoms_eq_spec`); the scan of
  `parse_inner`, which model and Spec grammar share, characterised without recursion (`scanClose_spec`,
  `scanClose_none`, `parseInner_spec`); quoted characters are plain members and plain characters
  (`literal_in_bracket_is_member`, `quoted_hyphen_no_range`, `parseAtoms_literals`); a `[` without a closing `]` is an
  ordinary character (`unclosed_bracket_literal`).
-/
import YashModel.Fnmatch.Notions

namespace YashModel.Fnmatch

theorem bracketLoop_nil (c : Bool) (st : ItemStack) : bracketLoop c st [] = none := by
  rw [bracketLoop]

theorem bracketLoop_close (c : Bool) (st : ItemStack) (t : List PatternChar) (hst : st ≠ []) :
    bracketLoop c st (.normal ']' :: t) = some ({ complement := c, items := st.reverse.map Prod.fst }, t) := by
  rw [bracketLoop]; simp [hst]

theorem bracketLoop_compl (pc : PatternChar) (t : List PatternChar)
    (hp : pc = .normal '!' ∨ pc = .normal '^') :
    bracketLoop false [] (pc :: t) = bracketLoop true [] t := by
  rw [bracketLoop]
  have h1 : ¬(pc = .normal ']' ∧ ([] : ItemStack) ≠ []) := by simp
  rw [if_neg h1, if_pos ⟨hp, rfl, rfl⟩]

theorem bracketLoop_push (c : Bool) (st : ItemStack) (pc : PatternChar) (t : List PatternChar)
    (h1 : ¬(pc = .normal ']' ∧ st ≠ []))
    (h2 : ¬((pc = .normal '!' ∨ pc = .normal '^') ∧ c = false ∧ st = [])) :
    bracketLoop c st (pc :: t) =
      bracketLoop c (makeRange ((.atom (specElem pc t).1, decide (pc = .normal '-')) :: st)) (specElem pc t).2 := by
  rw [bracketLoop, if_neg h1, if_neg h2]
  by_cases hb : pc = .normal '['
  · subst hb
    simp only [if_true]
    unfold specElem
    simp only [if_true]
    split
    · rename_i a j hp
      rw [hp]
      simp
    · rename_i hp
      rw [hp]
      simp
  · rw [if_neg hb]
    unfold specElem
    rw [if_neg hb]

theorem specItems_close (acc : List BracketItem) (t : List PatternChar) (hacc : acc ≠ []) :
    specItems acc (.normal ']' :: t) = some (acc.reverse, t) := by
  rw [specItems]; simp [hacc]

theorem specItems_cons (acc : List BracketItem) (pc : PatternChar) (t : List PatternChar)
    (h1 : ¬(pc = .normal ']' ∧ acc ≠ [])) :
    specItems acc (pc :: t) =
      match (specElem pc t).2 with
      | [] => none
      | h :: r1 =>
        if h = .normal '-' then
          match r1 with
          | [] => none
          | x :: r2 =>
            if x = .normal ']' then
              some ((BracketItem.atom (.char '-') :: .atom (specElem pc t).1 :: acc).reverse, r2)
            else specItems (.range (specElem pc t).1 (specElem x r2).1 :: acc) (specElem x r2).2
        else specItems (.atom (specElem pc t).1 :: acc) (h :: r1) := by
  rw [specItems, if_neg h1]
  split <;> rename_i hr <;> (conv => rhs; rw [hr])
  simp only []
  split
  · split <;> rfl
  · rfl

/-- the top of the stack is an unquoted hyphen sitting on an atom: the next atom pushed folds into a range -/
def pendingB : ItemStack → Bool
  | (_, true) :: (.atom _, _) :: _ => true
  | _ => false

def topAtom : ItemStack → Bool
  | (.atom _, _) :: _ => true
  | _ => false

theorem makeRange_nofold (a : BracketAtom) (f : Bool) (st : ItemStack) (h : pendingB st = false) :
    makeRange ((.atom a, f) :: st) = (.atom a, f) :: st := by
  unfold makeRange
  split
  · rename_i e _ x s _ rest heq
    injection heq with h1 h2
    subst h2
    simp [pendingB] at h
  · rfl

theorem makeRange_fold (b : BracketAtom) (fb : Bool) (a : BracketAtom) (fa : Bool) (x : BracketItem)
    (st : ItemStack) :
    makeRange ((.atom b, fb) :: (x, true) :: (.atom a, fa) :: st) = (.range a b, false) :: st := by
  simp [makeRange]

theorem specElem_dash (t : List PatternChar) : specElem (.normal '-') t = (.char '-', t) := by
  simp [specElem, PatternChar.charValue]

/-- The stack parser against the grammar, by induction on the length of the input.  One step of `specItems` (a member:
    `elem`, or `elem - elem`) is matched by one or by three pushes of the stack parser — elem, `-`, elem, the third
    push folding the three into a range (`makeRange_fold`).  The hypotheses say that the loop stands BETWEEN members:
    no range is pending on the stack (`pendingB st = false`: the top is not an unquoted hyphen sitting on an atom); if
    the top is an atom the next character is not `-` (else that atom would be the start of a range, not a member read
    to its end); and a `!`/`^` right after the `[` has been consumed. -/
theorem bracketLoop_spec : ∀ (n : Nat) (cs : List PatternChar), cs.length ≤ n →
    ∀ (c : Bool) (st : ItemStack), pendingB st = false →
      (topAtom st = true → cs.head? ≠ some (.normal '-')) →
      (c = false → st = [] → cs.head? ≠ some (.normal '!') ∧ cs.head? ≠ some (.normal '^')) →
      bracketLoop c st cs =
        (specItems (st.map Prod.fst) cs).map (fun x => ({ complement := c, items := x.1 }, x.2)) := by
  intro n
  induction n with
  | zero =>
    intro cs hn c st _ _ _
    have : cs = [] := by cases cs with
      | nil => rfl
      | cons a b => simp at hn
    subst this
    rw [bracketLoop_nil, specItems]; rfl
  | succ n ih =>
    intro cs hn c st hpend hJ hC
    cases cs with
    | nil => rw [bracketLoop_nil, specItems]; rfl
    | cons pc t =>
      have hmapne : st.map Prod.fst ≠ [] ↔ st ≠ [] := by
        cases st <;> simp
      by_cases hclose : pc = .normal ']' ∧ st ≠ []
      · obtain ⟨rfl, hst⟩ := hclose
        rw [bracketLoop_close c st t hst, specItems_close _ t (hmapne.mpr hst)]
        simp [List.map_reverse]
      · have hclose' : ¬(pc = .normal ']' ∧ st.map Prod.fst ≠ []) := by
          rw [hmapne]; exact hclose
        have hcompl : ¬((pc = .normal '!' ∨ pc = .normal '^') ∧ c = false ∧ st = []) := by
          rintro ⟨hp, hc, hs⟩
          have := hC hc hs
          rcases hp with rfl | rfl
          · exact this.1 rfl
          · exact this.2 rfl
        rw [bracketLoop_push c st pc t hclose hcompl]
        -- the pushed atom does not fold
        have hf : decide (pc = .normal '-') = true → topAtom st = false := by
          intro hd
          have hpc : pc = .normal '-' := by simpa using hd
          cases hta : topAtom st with
          | false => rfl
          | true => exact absurd (by rw [hpc]; rfl) (hJ hta)
        rw [makeRange_nofold _ _ st hpend]
        generalize hfl : decide (pc = .normal '-') = f at hf
        -- the stack after the push
        have hpend1 : pendingB ((.atom (specElem pc t).1, f) :: st) = false := by
          cases f with
          | false => cases st <;> rfl
          | true =>
            have := hf rfl
            cases st with
            | nil => rfl
            | cons x rest =>
              obtain ⟨xi, xf⟩ := x
              cases xi with
              | atom a => simp [topAtom] at this
              | range a b => rfl
        have hlen := specElem_length pc t
        cases hr : (specElem pc t).2 with
        | nil =>
          rw [bracketLoop_nil, specItems_cons _ pc t hclose', hr]; rfl
        | cons h r1 =>
          rw [hr] at hlen
          by_cases hh : h = .normal '-'
          · subst hh
            cases r1 with
            | nil =>
              simp only [specItems_cons _ pc t hclose', hr, ↓reduceIte]
              rw [bracketLoop_push c _ (.normal '-') [] (by simp) (by simp), specElem_dash, bracketLoop_nil]
              rfl
            | cons x r2 =>
              have hpush : bracketLoop c ((.atom (specElem pc t).1, f) :: st) (.normal '-' :: x :: r2) =
                  bracketLoop c ((.atom (.char '-'), true) :: (.atom (specElem pc t).1, f) :: st) (x :: r2) := by
                rw [bracketLoop_push c _ (.normal '-') (x :: r2) (by simp) (by simp), specElem_dash,
                  makeRange_nofold _ _ _ hpend1]
                simp
              rw [hpush]
              by_cases hx : x = .normal ']'
              · subst hx
                rw [bracketLoop_close c _ r2 (by simp)]
                simp [specItems_cons _ pc t hclose', hr, List.map_reverse]
              · simp only [specItems_cons _ pc t hclose', hr, hx, ↓reduceIte]
                rw [bracketLoop_push c _ x r2 (by simp [hx]) (by simp), makeRange_fold]
                have hl2 := specElem_length x r2
                have := ih (specElem x r2).2 (by simp at hn hlen; omega) c
                  ((.range (specElem pc t).1 (specElem x r2).1, false) :: st) (by cases st <;> rfl)
                  (by simp [topAtom]) (by intro _ h; simp at h)
                rw [this]
                simp
          · simp only [specItems_cons _ pc t hclose', hr, hh, ↓reduceIte]
            have := ih (h :: r1) (by simp at hn hlen ⊢; omega) c
              ((.atom (specElem pc t).1, f) :: st) hpend1
              (by intro _; simp; exact hh) (by intro _ h; simp at h)
            rw [this]
            simp

theorem parseBracket_eq_spec (cs : List PatternChar) : parseBracket cs = specBracket cs := by
  unfold parseBracket specBracket
  cases cs with
  | nil => rw [bracketLoop_nil]
  | cons pc t =>
    simp only []
    by_cases hp : pc = .normal '!' ∨ pc = .normal '^'
    · rw [if_pos hp, bracketLoop_compl pc t hp]
      have := bracketLoop_spec t.length t (Nat.le_refl _) true [] rfl (by simp [topAtom]) (by simp)
      rw [this]; rfl
    · rw [if_neg hp]
      have := bracketLoop_spec (pc :: t).length (pc :: t) (Nat.le_refl _) false [] rfl (by simp [topAtom])
        (by
          intro _ _
          simp only [List.head?_cons, ne_eq, Option.some.injEq]
          exact ⟨fun e => hp (Or.inl e), fun e => hp (Or.inr e)⟩)
      rw [this]; rfl

/-- the atom a pattern character other than an unquoted `[` stands for -/
def headAtom (pc : PatternChar) : Atom :=
  if pc = .normal '?' then .anyChar else if pc = .normal '*' then .anyString else .char pc.charValue

theorem parseAtoms_cons_simple (pc : PatternChar) (t : List PatternChar) (h : pc ≠ .normal '[') :
    parseAtoms (pc :: t) = headAtom pc :: parseAtoms t := by
  rw [parseAtoms]
  unfold headAtom
  by_cases h1 : pc = .normal '?'
  · rw [if_pos h1, if_pos h1]
  rw [if_neg h1, if_neg h1]
  by_cases h2 : pc = .normal '*'
  · rw [if_pos h2, if_pos h2]
  rw [if_neg h2, if_neg h2, if_neg h]

theorem specParse_cons_simple (pc : PatternChar) (t : List PatternChar) (h : pc ≠ .normal '[') :
    specParse (pc :: t) = headAtom pc :: specParse t := by
  rw [specParse]
  unfold headAtom
  by_cases h1 : pc = .normal '?'
  · rw [if_pos h1, if_pos h1]
  rw [if_neg h1, if_neg h1]
  by_cases h2 : pc = .normal '*'
  · rw [if_pos h2, if_pos h2]
  rw [if_neg h2, if_neg h2, if_neg h]

theorem parseAtoms_bracket (t : List PatternChar) :
    parseAtoms (.normal '[' :: t) =
      match parseBracket t with
      | some (b, j) => .bracket b :: parseAtoms j
      | none => .char '[' :: parseAtoms t := by
  rw [parseAtoms]
  simp only [show (PatternChar.normal '[' ≠ .normal '?') by decide,
    show (PatternChar.normal '[' ≠ .normal '*') by decide, if_false, if_true]
  split <;> rename_i h <;> rw [h]

theorem specParse_bracket (t : List PatternChar) :
    specParse (.normal '[' :: t) =
      match specBracket t with
      | some (b, j) => .bracket b :: specParse j
      | none => .char '[' :: specParse t := by
  rw [specParse]
  simp only [show (PatternChar.normal '[' ≠ .normal '?') by decide,
    show (PatternChar.normal '[' ≠ .normal '*') by decide, if_false, if_true]
  split <;> rename_i h <;> rw [h]

theorem parseAtoms_eq_spec : ∀ (n : Nat) (cs : List PatternChar), cs.length ≤ n → parseAtoms cs = specParse cs := by
  intro n
  induction n with
  | zero =>
    intro cs hn
    obtain rfl := List.eq_nil_of_length_eq_zero (Nat.le_zero.mp hn)
    rw [parseAtoms, specParse]
  | succ n ih =>
    intro cs hn
    cases cs with
    | nil => rw [parseAtoms, specParse]
    | cons pc t =>
      have ht : t.length ≤ n := by simp at hn; omega
      by_cases h3 : pc = .normal '['
      · -- a bracket expression, or a lone `[`: both parsers ask the same bracket parser
        subst h3
        rw [parseAtoms_bracket, specParse_bracket, parseBracket_eq_spec]
        cases hb : specBracket t with
        | none => rw [ih t ht]
        | some bj =>
          obtain ⟨b, j⟩ := bj
          have := specBracket_length t b j hb
          simp only [ih j (by omega)]
      · rw [parseAtoms_cons_simple pc t h3, specParse_cons_simple pc t h3, ih t ht]

namespace Proofs

theorem scanClose_spec (d : Char) (cs v r : List PatternChar) :
    scanClose d cs = some (v, r) ↔
      (cs = v ++ .normal d :: .normal ']' :: r ∧
       ∀ v' r', cs = v' ++ .normal d :: .normal ']' :: r' → v.length ≤ v'.length) := by
  fun_induction scanClose d cs generalizing v r with
  | case1 =>
    simp only [reduceCtorEq, false_iff]
    rintro ⟨h, _⟩
    cases v <;> simp at h
  | case2 x =>
    simp only [reduceCtorEq, false_iff]
    rintro ⟨h, _⟩
    cases v with
    | nil => simp at h
    | cons y v => cases v <;> simp at h
  | case3 a b t hab =>
    obtain ⟨ha, hb⟩ := hab
    subst ha; subst hb
    simp only [Option.some.injEq, Prod.mk.injEq]
    constructor
    · rintro ⟨rfl, rfl⟩
      exact ⟨rfl, fun v' r' _ => Nat.zero_le _⟩
    · rintro ⟨h, hmin⟩
      have := hmin [] t rfl
      have hv : v = [] := by cases v with | nil => rfl | cons _ _ => simp at this
      subst hv
      simp at h
      exact ⟨rfl, h⟩
  | case4 a b t hab v0 r0 hrec ih =>
    simp only [Option.some.injEq, Prod.mk.injEq]
    constructor
    · rintro ⟨rfl, rfl⟩
      obtain ⟨h1, h2⟩ := (ih v0 r0).mp hrec
      refine ⟨by rw [h1]; rfl, ?_⟩
      intro v' r' h
      cases v' with
      | nil => simp at h; exact absurd ⟨h.1, h.2.1⟩ hab
      | cons y v'' =>
        simp at h
        have := h2 v'' r' h.2
        simp; omega
    · rintro ⟨h, hmin⟩
      cases v with
      | nil => simp at h; exact absurd ⟨h.1, h.2.1⟩ hab
      | cons y v1 =>
        simp at h
        obtain ⟨rfl, h'⟩ := h
        have hsome : scanClose d (b :: t) = some (v1, r) := by
          rw [ih v1 r]
          refine ⟨h', ?_⟩
          intro v' r' hh
          have := hmin (a :: v') r' (by rw [hh]; rfl)
          simp at this; omega
        rw [hrec] at hsome
        simp at hsome
        exact ⟨by rw [hsome.1], hsome.2⟩
  | case5 a b t hab hrec ih =>
    simp only [reduceCtorEq, false_iff]
    rintro ⟨h, hmin⟩
    cases v with
    | nil => simp at h; exact absurd ⟨h.1, h.2.1⟩ hab
    | cons y v1 =>
      simp at h
      obtain ⟨rfl, h'⟩ := h
      have hsome : scanClose d (b :: t) = some (v1, r) := by
        rw [ih v1 r]
        refine ⟨h', ?_⟩
        intro v' r' hh
        have := hmin (a :: v') r' (by rw [hh]; rfl)
        simp at this; omega
      rw [hrec] at hsome
      cases hsome

theorem scanClose_none (d : Char) (cs : List PatternChar) :
    scanClose d cs = none ↔ ¬ ∃ v' r', cs = v' ++ .normal d :: .normal ']' :: r' := by
  constructor
  · intro h ⟨v', r', hc⟩
    -- among all decompositions take one with the shortest `v'`
    have : ∀ n (v' r' : List PatternChar), v'.length = n → cs = v' ++ .normal d :: .normal ']' :: r' → False := by
      intro n
      induction n using Nat.strongRecOn with
      | _ n ih =>
        intro v' r' hn hc
        by_cases hmin : ∀ v'' r'', cs = v'' ++ .normal d :: .normal ']' :: r'' → v'.length ≤ v''.length
        · have := (scanClose_spec d cs v' r').mpr ⟨hc, hmin⟩
          rw [h] at this; cases this
        · have ⟨v'', hv⟩ := Classical.not_forall.mp hmin
          have ⟨r'', hr⟩ := Classical.not_forall.mp hv
          have ⟨hc2, hlt⟩ := Classical.not_imp.mp hr
          exact ih v''.length (by omega) v'' r'' rfl hc2
    exact this _ v' r' rfl hc
  · intro h
    cases hs : scanClose d cs with
    | none => rfl
    | some vr =>
      obtain ⟨v, r⟩ := vr
      exact absurd ⟨v, r, ((scanClose_spec d cs v r).mp hs).1⟩ h

/-- `parse_inner` after an unquoted `d`: the scan for `d]`, and `d` alone decides what the value is -/
theorem parseInner_normal (d : Char) (t : List PatternChar) :
    parseInner (.normal d :: t) =
      (scanClose d t).bind fun vr => (innerKind d (vr.1.map PatternChar.charValue)).map (·, vr.2) := by
  have e : ∀ (mk : List Char → BracketAtom),
      (match scanClose d t with
        | some (v, r) => some (mk (v.map PatternChar.charValue), r)
        | none => none) = (scanClose d t).bind fun vr => (some (mk (vr.1.map PatternChar.charValue))).map (·, vr.2) := by
    intro mk; cases scanClose d t <;> rfl
  simp only [parseInner, PatternChar.normal.injEq, innerKind]
  by_cases h1 : d = '.'
  · subst h1; exact e _
  · by_cases h2 : d = '='
    · subst h2; exact e _
    · by_cases h3 : d = ':'
      · subst h3; exact e _
      · rw [if_neg h1, if_neg h2, if_neg h3]
        cases scanClose d t <;> simp [h1, h2, h3]

theorem parseInner_literal (c : Char) (t : List PatternChar) : parseInner (.literal c :: t) = none := by
  simp [parseInner]

theorem parseInner_spec (cs : List PatternChar) (a : BracketAtom) (r : List PatternChar) :
    parseInner cs = some (a, r) ↔
      ∃ d v, cs = .normal d :: (v ++ .normal d :: .normal ']' :: r) ∧
        (∀ v' r', v ++ .normal d :: .normal ']' :: r = v' ++ .normal d :: .normal ']' :: r' → v.length ≤ v'.length) ∧
        innerKind d (v.map PatternChar.charValue) = some a := by
  match cs with
  | [] => exact ⟨fun h => (by cases h), fun ⟨_, _, h, _⟩ => (by cases h)⟩
  | .literal c :: t =>
    rw [parseInner_literal]
    exact ⟨fun h => (by cases h), fun ⟨_, _, h, _⟩ => (by cases h)⟩
  | .normal d :: t =>
    rw [parseInner_normal, Option.bind_eq_some_iff]
    constructor
    · rintro ⟨⟨v, r'⟩, hs, hk⟩
      obtain ⟨a', ha, hr⟩ := Option.map_eq_some_iff.mp hk
      obtain ⟨rfl, rfl⟩ := Prod.mk.inj hr
      obtain ⟨e, hmin⟩ := (scanClose_spec d t v r').mp hs
      exact ⟨d, v, by rw [e], fun v' r'' h => hmin v' r'' (by rw [e]; exact h), ha⟩
    · rintro ⟨d', v, e, hmin, hk⟩
      obtain ⟨hd, e⟩ := List.cons.inj e
      obtain rfl := PatternChar.normal.inj hd
      exact ⟨(v, r), (scanClose_spec d t v r).mpr ⟨e, fun v' r' h => hmin v' r' (by rw [← e]; exact h)⟩,
        by simp [hk]⟩

theorem parseAtoms_literals (cs : List Char) : parseAtoms (cs.map .literal) = cs.map .char := by
  induction cs with
  | nil => simp [parseAtoms]
  | cons c t ih => rw [List.map_cons, parseAtoms]; simp [ih, PatternChar.charValue]

theorem literal_in_bracket_is_member (compl : Bool) (st : ItemStack) (c : Char) (t : List PatternChar) :
    bracketLoop compl st (.literal c :: t) =
      bracketLoop compl (makeRange ((.atom (.char c), false) :: st)) t := by
  rw [bracketLoop]
  simp [PatternChar.charValue]

theorem quoted_hyphen_no_range (x y : BracketItem) (f : Bool) (rest : ItemStack) :
    makeRange ((x, f) :: (y, false) :: rest) = (x, f) :: (y, false) :: rest := by
  unfold makeRange
  split
  · rename_i heq; simp at heq
  · rfl

theorem parseInner_mem (cs : List PatternChar) (a : BracketAtom) (r : List PatternChar)
    (h : parseInner cs = some (a, r)) : PatternChar.normal ']' ∈ cs := by
  obtain ⟨d, v, rfl, -, -⟩ := (parseInner_spec cs a r).mp h
  simp

/-- without an unquoted `]` the loop never closes: it ends only at a `]`, and an inner element needs one too -/
theorem bracketLoop_unclosed (compl : Bool) (st : ItemStack) (cs : List PatternChar)
    (h : ∀ pc ∈ cs, pc ≠ .normal ']') : bracketLoop compl st cs = none := by
  fun_induction bracketLoop compl st cs
  · rfl
  · -- the closing `]`
    rename_i hc
    exact absurd hc.1 (h _ (by simp))
  · rename_i ih
    exact ih fun pc hpc => h pc (List.mem_cons_of_mem _ hpc)
  · -- `[` followed by an inner element: `parse_inner` found a `]`
    rename_i hp _ _ _ _
    exact absurd (parseInner_mem _ _ _ hp) fun hm => h _ (List.mem_cons_of_mem _ hm) rfl
  · rename_i ih
    exact ih fun pc hpc => h pc (List.mem_cons_of_mem _ hpc)
  · rename_i ih
    exact ih fun pc hpc => h pc (List.mem_cons_of_mem _ hpc)

theorem unclosed_bracket_literal (t : List PatternChar) (h : ∀ pc ∈ t, pc ≠ .normal ']') :
    parseAtoms (.normal '[' :: t) = .char '[' :: parseAtoms t := by
  rw [parseAtoms_bracket, parseBracket, bracketLoop_unclosed false [] t h]

end Proofs

end YashModel.Fnmatch
