/-
  C04 — the regex-crate model is textbook leftmost-first semantics, and that semantics is what every later file
  reasons with.  The backtracking matcher returns the FIRST entry of the priority-ordered enumeration `reEnum`
  (`matchHere_head`); the enumeration lists exactly the rests of the order-free denotation `reDenotes` (`mem_reEnum`);
  hence `matchHere_sound` / `matchHere_complete` — for every regex of the fragment (anchors anywhere), greedy or lazy.
  Then: `reDenotes` atom by atom (`den_…`) and under concatenation (`den_append`); `find_at` is the Spec's least search
  over the starts (`findFrom_eq`; hence `findFrom_spec`, `findAt_is_leftmost`); and WHICH rest the matcher returns: over
  plain atoms (no alternation, no anchor) a greedy `.*` makes it a shortest rest of the denotation, a lazy one a longest
  (`matchHere_extremal`), because matching later never forces a longer rest (`den_mono_le`) and matching earlier never
  a shorter one (`den_mono_ge`).
-/
import YashModel.Fnmatch.Compiler
import YashModel.Fnmatch.UpTo

namespace YashModel.Fnmatch

theorem starLoop_choices (g : Bool) (k : List Char → Option (List Char)) :
    ∀ s, starLoop g k s = (starChoices g s).findSome? k := by
  intro s
  induction s with
  | nil => simp [starLoop, starChoices]
  | cons c t ih =>
    cases g with
    | true =>
      simp only [starLoop, starChoices, if_true, List.findSome?_append, ih]
      cases List.findSome? k (starChoices true t) <;> simp
    | false =>
      simp only [starLoop, starChoices, Bool.false_eq_true, if_false, List.findSome?_cons, ih]
      cases k (c :: t) <;> rfl

theorem altLoop_choices (k : List Char → Option (List Char)) (s : List Char) :
    ∀ bs, altLoop k s bs = (bs.filterMap (fun b => matchSimples b s)).findSome? k := by
  intro bs
  induction bs with
  | nil => rfl
  | cons b r ih =>
    simp only [altLoop, List.filterMap_cons]
    cases hm : matchSimples b s with
    | none => simp [ih]
    | some s' =>
      simp only [List.findSome?_cons, ih]
      cases k s' <;> rfl

theorem altLoop_isSome (k : List Char → Option (List Char)) (s : List Char) (bs : List (List Simple)) :
    (altLoop k s bs).isSome =
      bs.any (fun b => match matchSimples b s with
        | some s' => (k s').isSome
        | none => false) := by
  rw [altLoop_choices]
  induction bs with
  | nil => rfl
  | cons b rest ih =>
    simp only [List.filterMap_cons, List.any_cons]
    cases matchSimples b s with
    | none => simpa using ih
    | some s' => simp only [List.findSome?_cons]; cases k s' <;> simp [ih]

theorem mem_starChoices (g : Bool) (s u : List Char) : u ∈ starChoices g s ↔ u <:+ s := by
  induction s with
  | nil =>
    simp only [starChoices, List.mem_singleton]
    constructor
    · rintro rfl; exact List.suffix_refl _
    · intro h; exact List.eq_nil_of_suffix_nil h
  | cons c t ih =>
    rw [List.suffix_cons_iff]
    cases g <;> simp [starChoices, ih, or_comm]

namespace Proofs

theorem matchHere_head (g : Bool) (n : Nat) (re : List ReAtom) :
    ∀ s, matchHere g n re s = (reEnum g n re s).head? := by
  induction re with
  | nil => intro s; rfl
  | cons a r ih =>
    have hfun : matchHere g n r = fun s => (reEnum g n r s).head? := funext ih
    intro s
    cases a with
    | bos =>
      simp only [matchHere, reEnum]
      split
      · exact ih s
      · rfl
    | eos =>
      simp only [matchHere, reEnum]
      split
      · exact ih s
      · rfl
    | any =>
      cases s with
      | nil => rfl
      | cons c t => simp only [matchHere, reEnum]; exact ih t
    | one x =>
      cases s with
      | nil => rfl
      | cons c t =>
        simp only [matchHere, reEnum]
        split
        · exact ih t
        · rfl
    | star =>
      simp only [matchHere, reEnum]
      rw [starLoop_choices, List.head?_flatMap, hfun]
    | alt bs =>
      simp only [matchHere, reEnum]
      rw [altLoop_choices, List.head?_flatMap, hfun]

theorem mem_reEnum (g : Bool) (n : Nat) (re : List ReAtom) :
    ∀ s ρ, ρ ∈ reEnum g n re s ↔ reDenotes n re s ρ := by
  induction re with
  | nil => intro s ρ; simp [reEnum, reDenotes]
  | cons a r ih =>
    intro s ρ
    cases a with
    | bos =>
      simp only [reEnum, reDenotes]
      split
      · rename_i h; simp [h, ih]
      · rename_i h; simp [h]
    | eos =>
      simp only [reEnum, reDenotes]
      split
      · rename_i h; simp [h, ih]
      · rename_i h; simp [h]
    | any =>
      cases s with
      | nil => simp [reEnum, reDenotes]
      | cons c t =>
        simp only [reEnum, reDenotes, ih]
        constructor
        · intro h; exact ⟨c, t, rfl, h⟩
        · rintro ⟨c', t', he, h⟩
          cases he; exact h
    | one x =>
      cases s with
      | nil => simp [reEnum, reDenotes]
      | cons c t =>
        simp only [reEnum, reDenotes]
        split
        · rename_i h
          rw [ih]
          constructor
          · intro h'; exact ⟨c, t, rfl, h, h'⟩
          · rintro ⟨c', t', he, _, h'⟩
            cases he; exact h'
        · rename_i h
          simp only [List.not_mem_nil, false_iff]
          rintro ⟨c', t', he, hm, _⟩
          cases he; exact h hm
    | star =>
      simp only [reEnum, reDenotes, List.mem_flatMap, mem_starChoices, ih]
    | alt bs =>
      simp only [reEnum, reDenotes, List.mem_flatMap, List.mem_filterMap, ih]
      constructor
      · rintro ⟨s', ⟨b, hb, hm⟩, h⟩; exact ⟨b, hb, s', hm, h⟩
      · rintro ⟨b, hb, s', hm, h⟩; exact ⟨s', ⟨b, hb, hm⟩, h⟩

theorem matchHere_sound (g : Bool) (n : Nat) (re : List ReAtom) (s ρ : List Char)
    (h : matchHere g n re s = some ρ) : reDenotes n re s ρ := by
  rw [matchHere_head] at h
  exact (mem_reEnum g n re s ρ).mp (List.mem_of_head? h)

theorem matchHere_complete (g : Bool) (n : Nat) (re : List ReAtom) (s ρ : List Char)
    (h : reDenotes n re s ρ) : (matchHere g n re s).isSome = true := by
  rw [matchHere_head]
  have := (mem_reEnum g n re s ρ).mpr h
  cases hl : reEnum g n re s with
  | nil => rw [hl] at this; simp at this
  | cons x xs => simp

end Proofs

theorem matchHere_isSome_iff (g : Bool) (n : Nat) (re : List ReAtom) (s : List Char) :
    (matchHere g n re s).isSome = true ↔ ∃ ρ, reDenotes n re s ρ :=
  ⟨fun h => (Option.isSome_iff_exists.mp h).imp fun ρ hρ => Proofs.matchHere_sound g n re s ρ hρ,
    fun ⟨ρ, h⟩ => Proofs.matchHere_complete g n re s ρ h⟩

theorem den_one_nil (n : Nat) (x : Simple) (r : List ReAtom) (ρ : List Char) :
    ¬ reDenotes n (.one x :: r) [] ρ := by
  simp [reDenotes]

theorem den_one_cons (n : Nat) (x : Simple) (r : List ReAtom) (c : Char) (t ρ : List Char) :
    reDenotes n (.one x :: r) (c :: t) ρ ↔ x.mem c = true ∧ reDenotes n r t ρ := by
  simp only [reDenotes]
  constructor
  · rintro ⟨c', t', he, hm, h⟩; cases he; exact ⟨hm, h⟩
  · rintro ⟨hm, h⟩; exact ⟨c, t, rfl, hm, h⟩

theorem den_any_nil (n : Nat) (r : List ReAtom) (ρ : List Char) : ¬ reDenotes n (.any :: r) [] ρ := by
  simp [reDenotes]

theorem den_any_cons (n : Nat) (r : List ReAtom) (c : Char) (t ρ : List Char) :
    reDenotes n (.any :: r) (c :: t) ρ ↔ reDenotes n r t ρ := by
  simp only [reDenotes]
  constructor
  · rintro ⟨c', t', he, h⟩; cases he; exact h
  · intro h; exact ⟨c, t, rfl, h⟩

theorem den_append (n : Nat) (r1 r2 : List ReAtom) :
    ∀ s ρ, reDenotes n (r1 ++ r2) s ρ ↔ ∃ m, reDenotes n r1 s m ∧ reDenotes n r2 m ρ := by
  induction r1 with
  | nil => intro s ρ; simp [reDenotes]
  | cons a r ih =>
    intro s ρ
    cases a <;> simp only [List.cons_append, reDenotes, ih]
    · exact ⟨fun ⟨h, m, h1, h2⟩ => ⟨m, ⟨h, h1⟩, h2⟩, fun ⟨m, ⟨h, h1⟩, h2⟩ => ⟨h, m, h1, h2⟩⟩
    · exact ⟨fun ⟨h, m, h1, h2⟩ => ⟨m, ⟨h, h1⟩, h2⟩, fun ⟨m, ⟨h, h1⟩, h2⟩ => ⟨h, m, h1, h2⟩⟩
    · exact ⟨fun ⟨c, t, e, m, h1, h2⟩ => ⟨m, ⟨c, t, e, h1⟩, h2⟩, fun ⟨m, ⟨c, t, e, h1⟩, h2⟩ => ⟨c, t, e, m, h1, h2⟩⟩
    · exact ⟨fun ⟨u, hu, m, h1, h2⟩ => ⟨m, ⟨u, hu, h1⟩, h2⟩, fun ⟨m, ⟨u, hu, h1⟩, h2⟩ => ⟨u, hu, m, h1, h2⟩⟩
    · exact ⟨fun ⟨c, t, e, hm, m, h1, h2⟩ => ⟨m, ⟨c, t, e, hm, h1⟩, h2⟩,
        fun ⟨m, ⟨c, t, e, hm, h1⟩, h2⟩ => ⟨c, t, e, hm, m, h1, h2⟩⟩
    · exact ⟨fun ⟨b, hb, s', hs, m, h1, h2⟩ => ⟨m, ⟨b, hb, s', hs, h1⟩, h2⟩,
        fun ⟨m, ⟨b, hb, s', hs, h1⟩, h2⟩ => ⟨b, hb, s', hs, m, h1, h2⟩⟩

theorem den_eos (n : Nat) (s ρ : List Char) : reDenotes n [.eos] s ρ ↔ s = [] ∧ ρ = [] := by
  simp only [reDenotes]
  exact ⟨fun ⟨h1, h2⟩ => ⟨h1, h2.trans h1⟩, fun ⟨h1, h2⟩ => ⟨h1, h2.trans h1.symm⟩⟩

theorem matchHere_eos_nil (g : Bool) (n : Nat) (re : List ReAtom) :
    ∀ s ρ, matchHere g n (re ++ [.eos]) s = some ρ → ρ = [] := by
  intro s ρ h
  obtain ⟨m, -, hm⟩ := (den_append n re [.eos] s ρ).mp (Proofs.matchHere_sound g n _ s ρ h)
  exact ((den_eos n m ρ).mp hm).2

/-- `find_at` tries the starts one after the other: its start is the Spec's least search for a place where the matcher
    succeeds -/
theorem findFrom_eq (g : Bool) (n : Nat) (re : List ReAtom) (s : List Char) (pos : Nat) :
    findFrom g n re pos s =
      (leastUpTo (fun j => (matchHere g n re (s.drop j)).isSome) s.length).bind fun j =>
        (matchHere g n re (s.drop j)).map fun ρ => (pos + j, n - ρ.length) := by
  induction s generalizing pos with
  | nil => simp only [findFrom, leastUpTo, List.length_nil, List.drop_nil]; cases matchHere g n re [] <;> rfl
  | cons c t ih =>
    rw [findFrom, ih, List.length_cons, leastUpTo_front]
    simp only [List.drop_zero, List.drop_succ_cons]
    cases hm : matchHere g n re (c :: t) with
    | some ρ => simp [hm]
    | none =>
      simp only [Option.isSome_none, Bool.false_eq_true, if_false]
      cases leastUpTo (fun j => (matchHere g n re (t.drop j)).isSome) t.length with
      | none => rfl
      | some j => simp only [Option.map_some, Option.bind_some, List.drop_succ_cons, Nat.add_assoc, Nat.add_comm 1 j]

theorem findFrom_spec (g : Bool) (n : Nat) (re : List ReAtom) :
    ∀ (s : List Char) (pos : Nat),
      match findFrom g n re pos s with
      | none => ∀ j, j ≤ s.length → matchHere g n re (s.drop j) = none
      | some (a, e) => ∃ j ρ, j ≤ s.length ∧ a = pos + j ∧ matchHere g n re (s.drop j) = some ρ ∧
          e = n - ρ.length ∧ ∀ j', j' < j → matchHere g n re (s.drop j') = none := by
  intro s pos
  rw [findFrom_eq]
  rcases @Proofs.leastUpTo_spec (fun j => (matchHere g n re (s.drop j)).isSome) s.length with
    ⟨h1, h2⟩ | ⟨j, h1, hj, hp, hmin⟩ <;> rw [h1]
  · exact fun j hj => by simpa using h2 j hj
  · obtain ⟨ρ, hρ⟩ := Option.isSome_iff_exists.mp hp
    simp only [Option.bind_some, hρ, Option.map_some]
    exact ⟨j, ρ, hj, rfl, hρ, rfl, fun j' hj' => by simpa using hmin j' hj'⟩

namespace Proofs

theorem findAt_is_leftmost (g : Bool) (re : List ReAtom) (text : List Char) (a0 : Nat)
    (h0 : a0 ≤ text.length) :
    match findAt g re text a0 with
    | none => ∀ i, a0 ≤ i → i ≤ text.length → ∀ ρ, ¬ reDenotes text.length re (text.drop i) ρ
    | some (a, e) => a0 ≤ a ∧ a ≤ text.length ∧
        (∃ ρ, (reEnum g text.length re (text.drop a)).head? = some ρ ∧ e = text.length - ρ.length) ∧
        ∀ i, a0 ≤ i → i < a → ∀ ρ, ¬ reDenotes text.length re (text.drop i) ρ := by
  unfold findAt
  rw [if_pos h0]
  have hspec := findFrom_spec g text.length re (text.drop a0) a0
  have key : ∀ i, a0 ≤ i → matchHere g text.length re ((text.drop a0).drop (i - a0)) = none →
      ∀ ρ, ¬ reDenotes text.length re (text.drop i) ρ := by
    intro i h1 hm ρ hd
    rw [List.drop_drop] at hm
    have e : a0 + (i - a0) = i := by omega
    rw [e] at hm
    have := matchHere_complete g _ re _ ρ hd
    rw [hm] at this; simp at this
  cases hf : findFrom g text.length re a0 (text.drop a0) with
  | none =>
    rw [hf] at hspec
    intro i h1 h2
    exact key i h1 (hspec (i - a0) (by simp; omega))
  | some ae =>
    obtain ⟨a, e⟩ := ae
    rw [hf] at hspec
    obtain ⟨j, ρ, hj, ha, hm, he, hmin⟩ := hspec
    simp at hj
    rw [List.drop_drop] at hm
    refine ⟨by omega, by omega, ⟨ρ, ?_, he⟩, ?_⟩
    · rw [ha, ← matchHere_head]; exact hm
    · intro i h1 h2
      exact key i h1 (hmin (i - a0) (by omega))

end Proofs

theorem findFrom_bos_short (g : Bool) (n : Nat) (re : List ReAtom) :
    ∀ (s : List Char) (pos : Nat), s.length < n → findFrom g n (.bos :: re) pos s = none := by
  intro s pos h
  rw [findFrom_eq, leastUpTo_none fun j _ => by simp only [matchHere, List.length_drop]; rw [if_neg (by omega)]; rfl]
  rfl

theorem findAt_bos (g : Bool) (re : List ReAtom) (v : List Char) :
    findAt g (.bos :: re) v 0 = (matchHere g v.length re v).map (fun ρ => (0, v.length - ρ.length)) := by
  unfold findAt
  simp only [Nat.zero_le, if_true, List.drop_zero]
  cases v with
  | nil =>
    simp only [findFrom, matchHere, List.length_nil, if_true]
    cases matchHere g 0 re [] <;> rfl
  | cons c t =>
    simp only [findFrom, matchHere, if_true]
    cases hm : matchHere g (c :: t).length re (c :: t) with
    | some r => rfl
    | none =>
      simp only [Option.map_none]
      exact findFrom_bos_short g _ re t 1 (by simp)

theorem findAt_anchored_isSome (g : Bool) (re : List ReAtom) (s : List Char) :
    (findAt g (.bos :: re) s 0).isSome = (matchHere g s.length re s).isSome := by
  rw [findAt_bos, Option.isSome_map]

theorem suffix_tail_of_cons {d c : Char} {t' s' : List Char} (h : d :: t' <:+ c :: s') : t' <:+ s' := by
  rcases List.suffix_cons_iff.mp h with e | h
  · injection e with _ e2; subst e2; exact List.suffix_refl _
  · exact (List.suffix_cons d t').trans h

/-- matching later never forces a longer rest (if it matches at all) -/
theorem den_mono_le (n : Nat) (re : List ReAtom) (hp : re.all plainAtom = true) :
    ∀ (s t ρ : List Char), t <:+ s → reDenotes n re s ρ → (∃ y, reDenotes n re t y) →
      ∃ ρ', reDenotes n re t ρ' ∧ ρ'.length ≤ ρ.length := by
  induction re with
  | nil =>
    intro s t ρ hts hρ _
    simp only [reDenotes] at hρ; subst hρ
    exact ⟨t, rfl, hts.length_le⟩
  | cons a r ih =>
    simp only [List.all_cons, Bool.and_eq_true] at hp
    have ihr := ih hp.2
    intro s t ρ hts hρ hne
    cases a with
    | any =>
      obtain ⟨c, s', rfl, hρ⟩ := hρ
      obtain ⟨y, d, t', rfl, hy⟩ := hne
      obtain ⟨ρ', h1, h2⟩ := ihr s' t' ρ (suffix_tail_of_cons hts) hρ ⟨y, hy⟩
      exact ⟨ρ', ⟨d, t', rfl, h1⟩, h2⟩
    | one x =>
      obtain ⟨c, s', rfl, _, hρ⟩ := hρ
      obtain ⟨y, d, t', rfl, hd, hy⟩ := hne
      obtain ⟨ρ', h1, h2⟩ := ihr s' t' ρ (suffix_tail_of_cons hts) hρ ⟨y, hy⟩
      exact ⟨ρ', ⟨d, t', rfl, hd, h1⟩, h2⟩
    | star =>
      obtain ⟨u, hus, hρu⟩ := hρ
      obtain ⟨y, w, hwt, hyw⟩ := hne
      by_cases hlen : u.length ≤ t.length
      · exact ⟨ρ, ⟨u, List.suffix_of_suffix_length_le hus hts hlen, hρu⟩, Nat.le_refl _⟩
      · -- the `.*` stops before `t` begins: whatever follows it matches later within `t`, at `w`
        have htu : t <:+ u := List.suffix_of_suffix_length_le hts hus (by omega)
        obtain ⟨ρ', hρ', hle⟩ := ihr u w ρ (hwt.trans htu) hρu ⟨y, hyw⟩
        exact ⟨ρ', ⟨w, hwt, hρ'⟩, hle⟩
    | bos => simp [plainAtom] at hp
    | eos => simp [plainAtom] at hp
    | alt bs => simp [plainAtom] at hp

/-- matching earlier never forces a shorter rest (if it matches at all) -/
theorem den_mono_ge (n : Nat) (re : List ReAtom) (hp : re.all plainAtom = true) :
    ∀ (s t ρ : List Char), t <:+ s → reDenotes n re t ρ → (∃ y, reDenotes n re s y) →
      ∃ ρ', reDenotes n re s ρ' ∧ ρ.length ≤ ρ'.length := by
  induction re with
  | nil =>
    intro s t ρ hts hρ _
    simp only [reDenotes] at hρ; subst hρ
    exact ⟨s, rfl, hts.length_le⟩
  | cons a r ih =>
    simp only [List.all_cons, Bool.and_eq_true] at hp
    have ihr := ih hp.2
    intro s t ρ hts hρ hne
    cases a with
    | any =>
      obtain ⟨d, t', rfl, hρ⟩ := hρ
      obtain ⟨y, c, s', rfl, hy⟩ := hne
      obtain ⟨ρ', h1, h2⟩ := ihr s' t' ρ (suffix_tail_of_cons hts) hρ ⟨y, hy⟩
      exact ⟨ρ', ⟨c, s', rfl, h1⟩, h2⟩
    | one x =>
      obtain ⟨d, t', rfl, _, hρ⟩ := hρ
      obtain ⟨y, c, s', rfl, hc, hy⟩ := hne
      obtain ⟨ρ', h1, h2⟩ := ihr s' t' ρ (suffix_tail_of_cons hts) hρ ⟨y, hy⟩
      exact ⟨ρ', ⟨c, s', rfl, hc, h1⟩, h2⟩
    | star =>
      obtain ⟨u, hut, hρu⟩ := hρ
      exact ⟨ρ, ⟨u, hut.trans hts, hρu⟩, Nat.le_refl _⟩
    | bos => simp [plainAtom] at hp
    | eos => simp [plainAtom] at hp
    | alt bs => simp [plainAtom] at hp

theorem matchHere_star_cons (g : Bool) (n : Nat) (r : List ReAtom) (c : Char) (t : List Char) :
    matchHere g n (.star :: r) (c :: t) =
      if g then (match matchHere g n (.star :: r) t with
        | some x => some x
        | none => matchHere g n r (c :: t))
      else (match matchHere g n r (c :: t) with
        | some x => some x
        | none => matchHere g n (.star :: r) t) := by
  simp only [matchHere, starLoop]
  cases g <;> simp only [if_true, Bool.false_eq_true, if_false]
  · cases matchHere false n r (c :: t) <;> rfl
  · cases starLoop true (matchHere true n r) t <;> rfl

theorem star_greedy_min (n : Nat) (r : List ReAtom)
    (hC : ∀ u ρ, matchHere true n r u = some ρ → ∀ ρ', reDenotes n r u ρ' → ρ.length ≤ ρ'.length)
    (hM : ∀ (s t ρ : List Char), t <:+ s → reDenotes n r s ρ → (∃ y, reDenotes n r t y) →
      ∃ ρ', reDenotes n r t ρ' ∧ ρ'.length ≤ ρ.length) :
    ∀ s ρ, matchHere true n (.star :: r) s = some ρ →
      ∀ ρ', reDenotes n (.star :: r) s ρ' → ρ.length ≤ ρ'.length := by
  intro s
  induction s with
  | nil =>
    rintro ρ h ρ' ⟨u, hu, hρ'⟩
    obtain rfl := List.eq_nil_of_suffix_nil hu
    exact hC _ _ h _ hρ'
  | cons c t ih =>
    rintro ρ h ρ' ⟨u, hu, hρ'⟩
    rw [matchHere_star_cons, if_pos rfl] at h
    cases h1 : matchHere true n (.star :: r) t with
    | some x =>
      rw [h1] at h; obtain rfl := Option.some.inj h
      rcases List.suffix_cons_iff.mp hu with rfl | hut
      · -- `ρ'` comes from the whole string: some later rest is at most as long
        obtain ⟨w, hwt, hw⟩ := Proofs.matchHere_sound _ _ _ _ _ h1
        obtain ⟨ρ'', hρ'', hle⟩ := hM (c :: t) w ρ' (hwt.trans (List.suffix_cons c t)) hρ' ⟨_, hw⟩
        have := ih _ h1 ρ'' ⟨w, hwt, hρ''⟩
        omega
      · exact ih _ h1 ρ' ⟨u, hut, hρ'⟩
    | none =>
      rw [h1] at h
      rcases List.suffix_cons_iff.mp hu with rfl | hut
      · exact hC _ _ h _ hρ'
      · have := Proofs.matchHere_complete true n (.star :: r) t ρ' ⟨u, hut, hρ'⟩
        rw [h1] at this; cases this

theorem star_lazy_max (n : Nat) (r : List ReAtom)
    (hD : ∀ u ρ, matchHere false n r u = some ρ → ∀ ρ', reDenotes n r u ρ' → ρ'.length ≤ ρ.length)
    (hM : ∀ (s t ρ : List Char), t <:+ s → reDenotes n r t ρ → (∃ y, reDenotes n r s y) →
      ∃ ρ', reDenotes n r s ρ' ∧ ρ.length ≤ ρ'.length) :
    ∀ s ρ, matchHere false n (.star :: r) s = some ρ →
      ∀ ρ', reDenotes n (.star :: r) s ρ' → ρ'.length ≤ ρ.length := by
  intro s
  induction s with
  | nil =>
    rintro ρ h ρ' ⟨u, hu, hρ'⟩
    obtain rfl := List.eq_nil_of_suffix_nil hu
    exact hD _ _ h _ hρ'
  | cons c t ih =>
    rintro ρ h ρ' ⟨u, hu, hρ'⟩
    rw [matchHere_star_cons, if_neg (by decide)] at h
    cases h1 : matchHere false n r (c :: t) with
    | some x =>
      rw [h1] at h; obtain rfl := Option.some.inj h
      rcases List.suffix_cons_iff.mp hu with rfl | hut
      · exact hD _ _ h1 _ hρ'
      · obtain ⟨ρ'', hρ'', hle⟩ := hM (c :: t) u ρ' (hut.trans (List.suffix_cons c t)) hρ'
          ⟨_, Proofs.matchHere_sound _ _ _ _ _ h1⟩
        have := hD _ _ h1 _ hρ''
        omega
    | none =>
      rw [h1] at h
      rcases List.suffix_cons_iff.mp hu with rfl | hut
      · have := Proofs.matchHere_complete false n r _ ρ' hρ'
        rw [h1] at this; cases this
      · exact ih _ h ρ' ⟨u, hut, hρ'⟩

/-- an atom that consumes one character hands on whatever relates the rest found to the other rests (`P` is `≤` for
    greedy, `≥` for lazy) -/
theorem extremal_any (g : Bool) (n : Nat) (r : List ReAtom) (P : Nat → Nat → Prop)
    (ih : ∀ u ρ, matchHere g n r u = some ρ → ∀ ρ', reDenotes n r u ρ' → P ρ.length ρ'.length) :
    ∀ s ρ, matchHere g n (.any :: r) s = some ρ → ∀ ρ', reDenotes n (.any :: r) s ρ' → P ρ.length ρ'.length := by
  intro s ρ h ρ' hρ'
  cases s with
  | nil => exact absurd hρ' (den_any_nil n r ρ')
  | cons c t => exact ih t ρ h ρ' ((den_any_cons n r c t ρ').mp hρ')

theorem extremal_one (g : Bool) (n : Nat) (x : Simple) (r : List ReAtom) (P : Nat → Nat → Prop)
    (ih : ∀ u ρ, matchHere g n r u = some ρ → ∀ ρ', reDenotes n r u ρ' → P ρ.length ρ'.length) :
    ∀ s ρ, matchHere g n (.one x :: r) s = some ρ → ∀ ρ', reDenotes n (.one x :: r) s ρ' →
      P ρ.length ρ'.length := by
  intro s ρ h ρ' hρ'
  cases s with
  | nil => exact absurd hρ' (den_one_nil n x r ρ')
  | cons c t =>
    obtain ⟨hc, hρ'⟩ := (den_one_cons n x r c t ρ').mp hρ'
    simp only [matchHere, hc, if_true] at h
    exact ih t ρ h ρ' hρ'

theorem matchHere_extremal (n : Nat) (re : List ReAtom) (hp : re.all plainAtom = true) :
    (∀ s ρ, matchHere true n re s = some ρ → ∀ ρ', reDenotes n re s ρ' → ρ.length ≤ ρ'.length) ∧
    (∀ s ρ, matchHere false n re s = some ρ → ∀ ρ', reDenotes n re s ρ' → ρ'.length ≤ ρ.length) := by
  induction re with
  | nil =>
    refine ⟨?_, ?_⟩ <;>
    · intro s ρ h ρ' hρ'
      obtain rfl := Option.some.inj h
      obtain rfl : ρ' = s := hρ'
      exact Nat.le_refl _
  | cons a r ih =>
    simp only [List.all_cons, Bool.and_eq_true] at hp
    obtain ⟨iC, iD⟩ := ih hp.2
    cases a with
    | any => exact ⟨extremal_any true n r (· ≤ ·) iC, extremal_any false n r (fun a b => b ≤ a) iD⟩
    | one x => exact ⟨extremal_one true n x r (· ≤ ·) iC, extremal_one false n x r (fun a b => b ≤ a) iD⟩
    | star => exact ⟨star_greedy_min n r iC (den_mono_le n r hp.2), star_lazy_max n r iD (den_mono_ge n r hp.2)⟩
    | bos => simp [plainAtom] at hp
    | eos => simp [plainAtom] at hp
    | alt bs => simp [plainAtom] at hp

end YashModel.Fnmatch
