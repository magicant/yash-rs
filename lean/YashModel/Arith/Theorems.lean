/-
  C03 — property theorems and non-vacuity examples; the Spec-side ones are in `SpecTheorems.lean`.  A property theorem that a
  lemma module itself uses stands in that module under its own name.  What each lemma module holds and how they hang
  together: DESIGN.md, section 0.
-/
import YashModel.Arith.Parses
import YashModel.Arith.TreeLemmas
import YashModel.Arith.NumLemmas
import YashModel.Arith.SemMain
import YashModel.Arith.ShellLemmas
import YashModel.Arith.RoundTrip
import YashModel.Arith.ReadBack
import YashModel.Arith.Spell
import YashModel.Arith.BinaryResult
import YashModel.Arith.UnicodeLemmas
import YashModel.Arith.TableLemmas
import YashModel.Arith.TraceLemmas
namespace YashModel.Arith
open YashModel.Generated.ArithTables

/-- ★ "whenever a result is unrepresentable or undefined it reports an error instead of a wrong or wrapped
    value", for every binary operator in one statement: the call succeeds with `v` exactly when the operation
    is defined in C, `v` is its mathematically exact result and `v` fits i64; in every other case the call is
    an error (it is never a panic, never another value). -/
theorem unrepresentable_is_error (op : BinaryOperator) (l r : Int) (hl : InRange l) (hr : InRange r) :
    (∀ v, binaryResult op l r = .ok v ↔
      (Spec.definedOp op l r ∧ Spec.InRange (Spec.exactOp op l r) ∧ v = Spec.exactOp op l r)) ∧
    ((¬ (Spec.definedOp op l r ∧ Spec.InRange (Spec.exactOp op l r))) → ∃ err, binaryResult op l r = .error err) :=
  ⟨fun v => (binaryResult_ok_iff hl hr v).trans (arith_eq_some_iff op l r v),
    fun hn => binaryResult_of_none hl hr ((arith_eq_none_iff op l r).mpr hn)⟩

/-- the i64 boundary cases named by the property: `MIN / -1` and `MIN % -1` are errors, not wrapped values -/
example : (binaryResult .Divide (-9223372036854775808) (-1)).value? = none ∧
    (binaryResult .Remainder (-9223372036854775808) (-1)).value? = none ∧
    (binaryResult .ShiftLeft 1 63).value? = none ∧ (binaryResult .ShiftLeft 1 62).value? = some 4611686018427387904 ∧
    (binaryResult .ShiftRight (-7) 1).value? = some (-4) ∧ (binaryResult .ShiftRight 1 64).value? = none ∧
    (binaryResult .Multiply 4294967296 2147483648).value? = none := by decide +kernel

/-- ★ the left-shift filter of the code (`result >= 0 && result >> rhs == lhs` on the *wrapped* shift)
    passes exactly when the exact product fits. -/
theorem shl_exact (l : Int) (n : Nat) (hl : 0 ≤ l) :
    (decide (wrap64 (l * 2 ^ n) ≥ 0) && (wrap64 (l * 2 ^ n) >>> n == l)) = true ↔ l * 2 ^ n < 2 ^ 63 := by
  rw [shl_filter l n hl]; omega

/-- the hypothesis of `shl_exact` is met by the boundary operands: `1 << 62` fits, `1 << 63` does not -/
example : (0 : Int) ≤ 1 ∧ (1 : Int) * 2 ^ 62 < 2 ^ 63 ∧ ¬ ((1 : Int) * 2 ^ 63 < 2 ^ 63) := by decide

/-- ★ the precedence of every binary operator is its level in the C grammar; `?` sits between assignment
    and `||`; `:` and `)` are below every level (they end an operand); the remaining operators
    (`~ ! ++ -- (`, never binary) are above every binary level. -/
theorem precedence_is_C (o : Operator) :
    (∀ b a, o.as_binary = some (b, a) → o.precedence = Spec.cLevel b ∧ 1 ≤ o.precedence ∧ o.precedence ≤ 12) ∧
    (o = .Question → o.precedence = Spec.cConditionalLevel) ∧
    ((o = .Colon ∨ o = .CloseParen) → o.precedence = 0) ∧
    (o.as_binary = none → o ≠ .Question → o ≠ .Colon → o ≠ .CloseParen → o.precedence = Spec.cUnaryLevel) := by
  have table : ∀ o ∈ allOperators,
      (∀ p ∈ o.as_binary, o.precedence = Spec.cLevel p.1 ∧ 1 ≤ o.precedence ∧ o.precedence ≤ 12) ∧
      (o = .Question → o.precedence = Spec.cConditionalLevel) ∧
      ((o = .Colon ∨ o = .CloseParen) → o.precedence = 0) ∧
      (o.as_binary = none → o ≠ .Question → o ≠ .Colon → o ≠ .CloseParen → o.precedence = Spec.cUnaryLevel) := by
    decide +kernel
  obtain ⟨h1, h2⟩ := table o (mem_allOperators o)
  exact ⟨fun b a h => h1 (b, a) (by rw [h]; rfl), h2⟩

/-- ★ the associativity of every binary operator is the one of the C grammar (assignments group right to
    left, everything else left to right) -/
theorem associativity_is_C (o : Operator) :
    ∀ b a, o.as_binary = some (b, a) → a = Spec.cAssoc b := by
  have table : ∀ o ∈ allOperators, ∀ p ∈ o.as_binary, p.2 = Spec.cAssoc p.1 := by decide +kernel
  intro b a h
  exact table o (mem_allOperators o) (b, a) (by rw [h]; rfl)

theorem table_facts :
    operators.Pairwise (fun a q => ¬ (a.1 <+: q.1 ∧ a.1 ≠ q.1)) ∧ (operators.map (·.1)).Nodup ∧
    (∀ p ∈ operators, ∀ c, p.1.head? = some c → isWhitespace c = false) ∧
    (∀ o : Operator, (lexemeOf o, o) ∈ operators) :=
  ⟨longest_match_table, lexemes_are_C.2.2.1, fun p hp c hc => (lexeme_first p hp c hc).2, lexemeOf_mem⟩

example : findOp "<<=1".toList = some (['<', '<', '='], .LessLessEqual) := by decide +kernel

/-- ★ on a well-formed vector (every parsed vector is one: `parse_wellformed`) `eval`'s `split_last().expect(..)` and
    `split_at(len - n)` never fail: the evaluation returns a value or an error in every environment — it cannot panic. -/
theorem eval_no_panic (ast : List Ast) (h : WF ast) (env : Env) : (eval ast.length ast env).Returns :=
  eval_returns_of_wf h ast.length env (Nat.le_refl _)

/-- ★ no expression text makes the evaluation panic (nor exhausts the fuel of `eval`). -/
theorem evalStr_never_panics (src : List Char) (env : Env) :
    evalStr src env ≠ .panic ∧ evalStr src env ≠ .fuel := by
  have h := evalStrU_never_panics [] src env
  rw [evalStrU_nil] at h
  exact ⟨h.1, h.2.1⟩

/-- ☆ the fuel the model hands to its tokenizer, parser and evaluator is never exhausted: every fuel above
    the text length gives the same tokens, the parser never answers `fuel`, and (`evalStr_never_panics`) neither
    does the evaluator.  So the outcomes of the model are exactly: a value, a syntax error, an evaluation
    error — the outcomes the Rust function has when it does not panic. -/
theorem fuel_sufficient (src : List Char) (env : Env) :
    (∀ g, src.length < g → tokenize (src.length + 1) src = tokenize g src) ∧
    parse src ≠ .error .fuel ∧
    (match evalStr src env with
      | .value _ _ => True
      | .syntaxError e => e ≠ .fuel
      | .evalError _ => True
      | .panic => False
      | .fuel => False) := by
  refine ⟨fun g hg => tokenize_fuel_irrelevant _ g src (Nat.lt_succ_self _) hg, parse_no_fuel src, ?_⟩
  have h1 := evalStrU_never_panics [] src env
  rw [evalStrU_nil] at h1
  cases h : evalStr src env with
  | value v e => trivial
  | syntaxError e => exact fun he => h1.2.2.1 (he ▸ h)
  | evalError e => trivial
  | panic => exact h1.1 h
  | fuel => exact h1.2.1 h

example : (parse "1+2*(a=3)".toList).toOption = some
    [.term (.value 1), .term (.value 2), .term (.variable ['a']), .term (.value 3), .binary .Assign 1,
     .binary .Multiply 3, .binary .Add 5] := by decide +kernel

/-- ★ `lhs || rhs` with `lhs ≠ 0` is 1 in the environment `lhs` left behind, whatever `rhs` is: `rhs` has no
    effect and cannot raise an error (the right-hand side of the equation does not mention it). -/
theorem shortcircuit_or (f : Nat) (lhs rhs : List Ast) (env env1 : Env) (lt : Term) (l : Int)
    (hl : eval f lhs env = .ok (lt, env1)) (hv : intoValue lt env1 = .ok l) (hne : l ≠ 0) :
    eval (f + 1) (lhs ++ rhs ++ [.binary .LogicalOr rhs.length]) env = .ok (.value 1, env1) := by
  rw [eval, splitLast_append]
  simp only [splitAtEnd_append]
  simp [hl, hv, Res.bind, hne]

/-- ★ dually `lhs && rhs` with `lhs = 0` is 0 -/
theorem shortcircuit_and (f : Nat) (lhs rhs : List Ast) (env env1 : Env) (lt : Term)
    (hl : eval f lhs env = .ok (lt, env1)) (hv : intoValue lt env1 = .ok 0) :
    eval (f + 1) (lhs ++ rhs ++ [.binary .LogicalAnd rhs.length]) env = .ok (.value 0, env1) := by
  rw [eval, splitLast_append]
  simp only [splitAtEnd_append]
  simp [hl, hv, Res.bind]

/-- ★ `c ? t : e` evaluates exactly one branch: the result is the evaluation of the selected branch in the
    environment `c` left behind; the other branch does not occur on the right-hand side. -/
theorem shortcircuit_cond (f : Nat) (c t e : List Ast) (env env1 : Env) (ct : Term) (v : Int)
    (hc : eval f c env = .ok (ct, env1)) (hv : intoValue ct env1 = .ok v) :
    eval (f + 1) (c ++ t ++ e ++ [.conditional t.length e.length]) env =
      if v ≠ 0 then eval f t env1 else eval f e env1 := by
  rw [eval, splitLast_append]
  simp only [splitAtEnd_append]
  simp [hc, hv, Res.bind]

/-- `||`, `&&` and `?:` leave the operand they skip unevaluated: the result and the environment are those after the left
    operand (the condition) alone -/
theorem shortcircuit_no_effect :
    (∀ f lhs rhs env env1 lt l, eval f lhs env = .ok (lt, env1) → intoValue lt env1 = .ok l → l ≠ 0 →
      eval (f + 1) (lhs ++ rhs ++ [.binary .LogicalOr rhs.length]) env = .ok (.value 1, env1)) ∧
    (∀ f lhs rhs env env1 lt, eval f lhs env = .ok (lt, env1) → intoValue lt env1 = .ok 0 →
      eval (f + 1) (lhs ++ rhs ++ [.binary .LogicalAnd rhs.length]) env = .ok (.value 0, env1)) ∧
    (∀ f c t e env env1 ct v, eval f c env = .ok (ct, env1) → intoValue ct env1 = .ok v →
      eval (f + 1) (c ++ t ++ e ++ [.conditional t.length e.length]) env =
        if v ≠ 0 then eval f t env1 else eval f e env1) :=
  ⟨shortcircuit_or, shortcircuit_and, shortcircuit_cond⟩

/-- `1 || (x = 1/0)`: neither the division nor the assignment happens -/
example : evalStr "1 || (x = 1/0)".toList [] = .value 1 [] ∧
    evalStr "0 && x++".toList [] = .value 0 [] ∧
    evalStr "0 ? x++ : y--".toList [] = .value 0 [(['y'], ['-', '1'])] := by
  refine ⟨?_, ?_, ?_⟩ <;> decide +kernel

/-- ★ `+ - ! ~` on an i64 value: exact, and `-` is an error exactly at `-2^63` -/
theorem prefix_exact (t : Term) (env : Env) (v : Int) (hv : intoValue t env = .ok v) (hr : InRange v) :
    applyPrefix t .NumericCoercion env = .ok (v, env) ∧
    applyPrefix t .NumericNegation env =
      (if Spec.InRange (-v) then .ok (-v, env) else .error .overflow) ∧
    (Spec.InRange (-v) ↔ v ≠ -9223372036854775808) ∧
    applyPrefix t .LogicalNegation env = .ok (Spec.truth (v = 0), env) ∧
    applyPrefix t .BitwiseNegation env = .ok (-v - 1, env) ∧ Spec.InRange (-v - 1) := by
  refine ⟨?_, ?_, ?_, ?_, ?_, ?_⟩
  · simp [applyPrefix, hv, Res.bind]
  · simp only [applyPrefix, hv, Res.ok_bind, checked_outcome, Res.ite_bind]
  · unfold InRange at hr; unfold Spec.InRange; omega
  · simp only [applyPrefix, hv, Res.bind, Spec.truth]
  · simp [applyPrefix, hv, Res.bind, bitNot_exact v hr]
  · unfold InRange at hr; unfold Spec.InRange; omega

/-- the hypotheses of `prefix_exact` at the boundary: `-(-2^63)` is the error case -/
example : intoValue (.value (-9223372036854775808)) [] = .ok (-9223372036854775808) ∧
    InRange (-9223372036854775808) ∧ ¬ Spec.InRange (-(-9223372036854775808)) := by decide

/-- ★ `++x --x x++ x--` on a variable whose value is `v`: the variable becomes `v ± 1` (decimal text), the
    result is the new (prefix) or old (postfix) value; at `2^63-1` / `-2^63` it is an error and nothing is
    assigned — never a wrapped value. -/
theorem incdec_exact (x : Name) (env : Env) (v : Int) (hv : expandVariable x env = .ok v) :
    applyPrefix (.variable x) .Increment env =
      (if Spec.InRange (v + 1) then .ok (v + 1, env.set x (showInt (v + 1))) else .error .overflow) ∧
    applyPrefix (.variable x) .Decrement env =
      (if Spec.InRange (v - 1) then .ok (v - 1, env.set x (showInt (v - 1))) else .error .overflow) ∧
    applyPostfix (.variable x) .Increment env =
      (if Spec.InRange (v + 1) then .ok (v, env.set x (showInt (v + 1))) else .error .overflow) ∧
    applyPostfix (.variable x) .Decrement env =
      (if Spec.InRange (v - 1) then .ok (v, env.set x (showInt (v - 1))) else .error .overflow) := by
  -- each is: read the variable, `checked_add`/`checked_sub`, `unwrap_or_overflow` (`checked_outcome`), assign
  refine ⟨?_, ?_, ?_, ?_⟩ <;>
    simp only [applyPrefix, applyPostfix, requireVariable, hv, checked_outcome, Res.ok_bind, Res.ite_bind, assign]

/-- ★ increment and decrement of something that is not a variable is an error -/
theorem incdec_needs_variable (c : Int) (env : Env) :
    applyPrefix (.value c) .Increment env = .error .assignmentToValue ∧
    applyPrefix (.value c) .Decrement env = .error .assignmentToValue ∧
    (∀ op, applyPostfix (.value c) op env = .error .assignmentToValue) := by
  refine ⟨?_, ?_, ?_⟩ <;> simp [applyPrefix, applyPostfix, requireVariable, Res.bind]

example : expandVariable ['m'] [(['m'], "9223372036854775807".toList)] = .ok 9223372036854775807 ∧
    applyPostfix (.variable ['m']) .Increment [(['m'], "9223372036854775807".toList)]
    = .error .overflow := by decide +kernel

/-- ★ if the text `c` is an integer constant for the tokenizer — made of term characters and accepted by the radix
    rules with value `v` — then a variable whose value is `c` expands to `v` (with a sign in front:
    `var_value_is_signed_constant`). -/
theorem var_constant_agrees (x : Name) (c : List Char) (v : Int) (env : Env)
    (hterm : ∀ ch ∈ c, isTermChar ch = true) (hc : parseConstant c = some v) (hx : env.get x = some c) :
    expandVariable x env = .ok v := by
  unfold expandVariable
  simp only [hx, parseInteger_of_constant c v hterm hc, Res.ofOption]

/-- ☆ `eval` on the vector the parser lays out for a tree is that tree evaluated node by node (the stored
    operand lengths select exactly the operand encodings), for every tree and environment. -/
theorem eval_rpn (e : Spec.Expr) (env : Env) :
    WF (rpn e) ∧ eval (rpn e).length (rpn e) env = evalTree e env :=
  ⟨rpn_wf e, eval_rpn_tree e _ env (Nat.le_refl _)⟩

/-- ☆ every expression gets its C value: for every tree `e` on which C defines a value (`Spec.inScope`: no
    unsequenced write/use of a variable, no conditional as lvalue) with literals in i64, and every
    environment, the code's evaluation (`eval` on the vector the parser lays out for `e`, then
    `into_value`) returns exactly the Spec's exact value and final variables — and an error exactly when
    the Spec has none (overflow, division by zero, bad shift, bad variable value, assignment to a
    non-variable).  The evaluation order of the code ("left term, right operand, then left value") and the
    Spec's left-to-right order are shown to coincide on these trees by a frame argument. -/
theorem model_computes_C_value (e : Spec.Expr) (env : Env) (hs : Spec.inScope e = true) (hl : litsInRange e) :
    match Spec.evalExact e env with
    | some (v, env') => evalValue (rpn e) env = .ok (v, env')
    | none => ∃ err, evalValue (rpn e) env = .error err :=
  evalValue_rpn e env hs hl

/-- ★ the operand lengths the parser stores are the exact lengths, whatever the size of the operands: for `l op r`
    (written with the needed parentheses) the vector ends in the `Binary` node whose `rhs_len` is exactly the number of
    nodes of `r`'s own vector, and for `c ? t : e` the `Conditional` node carries exactly the node counts of `t` and of
    `e`.  (Two instances of `parse_render`; lengths are naturals in the model.  `eval` slices at exactly these places,
    `eval_rpn`, so `a op (big)` is `op` applied to the values of `a` and of `big`, `model_computes_C_value`.) -/
theorem operand_lengths_never_wrap (op : BinaryOperator) (l r c t e : Spec.Expr) (f g : Nat)
    (hf : 2 * (render (.bin op l r)).length + 2 ≤ f) (hg : 2 * (render (.cond c t e)).length + 2 ≤ g) :
    parseToks f (render (.bin op l r)) = .ok (rpn l ++ rpn r ++ [.binary op (rpn r).length]) ∧
    parseToks g (render (.cond c t e)) =
      .ok (rpn c ++ rpn t ++ rpn e ++ [.conditional (rpn t).length (rpn e).length]) :=
  ⟨parse_render (.bin op l r) f hf, parse_render (.cond c t e) g hg⟩

/-- ☆ `parse_render` together with `model_computes_C_value`: the tokens of any tree on which C defines a value are parsed
    and evaluated to exactly that value (and to an error exactly when there is none). -/
theorem rendered_expression_gets_its_C_value (e : Spec.Expr) (env : Env) (hs : Spec.inScope e = true)
    (hl : litsInRange e) :
    ∃ ast, parseToks (2 * (render e).length + 2) (render e) = .ok ast ∧
      match Spec.evalExact e env with
      | some (v, env') => evalValue ast env = .ok (v, env')
      | none => ∃ err, evalValue ast env = .error err :=
  ⟨rpn e, parse_render e _ (Nat.le_refl _), model_computes_C_value e env hs hl⟩

/-- ☆ from characters to the C value: for every tree on which C defines a value (constants non-negative
    i64, identifiers as names), `yash_arith::eval` on its text — minimal parentheses, one blank after every
    token — returns exactly the Spec's value and final variables, and an evaluation error exactly when the
    Spec has none.  (tokenizer + parser + evaluator together; no step is left to testing for this spelling.) -/
theorem text_gets_its_C_value (e : Spec.Expr) (env : Env) (hs : Spec.inScope e = true) (h : leavesOK e) :
    match Spec.evalExact e env with
    | some (v, env') => evalStr (spell (render e)) env = .value v env'
    | none => ∃ err, evalStr (spell (render e)) env = .evalError err :=
  evalStr_of_parse _ e env (parse_spell_render e h) hs (litsInRange_of_leavesOK e h)

/-- ☆ the same for EVERY spelling of the tokens: any white space of Rust's `char::is_whitespace` (Unicode
    included) before, between and after the tokens, none at all where two tokens cannot run together (`glueSafe`:
    a term next to an operator, a parenthesis next to an operator, two operators that no lexeme of `OPERATORS` joins),
    and any notation of the constants (decimal, `0x`/`0X`, leading-0 octal).  `tokenize_every_spelling` is the tokenizer half. -/
theorem text_gets_its_C_value_every_spelling (e : Spec.Expr) (env : Env) (hs : Spec.inScope e = true)
    (hl : litsInRange e) (ps : List Piece) (lead : List Char) (hps : PiecesOK ps)
    (hlead : ∀ c ∈ lead, isWhitespace c = true) (htoks : ps.map (·.tok) = render e) :
    match Spec.evalExact e env with
    | some (v, env') => evalStr (lead ++ flatten ps) env = .value v env'
    | none => ∃ err, evalStr (lead ++ flatten ps) env = .evalError err :=
  evalStr_of_parse _ e env (parse_pieces (fun _ => 0) e ps lead hps hlead (htoks.trans (renderTop_zero e).symm)) hs hl

/-- ☆ … and with redundant parentheses: `d x` extra pairs around every subexpression `x` (and around the
    whole), in addition to the needed ones: every text the harness' tree renderer can produce — minimal or
    redundant parentheses, any white space or none, any notation of the constants — evaluates to the Spec's
    value.  `parse_render_redundant` is the parser half. -/
theorem text_gets_its_C_value_all_spellings (d : Deco) (e : Spec.Expr) (env : Env)
    (hs : Spec.inScope e = true) (hl : litsInRange e) (ps : List Piece) (lead : List Char) (hps : PiecesOK ps)
    (hlead : ∀ c ∈ lead, isWhitespace c = true) (htoks : ps.map (·.tok) = renderTop d e) :
    match Spec.evalExact e env with
    | some (v, env') => evalStr (lead ++ flatten ps) env = .value v env'
    | none => ∃ err, evalStr (lead ++ flatten ps) env = .evalError err :=
  evalStr_of_parse _ e env (parse_pieces d e ps lead hps hlead htoks) hs hl

/-- `((a))*(((b+1)))` : two redundant pairs around `a`, two around the needed pair of `b+1` -/
example :
    let e : Spec.Expr := .bin .Multiply (.var ['a']) (.bin .Add (.var ['b']) (.num 1))
    let d : Deco := fun x => if x = .var ['a'] then 2 else if x = .bin .Add (.var ['b']) (.num 1) then 2 else 0
    renderTop d e = tokenize 100 "((a))*(((b+1)))".toList := by decide +kernel

/-- `x=0x10<<2` without any blank, after a no-break space: a spelling of the tokens of `x = 16 << 2` -/
example :
    let e : Spec.Expr := .bin .Assign (.var ['x']) (.bin .ShiftLeft (.num 16) (.num 2))
    let ps : List Piece :=
      [⟨.term (.variable ['x']), ['x'], []⟩, ⟨.op .Equal, ['='], []⟩, ⟨.term (.value 16), "0x10".toList, []⟩,
       ⟨.op .LessLess, "<<".toList, []⟩, ⟨.term (.value 2), ['2'], []⟩]
    ps.map (·.tok) = render e ∧ flatten ps = "x=0x10<<2".toList ∧ isWhitespace (Char.ofNat 0xA0) = true ∧
    evalStr (Char.ofNat 0xA0 :: flatten ps) [] = .value 64 [(['x'], ['6', '4'])] := by
  refine ⟨by decide +kernel, by decide +kernel, by decide, by decide +kernel⟩

/-- ☆ a numeric constant of an expression is worth exactly
    what the C literal is worth, and is an ERROR — never a wrapped value — when the literal is malformed or
    its value does not fit i64: for every term of term characters … -/
theorem literal_exact_or_error (token : List Char) (hterm : ∀ c ∈ token, isTermChar c = true) :
    parseConstant token = Spec.constValue token ∧
    (∀ v, parseConstant token = some v → InRange v) := by
  refine ⟨parseConstant_eq_spec token hterm, fun v hv => ?_⟩
  rw [parseConstant_eq_spec token hterm] at hv
  unfold Spec.constValue at hv
  exact bind_represent_inRange (f := fun n => (n : Int)) hv

/-- … and at the top: a constant written alone evaluates to its C value or to a token error -/
theorem literal_alone (c : Char) (t : List Char) (env : Env) (hterm : ∀ ch ∈ c :: t, isTermChar ch = true)
    (hd : isAsciiDigit c = true) :
    evalStr (c :: t) env =
      match Spec.constValue (c :: t) with
      | some v => .value v env
      | none => .syntaxError .tokenError := by
  cases hv : Spec.constValue (c :: t) with
  | none =>
    -- the tokenizer answers its error token, which the parser reports
    have hnt := nextToken_word c t [] hterm (Common.StopsAt.nil _)
    rw [if_pos hd, parseConstant_eq_spec _ hterm, List.append_nil, hv] at hnt
    unfold evalStr parse
    simp [tokenize, hnt, parseToks, parseTree, parseLeaf]
  | some v =>
    -- the text is a spelling of the one-token tree `.num v`
    have hr : InRange v := (literal_exact_or_error _ hterm).2 v (by rw [parseConstant_eq_spec _ hterm, hv])
    have := text_gets_its_C_value_every_spelling (.num v) env rfl hr [⟨.term (.value v), c :: t, []⟩] []
      ⟨⟨hterm, fun a ha => by cases ha; exact hd, hv⟩, by simp, fun _ => trivial, trivial⟩ (by simp) rfl
    rw [evalExact_num hr] at this
    simpa [flatten] using this

/-- `0x7fffffffffffffff` is 2^63-1; `0x8000000000000000` and `9223372036854775808` are errors, not -2^63 -/
example : Spec.constValue "0x7fffffffffffffff".toList = some 9223372036854775807 ∧
    Spec.constValue "0x8000000000000000".toList = none ∧ Spec.constValue "9223372036854775808".toList = none ∧
    evalStr "0x8000000000000000".toList [] = .syntaxError .tokenError ∧
    Spec.constValue "0xFFFFFFFFFFFFFFFF".toList = none ∧ Spec.constValue "01000000000000000000000".toList = none := by
  refine ⟨by decide +kernel, by decide +kernel, by decide +kernel, by decide +kernel, by decide +kernel,
    by decide +kernel⟩

/-- `x = 2 + 3 * b`: the hypotheses hold and this is its text -/
example :
    let e : Spec.Expr := .bin .Assign (.var ['x']) (.bin .Add (.num 2) (.bin .Multiply (.num 3) (.var ['b'])))
    spell (render e) = "x = 2 + 3 * b ".toList ∧ Spec.inScope e = true := by
  refine ⟨by decide +kernel, by decide⟩

/-- `a - (b - c) * -d++` needs one pair of parentheses; `tokenize` of the text gives `render` of the tree -/
example :
    let e : Spec.Expr := .bin .Subtract (.var ['a'])
      (.bin .Multiply (.bin .Subtract (.var ['b']) (.var ['c'])) (.pre .NumericNegation (.post .Increment (.var ['d']))))
    render e = tokenize 100 "a - (b - c) * -d++".toList := by decide +kernel

/-- the hypotheses are met by `x = 2 + 3 * b` (and `rpn` of it is what the parser produces) -/
example :
    let e : Spec.Expr := .bin .Assign (.var ['x']) (.bin .Add (.num 2) (.bin .Multiply (.num 3) (.var ['b'])))
    Spec.inScope e = true ∧ litsInRange e ∧ (parse "x = 2 + 3 * b".toList).toOption = some (rpn e) ∧
    Spec.evalExact e [(['b'], ['5'])] = some (17, [(['b'], ['5']), (['x'], ['1', '7'])]) := by
  refine ⟨by decide, by simp [litsInRange, InRange], by decide +kernel, by decide +kernel⟩

/-- outside the scope the Spec is silent, and the code does give another answer than left-to-right
    evaluation would: `x + (x = 5)` is 10 with `x` initially unset -/
example :
    let e : Spec.Expr := .bin .Add (.var ['x']) (.bin .Assign (.var ['x']) (.num 5))
    Spec.inScope e = false ∧ evalValue (rpn e) [] = .ok (10, [(['x'], ['5'])]) ∧
    Spec.evalExact e [] = some (5, [(['x'], ['5'])]) := by
  refine ⟨by decide, by decide +kernel, by decide +kernel⟩

/-- ☆ "assignment operators update variables": the decimal text an assignment stores (`Value::to_string`)
    is read back by `parse_integer` as exactly the assigned value, for every i64 value … -/
theorem assign_roundtrip (v : Int) (hv : InRange v) : parseInteger (showInt v) = some v := by
  rw [parseInteger_eq_spec]; exact signedConstValue_showInt v hv

/-- … so after `assign(name, v)` the variable expands to `v` -/
theorem assign_then_read (env : Env) (x : Name) (v : Int) (hv : InRange v) :
    (assign x v env).bind (fun p => expandVariable x p.2) = .ok v := by
  simp only [assign, Res.bind, expandVariable, get_set_self, assign_roundtrip v hv, Res.ofOption]

example : showInt (-9223372036854775808) = "-9223372036854775808".toList ∧ showInt 0 = ['0'] ∧
    InRange (-9223372036854775808) := by
  refine ⟨by decide +kernel, by decide +kernel, by decide⟩

/-- the portability check looks at the whole vector: it fails exactly when `++` or `--` occurs anywhere in
    the expression tree — also in an operand that `||`, `&&` or `?:` would not evaluate -/
theorem portable_rejects_exactly_incdec (e : Spec.Expr) : (rpn e).any isIncDec = Spec.hasIncDec e := by
  induction e with
  | num v => rfl
  | var x => rfl
  | pre op e ih => cases op <;> simp [rpn, isIncDec, Spec.hasIncDec, ih]
  | post op e ih => simp [rpn, isIncDec, Spec.hasIncDec]
  | bin op l r ihl ihr => simp [rpn, isIncDec, Spec.hasIncDec, ihl, ihr]
  | cond c t e ihc iht ihe => simp [rpn, isIncDec, Spec.hasIncDec, ihc, iht, ihe, Bool.or_assoc]

/-- … and the option changes nothing else: a `PortabilityError` exactly when the parsed vector has such a
    node, otherwise the outcome of the default configuration (syntax errors come first, as in the code) -/
theorem portable_only_adds_the_check (src : List Char) (env : Env) :
    (evalStrPortable src env = none ↔ ∃ ast, parse src = .ok ast ∧ ast.any isIncDec = true) ∧
    (evalStrPortable src env ≠ none → evalStrPortable src env = some (evalStr src env)) := by
  unfold evalStrPortable evalStr
  cases hp : parse src with
  | error e => simp
  | ok ast =>
    by_cases h : ast.any isIncDec = true
    · simp only [h, if_true, true_iff, ne_eq, not_true_eq_false, false_implies, and_true]
      exact ⟨ast, rfl, h⟩
    · simp only [h, if_false, reduceCtorEq, false_iff, ne_eq, not_false_eq_true, true_implies, and_true]
      rintro ⟨a, ha, hh⟩
      injection ha with ha
      subst ha
      exact h hh

example : evalStrPortable "0 && n++".toList [] = none ∧
    evalStrPortable "n + 1".toList [] = some (.value 1 []) := by
  refine ⟨by decide +kernel, by decide +kernel⟩

/-! ## the glue to the shell's variable store (`Shell.lean`; yash-semantics `VarEnv`) -/

/-- ★ (at the level of what the driver runs) in the scenario
    "function with `typeset` locals, then the expansions, then print every name inside, return, print
    again": the lines the model prints are the values, the names as the function sees them at its end, and
    the names as the caller sees them after the function's context is popped — and for every name the function
    did not declare the two are EQUAL, whatever the expressions were (any assignment, `++`, `op=`, nested
    `$((…))` …): an assignment inside a function to a name that is not local there is seen by the caller. -/
theorem function_assignment_reaches_caller (names : List Name) (sc : Scenario) (vals : List (List Char × Nat))
    (st1 : Store) (hk : sc.kind = .fn)
    (h : runBody (pushLocals { ctxs := [sc.globals], nounset := sc.nounset, portable := sc.portable } sc.locals)
      sc.exprs = (vals, .ok st1)) :
    (runScenario names sc).lines = vals.map .value ++ printAll names st1 ++ printAll names (popCtx st1) ∧
    (runScenario names sc).final = some (baseCtx (popCtx st1)) ∧
    ∀ x, sc.locals.find x = none → showVisible st1 x = showVisible (popCtx st1) x := by
  refine ⟨?_, ?_, fun x hx => fn_sees_what_caller_sees _ sc.locals sc.exprs x vals st1 (by simp) hx h⟩
  · unfold runScenario; simp only [hk, h]
  · unfold runScenario; simp only [hk, h]

/-- `n += 1` in a function without a local `n`: inside and after return `n` is 2 -/
example :
    (runBody (pushLocals { ctxs := [[(['n'], ⟨.scalar ['1'], false⟩)]], nounset := false, portable := false } [])
      [" n += 1 ".toList]).2.toOption.map
      (fun st => (showVisible st ['n'], showVisible (popCtx st) ['n'])) = some ([['2']], [['2']]) := by
  decide +kernel

/-- a read-only target makes the assignment (hence the expansion) fail -/
theorem shell_assign_readonly (c : Ctx) (rest : List Ctx) (n : Name) (v : List Char) (w : SVar)
    (hw : c.find n = some w) (hro : w.readOnly = true) : assignVisibleOrGlobal (c :: rest) n v = none := by
  cases rest <;> simp [assignVisibleOrGlobal, hw, hro]

/-- `n += 1` in a function without a local `n`, global `n=1`: the function's context stays empty, the global is 2 -/
example : assignVisibleOrGlobal [[], [(['n'], ⟨.scalar ['1'], false⟩)]] ['n'] ['2']
    = some [[], [(['n'], ⟨.scalar ['2'], false⟩)]] := by decide +kernel

/-- ★ "`$((x))` and `$(($x))` agree", end to end at `yash_arith::eval`: if the value text `c` of the variable
    `x` is an integer constant worth `v`, then evaluating the text `x` and evaluating the text `c` (what `$x`
    puts there) both give `v` and leave the variables alone. -/
theorem variable_and_its_text_agree (x : Name) (c : Char) (t : List Char) (v : Int) (env : Env)
    (hx : x ≠ [] ∧ (∀ ch ∈ x, isTermChar ch = true) ∧ (∀ a, x.head? = some a → isAsciiDigit a = false))
    (hterm : ∀ ch ∈ c :: t, isTermChar ch = true) (hd : isAsciiDigit c = true)
    (hv : Spec.constValue (c :: t) = some v) (henv : env.get x = some (c :: t)) :
    evalStr x env = .value v env ∧ evalStr (c :: t) env = .value v env := by
  refine ⟨?_, by rw [literal_alone c t env hterm hd, hv]⟩
  have hsigned : Spec.signedConstValue (c :: t) = some v := by rw [signedConstValue_of_term _ hterm, hv]
  have hread : Spec.evalExact (.var x) env = some (v, env) := by
    simp only [Spec.evalExact, Spec.readVar, lookup_eq_get, henv, hsigned, Option.map]
  have := text_gets_its_C_value_every_spelling (.var x) env rfl trivial
    [⟨.term (.variable x), x, []⟩] [] ⟨⟨rfl, hx⟩, by simp, fun _ => trivial, trivial⟩ (by simp) rfl
  rw [hread] at this
  simpa [flatten] using this

/-- `x=0x1F`: the texts `x` and `0x1F` are both 31 -/
example : evalStr ['x'] [(['x'], "0x1F".toList)] = .value 31 [(['x'], "0x1F".toList)] ∧
    evalStr "0x1F".toList [(['x'], "0x1F".toList)] = .value 31 [(['x'], "0x1F".toList)] := by
  refine ⟨by decide +kernel, by decide +kernel⟩

/-- variable values in octal and hexadecimal: `x=010` is 8, `x=0x10` is 16 -/
example : expandVariable ['x'] [(['x'], "010".toList)] = .ok 8 ∧
    expandVariable ['x'] [(['x'], "0x10".toList)] = .ok 16 ∧
    parseConstant "010".toList = some 8 ∧ parseConstant "0x10".toList = some 16 ∧
    (∀ ch ∈ "0x10".toList, isTermChar ch = true) ∧ Env.get [(['x'], "0x10".toList)] ['x'] = some "0x10".toList := by
  decide +kernel

/-- ☆ "reports an error" at full strength: for every binary operator and all i64 operands `binary_result` IS
    the Spec — the exact value when `Spec.why` finds no reason, and otherwise the error that names the reason
    (`DivisionByZero` for `/ %` by 0, `LeftShiftingNegative`, `ReverseShifting` for a negative count,
    `Overflow` for everything unrepresentable incl. `MIN / -1`, `MIN % -1` and counts ≥ 64), with the checks in
    the order of C 6.5.5/6.5.7 (`-1 << -1` is a left shift of a negative number, not a negative count).
    `Spec.why` has no reason exactly when C defines a representable value. -/
theorem failing_operation_is_named (op : BinaryOperator) (l r : Int) (hl : InRange l) (hr : InRange r) :
    binaryResult op l r =
      (match Spec.why (Spec.arithOf op) l r with
        | none => .ok (Spec.exactOp op l r)
        | some q => .error (reasonErr q)) ∧
    (Spec.why (Spec.arithOf op) l r = none ↔
      (Spec.definedOp op l r ∧ Spec.InRange (Spec.exactOp op l r))) :=
  ⟨binaryResult_why op l r hl hr, why_none_iff _ l r⟩

/-- every reason occurs, at the operands the property names; the order of the checks is visible at `-1 << -1`
    and `1 << 64` vs `1 << -1` -/
example :
    binaryResult .Divide 1 0 = .error .divisionByZero ∧ binaryResult .RemainderAssign 1 0 = .error .divisionByZero ∧
    binaryResult .Divide (-9223372036854775808) (-1) = .error .overflow ∧
    binaryResult .Remainder (-9223372036854775808) (-1) = .error .overflow ∧
    binaryResult .ShiftLeft (-1) (-1) = .error .leftShiftingNegative ∧
    binaryResult .ShiftLeft 1 (-1) = .error .reverseShifting ∧ binaryResult .ShiftRight (-1) (-1) = .error .reverseShifting ∧
    binaryResult .ShiftLeft 1 64 = .error .overflow ∧ binaryResult .ShiftLeft 1 63 = .error .overflow ∧
    binaryResult .ShiftRight 1 4294967296 = .error .overflow ∧
    binaryResult .Add 9223372036854775807 1 = .error .overflow ∧ binaryResult .ShiftLeft 1 62 = .ok 4611686018427387904 := by
  decide +kernel

/-- ☆ the Unicode tokenizer with no extra alphanumerics IS the tokenizer of `Model.lean` (so every theorem above
    is a theorem about `evalStrU []`), token by token and for the whole evaluation incl. the cause. -/
theorem unicode_tokenizer_is_the_model (src : List Char) (env : Env) (f : Nat) (portable : Bool) :
    nextTokenU [] src = nextToken src ∧ tokenizeU [] f src = tokenize f src ∧
    evalStrU [] src env = evalStr src env ∧ evalStrPortableU [] src env = evalStrPortable src env ∧
    evalStrCauseU [] portable src env = evalStrCause portable src env := by
  refine ⟨nextTokenU_nil src, tokenizeU_nil f src, evalStrU_nil src env, evalStrPortableU_nil src env, ?_⟩
  unfold evalStrCauseU evalStrCause
  rw [evalStrU_nil, evalStrPortableU_nil]

/-- the theorem is not about the ASCII case only: `é` is a variable, `٣` (an alphanumeric that is no ASCII digit)
    too, `1é` is an invalid constant, `é€` stops at a character that starts nothing -/
example :
    evalStrU ['é'] "é=3, é".toList [] = .syntaxError .tokenError ∧
    evalStrU ['é'] "é = 3".toList [] = .value 3 [(['é'], ['3'])] ∧
    evalStrU ['٣'] "٣+1".toList [(['٣'], ['4'])] = .value 5 [(['٣'], ['4'])] ∧
    evalStrCauseU ['é'] false "1é".toList [] = some (.token .invalidNumericConstant) ∧
    evalStrCauseU ['é'] false "é€".toList [] = some (.token .invalidCharacter) ∧
    evalStrCauseU [] false "é".toList [] = some (.token .invalidCharacter) := by
  decide +kernel

/-- ☆ every failing evaluation has exactly one cause and every cause is a real variant of the code's
    `ErrorCause`: the cause is absent exactly when the evaluation returns a value; it is `PortabilityError`
    exactly when the portability check rejects; it is never the kind-less token error nor the model's fuel. -/
theorem every_error_has_a_cause (extra : List Char) (portable : Bool) (src : List Char) (env : Env) :
    (evalStrCauseU extra portable src env = none ↔
      ∃ v env', (if portable then evalStrPortableU extra src env else some (evalStrU extra src env)) =
        some (.value v env')) ∧
    (evalStrCauseU extra portable src env = some .portability ↔
      (portable = true ∧ evalStrPortableU extra src env = none)) ∧
    evalStrCauseU extra portable src env ≠ some (.syntax .tokenError) ∧
    evalStrCauseU extra portable src env ≠ some (.syntax .fuel) := by
  obtain ⟨h1, h2, h3, h4⟩ := outcomeCause_evalStrU extra src env
  unfold evalStrCauseU
  cases portable with
  | false => simpa using ⟨h1, h2, h3, h4⟩
  | true =>
    simp only [if_true]
    cases hq : evalStrPortableU extra src env with
    | none => simp
    | some o =>
      have ho := evalStrPortableU_some extra src env o hq
      subst ho
      simpa using ⟨h1, h2, h3, h4⟩

/-! ## the arm lists and constants of eval.rs / token.rs, re-extracted on every run -/

open YashModel.Generated.ArithEvalTables in
/-- ☆ what `Model.lean` transcribes by hand from eval.rs / token.rs is what the extractor reads from the sources
    on every run (tools/tables/arith.py → `Generated/ArithEvalTables.lean`; arm bodies are recognised by their
    text, an unknown body stops the run): the arm of `apply_binary` every operator takes; the operation every
    arm of `binary_result` computes (so a plain operator and its compound form compute the same operation, and
    it is the operation the Spec's `arithOf` names); the width of a shift count; the radix rules of constants
    and of variable values; the characters of a term; the variants of the error enums. -/
theorem eval_tables_are_the_codes :
    (∀ op, binKind op = armKind (applyBinaryArm op)) ∧
    (∀ op l r, binaryChecked op l r = opChecked (binaryResultOp op) l r) ∧
    (∀ op, Spec.arithOf op = opArith (binaryResultOp op)) ∧
    (∀ v, requireNonNegative v =
      if v < 0 then .error .reverseShifting
      else if v ≥ 2 ^ shiftCountBits then .error .overflow else .ok v.toNat) ∧
    (∀ m, radixSplit m = applyRadixRules valueRadixRules valueDefaultRadix m) ∧
    (∀ t, parseConstant t =
      fromStrRadix (applyRadixRules constantRadixRules constantDefaultRadix t).1
        (applyRadixRules constantRadixRules constantDefaultRadix t).2) ∧
    (∀ extra c, isTermCharU extra c = (isAsciiAlnum c || termExtraChars.contains c || extra.contains c)) ∧
    ([EvalErr.invalidVariableValue, .overflow, .divisionByZero, .leftShiftingNegative, .reverseShifting,
        .assignmentToValue, .getVariableError, .assignVariableError].map EvalErr.codeName = evalErrorVariants) ∧
    ([SynErr.tokenError, .incompleteExpression, .missingOperator, .unclosedParenthesis, .questionWithoutColon,
        .colonWithoutQuestion, .invalidOperator].map SynErr.codeName = syntaxErrorVariants) ∧
    ([TokErr.invalidNumericConstant, .invalidCharacter].map TokErr.codeName = tokenErrorVariants) ∧
    portabilityErrorVariants = ["IncrementDecrement"] := by
  refine ⟨fun op => by cases op <;> rfl, fun op l r => by cases op <;> rfl, fun op => by cases op <;> rfl,
    requireNonNegative_bits, radixSplit_eq_rules, parseConstant_eq_rules, isTermCharU_extra, ?_, ?_, ?_, ?_⟩ <;> decide

open YashModel.Generated.ArithEvalTables in
/-- ☆ `convert_error_cause` (the shell's glue) has one arm for every leaf variant of `yash_arith::ErrorCause`
    — the two token errors, the other syntax errors, the portability error, every evaluation error, in the
    order of the enums — so its fallback arm is dead with this yash-arith; and distinct causes become distinct
    causes of the shell (nothing is merged, nothing becomes `Unrecognized`), each under its own name (two arms
    cannot be swapped): `ArithError::<the same variant>`, except `NonPortableIncrementDecrement`, and the two
    environment errors, which become the shell's own `UnsetParameter` / `AssignReadOnly`. -/
theorem convert_error_cause_is_faithful :
    convertErrorCause.map (fun e => (e.1, e.2.1)) =
      tokenErrorVariants.map (fun v => ("SyntaxError", v)) ++
      (syntaxErrorVariants.filter (· ≠ "TokenError")).map (fun v => ("SyntaxError", v)) ++
      portabilityErrorVariants.map (fun v => ("PortabilityError", v)) ++
      evalErrorVariants.map (fun v => ("EvalError", v)) ∧
    (convertErrorCause.map (·.2.2)).Nodup ∧
    ("ArithError." ++ convertErrorCauseFallback) ∉ convertErrorCause.map (·.2.2) ∧
    (∀ e ∈ convertErrorCause, e.2.2 = "ArithError." ++ e.2.1 ∨
      (e.2.1, e.2.2) ∈ [("IncrementDecrement", "ArithError.NonPortableIncrementDecrement"),
        ("GetVariableError", "UnsetParameter"), ("AssignVariableError", "AssignReadOnly")]) := by
  decide +kernel

/-! ## one transcription of `eval_with_config` behind both legs -/

/-- ☆ the evaluator of the shell leg (`evalStrG`, `eval.rs` over the `Env` trait, with the cause of a failure)
    instantiated with the `HashMap` environment IS the evaluator of the direct leg (`evalStr` /
    `evalStrPortable`): same value and final variables, and the same `ErrorCause` group and variant — so the
    `S` lines and the `E`/`P` lines exercise one transcription of `eval_with_config`, not two. -/
theorem shell_evaluator_is_evalStr (portable : Bool) (src : List Char) (env : Env) :
    evalStrG hashMapI portable src env =
      (match (if portable then evalStrPortable src env else some (evalStr src env)) with
        | none => .error .portability
        | some (.value v env') => .ok (v, env')
        | some (.syntaxError e) => .error (.syntax e)
        | some (.evalError e) => .error (.eval e)
        | some .panic => .error .modelPanic
        | some .fuel => .error .modelPanic) := by
  unfold evalStrG evalStrPortable evalStr
  simp only [evalValueG_hashMap]
  cases hp : parse src with
  | error e => cases portable <;> simp
  | ok ast =>
    cases portable with
    | false =>
      simp only [Bool.false_and, Bool.false_eq_true, if_false]
      cases hv : evalValue ast env with
      | ok r => obtain ⟨v, e⟩ := r; simp [Outcome.ofRes]
      | error e => simp [Outcome.ofRes]
      | panic => simp [Outcome.ofRes]
      | fuel => simp [Outcome.ofRes]
    | true =>
      simp only [Bool.true_and, if_true]
      by_cases hi : ast.any isIncDec = true
      · simp [hi]
      · simp only [hi, if_false, Bool.false_eq_true]
        cases hv : evalValue ast env with
        | ok r => obtain ⟨v, e⟩ := r; simp [Outcome.ofRes]
        | error e => simp [Outcome.ofRes]
        | panic => simp [Outcome.ofRes]
        | fuel => simp [Outcome.ofRes]

example : (evalStrG hashMapI true "1 ? 2 : x++".toList []).toOption = none ∧
    evalStrPortable "1 ? 2 : x++".toList [] = none ∧
    evalStr "x = 1 / 0".toList [] = .evalError .divisionByZero ∧
    (evalStrG hashMapI false "x = 7".toList []).toOption = some (7, [(['x'], ['7'])]) := by decide +kernel

/-- ☆ the shell leg never reports a token error without its kind: whenever the evaluator of the expanded text
    `t` answers `TokenError` — with any environment behind the `Env` trait — `refineTokenErr` finds the kind in
    `t`, and it is the kind the direct leg's `evalStrCause` reports for that text. -/
theorem shell_token_error_is_named {σ : Type} (I : EnvI σ) (portable : Bool) (t : List Char) (s : σ)
    (h : evalStrG I portable t s = .error (.syntax .tokenError)) :
    ∃ k, refineTokenErr t (.syntax .tokenError) = .token k ∧
      ∀ env, evalStrCause portable t env = some (.token k) := by
  have hp : parse t = .error .tokenError := by
    unfold evalStrG at h
    cases hq : parse t with
    | error e => rw [hq] at h; simp only [Except.error.injEq, ShErr.syntax.injEq] at h; rw [h]
    | ok ast =>
      rw [hq] at h
      simp only at h
      split at h
      · simp at h
      · split at h <;> simp at h
  obtain ⟨k, hk⟩ := (token_error_has_a_kind [] t).1 (by rw [parseU_nil]; exact hp)
  refine ⟨k, by simp [refineTokenErr, hk], fun env => ?_⟩
  unfold evalStrCause evalStrPortable evalStr
  rw [hp]
  cases portable <;> simp [outcomeCause, hk]

example : (match evalStrG shellI false "1 + 08".toList { ctxs := [[]], nounset := false, portable := false } with
      | .error (.syntax .tokenError) => true | _ => false) = true ∧
    refineTokenErr "1 + 08".toList (.syntax .tokenError) = .token .invalidNumericConstant ∧
    refineTokenErr "1 + #".toList (.syntax .tokenError) = .token .invalidCharacter := by decide +kernel

/-! ## the variables after a failing evaluation -/

/-- ☆ "assignments made before the failing operation persist".  `evalF` is `eval` with the variable map threaded
    through every outcome (the map at the moment the evaluation stopped): (1) its value part IS `eval`, for every
    vector and fuel, so it adds nothing to what is proved about values; (2) after an `Ok` it is the map inside the
    `Ok`; (3) when the right operand of a non-lazy operator fails after the left one returned, the map is the one
    the right operand stopped in, STARTED from the map the left operand left behind — nothing is rolled back;
    (4) when the operation itself fails (overflow, division by zero, bad shift, assignment to a value, unreadable
    operand) the map holds everything both operands assigned; (5) a syntax error or a `portable` rejection
    leaves the map untouched (nothing was evaluated). -/
theorem assignments_before_failure_persist (f : Nat) (lhs rhs ast : List Ast) (op : BinaryOperator)
    (env env1 env2 envE : Env) (lt rt t : Term) (err : EvalErr) (extra src : List Char) :
    (evalF f ast env).1 = eval f ast env ∧
    ((evalF f ast env).1 = .ok (t, env1) → (evalF f ast env).2 = env1) ∧
    (op ≠ .LogicalOr → op ≠ .LogicalAnd → (evalF f lhs env).1 = .ok (lt, env1) →
      evalF f rhs env1 = (.error err, envE) →
      evalF (f + 1) (lhs ++ rhs ++ [.binary op rhs.length]) env = (.error err, envE)) ∧
    (op ≠ .LogicalOr → op ≠ .LogicalAnd → (evalF f lhs env).1 = .ok (lt, env1) →
      (evalF f rhs env1).1 = .ok (rt, env2) → applyBinary lt rt op env2 = .error err →
      evalF (f + 1) (lhs ++ rhs ++ [.binary op rhs.length]) env = (.error err, env2)) ∧
    ((∃ e, parseU extra src = .error e) → envAfterU extra false src env = env) ∧
    ((∃ a, parseU extra src = .ok a ∧ a.any isIncDec = true) → envAfterU extra true src env = env) := by
  refine ⟨evalF_fst f ast env, evalF_envOk f ast env t env1,
    fun h1 h2 hl hr => evalF_right_fails f lhs rhs op env env1 envE lt err h1 h2 hl hr,
    fun h1 h2 hl hr ha => evalF_apply_fails f lhs rhs op env env1 env2 lt rt err h1 h2 hl hr ha, ?_, ?_⟩
  · rintro ⟨e, he⟩; simp [envAfterU, he]
  · rintro ⟨a, ha, hi⟩; simp [envAfterU, ha, hi]

/-- `(x=1)+(1/0)` fails with x = 1 in the map; `j + (x=5)` with an unreadable `j` fails AFTER x = 5 was assigned
    (the left value is read last); `0 && (x=5)` and a syntax error leave the map alone -/
example :
    envAfterU [] false "(x=1)+(1/0)".toList [] = [(['x'], ['1'])] ∧
    evalStr "(x=1)+(1/0)".toList [] = .evalError .divisionByZero ∧
    envAfterU [] false "j + (x=5)".toList [(['j'], "junk".toList)] = [(['j'], "junk".toList), (['x'], ['5'])] ∧
    envAfterU [] false "(x=5) + j".toList [(['j'], "junk".toList)] = [(['j'], "junk".toList), (['x'], ['5'])] ∧
    envAfterU [] false "(1/0) + (x=5)".toList [] = [] ∧
    envAfterU [] false "(x=2) +".toList [] = [] ∧ envAfterU [] true "(x=2) + y++".toList [] = [] := by
  decide +kernel

end YashModel.Arith
