/-
  C03 — on trees in the Spec's scope the Model's tree evaluation agrees with `Spec.evalExact`.  `Sim o r`: the Model's
  outcome `r` of a subtree stands for the Spec's outcome `o` (the same value, once the term handed up is read, in the same
  environment; or a failure, at once or when the variable handed up is read).  Where a node reads the value of an operand
  at once the two sides are composed with `SimV.bind` (`Sim.read`); where it reads the left operand only after the right
  one was evaluated (`apply_binary`), with `sim_late`, which holds the frame argument.
-/
import YashModel.Arith.SemLemmas
namespace YashModel.Arith
open YashModel.Generated.ArithTables

/-- every literal of the tree fits i64 (true of every constant the tokenizer accepts) -/
def litsInRange : Spec.Expr → Prop
  | .num v => InRange v
  | .var _ => True
  | .pre _ e => litsInRange e
  | .post _ e => litsInRange e
  | .bin _ l r => litsInRange l ∧ litsInRange r
  | .cond c t e => litsInRange c ∧ litsInRange t ∧ litsInRange e

theorem represent_eq_some {x v : Int} (h : Spec.represent x = some v) : v = x ∧ InRange v := by
  unfold Spec.represent at h
  split at h
  · rename_i hr; injection h with h; subst h; exact ⟨rfl, (inRange_iff _).mpr hr⟩
  · simp at h

theorem bind_represent_inRange {o : Option Nat} {f : Nat → Int} {v : Int}
    (h : (o.bind fun n => Spec.represent (f n)) = some v) : InRange v := by
  cases o with
  | none => simp [Option.bind] at h
  | some n => simp only [Option.bind] at h; exact (represent_eq_some h).2

theorem signedConst_inRange {s : List Char} {v : Int} (h : Spec.signedConstValue s = some v) : InRange v := by
  unfold Spec.signedConstValue at h
  split at h
  · exact bind_represent_inRange h
  · exact bind_represent_inRange (f := fun n => (n : Int)) h
  · exact bind_represent_inRange (f := fun n => (n : Int)) h

/-- ☆ both directions, for EVERY value text (not only constants): the variable expands to `v` exactly when
    the text spells the signed C integer constant `v` (optional `+`/`-`, then `0x`/`0X` hex, leading-`0`
    octal or decimal, fitting i64); every other text is the error `InvalidVariableValue`; unset is 0. -/
theorem var_value_is_signed_constant (x : Name) (env : Env) :
    expandVariable x env =
      match env.get x with
      | none => .ok 0
      | some s =>
        match Spec.signedConstValue s with
        | some v => .ok v
        | none => .error .invalidVariableValue := by
  unfold expandVariable
  cases env.get x with
  | none => rfl
  | some s =>
    simp only [parseInteger_eq_spec]
    cases Spec.signedConstValue s <;> rfl

theorem expandVariable_eq (x : Name) (env : Env) :
    expandVariable x env =
      match Spec.readVar env x with
      | some v => .ok v
      | none => .error .invalidVariableValue := by
  rw [var_value_is_signed_constant]
  unfold Spec.readVar
  rw [lookup_eq_get]
  cases env.get x with
  | none => rfl
  | some s => cases Spec.signedConstValue s <;> rfl

theorem readVar_inRange {env : Env} {x : Name} {v : Int} (h : Spec.readVar env x = some v) : InRange v := by
  unfold Spec.readVar at h
  split at h
  · injection h with h; subst h; unfold InRange; omega
  · exact signedConst_inRange h

theorem expandVariable_of_some {env : Env} {x : Name} {v : Int} (h : Spec.readVar env x = some v) :
    expandVariable x env = .ok v := by rw [expandVariable_eq, h]

theorem expandVariable_of_none {env : Env} {x : Name} (h : Spec.readVar env x = none) :
    expandVariable x env = .error .invalidVariableValue := by rw [expandVariable_eq, h]

theorem truth_inRange_model (p : Prop) [Decidable p] : InRange (Spec.truth p) :=
  (inRange_iff _).mpr (truth_inRange p)

def Sim : Option (Int × Env) → Res (Term × Env) → Prop
  | some (v, env'), r => InRange v ∧ ∃ t, r = .ok (t, env') ∧ intoValue t env' = .ok v
  | none, r => (∃ err, r = .error err) ∨
      ∃ x env1 err, r = .ok (.variable x, env1) ∧ intoValue (.variable x) env1 = .error err

/-- `Sim` for an outcome whose value has been read -/
def SimV : Option (Int × Env) → Res (Int × Env) → Prop
  | some (v, env'), q => InRange v ∧ q = .ok (v, env')
  | none, q => ∃ err, q = .error err

def Agree (e : Spec.Expr) : Prop := ∀ env, Sim (Spec.evalExact e env) (evalTree e env)

theorem Sim.read {o : Option (Int × Env)} {r : Res (Term × Env)} (h : Sim o r) : SimV o (readNow r) := by
  cases o with
  | none =>
    rcases h with ⟨err, rfl⟩ | ⟨x, env1, err, rfl, hv⟩
    · exact ⟨err, rfl⟩
    · exact ⟨err, by simp only [readNow, Res.bind, hv]⟩
  | some p =>
    obtain ⟨v, env'⟩ := p
    obtain ⟨hv, t, rfl, ht⟩ := h
    exact ⟨hv, by simp only [readNow, Res.bind, ht]⟩

theorem Sim.cases {o : Option (Int × Env)} {r : Res (Term × Env)} (h : Sim o r) :
    (∃ err, r = .error err) ∨ ∃ t env1, r = .ok (t, env1) := by
  cases o with
  | none =>
    rcases h with h | ⟨x, env1, _, h, _⟩
    · exact Or.inl h
    · exact Or.inr ⟨_, _, h⟩
  | some p => obtain ⟨_, t, h, _⟩ := h; exact Or.inr ⟨_, _, h⟩

theorem SimV.bind {o : Option (Int × Env)} {q : Res (Int × Env)} (h : SimV o q)
    {ks : Int × Env → Option (Int × Env)} {km : Int × Env → Res (Term × Env)}
    (hk : ∀ a env1, InRange a → Sim (ks (a, env1)) (km (a, env1))) : Sim (o.bind ks) (q.bind km) := by
  cases o with
  | none => obtain ⟨err, rfl⟩ := h; exact Or.inl ⟨err, rfl⟩
  | some p => obtain ⟨a, env1⟩ := p; obtain ⟨ha, rfl⟩ := h; exact hk a env1 ha

theorem SimV.map {o : Option (Int × Env)} {q : Res (Int × Env)} (h : SimV o q)
    {g : Int × Env → Int × Env} {km : Int × Env → Res (Term × Env)}
    (hk : ∀ a env1, InRange a → Sim (some (g (a, env1))) (km (a, env1))) : Sim (o.map g) (q.bind km) := by
  cases o <;> exact h.bind (ks := fun p => some (g p)) hk

theorem SimV.value {o : Option (Int × Env)} {q : Res (Int × Env)} (h : SimV o q) : Sim o (valueTerm q) := by
  cases o with
  | none => obtain ⟨err, rfl⟩ := h; exact Or.inl ⟨err, rfl⟩
  | some p => obtain ⟨v, env'⟩ := p; obtain ⟨hv, rfl⟩ := h; exact ⟨hv, .value v, rfl, rfl⟩

theorem simV_checked (x : Int) (g : Int → Int × Env) (hg : ∀ r, InRange r → InRange (g r).1) :
    SimV ((Spec.represent x).map g) ((Res.ofOption (checked x) .overflow).bind fun r => .ok (g r)) := by
  rw [checked_eq_represent]
  cases hn : Spec.represent x with
  | none => exact ⟨.overflow, by simp [Res.ofOption, Res.bind]⟩
  | some w =>
    obtain ⟨rfl, hin⟩ := represent_eq_some hn
    exact ⟨hg _ hin, by simp [Res.ofOption, Res.bind]⟩

theorem simV_arith {op : BinaryOperator} {a b : Int} (ha : InRange a) (hb : InRange b) (g : Int → Env) :
    SimV ((Spec.arith op a b).map fun v => (v, g v)) ((binaryResult op a b).bind fun v => .ok (v, g v)) := by
  cases h : Spec.arith op a b with
  | none => obtain ⟨err, he⟩ := binaryResult_of_none ha hb h; exact ⟨err, by rw [he]; rfl⟩
  | some v => obtain ⟨hv, hin⟩ := binaryResult_of_some ha hb h; exact ⟨hin, by rw [hv]; rfl⟩

/-- The equations Lean compiles for `Spec.evalExact (.bin op l r)` are split on `l = .var x` (the `match l` of the two
    assignment arms): `rw [Spec.evalExact]` applies at once when `l` is a variable and leaves the side goal `∀ x, l ≠ .var x`
    otherwise.  Hence every node equation below starts with this case distinction. -/
theorem var_or_not (e : Spec.Expr) : (∃ x, e = .var x) ∨ (∀ x, e ≠ .var x) := by
  cases e <;> simp

theorem handsVariable_false_of (e : Spec.Expr) (hv : ∀ x, e ≠ .var x) (hc : Spec.isCond e = false) :
    handsVariable e = false := by
  cases e <;> simp_all [handsVariable, Spec.isCond]

theorem value_or_error (e : Spec.Expr) (env : Env) (hl : handsVariable e = false) :
    (∃ err, evalTree e env = .error err) ∨ (∃ v env1, evalTree e env = .ok (.value v, env1)) := by
  rcases (evalTree_returns e env).cases with ⟨⟨t, env1⟩, h⟩ | he
  · obtain ⟨v, hv⟩ := evalTree_value_form e env hl t env1 h
    subst hv; exact Or.inr ⟨v, env1, h⟩
  · exact Or.inl he

theorem evalExact_pre_incdec_var (op : PrefixOperator) (x : Name) (env : Env)
    (hop : op = .Increment ∨ op = .Decrement) :
    Spec.evalExact (.pre op (.var x)) env =
      (Spec.readVar env x).bind fun v =>
        (Spec.represent (if op = .Increment then v + 1 else v - 1)).map fun nv => (nv, Spec.writeVar env x nv) := by
  rcases hop with rfl | rfl <;> simp [Spec.evalExact]

theorem evalExact_pre_incdec_nonvar (op : PrefixOperator) (e : Spec.Expr) (env : Env)
    (hop : op = .Increment ∨ op = .Decrement) (hne : ∀ x, e ≠ .var x) :
    Spec.evalExact (.pre op e) env = none := by
  rcases hop with rfl | rfl <;> cases e <;> simp_all [Spec.evalExact]

theorem evalExact_post_var (op : PostfixOperator) (x : Name) (env : Env) :
    Spec.evalExact (.post op (.var x)) env =
      (Spec.readVar env x).bind fun v =>
        (Spec.represent (if op = .Increment then v + 1 else v - 1)).map fun nv => (v, Spec.writeVar env x nv) := by
  simp [Spec.evalExact]

theorem evalExact_post_nonvar (op : PostfixOperator) (e : Spec.Expr) (env : Env) (hne : ∀ x, e ≠ .var x) :
    Spec.evalExact (.post op e) env = none := by
  cases e <;> simp_all [Spec.evalExact]

theorem evalExact_num {v : Int} (h : InRange v) (env : Env) : Spec.evalExact (.num v) env = some (v, env) := by
  simp only [Spec.evalExact, represent_of_inRange h, Option.map]

theorem agree_num (v : Int) (h : InRange v) : Agree (.num v) := fun env => by
  rw [evalExact_num h, evalTree]
  exact ⟨h, .value v, rfl, rfl⟩

theorem agree_var (x : Name) : Agree (.var x) := by
  intro env
  simp only [Spec.evalExact, evalTree]
  cases hr : Spec.readVar env x with
  | some v => exact ⟨readVar_inRange hr, .variable x, rfl, expandVariable_of_some hr⟩
  | none => exact Or.inr ⟨x, env, _, rfl, expandVariable_of_none hr⟩

theorem agree_cond (c t e : Spec.Expr) (ihc : Agree c) (iht : Agree t) (ihe : Agree e) :
    Agree (.cond c t e) := by
  intro env
  have hM : evalTree (.cond c t e) env =
      (readNow (evalTree c env)).bind fun q => if q.1 ≠ 0 then evalTree t q.2 else evalTree e q.2 := by
    rw [evalTree]; exact readNow_bind _ fun q => if q.1 ≠ 0 then evalTree t q.2 else evalTree e q.2
  rw [hM, Spec.evalExact]
  refine (ihc env).read.bind fun a env1 _ => ?_
  by_cases ha : a ≠ 0
  · simp only [ha, if_true, ne_eq, not_false_eq_true]; exact iht env1
  · simp only [ha, if_false]; exact ihe env1

theorem sim_value {v : Int} (hv : InRange v) (env : Env) : Sim (some (v, env)) (.ok (.value v, env)) :=
  ⟨hv, .value v, rfl, rfl⟩

theorem evalExact_lazy {op : BinaryOperator} (h : op = .LogicalOr ∨ op = .LogicalAnd) (l r : Spec.Expr) (env : Env) :
    Spec.evalExact (.bin op l r) env =
      (Spec.evalExact l env).bind fun p =>
        match lazyStop op p.1 with
        | some w => some (w, p.2)
        | none => (Spec.evalExact r p.2).map fun q => (Spec.truth (q.1 ≠ 0), q.2) := by
  have key : ∀ a : Int, (lazyStop .LogicalOr a = if a ≠ 0 then some 1 else none) ∧
      (lazyStop .LogicalAnd a = if a = 0 then some 0 else none) := fun a => ⟨rfl, rfl⟩
  rcases h with rfl | rfl <;> rcases var_or_not l with ⟨x, rfl⟩ | hne
  · conv => lhs; rw [Spec.evalExact]
    simp only [if_true]; congr; funext p; rw [(key p.1).1]; split <;> rfl
  · rw [Spec.evalExact]
    · simp only [if_true]; congr; funext p; rw [(key p.1).1]; split <;> rfl
    · exact fun x hx => hne x hx
  · conv => lhs; rw [Spec.evalExact]
    simp only [reduceCtorEq, if_false, if_true]; congr; funext p; rw [(key p.1).2]; split <;> rfl
  · rw [Spec.evalExact]
    · simp only [reduceCtorEq, if_false, if_true]; congr; funext p; rw [(key p.1).2]; split <;> rfl
    · exact fun x hx => hne x hx

theorem binaryResult_lazy {op : BinaryOperator} (h : op = .LogicalOr ∨ op = .LogicalAnd) {a : Int}
    (hs : lazyStop op a = none) (b : Int) : binaryResult op a b = .ok (Spec.truth (b ≠ 0)) := by
  rcases h with rfl | rfl
  · have ha : a = 0 := by
      by_cases ha : a = 0
      · exact ha
      · simp [lazyStop, ha] at hs
    subst ha
    by_cases hb : b = 0 <;>
      simp [binaryResult, binaryChecked, Res.bind, Res.ofOption, boolInt, Spec.truth, hb]
  · have ha : a ≠ 0 := by
      intro ha; simp [lazyStop, ha] at hs
    by_cases hb : b = 0 <;>
      simp [binaryResult, binaryChecked, Res.bind, Res.ofOption, boolInt, Spec.truth, hb, ha]

theorem lazyStop_inRange {op : BinaryOperator} {a w : Int} (h : lazyStop op a = some w) : InRange w := by
  unfold lazyStop at h
  have : w = 1 ∨ w = 0 := by
    split at h <;> split at h <;> simp at h <;> simp [h]
  unfold InRange; omega

theorem agree_lazy {op : BinaryOperator} (h : op = .LogicalOr ∨ op = .LogicalAnd) (l r : Spec.Expr)
    (ihl : Agree l) (ihr : Agree r) : Agree (.bin op l r) := by
  intro env
  rw [evalTree_lazy h, evalExact_lazy h]
  refine (ihl env).read.bind fun a env1 _ => ?_
  dsimp only
  cases hst : lazyStop op a with
  | some w => exact sim_value (lazyStop_inRange hst) env1
  | none =>
    refine (ihr env1).read.map fun b env2 _ => ?_
    simp only [binaryResult_lazy h hst, Res.bind]
    exact sim_value (truth_inRange_model _) env2

theorem bind_valueTerm_read (r : Res (Term × Env)) (A : Term → Env → Res (Int × Env))
    (K : Int × Env → Res (Int × Env)) (hA : ∀ t env1, A t env1 = (intoValue t env1).bind fun v => K (v, env1)) :
    (r.bind fun p => valueTerm (A p.1 p.2)) = (readNow r).bind fun q => valueTerm (K q) := by
  unfold readNow
  cases r with
  | ok p => simp only [Res.bind, hA]; cases intoValue p.1 p.2 <;> rfl
  | _ => rfl

theorem agree_pre_value (op : PrefixOperator) (e : Spec.Expr) (ih : Agree e)
    (hop : op ≠ .Increment ∧ op ≠ .Decrement) : Agree (.pre op e) := by
  intro env
  have hr := (ih env).read
  cases op with
  | Increment => exact absurd rfl hop.1
  | Decrement => exact absurd rfl hop.2
  | NumericCoercion =>
    rw [evalTree, bind_valueTerm_read _ (fun t env1 => applyPrefix t .NumericCoercion env1) (fun q => .ok q)
      (fun _ _ => rfl)]
    simp only [Spec.evalExact]
    exact hr.value
  | NumericNegation =>
    rw [evalTree, bind_valueTerm_read _ (fun t env1 => applyPrefix t .NumericNegation env1)
      (fun q => (Res.ofOption (checked (-q.1)) .overflow).bind fun r => .ok (r, q.2)) (fun _ _ => rfl)]
    simp only [Spec.evalExact]
    exact hr.bind fun v env1 _ => (simV_checked (-v) (fun r => (r, env1)) fun _ h => h).value
  | LogicalNegation =>
    rw [evalTree, bind_valueTerm_read _ (fun t env1 => applyPrefix t .LogicalNegation env1)
      (fun q => .ok (if q.1 = 0 then 1 else 0, q.2)) (fun _ _ => rfl)]
    simp only [Spec.evalExact]
    exact hr.map fun v env1 _ => sim_value (truth_inRange_model (v = 0)) env1
  | BitwiseNegation =>
    rw [evalTree, bind_valueTerm_read _ (fun t env1 => applyPrefix t .BitwiseNegation env1)
      (fun q => .ok (bitNot q.1, q.2)) (fun _ _ => rfl)]
    simp only [Spec.evalExact]
    refine hr.map fun v env1 hv => ?_
    have : InRange (-v - 1) := by unfold InRange at *; omega
    simpa [valueTerm, Res.bind, bitNot_exact v hv] using sim_value this env1

/-- the shape `++x`, `--x`, `x++`, `x--` share: the variable is read, `step` of its value must be representable and
    is written back, and the node's value is `ret old new` -/
theorem agree_incdec (n : Spec.Expr) (x : Name) (step : Int → Int) (ret : Int → Int → Int)
    (hret : ∀ v w, InRange v → InRange w → InRange (ret v w))
    (hS : ∀ env, Spec.evalExact n env = (Spec.readVar env x).bind fun v =>
      (Spec.represent (step v)).map fun nv => (ret v nv, Spec.writeVar env x nv))
    (hM : ∀ env, evalTree n env = valueTerm ((expandVariable x env).bind fun v =>
      (Res.ofOption (checked (step v)) .overflow).bind fun nv => .ok (ret v nv, env.set x (showInt nv)))) :
    Agree n := by
  intro env
  rw [hS env, hM env]
  refine SimV.value ?_
  cases hr : Spec.readVar env x with
  | none => exact ⟨_, by rw [expandVariable_of_none hr]; rfl⟩
  | some v =>
    rw [expandVariable_of_some hr]
    simp only [Option.bind, Res.bind, writeVar_eq]
    exact simV_checked (step v) (fun nv => (ret v nv, Env.set env x (showInt nv))) fun r h => hret v r (readVar_inRange hr) h

theorem agree_pre_incdec_var (op : PrefixOperator) (hop : op = .Increment ∨ op = .Decrement) (x : Name) :
    Agree (.pre op (.var x)) := by
  rcases hop with rfl | rfl
  · refine agree_incdec _ x (· + 1) (fun _ w => w) (fun _ _ _ h => h)
      (fun env => by simpa using evalExact_pre_incdec_var .Increment x env (Or.inl rfl)) (fun env => ?_)
    simp only [evalTree, applyPrefix, requireVariable, assign, Res.bind]
  · refine agree_incdec _ x (· - 1) (fun _ w => w) (fun _ _ _ h => h)
      (fun env => by simpa using evalExact_pre_incdec_var .Decrement x env (Or.inr rfl)) (fun env => ?_)
    simp only [evalTree, applyPrefix, requireVariable, assign, Res.bind]

/-- `++`/`--` (prefix or postfix) on something that is not a variable and hands up a value: `AssignmentToValue` -/
theorem sim_not_lvalue (e : Spec.Expr) (env : Env) (hne : ∀ x, e ≠ .var x) (hc : Spec.isCond e = false)
    (A : Term → Env → Res (Int × Env)) (hA : ∀ v env1, A (.value v) env1 = .error .assignmentToValue) :
    Sim none ((evalTree e env).bind fun p => valueTerm (A p.1 p.2)) := by
  rcases value_or_error e env (handsVariable_false_of e hne hc) with ⟨err, he⟩ | ⟨v, env1, he⟩
  · exact Or.inl ⟨err, by rw [he]; rfl⟩
  · exact Or.inl ⟨.assignmentToValue, by rw [he]; simp only [Res.bind, hA]; rfl⟩

theorem agree_pre_incdec_nonvar (op : PrefixOperator) (hop : op = .Increment ∨ op = .Decrement)
    (e : Spec.Expr) (hne : ∀ x, e ≠ .var x) (hc : Spec.isCond e = false) : Agree (.pre op e) := by
  intro env
  rw [evalExact_pre_incdec_nonvar op e env hop hne, evalTree]
  exact sim_not_lvalue e env hne hc (fun t env1 => applyPrefix t op env1) fun v env1 => by
    rcases hop with rfl | rfl <;> rfl

theorem agree_post_var (op : PostfixOperator) (x : Name) : Agree (.post op (.var x)) := by
  cases op
  · refine agree_incdec _ x (· + 1) (fun v _ => v) (fun _ _ h _ => h)
      (fun env => by simpa using evalExact_post_var .Increment x env) (fun env => ?_)
    simp only [evalTree, applyPostfix, requireVariable, assign, Res.bind]
  · refine agree_incdec _ x (· - 1) (fun v _ => v) (fun _ _ h _ => h)
      (fun env => by simpa using evalExact_post_var .Decrement x env) (fun env => ?_)
    simp only [evalTree, applyPostfix, requireVariable, assign, Res.bind]

theorem agree_post_nonvar (op : PostfixOperator) (e : Spec.Expr) (hne : ∀ x, e ≠ .var x)
    (hc : Spec.isCond e = false) : Agree (.post op e) := by
  intro env
  rw [evalExact_post_nonvar op e env hne, evalTree]
  exact sim_not_lvalue e env hne hc (fun t env1 => applyPostfix t op env1) fun v env1 => rfl

theorem agree_pre (op : PrefixOperator) (e : Spec.Expr) (hs : Spec.inScope (.pre op e) = true)
    (ih : Agree e) : Agree (.pre op e) := by
  by_cases hop : op = .Increment ∨ op = .Decrement
  · have hc : Spec.isCond e = false := by
      simp only [Spec.inScope, Bool.and_eq_true, Bool.not_eq_true', Bool.and_eq_false_iff,
        decide_eq_false_iff_not] at hs
      rcases hs.2 with h | h
      · exact absurd hop h
      · exact h
    rcases var_or_not e with ⟨x, rfl⟩ | hne
    · exact agree_pre_incdec_var op hop x
    · exact agree_pre_incdec_nonvar op hop e hne hc
  · exact agree_pre_value op e ih ⟨fun h => hop (Or.inl h), fun h => hop (Or.inr h)⟩

theorem agree_post (op : PostfixOperator) (e : Spec.Expr) (hs : Spec.inScope (.post op e) = true) :
    Agree (.post op e) := by
  have hc : Spec.isCond e = false := by
    simp only [Spec.inScope, Bool.and_eq_true, Bool.not_eq_true'] at hs
    exact hs.2
  rcases var_or_not e with ⟨x, rfl⟩ | hne
  · exact agree_post_var op x
  · exact agree_post_nonvar op e hne hc

theorem expandVariable_congr {x : Name} {env env' : Env} (h : env'.get x = env.get x) :
    expandVariable x env' = expandVariable x env := by
  unfold expandVariable; rw [h]

theorem intoValue_frame {t : Term} {env env' : Env}
    (h : ∀ x, t = .variable x → env'.get x = env.get x) : intoValue t env' = intoValue t env := by
  cases t with
  | value v => rfl
  | «variable» x => exact expandVariable_congr (h x rfl)

theorem applyBinary_plain {op : BinaryOperator} (hk : binKind op = .plain) (lt rt : Term) (env : Env) :
    applyBinary lt rt op env =
      (intoValue lt env).bind fun l => (intoValue rt env).bind fun r =>
      (binaryResult op l r).bind fun v => .ok (v, env) := by
  unfold applyBinary; rw [hk]

theorem applyBinary_assign {op : BinaryOperator} (hk : binKind op = .assign) (lt rt : Term) (env : Env) :
    applyBinary lt rt op env =
      (requireVariable lt).bind fun name => (intoValue rt env).bind fun v => assign name v env := by
  unfold applyBinary; rw [hk]

theorem applyBinary_compound {op : BinaryOperator} (hk : binKind op = .compound) (lt rt : Term) (env : Env) :
    applyBinary lt rt op env =
      (requireVariable lt).bind fun name => (expandVariable name env).bind fun l =>
      (intoValue rt env).bind fun r => (binaryResult op l r).bind fun v => assign name v env := by
  unfold applyBinary; rw [hk]

theorem not_lazy_of_kind {op : BinaryOperator} (hk : Spec.kindOf op ≠ .plain) :
    op ≠ .LogicalOr ∧ op ≠ .LogicalAnd := by
  constructor <;> (rintro rfl; exact hk (by decide))

theorem evalExact_bin_plain (op : BinaryOperator) (l r : Spec.Expr) (env : Env)
    (h1 : op ≠ .LogicalOr) (h2 : op ≠ .LogicalAnd) (hk : Spec.kindOf op = .plain) :
    Spec.evalExact (.bin op l r) env =
      (Spec.evalExact l env).bind fun p => (Spec.evalExact r p.2).bind fun q =>
        (Spec.arith op p.1 q.1).map fun v => (v, q.2) := by
  rcases var_or_not l with ⟨x, rfl⟩ | hne
  · conv => lhs; rw [Spec.evalExact]
    rw [if_neg h1, if_neg h2]; simp only [hk]
  · rw [Spec.evalExact, if_neg h1, if_neg h2]
    · simp only [hk]
    · exact fun x hx => hne x hx

theorem evalExact_bin_assign_var (op : BinaryOperator) (x : Name) (r : Spec.Expr) (env : Env)
    (hk : Spec.kindOf op = .assign) :
    Spec.evalExact (.bin op (.var x) r) env =
      (Spec.evalExact r env).map fun q => (q.1, Spec.writeVar q.2 x q.1) := by
  obtain ⟨h1, h2⟩ := not_lazy_of_kind (op := op) (by rw [hk]; decide)
  rw [Spec.evalExact, if_neg h1, if_neg h2]; simp only [hk]

theorem evalExact_bin_compound_var (op : BinaryOperator) (x : Name) (r : Spec.Expr) (env : Env)
    (hk : Spec.kindOf op = .compound) :
    Spec.evalExact (.bin op (.var x) r) env =
      (Spec.readVar env x).bind fun a => (Spec.evalExact r env).bind fun q =>
        (Spec.arith op a q.1).map fun v => (v, Spec.writeVar q.2 x v) := by
  obtain ⟨h1, h2⟩ := not_lazy_of_kind (op := op) (by rw [hk]; decide)
  rw [Spec.evalExact, if_neg h1, if_neg h2]; simp only [hk]

theorem evalExact_bin_lvalue_nonvar (op : BinaryOperator) (l r : Spec.Expr) (env : Env)
    (hk : Spec.kindOf op ≠ .plain) (hne : ∀ x, l ≠ .var x) :
    Spec.evalExact (.bin op l r) env = none := by
  obtain ⟨h1, h2⟩ := not_lazy_of_kind hk
  rw [Spec.evalExact, if_neg h1, if_neg h2]
  · cases hk' : Spec.kindOf op with
    | plain => exact absurd hk' hk
    | assign => rfl
    | compound => rfl
  · exact fun x hx => hne x hx

theorem disjoint_not_mem {a b : List Name} (h : Spec.disjoint a b = true) {x : Name} (hx : x ∈ b) : x ∉ a := by
  intro hxa
  unfold Spec.disjoint at h
  rw [List.all_eq_true] at h
  have := h x hxa
  simp only [Bool.not_eq_true', List.contains_eq_mem, decide_eq_false_iff_not] at this
  exact this hx

/-- `apply_binary` with both operands read only after both were evaluated (a plain operator; a compound assignment, whose
    left operand is the variable): the Spec reads the left value first.  The frame hypothesis makes the two orders agree. -/
theorem sim_late {op : BinaryOperator} {ol : Option (Int × Env)} {rl : Res (Term × Env)} (hl : Sim ol rl)
    {sr : Env → Option (Int × Env)} {mr : Env → Res (Term × Env)} (hr : ∀ env1, Sim (sr env1) (mr env1))
    (hframe : ∀ lt env1 rt env2, rl = .ok (lt, env1) → mr env1 = .ok (rt, env2) →
      intoValue lt env2 = intoValue lt env1)
    (g : Env → Int → Env) :
    Sim (ol.bind fun p => (sr p.2).bind fun q => (Spec.arith op p.1 q.1).map fun v => (v, g q.2 v))
      (rl.bind fun p => (mr p.2).bind fun q => valueTerm ((intoValue p.1 q.2).bind fun a =>
        (intoValue q.1 q.2).bind fun b => (binaryResult op a b).bind fun v => .ok (v, g q.2 v))) := by
  cases ol with
  | none =>
    rcases hl with ⟨err, rfl⟩ | ⟨x, env1, err, rfl, hv⟩
    · exact Or.inl ⟨err, rfl⟩
    · -- the left operand hands up an unreadable variable: the right operand runs, then the read fails
      rcases (hr env1).cases with ⟨e, he⟩ | ⟨rt, env2, he⟩
      · exact Or.inl ⟨e, by simp only [Res.bind, he]⟩
      · have hv2 : intoValue (.variable x) env2 = .error err := by rw [hframe _ _ _ _ rfl he, hv]
        exact Or.inl ⟨err, by simp only [Res.bind, he, hv2, valueTerm]⟩
  | some p =>
    obtain ⟨a, env1⟩ := p
    obtain ⟨har, lt, rfl, hlv⟩ := hl
    simp only [Option.bind, Res.bind]
    have hr1 := hr env1
    cases hs : sr env1 with
    | none =>
      rw [hs] at hr1
      rcases hr1 with ⟨err, he⟩ | ⟨y, env2, err, he, hv⟩
      · exact Or.inl ⟨err, by simp only [he]⟩
      · rcases (intoValue_returns lt env2).cases with ⟨a2, hlv2⟩ | ⟨e, hlv2⟩
        · exact Or.inl ⟨err, by simp only [he, hlv2, hv, Res.bind, valueTerm]⟩
        · exact Or.inl ⟨e, by simp only [he, hlv2, Res.bind, valueTerm]⟩
    | some q =>
      obtain ⟨b, env2⟩ := q
      rw [hs] at hr1
      obtain ⟨hbr, rt, he, hrv⟩ := hr1
      have hlv2 : intoValue lt env2 = .ok a := by rw [hframe _ _ _ _ rfl he, hlv]
      simp only [he, hlv2, hrv, Res.bind]
      exact (simV_arith har hbr (g env2)).value

theorem agree_plain (op : BinaryOperator) (l r : Spec.Expr) (h1 : op ≠ .LogicalOr) (h2 : op ≠ .LogicalAnd)
    (hk : Spec.kindOf op = .plain) (hsr : Spec.inScope r = true)
    (hd : Spec.disjoint (Spec.writes r) (Spec.reads l) = true)
    (ihl : Agree l) (ihr : Agree r) : Agree (.bin op l r) := by
  intro env
  have hkb : binKind op = .plain := (kindOf_eq_binKind op).1.mp hk
  rw [evalExact_bin_plain op l r env h1 h2 hk, evalTree_strict h1 h2]
  simp only [applyBinary_plain hkb]
  refine sim_late (ihl env) ihr (fun lt env1 rt env2 hlt hrt => ?_) (fun env2 _ => env2)
  -- the value of the left term is unchanged by the evaluation of `r`
  apply intoValue_frame
  rintro x rfl
  exact evalTree_frame r env1 rt env2 x hsr hrt (disjoint_not_mem hd (evalTree_variable_reads l _ _ _ hlt))

theorem agree_compound_var (op : BinaryOperator) (x : Name) (r : Spec.Expr) (hk : Spec.kindOf op = .compound)
    (hsr : Spec.inScope r = true) (hd : Spec.disjoint (Spec.writes r) (Spec.reads (.var x)) = true)
    (ihr : Agree r) : Agree (.bin op (.var x) r) := by
  intro env
  obtain ⟨h1, h2⟩ := not_lazy_of_kind (op := op) (by rw [hk]; decide)
  have hkb : binKind op = .compound := (kindOf_eq_binKind op).2.2.mp hk
  have hxw : x ∉ Spec.writes r := disjoint_not_mem hd (by simp [Spec.reads])
  have key := sim_late (op := op) (agree_var x env) ihr (fun lt env1 rt env2 hlt hrt => by
      simp only [evalTree, Res.ok.injEq, Prod.mk.injEq] at hlt
      obtain ⟨rfl, rfl⟩ := hlt
      exact expandVariable_congr (evalTree_frame r _ rt env2 x hsr hrt hxw))
    (fun env2 v => Env.set env2 x (showInt v))
  rw [evalExact_bin_compound_var op x r env hk, evalTree_strict h1 h2]
  simp only [applyBinary_compound hkb]
  simp only [Spec.evalExact, evalTree, Res.bind, requireVariable, assign, intoValue, writeVar_eq] at key ⊢
  cases hx : Spec.readVar env x <;> simpa [hx] using key

theorem agree_assign_var (op : BinaryOperator) (x : Name) (r : Spec.Expr) (hk : Spec.kindOf op = .assign)
    (ihr : Agree r) : Agree (.bin op (.var x) r) := by
  intro env
  obtain ⟨h1, h2⟩ := not_lazy_of_kind (op := op) (by rw [hk]; decide)
  have hkb : binKind op = .assign := (kindOf_eq_binKind op).2.1.mp hk
  have hM : evalTree (.bin op (.var x) r) env =
      (readNow (evalTree r env)).bind fun q => .ok (.value q.1, Env.set q.2 x (showInt q.1)) := by
    rw [evalTree_strict h1 h2, evalTree]
    exact bind_valueTerm_read _ (fun t env1 => applyBinary (.variable x) t op env1)
      (fun q => .ok (q.1, Env.set q.2 x (showInt q.1))) (fun t env1 => by rw [applyBinary_assign hkb]; rfl)
  rw [evalExact_bin_assign_var op x r env hk, hM]
  exact (ihr env).read.map fun b env1 hb => by rw [writeVar_eq]; exact sim_value hb _

theorem agree_lvalue_nonvar (op : BinaryOperator) (l r : Spec.Expr) (hk : Spec.kindOf op ≠ .plain)
    (hne : ∀ x, l ≠ .var x) (hc : Spec.isCond l = false) : Agree (.bin op l r) := by
  intro env
  obtain ⟨h1, h2⟩ := not_lazy_of_kind hk
  rw [evalExact_bin_lvalue_nonvar op l r env hk hne, evalTree_strict h1 h2]
  refine Or.inl ?_
  rcases value_or_error l env (handsVariable_false_of l hne hc) with ⟨err, he⟩ | ⟨v, env1, he⟩
  · exact ⟨err, by rw [he]; rfl⟩
  · rw [he]
    simp only [Res.bind]
    rcases (evalTree_returns r env1).cases with ⟨q, hr⟩ | ⟨e, hr⟩
    · rw [hr]
      refine ⟨.assignmentToValue, ?_⟩
      have hkb : binKind op ≠ .plain := fun h => hk ((kindOf_eq_binKind op).1.mpr h)
      cases hb : binKind op with
      | plain => exact absurd hb hkb
      | assign => simp [applyBinary_assign hb, requireVariable, Res.bind, valueTerm]
      | compound => simp [applyBinary_compound hb, requireVariable, Res.bind, valueTerm]
    · rw [hr]; exact ⟨e, rfl⟩

theorem agree_bin (op : BinaryOperator) (l r : Spec.Expr) (hs : Spec.inScope (.bin op l r) = true)
    (ihl : Agree l) (ihr : Agree r) : Agree (.bin op l r) := by
  simp only [Spec.inScope, Bool.and_eq_true] at hs
  obtain ⟨⟨_, hsr⟩, hs3⟩ := hs
  by_cases hno : op = .LogicalOr ∨ op = .LogicalAnd
  · exact agree_lazy hno l r ihl ihr
  have h1 : op ≠ .LogicalOr := fun e => hno (Or.inl e)
  have h2 : op ≠ .LogicalAnd := fun e => hno (Or.inr e)
  rw [if_neg hno] at hs3
  by_cases hk : Spec.kindOf op = .plain
  · rw [if_pos hk] at hs3
    simp only [Bool.and_eq_true] at hs3
    exact agree_plain op l r h1 h2 hk hsr hs3.2 ihl ihr
  · rw [if_neg hk] at hs3
    simp only [Bool.and_eq_true, Bool.not_eq_true'] at hs3
    obtain ⟨⟨hc, hd⟩, _⟩ := hs3
    rcases var_or_not l with ⟨x, rfl⟩ | hne
    · cases hk' : Spec.kindOf op with
      | plain => exact absurd hk' hk
      | assign => exact agree_assign_var op x r hk' ihr
      | compound => exact agree_compound_var op x r hk' hsr hd ihr
    · exact agree_lvalue_nonvar op l r hk hne hc

theorem agree (e : Spec.Expr) : Spec.inScope e = true → litsInRange e → Agree e := by
  induction e with
  | num v => intro _ hl; exact agree_num v hl
  | var x => intro _ _; exact agree_var x
  | pre op e ih =>
    intro hs hl
    have hse : Spec.inScope e = true := by
      simp only [Spec.inScope, Bool.and_eq_true] at hs; exact hs.1
    exact agree_pre op e hs (ih hse hl)
  | post op e _ =>
    intro hs _
    exact agree_post op e hs
  | bin op l r ihl ihr =>
    intro hs hl
    have hs' := hs
    simp only [Spec.inScope, Bool.and_eq_true] at hs'
    exact agree_bin op l r hs (ihl hs'.1.1 hl.1) (ihr hs'.1.2 hl.2)
  | cond c t e ihc iht ihe =>
    intro hs hl
    simp only [Spec.inScope, Bool.and_eq_true] at hs
    exact agree_cond c t e (ihc hs.1.1 hl.1) (iht hs.1.2 hl.2.1) (ihe hs.2 hl.2.2)

theorem evalValue_rpn (e : Spec.Expr) (env : Env) (hs : Spec.inScope e = true) (hl : litsInRange e) :
    match Spec.evalExact e env with
    | some (v, env') => evalValue (rpn e) env = .ok (v, env')
    | none => ∃ err, evalValue (rpn e) env = .error err := by
  have hE : evalValue (rpn e) env = readNow (evalTree e env) := by
    unfold evalValue; rw [eval_rpn_tree e _ env (Nat.le_refl _)]; rfl
  have hA := (agree e hs hl env).read
  rw [hE]
  cases hc : Spec.evalExact e env with
  | none => rw [hc] at hA; exact hA
  | some p => obtain ⟨v, env'⟩ := p; rw [hc] at hA; exact hA.2

end YashModel.Arith
