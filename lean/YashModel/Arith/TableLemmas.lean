/-
  C03 — the match-arm lists, constants and error enums re-extracted from eval.rs / token.rs / ast.rs / the shell's
  glue on every run (`Generated/ArithEvalTables.lean`, tools/tables/arith.py) against the definitions of
  `Model.lean` / `Unicode.lean` that transcribe them.
-/
import YashModel.Arith.NumLemmas
import YashModel.Arith.Unicode
import YashModel.Generated.ArithEvalTables
namespace YashModel.Arith
open YashModel.Generated.ArithTables
open YashModel.Generated.ArithEvalTables

/-- the model's name for an arm of `apply_binary` -/
def armKind : Arm → BinKind
  | .values => .plain
  | .assign => .assign
  | .compound => .compound

/-- what an arm of `binary_result` whose body was recognised as `o` computes (before `unwrap_or_overflow`) -/
def opChecked : Op → Int → Int → Res (Option Int)
  | .lor, l, r => .ok (some (boolInt (l != 0 || r != 0)))
  | .land, l, r => .ok (some (boolInt (l != 0 && r != 0)))
  | .bor, l, r => .ok (some (bitOr l r))
  | .bxor, l, r => .ok (some (bitXor l r))
  | .band, l, r => .ok (some (bitAnd l r))
  | .eq, l, r => .ok (some (boolInt (l == r)))
  | .ne, l, r => .ok (some (boolInt (l != r)))
  | .lt, l, r => .ok (some (boolInt (decide (l < r))))
  | .gt, l, r => .ok (some (boolInt (decide (l > r))))
  | .le, l, r => .ok (some (boolInt (decide (l ≤ r))))
  | .ge, l, r => .ok (some (boolInt (decide (l ≥ r))))
  | .shl, l, r =>
    if l < 0 then .error .leftShiftingNegative
    else (requireNonNegative r).bind fun n =>
      .ok ((checkedShl l n).filter fun result => decide (result ≥ 0) && (result >>> n == l))
  | .shr, l, r => (requireNonNegative r).bind fun n => .ok (checkedShr l n)
  | .add, l, r => .ok (checked (l + r))
  | .sub, l, r => .ok (checked (l - r))
  | .mul, l, r => .ok (checked (l * r))
  | .div, l, r => if r = 0 then .error .divisionByZero else .ok (checkedDiv l r)
  | .rem, l, r => if r = 0 then .error .divisionByZero else .ok (checkedRem l r)
  | .second, _, r => .ok (some r)

/-- a chain of notation rules `(prefix, stripped?, radix)` applied to a text: the digits and their radix -/
def applyRadixRules : List (List Char × Bool × Nat) → Nat → List Char → List Char × Nat
  | [], dflt, s => (s, dflt)
  | (p, strip, radix) :: rest, dflt, s =>
    if p.isPrefixOf s then (if strip then s.drop p.length else s, radix) else applyRadixRules rest dflt s

def EvalErr.codeName : EvalErr → String
  | .invalidVariableValue => "InvalidVariableValue" | .overflow => "Overflow"
  | .divisionByZero => "DivisionByZero" | .leftShiftingNegative => "LeftShiftingNegative"
  | .reverseShifting => "ReverseShifting" | .assignmentToValue => "AssignmentToValue"
  | .getVariableError => "GetVariableError" | .assignVariableError => "AssignVariableError"

def SynErr.codeName : SynErr → String
  | .tokenError => "TokenError" | .incompleteExpression => "IncompleteExpression"
  | .missingOperator => "MissingOperator" | .unclosedParenthesis => "UnclosedParenthesis"
  | .questionWithoutColon => "QuestionWithoutColon" | .colonWithoutQuestion => "ColonWithoutQuestion"
  | .invalidOperator => "InvalidOperator" | .fuel => "(model fuel)"

def TokErr.codeName : TokErr → String
  | .invalidNumericConstant => "InvalidNumericConstant" | .invalidCharacter => "InvalidCharacter"

/-- the Spec's name for the operation of an arm -/
def opArith : Op → Spec.Arith
  | .lor => .lor | .land => .land | .bor => .bor | .bxor => .bxor | .band => .band | .eq => .eq | .ne => .ne
  | .lt => .lt | .gt => .gt | .le => .le | .ge => .ge | .shl => .shl | .shr => .shr | .add => .add | .sub => .sub
  | .mul => .mul | .div => .div | .rem => .rem | .second => .second

theorem head_zero_iff (s : List Char) : (['0'].isPrefixOf s = true) ↔ s.head? = some '0' := by
  cases s with
  | nil => decide
  | cons a b =>
    simp only [List.isPrefixOf, List.head?_cons, Option.some.injEq, Bool.and_true, beq_iff_eq]
    exact eq_comm

theorem radixSplit_eq_rules (m : List Char) :
    radixSplit m = applyRadixRules valueRadixRules valueDefaultRadix m := by
  unfold radixSplit stripPrefix
  simp only [valueRadixRules, valueDefaultRadix, applyRadixRules]
  by_cases h1 : ['0', 'X'].isPrefixOf m = true
  · simp [h1]
  · by_cases h2 : ['0', 'x'].isPrefixOf m = true
    · simp [h1, h2]
    · by_cases h3 : m.head? = some '0'
      · have := (head_zero_iff m).mpr h3
        simp [h1, h2, h3, this]
      · have : ¬ (['0'].isPrefixOf m = true) := fun h => h3 ((head_zero_iff m).mp h)
        simp [h1, h2, h3, this]

theorem parseConstant_eq_rules (token : List Char) :
    parseConstant token =
      fromStrRadix (applyRadixRules constantRadixRules constantDefaultRadix token).1
        (applyRadixRules constantRadixRules constantDefaultRadix token).2 := by
  rw [parseConstant_eq_radixSplit, radixSplit_eq_rules]
  rfl

theorem requireNonNegative_bits (v : Int) :
    requireNonNegative v =
      if v < 0 then .error .reverseShifting
      else if v ≥ 2 ^ shiftCountBits then .error .overflow else .ok v.toNat := by
  unfold requireNonNegative
  have : (2 : Int) ^ shiftCountBits = 4294967296 := by decide
  rw [this]
  by_cases h1 : v < 0
  · simp [h1]
  · by_cases h2 : v > 4294967295
    · have : v ≥ 4294967296 := by omega
      simp [h1, h2, this]
    · have : ¬ (v ≥ 4294967296) := by omega
      simp [h1, h2, this]

theorem isTermCharU_extra (extra : List Char) (c : Char) :
    isTermCharU extra c = (isAsciiAlnum c || termExtraChars.contains c || extra.contains c) := by
  simp only [isTermCharU, isTermChar, termExtraChars, List.contains_cons, List.contains_nil, Bool.or_false]

end YashModel.Arith
