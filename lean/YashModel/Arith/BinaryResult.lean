/-
  C03 — `binary_result` arm by arm: the full outcome of each arm of the code that can fail, the reason `Spec.why` finds for
  the same operation, and their agreement (`binaryResult_why`: the exact value, or the error that names the first failing
  check); `binaryResult_exact` and the code's answer in terms of `Spec.arith` follow from it.
-/
import YashModel.Arith.Int64
namespace YashModel.Arith
open YashModel.Generated.ArithTables

theorem requireNonNegative_returns (v : Int) : (requireNonNegative v).Returns := by
  unfold requireNonNegative; split
  · trivial
  · split <;> trivial

/-- only the shifts (their count goes through `require_non_negative`) and the divisions have an arm that can fail before
    `unwrap_or_overflow` -/
theorem binaryChecked_returns (op : BinaryOperator) (l r : Int) : (binaryChecked op l r).Returns := by
  cases op <;> simp only [binaryChecked]
  case ShiftLeft | ShiftLeftAssign =>
    split
    · trivial
    · exact Res.bind_returns _ _ (requireNonNegative_returns r) (fun _ _ => trivial)
  case ShiftRight | ShiftRightAssign =>
    exact Res.bind_returns _ _ (requireNonNegative_returns r) (fun _ _ => trivial)
  case Divide | DivideAssign | Remainder | RemainderAssign => split <;> trivial
  all_goals trivial

theorem binaryResult_returns (op : BinaryOperator) (l r : Int) : (binaryResult op l r).Returns :=
  Res.bind_returns _ _ (binaryChecked_returns op l r) (fun _ _ => ofOption_returns _ _)

def reasonErr : Spec.Reason → EvalErr
  | .divisionByZero => .divisionByZero
  | .leftShiftOfNegative => .leftShiftingNegative
  | .negativeShiftCount => .reverseShifting
  | .unrepresentable => .overflow

def outcomeOf (x : Int) : Option Spec.Reason → Res Int
  | none => .ok x
  | some q => .error (reasonErr q)

theorem why_none_iff (a : Spec.Arith) (l r : Int) :
    Spec.why a l r = none ↔ (Spec.definedA a l r ∧ Spec.InRange (Spec.exactA a l r)) := by
  unfold Spec.why
  by_cases h1 : (a = .div ∨ a = .rem) ∧ r = 0
  · rw [if_pos h1]
    refine ⟨fun h => (by cases h), fun hd => ?_⟩
    rcases h1 with ⟨ha | ha, hr⟩ <;> subst ha <;> simp [Spec.definedA, hr] at hd
  rw [if_neg h1]
  by_cases h2 : a = .shl ∧ l < 0
  · rw [if_pos h2]
    refine ⟨fun h => (by cases h), fun hd => ?_⟩
    obtain ⟨ha, hl⟩ := h2; subst ha; simp only [Spec.definedA] at hd; omega
  rw [if_neg h2]
  by_cases h3 : (a = .shl ∨ a = .shr) ∧ r < 0
  · rw [if_pos h3]
    refine ⟨fun h => (by cases h), fun hd => ?_⟩
    rcases h3 with ⟨ha | ha, hr⟩ <;> subst ha <;> simp only [Spec.definedA] at hd <;> omega
  rw [if_neg h3]
  by_cases h4 : Spec.definedA a l r ∧ Spec.InRange (Spec.exactA a l r)
  · rw [if_neg (fun hn => hn h4)]; exact ⟨fun _ => h4, fun _ => rfl⟩
  · rw [if_pos h4]; exact ⟨fun h => (by cases h), fun hd => absurd hd h4⟩

/-- `unwrap_or_overflow` after a `checked_*` operation -/
theorem checked_outcome (x : Int) :
    Res.ofOption (checked x) EvalErr.overflow = if Spec.InRange x then .ok x else .error .overflow := by
  rw [checked_eq_represent]; unfold Spec.represent
  by_cases h : Spec.InRange x <;> simp [Res.ofOption, h]

/-- `<<`: a negative left operand, then a negative count, are named; otherwise the result is the exact product when the count
    is below 64 and the product fits (`shl_filter`: that is what the code's filter on the wrapped shift tests) -/
theorem shl_outcome (l r : Int) :
    binaryResult .ShiftLeft l r =
      if l < 0 then .error .leftShiftingNegative
      else if r < 0 then .error .reverseShifting
      else if r < 64 ∧ l * 2 ^ r.toNat ≤ 9223372036854775807 then .ok (l * 2 ^ r.toNat)
      else .error .overflow := by
  simp only [binaryResult, binaryChecked, requireNonNegative]
  by_cases h0 : l < 0
  · simp only [h0, if_true, Res.bind]
  rw [if_neg h0, if_neg h0]
  by_cases h1 : r < 0
  · simp only [h1, if_true, Res.bind]
  rw [if_neg h1, if_neg h1]
  by_cases h2 : r > 4294967295
  · have : ¬ (r < 64 ∧ l * 2 ^ r.toNat ≤ 9223372036854775807) := by omega
    simp only [h2, if_true, Res.bind, if_neg this]
  rw [if_neg h2]
  simp only [Res.bind, checkedShl]
  by_cases h3 : r.toNat < 64
  · have h3' : r < 64 := by omega
    -- the count is in range: the filter decides
    rw [if_pos h3]
    have hf := shl_filter l r.toNat (by omega)
    by_cases h4 : l * 2 ^ r.toNat ≤ 9223372036854775807
    · have hx : 0 ≤ l * 2 ^ r.toNat := Int.mul_nonneg (by omega) (Int.le_of_lt (two_pow_pos _))
      have hw : wrap64 (l * 2 ^ r.toNat) = l * 2 ^ r.toNat := by unfold wrap64; omega
      have hf' := hf.mpr h4
      rw [hw] at hf'
      rw [if_pos ⟨h3', h4⟩]
      simp only [Option.filter, hw, hf', if_true, Res.ofOption]
    · have hf' : (decide (wrap64 (l * 2 ^ r.toNat) ≥ 0) && wrap64 (l * 2 ^ r.toNat) >>> r.toNat == l) = false := by
        cases hb : (decide (wrap64 (l * 2 ^ r.toNat) ≥ 0) && wrap64 (l * 2 ^ r.toNat) >>> r.toNat == l)
        · rfl
        · exact absurd (hf.mp hb) h4
      rw [if_neg (fun h => h4 h.2)]
      simp only [Option.filter, hf', Bool.false_eq_true, if_false, Res.ofOption]
  · have : ¬ (r < 64 ∧ l * 2 ^ r.toNat ≤ 9223372036854775807) := by omega
    simp only [h3, if_false, Option.filter, Res.ofOption, if_neg this]

theorem shr_outcome (l r : Int) :
    binaryResult .ShiftRight l r =
      if r < 0 then .error .reverseShifting else if r < 64 then .ok (l / 2 ^ r.toNat) else .error .overflow := by
  simp only [binaryResult, binaryChecked, requireNonNegative]
  by_cases h1 : r < 0
  · simp only [h1, if_true, Res.bind]
  rw [if_neg h1, if_neg h1]
  by_cases h2 : r > 4294967295
  · have : ¬ r < 64 := by omega
    simp only [h2, if_true, Res.bind, if_neg this]
  rw [if_neg h2]
  simp only [Res.bind, checkedShr]
  by_cases h3 : r.toNat < 64
  · have hs : l >>> r.toNat = l / 2 ^ r.toNat := by rw [Int.shiftRight_eq_div_pow]; norm_cast
    rw [if_pos h3, if_pos (by omega), hs]; rfl
  · rw [if_neg h3, if_neg (by omega)]; rfl

theorem div_outcome (l r : Int) :
    binaryResult .Divide l r =
      if r = 0 then .error .divisionByZero
      else if Spec.InRange (l.tdiv r) then .ok (l.tdiv r) else .error .overflow := by
  simp only [binaryResult, binaryChecked]
  by_cases h0 : r = 0
  · simp only [h0, if_true, Res.bind]
  · rw [if_neg h0, if_neg h0]; unfold checkedDiv; rw [if_neg h0]; exact checked_outcome _

/-- `%`: `checked_rem` has no value where the division overflows (`MIN % -1`), although the remainder is 0 -/
theorem rem_outcome (l r : Int) :
    binaryResult .Remainder l r =
      if r = 0 then .error .divisionByZero
      else if l = -9223372036854775808 ∧ r = -1 then .error .overflow else .ok (l.tmod r) := by
  simp only [binaryResult, binaryChecked]
  by_cases h0 : r = 0
  · simp only [h0, if_true, Res.bind]
  · rw [if_neg h0, if_neg h0]; unfold checkedRem; rw [if_neg h0]
    by_cases h : l = -9223372036854775808 ∧ r = -1
    · rw [if_pos h, if_pos h]; rfl
    · rw [if_neg h, if_neg h]; rfl

theorem why_shl (l r : Int) :
    Spec.why .shl l r =
      if l < 0 then some .leftShiftOfNegative else if r < 0 then some .negativeShiftCount
      else if ¬ ((0 ≤ l ∧ 0 ≤ r ∧ r < 64) ∧ Spec.InRange (l * 2 ^ r.toNat)) then some .unrepresentable else none := by
  simp only [Spec.why, Spec.definedA, Spec.exactA, reduceCtorEq, or_false, false_and, true_and, if_false]
  congr

theorem why_shr (l r : Int) :
    Spec.why .shr l r =
      if r < 0 then some .negativeShiftCount
      else if ¬ ((0 ≤ r ∧ r < 64) ∧ Spec.InRange (l / 2 ^ r.toNat)) then some .unrepresentable else none := by
  simp only [Spec.why, Spec.definedA, Spec.exactA, reduceCtorEq, or_false, false_and, true_and, or_true, if_false]
  congr

theorem why_div (l r : Int) :
    Spec.why .div l r =
      if r = 0 then some .divisionByZero
      else if ¬ (r ≠ 0 ∧ Spec.InRange (l.tdiv r)) then some .unrepresentable else none := by
  simp only [Spec.why, Spec.definedA, Spec.exactA, reduceCtorEq, or_false, false_and, true_and, if_false]
  congr

theorem why_rem (l r : Int) :
    Spec.why .rem l r =
      if r = 0 then some .divisionByZero
      else if ¬ ((r ≠ 0 ∧ Spec.InRange (l.tdiv r)) ∧ Spec.InRange (l.tmod r)) then some .unrepresentable else none := by
  simp only [Spec.why, Spec.definedA, Spec.exactA, reduceCtorEq, or_false, false_and, true_and, or_true, if_false]
  congr

theorem why_total {a : Spec.Arith} (l r : Int) (ha : a ≠ .div ∧ a ≠ .rem ∧ a ≠ .shl ∧ a ≠ .shr)
    (hd : Spec.definedA a l r) :
    Spec.why a l r = if Spec.InRange (Spec.exactA a l r) then none else some .unrepresentable := by
  simp [Spec.why, ha.1, ha.2.1, ha.2.2.1, ha.2.2.2, hd]

theorem ok_arm {a : Spec.Arith} {l r x : Int} (hx : x = Spec.exactA a l r) (hd : Spec.definedA a l r)
    (hr : Spec.InRange (Spec.exactA a l r)) : Res.ok x = outcomeOf (Spec.exactA a l r) (Spec.why a l r) := by
  rw [(why_none_iff a l r).mpr ⟨hd, hr⟩, hx]; rfl

theorem checked_arm {a : Spec.Arith} (l r : Int) (ha : a ≠ .div ∧ a ≠ .rem ∧ a ≠ .shl ∧ a ≠ .shr)
    (hd : Spec.definedA a l r) :
    ((Res.ok (checked (Spec.exactA a l r))).bind fun o => Res.ofOption o EvalErr.overflow) =
      outcomeOf (Spec.exactA a l r) (Spec.why a l r) := by
  show Res.ofOption (checked (Spec.exactA a l r)) EvalErr.overflow = _
  rw [checked_outcome, why_total l r ha hd]
  by_cases h : Spec.InRange (Spec.exactA a l r)
  · rw [if_pos h, if_pos h]; rfl
  · rw [if_neg h, if_neg h]; rfl

theorem shl_arm (l r : Int) : binaryResult .ShiftLeft l r = outcomeOf (l * 2 ^ r.toNat) (Spec.why .shl l r) := by
  rw [shl_outcome, why_shl]
  by_cases h0 : l < 0
  · rw [if_pos h0, if_pos h0]; rfl
  rw [if_neg h0, if_neg h0]
  by_cases h1 : r < 0
  · rw [if_pos h1, if_pos h1]; rfl
  rw [if_neg h1, if_neg h1]
  have hx : 0 ≤ l * 2 ^ r.toNat := Int.mul_nonneg (by omega) (Int.le_of_lt (two_pow_pos _))
  have hc : (r < 64 ∧ l * 2 ^ r.toNat ≤ 9223372036854775807) ↔
      ((0 ≤ l ∧ 0 ≤ r ∧ r < 64) ∧ Spec.InRange (l * 2 ^ r.toNat)) := by
    unfold Spec.InRange; constructor <;> intro h <;> omega
  by_cases h2 : r < 64 ∧ l * 2 ^ r.toNat ≤ 9223372036854775807
  · rw [if_pos h2, if_neg (not_not_intro (hc.mp h2))]; rfl
  · rw [if_neg h2, if_pos (fun h => h2 (hc.mpr h))]; rfl

theorem shr_arm (l r : Int) (hl : InRange l) : binaryResult .ShiftRight l r = outcomeOf (l / 2 ^ r.toNat) (Spec.why .shr l r) := by
  rw [shr_outcome, why_shr]
  by_cases h1 : r < 0
  · rw [if_pos h1, if_pos h1]; rfl
  rw [if_neg h1, if_neg h1]
  have hin : Spec.InRange (l / 2 ^ r.toNat) := (inRange_iff _).mp (shr_inRange l r.toNat hl)
  by_cases h2 : r < 64
  · rw [if_pos h2, if_neg (not_not_intro ⟨⟨by omega, h2⟩, hin⟩)]; rfl
  · rw [if_neg h2, if_pos (fun h => h2 h.1.2)]; rfl

theorem div_arm (l r : Int) : binaryResult .Divide l r = outcomeOf (l.tdiv r) (Spec.why .div l r) := by
  rw [div_outcome, why_div]
  by_cases h0 : r = 0
  · rw [if_pos h0, if_pos h0]; rfl
  rw [if_neg h0, if_neg h0]
  by_cases h : Spec.InRange (l.tdiv r)
  · rw [if_pos h, if_neg (not_not_intro ⟨h0, h⟩)]; rfl
  · rw [if_neg h, if_pos (fun h' => h h'.2)]; rfl

theorem rem_arm (l r : Int) (hl : InRange l) : binaryResult .Remainder l r = outcomeOf (l.tmod r) (Spec.why .rem l r) := by
  rw [rem_outcome, why_rem]
  by_cases h0 : r = 0
  · rw [if_pos h0, if_pos h0]; rfl
  rw [if_neg h0, if_neg h0]
  have hm : Spec.InRange (l.tmod r) := (inRange_iff _).mp (tmod_inRange l r hl)
  by_cases h : l = -9223372036854775808 ∧ r = -1
  · -- the division overflows: no remainder either
    have hd : ¬ Spec.InRange (l.tdiv r) := by
      obtain ⟨a, b⟩ := h; subst a; subst b
      exact fun h' => tdiv_min_neg_one ((inRange_iff _).mpr h')
    rw [if_pos h, if_pos (fun h' => hd h'.1.2)]; rfl
  · rw [if_neg h, if_neg (not_not_intro ⟨⟨h0, (inRange_iff _).mp (tdiv_inRange l r hl h)⟩, hm⟩)]; rfl

/-- the checks of code and Spec come in the same order, so a failing arm's error names the Spec's reason -/
theorem binaryResult_why (op : BinaryOperator) (l r : Int) (hl : InRange l) (hr : InRange r) :
    binaryResult op l r =
      (match Spec.why (Spec.arithOf op) l r with
        | none => .ok (Spec.exactOp op l r)
        | some q => .error (reasonErr q)) := by
  have key : binaryResult op l r = outcomeOf (Spec.exactOp op l r) (Spec.why (Spec.arithOf op) l r) := by
    cases op <;> simp only [Spec.exactOp, Spec.arithOf]
    case Assign => exact ok_arm rfl trivial ((inRange_iff r).mp hr)
    case LogicalOr | LogicalAnd | EqualTo | NotEqualTo | LessThan | GreaterThan | LessThanOrEqualTo | GreaterThanOrEqualTo =>
      exact ok_arm (boolInt_eq_truth _ _ (by simp)) trivial (truth_inRange _)
    case BitwiseOr | BitwiseOrAssign =>
      exact ok_arm (bitOr_exact l r) trivial (fromRepr_inRange _ (Nat.or_lt_two_pow (toRepr_lt l) (toRepr_lt r)))
    case BitwiseXor | BitwiseXorAssign =>
      exact ok_arm (bitXor_exact l r) trivial (fromRepr_inRange _ (Nat.xor_lt_two_pow (toRepr_lt l) (toRepr_lt r)))
    case BitwiseAnd | BitwiseAndAssign =>
      exact ok_arm (bitAnd_exact l r) trivial (fromRepr_inRange _ (Nat.and_lt_two_pow _ (toRepr_lt r)))
    case Add | AddAssign => exact checked_arm (a := .add) l r (by decide) trivial
    case Subtract | SubtractAssign => exact checked_arm (a := .sub) l r (by decide) trivial
    case Multiply | MultiplyAssign => exact checked_arm (a := .mul) l r (by decide) trivial
    case ShiftLeft | ShiftLeftAssign => exact shl_arm l r
    case ShiftRight | ShiftRightAssign => exact shr_arm l r hl
    case Divide | DivideAssign => exact div_arm l r
    case Remainder | RemainderAssign => exact rem_arm l r hl
  rw [key]
  cases Spec.why (Spec.arithOf op) l r <;> rfl

/-- ★ every binary operator (plain or compound, shifts, division and remainder included): on i64 operands
    `binary_result` returns (never panics) and its value is the mathematically exact result when that is
    defined in C and representable, and an error otherwise — never a wrapped value. -/
theorem binaryResult_exact (op : BinaryOperator) (l r : Int) (hl : InRange l) (hr : InRange r) :
    (binaryResult op l r).Returns ∧ (binaryResult op l r).value? = Spec.arith op l r := by
  refine ⟨binaryResult_returns op l r, ?_⟩
  rw [binaryResult_why op l r hl hr]
  unfold Spec.arith Spec.definedOp Spec.exactOp
  cases hw : Spec.why (Spec.arithOf op) l r with
  | none => rw [if_pos ((why_none_iff _ _ _).mp hw)]; rfl
  | some q =>
    rw [if_neg fun hd => by rw [(why_none_iff _ _ _).mpr hd] at hw; cases hw]; rfl

theorem arith_eq_some_iff (op : BinaryOperator) (l r v : Int) :
    Spec.arith op l r = some v ↔
      (Spec.definedOp op l r ∧ Spec.InRange (Spec.exactOp op l r) ∧ v = Spec.exactOp op l r) := by
  unfold Spec.arith
  by_cases hc : Spec.definedOp op l r ∧ Spec.InRange (Spec.exactOp op l r)
  · rw [if_pos hc]; exact ⟨fun h => ⟨hc.1, hc.2, (Option.some.inj h).symm⟩, fun h => by rw [h.2.2]⟩
  · rw [if_neg hc]; exact ⟨fun h => (by cases h), fun h => absurd ⟨h.1, h.2.1⟩ hc⟩

theorem arith_eq_none_iff (op : BinaryOperator) (l r : Int) :
    Spec.arith op l r = none ↔ ¬ (Spec.definedOp op l r ∧ Spec.InRange (Spec.exactOp op l r)) := by
  unfold Spec.arith
  by_cases hc : Spec.definedOp op l r ∧ Spec.InRange (Spec.exactOp op l r)
  · rw [if_pos hc]; exact ⟨fun h => (by cases h), fun h => absurd hc h⟩
  · rw [if_neg hc]; exact ⟨fun _ => hc, fun _ => rfl⟩

theorem binaryResult_ok_iff {op : BinaryOperator} {a b : Int} (ha : InRange a) (hb : InRange b) (v : Int) :
    binaryResult op a b = .ok v ↔ Spec.arith op a b = some v := by
  rw [← Res.value?_eq_some, (binaryResult_exact op a b ha hb).2]

theorem binaryResult_of_some {op : BinaryOperator} {a b v : Int} (ha : InRange a) (hb : InRange b)
    (h : Spec.arith op a b = some v) : binaryResult op a b = .ok v ∧ InRange v := by
  obtain ⟨_, h2, rfl⟩ := (arith_eq_some_iff op a b v).mp h
  exact ⟨(binaryResult_ok_iff ha hb _).mpr h, (inRange_iff _).mpr h2⟩

theorem binaryResult_of_none {op : BinaryOperator} {a b : Int} (ha : InRange a) (hb : InRange b)
    (h : Spec.arith op a b = none) : ∃ err, binaryResult op a b = .error err := by
  rcases (binaryResult_exact op a b ha hb).1.cases with ⟨x, hr⟩ | he
  · rw [(binaryResult_ok_iff ha hb x).mp hr] at h; cases h
  · exact he

end YashModel.Arith
