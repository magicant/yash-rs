/-
  C03 — `evalF` (Trace.lean): its value part is `eval`, its environment part is the environment inside an `Ok`, and
  where it is when an operand or the operation fails.
-/
import YashModel.Arith.Trace
import YashModel.Arith.ParseLemmas
namespace YashModel.Arith
open YashModel.Generated.ArithTables

theorem atF_fst {α : Type} (env : Env) (r : Res α) : (atF env r).1 = r := rfl

/-- a result whose environment component is the environment inside an `Ok` -/
def EnvOk (p : Res (Term × Env) × Env) : Prop := ∀ t env', p.1 = .ok (t, env') → p.2 = env'

/-- `p` is the outcome `q` of `eval`, together with the environment it stopped in -/
def Tracks (p : Res (Term × Env) × Env) (q : Res (Term × Env)) : Prop := p.1 = q ∧ EnvOk p

theorem bindF_tracks {α : Type} {r : Res α × Env} {q : Res α} {k : α → Res (Term × Env) × Env}
    {k' : α → Res (Term × Env)} (hr : r.1 = q) (hk : ∀ a, Tracks (k a) (k' a)) : Tracks (bindF r k) (q.bind k') := by
  subst hr
  unfold bindF Res.bind
  cases hr1 : r.1 with
  | ok a => exact hk a
  | error e => exact ⟨rfl, fun _ _ h => by cases h⟩
  | panic => exact ⟨rfl, fun _ _ h => by cases h⟩
  | fuel => exact ⟨rfl, fun _ _ h => by cases h⟩

theorem doneF_tracks (v : Int) (env : Env) : Tracks (doneF v env) (.ok (.value v, env)) :=
  ⟨rfl, fun _ _ h => by simp only [doneF, Res.ok.injEq, Prod.mk.injEq] at h; exact h.2⟩

theorem valueF_tracks (env : Env) (x : Res (Int × Env)) :
    Tracks (bindF (atF env x) fun (p : Int × Env) => doneF p.1 p.2) (valueTerm x) :=
  bindF_tracks rfl fun p => doneF_tracks p.1 p.2

theorem evalF_tracks (f : Nat) : ∀ (ast : List Ast) (env : Env), Tracks (evalF f ast env) (eval f ast env) := by
  induction f with
  | zero => intro ast env; exact ⟨rfl, fun _ _ h => by cases h⟩
  | succ f ih =>
    intro ast env
    have stuck : ∀ (x : Res (Term × Env)) (h : ∀ t e, x ≠ .ok (t, e)), Tracks (x, env) x :=
      fun x h => ⟨rfl, fun t e he => absurd he (h t e)⟩
    -- `||` and `&&` as one case, as in `evalG_keeps`
    have lazy : ∀ (o : BinaryOperator) (stop : Int → Prop) [DecidablePred stop] (w : Int) (l r : List Ast),
        Tracks
          (bindF (evalF f l env) fun (p : Term × Env) => bindF (atF p.2 (intoValue p.1 p.2)) fun a =>
            if stop a then doneF w p.2
            else bindF (evalF f r p.2) fun (q : Term × Env) => bindF (atF q.2 (intoValue q.1 q.2)) fun b =>
              bindF (atF q.2 (binaryResult o a b)) fun v => doneF v q.2)
          ((eval f l env).bind fun (p : Term × Env) => (intoValue p.1 p.2).bind fun a =>
            if stop a then .ok (.value w, p.2)
            else (eval f r p.2).bind fun (q : Term × Env) => (intoValue q.1 q.2).bind fun b =>
              (binaryResult o a b).bind fun v => .ok (Term.value v, q.2)) := fun o stop _ w l r =>
      bindF_tracks (ih l env).1 fun p => bindF_tracks rfl fun a => by
        split
        · exact doneF_tracks w p.2
        · exact bindF_tracks (ih r p.2).1 fun q => bindF_tracks rfl fun b => bindF_tracks rfl fun v =>
            doneF_tracks v q.2
    rw [evalF, eval]
    cases splitLast ast with
    | none => exact stuck _ (fun _ _ h => by cases h)
    | some p =>
      obtain ⟨children, root⟩ := p
      cases root with
      | term t => exact ⟨rfl, fun _ _ h => by simp only [Res.ok.injEq, Prod.mk.injEq] at h; exact h.2⟩
      | pre op => exact bindF_tracks (ih children env).1 fun p => valueF_tracks p.2 _
      | post op => exact bindF_tracks (ih children env).1 fun p => valueF_tracks p.2 _
      | binary op rhsLen =>
        simp only
        cases splitAtEnd children rhsLen with
        | none => exact stuck _ (fun _ _ h => by cases h)
        | some q =>
          obtain ⟨l, r⟩ := q
          simp only
          split
          · exact lazy .LogicalOr (· ≠ 0) 1 l r
          · split
            · exact lazy .LogicalAnd (· = 0) 0 l r
            · exact bindF_tracks (ih l env).1 fun p => bindF_tracks (ih r p.2).1 fun q => valueF_tracks q.2 _
      | conditional thenLen elseLen =>
        simp only
        cases splitAtEnd children elseLen with
        | none => exact stuck _ (fun _ _ h => by cases h)
        | some q =>
          obtain ⟨c2, e⟩ := q
          simp only
          cases splitAtEnd c2 thenLen with
          | none => exact stuck _ (fun _ _ h => by cases h)
          | some q2 =>
            obtain ⟨c, t⟩ := q2
            exact bindF_tracks (ih c env).1 fun p => bindF_tracks rfl fun a => by
              split
              · exact ih t p.2
              · exact ih e p.2

theorem evalF_fst (f : Nat) : ∀ (ast : List Ast) (env : Env), (evalF f ast env).1 = eval f ast env :=
  fun ast env => (evalF_tracks f ast env).1

theorem evalF_envOk (f : Nat) : ∀ (ast : List Ast) (env : Env), EnvOk (evalF f ast env) :=
  fun ast env => (evalF_tracks f ast env).2

theorem evalF_right_fails (f : Nat) (lhs rhs : List Ast) (op : BinaryOperator) (env env1 envE : Env) (lt : Term)
    (err : EvalErr) (h1 : op ≠ .LogicalOr) (h2 : op ≠ .LogicalAnd)
    (hl : (evalF f lhs env).1 = .ok (lt, env1)) (hr : evalF f rhs env1 = (.error err, envE)) :
    evalF (f + 1) (lhs ++ rhs ++ [.binary op rhs.length]) env = (.error err, envE) := by
  rw [evalF, splitLast_append]
  simp only [splitAtEnd_append, h1, h2, if_false]
  unfold bindF
  simp only [hl, hr]

theorem evalF_apply_fails (f : Nat) (lhs rhs : List Ast) (op : BinaryOperator) (env env1 env2 : Env) (lt rt : Term)
    (err : EvalErr) (h1 : op ≠ .LogicalOr) (h2 : op ≠ .LogicalAnd)
    (hl : (evalF f lhs env).1 = .ok (lt, env1)) (hr : (evalF f rhs env1).1 = .ok (rt, env2))
    (ha : applyBinary lt rt op env2 = .error err) :
    evalF (f + 1) (lhs ++ rhs ++ [.binary op rhs.length]) env = (.error err, env2) := by
  rw [evalF, splitLast_append]
  simp only [splitAtEnd_append, h1, h2, if_false]
  unfold bindF atF
  simp only [hl, hr, ha]

end YashModel.Arith
