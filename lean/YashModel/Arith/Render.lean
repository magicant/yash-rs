/-
  C03 — `render`/`renderD`: the token sequence of an expression tree with the parentheses the C grammar needs
  (what the harness writes) plus any number of redundant pairs around any subexpression (`Deco` gives the
  number per subexpression); `level` / `stopLevel`: the grammar level of a tree's root and the precedence below
  which the token after it must lie.  Proof devices only; nothing here is part of the executable model.
-/
import YashModel.Arith.Parses
import YashModel.Arith.Operators
import YashModel.Arith.TreeLemmas
namespace YashModel.Arith
open YashModel.Generated.ArithTables

/-! ### from the abstract operators back to tokens (inverse of the generated `as_*` tables) -/

def opOfBinary (b : BinaryOperator) : Operator :=
  (allOperators.find? fun o => o.as_binary.map (·.1) = some b).getD .Plus

def opOfPrefix (p : PrefixOperator) : Operator :=
  (allOperators.find? fun o => o.as_prefix = some p).getD .Plus

def opOfPostfix (p : PostfixOperator) : Operator :=
  (allOperators.find? fun o => o.as_postfix = some p).getD .PlusPlus

def assocOf (b : BinaryOperator) : Associativity := ((opOfBinary b).as_binary.map (·.2)).getD .Left
def bprec (b : BinaryOperator) : Nat := (opOfBinary b).precedence

theorem binFacts (b : BinaryOperator) :
    (opOfBinary b).as_binary = some (b, assocOf b) ∧ 1 ≤ bprec b ∧ bprec b ≤ 12 ∧
    opOfBinary b ≠ .Question ∧ (opOfBinary b).as_postfix = none ∧
    (assocOf b = .Right → bprec b = 1) ∧ (assocOf b = .Left → 3 ≤ bprec b) := by
  revert b; refine forall_binop ?_; decide +kernel

theorem asBinary_opOfBinary (b : BinaryOperator) : (opOfBinary b).as_binary = some (b, assocOf b) := (binFacts b).1
theorem bprec_le (b : BinaryOperator) : bprec b ≤ 12 := (binFacts b).2.2.1
theorem opOfBinary_ne_question (b : BinaryOperator) : opOfBinary b ≠ .Question := (binFacts b).2.2.2.1
theorem opOfBinary_noPostfix (b : BinaryOperator) : (opOfBinary b).as_postfix = none := (binFacts b).2.2.2.2.1
/-- the right-associative binary operators are the assignments, at the lowest level -/
theorem bprec_of_right {b : BinaryOperator} (h : assocOf b = .Right) : bprec b = 1 := (binFacts b).2.2.2.2.2.1 h
/-- the left-associative ones stand above the conditional operator -/
theorem bprec_of_left {b : BinaryOperator} (h : assocOf b = .Left) : 3 ≤ bprec b := (binFacts b).2.2.2.2.2.2 h

theorem prefixFacts (p : PrefixOperator) :
    (opOfPrefix p).as_prefix = some p ∧ opOfPrefix p ≠ .OpenParen := by
  cases p <;> decide

theorem postfixFacts (p : PostfixOperator) : (opOfPostfix p).as_postfix = some p := by
  cases p <;> decide

theorem otherFacts :
    Operator.Question.precedence = 2 ∧ Operator.Question.as_postfix = none ∧
    Operator.Colon.precedence = 0 ∧ Operator.Colon.as_postfix = none ∧
    Operator.CloseParen.precedence = 0 ∧ Operator.CloseParen.as_postfix = none := by decide

theorem question_prec : Operator.Question.precedence = 2 := otherFacts.1
theorem question_noPostfix : Operator.Question.as_postfix = none := otherFacts.2.1
theorem colon_prec : Operator.Colon.precedence = 0 := otherFacts.2.2.1
theorem colon_noPostfix : Operator.Colon.as_postfix = none := otherFacts.2.2.2.1
theorem closeParen_prec : Operator.CloseParen.precedence = 0 := otherFacts.2.2.2.2.1
theorem closeParen_noPostfix : Operator.CloseParen.as_postfix = none := otherFacts.2.2.2.2.2

/-- grammar level of the root: 15 primary, 14 postfix, 13 unary, binary operators by the generated
    precedence, 2 conditional -/
def level : Spec.Expr → Nat
  | .num _ => 15
  | .var _ => 15
  | .post _ _ => 14
  | .pre _ _ => 13
  | .cond _ _ _ => 2
  | .bin b _ _ => bprec b

def paren (p : Bool) (ts : List Tok) : List Tok :=
  if p then [.op .OpenParen] ++ ts ++ [.op .CloseParen] else ts

def render : Spec.Expr → List Tok
  | .num v => [.term (.value v)]
  | .var x => [.term (.variable x)]
  | .pre op e => .op (opOfPrefix op) :: paren (decide (level e < 13)) (render e)
  | .post op e => paren (decide (level e < 14)) (render e) ++ [.op (opOfPostfix op)]
  | .bin b l r =>
    if assocOf b = .Left then
      paren (decide (level l < bprec b)) (render l) ++ [.op (opOfBinary b)] ++
        paren (decide (level r ≤ bprec b)) (render r)
    else
      paren (decide (level l < 13)) (render l) ++ [.op (opOfBinary b)] ++ render r
  | .cond c t e =>
    paren (decide (level c ≤ 2)) (render c) ++ [.op .Question] ++ render t ++ [.op .Colon] ++
      paren (decide (level e < 2)) (render e)

/-- precedence below which the token after a complete operand must lie -/
def stopLevel : Spec.Expr → Nat
  | .bin b _ _ => if assocOf b = .Left then bprec b + 1 else 1
  | .cond _ _ _ => 2
  | _ => 16

theorem level_stopLevel (e : Spec.Expr) :
    (level e = 1 ∧ stopLevel e = 1) ∨ (level e = 2 ∧ stopLevel e = 2) ∨
    (3 ≤ level e ∧ level e ≤ 12 ∧ stopLevel e = level e + 1) ∨ (13 ≤ level e ∧ level e ≤ 15 ∧ stopLevel e = 16) := by
  cases e with
  | bin b l r =>
    have h12 := bprec_le b
    have hR := @bprec_of_right b
    have hL := @bprec_of_left b
    simp only [level, stopLevel]
    cases ha : assocOf b with
    | Left => have := hL ha; simp; omega
    | Right => have := hR ha; simp; omega
  | _ => simp [level, stopLevel]

theorem stopLevel_pos (e : Spec.Expr) : 1 ≤ stopLevel e := by
  rcases level_stopLevel e with h | h | h | h <;> omega

theorem level_pos (e : Spec.Expr) : 1 ≤ level e := by
  rcases level_stopLevel e with h | h | h | h <;> omega

theorem stopLevel_gt (e : Spec.Expr) (k : Nat) (h3 : 3 ≤ k) (h : k ≤ level e) : k < stopLevel e := by
  rcases level_stopLevel e with h | h | h | h <;> omega

theorem stopLevel_of_unary (e : Spec.Expr) (h : 13 ≤ level e) : stopLevel e = 16 := by
  rcases level_stopLevel e with h | h | h | h <;> omega

theorem stopLevel_ge_two (e : Spec.Expr) (h : 2 ≤ level e) : 2 ≤ stopLevel e := by
  rcases level_stopLevel e with h | h | h | h <;> omega

def parenN : Nat → List Tok → List Tok
  | 0, ts => ts
  | n + 1, ts => [.op .OpenParen] ++ parenN n ts ++ [.op .CloseParen]

/-- how many redundant pairs of parentheses stand around each subexpression -/
abbrev Deco := Spec.Expr → Nat

/-- the tokens of a tree: needed parentheses as in `render`, plus `d x` redundant pairs around every
    operand `x` -/
def renderD (d : Deco) : Spec.Expr → List Tok
  | .num v => [.term (.value v)]
  | .var x => [.term (.variable x)]
  | .pre op e => .op (opOfPrefix op) :: parenN (d e + if level e < 13 then 1 else 0) (renderD d e)
  | .post op e => parenN (d e + if level e < 14 then 1 else 0) (renderD d e) ++ [.op (opOfPostfix op)]
  | .bin b l r =>
    if assocOf b = .Left then
      parenN (d l + if level l < bprec b then 1 else 0) (renderD d l) ++ [.op (opOfBinary b)] ++
        parenN (d r + if level r ≤ bprec b then 1 else 0) (renderD d r)
    else
      parenN (d l + if level l < 13 then 1 else 0) (renderD d l) ++ [.op (opOfBinary b)] ++
        parenN (d r) (renderD d r)
  | .cond c t e =>
    parenN (d c + if level c ≤ 2 then 1 else 0) (renderD d c) ++ [.op .Question] ++
      parenN (d t) (renderD d t) ++ [.op .Colon] ++ parenN (d e + if level e < 2 then 1 else 0) (renderD d e)

/-- the whole text: redundant pairs around the whole expression too -/
def renderTop (d : Deco) (e : Spec.Expr) : List Tok := parenN (d e) (renderD d e)

theorem paren_eq_parenN (C : Prop) [Decidable C] (ts : List Tok) :
    paren (decide C) ts = parenN (0 + if C then 1 else 0) ts := by
  by_cases h : C <;> simp [paren, parenN, h]

theorem renderD_zero (e : Spec.Expr) : renderD (fun _ => 0) e = render e := by
  induction e with
  | num v => rfl
  | var x => rfl
  | pre op e ih => simp only [renderD, render, paren_eq_parenN, ih]
  | post op e ih => simp only [renderD, render, paren_eq_parenN, ih]
  | bin b l r ihl ihr => simp only [renderD, render, paren_eq_parenN, ihl, ihr, parenN]
  | cond c t e ihc iht ihe => simp only [renderD, render, paren_eq_parenN, ihc, iht, ihe, parenN]

theorem renderTop_zero (e : Spec.Expr) : renderTop (fun _ => 0) e = render e := renderD_zero e

/-- the operand tokens of a tree, in order -/
def leaves : Spec.Expr → List Term
  | .num v => [.value v]
  | .var x => [.variable x]
  | .pre _ e => leaves e
  | .post _ e => leaves e
  | .bin _ l r => leaves l ++ leaves r
  | .cond c t e => leaves c ++ leaves t ++ leaves e

theorem mem_parenN {t : Tok} {ts : List Tok} : ∀ {n : Nat}, t ∈ parenN n ts → (∃ o, t = .op o) ∨ t ∈ ts
  | 0, h => Or.inr h
  | n + 1, h => by
    simp only [parenN, List.cons_append, List.nil_append, List.mem_cons, List.mem_append, List.not_mem_nil,
      or_false] at h
    rcases h with h | h | h
    · exact Or.inl ⟨_, h⟩
    · exact mem_parenN h
    · exact Or.inl ⟨_, h⟩

theorem mem_renderD (d : Deco) (e : Spec.Expr) : ∀ t ∈ renderD d e, (∃ o, t = .op o) ∨ ∃ tm ∈ leaves e, t = .term tm := by
  have sub : ∀ {x : Spec.Expr} {n : Nat} {t : Tok}, (∀ t ∈ renderD d x, (∃ o, t = .op o) ∨ ∃ tm ∈ leaves x, t = .term tm) →
      t ∈ parenN n (renderD d x) → (∃ o, t = .op o) ∨ ∃ tm ∈ leaves x, t = .term tm := fun ih h =>
    (mem_parenN h).elim Or.inl (ih _)
  have widen : ∀ {l l' : List Term} {t : Tok}, (∀ tm ∈ l, tm ∈ l') → ((∃ o, t = .op o) ∨ ∃ tm ∈ l, t = .term tm) →
      (∃ o, t = .op o) ∨ ∃ tm ∈ l', t = .term tm := fun hs h =>
    h.elim Or.inl fun ⟨tm, hm, e⟩ => Or.inr ⟨tm, hs tm hm, e⟩
  induction e with
  | num v => intro t ht; exact Or.inr ⟨_, List.mem_singleton.mpr rfl, by simpa [renderD] using ht⟩
  | var x => intro t ht; exact Or.inr ⟨_, List.mem_singleton.mpr rfl, by simpa [renderD] using ht⟩
  | pre op x ih =>
    intro t ht
    simp only [renderD, List.mem_cons] at ht
    rcases ht with ht | ht
    · exact Or.inl ⟨_, ht⟩
    · exact sub (x := x) ih ht
  | post op x ih =>
    intro t ht
    simp only [renderD, List.mem_append, List.mem_cons, List.not_mem_nil, or_false] at ht
    rcases ht with ht | ht
    · exact sub (x := x) ih ht
    · exact Or.inl ⟨_, ht⟩
  | bin b l r ihl ihr =>
    intro t ht
    simp only [renderD] at ht
    split at ht <;>
      simp only [List.mem_append, List.mem_cons, List.not_mem_nil, or_false] at ht <;>
      (rcases ht with (ht | ht) | ht
       · exact widen (fun _ h => List.mem_append_left _ h) (sub ihl ht)
       · exact Or.inl ⟨_, ht⟩
       · exact widen (fun _ h => List.mem_append_right _ h) (sub ihr ht))
  | cond c x y ihc ihx ihy =>
    intro t ht
    simp only [renderD, List.mem_append, List.mem_cons, List.not_mem_nil, or_false] at ht
    rcases ht with (((ht | ht) | ht) | ht) | ht
    · exact widen (fun _ h => List.mem_append_left _ (List.mem_append_left _ h)) (sub ihc ht)
    · exact Or.inl ⟨_, ht⟩
    · exact widen (fun _ h => List.mem_append_left _ (List.mem_append_right _ h)) (sub ihx ht)
    · exact Or.inl ⟨_, ht⟩
    · exact widen (fun _ h => List.mem_append_right _ h) (sub ihy ht)

theorem need_or {n : Nat} {C P : Prop} [Decidable C] (h : ¬ C → P) : 1 ≤ n + (if C then 1 else 0) ∨ P := by
  by_cases hc : C
  · exact Or.inl (by simp [hc])
  · exact Or.inr (h hc)

theorem need_zero {n : Nat} {C : Prop} [Decidable C] (h : n + (if C then 1 else 0) = 0) : ¬ C := by
  intro hc; simp [hc] at h

end YashModel.Arith
