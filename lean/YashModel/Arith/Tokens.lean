/-
  C03 — from characters to tokens.  The tokenizer reads every spelling of a token list (any white space, none
  where two tokens cannot run together, any notation of the constants) back as that list (`tokenize_every_spelling`);
  "every token followed by one blank" is one such spelling (`tokenize_spelling`).
-/
import YashModel.Common.Lists
import YashModel.Arith.Operators
import YashModel.Arith.RoundTrip
namespace YashModel.Arith
open YashModel.Generated.ArithTables

/-- the lexeme of an operator token (inverse of the generated `OPERATORS`) -/
def lexemeOf (o : Operator) : List Char := ((operators.find? fun p => p.2 = o).map (·.1)).getD []

def isParenOp (o : Operator) : Bool := o == .OpenParen || o == .CloseParen

/-- some lexeme of `OPERATORS` continues the lexeme `lex` with the character `c` (then the two run together:
    `<` `=`, `-` `-`, `+` `+=`, `<` `<=`) -/
def opGlue (lex : List Char) (c : Char) : Bool := operators.any fun q => (lex ++ [c]).isPrefixOf q.1

theorem lexemeOf_mem (o : Operator) : (lexemeOf o, o) ∈ operators := by
  revert o; refine forall_op ?_; decide +kernel

theorem lexeme_inj : ∀ p ∈ operators, ∀ q ∈ operators, p.1 = q.1 → p = q := by decide +kernel

/-- ★ table form of longest match: a lexeme that is a proper prefix of another lexeme comes later in
    `OPERATORS` -/
theorem longest_match_table :
    operators.Pairwise (fun a q => ¬ (a.1 <+: q.1 ∧ a.1 ≠ q.1)) := by
  decide +kernel

theorem lexeme_first : ∀ p ∈ operators,
    ∀ c, p.1.head? = some c → isTermChar c = false ∧ isWhitespace c = false := by
  decide

theorem long_lexeme_chars : ∀ q ∈ operators, 2 ≤ q.1.length →
    ∀ c ∈ q.1, isTermChar c = false ∧ isWhitespace c = false ∧ c ≠ '(' ∧ c ≠ ')' := by
  decide

/-- a lexeme has at most three characters and every non-empty prefix of it is a lexeme: what makes `opGlue` necessary,
    not only sufficient, in `operators_touch_exactly_when_opGlue` -/
theorem table_prefix_closed : ∀ q ∈ operators, q.1.length ≤ 3 ∧ ∀ n ∈ [1, 2, 3], q.1.take n ∈ operators.map (·.1) := by
  decide +kernel

theorem lexemeOf_cons (o : Operator) :
    ∃ c u, lexemeOf o = c :: u ∧ isTermChar c = false ∧ isWhitespace c = false := by
  have hc := lexeme_first _ (lexemeOf_mem o)
  cases h : lexemeOf o with
  | nil => exact absurd h (operators_lexeme_ne_nil _ (lexemeOf_mem o))
  | cons c u => exact ⟨c, u, rfl, hc c (by rw [h]; rfl)⟩

theorem paren_lexeme (o : Operator) (h : isParenOp o = true) : lexemeOf o = ['('] ∨ lexemeOf o = [')'] := by
  have : o = .OpenParen ∨ o = .CloseParen := by simpa [isParenOp] using h
  rcases this with rfl | rfl
  · exact Or.inl rfl
  · exact Or.inr rfl

theorem findOp_term (c : Char) (rest : List Char) (hc : isTermChar c = true) : findOp (c :: rest) = none := by
  unfold findOp
  rw [List.find?_eq_none]
  intro p hp hpre
  have hfirst := lexeme_first p hp
  cases hl : p.1 with
  | nil => exact operators_lexeme_ne_nil p hp hl
  | cons a t =>
    rw [hl] at hpre hfirst
    simp only [List.isPrefixOf, Bool.and_eq_true, beq_iff_eq] at hpre
    rw [← hpre.1, (hfirst a rfl).1] at hc
    exact Bool.noConfusion hc

/-- ★ longest match, for every text: the operator the tokenizer takes (`find` = first entry of
    `OPERATORS` that is a prefix of the text) is an entry of the table, is a prefix of the text, and no
    entry that is also a prefix of the text is longer. -/
theorem longest_match (s lex : List Char) (o : Operator) (h : findOp s = some (lex, o)) :
    (lex, o) ∈ operators ∧ lex <+: s ∧ ∀ q ∈ operators, q.1 <+: s → q.1.length ≤ lex.length := by
  unfold findOp at h
  rw [List.find?_eq_some_iff_append] at h
  obtain ⟨hp, as, bs, hsplit, hbefore⟩ := h
  have hpre : lex <+: s := by simpa [List.isPrefixOf_iff_prefix] using hp
  refine ⟨by rw [hsplit]; simp, hpre, ?_⟩
  intro q hq hqs
  have hpw := longest_match_table
  rw [hsplit, List.pairwise_append] at hpw
  obtain ⟨_, hcons, _⟩ := hpw
  rw [List.pairwise_cons] at hcons
  rw [hsplit, List.mem_append, List.mem_cons] at hq
  rcases hq with hq | hq | hq
  · have := hbefore q hq
    have hb := List.isPrefixOf_iff_prefix.mpr hqs
    simp only [Bool.not_eq_true'] at this
    rw [this] at hb; exact absurd hb (by decide)
  · subst hq; exact Nat.le_refl _
  · have hr := hcons.1 q hq
    by_cases hlen : q.1.length ≤ lex.length
    · exact hlen
    · exfalso
      apply hr
      have hle : lex.length ≤ q.1.length := by omega
      refine ⟨List.prefix_of_prefix_length_le hpre hqs hle, ?_⟩
      intro e
      simp only at e
      rw [e] at hlen
      exact hlen (Nat.le_refl _)

theorem findOp_lexeme (o : Operator) (rest : List Char) (hg : Common.StopsAt (opGlue (lexemeOf o)) rest) :
    findOp (lexemeOf o ++ rest) = some (lexemeOf o, o) := by
  have hmem := lexemeOf_mem o
  have hpre : lexemeOf o <+: lexemeOf o ++ rest := List.prefix_append _ _
  cases hf : findOp (lexemeOf o ++ rest) with
  | none => exact absurd (List.isPrefixOf_iff_prefix.mpr hpre) (List.find?_eq_none.mp hf _ hmem)
  | some r =>
    obtain ⟨lex', o'⟩ := r
    obtain ⟨hm', hp', hmax⟩ := longest_match _ _ _ hf
    have hle : (lexemeOf o).length ≤ lex'.length := hmax _ hmem hpre
    by_cases hlt : (lexemeOf o).length < lex'.length
    · -- a longer match would continue the lexeme with the first character of `rest`
      exfalso
      cases rest with
      | nil =>
        have := hp'.length_le
        simp only [List.append_nil] at this
        omega
      | cons c r =>
        have h1 : lexemeOf o ++ [c] <+: lexemeOf o ++ c :: r := ⟨r, by simp⟩
        have h2 : lexemeOf o ++ [c] <+: lex' := List.prefix_of_prefix_length_le h1 hp' (by simp; omega)
        have hc := hg c rfl
        unfold opGlue at hc
        rw [List.any_eq_false] at hc
        exact hc _ hm' (List.isPrefixOf_iff_prefix.mpr h2)
    · have heq : lex' = lexemeOf o :=
        (List.prefix_of_prefix_length_le hp' hpre (by omega)).eq_of_length (by omega)
      subst heq
      rw [lexeme_inj _ hm' _ hmem rfl]

theorem opGlue_chars (a c : Char) (u : List Char) (h : opGlue (a :: u) c = true) :
    (isTermChar c = false ∧ isWhitespace c = false ∧ c ≠ '(' ∧ c ≠ ')') ∧ a ≠ '(' ∧ a ≠ ')' := by
  unfold opGlue at h
  rw [List.any_eq_true] at h
  obtain ⟨q, hq, hpre⟩ := h
  have hpre := List.isPrefixOf_iff_prefix.mp hpre
  have hlen := hpre.length_le
  simp only [List.cons_append, List.length_cons, List.length_append, List.length_nil] at hlen
  have hall := long_lexeme_chars q hq (by omega)
  exact ⟨hall c (hpre.subset (by simp)), (hall a (hpre.subset (by simp))).2.2⟩

theorem opGlue_false (o : Operator) (c : Char)
    (h : isParenOp o = true ∨ isTermChar c = true ∨ isWhitespace c = true ∨ c = '(' ∨ c = ')') :
    opGlue (lexemeOf o) c = false := by
  cases hg : opGlue (lexemeOf o) c with
  | false => rfl
  | true =>
    obtain ⟨a, u, ha, _⟩ := lexemeOf_cons o
    rw [ha] at hg
    obtain ⟨⟨h1, h2, h3, h4⟩, h5, h6⟩ := opGlue_chars a c u hg
    rcases h with h | h | h | h | h
    · rcases paren_lexeme o h with e | e <;> rw [e] at ha <;> injection ha with ha _
      · exact absurd ha.symm h5
      · exact absurd ha.symm h6
    · exact Bool.noConfusion (h.symm.trans h1)
    · exact Bool.noConfusion (h.symm.trans h2)
    · exact absurd h h3
    · exact absurd h h4

/-- the characters that would continue the text of a token -/
def continues : Tok → Char → Bool
  | .op o => opGlue (lexemeOf o)
  | .term _ => isTermChar
  | .err => fun _ => false

/-- what may directly follow the text of a token without changing how it is read: nothing, or a character that does not
    continue it -/
def Terminates (t : Tok) (rest : List Char) : Prop := Common.StopsAt (continues t) rest

theorem not_whitespace_of_term (c : Char) (hc : isTermChar c = true) : isWhitespace c = false := by
  unfold isTermChar isAsciiAlnum isAsciiDigit at hc
  unfold isWhitespace
  simp only [Bool.or_eq_true, Bool.and_eq_true, decide_eq_true_eq, beq_iff_eq] at hc
  have h95 : c = '_' → c.toNat = 95 := by intro e; subst e; decide
  have : c.toNat = 95 ∨ (48 ≤ c.toNat ∧ c.toNat ≤ 57) ∨ (65 ≤ c.toNat ∧ c.toNat ≤ 90) ∨ (97 ≤ c.toNat ∧ c.toNat ≤ 122) := by
    rcases hc with ((h | h) | h) | h
    · exact Or.inr (Or.inl h)
    · exact Or.inr (Or.inr (Or.inl h))
    · exact Or.inr (Or.inr (Or.inr h))
    · exact Or.inl (h95 h)
  simp only [Bool.or_eq_false_iff, Bool.and_eq_false_iff, decide_eq_false_iff_not, beq_eq_false_iff_ne, ne_eq]
  omega

theorem nextToken_drop (ws s : List Char) (hws : ∀ c ∈ ws, isWhitespace c = true) :
    nextToken (ws ++ s) = nextToken s := by
  simp only [nextToken, List.dropWhile_append_of_pos hws]

theorem nextToken_of_findOp (c : Char) (s lex : List Char) (o : Operator) (hw : isWhitespace c = false)
    (hf : findOp (c :: s) = some (lex, o)) : nextToken (c :: s) = some (.op o, (c :: s).drop lex.length) := by
  simp only [nextToken, List.dropWhile, hw, List.head?_cons, hf]

theorem nextToken_op_general (o : Operator) (rest : List Char) (h : Terminates (.op o) rest) :
    nextToken (lexemeOf o ++ rest) = some (.op o, rest) := by
  have hf : findOp (lexemeOf o ++ rest) = some (lexemeOf o, o) := findOp_lexeme o rest h
  obtain ⟨c, u, hl, _, hw⟩ := lexemeOf_cons o
  have hd : (lexemeOf o ++ rest).drop (lexemeOf o).length = rest := List.drop_left
  rw [hl, List.cons_append] at hf hd
  rw [hl, List.cons_append, nextToken_of_findOp c _ _ o hw hf, hd]

theorem takeWhile_term_general (x rest : List Char) (hx : ∀ c ∈ x, isTermChar c = true)
    (hr : ∀ c, rest.head? = some c → isTermChar c = false) :
    (x ++ rest).takeWhile isTermChar = x ∧ (x ++ rest).dropWhile isTermChar = rest :=
  Common.span_unique rfl hx hr

/-- the tokenizer at a word (characters of a term, then something else): a constant when it starts with a
    digit, otherwise a variable -/
theorem nextToken_word (c : Char) (t rest : List Char) (hterm : ∀ ch ∈ c :: t, isTermChar ch = true)
    (hr : Common.StopsAt isTermChar rest) :
    nextToken (c :: t ++ rest) =
      if isAsciiDigit c then
        match parseConstant (c :: t) with
        | some i => some (.term (.value i), rest)
        | none => some (.err, c :: t ++ rest)
      else some (.term (.variable (c :: t)), rest) := by
  have hc := hterm c (by simp)
  have hw := not_whitespace_of_term c hc
  obtain ⟨htk, hdr⟩ := takeWhile_term_general (c :: t) rest hterm hr
  simp only [List.cons_append] at htk hdr
  simp only [nextToken, List.cons_append, List.dropWhile, hw, List.head?_cons, findOp_term c _ hc, htk, hdr,
    List.isEmpty_cons, Bool.false_eq_true, if_false]
  rfl

/-- a text that spells a token: the lexeme of an operator; for a constant ANY literal the C rules give that
    value (decimal, `0x`/`0X` hexadecimal, leading-`0` octal); the name of a variable -/
def Spells (text : List Char) : Tok → Prop
  | .op o => text = lexemeOf o
  | .term (.value v) =>
    (∀ ch ∈ text, isTermChar ch = true) ∧ (∀ c, text.head? = some c → isAsciiDigit c = true) ∧
    Spec.constValue text = some v
  | .term (.variable x) =>
    text = x ∧ x ≠ [] ∧ (∀ ch ∈ x, isTermChar ch = true) ∧ (∀ c, x.head? = some c → isAsciiDigit c = false)
  | .err => False

theorem spells_head (text : List Char) (t : Tok) (h : Spells text t) :
    ∃ c u, text = c :: u ∧ (∀ o, t = .op o → lexemeOf o = c :: u) ∧ (∀ tm, t = .term tm → isTermChar c = true) := by
  cases t with
  | err => exact absurd h (by simp [Spells])
  | op o =>
    simp only [Spells] at h
    obtain ⟨c, u, hl, _⟩ := lexemeOf_cons o
    exact ⟨c, u, by rw [h, hl], fun o' ho' => by injection ho' with ho'; subst ho'; exact hl,
      fun tm htm => by simp at htm⟩
  | term tm =>
    have key : (∀ ch ∈ text, isTermChar ch = true) ∧ text ≠ [] := by
      cases tm with
      | value v =>
        refine ⟨h.1, fun e => ?_⟩
        have hval := h.2.2
        rw [e] at hval
        simp [Spec.constValue, Spec.constMagnitude, Spec.digitsValue, Option.bind] at hval
      | «variable» x => obtain ⟨rfl, hne, hterm, _⟩ := h; exact ⟨hterm, hne⟩
    cases text with
    | nil => exact absurd rfl key.2
    | cons c u => exact ⟨c, u, rfl, fun o ho => by simp at ho, fun _ _ => key.1 c (by simp)⟩

theorem nextToken_spells (text rest : List Char) (t : Tok) (hs : Spells text t) (ht : Terminates t rest) :
    nextToken (text ++ rest) = some (t, rest) ∧ t ≠ .err := by
  cases t with
  | err => exact absurd hs (by simp [Spells])
  | op o =>
    simp only [Spells] at hs
    subst hs
    exact ⟨nextToken_op_general o rest ht, by simp⟩
  | term tm =>
    have hr : Common.StopsAt isTermChar rest := ht
    obtain ⟨c, u, rfl, _, _⟩ := spells_head text _ hs
    refine ⟨?_, by simp⟩
    cases tm with
    | value v =>
      obtain ⟨hterm, hdig, hval⟩ := hs
      rw [nextToken_word c u rest hterm hr, if_pos (hdig c rfl), parseConstant_eq_spec _ hterm, hval]
    | «variable» x =>
      obtain ⟨rfl, _, hterm, hdig⟩ := hs
      rw [nextToken_word c u rest hterm hr, hdig c rfl]
      rfl

/-- a token, the text that spells it, the white space after it -/
structure Piece where
  tok : Tok
  text : List Char
  sep : List Char

def flatten : List Piece → List Char
  | [] => []
  | p :: ps => p.text ++ (p.sep ++ flatten ps)

/-- two tokens that may stand next to each other without white space: a term and an operator (either
    order), or two operators one of which is a parenthesis, or two operators such that no lexeme of
    `OPERATORS` continues the first one with the first character of the second (`a<-b`, `x=-1`, `a*-b`, `1?-2:+3`;
    NOT `a- -b`, `a+ ++b`, `a< <b`, `x= =1`) — `operators_touch_exactly_when_opGlue` shows that this is also
    necessary -/
def glueSafe : Tok → Tok → Prop
  | .term _, .op _ => True
  | .op _, .term _ => True
  | .op o, .op o' => isParenOp o = true ∨ isParenOp o' = true ∨
      ∀ c, (lexemeOf o').head? = some c → opGlue (lexemeOf o) c = false
  | _, _ => False

/-- every piece spells its token, its separator is white space, and where the separator is empty the next token may touch -/
def PiecesOK : List Piece → Prop
  | [] => True
  | p :: ps =>
    Spells p.text p.tok ∧ (∀ c ∈ p.sep, isWhitespace c = true) ∧
    (p.sep = [] → match ps with | [] => True | q :: _ => glueSafe p.tok q.tok) ∧ PiecesOK ps

theorem glueSafe_terminates (t t' : Tok) (c : Char) (u rest : List Char) (hg : glueSafe t t')
    (hs : Spells (c :: u) t') : Terminates t (c :: u ++ rest) := by
  obtain ⟨c', u', he, hop, htm⟩ := spells_head _ _ hs
  injection he with hc hu
  subst hc; subst hu
  refine Common.StopsAt.cons ?_ _
  cases t with
  | err => rfl
  | op o =>
    cases t' with
    | err => exact absurd hg (by simp [glueSafe])
    | term tm => exact opGlue_false o c (Or.inr (Or.inl (htm tm rfl)))
    | op o' =>
      have hl := hop o' rfl
      rcases hg with hg | hg | hg
      · exact opGlue_false o c (Or.inl hg)
      · rcases paren_lexeme o' hg with e | e <;> rw [e] at hl <;> injection hl with hl _
        · exact opGlue_false o c (Or.inr (Or.inr (Or.inr (Or.inl hl.symm))))
        · exact opGlue_false o c (Or.inr (Or.inr (Or.inr (Or.inr hl.symm))))
      · exact hg c (by rw [hl]; rfl)
  | term tm =>
    cases t' with
    | err => exact absurd hg (by simp [glueSafe])
    | term tm' => exact absurd hg (by simp [glueSafe])
    | op o' =>
      obtain ⟨a, v, ha, hat, _⟩ := lexemeOf_cons o'
      rw [hop o' rfl] at ha
      injection ha with ha _
      subst ha
      exact hat

theorem pieces_terminate (p : Piece) (ps : List Piece) (h : PiecesOK (p :: ps)) :
    Terminates p.tok (p.sep ++ flatten ps) := by
  obtain ⟨hsp, hws, hglue, hrest⟩ := h
  cases hsep : p.sep with
  | cons a r =>
    have ha := hws a (by rw [hsep]; simp)
    refine Common.StopsAt.cons (t := r ++ flatten ps) ?_
    cases p.tok with
    | op o => exact opGlue_false o a (Or.inr (Or.inr (Or.inl ha)))
    | term tm =>
      cases ht : isTermChar a with
      | false => exact ht
      | true => exact Bool.noConfusion (ha.symm.trans (not_whitespace_of_term a ht))
    | err => rfl
  | nil =>
    cases ps with
    | nil =>
      exact Common.StopsAt.nil _
    | cons q qs =>
      obtain ⟨c, u, hc, _, _⟩ := spells_head q.text q.tok hrest.1
      simp only [flatten, List.nil_append, hc]
      exact glueSafe_terminates _ _ c u _ (hglue hsep) (hc ▸ hrest.1)

/-- ☆ the tokenizer reads EVERY spelling of a token list back as that list: any white space of Rust's
    `char::is_whitespace` (Unicode included) before, between and after the tokens, none at all where two tokens cannot run
    together (`glueSafe`), and any notation of the constants (`Spells`) -/
theorem tokenize_every_spelling (ps : List Piece) (lead : List Char) (f : Nat) (hps : PiecesOK ps)
    (hlead : ∀ c ∈ lead, isWhitespace c = true) (hf : (lead ++ flatten ps).length < f) :
    tokenize f (lead ++ flatten ps) = ps.map (·.tok) := by
  induction ps generalizing lead f with
  | nil =>
    cases f with
    | zero => omega
    | succ f =>
      have : nextToken lead = none := by
        have := nextToken_drop lead [] hlead
        rw [List.append_nil] at this
        rw [this]; rfl
      simp [flatten, tokenize, this]
  | cons p ps ih =>
    cases f with
    | zero => omega
    | succ g =>
      obtain ⟨hn, hne⟩ := nextToken_spells p.text (p.sep ++ flatten ps) p.tok hps.1 (pieces_terminate p ps hps)
      obtain ⟨c, u, hc, _, _⟩ := spells_head p.text p.tok hps.1
      have hnext : nextToken (lead ++ flatten (p :: ps)) = some (p.tok, p.sep ++ flatten ps) := by
        rw [nextToken_drop lead _ hlead]; exact hn
      have hlen : (p.sep ++ flatten ps).length < g := by
        simp only [flatten, List.length_append, hc, List.length_cons] at hf ⊢
        omega
      have hstep : tokenize (g + 1) (lead ++ flatten (p :: ps)) = p.tok :: tokenize g (p.sep ++ flatten ps) := by
        rw [tokenize, hnext]
        cases htok : p.tok with
        | err => exact absurd htok hne
        | op o => rfl
        | term tm => rfl
      rw [hstep, ih p.sep g hps.2.2.2 hps.2.1 hlen]
      rfl

/-- the plainest spelling of a token: the lexeme, the decimal digits, the name -/
def spellTok : Tok → List Char
  | .op o => lexemeOf o
  | .term (.value v) => showInt v
  | .term (.variable x) => x
  | .err => []

/-- every token followed by one blank -/
def spell : List Tok → List Char
  | [] => []
  | t :: ts => spellTok t ++ ' ' :: spell ts

/-- tokens that have a spelling: non-negative i64 constants and identifiers -/
def TokOK : Tok → Prop
  | .op _ => True
  | .term (.value v) => 0 ≤ v ∧ InRange v
  | .term (.variable x) => x ≠ [] ∧ (∀ c ∈ x, isTermChar c = true) ∧ (∀ c, x.head? = some c → isAsciiDigit c = false)
  | .err => False

theorem term_of_digit (c : Char) (h : isAsciiDigit c = true) : isTermChar c = true := by
  simp [isTermChar, isAsciiAlnum, h]

theorem spells_spellTok (t : Tok) (h : TokOK t) : Spells (spellTok t) t := by
  cases t with
  | op o => rfl
  | err => exact h
  | term tm =>
    cases tm with
    | «variable» x => exact ⟨rfl, h⟩
    | value v =>
      obtain ⟨h0, hv⟩ := h
      have hvn : ((v.toNat : Nat) : Int) = v := by omega
      have hval := constValue_natDigits v.toNat (by rw [hvn]; exact hv)
      obtain ⟨_, hdec, _, _⟩ := natDigits_facts (v.toNat + 1) v.toNat (Nat.lt_succ_self _)
      have hdig : ∀ ch ∈ natDigits (v.toNat + 1) v.toNat, isAsciiDigit ch = true :=
        fun ch hch => (hdec ch hch).2
      rw [hvn] at hval
      simp only [spellTok, showInt, if_neg (show ¬ v < 0 by omega)]
      exact ⟨fun ch hch => term_of_digit ch (hdig ch hch), fun c hc => hdig c (List.mem_of_mem_head? hc), hval⟩

def blankPieces (toks : List Tok) : List Piece := toks.map fun t => ⟨t, spellTok t, [' ']⟩

theorem flatten_blankPieces (toks : List Tok) : flatten (blankPieces toks) = spell toks := by
  induction toks with
  | nil => rfl
  | cons t ts ih => simp only [blankPieces, List.map_cons, flatten, spell] at ih ⊢; rw [ih]; rfl

theorem piecesOK_blankPieces (toks : List Tok) (hok : ∀ t ∈ toks, TokOK t) : PiecesOK (blankPieces toks) := by
  induction toks with
  | nil => trivial
  | cons t ts ih =>
    exact ⟨spells_spellTok t (hok t (by simp)), fun c hc => by rw [List.mem_singleton.mp hc]; decide,
      fun h => by simp at h,
      ih fun t' ht' => hok t' (by simp [ht'])⟩

/-- ☆ the tokenizer reads a token list written out (operators by their lexeme of the generated `OPERATORS`,
    non-negative constants in decimal, identifiers; one blank after each) back as that list -/
theorem tokenize_spelling (toks : List Tok) (hok : ∀ t ∈ toks, TokOK t) (f : Nat)
    (hf : (spell toks).length < f) : tokenize f (spell toks) = toks := by
  have := tokenize_every_spelling (blankPieces toks) [] f (piecesOK_blankPieces toks hok) (by simp)
    (by rw [List.nil_append, flatten_blankPieces]; exact hf)
  rw [List.nil_append, flatten_blankPieces] at this
  rw [this, blankPieces, List.map_map]
  exact List.map_id _

end YashModel.Arith
