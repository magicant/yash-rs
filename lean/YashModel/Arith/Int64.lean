/-
  C03 — 64-bit arithmetic: the Model computes on `Int` with `InRange` and through `BitVec 64`, the Spec in unbounded `Int`
  with `Spec.InRange`; each operation of the one is the exact operation of the other, and stays in range where the code relies
  on it.  `Res.Returns`: what it is for a Rust function to return.
-/
import YashModel.Arith.Model
import YashModel.Arith.Spec
namespace YashModel.Arith
open YashModel.Generated.ArithTables

def Res.value? {α : Type} : Res α → Option α
  | .ok a => some a
  | _ => none

/-- the Rust function returns (`Ok` or `Err`): it neither panics nor (model artefact) runs out of fuel -/
def Res.Returns {α : Type} : Res α → Prop
  | .ok _ => True
  | .error _ => True
  | .panic => False
  | .fuel => False

theorem Res.value?_eq_some {α : Type} {r : Res α} {v : α} : r.value? = some v ↔ r = .ok v := by
  cases r <;> simp [Res.value?]

theorem Res.ok_bind {α β : Type} (a : α) (f : α → Res β) : (Res.ok a).bind f = f a := rfl

/-- a check that answers `Ok a` or `Err e`, followed by `?` -/
theorem Res.ite_bind {α β : Type} (c : Prop) [Decidable c] (a : α) (e : EvalErr) (f : α → Res β) :
    (if c then Res.ok a else Res.error e).bind f = if c then f a else .error e := by
  by_cases h : c <;> simp only [h, if_true, if_false] <;> rfl

theorem Res.bind_returns {α β : Type} (r : Res α) (f : α → Res β) (hr : r.Returns)
    (hf : ∀ a, r = .ok a → (f a).Returns) : (r.bind f).Returns := by
  cases r with
  | ok a => exact hf a rfl
  | error e => trivial
  | panic => exact hr.elim
  | fuel => exact hr.elim

theorem Res.bind_eq_ok {α β : Type} {r : Res α} {f : α → Res β} {b : β} (h : r.bind f = .ok b) :
    ∃ a, r = .ok a ∧ f a = .ok b := by
  cases r with
  | ok a => exact ⟨a, rfl, h⟩
  | error e => simp [Res.bind] at h
  | panic => simp [Res.bind] at h
  | fuel => simp [Res.bind] at h

theorem ofOption_returns {α : Type} (o : Option α) (e : EvalErr) : (Res.ofOption o e).Returns := by
  cases o <;> trivial

theorem Res.Returns.cases {α : Type} {r : Res α} (h : r.Returns) : (∃ a, r = .ok a) ∨ ∃ e, r = .error e := by
  cases r with
  | ok a => exact Or.inl ⟨a, rfl⟩
  | error e => exact Or.inr ⟨e, rfl⟩
  | panic => exact h.elim
  | fuel => exact h.elim

theorem inRange_iff (x : Int) : InRange x ↔ Spec.InRange x := by
  unfold InRange Spec.InRange; omega

theorem represent_of_inRange {x : Int} (h : InRange x) : Spec.represent x = some x := by
  unfold Spec.represent; rw [if_pos ((inRange_iff x).mp h)]

theorem checked_eq_represent (x : Int) : checked x = Spec.represent x := by
  unfold checked Spec.represent
  by_cases h : InRange x
  · simp [h, (inRange_iff x).mp h]
  · have : ¬ Spec.InRange x := fun h' => h ((inRange_iff x).mpr h')
    simp [h, this]

theorem checked_fun : checked = Spec.represent := funext checked_eq_represent

theorem toRepr_lt (x : Int) : Spec.toRepr x < 2 ^ 64 := by
  unfold Spec.toRepr
  have h1 : 0 ≤ x % (2 : Int) ^ 64 := Int.emod_nonneg _ (by decide)
  have h2 : x % (2 : Int) ^ 64 < (2 : Int) ^ 64 := Int.emod_lt_of_pos _ (by decide)
  omega

theorem toNat_ofInt64 (x : Int) : (BitVec.ofInt 64 x).toNat = Spec.toRepr x := by
  rw [BitVec.toNat_ofInt]; unfold Spec.toRepr; norm_cast

theorem bmod_eq_fromRepr (n : Nat) (h : n < 2 ^ 64) : (n : Int).bmod (2 ^ 64) = Spec.fromRepr n := by
  rw [Int.bmod_def]; unfold Spec.fromRepr
  have : ((n : Int) % ((2 ^ 64 : Nat) : Int)) = n := by
    apply Int.emod_eq_of_lt <;> omega
  rw [this]
  by_cases h' : n < 2 ^ 63
  · have : (n : Int) < (((2 ^ 64 : Nat) : Int) + 1) / 2 := by omega
    simp only [h', this, if_true]
  · have : ¬ (n : Int) < (((2 ^ 64 : Nat) : Int) + 1) / 2 := by omega
    simp only [h', this, if_false]; omega

theorem fromRepr_inRange (n : Nat) (h : n < 2 ^ 64) : Spec.InRange (Spec.fromRepr n) := by
  unfold Spec.fromRepr Spec.InRange
  by_cases h' : n < 2 ^ 63 <;> simp only [h', if_true, if_false] <;> omega

theorem bitOr_exact (l r : Int) : bitOr l r = Spec.fromRepr (Spec.toRepr l ||| Spec.toRepr r) := by
  unfold bitOr
  rw [BitVec.toInt_or, toNat_ofInt64, toNat_ofInt64]
  exact bmod_eq_fromRepr _ (Nat.or_lt_two_pow (toRepr_lt l) (toRepr_lt r))

theorem bitXor_exact (l r : Int) : bitXor l r = Spec.fromRepr (Spec.toRepr l ^^^ Spec.toRepr r) := by
  unfold bitXor
  rw [BitVec.toInt_xor, toNat_ofInt64, toNat_ofInt64]
  exact bmod_eq_fromRepr _ (Nat.xor_lt_two_pow (toRepr_lt l) (toRepr_lt r))

theorem bitAnd_exact (l r : Int) : bitAnd l r = Spec.fromRepr (Spec.toRepr l &&& Spec.toRepr r) := by
  unfold bitAnd
  rw [BitVec.toInt_and, toNat_ofInt64, toNat_ofInt64]
  exact bmod_eq_fromRepr _ (Nat.and_lt_two_pow _ (toRepr_lt r))

theorem bitNot_exact (v : Int) (h : InRange v) : bitNot v = -v - 1 := by
  unfold bitNot
  rw [BitVec.toInt_not, toNat_ofInt64, Int.bmod_def]
  unfold Spec.toRepr
  unfold InRange at h
  have h1 : 0 ≤ v % (2 : Int) ^ 64 := Int.emod_nonneg _ (by decide)
  rw [Int.toNat_of_nonneg h1]
  omega

theorem two_pow_pos (n : Nat) : (0 : Int) < 2 ^ n := Int.pow_pos (by decide)

/-- the `filter` of `ShiftLeft` passes exactly when the exact product fits -/
theorem shl_filter (l : Int) (n : Nat) (hl0 : 0 ≤ l) :
    (decide (wrap64 (l * 2 ^ n) ≥ 0) && (wrap64 (l * 2 ^ n) >>> n == l)) = true
      ↔ l * 2 ^ n ≤ 9223372036854775807 := by
  have hp := two_pow_pos n
  have hx : 0 ≤ l * 2 ^ n := Int.mul_nonneg hl0 (Int.le_of_lt hp)
  have hsr : ∀ w : Int, w >>> n = w / (2 : Int) ^ n := fun w => by rw [Int.shiftRight_eq_div_pow]; norm_cast
  simp only [Bool.and_eq_true, decide_eq_true_eq, beq_iff_eq, ge_iff_le, hsr]
  generalize (2 : Int) ^ n = k at *
  constructor
  · intro ⟨h0, h1⟩
    -- l = w / k, so l * k ≤ w < 2^63
    have hw : wrap64 (l * k) < 9223372036854775808 := by unfold wrap64; omega
    have : l * k ≤ wrap64 (l * k) := by
      have := Int.ediv_mul_le (wrap64 (l * k)) (Int.ne_of_gt hp)
      rw [h1] at this; exact this
    omega
  · intro h
    -- nothing wraps, and `l * k / k = l`
    have hw : wrap64 (l * k) = l * k := by unfold wrap64; omega
    rw [hw]
    exact ⟨hx, Int.mul_ediv_cancel l (Int.ne_of_gt hp)⟩

theorem shr_inRange (l : Int) (n : Nat) (hl : InRange l) : InRange (l / 2 ^ n) := by
  have hp := two_pow_pos n
  unfold InRange at *
  generalize (2 : Int) ^ n = k at *
  constructor
  · rw [Int.le_ediv_iff_mul_le hp]; omega
  · have : l / k < 9223372036854775808 := by rw [Int.ediv_lt_iff_lt_mul hp]; omega
    omega

theorem tdiv_inRange (l r : Int) (hl : InRange l) (h : ¬ (l = -9223372036854775808 ∧ r = -1)) :
    InRange (l.tdiv r) := by
  unfold InRange at *
  have hle := Int.natAbs_tdiv_le_natAbs l r
  by_cases hmin : l = -9223372036854775808
  · -- |l| = 2^63: the quotient reaches 2^63 only for r = -1
    by_cases hr1 : r = 1
    · subst hr1; simp [Int.tdiv_one]; omega
    · by_cases hr0 : r = 0
      · subst hr0; simp [Int.tdiv_zero]
      · have hr2 : 2 ≤ r.natAbs := by omega
        have hq := Int.natAbs_tdiv l r
        have : l.natAbs.div r.natAbs < l.natAbs := Nat.div_lt_self (by omega) hr2
        omega
  · omega

theorem tdiv_min_neg_one : ¬ InRange ((-9223372036854775808 : Int).tdiv (-1)) := by
  unfold InRange; decide

theorem tmod_inRange (l r : Int) (hl : InRange l) : InRange (l.tmod r) := by
  unfold InRange at *
  have h := Int.natAbs_tmod l r
  have : l.natAbs % r.natAbs ≤ l.natAbs := Nat.mod_le _ _
  by_cases h0 : 0 ≤ l
  · have := Int.tmod_nonneg r h0
    omega
  · have h1 : l.tmod r = -((-l).tmod r) := by rw [Int.neg_tmod]; omega
    have := Int.tmod_nonneg r (show 0 ≤ -l by omega)
    omega

theorem boolInt_eq_truth (b : Bool) (p : Prop) [Decidable p] (h : b = true ↔ p) : boolInt b = Spec.truth p := by
  unfold boolInt Spec.truth
  by_cases hp : p
  · simp [hp, h.mpr hp]
  · have : b = false := by cases b <;> simp_all
    simp [hp, this]

theorem truth_inRange (p : Prop) [Decidable p] : Spec.InRange (Spec.truth p) := by
  unfold Spec.truth Spec.InRange; by_cases hp : p <;> simp [hp] <;> omega

end YashModel.Arith
