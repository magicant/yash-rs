/-
  Driver for C03.  stdin: one case per line, stdout: `<model observation>\t<spec>`.

  Case lines (space separated; strings are hex of UTF-8, empty = `-`):
    E <env> <text> [<tree>]   evaluate `text` in `env`; env = `-` or `name:value,name:value,…`;
                              tree (optional) = the expression tree the harness rendered `text` from, in
                              Polish notation: `n<int>` `v<name>` `p<lexeme> e` `q<lexeme> e`
                              `b<lexeme> l r` `c c t e`
    P <env> <text> [<tree>]   the same with `Config { portable: true }` (`++`/`--` anywhere are an error)
    Z <env> <tree>            size family: the tree is given in Polish notation with the macro `s<n>` (a balanced
                              sum of n constants, 2n-1 nodes); the harness renders it (up to ~1 MB of text) and
                              evaluates the text; the text is NOT sent.  Both columns here are `Spec.evalExact` of
                              the tree: `text_gets_its_C_value_all_spellings` proves that this is what the model
                              (`evalStr`) returns on every spelling of the tree, of any size — the list-based
                              model itself is quadratic and would need minutes for 130 KB.
    W <extra> <env> <text> [<tree>]
                              a text with non-ASCII alphanumerics (`V` = portable): `extra` = the non-ASCII characters
                              of the text for which `char::is_alphanumeric` holds (hex), the parameter of
                              `evalStrU` (Unicode.lean); full observation; Spec column from the tree when one is sent
    U <text>                  legacy: totality only
    S <opts> <globals> <kind> <locals> <exprs>
                              shell-level scenario (see `Shell.lean`): opts `-` or flags `u` (set -u) `p` (set -o
                              portable); globals/locals
                              `-` or `name=K:payload,…` with K = s scalar (hex) | r read-only scalar (hex) |
                              a array (hex elements joined by `.`) | n declared without value (`-`);
                              kind top|fn|sub|fnsub|nest; exprs = hex texts joined by `,`.
                              Observation: output lines joined by `|` (an expansion: hex of its text; a
                              variable seen by `"${name-U}"`: hex fields joined by `,`), then `END` + the final
                              global variables, or `ERR` when the shell exited at a failing expansion.
  Observation: `ok <value> <sorted final env>` or `error <cause> <sorted env after the Err>` (the leaf variant of
  `Error::cause`, `showCause`; the map as `envAfterU` computes it); for `U` lines `total`.
  Spec column: `=<observation>` computed by `Spec.evalExact` on `Spec.parseText text`; `-` when the tree is
  outside `Spec.inScope`; `FAIL:…` when the harness' tree is not the tree the Spec reads from the text, or when
  the code's parser model does not build `rpn` of the tree the Spec reads (checked on every case with a tree-
  shaped text; theorem `checked_tree_gets_its_C_value` turns that check into the agreement of the columns);
  `=error <cause>` for a failing evaluation (`specError`).
-/
import YashModel.Common.Proto
import YashModel.Arith.Model
import YashModel.Arith.Spec
import YashModel.Arith.Shell
import YashModel.Arith.Unicode
import YashModel.Arith.Trace
import YashModel.Arith.Rpn
open YashModel YashModel.Arith YashModel.Proto
open YashModel.Generated.ArithTables

def decEnv (t : String) : Option Env :=
  if t = "-" then some [] else
  (t.splitOn ",").mapM fun item =>
    match item.splitOn ":" with
    | [n, v] => do pure ((← decChars n), (← decChars v))
    | _ => none

def showEnv (env : List (List Char × List Char)) : String :=
  let items := env.map fun (n, v) => (String.ofList n, String.ofList v)
  let sorted := items.mergeSort (fun a b => a.1 ≤ b.1)
  if sorted.isEmpty then "-" else
  ",".intercalate (sorted.map fun (n, v) => encStr n ++ ":" ++ encStr v)

/-- the leaf variant of `Error::cause` as the harness names it (`cause_label` in c03.rs) -/
def showCause : Cause → String
  | .token .invalidNumericConstant => "numconst"
  | .token .invalidCharacter => "badchar"
  | .syntax .tokenError => "TOKEN-ERROR-WITHOUT-KIND"
  | .syntax .incompleteExpression => "incomplete"
  | .syntax .missingOperator => "missingop"
  | .syntax .unclosedParenthesis => "paren"
  | .syntax .questionWithoutColon => "question"
  | .syntax .colonWithoutQuestion => "colon"
  | .syntax .invalidOperator => "invalidop"
  | .syntax .fuel => "FUEL"
  | .portability => "portable"
  | .eval .invalidVariableValue => "value"
  | .eval .overflow => "overflow"
  | .eval .divisionByZero => "divzero"
  | .eval .leftShiftingNegative => "lshiftneg"
  | .eval .reverseShifting => "revshift"
  | .eval .assignmentToValue => "assignvalue"
  | .eval .getVariableError => "getvar"
  | .eval .assignVariableError => "assignvar"

/-- observation of one evaluation: the outcome (`none` = rejected by the portability check) and its cause -/
def showRun (o : Option Outcome) (cause : Option Cause) (after : Env := []) : String :=
  match o, cause with
  | some (.value v env), none => s!"ok {v} {showEnv env}"
  | some (.value _ _), some _ => "CAUSE-OF-A-VALUE"
  | some .panic, _ => "MODEL-PANIC"
  | some .fuel, _ => "FUEL"
  | some (.syntaxError .fuel), _ => "FUEL"
  | _, some c => "error " ++ showCause c ++ " " ++ showEnv after
  | _, none => "ERROR-WITHOUT-CAUSE"

/-- the three groups of `ErrorCause` (lib.rs) -/
inductive Group where
  | syntax | portability | eval
  deriving DecidableEq

def causeGroup : Cause → Group
  | .token _ => .syntax
  | .syntax _ => .syntax
  | .portability => .portability
  | .eval _ => .eval

def showGroup : Group → String
  | .syntax => "SYNTAX-GROUP" | .portability => "portable" | .eval => "EVAL-GROUP"

/-- Spec column of a failing evaluation.  The Spec says THAT the evaluation fails and in which group of
    `ErrorCause` (text that is not an expression: syntax; `++`/`--` under `portable`; a tree without a value:
    evaluation); which of two failing operands of a tree is reported it does not say (C does not order them):
    inside the group the model's leaf cause is taken over, outside the group the column disagrees with
    everything. -/
def specError (g : Group) (model : Option Cause) (after : Env := []) : String :=
  -- the variables after a failure are no subject of C or POSIX (the shell exits): taken over from the model
  -- (`assignments_before_failure_persist` says what they are)
  match model with
  | some c => if causeGroup c = g then "=error " ++ showCause c ++ " " ++ showEnv after else "=error " ++ showGroup g
  | none => "=error " ++ showGroup g

/-- the model's leaf cause in the Spec's terms -/
def failOfCause : Cause → Option Spec.Fail
  | .eval .invalidVariableValue => some .value
  | .eval .overflow => some (.reason .unrepresentable)
  | .eval .divisionByZero => some (.reason .divisionByZero)
  | .eval .leftShiftingNegative => some (.reason .leftShiftOfNegative)
  | .eval .reverseShifting => some (.reason .negativeShiftCount)
  | .eval .assignmentToValue => some .notLvalue
  | _ => none

/-- Spec column of an in-scope tree without a value: the reported cause must be one of the causes C admits for
    this tree (`Spec.fails`: a set — C does not order unsequenced operands — computed on the tree, independent of
    the code's evaluation order); a singleton whenever only one operand / operation fails. -/
def specEvalError (e : Spec.Expr) (env : Env) (model : Option Cause) (after : Env) : String :=
  let adm := Spec.fails e env
  if adm.isEmpty then "FAIL:spec-has-no-value-but-admits-no-cause" else
  match model with
  | some c =>
    match failOfCause c with
    | some f => if adm.contains f then "=error " ++ showCause c ++ " " ++ showEnv after
                else "=error CAUSE-NOT-ADMISSIBLE"
    | none => "=error EVAL-GROUP"
  | none => "=error EVAL-GROUP"

def showSpec : Option (Int × Spec.Env) → String
  | some (v, env) => s!"ok {v} {showEnv env}"
  | none => "error"

/-- the balanced sum `l_lo + … + l_(hi-1)` with `l_i = i % 7 + 1`, split in the middle (depth ≈ log₂ n) -/
def bigSum : Nat → Nat → Nat → Spec.Expr
  | 0, lo, _ => .num (lo % 7 + 1)
  | f + 1, lo, hi =>
    if hi ≤ lo + 1 then .num (lo % 7 + 1)
    else
      let mid := (lo + hi) / 2
      .bin .Add (bigSum f lo mid) (bigSum f mid hi)

/-- Polish-notation tree sent by the harness -/
def parsePolish : Nat → List String → Option (Spec.Expr × List String)
  | 0, _ => none
  | _, [] => none
  | f + 1, w :: rest =>
    match w.toList with
    | 'n' :: ds => (String.ofList ds).toInt?.map fun v => (.num v, rest)
    | 'v' :: name => if name.isEmpty then none else some (.var name, rest)
    | 'p' :: lx => do
      let o ← Spec.prefixOfLexeme lx
      let (e, r1) ← parsePolish f rest
      pure (.pre o e, r1)
    | 'q' :: lx => do
      let o ← Spec.postfixOfLexeme lx
      let (e, r1) ← parsePolish f rest
      pure (.post o e, r1)
    | 'b' :: lx => do
      let (b, _, _) ← Spec.binaryOfLexeme lx
      let (l, r1) ← parsePolish f rest
      let (r, r2) ← parsePolish f r1
      pure (.bin b l r, r2)
    | 's' :: ds => do
      -- macro: a balanced sum of `n` small constants (2n-1 nodes), see `bigSum`
      let n ← (String.ofList ds).toNat?
      if n = 0 then none else pure (bigSum 64 0 n, rest)
    | ['c'] => do
      let (c, r1) ← parsePolish f rest
      let (t, r2) ← parsePolish f r1
      let (e, r3) ← parsePolish f r2
      pure (.cond c t e, r3)
    | _ => none

def runE (portable : Bool) (envT textT : String) (treeWords : List String) : String :=
  match decEnv envT, decChars textT with
  | some env, some text =>
    let cause := evalStrCause portable text env
    let after := envAfterU [] portable text env
    let model := showRun (if portable then evalStrPortable text env else some (evalStr text env)) cause after
    let tree : Option (Option Spec.Expr) :=
      if treeWords.isEmpty then some none
      else match parsePolish (treeWords.length + 1) treeWords with
        | some (e, []) => some (some e)
        | _ => none
    let spec :=
      match tree with
      | none => "FAIL:bad-tree-in-case"
      | some tree =>
        match Spec.parseText text, tree with
        | none, some _ => "FAIL:spec-rejects-rendered-tree"
        | none, none => specError .syntax cause after
        | some e, tree =>
          if tree.isSome ∧ tree ≠ some e then "FAIL:spec-reads-another-tree"
          -- the hypothesis of `checked_tree_gets_its_C_value`, checked on every case: the code's parser model
          -- lays out exactly the vector of the tree the Spec reads (trees and vectors are one to one)
          else if (match parse text with | .ok a => a != rpn e | .error _ => true) then
            "FAIL:parser-model-does-not-build-the-vector-of-the-tree-the-Spec-reads"
          else if portable ∧ Spec.hasIncDec e then specError .portability cause after
          else if !Spec.inScope e then "-"
          else match Spec.evalExact e env with
            | none => specEvalError e env cause after
            | some r =>
              if !(Spec.fails e env).isEmpty then "FAIL:spec-has-a-value-but-admits-a-cause" else "=" ++ showSpec (some r)
    model ++ "\t" ++ spec
  | _, _ => "bad-case\t-"

/-! ### shell-level scenarios -/

def allNames : List Name := ["a", "b", "n", "q", "r", "v", "x"].map String.toList

def decVar (item : String) : Option (Name × SVar) :=
  match item.splitOn "=" with
  | [n, kp] =>
    match kp.splitOn ":" with
    | [k, p] =>
      match k with
      | "s" => (decChars p).map fun v => (n.toList, ⟨.scalar v, false⟩)
      | "r" => (decChars p).map fun v => (n.toList, ⟨.scalar v, true⟩)
      | "a" => ((p.splitOn ".").mapM decChars).map fun l => (n.toList, ⟨.array l, false⟩)
      | "n" => some (n.toList, ⟨.none, false⟩)
      | _ => none
    | _ => none
  | _ => none

def decCtx (t : String) : Option Ctx :=
  if t = "-" then some [] else (t.splitOn ",").mapM decVar

def decKind : String → Option CtxKind
  | "top" => some .top | "fn" => some .fn | "sub" => some .sub | "fnsub" => some .fnsub
  | "nest" => some .nest | _ => none

/-- the third, sixth, … expansion of a body is written `T=$((…)); probe "$T"`, whose line starts with the
    exit status of the assignment (= of the last command substitution in the expansion) -/
def showLine (i : Nat) : Line → String
  | .value (s, st) => if i % 3 = 2 then s!"{st}:" ++ encChars s else encChars s
  | .fields l => ",".intercalate (l.map encChars)

def showVar (p : Name × SVar) : String :=
  let k := match p.2.value, p.2.readOnly with
    | .scalar v, false => "s:" ++ encChars v
    | .scalar v, true => "r:" ++ encChars v
    | .array l, false => "a:" ++ ".".intercalate (l.map encChars)
    | .array l, true => "A:" ++ ".".intercalate (l.map encChars)
    | .none, false => "n:-"
    | .none, true => "N:-"
  String.ofList p.1 ++ "=" ++ k

/-- the final global variables, restricted to the names the harness looks at -/
def showFinal (c : Ctx) : String :=
  let c := c.filter fun p => allNames.contains p.1
  let items := (c.map fun p => (String.ofList p.1, showVar p)).mergeSort (fun a b => a.1 ≤ b.1)
  if items.isEmpty then "-" else ",".intercalate (items.map (·.2))

/-- the cause as the harness reads it from the shell's message -/
def showShErr : ShErr → String
  | .syntax .tokenError => "TOKEN-ERROR-WITHOUT-KIND"
  | .token .invalidNumericConstant => "numconst"
  | .token .invalidCharacter => "badchar"
  | .syntax .incompleteExpression => "incomplete"
  | .syntax .missingOperator => "missingop"
  | .syntax .unclosedParenthesis => "paren"
  | .syntax .questionWithoutColon => "question"
  | .syntax .colonWithoutQuestion => "colon"
  | .syntax .invalidOperator => "invalidop"
  | .syntax .fuel => "FUEL"
  | .portability => "portable"
  | .eval .invalidVariableValue => "value"
  | .eval .overflow => "overflow"
  | .eval .divisionByZero => "divzero"
  | .eval .leftShiftingNegative => "lshiftneg"
  | .eval .reverseShifting => "revshift"
  | .eval .assignmentToValue => "assignvalue"
  | .eval .getVariableError => "unset"
  | .eval .assignVariableError => "readonly"
  | .unsetParameter => "unset"
  | .modelPanic => "MODEL-PANIC"
  | .badCase => "BAD-CASE"

def showOutcome2 (o : Outcome2) : String :=
  let ls := (o.lines.zipIdx).map fun (l, i) => showLine i l
  let tail := match o.final with
    | some c => "END " ++ showFinal c
    | none => "ERR"
  "|".intercalate (ls ++ [tail]) ++ " E=" ++ (match o.err with | some e => showShErr e | none => "-")

/-- Spec side: a stack of maps name ↦ text (innermost first) -/
abbrev SMaps := List (List (Name × List Char))

def sVisible : SMaps → Name → Option (List Char)
  | [], _ => none
  | m :: rest, n => match Spec.lookup m n with | some v => some v | none => sVisible rest n

/-- an assignment goes to the visible variable, wherever it lives, else to the global map -/
def sAssign : SMaps → Name → List Char → SMaps
  | [], n, v => [[(n, v)]]
  | [g], n, v => [Spec.update g n v]
  | m :: rest, n, v =>
    match Spec.lookup m n with
    | some _ => Spec.update m n v :: rest
    | none => m :: sAssign rest n v

def sSubst (ms : SMaps) : Nat → List Char → List Char
  | 0, _ => []
  | _, [] => []
  | f + 1, '$' :: '{' :: rest =>
    let name := rest.takeWhile (· ≠ '}')
    ((sVisible ms name).getD []) ++ sSubst ms f ((rest.dropWhile (· ≠ '}')).drop 1)
  | f + 1, '$' :: rest =>
    let name := rest.takeWhile Spec.isWordChar
    if name.isEmpty then '$' :: sSubst ms f rest
    else ((sVisible ms name).getD []) ++ sSubst ms f (rest.dropWhile Spec.isWordChar)
  | f + 1, c :: rest => c :: sSubst ms f rest

inductive SBody where
  | done (vals : List (List Char)) (ms : SMaps)
  | failed (vals : List (List Char))
  | silent

/-- expansions by the Spec: value by `evalExact` on the visible variables, every variable it changed is
    written back by `sAssign` -/
def sBody (portable : Bool) (ms : SMaps) : List (List Char) → SBody
  | [] => .done [] ms
  | e :: rest =>
    match Spec.parseText (sSubst ms (e.length + 1) e) with
    | none => .failed []
    | some t =>
      if portable ∧ Spec.hasIncDec t then .failed [] else
      if !Spec.inScope t then .silent else
      let flat : Spec.Env := allNames.filterMap fun n => (sVisible ms n).map fun v => (n, v)
      match Spec.evalExact t flat with
      | none => .failed []
      | some (v, env') =>
        let changed := env'.filter fun p => Spec.lookup flat p.1 ≠ some p.2
        let ms1 := changed.foldl (fun acc p => sAssign acc p.1 p.2) ms
        match sBody portable ms1 rest with
        | .done vs m => .done ((toString v).toList :: vs) m
        | .failed vs => .failed ((toString v).toList :: vs)
        | .silent => .silent

def sPrint (ms : SMaps) : List String :=
  allNames.map fun n => encChars ((sVisible ms n).getD ['U'])

def sFinal (g : List (Name × List Char)) : String :=
  showFinal (g.map fun p => (p.1, (⟨.scalar p.2, false⟩ : SVar)))

def specScenario (sc : Scenario) : String :=
  let plain (c : Ctx) : Option (List (Name × List Char)) :=
    c.mapM fun p => match p.2.value, p.2.readOnly with
      | .scalar v, false => some (p.1, v)
      | _, _ => none
  let hasSubst := sc.exprs.any fun e => (String.ofList e).contains "$("
  match sc.nounset || hasSubst, plain sc.globals, plain sc.locals with
  | false, some g, some l =>
    let vals (vs : List (List Char)) := (vs.zipIdx).map fun (v, i) => if i % 3 = 2 then "0:" ++ encChars v else encChars v
    -- the Spec knows that an expansion fails, not the cause the shell names: it is silent then
    let fin (ls : List String) (tail : String) := "=" ++ "|".intercalate (ls ++ [tail]) ++ " E=-"
    match sc.kind with
    | .top =>
      match sBody sc.portable [g] sc.exprs with
      | .done vs ms => fin (vals vs ++ sPrint ms) ("END " ++ sFinal (ms.getLast?.getD []))
      | .failed _ => "-"
      | .silent => "-"
    | .fn =>
      match sBody sc.portable [l, g] sc.exprs with
      | .done vs ms => fin (vals vs ++ sPrint ms ++ sPrint (ms.drop 1)) ("END " ++ sFinal (ms.getLast?.getD []))
      | .failed _ => "-"
      | .silent => "-"
    | .nest =>
      match sBody sc.portable [[], l, g] sc.exprs with
      | .done vs ms =>
        fin (vals vs ++ sPrint ms ++ sPrint (ms.drop 1) ++ sPrint (ms.drop 2)) ("END " ++ sFinal (ms.getLast?.getD []))
      | .failed _ => "-"
      | .silent => "-"
    | .sub =>
      match sBody sc.portable [g] sc.exprs with
      | .done vs ms => fin (vals vs ++ sPrint ms ++ sPrint [g]) ("END " ++ sFinal g)
      | .failed _ => "-"
      | .silent => "-"
    | .fnsub =>
      match sBody sc.portable [l, g] sc.exprs with
      | .done vs ms => fin (vals vs ++ sPrint ms ++ sPrint [l, g] ++ sPrint [g]) ("END " ++ sFinal g)
      | .failed _ => "-"
      | .silent => "-"
  | _, _, _ => "-"

def runS (opts globals kind locals exprs : String) : String :=
  match decCtx globals, decKind kind, decCtx locals, (exprs.splitOn ",").mapM decChars with
  | some g, some k, some l, some es =>
    if opts ≠ "-" ∧ ¬ opts.toList.all (fun c => c = 'u' ∨ c = 'p') then "bad-case\t-" else
    let sc : Scenario := { nounset := opts.contains 'u', portable := opts.contains 'p', globals := g, kind := k,
                           locals := l, exprs := es }
    showOutcome2 (runScenario allNames sc) ++ "\t" ++ specScenario sc
  | _, _, _, _ => "bad-case\t-"

/-- `W`/`V` lines: the Unicode tokenizer with the per-case set of non-ASCII alphanumerics.  The Spec's own
    lexer is ASCII C, so the Spec column speaks only when the harness sends the tree it rendered the text from:
    the driver checks that the code's parser model builds exactly the vector of that tree (the hypothesis of
    `checked_tree_gets_its_C_value_unicode`) and evaluates the tree with `Spec.evalExact`. -/
def runW (portable : Bool) (extraT envT textT : String) (treeWords : List String) : String :=
  match decChars extraT, decEnv envT, decChars textT with
  | some extra, some env, some text =>
    if extra.any (fun c => c.toNat < 128) then "bad-case\t-" else
    let cause := evalStrCauseU extra portable text env
    let after := envAfterU extra portable text env
    let model := showRun (if portable then evalStrPortableU extra text env else some (evalStrU extra text env)) cause after
    let spec :=
      if treeWords.isEmpty then "-"
      else match parsePolish (treeWords.length + 1) treeWords with
        | some (e, []) =>
          if (match parseU extra text with | .ok a => a != rpn e | .error _ => true) then
            "FAIL:parser-model-does-not-build-the-vector-of-the-tree-the-harness-rendered"
          else if portable ∧ Spec.hasIncDec e then specError .portability cause after
          else if !Spec.inScope e then "-"
          else match Spec.evalExact e env with
            | none => specEvalError e env cause after
            | some r =>
              if !(Spec.fails e env).isEmpty then "FAIL:spec-has-a-value-but-admits-a-cause" else "=" ++ showSpec (some r)
        | _ => "FAIL:bad-tree-in-case"
    model ++ "\t" ++ spec
  | _, _, _ => "bad-case\t-"

def runLine (line : String) : String :=
  match words line with
  | "E" :: envT :: textT :: tree => runE false envT textT tree
  | "P" :: envT :: textT :: tree => runE true envT textT tree
  | "W" :: extraT :: envT :: textT :: tree => runW false extraT envT textT tree
  | "V" :: extraT :: envT :: textT :: tree => runW true extraT envT textT tree
  | ["U", _] => "total\t-"
  | "Z" :: envT :: tree =>
    match decEnv envT, parsePolish (tree.length + 1) tree with
    | some env, some (e, []) =>
      if !Spec.inScope e then "bad-case\t-"
      else
        let o := showSpec (Spec.evalExact e env)
        o ++ "\t=" ++ o
    | _, _ => "bad-case\t-"
  | ["S", opts, globals, kind, locals, exprs] => runS opts globals kind locals exprs
  | _ => "bad-case\t-"

def main : IO Unit := mainLoop runLine
