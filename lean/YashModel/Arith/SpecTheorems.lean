/-
  C03 — the property theorems that stand on `Theorems.lean` and on the Spec column's own lexer, parser and cause lists: its
  lexer is the code's tokenizer, its parser reads every spelling back, and the per-case check of the driver ("the parser model
  builds `rpn` of the tree the Spec reads") makes the agreement of the two columns a theorem; also which failure is reported,
  which operators may touch, and `$x` inside `$(( ))`.
-/
import YashModel.Arith.Theorems
import YashModel.Arith.SpecParse
import YashModel.Arith.Fails
namespace YashModel.Arith
open YashModel.Generated.ArithTables

/-- ☆ the Spec column's own lexer (`Spec.lex`: Unicode `White_Space`, the LONGEST C punctuator that is a prefix,
    maximal words, C integer constants) and the code's tokenizer (`tokenize`: first entry of `OPERATORS` in
    source order, radix rules of `next_token`, `from_str_radix`) read EVERY text — well-formed or not, ASCII or
    not, with any fuel — as the same token sequence and stop at the same place; in particular "longest
    punctuator" and "first match in table order" choose the same lexeme for every text. -/
theorem spec_lexer_is_the_tokenizer (f : Nat) (s : List Char) :
    (Spec.lex f s).map tokOfSToken = tokenize f s ∧
    Spec.longestPunct s = (findOp s).map (·.1) :=
  ⟨lex_eq_tokenize f s, longestPunct_eq_findOp s⟩

example : Spec.lex 9 "a<<=0x1F+ +b".toList =
    [.ident ['a'], .punct ['<', '<', '='], .num 31, .punct ['+'], .punct ['+'], .ident ['b']] ∧
    tokenize 9 "a<<=0x1F+ +b".toList =
    [.term (.variable ['a']), .op .LessLessEqual, .term (.value 31), .op .Plus, .op .Plus, .term (.variable ['b'])] ∧
    Spec.lex 9 "1 2 08".toList = [.num 1, .num 2, .bad] := by decide +kernel

/-- ☆ what the driver's per-case check buys.  For every case in which the Spec reads a tree `e` from the text the
    driver checks that the code's parser model builds exactly `rpn e` (`FAIL:…` otherwise).  Given that
    (decidable, checked) fact, the agreement of the Model column with the Spec column is a theorem, for every
    environment: on a tree on which C defines a value (`inScope`, literals in i64) `eval_with_config` returns
    exactly the Spec's value and final variables, an evaluation error exactly when the Spec has none; and under
    `portable` it is rejected exactly when the tree holds `++`/`--`. -/
theorem checked_tree_gets_its_C_value (src : List Char) (e : Spec.Expr) (env : Env)
    (hp : parse src = .ok (rpn e)) (hs : Spec.inScope e = true) (hl : litsInRange e) :
    (match Spec.evalExact e env with
      | some (v, env') => evalStr src env = .value v env'
      | none => ∃ err, evalStr src env = .evalError err) ∧
    evalStrPortable src env = if Spec.hasIncDec e then none else some (evalStr src env) := by
  constructor
  · exact evalStr_of_parse src e env hp hs hl
  · unfold evalStrPortable evalStr
    rw [hp]
    simp only [portable_rejects_exactly_incdec]

/-- the hypotheses are met by a text that is not a rendering produced by `render` (blanks, a redundant pair of
    parentheses, a hexadecimal constant) -/
example : (parse " ( x = 0x10 ) * 2 ".toList).toOption =
      some (rpn (.bin .Multiply (.bin .Assign (.var ['x']) (.num 16)) (.num 2))) ∧
    Spec.inScope (.bin .Multiply (.bin .Assign (.var ['x']) (.num 16)) (.num 2)) = true ∧
    Spec.parseText " ( x = 0x10 ) * 2 ".toList = some (.bin .Multiply (.bin .Assign (.var ['x']) (.num 16)) (.num 2)) := by
  decide +kernel

/-- ☆ the same for texts with non-ASCII identifiers (`W`/`V` lines, where the tree comes from the harness because
    the Spec's lexer is ASCII C): whatever `char::is_alphanumeric` accepts (`extra` arbitrary), if the code's
    parser model builds the vector of the tree `e`, then `eval_with_config` returns exactly the Spec's value of
    `e` — identifiers such as `é`, `変数`, `٣` are variables like any other. -/
theorem checked_tree_gets_its_C_value_unicode (extra : List Char) (src : List Char) (e : Spec.Expr) (env : Env)
    (hp : parseU extra src = .ok (rpn e)) (hs : Spec.inScope e = true) (hl : litsInRange e) :
    (match Spec.evalExact e env with
      | some (v, env') => evalStrU extra src env = .value v env'
      | none => ∃ err, evalStrU extra src env = .evalError err) ∧
    evalStrPortableU extra src env = if Spec.hasIncDec e then none else some (evalStrU extra src env) := by
  constructor
  · unfold evalStrU
    rw [hp]
    exact ofRes_evalValue_rpn e env hs hl
  · unfold evalStrPortableU evalStrU
    rw [hp]
    simp only [portable_rejects_exactly_incdec]

example : (parseU ['é'] "é += 2".toList).toOption = some (rpn (.bin .AddAssign (.var ['é']) (.num 2))) ∧
    evalStrU ['é'] "é += 2".toList [(['é'], ['5'])] = .value 7 [(['é'], ['7'])] ∧
    Spec.evalExact (.bin .AddAssign (.var ['é']) (.num 2)) [(['é'], ['5'])] = some (7, [(['é'], ['7'])]) := by
  decide +kernel

/-- ☆ which of two failing operands is reported, and what is not evaluated at all — for ALL trees (in scope or
    not), operators and environments, on `eval` run on the parser's vector:
    (a) an error of the LEFT operand (or of the condition of `?:`) is the error of the whole expression: the
        right operand / the branches are never evaluated after it;
    (b) if the left operand returns, an error of the right operand of a non-lazy operator is reported (it is
        evaluated in the environment the left operand left behind) — before the left VALUE is read, so
        `j + 1/0` with an unreadable `j` is `DivisionByZero`;
    (c) `||` with a true, `&&` with a false left operand and `?:` return without evaluating the skipped operand:
        whatever it is (`1/0`, `x++`, `x = 5`), the result and the variables are those after the left operand /
        the selected branch. -/
theorem first_failure_is_reported (op : BinaryOperator) (l r c t e : Spec.Expr) (env env1 : Env) (err : EvalErr)
    (lt : Term) (a : Int) :
    (evalOf l env = .error err → evalOf (.bin op l r) env = .error err) ∧
    (evalOf c env = .error err → evalOf (.cond c t e) env = .error err) ∧
    (evalOf l env = .ok (lt, env1) → op ≠ .LogicalOr → op ≠ .LogicalAnd → evalOf r env1 = .error err →
      evalOf (.bin op l r) env = .error err) ∧
    (evalOf l env = .ok (lt, env1) → intoValue lt env1 = .ok a → a ≠ 0 →
      evalOf (.bin .LogicalOr l r) env = .ok (.value 1, env1)) ∧
    (evalOf l env = .ok (lt, env1) → intoValue lt env1 = .ok 0 →
      evalOf (.bin .LogicalAnd l r) env = .ok (.value 0, env1)) ∧
    (evalOf c env = .ok (lt, env1) → intoValue lt env1 = .ok a →
      evalOf (.cond c t e) env = if a ≠ 0 then evalOf t env1 else evalOf e env1) := by
  simp only [evalOf, (eval_rpn _ _).2]
  refine ⟨?_, ?_, ?_, ?_, ?_, ?_⟩
  · intro h
    by_cases h1 : op = .LogicalOr
    · simp [evalTree, h1, h, Res.bind]
    · by_cases h2 : op = .LogicalAnd
      · simp [evalTree, h2, h, Res.bind]
      · simp [evalTree, h1, h2, h, Res.bind]
  · intro h; simp [evalTree, h, Res.bind]
  · intro h h1 h2 hr; simp [evalTree, h1, h2, h, hr, Res.bind]
  · intro h hv ha; simp [evalTree, h, hv, ha, Res.bind]
  · intro h hv; simp [evalTree, h, hv, Res.bind]
  · intro h hv; simp [evalTree, h, hv, Res.bind]

example :
    evalStr "0 && (1/0)".toList [] = .value 0 [] ∧
    evalStr "1 || x++".toList [(['x'], ['4'])] = .value 1 [(['x'], ['4'])] ∧
    evalStr "1 ? 2 : (x = 1/0)".toList [] = .value 2 [] ∧
    evalStr "(1/0) + j".toList [(['j'], "junk".toList)] = .evalError .divisionByZero ∧
    evalStr "j + (1/0)".toList [(['j'], "junk".toList)] = .evalError .divisionByZero ∧
    evalStr "(j+0) + (1/0)".toList [(['j'], "junk".toList)] = .evalError .invalidVariableValue := by
  decide +kernel

/-- ☆ the read-back theorem for the Spec column's own lexer and parser (`Spec.parseText`: maximal-munch lexer,
    recursive descent by the C grammar levels assignment / conditional / 10 binary levels / unary / postfix /
    primary).  For EVERY tree `e` — constants, variables, the 6 prefix and 2 postfix operators, all 29 binary
    operators incl. the right-associative assignments, `?:`, any nesting — and every text `s` that the tokenizer
    reads as the tokens of `e` with the needed and ANY number of redundant parentheses (`renderTop d e`;
    `tokenize_every_spelling` shows that every spelling — any Unicode white space, hex/octal constants — is such
    a text), the Spec reads `s` as exactly the tree `e`.  Together with `parse_render_redundant` (the code's
    parser model builds `rpn e` from the same tokens) and `model_computes_C_value`, the agreement of the Spec
    column with the Model column on every spelling of every in-scope tree is unconditional: the driver's
    per-case check `parse text = rpn (tree the Spec reads)` is a theorem on these texts. -/
theorem spec_reads_every_spelling (d : Deco) (e : Spec.Expr) (s : List Char)
    (htok : tokenize (s.length + 1) s = renderTop d e) :
    Spec.parseText s = some e ∧ parse s = .ok (rpn e) := by
  have hlex : Spec.lex (s.length + 1) s = S (renderTop d e) :=
    S_of_map _ _ (by rw [lex_eq_tokenize, htok]) (renderTop_noerr d e)
  refine ⟨?_, parse_of_tokens d e s htok⟩
  unfold Spec.parseText
  simp only [hlex]
  rw [pAssign_renderTop d e _ (by simp [S]; omega)]

example :
    tokenize 40 "x = a- -b ? y |= 3 : c++*((1+2))".toList =
      renderTop (fun x => if x = .bin .Add (.num 1) (.num 2) then 1 else 0)
        (.bin .Assign (.var ['x'])
          (.cond (.bin .Subtract (.var ['a']) (.pre .NumericNegation (.var ['b'])))
            (.bin .BitwiseOrAssign (.var ['y']) (.num 3))
            (.bin .Multiply (.post .Increment (.var ['c'])) (.bin .Add (.num 1) (.num 2))))) := by
  decide +kernel

/-- ☆ exactly which operator may be followed directly by which character: the tokenizer reads the lexeme of `o`
    followed by the character `c` (and anything after it) as the operator `o` and continues at `c` IF AND ONLY IF
    no lexeme of `OPERATORS` continues `o`'s lexeme with `c` (`opGlue`, computed from the generated table).  So
    `a<-b`, `x=-1`, `a*-b`, `1?-2:+3`, `a++ +b` written `a+++b` need no separator, and `a- -b`, `a+ ++b`,
    `a< <b`, `x= =1`, `a& &b` need one; `glueSafe` (the licence of `tokenize_every_spelling` and of
    `text_gets_its_C_value_all_spellings` to omit white space) is this condition, so it is necessary and
    sufficient between two operators. -/
theorem operators_touch_exactly_when_opGlue (o : Operator) (c : Char) (rest : List Char) :
    nextToken (lexemeOf o ++ c :: rest) = some (.op o, c :: rest) ↔ opGlue (lexemeOf o) c = false := by
  constructor
  · intro h
    cases hg : opGlue (lexemeOf o) c with
    | false => rfl
    | true =>
      exfalso
      unfold opGlue at hg
      rw [List.any_eq_true] at hg
      obtain ⟨q, hq, hpre⟩ := hg
      have hpre' : lexemeOf o ++ [c] <+: q.1 := List.isPrefixOf_iff_prefix.mp hpre
      obtain ⟨hq3, hqt⟩ := table_prefix_closed q hq
      have hplen : (lexemeOf o ++ [c]).length ≤ q.1.length := hpre'.length_le
      have hin : lexemeOf o ++ [c] ∈ operators.map (·.1) := by
        rw [List.prefix_iff_eq_take.mp hpre']
        apply hqt
        simp only [List.length_append, List.length_cons, List.length_nil] at hplen ⊢
        simp only [List.mem_cons, List.not_mem_nil, or_false]
        omega
      rw [List.mem_map] at hin
      obtain ⟨q', hq', hq'l⟩ := hin
      have hq's : q'.1 <+: lexemeOf o ++ c :: rest := by rw [hq'l]; exact ⟨rest, by simp⟩
      obtain ⟨c0, u0, hl0, _, hws⟩ := lexemeOf_cons o
      cases hf : findOp (lexemeOf o ++ c :: rest) with
      | none => exact List.find?_eq_none.mp hf q' hq' (List.isPrefixOf_iff_prefix.mpr hq's)
      | some r =>
        obtain ⟨lex', o'⟩ := r
        obtain ⟨_, _, hmax⟩ := longest_match _ _ _ hf
        have hlen := hmax q' hq' hq's
        rw [hq'l] at hlen
        rw [hl0, List.cons_append] at hf h
        rw [nextToken_of_findOp c0 _ _ _ hws hf] at h
        injection h with h
        injection h with _ h
        have := congrArg List.length h
        rw [hl0] at hlen
        simp only [List.length_drop, List.length_cons, List.length_append, List.length_nil] at this hlen
        omega
  · intro hg
    exact nextToken_op_general o (c :: rest) (Common.StopsAt.cons hg _)

example : opGlue (lexemeOf .Less) '-' = false ∧ opGlue (lexemeOf .Equal) '-' = false ∧
    opGlue (lexemeOf .Minus) '-' = true ∧ opGlue (lexemeOf .Plus) '+' = true ∧ opGlue (lexemeOf .Less) '<' = true ∧
    opGlue (lexemeOf .Equal) '=' = true ∧ opGlue (lexemeOf .PlusPlus) '+' = false ∧
    glueSafe (.op .Less) (.op .Minus) ∧ ¬ glueSafe (.op .Minus) (.op .Minus) ∧ ¬ glueSafe (.op .Plus) (.op .PlusPlus) ∧
    tokenize 9 "a<-b".toList = [.term (.variable ['a']), .op .Less, .op .Minus, .term (.variable ['b'])] ∧
    tokenize 9 "a+++b".toList = [.term (.variable ['a']), .op .PlusPlus, .op .Plus, .term (.variable ['b'])] := by
  refine ⟨by decide +kernel, by decide +kernel, by decide +kernel, by decide +kernel, by decide +kernel,
    by decide +kernel, by decide +kernel, ?_, ?_, ?_, by decide +kernel, by decide +kernel⟩
  · exact Or.inr (Or.inr (fun c hc => by simp [lexemeOf, operators] at hc; subst hc; decide))
  · intro h; rcases h with h | h | h
    · exact absurd h (by decide)
    · exact absurd h (by decide)
    · exact absurd (h '-' (by decide)) (by decide)
  · intro h; rcases h with h | h | h
    · exact absurd h (by decide)
    · exact absurd h (by decide)
    · exact absurd (h '+' (by decide)) (by decide)

/-- ☆ POSIX 2.6.4: the expression is treated as if in double quotes, i.e. `$x` is replaced by the VALUE TEXT of `x`
    before the arithmetic is parsed.  When that text is a single constant token (`Spells v (value n)`: term
    characters, first one a digit, a C constant with value `n`) and what follows cannot extend it, substitution
    commutes with tokenizing: `substText` puts `v` in front of the substituted rest, the tokenizer reads `v…` as
    the ONE token `n` exactly where it reads `x…` as the one token `x`, and that variable token has the value `n`
    — so `$(( $x … ))` and `$(( x … ))` agree.  When the value is not a single token they do not (next example). -/
theorem substitution_commutes_with_tokenizing (f : Nat) (st st2 : Store) (status s2 : Nat) (c : Char)
    (cs after after' v t : List Char) (n : Int) (env : Env)
    (hname : ∀ ch ∈ c :: cs, isTermChar ch = true) (hdig : isAsciiDigit c = false)
    (hafter : ∀ ch, after.head? = some ch → isTermChar ch = false)
    (hafter' : ∀ ch, after'.head? = some ch → isTermChar ch = false)
    (hv : textOf st (c :: cs) = some v) (hsp : Spells v (.term (.value n)))
    (hrest : substText f st status after = .ok (t, st2, s2))
    (ht : ∀ ch, t.head? = some ch → isTermChar ch = false) (henv : env.get (c :: cs) = some v) :
    substText (f + 1) st status ('$' :: ((c :: cs) ++ after)) = .ok (v ++ t, st2, s2) ∧
    nextToken (v ++ t) = some (.term (.value n), t) ∧
    nextToken ((c :: cs) ++ after') = some (.term (.variable (c :: cs)), after') ∧
    intoValue (.variable (c :: cs)) env = .ok n := by
  have hterm : ∀ (r : List Char), (∀ ch, r.head? = some ch → isTermChar ch = false) →
      ∀ tm, Terminates (.term tm) r := fun _ hr _ => hr
  refine ⟨?_, (nextToken_spells v t _ hsp (hterm t ht _)).1, ?_, ?_⟩
  · rw [substText_dollar f st status c cs after v hname hafter hv, hrest]; rfl
  · exact (nextToken_spells (c :: cs) after' (.term (.variable (c :: cs)))
      ⟨rfl, by simp, hname, fun a ha => by simp at ha; subst ha; exact hdig⟩ (hterm after' hafter' _)).1
  · simp only [Spells] at hsp
    exact var_constant_agrees (c :: cs) v n env hsp.1 (by rw [parseConstant_eq_spec v hsp.1]; exact hsp.2.2) henv

/-- the value `1+2` is NOT a single token: `$(( $x * 3 ))` is the text `1+2 * 3` (five tokens, value 7), neither the
    value of `(1+2) * 3` nor what `$(( x * 3 ))` gives — reading `x` by name rejects the value (no recursive
    evaluation of variable values) -/
example :
    tokenize 9 "1+2 * 3".toList = [.term (.value 1), .op .Plus, .term (.value 2), .op .Asterisk, .term (.value 3)] ∧
    evalStr "1+2 * 3".toList [(['x'], "1+2".toList)] = .value 7 [(['x'], "1+2".toList)] ∧
    evalStr "(1+2) * 3".toList [] = .value 9 [] ∧
    evalStr "x * 3".toList [(['x'], "1+2".toList)] = .evalError .invalidVariableValue ∧
    evalStr "x * 3".toList [(['x'], ['3'])] = .value 9 [(['x'], ['3'])] := by
  decide +kernel

/-- one failing operation: one admissible cause; two failing operands of `+`: both admissible (C does not say which
    is evaluated first; the code reports the subtree that fails first, reading bare variables last); the skipped
    operand of `&&` is not a cause -/
example :
    Spec.fails (.bin .Divide (.num 1) (.num 0)) [] = [.reason .divisionByZero] ∧
    Spec.fails (.bin .ShiftLeft (.pre .NumericNegation (.num 1)) (.pre .NumericNegation (.num 1))) [] =
      [.reason .leftShiftOfNegative] ∧
    Spec.fails (.bin .Add (.var ['j']) (.bin .Divide (.num 1) (.num 0))) [(['j'], "junk".toList)] =
      [.value, .reason .divisionByZero] ∧
    evalStr "j + 1/0".toList [(['j'], "junk".toList)] = .evalError .divisionByZero ∧
    evalStr "(j+0) + 1/0".toList [(['j'], "junk".toList)] = .evalError .invalidVariableValue ∧
    Spec.fails (.bin .LogicalAnd (.num 0) (.bin .Divide (.num 1) (.num 0))) [] = [] ∧
    Spec.fails (.post .Increment (.num 3)) [] = [.notLvalue] := by
  decide +kernel

end YashModel.Arith
