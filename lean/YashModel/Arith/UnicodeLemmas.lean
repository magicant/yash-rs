/-
  C03 — the tokenizer with non-ASCII alphanumerics (`Unicode.lean`).  The ASCII model is its case `extra = []`, so what is
  proved here for every `extra` (totality, the kind of a token error) holds of `Model.lean` as an instance.
-/
import YashModel.Common.Fuel
import YashModel.Common.Lists
import YashModel.Arith.Operators
import YashModel.Arith.TreeLemmas
import YashModel.Arith.Unicode
namespace YashModel.Arith
open YashModel.Generated.ArithTables

theorem isTermCharU_nil : isTermCharU [] = isTermChar := by
  funext c; simp [isTermCharU]

theorem nextTokenU_nil (src : List Char) : nextTokenU [] src = nextToken src := by
  unfold nextTokenU nextToken; rw [isTermCharU_nil]; rfl

theorem tokenizeU_nil (f : Nat) (src : List Char) : tokenizeU [] f src = tokenize f src := by
  induction f generalizing src with
  | zero => rfl
  | succ f ih =>
    rw [tokenizeU, tokenize, nextTokenU_nil]
    cases nextToken src with
    | none => rfl
    | some p =>
      obtain ⟨t, rest⟩ := p
      cases t <;> simp [ih]

theorem parseU_nil (src : List Char) : parseU [] src = parse src := by
  unfold parseU parse; rw [tokenizeU_nil]

theorem evalStrU_nil (src : List Char) (env : Env) : evalStrU [] src env = evalStr src env := by
  unfold evalStrU evalStr; rw [parseU_nil]; rfl

theorem evalStrPortableU_nil (src : List Char) (env : Env) :
    evalStrPortableU [] src env = evalStrPortable src env := by
  unfold evalStrPortableU evalStrPortable; rw [parseU_nil]; rfl

/-- how `next_token` answers a token, after the white space: an operator (the first entry of `OPERATORS` that matches); or,
    no operator matching, its error at a character that starts no term, and at a word its error (a digit first, and no
    constant) or a term with the rest of the text after the word -/
theorem nextTokenU_cases {extra src rest : List Char} {t : Tok} (h : nextTokenU extra src = some (t, rest)) :
    ∃ c s, src.dropWhile isWhitespace = c :: s ∧
      ((∃ lex o, findOp (c :: s) = some (lex, o) ∧ t = .op o ∧ rest = (c :: s).drop lex.length) ∨
       (findOp (c :: s) = none ∧
         ((isTermCharU extra c = false ∧ t = .err ∧ rest = c :: s) ∨
          (isTermCharU extra c = true ∧
            ((isAsciiDigit c = true ∧ parseConstant ((c :: s).takeWhile (isTermCharU extra)) = none ∧ t = .err ∧
                rest = c :: s) ∨
             (rest = s.dropWhile (isTermCharU extra) ∧ ∃ tm, t = .term tm)))))) := by
  unfold nextTokenU at h
  cases hs : src.dropWhile isWhitespace with
  | nil => simp [hs] at h
  | cons c s =>
    refine ⟨c, s, rfl, ?_⟩
    simp only [hs, List.head?_cons] at h
    cases hop : findOp (c :: s) with
    | some p =>
      obtain ⟨lex, o⟩ := p
      simp only [hop, Option.some.injEq, Prod.mk.injEq] at h
      exact Or.inl ⟨lex, o, rfl, h.1.symm, h.2.symm⟩
    | none =>
      refine Or.inr ⟨rfl, ?_⟩
      simp only [hop] at h
      cases hc : isTermCharU extra c with
      | false =>
        simp only [List.takeWhile, hc, List.isEmpty_nil, if_true, Option.some.injEq, Prod.mk.injEq] at h
        exact Or.inl ⟨rfl, h.1.symm, h.2.symm⟩
      | true =>
        refine Or.inr ⟨rfl, ?_⟩
        simp only [List.takeWhile, List.dropWhile, hc, List.isEmpty_cons, Bool.false_eq_true, if_false] at h ⊢
        by_cases hd : isAsciiDigit c = true
        · simp only [hd, if_true] at h
          cases hpc : parseConstant (c :: s.takeWhile (isTermCharU extra)) with
          | none =>
            simp only [hpc, Option.some.injEq, Prod.mk.injEq] at h
            exact Or.inl ⟨hd, rfl, h.1.symm, h.2.symm⟩
          | some i =>
            simp only [hpc, Option.some.injEq, Prod.mk.injEq] at h
            exact Or.inr ⟨h.2.symm, _, h.1.symm⟩
        · simp only [hd, Bool.false_eq_true, if_false, Option.some.injEq, Prod.mk.injEq] at h
          exact Or.inr ⟨h.2.symm, _, h.1.symm⟩

theorem nextTokenU_consumes (extra : List Char) (src rest : List Char) (t : Tok)
    (h : nextTokenU extra src = some (t, rest)) (ht : t ≠ .err) : rest.length < src.length := by
  have hdw := Common.length_dropWhile_le isWhitespace src
  obtain ⟨c, s, hs, hcase⟩ := nextTokenU_cases h
  rw [hs, List.length_cons] at hdw
  rcases hcase with ⟨lex, o, hop, _, rfl⟩ | ⟨_, ⟨_, rfl, _⟩ | ⟨_, ⟨_, _, rfl, _⟩ | ⟨rfl, _⟩⟩⟩
  · have := List.length_pos_iff.mpr (findOp_ne_nil _ lex o hop)
    rw [List.length_drop, List.length_cons]; omega
  · exact absurd rfl ht
  · exact absurd rfl ht
  · have := Common.length_dropWhile_le (isTermCharU extra) s; omega

theorem tokenizeU_fuel_irrelevant (extra : List Char) (f : Nat) : ∀ (g : Nat) (src : List Char),
    src.length < f → src.length < g → tokenizeU extra f src = tokenizeU extra g src :=
  fun g src hf hg =>
  Common.fuel_stable (tokenizeU extra) List.length (fun n m src ih => by
    rw [tokenizeU, tokenizeU]
    cases hnt : nextTokenU extra src with
    | none => rfl
    | some p =>
      obtain ⟨t, rest⟩ := p
      cases t with
      | err => rfl
      | term x => simp only; rw [ih rest (nextTokenU_consumes extra src rest _ hnt (by simp))]
      | op o => simp only; rw [ih rest (nextTokenU_consumes extra src rest _ hnt (by simp))])
    src.length src f g (Nat.le_refl _) hf hg

theorem tokenize_fuel_irrelevant (f g : Nat) (src : List Char) (hf : src.length < f) (hg : src.length < g) :
    tokenize f src = tokenize g src := by
  rw [← tokenizeU_nil, ← tokenizeU_nil]
  exact tokenizeU_fuel_irrelevant [] f g src hf hg

theorem err_mem_tokenizeU (extra : List Char) (f : Nat) : ∀ (src : List Char), src.length < f →
    (Tok.err ∈ tokenizeU extra f src ↔ (firstTokenErrU extra f src).isSome) := by
  induction f with
  | zero => intro src h; omega
  | succ f ih =>
    intro src hf
    rw [tokenizeU, firstTokenErrU]
    cases hnt : nextTokenU extra src with
    | none => simp
    | some p =>
      obtain ⟨t, rest⟩ := p
      cases t with
      | err => simp
      | term x =>
        have hc := nextTokenU_consumes extra src rest _ hnt (by simp)
        simp only [List.mem_cons, reduceCtorEq, false_or]
        exact ih rest (by omega)
      | op o =>
        have hc := nextTokenU_consumes extra src rest _ hnt (by simp)
        simp only [List.mem_cons, reduceCtorEq, false_or]
        exact ih rest (by omega)

/-- ☆ "no expression text, however malformed, makes the shell panic" for texts with non-ASCII identifiers:
    whatever set of characters `char::is_alphanumeric` accepts (`extra` is arbitrary), the evaluation returns a
    value or an error — no failed `expect`, no slice out of range, and none of the model's fuels runs out (the
    tokenizer's fuel is irrelevant above the text length). -/
theorem evalStrU_never_panics (extra : List Char) (src : List Char) (env : Env) :
    evalStrU extra src env ≠ .panic ∧ evalStrU extra src env ≠ .fuel ∧
    evalStrU extra src env ≠ .syntaxError .fuel ∧
    (∀ g, src.length < g → tokenizeU extra (src.length + 1) src = tokenizeU extra g src) := by
  have hnf : parseU extra src ≠ .error .fuel := by
    unfold parseU; exact parseToks_no_fuel _ _ (Nat.le_refl _)
  -- the three answers there are: a syntax error other than the model's fuel, a value, an evaluation error
  have shape : (∃ e, e ≠ SynErr.fuel ∧ evalStrU extra src env = .syntaxError e) ∨
      (∃ v env', evalStrU extra src env = .value v env') ∨ ∃ e, evalStrU extra src env = .evalError e := by
    unfold evalStrU
    cases hparse : parseU extra src with
    | error e => exact Or.inl ⟨e, fun he => hnf (he ▸ hparse), rfl⟩
    | ok ast =>
      have hwf : WF ast := parse_wellformed _ _ ast hparse
      have hr : (evalValue ast env).Returns :=
        Res.bind_returns _ _ (eval_returns_of_wf hwf ast.length env (Nat.le_refl _)) fun _ _ =>
          Res.bind_returns _ _ (intoValue_returns _ _) fun _ _ => trivial
      rcases hr.cases with ⟨⟨v, env'⟩, h⟩ | ⟨e, h⟩
      · exact Or.inr (Or.inl ⟨v, env', by simp only [h]; rfl⟩)
      · exact Or.inr (Or.inr ⟨e, by simp only [h]; rfl⟩)
  refine ⟨?_, ?_, ?_, fun g hg => tokenizeU_fuel_irrelevant extra _ g src (Nat.lt_succ_self _) hg⟩
  · rcases shape with ⟨_, _, h⟩ | ⟨_, _, h⟩ | ⟨_, h⟩ <;> rw [h] <;> exact fun x => Outcome.noConfusion x
  · rcases shape with ⟨_, _, h⟩ | ⟨_, _, h⟩ | ⟨_, h⟩ <;> rw [h] <;> exact fun x => Outcome.noConfusion x
  · rcases shape with ⟨e, he, h⟩ | ⟨_, _, h⟩ | ⟨_, h⟩ <;> rw [h]
    · exact fun x => he (Outcome.syntaxError.inj x)
    · exact fun x => Outcome.noConfusion x
    · exact fun x => Outcome.noConfusion x

/-- ☆ `SyntaxError::TokenError` always carries a kind, and the kind says what is wrong at the place where the
    tokenizer stopped: the parser answers `TokenError` only if the token sequence holds the tokenizer's error
    (then `firstTokenErrU` names it — the `none` arm of `outcomeCause` is dead); and an error token means:
    after the white space the text starts with a character that begins neither an operator nor a term
    (`InvalidCharacter`), or with an ASCII digit whose maximal term is not a C constant
    (`InvalidNumericConstant`). -/
theorem token_error_has_a_kind (extra : List Char) (src : List Char) :
    (parseU extra src = .error .tokenError → ∃ k, firstTokenErrU extra (src.length + 1) src = some k) ∧
    (∀ rest, nextTokenU extra src = some (.err, rest) →
      rest = src.dropWhile isWhitespace ∧ findOp rest = none ∧ ∃ c, rest.head? = some c ∧
        ((nextTokenErrU extra src = .invalidCharacter ∧ isTermCharU extra c = false) ∨
         (nextTokenErrU extra src = .invalidNumericConstant ∧ isAsciiDigit c = true ∧
            parseConstant (rest.takeWhile (isTermCharU extra)) = none))) := by
  constructor
  · intro h
    unfold parseU at h
    have hmem := parseToks_tokerr _ _ h
    have := (err_mem_tokenizeU extra (src.length + 1) src (Nat.lt_succ_self _)).mp hmem
    exact Option.isSome_iff_exists.mp this
  · intro rest h
    obtain ⟨c, s, hs, hcase⟩ := nextTokenU_cases h
    unfold nextTokenErrU
    rw [hs]
    rcases hcase with ⟨_, _, _, ht, _⟩ | ⟨hop, ⟨hc, _, rfl⟩ | ⟨hc, ⟨hd, hpc, _, rfl⟩ | ⟨_, tm, ht⟩⟩⟩
    · cases ht
    · exact ⟨rfl, hop, c, rfl, Or.inl ⟨by simp [List.takeWhile, hc], hc⟩⟩
    · exact ⟨rfl, hop, c, rfl, Or.inr ⟨by simp [List.takeWhile, hc], hd, hpc⟩⟩
    · cases ht

theorem evalStrPortableU_some (extra : List Char) (src : List Char) (env : Env) (o : Outcome)
    (h : evalStrPortableU extra src env = some o) : o = evalStrU extra src env := by
  unfold evalStrPortableU at h
  unfold evalStrU
  cases hp : parseU extra src with
  | error e => rw [hp] at h; simp only [Option.some.injEq] at h; exact h.symm
  | ok ast =>
    rw [hp] at h
    simp only at h
    split at h
    · simp at h
    · simp only [Option.some.injEq] at h; exact h.symm

theorem outcomeCause_evalStrU (extra : List Char) (src : List Char) (env : Env) :
    (outcomeCause extra src (evalStrU extra src env) = none ↔ ∃ v env', evalStrU extra src env = .value v env') ∧
    outcomeCause extra src (evalStrU extra src env) ≠ some .portability ∧
    outcomeCause extra src (evalStrU extra src env) ≠ some (.syntax .tokenError) ∧
    outcomeCause extra src (evalStrU extra src env) ≠ some (.syntax .fuel) := by
  obtain ⟨hp, hf, hsf, _⟩ := evalStrU_never_panics extra src env
  have hk := (token_error_has_a_kind extra src).1
  cases ho : evalStrU extra src env with
  | value v e => simp [outcomeCause]
  | panic => exact absurd ho hp
  | fuel => exact absurd ho hf
  | evalError e => simp [outcomeCause]
  | syntaxError e =>
    have hpe : parseU extra src = .error e := by
      unfold evalStrU at ho
      cases hq : parseU extra src with
      | error e' => rw [hq] at ho; simp only [Outcome.syntaxError.injEq] at ho; rw [ho]
      | ok ast => rw [hq] at ho; simp only at ho; cases hv : evalValue ast env <;> simp [hv, Outcome.ofRes] at ho
    cases e with
    | tokenError =>
      obtain ⟨k, hk⟩ := hk hpe
      simp [outcomeCause, hk]
    | fuel => exact absurd ho hsf
    | incompleteExpression => simp [outcomeCause]
    | missingOperator => simp [outcomeCause]
    | unclosedParenthesis => simp [outcomeCause]
    | questionWithoutColon => simp [outcomeCause]
    | colonWithoutQuestion => simp [outcomeCause]
    | invalidOperator => simp [outcomeCause]

end YashModel.Arith
