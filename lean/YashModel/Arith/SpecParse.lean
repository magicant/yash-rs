/-
  C03 — the Spec column's PARSER (`Spec.pAssign` …: recursive descent by C grammar levels) reads the tokens of a
  rendered tree back as that tree: `specReader` satisfies the rules of `Reader` (`ReadBack.lean`), with derivations of `SP`
  (`SpecGrammar.lean`) built forwards; the fuel of `Spec.parseText` enters only in `pAssign_renderTop`, through
  `SP.run_assign`.  `TreeOf` (the binary levels), `CondOf`, `AssignOf` are the three kinds of level of the grammar, `STree`
  their conjunction; `Lift` carries an operand up through the operator loops.
-/
import YashModel.Arith.SpecLex
import YashModel.Arith.SpecGrammar
import YashModel.Arith.ReadBack
namespace YashModel.Arith
open YashModel.Generated.ArithTables

/-- a token of the code's tokenizer as a token of the Spec's lexer (inverse of `tokOfSToken`) -/
def stok : Tok → Spec.SToken
  | .term (.value v) => .num v
  | .term (.variable x) => .ident x
  | .op o => .punct (lexemeOf o)
  | .err => .bad

abbrev S (ts : List Tok) : List Spec.SToken := ts.map stok

theorem binaryOfLexeme_lexemeOf (o : Operator) :
    Spec.binaryOfLexeme (lexemeOf o) = o.as_binary.map (fun p => (p.1, o.precedence, p.2)) := by
  have table : ∀ p ∈ operators,
      Spec.binaryOfLexeme p.1 = p.2.as_binary.map (fun q => (q.1, p.2.precedence, q.2)) := by decide +kernel
  exact table _ (lexemeOf_mem o)

theorem prefixOfLexeme_lexemeOf (o : Operator) : Spec.prefixOfLexeme (lexemeOf o) = o.as_prefix :=
  (lexemes_are_C.1 _ (lexemeOf_mem o)).2.1.symm

theorem postfixOfLexeme_lexemeOf (o : Operator) : Spec.postfixOfLexeme (lexemeOf o) = o.as_postfix :=
  (lexemes_are_C.1 _ (lexemeOf_mem o)).2.2.1.symm

theorem lexemeOf_open : lexemeOf .OpenParen = ['('] := by decide
theorem lexemeOf_close : lexemeOf .CloseParen = [')'] := by decide
theorem lexemeOf_question : lexemeOf .Question = ['?'] := by decide
theorem lexemeOf_colon : lexemeOf .Colon = [':'] := by decide

theorem binaryAtLevel_lex (n : Nat) (o : Operator) :
    Spec.binaryAtLevel n (lexemeOf o) =
      match o.as_binary with
      | some (b, _) => if o.precedence = n ∧ o.precedence ≠ 1 then some b else none
      | none => none := by
  unfold Spec.binaryAtLevel
  rw [binaryOfLexeme_lexemeOf o]
  cases o.as_binary with
  | none => rfl
  | some p => rfl

theorem postfixes_noPostfix (e : Spec.Expr) (rest : List Tok) (h : NoPostfix rest) :
    Spec.postfixes e (S rest) = (e, S rest) := by
  cases rest with
  | nil => simp [Spec.postfixes]
  | cons t ts =>
    cases t with
    | term x => cases x <;> simp [stok, Spec.postfixes]
    | err => simp [stok, Spec.postfixes]
    | op o =>
      simp only [NoPostfix] at h
      simp [stok, Spec.postfixes, postfixOfLexeme_lexemeOf o, h]

theorem S_punct {rest : List Tok} {p : List Char} {r : List Spec.SToken} (h : S rest = .punct p :: r) :
    ∃ o ts, rest = .op o :: ts ∧ p = lexemeOf o := by
  cases rest with
  | nil => cases h
  | cons t ts =>
    cases t with
    | op o =>
      simp only [S, List.map_cons, stok, List.cons.injEq, Spec.SToken.punct.injEq] at h
      exact ⟨o, ts, rfl, h.1.symm⟩
    | term x => cases x <;> simp [S, stok] at h
    | err => simp [S, stok] at h

theorem lexemeOf_operators : ∀ q ∈ operators, lexemeOf q.2 = q.1 := by decide +kernel

theorem stok_of_tok (x : Spec.SToken) (t : Tok) (h : tokOfSToken x = t) (ht : t ≠ .err) : x = stok t := by
  cases x with
  | num v => subst h; rfl
  | ident n => subst h; rfl
  | bad => subst h; exact absurd rfl ht
  | punct p =>
    unfold tokOfSToken opOfLexeme at h
    cases hf : operators.find? (fun q => q.1 = p) with
    | none => simp [hf] at h; exact absurd h.symm ht
    | some q =>
      simp only [hf, Option.map_some] at h
      subst h
      have hm := List.mem_of_find?_eq_some hf
      have hp : q.1 = p := by simpa using List.find?_some hf
      simp only [stok, lexemeOf_operators q hm, hp]

theorem S_of_map (xs : List Spec.SToken) : ∀ (ts : List Tok), xs.map tokOfSToken = ts → (∀ t ∈ ts, t ≠ Tok.err) →
    xs = S ts := by
  induction xs with
  | nil => intro ts h _; simp at h; subst h; rfl
  | cons x xs ih =>
    intro ts h hne
    cases ts with
    | nil => simp at h
    | cons t ts =>
      simp only [List.map_cons, List.cons.injEq] at h
      simp only [S, List.map_cons]
      rw [stok_of_tok x t h.1 (hne t (by simp)), ih ts h.2 (fun t' ht' => hne t' (by simp [ht']))]

theorem renderTop_noerr (d : Deco) (e : Spec.Expr) : ∀ t ∈ renderTop d e, t ≠ Tok.err := by
  intro t ht
  rcases (mem_parenN ht).elim Or.inl (mem_renderD d e t) with ⟨o, rfl⟩ | ⟨tm, _, rfl⟩ <;> simp

theorem lift_pass (j : Nat) : ∀ (n : Nat) (l : Spec.Expr) (rest : List Tok), Stops n rest →
    Lift n j (l, S rest) (l, S rest) := by
  induction j with
  | zero => intro n l rest _; exact .zero _ _
  | succ j ih =>
    intro n l rest hs
    refine .succ (ih (n + 1) l rest (stops_mono hs (by omega))) (.restStop fun p r he => ?_)
    obtain ⟨o, ts, rfl, rfl⟩ := S_punct he
    simp only [Stops] at hs
    rw [binaryAtLevel_lex]
    cases hb : o.as_binary with
    | none => rfl
    | some q =>
      have : ¬ (o.precedence = n ∧ o.precedence ≠ 1) := by omega
      simp [this]

/-- tokens that every binary level `3 ≤ n ≤ lv` reads as `e` when the token that follows ends the operand (`Stops sl`), up to
    the operator loops of the levels from `lv` down to `n`: `min lv 12 + 1 - n` of them, since `lv` is 13 to 15 for a unary
    operand and the highest level with a loop is 12 -/
def TreeOf (ts : List Tok) (e : Spec.Expr) (lv sl : Nat) : Prop :=
  ∀ (n : Nat) (rest : List Tok) (R : Spec.Expr × List Spec.SToken),
    3 ≤ n → n ≤ 13 → n ≤ lv → NoPostfix rest → Stops sl rest →
    Lift n (min lv 12 + 1 - n) (e, S rest) R → SP (.bin n (S (ts ++ rest))) R

theorem treeOf_of_unary (ts : List Tok) (e : Spec.Expr) (lv sl : Nat) (h13 : 13 ≤ lv)
    (h : ∀ (rest : List Tok), NoPostfix rest → SP (.unary (S (ts ++ rest))) (Spec.postfixes e (S rest))) :
    TreeOf ts e lv sl := by
  intro n rest R h3 hn13 _ hnp _ hR
  have e2 : min lv 12 + 1 - n = 13 - n := by omega
  rw [e2] at hR
  refine bin_lift (j := 13 - n) (by omega) ?_ hR
  have e1 : n + (13 - n) = 13 := by omega
  rw [e1]
  have := h rest hnp
  rw [postfixes_noPostfix e rest hnp] at this
  exact .binUnary (Nat.le_refl _) this

theorem treeOf_at (ts : List Tok) (e : Spec.Expr) (lv sl : Nat) (hT : TreeOf ts e lv sl) (n : Nat)
    (rest : List Tok) (h3 : 3 ≤ n) (h13 : n ≤ 13) (hlv : n ≤ lv) (hnp : NoPostfix rest) (hs1 : Stops sl rest)
    (hs2 : Stops n rest) : SP (.bin n (S (ts ++ rest))) (e, S rest) :=
  hT n rest _ h3 h13 hlv hnp hs1 (lift_pass _ n e rest hs2)

theorem treeOf_binL (b : BinaryOperator) (l r : Spec.Expr) (Ul Ur : List Tok) (lvl sll lvr slr : Nat)
    (ha : assocOf b = .Left) (hTl : TreeOf Ul l lvl sll) (hTr : TreeOf Ur r lvr slr)
    (hl : bprec b ≤ lvl) (hsl : bprec b < sll) (hr : bprec b + 1 ≤ lvr) (hsr : bprec b + 1 ≤ slr) :
    TreeOf (Ul ++ [.op (opOfBinary b)] ++ Ur) (.bin b l r) (bprec b) (bprec b + 1) := by
  have hbin := asBinary_opOfBinary b
  have h12 := bprec_le b
  have hpo := opOfBinary_noPostfix b
  have h3k := bprec_of_left ha
  intro n rest R h3 h13 hn hnp hst hR
  have hmin : min (bprec b) 12 + 1 - n = (bprec b - n) + 1 := by omega
  rw [hmin] at hR
  -- the loops below the operator's level, and the loop at its level, which folds the operator in
  obtain ⟨y, hy, hlow⟩ := lift_split (bprec b - n) hR
  have hk : n + (bprec b - n) = bprec b := by omega
  rw [hk] at hy
  cases hy with
  | succ h0 hrest =>
    cases h0
    refine bin_lift (j := bprec b - n) (by omega) ?_ hlow
    rw [hk]
    have hre : Ul ++ [Tok.op (opOfBinary b)] ++ Ur ++ rest = Ul ++ (Tok.op (opOfBinary b) :: (Ur ++ rest)) := by simp
    rw [hre]
    have hst1 : ∀ m, bprec b < m → Stops m (Tok.op (opOfBinary b) :: (Ur ++ rest)) := fun m hm => hm
    refine hTl (bprec b) _ y h3k (by omega) hl hpo (hst1 _ hsl) ?_
    have hsp : min lvl 12 + 1 - bprec b = 1 + (min lvl 12 - bprec b) := by omega
    rw [hsp]
    refine lift_join (lift_pass _ _ l _ (hst1 _ (by omega))) (.succ (.zero _ _) ?_)
    have hcond : (opOfBinary b).precedence = bprec b ∧ (opOfBinary b).precedence ≠ 1 := by
      unfold bprec at h3k ⊢; exact ⟨rfl, by omega⟩
    have hne : bprec b ≠ 1 := by omega
    refine .restOp (b := b) ?_ (treeOf_at Ur r lvr slr hTr (bprec b + 1) rest (by omega) (by omega) hr hnp
      (stops_mono hst hsr) hst) hrest
    rw [binaryAtLevel_lex, hbin]
    simp [hcond, hne]

def AssignOf (ts : List Tok) (e : Spec.Expr) : Prop :=
  ∀ (rest : List Tok), NoPostfix rest → Stops 1 rest → SP (.assign (S (ts ++ rest))) (e, S rest)

def CondOf (ts : List Tok) (e : Spec.Expr) : Prop :=
  ∀ (rest : List Tok), NoPostfix rest → Stops 2 rest → SP (.cond (S (ts ++ rest))) (e, S rest)

theorem lowFacts (o : Operator) : (o.precedence < 2 → lexemeOf o ≠ ['?']) ∧
    (o.precedence < 1 → Spec.assignmentOfLexeme (lexemeOf o) = none) := by
  revert o; refine forall_op ?_; decide +kernel

theorem pCond_close (toks : List Spec.SToken) (e : Spec.Expr) (rest : List Tok)
    (h : SP (.bin 3 toks) (e, S rest)) (hs : Stops 2 rest) : SP (.cond toks) (e, S rest) := by
  refine .condPlain h fun r he => ?_
  obtain ⟨o, ts, rfl, hp⟩ := S_punct he
  exact (lowFacts o).1 hs hp.symm

theorem pAssign_close (toks : List Spec.SToken) (e : Spec.Expr) (rest : List Tok)
    (h : SP (.cond toks) (e, S rest)) (hs : Stops 1 rest) : SP (.assign toks) (e, S rest) := by
  refine .assignPlain h fun p r he => ?_
  obtain ⟨o, ts, rfl, rfl⟩ := S_punct he
  exact (lowFacts o).2 hs

theorem condOf_of_treeOf (ts : List Tok) (e : Spec.Expr) (lv sl : Nat) (h3 : 3 ≤ lv) (hsl : 3 ≤ sl)
    (hT : TreeOf ts e lv sl) : CondOf ts e := fun rest hnp hst =>
  pCond_close _ e rest
    (treeOf_at ts e lv sl hT 3 rest (Nat.le_refl _) (by omega) h3 hnp (stops_mono hst (by omega))
      (stops_mono hst (by omega))) hst

theorem assignOf_of_condOf (ts : List Tok) (e : Spec.Expr) (hC : CondOf ts e) : AssignOf ts e := fun rest hnp hst =>
  pAssign_close _ e rest (hC rest hnp (stops_mono hst (by omega))) hst

theorem leafOfS_paren (ts : List Tok) (e : Spec.Expr) (hA : AssignOf ts e) (rest : List Tok) :
    SP (.unary (S ([.op .OpenParen] ++ ts ++ [.op .CloseParen] ++ rest))) (Spec.postfixes e (S rest)) := by
  have := hA (.op .CloseParen :: rest) closeParen_noPostfix (closeParen_stops rest 1 (Nat.le_refl _))
  simp only [S, List.map_append, List.map_cons, stok, lexemeOf_close] at this
  simp only [S, List.cons_append, List.nil_append, List.append_assoc, List.map_cons, List.map_append, stok, lexemeOf_open,
    lexemeOf_close]
  refine .unaryPrimary (fun p r he => ?_) (.paren this)
  simp only [List.cons.injEq, Spec.SToken.punct.injEq] at he
  rw [← he.1, ← lexemeOf_open, prefixOfLexeme_lexemeOf]; rfl

/-- the three kinds of level of the Spec's grammar as one judgement: the assignment level always, the conditional level
    from 2 on, the binary levels from 3 on -/
def STree (ts : List Tok) (e : Spec.Expr) (lv sl : Nat) : Prop :=
  AssignOf ts e ∧ (2 ≤ lv → CondOf ts e) ∧ (3 ≤ lv → TreeOf ts e lv sl)

theorem sTree_of_treeOf (ts : List Tok) (e : Spec.Expr) (lv sl : Nat) (h3 : 3 ≤ lv) (hsl : 3 ≤ sl)
    (hT : TreeOf ts e lv sl) : STree ts e lv sl :=
  have hC := condOf_of_treeOf ts e lv sl h3 hsl hT
  ⟨assignOf_of_condOf ts e hC, fun _ => hC, fun _ => hT⟩

/-- assignment operators: `unary-expression op assignment-expression` -/
theorem assignOf_binR (b : BinaryOperator) (l r : Spec.Expr) (Ul Ur : List Tok) (lvl sll : Nat)
    (ha : assocOf b = .Right) (hTl : TreeOf Ul l lvl sll) (hAr : AssignOf Ur r) (hl : 3 ≤ lvl) (hsl : 1 < sll) :
    AssignOf (Ul ++ [.op (opOfBinary b)] ++ Ur) (.bin b l r) := by
  have hbin := asBinary_opOfBinary b
  have hpo := opOfBinary_noPostfix b
  have h1 : (opOfBinary b).precedence = 1 := bprec_of_right ha
  intro rest hnp hst
  simp only [List.append_assoc, List.cons_append, List.nil_append]
  have hst1 : ∀ m, 1 < m → Stops m (Tok.op (opOfBinary b) :: (Ur ++ rest)) := by
    intro m hm; simp only [Stops]; omega
  have hc := pCond_close _ l _
    (treeOf_at _ l lvl sll hTl 3 _ (Nat.le_refl _) (by omega) hl (show NoPostfix (Tok.op (opOfBinary b) :: _) from hpo)
      (hst1 _ hsl) (hst1 3 (by omega)))
    (hst1 2 (by omega))
  have hal : Spec.assignmentOfLexeme (lexemeOf (opOfBinary b)) = some b := by
    unfold Spec.assignmentOfLexeme
    rw [binaryOfLexeme_lexemeOf, hbin]
    simp [h1]
  exact .assignOp hc hal (hAr rest hnp hst)

theorem condOf_cond (c t e : Spec.Expr) (Uc Ut Ue : List Tok) (lvc slc : Nat)
    (hTc : TreeOf Uc c lvc slc) (hAt : AssignOf Ut t) (hCe : CondOf Ue e) (hc : 3 ≤ lvc) (hsc : 2 < slc) :
    CondOf (Uc ++ [.op .Question] ++ Ut ++ [.op .Colon] ++ Ue) (.cond c t e) := by
  intro rest hnp hst
  simp only [List.append_assoc, List.cons_append, List.nil_append]
  have hstq : ∀ m, 2 < m → Stops m (Tok.op Operator.Question :: (Ut ++ Tok.op Operator.Colon :: (Ue ++ rest))) := by
    intro m hm; simp only [Stops, question_prec]; omega
  have hb := treeOf_at _ c lvc slc hTc 3 _ (Nat.le_refl _) (by omega) hc
    (show NoPostfix (Tok.op Operator.Question :: _) from question_noPostfix) (hstq slc hsc) (hstq 3 (by omega))
  have hcolon : Stops 1 (Tok.op Operator.Colon :: (Ue ++ rest)) := by
    simp only [Stops, colon_prec]; omega
  have ht := hAt _ (show NoPostfix (Tok.op Operator.Colon :: _) from colon_noPostfix) hcolon
  have he := hCe rest hnp hst
  simp only [S, List.map_append, List.map_cons, stok, lexemeOf_question, lexemeOf_colon] at hb ht he ⊢
  exact .condOp hb ht he

def specReader : Reader where
  Leaf ts e rest := SP (.unary (S (ts ++ rest))) (Spec.postfixes e (S rest))
  Tree := STree
  num v rest := .unaryPrimary (fun p r he => by cases he) (.num v _)
  var x rest := .unaryPrimary (fun p r he => by cases he) (.ident x _)
  pre op U x rest hnp h := by
    rw [postfixes_noPostfix _ rest hnp] at h ⊢
    simp only [List.cons_append, S, List.map_cons, stok]
    exact .unaryPre (by rw [prefixOfLexeme_lexemeOf, (prefixFacts op).1]) h
  post op U x rest h := by
    simp only [List.cons_append, List.nil_append, S, List.map_cons, stok] at h
    rw [Spec.postfixes] at h
    simpa only [List.append_assoc, List.cons_append, List.nil_append, postfixOfLexeme_lexemeOf, postfixFacts op] using h
  paren U x lv sl rest _ _ hT := leafOfS_paren U x hT.1 rest
  ofLeaf U x lv sl h13 hsl h := sTree_of_treeOf U x lv sl (by omega) hsl (treeOf_of_unary U x lv sl h13 h)
  binL b l r Ul Ur lvl sll lvr slr ha hTl hTr hl hsl hr hsr :=
    have h3 := bprec_of_left ha
    sTree_of_treeOf _ _ _ _ h3 (by omega)
      (treeOf_binL b l r Ul Ur lvl sll lvr slr ha (hTl.2.2 (by omega)) (hTr.2.2 (by omega)) hl hsl hr hsr)
  binR b l r Ul Ur lvl sll lvr slr ha hTl hTr hl hsl _ _ :=
    ⟨assignOf_binR b l r Ul Ur lvl sll ha (hTl.2.2 (by omega)) hTr.1 (by omega) (by omega),
      fun h => by omega, fun h => by omega⟩
  cond c t e Uc Ut Ue lvc slc lvt slt lve sle hTc hTt hTe hc hsc _ _ he _ :=
    have hC := condOf_cond c t e Uc Ut Ue lvc slc (hTc.2.2 hc) hTt.1 (hTe.2.1 he) hc (by omega)
    ⟨assignOf_of_condOf _ _ hC, fun _ => hC, fun h => by omega⟩

theorem pAssign_renderTop (d : Deco) (e : Spec.Expr) (f : Nat)
    (hf : 64 * (renderTop d e).length + 32 ≤ f) : Spec.pAssign f (S (renderTop d e)) = some (e, []) := by
  obtain ⟨lv, sl, hT, _, _⟩ := specReader.top d e
  have := hT.1 [] trivial trivial
  rw [List.append_nil] at this
  exact this.run_assign (by rw [S, List.length_map]; exact hf)

end YashModel.Arith
