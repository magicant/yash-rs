/-
  C03 — lemmas about `Shell.lean`: over the `HashMap` the evaluator written over the `Env` interface is the evaluator of
  `Model.lean`; where `assign_variable` lands on the shell's stack of contexts; a property of the state that `assign` keeps is
  kept by an evaluation, by the text substitution and by a function body.
-/
import YashModel.Common.Lists
import YashModel.Arith.Shell
import YashModel.Arith.SemLemmas
namespace YashModel.Arith
open YashModel.Generated.ArithTables

theorem valueTermG_eq (r : Res (Int × Env)) : valueTermG r = valueTerm r := rfl

/-- the evaluator written over the `yash_arith::Env` interface (the one the shell-level leg of the
    correspondence runs with the shell's store) IS the evaluator of `Model.lean` when the environment is the
    `HashMap`: every theorem about `eval` is a theorem about it. -/
theorem evalG_hashMap (f : Nat) (ast : List Ast) (env : Env) : evalG hashMapI f ast env = eval f ast env := by
  -- `hashMapI.get` and `hashMapI.assign` answer `Ok`, so a `bind` on them computes: `expandVariableG hashMapI`,
  -- `assignG hashMapI`, `applyPrefixG hashMapI` … are `expandVariable`, `assign`, `applyPrefix` … by unfolding, and the
  -- two bodies are the same term once the recursive calls agree
  induction f generalizing ast env with
  | zero => rfl
  | succ f ih => rw [evalG, eval, show evalG hashMapI f = eval f from funext fun a => funext (ih a)]; rfl

theorem evalValueG_hashMap (ast : List Ast) (env : Env) : evalValueG hashMapI ast env = evalValue ast env := by
  unfold evalValueG evalValue
  rw [evalG_hashMap]
  rfl

/-! ### the shell's store: `assign_variable` on the stack of contexts -/

theorem Ctx.put_isPut : Common.IsPut Ctx.put (fun _ _ => False) :=
  ⟨fun _ _ => rfl, fun k' v' t k v => by by_cases h : k' = k <;> simp [Ctx.put, h, eq_comm]⟩

theorem Ctx.find_put (c : Ctx) (n x : Name) (v : SVar) : (c.put n v).find x = if x = n then some v else c.find x :=
  Common.get_put find_isGet Ctx.put_isPut c n x v

theorem Ctx.find_put_self (c : Ctx) (n : Name) (v : SVar) : (c.put n v).find n = some v := by
  rw [Ctx.find_put, if_pos rfl]

theorem Ctx.find_put_ne (c : Ctx) (n x : Name) (v : SVar) (h : x ≠ n) : (c.put n v).find x = c.find x := by
  rw [Ctx.find_put, if_neg h]

/-- how `get_or_create_variable(name, Global).assign(v)` succeeds on a non-empty stack: the innermost context takes the
    value if it has the name (writable); otherwise the base context takes it, or the rest of the stack does -/
theorem assign_cons {c : Ctx} {rest cs' : List Ctx} {n : Name} {v : List Char}
    (h : assignVisibleOrGlobal (c :: rest) n v = some cs') :
    (∃ w, c.find n = some w ∧ w.readOnly = false ∧ cs' = c.put n ⟨.scalar v, false⟩ :: rest) ∨
    (c.find n = none ∧ rest = [] ∧ cs' = [c.put n ⟨.scalar v, false⟩]) ∨
    (c.find n = none ∧ rest ≠ [] ∧ ∃ rest', assignVisibleOrGlobal rest n v = some rest' ∧ cs' = c :: rest') := by
  cases hf : c.find n with
  | some w =>
    have hro : w.readOnly = false := by
      cases hro : w.readOnly with
      | false => rfl
      | true => cases rest <;> simp [assignVisibleOrGlobal, hf, hro] at h
    refine Or.inl ⟨w, rfl, hro, ?_⟩
    cases rest <;> simp [assignVisibleOrGlobal, hf, hro] at h <;> exact h.symm
  | none =>
    cases rest with
    | nil => simp only [assignVisibleOrGlobal, hf, Option.some.injEq] at h; exact Or.inr (Or.inl ⟨rfl, rfl, h.symm⟩)
    | cons r rs =>
      simp only [assignVisibleOrGlobal, hf] at h
      cases hr : assignVisibleOrGlobal (r :: rs) n v with
      | none => simp [hr] at h
      | some rest' =>
        simp only [hr, Option.map, Option.some.injEq] at h
        exact Or.inr (Or.inr ⟨rfl, by simp, rest', rfl, h.symm⟩)

/-- "assignment operators update variables", for the shell's store: after `assign_variable` the variable is
    visible with the assigned text, in whatever context it lives. -/
theorem shell_assign_visible (cs cs' : List Ctx) (n : Name) (v : List Char)
    (h : assignVisibleOrGlobal cs n v = some cs') : visible cs' n = some ⟨.scalar v, false⟩ := by
  induction cs generalizing cs' with
  | nil =>
    simp only [assignVisibleOrGlobal, Option.some.injEq] at h
    subst h
    simp [visible, Ctx.find]
  | cons c rest ih =>
    rcases assign_cons h with ⟨w, _, _, rfl⟩ | ⟨_, _, rfl⟩ | ⟨hnone, _, rest', hr, rfl⟩
    · simp [visible, Ctx.find_put_self]
    · simp [visible, Ctx.find_put_self]
    · simp only [visible, hnone]; exact ih rest' hr

/-- … and it is the variable the callers see: inside a function whose own context `c` has no variable `n`,
    the assignment leaves `c` alone and after the function returned (context popped) `n` has the new value;
    with a writable local `n` only the local changes and the callers' contexts are untouched. -/
theorem shell_assign_scope (c r : Ctx) (rs : List Ctx) (n : Name) (v : List Char) (cs' : List Ctx)
    (h : assignVisibleOrGlobal (c :: r :: rs) n v = some cs') :
    (c.find n = none → ∃ rest', cs' = c :: rest' ∧ visible rest' n = some ⟨.scalar v, false⟩) ∧
    (∀ w, c.find n = some w → cs' = c.put n ⟨.scalar v, false⟩ :: r :: rs ∧ w.readOnly = false) := by
  rcases assign_cons h with ⟨w, hw, hro, rfl⟩ | ⟨_, hnil, _⟩ | ⟨hnone, _, rest', hr, rfl⟩
  · refine ⟨fun hn => ?_, fun w' hw' => ?_⟩
    · rw [hn] at hw; cases hw
    · rw [hw] at hw'; cases hw'; exact ⟨rfl, hro⟩
  · cases hnil
  · refine ⟨fun _ => ⟨rest', rfl, shell_assign_visible _ rest' n v hr⟩, fun w hw => ?_⟩
    rw [hnone] at hw; cases hw

theorem assign_length (cs : List Ctx) : ∀ cs' n v, cs ≠ [] → assignVisibleOrGlobal cs n v = some cs' →
    cs'.length = cs.length := by
  induction cs with
  | nil => intro cs' n v h; exact absurd rfl h
  | cons c rest ih =>
    intro cs' n v _ h
    rcases assign_cons h with ⟨w, _, _, rfl⟩ | ⟨_, rfl, rfl⟩ | ⟨_, hne, rest', hr, rfl⟩
    · rfl
    · rfl
    · simp only [List.length_cons, ih rest' n v hne hr]

/-- inside a function (two or more contexts) whose own context does not have the name `x` -/
def NoLocal (x : Name) (st : Store) : Prop :=
  ∃ c r rs, st.ctxs = c :: r :: rs ∧ c.find x = none

theorem noLocal_assign (x : Name) (st st' : Store) (n : Name) (v : List Char) (h : NoLocal x st)
    (ha : shellI.assign st n v = .ok st') : NoLocal x st' := by
  obtain ⟨c, r, rs, hc, hx⟩ := h
  simp only [shellI] at ha
  cases hs : assignVisibleOrGlobal st.ctxs n v with
  | none => simp [hs] at ha
  | some cs =>
    simp only [hs, Res.ok.injEq] at ha
    subst ha
    rw [hc] at hs
    obtain ⟨h1, h2⟩ := shell_assign_scope c r rs n v cs hs
    cases hf : c.find n with
    | none =>
      obtain ⟨rest', hcs, _⟩ := h1 hf
      have hlen := assign_length (c :: r :: rs) cs n v (by simp) hs
      rw [hcs] at hlen
      cases rest' with
      | nil => simp at hlen
      | cons r' rs' => exact ⟨c, r', rs', hcs, hx⟩
    | some w =>
      obtain ⟨hcs, _⟩ := h2 w hf
      have hne : x ≠ n := by intro e; subst e; rw [hx] at hf; simp at hf
      exact ⟨c.put n ⟨.scalar v, false⟩, r, rs, hcs, by rw [Ctx.find_put_ne c n x _ hne]; exact hx⟩

/-! ### what an evaluation keeps: the state changes only through `assign_variable` -/

section Preserve
variable {σ : Type} (I : EnvI σ) (Q : σ → Prop)
  (hQ : ∀ s n v s', Q s → I.assign s n v = .ok s' → Q s')
include hQ

theorem assignG_keeps {n : Name} {v : Int} {s : σ} (hs : Q s) : Keeps Q (assignG I n v s) :=
  Keeps.bind fun s1 h1 => Keeps.ok (hQ s n _ s1 hs h1)

theorem applyPrefixG_keeps {t : Term} {op : PrefixOperator} {s : σ} (hs : Q s) : Keeps Q (applyPrefixG I t op s) := by
  cases op <;> simp only [applyPrefixG]
  · exact Keeps.bind fun _ _ => Keeps.bind fun _ _ => Keeps.bind fun _ _ => assignG_keeps I Q hQ hs
  · exact Keeps.bind fun _ _ => Keeps.bind fun _ _ => Keeps.bind fun _ _ => assignG_keeps I Q hQ hs
  · exact Keeps.bind fun _ _ => Keeps.ok hs
  · exact Keeps.bind fun _ _ => Keeps.bind fun _ _ => Keeps.ok hs
  · exact Keeps.bind fun _ _ => Keeps.ok hs
  · exact Keeps.bind fun _ _ => Keeps.ok hs

theorem applyPostfixG_keeps {t : Term} {op : PostfixOperator} {s : σ} (hs : Q s) :
    Keeps Q (applyPostfixG I t op s) :=
  Keeps.bind fun _ _ => Keeps.bind fun _ _ => Keeps.bind fun _ _ => Keeps.bind fun ⟨_, s1⟩ h1 =>
    Keeps.ok (assignG_keeps I Q hQ hs _ s1 h1)

theorem applyBinaryG_keeps {l r : Term} {op : BinaryOperator} {s : σ} (hs : Q s) :
    Keeps Q (applyBinaryG I l r op s) := by
  unfold applyBinaryG
  split
  · exact Keeps.bind fun _ _ => Keeps.bind fun _ _ => Keeps.bind fun _ _ => Keeps.ok hs
  · exact Keeps.bind fun _ _ => Keeps.bind fun _ _ => assignG_keeps I Q hQ hs
  · exact Keeps.bind fun _ _ => Keeps.bind fun _ _ => Keeps.bind fun _ _ => Keeps.bind fun _ _ =>
      assignG_keeps I Q hQ hs

omit hQ in
theorem valueTermG_keeps {r : Res (Int × σ)} (h : Keeps Q r) : Keeps Q (valueTermG r) :=
  Keeps.bind fun ⟨_, s1⟩ h1 => Keeps.ok (h _ s1 h1)

theorem evalG_keeps (f : Nat) : ∀ (ast : List Ast) (s : σ), Q s → Keeps Q (evalG I f ast s) := by
  induction f with
  | zero => intro ast s _ t s' h; simp [evalG] at h
  | succ f ih =>
    intro ast s hs
    have panic : Keeps Q (Res.panic : Res (Term × σ)) := fun _ _ h => by cases h
    -- both lazy operators: the left operand, its value, then the constant or the right operand
    have lazy : ∀ (o : BinaryOperator) (stop : Int → Prop) [DecidablePred stop] (w : Int) (l r : List Ast),
        Keeps Q ((evalG I f l s).bind fun (p : Term × σ) => (intoValueG I p.1 p.2).bind fun a =>
          if stop a then .ok (.value w, p.2)
          else (evalG I f r p.2).bind fun (q : Term × σ) => (intoValueG I q.1 q.2).bind fun b =>
            (binaryResult o a b).bind fun v => .ok (Term.value v, q.2)) := fun o stop _ w l r =>
      Keeps.bind fun ⟨lt, s1⟩ h1 => Keeps.bind fun a _ => by
        have hs1 := ih _ _ hs _ _ h1
        split
        · exact Keeps.ok hs1
        · exact Keeps.bind fun ⟨rt, s2⟩ h2 => Keeps.bind fun _ _ => Keeps.bind fun _ _ =>
            Keeps.ok (ih _ _ hs1 _ _ h2)
    rw [evalG]
    cases splitLast ast with
    | none => exact panic
    | some p =>
      obtain ⟨children, root⟩ := p
      cases root with
      | term tm => exact Keeps.ok hs
      | pre op =>
        exact Keeps.bind fun ⟨t, s1⟩ h1 => valueTermG_keeps Q (applyPrefixG_keeps I Q hQ (ih _ _ hs _ _ h1))
      | post op =>
        exact Keeps.bind fun ⟨t, s1⟩ h1 => valueTermG_keeps Q (applyPostfixG_keeps I Q hQ (ih _ _ hs _ _ h1))
      | binary op rhsLen =>
        simp only
        cases splitAtEnd children rhsLen with
        | none => exact panic
        | some q =>
          obtain ⟨l, r⟩ := q
          simp only
          split
          · exact lazy .LogicalOr (· ≠ 0) 1 l r
          · split
            · exact lazy .LogicalAnd (· = 0) 0 l r
            · exact Keeps.bind fun ⟨lt, s1⟩ h1 => Keeps.bind fun ⟨rt, s2⟩ h2 =>
                valueTermG_keeps Q (applyBinaryG_keeps I Q hQ (ih _ _ (ih _ _ hs _ _ h1) _ _ h2))
      | conditional thenLen elseLen =>
        simp only
        cases splitAtEnd children elseLen with
        | none => exact panic
        | some q =>
          obtain ⟨c2, e⟩ := q
          simp only
          cases splitAtEnd c2 thenLen with
          | none => exact panic
          | some q2 =>
            obtain ⟨c, th⟩ := q2
            exact Keeps.bind fun ⟨ct, s1⟩ h1 => Keeps.bind fun _ _ => by
              have hs1 := ih _ _ hs _ _ h1
              split
              · exact ih _ _ hs1
              · exact ih _ _ hs1

theorem evalStrG_preserves {portable : Bool} {src : List Char} {s s' : σ} {v : Int} (hs : Q s)
    (h : evalStrG I portable src s = .ok (v, s')) : Q s' := by
  unfold evalStrG at h
  split at h
  · simp at h
  · split at h
    · simp at h
    · rename_i ast _ _
      have hk : Keeps Q (evalValueG I ast s) :=
        Keeps.bind fun ⟨t, s1⟩ h1 => Keeps.bind fun _ _ => Keeps.ok (evalG_keeps I Q hQ _ _ _ hs _ _ h1)
      cases hv : evalValueG I ast s with
      | ok r => simp only [hv, Except.ok.injEq] at h; subst h; exact hk _ _ hv
      | error e => simp [hv] at h
      | panic => simp [hv] at h
      | fuel => simp [hv] at h

end Preserve

/-! ### `substText` on each form of text -/

theorem substText_nil (f : Nat) (st : Store) (status : Nat) : substText (f + 1) st status [] = .ok ([], st, status) := rfl

theorem substText_arith (f : Nat) (st : Store) (status : Nat) (rest : List Char) :
    substText (f + 1) st status ('$' :: '(' :: '(' :: rest) =
      match splitArith 0 rest [] with
      | none => .error .badCase
      | some (inner, after) =>
        match expandArith f st status inner with
        | .error e => .error e
        | .ok (v, st1, status1) =>
          (substText f st1 status1 after).map fun (t, st2, s2) => (showInt v ++ t, st2, s2) := rfl

theorem substText_cmd (f : Nat) (st : Store) (status : Nat) (rest : List Char) (h : rest.head? ≠ some '(') :
    substText (f + 1) st status ('$' :: '(' :: rest) =
      match cmdSubst (rest.takeWhile (· ≠ ')')) with
      | none => .error .badCase
      | some (out, k) =>
        (substText f st k ((rest.dropWhile (· ≠ ')')).drop 1)).map fun (t, st2, s2) => (out ++ t, st2, s2) := by
  rw [substText]
  · rfl
  · intro r e; subst e; exact h rfl

/-- `${name}` and `$name` after the name is cut off: the value of the variable, or nothing (an error under `nounset`) -/
def substVar (f : Nat) (st : Store) (status : Nat) (name after : List Char) : Except ShErr (List Char × Store × Nat) :=
  match textOf st name with
  | some v => (substText f st status after).map fun (t, st2, s2) => (v ++ t, st2, s2)
  | none => if st.nounset then .error .unsetParameter else substText f st status after

theorem substText_brace (f : Nat) (st : Store) (status : Nat) (rest : List Char) :
    substText (f + 1) st status ('$' :: '{' :: rest) =
      substVar f st status (rest.takeWhile (· ≠ '}')) ((rest.dropWhile (· ≠ '}')).drop 1) := rfl

theorem substText_name (f : Nat) (st : Store) (status : Nat) (rest : List Char) (h1 : rest.head? ≠ some '(')
    (h2 : rest.head? ≠ some '{') :
    substText (f + 1) st status ('$' :: rest) =
      if (rest.takeWhile isTermChar).isEmpty then (substText f st status rest).map fun (t, st2, s2) => ('$' :: t, st2, s2)
      else substVar f st status (rest.takeWhile isTermChar) (rest.dropWhile isTermChar) := by
  rw [substText]
  · rfl
  · intro r e; subst e; exact h1 rfl
  · intro r e; subst e; exact h1 rfl
  · intro r e; subst e; exact h2 rfl

theorem substText_char (f : Nat) (st : Store) (status : Nat) (c : Char) (rest : List Char) (hc : c ≠ '$') :
    substText (f + 1) st status (c :: rest) = (substText f st status rest).map fun (t, st2, s2) => (c :: t, st2, s2) := by
  rw [substText]
  all_goals (intros; contradiction)

theorem termChar_not_open (c : Char) (h : isTermChar c = true) : c ≠ '(' ∧ c ≠ '{' := by
  constructor <;> (intro hc; subst hc; revert h; decide)

theorem substText_dollar (f : Nat) (st : Store) (status : Nat) (c : Char) (cs after v : List Char)
    (hname : ∀ ch ∈ c :: cs, isTermChar ch = true)
    (hafter : ∀ ch, after.head? = some ch → isTermChar ch = false)
    (hv : textOf st (c :: cs) = some v) :
    substText (f + 1) st status ('$' :: ((c :: cs) ++ after)) =
      (substText f st status after).map fun (t, st2, s2) => (v ++ t, st2, s2) := by
  obtain ⟨h1, h2⟩ := termChar_not_open c (hname c (by simp))
  obtain ⟨htw, hdw⟩ := Common.span_unique (l := (c :: cs) ++ after) rfl hname hafter
  simp only [List.cons_append] at htw hdw ⊢
  rw [substText_name f st status (c :: (cs ++ after)) (fun e => h1 (Option.some.inj e)) (fun e => h2 (Option.some.inj e))]
  simp only [htw, hdw, List.isEmpty_cons, Bool.false_eq_true, if_false, substVar, hv]

/-! ### expansions keep what `assign_variable` keeps; what a function's caller sees -/

theorem expand_keeps (Q : Store → Prop) (hQ : ∀ s n v s', Q s → shellI.assign s n v = .ok s' → Q s') (f : Nat) :
    (∀ st status text t st' s', Q st → substText f st status text = .ok (t, st', s') → Q st') ∧
    (∀ st status text v st' s', Q st → expandArith f st status text = .ok (v, st', s') → Q st') := by
  induction f with
  | zero =>
    refine ⟨?_, ?_⟩
    · intro st status text t st' s' _ h; simp [substText] at h
    · intro st status text v st' s' _ h; simp [expandArith] at h
  | succ f ih =>
    obtain ⟨ihS, ihE⟩ := ih
    refine ⟨?_, ?_⟩
    · intro st status text t st' s' hn h
      -- a recursive call on the rest of the text, its result decorated
      have hmap : ∀ {g : List Char × Store × Nat → List Char × Store × Nat} {st0 status0 text0},
          (∀ p, (g p).2.1 = p.2.1) → (substText f st0 status0 text0).map g = .ok (t, st', s') → Q st0 → Q st' := by
        intro g st0 status0 text0 hg hm hn0
        cases hr : substText f st0 status0 text0 with
        | error e => simp [hr, Except.map] at hm
        | ok p =>
          obtain ⟨t1, st1, s1⟩ := p
          simp only [hr, Except.map, Except.ok.injEq] at hm
          have := hg (t1, st1, s1)
          rw [hm] at this
          rw [show st' = st1 from this]; exact ihS _ _ _ _ _ _ hn0 hr
      -- `${name}` and `$name`: the store is not touched before the recursive call
      have hvar : ∀ name after, substVar f st status name after = .ok (t, st', s') → Q st' := by
        intro name after hv
        unfold substVar at hv
        cases htx : textOf st name with
        | some v => rw [htx] at hv; exact hmap (fun ⟨_, _, _⟩ => rfl) hv hn
        | none =>
          rw [htx] at hv
          by_cases hnu : st.nounset = true
          · simp [hnu] at hv
          · simp only [hnu, Bool.false_eq_true, if_false] at hv; exact ihS _ _ _ _ _ _ hn hv
      cases text with
      | nil => rw [substText_nil] at h; cases h; exact hn
      | cons c rest =>
        by_cases hc : c = '$'
        · subst hc
          by_cases h1 : rest.head? = some '('
          · obtain ⟨r1, rfl⟩ := List.head?_eq_some_iff.mp h1
            by_cases h2 : r1.head? = some '('
            · -- `$((…))`: the inner expansion first, then the rest of the text in the store it leaves
              obtain ⟨r2, rfl⟩ := List.head?_eq_some_iff.mp h2
              rw [substText_arith] at h
              cases hsp : splitArith 0 r2 [] with
              | none => simp [hsp] at h
              | some p =>
                obtain ⟨inner, after⟩ := p
                simp only [hsp] at h
                cases he : expandArith f st status inner with
                | error e => simp [he] at h
                | ok q =>
                  obtain ⟨v, st1, status1⟩ := q
                  simp only [he] at h
                  exact hmap (fun ⟨_, _, _⟩ => rfl) h (ihE _ _ _ _ _ _ hn he)
            · -- `$(…)`: a command substitution does not touch the store
              rw [substText_cmd _ _ _ _ h2] at h
              split at h
              · cases h
              · exact hmap (fun ⟨_, _, _⟩ => rfl) h hn
          · by_cases h3 : rest.head? = some '{'
            · obtain ⟨r1, rfl⟩ := List.head?_eq_some_iff.mp h3
              rw [substText_brace] at h; exact hvar _ _ h
            · rw [substText_name _ _ _ _ h1 h3] at h
              by_cases hem : (rest.takeWhile isTermChar).isEmpty = true
              · rw [if_pos hem] at h; exact hmap (fun ⟨_, _, _⟩ => rfl) h hn
              · rw [if_neg hem] at h; exact hvar _ _ h
        · rw [substText_char _ _ _ _ _ hc] at h; exact hmap (fun ⟨_, _, _⟩ => rfl) h hn
    · intro st status text v st' s' hn h
      unfold expandArith at h
      cases hs : substText f st status text with
      | error e => simp [hs] at h
      | ok p =>
        obtain ⟨t, st1, status1⟩ := p
        simp only [hs] at h
        cases he : evalStrG shellI st1.portable t st1 with
        | error e => simp [he] at h
        | ok q =>
          obtain ⟨v', st2⟩ := q
          simp only [he, Except.ok.injEq, Prod.mk.injEq] at h
          rw [← h.2.1]
          exact evalStrG_preserves shellI Q hQ (ihS _ _ _ _ _ _ hn hs) he

theorem runBody_keeps (Q : Store → Prop) (hQ : ∀ s n v s', Q s → shellI.assign s n v = .ok s' → Q s')
    (es : List (List Char)) : ∀ st vals st', Q st → runBody st es = (vals, .ok st') → Q st' := by
  induction es with
  | nil => intro st vals st' hn h; simp only [runBody, Prod.mk.injEq, Except.ok.injEq] at h; rw [← h.2]; exact hn
  | cons e rest ih =>
    intro st vals st' hn h
    unfold runBody at h
    cases he : expandArith (2 * e.length + 4) st 0 e with
    | error err => simp [he] at h
    | ok p =>
      obtain ⟨v, st1, status⟩ := p
      simp only [he, Prod.mk.injEq] at h
      exact ih st1 _ st' ((expand_keeps Q hQ _).2 _ _ _ _ _ _ hn he) (Prod.ext rfl h.2)

theorem fn_sees_what_caller_sees (st0 : Store) (locals : Ctx) (es : List (List Char)) (x : Name)
    (vals : List (List Char × Nat)) (st1 : Store) (hne : st0.ctxs ≠ []) (hx : locals.find x = none)
    (h : runBody (pushLocals st0 locals) es = (vals, .ok st1)) :
    showVisible st1 x = showVisible (popCtx st1) x := by
  have h0 : NoLocal x (pushLocals st0 locals) := by
    cases hc : st0.ctxs with
    | nil => exact absurd hc hne
    | cons r rs => exact ⟨locals, r, rs, by simp [pushLocals, hc], hx⟩
  obtain ⟨c, r, rs, hc, hcx⟩ :=
    runBody_keeps (NoLocal x) (fun s n w s' hq ha => noLocal_assign x s s' n w hq ha) es _ vals st1 h0 h
  unfold showVisible popCtx
  simp only [hc, List.drop_succ_cons, List.drop_zero, visible, hcx]

end YashModel.Arith
