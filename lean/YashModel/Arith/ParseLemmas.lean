/-
  C03 — two facts about every answer of the parser, each one rule induction over `Parses`: its vector is a well-formed
  reverse-Polish encoding (`WF`), and it reports `TokenError` only when the token sequence holds the tokenizer's error token
  (`TokInv`).
-/
import YashModel.Arith.Parses
namespace YashModel.Arith
open YashModel.Generated.ArithTables

/-- A vector that encodes exactly one expression tree in reverse Polish notation, every stored operand
    length being the length of that operand's own encoding (the assumption `eval` makes about its input). -/
inductive WF : List Ast → Prop where
  | term (t : Term) : WF [.term t]
  | pre (c : List Ast) (op : PrefixOperator) : WF c → WF (c ++ [.pre op])
  | post (c : List Ast) (op : PostfixOperator) : WF c → WF (c ++ [.post op])
  | binary (l r : List Ast) (op : BinaryOperator) : WF l → WF r → WF (l ++ r ++ [.binary op r.length])
  | conditional (c t e : List Ast) : WF c → WF t → WF e →
      WF (c ++ t ++ e ++ [.conditional t.length e.length])

theorem WF.length_pos {a : List Ast} (h : WF a) : 0 < a.length := by
  cases h <;> simp <;> omega

theorem parsePostfix_wf (toks : List Tok) (acc0 t : List Ast) (ht : WF t) :
    ∃ t', WF t' ∧ (parsePostfix toks (acc0 ++ t)).2 = acc0 ++ t' := by
  induction toks generalizing t with
  | nil => exact ⟨t, ht, by simp [parsePostfix]⟩
  | cons tok rest ih =>
    cases tok with
    | term x => exact ⟨t, ht, by simp [parsePostfix]⟩
    | err => exact ⟨t, ht, by simp [parsePostfix]⟩
    | op o =>
      rw [parsePostfix]
      split
      · rename_i p _
        have := ih (t ++ [.post p]) (WF.post t p ht)
        simpa [List.append_assoc] using this
      · exact ⟨t, ht, rfl⟩

/-- the vector a successful call appends is one well-formed tree (for the loop: it extends the tree it was given) -/
theorem Parses.wf {c : Call} {r : Except SynErr PState} (h : Parses c r) : ∀ toks' acc', r = .ok (toks', acc') →
    match c with
    | .loop _ _ acc => ∀ acc0 t, WF t → acc = acc0 ++ t → ∃ t', WF t' ∧ acc' = acc0 ++ t'
    | c => ∃ t, WF t ∧ acc' = c.acc ++ t := by
  induction h with
  | term t rest acc =>
    intro toks' acc' hp; injection hp with hp
    obtain ⟨t', ht', he⟩ := parsePostfix_wf rest acc [.term t] (WF.term t)
    rw [hp] at he; exact ⟨t', ht', he⟩
  | paren _ hc ih =>
    intro toks' acc' hp; injection hp with hp
    obtain ⟨t, ht, rfl⟩ := ih _ _ rfl
    obtain ⟨t', ht', he⟩ := parsePostfix_wf _ _ t ht
    rw [hp] at he; exact ⟨t', ht', he⟩
  | @pre o p rest acc toks1 acc1 _ _ _ ih =>
    intro toks' acc' hp; injection hp with hp; injection hp with h1 h2; subst h2
    obtain ⟨t, ht, rfl⟩ := ih _ _ rfl
    exact ⟨t ++ [.pre p], WF.pre t p ht, List.append_assoc _ _ _⟩
  | tree _ _ ih1 ih2 =>
    intro toks' acc' hp
    obtain ⟨t, ht, rfl⟩ := ih1 _ _ rfl
    exact ih2 _ _ hp _ t ht rfl
  | stop acc _ =>
    intro toks' acc' hp; injection hp with hp; injection hp with h1 h2; subst h2
    exact fun acc0 t ht e => ⟨t, ht, e⟩
  | cond _ _ _ _ ih1 ih2 ih3 =>
    intro toks' acc' hp acc0 t ht e
    subst e
    obtain ⟨tt, htt, rfl⟩ := ih1 _ _ rfl
    obtain ⟨te, hte, rfl⟩ := ih2 _ _ rfl
    refine ih3 _ _ hp acc0 (t ++ tt ++ te ++ [.conditional tt.length te.length]) (WF.conditional t tt te ht htt hte) ?_
    simp only [Call.acc, List.length_append, List.append_assoc]
    congr 6 <;> omega
  | @bin m o b a rest acc toks1 acc1 r _ _ _ _ _ ih1 ih2 =>
    intro toks' acc' hp acc0 t ht e
    subst e
    obtain ⟨tr, htr, rfl⟩ := ih1 _ _ rfl
    refine ih2 _ _ hp acc0 (t ++ tr ++ [.binary b tr.length]) (WF.binary t tr b ht htr) ?_
    simp only [Call.acc, List.length_append, List.append_assoc]
    congr 5; omega
  | _ => intro toks' acc' hp; cases hp

theorem parse_wf_aux (f : Nat) :
    (∀ toks acc toks' acc', parseLeaf f toks acc = .ok (toks', acc') → ∃ t, WF t ∧ acc' = acc ++ t) ∧
    (∀ toks m acc toks' acc', parseTree f toks m acc = .ok (toks', acc') → ∃ t, WF t ∧ acc' = acc ++ t) ∧
    (∀ toks m acc0 t toks' acc', WF t → parseLoop f toks m (acc0 ++ t) = .ok (toks', acc') →
        ∃ t', WF t' ∧ acc' = acc0 ++ t') :=
  ⟨fun toks acc _ _ h => (Parses.of_run (c := .leaf toks acc) h (by simp)).wf _ _ rfl,
   fun toks m acc _ _ h => (Parses.of_run (c := .tree toks m acc) h (by simp)).wf _ _ rfl,
   fun toks m _ t _ _ ht h => (Parses.of_run (c := .loop toks m _) h (by simp)).wf _ _ rfl _ t ht rfl⟩

/-- ★ every vector `ast::parse` returns, for any token sequence, is a well-formed reverse-Polish encoding:
    the stored `rhs_len` / `then_len` / `else_len` are exactly the lengths of the operand encodings. -/
theorem parse_wellformed (fuel : Nat) (toks : List Tok) (ast : List Ast)
    (h : parseToks fuel toks = .ok ast) : WF ast := by
  rcases parseToks_cases fuel toks with ⟨e, _, he⟩ | ⟨toks1, acc, htree, ⟨_, hok⟩ | ⟨e, _, he⟩⟩
  · rw [he] at h; cases h
  · obtain ⟨t, ht, hacc⟩ := (parse_wf_aux fuel).2.1 _ _ _ _ _ htree
    rw [hok] at h; injection h with h
    rw [← h, hacc]; simpa using ht
  · rw [he] at h; cases h

theorem splitLast_append (c : List Ast) (x : Ast) : splitLast (c ++ [x]) = some (c, x) := by
  simp [splitLast]

theorem splitAtEnd_append (l r : List Ast) : splitAtEnd (l ++ r) r.length = some (l, r) := by
  simp [splitAtEnd, List.length_append]

/-- one parser call on `toks`: the tokens left over are among `toks`, and `TokenError` is answered only when
    `toks` holds the tokenizer's error token -/
def TokInv (toks : List Tok) : Except SynErr PState → Prop
  | .ok (toks', _) => ∀ t ∈ toks', t ∈ toks
  | .error .tokenError => Tok.err ∈ toks
  | .error _ => True

theorem TokInv.mono {toks toks1 : List Tok} {r : Except SynErr PState} (h : TokInv toks1 r)
    (hs : ∀ t ∈ toks1, t ∈ toks) : TokInv toks r := by
  cases r with
  | ok p => exact fun t ht => hs t (h t ht)
  | error e =>
    cases e with
    | tokenError => exact hs _ h
    | _ => trivial

theorem Parses.tokInv {c : Call} {r : Except SynErr PState} (h : Parses c r) : TokInv c.toks r := by
  have tl : ∀ (a : Tok) (l : List Tok), ∀ t ∈ l, t ∈ a :: l := fun a _ _ h => List.mem_cons_of_mem a h
  induction h with
  | leafEnd acc => trivial
  | leafErr rest acc => exact List.mem_cons_self
  | term t rest acc => exact fun x hx => tl _ _ x ((parsePostfix_suffix rest _).subset hx)
  | parenErr _ ih => exact ih.mono (tl _ _)
  | @parenOpen rest acc toks1 acc1 e _ hc ih =>
    cases e with
    | tokenError =>
      obtain ⟨r, rfl⟩ := (parseCloseParen_error hc).2 rfl
      exact tl _ _ _ (ih _ List.mem_cons_self)
    | _ => trivial
  | paren _ hc ih =>
    rw [parseCloseParen_eq_ok.mp hc] at ih
    exact fun x hx => tl _ _ x (ih x (tl _ _ x ((parsePostfix_suffix _ _).subset hx)))
  | notPrefix rest acc _ _ => trivial
  | preErr _ _ _ ih => exact ih.mono (tl _ _)
  | pre _ _ _ ih => exact fun x hx => tl _ _ x (ih x hx)
  | treeErr _ ih => exact ih
  | tree _ _ ih1 ih2 => exact ih2.mono ih1
  | stop acc _ => exact fun _ h => h
  | thenErr _ _ ih => exact ih.mono (tl _ _)
  | @noColon m rest acc toks1 acc1 _ _ _ ih =>
    by_cases hh : toks1.head? = some .err
    · obtain ⟨r1, rfl⟩ := List.head?_eq_some_iff.mp hh
      exact tl _ _ _ (ih _ List.mem_cons_self)
    · rw [if_neg hh]; trivial
  | elseErr _ _ _ ih1 ih2 => exact ih2.mono fun x hx => tl _ _ x (ih1 x (tl _ _ x hx))
  | cond _ _ _ _ ih1 ih2 ih3 => exact ih3.mono fun x hx => tl _ _ x (ih1 x (tl _ _ x (ih2 x hx)))
  | notBinary rest acc _ _ _ => trivial
  | rhsErr _ _ _ _ ih => exact ih.mono (tl _ _)
  | bin _ _ _ _ _ ih1 ih2 => exact ih2.mono fun x hx => tl _ _ x (ih1 x hx)

theorem parseToks_tokerr (fuel : Nat) (toks : List Tok) (h : parseToks fuel toks = .error .tokenError) :
    Tok.err ∈ toks := by
  have h1 : TokInv toks (parseTree fuel toks 1 []) := by
    rcases run_spec fuel (.tree toks 1 []) with h | ⟨h, _⟩
    · exact h.tokInv
    · exact (show TokInv toks (Call.run fuel (.tree toks 1 [])) by rw [h]; trivial)
  rcases parseToks_cases fuel toks with ⟨e, htree, he⟩ | ⟨toks1, acc, htree, ⟨_, hok⟩ | ⟨e, hend, he⟩⟩
  · rw [he] at h; injection h with h; subst h
    rw [htree] at h1; exact h1
  · rw [hok] at h; cases h
  · rw [he] at h; injection h with h
    obtain ⟨r, rfl⟩ := (parseEndOfInput_error hend).2 h
    rw [htree] at h1; exact h1 _ List.mem_cons_self

end YashModel.Arith
