/-
  C03 — the tokenizer of yash-arith on texts with non-ASCII alphanumerics, and the *cause* of a failing
  evaluation.  Import-free apart from `Model.lean` (the driver links it).

  `Tokens::next_token` (token.rs) takes as a term the maximal run of `c.is_alphanumeric() || c == '_'`.
  `char::is_alphanumeric` is a Unicode table of the Rust standard library; `Model.lean` has its ASCII part
  (`isTermChar`).  Here the non-ASCII part is a parameter `extra : List Char` — the non-ASCII characters for which
  `char::is_alphanumeric` holds; the harness fills it in per case with the std function for the characters of
  the text.  Everything else is the code of `Model.lean`: the operator search comes first, the first character
  decides "constant or variable" by `is_ascii_digit`, constants go through `from_str_radix` (which rejects every
  non-ASCII digit).  `unicode_tokenizer_is_the_model`: for `extra = []` these ARE the functions of `Model.lean`.
-/
import YashModel.Arith.Model
namespace YashModel.Arith
open YashModel.Generated.ArithTables

/-- `c.is_alphanumeric() || c == '_'`, with `extra` = the non-ASCII alphanumerics -/
def isTermCharU (extra : List Char) (c : Char) : Bool := isTermChar c || extra.contains c

/-- `Tokens::next_token` on the remaining text; `none` = `EndOfInput` -/
def nextTokenU (extra : List Char) (src : List Char) : Option (Tok × List Char) :=
  let s := src.dropWhile isWhitespace
  match s.head? with
  | none => none
  | some c =>
    match findOp s with
    | some (lex, o) => some (.op o, s.drop lex.length)
    | none =>
      let token := s.takeWhile (isTermCharU extra)
      let rest := s.dropWhile (isTermCharU extra)
      if token.isEmpty then some (.err, s)
      else if isAsciiDigit c then
        match parseConstant token with
        | some i => some (.term (.value i), rest)
        | none => some (.err, s)
      else some (.term (.variable token), rest)

/-- all tokens of the source up to the end of input or the first error (inclusive) -/
def tokenizeU (extra : List Char) : Nat → List Char → List Tok
  | 0, _ => [.err]
  | f + 1, src =>
    match nextTokenU extra src with
    | none => []
    | some (.err, _) => [.err]
    | some (t, rest) => t :: tokenizeU extra f rest

/-- `enum TokenError` of token.rs -/
inductive TokErr where
  | invalidNumericConstant | invalidCharacter
  deriving DecidableEq, Repr

/-- which `TokenError` `next_token` returns on the remaining text when it returns one: `token_len == 0` is
    `InvalidCharacter`, a digit-initial term that is not a constant is `InvalidNumericConstant` -/
def nextTokenErrU (extra : List Char) (src : List Char) : TokErr :=
  if ((src.dropWhile isWhitespace).takeWhile (isTermCharU extra)).isEmpty then .invalidCharacter
  else .invalidNumericConstant

/-- the cause of the first (= only) token error the parser can meet in the source; follows `tokenizeU` -/
def firstTokenErrU (extra : List Char) : Nat → List Char → Option TokErr
  | 0, _ => none
  | f + 1, src =>
    match nextTokenU extra src with
    | none => none
    | some (.err, _) => some (nextTokenErrU extra src)
    | some (_, rest) => firstTokenErrU extra f rest

/-- `ast::parse(PeekableTokens::from(expression))` -/
def parseU (extra : List Char) (src : List Char) : Except SynErr (List Ast) :=
  let toks := tokenizeU extra (src.length + 1) src
  parseToks (2 * toks.length + 2) toks

/-- `eval_with_config(expression, env, Config::default())` -/
def evalStrU (extra : List Char) (src : List Char) (env : Env) : Outcome :=
  match parseU extra src with
  | .error e => .syntaxError e
  | .ok ast => Outcome.ofRes (evalValue ast env)

/-- `eval_with_config(expression, env, Config { portable: true })`; `none` = `PortabilityError` -/
def evalStrPortableU (extra : List Char) (src : List Char) (env : Env) : Option Outcome :=
  match parseU extra src with
  | .error e => some (.syntaxError e)
  | .ok ast => if ast.any isIncDec then none else some (Outcome.ofRes (evalValue ast env))

/-! ## the cause of a failing evaluation (`Error::cause`, leaf variant) -/

/-- leaf variants of `ErrorCause` (lib.rs): `SyntaxError(TokenError(_))`, `SyntaxError(_)`,
    `PortabilityError(IncrementDecrement)`, `EvalError(_)` -/
inductive Cause where
  | token (e : TokErr)
  | syntax (e : SynErr)
  | portability
  | eval (e : EvalErr)
  deriving DecidableEq, Repr

/-- the cause carried by an outcome of `evalStrU extra src` (`none`: the evaluation returned a value) -/
def outcomeCause (extra : List Char) (src : List Char) : Outcome → Option Cause
  | .syntaxError .tokenError =>
    -- `From<TokenError> for SyntaxError`: the parser passes the tokenizer's error on
    some (match firstTokenErrU extra (src.length + 1) src with
      | some k => .token k
      | none => .syntax .tokenError)   -- never: `token_error_has_a_kind`
  | .syntaxError e => some (.syntax e)
  | .evalError e => some (.eval e)
  | _ => none

/-- `Error::cause` of `eval_with_config(src, env, Config { portable })`; `none` = `Ok(_)` -/
def evalStrCauseU (extra : List Char) (portable : Bool) (src : List Char) (env : Env) : Option Cause :=
  if portable then
    match evalStrPortableU extra src env with
    | none => some .portability
    | some o => outcomeCause extra src o
  else outcomeCause extra src (evalStrU extra src env)

/-- the same for the ASCII model of `Model.lean` -/
def evalStrCause (portable : Bool) (src : List Char) (env : Env) : Option Cause :=
  if portable then
    match evalStrPortable src env with
    | none => some .portability
    | some o => outcomeCause [] src o
  else outcomeCause [] src (evalStr src env)

end YashModel.Arith
