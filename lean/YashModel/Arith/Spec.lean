/-
  C03 — Spec: what POSIX (XCU 2.6.4, referring to ISO C) says an arithmetic expression is worth.

  * `Expr` is the expression tree; `evalExact` computes in unbounded `Int` and answers `none`
    ("error") whenever the exact value of any evaluated operation is outside the signed 64-bit range
    or undefined in C (division by zero, `MIN / -1`, `MIN % -1`, shift count < 0 or ≥ 64, left shift of
    a negative number, left shift whose exact result does not fit).  `||`, `&&`, `?:` evaluate only the
    operands C evaluates.  Assignment needs a variable on the left.
  * The C operator table (`cBinary`, `cPrefix`, `cPostfix`: lexeme, meaning, level, associativity) is
    written here by hand from the C grammar; the generated tables of the implementation are proved equal
    to it (`lexemes_are_C` in `Operators.lean`; `precedence_is_C`, `associativity_is_C` in `Theorems.lean`).
  * `lex` is maximal munch over the C lexemes; `parseText` is a recursive-descent parser following the C
    grammar level by level (no precedence numbers are compared anywhere in it).
  * `inScope`: trees on which C itself gives a value: no unsequenced modification/access of one variable
    inside one full expression without sequence point, and no conditional expression used as an lvalue
    (yash-rs accepts `(c ? x : y) = 1` as an extension; C does not define it).  Outside the scope the Spec
    column of the driver is `-`.
  The enums `BinaryOperator`, `PrefixOperator`, `PostfixOperator`, `Associativity` are used as *names*.
-/
import YashModel.Generated.ArithTables
namespace YashModel.Arith.Spec
open YashModel.Generated.ArithTables

abbrev Name := List Char

inductive Expr where
  | num (v : Int)
  | var (x : Name)
  | pre (op : PrefixOperator) (e : Expr)
  | post (op : PostfixOperator) (e : Expr)
  | bin (op : BinaryOperator) (l r : Expr)
  | cond (c t e : Expr)
  deriving DecidableEq, Repr

/-! ## the C operator table -/

/-- binary operators of C that the shell language has: lexeme, meaning, level (1 = assignment …
    12 = multiplicative; the conditional operator sits at 2, unary operators above 12), associativity -/
def cBinary : List (List Char × BinaryOperator × Nat × Associativity) :=
  [ (['='], .Assign, 1, .Right),
    (['|', '='], .BitwiseOrAssign, 1, .Right),
    (['^', '='], .BitwiseXorAssign, 1, .Right),
    (['&', '='], .BitwiseAndAssign, 1, .Right),
    (['<', '<', '='], .ShiftLeftAssign, 1, .Right),
    (['>', '>', '='], .ShiftRightAssign, 1, .Right),
    (['+', '='], .AddAssign, 1, .Right),
    (['-', '='], .SubtractAssign, 1, .Right),
    (['*', '='], .MultiplyAssign, 1, .Right),
    (['/', '='], .DivideAssign, 1, .Right),
    (['%', '='], .RemainderAssign, 1, .Right),
    (['|', '|'], .LogicalOr, 3, .Left),
    (['&', '&'], .LogicalAnd, 4, .Left),
    (['|'], .BitwiseOr, 5, .Left),
    (['^'], .BitwiseXor, 6, .Left),
    (['&'], .BitwiseAnd, 7, .Left),
    (['=', '='], .EqualTo, 8, .Left),
    (['!', '='], .NotEqualTo, 8, .Left),
    (['<'], .LessThan, 9, .Left),
    (['>'], .GreaterThan, 9, .Left),
    (['<', '='], .LessThanOrEqualTo, 9, .Left),
    (['>', '='], .GreaterThanOrEqualTo, 9, .Left),
    (['<', '<'], .ShiftLeft, 10, .Left),
    (['>', '>'], .ShiftRight, 10, .Left),
    (['+'], .Add, 11, .Left),
    (['-'], .Subtract, 11, .Left),
    (['*'], .Multiply, 12, .Left),
    (['/'], .Divide, 12, .Left),
    (['%'], .Remainder, 12, .Left) ]

def cPrefix : List (List Char × PrefixOperator) :=
  [ (['+', '+'], .Increment), (['-', '-'], .Decrement), (['+'], .NumericCoercion),
    (['-'], .NumericNegation), (['!'], .LogicalNegation), (['~'], .BitwiseNegation) ]

def cPostfix : List (List Char × PostfixOperator) :=
  [ (['+', '+'], .Increment), (['-', '-'], .Decrement) ]

/-- level of the conditional operator `? :` (between assignment and `||`), right associative -/
def cConditionalLevel : Nat := 2
/-- unary and postfix operators bind tighter than every binary operator -/
def cUnaryLevel : Nat := 13

def cOther : List (List Char) := [['?'], [':'], ['('], [')']]

/-- every punctuator of the expression language -/
def cLexemes : List (List Char) :=
  cBinary.map (·.1) ++ cPrefix.map (·.1) ++ cPostfix.map (·.1) ++ cOther

def cLevel (b : BinaryOperator) : Nat :=
  ((cBinary.find? (fun e => e.2.1 = b)).map (·.2.2.1)).getD 0

def cAssoc (b : BinaryOperator) : Associativity :=
  ((cBinary.find? (fun e => e.2.1 = b)).map (·.2.2.2)).getD .Left

def binaryOfLexeme (p : List Char) : Option (BinaryOperator × Nat × Associativity) :=
  (cBinary.find? (fun e => e.1 = p)).map (·.2)

def prefixOfLexeme (p : List Char) : Option PrefixOperator :=
  (cPrefix.find? (fun e => e.1 = p)).map (·.2)

def postfixOfLexeme (p : List Char) : Option PostfixOperator :=
  (cPostfix.find? (fun e => e.1 = p)).map (·.2)

/-! ## exact arithmetic -/

def InRange (x : Int) : Prop := -(2 : Int) ^ 63 ≤ x ∧ x < (2 : Int) ^ 63

instance (x : Int) : Decidable (InRange x) := by unfold InRange; exact inferInstance

/-- two's complement representation (64 bits) of an integer, and back -/
def toRepr (x : Int) : Nat := (x % (2 : Int) ^ 64).toNat
def fromRepr (n : Nat) : Int := if n < 2 ^ 63 then (n : Int) else (n : Int) - (2 : Int) ^ 64

def truth (p : Prop) [Decidable p] : Int := if p then 1 else 0

/-- the operation a (possibly compound) operator computes -/
inductive Arith where
  | lor | land | bor | bxor | band | eq | ne | lt | gt | le | ge | shl | shr | add | sub | mul | div | rem
  | second
  deriving DecidableEq, Repr

def arithOf : BinaryOperator → Arith
  | .Assign => .second
  | .LogicalOr => .lor
  | .LogicalAnd => .land
  | .BitwiseOr | .BitwiseOrAssign => .bor
  | .BitwiseXor | .BitwiseXorAssign => .bxor
  | .BitwiseAnd | .BitwiseAndAssign => .band
  | .EqualTo => .eq
  | .NotEqualTo => .ne
  | .LessThan => .lt
  | .GreaterThan => .gt
  | .LessThanOrEqualTo => .le
  | .GreaterThanOrEqualTo => .ge
  | .ShiftLeft | .ShiftLeftAssign => .shl
  | .ShiftRight | .ShiftRightAssign => .shr
  | .Add | .AddAssign => .add
  | .Subtract | .SubtractAssign => .sub
  | .Multiply | .MultiplyAssign => .mul
  | .Divide | .DivideAssign => .div
  | .Remainder | .RemainderAssign => .rem

/-- C 6.5: when the operation has a defined result at all (before asking whether it is representable) -/
def definedA (a : Arith) (l r : Int) : Prop :=
  match a with
  | .div => r ≠ 0
  | .rem => r ≠ 0 ∧ InRange (l.tdiv r)        -- 6.5.5p6: if a/b is not representable, a%b is undefined too
  | .shl => 0 ≤ l ∧ 0 ≤ r ∧ r < 64            -- 6.5.7p3/p4
  | .shr => 0 ≤ r ∧ r < 64
  | _ => True

instance (a : Arith) (l r : Int) : Decidable (definedA a l r) := by
  cases a <;> simp only [definedA] <;> exact inferInstance

/-- the mathematically exact result -/
def exactA (a : Arith) (l r : Int) : Int :=
  match a with
  | .lor => truth (l ≠ 0 ∨ r ≠ 0)
  | .land => truth (l ≠ 0 ∧ r ≠ 0)
  | .bor => fromRepr (toRepr l ||| toRepr r)
  | .bxor => fromRepr (toRepr l ^^^ toRepr r)
  | .band => fromRepr (toRepr l &&& toRepr r)
  | .eq => truth (l = r)
  | .ne => truth (l ≠ r)
  | .lt => truth (l < r)
  | .gt => truth (l > r)
  | .le => truth (l ≤ r)
  | .ge => truth (l ≥ r)
  | .shl => l * 2 ^ r.toNat
  | .shr => l / 2 ^ r.toNat                   -- floor: arithmetic shift
  | .add => l + r
  | .sub => l - r
  | .mul => l * r
  | .div => l.tdiv r                          -- truncation toward zero (6.5.5p6)
  | .rem => l.tmod r
  | .second => r

def definedOp (op : BinaryOperator) (l r : Int) : Prop := definedA (arithOf op) l r
def exactOp (op : BinaryOperator) (l r : Int) : Int := exactA (arithOf op) l r

instance (op : BinaryOperator) (l r : Int) : Decidable (definedOp op l r) := by
  unfold definedOp; exact inferInstance

/-- value of `l op r`: the exact result if it is defined and representable, otherwise an error -/
def arith (op : BinaryOperator) (l r : Int) : Option Int :=
  if definedOp op l r ∧ InRange (exactOp op l r) then some (exactOp op l r) else none

def represent (x : Int) : Option Int := if InRange x then some x else none

/-- why an operation has no value: the cases the property names ("overflow, division by zero, negative or
    oversize shift counts"), in the order C 6.5.5/6.5.7 state their conditions -/
inductive Reason where
  | divisionByZero            -- 6.5.5p5: the second operand of / or % is zero
  | leftShiftOfNegative       -- 6.5.7p4: E1 of `E1 << E2` is negative
  | negativeShiftCount        -- 6.5.7p3: the right operand of a shift is negative
  | unrepresentable           -- 6.5p5: the result is not representable (incl. a shift count >= the width)
  deriving DecidableEq, Repr

/-- the reason `l a r` has no value; `none` = it has one -/
def why (a : Arith) (l r : Int) : Option Reason :=
  if (a = .div ∨ a = .rem) ∧ r = 0 then some .divisionByZero
  else if a = .shl ∧ l < 0 then some .leftShiftOfNegative
  else if (a = .shl ∨ a = .shr) ∧ r < 0 then some .negativeShiftCount
  else if ¬ (definedA a l r ∧ InRange (exactA a l r)) then some .unrepresentable
  else none

/-! ## integer constants (C 6.4.4.1 without suffixes) and variable values -/

def digitOf (c : Char) : Nat :=
  if '0' ≤ c ∧ c ≤ '9' then c.toNat - '0'.toNat
  else if 'a' ≤ c ∧ c ≤ 'z' then c.toNat - 'a'.toNat + 10
  else if 'A' ≤ c ∧ c ≤ 'Z' then c.toNat - 'A'.toNat + 10
  else 99

/-- value of a non-empty string of digits of the given base -/
def digitsValue (base : Nat) (ds : List Char) : Option Nat :=
  if ds ≠ [] ∧ ds.all (fun c => digitOf c < base) then
    some (ds.foldl (fun acc c => acc * base + digitOf c) 0)
  else none

/-- `0x`/`0X` hexadecimal, leading `0` octal, otherwise decimal -/
def constMagnitude (s : List Char) : Option Nat :=
  match s with
  | '0' :: 'x' :: ds => digitsValue 16 ds
  | '0' :: 'X' :: ds => digitsValue 16 ds
  | '0' :: ds => digitsValue 8 ('0' :: ds)
  | ds => digitsValue 10 ds

/-- an integer constant that fits the type -/
def constValue (s : List Char) : Option Int :=
  (constMagnitude s).bind fun n => represent (n : Int)

/-- the value of a variable: an integer constant with an optional sign -/
def signedConstValue (s : List Char) : Option Int :=
  match s with
  | '-' :: m => (constMagnitude m).bind fun n => represent (-(n : Int))
  | '+' :: m => constValue m
  | m => constValue m

/-! ## evaluation -/

abbrev Env := List (Name × List Char)

def lookup (env : Env) (x : Name) : Option (List Char) :=
  match env with
  | [] => none
  | (n, v) :: rest => if n = x then some v else lookup rest x

/-- replace the value of `x`, or add `x` at the end -/
def update : Env → Name → List Char → Env
  | [], x, v => [(x, v)]
  | (n, w) :: rest, x, v => if n = x then (n, v) :: rest else (n, w) :: update rest x v

/-- an unset variable is 0 -/
def readVar (env : Env) (x : Name) : Option Int :=
  match lookup env x with
  | none => some 0
  | some s => signedConstValue s

/-- the decimal numeral of a natural number -/
def decimalNat : Nat → Nat → List Char
  | 0, _ => []
  | f + 1, n =>
    let d := Char.ofNat ('0'.toNat + n % 10)
    if n < 10 then [d] else decimalNat f (n / 10) ++ [d]

/-- the text an assignment stores: the decimal numeral of the value -/
def decimal (v : Int) : List Char :=
  if v < 0 then '-' :: decimalNat ((-v).toNat + 1) (-v).toNat else decimalNat (v.toNat + 1) v.toNat

def writeVar (env : Env) (x : Name) (v : Int) : Env := update env x (decimal v)

inductive Kind where
  | plain | assign | compound
  deriving DecidableEq

def kindOf (op : BinaryOperator) : Kind :=
  if op = .Assign then .assign
  else if cLevel op = 1 then .compound
  else .plain

/-- `none` = error.  Operands are evaluated left to right (on trees `inScope` the order is immaterial). -/
def evalExact : Expr → Env → Option (Int × Env)
  | .num v, env => (represent v).map fun v => (v, env)
  | .var x, env => (readVar env x).map fun v => (v, env)
  | .pre op e, env =>
    match op with
    | .Increment | .Decrement =>
      match e with
      | .var x =>
        (readVar env x).bind fun v =>
        (represent (if op = .Increment then v + 1 else v - 1)).map fun nv => (nv, writeVar env x nv)
      | _ => none
    | .NumericCoercion => evalExact e env
    | .NumericNegation => (evalExact e env).bind fun (v, env1) => (represent (-v)).map fun r => (r, env1)
    | .LogicalNegation => (evalExact e env).map fun (v, env1) => (truth (v = 0), env1)
    | .BitwiseNegation => (evalExact e env).map fun (v, env1) => (-v - 1, env1)
  | .post op e, env =>
    match e with
    | .var x =>
      (readVar env x).bind fun v =>
      (represent (if op = .Increment then v + 1 else v - 1)).map fun nv => (v, writeVar env x nv)
    | _ => none
  | .bin op l r, env =>
    if op = .LogicalOr then
      (evalExact l env).bind fun (a, env1) =>
      if a ≠ 0 then some (1, env1)
      else (evalExact r env1).map fun (b, env2) => (truth (b ≠ 0), env2)
    else if op = .LogicalAnd then
      (evalExact l env).bind fun (a, env1) =>
      if a = 0 then some (0, env1)
      else (evalExact r env1).map fun (b, env2) => (truth (b ≠ 0), env2)
    else
      match kindOf op with
      | .plain =>
        (evalExact l env).bind fun (a, env1) =>
        (evalExact r env1).bind fun (b, env2) =>
        (arith op a b).map fun v => (v, env2)
      | .assign =>
        match l with
        | .var x => (evalExact r env).map fun (b, env1) => (b, writeVar env1 x b)
        | _ => none
      | .compound =>
        match l with
        | .var x =>
          (readVar env x).bind fun a =>
          (evalExact r env).bind fun (b, env1) =>
          (arith op a b).map fun v => (v, writeVar env1 x v)
        | _ => none
  | .cond c t e, env =>
    (evalExact c env).bind fun (a, env1) =>
    if a ≠ 0 then evalExact t env1 else evalExact e env1

/-! ## scope: trees on which C defines a value -/

def reads : Expr → List Name
  | .num _ => []
  | .var x => [x]
  | .pre _ e => reads e
  | .post _ e => reads e
  | .bin _ l r => reads l ++ reads r
  | .cond c t e => reads c ++ reads t ++ reads e

def lvalueName : Expr → List Name
  | .var x => [x]
  | _ => []

def writes : Expr → List Name
  | .num _ => []
  | .var _ => []
  | .pre op e => (if op = .Increment ∨ op = .Decrement then lvalueName e else []) ++ writes e
  | .post _ e => lvalueName e ++ writes e
  | .bin op l r => (if kindOf op = .plain then [] else lvalueName l) ++ writes l ++ writes r
  | .cond c t e => writes c ++ writes t ++ writes e

def disjoint (a b : List Name) : Bool := a.all (fun x => !b.contains x)

def isCond : Expr → Bool
  | .cond _ _ _ => true
  | _ => false

/-- no operand of an operator without sequence point modifies a variable the other operand uses,
    and no conditional expression is used as an lvalue -/
def inScope : Expr → Bool
  | .num _ => true
  | .var _ => true
  | .pre op e => inScope e && !((op = .Increment ∨ op = .Decrement) && isCond e)
  | .post _ e => inScope e && !isCond e
  | .bin op l r =>
    inScope l && inScope r &&
    (if op = .LogicalOr ∨ op = .LogicalAnd then true
     else if kindOf op = .plain then
       disjoint (writes l) (reads r) && disjoint (writes r) (reads l)
     else !isCond l && disjoint (writes r) (reads l) && disjoint (writes l) (reads r))
  | .cond c t e => inScope c && inScope t && inScope e

/-- does the expression use `++` or `--` anywhere (what the `portable` option forbids)? -/
def hasIncDec : Expr → Bool
  | .num _ => false
  | .var _ => false
  | .pre op e => op = .Increment || op = .Decrement || hasIncDec e
  | .post _ _ => true
  | .bin _ l r => hasIncDec l || hasIncDec r
  | .cond c t e => hasIncDec c || hasIncDec t || hasIncDec e

/-! ## which failure is reported (tree level) -/

/-- the leaf causes an evaluation can fail with, in the Spec's terms -/
inductive Fail where
  | value                 -- a variable that is READ does not hold an integer constant
  | reason (r : Reason)   -- an operation has no value (`why`)
  | notLvalue             -- `++ -- = op=` applied to something that is not a variable
  deriving DecidableEq, Repr

/-- The causes ISO C / POSIX admit for the failure of `e` in `env`; `[]` = `e` has a value.
    C does not order the evaluation of the operands of an operator without sequence point (6.5p2-3: unsequenced;
    POSIX 2.6.4 refers to C), so when several operands fail EVERY one of their causes is admissible, in any
    order; only `|| && ?:` are sequenced: the left operand / the condition first, the unselected operand never.
    An operation's own cause (`why`, an unreadable compound-assignment target) is admissible only when all its
    operands have values.  Independent of the evaluation order of the code (which reports: left subtree, right
    subtree, then the left VALUE read, the right value read, then the operation). -/
def fails : Expr → Env → List Fail
  | .num _, _ => []
  | .var x, env => if (readVar env x).isNone then [.value] else []
  | .pre op e, env =>
    match op with
    | .Increment | .Decrement =>
      match e with
      | .var x =>
        match readVar env x with
        | none => [.value]
        | some v => if (represent (if op = .Increment then v + 1 else v - 1)).isNone then [.reason .unrepresentable] else []
      | _ => .notLvalue :: fails e env
    | .NumericNegation =>
      match fails e env, evalExact e env with
      | [], some (v, _) => if (represent (-v)).isNone then [.reason .unrepresentable] else []
      | fe, _ => fe
    | _ => fails e env
  | .post op e, env =>
    match e with
    | .var x =>
      match readVar env x with
      | none => [.value]
      | some v => if (represent (if op = .Increment then v + 1 else v - 1)).isNone then [.reason .unrepresentable] else []
    | _ => .notLvalue :: fails e env
  | .bin op l r, env =>
    if op = .LogicalOr ∨ op = .LogicalAnd then
      match fails l env, evalExact l env with
      | [], some (a, env1) => if (op = .LogicalOr ∧ a ≠ 0) ∨ (op = .LogicalAnd ∧ a = 0) then [] else fails r env1
      | fl, _ => fl
    else
      match kindOf op with
      | .plain =>
        let fl := fails l env
        let fr := fails r (match evalExact l env with | some (_, env1) => env1 | none => env)
        if fl.isEmpty ∧ fr.isEmpty then
          match evalExact l env with
          | some (a, env1) =>
            match evalExact r env1 with
            | some (b, _) => match why (arithOf op) a b with | some q => [.reason q] | none => []
            | none => []
          | none => []
        else fl ++ fr
      | .assign =>
        match l with
        | .var _ => fails r env
        | _ => .notLvalue :: (fails l env ++ fails r env)
      | .compound =>
        match l with
        | .var x =>
          let fx : List Fail := if (readVar env x).isNone then [.value] else []
          let fr := fails r env
          if fx.isEmpty ∧ fr.isEmpty then
            match readVar env x, evalExact r env with
            | some a, some (b, _) => match why (arithOf op) a b with | some q => [.reason q] | none => []
            | _, _ => []
          else fx ++ fr
        | _ => .notLvalue :: (fails l env ++ fails r env)
  | .cond c t e, env =>
    match fails c env, evalExact c env with
    | [], some (a, env1) => if a ≠ 0 then fails t env1 else fails e env1
    | fc, _ => fc

/-! ## text: maximal-munch lexer and grammar-directed parser -/

inductive SToken where
  | num (v : Int)
  | ident (n : Name)
  | punct (p : List Char)
  | bad
  deriving DecidableEq, Repr

/-- `White_Space` code points -/
def isSpace (c : Char) : Bool :=
  let n := c.toNat
  n = 0x20 || (0x09 ≤ n && n ≤ 0x0D) || n = 0x85 || n = 0xA0 || n = 0x1680 || (0x2000 ≤ n && n ≤ 0x200A)
    || n = 0x2028 || n = 0x2029 || n = 0x202F || n = 0x205F || n = 0x3000

def isWordChar (c : Char) : Bool :=
  ('0' ≤ c && c ≤ '9') || ('a' ≤ c && c ≤ 'z') || ('A' ≤ c && c ≤ 'Z') || c = '_'

/-- the longest punctuator that is a prefix of the text -/
def longestPunct (s : List Char) : Option (List Char) :=
  (cLexemes.filter (fun p => p.isPrefixOf s)).foldl
    (fun best p => match best with
      | none => some p
      | some b => if b.length < p.length then some p else some b) none

def lex : Nat → List Char → List SToken
  | 0, _ => [.bad]
  | f + 1, s =>
    match s.dropWhile isSpace with
    | [] => []
    | c :: cs =>
      match longestPunct (c :: cs) with
      | some p => .punct p :: lex f ((c :: cs).drop p.length)
      | none =>
        let word := (c :: cs).takeWhile isWordChar
        let rest := (c :: cs).dropWhile isWordChar
        if word = [] then [.bad]
        else if '0' ≤ c ∧ c ≤ '9' then
          match constValue word with
          | some v => .num v :: lex f rest
          | none => [.bad]
        else .ident word :: lex f rest

def assignmentOfLexeme (p : List Char) : Option BinaryOperator :=
  match binaryOfLexeme p with
  | some (b, 1, _) => some b
  | _ => none

def binaryAtLevel (level : Nat) (p : List Char) : Option BinaryOperator :=
  match binaryOfLexeme p with
  | some (b, l, _) => if l = level ∧ l ≠ 1 then some b else none
  | none => none

abbrev P := Option (Expr × List SToken)

def postfixes : Expr → List SToken → Expr × List SToken
  | e, .punct p :: rest =>
    match postfixOfLexeme p with
    | some o => postfixes (.post o e) rest
    | none => (e, .punct p :: rest)
  | e, toks => (e, toks)

mutual
/-- assignment-expression (the left operand is checked for being an lvalue by `evalExact`) -/
def pAssign : Nat → List SToken → P
  | 0, _ => none
  | f + 1, toks =>
    (pCond f toks).bind fun (l, toks1) =>
    match toks1 with
    | .punct p :: rest =>
      match assignmentOfLexeme p with
      | some b => (pAssign f rest).map fun (r, toks2) => (.bin b l r, toks2)
      | none => some (l, toks1)
    | _ => some (l, toks1)
/-- conditional-expression: `lor ? assignment : conditional` -/
def pCond : Nat → List SToken → P
  | 0, _ => none
  | f + 1, toks =>
    (pBin f 3 toks).bind fun (c, toks1) =>
    match toks1 with
    | .punct p :: rest =>
      if p = ['?'] then
        (pAssign f rest).bind fun (t, toks2) =>
        match toks2 with
        | .punct q :: rest2 =>
          if q = [':'] then (pCond f rest2).map fun (e, toks3) => (.cond c t e, toks3) else none
        | _ => none
      else some (c, toks1)
    | _ => some (c, toks1)
/-- one left-associative level: `next (op next)*` -/
def pBin : Nat → Nat → List SToken → P
  | 0, _, _ => none
  | f + 1, level, toks =>
    if level ≥ cUnaryLevel then pUnary f toks
    else (pBin f (level + 1) toks).bind fun (l, toks1) => pBinRest f level l toks1
def pBinRest : Nat → Nat → Expr → List SToken → P
  | 0, _, _, _ => none
  | f + 1, level, l, toks =>
    match toks with
    | .punct p :: rest =>
      match binaryAtLevel level p with
      | some b => (pBin f (level + 1) rest).bind fun (r, toks1) => pBinRest f level (.bin b l r) toks1
      | none => some (l, toks)
    | _ => some (l, toks)
/-- unary-expression -/
def pUnary : Nat → List SToken → P
  | 0, _ => none
  | f + 1, toks =>
    match toks with
    | .punct p :: rest =>
      match prefixOfLexeme p with
      | some o => (pUnary f rest).map fun (e, toks1) => (.pre o e, toks1)
      | none => pPrimary f toks
    | _ => pPrimary f toks
/-- postfix-expression over a primary-expression -/
def pPrimary : Nat → List SToken → P
  | 0, _ => none
  | f + 1, toks =>
    match toks with
    | .num v :: rest => some (postfixes (.num v) rest)
    | .ident x :: rest => some (postfixes (.var x) rest)
    | .punct p :: rest =>
      if p = ['('] then
        (pAssign f rest).bind fun (e, toks1) =>
        match toks1 with
        | .punct q :: rest1 => if q = [')'] then some (postfixes e rest1) else none
        | _ => none
      else none
    | _ => none
end

/-- the tree of an expression text; `none` = not an expression -/
def parseText (s : List Char) : Option Expr :=
  let toks := lex (s.length + 1) s
  match pAssign (64 * (toks.length + 2)) toks with
  | some (e, []) => some e
  | _ => none

end YashModel.Arith.Spec
