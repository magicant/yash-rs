/-
  C03 — the Spec's parser without its fuel.  `SP c R`: the call `c` of one of the six mutually recursive functions of
  `Spec.lean` (`pAssign` … `pPrimary`) reads `R`; one rule per production of the grammar (success only: the functions'
  `none` does not tell "no parse" from "no fuel").  `SP.run_bound`: the functions reproduce a derivation with a fuel
  computed from the number of tokens it consumes — at most 15 calls lie between two consumed tokens, so the fuel
  `64 * (tokens + 2)` of `parseText` is always enough (`SP.run_assign`).  `Lift`: the operator loops of a range of levels.
-/
import YashModel.Common.Fuel
import YashModel.Arith.Spec
namespace YashModel.Arith
open YashModel.Generated.ArithTables
open Spec

inductive SCall where
  | assign (toks : List SToken)
  | cond (toks : List SToken)
  | bin (n : Nat) (toks : List SToken)
  | binRest (n : Nat) (l : Expr) (toks : List SToken)
  | unary (toks : List SToken)
  | primary (toks : List SToken)

def SCall.run (f : Nat) : SCall → P
  | .assign t => pAssign f t
  | .cond t => pCond f t
  | .bin n t => pBin f n t
  | .binRest n l t => pBinRest f n l t
  | .unary t => pUnary f t
  | .primary t => pPrimary f t

def SCall.toks : SCall → List SToken
  | .assign t | .cond t | .bin _ t | .binRest _ _ t | .unary t | .primary t => t

def SCall.eats : SCall → Nat
  | .binRest _ _ _ => 0
  | _ => 1

/-- fuel that is enough for a call that consumes `c` tokens.  Between two consumed tokens the parser descends at most once
    through its levels, one unit of fuel per call: `assign` (14 left) → `cond` (13) → `bin 3` … `bin 13` (`2 + (13 - n)`: ten
    more levels, then `unary`) → `unary` (1) → `primary` (0), which consumes a token; hence 16 per token.  An operator loop
    `binRest` first consumes its operator and then calls `bin (n+1)`, so it is paid from the next token's 16 (`+ 15`). -/
def SCall.need : SCall → Nat → Nat
  | .assign _, c => 16 * c + 14
  | .cond _, c => 16 * c + 13
  | .bin n _, c => 16 * c + 2 + (13 - n)
  | .binRest _ _ _, c => 16 * c + 15
  | .unary _, c => 16 * c + 1
  | .primary _, c => 16 * c

inductive SP : SCall → Expr × List SToken → Prop
  | assignPlain {toks l toks1} : SP (.cond toks) (l, toks1) →
      (∀ p rest, toks1 = .punct p :: rest → assignmentOfLexeme p = none) → SP (.assign toks) (l, toks1)
  | assignOp {toks l p rest b r toks2} : SP (.cond toks) (l, .punct p :: rest) → assignmentOfLexeme p = some b →
      SP (.assign rest) (r, toks2) → SP (.assign toks) (.bin b l r, toks2)
  | condPlain {toks c toks1} : SP (.bin 3 toks) (c, toks1) → (∀ rest, toks1 ≠ .punct ['?'] :: rest) → SP (.cond toks) (c, toks1)
  | condOp {toks c rest t rest2 e toks3} : SP (.bin 3 toks) (c, .punct ['?'] :: rest) →
      SP (.assign rest) (t, .punct [':'] :: rest2) → SP (.cond rest2) (e, toks3) → SP (.cond toks) (.cond c t e, toks3)
  | binUnary {n toks r} : n ≥ cUnaryLevel → SP (.unary toks) r → SP (.bin n toks) r
  | binLevel {n toks l toks1 r} : ¬ n ≥ cUnaryLevel → SP (.bin (n + 1) toks) (l, toks1) → SP (.binRest n l toks1) r →
      SP (.bin n toks) r
  | restStop {n l toks} : (∀ p rest, toks = .punct p :: rest → binaryAtLevel n p = none) → SP (.binRest n l toks) (l, toks)
  | restOp {n l p rest b r toks1 R} : binaryAtLevel n p = some b → SP (.bin (n + 1) rest) (r, toks1) →
      SP (.binRest n (.bin b l r) toks1) R → SP (.binRest n l (.punct p :: rest)) R
  | unaryPre {p rest o e toks1} : prefixOfLexeme p = some o → SP (.unary rest) (e, toks1) →
      SP (.unary (.punct p :: rest)) (.pre o e, toks1)
  | unaryPrimary {toks r} : (∀ p rest, toks = .punct p :: rest → prefixOfLexeme p = none) → SP (.primary toks) r →
      SP (.unary toks) r
  | num (v rest) : SP (.primary (.num v :: rest)) (postfixes (.num v) rest)
  | ident (x rest) : SP (.primary (.ident x :: rest)) (postfixes (.var x) rest)
  | paren {rest e rest1} : SP (.assign rest) (e, .punct [')'] :: rest1) →
      SP (.primary (.punct ['('] :: rest)) (postfixes e rest1)

theorem postfixes_length (e : Expr) (toks : List SToken) : (postfixes e toks).2.length ≤ toks.length := by
  fun_induction postfixes e toks <;> simp_all <;> omega

theorem SP.run_bound {c : SCall} {R : Expr × List SToken} (h : SP c R) :
    ∃ k, c.toks.length = R.2.length + k ∧ c.eats ≤ k ∧ ∀ g, c.need k ≤ g → c.run g = some R := by
  induction h with
  | @assignPlain toks l toks1 _ hno ih =>
    obtain ⟨k, e, a, hr⟩ := ih
    simp only [SCall.eats, SCall.need, SCall.toks, List.length_cons] at e a hr ⊢
    refine ⟨k, e, a, fun g hg => ?_⟩
    have hg' : 16 * k + 13 + 1 ≤ g := by omega
    obtain ⟨g, rfl, hg⟩ := Common.exists_succ_le hg'
    have := hr g (by omega)
    simp only [SCall.run] at this ⊢
    rw [pAssign, this]
    simp only [Option.bind_some]
    cases toks1 with
    | nil => rfl
    | cons t ts => cases t <;> simp_all
  | @assignOp toks l p rest b r toks2 _ hb _ ih1 ih2 =>
    obtain ⟨k1, e1, a1, hr1⟩ := ih1
    obtain ⟨k2, e2, a2, hr2⟩ := ih2
    simp only [SCall.eats, SCall.need, SCall.toks, List.length_cons] at e1 a1 hr1 e2 a2 hr2 ⊢
    refine ⟨k1 + 1 + k2, by omega, by omega, fun g hg => ?_⟩
    have hg' : 16 * (k1 + 1 + k2) + 13 + 1 ≤ g := by omega
    obtain ⟨g, rfl, hg⟩ := Common.exists_succ_le hg'
    have b1 := hr1 g (by omega)
    have b2 := hr2 g (by omega)
    simp only [SCall.run] at b1 b2 ⊢
    rw [pAssign, b1]
    simp only [Option.bind_some, hb]
    rw [b2]; rfl
  | @condPlain toks c toks1 _ hno ih =>
    obtain ⟨k, e, a, hr⟩ := ih
    simp only [SCall.eats, SCall.need, SCall.toks, List.length_cons] at e a hr ⊢
    refine ⟨k, e, a, fun g hg => ?_⟩
    have hg' : 16 * k + 12 + 1 ≤ g := by omega
    obtain ⟨g, rfl, hg⟩ := Common.exists_succ_le hg'
    have := hr g (by omega)
    simp only [SCall.run] at this ⊢
    rw [pCond, this]
    simp only [Option.bind_some]
    cases toks1 with
    | nil => rfl
    | cons t ts =>
      cases t with
      | punct p =>
        have : p ≠ ['?'] := fun e => hno ts (by rw [e])
        simp [this]
      | _ => rfl
  | @condOp toks c rest t rest2 e toks3 _ _ _ ih1 ih2 ih3 =>
    obtain ⟨k1, e1, a1, hr1⟩ := ih1
    obtain ⟨k2, e2, a2, hr2⟩ := ih2
    obtain ⟨k3, e3, a3, hr3⟩ := ih3
    simp only [SCall.eats, SCall.need, SCall.toks, List.length_cons] at e1 a1 hr1 e2 a2 hr2 e3 a3 hr3 ⊢
    refine ⟨k1 + 1 + k2 + 1 + k3, by omega, by omega, fun g hg => ?_⟩
    have hg' : 16 * (k1 + 1 + k2 + 1 + k3) + 12 + 1 ≤ g := by omega
    obtain ⟨g, rfl, hg⟩ := Common.exists_succ_le hg'
    have b1 := hr1 g (by omega)
    have b2 := hr2 g (by omega)
    have b3 := hr3 g (by omega)
    simp only [SCall.run] at b1 b2 b3 ⊢
    rw [pCond, b1]
    simp only [Option.bind_some, if_true]
    rw [b2]
    simp only [Option.bind_some, if_true]
    rw [b3]; rfl
  | @binUnary n toks r hn _ ih =>
    obtain ⟨k, e, a, hr⟩ := ih
    simp only [SCall.eats, SCall.need, SCall.toks, List.length_cons] at e a hr ⊢
    refine ⟨k, e, a, fun g hg => ?_⟩
    have hn' : 13 ≤ n := hn
    have hg' : 16 * k + 1 + 1 ≤ g := by omega
    obtain ⟨g, rfl, hg⟩ := Common.exists_succ_le hg'
    have := hr g (by omega)
    simp only [SCall.run] at this ⊢
    rw [pBin, if_pos hn, this]
  | @binLevel n toks l toks1 r hn _ _ ih1 ih2 =>
    obtain ⟨k1, e1, a1, hr1⟩ := ih1
    obtain ⟨k2, e2, a2, hr2⟩ := ih2
    simp only [SCall.eats, SCall.need, SCall.toks, List.length_cons] at e1 a1 hr1 e2 a2 hr2 ⊢
    have hn' : n < 13 := by unfold cUnaryLevel at hn; omega
    refine ⟨k1 + k2, by omega, by omega, fun g hg => ?_⟩
    have hg' : 16 * (k1 + k2) + 1 + (13 - n) + 1 ≤ g := by omega
    obtain ⟨g, rfl, hg⟩ := Common.exists_succ_le hg'
    have b1 := hr1 g (by omega)
    have b2 := hr2 g (by omega)
    simp only [SCall.run] at b1 b2 ⊢
    rw [pBin, if_neg hn, b1]
    simp only [Option.bind_some]
    exact b2
  | @restStop n l toks hno =>
    simp only [SCall.eats, SCall.need, SCall.toks] at *
    refine ⟨0, rfl, Nat.le_refl _, fun g hg => ?_⟩
    have hg' : 14 + 1 ≤ g := by omega
    obtain ⟨g, rfl, _⟩ := Common.exists_succ_le hg'
    simp only [SCall.run]
    cases toks with
    | nil => rfl
    | cons t ts =>
      cases t with
      | punct p => rw [pBinRest]; simp only [hno p ts rfl]
      | _ => rfl
  | @restOp n l p rest b r toks1 R hb _ _ ih1 ih2 =>
    obtain ⟨k1, e1, a1, hr1⟩ := ih1
    obtain ⟨k2, e2, a2, hr2⟩ := ih2
    simp only [SCall.eats, SCall.need, SCall.toks, List.length_cons] at e1 a1 hr1 e2 a2 hr2 ⊢
    refine ⟨1 + k1 + k2, by omega, Nat.zero_le _, fun g hg => ?_⟩
    have hg' : 16 * (1 + k1 + k2) + 14 + 1 ≤ g := by omega
    obtain ⟨g, rfl, hg⟩ := Common.exists_succ_le hg'
    have b1 := hr1 g (by omega)
    have b2 := hr2 g (by omega)
    simp only [SCall.run] at b1 b2 ⊢
    rw [pBinRest]
    simp only [hb]
    rw [b1]
    simp only [Option.bind_some]
    exact b2
  | @unaryPre p rest o e toks1 ho _ ih =>
    obtain ⟨k, e, a, hr⟩ := ih
    simp only [SCall.eats, SCall.need, SCall.toks, List.length_cons] at e a hr ⊢
    refine ⟨k + 1, by omega, by omega, fun g hg => ?_⟩
    have hg' : 16 * (k + 1) + 1 ≤ g := by omega
    obtain ⟨g, rfl, hg⟩ := Common.exists_succ_le hg'
    have := hr g (by omega)
    simp only [SCall.run] at this ⊢
    rw [pUnary]
    simp only [ho]
    rw [this]; rfl
  | @unaryPrimary toks r hno _ ih =>
    obtain ⟨k, e, a, hr⟩ := ih
    simp only [SCall.eats, SCall.need, SCall.toks, List.length_cons] at e a hr ⊢
    refine ⟨k, e, a, fun g hg => ?_⟩
    have hg' : 16 * k + 1 ≤ g := by omega
    obtain ⟨g, rfl, hg⟩ := Common.exists_succ_le hg'
    have := hr g (by omega)
    simp only [SCall.run] at this ⊢
    cases toks with
    | nil => simp only [pUnary]; exact this
    | cons t ts =>
      cases t with
      | punct p => simp only [pUnary, hno p ts rfl]; exact this
      | _ => simp only [pUnary]; exact this
  | num v rest =>
    have := postfixes_length (.num v) rest
    simp only [SCall.eats, SCall.need, SCall.toks, List.length_cons] at *
    refine ⟨rest.length - (postfixes (.num v) rest).2.length + 1, by omega,
      by omega, fun g hg => ?_⟩
    have hg' : 0 + 1 ≤ g := by omega
    obtain ⟨g, rfl, _⟩ := Common.exists_succ_le hg'
    rfl
  | ident x rest =>
    have := postfixes_length (.var x) rest
    simp only [SCall.eats, SCall.need, SCall.toks, List.length_cons] at *
    refine ⟨rest.length - (postfixes (.var x) rest).2.length + 1, by omega,
      by omega, fun g hg => ?_⟩
    have hg' : 0 + 1 ≤ g := by omega
    obtain ⟨g, rfl, _⟩ := Common.exists_succ_le hg'
    rfl
  | @paren rest e rest1 _ ih =>
    obtain ⟨k, e1, a, hr⟩ := ih
    simp only [SCall.eats, SCall.need, SCall.toks, List.length_cons] at e1 a hr ⊢
    have := postfixes_length e rest1
    refine ⟨k + 2 + (rest1.length - (postfixes e rest1).2.length), by omega,
      by omega, fun g hg => ?_⟩
    have hg' : 16 * k + 14 + 1 ≤ g := by omega
    obtain ⟨g, rfl, hg⟩ := Common.exists_succ_le hg'
    have b := hr g (by omega)
    simp only [SCall.run] at b ⊢
    rw [pPrimary]
    simp only [if_true]
    rw [b]
    simp

/-- a whole text: a fuel of 64 per token (and 32) is enough for whatever `SP` derives; `parseText` gives `64 * (tokens + 2)` -/
theorem SP.run_assign {toks : List SToken} {e : Expr} (h : SP (.assign toks) (e, [])) {f : Nat}
    (hf : 64 * toks.length + 32 ≤ f) : pAssign f toks = some (e, []) := by
  obtain ⟨k, e1, _, hr⟩ := h.run_bound
  simp only [SCall.toks, SCall.need, SCall.run, List.length_nil] at e1 hr
  exact hr f (by omega)

/-- the operator loops of the levels `n+j-1 … n`, applied to a parsed operand -/
inductive Lift : Nat → Nat → Expr × List SToken → Expr × List SToken → Prop
  | zero (n x) : Lift n 0 x x
  | succ {n j x l t R} : Lift (n + 1) j x (l, t) → SP (.binRest n l t) R → Lift n (j + 1) x R

theorem bin_lift {j : Nat} : ∀ {n : Nat} {toks : List SToken} {x R : Expr × List SToken}, n + j ≤ 13 →
    SP (.bin (n + j) toks) x → Lift n j x R → SP (.bin n toks) R := by
  induction j with
  | zero => intro n toks x R _ hx hL; cases hL; exact hx
  | succ j ih =>
    intro n toks x R hn hx hL
    cases hL with
    | succ h1 h2 =>
      refine .binLevel (by unfold cUnaryLevel; omega) (ih (by omega) ?_ h1) h2
      have e : n + 1 + j = n + (j + 1) := by omega
      rw [e]; exact hx

theorem lift_split (j1 : Nat) : ∀ {n j2 : Nat} {x R : Expr × List SToken}, Lift n (j1 + j2) x R →
    ∃ y, Lift (n + j1) j2 x y ∧ Lift n j1 y R := by
  induction j1 with
  | zero => intro n j2 x R h; exact ⟨R, by simpa using h, .zero _ _⟩
  | succ j1 ih =>
    intro n j2 x R h
    have e : j1 + 1 + j2 = (j1 + j2) + 1 := by omega
    rw [e] at h
    cases h with
    | succ h1 h2 =>
      obtain ⟨y, hy1, hy2⟩ := ih h1
      have e2 : n + 1 + j1 = n + (j1 + 1) := by omega
      exact ⟨y, e2 ▸ hy1, .succ hy2 h2⟩

theorem lift_join {j1 : Nat} : ∀ {n j2 : Nat} {x y R : Expr × List SToken}, Lift (n + j1) j2 x y → Lift n j1 y R →
    Lift n (j1 + j2) x R := by
  induction j1 with
  | zero => intro n j2 x y R h1 h2; cases h2; simpa using h1
  | succ j1 ih =>
    intro n j2 x y R h1 h2
    cases h2 with
    | succ h3 h4 =>
      have e2 : n + (j1 + 1) = n + 1 + j1 := by omega
      have e : j1 + 1 + j2 = (j1 + j2) + 1 := by omega
      rw [e]
      exact .succ (ih (e2 ▸ h1) h3) h4

end YashModel.Arith
