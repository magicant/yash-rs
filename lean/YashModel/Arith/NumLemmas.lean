/-
  C03 — numerals: `parse_integer` (the text of a variable value) reads exactly the signed C integer constants of the
  Spec, for every string (`parseInteger_eq_spec`); the tokenizer's constants are the Spec's (`parseConstant_eq_spec`);
  hence a constant has the same value as a variable text (`parseInteger_of_constant`).
-/
import YashModel.Arith.Int64
namespace YashModel.Arith

theorem char_le_iff (a b : Char) : a ≤ b ↔ a.toNat ≤ b.toNat := by
  rw [Char.le_def]; exact UInt32.le_iff_toNat_le

theorem char_eq_iff (a b : Char) : a = b ↔ a.toNat = b.toNat :=
  ⟨fun h => by rw [h], fun h => Char.toNat_inj.mp h⟩

/-- the seven characters the definitions of Model and Spec compare with -/
theorem code_points : ('0'.toNat = 48) ∧ ('9'.toNat = 57) ∧ ('a'.toNat = 97) ∧ ('z'.toNat = 122) ∧ ('A'.toNat = 65) ∧
    ('Z'.toNat = 90) ∧ ('_'.toNat = 95) := by decide

theorem toDigit_alnum (a : Char) (radix d : Nat) (h : toDigit a radix = some d) (hr : radix ≤ 36) :
    isAsciiAlnum a = true := by
  unfold toDigit at h
  unfold isAsciiAlnum isAsciiDigit
  simp only [Bool.and_eq_true, decide_eq_true_eq, Bool.or_eq_true] at *
  by_cases h1 : 48 ≤ a.toNat ∧ a.toNat ≤ 57
  · exact Or.inl (Or.inl h1)
  · by_cases h2 : 97 ≤ a.toNat ∧ a.toNat ≤ 122
    · exact Or.inr h2
    · by_cases h3 : 65 ≤ a.toNat ∧ a.toNat ≤ 90
      · exact Or.inl (Or.inr h3)
      · simp only [h1, h2, h3, if_false] at h
        split at h
        · omega
        · simp at h

theorem toDigit_eq (c : Char) (radix : Nat) (hr : radix ≤ 36) :
    toDigit c radix = if Spec.digitOf c < radix then some (Spec.digitOf c) else none := by
  unfold toDigit Spec.digitOf
  obtain ⟨h0, h9, ha, hz, hA, hZ, _⟩ := code_points
  simp only [char_le_iff, Bool.and_eq_true, decide_eq_true_eq, h0, h9, ha, hz, hA, hZ]
  -- a digit, a small letter, a capital letter, or none of them: the two definitions subtract different constants
  by_cases h1 : 48 ≤ c.toNat ∧ c.toNat ≤ 57
  · simp only [h1, and_self, if_true]
  · by_cases h2 : 97 ≤ c.toNat ∧ c.toNat ≤ 122
    · simp only [h1, h2, and_self, if_true, if_false]
      have : c.toNat - 87 = c.toNat - 97 + 10 := by omega
      rw [this]
    · by_cases h3 : 65 ≤ c.toNat ∧ c.toNat ≤ 90
      · simp only [h1, h2, h3, and_self, if_true, if_false]
        have : c.toNat - 55 = c.toNat - 65 + 10 := by omega
        rw [this]
      · simp only [h1, h2, h3, if_false]
        have a1 : ¬ (36 < radix) := by omega
        have a2 : ¬ (99 < radix) := by omega
        simp [a1, a2]

theorem parseDigits_eq (radix : Nat) (hr : radix ≤ 36) (s : List Char) (acc : Nat) :
    parseDigits radix s acc =
      if s.all (fun c => decide (Spec.digitOf c < radix)) then
        some (s.foldl (fun a c => a * radix + Spec.digitOf c) acc)
      else none := by
  induction s generalizing acc with
  | nil => simp [parseDigits]
  | cons c cs ih =>
    rw [parseDigits, toDigit_eq c radix hr]
    by_cases h : Spec.digitOf c < radix
    · simp only [h, if_true, ih, List.all_cons, decide_true, Bool.true_and, List.foldl_cons]
    · simp [h]

theorem parseNat_eq (radix : Nat) (hr : radix ≤ 36) (s : List Char) :
    parseNat radix s = Spec.digitsValue radix s := by
  unfold parseNat Spec.digitsValue
  cases s with
  | nil => simp
  | cons c cs =>
    rw [parseDigits_eq radix hr]
    simp

theorem radixSplit_le (m : List Char) : (radixSplit m).2 ≤ 36 := by
  unfold radixSplit; split
  · simp
  · split
    · simp
    · split <;> simp

/-- the Spec's pattern match and the code's two `strip_prefix` tests look at the same first two characters: no character,
    one (`0` or not), two (`0X`, `0x`, `0` and another, no `0`) -/
theorem constMagnitude_eq (m : List Char) :
    Spec.constMagnitude m = Spec.digitsValue (radixSplit m).2 (radixSplit m).1 := by
  unfold radixSplit stripPrefix
  match m with
  | [] => simp [Spec.constMagnitude]
  | [a] =>
    by_cases h0 : a = '0'
    · subst h0; simp [Spec.constMagnitude, List.isPrefixOf]
    · have h0' : ¬ '0' = a := fun e => h0 e.symm
      simp only [List.isPrefixOf, h0, h0']
      unfold Spec.constMagnitude
      split <;> simp_all
  | a :: b :: t =>
    by_cases h0 : a = '0'
    · subst h0
      by_cases hX : b = 'X'
      · subst hX; simp [Spec.constMagnitude, List.isPrefixOf]
      · by_cases hx : b = 'x'
        · subst hx; simp [Spec.constMagnitude, List.isPrefixOf]
        · have hX' : ¬ 'X' = b := fun e => hX e.symm
          have hx' : ¬ 'x' = b := fun e => hx e.symm
          unfold Spec.constMagnitude
          split <;> simp_all [List.isPrefixOf]
    · have h0' : ¬ '0' = a := fun e => h0 e.symm
      unfold Spec.constMagnitude
      split <;> simp_all [List.isPrefixOf]

theorem digitsValue_none_of_head (base : Nat) (hb : base ≤ 36) (ds : List Char)
    (h : ¬ (ds.head?.any isAsciiAlnum = true)) : Spec.digitsValue base ds = none := by
  cases ds with
  | nil => simp [Spec.digitsValue]
  | cons c t =>
    have hc : ¬ (Spec.digitOf c < base) := by
      intro hlt
      have := toDigit_eq c base hb
      rw [if_pos hlt] at this
      exact h (by simpa using toDigit_alnum c base _ this hb)
    simp [Spec.digitsValue, hc]

theorem fromStrRadix_neg (ds : List Char) (radix : Nat) :
    fromStrRadix ('-' :: ds) radix = (parseNat radix ds).bind fun n => checked (-(n : Int)) := by
  simp only [fromStrRadix, List.head?_cons, if_true, List.tail_cons]
  cases parseNat radix ds <;> rfl

theorem fromStrRadix_nosign (ds : List Char) (radix : Nat)
    (h : ds.head? ≠ some '-' ∧ ds.head? ≠ some '+') :
    fromStrRadix ds radix = (parseNat radix ds).bind fun n => checked (n : Int) := by
  unfold fromStrRadix
  simp only [h.1, h.2, if_false]
  cases parseNat radix ds <;> rfl

theorem nosign_of_head {ds : List Char} {p : Char → Bool} (hm : p '-' = false) (hp : p '+' = false)
    (h : ∀ c, ds.head? = some c → p c = true) : ds.head? ≠ some '-' ∧ ds.head? ≠ some '+' :=
  ⟨fun e => Bool.noConfusion ((h _ e).symm.trans hm), fun e => Bool.noConfusion ((h _ e).symm.trans hp)⟩

/-- the digits with or without the `-` that `parse_integer` puts back in front of them -/
theorem fromStrRadix_signed (neg : Prop) [Decidable neg] (ds : List Char) (radix : Nat)
    (h : ds.head?.any isAsciiAlnum = true) :
    fromStrRadix (if neg then '-' :: ds else ds) radix =
      (parseNat radix ds).bind fun n => checked (if neg then -(n : Int) else n) := by
  by_cases hn : neg
  · simp only [if_pos hn]; exact fromStrRadix_neg ds radix
  · simp only [if_neg hn]
    exact fromStrRadix_nosign ds radix
      (nosign_of_head (p := isAsciiAlnum) (by decide) (by decide) fun c hc => by rw [hc] at h; exact h)

/-- `parse_integer` after its sign, against the Spec's magnitude: the same radix rules, the same range check -/
theorem magnitude_eq (neg : Prop) [Decidable neg] (m : List Char) :
    (if (radixSplit m).1.head?.any isAsciiAlnum then
      fromStrRadix (if neg then '-' :: (radixSplit m).1 else (radixSplit m).1) (radixSplit m).2 else none) =
    (Spec.constMagnitude m).bind fun n => Spec.represent (if neg then -(n : Int) else n) := by
  rw [constMagnitude_eq]
  have hr := radixSplit_le m
  generalize (radixSplit m).1 = ds at *
  generalize (radixSplit m).2 = r at *
  by_cases h : ds.head?.any isAsciiAlnum = true
  · rw [if_pos h, fromStrRadix_signed neg ds r h, parseNat_eq r hr, checked_fun]
  · rw [if_neg h, digitsValue_none_of_head r hr ds h]; rfl

theorem signedConstValue_nosign (s : List Char) (h : s.head? ≠ some '-' ∧ s.head? ≠ some '+') :
    Spec.signedConstValue s = Spec.constValue s := by
  unfold Spec.signedConstValue
  split
  · exact absurd rfl h.1
  · exact absurd rfl h.2
  · rfl

/-- for EVERY string: the value the code gives a variable text is the value of the signed C integer
    constant it spells, and an error exactly when it is not one (or does not fit i64). -/
theorem parseInteger_eq_spec (s : List Char) : parseInteger s = Spec.signedConstValue s := by
  have key := magnitude_eq (s.head? = some '-')
  cases s with
  | nil => simpa [parseInteger, Spec.signedConstValue, Spec.constValue] using key []
  | cons c t =>
    by_cases hm : c = '-'
    · subst hm
      simpa [parseInteger, Spec.signedConstValue] using key t
    · by_cases hp : c = '+'
      · subst hp
        simpa [parseInteger, Spec.signedConstValue, Spec.constValue] using key t
      · rw [signedConstValue_nosign (c :: t) ⟨by simpa using hm, by simpa using hp⟩]
        simpa [parseInteger, hm, hp, Spec.constValue] using key (c :: t)

theorem parseConstant_eq_radixSplit (token : List Char) :
    parseConstant token = fromStrRadix (radixSplit token).1 (radixSplit token).2 := by
  unfold parseConstant radixSplit
  cases stripPrefix ['0', 'X'] token with
  | some ds => rfl
  | none =>
    cases stripPrefix ['0', 'x'] token with
    | some ds => rfl
    | none =>
      simp only
      split <;> rfl

theorem radixSplit_term (token : List Char) (hterm : ∀ c ∈ token, isTermChar c = true) :
    ∀ c ∈ (radixSplit token).1, isTermChar c = true := by
  unfold radixSplit stripPrefix
  split
  · rename_i ds h
    split at h
    · injection h with h; subst h
      intro c hc; exact hterm c (List.mem_of_mem_drop hc)
    · simp at h
  · split
    · rename_i ds h
      split at h
      · injection h with h; subst h
        intro c hc; exact hterm c (List.mem_of_mem_drop hc)
      · simp at h
    · split <;> exact hterm

/-- for every term made of term characters: the tokenizer's value of a numeric constant is the C value of
    the literal (`0x`/`0X` hex, leading `0` octal, decimal), and there is NO value — a token error — exactly
    when the literal is malformed or its value does not fit i64: never a wrapped value -/
theorem parseConstant_eq_spec (token : List Char) (hterm : ∀ c ∈ token, isTermChar c = true) :
    parseConstant token = Spec.constValue token := by
  rw [parseConstant_eq_radixSplit]
  unfold Spec.constValue
  rw [constMagnitude_eq]
  have hr := radixSplit_le token
  have hds := radixSplit_term token hterm
  generalize (radixSplit token).1 = ds at *
  generalize (radixSplit token).2 = r at *
  have hns : ds.head? ≠ some '-' ∧ ds.head? ≠ some '+' :=
    nosign_of_head (p := isTermChar) (by decide) (by decide) fun c hc => hds c (List.mem_of_mem_head? hc)
  rw [fromStrRadix_nosign ds r hns, parseNat_eq r hr, checked_fun]

theorem signedConstValue_of_term (s : List Char) (hterm : ∀ ch ∈ s, isTermChar ch = true) :
    Spec.signedConstValue s = Spec.constValue s :=
  signedConstValue_nosign s
    (nosign_of_head (p := isTermChar) (by decide) (by decide) fun c hc => hterm c (List.mem_of_mem_head? hc))

theorem parseInteger_of_constant (c : List Char) (v : Int)
    (hterm : ∀ ch ∈ c, isTermChar ch = true) (h : parseConstant c = some v) :
    parseInteger c = some v := by
  rw [parseInteger_eq_spec, signedConstValue_of_term c hterm, ← parseConstant_eq_spec c hterm, h]

end YashModel.Arith
