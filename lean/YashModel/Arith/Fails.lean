/-
  C03 — the Spec's cause lists: `Spec.fails e env` is empty exactly when `Spec.evalExact e env` has a value
  (`admissible_causes_iff_no_value`).  Node by node the two definitions have the same shape; the shapes that occur more than
  once are `incdec_iff` (`++x --x x++ x--`), `operation_iff` (an operation on two values) and `fails_cases` (an operand that is
  looked at first).
-/
import YashModel.Arith.SemMain
import YashModel.Arith.BinaryResult
namespace YashModel.Arith
open YashModel.Generated.ArithTables

open Spec in
theorem why_none_iff_arith (op : BinaryOperator) (a b : Int) :
    why (arithOf op) a b = none ↔ (arith op a b).isSome := by
  rw [why_none_iff]
  unfold arith definedOp exactOp
  by_cases h : definedA (arithOf op) a b ∧ InRange (exactA (arithOf op) a b) <;> simp [h]

open Spec in
theorem fails_cases {x : Expr} {env : Env} (h : fails x env = [] ↔ (evalExact x env).isSome) :
    (fails x env = [] ∧ ∃ v env1, evalExact x env = some (v, env1)) ∨
    ((∃ a t, fails x env = a :: t) ∧ evalExact x env = none) := by
  cases hx : evalExact x env with
  | some p => exact Or.inl ⟨h.mpr (by rw [hx]; rfl), p.1, p.2, rfl⟩
  | none =>
    cases hf : fails x env with
    | nil => have := h.mp hf; rw [hx] at this; cases this
    | cons a t => exact Or.inr ⟨⟨a, t, rfl⟩, rfl⟩

open Spec in
theorem incdec_iff {α : Type} (o : Option Int) (w : Int → Int) (g : Int → Int → α) :
    (match o with
      | none => [Fail.value]
      | some v => if (represent (w v)).isNone then [Fail.reason .unrepresentable] else []) = [] ↔
      (o.bind fun v => (represent (w v)).map (g v)).isSome := by
  cases o with
  | none => simp
  | some v => cases h : represent (w v) <;> simp [h]

open Spec in
theorem operation_iff {α : Type} (op : BinaryOperator) (a b : Int) (g : Int → α) :
    (match why (arithOf op) a b with
      | some q => [Fail.reason q]
      | none => []) = [] ↔ ((arith op a b).map g).isSome := by
  rw [Option.isSome_map, ← why_none_iff_arith]
  cases why (arithOf op) a b <;> simp

open Spec in
/-- `||` and `&&`: the condition under which `Spec.fails` does not look at the right operand is `lazyStop` -/
theorem lazy_skips {op : BinaryOperator} (h : op = .LogicalOr ∨ op = .LogicalAnd) (a : Int) :
    ((op = .LogicalOr ∧ a ≠ 0) ∨ (op = .LogicalAnd ∧ a = 0)) ↔ (lazyStop op a).isSome := by
  rcases h with rfl | rfl <;> by_cases ha : a = 0 <;> simp [lazyStop, ha]

/-- ☆ `Spec.fails e env` — the set of causes ISO C admits for the failure of the tree `e` (every failing operand of
    an unsequenced operator in any order; left-first for `|| && ?:`; an operation's own reason only when its
    operands have values; computed on the tree, independent of the code's evaluation order) — is empty EXACTLY
    when the Spec gives `e` a value, for every tree with literals in i64 and every environment.  So the Spec
    column's verdict on a failing case (`the reported cause ∈ Spec.fails`) is never vacuous and never contradicts
    its verdict on values; it is a singleton whenever only one operand or operation fails. -/
theorem admissible_causes_iff_no_value (e : Spec.Expr) (env : Env) (hl : litsInRange e) :
    Spec.fails e env = [] ↔ (Spec.evalExact e env).isSome := by
  open Spec in
  induction e generalizing env with
  | num v => simp [fails, evalExact_num hl]
  | var x =>
    simp only [fails, evalExact]
    cases readVar env x <;> simp
  | pre op e ih =>
    have ih' := ih env hl
    by_cases hop : op = .Increment ∨ op = .Decrement
    · rcases var_or_not e with ⟨x, rfl⟩ | hne
      · rw [evalExact_pre_incdec_var op x env hop]
        have hf : fails (.pre op (.var x)) env =
            (match readVar env x with
              | none => [Fail.value]
              | some v =>
                if (represent (if op = .Increment then v + 1 else v - 1)).isNone then [Fail.reason .unrepresentable] else []) := by
          rcases hop with rfl | rfl <;> rfl
        rw [hf]; exact incdec_iff _ (fun v => if op = .Increment then v + 1 else v - 1) _
      · rw [evalExact_pre_incdec_nonvar op e env hop hne]
        have hf : fails (.pre op e) env = .notLvalue :: fails e env := by
          rcases hop with rfl | rfl <;> cases e <;> first | rfl | exact absurd rfl (hne _)
        rw [hf]; simp
    · cases op with
      | Increment => exact absurd (Or.inl rfl) hop
      | Decrement => exact absurd (Or.inr rfl) hop
      | NumericCoercion => simpa [fails, evalExact] using ih'
      | LogicalNegation => simpa [fails, evalExact] using ih'
      | BitwiseNegation => simpa [fails, evalExact] using ih'
      | NumericNegation =>
        simp only [fails, evalExact]
        rcases fails_cases ih' with ⟨hf, v, env1, hx⟩ | ⟨⟨a, t, hf⟩, hx⟩
        · simp only [hf, hx, Option.bind_some, Option.isSome_map]
          cases represent (-v) <;> simp
        · simp [hf, hx]
  | post op e ih =>
    rcases var_or_not e with ⟨x, rfl⟩ | hne
    · rw [evalExact_post_var op x env]
      exact incdec_iff _ _ _
    · rw [evalExact_post_nonvar op e env hne]
      have hf : fails (.post op e) env = .notLvalue :: fails e env := by
        cases e <;> first | rfl | exact absurd rfl (hne _)
      rw [hf]; simp
  | cond c t e ihc iht ihe =>
    obtain ⟨hlc, hlt, hle⟩ := hl
    simp only [fails, evalExact]
    rcases fails_cases (ihc env hlc) with ⟨hf, a, env1, hx⟩ | ⟨⟨a, t', hf⟩, hx⟩
    · simp only [hf, hx, Option.bind_some]
      by_cases ha : a ≠ 0
      · simp only [if_pos ha]; exact iht env1 hlt
      · simp only [if_neg ha]; exact ihe env1 hle
    · simp [hf, hx]
  | bin op l r ihl ihr =>
    obtain ⟨hll, hlr⟩ := hl
    by_cases hlazy : op = .LogicalOr ∨ op = .LogicalAnd
    · -- sequenced: the right operand counts only when the left one has a value that does not decide
      rw [evalExact_lazy hlazy]
      simp only [fails, if_pos hlazy]
      rcases fails_cases (ihl env hll) with ⟨hf, a, env1, hx⟩ | ⟨⟨a, t, hf⟩, hx⟩
      · simp only [hf, hx, Option.bind_some]
        cases hs : lazyStop op a with
        | some w => rw [if_pos ((lazy_skips hlazy a).mpr (by rw [hs]; rfl))]; simp
        | none =>
          rw [if_neg fun hc => by have := (lazy_skips hlazy a).mp hc; rw [hs] at this; cases this]
          simp only [Option.isSome_map]; exact ihr env1 hlr
      · simp [hf, hx]
    · have h1 : op ≠ .LogicalOr := fun h => hlazy (Or.inl h)
      have h2 : op ≠ .LogicalAnd := fun h => hlazy (Or.inr h)
      cases hk : kindOf op with
      | plain =>
        -- unsequenced: both operands count, the operation itself only when both have values
        rw [evalExact_bin_plain op l r env h1 h2 hk]
        simp only [fails, if_neg hlazy, hk]
        rcases fails_cases (ihl env hll) with ⟨hfl, a, env1, hx⟩ | ⟨⟨a, t, hfl⟩, hx⟩
        · simp only [hx, hfl, List.isEmpty_nil, true_and, List.nil_append, Option.bind_some]
          rcases fails_cases (ihr env1 hlr) with ⟨hfr, b, env2, hy⟩ | ⟨⟨a', t, hfr⟩, hy⟩
          · simp only [hy, hfr, List.isEmpty_nil, if_true, Option.bind_some]
            exact operation_iff op a b _
          · simp [hy, hfr]
        · simp [hx, hfl]
      | assign =>
        rcases var_or_not l with ⟨x, rfl⟩ | hne
        · rw [evalExact_bin_assign_var op x r env hk]
          simp only [fails, if_neg hlazy, hk, Option.isSome_map]; exact ihr env hlr
        · rw [evalExact_bin_lvalue_nonvar op l r env (by rw [hk]; decide) hne]
          cases l <;> first | exact absurd rfl (hne _) | simp [fails, hlazy, hk]
      | compound =>
        rcases var_or_not l with ⟨x, rfl⟩ | hne
        · rw [evalExact_bin_compound_var op x r env hk]
          simp only [fails, if_neg hlazy, hk]
          cases hrd : readVar env x with
          | none => simp
          | some a =>
            simp only [Option.isNone_some, Bool.false_eq_true, if_false, List.isEmpty_nil, true_and, List.nil_append,
              Option.bind_some]
            rcases fails_cases (ihr env hlr) with ⟨hfr, b, env2, hy⟩ | ⟨⟨a', t, hfr⟩, hy⟩
            · simp only [hy, hfr, List.isEmpty_nil, if_true, Option.bind_some]
              exact operation_iff op a b _
            · simp [hy, hfr]
        · rw [evalExact_bin_lvalue_nonvar op l r env (by rw [hk]; decide) hne]
          cases l <;> first | exact absurd rfl (hne _) | simp [fails, hlazy, hk]
end YashModel.Arith
