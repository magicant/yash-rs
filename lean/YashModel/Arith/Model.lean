/-
  C03 — Impl model of yash-arith (`/repo/yash-arith/src/{token,ast,eval,env,lib}.rs`).

  Transcription rules: `&mut Vec<Ast>` is a returned `List Ast` (push = append at the end, same layout:
  reverse Polish with stored operand lengths); `PeekableTokens` is the (pure) token list of the source
  — `peek` is `head`, `next` is `head` + `tail`, a tokenizer error is the token `.err` which aborts the
  parse whenever it is consumed; i64 values are `Int`s together with `InRange`, `checked_*` is
  "exact result if in range, else none" (the contract of the Rust standard library), bit operations
  go through `BitVec 64`; slices of the AST vector are `take`/`drop` with the Rust bounds checks made
  explicit (`Res.panic`); loops and recursion take fuel (`Res.fuel` / `SynErr.fuel`, never reached
  with the fuel `evalStr` supplies — the correspondence run would show it).
  The operator tables come from `YashModel.Generated.ArithTables` (re-extracted on every run).
-/
import YashModel.Generated.ArithTables
namespace YashModel.Arith
open YashModel.Generated.ArithTables

abbrev Name := List Char

/-! ## i64 -/

/-- the values of `i64` -/
def InRange (x : Int) : Prop := -9223372036854775808 ≤ x ∧ x ≤ 9223372036854775807

instance (x : Int) : Decidable (InRange x) := by unfold InRange; exact inferInstance

/-- result of a `checked_*` operation whose mathematically exact result is `x` -/
def checked (x : Int) : Option Int := if InRange x then some x else none

/-- two's complement wrap to 64 bits (`wrapping_*`) -/
def wrap64 (x : Int) : Int := (x + 9223372036854775808) % 18446744073709551616 - 9223372036854775808

/-- `lhs | rhs` on i64 -/
def bitOr (l r : Int) : Int := (BitVec.ofInt 64 l ||| BitVec.ofInt 64 r).toInt
/-- `lhs ^ rhs` on i64 -/
def bitXor (l r : Int) : Int := (BitVec.ofInt 64 l ^^^ BitVec.ofInt 64 r).toInt
/-- `lhs & rhs` on i64 -/
def bitAnd (l r : Int) : Int := (BitVec.ofInt 64 l &&& BitVec.ofInt 64 r).toInt
/-- `!value` on i64 -/
def bitNot (v : Int) : Int := (~~~ BitVec.ofInt 64 v).toInt

/-! ## characters and numeric text (std: `char::is_whitespace`, `to_digit`, `from_str_radix`) -/

/-- Rust `char::is_whitespace` (Unicode `White_Space`) -/
def isWhitespace (c : Char) : Bool :=
  let n := c.toNat
  (9 ≤ n && n ≤ 13) || n == 32 || n == 0x85 || n == 0xA0 || n == 0x1680 || (0x2000 ≤ n && n ≤ 0x200A)
    || n == 0x2028 || n == 0x2029 || n == 0x202F || n == 0x205F || n == 0x3000

def isAsciiDigit (c : Char) : Bool := 48 ≤ c.toNat && c.toNat ≤ 57

/-- `char::is_ascii_alphanumeric`; for ASCII also `char::is_alphanumeric` (the non-ASCII alphanumerics are the
    parameter `extra` of `Unicode.lean`) -/
def isAsciiAlnum (c : Char) : Bool :=
  isAsciiDigit c || (65 ≤ c.toNat && c.toNat ≤ 90) || (97 ≤ c.toNat && c.toNat ≤ 122)

/-- characters of a term: `c.is_alphanumeric() || c == '_'` -/
def isTermChar (c : Char) : Bool := isAsciiAlnum c || c == '_'

/-- `char::to_digit(radix)` for radix ≤ 36 -/
def toDigit (c : Char) (radix : Nat) : Option Nat :=
  let n := c.toNat
  let d := if 48 ≤ n && n ≤ 57 then n - 48
    else if 97 ≤ n && n ≤ 122 then n - 87
    else if 65 ≤ n && n ≤ 90 then n - 55
    else 36
  if d < radix then some d else none

def parseDigits (radix : Nat) : List Char → Nat → Option Nat
  | [], acc => some acc
  | c :: cs, acc =>
    match toDigit c radix with
    | none => none
    | some d => parseDigits radix cs (acc * radix + d)

/-- non-empty digit string to its value -/
def parseNat (radix : Nat) (s : List Char) : Option Nat :=
  if s.isEmpty then none else parseDigits radix s 0

/-- `i64::from_str_radix` (optional sign, at least one digit, value must fit) -/
def fromStrRadix (s : List Char) (radix : Nat) : Option Int :=
  if s.head? = some '-' then
    match parseNat radix s.tail with
    | none => none
    | some n => checked (-(n : Int))
  else if s.head? = some '+' then
    match parseNat radix s.tail with
    | none => none
    | some n => checked (n : Int)
  else
    match parseNat radix s with
    | none => none
    | some n => checked (n : Int)

/-- `str::strip_prefix` -/
def stripPrefix (p s : List Char) : Option (List Char) :=
  if p.isPrefixOf s then some (s.drop p.length) else none

/-- the radix rules of `Tokens::next_token` for a term that starts with an ASCII digit -/
def parseConstant (token : List Char) : Option Int :=
  match stripPrefix ['0', 'X'] token with
  | some ds => fromStrRadix ds 16
  | none =>
    match stripPrefix ['0', 'x'] token with
    | some ds => fromStrRadix ds 16
    | none => if token.head? = some '0' then fromStrRadix token 8 else fromStrRadix token 10

/-- the notation rules of `parse_integer`: the digits and their radix -/
def radixSplit (magnitude : List Char) : List Char × Nat :=
  match stripPrefix ['0', 'X'] magnitude with
  | some ds => (ds, 16)
  | none =>
    match stripPrefix ['0', 'x'] magnitude with
    | some ds => (ds, 16)
    | none => if magnitude.head? = some '0' then (magnitude, 8) else (magnitude, 10)

/-- `parse_integer` of eval.rs: optional sign, then the same notation as a constant -/
def parseInteger (value : List Char) : Option Int :=
  let neg := value.head? = some '-'
  let magnitude := if value.head? = some '-' ∨ value.head? = some '+' then value.tail else value
  let dr := radixSplit magnitude
  if dr.1.head?.any isAsciiAlnum then
    fromStrRadix (if neg then '-' :: dr.1 else dr.1) dr.2
  else none

/-! ## token.rs -/

inductive Term where
  | value (i : Int)
  | variable (name : Name)
  deriving DecidableEq, Repr

/-- a token as the parser sees it; `err` = `Err(token::Error)` (either cause) -/
inductive Tok where
  | term (t : Term)
  | op (o : Operator)
  | err
  deriving DecidableEq, Repr

/-- `OPERATORS.iter().find(|(lexeme, _)| source.starts_with(lexeme))` -/
def findOp (src : List Char) : Option (List Char × Operator) :=
  operators.find? (fun p => p.1.isPrefixOf src)

/-- `Tokens::next_token` on the remaining text; `none` = `EndOfInput` -/
def nextToken (src : List Char) : Option (Tok × List Char) :=
  let s := src.dropWhile isWhitespace
  match s.head? with
  | none => none
  | some c =>
    match findOp s with
    | some (lex, o) => some (.op o, s.drop lex.length)
    | none =>
      let token := s.takeWhile isTermChar
      let rest := s.dropWhile isTermChar
      if token.isEmpty then some (.err, s)
      else if isAsciiDigit c then
        match parseConstant token with
        | some i => some (.term (.value i), rest)
        | none => some (.err, s)
      else some (.term (.variable token), rest)

/-- all tokens of the source up to the end of input or the first error (inclusive) -/
def tokenize : Nat → List Char → List Tok
  | 0, _ => [.err]
  | f + 1, src =>
    match nextToken src with
    | none => []
    | some (.err, _) => [.err]
    | some (t, rest) => t :: tokenize f rest

/-! ## ast.rs -/

inductive Ast where
  | term (t : Term)
  | pre (op : PrefixOperator)
  | post (op : PostfixOperator)
  | binary (op : BinaryOperator) (rhsLen : Nat)
  | conditional (thenLen elseLen : Nat)
  deriving DecidableEq, Repr

inductive SynErr where
  | tokenError | incompleteExpression | missingOperator | unclosedParenthesis
  | questionWithoutColon | colonWithoutQuestion | invalidOperator | fuel
  deriving DecidableEq, Repr

abbrev PState := List Tok × List Ast

/-- `parse_postfix` -/
def parsePostfix : List Tok → List Ast → PState
  | .op o :: rest, acc =>
    match o.as_postfix with
    | some p => parsePostfix rest (acc ++ [.post p])
    | none => (.op o :: rest, acc)
  | toks, acc => (toks, acc)

/-- `parse_close_paren` -/
def parseCloseParen (toks : List Tok) : Except SynErr (List Tok) :=
  match toks with
  | [] => .error .unclosedParenthesis
  | .err :: _ => .error .tokenError
  | .term _ :: _ => .error .unclosedParenthesis
  | .op o :: rest =>
    if o = .CloseParen then .ok rest
    else if o = .Colon then .error .colonWithoutQuestion
    else .error .unclosedParenthesis

mutual
/-- `parse_leaf` -/
def parseLeaf : Nat → List Tok → List Ast → Except SynErr PState
  | 0, _, _ => .error .fuel
  | f + 1, toks, acc =>
    match toks with
    | [] => .error .incompleteExpression
    | .err :: _ => .error .tokenError
    | .term t :: rest => .ok (parsePostfix rest (acc ++ [.term t]))
    | .op o :: rest =>
      if o = .OpenParen then
        match parseTree f rest 1 acc with
        | .error e => .error e
        | .ok (toks1, acc1) =>
          match parseCloseParen toks1 with
          | .error e => .error e
          | .ok toks2 => .ok (parsePostfix toks2 acc1)
      else
        match o.as_prefix with
        | none => .error .invalidOperator
        | some p =>
          match parseLeaf f rest acc with
          | .error e => .error e
          | .ok (toks1, acc1) => .ok (toks1, acc1 ++ [.pre p])

/-- `parse_tree` = `parse_leaf` followed by the operator loop -/
def parseTree : Nat → List Tok → Nat → List Ast → Except SynErr PState
  | 0, _, _, _ => .error .fuel
  | f + 1, toks, minPrec, acc =>
    match parseLeaf f toks acc with
    | .error e => .error e
    | .ok (toks1, acc1) => parseLoop f toks1 minPrec acc1

/-- the `while let` loop of `parse_tree` -/
def parseLoop : Nat → List Tok → Nat → List Ast → Except SynErr PState
  | 0, _, _, _ => .error .fuel
  | f + 1, toks, minPrec, acc =>
    match toks with
    | .op o :: rest =>
      if o.precedence < minPrec then .ok (toks, acc)
      else if o = .Question then
        match parseTree f rest 1 acc with
        | .error e => .error e
        | .ok (toks1, acc1) =>
          match toks1 with
          | .op o1 :: rest1 =>
            if o1 = .Colon then
              match parseTree f rest1 o.precedence acc1 with
              | .error e => .error e
              | .ok (toks2, acc2) =>
                parseLoop f toks2 minPrec
                  (acc2 ++ [.conditional (acc1.length - acc.length) (acc2.length - acc1.length)])
            else .error .questionWithoutColon
          | .err :: _ => .error .tokenError
          | _ => .error .questionWithoutColon
      else
        match o.as_binary with
        | none => .error .invalidOperator
        | some (b, assoc) =>
          let rhsPrec := if assoc = .Left then o.precedence + 1 else o.precedence
          -- `parse_binary_rhs`
          match parseTree f rest rhsPrec acc with
          | .error e => .error e
          | .ok (toks1, acc1) =>
            parseLoop f toks1 minPrec (acc1 ++ [.binary b (acc1.length - acc.length)])
    | _ => .ok (toks, acc)
end

/-- `parse_end_of_input` -/
def parseEndOfInput (toks : List Tok) : Except SynErr Unit :=
  match toks with
  | [] => .ok ()
  | .err :: _ => .error .tokenError
  | .term _ :: _ => .error .missingOperator
  | .op o :: _ => if o = .Colon then .error .colonWithoutQuestion else .error .missingOperator

/-- `ast::parse` on a token list -/
def parseToks (fuel : Nat) (toks : List Tok) : Except SynErr (List Ast) :=
  match parseTree fuel toks 1 [] with
  | .error e => .error e
  | .ok (toks1, acc) =>
    match parseEndOfInput toks1 with
    | .error e => .error e
    | .ok () => .ok acc

/-! ## env.rs (`impl Env for HashMap<String, String>`) -/

abbrev Env := List (Name × List Char)

def Env.get (env : Env) (name : Name) : Option (List Char) :=
  (env.find? (fun p => p.1 = name)).map (·.2)

def Env.set : Env → Name → List Char → Env
  | [], name, v => [(name, v)]
  | (n, w) :: rest, name, v => if n = name then (n, v) :: rest else (n, w) :: Env.set rest name v

/-! ## eval.rs -/

inductive EvalErr where
  | invalidVariableValue | overflow | divisionByZero | leftShiftingNegative | reverseShifting
  | assignmentToValue
  /-- `GetVariableError(E1)` / `AssignVariableError(E2)`: errors of the environment, passed through
      (never produced by the `HashMap` environment; see `Shell.lean` for the shell's environment) -/
  | getVariableError | assignVariableError
  deriving DecidableEq, Repr

/-- `Result<α, eval::Error>` plus the two outcomes a Rust run could have instead of returning:
    `panic` (failed `expect`, slice index out of range) and the model's own `fuel` -/
inductive Res (α : Type) where
  | ok (a : α)
  | error (e : EvalErr)
  | panic
  | fuel
  deriving Repr, DecidableEq

def Res.bind {α β : Type} (r : Res α) (f : α → Res β) : Res β :=
  match r with
  | .ok a => f a
  | .error e => .error e
  | .panic => .panic
  | .fuel => .fuel

def Res.ofOption {α : Type} (o : Option α) (e : EvalErr) : Res α :=
  match o with
  | some a => .ok a
  | none => .error e

def digitChar : Nat → Char
  | 0 => '0' | 1 => '1' | 2 => '2' | 3 => '3' | 4 => '4' | 5 => '5' | 6 => '6' | 7 => '7' | 8 => '8'
  | _ => '9'

/-- decimal digits of `n`, most significant first (fuel `n + 1` is always enough) -/
def natDigits : Nat → Nat → List Char
  | 0, _ => []
  | f + 1, n => if n < 10 then [digitChar n] else natDigits f (n / 10) ++ [digitChar (n % 10)]

/-- `Value::to_string` (`i64`'s `Display`): a minus sign for negative numbers, then the decimal digits -/
def showInt (i : Int) : List Char :=
  if i < 0 then '-' :: natDigits ((-i).toNat + 1) (-i).toNat else natDigits (i.toNat + 1) i.toNat

/-- `expand_variable` -/
def expandVariable (name : Name) (env : Env) : Res Int :=
  match env.get name with
  | none => .ok 0
  | some v => Res.ofOption (parseInteger v) .invalidVariableValue

/-- `into_value` -/
def intoValue (t : Term) (env : Env) : Res Int :=
  match t with
  | .value v => .ok v
  | .variable n => expandVariable n env

/-- `require_variable` -/
def requireVariable (t : Term) : Res Name :=
  match t with
  | .variable n => .ok n
  | .value _ => .error .assignmentToValue

/-- `assign` (the `HashMap` environment cannot fail) -/
def assign (name : Name) (v : Int) (env : Env) : Res (Int × Env) :=
  .ok (v, env.set name (showInt v))

/-- `apply_prefix` -/
def applyPrefix (t : Term) (op : PrefixOperator) (env : Env) : Res (Int × Env) :=
  match op with
  | .Increment =>
    (requireVariable t).bind fun name =>
    (expandVariable name env).bind fun v =>
    (Res.ofOption (checked (v + 1)) .overflow).bind fun nv => assign name nv env
  | .Decrement =>
    (requireVariable t).bind fun name =>
    (expandVariable name env).bind fun v =>
    (Res.ofOption (checked (v - 1)) .overflow).bind fun nv => assign name nv env
  | .NumericCoercion => (intoValue t env).bind fun v => .ok (v, env)
  | .NumericNegation =>
    (intoValue t env).bind fun v => (Res.ofOption (checked (-v)) .overflow).bind fun r => .ok (r, env)
  | .LogicalNegation => (intoValue t env).bind fun v => .ok (if v = 0 then 1 else 0, env)
  | .BitwiseNegation => (intoValue t env).bind fun v => .ok (bitNot v, env)

/-- `apply_postfix` -/
def applyPostfix (t : Term) (op : PostfixOperator) (env : Env) : Res (Int × Env) :=
  (requireVariable t).bind fun name =>
  (expandVariable name env).bind fun v =>
  let result := match op with
    | .Increment => checked (v + 1)
    | .Decrement => checked (v - 1)
  (Res.ofOption result .overflow).bind fun nv =>
  (assign name nv env).bind fun (_, env1) => .ok (v, env1)

/-- `require_non_negative` (conversion of the shift count to `u32`) -/
def requireNonNegative (v : Int) : Res Nat :=
  if v < 0 then .error .reverseShifting
  else if v > 4294967295 then .error .overflow
  else .ok v.toNat

/-- `i64::checked_shl`: `None` for counts ≥ 64, otherwise the wrapping shift -/
def checkedShl (l : Int) (r : Nat) : Option Int :=
  if r < 64 then some (wrap64 (l * 2 ^ r)) else none

/-- `i64::checked_shr`: `None` for counts ≥ 64, otherwise the arithmetic shift -/
def checkedShr (l : Int) (r : Nat) : Option Int :=
  if r < 64 then some (l >>> r) else none

/-- `i64::checked_div` (truncating) -/
def checkedDiv (l r : Int) : Option Int :=
  if r = 0 then none else checked (l.tdiv r)

/-- `i64::checked_rem`: `None` when the division overflows (`MIN % -1`), although the remainder is 0 -/
def checkedRem (l r : Int) : Option Int :=
  if r = 0 then none
  else if l = -9223372036854775808 ∧ r = -1 then none
  else some (l.tmod r)

def boolInt (b : Bool) : Int := if b then 1 else 0

/-- the `match operator` of `binary_result` before `unwrap_or_overflow`: `.ok none` = `None` -/
def binaryChecked (op : BinaryOperator) (l r : Int) : Res (Option Int) :=
  match op with
  | .LogicalOr => .ok (some (boolInt (l != 0 || r != 0)))
  | .LogicalAnd => .ok (some (boolInt (l != 0 && r != 0)))
  | .BitwiseOr | .BitwiseOrAssign => .ok (some (bitOr l r))
  | .BitwiseXor | .BitwiseXorAssign => .ok (some (bitXor l r))
  | .BitwiseAnd | .BitwiseAndAssign => .ok (some (bitAnd l r))
  | .EqualTo => .ok (some (boolInt (l == r)))
  | .NotEqualTo => .ok (some (boolInt (l != r)))
  | .LessThan => .ok (some (boolInt (decide (l < r))))
  | .GreaterThan => .ok (some (boolInt (decide (l > r))))
  | .LessThanOrEqualTo => .ok (some (boolInt (decide (l ≤ r))))
  | .GreaterThanOrEqualTo => .ok (some (boolInt (decide (l ≥ r))))
  | .ShiftLeft | .ShiftLeftAssign =>
    if l < 0 then .error .leftShiftingNegative
    else (requireNonNegative r).bind fun n =>
      .ok ((checkedShl l n).filter fun result => decide (result ≥ 0) && (result >>> n == l))
  | .ShiftRight | .ShiftRightAssign =>
    (requireNonNegative r).bind fun n => .ok (checkedShr l n)
  | .Add | .AddAssign => .ok (checked (l + r))
  | .Subtract | .SubtractAssign => .ok (checked (l - r))
  | .Multiply | .MultiplyAssign => .ok (checked (l * r))
  | .Divide | .DivideAssign =>
    if r = 0 then .error .divisionByZero else .ok (checkedDiv l r)
  | .Remainder | .RemainderAssign =>
    if r = 0 then .error .divisionByZero else .ok (checkedRem l r)
  | .Assign => .ok (some r)

/-- `binary_result` -/
def binaryResult (op : BinaryOperator) (l r : Int) : Res Int :=
  (binaryChecked op l r).bind fun o => Res.ofOption o .overflow

/-- which arm of `apply_binary` an operator takes -/
inductive BinKind where
  | plain | assign | compound
  deriving DecidableEq, Repr

def binKind : BinaryOperator → BinKind
  | .LogicalOr | .LogicalAnd | .BitwiseOr | .BitwiseXor | .BitwiseAnd | .EqualTo | .NotEqualTo
  | .LessThan | .GreaterThan | .LessThanOrEqualTo | .GreaterThanOrEqualTo | .ShiftLeft
  | .ShiftRight | .Add | .Subtract | .Multiply | .Divide | .Remainder => .plain
  | .Assign => .assign
  | .BitwiseOrAssign | .BitwiseXorAssign | .BitwiseAndAssign | .ShiftLeftAssign
  | .ShiftRightAssign | .AddAssign | .SubtractAssign | .MultiplyAssign | .DivideAssign
  | .RemainderAssign => .compound

/-- `apply_binary` -/
def applyBinary (lhs rhs : Term) (op : BinaryOperator) (env : Env) : Res (Int × Env) :=
  match binKind op with
  | .plain =>
    (intoValue lhs env).bind fun l =>
    (intoValue rhs env).bind fun r =>
    (binaryResult op l r).bind fun v => .ok (v, env)
  | .assign =>
    (requireVariable lhs).bind fun name =>
    (intoValue rhs env).bind fun v => assign name v env
  | .compound =>
    (requireVariable lhs).bind fun name =>
    (expandVariable name env).bind fun l =>
    (intoValue rhs env).bind fun r =>
    (binaryResult op l r).bind fun v => assign name v env

/-- `slice.split_last()` -/
def splitLast (ast : List Ast) : Option (List Ast × Ast) :=
  match ast.getLast? with
  | none => none
  | some root => some (ast.dropLast, root)

/-- `children.split_at(children.len() - n)`; `none` = the subtraction or the split would panic -/
def splitAtEnd (children : List Ast) (n : Nat) : Option (List Ast × List Ast) :=
  if n ≤ children.length then
    some (children.take (children.length - n), children.drop (children.length - n))
  else none

def valueTerm (r : Res (Int × Env)) : Res (Term × Env) :=
  r.bind fun (v, env) => .ok (.value v, env)

/-- `eval::eval` on a slice of the AST vector -/
def eval : Nat → List Ast → Env → Res (Term × Env)
  | 0, _, _ => .fuel
  | f + 1, ast, env =>
    match splitLast ast with
    | none => .panic
    | some (children, root) =>
      match root with
      | .term t => .ok (t, env)
      | .pre op =>
        (eval f children env).bind fun (t, env1) => valueTerm (applyPrefix t op env1)
      | .post op =>
        (eval f children env).bind fun (t, env1) => valueTerm (applyPostfix t op env1)
      | .binary op rhsLen =>
        match splitAtEnd children rhsLen with
        | none => .panic
        | some (lhsAst, rhsAst) =>
          if op = .LogicalOr then
            (eval f lhsAst env).bind fun (lt, env1) =>
            (intoValue lt env1).bind fun l =>
            if l ≠ 0 then .ok (.value 1, env1)
            else
              (eval f rhsAst env1).bind fun (rt, env2) =>
              (intoValue rt env2).bind fun r =>
              (binaryResult .LogicalOr l r).bind fun v => .ok (.value v, env2)
          else if op = .LogicalAnd then
            (eval f lhsAst env).bind fun (lt, env1) =>
            (intoValue lt env1).bind fun l =>
            if l = 0 then .ok (.value 0, env1)
            else
              (eval f rhsAst env1).bind fun (rt, env2) =>
              (intoValue rt env2).bind fun r =>
              (binaryResult .LogicalAnd l r).bind fun v => .ok (.value v, env2)
          else
            (eval f lhsAst env).bind fun (lt, env1) =>
            (eval f rhsAst env1).bind fun (rt, env2) =>
            valueTerm (applyBinary lt rt op env2)
      | .conditional thenLen elseLen =>
        match splitAtEnd children elseLen with
        | none => .panic
        | some (children2, elseAst) =>
          match splitAtEnd children2 thenLen with
          | none => .panic
          | some (condAst, thenAst) =>
            (eval f condAst env).bind fun (ct, env1) =>
            (intoValue ct env1).bind fun c =>
            if c ≠ 0 then eval f thenAst env1 else eval f elseAst env1

/-! ## lib.rs -/

/-- outcome of `yash_arith::eval(expression, &mut env)` -/
inductive Outcome where
  | value (v : Int) (env : Env)
  | syntaxError (e : SynErr)
  | evalError (e : EvalErr)
  | panic
  | fuel
  deriving Repr, DecidableEq

/-- `ast::parse(PeekableTokens::from(expression))` -/
def parse (src : List Char) : Except SynErr (List Ast) :=
  let toks := tokenize (src.length + 1) src
  parseToks (2 * toks.length + 2) toks

/-- `ast::portability::check`: the nodes that make it fail (`++`/`--`, prefix or postfix, anywhere in the
    vector — also in operands that would not be evaluated) -/
def isIncDec : Ast → Bool
  | .pre .Increment => true
  | .pre .Decrement => true
  | .post _ => true
  | _ => false

def Outcome.ofRes : Res (Int × Env) → Outcome
  | .ok (v, env) => .value v env
  | .error e => .evalError e
  | .panic => .panic
  | .fuel => .fuel

/-- `eval::eval(&ast, env)` followed by `eval::into_value(term, env)` -/
def evalValue (ast : List Ast) (env : Env) : Res (Int × Env) :=
  (eval ast.length ast env).bind fun (t, env1) =>
  (intoValue t env1).bind fun v => .ok (v, env1)

/-- `eval_with_config(expression, env, Config::default())` -/
def evalStr (src : List Char) (env : Env) : Outcome :=
  match parse src with
  | .error e => .syntaxError e
  | .ok ast => Outcome.ofRes (evalValue ast env)

/-- `eval_with_config(expression, env, Config { portable: true })`; `none` = `PortabilityError` -/
def evalStrPortable (src : List Char) (env : Env) : Option Outcome :=
  match parse src with
  | .error e => some (.syntaxError e)
  | .ok ast => if ast.any isIncDec then none else some (Outcome.ofRes (evalValue ast env))

end YashModel.Arith
