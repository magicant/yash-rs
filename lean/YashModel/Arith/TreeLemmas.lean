/-
  C03 — from the reverse-Polish vector back to trees: `rpn` encodes a Spec tree the way the parser lays it out, and the
  well-formed vectors are exactly these encodings; `evalTree` is `eval` read on the tree (`eval_rpn_tree`), with its two lazy
  arms as one equation (`evalTree_lazy`); every helper of `eval` returns, hence `eval` returns on every well-formed vector.
-/
import YashModel.Arith.Rpn
import YashModel.Arith.ParseLemmas
import YashModel.Arith.BinaryResult
namespace YashModel.Arith
open YashModel.Generated.ArithTables

theorem rpn_wf (e : Spec.Expr) : WF (rpn e) := by
  induction e with
  | num v => exact WF.term _
  | var x => exact WF.term _
  | pre op e ih => exact WF.pre _ op ih
  | post op e ih => exact WF.post _ op ih
  | bin op l r ihl ihr => exact WF.binary _ _ op ihl ihr
  | cond c t e ihc iht ihe => exact WF.conditional _ _ _ ihc iht ihe

theorem expandVariable_returns (n : Name) (env : Env) : (expandVariable n env).Returns := by
  unfold expandVariable; split
  · trivial
  · exact ofOption_returns _ _

theorem intoValue_returns (t : Term) (env : Env) : (intoValue t env).Returns := by
  cases t
  · trivial
  · exact expandVariable_returns _ env

theorem requireVariable_returns (t : Term) : (requireVariable t).Returns := by
  cases t <;> trivial

theorem assign_returns (n : Name) (v : Int) (env : Env) : (assign n v env).Returns := trivial

theorem applyPrefix_returns (t : Term) (op : PrefixOperator) (env : Env) : (applyPrefix t op env).Returns := by
  cases op <;> simp only [applyPrefix]
  · exact Res.bind_returns _ _ (requireVariable_returns t) fun _ _ =>
      Res.bind_returns _ _ (expandVariable_returns _ _) fun _ _ =>
      Res.bind_returns _ _ (ofOption_returns _ _) fun _ _ => trivial
  · exact Res.bind_returns _ _ (requireVariable_returns t) fun _ _ =>
      Res.bind_returns _ _ (expandVariable_returns _ _) fun _ _ =>
      Res.bind_returns _ _ (ofOption_returns _ _) fun _ _ => trivial
  · exact Res.bind_returns _ _ (intoValue_returns t env) fun _ _ => trivial
  · exact Res.bind_returns _ _ (intoValue_returns t env) fun _ _ =>
      Res.bind_returns _ _ (ofOption_returns _ _) fun _ _ => trivial
  · exact Res.bind_returns _ _ (intoValue_returns t env) fun _ _ => trivial
  · exact Res.bind_returns _ _ (intoValue_returns t env) fun _ _ => trivial

theorem applyPostfix_returns (t : Term) (op : PostfixOperator) (env : Env) : (applyPostfix t op env).Returns := by
  unfold applyPostfix
  exact Res.bind_returns _ _ (requireVariable_returns t) fun _ _ =>
    Res.bind_returns _ _ (expandVariable_returns _ _) fun _ _ =>
    Res.bind_returns _ _ (ofOption_returns _ _) fun _ _ =>
    Res.bind_returns _ _ (assign_returns _ _ _) fun _ _ => trivial

theorem applyBinary_returns (l r : Term) (op : BinaryOperator) (env : Env) : (applyBinary l r op env).Returns := by
  unfold applyBinary
  split
  · exact Res.bind_returns _ _ (intoValue_returns l env) fun _ _ =>
      Res.bind_returns _ _ (intoValue_returns r env) fun _ _ =>
      Res.bind_returns _ _ (binaryResult_returns _ _ _) fun _ _ => trivial
  · exact Res.bind_returns _ _ (requireVariable_returns l) fun _ _ =>
      Res.bind_returns _ _ (intoValue_returns r env) fun _ _ => trivial
  · exact Res.bind_returns _ _ (requireVariable_returns l) fun _ _ =>
      Res.bind_returns _ _ (expandVariable_returns _ _) fun _ _ =>
      Res.bind_returns _ _ (intoValue_returns r env) fun _ _ =>
      Res.bind_returns _ _ (binaryResult_returns _ _ _) fun _ _ => trivial

theorem valueTerm_returns (r : Res (Int × Env)) (h : r.Returns) : (valueTerm r).Returns :=
  Res.bind_returns _ _ h fun _ _ => trivial

/-- `eval::eval` transcribed onto the tree (same branches, same order of evaluation) -/
def evalTree : Spec.Expr → Env → Res (Term × Env)
  | .num v, env => .ok (.value v, env)
  | .var x, env => .ok (.variable x, env)
  | .pre op e, env => (evalTree e env).bind fun (t, env1) => valueTerm (applyPrefix t op env1)
  | .post op e, env => (evalTree e env).bind fun (t, env1) => valueTerm (applyPostfix t op env1)
  | .bin op l r, env =>
    if op = .LogicalOr then
      (evalTree l env).bind fun (lt, env1) =>
      (intoValue lt env1).bind fun a =>
      if a ≠ 0 then .ok (.value 1, env1)
      else
        (evalTree r env1).bind fun (rt, env2) =>
        (intoValue rt env2).bind fun b =>
        (binaryResult .LogicalOr a b).bind fun v => .ok (.value v, env2)
    else if op = .LogicalAnd then
      (evalTree l env).bind fun (lt, env1) =>
      (intoValue lt env1).bind fun a =>
      if a = 0 then .ok (.value 0, env1)
      else
        (evalTree r env1).bind fun (rt, env2) =>
        (intoValue rt env2).bind fun b =>
        (binaryResult .LogicalAnd a b).bind fun v => .ok (.value v, env2)
    else
      (evalTree l env).bind fun (lt, env1) =>
      (evalTree r env1).bind fun (rt, env2) =>
      valueTerm (applyBinary lt rt op env2)
  | .cond c t e, env =>
    (evalTree c env).bind fun (ct, env1) =>
    (intoValue ct env1).bind fun a =>
    if a ≠ 0 then evalTree t env1 else evalTree e env1

/-- what `||` and `&&` answer after the left operand alone: 1 for a true left operand of `||`, 0 for a false one of `&&` -/
def lazyStop (op : BinaryOperator) (a : Int) : Option Int :=
  if op = .LogicalOr then (if a ≠ 0 then some 1 else none) else (if a = 0 then some 0 else none)

/-- an outcome whose term is read at once (`into_value` right after `eval`) -/
def readNow (r : Res (Term × Env)) : Res (Int × Env) :=
  r.bind fun p => (intoValue p.1 p.2).bind fun v => .ok (v, p.2)

theorem readNow_bind {β : Type} (r : Res (Term × Env)) (k : Int × Env → Res β) :
    (r.bind fun p => (intoValue p.1 p.2).bind fun v => k (v, p.2)) = (readNow r).bind k := by
  unfold readNow
  cases r with
  | ok p => simp only [Res.bind]; cases intoValue p.1 p.2 <;> rfl
  | _ => rfl

theorem readNow_returns {r : Res (Term × Env)} (h : r.Returns) : (readNow r).Returns :=
  Res.bind_returns _ _ h fun _ _ => Res.bind_returns _ _ (intoValue_returns _ _) fun _ _ => trivial

theorem evalTree_lazy {op : BinaryOperator} (h : op = .LogicalOr ∨ op = .LogicalAnd) (l r : Spec.Expr) (env : Env) :
    evalTree (.bin op l r) env =
      (readNow (evalTree l env)).bind fun p =>
        match lazyStop op p.1 with
        | some w => .ok (.value w, p.2)
        | none => (readNow (evalTree r p.2)).bind fun q => (binaryResult op p.1 q.1).bind fun v => .ok (.value v, q.2) := by
  have inner : ∀ (a : Int) (env1 : Env),
      ((evalTree r env1).bind fun (p : Term × Env) => (intoValue p.1 p.2).bind fun b =>
        (binaryResult op a b).bind fun v => .ok (Term.value v, p.2)) =
      (readNow (evalTree r env1)).bind fun q => (binaryResult op a q.1).bind fun v => .ok (.value v, q.2) :=
    fun a env1 => readNow_bind _ fun q => (binaryResult op a q.1).bind fun v => .ok (Term.value v, q.2)
  refine Eq.trans ?_ (readNow_bind (evalTree l env) fun p => match lazyStop op p.1 with
    | some w => .ok (Term.value w, p.2)
    | none => (readNow (evalTree r p.2)).bind fun q => (binaryResult op p.1 q.1).bind fun v => .ok (Term.value v, q.2))
  rcases h with rfl | rfl
  · rw [evalTree, if_pos rfl]
    congr; funext ⟨lt, env1⟩; dsimp only; congr; funext a
    by_cases ha : a ≠ 0 <;> simp [lazyStop, ha, inner]
  · rw [evalTree, if_neg (by decide), if_pos rfl]
    congr; funext ⟨lt, env1⟩; dsimp only; congr; funext a
    by_cases ha : a = 0 <;> simp [lazyStop, ha, inner]

theorem evalTree_strict {op : BinaryOperator} (h1 : op ≠ .LogicalOr) (h2 : op ≠ .LogicalAnd) (l r : Spec.Expr) (env : Env) :
    evalTree (.bin op l r) env =
      (evalTree l env).bind fun (p : Term × Env) =>
      (evalTree r p.2).bind fun (q : Term × Env) => valueTerm (applyBinary p.1 q.1 op q.2) := by
  rw [evalTree, if_neg h1, if_neg h2]

theorem rpn_length_pos (e : Spec.Expr) : 0 < (rpn e).length := (rpn_wf e).length_pos

theorem eval_rpn_tree (e : Spec.Expr) : ∀ (f : Nat) (env : Env), (rpn e).length ≤ f →
    eval f (rpn e) env = evalTree e env := by
  induction e with
  | num v =>
    intro f env hf
    cases f with
    | zero => simp [rpn] at hf
    | succ f => simp [rpn, eval, splitLast, evalTree]
  | var x =>
    intro f env hf
    cases f with
    | zero => simp [rpn] at hf
    | succ f => simp [rpn, eval, splitLast, evalTree]
  | pre op e ih =>
    intro f env hf
    cases f with
    | zero => simp [rpn] at hf
    | succ f =>
      simp only [rpn, List.length_append, List.length_cons, List.length_nil] at hf
      rw [rpn, eval, splitLast_append, evalTree]
      simp only [ih f env (by omega)]
  | post op e ih =>
    intro f env hf
    cases f with
    | zero => simp [rpn] at hf
    | succ f =>
      simp only [rpn, List.length_append, List.length_cons, List.length_nil] at hf
      rw [rpn, eval, splitLast_append, evalTree]
      simp only [ih f env (by omega)]
  | bin op l r ihl ihr =>
    intro f env hf
    cases f with
    | zero => simp [rpn] at hf
    | succ f =>
      simp only [rpn, List.length_append, List.length_cons, List.length_nil] at hf
      have hl : ∀ env, eval f (rpn l) env = evalTree l env := fun env => ihl f env (by omega)
      have hr : ∀ env, eval f (rpn r) env = evalTree r env := fun env => ihr f env (by omega)
      rw [rpn, eval, splitLast_append, evalTree]
      simp only [splitAtEnd_append, hl, hr]
  | cond c t e ihc iht ihe =>
    intro f env hf
    cases f with
    | zero => simp [rpn] at hf
    | succ f =>
      simp only [rpn, List.length_append, List.length_cons, List.length_nil] at hf
      have hc : ∀ env, eval f (rpn c) env = evalTree c env := fun env => ihc f env (by omega)
      have ht : ∀ env, eval f (rpn t) env = evalTree t env := fun env => iht f env (by omega)
      have he : ∀ env, eval f (rpn e) env = evalTree e env := fun env => ihe f env (by omega)
      rw [rpn, eval, splitLast_append, evalTree]
      simp only [splitAtEnd_append, hc, ht, he]

def rootNode : Spec.Expr → Ast
  | .num v => .term (.value v)
  | .var x => .term (.variable x)
  | .pre op _ => .pre op
  | .post op _ => .post op
  | .bin op _ r => .binary op (rpn r).length
  | .cond _ t e => .conditional (rpn t).length (rpn e).length

def rpnBody : Spec.Expr → List Ast
  | .num _ => []
  | .var _ => []
  | .pre _ e => rpn e
  | .post _ e => rpn e
  | .bin _ l r => rpn l ++ rpn r
  | .cond c t e => rpn c ++ rpn t ++ rpn e

theorem rpn_split (e : Spec.Expr) : rpn e = rpnBody e ++ [rootNode e] := by
  cases e <;> simp [rpn, rpnBody, rootNode]

theorem rpn_eq_split {a b : Spec.Expr} (h : rpn a = rpn b) : rpnBody a = rpnBody b ∧ rootNode a = rootNode b := by
  rw [rpn_split a, rpn_split b] at h
  obtain ⟨h1, h2⟩ := List.append_inj' h rfl
  exact ⟨h1, List.singleton_inj.mp h2⟩

/-- ☆ a tree is determined by the vector the parser lays out for it (`rpn` is injective): two different trees
    never share a vector, so "the parser built `rpn e`" says that the parser read the tree `e` and no other. -/
theorem rpn_injective (a b : Spec.Expr) (h : rpn a = rpn b) : a = b := by
  -- the last node names the kind of node and the lengths at which the body is cut
  induction a generalizing b with
  | num v => obtain ⟨_, h2⟩ := rpn_eq_split h; cases b <;> simp [rootNode] at h2; rw [h2]
  | var x => obtain ⟨_, h2⟩ := rpn_eq_split h; cases b <;> simp [rootNode] at h2; rw [h2]
  | pre op e ih =>
    obtain ⟨h1, h2⟩ := rpn_eq_split h
    cases b <;> simp [rootNode] at h2
    rw [h2, ih _ h1]
  | post op e ih =>
    obtain ⟨h1, h2⟩ := rpn_eq_split h
    cases b <;> simp [rootNode] at h2
    rw [h2, ih _ h1]
  | bin op l r ihl ihr =>
    obtain ⟨h1, h2⟩ := rpn_eq_split h
    cases b <;> simp [rootNode] at h2
    obtain ⟨h3, h4⟩ := List.append_inj' h1 h2.2
    rw [h2.1, ihl _ h3, ihr _ h4]
  | cond c t e ihc iht ihe =>
    obtain ⟨h1, h2⟩ := rpn_eq_split h
    cases b <;> simp [rootNode] at h2
    obtain ⟨h3, h4⟩ := List.append_inj' h1 h2.2
    obtain ⟨h5, h6⟩ := List.append_inj' h3 h2.1
    rw [ihc _ h5, iht _ h6, ihe _ h4]

/-- `eval` on the vector of a tree with the fuel `evalValue` gives it: the word of `first_failure_is_reported` -/
abbrev evalOf (e : Spec.Expr) (env : Env) : Res (Term × Env) := eval (rpn e).length (rpn e) env

theorem wf_rpn {a : List Ast} (h : WF a) : ∃ e, a = rpn e := by
  induction h with
  | term t => cases t with
    | value v => exact ⟨.num v, rfl⟩
    | «variable» x => exact ⟨.var x, rfl⟩
  | pre c op _ ih => obtain ⟨e, rfl⟩ := ih; exact ⟨.pre op e, rfl⟩
  | post c op _ ih => obtain ⟨e, rfl⟩ := ih; exact ⟨.post op e, rfl⟩
  | binary l r op _ _ ihl ihr => obtain ⟨el, rfl⟩ := ihl; obtain ⟨er, rfl⟩ := ihr; exact ⟨.bin op el er, rfl⟩
  | conditional c t e _ _ _ ihc iht ihe =>
    obtain ⟨ec, rfl⟩ := ihc; obtain ⟨et, rfl⟩ := iht; obtain ⟨ee, rfl⟩ := ihe; exact ⟨.cond ec et ee, rfl⟩

theorem evalTree_returns (e : Spec.Expr) (env : Env) : (evalTree e env).Returns := by
  induction e generalizing env with
  | num v => trivial
  | var x => trivial
  | pre op e ih =>
    rw [evalTree]
    exact Res.bind_returns _ _ (ih env) fun _ _ => valueTerm_returns _ (applyPrefix_returns _ _ _)
  | post op e ih =>
    rw [evalTree]
    exact Res.bind_returns _ _ (ih env) fun _ _ => valueTerm_returns _ (applyPostfix_returns _ _ _)
  | bin op l r ihl ihr =>
    by_cases h : op = .LogicalOr ∨ op = .LogicalAnd
    · rw [evalTree_lazy h]
      exact Res.bind_returns _ _ (readNow_returns (ihl env)) fun p _ => by
        cases lazyStop op p.1 with
        | some w => trivial
        | none =>
          exact Res.bind_returns _ _ (readNow_returns (ihr _)) fun _ _ =>
            Res.bind_returns _ _ (binaryResult_returns _ _ _) fun _ _ => trivial
    · rw [evalTree_strict (fun e => h (Or.inl e)) (fun e => h (Or.inr e))]
      exact Res.bind_returns _ _ (ihl env) fun _ _ =>
        Res.bind_returns _ _ (ihr _) fun _ _ => valueTerm_returns _ (applyBinary_returns _ _ _ _)
  | cond c t e ihc iht ihe =>
    rw [evalTree]
    exact Res.bind_returns _ _ (ihc env) fun _ _ => Res.bind_returns _ _ (intoValue_returns _ _) fun _ _ => by
      split
      · exact iht _
      · exact ihe _

theorem eval_returns_of_wf {a : List Ast} (h : WF a) :
    ∀ (f : Nat) (env : Env), a.length ≤ f → (eval f a env).Returns := by
  obtain ⟨e, rfl⟩ := wf_rpn h
  intro f env hf
  rw [eval_rpn_tree e f env hf]
  exact evalTree_returns e env

end YashModel.Arith
