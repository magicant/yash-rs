/-
  C03 — the parser without its fuel.  `Parses c r`: the call `c` of `parse_leaf` / `parse_tree` / the operator loop
  answers `r`, one rule per way through the code (success and error alike).  A run of the three functions of `Model.lean`
  does what `Parses` says or ran out of a fuel below `Call.size` (`run_spec`), and every large enough fuel reproduces a
  derivation (`Parses.run`).  So the fuel the model hands its parser is never exhausted, and the other facts about the parser
  are inductions over `Parses` or built from its rules.
-/
import YashModel.Common.Fuel
import YashModel.Arith.Model
namespace YashModel.Arith
open YashModel.Generated.ArithTables

theorem parsePostfix_suffix (toks : List Tok) (acc : List Ast) : (parsePostfix toks acc).1 <:+ toks := by
  induction toks generalizing acc with
  | nil => exact List.suffix_refl _
  | cons tok rest ih =>
    cases tok with
    | term x => exact List.suffix_refl _
    | err => exact List.suffix_refl _
    | op o =>
      rw [parsePostfix]
      split
      · exact (ih _).trans (List.suffix_cons _ _)
      · exact List.suffix_refl _

theorem parsePostfix_length (toks : List Tok) (acc : List Ast) :
    (parsePostfix toks acc).1.length ≤ toks.length :=
  (parsePostfix_suffix toks acc).length_le

theorem parseCloseParen_eq_ok {toks r : List Tok} : parseCloseParen toks = .ok r ↔ toks = .op .CloseParen :: r := by
  unfold parseCloseParen
  cases toks with
  | nil => simp
  | cons t rest =>
    cases t with
    | err => simp
    | term x => simp
    | op o =>
      by_cases ho : o = .CloseParen
      · simp [ho]
      · by_cases hc : o = .Colon <;> simp [ho, hc]

/-- a failing check of one token: never the model's fuel, `TokenError` only at the tokenizer's error token -/
def HeadErr (toks : List Tok) (e : SynErr) : Prop := e ≠ .fuel ∧ (e = .tokenError → ∃ rest, toks = .err :: rest)

theorem parseCloseParen_error {toks : List Tok} {e : SynErr} (h : parseCloseParen toks = .error e) : HeadErr toks e := by
  unfold parseCloseParen at h
  cases toks with
  | nil => cases h; exact ⟨by simp, by simp⟩
  | cons t rest =>
    cases t with
    | err => cases h; exact ⟨by simp, fun _ => ⟨rest, rfl⟩⟩
    | term x => cases h; exact ⟨by simp, by simp⟩
    | op o =>
      by_cases ho : o = .CloseParen
      · simp [ho] at h
      · by_cases hc : o = .Colon <;> simp only [ho, hc, if_true, if_false] at h <;> cases h <;> exact ⟨by simp, by simp⟩

theorem parseEndOfInput_error {toks : List Tok} {e : SynErr} (h : parseEndOfInput toks = .error e) : HeadErr toks e := by
  unfold parseEndOfInput at h
  cases toks with
  | nil => cases h
  | cons t rest =>
    cases t with
    | err => cases h; exact ⟨by simp, fun _ => ⟨rest, rfl⟩⟩
    | term x => cases h; exact ⟨by simp, by simp⟩
    | op o => by_cases hc : o = .Colon <;> simp only [hc, if_true, if_false] at h <;> cases h <;> exact ⟨by simp, by simp⟩

/-- the token after an operand ends it for a loop that runs at minimal precedence `m` -/
def Stops (m : Nat) : List Tok → Prop
  | .op o :: _ => o.precedence < m
  | _ => True

theorem parseLoop_stops (f m : Nat) (rest : List Tok) (acc : List Ast) (h : Stops m rest) :
    parseLoop (f + 1) rest m acc = .ok (rest, acc) := by
  cases rest with
  | nil => simp [parseLoop]
  | cons t ts =>
    cases t with
    | term x => simp [parseLoop]
    | err => simp [parseLoop]
    | op o =>
      simp only [Stops] at h
      simp [parseLoop, h]

theorem stops_mono {m m' : Nat} {rest : List Tok} (h : Stops m rest) (hle : m ≤ m') : Stops m' rest := by
  cases rest with
  | nil => trivial
  | cons t ts =>
    cases t with
    | term x => trivial
    | err => trivial
    | op o => simp only [Stops] at *; omega

def NoPostfix : List Tok → Prop
  | .op o :: _ => o.as_postfix = none
  | _ => True

theorem parsePostfix_noPostfix (rest : List Tok) (acc : List Ast) (h : NoPostfix rest) :
    parsePostfix rest acc = (rest, acc) := by
  cases rest with
  | nil => rfl
  | cons t ts =>
    cases t with
    | term x => rfl
    | err => rfl
    | op o =>
      simp only [NoPostfix] at h
      simp [parsePostfix, h]

theorem parseLoop_binary_ok (f m : Nat) (o : Operator) (b : BinaryOperator) (a : Associativity)
    (rest : List Tok) (acc : List Ast) (hb : o.as_binary = some (b, a)) (hq : o ≠ .Question)
    (hm : ¬ o.precedence < m) (toks1 : List Tok) (acc1 : List Ast)
    (h : parseTree f rest (if a = .Left then o.precedence + 1 else o.precedence) acc = .ok (toks1, acc1)) :
    parseLoop (f + 1) (.op o :: rest) m acc =
      parseLoop f toks1 m (acc1 ++ [.binary b (acc1.length - acc.length)]) := by
  simp only [parseLoop, hm, if_false, hq, hb, h]

theorem parseLoop_binary_err (f m : Nat) (o : Operator) (b : BinaryOperator) (a : Associativity)
    (rest : List Tok) (acc : List Ast) (hb : o.as_binary = some (b, a)) (hq : o ≠ .Question)
    (hm : ¬ o.precedence < m) (e : SynErr)
    (h : parseTree f rest (if a = .Left then o.precedence + 1 else o.precedence) acc = .error e) :
    parseLoop (f + 1) (.op o :: rest) m acc = .error e := by
  simp only [parseLoop, hm, if_false, hq, hb, h]

theorem parseLoop_question_err1 (f m : Nat) (rest : List Tok) (acc : List Ast)
    (hm : ¬ Operator.Question.precedence < m) (e : SynErr) (h : parseTree f rest 1 acc = .error e) :
    parseLoop (f + 1) (.op .Question :: rest) m acc = .error e := by
  simp only [parseLoop, hm, if_false, if_true, h]

theorem parseLoop_question_err2 (f m : Nat) (rest rest1 : List Tok) (acc acc1 : List Ast)
    (hm : ¬ Operator.Question.precedence < m) (e : SynErr)
    (h1 : parseTree f rest 1 acc = .ok (.op .Colon :: rest1, acc1))
    (h2 : parseTree f rest1 Operator.Question.precedence acc1 = .error e) :
    parseLoop (f + 1) (.op .Question :: rest) m acc = .error e := by
  simp only [parseLoop, hm, if_false, if_true, h1, h2]

theorem parseLoop_question_ok (f m : Nat) (rest rest1 toks2 : List Tok) (acc acc1 acc2 : List Ast)
    (hm : ¬ Operator.Question.precedence < m)
    (h1 : parseTree f rest 1 acc = .ok (.op .Colon :: rest1, acc1))
    (h2 : parseTree f rest1 Operator.Question.precedence acc1 = .ok (toks2, acc2)) :
    parseLoop (f + 1) (.op .Question :: rest) m acc =
      parseLoop f toks2 m (acc2 ++ [.conditional (acc1.length - acc.length) (acc2.length - acc1.length)]) := by
  simp only [parseLoop, hm, if_false, if_true, h1, h2]

/-- a call of one of the three mutually recursive parser functions -/
inductive Call where
  | leaf (toks : List Tok) (acc : List Ast)
  | tree (toks : List Tok) (m : Nat) (acc : List Ast)
  | loop (toks : List Tok) (m : Nat) (acc : List Ast)

def Call.run (f : Nat) : Call → Except SynErr PState
  | .leaf t a => parseLeaf f t a
  | .tree t m a => parseTree f t m a
  | .loop t m a => parseLoop f t m a

def Call.toks : Call → List Tok
  | .leaf t _ => t
  | .tree t _ _ => t
  | .loop t _ _ => t

def Call.acc : Call → List Ast
  | .leaf _ a => a
  | .tree _ _ a => a
  | .loop _ _ a => a

/-- fuel with which the call never runs out: every token costs at most two calls (a `parse_leaf` or a turn of the loop that
    consumes it, and the `parse_tree` in between, which consumes none); `parse_tree` is one call ahead of its leaf -/
def Call.size : Call → Nat
  | .leaf t _ => 2 * t.length + 1
  | .tree t _ _ => 2 * t.length + 2
  | .loop t _ _ => 2 * t.length + 1

inductive Parses : Call → Except SynErr PState → Prop
  | leafEnd (acc) : Parses (.leaf [] acc) (.error .incompleteExpression)
  | leafErr (rest acc) : Parses (.leaf (.err :: rest) acc) (.error .tokenError)
  | term (t rest acc) : Parses (.leaf (.term t :: rest) acc) (.ok (parsePostfix rest (acc ++ [.term t])))
  | parenErr {rest acc e} : Parses (.tree rest 1 acc) (.error e) →
      Parses (.leaf (.op .OpenParen :: rest) acc) (.error e)
  | parenOpen {rest acc toks1 acc1 e} : Parses (.tree rest 1 acc) (.ok (toks1, acc1)) →
      parseCloseParen toks1 = .error e → Parses (.leaf (.op .OpenParen :: rest) acc) (.error e)
  | paren {rest acc toks1 acc1 toks2} : Parses (.tree rest 1 acc) (.ok (toks1, acc1)) →
      parseCloseParen toks1 = .ok toks2 → Parses (.leaf (.op .OpenParen :: rest) acc) (.ok (parsePostfix toks2 acc1))
  | notPrefix {o} (rest acc) : o ≠ .OpenParen → o.as_prefix = none →
      Parses (.leaf (.op o :: rest) acc) (.error .invalidOperator)
  | preErr {o p rest acc e} : o ≠ .OpenParen → o.as_prefix = some p → Parses (.leaf rest acc) (.error e) →
      Parses (.leaf (.op o :: rest) acc) (.error e)
  | pre {o p rest acc toks1 acc1} : o ≠ .OpenParen → o.as_prefix = some p →
      Parses (.leaf rest acc) (.ok (toks1, acc1)) → Parses (.leaf (.op o :: rest) acc) (.ok (toks1, acc1 ++ [.pre p]))
  | treeErr {toks m acc e} : Parses (.leaf toks acc) (.error e) → Parses (.tree toks m acc) (.error e)
  | tree {toks m acc toks1 acc1 r} : Parses (.leaf toks acc) (.ok (toks1, acc1)) → Parses (.loop toks1 m acc1) r →
      Parses (.tree toks m acc) r
  | stop {m toks} (acc) : Stops m toks → Parses (.loop toks m acc) (.ok (toks, acc))
  | thenErr {m rest acc e} : ¬ Operator.Question.precedence < m → Parses (.tree rest 1 acc) (.error e) →
      Parses (.loop (.op .Question :: rest) m acc) (.error e)
  | noColon {m rest acc toks1 acc1} : ¬ Operator.Question.precedence < m →
      Parses (.tree rest 1 acc) (.ok (toks1, acc1)) → (∀ rest1, toks1 ≠ .op .Colon :: rest1) →
      Parses (.loop (.op .Question :: rest) m acc)
        (.error (if toks1.head? = some .err then .tokenError else .questionWithoutColon))
  | elseErr {m rest acc rest1 acc1 e} : ¬ Operator.Question.precedence < m →
      Parses (.tree rest 1 acc) (.ok (.op .Colon :: rest1, acc1)) →
      Parses (.tree rest1 Operator.Question.precedence acc1) (.error e) →
      Parses (.loop (.op .Question :: rest) m acc) (.error e)
  | cond {m rest acc rest1 acc1 toks2 acc2 r} : ¬ Operator.Question.precedence < m →
      Parses (.tree rest 1 acc) (.ok (.op .Colon :: rest1, acc1)) →
      Parses (.tree rest1 Operator.Question.precedence acc1) (.ok (toks2, acc2)) →
      Parses (.loop toks2 m (acc2 ++ [.conditional (acc1.length - acc.length) (acc2.length - acc1.length)])) r →
      Parses (.loop (.op .Question :: rest) m acc) r
  | notBinary {m o} (rest acc) : ¬ o.precedence < m → o ≠ .Question → o.as_binary = none →
      Parses (.loop (.op o :: rest) m acc) (.error .invalidOperator)
  | rhsErr {m o b a rest acc e} : ¬ o.precedence < m → o ≠ .Question → o.as_binary = some (b, a) →
      Parses (.tree rest (if a = .Left then o.precedence + 1 else o.precedence) acc) (.error e) →
      Parses (.loop (.op o :: rest) m acc) (.error e)
  | bin {m o b a rest acc toks1 acc1 r} : ¬ o.precedence < m → o ≠ .Question → o.as_binary = some (b, a) →
      Parses (.tree rest (if a = .Left then o.precedence + 1 else o.precedence) acc) (.ok (toks1, acc1)) →
      Parses (.loop toks1 m (acc1 ++ [.binary b (acc1.length - acc.length)])) r →
      Parses (.loop (.op o :: rest) m acc) r

def Call.eats : Call → Nat
  | .loop _ _ _ => 0
  | _ => 1

theorem Parses.length {c : Call} {r : Except SynErr PState} (h : Parses c r) :
    ∀ p, r = .ok p → p.1.length + c.eats ≤ c.toks.length := by
  induction h with
  | term t rest acc =>
    intro p hp; injection hp with hp; subst hp
    have := parsePostfix_length rest (acc ++ [.term t])
    simp only [Call.eats, Call.toks, List.length_cons]; omega
  | paren _ hc ih =>
    intro p hp; injection hp with hp; subst hp
    have h1 := ih _ rfl
    have h2 := congrArg List.length (parseCloseParen_eq_ok.mp hc)
    have h3 := parsePostfix_length ‹List Tok› ‹List Ast›
    simp only [Call.eats, Call.toks, List.length_cons] at *; omega
  | pre _ _ _ ih =>
    intro p hp; injection hp with hp; subst hp
    have h1 := ih _ rfl
    simp only [Call.eats, Call.toks, List.length_cons] at *; omega
  | tree _ _ ih1 ih2 =>
    intro p hp
    have h1 := ih1 _ rfl
    have h2 := ih2 p hp
    simp only [Call.eats, Call.toks] at *; omega
  | stop acc _ => intro p hp; injection hp with hp; subst hp; exact Nat.le_refl _
  | cond _ _ _ _ ih1 ih2 ih3 =>
    intro p hp
    have h1 := ih1 _ rfl
    have h2 := ih2 _ rfl
    have h3 := ih3 p hp
    simp only [Call.eats, Call.toks, List.length_cons] at *; omega
  | bin _ _ _ _ _ ih1 ih2 =>
    intro p hp
    have h1 := ih1 _ rfl
    have h2 := ih2 p hp
    simp only [Call.eats, Call.toks, List.length_cons] at *; omega
  | _ => intro p hp; cases hp

theorem Parses.ne_fuel {c : Call} {r : Except SynErr PState} (h : Parses c r) : r ≠ .error .fuel := by
  induction h with
  | parenOpen _ hc _ => intro he; injection he with he; exact (parseCloseParen_error hc).1 he
  | noColon _ _ _ _ => split <;> simp
  | parenErr _ ih | preErr _ _ _ ih | treeErr _ ih | thenErr _ _ ih | elseErr _ _ _ _ ih | rhsErr _ _ _ _ ih => exact ih
  | tree _ _ _ ih | cond _ _ _ _ _ _ ih | bin _ _ _ _ _ _ ih => exact ih
  | _ => simp

def Meets (f : Nat) (c : Call) : Prop := Parses c (c.run f) ∨ (c.run f = .error .fuel ∧ f < c.size)

theorem meets_leaf {f : Nat} (ih : ∀ c, Meets f c) (toks : List Tok) (acc : List Ast) : Meets (f + 1) (.leaf toks acc) := by
  unfold Meets at ih ⊢
  simp only [Call.run, Call.size]
  cases toks with
  | nil => exact Or.inl (.leafEnd acc)
  | cons tok rest =>
    cases tok with
    | err => exact Or.inl (.leafErr rest acc)
    | term t => exact Or.inl (.term t rest acc)
    | op o =>
      simp only [parseLeaf, List.length_cons]
      by_cases ho : o = .OpenParen
      · subst ho
        rw [if_pos rfl]
        rcases ih (.tree rest 1 acc) with h | ⟨h, hf⟩
        · simp only [Call.run] at h
          cases hr : parseTree f rest 1 acc with
          | error e => rw [hr] at h; exact Or.inl (.parenErr h)
          | ok p =>
            obtain ⟨toks1, acc1⟩ := p
            rw [hr] at h
            dsimp only
            cases hc : parseCloseParen toks1 with
            | error e => exact Or.inl (.parenOpen h hc)
            | ok toks2 => exact Or.inl (.paren h hc)
        · simp only [Call.run, Call.size] at h hf
          rw [h]; exact Or.inr ⟨rfl, by omega⟩
      · rw [if_neg ho]
        cases hp : o.as_prefix with
        | none => exact Or.inl (.notPrefix rest acc ho hp)
        | some p =>
          dsimp only
          rcases ih (.leaf rest acc) with h | ⟨h, hf⟩
          · simp only [Call.run] at h
            cases hr : parseLeaf f rest acc with
            | error e => rw [hr] at h; exact Or.inl (.preErr ho hp h)
            | ok q => obtain ⟨toks1, acc1⟩ := q; rw [hr] at h; exact Or.inl (.pre ho hp h)
          · simp only [Call.run, Call.size] at h hf
            rw [h]; exact Or.inr ⟨rfl, by omega⟩
theorem meets_tree {f : Nat} (ih : ∀ c, Meets f c) (toks : List Tok) (m : Nat) (acc : List Ast) :
    Meets (f + 1) (.tree toks m acc) := by
  unfold Meets at ih ⊢
  simp only [Call.run, Call.size, parseTree]
  rcases ih (.leaf toks acc) with h | ⟨h, hf⟩
  · simp only [Call.run] at h
    cases hr : parseLeaf f toks acc with
    | error e => rw [hr] at h; exact Or.inl (.treeErr h)
    | ok p =>
      obtain ⟨toks1, acc1⟩ := p
      rw [hr] at h
      have hl := h.length _ rfl
      dsimp only
      rcases ih (.loop toks1 m acc1) with h2 | ⟨h2, hf2⟩
      · exact Or.inl (.tree h h2)
      · simp only [Call.run, Call.size, Call.eats, Call.toks] at h2 hf2 hl
        rw [h2]; exact Or.inr ⟨rfl, by omega⟩
  · simp only [Call.run, Call.size] at h hf
    rw [h]; exact Or.inr ⟨rfl, by omega⟩
theorem meets_loop {f : Nat} (ih : ∀ c, Meets f c) (toks : List Tok) (m : Nat) (acc : List Ast) :
    Meets (f + 1) (.loop toks m acc) := by
  unfold Meets at ih ⊢
  simp only [Call.run, Call.size]
  cases toks with
  | nil => exact Or.inl (.stop acc trivial)
  | cons tok rest =>
    cases tok with
    | err => exact Or.inl (.stop acc trivial)
    | term t => exact Or.inl (.stop acc trivial)
    | op o =>
      simp only [parseLoop, List.length_cons]
      by_cases hm : o.precedence < m
      · rw [if_pos hm]; exact Or.inl (.stop acc hm)
      rw [if_neg hm]
      by_cases hq : o = .Question
      · subst hq
        rw [if_pos rfl]
        rcases ih (.tree rest 1 acc) with h | ⟨h, hf⟩
        · simp only [Call.run] at h
          cases hr : parseTree f rest 1 acc with
          | error e => rw [hr] at h; exact Or.inl (.thenErr hm h)
          | ok p =>
            obtain ⟨toks1, acc1⟩ := p
            rw [hr] at h
            have hl := h.length _ rfl
            dsimp only
            by_cases hcol : ∃ rest1, toks1 = .op .Colon :: rest1
            · obtain ⟨rest1, rfl⟩ := hcol
              dsimp only
              rw [if_pos rfl]
              rcases ih (.tree rest1 Operator.Question.precedence acc1) with h1 | ⟨h1, hf1⟩
              · simp only [Call.run] at h1
                cases hr1 : parseTree f rest1 Operator.Question.precedence acc1 with
                | error e => rw [hr1] at h1; exact Or.inl (.elseErr hm h h1)
                | ok p2 =>
                  obtain ⟨toks2, acc2⟩ := p2
                  rw [hr1] at h1
                  have hl1 := h1.length _ rfl
                  dsimp only
                  rcases ih (.loop toks2 m (acc2 ++ [.conditional (acc1.length - acc.length) (acc2.length - acc1.length)]))
                    with h2 | ⟨h2, hf2⟩
                  · exact Or.inl (.cond hm h h1 h2)
                  · simp only [Call.run, Call.size, Call.eats, Call.toks, List.length_cons] at h2 hf2 hl hl1
                    rw [h2]; exact Or.inr ⟨rfl, by omega⟩
              · simp only [Call.run, Call.size, Call.eats, Call.toks, List.length_cons] at h1 hf1 hl
                rw [h1]; exact Or.inr ⟨rfl, by omega⟩
            · have hnc : ∀ rest1, toks1 ≠ .op .Colon :: rest1 := fun r1 e => hcol ⟨r1, e⟩
              have hN := Parses.noColon hm h hnc
              cases toks1 with
              | nil => exact Or.inl hN
              | cons t1 r1 =>
                cases t1 with
                | err => exact Or.inl hN
                | term x => exact Or.inl (by simpa using hN)
                | op o1 =>
                  have : o1 ≠ .Colon := fun e => hnc r1 (by rw [e])
                  dsimp only; rw [if_neg this]; exact Or.inl (by simpa using hN)
        · simp only [Call.run, Call.size] at h hf
          rw [h]; exact Or.inr ⟨rfl, by omega⟩
      · rw [if_neg hq]
        cases hb : o.as_binary with
        | none => exact Or.inl (.notBinary rest acc hm hq hb)
        | some ba =>
          obtain ⟨b, a⟩ := ba
          dsimp only
          rcases ih (.tree rest (if a = .Left then o.precedence + 1 else o.precedence) acc) with h | ⟨h, hf⟩
          · simp only [Call.run] at h
            cases hr : parseTree f rest (if a = .Left then o.precedence + 1 else o.precedence) acc with
            | error e => rw [hr] at h; exact Or.inl (.rhsErr hm hq hb h)
            | ok p =>
              obtain ⟨toks1, acc1⟩ := p
              rw [hr] at h
              have hl := h.length _ rfl
              dsimp only
              rcases ih (.loop toks1 m (acc1 ++ [.binary b (acc1.length - acc.length)])) with h2 | ⟨h2, hf2⟩
              · exact Or.inl (.bin hm hq hb h h2)
              · simp only [Call.run, Call.size, Call.eats, Call.toks] at h2 hf2 hl
                rw [h2]; exact Or.inr ⟨rfl, by omega⟩
          · simp only [Call.run, Call.size] at h hf
            rw [h]; exact Or.inr ⟨rfl, by omega⟩

theorem run_spec (f : Nat) : ∀ c : Call, Meets f c := by
  induction f with
  | zero => intro c; right; cases c <;> exact ⟨rfl, Nat.succ_pos _⟩
  | succ f ih =>
    intro c
    cases c with
    | leaf toks acc => exact meets_leaf ih toks acc
    | tree toks m acc => exact meets_tree ih toks m acc
    | loop toks m acc => exact meets_loop ih toks m acc

theorem Parses.of_run {f : Nat} {c : Call} {r : Except SynErr PState} (h : c.run f = r) (hr : r ≠ .error .fuel) :
    Parses c r := by
  rcases run_spec f c with hp | ⟨hf, _⟩
  · rw [← h]; exact hp
  · rw [h] at hf; exact absurd hf hr

theorem run_ne_fuel {f : Nat} {c : Call} (hf : c.size ≤ f) : c.run f ≠ .error .fuel := by
  rcases run_spec f c with hp | ⟨_, hlt⟩
  · exact hp.ne_fuel
  · omega

theorem Parses.run {c : Call} {r : Except SynErr PState} (h : Parses c r) : ∃ f0, ∀ f, f0 ≤ f → c.run f = r := by
  induction h with
  | leafEnd acc => exact ⟨1, fun f hf => by obtain ⟨g, rfl, _⟩ := Common.exists_succ_le hf; rfl⟩
  | leafErr rest acc => exact ⟨1, fun f hf => by obtain ⟨g, rfl, _⟩ := Common.exists_succ_le hf; rfl⟩
  | term t rest acc => exact ⟨1, fun f hf => by obtain ⟨g, rfl, _⟩ := Common.exists_succ_le hf; rfl⟩
  | parenErr _ ih =>
    obtain ⟨f1, h1⟩ := ih
    exact ⟨f1 + 1, fun f hf => by
      obtain ⟨g, rfl, hg⟩ := Common.exists_succ_le hf
      have := h1 g hg; simp only [Call.run] at this ⊢; simp only [parseLeaf, if_true, this]⟩
  | parenOpen _ hc ih =>
    obtain ⟨f1, h1⟩ := ih
    exact ⟨f1 + 1, fun f hf => by
      obtain ⟨g, rfl, hg⟩ := Common.exists_succ_le hf
      have := h1 g hg; simp only [Call.run] at this ⊢; simp only [parseLeaf, if_true, this, hc]⟩
  | paren _ hc ih =>
    obtain ⟨f1, h1⟩ := ih
    exact ⟨f1 + 1, fun f hf => by
      obtain ⟨g, rfl, hg⟩ := Common.exists_succ_le hf
      have := h1 g hg; simp only [Call.run] at this ⊢; simp only [parseLeaf, if_true, this, hc]⟩
  | notPrefix rest acc ho hp =>
    exact ⟨1, fun f hf => by obtain ⟨g, rfl, _⟩ := Common.exists_succ_le hf; simp only [Call.run, parseLeaf, ho, if_false, hp]⟩
  | preErr ho hp _ ih =>
    obtain ⟨f1, h1⟩ := ih
    exact ⟨f1 + 1, fun f hf => by
      obtain ⟨g, rfl, hg⟩ := Common.exists_succ_le hf
      have := h1 g hg; simp only [Call.run] at this ⊢; simp only [parseLeaf, ho, if_false, hp, this]⟩
  | pre ho hp _ ih =>
    obtain ⟨f1, h1⟩ := ih
    exact ⟨f1 + 1, fun f hf => by
      obtain ⟨g, rfl, hg⟩ := Common.exists_succ_le hf
      have := h1 g hg; simp only [Call.run] at this ⊢; simp only [parseLeaf, ho, if_false, hp, this]⟩
  | treeErr _ ih =>
    obtain ⟨f1, h1⟩ := ih
    exact ⟨f1 + 1, fun f hf => by
      obtain ⟨g, rfl, hg⟩ := Common.exists_succ_le hf
      have := h1 g hg; simp only [Call.run] at this ⊢; simp only [parseTree, this]⟩
  | tree _ _ ih1 ih2 =>
    obtain ⟨f1, h1⟩ := ih1
    obtain ⟨f2, h2⟩ := ih2
    exact ⟨max f1 f2 + 1, fun f hf => by
      obtain ⟨g, rfl, hg⟩ := Common.exists_succ_le hf
      have a1 := h1 g (by omega); have a2 := h2 g (by omega)
      simp only [Call.run] at a1 a2 ⊢; simp only [parseTree, a1, a2]⟩
  | stop acc hs =>
    exact ⟨1, fun f hf => by obtain ⟨g, rfl, _⟩ := Common.exists_succ_le hf; exact parseLoop_stops g _ _ acc hs⟩
  | thenErr hm _ ih =>
    obtain ⟨f1, h1⟩ := ih
    exact ⟨f1 + 1, fun f hf => by
      obtain ⟨g, rfl, hg⟩ := Common.exists_succ_le hf
      exact parseLoop_question_err1 g _ _ _ hm _ (h1 g hg)⟩
  | @noColon m rest acc toks1 acc1 hm _ hnc ih =>
    obtain ⟨f1, h1⟩ := ih
    exact ⟨f1 + 1, fun f hf => by
      obtain ⟨g, rfl, hg⟩ := Common.exists_succ_le hf
      have := h1 g hg; simp only [Call.run] at this ⊢; simp only [parseLoop, hm, if_false, if_true, this]
      cases toks1 with
      | nil => rfl
      | cons t1 r1 =>
        cases t1 with
        | err => rfl
        | term x => simp
        | op o1 =>
          have : o1 ≠ .Colon := fun e => hnc r1 (by rw [e])
          simp [this]⟩
  | elseErr hm _ _ ih1 ih2 =>
    obtain ⟨f1, h1⟩ := ih1
    obtain ⟨f2, h2⟩ := ih2
    exact ⟨max f1 f2 + 1, fun f hf => by
      obtain ⟨g, rfl, hg⟩ := Common.exists_succ_le hf
      exact parseLoop_question_err2 g _ _ _ _ _ hm _ (h1 g (by omega)) (h2 g (by omega))⟩
  | cond hm _ _ _ ih1 ih2 ih3 =>
    obtain ⟨f1, h1⟩ := ih1
    obtain ⟨f2, h2⟩ := ih2
    obtain ⟨f3, h3⟩ := ih3
    exact ⟨max f1 (max f2 f3) + 1, fun f hf => by
      obtain ⟨g, rfl, hg⟩ := Common.exists_succ_le hf
      exact (parseLoop_question_ok g _ _ _ _ _ _ _ hm (h1 g (by omega)) (h2 g (by omega))).trans (h3 g (by omega))⟩
  | notBinary rest acc hm hq hb =>
    exact ⟨1, fun f hf => by obtain ⟨g, rfl, _⟩ := Common.exists_succ_le hf; simp only [Call.run, parseLoop, hm, hq, if_false, hb]⟩
  | rhsErr hm hq hb _ ih =>
    obtain ⟨f1, h1⟩ := ih
    exact ⟨f1 + 1, fun f hf => by
      obtain ⟨g, rfl, hg⟩ := Common.exists_succ_le hf
      exact parseLoop_binary_err g _ _ _ _ _ _ hb hq hm _ (h1 g hg)⟩
  | bin hm hq hb _ _ ih1 ih2 =>
    obtain ⟨f1, h1⟩ := ih1
    obtain ⟨f2, h2⟩ := ih2
    exact ⟨max f1 f2 + 1, fun f hf => by
      obtain ⟨g, rfl, hg⟩ := Common.exists_succ_le hf
      exact (parseLoop_binary_ok g _ _ _ _ _ _ hb hq hm _ _ (h1 g (by omega))).trans (h2 g (by omega))⟩

theorem run_eq_iff {f : Nat} {c : Call} {r : Except SynErr PState} (hf : c.size ≤ f) : c.run f = r ↔ Parses c r := by
  constructor
  · intro h; exact Parses.of_run h (h ▸ run_ne_fuel hf)
  · intro h
    obtain ⟨f1, h1⟩ := h.run
    obtain ⟨f2, h2⟩ := (Parses.of_run (rfl : c.run f = _) (run_ne_fuel hf)).run
    rw [← h1 (max f1 f2) (by omega), h2 (max f1 f2) (by omega)]

theorem loop_stops_result {f m : Nat} {rest : List Tok} {acc : List Ast} {r : Except SynErr PState}
    (hs : Stops m rest) (h : parseLoop f rest m acc = r) (hr : r ≠ .error .fuel) : r = .ok (rest, acc) := by
  cases f with
  | zero => simp [parseLoop] at h; exact absurd h.symm hr
  | succ f => rw [parseLoop_stops f m rest acc hs] at h; exact h.symm

theorem tree_of_leaf (toks rest : List Tok) (acc acc' : List Ast) (f m : Nat) (r : Except SynErr PState)
    (hleaf : ∀ g r1, parseLeaf g toks acc = r1 → r1 ≠ .error .fuel → r1 = .ok (rest, acc'))
    (h : parseTree f toks m acc = r) (hr : r ≠ .error .fuel) : ∃ f', parseLoop f' rest m acc' = r := by
  have leaf : ∀ {r1}, Parses (.leaf toks acc) r1 → r1 = .ok (rest, acc') := fun hp => by
    obtain ⟨f0, h0⟩ := hp.run
    exact hleaf f0 _ (h0 f0 (Nat.le_refl _)) hp.ne_fuel
  cases Parses.of_run (c := .tree toks m acc) h hr with
  | treeErr hl => cases leaf hl
  | tree hl hloop =>
    cases leaf hl
    obtain ⟨f0, h0⟩ := hloop.run
    exact ⟨f0, h0 f0 (Nat.le_refl _)⟩

/-- `ast::parse` is `parse_tree` at precedence 1 followed by the check that nothing is left over -/
theorem parseToks_cases (f : Nat) (toks : List Tok) :
    (∃ e, parseTree f toks 1 [] = .error e ∧ parseToks f toks = .error e) ∨
    ∃ toks1 acc, parseTree f toks 1 [] = .ok (toks1, acc) ∧
      ((toks1 = [] ∧ parseToks f toks = .ok acc) ∨ ∃ e, parseEndOfInput toks1 = .error e ∧ parseToks f toks = .error e) := by
  unfold parseToks
  cases parseTree f toks 1 [] with
  | error e => exact Or.inl ⟨e, rfl, rfl⟩
  | ok p =>
    obtain ⟨toks1, acc⟩ := p
    refine Or.inr ⟨toks1, acc, rfl, ?_⟩
    cases hend : parseEndOfInput toks1 with
    | error e => exact Or.inr ⟨e, rfl, by simp only [hend]⟩
    | ok u =>
      refine Or.inl ⟨?_, by simp only [hend]⟩
      cases toks1 with
      | nil => rfl
      | cons t r => cases t <;> simp only [parseEndOfInput] at hend <;> (try split at hend) <;> cases hend

theorem parseToks_no_fuel (f : Nat) (toks : List Tok) (hf : 2 * toks.length + 2 ≤ f) :
    parseToks f toks ≠ .error .fuel := by
  intro h
  rcases parseToks_cases f toks with ⟨e, htree, he⟩ | ⟨toks1, acc, _, ⟨_, hok⟩ | ⟨e, hend, he⟩⟩
  · rw [he] at h; injection h with h; subst h
    exact run_ne_fuel (c := .tree toks 1 []) hf htree
  · rw [hok] at h; cases h
  · rw [he] at h; injection h with h
    exact (parseEndOfInput_error hend).1 h

theorem parse_no_fuel (src : List Char) : parse src ≠ .error .fuel :=
  parseToks_no_fuel _ _ (Nat.le_refl _)

end YashModel.Arith
