/-
  C03 — the environment after a FAILING evaluation.  Import-free apart from the model.

  `eval` (eval.rs) mutates `env` in place and never rolls back: when it returns `Err`, the assignments made
  before the failing operation are in the map.  `Res.error` of `Model.lean` carries no state, so this file has
  a second evaluator `evalF` = `eval` with the environment threaded through every outcome: the second component
  is the map at the moment the evaluation stopped.  `evalF_fst` (TraceLemmas.lean): its first component IS `eval`,
  so nothing about values is modelled twice.  The only mutation is `assign`, the last action of `apply_prefix` /
  `apply_postfix` / `apply_binary`, which cannot fail for the HashMap: a failing `apply_*` / `into_value` leaves
  the map as it found it (`atF`).
-/
import YashModel.Arith.Unicode
namespace YashModel.Arith
open YashModel.Generated.ArithTables

/-- `?` on a result that knows the environment it stopped in -/
def bindF {α β : Type} (r : Res α × Env) (k : α → Res β × Env) : Res β × Env :=
  match r.1 with
  | .ok a => k a
  | .error e => (.error e, r.2)
  | .panic => (.panic, r.2)
  | .fuel => (.fuel, r.2)

/-- a step that leaves the environment `env` alone unless it succeeds -/
def atF {α : Type} (env : Env) (r : Res α) : Res α × Env := (r, env)

def doneF (v : Int) (env : Env) : Res (Term × Env) × Env := (.ok (.value v, env), env)

/-- `eval::eval` with the environment at the moment it stopped -/
def evalF : Nat → List Ast → Env → Res (Term × Env) × Env
  | 0, _, env => (.fuel, env)
  | f + 1, ast, env =>
    match splitLast ast with
    | none => (.panic, env)
    | some (children, root) =>
      match root with
      | .term t => (.ok (t, env), env)
      | .pre op =>
        bindF (evalF f children env) fun (t, env1) =>
        bindF (atF env1 (applyPrefix t op env1)) fun (v, env2) => doneF v env2
      | .post op =>
        bindF (evalF f children env) fun (t, env1) =>
        bindF (atF env1 (applyPostfix t op env1)) fun (v, env2) => doneF v env2
      | .binary op rhsLen =>
        match splitAtEnd children rhsLen with
        | none => (.panic, env)
        | some (lhsAst, rhsAst) =>
          if op = .LogicalOr then
            bindF (evalF f lhsAst env) fun (lt, env1) =>
            bindF (atF env1 (intoValue lt env1)) fun l =>
            if l ≠ 0 then doneF 1 env1
            else
              bindF (evalF f rhsAst env1) fun (rt, env2) =>
              bindF (atF env2 (intoValue rt env2)) fun r =>
              bindF (atF env2 (binaryResult .LogicalOr l r)) fun v => doneF v env2
          else if op = .LogicalAnd then
            bindF (evalF f lhsAst env) fun (lt, env1) =>
            bindF (atF env1 (intoValue lt env1)) fun l =>
            if l = 0 then doneF 0 env1
            else
              bindF (evalF f rhsAst env1) fun (rt, env2) =>
              bindF (atF env2 (intoValue rt env2)) fun r =>
              bindF (atF env2 (binaryResult .LogicalAnd l r)) fun v => doneF v env2
          else
            bindF (evalF f lhsAst env) fun (lt, env1) =>
            bindF (evalF f rhsAst env1) fun (rt, env2) =>
            bindF (atF env2 (applyBinary lt rt op env2)) fun (v, env3) => doneF v env3
      | .conditional thenLen elseLen =>
        match splitAtEnd children elseLen with
        | none => (.panic, env)
        | some (children2, elseAst) =>
          match splitAtEnd children2 thenLen with
          | none => (.panic, env)
          | some (condAst, thenAst) =>
            bindF (evalF f condAst env) fun (ct, env1) =>
            bindF (atF env1 (intoValue ct env1)) fun c =>
            if c ≠ 0 then evalF f thenAst env1 else evalF f elseAst env1

/-- the variable map after `eval_with_config(src, &mut env, Config { portable })` returned — `Ok` or `Err`:
    a syntax error and the portability check happen before anything is evaluated -/
def envAfterU (extra : List Char) (portable : Bool) (src : List Char) (env : Env) : Env :=
  match parseU extra src with
  | .error _ => env
  | .ok ast => if portable && ast.any isIncDec then env else (evalF ast.length ast env).2

end YashModel.Arith
