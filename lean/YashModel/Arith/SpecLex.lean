/-
  C03 — the Spec column's lexer (`Spec.lex`) against the code's tokenizer: same white space, same
  punctuator (longest match = first match in `OPERATORS`), same words, same constants — for every text.
-/
import YashModel.Arith.Tokens
namespace YashModel.Arith
open YashModel.Generated.ArithTables

theorem isSpace_fun : Spec.isSpace = isWhitespace := by
  funext c
  unfold Spec.isSpace isWhitespace
  generalize c.toNat = n
  rw [Bool.eq_iff_iff]
  simp only [Bool.or_eq_true, Bool.and_eq_true, decide_eq_true_eq, beq_iff_eq]
  -- the two definitions list the same cases, the first two in the other order
  rw [@or_comm (n = 32)]

theorem isWordChar_fun : Spec.isWordChar = isTermChar := by
  funext c
  unfold Spec.isWordChar isTermChar isAsciiAlnum isAsciiDigit
  rw [Bool.eq_iff_iff]
  simp only [Bool.or_eq_true, Bool.and_eq_true, decide_eq_true_eq, beq_iff_eq, char_le_iff,
    char_eq_iff c '_']
  obtain ⟨h0, h9, ha, hz, hA, hZ, hu⟩ := code_points
  rw [h0, h9, ha, hz, hA, hZ, hu]
  omega

/-- the operator a punctuator denotes in the code's table `OPERATORS` -/
def opOfLexeme (p : List Char) : Option Operator := (operators.find? (fun q => q.1 = p)).map (·.2)

/-- a token of the Spec's lexer as a token of the code's tokenizer -/
def tokOfSToken : Spec.SToken → Tok
  | .num v => .term (.value v)
  | .ident n => .term (.variable n)
  | .punct p => match opOfLexeme p with
    | some o => .op o
    | none => .err
  | .bad => .err

theorem opOfLexeme_operators : ∀ p ∈ operators, opOfLexeme p.1 = some p.2 := by decide +kernel

theorem operators_in_cLexemes : ∀ p ∈ operators, p.1 ∈ Spec.cLexemes := by decide +kernel

def pickLonger (best : Option (List Char)) (p : List Char) : Option (List Char) :=
  match best with
  | none => some p
  | some b => if b.length < p.length then some p else some b

theorem pickLonger_spec (init : Option (List Char)) (a : List Char) :
    ∃ x, pickLonger init a = some x ∧ (x = a ∨ init = some x) ∧ a.length ≤ x.length ∧
      ∀ b, init = some b → b.length ≤ x.length := by
  cases init with
  | none => exact ⟨a, rfl, Or.inl rfl, Nat.le_refl _, fun b hb => by cases hb⟩
  | some b =>
    unfold pickLonger
    by_cases hlt : b.length < a.length
    · exact ⟨a, by simp only [if_pos hlt], Or.inl rfl, Nat.le_refl _, fun b' hb' => by cases hb'; omega⟩
    · exact ⟨b, by simp only [if_neg hlt], Or.inr rfl, by omega, fun b' hb' => by cases hb'; exact Nat.le_refl _⟩

theorem foldl_pickLonger (L : List (List Char)) : ∀ (init : Option (List Char)),
    (L.foldl pickLonger init = none ↔ (init = none ∧ L = [])) ∧
    ∀ r, L.foldl pickLonger init = some r →
      (r ∈ L ∨ init = some r) ∧ (∀ q ∈ L, q.length ≤ r.length) ∧ (∀ b, init = some b → b.length ≤ r.length) := by
  induction L with
  | nil =>
    intro init; simp only [List.foldl_nil, and_true, List.not_mem_nil, false_or, false_imp_iff, implies_true, true_and]
    intro r hr
    refine ⟨hr, fun b hb => ?_⟩
    rw [hr] at hb; injection hb with hb; rw [hb]; exact Nat.le_refl _
  | cons a L ih =>
    intro init
    obtain ⟨x, hx, hxa, hax, hbx⟩ := pickLonger_spec init a
    have ih' := ih (some x)
    simp only [List.foldl_cons, hx]
    constructor
    · rw [ih'.1]; simp
    · intro r hr
      obtain ⟨h1, h2, h3⟩ := ih'.2 r hr
      have hxr := h3 x rfl
      refine ⟨?_, ?_, fun b hb => Nat.le_trans (hbx b hb) hxr⟩
      · rcases h1 with h1 | h1
        · exact Or.inl (List.mem_cons_of_mem _ h1)
        · injection h1 with h1; subst h1
          rcases hxa with rfl | hi
          · exact Or.inl (by simp)
          · exact Or.inr hi
      · intro q hq
        rcases List.mem_cons.mp hq with rfl | hq
        · omega
        · exact h2 q hq

theorem longestPunct_eq_fold (s : List Char) :
    Spec.longestPunct s = (Spec.cLexemes.filter (fun p => p.isPrefixOf s)).foldl pickLonger none := rfl

theorem longestPunct_eq_findOp (s : List Char) : Spec.longestPunct s = (findOp s).map (·.1) := by
  rw [longestPunct_eq_fold]
  have hf := foldl_pickLonger (Spec.cLexemes.filter (fun p => p.isPrefixOf s)) none
  cases hop : findOp s with
  | none =>
    simp only [Option.map_none]
    rw [hf.1]
    refine ⟨rfl, ?_⟩
    rw [List.filter_eq_nil_iff]
    intro l hl
    have hmem := cLexemes_in_operators l hl
    rw [List.mem_map] at hmem
    obtain ⟨q, hq, hql⟩ := hmem
    unfold findOp at hop
    rw [List.find?_eq_none] at hop
    have := hop q hq
    rw [← hql]; simpa using this
  | some p =>
    obtain ⟨lex, o⟩ := p
    obtain ⟨hmem, hpre, hmax⟩ := longest_match s lex o hop
    simp only [Option.map_some]
    have hlexin : lex ∈ Spec.cLexemes.filter (fun p => p.isPrefixOf s) := by
      rw [List.mem_filter]
      exact ⟨operators_in_cLexemes _ hmem, by simpa [List.isPrefixOf_iff_prefix] using hpre⟩
    cases hfold : (Spec.cLexemes.filter (fun p => p.isPrefixOf s)).foldl pickLonger none with
    | none =>
      have := (hf.1.mp hfold).2
      rw [this] at hlexin; simp at hlexin
    | some r =>
      obtain ⟨h1, h2, _⟩ := hf.2 r hfold
      have hr : r ∈ Spec.cLexemes.filter (fun p => p.isPrefixOf s) := by
        rcases h1 with h1 | h1
        · exact h1
        · simp at h1
      rw [List.mem_filter] at hr
      have hrpre : r <+: s := by simpa [List.isPrefixOf_iff_prefix] using hr.2
      have hrop := cLexemes_in_operators r hr.1
      rw [List.mem_map] at hrop
      obtain ⟨q, hq, hqr⟩ := hrop
      have hle1 : r.length ≤ lex.length := by
        have := hmax q hq (by rw [hqr]; exact hrpre)
        rw [hqr] at this; exact this
      have hle2 : lex.length ≤ r.length := h2 lex hlexin
      have : r <+: lex := List.prefix_of_prefix_length_le hrpre hpre hle1
      have heq : r = lex := this.eq_of_length (by omega)
      rw [heq]

theorem digit_iff (c : Char) : ('0' ≤ c ∧ c ≤ '9') ↔ isAsciiDigit c = true := by
  unfold isAsciiDigit
  simp only [Bool.and_eq_true, decide_eq_true_eq, char_le_iff]
  rw [code_points.1, code_points.2.1]

theorem lex_eq_tokenize (f : Nat) : ∀ s : List Char, (Spec.lex f s).map tokOfSToken = tokenize f s := by
  induction f with
  | zero => intro s; rfl
  | succ f ih =>
    intro s
    rw [Spec.lex, tokenize, nextToken, isSpace_fun]
    cases ht : s.dropWhile isWhitespace with
    | nil => simp
    | cons c cs =>
      simp only [List.head?_cons]
      rw [longestPunct_eq_findOp]
      cases hop : findOp (c :: cs) with
      | some p =>
        obtain ⟨lex, o⟩ := p
        have hmem : (lex, o) ∈ operators := by
          unfold findOp at hop; exact List.mem_of_find?_eq_some hop
        have hto := opOfLexeme_operators _ hmem
        simp only at hto
        simp only [Option.map_some, List.map_cons, tokOfSToken, hto, ih]
      | none =>
        simp only [Option.map_none, isWordChar_fun]
        by_cases hemp : (c :: cs).takeWhile isTermChar = []
        · simp [hemp, tokOfSToken]
        · have hne : ((c :: cs).takeWhile isTermChar).isEmpty = false := by
            cases h : (c :: cs).takeWhile isTermChar with
            | nil => exact absurd h hemp
            | cons a b => rfl
          simp only [hemp, if_false, hne, Bool.false_eq_true]
          by_cases hd : isAsciiDigit c = true
          · have hd' : ('0' ≤ c ∧ c ≤ '9') := (digit_iff c).mpr hd
            simp only [hd, hd', and_self, if_true]
            have hterm : ∀ ch ∈ (c :: cs).takeWhile isTermChar, isTermChar ch = true :=
              fun ch hch => Common.mem_takeWhile hch
            rw [← parseConstant_eq_spec _ hterm]
            cases parseConstant ((c :: cs).takeWhile isTermChar) with
            | none => simp [tokOfSToken]
            | some v => simp [tokOfSToken, ih]
          · have hd' : ¬ ('0' ≤ c ∧ c ≤ '9') := fun h => hd ((digit_iff c).mp h)
            simp [hd, hd', tokOfSToken, ih]

end YashModel.Arith
