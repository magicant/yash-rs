/-
  C03 — the generated operator enums are the finite lists `allOperators`, `allBinaryOperators`: a fact about every operator
  is stated over the list and checked by one evaluation.  The table `OPERATORS` against the C punctuators of the Spec
  (`lexemes_are_C`).
-/
import YashModel.Arith.Model
import YashModel.Arith.Spec
namespace YashModel.Arith
open YashModel.Generated.ArithTables

theorem mem_allOperators (o : Operator) : o ∈ allOperators := by cases o <;> decide

theorem mem_allBinaryOperators (b : BinaryOperator) : b ∈ allBinaryOperators := by cases b <;> decide

theorem forall_op {P : Operator → Prop} (h : ∀ o ∈ allOperators, P o) (o : Operator) : P o := h o (mem_allOperators o)

theorem forall_binop {P : BinaryOperator → Prop} (h : ∀ b ∈ allBinaryOperators, P b) (b : BinaryOperator) : P b :=
  h b (mem_allBinaryOperators b)

/-- ★ every lexeme means what it means in C (as binary, prefix and postfix operator), the table has every C
    punctuator of the expression language exactly once, and no empty lexeme -/
theorem lexemes_are_C :
    (∀ p ∈ operators,
        p.2.as_binary = (Spec.binaryOfLexeme p.1).map (fun e => (e.1, e.2.2)) ∧
        p.2.as_prefix = Spec.prefixOfLexeme p.1 ∧ p.2.as_postfix = Spec.postfixOfLexeme p.1 ∧ p.1 ≠ []) ∧
    (∀ l ∈ Spec.cLexemes, l ∈ operators.map (·.1)) ∧
    (operators.map (·.1)).Nodup ∧ (operators.map (·.2)).Nodup ∧
    (∀ o ∈ allOperators, o ∈ operators.map (·.2)) := by
  decide +kernel

theorem operators_lexeme_ne_nil : ∀ p ∈ operators, p.1 ≠ [] := fun p hp => (lexemes_are_C.1 p hp).2.2.2

theorem cLexemes_in_operators : ∀ l ∈ Spec.cLexemes, l ∈ operators.map (·.1) := lexemes_are_C.2.1

theorem findOp_ne_nil (s lex : List Char) (o : Operator) (h : findOp s = some (lex, o)) : lex ≠ [] := by
  unfold findOp at h
  exact operators_lexeme_ne_nil (lex, o) (List.mem_of_find?_eq_some h)

end YashModel.Arith
