/-
  C03 — `rpn`, the definition only: the driver runs it.
-/
import YashModel.Arith.Model
import YashModel.Arith.Spec
namespace YashModel.Arith
open YashModel.Generated.ArithTables

/-- the vector `ast::parse` builds for a tree -/
def rpn : Spec.Expr → List Ast
  | .num v => [.term (.value v)]
  | .var x => [.term (.variable x)]
  | .pre op e => rpn e ++ [.pre op]
  | .post op e => rpn e ++ [.post op]
  | .bin op l r => rpn l ++ rpn r ++ [.binary op (rpn r).length]
  | .cond c t e => rpn c ++ rpn t ++ rpn e ++ [.conditional (rpn t).length (rpn e).length]

end YashModel.Arith
