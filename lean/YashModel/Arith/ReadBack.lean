/-
  C03 — a parser reads the tokens of a tree (`renderD`: needed parentheses and ANY redundant ones) back as that tree.
  `Reader`: the two judgements (tokens read as an operand of a prefix/postfix operator; tokens read as an operand of a
  binary level) and the nine rules a parser has to satisfy, one per kind of node; `Reader.good` is the induction over the
  tree that chooses, for every operand, between its bare tokens and a parenthesised unit — it is about `renderD`, not about
  either parser.  `codeReader`: the precedence-climbing parser of the code satisfies the rules (derivations of `Parses` built
  forwards), hence `parse_render_redundant`.
-/
import YashModel.Arith.Render
namespace YashModel.Arith
open YashModel.Generated.ArithTables

/-- What the two parsers have in common when they read a rendered tree back: two judgements and nine rules.  The side
    conditions are the weakest under which BOTH parsers satisfy a rule: the Spec's grammar wants a unary expression (level 13)
    left of an assignment operator and a `||`-level expression (level 3) as the condition of `?:` (`binR`, `cond`); the code's
    precedence climbing would be content with levels 1 and 2 there (`codeReader` discards the difference by `omega`). -/
structure Reader where
  /-- the tokens `ts`, followed by `rest`, are read as `e` by the unary level (then the postfix operators at the head of `rest`) -/
  Leaf : List Tok → Spec.Expr → List Tok → Prop
  /-- the tokens `ts` are read as `e` by every level up to `lv` when the token that follows ends the operand (`Stops sl`) -/
  Tree : List Tok → Spec.Expr → Nat → Nat → Prop
  num : ∀ v rest, Leaf [.term (.value v)] (.num v) rest
  var : ∀ x rest, Leaf [.term (.variable x)] (.var x) rest
  pre : ∀ op U x rest, NoPostfix rest → Leaf U x rest → Leaf (.op (opOfPrefix op) :: U) (.pre op x) rest
  post : ∀ op U x rest, Leaf U x ([.op (opOfPostfix op)] ++ rest) → Leaf (U ++ [.op (opOfPostfix op)]) (.post op x) rest
  paren : ∀ U x lv sl rest, 1 ≤ lv → 1 ≤ sl → Tree U x lv sl → Leaf ([.op .OpenParen] ++ U ++ [.op .CloseParen]) x rest
  ofLeaf : ∀ U x lv sl, 13 ≤ lv → 3 ≤ sl → (∀ rest, NoPostfix rest → Leaf U x rest) → Tree U x lv sl
  binL : ∀ b l r Ul Ur lvl sll lvr slr, assocOf b = .Left → Tree Ul l lvl sll → Tree Ur r lvr slr →
    bprec b ≤ lvl → bprec b < sll → bprec b + 1 ≤ lvr → bprec b + 1 ≤ slr →
    Tree (Ul ++ [.op (opOfBinary b)] ++ Ur) (.bin b l r) (bprec b) (bprec b + 1)
  binR : ∀ b l r Ul Ur lvl sll lvr slr, assocOf b = .Right → Tree Ul l lvl sll → Tree Ur r lvr slr →
    13 ≤ lvl → 13 < sll → 1 ≤ lvr → 1 ≤ slr → Tree (Ul ++ [.op (opOfBinary b)] ++ Ur) (.bin b l r) 1 1
  cond : ∀ c t e Uc Ut Ue lvc slc lvt slt lve sle, Tree Uc c lvc slc → Tree Ut t lvt slt → Tree Ue e lve sle →
    3 ≤ lvc → 3 < slc → 1 ≤ lvt → 1 ≤ slt → 2 ≤ lve → 2 ≤ sle →
    Tree (Uc ++ [.op .Question] ++ Ut ++ [.op .Colon] ++ Ue) (.cond c t e) 2 2

namespace Reader
variable (R : Reader)

theorem leaf_parenN (U : List Tok) (x : Spec.Expr) (lv sl : Nat) (h1 : 1 ≤ lv) (hsl : 1 ≤ sl) (hT : R.Tree U x lv sl) :
    ∀ n rest, R.Leaf (parenN (n + 1) U) x rest
  | 0, rest => R.paren U x lv sl rest h1 hsl hT
  | n + 1, rest => R.paren _ x 15 16 rest (by omega) (by omega)
      (R.ofLeaf _ x 15 16 (by omega) (by omega) fun rest _ => leaf_parenN U x lv sl h1 hsl hT n rest)

/-- a rendered tree of level 13 or more is read as a leaf; one of level 13 (a prefix operator at its root) only where no
    postfix operator follows, which would be taken by the innermost operand -/
def LeafUD (d : Deco) (e : Spec.Expr) : Prop :=
  13 ≤ level e → ∀ rest, (14 ≤ level e ∨ NoPostfix rest) → R.Leaf (renderD d e) e rest

def TreeUD (d : Deco) (e : Spec.Expr) : Prop := R.Tree (renderD d e) e (level e) (stopLevel e)

/-- a unit `parenN c (renderD d x)` as the operand of a prefix or postfix operator -/
theorem unit_leaf (d : Deco) (x : Spec.Expr) (hL : R.LeafUD d x) (hT : R.TreeUD d x) (c : Nat) (rest : List Tok)
    (hc : 1 ≤ c ∨ 14 ≤ level x ∨ (13 ≤ level x ∧ NoPostfix rest)) : R.Leaf (parenN c (renderD d x)) x rest := by
  cases c with
  | succ n => exact R.leaf_parenN _ x _ _ (level_pos x) (stopLevel_pos x) hT n rest
  | zero =>
    rcases hc with hc | hc | hc
    · omega
    · exact hL (by omega) rest (Or.inl hc)
    · exact hL hc.1 rest (Or.inr hc.2)

/-- a unit `parenN c (renderD d x)` as an operand that has to reach level `k`: bare when its own level does, otherwise
    parenthesised -/
theorem unit_tree (d : Deco) (x : Spec.Expr) (hT : R.TreeUD d x) (c k : Nat) (h15 : k ≤ 15) (hk : c = 0 → k ≤ level x) :
    ∃ lv sl, R.Tree (parenN c (renderD d x)) x lv sl ∧ k ≤ lv ∧ k ≤ sl ∧ (3 ≤ k → k < sl) := by
  cases c with
  | zero =>
    have hk := hk rfl
    refine ⟨level x, stopLevel x, hT, hk, ?_, fun h3 => stopLevel_gt x k h3 hk⟩
    rcases level_stopLevel x with h | h | h | h <;> omega
  | succ n =>
    exact ⟨15, 16, R.ofLeaf _ x 15 16 (by omega) (by omega) fun rest _ =>
      R.leaf_parenN _ x _ _ (level_pos x) (stopLevel_pos x) hT n rest, h15, by omega, fun _ => by omega⟩

theorem treeUD_of_leafUD (d : Deco) (e : Spec.Expr) (h13 : 13 ≤ level e) (hL : R.LeafUD d e) : R.TreeUD d e :=
  R.ofLeaf _ e _ _ h13 (by rw [stopLevel_of_unary e h13]; omega) fun rest hnp => hL h13 rest (Or.inr hnp)

theorem good (d : Deco) (e : Spec.Expr) : R.LeafUD d e ∧ R.TreeUD d e := by
  induction e with
  | num v =>
    have hL : R.LeafUD d (.num v) := fun _ rest _ => R.num v rest
    exact ⟨hL, R.treeUD_of_leafUD d _ (by simp [level]) hL⟩
  | var x =>
    have hL : R.LeafUD d (.var x) := fun _ rest _ => R.var x rest
    exact ⟨hL, R.treeUD_of_leafUD d _ (by simp [level]) hL⟩
  | pre op x ih =>
    have hL : R.LeafUD d (.pre op x) := fun _ rest h14 => by
      have hnp : NoPostfix rest := h14.elim (fun h => by simp [level] at h) id
      exact R.pre op _ x rest hnp
        (R.unit_leaf d x ih.1 ih.2 (d x + if level x < 13 then 1 else 0) rest (need_or fun hl => Or.inr ⟨by omega, hnp⟩))
    exact ⟨hL, R.treeUD_of_leafUD d _ (by simp [level]) hL⟩
  | post op x ih =>
    have hL : R.LeafUD d (.post op x) := fun _ rest _ =>
      R.post op _ x rest
        (R.unit_leaf d x ih.1 ih.2 (d x + if level x < 14 then 1 else 0) _ (need_or fun hl => Or.inl (by omega)))
    exact ⟨hL, R.treeUD_of_leafUD d _ (by simp [level]) hL⟩
  | bin b l r ihl ihr =>
    have hk12 := bprec_le b
    refine ⟨fun h13 => by simp only [level] at h13; omega, ?_⟩
    unfold TreeUD
    cases ha : assocOf b with
    | Left =>
      have h3k := bprec_of_left ha
      obtain ⟨lvl, sll, hTl, hl1, _, hl2⟩ := R.unit_tree d l ihl.2 (d l + if level l < bprec b then 1 else 0) (bprec b)
        (by omega) (fun hc => Nat.le_of_not_lt (need_zero hc))
      obtain ⟨lvr, slr, hTr, hr1, hr2, _⟩ := R.unit_tree d r ihr.2 (d r + if level r ≤ bprec b then 1 else 0) (bprec b + 1)
        (by omega) (fun hc => Nat.lt_of_not_le (need_zero hc))
      simpa only [renderD, ha, if_true, level, stopLevel] using
        R.binL b l r _ _ lvl sll lvr slr ha hTl hTr hl1 (hl2 h3k) hr1 hr2
    | Right =>
      have h1 := bprec_of_right ha
      obtain ⟨lvl, sll, hTl, hl1, _, hl2⟩ := R.unit_tree d l ihl.2 (d l + if level l < 13 then 1 else 0) 13
        (by omega) (fun hc => Nat.le_of_not_lt (need_zero hc))
      obtain ⟨lvr, slr, hTr, hr1, hr2, _⟩ := R.unit_tree d r ihr.2 (d r) 1 (by omega) (fun _ => level_pos r)
      simpa only [renderD, ha, reduceCtorEq, if_false, level, stopLevel, h1] using
        R.binR b l r _ _ lvl sll lvr slr ha hTl hTr hl1 (hl2 (by omega)) hr1 hr2
  | cond c t e ihc iht ihe =>
    refine ⟨fun h13 => by simp [level] at h13, ?_⟩
    obtain ⟨lvc, slc, hTc, hc1, _, hc2⟩ := R.unit_tree d c ihc.2 (d c + if level c ≤ 2 then 1 else 0) 3
      (by omega) (fun hc => Nat.lt_of_not_le (need_zero hc))
    obtain ⟨lvt, slt, hTt, ht1, ht2, _⟩ := R.unit_tree d t iht.2 (d t) 1 (by omega) (fun _ => level_pos t)
    obtain ⟨lve, sle, hTe, he1, he2, _⟩ := R.unit_tree d e ihe.2 (d e + if level e < 2 then 1 else 0) 2
      (by omega) (fun hc => Nat.le_of_not_lt (need_zero hc))
    simpa only [TreeUD, renderD, level, stopLevel] using
      R.cond c t e _ _ _ lvc slc lvt slt lve sle hTc hTt hTe hc1 (hc2 (Nat.le_refl _)) ht1 ht2 he1 he2

theorem top (d : Deco) (e : Spec.Expr) : ∃ lv sl, R.Tree (renderTop d e) e lv sl ∧ 1 ≤ lv ∧ 1 ≤ sl := by
  obtain ⟨lv, sl, hT, h1, h2, _⟩ := R.unit_tree d e (R.good d e).2 (d e) 1 (by omega) (fun _ => level_pos e)
  exact ⟨lv, sl, hT, h1, h2⟩

end Reader

/-- tokens that `parse_tree m`, for every `1 ≤ m ≤ lv`, reads as `e` when the token that follows ends the operand
    (`Stops sl`); whatever the operator loop then does with `e` as its left operand is the answer of the call -/
def ReadsTree (ts : List Tok) (e : Spec.Expr) (lv sl : Nat) : Prop :=
  ∀ (m : Nat) (rest : List Tok) (acc : List Ast) (r : Except SynErr PState),
    1 ≤ m → m ≤ lv → NoPostfix rest → Stops sl rest →
    Parses (.loop rest m (acc ++ rpn e)) r → Parses (.tree (ts ++ rest) m acc) r

theorem readsTree_of_leaf (ts : List Tok) (e : Spec.Expr) (lv sl : Nat)
    (hL : ∀ rest, NoPostfix rest → ∀ acc, Parses (.leaf (ts ++ rest) acc) (.ok (parsePostfix rest (acc ++ rpn e)))) :
    ReadsTree ts e lv sl := by
  intro m rest acc r _ _ hnp _ hloop
  have := hL rest hnp acc
  rw [parsePostfix_noPostfix rest _ hnp] at this
  exact .tree this hloop

theorem closeParen_stops (rest : List Tok) (k : Nat) (hk : 1 ≤ k) : Stops k (Tok.op Operator.CloseParen :: rest) := by
  simp only [Stops, closeParen_prec]; omega

/-- a binary operator of either associativity: the loop at the operator reads the right operand at the level `Parses.bin` gives it -/
theorem readsTree_bin (b : BinaryOperator) (l r : Spec.Expr) (Ul Ur : List Tok) (lvl sll lvr slr : Nat)
    (hTl : ReadsTree Ul l lvl sll) (hTr : ReadsTree Ur r lvr slr) (hl : bprec b ≤ lvl) (hsl : bprec b < sll)
    (hr : (if assocOf b = .Left then bprec b + 1 else bprec b) ≤ lvr)
    (hsr : (if assocOf b = .Left then bprec b + 1 else bprec b) ≤ slr) :
    ReadsTree (Ul ++ [.op (opOfBinary b)] ++ Ur) (.bin b l r) (bprec b) (if assocOf b = .Left then bprec b + 1 else bprec b) := by
  intro m rest acc res hm hle hnp hst hloop
  have hnm : ¬ (opOfBinary b).precedence < m := by unfold bprec at hle; omega
  simp only [List.append_assoc, List.cons_append, List.nil_append]
  refine hTl m _ acc res hm (by omega) (opOfBinary_noPostfix b) hsl ?_
  -- the loop at the operator: the right operand up to `rest`, then the loop goes on
  have hR : Parses (.tree (Ur ++ rest) (if assocOf b = .Left then bprec b + 1 else bprec b) (acc ++ rpn l))
      (.ok (rest, acc ++ rpn l ++ rpn r)) :=
    hTr _ rest _ _ (by split <;> omega) hr hnp (stops_mono hst hsr) (.stop _ hst)
  refine Parses.bin hnm (opOfBinary_ne_question b) (asBinary_opOfBinary b) hR ?_
  have hlen : (acc ++ rpn l ++ rpn r).length - (acc ++ rpn l).length = (rpn r).length := by
    simp only [List.length_append]; omega
  rw [hlen]
  simpa [rpn, List.append_assoc] using hloop

theorem readsTree_cond (c t e : Spec.Expr) (Uc Ut Ue : List Tok) (lvc slc lvt slt lve sle : Nat)
    (hTc : ReadsTree Uc c lvc slc) (hTt : ReadsTree Ut t lvt slt) (hTe : ReadsTree Ue e lve sle)
    (hc : 2 ≤ lvc) (hsc : 3 ≤ slc) (ht : 1 ≤ lvt) (hst' : 1 ≤ slt) (he : 2 ≤ lve) (hse : 2 ≤ sle) :
    ReadsTree (Uc ++ [.op .Question] ++ Ut ++ [.op .Colon] ++ Ue) (.cond c t e) 2 2 := by
  intro m rest acc res hm hle hnp hst hloop
  have hq2 := question_prec
  have hqpf := question_noPostfix
  have hc0 := colon_prec
  have hcpf := colon_noPostfix
  simp only [List.append_assoc, List.cons_append, List.nil_append]
  refine hTc m _ acc res hm (by omega) hqpf (by simp only [Stops, hq2]; omega) ?_
  have hnm : ¬ Operator.Question.precedence < m := by rw [hq2]; omega
  -- the then-branch up to the colon, the else-branch up to `rest`
  have hcolon : ∀ k, 1 ≤ k → Stops k (Tok.op .Colon :: (Ue ++ rest)) := fun k hk => by simp only [Stops, hc0]; omega
  have hT : Parses (.tree (Ut ++ Tok.op .Colon :: (Ue ++ rest)) 1 (acc ++ rpn c))
      (.ok (Tok.op .Colon :: (Ue ++ rest), acc ++ rpn c ++ rpn t)) :=
    hTt 1 _ _ _ (Nat.le_refl _) ht hcpf (hcolon _ hst') (.stop _ (hcolon 1 (Nat.le_refl _)))
  have hE : Parses (.tree (Ue ++ rest) Operator.Question.precedence (acc ++ rpn c ++ rpn t))
      (.ok (rest, acc ++ rpn c ++ rpn t ++ rpn e)) := by
    rw [hq2]
    exact hTe 2 rest _ _ (by omega) he hnp (stops_mono hst hse) (.stop _ hst)
  refine Parses.cond hnm hT hE ?_
  have hl1 : (acc ++ rpn c ++ rpn t).length - (acc ++ rpn c).length = (rpn t).length := by
    simp only [List.length_append]; omega
  have hl2 : (acc ++ rpn c ++ rpn t ++ rpn e).length - (acc ++ rpn c ++ rpn t).length = (rpn e).length := by
    simp only [List.length_append]; omega
  rw [hl1, hl2]
  simpa [rpn, List.append_assoc] using hloop

def codeReader : Reader where
  Leaf ts e rest := ∀ acc, Parses (.leaf (ts ++ rest) acc) (.ok (parsePostfix rest (acc ++ rpn e)))
  Tree := ReadsTree
  num v rest acc := .term _ rest acc
  var x rest acc := .term _ rest acc
  pre op U x rest hnp h acc := by
    obtain ⟨hpre, hno⟩ := prefixFacts op
    have := h acc
    rw [parsePostfix_noPostfix rest _ hnp] at this ⊢
    simpa [rpn, List.append_assoc] using Parses.pre hno hpre this
  post op U x rest h acc := by
    simpa [rpn, parsePostfix, postfixFacts op, List.append_assoc] using h acc
  paren U x lv sl rest h1 hsl hT acc := by
    have := Parses.paren (hT 1 (.op .CloseParen :: rest) acc _ (Nat.le_refl _) h1 closeParen_noPostfix
      (closeParen_stops rest sl hsl) (.stop _ (closeParen_stops rest 1 (Nat.le_refl _)))) (toks2 := rest)
      (by simp [parseCloseParen])
    simpa using this
  ofLeaf U x lv sl _ _ h := readsTree_of_leaf U x lv sl h
  binL b l r Ul Ur lvl sll lvr slr ha hTl hTr hl hsl hr hsr := by
    simpa only [if_pos ha] using
      readsTree_bin b l r Ul Ur lvl sll lvr slr hTl hTr hl hsl (by rwa [if_pos ha]) (by rwa [if_pos ha])
  binR b l r Ul Ur lvl sll lvr slr ha hTl hTr hl hsl hr hsr := by
    have h1 := bprec_of_right ha
    have hne : assocOf b ≠ .Left := by rw [ha]; decide
    simpa only [if_neg hne, h1] using
      readsTree_bin b l r Ul Ur lvl sll lvr slr hTl hTr (by omega) (by omega) (by rwa [if_neg hne, h1]) (by rwa [if_neg hne, h1])
  cond c t e Uc Ut Ue lvc slc lvt slt lve sle hTc hTt hTe hc hsc ht hst he hse :=
    readsTree_cond c t e Uc Ut Ue lvc slc lvt slt lve sle hTc hTt hTe (by omega) (by omega) ht hst he hse

/-- ☆ the parser reads a tree written with the needed parentheses and ANY redundant ones (`d x` extra pairs around every
    subexpression `x` and around the whole) back as the reverse-Polish vector of that tree -/
theorem parse_render_redundant (d : Deco) (e : Spec.Expr) (f : Nat) (hf : 2 * (renderTop d e).length + 2 ≤ f) :
    parseToks f (renderTop d e) = .ok (rpn e) := by
  obtain ⟨lv, sl, hT, h1, _⟩ := codeReader.top d e
  have := hT 1 [] [] _ (Nat.le_refl _) h1 trivial trivial (.stop _ trivial)
  rw [List.append_nil, List.nil_append] at this
  have hrun := (run_eq_iff (c := .tree (renderTop d e) 1 []) hf).mpr this
  simp only [Call.run] at hrun
  simp [parseToks, hrun, parseEndOfInput]

/-- a text that the tokenizer reads as the tokens of a rendered tree parses to the vector of that tree -/
theorem parse_of_tokens (d : Deco) (e : Spec.Expr) (src : List Char)
    (h : tokenize (src.length + 1) src = renderTop d e) : parse src = .ok (rpn e) := by
  unfold parse
  simp only [h]
  exact parse_render_redundant d e _ (Nat.le_refl _)

/-- ☆ `parse_render`: write a tree as tokens with exactly the parentheses the C grammar needs (`render`,
    driven by the GENERATED precedence/associativity tables: left operand in parentheses when its level is
    lower, right operand when its level is not higher, assignment and `?:` grouping to the right, unary and
    postfix operands by level) — the precedence-climbing parser reads it back as the reverse-Polish vector of
    that same tree, for every tree.  This is the statement that the parser implements C precedence and
    associativity. -/
theorem parse_render (e : Spec.Expr) (f : Nat) (hf : 2 * (render e).length + 2 ≤ f) :
    parseToks f (render e) = .ok (rpn e) := by
  rw [← renderTop_zero e] at hf ⊢
  exact parse_render_redundant _ e f hf

end YashModel.Arith
