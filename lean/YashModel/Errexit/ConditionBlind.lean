/-
  C10: under a `Condition` frame anywhere on the stack, the errexit option is never consulted —
  two runs that differ only in that option agree on everything else (`Irr`, relational induction on fuel).

  The two runs are runs of the same program, so both are rewritten with the same equation of `Exec/Step.lean`
  and the relation is carried through the operator of that equation (`rel_andThen`, `rel_loopCtl`, `rel_whileRound`,
  `rel_joinSub`, …): the first run kept the stack (`Exec.bal`), so the `Condition` frame is still there for what
  comes next, which is again an execution function with less fuel, i.e. `Blind` by the induction hypothesis.

  TRAP: `Irr` and `irr` are also the names of C02's loop-irrelevance induction in `Exec/LoopIrrelevance.lean` (same
  namespace `YashModel.Exec`, other statements): this module and that one — hence `Errexit/Theorems.lean` and
  `Exec/Theorems.lean` — cannot be imported together.
-/
import YashModel.Exec.Balance
namespace YashModel.Exec

def SameButErrexit (a b : St) : Prop := ∃ e, b = { a with errexit := e }

def Cond (s : St) : Prop := s.stack.contains .condition = true

theorem sbe_refl (s : St) : SameButErrexit s s := ⟨s.errexit, rfl⟩

theorem cond_push (s : St) (f : Frame) (h : Cond s) : Cond (s.push f) := by
  unfold Cond at *; simp [St.push] at *; exact Or.inr h

theorem cond_push_condition (s : St) : Cond (s.push .condition) := by
  unfold Cond; simp [St.push]

theorem cond_of_stack {s t : St} (h : t.stack = s.stack) (hc : Cond s) : Cond t := by
  unfold Cond at *; rw [h]; exact hc

theorem sbe_stack {a b : St} (h : SameButErrexit a b) : b.stack = a.stack := by
  obtain ⟨e, rfl⟩ := h; rfl

theorem applyErrexit_cond (s : St) (h : Cond s) : s.applyErrexit = .continue_ :=
  applyErrexit_of_not_applicable s (errexitApplicable_of_condition s h)

theorem expansionError_cond (s : St) (h : Cond s) : s.expansionError = .break_ (.interrupt (some 2)) :=
  expansionError_of_not_applicable s (errexitApplicable_of_condition s h)

def Rel (x y : St × Res) : Prop := SameButErrexit x.1 y.1 ∧ x.2 = y.2

/-- `Rel` for a run with any second component; the fields of `Irr` are written with `Rel` (its `while_` and `case_`
    fields spell the conjunction out) -/
def RelA {α : Type} (x y : St × α) : Prop := SameButErrexit x.1 y.1 ∧ x.2 = y.2

theorem rel_mk {a b : St} {r : Res} (h : SameButErrexit a b) : Rel (a, r) (b, r) := ⟨h, rfl⟩

theorem rel_finishSimple (a : St) (e : Bool) (hc : Cond a) (r : Res) :
    Rel (finishSimple a r) (finishSimple { a with errexit := e } r) := by
  unfold finishSimple
  cases r with
  | continue_ =>
    simp only
    rw [applyErrexit_cond a hc, applyErrexit_cond { a with errexit := e } hc]
    exact rel_mk ⟨e, rfl⟩
  | _ => exact rel_mk ⟨e, rfl⟩

theorem rel_cases {α : Type} {x y : St × α} (h : RelA x y) :
    ∃ s1 r e, x = (s1, r) ∧ y = ({ s1 with errexit := e }, r) := by
  obtain ⟨s1, r⟩ := x
  obtain ⟨s1', r'⟩ := y
  obtain ⟨⟨e, he⟩, hr⟩ := h
  simp only at he hr
  subst he hr
  exact ⟨s1, r, e, rfl, rfl⟩

theorem rel_run {x y : St × Res} {s : St} (h : Rel x y) (hb : x.1.stack = s.stack) (hc : Cond s) :
    ∃ s1 r e, x = (s1, r) ∧ y = ({ s1 with errexit := e }, r) ∧ Cond s1 := by
  obtain ⟨s1, r, e, rfl, rfl⟩ := rel_cases h
  exact ⟨s1, r, e, rfl, rfl, cond_of_stack hb hc⟩

structure Irr (fuel : Nat) : Prop where
  cmd : ∀ s s' c, SameButErrexit s s' → Cond s → Rel (execCmd fuel s c) (execCmd fuel s' c)
  elifs : ∀ s s' e els, SameButErrexit s s' → Cond s → Rel (execElifs fuel s e els) (execElifs fuel s' e els)
  while_ : ∀ s s' u c b e, SameButErrexit s s' → Cond s →
    SameButErrexit (execWhile fuel s u c b e).1 (execWhile fuel s' u c b e).1 ∧
    (execWhile fuel s u c b e).2 = (execWhile fuel s' u c b e).2
  for_ : ∀ s s' n b, SameButErrexit s s' → Cond s → Rel (execFor fuel s n b) (execFor fuel s' n b)
  case_ : ∀ s s' items f u, SameButErrexit s s' → Cond s →
    SameButErrexit (execCase fuel s items f u).1 (execCase fuel s' items f u).1 ∧
    (execCase fuel s items f u).2 = (execCase fuel s' items f u).2
  list : ∀ s s' l, SameButErrexit s s' → Cond s → Rel (execList fuel s l) (execList fuel s' l)
  item : ∀ s s' i, SameButErrexit s s' → Cond s → Rel (execItem fuel s i) (execItem fuel s' i)
  -- the and-or tail pops the list's own `Condition` frame, so an OUTER one must be known to remain below it
  aor : ∀ s s' r st, SameButErrexit s s' → s.stack = .condition :: st → st.contains .condition = true →
    Rel (execAndOrRest fuel s r) (execAndOrRest fuel s' r)
  pipe : ∀ s s' p, SameButErrexit s s' → Cond s → Rel (execPipeline fuel s p) (execPipeline fuel s' p)
  cmds : ∀ s s' cs, SameButErrexit s s' → Cond s → Rel (execCommands fuel s cs) (execCommands fuel s' cs)
  members : ∀ s s' cs f, SameButErrexit s s' → Cond s →
    Rel (execPipeMembers fuel s cs f) (execPipeMembers fuel s' cs f)

theorem sbe_pop {a b : St} (h : SameButErrexit a b) : SameButErrexit a.pop b.pop := by
  obtain ⟨e, rfl⟩ := h; exact ⟨e, rfl⟩

theorem sbe_push {a b : St} (h : SameButErrexit a b) (f : Frame) : SameButErrexit (a.push f) (b.push f) := by
  obtain ⟨e, rfl⟩ := h; exact ⟨e, rfl⟩

theorem sbe_status {a b : St} (h : SameButErrexit a b) : b.status = a.status := by
  obtain ⟨e, rfl⟩ := h; rfl

theorem sbe_params {a b : St} (h : SameButErrexit a b) : b.params = a.params := by
  obtain ⟨e, rfl⟩ := h; rfl

theorem sbe_setStatus {a b : St} (n : Nat) (h : SameButErrexit a b) :
    SameButErrexit { a with status := n } { b with status := n } := by
  obtain ⟨e, rfl⟩ := h; exact ⟨e, rfl⟩

theorem expansionError_sbe {a b : St} (h : SameButErrexit a b) (hc : Cond a) : b.expansionError = a.expansionError := by
  rw [expansionError_cond a hc, expansionError_cond b (cond_of_stack (sbe_stack h) hc)]

theorem sbe_applyResult {a b : St} (h : SameButErrexit a b) (r : Res) :
    SameButErrexit (a.applyResult r) (b.applyResult r) := by
  obtain ⟨e, rfl⟩ := h
  unfold St.applyResult
  split
  · split <;> exact ⟨e, rfl⟩
  · exact ⟨e, rfl⟩

/-! ### blindness through the control operators of `Exec/Step.lean` -/

/-- a state transformer that does not look at the errexit option under a `Condition` frame: the fields of `Irr`
    say that every execution function is one -/
def Blind {α : Type} (k : St → St × α) : Prop := ∀ s s', SameButErrexit s s' → Cond s → RelA (k s) (k s')

theorem blind_finish (r : Res) : Blind (finishSimple · r) := by
  rintro s _ ⟨e, rfl⟩ hc; exact rel_finishSimple s e hc r

theorem rel_ite {α : Type} {c : Prop} [Decidable c] {a a' b b' : St × α} (ha : RelA a a') (hb : RelA b b') :
    RelA (if c then a else b) (if c then a' else b') := by
  split <;> assumption

theorem blind_ite {α : Type} {c : St → Prop} [DecidablePred c] {k1 k2 : St → St × α}
    (hcong : ∀ s e, c { s with errexit := e } ↔ c s) (h1 : Blind k1) (h2 : Blind k2) :
    Blind fun s => if c s then k1 s else k2 s := by
  rintro s _ ⟨e, rfl⟩ hc
  show RelA (if c s then k1 s else k2 s) (if c { s with errexit := e } then k1 _ else k2 _)
  by_cases h : c s
  · rw [if_pos h, if_pos ((hcong s e).2 h)]; exact h1 s _ ⟨e, rfl⟩ hc
  · rw [if_neg h, if_neg (mt (hcong s e).1 h)]; exact h2 s _ ⟨e, rfl⟩ hc

theorem rel_andThen {x y : St × Res} {s : St} {k : St → St × Res} (h : Rel x y) (hb : x.1.stack = s.stack)
    (hc : Cond s) (hk : Blind k) : Rel (andThen x k) (andThen y k) := by
  obtain ⟨s1, r, e, rfl, rfl, hc1⟩ := rel_run h hb hc
  cases r with
  | continue_ => exact hk s1 _ ⟨e, rfl⟩ hc1
  | _ => exact rel_mk ⟨e, rfl⟩

/-- the and-or list: the continuation still has the `Condition` frame of the list on its stack, so it is given the
    two states and not asked to be `Blind` -/
theorem rel_andThenPop {x y : St × Res} {k : St → St × Res} (h : Rel x y)
    (hk : ∀ s1', SameButErrexit x.1 s1' → Rel (k x.1) (k s1')) : Rel (andThenPop x k) (andThenPop y k) := by
  obtain ⟨s1, r, e, rfl, rfl⟩ := rel_cases h
  cases r with
  | continue_ => exact hk _ ⟨e, rfl⟩
  | _ => exact rel_mk (sbe_pop ⟨e, rfl⟩)

theorem rel_popped {α : Type} {x y : St × α} (h : RelA x y) : RelA (popped x) (popped y) := ⟨sbe_pop h.1, h.2⟩

theorem rel_loopCtl {α : Type} {x y : St × Res} {s : St} {stop : Nat → α} {out : Res → α} {next : St → St × α}
    (h : Rel x y) (hb : x.1.stack = s.stack) (hc : Cond s) (hn : Blind next) :
    RelA (loopCtl x stop out next) (loopCtl y stop out next) := by
  obtain ⟨s1, r, e, rfl, rfl, hc1⟩ := rel_run h hb hc
  unfold loopCtl
  cases loopStep r with
  | next => exact hn s1 _ ⟨e, rfl⟩ hc1
  | _ => exact ⟨⟨e, rfl⟩, rfl⟩

theorem blind_afterContinue {α : Type} (r : Res) {a b : St → St × α} (ha : Blind a) (hb : Blind b) :
    Blind fun s => afterContinue r (a s) (b s) := by
  intro s s' h hc
  show RelA (afterContinue r _ _) (afterContinue r _ _)
  unfold afterContinue
  split
  · exact ha s s' h hc
  · exact hb s s' h hc

theorem rel_whileRound {u : Bool} {e : Nat} {x y : St × Res} {s : St} {body : St → St × Res}
    {loop : St → Nat → St × (Res × Nat)} (h : Rel x y) (hb : x.1.stack = s.stack) (hc : Cond s)
    (hbody : Blind body) (hbal : ∀ t, (body t).1.stack = t.stack) (hloop : ∀ e, Blind (loop · e)) :
    RelA (whileRound u e x body loop) (whileRound u e y body loop) := by
  unfold whileRound
  rw [← h.2]
  refine rel_loopCtl h hb hc (blind_afterContinue _ (hloop e) (blind_ite (c := fun s1 => (s1.status = 0) = !u)
    (fun _ _ => Iff.rfl) ?_ fun s1 s1' h1 _ => ⟨h1, rfl⟩))
  intro s1 s1' h1 hc1
  have hbd := hbody s1 s1' h1 hc1
  show RelA (loopCtl (body s1) _ _ _) (loopCtl (body s1') _ _ _)
  rw [← hbd.2]
  exact rel_loopCtl hbd (hbal s1) hc1
    (blind_afterContinue _ (hloop e) fun s2 s2' h2 hc2 => by rw [sbe_status h2]; exact hloop _ s2 s2' h2 hc2)

theorem rel_joinSub {s s' : St} {x y : St × Res} {k k' : St → St × Res} (hs : SameButErrexit s s') (h : Rel x y)
    (hk : ∀ c c', SameButErrexit c c' → Rel (k c) (k' c')) : Rel (joinSub s x k) (joinSub s' y k') := by
  obtain ⟨c1, r, e, rfl, rfl⟩ := rel_cases h
  cases r with
  | outOfFuel => exact rel_mk hs
  | _ => exact hk _ _ (sbe_applyResult ⟨e, rfl⟩ _)

theorem rel_subResult {s s' c c' : St} (hs : SameButErrexit s s') (hc : Cond s) (n : Nat) (h2 : SameButErrexit c c') :
    Rel (subResult s c n, (subResult s c n).applyErrexit) (subResult s' c' n, (subResult s' c' n).applyErrexit) := by
  obtain ⟨e0, rfl⟩ := hs
  obtain ⟨e2, rfl⟩ := h2
  exact rel_finishSimple (subResult s c n) e0 hc .continue_

theorem rel_callTail {x y : St × Res} {s : St} (p : Nat) (h : Rel x y) (hb : x.1.stack = s.stack) (hc : Cond s) :
    Rel (callTail finishSimple p x) (callTail finishSimple p y) := by
  obtain ⟨s1, r, e, rfl, rfl, hc1⟩ := rel_run h hb hc
  unfold callTail
  cases r with
  | break_ d =>
    cases d with
    -- `by exact`: the state `_` has to be read off the goal before `hc1` is checked against it
    | return_ v => cases v <;> exact rel_finishSimple _ e (by exact hc1) _
    | _ => exact rel_finishSimple _ e (by exact hc1) _
  | _ => exact rel_finishSimple _ e (by exact hc1) _

theorem rel_whilePost {x y : St × (Res × Nat)} (h : RelA x y) : Rel (whilePost x) (whilePost y) := by
  obtain ⟨s1, ⟨r, e⟩, e1, rfl, rfl⟩ := rel_cases h
  cases r <;> exact rel_mk ⟨e1, rfl⟩

theorem rel_casePost {x y : St × Res × Bool} (h : RelA x y) : Rel (casePost x) (casePost y) := by
  obtain ⟨s1, ⟨r, u⟩, e1, rfl, rfl⟩ := rel_cases h
  cases r with
  | continue_ => cases u <;> exact rel_mk ⟨e1, rfl⟩
  | _ => exact rel_mk ⟨e1, rfl⟩

theorem rel_caseNext {x y : St × Res} {s : St} {u u1 : Bool} {k : CaseCont} {next : St → Bool → St × Res × Bool}
    (h : Rel x y) (hb : x.1.stack = s.stack) (hc : Cond s) (hn : ∀ fl, Blind (next · fl)) :
    RelA (caseNext x u u1 k next) (caseNext y u u1 k next) := by
  obtain ⟨s1, r, e, rfl, rfl, hc1⟩ := rel_run h hb hc
  cases r with
  | continue_ => cases k <;> first | exact ⟨⟨e, rfl⟩, rfl⟩ | exact hn _ s1 _ ⟨e, rfl⟩ hc1
  | _ => exact ⟨⟨e, rfl⟩, rfl⟩

-- nothing runs at fuel 0; only the and-or tail still pops its `Condition` frame
theorem irr_zero : Irr 0 where
  cmd _ _ _ h _ := ⟨h, rfl⟩
  elifs _ _ _ _ h _ := ⟨h, rfl⟩
  while_ _ _ _ _ _ _ h _ := ⟨h, rfl⟩
  for_ _ _ _ _ h _ := ⟨h, rfl⟩
  case_ _ _ _ _ _ h _ := ⟨h, rfl⟩
  list _ _ _ h _ := ⟨h, rfl⟩
  item _ _ _ h _ := ⟨h, rfl⟩
  aor _ _ _ _ h _ _ := ⟨sbe_pop h, rfl⟩
  pipe _ _ _ h _ := ⟨h, rfl⟩
  cmds _ _ _ h _ := ⟨h, rfl⟩
  members _ _ _ _ h _ := ⟨h, rfl⟩

theorem irr_list (fuel : Nat) (ih : Irr fuel) : ∀ l, Blind (execList (fuel+1) · l) := by
  intro l s s' h hc
  cases l with
  | nil => exact rel_mk h
  | cons it rest =>
    show Rel (execList (fuel+1) s (it :: rest)) (execList (fuel+1) s' (it :: rest))
    rw [execList_cons, execList_cons]
    exact rel_andThen (ih.item s s' it h hc) ((bal fuel).item s it) hc (ih.list · · rest)

theorem irr_item (fuel : Nat) (ih : Irr fuel) : ∀ i, Blind (execItem (fuel+1) · i) := by
  intro i s s' h hc
  obtain ⟨first, rest⟩ := i
  cases rest with
  | nil => exact ih.pipe s s' first h hc
  | cons a t =>
    show Rel (execItem _ _ _) (execItem _ _ _)
    rw [execItem_cons, execItem_cons]
    exact rel_andThenPop (ih.pipe _ _ first (sbe_push h _) (cond_push_condition s)) fun s1' h1 =>
      ih.aor _ s1' (a :: t) s.stack h1 ((bal fuel).pipe (s.push .condition) first) hc

theorem irr_aor (fuel : Nat) (ih : Irr fuel) :
    ∀ s s' r st, SameButErrexit s s' → s.stack = .condition :: st → st.contains .condition = true →
      Rel (execAndOrRest (fuel+1) s r) (execAndOrRest (fuel+1) s' r) := by
  intro s s' r st h hst hcst
  have hc : Cond s := by unfold Cond; rw [hst]; simp
  have hpop : Cond s.pop := by unfold Cond; rw [pop_stack, hst]; exact hcst
  match r with
  | [] => exact rel_mk (sbe_pop h)
  | [(a, p)] =>
    rw [execAndOrRest_last, execAndOrRest_last, sbe_status (sbe_pop h)]
    exact rel_ite (ih.pipe _ _ p (sbe_pop h) hpop) (rel_mk (sbe_pop h))
  | (a, p) :: b :: t =>
    rw [execAndOrRest_cons, execAndOrRest_cons, sbe_status h]
    exact rel_ite
      (rel_andThenPop (ih.pipe s s' p h hc) fun s1' h1 => ih.aor _ s1' (b :: t) st h1 (((bal fuel).pipe s p).trans hst) hcst)
      (ih.aor s s' (b :: t) st h hst hcst)

theorem irr_pipe (fuel : Nat) (ih : Irr fuel) : ∀ p, Blind (execPipeline (fuel+1) · p) := by
  intro p s s' h hc
  obtain ⟨neg, cmds⟩ := p
  show Rel (execPipeline _ _ _) (execPipeline _ _ _)
  cases neg with
  | false => exact ih.cmds s s' cmds h hc
  | true =>
    rw [execPipeline_negated, execPipeline_negated]
    exact rel_andThen (rel_popped (ih.cmds _ _ cmds (sbe_push h _) (cond_push_condition s)))
      (popped_stack ((bal fuel).cmds _ cmds)) hc fun s1 s1' h1 _ => by rw [sbe_status h1]; exact rel_mk (sbe_setStatus _ h1)

theorem irr_members (fuel : Nat) (ih : Irr fuel) : ∀ cs f, Blind (execPipeMembers (fuel+1) · cs f) := by
  intro cs f s s' h hc
  cases cs with
  | nil => obtain ⟨e, rfl⟩ := h; exact rel_mk ⟨e, rfl⟩
  | cons c rest =>
    show Rel (execPipeMembers _ _ _ _) (execPipeMembers _ _ _ _)
    rw [execPipeMembers_cons, execPipeMembers_cons]
    refine rel_joinSub h (ih.cmd _ _ c (sbe_push h _) (cond_push s _ hc)) fun c2 c2' h2 => ?_
    obtain ⟨e0, rfl⟩ := h
    obtain ⟨e2, rfl⟩ := h2
    exact ih.members _ _ rest _ ⟨e0, rfl⟩ (by exact hc)

theorem finishPoll_sbe {a b : St} (h : SameButErrexit a b) (p : Nat) (r t : Res) :
    Rel (finishPoll p a r t) (finishPoll p b r t) := by
  rw [finishPoll_eq, finishPoll_eq, sbe_status h]; exact rel_mk (sbe_setStatus _ h)

/-- the poll after a command does not depend on the option either: the action runs under the same
    `Condition` frame -/
theorem rel_pollWith (run : St → List Item → St × Res) (hrun : ∀ l, Blind (run · l)) {x y : St × Res} {s : St}
    (h : Rel x y) (hb : x.1.stack = s.stack) (hc : Cond s) : Rel (pollWith run x.1 x.2) (pollWith run y.1 y.2) := by
  obtain ⟨s1, r, e, rfl, rfl, hc1⟩ := rel_run h hb hc
  rw [pollWith_eq, pollWith_eq]
  show Rel (pollCtl s1.trapDue _ s1 r) (pollCtl s1.trapDue _ { s1 with errexit := e } r)
  cases s1.trapDue with
  | none => rw [pollCtl_none, pollCtl_none]; exact rel_mk ⟨e, rfl⟩
  | some body =>
    cases r with
    | outOfFuel => exact rel_mk ⟨e, rfl⟩
    | _ =>
      have h1 := rel_popped (hrun body ({ s1 with pending := false }.push .trap)
        (({ s1 with pending := false, errexit := e } : St).push .trap) ⟨e, rfl⟩ (cond_push _ _ (by exact hc1)))
      show Rel (finishPoll _ _ _ _) (finishPoll _ _ _ _)
      rw [← h1.2]; exact finishPoll_sbe h1.1 _ _ _

theorem sbe_enterJc {a b : St} (h : SameButErrexit a b) : SameButErrexit a.enterJc b.enterJc := by
  obtain ⟨e, rfl⟩ := h
  exact ⟨e, by rw [enterJc_eq a, enterJc_eq { a with errexit := e }, enterJc_stack, enterJc_stack]; rfl⟩

theorem sbe_leaveJc {a b x y : St} (h : SameButErrexit a b) (hx : SameButErrexit x y) :
    SameButErrexit (a.leaveJc x) (b.leaveJc y) := by
  obtain ⟨e, rfl⟩ := h
  obtain ⟨e1, rfl⟩ := hx
  exact ⟨e1, by rw [leaveJc_eq a, leaveJc_eq { a with errexit := e }, leaveJc_stack_eq, leaveJc_stack_eq]; rfl⟩

theorem cond_enterJc {s : St} (hc : Cond s) : Cond s.enterJc := by
  unfold Cond; rw [enterJc_stack]
  split
  · exact cond_push s .subshell hc
  · exact hc

theorem irr_cmds (fuel : Nat) (ih : Irr fuel) : ∀ cs, Blind (execCommands (fuel+1) · cs) := by
  intro cs s s' h hc
  show Rel (execCommands _ _ _) (execCommands _ _ _)
  match cs with
  | [] => exact rel_mk (sbe_setStatus 0 h)
  | [c] =>
    rw [execCommands_single, execCommands_single]
    exact rel_pollWith _ (fun l s s' => ih.list s s' l) (ih.cmd s s' c h hc) ((bal fuel).cmd s c) hc
  | c :: d :: t =>
    rw [execCommands_many, execCommands_many]
    have hm := ih.members s.enterJc s'.enterJc (c :: d :: t) 0 (sbe_enterJc h) (cond_enterJc hc)
    exact rel_andThen (x := (s.leaveJc _, _)) (y := (s'.leaveJc _, _)) ⟨sbe_leaveJc h hm.1, hm.2⟩
      (leaveJc_stack s _ ((bal fuel).members s.enterJc (c :: d :: t) 0)) hc (blind_finish .continue_)

theorem irr_elifs (fuel : Nat) (ih : Irr fuel) : ∀ e els, Blind (execElifs (fuel+1) · e els) := by
  intro e els s s' h hc
  show Rel (execElifs _ _ _ _) (execElifs _ _ _ _)
  match e, els with
  | [], none => exact rel_mk (sbe_setStatus 0 h)
  | [], some l => exact ih.list s s' l h hc
  | (cond, body) :: rest, els =>
    rw [execElifs_cons, execElifs_cons]
    exact rel_andThen (rel_popped (ih.list _ _ cond (sbe_push h _) (cond_push_condition s)))
      (popped_stack ((bal fuel).list _ cond)) hc
      (blind_ite (c := fun s => s.status = 0) (fun _ _ => Iff.rfl) (ih.list · · body) (ih.elifs · · rest els))

theorem irr_for (fuel : Nat) (ih : Irr fuel) : ∀ n b, Blind (execFor (fuel+1) · n b) := by
  intro n b s s' h hc
  cases n with
  | zero => exact rel_mk h
  | succ n =>
    show Rel (execFor _ _ _ _) (execFor _ _ _ _)
    rw [execFor_succ, execFor_succ]
    exact rel_loopCtl (ih.list s s' b h hc) ((bal fuel).list s b) hc (ih.for_ · · n b)

theorem irr_case (fuel : Nat) (ih : Irr fuel) : ∀ items f u, Blind (execCase (fuel+1) · items f u) := by
  intro items f u s s' h hc
  cases items with
  | nil => exact ⟨h, rfl⟩
  | cons it rest =>
    obtain ⟨m, e, body, k⟩ := it
    show RelA (execCase _ _ _ _ _) (execCase _ _ _ _ _)
    rw [execCase_cons, execCase_cons]
    exact rel_ite ⟨h, by rw [expansionError_sbe h hc]⟩ (rel_ite (ih.case_ s s' rest false u h hc)
      (rel_caseNext (ih.list s s' body h hc) ((bal fuel).list s body) hc fun fl => (ih.case_ · · rest fl _)))

theorem irr_while (fuel : Nat) (ih : Irr fuel) : ∀ u c b e, Blind (execWhile (fuel+1) · u c b e) := by
  intro u c b e s s' h hc
  show RelA (execWhile _ _ _ _ _ _) (execWhile _ _ _ _ _ _)
  rw [execWhile_succ, execWhile_succ]
  exact rel_whileRound (rel_popped (ih.list _ _ c (sbe_push h _) (cond_push_condition s)))
    (popped_stack ((bal fuel).list _ c)) hc (ih.list · · b) ((bal fuel).list · b) fun e s s' => ih.while_ s s' u c b e

theorem classify_errexit (s : St) (e : Bool) (n : Name) :
    classify { s with errexit := e } n = classify s n := by
  cases n <;> rfl

theorem irr_cmd (fuel : Nat) (ih : Irr fuel) : ∀ c, Blind (execCmd (fuel+1) · c) := by
  intro c s s' h hc
  show Rel (execCmd _ _ _) (execCmd _ _ _)
  have hfor : ∀ values body, Rel (execCmd (fuel+1) s (.forLoop values body)) (execCmd (fuel+1) s' (.forLoop values body)) := by
    intro values body
    rw [execCmd_forLoop, execCmd_forLoop]
    exact rel_ite (rel_mk (sbe_setStatus 0 h))
      (rel_popped (ih.for_ _ _ values body (sbe_push h _) (cond_push s _ hc)))
  have hsub : ∀ body, Rel (execList fuel (s.push .subshell) body) (execList fuel (s'.push .subshell) body) :=
    fun body => ih.list _ _ body (sbe_push h _) (cond_push s _ hc)
  cases c with
  | group body => exact ih.list s s' body h hc
  | subshell body =>
    rw [execCmd_subshell, execCmd_subshell]
    exact rel_joinSub h (hsub body) fun c2 c2' h2 => by rw [sbe_status h2]; exact rel_subResult h hc _ h2
  | asyncWait body =>
    rw [execCmd_asyncWait, execCmd_asyncWait]
    exact rel_joinSub h (hsub body) fun c2 c2' h2 => rel_subResult h hc 0 h2
  | ifc cond body elifs els =>
    exact irr_elifs fuel ih ((cond, body) :: elifs) els s s' h hc
  | whileLoop u cond body =>
    rw [execCmd_whileLoop, execCmd_whileLoop]
    exact rel_whilePost (rel_popped (ih.while_ _ _ u cond body 0 (sbe_push h _) (cond_push s _ hc)))
  | forLoop values body => exact hfor values body
  | forPos body => rw [execCmd_forPos, execCmd_forPos, sbe_params h]; exact hfor _ body
  | caseC items =>
    rw [execCmd_caseC, execCmd_caseC]; exact rel_casePost (ih.case_ s s' items false false h hc)
  | call name nargs =>
    obtain ⟨e0, rfl⟩ := h
    rw [execCmd_call, execCmd_call, classify_errexit s e0 name]
    cases classify s name with
    | function body =>
      simp only [callTarget]
      exact rel_callTail s.params
        (ih.cmd { s with params := nargs } { s with errexit := e0, params := nargs } body ⟨e0, rfl⟩ (by exact hc))
        ((bal fuel).cmd { s with params := nargs } body) hc
    | _ => simp only [callTarget]; exact rel_finishSimple _ e0 (by exact hc) _
  | probe _ | st _ | ret _ | exit _ | setM _ | setP _ | unknown | absent _ _ _ | setParams _ | specialErr _ _
  | trapExit _ | trapSig _ | raise _ =>
    obtain ⟨e0, rfl⟩ := h; exact rel_finishSimple _ e0 (by exact hc) _
  | setE on => obtain ⟨e0, rfl⟩ := h; exact rel_finishSimple _ on (by exact hc) _
  | brk n | cont n => obtain ⟨e0, rfl⟩ := h; simp only [execCmd]; exact rel_finishSimple _ e0 (by exact hc) _
  | tick _ _ | fundef _ _ | freeze _ =>
    obtain ⟨e0, rfl⟩ := h
    simp only [execCmd]
    split <;> exact rel_finishSimple _ e0 (by exact hc) _
  | forRo values =>
    simp only [execCmd]
    exact rel_ite (rel_mk (sbe_setStatus 0 h)) ⟨h, (expansionError_sbe h hc).symm⟩
  | expErr | assignErr => exact ⟨h, (expansionError_sbe h hc).symm⟩
  | redirErr k =>
    obtain ⟨e0, rfl⟩ := h
    cases k with
    | special => exact rel_mk ⟨e0, rfl⟩
    | _ => exact rel_finishSimple { s with status := 2 } e0 (by exact hc) .continue_
  | raiseErr =>
    exact ⟨by obtain ⟨e0, rfl⟩ := h; exact ⟨e0, rfl⟩,
      (expansionError_sbe (a := { s with pending := true }) (by obtain ⟨e0, rfl⟩ := h; exact ⟨e0, rfl⟩) hc).symm⟩

theorem irr : ∀ fuel, Irr fuel := by
  intro fuel
  induction fuel with
  | zero => exact irr_zero
  | succ fuel ih =>
    exact ⟨fun s s' c => irr_cmd fuel ih c s s', fun s s' e els => irr_elifs fuel ih e els s s',
      fun s s' u c b e => irr_while fuel ih u c b e s s', fun s s' n b => irr_for fuel ih n b s s',
      fun s s' items f u => irr_case fuel ih items f u s s', fun s s' l => irr_list fuel ih l s s',
      fun s s' i => irr_item fuel ih i s s', irr_aor fuel ih, fun s s' p => irr_pipe fuel ih p s s',
      fun s s' cs => irr_cmds fuel ih cs s s', fun s s' cs f => irr_members fuel ih cs f s s'⟩

end YashModel.Exec
