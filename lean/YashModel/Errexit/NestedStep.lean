/-
  C10 — one step of the nested model (Errexit/Nested.lean), stated once: each construct of `execN` and each of
  `execLoopN`, `execForN`, `execCaseN`, `execPipeN`, `execSeq`, `execAndOrN` with fuel left, as an equation in the
  control operators of `Exec/Step.lean`.  The nested model transcribes the same Rust constructs as the shared
  executor, so the equations are those of `exec*` with `execSeq (execN f)` for `execList f`.
-/
import YashModel.Errexit.Nested
import YashModel.Exec.Step
namespace YashModel.Errexit
open YashModel.Exec

theorem execSeq_cons {α : Type} (f : St → α → St × Res) (s : St) (x : α) (rest : List α) :
    execSeq f s (x :: rest) = andThen (f s x) (execSeq f · rest) := rfl

theorem execAndOrN_last (f : St → NCmd → St × Res) (s : St) (a : Bool) (p : NCmd) :
    execAndOrN f s [(a, p)] = if (s.pop.status = 0) = a then f s.pop p else (s.pop, .continue_) := rfl

theorem execAndOrN_cons (f : St → NCmd → St × Res) (s : St) (a : Bool) (p : NCmd) (q : Bool × NCmd)
    (t : List (Bool × NCmd)) :
    execAndOrN f s ((a, p) :: q :: t) =
      if (s.status = 0) = a then andThenPop (f s p) (execAndOrN f · (q :: t)) else execAndOrN f s (q :: t) := rfl

theorem execN_simple (f : Nat) (s : St) (c : Simple) : execN (f+1) s (.simple c) = execSimple f s c := rfl

theorem execN_group (f : Nat) (s : St) (body : List NCmd) (r : Redirs) (hr : ∀ e, r ≠ .error e) :
    execN (f+1) s (.group body r) = execSeq (execN f) s body := by
  cases r with
  | error e => exact absurd rfl (hr e)
  | _ => rfl

theorem execN_groupErr (f : Nat) (s : St) (body : List NCmd) (e : Bool) :
    execN (f+1) s (.group body (.error e)) = andThen (handleRedirError s e) fun s1 => (s1, s1.applyErrexit) := rfl

theorem execN_sub (f : Nat) (s : St) (body : List NCmd) :
    execN (f+1) s (.sub body) =
      joinSub s (execSeq (execN f) (s.push .subshell) body) fun c2 =>
        (subResult s c2 c2.status, (subResult s c2 c2.status).applyErrexit) := rfl

theorem execN_async (f : Nat) (s : St) (body : List NCmd) :
    execN (f+1) s (.async body) =
      joinSub s (execSeq (execN f) (s.push .subshell) body) fun c2 =>
        (subResult s c2 0, (subResult s c2 0).applyErrexit) := rfl

theorem execN_ifc (f : Nat) (s : St) (cond body : List NCmd) (els : Option (List NCmd)) :
    execN (f+1) s (.ifc cond body els) =
      andThen (popped (execSeq (execN f) (s.push .condition) cond)) fun s1 =>
        if s1.status = 0 then execSeq (execN f) s1 body
        else match els with
          | some e => execSeq (execN f) s1 e
          | none => ({ s1 with status := 0 }, .continue_) := rfl

theorem execN_loop (f : Nat) (s : St) (u : Bool) (c b : List NCmd) :
    execN (f+1) s (.loop u c b) = whilePost (popped (execLoopN f (s.push .loop) u c b 0)) := by
  show (match (execLoopN f (s.push .loop) u c b 0).2.1 with | .continue_ => _ | r => _) = _
  rcases execLoopN f (s.push .loop) u c b 0 with ⟨s1, r, e⟩; cases r <;> rfl

theorem execN_neg (f : Nat) (s : St) (c : NCmd) :
    execN (f+1) s (.neg c) =
      andThen (popped (execN f (s.push .condition) c)) fun s1 =>
        ({ s1 with status := if s1.status = 0 then 1 else 0 }, .continue_) := rfl

theorem execN_andor (f : Nat) (s : St) (c : NCmd) (r : Bool × NCmd) (rest : List (Bool × NCmd)) :
    execN (f+1) s (.andor c (r :: rest)) =
      andThenPop (execN f (s.push .condition) c) (execAndOrN (execN f) · (r :: rest)) := rfl

theorem execN_call (f : Nat) (s : St) (body : List NCmd) :
    execN (f+1) s (.call body) =
      (match (execSeq (execN f) s body).2 with
       | .break_ (.return_ (some e)) => finishSimple { (execSeq (execN f) s body).1 with status := e } .continue_
       | .break_ (.return_ none) => finishSimple (execSeq (execN f) s body).1 .continue_
       | r => finishSimple (execSeq (execN f) s body).1 r) := by
  show (match (execSeq (execN f) s body).2 with
    | .break_ (.return_ e) => _ | .continue_ => _ | r => _) = _
  cases (execSeq (execN f) s body).2 with
  | break_ d => cases d with
    | return_ e => cases e <;> rfl
    | _ => rfl
  | _ => rfl

theorem execN_pipe (f : Nat) (s : St) (cmds : List NCmd) :
    execN (f+1) s (.pipe cmds) =
      andThen (s.leaveJc (execPipeN f s.enterJc cmds 0).1, (execPipeN f s.enterJc cmds 0).2)
        fun s1 => (s1, s1.applyErrexit) := rfl

theorem execN_forLoop (f : Nat) (s : St) (wordsErr ro : Bool) (values : Nat) (body : List NCmd) :
    execN (f+1) s (.forLoop wordsErr ro values body) =
      if wordsErr then (s, handleExpansionError s)
      else if values = 0 ∧ !body.isEmpty then ({ s.push .loop with status := 0 }.pop, .continue_)
      else if values = 0 then (s, .continue_)
      else if ro then (s, handleExpansionError s)
      else popped (execForN f (s.push .loop) values body) := rfl

theorem execN_forPos (f : Nat) (s : St) (body : List NCmd) :
    execN (f+1) s (.forPos body) =
      if s.params = 0 ∧ !body.isEmpty then ({ s.push .loop with status := 0 }.pop, .continue_)
      else popped (execForN f (s.push .loop) s.params body) := rfl

theorem execN_caseC (f : Nat) (s : St) (subjectErr : Bool) (items : List (Bool × Bool × List NCmd × CaseCont)) :
    execN (f+1) s (.caseC subjectErr items) =
      if subjectErr then (s, handleExpansionError s) else casePost (execCaseN f s items false false) := rfl

theorem execN_polled (f : Nat) (s : St) (c : NCmd) :
    execN (f+1) s (.polled c) = pollWith (execList f) (execN f s c).1 (execN f s c).2 := rfl

theorem execLoopN_succ (f : Nat) (s : St) (u : Bool) (c b : List NCmd) (e : Nat) :
    execLoopN (f+1) s u c b e =
      whileRound u e (popped (execSeq (execN f) (s.push .condition) c)) (execSeq (execN f) · b)
        (execLoopN f · u c b ·) :=
  rfl

theorem execForN_succ (f : Nat) (s : St) (n : Nat) (b : List NCmd) :
    execForN (f+1) s (n+1) b = loopCtl (execSeq (execN f) s b) (fun _ => .continue_) id (execForN f · n b) :=
  rfl

theorem execCaseN_cons (f : Nat) (s : St) (m e : Bool) (body : List NCmd) (k : CaseCont)
    (rest : List (Bool × Bool × List NCmd × CaseCont)) (falling u : Bool) :
    execCaseN (f+1) s ((m, e, body, k) :: rest) falling u =
      if !falling && e then (s, handleExpansionError s, u)
      else if !falling && !m then execCaseN f s rest false u
      else caseNext (execSeq (execN f) s body) u (!body.isEmpty) k (execCaseN f · rest · (!body.isEmpty)) :=
  rfl

theorem execPipeN_cons (f : Nat) (s : St) (c : NCmd) (rest : List NCmd) (final : Nat) :
    execPipeN (f+1) s (c :: rest) final =
      joinSub s (execN f (s.push .subshell) c) fun c2 =>
        execPipeN f { s with trace := c2.trace, pending := c2.pending } rest
          (if c2.status ≠ 0 ∨ !s.pipefail then c2.status else final) := rfl

theorem readEvalLoopN_cmds (f : Nat) (s : St) (ex : Bool) (l : List NCmd) (rest : List NLine) :
    readEvalLoopN f s ex (.cmds l :: rest) =
      andThen (execSeq (execN f) s l) (readEvalLoopN f · (ex || !l.isEmpty) rest) := rfl

theorem readEvalLoopN_syntaxError (f : Nat) (s : St) (ex : Bool) (rest : List NLine) :
    readEvalLoopN f s ex (.syntaxError :: rest) = (s, handleParserError true false) := rfl

end YashModel.Errexit
