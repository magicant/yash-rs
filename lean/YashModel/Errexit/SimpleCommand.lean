/-
  C10 — the transcribed simple command keeps the promises of docs/src/termination.md.

  `execSimple` is first described by the part of the command that fails first (`execSimple_error`,
  `execSimple_redirExpansion`, `execSimple_assignError`, `execSimple_redirError_*`, `execSimple_builtin`); the promise
  `MeetsDoc` is read off its table once (`meetsDoc_exits`, `meetsDoc_redirection`, `meetsDoc_cases`); it only looks at
  the result and at `$?`, so it is carried through frames that do not change whether errexit applies
  (`simpleOk_congr`, `simpleOk_pop`), and the errexit check that ends `SimpleCommand::execute` finds nothing left to
  do (`finishSimple_of_simpleOk`).  The induction over `Body` / `Target` / `Simple` is then one line per constructor;
  it matches on the command only, since matching on the hypothesis about `shellError` as well makes the equation
  compiler's work explode.
-/
import YashModel.Errexit.Spec
import YashModel.Exec.Balance
namespace YashModel.Errexit
open YashModel.Exec
open YashModel.Generated.ErrexitTables

theorem pop_stack_of_push {x s : St} {f : Frame} (h : x.stack = (s.push f).stack) : x.pop.stack = s.stack := by
  show x.stack.tail = _
  rw [h]; rfl

theorem handleExpansionError_of_not_applicable {s : St} (h : s.errexitApplicable = false) :
    handleExpansionError s = .break_ (.interrupt (some ERROR)) := by
  unfold handleExpansionError; rw [h]; rfl

theorem handleExpansionError_of_applicable {s : St} (h : s.errexitApplicable = true) :
    handleExpansionError s = .break_ (.exit (some ERROR)) := by
  unfold handleExpansionError; rw [h]; rfl

theorem handleExpansionError_cases (s : St) :
    handleExpansionError s = .break_ (.exit (some ERROR)) ∨ handleExpansionError s = .break_ (.interrupt (some ERROR)) := by
  cases h : s.errexitApplicable
  · exact .inr (handleExpansionError_of_not_applicable h)
  · exact .inl (handleExpansionError_of_applicable h)

theorem handleExpansionError_stops (s : St) :
    stopsShell (handleExpansionError s) = true ∧ (s.applyResult (handleExpansionError s)).status = ERROR := by
  rcases handleExpansionError_cases s with h | h <;> rw [h] <;> exact ⟨rfl, rfl⟩

/-- only a special built-in turns a redirection error into an interrupt (the generated `match` of
    `execute_builtin`) -/
theorem redir_interrupts_iff_special (ty : BuiltinType) : ty.redirInterrupts = true ↔ ty = .special := by
  cases ty <;> decide

theorem applyResult_status_congr (a b : St) (r : Res) (h : a.status = b.status) :
    (a.applyResult r).status = (b.applyResult r).status := by
  cases r with
  | break_ d => rw [applyResult_status, applyResult_status, h]
  | _ => exact h

/-- what `simple_command_meets_termination_doc` says of a run of a command classified as error `e` with status `st`:
    the documentation's promise, and the frame stack and the option are what they were -/
def SimpleOk (s : St) (e : ShellError) (st : Nat) (out : St × Res) : Prop :=
  MeetsDoc s.errexitApplicable e st out ∧ out.1.stack = s.stack ∧ out.1.errexit = s.errexit

/-- the same for the body of a built-in (state, `result.exit_status()`, `result.divert()`) -/
def BodyOk (s : St) (e : ShellError) (st : Nat) (x : St × Nat × Res) : Prop :=
  (match consequence false s.errexitApplicable e with
   | .exits => stopsShell x.2.2 = true ∧ (({ x.1 with status := x.2.1 } : St).applyResult x.2.2).status = st
   | .continues => x.2.2 = .continue_ ∧ x.2.1 = st
   | .abortsCommand => False) ∧ x.1.stack = s.stack ∧ x.1.errexit = s.errexit

/-- a built-in's result read as the result of a simple command: `env.exit_status = result.exit_status()` -/
theorem bodyOk_iff {s : St} {e : ShellError} {st : Nat} {x : St × Nat × Res} :
    BodyOk s e st x ↔ SimpleOk s e st ({ x.1 with status := x.2.1 }, x.2.2) := Iff.rfl

/-! ### the promise by case: the table for a non-interactive shell has one row that lets the shell go on -/

theorem meetsDoc_exits {ee : Bool} {e : ShellError} {st : Nat} {out : St × Res} (he : e ≠ .redirection) :
    MeetsDoc ee e st out ↔ stopsShell out.2 = true ∧ (out.1.applyResult out.2).status = st := by
  cases e <;> cases ee <;> first | exact Iff.rfl | exact absurd rfl he

theorem meetsDoc_redirection {ee : Bool} {st : Nat} {out : St × Res} :
    MeetsDoc ee .redirection st out ↔
      (ee = false → out.2 = .continue_ ∧ out.1.status = st) ∧
      (ee = true → stopsShell out.2 = true ∧ (out.1.applyResult out.2).status = st) := by
  cases ee
  · exact ⟨fun h => ⟨fun _ => h, (nomatch ·)⟩, fun h => h.1 rfl⟩
  · exact ⟨fun h => ⟨(nomatch ·), fun _ => h⟩, fun h => h.2 rfl⟩

theorem meetsDoc_cases {ee : Bool} {e : ShellError} {st : Nat} {out : St × Res} (h : MeetsDoc ee e st out) :
    stopsShell out.2 = true ∨ (ee = false ∧ out.2 = .continue_) := by
  cases e <;> cases ee <;> first | exact .inl (And.left h) | exact .inr ⟨rfl, And.left h⟩

theorem meetsDoc_congr {ee : Bool} {e : ShellError} {st : Nat} {x y : St × Res} (h : MeetsDoc ee e st x)
    (hr : y.2 = x.2) (hst : y.1.status = x.1.status) : MeetsDoc ee e st y := by
  unfold MeetsDoc at h ⊢
  rw [hr, hst, applyResult_status_congr y.1 x.1 x.2 hst]
  exact h

theorem simpleOk_congr {s' s : St} {e : ShellError} {st : Nat} {x y : St × Res} (h : SimpleOk s' e st x)
    (hee : s'.errexitApplicable = s.errexitApplicable) (he : s'.errexit = s.errexit)
    (hr : y.2 = x.2) (hst : y.1.status = x.1.status) (hstack : y.1.stack = s.stack)
    (herr : y.1.errexit = x.1.errexit) : SimpleOk s e st y :=
  ⟨hee ▸ meetsDoc_congr h.1 hr hst, hstack, by rw [herr, h.2.2, he]⟩

theorem finishSimple_of_stops (s : St) {r : Res} (h : stopsShell r = true) : finishSimple s r = (s, r) := by
  cases r with
  | continue_ => cases h
  | _ => rfl

/-- the errexit check at the end of `SimpleCommand::execute` changes nothing in a run that keeps the promise:
    either the result stops the shell already, or errexit is not in force -/
theorem finishSimple_of_simpleOk {s : St} {e : ShellError} {st : Nat} {x : St × Res} (h : SimpleOk s e st x) :
    finishSimple x.1 x.2 = x := by
  obtain ⟨hm, hs, he⟩ := h
  rcases meetsDoc_cases hm with hstop | ⟨hee, hr⟩
  · exact finishSimple_of_stops x.1 hstop
  · obtain ⟨x1, r⟩ := x
    cases hr
    show (x1, x1.applyErrexit) = _
    have hx : x1.errexitApplicable = s.errexitApplicable := by unfold St.errexitApplicable; rw [hs, he]
    rw [applyErrexit_of_not_applicable x1 (hx.trans hee)]

theorem simpleOk_not_return {s : St} {e : ShellError} {st : Nat} {x : St × Res} (h : SimpleOk s e st x)
    (v : Option Nat) : x.2 ≠ .break_ (.return_ v) := by
  intro hv
  rcases meetsDoc_cases h.1 with hs | ⟨_, hr⟩
  · rw [hv] at hs; cases hs
  · rw [hv] at hr; cases hr

theorem currentBuiltin_cons_builtin (b : Bool) (tl : List Frame) : currentBuiltin (.builtin b :: tl) = some b := rfl

theorem reportDivert_special (tl : List Frame) : reportDivert (.builtin true :: tl) = .break_ (.interrupt none) := rfl

theorem reportDivert_dot_special (tl : List Frame) :
    reportDivert (.dotScript :: .builtin true :: tl) = .break_ (.interrupt none) := rfl

theorem reportDivert_regular (tl : List Frame) : reportDivert (.builtin false :: tl) = .continue_ := rfl

theorem execSimple_error (fuel : Nat) (s : St) (t : Target) (r : Redirs) (a : Assigns) :
    execSimple fuel s (.mk .error t r a) = (s, handleExpansionError s) := rfl

theorem execSimple_ok (fuel : Nat) (s : St) (cs : Option Nat) (t : Target) (r : Redirs) (a : Assigns) :
    execSimple fuel s (.mk (.ok cs) t r a) =
      finishSimple (execTarget fuel s (cs.getD SUCCESS) r a t).1 (execTarget fuel s (cs.getD SUCCESS) r a t).2 := rfl

theorem finishSimple_expansion (s : St) :
    finishSimple s (handleExpansionError s) = (s, handleExpansionError s) :=
  finishSimple_of_stops s (handleExpansionError_stops s).1

theorem Redirs.error_cases (r : Redirs) : r = .error true ∨ r = .error false ∨ ∀ x, r ≠ .error x := by
  cases r with
  | error x => cases x <;> simp
  | _ => exact .inr (.inr fun _ => Redirs.noConfusion)

theorem execSimple_redirExpansion (fuel : Nat) (s : St) (cs : Option Nat) (t : Target) (a : Assigns)
    (ht : t ≠ .absent) :
    execSimple fuel s (.mk (.ok cs) t (.error true) a) = (s, handleExpansionError s) := by
  rw [execSimple_ok]
  cases t with
  | absent => exact absurd rfl ht
  | builtin ty body =>
    have : execTarget fuel s (cs.getD SUCCESS) (.error true) a (.builtin ty body) =
        (match handleExpansionError s with
         | .continue_ => (s, if ty.redirInterrupts then Res.break_ (.interrupt none) else .continue_)
         | r => (s, r)) := rfl
    rw [this]
    rcases handleExpansionError_cases s with h | h <;> rw [h] <;> rfl
  | _ => exact finishSimple_expansion s

/-- a failing assignment, reached when the redirections were performed (or, without a name, whatever they did) -/
theorem execSimple_assignError (fuel : Nat) (s : St) (cs : Option Nat) (t : Target) (r : Redirs)
    (h : t = .absent ∨ ∀ x, r ≠ .error x) :
    execSimple fuel s (.mk (.ok cs) t r .error) = (s, handleExpansionError s) := by
  rw [execSimple_ok]
  have : execTarget fuel s (cs.getD SUCCESS) r .error t = (s, handleExpansionError s) := by
    rcases h with rfl | hr
    · rfl
    · cases t <;> cases r <;> first | rfl | exact absurd rfl (hr _)
  rw [this]
  exact finishSimple_expansion s

/-- a redirection that cannot be performed: a function or an external utility goes on with `$? = ERROR`
    (then the errexit check); for a built-in the generated `match builtin.r#type` decides -/
theorem execSimple_redirError_function (fuel : Nat) (s : St) (cs : Option Nat) (a : Assigns) (body : Cmd) :
    execSimple fuel s (.mk (.ok cs) (.function body) (.error false) a) =
      ({ s with status := ERROR }, ({ s with status := ERROR } : St).applyErrexit) := rfl

theorem execSimple_redirError_external (fuel : Nat) (s : St) (cs : Option Nat) (a : Assigns) (n : Nat) :
    execSimple fuel s (.mk (.ok cs) (.external n) (.error false) a) =
      ({ s with status := ERROR }, ({ s with status := ERROR } : St).applyErrexit) := rfl

theorem execSimple_redirError_builtin (fuel : Nat) (s : St) (cs : Option Nat) (a : Assigns) (ty : BuiltinType)
    (body : Body) :
    execSimple fuel s (.mk (.ok cs) (.builtin ty body) (.error false) a) =
      ({ s with status := ERROR },
       if ty.redirInterrupts then .break_ (.interrupt none) else ({ s with status := ERROR } : St).applyErrexit) := by
  rw [execSimple_ok]
  show finishSimple _ (if ty.redirInterrupts then _ else _) = _
  cases ty.redirInterrupts <;> rfl

theorem execSimple_builtin (fuel : Nat) (s : St) (cs acs : Option Nat) (ty : BuiltinType) (body : Body)
    (r : Redirs) (hr : ∀ x, r ≠ .error x) :
    execSimple fuel s (.mk (.ok cs) (.builtin ty body) r (.ok acs)) =
      finishSimple { (execBody fuel (s.push (.builtin (ty == .special))) body).1.pop with
                     status := (execBody fuel (s.push (.builtin (ty == .special))) body).2.1 }
        (execBody fuel (s.push (.builtin (ty == .special))) body).2.2 := by
  cases r <;> first | rfl | exact absurd rfl (hr _)

theorem noRedirError : ∀ x, Redirs.none ≠ .error x := fun _ => Redirs.noConfusion

/-- stated for a state known only up to definitional unfolding, so that `apply_errexit` is not unfolded to compare
    the two sides -/
theorem finishSimple_continue {a b : St} (h : a = b) : finishSimple a .continue_ = (b, b.applyErrexit) := h ▸ rfl

theorem applyErrexit_congr {a b : St} (h1 : a.status = b.status) (h2 : a.errexitApplicable = b.errexitApplicable) :
    a.applyErrexit = b.applyErrexit := by
  unfold St.applyErrexit; rw [h1, h2]

theorem finishSimple_applyErrexit (s : St) : finishSimple s s.applyErrexit = (s, s.applyErrexit) := by
  by_cases h : s.status ≠ 0 ∧ s.errexitApplicable = true
  · rw [show s.applyErrexit = .break_ (.exit none) from if_pos h]; rfl
  · exact (congrArg (finishSimple s) (if_neg h : s.applyErrexit = .continue_)).trans rfl

theorem execSimple_external (fuel : Nat) (s : St) (cs acs : Option Nat) (n : Nat) :
    execSimple fuel s (.mk (.ok cs) (.external n) .none (.ok acs)) =
      ({ s with status := n }, ({ s with status := n } : St).applyErrexit) := rfl

theorem execBody_report (fuel : Nat) (s : St) (st : Nat) :
    execBody fuel s (.report st) = (s, st, reportDivert s.stack) := rfl

theorem execBody_dotMissing (fuel : Nat) (s : St) :
    execBody fuel s .dotMissing = (s, FAILURE, reportDivert (.dotScript :: s.stack)) := rfl

theorem execBody_command (fuel : Nat) (s : St) (inner : Body) :
    execBody fuel s (.command inner) =
      ((execBody fuel (s.push (.builtin false)) inner).1.pop, (execBody fuel (s.push (.builtin false)) inner).2) := rfl

theorem execBody_eval (fuel : Nat) (s : St) (inner : Simple) :
    execBody fuel s (.eval inner) =
      ((execSimple fuel s inner).1, (execSimple fuel s inner).1.status, (execSimple fuel s inner).2) := rfl

theorem simpleOk_expansion (s : St) : SimpleOk s .assignOrExpansion ERROR (s, handleExpansionError s) :=
  ⟨(meetsDoc_exits (by decide)).2 (handleExpansionError_stops s), rfl, rfl⟩

theorem simpleOk_redirection (s : St) :
    SimpleOk s .redirection ERROR ({ s with status := ERROR }, ({ s with status := ERROR } : St).applyErrexit) := by
  refine ⟨meetsDoc_redirection.2 ⟨fun h => ⟨applyErrexit_of_not_applicable _ h, rfl⟩, fun h => ?_⟩, rfl, rfl⟩
  rw [applyErrexit_of_applicable { s with status := ERROR } h (by show ERROR ≠ 0; decide)]
  exact ⟨rfl, rfl⟩

/-- a built-in's own error: `Interrupt`, with the status in the divert or already in the result -/
theorem bodyOk_interrupt (s : St) {e : ShellError} (he : e ≠ .redirection) (n : Nat)
    (o : Option Nat) : BodyOk s e (o.getD n) (s, n, .break_ (.interrupt o)) :=
  bodyOk_iff.2 ⟨(meetsDoc_exits he).2 (by cases o <;> exact ⟨rfl, rfl⟩), rfl, rfl⟩

theorem simpleOk_pop {s : St} {e : ShellError} {st : Nat} {f : Frame} {x : St × Res}
    (h : SimpleOk (s.push f) e st x) (hf : (s.push f).errexitApplicable = s.errexitApplicable) :
    SimpleOk s e st (x.1.pop, x.2) :=
  simpleOk_congr h hf rfl rfl rfl (pop_stack_of_push h.2.1) rfl

theorem bodyOk_pop {s : St} {e : ShellError} {st : Nat} {f : Frame} {x : St × Nat × Res}
    (h : BodyOk (s.push f) e st x) (hf : (s.push f).errexitApplicable = s.errexitApplicable) :
    BodyOk s e st (x.1.pop, x.2) :=
  simpleOk_pop (bodyOk_iff.1 h) hf

/-- `eval`: `Result::with_exit_status_and_divert(env.exit_status, divert)` -/
theorem bodyOk_of_simpleOk {s : St} {e : ShellError} {st : Nat} {x : St × Res} (h : SimpleOk s e st x) :
    BodyOk s e st (x.1, x.1.status, x.2) := h

theorem simpleOk_of_bodyOk {s : St} {e : ShellError} {st : Nat} {sp : Bool} {x : St × Nat × Res}
    (h : BodyOk (s.push (.builtin sp)) e st x) :
    SimpleOk s e st (finishSimple { x.1.pop with status := x.2.1 } x.2.2) := by
  have h' : SimpleOk s e st ({ x.1.pop with status := x.2.1 }, x.2.2) :=
    bodyOk_pop h rfl
  rw [finishSimple_of_simpleOk h']
  exact h'

/-! ### `SimpleCommand::execute` leaves the frame stack it found -/

theorem handleRedirError_stack (s : St) (e : Bool) : (handleRedirError s e).1.stack = s.stack := by
  unfold handleRedirError; split <;> rfl

theorem redirArm_stack (s : St) (e : Bool) (alt : Res) :
    (match (handleRedirError s e).2 with
     | .continue_ => ((handleRedirError s e).1, alt)
     | r => ((handleRedirError s e).1, r)).1.stack = s.stack := by
  split <;> exact handleRedirError_stack s e

theorem execTarget_stack (fuel : Nat) (s : St) (n : Nat) (r : Redirs) (a : Assigns) (t : Target)
    (ih : ∀ ty body, t = .builtin ty body → ∀ s', (execBody fuel s' body).1.stack = s'.stack) :
    (execTarget fuel s n r a t).1.stack = s.stack := by
  cases t with
  | absent => cases a <;> rfl
  | builtin ty body =>
    cases r with
    | error e => exact redirArm_stack s e _
    | _ =>
      cases a with
      | error => rfl
      | ok _ =>
        exact pop_stack_of_push (ih ty body rfl _)
  | external st =>
    cases r with
    | error e => exact handleRedirError_stack s e
    | _ => cases a <;> rfl
  | function body =>
    cases r with
    | error e => exact handleRedirError_stack s e
    | _ =>
      cases a with
      | error => rfl
      | ok _ =>
        -- `execute_function_body`: the state is the body's up to `$?` and the positional parameters
        show (match (execCmd fuel { s with params := 0 } body).2 with
          | .break_ (.return_ e) => _ | r => _ : St × Res).1.stack = _
        have hb : (execCmd fuel { s with params := 0 } body).1.stack = s.stack := (bal fuel).cmd _ body
        split
        · split <;> exact hb
        · exact hb

theorem finishSimple_fst (s : St) (r : Res) : (finishSimple s r).1 = s := by
  cases r <;> rfl

mutual
  theorem execBody_stack (fuel : Nat) : ∀ (b : Body) (s : St), (execBody fuel s b).1.stack = s.stack
    | .result _ _ | .report _ | .probe _ | .evalSyn | .dotMissing | .dotSyn | .dotIoErr | .execFail _
    | .evalEmpty => fun _ => rfl
    | .command inner => fun s => by
      exact pop_stack_of_push (execBody_stack fuel inner _)
    | .eval inner => fun s => execSimple_stack fuel inner s
    | .dot inner => fun s => by
      have h : (execSimple fuel (s.push .dotScript) inner).1.pop.stack = s.stack :=
        pop_stack_of_push (execSimple_stack fuel inner _)
      show (match (execSimple fuel (s.push .dotScript) inner).2 with
        | .break_ (.return_ e) => _ | r => _ : St × Nat × Res).1.stack = _
      split <;> exact h

  -- a member indexed by `Target` so that the recursion stays structural (as `target_meets` below)
  theorem targetBody_stack (fuel : Nat) : ∀ (t : Target) (ty : BuiltinType) (body : Body), t = .builtin ty body →
      ∀ s, (execBody fuel s body).1.stack = s.stack
    | .builtin _ body => fun _ _ h s => by cases h; exact execBody_stack fuel body s
    | .function _ | .external _ | .absent => fun _ _ h => nomatch h

  theorem execSimple_stack (fuel : Nat) : ∀ (c : Simple) (s : St), (execSimple fuel s c).1.stack = s.stack
    | .mk .error _ _ _ => fun _ => rfl
    | .mk (.ok cs) t r a => fun s => by
      rw [execSimple_ok, finishSimple_fst]
      exact execTarget_stack fuel s _ r a t (targetBody_stack fuel t)
end

/-! ### the promise is kept -/

theorem shellError_of_no_redirError {cs : Option Nat} {t : Target} {r : Redirs} {a : Assigns}
    (hr : ∀ x, r ≠ .error x) :
    (Simple.mk (.ok cs) t r a).shellError = (Simple.mk (.ok cs) t .none a).shellError := by
  cases r with
  | error x => exact absurd rfl (hr x)
  | _ => cases t <;> rfl

theorem simpleOk_step (fuel : Nat) (s : St) (e : ShellError) (st : Nat) (w : Words) (t : Target) (r : Redirs)
    (a : Assigns) (h : (Simple.mk w t r a).shellError = some (e, st))
    (ih : ∀ ty body, t = .builtin ty body → body.shellError (ty = .special) = some (e, st) →
      BodyOk (s.push (.builtin (ty == .special))) e st (execBody fuel (s.push (.builtin (ty == .special))) body)) :
    SimpleOk s e st (execSimple fuel s (.mk w t r a)) := by
  cases w with
  | error => cases h; exact simpleOk_expansion s
  | ok cs =>
  have expansion : ∀ {c}, execSimple fuel s c = (s, handleExpansionError s) →
      SimpleOk s .assignOrExpansion ERROR (execSimple fuel s c) := fun hc => hc ▸ simpleOk_expansion s
  cases t with
  | absent =>
    cases a with
    | error => cases h; exact expansion (execSimple_assignError fuel s cs _ r (.inl rfl))
    | ok _ => cases h
  | builtin ty body =>
    rcases r.error_cases with rfl | rfl | hr
    · cases h; exact expansion (execSimple_redirExpansion fuel s cs _ a Target.noConfusion)
    · cases h
      rw [execSimple_redirError_builtin]
      by_cases hty : ty = .special
      · rw [if_pos hty, if_pos ((redir_interrupts_iff_special ty).2 hty)]
        exact bodyOk_interrupt s (e := .specialBuiltin) (by decide) ERROR none
      · rw [if_neg hty, if_neg (mt (redir_interrupts_iff_special ty).1 hty)]
        exact simpleOk_redirection s
    · rw [shellError_of_no_redirError hr] at h
      cases a with
      | error => cases h; exact expansion (execSimple_assignError fuel s cs _ r (.inr hr))
      | ok acs =>
        rw [execSimple_builtin fuel s cs acs ty body r hr]
        exact simpleOk_of_bodyOk (ih ty body rfl h)
  | function _ | external _ =>
    rcases r.error_cases with rfl | rfl | hr
    · cases h; exact expansion (execSimple_redirExpansion fuel s cs _ a Target.noConfusion)
    · cases h; exact simpleOk_redirection s
    · rw [shellError_of_no_redirError hr] at h
      cases a with
      | error => cases h; exact expansion (execSimple_assignError fuel s cs _ r (.inr hr))
      | ok _ => cases h

mutual
  theorem body_meets (fuel : Nat) : ∀ (b : Body) (s : St) (sp : Bool) (tl : List Frame) (e : ShellError) (st : Nat),
      s.stack = .builtin sp :: tl → b.shellError sp = some (e, st) → BodyOk s e st (execBody fuel s b)
    | .result _ _ | .probe _ | .dotIoErr | .execFail _ | .evalEmpty => fun _ _ _ _ _ _ h => nomatch h
    | .report n => fun s sp tl e st hs h => by
      change (if sp = true ∧ n ≠ 0 then _ else _) = _ at h
      split at h
      · rename_i hc
        cases h; cases hc.1
        show BodyOk s _ _ (s, n, reportDivert s.stack)
        rw [hs, reportDivert_special]
        exact bodyOk_interrupt s (e := .specialBuiltin) (by decide) n none
      · cases h
    | .dotMissing => fun s sp tl e st hs h => by
      change (if sp = true then _ else _) = _ at h
      split at h
      · rename_i hc
        cases h; cases hc
        show BodyOk s _ _ (s, FAILURE, reportDivert (.dotScript :: s.stack))
        rw [hs, reportDivert_dot_special]
        exact bodyOk_interrupt s (e := .specialBuiltin) (by decide) FAILURE none
      · cases h
    | .evalSyn | .dotSyn => fun s _ _ e st _ h => by
      cases h; exact bodyOk_interrupt s (e := .syntax) (by decide) s.status (some ERROR)
    | .command inner => fun s _ _ e st _ h =>
      -- "Any built-in is considered non-special in the command built-in": the inner frame is not special
      bodyOk_pop (body_meets fuel inner (s.push (.builtin false)) false s.stack e st rfl h) rfl
    | .eval inner => fun s _ _ e st _ h => bodyOk_of_simpleOk (simple_meets fuel inner s e st h)
    | .dot inner => fun s _ _ e st _ h => by
      have ih := simple_meets fuel inner (s.push .dotScript) e st h
      have hk := bodyOk_of_simpleOk (simpleOk_pop ih rfl)
      -- `consume_return` finds no `Return`
      show BodyOk s e st (match (execSimple fuel (s.push .dotScript) inner).2 with
        | .break_ (.return_ v) => _ | r => _)
      split
      · exact absurd ‹_› (simpleOk_not_return ih _)
      · exact hk

  theorem target_meets (fuel : Nat) : ∀ (t : Target) (s : St) (e : ShellError) (st : Nat) (ty : BuiltinType)
      (body : Body), t = .builtin ty body → body.shellError (ty = .special) = some (e, st) →
      BodyOk (s.push (.builtin (ty == .special))) e st (execBody fuel (s.push (.builtin (ty == .special))) body)
    | .builtin _ body => fun s e st _ _ ht hb => by
      cases ht; exact body_meets fuel body _ _ s.stack e st rfl hb
    | .function _ | .external _ | .absent => fun _ _ _ _ _ ht => nomatch ht

  theorem simple_meets (fuel : Nat) : ∀ (c : Simple) (s : St) (e : ShellError) (st : Nat),
      c.shellError = some (e, st) → SimpleOk s e st (execSimple fuel s c)
    | .mk w t r a => fun s e st h => simpleOk_step fuel s e st w t r a h (target_meets fuel t s e st)
end

/-! ### the promise unfolded by class -/

/-- unfolded for the three classes that end a non-interactive shell whatever errexit says -/
theorem shell_error_stops_the_shell (fuel : Nat) (s : St) (c : Simple) (e : ShellError) (st : Nat)
    (h : c.shellError = some (e, st)) (he : e ≠ .redirection) :
    stopsShell (execSimple fuel s c).2 = true ∧
    ((execSimple fuel s c).1.applyResult (execSimple fuel s c).2).status = st :=
  (meetsDoc_exits he).1 (simple_meets fuel c s e st h).1

/-- a redirection error of a command that is not a special built-in: the shell goes on with `$? = 2` exactly
    when errexit is not in force here, and exits with 2 when it is -/
theorem redirection_error_consequence (fuel : Nat) (s : St) (c : Simple) (st : Nat)
    (h : c.shellError = some (.redirection, st)) :
    (s.errexitApplicable = false → (execSimple fuel s c).2 = .continue_ ∧ (execSimple fuel s c).1.status = st) ∧
    (s.errexitApplicable = true → stopsShell (execSimple fuel s c).2 = true ∧
      ((execSimple fuel s c).1.applyResult (execSimple fuel s c).2).status = st) :=
  meetsDoc_redirection.1 (simple_meets fuel c s .redirection st h).1

/-! ### `Stack::current_builtin`, the first command of a line, the `match result` of `run_as_shell_process` -/

theorem currentBuiltin_cons_of_ne {f : Frame} (hf : ∀ x, f ≠ .builtin x) (rest : List Frame) :
    currentBuiltin (f :: rest) = currentBuiltin rest := by
  cases f <;> first | rfl | exact absurd rfl (hf _)

theorem current_builtin_none_iff (st : List Frame) :
    currentBuiltin st = none ↔ ∀ f ∈ st, ∀ x, f ≠ .builtin x := by
  induction st with
  | nil => exact ⟨fun _ _ h => (nomatch h), fun _ => rfl⟩
  | cons f rest ih =>
    by_cases hf : ∃ x, f = .builtin x
    · obtain ⟨x, rfl⟩ := hf
      exact ⟨fun h => (nomatch h), fun h => absurd rfl (h _ List.mem_cons_self x)⟩
    · have hf' : ∀ x, f ≠ .builtin x := fun x h => hf ⟨x, h⟩
      rw [currentBuiltin_cons_of_ne hf', ih]
      exact ⟨fun h g hg => (List.mem_cons.1 hg).elim (fun e => e ▸ hf') (h g),
        fun h g hg => h g (List.mem_cons_of_mem _ hg)⟩

/-- `impl Command for syntax::List`: `?` on the first command's result -/
theorem execStmts_plain_break {fuel : Nat} {s x : St} {c : Simple} {more : List Stmt} {d : Divert}
    (h : execSimple fuel s c = (x, .break_ d)) : execStmts fuel s (.plain c :: more) = (x, .break_ d) := by
  show (match (execSimple fuel s c).2 with | .continue_ => _ | r => ((execSimple fuel s c).1, r)) = _
  rw [h]

theorem runsExitTrap_abort (e : Option Nat) : runsExitTrap (.break_ (.abort e)) = false :=
  (by decide : lookupB exitTrapRunsAfter "Abort" = false)

theorem runsExitTrap_cases (r : Res) (hf : r ≠ .outOfFuel) :
    (∃ e, r = .break_ (.abort e)) ∨ runsExitTrap r = true := by
  cases r with
  | outOfFuel => exact absurd rfl hf
  | continue_ => exact .inr (by decide)
  | break_ d =>
    cases d with
    | abort e => exact .inl ⟨e, rfl⟩
    | _ => right; simp only [runsExitTrap, divertName]; decide

theorem runsExitTrap_of_not_abort {r : Res} (hf : r ≠ .outOfFuel) (ha : ∀ e, r ≠ .break_ (.abort e)) :
    runsExitTrap r = true :=
  (runsExitTrap_cases r hf).resolve_left fun ⟨e, he⟩ => ha e he

end YashModel.Errexit
