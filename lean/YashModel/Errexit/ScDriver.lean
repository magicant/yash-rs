/-
  Driver for the `sc` case family of C10 (one structured simple command in context; see Errexit/Model.lean).

  Case line:  sc <seed> (<interactive 0|1> <errexit 0|1> <EXIT action: - | (<stmt>…)>) <line>…
    line   := (L <stmt>…) | (synerr)
    stmt   := (plain S) | (if S a b) | (neg S) | (and S m) | (or S m) | (sub S m) | (grp <redirs> m)
    S      := (s <words> <target> <redirs> <assigns>)
    words  := ok | (cs n) | err
    target := absent | (ext n) | (fn st n) | (fn ret n) | (bi <sp|ma|el|ex|su> <body>)
    body   := (res n) | (resd n <abort|exit>) | (rep n) | (probe m) | (cmd <body>) | (eval S) | evalsyn
              | dotmissing | (dot S) | dotsyn | dotioerr | evalempty | (execfail i)
    redirs := none | ok | (cs n) | err | xerr
    assigns:= none | ok | (cs n) | err
  The seed only drives the harness's surface rendering.

  Output: `trace=<m:$?,…> div=<result of the read-eval loop> pre=<$? before the EXIT trap> status=<n>` and, in the
  Spec column, for a non-interactive case whose first statement is `(plain S)` with a classified shell error:
  `ok` / `FAIL:termination.md:…` — the documentation's table evaluated on the model's run of that command.
-/
import YashModel.Errexit.Spec
import YashModel.Exec.Sexp
namespace YashModel.Errexit
open YashModel.Exec

def item (c : Cmd) : Item := .mk (.mk false [c]) []

def toWords : Sx → Option Words
  | .atom "ok" => some (.ok none)
  | .atom "err" => some .error
  | .list [.atom "cs", n] => n.nat?.map fun n => .ok (some n)
  | _ => none

def toRedirs : Sx → Option Redirs
  | .atom "none" => some .none
  | .atom "ok" => some (.ok none)
  | .atom "err" => some (.error false)
  | .atom "xerr" => some (.error true)
  | .list [.atom "cs", n] => n.nat?.map fun n => .ok (some n)
  | _ => none

def toAssigns : Sx → Option Assigns
  | .atom "none" => some (.ok none)
  | .atom "ok" => some (.ok none)
  | .atom "err" => some .error
  | .list [.atom "cs", n] => n.nat?.map fun n => .ok (some n)
  | _ => none

def toType : Sx → Option BuiltinType
  | .atom "sp" => some .special
  | .atom "ma" => some .mandatory
  | .atom "el" => some .elective
  | .atom "ex" => some .extension
  | .atom "su" => some .substitutive
  | _ => none

mutual
  partial def toBody : Sx → Option Body
    | .list [.atom "res", n] => n.nat?.map fun n => .result n none
    | .list [.atom "resd", n, .atom "abort"] => n.nat?.map fun n => .result n (some (.abort none))
    | .list [.atom "resd", n, .atom "exit"] => n.nat?.map fun n => .result n (some (.exit none))
    | .list [.atom "rep", n] => n.nat?.map .report
    | .list [.atom "probe", m] => m.nat?.map .probe
    | .list [.atom "cmd", b] => (toBody b).map .command
    | .list [.atom "eval", c] => (toSimple c).map .eval
    | .atom "evalsyn" => some .evalSyn
    | .atom "dotmissing" => some .dotMissing
    | .list [.atom "dot", c] => (toSimple c).map .dot
    | .atom "dotsyn" => some .dotSyn
    | .atom "dotioerr" => some .dotIoErr
    | .atom "evalempty" => some .evalEmpty
    | .list [.atom "execfail", i] => i.nat?.map fun i => .execFail (i != 0)
    | _ => none

  partial def toTarget : Sx → Option Target
    | .atom "absent" => some .absent
    | .list [.atom "ext", n] => n.nat?.map .external
    | .list [.atom "fn", .atom "st", n] =>
      n.nat?.map fun n => .function (.group [item (.probe 7), item (.st n)])
    | .list [.atom "fn", .atom "ret", n] =>
      n.nat?.map fun n => .function (.group [item (.probe 7), item (.ret (some n)), item (.probe 8)])
    | .list [.atom "bi", ty, b] => do
      let ty ← toType ty
      let b ← toBody b
      pure (.builtin ty b)
    | _ => none

  partial def toSimple : Sx → Option Simple
    | .list [.atom "s", w, t, r, a] => do
      let w ← toWords w
      let t ← toTarget t
      let r ← toRedirs r
      let a ← toAssigns a
      pure (.mk w t r a)
    | _ => none
end

def toStmt : Sx → Option Stmt
  | .list [.atom "plain", c] => (toSimple c).map .plain
  | .list [.atom "if", c, a, b] => do
    let c ← toSimple c
    let a ← a.nat?
    let b ← b.nat?
    pure (.ifc c a b)
  | .list [.atom "neg", c] => (toSimple c).map .neg
  | .list [.atom "and", c, m] => do
    let c ← toSimple c
    let m ← m.nat?
    pure (.andor c true m)
  | .list [.atom "or", c, m] => do
    let c ← toSimple c
    let m ← m.nat?
    pure (.andor c false m)
  | .list [.atom "sub", c, m] => do
    let c ← toSimple c
    let m ← m.nat?
    pure (.sub c m)
  | .list [.atom "grp", r, m] => do
    let r ← toRedirs r
    let m ← m.nat?
    pure (.grp r m)
  | _ => none

def toLine : Sx → Option ScLine
  | .list [.atom "synerr"] => some .syntaxError
  | .list (.atom "L" :: stmts) => (stmts.mapM toStmt).map .cmds
  | _ => none

def showOpt : Option Nat → String
  | some n => toString n
  | none => "-"

def showRes : Res → String
  | .continue_ => "cont"
  | .outOfFuel => "FUEL"
  | .break_ (.continue_ n) => s!"Continue:{n}"
  | .break_ (.break_ n) => s!"Break:{n}"
  | .break_ (.return_ e) => s!"Return:{showOpt e}"
  | .break_ (.interrupt e) => s!"Interrupt:{showOpt e}"
  | .break_ (.exit e) => s!"Exit:{showOpt e}"
  | .break_ (.abort e) => s!"Abort:{showOpt e}"

def showSc (o : ScOutcome) : String :=
  s!"trace={showTrace o.final.trace} div={showRes o.loopResult} pre={o.pre} status={o.final.status}"

def showError : ShellError → String
  | .syntax => "syntax" | .specialBuiltin => "special-builtin" | .assignOrExpansion => "assign-or-expansion"
  | .redirection => "redirection"

/-- the documentation's table evaluated on the model's run of the first command of the script -/
def specVerdict (interactive : Bool) (s0 : St) (script : List ScLine) : String :=
  if interactive then "-" else
  match script with
  | .cmds (.plain c :: _) :: _ =>
    match c.shellError with
    | none => "-"
    | some (e, st) =>
      if decide (MeetsDoc s0.errexitApplicable e st (execSimple 1000 s0 c)) then "ok"
      else s!"FAIL:termination.md:{showError e}:status-{st}"
  | _ => "-"

def parseArgs : List Sx → Option (Bool × Bool × Option (List Stmt) × List ScLine)
  | .list [i, e, t] :: lines => do
    let i ← i.nat?
    let e ← e.nat?
    let t ← match t with
      | .atom "-" => some none
      | .list stmts => (stmts.mapM toStmt).map some
      | _ => none
    let ls ← lines.mapM toLine
    pure (i != 0, e != 0, t, ls)
  | _ => none

partial def parseAll (toks : List String) (acc : List Sx) : Option (List Sx) :=
  match toks with
  | [] => some acc.reverse
  | _ => match parseSx toks with
    | some (x, rest) => parseAll rest (x :: acc)
    | none => none

def runSc (line : String) : String :=
  match tokenize line with
  | "sc" :: _seed :: toks =>
    match parseAll toks [] with
    | none => "bad-case\t-"
    | some sxs =>
      match parseArgs sxs with
      | none => "bad-case\t-"
      | some (i, e, t, ls) =>
        -- the prologue (function definitions, `set -e`, `trap … EXIT`) has run: `executed` is true
        let s0 : St := { errexit := e }
        let o := runShellSc i 1000 s0 true t ls
        showSc o ++ "\t" ++ specVerdict i s0 ls
  | _ => "bad-case\t-"

def toFrame : String → Option Frame
  | "loop" => some .loop | "sub" => some .subshell | "cond" => some .condition | "bs" => some (.builtin true)
  | "bn" => some (.builtin false) | "dot" => some .dotScript | "trap" => some .trap | "init" => some .initFile
  | _ => none

/-- `rp <status> <frame, top first>…`: `yash_builtin::common::report::report` called on an Env with that frame stack
    (also the empty one: no built-in is running).  Spec column: the innermost `Builtin` frame decides, found by a
    plain search (`current_builtin_is_innermost` is the theorem) -/
def runRp (line : String) : String :=
  match tokenize line with
  | "rp" :: st :: frames =>
    match st.toNat?, frames.mapM toFrame with
    | some st, some stack =>
      let show_ (r : Res) := s!"status={st} div={showRes r}"
      let spec : Res := match stack.find? (fun f => match f with | .builtin _ => true | _ => false) with
        | some (.builtin true) => .break_ (.interrupt none)
        | _ => .continue_
      show_ (reportDivert stack) ++ "\t=" ++ show_ spec
    | _, _ => "bad-case\t-"
  | _ => "bad-case\t-"

/-- `rd <seed> (<interactive> <errexit> <EXIT action probe 99: 0|1>)`: the main input cannot be read -/
def runRd (line : String) : String :=
  match tokenize line with
  | "rd" :: _seed :: toks =>
    match parseAll toks [] with
    | some [.list [_i, e, t]] =>
      match e.nat?, t.nat? with
      | some e, some t =>
        let s0 : St := { errexit := e != 0 }
        let o := readErrorShell 1000 s0 (if t != 0 then some [.plain (probeSimple 99)] else none)
        showSc o ++ "\t=" ++ showSc o
      | _, _ => "bad-case\t-"
    | _ => "bad-case\t-"
  | _ => "bad-case\t-"

end YashModel.Errexit
