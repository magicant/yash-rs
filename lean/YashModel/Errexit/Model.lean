/-
  C10, extension round — the fine-grained Impl model of ONE simple command and of the top of the shell.

  The shared `Exec` model (C02/C10) has the shell errors as *primitive commands* (`expErr`, `assignErr`,
  `redirErr k`, `specialErr wrapped st`): their outcome (status + divert) was typed in per category.  Here the
  code that *produces* those outcomes is transcribed:

    * `SimpleCommand::execute`          yash-semantics/src/command/simple_command.rs      → `execSimple`
    * `execute_builtin`                 …/simple_command/builtin.rs                       → `execBuiltin`
    * `execute_function` (+`_body`)     …/simple_command/function.rs                      → `execFunction`
    * `execute_external_utility`        …/simple_command/external.rs                      → `execExternal`
    * `execute_absent_target`           …/simple_command/absent.rs                        → `execAbsent`
    * `Handle for redir::Error` / `expansion::Error` / `parser::Error`   yash-semantics/src/handle.rs
    * `Stack::current_builtin`          yash-env/src/stack.rs                             → `currentBuiltin`
    * `prepare_report_message_and_divert` / `report`   yash-builtin/src/common/report.rs → `reportDivert`
    * `invoke_target` (Builtin arm) of the `command` built-in   yash-builtin/src/command/invoke.rs
    * `eval::main`                      yash-builtin/src/eval.rs                          → `Body.eval`
    * `read_eval_loop_impl` (both values of `is_interactive`)   yash-semantics/src/runner.rs → `readEvalLoop`
    * `run_trap` / `run_exit_trap`      yash-semantics/src/trap{.rs,/exit.rs}             → `runExitTrapSc`
    * the tail of `run_as_shell_process`   yash-cli/src/lib.rs                           → `runShellSc`

  A simple command is described by what each of its parts does when it is evaluated (the words expand or
  fail, the redirections are performed or fail, the assignments succeed or fail, the target is a built-in of
  some `Type` with some body, a function, an external utility, or absent): the ORDER in which the parts are
  evaluated and which error wins is what this model is about.  Constants and the small tables of the code
  come from `Generated/ErrexitTables.lean` (re-extracted from /repo on every run).

  State, frames, diverts, `apply_errexit`, `apply_result` and the executor of function bodies are the ones of
  `YashModel.Exec.Model`.  Import-free apart from those; executable.
-/
import YashModel.Exec.Model
import YashModel.Generated.ErrexitTables
namespace YashModel.Errexit
open YashModel.Exec
open YashModel.Generated.ErrexitTables

/-- `yash_env::builtin::Type` -/
inductive BuiltinType where
  | special | mandatory | elective | extension | substitutive
  deriving DecidableEq, Repr

def BuiltinType.name : BuiltinType → String
  | .special => "Special" | .mandatory => "Mandatory" | .elective => "Elective"
  | .extension => "Extension" | .substitutive => "Substitutive"

def lookupB (t : List (String × Bool)) (k : String) : Bool :=
  match t with
  | [] => false
  | (n, b) :: rest => if n = k then b else lookupB rest k

/-- the `match builtin.r#type` after a failed `perform_redirs` in `execute_builtin` (generated table) -/
def BuiltinType.redirInterrupts (t : BuiltinType) : Bool := lookupB redirErrorInterrupts t.name

/-- result of `expand_words`: the fields (the first one, if any, names the target — `Target.absent` stands
    for "no field") with the exit status of the last command substitution, or an expansion error -/
inductive Words where
  | ok (cmdsubst : Option Nat)
  | error
  deriving DecidableEq, Repr

/-- result of `perform_redirs`: nothing to do, `Ok(last command substitution)`, or `Err(redir::Error)`;
    `expansion` says that the error is `ErrorCause::Expansion` (the operand did not expand) — the code
    handles every cause alike, the flag is only looked at by the Spec -/
inductive Redirs where
  | none
  | ok (cmdsubst : Option Nat)
  | error (expansion : Bool)
  deriving DecidableEq, Repr

/-- result of `assign::perform_assignments`: `Ok(last command substitution)` (also for no assignment) or an
    `expansion::Error` (read-only variable, or the value did not expand) -/
inductive Assigns where
  | ok (cmdsubst : Option Nat)
  | error
  deriving DecidableEq, Repr

mutual
  /-- what the body of a built-in does -/
  inductive Body where
    | result (status : Nat) (divert : Option Divert)   -- `Result::with_exit_status_and_divert`
    | report (status : Nat)                            -- `report(env, …, status)`: the divert comes from the stack
    | probe (marker : Nat)                             -- the harness's `probe`: trace, `$?` preserved
    | command (inner : Body)                           -- `command <built-in> …`: `invoke_target`, Builtin arm
    | eval (inner : Simple)                            -- `eval '<one simple command>'`
    | evalSyn                                          -- `eval '<text that does not parse>'`
    | dotMissing                                       -- `. file`: the file cannot be found or opened
    | dot (inner : Simple)                             -- `. file`: the file holds one simple command
    | dotSyn                                           -- `. file`: the file does not parse
    | dotIoErr                                         -- `. file`: the file opens but cannot be read (a directory)
    | evalEmpty                                        -- `eval ''` / `. file`: the input holds no command (it may hold
                                                       -- blank and comment lines)
    | execFail (interactiveOption : Bool)              -- `exec no_such_command`; the value of the `Interactive`
                                                       -- option travels in the node (`St` has no such field)
  /-- `yash_semantics::command::search::Target`, or no field at all -/
  inductive Target where
    | builtin (ty : BuiltinType) (body : Body)
    | function (body : Cmd)
    | external (status : Nat)        -- what running it (or not finding it) leaves in `$?`
    | absent
  inductive Simple where
    | mk (words : Words) (target : Target) (redirs : Redirs) (assigns : Assigns)
end

/-- `Stack::current_builtin`: the innermost `Builtin` frame (the stack's top is the head) -/
def currentBuiltin : List Frame → Option Bool
  | [] => none
  | .builtin special :: _ => some special
  | _ :: rest => currentBuiltin rest

/-- `prepare_report_message_and_divert`: a special built-in's error interrupts the shell -/
def reportDivert (stack : List Frame) : Res :=
  let isSpecial := match currentBuiltin stack with
    | some b => b
    | none => false
  if isSpecial then .break_ (.interrupt none) else .continue_

/-- `Handle for expansion::Error` (cause other than `Interrupted`) -/
def handleExpansionError (s : St) : Res :=
  if s.errexitApplicable then .break_ (.exit (some ERROR)) else .break_ (.interrupt (some ERROR))

/-- `Handle for redir::Error`: an operand that did not expand (`ErrorCause::Expansion`) is an expansion
    error like any other; every other cause sets the status to `ERROR` and continues -/
def handleRedirError (s : St) (expansion : Bool) : St × Res :=
  if expansion then (s, handleExpansionError s) else ({ s with status := ERROR }, .continue_)

/-- `Handle for parser::Error`: by cause (`syntaxErr = false` is an I/O error) and source -/
def handleParserError (syntaxErr dotScript : Bool) : Res :=
  .break_ (.interrupt (some (if syntaxErr || dotScript then ERROR else READ_ERROR)))

/-- `Result::divert()` of a built-in's result -/
def optDivert : Option Divert → Res
  | some d => .break_ d
  | none => .continue_

mutual
  /-- the body of a built-in, run with its `Builtin` frame already pushed:
      returns the state, `result.exit_status()` and `result.divert()` -/
  def execBody (fuel : Nat) (s : St) : Body → St × Nat × Res
    | .result st d => (s, st, optDivert d)
    | .report st => (s, st, reportDivert s.stack)
    | .probe m => ({ s with trace := (m, s.status) :: s.trace }, s.status, .continue_)
    | .command inner =>
      -- "Any built-in is considered non-special in the command built-in."
      let x := execBody fuel (s.push (.builtin false)) inner
      (x.1.pop, x.2)
    | .eval inner =>
      -- `run_read_eval_loop` on the string, then `Result::with_exit_status_and_divert(env.exit_status, divert)`
      let x := execSimple fuel s inner
      (x.1, x.1.status, x.2)
    | .evalSyn => (s, s.status, handleParserError true false)
    | .dotMissing =>
      -- `source::Command::execute`: the `DotScript` frame is pushed before the file is looked for;
      -- `report_find_and_open_file_failure` → `report_failure`
      (s, FAILURE, reportDivert (s.push .dotScript).stack)
    | .dot inner =>
      let x := execSimple fuel (s.push .dotScript) inner
      let s1 := x.1.pop
      -- `consume_return`
      match x.2 with
      | .break_ (.return_ e) => (s1, e.getD s1.status, .continue_)
      | r => (s1, s1.status, r)
    | .dotSyn => (s, s.status, handleParserError true true)
    | .dotIoErr => (s, s.status, handleParserError false true)
    | .evalEmpty =>
      -- `read_eval_loop_impl`: only lines without a command, then `Ok(None)` with `executed = false`:
      -- `env.exit_status = SUCCESS` (= `readEvalLoop … false [.cmds [], …]`, theorem `blank_script_leaves_zero_sc`)
      ({ s with status := SUCCESS }, SUCCESS, .continue_)
    | .execFail i =>
      -- `exec::main`: `if !env.is_interactive() { result.set_divert(Break(Abort(None))) }`, then the search fails:
      -- `NOT_FOUND`; `Env::is_interactive` = the option is on and no `Subshell` frame is on the stack
      (s, NOT_FOUND, if i && !s.stack.contains .subshell then .continue_ else .break_ (.abort none))

  /-- the four `execute_*` functions; `wordsStatus` is the exit status `expand_words` returned -/
  def execTarget (fuel : Nat) (s : St) (wordsStatus : Nat) (redirs : Redirs) (assigns : Assigns) : Target → St × Res
    | .builtin ty body =>
      -- `execute_builtin`
      match redirs with
      | .error e =>
        -- `e.handle(env).await?; return match builtin.r#type { … }`
        let h := handleRedirError s e
        (match h.2 with
         | .continue_ => (h.1, if ty.redirInterrupts then .break_ (.interrupt none) else .continue_)
         | r => (h.1, r))
      | _ =>
        match assigns with
        | .error => (s, handleExpansionError s)
        | .ok _ =>
          let x := execBody fuel (s.push (.builtin (ty == .special))) body
          ({ x.1.pop with status := x.2.1 }, x.2.2)
    | .function body =>
      -- `execute_function`
      match redirs with
      | .error e => handleRedirError s e
      | _ =>
        match assigns with
        | .error => (s, handleExpansionError s)
        | .ok _ =>
          -- `execute_function_body`: only `Return` is caught
          let x := execCmd fuel { s with params := 0 } body
          let s1 := { x.1 with params := s.params }
          match x.2 with
          | .break_ (.return_ e) => ((match e with | some e => { s1 with status := e } | none => s1), .continue_)
          | r => (s1, r)
    | .external status =>
      -- `execute_external_utility`
      match redirs with
      | .error e => handleRedirError s e
      | _ =>
        match assigns with
        | .error => (s, handleExpansionError s)
        | .ok _ => ({ s with status := status }, .continue_)
    | .absent =>
      -- `execute_absent_target`: the redirections are performed in a subshell, whose exit status comes
      -- back; a failure there does not stop the assignments
      let redirStatus := match redirs with
        | .none => wordsStatus
        | .ok cs => cs.getD wordsStatus
        | .error e =>
          -- in the subshell: `let result = error.handle(env).await; env.apply_result(result); return`
          let h := handleRedirError (s.push .subshell) e
          (h.1.applyResult h.2).status
      match assigns with
      | .error => (s, handleExpansionError s)
      | .ok cs => ({ s with status := cs.getD redirStatus }, .continue_)

  /-- `impl Command for syntax::SimpleCommand` -/
  def execSimple (fuel : Nat) (s : St) : Simple → St × Res
    | .mk words target redirs assigns =>
      match words with
      | .error => (s, handleExpansionError s)
      | .ok cs =>
        let x := execTarget fuel s (cs.getD SUCCESS) redirs assigns target
        match x.2 with
        | .continue_ => (x.1, x.1.applyErrexit)
        | r => (x.1, r)
end

/-- the simple command `probe m` -/
def probeSimple (m : Nat) : Simple := .mk (.ok none) (.builtin .mandatory (.probe m)) .none (.ok none)

/-- a simple command in one of the contexts that decide whether errexit applies / where an exit ends -/
inductive Stmt where
  | plain (c : Simple)
  | ifc (c : Simple) (thenM elseM : Nat)        -- `if C; then probe a; else probe b; fi`
  | neg (c : Simple)                            -- `! C`
  | andor (c : Simple) (isAnd : Bool) (m : Nat) -- `C && probe m` / `C || probe m`
  | sub (c : Simple) (m : Nat)                  -- `( C; probe m )`
  | grp (redirs : Redirs) (m : Nat)             -- `{ probe m; } <redirection>`: a compound command

/-- the paths of `and_or.rs`, `pipeline.rs` (negation), `compound_command/{if,subshell}.rs` through these
    fixed shapes (the recursive version is `execN` of Errexit/Nested.lean; `fixed_shapes_are_instances` relates the two) -/
def execStmt (fuel : Nat) (s : St) : Stmt → St × Res
  | .plain c => execSimple fuel s c
  | .ifc c a b =>
    let x := execSimple fuel (s.push .condition) c
    let s1 := x.1.pop
    match x.2 with
    | .continue_ => execSimple fuel s1 (probeSimple (if s1.status = 0 then a else b))
    | r => (s1, r)
  | .neg c =>
    let x := execSimple fuel (s.push .condition) c
    let s1 := x.1.pop
    match x.2 with
    | .continue_ => ({ s1 with status := if s1.status = 0 then 1 else 0 }, .continue_)
    | r => (s1, r)
  | .andor c isAnd m =>
    let x := execSimple fuel (s.push .condition) c
    let s1 := x.1.pop
    match x.2 with
    | .continue_ => if (s1.status = 0) = isAnd then execSimple fuel s1 (probeSimple m) else (s1, .continue_)
    | r => (s1, r)
  | .sub c m =>
    -- the child runs on a copy with a `Subshell` frame; status and output come back, then `apply_errexit`
    let x := execSimple fuel (s.push .subshell) c
    let y := match x.2 with
      | .continue_ => execSimple fuel x.1 (probeSimple m)
      | r => (x.1, r)
    let c2 := y.1.applyResult y.2
    let s1 := { s with status := c2.status, trace := c2.trace, pending := c2.pending }
    (s1, s1.applyErrexit)
  | .grp redirs m =>
    -- `impl Command for syntax::FullCompoundCommand`: `error.handle(&mut env).await?; env.apply_errexit()`
    match redirs with
    | .error e =>
      let h := handleRedirError s e
      (match h.2 with
       | .continue_ => (h.1, h.1.applyErrexit)
       | r => (h.1, r))
    | _ => execSimple fuel s (probeSimple m)

/-- `impl Command for syntax::List` on a list of such statements -/
def execStmts (fuel : Nat) (s : St) : List Stmt → St × Res
  | [] => (s, .continue_)
  | st :: rest =>
    let x := execStmt fuel s st
    match x.2 with
    | .continue_ => execStmts fuel x.1 rest
    | r => (x.1, r)

/-- one command line as the parser hands it to `read_eval_loop_impl` -/
inductive ScLine where
  | cmds (l : List Stmt)
  | syntaxError

/-- `read_eval_loop_impl(env, lexer, is_interactive)`; `executed` is its local flag -/
def readEvalLoop (interactive : Bool) (fuel : Nat) (s : St) (executed : Bool) : List ScLine → St × Res
  | [] => (if !executed then { s with status := SUCCESS } else s, .continue_)
  | line :: rest =>
    -- (result, error_recoverable)
    let x : St × Res := match line with
      | .cmds l => execStmts fuel s l
      | .syntaxError => (s, handleParserError true false)
    let y : St × Res :=
      if interactive then
        match x.2 with
        | .break_ (.interrupt e) => ((match e with | some e => { x.1 with status := e } | none => x.1), .continue_)
        | r => (x.1, r)
      else x
    -- since 4afb140: `executed |= !command.0.is_empty()` for a command line, `executed = true` for a parser error — a
    -- line that holds no command (blank, comment) does not count as an executed command
    let executed' := match line with
      | .cmds l => executed || !l.isEmpty
      | .syntaxError => true
    match y.2 with
    | .continue_ => readEvalLoop interactive fuel y.1 executed' rest
    | r => (y.1, r)

/-- `run_trap` for the EXIT condition + `run_exit_trap`'s `apply_result`; the action is one command line -/
def runExitTrapSc (fuel : Nat) (s : St) (action : Option (List Stmt)) : St × Res :=
  match action with
  | none => (s, .continue_)
  | some body =>
    let prev := s.status
    let x := readEvalLoop false fuel (s.push .trap) false [.cmds body]
    let s1 := x.1.pop
    let s2 : St := match x.2 with
      | .break_ (.interrupt (some e)) => { s1 with status := e }
      | .break_ (.interrupt none) => s1
      | _ => { s1 with status := prev }
    (s2.applyResult x.2, x.2)

/-- the name of the `Divert` variant (as in the generated tables) -/
def divertName : Divert → String
  | .continue_ _ => "Continue" | .break_ _ => "Break" | .return_ _ => "Return"
  | .interrupt _ => "Interrupt" | .exit _ => "Exit" | .abort _ => "Abort"

/-- the `match result` at the end of `run_as_shell_process` (generated table) -/
def runsExitTrap : Res → Bool
  | .continue_ => lookupB exitTrapRunsAfter "Normal"
  | .break_ d => lookupB exitTrapRunsAfter (divertName d)
  | .outOfFuel => false

/-- what the family observes of a run: the result of the read-eval loop, `$?` after `apply_result`, and the
    final state -/
structure ScOutcome where
  loopResult : Res
  pre : Nat
  final : St

/-- the tail of `run_as_shell_process`: read-eval loop, `apply_result`, EXIT trap -/
def runShellSc (interactive : Bool) (fuel : Nat) (s : St) (executed : Bool) (action : Option (List Stmt))
    (script : List ScLine) : ScOutcome :=
  let x := readEvalLoop interactive fuel s executed script
  let s1 := x.1.applyResult x.2
  let s2 := if runsExitTrap x.2 then (runExitTrapSc fuel s1 action).1 else s1
  { loopResult := x.2, pre := s1.status, final := s2 }

/-- the shell whose MAIN input cannot be read (`yash <directory>`): the first `command_line()` of
    `read_eval_loop_impl` returns an `Io` error, `Handle for parser::Error` gives `READ_ERROR`; the error is not
    recoverable, so the interactive loop ends too; then the tail of `run_as_shell_process` -/
def readErrorShell (fuel : Nat) (s : St) (action : Option (List Stmt)) : ScOutcome :=
  let r := handleParserError false false
  let s1 := s.applyResult r
  let s2 := if runsExitTrap r then (runExitTrapSc fuel s1 action).1 else s1
  { loopResult := r, pre := s1.status, final := s2 }

end YashModel.Errexit
