/-
  C10 — property theorems about structured simple commands at ANY depth of the constructs that decide
  whether errexit applies and where a shell error ends.
-/
import YashModel.Errexit.NestedLemmas
namespace YashModel.Errexit
open YashModel.Exec
open YashModel.Generated.ErrexitTables

/-! ### ★ a shell error ends the shell from any depth and any position -/

/-- The hole at any position that `HoleRun` reaches, after any commands that completed normally: in the list of a
    group or a function body, in the condition of `if`/`while`/`until`, in the branch of `if` the condition selected,
    under `!`, as the first pipeline of an and-or list, in the first iteration of `for … in`, in the first item of a
    `case` if it matches (NOT: a `while`/`until` body, a later iteration or item, under `.polled`, `.forPos`, `.pipe`,
    `.sub`, `.async`).  Any command that ends in `Interrupt`/`Exit` there ends the whole construct, frames popped,
    nothing else run.  (`pass_at_any_position`: the same for `Abort` and for running out of fuel.) -/
theorem stop_at_any_position {fw g : Nat} {s s' : St} {whole n : NCmd} (h : HoleRun fw s whole g s' n)
    (hstop : stopsShell (execN g s' n).2 = true) :
    execN fw s whole = (withStack (execN g s' n).1 s.stack, (execN g s' n).2) :=
  pass_at_any_position h (uncaught_of_stops hstop)

/-- Any command at all (not only a simple command) that ends in `Interrupt`/`Exit` as the first command of any
    nesting of non-subshell constructs: the whole nest does what the command did and nothing more. -/
theorem stop_passes_through_any_context (p : List Layer) (hp : ∀ l ∈ p, l.ok) (fuel : Nat) (s : St) (n : NCmd)
    (hstop : stopsShell (execN fuel (withStack s (framesAll p ++ s.stack)) n).2 = true) :
    execN (fuel + costAll p) s (plugAll p n) =
      (withStack (execN fuel (withStack s (framesAll p ++ s.stack)) n).1 s.stack,
       (execN fuel (withStack s (framesAll p ++ s.stack)) n).2) :=
  stop_at_any_position (holeRun_plugAll p hp fuel s n) hstop

theorem stops_of_leaf {out leaf : St × Res} {stack : List Frame} {st : Nat}
    (hout : out = (withStack leaf.1 stack, leaf.2))
    (hm : stopsShell leaf.2 = true ∧ (leaf.1.applyResult leaf.2).status = st) :
    stopsShell out.2 = true ∧ (out.1.applyResult out.2).status = st ∧ out.1.stack = stack := by
  subst hout
  exact ⟨hm.1, (applyResult_status_congr (withStack leaf.1 stack) leaf.1 leaf.2 rfl).trans hm.2, rfl⟩

/-- A shell error of a simple command (syntax / special built-in / assignment-or-expansion) at ANY position
    (`HoleRun`) ends the shell with the error's status, every construct only pops its own frames, and the trace is
    what had run before it. -/
theorem shell_error_stops_at_any_position {fw g : Nat} {s s' : St} {whole : NCmd} {c : Simple}
    (h : HoleRun fw s whole (g + 1) s' (.simple c)) (e : ShellError) (st : Nat)
    (hc : c.shellError = some (e, st)) (he : e ≠ .redirection) :
    let leaf := execSimple g s' c
    let out := execN fw s whole
    out = (withStack leaf.1 s.stack, leaf.2) ∧ stopsShell out.2 = true ∧
    (out.1.applyResult out.2).status = st ∧ out.1.stack = s.stack ∧ out.1.trace = leaf.1.trace := by
  intro leaf out
  have hm := shell_error_stops_the_shell g s' c e st hc he
  have hout : out = (withStack leaf.1 s.stack, leaf.2) := stop_at_any_position h hm.1
  obtain ⟨h1, h2, h3⟩ := stops_of_leaf hout hm
  exact ⟨hout, h1, h2, h3, by rw [hout]; rfl⟩

/-- A simple command whose first failing part is a syntax error, an error of a special built-in, or an
    assignment/expansion error (docs/src/termination.md), placed as the first command of ANY nesting of groups
    (with redirections), function calls, `if`/`while`/`until` conditions, negations and and-or lists — with
    anything at all after it in each of them: the whole construct does exactly what the command alone does in the
    frame stack the constructs have built (`framesAll p`), i.e. it ends in an `Interrupt`/`Exit` with `$?` = the
    error's status, every construct only pops its own frames, and nothing else of any of them runs. -/
theorem shell_error_stops_at_any_depth (p : List Layer) (hp : ∀ l ∈ p, l.ok) (fuel : Nat) (s : St) (c : Simple)
    (e : ShellError) (st : Nat) (h : c.shellError = some (e, st)) (he : e ≠ .redirection) :
    let leaf := execSimple fuel (withStack s (framesAll p ++ s.stack)) c
    let out := execN (fuel + 1 + costAll p) s (plugAll p (.simple c))
    out = (withStack leaf.1 s.stack, leaf.2) ∧
    stopsShell out.2 = true ∧ (out.1.applyResult out.2).status = st ∧ out.1.stack = s.stack := by
  intro leaf out
  obtain ⟨h1, h2, h3, h4, _⟩ :=
    shell_error_stops_at_any_position (holeRun_plugAll p hp (fuel + 1) s (.simple c)) e st h he
  exact ⟨h1, h2, h3, h4⟩

/-! ### ★ every construct pops exactly the frames it pushed, on every path -/

/-- `SimpleCommand::execute` leaves the frame stack it found — for EVERY command and state, whatever fails
    (no hypothesis; `simple_command_meets_termination_doc` has this only for commands with a classified error) -/
theorem simple_command_restores_the_stack (fuel : Nat) (s : St) (c : Simple) :
    (execSimple fuel s c).1.stack = s.stack :=
  execSimple_stack fuel c s

/-- …and so does every construct of the nested model (groups, subshells, `if`, loops, negations, and-or lists,
    function calls) on every path — normal completion, `break`/`continue`/`return`, shell errors, errexit, fuel
    exhaustion: a `Condition` or `Loop` frame can never leak out of the construct that pushed it (a leaked
    `Condition` frame would switch errexit off for the rest of the script). -/
theorem frames_are_balanced (fuel : Nat) (s : St) (c : NCmd) : (execN fuel s c).1.stack = s.stack :=
  (balN fuel).n s c

/-- A function call is a simple command: when its body completes (or `return`s) with a non-zero status where
    errexit applies the shell exits; `break`/`continue` (a call pushes no frame), `exit` and shell errors pass
    through it unchanged. -/
theorem function_call_errexit (fuel : Nat) (s : St) (body : List NCmd) :
    let y := execSeq (execN fuel) s body
    (y.2 = .continue_ → execN (fuel + 1) s (.call body) = (y.1, y.1.applyErrexit)) ∧
    (∀ e, y.2 = .break_ (.return_ (some e)) →
      execN (fuel + 1) s (.call body) = ({ y.1 with status := e }, ({ y.1 with status := e } : St).applyErrexit)) ∧
    (y.2 = .break_ (.return_ none) → execN (fuel + 1) s (.call body) = (y.1, y.1.applyErrexit)) ∧
    (∀ d, y.2 = .break_ d → (∀ e, d ≠ .return_ e) → execN (fuel + 1) s (.call body) = (y.1, .break_ d)) := by
  intro y
  rw [execN_call]
  have hy : ∀ {r}, y.2 = r → (execSeq (execN fuel) s body).2 = r := id
  refine ⟨fun h => by rw [hy h]; rfl, fun e h => by rw [hy h]; rfl, fun h => by rw [hy h]; rfl, fun d h hd => ?_⟩
  rw [hy h]
  cases d with
  | return_ e => exact absurd rfl (hd e)
  | _ => rfl

/-! ### ★ whether errexit applies is decided by the whole chain of enclosing constructs -/

/-- in the hole of nested constructs errexit is in force iff it is in force outside and NONE of the constructs
    is an exempt context — functions and groups do not restore it -/
theorem errexit_applicable_at_depth (p : List Layer) (s : St) :
    (withStack s (framesAll p ++ s.stack)).errexitApplicable = (s.errexitApplicable && !p.any Layer.exempt) := by
  -- a `Condition` frame is on the stack in the hole iff one was there before or one of the constructs pushed one
  show (s.errexit && !(framesAll p ++ s.stack).contains .condition) =
    (s.errexit && !s.stack.contains .condition && !p.any Layer.exempt)
  rw [List.contains_append, contains_condition_framesAll, Bool.not_or, Bool.and_assoc, Bool.and_comm (!p.any Layer.exempt)]

/-- A plain failing command (an external utility or a command that is not found: `$?` = `st` ≠ 0) as the first
    command of nested groups and function calls (no exempt construct) under errexit: the shell exits from any
    depth with that status and nothing after the command runs in any of the constructs. -/
theorem errexit_fires_at_any_depth (p : List Layer) (hp : ∀ l ∈ p, l.ok) (hex : p.any Layer.exempt = false)
    (fuel : Nat) (s : St) (st : Nat) (hst : st ≠ 0) (hee : s.errexitApplicable = true) :
    execN (fuel + 1 + costAll p) s (plugAll p (.simple (.mk (.ok none) (.external st) .none (.ok none)))) =
      ({ s with status := st }, .break_ (.exit none)) := by
  have happ := errexit_applicable_at_depth p s
  rw [hee, hex] at happ
  have hleaf : execSimple fuel (withStack s (framesAll p ++ s.stack)) (.mk (.ok none) (.external st) .none (.ok none)) =
      ({ withStack s (framesAll p ++ s.stack) with status := st }, .break_ (.exit none)) := by
    rw [execSimple_external,
      applyErrexit_of_applicable { withStack s (framesAll p ++ s.stack) with status := st } happ hst]
  have hx : execN (fuel + 1) (withStack s (framesAll p ++ s.stack))
      (.simple (.mk (.ok none) (.external st) .none (.ok none))) = _ := hleaf
  have := stop_passes_through_any_context p hp (fuel + 1) s _ (by rw [hx]; rfl)
  rw [hx] at this
  exact this

/-- …and as soon as ONE of the enclosing constructs is an exempt context — however many function calls and
    groups lie between it and the command — the command only sets `$?` and execution continues, although the
    option is on. -/
theorem errexit_exempt_at_any_depth (p : List Layer) (hex : p.any Layer.exempt = true) (fuel : Nat) (s : St)
    (st : Nat) :
    execSimple fuel (withStack s (framesAll p ++ s.stack)) (.mk (.ok none) (.external st) .none (.ok none)) =
      ({ withStack s (framesAll p ++ s.stack) with status := st }, .continue_) := by
  have happ := errexit_applicable_at_depth p s
  rw [hex] at happ
  simp only [Bool.not_true, Bool.and_false] at happ
  rw [execSimple_external,
    applyErrexit_of_not_applicable { withStack s (framesAll p ++ s.stack) with status := st } happ]

/-- a redirection error of an ordinary command at any depth: the shell exits with 2 iff errexit is on and no
    enclosing construct (nor the caller's stack) is an exempt context; otherwise the command only sets `$? = 2` -/
theorem redirection_error_at_any_depth (p : List Layer) (hp : ∀ l ∈ p, l.ok) (fuel : Nat) (s : St) (c : Simple)
    (st : Nat) (h : c.shellError = some (.redirection, st)) :
    let leaf := execSimple fuel (withStack s (framesAll p ++ s.stack)) c
    let out := execN (fuel + 1 + costAll p) s (plugAll p (.simple c))
    ((s.errexitApplicable && !p.any Layer.exempt) = true →
      stopsShell out.2 = true ∧ (out.1.applyResult out.2).status = st ∧ out.1.stack = s.stack) ∧
    ((s.errexitApplicable && !p.any Layer.exempt) = false → leaf.2 = .continue_ ∧ leaf.1.status = st) := by
  intro leaf out
  have hr := redirection_error_consequence fuel (withStack s (framesAll p ++ s.stack)) c st h
  rw [errexit_applicable_at_depth] at hr
  refine ⟨fun ha => ?_, fun ha => hr.1 ha⟩
  have hm := hr.2 ha
  exact stops_of_leaf (stop_passes_through_any_context p hp (fuel + 1) s (.simple c) hm.1) hm

/-! ### ★ a subshell is where a shell error stops -/

/-- A command (of any shape) that ends in an `Interrupt`/`Exit` as the first command of a subshell: only the
    subshell ends.  Its exit status becomes `$?` of the parent, whose stack and options are untouched, nothing
    else of the subshell runs, and the parent goes on unless errexit applies to that status. -/
theorem shell_error_ends_only_the_subshell (fuel : Nat) (s : St) (n : NCmd) (rest : List NCmd)
    (hstop : stopsShell (execN fuel (s.push .subshell) n).2 = true) :
    let x := execN fuel (s.push .subshell) n
    let s1 : St := { s with status := (x.1.applyResult x.2).status, trace := x.1.trace, pending := x.1.pending }
    execN (fuel + 1) s (.sub (n :: rest)) = (s1, s1.applyErrexit) := by
  intro x s1
  have hx : execN fuel (s.push .subshell) n = x := rfl
  obtain ⟨x1, x2⟩ := x
  rw [hx] at hstop
  -- the list ends at its first command; the parent takes `$?` after `apply_result`, which sets nothing else
  rw [execN_sub, execSeq_cons, hx, andThen_uncaught _ (uncaught_of_stops hstop),
    joinSub_of_fuel (by rintro rfl; cases hstop), applyResult_eq]
  rfl

/-! ### the fixed shapes of the `sc` family are instances of the nested model -/

/-- `execStmt` (the model the `sc` family runs) is `execN` on the embedded shape, for every statement that does
    not run out of fuel inside a subshell: the fixed shapes are not a second model but instances of this one
    (`fuel + 2`: one unit for the construct's node, one for the `simple` leaf; `execSimple` itself spends fuel only
    on function bodies) -/
theorem fixed_shapes_are_instances (fuel : Nat) (s : St) (st : Stmt)
    (hf : ∀ c m, st = .sub c m →
      (execSimple fuel (s.push .subshell) c).2 ≠ .outOfFuel ∧
      ((execSimple fuel (s.push .subshell) c).2 = .continue_ →
        (execSimple fuel (execSimple fuel (s.push .subshell) c).1 (probeSimple m)).2 ≠ .outOfFuel)) :
    execN (fuel + 2) s st.toN = execStmt fuel s st := by
  cases st with
  | plain c => rfl
  | ifc c a b =>
    rw [Stmt.toN, execN_ifc]
    simp only [execSeq_single, execN_simple]
    show _ = andThen (popped (execSimple fuel (s.push .condition) c)) fun s1 =>
      execSimple fuel s1 (probeSimple (if s1.status = 0 then a else b))
    exact congrArg (andThen _) (funext fun s1 => (apply_ite (fun m => execSimple fuel s1 (probeSimple m)) _ a b).symm)
  | neg c => rw [Stmt.toN, execN_neg, execN_simple]; rfl
  | andor c isAnd m => rw [Stmt.toN, execN_andor, execN_simple]; rfl
  | grp r m =>
    cases r with
    | error e => rw [Stmt.toN, execN_groupErr]; rfl
    | _ => exact execSeq_single _ _ _
  | sub c m =>
    have h := hf c m rfl
    -- the two commands of the subshell as `execStmt` runs them; neither runs out of fuel, so the join is the parent's
    have hy : execSeq (execN (fuel + 1)) (s.push .subshell) [.simple c, .simple (probeSimple m)] =
        andThen (execSimple fuel (s.push .subshell) c) fun s1 => execSimple fuel s1 (probeSimple m) := by
      rw [execSeq_cons]; simp only [execSeq_single, execN_simple]
    rw [Stmt.toN, execN_sub, hy, joinSub_of_fuel]
    · rfl
    · by_cases hc : (execSimple fuel (s.push .subshell) c).2 = .continue_
      · rw [andThen_continue hc]; exact h.2 hc
      · rw [andThen_of_ne hc]; exact h.1

/-! ### the frames of the constructs are the code's -/

/-- Which construct pushes which frame is read from the sources on every run (`framePushes`: every
    `push_frame` call of yash-semantics/src/command/**): the frames the model's constructs push before their hole
    runs are exactly those — `Condition` by `AndOrList::execute`, by the negation in `Pipeline::execute` and by
    `evaluate_condition` (if/while/until), `Loop` by `execute_common`; `if.rs`, `function.rs`
    (`execute_function[_body]`), `subshell.rs`, `simple_command.rs` and the `List`/`Item` executors push nothing. -/
theorem construct_frames_are_the_codes :
    (∀ r rest, (Layer.andFirst r rest).frames = (pushesIn "and_or.rs").filterMap frameOfName) ∧
    Layer.neg.frames = (pushesIn "pipeline.rs").filterMap frameOfName ∧
    (∀ rc b e, (Layer.ifCond rc b e).frames = (pushesIn "compound_command.rs" ++ pushesIn "if.rs").filterMap frameOfName) ∧
    (∀ u rc b, (Layer.loopCond u rc b).frames =
      (pushesIn "compound_command.rs" ++ pushesIn "while_loop.rs").filterMap frameOfName) ∧
    (∀ rest, (Layer.call rest).frames = (pushesIn "function.rs" ++ pushesIn "simple_command.rs").filterMap frameOfName) ∧
    (∀ rest r, (Layer.group rest r).frames = (pushesIn "command.rs" ++ pushesIn "item.rs").filterMap frameOfName) ∧
    pushesIn "subshell.rs" = [] ∧ pushesIn "builtin.rs" = ["Builtin"] ∧ pushesIn "for_loop.rs" = ["Loop"] ∧
    framePushes.length = 6 := by
  have h1 : (pushesIn "and_or.rs").filterMap frameOfName = [.condition] := by decide
  have h2 : (pushesIn "pipeline.rs").filterMap frameOfName = [.condition] := by decide
  have h3 : (pushesIn "compound_command.rs" ++ pushesIn "if.rs").filterMap frameOfName = [.condition] := by decide
  have h4 : (pushesIn "compound_command.rs" ++ pushesIn "while_loop.rs").filterMap frameOfName = [.condition, .loop] := by
    decide
  have h5 : (pushesIn "function.rs" ++ pushesIn "simple_command.rs").filterMap frameOfName = [] := by decide
  have h6 : (pushesIn "command.rs" ++ pushesIn "item.rs").filterMap frameOfName = [] := by decide
  refine ⟨fun _ _ => h1.symm, h2.symm, fun _ _ _ => h3.symm, fun _ _ _ => h4.symm, fun _ => h5.symm,
    fun _ _ => h6.symm, by decide, by decide, by decide, by decide⟩

/-! ### ★ pipelines, `for`, `case`, asynchronous lists -/

/-- A two-command pipeline `a | b`: each command runs in its own subshell, whatever it ends with (a shell error,
    `exit`, `break`, …) ends only that stage — its exit status is what counts; the pipeline's status is the last
    command's, or under `pipefail` the last non-zero one; and only then the parent's errexit check is applied.
    (Fuel: `execN` and `execPipeN` take one unit each before stage `a` runs with `fuel+2`; `execPipeN` once more
    before stage `b`, with `fuel+1`.) -/
theorem pipeline_two_stages (fuel : Nat) (s : St) (a b : NCmd)
    (ha : (execN (fuel + 2) (s.enterJc.push .subshell) a).2 ≠ .outOfFuel) :
    let xa := execN (fuel + 2) (s.enterJc.push .subshell) a
    let ca := xa.1.applyResult xa.2
    let sa : St := { s.enterJc with trace := ca.trace, pending := ca.pending }
    let xb := execN (fuel + 1) (sa.push .subshell) b
    let cb := xb.1.applyResult xb.2
    xb.2 ≠ .outOfFuel →
    let st := if cb.status ≠ 0 ∨ !s.enterJc.pipefail then cb.status
              else if ca.status ≠ 0 ∨ !s.enterJc.pipefail then ca.status else 0
    let out : St := s.leaveJc { s.enterJc with trace := cb.trace, pending := cb.pending, status := st }
    execN (fuel + 4) s (.pipe [a, b]) = (out, out.applyErrexit) := by
  intro xa ca sa xb cb hb st out
  rw [execN_pipe, execPipeN_cons, joinSub_of_fuel ha, execPipeN_cons, joinSub_of_fuel hb]
  rfl

/-- Expansion errors of `for` and `case` are shell errors: a word list that does not expand, a read-only loop
    variable (with at least one value), a `case` subject that does not expand and a pattern that does not expand
    (in an item reached without falling through) end in `Handle for expansion::Error` — Interrupt/Exit with status
    2 — before any body runs; an item entered by `;&` does not even evaluate its patterns. -/
theorem for_case_expansion_errors (fuel : Nat) (s : St) (ro : Bool) (n : Nat) (body : List NCmd)
    (items : List (Bool × Bool × List NCmd × CaseCont)) (m : Bool) (k : CaseCont) (u : Bool) :
    execN (fuel + 1) s (.forLoop true ro n body) = (s, handleExpansionError s) ∧
    execN (fuel + 1) s (.forLoop false true (n + 1) body) = (s, handleExpansionError s) ∧
    execN (fuel + 1) s (.caseC true items) = (s, handleExpansionError s) ∧
    execN (fuel + 2) s (.caseC false ((m, true, body, k) :: items)) = (s, handleExpansionError s) ∧
    execCaseN (fuel + 1) s ((m, true, body, k) :: items) true u =
      execCaseN (fuel + 1) s ((true, false, body, k) :: items) true u ∧
    stopsShell (handleExpansionError s) = true ∧ (s.applyResult (handleExpansionError s)).status = ERROR := by
  refine ⟨rfl, rfl, rfl, ?_, rfl, handleExpansionError_stops s⟩
  show (match handleExpansionError s with | .continue_ => _ | r => (s, r)) = _
  rcases handleExpansionError_cases s with h | h <;> rw [h]

/-- An asynchronous list cannot end the shell: whatever its body does (shell errors, `exit`, errexit) stays in
    its subshell; the parent goes on with `$? = 0` and its own stack and options. -/
theorem async_list_cannot_end_the_shell (fuel : Nat) (s : St) (body : List NCmd)
    (h : (execSeq (execN fuel) (s.push .subshell) body).2 ≠ .outOfFuel) :
    (execN (fuel + 1) s (.async body)).2 = .continue_ ∧
    (execN (fuel + 1) s (.async body)).1 =
      { s with status := 0, trace := ((execSeq (execN fuel) (s.push .subshell) body).1.applyResult
                                        (execSeq (execN fuel) (s.push .subshell) body).2).trace,
               pending := ((execSeq (execN fuel) (s.push .subshell) body).1.applyResult
                                        (execSeq (execN fuel) (s.push .subshell) body).2).pending } := by
  rw [execN_async, joinSub_of_fuel h]
  refine ⟨?_, rfl⟩
  dsimp only
  exact applyErrexit_of_status_zero _ rfl

/-! ### ★ the EXIT action: once, with the right `$?`; an error inside it (F23) -/

/-- Whatever the script ends with except `Abort` — normal end, errexit, a shell error at any depth, `exit` — the
    final state is that of exactly ONE run of the EXIT action, started with `$?` = the status `apply_result` left
    (the failing command's / the error's); after `Abort` the action does not run. -/
theorem exit_action_runs_once_with_the_abort_status (fuel : Nat) (s : St) (action : Option (List NLine))
    (script : List NLine) :
    let x := readEvalLoopN fuel s true script
    let s1 := x.1.applyResult x.2
    (runShellN fuel s action script).pre = s1.status ∧
    ((∀ e, x.2 ≠ .break_ (.abort e)) → x.2 ≠ .outOfFuel →
      (runShellN fuel s action script).final = (runExitTrapN fuel s1 action).1) ∧
    (∀ e, x.2 = .break_ (.abort e) → (runShellN fuel s action script).final = s1) := by
  refine ⟨rfl, fun ha hf => ?_, fun e he => ?_⟩
  · simp [runShellN, runsExitTrap_of_not_abort hf ha]
  · simp [runShellN, he, runsExitTrap_abort]

/-- F23's statement: the exit status after the EXIT action.  If the action is interrupted by an error with a
    status of its own (a line that does not parse, an expansion error: `Interrupt(Some e)`) that status is the
    shell's; if it is interrupted by a special built-in's error (`Interrupt(None)`) the status that error set
    stays; in every other case the `$?` from before the action is restored and then `exit n` / `return n` inside
    the action may replace it. -/
theorem error_inside_exit_action (fuel : Nat) (s : St) (lines : List NLine) :
    let x := readEvalLoopN fuel (s.push .trap) false lines
    (∀ e, x.2 = .break_ (.interrupt (some e)) → (runExitTrapN fuel s (some lines)).1.status = e) ∧
    (x.2 = .break_ (.interrupt none) → (runExitTrapN fuel s (some lines)).1.status = x.1.status) ∧
    (x.2 = .continue_ → (runExitTrapN fuel s (some lines)).1.status = s.status) ∧
    (∀ d, x.2 = .break_ d → (∀ e, d ≠ .interrupt e) →
      (runExitTrapN fuel s (some lines)).1.status = d.exitStatus.getD s.status) ∧
    (runExitTrapN fuel s (some lines)).1.stack = x.1.stack.tail := by
  intro x
  -- `run_exit_trap`: pop the `Trap` frame, choose `$?` by the action's result, then `apply_result` puts in the status
  -- the divert carries, if it carries one
  have key : ∀ r, x.2 = r → runExitTrapN fuel s (some lines) =
      ((match r with
        | .break_ (.interrupt (some e)) => { x.1.pop with status := e }
        | .break_ (.interrupt none) => x.1.pop
        | _ => { x.1.pop with status := s.status } : St).applyResult r, r) := by
    rintro r rfl; rfl
  refine ⟨fun e h => ?_, fun h => ?_, fun h => ?_, fun d h hd => ?_, ?_⟩
  · rw [key _ h]; exact applyResult_status _ _
  · rw [key _ h]; exact applyResult_status _ _
  · rw [key _ h]; rfl
  · rw [key _ h, applyResult_status]
    cases d with
    | interrupt e => exact absurd rfl (hd e)
    | _ => rfl
  · rw [key _ rfl, applyResult_stack]; split <;> rfl

/-- …in particular a line of the action that does not parse, after lines that completed: exit status 2 -/
theorem syntax_error_inside_exit_action (fuel : Nat) (s : St) (pre : List NCmd) (rest : List NLine)
    (hpre : (execSeq (execN fuel) (s.push .trap) pre).2 = .continue_) :
    (runExitTrapN fuel s (some (.cmds pre :: .syntaxError :: rest))).1.status = ERROR := by
  have h := (error_inside_exit_action fuel s (.cmds pre :: .syntaxError :: rest)).1 ERROR
  apply h
  rw [readEvalLoopN_cmds, andThen_continue hpre]
  rfl

/-- `if { f; probe 5; }; then probe 6; fi; probe 7` with `f() { ! shift 99; }` — a special built-in's error under a
    negation, inside a function, inside a group, inside an `if` condition: the hypotheses of
    `shell_error_stops_at_any_depth` hold, and (computed) the whole thing is `Interrupt` with `$? = 1`, no probe ran -/
example :
    let c : Simple := .mk (.ok none) (.builtin .special (.report 1)) .none (.ok none)
    let p : List Layer := [.ifCond [] [.simple (probeSimple 6)] none, .group [.simple (probeSimple 5)] .none, .call [], .neg]
    (∀ l ∈ p, l.ok) ∧ c.shellError = some (.specialBuiltin, 1) ∧ framesAll p = [.condition, .condition] ∧
    (execN 20 { errexit := true } (plugAll p (.simple c))).2 = .break_ (.interrupt none) ∧
    (execN 20 { errexit := true } (plugAll p (.simple c))).1.status = 1 ∧
    (execN 20 { errexit := true } (plugAll p (.simple c))).1.trace = [] := by
  refine ⟨?_, by decide, by decide, by decide, by decide, by decide⟩
  intro l hl
  simp only [List.mem_cons, List.mem_nil_iff, or_false] at hl
  rcases hl with rfl | rfl | rfl | rfl <;> trivial

/-- `set -e; { f; probe 5; }` with `f() { no_such_command; probe 4; }` exits with 127 from inside the function
    (`errexit_fires_at_any_depth`), while `set -e; if f; then probe 6; fi; probe 7` runs on (`probe 4`, `probe 7`): the `if` of the
    CALLER exempts the function's body (`errexit_exempt_at_any_depth`) -/
example :
    let bad : NCmd := .simple (.mk (.ok none) (.external 127) .none (.ok none))
    let f : NCmd := .call [bad, .simple (probeSimple 4)]
    (execN 20 { errexit := true } (.group [f, .simple (probeSimple 5)] .none)).2 = .break_ (.exit none) ∧
    (execN 20 { errexit := true } (.group [f, .simple (probeSimple 5)] .none)).1.trace = [] ∧
    (execSeq (execN 20) { errexit := true } [.ifc [f] [.simple (probeSimple 6)] none, .simple (probeSimple 7)]).2 = .continue_ ∧
    (execSeq (execN 20) { errexit := true } [.ifc [f] [.simple (probeSimple 6)] none, .simple (probeSimple 7)]).1.trace
      = [(7, 0), (4, 127)] := by
  decide +kernel

/-- `( ${u?}; probe 1 ); probe 2`: the expansion error ends the subshell with 2, the parent goes on
    (hypothesis of `shell_error_ends_only_the_subshell`); under errexit the parent then exits -/
example :
    let bad : NCmd := .simple (.mk .error .absent .none (.ok none))
    stopsShell (execN 9 (({} : St).push .subshell) bad).2 = true ∧
    (execSeq (execN 10) {} [.sub [bad, .simple (probeSimple 1)], .simple (probeSimple 2)]).1.trace = [(2, 2)] ∧
    (execSeq (execN 10) { errexit := true } [.sub [bad, .simple (probeSimple 1)], .simple (probeSimple 2)]).2
      = .break_ (.exit none) := by
  decide +kernel

/-- `break` inside a function called from a loop leaves the loop (a call pushes no frame), and a shell error in
    the body of a loop ends the shell after the first iteration:
    `while tick 1 3; do probe 1; f; probe 2; done` with `f() { break; }`, and the same with `f() { shift 99; }` -/
example :
    let loop (f : NCmd) : NCmd := .loop false [.ctl (.tick 1 3)] [.simple (probeSimple 1), .call [f], .simple (probeSimple 2)]
    (execN 30 {} (loop (.ctl (.brk 1)))).2 = .continue_ ∧
    (execN 30 {} (loop (.ctl (.brk 1)))).1.trace = [(1, 0)] ∧
    (execN 30 {} (loop (.simple (.mk (.ok none) (.builtin .special (.report 1)) .none (.ok none))))).2
      = .break_ (.interrupt none) ∧
    (execN 30 {} (loop (.simple (.mk (.ok none) (.builtin .special (.report 1)) .none (.ok none))))).1.trace = [(1, 0)] := by
  decide +kernel

/-- `{ f; probe 5; }` with `f() { ! exit 3; }`: the hypothesis of `stop_passes_through_any_context` for a leaf that
    is not a structured simple command, and `set -e; f; probe 1` with `f() { probe 4; return 3; }`: the second
    clause of `function_call_errexit` fires (`Exit`, `$? = 3`, `probe 1` does not run) -/
example :
    let p : List Layer := [.group [.simple (probeSimple 5)] .none, .call [], .neg]
    stopsShell (execN 5 (withStack {} (framesAll p ++ [])) (.ctl (.exit (some 3)))).2 = true ∧
    (execN 20 {} (plugAll p (.ctl (.exit (some 3))))).2 = .break_ (.exit (some 3)) ∧
    (execN 20 {} (plugAll p (.ctl (.exit (some 3))))).1.trace = [] ∧
    (execSeq (execN 20) { errexit := true }
      [.call [.simple (probeSimple 4), .ctl (.ret (some 3))], .simple (probeSimple 1)]).2 = .break_ (.exit none) ∧
    (execSeq (execN 20) { errexit := true }
      [.call [.simple (probeSimple 4), .ctl (.ret (some 3))], .simple (probeSimple 1)]).1.trace = [(4, 0)] ∧
    (execSeq (execN 20) { errexit := true }
      [.call [.simple (probeSimple 4), .ctl (.ret (some 3))], .simple (probeSimple 1)]).1.status = 3 := by
  decide +kernel

/-- `{ probe 1; if probe 2; then probe 3; shift 99; probe 4; fi; probe 5; }`: a `HoleRun` to the `shift 99` in the
    then-branch after three probes have run; the whole group ends in `Interrupt`, trace 1 2 3 -/
example :
    let bad : Simple := .mk (.ok none) (.builtin .special (.report 1)) .none (.ok none)
    let p (m : Nat) : NCmd := .simple (probeSimple m)
    let whole : NCmd := .group ([p 1] ++ .ifc [p 2] ([p 3] ++ .simple bad :: [p 4]) none :: [p 5]) .none
    (∃ s', HoleRun 8 {} whole 6 s' (.simple bad)) ∧
    (execN 8 {} whole).2 = .break_ (.interrupt none) ∧ (execN 8 {} whole).1.trace = [(3, 0), (2, 0), (1, 0)] := by
  intro bad p whole
  refine ⟨?_, by decide, by decide⟩
  refine Exists.intro ?w ?h
  case h =>
    refine HoleRun.group (by intro e; exact Redirs.noConfusion) (completes_of (by decide)) ?_
    refine HoleRun.ifThen (completes_of (by decide)) (by decide) (completes_of (by decide)) ?_
    exact HoleRun.here _ _ _

/-- `set -e; ${u?} | st 0; probe 1` goes on (the error ends only its stage, the pipeline's status is 0) while with
    `set -o pipefail` the shell exits with 2; `! ${u?} | st 3` never exits; the hypotheses of `pipeline_two_stages` -/
example :
    let bad : NCmd := .simple (.mk .error .absent .none (.ok none))
    let ok : NCmd := .ctl (.st 0)
    (execN 5 (({ errexit := true } : St).enterJc.push .subshell) bad).2 ≠ .outOfFuel ∧
    (execN 9 { errexit := true } (.pipe [bad, ok])).2 = .continue_ ∧
    (execN 9 { errexit := true, pipefail := true } (.pipe [bad, ok])).2 = .break_ (.exit none) ∧
    (execN 9 { errexit := true, pipefail := true } (.pipe [bad, ok])).1.status = 2 ∧
    (execN 9 { errexit := true } (.neg (.pipe [bad, .ctl (.st 3)]))).2 = .continue_ := by
  decide +kernel

/-- `trap 'probe 99' EXIT; set -e; f` with `f() { no_such_command; }`: the action runs once with `$? = 127`;
    `trap 'probe 99 <newline> fi <newline> probe 98' EXIT; st 0`: the action stops at the line that does not parse
    and the exit status is 2 (hypothesis of `syntax_error_inside_exit_action`) -/
example :
    let bad : NCmd := .call [.simple (.mk (.ok none) (.external 127) .none (.ok none))]
    let p (m : Nat) : NCmd := .simple (probeSimple m)
    (runShellN 20 { errexit := true } (some [.cmds [p 99]]) [.cmds [bad, p 1]]).final.trace = [(99, 127)] ∧
    (runShellN 20 { errexit := true } (some [.cmds [p 99]]) [.cmds [bad, p 1]]).final.status = 127 ∧
    (execSeq (execN 20) (({} : St).push .trap) [p 99]).2 = .continue_ ∧
    (runShellN 20 {} (some [.cmds [p 99], .syntaxError, .cmds [p 98]]) [.cmds [.ctl (.st 0)]]).final.trace = [(99, 0)] ∧
    (runShellN 20 {} (some [.cmds [p 99], .syntaxError, .cmds [p 98]]) [.cmds [.ctl (.st 0)]]).final.status = 2 := by
  decide +kernel

/-! ### ★ signal traps at command boundaries; `for v do` -/

/-- the command boundary is invisible when no trap action is due after the command -/
theorem polled_without_due_trap_is_identity (fuel : Nat) (s : St) (c : NCmd)
    (h : (execN fuel s c).1.trapDue = none) : execN (fuel + 1) s (.polled c) = execN fuel s c := by
  rw [execN_polled, pollWith_none _ _ _ h]

/-- At the boundary of ANY command (simple or compound, at whatever depth: the
    state and its frame stack are arbitrary): when the command ends in a divert `d` (a shell error, errexit, `exit` …)
    and a trapped signal was caught meanwhile, the action runs first — under a `Trap` frame, with the pending
    flag cleared — and THEN the divert proceeds: if the action completes normally the result is `d` and `$?` is
    the command's again; if the action diverts with `m` the more severe of the two (`Divert.max`) is followed. -/
theorem trap_action_runs_then_abort_proceeds (fuel : Nat) (s : St) (c : NCmd) (d : Divert) (body : List Item)
    (hd : (execN fuel s c).2 = .break_ d) (hdue : (execN fuel s c).1.trapDue = some body) :
    let x := execN fuel s c
    let t := execList fuel ({ x.1 with pending := false }.push .trap) body
    execN (fuel + 1) s (.polled c) = finishPoll x.1.status t.1.pop (.break_ d) t.2 ∧
    (t.2 = .continue_ →
      (execN (fuel + 1) s (.polled c)).2 = .break_ d ∧ (execN (fuel + 1) s (.polled c)).1.status = x.1.status) ∧
    (∀ m, t.2 = .break_ m → (execN (fuel + 1) s (.polled c)).2 = .break_ (d.max m)) := by
  intro x t
  have h0 : execN (fuel + 1) s (.polled c) = finishPoll x.1.status t.1.pop (.break_ d) t.2 := by
    rw [execN_polled]
    rw [pollWith_due _ _ body (by rw [hd]; exact Res.noConfusion) hdue, hd]
  refine ⟨h0, fun ht => ?_, fun m hm => ?_⟩
  · rw [h0, ht, finishPoll_eq]; exact ⟨rfl, rfl⟩
  · rw [h0, hm, finishPoll_eq]; rfl

/-- `for v do …` is `for v in "$@"`: the loop over the positional parameters of the current context -/
theorem for_over_positional_parameters (fuel : Nat) (s : St) (body : List NCmd) :
    execN (fuel + 2) s (.forPos body) = execN (fuel + 2) s (.forLoop false false s.params body) := by
  rw [execN_forPos, execN_forLoop]
  by_cases h1 : s.params = 0 ∧ (!body.isEmpty) = true
  · simp [h1]
  · by_cases h2 : s.params = 0
    · simp only [h2] at h1 ⊢
      simp [execForN, popped, St.pop, St.push]
    · simp [h2]

/-- `trap 'probe 97; exit 5' USR1; f` with `f() { st 0 $(kill -s USR1 $$) ${u?}; probe 1; }`: the action runs at the
    boundary of the failing command inside the function, then of the error's `Interrupt(2)` and the action's
    `Exit(5)` the more severe one ends the shell (hypotheses of `trap_action_runs_then_abort_proceeds`) -/
example :
    let s : St := { sigTrap := some [.mk (.mk false [.probe 97]) [], .mk (.mk false [.exit (some 5)]) []] }
    let c : NCmd := .ctl .raiseErr
    (execN 9 s c).2 = .break_ (.interrupt (some 2)) ∧ (execN 9 s c).1.trapDue.isSome = true ∧
    (execN 12 s (.polled (.call [.polled c, .simple (probeSimple 1)]))).2 = .break_ (.exit (some 5)) ∧
    (execN 12 s (.polled (.call [.polled c, .simple (probeSimple 1)]))).1.trace = [(97, 0)] := by
  refine ⟨by decide, by decide, by decide, by decide⟩

/-! ### ★ lines without a command -/

/-- lines without a command change nothing but this: if no command has been executed at the end, `$?` becomes 0 -/
theorem readEvalLoopN_blank (fuel : Nat) : ∀ (lines : List NLine) (s : St) (ex : Bool), (∀ l ∈ lines, l = .cmds []) →
    readEvalLoopN fuel s ex lines = (if ex then s else { s with status := 0 }, .continue_)
  | [], s, ex, _ => by cases ex <;> rfl
  | l :: rest, s, ex, h => by
    cases h l List.mem_cons_self
    rw [readEvalLoopN_cmds]
    show readEvalLoopN fuel s (ex || false) rest = _
    rw [Bool.or_false]
    exact readEvalLoopN_blank fuel rest s ex fun l hl => h l (List.mem_cons_of_mem _ hl)

/-- A read-eval loop over lines NONE of which holds a command (blank lines, comments — a `.` script, an `eval`
    text, a trap action or a main script made only of those) never ends the shell and leaves `$? = 0`, whatever
    `$?` was: POSIX `.`/`eval` "zero if no command is executed" (docs/src/builtins/source.md) — so errexit cannot
    fire on such a `.` after an exempt failure. -/
theorem blank_script_leaves_zero (fuel : Nat) : ∀ (lines : List NLine) (s : St),
    (∀ l ∈ lines, l = .cmds []) → readEvalLoopN fuel s false lines = ({ s with status := 0 }, .continue_) :=
  fun lines s h => readEvalLoopN_blank fuel lines s false h

/-- Blank/comment lines AFTER a line that executed a command keep that command's status: once `executed` is set
    trailing lines without commands change nothing, and a line with at least one command that completes sets it. -/
theorem trailing_blank_lines_keep_status (fuel : Nat) (s : St) (c : NCmd) (l : List NCmd) :
    (∀ (blanks : List NLine) (t : St), (∀ b ∈ blanks, b = .cmds []) →
      readEvalLoopN fuel t true blanks = (t, .continue_)) ∧
    (∀ (ex : Bool) (blanks : List NLine), (∀ b ∈ blanks, b = .cmds []) →
      (execSeq (execN fuel) s (c :: l)).2 = .continue_ →
      readEvalLoopN fuel s ex (.cmds (c :: l) :: blanks) = ((execSeq (execN fuel) s (c :: l)).1, .continue_)) := by
  refine ⟨fun blanks t hb => readEvalLoopN_blank fuel blanks t true hb, fun ex blanks hb hc => ?_⟩
  rw [readEvalLoopN_cmds, andThen_continue hc]
  show readEvalLoopN fuel _ (ex || true) blanks = _
  rw [Bool.or_true]
  exact readEvalLoopN_blank fuel blanks _ true hb

/-- `! st 0; . comments_only; probe 1` under errexit: the `.` built-in — body
    `evalEmpty` = a loop over lines without commands — sets `$? = 0` and the script goes on -/
example :
    readEvalLoopN 9 { status := 1 } false [.cmds [], .cmds [], .cmds []] = (({ status := 0 } : St), .continue_) ∧
    (execSeq (execN 9) { errexit := true }
      [.neg (.ctl (.st 0)), .simple (.mk (.ok none) (.builtin .special .evalEmpty) .none (.ok none)),
       .simple (probeSimple 1)]).1.trace = [(1, 0)] := by
  refine ⟨blank_script_leaves_zero 9 _ _ (by simp), by decide⟩

end YashModel.Errexit
