/-
  C10 — the vocabulary of the theorems about the nested-context model (Errexit/Nested.lean), definitions only: a
  construct around a hole that it executes first (`Layer`), and a hole at any position (`HoleRun`).
-/
import YashModel.Errexit.Nested
namespace YashModel.Errexit
open YashModel.Exec
open YashModel.Generated.ErrexitTables

/-- one construct around a hole; the hole is the FIRST command the construct executes -/
inductive Layer where
  | group (rest : List NCmd) (redirs : Redirs)           -- `{ □; rest; } redirs` (the redirections succeed)
  | call (rest : List NCmd)                              -- `f` where `f() { □; rest; }`
  | ifCond (restCond body : List NCmd) (els : Option (List NCmd))   -- `if □; restCond; then body; [else els;] fi`
  | loopCond (until_ : Bool) (restCond body : List NCmd) -- `while □; restCond; do body; done`
  | neg                                                  -- `! □`
  | single                                               -- an and-or list of one pipeline
  | andFirst (r : Bool × NCmd) (rest : List (Bool × NCmd))   -- `□ && …` / `□ || …`

def Layer.plug : Layer → NCmd → NCmd
  | .group rest redirs, n => .group (n :: rest) redirs
  | .call rest, n => .call (n :: rest)
  | .ifCond rc b e, n => .ifc (n :: rc) b e
  | .loopCond u rc b, n => .loop u (n :: rc) b
  | .neg, n => .neg n
  | .single, n => .andor n []
  | .andFirst r rest, n => .andor n (r :: rest)

/-- the frames the construct has pushed when the hole runs (innermost first) -/
def Layer.frames : Layer → List Frame
  | .group _ _ | .call _ | .single => []
  | .ifCond _ _ _ | .neg | .andFirst _ _ => [.condition]
  | .loopCond _ _ _ => [.condition, .loop]

/-- fuel the construct consumes before the hole runs -/
def Layer.cost : Layer → Nat
  | .loopCond _ _ _ => 2
  | _ => 1

/-- the redirections of a group layer are performed without error -/
def Layer.ok : Layer → Prop
  | .group _ (.error _) => False
  | _ => True

/-- layers from the outside in -/
def plugAll : List Layer → NCmd → NCmd
  | [], n => n
  | l :: ls, n => l.plug (plugAll ls n)

/-- the frames above the caller's when the innermost hole runs (innermost first) -/
def framesAll : List Layer → List Frame
  | [] => []
  | l :: ls => framesAll ls ++ l.frames

def costAll : List Layer → Nat
  | [] => 0
  | l :: ls => l.cost + costAll ls

def withStack (s : St) (st : List Frame) : St := { s with stack := st }

/-- the construct evaluates its hole in a context where errexit is ignored (it pushes `Frame::Condition`):
    the condition of `if`/`while`/`until`, a negated pipeline, every pipeline of an and-or list but the last -/
def Layer.exempt : Layer → Bool
  | .ifCond _ _ _ | .loopCond _ _ _ | .neg | .andFirst _ _ => true
  | .group _ _ | .call _ | .single => false

/-- the seven one-level shapes of Errexit/Model.lean as nested commands -/
def Stmt.toN : Stmt → NCmd
  | .plain c => .andor (.simple c) []
  | .ifc c a b => .ifc [.simple c] [.simple (probeSimple a)] (some [.simple (probeSimple b)])
  | .neg c => .neg (.simple c)
  | .andor c isAnd m => .andor (.simple c) [(isAnd, .simple (probeSimple m))]
  | .sub c m => .sub [.simple c, .simple (probeSimple m)]
  | .grp r m => .group [.simple (probeSimple m)] r

/-- the commands `pre` run from `s` to normal completion, leaving `s1` -/
def Completes (fuel : Nat) (s : St) (pre : List NCmd) (s1 : St) : Prop :=
  execSeq (execN fuel) s pre = (s1, .continue_)

/-- `Frame` by the name of its variant in yash-env/src/stack.rs (payloads dropped; a `Builtin` frame pushed by
    `execute_builtin` is special or not by the built-in's type) -/
def frameOfName : String → Option Frame
  | "Loop" => some .loop | "Subshell" => some .subshell | "Condition" => some .condition
  | "DotScript" => some .dotScript | "Trap" => some .trap | "InitFile" => some .initFile
  | _ => none

/-- the frames the non-test code of a file of yash-semantics/src/command pushes (generated table) -/
def pushesIn (file : String) : List String :=
  (framePushes.filter (fun r => r.1 == file)).map (fun r => r.2.2)

/-- `HoleRun fw s whole g s' n`: running `whole` from `s` with fuel `fw` reaches the command `n` (the hole) in
    state `s'` with fuel `g`, every command executed before it having completed normally: the hole may sit at ANY
    position of the command lists on the way, in a condition or in the branch / body that the condition selected -/
inductive HoleRun : Nat → St → NCmd → Nat → St → NCmd → Prop
  | here (f : Nat) (s : St) (n : NCmd) : HoleRun f s n f s n
  | group {f g : Nat} {s s1 s' : St} {pre rest : List NCmd} {m n : NCmd} {r : Redirs} :
      (∀ e, r ≠ .error e) → Completes f s pre s1 → HoleRun f s1 m g s' n →
      HoleRun (f+1) s (.group (pre ++ m :: rest) r) g s' n
  | call {f g : Nat} {s s1 s' : St} {pre rest : List NCmd} {m n : NCmd} :
      Completes f s pre s1 → HoleRun f s1 m g s' n → HoleRun (f+1) s (.call (pre ++ m :: rest)) g s' n
  | ifCond {f g : Nat} {s s1 s' : St} {pre rest b : List NCmd} {e : Option (List NCmd)} {m n : NCmd} :
      Completes f (s.push .condition) pre s1 → HoleRun f s1 m g s' n →
      HoleRun (f+1) s (.ifc (pre ++ m :: rest) b e) g s' n
  | ifThen {f g : Nat} {s s1 s2 s' : St} {c pre rest : List NCmd} {e : Option (List NCmd)} {m n : NCmd} :
      Completes f (s.push .condition) c s1 → s1.pop.status = 0 → Completes f s1.pop pre s2 → HoleRun f s2 m g s' n →
      HoleRun (f+1) s (.ifc c (pre ++ m :: rest) e) g s' n
  | ifElse {f g : Nat} {s s1 s2 s' : St} {c b pre rest : List NCmd} {m n : NCmd} :
      Completes f (s.push .condition) c s1 → s1.pop.status ≠ 0 → Completes f s1.pop pre s2 → HoleRun f s2 m g s' n →
      HoleRun (f+1) s (.ifc c b (some (pre ++ m :: rest))) g s' n
  | loopCond {f g : Nat} {s s1 s' : St} {u : Bool} {pre rest b : List NCmd} {m n : NCmd} :
      Completes f ((s.push .loop).push .condition) pre s1 → HoleRun f s1 m g s' n →
      HoleRun (f+2) s (.loop u (pre ++ m :: rest) b) g s' n
  | neg {f g : Nat} {s s' : St} {m n : NCmd} :
      HoleRun f (s.push .condition) m g s' n → HoleRun (f+1) s (.neg m) g s' n
  | single {f g : Nat} {s s' : St} {m n : NCmd} :
      HoleRun f s m g s' n → HoleRun (f+1) s (.andor m []) g s' n
  | andFirst {f g : Nat} {s s' : St} {m n : NCmd} {r : Bool × NCmd} {rest : List (Bool × NCmd)} :
      HoleRun f (s.push .condition) m g s' n → HoleRun (f+1) s (.andor m (r :: rest)) g s' n
  -- `f+2` in the next two: one unit for the node, one for the step of `execForN` / `execCaseN`
  | forBody {f g : Nat} {s s1 s' : St} {k : Nat} {pre rest : List NCmd} {m n : NCmd} :
      Completes f (s.push .loop) pre s1 → HoleRun f s1 m g s' n →
      HoleRun (f+2) s (.forLoop false false (k+1) (pre ++ m :: rest)) g s' n
  | caseFirst {f g : Nat} {s s1 s' : St} {k : CaseCont} {pre rest : List NCmd} {m n : NCmd}
      {items : List (Bool × Bool × List NCmd × CaseCont)} :
      Completes f s pre s1 → HoleRun f s1 m g s' n →
      HoleRun (f+2) s (.caseC false ((true, false, pre ++ m :: rest, k) :: items)) g s' n

end YashModel.Errexit
