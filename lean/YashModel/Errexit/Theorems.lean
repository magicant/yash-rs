/-
  C10 — property theorems and non-vacuity examples, with the few lemmas only they use.  The model is
  `YashModel.Exec` (shared with C02, hence the namespace).

  Property text (abridged): a non-interactive shell stops early exactly in the documented cases:
  under errexit when a simple command, multi-command pipeline or subshell fails outside the exempt
  contexts (conditions of if/while/until, every pipeline of an and-or list but the last, a negated
  pipeline — including inside functions and groups called from such contexts); and on shell errors
  (syntax errors, errors of special built-ins, assignment and expansion errors).  Without errexit,
  redirection errors of ordinary commands, failing commands and command-not-found only set `$?`;
  in every aborting case the exit status is that of the failing command or the documented error
  status, commands after the abort point never run, and the EXIT trap runs exactly once.
-/
import YashModel.Errexit.ConditionBlind
import YashModel.Exec.LawLemmas
import YashModel.Exec.BuiltinLemmas
namespace YashModel.Exec

/-! ### ★ when errexit fires (`errexit_iff`) -/

/-- errexit fires exactly when the status is non-zero, the option is on and no `Condition` frame is
    anywhere on the stack -/
theorem errexit_iff (s : St) :
    s.applyErrexit = .break_ (.exit none) ↔
      (s.status ≠ 0 ∧ s.errexit = true ∧ s.stack.contains .condition = false) := by
  unfold St.applyErrexit St.errexitApplicable
  constructor
  · intro h
    split at h
    · rename_i hh; simpa using hh
    · cases h
  · rintro ⟨h1, h2, h3⟩
    rw [if_pos]
    refine ⟨h1, ?_⟩
    have : ¬ Frame.condition ∈ s.stack := by simpa using h3
    simp [h2, this]

theorem errexit_otherwise_continues (s : St) :
    s.applyErrexit = .break_ (.exit none) ∨ s.applyErrexit = .continue_ :=
  applyErrexit_cases s

/-- the commands `st n` and an unknown command (status 127) end with exactly the errexit check -/
theorem simple_command_errexit (fuel : Nat) (s : St) (n : Nat) :
    execCmd (fuel+1) s (.st n) = ({ s with status := n }, { s with status := n }.applyErrexit) ∧
    execCmd (fuel+1) s .unknown = ({ s with status := 127 }, { s with status := 127 }.applyErrexit) := by
  simp [execCmd, finishSimple]

/-- a subshell is subject to errexit with the status its child left (after `apply_result`) -/
theorem subshell_errexit (fuel : Nat) (s : St) (body : List Item)
    (hf : (execList fuel (s.push .subshell) body).2 ≠ .outOfFuel) :
    (execCmd (fuel+1) s (.subshell body)).2 = (execCmd (fuel+1) s (.subshell body)).1.applyErrexit ∧
    (execCmd (fuel+1) s (.subshell body)).1.status =
      ((execList fuel (s.push .subshell) body).1.applyResult (execList fuel (s.push .subshell) body).2).status := by
  rw [execCmd_subshell, joinSub_of_fuel hf]
  exact ⟨rfl, rfl⟩

/-- the members of a pipeline run on copies: the parent's option is what it was -/
theorem members_errexit : ∀ (fuel : Nat) (s : St) (cs : List Cmd) (f : Nat),
    (execPipeMembers fuel s cs f).1.errexit = s.errexit := by
  intro fuel s cs f
  obtain ⟨tr, pe, h | ⟨st, h⟩⟩ := execPipeMembers_result fuel s cs f <;> rw [h]

/-- a multi-command pipeline is subject to errexit with the pipeline's status — and the check is the
    parent shell's own, with or without job control (under `set -m` the members run inside one more
    subshell, `enterJc`, whose status comes back before the check) -/
theorem pipeline_errexit (fuel : Nat) (s : St) (c d : Cmd) (rest : List Cmd)
    (hr : (execPipeMembers fuel s.enterJc (c :: d :: rest) 0).2 = .continue_) :
    (execCommands (fuel+1) s (c :: d :: rest)).2 = (execCommands (fuel+1) s (c :: d :: rest)).1.applyErrexit ∧
    (execCommands (fuel+1) s (c :: d :: rest)).1.status =
      (execPipeMembers fuel s.enterJc (c :: d :: rest) 0).1.status ∧
    (execCommands (fuel+1) s (c :: d :: rest)).1.errexit = s.errexit := by
  rw [execCommands_many]
  have hm := members_errexit fuel s.enterJc (c :: d :: rest) 0
  generalize execPipeMembers fuel s.enterJc (c :: d :: rest) 0 = x at *
  obtain ⟨s1, r⟩ := x
  cases (hr : r = _)
  have h1 : (s.leaveJc s1).status = s1.status := by rw [leaveJc_eq]
  have h2 : (s.leaveJc s1).errexit = s1.errexit := by rw [leaveJc_eq]
  have h3 : s.enterJc.errexit = s.errexit := by rw [enterJc_eq]
  exact ⟨rfl, h1, h2.trans (hm.trans h3)⟩

/-- the wrapper subshell of a job-controlled pipeline, if there is one, hides the enclosing loops from the members
    (as every subshell does); otherwise nothing is pushed -/
theorem job_control_wrapper_invisible (s : St) :
    loops s.enterJc.stack = 0 ∨ s.enterJc = s :=  by
  unfold St.enterJc
  split
  · left; simp [St.push]
  · right; rfl

/-! ### ★ errexit is irrelevant wherever a `Condition` frame is on the stack -/

/-- the exempt contexts push `Condition`: in each of them the errexit check cannot fire -/
theorem condition_exempts (s : St) : (s.push .condition).errexitApplicable = false := by
  simp [St.errexitApplicable, St.push]

/-- and the exemption extends to everything run from there — functions, groups, loops, subshells —
    because frames below the top are never removed while a command runs (`Exec.bal`) and the check
    looks at the whole stack: a run under a `Condition` frame is the same whether errexit is on or off
    (the two runs differ at most in the option flag itself).  One field of the induction `irr` of
    Errexit/ConditionBlind.lean, which carries the frame along by `bal`. -/
theorem errexit_irrelevant_in_condition (fuel : Nat) (s : St) (c : Cmd) (b : Bool)
    (hc : s.stack.contains .condition = true) :
    SameButErrexit (execCmd fuel s c).1 (execCmd fuel { s with errexit := b } c).1 ∧
    (execCmd fuel s c).2 = (execCmd fuel { s with errexit := b } c).2 :=
  (irr fuel).cmd s { s with errexit := b } c ⟨b, rfl⟩ hc

theorem errexit_irrelevant_in_condition_list (fuel : Nat) (s : St) (l : List Item) (b : Bool)
    (hc : s.stack.contains .condition = true) :
    SameButErrexit (execList fuel s l).1 (execList fuel { s with errexit := b } l).1 ∧
    (execList fuel s l).2 = (execList fuel { s with errexit := b } l).2 :=
  (irr fuel).list s { s with errexit := b } l ⟨b, rfl⟩ hc

/-! ### ★ nothing runs after the abort point -/

theorem list_stops_at_break (fuel : Nat) (s : St) (it : Item) (rest : List Item) (d : Divert)
    (h : (execItem fuel s it).2 = .break_ d) :
    execList (fuel+1) s (it :: rest) = execItem fuel s it := by
  rw [execList_cons, andThen_of_ne (h ▸ Res.noConfusion)]

theorem trapDue_in_trap (s : St) (h : s.stack.contains .trap = true) : s.trapDue = none := by
  unfold St.trapDue; rw [h]; simp

theorem script_stops_at_break (fuel : Nat) (s : St) (line : List Item) (rest : List Line) (d : Divert)
    (hq : s.trapDue = none)
    (h : (execList fuel s line).2 = .break_ d) :
    runScript (fuel+1) s (.cmds line :: rest) =
      ((execList fuel s line).1.applyResult (.break_ d), .break_ d) := by
  rw [runScript_cmds, pollWith_none _ s _ hq]
  simp only [andThenApply, h]

/-- a script whose first line does not parse stops there with status 2, whatever follows -/
theorem syntax_error_stops (fuel : Nat) (s : St) (rest : List Line) :
    runScript (fuel+1) s (.syntaxError :: rest) = ({ s with status := 2 }, .break_ (.interrupt (some 2))) := by
  simp [runScript, St.applyResult, Divert.exitStatus]

/-! ### ★ the documented error statuses -/

theorem error_status_table (fuel : Nat) (s : St) :
    -- expansion and assignment errors: status 2 carried by Exit (errexit applicable) or Interrupt
    (execCmd (fuel+1) s .expErr).2 =
      (if s.errexitApplicable then .break_ (.exit (some 2)) else .break_ (.interrupt (some 2))) ∧
    (execCmd (fuel+1) s .assignErr).2 = (execCmd (fuel+1) s .expErr).2 ∧
    -- redirection error on a special built-in: status 2 and the shell is interrupted
    execCmd (fuel+1) s (.redirErr .special) = ({ s with status := 2 }, .break_ (.interrupt none)) ∧
    -- usage error of a special built-in: interrupted; through `command`: only `$?`
    (∀ st, execCmd (fuel+1) s (.specialErr false st) = ({ s with status := st }, .break_ (.interrupt none))) ∧
    (∀ st, execCmd (fuel+1) s (.specialErr true st) =
      ({ s with status := st }, { s with status := st }.applyErrexit)) := by
  simp [execCmd, St.expansionError, finishSimple]

/-- the status the shell exits with after an abort is the one carried by the divert, else `$?` -/
theorem abort_status (s : St) (d : Divert) :
    (s.applyResult (.break_ d)).status = (match d.exitStatus with | some e => e | none => s.status) := by
  rw [applyResult_status]; cases d.exitStatus <;> rfl

/-! ### ★ without errexit a failure only sets `$?` (`no_errexit_continues`) -/

/-- without errexit, a failing command, command-not-found and a redirection error of anything but a
    special built-in only set `$?` -/
theorem no_errexit_continues (fuel : Nat) (s : St) (he : s.errexit = false) :
    (∀ n, execCmd (fuel+1) s (.st n) = ({ s with status := n }, .continue_)) ∧
    execCmd (fuel+1) s .unknown = ({ s with status := 127 }, .continue_) ∧
    (∀ k, k ≠ .special → execCmd (fuel+1) s (.redirErr k) = ({ s with status := 2 }, .continue_)) := by
  have h : ∀ n, ({ s with status := n } : St).applyErrexit = .continue_ := by
    intro n; exact applyErrexit_of_not_applicable _ (by simp [St.errexitApplicable, he])
  refine ⟨?_, ?_, ?_⟩
  · intro n; simp [execCmd, finishSimple, h]
  · simp [execCmd, finishSimple, h]
  · intro k hk; cases k <;> first | exact absurd rfl hk | exact congrArg (Prod.mk _) (h 2)

/-! ### signal traps at command boundaries: an abort is never downgraded -/

theorem divert_le_rank (a b : Divert) : (a.le b = true → a.rank ≤ b.rank) ∧ (a.le b = false → b.rank ≤ a.rank) :=
  ⟨fun h => by rcases (Divert.le_iff a b).1 h with h | h <;> omega,
    fun h => Nat.le_of_not_lt fun hlt => by rw [(Divert.le_iff a b).2 (.inl hlt)] at h; cases h⟩

/-- When a command ends in a divert and the action of a signal caught meanwhile ends in one too, the
    more severe one is what the shell follows: the result is one of the two and at least as severe as
    both. -/
theorem trap_divert_merge (p : Nat) (s2 : St) (m d : Divert) :
    (finishPoll p s2 (.break_ m) (.break_ d)).2 = .break_ (m.max d) ∧
    (m.max d = m ∨ m.max d = d) ∧ m.rank ≤ (m.max d).rank ∧ d.rank ≤ (m.max d).rank := by
  refine ⟨by simp [finishPoll], ?_, ?_, ?_⟩
  · unfold Divert.max; split <;> simp
  · unfold Divert.max
    split
    · rename_i h; exact (divert_le_rank m d).1 h
    · exact Nat.le_refl _
  · unfold Divert.max
    split
    · exact Nat.le_refl _
    · rename_i h; exact (divert_le_rank m d).2 (by simpa using h)

/-- In particular the abort of errexit (`Exit`) or of a shell error (`Interrupt`) survives a trap
    action that says `return`: the function is not resumed. -/
theorem abort_survives_trap_return (p : Nat) (s2 : St) (e x : Option Nat) :
    (finishPoll p s2 (.break_ (.exit e)) (.break_ (.return_ x))).2 = .break_ (.exit e) ∧
    (finishPoll p s2 (.break_ (.interrupt e)) (.break_ (.return_ x))).2 = .break_ (.interrupt e) := by
  constructor <;> simp [finishPoll, Divert.max, Divert.le, Divert.rank]

/-- a trap action is polled after every command whatever the command's result was (a diverting
    command does not skip it), except when fuel ran out or nothing is due -/
theorem poll_runs_after_divert (run : St → List Item → St × Res) (s1 : St) (d : Divert) (body : List Item)
    (hd : s1.trapDue = some body) :
    pollWith run s1 (.break_ d) =
      finishPoll s1.status (run ({ s1 with pending := false }.push .trap) body).1.pop (.break_ d)
        (run ({ s1 with pending := false }.push .trap) body).2 := by
  simp [pollWith, hd]

/-! ### ★ the EXIT trap runs once (`exit_trap_once`) -/

/-- an error that interrupts the EXIT action with a status of its own (expansion, assignment or syntax
    error: 2) leaves exactly that status — not the one `$?` had before the error -/
theorem exit_trap_error_status (fuel : Nat) (s : St) (body : List Item) (e : Nat)
    (ht : s.exitTrap = some body)
    (hr : (execList fuel (s.push .trap) body).2 = .break_ (.interrupt (some e))) :
    (runExitTrap fuel s).1.status = e ∧ (runExitTrap fuel s).2 = .break_ (.interrupt (some e)) := by
  rw [runExitTrap_eq, ht]
  simp [exitTrapTail, popped, hr, St.applyResult, Divert.exitStatus]

/-- the EXIT action `probe m` run by `run_exit_trap`: one probe, `$?` restored -/
theorem runExitTrap_probe (fuel : Nat) (s1 : St) (m : Nat)
    (ht : s1.exitTrap = some [.mk (.mk false [.probe m]) []]) :
    (runExitTrap (fuel+5) s1).1.trace = (m, s1.status) :: s1.trace ∧
    (runExitTrap (fuel+5) s1).1.status = s1.status ∧
    (runExitTrap (fuel+5) s1).2 ≠ .outOfFuel := by
  have key : execList (fuel+5) (s1.push .trap) [.mk (.mk false [.probe m]) []] =
      ({ s1.push .trap with trace := (m, s1.status) :: s1.trace },
       ({ s1.push .trap with trace := (m, s1.status) :: s1.trace } : St).applyErrexit) :=
    execList_wrap (fuel+1) (s1.push .trap) (.probe m)
      (trapDue_in_trap { s1.push .trap with trace := (m, s1.status) :: s1.trace } (by simp [St.push]))
  rw [runExitTrap_eq, ht]
  simp only [key]
  rcases errexit_otherwise_continues ({ s1.push .trap with trace := (m, s1.status) :: s1.trace }) with h | h <;>
    rw [h] <;> exact ⟨rfl, rfl, Res.noConfusion⟩

theorem runShell_fst (fuel : Nat) (s : St) (script : List Line)
    (hr : (runScript fuel s script).2 ≠ .outOfFuel) (ha : ∀ e, (runScript fuel s script).2 ≠ .break_ (.abort e)) :
    (runShell fuel s script).1 = (runExitTrap fuel (runScript fuel s script).1).1 := by
  rw [runShell_eq, shellTail_run hr ha]

/-- On every terminating path of the shell other than `Abort`, the EXIT action runs exactly once,
    after the script: for an action `probe m` the trace grows by exactly that one probe, `$?` is what
    the script left, and with no trap set nothing is added.  (`fuel+5`: the action `probe m` is a list of one
    item of one pipeline of one command, four units before the command's one: `execList_wrap`.) -/
theorem exit_trap_once (fuel : Nat) (s : St) (script : List Line) (m : Nat)
    (hr : (runScript (fuel+5) s script).2 ≠ .outOfFuel)
    (ha : ∀ e, (runScript (fuel+5) s script).2 ≠ .break_ (.abort e)) :
    ((runScript (fuel+5) s script).1.exitTrap = some [.mk (.mk false [.probe m]) []] →
      (runShell (fuel+5) s script).1.trace =
        (m, (runScript (fuel+5) s script).1.status) :: (runScript (fuel+5) s script).1.trace ∧
      (runShell (fuel+5) s script).1.status = (runScript (fuel+5) s script).1.status) ∧
    ((runScript (fuel+5) s script).1.exitTrap = none →
      (runShell (fuel+5) s script).1 = (runScript (fuel+5) s script).1) := by
  rw [runShell_fst _ s script hr ha]
  refine ⟨fun ht => ?_, fun ht => ?_⟩
  · obtain ⟨t1, t2, _⟩ := runExitTrap_probe fuel _ m ht
    exact ⟨t1, t2⟩
  · rw [runExitTrap_eq, ht]

/-- the general form of `exit_trap_once`: for ANY action (failing commands, errors and `exit` included),
    on every terminating path other than `Abort` what the shell prints after the script is exactly what
    ONE execution of the action prints, started in the state the script left, under a `Trap` frame -/
theorem exit_trap_runs_action_once (fuel : Nat) (s : St) (script : List Line) (body : List Item)
    (hr : (runScript fuel s script).2 ≠ .outOfFuel)
    (ha : ∀ e, (runScript fuel s script).2 ≠ .break_ (.abort e))
    (ht : (runScript fuel s script).1.exitTrap = some body)
    (hb : (execList fuel ((runScript fuel s script).1.push .trap) body).2 ≠ .outOfFuel) :
    (runShell fuel s script).1.trace =
      (execList fuel ((runScript fuel s script).1.push .trap) body).1.trace := by
  rw [runShell_fst fuel s script hr ha, runExitTrap_eq, ht]
  show (exitTrapTail _ (popped _)).1.trace = _
  rw [exitTrapTail_eq (x := popped _) hb, applyResult_eq]
  rfl

/-- No program of this model's language produces `Divert::Abort` (only the `exec` built-in does), so the hypothesis
    is never met here; the reachable form of the statement is `YashModel.Errexit.shell_tail` with its example
    (`exec no_such_command` → `Abort`, the EXIT action does not run). -/
theorem abort_skips_exit_trap (fuel : Nat) (s : St) (script : List Line) (e : Option Nat)
    (h : (runScript fuel s script).2 = .break_ (.abort e)) :
    runShell fuel s script = runScript fuel s script := by
  rw [runShell_eq, shellTail_skip (.inr ⟨e, h⟩)]

/-- `set -e; trap 'probe 99' EXIT` then `if st 3; then :; fi`, `st 5`, `probe 1`: the condition does not
    abort, `st 5` does, `probe 1` never runs, the trap runs once, exit status 5 -/
example :
    let script : List Line :=
      [.cmds [.mk (.mk false [.setE true]) [], .mk (.mk false [.trapExit [.mk (.mk false [.probe 99]) []]]) []],
       .cmds [.mk (.mk false [.ifc [.mk (.mk false [.st 3]) []] [.mk (.mk false [.call .colon 0]) []] [] none]) []],
       .cmds [.mk (.mk false [.st 5]) []],
       .cmds [.mk (.mk false [.probe 1]) []]]
    (runShell 50 {} script).1.trace = [(99, 5)] ∧ (runShell 50 {} script).1.status = 5 ∧
    (runScript 50 {} script).2 = .break_ (.exit none) := by
  decide +kernel

example : ({ stack := [.builtin false, .loop, .condition], errexit := true, status := 1 } : St).applyErrexit
    = .continue_ := by decide

/-- hypotheses of `subshell_errexit`, `pipeline_errexit` (with job control: the wrapper subshell),
    `errexit_irrelevant_in_condition`, `script_stops_at_break`, `exit_trap_error_status` and
    `exit_trap_runs_action_once` hold on non-trivial inputs -/
example : (execList 10 (({ errexit := true } : St).push .subshell) [.mk (.mk false [.probe 1, .st 3]) []]).2 ≠ .outOfFuel := by
  decide +kernel
example : (execPipeMembers 10 ({ monitor := true, errexit := true } : St).enterJc [.st 0, .st 2] 0).2 = .continue_ ∧
    ({ monitor := true, errexit := true } : St).enterJc.stack = [.subshell] := by decide
example : ({ stack := [.builtin false, .condition], errexit := true } : St).stack.contains .condition = true := by decide
example : ({ errexit := true } : St).trapDue = none ∧
    (execList 10 ({ errexit := true } : St) [.mk (.mk false [.st 5]) [], .mk (.mk false [.probe 1]) []]).2
      = .break_ (.exit none) := by decide
example : (execList 10 (({ exitTrap := some [.mk (.mk false [.probe 99]) [], .mk (.mk false [.expErr]) []] } : St).push .trap)
      [.mk (.mk false [.probe 99]) [], .mk (.mk false [.expErr]) []]).2 = .break_ (.interrupt (some 2)) := by decide
example :
    let script : List Line := [.cmds [.mk (.mk false [.trapExit [.mk (.mk false [.probe 99]) [], .mk (.mk false [.st 4]) []]]) []],
                               .cmds [.mk (.mk false [.exit (some 3)]) []], .cmds [.mk (.mk false [.probe 1]) []]]
    (runScript 30 {} script).2 = .break_ (.exit (some 3)) ∧
    (runScript 30 {} script).1.exitTrap.isSome = true ∧
    (runShell 30 {} script).1.trace = [(99, 3)] ∧ (runShell 30 {} script).1.status = 3 := by decide

end YashModel.Exec
