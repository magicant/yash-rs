/-
  C10 — lemmas about the nested-context model.

  * The frame stack is balanced: `execN` (every construct, every path, every fuel) leaves the stack it found
    (`balN`; for the leaf `execSimple_stack` of SimpleCommand.lean) — each construct is built by operators
    that keep the stack when their parts do.
  * A hole at any position (`HoleRun`): a result that no construct catches (`Uncaught`: out of fuel, `Interrupt`,
    `Exit`, `Abort`) passes every operator unchanged, so a command that ends in one ends the whole construct there
    (`pass_at_any_position`).  A nesting of `Layer`s is the case where nothing runs before the hole
    (`holeRun_plugAll`).
-/
import YashModel.Errexit.NestedContexts
import YashModel.Errexit.NestedStep
import YashModel.Errexit.SimpleCommand
namespace YashModel.Errexit
open YashModel.Exec

theorem stops_cases {r : Res} (h : stopsShell r = true) : (∃ e, r = .break_ (.interrupt e)) ∨ (∃ e, r = .break_ (.exit e)) := by
  cases r with
  | break_ d => cases d <;> simp [stopsShell] at h ⊢
  | _ => simp [stopsShell] at h

theorem withStack_withStack (s : St) (a b : List Frame) : withStack (withStack s a) b = withStack s b := rfl
theorem withStack_stack (s : St) (a : List Frame) : (withStack s a).stack = a := rfl
theorem withStack_idem (a : St) (x y : List Frame) : withStack (withStack a x) y = withStack a y :=
  withStack_withStack a x y

theorem Layer.exempt_eq (l : Layer) : l.exempt = l.frames.contains .condition := by
  cases l <;> rfl

theorem contains_condition_framesAll (p : List Layer) : (framesAll p).contains .condition = p.any Layer.exempt := by
  induction p with
  | nil => rfl
  | cons l ls ih => rw [framesAll, List.contains_append, ih, List.any_cons, Layer.exempt_eq, Bool.or_comm]

theorem execSeq_single (f : St → NCmd → St × Res) (s : St) (n : NCmd) : execSeq f s [n] = f s n := by
  rw [execSeq_cons]
  rcases f s n with ⟨y1, y2⟩; cases y2 <;> rfl

theorem completes_of {fuel : Nat} {s : St} {pre : List NCmd}
    (h : (execSeq (execN fuel) s pre).2 = .continue_) : Completes fuel s pre (execSeq (execN fuel) s pre).1 :=
  Prod.ext rfl h

theorem ite_stack {α : Type} {c : Prop} [Decidable c] {a b : St × α} {st : List Frame} (ha : a.1.stack = st)
    (hb : b.1.stack = st) : (if c then a else b).1.stack = st := by
  split <;> assumption

theorem execSeq_stack {α : Type} (f : St → α → St × Res) (hf : ∀ s x, (f s x).1.stack = s.stack) :
    ∀ (l : List α) (s : St), (execSeq f s l).1.stack = s.stack
  | [], _ => rfl
  | x :: rest, s => by
    rw [execSeq_cons]
    exact andThen_stack (hf s x) fun s1 h1 => (execSeq_stack f hf rest s1).trans h1

theorem execAndOrN_stack (f : St → NCmd → St × Res) (hf : ∀ s x, (f s x).1.stack = s.stack) :
    ∀ (rest : List (Bool × NCmd)) (s : St), (execAndOrN f s rest).1.stack = s.stack.tail
  | [], _ => rfl
  | [(k, p)], s => by rw [execAndOrN_last]; exact ite_stack (hf _ _) rfl
  | (k, p) :: q :: rest, s => by
    rw [execAndOrN_cons]
    exact ite_stack
      (andThenPop_stack (hf s p) fun s1 h1 => (execAndOrN_stack f hf (q :: rest) s1).trans (congrArg List.tail h1))
      (execAndOrN_stack f hf (q :: rest) s)

structure BalN (fuel : Nat) : Prop where
  n : ∀ s c, (execN fuel s c).1.stack = s.stack
  loop : ∀ s u c b e, (execLoopN fuel s u c b e).1.stack = s.stack
  pipe : ∀ s cs f, (execPipeN fuel s cs f).1.stack = s.stack
  for_ : ∀ s n b, (execForN fuel s n b).1.stack = s.stack
  case_ : ∀ s items f u, (execCaseN fuel s items f u).1.stack = s.stack

theorem balN_loop (fuel : Nat) (ih : BalN fuel) : ∀ s u c b e, (execLoopN (fuel+1) s u c b e).1.stack = s.stack := by
  intro s u c b e
  have hseq := execSeq_stack (execN fuel) ih.n
  rw [execLoopN_succ]
  exact whileRound_stack u e (pop_stack_of_push (hseq _ _)) (fun s1 h1 => (hseq b s1).trans h1)
    fun s1 k h1 => (ih.loop s1 u c b k).trans h1

theorem balN_pipe (fuel : Nat) (ih : BalN fuel) : ∀ s cs f, (execPipeN (fuel+1) s cs f).1.stack = s.stack := by
  intro s cs f
  cases cs with
  | nil => rfl
  | cons c rest => rw [execPipeN_cons]; exact joinSub_stack fun c2 => ih.pipe _ rest _

theorem balN_for (fuel : Nat) (ih : BalN fuel) : ∀ s n b, (execForN (fuel+1) s n b).1.stack = s.stack := by
  intro s n b
  cases n with
  | zero => rfl
  | succ n =>
    rw [execForN_succ]
    exact loopCtl_stack (execSeq_stack (execN fuel) ih.n b s) fun s1 h1 => (ih.for_ s1 n b).trans h1

theorem balN_case (fuel : Nat) (ih : BalN fuel) :
    ∀ s items f u, (execCaseN (fuel+1) s items f u).1.stack = s.stack := by
  intro s items f u
  cases items with
  | nil => rfl
  | cons it rest =>
    obtain ⟨m, e, body, k⟩ := it
    rw [execCaseN_cons]
    refine ite_stack rfl (ite_stack (ih.case_ _ _ _ _) ?_)
    exact caseNext_stack (execSeq_stack (execN fuel) ih.n body s) fun s1 fl h1 => (ih.case_ s1 rest fl _).trans h1

theorem leaveJc_stack' (s s1 : St) (h : s1.stack = s.enterJc.stack) : (s.leaveJc s1).stack = s.stack :=
  leaveJc_stack s s1 h

theorem balN_n (fuel : Nat) (ih : BalN fuel) : ∀ s c, (execN (fuel+1) s c).1.stack = s.stack := by
  intro s c
  have hseq := execSeq_stack (execN fuel) ih.n
  cases c with
  | simple c => exact execSimple_stack fuel c s
  | ctl c => exact (bal fuel).cmd s c
  | group body redirs =>
    cases redirs with
    | error e => rw [execN_groupErr]; exact andThen_stack (handleRedirError_stack s e) fun _ h1 => h1
    | _ => exact hseq _ _
  | sub body => rw [execN_sub]; exact joinSub_stack fun _ => rfl
  | async body => rw [execN_async]; exact joinSub_stack fun _ => rfl
  | ifc cond body els =>
    rw [execN_ifc]
    refine andThen_stack (pop_stack_of_push (hseq _ _)) fun s1 h1 => ite_stack ((hseq _ _).trans h1) ?_
    cases els with
    | some e => exact (hseq _ _).trans h1
    | none => exact h1
  | loop u cond body =>
    rw [execN_loop]; exact (whilePost_stack _).trans (pop_stack_of_push (ih.loop _ _ _ _ _))
  | neg c => rw [execN_neg]; exact andThen_stack (pop_stack_of_push (ih.n _ _)) fun _ h1 => h1
  | andor first rest =>
    cases rest with
    | nil => exact ih.n s first
    | cons r rest =>
      rw [execN_andor]
      exact andThenPop_stack (ih.n _ _) fun s1 h1 =>
        (execAndOrN_stack (execN fuel) ih.n _ s1).trans (congrArg List.tail h1)
  | call body =>
    rw [execN_call]
    split <;> rw [finishSimple_fst] <;> exact hseq _ _
  | pipe cmds =>
    rw [execN_pipe]; exact andThen_stack (leaveJc_stack' s _ (ih.pipe _ _ _)) fun _ h1 => h1
  | forLoop w ro values body =>
    rw [execN_forLoop]
    exact ite_stack rfl (ite_stack rfl (ite_stack rfl (ite_stack rfl (pop_stack_of_push (ih.for_ _ _ _)))))
  | caseC se items =>
    rw [execN_caseC]; exact ite_stack rfl ((casePost_stack _).trans (ih.case_ _ _ _ _))
  | forPos body => rw [execN_forPos]; exact ite_stack rfl (pop_stack_of_push (ih.for_ _ _ _))
  | polled c =>
    rw [execN_polled, pollWith_stack (execList fuel) (bal fuel).list]
    exact ih.n s c

theorem balN : ∀ fuel, BalN fuel
  | 0 => ⟨fun _ _ => rfl, fun _ _ _ _ _ => rfl, fun _ _ _ => rfl, fun _ _ _ => rfl, fun _ _ _ _ => rfl⟩
  | fuel+1 => ⟨balN_n fuel (balN fuel), balN_loop fuel (balN fuel), balN_pipe fuel (balN fuel),
      balN_for fuel (balN fuel), balN_case fuel (balN fuel)⟩

theorem completes_stack {fuel : Nat} {s s1 : St} {pre : List NCmd} (h : Completes fuel s pre s1) :
    s1.stack = s.stack := by
  have := execSeq_stack (execN fuel) (balN fuel).n pre s
  rw [h] at this
  exact this

/-! ### what no construct catches passes every construct -/

/-- a result no construct but a subshell catches: out of fuel, `Interrupt`, `Exit`, `Abort` -/
def Uncaught (r : Res) : Prop :=
  r = .outOfFuel ∨ ∃ e, r = .break_ (.interrupt e) ∨ r = .break_ (.exit e) ∨ r = .break_ (.abort e)

theorem uncaught_of_stops {r : Res} (h : stopsShell r = true) : Uncaught r := by
  rcases stops_cases h with ⟨e, rfl⟩ | ⟨e, rfl⟩
  · exact .inr ⟨e, .inl rfl⟩
  · exact .inr ⟨e, .inr (.inl rfl)⟩

theorem andThen_uncaught (s1 : St) {r : Res} (h : Uncaught r) (k : St → St × Res) : andThen (s1, r) k = (s1, r) := by
  rcases h with rfl | ⟨e, rfl | rfl | rfl⟩ <;> rfl

theorem andThenPop_uncaught (s1 : St) {r : Res} (h : Uncaught r) (k : St → St × Res) :
    andThenPop (s1, r) k = (s1.pop, r) := by
  rcases h with rfl | ⟨e, rfl | rfl | rfl⟩ <;> rfl

theorem loopCtl_uncaught {α : Type} (s1 : St) {r : Res} (h : Uncaught r) (stop : Nat → α) (out : Res → α)
    (next : St → St × α) : loopCtl (s1, r) stop out next = (s1, out r) := by
  rcases h with rfl | ⟨e, rfl | rfl | rfl⟩ <;> rfl

theorem whilePost_uncaught (s1 : St) {r : Res} (h : Uncaught r) (e : Nat) : whilePost (s1, (r, e)) = (s1, r) := by
  rcases h with rfl | ⟨e, rfl | rfl | rfl⟩ <;> rfl

theorem casePost_uncaught (s1 : St) {r : Res} (h : Uncaught r) (u : Bool) : casePost (s1, (r, u)) = (s1, r) := by
  rcases h with rfl | ⟨e, rfl | rfl | rfl⟩ <;> rfl

theorem caseNext_uncaught (s1 : St) {r : Res} (h : Uncaught r) (u u1 : Bool) (k : CaseCont)
    (next : St → Bool → St × Res × Bool) : caseNext (s1, r) u u1 k next = (s1, r, u) := by
  rcases h with rfl | ⟨e, rfl | rfl | rfl⟩ <;> rfl

theorem execN_call_uncaught (f : Nat) (s : St) (body : List NCmd) (h : Uncaught (execSeq (execN f) s body).2) :
    execN (f+1) s (.call body) = execSeq (execN f) s body := by
  rw [execN_call]
  generalize execSeq (execN f) s body = y at h
  obtain ⟨s1, r⟩ := y
  rcases h with rfl | ⟨e, rfl | rfl | rfl⟩ <;> rfl

theorem withStack_of_stack {a : St} {st : List Frame} (h : a.stack = st) : withStack a st = a := by
  subst h; rfl

theorem pop_withStack_push (a s : St) (f : Frame) : (withStack a (s.push f).stack).pop = withStack a s.stack := rfl

theorem execSeq_uncaught {f : Nat} {x : St} {r : Res} (hr : Uncaught r) :
    ∀ {pre : List NCmd} {s s1 : St} {m : NCmd} {rest : List NCmd}, Completes f s pre s1 →
      execN f s1 m = (withStack x s1.stack, r) → execSeq (execN f) s (pre ++ m :: rest) = (withStack x s.stack, r)
  | [], s, s1, m, rest, hc, hm => by
    cases (Prod.mk.inj hc).1
    rw [List.nil_append, execSeq_cons, hm, andThen_uncaught _ hr]
  | p :: pre, s, s1, m, rest, hc, hm => by
    unfold Completes at hc
    rw [execSeq_cons] at hc
    rw [List.cons_append, execSeq_cons]
    have hs := (balN f).n s p
    generalize execN f s p = y at hc hs ⊢
    obtain ⟨s2, r2⟩ := y
    cases r2 with
    | continue_ => exact (execSeq_uncaught hr hc hm).trans (by rw [show s2.stack = s.stack from hs])
    | _ => cases hc

theorem pass_at_any_position {fw g : Nat} {s s' : St} {whole n : NCmd} (h : HoleRun fw s whole g s' n)
    (hr : Uncaught (execN g s' n).2) :
    execN fw s whole = (withStack (execN g s' n).1 s.stack, (execN g s' n).2) := by
  induction h with
  | here f s n =>
    rw [withStack_of_stack ((balN f).n s n)]
  | @group f g s s1 s' pre rest m n r hrd hc _ ih =>
    rw [execN_group f s _ r hrd, execSeq_uncaught hr hc (ih hr)]
  | @call f g s s1 s' pre rest m n hc _ ih =>
    rw [execN_call_uncaught _ _ _ (by rw [execSeq_uncaught hr hc (ih hr)]; exact hr), execSeq_uncaught hr hc (ih hr)]
  | @ifCond f g s s1 s' pre rest b e m n hc _ ih =>
    rw [execN_ifc, execSeq_uncaught hr hc (ih hr), popped_mk, pop_withStack_push, andThen_uncaught _ hr]
  | @ifThen f g s s1 s2 s' c pre rest e m n hc hst hp _ ih =>
    rw [execN_ifc, show execSeq _ _ _ = _ from hc, popped_mk]
    show (if s1.pop.status = 0 then _ else _) = _
    rw [if_pos hst, execSeq_uncaught hr hp (ih hr), pop_stack_of_push (completes_stack hc)]
  | @ifElse f g s s1 s2 s' c b pre rest m n hc hst hp _ ih =>
    rw [execN_ifc, show execSeq _ _ _ = _ from hc, popped_mk]
    show (if s1.pop.status = 0 then _ else _) = _
    rw [if_neg hst, execSeq_uncaught hr hp (ih hr), pop_stack_of_push (completes_stack hc)]
  | @loopCond f g s s1 s' u pre rest b m n hc _ ih =>
    rw [execN_loop, execLoopN_succ, execSeq_uncaught hr hc (ih hr), popped_mk (withStack _ _), pop_withStack_push,
      whileRound, loopCtl_uncaught _ hr, popped_mk, pop_withStack_push, whilePost_uncaught _ hr]
  | neg _ ih =>
    rw [execN_neg, ih hr, popped_mk, pop_withStack_push, andThen_uncaught _ hr]
  | andFirst _ ih =>
    rw [execN_andor, ih hr, andThenPop_uncaught _ hr, pop_withStack_push]
  | single _ ih => exact ih hr
  | @forBody f g s s1 s' k pre rest m n hc _ ih =>
    rw [execN_forLoop, execForN_succ, execSeq_uncaught hr hc (ih hr), loopCtl_uncaught _ hr, popped_mk,
      pop_withStack_push]
    rfl
  | @caseFirst f g s s1 s' k pre rest m n items hc _ ih =>
    rw [execN_caseC, execCaseN_cons, execSeq_uncaught hr hc (ih hr), caseNext_uncaught _ hr]
    exact casePost_uncaught _ hr _

theorem HoleRun.layer {f g : Nat} {s s' : St} {m n : NCmd} (l : Layer) (hl : l.ok)
    (h : HoleRun f (withStack s (l.frames ++ s.stack)) m g s' n) : HoleRun (f + l.cost) s (l.plug m) g s' n := by
  cases l with
  | group rest redirs => exact .group (pre := []) (fun e he => by subst he; exact hl) rfl h
  | call rest => exact .call (pre := []) rfl h
  | ifCond rc b e => exact .ifCond (pre := []) rfl h
  | loopCond u rc b => exact .loopCond (pre := []) rfl h
  | neg => exact .neg h
  | single => exact .single h
  | andFirst r rest => exact .andFirst h

theorem holeRun_plugAll : ∀ (p : List Layer), (∀ l ∈ p, l.ok) → ∀ (fuel : Nat) (s : St) (n : NCmd),
    HoleRun (fuel + costAll p) s (plugAll p n) fuel (withStack s (framesAll p ++ s.stack)) n
  | [], _, fuel, s, n => .here fuel s n
  | l :: ls, hp, fuel, s, n => by
    have ih := holeRun_plugAll ls (fun l' h => hp l' (List.mem_cons_of_mem _ h)) fuel
      (withStack s (l.frames ++ s.stack)) n
    have h := HoleRun.layer l (hp l List.mem_cons_self) ih
    rw [show fuel + costAll (l :: ls) = fuel + costAll ls + l.cost by simp only [costAll]; omega,
      show framesAll (l :: ls) ++ s.stack = framesAll ls ++ (l.frames ++ s.stack) from List.append_assoc ..]
    exact h

end YashModel.Errexit
