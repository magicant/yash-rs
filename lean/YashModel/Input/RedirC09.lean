/-
  C18 ↔ C09 — the two transcriptions of `RedirGuard` agree: C18's `performIn` / `undoIn` (descriptor 0
  as "the open file description it refers to", a description identified by what reading from it
  delivers) is the projection on descriptor 0 of C09's `performRedirs` / `undoRedirs` (the descriptor
  table: backup copies at ≥ 10, `dup2`, `close`).  C09's model is imported, not copied; the world is
  C09's arbitrary oracle; `I` interprets an open file description (by identity) as a C18 description.
-/
import YashModel.Redir.Guard
import YashModel.Input.Model
namespace YashModel.Input
open YashModel.Redir

variable {W : Type}

/-- what descriptor 0 of the table refers to, as a C18 description -/
def proj (I : Nat → SavedIn) (t : FdTable) : Option SavedIn := (t.get 0).map fun e => I e.ofd

/-- the description a saved copy of the guard holds in the table `t` -/
def savedDesc (I : Nat → SavedIn) (t : FdTable) (sv : SavedFd) : SavedIn :=
  (((sv.save.bind t.get).map fun e => I e.ofd)).getD { shared := false, data := [], pos := 0 }

/-- the C09 list and the C18 list are the same redirections of descriptor 0, item by item: each C09
    `perform` succeeds, and the description it leaves on descriptor 0 delivers the contents the C18 item
    opens (here-document or file), from offset 0 -/
def Tracks (o : Oracle W) (I : Nat → SavedIn) : W → FdTable → List Redir → List Rd → Prop
  | _, _, [], [] => True
  | w, t, r :: rs, rd :: rds =>
    r.fd = 0 ∧ (∃ sv, (perform o w t r).r = .ok sv)
      ∧ (∃ c, rdContent rd = some c ∧ proj I (perform o w t r).t = some { shared := false, data := c, pos := 0 })
      ∧ Tracks o I (perform o w t r).w (perform o w t r).t rs rds
  | _, _, _, _ => False

theorem tracks_targets (o : Oracle W) (I : Nat → SavedIn) (w : W) (t : FdTable) (rs : List Redir)
    (rds : List Rd) (h : Tracks o I w t rs rds) : ∀ r ∈ rs, r.fd = 0 := by
  induction rs generalizing w t rds with
  | nil => intro r hr; cases hr
  | cons r rs ih =>
    cases rds with
    | nil => exact absurd h (by simp [Tracks])
    | cons rd rds =>
      simp only [Tracks] at h
      intro r' hr'
      rcases List.mem_cons.mp hr' with e | e
      · rw [e]; exact h.1
      · exact ih _ _ _ h.2.2.2 r' e

/-- ★ lock-step: `performIn` is the projection of `performRedirs` on descriptor 0 — same success, the
    description on descriptor 0 while the command runs, and the guard's saved copies **in the same
    order** (`saved_fds`) holding exactly the descriptions C18 saved -/
theorem perform_projection (o : Oracle W) (I : Nat → SavedIn) (w : W) (t : FdTable) (rs : List Redir)
    (rds : List Rd) (s : State) (saved : List SavedIn) (h : Tracks o I w t rs rds)
    (hp : proj I t = some (stdinDesc s)) :
    (performIn rds saved s).2.2 = true
    ∧ (performRedirs o w t rs).err = none
    ∧ proj I (performRedirs o w t rs).t = some (stdinDesc (performIn rds saved s).2.1)
    ∧ (performIn rds saved s).1
        = saved ++ (performRedirs o w t rs).saved.map (savedDesc I (performRedirs o w t rs).t) := by
  induction rs generalizing w t rds s saved with
  | nil =>
    cases rds with
    | nil => exact ⟨rfl, rfl, hp, by simp [performIn, performRedirs]⟩
    | cons rd rds => exact absurd h (by simp [Tracks])
  | cons r rs ih =>
    cases rds with
    | nil => exact absurd h (by simp [Tracks])
    | cons rd rds =>
      simp only [Tracks] at h
      obtain ⟨hfd, ⟨s0, hs0⟩, ⟨c, hc, hpc⟩, htail⟩ := h
      have hok := perform_ok_spec hs0
      -- descriptor 0 is open (it projects), so `perform` saved it
      obtain ⟨e0, hg0, hI0⟩ : ∃ e0, t.get 0 = some e0 ∧ I e0.ofd = stdinDesc s := by
        simp only [proj] at hp
        cases hg : t.get 0 with
        | none => rw [hg] at hp; simp at hp
        | some e0 => rw [hg] at hp; exact ⟨e0, rfl, by simpa using hp⟩
      cases hsv : s0.save with
      | none =>
        have := (hok.none_case hsv).1
        rw [hfd, hg0] at this; cases this
      | some sv =>
        -- the saved copy holds what descriptor 0 referred to, and the later items (all of descriptor 0) leave it alone
        obtain ⟨e, hg, _, _, hne, _, hsvget, _⟩ := hok.saved_copy hsv
        rw [hfd, hg0] at hg; cases hg
        have htg := tracks_targets o I _ _ rs rds htail
        have hocc := (performRedirs_guarded o (perform o w t r).w (perform o w t r).t rs).occupied
          (fd := sv) (by rw [hsvget]; simp) (fun r' hr' => by rw [htg r' hr', ← hfd]; exact Ne.symm hne)
        have ih' := ih (perform o w t r).w (perform o w t r).t rds
          (setDesc s { shared := false, data := c, pos := 0 }) (saved ++ [stdinDesc s]) htail
          (by rw [hpc]; rfl)
        rw [performRedirs_cons_ok o w t r rs s0 hs0]
        simp only
        rw [performIn, hc]
        simp only []
        refine ⟨ih'.1, ih'.2.1, ih'.2.2.1, ?_⟩
        rw [ih'.2.2.2, List.map_cons, List.append_assoc]
        congr 2
        simp only [savedDesc, hsv, Option.bind_some, hocc.2, hsvget, Option.map_some, Option.getD_some]
        simp [hI0]

/-- the interpretation used by the non-vacuity examples of `c09_c18_agree` (Theorems.lean), in C09's
    concrete world: `cmd <<A <<B` from the standard table of a stdin-fed shell; the descriptions 3 and 4
    are the two temporary files -/
def exI (n : Nat) : SavedIn :=
  if n = 3 then { shared := false, data := [97, 10], pos := 0 }
  else if n = 4 then { shared := false, data := [98, 10], pos := 0 }
  else { shared := true, data := [], pos := 0 }

end YashModel.Input
