/-
  C18 — property theorems about the `read` built-in: it reads one byte at a time whatever the chunking of the source,
  consumes a prefix of the stream, takes exactly the first logical line of the Spec and leaves what follows, and,
  composed with C01, assigns what the C01 Spec prescribes.
-/
import YashModel.Input.Line
import YashModel.Input.Logical
import YashModel.Input.Compose
import YashModel.Expansion.ReadLemmas
namespace YashModel.Input

/-- ★ `read_char` of the `read` built-in (bytes read one at a time until `from_utf8` accepts the buffer)
    over a chunked source: the character delivered (or end of input / EILSEQ) and the bytes left are
    those of the concatenated stream, hence the same for every chunking of the same bytes — wherever
    the chunk boundaries fall inside a multi-byte character; and a delivered character consumed
    exactly the bytes of its own UTF-8 sequence, nothing beyond. -/
theorem read_char_chunking_irrelevant (cs ds : List (List Byte)) :
    ((readCharCGo [] cs).1, (readCharCGo [] cs).2.flatten) = readChar cs.flatten
    ∧ (cs.flatten = ds.flatten →
        (readCharCGo [] cs).1 = (readCharCGo [] ds).1
        ∧ (readCharCGo [] cs).2.flatten = (readCharCGo [] ds).2.flatten)
    ∧ (∀ code rest, readChar cs.flatten = (.char code, rest) →
        ∃ pre, pre ≠ [] ∧ pre ++ rest = cs.flatten ∧ utf8Check pre = .ok code) := by
  refine ⟨readCharCGo_eq [] cs, ?_, ?_⟩
  · intro h
    have := (readCharCGo_eq [] cs).trans (h ▸ (readCharCGo_eq [] ds).symm)
    simp only [Prod.mk.injEq] at this
    exact this
  · intro code rest h
    obtain ⟨pre, h1, h2, h3⟩ := readCharGo_exact [] cs.flatten code rest h
    exact ⟨pre, h1, h2, by simpa using h3⟩

/-- `€` (E2 82 AC) arriving one byte per chunk, followed by a newline: the character, and only its
    three bytes consumed -/
example : ((readCharCGo [] [[0xE2], [0x82], [], [0xAC, 10]]).1,
           (readCharCGo [] [[0xE2], [0x82], [], [0xAC, 10]]).2.flatten) = (.char 0x20AC, [10]) :=
  (read_char_chunking_irrelevant [[0xE2], [0x82], [], [0xAC, 10]] []).1.trans (by decide)

/-- ★ what `read` consumes, for **every** byte input (valid UTF-8 or not), delimiter and mode: it
    consumes a prefix of the stream; at end of input it has consumed everything; when it found its
    delimiter the prefix ends with the delimiter byte and what is left starts right after it — nothing
    of what follows has been taken; with `-r` that delimiter byte is the *first* one in the stream
    (for the default delimiter: exactly one line).  Without `-r` the prefix may contain earlier
    delimiter bytes only as backslash-newline continuations or backslash-quoted characters
    (`read_logical_line` says which prefix it is). -/
theorem read_consumes (d : Nat) (hd : d < 128) (raw : Bool) (inp : List Byte) :
    (∃ pre, pre ++ (readLine d raw inp []).2.2 = inp)
    ∧ ((readLine d raw inp []).2.1 = .eof → (readLine d raw inp []).2.2 = [])
    ∧ ((readLine d raw inp []).2.1 = .found →
        ∃ pre bl, pre ++ (readLine d raw inp []).2.2 = inp ∧ pre.getLast? = some bl ∧ bl.toNat = d
          ∧ (raw = true → ∀ x ∈ pre.dropLast, x.toNat ≠ d)) := by
  refine ⟨readLine_suffix raw inp [], fun he => ((readLine_logical d hd raw inp).2.1 he).2, fun hf => ?_⟩
  obtain ⟨pre, h1, e⟩ := (readLine_logical d hd raw inp).1 hf
  obtain ⟨-, h2, h3⟩ := firstLogicalLine_some e
  obtain ⟨bl, hb1, hb2⟩ := logicalEnd_last d raw pre h2
  exact ⟨pre, bl, h1, hb1, hb2, fun hraw => by subst hraw; exact logicalEnd_raw_first d pre h3⟩

/-- ★ `chunking_irrelevant` for the `read` built-in's reader, for every delimiter `d` (`-d`, a single
    byte, newline by default) and with or without `-r`: over any chunking of the same bytes `read`
    delivers the same characters (with their quoting), ends the same way and leaves the same bytes;
    when it found its delimiter it consumed a prefix of the stream ending with the delimiter byte —
    for `read -r` with the default delimiter exactly the first line of the stream, newline included,
    nothing of the next line. -/
theorem read_chunking_irrelevant (d : Nat) (hd : d < 128) (raw : Bool) (cs ds : List (List Byte)) :
    ((readLineCGo d raw false [] cs []).1, (readLineCGo d raw false [] cs []).2.1,
        (readLineCGo d raw false [] cs []).2.2.flatten) = readLine d raw cs.flatten []
    ∧ (cs.flatten = ds.flatten →
        (readLineCGo d raw false [] cs []).1 = (readLineCGo d raw false [] ds []).1
        ∧ (readLineCGo d raw false [] cs []).2.1 = (readLineCGo d raw false [] ds []).2.1
        ∧ (readLineCGo d raw false [] cs []).2.2.flatten = (readLineCGo d raw false [] ds []).2.2.flatten)
    ∧ ((readLineCGo d raw false [] cs []).2.1 = .found →
        ∃ pre bl, pre ++ (readLineCGo d raw false [] cs []).2.2.flatten = cs.flatten
          ∧ pre.getLast? = some bl ∧ bl.toNat = d
          ∧ (raw = true → d = 10 → pre = (nextLine cs.flatten).1
                          ∧ (readLineCGo d raw false [] cs []).2.2.flatten = (nextLine cs.flatten).2)) := by
  have e : ∀ xs : List (List Byte), ((readLineCGo d raw false [] xs []).1,
      (readLineCGo d raw false [] xs []).2.1, (readLineCGo d raw false [] xs []).2.2.flatten)
        = readLine d raw xs.flatten [] := fun xs => readLineCGo_eq d raw false [] xs []
  have e1 := e cs
  refine ⟨e1, fun h => ?_, ?_⟩
  · have e2 := (e ds).trans (h ▸ e1.symm)
    simp only [Prod.mk.injEq] at e2
    exact ⟨e2.1.symm, e2.2.1.symm, e2.2.2.symm⟩
  · have hc := (read_consumes d hd raw cs.flatten).2.2
    rw [← e1] at hc
    intro hf
    obtain ⟨pre, bl, h1, h2, h3, h4⟩ := hc hf
    refine ⟨pre, bl, h1, h2, h3, ?_⟩
    rintro rfl rfl
    -- the consumed prefix ends with its only newline: it is the first line
    have hu := splitLine_unique pre (readLineCGo 10 true false [] cs []).2.2.flatten
      (by rw [h2, show bl = NL from UInt8.toNat_inj.1 h3])
      (fun hm => h4 rfl NL hm rfl)
    rw [h1] at hu
    rw [nextLine_eq, hu]
    exact ⟨rfl, rfl⟩

example : readLine 10 true [0xE2, 0x82, 0xAC, 10, 120] [] = ([Expansion.plainChar (Char.ofNat 0x20AC)], .found, [120]) := by
  decide

/-- the Spec function `firstLogicalLine` characterised declaratively: it returns `(pre, rest)` iff `pre`
    is a prefix of the input that is a complete logical line (ends with the delimiter byte after an
    even number of backslashes; any number with `-r`) and **no shorter prefix is one**; it returns
    `none` iff no prefix of the input is a complete logical line. -/
theorem first_logical_line_spec (d : Nat) (raw : Bool) (inp : List Byte) :
    (∀ pre rest, firstLogicalLine d raw inp = some (pre, rest) ↔
      (pre ++ rest = inp ∧ logicalEnd d raw pre = true ∧
        ∀ q s, q ++ s = pre → s ≠ [] → logicalEnd d raw q = false))
    ∧ (firstLogicalLine d raw inp = none ↔ ∀ q s, q ++ s = inp → logicalEnd d raw q = false) := by
  refine ⟨fun pre rest => ⟨firstLogicalLine_some, ?_⟩, ?_, ?_⟩
  · rintro ⟨h1, h2, h3⟩
    have hne : pre ≠ [] := by
      intro e; subst e; simp [logicalEnd_nil] at h2
    have := scanLogical_unique d raw pre [] rest hne (by simpa using h2)
      (fun q s hqs hs _ => by simpa using h3 q s hqs hs)
    subst h1
    simpa [firstLogicalLine] using this
  · intro h q s hqs
    by_cases hq : q = []
    · subst hq; exact logicalEnd_nil d raw
    · simpa using scanLogical_none d raw inp [] h q s hqs hq
  · intro h
    cases hf : firstLogicalLine d raw inp with
    | none => rfl
    | some pr =>
      obtain ⟨pre, rest⟩ := pr
      obtain ⟨h1, h2, _⟩ := firstLogicalLine_some hf
      rw [h pre rest h1] at h2
      simp at h2

/-- a line `w` followed by `k` backslashes and a newline (`w` not itself ending in a backslash) is a
    complete logical line for `read` iff `k` is **even**; for `read -r` always -/
theorem logical_end_parity (w : List Byte) (k : Nat) (hw : w.getLast? ≠ some BS) :
    logicalEnd 10 false (w ++ List.replicate k BS ++ [NL]) = (k % 2 == 0)
    ∧ logicalEnd 10 true (w ++ List.replicate k BS ++ [NL]) = true := by
  rw [logicalEnd_snoc, logicalEnd_snoc, trailingBs_replicate w hw k]
  simp [NL]

example : logicalEnd 10 false ([97, 98] ++ List.replicate 2 BS ++ [NL]) = true := by decide
example : logicalEnd 10 false ([97, 98] ++ List.replicate 3 BS ++ [NL]) = false := by decide

/-- ★ where `read` stops, for **every** byte input, one-byte delimiter and mode, against the Spec:
    when it found its delimiter, what it consumed is exactly the first logical line of the input and
    what it leaves is exactly what follows that line; at end of input no prefix of the input was a
    complete logical line (and everything was consumed); when it fails with EILSEQ the input is not
    valid UTF-8 and it still has not gone past the end of the first logical line. -/
theorem read_logical_line (d : Nat) (hd : d < 128) (raw : Bool) (inp : List Byte) :
    ((readLine d raw inp []).2.1 = .found →
        ∃ pre, pre ++ (readLine d raw inp []).2.2 = inp ∧
          firstLogicalLine d raw inp = some (pre, (readLine d raw inp []).2.2))
    ∧ ((readLine d raw inp []).2.1 = .eof →
        firstLogicalLine d raw inp = none ∧ (readLine d raw inp []).2.2 = [])
    ∧ ((readLine d raw inp []).2.1 = .err →
        validUtf8 [] inp = false ∧
        ∀ pre rest, firstLogicalLine d raw inp = some (pre, rest) →
          ∃ m, (readLine d raw inp []).2.2 = m ++ rest) := by
  obtain ⟨h1, h2, h3⟩ := readLine_logical d hd raw inp
  refine ⟨?_, h2, h3⟩
  intro hf
  obtain ⟨pre, e1, e2⟩ := h1 hf
  exact ⟨pre, e1, by simpa [firstLogicalLine] using e2⟩

/-- an escaped backslash right before the newline: the line ends there, the next line is untouched -/
example : (readLine 10 false [97, 92, 92, 10, 120, 10] []).2 = (.found, [120, 10]) := by decide
/-- a single backslash before the newline: line continuation -/
example : (readLine 10 false [97, 92, 10, 120, 10] []).2 = (.found, []) := by decide

theorem readLine_first_line (d : Nat) (hd : d < 128) (raw : Bool) (pre rest : List Byte)
    (hfirst : firstLogicalLine d raw (pre ++ rest) = some (pre, rest))
    (hv : validUtf8 [] pre = true) :
    readLine d raw (pre ++ rest) [] = ((readLine d raw pre []).1, .found, rest) := by
  have hspec := firstLogicalLine_some hfirst
  have hpre : firstLogicalLine d raw pre = some (pre, []) :=
    ((first_logical_line_spec d raw pre).1 pre []).2 ⟨by simp, hspec.2.1, hspec.2.2⟩
  obtain ⟨g1, g2, g3⟩ := read_logical_line d hd raw pre
  cases hst : (readLine d raw pre []).2.1 with
  | found =>
    obtain ⟨p2, _, e2⟩ := g1 hst
    rw [hpre] at e2
    simp only [Option.some.injEq, Prod.mk.injEq] at e2
    have hrl : readLine d raw pre [] = ((readLine d raw pre []).1, .found, []) := by
      rw [← hst, e2.2]
    simpa using readLine_append (d := d) raw pre rest [] _ _ hrl
  | eof => rw [(g2 hst).1] at hpre; simp at hpre
  | err => rw [(g3 hst).1] at hv; simp at hv

/-- ★ "whatever follows the current command on standard input remains available": if the input
    starts with a complete logical line `pre` (shortest such prefix) that is valid UTF-8, `read` finds
    its delimiter and leaves **exactly** `rest`, whatever `rest` is — and the same through any chunked
    source delivering those bytes. -/
theorem read_leaves_what_follows (d : Nat) (hd : d < 128) (raw : Bool) (pre rest : List Byte)
    (hfirst : firstLogicalLine d raw (pre ++ rest) = some (pre, rest))
    (hv : validUtf8 [] pre = true) :
    (readLine d raw (pre ++ rest) []).2 = (.found, rest)
    ∧ ∀ cs : List (List Byte), cs.flatten = pre ++ rest →
        (readLineCGo d raw false [] cs []).2.1 = .found
        ∧ (readLineCGo d raw false [] cs []).2.2.flatten = rest := by
  have key : (readLine d raw (pre ++ rest) []).2 = (.found, rest) :=
    congrArg (·.2) (readLine_first_line d hd raw pre rest hfirst hv)
  refine ⟨key, ?_⟩
  intro cs hcs
  have e := readLineCGo_eq d raw false [] cs []
  rw [hcs] at e
  have e' : ((readLineCGo d raw false [] cs []).2.1, (readLineCGo d raw false [] cs []).2.2.flatten)
      = (readLine d raw (pre ++ rest) []).2 := by
    rw [readLine, ← e]
  rw [key] at e'
  simp only [Prod.mk.injEq] at e'
  exact e'

example : firstLogicalLine 10 false ([97, 92, 92, 10] ++ [120, 10]) = some ([97, 92, 92, 10], [120, 10])
    ∧ validUtf8 [] [97, 92, 92, 10] = true := by decide

theorem execRead_found (s : State) (d : Nat) (raw : Bool) (names : List String) (cs : List AChar)
    (rest : List Byte) (h : readLine d raw s.stdin [] = (cs, .found, rest)) :
    execRead s d raw names = { s.setStdin rest (s.stdin.length - rest.length) with
      vars := readAssign names cs .found s.vars, status := readExit cs .found } := by
  simp only [execRead, h]
  unfold State.setStdin
  split <;> simp

/-- ★ the same for the `read` built-in of the machine (the function the driver runs): in any state
    whose standard input starts with a valid logical line `pre` followed by `rest`, after `read`
    standard input is exactly `rest` and its offset has advanced by exactly `|pre|` — with a shared
    descriptor `rest` is what the shell parses next. -/
theorem exec_read_leaves_what_follows (s : State) (d : Nat) (hd : d < 128) (raw : Bool)
    (names : List String) (pre rest : List Byte)
    (hfirst : firstLogicalLine d raw s.stdin = some (pre, rest)) (hv : validUtf8 [] pre = true) :
    (execRead s d raw names).stdin = rest
    ∧ (execRead s d raw names).pos = s.pos + pre.length
    ∧ (s.shared = true → (execRead s d raw names).inp = rest)
    ∧ (s.shared = false → (execRead s d raw names).inp = s.inp)
    ∧ (execRead s d raw names).hitEof = s.hitEof := by
  have hin : pre ++ rest = s.stdin := (firstLogicalLine_some hfirst).1
  have h := readLine_first_line d hd raw pre rest (by rw [hin]; exact hfirst) hv
  rw [hin] at h
  have hlen : s.stdin.length - rest.length = pre.length := by
    rw [← hin]; simp
  rw [execRead_found s d raw names _ rest h, hlen]
  unfold State.setStdin State.stdin
  cases s.shared <;> simp

/-- the hypotheses are met by a shell reading `a\\` + newline + `x` + newline from the descriptor it
    shares with `read` (an escaped backslash at the end of the data line) -/
example : firstLogicalLine 10 false (initState true [97, 92, 92, 10, 120, 10] []).stdin
      = some ([97, 92, 92, 10], [120, 10]) ∧ validUtf8 [] [97, 92, 92, 10] = true := by decide

example : (execRead (initState true [97, 92, 92, 10, 120, 10] []) 10 false ["v1"]).inp = [120, 10] :=
  ((exec_read_leaves_what_follows _ 10 (by decide) false ["v1"] [97, 92, 92, 10] [120, 10]
    (by decide) (by decide)).2.2.1) rfl

/-- ★ data lines that end in backslashes.  `w` is the text of the line before them (no newline in it,
    not ending in a backslash, valid UTF-8), `k` the number of backslashes before the newline.
    `k` even: `read` stops at that newline and leaves exactly what follows.  `read -r`: always.
    `k` odd: the newline is a line continuation — the logical line goes on into what follows (the
    Spec's scan continues with `rest`). -/
theorem read_trailing_backslashes (w rest : List Byte) (k : Nat)
    (hnl : ∀ x ∈ w, x ≠ NL) (hw : w.getLast? ≠ some BS) (hv : validUtf8 [] w = true) :
    (k % 2 = 0 →
        (readLine 10 false (w ++ List.replicate k BS ++ [NL] ++ rest) []).2 = (.found, rest))
    ∧ (readLine 10 true (w ++ List.replicate k BS ++ [NL] ++ rest) []).2 = (.found, rest)
    ∧ (k % 2 = 1 →
        firstLogicalLine 10 false (w ++ List.replicate k BS ++ [NL] ++ rest)
          = scanLogical 10 false (w ++ List.replicate k BS ++ [NL]) rest) := by
  have hu : ∀ x ∈ w ++ List.replicate k BS, x.toNat ≠ 10 := by
    intro x hx
    rcases List.mem_append.1 hx with h | h
    · intro e; exact hnl x h (UInt8.toNat_inj.1 (e : x.toNat = NL.toNat))
    · have := (List.mem_replicate.1 h).2; subst this; decide
  have hscan : ∀ raw, firstLogicalLine 10 raw (w ++ List.replicate k BS ++ [NL] ++ rest)
      = if logicalEnd 10 raw (w ++ List.replicate k BS ++ [NL]) then
          some (w ++ List.replicate k BS ++ [NL], rest)
        else scanLogical 10 raw (w ++ List.replicate k BS ++ [NL]) rest := by
    intro raw
    have := scanLogical_skip 10 raw (w ++ List.replicate k BS) [] ([NL] ++ rest) hu
    simp only [firstLogicalLine, List.append_assoc] at this ⊢
    rw [this]
    simp [scanLogical, List.append_assoc]
  have hvalid : validUtf8 [] (w ++ List.replicate k BS ++ [NL]) = true := by
    rw [List.append_assoc]
    refine validUtf8_append_ascii w _ ?_ [] hv
    intro x hx
    rcases List.mem_append.1 hx with h | h
    · have := (List.mem_replicate.1 h).2; subst this; decide
    · simp at h; subst h; decide
  obtain ⟨p1, p2⟩ := logical_end_parity w k hw
  refine ⟨?_, ?_, ?_⟩
  · intro hk
    have hf := hscan false
    rw [p1] at hf
    simp only [hk, beq_self_eq_true, if_true] at hf
    exact (read_leaves_what_follows 10 (by decide) false _ rest hf hvalid).1
  · have hf := hscan true
    rw [p2] at hf
    simp only [if_true] at hf
    exact (read_leaves_what_follows 10 (by decide) true _ rest hf hvalid).1
  · intro hk
    have hf := hscan false
    rw [p1] at hf
    simpa [hk] using hf

/-- the hypotheses are met by `ab` with two and with three backslashes -/
example : (∀ x ∈ ([97, 98] : List Byte), x ≠ NL) ∧ ([97, 98] : List Byte).getLast? ≠ some BS
    ∧ validUtf8 [] [97, 98] = true := by decide

/-- ★ composition with C01, reader level: on valid UTF-8 input, `read` as this area models it (one
    byte per `read`, characters assembled by `from_utf8` on a 4-byte buffer, an escape flag) collects
    exactly the attributed characters that the C01 model of `read/input.rs` collects from the decoded
    characters, and finds its delimiter exactly when that one does — so everything C01 proves about the
    logical line (`Expansion.readInput_eq_specReadInput_all`, `read_line_value`, `read_raw_line`) holds
    for what the shell reads from a descriptor byte by byte. -/
theorem read_bytes_eq_chars (d : Nat) (hd : d < 128) (raw : Bool) (inp : List Byte)
    (hv : validUtf8 [] inp = true) :
    (readLine d raw inp []).1 = (Expansion.readInput raw (Char.ofNat d) (toChars inp)).1
    ∧ ((readLine d raw inp []).2.1 = .found ↔
        (Expansion.readInput raw (Char.ofNat d) (toChars inp)).2 = true)
    ∧ (readLine d raw inp []).2.1 ≠ .err := by
  have h := readLineGo_eq_readInput d hd raw inp false [] [] hv
  simp only [charsAfter, Bool.false_eq_true, if_false, List.nil_append] at h
  refine ⟨h.1, ?_, ?_⟩
  · rw [readLine, h.2, toChars]
    cases (Expansion.readInput raw (Char.ofNat d) (decodeGo [] inp)).2 <;> simp [statOf]
  · rw [readLine, h.2]
    cases (Expansion.readInput raw (Char.ofNat d) (decodeGo [] inp)).2 <;> simp [statOf]

example : validUtf8 [] [97, 92, 32, 0xC3, 0xA9, 10] = true := by decide

/-- the characters `read` collects from a descriptor that starts with the valid logical line `pre` are
    those of `pre` alone, whatever follows -/
theorem read_first_line_chars (d : Nat) (hd : d < 128) (raw : Bool) (pre rest : List Byte)
    (hfirst : firstLogicalLine d raw (pre ++ rest) = some (pre, rest))
    (hv : validUtf8 [] pre = true) :
    readLine d raw (pre ++ rest) [] =
      ((Expansion.readInput raw (Char.ofNat d) (toChars pre)).1, .found, rest) := by
  rw [readLine_first_line d hd raw pre rest hfirst hv, (read_bytes_eq_chars d hd raw pre hv).1]

/-- ★ composition with C01, end to end: in any state whose standard input starts with the valid
    logical line `pre` (as the Spec of this area finds it) followed by `rest`, the `read` built-in of
    the machine assigns to its variables, in order, exactly the values that the **C01 Spec** prescribes
    (`Expansion.specRead` — XCU `read` on POSIX field splitting with the default IFS — applied to
    `Expansion.specReadInput`, the logical line by items, of the decoded bytes of `pre`), returns 0,
    and leaves exactly `rest` on the descriptor.  (No NUL character in the line: then `read` fails.) -/
theorem exec_read_assigns_spec (s : State) (d : Nat) (hd : d < 128) (raw : Bool)
    (names : List String) (pre rest : List Byte) (hn : names ≠ [])
    (hfirst : firstLogicalLine d raw s.stdin = some (pre, rest)) (hv : validUtf8 [] pre = true)
    (hnul : hasNul (Expansion.readInput raw (Char.ofNat d) (toChars pre)).1 = false) :
    (execRead s d raw names).vars =
        assignValues names
          (Expansion.specRead Expansion.Ifs.default
            (Expansion.specReadInput raw (Char.ofNat d) (toChars pre)).1 (names.length - 1)) s.vars
    ∧ (execRead s d raw names).status = 0
    ∧ (execRead s d raw names).stdin = rest := by
  have hin : pre ++ rest = s.stdin := (firstLogicalLine_some hfirst).1
  have h := read_first_line_chars d hd raw pre rest (by rw [hin]; exact hfirst) hv
  rw [hin] at h
  have hE := (Expansion.read_end_to_end Expansion.Ifs.default raw (Char.ofNat d) (toChars pre) (names.length - 1)).1
  have hne : names.isEmpty = false := by
    cases names with
    | nil => exact absurd rfl hn
    | cons _ _ => rfl
  refine ⟨?_, ?_, (exec_read_leaves_what_follows s d hd raw names pre rest hfirst hv).1⟩ <;>
    rw [execRead_found s d raw names _ rest h]
  · simp [readAssign, hnul, assignRead, hne, hE]
  · simp [readExit, hnul]

/-- `read v1 v2` on `x y \` + newline + `z` + newline: the hypotheses hold (a continuation joins the lines) -/
example : firstLogicalLine 10 false [120, 32, 121, 32, 92, 10, 122, 10, 113, 10]
      = some ([120, 32, 121, 32, 92, 10, 122, 10], [113, 10])
    ∧ validUtf8 [] [120, 32, 121, 32, 92, 10, 122, 10] = true := by decide

end YashModel.Input
