/-
  C18 — one iteration of the read-eval loop and how it can end; facts about `loop` are inductions over it.
-/
import YashModel.Input.Steps
namespace YashModel.Input

/-- one iteration of the read-eval loop: it ends the run (final state and outcome), or leaves the
    state in which the next iteration starts -/
def iterate (s : State) : (State × Outcome) ⊕ State :=
  match (pullOf s).res with
  | .none => .inl ({ afterPull s with hitEof := s.hitEof || !(pullOf s).text.isEmpty }, .eof)
  | .error => .inl ({ afterPull s with status := 2 }, .syntaxError)
  | .incomplete => .inl ({ afterPull s with status := 2 }, .syntaxError)
  | .ok cs =>
    if (runK execFuel (cmds cs) (atExec s)).2 then
      (if (runK execFuel (cmds cs) (atExec s)).1.aborted
       then .inl ((runK execFuel (cmds cs) (atExec s)).1, .syntaxError)
       else .inr (runK execFuel (cmds cs) (atExec s)).1)
    else .inl ((runK execFuel (cmds cs) (atExec s)).1, .outOfFuel)

theorem loop_succ (n : Nat) (s : State) (log : List Iter) :
    loop (n + 1) s log = match iterate s with
      | .inl (t, o) => (t, o, log ++ [iterOf s])
      | .inr t => loop n t (log ++ [iterOf s]) := by
  rw [loop, iterate]
  cases (pullOf s).res with
  | ok cs =>
    simp only []
    split
    · split <;> rfl
    · rfl
  | none => rfl
  | error => rfl
  | incomplete => rfl

/-- the state an iteration leaves, whichever way it ends -/
def iterState (r : (State × Outcome) ⊕ State) : State := r.elim (·.1) id

theorem echoOf_grows (s : State) (text : List Byte) : ∃ e, echoOf s text = s.echo ++ e :=
  ite_append_grows _ _ _

theorem iterate_inr {s t : State} :
    iterate s = .inr t ↔ ∃ cs, (pullOf s).res = .ok cs ∧ runK execFuel (cmds cs) (atExec s) = (t, true)
      ∧ t.aborted = false := by
  unfold iterate
  cases hres : (pullOf s).res with
  | none | error | incomplete => simp
  | ok cs =>
    simp only []
    constructor
    · intro h
      refine ⟨cs, rfl, ?_⟩
      by_cases hfin : (runK execFuel (cmds cs) (atExec s)).2 = true
      · rw [if_pos hfin] at h
        by_cases hab : (runK execFuel (cmds cs) (atExec s)).1.aborted = true
        · rw [if_pos hab] at h; cases h
        · rw [if_neg hab] at h; cases h; exact ⟨Prod.ext rfl hfin, by simpa using hab⟩
      · rw [if_neg hfin] at h; cases h
    · rintro ⟨cs', hc, e, hab⟩
      cases hc
      rw [e]; simp [hab]

theorem iterate_inl {s t : State} {o : Outcome} (h : iterate s = .inl (t, o)) :
    ((pullOf s).res = .none ∧ o = .eof ∧ t = { afterPull s with hitEof := s.hitEof || !(pullOf s).text.isEmpty })
    ∨ (o = .syntaxError ∧ t = { afterPull s with status := 2 })
    ∨ ∃ cs, (pullOf s).res = .ok cs ∧ t = (runK execFuel (cmds cs) (atExec s)).1
        ∧ ((runK execFuel (cmds cs) (atExec s)).2 = true ∧ o = .syntaxError
           ∨ (runK execFuel (cmds cs) (atExec s)).2 = false ∧ o = .outOfFuel) := by
  unfold iterate at h
  cases hres : (pullOf s).res with
  | none => rw [hres] at h; cases h; exact .inl ⟨rfl, rfl, rfl⟩
  | error => rw [hres] at h; cases h; exact .inr (.inl ⟨rfl, rfl⟩)
  | incomplete => rw [hres] at h; cases h; exact .inr (.inl ⟨rfl, rfl⟩)
  | ok cs =>
    rw [hres] at h
    refine .inr (.inr ⟨cs, rfl, ?_⟩)
    by_cases hfin : (runK execFuel (cmds cs) (atExec s)).2 = true
    · simp only [hfin, if_true] at h
      by_cases hab : (runK execFuel (cmds cs) (atExec s)).1.aborted = true
      · rw [if_pos hab] at h; cases h; exact ⟨rfl, .inl ⟨hfin, rfl⟩⟩
      · rw [if_neg hab] at h; cases h
    · simp only [hfin] at h; cases h; exact ⟨rfl, .inr ⟨by simpa using hfin, rfl⟩⟩

theorem iterate_grows (s : State) : Grows s (iterState (iterate s)) := by
  have hrun : ∀ cs, Grows s (runK execFuel (cmds cs) (atExec s)).1 := fun cs =>
    (show Grows s (atExec s) from ⟨⟨[], rfl⟩, fun h => by simp [atExec, h], echoOf_grows s _, rfl⟩).trans
      (runK_grows execFuel (cmds cs) (atExec s))
  cases h : iterate s with
  | inr t => obtain ⟨cs, _, e, _⟩ := iterate_inr.1 h; have := hrun cs; rwa [e] at this
  | inl r =>
    obtain ⟨t, o⟩ := r
    rcases iterate_inl h with ⟨_, _, rfl⟩ | ⟨_, rfl⟩ | ⟨cs, _, rfl, _⟩
    · exact ⟨⟨[], rfl⟩, fun h => by simp [iterState, h], echoOf_grows s _, rfl⟩
    · exact ⟨⟨[], rfl⟩, id, echoOf_grows s _, rfl⟩
    · exact hrun cs

theorem loop_grows (n : Nat) (s : State) (log : List Iter) : Grows s (loop n s log).1 := by
  induction n generalizing s log with
  | zero => exact Grows.refl _
  | succ n ih =>
    rw [loop_succ]
    have := iterate_grows s
    generalize iterate s = r at this ⊢
    cases r with
    | inl r => exact this
    | inr t => exact this.trans (ih _ _)

end YashModel.Input
