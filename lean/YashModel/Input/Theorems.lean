/-
  C18 — property theorems about runs: input is consumed line by line, no further than the running command needs.
-/
import YashModel.Input.Append
import YashModel.Input.ChunkLemmas
import YashModel.Input.SpecEq
import YashModel.Input.ReadTheorems
import YashModel.Input.StdinStack
import YashModel.Input.RedirC09
import YashModel.Redir.Theorems
import YashModel.Generated.InputConsts
namespace YashModel.Input

/-- ★ `next_line`: the line and the rest are the input; the line has no newline except possibly as
    its last byte; either the line ends with a newline or the input is exhausted; an empty line means
    end of input. -/
theorem next_line_exact (inp line rest : List Byte) (h : nextLine inp = (line, rest)) :
    line ++ rest = inp ∧ NL ∉ line.dropLast ∧ (rest = [] ∨ line.getLast? = some NL)
      ∧ (line = [] ↔ inp = []) := by
  rw [nextLine_eq] at h
  have h1 : line = (splitLine inp).1 := by rw [h]
  have h2 : rest = (splitLine inp).2 := by rw [h]
  subst h1; subst h2
  exact ⟨splitLine_append inp, splitLine_no_inner_nl inp, splitLine_end inp, splitLine_nil_iff inp⟩

example : nextLine [112, 10, 113] = ([112, 10], [113]) := by decide

/-- ★ the same as offsets, for **arbitrary bytes** (no assumption about UTF-8: a lead-like byte before
    the newline changes nothing): `next_line` takes the bytes up to and including the first newline —
    `k + 1` bytes where `k` is the number of bytes before the first newline — or everything if there is
    none; the descriptor then stands exactly one past that newline. -/
theorem next_line_offset (inp : List Byte) :
    nextLine inp = (inp.take ((inp.takeWhile (· != NL)).length + 1),
                    inp.drop ((inp.takeWhile (· != NL)).length + 1)) := by
  rw [nextLine_eq]
  induction inp with
  | nil => simp [splitLine]
  | cons b rest ih =>
    by_cases hb : b = NL
    · simp [splitLine, hb]
    · simp [splitLine, hb, ih]

/-- 0xE2 (the lead byte of a three-byte sequence) right before the newline: the line still ends at
    the newline -/
example : nextLine [97, 0xE2, 10, 98, 10] = ([97, 0xE2, 10], [98, 10]) := by decide

/-- a source that delivers its bytes in chunks is, read one byte at a time, the byte stream of the
    concatenated chunks (empty chunks included) -/
theorem chunk_refines_bytes (cs : List (List Byte)) :
    (read1 cs = none ↔ cs.flatten = []) ∧
    (∀ b cs', read1 cs = some (b, cs') → cs.flatten = b :: cs'.flatten) :=
  ⟨read1_none cs, fun b cs' h => read1_some cs cs' b h⟩

/-- ★ the sequence of lines a reader produces is independent of the chunking of the source: it is the
    sequence of lines of the concatenation, so two chunkings of the same bytes give the same lines -/
theorem chunking_irrelevant (n : Nat) (cs ds : List (List Byte)) :
    linesOfC n cs = linesOf n cs.flatten ∧
    ((nextLineC cs).1, (nextLineC cs).2.flatten) = nextLine cs.flatten ∧
    (cs.flatten = ds.flatten → linesOfC n cs = linesOfC n ds) := by
  refine ⟨linesOfC_eq n cs, nextLineC_eq cs, ?_⟩
  intro h; rw [linesOfC_eq, linesOfC_eq, h]

example : linesOfC 9 [[112], [], [10, 113, 10], [114]] = linesOfC 9 [[112, 10], [113], [10, 114]] :=
  (chunking_irrelevant 9 _ _).2.2 (by decide)

/-- ★ chunking-independence of a *whole run*.  `runC chunks` is the shell fed through standard input
    by a source that delivers the script in the given chunks; every access to the descriptor (the
    lexer's `next_line`, `read`'s `read_char`, `cat`) is a loop of one-byte reads over the chunk list.
    Its run is the flat run over the concatenation: same final state (standard output, verbose echo,
    exit status, variables, aliases, options, descriptor offset, bytes left), same outcome, and the same
    sequence of command-line texts pulled by the iterations of the read-eval loop.  Hence two
    chunkings of the same byte stream execute the same command sequence with the same results. -/
theorem run_chunking_irrelevant (cs ds : List (List Byte)) :
    ((runC cs).1.flat = (run true cs.flatten []).1
      ∧ (runC cs).2.1 = (run true cs.flatten []).2.1
      ∧ (runC cs).2.2 = (run true cs.flatten []).2.2.map (·.text))
    ∧ (cs.flatten = ds.flatten →
        (runC cs).1.flat = (runC ds).1.flat ∧ (runC cs).2.1 = (runC ds).2.1
        ∧ (runC cs).2.2 = (runC ds).2.2) := by
  have key : ∀ xs : List (List Byte),
      (runC xs).1.flat = (run true xs.flatten []).1
      ∧ (runC xs).2.1 = (run true xs.flatten []).2.1
      ∧ (runC xs).2.2 = (run true xs.flatten []).2.2.map (·.text) := fun xs =>
    loopC_flat (xs.flatten.length + 2) { st := initState true [] [], src := xs } [] [] rfl
  refine ⟨key cs, fun h => ?_⟩
  obtain ⟨a1, a2, a3⟩ := key cs
  obtain ⟨b1, b2, b3⟩ := key ds
  rw [h] at a1 a2 a3
  exact ⟨a1.trans b1.symm, a2.trans b2.symm, a3.trans b3.symm⟩

/-- what the property talks about, read off the previous theorem: trace, exit status and verbose echo
    do not depend on the chunking -/
theorem run_chunking_observables (cs ds : List (List Byte)) (h : cs.flatten = ds.flatten) :
    (runC cs).1.st.out = (runC ds).1.st.out ∧ (runC cs).1.st.status = (runC ds).1.st.status
    ∧ (runC cs).1.st.echo = (runC ds).1.st.echo ∧ (runC cs).1.st.pos = (runC ds).1.st.pos
    ∧ (runC cs).1.st.vars = (runC ds).1.st.vars ∧ (runC cs).1.st.aliases = (runC ds).1.st.aliases := by
  have e := ((run_chunking_irrelevant cs ds).2 h).1
  -- on variables, so that no comparison of fields ever unfolds `runC`
  generalize (runC cs).1 = a at e ⊢
  generalize (runC ds).1 = b at e ⊢
  exact ⟨(congrArg State.out e :), (congrArg State.status e :), (congrArg State.echo e :),
    (congrArg State.pos e :), (congrArg State.vars e :), (congrArg State.aliases e :)⟩

example : [[112, 114], [111, 98, 101, 32], [], [97, 10]].flatten = [[112], [114, 111, 98, 101, 32, 97, 10]].flatten := by
  decide

/-- ★ (one command line) What the lexer pulled for one `Parser::command_line` is exactly the first
    `k` lines of the input — nothing of line `k+1` — and every shorter non-empty prefix of lines made
    the parser ask for more; the answer is the parser's on that text (or the input ended). -/
theorem pull_exact (parse : Bool → List Byte → ParseRes) (inp : List Byte) :
    let p := pull parse (inp.length + 1) [] inp
    ∃ k, p.text = (takeLines k inp).1 ∧ p.rest = (takeLines k inp).2
      ∧ p.text ++ p.rest = inp
      ∧ (∀ j, 0 < j → j < k → (parse false (takeLines j inp).1).isIncomplete = true)
      ∧ ((0 < k ∧ p.res = parse false p.text ∧ p.res.isIncomplete = false)
         ∨ (p.rest = [] ∧ p.res = parse true p.text)) := by
  intro p
  obtain ⟨k, h1, h2, h3, h4⟩ := pull_spec parse (inp.length + 1) [] inp (by omega)
  refine ⟨k, by simpa using h1, h2, ?_, by simpa using h3, h4⟩
  show p.text ++ p.rest = inp
  rw [show p.text = (takeLines k inp).1 from by simpa using h1, show p.rest = _ from h2]
  exact takeLines_append k inp

/-- an iteration of the read-eval loop pulled whole lines only, as few as possible, and its command
    started with the descriptor right after them -/
def IterOK (it : Iter) : Prop :=
  ∃ (st : State) (k : Nat), it.start = st.inp
    ∧ it.text = (takeLines k it.start).1 ∧ it.atExec = (takeLines k it.start).2
    ∧ it.text ++ it.atExec = it.start
    ∧ (∀ j, 0 < j → j < k → (parserOf st false (takeLines j it.start).1).isIncomplete = true)
    ∧ (st.shared = true → it.posAtExec = it.posStart + it.text.length)

/-- ★ every iteration of the read-eval loop satisfies `IterOK`: the bytes pulled before command i
    runs are exactly the lines up to the end of command i, so the offset of the shared descriptor
    seen by command i is the start of the next line. -/
theorem lazy_prefix (n : Nat) (s : State) (log : List Iter) (h : ∀ it ∈ log, IterOK it) :
    ∀ it ∈ (loop n s log).2.2, IterOK it := by
  induction n generalizing s log with
  | zero => simpa [loop] using h
  | succ n ih =>
    have hnew : ∀ it ∈ log ++ [iterOf s], IterOK it := by
      intro it hit
      rcases List.mem_append.1 hit with h1 | h1
      · exact h it h1
      · simp only [List.mem_singleton] at h1
        subst h1
        obtain ⟨k, h1, h2, h3, h4, _⟩ := pull_exact (parserOf s) s.inp
        refine ⟨s, k, rfl, h1, h2, h3, h4, fun hs => ?_⟩
        simp [iterOf, afterPull, hs]
    rw [loop_succ]
    cases iterate s with
    | inl r => exact hnew
    | inr t => exact ih _ _ hnew

/-- the command of an iteration runs in the state `atExec s`, whose script descriptor stands right
    after the pulled text with the shared offset advanced by exactly the pulled bytes and nothing else
    changed, and it runs before the loop pulls anything else -/
theorem command_sees_next_line (n : Nat) (s : State) (log : List Iter) (cs : List Cmd)
    (h : (pullOf s).res = .ok cs) :
    (atExec s).inp = (pullOf s).rest
      ∧ (s.shared = true → (atExec s).pos = s.pos + (pullOf s).text.length)
      ∧ (atExec s).out = s.out ∧ (atExec s).aliases = s.aliases ∧ (atExec s).vars = s.vars
      ∧ loop (n + 1) s log =
          if (runK execFuel (cmds cs) (atExec s)).2
          then (if (runK execFuel (cmds cs) (atExec s)).1.aborted
                then ((runK execFuel (cmds cs) (atExec s)).1, .syntaxError, log ++ [iterOf s])
                else loop n (runK execFuel (cmds cs) (atExec s)).1 (log ++ [iterOf s]))
          else ((runK execFuel (cmds cs) (atExec s)).1, .outOfFuel, log ++ [iterOf s]) := by
  refine ⟨rfl, fun hs => by simp [atExec, afterPull, hs], rfl, rfl, rfl, ?_⟩
  simp only [loop, h]

/-- ★ (general form of `prefix_monotone`, for any state: any feed kind, any aliases and options, also in
    the middle of a run)  If the loop started in `s` ends at end of input without any reader having
    met the end of the input in the middle of something, then with `S` appended to the input the run
    produces the same standard output and the same verbose echo, followed by whatever `S` adds. -/
theorem prefix_monotone_state (n m : Nat) (s sf : State) (log log' lg : List Iter) (S : List Byte)
    (h : loop n s log = (sf, .eof, lg)) (he : sf.hitEof = false) :
    (∃ o, (loop (n + m) (s.app S) log').1.out = o ++ sf.out)
    ∧ (∃ e, (loop (n + m) (s.app S) log').1.echo = sf.echo ++ e) := by
  induction n generalizing s log log' with
  | zero => simp [loop] at h
  | succ n ih =>
    rw [show n + 1 + m = (n + m) + 1 by omega]
    rw [loop_succ] at h
    cases hi : iterate s with
    | inl r =>
      -- the run of `P` is over; whatever the longer run does, it only adds output and echo
      rw [hi] at h
      obtain ⟨t, o⟩ := r
      simp only [Prod.mk.injEq] at h
      obtain ⟨ho, hc⟩ := iterate_eof s sf (by rw [hi, ← h.1, ← h.2.1]) he
      obtain ⟨⟨o, ho'⟩, _, ⟨e, hec⟩, _⟩ := loop_grows (n + m + 1) (s.app S) log'
      exact ⟨⟨o, by rw [ho', ho]; rfl⟩, ⟨e, by rw [hec, hc]; rfl⟩⟩
    | inr t =>
      rw [hi] at h
      replace h : loop n t (log ++ [iterOf s]) = (sf, .eof, lg) := h
      rw [loop_succ, iterate_app s t S hi ((loop_grows n t _).hitEof_false (by rw [h]; exact he))]
      exact ih _ _ _ h

theorem loop_app (n m : Nat) (s sf : State) (log log' lg : List Iter) (S : List Byte)
    (h : loop n s log = (sf, .eof, lg)) (he : sf.hitEof = false) :
    ∃ o, (loop (n + m) (s.app S) log').1.out = o ++ sf.out :=
  (prefix_monotone_state n m s sf log log' lg S h he).1

/-- ★ **the machine is the line-by-line reference reader.**  For every script, standard input and
    feed kind, the run of the machine (byte-at-a-time line reader, lexer buffer, incremental pulling,
    read-eval loop) and the run of `Spec.specRun` agree on everything but the ghost flag: standard
    output, verbose echo, exit status, variables, aliases, options, offset and bytes left of the
    descriptor, and how the run ended.  `specLoop` is the statement of "line by line, no further than
    needed, earlier lines take effect on later ones": each iteration takes the *fewest whole lines*
    (`specPull` = least `k` with `takeLines k` complete) for the parser **configured from the state as it
    is then** (`parserOf s`: aliases and `portable` after everything executed so far), runs the
    command with the remaining lines as the shared standard input, and only then looks further.  A
    model that kept a snapshot of the parsing mode or of the aliases, or whose reader took more or
    less than whole lines, would not satisfy this equation. -/
theorem run_eq_specRun (shared : Bool) (script data : List Byte) :
    (run shared script data).1.erase = (specRun shared script data).1.erase
    ∧ (run shared script data).2.1 = (specRun shared script data).2 :=
  loop_eq_specLoop (script.length + 2) _ _ [] rfl

theorem runFile_eq_specRunFile (script data : List Byte) :
    (runFile script data).1.erase = (specRunFile script data).1.erase
    ∧ (runFile script data).2.1 = (specRunFile script data).2 :=
  loop_eq_specLoop (script.length + 2) _ _ [] rfl

/-- end to end: the shell fed through a pipe in arbitrary chunks, touching its descriptor only by
    one-byte reads, is the line-by-line reference reader on the concatenated bytes -/
theorem runC_eq_specRun (cs : List (List Byte)) :
    (runC cs).1.flat.erase = (specRun true cs.flatten []).1.erase
    ∧ (runC cs).2.1 = (specRun true cs.flatten []).2 := by
  obtain ⟨⟨a, b, _⟩, _⟩ := run_chunking_irrelevant cs cs
  obtain ⟨c, d⟩ := run_eq_specRun true cs.flatten []
  exact ⟨by rw [a]; exact c, by rw [b]; exact d⟩

/-- the observables of `run_eq_specRun`, spelled out -/
theorem run_eq_specRun_observables (shared : Bool) (script data : List Byte) :
    (run shared script data).1.out = (specRun shared script data).1.out
    ∧ (run shared script data).1.status = (specRun shared script data).1.status
    ∧ (run shared script data).1.echo = (specRun shared script data).1.echo
    ∧ (run shared script data).1.pos = (specRun shared script data).1.pos
    ∧ (run shared script data).1.vars = (specRun shared script data).1.vars
    ∧ (run shared script data).1.aliases = (specRun shared script data).1.aliases
    ∧ (run shared script data).1.portable = (specRun shared script data).1.portable
    ∧ (run shared script data).1.inp = (specRun shared script data).1.inp := by
  have e := (run_eq_specRun shared script data).1
  exact ⟨erase_proj (·.out) (fun _ => rfl) e, erase_proj (·.status) (fun _ => rfl) e,
    erase_proj (·.echo) (fun _ => rfl) e, erase_proj (·.pos) (fun _ => rfl) e,
    erase_proj (·.vars) (fun _ => rfl) e, erase_proj (·.aliases) (fun _ => rfl) e,
    erase_proj (·.portable) (fun _ => rfl) e, erase_proj (·.inp) (fun _ => rfl) e⟩

/-- the reference reader's `specPull` meets its description: it returns the first `k ≥ 1` lines for the
    least `k` whose text is not incomplete for the parser (or all lines, judged at end of input), and
    what follows them -/
theorem specPull_least (parse : Bool → List Byte → ParseRes) (inp : List Byte) :
    ∃ k, (specPull parse (inp.length + 1) 1 inp).1 = (takeLines k inp).1
      ∧ (specPull parse (inp.length + 1) 1 inp).2.1 = (takeLines k inp).2
      ∧ (∀ j, 0 < j → j < k → (parse false (takeLines j inp).1).isIncomplete = true)
      ∧ ((0 < k ∧ (specPull parse (inp.length + 1) 1 inp).2.2 = parse false (takeLines k inp).1
            ∧ (parse false (takeLines k inp).1).isIncomplete = false)
         ∨ ((takeLines k inp).2 = []
            ∧ (specPull parse (inp.length + 1) 1 inp).2.2 = parse true (takeLines k inp).1)) := by
  obtain ⟨k, h1, h2, _, h4, h5⟩ := pull_exact parse inp
  rw [← pull_eq_specPull]
  refine ⟨k, h1, h2, h4, ?_⟩
  rw [← h1, ← h2]
  exact h5.imp (fun ⟨a, b, c⟩ => ⟨a, b, b ▸ c⟩) id

example :
    (specPull (fun _ t => if t.length < 4 then .incomplete else .error) 7 1 [1, 10, 2, 10, 3, 10]).1
      = [1, 10, 2, 10]
    ∧ (specPull (fun _ t => if t.length < 4 then .incomplete else .error) 7 1 [1, 10, 2, 10, 3, 10]).2.1
      = [3, 10] := by decide

/-- ★ `Parser::list` stops at a newline and leaves it: if, after alias substitution (an alias replaced by
    nothing — empty, blank or comment-only value — simply disappears), the next token is a newline, the
    list is over and the newline is not consumed.  (`8` is the fuel `pList`, `pCommand` and `skipNlAlias` give
    `substAlias`: at most eight chained substitutions in one command-name position.) -/
theorem list_stops_at_newline (cfg : PCfg) (n : Nat) (ts rest : List Tok)
    (h : substAlias cfg 8 ts = .nl :: rest) : pList cfg (n + 1) ts = .ok [] (.nl :: rest) := by
  rw [pList]
  simp [h, startsCmd, openTok]

/-- ★ a newline after a `;` separator ends the command line **whatever aliases were substituted before
    it**: when the and-or list before the `;` is `c` and what follows the `;` is, after alias
    substitution, a newline, the list is exactly `[c]` and the newline is left for `command_line`,
    which ends there.  (After `&&` / `||` newlines are skipped — `skipNlAlias` — and the command
    continues on the next line; after `;` they are not.) -/
theorem separator_newline_ends_list (cfg : PCfg) (n : Nat) (ts rest r r' : List Tok) (t : Tok) (c : Cmd)
    (h1 : substAlias cfg 8 ts = t :: rest) (hs : startsCmd t = true)
    (h2 : pAndOr cfg (n + 1) (t :: rest) = .ok c (.op ";" :: r))
    (h3 : substAlias cfg 8 r = .nl :: r') :
    pList cfg (n + 2) ts = .ok [c] (.nl :: r') := by
  rw [pList]
  simp only [h1, hs, Bool.not_true, Bool.false_eq_true, if_false, h2]
  rw [list_stops_at_newline cfg n r r' h3]

/-- for the examples: a literal word token, and the shape of a list result (commands, tokens left) -/
def litWord (s : String) : Tok := .word (s.toList.map fun c => Part.lit c false) []
def PR.shape : PR (List Cmd) → Option (Nat × Nat)
  | .ok cs r => some (cs.length, r.length)
  | _ => none

/-- `st 0; n1` newline `:` newline, `n1` an alias for nothing: the list is the one command `st 0`, and the
    newline and the whole next line are left (2 + 1 tokens) -/
example : (pList { aliases := [("n1", "")], portable := false, eof := false } 12
    [litWord "st", litWord "0", .op ";", litWord "n1", .nl, litWord ":", .nl]).shape = some (1, 3) := by
  decide +kernel

/-- the same with a comment-only value; and after `&&` the command does continue on the next line:
    one command (the and-or list `: && :`) and only the final newline left -/
example : (pList { aliases := [("n3", "# note")], portable := false, eof := false } 12
    [litWord ":", .op ";", litWord "n3", .nl, litWord ":", .nl]).shape = some (1, 3)
  ∧ (pList { aliases := [("n1", "")], portable := false, eof := false } 12
    [litWord ":", .op "&&", litWord "n1", .nl, litWord ":", .nl]).shape = some (1, 1) := by
  decide +kernel

/-- lines read = lines needed: when the first line alone is a complete command for the parser in
    force, exactly that line is pulled -/
theorem pull_one_line (parse : Bool → List Byte → ParseRes) (inp : List Byte) (hne : inp ≠ [])
    (h : (parse false (takeLines 1 inp).1).isIncomplete = false) :
    (pull parse (inp.length + 1) [] inp).text = (takeLines 1 inp).1
    ∧ (pull parse (inp.length + 1) [] inp).rest = (takeLines 1 inp).2 := by
  obtain ⟨k, h1, h2, h3, h4, h5⟩ := pull_exact parse inp
  have hk : k = 1 := by
    rcases Nat.lt_trichotomy k 1 with hlt | heq | hgt
    · have hk0 : k = 0 := by omega
      subst hk0
      rcases h5 with ⟨a, _⟩ | ⟨a, _⟩
      · omega
      · rw [h2] at a; simp [takeLines] at a; exact absurd a hne
    · exact heq
    · have := h4 1 (by omega) hgt
      rw [h] at this; exact absurd this (by simp)
  subst hk
  exact ⟨h1, h2⟩

/-- ★ **standard input is in blocking mode whenever a command runs, whatever mode it was inherited in**
    (POSIX sh, STDIN: "if the standard input to sh is a FIFO or terminal device and is set to
    non-blocking reads, then sh shall enable blocking reads on standard input").  `prepareInput` clears
    the flag for a FIFO; after that the state at the start of every command (`atExec`), after any number
    of steps of any command (`runK m`), and after any number of iterations of the read-eval loop
    (`loop n`) has `nonblock = false` — the shell's own reads restore the mode they find, so nothing else
    ever changes it.  Hence a command that is not part of the shell and reads the same descriptor
    blocks until the next chunk arrives instead of failing with EAGAIN in a gap between chunks: what
    follows on standard input stays available to it, whatever the timing of the chunks.  (A `probe`
    records the flag of the state it runs in: `Out.probe … s.nonblock`.) -/
theorem stdin_blocking_while_running (inherited : Bool) (script : List Byte) :
    (prepareInput true { initState true script [] with nonblock := inherited }).nonblock = false
    ∧ (∀ s : State, s.nonblock = false →
        (atExec s).nonblock = false
        ∧ (∀ m k, (runK m k s).1.nonblock = false)
        ∧ (∀ n log, (loop n s log).1.nonblock = false))
    ∧ (runPipe inherited script).1.nonblock = false := by
  have hinv : ∀ s : State, s.nonblock = false →
      (atExec s).nonblock = false ∧ (∀ m k, (runK m k s).1.nonblock = false)
        ∧ (∀ n log, (loop n s log).1.nonblock = false) := by
    intro s hs
    exact ⟨hs, fun m k => by rw [(runK_grows m k s).2.2.2]; exact hs,
      fun n log => by rw [(loop_grows n s log).2.2.2]; exact hs⟩
  refine ⟨rfl, hinv, ?_⟩
  exact (hinv _ rfl).2.2 _ _

example : (prepareInput true { initState true [99, 97, 116, 10] [] with nonblock := true }).nonblock = false :=
  rfl

theorem prefix_monotone_from (s : State) (S : List Byte)
    (hend : (loop (s.inp.length + 2) s []).2.1 = .eof)
    (hclean : (loop (s.inp.length + 2) s []).1.hitEof = false) :
    (∃ t, traceOf (loop ((s.inp ++ S).length + 2) (s.app S) [])
        = traceOf (loop (s.inp.length + 2) s []) ++ t)
    ∧ (∃ e, (loop ((s.inp ++ S).length + 2) (s.app S) []).1.echo
        = (loop (s.inp.length + 2) s []).1.echo ++ e) := by
  have hfuel : (s.inp ++ S).length + 2 = (s.inp.length + 2) + S.length := by
    simp only [List.length_append]; omega
  obtain ⟨⟨o, ho⟩, ⟨e, hec⟩⟩ := prefix_monotone_state (s.inp.length + 2) S.length s _ [] [] _ S
    (show loop (s.inp.length + 2) s [] = (_, .eof, _) by rw [← hend]) hclean
  rw [hfuel]
  exact ⟨⟨o.reverse, by simp only [traceOf]; rw [ho, List.reverse_append]⟩, ⟨e, hec⟩⟩

/-- ★ `P` is a complete prefix when its own run ends at end of input without any reader having met
    the end of the input in the middle of something (a command line, a `read`, a `cat`).  Then the
    trace of `P ++ S` extends the trace of `P`, and so does what `set -v` echoed, whatever `S` is —
    in particular when `S` starts with a syntax error: the earlier lines have taken effect. -/
theorem prefix_monotone (shared : Bool) (P S data : List Byte)
    (hend : (run shared P data).2.1 = .eof) (hclean : (run shared P data).1.hitEof = false) :
    (∃ t, traceOf (run shared (P ++ S) data) = traceOf (run shared P data) ++ t)
    ∧ (∃ e, (run shared (P ++ S) data).1.echo = (run shared P data).1.echo ++ e) :=
  prefix_monotone_from (initState shared P data) S hend hclean

/-- the same for `sh file` (the script read from its own descriptor, echoed under `set -v`) -/
theorem prefix_monotone_file (P S data : List Byte)
    (hend : (runFile P data).2.1 = .eof) (hclean : (runFile P data).1.hitEof = false) :
    (∃ t, traceOf (runFile (P ++ S) data) = traceOf (runFile P data) ++ t)
    ∧ (∃ e, (runFile (P ++ S) data).1.echo = (runFile P data).1.echo ++ e) :=
  prefix_monotone_from (initStateFile P data) S hend hclean

/-- non-vacuity of the hypotheses of `prefix_monotone`: `:` + newline is a complete prefix -/
example : (run true [58, 10] []).2.1 = .eof ∧ (run true [58, 10] []).1.hitEof = false := by decide +kernel

example : ∀ it ∈ ([] : List Iter), IterOK it := by simp

section
open YashModel.Generated

/-- the literals the model types by hand are the literals of the code (re-extracted from /repo on every
    run by tools/tables/input.py): the byte that ends a line for `FdReader2::next_line`, the default and
    the NUL delimiter of `read`, the exit statuses of `read` (success, end of input, read error — also
    for a NUL byte in the input), the statuses of a syntax error and of an unknown command; and the
    character buffer of `read_char` (`[0; 4]`) is large enough for the model's loop: `utf8Check` never
    asks for more after `READ_CHAR_MAX` bytes, so `buffer[len]` stays in bounds. -/
theorem model_constants_are_the_codes :
    NL.toNat = InputConsts.LINE_END
    ∧ (∀ names, parseReadArgs names false InputConsts.READ_DEFAULT_DELIM = parseReadArgs names false 10)
    ∧ (∀ rest r d, parseReadArgs ("-d" :: "" :: rest) r d = parseReadArgs rest r InputConsts.READ_NUL_DELIM)
    ∧ readExit [] .found = InputConsts.READ_SUCCESS
    ∧ readExit [] .eof = InputConsts.READ_EOF
    ∧ (∀ cs, readExit cs .err = InputConsts.READ_ERROR)
    ∧ (∀ st, readExit [Expansion.plainChar (Char.ofNat 0)] st = InputConsts.READ_ERROR)
    ∧ (∀ s name args here, (execUtil s .unknown name args here).status = InputConsts.NOT_FOUND)
    ∧ (∀ s args, args ≠ ["-v"] → args ≠ ["+v"] → args ≠ ["-m"] → args ≠ ["+m"] →
         (∀ o, args ≠ ["-o", o]) → (∀ o, args ≠ ["+o", o]) →
         (execSet s args).status = InputConsts.SYNTAX_ERROR)
    ∧ (∀ bs : List Byte, InputConsts.READ_CHAR_MAX ≤ bs.length → utf8Check bs ≠ .more) := by
  refine ⟨rfl, fun _ => rfl, fun _ _ _ => rfl, rfl, rfl, fun _ => rfl, ?_, fun _ _ _ _ => rfl, ?_, ?_⟩
  · intro st; cases st <;> rfl
  · intro s args h1 h2 hm1 hm2 h3 h4
    unfold execSet
    split
    · exact absurd rfl h1
    · exact absurd rfl h2
    · exact absurd rfl hm1
    · exact absurd rfl hm2
    · exact absurd rfl (h3 _)
    · exact absurd rfl (h4 _)
    · rfl
  · intro bs hlen h
    have := (utf8Check_more bs h).1
    simp only [InputConsts.READ_CHAR_MAX] at hlen
    omega
end

/-- the order is not a detail: with two redirections, copying the saved descriptions back in the order
    they were saved leaves descriptor 0 on the **first target** (the first here-document, unread) —
    a stdin-fed shell would go on reading its commands from there -/
theorem undo_order_matters :
    (undoIn (performIn [.here ['a', '\n'], .here ['b', '\n']] [] (initState true [112, 10] [])).1
            (performIn [.here ['a', '\n'], .here ['b', '\n']] [] (initState true [112, 10] [])).2.1).shared = true
    ∧ ((performIn [.here ['a', '\n'], .here ['b', '\n']] [] (initState true [112, 10] [])).1.foldl setDesc
            (performIn [.here ['a', '\n'], .here ['b', '\n']] [] (initState true [112, 10] [])).2.1).shared = false
    ∧ ((performIn [.here ['a', '\n'], .here ['b', '\n']] [] (initState true [112, 10] [])).1.foldl setDesc
            (performIn [.here ['a', '\n'], .here ['b', '\n']] [] (initState true [112, 10] [])).2.1).data = [97, 10] := by
  refine ⟨?_, ?_, ?_⟩ <;> decide +kernel

example : (runK 10 (cmds [.redir [.here ['a', '\n'], .file ['/', 'r', '1']] (.simple [] none)])
    (initState true [112, 10] [])).2 = true := by decide +kernel

/-- ★ a shell reading its commands from standard input (`sh -s`: file or pipe): after any number of
    command lines — whatever their redirections — **descriptor 0 is the script descriptor**; the next
    command line is read from the script, never from a here-document or a file a command was
    redirected to.  The same for the machine over a chunked source.  And for `sh -c` / `sh file`: what is
    left on the separate standard input is a suffix of the data, the offset = what was consumed. -/
theorem run_stdin_is_the_script (script data : List Byte) :
    ((run true script data).2.1 ≠ .outOfFuel → (run true script data).1.shared = true)
    ∧ (∀ cs : List (List Byte), (runC cs).2.1 ≠ .outOfFuel → (runC cs).1.st.shared = true)
    ∧ ((run false script data).2.1 ≠ .outOfFuel →
        (run false script data).1.shared = false
        ∧ ∃ pre, data = pre ++ (run false script data).1.data ∧ (run false script data).1.pos = pre.length)
    ∧ ((runFile script data).2.1 ≠ .outOfFuel →
        ∃ pre, data = pre ++ (runFile script data).1.data ∧ (runFile script data).1.pos = pre.length) := by
  refine ⟨?_, ?_, ?_, ?_⟩
  · intro h
    exact (loop_stdin _ _ _ h).1
  · intro cs h
    obtain ⟨h1, h2, _⟩ := (run_chunking_irrelevant cs cs).1
    rw [h2] at h
    show (runC cs).1.flat.shared = true
    rw [h1]; exact (loop_stdin _ _ _ h).1
  · intro h
    obtain ⟨h1, pre, h2, h3⟩ := loop_stdin _ _ _ h
    refine ⟨h1, pre, h2, ?_⟩
    have := h3 rfl
    simpa [run, initState, stdinDesc] using this
  · intro h
    obtain ⟨_, pre, h2, h3⟩ := loop_stdin _ _ _ h
    refine ⟨pre, h2, ?_⟩
    have := h3 rfl
    simpa [runFile, initStateFile, stdinDesc] using this

/-- the order in which `RedirGuard::undo_redirs` walks `saved_fds` is re-read from the code on every run
    (`Generated.InputConsts.UNDO_REVERSED`, tools/tables/input.py): it is the order of the model's
    `undoIn`, and the status after a redirection that cannot be performed is `ExitStatus::ERROR` -/
theorem undo_order_is_the_codes :
    Generated.InputConsts.UNDO_REVERSED = true
    ∧ (∀ (saved : List SavedIn) (s : State),
        undoIn saved s
          = (if Generated.InputConsts.UNDO_REVERSED then saved.reverse else saved).foldl setDesc s)
    ∧ (∀ (rs : List Rd) (c : Cmd) (k : List K) (s : State), (performIn rs [] s).2.2 = false →
        (step (.cmd (.redir rs c) :: k) s).map (·.2.status) = some Generated.InputConsts.SYNTAX_ERROR) := by
  refine ⟨rfl, fun _ _ => rfl, ?_⟩
  intro rs c k s h
  by_cases hx : redirErrorExits s c = true <;> simp [step, h, hx, Generated.InputConsts.SYNTAX_ERROR]

/-- ★ **after any commands with any redirections, the shell's input descriptor and its offset are what
    they were plus what was consumed through that descriptor.**  In a shell whose standard input is the
    script (`sh -s`), for every command list `cs` (any nesting of simple and compound commands, each
    with any list of redirections of standard input, `eval`/`.`, subshells) run to its end from any
    state: descriptor 0 is the script descriptor again, what is left of the script is a suffix of what
    was there, and the offset advanced by exactly the length of the consumed prefix — bytes read while
    descriptor 0 was redirected came from the here-document or file, not from the script (`Inside`:
    whenever an `undo` is pending, descriptor 0 is a stream of its own; `step_cursor`). -/
theorem script_cursor_after_command (n : Nat) (cs : List Cmd) (s : State)
    (hfin : (runK n (cmds cs) s).2 = true) (hsh : s.shared = true) :
    ∃ pre, s.inp = pre ++ (runK n (cmds cs) s).1.inp
      ∧ (runK n (cmds cs) s).1.pos = s.pos + pre.length
      ∧ (runK n (cmds cs) s).1.shared = true := by
  have e : outerDesc (cmds cs) (stdinDesc s) = stdinDesc s := by rw [outerDesc_eq, frames_cmds_nil]; rfl
  have := runK_cursor n (cmds cs) s hfin (by rw [Inside_eq, frames_cmds_nil]; trivial) (by rw [e]; exact hsh)
  rwa [e] at this

set_option maxRecDepth 4000 in
/-- `read v <<A <</r1`-like: a `read` under two redirections takes its line from the last target and
    leaves the script (`p⏎`) and its offset alone; afterwards a `read` takes the script's line -/
example :
    (runK 10 (cmds [.redir [.here ['a', '\n'], .here ['b', '\n']]
        (.simple [[.lit 'r' false, .lit 'e' false, .lit 'a' false, .lit 'd' false], [.lit 'v' false]] none)])
      (initState true [112, 10] [])).1.inp = [112, 10]
    ∧ (runK 10 (cmds [.redir [.here ['a', '\n'], .here ['b', '\n']]
        (.simple [[.lit 'r' false, .lit 'e' false, .lit 'a' false, .lit 'd' false], [.lit 'v' false]] none)])
      (initState true [112, 10] [])).1.vars = [("v", "b")] := by
  refine ⟨?_, ?_⟩ <;> decide +kernel

section C09
open YashModel.Redir
variable {W : Type}

/-- ★ **the two models of `RedirGuard` cannot drift apart**: for the same list of redirections of
    descriptor 0 (`Tracks`), from a table whose descriptor 0 refers to the description C18's state has
    (`proj I t = stdinDesc s`; `WF`: C09's hypothesis), the C18 description of standard input is the
    projection of the C09 table (1) while the command runs, (2) in every saved copy of the guard, in
    order, and (3) after `undo_redirs` — where C09's `undo_restores` and C18's `redirs_undone_exactly`
    both say: what it was before -/
theorem c09_c18_agree (o : Oracle W) (I : Nat → SavedIn) (w : W) (t : FdTable) (rs : List Redir)
    (rds : List Rd) (s : State) (h : Tracks o I w t rs rds) (hw : WF t)
    (hp : proj I t = some (stdinDesc s)) :
    proj I (performRedirs o w t rs).t = some (stdinDesc (performIn rds [] s).2.1)
    ∧ (performIn rds [] s).1 = (performRedirs o w t rs).saved.map (savedDesc I (performRedirs o w t rs).t)
    ∧ proj I (undoRedirs (performRedirs o w t rs).t (performRedirs o w t rs).saved)
        = some (stdinDesc (undoIn (performIn rds [] s).1 (performIn rds [] s).2.1)) := by
  obtain ⟨_, _, h3, h4⟩ := perform_projection o I w t rs rds s [] h hp
  refine ⟨h3, by simpa using h4, ?_⟩
  rw [redirs_undone_exactly]
  simp only [proj]
  rw [(undo_restores o w t rs hw).2 0]
  exact hp

example : Tracks worldOracle exI (stdWorld false) stdTable
    [⟨0, .hereDoc [97, 10]⟩, ⟨0, .hereDoc [98, 10]⟩] [.here ['a', '\n'], .here ['b', '\n']] := by
  refine ⟨rfl, ⟨_, rfl⟩, ⟨[97, 10], by decide, by decide⟩, rfl, ⟨_, rfl⟩, ⟨[98, 10], by decide, by decide⟩, trivial⟩

example : proj exI stdTable = some (stdinDesc (initState true [112, 10] [])) := by decide

end C09

/-- the reserved words of the model's grammar are the reserved words of yash-syntax, and the model's
    clause delimiters are those of `Keyword::is_clause_delimiter` (both re-extracted on every run) -/
theorem keywords_are_the_codes :
    (∀ k ∈ Generated.InputConsts.KEYWORDS, keywords.contains k = true)
    ∧ (∀ k ∈ keywords, Generated.InputConsts.KEYWORDS.contains k = true)
    ∧ (∀ k ∈ Generated.InputConsts.KEYWORDS,
        isClauseDelim (.word (k.toList.map fun c => Part.lit c false) []) = Generated.InputConsts.CLAUSE_DELIMS.contains k) := by
  refine ⟨by decide +kernel, by decide +kernel, by decide +kernel⟩

/-- the parser on an empty text at end of input: no command (`Ok(None)`) -/
theorem parse_nothing (s : State) : parserOf s true [] = .none := by
  -- whatever the aliases: `lexAll [] true` has no tokens, `pList` on no tokens is `.ok [] []`, and `parseLine` answers
  -- `.none` for no commands at the end of the input
  simp [parserOf, parseLine, toChars, decodeGo, lexAll, lexGo, LState.endWord, pList, substAlias]

/-- ★ a read error of the command reader: once descriptor 0 — the script's descriptor — is closed
    (`closein`), nothing is left to read (`inp = []`, `inClosed`), the next iteration of the read-eval
    loop executes nothing and ends, and the shell's exit status is `ExitStatus::READ_ERROR` (generated
    constant): the commands read before have run, nothing after that command line is read -/
theorem read_error_ends_the_run (s : State) (name : String) (args : List String) (here : Option (List Char))
    (hsh : s.shared = true) (n : Nat) (log : List Iter) :
    (execUtil s .closein name args here).inp = []
    ∧ (execUtil s .closein name args here).inClosed = true
    ∧ (execUtil s .closein name args here).out = s.out
    ∧ (∀ t : State, t.inp = [] →
        (loop (n + 1) t log).2.1 = .eof ∧ (loop (n + 1) t log).1.out = t.out
        ∧ (t.inClosed = true → t.shared = true →
            exitStatus (loop (n + 1) t log).1 (loop (n + 1) t log).2.1 = Generated.InputConsts.CMD_READ_ERROR)) := by
  refine ⟨by rw [execUtil, execClose_shared hsh], by rw [execUtil, execClose_shared hsh],
    by rw [execUtil, execClose_shared hsh], ?_⟩
  intro t ht
  have hp : (pullOf t).res = .none := by
    simp only [pullOf, ht, pull_eof, parse_nothing]
  have hl : loop (n + 1) t log
      = ({ afterPull t with hitEof := t.hitEof || !(pullOf t).text.isEmpty }, .eof, log ++ [iterOf t]) := by
    simp only [loop, hp]
  rw [hl]
  refine ⟨rfl, rfl, ?_⟩
  intro h1 h2
  simp [exitStatus, readError, afterPull, h1, h2, Generated.InputConsts.CMD_READ_ERROR]

example : (execUtil (initState true [112, 10] []) .closein "closein" [] none).inp = [] := by decide

/-- ★ **the exit status at the end of an input is that of the last line that held a command, or 0 if no
    line did** (`read_eval_loop_impl`: `executed |= !command.0.is_empty()`, `if !executed { exit_status =
    SUCCESS }`).  For a nested loop (`eval`, `.`): a line without commands (`ok []`: blank, comment)
    leaves `$?`, the output and the `executed` flag as they are and goes on with the rest of the source;
    a line with commands sets the flag; at the end of the source `$?` is kept iff the flag is set, else
    0.  For the main input: a line without commands is an iteration that changes nothing but the cursor
    (and the echo), so `$?` at end of input is what the last command line left — 0 (the initial `$?`) if
    there was none. -/
theorem blank_lines_do_not_count (text : List Byte) (echoes executed : Bool) (k : List K) (s : State) :
    ((pull (parserOf s) (text.length + 1) [] text).res = .ok [] →
        (stepSrc text echoes executed k s).1
          = .src (pull (parserOf s) (text.length + 1) [] text).rest echoes executed :: k
        ∧ (stepSrc text echoes executed k s).2.status = s.status
        ∧ (stepSrc text echoes executed k s).2.out = s.out)
    ∧ (∀ c cs, (pull (parserOf s) (text.length + 1) [] text).res = .ok (c :: cs) →
        (stepSrc text echoes executed k s).1
          = cmds (c :: cs) ++ .src (pull (parserOf s) (text.length + 1) [] text).rest echoes true :: k)
    ∧ ((pull (parserOf s) (text.length + 1) [] text).res = .none →
        (stepSrc text echoes executed k s).1 = k
        ∧ (stepSrc text echoes executed k s).2.status = if executed then s.status else 0)
    ∧ (∀ n log, (pullOf s).res = .ok [] → s.aborted = false →
        loop (n + 1) s log = loop n (atExec s) (log ++ [iterOf s])
        ∧ (atExec s).status = s.status ∧ (atExec s).out = s.out) := by
  refine ⟨?_, ?_, ?_, ?_⟩
  · intro h
    simp [stepSrc, h, cmds]
  · intro c cs h
    simp [stepSrc, h]
  · intro h
    simp [stepSrc, h]
  · intro n log h ha
    have hr : runK execFuel (cmds []) (atExec s) = (atExec s, true) := by
      simp [execFuel, runK, cmds, step]
    exact ⟨by rw [loop_succ, iterate_inr.2 ⟨[], h, hr, ha⟩], rfl, rfl⟩

example : (pull (parserOf (initState true [] [])) 4 [] [35, 99, 10]).res matches .ok [] := by decide +kernel

theorem controlsJobs_inSubshell {k : List K} (s : State) (h : inSubshell k = true) : controlsJobs k s = false := by
  simp [controlsJobs, h]

/-- ★ an asynchronous command cannot take what follows on the shell's input: unless job control is in
    effect for it (`Env::controls_jobs`: `monitor` on **and** not inside a subshell — so never inside
    `( … )`, whatever `set -m` says: `controlsJobs_inSubshell`, of which the first clause is the case of a
    continuation that starts with the end of the subshell), `async_body` gives it /dev/null as standard
    input: the command starts with an empty stream on descriptor 0, the script cursor untouched, and the description the
    shell had is what the pending `undo` restores; combined with `script_cursor_after_command` /
    `stdin_restored_after_command` (which cover `.async` like every other command) the shell's descriptor
    and offset after it are those before plus what was read through the shell's own descriptor -/
theorem async_stdin_is_null (c : Cmd) (k : List K) (s : State) :
    (∀ sv k', controlsJobs (.restore sv :: k') s = false)
    ∧ (s.monitor = false → controlsJobs k s = false)
    ∧ (controlsJobs k s = false →
        ∃ sv, step (.cmd (.async c) :: k) s
            = some (.cmd c :: .undo [stdinDesc s] :: .restore sv :: .cmd (.simple [] none) :: k,
                    setDesc s { shared := false, data := [], pos := 0 })
          ∧ (setDesc s { shared := false, data := [], pos := 0 }).stdin = []
          ∧ (setDesc s { shared := false, data := [], pos := 0 }).inp = s.inp
          ∧ ∀ t, stdinDesc (undoIn [stdinDesc s] t) = stdinDesc s) := by
  refine ⟨fun sv k' => controlsJobs_inSubshell s rfl, fun h => by simp [controlsJobs, h], ?_⟩
  intro h
  exact ⟨{ vars := s.vars, aliases := s.aliases, verbose := s.verbose, portable := s.portable },
    by simp [step, h], rfl, rfl, fun t => rfl⟩

example : controlsJobs [] { initState true [] [] with monitor := true } = true := by decide
example : (step [.cmd (.async (.simple [] none)), .restore ⟨[], [], false, false⟩]
    { initState true [112, 10] [] with monitor := true }).map (·.2.stdin) = some [] := by decide

end YashModel.Input
