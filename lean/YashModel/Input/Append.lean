/-
  C18 — more input after the cursor (`State.app`): for a command (`frame_exec`), for what an iteration of the
  read-eval loop pulls and for the iteration itself (`pullOf_app`, `iterate_app`).
-/
import YashModel.Input.Iterate
import YashModel.Input.Reframe
import YashModel.Input.Pull
namespace YashModel.Input

def State.app (s : State) (S : List Byte) : State := { s with inp := s.inp ++ S }

@[simp] theorem app_shared (s : State) (S) : (s.app S).shared = s.shared := rfl
@[simp] theorem app_data (s : State) (S) : (s.app S).data = s.data := rfl
@[simp] theorem app_inp (s : State) (S) : (s.app S).inp = s.inp ++ S := rfl
@[simp] theorem app_out (s : State) (S) : (s.app S).out = s.out := rfl
@[simp] theorem app_hitEof (s : State) (S) : (s.app S).hitEof = s.hitEof := rfl
@[simp] theorem app_status (s : State) (S) : (s.app S).status = s.status := rfl
@[simp] theorem app_vars (s : State) (S) : (s.app S).vars = s.vars := rfl
@[simp] theorem app_echo (s : State) (S) : (s.app S).echo = s.echo := rfl
@[simp] theorem app_verbose (s : State) (S) : (s.app S).verbose = s.verbose := rfl
@[simp] theorem app_aborted (s : State) (S) : (s.app S).aborted = s.aborted := rfl

theorem execSimple_app (s : State) (fields : List String)
    (here : Option (List Char)) (S : List Byte) (h : (execSimple s fields here).hitEof = false) :
    execSimple (s.app S) fields here = (execSimple s fields here).app S := by
  cases fields with
  | nil => rfl
  | cons name args =>
    simp only [execSimple] at h ⊢
    generalize classify name = u at h ⊢
    rcases execUtil_reframe_or s u name args here with hr | ⟨hsh, rfl | ⟨rfl, rfl⟩ | rfl⟩
    · exact hr (· ++ S) id
    · -- `read` on the script with the ghost flag still clear: the delimiter was found, so the appended bytes
      -- were not reached
      simp only [execUtil] at h ⊢
      generalize (parseReadArgs args false 10).2.1 = d at h ⊢
      generalize (parseReadArgs args false 10).1 = raw at h ⊢
      rw [execRead_shared hsh] at h ⊢
      have hfound : (readLine d raw s.inp []).2.1 = .found := by simpa using (Bool.or_eq_false_iff.1 h).2
      have hr := readLine_append raw s.inp S [] (readLine d raw s.inp []).1 (readLine d raw s.inp []).2.2
        (by rw [← hfound])
      have hlen : (s.inp ++ S).length - ((readLine d raw s.inp []).2.2 ++ S).length
          = s.inp.length - (readLine d raw s.inp []).2.2.length := by
        simp only [List.length_append]; omega
      rw [execRead_shared (s := s.app S) hsh]
      simp only [State.app, hr, hlen]
      rw [hfound]
    · -- `cat` and `closein` on the script reach its end
      simp only [execUtil] at h; rw [execCat_shared hsh] at h; cases h
    · simp only [execUtil] at h; rw [execClose_shared hsh] at h; cases h

theorem step_app (k : List K) (s : State) (S : List Byte)
    (h : ∀ ws here k0, k = .cmd (.simple ws here) :: k0 →
      (stepSimple ws here k0 s).2.hitEof = false) :
    step k (s.app S) = (step k s).map (fun r => (r.1, r.2.app S)) := by
  rcases step_simple_or_reframe k s with ⟨ws, here, k0, rfl⟩ | ⟨-, hr⟩
  · simp only [step, Option.map]
    have h' := h ws here k0 rfl
    rw [stepSimple_of (s := s) (t := s.app S) rfl rfl]
    rw [stepSimple_of (s := s) (t := s) rfl rfl] at h' ⊢
    cases hn : nested (expandWords s.vars s.status ws) with
    | some r => rfl
    | none =>
      simp only [hn] at h' ⊢
      rw [execSimple_app _ _ _ _ h']
  · exact hr (· ++ S) id

/-- a command never depends on input it did not reach: with `S` appended after the cursor the
    execution is the same, `S` still after the cursor — unless a reader met the end of the input -/
theorem frame_exec (n : Nat) (k : List K) (s : State) (S : List Byte)
    (he : (runK n k s).1.hitEof = false) :
    runK n k (s.app S) = ((runK n k s).1.app S, (runK n k s).2) := by
  induction n generalizing k s with
  | zero => rfl
  | succ n ih =>
    simp only [runK] at he ⊢
    cases hst : step k s with
    | none =>
      rw [step_app, hst]
      · rfl
      · rintro ws here k0 rfl; simp [step] at hst
    | some r =>
      obtain ⟨k', s'⟩ := r
      simp only [hst] at he
      rw [step_app, hst]
      · exact ih k' s' he
      · rintro ws here k0 rfl
        simp only [step, Option.some.injEq] at hst
        rw [hst]; exact (runK_grows n k' s').hitEof_false he

theorem pullOf_app (s : State) (S : List Byte) (h : (pullOf s).sawEof = false) :
    pullOf (s.app S) = { pullOf s with rest := (pullOf s).rest ++ S } := by
  have hlen : (s.inp ++ S).length + 1 = s.inp.length + 1 + S.length := by
    simp only [List.length_append]; omega
  have hparser : parserOf (s.app S) = parserOf s := rfl
  simp only [pullOf, hparser, app_inp]
  rw [hlen]
  exact pull_append (parserOf s) (s.inp.length + 1) S.length [] s.inp S h

theorem iterate_app (s t : State) (S : List Byte) (h : iterate s = .inr t) (he : t.hitEof = false) :
    iterate (s.app S) = .inr (t.app S) := by
  obtain ⟨cs, hres, hrun, hab⟩ := iterate_inr.1 h
  -- the flag is clear after the command, so it was clear after the pull: neither reached the appended bytes
  have he' : (runK execFuel (cmds cs) (atExec s)).1.hitEof = false := by rw [hrun]; exact he
  have hsaw : (pullOf s).sawEof = false := by
    have := (runK_grows execFuel (cmds cs) (atExec s)).hitEof_false he'
    simp only [atExec, Bool.or_eq_false_iff] at this; exact this.2
  refine iterate_inr.2 ⟨cs, by rw [pullOf_app s S hsaw]; exact hres, ?_, hab⟩
  have hat : atExec (s.app S) = (atExec s).app S := by simp only [atExec, afterPull, pullOf_app s S hsaw]; rfl
  rw [hat, frame_exec execFuel (cmds cs) _ S he', hrun]

/-- an iteration that ends the run at end of input with the ghost flag clear pulled nothing: it left
    output and echo as they were -/
theorem iterate_eof (s sf : State) (h : iterate s = .inl (sf, .eof)) (he : sf.hitEof = false) :
    sf.out = s.out ∧ sf.echo = s.echo := by
  rcases iterate_inl h with ⟨_, _, rfl⟩ | ⟨ho, _⟩ | ⟨_, _, _, ⟨_, ho⟩ | ⟨_, ho⟩⟩
  · have hempty : (pullOf s).text = [] := by
      cases ht : (pullOf s).text with
      | nil => rfl
      | cons x xs => simp [ht] at he
    refine ⟨rfl, ?_⟩
    show echoOf s (pullOf s).text = s.echo
    rw [hempty]
    unfold echoOf
    split
    · exact List.append_nil _
    · rfl
  all_goals cases ho

end YashModel.Input
