/-
  C18 — the line reader `nextLine` against its reference description `splitLine`; a chunked source is read as the
  byte stream of its concatenation.
-/
import YashModel.Input.Spec
import YashModel.Common.Lists
namespace YashModel.Input
open YashModel.Common

/-- the reference description of a line: the shortest prefix ending with a newline, or everything -/
def splitLine : List Byte → List Byte × List Byte
  | [] => ([], [])
  | b :: rest => if b = NL then ([b], rest) else ((splitLine rest).1 |> (b :: ·), (splitLine rest).2)

theorem nextLineGo_eq (acc inp : List Byte) :
    nextLineGo acc inp = (acc ++ (splitLine inp).1, (splitLine inp).2) := by
  induction inp generalizing acc with
  | nil => simp [nextLineGo, splitLine]
  | cons b rest ih =>
    by_cases hb : b = NL
    · simp [nextLineGo, splitLine, hb]
    · simp [nextLineGo, splitLine, hb, ih]

theorem nextLine_eq (inp : List Byte) : nextLine inp = splitLine inp := by
  simp [nextLine, nextLineGo_eq]

/-- the line is the run of bytes other than NL together with the NL that stops it, if any -/
theorem splitLine_eq (inp : List Byte) : splitLine inp =
    (inp.takeWhile (· != NL) ++ (inp.dropWhile (· != NL)).take 1, (inp.dropWhile (· != NL)).drop 1) := by
  induction inp with
  | nil => rfl
  | cons b rest ih =>
    by_cases hb : b = NL
    · subst hb; rfl
    · have hp : (b != NL) = true := bne_iff_ne.2 hb
      rw [splitLine, if_neg hb, ih, List.takeWhile_cons_of_pos (p := (· != NL)) hp,
        List.dropWhile_cons_of_pos (p := (· != NL)) hp]; rfl

theorem splitLine_cases (inp : List Byte) :
    (splitLine inp = (inp.takeWhile (· != NL), []) ∨
      ∃ t, splitLine inp = (inp.takeWhile (· != NL) ++ [NL], t)) := by
  rw [splitLine_eq]
  cases h : inp.dropWhile (· != NL) with
  | nil => exact .inl (Prod.ext (List.append_nil _) rfl)
  | cons x t =>
    have := List.head?_dropWhile_not (· != NL) inp
    rw [h] at this
    obtain rfl : x = NL := bne_eq_false_iff_eq.1 this
    exact .inr ⟨t, rfl⟩

theorem splitLine_append (inp : List Byte) : (splitLine inp).1 ++ (splitLine inp).2 = inp := by
  rw [splitLine_eq, List.append_assoc, List.take_append_drop, List.takeWhile_append_dropWhile]

theorem splitLine_no_inner_nl (inp : List Byte) : NL ∉ (splitLine inp).1.dropLast := fun hm => by
  have hne : ¬ (NL != NL) = true := by decide
  rcases splitLine_cases inp with e | ⟨t, e⟩ <;> rw [e] at hm
  · exact hne (mem_takeWhile (p := (· != NL)) (List.dropLast_subset _ hm))
  · rw [List.dropLast_concat] at hm; exact hne (mem_takeWhile (p := (· != NL)) hm)

theorem splitLine_end (inp : List Byte) :
    (splitLine inp).2 = [] ∨ (splitLine inp).1.getLast? = some NL := by
  rcases splitLine_cases inp with e | ⟨t, e⟩ <;> rw [e]
  · exact .inl rfl
  · exact .inr (by simp)

theorem splitLine_unique (pre rest : List Byte) (h1 : pre.getLast? = some NL)
    (h2 : NL ∉ pre.dropLast) : splitLine (pre ++ rest) = (pre, rest) := by
  obtain ⟨e1, e2⟩ := takeWhile_ne_append NL pre.dropLast (NL :: rest) h2 (.inr rfl)
  rw [← dropLast_append_getLast h1, List.append_assoc, List.singleton_append, splitLine_eq, e1, e2]
  rfl

theorem splitLine_append_right (p S : List Byte) (h : (splitLine p).1.getLast? = some NL) :
    splitLine (p ++ S) = ((splitLine p).1, (splitLine p).2 ++ S) := by
  rw [← splitLine_unique _ ((splitLine p).2 ++ S) h (splitLine_no_inner_nl p), ← List.append_assoc, splitLine_append]

theorem splitLine_nil_iff (inp : List Byte) : (splitLine inp).1 = [] ↔ inp = [] := by
  cases inp with
  | nil => simp [splitLine]
  | cons b rest => by_cases hb : b = NL <;> simp [splitLine, hb]

theorem nextLine_nil_iff (inp : List Byte) : (nextLine inp).1 = [] ↔ inp = [] := by
  rw [nextLine_eq]; exact splitLine_nil_iff inp

theorem nextLine_rest_length {inp : List Byte} (h : inp ≠ []) : (nextLine inp).2.length < inp.length := by
  rw [nextLine_eq]
  have h1 := splitLine_append inp
  have h2 : (splitLine inp).1 ≠ [] := fun e => h ((splitLine_nil_iff inp).1 e)
  have h3 : 0 < (splitLine inp).1.length := List.length_pos_iff.mpr h2
  have : inp.length = (splitLine inp).1.length + (splitLine inp).2.length := by
    rw [← List.length_append, h1]
  omega

theorem endsNL_iff (l : List Byte) : endsNL l = true ↔ l.getLast? = some NL := by
  simp [endsNL]

theorem takeLines_append (k : Nat) (inp : List Byte) :
    (takeLines k inp).1 ++ (takeLines k inp).2 = inp := by
  induction k generalizing inp with
  | zero => rfl
  | succ k ih =>
    simp only [takeLines, List.append_assoc, ih]
    rw [nextLine_eq]; exact splitLine_append inp

theorem takeLines_succ_end (k : Nat) (inp : List Byte) :
    takeLines (k + 1) inp
      = ((takeLines k inp).1 ++ (nextLine (takeLines k inp).2).1, (nextLine (takeLines k inp).2).2) := by
  induction k generalizing inp with
  | zero => simp [takeLines]
  | succ k ih =>
    rw [takeLines]
    rw [ih (nextLine inp).2]
    simp [takeLines, List.append_assoc]

theorem read1_none (cs : List (List Byte)) : read1 cs = none ↔ cs.flatten = [] := by
  induction cs with
  | nil => simp [read1]
  | cons c cs ih => cases c <;> simp [read1, ih]

theorem read1_some (cs cs' : List (List Byte)) (b : Byte) (h : read1 cs = some (b, cs')) :
    cs.flatten = b :: cs'.flatten := by
  induction cs with
  | nil => simp [read1] at h
  | cons c cs ih =>
    cases c with
    | nil => simp only [read1] at h; simpa using ih h
    | cons x c => simp only [read1, Option.some.injEq, Prod.mk.injEq] at h; simp [← h.1, ← h.2]

theorem nextLineCGo_eq (acc : List Byte) (cs : List (List Byte)) :
    ((nextLineCGo acc cs).1, (nextLineCGo acc cs).2.flatten) = nextLineGo acc cs.flatten := by
  fun_induction nextLineCGo acc cs <;> simp_all [nextLineGo]

theorem nextLineC_eq (cs : List (List Byte)) :
    ((nextLineC cs).1, (nextLineC cs).2.flatten) = nextLine cs.flatten := by
  simpa [nextLineC, nextLine] using nextLineCGo_eq [] cs

theorem linesOfC_eq (n : Nat) (cs : List (List Byte)) : linesOfC n cs = linesOf n cs.flatten := by
  induction n generalizing cs with
  | zero => simp [linesOfC, linesOf]
  | succ n ih =>
    have h := nextLineC_eq cs
    simp only [linesOfC, linesOf]
    rw [← h]
    simp [ih]

end YashModel.Input
