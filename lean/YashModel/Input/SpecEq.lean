/-
  C18 — the machine is the line-granular reference reader of `Spec.lean`, up to the ghost flag.  `hitEof` (set by
  whatever meets the end of the input; read only by the hypotheses of the frame property, `frame_exec` and
  `prefix_monotone*`) never influences what the machine does: every operation commutes with erasing it
  (`State.erase`).  With `pull` = `specPull` (Pull.lean) this gives `loop` = `specLoop`.
-/
import YashModel.Input.Reframe
import YashModel.Input.Pull
namespace YashModel.Input

def State.erase (s : State) : State := { s with hitEof := false }

@[simp] theorem erase_erase (s : State) : s.erase.erase = s.erase := rfl

theorem erase_proj {α : Type} (g : State → α) (hg : ∀ s, g s.erase = g s) {s t : State}
    (h : s.erase = t.erase) : g s = g t := by
  rw [← hg s, ← hg t, h]

theorem execSimple_erase (s : State) (fields : List String) (here : Option (List Char)) :
    (execSimple s fields here).erase = (execSimple s.erase fields here).erase := by
  cases fields with
  | nil => rfl
  | cons name args =>
    simp only [execSimple]
    generalize classify name = u
    rcases execUtil_reframe_or s u name args here with hr | ⟨hsh, rfl | ⟨rfl, rfl⟩ | rfl⟩
    · rw [show execUtil s.erase u name args here = (execUtil s u name args here).erase from hr id fun _ => false]
      rfl
    -- a reader of the script sets the flag, it does not look at it
    · simp only [execUtil]; rw [execRead_shared hsh, execRead_shared (s := s.erase) hsh]; rfl
    · simp only [execUtil]; rw [execCat_shared hsh, execCat_shared (s := s.erase) hsh]; rfl
    · simp only [execUtil]; rw [execClose_shared hsh, execClose_shared (s := s.erase) hsh]; rfl

def eraseR (r : List K × State) : List K × State := (r.1, r.2.erase)

theorem step_erase (k : List K) (s : State) :
    (step k s).map eraseR = (step k s.erase).map eraseR := by
  rcases step_simple_or_reframe k s with ⟨ws, here, k0, rfl⟩ | ⟨-, hr⟩
  · simp only [step, Option.map]
    rw [stepSimple_of (s := s) (t := s.erase) rfl rfl, stepSimple_of (s := s) (t := s) rfl rfl]
    cases nested (expandWords s.vars s.status ws) with
    | some r => rfl
    | none => simp only [eraseR]; rw [execSimple_erase]
  · rw [show step k s.erase = _ from hr id fun _ => false]
    cases step k s <;> rfl

theorem runK_erase (n : Nat) (k : List K) (s t : State) (h : s.erase = t.erase) :
    (runK n k s).1.erase = (runK n k t).1.erase ∧ (runK n k s).2 = (runK n k t).2 := by
  induction n generalizing k s t with
  | zero => exact ⟨h, rfl⟩
  | succ n ih =>
    simp only [runK]
    have hs : (step k s).map eraseR = (step k t).map eraseR := by
      rw [step_erase k s, step_erase k t, h]
    cases h1 : step k s with
    | none =>
      cases h2 : step k t with
      | none => exact ⟨h, rfl⟩
      | some r => rw [h1, h2] at hs; cases hs
    | some r =>
      cases h2 : step k t with
      | none => rw [h1, h2] at hs; cases hs
      | some r' =>
        rw [h1, h2] at hs
        simp only [Option.map, Option.some.injEq, eraseR, Prod.mk.injEq] at hs
        simp only []
        rw [hs.1]
        exact ih r'.1 r.2 r'.2 hs.2

theorem specLoop_succ (n : Nat) (t : State) :
    specLoop (n + 1) t = match (pullOf t).res with
      | .none => (afterPull t, .eof)
      | .error => ({ afterPull t with status := 2 }, .syntaxError)
      | .incomplete => ({ afterPull t with status := 2 }, .syntaxError)
      | .ok cs =>
        if (runK execFuel (cmds cs) (afterPull t)).2 then
          (if (runK execFuel (cmds cs) (afterPull t)).1.aborted
           then ((runK execFuel (cmds cs) (afterPull t)).1, .syntaxError)
           else specLoop n (runK execFuel (cmds cs) (afterPull t)).1)
        else ((runK execFuel (cmds cs) (afterPull t)).1, .outOfFuel) := by
  rw [specLoop, ← pull_eq_specPull]
  rfl

theorem loop_eq_specLoop (n : Nat) (s t : State) (log : List Iter) (h : s.erase = t.erase) :
    (loop n s log).1.erase = (specLoop n t).1.erase ∧ (loop n s log).2.1 = (specLoop n t).2 := by
  induction n generalizing s t log with
  | zero => exact ⟨h, rfl⟩
  | succ n ih =>
    have hp : pullOf s = pullOf t := erase_proj pullOf (fun _ => rfl) h
    have ha : ∀ b, ({ afterPull s with hitEof := b } : State).erase = (afterPull t).erase :=
      fun _ => erase_proj (fun s => (afterPull s).erase) (fun _ => rfl) h
    rw [loop, specLoop_succ, hp]
    cases (pullOf t).res with
    | none => exact ⟨ha _, rfl⟩
    | error =>
      exact ⟨congrArg (fun x : State => ({ x with status := 2 } : State)) (ha (afterPull s).hitEof), rfl⟩
    | incomplete =>
      exact ⟨congrArg (fun x : State => ({ x with status := 2 } : State)) (ha (afterPull s).hitEof), rfl⟩
    | ok cs =>
      have hr := runK_erase execFuel (cmds cs) (atExec s) (afterPull t) (ha _)
      simp only []
      rw [← hr.2, ← erase_proj (·.aborted) (fun _ => rfl) hr.1]
      split
      · split
        · exact ⟨hr.1, rfl⟩
        · exact ih _ _ _ hr.1
      · exact ⟨hr.1, rfl⟩

end YashModel.Input
