/-
  C18 — standard input under redirections.  Descriptor 0 and the pending `undo_redirs` of the continuation
  form a stack of open file descriptions (`frames`, Steps.lean); `outerDesc`, `pending` and `Inside` are read
  off it.  Its bottom — the description descriptor 0 refers to once every pending undo has run — is never
  replaced, only read from ("when a command is over, standard input is again what it was"); everything above
  it is a stream of its own, so the script descriptor is not read from while descriptor 0 is redirected,
  and when the command is over its offset has advanced by exactly what was consumed through it.
-/
import YashModel.Input.Iterate
namespace YashModel.Input

/-- the description `d'` is the description `d`, possibly read from: same kind; for a stream of its own
    what is left is a suffix of what was there and the offset advanced by what was consumed -/
def Adv (d d' : SavedIn) : Prop :=
  d'.shared = d.shared ∧ ∃ pre, d.data = pre ++ d'.data ∧ (d.shared = false → d'.pos = d.pos + pre.length)

theorem Adv.refl (d : SavedIn) : Adv d d := ⟨rfl, [], by simp, fun _ => by simp⟩

theorem Adv.trans {a b c : SavedIn} (h1 : Adv a b) (h2 : Adv b c) : Adv a c := by
  obtain ⟨s1, p1, e1, q1⟩ := h1
  obtain ⟨s2, p2, e2, q2⟩ := h2
  refine ⟨s2.trans s1, p1 ++ p2, by rw [e1, e2, List.append_assoc], ?_⟩
  intro h
  have hb : b.shared = false := by rw [s1]; exact h
  rw [q2 hb, q1 h, List.length_append]; omega

/-- what descriptor 0 refers to after every pending `undo_redirs` of the continuation: each `undo`
    leaves the description its guard saved first (none saved: what is there) -/
def outerDesc : List K → SavedIn → SavedIn
  | [], d => d
  | .undo saved :: k, d => outerDesc k (saved.head?.getD d)
  | _ :: k, d => outerDesc k d

/-- whenever an `undo` with a saved description is pending, descriptor 0 refers to a target of a
    redirection — a stream of its own, never the script descriptor (`cur` = the `shared` flag of what
    descriptor 0 refers to at that level) -/
def Inside : List K → Bool → Prop
  | [], _ => True
  | .undo saved :: k, cur =>
    match saved.head? with
    | some d => cur = false ∧ Inside k d.shared
    | none => Inside k cur
  | _ :: k, cur => Inside k cur

/-- an `undo` with a saved description is pending -/
def pending : List K → Bool
  | [] => false
  | .undo saved :: k => saved.head?.isSome || pending k
  | _ :: k => pending k

/-- `Inside` holds after the step, and if descriptor 0 will finally be the script descriptor, the script
    cursor moved by exactly what the final offset moved -/
def CursorAdv (k : List K) (s : State) (k' : List K) (s' : State) : Prop :=
  Inside k' s'.shared
  ∧ ((outerDesc k (stdinDesc s)).shared = true →
      ∃ pre, s.inp = pre ++ s'.inp
        ∧ (outerDesc k' (stdinDesc s')).pos = (outerDesc k (stdinDesc s)).pos + pre.length)

/-- every description above the bottom of the stack is a stream of its own (`c`: the `shared` flag of the top) -/
def Unshared (c : Bool) : List SavedIn → Prop
  | [] => True
  | d :: l => c = false ∧ Unshared d.shared l

/-! ### the three read off the stack -/

/-- the bottom of the stack -/
theorem outerDesc_eq (k : List K) (d : SavedIn) : outerDesc k d = (frames k).getLast?.getD d := by
  fun_induction outerDesc k d with
  | case1 => rfl
  | case2 saved k d ih =>
    rw [ih, frames]
    cases saved.head? with
    | none => rfl
    | some x => simp [List.getLast?_cons]
  | case3 a k d hn ih => rw [ih, frames.eq_3 _ _ hn]

theorem pending_eq (k : List K) : pending k = !(frames k).isEmpty := by
  fun_induction pending k with
  | case1 => rfl
  | case2 saved k ih => rw [ih, frames]; cases saved.head? <;> rfl
  | case3 a k hn ih => rw [ih, frames.eq_3 _ _ hn]

theorem Inside_eq (k : List K) (c : Bool) : Inside k c = Unshared c (frames k) := by
  fun_induction Inside k c with
  | case1 => rfl
  | case2 cur saved k d hd ih => rw [frames, hd, ih]; rfl
  | case3 cur saved k hd ih => rw [frames, hd, ih]; rfl
  | case4 cur a k hn ih => rw [ih, frames.eq_3 _ _ hn]

theorem pending_cmds (l : List Cmd) (k : List K) : pending (cmds l ++ k) = pending k := by
  rw [pending_eq, pending_eq, frames_cmds]

/-! ### the bottom of the stack is only read from -/

theorem Ran.adv {s t : State} (h : Ran s t) : Adv (stdinDesc s) (stdinDesc t) := by
  obtain ⟨h1, hT, hF⟩ := h.cases
  refine ⟨h1, ?_⟩
  cases hsh : s.shared with
  | true => exact ⟨[], (hT hsh).1.symm, fun h' => by rw [show s.shared = false from h'] at hsh; cases hsh⟩
  | false => obtain ⟨_, pre, e, hp⟩ := hF hsh; exact ⟨pre, e, fun _ => hp⟩

/-- ★ one step of the machine never replaces the description descriptor 0 will finally refer to -/
theorem step_outer (k k' : List K) (s s' : State) (h : step k s = some (k', s')) :
    Adv (outerDesc k (stdinDesc s)) (outerDesc k' (stdinDesc s')) := by
  simp only [outerDesc_eq]
  cases step_stack h with
  | same hf hr =>
    rw [hf]
    -- what is read from is the bottom of the stack only if nothing is above it
    cases (frames k).getLast? with
    | none => exact hr.adv
    | some d => exact Adv.refl _
  | push d hf _ _ => rw [hf, List.getLast?_cons]; exact Adv.refl _
  | pop hf _ _ => rw [hf, List.getLast?_cons]; exact Adv.refl _

/-- a continuation run to its end: descriptor 0 refers to the description the pending undos lead to -/
theorem runK_outer (n : Nat) (k : List K) (s : State) (hfin : (runK n k s).2 = true) :
    Adv (outerDesc k (stdinDesc s)) (stdinDesc (runK n k s).1) := by
  obtain ⟨k', h1, h2⟩ := runK_rel (fun a b => Adv (outerDesc a.1 (stdinDesc a.2)) (outerDesc b.1 (stdinDesc b.2)))
    (fun _ => Adv.refl _) Adv.trans (step_outer _ _ _ _) n k s
  rw [h2 hfin] at h1; exact h1

/-- ★ **whatever the commands of a command line do — redirect standard input any number of times, on
    simple and compound commands, nested, in subshells, abandon a construct because `eval`/`.` met a
    syntax error — when they are over, standard input is the open file description it was before**,
    only read from: the same kind (`shared`: the script descriptor stays the script descriptor); for a
    stream of its own, what is left is a suffix of what was there and the offset advanced by exactly
    what was consumed.  (The general form for any continuation is `runK_outer`.) -/
theorem stdin_restored_after_command (n : Nat) (cs : List Cmd) (s : State)
    (hfin : (runK n (cmds cs) s).2 = true) :
    Adv (stdinDesc s) (stdinDesc (runK n (cmds cs) s).1) := by
  have h := runK_outer n (cmds cs) s hfin
  rwa [outerDesc_eq, frames_cmds_nil] at h

theorem afterPull_adv (s : State) (b : Bool) (st : Nat) :
    Adv (stdinDesc s) (stdinDesc ({ afterPull s with hitEof := b, status := st } : State)) := by
  refine ⟨rfl, [], by simp [afterPull, stdinDesc], ?_⟩
  intro hh
  have h' : s.shared = false := hh
  simp [afterPull, stdinDesc, h']

theorem iterate_stdin (s : State) :
    Adv (stdinDesc s) (stdinDesc (iterState (iterate s))) ∨ ∃ t, iterate s = .inl (t, .outOfFuel) := by
  have hrun : ∀ cs, (runK execFuel (cmds cs) (atExec s)).2 = true →
      Adv (stdinDesc s) (stdinDesc (runK execFuel (cmds cs) (atExec s)).1) := fun cs hfin =>
    (afterPull_adv s _ (afterPull s).status).trans (stdin_restored_after_command _ cs _ hfin)
  cases h : iterate s with
  | inr t =>
    obtain ⟨cs, _, e, _⟩ := iterate_inr.1 h
    have := hrun cs (by rw [e]); rw [e] at this; exact .inl this
  | inl r =>
    obtain ⟨t, o⟩ := r
    rcases iterate_inl h with ⟨_, _, rfl⟩ | ⟨_, rfl⟩ | ⟨cs, _, rfl, ⟨hfin, _⟩ | ⟨_, rfl⟩⟩
    · exact .inl (afterPull_adv s _ (afterPull s).status)
    · exact .inl (afterPull_adv s (afterPull s).hitEof 2)
    · exact .inl (hrun cs hfin)
    · exact .inr ⟨_, rfl⟩

theorem loop_stdin (n : Nat) (s : State) (log : List Iter) (h : (loop n s log).2.1 ≠ .outOfFuel) :
    Adv (stdinDesc s) (stdinDesc (loop n s log).1) := by
  induction n generalizing s log with
  | zero => simp [loop] at h
  | succ n ih =>
    rw [loop_succ] at h ⊢
    rcases iterate_stdin s with this | ⟨t, ht⟩
    · generalize iterate s = r at this h ⊢
      cases r with
      | inl r => exact this
      | inr t => exact this.trans (ih _ _ h)
    · rw [ht] at h; exact absurd rfl h

/-! ### the script cursor moves only with the bottom of the stack -/

/-- ★ one step of the machine keeps `Inside` and moves the script cursor with the bottom of the stack (`CursorAdv`) -/
theorem step_cursor (k k' : List K) (s s' : State) (h : step k s = some (k', s'))
    (hin : Inside k s.shared) : CursorAdv k s k' s' := by
  rw [Inside_eq] at hin
  simp only [CursorAdv, Inside_eq, outerDesc_eq]
  cases step_stack h with
  | same hf hr =>
    obtain ⟨h1, hT, hF⟩ := hr.cases
    rw [hf, h1]
    refine ⟨hin, fun hsh => ?_⟩
    -- the cursor moves iff nothing is above the bottom of the stack: otherwise the top is a stream of its own
    cases hfr : frames k with
    | nil => rw [hfr] at hsh; exact (hT hsh).2
    | cons d l => rw [hfr] at hin; exact ⟨[], by simp [(hF hin.1).1], by simp [List.getLast?_cons]⟩
  | push d hf hd hs =>
    rw [hf, show s'.shared = false from hs ▸ hd]
    exact ⟨⟨rfl, hin⟩, fun _ => ⟨[], by simp [hs, setDesc], by simp [List.getLast?_cons]⟩⟩
  | pop hf hi _ =>
    rw [hf] at hin ⊢
    exact ⟨hin.2, fun _ => ⟨[], by simp [hi], by simp [List.getLast?_cons]⟩⟩

theorem runK_cursor (n : Nat) (k : List K) (s : State) (hfin : (runK n k s).2 = true)
    (hin : Inside k s.shared) (hsh : (outerDesc k (stdinDesc s)).shared = true) :
    ∃ pre, s.inp = pre ++ (runK n k s).1.inp
      ∧ (runK n k s).1.pos = (outerDesc k (stdinDesc s)).pos + pre.length
      ∧ (runK n k s).1.shared = true := by
  -- from a configuration with `Inside` whose bottom is the script, the same holds later and the cursor moved with
  -- the bottom's offset
  obtain ⟨k', h1, h2⟩ := runK_rel
    (fun a b => Inside a.1 a.2.shared → (outerDesc a.1 (stdinDesc a.2)).shared = true →
      Inside b.1 b.2.shared ∧ (outerDesc b.1 (stdinDesc b.2)).shared = true ∧
      ∃ pre, a.2.inp = pre ++ b.2.inp ∧
        (outerDesc b.1 (stdinDesc b.2)).pos = (outerDesc a.1 (stdinDesc a.2)).pos + pre.length)
    (fun _ hi hs => ⟨hi, hs, [], by simp, by simp⟩)
    (fun hab hbc hi hs => by
      obtain ⟨hi', hs', p1, e1, f1⟩ := hab hi hs
      obtain ⟨hi'', hs'', p2, e2, f2⟩ := hbc hi' hs'
      exact ⟨hi'', hs'', p1 ++ p2, by rw [e1, e2, List.append_assoc], by rw [f2, f1, List.length_append]; omega⟩)
    (fun hst hi hs => by
      obtain ⟨hi', hc⟩ := step_cursor _ _ _ _ hst hi
      exact ⟨hi', by rw [(step_outer _ _ _ _ hst).1]; exact hs, hc hs⟩) n k s
  obtain ⟨_, hs', pre, e, f⟩ := h1 hin hsh
  rw [h2 hfin] at hs' f
  exact ⟨pre, e, f, hs'⟩

end YashModel.Input
