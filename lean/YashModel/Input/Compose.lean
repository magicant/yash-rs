/-
  C18 — the byte-level `read` of this area (one byte per read, UTF-8 assembly, escape flag) composed with
  the C01 model of the same built-in (`YashModel.Expansion`: `readInput` over characters, `readAssign`,
  both proved against their Specs there): on valid UTF-8 input the byte-level reader yields exactly what
  the character-level reader yields on the decoded input.
-/
import YashModel.Input.Utf8
import YashModel.Input.ReadLoop
import YashModel.Input.Spec
import YashModel.Expansion.Model
namespace YashModel.Input
open Expansion (readInput readQuoting readQuoted plainChar)

/-- a sequence accepted by `utf8Check` decodes to a Unicode scalar value (no surrogate, at most U+10FFFF) -/
theorem utf8_ok_valid (bs : List Byte) (code : Nat) (h : utf8Check bs = .ok code) : code.isValidChar :=
  (utf8Check_ok bs code h).1

theorem toNat_ofNat_valid (n : Nat) (h : n.isValidChar) : (Char.ofNat n).toNat = n := by
  simp [Char.ofNat, h, Char.toNat, Char.ofNatAux]

theorem ofNat_beq (code d : Nat) (hc : code.isValidChar) (hd : d < 128) :
    (Char.ofNat code == Char.ofNat d) = decide (code = d) := by
  have hdv : d.isValidChar := by unfold Nat.isValidChar; omega
  by_cases h : code = d
  · subst h; simp
  · have : Char.ofNat code ≠ Char.ofNat d := by
      intro e
      have := congrArg Char.toNat e
      rw [toNat_ofNat_valid code hc, toNat_ofNat_valid d hdv] at this
      exact h this
    simp [h, this]

/-- what the character-level reader does after an unquoted backslash (the inner `match` of
    `Expansion.readInput`) -/
def escCont (raw : Bool) (delim : Char) : List Char → List AChar × Bool
  | [] => ([readQuoting '\\'], false)
  | x :: r =>
    if x == '\n' then readInput raw delim r
    else (readQuoting '\\' :: readQuoted x :: (readInput raw delim r).1, (readInput raw delim r).2)

theorem readInput_cons (raw : Bool) (delim c : Char) (rest : List Char) :
    readInput raw delim (c :: rest) =
      if c == delim then ([], true)
      else if c == '\\' && !raw then escCont raw delim rest
      else (plainChar c :: (readInput raw delim rest).1, (readInput raw delim rest).2) := by
  cases rest <;> simp [readInput, escCont]

def statOf (found : Bool) : RStat := if found then .found else .eof

/-- what the character-level reader collects from `l`, started with the escape flag `esc` -/
def charsAfter (raw : Bool) (delim : Char) (esc : Bool) (l : List Char) : List AChar × Bool :=
  if esc then escCont raw delim l else readInput raw delim l

theorem charStep_chars (d : Nat) (hd : d < 128) (raw esc : Bool) (code : Nat) (hval : code.isValidChar)
    (acc : List AChar) (cs : List Char) :
    match charStep d raw esc code acc with
    | .inl st => st = .found ∧ charsAfter raw (Char.ofNat d) esc (Char.ofNat code :: cs) = ([], true)
    | .inr (e, ac) => ∃ pre, ac = acc ++ pre ∧
        charsAfter raw (Char.ofNat d) esc (Char.ofNat code :: cs)
          = (pre ++ (charsAfter raw (Char.ofNat d) e cs).1, (charsAfter raw (Char.ofNat d) e cs).2) := by
  have e10 : (Char.ofNat code == '\n') = decide (code = 10) := ofNat_beq code 10 hval (by decide)
  have e92 : (Char.ofNat code == '\\') = decide (code = 92) := ofNat_beq code 92 hval (by decide)
  have ed : (Char.ofNat code == Char.ofNat d) = decide (code = d) := ofNat_beq code d hval hd
  unfold charStep
  cases esc with
  | true =>
    simp only [if_true, charsAfter, escCont, e10, Bool.false_eq_true, if_false]
    by_cases hc : code = 10
    · exact ⟨[], by simp [hc], by simp [hc]⟩
    · exact ⟨[readQuoting '\\', readQuoted (Char.ofNat code)], by simp [hc], by simp [hc]⟩
  | false =>
    simp only [Bool.false_eq_true, if_false, charsAfter, readInput_cons, ed, e92]
    by_cases hc : code = d
    · simp [hc]
    · rw [if_neg hc]
      by_cases hbs : code = 92 ∧ (!raw) = true
      · rw [if_pos hbs]
        have h92 : ¬ 92 = d := fun e => hc (hbs.1.trans e)
        exact ⟨[], by simp, by simp [hbs.1, hbs.2, h92]⟩
      · rw [if_neg hbs]
        have h1 : (decide (code = 92) && !raw) = false := by
          cases hr : raw <;> simp_all
        exact ⟨[plainChar (Char.ofNat code)], rfl, by simp [hc, h1]⟩

/-- ★ on valid UTF-8 input the byte-level `read` (bytes read one at a time, characters assembled in a
    buffer, escape flag) and the C01 character-level `read` on the decoded input collect the same
    attributed characters and agree on whether the delimiter was found -/
theorem readLineGo_eq_readInput (d : Nat) (hd : d < 128) (raw : Bool) (p : List Byte) :
    ∀ (esc : Bool) (buf : List Byte) (acc : List AChar), validUtf8 buf p = true →
      (readLineGo d raw esc buf p acc).1 = acc ++ (charsAfter raw (Char.ofNat d) esc (decodeGo buf p)).1
      ∧ (readLineGo d raw esc buf p acc).2.1 = statOf (charsAfter raw (Char.ofNat d) esc (decodeGo buf p)).2 := by
  induction p with
  | nil =>
    intro esc buf acc hv
    have hb : buf = [] := by simpa [validUtf8] using hv
    subst hb
    cases esc <;> simp [readLineGo, decodeGo, charsAfter, escCont, readInput, statOf]
  | cons b t ih =>
    intro esc buf acc hv
    rw [readLineGo_cons, readStep]
    simp only [validUtf8, decodeGo] at hv ⊢
    cases hu : utf8Check (buf ++ [b]) with
    | more => simp only [hu] at hv ⊢; exact ih esc (buf ++ [b]) acc hv
    | bad => simp [hu] at hv
    | ok code =>
      simp only [hu] at hv ⊢
      have hc := charStep_chars d hd raw esc code (utf8_ok_valid _ code hu) acc (decodeGo [] t)
      revert hc
      cases charStep d raw esc code acc with
      | inl st =>
        rintro ⟨rfl, hc⟩
        simp [hc, statOf]
      | inr x =>
        rintro ⟨pre, hac, hc⟩
        obtain ⟨h1, h2⟩ := ih x.1 [] x.2 hv
        simp only [Sum.map_inr]
        rw [h1, h2, hc, hac]
        simp [List.append_assoc]

end YashModel.Input
