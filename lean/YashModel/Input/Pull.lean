/-
  C18 — what `pull` takes: whole lines, as few as the parser needs; it is the reference search `specPull` of
  Spec.lean; bytes after the pulled lines do not influence it unless it met the end of the input; over a chunked
  source it pulls the same.
-/
import YashModel.Input.Line
namespace YashModel.Input

/-! ### one unfolding of `pull` -/

theorem pull_eof (parse : Bool → List Byte → ParseRes) (n : Nat) (buf : List Byte) :
    pull parse (n + 1) buf [] = { text := buf, rest := [], res := parse true buf, sawEof := true } := by
  simp [pull, nextLine, nextLineGo]

theorem pull_more (parse : Bool → List Byte → ParseRes) (n : Nat) (buf : List Byte) {inp : List Byte}
    (hne : inp ≠ []) (hinc : (parse false (buf ++ (nextLine inp).1)).isIncomplete = true) :
    pull parse (n + 1) buf inp =
      { pull parse n (buf ++ (nextLine inp).1) (nextLine inp).2 with
        sawEof := (pull parse n (buf ++ (nextLine inp).1) (nextLine inp).2).sawEof || !endsNL (nextLine inp).1 } := by
  rw [pull, if_neg (mt (nextLine_nil_iff inp).1 hne), if_pos hinc]

theorem pull_done (parse : Bool → List Byte → ParseRes) (n : Nat) (buf : List Byte) {inp : List Byte}
    (hne : inp ≠ []) (hinc : (parse false (buf ++ (nextLine inp).1)).isIncomplete = false) :
    pull parse (n + 1) buf inp =
      { text := buf ++ (nextLine inp).1, rest := (nextLine inp).2, res := parse false (buf ++ (nextLine inp).1),
        sawEof := !endsNL (nextLine inp).1 } := by
  rw [pull, if_neg (mt (nextLine_nil_iff inp).1 hne), if_neg (by simp [hinc])]

theorem pull_spec (parse : Bool → List Byte → ParseRes) (n : Nat) (buf inp : List Byte)
    (hn : inp.length < n) :
    ∃ k, (pull parse n buf inp).text = buf ++ (takeLines k inp).1
      ∧ (pull parse n buf inp).rest = (takeLines k inp).2
      ∧ (∀ j, 0 < j → j < k → (parse false (buf ++ (takeLines j inp).1)).isIncomplete = true)
      ∧ ((0 < k ∧ (pull parse n buf inp).res = parse false (pull parse n buf inp).text
            ∧ (pull parse n buf inp).res.isIncomplete = false)
         ∨ ((pull parse n buf inp).rest = []
            ∧ (pull parse n buf inp).res = parse true (pull parse n buf inp).text)) := by
  induction n generalizing buf inp with
  | zero => omega
  | succ n ih =>
    by_cases hinp : inp = []
    · subst hinp; rw [pull_eof]; exact ⟨0, by simp [takeLines]⟩
    · have hlt := nextLine_rest_length hinp
      by_cases hinc : (parse false (buf ++ (nextLine inp).1)).isIncomplete = true
      · -- one more line is needed: the lines the rest of the pull takes, and this one
        rw [pull_more parse n buf hinp hinc]
        obtain ⟨k, h1, h2, h3, h4⟩ := ih (buf ++ (nextLine inp).1) (nextLine inp).2 (by omega)
        refine ⟨k + 1, ?_, ?_, ?_, ?_⟩
        · simp [takeLines, h1]
        · simp [takeLines, h2]
        · intro j hj0 hjk
          cases j with
          | zero => omega
          | succ j =>
            cases j with
            | zero => simpa [takeLines] using hinc
            | succ j =>
              have := h3 (j + 1) (by omega) (by omega)
              simpa [takeLines, List.append_assoc] using this
        · cases h4 with
          | inl h => exact Or.inl ⟨by omega, h.2.1, h.2.2⟩
          | inr h => exact Or.inr ⟨h.1, h.2⟩
      · rw [pull_done parse n buf hinp (by simpa using hinc)]
        refine ⟨1, by simp [takeLines], by simp [takeLines], fun j h0 h1 => by omega, Or.inl ⟨by omega, rfl, by simpa using hinc⟩⟩

theorem pull_append (parse : Bool → List Byte → ParseRes) (n m : Nat) (buf p S : List Byte)
    (h : (pull parse n buf p).sawEof = false) :
    pull parse (n + m) buf (p ++ S)
      = { pull parse n buf p with rest := (pull parse n buf p).rest ++ S } := by
  induction n generalizing buf p with
  | zero => simp [pull] at h
  | succ n ih =>
    rw [show n + 1 + m = (n + m) + 1 by omega]
    by_cases hp : p = []
    · subst hp; rw [pull_eof] at h; cases h
    · have hpS : p ++ S ≠ [] := by simp [hp]
      -- no end of input was seen: the line ends with its newline, so appending leaves it alone
      have hline : ∀ hnl : endsNL (nextLine p).1 = true, nextLine (p ++ S) = ((nextLine p).1, (nextLine p).2 ++ S) := by
        intro hnl
        simp only [nextLine_eq] at hnl ⊢
        exact splitLine_append_right p S ((endsNL_iff _).1 hnl)
      by_cases hinc : (parse false (buf ++ (nextLine p).1)).isIncomplete = true
      · rw [pull_more parse n buf hp hinc] at h ⊢
        simp only [Bool.or_eq_false_iff, Bool.not_eq_eq_eq_not, Bool.not_false] at h
        have e := hline h.2
        rw [pull_more parse (n + m) buf hpS (by rw [e]; exact hinc), e, ih _ _ h.1]
      · have hinc' : (parse false (buf ++ (nextLine p).1)).isIncomplete = false := by simpa using hinc
        rw [pull_done parse n buf hp hinc'] at h ⊢
        simp only [Bool.not_eq_eq_eq_not, Bool.not_false] at h
        have e := hline h
        rw [pull_done parse (n + m) buf hpS (by rw [e]; exact hinc'), e]

/-- `pull` from the state reached after `k` lines is the reference search from index `k + 1`.  `hk`: `specPull` tests
    `inp = []` for the whole input only and stops by itself once `(takeLines k inp).2 = []`, so `pull` can be compared with
    it only from a state in which it has not yet met the end of the input (or from the start). -/
theorem pull_eq_specPull_aux (parse : Bool → List Byte → ParseRes) (n : Nat) (orig : List Byte)
    (k : Nat) (hn : (takeLines k orig).2.length < n)
    (hk : k = 0 ∨ (takeLines k orig).2 ≠ []) :
    ((pull parse n (takeLines k orig).1 (takeLines k orig).2).text,
     (pull parse n (takeLines k orig).1 (takeLines k orig).2).rest,
     (pull parse n (takeLines k orig).1 (takeLines k orig).2).res)
      = specPull parse n (k + 1) orig := by
  induction n generalizing k with
  | zero => omega
  | succ n ih =>
    rw [specPull]
    have hsucc := takeLines_succ_end k orig
    by_cases hinp : (takeLines k orig).2 = []
    · have hk0 : k = 0 := hk.resolve_right fun h => h hinp
      subst hk0
      have horig : orig = [] := by simpa [takeLines] using hinp
      subst horig
      simp [takeLines, pull_eof]
    · have horig : orig ≠ [] := fun e =>
        hinp (List.append_eq_nil_iff.1 ((takeLines_append k orig).trans e)).2
      simp only [horig, if_false]
      rw [hsucc]
      simp only []
      by_cases hinc : (parse false ((takeLines k orig).1 ++ (nextLine (takeLines k orig).2).1)).isIncomplete = true
      · rw [pull_more parse n _ hinp hinc]
        simp only [hinc, Bool.not_true, Bool.false_eq_true, if_false]
        by_cases hrest : (nextLine (takeLines k orig).2).2 = []
        · simp only [hrest, if_true]
          -- the next pull meets the end of the input
          cases n with
          | zero => exact absurd (List.length_eq_zero_iff.mp (by omega)) hinp
          | succ m => rw [pull_eof]
        · simp only [hrest, if_false]
          have hlt := nextLine_rest_length hinp
          have := ih (k + 1) (by rw [hsucc]; simp only []; omega) (Or.inr (by rw [hsucc]; exact hrest))
          rw [hsucc] at this
          simpa using this
      · rw [pull_done parse n _ hinp (by simpa using hinc)]
        simp [hinc]

/-- ★ `pull` takes exactly what the reference reader takes: the fewest whole lines that are a complete
    command for the parser (or everything, at end of input) -/
theorem pull_eq_specPull (parse : Bool → List Byte → ParseRes) (inp : List Byte) :
    ((pull parse (inp.length + 1) [] inp).text, (pull parse (inp.length + 1) [] inp).rest,
     (pull parse (inp.length + 1) [] inp).res) = specPull parse (inp.length + 1) 1 inp := by
  have := pull_eq_specPull_aux parse (inp.length + 1) inp 0 (by simp [takeLines]) (Or.inl rfl)
  simpa [takeLines] using this

/-- a pull that ends with an empty text started with an empty lexer buffer (in a run that is the last iteration, where
    the parser answers `none` on the empty text: hence the name) -/
theorem pull_text_of_none (parse : Bool → List Byte → ParseRes) (n : Nat) (buf inp : List Byte)
    (h : (pull parse n buf inp).text = []) : buf = [] := by
  induction n generalizing buf inp with
  | zero => simpa [pull] using h
  | succ n ih =>
    by_cases hinp : inp = []
    · subst hinp; rw [pull_eof] at h; exact h
    · by_cases hinc : (parse false (buf ++ (nextLine inp).1)).isIncomplete = true
      · rw [pull_more parse n buf hinp hinc] at h
        exact (List.append_eq_nil_iff.1 (ih _ _ h)).1
      · rw [pull_done parse n buf hinp (by simpa using hinc)] at h
        exact (List.append_eq_nil_iff.1 h).1

theorem pullC_flat (parse : Bool → List Byte → ParseRes) (n : Nat) (buf : List Byte)
    (cs : List (List Byte)) : (pullC parse n buf cs).flat = pull parse n buf cs.flatten := by
  induction n generalizing buf cs with
  | zero => simp [pullC, pull, PulledC.flat]
  | succ n ih =>
    rw [pullC, pull, ← nextLineC_eq cs]
    simp only []
    by_cases h1 : (nextLineC cs).1 = []
    · simp [h1, PulledC.flat]
    · simp only [h1, if_false]
      by_cases h2 : (parse false (buf ++ (nextLineC cs).1)).isIncomplete = true
      · simp only [h2, if_true]
        rw [← ih]
        simp [PulledC.flat]
      · simp [h2, PulledC.flat]

end YashModel.Input
