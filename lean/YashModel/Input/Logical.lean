/-
  C18 — lemmas tying `read` (`readLineGo`, the transcription of `read/input.rs  read`: an escape flag
  and a character buffer) to the declarative Spec of `ReadSpec.lean` (shortest prefix that ends with
  the delimiter after an even number of backslashes).
-/
import YashModel.Input.Utf8
import YashModel.Input.ReadLoop
import YashModel.Input.ReadSpec
import YashModel.Common.Lists
namespace YashModel.Input

theorem trailingBs_nil : trailingBs [] = 0 := rfl

theorem trailingBs_snoc (l : List Byte) (b : Byte) :
    trailingBs (l ++ [b]) = if b = BS then trailingBs l + 1 else 0 := by
  unfold trailingBs
  by_cases h : b = BS
  · simp [h]
  · simp [h]

theorem logicalEnd_nil (d : Nat) (raw : Bool) : logicalEnd d raw [] = false := rfl

theorem logicalEnd_snoc (d : Nat) (raw : Bool) (l : List Byte) (b : Byte) :
    logicalEnd d raw (l ++ [b]) = (b.toNat == d && (raw || trailingBs l % 2 == 0)) := by
  simp [logicalEnd]

theorem logicalEnd_snoc_ne (d : Nat) (raw : Bool) (l : List Byte) (b : Byte) (h : b.toNat ≠ d) :
    logicalEnd d raw (l ++ [b]) = false := by
  simp [logicalEnd_snoc, h]

theorem logicalEnd_last (d : Nat) (raw : Bool) (pre : List Byte) (h : logicalEnd d raw pre = true) :
    ∃ bl, pre.getLast? = some bl ∧ bl.toNat = d := by
  unfold logicalEnd at h
  cases hl : pre.getLast? with
  | none => simp [hl] at h
  | some bl => exact ⟨bl, rfl, by simp [hl] at h; exact h.1⟩

theorem logicalEnd_raw_first (d : Nat) (pre : List Byte)
    (hmin : ∀ q s, q ++ s = pre → s ≠ [] → logicalEnd d true q = false) :
    ∀ x ∈ pre.dropLast, x.toNat ≠ d := by
  intro x hx e
  have hne : pre ≠ [] := by rintro rfl; simp at hx
  obtain ⟨l1, l2, h⟩ := List.append_of_mem hx
  have hp := List.dropLast_concat_getLast hne
  rw [h] at hp
  have := hmin (l1 ++ [x]) (l2 ++ [pre.getLast hne]) (by simpa using hp) (by simp)
  simp [logicalEnd_snoc, e] at this

theorem scanLogical_spec (d : Nat) (raw : Bool) (inp : List Byte) :
    ∀ hist : List Byte, match scanLogical d raw hist inp with
      | some (pre, rest) => ∃ w, w ≠ [] ∧ pre = hist ++ w ∧ w ++ rest = inp ∧ logicalEnd d raw pre = true ∧
          ∀ q s, q ++ s = w → s ≠ [] → q ≠ [] → logicalEnd d raw (hist ++ q) = false
      | none => ∀ q s, q ++ s = inp → q ≠ [] → logicalEnd d raw (hist ++ q) = false := by
  induction inp with
  | nil => intro hist q s hqs hq; exact absurd (List.append_eq_nil_iff.1 hqs).1 hq
  | cons b t ih =>
    intro hist
    rw [scanLogical]
    by_cases hl : logicalEnd d raw (hist ++ [b]) = true
    · rw [if_pos hl]
      refine ⟨[b], List.cons_ne_nil _ _, rfl, rfl, hl, fun q s hqs hs hq => ?_⟩
      cases q with
      | nil => exact absurd rfl hq
      | cons x q' => exact absurd (List.append_eq_nil_iff.1 (List.cons.inj hqs).2).2 hs
    · rw [if_neg hl]
      -- a non-empty prefix of `b :: m` is `[b]`, or `b` and a non-empty prefix of `m`
      have step : ∀ {m q s : List Byte}, q ++ s = b :: m → q ≠ [] →
          (∀ q', q' ++ s = m → q' ≠ [] → logicalEnd d raw (hist ++ [b] ++ q') = false) →
          logicalEnd d raw (hist ++ q) = false := by
        intro m q s hqs hq h
        cases q with
        | nil => exact absurd rfl hq
        | cons x q' =>
          rw [List.cons_append, List.cons.injEq] at hqs
          rw [hqs.1]
          by_cases hq' : q' = []
          · subst hq'; exact Bool.eq_false_iff.2 hl
          · rw [← List.singleton_append, ← List.append_assoc]; exact h q' hqs.2 hq'
      have := ih (hist ++ [b])
      revert this
      cases scanLogical d raw (hist ++ [b]) t with
      | none => exact fun h q s hqs hq => step hqs hq fun q' e => h q' s e
      | some r =>
        rintro ⟨w, _, h1, h2, h3, h4⟩
        exact ⟨b :: w, List.cons_ne_nil _ _, by rw [h1, List.append_assoc]; rfl, congrArg (b :: ·) h2, h3,
          fun q s hqs hs hq => step hqs hq fun q' e => h4 q' s e hs⟩

theorem scanLogical_some (d : Nat) (raw : Bool) (inp hist pre rest : List Byte)
    (h : scanLogical d raw hist inp = some (pre, rest)) :
    ∃ w, w ≠ [] ∧ pre = hist ++ w ∧ w ++ rest = inp ∧ logicalEnd d raw pre = true ∧
      ∀ q s, q ++ s = w → s ≠ [] → q ≠ [] → logicalEnd d raw (hist ++ q) = false := by
  have := scanLogical_spec d raw inp hist; rwa [h] at this

theorem scanLogical_none (d : Nat) (raw : Bool) (inp hist : List Byte) (h : scanLogical d raw hist inp = none) :
    ∀ q s, q ++ s = inp → q ≠ [] → logicalEnd d raw (hist ++ q) = false := by
  have := scanLogical_spec d raw inp hist; rwa [h] at this

theorem scanLogical_suffix {d : Nat} {raw : Bool} {b : Byte} {t hist pre rest : List Byte}
    (h : scanLogical d raw hist (b :: t) = some (pre, rest)) : ∃ m, t = m ++ rest := by
  obtain ⟨w, hw, _, h2, _⟩ := scanLogical_some d raw _ _ _ _ h
  cases w with
  | nil => exact absurd rfl hw
  | cons x m => exact ⟨m, (List.cons.inj h2).2.symm⟩

theorem scanLogical_append (d : Nat) (raw : Bool) (u : List Byte) :
    ∀ (hist rest : List Byte), (∀ q s, q ++ s = u → q ≠ [] → logicalEnd d raw (hist ++ q) = false) →
      scanLogical d raw hist (u ++ rest) = scanLogical d raw (hist ++ u) rest := by
  induction u with
  | nil => intro hist rest _; simp
  | cons b u' ih =>
    intro hist rest h
    rw [List.cons_append, scanLogical, h [b] u' rfl (by simp), if_neg (by simp),
      ih (hist ++ [b]) rest fun q s hqs hq => by
        simpa [List.append_assoc] using h (b :: q) s (by simp [hqs]) (by simp)]
    simp [List.append_assoc]

theorem scanLogical_unique (d : Nat) (raw : Bool) (w hist rest : List Byte) (hw : w ≠ [])
    (hend : logicalEnd d raw (hist ++ w) = true)
    (hmin : ∀ q s, q ++ s = w → s ≠ [] → q ≠ [] → logicalEnd d raw (hist ++ q) = false) :
    scanLogical d raw hist (w ++ rest) = some (hist ++ w, rest) := by
  -- the scan passes all of `w` but its last byte, and stops there
  obtain ⟨u, b, rfl⟩ : ∃ u b, w = u ++ [b] := ⟨_, _, (List.dropLast_concat_getLast hw).symm⟩
  rw [List.append_assoc, scanLogical_append d raw u hist _ fun q s hqs hq =>
    hmin q (s ++ [b]) (by rw [← List.append_assoc, hqs]) (by simp) hq]
  simp [scanLogical, hend]

theorem scanLogical_skip (d : Nat) (raw : Bool) (u hist rest : List Byte) (hu : ∀ x ∈ u, x.toNat ≠ d) :
    scanLogical d raw hist (u ++ rest) = scanLogical d raw (hist ++ u) rest := by
  refine scanLogical_append d raw u hist rest fun q s hqs hq => ?_
  rw [← List.dropLast_concat_getLast hq, ← List.append_assoc]
  exact logicalEnd_snoc_ne d raw _ _ (hu _ (hqs ▸ List.mem_append_left s (List.getLast_mem hq)))

/-- what the escape flag of `read/input.rs  read` must be after the bytes `hist` (no character being
    assembled): the previous character was an unquoted backslash -/
def escAfter (raw : Bool) (hist : List Byte) : Bool := !raw && trailingBs hist % 2 == 1

/-- `r` (a result of `readLineGo` on `p`, with `hist` consumed before in the same logical line) agrees
    with the Spec's scan -/
def AgreesWithScan (d : Nat) (raw : Bool) (hist buf p : List Byte)
    (r : List AChar × RStat × List Byte) : Prop :=
  (r.2.1 = .found → ∃ pre, pre ++ r.2.2 = p ∧ scanLogical d raw hist p = some (hist ++ pre, r.2.2)) ∧
  (r.2.1 = .eof → scanLogical d raw hist p = none ∧ r.2.2 = []) ∧
  (r.2.1 = .err → validUtf8 buf p = false ∧
     ∀ pre' rest', scanLogical d raw hist p = some (pre', rest') → ∃ m, r.2.2 = m ++ rest')

theorem logicalEnd_snoc_esc (d : Nat) (raw : Bool) (hist : List Byte) (b : Byte) :
    logicalEnd d raw (hist ++ [b]) = (b.toNat == d && !escAfter raw hist) := by
  rw [logicalEnd_snoc]; unfold escAfter
  cases raw <;> rcases Nat.mod_two_eq_zero_or_one (trailingBs hist) with h | h <;> simp [h]

theorem escAfter_snoc (raw : Bool) (hist : List Byte) (b : Byte) :
    escAfter raw (hist ++ [b]) = (!raw && b == BS && !escAfter raw hist) := by
  unfold escAfter; rw [trailingBs_snoc]
  cases raw
  · by_cases hb : b = BS
    · rcases Nat.mod_two_eq_zero_or_one (trailingBs hist) with h | h <;> simp [hb, h, Nat.add_mod]
    · simp [hb]
  · rfl

/-- a byte that is part of a multi-byte character is neither delimiter nor backslash -/
theorem big_byte_logical (d : Nat) (hd : d < 128) (raw : Bool) (hist : List Byte) (b : Byte) (hge : 0x80 ≤ b.toNat) :
    logicalEnd d raw (hist ++ [b]) = false ∧ escAfter raw (hist ++ [b]) = false := by
  have hb : b ≠ BS := fun e => by have : b.toNat = 92 := congrArg UInt8.toNat e; omega
  exact ⟨logicalEnd_snoc_ne d raw hist b (by omega), by simp [escAfter_snoc, hb]⟩

/-- one character of `read`'s loop against the Spec, `b` being the byte that completes it: an ASCII character is its
    own byte, and then `esc` is the flag after `hist`; the last byte of a longer one is ≥ 0x80 -/
theorem charStep_logical (d : Nat) (hd : d < 128) (raw esc : Bool) (hist : List Byte) (b : Byte) (code : Nat)
    (acc : List AChar)
    (h : (code = b.toNat ∧ code < 0x80 ∧ esc = escAfter raw hist) ∨ (0x80 ≤ code ∧ 0x80 ≤ b.toNat)) :
    match charStep d raw esc code acc with
    | .inl st => st = .found ∧ logicalEnd d raw (hist ++ [b]) = true
    | .inr (e, _) => logicalEnd d raw (hist ++ [b]) = false ∧ e = escAfter raw (hist ++ [b]) := by
  unfold charStep
  rcases h with ⟨hcode, hlt, hE⟩ | ⟨hcode, hge⟩
  · -- `esc` is the flag after `hist`, so the two equations for `hist ++ [b]` say where the line ends and what the
    -- next flag is
    have hbs : b = BS ↔ code = 92 := by rw [← UInt8.toNat_inj]; show b.toNat = 92 ↔ _; omega
    have hl := logicalEnd_snoc_esc d raw hist b
    have hn := escAfter_snoc raw hist b
    rw [← hE] at hl hn
    cases esc with
    | true =>
      simp only [Bool.not_true, Bool.and_false] at hl hn
      exact ⟨hl, hn.symm⟩
    | false =>
      simp only [Bool.false_eq_true, if_false]
      by_cases hc : code = d
      · rw [if_pos hc]
        exact ⟨rfl, by rw [hl]; simp; omega⟩
      · rw [if_neg hc]
        have hl' := logicalEnd_snoc_ne d raw hist b (by omega)
        by_cases hb : code = 92 ∧ (!raw) = true
        · rw [if_pos hb]
          exact ⟨hl', by rw [hn, hb.2, (hbs.2 hb.1)]; rfl⟩
        · rw [if_neg hb]
          refine ⟨hl', ?_⟩
          rw [hn]
          cases raw with
          | true => rfl
          | false =>
            have : b ≠ BS := fun e => hb ⟨hbs.1 e, rfl⟩
            simp [this]
  · have hc : code ≠ d := by omega
    have hb : ¬ (code = 92 ∧ (!raw) = true) := by intro h; omega
    have big := big_byte_logical d hd raw hist b hge
    cases esc with
    | true => exact ⟨big.1, big.2.symm⟩
    | false =>
      simp only [Bool.false_eq_true, if_false, hc, hb]
      exact ⟨big.1, big.2.symm⟩

/-- one byte of `read`'s loop against the Spec; `esc` is the flag after `hist` whenever no character is
    being assembled -/
theorem readStep_logical (d : Nat) (hd : d < 128) (raw esc : Bool) (buf hist : List Byte) (b : Byte)
    (acc : List AChar) (hinv : buf = [] → esc = escAfter raw hist) :
    match readStep d raw esc buf b acc with
    | .inl st => st = .found ∧ logicalEnd d raw (hist ++ [b]) = true
        ∨ st = .err ∧ utf8Check (buf ++ [b]) = .bad
    | .inr (e, bf, _) => logicalEnd d raw (hist ++ [b]) = false
        ∧ (bf = [] → e = escAfter raw (hist ++ [b]))
        ∧ ∀ t, validUtf8 buf (b :: t) = validUtf8 bf t := by
  unfold readStep
  cases hu : utf8Check (buf ++ [b]) with
  | more =>
    exact ⟨(big_byte_logical d hd raw hist b ((utf8Check_more _ hu).2 b (by simp))).1, by simp,
      fun t => by simp [validUtf8, hu]⟩
  | bad => exact .inr ⟨rfl, rfl⟩
  | ok code =>
    have hv : ∀ t, validUtf8 buf (b :: t) = validUtf8 [] t := fun t => by simp [validUtf8, hu]
    have hc := charStep_logical d hd raw esc hist b code acc (by
      rcases utf8_ok_last buf b code hu with ⟨rfl, h1, h2⟩ | ⟨_, h1, h2⟩
      · exact .inl ⟨h1, h2, hinv rfl⟩
      · exact .inr ⟨h1, h2⟩)
    simp only []
    revert hc
    cases charStep d raw esc code acc with
    | inl st => exact fun hc => .inl hc
    | inr x => exact fun hc => ⟨hc.1, fun _ => hc.2, hv⟩

/-- ★ the core: `read`'s loop, started after `hist` with its escape flag equal to the parity of the
    backslashes at the end of `hist`, stops exactly where the Spec's scan stops -/
theorem readLineGo_logical (d : Nat) (hd : d < 128) (raw : Bool) (p : List Byte) :
    ∀ (esc : Bool) (buf hist : List Byte) (acc : List AChar),
      (buf = [] → esc = escAfter raw hist) →
      AgreesWithScan d raw hist buf p (readLineGo d raw esc buf p acc) := by
  induction p with
  | nil =>
    intro esc buf hist acc _
    by_cases hb : buf = [] <;> simp [AgreesWithScan, readLineGo, hb, scanLogical, validUtf8]
  | cons b t ih =>
    intro esc buf hist acc hinv
    have hs := readStep_logical d hd raw esc buf hist b acc hinv
    rw [readLineGo_cons]
    generalize readStep d raw esc buf b acc = r at hs
    rcases r with st | ⟨e, bf, ac⟩
    · rcases hs with ⟨rfl, hl⟩ | ⟨rfl, hu⟩
      · exact ⟨fun _ => ⟨[b], by simp, by simp [scanLogical, hl]⟩, by simp, by simp⟩
      · refine ⟨by simp, by simp, fun _ => ⟨by simp [validUtf8, hu], ?_⟩⟩
        exact fun pre' rest' hs => scanLogical_suffix hs
    · -- a byte that does not end the line moves from `p` to `hist`
      have hs' : scanLogical d raw hist (b :: t) = scanLogical d raw (hist ++ [b]) t := by
        simp [scanLogical, hs.1]
      obtain ⟨h1, h2, h3⟩ := ih e bf (hist ++ [b]) ac hs.2.1
      refine ⟨?_, ?_, ?_⟩
      · intro hf
        obtain ⟨pre, e1, e2⟩ := h1 hf
        exact ⟨b :: pre, by simp [e1], by rw [hs', e2]; simp [List.append_assoc]⟩
      · intro he; rw [hs']; exact h2 he
      · intro he; rw [hs', hs.2.2 t]; exact h3 he

theorem readLine_logical (d : Nat) (hd : d < 128) (raw : Bool) (inp : List Byte) :
    AgreesWithScan d raw [] [] inp (readLine d raw inp []) :=
  readLineGo_logical d hd raw inp false [] [] [] (fun _ => by simp [escAfter, trailingBs_nil])

theorem firstLogicalLine_some {d : Nat} {raw : Bool} {inp pre rest : List Byte}
    (h : firstLogicalLine d raw inp = some (pre, rest)) :
    pre ++ rest = inp ∧ logicalEnd d raw pre = true ∧
      ∀ q s, q ++ s = pre → s ≠ [] → logicalEnd d raw q = false := by
  obtain ⟨w, _, h1, h2, h3, h4⟩ := scanLogical_some d raw inp [] pre rest h
  simp only [List.nil_append] at h1 h4
  subst h1
  refine ⟨h2, h3, fun q s hqs hs => ?_⟩
  by_cases hq : q = []
  · subst hq; exact logicalEnd_nil d raw
  · exact h4 q s hqs hs hq

theorem trailingBs_replicate (w : List Byte) (hw : w.getLast? ≠ some BS) (k : Nat) :
    trailingBs (w ++ List.replicate k BS) = k := by
  rw [trailingBs, List.reverse_append, List.reverse_replicate, Common.takeWhile_run
    (fun x hx => beq_iff_eq.2 (List.eq_of_mem_replicate hx))
    (fun x hx => beq_eq_false_iff_ne.2 fun e => hw (by rw [← List.head?_reverse, hx, e])), List.length_replicate]

theorem validUtf8_ascii (v : List Byte) (hv : ∀ x ∈ v, x.toNat < 128) : validUtf8 [] v = true := by
  induction v with
  | nil => rfl
  | cons x v' ih =>
    have hx : x.toNat < 0x80 := hv x (by simp)
    simp only [validUtf8, List.nil_append, utf8Check_ascii hx]
    exact ih (fun y hy => hv y (by simp [hy]))

theorem validUtf8_append_ascii (w v : List Byte) (hv : ∀ x ∈ v, x.toNat < 128) :
    ∀ buf, validUtf8 buf w = true → validUtf8 buf (w ++ v) = true := by
  induction w with
  | nil =>
    intro buf h
    have : buf = [] := by simpa [validUtf8] using h
    subst this
    simpa using validUtf8_ascii v hv
  | cons b t ih =>
    intro buf h
    simp only [validUtf8, List.cons_append] at h ⊢
    cases hu : utf8Check (buf ++ [b]) with
    | ok c => simp only [hu] at h ⊢; exact ih _ h
    | more => simp only [hu] at h ⊢; exact ih _ h
    | bad => simp [hu] at h

end YashModel.Input
