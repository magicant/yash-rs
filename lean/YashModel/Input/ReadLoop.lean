/-
  C18 — the loops of the `read` built-in, one byte at a time: they consume a prefix of the stream, bytes after a
  delimiter that was found do not influence the result, and over a chunked source they are the loops over the
  concatenation.
-/
import YashModel.Input.Model
namespace YashModel.Input

/-- one character of `read`'s loop (`code`: the character just assembled) -/
def charStep (d : Nat) (raw esc : Bool) (code : Nat) (acc : List AChar) : RStat ⊕ (Bool × List AChar) :=
  if esc then
    .inr (false, if code = 10 then acc
      else acc ++ [Expansion.readQuoting '\\', Expansion.readQuoted (Char.ofNat code)])
  else if code = d then .inl .found
  else if code = 92 ∧ !raw then .inr (true, acc)
  else .inr (false, acc ++ [Expansion.plainChar (Char.ofNat code)])

/-- one byte of `read`'s loop: UTF-8 assembly, then `charStep` on a complete character -/
def readStep (d : Nat) (raw esc : Bool) (buf : List Byte) (b : Byte) (acc : List AChar) :
    RStat ⊕ (Bool × List Byte × List AChar) :=
  match utf8Check (buf ++ [b]) with
  | .more => .inr (esc, buf ++ [b], acc)
  | .bad => .inl .err
  | .ok code => (charStep d raw esc code acc).map id fun x => (x.1, [], x.2)

theorem readLineGo_cons (d : Nat) (raw esc : Bool) (buf : List Byte) (b : Byte) (rest : List Byte)
    (acc : List AChar) :
    readLineGo d raw esc buf (b :: rest) acc =
      match readStep d raw esc buf b acc with
      | .inl st => (acc, st, rest)
      | .inr (e, bf, ac) => readLineGo d raw e bf rest ac := by
  rw [readLineGo, readStep]
  cases utf8Check (buf ++ [b]) with
  | more => rfl
  | bad => rfl
  | ok code =>
    simp only [charStep]
    cases esc with
    | true => by_cases hc : code = 10 <;> simp only [hc, if_true, if_false] <;> rfl
    | false =>
      simp only [Bool.false_eq_true, if_false]
      by_cases hc : code = d
      · rw [if_pos hc, if_pos hc]; rfl
      · rw [if_neg hc, if_neg hc]
        by_cases hb : code = 92 ∧ (!raw) = true
        · rw [if_pos hb, if_pos hb]; rfl
        · rw [if_neg hb, if_neg hb]; rfl

theorem readLineGo_append (raw esc : Bool) (buf p S : List Byte) (acc cs : List AChar)
    (r : List Byte) (h : readLineGo d raw esc buf p acc = (cs, .found, r)) :
    readLineGo d raw esc buf (p ++ S) acc = (cs, .found, r ++ S) := by
  induction p generalizing esc buf acc with
  | nil => by_cases hb : buf = [] <;> simp [readLineGo, hb] at h
  | cons b rest ih =>
    rw [List.cons_append, readLineGo_cons]
    rw [readLineGo_cons] at h
    generalize readStep d raw esc buf b acc = x at h ⊢
    cases x with
    | inl st => simp only [Prod.mk.injEq] at h ⊢; simp [h]
    | inr x => exact ih _ _ _ h

theorem readLine_append (raw : Bool) (p S : List Byte) (acc cs : List AChar) (r : List Byte)
    (h : readLine d raw p acc = (cs, .found, r)) :
    readLine d raw (p ++ S) acc = (cs, .found, r ++ S) := readLineGo_append raw false [] p S acc cs r h

theorem readLineGo_suffix (raw esc : Bool) (buf p : List Byte) (acc : List AChar) :
    ∃ pre, pre ++ (readLineGo d raw esc buf p acc).2.2 = p := by
  induction p generalizing esc buf acc with
  | nil => exact ⟨[], by simp [readLineGo]⟩
  | cons b rest ih =>
    rw [readLineGo_cons]
    cases readStep d raw esc buf b acc with
    | inl st => exact ⟨[b], rfl⟩
    | inr x => obtain ⟨pre, hp⟩ := ih x.1 x.2.1 x.2.2; exact ⟨b :: pre, by simp [hp]⟩

theorem readLine_suffix (raw : Bool) (p : List Byte) (acc : List AChar) :
    ∃ pre, pre ++ (readLine d raw p acc).2.2 = p := readLineGo_suffix raw false [] p acc

theorem readCharGo_exact (buf inp : List Byte) (code : Nat) (rest : List Byte)
    (h : readCharGo buf inp = (.char code, rest)) :
    ∃ pre, pre ≠ [] ∧ pre ++ rest = inp ∧ utf8Check (buf ++ pre) = .ok code := by
  induction inp generalizing buf with
  | nil => by_cases hb : buf = [] <;> simp [readCharGo, hb] at h
  | cons b t ih =>
    simp only [readCharGo] at h
    cases hu : utf8Check (buf ++ [b]) with
    | ok c =>
      simp only [hu, Prod.mk.injEq, RC.char.injEq] at h
      exact ⟨[b], by simp, by simp [h.2], by rw [hu, h.1]⟩
    | more =>
      simp only [hu] at h
      obtain ⟨pre, h1, h2, h3⟩ := ih _ h
      exact ⟨b :: pre, by simp, by simp [h2], by simpa using h3⟩
    | bad => simp [hu] at h

theorem readCharCGo_eq (buf : List Byte) (cs : List (List Byte)) :
    ((readCharCGo buf cs).1, (readCharCGo buf cs).2.flatten) = readCharGo buf cs.flatten := by
  fun_induction readCharCGo buf cs <;> simp_all [readCharGo]

theorem readLineCGo_eq (d : Nat) (raw esc : Bool) (buf : List Byte) (cs : List (List Byte))
    (acc : List AChar) :
    ((readLineCGo d raw esc buf cs acc).1, (readLineCGo d raw esc buf cs acc).2.1,
      (readLineCGo d raw esc buf cs acc).2.2.flatten) = readLineGo d raw esc buf cs.flatten acc := by
  fun_induction readLineCGo d raw esc buf cs acc <;> simp_all [readLineGo]

end YashModel.Input
