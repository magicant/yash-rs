/-
  C18 — what a utility does.  `hitEof` is sticky and standard output and the verbose echo only grow (`Grows`); a
  utility consumes a prefix of standard input and does nothing else to the descriptors (`Ran`).
-/
import YashModel.Input.ReadLoop
import YashModel.Input.Descriptor
namespace YashModel.Input

/-- `t` extends `s`: same or more output and verbose echo, an end of input once seen stays seen, and the blocking
    mode of standard input is the same (no operation of the machine writes `nonblock`) -/
def Grows (s t : State) : Prop :=
  (∃ o, t.out = o ++ s.out) ∧ (s.hitEof = true → t.hitEof = true) ∧ (∃ e, t.echo = s.echo ++ e)
    ∧ t.nonblock = s.nonblock

theorem Grows.refl (s : State) : Grows s s := ⟨⟨[], rfl⟩, id, ⟨[], by simp⟩, rfl⟩

theorem Grows.trans {a b c : State} (h1 : Grows a b) (h2 : Grows b c) : Grows a c := by
  obtain ⟨⟨o1, e1⟩, k1, ⟨x1, y1⟩, n1⟩ := h1
  obtain ⟨⟨o2, e2⟩, k2, ⟨x2, y2⟩, n2⟩ := h2
  exact ⟨⟨o2 ++ o1, by rw [e2, e1, List.append_assoc]⟩, fun h => k2 (k1 h),
    ⟨x1 ++ x2, by rw [y2, y1, List.append_assoc]⟩, n2.trans n1⟩

theorem Grows.hitEof_false {s t : State} (h : Grows s t) (ht : t.hitEof = false) : s.hitEof = false := by
  cases hs : s.hitEof with
  | false => rfl
  | true => rw [h.2.1 hs] at ht; cases ht

theorem grows_of_eq {s t : State} (ho : t.out = s.out) (he : t.hitEof = s.hitEof)
    (hc : t.echo = s.echo) (hn : t.nonblock = s.nonblock := by rfl) : Grows s t :=
  ⟨⟨[], by simp [ho]⟩, by rw [he]; exact id, ⟨[], by simp [hc]⟩, hn⟩

theorem setStdin_self (s : State) : s.setStdin s.stdin 0 = s := by
  unfold State.setStdin State.stdin; split <;> rfl

theorem setStdin_grows (s : State) (rest : List Byte) (n : Nat) : Grows s (s.setStdin rest n) := by
  unfold State.setStdin; split <;> exact grows_of_eq rfl rfl rfl

/-- `t` is `s` after a utility, as far as the descriptors and the output go: a prefix of standard input
    was consumed, output may have been written, an end of input once seen stays seen -/
def Ran (s t : State) : Prop :=
  Grows s t ∧ ∃ pre rest, s.stdin = pre ++ rest
    ∧ stdinDesc t = stdinDesc (s.setStdin rest pre.length) ∧ t.inp = (s.setStdin rest pre.length).inp

theorem Ran.quiet {s t : State} (hd : stdinDesc t = stdinDesc s) (hi : t.inp = s.inp) (hg : Grows s t) :
    Ran s t :=
  ⟨hg, [], s.stdin, rfl, by rw [List.length_nil, setStdin_self]; exact hd,
    by rw [List.length_nil, setStdin_self]; exact hi⟩

theorem Ran.reader {s t : State} (pre rest : List Byte) (n : Nat) (h : s.stdin = pre ++ rest)
    (hn : n = pre.length) (hg : Grows (s.setStdin rest n) t)
    (hd : stdinDesc t = stdinDesc (s.setStdin rest n)) (hi : t.inp = (s.setStdin rest n).inp) : Ran s t :=
  ⟨(setStdin_grows s rest n).trans hg, pre, rest, h, hn ▸ hd, hn ▸ hi⟩

theorem Ran.cases {s t : State} (h : Ran s t) :
    t.shared = s.shared
    ∧ (s.shared = true → t.data = s.data ∧ ∃ pre, s.inp = pre ++ t.inp ∧ t.pos = s.pos + pre.length)
    ∧ (s.shared = false → t.inp = s.inp ∧ ∃ pre, s.data = pre ++ t.data ∧ t.pos = s.pos + pre.length) := by
  obtain ⟨_, pre, rest, h, hd, hi⟩ := h
  cases hsh : s.shared with
  | true =>
    rw [stdin_shared hsh] at h
    rw [setStdin_shared hsh] at hd hi
    exact ⟨(congrArg SavedIn.shared hd).trans hsh,
      fun _ => ⟨congrArg SavedIn.data hd, pre, by rw [h, hi], congrArg SavedIn.pos hd⟩, fun h' => (by cases h')⟩
  | false =>
    rw [stdin_unshared hsh] at h
    rw [setStdin_unshared hsh] at hd hi
    exact ⟨(congrArg SavedIn.shared hd).trans hsh, fun h' => (by cases h'),
      fun _ => ⟨hi, pre, by rw [h]; exact congrArg (pre ++ ·) (congrArg SavedIn.data hd).symm, congrArg SavedIn.pos hd⟩⟩

theorem setOption_ran (s : State) (o : String) (on : Bool) : Ran s (setOption s o on) := by
  unfold setOption; split
  · exact .quiet rfl rfl (grows_of_eq rfl rfl rfl)
  · split <;> exact .quiet rfl rfl (grows_of_eq rfl rfl rfl)

theorem execSimple_ran (s : State) (fields : List String) (here : Option (List Char)) :
    Ran s (execSimple s fields here) := by
  cases fields with
  | nil => exact .quiet rfl rfl (grows_of_eq rfl rfl rfl)
  | cons name args =>
    simp only [execSimple]
    generalize classify name = u
    cases u <;> simp only [execUtil]
    case probe | aliasName | echo => exact .quiet rfl rfl ⟨⟨[_], rfl⟩, id, ⟨[], (List.append_nil _).symm⟩, rfl⟩
    case st | colon | unknown => exact .quiet rfl rfl (grows_of_eq rfl rfl rfl)
    case alias => unfold execAlias; split <;> exact .quiet rfl rfl (grows_of_eq rfl rfl rfl)
    case unalias => unfold execUnalias; split <;> exact .quiet rfl rfl (grows_of_eq rfl rfl rfl)
    case set =>
      unfold execSet
      split <;> first | exact setOption_ran .. | exact .quiet rfl rfl (grows_of_eq rfl rfl rfl)
    case read =>
      obtain ⟨pre, hpre⟩ := readLine_suffix (d := (parseReadArgs args false 10).2.1)
        (parseReadArgs args false 10).1 s.stdin []
      refine .reader pre _ _ hpre.symm ?_ ⟨⟨[], rfl⟩, fun h => ?_, ⟨[], (List.append_nil _).symm⟩, rfl⟩ rfl rfl
      · have := congrArg List.length hpre; rw [List.length_append] at this; omega
      · simp only [execRead, h, Bool.true_or]
    case cat =>
      cases here with
      | some t => exact .quiet rfl rfl ⟨⟨_, rfl⟩, id, ⟨[], (List.append_nil _).symm⟩, rfl⟩
      | none =>
        refine .reader s.stdin [] _ (List.append_nil _).symm rfl
          ⟨⟨_, rfl⟩, fun h => ?_, ⟨[], (List.append_nil _).symm⟩, rfl⟩ rfl rfl
        simp only [execCat, h, Bool.true_or]
    case closein =>
      refine .reader s.stdin [] _ (List.append_nil _).symm rfl
        ⟨⟨[], rfl⟩, fun h => ?_, ⟨[], (List.append_nil _).symm⟩, rfl⟩ rfl rfl
      simp only [execClose, h, Bool.true_or]

theorem ite_append_grows {α : Type} (c : Prop) [Decidable c] (x y : List α) :
    ∃ e, (if c then x ++ y else x) = x ++ e := by
  split
  · exact ⟨y, rfl⟩
  · exact ⟨[], (List.append_nil x).symm⟩

end YashModel.Input
