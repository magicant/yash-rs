/-
  C18 — what a step of the machine does to descriptor 0 and the pending `undo_redirs`: they form a stack of open
  file descriptions (`frames`), and a step keeps its height (its top may be read from: `Ran`), pushes or pops
  (`StackStep`, `step_stack`).
-/
import YashModel.Input.Ran
namespace YashModel.Input

/-- The open file descriptions that the pending `undo_redirs` of a continuation will put back on
    descriptor 0, innermost first: what each guard saved first (a guard that saved nothing puts nothing
    back).  Together with what descriptor 0 refers to now they form a stack; its bottom is the description
    the shell itself reads from. -/
def frames : List K → List SavedIn
  | [] => []
  | .undo saved :: k => saved.head?.toList ++ frames k
  | _ :: k => frames k

theorem frames_cmds (l : List Cmd) (k : List K) : frames (cmds l ++ k) = frames k := by
  induction l with
  | nil => rfl
  | cons c l ih => exact ih

theorem frames_cmds_nil (l : List Cmd) : frames (cmds l) = [] := by
  have := frames_cmds l []
  rwa [List.append_nil] at this

theorem frames_dropGuards (k : List K) : frames (dropGuards k) = frames k := by
  fun_induction dropGuards k <;> simp_all [frames]

/-- One step of the machine, as far as the stack of descriptions and the script cursor go. -/
inductive StackStep (k : List K) (s : State) (k' : List K) (s' : State) : Prop
  /-- the stack keeps its height: control flow, a nested read-eval loop, a redirection that fails, a guard that
      saved nothing leave it alone; a utility may read from its top -/
  | same (hf : frames k' = frames k) (hr : Ran s s')
  /-- `perform_redirs` (or `nullify_stdin`): what descriptor 0 referred to goes below a stream of its own -/
  | push (d : SavedIn) (hf : frames k' = stdinDesc s :: frames k) (hd : d.shared = false)
      (hs : s' = setDesc s d)
  /-- `undo_redirs` of the innermost guard: the top of the stack goes -/
  | pop (hf : frames k = stdinDesc s' :: frames k') (hi : s'.inp = s.inp) (hg : Grows s s')

theorem step_cases (k : List K) (s : State) :
    k = [] ∨ ∃ r, step k s = some r ∧ StackStep k s r.1 r.2 := by
  have same : ∀ {k' : List K} {s' : State}, frames k' = frames k → stdinDesc s' = stdinDesc s → s'.inp = s.inp →
      Grows s s' → StackStep k s k' s' := fun hf hd hi hg => .same hf (.quiet hd hi hg)
  have quiet : ∀ {k' : List K} {s' : State}, frames k' = frames k → stdinDesc s' = stdinDesc s → s'.inp = s.inp →
      Grows s s' → ∃ r, some (k', s') = some r ∧ StackStep k s r.1 r.2 :=
    fun hf hd hi hg => ⟨_, rfl, same hf hd hi hg⟩
  have status : ∀ {k' : List K} (st : Nat), frames k' = frames k →
      ∃ r, some (k', { s with status := st }) = some r ∧ StackStep k s r.1 r.2 :=
    fun st hf => quiet hf rfl rfl (grows_of_eq rfl rfl rfl)
  cases k with
  | nil => exact .inl rfl
  | cons a k0 =>
    -- every equation of `step` for a non-empty continuation answers `some`, directly or under one or two `if`s
    right
    cases a with
    | cmd c =>
      cases c with
      | simple ws here =>
        refine ⟨_, rfl, ?_⟩
        unfold stepSimple; split
        · exact same rfl rfl rfl (Grows.refl _)
        · exact .same rfl (execSimple_ran _ _ _)
      | ifc | loop | group | subsh => exact quiet (frames_cmds _ _) rfl rfl (Grows.refl _)
      | andor | neg => exact quiet rfl rfl rfl (Grows.refl _)
      | async c =>
        simp only [step]; split
        · exact quiet rfl rfl rfl (Grows.refl _)
        · exact ⟨_, rfl, .push _ rfl rfl rfl⟩
      | redir rs c =>
        simp only [step]; split
        · obtain ⟨m, d, h1, h2, h3⟩ := performIn_eq rs [] s
          rw [h1, h2, List.nil_append]
          rcases h3 with ⟨rfl, rfl⟩ | ⟨hh, hd⟩
          · exact quiet rfl rfl rfl (Grows.refl _)
          · exact ⟨_, rfl, .push d (by simp only [frames, hh]; rfl) hd rfl⟩
        · rw [redirs_undone_exactly]; split
          · exact quiet (frames_dropGuards _) rfl rfl (grows_of_eq rfl rfl rfl)
          · exact status 2 rfl
    | undo saved =>
      cases saved with
      | nil => exact quiet rfl rfl rfl (Grows.refl _)
      | cons d l =>
        have e : undoIn (d :: l) s = setDesc s d := undoIn_head _ s d rfl
        exact ⟨_, rfl, .pop (by rw [e]; rfl) (by rw [e]; rfl) (by rw [e]; exact grows_of_eq rfl rfl rfl)⟩
    | branch t e he =>
      simp only [step]; split
      · exact quiet (frames_cmds _ _) rfl rfl (Grows.refl _)
      · split
        · exact quiet (frames_cmds _ _) rfl rfl (Grows.refl _)
        · exact status 0 rfl
    | andK a r => simp only [step]; split <;> exact quiet rfl rfl rfl (Grows.refl _)
    | loopTest u c b l =>
      simp only [step]; split
      · exact quiet (frames_cmds _ _) rfl rfl (Grows.refl _)
      · exact status l rfl
    | loopBack u c b => exact quiet (frames_cmds _ _) rfl rfl (Grows.refl _)
    | restore sv => exact quiet rfl rfl rfl (grows_of_eq rfl rfl rfl)
    | negK => exact status _ rfl
    | src t e x =>
      refine ⟨_, rfl, ?_⟩
      -- whatever the parser answers, only `$?`, the flags of a syntax error and the echo change, and the echo is
      -- `if … then s.echo ++ _ else s.echo`
      unfold stepSrc; split
      · exact same rfl rfl rfl ⟨⟨[], rfl⟩, id, ite_append_grows _ _ _, rfl⟩
      · exact same (frames_cmds _ _) rfl rfl ⟨⟨[], rfl⟩, id, ite_append_grows _ _ _, rfl⟩
      · exact same (frames_dropGuards _) rfl rfl ⟨⟨[], rfl⟩, id, ite_append_grows _ _ _, rfl⟩

theorem step_stack {k k' : List K} {s s' : State} (h : step k s = some (k', s')) : StackStep k s k' s' := by
  rcases step_cases k s with rfl | ⟨r, e, hs⟩
  · cases h
  · rw [e] at h; cases h; exact hs

theorem step_eq_none (k : List K) (s : State) (h : step k s = none) : k = [] :=
  (step_cases k s).resolve_right fun ⟨_, e, _⟩ => by rw [e] at h; cases h

theorem step_grows (k k' : List K) (s s' : State)
    (h : step k s = some (k', s')) : Grows s s' := by
  cases step_stack h with
  | same _ hr => exact hr.1
  | push d _ _ hs => exact hs ▸ grows_of_eq rfl rfl rfl
  | pop _ _ hg => exact hg

/-- a reflexive, transitive relation on (continuation, state) that every step respects holds between the start of
    a run and where it stops; a run that was not cut short stops at the empty continuation -/
theorem runK_rel (R : List K × State → List K × State → Prop) (refl : ∀ c, R c c)
    (trans : ∀ {a b c}, R a b → R b c → R a c)
    (hstep : ∀ {k s k' s'}, step k s = some (k', s') → R (k, s) (k', s')) (n : Nat) (k : List K) (s : State) :
    ∃ k', R (k, s) (k', (runK n k s).1) ∧ ((runK n k s).2 = true → k' = []) := by
  induction n generalizing k s with
  | zero => exact ⟨k, refl _, fun h => by cases h⟩
  | succ n ih =>
    simp only [runK]
    cases hst : step k s with
    | none => exact ⟨k, refl _, fun _ => step_eq_none k s hst⟩
    | some r =>
      obtain ⟨k', h1, h2⟩ := ih r.1 r.2
      exact ⟨k', trans (hstep hst) h1, h2⟩

theorem runK_grows (n : Nat) (k : List K) (s : State) :
    Grows s (runK n k s).1 :=
  (runK_rel (fun a b => Grows a.2 b.2) (fun _ => Grows.refl _) Grows.trans (step_grows _ _ _ _) n k s).elim
    fun _ h => h.1

end YashModel.Input
