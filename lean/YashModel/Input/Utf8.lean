/-
  C18 — what the UTF-8 check of `read_char` accepts: the inversion of `utf8Check`.
-/
import YashModel.Input.Model
namespace YashModel.Input

theorem ite_iff_or {c p q : Prop} [Decidable c] : (if c then p else q) ↔ (c ∧ p) ∨ (¬c ∧ q) := by
  split <;> simp [*]

theorem isCont_iff (b : Byte) : isCont b = true ↔ 0x80 ≤ b.toNat ∧ b.toNat ≤ 0xBF := by
  simp [isCont]

theorem second2_bounds (a b : Byte) (h : second2 a b = true) :
    0x80 ≤ b.toNat ∧ b.toNat ≤ 0xBF ∧ (a.toNat = 0xE0 → 0xA0 ≤ b.toNat) ∧ (a.toNat = 0xED → b.toNat ≤ 0x9F)
      ∧ (a.toNat = 0xF0 → 0x90 ≤ b.toNat) ∧ (a.toNat = 0xF4 → b.toNat ≤ 0x8F) := by
  simp only [second2, isCont, Bool.ite_eq_true_distrib, ite_iff_or, Bool.and_eq_true, decide_eq_true_eq] at h
  omega

theorem utf8Check_inv (bs : List Byte) :
    match utf8Check bs with
    | .ok code => code.isValidChar ∧ ((∃ a, bs = [a] ∧ code = a.toNat ∧ code < 0x80)
        ∨ (2 ≤ bs.length ∧ 0x80 ≤ code ∧ ∀ b ∈ bs, 0x80 ≤ b.toNat))
    | .more => bs.length < 4 ∧ ∀ b ∈ bs, 0x80 ≤ b.toNat
    | .bad => True := by
  unfold Nat.isValidChar
  match bs with
  | [] => simp [utf8Check]
  | [a] =>
    simp only [utf8Check]
    by_cases h1 : a.toNat < 0x80
    · rw [if_pos h1]; exact ⟨by omega, .inl ⟨a, rfl, rfl, h1⟩⟩
    · rw [if_neg h1]
      by_cases h2 : 0xC2 ≤ a.toNat ∧ a.toNat ≤ 0xF4
      · rw [if_pos h2]; simp; omega
      · rw [if_neg h2]; trivial
  | [a, b] =>
    simp only [utf8Check]
    by_cases h1 : 0xC2 ≤ a.toNat ∧ a.toNat ≤ 0xDF
    · rw [if_pos h1]
      by_cases h2 : isCont b = true
      · rw [if_pos h2]
        have hb := (isCont_iff b).1 h2
        exact ⟨by omega, .inr ⟨by simp, by omega, by simp; omega⟩⟩
      · rw [if_neg h2]; trivial
    · rw [if_neg h1]
      by_cases h2 : 0xE0 ≤ a.toNat ∧ a.toNat ≤ 0xF4 ∧ second2 a b = true
      · rw [if_pos h2]
        have := second2_bounds a b h2.2.2
        simp; omega
      · rw [if_neg h2]; trivial
  | [a, b, c] =>
    simp only [utf8Check]
    by_cases h1 : 0xE0 ≤ a.toNat ∧ a.toNat ≤ 0xEF
    · rw [if_pos h1]
      by_cases h2 : second2 a b = true ∧ isCont c = true
      · rw [if_pos h2]
        obtain ⟨hb, hb', hE0, hED, -, -⟩ := second2_bounds a b h2.1
        have hc := (isCont_iff c).1 h2.2
        exact ⟨by omega, .inr ⟨by simp, by omega, by simp; omega⟩⟩
      · rw [if_neg h2]; trivial
    · rw [if_neg h1]
      by_cases h2 : 0xF0 ≤ a.toNat ∧ a.toNat ≤ 0xF4 ∧ second2 a b = true ∧ isCont c = true
      · rw [if_pos h2]
        have := second2_bounds a b h2.2.2.1
        have := (isCont_iff c).1 h2.2.2.2
        simp; omega
      · rw [if_neg h2]; trivial
  | [a, b, c, e] =>
    simp only [utf8Check]
    by_cases h1 : 0xF0 ≤ a.toNat ∧ a.toNat ≤ 0xF4 ∧ second2 a b = true ∧ isCont c = true ∧ isCont e = true
    · rw [if_pos h1]
      obtain ⟨hb, hb', -, -, hF0, hF4⟩ := second2_bounds a b h1.2.2.1
      have hc := (isCont_iff c).1 h1.2.2.2.1
      have he := (isCont_iff e).1 h1.2.2.2.2
      exact ⟨by omega, .inr ⟨by simp, by omega, by simp; omega⟩⟩
    · rw [if_neg h1]; trivial
  | _ :: _ :: _ :: _ :: _ :: _ => simp [utf8Check]

theorem utf8Check_ok (bs : List Byte) (code : Nat) (h : utf8Check bs = .ok code) :
    code.isValidChar ∧ ((∃ a, bs = [a] ∧ code = a.toNat ∧ code < 0x80)
      ∨ (2 ≤ bs.length ∧ 0x80 ≤ code ∧ ∀ b ∈ bs, 0x80 ≤ b.toNat)) := by
  have := utf8Check_inv bs; rwa [h] at this

theorem utf8Check_more (bs : List Byte) (h : utf8Check bs = .more) :
    bs.length < 4 ∧ ∀ b ∈ bs, 0x80 ≤ b.toNat := by
  have := utf8Check_inv bs; rwa [h] at this

theorem utf8Check_ascii {x : Byte} (h : x.toNat < 0x80) : utf8Check [x] = .ok x.toNat := by
  simp [utf8Check, h]

theorem utf8_ok_last (buf : List Byte) (b : Byte) (code : Nat) (h : utf8Check (buf ++ [b]) = .ok code) :
    (buf = [] ∧ code = b.toNat ∧ code < 0x80) ∨ (buf ≠ [] ∧ 0x80 ≤ code ∧ 0x80 ≤ b.toNat) := by
  rcases (utf8Check_ok _ code h).2 with ⟨a, h1, h2, h3⟩ | ⟨h1, h2, h3⟩
  · cases buf with
    | nil => cases h1; exact .inl ⟨rfl, h2, h3⟩
    | cons x l => cases l <;> simp at h1
  · refine .inr ⟨?_, h2, h3 b (by simp)⟩
    rintro rfl; simp at h1

end YashModel.Input
