/-
  C18 — the frame lemma of the machine: what does not read the script does not depend on where its cursor
  is.  Only the utilities that read standard input, and only when standard input is the script, look at what
  is left of the script; nothing looks at `hitEof`.  Appending input after the cursor (`s.app S`), erasing the
  ghost flag (`s.erase`) and moving the script to a chunked source (`c.flat`) are, by unfolding,
  `s.reframe (· ++ S) id`, `s.reframe id fun _ => false` and `c.st.reframe (fun _ => c.src.flatten) id`.
-/
import YashModel.Input.Descriptor
namespace YashModel.Input

def State.reframe (g : List Byte → List Byte) (q : Bool → Bool) (s : State) : State :=
  { s with inp := g s.inp, hitEof := q s.hitEof }

/-- the utilities that read standard input (`cat` with a here-document reads that instead) -/
def Util.reads (u : Util) (here : Option (List Char)) : Bool :=
  u = .read || (u = .cat && here.isNone) || u = .closein

theorem Util.reads_iff {u : Util} {here : Option (List Char)} :
    u.reads here = true ↔ u = .read ∨ (u = .cat ∧ here = none) ∨ u = .closein := by
  cases u <;> cases here <;> simp [Util.reads]

theorem setOption_reframe (g q) (s : State) (o : String) (on : Bool) :
    setOption (s.reframe g q) o on = (setOption s o on).reframe g q := by
  unfold setOption; split
  · rfl
  · split <;> rfl

theorem execUtil_reframe (g q) (s : State) (u : Util) (name : String) (args : List String)
    (here : Option (List Char)) (h : u.reads here = false ∨ s.shared = false) :
    execUtil (s.reframe g q) u name args here = (execUtil s u name args here).reframe g q := by
  -- a reader reads a stream of its own
  have hsh : u.reads here = true → s.shared = false := fun hr => h.resolve_left (by simp [hr])
  have h' : s.shared = false → (s.reframe g q).shared = false := id
  cases u with
  | probe | aliasName | st | colon | echo | unknown => rfl
  | alias => simp only [execUtil, execAlias]; split <;> rfl
  | unalias => simp only [execUtil, execUnalias]; split <;> rfl
  | set => simp only [execUtil, execSet]; split <;> first | exact setOption_reframe .. | rfl
  | read =>
    simp only [execUtil]
    rw [execRead_unshared (hsh rfl), execRead_unshared (h' (hsh rfl))]; rfl
  | cat =>
    cases here with
    | some t => rfl
    | none => simp only [execUtil]; rw [execCat_unshared (hsh rfl), execCat_unshared (h' (hsh rfl))]; rfl
  | closein => simp only [execUtil]; rw [execClose_unshared (hsh rfl), execClose_unshared (h' (hsh rfl))]; rfl

theorem execUtil_reframe_or (s : State) (u : Util) (name : String) (args : List String)
    (here : Option (List Char)) :
    (∀ g q, execUtil (s.reframe g q) u name args here = (execUtil s u name args here).reframe g q)
    ∨ (s.shared = true ∧ (u = .read ∨ (u = .cat ∧ here = none) ∨ u = .closein)) := by
  by_cases hr : u.reads here = false ∨ s.shared = false
  · exact .inl fun g q => execUtil_reframe g q s u name args here hr
  · exact .inr ⟨by simpa using (not_or.1 hr).2, Util.reads_iff.1 (by simpa using (not_or.1 hr).1)⟩

theorem step_reframe (g q) (k : List K) (s : State)
    (h : ∀ ws here k0, k ≠ .cmd (.simple ws here) :: k0) :
    step k (s.reframe g q) = (step k s).map fun r => (r.1, r.2.reframe g q) := by
  cases k with
  | nil => rfl
  | cons a k0 =>
    cases a with
    | cmd c =>
      cases c with
      | simple ws here => exact absurd rfl (h ws here k0)
      | ifc | loop | group | subsh | andor | neg => rfl
      | async c =>
        simp only [step]
        have hx : controlsJobs k0 (s.reframe g q) = controlsJobs k0 s := rfl
        rw [hx]
        rw [apply_ite (Option.map _)]; rfl
      | redir rs c =>
        simp only [step]
        rw [performIn_comm (State.reframe g q) (fun _ => rfl) (fun _ _ => rfl)]
        have hx : redirErrorExits (s.reframe g q) c = redirErrorExits s c := rfl
        rw [hx, undoIn_comm (State.reframe g q) (fun _ _ => rfl)]
        rw [apply_ite (Option.map _), apply_ite (Option.map _)]; rfl
    | undo saved =>
      simp only [step]
      rw [undoIn_comm (State.reframe g q) (fun _ _ => rfl)]; rfl
    | branch | andK | loopTest =>
      have hx : (s.reframe g q).status = s.status := rfl
      simp only [step, hx]
      repeat rw [apply_ite (Option.map _)]
      rfl
    | loopBack | restore | negK => rfl
    | src t e ex =>
      have hp : parserOf (s.reframe g q) = parserOf s := rfl
      simp only [step, Option.map, stepSrc, hp]
      split <;> rfl

theorem stepSimple_of {s t : State} (hv : t.vars = s.vars) (hs : t.status = s.status) (ws : List Word)
    (here : Option (List Char)) (k : List K) :
    stepSimple ws here k t = match nested (expandWords s.vars s.status ws) with
      | some (text, echoes) => (.src text echoes false :: k, t)
      | none => (k, execSimple t (expandWords s.vars s.status ws) here) := by
  unfold stepSimple; rw [hv, hs]; rfl

theorem step_simple_or_reframe (k : List K) (s : State) :
    (∃ ws here k0, k = .cmd (.simple ws here) :: k0)
    ∨ ((∀ ws here k0, k ≠ .cmd (.simple ws here) :: k0)
        ∧ ∀ g q, step k (s.reframe g q) = (step k s).map fun r => (r.1, r.2.reframe g q)) := by
  by_cases hs : ∃ ws here k0, k = .cmd (.simple ws here) :: k0
  · exact .inl hs
  · have hs' : ∀ ws here k0, k ≠ .cmd (.simple ws here) :: k0 := fun ws here k0 e => hs ⟨ws, here, k0, e⟩
    exact .inr ⟨hs', fun g q => step_reframe g q k s hs'⟩

end YashModel.Input
