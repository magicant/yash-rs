/-
  C18 — simulation: the machine over a chunked source (`ChunkModel.lean`) is, step by step, the flat
  machine over the concatenation of the chunks.
-/
import YashModel.Input.Pull
import YashModel.Input.ReadLoop
import YashModel.Input.Reframe
namespace YashModel.Input

theorem drainC_eq (acc : List Byte) (cs : List (List Byte)) : drainC acc cs = acc ++ cs.flatten := by
  fun_induction drainC acc cs <;> simp_all

theorem execUtil_flat (c : CState) (u : Util) (name : String) (args : List String) (here : Option (List Char))
    (h : u.reads here = false ∨ c.st.shared = false) :
    ({ c with st := execUtil c.st u name args here } : CState).flat = execUtil c.flat u name args here :=
  (execUtil_reframe (fun _ => c.src.flatten) id c.st u name args here h).symm

theorem execSimpleC_flat (c : CState) (fields : List String)
    (here : Option (List Char)) :
    (execSimpleC c fields here).flat = execSimple c.flat fields here := by
  cases fields with
  | nil => rfl
  | cons name args =>
    simp only [execSimpleC, execSimple]
    generalize classify name = u
    -- a reader on a stream of its own, and every other utility, is the flat machine's code on `c.st` (`execUtil_flat`);
    -- a reader on the script runs its chunked loop, which is the loop over the concatenation
    have hf : c.st.shared = true → c.flat.shared = true := id
    split
    · cases hsh : c.st.shared with
      | false => simp only [execReadC, hsh]; exact execUtil_flat c .read name args here (.inr hsh)
      | true =>
        have e := readLineCGo_eq (parseReadArgs args false 10).2.1 (parseReadArgs args false 10).1 false [] c.src []
        simp only [execUtil]
        rw [execRead_shared (hf hsh), show c.flat.inp = c.src.flatten from rfl, readLine, ← e]
        simp [execReadC, CState.flat, hsh]
    · cases here with
      | some t => exact execUtil_flat c .cat name args (some t) (.inl rfl)
      | none =>
        cases hsh : c.st.shared with
        | false => simp only [execCatC, hsh]; exact execUtil_flat c .cat name args none (.inr hsh)
        | true =>
          simp only [execUtil]
          rw [execCat_shared (hf hsh)]
          simp [execCatC, CState.flat, hsh, drainC_eq]
    · cases hsh : c.st.shared with
      | false => exact execUtil_flat c .closein name args here (.inr hsh)
      | true =>
        simp only [execUtil]
        rw [execClose_shared (hf hsh)]
        simp [CState.flat, hsh, drainC_eq]
    · refine execUtil_flat c u name args here (.inl ?_)
      cases hr : u.reads here with
      | false => rfl
      | true => rcases Util.reads_iff.1 hr with rfl | ⟨rfl, -⟩ | rfl <;> contradiction

theorem stepC_flat (k : List K) (c : CState) :
    (stepC k c).map (fun r => (r.1, r.2.flat)) = step k c.flat := by
  rcases step_simple_or_reframe k c.st with ⟨ws, here, k0, rfl⟩ | ⟨hs, hr⟩
  · simp only [stepC, step]
    rw [stepSimple_of (s := c.st) (t := c.flat) rfl rfl]
    cases nested (expandWords c.st.vars c.st.status ws) with
    | some r => rfl
    | none => simp only [Option.map]; rw [execSimpleC_flat]
  · have hstep : stepC k c = (step k c.st).map fun r => (r.1, { c with st := r.2 }) := by
      unfold stepC
      split
      · rename_i ws here k0; exact absurd rfl (hs ws here k0)
      · rfl
    rw [hstep]
    refine Eq.trans ?_ (hr (fun _ => c.src.flatten) id).symm
    cases step k c.st <;> rfl

theorem runKC_flat (n : Nat) (k : List K) (c : CState) :
    ((runKC n k c).1.flat, (runKC n k c).2) = runK n k c.flat := by
  induction n generalizing k c with
  | zero => rfl
  | succ n ih =>
    simp only [runKC, runK]
    rw [← stepC_flat]
    cases stepC k c with
    | none => rfl
    | some r => simpa using ih r.1 r.2

theorem pullOfC_flat (c : CState) : (pullOfC c).flat = pullOf c.flat :=
  pullC_flat (parserOf c.st) (c.src.flatten.length + 1) [] c.src

theorem pullOfC_text (c : CState) : (pullOfC c).text = (pullOf c.flat).text := by
  rw [← pullOfC_flat]; rfl
theorem pullOfC_res (c : CState) : (pullOfC c).res = (pullOf c.flat).res := by
  rw [← pullOfC_flat]; rfl

theorem afterPullC_flat (c : CState) : (afterPullC c).flat = afterPull c.flat := by
  rw [afterPull, ← pullOfC_flat]; rfl

theorem atExecC_flat (c : CState) : (atExecC c).flat = atExec c.flat := by
  rw [atExec, ← afterPullC_flat, ← pullOfC_flat]; rfl

theorem loopC_flat (n : Nat) (c : CState) (log : List (List Byte)) (lg : List Iter)
    (hl : log = lg.map (·.text)) :
    (loopC n c log).1.flat = (loop n c.flat lg).1
    ∧ (loopC n c log).2.1 = (loop n c.flat lg).2.1
    ∧ (loopC n c log).2.2 = (loop n c.flat lg).2.2.map (·.text) := by
  induction n generalizing c log lg with
  | zero => exact ⟨rfl, rfl, hl⟩
  | succ n ih =>
    have hlog : log ++ [(pullOfC c).text] = (lg ++ [iterOf c.flat]).map (·.text) := by
      simp [hl, iterOf, pullOfC_text]
    have hab : ∀ x : CState, x.st.aborted = x.flat.aborted := fun _ => rfl
    rw [loopC, loop, ← pullOfC_res]
    cases (pullOfC c).res with
    | none => exact ⟨by rw [← afterPullC_flat, ← pullOfC_text]; rfl, rfl, hlog⟩
    | error => exact ⟨by rw [← afterPullC_flat]; rfl, rfl, hlog⟩
    | incomplete => exact ⟨by rw [← afterPullC_flat]; rfl, rfl, hlog⟩
    | ok cs =>
      simp only []
      rw [← atExecC_flat, ← runKC_flat, hab]
      split
      · split
        · exact ⟨rfl, rfl, hlog⟩
        · exact ih _ _ _ hlog
      · exact ⟨rfl, rfl, hlog⟩

end YashModel.Input
