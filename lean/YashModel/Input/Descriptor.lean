/-
  C18 — descriptor 0.  Reading through it (`State.stdin`, `State.setStdin`: the script descriptor or a stream of its
  own) and the three utilities that do, in normal form.  Its redirections (`performIn` / `undoIn`, the transcription of
  `RedirGuard::perform_redirs` / `undo_redirs` for descriptor 0) only ever change which open file description it
  refers to, undoing restores exactly what was there, and they commute with everything that does not look at it.
-/
import YashModel.Input.Model
namespace YashModel.Input

theorem stdin_shared {s : State} (h : s.shared = true) : s.stdin = s.inp := by
  simp [State.stdin, h]

theorem stdin_unshared {s : State} (h : s.shared = false) : s.stdin = s.data := by
  simp [State.stdin, h]

theorem setStdin_shared {s : State} (h : s.shared = true) (rest : List Byte) (n : Nat) :
    s.setStdin rest n = { s with inp := rest, pos := s.pos + n } := by
  simp [State.setStdin, h]

theorem setStdin_unshared {s : State} (h : s.shared = false) (rest : List Byte) (n : Nat) :
    s.setStdin rest n = { s with data := rest, pos := s.pos + n } := by
  simp [State.setStdin, h]

/-- `read` on the script descriptor: the cursor moves past what `readLine` took; the ghost flag is set, never read -/
theorem execRead_shared {s : State} (h : s.shared = true) (d : Nat) (raw : Bool) (names : List String) :
    execRead s d raw names =
      { s with inp := (readLine d raw s.inp []).2.2,
               pos := s.pos + (s.inp.length - (readLine d raw s.inp []).2.2.length),
               vars := readAssign names (readLine d raw s.inp []).1 (readLine d raw s.inp []).2.1 s.vars,
               status := readExit (readLine d raw s.inp []).1 (readLine d raw s.inp []).2.1,
               hitEof := s.hitEof || (readLine d raw s.inp []).2.1 != .found } := by
  simp [execRead, stdin_shared h, setStdin_shared h, h]

theorem execCat_shared {s : State} (h : s.shared = true) :
    execCat s none =
      { s with inp := [], pos := s.pos + s.inp.length,
               out := (outLines (s.inp.length + 1) s.inp).reverse ++ s.out, status := 0, hitEof := true } := by
  simp [execCat, stdin_shared h, setStdin_shared h, h]

theorem execClose_shared {s : State} (h : s.shared = true) :
    execClose s =
      { s with inp := [], pos := s.pos + s.inp.length, status := 0, inClosed := true, hitEof := true } := by
  simp [execClose, stdin_shared h, setStdin_shared h, h]

/-- the same three on a stream of its own: the script cursor and the ghost flag stay -/
theorem execRead_unshared {s : State} (h : s.shared = false) (d : Nat) (raw : Bool) (names : List String) :
    execRead s d raw names =
      { s with data := (readLine d raw s.data []).2.2,
               pos := s.pos + (s.data.length - (readLine d raw s.data []).2.2.length),
               vars := readAssign names (readLine d raw s.data []).1 (readLine d raw s.data []).2.1 s.vars,
               status := readExit (readLine d raw s.data []).1 (readLine d raw s.data []).2.1 } := by
  simp [execRead, stdin_unshared h, setStdin_unshared h, h]

theorem execCat_unshared {s : State} (h : s.shared = false) :
    execCat s none =
      { s with data := [], pos := s.pos + s.data.length,
               out := (outLines (s.data.length + 1) s.data).reverse ++ s.out, status := 0 } := by
  simp [execCat, stdin_unshared h, setStdin_unshared h, h]

theorem execClose_unshared {s : State} (h : s.shared = false) :
    execClose s = { s with data := [], pos := s.pos + s.data.length, status := 0, inClosed := true } := by
  simp [execClose, stdin_unshared h, setStdin_unshared h, h]

@[simp] theorem setDesc_setDesc (s : State) (a b : SavedIn) : setDesc (setDesc s a) b = setDesc s b := rfl
@[simp] theorem setDesc_stdinDesc (s : State) : setDesc s (stdinDesc s) = s := rfl
@[simp] theorem stdinDesc_setDesc (s : State) (d : SavedIn) : stdinDesc (setDesc s d) = d := rfl

theorem performIn_eq (rs : List Rd) (saved : List SavedIn) (s : State) :
    ∃ more d, (performIn rs saved s).1 = saved ++ more ∧ (performIn rs saved s).2.1 = setDesc s d
      ∧ (more = [] ∧ d = stdinDesc s ∨ more.head? = some (stdinDesc s) ∧ d.shared = false) := by
  induction rs generalizing saved s with
  | nil => exact ⟨[], stdinDesc s, by simp [performIn], rfl, .inl ⟨rfl, rfl⟩⟩
  | cons r rs ih =>
    rw [performIn]
    cases rdContent r with
    | none => exact ⟨[], stdinDesc s, by simp, rfl, .inl ⟨rfl, rfl⟩⟩
    | some c =>
      obtain ⟨m, d, h1, h2, h3⟩ := ih (saved ++ [stdinDesc s]) (setDesc s { shared := false, data := c, pos := 0 })
      refine ⟨stdinDesc s :: m, d, by simp only []; rw [h1]; simp, by simp only []; rw [h2]; rfl, .inr ⟨rfl, ?_⟩⟩
      rcases h3 with ⟨_, rfl⟩ | ⟨_, h⟩
      · rfl
      · exact h

theorem foldl_setDesc_state (l : List SavedIn) (s : State) :
    l.foldl setDesc s = setDesc s (stdinDesc (l.foldl setDesc s)) := by
  induction l generalizing s with
  | nil => rfl
  | cons d l ih =>
    simp only [List.foldl_cons]
    have := ih (setDesc s d)
    rw [setDesc_setDesc] at this
    exact this

theorem undoIn_head (saved : List SavedIn) (s : State) (d : SavedIn) (h : saved.head? = some d) :
    undoIn saved s = setDesc s d := by
  cases saved with
  | nil => simp at h
  | cons a l =>
    simp only [List.head?_cons, Option.some.injEq] at h
    subst h
    unfold undoIn
    rw [List.reverse_cons, List.foldl_append]
    simp only [List.foldl_cons, List.foldl_nil]
    rw [foldl_setDesc_state]
    rfl

/-- ★ `RedirGuard::perform_redirs` followed by `undo_redirs`, for **every** list of redirections of
    standard input (here-documents, files, any number, also when one of them cannot be opened and the
    list is abandoned half-way): the state is exactly the state before — descriptor 0 refers to the same
    open file description at the same offset.  The proof needs the order of `undo_redirs`: the
    description saved **first** must be the one copied back **last** (`undoIn_head`). -/
theorem redirs_undone_exactly (rs : List Rd) (s : State) :
    undoIn (performIn rs [] s).1 (performIn rs [] s).2.1 = s := by
  obtain ⟨m, d, h1, h2, h3⟩ := performIn_eq rs [] s
  rw [h1, h2, List.nil_append]
  rcases h3 with ⟨rfl, rfl⟩ | ⟨h, _⟩
  · rfl
  · rw [undoIn_head _ _ _ h]; rfl

theorem performIn_comm (f : State → State) (h1 : ∀ s, stdinDesc (f s) = stdinDesc s)
    (h2 : ∀ s d, setDesc (f s) d = f (setDesc s d)) (rs : List Rd) (saved : List SavedIn) (s : State) :
    performIn rs saved (f s)
      = ((performIn rs saved s).1, f (performIn rs saved s).2.1, (performIn rs saved s).2.2) := by
  induction rs generalizing saved s with
  | nil => rfl
  | cons r rs ih =>
    rw [performIn, performIn]
    cases rdContent r with
    | none => rfl
    | some c =>
      simp only []
      rw [h1, h2]
      exact ih _ _

theorem undoIn_comm (f : State → State) (h2 : ∀ s d, setDesc (f s) d = f (setDesc s d))
    (saved : List SavedIn) (s : State) : undoIn saved (f s) = f (undoIn saved s) := by
  unfold undoIn
  generalize saved.reverse = l
  induction l generalizing s with
  | nil => rfl
  | cons d l ih => simp only [List.foldl_cons]; rw [h2]; exact ih _

end YashModel.Input
