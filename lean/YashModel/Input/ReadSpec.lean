/-
  C18 — Spec of what the `read` built-in may take from standard input: **exactly one logical line**.

  POSIX `read` (XCU, "read"): "By default, unless the -r option is specified, <backslash> shall act as
  an escape character.  An unescaped <backslash> shall preserve the literal value of the following
  character, with the exception of a <newline>.  If a <newline> follows the <backslash>, the read
  utility shall interpret this as line continuation."  Stated on the bytes alone, with no reader and
  no escape flag:

    * a prefix of the input is a *complete logical line* iff it ends with the delimiter byte and the
      number of backslash bytes immediately before that delimiter is **even** (each pair is an escaped
      backslash; an odd number leaves one backslash that escapes the delimiter: for a newline, a line
      continuation).  With `-r` the number of backslashes does not matter;
    * `read` takes the **shortest** such prefix, or everything if there is none; whatever follows that
      prefix stays on the descriptor for the commands that read the same input next.

  `checkReads` evaluates the second clause on a run of the machine (the driver prints the verdict in
  the Spec column); `ReadTheorems.lean` proves it for every input (`read_logical_line`,
  `read_leaves_what_follows`, `exec_read_leaves_what_follows`).
  Import-free and executable.
-/
import YashModel.Input.Spec
namespace YashModel.Input

/-- the backslash byte -/
def BS : Byte := 92

/-- number of backslash bytes at the end of `l` -/
def trailingBs (l : List Byte) : Nat := (l.reverse.takeWhile (· == BS)).length

/-- `pre` is a complete logical line for `read` with delimiter `d`: it ends with the delimiter byte,
    and (unless `-r`) the backslashes immediately before it pair up -/
def logicalEnd (d : Nat) (raw : Bool) (pre : List Byte) : Bool :=
  match pre.getLast? with
  | none => false
  | some b => b.toNat == d && (raw || trailingBs pre.dropLast % 2 == 0)

/-- the shortest prefix `hist ++ w` (`w` a non-empty prefix of the second argument) that is a complete
    logical line, and what follows it -/
def scanLogical (d : Nat) (raw : Bool) : List Byte → List Byte → Option (List Byte × List Byte)
  | _, [] => none
  | hist, b :: t =>
    if logicalEnd d raw (hist ++ [b]) then some (hist ++ [b], t)
    else scanLogical d raw (hist ++ [b]) t

/-- the first logical line of the input and the rest of the input (`none`: the input ends before any
    logical line does) -/
def firstLogicalLine (d : Nat) (raw : Bool) (inp : List Byte) : Option (List Byte × List Byte) :=
  scanLogical d raw [] inp

/-- what `read` leaves on standard input according to the Spec -/
def specReadRest (d : Nat) (raw : Bool) (inp : List Byte) : List Byte :=
  match firstLogicalLine d raw inp with
  | some (_, rest) => rest
  | none => []

def isNameByte (b : Byte) : Bool :=
  (97 ≤ b.toNat && b.toNat ≤ 122) || (48 ≤ b.toNat && b.toNat ≤ 57)

/-- the command line is exactly `read NAME` or `read -r NAME` + newline: `some raw` -/
def plainRead (text : List Byte) : Option Bool :=
  if text.take 5 == [114, 101, 97, 100, 32] then
    let t := text.drop 5
    let raw := t.take 3 == [45, 114, 32]
    let n := if raw then t.drop 3 else t
    if n.getLast? == some NL && !n.dropLast.isEmpty && n.dropLast.all isNameByte then some raw
    else none
  else none

/-- "whatever follows the current command on standard input remains available", evaluated on the
    iterations of a run with a shared descriptor: after a command line that is just `read [-r] NAME`
    the next iteration must find the descriptor exactly after the first logical line of what the
    `read` found (valid UTF-8 data: an invalid byte makes `read` stop there with status 3) -/
def checkReads : List Iter → Option String
  | [] => none
  | [_] => none
  | it :: nxt :: more =>
    match plainRead it.text with
    | none => checkReads (nxt :: more)
    | some raw =>
      match firstLogicalLine 10 raw it.atExec with
      | some (pre, rest) =>
        if validUtf8 [] pre && nxt.start != rest then some "read-did-not-stop-after-its-logical-line"
        else checkReads (nxt :: more)
      | none =>
        if validUtf8 [] it.atExec && nxt.start != [] then some "read-left-input-without-a-line"
        else checkReads (nxt :: more)

end YashModel.Input
