/-
  What the compound operations do slot by slot (C12), where `Compositions.lean` only says that they are compositions.
-/
import YashModel.Job.Compositions
namespace YashModel.Job

/-- pid and recorded state of every slot are the same in both tables -/
def SameStates (s s' : JobList) : Prop :=
  ∀ k, (gets s'.entries k).map (fun j => (j.pid, j.state)) = (gets s.entries k).map (fun j => (j.pid, j.state))

theorem jobsFinish1_gets (s : JobList) (i k : Nat) :
    gets (jobsFinish1 s i).entries k =
      if k = i then
        (match gets s.entries i with
         | none => none
         | some j => if j.state.isAlive then some { j with changed := false } else none)
      else gets s.entries k := by
  rw [jobsFinish1_eq]
  cases hg : gets s.entries i with
  | none =>
    by_cases hk : k = i
    · rw [if_pos hk, hk]; exact hg
    · rw [if_neg hk]
  | some j =>
    cases ha : j.state.isAlive with
    | true => simp only [ha, if_true]; rw [reportOne_eq, modify_gets, hg]; rfl
    | false => simp only [ha, Bool.false_eq_true, if_false]; rw [remove_gets]

theorem setCurrentOk_current (s : JobList) (i : Nat) (j : Job) (hg : gets s.entries i = some j) :
    (s.setCurrentOk i).currentJob = some i ∨ (j.isSuspended = false ∧ anySuspended s.entries = true) := by
  by_cases hc : j.isSuspended = true ∨ anySuspended s.entries = false
  · left
    unfold JobList.setCurrentOk
    rw [(setCurrent_ok s _ i).mpr ⟨j, hg, hc, rfl⟩]
    show JobList.currentJob (if i ≠ s.cur then _ else s) = some i
    by_cases hi : i ≠ s.cur
    · rw [if_pos hi]; exact (currentJob_eq_some _ _).mpr ⟨rfl, j, hg⟩
    · rw [if_neg hi]; exact (currentJob_eq_some _ _).mpr ⟨(Decidable.not_not.mp hi).symm, j, hg⟩
  · right
    cases hj : j.isSuspended <;> cases ha : anySuspended s.entries <;> simp_all

theorem fgHeard_spec (s : JobList) (h : Inv s) (index : Nat) (job : Job) (outcome : PState)
    (hg : gets s.entries index = some job) :
    ∃ j2, j2.pid = job.pid ∧ j2.state = outcome ∧
      Inv (fgHeard s job outcome) ∧
      (∀ k, gets (fgHeard s job outcome).entries k =
        if k = index then some j2 else gets s.entries k) ∧
      (outcome.isStopped = true →
        (fgHeard s job outcome).currentJob = some index) := by
  have hl0 := lookup_of_inv h hg
  have mid : ∃ s1 j1, (if job.state.isStopped then (s.updateStatus job.pid .running).2 else s) = s1 ∧ Inv s1 ∧
      gets s1.entries index = some j1 ∧ j1.pid = job.pid ∧ j1.isSuspended = false ∧
      ∀ k, k ≠ index → gets s1.entries k = gets s.entries k := by
    cases hs : job.state.isStopped with
    | true =>
      obtain ⟨g1, _, _⟩ := update_effect s job.pid index .running job hl0 hg
      exact ⟨_, job.updated .running,
        if_pos rfl, update_inv _ _ _ h, by rw [g1 index, if_pos rfl], rfl, rfl, fun k hk => by rw [g1 k, if_neg hk]⟩
    | false => exact ⟨s, job, if_neg (by decide), h, hg, rfl, hs, fun _ _ => rfl⟩
  obtain ⟨s1, j1, e1, h1, hg1, hp1, hs1, ho1⟩ := mid
  unfold fgHeard
  rw [e1]
  have hl1 := hp1 ▸ lookup_of_inv h1 hg1
  obtain ⟨g2, _, _⟩ := update_effect s1 job.pid index outcome j1 hl1 hg1
  refine ⟨j1.updated outcome,
    hp1, rfl, update_inv _ _ _ h1, fun k => ?_,
    fun hso => (update_suspends s1 job.pid index outcome j1 hl1 hg1 hs1 hso).1⟩
  rw [g2 k]
  by_cases hk : k = index
  · rw [if_pos hk, if_pos hk]
  · rw [if_neg hk, if_neg hk, ho1 k hk]

theorem fgTable_spec (s : JobList) (h : Inv s) (index : Nat) (job : Job) (outcome : PState)
    (hg : gets s.entries index = some job) :
    let final := if job.state.isAlive then outcome else job.state
    ∃ j2, j2.pid = job.pid ∧ j2.state = final ∧
      (∀ k, gets (fgTable s index job outcome).entries k =
        if k = index then (if final.isStopped then some j2 else none) else gets s.entries k) ∧
      (final.isStopped = true → (fgTable s index job outcome).currentJob = some index) := by
  intro final
  unfold fgTable
  by_cases ha : job.state.isAlive = true
  · have ef : final = outcome := if_pos ha
    rw [if_pos ha, ef]
    obtain ⟨j2, hp2, hst2, _, G, hcur⟩ := fgHeard_spec s h index job outcome hg
    refine ⟨j2, hp2, hst2, fun k => ?_, fun hso => by rw [if_pos hso]; exact hcur hso⟩
    by_cases hso : outcome.isStopped = true
    · rw [if_pos hso, if_pos hso]; exact G k
    · rw [if_neg hso, if_neg hso, remove_gets, G k]
      by_cases hk : k = index
      · rw [if_pos hk, if_pos hk]
      · rw [if_neg hk, if_neg hk, if_neg hk]
  · have ef : final = job.state := if_neg ha
    rw [if_neg ha, ef, not_stopped_of_not_alive job.state (Bool.eq_false_iff.mpr ha)]
    exact ⟨job, rfl, rfl, fun k => remove_gets .., fun e => nomatch e⟩

theorem fgResume_slots (s : JobList) (h : Inv s) (index : Nat) (outcome : PState) (job : Job)
    (hg : gets s.entries index = some job) (hout : outcome ≠ .running) :
    (∀ k, k ≠ index → gets (fgResume s index outcome).2.entries k = gets s.entries k) ∧
    (gets (fgResume s index outcome).2.entries index = none →
      (if job.state.isAlive then outcome else job.state).isAlive = false) := by
  rcases fgResume_table s index outcome with ⟨e, _⟩ | ⟨job', hg', _, _, e⟩ <;> rw [e]
  · exact ⟨fun _ _ => rfl, fun hv => by rw [hg] at hv; cases hv⟩
  · rw [hg] at hg'; cases hg'
    obtain ⟨j2, _, _, G, _⟩ := fgTable_spec s h index job outcome hg
    refine ⟨fun k hk => by rw [G k, if_neg hk], fun hv => ?_⟩
    rw [G, if_pos rfl] at hv
    cases ha : job.state.isAlive with
    | false => exact ha
    | true =>
      simp only [ha, if_true] at hv ⊢
      cases outcome with
      | running => exact absurd rfl hout
      | stopped n => cases hv
      | exited n => rfl
      | signaled n c => rfl

theorem sameStates_marks : RespectsMarks SameStates where
  refl _ _ := rfl
  trans h1 h2 k := (h2 k).trans (h1 k)
  mark s i f hf k := by
    rw [modify_gets]
    by_cases hk : k = i
    · rw [if_pos hk, hk, Option.map_map]
      exact congrArg (fun q => Option.map q _) (funext fun j => by simp only [Function.comp, (hf j).1, (hf j).2])
    · rw [if_neg hk]
  select s s' i hs k := by rw [(setCurrent_fields s s' i hs).1]

theorem update_untouched (s : JobList) (h : Inv s) (pid : Nat) (st : PState) (k : Nat) (j : Job)
    (hk : s.get k = some j) (hne : j.pid ≠ pid) : (s.updateStatus pid st).2.get k = some j := by
  rcases update_cases s pid st with e | ⟨idx, jb, hl, hjb⟩
  · rw [e]; exact hk
  · have hki : k ≠ idx := fun e => by
      obtain ⟨jb', hjb', hp⟩ := (h.p pid idx).mp hl
      rw [← e] at hjb'; cases hk.symm.trans hjb'
      exact hne hp
    rw [JobList.get_eq, (update_effect s pid idx st jb hl hjb).1 k, if_neg hki]
    exact hk

theorem applyEvent_slot (s : JobList) (h : Inv s) (i : Nat) (job : Job) (hg : s.get i = some job) (ev : Ev) :
    ∃ job1, (applyEvent s ev).get i = some job1 ∧ job1.pid = job.pid ∧ job1.owned = job.owned ∧
      (job1.state = job.state ∨ (ev.1 = job.pid ∧ job1.state = ev.2)) := by
  rcases applyEvent_table s ev with e | e <;> rw [e]
  · exact ⟨job, hg, rfl, rfl, Or.inl rfl⟩
  · by_cases hp : job.pid = ev.1
    · have hl := hp ▸ lookup_of_inv h hg
      obtain ⟨g1, _, _⟩ := update_effect s ev.1 i ev.2 job hl hg
      refine ⟨job.updated ev.2, ?_, rfl, rfl, Or.inr ⟨hp.symm, rfl⟩⟩
      rw [JobList.get_eq, g1 i, if_pos rfl]
    · exact ⟨job, update_untouched s h ev.1 ev.2 i job hg hp, rfl, rfl, Or.inl rfl⟩

theorem applyEvent_pidAt (s : JobList) (ev : Ev) (k : Nat) :
    ((applyEvent s ev).get k).map (·.pid) = (s.get k).map (·.pid) := by
  rcases applyEvent_table s ev with e | e <;> rw [e]
  exact update_pidAt s _ _ k

theorem updateAll_pids (s : JobList) (evs : List Ev) (k : Nat) :
    ((updateAll s evs).get k).map (·.pid) = (s.get k).map (·.pid) :=
  List.foldlRecOn (motive := fun t => ∀ k, (t.get k).map (·.pid) = (s.get k).map (·.pid)) evs applyEvent
    (fun _ => rfl) (fun t ht ev _ k => by rw [applyEvent_pidAt]; exact ht k) k

theorem updateAll_untouched (evs : List Ev) (s : JobList) (h : Inv s) (k : Nat) (j : Job)
    (hk : s.get k = some j) (hne : ∀ ev ∈ evs, ev.1 ≠ j.pid) : (updateAll s evs).get k = some j := by
  induction evs generalizing s with
  | nil => exact hk
  | cons ev rest ih =>
    have hk1 : (applyEvent s ev).get k = some j := by
      rcases applyEvent_table s ev with e | e <;> rw [e]
      · exact hk
      · exact update_untouched s h ev.1 ev.2 k j hk (fun e => hne ev (List.mem_cons_self ..) e.symm)
    exact ih (applyEvent s ev) (applyEvent_respects respects_inv s ev h) hk1 (fun e he => hne e (List.mem_cons_of_mem _ he))

theorem markAll_gets (idxs : List Nat) (s : JobList) (k : Nat) :
    gets (idxs.foldl JobList.markReported s).entries k =
      if k ∈ idxs then (gets s.entries k).map (fun j => { j with changed := false }) else gets s.entries k := by
  induction idxs generalizing s with
  | nil => simp
  | cons i rest ih =>
    simp only [List.foldl_cons]
    rw [ih (s.markReported i), markReported_eq, reportOne_eq, modify_gets]
    by_cases hki : k = i
    · subst hki
      by_cases hr : k ∈ rest
      · simp only [hr, if_true, List.mem_cons, or_true]; cases gets s.entries k <;> rfl
      · simp [hr]
    · by_cases hr : k ∈ rest <;> simp [hki, hr]

theorem Job.clear_unchanged (j : Job) (h : j.changed = false) : { j with changed := false } = j := by
  cases j; cases h; rfl

theorem promptReport_gets (s : JobList) (k : Nat) :
    (promptReport s true true).2.get k = (s.get k).map (fun j => { j with changed := false }) := by
  have e : (promptReport s true true).2 = (matchingIdx s.entries (·.changed) 0).foldl JobList.markReported s := rfl
  simp only [JobList.get_eq]
  rw [e, markAll_gets]
  by_cases hm : k ∈ matchingIdx s.entries (·.changed) 0
  · simp [hm]
  · simp only [hm, if_false]
    cases hg : gets s.entries k with
    | none => rfl
    | some j =>
      have hc : j.changed = false := by
        cases hcc : j.changed with
        | false => rfl
        | true =>
          exfalso; apply hm
          exact (mem_matchingIdx _ _ k).mpr ⟨j, hg, hcc⟩
      rw [Option.map_some, Job.clear_unchanged j hc]

theorem promptReport_selection (s : JobList) :
    (promptReport s true true).2.currentJob = s.currentJob ∧
    (promptReport s true true).2.previousJob = s.previousJob ∧
    (promptReport s true true).2.pids = s.pids := by
  have e : (promptReport s true true).2 = (matchingIdx s.entries (·.changed) 0).foldl JobList.markReported s := rfl
  rw [e]
  exact List.foldlRecOn
    (motive := fun t => t.currentJob = s.currentJob ∧ t.previousJob = s.previousJob ∧ t.pids = s.pids)
    _ JobList.markReported ⟨rfl, rfl, rfl⟩ fun t ht i _ =>
      ⟨(modify_selection t i _).1.trans ht.1, (modify_selection t i _).2.trans ht.2.1,
        (modify_fields t i _).2.2.1.trans ht.2.2⟩

theorem jobStatus_owned (s : JobList) (i : Nat) (job : Job) (hg : s.get i = some job) (ho : job.owned = true) :
    jobStatus s i = if job.state.isAlive then (none, s) else (some job.state.exitStatus, (s.remove i).2) := by
  cases ha : job.state.isAlive with
  | true => exact (wait_job_status s i job hg).2.2 ho ha
  | false => exact (wait_job_status s i job hg).2.1 ho ha

end YashModel.Job
