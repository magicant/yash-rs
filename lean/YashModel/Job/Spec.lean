/-
  Spec for C12: the consistency conditions of the property text as a decidable check on a job
  list (used by the driver to print the verdict on the model's own run), plus the precondition on
  `insert` (a live child's pid cannot be handed out again by the OS).
-/
import YashModel.Job.Model
import YashModel.Job.Builtins
namespace YashModel.Job

/-- indices of occupied slots -/
def occupied (es : Slab) : List Nat := matchingIdx es (fun _ => true) 0

def suspendedIdx (es : Slab) : List Nat := matchingIdx es (·.isSuspended) 0

def pidsOf (es : Slab) : List Nat := es.filterMap (fun o => o.map (·.pid))

def nodupB : List Nat → Bool
  | [] => true
  | a :: t => !t.contains a && nodupB t

/-- the five clauses of the property statement, evaluated through the public view
    (`currentJob`, `previousJob`, iteration, `find_by_pid`) -/
def invB (s : JobList) : Bool :=
  let occ := occupied s.entries
  let sus := suspendedIdx s.entries
  -- a non-empty table has a current job
  (occ.isEmpty || s.currentJob.isSome) &&
  -- two or more jobs imply a previous job distinct from it
  (occ.length < 2 || (s.previousJob.isSome && s.previousJob ≠ s.currentJob)) &&
  -- whenever suspended jobs exist the current job is suspended
  (sus.isEmpty || (match s.currentJob with | some c => sus.contains c | none => false)) &&
  -- with two or more the previous job is too
  (sus.length < 2 || (match s.previousJob with | some p => sus.contains p | none => false)) &&
  -- each process ID designates at most one job, and the pid index agrees with the table
  nodupB (pidsOf s.entries) &&
  occ.all (fun i => match gets s.entries i with
                    | some j => lookup s.pids j.pid == some i
                    | none => false)

/-- `Pre (insert j)`: pid fresh or designating a job that is not alive -/
def insertPre (s : JobList) (pid : Nat) : Bool :=
  match lookup s.pids pid with
  | none => true
  | some i => match gets s.entries i with
    | some j => !j.state.isAlive
    | none => true

def opPre (s : JobList) : Op → Bool
  | .insert pid _ => insertPre s pid
  | .insertJob pid _ _ _ => insertPre s pid
  | .amp pid _ _ _ => insertPre s pid
  | .hjs pid r _ _ => !r.isStopped || insertPre s pid
  | .addJob pid _ => insertPre s pid
  | .ajs pid r _ _ => !r.isStopped || insertPre s pid
  | _ => true

/-- "a job's number never changes while the job exists": every pid present before is, after the
    step, either at the same index or absent. -/
def stableB (s s' : JobList) : Bool :=
  (occupied s.entries).all fun i =>
    match gets s.entries i with
    | none => true
    | some j =>
      (match gets s'.entries i with
       | some j' => j'.pid == j.pid
       | none => false) || !(pidsOf s'.entries).contains j.pid


/-! ### what the documentation says about job IDs, `jobs`, `bg`, `fg`, `cmd &`

  `docs/src/interactive/job_control.md` ("Job IDs", "Current and previous jobs"),
  `docs/src/builtins/{jobs,bg,fg}.md`, `docs/src/language/parameters/special.md` (`!`). -/

/-- indices of the jobs whose command string satisfies `p` -/
def jobsWhere (s : JobList) (p : List Char → Bool) : List Nat := matchingIdx s.entries (fun j => p j.name) 0

def uniqueOf : List Nat → Option Nat
  | [i] => some i
  | _ => none

/-- "Job IDs": `%`, `%%`, `%+` the current job; `%-` the previous job; `%n` job number `n`;
    `%foo` the job whose command string starts with `foo`; `%?foo` … contains `foo`.
    Outer `none`: not a job ID (no leading `%`).  Inner `none`: no such job, or not exactly one. -/
def docDesignates (s : JobList) (op : List Char) : Option (Option Nat) :=
  match op with
  | '%' :: t =>
    if t = [] ∨ t = ['%'] ∨ t = ['+'] then some s.currentJob
    else if t = ['-'] then some s.previousJob
    else match t with
      | '?' :: sub => some (uniqueOf (jobsWhere s (fun n => containsL n sub)))
      | _ =>
        if t.all isDigitC ∧ digitsVal t ≠ 0 then
          some (if (s.get (digitsVal t - 1)).isSome then some (digitsVal t - 1) else none)
        else some (uniqueOf (jobsWhere s (fun n => isPrefixOfL t n)))
  | _ => none

/-- the lines of a text: split at every `\n` (a text that ends with `\n` has an empty last line) -/
def splitLines : List Char → List (List Char)
  | [] => [[]]
  | c :: t =>
    if c = '\n' then [] :: splitLines t
    else match splitLines t with
      | l :: ls => (c :: l) :: ls
      | [] => [[c]]

/-- `[<digits>] <m>…` : the job number and the marker character of one report line -/
def headOf (l : List Char) : Option (Nat × Char) :=
  match l with
  | '[' :: r =>
    match r.dropWhile isDigitC with
    | ']' :: ' ' :: m :: _ => some (digitsVal (r.takeWhile isDigitC), m)
    | _ => none
  | _ => none

/-- the `(number, marker)` pairs of the lines of a `jobs` report (default and `-l` format);
    characterised by `reportHeads_jobsPrint` (ReportTheorems.lean) -/
def reportHeads (out : List Char) : List (Nat × Char) := (splitLines out).filterMap headOf

/-- "`jobs` output: the current job is marked with `+`, and the previous job with `-`" -/
def markersOk (s : JobList) (out : List Char) : Bool :=
  (reportHeads out).all fun (n, m) =>
    (m == '+') == (s.currentJob == some (n - 1)) && (m == '-') == (s.previousJob == some (n - 1)) &&
    (m == '+' || m == '-' || m == ' ')

/-- "When the built-in reports a finished job, it removes the job from the job list": the jobs
    reported (`idxs`) that were finished are gone, every other job is still at its index -/
def jobsRemovalOk (s s' : JobList) (idxs : List Nat) : Bool :=
  (occupied s.entries).all fun i =>
    match s.get i with
    | none => true
    | some j =>
      if idxs.contains i && !j.state.isAlive then (s'.get i).isNone
      else (match s'.get i with | some j' => j'.pid == j.pid && j'.state == j.state | none => false)

/-- "When a job is suspended, it becomes the current job, and the previous current job becomes the
    previous job" (job_control.md, "Current and previous jobs").  `becameSuspended s op` is the pid
    of the job that becomes suspended in the step `op` from `s`, with `true` if it is entered into
    the list already suspended (`insert`, also through `handle_job_status`) and `false` if a job of
    the list goes from not suspended to suspended (`update_status`). -/
def becameSuspended (s : JobList) : Op → Option (Nat × Bool)
  | .insert pid st => if st.isStopped then some (pid, true) else none
  | .insertJob pid st _ _ => if st.isStopped then some (pid, true) else none
  | .hjs pid r _ _ => if r.isStopped then some (pid, true) else none
  | .addJob pid st => if st.isStopped then some (pid, true) else none
  | .ajs pid r _ _ => if r.isStopped then some (pid, true) else none
  | .update pid st =>
    if st.isStopped then
      match (lookup s.pids pid).bind s.get with
      | some j => if j.isSuspended then none else some (pid, false)
      | none => none
    else none
  | _ => none

/-- the clause on the step `s → s'`: the job with that pid is the current job, and the job that
    was the current job (if it is another one and still in the list) is the previous job -/
def suspendedBecomesCurrent (s s' : JobList) (pid : Nat) : Bool :=
  match lookup s'.pids pid with
  | none => false
  | some j =>
    s'.currentJob == some j &&
    (match s.currentJob with
     | none => true
     | some c => c == j || (s'.get c).isNone || s'.previousJob == some c)

/-- the message of the KNOWN FINDING (KNOWN_FINDINGS.txt): the clause fails on the `insert` path -/
def knownInsertMsg : String := "doc-suspended-becomes-current@insert"

/-- every job of `s` other than the one in slot `except` is still in its slot, unchanged, and no slot
    of `s'` is new: the step touched at most the job in `except` -/
def othersUntouched (s s' : JobList) (except : Option Nat) : Bool :=
  ((occupied s.entries).all fun i => except == some i || s'.get i == s.get i) &&
  ((occupied s'.entries).all fun i => (s.get i).isSome)

/-- "`fg` … If the resumed job finishes, it is removed from the job list" and job_control.md "Job
    list": a job that terminated in the background stays in the list until `jobs` or `wait`
    retrieves its status.  So `fg` may touch only the job it resumes (`target`), and may remove it
    only if it ends in a state that is not alive (`final`). -/
def fgLicence (s s' : JobList) (target : Option Nat) (final : Option PState) : Bool :=
  othersUntouched s s' target &&
  (match target with
   | none => true
   | some t => (s'.get t).isSome || (s.get t).isNone || (match final with | some f => !f.isAlive | none => false))

/-- `bg` removes nothing and records no state change -/
def bgLicence (s s' : JobList) : Bool :=
  ((occupied s.entries).all fun i =>
    match s.get i, s'.get i with
    | some j, some j' => j'.pid == j.pid && j'.state == j.state
    | _, _ => false) &&
  ((occupied s'.entries).all fun i => (s.get i).isSome)

/-- `wait` removes only jobs that have finished or are not owned; every other job is untouched -/
def waitLicence (s s' : JobList) : Bool :=
  ((occupied s.entries).all fun i =>
    match s.get i with
    | none => true
    | some j => s'.get i == some j || ((s'.get i).isNone && (!j.state.isAlive || !j.owned))) &&
  ((occupied s'.entries).all fun i => (s.get i).isSome)

/-- the prompt report (`input::reporter::report`) removes nothing and touches only the `state_changed`
    flags: with `interactive` and `monitor` on every job is as before with the flag cleared, otherwise
    nothing differs; no slot is new -/
def promptLicence (s s' : JobList) (on : Bool) : Bool :=
  ((occupied s.entries).all fun i =>
    s'.get i == (if on then (s.get i).map (fun j => { j with changed := false }) else s.get i)) &&
  ((occupied s'.entries).all fun i => (s.get i).isSome)

/-- indices of the jobs whose state has changed since the last report -/
def changedIdx (s : JobList) : List Nat := matchingIdx s.entries (·.changed) 0

/-- `update_all_subshell_statuses` removes nothing and adds nothing: every slot holds the same pid, in
    the recorded state or in the state one of the events reports for that pid -/
def syncLicence (s s' : JobList) (evs : List Ev) : Bool :=
  ((occupied s.entries).all fun i =>
    match s.get i, s'.get i with
    | some j, some j' => j'.pid == j.pid && (j'.state == j.state || evs.contains (j.pid, j'.state))
    | _, _ => false) &&
  ((occupied s'.entries).all fun i => (s.get i).isSome)

/-- `wait` while the system reports `evs`: a job keeps its slot and pid (its state the recorded one or
    one an event reports for its pid), or it is gone — and then it was not owned, or had finished, or
    an event reports for its pid a state that is not alive; no slot is new -/
def waitEvLicence (s s' : JobList) (evs : List Ev) : Bool :=
  ((occupied s.entries).all fun i =>
    match s.get i with
    | none => true
    | some j =>
      match s'.get i with
      | some j' => j'.pid == j.pid && (j'.state == j.state || evs.contains (j.pid, j'.state))
      | none => !j.owned || !j.state.isAlive || evs.any (fun e => e.1 == j.pid && !e.2.isAlive)) &&
  ((occupied s'.entries).all fun i => (s.get i).isSome)

/-- "Signaling jobs": `kill %job` signals the process group of the job the job ID designates; the
    built-in refuses a job that is not owned, not job-controlled or finished -/
def killCheck (s : JobList) (arg : Str) : Option String :=
  match arg with
  | '%' :: _ =>
    (match killTarget s arg, ((docDesignates s arg).join).bind s.get with
     | .ok (true, p), some j =>
       if j.pid = p ∧ j.state.isAlive ∧ j.owned ∧ j.jc then none else some "kill-designation"
     | .ok _, _ => some "kill-designation"
     | .error e, none => if e = "nf" ∨ e = "amb" then none else some "kill-designation"
     | .error e, some j =>
       if e = "nf" ∨ e = "amb" then some "kill-designation"
       else if j.state.isAlive ∧ j.owned ∧ j.jc then some "kill-refused" else none)
  | _ => none

/-! ### wave 3: what the doc comments of `remove_if` / `extract_if` / `remove` / `add` / `state_reported` /
    `add_job_if_suspended` promise, as checks on one step `s → s'` -/

/-- the job numbers whose job the predicate selects, ascending ("Jobs are iterated in the order of indices") -/
def selectedIdx (s : JobList) (pred : Nat → Job → Bool) : List Nat :=
  (occupied s.entries).filter fun i => match gets s.entries i with | some j => pred i j | none => false

/-- slot by slot: a selected job is gone, any other job is the same job (`state_changed` cleared iff the closure
    reports and the iterator got that far), a vacant slot stays vacant -/
def slotsOk (s s' : JobList) (sel : List Nat) (report : Bool) (visited : Nat → Bool) : Bool :=
  (List.range (max s.entries.length s'.entries.length)).all fun i =>
    gets s'.entries i ==
      (match gets s.entries i with
       | none => none
       | some j => if sel.contains i then none
                   else some (if report && visited i then { j with changed := false } else j))

/-- `remove`: a current job that stays is still the current job; if it goes and the previous job stays, that one is
    the current job; if both stay the previous job stays -/
def curRule (s s' : JobList) (sel : List Nat) : Option String :=
  match s.currentJob with
  | none => none
  | some c =>
    if !sel.contains c then
      if s'.currentJob != some c then some "rmif-current"
      else match s.previousJob with
        | some p => if !sel.contains p && s'.previousJob != some p then some "rmif-previous" else none
        | none => none
    else match s.previousJob with
      | some p => if !sel.contains p && s'.currentJob != some p then some "rmif-current" else none
      | none => none

/-- where an iterator advanced `n` times stops: behind its `n`-th removal (`none`: it ran to the end) -/
def takeCut (selAll : List Nat) (n : Nat) : Option Nat :=
  if n = 0 then some 0 else if selAll.length < n then none else (selAll.take n).getLast?.map (· + 1)

/-- has the iterator got as far as slot `i`? -/
def visitedAt (cut : Option Nat) (i : Nat) : Bool :=
  match cut with | some c => decide (i < c) | none => true

/-- `remove_if` (`take = none`, `returned = none`), `extract_if` drained (`returned` = what the iterator yielded)
    or advanced `n` times and dropped (`take = some n`): the selected jobs (the first `n` of them) are gone and are
    what was yielded; every other job is in its slot unchanged, `state_changed` cleared iff the closure reports
    and the iterator got that far ("the remaining jobs are retained in the list"); nothing is added; the
    current / previous rule of `remove`; `$!` is not touched. -/
def removalSpec (s s' : JobList) (pred : Nat → Job → Bool) (report : Bool) (take : Option Nat)
    (returned : Option (List Nat)) : Option String :=
  let selAll := selectedIdx s pred
  let sel := match take with | some n => selAll.take n | none => selAll
  let cut : Option Nat := match take with | none => none | some n => takeCut selAll n
  let visited : Nat → Bool := visitedAt cut
  if !slotsOk s s' sel report visited then some "rmif-table"
  else if returned.isSome && returned != some sel then some "rmif-result"
  else if s'.lastAsync != s.lastAsync then some "rmif-async"
  else curRule s s' sel

/-- the visible table: slots, current and previous job, `$!`, the pid index of every job -/
def sameTable (a b : JobList) : Bool :=
  let n := max a.entries.length b.entries.length
  (List.range n).all (fun i => gets a.entries i == gets b.entries i) &&
  a.currentJob == b.currentJob && a.previousJob == b.previousJob && a.lastAsync == b.lastAsync &&
  (pidsOf a.entries ++ pidsOf b.entries).all (fun p => lookup a.pids p == lookup b.pids p)

/-- `get_mut(i).state_reported()`: only the `state_changed` flag of slot `i` -/
def reportOneSpec (s s' : JobList) (i : Nat) : Bool :=
  let n := max s.entries.length s'.entries.length
  (List.range n).all (fun k =>
    gets s'.entries k == (if k = i then (gets s.entries i).map (fun j => { j with changed := false }) else gets s.entries k)) &&
  s'.currentJob == s.currentJob && s'.previousJob == s.previousJob && s'.lastAsync == s.lastAsync

/-- the wave-3 operations -/
def docCheckApi (s s' : JobList) : Op → Option String
  | .removeIf p r => removalSpec s s' p.eval r none none
  | .extractIf p r => removalSpec s s' p.eval r none (some (s.removeIf p.eval r).1)
  | .extractTake n p r => removalSpec s s' p.eval r (some n) (some (s.extractTake n p.eval r).1)
  -- a closure that counts: exactly the first `k` selected jobs go
  | .removeIfFirst k p r =>
    removalSpec s s' (fun i _ => ((selectedIdx s p.eval).take k).contains i) r none none
  | .reportOne i => if reportOneSpec s s' i then none else some "rep1-table"
  -- "This function is an alias for `insert`"
  | .addJob pid st => if sameTable s' (s.insert { pid := pid, state := st }).2 then none else some "add-differs-from-insert"
  -- "If the process result indicates that the process is stopped, this function adds a job …  The job is marked as
  -- job-controlled and its state is derived from the process result.  The job name is set to the result of the
  -- `name` closure.  If the process is not stopped, this function does not add a job."
  | .ajs pid r _ name =>
    if r.isStopped then
      (match (lookup s'.pids pid).bind s'.get with
       | some j => if j.pid = pid ∧ j.state = r ∧ j.jc = true ∧ j.name = name then none else some "ajs-job"
       | none => some "ajs-job")
    else if sameTable s' s then none else some "ajs-table"
  | _ => none

/-- per-operation documentation checks evaluated on the model's own step `s → s'` with output `o` -/
def docCheck (s s' : JobList) (op : Op) (o : Out) : Option String :=
  match op with
  | .jobs args =>
    if o.status ≠ 0 then none
    else if !markersOk s o.stdout && !((parseArgs ['l', 'p'] args).map (·.1.contains 'p')).getD false then some "marker"
    else
      match (parseArgs ['l', 'p'] args) with
      | some (_, operands) =>
        let idxs := if operands.isEmpty then some (occupied s.entries)
                    else operands.mapM (fun op => (docDesignates s (if op.head? = some '%' then op else '%' :: op)).join)
        (match idxs with
         | some idxs => if jobsRemovalOk s s' idxs then none else some "jobs-removal"
         | none => some "jobs-designation")
      | none => none
  | .wait _ => if waitLicence s s' then none else some "wait-removal"
  | .bg _ args =>
    -- "The (last) resumed job's process ID is set to the `!` special parameter."  With several
    -- operands an earlier one changes what `%+`/`%-` mean for a later one (the resumed job becomes
    -- the current job), so the check is made for at most one operand.
    if !bgLicence s s' then some "bg-removal"
    else if o.status ≠ 0 then none
    else
      let target : Option (Option Nat) :=
        match (parseArgs [] args) with
        | some (_, []) => some s.currentJob
        | some (_, [op]) => some (docDesignates s op).join
        | _ => none
      (match target with
       | none => none
       | some t =>
         match t.bind s.get with
         | some j => if s'.lastAsync = j.pid then none else some "bg-async"
         | none => some "bg-designation")
  | .fg _ _ outcome args =>
    if o.errs ≠ [] then (if othersUntouched s s' none then none else some "fg-others")
    else
      let target : Option Nat :=
        match (parseArgs [] args) with
        | some (_, []) => s.currentJob
        | some (_, [op]) => (docDesignates s op).join
        | _ => none
      (match target with
       | none => some "fg-designation"
       | some i =>
         match s.get i with
         | none => some "fg-designation"
         | some j =>
           -- "If the resumed job finishes, it is removed from the job list.  If the job gets
           -- suspended again, it is set as the current job."
           let final := if j.state.isAlive then outcome else j.state
           if !fgLicence s s' (some i) (some final) then some "fg-others"
           else if final.isStopped then (if s'.currentJob = some i then none else some "fg-current")
           else if (s'.get i).isNone then none else some "fg-removal")
  | .wres arg =>
    (match waitSpecOf arg with
     | some (.jobId op) =>
       let m : Option Nat := match waitResolve s (.jobId op) with | .ok r => r | .error _ => none
       if (docDesignates s op).join = m then none else some "wres-designation"
     | _ => none)
  | .amp pid _ _ name =>
    -- `$!` is the process ID of the last asynchronous command, which is a job in the list
    (match lookup s'.pids s'.lastAsync with
     | some i =>
       (match s'.get i with
        | some j => if s'.lastAsync = pid ∧ j.pid = pid ∧ j.name = name ∧ j.state = .running then none else some "amp-job"
        | none => some "amp-job")
     | none => some "amp-async")
  | .prompt m i =>
    if !promptLicence s s' (m && i) then some "prompt-table"
    else if !markersOk s o.stdout then some "marker"
    else if (reportHeads o.stdout).map (·.1 - 1) ≠ (if m && i then changedIdx s else []) then some "prompt-jobs"
    else none
  | .sync evs => if syncLicence s s' evs then none else some "sync-table"
  | .waitEv evs _ => if waitEvLicence s s' evs then none else some "wait-removal"
  | .kres arg => killCheck s arg
  | .removeIf p r => docCheckApi s s' (.removeIf p r)
  | .extractIf p r => docCheckApi s s' (.extractIf p r)
  | .extractTake n p r => docCheckApi s s' (.extractTake n p r)
  | .reportOne i => docCheckApi s s' (.reportOne i)
  | .removeIfFirst k p r => docCheckApi s s' (.removeIfFirst k p r)
  | .addJob pid st =>
    (match docCheckApi s s' (.addJob pid st) with
     | some m => some m
     | none =>
       if st.isStopped ∧ !suspendedBecomesCurrent s s' pid then some knownInsertMsg else none)
  | .ajs pid r i name =>
    (match docCheckApi s s' (.ajs pid r i name) with
     | some m => some m
     | none =>
       if r.isStopped ∧ !suspendedBecomesCurrent s s' pid then some knownInsertMsg else none)
  | op =>
    (match becameSuspended s op with
     | none => none
     | some (pid, viaInsert) =>
       if suspendedBecomesCurrent s s' pid then none
       else some (if viaInsert then knownInsertMsg else "doc-suspended-becomes-current@update"))

end YashModel.Job
