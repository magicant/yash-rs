/-
  C12 — the invariant along every history and what it means, index stability, job IDs and `$!`.

  Property text: "Across every history of jobs being added, suspended, resumed, finished, reported
  and removed, the job table stays consistent: a non-empty table has a current job; two or more
  jobs imply a previous job distinct from it; whenever suspended jobs exist the current job is
  suspended, and with two or more the previous job is too; each process ID designates at most one
  job; and a job's number never changes while the job exists.  `%%`, `%+`, `%-`, `%n` and `$!`
  therefore always designate the jobs the documentation says they do."
-/
import YashModel.Job.ExtractLoop
import YashModel.Job.Histories
namespace YashModel.Job

/-- ★ the invariant holds initially -/
theorem inv_init : Inv JobList.empty := by
  refine ⟨?_, ?_, ?_⟩
  · unfold JInv JobList.empty; simp [gets_nil]
  · intro p i; simp [JobList.empty, lookup, gets_nil]
  · exact ⟨by simp [JobList.empty], by simp [JobList.empty]⟩

/-- an operation that neither inserts a job nor sets `$!` is a composition of the primitive steps -/
theorem step_respects {R : JobList → JobList → Prop} (hR : Respects R) (s : JobList) (op : Op)
    (hop : match op with
      | .insert .. | .insertJob .. | .addJob .. | .amp .. | .hjs .. | .ajs .. | .setAsync _ | .bg .. => False
      | _ => True) : R s (step s op) := by
  cases op with
  | update pid st => exact hR.update s pid st
  | setCurrent i => exact setCurrentOk_respects hR.marks s i
  | remove i => exact hR.remove s i
  | removeIfDone r | removeIfChanged | removeIf p r | extractIf p r => exact extractLoop_respects hR _ _ _ _ _ _ _
  | removeIfFirst k p r => simp only [step, removeIfS_eq]; exact extractLoop_respects hR _ _ _ _ _ _ _
  | extractTake n p r => exact extractLoopN_respects hR _ _ _ _ _ _ _ _
  | report | disown => exact hR.mapJobs s _ fun _ => ⟨rfl, rfl⟩
  | expect i st => exact expect_respects hR.marks s i st
  | reportOne i => exact reportOne_respects hR s i
  | reportLast => exact reportLast_respects hR s
  | jobs args => exact jobsBuiltin_respects hR s args
  | jobsClosed args => exact jobsClosed_respects hR s args
  | fg m i out args => exact fgBuiltin_respects hR s m i out args
  | wait args => exact waitBuiltin_respects hR s args
  | waitEv evs args => exact waitBuiltinEv_respects hR s evs args
  | sync evs => exact updateAll_respects hR s evs
  | prompt m i => exact promptReport_respects hR s m i
  | wres _ | ampFail | kres _ | bang | promptClosed _ _ | subJobs _ | subWait _ => exact hR.refl s
  | insert _ _ | insertJob _ _ _ _ | addJob _ _ | amp _ _ _ _ | hjs _ _ _ _ | ajs _ _ _ _ | setAsync _ | bg _ _ =>
    exact hop.elim

/-- ★ every operation preserves it — the `JobList` API calls, and the built-ins `jobs`, `bg`, `fg`,
    `wait` (also while the system reports state changes) and the asynchronous command `cmd &` as wholes,
    `Env::update_all_subshell_statuses` and the prompt report of an interactive shell -/
theorem inv_step (s : JobList) (op : Op) (h : Inv s) (hpre : opPre s op = true) : Inv (step s op) := by
  cases op with
  | insert pid st | insertJob pid st jc name | addJob pid st => exact insert_inv s _ h hpre
  | setAsync pid => exact setLastAsync_inv s pid h
  | bg m args => exact bgBuiltin_respects respects_inv.marks setLastAsync_inv s m args h
  | amp pid m i name => exact ampersand_inv s pid m i name h hpre
  | hjs pid r i name | ajs pid r i name =>
    simp only [step, ajs_table]
    exact hjs_rel s pid r i name h fun hs => insert_inv s _ h (by simpa [opPre, hs] using hpre)
  | _ => exact step_respects respects_inv s _ trivial h

/-- ★ hence it holds after every history — any length, any number of jobs -/
theorem inv_reachable (ops : List Op) (s : JobList) (h : Inv s) (hp : PathPre s ops) : Inv (run s ops) := by
  induction ops generalizing s with
  | nil => exact h
  | cons op ops ih => exact ih _ (inv_step s op h hp.1) hp.2

/-- ★ the invariant implies the property text -/
theorem consistent_of_inv (s : JobList) (h : Inv s) : Consistent s := by
  obtain ⟨⟨h1, h2, h3, h4⟩, hP, _⟩ := id h
  -- of two occupied slots one is not the current job's
  have other : ∀ {i i' : Nat} {j j' : Job} (Q : Job → Prop), i ≠ i' → gets s.entries i = some j → Q j →
      gets s.entries i' = some j' → Q j' → ∃ k jk, k ≠ s.cur ∧ gets s.entries k = some jk ∧ Q jk := by
    intro i i' j j' Q hne hi hq hi' hq'
    by_cases hc : i = s.cur
    · exact ⟨i', j', fun e => hne (hc.trans e.symm), hi', hq'⟩
    · exact ⟨i, j, hc, hi, hq⟩
  refine ⟨?_, ?_, ?_, ?_, ?_, ?_⟩
  · rintro ⟨i, j, hij⟩
    obtain ⟨j', hj'⟩ := h1 i j hij
    exact ⟨s.cur, j', currentJob_of_inv h hij, hj'⟩
  · rintro ⟨i, i', j, j', hne, hi, hi'⟩
    obtain ⟨k, jk, hk1, hk2, _⟩ := other (fun _ => True) hne hi trivial hi' trivial
    obtain ⟨hpc, jp, hjp⟩ := h2 k jk hk1 hk2
    refine ⟨s.prev, jp, previousJob_of_inv h hk1 hk2, hjp, ?_⟩
    rw [currentJob_of_inv h hk2]; exact fun e => hpc (Option.some.inj e).symm
  · rintro ⟨i, j, hij, hs⟩
    obtain ⟨j', hj', hs'⟩ := h3 i j hij hs
    exact ⟨s.cur, j', currentJob_of_inv h hij, hj', hs'⟩
  · rintro ⟨i, i', j, j', hne, hi, hs, hi', hs'⟩
    obtain ⟨k, jk, hk1, hk2, hk3⟩ := other (·.isSuspended = true) hne hi hs hi' hs'
    obtain ⟨jp, hjp, hsp⟩ := h4 k jk hk1 hk2 hk3
    exact ⟨s.prev, jp, previousJob_of_inv h hk1 hk2, hjp, hsp⟩
  · intro i i' j j' hi hi' hpid
    have b := lookup_of_inv h hi'
    rw [← hpid, lookup_of_inv h hi] at b; cases b; rfl
  · exact fun i j hi => lookup_of_inv h hi

/-- ★ the property statement for every history from the empty table -/
theorem consistent_reachable (ops : List Op) (hp : PathPre JobList.empty ops) :
    Consistent (run JobList.empty ops) :=
  consistent_of_inv _ (inv_reachable ops _ inv_init hp)

theorem stable_of_sub (s s' : JobList) (h : Inv s) (hs : Sub s s') : Stable s s' := by
  simp only [Stable, JobList.get_eq]
  intro i j hi
  have hu := (consistent_of_inv s h).pid_unique
  rcases hs i with hn | ⟨a, a', ha, ha', hp⟩
  · right
    intro i' j' hi' hpid
    rcases hs i' with hn' | ⟨b, b', hb, hb', hp'⟩
    · rw [hn'] at hi'; cases hi'
    · rw [hb'] at hi'; cases hi'
      have := hu i' i b j hb hi (by rw [← hp', hpid])
      subst this
      rw [hn] at hb'; cases hb'
  · left
    rw [ha] at hi; cases hi
    exact ⟨a', ha', hp⟩

theorem insert_stable (s : JobList) (job : Job) (h : Inv s) : Stable s (s.insert job).2 := by
  simp only [Stable, JobList.get_eq]
  intro i j hi
  left
  rw [insert_gets s job h]
  by_cases e : i = (s.insert job).1
  · rw [if_pos e]; exact ⟨job, rfl, (insert_replaces s job h (e ▸ hi)).symm⟩
  · rw [if_neg e]; exact ⟨j, hi, rfl⟩

/-- ★ index stability for every operation, built-ins included -/
theorem index_stable (s : JobList) (op : Op) (h : Inv s) (hpre : opPre s op = true) : Stable s (step s op) := by
  cases op with
  | insert pid st | insertJob pid st jc name | addJob pid st => exact insert_stable s _ h
  | amp pid m i name => exact insert_stable s (asyncJob pid m name) h
  | setAsync pid => exact stable_of_sub _ _ h (Sub.refl s)
  | bg m args => exact stable_of_sub _ _ h (bgBuiltin_sub s m args)
  | hjs pid r i name | ajs pid r i name =>
    simp only [step, ajs_table]
    exact hjs_rel s pid r i name (stable_of_sub _ _ h (Sub.refl s)) fun _ => insert_stable s _ h
  | _ => exact stable_of_sub _ _ h (step_respects respects_sub s _ trivial)

/-- ★ `%%`/`%+` designate the current job, `%-` the previous job, `%n` the job at index `n-1`
    (that `%%` succeeds on a consistent non-empty table is `jobid_current_total`). -/
theorem jobid_designates (s : JobList) :
    (∀ i, JobId.current.find s = .ok i ↔ s.currentJob = some i) ∧
    (∀ i, JobId.previous.find s = .ok i ↔ s.previousJob = some i) ∧
    (∀ n i, 1 ≤ n → ((JobId.number n).find s = .ok i ↔ i = n - 1 ∧ ∃ j, s.get (n - 1) = some j)) := by
  refine ⟨?_, ?_, ?_⟩
  · intro i; unfold JobId.find; cases s.currentJob <;> simp
  · intro i; unfold JobId.find; cases s.previousJob <;> simp
  · intro n i _
    simp only [JobId.find, JobList.get_eq]
    cases hg : gets s.entries (n - 1) with
    | none => simp
    | some j => simp [eq_comm]

theorem jobid_current_total (s : JobList) (h : Inv s) (hne : ∃ i j, s.get i = some j) :
    ∃ c, JobId.current.find s = .ok c := by
  obtain ⟨c, j, hc, _⟩ := (consistent_of_inv s h).current_exists hne
  exact ⟨c, ((jobid_designates s).1 c).mpr hc⟩

/-- ★ `$!` changes only through `set_last_async_pid`: directly, in `cmd &` (the pid of the new
    child) and in `bg` (see `bg_resumed`); `jobs`, `fg`, `wait` leave it alone. -/
theorem last_async (s : JobList) (op : Op) :
    (step s op).lastAsync = match op with
      | .setAsync p => p
      | .amp p _ _ _ => p
      | .bg m args => (bgBuiltin s m args).2.lastAsync
      | _ => s.lastAsync := by
  cases op with
  | insert pid st | insertJob pid st jc name | addJob pid st => exact insert_lastAsync s _
  | setAsync pid | bg m args | amp pid m i name => rfl
  | hjs pid r i name | ajs pid r i name =>
    simp only [step, ajs_table]
    exact hjs_rel (P := fun t => t.lastAsync = s.lastAsync) s pid r i name rfl fun _ => insert_lastAsync s _
  | _ => exact step_respects respects_async s _ trivial

theorem pathPre_append (s : JobList) (ops : List Op) (op : Op) (h : PathPre s ops)
    (hop : opPre (run s ops) op = true) : PathPre s (ops ++ [op]) := by
  induction ops generalizing s with
  | nil => exact ⟨hop, trivial⟩
  | cons o rest ih => exact ⟨h.1, ih _ h.2 hop⟩

/-- ★ every table the driver can print satisfies the invariant, hence the property text, and stays
    reachable under every further operation (built-ins included) that respects the precondition -/
theorem reachable_consistent (s : JobList) (h : Reachable s) :
    Inv s ∧ Consistent s ∧ ∀ op, opPre s op = true → Reachable (step s op) := by
  obtain ⟨ops, hp, e⟩ := h
  subst e
  have hinv := inv_reachable ops _ inv_init hp
  refine ⟨hinv, consistent_of_inv _ hinv, ?_⟩
  intro op hop
  refine ⟨ops ++ [op], pathPre_append _ ops op hp hop, ?_⟩
  simp [run, List.foldl_append]

/-- ★ "a job's number never changes while the job exists", over a whole history: if the pid of the
    job in slot `i` is in the table after every prefix of the history, the job is still in slot `i`
    at the end -/
theorem index_stable_history (ops : List Op) (s : JobList) (h : Inv s) (hp : PathPre s ops)
    (i : Nat) (j : Job) (hi : s.get i = some j)
    (hlive : ∀ k, k ≤ ops.length → ∃ i' j', (run s (ops.take k)).get i' = some j' ∧ j'.pid = j.pid) :
    ∃ j', (run s ops).get i = some j' ∧ j'.pid = j.pid := by
  induction ops generalizing s j with
  | nil => exact ⟨j, hi, rfl⟩
  | cons op rest ih =>
    have hst := index_stable s op h hp.1 i j hi
    obtain ⟨i1, j1, hj1, hp1⟩ := hlive 1 (by simp)
    have hrun1 : run s ((op :: rest).take 1) = step s op := by simp [run]
    rw [hrun1] at hj1
    rcases hst with ⟨j', hj', hpid⟩ | habs
    · have := ih (step s op) (inv_step s op h hp.1) hp.2 j' hj' (by
        intro k hk
        obtain ⟨i2, j2, h2, hp2⟩ := hlive (k + 1) (by simp; omega)
        refine ⟨i2, j2, ?_, by rw [hp2, hpid]⟩
        simpa [run] using h2)
      obtain ⟨j'', h1, h2⟩ := this
      exact ⟨j'', by simpa [run] using h1, by rw [h2, hpid]⟩
    · exact absurd hp1 (habs i1 j1 hj1)

/-- ★ `$!` expands to the process ID recorded by `set_last_async_pid` and is unset while that is 0; after
    `name &` with child `pid ≠ 0` it is `pid`, which designates the new job through the pid index
    (`amp_designates`); operations other than `cmd &`, `bg` and `set_last_async_pid` never change it -/
theorem bang_designates (s : JobList) :
    (∀ p, bangValue s = some p ↔ s.lastAsync = p ∧ p ≠ 0) ∧
    (bangValue s = none ↔ s.lastAsync = 0) ∧
    (∀ pid m i name, pid ≠ 0 → bangValue (ampersand s pid m i name).2 = some pid) ∧
    (∀ op, (match op with | .setAsync _ | .amp _ _ _ _ | .bg _ _ => False | _ => True) →
      bangValue (step s op) = bangValue s) := by
  refine ⟨?_, ?_, ?_, ?_⟩
  · intro p
    unfold bangValue
    by_cases h : s.lastAsync = 0
    · rw [if_neg (fun hn => hn h)]
      constructor
      · intro e; cases e
      · rintro ⟨e, hp⟩; exact absurd (e.symm.trans h) hp
    · rw [if_pos h]
      constructor
      · intro e; cases e; exact ⟨rfl, h⟩
      · rintro ⟨e, _⟩; rw [e]
  · unfold bangValue; by_cases h : s.lastAsync = 0 <;> simp [h]
  · intro pid m i name hp
    simp [bangValue, ampersand, JobList.setLastAsync, hp]
  · intro op hop
    unfold bangValue
    rw [last_async]
    cases op with
    | setAsync _ | amp _ _ _ _ | bg _ _ => exact hop.elim
    | _ => rfl

/-- without the precondition the consistency conditions can break: a suspended current job is
    overwritten by a running one carrying the same pid while another job is suspended -/
example :
    let ops := [Op.insert 1 (.stopped 19), Op.insert 2 (.stopped 19)]
    invB (run JobList.empty (ops ++ [Op.insert 1 .running])) = false ∧
    opPre (run JobList.empty ops) (Op.insert 1 .running) = false := by
  decide +kernel

example : invB (run JobList.empty sampleHistory) = true ∧ (run JobList.empty sampleHistory).len = 2 := by
  decide +kernel

example : Reachable (run JobList.empty holeHistory) := ⟨holeHistory, by simp [holeHistory, PathPre]; decide +kernel, rfl⟩

/-- the situation of `index_stable_history` on that history: slot 1 holds pid 102 after two operations and is
    occupied after every prefix of the remaining ones (occupancy only: the theorem's hypothesis, that pid 102 is
    somewhere in the table after every prefix, is not what is evaluated here) -/
example :
    let s := run JobList.empty (holeHistory.take 2)
    (∃ j, s.get 1 = some j ∧ j.pid = 102) ∧
    ∀ k, k ≤ 3 → (run s ((holeHistory.drop 2).take k)).get 1 ≠ none := by
  refine ⟨by decide +kernel, ?_⟩
  intro k hk
  have : k = 0 ∨ k = 1 ∨ k = 2 ∨ k = 3 := by omega
  rcases this with e | e | e | e <;> subst e <;> decide +kernel

/-- seed "insert with a reused pid loses the previous job": two running jobs, the current one
    finishes, a SUSPENDED job with the same pid is inserted — there still is a previous job,
    distinct from the current job (`consistent_reachable.previous_exists`) -/
example :
    let ops := [Op.insert 101 .running, .insert 102 .running, .update 101 (.exited 0), .insert 101 (.stopped 20)]
    PathPre JobList.empty ops ∧
    (run JobList.empty (ops.take 3)).currentJob = some 0 ∧
    (run JobList.empty ops).currentJob = some 0 ∧ (run JobList.empty ops).previousJob = some 1 := by
  refine ⟨by simp [PathPre]; decide +kernel, by decide +kernel, by decide +kernel, by decide +kernel⟩

/-- seed "a stopped current job is killed": two suspended jobs, the current one goes
    Stopped → Signaled directly — the other suspended job becomes the current job
    (`consistent_reachable.current_suspended`) -/
example :
    let ops := [Op.insert 101 .running, .insert 102 .running, .update 101 (.stopped 19), .update 102 (.stopped 19),
                .update 102 (.signaled 9 false)]
    PathPre JobList.empty ops ∧
    (run JobList.empty (ops.take 4)).currentJob = some 1 ∧
    (run JobList.empty ops).currentJob = some 0 ∧ invB (run JobList.empty ops) = true := by
  refine ⟨by simp [PathPre]; decide +kernel, by decide +kernel, by decide +kernel, by decide +kernel⟩

end YashModel.Job
