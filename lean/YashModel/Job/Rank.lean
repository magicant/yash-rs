/-
  The clauses of the job-table invariant about the current and the previous job (`JInv`), read as a
  ranking of the slots: vacant < occupied < suspended.  The current job is a slot of maximal rank, the
  previous job one of maximal rank among the others (`jinv_iff`).  How such a pair fares when one slot
  changes its rank is all that `insert`, `update_status`, `remove` and `set_current_job` need:
  no rank changes (`Sel.congr`); a slot reaches maximal rank and becomes the current job (`Sel.promote`);
  a slot rises above all others but the current job and becomes the previous job (`Sel.newPrev`), or rises
  but not above the previous job (`Sel.raiseBelow`); the only job arrives (`Sel.ofSingle`); a slot other
  than the current job's falls or is vacated (`Sel.lowerOff`); the current job falls below the previous
  one (`Sel.lowerCur`) or not (`Sel.lowerCurStays`; `Sel.others` is what both read off the other slots).
  What the two searches of the code return is a valid previous job (`isPrev_anySusp`, `isPrev_anyBut`).
-/
import YashModel.Job.Invariant
namespace YashModel.Job

/-- the order in which `JobList` prefers a slot as current job: vacant, occupied, suspended -/
def rk : Option Job → Nat
  | none => 0
  | some j => if j.isSuspended then 2 else 1

/-- slot `c` has maximal rank -/
def IsCur (g : Nat → Option Job) (c : Nat) : Prop := ∀ i, rk (g i) ≤ rk (g c)

/-- slot `p` has maximal rank among the slots other than `c`, and is one of them if any is occupied -/
def IsPrev (g : Nat → Option Job) (c p : Nat) : Prop :=
  ∀ i, i ≠ c → rk (g i) ≤ rk (g p) ∧ (0 < rk (g i) → p ≠ c)

/-- `IsCur` and `IsPrev` of a pair (current, previous) as the reselect functions return it -/
def Sel (g : Nat → Option Job) (cp : Nat × Nat) : Prop := IsCur g cp.1 ∧ IsPrev g cp.1 cp.2

theorem rk_some (j : Job) : rk (some j) = if j.isSuspended then 2 else 1 := rfl

theorem rk_pos {o : Option Job} : 0 < rk o ↔ ∃ j, o = some j := by
  cases o with
  | none => simp [rk]
  | some j => simp only [rk]; split <;> simp

theorem rk_two {o : Option Job} : rk o = 2 ↔ ∃ j, o = some j ∧ j.isSuspended = true := by
  cases o with
  | none => simp [rk]
  | some j => simp only [rk]; split <;> simp [*]

theorem rk_le_two (o : Option Job) : rk o ≤ 2 := by
  cases o with
  | none => simp [rk]
  | some j => simp only [rk]; split <;> simp

theorem isSome_iff_rk (o : Option Job) : o.isSome = true ↔ 0 < rk o := by
  rw [rk_pos, Option.isSome_iff_exists]

theorem suspAt_iff (es : Slab) (i : Nat) : suspAt es i = true ↔ rk (gets es i) = 2 := by
  unfold suspAt; cases gets es i <;> simp [rk]

theorem rk_congr {o o' : Option Job} (h : o'.map (·.isSuspended) = o.map (·.isSuspended)) : rk o' = rk o := by
  cases o <;> cases o' <;> simp_all [rk]

theorem jinv_iff (g : Nat → Option Job) (c p : Nat) : JInv g c p ↔ Sel g (c, p) := by
  have rk_le : ∀ a b : Option Job, rk a ≤ rk b ↔ (0 < rk a → 0 < rk b) ∧ (rk a = 2 → rk b = 2) := by
    intro a b; have := rk_le_two a; have := rk_le_two b; omega
  simp only [JInv, Sel, IsCur, IsPrev, rk_le, rk_pos, rk_two]
  constructor
  · rintro ⟨h1, h2, h3, h4⟩
    exact ⟨fun i => ⟨fun ⟨j, hj⟩ => h1 i j hj, fun ⟨j, hj, hs⟩ => h3 i j hj hs⟩,
      fun i hi => ⟨⟨fun ⟨j, hj⟩ => (h2 i j hi hj).2, fun ⟨j, hj, hs⟩ => h4 i j hi hj hs⟩,
        fun ⟨j, hj⟩ => (h2 i j hi hj).1⟩⟩
  · rintro ⟨hc, hp⟩
    exact ⟨fun i j hj => (hc i).1 ⟨j, hj⟩, fun i j hi hj => ⟨(hp i hi).2 ⟨j, hj⟩, (hp i hi).1.1 ⟨j, hj⟩⟩,
      fun i j hj hs => (hc i).2 ⟨j, hj, hs⟩, fun i j hi hj hs => (hp i hi).1.2 ⟨j, hj, hs⟩⟩

theorem Sel.congr {g g' : Nat → Option Job} {cp : Nat × Nat} (h : Sel g cp) (hr : ∀ k, rk (g' k) = rk (g k)) :
    Sel g' cp := by
  simpa only [Sel, IsCur, IsPrev, hr] using h

/-- the selection `insert`, `update_status` and `set_current_job` share when slot `t` reaches maximal rank -/
theorem Sel.promote {g g' : Nat → Option Job} {c p t : Nat} (h : Sel g (c, p))
    (hoff : ∀ k, k ≠ t → rk (g' k) = rk (g k)) (htop : ∀ k, rk (g' k) ≤ rk (g' t))
    (hup : t = c → rk (g c) ≤ rk (g' c)) : Sel g' (if t ≠ c then (t, c) else (c, p)) := by
  by_cases hne : t ≠ c
  · rw [if_pos hne]
    exact ⟨htop, fun k hk => ⟨by rw [hoff k hk, hoff c (Ne.symm hne)]; exact h.1 k, fun _ => Ne.symm hne⟩⟩
  · rw [if_neg hne]
    obtain rfl : t = c := Decidable.not_not.mp hne
    refine ⟨htop, fun k hk => ?_⟩
    replace hk : k ≠ t := hk
    have := h.2 k hk
    rw [hoff k hk]
    refine ⟨Nat.le_trans this.1 ?_, this.2⟩
    by_cases e : p = t
    · rw [e]; exact hup rfl
    · rw [hoff p e]; exact Nat.le_refl _

theorem promote_fst (t c p : Nat) : (if t ≠ c then (t, c) else (c, p)).1 = t := by
  by_cases h : t ≠ c
  · rw [if_pos h]
  · rw [if_neg h]; exact (Decidable.not_not.mp h).symm

theorem Sel.newPrev {g g' : Nat → Option Job} {c p t : Nat} (h : Sel g (c, p))
    (hoff : ∀ k, k ≠ t → rk (g' k) = rk (g k)) (hne : t ≠ c) (hle : rk (g' t) ≤ rk (g c))
    (habove : ∀ k, k ≠ c → k ≠ t → rk (g k) ≤ rk (g' t)) : Sel g' (c, t) := by
  refine ⟨fun k => ?_, fun k hk => ⟨?_, fun _ => hne⟩⟩
  · show rk (g' k) ≤ rk (g' c)
    rw [hoff c (Ne.symm hne)]
    by_cases ek : k = t
    · rw [ek]; exact hle
    · rw [hoff k ek]; exact h.1 k
  · show rk (g' k) ≤ rk (g' t)
    by_cases ek : k = t
    · rw [ek]; exact Nat.le_refl _
    · rw [hoff k ek]; exact habove k hk ek

theorem Sel.lowerOff {g g' : Nat → Option Job} {c p t : Nat} (h : Sel g (c, p)) (hoff : ∀ k, k ≠ t → rk (g' k) = rk (g k))
    (hdown : rk (g' t) ≤ rk (g t)) (hc : t ≠ c) : IsCur g' c ∧ (t ≠ p → IsPrev g' c p) := by
  have down : ∀ k, rk (g' k) ≤ rk (g k) := fun k => by
    by_cases e : k = t
    · rw [e]; exact hdown
    · rw [hoff k e]; exact Nat.le_refl _
  refine ⟨fun k => ?_, fun hp k hk => ?_⟩
  · show rk (g' k) ≤ rk (g' c)
    rw [hoff c (Ne.symm hc)]; exact Nat.le_trans (down k) (h.1 k)
  · show rk (g' k) ≤ rk (g' p) ∧ (0 < rk (g' k) → p ≠ c)
    have := h.2 k hk
    rw [hoff p (Ne.symm hp)]
    exact ⟨Nat.le_trans (down k) this.1, fun pos => this.2 (Nat.lt_of_lt_of_le pos (down k))⟩

theorem Sel.others {g g' : Nat → Option Job} {c p : Nat} (h : Sel g (c, p)) (hoff : ∀ k, k ≠ c → rk (g' k) = rk (g k)) {k : Nat} (hk : k ≠ c) :
    rk (g' k) ≤ rk (g' p) ∧ (p ≠ c → rk (g' k) ≤ rk (g p)) ∧ (0 < rk (g' k) → p ≠ c) := by
  have := h.2 k hk
  rw [hoff k hk]
  refine ⟨?_, fun _ => this.1, this.2⟩
  by_cases hp : p = c
  · rw [Nat.eq_zero_of_not_pos fun pos => this.2 pos hp]; exact Nat.zero_le _
  · rw [hoff p hp]; exact this.1

theorem Sel.lowerCur {g g' : Nat → Option Job} {c p : Nat} (h : Sel g (c, p)) (hoff : ∀ k, k ≠ c → rk (g' k) = rk (g k))
    (hle : rk (g' c) ≤ rk (g' p)) : IsCur g' p := by
  intro k
  by_cases e : k = c
  · rw [e]; exact hle
  · exact (h.others hoff e).1

theorem Sel.lowerCurStays {g g' : Nat → Option Job} {c p : Nat} (h : Sel g (c, p)) (hoff : ∀ k, k ≠ c → rk (g' k) = rk (g k))
    (hle : p ≠ c → rk (g p) ≤ rk (g' c)) : Sel g' (c, p) := by
  refine ⟨fun k => ?_, fun k hk => ⟨(h.others hoff hk).1, (h.others hoff hk).2.2⟩⟩
  show rk (g' k) ≤ rk (g' c)
  by_cases e : k = c
  · rw [e]; exact Nat.le_refl _
  · by_cases hp : p = c
    · exact hp ▸ (h.others hoff e).1
    · exact Nat.le_trans ((h.others hoff e).2.1 hp) (hle hp)

theorem Sel.ofSingle {g' : Nat → Option Job} {p t : Nat} (h0 : ∀ k, k ≠ t → rk (g' k) = 0) : Sel g' (t, p) := by
  refine ⟨fun k => ?_, fun k hk => ?_⟩
  · by_cases e : k = t
    · rw [e]; exact Nat.le_refl _
    · rw [h0 k e]; exact Nat.zero_le _
  · rw [h0 k hk]; exact ⟨Nat.zero_le _, fun pos => absurd pos (Nat.lt_irrefl 0)⟩

theorem Sel.raiseBelow {g g' : Nat → Option Job} {c p t : Nat} (h : Sel g (c, p)) (hoff : ∀ k, k ≠ t → rk (g' k) = rk (g k))
    (hup : rk (g t) ≤ rk (g' t)) (hpc : p ≠ c) (hle : rk (g' t) ≤ rk (g p)) : Sel g' (c, p) := by
  have up : ∀ k, rk (g k) ≤ rk (g' k) := fun k => by
    by_cases e : k = t
    · rw [e]; exact hup
    · rw [hoff k e]; exact Nat.le_refl _
  refine ⟨fun k => ?_, fun k hk => ⟨?_, fun _ => hpc⟩⟩
  · show rk (g' k) ≤ rk (g' c)
    by_cases e : k = t
    · rw [e]; exact Nat.le_trans hle (Nat.le_trans (h.1 p) (up c))
    · rw [hoff k e]; exact Nat.le_trans (h.1 k) (up c)
  · show rk (g' k) ≤ rk (g' p)
    by_cases e : k = t
    · rw [e]; exact Nat.le_trans hle (up p)
    · rw [hoff k e]; exact Nat.le_trans (h.2 k hk).1 (up p)

theorem jinv_congr {g g' : Nat → Option Job} {c p : Nat} (h : ∀ k, rk (g' k) = rk (g k))
    (hJ : JInv g c p) : JInv g' c p :=
  (jinv_iff ..).mpr (((jinv_iff ..).mp hJ).congr h)

theorem isPrev_anySusp (es : Slab) (c d : Nat)
    (hd : (∀ i, i ≠ c → rk (gets es i) ≤ 1) → IsPrev (gets es) c d) :
    IsPrev (gets es) c ((anySuspendedButCurrent es c).getD d) := by
  unfold anySuspendedButCurrent
  cases h : findIdx es c (·.isSuspended) 0 with
  | none =>
    refine hd fun i hi => ?_
    have := rk_le_two (gets es i)
    have h2 : rk (gets es i) ≠ 2 := fun e => by
      obtain ⟨j, hj, hs⟩ := rk_two.mp e
      exact hi (find_none h i j hj hs)
    omega
  | some k =>
    obtain ⟨j, hj, hs, hk⟩ := find_some h
    have : rk (gets es k) = 2 := rk_two.mpr ⟨j, hj, hs⟩
    intro i hi
    exact ⟨by rw [Option.getD_some, this]; exact rk_le_two _, fun _ => hk⟩

theorem isPrev_anyBut (es : Slab) (c d : Nat) (h1 : ∀ i, i ≠ c → rk (gets es i) ≤ 1) :
    IsPrev (gets es) c ((anyButCurrent es c).getD d) := by
  unfold anyButCurrent
  cases h : findIdx es c (fun _ => true) 0 with
  | none =>
    intro i hi
    have : ¬ 0 < rk (gets es i) := fun e => by
      obtain ⟨j, hj⟩ := rk_pos.mp e
      exact hi (find_none h i j hj rfl)
    omega
  | some k =>
    obtain ⟨j, hj, _, hk⟩ := find_some h
    have : 0 < rk (gets es k) := rk_pos.mpr ⟨j, hj⟩
    intro i hi
    have := h1 i hi
    exact ⟨by rw [Option.getD_some]; omega, fun _ => hk⟩

end YashModel.Job
