/-
  C12 — what is printed: property theorems and non-vacuity examples.

  Documentation: `docs/src/interactive/job_control.md` ("In job IDs and `jobs` output, the current job is marked
  with `+`, and the previous job with `-`").
-/
import YashModel.Job.Theorems
import YashModel.Job.ReportText
namespace YashModel.Job

open Generated.JobTables in
/-- ★ the numbers and characters typed into the hand-written model are the ones of the code: stated over
    `Generated/JobTables.lean`, which tools/tables/job.py rewrites from /repo on every run, so an edit
    of `ExitStatus::from(signal)`, `ExitStatus::{NOT_FOUND, NOEXEC, …}`, `VirtualSystem::SIGINT`,
    `Marker::as_char` or the field widths of `Display for Report` breaks this proof -/
theorem tables_agree :
    (∀ sg c, (PState.signaled sg c).exitStatus = sg + signalExitOffset) ∧
    (∀ sg, (PState.stopped sg).exitStatus = sg + signalExitOffset) ∧
    (∀ n, (PState.exited n).exitStatus = n) ∧
    (∀ i, (jobStatus JobList.empty i).1 = some exitNotFound) ∧
    (∀ s, (ampersandFail s).1.divert = some exitNoexec) ∧
    (∀ s m i name pid, (ampersand s pid m i name).1.status = exitSuccess) ∧
    (∀ s, (jobsBuiltin s [['-', 'x']]).1.status = exitError ∧ (bgBuiltin s false []).1.status = exitFailure) ∧
    (∀ c, shouldInterrupt true (.signaled SIGINT c) = true) ∧
    (∀ sg c, sg ≠ SIGINT → shouldInterrupt true (.signaled sg c) = false) ∧
    Marker.none.char = markerNone ∧ Marker.current.char = markerCurrent ∧ Marker.previous.char = markerPrevious ∧
    (∀ r : Report, r.render =
      ['['] ++ natStr r.number ++ [']', ' ', r.marker.char, ' '] ++
      (match r.pid with | some p => padLeft pidWidth (natStr p) ++ [' '] | none => []) ++
      padRight stateWidth (stateText r.state) ++ [' '] ++ r.name) := by
  refine ⟨fun _ _ => rfl, fun _ => rfl, fun _ => rfl, ?_, fun _ => rfl, fun _ _ _ _ _ => rfl, ?_, ?_, ?_,
    rfl, rfl, rfl, fun _ => rfl⟩
  · intro i; simp [jobStatus, JobList.empty, gets_nil, exitNotFound]
  · intro s; exact ⟨rfl, rfl⟩
  · intro c; simp [shouldInterrupt, PState.isStopped, SIGINT]
  · intro sg c h
    simp only [shouldInterrupt, PState.isStopped, Bool.false_or, Bool.true_and, SIGINT] at h ⊢
    simpa using h

open Generated.JobTables in
/-- ★ `sigName` (the name `jobs` prints in `Stopped(SIG…)` / `Killed(SIG…)`) in declarative form: every
    row of the re-extracted `sig2str` table is hit (no number occurs twice, so first-match order does not
    matter); the ends of the real-time range are `RTMIN` / `RTMAX`; inside it `RTMIN+k` up to the
    midpoint and `RTMAX-k` above; every other number is `???` -/
theorem sigName_spec :
    (∀ p ∈ sig2strTable, sigName p.1 = p.2.toList) ∧
    sigName SIGRTMIN = "RTMIN".toList ∧ sigName SIGRTMAX = "RTMAX".toList ∧
    (∀ n, SIGRTMIN < n → n < SIGRTMAX →
      sigName n = if n ≤ (SIGRTMIN + SIGRTMAX) / 2 then "RTMIN+".toList ++ natStr (n - SIGRTMIN)
                  else "RTMAX-".toList ++ natStr (SIGRTMAX - n)) ∧
    (∀ n, (∀ p ∈ sig2strTable, p.1 ≠ n) → n < SIGRTMIN ∨ SIGRTMAX < n → sigName n = "???".toList) := by
  refine ⟨by decide +kernel, by decide +kernel, by decide +kernel, ?_, ?_⟩
  · intro n h1 h2
    have hnone : sig2strTable.find? (·.1 = n) = none := by
      rw [List.find?_eq_none]
      intro p hp
      have hlt : p.1 < SIGRTMIN := sig2str_below_rt p hp
      simp only [decide_eq_true_eq]
      omega
    unfold sigName
    rw [hnone]
    have a : n ≠ SIGRTMIN := by omega
    have b : n ≠ SIGRTMAX := by omega
    simp only [a, b, if_false, h1, h2, and_self, if_true]
  · intro n hnot hout
    have hnone : sig2strTable.find? (·.1 = n) = none := by
      rw [List.find?_eq_none]
      intro p hp
      simpa using hnot p hp
    unfold sigName
    rw [hnone]
    have hr : SIGRTMIN ≤ SIGRTMAX := by decide
    have a : n ≠ SIGRTMIN := by
      intro e; subst e
      rcases hout with h | h
      · exact Nat.lt_irrefl _ h
      · exact absurd hr (Nat.not_le.mpr h)
    have b : n ≠ SIGRTMAX := by
      intro e; subst e
      rcases hout with h | h
      · exact absurd hr (Nat.not_le.mpr h)
      · exact Nat.lt_irrefl _ h
    have c : ¬ (SIGRTMIN < n ∧ n < SIGRTMAX) := by
      rintro ⟨c1, c2⟩
      rcases hout with h | h
      · exact Nat.lt_asymm c1 h
      · exact Nat.lt_asymm c2 h
    simp only [a, b, c, if_false]

example : sigName 203 = "RTMIN+2".toList ∧ sigName 205 = "RTMIN+4".toList ∧ sigName 206 = "RTMAX-3".toList ∧
    sigName 130 = "???".toList ∧ sigName 200 = "???".toList ∧ sigName 210 = "???".toList ∧
    sigName 120 = "TSTP".toList := by decide +kernel

/-- ★ the marker chosen for job `i` is `+` iff `i` is the current job, `-` iff it is the previous
    job, blank iff it is neither — for every table -/
theorem marker_iff (s : JobList) (i : Nat) :
    ((markerOf s.currentJob s.previousJob i).char = '+' ↔ s.currentJob = some i) ∧
    ((markerOf s.currentJob s.previousJob i).char = '-' ↔ s.previousJob = some i) ∧
    ((markerOf s.currentJob s.previousJob i).char = ' ' ↔ s.currentJob ≠ some i ∧ s.previousJob ≠ some i) := by
  unfold markerOf
  by_cases hc : s.currentJob = some i
  · simp [hc, current_ne_previous hc, Marker.char]
  · by_cases hp : s.previousJob = some i <;> simp [hc, hp, Marker.char]

/-- ★ every line `jobs` prints in the default or `-l` format is `[<i+1>] <m> …` where `m` is `+`
    iff job `i` is the current job and `-` iff it is the previous job (as of the call) -/
theorem jobs_line_marker (s : JobList) (showPid : Bool) (i : Nat) (job : Job) :
    ∃ m rest,
      accLine s.currentJob s.previousJob showPid false i job =
        ['['] ++ natStr (i + 1) ++ [']', ' ', m, ' '] ++ rest ++ ['\n'] ∧
      (m = '+' ↔ s.currentJob = some i) ∧ (m = '-' ↔ s.previousJob = some i) := by
  cases showPid with
  | false =>
    refine ⟨(markerOf s.currentJob s.previousJob i).char, padRight 20 (stateText job.state) ++ [' '] ++ job.name,
      ?_, (marker_iff s i).1, (marker_iff s i).2.1⟩
    simp [accLine, Report.render, reportOf]
  | true =>
    refine ⟨(markerOf s.currentJob s.previousJob i).char,
      padLeft 5 (natStr job.pid) ++ [' '] ++ padRight 20 (stateText job.state) ++ [' '] ++ job.name,
      ?_, (marker_iff s i).1, (marker_iff s i).2.1⟩
    simp [accLine, Report.render, reportOf]

/-- ★ a successful `jobs` prints exactly one such line per reported job, in order, and finishes by
    `jobsFinish` over the reported indices -/
theorem jobs_output (s : JobList) (args : List Str) (h : (jobsBuiltin s args).1.status = 0) :
    ∃ opts operands idxs,
      parseArgs ['l', 'p'] args = some (opts, operands) ∧ jobsTargets s operands = .ok idxs ∧
      (jobsBuiltin s args).1.stdout =
        idxs.flatMap (fun i => match gets s.entries i with
          | some job => accLine s.currentJob s.previousJob (opts.contains 'l') (opts.contains 'p') i job
          | none => []) ∧
      (jobsBuiltin s args).2 = jobsFinish s idxs := by
  rcases jobsBuiltin_cases s args with ⟨hne, _⟩ | ⟨opts, operands, idxs, hp, ht, e⟩
  · exact absurd h hne
  · exact ⟨opts, operands, idxs, hp, ht, by rw [e]; rfl, by rw [e]⟩

/-- ★ on a consistent non-empty table, the current job is among the jobs that `jobs` without operands
    lists (so a line carries `+`, by `jobs_line_marker`), and with two or more jobs so is the previous
    job (a line carries `-`); that no second line carries the marker is not stated here -/
theorem jobs_lists_current_and_previous (s : JobList) (h : Inv s) :
    ((∃ i j, s.get i = some j) → ∃ c, s.currentJob = some c ∧ c ∈ matchingIdx s.entries (fun _ => true) 0) ∧
    ((∃ i i' j j', i ≠ i' ∧ s.get i = some j ∧ s.get i' = some j') →
      ∃ p, s.previousJob = some p ∧ p ∈ matchingIdx s.entries (fun _ => true) 0) := by
  have hc := consistent_of_inv s h
  constructor
  · intro hne
    obtain ⟨c, j, h1, h2⟩ := hc.current_exists hne
    exact ⟨c, h1, (mem_matchingIdx _ _ c).mpr ⟨j, h2, rfl⟩⟩
  · intro hne
    obtain ⟨p, j, h1, h2, _⟩ := hc.previous_exists hne
    exact ⟨p, h1, (mem_matchingIdx _ _ p).mpr ⟨j, h2, rfl⟩⟩

/-- ★ `reportHeads` — the text scanner with which the Spec column (and, in Rust, the oracle) reads a `jobs`
    report or a prompt report back — returns, for the text the model prints for the slots `idxs`, exactly
    one pair per reported job: its job NUMBER (slot + 1, read back from the decimal digits) and the
    marker character chosen by `Accumulator::add`.  Hypothesis: no job name contains a line break
    (the example below shows what happens otherwise). -/
theorem reportHeads_jobsPrint (s : JobList) (showPid : Bool) (idxs : List Nat)
    (hn : ∀ i job, s.get i = some job → '\n' ∉ job.name) :
    reportHeads (jobsPrint s showPid false idxs) =
      idxs.filterMap (fun i => (s.get i).map (fun _ => (i + 1, (markerOf s.currentJob s.previousJob i).char))) := by
  induction idxs with
  | nil => simp [jobsPrint, reportHeads, splitLines, headOf]
  | cons i rest ih =>
    cases hg : gets s.entries i with
    | none =>
      have hcons : jobsPrint s showPid false (i :: rest) = jobsPrint s showPid false rest := by
        simp [jobsPrint, hg]
      rw [hcons]
      have : s.get i = none := hg
      simp only [List.filterMap_cons, this, Option.map_none]
      exact ih
    | some job =>
      have hcons : jobsPrint s showPid false (i :: rest) =
          accLine s.currentJob s.previousJob showPid false i job ++ jobsPrint s showPid false rest := by
        simp [jobsPrint, hg]
      rw [hcons]
      have hgi : s.get i = some job := hg
      simp only [List.filterMap_cons, hgi, Option.map_some]
      have hline : accLine s.currentJob s.previousJob showPid false i job =
          (reportOf s.currentJob s.previousJob showPid i job).render ++ ['\n'] := by simp [accLine]
      have hnn : '\n' ∉ (reportOf s.currentJob s.previousJob showPid i job).render :=
        render_no_nl _ (hn i job hgi) (marker_char_ne_nl _)
      have hsplit : splitLines ((reportOf s.currentJob s.previousJob showPid i job).render ++ ['\n'] ++
            jobsPrint s showPid false rest) =
          (reportOf s.currentJob s.previousJob showPid i job).render :: splitLines (jobsPrint s showPid false rest) := by
        rw [List.append_assoc]
        exact splitLines_line _ _ hnn
      unfold reportHeads at ih ⊢
      rw [hline, hsplit, List.filterMap_cons, headOf_render, ih]
      rfl

/-- ★ the documentation clause "the current job is marked with `+`, the previous job with `-`", as the
    Spec column checks it on a text (`markersOk`: every `[n] m` line has `m = '+'` iff job `n` is the
    current job, `m = '-'` iff it is the previous job, and `m` is one of `+`, `-`, blank), holds for
    every report the model prints — `jobs` (default and `-l` format, any operand list) and the prompt
    report — on every table in which no job name contains a line break (needed: see the example below this
    theorem).  With `reportHeads_jobsPrint` the check is not vacuous: the scanner sees one
    line per reported job. -/
theorem markersOk_reports (s : JobList) (showPid : Bool) (idxs : List Nat)
    (hn : ∀ i job, s.get i = some job → '\n' ∉ job.name) :
    markersOk s (jobsPrint s showPid false idxs) = true ∧
    markersOk s (promptReport s true true).1 = true := by
  have key : ∀ (sp : Bool) (l : List Nat), markersOk s (jobsPrint s sp false l) = true := by
    intro sp l
    unfold markersOk
    rw [reportHeads_jobsPrint s sp l hn, List.all_eq_true]
    intro x hx
    obtain ⟨i, _, hi⟩ := List.mem_filterMap.mp hx
    cases hg : s.get i with
    | none => rw [hg] at hi; cases hi
    | some job =>
      rw [hg] at hi
      simp only [Option.map_some, Option.some.injEq] at hi
      subst hi
      -- the three tests of `markersOk` are the three clauses of `marker_iff`
      obtain ⟨h1, h2, h3⟩ := marker_iff s i
      simp only [Nat.add_sub_cancel, Bool.and_eq_true, Bool.or_eq_true, Bool.beq_eq_decide_eq, decide_eq_true_eq,
        h1, h2]
      refine ⟨⟨by simp, by simp⟩, ?_⟩
      by_cases hc : s.currentJob = some i
      · exact Or.inl (Or.inl hc)
      · by_cases hp : s.previousJob = some i
        · exact Or.inl (Or.inr hp)
        · exact Or.inr (h3.mpr ⟨hc, hp⟩)
  exact ⟨key showPid idxs, key false _⟩

/-- the hypothesis of `reportHeads_jobsPrint` is needed: a job name with a line break that looks like a
    report line makes the scanner see a line that `jobs` did not print for a job -/
example :
    let s := (JobList.empty.insert { pid := 7, state := .running, name := "x\n[9] + y".toList }).2
    reportHeads (jobsPrint s false false [0]) = [(1, '+'), (9, '+')] := by
  decide +kernel

/-- hypothesis and conclusion of `reportHeads_jobsPrint` / `markersOk_reports` on that history (no name
    has a line break): the scanner reads `[1] -`, `[2] +`, `[3]  ` back from `jobs -l` of the three jobs -/
example :
    let s := run JobList.empty (extHistory.take 4)
    (∀ i, i < 3 → ∃ job, s.get i = some job ∧ !job.name.contains '\n') ∧
    reportHeads (jobsPrint s true false [0, 1, 2]) = [(1, '-'), (2, '+'), (3, ' ')] ∧
    markersOk s (jobsPrint s true false [0, 1, 2]) = true := by
  refine ⟨?_, by decide +kernel, by decide +kernel⟩
  intro i hi
  have : i = 0 ∨ i = 1 ∨ i = 2 := by omega
  rcases this with e | e | e <;> subst e <;> exact ⟨_, rfl, by decide⟩

end YashModel.Job
