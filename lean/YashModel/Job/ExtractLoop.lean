/-
  The loop invariant of `extract_if` (`LoopInv`) and what it says at any position of the loop: the slot-wise
  effect of `remove_if` / `extract_if` and what happens to the current / previous job (C12).  One walk serves the
  drained loop and the iterator dropped early.  The stateful closure decides like the pure predicate "the index is
  among `selS`"; for the closure that counts, those are the first `k` the pure predicate selects.
-/
import YashModel.Job.Compositions
namespace YashModel.Job

/-- what `remove_if` / `extract_if` do to one slot: a job the predicate selects is gone, any other job is
    the same job (with `state_changed` cleared if the closure calls `state_reported`) -/
def procSlot (pred : Nat → Job → Bool) (report : Bool) (i : Nat) : Option Job → Option Job
  | none => none
  | some j => if pred i j then none else some (if report then { j with changed := false } else j)

theorem procSlot_some (pred : Nat → Job → Bool) (report : Bool) (i : Nat) (j : Job) :
    procSlot pred report i (some j) =
      if pred i j then none else some (if report then { j with changed := false } else j) := rfl

/-- `procSlot` in the words of the statements about `remove_if` / `extract_if` -/
theorem procSlot_eq_match (pred : Nat → Job → Bool) (report : Bool) (i : Nat) (o : Option Job) :
    procSlot pred report i o =
      match o with
      | none => none
      | some j => if pred i j then none else some (if report then { j with changed := false } else j) := by
  cases o <;> rfl

/-- slot `k` of `s` was removed by the calls before `idx` -/
def Hit (s : JobList) (pred : Nat → Job → Bool) (idx k : Nat) : Prop :=
  k < idx ∧ ∃ j, gets s.entries k = some j ∧ pred k j = true

/-- the loop invariant of `extract_if` at position `idx` with `len` jobs still to visit; `s` is the table the
    call started from, `t` the table now -/
structure LoopInv (s : JobList) (pred : Nat → Job → Bool) (report : Bool) (idx len : Nat) (t : JobList) : Prop where
  lo : ∀ i, i < idx → gets t.entries i = procSlot pred report i (gets s.entries i)
  hi : ∀ i, idx ≤ i → gets t.entries i = gets s.entries i
  cnt : len = slabLen (t.entries.drop idx)
  curKeep : ¬ Hit s pred idx s.cur → t.cur = s.cur
  prevKeep : ¬ Hit s pred idx s.cur → ¬ Hit s pred idx s.prev → t.prev = s.prev
  curMoved : Hit s pred idx s.cur → ¬ Hit s pred idx s.prev → t.cur = s.prev

/-- where an iterator asked for `total` removals stops; `l` the indices yielded, `r` the table left: the loop
    invariant holds at some position `k`, `l` are the slots removed before `k`, and either nothing was asked
    for, or the end of the table was reached with fewer than `total` removals, or the `total`-th removal was
    at `k - 1` -/
def CutAt (s : JobList) (pred : Nat → Job → Bool) (report : Bool) (total : Nat) (l : List Nat) (r : JobList) : Prop :=
  ∃ k len', LoopInv s pred report k len' r ∧ (∀ x, x ∈ l ↔ Hit s pred k x) ∧
    ((l = [] ∧ k = 0 ∧ total = 0) ∨
     ((∀ i, k ≤ i → gets s.entries i = none) ∧ l.length < total) ∨
     (l.getLast? = some (k - 1) ∧ 1 ≤ k ∧ l.length = total))

/-- `CutAt` with the two clauses the drained iterator needs besides.  They can be promised only under hypotheses
    that change along the loop — the indices yielded so far ascend (`sorted`), the budget covers the jobs still to
    visit (`covered`) — so these are parameters, and `Walk.mono` is how a step of the loop hands them on. -/
def Walk (s : JobList) (pred : Nat → Job → Bool) (report : Bool) (total : Nat) (l : List Nat) (r : JobList)
    (sorted covered : Prop) : Prop :=
  ∃ k len', (LoopInv s pred report k len' r ∧ (∀ x, x ∈ l ↔ Hit s pred k x) ∧
      ((l = [] ∧ k = 0 ∧ total = 0) ∨
       ((∀ i, k ≤ i → gets s.entries i = none) ∧ l.length < total) ∨
       (l.getLast? = some (k - 1) ∧ 1 ≤ k ∧ l.length = total))) ∧
    (sorted → l.Pairwise (· < ·)) ∧ (covered → ∀ i, k ≤ i → gets s.entries i = none)

theorem LoopInv.init (s : JobList) (pred : Nat → Job → Bool) (report : Bool) :
    LoopInv s pred report 0 s.len s :=
  ⟨fun i h => by omega, fun _ _ => rfl, by simp [JobList.len], fun _ => rfl, fun _ _ => rfl,
   fun h => by unfold Hit at h; omega⟩

theorem Hit.succ_iff (s : JobList) (pred : Nat → Job → Bool) (idx k : Nat) :
    Hit s pred (idx + 1) k ↔ Hit s pred idx k ∨ (k = idx ∧ ∃ j, gets s.entries k = some j ∧ pred k j = true) := by
  unfold Hit
  constructor
  · rintro ⟨h1, h2⟩
    by_cases hk : k = idx
    · exact Or.inr ⟨hk, h2⟩
    · exact Or.inl ⟨by omega, h2⟩
  · rintro (⟨h1, h2⟩ | ⟨h1, h2⟩)
    · exact ⟨by omega, h2⟩
    · exact ⟨by omega, h2⟩

theorem hit_of_end (s : JobList) (pred : Nat → Job → Bool) (idx : Nat)
    (hend : ∀ i, idx ≤ i → gets s.entries i = none) (k : Nat) :
    Hit s pred idx k ↔ ∃ j, gets s.entries k = some j ∧ pred k j = true := by
  refine ⟨fun h => h.2, fun ⟨j, hj, hp⟩ => ⟨?_, j, hj, hp⟩⟩
  exact Nat.lt_of_not_le fun hk => by rw [hend k hk] at hj; cases hj

theorem reportStep (t : JobList) (idx : Nat) (j : Job) (report : Bool) (hg : gets t.entries idx = some j) :
    let t1 := if report then { t with entries := t.entries.set idx (some { j with changed := false }) } else t
    t1.cur = t.cur ∧ t1.prev = t.prev ∧
    gets t1.entries idx = some (if report then { j with changed := false } else j) ∧
    (∀ i, i ≠ idx → gets t1.entries i = gets t.entries i) ∧
    t1.entries.drop (idx + 1) = t.entries.drop (idx + 1) := by
  have hlt := gets_some_lt hg
  cases report with
  | false => exact ⟨rfl, rfl, hg, fun _ _ => rfl, rfl⟩
  | true =>
    refine ⟨rfl, rfl, ?_, fun i hi => ?_, List.drop_set_of_lt (by omega)⟩
    · simp only [if_true]; rw [gets_set _ _ _ _ hlt, if_pos rfl]
    · simp only [if_true]; rw [gets_set _ _ _ _ hlt, if_neg hi]

variable {s : JobList} {pred : Nat → Job → Bool} {report : Bool} {idx len : Nat} {t : JobList} {j : Job}

theorem LoopInv.here (L : LoopInv s pred report idx len t) : gets t.entries idx = gets s.entries idx :=
  L.hi idx (Nat.le_refl _)

theorem LoopInv.hit_none (L : LoopInv s pred report idx len t) (hg : gets t.entries idx = none) (k : Nat) :
    Hit s pred (idx + 1) k ↔ Hit s pred idx k := by
  rw [Hit.succ_iff]
  refine ⟨fun h => h.resolve_right ?_, Or.inl⟩
  rintro ⟨rfl, j, hj, _⟩
  rw [← L.here, hg] at hj; cases hj

theorem LoopInv.hit_keep (L : LoopInv s pred report idx len t) (hg : gets t.entries idx = some j)
    (hp : pred idx j = false) (k : Nat) : Hit s pred (idx + 1) k ↔ Hit s pred idx k := by
  rw [Hit.succ_iff]
  refine ⟨fun h => h.resolve_right ?_, Or.inl⟩
  rintro ⟨rfl, j', hj', hp'⟩
  rw [← L.here, hg] at hj'; cases hj'; rw [hp] at hp'; cases hp'

theorem LoopInv.hit_drop (L : LoopInv s pred report idx len t) (hg : gets t.entries idx = some j)
    (hp : pred idx j = true) (k : Nat) : Hit s pred (idx + 1) k ↔ Hit s pred idx k ∨ k = idx := by
  rw [Hit.succ_iff]
  exact or_congr Iff.rfl ⟨fun h => h.1, fun e => ⟨e, j, by rw [e, ← L.here]; exact hg, by rw [e]; exact hp⟩⟩

theorem LoopInv.skip (L : LoopInv s pred report idx len t) (hg : gets t.entries idx = none) :
    LoopInv s pred report (idx + 1) len t := by
  have hh := L.hit_none hg
  refine ⟨?_, fun i h => L.hi i (by omega), ?_, ?_, ?_, ?_⟩
  · intro i hi
    by_cases hk : i = idx
    · subst hk; rw [hg, ← L.here, hg]; rfl
    · exact L.lo i (by omega)
  · rw [L.cnt]; exact slabLen_drop_none _ _ hg
  · rw [hh]; exact L.curKeep
  · rw [hh, hh]; exact L.prevKeep
  · rw [hh, hh]; exact L.curMoved

theorem LoopInv.keep (L : LoopInv s pred report idx (len + 1) t) (hg : gets t.entries idx = some j)
    (hp : pred idx j = false) :
    LoopInv s pred report (idx + 1) len
      (if report then { t with entries := t.entries.set idx (some { j with changed := false }) } else t) := by
  have hh := L.hit_keep hg hp
  obtain ⟨hc1, hp1, hg1, hne1, hd1⟩ := reportStep t idx j report hg
  refine ⟨?_, fun i hi => ?_, ?_, ?_, ?_, ?_⟩
  · intro i hi
    by_cases hk : i = idx
    · subst hk; rw [hg1, ← L.here, hg, procSlot_some, hp]; rfl
    · rw [hne1 i hk]; exact L.lo i (by omega)
  · rw [hne1 i (by omega)]; exact L.hi i (by omega)
  · have := L.cnt; rw [slabLen_drop_some _ _ _ hg] at this; rw [hd1]; omega
  · rw [hh, hc1]; exact L.curKeep
  · rw [hh, hh, hp1]; exact L.prevKeep
  · rw [hh, hh, hc1]; exact L.curMoved

theorem LoopInv.drop (L : LoopInv s pred report idx (len + 1) t) (hg : gets t.entries idx = some j)
    (hp : pred idx j = true) :
    LoopInv s pred report (idx + 1) len
      ((if report then { t with entries := t.entries.set idx (some { j with changed := false }) } else t).remove idx).2 := by
  have hh := L.hit_drop hg hp
  obtain ⟨hc1, hp1, hg1, hne1, hd1⟩ := reportStep t idx j report hg
  generalize (if report then { t with entries := t.entries.set idx (some { j with changed := false }) } else t) = t1
    at hc1 hp1 hg1 hne1 hd1 ⊢
  have hcnt : len = slabLen (t.entries.drop (idx + 1)) := by
    have := L.cnt; rw [slabLen_drop_some _ _ _ hg] at this; omega
  have hcur := remove_cur t1 idx _ hg1
  rw [hc1, hp1] at hcur
  refine ⟨?_, ?_, ?_, ?_, ?_, ?_⟩
  · intro i hi
    rw [remove_gets]
    by_cases hk : i = idx
    · subst hk; rw [if_pos rfl, ← L.here, hg, procSlot_some, hp]; rfl
    · rw [if_neg hk, hne1 i hk]; exact L.lo i (by omega)
  · intro i hi
    have hk : i ≠ idx := by omega
    rw [remove_gets, if_neg hk, hne1 i hk]; exact L.hi i (by omega)
  · rw [remove_tail_slabLen t1 idx _ hg1, hd1]; exact hcnt
  · intro hn
    rw [hh] at hn
    obtain ⟨h1, h2⟩ := not_or.mp hn
    have h3 := L.curKeep h1
    rw [hcur, h3]; simp [Ne.symm h2]
  · intro hn hn'
    rw [hh] at hn hn'
    obtain ⟨h1, h2⟩ := not_or.mp hn
    obtain ⟨h1', h2'⟩ := not_or.mp hn'
    have h3 := L.curKeep h1
    have h4 := L.prevKeep h1 h1'
    rw [remove_prev_ne t1 idx _ hg1 (by rw [hc1, h3]; exact Ne.symm h2) (by rw [hp1, h4]; exact Ne.symm h2'), hp1, h4]
  · intro hc hn'
    rw [hh] at hc hn'
    obtain ⟨h1', h2'⟩ := not_or.mp hn'
    by_cases hhit : Hit s pred idx s.cur
    · have h3 := L.curMoved hhit h1'
      rw [hcur, h3]; simp [Ne.symm h2']
    · have hci : s.cur = idx := hc.resolve_left hhit
      have h3 := L.curKeep hhit
      have h4 := L.prevKeep hhit h1'
      rw [hcur, h3, h4]; simp [hci]

theorem LoopInv.slot {k : Nat} (L : LoopInv s pred report k len t) (i : Nat) :
    gets t.entries i = if i < k then procSlot pred report i (gets s.entries i) else gets s.entries i := by
  by_cases hi : i < k
  · rw [if_pos hi]; exact L.lo i hi
  · rw [if_neg hi]; exact L.hi i (by omega)

theorem LoopInv.slot_end {k : Nat} (L : LoopInv s pred report k len t) (hend : ∀ i, k ≤ i → gets s.entries i = none)
    (i : Nat) : gets t.entries i = procSlot pred report i (gets s.entries i) := by
  rw [L.slot i]
  by_cases hi : i < k
  · rw [if_pos hi]
  · rw [if_neg hi, hend i (by omega)]; rfl

theorem LoopInv.survives {k : Nat} (L : LoopInv s pred report k len t) {i : Nat} (hj : gets s.entries i = some j)
    (hn : ¬ Hit s pred k i) : ∃ j', gets t.entries i = some j' := by
  rw [L.slot i, hj]
  by_cases hi : i < k
  · have hp : pred i j = false := by
      cases hp : pred i j with
      | false => rfl
      | true => exact absurd ⟨hi, j, hj, hp⟩ hn
    rw [if_pos hi]
    simp only [procSlot_some, hp, Bool.false_eq_true, if_false]
    exact ⟨_, rfl⟩
  · rw [if_neg hi]; exact ⟨j, rfl⟩

/-- the rule of `remove` for the current and the previous job, after any number of removals -/
theorem LoopInv.selection {k : Nat} (L : LoopInv s pred report k len t) :
    (∀ c, s.currentJob = some c → ¬ Hit s pred k c → t.currentJob = some c) ∧
    (∀ c p, s.currentJob = some c → Hit s pred k c → s.previousJob = some p → ¬ Hit s pred k p →
      t.currentJob = some p) ∧
    (∀ c p, s.currentJob = some c → ¬ Hit s pred k c → s.previousJob = some p → ¬ Hit s pred k p →
      t.previousJob = some p) := by
  refine ⟨fun c hcur hn => ?_, fun c p hcur hc hprev hn => ?_, fun c p hcur hn hprev hn' => ?_⟩
  · obtain ⟨rfl, jc, hjc⟩ := (currentJob_eq_some s c).mp hcur
    exact (currentJob_eq_some t _).mpr ⟨L.curKeep hn, L.survives hjc hn⟩
  · obtain ⟨rfl, _⟩ := (currentJob_eq_some s c).mp hcur
    obtain ⟨rfl, _, jp, hjp⟩ := (previousJob_eq_some s p).mp hprev
    exact (currentJob_eq_some t _).mpr ⟨L.curMoved hc hn, L.survives hjp hn⟩
  · obtain ⟨rfl, _⟩ := (currentJob_eq_some s c).mp hcur
    obtain ⟨rfl, hne, jp, hjp⟩ := (previousJob_eq_some s p).mp hprev
    have e1 := L.curKeep hn
    have e2 := L.prevKeep hn hn'
    exact (previousJob_eq_some t _).mpr ⟨e2, by rw [e1, e2]; exact hne, L.survives hjp hn'⟩

theorem Walk.mono {total : Nat} {l : List Nat} {r : JobList}
    {sorted covered sorted' covered' : Prop} (h : Walk s pred report total l r sorted covered)
    (hs : sorted' → sorted) (hc : covered' → covered) : Walk s pred report total l r sorted' covered' := by
  obtain ⟨k, len', hstop, h1, h2⟩ := h
  exact ⟨k, len', hstop, fun x => h1 (hs x), fun x => h2 (hc x)⟩

theorem walk_budget (s : JobList) (pred : Nat → Job → Bool) (report : Bool) (idx len : Nat) (t : JobList)
    (acc : List Nat) (L : LoopInv s pred report idx len t) (hacc : ∀ k, k ∈ acc ↔ Hit s pred idx k)
    (hlast : (acc = [] ∧ idx = 0) ∨ (∃ a rest, acc = a :: rest ∧ idx = a + 1)) :
    Walk s pred report acc.length acc.reverse t (acc.reverse.Pairwise (· < ·)) (len = 0) := by
  refine ⟨idx, len, ⟨L, fun x => by rw [List.mem_reverse, hacc], ?_⟩, id, fun h i hi => ?_⟩
  · rcases hlast with ⟨h1, h2⟩ | ⟨a, rest, h1, h2⟩
    · subst h1; subst h2; exact Or.inl ⟨rfl, rfl, rfl⟩
    · subst h1
      refine Or.inr (Or.inr ⟨?_, by omega, by simp⟩)
      simp [h2]
  · rw [← L.hi i hi]
    exact slabLen_drop_zero _ _ (by rw [← L.cnt]; exact h) i hi

theorem walk_end (s : JobList) (pred : Nat → Job → Bool) (report : Bool) (n idx len : Nat) (t : JobList)
    (acc : List Nat) (L : LoopInv s pred report idx len t) (hacc : ∀ k, k ∈ acc ↔ Hit s pred idx k)
    (hn : 0 < n) (hend : ∀ i, idx ≤ i → gets s.entries i = none) :
    Walk s pred report (acc.length + n) acc.reverse t (acc.reverse.Pairwise (· < ·)) (len ≤ n) :=
  ⟨idx, len, ⟨L, fun x => by rw [List.mem_reverse, hacc],
      Or.inr (Or.inl ⟨hend, by rw [List.length_reverse]; omega⟩)⟩, id, fun _ => hend⟩

/-- One walk for the drained and the cut iterator: wherever `extractLoopN` stops — fuel, budget or jobs used up —
    the loop invariant holds at some position, with the yielded indices the slots removed before it.
    `hf`: the fuel left still reaches the end of the slab (`removeIf` / `extractTake` start with `entries.length + 1`);
    `hlast` (the last yielded index is `idx - 1`) is read only where the budget `n` is used up. -/
theorem extractLoopN_walk (s : JobList) (pred : Nat → Job → Bool) (report : Bool) (fuel n idx len : Nat) (t : JobList)
    (acc : List Nat) (L : LoopInv s pred report idx len t) (hf : s.entries.length + 1 ≤ fuel + idx)
    (hacc : ∀ k, k ∈ acc ↔ Hit s pred idx k)
    (hlast : n = 0 → (acc = [] ∧ idx = 0) ∨ (∃ a rest, acc = a :: rest ∧ idx = a + 1)) :
    Walk s pred report (acc.length + n) (extractLoopN pred report fuel n idx len t acc).1
      (extractLoopN pred report fuel n idx len t acc).2 (acc.reverse.Pairwise (· < ·)) (len ≤ n) := by
  fun_induction extractLoopN pred report fuel n idx len t acc with
  | case1 n idx len t acc =>
    by_cases hn : n = 0
    · subst hn; exact (walk_budget s pred report idx len t acc L hacc (hlast rfl)).mono id Nat.le_zero.mp
    · exact walk_end s pred report n idx len t acc L hacc (by omega) (fun i hi => gets_ge _ _ (by omega))
  | case2 fuel idx len t acc _ =>
    exact (walk_budget s pred report idx len t acc L hacc (hlast rfl)).mono id Nat.le_zero.mp
  | case3 fuel n idx t acc hn _ =>
    refine walk_end s pred report n idx 0 t acc L hacc (Nat.pos_of_ne_zero hn) (fun i hi => ?_)
    rw [← L.hi i hi]
    exact slabLen_drop_zero _ _ L.cnt.symm i hi
  | case4 fuel n idx len t acc hg ih =>
    exact ih (L.skip hg) (by omega) (fun k => by rw [hacc, L.hit_none hg]) (fun h => by omega)
  | case5 fuel n idx len t acc j hg t1 hp ih =>
    have := ih (L.drop hg hp) (by omega)
      (fun k => by rw [List.mem_cons, L.hit_drop hg hp, hacc]; exact Or.comm)
      (fun _ => Or.inr ⟨idx, acc, rfl, rfl⟩)
    rw [List.length_cons, Nat.add_assoc, Nat.add_comm 1 n] at this
    refine this.mono (fun hsort => ?_) (fun h => by omega)
    -- the new index is above all yielded so far
    rw [List.reverse_cons, List.pairwise_append]
    refine ⟨hsort, List.pairwise_singleton _ _, fun a ha b hb => ?_⟩
    rw [List.mem_singleton] at hb
    subst hb
    exact ((hacc a).mp (List.mem_reverse.mp ha)).1
  | case6 fuel n idx len t acc j hg t1 hp ih =>
    have hp' : pred idx j = false := Bool.eq_false_iff.mpr hp
    exact (ih (L.keep hg hp') (by omega) (fun k => by rw [hacc, L.hit_keep hg hp']) (fun h => by omega)).mono id
      (fun h => by omega)

theorem extractLoopN_cut (s : JobList) (pred : Nat → Job → Bool) (report : Bool) (fuel n idx len : Nat) (t : JobList)
    (acc : List Nat) (L : LoopInv s pred report idx len t) (hf : s.entries.length + 1 ≤ fuel + idx)
    (hacc : ∀ k, k ∈ acc ↔ Hit s pred idx k)
    (hlast : n = 0 → (acc = [] ∧ idx = 0) ∨ (∃ a rest, acc = a :: rest ∧ idx = a + 1)) :
    CutAt s pred report (acc.length + n) (extractLoopN pred report fuel n idx len t acc).1
      (extractLoopN pred report fuel n idx len t acc).2 := by
  obtain ⟨k, len', hstop, _, _⟩ := extractLoopN_walk s pred report fuel n idx len t acc L hf hacc hlast
  exact ⟨k, len', hstop⟩

theorem extractTake_walk (s : JobList) (n : Nat) (pred : Nat → Job → Bool) (report : Bool) :
    Walk s pred report n (s.extractTake n pred report).1 (s.extractTake n pred report).2 True (s.len ≤ n) := by
  have := extractLoopN_walk s pred report (s.entries.length + 1) n 0 s.len s []
    (LoopInv.init s pred report) (by omega) (fun k => by simp [Hit]) (fun _ => Or.inl ⟨rfl, rfl⟩)
  rw [List.length_nil, Nat.zero_add] at this
  exact this.mono (fun _ => List.Pairwise.nil) id

theorem extractTake_cut (s : JobList) (n : Nat) (pred : Nat → Job → Bool) (report : Bool) :
    CutAt s pred report n (s.extractTake n pred report).1 (s.extractTake n pred report).2 := by
  obtain ⟨k, len', hstop, _, _⟩ := extractTake_walk s n pred report
  exact ⟨k, len', hstop⟩

theorem removeIf_spec (s : JobList) (pred : Nat → Job → Bool) (report : Bool) :
    ∃ k len', LoopInv s pred report k len' (s.removeIf pred report).2 ∧
      (∀ i, k ≤ i → gets s.entries i = none) ∧
      (∀ x, Hit s pred k x ↔ ∃ j, gets s.entries x = some j ∧ pred x j = true) ∧
      (∀ x, x ∈ (s.removeIf pred report).1 ↔ ∃ j, gets s.entries x = some j ∧ pred x j = true) ∧
      (s.removeIf pred report).1.Pairwise (· < ·) := by
  obtain ⟨k, len', ⟨L, hm, _⟩, hsort, hend⟩ := extractTake_walk s s.len pred report
  rw [show s.extractTake s.len pred report = s.removeIf pred report from
    extractLoopN_eq _ _ _ _ _ _ _ _ (Nat.le_refl _)] at L hm hsort
  have hH := hit_of_end s pred k (hend (Nat.le_refl _))
  exact ⟨k, len', L, hend (Nat.le_refl _), hH, fun x => (hm x).trans (hH x), hsort trivial⟩

theorem extractLoop_acc (pred : Nat → Job → Bool) (report : Bool) (fuel idx len : Nat) (t : JobList) (acc : List Nat) :
    extractLoop pred report fuel idx len t acc =
      (acc.reverse ++ (extractLoop pred report fuel idx len t []).1, (extractLoop pred report fuel idx len t []).2) := by
  induction fuel generalizing idx len t acc with
  | zero => unfold extractLoop; simp
  | succ fuel ih =>
    cases len with
    | zero => unfold extractLoop; simp
    | succ len =>
      unfold extractLoop
      cases hg : gets t.entries idx with
      | none => simp only; exact ih _ _ _ _
      | some j =>
        simp only
        split
        · rw [ih _ _ _ (idx :: acc), ih _ _ _ [idx]]; simp
        · exact ih _ _ _ _

theorem extractLoopN_take (pred : Nat → Job → Bool) (report : Bool) (fuel n idx len : Nat) (t : JobList) (acc : List Nat) :
    (extractLoopN pred report fuel n idx len t acc).1 =
      acc.reverse ++ (extractLoop pred report fuel idx len t []).1.take n := by
  induction fuel generalizing n idx len t acc with
  | zero => unfold extractLoopN extractLoop; simp
  | succ fuel ih =>
    cases n with
    | zero => unfold extractLoopN; simp
    | succ n =>
    cases len with
    | zero => unfold extractLoopN extractLoop; simp
    | succ len =>
      unfold extractLoopN extractLoop
      cases hg : gets t.entries idx with
      | none => simp only; exact ih _ _ _ _ _
      | some j =>
        simp only
        split
        · rw [ih, extractLoop_acc _ _ _ _ _ _ [idx]]; simp
        · exact ih _ _ _ _ _

theorem extractLoopS_eq {σ : Type} (f : σ → Nat → Job → Bool × σ) (report : Bool) (P : Nat → Bool)
    (fuel idx len : Nat) (st : σ) (t : JobList) (acc : List Nat)
    (hP : ∀ i, idx ≤ i → P i = (selS f st (t.entries.drop idx) idx).contains i) :
    extractLoopS f report fuel idx len st t acc = extractLoop (fun i _ => P i) report fuel idx len t acc := by
  induction fuel generalizing idx len st t acc with
  | zero => unfold extractLoopS extractLoop; rfl
  | succ fuel ih =>
    cases len with
    | zero => unfold extractLoopS extractLoop; rfl
    | succ len =>
      unfold extractLoopS extractLoop
      cases hg : gets t.entries idx with
      | none =>
        simp only
        apply ih
        intro i hi
        rw [hP i (by omega)]
        rcases drop_gets_none hg with e | ⟨e1, e2⟩
        · rw [e]; simp only [selS]
        · rw [e1, e2]; simp only [selS]
      | some j =>
        simp only
        obtain ⟨_, _, hg1, _, hd1⟩ := reportStep t idx j report hg
        generalize (if report then { t with entries := t.entries.set idx (some { j with changed := false }) } else t) = t1
          at hg1 hd1 ⊢
        have hcons := drop_gets_some hg
        have hPi := hP idx (Nat.le_refl _)
        rw [hcons] at hPi
        simp only [selS] at hPi
        cases hd : (f st idx j).1 with
        | true =>
          rw [hd] at hPi
          simp only [if_true, List.contains_cons, beq_self_eq_true, Bool.true_or] at hPi
          simp only [hPi, if_true]
          apply ih
          intro i hi
          rw [hP i (by omega), hcons]
          simp only [selS, hd, if_true]
          have hne : (i == idx) = false := by simp; omega
          rw [List.contains_cons, hne, Bool.false_or, remove_tail_selS f _ t1 idx _ hg1, hd1]
        | false =>
          rw [hd] at hPi
          simp only [Bool.false_eq_true, if_false] at hPi
          have hnot : P idx = false := by
            rw [hPi]
            apply Bool.eq_false_iff.mpr
            intro hc
            have := selS_ge f _ _ _ _ (List.contains_iff_mem.mp hc)
            omega
          simp only [hnot, Bool.false_eq_true, if_false]
          apply ih
          intro i hi
          rw [hP i (by omega), hcons, hd1]
          simp only [selS, hd, Bool.false_eq_true, if_false]

theorem removeIfS_eq {σ : Type} (s : JobList) (f : σ → Nat → Job → Bool × σ) (st : σ) (report : Bool) :
    s.removeIfS f st report = s.removeIf (fun i _ => (selS f st s.entries 0).contains i) report :=
  extractLoopS_eq f report _ _ 0 _ st s [] (fun i _ => by simp)

theorem selS_firstK (p : Nat → Job → Bool) (k : Nat) (es : Slab) (i : Nat) :
    selS (firstK p) k es i = (selS (fun (_ : Unit) i j => (p i j, ())) () es i).take k := by
  induction es generalizing k i with
  | nil => simp [selS]
  | cons o t ih =>
    cases o with
    | none => simp only [selS]; exact ih _ _
    | some j =>
      simp only [selS, firstK]
      by_cases hp : p i j = true
      · cases k with
        | zero => simp [hp]; rw [ih]; simp
        | succ k => simp [hp]; rw [ih]
      · simp [hp]; exact ih _ _

end YashModel.Job
