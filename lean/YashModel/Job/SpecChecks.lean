/-
  C12 — the checks of the Spec column (`docCheck`, `Spec.lean`) on the model's own steps: they hold, and the clause
  "a suspended job becomes the current job" fails exactly in the case of the known finding.
-/
import YashModel.Job.BuiltinTheorems
import YashModel.Job.ApiTheorems
namespace YashModel.Job

/-- the clause "a suspended job becomes the current job" on an `insert` of `job`: `none` if it holds or the job is
    not stopped, else the message of the known finding -/
def insertVerdict (s : JobList) (job : Job) : Option String :=
  if job.state.isStopped then
    (if suspendedBecomesCurrent s (s.insert job).2 job.pid then none else some knownInsertMsg)
  else none

/-- ★ the Boolean check of `Spec.lean` says what the sentence of the documentation says: the job with
    that pid is the current job, and the job that was the current job — if it is another one and is
    still in the list — is the previous job -/
theorem suspendedBecomesCurrent_iff (s s' : JobList) (pid : Nat) :
    suspendedBecomesCurrent s s' pid = true ↔
      ∃ j, lookup s'.pids pid = some j ∧ s'.currentJob = some j ∧
        ∀ c, s.currentJob = some c → c ≠ j → (∃ jc, s'.get c = some jc) → s'.previousJob = some c := by
  unfold suspendedBecomesCurrent
  cases lookup s'.pids pid with
  | none => simp
  | some j =>
    cases hc : s.currentJob with
    | none => simp
    | some c =>
      simp only [Bool.and_eq_true, Bool.or_eq_true, beq_iff_eq, Option.isNone_iff_eq_none, Option.some.injEq,
        exists_eq_left']
      constructor
      · rintro ⟨h1, h2⟩
        refine ⟨h1, ?_⟩
        intro c' e hne hex
        cases e
        rcases h2 with (h | h) | h
        · exact absurd h hne
        · obtain ⟨jc, hjc⟩ := hex; rw [h] at hjc; cases hjc
        · exact h
      · rintro ⟨h1, h2⟩
        refine ⟨h1, ?_⟩
        by_cases e : c = j
        · exact Or.inl (Or.inl e)
        · cases hg : s'.get c with
          | none => exact Or.inl (Or.inr rfl)
          | some jc => exact Or.inr (h2 c rfl e ⟨jc, hg⟩)

theorem insert_clause (s : JobList) (h : Inv s) (job : Job) (hpre : insertPre s job.pid = true)
    (hs : job.isSuspended = true) :
    suspendedBecomesCurrent s (s.insert job).2 job.pid = true ↔
      ¬ ∃ c jc, s.currentJob = some c ∧ s.get c = some jc ∧ jc.isSuspended = true := by
  have hinv' := insert_inv s job h hpre
  have hget := insert_new s job h
  have hl := lookup_of_inv hinv' hget
  obtain ⟨hiff, hprev⟩ := (doc_suspended_becomes_current s h).2 job hpre hs
  rw [suspendedBecomesCurrent_iff]
  constructor
  · rintro ⟨j, hj, hcur, _⟩
    rw [hl] at hj; cases hj
    exact hiff.mp hcur
  · intro hno
    have hcur := hiff.mpr hno
    exact ⟨_, hl, hcur, fun c hc hne _ => hprev hcur c hc hne⟩

theorem insertVerdict_spec (s : JobList) (h : Inv s) (job : Job) (hpre : insertPre s job.pid = true) :
    (insertVerdict s job = some knownInsertMsg ↔
      job.state.isStopped = true ∧ ∃ c jc, s.currentJob = some c ∧ s.get c = some jc ∧ jc.isSuspended = true) ∧
    (insertVerdict s job = none ∨ insertVerdict s job = some knownInsertMsg) := by
  unfold insertVerdict
  cases hst : job.state.isStopped with
  | false => simp
  | true =>
    have hcl := insert_clause s h job hpre hst
    simp only [if_true]
    by_cases hsus : ∃ c jc, s.currentJob = some c ∧ s.get c = some jc ∧ jc.isSuspended = true
    · have : suspendedBecomesCurrent s (s.insert job).2 job.pid = false := by
        cases hb : suspendedBecomesCurrent s (s.insert job).2 job.pid with
        | false => rfl
        | true => exact absurd hsus (hcl.mp hb)
      rw [this]
      exact ⟨⟨fun _ => ⟨trivial, hsus⟩, fun _ => by simp⟩, Or.inr (by simp)⟩
    · have : suspendedBecomesCurrent s (s.insert job).2 job.pid = true := hcl.mpr hsus
      rw [this]
      exact ⟨⟨fun e => by simp at e, fun e => absurd e.2 hsus⟩, Or.inl (by simp)⟩

/-- ★ the Spec column on the model's own steps: `update_status` never fails the clause; for an `insert`
    (directly, with a name, or through `handle_job_status`) the check returns `insertVerdict`, which —
    by `insertVerdict_spec`, under the precondition of `insert` — is the message of the KNOWN FINDING and no
    other, exactly when the inserted job is suspended and the current job is too -/
theorem spec_suspended_clause_on_model (s : JobList) (h : Inv s) (o : Out) :
    (∀ pid st, docCheck s (step s (.update pid st)) (.update pid st) o = none) ∧
    (∀ pid st, docCheck s (step s (.insert pid st)) (.insert pid st) o =
      insertVerdict s { pid := pid, state := st }) ∧
    (∀ pid st jc name, docCheck s (step s (.insertJob pid st jc name)) (.insertJob pid st jc name) o =
      insertVerdict s { pid := pid, state := st, jc := jc, name := name }) ∧
    (∀ pid r i name, docCheck s (step s (.hjs pid r i name)) (.hjs pid r i name) o =
      if r.isStopped then insertVerdict s { pid := pid, state := r, jc := true, name := name } else none) := by
  refine ⟨?_, ?_, ?_, ?_⟩
  · intro pid st
    simp only [docCheck, becameSuspended]
    cases hst : st.isStopped with
    | false => simp
    | true =>
      simp only [if_true]
      cases hl : lookup s.pids pid with
      | none => simp
      | some idx =>
        simp only [Option.bind_some]
        cases hg : s.get idx with
        | none => simp
        | some job =>
          simp only
          cases hsus : job.isSuspended with
          | true => simp
          | false =>
            simp only [Bool.false_eq_true, if_false]
            have hgg : gets s.entries idx = some job := hg
            obtain ⟨hcur, hprev⟩ := (doc_suspended_becomes_current s h).1 pid idx st job hl hgg hsus hst
            have hpids : (s.updateStatus pid st).2.pids = s.pids := (update_effect s pid idx st job hl hgg).2.1
            have : suspendedBecomesCurrent s (step s (.update pid st)) pid = true := by
              rw [suspendedBecomesCurrent_iff]
              refine ⟨idx, ?_, hcur, fun c hc hne _ => hprev c hc hne⟩
              show lookup (s.updateStatus pid st).2.pids pid = some idx
              rw [hpids]; exact hl
            simp [this]
  · intro pid st
    simp only [docCheck, becameSuspended, insertVerdict, step]
    cases st.isStopped <;> simp
  · intro pid st jc name
    simp only [docCheck, becameSuspended, insertVerdict, step]
    cases st.isStopped <;> simp
  · intro pid r i name
    cases hr : r.isStopped with
    | false => simp [docCheck, becameSuspended, hr]
    | true => simp [docCheck, becameSuspended, insertVerdict, step, (hjs_table s pid r i name).1 hr, hr]

/-- ★ The Boolean licences of the Spec column on the tables the model computes, for every table and every
    argument list: the last loop of `jobs` over any list of indices removes exactly the finished jobs among them
    (`jobsRemovalOk s (jobsFinish s idxs) idxs`), `bg` removes nothing and changes no state (`bgLicence`), `wait`
    removes only finished or disowned jobs and leaves every other entry as it was (`waitLicence`), the prompt report
    only clears `state_changed` (`promptLicence`).  For `wait` the last clause says so of `docCheck` itself; for
    `jobs`, `bg` and the prompt report `docCheck` evaluates these licences with arguments it derives from the
    documentation (`docDesignates`), and the tie to the model's own arguments is `model_meets_doc`, not restated
    here.  `fgLicence`, `syncLicence`, `waitEvLicence` have no such theorem. -/
theorem licences_on_model (s : JobList) :
    (∀ idxs, jobsRemovalOk s (jobsFinish s idxs) idxs = true) ∧
    (∀ m args, bgLicence s (bgBuiltin s m args).2 = true) ∧
    (∀ args, waitLicence s (waitBuiltin s args).2 = true) ∧
    (∀ m i, promptLicence s (promptReport s m i).2 (m && i) = true) ∧
    (∀ args o, docCheck s (step s (.wait args)) (.wait args) o = none) := by
  have hwait : ∀ args, waitLicence s (waitBuiltin s args).2 = true := by
    intro args
    unfold waitLicence
    rw [Bool.and_eq_true]
    constructor
    · rw [occupied_all]
      intro k j hk
      have hk' : s.get k = some j := hk
      rw [hk']
      simp only
      rcases wait_removes_only_finished s args k with e | ⟨e, j', hj', hfin⟩
      · rw [e, hk']; simp
      · rw [e]
        rw [hk'] at hj'; cases hj'
        rcases hfin with h | h <;> simp [h]
    · exact noNew_of_sub _ _ (waitBuiltin_respects respects_sub s args)
  refine ⟨?_, ?_, hwait, ?_, ?_⟩
  · intro idxs
    unfold jobsRemovalOk
    rw [occupied_all]
    intro k j hk
    have hk' : s.get k = some j := hk
    have hfin := jobs_removes_exactly_reported idxs s k
    rw [hk] at hfin
    simp only at hfin
    rw [hk']
    simp only
    by_cases hm : k ∈ idxs
    · cases ha : j.state.isAlive with
      | true =>
        simp only [hm, if_true, ha] at hfin
        simp [JobList.get, hfin]
      | false =>
        simp only [hm, if_true, ha, Bool.false_eq_true, if_false] at hfin
        simp [JobList.get, hfin, hm]
    · simp only [hm, if_false] at hfin
      simp [JobList.get, hfin, hm]
  · intro m args
    unfold bgLicence
    rw [Bool.and_eq_true]
    constructor
    · rw [occupied_all]
      intro k j hk
      have hk' : s.get k = some j := hk
      have := bg_removes_nothing s m args k
      rw [hk'] at this
      cases hb : (bgBuiltin s m args).2.get k with
      | none => rw [hb] at this; cases this
      | some j' =>
        rw [hb] at this
        simp only [Option.map_some, Option.some.injEq, Prod.mk.injEq] at this
        rw [hk']
        simp [this.1, this.2]
    · exact noNew_of_sub _ _ (bgBuiltin_sub s m args)
  · intro m i
    unfold promptLicence
    rw [Bool.and_eq_true]
    constructor
    · rw [occupied_all]
      intro k j hk
      cases m <;> cases i
      · simp [promptReport]
      · simp [promptReport]
      · simp [promptReport]
      · simp only [Bool.and_self, if_true]
        rw [promptReport_gets]; simp
    · exact noNew_of_sub _ _ (promptReport_respects respects_sub s m i)
  · intro args o
    simp only [docCheck, step, hwait args, if_true]

theorem mem_selectedIdx (s : JobList) (pred : Nat → Job → Bool) (i : Nat) :
    i ∈ selectedIdx s pred ↔ ∃ j, gets s.entries i = some j ∧ pred i j = true := by
  unfold selectedIdx occupied
  rw [List.mem_filter, mem_matchingIdx]
  constructor
  · rintro ⟨⟨j, hj, _⟩, hp⟩
    rw [hj] at hp
    exact ⟨j, hj, hp⟩
  · rintro ⟨j, hj, hp⟩
    exact ⟨⟨j, hj, rfl⟩, by rw [hj]; exact hp⟩

theorem selectedIdx_sorted (s : JobList) (pred : Nat → Job → Bool) : (selectedIdx s pred).Pairwise (· < ·) :=
  (matchingIdx_sorted _ _ _).filter _

theorem removeIf_returns_selectedIdx (s : JobList) (pred : Nat → Job → Bool) (report : Bool) :
    (s.removeIf pred report).1 = selectedIdx s pred := by
  obtain ⟨hm, hs⟩ := extract_if_returns s pred report
  exact sorted_ext _ _ hs (selectedIdx_sorted s pred) (fun k => by rw [hm, mem_selectedIdx]; rfl)

theorem slotsOk_of (s s' : JobList) (sel : List Nat) (report : Bool) (visited : Nat → Bool)
    (h : ∀ i, gets s'.entries i = match gets s.entries i with
        | none => none
        | some j => if sel.contains i then none
                    else some (if report && visited i then { j with changed := false } else j)) :
    slotsOk s s' sel report visited = true := by
  unfold slotsOk
  rw [List.all_eq_true]
  intro i _
  rw [h i]
  exact beq_self_eq_true _

theorem curRule_of (s s' : JobList) (sel : List Nat)
    (h1 : ∀ c, s.currentJob = some c → sel.contains c = false → s'.currentJob = some c)
    (h2 : ∀ c p, s.currentJob = some c → sel.contains c = true → s.previousJob = some p → sel.contains p = false →
        s'.currentJob = some p)
    (h3 : ∀ c p, s.currentJob = some c → sel.contains c = false → s.previousJob = some p → sel.contains p = false →
        s'.previousJob = some p) :
    curRule s s' sel = none := by
  unfold curRule
  cases hcur : s.currentJob with
  | none => rfl
  | some c =>
    simp only
    cases hc : sel.contains c with
    | false =>
      simp only [Bool.not_false, if_true, h1 c hcur hc, bne_self_eq_false, Bool.false_eq_true, if_false]
      cases hprev : s.previousJob with
      | none => rfl
      | some p =>
        simp only
        cases hp : sel.contains p with
        | true => simp
        | false => simp [h3 c p hcur hc hprev hp]
    | true =>
      simp only [Bool.not_true, Bool.false_eq_true, if_false]
      cases hprev : s.previousJob with
      | none => rfl
      | some p =>
        simp only
        cases hp : sel.contains p with
        | true => simp
        | false => simp [h2 c p hcur hc hprev hp]

/-- the two table checks of `removalSpec` at any position of the loop: `sel` the slots removed so far,
    `visited` the slots the iterator has passed -/
theorem LoopInv.checks {s : JobList} {pred : Nat → Job → Bool} {report : Bool} {k len : Nat} {t : JobList}
    (L : LoopInv s pred report k len t) (sel : List Nat) (visited : Nat → Bool)
    (hsel : ∀ i, sel.contains i = true ↔ Hit s pred k i)
    (hvis : ∀ i j, gets s.entries i = some j → (visited i = true ↔ i < k)) :
    slotsOk s t sel report visited = true ∧ curRule s t sel = none := by
  have hnot : ∀ i, sel.contains i = false → ¬ Hit s pred k i := fun i h hh => by
    rw [(hsel i).mpr hh] at h; cases h
  obtain ⟨S1, S2, S3⟩ := L.selection
  refine ⟨slotsOk_of s t sel report visited fun i => ?_,
    curRule_of s t sel (fun c hc h => S1 c hc (hnot c h))
      (fun c p hc h hp h' => S2 c p hc ((hsel c).mp h) hp (hnot p h'))
      (fun c p hc h hp h' => S3 c p hc (hnot c h) hp (hnot p h'))⟩
  rw [L.slot i]
  cases hg : gets s.entries i with
  | none => split <;> rfl
  | some j =>
    by_cases hi : i < k
    · have hc : sel.contains i = pred i j := by
        cases hp : pred i j with
        | true => exact (hsel i).mpr ⟨hi, j, hg, hp⟩
        | false =>
          apply Bool.eq_false_iff.mpr
          intro hh
          obtain ⟨_, j', hj', hp'⟩ := (hsel i).mp hh
          rw [hg] at hj'; cases hj'; rw [hp] at hp'; cases hp'
      rw [if_pos hi]
      simp only [procSlot_some, hc, (hvis i j hg).mpr hi, Bool.and_true]
    · have hc : sel.contains i = false := Bool.eq_false_iff.mpr fun hh => hi ((hsel i).mp hh).1
      have hv : visited i = false := Bool.eq_false_iff.mpr fun hh => hi ((hvis i j hg).mp hh)
      rw [if_neg hi]
      simp only [hc, hv, Bool.and_false, Bool.false_eq_true, if_false]

theorem removalSpec_drain (s : JobList) (pred : Nat → Job → Bool) (report : Bool)
    (ret : Option (List Nat)) (hret : ret = none ∨ ret = some (selectedIdx s pred)) :
    removalSpec s (s.removeIf pred report).2 pred report none ret = none := by
  obtain ⟨k, len', L, hend, hH, _, _⟩ := removeIf_spec s pred report
  have hla : (s.removeIf pred report).2.lastAsync = s.lastAsync := extractLoop_respects respects_async _ _ _ _ _ _ _
  obtain ⟨h1, h2⟩ := L.checks (selectedIdx s pred) (visitedAt none)
    (fun i => by rw [List.contains_iff_mem, mem_selectedIdx, hH])
    (fun i j hj => ⟨fun _ => Nat.lt_of_not_le fun h => (by rw [hend i h] at hj; cases hj), fun _ => rfl⟩)
  have hret' : (ret.isSome && ret != some (selectedIdx s pred)) = false := by
    rcases hret with rfl | rfl <;> simp
  unfold removalSpec
  simp [h1, h2, hla, hret']

theorem sameTable_refl (a : JobList) : sameTable a a = true := by
  unfold sameTable
  simp

theorem reportOneSpec_model (s : JobList) (i : Nat) (h : Inv s) : reportOneSpec s (s.reportOne i) i = true := by
  obtain ⟨_, hc, hp, hl, hg⟩ := report_one_effect s i h
  unfold reportOneSpec
  simp only [hc, hp, hl, beq_self_eq_true, Bool.and_true]
  rw [List.all_eq_true]
  intro k _
  rw [← JobList.get_eq (s.reportOne i), hg k]
  exact beq_self_eq_true _

theorem selS_pure_eq (s : JobList) (p : Nat → Job → Bool) :
    selS (fun (_ : Unit) i j => (p i j, ())) () s.entries 0 = selectedIdx s p :=
  sorted_ext _ _ (selS_pure_sorted p _ 0) (selectedIdx_sorted s p) (fun k => by
    rw [mem_selS_pure_zero, mem_selectedIdx])

theorem removalSpec_take (s : JobList) (n : Nat) (pred : Nat → Job → Bool) (report : Bool) :
    removalSpec s (s.extractTake n pred report).2 pred report (some n) (some (s.extractTake n pred report).1) = none := by
  have hcut := extractTake_cut s n pred report
  have hret : (s.extractTake n pred report).1 = (selectedIdx s pred).take n := by
    rw [extract_take_returns, removeIf_returns_selectedIdx]
  have hla : (s.extractTake n pred report).2.lastAsync = s.lastAsync := extractLoopN_respects respects_async _ _ _ _ _ _ _ _
  unfold JobList.extractTake at hcut hret hla ⊢
  generalize extractLoopN pred report (s.entries.length + 1) n 0 s.len s [] = r at hcut hret hla ⊢
  obtain ⟨l, s'⟩ := r
  simp only at hcut hret hla ⊢
  obtain ⟨k, len', L, hmem, hcase⟩ := hcut
  subst hret
  -- where the Spec thinks the iterator stopped is where it stopped, as far as occupied slots go
  have hvis : ∀ i j, gets s.entries i = some j → (visitedAt (takeCut (selectedIdx s pred) n) i = true ↔ i < k) := by
    intro i j hj
    rcases hcase with ⟨_, hk, hn⟩ | ⟨hend, hlen⟩ | ⟨hlast, hk, hlen⟩
    · subst hk; subst hn; simp [takeCut, visitedAt]
    · have hlt : (selectedIdx s pred).length < n := by rw [List.length_take] at hlen; omega
      have hn : n ≠ 0 := by omega
      have hik : i < k := Nat.lt_of_not_le fun h => by rw [hend i h] at hj; cases hj
      simp [takeCut, hn, hlt, visitedAt, hik]
    · have hn : n ≠ 0 := by intro h0; subst h0; simp at hlast
      have hge : ¬ (selectedIdx s pred).length < n := by rw [List.length_take] at hlen; omega
      have : takeCut (selectedIdx s pred) n = some k := by
        simp only [takeCut, hn, hge, if_false, hlast, Option.map_some]
        congr 1; omega
      rw [this]; simp [visitedAt]
  obtain ⟨h1, h2⟩ := L.checks ((selectedIdx s pred).take n) _
    (fun i => by rw [List.contains_iff_mem]; exact hmem i) hvis
  unfold removalSpec
  simp [h1, h2, hla]

/-- ★ the Spec-column checks of the `remove_if` / `extract_if` family hold on EVERY step of the model, from every consistent table
    (hence along every history, with `inv_reachable`): what the doc comments of `remove_if`, `extract_if` (drained, or
    advanced `n` times and dropped), `add`, `get_mut().state_reported()` and `add_job_if_suspended` promise — written
    in `Spec.lean` against a filter over the occupied slots, not against the loop — is true of the transcription
    of the code, for every predicate of the case language, every `n`, every counting closure.  So a `spec FAIL`
    on one of these steps can only come from a table the model did not compute. -/
theorem api_licences_on_model (s : JobList) (op : Op) (h : Inv s) (hpre : opPre s op = true) :
    docCheckApi s (step s op) op = none := by
  cases op with
  | removeIf p r => exact removalSpec_drain s p.eval r none (Or.inl rfl)
  | extractIf p r =>
    exact removalSpec_drain s p.eval r _ (Or.inr (by rw [removeIf_returns_selectedIdx]))
  | extractTake n p r => exact removalSpec_take s n p.eval r
  | removeIfFirst k p r =>
    simp only [docCheckApi, step]
    rw [removeIfS_eq, selS_firstK, selS_pure_eq]
    exact removalSpec_drain s _ r none (Or.inl rfl)
  | reportOne i => simp only [docCheckApi, step, reportOneSpec_model s i h, if_true]
  | addJob pid st => simp only [docCheckApi, step, JobList.add, sameTable_refl, if_true]
  | ajs pid r i name =>
    by_cases hs : r.isStopped = true
    · simp only [docCheckApi, step, addJobIfSuspended, hs, if_true]
      have hpre' : insertPre s pid = true := by simpa [opPre, hs] using hpre
      have hI := insert_inv s { pid := pid, state := r, jc := true, name := name } h hpre'
      have hg := insert_new s { pid := pid, state := r, jc := true, name := name } h
      have hl := lookup_of_inv hI hg
      rw [hl]
      simp only [Option.bind_some, JobList.get_eq, hg, and_self, if_true]
    · simp only [docCheckApi, step, addJobIfSuspended, hs, Bool.false_eq_true, if_false, sameTable_refl, if_true]
  | _ => rfl

end YashModel.Job
