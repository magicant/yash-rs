/-
  C12 — property theorems (and non-vacuity examples) about `remove_if` with an arbitrary closure (the
  operations `removeIfDone` / `removeIfChanged` are two instances), `extract_if` drained or dropped early,
  the deprecated `add` and `add_job_if_suspended`, `get_mut(i).state_reported()`.
-/
import YashModel.Job.Theorems
namespace YashModel.Job

/-- ★ `JobList::remove_if` (= `extract_if(..).for_each(drop)`), for EVERY predicate on (index, job), with or
    without `state_reported` in the closure, on every consistent table:
    * the table stays consistent (all clauses of the property);
    * slot by slot: a job the predicate selects is gone, every other job is in its slot, the same job (only
      `state_changed` cleared if the closure reports it), nothing is added;
    * `$!` is unchanged;
    * a current job that is not selected is still the current job;
    * if the current job is selected and the previous job is not, the previous job is the current job
      ("If the removed job is the current job, the previous job becomes the current job" — also when the
      selection contains many jobs, and whichever of the current and the previous job the loop visits first);
    * if neither is selected, the previous job is still the previous job;
    * if any job survives there is a current job (also when the selection contains the current AND
      the previous job). -/
theorem remove_if_effect (s : JobList) (pred : Nat → Job → Bool) (report : Bool) (h : Inv s) :
    let s' := s.removeIfDrop pred report
    Inv s' ∧ Consistent s' ∧
    (∀ i, s'.get i = match s.get i with
                     | none => none
                     | some j => if pred i j then none
                                 else some (if report then { j with changed := false } else j)) ∧
    s'.lastAsync = s.lastAsync ∧
    (∀ c j, s.currentJob = some c → s.get c = some j → pred c j = false → s'.currentJob = some c) ∧
    (∀ c jc p jp, s.currentJob = some c → s.get c = some jc → pred c jc = true →
        s.previousJob = some p → s.get p = some jp → pred p jp = false → s'.currentJob = some p) ∧
    (∀ c jc p jp, s.currentJob = some c → s.get c = some jc → pred c jc = false →
        s.previousJob = some p → s.get p = some jp → pred p jp = false → s'.previousJob = some p) ∧
    ((∃ i j, s.get i = some j ∧ pred i j = false) → ∃ c j, s'.currentJob = some c ∧ s'.get c = some j) := by
  intro s'
  have hI : Inv s' := extractLoop_respects respects_inv _ _ _ _ _ _ _ h
  have hC := consistent_of_inv s' hI
  obtain ⟨k, len', L, hend, hH, _, _⟩ := removeIf_spec s pred report
  have hnot : ∀ i j, s.get i = some j → pred i j = false → ¬ Hit s pred k i := fun i j hi hp hh => by
    obtain ⟨j', hj', hp'⟩ := (hH i).mp hh
    cases hi.symm.trans hj'; rw [hp] at hp'; cases hp'
  obtain ⟨S1, S2, S3⟩ := L.selection
  refine ⟨hI, hC, fun i => ?_, extractLoop_respects respects_async _ _ _ _ _ _ _, ?_, ?_, ?_, ?_⟩
  · exact (L.slot_end hend i).trans (procSlot_eq_match pred report i _)
  · exact fun c j hc hj hp => S1 c hc (hnot c j hj hp)
  · exact fun c jc p jp hc hjc hpc hp hjp hpp => S2 c p hc ((hH c).mpr ⟨jc, hjc, hpc⟩) hp (hnot p jp hjp hpp)
  · exact fun c jc p jp hc hjc hpc hp hjp hpp => S3 c p hc (hnot c jc hjc hpc) hp (hnot p jp hjp hpp)
  · rintro ⟨i, j, hi, hp⟩
    obtain ⟨j', hj'⟩ := L.survives hi (hnot i j hi hp)
    exact hC.current_exists ⟨i, j', hj'⟩

/-- ★ `extract_if` drained is the same table as `remove_if` (the removed jobs are only handed out) -/
theorem extract_if_table (s : JobList) (pred : Nat → Job → Bool) (report : Bool) :
    (s.removeIf pred report).2 = s.removeIfDrop pred report := rfl

/-- ★ what `extract_if` hands out: exactly the job numbers whose job the predicate selects (judged on the table the
    call started from), each once, in ascending order ("Jobs are iterated in the order of indices") -/
theorem extract_if_returns (s : JobList) (pred : Nat → Job → Bool) (report : Bool) :
    (∀ k, k ∈ (s.removeIf pred report).1 ↔ ∃ j, s.get k = some j ∧ pred k j = true) ∧
    (s.removeIf pred report).1.Pairwise (· < ·) := by
  obtain ⟨_, _, _, _, _, hm, hs⟩ := removeIf_spec s pred report
  exact ⟨hm, hs⟩

/-- ★ `remove_if` / `extract_if` with an `FnMut` closure that carries its own state (any state type, any transition):
    the call is the call with the PURE predicate "the job number is among `selS f st`", where `selS` runs the closure
    once over the jobs of the table the call starts from, in the order of the job numbers — so every clause of
    `remove_if_effect` (consistency, slot-wise effect, current / previous job, "a survivor implies a current job")
    and `extract_if_returns` holds for stateful closures with that predicate; for the counting closure "remove the
    first `k` jobs that satisfy `p`" the selected job numbers are the first `k` the pure `p` selects. -/
theorem remove_if_stateful {σ : Type} (s : JobList) (f : σ → Nat → Job → Bool × σ) (st : σ) (report : Bool) (h : Inv s) :
    s.removeIfS f st report = s.removeIf (fun i _ => (selS f st s.entries 0).contains i) report ∧
    Inv (s.removeIfS f st report).2 ∧ Consistent (s.removeIfS f st report).2 ∧
    (∀ i, (s.removeIfS f st report).2.get i = match s.get i with
        | none => none
        | some j => if (selS f st s.entries 0).contains i then none
                    else some (if report then { j with changed := false } else j)) ∧
    ((∃ i j, s.get i = some j ∧ (selS f st s.entries 0).contains i = false) →
        ∃ c j, (s.removeIfS f st report).2.currentJob = some c ∧ (s.removeIfS f st report).2.get c = some j) ∧
    (∀ (p : Nat → Job → Bool) (k : Nat),
        selS (firstK p) k s.entries 0 = (selS (fun (_ : Unit) i j => (p i j, ())) () s.entries 0).take k) := by
  have e := removeIfS_eq s f st report
  obtain ⟨h1, h2, h3, _, _, _, _, h8⟩ := remove_if_effect s (fun i _ => (selS f st s.entries 0).contains i) report h
  rw [e]
  exact ⟨rfl, h1, h2, h3, h8, fun p k => selS_firstK p k s.entries 0⟩

/-- ★ the list an early-dropped `extract_if(..).take(n)` yields is the first `n` entries of the list the drained
    iterator yields (with `extract_if_returns`: the first `n` selected job numbers, ascending) -/
theorem extract_take_returns (s : JobList) (n : Nat) (pred : Nat → Job → Bool) (report : Bool) :
    (s.extractTake n pred report).1 = (s.removeIf pred report).1.take n := by
  have := extractLoopN_take pred report (s.entries.length + 1) n 0 s.len s []
  simpa [JobList.extractTake, JobList.removeIf] using this

/-- ★ `extract_if(..).take(n)` dropped early ("the remaining jobs are retained in the list"), every `n`, every
    predicate, every consistent table: the table stays consistent, `$!` is unchanged, and the call has worked
    through exactly a prefix of the job numbers — below some `k` every slot is as after `remove_if`, from `k`
    on every slot is untouched (also its `state_changed` flag). -/
theorem extract_take_prefix (s : JobList) (n : Nat) (pred : Nat → Job → Bool) (report : Bool) (h : Inv s) :
    let s' := (s.extractTake n pred report).2
    Inv s' ∧ Consistent s' ∧ s'.lastAsync = s.lastAsync ∧
    ∃ k, ∀ i, s'.get i = if i < k then
                           (match s.get i with
                            | none => none
                            | some j => if pred i j then none
                                        else some (if report then { j with changed := false } else j))
                         else s.get i := by
  intro s'
  have hI : Inv s' := extractLoopN_respects respects_inv _ _ _ _ _ _ _ _ h
  refine ⟨hI, consistent_of_inv _ hI, extractLoopN_respects respects_async _ _ _ _ _ _ _ _, ?_⟩
  obtain ⟨k, len, L, _⟩ := extractTake_cut s n pred report
  refine ⟨k, fun i => (L.slot i).trans ?_⟩
  rw [procSlot_eq_match]; rfl

/-- ★ with at least as many `next` calls as there are jobs, `take` changes nothing: the early-dropped iterator
    and the drained one are the same function -/
theorem extract_take_all (s : JobList) (n : Nat) (pred : Nat → Job → Bool) (report : Bool) (hn : s.len ≤ n) :
    s.extractTake n pred report = s.removeIf pred report :=
  extractLoopN_eq _ _ _ _ _ _ _ _ hn

/-- ★ `take(0)`: an iterator that is never advanced does nothing (`extract_if` is lazy) -/
theorem extract_take_zero (s : JobList) (pred : Nat → Job → Bool) (report : Bool) :
    s.extractTake 0 pred report = ([], s) := by
  unfold JobList.extractTake extractLoopN; rfl

/-- ★ the deprecated entry points: `add` IS `insert` (index and table), and `add_job_if_suspended` leaves the
    table `handle_job_status` leaves; hence every theorem about `insert` / `handle_job_status` (`inv_step`,
    `insert_suspended_selection`, `hjs_table`, the known finding) speaks about them too. -/
theorem deprecated_aliases (s : JobList) (job : Job) (pid : Nat) (r : PState) (i : Bool) (name : Str) :
    s.add job = s.insert job ∧
    (addJobIfSuspended s pid r i name).2 = (handleJobStatus s pid r i name).2 ∧
    (addJobIfSuspended s pid r i name).1.2 = (handleJobStatus s pid r i name).1.2 ∧
    (r.isStopped = true → (addJobIfSuspended s pid r i name).1 = (handleJobStatus s pid r i name).1) := by
  refine ⟨rfl, ajs_table s pid r i name, ?_, ?_⟩
  · unfold addJobIfSuspended handleJobStatus; split <;> rfl
  · intro hs; unfold addJobIfSuspended handleJobStatus; simp [hs]

/-- ★ `get_mut(i).state_reported()`: only the `state_changed` flag of slot `i` changes -/
theorem report_one_effect (s : JobList) (i : Nat) (h : Inv s) :
    Inv (s.reportOne i) ∧ (s.reportOne i).currentJob = s.currentJob ∧ (s.reportOne i).previousJob = s.previousJob ∧
    (s.reportOne i).lastAsync = s.lastAsync ∧
    ∀ k, (s.reportOne i).get k = if k = i then (s.get i).map (fun j => { j with changed := false }) else s.get k :=
  ⟨reportOne_respects respects_inv s i h, (modify_selection s i _).1, (modify_selection s i _).2,
    (modify_fields s i _).2.2.2.2, modify_gets s i _⟩

open Generated.JobTables in
/-- ★ the delegations the model takes over instead of transcribing a second body are the ones of the code:
    tools/tables/job.py re-reads yash-env/src/job.rs on every run and writes these flags only if `remove_if`
    drains `self.extract_if(..)`, `add` is `self.insert(job)` and `ExtractIf::next` removes through
    `JobList::remove` (any other body stops the run); here they are tied to the model's definitions. -/
theorem api_shapes_agree :
    (removeIfDrainsExtractIf = true ∧ ∀ s p r, JobList.removeIfDrop s p r = (s.removeIf p r).2) ∧
    (addIsAliasOfInsert = true ∧ ∀ s j, JobList.add s j = s.insert j) ∧
    (extractIfRemovesWithRemove = true ∧
      ∀ (p : Nat → Job → Bool) (r : Bool) (fuel idx len : Nat) (s : JobList) (acc : List Nat) (j : Job),
        gets s.entries idx = some j → p idx j = true →
        extractLoop p r (fuel + 1) idx (len + 1) s acc =
          extractLoop p r fuel (idx + 1) len
            ((if r then { s with entries := s.entries.set idx (some { j with changed := false }) } else s).remove idx).2
            (idx :: acc)) := by
  refine ⟨⟨rfl, fun _ _ _ => rfl⟩, ⟨rfl, fun _ _ => rfl⟩, rfl, ?_⟩
  intro p r fuel idx len s acc j hg hp
  rw [extractLoop]
  simp only [hg, hp, if_true]

/-- `remove_if` of the current and the previous job (`purgeHistory`): the surviving job is the current job -/
example :
    let s := run JobList.empty (purgeHistory.take 3)
    s.currentJob = some 0 ∧ s.previousJob = some 1 ∧
    (s.removeIfDrop (RmPred.mask 3).eval false).currentJob = some 2 ∧
    (s.removeIfDrop (RmPred.mask 3).eval false).len = 1 := by decide +kernel

/-- hypotheses of the "previous becomes current" clause: current selected, previous not, a third job selected too -/
example :
    let s := run JobList.empty [.insert 101 .running, .insert 102 (.stopped 20), .insert 103 .running, .insert 104 (.stopped 19)]
    s.currentJob = some 1 ∧ s.previousJob = some 3 ∧ (RmPred.mask 6).eval 1 default = true ∧
    (RmPred.mask 6).eval 3 default = false ∧
    (s.removeIfDrop (RmPred.mask 6).eval true).currentJob = some 3 := by decide +kernel

/-- `take 1` stops after the first removal: job 2 is finished too but is retained, flag untouched -/
example :
    let s := run JobList.empty [.insert 101 (.exited 0), .insert 102 .running, .insert 103 (.exited 1)]
    (s.extractTake 1 RmPred.done.eval true).1 = [0] ∧
    ((s.extractTake 1 RmPred.done.eval true).2.get 2).map (·.changed) = some true ∧
    (s.extractTake 3 RmPred.done.eval true).1 = [0, 2] := by decide +kernel

/-- a counting closure on a table with a hole and a finished job: the first two running jobs go, the third stays -/
example :
    let s := run JobList.empty [.insert 101 .running, .insert 102 (.exited 0), .insert 103 .running, .insert 104 .running,
                                .remove 1]
    selS (firstK RmPred.running.eval) 2 s.entries 0 = [0, 2] ∧
    (s.removeIfS (firstK RmPred.running.eval) 2 false).2.currentJob = some 3 ∧
    (s.removeIfS (firstK RmPred.running.eval) 2 false).2.len = 1 := by decide +kernel

/-- the budget of `take` counts removals, not visited jobs: a job that is not selected does not use it up; the
    jobs behind the first removal keep their `state_changed` flag, the ones before it are reported -/
example :
    let s := run JobList.empty [.insert 101 .running, .insert 102 (.exited 0), .insert 103 (.exited 1)]
    (s.extractTake 1 RmPred.done.eval true).1 = [1] ∧
    ((s.extractTake 1 RmPred.done.eval true).2.get 0).map (·.changed) = some false ∧
    ((s.extractTake 1 RmPred.done.eval true).2.get 2).map (·.changed) = some true ∧
    (s.extractTake 1 RmPred.done.eval true).2.currentJob = some 0 := by decide +kernel

end YashModel.Job
