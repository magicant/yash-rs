/-
  Every compound operation on the job table (C12) — the built-ins `jobs`, `bg`, `fg`, `wait`, `cmd &`, the status
  sync, the prompt report, the `extract_if` loops — is a composition of the primitive operations of `Primitives.lean`.
  `Respects R` says that a preorder `R` on tables contains the primitive steps which neither add a job nor set `$!`;
  one `X_respects` per compound operation then gives, for every such `R` at once, `R s (X s)`: preservation of the
  invariant, `Sub`, "`$!` is unchanged".  `RespectsMarks` is the part of it that `bg` needs.  Where a property is not
  closed under the primitives as such (it depends on when a job is removed), the `X_ind` lemmas let it follow the
  compound operation step by step.
-/
import YashModel.Job.Primitives
namespace YashModel.Job

/-- the table part of a successful `bg::resume_job_by_index` -/
def bgTable (s : JobList) (index : Nat) (job : Job) : JobList :=
  ((if job.state.isAlive then s.expect index (some .running) else s).setLastAsync job.pid).setCurrentOk index

/-- the table after the state changes `fg` hears about: `Running` if the job was stopped, then `outcome` -/
def fgHeard (s : JobList) (job : Job) (outcome : PState) : JobList :=
  ((if job.state.isStopped then (s.updateStatus job.pid .running).2 else s).updateStatus job.pid outcome).2

/-- the table part of a successful `fg::resume_job_by_index` -/
def fgTable (s : JobList) (index : Nat) (job : Job) (outcome : PState) : JobList :=
  if job.state.isAlive then
    if outcome.isStopped then fgHeard s job outcome else ((fgHeard s job outcome).remove index).2
  else (s.remove index).2

/-- the job `fg::main` is to resume: the current job, or the one its single operand designates -/
def fgTarget (s : JobList) (operands : List Str) : Except String Nat :=
  match operands with
  | [] => (match s.currentJob with | some i => .ok i | none => .error "nojob")
  | [op] =>
    (match parseJobId op with
     | none => .error "badid"
     | some id => match id.find s with | .ok i => .ok i | .error e => .error (findErrClass e))
  | _ => .error "many"

theorem sub_modify (s : JobList) (i : Nat) (f : Job → Job) (hf : ∀ j, (f j).pid = j.pid) : Sub s (s.modify i f) := by
  intro k
  rw [modify_gets]
  by_cases hk : k = i
  · rw [if_pos hk, hk]
    cases gets s.entries i with
    | none => exact Or.inl rfl
    | some j => exact Or.inr ⟨j, f j, rfl, rfl, hf j⟩
  · rw [if_neg hk]; exact Sub.refl s k

theorem sub_mapJobs (s : JobList) (f : Job → Job) (hf : ∀ j, (f j).pid = j.pid) :
    Sub s { s with entries := s.entries.map (fun o => o.map f) } := by
  intro k
  simp only [gets_map]
  cases h : gets s.entries k with
  | none => exact Or.inl rfl
  | some j => exact Or.inr ⟨j, f j, rfl, rfl, hf j⟩

theorem remove_sub (s : JobList) (i : Nat) : Sub s (s.remove i).2 := by
  intro k
  rw [remove_gets]
  by_cases hk : k = i
  · exact Or.inl (if_pos hk)
  · rw [if_neg hk]; exact Sub.refl s k

theorem update_sub (s : JobList) (pid : Nat) (st : PState) : Sub s (s.updateStatus pid st).2 := by
  intro k
  cases hg : gets (s.updateStatus pid st).2.entries k with
  | none => exact Or.inl rfl
  | some j' =>
    have hp := update_pidAt s pid st k
    rw [hg] at hp
    cases hs : gets s.entries k with
    | none => rw [hs] at hp; cases hp
    | some j => rw [hs] at hp; exact Or.inr ⟨j, j', rfl, rfl, Option.some.inj hp⟩

structure Respects (R : JobList → JobList → Prop) : Prop where
  refl : ∀ s, R s s
  trans : ∀ {a b c}, R a b → R b c → R a c
  remove : ∀ s i, R s (s.remove i).2
  update : ∀ s pid st, R s (s.updateStatus pid st).2
  modify : ∀ s i f, (∀ j, (f j).pid = j.pid ∧ (f j).isSuspended = j.isSuspended) → R s (s.modify i f)
  select : ∀ s s' i, s.setCurrentJob i = .ok s' → R s s'
  mapJobs : ∀ s f, (∀ j, (f j).pid = j.pid ∧ (f j).isSuspended = j.isSuspended) →
    R s { s with entries := s.entries.map (fun o => o.map f) }

theorem respects_inv : Respects (fun s s' => Inv s → Inv s') where
  refl _ h := h
  trans f g h := g (f h)
  remove s i := remove_inv s i
  update s pid st := update_inv s pid st
  modify s i f hf := modify_inv s i f hf
  select s s' i hs h := setCurrent_inv s s' i h hs
  mapJobs s f hf := mapJobs_inv s f hf

theorem respects_sub : Respects Sub where
  refl := Sub.refl
  trans := Sub.trans
  remove := remove_sub
  update := update_sub
  modify s i f hf := sub_modify s i f fun j => (hf j).1
  select s s' i hs := sub_of_entries_eq (setCurrent_fields s s' i hs).1
  mapJobs s f hf := sub_mapJobs s f fun j => (hf j).1

theorem respects_async : Respects (fun s s' => s'.lastAsync = s.lastAsync) where
  refl _ := rfl
  trans f g := g.trans f
  remove := remove_lastAsync
  update := update_lastAsync
  modify s i f _ := (modify_fields s i f).2.2.2.2
  select s s' i hs := (setCurrent_fields s s' i hs).2.1
  mapJobs _ _ _ := rfl

/-- the part of `Respects` that `bg`, `expect` and `set_current_job` need: fields other than pid and state are
    set, the selection changes -/
structure RespectsMarks (R : JobList → JobList → Prop) : Prop where
  refl : ∀ s, R s s
  trans : ∀ {a b c}, R a b → R b c → R a c
  mark : ∀ s i f, (∀ j, (f j).pid = j.pid ∧ (f j).state = j.state) → R s (s.modify i f)
  select : ∀ s s' i, s.setCurrentJob i = .ok s' → R s s'

theorem Respects.marks {R : JobList → JobList → Prop} (hR : Respects R) : RespectsMarks R :=
  ⟨hR.refl, hR.trans, fun s i f hf => hR.modify s i f fun j => ⟨(hf j).1, congrArg PState.isStopped (hf j).2⟩,
    hR.select⟩

variable {R : JobList → JobList → Prop}

theorem reportOne_respects (hR : Respects R) (s : JobList) (i : Nat) : R s (s.reportOne i) :=
  hR.modify s i _ fun _ => ⟨rfl, rfl⟩

theorem Respects.reportIf (hR : Respects R) (s : JobList) (idx : Nat) (j : Job)
    (report : Bool) (hg : gets s.entries idx = some j) :
    R s (if report then { s with entries := s.entries.set idx (some { j with changed := false }) } else s) := by
  cases report with
  | false => exact hR.refl s
  | true => exact reportOne_occupied s idx j hg ▸ reportOne_respects hR s idx

theorem expect_respects (hR : RespectsMarks R) (s : JobList) (i : Nat) (st : Option PState) : R s (s.expect i st) :=
  hR.mark s i _ fun _ => ⟨rfl, rfl⟩

theorem setLastAsync_inv (s : JobList) (p : Nat) (h : Inv s) : Inv (s.setLastAsync p) :=
  ⟨h.j, h.p, h.f⟩

theorem setCurrentOk_respects (hR : RespectsMarks R) (s : JobList) (i : Nat) : R s (s.setCurrentOk i) := by
  unfold JobList.setCurrentOk
  cases hs : s.setCurrentJob i with
  | error e => exact hR.refl s
  | ok s' => exact hR.select s s' i hs

theorem setCurrentOk_fields (s : JobList) (i : Nat) :
    (s.setCurrentOk i).entries = s.entries ∧ (s.setCurrentOk i).lastAsync = s.lastAsync ∧
    (s.setCurrentOk i).pids = s.pids := by
  unfold JobList.setCurrentOk
  cases hs : s.setCurrentJob i with
  | error e => exact ⟨rfl, rfl, rfl⟩
  | ok s' => exact setCurrent_fields s s' i hs

theorem expect_lastAsync (s : JobList) (i : Nat) (st : Option PState) : (s.expect i st).lastAsync = s.lastAsync :=
  (modify_fields s i _).2.2.2.2

/-! ### the `extract_if` loops -/

theorem extractLoopN_respects (hR : Respects R) (pred : Nat → Job → Bool) (report : Bool)
    (fuel n idx len : Nat) (s : JobList) (acc : List Nat) :
    R s (extractLoopN pred report fuel n idx len s acc).2 := by
  fun_induction extractLoopN pred report fuel n idx len s acc with
  | case1 | case2 | case3 => exact hR.refl _
  | case4 _ _ _ _ _ _ _ ih => exact ih
  | case5 _ _ idx _ s _ j hg _ _ ih => exact hR.trans (hR.trans (hR.reportIf s idx j report hg) (hR.remove _ _)) ih
  | case6 _ _ idx _ s _ j hg _ _ ih => exact hR.trans (hR.reportIf s idx j report hg) ih

theorem extractLoopN_eq (pred : Nat → Job → Bool) (report : Bool) (fuel n idx len : Nat) (s : JobList)
    (acc : List Nat) (hn : len ≤ n) :
    extractLoopN pred report fuel n idx len s acc = extractLoop pred report fuel idx len s acc := by
  fun_induction extractLoopN pred report fuel n idx len s acc with
  | case1 => rfl
  | case2 t idx len s acc ht =>
    obtain rfl := Nat.le_zero.mp hn
    obtain ⟨t, rfl⟩ := Nat.exists_eq_succ_of_ne_zero ht
    rfl
  | case3 t n idx s acc _ ht =>
    obtain ⟨t, rfl⟩ := Nat.exists_eq_succ_of_ne_zero ht
    rfl
  | case4 fuel n idx len s acc hg ih => rw [extractLoop]; simp only [hg]; exact ih hn
  | case5 fuel n idx len s acc j hg s1 hp ih => rw [extractLoop]; simp only [hg, hp, if_true]; exact ih (by omega)
  | case6 fuel n idx len s acc j hg s1 hp ih => rw [extractLoop]; simp only [hg, hp]; exact ih (by omega)

theorem extractLoop_respects (hR : Respects R) (pred : Nat → Job → Bool)
    (report : Bool) (fuel idx len : Nat) (s : JobList) (acc : List Nat) :
    R s (extractLoop pred report fuel idx len s acc).2 := by
  rw [← extractLoopN_eq pred report fuel len idx len s acc (Nat.le_refl _)]
  exact extractLoopN_respects hR _ _ _ _ _ _ _ _

/-! ### `jobs` -/

theorem jobsFinish1_respects (hR : Respects R) (s : JobList) (i : Nat) : R s (jobsFinish1 s i) := by
  rw [jobsFinish1_eq]
  cases gets s.entries i with
  | none => exact hR.refl s
  | some j =>
    simp only
    split
    · exact reportOne_respects hR s i
    · exact hR.remove s i

theorem jobsFinish_respects (hR : Respects R) (idxs : List Nat) (s : JobList) : R s (jobsFinish s idxs) :=
  List.foldlRecOn (motive := R s) idxs jobsFinish1 (hR.refl s) fun s' h i _ => hR.trans h (jobsFinish1_respects hR s' i)

theorem jobsBuiltin_cases (s : JobList) (args : List Str) :
    ((jobsBuiltin s args).1.status ≠ 0 ∧ (jobsBuiltin s args).2 = s) ∨
    ∃ opts operands idxs, parseArgs ['l', 'p'] args = some (opts, operands) ∧ jobsTargets s operands = .ok idxs ∧
      jobsBuiltin s args =
        ({ status := 0, stdout := jobsPrint s (opts.contains 'l') (opts.contains 'p') idxs }, jobsFinish s idxs) := by
  fun_cases jobsBuiltin s args with
  | case1 | case2 => exact Or.inl ⟨Nat.succ_ne_zero 1, rfl⟩
  | case3 => exact Or.inl ⟨Nat.succ_ne_zero 0, rfl⟩
  | case4 opts operands hp _ idxs ht => exact Or.inr ⟨opts, operands, idxs, hp, ht, rfl⟩

theorem jobsBuiltin_respects (hR : Respects R) (s : JobList) (args : List Str) : R s (jobsBuiltin s args).2 := by
  rcases jobsBuiltin_cases s args with ⟨_, e⟩ | ⟨_, _, idxs, _, _, e⟩ <;> rw [e]
  · exact hR.refl s
  · exact jobsFinish_respects hR idxs s

theorem jobsClosed_respects (hR : Respects R) (s : JobList) (args : List Str) : R s (jobsClosed s args).2 := by
  unfold jobsClosed
  split
  · exact hR.refl s
  · exact jobsBuiltin_respects hR s args

/-! ### `bg` -/

theorem parseArgs_percent (allowed : List Char) (cs : Str) (rest : List Str) :
    parseArgs allowed (('%' :: cs) :: rest) = some ([], ('%' :: cs) :: rest) := by
  cases cs with
  | nil => rfl
  | cons c cs => simp [parseArgs]

theorem bgResume_table (s : JobList) (index : Nat) :
    ((bgResume s index).2 = s ∧ ∀ job, gets s.entries index = some job → job.owned = false ∨ job.jc = false) ∨
    ∃ job, gets s.entries index = some job ∧ job.owned = true ∧ job.jc = true ∧
      bgResume s index =
        (.ok (['['] ++ natStr (index + 1) ++ [']', ' '] ++ job.name ++ ['\n']), bgTable s index job) := by
  fun_cases bgResume s index with
  | case1 hg => exact Or.inl ⟨rfl, fun job h => by rw [hg] at h; cases h⟩
  | case2 job hg ho => exact Or.inl ⟨rfl, fun job' h => by rw [hg] at h; cases h; exact Or.inl (by simpa using ho)⟩
  | case3 job hg _ hc => exact Or.inl ⟨rfl, fun job' h => by rw [hg] at h; cases h; exact Or.inr (by simpa using hc)⟩
  | case4 job hg ho hc => exact Or.inr ⟨job, hg, by simpa using ho, by simpa using hc, rfl⟩

theorem bgResume_no_panic (s : JobList) (index : Nat) (job : Job) (hg : gets s.entries index = some job) :
    (bgResume s index).1 ≠ .error "panic" := by
  fun_cases bgResume s index with
  | case1 hn => rw [hg] at hn; cases hn
  | case2 | case3 => exact fun e => absurd (Except.error.inj e) (by decide)
  | case4 => exact fun e => nomatch e

theorem bgTable_respects (hR : RespectsMarks R) (hset : ∀ s p, R s (s.setLastAsync p)) (s : JobList) (index : Nat)
    (job : Job) : R s (bgTable s index job) := by
  unfold bgTable
  refine hR.trans (hR.trans ?_ (hset _ _)) (setCurrentOk_respects hR _ _)
  split
  · exact expect_respects hR s index _
  · exact hR.refl s

theorem bgResume_respects (hR : RespectsMarks R) (hset : ∀ s p, R s (s.setLastAsync p)) (s : JobList) (index : Nat) :
    R s (bgResume s index).2 := by
  rcases bgResume_table s index with ⟨e, _⟩ | ⟨job, _, _, _, e⟩ <;> rw [e]
  · exact hR.refl s
  · exact bgTable_respects hR hset s index job

theorem bgResumeId_respects (hR : RespectsMarks R) (hset : ∀ s p, R s (s.setLastAsync p)) (s : JobList) (op : Str) :
    R s (bgResumeId s op).2 := by
  fun_cases bgResumeId s op with
  | case1 | case2 => exact hR.refl s
  | case3 _ _ index _ => exact bgResume_respects hR hset s index

theorem bgLoop_respects (hR : RespectsMarks R) (hset : ∀ s p, R s (s.setLastAsync p)) (ops : List Str) (s : JobList)
    (out : Str) (errs : List String) : R s (bgLoop ops s out errs).2 := by
  fun_induction bgLoop ops s out errs with
  | case1 => exact hR.refl _
  | case2 op _ s _ _ _ _ e ih | case3 op _ s _ _ _ _ e ih =>
    exact hR.trans (by simpa [e] using bgResumeId_respects hR hset s op) ih

theorem bgBuiltin_snd (s : JobList) (m : Bool) (args : List Str) :
    (bgBuiltin s m args).2 =
      match parseArgs [] args with
      | none => s
      | some (_, operands) =>
        if !m then s
        else if operands.isEmpty then (match s.currentJob with | none => s | some index => (bgResume s index).2)
        else (bgLoop operands s [] []).2 := by
  fun_cases bgBuiltin s m args with
  | case1 hp => rw [hp]
  | case2 _ _ hp hm => rw [hp]; simp only [hm, if_true]
  | case3 _ _ hp hm he hc => rw [hp]; simp only [hm, he, hc, if_true]; rfl
  | case4 _ _ hp hm he _ hc _ _ e | case5 _ _ hp hm he _ hc _ _ e => rw [hp]; simp only [hm, he, hc, if_true, e]; rfl
  | case6 _ _ hp hm he => rw [hp]; simp only [hm, he]; rfl

theorem bgBuiltin_respects (hR : RespectsMarks R) (hset : ∀ s p, R s (s.setLastAsync p)) (s : JobList) (m : Bool)
    (args : List Str) : R s (bgBuiltin s m args).2 := by
  rw [bgBuiltin_snd]
  split
  · exact hR.refl s
  · split
    · exact hR.refl s
    · split
      · split
        · exact hR.refl s
        · exact bgResume_respects hR hset s _
      · exact bgLoop_respects hR hset _ _ _ _

theorem bgBuiltin_sub (s : JobList) (m : Bool) (args : List Str) : Sub s (bgBuiltin s m args).2 :=
  bgBuiltin_respects respects_sub.marks (fun _ _ => sub_of_entries_eq rfl) s m args

theorem bgResume_ok (s : JobList) (index : Nat) (job : Job)
    (hg : gets s.entries index = some job) (ho : job.owned = true) (hc : job.jc = true) :
    bgResume s index =
      (.ok (['['] ++ natStr (index + 1) ++ [']', ' '] ++ job.name ++ ['\n']), bgTable s index job) := by
  rcases bgResume_table s index with ⟨_, hno⟩ | ⟨job', hg', _, _, e⟩
  · rcases hno job hg with h | h
    · rw [ho] at h; cases h
    · rw [hc] at h; cases h
  · rw [hg] at hg'; cases hg'; exact e

/-! ### `fg` -/

theorem fgResume_table (s : JobList) (index : Nat) (outcome : PState) :
    ((fgResume s index outcome).2 = s ∧
      ∀ job, gets s.entries index = some job → job.owned = false ∨ job.jc = false) ∨
    ∃ job, gets s.entries index = some job ∧ job.owned = true ∧ job.jc = true ∧
      fgResume s index outcome =
        (.ok (job.name ++ ['\n'], if job.state.isAlive then outcome else job.state), fgTable s index job outcome) := by
  fun_cases fgResume s index outcome with
  | case1 hg => exact Or.inl ⟨rfl, fun job h => by rw [hg] at h; cases h⟩
  | case2 job hg ho => exact Or.inl ⟨rfl, fun job' h => by rw [hg] at h; cases h; exact Or.inl (by simpa using ho)⟩
  | case3 job hg _ hc => exact Or.inl ⟨rfl, fun job' h => by rw [hg] at h; cases h; exact Or.inr (by simpa using hc)⟩
  | case4 job hg ho hc _ ha =>
    refine Or.inr ⟨job, hg, by simpa using ho, by simpa using hc, ?_⟩
    unfold fgTable fgHeard; rw [if_pos ha, if_pos ha]
  | case5 job hg ho hc _ ha =>
    refine Or.inr ⟨job, hg, by simpa using ho, by simpa using hc, ?_⟩
    unfold fgTable; rw [if_neg ha, if_neg ha]

theorem fgTable_respects (hR : Respects R) (s : JobList) (index : Nat) (job : Job)
    (outcome : PState) : R s (fgTable s index job outcome) := by
  have h2 : R s (fgHeard s job outcome) := by
    refine hR.trans ?_ (hR.update _ job.pid outcome)
    split
    · exact hR.update s _ _
    · exact hR.refl s
  unfold fgTable
  split
  · split
    · exact h2
    · exact hR.trans h2 (hR.remove _ _)
  · exact hR.remove s index

theorem fgResume_ok (s : JobList) (index : Nat) (outcome : PState) (job : Job)
    (hg : gets s.entries index = some job) (ho : job.owned = true) (hc : job.jc = true) :
    fgResume s index outcome =
      (.ok (job.name ++ ['\n'], if job.state.isAlive then outcome else job.state), fgTable s index job outcome) := by
  rcases fgResume_table s index outcome with ⟨_, hno⟩ | ⟨job', hg', _, _, e⟩
  · rcases hno job hg with h | h
    · rw [ho] at h; cases h
    · rw [hc] at h; cases h
  · rw [hg] at hg'; cases hg'; exact e

theorem fgResume_respects (hR : Respects R) (s : JobList) (index : Nat) (outcome : PState) :
    R s (fgResume s index outcome).2 := by
  rcases fgResume_table s index outcome with ⟨e, _⟩ | ⟨job, _, _, _, e⟩ <;> rw [e]
  · exact hR.refl s
  · exact fgTable_respects hR s index job outcome

/-- the interactive flag has no part in the table `fg::main` leaves -/
theorem fgBuiltin_snd (s : JobList) (m i : Bool) (outcome : PState) (args : List Str) :
    (fgBuiltin s m i outcome args).2 =
      match parseArgs [] args with
      | none => s
      | some (_, operands) =>
        if !m then s
        else match fgTarget s operands with
          | .error _ => s
          | .ok index => (fgResume s index outcome).2 := by
  fun_cases fgBuiltin s m i outcome args with
  | case1 hp => rw [hp]
  | case2 _ _ hp hm => rw [hp]; simp only [hm, if_true]
  | case3 _ operands hp hm _ _ e =>
    rw [hp]; simp only [hm, Bool.false_eq_true, if_false]; rw [show fgTarget s operands = .error _ from e]
  | case4 _ operands hp hm _ _ e _ _ _ e' | case5 _ operands hp hm _ _ e _ _ e' =>
    rw [hp]; simp only [hm, Bool.false_eq_true, if_false]; rw [show fgTarget s operands = .ok _ from e]; simp only [e']

theorem fgBuiltin_table (s : JobList) (m i : Bool) (outcome : PState) (args : List Str) :
    (fgBuiltin s m i outcome args).2 = s ∨ ∃ index, (fgBuiltin s m i outcome args).2 = (fgResume s index outcome).2 := by
  rw [fgBuiltin_snd]
  split
  · exact Or.inl rfl
  · split
    · exact Or.inl rfl
    · split
      · exact Or.inl rfl
      · exact Or.inr ⟨_, rfl⟩

theorem fgBuiltin_respects (hR : Respects R) (s : JobList) (m i : Bool) (outcome : PState) (args : List Str) :
    R s (fgBuiltin s m i outcome args).2 := by
  rcases fgBuiltin_table s m i outcome args with e | ⟨k, e⟩ <;> rw [e]
  · exact hR.refl s
  · exact fgResume_respects hR s k outcome

/-! ### `wait`: one `job_status` step, the loop over all jobs -/

/-- ★ one `job_status` step of `wait`: a job is removed exactly when it is disowned or finished,
    and then the exit status is 127 resp. the job's; an owned job that is alive stays (`Continue`) -/
theorem wait_job_status (s : JobList) (index : Nat) (job : Job) (hg : gets s.entries index = some job) :
    (job.owned = false → jobStatus s index = (some 127, (s.remove index).2)) ∧
    (job.owned = true → job.state.isAlive = false →
      jobStatus s index = (some job.state.exitStatus, (s.remove index).2)) ∧
    (job.owned = true → job.state.isAlive = true → jobStatus s index = (none, s)) := by
  unfold jobStatus
  simp only [hg]
  refine ⟨?_, ?_, ?_⟩
  · intro ho; simp [ho]
  · intro ho ha; simp [ho, ha]
  · intro ho ha; simp [ho, ha]

theorem jobStatus_vacant (s : JobList) (i : Nat) (hg : gets s.entries i = none) : jobStatus s i = (some 127, s) := by
  unfold jobStatus; rw [hg]

theorem jobStatus_table (s : JobList) (i : Nat) :
    (jobStatus s i).2 = s ∨
    ∃ job, gets s.entries i = some job ∧ (job.owned = false ∨ job.state.isAlive = false) ∧
      (jobStatus s i).2 = (s.remove i).2 := by
  cases hg : gets s.entries i with
  | none => exact Or.inl (by rw [jobStatus_vacant s i hg])
  | some job =>
    obtain ⟨h1, h2, h3⟩ := wait_job_status s i job hg
    cases ho : job.owned with
    | false => exact Or.inr ⟨job, rfl, Or.inl ho, by rw [h1 ho]⟩
    | true =>
      cases ha : job.state.isAlive with
      | true => exact Or.inl (by rw [h3 ho ha])
      | false => exact Or.inr ⟨job, rfl, Or.inr ha, by rw [h2 ho ha]⟩

theorem jobStatus_respects (hR : Respects R) (s : JobList) (i : Nat) : R s (jobStatus s i).2 := by
  rcases jobStatus_table s i with e | ⟨_, _, _, e⟩ <;> rw [e]
  · exact hR.refl s
  · exact hR.remove s i

theorem waitAllLoop_ind (P : JobList → Prop) (hP : ∀ s i, P s → P (jobStatus s i).2)
    (l : List Nat) (s : JobList) (h : P s) : P (waitAllLoop l s).2 := by
  fun_induction waitAllLoop l s with
  | case1 => exact h
  | case2 i _ s _ _ e ih => exact ih (by simpa [e] using hP s i h)
  | case3 i _ s _ e => simpa [e] using hP s i h

theorem waitAll_ind (P : JobList → Prop) (hP : ∀ s i, P s → P (jobStatus s i).2)
    (s : JobList) (h : P s) : P (waitAll s).2 := by
  unfold waitAll
  cases lastOccupied s.entries with
  | none => exact h
  | some m => exact waitAllLoop_ind P hP _ s h

/-! ### `cmd &`, `handle_job_status` and the deprecated `add_job_if_suspended` -/

theorem ampersand_inv (s : JobList) (pid : Nat) (m i : Bool) (name : Str) (h : Inv s)
    (hpre : insertPre s pid = true) : Inv (ampersand s pid m i name).2 := by
  unfold ampersand
  exact setLastAsync_inv _ _ (insert_inv s (asyncJob pid m name) h hpre)

/-- ★ `handle_job_status`: a process result that is `Stopped` inserts the job (job-controlled, under
    the given name, in that state) and interrupts an interactive shell; any other result leaves the
    table alone, and interrupts only for `SIGINT` in an interactive shell -/
theorem hjs_table (s : JobList) (pid : Nat) (r : PState) (i : Bool) (name : Str) :
    (r.isStopped = true →
      handleJobStatus s pid r i name =
        ((i, r.exitStatus), (s.insert { pid := pid, state := r, jc := true, name := name }).2)) ∧
    (r.isStopped = false →
      (handleJobStatus s pid r i name).2 = s ∧
      ((handleJobStatus s pid r i name).1.1 = true ↔ i = true ∧ ∃ core, r = .signaled 2 core)) := by
  unfold handleJobStatus
  constructor
  · intro hr; simp [hr]
  · intro hr
    simp only [hr, Bool.false_eq_true, if_false, true_and]
    cases r <;> simp

theorem hjs_rel {P : JobList → Prop} (s : JobList) (pid : Nat) (r : PState) (i : Bool) (name : Str)
    (h0 : P s) (h1 : r.isStopped = true → P (s.insert { pid := pid, state := r, jc := true, name := name }).2) :
    P (handleJobStatus s pid r i name).2 := by
  cases hs : r.isStopped with
  | false => rw [((hjs_table s pid r i name).2 hs).1]; exact h0
  | true => rw [(hjs_table s pid r i name).1 hs]; exact h1 hs

theorem ajs_table (s : JobList) (pid : Nat) (r : PState) (i : Bool) (name : Str) :
    (addJobIfSuspended s pid r i name).2 = (handleJobStatus s pid r i name).2 := by
  unfold addJobIfSuspended handleJobStatus
  split <;> rfl

/-! ### the status sync, the prompt report, `wait` while the system reports state changes (plain `wait`: none is reported) -/

theorem applyEvent_table (s : JobList) (ev : Ev) :
    applyEvent s ev = s ∨ applyEvent s ev = (s.updateStatus ev.1 ev.2).2 := by
  unfold applyEvent
  split
  · exact Or.inr rfl
  · exact Or.inl rfl

theorem applyEvent_respects (hR : Respects R) (s : JobList) (ev : Ev) : R s (applyEvent s ev) := by
  rcases applyEvent_table s ev with e | e <;> rw [e]
  · exact hR.refl s
  · exact hR.update s _ _

theorem updateAll_respects (hR : Respects R) (s : JobList) (evs : List Ev) : R s (updateAll s evs) :=
  List.foldlRecOn (motive := R s) evs applyEvent (hR.refl s) fun s' h ev _ => hR.trans h (applyEvent_respects hR s' ev)

theorem reportLast_respects (hR : Respects R) (s : JobList) : R s s.reportLast := by
  rw [reportLast_eq]
  cases lastOccupied s.entries with
  | none => exact hR.refl s
  | some i => exact reportOne_respects hR s i

theorem promptReport_respects (hR : Respects R) (s : JobList) (m i : Bool) : R s (promptReport s m i).2 := by
  unfold promptReport
  split
  · exact hR.refl s
  · exact List.foldlRecOn (motive := R s) _ JobList.markReported (hR.refl s) fun s' h k _ => hR.trans h (reportOne_respects hR s' k)

theorem waitWhile_rest (test : JobList → Option Nat × JobList) (evs : List Ev) (s : JobList) :
    ∀ ev ∈ (waitWhile test evs s).2.2, ev ∈ evs := by
  fun_induction waitWhile test evs s with
  | case1 | case2 => exact fun _ h => nomatch h
  | case3 => exact fun _ h => h
  | case4 _ _ _ _ _ ih => exact fun ev h => List.mem_cons_of_mem _ (ih ev h)

theorem waitWhile_ind (P : JobList → Prop) (test : JobList → Option Nat × JobList)
    (hT : ∀ s, P s → P (test s).2) (evs : List Ev) (hE : ∀ s, ∀ ev ∈ evs, P s → P (applyEvent s ev))
    (s : JobList) (h : P s) : P (waitWhile test evs s).2.1 := by
  fun_induction waitWhile test evs s with
  | case1 s _ _ e | case2 s _ e | case3 _ _ s _ _ e => simpa [e] using hT s h
  | case4 ev _ s s' e ih =>
    exact ih (fun t ev' m => hE t ev' (List.mem_cons_of_mem _ m))
      (hE s' ev (List.mem_cons_self ..) (by simpa [e] using hT s h))

theorem waitAllTest_table (s : JobList) : (waitAllTest s).2 = (waitAll s).2 := by
  unfold waitAllTest
  cases waitAll s with
  | mk b s' => cases b <;> rfl

theorem waitSeqEv_ind (P : JobList → Prop) (hP : ∀ s i, P s → P (jobStatus s i).2)
    (l : List (Option Nat)) (evs : List Ev) (hE : ∀ s, ∀ ev ∈ evs, P s → P (applyEvent s ev))
    (s : JobList) (last : Nat) (h : P s) : P (waitSeqEv l evs s last).2 := by
  fun_induction waitSeqEv l evs s last with
  | case1 => exact h
  | case2 _ _ _ _ ih => exact ih hE h
  | case3 i _ evs s _ _ _ _ e ih =>
    have hr := waitWhile_rest (fun t => jobStatus t i) evs s
    rw [e] at hr
    exact ih (fun t ev m => hE t ev (hr ev m))
      (by simpa [e] using waitWhile_ind P (fun t => jobStatus t i) (fun t ht => hP t i ht) evs hE s h)
  | case4 i _ evs s _ _ _ e =>
    simpa [e] using waitWhile_ind P (fun t => jobStatus t i) (fun t ht => hP t i ht) evs hE s h

theorem waitBuiltinEv_ind (P : JobList → Prop) (hP : ∀ s i, P s → P (jobStatus s i).2)
    (s : JobList) (evs : List Ev) (hE : ∀ s, ∀ ev ∈ evs, P s → P (applyEvent s ev))
    (args : List Str) (h : P s) : P (waitBuiltinEv s evs args).2 := by
  fun_cases waitBuiltinEv s evs args with
  | case1 | case2 | case3 => exact h
  | case4 _ _ _ _ _ _ _ _ _ _ _ e | case5 _ _ _ _ _ _ _ _ _ _ e =>
    simpa [e] using waitWhile_ind P waitAllTest
      (fun t ht => by rw [waitAllTest_table]; exact waitAll_ind P hP t ht) evs hE s h
  | case6 _ _ _ _ _ r _ _ _ _ e | case7 _ _ _ _ _ r _ _ _ e =>
    have h1 := waitSeqEv_ind P hP r.1 evs hE s 0 h; rwa [e] at h1

theorem waitBuiltinEv_respects (hR : Respects R) (s : JobList) (evs : List Ev) (args : List Str) :
    R s (waitBuiltinEv s evs args).2 :=
  waitBuiltinEv_ind (R s) (fun s' i h => hR.trans h (jobStatus_respects hR s' i)) s evs
    (fun s' ev _ h => hR.trans h (applyEvent_respects hR s' ev)) args (hR.refl s)

theorem waitSeqEv_nil (l : List (Option Nat)) (s : JobList) (last : Nat) :
    waitSeqEv l [] s last = waitSeq l s last := by
  induction l generalizing s last with
  | nil => rfl
  | cons o rest ih =>
    cases o with
    | none => simp only [waitSeqEv, waitSeq]; exact ih _ _
    | some i =>
      simp only [waitSeqEv, waitSeq, waitWhile]
      cases jobStatus s i with
      | mk r s' =>
        cases r with
        | some st => exact ih _ _
        | none => rfl

/-- ★ with no state change pending, `wait` as the system-driven model runs it is `waitBuiltin`
    (no child left: waiting for a job that is alive fails with "no job to wait for") -/
theorem waitBuiltinEv_nil (s : JobList) (args : List Str) : waitBuiltinEv s [] args = waitBuiltin s args := by
  unfold waitBuiltinEv waitBuiltin
  cases parseArgs [] args with
  | none => rfl
  | some r =>
    obtain ⟨opts, operands⟩ := r
    simp only
    cases operands.mapM waitSpecOf with
    | none => rfl
    | some specs =>
      simp only
      split
      · rfl
      · split
        · simp only [waitWhile, waitAllTest]
          cases waitAll s with
          | mk b s' => cases b <;> rfl
        · rw [waitSeqEv_nil]

/-- plain `wait` follows the `job_status` steps only: the case of no event -/
theorem waitBuiltin_ind (P : JobList → Prop) (hP : ∀ s i, P s → P (jobStatus s i).2)
    (s : JobList) (args : List Str) (h : P s) : P (waitBuiltin s args).2 :=
  waitBuiltinEv_nil s args ▸ waitBuiltinEv_ind P hP s [] (fun _ _ m => nomatch m) args h

theorem waitBuiltin_respects (hR : Respects R) (s : JobList) (args : List Str) : R s (waitBuiltin s args).2 :=
  waitBuiltin_ind (R s) (fun s' i h => hR.trans h (jobStatus_respects hR s' i)) s args (hR.refl s)

end YashModel.Job
