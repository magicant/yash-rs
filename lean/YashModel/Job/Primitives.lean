/-
  What each `JobList` operation does, stated once (C12): for `remove`, `insert`, `update_status`,
  `set_current_job` and the operations that set a field of one job (`modify`) or of every job, the table
  afterwards field by field and slot by slot, and that the invariant holds again.  Nothing outside this file
  unfolds these operations.
-/
import YashModel.Job.Rank
namespace YashModel.Job

/-- `get_mut(i)` followed by an assignment to fields of the job: `expect`, `state_reported()` on one job
    (`reportOne`, `markReported`, `reportLast`, the closures of `extract_if`, the last loop of `jobs`) -/
def JobList.modify (s : JobList) (i : Nat) (f : Job → Job) : JobList :=
  match gets s.entries i with
  | none => s
  | some j => { s with entries := s.entries.set i (some (f j)) }

/-- the job after `update_status` has heard of the state `st` -/
def Job.updated (job : Job) (st : PState) : Job :=
  { job with state := st, changed := job.changed || decide (job.expected ≠ some st), expected := none }

theorem remove_jinv (es' : Slab) (g : Nat → Option Job) (cur prev i : Nat)
    (hg : ∀ k, gets es' k = if k = i then none else g k) (h : JInv g cur prev) :
    JInv (gets es') (if i = cur then prev else cur)
      (if i = cur ∨ i = prev then
        (anySuspendedButCurrent es' (if i = cur then prev else cur)).getD
          ((anyButCurrent es' (if i = cur then prev else cur)).getD 0)
      else prev) := by
  rw [jinv_iff] at h ⊢
  have hoff : ∀ k, k ≠ i → rk (gets es' k) = rk (g k) := fun k hk => by rw [hg, if_neg hk]
  have hi : rk (gets es' i) ≤ rk (g i) := by rw [hg, if_pos rfl]; exact Nat.zero_le _
  have hs := fun c => isPrev_anySusp es' c _ (isPrev_anyBut es' c 0)
  by_cases h1 : i = cur
  · subst h1
    rw [if_pos rfl, if_pos (Or.inl rfl)]
    exact ⟨h.lowerCur hoff (by rw [hg, if_pos rfl]; exact Nat.zero_le _), hs prev⟩
  · rw [if_neg h1]
    have L := h.lowerOff hoff hi h1
    by_cases h2 : i = prev
    · rw [if_pos (Or.inr h2)]; exact ⟨L.1, hs cur⟩
    · rw [if_neg (not_or.mpr ⟨h1, h2⟩)]; exact ⟨L.1, L.2 h2⟩

/-- The pid index survives when a slot and the key of its pid change together: slot `i` gets `o` (vacated, or
    filled with a job of pid `pid`), the key `pid` gets `i` or nothing accordingly, and before the change `pid` sat
    in slot `i` or nowhere. -/
theorem pinv_change {g g' : Nat → Option Job} {m m' : PidMap} {i pid : Nat} {o : Option Job} (h : PInv g m)
    (hg : ∀ k, g' k = if k = i then o else g k)
    (hm : ∀ q, lookup m' q = if q = pid then o.map (fun _ => i) else lookup m q)
    (ho : ∀ j, o = some j → j.pid = pid) (hold : ∀ j, g i = some j → j.pid = pid)
    (honly : ∀ k j, g k = some j → j.pid = pid → k = i) : PInv g' m' := by
  intro p k
  rw [hm, hg]
  by_cases hp : p = pid
  · rw [if_pos hp]
    by_cases hk : k = i
    · rw [if_pos hk, hk]
      cases o with
      | none => exact ⟨fun e => (nomatch e), fun ⟨_, e, _⟩ => (nomatch e)⟩
      | some j => exact ⟨fun _ => ⟨j, rfl, (ho j rfl).trans hp.symm⟩, fun _ => rfl⟩
    · rw [if_neg hk]
      refine ⟨fun e => ?_, fun ⟨j, hj, hjp⟩ => absurd (honly k j hj (hjp.trans hp)) hk⟩
      cases o with
      | none => cases e
      | some j => exact absurd (Option.some.inj e).symm hk
  · rw [if_neg hp, h p k]
    by_cases hk : k = i
    · rw [if_pos hk, hk]
      exact ⟨fun ⟨j, hj, hjp⟩ => absurd (hjp.symm.trans (hold j hj)) hp,
        fun ⟨j, hj, hjp⟩ => absurd (hjp.symm.trans (ho j hj)) hp⟩
    · rw [if_neg hk]

theorem pinv_congr {g g' : Nat → Option Job} {m : PidMap}
    (hpid : ∀ k, (g' k).map (·.pid) = (g k).map (·.pid)) (h : PInv g m) : PInv g' m := by
  intro p i
  have key : ∀ o : Option Job, (∃ j, o = some j ∧ j.pid = p) ↔ o.map (·.pid) = some p := by
    intro o; cases o <;> simp
  rw [h p i, key, key, hpid]

theorem finv_congr {es es' : Slab} {free : List Nat} (hlen : es'.length = es.length)
    (hv : ∀ k, gets es k = none → gets es' k = none) (h : FInv es free) : FInv es' free :=
  ⟨fun k hk => ⟨hlen ▸ (h.1 k hk).1, hv k (h.1 k hk).2⟩, h.2⟩

theorem map_gets_set {α : Type} (es : Slab) {i : Nat} {j j' : Job} (f : Job → α)
    (hi : gets es i = some j) (hf : f j' = f j) (k : Nat) :
    (gets (es.set i (some j')) k).map f = (gets es k).map f := by
  rw [gets_set _ _ _ _ (gets_some_lt hi)]
  split
  · next e => rw [e, hi, Option.map_some, Option.map_some, hf]
  · rfl

theorem pinv_set {es : Slab} {m : PidMap} {i : Nat} {j j' : Job} (h : PInv (gets es) m)
    (hi : gets es i = some j) (hp : j'.pid = j.pid) : PInv (gets (es.set i (some j'))) m :=
  pinv_congr (map_gets_set es _ hi hp) h

theorem finv_set {es : Slab} {free : List Nat} {i : Nat} {j : Job} (h : FInv es free)
    (hi : gets es i = some j) (j' : Job) : FInv (es.set i (some j')) free := by
  refine finv_congr (List.length_set ..) (fun k hk => ?_) h
  have : k ≠ i := by rintro rfl; rw [hi] at hk; cases hk
  rw [gets_set _ _ _ _ (gets_some_lt hi), if_neg this, hk]

/-! ### `remove` -/

theorem remove_vacant (s : JobList) (i : Nat) (h : gets s.entries i = none) : s.remove i = (none, s) := by
  unfold JobList.remove; rw [h]

/-- `remove` of an occupied slot, field by field.  The slab is the old one with slot `i` vacated, or — when that
    leaves no job — the cleared one; either way slot-wise lookup is the old one with `i` vacant. -/
theorem remove_spec (s : JobList) (i : Nat) (job : Job) (h : gets s.entries i = some job) :
    ∃ es fr, ((es = s.entries.set i none ∧ fr = i :: s.free) ∨
        (es = [] ∧ fr = [] ∧ slabLen (s.entries.set i none) = 0)) ∧
      (∀ k, gets es k = if k = i then none else gets s.entries k) ∧
      s.remove i = (some job,
        { s with entries := es, free := fr, pids := eraseK s.pids job.pid,
                 cur := if i = s.cur then s.prev else s.cur,
                 prev := if i = s.cur ∨ i = s.prev then
                     (anySuspendedButCurrent es (if i = s.cur then s.prev else s.cur)).getD
                       ((anyButCurrent es (if i = s.cur then s.prev else s.cur)).getD 0)
                   else s.prev }) := by
  have G := fun k => gets_set s.entries i k none (gets_some_lt h)
  unfold JobList.remove
  rw [h]
  by_cases hz : slabLen (s.entries.set i none) = 0
  · refine ⟨[], [], Or.inr ⟨rfl, rfl, hz⟩, fun k => ?_, by simp only [hz, if_true]⟩
    rw [gets_nil, ← G]; exact ((slabLen_zero_iff _).mp hz k).symm
  · exact ⟨_, i :: s.free, Or.inl ⟨rfl, rfl⟩, G, by simp only [hz, if_false]⟩

theorem remove_gets (s : JobList) (i k : Nat) :
    gets (s.remove i).2.entries k = if k = i then none else gets s.entries k := by
  cases hg : gets s.entries i with
  | none =>
    rw [remove_vacant s i hg]
    by_cases hk : k = i
    · rw [if_pos hk, hk]; exact hg
    · rw [if_neg hk]
  | some job =>
    obtain ⟨es, fr, _, G, e⟩ := remove_spec s i job hg
    rw [e]; exact G k

theorem remove_get_self (s : JobList) (i : Nat) : (s.remove i).2.get i = none := by
  rw [JobList.get_eq, remove_gets, if_pos rfl]

theorem remove_get_ne (s : JobList) {i k : Nat} (h : k ≠ i) : (s.remove i).2.get k = s.get k := by
  rw [JobList.get_eq, remove_gets, if_neg h]; rfl

theorem remove_lastAsync (s : JobList) (i : Nat) : (s.remove i).2.lastAsync = s.lastAsync := by
  cases hg : gets s.entries i with
  | none => rw [remove_vacant s i hg]
  | some job => obtain ⟨_, _, _, _, e⟩ := remove_spec s i job hg; rw [e]

theorem remove_cur (s : JobList) (i : Nat) (j : Job) (h : gets s.entries i = some j) :
    (s.remove i).2.cur = if i = s.cur then s.prev else s.cur := by
  obtain ⟨_, _, _, _, e⟩ := remove_spec s i j h; rw [e]

theorem remove_prev_ne (s : JobList) (i : Nat) (j : Job) (h : gets s.entries i = some j)
    (h1 : i ≠ s.cur) (h2 : i ≠ s.prev) : (s.remove i).2.prev = s.prev := by
  obtain ⟨_, _, _, _, e⟩ := remove_spec s i j h; rw [e]; exact if_neg (not_or.mpr ⟨h1, h2⟩)

theorem remove_tail (s : JobList) (idx : Nat) (j : Job) (h : gets s.entries idx = some j) :
    (s.remove idx).2.entries.drop (idx + 1) = s.entries.drop (idx + 1) ∨
    ((s.remove idx).2.entries.drop (idx + 1) = [] ∧ slabLen (s.entries.drop (idx + 1)) = 0) := by
  obtain ⟨es, fr, hes, _, e⟩ := remove_spec s idx j h
  rw [e]
  rcases hes with ⟨rfl, _⟩ | ⟨rfl, _, hz⟩
  · exact Or.inl (List.drop_set_of_lt (by omega))
  · refine Or.inr ⟨List.drop_nil, ?_⟩
    have := slabLen_zero_drop _ (idx + 1) hz
    rwa [List.drop_set_of_lt (by omega)] at this

theorem remove_tail_slabLen (s : JobList) (idx : Nat) (j : Job) (h : gets s.entries idx = some j) :
    slabLen ((s.remove idx).2.entries.drop (idx + 1)) = slabLen (s.entries.drop (idx + 1)) := by
  rcases remove_tail s idx j h with e | ⟨e, hz⟩
  · rw [e]
  · rw [e, hz]; rfl

theorem remove_tail_selS {σ : Type} (f : σ → Nat → Job → Bool × σ) (st : σ) (t : JobList) (idx : Nat) (j : Job)
    (hg : gets t.entries idx = some j) (k : Nat) :
    selS f st ((t.remove idx).2.entries.drop (idx + 1)) k = selS f st (t.entries.drop (idx + 1)) k := by
  rcases remove_tail t idx j hg with e | ⟨e, hz⟩
  · rw [e]
  · rw [e, selS_empty f _ _ _ hz]; rfl

theorem remove_inv (s : JobList) (i : Nat) (h : Inv s) : Inv (s.remove i).2 := by
  cases hg : gets s.entries i with
  | none => rw [remove_vacant s i hg]; exact h
  | some job =>
    obtain ⟨es, fr, hes, G, e⟩ := remove_spec s i job hg
    have hi := gets_some_lt hg
    rw [e]
    refine ⟨remove_jinv _ _ _ _ _ G h.j,
      pinv_change h.p G (lookup_eraseK s.pids job.pid) (fun _ e => nomatch e) (fun j e => by rw [hg] at e; cases e; rfl)
        fun k j hk hp => Option.some.inj (((h.p job.pid k).mpr ⟨j, hk, hp⟩).symm.trans (lookup_of_inv h hg)),
      ?_⟩
    -- only the free list looks at the slab itself
    rcases hes with ⟨rfl, rfl⟩ | ⟨rfl, rfl, _⟩
    · refine ⟨fun k hk => ?_, List.nodup_cons.mpr ⟨fun hmem => ?_, h.f.2⟩⟩
      · rw [List.length_set, G]
        rcases List.mem_cons.mp hk with rfl | hk
        · exact ⟨hi, if_pos rfl⟩
        · exact ⟨(h.f.1 k hk).1, by split <;> simp [(h.f.1 k hk).2]⟩
      · have := (h.f.1 i hmem).2; rw [hg] at this; cases this
    · exact ⟨fun k hk => (nomatch hk), List.nodup_nil⟩

/-! ### `insert` -/

/-- `reselectInsert` as a function of the ranks of the current and the previous job; the two `Option Bool` arguments
    are written in the shape in which `map_suspAt_current` / `map_suspAt_previous` produce them -/
theorem reselectInsert_eq (rc rp : Nat) (pv : Prop) [Decidable pv] (newSusp : Bool) (idx cur prev : Nat) :
    reselectInsert (if 0 < rc then some (decide (rc = 2)) else none)
        (if pv ∧ 0 < rp then some (decide (rp = 2)) else none) newSusp idx cur prev =
      if rc = 0 then (idx, prev)
      else if rc ≠ 2 ∧ newSusp = true then (if idx ≠ cur then (idx, cur) else (cur, prev))
      else if ¬ (pv ∧ 0 < rp) then (cur, idx)
      else if rp ≠ 2 ∧ newSusp = true then (cur, idx) else (cur, prev) := by
  unfold reselectInsert
  by_cases h0 : rc = 0
  · simp [h0]
  · have : 0 < rc := Nat.pos_of_ne_zero h0
    by_cases hpv : pv ∧ 0 < rp
    · simp only [this, hpv, h0, if_true, if_false, and_self, decide_eq_false_iff_not, not_true_eq_false, ne_eq]
    · simp only [this, hpv, h0, if_true, if_false, decide_eq_false_iff_not, not_false_eq_true, ne_eq]

/-- `hold` is the precondition of `insert` in ranks: the slot taken was vacant or held a job that is not suspended
    (`insert_slot`) -/
theorem insert_jinv (g g' : Nat → Option Job) (cur prev idx : Nat) (job : Job)
    (hg : ∀ k, g' k = if k = idx then some job else g k)
    (hold : rk (g idx) ≤ 1)
    (h : JInv g cur prev) :
    Sel g' (reselectInsert (if 0 < rk (g cur) then some (decide (rk (g cur) = 2)) else none)
      (if prev ≠ cur ∧ 0 < rk (g prev) then some (decide (rk (g prev) = 2)) else none)
      job.isSuspended idx cur prev) := by
  rw [jinv_iff] at h
  have hoff : ∀ k, k ≠ idx → rk (g' k) = rk (g k) := fun k hk => by rw [hg, if_neg hk]
  have hidx : rk (g' idx) = if job.isSuspended then 2 else 1 := by rw [hg, if_pos rfl]; rfl
  have h2 := fun k => rk_le_two (g' k)
  have hup : rk (g idx) ≤ rk (g' idx) := Nat.le_trans hold (by rw [hidx]; split <;> decide)
  clear hg
  rw [reselectInsert_eq]
  by_cases h0 : rk (g cur) = 0
  · -- the table was empty
    rw [if_pos h0]
    exact Sel.ofSingle fun k hk => by rw [hoff k hk]; exact Nat.le_zero.mp (h0 ▸ h.1 k)
  · rw [if_neg h0]
    by_cases h1 : rk (g cur) ≠ 2 ∧ job.isSuspended = true
    · -- a suspended job arrives while the current job is not suspended: it reaches maximal rank
      rw [if_pos h1]
      rw [h1.2, if_pos rfl] at hidx
      exact h.promote hoff (fun k => hidx ▸ h2 k) fun e => e ▸ hidx ▸ rk_le_two _
    · rw [if_neg h1]
      -- the new job ranks no higher than the current job
      have hle : rk (g' idx) ≤ rk (g cur) := by
        rw [hidx]
        by_cases hs : job.isSuspended = true
        · rw [if_pos hs, Decidable.not_not.mp fun e => h1 ⟨e, hs⟩]; exact Nat.le_refl _
        · rw [if_neg hs]; exact Nat.pos_of_ne_zero h0
      by_cases h3 : ¬ (prev ≠ cur ∧ 0 < rk (g prev))
      · -- no other job
        rw [if_pos h3]
        have hz : ∀ k, k ≠ cur → rk (g k) = 0 := fun k hk =>
          Nat.eq_zero_of_not_pos fun pos =>
            h3 ⟨(h.2 k hk).2 pos, Nat.lt_of_lt_of_le pos (h.2 k hk).1⟩
        by_cases e : idx = cur
        · subst e; exact Sel.ofSingle fun k hk => by rw [hoff k hk]; exact hz k hk
        · exact h.newPrev hoff e hle fun k hk _ => by rw [hz k hk]; exact Nat.zero_le _
      · rw [if_neg h3]
        have h3 := Decidable.not_not.mp h3
        by_cases h5 : rk (g prev) ≠ 2 ∧ job.isSuspended = true
        · -- a suspended job arrives while only the current job is suspended
          rw [if_pos h5]
          have hc2 : rk (g cur) = 2 := Decidable.not_not.mp fun e => h1 ⟨e, h5.2⟩
          have hne : idx ≠ cur := fun e => by rw [e, hc2] at hold; exact absurd hold (by decide)
          exact h.newPrev hoff hne hle fun k _ _ => by rw [hidx, h5.2, if_pos rfl]; exact rk_le_two _
        · rw [if_neg h5]
          refine h.raiseBelow hoff hup h3.1 ?_
          rw [hidx]
          by_cases hs : job.isSuspended = true
          · rw [if_pos hs, Decidable.not_not.mp fun e => h5 ⟨e, hs⟩]; exact Nat.le_refl _
          · rw [if_neg hs]; exact h3.2

theorem slabInsert_spec (es : Slab) (free : List Nat) (job : Job) (hF : FInv es free) :
    gets es (slabInsert es free job).1 = none ∧
    (∀ k, gets (slabInsert es free job).2.1 k = if k = (slabInsert es free job).1 then some job else gets es k) ∧
    FInv (slabInsert es free job).2.1 (slabInsert es free job).2.2 := by
  obtain ⟨hf1, hf2⟩ := hF
  unfold slabInsert
  cases free with
  | nil =>
    simp only
    refine ⟨gets_ge _ _ (Nat.le_refl _), fun k => gets_append_one _ _ _, ?_, by simp⟩
    intro k hk; cases hk
  | cons a rest =>
    simp only
    have ha := hf1 a (by simp)
    have hnd := List.nodup_cons.mp hf2
    refine ⟨ha.2, fun k => gets_set _ _ _ _ ha.1, ?_, hnd.2⟩
    intro k hk
    have hk' := hf1 k (List.mem_cons_of_mem _ hk)
    simp only [List.length_set]
    refine ⟨hk'.1, ?_⟩
    rw [gets_set _ _ _ _ ha.1]
    have : k ≠ a := fun e => hnd.1 (e ▸ hk)
    simp [this, hk'.2]

theorem not_stopped_of_not_alive (st : PState) (h : st.isAlive = false) : st.isStopped = false := by
  cases st <;> simp_all [PState.isAlive, PState.isStopped]

/-- what `insert` reads of the current (or previous) job, `current_job().map(|i| self[i].is_suspended())`, when the
    job is known; `map_suspAt_current` / `map_suspAt_previous` below say the same two terms in ranks, the form `insert_jinv` needs -/
theorem map_suspAt {es : Slab} {o : Option Nat} {c : Nat} {j : Job} (ho : o = some c) (hg : gets es c = some j) :
    o.map (suspAt es) = some j.isSuspended := by
  rw [ho, Option.map_some, suspAt, hg]; rfl

theorem map_suspAt_current (s : JobList) :
    s.currentJob.map (suspAt s.entries) =
      if 0 < rk (gets s.entries s.cur) then some (decide (rk (gets s.entries s.cur) = 2)) else none := by
  unfold JobList.currentJob suspAt
  cases hg : gets s.entries s.cur with
  | none => rfl
  | some j => cases hj : j.isSuspended <;> simp [rk, hj, hg]

theorem map_suspAt_previous (s : JobList) :
    s.previousJob.map (suspAt s.entries) =
      if s.prev ≠ s.cur ∧ 0 < rk (gets s.entries s.prev) then
        some (decide (rk (gets s.entries s.prev) = 2)) else none := by
  unfold JobList.previousJob suspAt
  cases hg : gets s.entries s.prev with
  | none => simp [rk]
  | some j => cases hj : j.isSuspended <;> by_cases hne : s.prev = s.cur <;> simp [rk, hj, hne, hg]

theorem insert_spec (s : JobList) (job : Job) (h : Inv s) :
    (∀ k, gets (s.insert job).2.entries k = if k = (s.insert job).1 then some job else gets s.entries k) ∧
    (∀ old, gets s.entries (s.insert job).1 = some old →
      old.pid = job.pid ∧ lookup s.pids job.pid = some (s.insert job).1) ∧
    PInv (gets (s.insert job).2.entries) (s.insert job).2.pids ∧
    FInv (s.insert job).2.entries (s.insert job).2.free ∧
    ((s.insert job).2.cur, (s.insert job).2.prev) =
      reselectInsert (s.currentJob.map (suspAt s.entries)) (s.previousJob.map (suspAt s.entries))
        job.isSuspended (s.insert job).1 s.cur s.prev ∧
    (s.insert job).2.lastAsync = s.lastAsync := by
  obtain ⟨hJ, hP, hF⟩ := h
  unfold JobList.insert
  cases hl : lookup s.pids job.pid with
  | none =>
    obtain ⟨hs1, hs2, hs3⟩ := slabInsert_spec s.entries s.free job hF
    refine ⟨hs2, fun old ho => ?_, ?_, hs3, rfl, rfl⟩
    · rw [show gets s.entries (slabInsert s.entries s.free job).1 = some old from ho] at hs1; cases hs1
    · -- the pid is fresh (`hl`) and the slot was vacant (`hs1`)
      exact pinv_change hP hs2 (lookup_insertKV s.pids job.pid _) (fun _ e => by cases e; rfl)
        (fun j e => by rw [hs1] at e; cases e)
        fun k j hk hp => by rw [(hP job.pid k).mpr ⟨j, hk, hp⟩] at hl; cases hl
  | some k =>
    obtain ⟨old, ho1, ho2⟩ := (hP job.pid k).mp hl
    refine ⟨fun x => gets_set s.entries k x (some job) (gets_some_lt ho1), fun old' ho => ?_,
      pinv_set hP ho1 ho2.symm, finv_set hF ho1 _, rfl, rfl⟩
    rw [show gets s.entries k = some old' from ho] at ho1; cases ho1; exact ⟨ho2, rfl⟩

theorem insert_gets (s : JobList) (job : Job) (h : Inv s) (k : Nat) :
    gets (s.insert job).2.entries k = if k = (s.insert job).1 then some job else gets s.entries k :=
  (insert_spec s job h).1 k

theorem insert_new (s : JobList) (job : Job) (h : Inv s) :
    gets (s.insert job).2.entries (s.insert job).1 = some job := by
  rw [insert_gets s job h, if_pos rfl]

theorem insert_replaces (s : JobList) (job : Job) (h : Inv s) {old : Job}
    (ho : gets s.entries (s.insert job).1 = some old) : old.pid = job.pid :=
  ((insert_spec s job h).2.1 old ho).1

theorem insert_slot (s : JobList) (job : Job) (h : Inv s) (hpre : insertPre s job.pid = true) :
    rk (gets s.entries (s.insert job).1) ≤ 1 := by
  cases ho : gets s.entries (s.insert job).1 with
  | none => exact Nat.zero_le _
  | some old =>
    obtain ⟨_, hl⟩ := (insert_spec s job h).2.1 old ho
    unfold insertPre at hpre
    rw [hl] at hpre
    simp only [ho, Bool.not_eq_true'] at hpre
    rw [rk_some, show old.isSuspended = false from not_stopped_of_not_alive _ hpre]; exact Nat.le_refl _

theorem insert_slot_ne (s : JobList) (job : Job) (h : Inv s) (hpre : insertPre s job.pid = true) {c : Nat} {jc : Job}
    (hc : gets s.entries c = some jc) (hs : jc.isSuspended = true) : (s.insert job).1 ≠ c := fun e => by
  have := insert_slot s job h hpre
  rw [e, hc, rk_some, hs] at this
  exact absurd this (by decide)

theorem insert_sel (s : JobList) (job : Job) (h : Inv s) :
    ((s.insert job).2.cur, (s.insert job).2.prev) =
      reselectInsert (s.currentJob.map (suspAt s.entries)) (s.previousJob.map (suspAt s.entries))
        job.isSuspended (s.insert job).1 s.cur s.prev :=
  (insert_spec s job h).2.2.2.2.1

theorem insert_lastAsync (s : JobList) (job : Job) : (s.insert job).2.lastAsync = s.lastAsync := by
  unfold JobList.insert; cases lookup s.pids job.pid <;> rfl

theorem insert_inv (s : JobList) (job : Job) (h : Inv s) (hpre : insertPre s job.pid = true) :
    Inv (s.insert job).2 := by
  obtain ⟨hg, _, hP, hF, hsel, _⟩ := insert_spec s job h
  refine ⟨(jinv_iff ..).mpr ?_, hP, hF⟩
  rw [hsel, map_suspAt_current, map_suspAt_previous]
  exact insert_jinv _ _ _ _ _ job hg (insert_slot s job h hpre) h.j

theorem reselectInsert_susp (exCur exPrev : Option Bool) (idx cur prev : Nat) :
    reselectInsert exCur exPrev true idx cur prev =
      match exCur with
      | none => (idx, prev)
      | some false => if idx ≠ cur then (idx, cur) else (cur, prev)
      | some true => (cur, if exPrev = some true then prev else idx) := by
  rcases exCur with _ | _ | _ <;> rcases exPrev with _ | _ | _ <;> simp [reselectInsert]

/-! ### `update_status` -/

theorem reselectUpdate_eq (es : Slab) (was now : Bool) (index cur prev : Nat) :
    reselectUpdate es was now index cur prev =
      if was = now then (cur, prev)
      else if now = true then (if index ≠ cur then (index, cur) else (cur, prev))
      else if prev ≠ cur ∧ 0 < rk (gets es prev) then
        if index = cur ∧ rk (gets es prev) = 2 then (prev, (anySuspendedButCurrent es prev).getD index)
        else if index = prev then (cur, (anySuspendedButCurrent es cur).getD index)
        else (cur, prev)
      else (cur, prev) := by
  unfold reselectUpdate
  simp only [isSome_iff_rk, suspAt_iff]
  cases was <;> cases now <;> rfl

theorem update_jinv (es' : Slab) (g : Nat → Option Job) (cur prev idx : Nat) (job job' : Job)
    (hj : g idx = some job)
    (hg : ∀ k, gets es' k = if k = idx then some job' else g k)
    (h : JInv g cur prev) :
    JInv (gets es') (reselectUpdate es' job.isSuspended job'.isSuspended idx cur prev).1
                    (reselectUpdate es' job.isSuspended job'.isSuspended idx cur prev).2 := by
  rw [jinv_iff] at h ⊢
  have hoff : ∀ k, k ≠ idx → rk (gets es' k) = rk (g k) := fun k hk => by rw [hg, if_neg hk]
  have hidx : rk (gets es' idx) = if job'.isSuspended then 2 else 1 := by rw [hg, if_pos rfl]; rfl
  have hold : rk (g idx) = if job.isSuspended then 2 else 1 := by rw [hj]; rfl
  have h2 := fun k => rk_le_two (gets es' k)
  show Sel _ (reselectUpdate _ _ _ _ _ _)
  rw [reselectUpdate_eq]
  clear hg hj
  by_cases h1 : job.isSuspended = job'.isSuspended
  · rw [if_pos h1]
    refine h.congr fun k => ?_
    by_cases hk : k = idx
    · rw [hk, hidx, hold, h1]
    · exact hoff k hk
  · rw [if_neg h1]
    by_cases h3 : job'.isSuspended = true
    · -- the job becomes suspended and so reaches maximal rank
      rw [if_pos h3]
      rw [h3, if_pos rfl] at hidx
      exact h.promote hoff (fun k => hidx ▸ h2 k) fun e => e ▸ hidx ▸ rk_le_two _
    · -- the job stops being suspended: its rank falls from 2 to 1
      rw [if_neg h3]
      have hn : job'.isSuspended = false := Bool.eq_false_iff.mpr h3
      have hidx1 : rk (gets es' idx) = 1 := by rw [hidx, hn]; rfl
      have hold2 : rk (g idx) = 2 := by
        rw [hold, show job.isSuspended = true from by
          cases hw : job.isSuspended with
          | true => rfl
          | false => exact absurd (hw.trans hn.symm) h1]
        rfl
      have hdown : rk (gets es' idx) ≤ rk (g idx) := by rw [hidx1, hold2]; decide
      -- without another suspended job, `idx` (rank 1) serves as previous job
      have hd : ∀ c, idx ≠ c → (∀ k, k ≠ c → rk (gets es' k) ≤ 1) → IsPrev (gets es') c idx :=
        fun c hc a k hk => ⟨by rw [hidx1]; exact a k hk, fun _ => hc⟩
      by_cases h4 : prev ≠ cur ∧ 0 < rk (gets es' prev)
      · rw [if_pos h4]
        by_cases h5 : idx = cur ∧ rk (gets es' prev) = 2
        · rw [if_pos h5]
          have e := h5.1; subst e
          exact ⟨h.lowerCur hoff (by rw [hidx1, h5.2]; decide),
            isPrev_anySusp es' prev idx (hd prev h4.1.symm)⟩
        · rw [if_neg h5]
          by_cases h6 : idx = prev
          · rw [if_pos h6]
            subst h6
            exact ⟨(h.lowerOff hoff hdown h4.1).1, isPrev_anySusp es' cur idx (hd cur h4.1)⟩
          · rw [if_neg h6]
            by_cases hC : idx = cur
            · subst hC
              refine h.lowerCurStays hoff fun hp => ?_
              have := h2 prev
              have : rk (gets es' prev) ≠ 2 := fun e => h5 ⟨rfl, e⟩
              rw [hidx1, ← hoff prev hp]; omega
            · have L := h.lowerOff hoff hdown hC
              exact ⟨L.1, L.2 h6⟩
      · rw [if_neg h4]
        -- no valid previous job, so no job but the current one: `idx` is the current job
        have hC : idx = cur := Decidable.byContradiction fun hC => by
          have := h.2 idx hC
          rw [hold2] at this
          refine h4 ⟨this.2 (by decide), ?_⟩
          by_cases e : prev = idx
          · rw [e, hidx1]; decide
          · rw [hoff prev e]; exact Nat.lt_of_lt_of_le (by decide) this.1
        subst hC
        refine h.lowerCurStays hoff fun hp => ?_
        rw [← hoff prev hp, Nat.eq_zero_of_not_pos fun pos => h4 ⟨hp, pos⟩]
        exact Nat.zero_le _

theorem update_spec (s : JobList) (pid idx : Nat) (st : PState) (job : Job)
    (hl : lookup s.pids pid = some idx) (hg : gets s.entries idx = some job) :
    s.updateStatus pid st =
      (some idx,
       { s with
         entries := s.entries.set idx (some (job.updated st)),
         cur := (reselectUpdate (s.entries.set idx (some (job.updated st)))
                  job.isSuspended st.isStopped idx s.cur s.prev).1,
         prev := (reselectUpdate (s.entries.set idx (some (job.updated st)))
                  job.isSuspended st.isStopped idx s.cur s.prev).2 }) := by
  unfold JobList.updateStatus
  rw [hl]
  dsimp only
  rw [hg]
  rfl

theorem update_cases (s : JobList) (pid : Nat) (st : PState) :
    (s.updateStatus pid st).2 = s ∨
    ∃ idx job, lookup s.pids pid = some idx ∧ gets s.entries idx = some job := by
  unfold JobList.updateStatus
  cases lookup s.pids pid with
  | none => exact Or.inl rfl
  | some idx =>
    simp only
    cases hg : gets s.entries idx with
    | none => exact Or.inl rfl
    | some job => exact Or.inr ⟨idx, job, rfl, hg⟩

theorem update_effect (s : JobList) (pid idx : Nat) (st : PState) (job : Job)
    (hl : lookup s.pids pid = some idx) (hg : gets s.entries idx = some job) :
    (∀ k, gets (s.updateStatus pid st).2.entries k =
      if k = idx then some (job.updated st)
      else gets s.entries k) ∧
    (s.updateStatus pid st).2.pids = s.pids ∧
    ((s.updateStatus pid st).2.cur, (s.updateStatus pid st).2.prev) =
      reselectUpdate (s.entries.set idx (some (job.updated st)))
        job.isSuspended st.isStopped idx s.cur s.prev := by
  rw [update_spec s pid idx st job hl hg]
  exact ⟨fun k => gets_set _ _ _ _ (gets_some_lt hg), rfl, rfl⟩

theorem update_inv (s : JobList) (pid : Nat) (st : PState) (h : Inv s) : Inv (s.updateStatus pid st).2 := by
  rcases update_cases s pid st with e | ⟨idx, job, hl, hg⟩
  · rw [e]; exact h
  · rw [update_spec s pid idx st job hl hg]
    exact ⟨update_jinv (s.entries.set idx (some (job.updated st))) (gets s.entries) s.cur s.prev idx job
        (job.updated st) hg (fun x => gets_set s.entries idx x _ (gets_some_lt hg)) h.j,
      pinv_set (j' := job.updated st) h.p hg rfl, finv_set h.f hg (job.updated st)⟩

theorem update_lastAsync (s : JobList) (pid : Nat) (st : PState) :
    (s.updateStatus pid st).2.lastAsync = s.lastAsync := by
  rcases update_cases s pid st with e | ⟨idx, job, hl, hg⟩
  · rw [e]
  · rw [update_spec s pid idx st job hl hg]

theorem update_pidAt (s : JobList) (pid : Nat) (st : PState) (k : Nat) :
    (gets (s.updateStatus pid st).2.entries k).map (·.pid) = (gets s.entries k).map (·.pid) := by
  rcases update_cases s pid st with e | ⟨idx, job, hl, hg⟩
  · rw [e]
  · rw [update_spec s pid idx st job hl hg]
    exact map_gets_set s.entries
      (j' := job.updated st)
      (·.pid) hg rfl k

theorem update_suspends (s : JobList) (pid idx : Nat) (st : PState) (job : Job)
    (hl : lookup s.pids pid = some idx) (hg : gets s.entries idx = some job)
    (hr : job.isSuspended = false) (hs : st.isStopped = true) :
    (s.updateStatus pid st).2.currentJob = some idx ∧
    ∀ c, s.currentJob = some c → c ≠ idx → (s.updateStatus pid st).2.previousJob = some c := by
  obtain ⟨h1, _, h3⟩ := update_effect s pid idx st job hl hg
  rw [reselectUpdate_eq, hr, hs, if_neg (by decide), if_pos rfl] at h3
  have hidx := h1 idx
  rw [if_pos rfl] at hidx
  refine ⟨(currentJob_eq_some _ _).mpr ⟨(congrArg Prod.fst h3).trans (promote_fst ..), _, hidx⟩, fun c hcur hc => ?_⟩
  obtain ⟨rfl, jc, hjc⟩ := (currentJob_eq_some s c).mp hcur
  rw [if_pos (Ne.symm hc)] at h3
  obtain ⟨hc', hp⟩ := Prod.mk.inj h3
  exact (previousJob_eq_some _ _).mpr ⟨hp, by rw [hp, hc']; exact hc, jc, by rw [h1, if_neg hc]; exact hjc⟩

/-! ### `set_current_job` -/

theorem setCurrent_ok (s s' : JobList) (i : Nat) :
    s.setCurrentJob i = .ok s' ↔
      ∃ j, gets s.entries i = some j ∧ (j.isSuspended = true ∨ anySuspended s.entries = false) ∧
        s' = if i ≠ s.cur then { s with prev := s.cur, cur := i } else s := by
  unfold JobList.setCurrentJob
  cases gets s.entries i with
  | none => simp
  | some j =>
    simp only [Option.some.injEq, exists_eq_left']
    cases j.isSuspended <;> cases anySuspended s.entries <;> by_cases hi : i ≠ s.cur <;> simp [hi, eq_comm]

theorem setCurrent_inv (s s' : JobList) (i : Nat) (h : Inv s) (hs : s.setCurrentJob i = .ok s') : Inv s' := by
  obtain ⟨job, hg0, hc, rfl⟩ := (setCurrent_ok s s' i).mp hs
  -- slot `i` has maximal rank: its job is suspended, or none is
  have htop : ∀ k, rk (gets s.entries k) ≤ rk (gets s.entries i) := by
    intro k
    have := rk_le_two (gets s.entries k)
    rw [hg0, rk_some]
    rcases hc with hjs | hnone
    · rw [hjs]; exact this
    · have : rk (gets s.entries k) ≠ 2 := fun e => by
        obtain ⟨j, hk, hjj⟩ := rk_two.mp e
        rw [(anySuspended_iff _).mpr ⟨k, j, hk, hjj⟩] at hnone; cases hnone
      split <;> omega
  have hS := ((jinv_iff ..).mp h.j).promote (fun _ _ => rfl) htop fun _ => Nat.le_refl _
  by_cases hne : i ≠ s.cur
  · rw [if_pos hne] at hS ⊢; exact ⟨(jinv_iff ..).mpr hS, h.p, h.f⟩
  · rw [if_neg hne]; exact h

theorem setCurrent_fields (s s' : JobList) (k : Nat) (hs : s.setCurrentJob k = .ok s') :
    s'.entries = s.entries ∧ s'.lastAsync = s.lastAsync ∧ s'.pids = s.pids := by
  obtain ⟨_, _, _, rfl⟩ := (setCurrent_ok s s' k).mp hs
  split <;> exact ⟨rfl, rfl, rfl⟩

/-! ### setting a field of one job -/

theorem expect_eq (s : JobList) (i : Nat) (st : Option PState) :
    s.expect i st = s.modify i (fun j => { j with expected := st }) := rfl

theorem reportOne_eq (s : JobList) (i : Nat) : s.reportOne i = s.modify i (fun j => { j with changed := false }) := rfl

theorem reportOne_occupied (s : JobList) (i : Nat) (j : Job) (hg : gets s.entries i = some j) :
    s.reportOne i = { s with entries := s.entries.set i (some { j with changed := false }) } := by
  unfold JobList.reportOne; rw [hg]

theorem markReported_eq (s : JobList) (i : Nat) : s.markReported i = s.reportOne i := rfl

theorem reportLast_eq (s : JobList) :
    s.reportLast = match lastOccupied s.entries with
      | none => s
      | some i => s.reportOne i := rfl

theorem jobsFinish1_eq (s : JobList) (i : Nat) :
    jobsFinish1 s i = match gets s.entries i with
      | none => s
      | some job => if job.state.isAlive then s.reportOne i else (s.remove i).2 := by
  unfold jobsFinish1 JobList.reportOne
  cases hg : gets s.entries i with
  | none => rfl
  | some job => rfl

theorem modify_gets (s : JobList) (i : Nat) (f : Job → Job) (k : Nat) :
    gets (s.modify i f).entries k = if k = i then (gets s.entries i).map f else gets s.entries k := by
  unfold JobList.modify
  cases hg : gets s.entries i with
  | none =>
    by_cases hk : k = i
    · rw [if_pos hk, hk, hg]; rfl
    · rw [if_neg hk]
  | some j => exact gets_set _ _ _ _ (gets_some_lt hg)

theorem modify_fields (s : JobList) (i : Nat) (f : Job → Job) :
    (s.modify i f).cur = s.cur ∧ (s.modify i f).prev = s.prev ∧ (s.modify i f).pids = s.pids ∧
    (s.modify i f).free = s.free ∧ (s.modify i f).lastAsync = s.lastAsync := by
  unfold JobList.modify; cases gets s.entries i <;> exact ⟨rfl, rfl, rfl, rfl, rfl⟩

theorem modify_selection (s : JobList) (i : Nat) (f : Job → Job) :
    (s.modify i f).currentJob = s.currentJob ∧ (s.modify i f).previousJob = s.previousJob :=
  selection_congr (modify_fields s i f).1 (modify_fields s i f).2.1 fun k => by
    rw [modify_gets]
    by_cases hk : k = i
    · rw [if_pos hk, hk]; exact isSome_of_map rfl
    · rw [if_neg hk]

theorem modify_inv (s : JobList) (i : Nat) (f : Job → Job)
    (hf : ∀ j, (f j).pid = j.pid ∧ (f j).isSuspended = j.isSuspended) (h : Inv s) : Inv (s.modify i f) := by
  unfold JobList.modify
  cases hg : gets s.entries i with
  | none => exact h
  | some j =>
    exact ⟨jinv_congr (fun k => rk_congr (map_gets_set _ _ hg (hf j).2 k)) h.j, pinv_set h.p hg (hf j).1,
      finv_set h.f hg _⟩

/-! ### setting a field of every job -/

theorem mapJobs_inv (s : JobList) (f : Job → Job)
    (hf : ∀ j, (f j).pid = j.pid ∧ (f j).isSuspended = j.isSuspended) (h : Inv s) :
    Inv { s with entries := s.entries.map (fun o => o.map f) } := by
  have key : ∀ {α : Type} (p : Job → α), (∀ j, p (f j) = p j) → ∀ k,
      (gets (s.entries.map (fun o => o.map f)) k).map p = (gets s.entries k).map p := by
    intro α p hp k
    rw [gets_map, Option.map_map]
    exact congrArg (fun q => Option.map q _) (funext hp)
  exact ⟨jinv_congr (fun k => rk_congr (key _ (fun j => (hf j).2) k)) h.j,
    pinv_congr (key _ (fun j => (hf j).1)) h.p,
    finv_congr (by simp) (fun k hk => by rw [gets_map, hk]; rfl) h.f⟩

end YashModel.Job
