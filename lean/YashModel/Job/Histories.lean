/-
  Sample histories for the non-vacuity examples of C12: each satisfies `PathPre` from the empty table (the `example`
  below it), so the theorems about reachable tables apply along it.
-/
import YashModel.Job.Invariant
namespace YashModel.Job

/-- fresh pids, a pid reused after its job finished, suspensions and removals -/
def sampleHistory : List Op :=
  [.insert 1 .running, .insert 2 (.stopped 19), .insert 3 (.stopped 20), .update 1 (.exited 0),
   .insert 1 .running, .update 2 .running, .remove 1, .removeIfDone true, .setCurrent 0]

example : PathPre JobList.empty sampleHistory := by
  simp [sampleHistory, PathPre]
  decide +kernel

/-- a reachable table with a HOLE: job 1 finished and was reported by `jobs`, job 2 (suspended) and
    job 3 are still there in slots 1 and 2 -/
def holeHistory : List Op :=
  [.insertJob 101 .running true "ab".toList, .insertJob 102 (.stopped 120) true "abc".toList,
   .insertJob 103 .running true "b".toList, .update 101 (.exited 0), .jobs []]

example : PathPre JobList.empty holeHistory := by
  simp [holeHistory, PathPre]
  decide +kernel

/-- three named jobs (one suspended, one finished), then `jobs`, `bg %-`, `fg`, `sleep &`, `wait` -/
def builtinHistory : List Op :=
  [.insertJob 101 .running true "ab".toList, .insertJob 102 (.stopped 120) true "abc".toList,
   .insertJob 103 (.exited 3) true "b".toList, .jobs [], .bg true ["%-".toList],
   .fg true false (.stopped 116) [], .amp 104 true true "a".toList, .update 101 (.exited 0), .wait ["%1".toList]]

example : PathPre JobList.empty builtinHistory := by
  simp [builtinHistory, PathPre]
  decide +kernel

/-- `sync`, `prompt`, `kres`, `bang` and `waitEv` on a table with three jobs -/
def extHistory : List Op :=
  [.insertJob 101 .running true "ab".toList, .insertJob 102 (.stopped 120) true "abc".toList,
   .amp 103 true false "b".toList, .sync [(101, .exited 3), (102, .running)], .prompt true true,
   .kres "%-".toList, .bang, .waitEv [(103, .stopped 121), (103, .running), (103, .signaled 9 false)] ["%3".toList]]

example : PathPre JobList.empty extHistory := by
  simp [extHistory, PathPre]
  decide +kernel

/-- three running jobs, `remove_if` of the current AND the previous job -/
def purgeHistory : List Op :=
  [.insert 101 .running, .insert 102 .running, .insert 103 .running, .removeIf (.mask 3) false]

example : PathPre JobList.empty purgeHistory := by
  simp [purgeHistory, PathPre]; decide +kernel

end YashModel.Job
