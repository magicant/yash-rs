/-
  C12 — job IDs: property theorems and non-vacuity examples.

  Property text: "`%%`, `%+`, `%-`, `%n` and `$!` therefore always designate the jobs the documentation says they
  do."  Documentation: `docs/src/interactive/job_control.md` ("Job IDs", "Signaling jobs").
-/
import YashModel.Job.Designators
import YashModel.Job.Compositions
import YashModel.Job.Histories
namespace YashModel.Job

/-- docs/src/interactive/job_control.md, "Job IDs", as a relation: the operand designates the job in
    slot `i`.  `%`, `%%`, `%+`: the current job.  `%-`: the previous job.  `%n` (decimal digits,
    `n ≥ 1`): job number `n`, i.e. slot `n-1`, if there is such a job.  `%?foo`: the one job whose
    command string contains `foo`.  `%foo` (anything else): the one job whose command string starts
    with `foo`. -/
inductive DocDesignates (s : JobList) : Str → Nat → Prop
  | current (t : Str) (i : Nat) :
      t = [] ∨ t = ['%'] ∨ t = ['+'] → s.currentJob = some i → DocDesignates s ('%' :: t) i
  | previous (i : Nat) : s.previousJob = some i → DocDesignates s ['%', '-'] i
  | number (ds : Str) :
      ds ≠ [] → ds.all isDigitC = true → digitsVal ds ≠ 0 → (∃ j, s.get (digitsVal ds - 1) = some j) →
      DocDesignates s ('%' :: ds) (digitsVal ds - 1)
  | substring (sub : Str) (i : Nat) (j : Job) :
      s.get i = some j → (∃ x y, j.name = x ++ sub ++ y) →
      (∀ k j', s.get k = some j' → (∃ x y, j'.name = x ++ sub ++ y) → k = i) →
      DocDesignates s ('%' :: '?' :: sub) i
  | namePrefix (t : Str) (i : Nat) (j : Job) :
      t ≠ [] → t ≠ ['%'] → t ≠ ['+'] → t ≠ ['-'] → t.head? ≠ some '?' →
      ¬ (t.all isDigitC = true ∧ digitsVal t ≠ 0) →
      s.get i = some j → (∃ c, j.name = t ++ c) →
      (∀ k j', s.get k = some j' → (∃ c, j'.name = t ++ c) → k = i) →
      DocDesignates s ('%' :: t) i

/-- ★ the operand forms of the documentation: `%`, `%%`, `%+` parse to the current job, `%-` to the
    previous job, `%n` (decimal digits, `1 ≤ n < 2^64`) to job number `n` -/
theorem parse_designators :
    parseJobId ['%'] = some .current ∧ parseJobId ['%', '%'] = some .current ∧
    parseJobId ['%', '+'] = some .current ∧ parseJobId ['%', '-'] = some .previous ∧
    (∀ ds : Str, ds ≠ [] → ds.all isDigitC = true → 0 < digitsVal ds → digitsVal ds ≤ 18446744073709551615 →
      parseJobId ('%' :: ds) = some (.number (digitsVal ds))) := by
  refine ⟨by decide +kernel, by decide +kernel, by decide +kernel, by decide +kernel, ?_⟩
  intro ds hne hall hpos hmax
  obtain ⟨c, cs, rfl⟩ := List.exists_cons_of_ne_nil hne
  have hc : isDigitC c = true := by
    simp only [List.all_cons, Bool.and_eq_true] at hall; exact hall.1
  obtain ⟨h1, h2, h3, h4⟩ := digit_not_special c hc
  simp only [parseJobId, parseTail_eq]
  rw [if_neg (by simp [h1, h2]), if_neg (by simp [h3]), if_neg (by simp [h4]),
    if_pos ⟨hall, Nat.pos_iff_ne_zero.mp hpos, hmax⟩]

/-- ★ what an operand resolves to, through the code path shared by `wait` (`search::resolve`),
    `bg`/`fg` (`resume_job_by_id`) and `jobs`: `%`, `%%`, `%+` the current job, `%-` the previous
    job, `%n` the job in slot `n-1` — each exactly when that job exists -/
theorem operand_designates (s : JobList) :
    (∀ op, op = ['%'] ∨ op = ['%', '%'] ∨ op = ['%', '+'] → waitResolve s (.jobId op) = .ok s.currentJob) ∧
    waitResolve s (.jobId ['%', '-']) = .ok s.previousJob ∧
    (∀ ds : Str, ds ≠ [] → ds.all isDigitC = true → 0 < digitsVal ds → digitsVal ds ≤ 18446744073709551615 →
      waitResolve s (.jobId ('%' :: ds)) =
        .ok (if (s.get (digitsVal ds - 1)).isSome then some (digitsVal ds - 1) else none)) := by
  obtain ⟨p1, p2, p3, p4, p5⟩ := parse_designators
  refine ⟨?_, ?_, ?_⟩
  · intro op hop
    have : parseJobId op = some .current := by rcases hop with e | e | e <;> subst e <;> assumption
    simp only [waitResolve, this, JobId.find]
    cases s.currentJob <;> rfl
  · simp only [waitResolve, p4, JobId.find]
    cases s.previousJob <;> rfl
  · intro ds h1 h2 h3 h4
    have aux : ∀ (o : Option Job) (n : Nat),
        (match (match o with | some _ => Except.ok n | none => Except.error FindErr.notFound : Except FindErr Nat) with
          | .ok i => Except.ok (some i)
          | .error .notFound => Except.ok none
          | .error .ambiguous => Except.error ()) =
        (Except.ok (if o.isSome then some n else none) : Except Unit (Option Nat)) := by
      intro o n; cases o <;> rfl
    simp only [waitResolve, p5 ds h1 h2 h3 h4, JobId.find, JobList.get]
    exact aux _ _

/-- ★ The job in slot `i` is printed as `[i+1]` (`jobs_line_marker`), and the operand `%<i+1>` written
    with that decimal text designates slot `i` again — exactly when slot `i` is occupied, whatever
    the slots below it hold (holes included): `%n` is the job NUMBER, not the n-th live job. -/
theorem printed_number_designates (s : JobList) (i : Nat) (hmax : i + 1 ≤ usizeMax) :
    parseJobId ('%' :: natStr (i + 1)) = some (.number (i + 1)) ∧
    (∀ j, s.get i = some j → waitResolve s (.jobId ('%' :: natStr (i + 1))) = .ok (some i)) ∧
    (s.get i = none → waitResolve s (.jobId ('%' :: natStr (i + 1))) = .ok none) := by
  have hv := digitsVal_natStr (i + 1)
  have hp := parse_designators.2.2.2.2 (natStr (i + 1)) (natStr_ne_nil _) (natStr_all_digits _)
    (by rw [hv]; omega) (by rw [hv]; exact hmax)
  have hr := (operand_designates s).2.2 (natStr (i + 1)) (natStr_ne_nil _) (natStr_all_digits _)
    (by rw [hv]; omega) (by rw [hv]; exact hmax)
  rw [hv] at hp hr
  simp only [Nat.add_sub_cancel] at hr
  refine ⟨hp, ?_, ?_⟩
  · intro j hj; rw [hr, hj]; rfl
  · intro hn; rw [hr, hn]; rfl

/-- ★ `%name` designates slot `i` iff the job there is the ONLY job whose command string starts with
    `name`; `%?name` the same with "contains"; no job matches ⇔ "not found" -/
theorem jobid_name_designates (s : JobList) (t : Str) :
    (∀ i, (JobId.prefix_ t).find s = .ok i ↔
      (∃ j, s.get i = some j ∧ ∃ c, j.name = t ++ c) ∧
      ∀ k j, s.get k = some j → (∃ c, j.name = t ++ c) → k = i) ∧
    (∀ i, (JobId.substring t).find s = .ok i ↔
      (∃ j, s.get i = some j ∧ ∃ x y, j.name = x ++ t ++ y) ∧
      ∀ k j, s.get k = some j → (∃ x y, j.name = x ++ t ++ y) → k = i) ∧
    ((JobId.prefix_ t).find s = .error .notFound ↔ ∀ k j, s.get k = some j → ¬ ∃ c, j.name = t ++ c) ∧
    ((JobId.substring t).find s = .error .notFound ↔ ∀ k j, s.get k = some j → ¬ ∃ x y, j.name = x ++ t ++ y) := by
  refine ⟨?_, ?_, ?_, ?_⟩
  · intro i
    simp only [JobId.find, findOne_ok_iff, isPrefixOfL_iff, JobList.get]
  · intro i
    simp only [JobId.find, findOne_ok_iff, containsL_iff, JobList.get]
  · simp only [JobId.find, findOne_notFound_iff, JobList.get, ← isPrefixOfL_iff, Bool.not_eq_true]
  · simp only [JobId.find, findOne_notFound_iff, JobList.get, ← containsL_iff, Bool.not_eq_true]

/-- ★ END TO END: for every table and every operand `%…`, what the model of the code resolves it to
    (`parse` + `JobId::find`, the path shared by `wait`, `bg`, `fg`, `jobs`) is what the
    documentation-derived Spec function says it designates.  The only hypothesis: a digits-only
    operand is at most `usize::MAX` (above it the code falls back to a name prefix, the
    documentation has no such job number). -/
theorem model_meets_doc (s : JobList) (t : Str)
    (hov : t.all isDigitC = true → digitsVal t ≤ usizeMax) :
    resolved s ('%' :: t) = (docDesignates s ('%' :: t)).join := by
  rw [resolved_eq, findO_eq, parseTail_eq, docDesignates_eq, Option.join_some]
  -- the two chains differ only in the bound of the number test, which `hov` supplies
  have hnum : (t.all isDigitC = true ∧ digitsVal t ≠ 0 ∧ digitsVal t ≤ usizeMax) ↔
      (t.all isDigitC = true ∧ digitsVal t ≠ 0) := ⟨fun h => ⟨h.1, h.2.1⟩, fun h => ⟨h.1, h.2, hov h.1⟩⟩
  simp only [hnum]
  by_cases h1 : t = [] ∨ t = ['%'] ∨ t = ['+']
  · rw [if_pos h1, if_pos h1]
  · rw [if_neg h1, if_neg h1]
    by_cases h2 : t = ['-']
    · rw [if_pos h2, if_pos h2]
    · rw [if_neg h2, if_neg h2]
      by_cases h3 : t.head? = some '?'
      · rw [if_pos h3, if_pos h3]
      · rw [if_neg h3, if_neg h3]
        by_cases h4 : t.all isDigitC = true ∧ digitsVal t ≠ 0
        · rw [if_pos h4, if_pos h4]
        · rw [if_neg h4, if_neg h4]

/-- ★ the Spec function used in the Spec column computes exactly the relation read off the
    documentation; an operand without a leading `%` is not a job ID -/
theorem docDesignates_spec (s : JobList) (op : Str) (i : Nat) :
    ((docDesignates s op).join = some i ↔ DocDesignates s op i) ∧
    (docDesignates s op = none ↔ op.head? ≠ some '%') := by
  constructor
  · constructor
    · intro h
      cases op with
      | nil => simp [docDesignates] at h
      | cons c0 t =>
        by_cases hc0 : c0 = '%'
        · subst hc0
          rw [docDesignates_eq] at h
          simp only [Option.join, Option.bind_some, id] at h
          by_cases h1 : t = [] ∨ t = ['%'] ∨ t = ['+']
          · rw [if_pos h1] at h; exact .current t i h1 h
          · rw [if_neg h1] at h
            by_cases h2 : t = ['-']
            · rw [if_pos h2] at h; subst h2; exact .previous i h
            · rw [if_neg h2] at h
              by_cases hq : t.head? = some '?'
              · rw [if_pos hq] at h
                cases t with
                | nil => simp at hq
                | cons c cs =>
                  simp only [List.head?_cons, Option.some.injEq] at hq
                  subst hq
                  obtain ⟨⟨j, hj, hp⟩, hu⟩ := (uniqueOf_iff _ _ i).mp h
                  refine .substring cs i j hj ((containsL_iff _ _).mp hp) ?_
                  intro k j' hk hx
                  exact hu k j' hk ((containsL_iff _ _).mpr hx)
              · rw [if_neg hq] at h
                by_cases hd : t.all isDigitC = true ∧ digitsVal t ≠ 0
                · rw [if_pos hd] at h
                  by_cases ho : (s.get (digitsVal t - 1)).isSome = true
                  · rw [if_pos ho] at h
                    cases h
                    have hne : t ≠ [] := fun e => h1 (Or.inl e)
                    obtain ⟨j, hj⟩ := Option.isSome_iff_exists.mp ho
                    exact .number t hne hd.1 hd.2 ⟨j, hj⟩
                  · rw [if_neg ho] at h; cases h
                · rw [if_neg hd] at h
                  obtain ⟨⟨j, hj, hp⟩, hu⟩ := (uniqueOf_iff _ _ i).mp h
                  refine .namePrefix t i j (fun e => h1 (Or.inl e)) (fun e => h1 (Or.inr (Or.inl e)))
                    (fun e => h1 (Or.inr (Or.inr e))) h2 hq hd hj ((isPrefixOfL_iff _ _).mp hp) ?_
                  intro k j' hk hx
                  exact hu k j' hk ((isPrefixOfL_iff _ _).mpr hx)
        · rw [docDesignates_not_percent s t hc0] at h; cases h
    · intro h
      cases h with
      | current t i h1 hc => rw [docDesignates_eq, if_pos h1]; simpa [Option.join] using hc
      | previous i hp => rw [docDesignates_eq]; simpa [Option.join] using hp
      | number ds hne hall hz hocc =>
        obtain ⟨j, hj⟩ := hocc
        rw [docDesignates_eq]
        cases ds with
        | nil => exact absurd rfl hne
        | cons c cs =>
          have hc : isDigitC c = true := by
            simp only [List.all_cons, Bool.and_eq_true] at hall; exact hall.1
          obtain ⟨d1, d2, d3, d4⟩ := digit_not_special c hc
          have h1 : ¬ (c :: cs = [] ∨ c :: cs = ['%'] ∨ c :: cs = ['+']) := by
            simp [d1, d2]
          have h2 : ¬ c :: cs = ['-'] := by simp [d3]
          have hq : ¬ (c :: cs).head? = some '?' := by simp [d4]
          rw [if_neg h1, if_neg h2, if_neg hq, if_pos ⟨hall, hz⟩, hj]
          rfl
      | substring sub i j hj hx hu =>
        rw [docDesignates_eq]
        have h1 : ¬ ('?' :: sub = [] ∨ '?' :: sub = ['%'] ∨ '?' :: sub = ['+']) := by simp
        have h2 : ¬ '?' :: sub = ['-'] := by simp
        rw [if_neg h1, if_neg h2, if_pos (by simp)]
        simp only [Option.join, Option.bind_some, id, List.tail_cons, jobsWhere]
        refine (uniqueOf_iff _ _ i).mpr ⟨⟨j, hj, (containsL_iff _ _).mpr hx⟩, ?_⟩
        intro k j' hk hp
        exact hu k j' hk ((containsL_iff _ _).mp hp)
      | namePrefix t i j n1 n2 n3 n4 hq hd hj hx hu =>
        rw [docDesignates_eq]
        have h1 : ¬ (t = [] ∨ t = ['%'] ∨ t = ['+']) := by
          rintro (e | e | e)
          · exact n1 e
          · exact n2 e
          · exact n3 e
        rw [if_neg h1, if_neg n4, if_neg hq, if_neg hd]
        simp only [Option.join, Option.bind_some, id, jobsWhere]
        refine (uniqueOf_iff _ _ i).mpr ⟨⟨j, hj, (isPrefixOfL_iff _ _).mpr hx⟩, ?_⟩
        intro k j' hk hp
        exact hu k j' hk ((isPrefixOfL_iff _ _).mp hp)
  · cases op with
    | nil => simp [docDesignates]
    | cons c0 t =>
      by_cases hc0 : c0 = '%'
      · subst hc0; rw [docDesignates_eq]; simp
      · simp [docDesignates_not_percent s t hc0, hc0]

/-- ★ "Signaling jobs": for an operand `%…` the `kill` built-in passes to kill(2) the NEGATED pid — the
    process group — of exactly the job the job ID designates (`resolved` = `parse` + `find`, which
    `model_meets_doc` equates with the documentation's `docDesignates`), and only if that job is
    owned, job-controlled and alive; in every other case nothing is signalled -/
theorem kill_target_designates (s : JobList) (t : Str) (neg : Bool) (n : Nat) :
    killTarget s ('%' :: t) = .ok (neg, n) ↔
      neg = true ∧ ∃ i job, resolved s ('%' :: t) = some i ∧ s.get i = some job ∧ job.pid = n ∧
        job.owned = true ∧ job.jc = true ∧ job.state.isAlive = true := by
  rw [resolved_eq]
  unfold JobId.findO
  cases hf : (parseTail t).find s with
  | error e => simp [killTarget, hf]
  | ok index =>
    simp only
    cases hg : gets s.entries index with
    | none =>
      -- not reached (`find_ok_occupied`): the code would panic, the right side asks for a job in the slot
      simp only [killTarget, hf, hg, reduceCtorEq, false_iff, not_and, not_exists]
      intro _ i job hi hj
      cases hi
      cases hj.symm.trans hg
    | some job =>
      obtain ⟨hyes, hno⟩ := killTarget_found s t index job hf hg
      by_cases hok : job.owned = true ∧ job.jc = true ∧ job.state.isAlive = true
      · rw [hyes hok.1 hok.2.1 hok.2.2]
        constructor
        · intro e; cases e; exact ⟨rfl, index, job, rfl, hg, rfl, hok⟩
        · rintro ⟨rfl, i, job', hi, hj, rfl, _⟩
          cases hi; cases hj.symm.trans hg; rfl
      · obtain ⟨e, he, _⟩ := hno hok
        rw [he]
        refine ⟨fun h => (nomatch h), ?_⟩
        rintro ⟨_, i, job', hi, hj, _, h3⟩
        cases hi; cases hj.symm.trans hg; exact absurd h3 hok

/-- `kill_target_designates` in the words of the documentation -/
theorem kill_target_doc (s : JobList) (t : Str) (hov : t.all isDigitC = true → digitsVal t ≤ usizeMax)
    (n : Nat) :
    killTarget s ('%' :: t) = .ok (true, n) ↔
      ∃ i job, (docDesignates s ('%' :: t)).join = some i ∧ s.get i = some job ∧ job.pid = n ∧
        job.owned = true ∧ job.jc = true ∧ job.state.isAlive = true := by
  rw [kill_target_designates, model_meets_doc s t hov]
  simp

/-- ★ `JobId::find` only returns occupied slots, for every kind of job ID and every table — so the
    indexing `jobs[index]` in `kill::send::resolve_target` and the `get(index).unwrap()` of `bg`
    (the `"panic"` branches of `killTarget` and `bgResume`, which the model totalises) are never
    reached through an operand; likewise the prompt report only calls `get_mut(index).unwrap()` on
    indices it got from `iter()`.  `fg` resolves its operand through the same `find`, so the first
    clause covers its index; no clause is stated about the `"panic"` branch of `fgResume` itself. -/
theorem find_ok_occupied (s : JobList) :
    (∀ id i, JobId.find id s = .ok i → ∃ j, s.get i = some j) ∧
    (∀ t, killTarget s ('%' :: t) ≠ .error "panic") ∧
    (∀ op, (bgResumeId s op).1 ≠ .error "panic") ∧
    (∀ i, i ∈ matchingIdx s.entries (·.changed) 0 → ∃ j, s.get i = some j) := by
  have hfind : ∀ id i, JobId.find id s = .ok i → ∃ j, s.get i = some j := by
    intro id i h
    have hO : id.findO s = some i := by unfold JobId.findO; rw [h]
    rw [findO_eq] at hO
    cases id with
    | current => exact ((currentJob_eq_some s i).mp hO).2
    | previous => exact ((previousJob_eq_some s i).mp hO).2.2
    | number n =>
      by_cases ho : (s.get (n - 1)).isSome = true
      · simp only [ho, if_true, Option.some.injEq] at hO
        exact hO ▸ Option.isSome_iff_exists.mp ho
      · simp only [ho] at hO; cases hO
    | prefix_ p => obtain ⟨⟨j, hj, _⟩, _⟩ := (uniqueOf_iff _ _ i).mp hO; exact ⟨j, hj⟩
    | substring p => obtain ⟨⟨j, hj, _⟩, _⟩ := (uniqueOf_iff _ _ i).mp hO; exact ⟨j, hj⟩
  refine ⟨hfind, ?_, ?_, ?_⟩
  · intro t
    cases hf : (parseTail t).find s with
    | error e => cases e <;> simp [killTarget, hf, findErrClass]
    | ok index =>
      obtain ⟨j, hj⟩ := hfind _ _ hf
      obtain ⟨hyes, hno⟩ := killTarget_found s t index j hf hj
      by_cases hok : j.owned = true ∧ j.jc = true ∧ j.state.isAlive = true
      · rw [hyes hok.1 hok.2.1 hok.2.2]; exact fun h => nomatch h
      · obtain ⟨e, he, hne⟩ := hno hok
        rw [he]; exact fun h => hne (Except.error.inj h)
  · intro op
    fun_cases bgResumeId s op with
    | case1 => exact fun e => absurd (Except.error.inj e) (by decide)
    | case2 _ _ e _ => cases e <;> exact fun h => absurd (Except.error.inj h) (by decide)
    | case3 _ _ index hf =>
      obtain ⟨j, hj⟩ := hfind _ _ hf
      exact bgResume_no_panic s index j hj
  · intro i hi
    obtain ⟨j, hj, _⟩ := (mem_matchingIdx _ _ i).mp hi
    exact ⟨j, hj⟩

/-- seed "`%n` counts live jobs": in the table with the hole `%2` is slot 1 (the job printed as
    `[2]`), `%1` designates nothing, `%3` is slot 2; `printed_number_designates` says so for every table -/
example :
    let s := run JobList.empty holeHistory
    s.get 0 = none ∧ (s.get 1).isSome ∧ (s.get 2).isSome ∧
    resolved s "%1".toList = none ∧ resolved s "%2".toList = some 1 ∧ resolved s "%3".toList = some 2 ∧
    (docDesignates s "%2".toList).join = some 1 ∧
    (jobsBuiltin s ["%2".toList]).1.stdout = "[2] + Stopped(SIGTSTP)     abc\n".toList ∧
    resolved s "%?b".toList = none ∧ resolved s "%ab".toList = some 1 ∧ resolved s "%b".toList = some 2 := by
  decide +kernel

/-- `model_meets_doc` is not vacuous at the edges of the number parse, and the hypothesis is needed:
    above `usize::MAX` the code looks for a name, the documentation for a job number -/
example :
    let s := (JobList.empty.insert { pid := 7, state := .running, name := "18446744073709551616x".toList }).2
    resolved s "%18446744073709551616".toList = some 0 ∧
    (docDesignates s "%18446744073709551616".toList).join = none ∧
    resolved s "%+1".toList = none ∧ (docDesignates s "%+1".toList).join = none ∧
    resolved s "%01".toList = some 0 ∧ (docDesignates s "%01".toList).join = some 0 := by
  decide +kernel

end YashModel.Job
