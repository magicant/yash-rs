/-
  The vocabulary of C12: the invariant `Inv` in ∀-form over the slot-lookup function (`JInv`: current and previous
  job, `PInv`: the pid index, `FInv`: the free list of the slab), its reading in the words of the property text
  (`Consistent`), the slot-wise relations between two tables (`Sub`, `Stable`) and histories (`PathPre`, `Reachable`).
-/
import YashModel.Job.Slab
namespace YashModel.Job

/-- current / previous consistency -/
def JInv (g : Nat → Option Job) (cur prev : Nat) : Prop :=
  (∀ i j, g i = some j → ∃ j', g cur = some j') ∧
  (∀ i j, i ≠ cur → g i = some j → prev ≠ cur ∧ ∃ j', g prev = some j') ∧
  (∀ i j, g i = some j → j.isSuspended = true → ∃ j', g cur = some j' ∧ j'.isSuspended = true) ∧
  (∀ i j, i ≠ cur → g i = some j → j.isSuspended = true → ∃ j', g prev = some j' ∧ j'.isSuspended = true)

/-- pid index agrees with the table -/
def PInv (g : Nat → Option Job) (m : PidMap) : Prop :=
  ∀ p i, lookup m p = some i ↔ ∃ j, g i = some j ∧ j.pid = p

/-- free list of the slab: only vacant in-range keys, each once -/
def FInv (es : Slab) (free : List Nat) : Prop :=
  (∀ k ∈ free, k < es.length ∧ gets es k = none) ∧ free.Nodup

structure Inv (s : JobList) : Prop where
  j : JInv (gets s.entries) s.cur s.prev
  p : PInv (gets s.entries) s.pids
  f : FInv s.entries s.free

theorem lookup_of_inv {s : JobList} (h : Inv s) {i : Nat} {j : Job} (hg : gets s.entries i = some j) :
    lookup s.pids j.pid = some i :=
  (h.p j.pid i).mpr ⟨j, hg, rfl⟩

theorem currentJob_of_inv {s : JobList} (h : Inv s) {k : Nat} {j : Job} (hk : gets s.entries k = some j) :
    s.currentJob = some s.cur := by
  obtain ⟨j', hj'⟩ := h.j.1 k j hk
  exact (currentJob_eq_some s _).mpr ⟨rfl, j', hj'⟩

theorem previousJob_of_inv {s : JobList} (h : Inv s) {k : Nat} {j : Job} (hne : k ≠ s.cur)
    (hk : gets s.entries k = some j) : s.previousJob = some s.prev := by
  obtain ⟨hpc, j', hj'⟩ := h.j.2.1 k j hne hk
  exact (previousJob_eq_some s _).mpr ⟨rfl, hpc, j', hj'⟩

/-- The statement of the property on one table, in the existential form of the property text and
    through the public view (`currentJob`, `previousJob`, slot lookup, `find_by_pid` = `lookup`). -/
structure Consistent (s : JobList) : Prop where
  current_exists :
    (∃ i j, s.get i = some j) → ∃ c j, s.currentJob = some c ∧ s.get c = some j
  previous_exists :
    (∃ i i' j j', i ≠ i' ∧ s.get i = some j ∧ s.get i' = some j') →
      ∃ p j, s.previousJob = some p ∧ s.get p = some j ∧ s.currentJob ≠ some p
  current_suspended :
    (∃ i j, s.get i = some j ∧ j.isSuspended = true) →
      ∃ c j, s.currentJob = some c ∧ s.get c = some j ∧ j.isSuspended = true
  previous_suspended :
    (∃ i i' j j', i ≠ i' ∧ s.get i = some j ∧ j.isSuspended = true ∧ s.get i' = some j' ∧ j'.isSuspended = true) →
      ∃ p j, s.previousJob = some p ∧ s.get p = some j ∧ j.isSuspended = true
  pid_unique :
    ∀ i i' j j', s.get i = some j → s.get i' = some j' → j.pid = j'.pid → i = i'
  pid_index :
    ∀ i j, s.get i = some j → lookup s.pids j.pid = some i

/-- histories whose every `insert` respects the stated precondition (pid fresh or designating a
    job that is not alive) -/
def PathPre : JobList → List Op → Prop
  | _, [] => True
  | s, op :: ops => opPre s op = true ∧ PathPre (step s op) ops

/-- every slot of `s'` is vacant or holds the pid it held in `s` -/
def Sub (s s' : JobList) : Prop :=
  ∀ k, gets s'.entries k = none ∨ ∃ j j', gets s.entries k = some j ∧ gets s'.entries k = some j' ∧ j'.pid = j.pid

theorem Sub.refl (s : JobList) : Sub s s := by
  intro k
  cases h : gets s.entries k with
  | none => exact Or.inl rfl
  | some j => exact Or.inr ⟨j, j, rfl, rfl, rfl⟩

theorem Sub.trans {a b c : JobList} (h1 : Sub a b) (h2 : Sub b c) : Sub a c := by
  intro k
  rcases h2 k with h | ⟨j, j', hb, hc, hp⟩
  · exact Or.inl h
  · rcases h1 k with h | ⟨i, i', ha, hb', hp'⟩
    · rw [h] at hb; cases hb
    · rw [hb'] at hb; cases hb
      exact Or.inr ⟨i, j', ha, hc, by rw [hp, hp']⟩

theorem sub_of_entries_eq {s s' : JobList} (h : s'.entries = s.entries) : Sub s s' := by
  intro k; rw [h]; exact Sub.refl s k

theorem noNew_of_sub (s s' : JobList) (h : Sub s s') :
    ((occupied s'.entries).all fun i => (s.get i).isSome) = true := by
  rw [occupied_all]
  intro i j hj
  rcases h i with hn | ⟨a, a', ha, _, _⟩
  · rw [hn] at hj; cases hj
  · rw [JobList.get_eq, ha]; rfl

/-- "a job's number never changes while the job exists": after any operation a pid that was in
    the table is at the same index or nowhere. -/
def Stable (s s' : JobList) : Prop :=
  ∀ i j, s.get i = some j →
    (∃ j', s'.get i = some j' ∧ j'.pid = j.pid) ∨ (∀ i' j', s'.get i' = some j' → j'.pid ≠ j.pid)

/-- The driver (`Main.lean`, `runLine`) folds `step` over the operations of a case from the empty
    table and prints `opResult`, which calls the same functions (`jobsBuiltin`, `bgBuiltin`, …) that
    `step` calls; so the tables it prints are exactly the `run JobList.empty ops`. -/
def Reachable (s : JobList) : Prop := ∃ ops, PathPre JobList.empty ops ∧ s = run JobList.empty ops

end YashModel.Job
