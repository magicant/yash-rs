/-
  C12 — property theorems about the operations that work on the job table above the `JobList` API, with
  non-vacuity examples.

  Documentation: `docs/src/builtins/jobs.md` ("When the built-in reports a finished job …, it removes the job
  from the job list"), `bg.md` ("The (last) resumed job's process ID is set to the `!` special
  parameter"), `fg.md` ("If the resumed job finishes, it is removed from the job list.  If the job
  gets suspended again, it is set as the current job"), `wait.md`, `docs/src/interactive/job_control.md`.
-/
import YashModel.Job.Theorems
import YashModel.Job.SlotEffects
import YashModel.Common.Strings
namespace YashModel.Job

/-- ★ after `jobs` has reported the jobs `idxs`, slot by slot: a reported job that had finished is
    gone, a reported job that is alive only has its `state_changed` flag cleared, every other slot
    is untouched — no job is removed that was not reported, none that is not finished -/
theorem jobs_removes_exactly_reported (idxs : List Nat) (s : JobList) (k : Nat) :
    gets (jobsFinish s idxs).entries k =
      match gets s.entries k with
      | none => none
      | some j =>
        if k ∈ idxs then (if j.state.isAlive then some { j with changed := false } else none)
        else some j := by
  unfold jobsFinish
  induction idxs generalizing s with
  | nil => simp only [List.foldl_nil]; cases gets s.entries k <;> simp
  | cons i rest ih =>
    simp only [List.foldl_cons]
    rw [ih (jobsFinish1 s i), jobsFinish1_gets]
    by_cases hk : k = i
    · subst hk
      simp only [if_true, List.mem_cons, true_or]
      cases hg : gets s.entries k with
      | none => rfl
      | some j =>
        simp only
        cases ha : j.state.isAlive with
        | true =>
          simp only [if_true, ha]
          split <;> rfl
        | false => simp only [Bool.false_eq_true, if_false]
    · simp only [hk, if_false, List.mem_cons, false_or]

/-- ★ `jobs` without operands, as the driver runs it: afterwards exactly the finished jobs are gone
    and every job that is alive has been marked as reported -/
theorem step_jobs_all (s : JobList) (k : Nat) :
    (step s (.jobs [])).get k =
      match s.get k with
      | none => none
      | some j => if j.state.isAlive then some { j with changed := false } else none := by
  have e : (step s (.jobs [])) = jobsFinish s (matchingIdx s.entries (fun _ => true) 0) := rfl
  rw [e, JobList.get_eq, JobList.get_eq, jobs_removes_exactly_reported]
  cases hg : gets s.entries k with
  | none => rfl
  | some j =>
    have : k ∈ matchingIdx s.entries (fun _ => true) 0 :=
      (mem_matchingIdx _ _ k).mpr ⟨j, hg, rfl⟩
    simp [this]

/-- ★ `jobs` whose report cannot be written reports the failure and does not touch the table
    ("Remove finished jobs and mark reported jobs as reported only if there was no error") -/
theorem jobs_closed (s : JobList) (args : List Str)
    (h0 : (jobsBuiltin s args).1.status = 0) (hne : (jobsBuiltin s args).1.stdout ≠ []) :
    jobsClosed s args = ({ status := 1, errs := ["stdout"] }, s) := by
  unfold jobsClosed
  simp [h0, hne]

/-- ★ `bg` on the job-controlled, owned job in slot `index`: the line `[n] name` is written, `$!`
    becomes the job's pid ("the resumed job's process ID is set to the `!` special parameter"), the
    table changes in that slot only, where a job that is alive now expects `Running` (the recorded
    state stays until `update_status` hears about the `SIGCONT`, see `bg_then_running`), the
    invariant holds, and the resumed job is the current job — unless it is not suspended while some
    job is, in which case the current job stays a suspended one as the invariant demands -/
theorem bg_resumed (s : JobList) (index : Nat) (job : Job) (h : Inv s)
    (hg : gets s.entries index = some job) (ho : job.owned = true) (hc : job.jc = true) :
    (bgResume s index).1 = .ok (['['] ++ natStr (index + 1) ++ [']', ' '] ++ job.name ++ ['\n']) ∧
    (bgResume s index).2.lastAsync = job.pid ∧
    (∀ k, gets (bgResume s index).2.entries k =
      if k = index then some (if job.state.isAlive then { job with expected := some .running } else job)
      else gets s.entries k) ∧
    Inv (bgResume s index).2 ∧
    ((bgResume s index).2.currentJob = some index ∨
      (job.isSuspended = false ∧ ∃ c jc, (bgResume s index).2.get c = some jc ∧ jc.isSuspended = true)) := by
  rw [bgResume_ok s index job hg ho hc]
  have hi := gets_some_lt hg
  -- the table just before `set_current_job`
  have hent : ∀ k, gets (bgTable s index job).entries k =
      if k = index then some (if job.state.isAlive then { job with expected := some .running } else job)
      else gets s.entries k := by
    intro k
    unfold bgTable
    rw [(setCurrentOk_fields _ _).1]
    cases ha : job.state.isAlive with
    | true =>
      simp only [if_true]
      show gets (s.expect index (some .running)).entries k = _
      rw [expect_eq, modify_gets, hg]; rfl
    | false =>
      simp only [Bool.false_eq_true, if_false, JobList.setLastAsync]
      by_cases hk : k = index
      · subst hk; simp [hg]
      · simp [hk]
  refine ⟨rfl, ?_, hent, bgTable_respects respects_inv.marks setLastAsync_inv s index job h, ?_⟩
  · unfold bgTable
    rw [(setCurrentOk_fields _ _).2.1]
    rfl
  · -- `set_current_job(index).ok()`
    have hidx := hent index
    simp only [if_true] at hidx
    unfold bgTable at hidx ⊢
    rw [(setCurrentOk_fields _ _).1] at hidx
    rcases setCurrentOk_current _ index _ hidx with hcur | ⟨hns, hany⟩
    · exact Or.inl hcur
    · right
      have hsusp : (if job.state.isAlive then ({ job with expected := some .running } : Job) else job).isSuspended
          = job.isSuspended := by split <;> rfl
      refine ⟨by rw [← hsusp]; exact hns, ?_⟩
      obtain ⟨c, jc, hc1, hc2⟩ := (anySuspended_iff _).mp hany
      refine ⟨c, jc, ?_, hc2⟩
      rw [JobList.get_eq, (setCurrentOk_fields _ _).1]
      exact hc1

/-- ★ … and once the `SIGCONT` is reported (`update_status(pid, Running)`), the resumed job is
    `Running` in the table, its `state_changed` flag is what it was (the resumption is not
    reported a second time), nothing is expected any more, and the invariant holds — so the
    current job is again a suspended one whenever a suspended job is left -/
theorem bg_then_running (s : JobList) (index : Nat) (job : Job) (h : Inv s)
    (hg : gets s.entries index = some job) (ho : job.owned = true) (hc : job.jc = true)
    (ha : job.state.isAlive = true) :
    let s2 := ((bgResume s index).2.updateStatus job.pid .running).2
    Inv s2 ∧
    s2.get index = some { job with state := .running, expected := none } ∧
    ((∃ i j, s2.get i = some j ∧ j.isSuspended = true) →
      ∃ c j, s2.currentJob = some c ∧ s2.get c = some j ∧ j.isSuspended = true) := by
  intro s2
  obtain ⟨_, _, hent, hinv, _⟩ := bg_resumed s index job h hg ho hc
  have hinv2 : Inv s2 := update_inv _ _ _ hinv
  refine ⟨hinv2, ?_, (consistent_of_inv s2 hinv2).current_suspended⟩
  have hslot := hent index
  simp only [if_true, ha] at hslot
  have hl := lookup_of_inv hinv hslot
  obtain ⟨hget, _, _⟩ := update_effect _ job.pid index .running _ hl hslot
  have := hget index
  simp only [if_true] at this
  show gets s2.entries index = _
  rw [this]
  simp [Job.updated]

/-- ★ `fg` on the job-controlled, owned job in slot `index`, where `final` is the state the job
    ends in (its recorded state if it had already finished, else the state `outcome` in which the
    resumed process halts): "If the resumed job finishes, it is removed from the job list.  If
    the job gets suspended again, it is set as the current job."  The invariant holds afterwards. -/
theorem fg_result (s : JobList) (index : Nat) (job : Job) (outcome : PState) (h : Inv s)
    (hg : gets s.entries index = some job) (ho : job.owned = true) (hc : job.jc = true) :
    let final := if job.state.isAlive then outcome else job.state
    let s' := (fgResume s index outcome).2
    Inv s' ∧
    (final.isStopped = true →
      s'.currentJob = some index ∧ ∃ j', s'.get index = some j' ∧ j'.state = final ∧ j'.pid = job.pid) ∧
    (final.isStopped = false → s'.get index = none) := by
  intro final s'
  obtain ⟨j2, hp2, hst2, G, hcur⟩ := fgTable_spec s h index job outcome hg
  have e : s' = fgTable s index job outcome := congrArg Prod.snd (fgResume_ok s index outcome job hg ho hc)
  refine ⟨fgResume_respects respects_inv s index outcome h, fun hf => ?_, fun hf => ?_⟩
  · rw [e]
    exact ⟨hcur hf, j2, by rw [JobList.get_eq, G, if_pos rfl, if_pos hf], hst2, hp2⟩
  · rw [e, JobList.get_eq, G, if_pos rfl, if_neg (ne_true_of_eq_false hf)]

/-- ★ "If omitted, the built-in resumes the current job" (`bg.md`, `fg.md`), and an operand that is
    a job ID resumes the job `JobId::find` returns for it: with job control on, `bg` / `fg` without
    operands act on `current_job()`, with one job-ID operand on the job it designates -/
theorem bg_fg_target (s : JobList) (inter : Bool) (outcome : PState) :
    (∀ i, s.currentJob = some i →
      (bgBuiltin s true []).2 = (bgResume s i).2 ∧ (fgBuiltin s true inter outcome []).2 = (fgResume s i outcome).2) ∧
    (s.currentJob = none → (bgBuiltin s true []).2 = s ∧ (fgBuiltin s true inter outcome []).2 = s) ∧
    (∀ op id i, op.head? = some '%' → parseJobId op = some id → id.find s = .ok i →
      (bgBuiltin s true [op]).2 = (bgResume s i).2 ∧ (fgBuiltin s true inter outcome [op]).2 = (fgResume s i outcome).2) := by
  have hnil : parseArgs [] [] = some ([], []) := rfl
  refine ⟨fun i hi => ?_, fun hn => ?_, fun op id i hop hid hfind => ?_⟩
  · rw [bgBuiltin_snd, fgBuiltin_snd, hnil]
    simp only [fgTarget, hi, Bool.not_true, Bool.false_eq_true, if_false, List.isEmpty_nil, if_true, and_self]
  · rw [bgBuiltin_snd, fgBuiltin_snd, hnil]
    simp only [fgTarget, hn, Bool.not_true, Bool.false_eq_true, if_false, List.isEmpty_nil, if_true, and_self]
  · obtain ⟨cs, rfl⟩ : ∃ cs, op = '%' :: cs := by
      cases op with
      | nil => simp at hop
      | cons c cs => exact ⟨cs, by simpa using hop⟩
    rw [bgBuiltin_snd, fgBuiltin_snd, parseArgs_percent]
    simp only [fgTarget, hid, hfind, Bool.not_true, Bool.false_eq_true, if_false, List.isEmpty_cons, and_true]
    -- the operand loop of `bg` over the one operand
    simp only [bgLoop, bgResumeId, hid, hfind]
    cases bgResume s i with
    | mk r s' => cases r <;> rfl

/-- ★ `bg` / `fg` without operands, as the driver runs them (`step`), on a reachable table whose
    current job is owned and job-controlled: `bg` sets `$!` to its pid and changes that slot only;
    `fg` leaves it as the current job if it is suspended again and removes it otherwise -/
theorem step_bg_fg_current (s : JobList) (hr : Reachable s) (i : Nat) (job : Job)
    (hc : s.currentJob = some i) (hg : s.get i = some job) (ho : job.owned = true) (hjc : job.jc = true)
    (inter : Bool) (outcome : PState) :
    ((step s (.bg true [])).lastAsync = job.pid ∧
     (∀ k, (step s (.bg true [])).get k =
        if k = i then some (if job.state.isAlive then { job with expected := some .running } else job) else s.get k) ∧
     Inv (step s (.bg true []))) ∧
    (let final := if job.state.isAlive then outcome else job.state
     (final.isStopped = true → (step s (.fg true inter outcome [])).currentJob = some i) ∧
     (final.isStopped = false → (step s (.fg true inter outcome [])).get i = none) ∧
     Inv (step s (.fg true inter outcome []))) := by
  have hinv := (reachable_consistent s hr).1
  obtain ⟨tb, _, _⟩ := bg_fg_target s inter outcome
  obtain ⟨eb, ef⟩ := tb i hc
  obtain ⟨_, b2, b3, b4, _⟩ := bg_resumed s i job hinv hg ho hjc
  obtain ⟨f1, f2, f3⟩ := fg_result s i job outcome hinv hg ho hjc
  refine ⟨⟨?_, ?_, ?_⟩, ?_⟩
  · show (bgBuiltin s true []).2.lastAsync = _; rw [eb]; exact b2
  · intro k; show gets (bgBuiltin s true []).2.entries k = _; rw [eb]; exact b3 k
  · show Inv (bgBuiltin s true []).2; rw [eb]; exact b4
  · show (_ → (fgBuiltin s true inter outcome []).2.currentJob = _) ∧
      (_ → (fgBuiltin s true inter outcome []).2.get i = none) ∧ Inv (fgBuiltin s true inter outcome []).2
    rw [ef]
    exact ⟨fun h => (f2 h).1, f3, f1⟩

/-- ★ `fg` touches only the job it resumes.  For every table that satisfies the invariant, every
    argument list and every halted `outcome`: either the table is unchanged, or there is ONE slot
    `index` — every other job keeps its entry (pid, state, flags, name) and its number, no slot is
    new; the resumed job stays in its slot (same pid) or is removed, and it is removed only if it
    ended in a state that is not alive.  In particular a job that finished in the background and
    has not been reported by `jobs` or retrieved by `wait` survives every `fg` (docs: "Job list";
    `fg.md`: "If the resumed job finishes, it is removed from the job list"). -/
theorem fg_touches_only_resumed_job (s : JobList) (h : Inv s) (m i : Bool) (outcome : PState)
    (args : List Str) (hout : outcome ≠ .running) :
    (fgBuiltin s m i outcome args).2 = s ∨
    ∃ index job, s.get index = some job ∧
      (∀ k, k ≠ index → (fgBuiltin s m i outcome args).2.get k = s.get k) ∧
      ((fgBuiltin s m i outcome args).2.get index = none →
        (if job.state.isAlive then outcome else job.state).isAlive = false) ∧
      (∀ j', (fgBuiltin s m i outcome args).2.get index = some j' → j'.pid = job.pid) := by
  rcases fgBuiltin_table s m i outcome args with e | ⟨index, e⟩
  · exact Or.inl e
  · rw [e]
    rcases fgResume_table s index outcome with e' | ⟨job, hg, _, _, _⟩
    · exact Or.inl e'.1
    · right
      obtain ⟨h1, h2⟩ := fgResume_slots s h index outcome job hg hout
      refine ⟨index, job, hg, h1, h2, ?_⟩
      intro j' hj'
      rcases fgResume_respects respects_sub s index outcome index with hn | ⟨a, a', ha, ha', hp⟩
      · cases hj'.symm.trans hn
      · cases hj'.symm.trans ha'
        rw [hg] at ha; cases ha; exact hp

/-- ★ `bg` removes nothing and records no state change: every slot holds the same pid in the same
    state afterwards (only `expected_state`, `$!` and the current-job selection change) -/
theorem bg_removes_nothing (s : JobList) (m : Bool) (args : List Str) (k : Nat) :
    ((bgBuiltin s m args).2.get k).map (fun j => (j.pid, j.state)) = (s.get k).map (fun j => (j.pid, j.state)) :=
  bgBuiltin_respects sameStates_marks (fun _ _ _ => rfl) s m args k

/-- ★ the interactive flag changes the result of `fg`, never the table -/
theorem fg_interactive_table (s : JobList) (m : Bool) (outcome : PState) (args : List Str) :
    (fgBuiltin s m true outcome args).2 = (fgBuiltin s m false outcome args).2 := by
  rw [fgBuiltin_snd, fgBuiltin_snd]

/-- ★ after `name &` with child `pid` (fresh, or the pid of a finished job): `$!` is `pid`, and
    `pid` designates exactly the inserted job — running, named `name`, in the slot whose number the
    interactive shell prints — through the pid index (`wait $!`); the invariant holds -/
theorem amp_designates (s : JobList) (pid : Nat) (m i : Bool) (name : Str) (h : Inv s)
    (hpre : insertPre s pid = true) :
    let idx := (s.insert (asyncJob pid m name)).1
    let s' := (ampersand s pid m i name).2
    Inv s' ∧ s'.lastAsync = pid ∧ lookup s'.pids s'.lastAsync = some idx ∧
    s'.get idx = some (asyncJob pid m name) ∧
    (∀ k j, s'.get k = some j → j.pid = pid → k = idx) ∧
    (ampersand s pid m i name).1.errs =
      (if i then ["async:" ++ toString (idx + 1) ++ ":" ++ toString pid] else []) := by
  intro idx s'
  have hinv : Inv s' := ampersand_inv s pid m i name h hpre
  have hget : s'.get idx = some (asyncJob pid m name) := insert_new s (asyncJob pid m name) h
  have hla : s'.lastAsync = pid := rfl
  refine ⟨hinv, hla, ?_, hget, ?_, rfl⟩
  · rw [hla]; exact lookup_of_inv hinv hget
  · intro k j hk hp
    exact (consistent_of_inv s' hinv).pid_unique k idx j _ hk hget (by rw [hp]; rfl)

/-- ★ where `insert` puts a job that is already suspended (the doc comment of `JobList::insert`):
    it becomes the current job iff there is no current job or the current job is not suspended;
    otherwise the current job stays, and the new job becomes the previous job iff there is no
    previous job or the previous job is not suspended; otherwise both stay.
    (So the statement of docs/src/interactive/job_control.md "When a job is suspended, it becomes
    the current job" holds for `update_status` — `update_suspends` — but NOT for a
    foreground job suspended while another suspended job is the current job; see notes/C12.md.) -/
theorem insert_suspended_selection (s : JobList) (job : Job) (h : Inv s)
    (hpre : insertPre s job.pid = true) (hs : job.isSuspended = true) :
    let idx := (s.insert job).1
    let s' := (s.insert job).2
    ((∀ c jc, s.currentJob = some c → s.get c = some jc → jc.isSuspended = false) → s'.currentJob = some idx) ∧
    (∀ c jc, s.currentJob = some c → s.get c = some jc → jc.isSuspended = true →
      s'.currentJob = some c ∧
      ((∀ p jp, s.previousJob = some p → s.get p = some jp → jp.isSuspended = false) → s'.previousJob = some idx) ∧
      (∀ p jp, s.previousJob = some p → s.get p = some jp → jp.isSuspended = true → s'.previousJob = some p)) := by
  intro idx s'
  have hinv : Inv s' := insert_inv s job h hpre
  have hidx : gets s'.entries idx = some job := insert_new s job h
  have hsel := insert_sel s job h
  rw [hs, reselectInsert_susp] at hsel
  -- the current job of `s'` is `s'.cur`; its previous job is `s'.prev` when another slot is occupied
  rw [currentJob_of_inv hinv hidx]
  constructor
  · intro hnc
    cases hc : s.currentJob with
    | none => rw [hc] at hsel; exact congrArg (fun p => some p.1) hsel
    | some c =>
      obtain ⟨rfl, jc, hjc⟩ := (currentJob_eq_some s c).mp hc
      rw [map_suspAt hc hjc, hnc _ jc hc hjc] at hsel
      dsimp only at hsel
      exact (congrArg (fun p => some p.1) hsel).trans (congrArg some (promote_fst ..))
  · intro c jc hc hgc hsc
    obtain ⟨rfl, _⟩ := (currentJob_eq_some s c).mp hc
    rw [map_suspAt hc hgc, hsc] at hsel
    dsimp only at hsel
    have hne : idx ≠ s.cur := insert_slot_ne s job h hpre hgc hsc
    have hcur : s'.cur = s.cur := congrArg Prod.fst hsel
    have hprevJob : s'.previousJob = some s'.prev := previousJob_of_inv hinv (hcur ▸ hne) hidx
    rw [hprevJob]
    refine ⟨congrArg some hcur, ?_, ?_⟩
    · intro hnp
      have : s.previousJob.map (suspAt s.entries) ≠ some true := by
        cases hp : s.previousJob with
        | none => exact fun e => nomatch e
        | some p =>
          obtain ⟨rfl, _, jp, hjp⟩ := (previousJob_eq_some s p).mp hp
          rw [← hp, map_suspAt hp hjp, hnp _ jp hp hjp]
          exact fun e => nomatch e
      rw [if_neg this] at hsel
      exact congrArg (fun p => some p.2) hsel
    · intro p jp hp hgp hsp
      obtain ⟨rfl, _⟩ := (previousJob_eq_some s p).mp hp
      rw [map_suspAt hp hgp, hsp, if_pos rfl] at hsel
      exact congrArg (fun p => some p.2) hsel

/-- ★ the documentation clause "When a job is suspended, it becomes the current job, and the previous
    current job becomes the previous job", characterised exactly in the model.
    `update_status` path (a job of the list goes from not suspended to suspended): always true.
    `insert` path (a job is entered already suspended, e.g. by `handle_job_status` for a foreground
    job): the new job is the current job IFF the current job was not suspended (or there was none),
    and then the former current job is the previous job.  So the clause fails exactly when a
    suspended job is inserted while the current job is suspended — the KNOWN FINDING of C12. -/
theorem doc_suspended_becomes_current (s : JobList) (h : Inv s) :
    (∀ pid idx st job, lookup s.pids pid = some idx → gets s.entries idx = some job →
      job.isSuspended = false → st.isStopped = true →
      (s.updateStatus pid st).2.currentJob = some idx ∧
      ∀ c, s.currentJob = some c → c ≠ idx → (s.updateStatus pid st).2.previousJob = some c) ∧
    (∀ job, insertPre s job.pid = true → job.isSuspended = true →
      ((s.insert job).2.currentJob = some (s.insert job).1 ↔
        ¬ ∃ c jc, s.currentJob = some c ∧ s.get c = some jc ∧ jc.isSuspended = true) ∧
      ((s.insert job).2.currentJob = some (s.insert job).1 →
        ∀ c, s.currentJob = some c → c ≠ (s.insert job).1 → (s.insert job).2.previousJob = some c)) := by
  constructor
  · intro pid idx st job hl hg hr hs
    exact update_suspends s pid idx st job hl hg hr hs
  · intro job hpre hs
    obtain ⟨S1, S2⟩ := insert_suspended_selection s job h hpre hs
    by_cases hsus : ∃ c jc, s.currentJob = some c ∧ s.get c = some jc ∧ jc.isSuspended = true
    · obtain ⟨c, jc, hc, hgc, hsc⟩ := hsus
      have hkeep := (S2 c jc hc hgc hsc).1
      -- the slot of the new job did not hold a suspended job, so it is not `c`
      have hne : c ≠ (s.insert job).1 := (insert_slot_ne s job h hpre hgc hsc).symm
      have hnew : (s.insert job).2.currentJob ≠ some (s.insert job).1 := fun hnew => by
        rw [hkeep] at hnew; cases hnew; exact hne rfl
      exact ⟨⟨fun e => absurd e hnew, fun hno => absurd ⟨c, jc, hc, hgc, hsc⟩ hno⟩, fun e => absurd e hnew⟩
    · have hnot : ∀ c jc, s.currentJob = some c → s.get c = some jc → jc.isSuspended = false := by
        intro c jc hc hgc
        cases hsc : jc.isSuspended with
        | false => rfl
        | true => exact absurd ⟨c, jc, hc, hgc, hsc⟩ hsus
      refine ⟨⟨fun _ => hsus, fun _ => S1 hnot⟩, ?_⟩
      intro hnew c hc hne
      obtain ⟨rfl, jc, hjc⟩ := (currentJob_eq_some s c).mp hc
      have hinv := insert_inv s job h hpre
      have hcur' : (s.insert job).2.cur = (s.insert job).1 :=
        ((currentJob_eq_some _ _).mp hnew).1
      have hsel := insert_sel s job h
      rw [hs, reselectInsert_susp, map_suspAt hc hjc, hnot _ jc hc hjc] at hsel
      dsimp only at hsel
      rw [if_pos (Ne.symm hne)] at hsel
      -- the former current job is still there, in a slot other than the new current job's
      have hstill : gets (s.insert job).2.entries s.cur = some jc := by
        rw [insert_gets s job h, if_neg hne, hjc]
      rw [previousJob_of_inv hinv (hcur' ▸ hne) hstill]
      exact congrArg (fun p => some p.2) hsel

/-- ★ `wait` removes a job only by `job_status`: every slot is vacant afterwards or holds the job
    (same pid) it held before, `$!` is untouched and the invariant holds -/
theorem wait_table (s : JobList) (args : List Str) (h : Inv s) :
    Inv (waitBuiltin s args).2 ∧ Sub s (waitBuiltin s args).2 ∧
    (waitBuiltin s args).2.lastAsync = s.lastAsync :=
  ⟨waitBuiltin_respects respects_inv s args h, waitBuiltin_respects respects_sub s args, waitBuiltin_respects respects_async s args⟩

/-- ★ `wait` removes a job only if it has finished or is not owned; every other slot is exactly as before -/
theorem wait_removes_only_finished (s : JobList) (args : List Str) (k : Nat) :
    (waitBuiltin s args).2.get k = s.get k ∨
    ((waitBuiltin s args).2.get k = none ∧ ∃ j, s.get k = some j ∧ (j.state.isAlive = false ∨ j.owned = false)) := by
  -- relative to the first table every `job_status` step keeps: a slot is as at the start, or vacated and then its
  -- job had finished or was disowned
  refine waitBuiltin_ind (fun t => ∀ k, t.get k = s.get k ∨
      (t.get k = none ∧ ∃ j, s.get k = some j ∧ (j.state.isAlive = false ∨ j.owned = false)))
    (fun t i ht k => ?_) s args (fun k => Or.inl rfl) k
  rcases jobStatus_table t i with e | ⟨job, hg, hcond, e⟩ <;> rw [e]
  · exact ht k
  · by_cases hk : k = i
    · subst hk
      rw [remove_get_self]
      rcases ht k with e' | ⟨e', _⟩
      · exact Or.inr ⟨rfl, job, e'.symm.trans hg, hcond.symm⟩
      · cases e'.symm.trans hg
    · rw [remove_get_ne _ hk]; exact ht k

/-- ★ `wait %n` / `wait pid` for a job the shell owns, in slot `i`, while the system reports the state
    changes `evs`: if the built-in's loop ends with an exit status, then that is the exit status of a
    state that is not alive — the recorded one if the job had already finished, otherwise one that an
    event reports for this job's pid — and the job has been removed from slot `i`; if the loop ends
    with "no job to wait for" (no child left), the job is still in slot `i` under its pid, alive.
    Events about other jobs in between never change the answer. -/
theorem wait_returns_job_status (evs : List Ev) (s : JobList) (h : Inv s) (i : Nat) (job : Job)
    (hg : s.get i = some job) (ho : job.owned = true) :
    (∀ st s' rest, waitWhile (fun t => jobStatus t i) evs s = (some st, s', rest) →
      s'.get i = none ∧ Inv s' ∧
      ∃ fin : PState, fin.isAlive = false ∧ st = fin.exitStatus ∧
        (fin = job.state ∨ (job.pid, fin) ∈ evs)) ∧
    (∀ s' rest, waitWhile (fun t => jobStatus t i) evs s = (none, s', rest) →
      Inv s' ∧ ∃ j', s'.get i = some j' ∧ j'.pid = job.pid ∧ j'.state.isAlive = true) := by
  induction evs generalizing s job with
  | nil =>
    simp only [waitWhile, jobStatus_owned s i job hg ho]
    cases ha : job.state.isAlive with
    | true =>
      simp only [if_true]
      refine ⟨fun st s' rest e => (by cases e), fun s' rest e => ?_⟩
      cases e
      exact ⟨h, job, hg, rfl, ha⟩
    | false =>
      simp only [Bool.false_eq_true, if_false]
      refine ⟨fun st s' rest e => ?_, fun s' rest e => (by cases e)⟩
      cases e
      exact ⟨remove_get_self s i, remove_inv s i h, job.state, ha, rfl, Or.inl rfl⟩
  | cons ev rest ih =>
    simp only [waitWhile, jobStatus_owned s i job hg ho]
    cases ha : job.state.isAlive with
    | false =>
      simp only [Bool.false_eq_true, if_false]
      refine ⟨fun st s' r e => ?_, fun s' r e => (by cases e)⟩
      cases e
      exact ⟨remove_get_self s i, remove_inv s i h, job.state, ha, rfl, Or.inl rfl⟩
    | true =>
      simp only [if_true]
      obtain ⟨job1, hg1, hp1, ho1, hst1⟩ := applyEvent_slot s h i job hg ev
      obtain ⟨ih1, ih2⟩ := ih (applyEvent s ev) (applyEvent_respects respects_inv s ev h) job1 hg1 (ho1.trans ho)
      refine ⟨fun st s' r e => ?_, fun s' r e => ?_⟩
      · obtain ⟨a, b, fin, hfa, hfs, hfin⟩ := ih1 st s' r e
        refine ⟨a, b, fin, hfa, hfs, Or.inr ?_⟩
        rcases hfin with hfe | hmem
        · rcases hst1 with hsame | ⟨hpid, hnew⟩
          · exfalso; rw [hfe, hsame, ha] at hfa; cases hfa
          · have : ev = (job.pid, fin) := by
              cases ev; simp only at hpid hnew; rw [hpid, hfe, hnew]
            rw [this]; exact List.mem_cons_self ..
        · rw [hp1] at hmem; exact List.mem_cons_of_mem _ hmem
      · obtain ⟨a, j', hj', hpj, haj⟩ := ih2 s' r e
        exact ⟨a, j', hj', hpj.trans hp1, haj⟩

/-- ★ the status changes the system reports touch exactly the jobs they are about: whatever the events
    (any number, any order, also events for unknown pids), no job is removed or added — every slot
    holds the pid it held — and a job none of the events mentions is untouched, field by field -/
theorem sync_effect (s : JobList) (evs : List Ev) (h : Inv s) :
    Inv (updateAll s evs) ∧
    (∀ k, ((updateAll s evs).get k).map (·.pid) = (s.get k).map (·.pid)) ∧
    (∀ k j, s.get k = some j → (∀ ev ∈ evs, ev.1 ≠ j.pid) → (updateAll s evs).get k = some j) ∧
    (updateAll s evs).lastAsync = s.lastAsync := by
  refine ⟨updateAll_respects respects_inv s evs h, updateAll_pids s evs, ?_, updateAll_respects respects_async s evs⟩
  intro k j hk hne
  exact updateAll_untouched evs s h k j hk hne

/-- ★ With `interactive` and `monitor` on, the report is one `Accumulator` line (default format, markers of
    the table at that moment — `jobs_line_marker`, `marker_iff` apply to each) per job whose state has
    changed since the last report, in the order of `matchingIdx` (ascending: `matchingIdx_sorted`); afterwards
    every job is exactly as before with
    `state_changed` cleared — nothing is removed, also not a finished job (it stays until `jobs` or
    `wait` retrieves it) — and current job, previous job, pid index and `$!` are untouched.  With
    either option off nothing is printed and nothing changes. -/
theorem prompt_report (s : JobList) :
    (promptReport s true true).1 =
      (matchingIdx s.entries (·.changed) 0).flatMap (fun i =>
        match s.get i with
        | some job => accLine s.currentJob s.previousJob false false i job
        | none => []) ∧
    (∀ i, i ∈ matchingIdx s.entries (·.changed) 0 ↔ ∃ j, s.get i = some j ∧ j.changed = true) ∧
    (∀ k, (promptReport s true true).2.get k = (s.get k).map (fun j => { j with changed := false })) ∧
    (promptReport s true true).2.currentJob = s.currentJob ∧
    (promptReport s true true).2.previousJob = s.previousJob ∧
    (promptReport s true true).2.pids = s.pids ∧
    (promptReport s true true).2.lastAsync = s.lastAsync ∧
    (∀ m i, (m && i) = false → promptReport s m i = ([], s)) := by
  refine ⟨rfl, ?_, ?_, ?_, ?_, ?_, ?_, ?_⟩
  · intro i
    exact mem_matchingIdx _ _ i
  · intro k
    exact promptReport_gets s k
  · exact (promptReport_selection s).1
  · exact (promptReport_selection s).2.1
  · exact (promptReport_selection s).2.2
  · exact promptReport_respects respects_async s true true
  · intro m i hmi
    unfold promptReport
    cases m <;> cases i <;> simp_all

/-- ★ a status report that cannot be written (standard error closed) marks no job as reported and removes nothing:
    the table is untouched, so the next prompt reports exactly what this one would have reported — with the same
    markers and the same jobs (docs: "automatic notifications do not remove the reported job from the job list";
    input/reporter.rs: `state_reported()` only `if write_all(..).is_ok()`) -/
theorem prompt_closed (s : JobList) (m i : Bool) :
    promptReportClosed s m i = ([], s) ∧ step s (.promptClosed m i) = s ∧
    (∀ m' i', promptReport (step s (.promptClosed m i)) m' i' = promptReport s m' i') :=
  ⟨rfl, rfl, fun _ _ => rfl⟩

/-- ★ the job table a subshell starts with (`subshell/config.rs`: `env.jobs.disown_all()` on the child's copy) and what
    `( jobs … )` / `( wait … )` do with it:
    * the list is KEPT — every job in its slot with the same pid, state, name, flags — but no job is owned; the current
      and the previous job and `$!` are inherited; the table is consistent;
    * the parent's table is not touched by the subshell (`step` is the identity);
    * `wait` on any job inherited from the parent does not wait: `job_status` answers 127 at once
      (docs/src/builtins/wait.md: "Subshells cannot wait for jobs in the parent shell environment").
    What `jobs` prints in the subshell (docs/src/builtins/jobs.md: it "reports not only jobs that were started in the
    subshell but also jobs that were started in the parent shell") is not part of the statement; the example below
    shows it on one table. -/
theorem subshell_table (s : JobList) (h : Inv s) :
    Inv (subshellJobs s) ∧
    (∀ k, (subshellJobs s).get k = (s.get k).map (fun j => { j with owned := false })) ∧
    (subshellJobs s).currentJob = s.currentJob ∧ (subshellJobs s).previousJob = s.previousJob ∧
    (subshellJobs s).lastAsync = s.lastAsync ∧
    (∀ args, step s (.subJobs args) = s ∧ step s (.subWait args) = s) ∧
    (∀ k j, s.get k = some j → (jobStatus (subshellJobs s) k).1 = some 127) := by
  have hg : ∀ k, gets (subshellJobs s).entries k = (gets s.entries k).map (fun j => { j with owned := false }) :=
    fun k => gets_map s.entries (fun j => { j with owned := false }) k
  refine ⟨mapJobs_inv s _ (fun j => ⟨rfl, rfl⟩) h, hg, ?_, ?_, rfl, fun _ => ⟨rfl, rfl⟩, ?_⟩
  · exact (selection_congr (s := s) (t := subshellJobs s) rfl rfl fun k => isSome_of_map (hg k)).1
  · exact (selection_congr (s := s) (t := subshellJobs s) rfl rfl fun k => isSome_of_map (hg k)).2
  · intro k j hk
    exact congrArg Prod.fst ((wait_job_status (subshellJobs s) k _ ((hg k).trans (congrArg _ hk))).1 rfl)

/-- non-vacuity: a table with a finished job; in the subshell `wait %3` gives 127 (not the job's status 3), `jobs`
    prints the three lines, the parent still has the job and can retrieve its status -/
example :
    let s := run JobList.empty [.insertJob 101 .running true "ab".toList, .insertJob 102 (.stopped 120) true "abc".toList,
                                .insertJob 103 (.exited 3) true "b".toList]
    (subWait s ["%3".toList]).status = 127 ∧ (subJobs s []).stdout = (jobsBuiltin s []).1.stdout ∧
    (waitBuiltin (step s (.subWait ["%3".toList])) ["%3".toList]).1.status = 3 := by decide +kernel

example :
    invB (run JobList.empty builtinHistory) = true ∧ (run JobList.empty builtinHistory).len = 2 ∧
    (run JobList.empty builtinHistory).lastAsync = 104 := by
  decide +kernel

/-- `jobs` on the first three jobs prints the three lines with `-`, `+` and no marker, and removes
    the finished job only -/
example :
    let s := run JobList.empty (builtinHistory.take 3)
    (jobsBuiltin s []).1.stdout =
      ("[1] - Running              ab\n[2] + Stopped(SIGTSTP)     abc\n[3]   Done(3)              b\n").toList ∧
    (jobsBuiltin s []).2.len = 2 := by
  -- the literal as its character list by definition, not by running the UTF-8 decoder
  rw [Common.toList_lit rfl]
  decide +kernel

/-- hypotheses of `bg_resumed` / `fg_result` / `amp_designates` on that table -/
example :
    let s := run JobList.empty (builtinHistory.take 3)
    (∃ job, gets s.entries 1 = some job ∧ job.owned = true ∧ job.jc = true ∧ job.state.isAlive = true) ∧
    insertPre s 104 = true := by
  decide +kernel

/-- seed "`fg` purges every finished job": job 1 finished in the background and has not been
    reported; `fg` of job 2 leaves it in slot 0 (`fg_touches_only_resumed_job`), and `wait %1`
    still retrieves its status afterwards -/
example :
    let ops := [Op.insertJob 103 (.exited 0) false "a".toList, .insertJob 102 (.stopped 19) true "b".toList,
                .fg true false (.stopped 121) []]
    PathPre JobList.empty ops ∧
    (run JobList.empty ops).get 0 = (run JobList.empty (ops.take 2)).get 0 ∧
    ((run JobList.empty ops).get 0).isSome ∧
    (waitBuiltin (run JobList.empty ops) ["%1".toList]).1.status = 0 ∧
    fgLicence (run JobList.empty (ops.take 2)) (run JobList.empty ops) (some 1) (some (.stopped 121)) = true := by
  refine ⟨by simp [PathPre]; decide +kernel, by decide +kernel, by decide +kernel, by decide +kernel, by decide +kernel⟩

/-- the prompt report of that history: job 1 `Done(3)` (previous job, `-`), job 2 `Running` (current job, `+`);
    job 3 was started with `state_changed = false` and is not reported; afterwards no flag is set and
    the finished job 1 is still in the list -/
example :
    let s := run JobList.empty (extHistory.take 4)
    (promptReport s true true).1 = "[1] - Done(3)              ab\n[2] + Running              abc\n".toList ∧
    ((promptReport s true true).2.get 0).isSome ∧ matchingIdx (promptReport s true true).2.entries (·.changed) 0 = [] ∧
    (match killTarget (promptReport s true true).2 "%-".toList with | .error e => e | .ok _ => "") = "finished" ∧
    (match killTarget (promptReport s true true).2 "%abc".toList with | .ok r => some r | .error _ => none) = some (true, 102) ∧
    bangValue s = some 103 ∧ bangValue JobList.empty = none := by
  iterate 3 rw [Common.toList_lit rfl]
  decide +kernel

/-- hypotheses and conclusion of `wait_returns_job_status` on that history: job 3 (pid 103, owned, running) is
    awaited while the system reports `Stopped`, `Running`, `Killed(SIGKILL)` for it — the result is
    9 + 384 and slot 2 is vacant; with only the first two events the answer is "no job to wait for"
    and the job is still there -/
example :
    let s := run JobList.empty (extHistory.take 7)
    (∃ job, s.get 2 = some job ∧ job.owned = true ∧ job.pid = 103 ∧ job.state = .running) ∧
    (waitWhile (fun t => jobStatus t 2) [(103, .stopped 121), (103, .running), (103, .signaled 9 false)] s).1 = some 393 ∧
    ((waitWhile (fun t => jobStatus t 2) [(103, .stopped 121), (103, .running), (103, .signaled 9 false)] s).2.1.get 2) = none ∧
    (waitWhile (fun t => jobStatus t 2) [(103, .stopped 121), (103, .running)] s).1 = none ∧
    (waitBuiltinEv s [(103, .stopped 121), (103, .running), (103, .signaled 9 false)] ["%3".toList]).1.status = 393 := by
  decide +kernel

/-- `sync_effect` is not vacuous: in that history the change of jobs 1 and 2 leaves job 3 untouched, and
    the job that was resumed (102: `Stopped` → `Running`) stops being the current job's rival —
    the invariant's clause "current job is suspended if any is" is re-established by selection -/
example :
    let s := run JobList.empty (extHistory.take 3)
    (updateAll s [(101, .exited 3), (102, .running)]).get 2 = s.get 2 ∧
    ((updateAll s [(101, .exited 3), (102, .running)]).get 0).map (·.state) = some (.exited 3) ∧
    invB (updateAll s [(101, .exited 3), (102, .running)]) = true ∧
    eventApplies s (104, .running) = false ∧ eventApplies s (101, .running) = false := by
  decide +kernel

end YashModel.Job
