/-
  Job IDs (C12): the decimal text of a number, the two name predicates, `find_one`; then the Spec function
  `docDesignates`, the parser `parse_tail` and `JobId::find` in one normal form — the same chain of tests
  (`docDesignates_eq`, `parseTail_eq`) over the same vocabulary (`findO_eq`) — so that comparing the code with the
  documentation (`model_meets_doc`, `DesignatorTheorems.lean`) is comparing two chains.
-/
import YashModel.Job.Slab
namespace YashModel.Job

/-- the largest `usize` -/
def usizeMax : Nat := 18446744073709551615

/-- what an operand resolves to, as an option (ambiguous = no job) -/
def resolved (s : JobList) (op : Str) : Option Nat :=
  match waitResolve s (.jobId op) with
  | .ok r => r
  | .error _ => none

/-- `JobId::find` with the two errors forgotten -/
def JobId.findO (id : JobId) (s : JobList) : Option Nat := match id.find s with | .ok i => some i | .error _ => none

theorem digit_not_special (c : Char) (h : isDigitC c = true) : c ≠ '%' ∧ c ≠ '+' ∧ c ≠ '-' ∧ c ≠ '?' := by
  refine ⟨?_, ?_, ?_, ?_⟩ <;> (intro e; subst e; revert h; decide)

theorem digitsVal_eq_ofDigitChars (l : Str) (init : Nat) :
    l.foldl (fun a c => a * 10 + (c.toNat - 48)) init = Nat.ofDigitChars 10 l init := by
  induction l generalizing init with
  | nil => rfl
  | cons c cs ih =>
    simp only [List.foldl_cons, Nat.ofDigitChars_cons]
    rw [ih, Nat.mul_comm]
    rfl

theorem natStr_eq (n : Nat) : natStr n = Nat.toDigits 10 n := by
  unfold natStr
  rw [Nat.toString_eq_repr, Nat.toList_repr]

theorem digitsVal_natStr (n : Nat) : digitsVal (natStr n) = n := by
  unfold digitsVal
  rw [digitsVal_eq_ofDigitChars, natStr_eq]
  exact Nat.ofDigitChars_ten_toDigits

theorem isDigitC_eq (c : Char) : isDigitC c = c.isDigit := by
  unfold isDigitC Char.isDigit
  simp only [Char.le_def, UInt32.le_iff_toNat_le]

theorem natStr_all_digits (n : Nat) : (natStr n).all isDigitC = true := by
  rw [natStr_eq, List.all_eq_true]
  intro c hc
  rw [isDigitC_eq]
  exact Nat.isDigit_of_mem_toDigits (by decide) (by decide) hc

theorem natStr_ne_nil (n : Nat) : natStr n ≠ [] := by
  rw [natStr_eq]; exact Nat.toDigits_ne_nil

theorem isPrefixOfL_iff (a b : Str) : isPrefixOfL a b = true ↔ ∃ c, b = a ++ c := by
  induction a generalizing b with
  | nil => simp [isPrefixOfL]
  | cons x xs ih =>
    cases b with
    | nil => simp [isPrefixOfL]
    | cons y ys =>
      simp only [isPrefixOfL, Bool.and_eq_true, beq_iff_eq, ih, List.cons_append, List.cons.injEq]
      constructor
      · rintro ⟨e, c, hc⟩; exact ⟨c, e.symm, hc⟩
      · rintro ⟨c, e, hc⟩; exact ⟨e.symm, c, hc⟩

theorem containsL_iff (h n : Str) : containsL h n = true ↔ ∃ x y, h = x ++ n ++ y := by
  induction h with
  | nil =>
    simp only [containsL, List.isEmpty_iff]
    constructor
    · intro e; subst e; exact ⟨[], [], rfl⟩
    · rintro ⟨x, y, e⟩
      have := congrArg List.length e
      simp at this
      exact List.eq_nil_of_length_eq_zero (by omega)
  | cons c t ih =>
    simp only [containsL, Bool.or_eq_true, isPrefixOfL_iff, ih]
    constructor
    · rintro (⟨y, e⟩ | ⟨x, y, e⟩)
      · exact ⟨[], y, by simpa using e⟩
      · exact ⟨c :: x, y, by simp [e]⟩
    · rintro ⟨x, y, e⟩
      cases x with
      | nil => exact Or.inl ⟨y, by simpa using e⟩
      | cons x0 xs =>
        simp only [List.cons_append, List.cons.injEq] at e
        exact Or.inr ⟨xs, y, e.2⟩

theorem findOne_ok_iff (es : Slab) (p : Job → Bool) (i : Nat) :
    findOne es p = .ok i ↔
      (∃ j, gets es i = some j ∧ p j = true) ∧ ∀ k j, gets es k = some j → p j = true → k = i := by
  have hl : findOne es p = .ok i ↔ matchingIdx es p 0 = [i] := by
    unfold findOne
    cases matchingIdx es p 0 with
    | nil => simp
    | cons a t => cases t <;> simp
  have hs : matchingIdx es p 0 = [i] ↔ ∀ x, x ∈ matchingIdx es p 0 ↔ x = i :=
    ⟨fun e x => by rw [e, List.mem_singleton], fun h => sorted_ext _ _ (matchingIdx_sorted es p 0)
      (List.pairwise_singleton _ _) fun x => by rw [h, List.mem_singleton]⟩
  rw [hl, hs]
  simp only [mem_matchingIdx]
  exact ⟨fun h => ⟨(h i).mpr rfl, fun k j hk hp => (h k).mp ⟨j, hk, hp⟩⟩,
    fun ⟨hi, hu⟩ x => ⟨fun ⟨j, hj, hp⟩ => hu x j hj hp, fun e => e ▸ hi⟩⟩

theorem findOne_notFound_iff (es : Slab) (p : Job → Bool) :
    findOne es p = .error .notFound ↔ ∀ k j, gets es k = some j → p j = false := by
  have hl : findOne es p = .error .notFound ↔ matchingIdx es p 0 = [] := by
    unfold findOne
    cases matchingIdx es p 0 with
    | nil => simp
    | cons a t => cases t <;> simp
  rw [hl, List.eq_nil_iff_forall_not_mem]
  simp only [mem_matchingIdx]
  exact ⟨fun h k j hk => Bool.eq_false_iff.mpr fun hp => h k ⟨j, hk, hp⟩,
    fun h k ⟨j, hk, hp⟩ => by rw [h k j hk] at hp; cases hp⟩

theorem findOne_uniqueOf (es : Slab) (q : Job → Bool) :
    (match findOne es q with | .ok i => some i | .error _ => none) = uniqueOf (matchingIdx es q 0) := by
  unfold findOne uniqueOf
  cases matchingIdx es q 0 with
  | nil => rfl
  | cons a t => cases t <;> rfl

theorem uniqueOf_iff (es : Slab) (q : Job → Bool) (i : Nat) :
    uniqueOf (matchingIdx es q 0) = some i ↔
      (∃ j, gets es i = some j ∧ q j = true) ∧ ∀ k j, gets es k = some j → q j = true → k = i := by
  rw [← findOne_ok_iff, ← findOne_uniqueOf]
  cases findOne es q with
  | ok k => simp
  | error e => simp

theorem docDesignates_not_percent (s : JobList) {c0 : Char} (t : Str) (hc0 : c0 ≠ '%') :
    docDesignates s (c0 :: t) = none := by
  unfold docDesignates
  split
  · next e => cases e; exact absurd rfl hc0
  · rfl

theorem docDesignates_eq (s : JobList) (t : Str) :
    docDesignates s ('%' :: t) = some (
      if t = [] ∨ t = ['%'] ∨ t = ['+'] then s.currentJob
      else if t = ['-'] then s.previousJob
      else if t.head? = some '?' then uniqueOf (jobsWhere s (fun n => containsL n t.tail))
      else if t.all isDigitC = true ∧ digitsVal t ≠ 0 then
        (if (s.get (digitsVal t - 1)).isSome then some (digitsVal t - 1) else none)
      else uniqueOf (jobsWhere s (fun n => isPrefixOfL t n))) := by
  unfold docDesignates
  by_cases h1 : t = [] ∨ t = ['%'] ∨ t = ['+']
  · simp only [h1, if_true]
  · by_cases h2 : t = ['-']
    · subst h2; simp
    · simp only [h1, h2, if_false]
      cases t with
      | nil => exact absurd (Or.inl rfl) h1
      | cons c cs =>
        by_cases hq : c = '?'
        · subst hq; simp
        · have : (c :: cs).head? ≠ some '?' := by simpa using hq
          simp only [this, if_false]
          split
          · rename_i e; cases e; exact absurd rfl hq
          · by_cases hd : (c :: cs).all isDigitC = true ∧ digitsVal (c :: cs) ≠ 0
            · rw [if_pos hd, if_pos hd]
            · rw [if_neg hd, if_neg hd]

theorem parseNonZeroUsize_eq (t : Str) (hp : t.head? ≠ some '+') :
    parseNonZeroUsize t =
      if t.all isDigitC = true ∧ digitsVal t ≠ 0 ∧ digitsVal t ≤ usizeMax ∧ t ≠ [] then some (digitsVal t) else none := by
  have hs : stripPlus t = t := by
    unfold stripPlus
    split
    · exact absurd rfl hp
    · rfl
  unfold parseNonZeroUsize usizeMax
  simp only [hs]
  cases t with
  | nil => simp
  | cons c cs =>
    simp only [List.isEmpty_cons, Bool.false_or]
    by_cases hall : (c :: cs).all isDigitC = true
    · by_cases hz : digitsVal (c :: cs) = 0
      · simp [hall, hz]
      · by_cases hgt : 18446744073709551615 < digitsVal (c :: cs)
        · have : ¬ digitsVal (c :: cs) ≤ 18446744073709551615 := by omega
          simp [hall, hz, hgt, this]
        · have : digitsVal (c :: cs) ≤ 18446744073709551615 := by omega
          simp [hall, hz, hgt, this]
    · simp [hall]

/-- `parse_tail` as the same chain of tests as `docDesignates_eq` -/
theorem parseTail_eq (t : Str) :
    parseTail t =
      if t = [] ∨ t = ['%'] ∨ t = ['+'] then .current
      else if t = ['-'] then .previous
      else if t.head? = some '?' then .substring t.tail
      else if t.all isDigitC = true ∧ digitsVal t ≠ 0 ∧ digitsVal t ≤ usizeMax then .number (digitsVal t)
      else .prefix_ t := by
  unfold parseTail
  by_cases h1 : t = [] ∨ t = ['%'] ∨ t = ['+']
  · rw [if_pos h1, if_pos h1]
  · rw [if_neg h1, if_neg h1]
    by_cases h2 : t = ['-']
    · rw [if_pos h2, if_pos h2]
    · rw [if_neg h2, if_neg h2]
      cases t with
      | nil => exact absurd (Or.inl rfl) h1
      | cons c cs =>
        by_cases hq : c = '?'
        · subst hq; rfl
        · have hq' : ¬ (c :: cs).head? = some '?' := by simpa using hq
          rw [if_neg hq']
          by_cases hp : c = '+'
          · subst hp
            have : ¬ (('+' :: cs).all isDigitC = true ∧ digitsVal ('+' :: cs) ≠ 0 ∧ digitsVal ('+' :: cs) ≤ usizeMax) := by
              intro h; have := h.1; simp [isDigitC] at this
            rw [if_neg this]; rfl
          · have hp' : (c :: cs).head? ≠ some '+' := by simpa using hp
            split
            · next e => cases e; exact absurd rfl hq
            · next e => cases e; exact absurd rfl hp
            · rw [parseNonZeroUsize_eq _ hp']
              by_cases hn : (c :: cs).all isDigitC = true ∧ digitsVal (c :: cs) ≠ 0 ∧ digitsVal (c :: cs) ≤ usizeMax
              · rw [if_pos hn, if_pos ⟨hn.1, hn.2.1, hn.2.2, List.cons_ne_nil _ _⟩]
              · rw [if_neg hn, if_neg (fun h => hn ⟨h.1, h.2.1, h.2.2.1⟩)]

theorem killTarget_found (s : JobList) (t : Str) (index : Nat) (job : Job)
    (hf : (parseTail t).find s = .ok index) (hg : gets s.entries index = some job) :
    (job.owned = true → job.jc = true → job.state.isAlive = true →
      killTarget s ('%' :: t) = .ok (true, job.pid)) ∧
    (¬ (job.owned = true ∧ job.jc = true ∧ job.state.isAlive = true) →
      ∃ e, killTarget s ('%' :: t) = .error e ∧ e ≠ "panic") := by
  simp only [killTarget, hf, hg]
  refine ⟨fun ho hc ha => by simp [ho, hc, ha], fun hno => ?_⟩
  by_cases ho : job.owned = true
  · by_cases hc : job.jc = true
    · have ha : job.state.isAlive = false := Bool.eq_false_iff.mpr fun ha => hno ⟨ho, hc, ha⟩
      exact ⟨"finished", by simp [ho, hc, ha], by decide⟩
    · exact ⟨"unmon", by simp [ho, hc], by decide⟩
  · exact ⟨"unowned", by simp [ho], by decide⟩

theorem resolved_eq (s : JobList) (t : Str) : resolved s ('%' :: t) = (parseTail t).findO s := by
  unfold resolved waitResolve JobId.findO
  simp only [parseJobId]
  cases h : (parseTail t).find s with
  | ok i => rfl
  | error e => cases e <;> rfl

/-- `find` in the vocabulary of `docDesignates` -/
theorem findO_eq (id : JobId) (s : JobList) :
    id.findO s =
      match id with
      | .current => s.currentJob
      | .previous => s.previousJob
      | .number n => if (s.get (n - 1)).isSome then some (n - 1) else none
      | .prefix_ p => uniqueOf (jobsWhere s fun n => isPrefixOfL p n)
      | .substring p => uniqueOf (jobsWhere s fun n => containsL n p) := by
  have aux : ∀ (o : Option Job) (n : Nat),
      (match (match o with | some _ => Except.ok n | none => Except.error FindErr.notFound : Except FindErr Nat) with
        | .ok i => some i
        | .error _ => none) = if o.isSome = true then some n else none := by
    intro o n; cases o <;> rfl
  cases id with
  | current => simp only [JobId.findO, JobId.find]; cases s.currentJob <;> rfl
  | previous => simp only [JobId.findO, JobId.find]; cases s.previousJob <;> rfl
  | number n => simp only [JobId.findO, JobId.find, JobList.get]; exact aux _ _
  | prefix_ p => exact findOne_uniqueOf _ _
  | substring p => exact findOne_uniqueOf _ _

end YashModel.Job
