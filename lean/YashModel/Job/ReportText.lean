/-
  The text of a report (C12): no part of a line `Accumulator::add` writes contains a line break unless the job name
  does, so the scanner of the Spec column (`splitLines`, `headOf`) reads back, line by line, the job number and the
  marker that were printed (`headOf_render`); and the table of signal names lies below the real-time range.
-/
import YashModel.Job.Designators
namespace YashModel.Job

theorem sig2str_below_rt :
    ∀ p ∈ Generated.JobTables.sig2strTable, p.1 < Generated.JobTables.SIGRTMIN := by decide +kernel

theorem splitLines_ne_nil (t : List Char) : splitLines t ≠ [] := by
  cases t with
  | nil => simp [splitLines]
  | cons c t =>
    unfold splitLines
    split
    · simp
    · split <;> simp

theorem splitLines_line (l rest : List Char) (h : '\n' ∉ l) :
    splitLines (l ++ '\n' :: rest) = l :: splitLines rest := by
  induction l with
  | nil => show splitLines ('\n' :: rest) = _; rw [splitLines, if_pos rfl]
  | cons c l ih =>
    have hc : c ≠ '\n' := fun e => h (by rw [e]; exact List.mem_cons_self ..)
    have hl : '\n' ∉ l := fun m => h (List.mem_cons_of_mem _ m)
    show splitLines (c :: (l ++ '\n' :: rest)) = _
    rw [splitLines, if_neg hc, ih hl]

theorem natStr_no_nl (n : Nat) : '\n' ∉ natStr n := fun m => by
  have := List.all_eq_true.mp (natStr_all_digits n) _ m
  simp [isDigitC] at this

theorem sig2str_no_nl : ∀ p ∈ Generated.JobTables.sig2strTable, '\n' ∉ p.2.toList := by decide +kernel

theorem sigName_no_nl (n : Nat) : '\n' ∉ sigName n := by
  unfold sigName
  cases hf : Generated.JobTables.sig2strTable.find? (·.1 = n) with
  | some p => exact sig2str_no_nl _ (List.mem_of_find?_eq_some hf)
  | none =>
    dsimp only
    split
    · decide +kernel
    · split
      · decide +kernel
      · split
        · split
          · exact List.not_mem_append (by decide +kernel) (natStr_no_nl _)
          · exact List.not_mem_append (by decide +kernel) (natStr_no_nl _)
        · decide +kernel

theorem stateText_no_nl (st : PState) : '\n' ∉ stateText st := by
  cases st with
  | running => decide +kernel
  | exited n =>
    show '\n' ∉ (if n = 0 then "Done".toList else "Done(".toList ++ natStr n ++ [')'])
    split
    · decide +kernel
    · exact List.not_mem_append (List.not_mem_append (by decide +kernel) (natStr_no_nl n)) (by decide +kernel)
  | stopped sg =>
    show '\n' ∉ "Stopped(SIG".toList ++ sigName sg ++ [')']
    exact List.not_mem_append (List.not_mem_append (by decide +kernel) (sigName_no_nl sg)) (by decide +kernel)
  | signaled sg core =>
    show '\n' ∉ (if core then "Killed(SIG".toList ++ sigName sg ++ ": core dumped)".toList
                  else "Killed(SIG".toList ++ sigName sg ++ [')'])
    split
    · exact List.not_mem_append (List.not_mem_append (by decide +kernel) (sigName_no_nl sg)) (by decide +kernel)
    · exact List.not_mem_append (List.not_mem_append (by decide +kernel) (sigName_no_nl sg)) (by decide +kernel)

theorem replicate_space_no_nl (k : Nat) : '\n' ∉ List.replicate k ' ' := by
  intro m; have := List.eq_of_mem_replicate m; exact absurd this (by decide +kernel)

theorem render_no_nl (r : Report) (h : '\n' ∉ r.name) (hm : r.marker.char ≠ '\n') : '\n' ∉ r.render := by
  unfold Report.render
  refine List.not_mem_append (List.not_mem_append (List.not_mem_append (List.not_mem_append (List.not_mem_append (List.not_mem_append (by decide +kernel) (natStr_no_nl _)) ?_) ?_) ?_) (by decide +kernel)) h
  · intro m
    simp only [List.mem_cons, List.not_mem_nil, or_false] at m
    rcases m with m | m | m | m
    · exact absurd m (by decide +kernel)
    · exact absurd m (by decide +kernel)
    · exact hm m.symm
    · exact absurd m (by decide +kernel)
  · split
    · exact List.not_mem_append (List.not_mem_append (replicate_space_no_nl _) (natStr_no_nl _)) (by decide +kernel)
    · exact List.not_mem_nil
  · exact List.not_mem_append (stateText_no_nl _) (replicate_space_no_nl _)

theorem marker_char_ne_nl (mk : Marker) : mk.char ≠ '\n' := by cases mk <;> decide

theorem headOf_shape (ds : Str) (m : Char) (rest : Str) (hall : ds.all isDigitC = true) :
    headOf ('[' :: (ds ++ ']' :: ' ' :: m :: rest)) = some (digitsVal ds, m) := by
  have hall' : ∀ a ∈ ds, isDigitC a = true := fun a ha => List.all_eq_true.mp hall a ha
  have hb : isDigitC ']' = false := by decide
  simp only [headOf]
  rw [List.dropWhile_append_of_pos hall', List.takeWhile_append_of_pos hall']
  simp [hb]

theorem headOf_render (r : Report) : headOf r.render = some (r.number, r.marker.char) := by
  have hr : ∃ rest, r.render = '[' :: (natStr r.number ++ ']' :: ' ' :: r.marker.char :: rest) := by
    cases hp : r.pid with
    | none => exact ⟨' ' :: (padRight 20 (stateText r.state) ++ ' ' :: r.name), by simp [Report.render, hp]⟩
    | some p =>
      exact ⟨' ' :: (padLeft 5 (natStr p) ++ ' ' :: (padRight 20 (stateText r.state) ++ ' ' :: r.name)),
        by simp [Report.render, hp]⟩
  obtain ⟨rest, hr⟩ := hr
  rw [hr, headOf_shape _ _ _ (natStr_all_digits _), digitsVal_natStr]

end YashModel.Job
