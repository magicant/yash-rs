/-
  The slab of jobs as a list of optional slots: lookup (`gets`), the pid map, the two searches of the code
  (`findIdx`), the index lists (`matchingIdx`, `selS`), the tail of the slab behind a slot, and how
  `current_job()` / `previous_job()` read `cur`, `prev` and the occupancy of the slots.
-/
import YashModel.Job.Model
import YashModel.Job.Spec
namespace YashModel.Job

theorem gets_set (es : Slab) (i k : Nat) (v : Option Job) (hi : i < es.length) :
    gets (es.set i v) k = if k = i then v else gets es k := by
  unfold gets
  simp only [List.getElem?_set]
  by_cases h : k = i
  · subst h; simp [hi]
  · have : ¬ i = k := fun e => h e.symm
    simp [h, this]

theorem gets_set_ge (es : Slab) (i k : Nat) (v : Option Job) (hi : es.length ≤ i) :
    gets (es.set i v) k = gets es k := by
  rw [List.set_eq_of_length_le hi]

theorem gets_some_lt {es : Slab} {i : Nat} {j : Job} (h : gets es i = some j) : i < es.length := by
  unfold gets at h
  cases hh : es[i]? with
  | none => simp [hh] at h
  | some o => exact (List.getElem?_eq_some_iff.mp hh).1

theorem gets_ge (es : Slab) (i : Nat) (h : es.length ≤ i) : gets es i = none := by
  unfold gets; simp [List.getElem?_eq_none h]

theorem gets_append_one (es : Slab) (v : Option Job) (k : Nat) :
    gets (es ++ [v]) k = if k = es.length then v else gets es k := by
  unfold gets
  by_cases h : k < es.length
  · have : k ≠ es.length := by omega
    simp [List.getElem?_append_left h, this]
  · by_cases h2 : k = es.length
    · subst h2; simp
    · have : es.length < k := by omega
      simp [h2, List.getElem?_eq_none (show (es ++ [v]).length ≤ k by simp; omega),
            List.getElem?_eq_none (show es.length ≤ k by omega)]

theorem gets_nil (k : Nat) : gets [] k = none := by simp [gets]

theorem gets_cons_zero (o : Option Job) (t : Slab) : gets (o :: t) 0 = o := by simp [gets]
theorem gets_cons_succ (o : Option Job) (t : Slab) (k : Nat) : gets (o :: t) (k+1) = gets t k := by
  simp [gets]

theorem gets_map (es : Slab) (f : Job → Job) (k : Nat) :
    gets (es.map (fun o => o.map f)) k = (gets es k).map f := by
  unfold gets
  simp only [List.getElem?_map]
  cases es[k]? with
  | none => rfl
  | some o => cases o <;> rfl

theorem lookup_eraseK (m : PidMap) (p q : Nat) :
    lookup (eraseK m p) q = if q = p then none else lookup m q := by
  induction m with
  | nil => simp [eraseK, lookup]
  | cons h t ih =>
    obtain ⟨a, b⟩ := h
    by_cases hap : a = p
    · subst hap
      simp only [eraseK, if_true, ih, lookup]
      by_cases hq : q = a
      · simp [hq]
      · have : ¬ a = q := fun e => hq e.symm
        simp [hq, this]
    · simp only [eraseK, hap, if_false, lookup, ih]
      by_cases haq : a = q
      · subst haq; simp [hap]
      · simp [haq]

theorem lookup_insertKV (m : PidMap) (p i q : Nat) :
    lookup (insertKV m p i) q = if q = p then some i else lookup m q := by
  unfold insertKV
  simp only [lookup, lookup_eraseK]
  by_cases h : q = p
  · subst h; simp
  · have : ¬ p = q := fun e => h e.symm
    simp [h, this]

theorem exists_gets_cons {o : Option Job} {t : Slab} {Q : Option Job → Prop} :
    (∃ i, Q (gets (o :: t) i)) ↔ Q o ∨ ∃ i, Q (gets t i) := by
  constructor
  · rintro ⟨i, h⟩
    cases i with
    | zero => exact Or.inl (by rwa [gets_cons_zero] at h)
    | succ i => exact Or.inr ⟨i, by rwa [gets_cons_succ] at h⟩
  · rintro (h | ⟨i, h⟩)
    · exact ⟨0, by rwa [gets_cons_zero]⟩
    · exact ⟨i + 1, by rwa [gets_cons_succ]⟩

theorem anySuspended_iff (es : Slab) :
    anySuspended es = true ↔ ∃ i j, gets es i = some j ∧ j.isSuspended = true := by
  induction es with
  | nil => simp [anySuspended, gets_nil]
  | cons o t ih =>
    rw [exists_gets_cons (Q := fun o => ∃ j, o = some j ∧ j.isSuspended = true)]
    cases o <;> simp [anySuspended, ih]

theorem slabLen_zero_iff (es : Slab) : slabLen es = 0 ↔ ∀ i, gets es i = none := by
  have neg : ∀ l : Slab, (∀ i, gets l i = none) ↔ ¬ ∃ i, gets l i ≠ none :=
    fun l => ⟨fun h ⟨i, hi⟩ => hi (h i), fun h i => Decidable.byContradiction fun hi => h ⟨i, hi⟩⟩
  induction es with
  | nil => simp [slabLen, gets_nil]
  | cons o t ih =>
    rw [neg (o :: t), exists_gets_cons (Q := fun o => o ≠ none), not_or, ← neg t]
    cases o <;> simp [slabLen, ih]

theorem selS_ge {σ : Type} (f : σ → Nat → Job → Bool × σ) (st : σ) (es : Slab) (i k : Nat)
    (h : k ∈ selS f st es i) : i ≤ k := by
  fun_induction selS f st es i with
  | case1 => cases h
  | case2 _ _ _ ih => have := ih h; omega
  | case3 _ _ _ _ _ ih =>
    rcases List.mem_cons.mp h with rfl | h'
    · exact Nat.le_refl _
    · have := ih h'; omega
  | case4 _ _ _ _ _ ih => have := ih h; omega

theorem mem_selS_pure (p : Nat → Job → Bool) (es : Slab) (off k : Nat) :
    k ∈ selS (fun (_ : Unit) i j => (p i j, ())) () es off ↔
      ∃ i j, k = off + i ∧ gets es i = some j ∧ p k j = true := by
  induction es generalizing off with
  | nil => simp [selS, gets_nil]
  | cons o t ih =>
    -- `exists_gets_cons` with the offset carried along
    have key : (∃ i j, k = off + i ∧ gets (o :: t) i = some j ∧ p k j = true) ↔
        (∃ j, k = off ∧ o = some j ∧ p k j = true) ∨ ∃ i j, k = off + 1 + i ∧ gets t i = some j ∧ p k j = true := by
      constructor
      · rintro ⟨i, j, hk, hg, hp⟩
        cases i with
        | zero => exact Or.inl ⟨j, hk, by rwa [gets_cons_zero] at hg, hp⟩
        | succ i => exact Or.inr ⟨i, j, by omega, by rwa [gets_cons_succ] at hg, hp⟩
      · rintro (⟨j, hk, hg, hp⟩ | ⟨i, j, hk, hg, hp⟩)
        · exact ⟨0, j, hk, by rw [gets_cons_zero]; exact hg, hp⟩
        · exact ⟨i + 1, j, by omega, by rw [gets_cons_succ]; exact hg, hp⟩
    rw [key]
    cases o with
    | none => simp only [selS, ih, reduceCtorEq, false_and, and_false, exists_false, false_or]
    | some j0 =>
      simp only [selS, Option.some.injEq]
      by_cases hp0 : p off j0 = true
      · simp only [hp0, if_true, List.mem_cons, ih]
        exact or_congr ⟨fun e => ⟨j0, e, rfl, e ▸ hp0⟩, fun ⟨_, e, _, _⟩ => e⟩ Iff.rfl
      · simp only [hp0, Bool.false_eq_true, if_false, ih]
        exact ⟨Or.inr, fun h => h.resolve_left fun ⟨j, e, ej, hp⟩ => hp0 (by rw [← e, ej]; exact hp)⟩

theorem selS_pure_sorted (p : Nat → Job → Bool) (es : Slab) (off : Nat) :
    (selS (fun (_ : Unit) i j => (p i j, ())) () es off).Pairwise (· < ·) := by
  fun_induction selS (fun (_ : Unit) i j => (p i j, ())) () es off with
  | case1 => exact List.Pairwise.nil
  | case2 _ _ _ ih | case4 _ _ _ _ _ ih => exact ih
  | case3 _ _ t i _ ih =>
    refine List.pairwise_cons.mpr ⟨fun a ha => ?_, ih⟩
    have := selS_ge _ _ _ _ _ ha
    omega

theorem matchingIdx_eq_selS (es : Slab) (p : Job → Bool) (off : Nat) :
    matchingIdx es p off = selS (fun (_ : Unit) _ j => (p j, ())) () es off := by
  induction es generalizing off with
  | nil => rfl
  | cons o t ih => cases o <;> simp only [matchingIdx, selS, ih]

theorem mem_selS_pure_zero (p : Nat → Job → Bool) (es : Slab) (k : Nat) :
    k ∈ selS (fun (_ : Unit) i j => (p i j, ())) () es 0 ↔ ∃ j, gets es k = some j ∧ p k j = true := by
  rw [mem_selS_pure]
  exact ⟨fun ⟨i, j, e, hg, hp⟩ => ⟨j, by rwa [e, Nat.zero_add], hp⟩, fun ⟨j, hg, hp⟩ => ⟨k, j, (Nat.zero_add k).symm, hg, hp⟩⟩

/-- the two searches of the code return the first slot other than `cur` whose job satisfies `p` -/
theorem findIdx_eq_head (l : Slab) (cur : Nat) (p : Job → Bool) (i : Nat) :
    findIdx l cur p i = (selS (fun (_ : Unit) k j => (decide (k ≠ cur) && p j, ())) () l i).head? := by
  induction l generalizing i with
  | nil => rfl
  | cons o t ih =>
    cases o with
    | none => simp only [findIdx, selS, ih]
    | some j =>
      simp only [findIdx, selS, ih, Bool.and_eq_true, decide_eq_true_eq]
      split <;> rfl

theorem gets_eq_some_iff (es : Slab) (k : Nat) (j : Job) : gets es k = some j ↔ es[k]? = some (some j) := by
  unfold gets
  cases hh : es[k]? with
  | none => simp
  | some o => cases o <;> simp

theorem findIdx_some (l : Slab) (cur : Nat) (p : Job → Bool) (i k : Nat) :
    findIdx l cur p i = some k → ∃ j, l[k - i]? = some (some j) ∧ p j = true ∧ k ≠ cur ∧ i ≤ k := by
  intro h
  rw [findIdx_eq_head] at h
  obtain ⟨n, j, rfl, hj, hp⟩ := (mem_selS_pure _ l i k).mp (List.mem_of_mem_head? (Option.mem_def.mpr h))
  rw [Bool.and_eq_true, decide_eq_true_eq] at hp
  exact ⟨j, by rw [Nat.add_sub_cancel_left]; exact (gets_eq_some_iff ..).mp hj, hp.2, hp.1, Nat.le_add_right ..⟩

theorem findIdx_none (l : Slab) (cur : Nat) (p : Job → Bool) (i : Nat) :
    findIdx l cur p i = none → ∀ k j, l[k]? = some (some j) → p j = true → k + i = cur := by
  intro h k j hk hp
  rw [findIdx_eq_head, List.head?_eq_none_iff] at h
  refine Decidable.byContradiction fun hne => ?_
  have := (mem_selS_pure (fun k j => decide (k ≠ cur) && p j) l i (k + i)).mpr
    ⟨k, j, Nat.add_comm .., (gets_eq_some_iff ..).mpr hk, Bool.and_eq_true_iff.mpr ⟨decide_eq_true hne, hp⟩⟩
  rw [h] at this; cases this

theorem find_some {es : Slab} {cur : Nat} {p : Job → Bool} {k : Nat} (h : findIdx es cur p 0 = some k) :
    ∃ j, gets es k = some j ∧ p j = true ∧ k ≠ cur := by
  obtain ⟨j, h1, h2, h3, _⟩ := findIdx_some _ _ _ _ _ h
  exact ⟨j, (gets_eq_some_iff _ _ _).mpr (by simpa using h1), h2, h3⟩

theorem find_none {es : Slab} {cur : Nat} {p : Job → Bool} (h : findIdx es cur p 0 = none) :
    ∀ k j, gets es k = some j → p j = true → k = cur := by
  intro k j hk hp
  have := findIdx_none _ _ _ _ h k j ((gets_eq_some_iff _ _ _).mp hk) hp
  omega

theorem mem_matchingIdx (es : Slab) (p : Job → Bool) (i : Nat) :
    i ∈ matchingIdx es p 0 ↔ ∃ j, gets es i = some j ∧ p j = true := by
  rw [matchingIdx_eq_selS, mem_selS_pure_zero]

theorem matchingIdx_sorted (es : Slab) (p : Job → Bool) (off : Nat) : (matchingIdx es p off).Pairwise (· < ·) := by
  rw [matchingIdx_eq_selS]; exact selS_pure_sorted _ es off

theorem sorted_ext (l1 l2 : List Nat) (h1 : l1.Pairwise (· < ·)) (h2 : l2.Pairwise (· < ·))
    (h : ∀ k, k ∈ l1 ↔ k ∈ l2) : l1 = l2 :=
  List.Perm.eq_of_pairwise (le := (· < ·)) (fun _ _ _ _ hab hba => absurd hab (Nat.lt_asymm hba)) h1 h2
    ((List.perm_ext_iff_of_nodup (h1.imp Nat.ne_of_lt) (h2.imp Nat.ne_of_lt)).mpr h)

theorem gets_drop (es : Slab) (n k : Nat) : gets (es.drop n) k = gets es (n + k) := by
  simp [gets, List.getElem?_drop]

theorem drop_gets_some {es : Slab} {idx : Nat} {j : Job} (h : gets es idx = some j) :
    es.drop idx = some j :: es.drop (idx + 1) := by
  have hl := gets_some_lt h
  rw [List.drop_eq_getElem_cons hl]
  have : es[idx] = some j := by
    have : es[idx]? = some es[idx] := List.getElem?_eq_getElem hl
    simp [gets, this] at h
    exact h
  rw [this]

theorem drop_gets_none {es : Slab} {idx : Nat} (h : gets es idx = none) :
    es.drop idx = none :: es.drop (idx + 1) ∨ (es.drop idx = [] ∧ es.drop (idx + 1) = []) := by
  by_cases hl : idx < es.length
  · left
    rw [List.drop_eq_getElem_cons hl]
    have : es[idx] = none := by
      have : es[idx]? = some es[idx] := List.getElem?_eq_getElem hl
      cases he : es[idx] with
      | none => rfl
      | some j => simp [gets, this, he] at h
    rw [this]
  · exact Or.inr ⟨List.drop_eq_nil_of_le (by omega), List.drop_eq_nil_of_le (by omega)⟩

theorem slabLen_drop_none (es : Slab) (idx : Nat) (h : gets es idx = none) :
    slabLen (es.drop idx) = slabLen (es.drop (idx + 1)) := by
  rcases drop_gets_none h with e | ⟨e1, e2⟩
  · rw [e]; rfl
  · rw [e1, e2]

theorem slabLen_drop_some (es : Slab) (idx : Nat) (j : Job) (h : gets es idx = some j) :
    slabLen (es.drop idx) = slabLen (es.drop (idx + 1)) + 1 := by
  rw [drop_gets_some h]; rfl

theorem slabLen_drop_zero (es : Slab) (idx : Nat) (h : slabLen (es.drop idx) = 0) (i : Nat) (hi : idx ≤ i) :
    gets es i = none := by
  have := (slabLen_zero_iff _).mp h (i - idx)
  rw [gets_drop] at this
  rwa [show idx + (i - idx) = i by omega] at this

theorem slabLen_zero_drop (es : Slab) (n : Nat) (h : slabLen es = 0) : slabLen (es.drop n) = 0 := by
  rw [slabLen_zero_iff]
  intro i
  rw [gets_drop]
  exact (slabLen_zero_iff _).mp h _

theorem selS_empty {σ : Type} (f : σ → Nat → Job → Bool × σ) (st : σ) (es : Slab) (i : Nat)
    (h : slabLen es = 0) : selS f st es i = [] := by
  fun_induction selS f st es i with
  | case1 => rfl
  | case2 _ _ _ ih => exact ih (by simpa [slabLen] using h)
  | case3 | case4 => simp [slabLen] at h

/-- the statements of C12 speak of `s.get i`, the lemmas of `gets s.entries i` -/
theorem JobList.get_eq (s : JobList) (i : Nat) : s.get i = gets s.entries i := rfl

theorem currentJob_eq_some (s : JobList) (c : Nat) :
    s.currentJob = some c ↔ s.cur = c ∧ ∃ j, gets s.entries c = some j := by
  unfold JobList.currentJob
  constructor
  · intro h
    split at h
    · rename_i hh; cases h
      cases hg : gets s.entries s.cur with
      | none => rw [hg] at hh; cases hh
      | some j => exact ⟨rfl, j, rfl⟩
    · cases h
  · rintro ⟨rfl, j, hj⟩
    simp [hj]

theorem previousJob_eq_some (s : JobList) (p : Nat) :
    s.previousJob = some p ↔ s.prev = p ∧ s.prev ≠ s.cur ∧ ∃ j, gets s.entries p = some j := by
  unfold JobList.previousJob
  constructor
  · intro h
    split at h
    · rename_i hh; cases h
      cases hg : gets s.entries s.prev with
      | none => rw [hg] at hh; simp at hh
      | some j => exact ⟨rfl, hh.1, j, rfl⟩
    · cases h
  · rintro ⟨rfl, hne, j, hj⟩
    simp [hj, hne]

theorem current_ne_previous {s : JobList} {i : Nat} (h : s.currentJob = some i) : s.previousJob ≠ some i := by
  obtain ⟨rfl, _⟩ := (currentJob_eq_some s i).mp h
  exact fun e => ((previousJob_eq_some s _).mp e).2.1 ((previousJob_eq_some s _).mp e).1

theorem selection_congr {s t : JobList} (hc : t.cur = s.cur) (hp : t.prev = s.prev)
    (ho : ∀ k, (gets t.entries k).isSome = (gets s.entries k).isSome) :
    t.currentJob = s.currentJob ∧ t.previousJob = s.previousJob := by
  unfold JobList.currentJob JobList.previousJob
  rw [hc, hp, ho, ho]
  exact ⟨rfl, rfl⟩

theorem isSome_of_map {t s : Option Job} {f : Job → Job} (h : t = s.map f) : t.isSome = s.isSome := by
  subst h; cases s <;> rfl

theorem occupied_all (es : Slab) (f : Nat → Bool) :
    (occupied es).all f = true ↔ ∀ i j, gets es i = some j → f i = true := by
  unfold occupied
  rw [List.all_eq_true]
  constructor
  · intro h i j hj
    exact h i ((mem_matchingIdx _ _ i).mpr ⟨j, hj, rfl⟩)
  · intro h i hi
    obtain ⟨j, hj, _⟩ := (mem_matchingIdx _ _ i).mp hi
    exact h i j hj

end YashModel.Job
