/-
  C05 — the order of the code: Rust compares `String`s bytewise on their UTF-8 encoding
  (`a.value.cmp(&b.value)`).  This file proves that this is the order `pathLe` of the model:
  comparing lists of characters by code point is comparing their UTF-8 encodings
  (`String.utf8EncodeChar`, Lean's own encoder) byte by byte.

  An encoding is a lead byte, which grows with the number `k` of bytes that follow it and within one `k`
  with `v / 64 ^ k`, and then the low `k` base-64 digits of the code point `v`, most significant first:
  at equal width the lexicographic order of digits is the order of numbers.

  At the end, `ExactResult` read clause by clause in this order (`ExactResult.clauses`): the form in which the
  property theorems state what `glob` returns.
-/
import YashModel.Glob.Order
import YashModel.Glob.Notions
namespace YashModel.Glob

theorem utf8Bytes_eq (l : List Char) : (List.utf8Encode l) = (utf8Bytes l).toByteArray := rfl

theorem utf8Bytes_cons (x : Char) (xs : List Char) :
    utf8Bytes (x :: xs) = String.utf8EncodeChar x ++ utf8Bytes xs :=
  List.flatMap_cons

theorem byte_cons_lt (a b : Nat) (r s : List UInt8) (hb : b < 256) (h : a < b) :
    UInt8.ofNat a :: r < UInt8.ofNat b :: s :=
  List.cons_lt_cons_iff.mpr (Or.inl (UInt8.lt_iff_toNat_lt.mpr (by
    rw [UInt8.toNat_ofNat', UInt8.toNat_ofNat', Nat.mod_eq_of_lt hb, Nat.mod_eq_of_lt (Nat.lt_trans h hb)]
    exact h)))

/-- `k` continuation bytes `10xxxxxx`: the low `k` base-64 digits of `v` -/
def contBytes (v : Nat) : Nat → List UInt8
  | 0 => []
  | k + 1 => contBytes (v / 64) k ++ [UInt8.ofNat (v % 64 + 128)]

theorem contBytes_lt (r s : List UInt8) : ∀ k x y, x < y → x / 64 ^ k = y / 64 ^ k →
    contBytes x k ++ r < contBytes y k ++ s
  | 0, x, y, h, e => by
    rw [Nat.pow_zero, Nat.div_one, Nat.div_one] at e
    exact absurd e (Nat.ne_of_lt h)
  | k + 1, x, y, h, e => by
    simp only [contBytes, List.append_assoc]
    by_cases hq : x / 64 = y / 64
    · have hm : x % 64 < y % 64 := by
        rw [← Nat.div_add_mod x 64, ← Nat.div_add_mod y 64, hq] at h
        exact Nat.lt_of_add_lt_add_left h
      rw [hq]
      exact List.append_left_lt (byte_cons_lt _ _ _ _
        (Nat.add_lt_add_right (Nat.lt_trans (Nat.mod_lt y (by decide)) (by decide : 64 < 128)) 128)
        (Nat.add_lt_add_right hm 128))
    · refine contBytes_lt _ _ k _ _ (Nat.lt_of_le_of_ne (Nat.div_le_div_right (Nat.le_of_lt h)) hq) ?_
      rw [Nat.div_div_eq_div_mul, Nat.div_div_eq_div_mul, ← Nat.pow_succ']
      exact e

/-- the tag bits `0xxxxxxx`, `110xxxxx`, `1110xxxx`, `11110xxx` of the lead byte before `k` continuation bytes
    (`utfTag 4` bounds the last) -/
def utfTag : Nat → Nat
  | 0 => 0 | 1 => 192 | 2 => 224 | 3 => 240 | _ => 248

/-- the least code point that needs `k` continuation bytes (`utfLow 4` bounds the code points) -/
def utfLow : Nat → Nat
  | 0 => 0 | 1 => 128 | 2 => 2048 | 3 => 65536 | _ => 1114112

/-- code point `v` is encoded with lead byte `b` and `k` continuation bytes -/
def Utf8Class (v k b : Nat) : Prop :=
  k ≤ 3 ∧ utfLow k ≤ v ∧ v < utfLow (k + 1) ∧ b = v / 64 ^ k + utfTag k

theorem enc_shape (c : Char) : ∃ k b, Utf8Class c.toNat k b ∧
    String.utf8EncodeChar c = UInt8.ofNat b :: contBytes c.toNat k := by
  have hv : c.toNat < 1114112 := by
    rcases c.valid with h | h
    · exact Nat.lt_trans h (by decide)
    · exact h.2
  unfold String.utf8EncodeChar
  simp only [Char.toNat_val]
  by_cases h1 : c.toNat ≤ 127
  · rw [if_pos h1]
    exact ⟨0, _, ⟨by decide, Nat.zero_le _, Nat.lt_succ_of_le h1, rfl⟩, by rw [Nat.pow_zero, Nat.div_one]; rfl⟩
  rw [if_neg h1]
  by_cases h2 : c.toNat ≤ 2047
  · rw [if_pos h2]
    refine ⟨1, _, ⟨by decide, Nat.not_le.mp h1, Nat.lt_succ_of_le h2, rfl⟩, ?_⟩
    rw [Nat.mod_eq_of_lt (Nat.div_lt_of_lt_mul (Nat.lt_succ_of_le h2))]; rfl
  rw [if_neg h2]
  by_cases h3 : c.toNat ≤ 65535
  · rw [if_pos h3]
    refine ⟨2, _, ⟨by decide, Nat.not_le.mp h2, Nat.lt_succ_of_le h3, rfl⟩, ?_⟩
    rw [Nat.mod_eq_of_lt (Nat.div_lt_of_lt_mul (Nat.lt_succ_of_le h3))]; rfl
  · rw [if_neg h3]
    refine ⟨3, _, ⟨by decide, Nat.not_le.mp h3, hv, rfl⟩, ?_⟩
    rw [Nat.mod_eq_of_lt (Nat.div_lt_of_lt_mul (Nat.lt_trans hv (by decide)))]
    simp only [contBytes, Nat.div_div_eq_div_mul]; rfl

theorem lead_lt {v k b : Nat} (h : Utf8Class v k b) : b < utfTag (k + 1) := by
  obtain ⟨hk, _, hv, rfl⟩ := h
  have room : ∀ k, k ≤ 3 → utfLow (k + 1) ≤ 64 ^ k * (utfTag (k + 1) - utfTag k) := by decide
  exact Nat.add_lt_of_lt_sub (Nat.div_lt_of_lt_mul (Nat.lt_of_lt_of_le hv (room k hk)))

theorem lead_cmp {x y j k a b : Nat} (hx : Utf8Class x j a) (hy : Utf8Class y k b) (h : x < y) :
    b < 256 ∧ (a < b ∨ a = b ∧ j = k ∧ x / 64 ^ k = y / 64 ^ k) := by
  have mono : ∀ k, k ≤ 3 → ∀ j, j < k → utfTag (j + 1) ≤ utfTag k ∧ utfLow (j + 1) ≤ utfLow k := by decide
  have top : ∀ k, k ≤ 3 → utfTag (k + 1) ≤ 256 := by decide
  refine ⟨Nat.lt_of_lt_of_le (lead_lt hy) (top k hy.1), ?_⟩
  rcases Nat.lt_trichotomy j k with hjk | rfl | hkj
  · exact .inl (Nat.lt_of_lt_of_le (lead_lt hx)
      (Nat.le_trans (mono k hy.1 j hjk).1 (hy.2.2.2 ▸ Nat.le_add_left _ _)))
  · obtain ⟨_, _, _, rfl⟩ := hx
    obtain ⟨_, _, _, rfl⟩ := hy
    rcases Nat.lt_or_eq_of_le (Nat.div_le_div_right (c := 64 ^ j) (Nat.le_of_lt h)) with hq | hq
    · exact .inl (Nat.add_lt_add_right hq _)
    · exact .inr ⟨by rw [hq], rfl, hq⟩
  · exact absurd (Nat.lt_of_lt_of_le hy.2.2.1 (Nat.le_trans (mono j hx.1 k hkj).2 hx.2.1)) (Nat.lt_asymm h)

/-- a smaller code point has a bytewise smaller encoding, decided inside the two encodings
    (no encoding is a prefix of another), so that whatever follows does not matter -/
theorem enc_lt (x y : Char) (h : x.toNat < y.toNat) (r s : List UInt8) :
    String.utf8EncodeChar x ++ r < String.utf8EncodeChar y ++ s := by
  obtain ⟨j, a, cx, ex⟩ := enc_shape x
  obtain ⟨k, b, cy, ey⟩ := enc_shape y
  rw [ex, ey]
  obtain ⟨hb, hab | ⟨rfl, rfl, hq⟩⟩ := lead_cmp cx cy h
  · exact byte_cons_lt _ _ _ _ hb hab
  · exact List.cons_lt_cons_iff.mpr (.inr ⟨rfl, contBytes_lt r s _ _ _ h hq⟩)

theorem utf8Bytes_lt : ∀ a b : Path, a < b → utf8Bytes a < utf8Bytes b
  | _, [], h => absurd h (List.not_lt_nil _)
  | [], y :: ys, _ => by
    obtain ⟨_, _, _, e⟩ := enc_shape y
    rw [utf8Bytes_cons, e]
    exact List.nil_lt_cons _ _
  | x :: xs, y :: ys, h => by
    rw [utf8Bytes_cons, utf8Bytes_cons]
    rcases List.cons_lt_cons_iff.mp h with h1 | ⟨rfl, h2⟩
    · exact enc_lt x y ((char_lt_iff x y).mp h1) _ _
    · exact List.append_left_lt (utf8Bytes_lt xs ys h2)

theorem utf8Bytes_lt_iff (a b : Path) : a < b ↔ utf8Bytes a < utf8Bytes b := by
  constructor
  · exact utf8Bytes_lt a b
  · intro h
    rcases Std.lt_trichotomy a b with h' | h' | h'
    · exact h'
    · subst h'; exact absurd h (List.lt_irrefl _)
    · exact absurd h (List.lt_asymm (utf8Bytes_lt b a h'))

/-- the clause-by-clause reading of `ExactResult`, in the byte order of the encodings -/
theorem ExactResult.clauses {P C : Path → Prop} {fallback : Path} {noglob : Bool} {out : List Path}
    (h : ExactResult P fallback noglob out) (hC : ∀ p, P p → C p) :
    ((noglob = true ∨ ∀ p, ¬ P p) → out = [fallback]) ∧
    (noglob = false → (∃ p, P p) →
      (∀ p, p ∈ out ↔ P p) ∧ out.Pairwise (fun a b => utf8Bytes a < utf8Bytes b) ∧ ∀ p, p ∈ out → C p) :=
  ⟨h.1, fun hng hne =>
    have ⟨hs, hm⟩ := h.2 hng hne
    ⟨hm, List.Pairwise.imp (fun {a b} h => (utf8Bytes_lt_iff a b).mp ((pathLt_iff a b).mpr h)) hs,
      fun p hp => hC p ((hm p).mp hp)⟩⟩

end YashModel.Glob
