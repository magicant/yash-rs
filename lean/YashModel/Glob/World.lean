/-
  C05 — the world model behind the two oracles: an inode table with mode bits, and the look-up rules of
  `yash-env/src/system/virtual/file_system.rs` (`FileSystem::get`) and `virtual.rs`
  (`resolve_relative_path`, `resolve_existing_file`, `fstatat`, `opendir`) for the owning user.
  Import-free and executable: the driver builds the world from the tree of the case line, derives
  `exist`/`list` from it and compares them with the dumped answers.

  The rules (every virtual process owns every inode, so only the owner bits count):
  * looking a name up in a directory needs the owner's *search* bit (0o100) of that directory —
    no other bit of any class, and nothing of the file that is found;
  * `..` needs a directory (and stays at the root); a trailing `/` or `/.` needs a directory;
    `.` and empty components of an absolute path are dropped;
  * `opendir` needs a directory and a free descriptor; it asks for no read permission;
  * `fstatat(follow)` follows a final symbolic link up to 8 times (`GlobTables.symloopMax`, re-extracted
    from `_POSIX_SYMLOOP_MAX`), relative to the link's directory.
-/
import YashModel.Glob.Model
import YashModel.Glob.Spec
import YashModel.Generated.GlobTables
namespace YashModel.Glob
open YashModel.Generated

inductive NodeKind where
  | file
  | link (target : Path)
  | dir (mode : Nat)
  deriving DecidableEq, Repr

/-- an inode table keyed by the list of names from the root (`[]` is the root directory) -/
structure World where
  entries : List (List Name × NodeKind)
  /-- is there a free file descriptor (otherwise `opendir` fails with EMFILE)? -/
  fdFree : Bool

def World.kindAt (w : World) (key : List Name) : Option NodeKind :=
  (w.entries.find? (fun x => x.1 == key)).map (·.2)

/-- the owner's search permission: the test `FileSystem::get` makes on a directory before it looks a
    name up in it, `permissions.contains(Mode::USER_EXEC)` — mask and kind of test re-extracted from
    /repo on every run (`GlobTables.searchMask` = 0o100, `searchNeedsAll` = `contains`); equal to
    `mode / 64 % 2 == 1` (`ownerSearch_bit`) -/
def ownerSearch (mode : Nat) : Bool :=
  if GlobTables.searchNeedsAll then mode &&& GlobTables.searchMask == GlobTables.searchMask
  else mode &&& GlobTables.searchMask != 0

def World.isDir (w : World) (key : List Name) : Bool :=
  match w.kindAt key with
  | some (NodeKind.dir _) => true
  | _ => false

/-- may a name be looked up in the directory at `key`? -/
def World.searchable (w : World) (key : List Name) : Bool :=
  match w.kindAt key with
  | some (NodeKind.dir mode) => ownerSearch mode
  | _ => false

/-- the raw segments of a path between slashes (`splitSeg cur p`, `cur` = current segment reversed) -/
def splitSeg : List Char → Path → List Name
  | cur, [] => [cur.reverse]
  | cur, c :: cs => if c == '/' then cur.reverse :: splitSeg [] cs else splitSeg (c :: cur) cs

/-- one step of `FileSystem::get` on the key of the current node -/
def World.step (w : World) (key : List Name) (seg : Name) : Option (List Name) :=
  if seg == [] || seg == dot then some key            -- dropped by `Path::components`
  else if seg == dotdot then
    if w.isDir key then some key.dropLast else none   -- `..` can only be looked up in a directory
  else if w.searchable key && (w.kindAt (key ++ [seg])).isSome then some (key ++ [seg])
  else none

def World.walk (w : World) : List Name → List Name → Option (List Name)
  | key, [] => some key
  | key, seg :: segs => match w.step key seg with
    | some k => w.walk k segs
    | none => none

/-- does the absolute path end in `/` or `/.`? -/
def needsDir (p : Path) : Bool :=
  match p.reverse with
  | '/' :: _ => true
  | '.' :: '/' :: _ => true
  | _ => false

/-- `FileSystem::get` of an absolute path: the key of the node found -/
def World.get (w : World) (abs : Path) : Option (List Name) :=
  if w.isDir [] then
    match w.walk [] (splitSeg [] abs) with
    | some key => if needsDir abs && !w.isDir key then none else some key
    | none => none
  else none

/-- `resolve_relative_path` with the working directory `/t` -/
def absPath (p : Path) : Path :=
  if p.head? == some '/' then p else ['/', 't', '/'] ++ p

/-- `new_path.pop(); new_path.push(target)` -/
def retarget (abs : Path) (target : Path) : Path :=
  if target.head? == some '/' then target
  else (abs.reverse.dropWhile (· != '/')).reverse ++ target

/-- `resolve_existing_file(.., follow_symlinks = true)` succeeded -/
def World.follow (w : World) : Nat → Path → Bool
  | 0, _ => false
  | fuel + 1, abs =>
    match w.get abs with
    | none => false
    | some key =>
      match w.kindAt key with
      | some (NodeKind.link target) => w.follow fuel (retarget abs target)
      | _ => true

/-- names of the entries of the directory at `key` -/
def World.children (w : World) (key : List Name) : List Name :=
  w.entries.filterMap fun x =>
    match x.1.getLast? with
    | some n => if x.1.dropLast == key then some n else none
    | none => none

/-- the two oracles of `Model.lean`, derived from the world -/
def fsOfWorld (w : World) : Fs where
  exist p := !p.contains '\x00' && w.follow GlobTables.symloopMax (absPath p)
  list d :=
    if d.contains '\x00' || !w.fdFree then none
    else match w.get (absPath d) with
      | some key => if w.isDir key then some (dot :: dotdot :: w.children key) else none
      | none => none

/-- a plain file name: non-empty, without slash or NUL, and not `.` or `..` -/
def plainName (n : Name) : Bool :=
  validName n && !n.contains '\x00' && n != dot && n != dotdot

def nodupKeys : List (List Name) → Bool
  | [] => true
  | k :: ks => !ks.contains k && nodupKeys ks

/-- The decidable class of worlds for which the two oracles are consistent (`wf_fsOfWorld`,
    Theorems.lean): every key occurs once, every name on every key is plain, there is no symbolic link,
    every directory may be searched by its owner, and the working directory `/t` exists. -/
def goodWorld (w : World) : Bool :=
  nodupKeys (w.entries.map (·.1))
    && w.entries.all (fun x => x.1.all plainName && (match x.2 with
        | NodeKind.link _ => false
        | NodeKind.dir m => ownerSearch m
        | NodeKind.file => true))
    && (fsOfWorld w).exist []

end YashModel.Glob
