/-
  C05 — the order of the results: `pathLe` is Lean's `≤` on `List Char` (code points), `sortPaths` sorts by it
  without loss, a strictly sorted list is determined by its members, the insertion sort of the brute-force
  Specs, and the one shape of result that `glob` and those Specs all produce (`ExactResult`).
-/
import YashModel.Glob.Spec
namespace YashModel.Glob

theorem char_lt_iff (a b : Char) : a < b ↔ a.toNat < b.toNat := by
  rw [Char.lt_def, UInt32.lt_iff_toNat_lt, Char.toNat_val, Char.toNat_val]

/-- ★ the model's comparison `pathLe` (transcribing `a.value.cmp(&b.value)`) is Lean's lexicographic
    `≤` on lists of characters compared by code point -/
theorem pathLe_is_lex (a b : Path) : pathLe a b = true ↔ a ≤ b :=
  match a, b with
  | [], b => ⟨fun _ => List.nil_le b, fun _ => rfl⟩
  | x :: xs, [] => ⟨(fun h => nomatch h), fun h => absurd (List.nil_lt_cons x xs) h⟩
  | x :: xs, y :: ys => by
    rw [pathLe, List.cons_le_cons_iff, char_lt_iff, ← pathLe_is_lex xs ys]
    by_cases h1 : x.toNat < y.toNat
    · rw [if_pos h1]; exact ⟨fun _ => .inl h1, fun _ => rfl⟩
    rw [if_neg h1]
    by_cases h2 : y.toNat < x.toNat
    · rw [if_pos h2]
      exact ⟨(fun h => nomatch h), fun h => h.elim (absurd · h1) fun e => absurd (e.1 ▸ h2) (Nat.lt_irrefl _)⟩
    rw [if_neg h2]
    have e : x = y := Char.toNat_inj.mp (Nat.le_antisymm (Nat.not_lt.mp h2) (Nat.not_lt.mp h1))
    exact ⟨fun h => .inr ⟨e, h⟩, fun h => h.elim (absurd · h1) (·.2)⟩

theorem pathLt_iff (a b : Path) : a < b ↔ (pathLe a b = true ∧ a ≠ b) := by
  rw [pathLe_is_lex, Std.lt_iff_le_and_ne]

theorem pathLe_total (a b : Path) : (pathLe a b || pathLe b a) = true := by
  rw [Bool.or_eq_true, pathLe_is_lex, pathLe_is_lex]
  exact List.le_total a b

theorem pathLe_trans (a b c : Path) : pathLe a b = true → pathLe b c = true → pathLe a c = true := by
  simp only [pathLe_is_lex]
  exact List.le_trans

theorem pathLe_antisymm (a b : Path) : pathLe a b = true → pathLe b a = true → a = b := by
  simp only [pathLe_is_lex]
  exact List.le_antisymm

theorem sortPaths_perm (l : List Path) : (sortPaths l).Perm l :=
  List.mergeSort_perm l pathLe

theorem sortPaths_sorted (l : List Path) : (sortPaths l).Pairwise (fun a b => pathLe a b = true) :=
  List.pairwise_mergeSort pathLe_trans pathLe_total l

theorem mem_sortPaths (l : List Path) (p : Path) : p ∈ sortPaths l ↔ p ∈ l :=
  (sortPaths_perm l).mem_iff

theorem sortPaths_strict (l : List Path) (h : l.Nodup) : StrictSorted (sortPaths l) :=
  List.Pairwise.and (sortPaths_sorted l) ((sortPaths_perm l).nodup_iff.mpr h)

theorem strictSorted_ext (l₁ l₂ : List Path) (h₁ : StrictSorted l₁) (h₂ : StrictSorted l₂)
    (h : ∀ p, p ∈ l₁ ↔ p ∈ l₂) : l₁ = l₂ :=
  ((List.perm_ext_iff_of_nodup (h₁.imp And.right) (h₂.imp And.right)).mpr h).eq_of_pairwise
    (le := fun a b => pathLe a b = true) (fun a b _ _ => pathLe_antisymm a b)
    (h₁.imp And.left) (h₂.imp And.left)

/-- what `SpecResult`, `EntryResult` and `InodeResult` unfold to -/
def ExactResult (P : Path → Prop) (fallback : Path) (noglob : Bool) (out : List Path) : Prop :=
  (noglob = true ∨ (∀ p, ¬ P p) → out = [fallback]) ∧
  (noglob = false → (∃ p, P p) → StrictSorted out ∧ ∀ p, p ∈ out ↔ P p)

theorem ExactResult.unique {P : Path → Prop} {fallback : Path} {noglob : Bool} {o₁ o₂ : List Path}
    (h₁ : ExactResult P fallback noglob o₁) (h₂ : ExactResult P fallback noglob o₂) : o₁ = o₂ := by
  by_cases h : noglob = true ∨ ∀ p, ¬ P p
  · rw [h₁.1 h, h₂.1 h]
  · have hng : noglob = false := by
      cases noglob with
      | true => exact absurd (Or.inl rfl) h
      | false => rfl
    have hne : ∃ p, P p := Classical.byContradiction fun hc => h (Or.inr fun p hp => hc ⟨p, hp⟩)
    obtain ⟨s₁, m₁⟩ := h₁.2 hng hne
    obtain ⟨s₂, m₂⟩ := h₂.2 hng hne
    exact strictSorted_ext o₁ o₂ s₁ s₂ fun p => (m₁ p).trans (m₂ p).symm

/-- what `glob`, `specGlobU` and `specGlobE` all compute -/
theorem exactResult_of_found {P : Path → Prop} {found sorted : List Path} (fallback : Path) (noglob : Bool)
    (hmem : ∀ p, p ∈ found ↔ P p) (hs : StrictSorted sorted) (hsm : ∀ p, p ∈ sorted ↔ p ∈ found) :
    ExactResult P fallback noglob (if noglob || found.isEmpty then [fallback] else sorted) := by
  constructor
  · intro h
    rw [if_pos]
    rcases h with h | h
    · rw [h]; rfl
    · rw [List.eq_nil_iff_forall_not_mem.mpr fun p hp => h p ((hmem p).mp hp)]
      exact Bool.or_true _
  · rintro rfl ⟨q, hq⟩
    have : found.isEmpty = false := by
      cases found with
      | nil => exact absurd ((hmem q).mpr hq) List.not_mem_nil
      | cons _ _ => rfl
    simp only [this, Bool.or_self, Bool.false_eq_true, if_false]
    exact ⟨hs, fun p => (hsm p).trans (hmem p)⟩

theorem mem_insertSorted (p x : Path) (l : List Path) : x ∈ insertSorted p l ↔ x = p ∨ x ∈ l := by
  induction l with
  | nil => simp [insertSorted]
  | cons q qs ih =>
    simp only [insertSorted]
    by_cases h1 : p = q
    · subst h1
      simp
    · by_cases h2 : p < q
      · simp [h1, h2]
      · simp only [h1, h2, if_false, List.mem_cons, ih]
        exact or_left_comm

theorem insertSorted_strict (p : Path) (l : List Path) (h : StrictSorted l) :
    StrictSorted (insertSorted p l) := by
  induction l with
  | nil => simp [insertSorted, StrictSorted]
  | cons q qs ih =>
    unfold StrictSorted at h ⊢
    rw [List.pairwise_cons] at h
    simp only [insertSorted]
    by_cases h1 : p = q
    · simp only [h1, if_true]
      exact List.pairwise_cons.mpr h
    · by_cases h2 : p < q
      · simp only [h1, h2, if_false, if_true]
        have hpq := (pathLt_iff p q).mp h2
        refine List.pairwise_cons.mpr ⟨?_, List.pairwise_cons.mpr h⟩
        intro y hy
        rw [List.mem_cons] at hy
        rcases hy with e | hy
        · subst e; exact hpq
        · exact (pathLt_iff p y).mp (List.lt_trans h2 ((pathLt_iff q y).mpr (h.1 y hy)))
      · simp only [h1, h2, if_false]
        refine List.pairwise_cons.mpr ⟨?_, ih h.2⟩
        intro y hy
        rw [mem_insertSorted] at hy
        rcases hy with e | hy
        · subst e; exact (pathLt_iff q y).mp (((Std.lt_trichotomy y q).resolve_left h2).resolve_left h1)
        · exact h.1 y hy

theorem mem_sortDedup (l : List Path) (x : Path) : x ∈ sortDedup l ↔ x ∈ l := by
  induction l with
  | nil => simp [sortDedup]
  | cons p ps ih =>
    have : sortDedup (p :: ps) = insertSorted p (sortDedup ps) := rfl
    rw [this, mem_insertSorted, ih, List.mem_cons]

theorem sortDedup_strict (l : List Path) : StrictSorted (sortDedup l) := by
  induction l with
  | nil => simp [sortDedup, StrictSorted]
  | cons p ps ih =>
    have : sortDedup (p :: ps) = insertSorted p (sortDedup ps) := rfl
    rw [this]
    exact insertSorted_strict p _ ih

end YashModel.Glob
