/-
  C05 — what `searchDir` finds.  Each step goes on with a list of names (`stepNames`), so the search has two
  equations (`searchDir_last`, `searchDir_cons`) and nothing after them unfolds `searchStep`.  Its results are
  the pathnames spelt by chains of such names, one per component (`Chain`, `mem_searchDir_chain`).  The member
  predicates of the Spec files are chains too (`chain_of_eqns`), and what is known of one step lifts to them.
  From the two equations also: no pathname is found twice when no listing has duplicates (`searchDir_nodup`), the
  search asks a matcher only about listed names and needs no listing when no component is a pattern
  (`searchDir_congr`), and on a field of literal components it is one existence test (`searchDir_allLiteral`).
-/
import YashModel.Glob.Order
import YashModel.Glob.Notions
import YashModel.Glob.Paths
import YashModel.Glob.Quoted
namespace YashModel.Glob

/-- what every description of the name `n` standing for the component `c` has in common (`stepOK`, `fits`,
    `nameClauses`, `compMatches`): a component that is not a pattern stands for its own text, and only of a
    pattern component is anything asked (`Q`) -/
def byKind (m : Matcher) (c : List AttrChar) (n : Name) (Q : Prop) : Prop :=
  match m.kind (toPattern c) with
  | Kind.invalid => n = removeQuotes c
  | Kind.literal s => n = s
  | Kind.pattern => Q

theorem byKind.imp {m : Matcher} {c : List AttrChar} {n : Name} {Q Q' : Prop}
    (hQ : m.kind (toPattern c) = Kind.pattern → Q → Q') (h : byKind m c n Q) : byKind m c n Q' := by
  unfold byKind at *
  cases hk : m.kind (toPattern c) with
  | invalid => rw [hk] at h; exact h
  | literal s => rw [hk] at h; exact h
  | pattern => rw [hk] at h; exact hQ hk h

theorem byKind.of_wild {m : Matcher} {c : List AttrChar} {n : Name} {Q : Prop} (hw : isWild m c = true)
    (h : byKind m c n Q) : Q := by
  unfold isWild at hw
  unfold byKind at h
  cases hk : m.kind (toPattern c) with
  | invalid => rw [hk] at hw; cases hw
  | literal s => rw [hk] at hw; cases hw
  | pattern => rw [hk] at h; exact h

theorem compMatches_iff (m : Matcher) (c : List AttrChar) (n : Name) :
    compMatches m c n = true ↔
      byKind m c n (validName n = true ∧ n ≠ dot ∧ n ≠ dotdot ∧ m.isMatch (toPattern c) n = true) := by
  unfold compMatches byKind
  cases m.kind (toPattern c) with
  | invalid => exact beq_iff_eq
  | literal s => exact beq_iff_eq
  | pattern => simp only [Bool.and_eq_true, bne_iff_ne, ne_eq, and_assoc]

/-- what `search_dir` demands of the name it appends for the component `c` below `pre` -/
def stepOK (m : Matcher) (fs : Fs) (pre : Path) (c : List AttrChar) (n : Name) : Prop :=
  byKind m c n (∃ ns, fs.list (dirPath pre) = some ns ∧ n ∈ ns ∧ n ≠ dot ∧ n ≠ dotdot
      ∧ m.isMatch (toPattern c) n = true)

theorem stepOK_fits (m : Matcher) (fs : Fs) (pre : Path) (c : List AttrChar) (n : Name)
    (h : stepOK m fs pre c n) : fits m c n :=
  byKind.imp (fun _ ⟨_, _, _, h1, h2, h3⟩ => ⟨h1, h2, h3⟩) h

theorem estep_iff (m : Matcher) (fs : Fs) (pre : Path) (c : List AttrChar) (n : Name) :
    estep m fs pre c n = true ↔ stepOK m fs pre c n := by
  simp only [estep, stepOK, byKind]
  cases hk : m.kind (toPattern c) with
  | invalid => simp
  | literal s => simp
  | pattern =>
    cases hl : fs.list (dirPath pre) with
    | none => simp
    | some ns =>
      simp only [Bool.and_eq_true, bne_iff_ne, ne_eq, List.contains_eq_mem, decide_eq_true_eq,
        Option.some.injEq]
      constructor
      · rintro ⟨⟨⟨h1, h2⟩, h3⟩, h4⟩
        exact ⟨ns, rfl, h1, h2, h3, h4⟩
      · rintro ⟨ns', e, h1, h2, h3, h4⟩
        subst e
        exact ⟨⟨⟨h1, h2⟩, h3⟩, h4⟩

section
variable (m : Matcher) (fs : Fs)

/-- the names `search_dir` goes on with for the component `c` below `pre` -/
def stepNames (pre : Path) (c : List AttrChar) : List Name :=
  match m.kind (toPattern c) with
  | Kind.invalid => [removeQuotes c]
  | Kind.literal s => [s]
  | Kind.pattern =>
    match fs.list (dirPath pre) with
    | none => []
    | some ns => ns.filter (fun n => n != dot && n != dotdot && m.isMatch (toPattern c) n)

theorem searchStep_eq (c : List AttrChar) (next : Option (Path → List Path)) (pre : Path) :
    searchStep m fs c next pre = (stepNames m fs pre c).flatMap (pushComponent fs next pre (isWild m c)) := by
  unfold searchStep stepNames isWild
  simp only []
  cases m.kind (toPattern c) with
  | invalid => exact (List.flatMap_singleton _ _).symm
  | literal s => exact (List.flatMap_singleton _ _).symm
  | pattern => cases fs.list (dirPath pre) <;> rfl

theorem searchDir_last (c : List AttrChar) (pre : Path) :
    searchDir m fs c [] pre = (stepNames m fs pre c).flatMap
      (fun n => if isWild m c || fs.exist (pre ++ n) then [pre ++ n] else []) := by
  rw [searchDir, searchStep_eq]; rfl

theorem searchDir_cons (c c' : List AttrChar) (cs : List (List AttrChar)) (pre : Path) :
    searchDir m fs c (c' :: cs) pre = (stepNames m fs pre c).flatMap
      (fun n => searchDir m fs c' cs (pre ++ n ++ ['/'])) := by
  rw [searchDir, searchStep_eq]; rfl

theorem mem_stepNames (pre : Path) (c : List AttrChar) (n : Name) :
    n ∈ stepNames m fs pre c ↔ stepOK m fs pre c n := by
  unfold stepNames stepOK byKind
  cases m.kind (toPattern c) with
  | invalid => exact List.mem_singleton
  | literal s => exact List.mem_singleton
  | pattern =>
    cases fs.list (dirPath pre) with
    | none => simp
    | some ns => simp [and_assoc]

theorem mem_ite_singleton {b : Bool} {x p : Path} : p ∈ (if b then [x] else []) ↔ b = true ∧ p = x := by
  cases b
  · exact ⟨nofun, fun h => nomatch h.1⟩
  · exact List.mem_singleton.trans (and_iff_right rfl).symm

end

/-- `R` of every (prefix, component, name), and `L` of the last one as well: the shape of `witness`,
    `ewitness`, `inodeWitness`, `namesFit`, `namesClauses`, `posixNamesClauses` -/
inductive Chain (R L : Path → List AttrChar → Name → Prop) :
    Path → List AttrChar → List (List AttrChar) → List Name → Prop
  | one {pre c n} : R pre c n → L pre c n → Chain R L pre c [] [n]
  | more {pre c c' cs n ns} :
    R pre c n → Chain R L (pre ++ n ++ ['/']) c' cs ns → Chain R L pre c (c' :: cs) (n :: ns)

section
variable {R L R' L' : Path → List AttrChar → Name → Prop} {cs : List (List AttrChar)} {c : List AttrChar}
  {pre : Path} {names : List Name}

theorem chain_ne (h : Chain R L pre c cs names) : names ≠ [] := by
  cases h <;> exact List.cons_ne_nil _ _

theorem Chain.one_iff {n : Name} : Chain R L pre c [] [n] ↔ R pre c n ∧ L pre c n :=
  ⟨fun h => by cases h with | one hr hl => exact ⟨hr, hl⟩, fun h => .one h.1 h.2⟩

theorem Chain.more_iff {c' : List AttrChar} {n : Name} {ns : List Name} :
    Chain R L pre c (c' :: cs) (n :: ns) ↔ R pre c n ∧ Chain R L (pre ++ n ++ ['/']) c' cs ns :=
  ⟨fun h => by cases h with | more hr h => exact ⟨hr, h⟩, fun h => .more h.1 h.2⟩

/-- a predicate with the recursion equations of a chain is that chain -/
theorem chain_of_eqns (W : Path → List AttrChar → List (List AttrChar) → List Name → Prop)
    (last : ∀ pre c n, W pre c [] [n] ↔ R pre c n ∧ L pre c n)
    (cons : ∀ pre c c' cs n ns, W pre c (c' :: cs) (n :: ns) ↔ R pre c n ∧ W (pre ++ n ++ ['/']) c' cs ns)
    (none : ∀ pre c cs, ¬ W pre c cs []) (many : ∀ pre c n n' ns, ¬ W pre c [] (n :: n' :: ns))
    (cs : List (List AttrChar)) : ∀ c pre names, W pre c cs names ↔ Chain R L pre c cs names := by
  induction cs with
  | nil =>
    intro c pre names
    match names with
    | [] => exact ⟨fun h => absurd h (none pre c []), fun h => absurd rfl (chain_ne h)⟩
    | [n] => exact (last pre c n).trans Chain.one_iff.symm
    | n :: n' :: ns => exact ⟨fun h => absurd h (many pre c n n' ns), fun h => by cases h⟩
  | cons c' cs ih =>
    intro c pre names
    match names with
    | [] => exact ⟨fun h => absurd h (none pre c _), fun h => absurd rfl (chain_ne h)⟩
    | n :: ns =>
      exact ((cons pre c c' cs n ns).trans (and_congr_right fun _ => ih c' _ ns)).trans Chain.more_iff.symm

/-- step by step, along the prefixes the search builds -/
theorem Chain.imp (hR : ∀ pre c n, PrefixOK pre → R pre c n → R' pre c n)
    (hL : ∀ pre c n, PrefixOK pre → R pre c n → L pre c n → L' pre c n)
    (h : Chain R L pre c cs names) (hp : PrefixOK pre) : Chain R' L' pre c cs names := by
  induction h with
  | one hr hl => exact .one (hR _ _ _ hp hr) (hL _ _ _ hp hr hl)
  | more hr _ ih => exact .more (hR _ _ _ hp hr) (ih (prefixOK_push _ _))

theorem Chain.last (h : Chain R L pre c cs names) :
    ∃ q n, pre ++ joinPath names = q ++ n ∧ L q ((cs.getLast?).getD c) n := by
  induction h with
  | one _ hl => exact ⟨_, _, rfl, hl⟩
  | @more pre c c' cs n ns _ h ih =>
    rw [List.getLast?_cons, Option.getD_some, joinPath_cons n ns (chain_ne h), ← path_assoc]
    exact ih

end

section
variable (m : Matcher) (fs : Fs)

/-- what the search asks of the last name besides `stepOK` -/
def lastOK (pre : Path) (c : List AttrChar) (n : Name) : Prop :=
  isWild m c = true ∨ fs.exist (pre ++ n) = true

theorem mem_searchDir_chain (cs : List (List AttrChar)) : ∀ (c : List AttrChar) (pre p : Path),
    p ∈ searchDir m fs c cs pre ↔
      ∃ names, Chain (stepOK m fs) (lastOK m fs) pre c cs names ∧ p = pre ++ joinPath names := by
  induction cs with
  | nil =>
    intro c pre p
    rw [searchDir_last, List.mem_flatMap]
    constructor
    · rintro ⟨n, hs, hp⟩
      have := mem_ite_singleton.mp hp
      exact ⟨[n], .one ((mem_stepNames m fs pre c n).mp hs) (Bool.or_eq_true_iff.mp this.1), this.2⟩
    · rintro ⟨_, ⟨hr, hl⟩, hp⟩
      exact ⟨_, (mem_stepNames m fs pre c _).mpr hr, mem_ite_singleton.mpr ⟨Bool.or_eq_true_iff.mpr hl, hp⟩⟩
  | cons c' cs ih =>
    intro c pre p
    rw [searchDir_cons, List.mem_flatMap]
    constructor
    · rintro ⟨n, hs, hp⟩
      obtain ⟨names, hw, hp⟩ := (ih c' _ p).mp hp
      exact ⟨n :: names, .more ((mem_stepNames m fs pre c n).mp hs) hw,
        by rw [hp, joinPath_cons n names (chain_ne hw), path_assoc]⟩
    · rintro ⟨_, hw, hp⟩
      cases hw with
      | @more _ _ _ _ n ns hr hw =>
        exact ⟨n, (mem_stepNames m fs pre c n).mpr hr, (ih c' _ p).mpr
          ⟨ns, hw, by rw [hp, joinPath_cons n ns (chain_ne hw), path_assoc]⟩⟩

theorem ewitness_iff_chain : ∀ cs c pre names,
    ewitness m fs pre c cs names = true ↔ Chain (stepOK m fs) (lastOK m fs) pre c cs names :=
  chain_of_eqns (fun pre c cs names => ewitness m fs pre c cs names = true)
    (fun pre c n => by simp only [ewitness, Bool.and_eq_true, Bool.or_eq_true, estep_iff, lastOK])
    (fun pre c c' cs n ns => by simp only [ewitness, Bool.and_eq_true, estep_iff])
    (fun pre c cs => by cases cs <;> exact Bool.false_ne_true) (fun _ _ _ _ _ => Bool.false_ne_true)

theorem namesFit_iff_chain (pre : Path) (cs : List (List AttrChar)) (c : List AttrChar) (names : List Name) :
    namesFit m c cs names ↔ Chain (fun _ => fits m) (fun _ _ _ => True) pre c cs names :=
  chain_of_eqns (fun _ => namesFit m) (fun _ _ _ => (and_iff_left trivial).symm) (fun _ _ _ _ _ _ => Iff.rfl)
    (fun _ c cs => by cases cs <;> exact id) (fun _ _ _ _ _ => id) cs c pre names

end

section
variable (m : Matcher) (fs : Fs) (field : List AttrChar)

/-- ★ with no hypothesis whatever on the oracles: the search finds exactly the entry-based members -/
theorem search_finds_exactly_entries (p : Path) :
    p ∈ searchField m fs field ↔ EntryMember m fs field p := by
  unfold searchField EntryMember
  simp only [mem_searchDir_chain, ewitness_iff_chain, List.nil_append]

end

section
variable (m : Matcher) (fs : Fs)

theorem stepNames_pairwise (hL : ListingsOK fs) (pre : Path) (hpre : PrefixOK pre) (c : List AttrChar) :
    (stepNames m fs pre c).Pairwise (fun a b => a ≠ b ∧ '/' ∉ a ∧ '/' ∉ b) := by
  unfold stepNames
  cases m.kind (toPattern c) with
  | invalid => exact List.pairwise_singleton _ _
  | literal s => exact List.pairwise_singleton _ _
  | pattern =>
    cases hl : fs.list (dirPath pre) with
    | none => exact List.Pairwise.nil
    | some ns =>
      have hls := hL pre ns hpre hl
      have hv : ∀ {p : Name → Bool} n, n ∈ ns.filter p → '/' ∉ n := fun n hn =>
        validName_noslash n (hls.2 n (List.mem_filter.mp hn).1)
      exact (List.Pairwise.filter _ hls.1).imp_of_mem fun ha hb h => ⟨h, hv _ ha, hv _ hb⟩

theorem searchDir_nodup (hL : ListingsOK fs) (cs : List (List AttrChar)) :
    ∀ (c : List AttrChar) (pre : Path), PrefixOK pre → (searchDir m fs c cs pre).Nodup := by
  induction cs with
  | nil =>
    intro c pre hpre
    rw [searchDir_last]
    unfold List.Nodup
    rw [List.pairwise_flatMap]
    refine ⟨fun n _ => ?_, (stepNames_pairwise m fs hL pre hpre c).imp fun {a b} h x hx y hy e => ?_⟩
    · cases (isWild m c || fs.exist (pre ++ n)) <;> simp
    · exact h.1 (List.append_cancel_left
        ((mem_ite_singleton.mp hx).2.symm.trans (e.trans (mem_ite_singleton.mp hy).2)))
  | cons c' cs ih =>
    intro c pre hpre
    rw [searchDir_cons]
    unfold List.Nodup
    rw [List.pairwise_flatMap]
    refine ⟨fun n _ => ih c' _ (prefixOK_push pre n),
      (stepNames_pairwise m fs hL pre hpre c).imp fun {a b} h x hx y hy e => ?_⟩
    -- both come from below `pre ++ a ++ "/"` resp. `pre ++ b ++ "/"`, and neither name has a slash
    obtain ⟨na, _, ea⟩ := (mem_searchDir_chain m fs cs c' _ x).mp hx
    obtain ⟨nb, _, eb⟩ := (mem_searchDir_chain m fs cs c' _ y).mp hy
    rw [path_assoc] at ea eb
    exact h.1 (append_slash_inj a b _ _ h.2.1 h.2.2 (List.append_cancel_left (ea.symm.trans (e.trans eb))))

theorem searchField_nodup (hL : ListingsOK fs) (field : List AttrChar) : (searchField m fs field).Nodup :=
  searchDir_nodup m fs hL _ _ [] prefixOK_nil

end

theorem glob_eq (m : Matcher) (fs : Fs) (noglob : Bool) (field : List AttrChar) :
    glob m fs noglob field = if noglob || (searchField m fs field).isEmpty then [removeQuotes field]
      else sortPaths (searchField m fs field) := by
  cases noglob <;> rfl

section
variable (m : Matcher) (fs : Fs) (field : List AttrChar)

theorem glob_on_eq :
    glob m fs false field =
      if (searchField m fs field) = [] then [removeQuotes field] else sortPaths (searchField m fs field) := by
  rw [glob_eq]
  simp only [Bool.false_or, List.isEmpty_iff]

end

theorem glob_exact (m : Matcher) (fs : Fs) (field : List AttrChar) {P : Path → Prop}
    (hmem : ∀ p, p ∈ searchField m fs field ↔ P p) (hnd : (searchField m fs field).Nodup) (noglob : Bool) :
    ExactResult P (removeQuotes field) noglob (glob m fs noglob field) := by
  rw [glob_eq]
  exact exactResult_of_found _ _ hmem (sortPaths_strict _ hnd) (mem_sortPaths _)

/-- how the examples read a result off an evaluated search -/
theorem glob_of_sorted_search (m : Matcher) (fs : Fs) (field : List AttrChar) {l : List Path}
    (h : searchField m fs field = l) (hl : l ≠ []) (hs : StrictSorted l) : glob m fs false field = l := by
  rw [glob_on_eq, h, if_neg hl]
  exact strictSorted_ext _ _ (sortPaths_strict l (hs.imp And.right)) hs (mem_sortPaths l)

theorem glob_congr {m m' : Matcher} {fs fs' : Fs} {field : List AttrChar}
    (h : searchField m fs field = searchField m' fs' field) (noglob : Bool) :
    glob m fs noglob field = glob m' fs' noglob field := by
  simp only [glob, h]

theorem searchDir_congr (m m' : Matcher) (fs fs' : Fs) (he : ∀ p, fs.exist p = fs'.exist p)
    (cs : List (List AttrChar)) : ∀ (c : List AttrChar),
      (∀ x, x ∈ c :: cs → isWild m x = isWild m' x ∧ ∀ pre, stepNames m fs pre x = stepNames m' fs' pre x) →
      ∀ pre, searchDir m fs c cs pre = searchDir m' fs' c cs pre := by
  induction cs with
  | nil =>
    intro c h pre
    obtain ⟨hw, hn⟩ := h c List.mem_cons_self
    rw [searchDir_last, searchDir_last, hn, hw]
    simp only [he]
  | cons c' cs ih =>
    intro c h pre
    rw [searchDir_cons, searchDir_cons, (h c List.mem_cons_self).2]
    exact congrArg (List.flatMap · _)
      (funext fun n => ih c' (fun x hx => h x (List.mem_cons_of_mem _ hx)) _)

theorem stepNames_congr (m m' : Matcher) (fs : Fs) (c : List AttrChar) (pre : Path)
    (hk : m.kind (toPattern c) = m'.kind (toPattern c))
    (hm : m'.kind (toPattern c) = Kind.pattern →
      ∀ d ns, fs.list d = some ns → ∀ n, n ∈ ns → m.isMatch (toPattern c) n = m'.isMatch (toPattern c) n) :
    stepNames m fs pre c = stepNames m' fs pre c := by
  unfold stepNames
  rw [hk]
  cases hkd : m'.kind (toPattern c) with
  | invalid => rfl
  | literal s => rfl
  | pattern =>
    cases hl : fs.list (dirPath pre) with
    | none => rfl
    | some ns => exact List.filter_congr fun n hn => by rw [hm hkd _ _ hl n hn]

section
variable (fs : Fs) (field : List AttrChar)

/-- ★ `glob` consults a matcher only about the field's component patterns and the names the file system
    lists: two matchers that agree there give the same expansion (this is what makes the driver's
    memoised table, and the comparison with the table of real answers, meaningful) -/
theorem glob_matcher_locality (m m' : Matcher) (noglob : Bool)
    (h : MatcherAgree m m' fs ((splitComponents field).1 :: (splitComponents field).2)) :
    glob m fs noglob field = glob m' fs noglob field :=
  glob_congr (searchDir_congr m m' fs fs (fun _ => rfl) _ _ (fun x hx =>
    ⟨by rw [isWild, isWild, (h x hx).1], fun pre => stepNames_congr m m' fs x pre (h x hx).1 (h x hx).2⟩) [])
    noglob

end

theorem flatMap_congr_mem {α β : Type} {l : List α} {f g : α → List β} (h : ∀ x, x ∈ l → f x = g x) :
    l.flatMap f = l.flatMap g := by
  rw [List.flatMap_def, List.flatMap_def, List.map_congr_left h]

theorem expandFields_congr (m m' : Matcher) (fs : Fs) (noglob : Bool) (mode : Mode)
    (fields : List (List AttrChar))
    (h : ∀ f, f ∈ fields → MatcherAgree m m' fs ((splitComponents f).1 :: (splitComponents f).2)) :
    expandFields m fs noglob mode fields = expandFields m' fs noglob mode fields := by
  cases mode with
  | single => rfl
  | multiple => exact flatMap_congr_mem fun f hf => glob_matcher_locality fs f m m' noglob (h f hf)

theorem stepNames_noWild (m : Matcher) (fs fs' : Fs) (pre : Path) (c : List AttrChar) (h : isWild m c = false) :
    stepNames m fs pre c = stepNames m fs' pre c := by
  unfold stepNames
  unfold isWild at h
  cases hk : m.kind (toPattern c) with
  | invalid => rfl
  | literal s => rfl
  | pattern => rw [hk] at h; cases h

def AllLiteral (m : Matcher) (c : List AttrChar) (cs : List (List AttrChar)) : Prop :=
  ∀ x, x ∈ c :: cs → m.kind (toPattern x) = Kind.literal (removeQuotes x)

theorem searchDir_allLiteral (m : Matcher) (fs : Fs) (cs : List (List AttrChar)) :
    ∀ (c : List AttrChar) (pre : Path), AllLiteral m c cs →
      searchDir m fs c cs pre =
        if fs.exist (pre ++ joinPath ((c :: cs).map removeQuotes)) then
          [pre ++ joinPath ((c :: cs).map removeQuotes)] else [] := by
  induction cs with
  | nil =>
    intro c pre h
    rw [searchDir_last, stepNames, isWild, h c List.mem_cons_self, List.flatMap_singleton]; rfl
  | cons c' cs ih =>
    intro c pre h
    rw [searchDir_cons, stepNames, h c List.mem_cons_self, List.flatMap_singleton,
      ih c' _ (fun x hx => h x (List.mem_cons_of_mem _ hx))]
    simp only [List.map_cons, joinPath, path_assoc]

theorem searchField_allLiteral (m : Matcher) (fs : Fs) (field : List AttrChar)
    (hall : AllLiteral m (splitComponents field).1 (splitComponents field).2) (hs : SlashNotQuoting field) :
    searchField m fs field = if fs.exist (removeQuotes field) then [removeQuotes field] else [] := by
  have hj := splitAux_join field [] hs
  rw [List.reverse_nil, List.nil_append] at hj
  rw [searchField, searchDir_allLiteral m fs _ _ [] hall, List.nil_append, splitComponents, hj]

theorem allLiteral_of_quoted (m : Matcher) (hm : LiteralFaithful m) (field : List AttrChar)
    (hq : FullyQuoted field) : AllLiteral m (splitComponents field).1 (splitComponents field).2 := by
  intro x hx
  refine quoted_kind m hm x fun a ha => ?_
  rcases splitAux_mem field [] x hx a ha with e | e
  · cases e
  · exact hq a e

end YashModel.Glob
