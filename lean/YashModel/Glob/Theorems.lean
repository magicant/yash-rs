/-
  C05 — the property theorems (★), a few small facts stated beside them, and the non-vacuity examples with
  their concrete systems.

  Property text: "For every directory tree and every field, pathname expansion returns exactly the
  existing pathnames that match the field component by component (slashes only match literally, a
  leading period only a literal period, quoted characters and tilde results are literal), in sorted
  order; if nothing matches, or `noglob` is set, the result is the field itself with quotes removed.
  It never returns a nonexistent path, never omits a matching one, never produces `.` or `..` from a
  wildcard, and never treats quoted text as wildcards."

  The theorems about `glob` hold for every matcher `m` (what `yash_fnmatch` decides about one component is a
  parameter; its correctness — including the leading-period rule — is property C04) and every file
  system `fs`; those that speak about "existing pathnames" assume the consistency `WF fs` of the two
  system oracles (`Spec.lean`).
-/
import YashModel.Glob.WorldWF
import YashModel.Glob.DumpLemmas
import YashModel.Glob.Utf8
namespace YashModel.Glob

variable (m : Matcher) (fs : Fs) (field : List AttrChar)

theorem glob_noglob : glob m fs true field = [removeQuotes field] := rfl

/-- ★ the property as one statement: the result meets the Spec … -/
theorem glob_meets_spec (hwf : WF fs) (noglob : Bool) :
    SpecResult m fs noglob field (glob m fs noglob field) :=
  glob_exact m fs field (search_finds_exactly_spec m fs hwf field) (searchField_nodup m fs (wf_listingsOK fs hwf) field)
    noglob

/-- … and the Spec determines the result uniquely. -/
theorem specResult_unique (noglob : Bool) (o₁ o₂ : List Path)
    (h₁ : SpecResult m fs noglob field o₁) (h₂ : SpecResult m fs noglob field o₂) : o₁ = o₂ :=
  ExactResult.unique (P := SpecMember m fs field) (fallback := removeQuotes field) h₁ h₂

/-- ★ `fallback_exact`: with `noglob`, or when no pathname matches, the result is exactly the field
    with quotes removed, as a single field. -/
theorem fallback_exact (hwf : WF fs) (noglob : Bool)
    (h : noglob = true ∨ ∀ p, ¬ SpecMember m fs field p) :
    glob m fs noglob field = [removeQuotes field] :=
  (glob_meets_spec m fs field hwf noglob).1 h

/-- ★ `glob_complete`: when something matches, the result is *exactly* the set of pathnames the Spec
    admits (nothing nonexistent, nothing omitted). -/
theorem glob_complete (hwf : WF fs) (hne : ∃ q, SpecMember m fs field q) (p : Path) :
    p ∈ glob m fs false field ↔ SpecMember m fs field p :=
  ((glob_meets_spec m fs field hwf false).2 rfl hne).2 p

/-- ★ `glob_sound`: every pathname returned (with pathname expansion on) is one the Spec admits —
    it exists, has one name per component, every name matches its component, pattern components'
    parents are listable — unless it is the quote-removed field returned because nothing matches. -/
theorem glob_sound (hwf : WF fs) (p : Path) (hp : p ∈ glob m fs false field) :
    SpecMember m fs field p ∨ (p = removeQuotes field ∧ ∀ q, ¬ SpecMember m fs field q) := by
  by_cases hne : ∃ q, SpecMember m fs field q
  · exact Or.inl ((glob_complete m fs field hwf hne p).mp hp)
  · have hn : ∀ q, ¬ SpecMember m fs field q := fun q hq => hne ⟨q, hq⟩
    rw [fallback_exact m fs field hwf false (Or.inr hn)] at hp
    exact Or.inr ⟨List.mem_singleton.mp hp, hn⟩

/-- ★ `glob_sorted_nodup`: the result is strictly increasing in the bytewise order (sorted, and no
    pathname appears twice). -/
theorem glob_sorted_nodup (hwf : WF fs) (noglob : Bool) : StrictSorted (glob m fs noglob field) := by
  rw [glob_eq]
  split
  · exact List.pairwise_singleton _ _
  · exact sortPaths_strict _ (searchField_nodup m fs (wf_listingsOK fs hwf) field)

/-- ★ `no_dot_dotdot_from_wildcard` (no hypothesis on the file system, so also for inconsistent
    oracles): every pathname found by the search consists of one name per component; the name for a
    pattern component is never `.` or `..` and is matched by the pattern; a component that is not a
    pattern contributes exactly its own text. -/
theorem no_dot_dotdot_from_wildcard (p : Path) (hp : p ∈ searchField m fs field) :
    ∃ names, p = joinPath names
      ∧ namesFit m (splitComponents field).1 (splitComponents field).2 names := by
  obtain ⟨names, hw, e⟩ := (mem_searchDir_chain m fs _ _ [] p).mp hp
  exact ⟨names, e, (namesFit_iff_chain m [] _ _ names).mpr
    (hw.imp (fun pre c n _ => stepOK_fits m fs pre c n) (fun _ _ _ _ _ _ => trivial) prefixOK_nil)⟩

/-- corollary: a field that is a single pattern component never expands to `.` or `..` -/
theorem wildcard_never_dot (h1 : (splitComponents field).2 = [])
    (hw : m.kind (toPattern (splitComponents field).1) = Kind.pattern) :
    dot ∉ searchField m fs field ∧ dotdot ∉ searchField m fs field := by
  have key : ∀ p, p ∈ searchField m fs field → p ≠ dot ∧ p ≠ dotdot := by
    intro p hp
    obtain ⟨names, e, hf⟩ := no_dot_dotdot_from_wildcard m fs field p hp
    rw [h1] at hf
    match names, hf with
    | [n], hf =>
      simp only [namesFit, fits, hw] at hf
      simp only [joinPath] at e
      subst e
      exact ⟨hf.1, hf.2.1⟩
  exact ⟨fun h => (key _ h).1 rfl, fun h => (key _ h).2 rfl⟩

/-- ★ `quoted_is_literal`, part 1: a field without pattern components never consults the directory
    listing — the result is the same for any two systems that agree on `exist`. -/
theorem quoted_is_literal_no_list (fs' : Fs) (noglob : Bool)
    (hn : NoWild m (splitComponents field).1 (splitComponents field).2)
    (he : ∀ p, fs.exist p = fs'.exist p) :
    glob m fs noglob field = glob m fs' noglob field :=
  glob_congr (searchDir_congr m m fs fs' he _ _ (fun x hx =>
    ⟨rfl, fun pre => stepNames_noWild m fs fs' pre x (hn x hx)⟩) []) noglob

/-- ★ `quoted_is_literal`, part 2: a field all of whose characters are quoted (or come from a hard
    expansion such as a tilde result) expands to itself, quotes removed, on every file system:
    quoted text is never treated as a wildcard.  `LiteralFaithful m` is the one fact about
    `yash_fnmatch` that is needed (a pattern of literal characters is that literal string). -/
theorem quoted_is_literal (hm : LiteralFaithful m) (hq : FullyQuoted field)
    (hs : SlashNotQuoting field) (noglob : Bool) :
    glob m fs noglob field = [removeQuotes field] := by
  rw [glob_eq, searchField_allLiteral m fs field (allLiteral_of_quoted m hm field hq) hs]
  -- one existence test: the text is found or nothing is, and either way the result is the text
  cases noglob with
  | true => rfl
  | false =>
    cases fs.exist (removeQuotes field) with
    | false => rfl
    | true => exact List.mergeSort_singleton _

theorem specGlobU_found_iff (hwf : WF fs) (univ : List Name) (hU : UnivCovers fs univ) (p : Path) :
    p ∈ ((tuples m univ ((splitComponents field).1 :: (splitComponents field).2)).filter
          (witness m fs [] (splitComponents field).1 (splitComponents field).2)).map joinPath
      ↔ SpecMember m fs field p :=
  mem_found _ _ (fun _ hw => chain_mem_tuples m fs univ hU
    (chain_of_spec m fs (wf_covering fs hwf) ((witness_iff_chain m fs _ _ _ _).mp hw) prefixOK_nil)) p

/-- the same for the entry-based brute-force Spec, with no hypothesis on the oracles -/
theorem specGlobE_found_iff (univ : List Name) (hU : UnivCovers fs univ) (p : Path) :
    p ∈ ((tuples m univ ((splitComponents field).1 :: (splitComponents field).2)).filter
          (ewitness m fs [] (splitComponents field).1 (splitComponents field).2)).map joinPath
      ↔ EntryMember m fs field p :=
  mem_found _ _ (fun _ hw => chain_mem_tuples m fs univ hU ((ewitness_iff_chain m fs _ _ _ _).mp hw)) p

/-- ★ The driver's Spec column is a proved object: the executable brute-force `specGlobU` (all tuples
    of candidate names, filtered by `witness`, sorted and de-duplicated by insertion over Lean's own
    order on `List Char`) meets the declarative `SpecResult` — sound, complete, strictly sorted,
    exact fallback — whenever the oracles are consistent and the finite name set `univ` contains every
    listed name (true of the driver's `univ` by construction: it is the union of the dumped listings). -/
theorem specGlobU_meets_spec (hwf : WF fs) (univ : List Name) (hU : UnivCovers fs univ) (noglob : Bool) :
    SpecResult m fs noglob field (specGlobU m fs univ noglob field) :=
  exactResult_of_found _ _ (specGlobU_found_iff m fs field hwf univ hU) (sortDedup_strict _) (mem_sortDedup _)

/-- hence the two columns the driver prints are equal as a theorem, not only on the cases run -/
theorem specGlobU_eq_glob (hwf : WF fs) (univ : List Name) (hU : UnivCovers fs univ) (noglob : Bool) :
    specGlobU m fs univ noglob field = glob m fs noglob field :=
  specResult_unique m fs field noglob _ _ (specGlobU_meets_spec m fs field hwf univ hU noglob)
    (glob_meets_spec m fs field hwf noglob)

/-- the result is strictly increasing in Lean's own order on `List Char` (`pathLe_is_lex`) -/
theorem glob_sorted_lex (hwf : WF fs) (noglob : Bool) :
    (glob m fs noglob field).Pairwise (fun a b => a < b) := by
  have := glob_sorted_nodup m fs field hwf noglob
  unfold StrictSorted at this
  exact this.imp (fun {a b} h => (pathLt_iff a b).mpr h)

/-- ★ `pathLe` is the order the code uses: Rust's `String::cmp` compares the UTF-8 encodings byte by
    byte, and `pathLe a b` holds iff the UTF-8 bytes of `a` (Lean's encoder `String.utf8EncodeChar`;
    `utf8Bytes l` is `List.utf8Encode l` as a list) are lexicographically `≤` those of `b`. -/
theorem pathLe_is_utf8_bytewise (a b : Path) : pathLe a b = true ↔ utf8Bytes a ≤ utf8Bytes b := by
  rw [pathLe_is_lex, ← List.not_lt, ← List.not_lt, utf8Bytes_lt_iff]

theorem glob_sorted_bytewise (hwf : WF fs) (noglob : Bool) :
    (glob m fs noglob field).Pairwise (fun a b => utf8Bytes a < utf8Bytes b) :=
  (glob_sorted_lex m fs field hwf noglob).imp (fun {a b} h => (utf8Bytes_lt_iff a b).mp h)

/-- ★ `Single` mode (scalar assignment values, `name=value` operands of declaration utilities) never
    globs: whatever the file system and the matcher, each field is returned with its quotes removed. -/
theorem single_mode_never_globs (noglob : Bool) (fields : List (List AttrChar)) :
    expandFields m fs noglob Mode.single fields = fields.map removeQuotes := rfl

/-- `Multiple` mode handles the fields one by one and in order: the result for a list of fields is the
    concatenation of the results for its parts (command words, `for` lists, array values, and the
    several fields one word splits into) -/
theorem expandFields_append (noglob : Bool) (mode : Mode) (f g : List (List AttrChar)) :
    expandFields m fs noglob mode (f ++ g)
      = expandFields m fs noglob mode f ++ expandFields m fs noglob mode g := by
  cases mode <;> simp [expandFields]

theorem mem_expandFields_multiple (noglob : Bool) (fields : List (List AttrChar)) (p : Path) :
    p ∈ expandFields m fs noglob Mode.multiple fields ↔ ∃ f, f ∈ fields ∧ p ∈ glob m fs noglob f := by
  simp [expandFields, List.mem_flatMap]

/-- ★ the whole step meets its Spec: with consistent oracles the model's `expandFields` equals the
    executable Spec `specFieldsU` (each field replaced in order by the sorted pathnames it stands for,
    or by itself), in both modes -/
theorem expandFields_eq_spec (hwf : WF fs) (univ : List Name) (hU : UnivCovers fs univ) (noglob : Bool)
    (mode : Mode) (fields : List (List AttrChar)) :
    specFieldsU m fs univ noglob mode fields = expandFields m fs noglob mode fields := by
  cases mode with
  | single => rfl
  | multiple => exact flatMap_congr_mem fun f _ => specGlobU_eq_glob m fs f hwf univ hU noglob

theorem expandFields_noglob (mode : Mode) (fields : List (List AttrChar)) :
    expandFields m fs true mode fields = fields.map removeQuotes := by
  cases mode with
  | single => rfl
  | multiple => exact List.map_eq_flatMap.symm

/-- every Spec member exists and is one name per component, each name meeting the clauses of the
    property (literal text / a real name that is not `.` or `..`, has no slash, is matched, and starts
    with a period only if the component's text does) -/
theorem specMember_clauses (hp : PeriodRule m) (p : Path) (h : SpecMember m fs field p) :
    fs.exist p = true ∧ ∃ names, p = joinPath names
      ∧ namesClauses m (splitComponents field).1 (splitComponents field).2 names := by
  obtain ⟨names, hw, e⟩ := h
  refine ⟨?_, names, e, chain_clauses m hp (fun _ _ _ _ hs => hs.1) _ _ [] names prefixOK_nil
    ((witness_iff_chain m fs _ _ _ _).mp hw)⟩
  have := witness_exist m fs _ _ [] names hw
  simpa [e] using this

/-- ★★ **The property, as one statement about `glob`**, for every matcher obeying the leading-period
    rule, every file system with consistent oracles, every field and both settings of `noglob`:
    1. with `noglob`, or when no pathname matches, the result is the field itself, quotes removed;
    2. otherwise the result consists of exactly the Spec's pathnames (none nonexistent, none omitted),
    3. as whole pathnames in strictly increasing byte order of their UTF-8 encodings (so also without
       duplicates) — not merely name by name within each directory,
    4. and every returned pathname exists and is made of one name per component: a component that is
       not a pattern contributes its own text; a pattern component contributes a non-empty, slash-free
       name other than `.` and `..` that the pattern matches, and one starting with a period only if
       the component's text (quoted or not) starts with a period. -/
theorem glob_property (hwf : WF fs) (hp : PeriodRule m) (noglob : Bool) :
    ((noglob = true ∨ ∀ p, ¬ SpecMember m fs field p) → glob m fs noglob field = [removeQuotes field]) ∧
    (noglob = false → (∃ p, SpecMember m fs field p) →
      (∀ p, p ∈ glob m fs noglob field ↔ SpecMember m fs field p) ∧
      (glob m fs noglob field).Pairwise (fun a b => utf8Bytes a < utf8Bytes b) ∧
      (∀ p, p ∈ glob m fs noglob field → fs.exist p = true ∧ ∃ names, p = joinPath names
        ∧ namesClauses m (splitComponents field).1 (splitComponents field).2 names)) :=
  ExactResult.clauses (glob_meets_spec m fs field hwf noglob) (specMember_clauses m fs field hp)

/-- ★★ **What the driver prints.**  For the matcher and file system that the driver builds from a case
    line (`mkMatcher tab`, `mkFs e l`) and its name set `univOf l`: whenever its decidable check
    `wfDump e l` succeeds — the only situation in which it prints a Spec column — that column
    (`specFieldsU`) equals the model column (`expandFields`), and the result of every field meets
    `SpecResult`. -/
theorem driver_spec_column (tab : List MEntry) (e : List Path) (l : List (Path × List Name))
    (noglob : Bool) (mode : Mode) (fields : List (List AttrChar)) (hwf : wfDump e l = true) :
    specFieldsU (mkMatcher tab) (mkFs e l) (univOf l) noglob mode fields
        = expandFields (mkMatcher tab) (mkFs e l) noglob mode fields
      ∧ (∀ f, f ∈ fields → SpecResult (mkMatcher tab) (mkFs e l) noglob f
            (glob (mkMatcher tab) (mkFs e l) noglob f)) :=
  ⟨expandFields_eq_spec _ _ (wfDump_sound e l hwf) _ (univOf_covers e l) noglob mode fields,
   fun f _ => glob_meets_spec _ _ f (wfDump_sound e l hwf) noglob⟩

/-- … and if the table check `periodDump tab` succeeds as well, the dump meets every hypothesis of
    `glob_property` (`WF`, `PeriodRule`) and of the Spec column (`UnivCovers`): none is left to trust. -/
theorem driver_glob_property (tab : List MEntry) (e : List Path) (l : List (Path × List Name))
    (hwf : wfDump e l = true) (hp : periodDump tab = true) :
    WF (mkFs e l) ∧ PeriodRule (mkMatcher tab) ∧ UnivCovers (mkFs e l) (univOf l) :=
  ⟨wfDump_sound e l hwf, periodDump_sound tab hp, univOf_covers e l⟩

/-- what "reachable" says, bit by bit: the directory we are in is a directory whose mode has the
    *owner's search bit* (0o100) — no group or other bit, no read bit is asked for — the next name is
    present in it, and so on down the path -/
theorem reachable_cons (w : World) (key : List Name) (n : Name) (ns : List Name) :
    w.reachable key (n :: ns) = true ↔
      (∃ mode, w.kindAt key = some (NodeKind.dir mode) ∧ mode / 64 % 2 = 1)
        ∧ (w.kindAt (key ++ [n])).isSome = true ∧ w.reachable (key ++ [n]) ns = true := by
  simp only [World.reachable, Bool.and_eq_true, searchable_iff, ownerSearch_bit, beq_iff_eq, and_assoc]

/-- ★ **A pathname of plain names exists iff every directory on it is searchable by its owner and
    every name is there** (`fstatat` in the world model; the final node not being a symbolic link).
    A model that asked for the group's or others' search bit, or for a read bit, would not satisfy
    this (see the examples with modes 0700 and 0070 below). -/
theorem world_exist_iff_searchable (w : World) (hroot : w.isDir [] = true) (names : List Name)
    (hne : names ≠ []) (h : ∀ n, n ∈ names → plainName n = true)
    (hl : ∀ tgt, w.kindAt (['t'] :: names) ≠ some (NodeKind.link tgt)) :
    (fsOfWorld w).exist (joinPath names) = w.reachable [] (['t'] :: names) := by
  have hg : w.get (absPath (joinPath names))
      = if w.reachable [] (['t'] :: names) then some (['t'] :: names) else none := by
    rw [absPath_rel _ (by simpa using joinPath_head names hne h [])]
    exact get_plain w hroot names hne h
  cases hr : w.reachable [] (['t'] :: names) with
  | true => exact exist_of_get w _ (joinPath_nul names h) _ (by rw [hg, hr]; rfl) hl
  | false =>
    cases he : (fsOfWorld w).exist (joinPath names) with
    | false => rfl
    | true =>
      obtain ⟨_, key, hk⟩ := get_of_exist w _ he
      rw [hg, hr] at hk
      cases hk

/-- ★ **A directory of plain names can be listed iff it can be reached that way, is a directory, and a
    descriptor is free** — `opendir` asks for no read permission; the listing is `.`, `..` and the
    directory's entries. -/
theorem world_list_iff (w : World) (hroot : w.isDir [] = true) (names : List Name)
    (hne : names ≠ []) (h : ∀ n, n ∈ names → plainName n = true) :
    (fsOfWorld w).list (joinPath names ++ ['/'])
      = if w.fdFree && w.reachable [] (['t'] :: names) && w.isDir (['t'] :: names)
        then some (dot :: dotdot :: w.children (['t'] :: names)) else none := by
  have hnul : (joinPath names ++ ['/']).contains '\x00' = false := by
    have := joinPath_nul names h
    simp only [List.contains_eq_mem, List.mem_append, decide_eq_false_iff_not] at *
    rintro (h1 | h1)
    · exact this h1
    · simp at h1
  have habs : absPath (joinPath names ++ ['/']) = ['/', 't', '/'] ++ (joinPath names ++ ['/']) :=
    absPath_rel _ (joinPath_head names hne h ['/'])
  have hg := get_plain_slash w hroot names hne h
  rw [← habs] at hg
  simp only [fsOfWorld, hnul, Bool.false_or, hg]
  -- both sides are `some …` exactly when a descriptor is free, the directory is reached, and it is a directory
  cases w.fdFree with
  | false => rfl
  | true =>
    cases w.reachable [] (['t'] :: names) with
    | false => rfl
    | true =>
      cases hd : w.isDir (['t'] :: names) with
      | false => rfl
      | true => show (if w.isDir (['t'] :: names) = true then _ else _) = _; rw [hd]; rfl

/-- ★ **Symbolic links are followed hop by hop, each target resolved in the directory of the link that
    is being followed** (not of the first link of the chain): if the look-up of `x/n` ends at a link
    with the relative target `tgt`, then `x/n` exists iff `x/tgt` does, with one hop less to spend;
    an absolute target replaces the path.  (The bound on the look-ups: `world_follow_bound`, and
    `symloopMax = 8` in `glob_tables_tie`.) -/
theorem world_follow_hop (w : World) (fuel : Nat) (x : Path) (n : Name) (hn : '/' ∉ n) (key : List Name)
    (tgt : Path) (hg : w.get (x ++ '/' :: n) = some key) (hk : w.kindAt key = some (NodeKind.link tgt)) :
    w.follow (fuel + 1) (x ++ '/' :: n)
      = w.follow fuel (if tgt.head? = some '/' then tgt else x ++ '/' :: tgt) := by
  rw [follow_succ, hg]
  simp only [hk]
  by_cases ht : tgt.head? = some '/'
  · have : retarget (x ++ '/' :: n) tgt = tgt := by simp [retarget, ht]
    rw [this, if_pos ht]
  · rw [retarget_relative x n hn tgt ht, if_neg ht]

theorem world_follow_bound (w : World) (abs : Path) : w.follow 0 abs = false := rfl

/-- more look-ups never hurt: what resolves within `n` hops resolves within `n + 1` (so the bound
    `GlobTables.symloopMax` only ever cuts chains off; with `world_follow_hop` and `world_follow_bound`
    this pins the hop count: a chain of `k` links to an existing file exists iff `k < symloopMax`) -/
theorem world_follow_mono (w : World) : ∀ (n : Nat) (abs : Path),
    w.follow n abs = true → w.follow (n + 1) abs = true := by
  intro n
  induction n with
  | zero => intro abs h; cases h
  | succ k ih =>
    intro abs h
    obtain ⟨key, hg⟩ := get_of_follow w _ abs h
    by_cases hl : ∃ t, w.kindAt key = some (NodeKind.link t)
    · obtain ⟨t, hk⟩ := hl
      rw [follow_succ, hg] at h ⊢
      simp only [hk] at h ⊢
      exact ih _ h
    · exact follow_of_get w _ abs key hg fun t e => hl ⟨t, e⟩

/-- ★★ **`WF (fsOfWorld w)` for every good world** (`goodWorld`, decidable: unique keys, plain names, no
    symbolic link, every directory searchable by its owner, `/t` exists) — for *every* prefix the search
    can build (empty components, `.`, `..`, absolute paths), not only paths of plain names: a listing
    has no duplicates and holds exactly the valid names that exist below the prefix; existence is
    prefix-closed. -/
theorem wf_fsOfWorld (w : World) (h : goodWorld w = true) : WF (fsOfWorld w) :=
  wf_of_good w (good_of_goodWorld w h)

/-- three files `a`, `b`, `.h` in the working directory -/
def fs₀ : Fs where
  exist p := p == ['a'] || p == ['b'] || p == ['.', 'h']
  list d := if d == ['.'] then some [['a'], ['b'], ['.', 'h']] else none

/-- `*` is a pattern that matches every name not starting with a period; anything else is literal -/
def m₀ : Matcher where
  kind pcs := if pcs == [PatternChar.normal '*'] then Kind.pattern else Kind.literal (pcs.map PatternChar.charValue)
  isMatch _ n := n.head? != some '.'

/-- the unquoted word `*` -/
def star : List AttrChar := [{ value := '*', origin := Origin.literal, isQuoted := false, isQuoting := false }]

/-- the word `"*"` without its quotation marks' characters: a quoted `*` -/
def qstar : List AttrChar := [{ value := '*', origin := Origin.literal, isQuoted := true, isQuoting := false }]

/-- the unquoted word `c` -/
def litc : List AttrChar := [{ value := 'c', origin := Origin.literal, isQuoted := false, isQuoting := false }]

/-- `fs₀` is the file system of a dump, so the driver's check decides `WF` for it -/
theorem fs₀_eq : fs₀ = mkFs [['a'], ['b'], ['.', 'h']] [(['.'], [['a'], ['b'], ['.', 'h']])] := by
  unfold fs₀ mkFs
  congr 1
  · funext p
    simp only [List.contains_cons, List.contains_nil, Bool.or_false, Bool.or_assoc]
  · funext d
    simp only [List.find?_cons, List.find?_nil]
    by_cases h : d = ['.']
    · subst h; rfl
    · rw [if_neg (by simpa using h), show ((['.'] : Path) == d) = false from by simpa using fun e => h e.symm]; rfl

theorem wf_fs₀ : WF fs₀ := fs₀_eq ▸ wfDump_sound _ _ (by decide +kernel)

example : searchField m₀ fs₀ star = [['a'], ['b']] := by decide +kernel

/-- two results, sorted; the dot file is not matched -/
example : glob m₀ fs₀ false star = [['a'], ['b']] := by
  exact glob_of_sorted_search m₀ fs₀ star (by decide +kernel) (by decide) (by unfold StrictSorted; decide +kernel)

example : glob m₀ fs₀ false qstar = [['*']] := by
  rw [glob_on_eq, show searchField m₀ fs₀ qstar = [] by decide +kernel]; rfl
example : glob m₀ fs₀ true star = [['*']] := by simp [glob, star, removeQuotes]
example : glob m₀ fs₀ false litc = [['c']] := by
  rw [glob_on_eq, show searchField m₀ fs₀ litc = [] by decide +kernel]; rfl
example : SpecMember m₀ fs₀ star ['a'] := ⟨[['a']], by decide +kernel, rfl⟩
example : ∃ q, SpecMember m₀ fs₀ star q := ⟨['a'], [['a']], by decide +kernel, rfl⟩
example : ∀ p, ¬ SpecMember m₀ fs₀ litc p := by
  intro p hp
  have := (search_finds_exactly_spec m₀ fs₀ wf_fs₀ litc p).mpr hp
  rw [show searchField m₀ fs₀ litc = [] by decide +kernel] at this
  simp at this
theorem literalFaithful_m₀ : LiteralFaithful m₀ := by
  intro pcs h
  simp only [m₀]
  have : (pcs == [PatternChar.normal '*']) = false := by
    apply beq_false_of_ne
    intro e
    subst e
    have := h (PatternChar.normal '*') (by simp)
    simp [PatternChar.isLiteral] at this
  simp [this]
example : FullyQuoted qstar ∧ SlashNotQuoting qstar := by
  constructor
  · intro a ha _
    simp [qstar] at ha
    subst ha
    exact Or.inl rfl
  · intro a ha hv
    simp [qstar] at ha
    subst ha
    rfl
example : UnivCovers fs₀ [['a'], ['b'], ['.', 'h']] := fs₀_eq ▸ univOf_covers _ _
-- a two-byte and a three-byte character: code-point order = byte order
example : pathLe ['é'] ['€'] = true ∧ utf8Bytes ['é'] = [0xc3, 0xa9] ∧ utf8Bytes ['€'] = [0xe2, 0x82, 0xac] := by decide +kernel
example : expandFields m₀ fs₀ false Mode.single [star] = [['*']] := by decide +kernel
example : PeriodRule m₀ := by
  intro pcs n h hd
  simp [m₀, hd] at h
-- the driver's checks succeed on a concrete dump and table (three files, `*` matching the two plain ones)
example : wfDump [['a'], ['b'], ['.', 'h']] [(['.'], [['a'], ['b'], ['.', 'h']])] = true := by decide +kernel
example : periodDump [{ pcs := [PatternChar.normal '*'], kind := Kind.pattern, names := [['a'], ['b']] }] = true := by
  decide +kernel
-- … and reject a dump in which a listed name does not exist, and a table in which `*` matches a dot file
example : wfDump [['a']] [(['.'], [['a'], ['b']])] = false := by decide +kernel
example : periodDump [{ pcs := [PatternChar.normal '*'], kind := Kind.pattern, names := [['.', 'h']] }] = false := by
  decide +kernel
/-- `/t/priv` (mode `m`) and `/t/pub` (0755), each holding a file `a` -/
def w₀ (m : Nat) : World where
  entries := [([], NodeKind.dir 0o755), ([['t']], NodeKind.dir 0o755),
    ([['t'], ['p', 'r', 'i', 'v']], NodeKind.dir m), ([['t'], ['p', 'r', 'i', 'v'], ['a']], NodeKind.file),
    ([['t'], ['p', 'u', 'b']], NodeKind.dir 0o755), ([['t'], ['p', 'u', 'b'], ['a']], NodeKind.file)]
  fdFree := true

/-- `/t/d/a`, `/t/d/k -> a`, `/t/e/l -> ../d/k` (exists), `/t/f/a`, `/t/g/k -> a` (dangling),
    `/t/f/l -> ../g/k` (dangling): the second hop must be resolved in `d` resp. `g`, not in `e` resp. `f` -/
def wLinks : World where
  entries := [([], NodeKind.dir 0o755), ([['t']], NodeKind.dir 0o755),
    ([['t'], ['d']], NodeKind.dir 0o755), ([['t'], ['d'], ['a']], NodeKind.file),
    ([['t'], ['d'], ['k']], NodeKind.link ['a']),
    ([['t'], ['e']], NodeKind.dir 0o755), ([['t'], ['e'], ['l']], NodeKind.link ['.', '.', '/', 'd', '/', 'k']),
    ([['t'], ['f']], NodeKind.dir 0o755), ([['t'], ['f'], ['a']], NodeKind.file),
    ([['t'], ['g']], NodeKind.dir 0o755), ([['t'], ['g'], ['k']], NodeKind.link ['a']),
    ([['t'], ['f'], ['l']], NodeKind.link ['.', '.', '/', 'g', '/', 'k'])]
  fdFree := true

/-- the unquoted word `*/l` -/
def starSlashL : List AttrChar :=
  ['*', '/', 'l'].map (fun c => { value := c, origin := Origin.literal, isQuoted := false, isQuoting := false })

example : (fsOfWorld wLinks).exist ['e', '/', 'l'] = true ∧ (fsOfWorld wLinks).exist ['f', '/', 'l'] = false := by
  decide +kernel
example : searchField m₀ (fsOfWorld wLinks) starSlashL = [['e', '/', 'l']] := by decide +kernel
example : wLinks.get ['/', 't', '/', 'e', '/', 'l'] = some [['t'], ['e'], ['l']]
    ∧ wLinks.kindAt [['t'], ['e'], ['l']] = some (NodeKind.link ['.', '.', '/', 'd', '/', 'k']) := by decide +kernel

/-- the unquoted word `*/a` -/
def starSlashA : List AttrChar :=
  ['*', '/', 'a'].map (fun c => { value := c, origin := Origin.literal, isQuoted := false, isQuoting := false })

-- only the owner's search bit counts: 0700, 0710, 0100 are as good as 0755; 0070, 0644, 0011 are not
example : ownerSearch 0o700 = true ∧ ownerSearch 0o710 = true ∧ ownerSearch 0o100 = true
    ∧ ownerSearch 0o070 = false ∧ ownerSearch 0o644 = false ∧ ownerSearch 0o011 = false := by decide +kernel
example : searchField m₀ (fsOfWorld (w₀ 0o700)) starSlashA = [['p','r','i','v','/','a'], ['p','u','b','/','a']] := by
  decide +kernel
example : searchField m₀ (fsOfWorld (w₀ 0o070)) starSlashA = [['p','u','b','/','a']] := by decide +kernel
example : (w₀ 0o700).reachable [] [['t'], ['p','r','i','v'], ['a']] = true
    ∧ (w₀ 0o070).reachable [] [['t'], ['p','r','i','v'], ['a']] = false := by decide +kernel
example : (w₀ 0o700).isDir [] = true ∧ (∀ n, n ∈ [['p','r','i','v'], ['a']] → plainName n = true) := by
  refine ⟨by decide +kernel, ?_⟩
  intro n hn
  simp only [List.mem_cons, List.not_mem_nil, or_false] at hn
  rcases hn with e | e <;> subst e <;> decide +kernel
example : NoWild m₀ (splitComponents qstar).1 (splitComponents qstar).2 := by unfold NoWild; decide +kernel
example : (splitComponents star).2 = []
    ∧ m₀.kind (toPattern (splitComponents star).1) = Kind.pattern := by decide +kernel

end YashModel.Glob
