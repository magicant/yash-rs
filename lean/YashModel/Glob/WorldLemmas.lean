/-
  C05 — the world model (`World.lean`), what holds of every world: how a path falls into segments
  (`splitSeg_slash`, `splitSeg_join`) and when it asks for a directory (`needsDir_last`); walking down a path of
  plain names succeeds iff every directory on the way is searchable by the owner and every name is there
  (`walk_plain`, hence `get_plain`, `get_plain_slash`); one hop of a link; the owner's search bit.
-/
import YashModel.Glob.Paths
import YashModel.Glob.Notions
import YashModel.Common.Lists
namespace YashModel.Glob

theorem plainName_iff (n : Name) :
    plainName n = true ↔ n ≠ [] ∧ '/' ∉ n ∧ '\x00' ∉ n ∧ n ≠ dot ∧ n ≠ dotdot := by
  simp [plainName, validName, and_assoc]

theorem plainName_noslash (n : Name) (h : plainName n = true) : '/' ∉ n := ((plainName_iff n).mp h).2.1

theorem plainName_valid (n : Name) (h : plainName n = true) : validName n = true :=
  (validName_iff n).mpr ⟨((plainName_iff n).mp h).1, plainName_noslash n h⟩

theorem isDir_iff (w : World) (k : List Name) :
    w.isDir k = true ↔ ∃ mode, w.kindAt k = some (NodeKind.dir mode) := by
  unfold World.isDir
  cases w.kindAt k with
  | none => exact ⟨nofun, nofun⟩
  | some kd =>
    cases kd with
    | dir m => exact ⟨fun _ => ⟨m, rfl⟩, fun _ => rfl⟩
    | file => exact ⟨nofun, nofun⟩
    | link t => exact ⟨nofun, nofun⟩

theorem searchable_iff (w : World) (k : List Name) :
    w.searchable k = true ↔ ∃ mode, w.kindAt k = some (NodeKind.dir mode) ∧ ownerSearch mode = true := by
  unfold World.searchable
  cases w.kindAt k with
  | none => exact ⟨nofun, nofun⟩
  | some kd =>
    cases kd with
    | dir m => exact ⟨fun h => ⟨m, rfl, h⟩, fun ⟨_, e, h⟩ => by cases e; exact h⟩
    | file => exact ⟨nofun, nofun⟩
    | link t => exact ⟨nofun, nofun⟩

theorem step_plain (w : World) (key : List Name) (n : Name) (h : plainName n = true) :
    w.step key n = if w.searchable key && (w.kindAt (key ++ [n])).isSome then some (key ++ [n]) else none := by
  obtain ⟨hne, _, _, hd, hdd⟩ := (plainName_iff n).mp h
  rw [World.step, if_neg (by simp [hne, hd]), if_neg (by simpa using hdd)]

/-- a path segment that `Path::components` drops -/
def trivSeg (s : Name) : Prop := s = [] ∨ s = dot

theorem step_triv (w : World) (k : List Name) (t0 : Name) (h : trivSeg t0) : w.step k t0 = some k := by
  unfold World.step
  rcases h with e | e <;> subst e <;> simp

theorem walk_plain (w : World) (names : List Name) : ∀ (key : List Name),
    (∀ n, n ∈ names → plainName n = true) →
    w.walk key names = if w.reachable key names then some (key ++ names) else none := by
  induction names with
  | nil => intro key _; simp [World.walk, World.reachable]
  | cons n ns ih =>
    intro key h
    have hn := h n List.mem_cons_self
    have hns : ∀ x, x ∈ ns → plainName x = true := fun x hx => h x (List.mem_cons_of_mem _ hx)
    rw [World.walk, step_plain w key n hn, World.reachable]
    cases w.searchable key && (w.kindAt (key ++ [n])).isSome with
    | false => rfl
    | true =>
      rw [if_pos rfl, Bool.true_and]
      show w.walk (key ++ [n]) ns = _
      rw [ih (key ++ [n]) hns, List.append_assoc]; rfl

theorem splitSeg_append (n : Name) (hn : '/' ∉ n) : ∀ (cur r : List Char),
    splitSeg cur (n ++ r) = splitSeg (n.reverse ++ cur) r := by
  induction n with
  | nil => intro cur r; rfl
  | cons c cs ih =>
    intro cur r
    have hc : (c == '/') = false := by
      have : c ≠ '/' := fun e => hn (e ▸ List.mem_cons_self)
      simpa using this
    have hcs : '/' ∉ cs := fun hm => hn (List.mem_cons_of_mem _ hm)
    simp only [List.cons_append, splitSeg, hc, Bool.false_eq_true, if_false, ih hcs]
    simp

theorem splitSeg_slash (a b : Path) : ∀ cur, splitSeg cur (a ++ '/' :: b) = splitSeg cur a ++ splitSeg [] b := by
  induction a with
  | nil => intro cur; simp [splitSeg]
  | cons c cs ih =>
    intro cur
    by_cases hc : c = '/'
    · subst hc; simp [splitSeg, ih]
    · have : (c == '/') = false := by simpa using hc
      simp [splitSeg, this, ih]

theorem splitSeg_single (n : Name) (hn : '/' ∉ n) : splitSeg [] n = [n] := by
  have := splitSeg_append n hn [] []
  simp only [List.append_nil] at this
  rw [this]
  simp [splitSeg]

theorem splitSeg_join (names : List Name) (hne : names ≠ []) (h : ∀ n, n ∈ names → '/' ∉ n) :
    splitSeg [] (joinPath names) = names := by
  induction names with
  | nil => exact absurd rfl hne
  | cons n ns ih =>
    cases ns with
    | nil => exact splitSeg_single n (h n List.mem_cons_self)
    | cons n' t =>
      rw [joinPath_cons n (n' :: t) (List.cons_ne_nil _ _), splitSeg_slash,
        splitSeg_single n (h n List.mem_cons_self),
        ih (List.cons_ne_nil _ _) fun x hx => h x (List.mem_cons_of_mem _ hx)]
      rfl

/-- what follows the last slash of `X/q` is the last segment of `q` -/
theorem last_seg : ∀ (q cur X : Path), '/' ∉ cur →
    ∃ Y t, X ++ '/' :: (cur.reverse ++ q) = Y ++ '/' :: t ∧ '/' ∉ t ∧ t ∈ splitSeg cur q
  | [], cur, X, hc => ⟨X, cur.reverse, by rw [List.append_nil], fun h => hc (List.mem_reverse.mp h),
      List.mem_singleton.mpr rfl⟩
  | c :: cs, cur, X, hc => by
    by_cases h : c = '/'
    · subst h
      obtain ⟨Y, t, e, ht, hm⟩ := last_seg cs [] (X ++ '/' :: cur.reverse) (List.not_mem_nil)
      refine ⟨Y, t, ?_, ht, ?_⟩
      · rw [← e]; simp
      · rw [splitSeg, if_pos (beq_self_eq_true _)]; exact List.mem_cons_of_mem _ hm
    · obtain ⟨Y, t, e, ht, hm⟩ := last_seg cs (c :: cur) X
        (fun hm => (List.mem_cons.mp hm).elim (fun e => h e.symm) hc)
      refine ⟨Y, t, ?_, ht, ?_⟩
      · rw [← e]; simp
      · rw [splitSeg, if_neg (by simpa using h)]; exact hm

theorem walk_nil_seg (w : World) (key : List Name) (segs : List Name) :
    w.walk key ([] :: segs) = w.walk key segs := by
  simp [World.walk, World.step]

theorem walk_append (w : World) (a : List Name) : ∀ (key : List Name) (b : List Name),
    w.walk key (a ++ b) = match w.walk key a with
      | some k => w.walk k b
      | none => none := by
  induction a with
  | nil => intro key b; rfl
  | cons x xs ih =>
    intro key b
    simp only [List.cons_append, World.walk]
    cases w.step key x with
    | none => rfl
    | some k => exact ih k b

theorem joinPath_nul (names : List Name) (h : ∀ n, n ∈ names → plainName n = true) :
    (joinPath names).contains '\x00' = false := by
  induction names with
  | nil => rfl
  | cons n ns ih =>
    have hn0 : n.contains '\x00' = false := by
      simpa using ((plainName_iff n).mp (h n List.mem_cons_self)).2.2.1
    cases ns with
    | nil => simpa [joinPath] using hn0
    | cons n' t =>
      have := ih (fun x hx => h x (List.mem_cons_of_mem _ hx))
      rw [joinPath_cons n (n' :: t) (by simp)]
      simp only [List.contains_eq_mem, List.mem_append, List.mem_cons, decide_eq_false_iff_not] at *
      rintro (h1 | h1 | h1)
      · exact hn0 h1
      · exact absurd h1 (by decide)
      · exact this h1

theorem joinPath_head (names : List Name) (hne : names ≠ []) (h : ∀ n, n ∈ names → plainName n = true)
    (r : Path) : (joinPath names ++ r).head? ≠ some '/' := by
  cases names with
  | nil => exact absurd rfl hne
  | cons n ns =>
    obtain ⟨hne, hs, _⟩ := (plainName_iff n).mp (h n List.mem_cons_self)
    cases n with
    | nil => exact absurd rfl hne
    | cons c cs =>
      have hc : c ≠ '/' := fun e => hs (e ▸ List.mem_cons_self)
      cases ns with
      | nil => simpa [joinPath] using hc
      | cons n' t => rw [joinPath_cons _ _ (List.cons_ne_nil _ _)]; simpa using hc

/-- Reversed, `x ++ '/' :: n` begins with `n.reverse` and then a slash, and `n` has no slash: so the pattern
    `'/' :: _` of `needsDir` fires iff `n` is empty, and `'.' :: '/' :: _` iff `n` is `.`. -/
theorem needsDir_last (x : Path) (n : Name) (hn : '/' ∉ n) :
    needsDir (x ++ '/' :: n) = (n == [] || n == dot) := by
  -- neither pattern fires on a list that begins with neither `/` nor `./`
  have miss : ∀ (b : Char) (t : List Char), b ≠ '/' → (b = '.' → t.head? ≠ some '/') →
      (match b :: t with
        | '/' :: _ => true
        | '.' :: '/' :: _ => true
        | _ => false) = false := by
    intro b t hb ht
    split
    · rename_i heq; cases heq; exact absurd rfl hb
    · rename_i heq; cases heq; exact absurd rfl (ht rfl)
    · rfl
  -- `[]` and `.` read the same backwards
  have hnil : (n == []) = (n.reverse == []) := by cases n <;> simp
  have hdot : (n == dot) = (n.reverse == dot) := by
    rw [Bool.eq_iff_iff, beq_iff_eq, beq_iff_eq]
    exact ⟨fun h => by rw [h]; rfl, fun h => by rw [← List.reverse_reverse n, h]; rfl⟩
  have hn' : '/' ∉ n.reverse := fun h => hn (List.mem_reverse.mp h)
  unfold needsDir
  rw [hnil, hdot, List.reverse_append, List.reverse_cons, List.append_assoc]
  generalize n.reverse = r at hn'
  match r, hn' with
  | [], _ => rfl
  | [b], h =>
    have hb : b ≠ '/' := fun e => h (e ▸ List.mem_cons_self)
    by_cases hd : b = '.'
    · subst hd; rfl
    · rw [show ([b] == ([] : List Char) || [b] == dot) = false by simp [dot, hd]]
      exact miss b _ hb (fun e => absurd e hd)
  | b :: c :: t, h =>
    have hb : b ≠ '/' := fun e => h (e ▸ List.mem_cons_self)
    have hc : c ≠ '/' := fun e => h (e ▸ List.mem_cons_of_mem _ List.mem_cons_self)
    rw [show (b :: c :: t == ([] : List Char) || b :: c :: t == dot) = false by simp [dot]]
    exact miss b _ hb (fun _ => by simpa using hc)

theorem needsDir_plain (x : Path) (n : Name) (h : plainName n = true) : needsDir (x ++ '/' :: n) = false := by
  obtain ⟨hne, hs, _, hd, _⟩ := (plainName_iff n).mp h
  rw [needsDir_last x n hs, beq_false_of_ne hne, beq_false_of_ne hd]; rfl

theorem allPlain_t (names : List Name) (h : ∀ n, n ∈ names → plainName n = true) :
    ∀ n, n ∈ (['t'] : Name) :: names → plainName n = true := by
  intro n hn
  rw [List.mem_cons] at hn
  rcases hn with e | hn
  · subst e; decide
  · exact h n hn

/-- `FileSystem::get` of `/t/n₁/…/nₖ` for plain names -/
theorem get_plain (w : World) (hroot : w.isDir [] = true) (names : List Name) (hne : names ≠ [])
    (h : ∀ n, n ∈ names → plainName n = true) :
    w.get (['/', 't', '/'] ++ joinPath names)
      = if w.reachable [] (['t'] :: names) then some (['t'] :: names) else none := by
  have hs : ∀ n, n ∈ names → '/' ∉ n := fun n hn => plainName_noslash n (h n hn)
  have hsplit : splitSeg [] (['/', 't', '/'] ++ joinPath names) = [] :: ['t'] :: splitSeg [] (joinPath names) := by
    simp [splitSeg]
  have hnd : needsDir (['/', 't', '/'] ++ joinPath names) = false := by
    -- what follows the last slash is one of the names
    obtain ⟨y, t, e, _, ht⟩ := last_seg (joinPath names) [] ['/', 't'] List.not_mem_nil
    rw [splitSeg_join names hne hs] at ht
    exact (show ['/', 't', '/'] ++ joinPath names = y ++ '/' :: t from e) ▸ needsDir_plain y t (h t ht)
  rw [World.get, if_pos hroot, hsplit, splitSeg_join names hne hs, walk_nil_seg,
    walk_plain w _ [] (allPlain_t names h), hnd]
  cases w.reachable [] (['t'] :: names) <;> rfl

/-- a trailing `/` or `/.` asks for a directory, and for nothing else -/
theorem get_triv (w : World) (p : Path) (t0 : Name) (ht : trivSeg t0) :
    w.get (p ++ '/' :: t0) = (w.get p).filter w.isDir := by
  have hs : '/' ∉ t0 := by rcases ht with rfl | rfl <;> decide
  have hnd : needsDir (p ++ '/' :: t0) = true := by
    rw [needsDir_last p t0 hs]; rcases ht with rfl | rfl <;> rfl
  unfold World.get
  rw [hnd]
  cases w.isDir [] with
  | false => rfl
  | true =>
    rw [if_pos rfl, if_pos rfl, splitSeg_slash, splitSeg_single t0 hs, walk_append]
    cases w.walk [] (splitSeg [] p) with
    | none => rfl
    | some k =>
      have hw : w.walk k [t0] = some k := by rw [World.walk, step_triv w k t0 ht]; rfl
      simp only [hw]
      cases needsDir p <;> cases hd : w.isDir k <;> simp [Option.filter, hd]

/-- `FileSystem::get` of `/t/n₁/…/nₖ/` for plain names: the same, and the node must be a directory -/
theorem get_plain_slash (w : World) (hroot : w.isDir [] = true) (names : List Name) (hne : names ≠ [])
    (h : ∀ n, n ∈ names → plainName n = true) :
    w.get (['/', 't', '/'] ++ (joinPath names ++ ['/']))
      = if w.reachable [] (['t'] :: names) && w.isDir (['t'] :: names) then some (['t'] :: names) else none := by
  rw [← List.append_assoc, get_triv w _ [] (.inl rfl), get_plain w hroot names hne h]
  cases w.reachable [] (['t'] :: names) <;> cases hd : w.isDir (['t'] :: names) <;> simp [Option.filter, hd]

theorem follow_succ (w : World) (fuel : Nat) (abs : Path) :
    w.follow (fuel + 1) abs =
      match w.get abs with
      | none => false
      | some key =>
        match w.kindAt key with
        | some (NodeKind.link target) => w.follow fuel (retarget abs target)
        | _ => true := rfl

theorem retarget_relative (x : Path) (n : Name) (hn : '/' ∉ n) (tgt : Path) (ht : tgt.head? ≠ some '/') :
    retarget (x ++ '/' :: n) tgt = x ++ '/' :: tgt := by
  have : ((x ++ ['/'] ++ n).reverse.dropWhile (· != '/')).reverse = x ++ ['/'] :=
    Common.rstrip_unique (fun c hc => bne_iff_ne.2 fun e : c = '/' => hn (e ▸ hc))
      (fun c hc => by simp at hc; subst hc; rfl)
  rw [retarget, if_neg (by simpa using ht), List.append_cons, this, List.append_assoc, List.singleton_append]

theorem absPath_rel (p : Path) (h : p.head? ≠ some '/') : absPath p = ['/', 't', '/'] ++ p := by
  rw [absPath, if_neg (by simpa using h)]

theorem and_64 (mode : Nat) : mode &&& 64 = 64 * (mode / 64 % 2) := by
  have hd : (mode &&& 64) / 64 = mode / 64 % 2 :=
    (Nat.and_div_two_pow (n := 6)).trans (Nat.and_one_is_mod _)
  have hm : (mode &&& 64) % 64 = 0 :=
    (Nat.and_mod_two_pow (n := 6)).trans (Nat.and_zero _)
  rw [← Nat.div_add_mod (mode &&& 64) 64, hd, hm]; rfl

/-- the generated permission test (`permissions.contains(Mode::USER_EXEC)`, mask 0o100) is "bit 6 of the
    mode is set" -/
theorem ownerSearch_bit (mode : Nat) : ownerSearch mode = (mode / 64 % 2 == 1) := by
  show (mode &&& 64 == 64) = _
  rw [and_64]
  rcases Nat.mod_two_eq_zero_or_one (mode / 64) with h | h <;> rw [h] <;> rfl

end YashModel.Glob
