/-
  C05 ∘ C04 — property theorems (★) and examples: pathname expansion with
  the matcher it really uses.  `fnMatcher` is the C04 model of yash-fnmatch under the `Config` of
  `to_pattern` (flags re-extracted from glob.rs: `Generated/GlobTables.lean`); the driver computes both
  of its columns with it.

  `PeriodRule` and `LiteralFaithful`, hypotheses of `Theorems.lean`, are theorems about `fnMatcher`; what a
  pattern component matches is C04's declarative POSIX Spec (`posixMatch`) plus the leading-period rule.
-/
import YashModel.Glob.Theorems
import YashModel.Glob.FnLemmas
namespace YashModel.Glob
open YashModel.Generated

/-- ★ the leading-period rule is a theorem about the composed model (for an arbitrary matcher: a hypothesis) -/
theorem fnMatcher_periodRule : PeriodRule fnMatcher := by
  intro pcs n hm hd
  have hdot := ((fnIsMatch_true_iff pcs n).mp hm).2.2 hd
  rw [astOf_eq] at hdot
  have := explicitDot_head _ hdot
  cases pcs with
  | nil => simp at this
  | cons pc t =>
    simp only [List.map_cons, List.head?_cons, Option.map_some, Option.some.injEq] at this ⊢
    rw [← convPc_charValue]; exact this

/-- ★ a component of quoted characters is the literal string (for an arbitrary matcher: a hypothesis) -/
theorem fnMatcher_literalFaithful : LiteralFaithful fnMatcher := by
  intro pcs h
  show fnKind pcs = _
  -- the tree of literal characters is those characters, and C04 compiles such a tree to the literal
  have hl : Fnmatch.toLiteral (astOf pcs) = some (pcs.map PatternChar.charValue) := by
    rw [astOf_eq, map_convPc_literal pcs h, Fnmatch.Proofs.parseAtoms_literals, Fnmatch.Proofs.toLiteral_chars]
  unfold fnKind
  rw [fnCompile_eq, Fnmatch.Proofs.fromAst_literal _ _ hl]
  rfl

/-- ★ **What a component matches**, from the pattern characters up: it compiles, the whole name matches
    it in POSIX pattern-matching notation (C04 Spec: grammar `specParse` + denotation `globMatch`), and a
    name with a leading period is matched only if the pattern begins with an explicit period character
    (XCU 2.13.3; quoted or not — not by `*`, `?` or a bracket expression). -/
theorem fnMatcher_isMatch_posix (pcs : List PatternChar) (n : Name) :
    fnMatcher.isMatch pcs n =
      ((fnCompile pcs).isSome && (Fnmatch.posixMatch (pcs.map convPc) n
        && (n.head? != some '.' || Fnmatch.explicitDot (Fnmatch.specParse (pcs.map convPc))))) :=
  fnIsMatch_eq pcs n

/-- ★ **How a component is classified**: unparsable iff it does not compile (never for a component
    inside POSIX's defined notation); a literal `s` iff its syntax tree consists of the ordinary
    characters `s` only; a pattern otherwise. -/
theorem fnMatcher_kind_spec (pcs : List PatternChar) :
    (fnMatcher.kind pcs = Kind.invalid ↔ fnCompile pcs = none) ∧
    (Fnmatch.astDefined (astOf pcs) = true → fnMatcher.kind pcs ≠ Kind.invalid) ∧
    (∀ s, fnMatcher.kind pcs = Kind.literal s ↔
      ((fnCompile pcs).isSome = true ∧ Fnmatch.toLiteral (astOf pcs) = some s)) ∧
    (fnMatcher.kind pcs = Kind.pattern ↔
      ((fnCompile pcs).isSome = true ∧ Fnmatch.toLiteral (astOf pcs) = none)) := by
  show (fnKind pcs = _ ↔ _) ∧ (_ → fnKind pcs ≠ _) ∧ (∀ s, fnKind pcs = _ ↔ _) ∧ (fnKind pcs = _ ↔ _)
  have hd := fnCompile_defined pcs
  rcases fnKind_cases pcs with ⟨h0, hk⟩ | ⟨p, s, hp, hl, hk⟩ | ⟨p, hp, hl, hk⟩
  · refine ⟨by simp [h0, hk], fun h => ?_, fun s => ?_, ?_⟩
    · have := hd h; rw [h0] at this; cases this
    · simp [hk, h0]
    · simp [hk, h0]
  · refine ⟨by simp [hp, hk], fun _ => by simp [hk], fun s' => ?_, by simp [hk, hl]⟩
    simp only [hk, Kind.literal.injEq, hp, Option.isSome_some, true_and, hl, Option.some.injEq]
  · refine ⟨by simp [hp, hk], fun _ => by simp [hk], fun s' => by simp [hk, hl], by simp [hk, hp, hl]⟩

/-- ★ **A quoted (or backslash-escaped, or hard-expansion) character in a component stands for itself,
    whatever precedes it** — unquoted `*`, `?`, runs of them, other characters: if the component is
    `pre ++ [quoted c] ++ post` and `pre` has no unquoted `[`, every matched name is `a ++ [c] ++ b` with
    `a` matched by `pre` and `b` by `post`.  (A parser that lets an unquoted `*` absorb a following
    *quoted* `*` — "skip the rest of the run of asterisks" by character value — matches names without
    that `c`.) -/
theorem quoted_char_literal_after_wildcards (pre post : List PatternChar) (c : Char)
    (hpre : ∀ pc, pc ∈ pre → pc ≠ PatternChar.normal '[') (n : Name)
    (h : fnMatcher.isMatch (pre ++ PatternChar.literal c :: post) n = true) :
    ∃ a b, n = a ++ c :: b ∧ Fnmatch.posixMatch (pre.map convPc) a = true
      ∧ Fnmatch.posixMatch (post.map convPc) b = true := by
  have hg := ((fnIsMatch_true_iff _ n).mp h).2.1
  unfold Fnmatch.globMatch at hg
  have hpre' : ∀ pc, pc ∈ pre.map convPc → pc ≠ Fnmatch.PatternChar.normal '[' := by
    intro pc hpc
    obtain ⟨q, hq, rfl⟩ := List.mem_map.mp hpc
    intro e
    apply hpre q hq
    cases q with
    | normal x => simp only [convPc, Fnmatch.PatternChar.normal.injEq] at e; rw [e]
    | literal x => simp [convPc] at e
  rw [astOf_eq, List.map_append, List.map_cons, parseAtoms_append_simple _ _ hpre'] at hg
  have hlit : Fnmatch.parseAtoms (convPc (PatternChar.literal c) :: post.map convPc)
      = Fnmatch.Atom.char c :: Fnmatch.parseAtoms (post.map convPc) := by
    rw [Fnmatch.parseAtoms_cons_simple _ _ (by simp [convPc])]
    simp [Fnmatch.headAtom, convPc, Fnmatch.PatternChar.charValue]
  rw [hlit] at hg
  obtain ⟨k, hk1, hk2⟩ := globAtoms_append_simple _ _ n hg
  cases hdrop : n.drop k with
  | nil => rw [hdrop] at hk2; simp [Fnmatch.globAtoms] at hk2
  | cons x b =>
    rw [hdrop] at hk2
    simp only [Fnmatch.globAtoms, Bool.and_eq_true, beq_iff_eq] at hk2
    refine ⟨n.take k, b, ?_, ?_, ?_⟩
    · rw [← hk2.1, ← hdrop, List.take_append_drop]
    · unfold Fnmatch.posixMatch Fnmatch.globMatch
      rw [← (Fnmatch.parser_is_grammar _).2, ← astOf_eq, astOf_simple pre hpre']; exact hk1
    · unfold Fnmatch.posixMatch Fnmatch.globMatch
      rw [← (Fnmatch.parser_is_grammar _).2]; exact hk2.2

/-- `*"*"` (also `*\*`, `*'*'`) only matches names that end in `*` -/
theorem star_then_quoted_star (n : Name)
    (h : fnMatcher.isMatch [PatternChar.normal '*', PatternChar.literal '*'] n = true) :
    n.getLast? = some '*' := by
  obtain ⟨a, b, e, _, hb⟩ := quoted_char_literal_after_wildcards [PatternChar.normal '*'] [] '*'
    (by intro pc hpc; simp at hpc; subst hpc; decide) n h
  have hb' : b = [] := by
    cases b with
    | nil => rfl
    | cons x t => simp [Fnmatch.posixMatch, Fnmatch.globMatch, Fnmatch.specParse, Fnmatch.globAtoms] at hb
  subst hb' e
  simp

-- non-vacuity: `*"*"` is a pattern, matches `a*` and `*`, not `a` or `ab`; `"*"*` matches `*a`, not `a*`
example : fnMatcher.kind [PatternChar.normal '*', PatternChar.literal '*'] = Kind.pattern
    ∧ fnMatcher.isMatch [PatternChar.normal '*', PatternChar.literal '*'] ['a', '*'] = true
    ∧ fnMatcher.isMatch [PatternChar.normal '*', PatternChar.literal '*'] ['*'] = true
    ∧ fnMatcher.isMatch [PatternChar.normal '*', PatternChar.literal '*'] ['a'] = false
    ∧ fnMatcher.isMatch [PatternChar.normal '*', PatternChar.literal '*'] ['a', 'b'] = false
    ∧ fnMatcher.isMatch [PatternChar.literal '*', PatternChar.normal '*'] ['*', 'a'] = true
    ∧ fnMatcher.isMatch [PatternChar.literal '*', PatternChar.normal '*'] ['a', '*'] = false := by
  simp only [fnMatcher, fnKind, fnIsMatch]
  rw [fnCompile_simple _ (by decide +kernel), fnCompile_simple _ (by decide +kernel)]
  decide +kernel

-- the leading-period rule and the classification on concrete components
example : fnMatcher.isMatch [PatternChar.normal '*'] ['.', 'h'] = false
    ∧ fnMatcher.isMatch [PatternChar.literal '.', PatternChar.normal '*'] ['.', 'h'] = true
    ∧ fnMatcher.isMatch [PatternChar.normal '.', PatternChar.normal '?'] ['.', 'h'] = true
    ∧ fnMatcher.isMatch [PatternChar.normal '?', PatternChar.normal 'h'] ['.', 'h'] = false
    ∧ fnMatcher.kind [PatternChar.literal '*'] = Kind.literal ['*']
    ∧ fnMatcher.kind [PatternChar.normal '\\', PatternChar.literal '*'] = Kind.literal ['\\', '*'] := by
  simp only [fnMatcher, fnKind, fnIsMatch]
  rw [fnCompile_simple _ (by decide +kernel), fnCompile_simple _ (by decide +kernel), fnCompile_simple _ (by decide +kernel),
    fnCompile_simple _ (by decide +kernel), fnCompile_simple _ (by decide +kernel), fnCompile_simple _ (by decide +kernel)]
  decide +kernel

-- … and on syntax trees with brackets: `[.]h` does not match `.h`; `[z-a]` does not compile
example :
    (match Fnmatch.Pattern.fromAst [.bracket ⟨false, [.atom (.char '.')]⟩, .char 'h'] globConfig with
     | .ok p => some (p.isMatch ['.', 'h'], p.isMatch ['x', 'h'])
     | .error _ => none) = some (false, false)
    ∧ (match Fnmatch.Pattern.fromAst [.bracket ⟨false, [.atom (.char '.'), .atom (.char 'x')]⟩, .char 'h'] globConfig with
     | .ok p => some (p.isMatch ['.', 'h'], p.isMatch ['x', 'h'])
     | .error _ => none) = some (false, true)
    ∧ (Fnmatch.Pattern.fromAst [.bracket ⟨false, [.range (.char 'z') (.char 'a')]⟩] globConfig).toOption.isNone := by
  decide +kernel

variable (fs : Fs) (field : List AttrChar)

/-- ★★ **The property with nothing assumed about the matcher.**  For every file system with consistent
    oracles, every field, both settings of `noglob`, pathname expansion with the C04 model of
    yash-fnmatch in the place of the real crate:
    1. with `noglob`, or when no pathname matches, returns the field itself, quotes removed;
    2. otherwise exactly the Spec's pathnames (none nonexistent, none omitted),
    3. as whole pathnames in strictly increasing byte order of their UTF-8 encodings,
    4. each existing and made of one name per component, with the clauses `posixNamesClauses`
       (POSIX pattern matching by C04's declarative Spec, leading period only by an explicit period). -/
theorem glob_property_posix (hwf : WF fs) (noglob : Bool) :
    ((noglob = true ∨ ∀ p, ¬ SpecMember fnMatcher fs field p) →
      glob fnMatcher fs noglob field = [removeQuotes field]) ∧
    (noglob = false → (∃ p, SpecMember fnMatcher fs field p) →
      (∀ p, p ∈ glob fnMatcher fs noglob field ↔ SpecMember fnMatcher fs field p) ∧
      (glob fnMatcher fs noglob field).Pairwise (fun a b => utf8Bytes a < utf8Bytes b) ∧
      (∀ p, p ∈ glob fnMatcher fs noglob field → fs.exist p = true ∧ ∃ names, p = joinPath names
        ∧ posixNamesClauses (splitComponents field).1 (splitComponents field).2 names)) := by
  exact ExactResult.clauses (glob_meets_spec fnMatcher fs field hwf noglob) fun p h =>
    have ⟨he, names, e, hc⟩ := specMember_clauses fnMatcher fs field fnMatcher_periodRule p h
    ⟨he, names, e, namesClauses_posix _ _ names hc⟩

/-- ★ quoted text is never a wildcard, for `fnMatcher` (whose `LiteralFaithful` is a theorem):
    a field all of whose characters are quoted or come from a hard expansion (tilde results) expands to
    itself, quotes removed, on every file system -/
theorem quoted_is_literal_posix (hq : FullyQuoted field) (hs : SlashNotQuoting field) (noglob : Bool) :
    glob fnMatcher fs noglob field = [removeQuotes field] :=
  quoted_is_literal fnMatcher fs field fnMatcher_literalFaithful hq hs noglob

/-- ★★ **What the driver prints, end to end.**  The driver computes with `mkMatcher (fnTab cands keys)`
    (the C04 model memoised on the component patterns `keys` of the case and a candidate set containing
    every dumped listing name) on `mkFs e l`.  Then: its model column *is* pathname expansion with
    `fnMatcher`; whenever `wfDump e l` holds (the only situation in which a Spec column is printed) the
    Spec column equals it, the dump satisfies `WF`, and every field's result meets `SpecResult` for
    `fnMatcher` — so `glob_property_posix` applies.  No hypothesis is left to trust, and no answer of
    the code under test enters either column. -/
theorem driver_fn_column (e : List Path) (l : List (Path × List Name)) (extra : List Name)
    (noglob : Bool) (mode : Mode) (fields : List (List AttrChar)) :
    let M := mkMatcher (fnTab (dedupNames (univOf l ++ extra)) (componentKeys fields))
    expandFields M (mkFs e l) noglob mode fields = expandFields fnMatcher (mkFs e l) noglob mode fields
    ∧ (wfDump e l = true →
        specFieldsU M (mkFs e l) (univOf l) noglob mode fields
            = expandFields fnMatcher (mkFs e l) noglob mode fields
        ∧ WF (mkFs e l)
        ∧ ∀ f, f ∈ fields → SpecResult fnMatcher (mkFs e l) noglob f (glob fnMatcher (mkFs e l) noglob f)) := by
  intro M
  have hcov : UnivCovers (mkFs e l) (dedupNames (univOf l ++ extra)) := by
    intro d ns hl n hn
    rw [mem_dedupNames]
    exact List.mem_append_left _ (univOf_covers e l d ns hl n hn)
  have hagree := fun f hf => fnTab_agree (dedupNames (univOf l ++ extra)) (mkFs e l) hcov fields f hf
  have h1 : expandFields M (mkFs e l) noglob mode fields = expandFields fnMatcher (mkFs e l) noglob mode fields :=
    expandFields_congr M fnMatcher (mkFs e l) noglob mode fields hagree
  refine ⟨h1, fun hwf => ?_⟩
  have hW := wfDump_sound e l hwf
  refine ⟨?_, hW, fun f _ => glob_meets_spec fnMatcher (mkFs e l) f hW noglob⟩
  rw [expandFields_eq_spec M (mkFs e l) hW (univOf l) (univOf_covers e l) noglob mode fields, h1]

/-- ★★ **The property from the inode table up, with nothing assumed**: in a good world, for every field
    and both settings of `noglob`, pathname expansion — transcribed `glob.rs`, C04 model of yash-fnmatch,
    world model of `FileSystem::get` / `fstatat` / `opendir` with mode bits — returns the quote-removed
    field when `noglob` is set or no pathname matches, and otherwise exactly the Spec's pathnames, as
    whole pathnames in strictly increasing UTF-8 byte order, each existing and made of one name per
    component with the POSIX clauses. -/
theorem world_glob_property (w : World) (h : goodWorld w = true) (field : List AttrChar) (noglob : Bool) :
    ((noglob = true ∨ ∀ p, ¬ SpecMember fnMatcher (fsOfWorld w) field p) →
      glob fnMatcher (fsOfWorld w) noglob field = [removeQuotes field]) ∧
    (noglob = false → (∃ p, SpecMember fnMatcher (fsOfWorld w) field p) →
      (∀ p, p ∈ glob fnMatcher (fsOfWorld w) noglob field ↔ SpecMember fnMatcher (fsOfWorld w) field p) ∧
      (glob fnMatcher (fsOfWorld w) noglob field).Pairwise (fun a b => utf8Bytes a < utf8Bytes b) ∧
      (∀ p, p ∈ glob fnMatcher (fsOfWorld w) noglob field → (fsOfWorld w).exist p = true ∧
        ∃ names, p = joinPath names
          ∧ posixNamesClauses (splitComponents field).1 (splitComponents field).2 names)) :=
  glob_property_posix (fsOfWorld w) field (wf_fsOfWorld w h) noglob

-- non-vacuity: the two-directory world is good with mode 0700 (owner-only search), not with 0070, and a
-- world with symbolic links is not good
example : goodWorld (w₀ 0o700) = true ∧ goodWorld (w₀ 0o755) = true ∧ goodWorld (w₀ 0o070) = false
    ∧ goodWorld wLinks = false := by decide +kernel

/-- an unquoted `*` alone: a pattern that matches exactly the names not starting with a period -/
theorem fnMatcher_star : fnMatcher.kind [PatternChar.normal '*'] = Kind.pattern ∧
    ∀ n, fnMatcher.isMatch [PatternChar.normal '*'] n = (n.head? != some '.') := by
  have hc := fnCompile_simple [PatternChar.normal '*'] (by decide)
  constructor
  · show fnKind _ = _
    unfold fnKind; rw [hc]; decide
  · intro n
    show fnIsMatch _ n = _
    have h1 : (fnCompile [PatternChar.normal '*']).isSome = true := by rw [hc]; decide
    have hast : astOf [PatternChar.normal '*'] = [Fnmatch.Atom.anyString] :=
      astOf_simple _ (by decide)
    have hg : Fnmatch.globMatch [Fnmatch.Atom.anyString] n = true := by
      simp only [Fnmatch.globMatch, Fnmatch.globAtoms, List.any_eq_true, List.mem_range]
      exact ⟨n.length, by omega, by simp⟩
    rw [fnIsMatch_eq, h1, hast]
    simp [Fnmatch.specPeriodMatch, hg, Fnmatch.explicitDot]

/-- end-to-end example from the inode table: `/t/priv` (mode 0700) and `/t/pub`, each holding `a`;
    `*/a` expands to `priv/a pub/a` — with the real matcher model (which agrees with `m₀` on these two
    components) and the world model; the search is evaluated, and since what it finds is strictly sorted it
    is the result (`glob_of_sorted_search`) -/
theorem w₀_star_slash_a : glob fnMatcher (fsOfWorld (w₀ 0o700)) false starSlashA = [['p','r','i','v','/','a'], ['p','u','b','/','a']] := by
  have hagree : MatcherAgree fnMatcher m₀ (fsOfWorld (w₀ 0o700))
      ((splitComponents starSlashA).1 :: (splitComponents starSlashA).2) := by
    intro c hc
    have hc' : c = star ∨ c = [{ value := 'a', origin := Origin.literal, isQuoted := false, isQuoting := false }] := by
      have : (splitComponents starSlashA).1 :: (splitComponents starSlashA).2
          = [star, [{ value := 'a', origin := Origin.literal, isQuoted := false, isQuoting := false }]] := by decide +kernel
      rw [this] at hc
      simpa using hc
    rcases hc' with e | e
    · subst e
      have : toPattern star = [PatternChar.normal '*'] := by decide +kernel
      rw [this]
      refine ⟨fnMatcher_star.1.trans (by decide +kernel), fun _ d ns _ n _ => ?_⟩
      rw [fnMatcher_star.2 n]; rfl
    · subst e
      refine ⟨?_, fun hk => ?_⟩
      · show fnKind _ = _
        have : toPattern [{ value := 'a', origin := Origin.literal, isQuoted := false, isQuoting := false }]
            = [PatternChar.normal 'a'] := by decide +kernel
        rw [this]
        unfold fnKind
        rw [fnCompile_simple _ (by decide +kernel)]
        decide
      · exact absurd hk (by decide +kernel)
  rw [glob_matcher_locality _ starSlashA fnMatcher m₀ false hagree]
  exact glob_of_sorted_search m₀ _ starSlashA (by decide +kernel) (by decide) (by unfold StrictSorted; decide +kernel)

-- non-vacuity of `world_glob_property` / `glob_property_posix`: in that good world `*/a` has members
example : ∃ p, SpecMember fnMatcher (fsOfWorld (w₀ 0o700)) starSlashA p := by
  refine ⟨['p','r','i','v','/','a'], ?_⟩
  have hm : ['p','r','i','v','/','a'] ∈ glob fnMatcher (fsOfWorld (w₀ 0o700)) false starSlashA := by
    rw [w₀_star_slash_a]; simp
  rcases glob_sound fnMatcher _ starSlashA (wf_fsOfWorld (w₀ 0o700) (by decide +kernel)) _ hm with h | ⟨h, _⟩
  · exact h
  · exact absurd h (by decide +kernel)

-- non-vacuity of the `astDefined` clause of `fnMatcher_kind_spec`: `*` is inside the defined notation
example : Fnmatch.astDefined (astOf [PatternChar.normal '*']) = true := by
  rw [astOf_simple _ (by decide)]; decide +kernel

/-- ★ the constants re-extracted from /repo on every run (`tools/tables/glob.py` →
    `Generated/GlobTables.lean`) are the ones the model is written with: the `Config` of `to_pattern`
    (both anchors, `literal_period`, nothing else — in particular no case folding, which the C04 model
    does not have), the escape character of `toPatternChars`, the separator of `splitAux` and of
    `pushComponent`, the names `searchStep` skips, the directory `dirPath` uses for the empty prefix.
    (The look-up bound and the search-permission mask are used by `World.lean` directly.) -/
theorem glob_tables_tie :
    globConfig = { anchorBegin := true, anchorEnd := true, literalPeriod := true, shortest := false }
    ∧ GlobTables.patCaseInsensitive = false
    ∧ GlobTables.escapeChar = '\\'
    ∧ GlobTables.separator = '/' ∧ GlobTables.pushedSeparator = '/'
    ∧ GlobTables.skippedNames = [dot, dotdot]
    ∧ GlobTables.emptyPrefixDir = dirPath []
    ∧ GlobTables.symloopMax = 8
    ∧ (∀ mode, ownerSearch mode = (mode / 64 % 2 == 1)) := by
  refine ⟨rfl, rfl, by decide, by decide, by decide, by decide, by decide, rfl, ownerSearch_bit⟩

end YashModel.Glob
