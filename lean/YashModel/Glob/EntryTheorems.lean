/-
  C05 — property theorems (★) and examples: file systems whose two oracles are not
  consistent — trees with symbolic links (dangling ones, loops) and directories the owner cannot search (the
  property's "with symlinks and unreadable directories"; the cases on which `wfDump` fails) — and the member
  predicate on the inode table; then the control constants of the code and the pre-sort order.
  Spec: `EntrySpec.lean` (`EntryMember`: pattern components match directory ENTRIES; only a final component
  that is not a pattern is checked with `fstatat`).
-/
import YashModel.Glob.FnTheorems
namespace YashModel.Glob

variable (m : Matcher) (fs : Fs) (field : List AttrChar)

/-- ★★ **`glob` meets the entry-based Spec on every file system whose listings are duplicate-free lists
    of valid names** — nothing is asked about how `exist` and `list` relate, so dangling links and
    unsearchable directories are covered: fallback exactly when `noglob` or no member; otherwise
    exactly the members, strictly sorted. -/
theorem glob_entry_exact (hL : ListingsOK fs) (noglob : Bool) :
    EntryResult m fs noglob field (glob m fs noglob field) :=
  glob_exact m fs field (search_finds_exactly_entries m fs field) (searchField_nodup m fs hL field) noglob

/-- … and that Spec determines the result -/
theorem entryResult_unique (noglob : Bool) (o₁ o₂ : List Path)
    (h₁ : EntryResult m fs noglob field o₁) (h₂ : EntryResult m fs noglob field o₂) : o₁ = o₂ :=
  ExactResult.unique (P := EntryMember m fs field) (fallback := removeQuotes field) h₁ h₂

/-- ★ the entry-based Spec generalises the Spec of `Spec.lean`: with consistent oracles the two
    notions of member coincide (so `glob_entry_exact` gives `glob_meets_spec` back) -/
theorem entryMember_iff_specMember (hwf : WF fs) (p : Path) :
    EntryMember m fs field p ↔ SpecMember m fs field p :=
  (search_finds_exactly_entries m fs field p).symm.trans (search_finds_exactly_spec m fs hwf field p)

theorem wf_implies_listingsOK_covering (hwf : WF fs) : ListingsOK fs ∧ Covering fs :=
  ⟨wf_listingsOK fs hwf, wf_covering fs hwf⟩

/-- ★★ **"never omits a matching one" without consistency**: if the listings cover what exists below
    them and existence is prefix-closed (`Covering` — true of EVERY world, `covering_fsOfWorld`), every
    pathname that exists (`fstatat`), matches component by component and has listable pattern parents is
    returned. -/
theorem glob_never_omits (hC : Covering fs) (p : Path) (h : SpecMember m fs field p) :
    p ∈ glob m fs false field := by
  have hm := specMember_mem_searchField m fs hC field p h
  have he : searchField m fs field ≠ [] := fun e => by rw [e] at hm; simp at hm
  rw [glob_on_eq, if_neg he, mem_sortPaths]
  exact hm

theorem entryMember_clauses (hL : ListingsOK fs) (hp : PeriodRule m) (p : Path) (h : EntryMember m fs field p) :
    (isWild m (lastComponent field) = false → fs.exist p = true) ∧
      ∃ names, p = joinPath names
        ∧ namesClauses m (splitComponents field).1 (splitComponents field).2 names := by
  obtain ⟨names, hw, e⟩ := h
  have hc := (ewitness_iff_chain m fs _ _ _ _).mp hw
  refine ⟨fun hlast => ?_, names, e, chain_clauses m hp (fun pre c n hpre => stepOK_compMatches m fs hL pre hpre c n) _ _ [] names
    prefixOK_nil hc⟩
  obtain ⟨q, n, eq, h | h⟩ := hc.last
  · rw [lastComponent] at hlast; rw [hlast] at h; cases h
  · rw [e, ← List.nil_append (joinPath names), eq]; exact h

/-- ★★ **The property, clause by clause, on every file system with `ListingsOK`** (links, unsearchable
    directories): 1. fallback exactly when `noglob` or no entry-based member; 2. otherwise exactly the
    members; 3. whole pathnames strictly increasing bytewise (UTF-8); 4. every returned pathname is one
    name per component with all the name clauses of `glob_property` (text of a non-pattern component; a
    non-empty slash-free name other than `.`/`..` that is matched, a leading period only for a component
    text starting with a period), and it EXISTS whenever the last component is not a pattern (a final
    pattern component returns directory entries as they are — a dangling link is returned). -/
theorem glob_entry_property (hL : ListingsOK fs) (hp : PeriodRule m) (noglob : Bool) :
    ((noglob = true ∨ ∀ p, ¬ EntryMember m fs field p) → glob m fs noglob field = [removeQuotes field]) ∧
    (noglob = false → (∃ p, EntryMember m fs field p) →
      (∀ p, p ∈ glob m fs noglob field ↔ EntryMember m fs field p) ∧
      (glob m fs noglob field).Pairwise (fun a b => utf8Bytes a < utf8Bytes b) ∧
      (∀ p, p ∈ glob m fs noglob field →
        (isWild m (lastComponent field) = false → fs.exist p = true) ∧
        ∃ names, p = joinPath names
          ∧ namesClauses m (splitComponents field).1 (splitComponents field).2 names)) :=
  ExactResult.clauses (glob_entry_exact m fs field hL noglob) (entryMember_clauses m fs field hL hp)

/-- the brute-force `specGlobE` meets the entry-based Spec (no hypothesis on the listings: it sorts and
    de-duplicates by itself) -/
theorem specGlobE_meets_spec (univ : List Name) (hU : UnivCovers fs univ) (noglob : Bool) :
    EntryResult m fs noglob field (specGlobE m fs univ noglob field) :=
  exactResult_of_found _ _ (specGlobE_found_iff m fs field univ hU) (sortDedup_strict _) (mem_sortDedup _)

theorem specGlobE_eq_glob (hL : ListingsOK fs) (univ : List Name) (hU : UnivCovers fs univ) (noglob : Bool) :
    specGlobE m fs univ noglob field = glob m fs noglob field :=
  entryResult_unique m fs field noglob _ _ (specGlobE_meets_spec m fs field univ hU noglob)
    (glob_entry_exact m fs field hL noglob)

theorem expandFields_eq_specE (hL : ListingsOK fs) (univ : List Name) (hU : UnivCovers fs univ)
    (noglob : Bool) (mode : Mode) (fields : List (List AttrChar)) :
    specFieldsE m fs univ noglob mode fields = expandFields m fs noglob mode fields := by
  cases mode with
  | single => rfl
  | multiple => exact flatMap_congr_mem fun f _ => specGlobE_eq_glob m fs f hL univ hU noglob

/-- ★★ **What the driver prints when `wfDump` fails** (links, unsearchable directories): whenever
    `lwfDump l` holds its Spec column `specFieldsE` (memoised C04 matcher) equals pathname expansion with
    `fnMatcher` on the dump, the dump satisfies `ListingsOK`, and every field's result meets
    `EntryResult fnMatcher`.  With `driver_fn_column`: every case whose listings pass `lwfDump` has a proved
    Spec column (for any other the driver prints none). -/
theorem driver_entry_column (e : List Path) (l : List (Path × List Name)) (extra : List Name)
    (noglob : Bool) (mode : Mode) (fields : List (List AttrChar)) (hl : lwfDump l = true) :
    let M := mkMatcher (fnTab (dedupNames (univOf l ++ extra)) (componentKeys fields))
    specFieldsE M (mkFs e l) (univOf l) noglob mode fields
        = expandFields fnMatcher (mkFs e l) noglob mode fields
      ∧ ListingsOK (mkFs e l)
      ∧ ∀ f, f ∈ fields → EntryResult fnMatcher (mkFs e l) noglob f (glob fnMatcher (mkFs e l) noglob f) := by
  intro M
  have h1 := (driver_fn_column e l extra noglob mode fields).1
  have hL := lwfDump_sound e l hl
  refine ⟨?_, hL, fun f _ => glob_entry_exact fnMatcher (mkFs e l) f hL noglob⟩
  rw [expandFields_eq_specE M (mkFs e l) hL (univOf l) (univOf_covers e l) noglob mode fields]
  exact h1

/-- a consistent dump passes the weaker check too (so `specFieldsE` is defined wherever `specFieldsU` is) -/
theorem wfDump_implies_lwfDump (e : List Path) (l : List (Path × List Name)) (h : wfDump e l = true) :
    lwfDump l = true := by
  simp only [wfDump, Bool.and_eq_true, List.all_eq_true] at h
  simp only [lwfDump, List.all_eq_true]
  intro x hx
  have := h.1 x hx
  cases hp : preOfDir x.1 with
  | none => rfl
  | some pre =>
    rw [hp] at this
    simp only [Bool.and_eq_true, List.all_eq_true] at this ⊢
    exact ⟨this.1.1, fun n hn => (this.1.2 n hn).1⟩

/-- ★★ listings of EVERY tidy world (`tidyWorld`, decidable: unique keys, plain names — any symbolic
    links, any directory modes) are duplicate-free lists of valid names, for every prefix the search
    can build -/
theorem listingsOK_fsOfWorld (w : World) (h : tidyWorld w = true) : ListingsOK (fsOfWorld w) := by
  simp only [tidyWorld, Bool.and_eq_true, List.all_eq_true] at h
  exact listingsOK_of_tidy w (nodupKeys_nodup _ h.1) fun x hx n hn => h.2 x hx n hn

/-- ★★ **The property from the inode table up for every tidy world** — symbolic links (dangling, chains,
    loops) and directories of any mode included; C04 matcher model, world model of the look-up:
    `glob_entry_property` with the POSIX name clauses. -/
theorem world_glob_entry_property (w : World) (h : tidyWorld w = true) (field : List AttrChar) (noglob : Bool) :
    ((noglob = true ∨ ∀ p, ¬ EntryMember fnMatcher (fsOfWorld w) field p) →
      glob fnMatcher (fsOfWorld w) noglob field = [removeQuotes field]) ∧
    (noglob = false → (∃ p, EntryMember fnMatcher (fsOfWorld w) field p) →
      (∀ p, p ∈ glob fnMatcher (fsOfWorld w) noglob field ↔ EntryMember fnMatcher (fsOfWorld w) field p) ∧
      (glob fnMatcher (fsOfWorld w) noglob field).Pairwise (fun a b => utf8Bytes a < utf8Bytes b) ∧
      (∀ p, p ∈ glob fnMatcher (fsOfWorld w) noglob field →
        (isWild fnMatcher (lastComponent field) = false → (fsOfWorld w).exist p = true) ∧
        ∃ names, p = joinPath names
          ∧ posixNamesClauses (splitComponents field).1 (splitComponents field).2 names)) := by
  have hL := listingsOK_fsOfWorld w h
  exact ExactResult.clauses (glob_entry_exact fnMatcher (fsOfWorld w) field hL noglob) fun p hm =>
    have ⟨he, names, e, hc⟩ := entryMember_clauses fnMatcher (fsOfWorld w) field hL fnMatcher_periodRule p hm
    ⟨he, names, e, namesClauses_posix _ _ names hc⟩

/-- ★★ **never omits, in every world**: whatever exists, matches component by component and has listable
    pattern parents is returned — links and unsearchable directories included, nothing assumed but that
    `/t` exists -/
theorem world_never_omits (w : World) (hcwd : (fsOfWorld w).exist [] = true) (field : List AttrChar)
    (p : Path) (h : SpecMember fnMatcher (fsOfWorld w) field p) :
    p ∈ glob fnMatcher (fsOfWorld w) false field :=
  glob_never_omits fnMatcher (fsOfWorld w) field (covering_fsOfWorld w hcwd) p h

open YashModel.Generated in
/-- ★ the control constants of the search, re-extracted from glob.rs on every run, are the ones
    the model is written with: which arms of `search_dir` hand `file_exists = true` to `push_component`
    (only the pattern arm: a listed name is not checked again, a literal or unparsable component is
    checked with `fstatat` at the end), the names a scan skips, that `file_exists` follows symbolic
    links, and that the final sort is ascending.  Each clause states the model's definition with the
    generated constant in the place of the hand-written one. -/
theorem glob_control_tie (m : Matcher) (fs : Fs) (c : List AttrChar) (next : Option (Path → List Path))
    (pre : Path) (w : World) (p : Path) (l : List Path) :
    searchStep m fs c next pre =
      (match m.kind (toPattern c) with
       | Kind.invalid => pushComponent fs next pre GlobTables.assumeExistInvalid (removeQuotes c)
       | Kind.literal s => pushComponent fs next pre GlobTables.assumeExistLiteral s
       | Kind.pattern =>
         match fs.list (dirPath pre) with
         | none => []
         | some ns =>
           (ns.filter (fun n => !GlobTables.skippedNames.contains n && m.isMatch (toPattern c) n)).flatMap
             (fun n => pushComponent fs next pre GlobTables.assumeExistPattern n))
    ∧ (fsOfWorld w).exist p = (!p.contains '\x00' &&
        if GlobTables.existFollowsLinks then w.follow GlobTables.symloopMax (absPath p)
        else (w.get (absPath p)).isSome)
    ∧ sortPaths l = l.mergeSort (fun a b => if GlobTables.sortAscending then pathLe a b else pathLe b a) := by
  refine ⟨?_, rfl, rfl⟩
  unfold searchStep
  simp only []
  cases m.kind (toPattern c) with
  | invalid => rfl
  | literal s => rfl
  | pattern =>
    simp only []
    cases fs.list (dirPath pre) with
    | none => rfl
    | some ns =>
      simp only []
      congr 1
      apply List.filter_congr
      intro n _
      -- `skippedNames.contains n` unfolds to `n == dot || (n == dotdot || false)`
      show (!(n == dot) && !(n == dotdot) && _) = (!((n == dot) || ((n == dotdot) || false)) && _)
      cases (n == dot) <;> cases (n == dotdot) <;> rfl

-- the world with link chains and dangling links is tidy (not good); so is one with an unsearchable directory
example : tidyWorld wLinks = true ∧ goodWorld wLinks = false
    ∧ tidyWorld (w₀ 0o644) = true ∧ goodWorld (w₀ 0o644) = false := by decide +kernel
example : (fsOfWorld wLinks).exist [] = true ∧ (fsOfWorld (w₀ 0o644)).exist [] = true := by decide +kernel

/-- the unquoted word `*/*` -/
def starSlashStar : List AttrChar :=
  ['*', '/', '*'].map (fun c => { value := c, origin := Origin.literal, isQuoted := false, isQuoting := false })

/-- the unquoted word `priv/*` -/
def privSlashStar : List AttrChar :=
  ['p', 'r', 'i', 'v', '/', '*'].map
    (fun c => { value := c, origin := Origin.literal, isQuoted := false, isQuoting := false })

-- `*/l` with the literal last component: the dangling `f/l` is not a member, `e/l` is
example : EntryMember m₀ (fsOfWorld wLinks) starSlashL ['e', '/', 'l'] := ⟨[['e'], ['l']], by decide +kernel, rfl⟩
example : ¬ EntryMember m₀ (fsOfWorld wLinks) starSlashL ['f', '/', 'l'] := by
  intro h
  have := (search_finds_exactly_entries m₀ _ starSlashL _).mpr h
  revert this; decide +kernel
-- `*/*` with the pattern last component: the dangling `f/l` IS a member although it does not exist, and
-- it is not a `SpecMember`: the two Specs really differ here
example : EntryMember m₀ (fsOfWorld wLinks) starSlashStar ['f', '/', 'l']
    ∧ (fsOfWorld wLinks).exist ['f', '/', 'l'] = false
    ∧ ¬ SpecMember m₀ (fsOfWorld wLinks) starSlashStar ['f', '/', 'l'] := by
  refine ⟨⟨[['f'], ['l']], by decide +kernel, rfl⟩, by decide +kernel, ?_⟩
  rintro ⟨names, hw, e⟩
  have := witness_exist m₀ _ _ _ [] names hw
  rw [List.nil_append, ← e] at this
  revert this; decide +kernel
-- a directory without search permission (0644) can be listed: `priv/*` returns `priv/a`, which `fstatat`
-- cannot reach; `*/a` does not return it
example : EntryMember m₀ (fsOfWorld (w₀ 0o644)) privSlashStar ['p','r','i','v','/','a']
    ∧ (fsOfWorld (w₀ 0o644)).exist ['p','r','i','v','/','a'] = false := by
  exact ⟨⟨[['p','r','i','v'], ['a']], by decide +kernel, rfl⟩, by decide +kernel⟩
example : searchField m₀ (fsOfWorld (w₀ 0o644)) starSlashA = [['p','u','b','/','a']] := by decide +kernel
-- `lastComponent`, and the clause "exists when the last component is not a pattern" is not vacuous
example : isWild m₀ (lastComponent starSlashL) = false ∧ isWild m₀ (lastComponent starSlashStar) = true := by
  decide +kernel
example : lwfDump [(['.'], [['a'], ['b']]), (['d', '/'], [['l']])] = true
    ∧ wfDump [['a']] [(['.'], [['a'], ['b']])] = false
    ∧ lwfDump [(['.'], [['a'], ['a']])] = false ∧ lwfDump [(['.'], [['a', '/', 'b']])] = false := by decide +kernel
-- `Covering` holds where `WF` fails: `f/l` is listed in `f/` but does not exist
example : ∃ ns, (fsOfWorld wLinks).list ['f', '/'] = some ns ∧ ['l'] ∈ ns
    ∧ (fsOfWorld wLinks).exist ['f', '/', 'l'] = false :=
  ⟨[dot, dotdot, ['a'], ['l']], by decide +kernel, by decide +kernel, by decide +kernel⟩

/-- a directory `/t/c` holding a file `f` and links `l1 -> f`, `l2 -> l1`, …, `l9 -> l8` -/
def wChain : World where
  entries := [([], NodeKind.dir 0o755), ([['t']], NodeKind.dir 0o755), ([['t'], ['c']], NodeKind.dir 0o755),
    ([['t'], ['c'], ['f']], NodeKind.file),
    ([['t'], ['c'], ['l', '1']], NodeKind.link ['f']),
    ([['t'], ['c'], ['l', '2']], NodeKind.link ['l', '1']),
    ([['t'], ['c'], ['l', '3']], NodeKind.link ['l', '2']),
    ([['t'], ['c'], ['l', '4']], NodeKind.link ['l', '3']),
    ([['t'], ['c'], ['l', '5']], NodeKind.link ['l', '4']),
    ([['t'], ['c'], ['l', '6']], NodeKind.link ['l', '5']),
    ([['t'], ['c'], ['l', '7']], NodeKind.link ['l', '6']),
    ([['t'], ['c'], ['l', '8']], NodeKind.link ['l', '7']),
    ([['t'], ['c'], ['l', '9']], NodeKind.link ['l', '8'])]
  fdFree := true

-- the bound at its boundary: a chain of 7 links is followed (8 look-ups), a chain of 8 is not; and the
-- entry-based Spec lists all of them for a final pattern component
example : (fsOfWorld wChain).exist ['c', '/', 'l', '7'] = true
    ∧ (fsOfWorld wChain).exist ['c', '/', 'l', '8'] = false
    ∧ (fsOfWorld wChain).exist ['c', '/', 'l', '9'] = false
    ∧ tidyWorld wChain = true := by decide +kernel

/-- ★ what a listing is, at the level of the inode table, in EVERY world: the directory named by the
    path can be looked up, is a directory, a descriptor is free (no read permission is asked), and the
    listed names are `.`, `..` and exactly the names that have an inode below that directory — so every
    name an `EntryMember` takes from a listing is a real directory entry (a file, a directory or a
    symbolic link, dangling or not). -/
theorem world_listing_is_entries (w : World) (d : Path) (ns : List Name)
    (h : (fsOfWorld w).list d = some ns) :
    ∃ key, w.get (absPath d) = some key ∧ w.isDir key = true ∧ w.fdFree = true ∧
      ∀ n, n ∈ ns ↔ (n = dot ∨ n = dotdot ∨ (w.kindAt (key ++ [n])).isSome = true) := by
  obtain ⟨_, hf, key, hg, hd, rfl⟩ := (list_eq_some_iff w d ns).mp h
  exact ⟨key, hg, hd, hf, fun n => by simp only [List.mem_cons, mem_children]⟩

example : ∃ ns, (fsOfWorld wChain).list ['c', '/'] = some ns ∧ ['l', '9'] ∈ ns :=
  ⟨[dot, dotdot, ['f'], ['l','1'], ['l','2'], ['l','3'], ['l','4'], ['l','5'], ['l','6'], ['l','7'], ['l','8'],
    ['l','9']], by decide +kernel, by decide +kernel⟩

theorem inodeMember_iff_entryMember (m : Matcher) (w : World) (field : List AttrChar) (p : Path) :
    InodeMember m w field p ↔ EntryMember m (fsOfWorld w) field p := by
  unfold InodeMember EntryMember
  simp only [inodeWitness_iff_chain, ewitness_iff_chain]

theorem inodeResult_iff_entryResult (m : Matcher) (w : World) (noglob : Bool) (field : List AttrChar)
    (out : List Path) : InodeResult m w noglob field out ↔ EntryResult m (fsOfWorld w) noglob field out := by
  unfold InodeResult EntryResult
  simp only [inodeMember_iff_entryMember]

/-- ★★★ **End to end, in one line.**  For every tidy world (inode table with unique keys and plain names:
    files, directories of any mode, symbolic links of any kind), every field, both settings of `noglob`:
    a list `out` is the strictly sorted (bytewise) list of exactly the pathnames `p` with
    `InodeMember fnMatcher w field p` — or `[field with quotes removed]` when `noglob` is set or there is
    no member — **iff** it is what pathname expansion returns (transcribed `glob.rs` + C04 model of
    yash-fnmatch + world model of `FileSystem::get`/`fstatat`/`opendir`).  The member predicate is read
    off the inode table: `World.entryAt` (`world_listing_is_entries`) and `World.resolves`
    (`world_follow_hop`, `world_follow_mono`). -/
theorem world_glob_end_to_end (w : World) (h : tidyWorld w = true) (field : List AttrChar) (noglob : Bool)
    (out : List Path) :
    InodeResult fnMatcher w noglob field out ↔ out = glob fnMatcher (fsOfWorld w) noglob field := by
  rw [inodeResult_iff_entryResult]
  have hg := glob_entry_exact fnMatcher (fsOfWorld w) field (listingsOK_fsOfWorld w h) noglob
  constructor
  · intro ho
    exact entryResult_unique fnMatcher (fsOfWorld w) field noglob _ _ ho hg
  · intro e
    rw [e]; exact hg

/-- what `World.entryAt` and `World.resolves` say, unfolded once: an entry is `.`, `..` or a name with an
    inode below the directory the prefix resolves to (free descriptor, directory, no read bit); a pathname
    whose look-up ends at a link with target `tgt` resolves iff the retargeted path does with one look-up
    less — the link's own directory, not the first link's -/
theorem inode_member_unfolded (w : World) :
    (∀ pre n, w.entryAt pre n = true ↔
      (dirPath pre).contains '\x00' = false ∧ w.fdFree = true ∧
        ∃ key, w.get (absPath (dirPath pre)) = some key ∧ w.isDir key = true ∧
          (n = dot ∨ n = dotdot ∨ (w.kindAt (key ++ [n])).isSome = true))
    ∧ (∀ p, w.resolves p = (fsOfWorld w).exist p)
    ∧ (∀ fuel x n key tgt, '/' ∉ n → w.get (x ++ '/' :: n) = some key →
        w.kindAt key = some (NodeKind.link tgt) →
        w.follow (fuel + 1) (x ++ '/' :: n)
          = w.follow fuel (if tgt.head? = some '/' then tgt else x ++ '/' :: tgt)) :=
  ⟨entryAt_iff w, fun p => rfl, fun fuel x n key tgt hn hg hk => world_follow_hop w fuel x n hn key tgt hg hk⟩

-- non-vacuity on the world with link chains: `*/l` has exactly the member `e/l`; `*/*` has the dangling `f/l`
example : InodeMember m₀ wLinks starSlashL ['e', '/', 'l'] := ⟨[['e'], ['l']], by decide +kernel, rfl⟩
example : InodeMember m₀ wLinks starSlashStar ['f', '/', 'l'] ∧ wLinks.resolves ['f', '/', 'l'] = false :=
  ⟨⟨[['f'], ['l']], by decide +kernel, rfl⟩, by decide +kernel⟩
example : wLinks.entryAt ['f', '/'] ['l'] = true ∧ wLinks.entryAt ['f', '/'] ['z'] = false
    ∧ (w₀ 0o644).entryAt ['p','r','i','v','/'] ['a'] = true
    ∧ (w₀ 0o644).resolves ['p','r','i','v','/','a'] = false := by decide +kernel

/-- ★ **The order of the results before the final sort does not matter** (it cannot be observed:
    `SearchEnv` is private): whatever order `search_dir` finds the pathnames in — appended or prepended,
    directories read front to back or not — sorting any rearrangement of them gives the same list.  So
    `sort_unstable_by` is as good as a stable sort, and nothing about the property hides in that order. -/
theorem presort_order_irrelevant (m : Matcher) (fs : Fs) (hL : ListingsOK fs) (field : List AttrChar)
    (l' : List Path) (hp : l'.Perm (searchField m fs field)) :
    sortPaths l' = sortPaths (searchField m fs field) := by
  have hnd := searchField_nodup m fs hL field
  have hnd' : l'.Nodup := hp.nodup_iff.mpr hnd
  apply strictSorted_ext _ _ (sortPaths_strict _ hnd') (sortPaths_strict _ hnd)
  intro p
  rw [mem_sortPaths, mem_sortPaths]
  exact hp.mem_iff

open YashModel.Generated in
/-- ★ second part of the control tie: the model's `opendir` (`fsOfWorld.list`) restated with the constants
    re-extracted from `VirtualSystem::opendir` / `resolve_file` on every run — a free descriptor is needed,
    a directory is needed, and NO permission bit of the directory is asked for (mask 0: in particular not
    the read bit) —, and found pathnames are appended in reading order (which `searchStep`'s `flatMap`
    over the listing transcribes) -/
theorem glob_control_tie_opendir (w : World) (d : Path) :
    (fsOfWorld w).list d =
      (if d.contains '\x00' || (GlobTables.opendirNeedsFreeFd && !w.fdFree) then none
       else match w.get (absPath d) with
         | some key =>
           if !GlobTables.opendirNeedsDirectory || w.isDir key then some (dot :: dotdot :: w.children key)
           else none
         | none => none)
    ∧ GlobTables.opendirPermissionMask = 0
    ∧ GlobTables.resultsAppended = true := by
  refine ⟨?_, rfl, rfl⟩
  simp only [fsOfWorld, GlobTables.opendirNeedsFreeFd, GlobTables.opendirNeedsDirectory, Bool.true_and,
    Bool.not_true, Bool.false_or]
  rfl

-- non-vacuity: a rearranged result list
example : [['b'], ['a']].Perm (searchField m₀ fs₀ star) := by
  rw [show searchField m₀ fs₀ star = [['a'], ['b']] by decide +kernel]
  exact List.Perm.swap _ _ _

end YashModel.Glob
