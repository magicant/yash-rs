/-
  C05 — the consistency hypothesis `WF` of the two oracles, *proved* for the oracles derived from an
  inode table (`fsOfWorld`), for arbitrary prefixes as the search builds them (empty components, `.`,
  `..`, absolute paths included):
  * existence is prefix-closed in EVERY world whose working directory exists (links, unsearchable
    directories and all) — a look-up cannot pass through anything but a directory;
  * whatever exists below a listable prefix is listed, in every world (`Covering`);
  * a listing is a duplicate-free list of valid names in every `tidyWorld` (decidable: unique keys, plain
    names; `ListingsOK`);
  * every listed name exists in every `goodWorld` (moreover: no symbolic links, every directory
    searchable by its owner) — the three together are `WF`.
  At the end: the member predicate read off the inode table is the entry-based one over the derived oracles
  (`inodeWitness_iff_chain`).
-/
import YashModel.Glob.WorldLemmas
import YashModel.Glob.Oracles
import YashModel.Common.Lists
namespace YashModel.Glob
open YashModel.Generated

theorem get_some_iff (w : World) (abs : Path) (key : List Name) :
    w.get abs = some key ↔
      w.isDir [] = true ∧ w.walk [] (splitSeg [] abs) = some key ∧ (needsDir abs = true → w.isDir key = true) := by
  unfold World.get
  cases w.isDir [] with
  | false => exact ⟨nofun, fun h => nomatch h.1⟩
  | true =>
    rw [if_pos rfl]
    cases w.walk [] (splitSeg [] abs) with
    | none => exact ⟨nofun, fun h => nomatch h.2.1⟩
    | some k =>
      -- the walk ended at `k`: `get` answers `k`, unless the path asks for a directory and `k` is none
      show (if (needsDir abs && !w.isDir k) = true then none else some k) = some key ↔ _
      by_cases hd : (needsDir abs && !w.isDir k) = true
      · rw [if_pos hd]
        simp only [Bool.and_eq_true, Bool.not_eq_true'] at hd
        refine ⟨nofun, fun ⟨_, e, h⟩ => ?_⟩
        cases e
        rw [h hd.1] at hd; exact nomatch hd.2
      · rw [if_neg hd]
        simp only [Bool.and_eq_true, Bool.not_eq_true', not_and, Bool.not_eq_false] at hd
        exact ⟨fun e => by cases e; exact ⟨rfl, rfl, hd⟩, fun h => h.2.1⟩

theorem searchable_isDir (w : World) (k : List Name) (h : w.searchable k = true) : w.isDir k = true :=
  (isDir_iff w k).mpr (((searchable_iff w k).mp h).imp fun _ h => h.1)

theorem step_some (w : World) (k : List Name) (seg : Name) (k' : List Name) (h : w.step k seg = some k') :
    (trivSeg seg ∧ k' = k) ∨ (seg = dotdot ∧ w.isDir k = true) ∨
      (w.searchable k = true ∧ (w.kindAt (k ++ [seg])).isSome = true) := by
  unfold World.step at h
  by_cases h1 : (seg == [] || seg == dot) = true
  · rw [if_pos h1, Option.some.injEq] at h
    simp only [Bool.or_eq_true, beq_iff_eq] at h1
    exact .inl ⟨h1, h.symm⟩
  rw [if_neg h1] at h
  by_cases h2 : (seg == dotdot) = true
  · rw [if_pos h2] at h
    by_cases hd : w.isDir k = true
    · exact .inr (.inl ⟨beq_iff_eq.mp h2, hd⟩)
    · rw [if_neg hd] at h; cases h
  rw [if_neg h2] at h
  by_cases h3 : (w.searchable k && (w.kindAt (k ++ [seg])).isSome) = true
  · exact .inr (.inr (Bool.and_eq_true _ _ ▸ h3))
  · rw [if_neg h3] at h; cases h

theorem walk_dir_or_triv (w : World) : ∀ (segs : List Name) (k key : List Name),
    w.walk k segs = some key → w.isDir k = true ∨ (key = k ∧ ∀ s, s ∈ segs → trivSeg s) := by
  intro segs
  induction segs with
  | nil =>
    intro k key h
    simp only [World.walk, Option.some.injEq] at h
    exact Or.inr ⟨h.symm, fun s hs => by cases hs⟩
  | cons seg rest ih =>
    intro k key h
    simp only [World.walk] at h
    cases hs : w.step k seg with
    | none => rw [hs] at h; cases h
    | some k2 =>
      rw [hs] at h
      rcases step_some w k seg k2 hs with ⟨ht, e⟩ | ⟨_, hd⟩ | ⟨hd, _⟩
      · subst e
        rcases ih k2 key h with hd | ⟨e, hall⟩
        · exact Or.inl hd
        · refine Or.inr ⟨e, fun s hs' => ?_⟩
          rcases List.mem_cons.mp hs' with e' | e'
          · subst e'; exact ht
          · exact hall s e'
      · exact Or.inl hd
      · exact Or.inl (searchable_isDir w k hd)

/-- if everything after a slash is dropped by `Path::components`, the path ends in `/` or `/.` -/
theorem needsDir_triv (q X : Path) (h : ∀ s, s ∈ splitSeg [] q → trivSeg s) :
    needsDir (X ++ '/' :: q) = true := by
  obtain ⟨Y, t, e, ht, hm⟩ := last_seg q [] X List.not_mem_nil
  rw [List.reverse_nil, List.nil_append] at e
  rw [e, needsDir_last Y t ht]
  rcases h t hm with rfl | rfl <;> rfl

theorem absPath_append (c : Char) (cs q : Path) : absPath ((c :: cs) ++ q) = absPath (c :: cs) ++ q := by
  unfold absPath
  by_cases hc : c = '/'
  · subst hc; rfl
  · have h : (some c == some '/') = false := by simpa using hc
    rw [List.cons_append, List.head?_cons, List.head?_cons, h]; rfl

theorem isDir_not_link (w : World) (k : List Name) (h : w.isDir k = true) :
    ∀ t, w.kindAt k ≠ some (NodeKind.link t) := by
  obtain ⟨m, hm⟩ := (isDir_iff w k).mp h
  intro t e
  rw [hm] at e
  cases e

theorem follow_of_get (w : World) (fuel : Nat) (abs : Path) (key : List Name) (hg : w.get abs = some key)
    (hl : ∀ t, w.kindAt key ≠ some (NodeKind.link t)) : w.follow (fuel + 1) abs = true := by
  rw [follow_succ, hg]
  show (match w.kindAt key with
    | some (NodeKind.link target) => w.follow fuel (retarget abs target)
    | _ => true) = true
  cases hk : w.kindAt key with
  | none => rfl
  | some kd =>
    cases kd with
    | link t => exact absurd hk (hl t)
    | file => rfl
    | dir m => rfl

theorem get_of_follow (w : World) : ∀ (fuel : Nat) (abs : Path), w.follow fuel abs = true →
    ∃ key, w.get abs = some key
  | 0, _, h => nomatch h
  | fuel + 1, abs, h => by
    rw [follow_succ] at h
    cases hg : w.get abs with
    | none => rw [hg] at h; cases h
    | some key => exact ⟨key, rfl⟩

theorem exist_of_get (w : World) (p : Path) (hn : p.contains '\x00' = false) (key : List Name)
    (hg : w.get (absPath p) = some key) (hl : ∀ t, w.kindAt key ≠ some (NodeKind.link t)) :
    (fsOfWorld w).exist p = true := by
  simp only [fsOfWorld, hn, Bool.not_false, Bool.true_and]
  -- `GlobTables.symloopMax` unfolds to 8 = 7 + 1 (any bound but 0 would do; another re-extracted value breaks this line)
  exact follow_of_get w 7 _ key hg hl

theorem get_of_exist (w : World) (p : Path) (h : (fsOfWorld w).exist p = true) :
    p.contains '\x00' = false ∧ ∃ key, w.get (absPath p) = some key := by
  simp only [fsOfWorld, Bool.and_eq_true, Bool.not_eq_true'] at h
  exact ⟨h.1, get_of_follow w _ _ h.2⟩

/-- ★ **Existence is prefix-closed in every world whose working directory exists** — symbolic links,
    dangling links, loops, directories without search permission included: a look-up passes through
    directories only, and a trailing `/` or `/.` demands one (second clause of `WF`, proved for the
    world model instead of decided per case). -/
theorem world_exist_prefix_closed (w : World) (hcwd : (fsOfWorld w).exist [] = true) (p q : Path)
    (h : (fsOfWorld w).exist (p ++ '/' :: q) = true) : (fsOfWorld w).exist p = true := by
  cases p with
  | nil => exact hcwd
  | cons c cs =>
    obtain ⟨hnul, key, hg⟩ := get_of_exist w _ h
    rw [absPath_append] at hg
    obtain ⟨hroot, hw, hnd⟩ := (get_some_iff w _ key).mp hg
    rw [splitSeg_slash, walk_append] at hw
    cases hw1 : w.walk [] (splitSeg [] (absPath (c :: cs))) with
    | none => rw [hw1] at hw; cases hw
    | some k1 =>
      rw [hw1] at hw
      have hd : w.isDir k1 = true := by
        rcases walk_dir_or_triv w _ k1 key hw with hd | ⟨e, hall⟩
        · exact hd
        · subst e
          exact hnd (needsDir_triv q _ hall)
      have hnul' : (c :: cs).contains '\x00' = false := by
        simp only [List.contains_eq_mem, decide_eq_false_iff_not] at hnul ⊢
        intro hm
        exact hnul (List.mem_append_left _ hm)
      exact exist_of_get w (c :: cs) hnul' k1
        ((get_some_iff w _ k1).mpr ⟨hroot, hw1, fun _ => hd⟩) (isDir_not_link w k1 hd)

theorem nodupKeys_nodup (l : List (List Name)) (h : nodupKeys l = true) : l.Nodup :=
  (Common.nodupB_iff nodupKeys rfl (fun _ _ => rfl) l).1 h

theorem kindAt_mem (w : World) (k : List Name) (kd : NodeKind) (h : w.kindAt k = some kd) :
    (k, kd) ∈ w.entries := by
  unfold World.kindAt at h
  obtain ⟨⟨a, b⟩, hx, rfl⟩ := Option.map_eq_some_iff.mp h
  have hk : a = k := by simpa using List.find?_some hx
  exact hk ▸ List.mem_of_find?_eq_some hx

theorem kindAt_isSome_of_mem (w : World) (x : List Name × NodeKind) (h : x ∈ w.entries) :
    (w.kindAt x.1).isSome = true := by
  unfold World.kindAt
  cases hf : w.entries.find? (fun y => y.1 == x.1) with
  | none =>
    have := List.find?_eq_none.mp hf x h
    simp at this
  | some y => rfl

/-- the entry `z` is filed under `key` with the name `a` -/
theorem child_key (key : List Name) (z : List Name × NodeKind) (a : Name)
    (hz : (match z.1.getLast? with
      | some n => if z.1.dropLast == key then some n else none
      | none => none) = some a) : z.1 = key ++ [a] := by
  cases hl : z.1.getLast? with
  | none => rw [hl] at hz; cases hz
  | some m =>
    rw [hl] at hz
    dsimp only at hz
    by_cases hd : z.1.dropLast == key
    · rw [if_pos hd, Option.some.injEq] at hz
      rw [← hz, ← beq_iff_eq.mp hd]
      exact (Common.dropLast_append_getLast hl).symm
    · rw [if_neg hd] at hz; cases hz

theorem mem_children (w : World) (key : List Name) (n : Name) :
    n ∈ w.children key ↔ (w.kindAt (key ++ [n])).isSome = true := by
  unfold World.children
  simp only [List.mem_filterMap]
  constructor
  · rintro ⟨x, hx, hf⟩
    rw [← child_key key x n hf]
    exact kindAt_isSome_of_mem w x hx
  · intro h
    cases hk : w.kindAt (key ++ [n]) with
    | none => rw [hk] at h; cases h
    | some kd =>
      refine ⟨(key ++ [n], kd), kindAt_mem w _ kd hk, ?_⟩
      simp

theorem children_nodup (w : World) (hn : (w.entries.map (·.1)).Nodup) (key : List Name) :
    (w.children key).Nodup := by
  unfold World.children
  refine List.Pairwise.filterMap _ ?_ (List.pairwise_map.mp hn)
  intro x y hxy a ha b hb e
  subst e
  exact hxy ((child_key key x a ha).trans (child_key key y a hb).symm)

theorem good_of_goodWorld (w : World) (h : goodWorld w = true) : Good w := by
  simp only [goodWorld, Bool.and_eq_true, List.all_eq_true] at h
  obtain ⟨⟨h1, h2⟩, h3⟩ := h
  refine ⟨nodupKeys_nodup _ h1, fun x hx n hn => (h2 x hx).1 n hn, fun k t e => ?_, fun k hd => ?_, h3⟩
  · have := (h2 _ (kindAt_mem w k _ e)).2
    simp at this
  · obtain ⟨m, hm⟩ := (isDir_iff w k).mp hd
    have := (h2 _ (kindAt_mem w k _ hm)).2
    exact (searchable_iff w k).mpr ⟨m, hm, by simpa using this⟩

/-- the directory of a prefix is looked up as `X/` or `X/.` (the segment `t0`), a name below it as `X/n` -/
theorem prefix_shape (pre : Path) (h : PrefixOK pre) :
    ∃ X t0, absPath (dirPath pre) = X ++ '/' :: t0 ∧ trivSeg t0 ∧
      ∀ n : Name, n ≠ [] → '/' ∉ n → absPath (pre ++ n) = X ++ '/' :: n := by
  rcases h with e | ⟨q, e⟩
  · subst e
    refine ⟨['/', 't'], dot, by decide, Or.inr rfl, fun n hne hs => ?_⟩
    have hh : n.head? ≠ some '/' := by
      cases n with
      | nil => exact absurd rfl hne
      | cons c cs =>
        have : c ≠ '/' := fun e => hs (e ▸ List.mem_cons_self)
        simpa using this
    rw [List.nil_append, absPath_rel n hh]; rfl
  · subst e
    obtain ⟨c, cs, hq⟩ : ∃ c cs, q ++ ['/'] = c :: cs := by
      cases q with
      | nil => exact ⟨_, _, rfl⟩
      | cons c cs => exact ⟨c, cs ++ ['/'], rfl⟩
    have hd : dirPath (q ++ ['/']) = q ++ ['/'] := by rw [hq]; rfl
    obtain ⟨X, hX⟩ : ∃ X, absPath (q ++ ['/']) = X ++ ['/'] := by
      by_cases h : (q ++ ['/']).head? = some '/'
      · exact ⟨q, by rw [absPath, h]; rfl⟩
      · exact ⟨['/', 't', '/'] ++ q, by rw [absPath_rel _ h, List.append_assoc]⟩
    refine ⟨X, [], by rw [hd, hX], Or.inl rfl, fun n _ _ => ?_⟩
    rw [hq, absPath_append, ← hq, hX, List.append_assoc]; rfl

theorem needsDir_dot (X : Path) : needsDir (X ++ '/' :: dot) = true :=
  needsDir_last X dot (by decide)

theorem dirPath_nul (pre : Path) (h : (dirPath pre).contains '\x00' = false) : pre.contains '\x00' = false := by
  unfold dirPath at h
  split at h
  · rename_i he; rw [List.isEmpty_iff.mp he]; rfl
  · exact h

/-- what a successful `opendir` says -/
theorem list_eq_some_iff (w : World) (d : Path) (ns : List Name) :
    (fsOfWorld w).list d = some ns ↔
      d.contains '\x00' = false ∧ w.fdFree = true ∧ ∃ key, w.get (absPath d) = some key ∧ w.isDir key = true
        ∧ ns = dot :: dotdot :: w.children key := by
  simp only [fsOfWorld]
  by_cases hc : (d.contains '\x00' || !w.fdFree) = true
  · rw [if_pos hc]
    simp only [Bool.or_eq_true, Bool.not_eq_true'] at hc
    exact ⟨nofun, fun h => hc.elim (fun e => nomatch h.1.symm.trans e) (fun e => nomatch h.2.1.symm.trans e)⟩
  rw [if_neg hc]
  rw [Bool.or_eq_true, not_or, Bool.not_eq_true, Bool.not_eq_true, Bool.not_eq_false'] at hc
  cases hg : w.get (absPath d) with
  | none => exact ⟨nofun, fun ⟨_, _, _, h, _⟩ => nomatch h⟩
  | some key =>
    show (if w.isDir key = true then some (dot :: dotdot :: w.children key) else none) = some ns ↔ _
    by_cases hd : w.isDir key = true
    · rw [if_pos hd, Option.some.injEq]
      exact ⟨fun e => ⟨hc.1, hc.2, key, rfl, hd, e.symm⟩, fun ⟨_, _, k, hk, _, e⟩ => by cases hk; exact e.symm⟩
    · rw [if_neg hd]
      exact ⟨nofun, fun ⟨_, _, k, hk, hd', _⟩ => by cases hk; exact absurd hd' hd⟩

/-- What the search sees of a listable prefix `pre`: its directory is looked up as `X/` or `X/.`, which is found
    where `X` is, at the directory `key`; the listing is `.`, `..` and the entries of `key`; and a name `n` below
    `pre` is looked up as `X/n`. -/
structure ListedAt (w : World) (pre : Path) (ns : List Name) (X : Path) (key : List Name) : Prop where
  get : w.get X = some key
  isDir : w.isDir key = true
  names : ns = dot :: dotdot :: w.children key
  child : ∀ n : Name, n ≠ [] → '/' ∉ n → absPath (pre ++ n) = X ++ '/' :: n

theorem listedAt (w : World) (pre : Path) (ns : List Name) (hpre : PrefixOK pre)
    (hl : (fsOfWorld w).list (dirPath pre) = some ns) : ∃ X key, ListedAt w pre ns X key := by
  obtain ⟨X, t0, hX, ht, hchild⟩ := prefix_shape pre hpre
  obtain ⟨_, _, key, hg, hd, hns⟩ := (list_eq_some_iff w _ ns).mp hl
  rw [hX, get_triv w X t0 ht] at hg
  exact ⟨X, key, (Option.filter_eq_some_iff.mp hg).1, hd, hns, hchild⟩

theorem ListedAt.get_iff {w : World} {pre : Path} {ns : List Name} {X : Path} {key : List Name}
    (h : ListedAt w pre ns X key) (n : Name) (hne : n ≠ []) (hs : '/' ∉ n) (k' : List Name) :
    w.get (absPath (pre ++ n)) = some k' ↔
      (w.step key n = some k' ∧ (needsDir (X ++ '/' :: n) = true → w.isDir k' = true)) := by
  obtain ⟨hroot, hw, _⟩ := (get_some_iff w X key).mp h.get
  rw [h.child n hne hs, get_some_iff, splitSeg_slash, splitSeg_single n hs, walk_append, hw]
  simp only [World.walk, hroot, true_and]
  cases w.step key n <;> simp

theorem children_plain (w : World) (hp : ∀ x, x ∈ w.entries → ∀ n, n ∈ x.1 → plainName n = true)
    (key : List Name) (n : Name) (hn : n ∈ w.children key) : plainName n = true := by
  have := (mem_children w key n).mp hn
  cases hk : w.kindAt (key ++ [n]) with
  | none => rw [hk] at this; cases this
  | some kd => exact hp _ (kindAt_mem w _ kd hk) n (List.mem_append_right _ List.mem_cons_self)

/-- unique keys and plain names are enough for the listings: links and directory modes do not matter -/
theorem listingsOK_of_tidy (w : World) (hn : (w.entries.map (·.1)).Nodup)
    (hp : ∀ x, x ∈ w.entries → ∀ n, n ∈ x.1 → plainName n = true) : ListingsOK (fsOfWorld w) := by
  intro pre ns hpre hl
  obtain ⟨X, key, hL⟩ := listedAt w pre ns hpre hl
  rw [hL.names]
  have hplain := children_plain w hp key
  constructor
  · have h1 : dot ∉ w.children key := fun h => absurd (hplain _ h) (by decide)
    have h2 : dotdot ∉ w.children key := fun h => absurd (hplain _ h) (by decide)
    refine List.nodup_cons.mpr ⟨?_, List.nodup_cons.mpr ⟨h2, children_nodup w hn key⟩⟩
    intro h
    rcases List.mem_cons.mp h with e | e
    · exact absurd e (by decide)
    · exact h1 e
  · intro n hn
    rcases List.mem_cons.mp hn with rfl | hn
    · decide
    rcases List.mem_cons.mp hn with rfl | hn
    · decide
    · exact plainName_valid n (hplain n hn)

theorem listed_of_exist (w : World) (pre : Path) (ns : List Name) (hpre : PrefixOK pre)
    (hl : (fsOfWorld w).list (dirPath pre) = some ns) (n : Name) (hv : validName n = true)
    (he : (fsOfWorld w).exist (pre ++ n) = true) : n ∈ ns := by
  obtain ⟨X, key, hL⟩ := listedAt w pre ns hpre hl
  rw [hL.names]
  have hne := validName_ne_nil n hv
  obtain ⟨_, k', hg'⟩ := get_of_exist w _ he
  rcases step_some w key n k' ((hL.get_iff n hne (validName_noslash n hv) k').mp hg').1 with
    ⟨e | e, _⟩ | ⟨e, _⟩ | ⟨_, hk⟩
  · exact absurd e hne
  · exact e ▸ List.mem_cons_self
  · exact e ▸ List.mem_cons_of_mem _ List.mem_cons_self
  · exact List.mem_cons_of_mem _ (List.mem_cons_of_mem _ ((mem_children w key n).mpr hk))

/-- ★★ in EVERY world whose working directory exists, what `fstatat` finds below a listable prefix is in
    the listing, and existence is prefix-closed -/
theorem covering_fsOfWorld (w : World) (hcwd : (fsOfWorld w).exist [] = true) : Covering (fsOfWorld w) :=
  ⟨listed_of_exist w, world_exist_prefix_closed w hcwd⟩

/-- what a good world adds to unique keys and plain names is that every listed name exists: no link dangles,
    every directory can be searched -/
theorem wf_of_good (w : World) (g : Good w) : WF (fsOfWorld w) := by
  refine wf_of_parts _ (listingsOK_of_tidy w g.nodup g.plain) (covering_fsOfWorld w g.cwd) ?_
  intro pre ns hpre hl n hn
  obtain ⟨X, key, hL⟩ := listedAt w pre ns hpre hl
  have hd := hL.isDir
  rw [hL.names] at hn
  have hprenul : pre.contains '\x00' = false := dirPath_nul pre ((list_eq_some_iff w _ _).mp hl).1
  -- a listed name exists if the one step from `key` succeeds, ends at no link, and at a directory where one is
  -- asked for
  have hget : ∀ n k', n ≠ [] → '/' ∉ n → '\x00' ∉ n →
      w.step key n = some k' → (needsDir (X ++ '/' :: n) = true → w.isDir k' = true) →
      (∀ t, w.kindAt k' ≠ some (NodeKind.link t)) → (fsOfWorld w).exist (pre ++ n) = true := by
    intro n k' hne hs hnul hstep hnd hlk
    apply exist_of_get w (pre ++ n) ?_ k' ((hL.get_iff n hne hs k').mpr ⟨hstep, hnd⟩) hlk
    simp only [List.contains_eq_mem, List.mem_append, decide_eq_false_iff_not] at hprenul ⊢
    exact fun h => h.elim hprenul hnul
  rcases List.mem_cons.mp hn with rfl | hn
  · exact hget dot key (by decide) (by decide) (by decide) (step_triv w key dot (Or.inr rfl)) (fun _ => hd)
      (g.nolink key)
  rcases List.mem_cons.mp hn with rfl | hn
  · refine hget dotdot key.dropLast (by decide) (by decide) (by decide) ?_ ?_ (g.nolink _)
    · simp [World.step, hd, dotdot, dot]
    · rw [needsDir_last X dotdot (by decide)]; exact fun h => nomatch h
  · have hk := (mem_children w key n).mp hn
    have hp := children_plain w g.plain key n hn
    obtain ⟨hne, hs, hnul, _⟩ := (plainName_iff n).mp hp
    refine hget n (key ++ [n]) hne hs hnul ?_ ?_ (g.nolink _)
    · rw [step_plain w key n hp, g.search key hd, hk]; rfl
    · rw [needsDir_plain X n hp]; exact fun h => nomatch h

theorem good_tidy (w : World) (h : goodWorld w = true) : tidyWorld w = true := by
  simp only [goodWorld, Bool.and_eq_true, List.all_eq_true] at h
  simp only [tidyWorld, Bool.and_eq_true, List.all_eq_true]
  exact ⟨h.1.1, fun x hx => (h.1.2 x hx).1⟩

theorem entryAt_iff (w : World) (pre : Path) (n : Name) :
    w.entryAt pre n = true ↔
      (dirPath pre).contains '\x00' = false ∧ w.fdFree = true ∧
        ∃ key, w.get (absPath (dirPath pre)) = some key ∧ w.isDir key = true ∧
          (n = dot ∨ n = dotdot ∨ (w.kindAt (key ++ [n])).isSome = true) := by
  unfold World.entryAt
  cases hg : w.get (absPath (dirPath pre)) with
  | none => simp
  | some key =>
    simp only [Bool.and_eq_true, Bool.not_eq_true', Bool.or_eq_true, beq_iff_eq, Option.some.injEq]
    constructor
    · rintro ⟨⟨h1, h2⟩, h3, h4⟩
      exact ⟨h1, h2, key, rfl, h3, or_assoc.mp h4⟩
    · rintro ⟨h1, h2, k, rfl, h3, h4⟩
      exact ⟨⟨h1, h2⟩, h3, or_assoc.mpr h4⟩

theorem entryAt_iff_listed (w : World) (pre : Path) (n : Name) :
    w.entryAt pre n = true ↔ ∃ ns, (fsOfWorld w).list (dirPath pre) = some ns ∧ n ∈ ns := by
  rw [entryAt_iff]
  have hmem : ∀ key, n ∈ dot :: dotdot :: w.children key ↔
      (n = dot ∨ n = dotdot ∨ (w.kindAt (key ++ [n])).isSome = true) := fun key => by
    simp only [List.mem_cons, mem_children]
  constructor
  · rintro ⟨h1, h2, key, hg, hd, hn⟩
    exact ⟨_, (list_eq_some_iff w _ _).mpr ⟨h1, h2, key, hg, hd, rfl⟩, (hmem key).mpr hn⟩
  · rintro ⟨ns, hl, hn⟩
    obtain ⟨h1, h2, key, hg, hd, rfl⟩ := (list_eq_some_iff w _ ns).mp hl
    exact ⟨h1, h2, key, hg, hd, (hmem key).mp hn⟩

theorem inodeStep_iff (m : Matcher) (w : World) (pre : Path) (c : List AttrChar) (n : Name) :
    inodeStep m w pre c n = true ↔ stepOK m (fsOfWorld w) pre c n := by
  unfold inodeStep stepOK byKind
  cases m.kind (toPattern c) with
  | invalid => exact beq_iff_eq
  | literal s => exact beq_iff_eq
  | pattern =>
    simp only [Bool.and_eq_true, bne_iff_ne, ne_eq, entryAt_iff_listed]
    exact ⟨fun ⟨⟨⟨⟨ns, hl, hn⟩, h1⟩, h2⟩, h3⟩ => ⟨ns, hl, hn, h1, h2, h3⟩,
      fun ⟨ns, hl, hn, h1, h2, h3⟩ => ⟨⟨⟨⟨ns, hl, hn⟩, h1⟩, h2⟩, h3⟩⟩

theorem inodeWitness_iff_chain (m : Matcher) (w : World) : ∀ cs c pre names,
    inodeWitness m w pre c cs names = true ↔
      Chain (stepOK m (fsOfWorld w)) (lastOK m (fsOfWorld w)) pre c cs names :=
  chain_of_eqns (fun pre c cs names => inodeWitness m w pre c cs names = true)
    (fun pre c n => by
      simp only [inodeWitness, Bool.and_eq_true, Bool.or_eq_true, inodeStep_iff, lastOK]; rfl)
    (fun pre c c' cs n ns => by simp only [inodeWitness, Bool.and_eq_true, inodeStep_iff])
    (fun pre c cs => by cases cs <;> exact Bool.false_ne_true) (fun _ _ _ _ _ => Bool.false_ne_true)

end YashModel.Glob
