/-
  C05 ∘ C04 — `fnMatcher` is the C04 model of yash-fnmatch under glob's `Config`.  First the notions of the
  composed statements (`astOf`, `posixNameClauses`, `posixNamesClauses`).  A component without an unquoted `[` is
  one atom per character, and a match of such a prefix splits the name: the ground of "a quoted pattern
  character is literal whatever precedes it".
-/
import YashModel.Glob.Oracles
import YashModel.Glob.FnMatcher
import YashModel.Fnmatch.Search
import YashModel.Fnmatch.Theorems
namespace YashModel.Glob
open YashModel.Generated

theorem globConfig_begin : globConfig.anchorBegin = true := rfl
theorem globConfig_end : globConfig.anchorEnd = true := rfl
theorem globConfig_period : globConfig.literalPeriod = true := rfl

/-- the syntax tree of a component pattern, by the *grammar* of the C04 Spec -/
def astOf (pcs : List PatternChar) : Fnmatch.Ast := Fnmatch.specParse (pcs.map convPc)

/-- what the property says about the name `n` standing for the component `c`, in terms of the C04 Spec
    only: a component that does not compile, or whose syntax tree has ordinary characters only,
    contributes its own text; a pattern component contributes a real file name (non-empty, slash-free)
    other than `.` and `..` that matches it in POSIX notation, and one starting with a period only if the
    pattern begins with an explicit period (hence the component's text, quoted or not, starts with one) -/
def posixNameClauses (c : List AttrChar) (n : Name) : Prop :=
  (fnCompile (toPattern c) = none → n = removeQuotes c) ∧
  (∀ s, (fnCompile (toPattern c)).isSome = true → Fnmatch.toLiteral (astOf (toPattern c)) = some s → n = s) ∧
  ((fnCompile (toPattern c)).isSome = true → Fnmatch.toLiteral (astOf (toPattern c)) = none →
    n ≠ [] ∧ '/' ∉ n ∧ n ≠ dot ∧ n ≠ dotdot
      ∧ Fnmatch.posixMatch ((toPattern c).map convPc) n = true
      ∧ (n.head? = some '.' → Fnmatch.explicitDot (astOf (toPattern c)) = true
          ∧ (removeQuotes c).head? = some '.'))

def posixNamesClauses : List AttrChar → List (List AttrChar) → List Name → Prop
  | c, [], [n] => posixNameClauses c n
  | c, c' :: cs, n :: ns => posixNameClauses c n ∧ posixNamesClauses c' cs ns
  | _, _, _ => False

theorem astOf_eq (pcs : List PatternChar) : astOf pcs = Fnmatch.parseAtoms (pcs.map convPc) :=
  ((Fnmatch.parser_is_grammar _).2).symm

/-- `to_pattern(..).ok()`: the C04 compiler on the syntax tree of the component -/
theorem fnCompile_eq (pcs : List PatternChar) :
    fnCompile pcs = (match Fnmatch.Pattern.fromAst (astOf pcs) globConfig with
      | .ok p => some p
      | .error _ => none) := by
  rw [astOf_eq]; rfl

theorem fnCompile_some {pcs : List PatternChar} {p : Fnmatch.Pattern} (h : fnCompile pcs = some p) :
    Fnmatch.Pattern.fromAst (astOf pcs) globConfig = .ok p := by
  rw [fnCompile_eq] at h
  cases hf : Fnmatch.Pattern.fromAst (astOf pcs) globConfig with
  | ok q => rw [hf] at h; cases h; rfl
  | error e => rw [hf] at h; cases h

theorem fnCompile_isMatch {pcs : List PatternChar} {p : Fnmatch.Pattern} (h : fnCompile pcs = some p)
    (n : Name) : p.isMatch n = Fnmatch.specPeriodMatch (astOf pcs) n :=
  Fnmatch.literal_period_correct (astOf pcs) globConfig globConfig_begin globConfig_end globConfig_period
    p (fnCompile_some h) n

theorem fnIsMatch_eq (pcs : List PatternChar) (n : Name) :
    fnIsMatch pcs n = ((fnCompile pcs).isSome && Fnmatch.specPeriodMatch (astOf pcs) n) := by
  unfold fnIsMatch
  cases h : fnCompile pcs with
  | none => rfl
  | some p => simp [fnCompile_isMatch h]

theorem fnIsMatch_true_iff (pcs : List PatternChar) (n : Name) :
    fnIsMatch pcs n = true ↔ (fnCompile pcs).isSome = true ∧ Fnmatch.globMatch (astOf pcs) n = true
      ∧ (n.head? = some '.' → Fnmatch.explicitDot (astOf pcs) = true) := by
  rw [fnIsMatch_eq, Fnmatch.specPeriodMatch]
  simp only [Bool.and_eq_true, Bool.or_eq_true, bne_iff_ne, ne_eq]
  exact and_congr_right fun _ => and_congr_right fun _ => Decidable.imp_iff_not_or.symm

theorem fnCompile_defined (pcs : List PatternChar) (h : Fnmatch.astDefined (astOf pcs) = true) :
    (fnCompile pcs).isSome = true := by
  obtain ⟨p, hp⟩ := Fnmatch.defined_compiles (astOf pcs) h globConfig
  rw [fnCompile_eq, hp]
  rfl

/-- the classification is by the syntax tree: a literal iff the tree has ordinary characters only
    (C04's `fromAst_cases`) -/
theorem fnKind_cases (pcs : List PatternChar) :
    (fnCompile pcs = none ∧ fnKind pcs = Kind.invalid) ∨
    (∃ p s, fnCompile pcs = some p ∧ Fnmatch.toLiteral (astOf pcs) = some s ∧ fnKind pcs = Kind.literal s) ∨
    (∃ p, fnCompile pcs = some p ∧ Fnmatch.toLiteral (astOf pcs) = none ∧ fnKind pcs = Kind.pattern) := by
  unfold fnKind
  cases h : fnCompile pcs with
  | none => exact .inl ⟨rfl, rfl⟩
  | some p =>
    rcases Fnmatch.fromAst_cases _ _ p (fnCompile_some h) with ⟨l, hl, rfl⟩ | ⟨hl, res, _, rfl⟩
    · exact .inr (.inl ⟨_, l, rfl, hl, rfl⟩)
    · exact .inr (.inr ⟨_, rfl, hl, rfl⟩)

theorem headAtom_cases (pc : Fnmatch.PatternChar) :
    Fnmatch.headAtom pc = .anyChar ∨ Fnmatch.headAtom pc = .anyString ∨
      Fnmatch.headAtom pc = .char pc.charValue := by
  unfold Fnmatch.headAtom
  by_cases h1 : pc = .normal '?'
  · exact .inl (if_pos h1)
  by_cases h2 : pc = .normal '*'
  · exact .inr (.inl (by rw [if_neg h1, if_pos h2]))
  · exact .inr (.inr (by rw [if_neg h1, if_neg h2]))

theorem explicitDot_head (cs : List Fnmatch.PatternChar)
    (h : Fnmatch.explicitDot (Fnmatch.parseAtoms cs) = true) :
    cs.head?.map Fnmatch.PatternChar.charValue = some '.' := by
  cases cs with
  | nil => rw [Fnmatch.parseAtoms] at h; cases h
  | cons pc t =>
    by_cases hb : pc = .normal '['
    · -- a bracket expression, or the character `[`: no explicit period
      subst hb
      rw [Fnmatch.parseAtoms_bracket] at h
      cases hp : Fnmatch.parseBracket t with
      | none => rw [hp] at h; cases h
      | some bj => rw [hp] at h; cases h
    · rw [Fnmatch.parseAtoms_cons_simple pc t hb] at h
      rcases headAtom_cases pc with e | e | e <;> rw [e] at h
      · cases h
      · cases h
      · exact congrArg some (eq_of_beq h)

theorem convPc_charValue (pc : PatternChar) : (convPc pc).charValue = pc.charValue := by
  cases pc <;> rfl

theorem map_convPc_literal (pcs : List PatternChar) (h : ∀ pc, pc ∈ pcs → pc.isLiteral = true) :
    pcs.map convPc = (pcs.map PatternChar.charValue).map Fnmatch.PatternChar.literal := by
  induction pcs with
  | nil => rfl
  | cons pc t ih =>
    have h1 := h pc List.mem_cons_self
    have ih' := ih (fun q hq => h q (List.mem_cons_of_mem _ hq))
    cases pc with
    | normal c => simp [PatternChar.isLiteral] at h1
    | literal c => simp [convPc, PatternChar.charValue, ih']

theorem fnEntry_pcs (cands : List Name) (pcs : List PatternChar) : (fnEntry cands pcs).pcs = pcs := by
  unfold fnEntry; split <;> rfl

theorem lookupM_fnTab (cands : List Name) (keys : List (List PatternChar)) (pcs : List PatternChar)
    (h : pcs ∈ keys) : lookupM (fnTab cands keys) pcs = some (fnEntry cands pcs) := by
  induction keys with
  | nil => cases h
  | cons k t ih =>
    simp only [lookupM, fnTab, List.map_cons, List.find?_cons, fnEntry_pcs]
    by_cases hk : k = pcs
    · subst hk; simp
    · have hk' : (k == pcs) = false := beq_false_of_ne hk
      rw [hk']
      have ht : pcs ∈ t := by
        rcases List.mem_cons.mp h with e | e
        · exact absurd e.symm hk
        · exact e
      exact ih ht

theorem mkMatcher_fnTab_kind (cands : List Name) (keys : List (List PatternChar)) (pcs : List PatternChar)
    (h : pcs ∈ keys) : (mkMatcher (fnTab cands keys)).kind pcs = fnKind pcs := by
  simp only [mkMatcher, lookupM_fnTab cands keys pcs h]
  unfold fnEntry fnKind
  cases fnCompile pcs <;> rfl

theorem mkMatcher_fnTab_isMatch (cands : List Name) (keys : List (List PatternChar))
    (pcs : List PatternChar) (h : pcs ∈ keys) (n : Name) (hn : n ∈ cands) :
    (mkMatcher (fnTab cands keys)).isMatch pcs n = fnIsMatch pcs n := by
  simp only [mkMatcher, lookupM_fnTab cands keys pcs h]
  unfold fnEntry fnIsMatch
  cases fnCompile pcs with
  | none => simp
  | some p =>
    simp only [List.contains_eq_mem, List.mem_filter, hn, true_and]
    cases p.isMatch n <;> simp

theorem fnTab_agree (cands : List Name) (fs : Fs) (hc : UnivCovers fs cands)
    (fields : List (List AttrChar)) (f : List AttrChar) (hf : f ∈ fields) :
    MatcherAgree (mkMatcher (fnTab cands (componentKeys fields))) fnMatcher fs
      ((splitComponents f).1 :: (splitComponents f).2) := by
  intro c hcm
  have hk : toPattern c ∈ componentKeys fields :=
    List.mem_flatMap.mpr ⟨f, hf, List.mem_map.mpr ⟨c, hcm, rfl⟩⟩
  refine ⟨mkMatcher_fnTab_kind cands _ _ hk, fun _ d ns hl n hn => ?_⟩
  exact mkMatcher_fnTab_isMatch cands _ _ hk n (hc d ns hl n hn)

theorem parseAtoms_append_simple (pre rest : List Fnmatch.PatternChar)
    (h : ∀ pc, pc ∈ pre → pc ≠ .normal '[') :
    Fnmatch.parseAtoms (pre ++ rest) = pre.map Fnmatch.headAtom ++ Fnmatch.parseAtoms rest := by
  induction pre with
  | nil => rfl
  | cons pc t ih =>
    rw [List.cons_append, Fnmatch.parseAtoms_cons_simple pc _ (h pc List.mem_cons_self),
      ih (fun q hq => h q (List.mem_cons_of_mem _ hq))]
    rfl

theorem astOf_simple (pcs : List PatternChar)
    (h : ∀ pc, pc ∈ pcs.map convPc → pc ≠ Fnmatch.PatternChar.normal '[') :
    astOf pcs = (pcs.map convPc).map Fnmatch.headAtom := by
  have := parseAtoms_append_simple (pcs.map convPc) [] h
  rwa [List.append_nil, Fnmatch.parseAtoms, List.append_nil, ← astOf_eq] at this

/-- a match of `A ++ B`, `A` without bracket expressions, splits the string -/
theorem globAtoms_append_simple (pre : List Fnmatch.PatternChar) (B : List Fnmatch.Atom) :
    ∀ s : List Char, Fnmatch.globAtoms (pre.map Fnmatch.headAtom ++ B) s = true →
      ∃ k, Fnmatch.globAtoms (pre.map Fnmatch.headAtom) (s.take k) = true ∧ Fnmatch.globAtoms B (s.drop k) = true := by
  induction pre with
  | nil =>
    intro s h
    exact ⟨0, by simp [Fnmatch.globAtoms], by simpa using h⟩
  | cons pc t ih =>
    intro s h
    simp only [List.map_cons, List.cons_append] at h ⊢
    rcases headAtom_cases pc with hd | hd | hd <;> rw [hd] at h ⊢
    · cases s with
      | nil => simp [Fnmatch.globAtoms] at h
      | cons c r =>
        simp only [Fnmatch.globAtoms] at h
        obtain ⟨k, hk1, hk2⟩ := ih r h
        exact ⟨k + 1, by simpa [Fnmatch.globAtoms] using hk1, by simpa using hk2⟩
    · simp only [Fnmatch.globAtoms, List.any_eq_true, List.mem_range] at h
      obtain ⟨j, hj, hm⟩ := h
      obtain ⟨k, hk1, hk2⟩ := ih (s.drop j) hm
      refine ⟨j + k, ?_, by simpa [List.drop_drop, Nat.add_comm] using hk2⟩
      simp only [Fnmatch.globAtoms, List.any_eq_true, List.mem_range]
      refine ⟨j, ?_, ?_⟩
      · simp only [List.length_take]; omega
      · rw [List.drop_take]
        simpa using hk1
    · cases s with
      | nil => simp [Fnmatch.globAtoms] at h
      | cons c r =>
        simp only [Fnmatch.globAtoms, Bool.and_eq_true] at h
        obtain ⟨k, hk1, hk2⟩ := ih r h.2
        exact ⟨k + 1, by simp [Fnmatch.globAtoms, h.1, hk1], by simpa using hk2⟩

/-- how the examples of `FnTheorems.lean` and `QuoteTheorems.lean` evaluate the composed matcher: on a
    component without an unquoted `[` the parser's tree is one atom per character (the parser itself is a
    well-founded recursion that `decide` cannot unfold) -/
theorem fnCompile_simple (pcs : List PatternChar)
    (h : ∀ pc, pc ∈ pcs.map convPc → pc ≠ Fnmatch.PatternChar.normal '[') :
    fnCompile pcs = (match Fnmatch.Pattern.fromAst ((pcs.map convPc).map Fnmatch.headAtom) globConfig with
      | .ok p => some p
      | .error _ => none) := by
  rw [fnCompile_eq, astOf_simple pcs h]

/-- the C04 matcher treats `Normal('\\')` as an ordinary character (escape handling lives in
    `with_escape`, which glob does not use): alone it matches exactly the name `\` -/
theorem posixMatch_backslash (a : Name)
    (h : Fnmatch.posixMatch ([PatternChar.normal '\\'].map convPc) a = true) : a = ['\\'] := by
  have hp : Fnmatch.specParse ([PatternChar.normal '\\'].map convPc) = [Fnmatch.Atom.char '\\'] :=
    astOf_simple [PatternChar.normal '\\'] (by decide)
  unfold Fnmatch.posixMatch Fnmatch.globMatch at h
  rw [hp] at h
  cases a with
  | nil => simp [Fnmatch.globAtoms] at h
  | cons c t =>
    cases t with
    | nil => simp [Fnmatch.globAtoms] at h; rw [h]
    | cons d u => simp [Fnmatch.globAtoms] at h

theorem nameClauses_posix (c : List AttrChar) (n : Name) (h : nameClauses fnMatcher c n) :
    posixNameClauses c n := by
  unfold nameClauses at h
  have hk : fnMatcher.kind (toPattern c) = fnKind (toPattern c) := rfl
  rw [hk] at h
  rcases fnKind_cases (toPattern c) with ⟨h0, hkd⟩ | ⟨p, s, hp, hl, hkd⟩ | ⟨p, hp, hl, hkd⟩
  · rw [hkd] at h
    refine ⟨fun _ => h, fun s hs => ?_, fun hs => ?_⟩
    · rw [h0] at hs; cases hs
    · rw [h0] at hs; cases hs
  · rw [hkd] at h
    refine ⟨fun h0 => ?_, fun s' _ hl' => ?_, fun _ hl' => ?_⟩
    · rw [hp] at h0; cases h0
    · rw [hl] at hl'; cases hl'; exact h
    · rw [hl] at hl'; cases hl'
  · rw [hkd] at h
    refine ⟨fun h0 => ?_, fun s' _ hl' => ?_, fun _ _ => ?_⟩
    · rw [hp] at h0; cases h0
    · rw [hl] at hl'; cases hl'
    obtain ⟨h1, h2, h3, h4, h5, h6⟩ := h
    obtain ⟨_, hg, hdot⟩ := (fnIsMatch_true_iff _ n).mp h5
    exact ⟨h1, h2, h3, h4, hg, fun hd => ⟨hdot hd, h6 hd⟩⟩

theorem posixNamesClauses_iff_chain (pre : Path) (cs : List (List AttrChar)) (c : List AttrChar)
    (names : List Name) :
    posixNamesClauses c cs names ↔ Chain (fun _ => posixNameClauses) (fun _ _ _ => True) pre c cs names :=
  chain_of_eqns (fun _ => posixNamesClauses) (fun _ _ _ => (and_iff_left trivial).symm) (fun _ _ _ _ _ _ => Iff.rfl)
    (fun _ c cs => by cases cs <;> exact id) (fun _ _ _ _ _ => id) cs c pre names

theorem namesClauses_posix (cs : List (List AttrChar)) (c : List AttrChar) (ns : List Name)
    (h : namesClauses fnMatcher c cs ns) : posixNamesClauses c cs ns :=
  (posixNamesClauses_iff_chain [] cs c ns).mpr (((namesClauses_iff_chain fnMatcher [] cs c ns).mp h).imp
    (fun _ c n _ => nameClauses_posix c n) (fun _ _ _ _ _ _ => trivial) prefixOK_nil)

end YashModel.Glob
