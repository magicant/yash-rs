/-
  C05 — the decidable checks of the driver (`Dump.lean`) imply the hypotheses of the theorems.
-/
import YashModel.Glob.Notions
import YashModel.Common.Lists
namespace YashModel.Glob

theorem nodupB_nodup (l : List Path) (h : nodupB l = true) : l.Nodup :=
  (Common.nodupB_iff nodupB rfl (fun _ _ => rfl) l).1 h

theorem stripPre_append (pre n : Path) : stripPre pre (pre ++ n) = some n := by
  induction pre with
  | nil => rfl
  | cons a as ih => simp [stripPre, ih]

theorem mem_slashPrefixes (p : Path) : ∀ (acc q : Path), acc ++ p ∈ slashPrefixes acc (p ++ '/' :: q) := by
  induction p with
  | nil => intro acc q; simp [slashPrefixes]
  | cons c p ih =>
    intro acc q
    have := ih (acc ++ [c]) q
    simp only [List.append_assoc, List.singleton_append] at this
    simp only [List.cons_append, slashPrefixes]
    split
    · exact List.mem_cons_of_mem _ this
    · exact this

theorem preOfDir_dirPath (pre : Path) (h : PrefixOK pre) : preOfDir (dirPath pre) = some pre := by
  rcases h with e | ⟨q, e⟩
  · subst e; rfl
  · subst e
    have hne : (q ++ ['/']).isEmpty = false := by cases q <;> rfl
    have hd : q ++ ['/'] ≠ ['.'] := by
      intro h
      have := congrArg List.reverse h
      simp at this
    simp [preOfDir, dirPath, hne, hd]

theorem mkFs_list (e : List Path) (l : List (Path × List Name)) (d : Path) (ns : List Name)
    (h : (mkFs e l).list d = some ns) : ∃ x, x ∈ l ∧ x.1 = d ∧ x.2 = ns := by
  simp only [mkFs, Option.map_eq_some_iff] at h
  obtain ⟨x, hx, e⟩ := h
  exact ⟨x, List.mem_of_find?_eq_some hx, by simpa using List.find?_some hx, e⟩

theorem wfDump_sound (e : List Path) (l : List (Path × List Name)) (h : wfDump e l = true) :
    WF (mkFs e l) := by
  simp only [wfDump, Bool.and_eq_true, List.all_eq_true] at h
  constructor
  · intro pre ns hpre hl
    obtain ⟨x, hx, hd, hn⟩ := mkFs_list e l _ ns hl
    have hx' := h.1 x hx
    rw [hd, preOfDir_dirPath pre hpre] at hx'
    simp only [Bool.and_eq_true, List.all_eq_true, hn] at hx'
    refine ⟨nodupB_nodup ns hx'.1.1, fun n => ⟨fun hm => ?_, fun hv => ?_⟩⟩
    · have := hx'.1.2 n hm
      simpa [mkFs] using this
    · have hc : (pre ++ n) ∈ e := by simpa [mkFs] using hv.2
      have := hx'.2 (pre ++ n) hc
      rw [stripPre_append] at this
      simpa [hv.1] using this
  · intro p q hq
    have hc : (p ++ '/' :: q) ∈ e := by simpa [mkFs] using hq
    have := h.2 _ hc _ (by simpa using mem_slashPrefixes p [] q)
    simpa [mkFs] using this

theorem lwfDump_sound (e : List Path) (l : List (Path × List Name)) (h : lwfDump l = true) :
    ListingsOK (mkFs e l) := by
  simp only [lwfDump, List.all_eq_true] at h
  intro pre ns hpre hl
  obtain ⟨x, hx, hd, hn⟩ := mkFs_list e l _ ns hl
  have hx' := h x hx
  rw [hd, preOfDir_dirPath pre hpre] at hx'
  simp only [Bool.and_eq_true, List.all_eq_true, hn] at hx'
  exact ⟨nodupB_nodup ns hx'.1, hx'.2⟩

theorem mem_dedupNames (l : List Name) (x : Name) : x ∈ dedupNames l ↔ x ∈ l :=
  Common.mem_dedup dedupNames rfl (fun a t => by simp [dedupNames]) l x

theorem univOf_covers (e : List Path) (l : List (Path × List Name)) : UnivCovers (mkFs e l) (univOf l) := by
  intro d ns hl n hn
  obtain ⟨x, hx, _, hxn⟩ := mkFs_list e l d ns hl
  rw [univOf, mem_dedupNames, List.mem_flatMap]
  exact ⟨x, hx, hxn ▸ hn⟩

theorem periodDump_sound (tab : List MEntry) (h : periodDump tab = true) : PeriodRule (mkMatcher tab) := by
  intro pcs n hm hdot
  simp only [mkMatcher, lookupM] at hm
  cases hf : tab.find? (fun e => e.pcs == pcs) with
  | none => simp [hf] at hm
  | some en =>
    simp only [hf] at hm
    have hmem : en ∈ tab := List.mem_of_find?_eq_some hf
    have hp : en.pcs = pcs := by simpa using List.find?_some hf
    simp only [periodDump, List.all_eq_true] at h
    have := h en hmem n (by simpa using hm)
    simp only [hdot, beq_self_eq_true, Bool.not_true, Bool.false_or, beq_iff_eq] at this
    rw [← hp]
    exact this

end YashModel.Glob
