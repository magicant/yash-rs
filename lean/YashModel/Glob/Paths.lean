/-
  C05 — small facts about `joinPath`, `PrefixOK` and `validName` of `Spec.lean`.
-/
import YashModel.Glob.Spec
import YashModel.Common.Lists
namespace YashModel.Glob

theorem joinPath_cons (n : Name) (ns : List Name) (h : ns ≠ []) :
    joinPath (n :: ns) = n ++ '/' :: joinPath ns := by
  cases ns with
  | nil => exact absurd rfl h
  | cons a t => rfl

theorem path_assoc (pre n rest : Path) : pre ++ n ++ ['/'] ++ rest = pre ++ (n ++ '/' :: rest) := by
  simp [List.append_assoc]

theorem prefixOK_nil : PrefixOK [] := Or.inl rfl

theorem prefixOK_push (pre n : Path) : PrefixOK (pre ++ n ++ ['/']) := Or.inr ⟨pre ++ n, rfl⟩

theorem validName_iff (n : Name) : validName n = true ↔ n ≠ [] ∧ '/' ∉ n := by
  simp [validName]

theorem validName_ne_nil (n : Name) (h : validName n = true) : n ≠ [] := ((validName_iff n).mp h).1

theorem validName_noslash (n : Name) (h : validName n = true) : '/' ∉ n := ((validName_iff n).mp h).2

theorem append_slash_inj (a b r s : List Char) (ha : '/' ∉ a) (hb : '/' ∉ b)
    (h : a ++ '/' :: r = b ++ '/' :: s) : a = b := by
  -- both are what the scan for the first slash takes
  have ea := (Common.takeWhile_ne_append '/' a ('/' :: r) ha (.inr rfl)).1
  have eb := (Common.takeWhile_ne_append '/' b ('/' :: s) hb (.inr rfl)).1
  rw [← ea, h, eb]

end YashModel.Glob
