/-
  C05 — from attributed characters to pattern characters (`toPatternChars`: quoting characters vanish, quoted
  and hard-expansion characters become literal, whatever precedes them), and the split of a field at its slashes.
-/
import YashModel.Glob.Notions
namespace YashModel.Glob

theorem toPatternChars_quoting {c : AttrChar} (h : c.isQuoting = true) (nq : Bool) (cs : List AttrChar) :
    toPatternChars nq (c :: cs) = toPatternChars false cs := by
  rw [toPatternChars, if_pos h]

theorem toPatternChars_literal {c : AttrChar} {nq : Bool} (h : c.isQuoting = false)
    (hl : (nq || c.isQuoted || c.origin == Origin.hardExpansion) = true) (cs : List AttrChar) :
    toPatternChars nq (c :: cs) = PatternChar.literal c.value :: toPatternChars false cs := by
  rw [toPatternChars, if_neg (by rw [h]; decide), if_pos hl]

theorem toPatternChars_normal {c : AttrChar} {nq : Bool} (h : c.isQuoting = false)
    (hl : (nq || c.isQuoted || c.origin == Origin.hardExpansion) = false) (cs : List AttrChar) :
    toPatternChars nq (c :: cs) = PatternChar.normal c.value :: toPatternChars (c.value == '\\') cs := by
  rw [toPatternChars, if_neg (by rw [h]; decide), if_neg (by rw [hl]; decide)]

theorem literal_cond {c : AttrChar} (h : c.isQuoted = true ∨ c.origin = Origin.hardExpansion) (nq : Bool) :
    (nq || c.isQuoted || c.origin == Origin.hardExpansion) = true := by
  rcases h with h | h <;> rw [h]
  · rw [Bool.or_true, Bool.true_or]
  · exact Bool.or_true _

theorem removeQuotes_cons (c : AttrChar) (cs : List AttrChar) :
    removeQuotes (c :: cs) = if c.isQuoting then removeQuotes cs else c.value :: removeQuotes cs := by
  unfold removeQuotes
  cases hq : c.isQuoting with
  | true => rw [List.filter_cons_of_neg (by rw [hq]; decide)]; rfl
  | false => rw [List.filter_cons_of_pos (by rw [hq]; rfl)]; rfl

/-- quoted text is literal, whatever escape is pending before it -/
theorem toPatternChars_quoted (cs : List AttrChar) (h : FullyQuoted cs) : ∀ nq,
    toPatternChars nq cs = (removeQuotes cs).map PatternChar.literal := by
  induction cs with
  | nil => intro nq; rfl
  | cons c cs ih =>
    intro nq
    have hcs : FullyQuoted cs := fun a ha => h a (List.mem_cons_of_mem _ ha)
    rw [removeQuotes_cons]
    cases hq : c.isQuoting with
    | true => rw [toPatternChars_quoting hq, ih hcs]; rfl
    | false => rw [toPatternChars_literal hq (literal_cond (h c List.mem_cons_self hq) nq), ih hcs]; rfl

/-- … and leaves no escape pending: every character of it, quoting or literal, uses the flag up -/
theorem toPatternChars_quoted_append (cs rest : List AttrChar) (h : FullyQuoted cs) :
    toPatternChars false (cs ++ rest) = toPatternChars false cs ++ toPatternChars false rest := by
  induction cs with
  | nil => rfl
  | cons c cs ih =>
    have hcs : FullyQuoted cs := fun a ha => h a (List.mem_cons_of_mem _ ha)
    rw [List.cons_append]
    cases hq : c.isQuoting with
    | true => rw [toPatternChars_quoting hq, toPatternChars_quoting hq, ih hcs]
    | false =>
      have hl := literal_cond (h c List.mem_cons_self hq) false
      rw [toPatternChars_literal hq hl, toPatternChars_literal hq hl, ih hcs]; rfl

theorem quoted_kind (m : Matcher) (hm : LiteralFaithful m) (c : List AttrChar) (h : FullyQuoted c) :
    m.kind (toPattern c) = Kind.literal (removeQuotes c) := by
  unfold toPattern
  rw [toPatternChars_quoted c h false, hm, List.map_map]
  · exact congrArg Kind.literal (List.map_id _)
  · intro pc hpc
    obtain ⟨a, _, rfl⟩ := List.mem_map.mp hpc
    rfl

theorem splitAux_mem : ∀ (cs cur : List AttrChar) (c : List AttrChar),
    c ∈ (splitAux cur cs).1 :: (splitAux cur cs).2 → ∀ a, a ∈ c → a ∈ cur ∨ a ∈ cs := by
  intro cs
  induction cs with
  | nil =>
    intro cur c hc a ha
    simp only [splitAux, List.mem_cons, List.not_mem_nil, or_false] at hc
    subst hc
    exact Or.inl (List.mem_reverse.mp ha)
  | cons x xs ih =>
    intro cur c hc a ha
    by_cases hx : (x.value == '/') = true
    · simp only [splitAux, hx, if_true, List.mem_cons] at hc
      rcases hc with hc | hc
      · subst hc
        exact Or.inl (List.mem_reverse.mp ha)
      · have := ih [] c (by simpa [List.mem_cons] using hc) a ha
        rcases this with e | e
        · simp at e
        · exact Or.inr (List.mem_cons_of_mem _ e)
    · simp only [splitAux, hx] at hc
      have := ih (x :: cur) c hc a ha
      rcases this with e | e
      · rw [List.mem_cons] at e
        rcases e with e | e
        · exact Or.inr (e ▸ List.mem_cons_self)
        · exact Or.inl e
      · exact Or.inr (List.mem_cons_of_mem _ e)

theorem removeQuotes_append (a b : List AttrChar) : removeQuotes (a ++ b) = removeQuotes a ++ removeQuotes b := by
  simp [removeQuotes]

theorem splitAux_join : ∀ (cs cur : List AttrChar), SlashNotQuoting cs →
    joinPath (((splitAux cur cs).1 :: (splitAux cur cs).2).map removeQuotes)
      = removeQuotes (cur.reverse ++ cs) := by
  intro cs
  induction cs with
  | nil => intro cur _; simp [splitAux, joinPath]
  | cons x xs ih =>
    intro cur hs
    have hxs : SlashNotQuoting xs := fun a ha => hs a (List.mem_cons_of_mem _ ha)
    by_cases hx : (x.value == '/') = true
    · have hv : x.value = '/' := by simpa using hx
      have hq := hs x List.mem_cons_self hv
      have := ih [] hxs
      simp only [List.map_cons, List.reverse_nil, List.nil_append] at this
      simp only [splitAux, hx, if_true, List.map_cons, joinPath, this, removeQuotes_append]
      simp [removeQuotes, hq, hv]
    · have := ih (x :: cur) hxs
      simp only [splitAux, hx, Bool.false_eq_true, if_false]
      rw [this]
      simp

theorem toPatternChars_values (cs : List AttrChar) : ∀ nq,
    (toPatternChars nq cs).map PatternChar.charValue = removeQuotes cs := by
  induction cs with
  | nil => intro nq; rfl
  | cons c cs ih =>
    intro nq
    rw [removeQuotes_cons]
    cases hq : c.isQuoting with
    | true => rw [toPatternChars_quoting hq, ih]; rfl
    | false =>
      cases hl : (nq || c.isQuoted || c.origin == Origin.hardExpansion) with
      | true => rw [toPatternChars_literal hq hl, List.map_cons, ih]; rfl
      | false => rw [toPatternChars_normal hq hl, List.map_cons, ih]; rfl

theorem toPattern_head (c : List AttrChar) :
    (toPattern c).head?.map PatternChar.charValue = (removeQuotes c).head? := by
  rw [← toPatternChars_values c false, List.head?_map]
  rfl

end YashModel.Glob
