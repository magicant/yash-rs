/-
  C05 — what the hypotheses on the two oracles give.  `WF` is `ListingsOK`, `Covering` and "what is listed
  exists" (`wf_of_parts`).  A Spec witness is the chain of `specStep` / `specLast`.  Under `Covering` it is a
  chain of the search (`chain_of_spec`), under `WF` also conversely (`spec_of_chain`), so that the search finds
  exactly the Spec members (`search_finds_exactly_spec`).  Under `ListingsOK` what the search appends matches in
  the sense of the Spec (`stepOK_compMatches`), hence with the period rule the names of a chain have the clauses
  of the property.  With `UnivCovers` the tuples of the brute-force Specs contain every chain.
-/
import YashModel.Glob.Search
import YashModel.Glob.Quoted
namespace YashModel.Glob

theorem wf_listingsOK (fs : Fs) (h : WF fs) : ListingsOK fs := fun pre ns hpre hl =>
  have := h.listing pre ns hpre hl
  ⟨this.1, fun n hn => ((this.2 n).mp hn).1⟩

theorem wf_covering (fs : Fs) (h : WF fs) : Covering fs :=
  ⟨fun pre ns hpre hl n hv he => ((h.listing pre ns hpre hl).2 n).mpr ⟨hv, he⟩, h.prefixClosed⟩

theorem wf_of_parts (fs : Fs) (hL : ListingsOK fs) (hC : Covering fs)
    (hE : ∀ pre ns, PrefixOK pre → fs.list (dirPath pre) = some ns → ∀ n, n ∈ ns → fs.exist (pre ++ n) = true) :
    WF fs :=
  ⟨fun pre ns hpre hl => ⟨(hL pre ns hpre hl).1, fun n =>
      ⟨fun hn => ⟨(hL pre ns hpre hl).2 n hn, hE pre ns hpre hl n hn⟩,
       fun hn => hC.listed pre ns hpre hl n hn.1 hn.2⟩⟩,
   hC.prefixClosed⟩

section
variable (m : Matcher) (fs : Fs)

/-- what `witness` asks of every name … -/
def specStep (pre : Path) (c : List AttrChar) (n : Name) : Prop :=
  compMatches m c n = true ∧ (!isWild m c || (fs.list (dirPath pre)).isSome) = true

/-- … and of the last one as well -/
def specLast (pre : Path) (_ : List AttrChar) (n : Name) : Prop := fs.exist (pre ++ n) = true

theorem witness_iff_chain : ∀ cs c pre names,
    witness m fs pre c cs names = true ↔ Chain (specStep m fs) (specLast fs) pre c cs names :=
  chain_of_eqns (fun pre c cs names => witness m fs pre c cs names = true)
    (fun pre c n => by simp only [witness, Bool.and_eq_true, specStep, specLast])
    (fun pre c c' cs n ns => by simp only [witness, Bool.and_eq_true, specStep])
    (fun pre c cs => by cases cs <;> exact Bool.false_ne_true) (fun _ _ _ _ _ => Bool.false_ne_true)

theorem witness_exist (cs : List (List AttrChar)) (c : List AttrChar) (pre : Path) (names : List Name)
    (h : witness m fs pre c cs names = true) : fs.exist (pre ++ joinPath names) = true := by
  obtain ⟨q, n, e, hn⟩ := ((witness_iff_chain m fs cs c pre names).mp h).last
  rw [e]; exact hn

/-- a listed name is a valid name (`ListingsOK`), so what the search appends matches in the sense of the Spec -/
theorem stepOK_compMatches (hL : ListingsOK fs) (pre : Path) (hpre : PrefixOK pre) (c : List AttrChar)
    (n : Name) (h : stepOK m fs pre c n) : compMatches m c n = true :=
  (compMatches_iff m c n).mpr
    (byKind.imp (fun _ ⟨ns, hl, hn, h1, h2, h3⟩ => ⟨(hL pre ns hpre hl).2 n hn, h1, h2, h3⟩) h)

/-- search ⇒ Spec, one step (`WF`): a listed name exists -/
theorem spec_of_stepOK (hwf : WF fs) (pre : Path) (hpre : PrefixOK pre) (c : List AttrChar) (n : Name)
    (h : stepOK m fs pre c n) : specStep m fs pre c n ∧ (isWild m c = true → fs.exist (pre ++ n) = true) := by
  refine ⟨⟨stepOK_compMatches m fs (wf_listingsOK fs hwf) pre hpre c n h, ?_⟩, fun hw => ?_⟩
  · cases hw : isWild m c with
    | false => rfl
    | true => obtain ⟨ns, hl, _⟩ := byKind.of_wild hw h; rw [hl]; rfl
  · obtain ⟨ns, hl, hn, _⟩ := byKind.of_wild hw h
    exact (((hwf.listing pre ns hpre hl).2 n).mp hn).2

/-- Spec ⇒ search, one step (`Covering`): a valid name that exists below a listable prefix is listed -/
theorem stepOK_of_spec (hC : Covering fs) (pre : Path) (hpre : PrefixOK pre) (c : List AttrChar) (n : Name)
    (h : specStep m fs pre c n) (he : fs.exist (pre ++ n) = true) : stepOK m fs pre c n := by
  refine byKind.imp (fun hk ⟨hv, hd, hdd, hm⟩ => ?_) ((compMatches_iff m c n).mp h.1)
  have h2 := h.2
  rw [isWild, hk] at h2
  cases hl : fs.list (dirPath pre) with
  | none => rw [hl] at h2; cases h2
  | some ns => exact ⟨ns, rfl, hC.listed pre ns hpre hl n hv he, hd, hdd, hm⟩

/-- Spec ⇒ search: every name of a Spec witness is listed, since what the witness spells exists and existence
    is prefix-closed -/
theorem chain_of_spec (hC : Covering fs) {cs : List (List AttrChar)} {c : List AttrChar} {pre : Path}
    {names : List Name} (h : Chain (specStep m fs) (specLast fs) pre c cs names)
    (hp : PrefixOK pre) : Chain (stepOK m fs) (lastOK m fs) pre c cs names := by
  induction h with
  | one hr hl => exact .one (stepOK_of_spec m fs hC _ hp _ _ hr hl) (Or.inr hl)
  | more hr h ih =>
    obtain ⟨q, x, e, hx⟩ := h.last
    rw [specLast, ← e, path_assoc, ← List.append_assoc] at hx
    exact .more (stepOK_of_spec m fs hC _ hp _ _ hr (hC.prefixClosed _ _ hx)) (ih (prefixOK_push _ _))

theorem spec_of_chain (hwf : WF fs) {cs : List (List AttrChar)} {c : List AttrChar} {pre : Path}
    {names : List Name} (h : Chain (stepOK m fs) (lastOK m fs) pre c cs names) (hpre : PrefixOK pre) :
    Chain (specStep m fs) (specLast fs) pre c cs names :=
  h.imp (fun pre c n hp hs => (spec_of_stepOK m fs hwf pre hp c n hs).1)
    (fun pre c n hp hs hl => hl.elim (spec_of_stepOK m fs hwf pre hp c n hs).2 id) hpre

theorem specMember_mem_searchField (hC : Covering fs) (field : List AttrChar) (p : Path)
    (h : SpecMember m fs field p) : p ∈ searchField m fs field := by
  obtain ⟨names, hw, e⟩ := h
  exact (mem_searchDir_chain m fs _ _ [] p).mpr
    ⟨names, chain_of_spec m fs hC ((witness_iff_chain m fs _ _ _ _).mp hw) prefixOK_nil, e⟩

theorem search_finds_exactly_spec (hwf : WF fs) (field : List AttrChar) (p : Path) :
    p ∈ searchField m fs field ↔ SpecMember m fs field p := by
  refine ⟨fun h => ?_, specMember_mem_searchField m fs (wf_covering fs hwf) field p⟩
  obtain ⟨names, hw, e⟩ := (mem_searchDir_chain m fs _ _ [] p).mp h
  exact ⟨names, (witness_iff_chain m fs _ _ _ _).mpr (spec_of_chain m fs hwf hw prefixOK_nil), e⟩

theorem namesClauses_iff_chain (pre : Path) (cs : List (List AttrChar)) (c : List AttrChar)
    (names : List Name) :
    namesClauses m c cs names ↔ Chain (fun _ => nameClauses m) (fun _ _ _ => True) pre c cs names :=
  chain_of_eqns (fun _ => namesClauses m) (fun _ _ _ => (and_iff_left trivial).symm) (fun _ _ _ _ _ _ => Iff.rfl)
    (fun _ c cs => by cases cs <;> exact id) (fun _ _ _ _ _ => id) cs c pre names

end

theorem compMatches_clauses (m : Matcher) (hp : PeriodRule m) (c : List AttrChar) (n : Name)
    (h : compMatches m c n = true) : nameClauses m c n :=
  byKind.imp (fun _ ⟨hv, h1, h2, h3⟩ =>
    ⟨validName_ne_nil n hv, validName_noslash n hv, h1, h2, h3, fun hd => (toPattern_head c) ▸ hp _ n h3 hd⟩)
    ((compMatches_iff m c n).mp h)

theorem chain_clauses (m : Matcher) (hp : PeriodRule m) {R L : Path → List AttrChar → Name → Prop}
    (hR : ∀ pre c n, PrefixOK pre → R pre c n → compMatches m c n = true) (cs : List (List AttrChar))
    (c : List AttrChar) (pre : Path) (names : List Name) (hpre : PrefixOK pre)
    (h : Chain R L pre c cs names) : namesClauses m c cs names :=
  (namesClauses_iff_chain m pre cs c names).mpr
    (h.imp (fun pre c n hpre hs => compMatches_clauses m hp c n (hR pre c n hpre hs)) (fun _ _ _ _ _ _ => trivial) hpre)

theorem mem_candidates_iff (m : Matcher) (univ : List Name) (c : List AttrChar) (n : Name) :
    n ∈ candidates m univ c ↔ byKind m c n (n ∈ univ) := by
  unfold candidates byKind
  cases m.kind (toPattern c) with
  | invalid => exact List.mem_singleton
  | literal s => exact List.mem_singleton
  | pattern => exact Iff.rfl

theorem stepOK_candidates (m : Matcher) (fs : Fs) (univ : List Name) (hU : UnivCovers fs univ)
    (pre : Path) (c : List AttrChar) (n : Name) (h : stepOK m fs pre c n) : n ∈ candidates m univ c :=
  (mem_candidates_iff m univ c n).mpr (byKind.imp (fun _ ⟨ns, hl, hn, _⟩ => hU _ ns hl n hn) h)

theorem chain_mem_tuples (m : Matcher) (fs : Fs) (univ : List Name) (hU : UnivCovers fs univ)
    {L : Path → List AttrChar → Name → Prop} {cs : List (List AttrChar)} {c : List AttrChar} {pre : Path}
    {names : List Name} (h : Chain (stepOK m fs) L pre c cs names) : names ∈ tuples m univ (c :: cs) := by
  induction h with
  | one hr _ =>
    simp only [tuples, List.mem_flatMap, List.mem_map, List.mem_singleton]
    exact ⟨_, stepOK_candidates m fs univ hU _ _ _ hr, [], rfl, rfl⟩
  | more hr _ ih =>
    rw [tuples]
    simp only [List.mem_flatMap, List.mem_map]
    exact ⟨_, stepOK_candidates m fs univ hU _ _ _ hr, _, ih, rfl⟩

/-- what the brute-force Specs compute before sorting -/
theorem mem_found (T : List (List Name)) (W : List Name → Bool) (hT : ∀ names, W names = true → names ∈ T)
    (p : Path) : p ∈ (T.filter W).map joinPath ↔ ∃ names, W names = true ∧ p = joinPath names := by
  simp only [List.mem_map, List.mem_filter]
  exact ⟨fun ⟨names, ⟨_, hw⟩, e⟩ => ⟨names, hw, e.symm⟩,
    fun ⟨names, hw, e⟩ => ⟨names, ⟨hT names hw, hw⟩, e.symm⟩⟩

end YashModel.Glob
