/-
  C05 — the notions, beside those of the model and Spec files, in which the property theorems are stated.
  Definitions only.  Three more need other areas and stand at the head of the file that imports them: `astOf`,
  `posixNameClauses`, `posixNamesClauses` (C04; `FnLemmas.lean`) and `ofExp` (C01; `TildeLemmas.lean`).
-/
import YashModel.Glob.EntrySpec
namespace YashModel.Glob

/-- every character that survives quote removal is quoted or comes from a hard expansion -/
def FullyQuoted (cs : List AttrChar) : Prop :=
  ∀ a, a ∈ cs → a.isQuoting = false → (a.isQuoted = true ∨ a.origin = Origin.hardExpansion)

/-- a slash is never itself a quoting character (quoting characters are `\`, `'`, `"`, `$'`) -/
def SlashNotQuoting (cs : List AttrChar) : Prop :=
  ∀ a, a ∈ cs → a.value = '/' → a.isQuoting = false

/-- what C04 provides about `yash_fnmatch`: a pattern made of literal characters only is the
    literal string of those characters (checked on the real code by the harness on every case) -/
def LiteralFaithful (m : Matcher) : Prop :=
  ∀ pcs, (∀ pc, pc ∈ pcs → pc.isLiteral = true) → m.kind pcs = Kind.literal (pcs.map PatternChar.charValue)

/-- no component is a pattern -/
def NoWild (m : Matcher) (c : List AttrChar) (cs : List (List AttrChar)) : Prop :=
  ∀ x, x ∈ c :: cs → isWild m x = false

/-- an unquoted backslash that is not a quoting character and does not come from a hard expansion: in
    practice one delivered by a parameter expansion or command substitution (`v='\*'; … $v`) — a
    backslash typed in the word itself is a *quoting* character and is dropped -/
def ExpansionBackslash (bs : AttrChar) : Prop :=
  bs.value = '\\' ∧ bs.isQuoting = false ∧ bs.isQuoted = false ∧ bs.origin ≠ Origin.hardExpansion

/-- two matchers agree on everything `glob` can ask about these components on this file system -/
def MatcherAgree (m m' : Matcher) (fs : Fs) (comps : List (List AttrChar)) : Prop :=
  ∀ c, c ∈ comps → m.kind (toPattern c) = m'.kind (toPattern c) ∧
    (m'.kind (toPattern c) = Kind.pattern →
      ∀ d ns, fs.list d = some ns → ∀ n, n ∈ ns → m.isMatch (toPattern c) n = m'.isMatch (toPattern c) n)

/-- the finite set of names handed to `specGlobU` contains every name of every listing -/
def UnivCovers (fs : Fs) (univ : List Name) : Prop :=
  ∀ d ns, fs.list d = some ns → ∀ n, n ∈ ns → n ∈ univ

def lastComponent (field : List AttrChar) : List AttrChar :=
  ((splitComponents field).2.getLast?).getD (splitComponents field).1

/-- every directory from `key` down along `names` may be searched by its owner, and every name is
    present in the directory before it -/
def World.reachable (w : World) : List Name → List Name → Bool
  | _, [] => true
  | key, n :: ns => w.searchable key && (w.kindAt (key ++ [n])).isSome && w.reachable (key ++ [n]) ns

/-- `goodWorld` as a proposition (`good_of_goodWorld`) -/
structure Good (w : World) : Prop where
  nodup : (w.entries.map (·.1)).Nodup
  plain : ∀ x, x ∈ w.entries → ∀ n, n ∈ x.1 → plainName n = true
  nolink : ∀ k t, w.kindAt k ≠ some (NodeKind.link t)
  search : ∀ k, w.isDir k = true → w.searchable k = true
  cwd : (fsOfWorld w).exist [] = true

/-- the UTF-8 bytes of a list of characters (this is `List.utf8Encode l` as a list) -/
def utf8Bytes (l : List Char) : List UInt8 := l.flatMap String.utf8EncodeChar

end YashModel.Glob
