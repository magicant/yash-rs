/-
  C05 — bridge to C01's model of tilde expansion (area Expansion): conversion of its attributed
  characters, the characters a tilde expansion delivers (`tilde_chars`), and what pathname expansion needs
  of them: all come from a hard expansion, none is a quoting slash, without quotes they are `tildeText`.
-/
import YashModel.Glob.Quoted
import YashModel.Expansion.TildeLemmas
namespace YashModel.Glob

/-- C01's attributed characters (area Expansion has its own copy of `attr.rs`) as this area's -/
def ofExpOrigin : Expansion.Origin → Origin
  | .literal => .literal
  | .hardExpansion => .hardExpansion
  | .softExpansion => .softExpansion

def ofExp (c : Expansion.AttrChar) : AttrChar :=
  { value := c.value, origin := ofExpOrigin c.origin, isQuoted := c.isQuoted, isQuoting := c.isQuoting }

theorem tilde_chars (env : Expansion.Env) (name : List Char) (slash : Bool) :
    (Expansion.expandTilde env name slash).map ofExp =
      if Expansion.tildeText env name slash = [] then
        [{ value := '"', origin := Origin.hardExpansion, isQuoted := false, isQuoting := true }]
      else (Expansion.tildeText env name slash).map
        (fun c => { value := c, origin := Origin.hardExpansion, isQuoted := false, isQuoting := false }) := by
  rw [Expansion.expandTilde_eq_posixTilde]
  unfold Expansion.posixTilde
  split
  · rfl
  · simp only [List.map_map]
    rfl

section
variable (env : Expansion.Env) (name : List Char) (slash : Bool)

theorem tilde_mem {a : AttrChar} (ha : a ∈ (Expansion.expandTilde env name slash).map ofExp) :
    a.origin = Origin.hardExpansion ∧ (a.isQuoting = true → a.value = '"') := by
  rw [tilde_chars] at ha
  split at ha
  · rw [List.mem_singleton.mp ha]; exact ⟨rfl, fun _ => rfl⟩
  · obtain ⟨d, _, rfl⟩ := List.mem_map.mp ha; exact ⟨rfl, nofun⟩

theorem tilde_fullyQuoted : FullyQuoted ((Expansion.expandTilde env name slash).map ofExp) :=
  fun _ ha _ => .inr (tilde_mem env name slash ha).1

theorem tilde_slashNotQuoting : SlashNotQuoting ((Expansion.expandTilde env name slash).map ofExp) := by
  intro a ha hv
  cases hq : a.isQuoting with
  | false => rfl
  | true => have := (tilde_mem env name slash ha).2 hq; rw [hv] at this; cases this

theorem tilde_removeQuotes :
    removeQuotes ((Expansion.expandTilde env name slash).map ofExp) = Expansion.tildeText env name slash := by
  rw [tilde_chars]
  by_cases ht : Expansion.tildeText env name slash = []
  · rw [if_pos ht, ht]; rfl
  · rw [if_neg ht]
    simp [removeQuotes, List.filter_map, Function.comp_def]

end

end YashModel.Glob
