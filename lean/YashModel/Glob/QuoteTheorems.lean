/-
  C05 — property theorems (★) and examples: quoting at the field level.  A quoted or
  hard-expansion character of a component stands for itself whatever precedes it; the backslash rule of
  `to_pattern` for a backslash delivered by an expansion; tilde results are literal (composition with C01's
  model of tilde expansion, `TildeLemmas.lean`).
-/
import YashModel.Glob.FnTheorems
import YashModel.Glob.TildeLemmas
namespace YashModel.Glob

/-- ★ **A quoted (or hard-expansion) character of a field becomes a literal pattern character whatever
    precedes it in the component** — unquoted wildcards, an unquoted backslash from an expansion (its
    pending escape is simply used up), quoting characters — and what follows it starts with no pending
    escape. -/
theorem quoted_attr_char_is_literal (a b : List AttrChar) (q : AttrChar) (hq : q.isQuoting = false)
    (hl : q.isQuoted = true ∨ q.origin = Origin.hardExpansion) : ∀ nq,
    toPatternChars nq (a ++ q :: b)
      = toPatternChars nq a ++ PatternChar.literal q.value :: toPatternChars false b := by
  induction a with
  | nil =>
    intro nq
    rw [List.nil_append, toPatternChars_literal hq (literal_cond hl nq)]; rfl
  | cons c cs ih =>
    intro nq
    rw [List.cons_append]
    cases h1 : c.isQuoting with
    | true => rw [toPatternChars_quoting h1, toPatternChars_quoting h1, ih]
    | false =>
      cases h2 : (nq || c.isQuoted || c.origin == Origin.hardExpansion) with
      | true => rw [toPatternChars_literal h1 h2, toPatternChars_literal h1 h2, ih]; rfl
      | false => rw [toPatternChars_normal h1 h2, toPatternChars_normal h1 h2, ih]; rfl

/-- ★ **"never treats quoted text as wildcards", for partially quoted components**: if the component is
    `a ++ [q] ++ b` with `q` quoted (or from a hard expansion) and the part before it has no unquoted
    `[`, then every name the component matches is `x ++ [q.value] ++ y` with `x` matched by the part
    before and `y` by the part after — the quoted character stands for itself, at the field level. -/
theorem quoted_attr_char_matches_itself (a b : List AttrChar) (q : AttrChar) (hq : q.isQuoting = false)
    (hl : q.isQuoted = true ∨ q.origin = Origin.hardExpansion)
    (hpre : ∀ pc, pc ∈ toPattern a → pc ≠ PatternChar.normal '[') (n : Name)
    (h : fnMatcher.isMatch (toPattern (a ++ q :: b)) n = true) :
    ∃ x y, n = x ++ q.value :: y ∧ Fnmatch.posixMatch ((toPattern a).map convPc) x = true
      ∧ Fnmatch.posixMatch ((toPatternChars false b).map convPc) y = true := by
  unfold toPattern at h
  rw [quoted_attr_char_is_literal a b q hq hl false] at h
  exact quoted_char_literal_after_wildcards (toPatternChars false a) (toPatternChars false b) q.value hpre n h

private def ac (c : Char) (o : Origin) (quoted quoting : Bool) : AttrChar :=
  { value := c, origin := o, isQuoted := quoted, isQuoting := quoting }

-- the order inside `Chars::next` (`mem::replace` of the flag BEFORE the `is_quoting` test): in `${v}""*`
-- with v=`\` the empty quotation uses the pending escape up and the star stays a pattern character; a
-- model that tested `is_quoting` first would give `literal '*'`.  And `$v*` with v=`\`: the star is escaped.
example : toPattern [ac '\\' .softExpansion false false, ac '"' .literal false true, ac '"' .literal false true,
      ac '*' .literal false false] = [PatternChar.normal '\\', PatternChar.normal '*']
    ∧ toPattern [ac '\\' .softExpansion false false, ac '*' .literal false false]
      = [PatternChar.normal '\\', PatternChar.literal '*']
    -- a quoted backslash does not escape; an escaped backslash does not escape either
    ∧ toPattern [ac '\\' .literal true false, ac '*' .literal false false]
      = [PatternChar.literal '\\', PatternChar.normal '*']
    ∧ toPattern [ac '\\' .softExpansion false false, ac '\\' .softExpansion false false, ac '*' .literal false false]
      = [PatternChar.normal '\\', PatternChar.literal '\\', PatternChar.normal '*'] := by decide +kernel
-- non-vacuity of `quoted_attr_char_matches_itself`: `*"*"` at the field level
example : toPattern ([ac '*' .literal false false] ++ ac '*' .literal true false :: [])
    = [PatternChar.normal '*', PatternChar.literal '*'] := by decide +kernel

/-- ★ **The backslash rule of `to_pattern`, exactly as the code has it**: an unquoted backslash from an
    expansion (with no escape pending) STAYS in the pattern as the ordinary character `Normal('\\')` AND
    makes the next non-quoting character literal; a quoting character directly after it uses the escape
    up instead; at the end of the component it is just `Normal('\\')`.  (C04's `Fnmatch.applyEscapes` and
    `Fnmatch.toPatternChars` are other functions with the opposite rule: they transcribe `attr_fnmatch.rs`, which
    `case` and the trimming expansions use, and there the backslash becomes a quoting character and goes.) -/
theorem expansion_backslash_rule (bs : AttrChar) (hb : ExpansionBackslash bs) :
    (∀ x rest, x.isQuoting = false →
      toPatternChars false (bs :: x :: rest)
        = PatternChar.normal '\\' :: PatternChar.literal x.value :: toPatternChars false rest)
    ∧ (∀ g rest, g.isQuoting = true →
      toPatternChars false (bs :: g :: rest) = PatternChar.normal '\\' :: toPatternChars false rest)
    ∧ toPatternChars false [bs] = [PatternChar.normal '\\'] := by
  obtain ⟨hv, hq, hqd, ho⟩ := hb
  have hn : (false || bs.isQuoted || bs.origin == Origin.hardExpansion) = false := by
    rw [hqd, beq_false_of_ne ho]; rfl
  refine ⟨fun x rest hx => ?_, fun g rest hg => ?_, ?_⟩ <;> rw [toPatternChars_normal hq hn, hv]
  · rw [toPatternChars_literal hx rfl]
  · rw [toPatternChars_quoting hg]
  · rfl

/-- ★ **what `$v` with `v='\*'` (or `\?`, `\[`, `\\`) looks for**: a component that starts with an
    expansion backslash followed by the character `x` matches only names of the form `\` `x` … — the
    backslash itself must be in the name, and `x` stands for itself (never a wildcard).  So `$v` with
    `v='\*'` finds the entry named `\*`, not `*` and not `\`; any change of this rule (dropping the
    backslash as POSIX 2.13.1 would, or not escaping) contradicts this theorem. -/
theorem expansion_backslash_matches (bs x : AttrChar) (rest : List AttrChar) (hb : ExpansionBackslash bs)
    (hx : x.isQuoting = false) (n : Name)
    (h : fnMatcher.isMatch (toPattern (bs :: x :: rest)) n = true) :
    ∃ y, n = '\\' :: x.value :: y
      ∧ Fnmatch.posixMatch ((toPatternChars false rest).map convPc) y = true := by
  unfold toPattern at h
  rw [(expansion_backslash_rule bs hb).1 x rest hx] at h
  obtain ⟨a, b, e, ha, hb'⟩ := quoted_char_literal_after_wildcards [PatternChar.normal '\\']
    (toPatternChars false rest) x.value (by intro pc hpc; simp at hpc; subst hpc; decide) n h
  have := posixMatch_backslash a ha
  subst this
  exact ⟨b, e, hb'⟩

private def sc (c : Char) : AttrChar := { value := c, origin := .softExpansion, isQuoted := false, isQuoting := false }

-- non-vacuity: `$v` with v=`\*` is the literal component `\*`; v=`\` is the literal `\`; v=`\\` is `\\`
example : ExpansionBackslash (sc '\\') := ⟨rfl, rfl, rfl, by decide +kernel⟩
example : fnMatcher.kind (toPattern [sc '\\', sc '*']) = Kind.literal ['\\', '*']
    ∧ fnMatcher.kind (toPattern [sc '\\']) = Kind.literal ['\\']
    ∧ fnMatcher.kind (toPattern [sc '\\', sc '\\']) = Kind.literal ['\\', '\\']
    ∧ fnMatcher.kind (toPattern [sc '\\', sc '*', sc '*']) = Kind.pattern
    ∧ fnMatcher.isMatch (toPattern [sc '\\', sc '*', sc '*']) ['\\', '*', 'z'] = true
    ∧ fnMatcher.isMatch (toPattern [sc '\\', sc '*', sc '*']) ['*', 'z'] = false
    ∧ fnMatcher.isMatch (toPattern [sc '\\', sc '*', sc '*']) ['\\', 'z'] = false := by
  have e1 : toPattern [sc '\\', sc '*'] = [PatternChar.normal '\\', PatternChar.literal '*'] := by decide +kernel
  have e2 : toPattern [sc '\\'] = [PatternChar.normal '\\'] := by decide +kernel
  have e3 : toPattern [sc '\\', sc '\\'] = [PatternChar.normal '\\', PatternChar.literal '\\'] := by decide +kernel
  have e4 : toPattern [sc '\\', sc '*', sc '*']
      = [PatternChar.normal '\\', PatternChar.literal '*', PatternChar.normal '*'] := by decide +kernel
  rw [e1, e2, e3, e4]
  simp only [fnMatcher, fnKind, fnIsMatch]
  rw [fnCompile_simple _ (by decide +kernel), fnCompile_simple _ (by decide +kernel), fnCompile_simple _ (by decide +kernel),
    fnCompile_simple _ (by decide +kernel)]
  decide +kernel

/-- ★★ **Tilde results are literal — composition with C01's model of tilde expansion**: whatever the home
    directory holds (`*`, `[`, `?`, a trailing slash that C01 drops before a following slash), the
    attributed characters `Expansion.expandTilde env name slash` produces (C01's transcription of
    `initial/tilde.rs`, proved equal to its POSIX Spec) enter the pattern of their component as LITERAL
    characters — the text `Expansion.tildeText env name slash` — and what follows in the field starts
    with no escape pending: `~/*` with `HOME='*'` is the pattern literal-`*` `/` wildcard-`*`. -/
theorem tilde_prefix_is_literal (env : Expansion.Env) (name : List Char) (slash : Bool) (rest : List AttrChar) :
    toPattern ((Expansion.expandTilde env name slash).map ofExp ++ rest)
      = (Expansion.tildeText env name slash).map PatternChar.literal ++ toPatternChars false rest := by
  unfold toPattern
  rw [toPatternChars_quoted_append _ rest (tilde_fullyQuoted env name slash),
    toPatternChars_quoted _ (tilde_fullyQuoted env name slash) false, tilde_removeQuotes]

/-- ★ a field that is nothing but a tilde expansion expands to the directory text itself on every file
    system, whatever characters it holds — no directory is listed -/
theorem tilde_field_expands_to_itself (env : Expansion.Env) (name : List Char) (slash : Bool) (fs : Fs)
    (noglob : Bool) :
    glob fnMatcher fs noglob ((Expansion.expandTilde env name slash).map ofExp)
      = [Expansion.tildeText env name slash] := by
  rw [quoted_is_literal_posix fs _ (tilde_fullyQuoted env name slash) (tilde_slashNotQuoting env name slash) noglob,
    tilde_removeQuotes]

-- `~/*` with HOME=`*`: the home directory's star is a literal, the typed one a wildcard
example : toPattern ([{ value := '*', origin := Origin.hardExpansion, isQuoted := false, isQuoting := false }]
      ++ [{ value := '/', origin := Origin.literal, isQuoted := false, isQuoting := false },
          { value := '*', origin := Origin.literal, isQuoted := false, isQuoting := false }])
    = [PatternChar.literal '*', PatternChar.normal '/', PatternChar.normal '*'] := by decide +kernel

end YashModel.Glob
